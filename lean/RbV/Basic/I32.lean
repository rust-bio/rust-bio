/-!
Checked `i32` arithmetic for the mirror models of the aligners (`Model/PairwiseFillI32.lean`, `Model/PoaI32.lean`).

An `i32` value is an `Int` in `[−2³¹, 2³¹)`.  `add`/`sub`/`mul` are the Rust operators `+`, `-`, `*` of a build with
`overflow-checks` (the harness is built that way): a result outside the range is a panic — `none` here.  (A release
build without the checks wraps silently; `none` then reads "the code leaves the part of its behaviour that the
unbounded model describes".)  `ofUsize` is the cast `i as i32` of a `usize`: truncation of the bit pattern, never a
panic.  Core Lean only.

`InRange` is the `Rs.InS 32` of the translated text's semantics (`Basic/RsSemInt.lean`) under a name of the models' own — the models do
not import the translator's semantics; `Thm/GenSrcI32.lean` bridges the two.  `ofUsize` and `wrap` are the same formula, on `Nat` and on `Int`.
-/
namespace RbV.I32

/-- `v` is a value of type `i32` -/
def InRange (v : Int) : Prop := -2147483648 ≤ v ∧ v ≤ 2147483647

instance (v : Int) : Decidable (InRange v) := by unfold InRange; infer_instance

/-- `a + b` on `i32` with overflow checks -/
def add (a b : Int) : Option Int := if InRange (a + b) then some (a + b) else none
/-- `a - b` on `i32` with overflow checks -/
def sub (a b : Int) : Option Int := if InRange (a - b) then some (a - b) else none
/-- `a * b` on `i32` with overflow checks -/
def mul (a b : Int) : Option Int := if InRange (a * b) then some (a * b) else none
/-- `i as i32` for `i : usize`: the low 32 bits read as two's complement -/
def ofUsize (i : Nat) : Int := ((i : Int) + 2147483648) % 4294967296 - 2147483648

theorem add_ok {a b : Int} (h : InRange (a + b)) : add a b = some (a + b) := by simp [add, h]
theorem sub_ok {a b : Int} (h : InRange (a - b)) : sub a b = some (a - b) := by simp [sub, h]
theorem mul_ok {a b : Int} (h : InRange (a * b)) : mul a b = some (a * b) := by simp [mul, h]
theorem ofUsize_ok {i : Nat} (h : (i : Int) ≤ 2147483647) : ofUsize i = (i : Int) := by
  unfold ofUsize; omega

theorem add_eq_some {a b v : Int} (h : add a b = some v) : v = a + b ∧ InRange (a + b) := by
  unfold add at h; split at h
  · exact ⟨by injection h with h; exact h.symm, by assumption⟩
  · cases h
theorem add_eq_none {a b : Int} : add a b = none ↔ ¬ InRange (a + b) := by
  unfold add; split <;> simp [*]
theorem mul_eq_none {a b : Int} : mul a b = none ↔ ¬ InRange (a * b) := by
  unfold mul; split <;> simp [*]
theorem mul_comm (a b : Int) : mul a b = mul b a := by unfold mul; rw [Int.mul_comm]

/-- the two's-complement sum a release build (no overflow checks) computes -/
def wrap (v : Int) : Int := (v + 2147483648) % 4294967296 - 2147483648
theorem wrap_inRange (v : Int) : InRange (wrap v) := by unfold wrap InRange; omega
theorem wrap_of_inRange {v : Int} (h : InRange v) : wrap v = v := by unfold wrap; unfold InRange at h; omega

end RbV.I32
