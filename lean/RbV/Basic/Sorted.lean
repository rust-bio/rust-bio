/-! Lists sorted by a strict order are determined by their members (core Lean only). -/
namespace RbV

/-- all of it is core's: a list sorted by an irreflexive relation has no duplicates, duplicate-free lists with the same
members are permutations of each other, and sorted permutations are equal (`List.Perm.eq_of_pairwise`) -/
theorem pairwise_eq_of_mem_iff {α : Type} (r : α → α → Prop) (irr : ∀ a, ¬ r a a) (asym : ∀ a b, r a b → ¬ r b a)
    (l₁ l₂ : List α) (h₁ : l₁.Pairwise r) (h₂ : l₂.Pairwise r) (h : ∀ i, i ∈ l₁ ↔ i ∈ l₂) : l₁ = l₂ :=
  have nd {l : List α} (hl : l.Pairwise r) : l.Nodup := hl.imp fun {a b} (hab : r a b) (e : a = b) => irr b (e ▸ hab : r b b)
  List.Perm.eq_of_pairwise (fun a b _ _ hab hba => absurd hba (asym a b hab)) h₁ h₂
    ((List.perm_ext_iff_of_nodup (nd h₁) (nd h₂)).mpr h)

theorem sorted_eq_of_mem_iff (l₁ l₂ : List Nat) (h₁ : l₁.Pairwise (· < ·)) (h₂ : l₂.Pairwise (· < ·))
    (h : ∀ i, i ∈ l₁ ↔ i ∈ l₂) : l₁ = l₂ :=
  pairwise_eq_of_mem_iff _ Nat.lt_irrefl (fun _ _ => Nat.lt_asymm) l₁ l₂ h₁ h₂ h

end RbV
