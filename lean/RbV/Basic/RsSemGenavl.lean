import RbV.Basic.RsSem
import RbV.Basic.RsSemInt
/-!
Semantics additions for the dialect "avl" of the Rust→Lean translator (`tools/rs2lean_genavl.py`;
docs/notes/GEN.md, "Dialect avl: recursive structures").  Hand-written, core Lean, trusted like `RsSem.lean`.

* a Rust `struct` of the translation unit is a Lean `structure` generated from its declaration; `Box<T>` is `T`,
  `&T` / `&mut T` are `T` (a `&mut` that is written through is re-bound and written back to the place it borrows),
  `Option<Box<Node>>` is `Option Node`, `Vec<T>` is `List T` with the *last* element on top;
* `i64` values are `Int`s kept inside `[-2^63, 2^63)` by the checked operations `Rs.iadd 64` / `Rs.isub 64`
  (`RsSemInt.lean`) and `Rs.iabs 64` below;
* a recursive method (`Node::insert` calls itself on a child) is a function by recursion on an explicit fuel argument;
  running out of fuel is `Res.fuel`, so an equality theorem `… = Res.ok v` contains the fuel obligation.
-/
namespace RbV.Rs
open Res

/-- `x.abs()` on a `w`-bit signed type (`MIN.abs()` overflows: panic) -/
def iabs (w : Nat) (a : Int) : Res Int := if InS w (if a < 0 then -a else a) then ok (if a < 0 then -a else a) else panic

theorem iabs_ok {w : Nat} {a : Int} (h : InS w (if a < 0 then -a else a)) :
    iabs w a = ok (if a < 0 then -a else a) := by
  unfold iabs; rw [if_pos h]

/-- `v.pop()`: the last element (if any) and the vector without it -/
def vecPop {α : Type} (l : List α) : Option α × List α := (l.getLast?, l.dropLast)

@[simp] theorem vecPop_nil {α : Type} : vecPop ([] : List α) = (none, []) := rfl

@[simp] theorem vecPop_concat {α : Type} (l : List α) (a : α) : vecPop (l ++ [a]) = (some a, l) := by
  simp [vecPop]

/-- all items of an iterator whose translated `next` returns `(item, new state)`: `next` is called until it returns
`None` (the first argument only bounds the number of calls; `Res.fuel` when it does not suffice) -/
def collect {σ α : Type} (next : σ → Res (Option α × σ)) : Nat → σ → Res (List α)
  | 0, _ => Res.fuel
  | n + 1, s => do
    let (r, s') ← next s
    match r with
    | none => pure []
    | some a => do
      let rest ← collect next n s'
      pure (a :: rest)

/-- the value of a run that finished normally (for `decide`-checked examples on types without decidable equality) -/
def Res.toOption {α : Type} : Res α → Option α
  | .ok a => some a
  | _ => none

@[simp] theorem Res.toOption_ok {α : Type} (a : α) : (Res.ok a).toOption = some a := rfl

end RbV.Rs
