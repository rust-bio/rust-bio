/-! Counting in prefixes: `(l.take n).countP q` and `(l.take n).count a` as functions of `n` (core Lean only).

`occRef`/`occLt` (FM index), `rank`/`cnt` (rank-select), `occ` (wavelet tree) and the bucket counts of SA-IS are all
`fun n => (l.take n).count a`, up to a shift of `n` by one; each unfolds to the left sides below. -/
namespace List
variable {α : Type} (q : α → Bool) (l : List α) {a b : Nat}

theorem take_eq_take_append_of_le (h : a ≤ b) : l.take b = l.take a ++ (l.drop a).take (b - a) := by
  rw [← take_add, Nat.add_sub_cancel' h]

theorem countP_take_split (h : a ≤ b) :
    (l.take b).countP q = (l.take a).countP q + ((l.drop a).take (b - a)).countP q := by
  rw [take_eq_take_append_of_le l h, countP_append]

theorem countP_take_mono (h : a ≤ b) : (l.take a).countP q ≤ (l.take b).countP q :=
  countP_take_split q l h ▸ Nat.le_add_right ..

theorem countP_take_le_countP (a : Nat) : (l.take a).countP q ≤ l.countP q := (take_sublist a l).countP_le

theorem countP_take_le (a : Nat) : (l.take a).countP q ≤ a :=
  Nat.le_trans countP_le_length (length_take_le a l)

theorem countP_take_succ {x : α} (h : l[a]? = some x) :
    (l.take (a + 1)).countP q = (l.take a).countP q + if q x then 1 else 0 := by
  rw [take_add_one, h, countP_append]; simp [countP_cons]

section count
variable [BEq α] (c : α)

theorem count_take_split (h : a ≤ b) :
    (l.take b).count c = (l.take a).count c + ((l.drop a).take (b - a)).count c := countP_take_split _ l h

theorem count_take_add (m d : Nat) : (l.take (m + d)).count c = (l.take m).count c + ((l.drop m).take d).count c := by
  rw [take_add, count_append]

theorem count_take_mono (h : a ≤ b) : (l.take a).count c ≤ (l.take b).count c := countP_take_mono _ l h

theorem count_take_le_count (a : Nat) : (l.take a).count c ≤ l.count c := countP_take_le_countP _ l a

theorem count_take_le (a : Nat) : (l.take a).count c ≤ a := countP_take_le _ l a

theorem count_take_succ [LawfulBEq α] [DecidableEq α] {x : α} (h : l[a]? = some x) :
    (l.take (a + 1)).count c = (l.take a).count c + if x = c then 1 else 0 := by
  rw [count, countP_take_succ _ l h]; simp

end count

/-! ### the number of symbols below `c` (the "less" / C array, bucket starts): `l.countP (· < c)` as a function of `c`

`lessRef`, `LF.lessRef` (FM index) and `Sais.cntLt` (SA-IS) all unfold to the left sides. -/

theorem countP_lt_succ (l : List Nat) (c : Nat) :
    l.countP (fun x => decide (x < c + 1)) = l.countP (fun x => decide (x < c)) + l.count c := by
  induction l with
  | nil => rfl
  | cons x l ih =>
    simp only [countP_cons, count_cons, ih, decide_eq_true_eq, beq_iff_eq]
    by_cases h1 : x < c
    · simp [h1, Nat.lt_succ_of_lt h1, Nat.ne_of_lt h1]; omega
    · by_cases h2 : x = c
      · subst h2; simp; omega
      · simp [h1, h2, show ¬ x < c + 1 by omega]

theorem countP_lt_add_count_le (l : List Nat) (c : Nat) : l.countP (fun x => decide (x < c)) + l.count c ≤ l.length :=
  countP_lt_succ l c ▸ countP_le_length

theorem sum_count_range (l : List Nat) (c : Nat) :
    ((range c).map (fun x => l.count x)).sum = l.countP (fun x => decide (x < c)) := by
  induction c with
  | zero => simp
  | succ c ih => rw [range_succ, map_append, sum_append, ih, countP_lt_succ]; simp

end List
