import RbV.Spec.Occ
import RbV.Basic.Sorted
/-! Index-wise characterisations of slices and occurrences.  Core Lean only. -/
namespace RbV

theorem take_drop_eq_iff (t p : List Nat) (i l : Nat) :
    (t.drop i).take l = p.take l ↔ ∀ k, k < l → t[i + k]? = p[k]? := by
  constructor
  · intro he k hk
    have : ((t.drop i).take l)[k]? = (p.take l)[k]? := by rw [he]
    rwa [List.getElem?_take_of_lt hk, List.getElem?_take_of_lt hk, List.getElem?_drop] at this
  · intro hk
    apply List.ext_getElem?
    intro k
    rcases Nat.lt_or_ge k l with hkl | hkl
    · rw [List.getElem?_take_of_lt hkl, List.getElem?_take_of_lt hkl, List.getElem?_drop]
      exact hk k hkl
    · rw [List.getElem?_take_eq_none hkl, List.getElem?_take_eq_none hkl]

theorem occursAt_iff_idx (p t : List Nat) (s : Nat) :
    OccursAt p t s ↔ s + p.length ≤ t.length ∧ ∀ k, k < p.length → t[s + k]? = p[k]? := by
  unfold OccursAt
  constructor
  · rintro ⟨h1, h2⟩
    refine ⟨h1, ?_⟩
    have : (t.drop s).take p.length = p.take p.length := by rw [h2]; simp
    exact (take_drop_eq_iff t p s p.length).mp this
  · rintro ⟨h1, h2⟩
    refine ⟨h1, ?_⟩
    have := (take_drop_eq_iff t p s p.length).mpr h2
    simpa using this

/-- an occurrence that lies inside the part `pre` of the text `pre ++ rest` -/
theorem occursAt_append_text_iff (p pre rest : List Nat) (s : Nat) (hs : s + p.length ≤ pre.length) :
    OccursAt p (pre ++ rest) s ↔ OccursAt p pre s := by
  unfold OccursAt
  rw [List.drop_append_of_le_length (Nat.le_trans (Nat.le_add_right s _) hs),
    List.take_append_of_le_length (by rw [List.length_drop]; exact Nat.le_sub_of_add_le' hs), List.length_append]
  exact and_congr_left' ⟨fun _ => hs, fun h => Nat.le_trans h (Nat.le_add_right _ _)⟩

theorem occursAt_end_iff (p pre : List Nat) (h : p.length ≤ pre.length) :
    OccursAt p pre (pre.length - p.length) ↔ pre.drop (pre.length - p.length) = p := by
  unfold OccursAt
  rw [List.take_of_length_le (by rw [List.length_drop, Nat.sub_sub_self h]; exact Nat.le_refl _),
    Nat.sub_add_cancel h]
  exact and_iff_right (Nat.le_refl _)

end RbV
