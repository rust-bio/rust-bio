import RbV.Basic.Codec
import RbV.Spec.Align
/-! Line-protocol pieces shared by the C01 and C02 drivers (scoring tokens, reported alignments). -/
namespace RbV.AlignCodec
open RbV.Codec RbV.Align

/- `MIN_SCORE` is `Align.minScore` = `Gen.Limits.minScorePairwise`, extracted from the source text on every run (the
harness reports the run-time value of the compiled constant in the `const` case, the driver compares). -/

/-- substitution function from an alphabet and a row-major `|A|×|A|` table; 0 outside the alphabet
(the harness refuses sequences with symbols outside the alphabet) -/
def mkW (alpha : List Nat) (tab : Array Int) : Nat → Nat → Int := fun a b =>
  let i := alpha.idxOf a
  let j := alpha.idxOf b
  if i < alpha.length ∧ j < alpha.length then tab.getD (i * alpha.length + j) 0 else 0

/-- a clip penalty: an integer, or `min` = `MIN_SCORE` of the tree under test (`Align.minScore`, source-extracted) -/
def parseClip (s : String) : Option Int := if s = "min" then some minScore else parseInt s

/-- `sc:<go>:<ge>:<xp>:<xs>:<yp>:<ys>` -/
def parseScTok (tok : String) : Option (Int × Int × Clip) :=
  match tok.splitOn ":" with
  | ["sc", go, ge, xp, xs, yp, ys] => do
    let go ← parseInt go; let ge ← parseInt ge
    let xp ← parseClip xp; let xs ← parseClip xs; let yp ← parseClip yp; let ys ← parseClip ys
    pure (go, ge, ⟨xp, xs, yp, ys⟩)
  | _ => none

/-- `w:<alphabet hex>:<|A|² integers>` -/
def parseWTok (tok : String) : Option (List Nat × Array Int) :=
  match tok.splitOn ":" with
  | ["w", a, t] => do
    let alpha ← parseHex a
    let tab ← parseIntList t
    if tab.length = alpha.length * alpha.length ∧ alpha.length > 0 then pure (alpha, tab.toArray) else none
  | _ => none

def digitsVal (cs : List Char) : Nat := cs.foldl (fun n c => n * 10 + (c.toNat - '0'.toNat)) 0

/-- operations: `M S I D`, `X<n>`, `Y<n>`; `-` for the empty list -/
partial def parseOpsChars : List Char → Option (List AOp)
  | [] => some []
  | 'M' :: r => (parseOpsChars r).map (AOp.core .mat :: ·)
  | 'S' :: r => (parseOpsChars r).map (AOp.core .sub :: ·)
  | 'I' :: r => (parseOpsChars r).map (AOp.core .ins :: ·)
  | 'D' :: r => (parseOpsChars r).map (AOp.core .del :: ·)
  | 'X' :: r =>
    let ds := r.takeWhile Char.isDigit
    if ds.isEmpty then none else (parseOpsChars (r.dropWhile Char.isDigit)).map (AOp.xclip (digitsVal ds) :: ·)
  | 'Y' :: r =>
    let ds := r.takeWhile Char.isDigit
    if ds.isEmpty then none else (parseOpsChars (r.dropWhile Char.isDigit)).map (AOp.yclip (digitsVal ds) :: ·)
  | _ => none

def parseOps (s : String) : Option (List AOp) := if s = "-" then some [] else parseOpsChars s.toList

/-- one reported alignment `s:<score>,x:<xs>:<xe>:<xlen>,y:<ys>:<ye>:<ylen>,o:<ops>` followed by extra
`k:v` fields that are returned untouched -/
def parseOut (s : String) : Option (Out × List String) :=
  match s.splitOn "," with
  | sc :: xt :: yt :: ot :: rest =>
    match sc.splitOn ":", xt.splitOn ":", yt.splitOn ":", ot.splitOn ":" with
    | ["s", v], ["x", xs, xe, xl], ["y", ys, ye, yl], ["o", ops] => do
      let v ← parseInt v
      let xs ← parseNat xs; let xe ← parseNat xe; let xl ← parseNat xl
      let ys ← parseNat ys; let ye ← parseNat ye; let yl ← parseNat yl
      let ops ← parseOps ops
      pure (⟨v, xs, xe, ys, ye, xl, yl, ops⟩, rest)
    | _, _, _, _ => none
  | _ => none

/-- clip penalties in force for a mode -/
def modeClip (mode : String) (cl : Clip) : Option (Clip × Bool) :=
  match mode with
  | "custom" => some (cl, false)
  | "global" => some (⟨minScore, minScore, minScore, minScore⟩, false)
  | "semiglobal" => some (⟨minScore, minScore, 0, 0⟩, true)
  | "local" => some (⟨0, 0, 0, 0⟩, true)
  | _ => none

/-- why `acceptValid` fails, for the replay text -/
def whyInvalid (sc : Sc) (cl : Clip) (f : Bool) (x y : List Nat) (o : Out) : String :=
  if ¬ IsAln x y o.toAln then "not-an-alignment-of-the-reported-ranges"
  else if ¬ ClipRule f x y o then "clip-lengths-do-not-add-up"
  else match score sc .none (slice x o.xs o.xe) (slice y o.ys o.ye) (coreOps o.ops) with
    | some c => "recomputed-score:" ++ toString (c + clipPen cl x.length y.length o.xs o.xe o.ys o.ye)
        ++ "-reported:" ++ toString o.score
    | none => "not-an-alignment"

end RbV.AlignCodec
