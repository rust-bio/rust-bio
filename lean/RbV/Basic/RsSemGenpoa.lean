import RbV.Basic.RsSem
import RbV.Basic.RsSemInt
import RbV.Basic.RsSemGenhmm
import RbV.Model.Poa
/-!
Semantics additions for the dialect "poa" of the Rust→Lean translator (`tools/rs2lean_genpoa.py`, builder genpoa;
docs/notes/GEN.md, "Dialect poa").  Hand-written, core Lean, trusted like `RsSem.lean`.

**Data.**  `enum AlignmentOperation` is read as `RbV.Poa.POp` (`Match ↦ .m`, `Del ↦ .d`, `Ins ↦ .i`, `Xclip ↦ .x`,
`Yclip ↦ .y`; the translator pins the text of the declaration), `struct TracebackCell { score, op }` as
`RbV.Poa.Model.Cell`; `std::cmp::max` on `TracebackCell` is `Model.cmax`: the type orders by `score` only
(`impl Ord for TracebackCell`, pinned) and `max(a, b)` returns `b` unless `a > b`.  `struct Traceback` and
`struct Alignment` are the structures below (declarations pinned).  `i32` values are `Int`s kept inside
`[-2^31, 2^31)` by the checked operations `Rs.iadd 32` (`RsSemInt.lean`) and `Rs.imul 32`; `j as i32` of a `usize`
is `usizeAsI32` (truncation to 32 bits, read as two's complement).

**petgraph.**  `Graph<u8, i32, Directed, usize>` is the mirror models' graph representation `Model.G`: the list of node
labels (node `i` = position `i`; the graph only grows, petgraph never renumbers) and the list of weighted edges
`(source, target, weight)` in insertion order (edge `k` = position `k`).  The operations the code uses, with the
contract each one is read with (**trusted base**: that petgraph 0.6 behaves like this is established by the
correspondence run of `./check C16`, tags `drift-*`, not by proof):

* `node_count()` = number of labels; `raw_nodes()[i].weight` = label `i` (out of bounds panics);
  `NodeIndex::new(i)` / `.index()` are the identity on indices;
* `neighbors_directed(v, Incoming)` yields the sources of the edges into `v`, **most recent edge first** (`Model.inN`);
* `Topo::new(&g)` … `next(&g)` until `None` yields every node of an acyclic graph once, **in a topological order**
  — the one `Model.topo` computes (stack of ready nodes; initial nodes in index order); `Topo::new(&g).next(&g)` is
  its first element (`None` on the empty graph);
* `add_node(c)` appends a label and returns its index; `add_edge(u, v, w)` appends an edge (**panics** when an end
  point is not a node); `find_edge(u, v)` = the most recent edge `u → v` (`Model.findEdge`);
  `edge_weight_mut(k)` = the weight of edge `k` (`None` when there is no such edge), `*… += d` is a checked `i32` addition;
* `edges_connecting(u, v)` yields the edges `u → v`, most recent first; `.map(|e| e.weight()).sum()` on `i32` adds
  their weights left to right with overflow checks (`sumI32`).
-/
namespace RbV.Rs
open Res

/-- `j as i32` for `j : usize` -/
def usizeAsI32 (j : Nat) : Int := toSigned 32 (cast 32 j)

/-- `a..=b` -/
def rangeIncl (a b : Nat) : List Nat := List.range' a (b + 1 - a)

/-- `usize::MAX` -/
def usizeMax : Nat := 2 ^ 64 - 1

namespace Poa
open RbV.Poa RbV.Poa.Model

/-- `struct Traceback` (poa.rs; `last: NodeIndex<usize>` is the index) -/
structure Traceback where
  rows : Nat
  cols : Nat
  last : Nat
  matrix : List (List Cell × Nat × Nat)

/-- `struct Alignment` (poa.rs) -/
structure Alignment where
  score : Int
  operations : List POp

abbrev Graph := RbV.Poa.Model.G

def nodeCount (g : Graph) : Nat := g.labels.length
/-- `g.raw_nodes()[i].weight` -/
def nodeWeight (g : Graph) (i : Nat) : Res Nat := idx g.labels i
/-- `g.neighbors_directed(v, Incoming)` -/
def neighborsIn (g : Graph) (v : Nat) : List Nat := inN g.es v
/-- the nodes `Topo::new(&g)` … `next(&g)` yields -/
def topoOrder (g : Graph) : List Nat := topo g.labels.length g.es
/-- `g.add_node(c)` -/
def addNode (g : Graph) (c : Nat) : Graph × Nat := g.addNode c
/-- `g.add_edge(u, v, w)` -/
def addEdge (g : Graph) (u v : Nat) (w : Int) : Res Graph :=
  if u < g.labels.length ∧ v < g.labels.length then ok { g with es := g.es ++ [(u, v, w)] } else panic
/-- `g.find_edge(u, v)` -/
def findEdge (g : Graph) (u v : Nat) : Option Nat := Model.findEdge g.es u v
/-- `*g.edge_weight_mut(k).unwrap() += d` -/
def edgeWeightAdd (g : Graph) (k : Nat) (d : Int) : Res Graph :=
  match g.es[k]? with
  | none => panic
  | some e => do
    let w ← iadd 32 e.2.2 d
    pure { g with es := g.es.set k (e.1, e.2.1, w) }
/-- the weights of `g.edges_connecting(u, v)` -/
def edgesConnecting (g : Graph) (u v : Nat) : List Int :=
  ((g.es.filter fun e => e.1 == u && e.2.1 == v).map (·.2.2)).reverse
/-- `it.sum()` on `i32` -/
def sumI32 (l : List Int) : Res Int := l.foldlM (fun (a : Int) (x : Int) => iadd 32 a x) 0

end Poa
end RbV.Rs
