/-!
Semantics of the Rust subset translated by `tools/rs2lean.py` (docs/notes/GEN.md, "Translated function bodies").

The generated files `RbV/Gen/Src*.lean` are written against this small hand-written library only.  Integers of the
unsigned Rust types (`u8`, `u32`, `u64`, `usize` = 64 bit) are `Nat`s that are kept below `2^w` by construction:
every operation that can leave the range is *checked* and aborts with `Res.panic` — which is what the Rust code does
when it is compiled with `overflow-checks` (the harness is; a release build without them would wrap silently, so
`panic` reads "the code leaves the part of its behaviour the model describes").  Out-of-bounds indexing, division by
zero, a failed `assert!` are `Res.panic` as well.  A translated `while` loop is a recursive helper with explicit fuel
(the expression is given in the translation spec); running out of fuel is the *distinct* outcome `Res.fuel`, so that
an equality theorem `generated … = Res.ok (model …)` says both "no panic" and "the fuel was sufficient".

Signed values have two readings.  Where the text only pushes bits around (`idx & -idx` of `bit_tree.rs` and of the block-based
Myers matcher: `as isize`, unary `-`, `&`, `|`, `^`, `as usize`) they are their two's-complement **bit pattern**, again a
`Nat < 2^w` (`Rs.neg` here; the `dist` update of the Myers matchers likewise, `RsSemWord.lean`, meaning `toInt`).  Where the text
computes with them (the `i32` scores of the aligners, the `isize` counters of the FMD index, of `lcp`, of `sparse.rs`, of the AVL
tree) they are Lean `Int`s kept inside `[-2^(w-1), 2^(w-1))` by checked operations (`RsSemInt.lean`: `iadd`, `isub`, `imul`).
`toSigned w` / `ofSigned w` of `RsSemInt.lean` pass between the two; `toSigned w` is the `toInt w` of `RsSemWord.lean`.

The files `RsSem*.lean` beside this one add what single translator modules need.  Several Rust notions are defined more than once,
under the name the generated text of each module uses (all are part of the trusted reading; no module's text meets another's):
* `expect` = `unwrap` (`RsSemBits`); `resize` (`RsSemBits`) = `resizeV` (`RsSemGensa`); `castSigned 32` (`RsSemGensparse`) = `usizeAsI32`
  (`RsSemGenpoa`); `ofSigned` (`RsSemInt`) = `castUnsigned` (`RsSemGensparse`): same bodies;
* `enumerate()`: `enumFromL`/`enumFrom0` (`RsSemGenleft`) = `enumFrom`/`enumerate` (`RsSemGenhmm`) = `enumIdxFrom`/`enumIdx`
  (`RsSemGenprob`), same bodies; `Thm/GenSrcOrf.lean` has a fourth, `enumFrom` at `Nat`, with `enumFromL_eq`;
* "call `next` until `None`": `drain` (here; `next` returns `(state, item)`) and `collect` (`RsSemGenavl`; `(item, state)`, used only by
  hand-written drivers of the translated `next`), the same recursion; `Thm/GenSrcOrf.lean` writes it out once more on four fields;
* `step_by`: `stepBy`/`stepByGo` (here, by recursion on the items) and `stepByIdx` (`RsSemBits`, by indices `0, k, 2k, …`): two bodies, no
  lemma relates them and none is needed, each meets only its own module's text;
* the first binding of a key in an association list: `vecMapGet` (here) = `mapGet` (`RsSemBits`) = `HMap.get` (`RsSemGensparse`), the
  same four lines; `VecMap.get` (here, `List.lookup`, values `Nat`) and `hmGet` (`RsSemGenlong`, `find?`) say the same with core
  functions.  `vec_map::VecMap` thus has two readings in this file: `vecMapGet` for `BOM::delta`, `VecMap` for the rank maps of the alphabets
  (`Gen/SrcAlphabet`, `SrcTransform`, `SrcSaisBuckets`).

Core Lean only.
-/
namespace RbV.Rs

/-- outcome of running a translated function -/
inductive Res (α : Type) where
  | ok (a : α)
  | panic
  | fuel
  deriving Repr, DecidableEq, BEq

namespace Res

@[inline] protected def bind {α β : Type} (x : Res α) (f : α → Res β) : Res β :=
  match x with
  | ok a => f a
  | panic => panic
  | fuel => fuel

instance : Monad Res where
  pure := Res.ok
  bind := Res.bind

@[simp] theorem pure_eq_ok {α : Type} (a : α) : (pure a : Res α) = ok a := rfl
@[simp] theorem ok_bind {α β : Type} (a : α) (f : α → Res β) : (ok a >>= f) = f a := rfl
@[simp] theorem panic_bind {α β : Type} (f : α → Res β) : ((panic : Res α) >>= f) = panic := rfl
@[simp] theorem fuel_bind {α β : Type} (f : α → Res β) : ((fuel : Res α) >>= f) = fuel := rfl

instance : LawfulMonad Res := LawfulMonad.mk'
  (id_map := fun x => by cases x <;> rfl)
  (pure_bind := fun _ _ => rfl)
  (bind_assoc := fun x _ _ => by cases x <;> rfl)

/-- `x` finished normally (no panic, fuel not exhausted) -/
def IsOk {α : Type} (x : Res α) : Prop := ∃ a, x = ok a

theorem bind_eq_ok {α β : Type} {x : Res α} {f : α → Res β} {b : β} :
    (x >>= f) = ok b ↔ ∃ a, x = ok a ∧ f a = ok b := by
  cases x with
  | ok a => simp
  | panic => simp
  | fuel => simp

/-- sequencing after a statement whose result is known only up to a property (a loop with an invariant): the rest of the body
is resolved for every such result -/
theorem bind_eq_ok_of {α β : Type} {r : Res α} {f : α → Res β} {b : β} (P : α → Prop) (h : ∃ a, r = ok a ∧ P a)
    (hf : ∀ a, P a → f a = ok b) : r >>= f = ok b := by
  obtain ⟨a, e, ha⟩ := h
  rw [e]
  exact hf a ha

end Res

open Res

/-- `a + b` on a `w`-bit unsigned type (overflow panics) -/
def add (w a b : Nat) : Res Nat := if a + b < 2 ^ w then ok (a + b) else panic
/-- `a - b` on an unsigned type (underflow panics) -/
def sub (a b : Nat) : Res Nat := if b ≤ a then ok (a - b) else panic
/-- `a * b` on a `w`-bit unsigned type (overflow panics) -/
def mul (w a b : Nat) : Res Nat := if a * b < 2 ^ w then ok (a * b) else panic
/-- `a / b` (division by zero panics) -/
def div (a b : Nat) : Res Nat := if b = 0 then panic else ok (a / b)
/-- `a % b` (division by zero panics) -/
def rem (a b : Nat) : Res Nat := if b = 0 then panic else ok (a % b)
/-- `a << n` on a `w`-bit type: bits shifted out are dropped, a shift amount `≥ w` panics -/
def shl (w a n : Nat) : Res Nat := if n < w then ok ((a <<< n) % 2 ^ w) else panic
/-- `a >> n` on a `w`-bit unsigned type: a shift amount `≥ w` panics -/
def shr (w a n : Nat) : Res Nat := if n < w then ok (a >>> n) else panic
/-- `!a` on a `w`-bit unsigned type -/
def not (w a : Nat) : Nat := 2 ^ w - 1 - a
/-- `-a` on a `w`-bit signed type, on two's-complement bit patterns (`-MIN` panics) -/
def neg (w a : Nat) : Res Nat := if a = 2 ^ (w - 1) then panic else ok ((2 ^ w - a) % 2 ^ w)
/-- `a as uW` / `a as iW` from a wider or equally wide integer type: truncation of the bit pattern -/
def cast (w a : Nat) : Nat := a % 2 ^ w
/-- `a.wrapping_add(b)` -/
def wrappingAdd (w a b : Nat) : Nat := (a + b) % 2 ^ w
/-- `a.wrapping_sub(b)` -/
def wrappingSub (w a b : Nat) : Nat := (a + (2 ^ w - b % 2 ^ w)) % 2 ^ w
/-- `a.wrapping_mul(b)` -/
def wrappingMul (w a b : Nat) : Nat := (a * b) % 2 ^ w
/-- `a.wrapping_neg()` -/
def wrappingNeg (w a : Nat) : Nat := (2 ^ w - a % 2 ^ w) % 2 ^ w
/-- `a.checked_shl(n)` on a `w`-bit unsigned type: `None` when `n ≥ w`, bits shifted out are dropped -/
def checkedShl (w a n : Nat) : Option Nat := if n < w then some ((a <<< n) % 2 ^ w) else none
/-- `a.wrapping_shl(n)`: the shift *amount* is reduced modulo `w` -/
def wrappingShl (w a n : Nat) : Nat := (a <<< (n % w)) % 2 ^ w

/-- `l[i]` (out of bounds panics) -/
def idx {α : Type} (l : List α) (i : Nat) : Res α :=
  match l[i]? with
  | some a => ok a
  | none => panic
/-- `l[i] = v` (out of bounds panics) -/
def setIdx {α : Type} (l : List α) (i : Nat) (v : α) : Res (List α) :=
  if i < l.length then ok (l.set i v) else panic
/-- `&l[a..b]` (`a > b` or `b > len` panics) -/
def slice {α : Type} (l : List α) (a b : Nat) : Res (List α) :=
  if a ≤ b ∧ b ≤ l.length then ok ((l.drop a).take (b - a)) else panic
/-- `&l[a..=b]` (`a > b + 1` or `b ≥ len` panics) -/
def sliceIncl {α : Type} (l : List α) (a b : Nat) : Res (List α) :=
  if a ≤ b + 1 ∧ b < l.length then ok ((l.drop a).take (b + 1 - a)) else panic
/-- `assert!(c)` -/
def assert (c : Bool) : Res Unit := if c then ok () else panic
/-- `o.expect("..")` / `o.unwrap()` (`None` panics) -/
def expect {α : Type} (o : Option α) : Res α :=
  match o with
  | some a => ok a
  | none => panic

/-! ### the operations succeed inside the range (tagged `rs_ok` in `Thm/GenSrcOk.lean`) -/

theorem add_ok {w a b : Nat} (h : a + b < 2 ^ w) : add w a b = ok (a + b) := by simp [add, h]
theorem sub_ok {a b : Nat} (h : b ≤ a) : sub a b = ok (a - b) := by simp [sub, h]
theorem mul_ok {w a b : Nat} (h : a * b < 2 ^ w) : mul w a b = ok (a * b) := by simp [mul, h]
/-- `add_ok` / `mul_ok` with the operands in the other order: the text may write either, the bound is proved once -/
theorem add_ok_comm {w a b : Nat} (h : a + b < 2 ^ w) : add w b a = ok (a + b) := by
  rw [add_ok (by rw [Nat.add_comm]; exact h), Nat.add_comm]
theorem mul_ok_comm {w a b : Nat} (h : a * b < 2 ^ w) : mul w b a = ok (a * b) := by
  rw [mul_ok (by rw [Nat.mul_comm]; exact h), Nat.mul_comm]
theorem div_ok {a b : Nat} (h : 0 < b) : div a b = ok (a / b) := by
  have : b ≠ 0 := by omega
  simp [div, this]
theorem rem_ok {a b : Nat} (h : 0 < b) : rem a b = ok (a % b) := by
  have : b ≠ 0 := by omega
  simp [rem, this]
theorem shl_ok {w a n : Nat} (h : n < w) : shl w a n = ok ((a <<< n) % 2 ^ w) := by simp [shl, h]
theorem shr_ok {w a n : Nat} (h : n < w) : shr w a n = ok (a >>> n) := by simp [shr, h]
theorem idx_ok {α : Type} {l : List α} {i : Nat} (h : i < l.length) : idx l i = ok l[i] := by
  simp [idx, List.getElem?_eq_getElem h]
theorem idx_eq_ok_iff {α : Type} {l : List α} {i : Nat} {a : α} : idx l i = ok a ↔ l[i]? = some a := by
  unfold idx
  cases h : l[i]? <;> simp
theorem idx_of_getElem? {α : Type} {l : List α} {i : Nat} {a : α} (h : l[i]? = some a) : idx l i = ok a :=
  idx_eq_ok_iff.mpr h
theorem setIdx_ok {α : Type} {l : List α} {i : Nat} {v : α} (h : i < l.length) : setIdx l i v = ok (l.set i v) := by
  simp [setIdx, h]
theorem slice_ok {α : Type} {l : List α} {a b : Nat} (h1 : a ≤ b) (h2 : b ≤ l.length) :
    slice l a b = ok ((l.drop a).take (b - a)) := by simp [slice, h1, h2]
theorem sliceIncl_ok {α : Type} {l : List α} {a b : Nat} (h1 : a ≤ b + 1) (h2 : b < l.length) :
    sliceIncl l a b = ok ((l.drop a).take (b + 1 - a)) := by simp [sliceIncl, h1, h2]
theorem assert_ok {c : Bool} (h : c = true) : assert c = ok () := by simp [assert, h]
@[simp] theorem expect_some {α : Type} (a : α) : expect (some a) = ok a := rfl
@[simp] theorem expect_none {α : Type} : expect (none : Option α) = panic := rfl

/-! ### iterators (`tools/rs2lean_pm.py`: `Matches::next` of the pattern matchers)

The state of `text.into_iter().enumerate()` over a slice is the pair (items not yet consumed, counter) — the trusted
reading of `IntoIterator<Item = &u8>` over a slice: it yields the slice's bytes in order.  A translated
`fn next(&mut self) -> Option<T>` is a function `σ → Res (σ × Option T)` on the explicit iterator state; what a consumer
of the iterator (`collect`, a `for` loop) sees is `drain next`: `next` is called until it returns `None`.  The fuel only
bounds the number of calls (`Res.fuel` when it does not suffice). -/

/-- all items of the iterator with the translated `next` function, from state `s` -/
def drain {σ α : Type} (next : σ → Res (σ × Option α)) : Nat → σ → Res (List α)
  | 0, _ => Res.fuel
  | n + 1, s => do
    let (s', r) ← next s
    match r with
    | none => pure []
    | some a => do
      let rest ← drain next n s'
      pure (a :: rest)

theorem drain_none {σ α : Type} (next : σ → Res (σ × Option α)) (n : Nat) (s s' : σ)
    (h : next s = ok (s', none)) : drain next (n + 1) s = ok [] := by
  simp [drain, h]

theorem drain_some {σ α : Type} (next : σ → Res (σ × Option α)) (n : Nat) (s s' : σ) (a : α) (l : List α)
    (h : next s = ok (s', some a)) (hl : drain next n s' = ok l) : drain next (n + 1) s = ok (a :: l) := by
  simp [drain, h, hl]

/-- an iterator that another one simulates step by step (states embedded by `emb`, items mapped by `f`) drains to the
mapped items -/
theorem drain_map {σ τ a b : Type} (nx : σ → Res (σ × Option a)) (nx' : τ → Res (τ × Option b)) (emb : σ → τ) (f : a → b)
    (hstep : ∀ s s' r, nx s = ok (s', r) → nx' (emb s) = ok (emb s', r.map f)) :
    ∀ (n : Nat) (s : σ) (items : List a), drain nx n s = ok items →
      drain nx' n (emb s) = ok (items.map f) := by
  intro n
  induction n with
  | zero => intro s items h; cases h
  | succ n ih =>
    intro s items h
    rw [drain] at h
    obtain ⟨⟨s', r⟩, hq, h⟩ := Res.bind_eq_ok.mp h
    cases r with
    | none =>
      cases h
      exact drain_none nx' n _ _ (hstep s s' none hq)
    | some x =>
      obtain ⟨rest, hd, h⟩ := Res.bind_eq_ok.mp h
      cases h
      exact drain_some nx' n _ _ _ _ (hstep s s' (some x) hq) (ih s' rest hd)

/-! ### iterator adapters (dialect "cf", tools/rs2lean_cf.py) -/

/-- the items at positions `0, n, 2n, …` (`k` = items still to skip before the next one is taken) -/
def stepByGo {α : Type} (n : Nat) : Nat → List α → List α
  | _, [] => []
  | 0, a :: t => a :: stepByGo n (n - 1) t
  | k + 1, _ :: t => stepByGo n k t
/-- `it.step_by(n)` (`n = 0` panics) -/
def stepBy {α : Type} (l : List α) (n : Nat) : Res (List α) := if n = 0 then panic else ok (stepByGo n 0 l)
/-- `(lo..hi).step_by(n)`: `lo, lo + n, lo + 2n, …` below `hi` (`n = 0` panics) -/
def rangeStepBy (lo hi n : Nat) : Res (List Nat) :=
  if n = 0 then panic else ok (List.range' lo ((hi - lo + n - 1) / n) n)
theorem rangeStepBy_ok {lo hi n : Nat} (h : 0 < n) : rangeStepBy lo hi n = ok (List.range' lo ((hi - lo + n - 1) / n) n) := by
  have : n ≠ 0 := by omega
  simp [rangeStepBy, this]
theorem stepBy_ok {α : Type} {l : List α} {n : Nat} (h : 0 < n) : stepBy l n = ok (stepByGo n 0 l) := by
  have : n ≠ 0 := by omega
  simp [stepBy, this]
theorem stepByGo_one {α : Type} (l : List α) : stepByGo 1 0 l = l := by
  induction l with
  | nil => rfl
  | cons a t ih => simp [stepByGo, ih]
theorem stepByGo_length_le {α : Type} (n : Nat) : ∀ (l : List α) (k : Nat), (stepByGo n k l).length ≤ l.length := by
  intro l
  induction l with
  | nil => intro k; simp [stepByGo]
  | cons a t ih =>
    intro k
    cases k with
    | zero => simp only [stepByGo, List.length_cons]; have := ih (n - 1); omega
    | succ k => simp only [stepByGo, List.length_cons]; have := ih k; omega

/-- `opt.map(f)` for a translated closure `f` -/
def optMapM {α β : Type} (f : α → Res β) : Option α → Res (Option β)
  | some a => do let b ← f a; pure (some b)
  | none => pure none

/-! ### containers of other crates (dialect "cf"): the trusted meaning of `bit_set::BitSet` and `vec_map::VecMap`

`BitSet`: a finite set of `usize`, represented by the ascending, duplicate-free list of its members — the order in which
`BitSet::iter()` enumerates.  `VecMap<V>`: a finite map from `usize`, represented by an association list in which every
key occurs at most once.  Laws (`BitSet.mem_insertL`, `BitSet.insertL_sorted`, `VecMap.get_insert`) are proved below; that the crates behave like
this is part of the trusted base. -/

abbrev BitSet := List Nat
namespace BitSet
def empty : BitSet := ([] : List Nat)
def toList (s : BitSet) : List Nat := s
def insertL : List Nat → Nat → List Nat
  | [], x => [x]
  | a :: t, x => if x < a then x :: a :: t else if x = a then a :: t else a :: insertL t x
def insert (s : BitSet) (x : Nat) : BitSet := insertL s x
def contains (s : BitSet) (x : Nat) : Bool := List.contains (toList s) x
def len (s : BitSet) : Nat := (toList s).length
def extend (s : BitSet) (xs : List Nat) : BitSet := xs.foldl insert s

theorem mem_insertL (l : List Nat) (x y : Nat) : y ∈ insertL l x ↔ y = x ∨ y ∈ l := by
  induction l with
  | nil => simp [insertL]
  | cons a t ih =>
    simp only [insertL]
    split
    · simp
    · split
      · rename_i h; subst h; simp
      · simp only [List.mem_cons, ih]
        constructor
        · rintro (h | h | h)
          · exact Or.inr (Or.inl h)
          · exact Or.inl h
          · exact Or.inr (Or.inr h)
        · rintro (h | h | h)
          · exact Or.inr (Or.inl h)
          · exact Or.inl h
          · exact Or.inr (Or.inr h)

theorem insertL_sorted (l : List Nat) (x : Nat) (h : l.Pairwise (· < ·)) : (insertL l x).Pairwise (· < ·) := by
  induction l with
  | nil => simp [insertL]
  | cons a t ih =>
    rw [List.pairwise_cons] at h
    simp only [insertL]
    split
    · rename_i hx
      refine List.pairwise_cons.mpr ⟨?_, List.pairwise_cons.mpr h⟩
      intro y hy
      rcases List.mem_cons.mp hy with rfl | hy
      · exact hx
      · exact Nat.lt_trans hx (h.1 y hy)
    · split
      · exact List.pairwise_cons.mpr h
      · rename_i h1 h2
        refine List.pairwise_cons.mpr ⟨?_, ih h.2⟩
        intro y hy
        rcases (mem_insertL t x y).mp hy with rfl | hy
        · omega
        · exact h.1 y hy
theorem mem_extend (s : BitSet) (xs : List Nat) (y : Nat) : y ∈ extend s xs ↔ y ∈ xs ∨ y ∈ s := by
  unfold extend
  induction xs generalizing s with
  | nil => simp
  | cons x xs ih =>
    rw [List.foldl_cons, ih, insert, mem_insertL, List.mem_cons]
    constructor
    · rintro (h | h | h)
      · exact Or.inl (Or.inr h)
      · exact Or.inl (Or.inl h)
      · exact Or.inr h
    · rintro ((h | h) | h)
      · exact Or.inr (Or.inl h)
      · exact Or.inl h
      · exact Or.inr (Or.inr h)

theorem extend_sorted (s : BitSet) (xs : List Nat) (h : s.Pairwise (· < ·)) : (extend s xs).Pairwise (· < ·) := by
  unfold extend
  induction xs generalizing s with
  | nil => exact h
  | cons x xs ih => exact ih _ (insertL_sorted s x h)
end BitSet

/-- `map.get(k).copied()` on a `vec_map::VecMap<V>` given by its entries (`BOM::delta`): the value stored under
key `k`.  The entry list is the abstract content of the map (at most one entry per key in a real `VecMap`; with several,
the first counts). -/
def vecMapGet {α : Type} : List (Nat × α) → Nat → Option α
  | [], _ => none
  | (b, v) :: l, k => if b = k then some v else vecMapGet l k

abbrev VecMap := List (Nat × Nat)
namespace VecMap
def empty : VecMap := ([] : List (Nat × Nat))
def get (m : VecMap) (k : Nat) : Option Nat := (List.lookup k m : Option Nat)
def insert (m : VecMap) (k v : Nat) : VecMap :=
  ((k, v) :: List.filter (fun p => p.1 != k) m : List (Nat × Nat))
def len (m : VecMap) : Nat := List.length (m : List (Nat × Nat))

theorem get_insert (m : VecMap) (k v k' : Nat) : get (insert m k v) k' = if k' = k then some v else get m k' := by
  unfold get insert
  by_cases h : k' = k
  · subst h; simp [List.lookup]
  · have hb : (k' == k) = false := by simpa using h
    simp only [List.lookup, hb, h, if_false]
    induction (m : List (Nat × Nat)) with
    | nil => rfl
    | cons p t ih =>
      obtain ⟨a, b⟩ := p
      by_cases ha : a = k
      · subst ha
        have : (k' == a) = false := hb
        simp [List.filter, List.lookup, this, ih]
      · have hne : (a != k) = true := by simpa using ha
        simp only [List.filter, hne, List.lookup]
        cases hk : k' == a
        · simpa using ih
        · rfl
end VecMap

end RbV.Rs
