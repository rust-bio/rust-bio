import RbV.Basic.RsSem
import RbV.Basic.RsSemInt
/-!
Semantics of the part of the Rust subset added by `tools/rs2lean_gensa.py` (dialect "gensa", builder gensa: the
suffix-array construction of `src/data_structures/suffix_array.rs`, property C03; docs/notes/GEN.md, "Dialect gensa").
Hand-written, core Lean, trusted like `RsSem.lean`.
-/
namespace RbV.Rs
open Res

/-- `v.resize(n, x)`: truncate to `n` or fill up with copies of `x` -/
def resizeV {α : Type} (l : List α) (n : Nat) (x : α) : List α := l.take n ++ List.replicate (n - l.length) x

theorem resizeV_nil {α : Type} (n : Nat) (x : α) : resizeV ([] : List α) n x = List.replicate n x := by
  simp [resizeV]

/-! ### `vec_map::VecMap<usize>` beyond `get` / `insert` (RsSem.lean): `contains_key`, `*get_mut(k).unwrap() += d`, `values()` -/
namespace VecMap

/-- `m.contains_key(k)` -/
def containsKey (m : VecMap) (k : Nat) : Bool := (get m k).isSome

/-- `*m.get_mut(k).unwrap() += d` on a `w`-bit unsigned value: a missing key panics (`unwrap`), so does an overflow -/
def addAt (w : Nat) (m : VecMap) (k d : Nat) : Res VecMap :=
  match get m k with
  | none => panic
  | some v => if v + d < 2 ^ w then ok (insert m k (v + d)) else panic

/-- 1 + the largest key (0 for the empty map) -/
def keyBound (m : VecMap) : Nat := (m : List (Nat × Nat)).foldl (fun b p => max b (p.1 + 1)) 0

/-- `m.values()`: the values in **ascending key order** (a `VecMap` is a vector of optional slots indexed by key) -/
def values (m : VecMap) : List Nat := (List.range (keyBound m)).filterMap (get m)

theorem get_empty (k : Nat) : get empty k = none := rfl

theorem foldl_bound_ge (l : List (Nat × Nat)) (b : Nat) : b ≤ l.foldl (fun b p => max b (p.1 + 1)) b := by
  induction l generalizing b with
  | nil => exact Nat.le_refl _
  | cons a l ih => simp only [List.foldl_cons]; have := ih (max b (a.1 + 1)); omega

theorem foldl_bound_mem (l : List (Nat × Nat)) (b : Nat) (p : Nat × Nat) (hp : p ∈ l) :
    p.1 < l.foldl (fun b p => max b (p.1 + 1)) b := by
  induction l generalizing b with
  | nil => simp at hp
  | cons a l ih =>
    simp only [List.foldl_cons]
    rcases List.mem_cons.mp hp with rfl | h
    · have := foldl_bound_ge l (max b (p.1 + 1)); omega
    · exact ih _ h

/-- a key at or above `keyBound` is absent -/
theorem get_none_of_ge (m : VecMap) (k : Nat) (h : keyBound m ≤ k) : get m k = none := by
  unfold get
  cases hl : List.lookup k m with
  | none => rfl
  | some v =>
    have hm : (k, v) ∈ (m : List (Nat × Nat)) := by
      clear h
      induction (m : List (Nat × Nat)) with
      | nil => simp [List.lookup] at hl
      | cons a l ih =>
        obtain ⟨a1, a2⟩ := a
        simp only [List.lookup] at hl
        split at hl
        · rename_i heq
          have : k = a1 := by simpa using heq
          simp only [Option.some.injEq] at hl
          subst this; subst hl; simp
        · exact List.mem_cons_of_mem _ (ih hl)
    have := foldl_bound_mem m 0 (k, v) hm
    unfold keyBound at h
    simp only [] at this
    omega

theorem filterMap_range_stable (f : Nat → Option Nat) (a : Nat) : ∀ (d : Nat), (∀ k, a ≤ k → k < a + d → f k = none) →
    (List.range (a + d)).filterMap f = (List.range a).filterMap f := by
  intro d
  induction d with
  | zero => intro _; rfl
  | succ d ih =>
    intro h
    have e : a + (d + 1) = (a + d) + 1 := by omega
    rw [e, List.range_succ, List.filterMap_append, ih (fun k h1 h2 => h k h1 (by omega))]
    simp [h (a + d) (by omega) (by omega)]

/-- `values()` = the present entries of the slots `0 … B−1`, for every `B` beyond which no key is present -/
theorem values_eq (m : VecMap) (B : Nat) (h : ∀ k, B ≤ k → get m k = none) :
    values m = (List.range B).filterMap (get m) := by
  unfold values
  by_cases hb : keyBound m ≤ B
  · have := filterMap_range_stable (get m) (keyBound m) (B - keyBound m) (fun k h1 _ => get_none_of_ge m k h1)
    rw [← this]; congr 2; omega
  · have := filterMap_range_stable (get m) B (keyBound m - B) (fun k h1 _ => h k h1)
    rw [← this]; congr 2; omega

end VecMap

end RbV.Rs
