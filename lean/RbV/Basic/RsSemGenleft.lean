import RbV.Basic.RsSem
/-! Semantics for the units of `tools/rs2lean_genleft.py` (docs/notes/GEN.md, section
"genleft").  Hand-written, core Lean, trusted like `RsSem.lean`. -/
namespace RbV.Rs

/-- `it.enumerate()` on an iterator whose remaining items are `l`, counting from `k` -/
def enumFromL {α : Type} : Nat → List α → List (Nat × α)
  | _, [] => []
  | k, a :: l => (k, a) :: enumFromL (k + 1) l

/-- `xs.into_iter().enumerate()`: the pairs `(0, x₀), (1, x₁), …` (trusted reading as for `into_iter().enumerate()` in the section "iterators" of `RsSem.lean`: the counter
is an unbounded `Nat`; a slice has fewer than 2^63 elements) -/
def enumFrom0 {α : Type} (l : List α) : List (Nat × α) := enumFromL 0 l

theorem enumFromL_length {α : Type} (k : Nat) (l : List α) : (enumFromL k l).length = l.length := by
  induction l generalizing k with
  | nil => rfl
  | cons a l ih => simp [enumFromL, ih]

end RbV.Rs
