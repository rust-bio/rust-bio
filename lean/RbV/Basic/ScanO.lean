/-!
Generic column scanner of the approximate matchers (Ukkonen, Myers; C09): one model step per text symbol, a pair
(position, value) whenever the step reports one — what `Scan.scan` is for the exact matchers.  The exactness theorems of the
mirror models (`Lemmas/UkkonenCell.lean: runO_eq_hits`) and the equality proofs of the translated iterators
(`Thm/GenSrcScanD.lean`, in whose namespace the definition stands) both speak of it.  Core Lean only.
-/
namespace RbV.Thm.GenSrcScanD

/-- the generic scanner: one model step per text symbol, a pair (position, value) whenever the step reports a value -/
def runO {σ δ : Type} (stepO : σ → Nat → σ × Option δ) : σ → Nat → List Nat → List (Nat × δ)
  | _, _, [] => []
  | s, i, c :: t =>
    match (stepO s c).2 with
    | some d => (i, d) :: runO stepO (stepO s c).1 (i + 1) t
    | none => runO stepO (stepO s c).1 (i + 1) t

end RbV.Thm.GenSrcScanD
