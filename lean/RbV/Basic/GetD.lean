/-! `List.getD` against `set`, `map`, `++`, `replicate`, membership, `Pairwise`, `range`, `drop`, `getLast`, and `Array.getD` against
`setIfInBounds` (core Lean only).

The models index with `l.getD i d` throughout; core states these facts for `l[i]?` only.  Every lemma here is the
`l[i]?` fact read through `List.getD_eq_getElem?_getD`.  The ones that keep being proved again by hand beside their users:
`getD_eq_getElem` (`i < l.length → l.getD i d = l[i]`), `getD_mem`, `exists_getD_of_mem`, `getD_set_of_lt`, `getD_map`,
`drop_eq_getD_cons` (`l.drop i = l.getD i d :: l.drop (i + 1)`), `getLastD_eq_getD`, `map_getD_range`.

Not to be imported where Mathlib is seen (`Lemmas/C15.lean` and what imports it): `List.getD_eq_getElem`, `List.getD_map` and
`List.getD_replicate` exist there under the same names. -/
namespace List
variable {α : Type} (l r : List α) (i j : Nat) (v d : α)

theorem getD_eq_getElem (h : i < l.length) : l.getD i d = l[i] := (getElem_eq_getD d).symm

theorem getD_set : (l.set i v).getD j d = if i = j ∧ i < l.length then v else l.getD j d := by
  simp only [getD_eq_getElem?_getD, getElem?_set]
  by_cases hij : i = j
  · subst hij; by_cases hi : i < l.length
    · simp [hi]
    · simp [hi]
  · simp [hij]

/-- the write in bounds, as its users meet it -/
theorem getD_set_of_lt {l : List α} {i : Nat} (j : Nat) (v d : α) (h : i < l.length) :
    (l.set i v).getD j d = if i = j then v else l.getD j d := by
  rw [getD_set]; simp only [h, and_true]

theorem getD_map {β : Type} (f : α → β) : (l.map f).getD i (f d) = f (l.getD i d) := by
  simp only [getD_eq_getElem?_getD, getElem?_map]; cases l[i]? <;> rfl

theorem getD_set_self (h : i < l.length) : (l.set i v).getD i d = v := by rw [getD_set, if_pos ⟨rfl, h⟩]

theorem getD_set_ne (h : i ≠ j) : (l.set i v).getD j d = l.getD j d := by rw [getD_set, if_neg (h ·.1)]

theorem set_getD_self : l.set i (l.getD i d) = l := by
  by_cases h : i < l.length
  · rw [getD_eq_getElem l i d h, set_getElem_self]
  · exact set_eq_of_length_le (Nat.le_of_not_lt h)

theorem getD_append_left (h : i < l.length) : (l ++ r).getD i d = l.getD i d := by
  simp [getD_eq_getElem?_getD, getElem?_append_left h]

theorem getD_concat_length : (l ++ [v]).getD l.length d = v := by simp

theorem getD_replicate (n : Nat) : (replicate n v).getD i d = if i < n then v else d := by
  simp only [getD_eq_getElem?_getD, getElem?_replicate]; split <;> rfl

theorem getD_mem (h : i < l.length) : l.getD i d ∈ l := getD_eq_getElem l i d h ▸ getElem_mem h

theorem getD_eq_or_mem : l.getD i d = d ∨ l.getD i d ∈ l := by
  by_cases h : i < l.length
  · exact .inr (getD_mem l i d h)
  · exact .inl (by simp [getD_eq_getElem?_getD, Nat.le_of_not_lt h])

theorem exists_getD_of_mem {x : α} (h : x ∈ l) : ∃ i, i < l.length ∧ l.getD i d = x :=
  let ⟨i, hi, e⟩ := mem_iff_getElem.mp h; ⟨i, hi, (getD_eq_getElem l i d hi).trans e⟩

theorem map_getD_range : (range l.length).map (l.getD · d) = l := by
  apply ext_getElem (by simp); intro i _ h; simp [h]

theorem drop_eq_getD_cons (h : i < l.length) : l.drop i = l.getD i d :: l.drop (i + 1) :=
  getD_eq_getElem l i d h ▸ drop_eq_getElem_cons h

theorem pairwise_getD {R : α → α → Prop} (hpw : l.Pairwise R) (hij : i < j) (hj : j < l.length) : R (l.getD i d) (l.getD j d) := by
  have hi : i < l.length := Nat.lt_trans hij hj
  rw [getD_eq_getElem l i d hi, getD_eq_getElem l j d hj]
  exact pairwise_iff_getElem.mp hpw i j hi hj hij

theorem getLastD_eq_getD : l.getLastD d = l.getD (l.length - 1) d := by
  rw [getLastD_eq_getLast?, getLast?_eq_getElem?, getD_eq_getElem?_getD]

end List

theorem Array.getD_setIfInBounds {α : Type} (a : Array α) (i j : Nat) (v d : α) :
    (a.setIfInBounds i v).getD j d = if i = j ∧ i < a.size then v else a.getD j d := by
  simp only [Array.getD_eq_getD_getElem?, Array.getElem?_setIfInBounds]
  by_cases hij : i = j
  · subst hij; by_cases hi : i < a.size
    · simp [hi]
    · simp [hi]
  · simp [hij]
