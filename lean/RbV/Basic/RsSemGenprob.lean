import RbV.Basic.RsSem
import RbV.Basic.RsSemInt
import RbV.Basic.Dec
/-!
Semantics of the floating-point part of the Rust subset translated by `tools/rs2lean_genprob.py`, dialect "prob"
(docs/notes/GEN.md, section "Dialect prob").  Hand-written, core Lean, trusted like `RsSem.lean`.

`f64` is **abstract**: the generated files `RbV/Gen/SrcProbs.lean`, `RbV/Gen/SrcFastExp.lean` are generic in a type `F`
and an `F64Ops F` — a signature with exactly the operations the translated code calls.  Nothing is said here about
what the operations do; the proof side (`RbV/Lemmas/C15Src.lean`, Mathlib) instantiates `F` with the extended reals
`XR = ℝ ∪ {−∞, +∞, NaN}` ("`f64` without rounding": exact real arithmetic on finite values, the IEEE rules for the
special values) and the approximate exponential `fastexp` with an abstract `E : ℝ → ℝ`.

The newtypes `Prob`, `LogProb`, `PHREDProb` (`custom_derive!` with `NewtypeFrom`, `NewtypeDeref`, `NewtypeAdd(*)`,
`NewtypeSub(*)`, `PartialEq`, `PartialOrd`) are read as `F` itself: constructor and `*` are the identity, `+`/`-`/`<`/`==`
on the newtype are those of `f64`.
-/
namespace RbV.Rs

/-- what the translated code asks of `f64` -/
structure F64Ops (F : Type) where
  add : F → F → F
  sub : F → F → F
  mul : F → F → F
  div : F → F → F
  neg : F → F
  /-- `<` (false when an operand is NaN); `a > b` is `lt b a` -/
  lt : F → F → Bool
  /-- `<=`; `a >= b` is `le b a` -/
  le : F → F → Bool
  /-- `==` (IEEE: NaN is not equal to itself); `!=` is its negation -/
  eq : F → F → Bool
  /-- a decimal literal of the source text, kept exactly -/
  ofDec : Dec → F
  /-- `n as f64` for an unsigned integer -/
  ofNat : Nat → F
  /-- `k as f64` for a signed integer -/
  ofInt : Int → F
  /-- `x as i64` (truncation towards zero; saturating, NaN ↦ 0) -/
  truncI64 : F → Int
  /-- `f64::from_bits(b)` -/
  fromBits : Nat → F
  /-- `f64::INFINITY` -/
  inf : F
  /-- `f64::NEG_INFINITY` -/
  negInf : F
  /-- `f64::EPSILON` -/
  epsilon : F
  /-- `f64::consts::LN_2` -/
  ln2 : F
  isNan : F → Bool
  exp : F → F
  ln : F → F
  ln1p : F → F
  expm1 : F → F
  log10 : F → F
  powf : F → F → F
  /-- `FastExp::fastexp` as seen by its callers in `stats/probs` (its own body is translated in `Gen/SrcFastExp.lean`) -/
  fastexp : F → F
  /-- `approx::relative_eq!(a, b, epsilon = e, max_relative = r)` (both default to `f64::EPSILON`) -/
  relEq : F → F → F → F → Bool

/-- `iter.sum::<f64>()`: left fold of `+` from `0.0` -/
def fsum {F : Type} (o : F64Ops F) (l : List F) : F := l.foldl o.add (o.ofDec ⟨0, 0⟩)

/-- `xs.iter().enumerate()` collected: `(0, x₀), (1, x₁), …` -/
def enumIdxFrom {α : Type} : Nat → List α → List (Nat × α)
  | _, [] => []
  | k, a :: as => (k, a) :: enumIdxFrom (k + 1) as

def enumIdx {α : Type} (l : List α) : List (Nat × α) := enumIdxFrom 0 l

/-- `it.dropping_back(k)` (itertools), collected -/
def dropBack {α : Type} (k : Nat) (l : List α) : List α := l.take (l.length - k)

/-- `it.scan(init, f)` consumed to its end: `f` updates the state and yields `Some(item)`; `None` ends the iterator -/
def iterScan {σ α β : Type} (f : σ → α → σ × Option β) : σ → List α → List β
  | _, [] => []
  | s, a :: as =>
    match f s a with
    | (s', some b) => b :: iterScan f s' as
    | (_, none) => []

/-- `a << n` on `i64` (bits shifted out are dropped, the result is read in two's complement; `n ≥ 64` panics) -/
def ishl64 (a : Int) (n : Nat) : Res Int :=
  if n < 64 then Res.ok (toSigned 64 (ofSigned 64 (a * (2 ^ n : Nat)))) else Res.panic

/-- the error type of `stats::probs::errors` as far as `Prob::checked` uses it -/
inductive ProbError (F : Type) where
  | InvalidProb (prob : F)

theorem enumIdxFrom_length {α : Type} (k : Nat) (l : List α) : (enumIdxFrom k l).length = l.length := by
  induction l generalizing k with
  | nil => rfl
  | cons a as ih => simp [enumIdxFrom, ih]

end RbV.Rs
