import RbV.Basic.RsSem
import RbV.Basic.RsSemInt
import RbV.Basic.RsSemBits
/-!
Semantics of the part of the Rust subset added by `tools/rs2lean_gensparse.py` (dialect "sp": `alignment/sparse.rs`;
docs/notes/GEN.md, "Dialect sp").  Hand-written, core Lean, trusted like `RsSem.lean`.

* **derived `Ord`** on tuples and on structs with `#[derive(Ord)]` (= tuples in field order): lexicographic, from the order
  of the components (`ROrd`); `std::cmp::max(a, b)` returns `b` unless `a > b`, `min(a, b)` returns `a` unless `a > b`.
* **`slice::sort_unstable()`** and **`slice::binary_search(&key)`** are *not* given a definition: a translated function takes
  them as parameters and the theorems assume the contracts of std stated here (`SortOk`: a sorted permutation with respect
  to the derived order of the element type — so the *key* the code sorts by is the element tuple the translated text builds;
  `BSearchOk`: on a strictly ascending slice `Ok(i)` names a position holding the key, `Err(_)` says that the key is absent).
* checked negation on signed integers (`ineg`), `saturating_sub` (`satSub`), narrowing casts to and from signed integers
  (`castSigned`, `castUnsigned`); `Vec::resize` is `Rs.resize` of `RsSemBits.lean`.
* **`std::collections::HashMap`** as far as `sparse.rs` uses it (`entry(k).or_default().push(v)`, `get(k)`, `match m.entry(k) { Vacant(v) => v.insert(x), Occupied(o) => … o.get_mut() … }`): a finite map
  represented by an association list with at most one entry per key; the iteration order is never observed by the translated
  functions.  `HMap.get_entryPush` states the reading of `entry(k).or_default().push(v)`; the proofs work on `entryPush` itself.
-/
namespace RbV.Rs
open Res

/-- the derived total order of a Rust type: `le a b` ⇔ `a <= b` -/
class ROrd (α : Type) where
  le : α → α → Bool

instance : ROrd Nat := ⟨fun a b => decide (a ≤ b)⟩
instance : ROrd Int := ⟨fun a b => decide (a ≤ b)⟩
instance : ROrd Bool := ⟨fun a b => !a || b⟩
/-- lexicographic: `a <= b` ⇔ `a.0 < b.0 || (a.0 == b.0 && a.1 <= b.1)` (for total orders on the components) -/
instance {α β : Type} [ROrd α] [ROrd β] : ROrd (α × β) :=
  ⟨fun a b => !(ROrd.le b.1 a.1) || (ROrd.le a.1 b.1 && ROrd.le a.2 b.2)⟩

/-- `a <= b` -/
def ole {α : Type} [ROrd α] (a b : α) : Bool := ROrd.le a b
/-- `a < b` -/
def olt {α : Type} [ROrd α] (a b : α) : Bool := !(ROrd.le b a)
/-- `std::cmp::max(a, b)` -/
def omax {α : Type} [ROrd α] (a b : α) : α := if ROrd.le a b then b else a
/-- `std::cmp::min(a, b)` -/
def omin {α : Type} [ROrd α] (a b : α) : α := if ROrd.le a b then a else b

/-- contract of `v.sort_unstable()` (std): the result is a permutation of the input and ascending in the derived order -/
def SortOk {α : Type} [ROrd α] (sortF : List α → List α) : Prop :=
  ∀ l, (sortF l).Perm l ∧ (sortF l).Pairwise (fun a b => ROrd.le a b = true)

/-- contract of `s.binary_search(&key)` (std) on a strictly ascending slice, as far as the translated functions rely on it:
`Ok(i)` ⇒ `s[i] == key`; `Err(_)` ⇒ the key does not occur (nothing is assumed about the insertion point an `Err` carries:
the translated text must not use it) -/
def BSearchOk {α : Type} [ROrd α] (bs : List α → α → Except Nat Nat) : Prop :=
  ∀ l key, l.Pairwise (fun a b => olt a b = true) →
    (∀ i, bs l key = .ok i → l[i]? = some key) ∧ (∀ i, bs l key = .error i → key ∉ l)

/-- `-a` on a `w`-bit signed type (`-MIN` panics) -/
def ineg (w : Nat) (a : Int) : Res Int := if InS w (-a) then ok (-a) else panic
theorem ineg_ok {w : Nat} {a : Int} (h : InS w (-a)) : ineg w a = ok (-a) := by unfold ineg; rw [if_pos h]

/-- `a.saturating_sub(b)` on an unsigned type -/
def satSub (a b : Nat) : Nat := a - b

/-- `x as iW` from an unsigned type at least as wide: truncation, then two's complement -/
def castSigned (w x : Nat) : Int := toSigned w (x % 2 ^ w)
theorem castSigned_of_lt {w x : Nat} (h : x < 2 ^ (w - 1)) : castSigned w x = (x : Int) := by
  unfold castSigned
  have h2 : 2 ^ (w - 1) ≤ 2 ^ w := Nat.pow_le_pow_right (by omega) (by omega)
  rw [Nat.mod_eq_of_lt (by omega), toSigned_of_lt h]
/-- `k as uV` from a signed type (sign extension, then truncation to `v` bits) -/
def castUnsigned (v : Nat) (k : Int) : Nat := (k % ((2 ^ v : Nat) : Int)).toNat
theorem castUnsigned_natCast {v x : Nat} (h : x < 2 ^ v) : castUnsigned v (x : Int) = x := ofSigned_natCast h

/-! ### `HashMap` (only `entry(k).or_default().push(v)`, `get(k)` and the `Entry::Vacant` / `Entry::Occupied` pair) -/

abbrev HMap (κ ν : Type) := List (κ × ν)
namespace HMap
variable {κ ν : Type} [DecidableEq κ]
/-- `HashMap::default()` -/
def empty : HMap κ ν := []
/-- `m.get(k)` -/
def get : HMap κ ν → κ → Option ν
  | [], _ => none
  | (k', v) :: r, k => if k' = k then some v else get r k
/-- `m.entry(k).or_default().push(x)` for a map into vectors -/
def entryPush : HMap κ (List ν) → κ → ν → HMap κ (List ν)
  | [], k, x => [(k, [x])]
  | (k', v) :: r, k, x => if k' = k then (k', v ++ [x]) :: r else (k', v) :: entryPush r k x

/-- `Entry::Vacant(v) => v.insert(x)`: a new key (the caller has seen `get m k = none`) -/
def insertNew (m : HMap κ ν) (k : κ) (x : ν) : HMap κ ν := m ++ [(k, x)]
/-- `Entry::Occupied(o) => *o.get_mut() = x`: the value of an existing key is replaced in place -/
def update (m : HMap κ ν) (k : κ) (x : ν) : HMap κ ν := m.map (fun e => if e.1 = k then (e.1, x) else e)

theorem get_entryPush (m : HMap κ (List ν)) (k k' : κ) (x : ν) :
    get (entryPush m k x) k' = if k' = k then some ((get m k).getD [] ++ [x]) else get m k' := by
  induction m with
  | nil =>
    by_cases h : k' = k
    · subst h; simp [entryPush, get]
    · have h' : ¬ k = k' := fun e => h e.symm
      simp [entryPush, get, h, h']
  | cons p r ih =>
    obtain ⟨a, v⟩ := p
    by_cases ha : a = k
    · subst ha
      by_cases h : k' = a
      · subst h; simp [entryPush, get]
      · have h' : ¬ a = k' := fun e => h e.symm
        simp [entryPush, get, h, h']
    · by_cases h : k' = k
      · subst h
        simp [entryPush, get, ha, ih]
      · by_cases h2 : a = k'
        · simp [entryPush, get, h2, h]
        · simp [entryPush, get, ha, h2, ih, h]
end HMap

end RbV.Rs
