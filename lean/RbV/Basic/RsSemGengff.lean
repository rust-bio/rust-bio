import RbV.Basic.RsSemGenleft
/-! Semantics added by builder gengff for the units of `tools/rs2lean_gengff.py` (dialect "gff": the BED and GFF/GTF writers and
the BED record accessors, C13; docs/notes/GEN.md, 'Dialect "gff"').  Hand-written, core Lean, trusted like `RsSem.lean`.
`RsSemGenleft` is imported because the translator is built on `tools/rs2lean_genleft.py` and may emit its operations.

Strings are lists of UTF-8 bytes.  A `MultiMap<String, String>` is the list of its key groups `(key, values)` in the order in
which the map iterates (arbitrary; theorems quantify over it). -/
namespace RbV.Rs

/-- `Display` of a `char` with code point `c` (`c.to_string()`, `{}`): its UTF-8 encoding -/
def charStr (c : Nat) : List Nat :=
  if c < 128 then [c]
  else if c < 2048 then [192 + c / 64, 128 + c % 64]
  else if c < 65536 then [224 + c / 4096, 128 + c / 64 % 64, 128 + c % 64]
  else [240 + c / 262144, 128 + c / 4096 % 64, 128 + c / 64 % 64, 128 + c % 64]

/-- `items.join(sep)` (itertools `Itertools::join` on an iterator of strings, `[String]::join`): the items with `sep`
between consecutive ones; no item gives the empty string -/
def joinStr (sep : List Nat) : List (List Nat) → List Nat
  | [] => []
  | [p] => p
  | p :: q :: r => p ++ sep ++ joinStr sep (q :: r)

/-- the flat list of fields serde hands to `csv::Writer::serialize` for a tuple: every component contributes its fields (a
string or number one field, a sequence its elements) -/
def csvFields (components : List (List (List Nat))) : List (List Nat) := components.flatten

/-- `impl Serialize for Phase`: `Some(p) => serialize_u8(p)`, `None => serialize_str(".")` -/
def serPhase (dec : Nat → List Nat) : Option Nat → List Nat
  | some p => dec p
  | none => [46]

/-- `bio_types::strand::Strand` -/
inductive Strand where
  | Forward
  | Reverse
  | Unknown
  deriving Repr, DecidableEq

/-- `String::from_utf8(vec![b])`: a single byte is valid UTF-8 exactly when it is ASCII -/
def fromUtf8One (b : Nat) : Option (List Nat) := if b < 128 then some [b] else none

/-- an optional leading `+` removed -/
def stripPlus (s : List Nat) : List Nat := if s.head? = some 43 then s.tail else s

/-- `u8::from_str(s)` (`core::num`, radix 10) with the error erased: an optional `+`, then at least one ASCII digit, no other
character, value at most 255 (leading zeros are accepted) -/
def parseU8 (s : List Nat) : Except Unit Nat :=
  let ds := stripPlus s
  if ds.isEmpty || !ds.all (fun c => decide (48 ≤ c) && decide (c ≤ 57)) then .error ()
  else if ds.foldl (fun a c => a * 10 + (c - 48)) 0 < 256 then .ok (ds.foldl (fun a c => a * 10 + (c - 48)) 0) else .error ()

/-- `s.trim_matches(c)` for an ASCII `char` literal `c`: every leading and trailing occurrence removed -/
def trimByte (c : Nat) (s : List Nat) : List Nat :=
  ((s.dropWhile (· == c)).reverse.dropWhile (· == c)).reverse

/-- split at every occurrence of the byte `c`; always at least one piece -/
def splitByte (c : Nat) : List Nat → List (List Nat)
  | [] => [[]]
  | x :: r =>
    if x = c then [] :: splitByte c r
    else match splitByte c r with
      | [] => [[x]]
      | p :: ps => (x :: p) :: ps

/-- split at every occurrence of the non-empty byte string `p` (leftmost, non-overlapping); fuel = length + 1 -/
def splitSubF (p : List Nat) : Nat → List Nat → List Nat → List (List Nat)
  | 0, cur, _ => [cur]
  | _ + 1, cur, [] => [cur]
  | f + 1, cur, x :: r =>
    if p.isPrefixOf (x :: r) then cur :: splitSubF p f [] ((x :: r).drop p.length)
    else splitSubF p f (cur ++ [x]) r

/-- `s.split(c)` for a `char` `c` on a (valid UTF-8) string, collected: an ASCII char is one byte; any other char is found as its
UTF-8 encoding (UTF-8 is self-synchronising) -/
def splitChar (c : Nat) (s : List Nat) : List (List Nat) :=
  if c < 128 then splitByte c s else splitSubF (charStr c) (s.length + 1) [] s

theorem charStr_ascii (c : Nat) (h : c < 128) : charStr c = [c] := by
  simp [charStr, h]

end RbV.Rs
