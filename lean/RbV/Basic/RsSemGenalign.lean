import RbV.Basic.RsSem
import RbV.Basic.RsSemInt
import RbV.Basic.RsSemBits
import RbV.Basic.RsSemGensparse
/-!
Semantics of the additional Rust constructs used by the translated bodies of the pairwise aligner
(`tools/rs2lean_genalign.py`, dialect "align", builder genalign; docs/notes/GEN.md).  Hand-written, core Lean only; part of
the trusted meaning of the translated subset, like `RsSem.lean`.

* `i32` values are Lean `Int`s kept inside `[-2^31, 2^31)` by construction: `+` is `Rs.iadd 32` (`RsSemInt.lean`), `*` is
  `Rs.imul 32` (leaving the range panics: the harness is built with overflow checks), `i as i32` from `usize` is
  `Rs.castSigned 32` (`RsSemGensparse.lean`: truncate to 32 bits, read as two's complement — never a panic).
* `v.extend(repeat(x).take(n))` is `Rs.extendRepeat`.
* The types of the external crate `bio-types` (`bio_types::alignment`, re-exported by `bio::alignment`) that
  `Aligner::custom` builds: `AlignmentOperation`, `AlignmentMode`, `Alignment` — **trusted reading of the declarations of
  bio-types 1.0.4** (field names and order as declared there) — and `Alignment::filter_clip_operations`
  (`self.operations.retain(|x| *x == Match || *x == Subst || *x == Ins || *x == Del)`).
-/
namespace RbV.Rs

/-- `v.extend(repeat(x).take(n))` -/
def extendRepeat {α : Type} (l : List α) (x : α) (n : Nat) : List α := l ++ List.replicate n x

/-- `bio_types::alignment::AlignmentOperation` -/
inductive AlignmentOperation where
  | Match | Subst | Del | Ins
  | Xclip (n : Nat)
  | Yclip (n : Nat)
deriving DecidableEq, Repr, Inhabited

/-- `bio_types::alignment::AlignmentMode` -/
inductive AlignmentMode where
  | Local | Semiglobal | Global | Custom
deriving DecidableEq, Repr, Inhabited

/-- `bio_types::alignment::Alignment` (fields in declaration order) -/
structure Alignment where
  score : Int
  ystart : Nat
  xstart : Nat
  yend : Nat
  xend : Nat
  ylen : Nat
  xlen : Nat
  operations : List AlignmentOperation
  mode : AlignmentMode
deriving DecidableEq, Repr, Inhabited

/-- the predicate of `filter_clip_operations`: `*x == Match || *x == Subst || *x == Ins || *x == Del` -/
def AlignmentOperation.isCore : AlignmentOperation → Bool
  | .Match | .Subst | .Ins | .Del => true
  | _ => false

/-- `Alignment::filter_clip_operations` -/
def Alignment.filterClipOperations (a : Alignment) : Alignment :=
  { a with operations := a.operations.filter AlignmentOperation.isCore }

end RbV.Rs
