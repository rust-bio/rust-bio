import RbV.Basic.RsSem
/-!
Semantics of the signed-integer part of the Rust subset translated by `tools/rs2lean_fm.py`, dialect "fmd"
(docs/notes/GEN.md, "Dialect fmd").  Hand-written, core Lean, trusted like `RsSem.lean`.

A value of a signed Rust type (`isize` = 64 bit) is a Lean `Int` kept inside `[-2^(w-1), 2^(w-1))` by construction:
`toSigned w x` is `x as iW` from the unsigned type of the same width (two's complement: values `≥ 2^(w-1)` become
negative), `ofSigned w k` is `k as uW` (negative values wrap to `2^w + k`), `iadd` / `isub` / `imul` are the checked `+` / `-` / `*`
(leaving the range panics), comparisons are those of `Int`, `irange lo hi` are the items of the range `lo..hi`.
-/
namespace RbV.Rs
open Res

/-- `x as iW` from the `w`-bit unsigned type -/
def toSigned (w x : Nat) : Int := if x < 2 ^ (w - 1) then (x : Int) else (x : Int) - ((2 ^ w : Nat) : Int)
/-- `k as uW` from the `w`-bit signed type -/
def ofSigned (w : Nat) (k : Int) : Nat := (k % ((2 ^ w : Nat) : Int)).toNat
/-- `k` lies in the range of the `w`-bit signed type -/
def InS (w : Nat) (k : Int) : Prop := -((2 ^ (w - 1) : Nat) : Int) ≤ k ∧ k < ((2 ^ (w - 1) : Nat) : Int)
instance (w : Nat) (k : Int) : Decidable (InS w k) := by unfold InS; infer_instance
/-- `a + b` on a `w`-bit signed type (leaving the range panics) -/
def iadd (w : Nat) (a b : Int) : Res Int := if InS w (a + b) then ok (a + b) else panic
/-- `a - b` on a `w`-bit signed type (leaving the range panics) -/
def isub (w : Nat) (a b : Int) : Res Int := if InS w (a - b) then ok (a - b) else panic
/-- `a * b` on a `w`-bit signed type (leaving the range panics) -/
def imul (w : Nat) (a b : Int) : Res Int := if InS w (a * b) then ok (a * b) else panic
/-- the items of `lo..hi` on a signed type -/
def irange (lo hi : Int) : List Int := (List.range (hi - lo).toNat).map (fun (i : Nat) => lo + (i : Int))

theorem toSigned_of_lt {w x : Nat} (h : x < 2 ^ (w - 1)) : toSigned w x = (x : Int) := by simp [toSigned, h]

theorem ofSigned_natCast {w x : Nat} (h : x < 2 ^ w) : ofSigned w (x : Int) = x := by
  unfold ofSigned
  rw [Int.emod_eq_of_lt (by omega) (by omega)]
  omega

theorem iadd_ok {w : Nat} {a b : Int} (h : InS w (a + b)) : iadd w a b = ok (a + b) := by
  unfold iadd; rw [if_pos h]

theorem isub_ok {w : Nat} {a b : Int} (h : InS w (a - b)) : isub w a b = ok (a - b) := by
  unfold isub; rw [if_pos h]

theorem imul_ok {w : Nat} {a b : Int} (h : InS w (a * b)) : imul w a b = ok (a * b) := by
  unfold imul; rw [if_pos h]

/-- `(-1..n).rev()` from `n` downwards: `n-1, …, 0, -1` (`n + 1` items) -/
def downToM1 : Nat → List Int
  | 0 => [-1]
  | n + 1 => (n : Int) :: downToM1 n

theorem irange_m1_succ (n : Nat) : irange (-1) ((n + 1 : Nat) : Int) = irange (-1) (n : Int) ++ [(n : Int)] := by
  unfold irange
  have e1 : (((n + 1 : Nat) : Int) - -1).toNat = n + 2 := by omega
  have e2 : ((n : Int) - -1).toNat = n + 1 := by omega
  rw [e1, e2, List.range_succ, List.map_append]
  simp only [List.map_cons, List.map_nil, List.append_cancel_left_eq, List.cons.injEq, and_true]
  omega

theorem irange_m1_rev (n : Nat) : (irange (-1) (n : Int)).reverse = downToM1 n := by
  induction n with
  | zero => rfl
  | succ n ih => rw [irange_m1_succ, List.reverse_append, ih]; rfl

end RbV.Rs
