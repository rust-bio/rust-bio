import RbV.Basic.Slices
/-!
How the exact matchers are shown to list `occurrences p t` (core Lean only).

* `AscFrom P lo L`: `L` is the ascending list of all `s ≥ lo` with `P s` — what a left-to-right search standing at `lo` has still
  to report.
* Skip searches (Horspool, BNDM, BOM): at every window a `Verdict` says whether it is reported and how far the search may shift;
  a loop that follows verdicts lists the occurrences (`window_loop`).
* `Scan.scan`: the generic left-to-right scanner (ShiftAnd / KMP style): a state is advanced once per text symbol and a position
  `i + 1 - m` is reported whenever the state is accepting.  If the accepting states are exactly those reached after a text prefix
  that ends with the pattern, the scanner's output is `occurrences p t` (`scan_eq_occurrences`).
-/
namespace RbV

/-- `L` is the ascending list of all `s ≥ lo` with `P s`: what a search that stands at `lo` has still to report -/
structure AscFrom (P : Nat → Prop) (lo : Nat) (L : List Nat) : Prop where
  mem : ∀ s, s ∈ L ↔ lo ≤ s ∧ P s
  sorted : L.Pairwise (· < ·)

namespace AscFrom
variable {P : Nat → Prop} {a b : Nat} {L : List Nat}

theorem nil (h : ∀ s, a ≤ s → ¬ P s) : AscFrom P a [] :=
  ⟨fun s => ⟨fun hs => absurd hs List.not_mem_nil, fun hs => absurd hs.2 (h s hs.1)⟩, List.Pairwise.nil⟩

theorem skip (h : AscFrom P b L) (hab : a ≤ b) (hno : ∀ s, a ≤ s → s < b → ¬ P s) : AscFrom P a L where
  mem s := by
    rw [h.mem]
    exact ⟨fun hs => ⟨Nat.le_trans hab hs.1, hs.2⟩,
      fun hs => ⟨Nat.le_of_not_lt fun hlt => hno s hs.1 hlt hs.2, hs.2⟩⟩
  sorted := h.sorted

theorem cons (h : AscFrom P (a + 1) L) (ha : P a) : AscFrom P a (a :: L) where
  mem s := by
    rw [List.mem_cons, h.mem]
    constructor
    · rintro (rfl | ⟨h1, h2⟩)
      · exact ⟨Nat.le_refl _, ha⟩
      · exact ⟨Nat.le_of_succ_le h1, h2⟩
    · rintro ⟨h1, h2⟩
      rcases Nat.eq_or_lt_of_le h1 with e | e
      · exact Or.inl e.symm
      · exact Or.inr ⟨e, h2⟩
  sorted := List.pairwise_cons.mpr ⟨fun s hs => ((h.mem s).mp hs).1, h.sorted⟩

theorem unique {L' : List Nat} (h : AscFrom P a L) (h' : AscFrom P a L') : L = L' :=
  sorted_eq_of_mem_iff _ _ h.sorted h'.sorted fun s => by rw [h.mem, h'.mem]

theorem eq_nil (h : AscFrom P a L) (hno : ∀ s, a ≤ s → ¬ P s) : L = [] := h.unique (nil hno)

theorem nil_of_length {p t : List Nat} (h : t.length < a + p.length) : AscFrom (OccursAt p t) a [] :=
  nil fun s hs hocc => by have := hocc.1; omega

theorem eq_occurrences {p t : List Nat} (h : AscFrom (OccursAt p t) 0 L) : L = occurrences p t :=
  sorted_eq_of_mem_iff _ _ h.sorted (occurrences_sorted p t) fun s => by
    rw [h.mem, mem_occurrences]
    exact ⟨fun h => h.2, fun h => ⟨Nat.zero_le _, h⟩⟩

end AscFrom

section
variable {P : Nat → Prop} {a : Nat} {L : List Nat}

/-- what a skip search decides at the window that starts at `s`: `b` says whether `s` is reported, `d` is the shift -/
structure Verdict (P : Nat → Prop) (s : Nat) (b : Bool) (d : Nat) : Prop where
  pos : 0 < d
  rep : b = true ↔ P s
  skip : ∀ x, s < x → x < s + d → ¬ P x

theorem Verdict.step {b : Bool} {d : Nat} (v : Verdict P a b d) (h : AscFrom P (a + d) L) :
    AscFrom P a (if b then a :: L else L) := by
  have h1 : AscFrom P (a + 1) L := h.skip (Nat.add_le_add_left v.pos a) v.skip
  cases b with
  | true => exact h1.cons (v.rep.mp rfl)
  | false =>
    exact h1.skip (Nat.le_succ a) fun s hs hlt hP =>
      Bool.false_ne_true (v.rep.mpr (Nat.le_antisymm (Nat.le_of_lt_succ hlt) hs ▸ hP))

/-- the list from `a` in terms of the list from the next window, whatever computes them -/
theorem Verdict.eq_step {b : Bool} {d : Nat} {L' : List Nat} (v : Verdict P a b d) (h : AscFrom P a L)
    (h' : AscFrom P (a + d) L') : L = if b then a :: L' else L' :=
  h.unique (v.step h')

/-- **Skip search.** `R fuel s L`: the loop, started with `fuel` at the window that starts at `s`, returns `L`; `c` is the
offset to the position the loop carries (an occurrence at `s` needs `s + c < N`).  If the loop returns nothing beyond `N`, and
every round inside decides its window by a `Verdict` and hands over to the window `d` further on, then with enough fuel it
returns the ascending list of all `s' ≥ s` with `P s'`. -/
theorem window_loop {R : Nat → Nat → List Nat → Prop} {c N : Nat} (hP : ∀ s, P s → s + c < N)
    (hend : ∀ fuel s, N ≤ s + c → R fuel s [])
    (hround : ∀ fuel s, s + c < N → ∃ b d, Verdict P s b d ∧
      ∀ L, R fuel (s + d) L → R (fuel + 1) s (if b then s :: L else L)) :
    ∀ fuel s, N ≤ s + c + fuel → ∃ L, R fuel s L ∧ AscFrom P s L := by
  have hnil : ∀ fuel s, N ≤ s + c → ∃ L, R fuel s L ∧ AscFrom P s L := fun fuel s h =>
    ⟨[], hend fuel s h, AscFrom.nil fun x hx hPx =>
      Nat.not_le_of_lt (hP x hPx) (Nat.le_trans h (Nat.add_le_add_right hx c))⟩
  intro fuel
  induction fuel with
  | zero => exact fun s h => hnil 0 s h
  | succ fuel ih =>
    intro s hf
    rcases Nat.lt_or_ge (s + c) N with h | h
    · obtain ⟨b, d, v, hR⟩ := hround fuel s h
      obtain ⟨L, hL, hasc⟩ := ih (s + d) (by have := v.pos; omega)
      exact ⟨_, hR L hL, v.step hasc⟩
    · exact hnil _ s h

/-- `window_loop` for a loop that is a total function `F fuel s` -/
theorem window_loop_fun {F : Nat → Nat → List Nat} {c N : Nat} (hP : ∀ s, P s → s + c < N)
    (hend : ∀ fuel s, N ≤ s + c → F fuel s = [])
    (hround : ∀ fuel s, s + c < N → ∃ b d, Verdict P s b d ∧
      F (fuel + 1) s = if b then s :: F fuel (s + d) else F fuel (s + d))
    (fuel s : Nat) (hf : N ≤ s + c + fuel) : AscFrom P s (F fuel s) :=
  (window_loop (R := fun fuel s L => F fuel s = L) hP hend
    (fun fuel s h => let ⟨b, d, v, he⟩ := hround fuel s h; ⟨b, d, v, fun _ hL => hL ▸ he⟩) fuel s hf).elim
    fun _ h => h.1 ▸ h.2

end

end RbV

namespace RbV.Scan

def scan {σ : Type} (step : σ → Nat → σ) (acc : σ → Bool) (m : Nat) : List Nat → Nat → σ → List Nat
  | [], _, _ => []
  | c :: t, i, s =>
    let s' := step s c
    if acc s' then (i + 1 - m) :: scan step acc m t (i + 1) s' else scan step acc m t (i + 1) s'

/-- the processed text `pre` ends with `p`: an occurrence of `p` ends where `pre` ends, whatever text follows -/
theorem suffix_iff_occursAt (p pre rest : List Nat) :
    p <:+ pre ↔ p.length ≤ pre.length ∧ OccursAt p (pre ++ rest) (pre.length - p.length) :=
  Iff.trans ⟨fun h => ⟨h.length_le, (List.suffix_iff_eq_drop.mp h).symm⟩, fun h => List.suffix_iff_eq_drop.mpr h.2.symm⟩
    (and_congr_right fun h => by
      rw [occursAt_append_text_iff p pre rest _ (by omega), occursAt_end_iff p pre h])

section
variable {σ : Type} (step : σ → Nat → σ) (acc : σ → Bool) (p : List Nat) (Inv : List Nat → σ → Prop)
variable (hstep : ∀ pre s c, Inv pre s → Inv (pre ++ [c]) (step s c))
variable (hacc : ∀ pre s, Inv pre s → (acc s = true ↔ p <:+ pre))
include hstep hacc

theorem scan_ascFrom : ∀ (rest pre : List Nat) (st : σ), Inv pre st →
    AscFrom (OccursAt p (pre ++ rest)) (pre.length + 1 - p.length)
      (scan step acc p.length rest pre.length st) := by
  intro rest
  induction rest with
  | nil =>
    intro pre st _
    rw [scan, List.append_nil]
    exact AscFrom.nil_of_length (Nat.le_add_of_sub_le (Nat.le_refl _))
  | cons c rest ih =>
    intro pre st hinv
    have hinv' := hstep pre st c hinv
    have ih' := ih (pre ++ [c]) _ hinv'
    have hacc' := (hacc (pre ++ [c]) _ hinv').trans (suffix_iff_occursAt p (pre ++ [c]) rest)
    rw [List.append_assoc, List.length_append, List.length_singleton] at ih' hacc'
    rw [scan]
    split
    · rename_i h
      obtain ⟨hle, hocc⟩ := hacc'.mp h
      rw [Nat.succ_sub hle] at ih'
      exact ih'.cons hocc
    · rename_i h
      refine ih'.skip (Nat.sub_le_sub_right (Nat.le_succ _) _) fun s h1 h2 hocc => ?_
      have hle : p.length ≤ pre.length + 1 := Nat.le_of_lt_succ (Nat.lt_of_sub_pos (Nat.zero_lt_of_lt h2))
      rw [Nat.succ_sub hle] at h2
      rw [← Nat.le_antisymm h1 (Nat.le_of_lt_succ h2)] at hocc
      exact h (hacc'.mpr ⟨hle, hocc⟩)

/-- a scanner whose accepting states are exactly "the processed text ends with `p`" lists exactly the occurrences -/
theorem scan_eq_occurrences (hp : 0 < p.length) (s0 : σ) (h0 : Inv [] s0) (t : List Nat) :
    scan step acc p.length t 0 s0 = occurrences p t := by
  have h := scan_ascFrom step acc p Inv hstep hacc t [] s0 h0
  rw [List.length_nil, Nat.sub_eq_zero_of_le hp] at h
  exact h.eq_occurrences

end
end RbV.Scan
