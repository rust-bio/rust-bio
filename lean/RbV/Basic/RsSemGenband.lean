import RbV.Basic.RsSem
import RbV.Basic.RsSemInt
import RbV.Basic.RsSemBits
import RbV.Basic.RsSemGensparse
import RbV.Basic.RsSemGenalign
/-!
Semantics of the part of the Rust subset added by `tools/rs2lean_genband.py` (dialect "band": the band construction and the
glue of `alignment/pairwise/banded.rs`; docs/notes/GEN.md, "Dialect band").  Hand-written, core Lean, trusted like `RsSem.lean`.

* `match a.cmp(&b) { Ordering::Greater => g, Ordering::Less => l, Ordering::Equal => e }` on unsigned integers with pure arms
  is `cmp3 a b g l e` (the translator puts the arms into this order whatever their order in the text).
* everything else the dialect emits is defined in `RsSem.lean` (`Rs.idx`, `Rs.setIdx`, checked `add`/`sub`/`mul`/`div`,
  `Rs.cast`, `Rs.assert`, `Rs.expect`), `RsSemInt.lean` (`Rs.iadd`, `Rs.imul`), `RsSemBits.lean` (`Rs.resize`), `RsSemGensparse.lean`
  (`Rs.satSub`, `Rs.castUnsigned`), `RsSemGenalign.lean` (`Rs.AlignmentOperation`, `Rs.AlignmentMode`: the trusted
  reading of the two enums of the external crate bio-types, shared with dialect "align").
-/
namespace RbV.Rs

/-- `match a.cmp(&b) { Greater => gt, Less => lt, Equal => eq }` -/
def cmp3 {α : Type} (a b : Nat) (gt lt eq : α) : α := if a > b then gt else if a < b then lt else eq

theorem cmp3_gt {α : Type} {a b : Nat} (h : a > b) (g l e : α) : cmp3 a b g l e = g := by simp [cmp3, h]
theorem cmp3_lt {α : Type} {a b : Nat} (h : a < b) (g l e : α) : cmp3 a b g l e = l := by
  rw [cmp3, if_neg (Nat.lt_asymm h), if_pos h]
theorem cmp3_eq {α : Type} (a : Nat) (g l e : α) : cmp3 a a g l e = e := by simp [cmp3]

end RbV.Rs
