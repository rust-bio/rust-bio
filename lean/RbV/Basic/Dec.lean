/-! Exact decimal literals for the source-extracted constants (`RbV/Gen/*.lean`, DESIGN §8).  Core Lean only.

A Rust literal such as `-4.342_944_819_032_517_5` is kept as mantissa and scale: `⟨-43429448190325175, 16⟩`
stands for the rational `-43429448190325175 / 10^16`.  The proof side casts `mant` and `10^scale` into `ℚ`/`ℝ` (`decQ`, `decR` in `RbV/Lemmas/C15Gen.lean`); the driver
uses `toFloat`, which is exactly what the Lean literal with the same digits elaborates to
(`OfScientific.ofScientific mantissa true scale`). -/
namespace RbV

structure Dec where
  /-- signed mantissa -/
  mant : Int
  /-- number of decimal places -/
  scale : Nat
  deriving Repr, DecidableEq

namespace Dec

/-- numerator of the value `mant / 10^scale` -/
def num (d : Dec) : Int := d.mant

/-- denominator of the value `mant / 10^scale` -/
def den (d : Dec) : Nat := 10 ^ d.scale

/-- the `f64` a Lean (and a Rust) literal with these digits denotes -/
def toFloat (d : Dec) : Float :=
  let a := Float.ofScientific d.mant.natAbs true d.scale
  if d.mant < 0 then -a else a

end Dec
end RbV
