/-
An array `sa` that lists every position `0 … n-1` once: rows ↔ positions.  `sa.idxOf p` is the row (rank) of position `p`.
Imports nothing, so that `Ref/SortedSA.lean` and `Model/LFMapping.lean` can both use it (for why it is not a section of
`Ref/BWT.lean`, see the head of `Model/LFMapping.lean`).
-/
namespace RbV

namespace PermPos
variable {sa : List Nat} {n : Nat} (hp : sa.Perm (List.range n))
include hp

theorem length : sa.length = n := by simpa using hp.length_eq

theorem nodup : sa.Nodup := hp.nodup_iff.mpr List.nodup_range

theorem mem_lt (p : Nat) (h : p ∈ sa) : p < n := by simpa using hp.mem_iff.mp h

theorem getD_lt (r : Nat) (hr : r < sa.length) : sa.getD r 0 < n := by
  rw [List.getD_eq_getElem?_getD, List.getElem?_eq_getElem hr]
  exact mem_lt hp _ (List.getElem_mem hr)

theorem rank_lt (p : Nat) (h : p < n) : sa.idxOf p < sa.length :=
  List.idxOf_lt_length_iff.mpr (hp.mem_iff.mpr (List.mem_range.mpr h))

theorem getD_rank (p : Nat) (h : p < n) : sa.getD (sa.idxOf p) 0 = p := by
  have hl := rank_lt hp p h
  rw [List.getD_eq_getElem?_getD, List.getElem?_eq_getElem hl]
  exact congrArg some (List.getElem_idxOf hl) ▸ rfl

theorem rank_getD (r : Nat) (hr : r < sa.length) : sa.idxOf (sa.getD r 0) = r := by
  rw [List.getD_eq_getElem?_getD, List.getElem?_eq_getElem hr]
  exact (nodup hp).idxOf_getElem r hr

end PermPos

end RbV
