import RbV.Gen.Complement
/-!
# Complement tables (C20)

`RbV.Gen.Complement.dna/rna` are the 256-entry tables dumped from the running Rust code
(`bio::alphabets::{dna,rna}::complement`).  This file gives the model of `complement`/`revcomp` on top of a
table and the table facts (checked by `decide` over all 256 entries) lifted to statements for *all* symbols
and *all* sequences.
-/
namespace RbV.Compl

/-- `complement(b)`: table look-up; bytes are `< 256`, outside the table nothing changes -/
def comp (tbl : List Nat) (b : Nat) : Nat := tbl.getD b b

/-- `revcomp(text)`: reverse, then complement every symbol -/
def revcomp (tbl : List Nat) (s : List Nat) : List Nat := s.reverse.map (comp tbl)

def isUpper (b : Nat) : Bool := decide (65 ≤ b) && decide (b ≤ 90)
def isLower (b : Nat) : Bool := decide (97 ≤ b) && decide (b ≤ 122)

/-- upper- and lower-case ASCII codes of the letters `upper` -/
def bothCases (upper : List Nat) : List Nat := upper ++ upper.map (· + 32)

/-- IUPAC nucleotide codes of DNA: ACGT RYSWKM BDHV N (both cases) -/
def dnaCodes : List Nat := bothCases [65, 67, 71, 84, 82, 89, 83, 87, 75, 77, 66, 68, 72, 86, 78]
/-- IUPAC nucleotide codes of RNA: ACGU RYSWKM BDHV N (both cases) -/
def rnaCodes : List Nat := bothCases [65, 67, 71, 85, 82, 89, 83, 87, 75, 77, 66, 68, 72, 86, 78]

/-! ## Boolean table checks (decided in `Thm/C20.lean`) -/

def tblInvolutive (tbl : List Nat) : Bool :=
  (List.range 256).all fun b => comp tbl (comp tbl b) == b

def tblInRange (tbl : List Nat) : Bool :=
  tbl.length == 256 && tbl.all (fun v => decide (v < 256))

def tblCase (tbl : List Nat) : Bool :=
  (List.range 256).all fun b =>
    (!isUpper b || (isUpper (comp tbl b) && comp tbl (b + 32) == comp tbl b + 32)) &&
    (!isLower b || isLower (comp tbl b))

def tblIdOutside (tbl codes : List Nat) : Bool :=
  (List.range 256).all fun b => codes.contains b || comp tbl b == b

theorem all_range {p : Nat → Bool} {n : Nat} (h : (List.range n).all p = true) {b : Nat} (hb : b < n) :
    p b = true :=
  List.all_eq_true.mp h b (List.mem_range.mpr hb)

variable {tbl : List Nat}

theorem length_of_inRange (hr : tblInRange tbl = true) : tbl.length = 256 :=
  beq_iff_eq.mp (Bool.and_eq_true_iff.mp hr).1

theorem comp_of_lt {b : Nat} (hb : b < tbl.length) : comp tbl b = tbl[b] := by
  unfold comp
  rw [List.getD_eq_getElem?_getD, List.getElem?_eq_getElem hb]
  rfl

theorem comp_of_ge (hl : tbl.length = 256) {b : Nat} (hb : 256 ≤ b) : comp tbl b = b := by
  unfold comp
  rw [List.getD_eq_getElem?_getD, List.getElem?_eq_none (by omega)]
  rfl

theorem comp_lt {tbl : List Nat} (hr : tblInRange tbl = true) {b : Nat} (hb : b < 256) : comp tbl b < 256 := by
  have hb' : b < tbl.length := by rw [length_of_inRange hr]; exact hb
  rw [comp_of_lt hb']
  exact of_decide_eq_true (List.all_eq_true.mp (Bool.and_eq_true_iff.mp hr).2 _ (List.getElem_mem hb'))

/-! ## The table checks in one pass

Evaluated as written, a check `(List.range 256).all fun b => … comp tbl b …` walks the list from its head for each of
the 256 look-ups.  Reading the entries off in one pass over the table, each with its index, gives the same answer. -/

theorem all_range_of_pass {n : Nat} (hl : tbl.length = n) {p : Nat → Bool} (q : Nat → Nat → Bool)
    (hq : ∀ b, q b (comp tbl b) = true → p b = true) (h : tbl.zipIdx.all (fun vb => q vb.2 vb.1) = true) :
    (List.range n).all p = true := by
  rw [List.all_eq_true]
  intro b hb
  have hb' : b < tbl.length := hl ▸ List.mem_range.mp hb
  refine hq b ?_
  rw [comp_of_lt hb']
  exact List.all_eq_true.mp h (tbl[b], b) (List.mem_zipIdx_iff_getElem?.mpr (List.getElem?_eq_getElem hb'))

theorem comp_of_mem_zipIdx {b v : Nat} (h : (b, v) ∈ tbl.zipIdx) : comp tbl v = b := by
  unfold comp
  rw [List.getD_eq_getElem?_getD, List.mem_zipIdx_iff_getElem?.mp h]
  rfl

/-- where the table is not the identity, entry `v` at index `b` must be met by entry `b` at index `v`: no second look-up,
the few such entries are searched instead -/
theorem tblInvolutive_of_pass (hr : tblInRange tbl = true)
    (h : tbl.zipIdx.all (fun vb =>
      vb.1 == vb.2 || (tbl.zipIdx.filter fun (x : Nat × Nat) => x.1 != x.2).contains (vb.2, vb.1)) = true) :
    tblInvolutive tbl = true := by
  refine all_range_of_pass (length_of_inRange hr)
    (fun b v => v == b || (tbl.zipIdx.filter fun (x : Nat × Nat) => x.1 != x.2).contains (b, v)) (fun b hb => ?_) h
  rcases Bool.or_eq_true_iff.mp hb with e | e
  · rw [beq_iff_eq.mp e]; exact e
  · exact beq_iff_eq.mpr (comp_of_mem_zipIdx (List.mem_filter.mp (List.contains_iff_mem.mp e)).1)

/-- entry `b + 32` is read off the table shifted by 32, in the same pass; from 224 on there are no letters -/
theorem tblCase_of_pass (hr : tblInRange tbl = true)
    (h : (tbl.zip (tbl.drop 32)).zipIdx.all (fun x =>
      (!isUpper x.2 || (isUpper x.1.1 && x.1.2 == x.1.1 + 32)) && (!isLower x.2 || isLower x.1.1)) = true) :
    tblCase tbl = true := by
  have hl := length_of_inRange hr
  unfold tblCase
  rw [List.all_eq_true]
  intro b hb
  have hb' : b < 256 := List.mem_range.mp hb
  by_cases h224 : b < 224
  · have h1 : b < tbl.length := by omega
    have h2 : b + 32 < tbl.length := by omega
    have hz : b < (tbl.zip (tbl.drop 32)).length := by rw [List.length_zip, List.length_drop]; omega
    have := List.all_eq_true.mp h ((tbl.zip (tbl.drop 32))[b], b)
      (List.mem_zipIdx_iff_getElem?.mpr (List.getElem?_eq_getElem hz))
    rw [comp_of_lt h1, comp_of_lt h2]
    simpa only [List.getElem_zip, List.getElem_drop, Nat.add_comm 32 b] using this
  · have hu : isUpper b = false := by unfold isUpper; rw [decide_eq_false (by omega : ¬ b ≤ 90), Bool.and_false]
    have hlo : isLower b = false := by unfold isLower; rw [decide_eq_false (by omega : ¬ b ≤ 122), Bool.and_false]
    rw [hu, hlo]; rfl

/-- membership in `codes` is looked at only where the table is not the identity -/
theorem tblIdOutside_of_pass {codes : List Nat} (hr : tblInRange tbl = true)
    (h : tbl.zipIdx.all (fun vb => vb.1 == vb.2 || codes.contains vb.2) = true) : tblIdOutside tbl codes = true :=
  all_range_of_pass (length_of_inRange hr) (fun b v => v == b || codes.contains b) (fun _ hb => Bool.or_comm _ _ ▸ hb) h

/-! ## What the checks give: statements for all symbols and all sequences -/

theorem comp_comp (hr : tblInRange tbl = true) (hi : tblInvolutive tbl = true) (b : Nat) :
    comp tbl (comp tbl b) = b := by
  by_cases hb : b < 256
  · exact beq_iff_eq.mp (all_range hi hb)
  · have h1 : comp tbl b = b := comp_of_ge (length_of_inRange hr) (by omega)
    rw [h1, h1]

theorem revcomp_revcomp (hr : tblInRange tbl = true) (hi : tblInvolutive tbl = true)
    (s : List Nat) : revcomp tbl (revcomp tbl s) = s := by
  unfold revcomp
  rw [← List.map_reverse, List.reverse_reverse, List.map_map]
  have : (comp tbl ∘ comp tbl) = id := funext (comp_comp hr hi)
  rw [this, List.map_id]

theorem revcomp_length (tbl s : List Nat) : (revcomp tbl s).length = s.length := by
  simp [revcomp]

end RbV.Compl
