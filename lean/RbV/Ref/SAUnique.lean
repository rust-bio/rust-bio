import RbV.Ref.SA
/-
Uniqueness of the sorted suffix permutation (C03): under a fixed key text there is exactly one array that is a
permutation of all positions in increasing suffix order.  Hence `suffix_array_int` is *determined* by the property,
and so is `suffix_array` once the order of the sentinel occurrences is fixed.
-/
namespace RbV

theorem suffixSorted_unique (ks sa sa' : List Nat) (h : SuffixSorted ks sa) (h' : SuffixSorted ks sa') :
    sa = sa' :=
  List.Perm.eq_of_pairwise (fun _ _ _ _ hab hba => absurd hba (lexLt_asymm hab)) h.2 h'.2 (h.1.trans h'.1.symm)

end RbV
