import RbV.Spec.FMIndex
/-!
# Acceptance function of C05 and its lemmas

`checkBS t sa p res` decides `BSProp t sa p res` (theorem `checkBS_iff`, stated in `RbV/Thm/C05.lean`).
-/
namespace RbV

def occursB (p t : List Nat) : Bool := !(occurrences p t).isEmpty

theorem occursB_iff (p t : List Nat) : occursB p t = true ↔ Occurs p t := by
  unfold occursB Occurs
  constructor
  · intro h
    cases hl : occurrences p t with
    | nil => simp [hl] at h
    | cons a l => exact ⟨a, (mem_occurrences p t a).mp (by simp [hl])⟩
  · rintro ⟨i, hi⟩
    have := (mem_occurrences p t i).mpr hi
    cases hl : occurrences p t with
    | nil => simp [hl] at this
    | cons a l => simp

theorem occurs_iff_length_pos (w T : List Nat) : Occurs w T ↔ (occurrences w T).length ≠ 0 := by
  rw [← occursB_iff, occursB]
  cases occurrences w T <;> simp

theorem occursB_false_iff (p t : List Nat) : occursB p t = false ↔ ¬ Occurs p t := by
  rw [← occursB_iff]; simp

theorem occurs_nil (t : List Nat) : Occurs [] t := ⟨0, by simp [OccursAt]⟩

theorem occurs_iff_infix (p t : List Nat) : Occurs p t ↔ p <:+: t := by
  constructor
  · rintro ⟨i, _, h2⟩
    refine ⟨t.take i, (t.drop i).drop p.length, ?_⟩
    have h := List.take_append_drop p.length (t.drop i)
    rw [h2] at h
    rw [List.append_assoc, h, List.take_append_drop]
  · rintro ⟨s, r, rfl⟩
    refine ⟨s.length, ?_, ?_⟩
    · simp only [List.length_append]; omega
    · rw [List.append_assoc, List.drop_left, List.take_left]

theorem occurs_of_infix {q p : List Nat} (t : List Nat) (h : q <:+: p) : Occurs p t → Occurs q t :=
  fun ho => (occurs_iff_infix q t).mpr (h.trans ((occurs_iff_infix p t).mp ho))

theorem occurs_drop (p t : List Nat) (k : Nat) : Occurs p t → Occurs (p.drop k) t :=
  occurs_of_infix t (List.drop_suffix k p).isInfix

theorem occurs_suffix_mono (p t : List Nat) (l l' : Nat) (h : l ≤ l') :
    Occurs (suffix p l') t → Occurs (suffix p l) t := by
  intro ho
  unfold suffix at *
  have : p.drop (p.length - l) = (p.drop (p.length - l')).drop ((p.length - l) - (p.length - l')) := by
    rw [List.drop_drop, Nat.add_sub_cancel' (Nat.sub_le_sub_left h p.length)]
  rw [this]
  exact occurs_drop _ _ _ ho

theorem suffix_zero (p : List Nat) : suffix p 0 = [] := by simp [suffix]

theorem suffix_length (p : List Nat) : suffix p p.length = p := by simp [suffix]

def sameSet (a b : List Nat) : Bool := a.all (fun x => b.contains x) && b.all (fun x => a.contains x)

theorem sameSet_iff (a b : List Nat) : sameSet a b = true ↔ ∀ i, i ∈ a ↔ i ∈ b := by
  simp only [sameSet, Bool.and_eq_true, List.all_eq_true, List.contains_iff_mem]
  constructor
  · rintro ⟨h1, h2⟩ i; exact ⟨h1 i, h2 i⟩
  · intro h; exact ⟨fun i hi => (h i).mp hi, fun i hi => (h i).mpr hi⟩

def mapsToB (sa : List Nat) (lo hi : Nat) (p t : List Nat) : Bool :=
  decide (lo ≤ hi) && decide (hi ≤ sa.length) && sameSet (ivMap sa lo hi) (occurrences p t)

theorem mapsToB_iff (sa : List Nat) (lo hi : Nat) (p t : List Nat) :
    mapsToB sa lo hi p t = true ↔ MapsTo sa lo hi p t := by
  simp only [mapsToB, MapsTo, Bool.and_eq_true, decide_eq_true_eq, sameSet_iff, mem_occurrences, and_assoc]

/-- the largest `l ≤ n` such that the suffix of length `l` of `p` occurs in `t` (0 if none does) -/
def longestSuf (p t : List Nat) : Nat → Nat
  | 0 => 0
  | l + 1 => if occursB (suffix p (l + 1)) t then l + 1 else longestSuf p t l

theorem longestSuf_le (p t : List Nat) (n : Nat) : longestSuf p t n ≤ n := by
  induction n with
  | zero => simp [longestSuf]
  | succ n ih => simp only [longestSuf]; split <;> omega

theorem longestSuf_occurs (p t : List Nat) (n : Nat) : Occurs (suffix p (longestSuf p t n)) t := by
  induction n with
  | zero => simp only [longestSuf, suffix_zero]; exact occurs_nil t
  | succ n ih =>
    simp only [longestSuf]
    split
    · rename_i h; exact (occursB_iff _ _).mp h
    · exact ih

theorem longestSuf_max (p t : List Nat) (n l' : Nat) :
    longestSuf p t n < l' → l' ≤ n → ¬ Occurs (suffix p l') t := by
  induction n with
  | zero => intro h1 h2; omega
  | succ n ih =>
    simp only [longestSuf]
    split
    · intro h1 h2; omega
    · rename_i h
      intro h1 h2
      by_cases hl : l' = n + 1
      · subst hl; rw [← occursB_iff]; exact h
      · exact ih h1 (by omega)

theorem longestSuf_spec (p t : List Nat) : IsLongestSuf p t (longestSuf p t p.length) :=
  ⟨longestSuf_le p t _, longestSuf_occurs p t _, fun l' h1 h2 => longestSuf_max p t _ l' h1 h2⟩

theorem isLongestSuf_unique (p t : List Nat) (l₁ l₂ : Nat) :
    IsLongestSuf p t l₁ → IsLongestSuf p t l₂ → l₁ = l₂ := by
  rintro ⟨a1, a2, a3⟩ ⟨b1, b2, b3⟩
  by_cases h : l₁ < l₂
  · exact absurd b2 (a3 l₂ h b1)
  · by_cases h' : l₂ < l₁
    · exact absurd a2 (b3 l₁ h' a1)
    · omega

theorem isLongestSuf_iff (p t : List Nat) (l : Nat) :
    IsLongestSuf p t l ↔ longestSuf p t p.length = l :=
  ⟨fun h => isLongestSuf_unique p t _ _ (longestSuf_spec p t) h, fun h => h ▸ longestSuf_spec p t⟩

theorem longestSuf_full_iff (p t : List Nat) : longestSuf p t p.length = p.length ↔ Occurs p t := by
  rw [← isLongestSuf_iff]
  exact ⟨fun h => suffix_length p ▸ h.2.1,
    fun h => ⟨Nat.le_refl _, (suffix_length p).symm ▸ h, fun _ h1 h2 => absurd h2 (Nat.not_le_of_lt h1)⟩⟩

theorem longestSuf_zero_iff (p t : List Nat) (hp : p ≠ []) :
    longestSuf p t p.length = 0 ↔ ¬ Occurs (suffix p 1) t := by
  rw [← isLongestSuf_iff]
  exact ⟨fun h => h.2.2 1 Nat.one_pos (List.length_pos_iff.mpr hp),
    fun h => ⟨Nat.zero_le _, suffix_zero p ▸ occurs_nil t, fun l' h1 _ ho => h (occurs_suffix_mono p t 1 l' h1 ho)⟩⟩

theorem row_of_mem_ivMap (sa : List Nat) (lo hi i : Nat) (h : i ∈ ivMap sa lo hi) :
    ∃ r, lo ≤ r ∧ r < hi ∧ sa.getD r 0 = i := by
  unfold ivMap at h
  obtain ⟨n, hn, he⟩ := List.mem_iff_getElem.mp h
  rw [List.length_take, List.length_drop] at hn
  obtain ⟨hn1, hn2⟩ := Nat.lt_min.mp hn
  simp only [List.getElem_take, List.getElem_drop] at he
  have hlt : lo + n < sa.length := Nat.add_lt_of_lt_sub' hn2
  refine ⟨lo + n, Nat.le_add_right _ _, Nat.add_lt_of_lt_sub' hn1, ?_⟩
  rw [List.getD_eq_getElem?_getD, List.getElem?_eq_getElem hlt]
  exact he

theorem mem_ivMap_of_row (sa : List Nat) (lo hi r : Nat) (h1 : lo ≤ r) (h2 : r < hi) (h3 : r < sa.length) :
    sa.getD r 0 ∈ ivMap sa lo hi := by
  unfold ivMap
  apply List.mem_iff_getElem.mpr
  refine ⟨r - lo, ?_, ?_⟩
  · rw [List.length_take, List.length_drop]
    exact Nat.lt_min.mpr ⟨Nat.sub_lt_sub_right h1 h2, Nat.sub_lt_sub_right h1 h3⟩
  · simp only [List.getElem_take, List.getElem_drop, Nat.add_sub_cancel' h1, List.getD_eq_getElem?_getD,
      List.getElem?_eq_getElem h3, Option.getD_some]

theorem mem_ivMap_iff (sa : List Nat) (lo hi i : Nat) (h : hi ≤ sa.length) :
    i ∈ ivMap sa lo hi ↔ ∃ r, lo ≤ r ∧ r < hi ∧ sa.getD r 0 = i :=
  ⟨row_of_mem_ivMap sa lo hi i,
    fun ⟨r, h1, h2, h3⟩ => h3 ▸ mem_ivMap_of_row sa lo hi r h1 h2 (Nat.lt_of_lt_of_le h2 h)⟩

/-- the rows `lo … hi-1` read one by one are `ivMap` -/
theorem map_range'_getD (sa : List Nat) (lo hi : Nat) (h : hi ≤ sa.length) :
    (List.range' lo (hi - lo)).map (fun i => sa.getD i 0) = ivMap sa lo hi := by
  unfold ivMap
  apply List.ext_getElem
  · rw [List.length_map, List.length_range', List.length_take, List.length_drop,
      Nat.min_eq_left (Nat.sub_le_sub_right h lo)]
  · intro i h1 h2
    simp only [List.length_map, List.length_range'] at h1
    simp only [List.getElem_map, List.getElem_range', Nat.one_mul, List.getElem_take, List.getElem_drop]
    rw [List.getD_eq_getElem?_getD, List.getElem?_eq_getElem (Nat.lt_of_lt_of_le (Nat.add_lt_of_lt_sub' h1) h),
      Option.getD_some]

def checkBS (t sa p : List Nat) : BSRes → Bool
  | .complete lo hi => longestSuf p t p.length == p.length && mapsToB sa lo hi p t
  | .part lo hi l =>
      let m := longestSuf p t p.length
      decide (0 < m) && decide (m < p.length) && l == m && mapsToB sa lo hi (suffix p l) t
  | .absent => longestSuf p t p.length == 0

end RbV
