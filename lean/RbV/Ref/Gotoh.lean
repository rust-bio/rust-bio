import RbV.Spec.Align
/-
Reference optimum for affine-gap alignment with clipped ends (C01, C02).

* `best sc st x y`   — recursive optimum over all operation lists aligning exactly `x` with `y`
                       (`best_upper`, `best_attained`: it is the maximum of `score`).
* `rows sc x y`      — the efficient table: one row per suffix of `y`, one triple
                       `(best .none, best .ins, best .del)` per suffix of `x`  (`rows_eq_spec`, restated as `table_eq_best` in `Thm/C01.lean`).
* `opt sc cl x y`    — maximum over all sub-range pairs of `best` + clip penalties, evaluated with
                       one table per pair of prefixes (O(m²n²) cell updates) (`opt_optimal`).
* `accept`, `acceptValid` — what the drivers of C01 / C02 evaluate on every reported alignment (`accept_iff`, `acceptValid_iff`:
                       the Boolean is the property; `valid_le_opt`).
-/
namespace RbV.Align

def best (sc : Sc) : St → List Nat → List Nat → Int
  | _, [], [] => 0
  | st, _ :: x, [] => gapI sc st + best sc .ins x []
  | st, [], _ :: y => gapD sc st + best sc .del [] y
  | st, a :: x, b :: y =>
      max (sc.w a b + best sc .none x y)
        (max (gapI sc st + best sc .ins x (b :: y)) (gapD sc st + best sc .del (a :: x) y))
termination_by _ x y => x.length + y.length

theorem best_upper (sc : Sc) : ∀ (ops : List Op) (st : St) (x y : List Nat) (v : Int),
    score sc st x y ops = some v → v ≤ best sc st x y := by
  intro ops
  induction ops with
  | nil =>
    intro st x y v h
    cases x <;> cases y <;> simp [score] at h
    subst h; simp [best]
  | cons o r ih =>
    intro st x y v h
    cases o with
    | mat | sub =>
      obtain ⟨a, x, b, y, u, rfl, rfl, h', rfl, _⟩ := score_diag_cons (by simp) h
      have := ih .none x y u h'
      rw [best]; omega
    | ins =>
      obtain ⟨a, x, u, rfl, h', rfl⟩ := score_ins_cons h
      have := ih .ins x y u h'
      cases y <;> (rw [best]; omega)
    | del =>
      obtain ⟨b, y, u, rfl, h', rfl⟩ := score_del_cons h
      have := ih .del x y u h'
      cases x <;> (rw [best]; omega)

theorem best_attained (sc : Sc) : ∀ (st : St) (x y : List Nat),
    ∃ ops, score sc st x y ops = some (best sc st x y) := by
  intro st x y
  fun_induction best sc st x y with
  | case1 st => exact ⟨[], rfl⟩
  | case2 st a x ih =>
    obtain ⟨r, hr⟩ := ih
    exact ⟨.ins :: r, by simp only [score, hr, Option.map_some, Int.add_comm]⟩
  | case3 st b y ih =>
    obtain ⟨r, hr⟩ := ih
    exact ⟨.del :: r, by simp only [score, hr, Option.map_some, Int.add_comm]⟩
  | case4 st a x b y ih1 ih2 ih3 =>
    obtain ⟨r1, h1⟩ := ih1
    obtain ⟨r2, h2⟩ := ih2
    obtain ⟨r3, h3⟩ := ih3
    by_cases hm : max (gapI sc st + best sc .ins x (b :: y)) (gapD sc st + best sc .del (a :: x) y) ≤ sc.w a b + best sc .none x y
    · rw [Int.max_eq_left hm]
      by_cases hab : a = b
      · exact ⟨.mat :: r1, by simp only [score, hab, if_true, h1, Option.map_some, Int.add_comm]⟩
      · exact ⟨.sub :: r1, by simp only [score, ne_eq, hab, not_false_eq_true, if_true, h1, Option.map_some, Int.add_comm]⟩
    · rw [Int.max_eq_right (Int.le_of_lt (Int.not_le.mp hm))]
      by_cases hi : gapD sc st + best sc .del (a :: x) y ≤ gapI sc st + best sc .ins x (b :: y)
      · rw [Int.max_eq_left hi]
        exact ⟨.ins :: r2, by simp only [score, h2, Option.map_some, Int.add_comm]⟩
      · rw [Int.max_eq_right (Int.le_of_lt (Int.not_le.mp hi))]
        exact ⟨.del :: r3, by simp only [score, h3, Option.map_some, Int.add_comm]⟩

/-! ### The table -/

/-- `(best .none, best .ins, best .del)` -/
abbrev T := Int × Int × Int

def tri (sc : Sc) (x y : List Nat) : T := (best sc .none x y, best sc .ins x y, best sc .del x y)

def hd (r : List T) : T := r.headD (0, 0, 0)

/-- what the table has to contain: the triple of every suffix of `x` (longest first) against `y` -/
def specRow (sc : Sc) : List Nat → List Nat → List T
  | [], y => [tri sc [] y]
  | a :: x, y => tri sc (a :: x) y :: specRow sc x y

/-- … and one such row for every suffix of `y` (longest first) -/
def specRows (sc : Sc) (x : List Nat) : List Nat → List (List T)
  | [] => [specRow sc x []]
  | b :: y => specRow sc x (b :: y) :: specRows sc x y

/-- row for `y = []` -/
def rowNil (sc : Sc) : List Nat → List T
  | [] => [(0, 0, 0)]
  | _ :: x =>
    let r := rowNil sc x
    let i := (hd r).2.1
    (sc.go + sc.ge + i, sc.ge + i, sc.go + sc.ge + i) :: r

/-- row for `b :: y` from the row `p` for `y` -/
def nextRow (sc : Sc) (b : Nat) : List Nat → List T → List T
  | [], p =>
    let d := (hd p).2.2
    [(sc.go + sc.ge + d, sc.go + sc.ge + d, sc.ge + d)]
  | a :: x, p =>
    let r := nextRow sc b x p.tail
    let n1 := (hd p.tail).1       -- best .none x y
    let i2 := (hd r).2.1          -- best .ins x (b :: y)
    let d3 := (hd p).2.2          -- best .del (a :: x) y
    let m := sc.w a b + n1
    (max m (max (sc.go + sc.ge + i2) (sc.go + sc.ge + d3)),
     max m (max (sc.ge + i2) (sc.go + sc.ge + d3)),
     max m (max (sc.go + sc.ge + i2) (sc.ge + d3))) :: r

def rows (sc : Sc) (x : List Nat) : List Nat → List (List T)
  | [] => [rowNil sc x]
  | b :: y =>
    let rs := rows sc x y
    nextRow sc b x (rs.headD []) :: rs

theorem hd_specRow (sc : Sc) (x y : List Nat) : hd (specRow sc x y) = tri sc x y := by
  cases x <;> simp [specRow, hd]

theorem tail_specRow_cons (sc : Sc) (a : Nat) (x y : List Nat) :
    (specRow sc (a :: x) y).tail = specRow sc x y := by
  simp [specRow]

theorem rowNil_eq (sc : Sc) (x : List Nat) : rowNil sc x = specRow sc x [] := by
  induction x with
  | nil => simp [rowNil, specRow, tri, best]
  | cons a x ih =>
    simp only [rowNil, specRow, ih, hd_specRow]
    simp [tri, best, gapI]

theorem nextRow_eq (sc : Sc) (b : Nat) (x y : List Nat) :
    nextRow sc b x (specRow sc x y) = specRow sc x (b :: y) := by
  induction x with
  | nil =>
    simp [nextRow, specRow, hd, tri, best, gapD]
  | cons a x ih =>
    simp only [nextRow, tail_specRow_cons, ih, hd_specRow]
    simp only [specRow]
    congr 1
    simp only [tri]
    rw [best.eq_4, best.eq_4, best.eq_4]
    simp [gapI, gapD]

theorem headD_specRows (sc : Sc) (x y : List Nat) : (specRows sc x y).headD [] = specRow sc x y := by
  cases y <;> simp [specRows]

/-- the efficient table contains exactly the values of `best` (restated as `table_eq_best` in `Thm/C01.lean`) -/
theorem rows_eq_spec (sc : Sc) (x y : List Nat) : rows sc x y = specRows sc x y := by
  induction y with
  | nil => simp [rows, specRows, rowNil_eq]
  | cons b y ih => simp only [rows, specRows, ih, headD_specRows, nextRow_eq]

/-! ### Candidates: every sub-range pair -/

/-- `pen k + (best .none of the k-th suffix)` for all entries of a row, `i` = index of the first entry -/
def rowCands (pen : Nat → Int) : Nat → List T → List Int
  | _, [] => []
  | i, t :: r => (pen i + t.1) :: rowCands pen (i + 1) r

def tabCands (pen : Nat → Nat → Int) : Nat → List (List T) → List Int
  | _, [] => []
  | j, r :: rs => rowCands (pen j) 0 r ++ tabCands pen (j + 1) rs

/-- `specRow`/`rowCands` and `specRows`/`tabCands` are one walk: `row` lists `g` of every suffix of `l` (longest first),
`cands` emits `e i t` for its `i`-th entry `t` -/
theorem mem_sufCands {α β : Type} (g : List α → β) (row : List α → List β) (cands : Nat → List β → List Int)
    (e : Nat → β → List Int) (hrow0 : row [] = [g []]) (hrow : ∀ a l, row (a :: l) = g (a :: l) :: row l)
    (hc0 : ∀ i, cands i [] = []) (hc : ∀ i t r, cands i (t :: r) = e i t ++ cands (i + 1) r) :
    ∀ (l : List α) (i : Nat) (v : Int), v ∈ cands i (row l) ↔ ∃ k, k ≤ l.length ∧ v ∈ e (i + k) (g (l.drop k)) := by
  intro l
  induction l with
  | nil =>
    intro i v
    rw [hrow0, hc, hc0, List.append_nil]
    refine ⟨fun h => ⟨0, Nat.le_refl _, h⟩, fun ⟨k, hk, h⟩ => ?_⟩
    obtain rfl : k = 0 := Nat.le_zero.mp hk
    exact h
  | cons a l ih =>
    intro i v
    rw [hrow, hc, List.mem_append, ih]
    constructor
    · rintro (h | ⟨k, hk, h⟩)
      · exact ⟨0, Nat.zero_le _, h⟩
      · exact ⟨k + 1, Nat.succ_le_succ hk, by rwa [Nat.add_right_comm, Nat.add_assoc] at h⟩
    · rintro ⟨k, hk, h⟩
      cases k with
      | zero => exact .inl h
      | succ k => exact .inr ⟨k, Nat.le_of_succ_le_succ hk, by rwa [Nat.add_right_comm, Nat.add_assoc]⟩

theorem mem_rowCands_spec (sc : Sc) (pen : Nat → Int) (y : List Nat) (x : List Nat) (i : Nat) (v : Int) :
    v ∈ rowCands pen i (specRow sc x y) ↔
      ∃ k, k ≤ x.length ∧ v = pen (i + k) + best sc .none (x.drop k) y := by
  simpa [tri] using mem_sufCands (fun x => tri sc x y) (specRow sc · y) (rowCands pen) (fun i t => [pen i + t.1])
    rfl (fun _ _ => rfl) (fun _ => rfl) (fun _ _ _ => rfl) x i v

theorem mem_tabCands_spec (sc : Sc) (pen : Nat → Nat → Int) (x : List Nat) (y : List Nat) (j : Nat) (v : Int) :
    v ∈ tabCands pen j (specRows sc x y) ↔
      ∃ l k, l ≤ y.length ∧ k ≤ x.length ∧ v = pen (j + l) k + best sc .none (x.drop k) (y.drop l) := by
  simpa [mem_rowCands_spec] using mem_sufCands (specRow sc x) (specRows sc x) (tabCands pen)
    (fun j r => rowCands (pen j) 0 r) rfl (fun _ _ => rfl) (fun _ => rfl) (fun _ _ _ => rfl) y j v

/-- all candidates with sub-ranges ending at `xe`, `ye` -/
def candsAt (sc : Sc) (cl : Clip) (x y : List Nat) (xe ye : Nat) : List Int :=
  tabCands (fun ys xs => clipPen cl x.length y.length xs xe ys ye) 0 (rows sc (x.take xe) (y.take ye))

def cands (sc : Sc) (cl : Clip) (x y : List Nat) : List Int :=
  (List.range (x.length + 1)).flatMap fun xe =>
    (List.range (y.length + 1)).flatMap fun ye => candsAt sc cl x y xe ye

/-- maximum of `d` and the list -/
def maxL (d : Int) : List Int → Int
  | [] => d
  | a :: l => max a (maxL d l)

theorem le_maxL (d : Int) (l : List Int) : d ≤ maxL d l ∧ ∀ v ∈ l, v ≤ maxL d l := by
  induction l with
  | nil => simp [maxL]
  | cons a l ih =>
    obtain ⟨h1, h2⟩ := ih
    refine ⟨by simp only [maxL]; omega, ?_⟩
    intro v hv
    simp only [List.mem_cons] at hv
    simp only [maxL]
    rcases hv with rfl | hv
    · omega
    · have := h2 v hv; omega

theorem maxL_mem (d : Int) (l : List Int) : maxL d l = d ∨ maxL d l ∈ l := by
  induction l with
  | nil => simp [maxL]
  | cons a l ih =>
    simp only [maxL, List.mem_cons]
    by_cases h : maxL d l ≤ a
    · right; left; omega
    · have : max a (maxL d l) = maxL d l := by omega
      rw [this]
      rcases ih with ih | ih
      · left; exact ih
      · right; right; exact ih

/-- the optimum of the documented model, computed -/
def opt (sc : Sc) (cl : Clip) (x y : List Nat) : Int :=
  maxL (clipPen cl x.length y.length 0 0 0 0) (cands sc cl x y)

theorem mem_cands (sc : Sc) (cl : Clip) (x y : List Nat) (v : Int) :
    v ∈ cands sc cl x y ↔
      ∃ xs xe ys ye, xs ≤ xe ∧ xe ≤ x.length ∧ ys ≤ ye ∧ ye ≤ y.length ∧
        v = clipPen cl x.length y.length xs xe ys ye + best sc .none (slice x xs xe) (slice y ys ye) := by
  simp only [cands, candsAt, List.mem_flatMap, List.mem_range, rows_eq_spec, mem_tabCands_spec,
    List.length_take, Nat.zero_add, slice]
  constructor
  · rintro ⟨xe, hxe, ye, hye, l, k, hl, hk, h⟩
    exact ⟨k, xe, l, ye, by omega, by omega, by omega, by omega, h⟩
  · rintro ⟨xs, xe, ys, ye, h1, h2, h3, h4, h⟩
    exact ⟨xe, by omega, ye, by omega, ys, xs, by omega, by omega, h⟩

/-- `opt` is the optimum: attained by an alignment, exceeded by none — for all sequences, scoring
functions, gap and clip penalties -/
theorem opt_optimal (sc : Sc) (cl : Clip) (x y : List Nat) : Optimal sc cl x y (opt sc cl x y) := by
  constructor
  · -- attained
    have key : ∃ xs xe ys ye, xs ≤ xe ∧ xe ≤ x.length ∧ ys ≤ ye ∧ ye ≤ y.length ∧
        opt sc cl x y = clipPen cl x.length y.length xs xe ys ye +
          best sc .none (slice x xs xe) (slice y ys ye) := by
      rcases maxL_mem (clipPen cl x.length y.length 0 0 0 0) (cands sc cl x y) with h | h
      · refine ⟨0, 0, 0, 0, by omega, by omega, by omega, by omega, ?_⟩
        simp only [opt, h, Model.PairwiseFill.slice_self, best]; omega
      · exact (mem_cands sc cl x y _).mp h
    obtain ⟨xs, xe, ys, ye, h1, h2, h3, h4, h⟩ := key
    obtain ⟨ops, hops⟩ := best_attained sc .none (slice x xs xe) (slice y ys ye)
    refine ⟨⟨xs, xe, ys, ye, ops⟩, ⟨h1, h2, h3, h4, ?_⟩, ⟨_, hops, ?_⟩⟩
    · exact (valid_iff_score sc .none _ _ _).mpr ⟨_, hops⟩
    · simp only; omega
  · -- upper bound
    rintro a v ⟨h1, h2, h3, h4, _⟩ ⟨c, hc, hv⟩
    have hb := best_upper sc a.ops .none _ _ c hc
    have hm : clipPen cl x.length y.length a.xs a.xe a.ys a.ye +
        best sc .none (slice x a.xs a.xe) (slice y a.ys a.ye) ∈ cands sc cl x y :=
      (mem_cands sc cl x y _).mpr ⟨a.xs, a.xe, a.ys, a.ye, h1, h2, h3, h4, rfl⟩
    have := (le_maxL (clipPen cl x.length y.length 0 0 0 0) (cands sc cl x y)).2 _ hm
    simp only [opt]; omega

/-! ### Acceptance -/

/-- Boolean acceptance of a reported alignment: real alignment of the reported sub-ranges, clip
representation rule, recomputed score = reported score, reported score = optimum -/
def accept (sc : Sc) (cl : Clip) (filtered : Bool) (x y : List Nat) (o : Out) : Bool :=
  decide (IsAln x y o.toAln) && decide (ClipRule filtered x y o) &&
  (match score sc .none (slice x o.xs o.xe) (slice y o.ys o.ye) (coreOps o.ops) with
   | some c => c + clipPen cl x.length y.length o.xs o.xe o.ys o.ye == o.score
   | none => false) &&
  (o.score == opt sc cl x y)

/-- the part of `accept` that does not need the optimum (used for C02's soundness clause) -/
def acceptValid (sc : Sc) (cl : Clip) (filtered : Bool) (x y : List Nat) (o : Out) : Bool :=
  decide (IsAln x y o.toAln) && decide (ClipRule filtered x y o) &&
  (match score sc .none (slice x o.xs o.xe) (slice y o.ys o.ye) (coreOps o.ops) with
   | some c => c + clipPen cl x.length y.length o.xs o.xe o.ys o.ye == o.score
   | none => false)

theorem scoreMatch_iff (sc : Sc) (cl : Clip) (x y : List Nat) (o : Out) :
    (match score sc .none (slice x o.xs o.xe) (slice y o.ys o.ye) (coreOps o.ops) with
     | some c => c + clipPen cl x.length y.length o.xs o.xe o.ys o.ye == o.score
     | none => false) = true ↔ AlnScore sc cl x y o.toAln o.score := by
  simp only [AlnScore, Out.toAln]
  cases h : score sc .none (slice x o.xs o.xe) (slice y o.ys o.ye) (coreOps o.ops) with
  | none => simp
  | some c =>
    simp only [beq_iff_eq, Option.some.injEq]
    constructor
    · intro h'; exact ⟨c, rfl, h'.symm⟩
    · rintro ⟨c', rfl, h'⟩; exact h'.symm

theorem acceptValid_iff (sc : Sc) (cl : Clip) (f : Bool) (x y : List Nat) (o : Out) :
    acceptValid sc cl f x y o = true ↔
      (IsAln x y o.toAln ∧ ClipRule f x y o ∧ AlnScore sc cl x y o.toAln o.score) := by
  simp only [acceptValid, Bool.and_eq_true, decide_eq_true_eq, scoreMatch_iff, and_assoc]

theorem accept_iff (sc : Sc) (cl : Clip) (f : Bool) (x y : List Nat) (o : Out) :
    accept sc cl f x y o = true ↔
      (IsAln x y o.toAln ∧ ClipRule f x y o ∧ AlnScore sc cl x y o.toAln o.score ∧
        Optimal sc cl x y o.score) := by
  have hv := acceptValid_iff sc cl f x y o
  have : accept sc cl f x y o = (acceptValid sc cl f x y o && (o.score == opt sc cl x y)) := rfl
  rw [this, Bool.and_eq_true, hv, beq_iff_eq]
  constructor
  · rintro ⟨⟨h1, h2, h3⟩, h4⟩
    exact ⟨h1, h2, h3, h4 ▸ opt_optimal sc cl x y⟩
  · rintro ⟨h1, h2, h3, h4⟩
    exact ⟨⟨h1, h2, h3⟩, Optimal_unique h4 (opt_optimal sc cl x y)⟩

/-- a valid alignment never scores above the optimum (C02 soundness: corollary of validity) -/
theorem valid_le_opt (sc : Sc) (cl : Clip) (x y : List Nat) (a : Aln) (v : Int)
    (ha : IsAln x y a) (hs : AlnScore sc cl x y a v) : v ≤ opt sc cl x y :=
  (opt_optimal sc cl x y).2 a v ha hs

end RbV.Align
