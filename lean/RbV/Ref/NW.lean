/-!
# Linear-gap global alignment (Needleman–Wunsch): specification, recursive optimum, row table

Used by C16 (partial-order alignment on a linear graph).  Self-contained, core Lean only.

* `x` is the reference (the sequence the graph was built from), `y` the query.
  (`Spec/Align.lean`, the pairwise aligners' specification, has the roles the other way round: there `ins` consumes a
  symbol of `x`.)
* An alignment is a list of operations; `mat` consumes one symbol of each sequence (POA has a single
  `Match` operation for equal *and* unequal symbols — the substitution score decides), `del` consumes a
  reference symbol only, `ins` a query symbol only.
* `score sc x y ops = some v` : `ops` consumes exactly `x` and `y` and its score is `v`
  (substitution score `sc.w a b` for a `mat`, `sc.gap` for every gapped symbol — linear gaps).
* `nwBest sc x y` : the optimum, by structural recursion on both sequences.
* `nw_upper`, `nw_attained` : `nwBest` is the maximum of `score` over *all* valid operation lists.
* `nwFast` : the usual row-by-row table, proved equal to `nwBest` (`nwFast_eq`); the driver runs this one.
-/
namespace RbV.NW

inductive Op | mat | ins | del
deriving DecidableEq, Repr

structure Sc where
  /-- substitution score: reference symbol, query symbol -/
  w : Nat → Nat → Int
  /-- per-symbol gap score -/
  gap : Int

/-- score of an operation list aligning exactly `x` (reference) with `y` (query); `none` = not a valid
global alignment of the two sequences -/
def score (sc : Sc) : List Nat → List Nat → List Op → Option Int
  | [], [], [] => some 0
  | a :: x, b :: y, .mat :: r => (score sc x y r).map (· + sc.w a b)
  | x, _ :: y, .ins :: r => (score sc x y r).map (· + sc.gap)
  | _ :: x, y, .del :: r => (score sc x y r).map (· + sc.gap)
  | _, _, _ => none

/-- the optimum over all global alignments (textbook recursion on the two suffixes) -/
def nwBest (sc : Sc) : List Nat → List Nat → Int
  | [], [] => 0
  | _ :: x, [] => sc.gap + nwBest sc x []
  | [], _ :: y => sc.gap + nwBest sc [] y
  | a :: x, b :: y =>
      max (sc.w a b + nwBest sc x y) (max (sc.gap + nwBest sc (a :: x) y) (sc.gap + nwBest sc x (b :: y)))
termination_by x y => x.length + y.length

theorem score_mat (sc : Sc) (a : Nat) (x : List Nat) (b : Nat) (y : List Nat) (r : List Op) :
    score sc (a :: x) (b :: y) (.mat :: r) = (score sc x y r).map (· + sc.w a b) := by
  simp only [score]

theorem score_ins (sc : Sc) (x : List Nat) (b : Nat) (y : List Nat) (r : List Op) :
    score sc x (b :: y) (.ins :: r) = (score sc x y r).map (· + sc.gap) := by
  cases x <;> simp only [score]

theorem score_del (sc : Sc) (a : Nat) (x y : List Nat) (r : List Op) :
    score sc (a :: x) y (.del :: r) = (score sc x y r).map (· + sc.gap) := by
  cases y <;> simp only [score]

theorem score_nil_some {sc : Sc} {x y : List Nat} {v : Int} (h : score sc x y [] = some v) : x = [] ∧ y = [] ∧ v = 0 := by
  cases x <;> cases y <;> simp [score] at h
  exact ⟨rfl, rfl, h.symm⟩

/-- a valid list `o :: r`: what `o` consumed and how it scores, the rest valid on what is left -/
theorem score_cons_some {sc : Sc} {x y : List Nat} {o : Op} {r : List Op} {v : Int} (h : score sc x y (o :: r) = some v) :
    ∃ x' y' u, score sc x' y' r = some u ∧
      ((∃ a b, o = .mat ∧ x = a :: x' ∧ y = b :: y' ∧ v = u + sc.w a b) ∨
       (∃ b, o = .ins ∧ x = x' ∧ y = b :: y' ∧ v = u + sc.gap) ∨
       (∃ a, o = .del ∧ x = a :: x' ∧ y = y' ∧ v = u + sc.gap)) := by
  cases o with
  | mat =>
    cases x with
    | nil => simp [score] at h
    | cons a x =>
      cases y with
      | nil => simp [score] at h
      | cons b y =>
        rw [score_mat, Option.map_eq_some_iff] at h
        obtain ⟨u, hu, rfl⟩ := h
        exact ⟨x, y, u, hu, Or.inl ⟨a, b, rfl, rfl, rfl, rfl⟩⟩
  | ins =>
    cases y with
    | nil => cases x <;> simp [score] at h
    | cons b y =>
      rw [score_ins, Option.map_eq_some_iff] at h
      obtain ⟨u, hu, rfl⟩ := h
      exact ⟨x, y, u, hu, Or.inr (Or.inl ⟨b, rfl, rfl, rfl, rfl⟩)⟩
  | del =>
    cases x with
    | nil => cases y <;> simp [score] at h
    | cons a x =>
      rw [score_del, Option.map_eq_some_iff] at h
      obtain ⟨u, hu, rfl⟩ := h
      exact ⟨x, y, u, hu, Or.inr (Or.inr ⟨a, rfl, rfl, rfl, rfl⟩)⟩

theorem nwBest_mat_ge (sc : Sc) (a : Nat) (x : List Nat) (b : Nat) (y : List Nat) :
    sc.w a b + nwBest sc x y ≤ nwBest sc (a :: x) (b :: y) := by
  conv => rhs; rw [nwBest]
  omega

theorem nwBest_ins_ge (sc : Sc) (x : List Nat) (b : Nat) (y : List Nat) : sc.gap + nwBest sc x y ≤ nwBest sc x (b :: y) := by
  cases x with
  | nil => conv => rhs; rw [nwBest]
           omega
  | cons a x => conv => rhs; rw [nwBest]
                omega

theorem nwBest_del_ge (sc : Sc) (a : Nat) (x y : List Nat) : sc.gap + nwBest sc x y ≤ nwBest sc (a :: x) y := by
  cases y with
  | nil => rw [nwBest]; omega
  | cons b y => rw [nwBest]; omega

/-- every valid operation list scores at most `nwBest` -/
theorem nw_upper (sc : Sc) : ∀ (ops : List Op) (x y : List Nat) (v : Int),
    score sc x y ops = some v → v ≤ nwBest sc x y := by
  intro ops
  induction ops with
  | nil =>
    intro x y v h
    obtain ⟨rfl, rfl, rfl⟩ := score_nil_some h
    rw [nwBest]; exact Int.le_refl 0
  | cons o r ih =>
    intro x y v h
    obtain ⟨x', y', u, hu, ho⟩ := score_cons_some h
    have := ih x' y' u hu
    rcases ho with ⟨a, b, _, rfl, rfl, rfl⟩ | ⟨b, _, rfl, rfl, rfl⟩ | ⟨a, _, rfl, rfl, rfl⟩
    · have := nwBest_mat_ge sc a x' b y'; omega
    · have := nwBest_ins_ge sc x b y'; omega
    · have := nwBest_del_ge sc a x' y; omega

/-- … and some valid operation list attains it -/
theorem nw_attained (sc : Sc) : ∀ (x y : List Nat), ∃ ops, score sc x y ops = some (nwBest sc x y) := by
  intro x y
  fun_induction nwBest sc x y with
  | case1 => exact ⟨[], by simp [score]⟩
  | case2 a x ih =>
    obtain ⟨r, hr⟩ := ih
    exact ⟨.del :: r, by simp [score, hr]; omega⟩
  | case3 b y ih =>
    obtain ⟨r, hr⟩ := ih
    exact ⟨.ins :: r, by simp [score, hr]; omega⟩
  | case4 a x b y ih1 ih2 ih3 =>
    obtain ⟨r1, h1⟩ := ih1
    obtain ⟨r2, h2⟩ := ih2
    obtain ⟨r3, h3⟩ := ih3
    by_cases hm : sc.w a b + nwBest sc x y ≥ max (sc.gap + nwBest sc (a :: x) y) (sc.gap + nwBest sc x (b :: y))
    · exact ⟨.mat :: r1, by simp [score, h1]; omega⟩
    · by_cases hi : sc.gap + nwBest sc (a :: x) y ≥ sc.gap + nwBest sc x (b :: y)
      · exact ⟨.ins :: r2, by simp [score, h2]; omega⟩
      · exact ⟨.del :: r3, by simp [score, h3]; omega⟩

/-! ## Row table

For a fixed query suffix `y`, `specRow sc x y` lists `nwBest sc x' y` for every suffix `x'` of the reference
`x`, longest first (the last entry is the empty suffix).  `rowNil` is the row of the empty query suffix,
`nextRow` computes the row of `b :: y` from the row of `y` — one cell per reference suffix, right to left,
each cell from its diagonal, vertical and horizontal neighbour exactly as in the textbook table. -/

/-- all suffixes' optima against a fixed query suffix -/
def specRow (sc : Sc) : List Nat → List Nat → List Int
  | [], y => [nwBest sc [] y]
  | a :: x, y => nwBest sc (a :: x) y :: specRow sc x y

/-- row for the empty query suffix: `k·gap` for the suffix of length `k` -/
def rowNil (sc : Sc) : List Nat → List Int
  | [] => [0]
  | _ :: x => match rowNil sc x with
    | [] => []          -- unreachable: a row is never empty
    | h :: t => (sc.gap + h) :: h :: t

/-- row of `b :: y` from the row `prev` of `y` (both indexed by the suffixes of `x`) -/
def nextRow (sc : Sc) (b : Nat) : List Nat → List Int → List Int
  | [], prev => match prev with
    | [] => []
    | p :: _ => [sc.gap + p]
  | a :: x, prev => match prev with
    | pa :: px =>                     -- pa = best (a::x) y ; px = row of x for y
      match nextRow sc b x px, px with
      | c :: ct, d :: _ =>          -- c = best x (b::y) ; d = best x y
        max (sc.w a b + d) (max (sc.gap + pa) (sc.gap + c)) :: c :: ct
      | _, _ => []
    | [] => []

def table (sc : Sc) (x : List Nat) : List Nat → List Int
  | [] => rowNil sc x
  | b :: y => nextRow sc b x (table sc x y)

/-- the score the driver compares with: first cell of the table (whole `x` against whole `y`) -/
def nwFast (sc : Sc) (x y : List Nat) : Int := (table sc x y).headD 0

theorem specRow_ne_nil (sc : Sc) (x y : List Nat) : specRow sc x y ≠ [] := by
  cases x <;> simp [specRow]

theorem specRow_head (sc : Sc) (x y : List Nat) : (specRow sc x y).headD 0 = nwBest sc x y := by
  cases x <;> simp [specRow]

theorem rowNil_eq (sc : Sc) (x : List Nat) : rowNil sc x = specRow sc x [] := by
  induction x with
  | nil => simp [rowNil, specRow, nwBest]
  | cons a x ih =>
    simp only [rowNil, ih]
    cases x with
    | nil => simp [specRow, nwBest]
    | cons a' x' => simp [specRow, nwBest]

theorem specRow_cons_form (sc : Sc) (x y : List Nat) :
    specRow sc x y = nwBest sc x y :: (specRow sc x y).tail := by
  cases x <;> simp [specRow]

theorem nextRow_eq (sc : Sc) (b : Nat) (y : List Nat) (x : List Nat) :
    nextRow sc b x (specRow sc x y) = specRow sc x (b :: y) := by
  induction x with
  | nil => simp [nextRow, specRow, nwBest]
  | cons a x ih =>
    simp only [specRow, nextRow, ih]
    rw [specRow_cons_form sc x (b :: y), specRow_cons_form sc x y]
    simp only []
    have h : nwBest sc (a :: x) (b :: y) =
        max (sc.w a b + nwBest sc x y) (max (sc.gap + nwBest sc (a :: x) y) (sc.gap + nwBest sc x (b :: y))) := by
      rw [nwBest]
    rw [h]

theorem table_eq (sc : Sc) (x y : List Nat) : table sc x y = specRow sc x y := by
  induction y with
  | nil => simp [table, rowNil_eq]
  | cons b y ih => simp [table, ih, nextRow_eq]

/-- the row table computes the recursive optimum -/
theorem nwFast_eq (sc : Sc) (x y : List Nat) : nwFast sc x y = nwBest sc x y := by
  unfold nwFast; rw [table_eq, specRow_head]

end RbV.NW
