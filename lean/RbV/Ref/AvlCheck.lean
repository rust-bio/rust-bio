import RbV.Model.Avl
/-!
# The invariants of the augmented AVL tree, declaratively, and the executable checkers the driver applies
# to the tree rebuilt from the hook dump (`IntervalTree::verif_dump`)

* `Inv t` — the full (strict) invariant: in-order starts non-decreasing, every `max` field is the maximum end of
  its subtree, every `height` field is the true height, every node is height-balanced.
* `SearchInv t` — what the pruned search really relies on: every `max` field is an *upper bound* of the ends in its
  subtree and nothing in a right subtree starts before its parent. `Inv → SearchInv`.
* `WeakInv t` — `SearchInv` + balanced by **true** heights (what the property text demands: answers exact, tree
  height-balanced), regardless of what the `height` fields say.

`checkAVL t n = true` implies `Inv t`, `checkWeak t n = true` implies `WeakInv t` (`checkAVL_sound`, `checkWeak_sound`; the
converses are not stated).
Core Lean only.
-/
namespace RbV.Avl
open RbV.Ivl

def realHeight : Tree → Nat
  | .nil => 0
  | .node l _ _ _ r => 1 + max (realHeight l) (realHeight r)

/-- `m` is the largest end among `es` -/
def IsMaxEnd (es : List Entry) (m : Int) : Prop := (∀ e ∈ es, e.hi ≤ m) ∧ ∃ e ∈ es, e.hi = m

/-- in-order starts are non-decreasing -/
def Sorted (t : Tree) : Prop := (toList t).Pairwise (fun a b => a.lo ≤ b.lo)

/-- every `max` field is the maximum end in its subtree -/
def MaxOk : Tree → Prop
  | .nil => True
  | .node l e mx h r => MaxOk l ∧ MaxOk r ∧ IsMaxEnd (toList (.node l e mx h r)) mx

/-- every `height` field is the true height -/
def HeightOk : Tree → Prop
  | .nil => True
  | .node l e mx h r => HeightOk l ∧ HeightOk r ∧ h = realHeight (.node l e mx h r)

/-- AVL balance on true heights -/
def Balanced : Tree → Prop
  | .nil => True
  | .node l _ _ _ r =>
    Balanced l ∧ Balanced r ∧ realHeight l ≤ realHeight r + 1 ∧ realHeight r ≤ realHeight l + 1

structure Inv (t : Tree) : Prop where
  sorted : Sorted t
  maxOk : MaxOk t
  heightOk : HeightOk t
  balanced : Balanced t

/-- what the pruned DFS needs -/
def SearchInv : Tree → Prop
  | .nil => True
  | .node l e mx _ r =>
    SearchInv l ∧ SearchInv r ∧ (∀ a ∈ toList l ++ e :: toList r, a.hi ≤ mx) ∧ (∀ b ∈ toList r, e.lo ≤ b.lo)

structure WeakInv (t : Tree) : Prop where
  search : SearchInv t
  balanced : Balanced t

/-! ## field-level (recursive, local) forms used by the checker and by the insertion proofs -/

/-- every node's fields are what `update_height; update_max` would compute from its children -/
def Fields : Tree → Prop
  | .nil => True
  | .node l e mx h r => Fields l ∧ Fields r ∧ mx = updMax l e r ∧ h = updHeight l r

/-- AVL balance stated on the stored `height` fields -/
def BalF : Tree → Prop
  | .nil => True
  | .node l _ _ _ r => BalF l ∧ BalF r ∧ ht l ≤ ht r + 1 ∧ ht r ≤ ht l + 1

theorem ht_eq_realHeight : ∀ t, Fields t → ht t = realHeight t
  | .nil, _ => rfl
  | .node l e mx h r, hf => by
    obtain ⟨hl, hr, _, hh⟩ := hf
    have e1 := ht_eq_realHeight l hl
    have e2 := ht_eq_realHeight r hr
    show h = 1 + max (realHeight l) (realHeight r)
    rw [hh, updHeight, e1, e2]

theorem realHeight_le_size : ∀ t : Tree, realHeight t ≤ size t
  | .nil => by simp [realHeight, size]
  | .node l _ _ _ r => by
    have := realHeight_le_size l
    have := realHeight_le_size r
    simp only [realHeight, size]; omega

theorem ht_le_size (t : Tree) (f : Fields t) : ht t ≤ size t := by
  rw [ht_eq_realHeight t f]; exact realHeight_le_size t

theorem fields_heightOk : ∀ t, Fields t → HeightOk t
  | .nil, _ => trivial
  | .node l e mx h r, hf => by
    have hfull := ht_eq_realHeight _ hf
    obtain ⟨hl, hr, _, hh⟩ := hf
    exact ⟨fields_heightOk l hl, fields_heightOk r hr, by simpa [ht] using hfull⟩

theorem fields_balF_balanced : ∀ t, Fields t → BalF t → Balanced t
  | .nil, _, _ => trivial
  | .node l e mx h r, hf, hb => by
    obtain ⟨hl, hr, _, _⟩ := hf
    obtain ⟨bl, br, h1, h2⟩ := hb
    rw [ht_eq_realHeight l hl, ht_eq_realHeight r hr] at h1 h2
    exact ⟨fields_balF_balanced l hl bl, fields_balF_balanced r hr br, h1, h2⟩

theorem isMaxEnd_singleton (e : Entry) : IsMaxEnd [e] e.hi :=
  ⟨fun a ha => by rw [List.mem_singleton.mp ha]; exact Int.le_refl _, e, List.mem_singleton.mpr rfl, rfl⟩

/-- the comparison `update_max` makes with a child's `max` -/
theorem isMaxEnd_append {A B : List Entry} {a b : Int} (hA : IsMaxEnd A a) (hB : IsMaxEnd B b) :
    IsMaxEnd (A ++ B) (if a < b then b else a) := by
  obtain ⟨uA, x, hx, ex⟩ := hA
  obtain ⟨uB, y, hy, ey⟩ := hB
  split
  · refine ⟨fun c hc => ?_, y, List.mem_append_right _ hy, ey⟩
    rcases List.mem_append.mp hc with h | h
    · have := uA c h; omega
    · exact uB c h
  · refine ⟨fun c hc => ?_, x, List.mem_append_left _ hx, ex⟩
    rcases List.mem_append.mp hc with h | h
    · exact uA c h
    · have := uB c h; omega

theorem IsMaxEnd.of_mem_iff {A B : List Entry} {m : Int} (h : IsMaxEnd A m) (hm : ∀ a, a ∈ A ↔ a ∈ B) : IsMaxEnd B m :=
  ⟨fun a ha => h.1 a ((hm a).mpr ha), h.2.elim fun e he => ⟨e, (hm e).mp he.1, he.2⟩⟩

/-- `update_max` looks at the node's own end, then at the left child's `max`, then at the right child's: with exact
fields below, that is the largest end of `e :: left`, then of `(e :: left) ++ right` -/
theorem fields_maxOk : ∀ t, Fields t → MaxOk t
  | .nil, _ => trivial
  | .node l e mx h r, ⟨fl, fr, hm, _⟩ => by
    have ml := fields_maxOk l fl
    have mr := fields_maxOk r fr
    refine ⟨ml, mr, ?_⟩
    subst hm
    have s1 : IsMaxEnd (e :: toList l) (updMax l e .nil) := by
      cases l with
      | nil => exact isMaxEnd_singleton e
      | node ll le lm lh lr => exact isMaxEnd_append (isMaxEnd_singleton e) ml.2.2
    have s2 : IsMaxEnd ((e :: toList l) ++ toList r) (updMax l e r) := by
      cases r with
      | nil => rw [toList, List.append_nil]; exact s1
      | node rl re rm rh rr => exact isMaxEnd_append s1 mr.2.2
    refine s2.of_mem_iff fun a => ?_
    rw [toList, List.mem_append, List.mem_append, List.mem_cons, List.mem_cons, or_assoc, or_left_comm]

theorem sorted_node_iff (l : Tree) (e : Entry) (mx : Int) (h : Nat) (r : Tree) :
    Sorted (.node l e mx h r) ↔
      Sorted l ∧ Sorted r ∧ (∀ a ∈ toList l, a.lo ≤ e.lo) ∧ (∀ b ∈ toList r, e.lo ≤ b.lo) := by
  unfold Sorted
  rw [toList, List.pairwise_append, List.pairwise_cons]
  constructor
  · intro ⟨h1, ⟨h2, h3⟩, h4⟩
    exact ⟨h1, h3, fun a ha => h4 a ha e List.mem_cons_self, h2⟩
  · intro ⟨h1, h3, h4, h2⟩
    refine ⟨h1, ⟨h2, h3⟩, fun a ha b hb => ?_⟩
    rcases List.mem_cons.mp hb with rfl | hb
    · exact h4 a ha
    · exact Int.le_trans (h4 a ha) (h2 b hb)

/-- recursive form of `Sorted` -/
def Ordered : Tree → Prop
  | .nil => True
  | .node l e _ _ r => Ordered l ∧ Ordered r ∧ (∀ a ∈ toList l, a.lo ≤ e.lo) ∧ (∀ b ∈ toList r, e.lo ≤ b.lo)

theorem sorted_of_ordered : ∀ t, Ordered t → Sorted t
  | .nil, _ => List.Pairwise.nil
  | .node l e mx h r, ⟨ol, or', h1, h2⟩ =>
    (sorted_node_iff l e mx h r).mpr ⟨sorted_of_ordered l ol, sorted_of_ordered r or', h1, h2⟩

theorem inv_of_fields (t : Tree) (hs : Sorted t) (hf : Fields t) (hb : BalF t) : Inv t :=
  ⟨hs, fields_maxOk t hf, fields_heightOk t hf, fields_balF_balanced t hf hb⟩

/-- the strict invariant implies what the search needs -/
theorem searchInv_of_sorted_maxOk : ∀ t, Sorted t → MaxOk t → SearchInv t
  | .nil, _, _ => trivial
  | .node l e mx h r, hs, ⟨ml, mr, hmax⟩ => by
    obtain ⟨sl, sr, _, h2⟩ := (sorted_node_iff l e mx h r).mp hs
    exact ⟨searchInv_of_sorted_maxOk l sl ml, searchInv_of_sorted_maxOk r sr mr,
      fun a ha => hmax.1 a (by simpa [toList] using ha), h2⟩

theorem Inv.searchInv {t : Tree} (h : Inv t) : SearchInv t :=
  searchInv_of_sorted_maxOk t h.sorted h.maxOk

theorem Inv.weak {t : Tree} (h : Inv t) : WeakInv t := ⟨h.searchInv, h.balanced⟩

/-! ## the executable checkers -/

/-- adjacent starts in order -/
def sortedB : List Entry → Bool
  | a :: b :: rest => decide (a.lo ≤ b.lo) && sortedB (b :: rest)
  | _ => true

theorem sortedB_sound : ∀ l, sortedB l = true → l.Pairwise (fun a b => a.lo ≤ b.lo)
  | [], _ => List.Pairwise.nil
  | [a], _ => by simp
  | a :: b :: rest, h => by
    simp only [sortedB, Bool.and_eq_true, decide_eq_true_eq] at h
    have ih := sortedB_sound (b :: rest) h.2
    rw [List.pairwise_cons]
    refine ⟨?_, ih⟩
    intro c hc
    rw [List.pairwise_cons] at ih
    simp only [List.mem_cons] at hc
    rcases hc with hc | hc
    · subst hc; exact h.1
    · have := ih.1 c hc; omega

/-- per node: fields as `update_height`/`update_max` compute them, and balance -/
def checkNodes : Tree → Bool
  | .nil => true
  | .node l e mx h r =>
    checkNodes l && checkNodes r && decide (mx = updMax l e r) && decide (h = updHeight l r)
      && decide (ht l ≤ ht r + 1) && decide (ht r ≤ ht l + 1)

theorem checkNodes_sound : ∀ t, checkNodes t = true → Fields t ∧ BalF t
  | .nil, _ => ⟨trivial, trivial⟩
  | .node l e mx h r, hc => by
    simp only [checkNodes, Bool.and_eq_true, decide_eq_true_eq] at hc
    obtain ⟨⟨⟨⟨⟨cl, cr⟩, hm⟩, hh⟩, b1⟩, b2⟩ := hc
    have ⟨fl, bl⟩ := checkNodes_sound l cl
    have ⟨fr, br⟩ := checkNodes_sound r cr
    exact ⟨⟨fl, fr, hm, hh⟩, ⟨bl, br, b1, b2⟩⟩

/-- the strict check applied to every dump: `n` nodes and `Inv` -/
def checkAVL (t : Tree) (n : Nat) : Bool := decide (size t = n) && sortedB (toList t) && checkNodes t

theorem checkAVL_sound (t : Tree) (n : Nat) (h : checkAVL t n = true) : size t = n ∧ Inv t := by
  simp only [checkAVL, Bool.and_eq_true, decide_eq_true_eq] at h
  obtain ⟨⟨hn, hs⟩, hc⟩ := h
  have ⟨hf, hb⟩ := checkNodes_sound t hc
  exact ⟨hn, inv_of_fields t (sortedB_sound _ hs) hf hb⟩

/-- balance by true heights -/
def balancedB : Tree → Bool
  | .nil => true
  | .node l _ _ _ r =>
    balancedB l && balancedB r && decide (realHeight l ≤ realHeight r + 1) && decide (realHeight r ≤ realHeight l + 1)

theorem balancedB_sound : ∀ t, balancedB t = true → Balanced t
  | .nil, _ => trivial
  | .node l e mx h r, hc => by
    simp only [balancedB, Bool.and_eq_true, decide_eq_true_eq] at hc
    obtain ⟨⟨⟨cl, cr⟩, b1⟩, b2⟩ := hc
    exact ⟨balancedB_sound l cl, balancedB_sound r cr, b1, b2⟩

def searchInvB : Tree → Bool
  | .nil => true
  | .node l e mx _ r =>
    searchInvB l && searchInvB r && (toList l ++ e :: toList r).all (fun a => decide (a.hi ≤ mx))
      && (toList r).all (fun b => decide (e.lo ≤ b.lo))

theorem searchInvB_sound : ∀ t, searchInvB t = true → SearchInv t
  | .nil, _ => trivial
  | .node l e mx h r, hc => by
    simp only [searchInvB, Bool.and_eq_true, List.all_eq_true, decide_eq_true_eq] at hc
    obtain ⟨⟨⟨cl, cr⟩, b1⟩, b2⟩ := hc
    exact ⟨searchInvB_sound l cl, searchInvB_sound r cr, b1, b2⟩

/-- the weak check: what the property text demands of the shape -/
def checkWeak (t : Tree) (n : Nat) : Bool := decide (size t = n) && searchInvB t && balancedB t

theorem checkWeak_sound (t : Tree) (n : Nat) (h : checkWeak t n = true) : size t = n ∧ WeakInv t := by
  simp only [checkWeak, Bool.and_eq_true, decide_eq_true_eq] at h
  obtain ⟨⟨hn, hs⟩, hb⟩ := h
  exact ⟨hn, searchInvB_sound t hs, balancedB_sound t hb⟩

/-- the least number of nodes of a balanced tree of height `h` (`balanced_size_ge`); Fibonacci-like recurrence, so it grows like
φ^h — that growth, hence height `= O(log n)`, is not proved here -/
def minNodes : Nat → Nat
  | 0 => 0
  | 1 => 1
  | h + 2 => minNodes (h + 1) + minNodes h + 1

theorem minNodes_mono_succ : ∀ h, minNodes h ≤ minNodes (h + 1)
  | 0 => by simp [minNodes]
  | h + 1 => by simp only [minNodes]; omega

theorem minNodes_mono {a b : Nat} (h : a ≤ b) : minNodes a ≤ minNodes b := by
  induction h with
  | refl => exact Nat.le_refl _
  | step _ ih => exact Nat.le_trans ih (minNodes_mono_succ _)

/-- the recursion of `minNodes` at a node whose shorter child has height `a` and whose taller child has height `b` -/
theorem minNodes_succ_le {a b : Nat} (hab : a ≤ b) (hba : b ≤ a + 1) :
    minNodes (b + 1) ≤ minNodes a + 1 + minNodes b := by
  cases b with
  | zero => rw [Nat.le_zero.mp hab]; exact Nat.le_refl _
  | succ k =>
    have : minNodes k ≤ minNodes a := minNodes_mono (Nat.le_of_succ_le_succ hba)
    show minNodes (k + 1) + minNodes k + 1 ≤ minNodes a + 1 + minNodes (k + 1)
    omega

/-- a balanced tree of height `h` has at least `minNodes h` nodes -/
theorem balanced_size_ge : ∀ t, Balanced t → minNodes (realHeight t) ≤ size t
  | .nil, _ => Nat.le_refl _
  | .node l e mx h r, ⟨bl, br, h1, h2⟩ => by
    have il := balanced_size_ge l bl
    have ir := balanced_size_ge r br
    show minNodes (1 + max (realHeight l) (realHeight r)) ≤ size l + 1 + size r
    rcases Nat.le_total (realHeight l) (realHeight r) with hc | hc
    · rw [Nat.max_eq_right hc, Nat.add_comm 1]
      exact Nat.le_trans (minNodes_succ_le hc h2) (Nat.add_le_add (Nat.add_le_add_right il 1) ir)
    · rw [Nat.max_eq_left hc, Nat.add_comm 1]
      have := minNodes_succ_le hc h1
      omega

end RbV.Avl
