import RbV.Ref.SA
import RbV.Ref.PermPos
import RbV.Basic.GetD
/-
The sorted suffix permutation of a text with a single, smallest sentinel: the structure `Kasai.Sorted`, the hypothesis of the
LCP (`Model/Kasai.lean`), SUS (`Model/Sus.lean`), LF-mapping (`Model/LFMap.lean`), inverse-BWT (`Model/InvBWT.lean`) and
sampled-array (`Model/SampledGet.lean`) theorems.

* rows ↔ positions: `length` … `rank_getD` are `PermPos` read with the bound `t.length`; `rank_last`, `rank_pos`, `ne_nil` say where
  the final position stands;
* the order: `lt_of_rank_lt`, `rank_lt_of_lt` (rows and suffixes are ordered alike), `pred_lt`, `le_pred` (the predecessor row);
* `sorted_of_checkSA_single`: an array C03's `checkSA` accepts is one, when the only sentinel is the final, smallest symbol.

Its field `sorted` is `SuffixSorted`'s `sufLt t` (`Spec/SufOrder.lean`) written out; `LF.Sorted t sa a` (`Model/LFMapping.lean`) is
a different, weaker notion (rows of one first symbol only), obtained from this one by `LFMulti.lfSorted_of_key`
(`Model/LFMulti.lean`) at the key text `t` itself (`KeyOf.refl`), and from C03's `IsSA` by `SortedBridge.isSA_lfSorted`.
-/
namespace RbV.Kasai
open RbV

/-- `SuffixSorted t sa` (plain suffix order, no key text) together with "the final position comes first": what a suffix array of a
text with a single, smallest sentinel is (`sorted_of_checkSA_single`).  The hypothesis of the LCP, SUS, LF-mapping and inverse-BWT
theorems; `rank_lt` … `rank_getD` are `PermPos` read for it. -/
structure Sorted (t sa : List Nat) : Prop where
  perm : sa.Perm (List.range t.length)
  sorted : sa.Pairwise (fun i j => lexLt (t.drop i) (t.drop j))
  head : sa.head? = some (t.length - 1)

theorem Sorted.length {t sa : List Nat} (h : Sorted t sa) : sa.length = t.length := PermPos.length h.perm

theorem Sorted.rank_lt {t sa : List Nat} (h : Sorted t sa) (p : Nat) (hp : p < t.length) :
    sa.idxOf p < t.length := h.length ▸ PermPos.rank_lt h.perm p hp

theorem Sorted.getD_rank {t sa : List Nat} (h : Sorted t sa) (p : Nat) (hp : p < t.length) :
    sa.getD (sa.idxOf p) 0 = p := PermPos.getD_rank h.perm p hp

theorem Sorted.getD_lt {t sa : List Nat} (h : Sorted t sa) (r : Nat) (hr : r < t.length) :
    sa.getD r 0 < t.length := PermPos.getD_lt h.perm r (h.length ▸ hr)

theorem Sorted.rank_getD {t sa : List Nat} (h : Sorted t sa) (r : Nat) (hr : r < t.length) :
    sa.idxOf (sa.getD r 0) = r := PermPos.rank_getD h.perm r (h.length ▸ hr)

theorem Sorted.lt_of_rank_lt {t sa : List Nat} (h : Sorted t sa) (i j : Nat) (hij : i < j) (hj : j < t.length) :
    lexLt (t.drop (sa.getD i 0)) (t.drop (sa.getD j 0)) :=
  List.pairwise_getD sa i j 0 h.sorted hij (h.length ▸ hj)

theorem Sorted.rank_lt_of_lt {t sa : List Nat} (h : Sorted t sa) (x y : Nat) (hx : x < t.length)
    (hy : y < t.length) (hlt : lexLt (t.drop x) (t.drop y)) : sa.idxOf x < sa.idxOf y := by
  have rx := h.rank_lt x hx
  have ry := h.rank_lt y hy
  rcases Nat.lt_trichotomy (sa.idxOf x) (sa.idxOf y) with h1 | h1 | h1
  · exact h1
  · have : x = y := by rw [← h.getD_rank x hx, ← h.getD_rank y hy, h1]
    subst this; exact absurd hlt (lexLt_irrefl _)
  · have := h.lt_of_rank_lt _ _ h1 rx
    rw [h.getD_rank x hx, h.getD_rank y hy] at this
    exact absurd hlt (lexLt_asymm this)

theorem Sorted.rank_last {t sa : List Nat} (h : Sorted t sa) :
    sa.idxOf (t.length - 1) = 0 := by
  have hh := h.head
  cases sa with
  | nil => simp at hh
  | cons a l => simp at hh; subst hh; simp

theorem Sorted.rank_pos {t sa : List Nat} (h : Sorted t sa) (hn : 0 < t.length) (p : Nat) (hp : p < t.length - 1) :
    0 < sa.idxOf p := by
  apply Nat.pos_of_ne_zero
  intro hz
  have e1 := h.getD_rank p (by omega)
  have e2 := h.getD_rank (t.length - 1) (by omega)
  rw [h.rank_last] at e2
  rw [hz, e2] at e1
  omega

theorem Sorted.ne_nil {t sa : List Nat} (h : Sorted t sa) (hn : 0 < t.length) : sa ≠ [] := by
  intro e
  have hl := h.length
  rw [e, List.length_nil] at hl
  omega

theorem Sorted.pred_lt {t sa : List Nat} (h : Sorted t sa) (p : Nat) (hp : p < t.length) (hr : 0 < sa.idxOf p) :
    sa.getD (sa.idxOf p - 1) 0 < t.length ∧ lexLt (t.drop (sa.getD (sa.idxOf p - 1) 0)) (t.drop p) := by
  have rp := h.rank_lt p hp
  refine ⟨h.getD_lt _ (Nat.lt_of_le_of_lt (Nat.sub_le _ _) rp), ?_⟩
  have := h.lt_of_rank_lt (sa.idxOf p - 1) (sa.idxOf p) (Nat.sub_lt hr Nat.one_pos) rp
  rwa [h.getD_rank p hp] at this

theorem Sorted.le_pred {t sa : List Nat} (h : Sorted t sa) (q p : Nat) (hq : q < t.length) (hp : p < t.length)
    (hlt : sa.idxOf q < sa.idxOf p) :
    lexLt (t.drop q) (t.drop (sa.getD (sa.idxOf p - 1) 0)) ∨ t.drop q = t.drop (sa.getD (sa.idxOf p - 1) 0) := by
  have rp := h.rank_lt p hp
  by_cases he : sa.idxOf q = sa.idxOf p - 1
  · right; rw [← he, h.getD_rank q hq]
  · left
    have := h.lt_of_rank_lt (sa.idxOf q) (sa.idxOf p - 1) (by omega) (by omega)
    rwa [h.getD_rank q hq] at this

/-- for a text whose only sentinel is the final symbol (and smallest), an accepted suffix array is sorted in the
plain byte order of the suffixes — the hypothesis of `kasai_eq_lcpRef` -/
theorem sorted_of_checkSA_single (t sa : List Nat) (hc : checkSA t sa = true)
    (hsingle : ∀ p, IsSentPos t p → p = t.length - 1)
    (hmin : ∀ p, p < t.length → sentinelOf t ≤ t.getD p 0) : Sorted t sa := by
  obtain ⟨hh, hne, _⟩ := (checkSA_eq_true_iff t sa).mp hc
  obtain ⟨B, rk, ho, hp, hpw⟩ := checkSA_isSA t sa hc
  rw [length_keyText] at hp
  refine ⟨hp, ?_, hh⟩
  have hiso : ∀ p q, p < (keyText t B rk).length → q < (keyText t B rk).length →
      ((keyText t B rk).getD p 0 < (keyText t B rk).getD q 0 ↔ t.getD p 0 < t.getD q 0) := by
    intro p q hp' hq'
    rw [length_keyText] at hp' hq'
    rw [getD_keyText t B rk p hp', getD_keyText t B rk q hq']
    by_cases hsq : IsSentPos t q
    · -- `q` is the only sentinel position: no key and no symbol is below its
      rw [keyAt_lt_iff t B rk ho]
      have e1 := (isSentPos_iff t q hq').mp hsq
      have := hmin p hp'
      constructor
      · rintro (⟨hsp, _, hrk⟩ | ⟨_, h⟩ | ⟨_, h, _⟩)
        · rw [hsingle p hsp, ← hsingle q hsq] at hrk
          exact absurd hrk (Nat.lt_irrefl _)
        · exact absurd hsq h
        · exact absurd hsq h
      · intro hlt; omega
    · exact keyAt_lt_iff_of_not_sent t B rk ho hmin p q hp' hq' hsq
  exact pairwise_sufLt_congr (keyText t B rk) t (length_keyText t B rk) hiso hpw

end RbV.Kasai
