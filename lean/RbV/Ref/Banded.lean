import RbV.Ref.Gotoh
/-
Acceptance function for the banded aligner (C02).

A banded result is either the documented *sentinel* (budget guard) or a real alignment whose recomputed
score equals the reported one.  The sentinel is only acceptable when the matrix itself exceeds the cell
budget (the band is a subset of the matrix), and it is the only acceptable answer when the band is the
whole matrix (`full`) and the matrix exceeds the budget.  `exact` = the caller demands the unbanded
optimum (band = whole matrix and the case is small enough to evaluate `opt`).

At the end: `kmerMatchCount`, from which the driver (`Drv/C02.lean`) computes how many k-mer matches a call hands to the band
construction (0 ⇒ the band is the whole matrix).
-/
namespace RbV.Align

/-- `MAX_CELLS` of `banded.rs`: the cell budget.  Not a copy: `RbV/Gen/Limits.lean` is regenerated from the source text
on every `./check C02` (tools/gen_tables.py).  The documentation of `banded::Aligner` names the budget symbolically
("… less than MAX_CELLS …"), so the acceptance function *follows* the constant of the tree under test; the number the
doc comment adds in parentheses is compared with the constant by the driver's `docbudget` case. -/
def maxCells : Nat := RbV.Gen.Limits.maxCells

/-- the documented empty alignment: score `MIN_SCORE`, no operations, all coordinates and lengths 0 -/
def isSentinel (o : Out) : Bool :=
  o.score == minScore && o.xs == 0 && o.xe == 0 && o.ys == 0 && o.ye == 0 && o.xlen == 0 && o.ylen == 0 &&
  o.ops.isEmpty

def overBudget (x y : List Nat) : Bool := decide ((x.length + 1) * (y.length + 1) > maxCells)

def acceptBanded (sc : Sc) (cl : Clip) (filtered : Bool) (x y : List Nat) (full exact : Bool) (o : Out) : Bool :=
  if isSentinel o then overBudget x y
  else !(full && overBudget x y) && acceptValid sc cl filtered x y o && (!exact || o.score == opt sc cl x y)

/-- soundness: an accepted non-sentinel result is a real alignment achieving its reported score, and that
score does not exceed the unbanded optimum — the last clause needs no evaluation of the optimum -/
theorem acceptBanded_sound (sc : Sc) (cl : Clip) (f : Bool) (x y : List Nat) (full exact : Bool) (o : Out)
    (h : acceptBanded sc cl f x y full exact o = true) :
    (isSentinel o = true ∧ overBudget x y = true) ∨
    (isSentinel o = false ∧ ¬ (full = true ∧ overBudget x y = true) ∧
      IsAln x y o.toAln ∧ ClipRule f x y o ∧ AlnScore sc cl x y o.toAln o.score ∧
      ∀ s, Optimal sc cl x y s → o.score ≤ s) := by
  unfold acceptBanded at h
  cases hs : isSentinel o <;> rw [hs] at h
  · simp only [Bool.false_eq_true, if_false, Bool.and_eq_true, Bool.not_eq_true'] at h
    obtain ⟨ha, hc, hsc⟩ := (acceptValid_iff sc cl f x y o).mp h.1.2
    exact .inr ⟨rfl, fun ⟨hf, ho⟩ => by simp [hf, ho] at h, ha, hc, hsc, fun s hopt => hopt.2 _ _ ha hsc⟩
  · exact .inl ⟨rfl, h⟩

/-- exactness: with `exact` demanded, acceptance is equivalent to the full C01 statement -/
theorem acceptBanded_exact_iff (sc : Sc) (cl : Clip) (f : Bool) (x y : List Nat) (full : Bool) (o : Out) :
    acceptBanded sc cl f x y full true o = true ↔
      ((isSentinel o = true ∧ overBudget x y = true) ∨
       (isSentinel o = false ∧ ¬ (full = true ∧ overBudget x y = true) ∧
        IsAln x y o.toAln ∧ ClipRule f x y o ∧ AlnScore sc cl x y o.toAln o.score ∧
        Optimal sc cl x y o.score)) := by
  unfold acceptBanded
  cases hs : isSentinel o
  · have hdef : accept sc cl f x y o = (acceptValid sc cl f x y o && (o.score == opt sc cl x y)) := rfl
    simp only [Bool.false_eq_true, if_false, false_and, false_or, true_and, Bool.not_true, Bool.false_or]
    rw [Bool.and_assoc, ← hdef, Bool.and_eq_true, accept_iff]
    cases full <;> cases overBudget x y <;> simp
  · simp

/-- the first `k` symbols of the two lists exist and agree -/
def prefEq : Nat → List Nat → List Nat → Bool
  | 0, _, _ => true
  | k + 1, a :: x, b :: y => a == b && prefEq k x y
  | _, _, _ => false

def countRow (k : Nat) (x : List Nat) : List Nat → Nat
  | [] => if prefEq k x [] then 1 else 0
  | b :: y => (if prefEq k x (b :: y) then 1 else 0) + countRow k x y

/-- number of k-mer matches between x and y (pairs (i, j) with x[i..i+k] = y[j..j+k]) -/
def kmerMatchCount (k : Nat) : List Nat → List Nat → Nat
  | [], y => countRow k [] y
  | a :: x, y => countRow k (a :: x) y + kmerMatchCount k x y

end RbV.Align
