/-
Edit distance, alignments, and the Sellers column (C09, C10).  Core Lean only.

* `ed w p s`      – the textbook recursion (Wagner–Fischer) for the edit distance of pattern `p` and string `s`;
                    insertion and deletion cost 1, putting pattern symbol `a` over text symbol `b` costs `w a b`
                    (`unitW eqv a b = 0` if the symbols are equivalent, else 1: Levenshtein distance, Myers with or
                    without ambiguity/wildcard tables; an arbitrary table: Ukkonen with a cost function).
* `wcost w p s ops` – cost of an explicit alignment (operation list consuming exactly `p` and `s`);
                    `ed_le_wcost`, `ed_attained`: `ed` is the minimum over all alignments.
* `acost eqv p s ops` – the same for labelled operations Match/Subst/Ins/Del as returned by the Myers traceback:
                    Match only over equivalent symbols (cost 0), Subst only over non-equivalent symbols (cost 1).
* `fe w q u`      – "free end": minimum over all prefixes `u'` of `u` of `ed w q u'` (`fe_le`, `fe_attained`).
* `lastRow w p t` – the Sellers column algorithm run over the text, last row only: entry `j` is `D[j]`, the value
                    approximate matchers report for end position `j` (inclusive).  The columns are kept for the
                    reversed pattern, so that the recursion of `fe` (which peels symbols at the front) applies.
* `IsMinEdAt`, `lastRow_isMin`, `lastRow_of_isMin` – `D[j]` is the minimum over all start positions `s ≤ j+1` of `ed w p t[s..j+1]`.
* `hits`, `firstMin`, `edFast`, `hamming` – what `find_all_end`, `find_best_end` / `distance`, `levenshtein`, `hamming`
                    have to return.
-/
namespace RbV.EditDist

/-! ## edit distance -/

/-- weighted edit distance (insertion/deletion 1, pattern symbol `a` over text symbol `b`: `w a b`) -/
def ed (w : Nat → Nat → Nat) : List Nat → List Nat → Nat
  | [], [] => 0
  | _ :: p, [] => 1 + ed w p []
  | [], _ :: s => 1 + ed w [] s
  | a :: p, b :: s => min (w a b + ed w p s) (min (1 + ed w p (b :: s)) (1 + ed w (a :: p) s))
termination_by p s => p.length + s.length

theorem ed_cons_cons (w : Nat → Nat → Nat) (a b : Nat) (p s : List Nat) :
    ed w (a :: p) (b :: s) = min (w a b + ed w p s) (min (1 + ed w p (b :: s)) (1 + ed w (a :: p) s)) := by
  rw [ed]

theorem ed_cons_nil (w : Nat → Nat → Nat) (a : Nat) (p : List Nat) : ed w (a :: p) [] = 1 + ed w p [] := by
  rw [ed]

theorem ed_nil_cons (w : Nat → Nat → Nat) (b : Nat) (s : List Nat) : ed w [] (b :: s) = 1 + ed w [] s := by
  rw [ed]

theorem ed_cons_pat_le (w : Nat → Nat → Nat) (a : Nat) (p s : List Nat) : ed w (a :: p) s ≤ 1 + ed w p s := by
  cases s with
  | nil => rw [ed_cons_nil]; omega
  | cons b s => rw [ed_cons_cons]; omega

theorem ed_cons_text_le (w : Nat → Nat → Nat) (b : Nat) (p s : List Nat) : ed w p (b :: s) ≤ 1 + ed w p s := by
  cases p with
  | nil => rw [ed_nil_cons]; omega
  | cons a p => rw [ed_cons_cons]; omega

/-- unit cost under a symbol equivalence (`eqv patternSymbol textSymbol`) -/
def unitW (eqv : Nat → Nat → Bool) (a b : Nat) : Nat := if eqv a b then 0 else 1

/-- plain symbol equality -/
def eqSym (a b : Nat) : Bool := a == b

theorem ed_nil_right (w : Nat → Nat → Nat) (p : List Nat) : ed w p [] = p.length := by
  induction p with
  | nil => simp [ed]
  | cons a p ih => simp [ed, ih]; omega

theorem ed_nil_left (w : Nat → Nat → Nat) (s : List Nat) : ed w [] s = s.length := by
  induction s with
  | nil => simp [ed]
  | cons a s ih => simp [ed, ih]; omega

/-! ## alignments with weights -/

inductive WOp | diag | ins | del
deriving DecidableEq, Repr

/-- cost of an operation list aligning exactly `p` with `s`; `none` = not an alignment of `p` and `s`.
`diag` puts a pattern symbol over a text symbol, `ins` consumes a pattern symbol only, `del` a text symbol only. -/
def wcost (w : Nat → Nat → Nat) : List Nat → List Nat → List WOp → Option Nat
  | [], [], [] => some 0
  | a :: p, b :: s, .diag :: r => (wcost w p s r).map (· + w a b)
  | _ :: p, s, .ins :: r => (wcost w p s r).map (· + 1)
  | p, _ :: s, .del :: r => (wcost w p s r).map (· + 1)
  | _, _, _ => none

theorem wcost_ins (w : Nat → Nat → Nat) (a : Nat) (p s : List Nat) (r : List WOp) :
    wcost w (a :: p) s (.ins :: r) = (wcost w p s r).map (· + 1) := by
  cases s <;> simp [wcost]

theorem wcost_del (w : Nat → Nat → Nat) (b : Nat) (p s : List Nat) (r : List WOp) :
    wcost w p (b :: s) (.del :: r) = (wcost w p s r).map (· + 1) := by
  cases p <;> simp [wcost]

theorem ed_le_wcost (w : Nat → Nat → Nat) (ops : List WOp) (p s : List Nat) (v : Nat)
    (h : wcost w p s ops = some v) : ed w p s ≤ v := by
  fun_induction wcost w p s ops generalizing v with
  | case1 => simp [ed]
  | case2 a p b s r ih =>
    obtain ⟨u, hu, rfl⟩ := Option.map_eq_some_iff.mp h
    have := ih u hu
    rw [ed_cons_cons]; omega
  | case3 a p s r ih =>
    obtain ⟨u, hu, rfl⟩ := Option.map_eq_some_iff.mp h
    have := ih u hu
    have := ed_cons_pat_le w a p s
    omega
  | case4 p b s r ih =>
    obtain ⟨u, hu, rfl⟩ := Option.map_eq_some_iff.mp h
    have := ih u hu
    have := ed_cons_text_le w b p s
    omega
  | case5 => cases h

theorem ed_attained (w : Nat → Nat → Nat) : ∀ (p s : List Nat),
    ∃ ops, wcost w p s ops = some (ed w p s) := by
  intro p s
  fun_induction ed w p s with
  | case1 => exact ⟨[], by simp [wcost]⟩
  | case2 a p ih =>
    obtain ⟨r, hr⟩ := ih
    exact ⟨.ins :: r, by rw [wcost_ins, hr, Option.map_some, Nat.add_comm]⟩
  | case3 b s ih =>
    obtain ⟨r, hr⟩ := ih
    exact ⟨.del :: r, by rw [wcost_del, hr, Option.map_some, Nat.add_comm]⟩
  | case4 a p b s ih1 ih2 ih3 =>
    obtain ⟨r1, h1⟩ := ih1
    obtain ⟨r2, h2⟩ := ih2
    obtain ⟨r3, h3⟩ := ih3
    by_cases hm : w a b + ed w p s ≤ min (1 + ed w p (b :: s)) (1 + ed w (a :: p) s)
    · exact ⟨.diag :: r1, by rw [wcost, h1, Option.map_some, Nat.add_comm, Nat.min_eq_left hm]⟩
    · by_cases hi : 1 + ed w p (b :: s) ≤ 1 + ed w (a :: p) s
      · exact ⟨.ins :: r2, by rw [wcost_ins, h2, Option.map_some, Nat.add_comm, Nat.min_eq_right (Nat.le_of_not_le hm),
          Nat.min_eq_left hi]⟩
      · exact ⟨.del :: r3, by rw [wcost_del, h3, Option.map_some, Nat.add_comm, Nat.min_eq_right (Nat.le_of_not_le hm),
          Nat.min_eq_right (Nat.le_of_not_le hi)]⟩

/-! ### reversal -/

theorem wcost_append (w : Nat → Nat → Nat) (o1 : List WOp) (p1 s1 : List Nat) (v1 : Nat)
    (o2 : List WOp) (p2 s2 : List Nat) (v2 : Nat)
    (h1 : wcost w p1 s1 o1 = some v1) (h2 : wcost w p2 s2 o2 = some v2) :
    wcost w (p1 ++ p2) (s1 ++ s2) (o1 ++ o2) = some (v2 + v1) := by
  fun_induction wcost w p1 s1 o1 generalizing v1 with
  | case1 => cases h1; simpa using h2
  | case2 a p b s r ih =>
    obtain ⟨u, hu, rfl⟩ := Option.map_eq_some_iff.mp h1
    simp only [List.cons_append, wcost, ih u hu, Option.map_some, Nat.add_assoc]
  | case3 a p s r ih =>
    obtain ⟨u, hu, rfl⟩ := Option.map_eq_some_iff.mp h1
    simp only [List.cons_append, wcost_ins, ih u hu, Option.map_some, Nat.add_assoc]
  | case4 p b s r ih =>
    obtain ⟨u, hu, rfl⟩ := Option.map_eq_some_iff.mp h1
    simp only [List.cons_append, wcost_del, ih u hu, Option.map_some, Nat.add_assoc]
  | case5 => cases h1

theorem wcost_reverse (w : Nat → Nat → Nat) (ops : List WOp) (p s : List Nat) (v : Nat)
    (h : wcost w p s ops = some v) : wcost w p.reverse s.reverse ops.reverse = some v := by
  fun_induction wcost w p s ops generalizing v with
  | case1 => simpa [wcost] using h
  | case2 a p b s r ih =>
    obtain ⟨u, hu, rfl⟩ := Option.map_eq_some_iff.mp h
    have := wcost_append w _ _ _ _ _ _ _ _ (ih u hu) (show wcost w [a] [b] [.diag] = some (w a b) by simp [wcost])
    simp only [List.reverse_cons]
    rw [this, Nat.add_comm]
  | case3 a p s r ih =>
    obtain ⟨u, hu, rfl⟩ := Option.map_eq_some_iff.mp h
    have := wcost_append w _ _ _ _ _ _ _ _ (ih u hu) (show wcost w [a] [] [.ins] = some 1 by simp [wcost])
    rw [List.append_nil] at this
    simp only [List.reverse_cons]
    rw [this, Nat.add_comm]
  | case4 p b s r ih =>
    obtain ⟨u, hu, rfl⟩ := Option.map_eq_some_iff.mp h
    have := wcost_append w _ _ _ _ _ _ _ _ (ih u hu) (show wcost w [] [b] [.del] = some 1 by simp [wcost])
    rw [List.append_nil] at this
    simp only [List.reverse_cons]
    rw [this, Nat.add_comm]
  | case5 => cases h

theorem ed_reverse_le (w : Nat → Nat → Nat) (p s : List Nat) :
    ed w p.reverse s.reverse ≤ ed w p s := by
  obtain ⟨ops, h⟩ := ed_attained w p s
  exact ed_le_wcost w _ _ _ _ (wcost_reverse w ops p s _ h)

theorem ed_reverse (w : Nat → Nat → Nat) (p s : List Nat) :
    ed w p.reverse s.reverse = ed w p s := by
  apply Nat.le_antisymm (ed_reverse_le w p s)
  have := ed_reverse_le w p.reverse s.reverse
  simpa using this

/-! ## labelled alignments (Myers traceback) -/

inductive Op | mat | sub | ins | del
deriving DecidableEq, Repr

def Op.toW : Op → WOp
  | .mat => .diag
  | .sub => .diag
  | .ins => .ins
  | .del => .del

/-- number of non-match operations of a labelled operation list that aligns exactly `p` with `s`, where `mat` is
allowed only over equivalent symbols and `sub` only over non-equivalent ones; `none` = not such an alignment.
`ins` consumes a pattern symbol (rust-bio: `Ins` = symbol of x = pattern without partner), `del` a text symbol. -/
def acost (eqv : Nat → Nat → Bool) : List Nat → List Nat → List Op → Option Nat
  | [], [], [] => some 0
  | a :: p, b :: s, .mat :: r => if eqv a b then acost eqv p s r else none
  | a :: p, b :: s, .sub :: r => if eqv a b then none else (acost eqv p s r).map (· + 1)
  | _ :: p, s, .ins :: r => (acost eqv p s r).map (· + 1)
  | p, _ :: s, .del :: r => (acost eqv p s r).map (· + 1)
  | _, _, _ => none

theorem acost_wcost (eqv : Nat → Nat → Bool) (ops : List Op) (p s : List Nat) (v : Nat)
    (h : acost eqv p s ops = some v) : wcost (unitW eqv) p s (ops.map Op.toW) = some v := by
  fun_induction acost eqv p s ops generalizing v with
  | case1 => simpa [wcost] using h
  | case2 a p b s r he ih => simp [Op.toW, wcost, ih v h, unitW, he]
  | case3 a p b s r he => cases h
  | case4 a p b s r he => cases h
  | case5 a p b s r he ih =>
    obtain ⟨u, hu, rfl⟩ := Option.map_eq_some_iff.mp h
    simp [Op.toW, wcost, ih u hu, unitW, he]
  | case6 a p s r ih =>
    obtain ⟨u, hu, rfl⟩ := Option.map_eq_some_iff.mp h
    simp [Op.toW, wcost_ins, ih u hu]
  | case7 p b s r ih =>
    obtain ⟨u, hu, rfl⟩ := Option.map_eq_some_iff.mp h
    simp [Op.toW, wcost_del, ih u hu]
  | case8 => cases h

theorem ed_le_acost (eqv : Nat → Nat → Bool) (ops : List Op) (p s : List Nat) (v : Nat)
    (h : acost eqv p s ops = some v) : ed (unitW eqv) p s ≤ v :=
  ed_le_wcost _ _ _ _ _ (acost_wcost eqv ops p s v h)

/-! ## free end -/

/-- minimum over all prefixes `u'` of `u` of `ed w q u'` (recursion: the three DP moves; stopping is free once the
pattern is consumed) -/
def fe (w : Nat → Nat → Nat) : List Nat → List Nat → Nat
  | [], _ => 0
  | _ :: q, [] => 1 + fe w q []
  | a :: q, b :: u => min (w a b + fe w q u) (min (1 + fe w q (b :: u)) (1 + fe w (a :: q) u))
termination_by q u => q.length + u.length

theorem fe_nil_right (w : Nat → Nat → Nat) (q : List Nat) : fe w q [] = q.length := by
  induction q with
  | nil => simp [fe]
  | cons a q ih => simp [fe, ih]; omega

theorem min3_le_min3 {A B C A' B' C' : Nat} (hA : A ≤ A') (hB : B ≤ B') (hC : C ≤ C') :
    min A (min B C) ≤ min A' (min B' C') :=
  Nat.le_min.mpr ⟨Nat.le_trans (Nat.min_le_left _ _) hA, Nat.le_min.mpr
    ⟨Nat.le_trans (Nat.le_trans (Nat.min_le_right _ _) (Nat.min_le_left _ _)) hB,
      Nat.le_trans (Nat.le_trans (Nat.min_le_right _ _) (Nat.min_le_right _ _)) hC⟩⟩

theorem fe_le (w : Nat → Nat → Nat) (q u : List Nat) : ∀ k, fe w q u ≤ ed w q (u.take k) := by
  fun_induction fe w q u with
  | case1 u => intro k; simp
  | case2 a q ih =>
    intro k
    have := ih 0
    simp only [List.take_nil] at this ⊢
    rw [ed]; omega
  | case3 a q b u ih1 ih2 ih3 =>
    intro k
    cases k with
    | zero =>
      have := ih2 0
      simp only [List.take_zero] at this ⊢
      rw [ed]; omega
    | succ k =>
      have h2 := ih2 (k + 1)
      rw [List.take_succ_cons] at h2 ⊢
      rw [ed_cons_cons]
      exact min3_le_min3 (Nat.add_le_add_left (ih1 k) _) (Nat.add_le_add_left h2 1) (Nat.add_le_add_left (ih3 k) 1)

/-- some prefix is no dearer than `fe`: follow the move that attains the minimum, then the prefix found for it -/
theorem fe_ge (w : Nat → Nat → Nat) (q u : List Nat) : ∃ k, k ≤ u.length ∧ ed w q (u.take k) ≤ fe w q u := by
  fun_induction fe w q u with
  | case1 u => exact ⟨0, by simp, by simp [ed]⟩
  | case2 a q ih => exact ⟨0, by simp, by simp [ed_nil_right, fe_nil_right]; omega⟩
  | case3 a q b u ih1 ih2 ih3 =>
    obtain ⟨k1, hk1, h1⟩ := ih1
    obtain ⟨k2, hk2, h2⟩ := ih2
    obtain ⟨k3, hk3, h3⟩ := ih3
    have c1 : ed w (a :: q) ((b :: u).take (k1 + 1)) ≤ w a b + fe w q u := by
      rw [List.take_succ_cons, ed_cons_cons]; omega
    have c2 := ed_cons_pat_le w a q ((b :: u).take k2)
    have c3 := ed_cons_text_le w b (a :: q) (u.take k3)
    by_cases hm : w a b + fe w q u ≤ min (1 + fe w q (b :: u)) (1 + fe w (a :: q) u)
    · exact ⟨k1 + 1, Nat.succ_le_succ hk1, by omega⟩
    · by_cases hi : fe w q (b :: u) ≤ fe w (a :: q) u
      · exact ⟨k2, hk2, by omega⟩
      · exact ⟨k3 + 1, Nat.succ_le_succ hk3, by rw [List.take_succ_cons]; omega⟩

theorem fe_attained (w : Nat → Nat → Nat) (q u : List Nat) :
    ∃ k, k ≤ u.length ∧ fe w q u = ed w q (u.take k) := by
  obtain ⟨k, hk, h⟩ := fe_ge w q u
  exact ⟨k, hk, Nat.le_antisymm (fe_le w q u k) h⟩

/-! ## the Sellers column -/

/-- `[F q[a..] u | a = 0 .. |q|]`: the column of a two-argument recursion `F` (`fe w` here, `ed w` for `edFast` below) -/
def specCol (F : List Nat → List Nat → Nat) : List Nat → List Nat → List Nat
  | [], u => [F [] u]
  | a :: q, u => F (a :: q) u :: specCol F q u

/-- column for the empty text: `[|q|, |q|-1, …, 0]` -/
def initCol : List Nat → List Nat
  | [] => [0]
  | _ :: q => (q.length + 1) :: initCol q

/-- one column step: the text symbol `b` is put in front of the (reversed) text read so far -/
def nextCol (w : Nat → Nat → Nat) (b : Nat) : List Nat → List Nat → List Nat
  | [], _ => [0]
  | a :: q, old =>
    let rest := nextCol w b q old.tail
    min (w a b + old.tail.headD 0) (min (1 + rest.headD 0) (1 + old.headD 0)) :: rest

theorem specCol_headD (F : List Nat → List Nat → Nat) (q u : List Nat) : (specCol F q u).headD 0 = F q u := by
  cases q <;> rfl

theorem initCol_eq {F : List Nat → List Nat → Nat} (hF : ∀ q, F q [] = q.length) (q : List Nat) : initCol q = specCol F q [] := by
  induction q with
  | nil => simp [initCol, specCol, hF]
  | cons a q ih => simp [initCol, specCol, ih, hF]

theorem nextCol_spec (w : Nat → Nat → Nat) (b : Nat) (q u : List Nat) :
    nextCol w b q (specCol (fe w) q u) = specCol (fe w) q (b :: u) := by
  induction q with
  | nil => simp [nextCol, specCol, fe]
  | cons a q ih =>
    simp only [nextCol, specCol, List.tail_cons, List.headD_cons, ih, specCol_headD]
    rw [fe]

/-- run the column over the text, emitting the entry of the full pattern after every symbol -/
def scanCols (w : Nat → Nat → Nat) (q : List Nat) : List Nat → List Nat → List Nat
  | _, [] => []
  | col, c :: t =>
    let col' := nextCol w c q col
    col'.headD 0 :: scanCols w q col' t

/-- `D[0], …, D[n-1]`: last row of the Sellers matrix of pattern `p` against text `t` -/
def lastRow (w : Nat → Nat → Nat) (p t : List Nat) : List Nat :=
  scanCols w p.reverse (initCol p.reverse) t

theorem scanCols_length (w : Nat → Nat → Nat) (q : List Nat) : ∀ (t col : List Nat),
    (scanCols w q col t).length = t.length := by
  intro t
  induction t with
  | nil => intro col; simp [scanCols]
  | cons c t ih => intro col; simp [scanCols, ih]

theorem scanCols_spec (w : Nat → Nat → Nat) (q : List Nat) : ∀ (t u : List Nat) (j : Nat), j < t.length →
    (scanCols w q (specCol (fe w) q u) t)[j]? = some (fe w q ((t.take (j + 1)).reverse ++ u)) := by
  intro t
  induction t with
  | nil => intro u j h; simp at h
  | cons c t ih =>
    intro u j h
    simp only [scanCols, nextCol_spec]
    cases j with
    | zero => rw [specCol_headD]; simp
    | succ j =>
      have := ih (c :: u) j (by simpa using h)
      simp only [List.getElem?_cons_succ, this, List.take_succ_cons, List.reverse_cons,
        List.append_assoc, List.singleton_append]

theorem lastRow_length (w : Nat → Nat → Nat) (p t : List Nat) : (lastRow w p t).length = t.length :=
  scanCols_length w _ t _

theorem lastRow_fe (w : Nat → Nat → Nat) (p t : List Nat) (j : Nat) (h : j < t.length) :
    (lastRow w p t)[j]? = some (fe w p.reverse (t.take (j + 1)).reverse) := by
  unfold lastRow
  rw [initCol_eq (fe_nil_right w), scanCols_spec w _ t [] j h]
  simp

theorem reverse_take_reverse (x : List Nat) (k : Nat) :
    (x.reverse.take k).reverse = x.drop (x.length - k) := by
  rw [List.take_reverse, List.reverse_reverse]

/-- over the reversed strings `fe` is the minimum over the *suffixes*: a lower bound for each … -/
theorem fe_reverse_le (w : Nat → Nat → Nat) (p x : List Nat) (s : Nat) (hs : s ≤ x.length) :
    fe w p.reverse x.reverse ≤ ed w p (x.drop s) := by
  have := fe_le w p.reverse x.reverse (x.length - s)
  rwa [← ed_reverse w p.reverse, List.reverse_reverse, reverse_take_reverse,
    show x.length - (x.length - s) = s by omega] at this

/-- … attained by one of them -/
theorem fe_reverse_attained (w : Nat → Nat → Nat) (p x : List Nat) :
    ∃ s, s ≤ x.length ∧ fe w p.reverse x.reverse = ed w p (x.drop s) := by
  obtain ⟨k, hk, h⟩ := fe_attained w p.reverse x.reverse
  exact ⟨x.length - k, by omega, by rw [h, ← ed_reverse w p.reverse, List.reverse_reverse, reverse_take_reverse]⟩

/-- `d` is the minimum edit distance between `p` and any substring of `t` that ends at position `j` (inclusive) -/
def IsMinEdAt (w : Nat → Nat → Nat) (p t : List Nat) (j d : Nat) : Prop :=
  (∀ s, s ≤ j + 1 → d ≤ ed w p ((t.take (j + 1)).drop s)) ∧
  (∃ s, s ≤ j + 1 ∧ d = ed w p ((t.take (j + 1)).drop s))

theorem lastRow_lt {w : Nat → Nat → Nat} {p t : List Nat} {j d : Nat} (hd : (lastRow w p t)[j]? = some d) : j < t.length := by
  have := lastRow_length w p t
  have := (List.getElem?_eq_some_iff.mp hd).1
  omega

/-- **Sellers**: `D[j]` is the minimum over all start positions of the distance of the pattern to the substring ending at `j` -/
theorem lastRow_isMin {w : Nat → Nat → Nat} {p t : List Nat} {j d : Nat} (hd : (lastRow w p t)[j]? = some d) :
    IsMinEdAt w p t j d := by
  have hj := lastRow_lt hd
  have hlen : (t.take (j + 1)).length = j + 1 := by simp; omega
  rw [lastRow_fe w p t j hj] at hd
  cases hd
  refine ⟨fun s hs => fe_reverse_le w p _ s (by omega), ?_⟩
  obtain ⟨s, hs, h⟩ := fe_reverse_attained w p (t.take (j + 1))
  exact ⟨s, by omega, h⟩

theorem IsMinEdAt.unique (w : Nat → Nat → Nat) (p t : List Nat) (j d d' : Nat)
    (h : IsMinEdAt w p t j d) (h' : IsMinEdAt w p t j d') : d = d' := by
  obtain ⟨s, hs, e⟩ := h.2
  obtain ⟨s', hs', e'⟩ := h'.2
  have a := h.1 s' hs'
  have b := h'.1 s hs
  omega

/-- … and the column holds that minimum -/
theorem lastRow_of_isMin {w : Nat → Nat → Nat} {p t : List Nat} {j d : Nat} (h : IsMinEdAt w p t j d) (hj : j < t.length) :
    (lastRow w p t)[j]? = some d := by
  have hget : (lastRow w p t)[j]? = some ((lastRow w p t)[j]'(by rw [lastRow_length]; exact hj)) :=
    List.getElem?_eq_getElem _
  rw [IsMinEdAt.unique w p t j _ _ (lastRow_isMin hget) h] at hget
  exact hget

/-! ## observables built from the column -/

/-- expected output of `find_all_end(text, k)`: all `(j, D[j])` with `D[j] ≤ k`, in text order -/
def hitsFrom (k : Nat) : Nat → List Nat → List (Nat × Nat)
  | _, [] => []
  | j, d :: r => if d ≤ k then (j, d) :: hitsFrom k (j + 1) r else hitsFrom k (j + 1) r

def hits (w : Nat → Nat → Nat) (p t : List Nat) (k : Nat) : List (Nat × Nat) :=
  hitsFrom k 0 (lastRow w p t)

/-- first position of the minimum, and the minimum (`none` for the empty list) -/
def firstMin : Nat → List Nat → Option (Nat × Nat)
  | _, [] => none
  | j, d :: r =>
    match firstMin (j + 1) r with
    | none => some (j, d)
    | some (j', d') => if d ≤ d' then some (j, d) else some (j', d')

theorem mem_hitsFrom (k : Nat) : ∀ (l : List Nat) (off j d : Nat),
    (j, d) ∈ hitsFrom k off l ↔ off ≤ j ∧ l[j - off]? = some d ∧ d ≤ k := by
  intro l
  induction l with
  | nil => intro off j d; simp [hitsFrom]
  | cons x r ih =>
    intro off j d
    have htail : (j, d) ∈ hitsFrom k (off + 1) r ↔ off < j ∧ (x :: r)[j - off]? = some d ∧ d ≤ k := by
      rw [ih]
      constructor
      · rintro ⟨h1, h2, h3⟩
        exact ⟨h1, by rw [show j - off = (j - (off + 1)) + 1 by omega]; exact h2, h3⟩
      · rintro ⟨h1, h2, h3⟩
        rw [show j - off = (j - (off + 1)) + 1 by omega] at h2
        exact ⟨h1, h2, h3⟩
    have hhead : ((j, d) = (off, x) ∧ x ≤ k) ↔ off = j ∧ (x :: r)[j - off]? = some d ∧ d ≤ k := by
      constructor
      · rintro ⟨h, hx⟩; cases h; simp [hx]
      · rintro ⟨rfl, h2, h3⟩; simp at h2; subst h2; exact ⟨rfl, h3⟩
    have hsplit : off ≤ j ↔ off = j ∨ off < j := by omega
    simp only [hitsFrom]
    split
    · rename_i hx
      rw [List.mem_cons, htail, hsplit, or_and_right, ← hhead]
      simp [hx]
    · rename_i hx
      rw [htail, hsplit, or_and_right, ← hhead]
      simp [hx]

theorem hitsFrom_sorted (k : Nat) : ∀ (l : List Nat) (off : Nat),
    (hitsFrom k off l).Pairwise (fun a b => a.1 < b.1) := by
  intro l
  induction l with
  | nil => intro off; simp [hitsFrom]
  | cons x r ih =>
    intro off
    simp only [hitsFrom]
    split
    · rw [List.pairwise_cons]
      refine ⟨?_, ih _⟩
      intro ⟨j, d⟩ hmem
      have := (mem_hitsFrom k r (off + 1) j d).mp hmem
      simp; omega
    · exact ih _

theorem firstMin_eq_none (off : Nat) (l : List Nat) (h : firstMin off l = none) : l = [] := by
  cases l with
  | nil => rfl
  | cons z r =>
    simp only [firstMin] at h
    split at h
    · cases h
    · split at h <;> cases h

theorem firstMin_spec (l : List Nat) (off j d : Nat) (h : firstMin off l = some (j, d)) :
    off ≤ j ∧ l[j - off]? = some d ∧ (∀ (i x : Nat), l[i]? = some x → d ≤ x) ∧
    (∀ (i x : Nat), l[i]? = some x → i < j - off → d < x) := by
  fun_induction firstMin off l generalizing j d with
  | case1 => cases h
  | case2 off y r hr =>
    cases h
    cases firstMin_eq_none _ _ hr
    refine ⟨Nat.le_refl _, by simp, fun i x hi => ?_, fun i x _ hlt => by omega⟩
    cases i with
    | zero => simp at hi; omega
    | succ i => simp at hi
  | case3 off y r j' d' hr hle ih =>
    cases h
    refine ⟨Nat.le_refl _, by simp, fun i x hi => ?_, fun i x _ hlt => by omega⟩
    cases i with
    | zero => simp at hi; omega
    | succ i =>
      simp at hi
      have := (ih j' d' hr).2.2.1 i x hi
      omega
  | case4 off y r j' d' hr hnle ih =>
    cases h
    obtain ⟨h1, h2, h3, h4⟩ := ih j' d' hr
    refine ⟨by omega, ?_, fun i x hi => ?_, fun i x hi hlt => ?_⟩
    · rw [show j' - off = (j' - (off + 1)) + 1 by omega]; simpa using h2
    · cases i with
      | zero => simp at hi; omega
      | succ i => simp at hi; exact h3 i x hi
    · cases i with
      | zero => simp at hi; omega
      | succ i => simp at hi; exact h4 i x hi (by omega)

/-! ## efficient evaluation of `ed` itself (both ends fixed): the same column with a paid bottom cell -/

def nextColG (w : Nat → Nat → Nat) (b : Nat) : List Nat → List Nat → List Nat
  | [], old => [1 + old.headD 0]
  | a :: q, old =>
    let rest := nextColG w b q old.tail
    min (w a b + old.tail.headD 0) (min (1 + rest.headD 0) (1 + old.headD 0)) :: rest

/-- dynamic-programming evaluation of `ed w p s` (columns over the suffixes of `s`) -/
def edFast (w : Nat → Nat → Nat) (p s : List Nat) : Nat :=
  (s.foldr (fun b col => nextColG w b p col) (initCol p)).headD 0

theorem nextColG_spec (w : Nat → Nat → Nat) (b : Nat) (q u : List Nat) :
    nextColG w b q (specCol (ed w) q u) = specCol (ed w) q (b :: u) := by
  induction q with
  | nil => simp [nextColG, specCol, ed]
  | cons a q ih =>
    simp only [nextColG, specCol, List.tail_cons, List.headD_cons, ih, specCol_headD]
    rw [ed]

theorem foldr_nextColG (w : Nat → Nat → Nat) (p s : List Nat) :
    s.foldr (fun b col => nextColG w b p col) (initCol p) = specCol (ed w) p s := by
  induction s with
  | nil => simp [initCol_eq (ed_nil_right w)]
  | cons b s ih => simp only [List.foldr_cons, ih, nextColG_spec]

theorem edFast_eq (w : Nat → Nat → Nat) (p s : List Nat) : edFast w p s = ed w p s := by
  unfold edFast
  rw [foldr_nextColG, specCol_headD]

/-! ## Hamming distance -/

/-- number of positions at which the strings differ; `none` when the lengths differ -/
def hamming : List Nat → List Nat → Option Nat
  | [], [] => some 0
  | a :: x, b :: y => (hamming x y).map (· + (if a = b then 0 else 1))
  | _, _ => none

theorem hamming_isSome_iff (a b : List Nat) : (hamming a b).isSome ↔ a.length = b.length := by
  induction a generalizing b with
  | nil => cases b <;> simp [hamming]
  | cons x a ih =>
    cases b with
    | nil => simp [hamming]
    | cons y b => simp [hamming, ih]

end RbV.EditDist
