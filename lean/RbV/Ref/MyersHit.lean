import RbV.Ref.EditDist
/-!
Acceptance function for one reported Myers hit with traceback (C10).  Core Lean only.

`checkHit eqv p t k ⟨start, stop, dist, ops⟩` (stop exclusive): `ops` is a labelled alignment of the whole pattern
with `t[start..stop]` (Match only over equivalent symbols, Subst only over non-equivalent ones) with exactly `dist`
non-match operations, `dist` is the Sellers column value at end position `stop-1`, and `dist ≤ k`.
-/
namespace RbV.EditDist

structure Hit where
  start : Nat
  stop : Nat
  dist : Nat
  ops : List Op
deriving Repr

/-- the acceptance test against a given column (the driver computes the column once per search) -/
def checkHitRow (row : List Nat) (eqv : Nat → Nat → Bool) (p t : List Nat) (k : Nat) (h : Hit) : Bool :=
  decide (h.start ≤ h.stop) && decide (1 ≤ h.stop) && decide (h.stop ≤ t.length) &&
  (acost eqv p ((t.take h.stop).drop h.start) h.ops == some h.dist) &&
  (row[h.stop - 1]? == some h.dist) && decide (h.dist ≤ k)

def checkHit (eqv : Nat → Nat → Bool) (p t : List Nat) (k : Nat) (h : Hit) : Bool :=
  checkHitRow (lastRow (unitW eqv) p t) eqv p t k h

/-- what the property demands of a hit -/
def HitOK (eqv : Nat → Nat → Bool) (p t : List Nat) (k : Nat) (h : Hit) : Prop :=
  h.start ≤ h.stop ∧ 1 ≤ h.stop ∧ h.stop ≤ t.length ∧
  acost eqv p ((t.take h.stop).drop h.start) h.ops = some h.dist ∧
  IsMinEdAt (unitW eqv) p t (h.stop - 1) h.dist ∧ h.dist ≤ k

theorem checkHit_iff_HitOK (eqv : Nat → Nat → Bool) (p t : List Nat) (k : Nat) (h : Hit) :
    checkHit eqv p t k h = true ↔ HitOK eqv p t k h := by
  unfold checkHit checkHitRow HitOK
  simp only [Bool.and_eq_true, decide_eq_true_eq, beq_iff_eq]
  constructor
  · rintro ⟨⟨⟨⟨⟨h1, h2⟩, h3⟩, h4⟩, h5⟩, h6⟩
    exact ⟨h1, h2, h3, h4, lastRow_isMin h5, h6⟩
  · rintro ⟨h1, h2, h3, h4, h5, h6⟩
    refine ⟨⟨⟨⟨⟨h1, h2⟩, h3⟩, h4⟩, ?_⟩, h6⟩
    exact lastRow_of_isMin h5 (by omega)

/-- an accepted hit identifies a substring whose edit distance to the pattern is the reported distance -/
theorem hitOK_ed (eqv : Nat → Nat → Bool) (p t : List Nat) (k : Nat) (h : Hit) (ok : HitOK eqv p t k h) :
    ed (unitW eqv) p ((t.take h.stop).drop h.start) = h.dist := by
  obtain ⟨h1, h2, _, h4, h5, _⟩ := ok
  apply Nat.le_antisymm
  · exact ed_le_acost eqv h.ops p _ h.dist h4
  · have := h5.1 h.start (by omega)
    have e : h.stop - 1 + 1 = h.stop := by omega
    rw [e] at this
    exact this

end RbV.EditDist
