import RbV.Ref.SA
/-
Completeness of `checkSA` (C03):  `IsSA t sa → t ≠ [] → checkSA t sa = true`.

If *any* sentinel order makes `sa` sorted, then the order read off `sa` itself (the order in which the sentinel
positions appear in `sa`) is order-isomorphic to it on the sentinel positions, the two key texts compare all pairs
of positions in the same way, and therefore `sa` is sorted under the induced order as well.
-/
namespace RbV

theorem idxOf_lt_iff_of_pairwise (sp : List Nat) (rk : Nat → Nat)
    (hpw : sp.Pairwise (fun a b => rk a < rk b)) (p q : Nat) (hp : p ∈ sp) (hq : q ∈ sp) :
    sp.idxOf p < sp.idxOf q ↔ rk p < rk q := by
  have lp := List.idxOf_lt_length_iff.mpr hp
  have lq := List.idxOf_lt_length_iff.mpr hq
  have ep := List.getElem_idxOf lp
  have eq := List.getElem_idxOf lq
  have key := List.pairwise_iff_getElem.mp hpw
  constructor
  · intro h
    have := key _ _ lp lq h
    rwa [ep, eq] at this
  · intro h
    rcases Nat.lt_trichotomy (sp.idxOf p) (sp.idxOf q) with h1 | h1 | h1
    · exact h1
    · have : p = q := by rw [← ep, ← eq]; congr 1
      subst this; omega
    · have := key _ _ lq lp h1
      rw [ep, eq] at this; omega

/-- an array sorted by the suffixes of a key text starts with the final position -/
theorem head_of_suffixSorted_keyText (t sa : List Nat) (B : Nat) (rk : Nat → Nat) (ho : SentinelOrder t B rk)
    (hs : SuffixSorted (keyText t B rk) sa) (hne : t ≠ []) : sa.head? = some (t.length - 1) := by
  obtain ⟨hp, hpw⟩ := hs
  rw [length_keyText] at hp
  have hn : 0 < t.length := List.length_pos_iff.mpr hne
  have hlastmem : t.length - 1 ∈ sa := by rw [hp.mem_iff, List.mem_range]; omega
  cases sa with
  | nil => simp at hlastmem
  | cons a rest =>
    simp only [List.head?_cons, Option.some.injEq]
    apply Classical.byContradiction
    intro hne'
    have hmem : t.length - 1 ∈ rest := by
      rw [List.mem_cons] at hlastmem
      rcases hlastmem with h | h
      · exact absurd h.symm hne'
      · exact h
    rw [List.pairwise_cons] at hpw
    have hlt := hpw.1 _ hmem
    have ha : a < t.length := by
      have : a ∈ List.range t.length := hp.mem_iff.mp (by simp)
      exact List.mem_range.mp this
    -- the suffix at `n - 1` has one symbol, so `a` is below it by its first key
    have hlt := ((sufLt_keyText_iff t B rk a (t.length - 1) ha (by omega)).mp hlt).resolve_right
      (fun h => not_sufLt_of_length_le _ _ _ (by rw [length_keyText]; omega) h.2)
    rw [keyAt_lt_iff t B rk ho] at hlt
    have hsl := isSentPos_last t hne
    rcases hlt with ⟨h1, _, h3⟩ | ⟨_, h2⟩ | ⟨_, h2, _⟩
    · have := ho.last a h1 hne'
      omega
    · exact h2 hsl
    · exact h2 hsl

theorem checkSA_complete_aux (t sa : List Nat) (hne : t ≠ []) (h : IsSA t sa) : checkSA t sa = true := by
  obtain ⟨B, rk, ho, hs⟩ := h
  have hhead := head_of_suffixSorted_keyText t sa B rk ho hs hne
  obtain ⟨hp, hpw⟩ := hs
  rw [length_keyText] at hp
  rw [checkSA_eq_true_iff]
  refine ⟨hhead, hne, ?_⟩
  have hio := induced_sentinelOrder t sa hp hhead hne
  -- the sentinel positions, in the order of `sa`, are increasing for `rk`
  have hsub : (sentPositions t sa).Sublist sa := List.filter_sublist
  have hsp_sent : ∀ p ∈ sentPositions t sa, IsSentPos t p := fun p h => (mem_sentPositions hp p).mp h
  have hsp_mem : ∀ p, IsSentPos t p → p ∈ sentPositions t sa := fun p h => (mem_sentPositions hp p).mpr h
  have hrk : (sentPositions t sa).Pairwise (fun a b => rk a < rk b) := by
    have h1 := List.Pairwise.sublist hsub hpw
    -- strengthen with membership information
    have h2 : (sentPositions t sa).Pairwise (fun a b => a ≠ b) :=
      List.Pairwise.sublist hsub ((hp.nodup_iff).mpr List.nodup_range)
    have h3 := h1.and h2
    refine List.Pairwise.imp_of_mem ?_ h3
    intro a b ha hb ⟨hab, hneab⟩
    have sa_ := hsp_sent a ha
    have sb_ := hsp_sent b hb
    -- the key of a sentinel position is its rank
    rw [sufLt_keyText_iff t B rk a b sa_.lt sb_.lt, keyAt, keyAt, if_pos sa_, if_pos sb_] at hab
    exact hab.resolve_right (fun h => hneab (ho.inj a b sa_ sb_ h.1))
  refine ⟨by unfold inducedKeys; simpa [length_keyText] using hp, ?_⟩
  -- same comparisons under both key texts
  have hiso : ∀ p q, p < (keyText t B rk).length → q < (keyText t B rk).length →
      ((keyText t B rk).getD p 0 < (keyText t B rk).getD q 0 ↔
        (inducedKeys t sa).getD p 0 < (inducedKeys t sa).getD q 0) := by
    intro p q hp' hq'
    rw [length_keyText] at hp' hq'
    unfold inducedKeys
    simp only
    rw [getD_keyText t B rk p hp', getD_keyText t B rk q hq', getD_keyText t _ _ p hp', getD_keyText t _ _ q hq',
      keyAt_lt_iff t B rk ho, keyAt_lt_iff t _ _ hio]
    by_cases hsp : IsSentPos t p <;> by_cases hsq : IsSentPos t q
    · have := idxOf_lt_iff_of_pairwise _ rk hrk p q (hsp_mem p hsp) (hsp_mem q hsq)
      simp [hsp, hsq, this]
    · simp [hsp, hsq]
    · simp [hsp, hsq]
    · simp [hsp, hsq]
  exact pairwise_sufLt_congr (keyText t B rk) (inducedKeys t sa) (by unfold inducedKeys; simp [length_keyText]) hiso hpw

end RbV
