import RbV.Basic.PrefixCount
/-
Specification-level references for C04 (BWT, less, Occ).

* `bwtRef t sa`     row r ↦ the symbol that cyclically precedes position `sa[r]`
* `lessRef bwt c`   number of symbols strictly smaller than `c`
* `occRef bwt r c`  number of occurrences of `c` in `bwt[0..=r]`
* `occCol bwt c`    the whole column `r ↦ occRef bwt r c` by one running count (what the driver evaluates)

`Model/LFMapping.lean` has its own `LF.bwtOf`, `LF.lessRef`, `LF.occRef` (the counting argument of the LF mapping is written in them,
and published statements name both families).  `LF.lessRef`/`LF.occRef` unfold to the same terms as `lessRef`/`occRef` here;
`LF.bwtOf` is the `if p > 0` form of `map_ite_eq_bwtRef`.  The two families meet in `Model/LFMap.lean`; the head of
`Model/LFMapping.lean` says why that file must not import this one.
-/
namespace RbV

def bwtRef (t sa : List Nat) : List Nat :=
  sa.map (fun p => t.getD ((p + t.length - 1) % t.length) 0)

/-- the form `bwt()` computes (`if p > 0 { text[p - 1] } else { text[n - 1] }`) is the specification's (`% n`) on arrays of text
positions -/
theorem map_ite_eq_bwtRef (t sa : List Nat) (h : ∀ p ∈ sa, p < t.length) :
    sa.map (fun p => if p > 0 then t.getD (p - 1) 0 else t.getD (t.length - 1) 0) = bwtRef t sa := by
  unfold bwtRef
  apply List.map_congr_left
  intro p hp
  have hlt := h p hp
  by_cases h0 : p > 0
  · have : (p + t.length - 1) % t.length = p - 1 := by
      have e : p + t.length - 1 = (p - 1) + t.length := by omega
      rw [e, Nat.add_mod_right, Nat.mod_eq_of_lt (by omega)]
    rw [if_pos h0, this]
  · have hp0 : p = 0 := Nat.eq_zero_of_not_pos h0
    subst hp0
    rw [if_neg h0, Nat.zero_add, Nat.mod_eq_of_lt (Nat.sub_lt hlt Nat.one_pos)]

def lessRef (bwt : List Nat) (c : Nat) : Nat := bwt.countP (fun x => decide (x < c))

/-- number of c in bwt[0..=r] -/
def occRef (bwt : List Nat) (r c : Nat) : Nat := (bwt.take (r + 1)).count c

theorem lessRef_succ (bwt : List Nat) (c : Nat) : lessRef bwt (c + 1) = lessRef bwt c + bwt.count c :=
  List.countP_lt_succ bwt c

theorem lessRef_mono (bwt : List Nat) {a b : Nat} (h : a ≤ b) : lessRef bwt a ≤ lessRef bwt b :=
  List.countP_mono_left fun _ _ hx => decide_eq_true (Nat.lt_of_lt_of_le (of_decide_eq_true hx) h)

theorem lessRef_add_count_le (bwt : List Nat) (c : Nat) : lessRef bwt c + bwt.count c ≤ bwt.length :=
  List.countP_lt_add_count_le bwt c

theorem mem_bwtRef_lt (t sa : List Nat) (m : Nat) (hpos : 0 < t.length) (hm : ∀ x ∈ t, x < m) :
    ∀ x ∈ bwtRef t sa, x < m := by
  intro x hx
  unfold bwtRef at hx
  obtain ⟨p, _, rfl⟩ := List.mem_map.mp hx
  have hlt : (p + t.length - 1) % t.length < t.length := Nat.mod_lt _ hpos
  rw [List.getD_eq_getElem?_getD, List.getElem?_eq_getElem hlt]
  exact hm _ (List.getElem_mem hlt)

/-- running count: entry r = number of `c` among the first r+1 symbols (started with `acc` already seen) -/
def occColGo (c : Nat) : List Nat → Nat → List Nat
  | [], _ => []
  | x :: xs, acc =>
    let acc' := if x = c then acc + 1 else acc
    acc' :: occColGo c xs acc'

def occCol (bwt : List Nat) (c : Nat) : List Nat := occColGo c bwt 0

theorem occColGo_getElem? (c : Nat) (xs : List Nat) (acc r : Nat) :
    (occColGo c xs acc)[r]? = if r < xs.length then some (acc + (xs.take (r + 1)).count c) else none := by
  induction xs generalizing acc r with
  | nil => simp [occColGo]
  | cons x xs ih =>
    simp only [occColGo]
    cases r with
    | zero =>
      by_cases h : x = c <;> simp [h]
    | succ r =>
      rw [List.getElem?_cons_succ, ih]
      by_cases h : x = c
      · simp [h]
        split
        · simp; omega
        · rfl
      · simp [h]

/-- the column evaluated by the driver is the specification, row by row -/
theorem occCol_getElem? (bwt : List Nat) (c r : Nat) (h : r < bwt.length) :
    (occCol bwt c)[r]? = some (occRef bwt r c) := by
  simp [occCol, occColGo_getElem?, h, occRef]

theorem length_occColGo (c : Nat) (xs : List Nat) (acc : Nat) : (occColGo c xs acc).length = xs.length := by
  induction xs generalizing acc with
  | nil => simp [occColGo]
  | cons x xs ih => simp [occColGo, ih]

theorem length_occCol (bwt : List Nat) (c : Nat) : (occCol bwt c).length = bwt.length :=
  length_occColGo c bwt 0

end RbV
