import RbV.Spec.SufOrder
import RbV.Spec.Occ
/-
Acceptance function for suffix arrays and references for LCP / shortest unique substrings (C03).

* `checkSorted ks sa`  permutation test + all *adjacent* pairs increasing in suffix order  (→ `SuffixSorted`)
* `checkSA t sa`       sentinel order := order in which the sentinel positions appear in `sa`; `sa[0] = n-1`;
                       `checkSorted` under the induced key text                              (→ `IsSA`)
* `cpl a b`            length of the longest common prefix, `lcpRef t sa` with its entries (`lcpRef_inner`, `lcpRef_ends`, `lcpRef_last`)
* `susRef t p`         1 + the longest prefix the suffix at `p` shares with any other suffix
-/
namespace RbV

/-- `r` holds for every adjacent pair -/
def adjAll (r : Nat → Nat → Bool) : List Nat → Bool
  | a :: b :: l => r a b && adjAll r (b :: l)
  | _ => true

theorem adjAll_pairwise (r : Nat → Nat → Bool)
    (htr : ∀ a b c, r a b = true → r b c = true → r a c = true) :
    ∀ l, adjAll r l = true → l.Pairwise (fun a b => r a b = true)
  | [] => by simp
  | [a] => by simp
  | a :: b :: l => by
    intro h
    simp only [adjAll, Bool.and_eq_true] at h
    have ih := adjAll_pairwise r htr (b :: l) h.2
    rw [List.pairwise_cons]
    refine ⟨?_, ih⟩
    intro x hx
    rw [List.mem_cons] at hx
    rcases hx with rfl | hx
    · exact h.1
    · rw [List.pairwise_cons] at ih
      exact htr a b x h.1 (ih.1 x hx)

theorem pairwise_adjAll (r : Nat → Nat → Bool) :
    ∀ l, l.Pairwise (fun a b => r a b = true) → adjAll r l = true
  | [] => by simp [adjAll]
  | [a] => by simp [adjAll]
  | a :: b :: l => by
    intro h
    rw [List.pairwise_cons] at h
    simp only [adjAll, Bool.and_eq_true]
    exact ⟨h.1 b (by simp), pairwise_adjAll r (b :: l) h.2⟩

def sufLtB (ks : List Nat) (i j : Nat) : Bool := lexLtB (ks.drop i) (ks.drop j)

theorem sufLtB_iff (ks : List Nat) (i j : Nat) : sufLtB ks i j = true ↔ sufLt ks i j :=
  lexLtB_iff _ _

/-- permutation test and adjacent pairs increasing -/
def checkSorted (ks sa : List Nat) : Bool :=
  sa.isPerm (List.range ks.length) && adjAll (sufLtB ks) sa

theorem checkSorted_iff (ks sa : List Nat) : checkSorted ks sa = true ↔ SuffixSorted ks sa := by
  unfold checkSorted SuffixSorted
  rw [Bool.and_eq_true, List.isPerm_iff]
  constructor
  · rintro ⟨hp, ha⟩
    refine ⟨hp, ?_⟩
    have := adjAll_pairwise (sufLtB ks)
      (fun a b c h1 h2 => (sufLtB_iff ks a c).mpr (sufLt_trans ((sufLtB_iff ks a b).mp h1) ((sufLtB_iff ks b c).mp h2)))
      sa ha
    exact this.imp (fun h => (sufLtB_iff ks _ _).mp h)
  · rintro ⟨hp, hs⟩
    refine ⟨hp, pairwise_adjAll _ _ ?_⟩
    exact hs.imp (fun h => (sufLtB_iff ks _ _).mpr h)

/-- sentinel positions in the order in which they appear in `sa` -/
def sentPositions (t sa : List Nat) : List Nat := sa.filter (fun p => decide (IsSentPos t p))

/-- key text under the order induced by `sa` -/
def inducedKeys (t sa : List Nat) : List Nat :=
  let sp := sentPositions t sa
  keyText t sp.length (fun p => sp.idxOf p)

def checkSA (t sa : List Nat) : Bool :=
  sa.head? == some (t.length - 1) && !t.isEmpty && checkSorted (inducedKeys t sa) sa

theorem checkSA_eq_true_iff (t sa : List Nat) :
    checkSA t sa = true ↔ sa.head? = some (t.length - 1) ∧ t ≠ [] ∧ SuffixSorted (inducedKeys t sa) sa := by
  unfold checkSA
  simp only [Bool.and_eq_true, beq_iff_eq, Bool.not_eq_true', List.isEmpty_eq_false_iff, checkSorted_iff, and_assoc]

theorem mem_sentPositions {t sa : List Nat} (hp : sa.Perm (List.range t.length)) (p : Nat) :
    p ∈ sentPositions t sa ↔ IsSentPos t p := by
  unfold sentPositions
  rw [List.mem_filter, decide_eq_true_eq, hp.mem_iff, List.mem_range]
  exact ⟨fun h => h.2, fun h => ⟨h.lt, h⟩⟩

theorem induced_sentinelOrder (t sa : List Nat) (hp : sa.Perm (List.range t.length))
    (hh : sa.head? = some (t.length - 1)) (ht : t ≠ []) :
    SentinelOrder t (sentPositions t sa).length (fun p => (sentPositions t sa).idxOf p) := by
  have hmem : ∀ p, IsSentPos t p → p ∈ sentPositions t sa := fun p h => (mem_sentPositions hp p).mpr h
  have hinj : ∀ p q, IsSentPos t p → IsSentPos t q →
      (sentPositions t sa).idxOf p = (sentPositions t sa).idxOf q → p = q := by
    intro p q h1 h2 he
    have l1 := List.idxOf_lt_length_iff.mpr (hmem p h1)
    have l2 := List.idxOf_lt_length_iff.mpr (hmem q h2)
    have e1 := List.getElem_idxOf l1
    have e2 := List.getElem_idxOf l2
    rw [← e1, ← e2]
    congr 1
  have hlast := isSentPos_last t ht
  refine ⟨fun p h => List.idxOf_lt_length_iff.mpr (hmem p h), hinj, ?_⟩
  intro q hq hne
  -- the last position is the head of `sa`, hence of the filtered list: rank 0
  have h0 : (sentPositions t sa).idxOf (t.length - 1) = 0 := by
    cases sa with
    | nil => simp at hh
    | cons a l =>
      simp only [List.head?_cons, Option.some.injEq] at hh
      subst hh
      unfold sentPositions
      rw [List.filter_cons]
      simp [hlast]
  rw [h0]
  apply Nat.pos_of_ne_zero
  intro hz
  exact hne (hinj q _ hq hlast (by rw [hz, h0]))

theorem checkSA_isSA (t sa : List Nat) (h : checkSA t sa = true) : IsSA t sa := by
  obtain ⟨hh, hne, hs⟩ := (checkSA_eq_true_iff t sa).mp h
  refine ⟨_, _, induced_sentinelOrder t sa ?_ hh hne, hs⟩
  have := hs.1
  unfold inducedKeys at this
  simpa [length_keyText] using this

/-- length of the longest common prefix -/
def cpl : List Nat → List Nat → Nat
  | a :: as, b :: bs => if a = b then cpl as bs + 1 else 0
  | _, _ => 0

theorem le_cpl_iff (a b : List Nat) (l : Nat) :
    l ≤ cpl a b ↔ l ≤ a.length ∧ l ≤ b.length ∧ a.take l = b.take l := by
  induction a generalizing b l with
  | nil => cases l <;> simp [cpl]
  | cons x xs ih =>
    cases b with
    | nil => cases l <;> simp [cpl]
    | cons y ys =>
      cases l with
      | zero => simp
      | succ l =>
        simp only [cpl, List.length_cons, List.take_succ_cons, List.cons.injEq, Nat.add_le_add_iff_right]
        by_cases h : x = y
        · rw [if_pos h, Nat.add_le_add_iff_right, ih ys l]; simp [h]
        · simp [h]

theorem cpl_le_left (a b : List Nat) : cpl a b ≤ a.length := ((le_cpl_iff a b _).mp (Nat.le_refl _)).1

theorem cpl_le_right (a b : List Nat) : cpl a b ≤ b.length := ((le_cpl_iff a b _).mp (Nat.le_refl _)).2.1

theorem cpl_take (a b : List Nat) : a.take (cpl a b) = b.take (cpl a b) := ((le_cpl_iff a b _).mp (Nat.le_refl _)).2.2

theorem cpl_max (a b : List Nat) (l : Nat) (hl : l ≤ a.length) (hl' : l ≤ b.length)
    (h : a.take l = b.take l) : l ≤ cpl a b := (le_cpl_iff a b l).mpr ⟨hl, hl', h⟩

theorem cpl_comm (a b : List Nat) : cpl a b = cpl b a :=
  Nat.le_antisymm (cpl_max b a _ (cpl_le_right a b) (cpl_le_left a b) (cpl_take a b).symm)
    (cpl_max a b _ (cpl_le_right b a) (cpl_le_left b a) (cpl_take b a).symm)

/-- LCP array: −1, then the common-prefix length of each pair of adjacent suffixes, then −1 -/
def lcpRef (t sa : List Nat) : List Int :=
  (-1 : Int) :: ((List.range (sa.length - 1)).map
      (fun r => (cpl (t.drop (sa.getD r 0)) (t.drop (sa.getD (r + 1) 0)) : Int))) ++ [(-1 : Int)]

theorem length_lcpRef (t sa : List Nat) (h : sa ≠ []) : (lcpRef t sa).length = sa.length + 1 := by
  have : 0 < sa.length := List.length_pos_iff.mpr h
  simp [lcpRef]; omega

theorem lcpRef_inner (t sa : List Nat) (r : Nat) (h : r + 1 < sa.length) :
    (lcpRef t sa)[r + 1]? = some (cpl (t.drop (sa.getD r 0)) (t.drop (sa.getD (r + 1) 0)) : Int) := by
  unfold lcpRef
  rw [List.cons_append, List.getElem?_cons_succ, List.getElem?_append_left (by simp; omega)]
  rw [List.getElem?_map, List.getElem?_range (by omega)]
  rfl

theorem lcpRef_ends (t sa : List Nat) : (lcpRef t sa)[0]? = some (-1) ∧ (lcpRef t sa).getLast? = some (-1) := by
  refine ⟨by simp [lcpRef], ?_⟩
  unfold lcpRef
  rw [List.getLast?_append]
  simp

theorem lcpRef_last (t sa : List Nat) (hne : sa ≠ []) : (lcpRef t sa)[sa.length]? = some (-1) := by
  have hl := length_lcpRef t sa hne
  have := (lcpRef_ends t sa).2
  rw [List.getLast?_eq_getElem?, hl] at this
  simpa using this

/-- longest prefix the suffix at `p` shares with a suffix at one of the positions `qs` other than `p` -/
def maxShare (t : List Nat) (p : Nat) : List Nat → Nat
  | [] => 0
  | q :: qs => if q = p then maxShare t p qs else max (cpl (t.drop p) (t.drop q)) (maxShare t p qs)

/-- length of the shortest substring starting at `p` that occurs only there; `none` if every substring
starting at `p` occurs elsewhere too -/
def susRef (t : List Nat) (p : Nat) : Option Nat :=
  let l := maxShare t p (List.range t.length) + 1
  if p + l ≤ t.length then some l else none

theorem maxShare_ge (t : List Nat) (p q : Nat) (qs : List Nat) (hq : q ∈ qs) (hne : q ≠ p) :
    cpl (t.drop p) (t.drop q) ≤ maxShare t p qs := by
  induction qs with
  | nil => simp at hq
  | cons x xs ih =>
    simp only [maxShare]
    rw [List.mem_cons] at hq
    split
    · rename_i hx
      rcases hq with rfl | hq
      · exact absurd hx hne
      · exact ih hq
    · rcases hq with rfl | hq
      · omega
      · have := ih hq; omega

theorem maxShare_attained (t : List Nat) (p : Nat) (qs : List Nat) (h : 0 < maxShare t p qs) :
    ∃ q ∈ qs, q ≠ p ∧ cpl (t.drop p) (t.drop q) = maxShare t p qs := by
  induction qs with
  | nil => simp [maxShare] at h
  | cons x xs ih =>
    simp only [maxShare] at h ⊢
    split
    · rename_i hx
      simp only [hx, if_true] at h
      obtain ⟨q, hq, hne, he⟩ := ih h
      exact ⟨q, by simp [hq], hne, he⟩
    · rename_i hx
      simp only [hx, if_false] at h
      by_cases hc : maxShare t p xs ≤ cpl (t.drop p) (t.drop x)
      · exact ⟨x, by simp, hx, by omega⟩
      · have hpos : 0 < maxShare t p xs := by omega
        obtain ⟨q, hq, hne, he⟩ := ih hpos
        exact ⟨q, by simp [hq], hne, by omega⟩

theorem occursAt_slice_iff (t : List Nat) (p q l : Nat) (hp : p + l ≤ t.length) :
    OccursAt ((t.drop p).take l) t q ↔ (q + l ≤ t.length ∧ l ≤ cpl (t.drop p) (t.drop q)) := by
  unfold OccursAt
  have hlp : l ≤ (t.drop p).length := by rw [List.length_drop]; exact Nat.le_sub_of_add_le' hp
  rw [List.length_take, Nat.min_eq_left hlp, le_cpl_iff]
  exact ⟨fun ⟨h1, h2⟩ => ⟨h1, hlp, by rw [List.length_drop]; exact Nat.le_sub_of_add_le' h1, h2.symm⟩,
    fun ⟨h1, _, _, h2⟩ => ⟨h1, h2.symm⟩⟩

theorem occursAt_of_le_maxShare (t : List Nat) (p l : Nat) (h1 : 1 ≤ l) (hl : l ≤ maxShare t p (List.range t.length))
    (hp : p + l ≤ t.length) : ∃ q, q ≠ p ∧ OccursAt ((t.drop p).take l) t q := by
  obtain ⟨q, hq, hne, he⟩ := maxShare_attained t p _ (Nat.lt_of_lt_of_le h1 hl)
  refine ⟨q, hne, ?_⟩
  rw [occursAt_slice_iff t p q l hp]
  have := cpl_le_right (t.drop p) (t.drop q)
  rw [List.length_drop] at this
  rw [List.mem_range] at hq
  omega

theorem susRef_some (t : List Nat) (p l : Nat) (h : susRef t p = some l) :
    1 ≤ l ∧ p + l ≤ t.length ∧
    (∀ q, OccursAt ((t.drop p).take l) t q → q = p) ∧
    (∀ l', 1 ≤ l' → l' < l → ∃ q, q ≠ p ∧ OccursAt ((t.drop p).take l') t q) := by
  unfold susRef at h
  simp only at h
  split at h
  · rename_i hle
    simp only [Option.some.injEq] at h
    subst h
    refine ⟨Nat.le_add_left 1 _, hle, ?_, fun l' h1 h2 =>
      occursAt_of_le_maxShare t p l' h1 (Nat.le_of_lt_succ h2) (Nat.le_trans (Nat.add_le_add_left (Nat.le_of_lt h2) p) hle)⟩
    intro q hq
    rw [occursAt_slice_iff t p q _ hle] at hq
    apply Classical.byContradiction
    intro hne
    have := maxShare_ge t p q _ (List.mem_range.mpr (Nat.lt_of_lt_of_le (Nat.lt_add_of_pos_right (Nat.succ_pos _)) hq.1)) hne
    omega
  · simp at h

theorem susRef_none (t : List Nat) (p : Nat) (h : susRef t p = none) :
    ∀ l, 1 ≤ l → p + l ≤ t.length → ∃ q, q ≠ p ∧ OccursAt ((t.drop p).take l) t q := by
  unfold susRef at h
  simp only at h
  split at h
  · simp at h
  · intro l h1 h2
    exact occursAt_of_le_maxShare t p l h1 (by omega) h2

end RbV
