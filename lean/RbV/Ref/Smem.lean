import RbV.Spec.FMD
import RbV.Ref.BS
/-!
# Reference and acceptance functions of C06

`allSmemsRef T p` enumerates the supermaximal exact matches straight from the definition (all pairs (b, len));
`checkSmems`, `checkAllSmems`, `checkBi` decide `SmemsProp`, `AllSmemsProp`, `BiIntervalOf`.
-/
namespace RbV

/-! ### set equality of two lists, any type with lawful `==` -/

def sameSetG {α : Type} [BEq α] (a b : List α) : Bool :=
  a.all (fun x => b.contains x) && b.all (fun x => a.contains x)

theorem sameSetG_iff {α : Type} [BEq α] [LawfulBEq α] (a b : List α) :
    sameSetG a b = true ↔ ∀ x, x ∈ a ↔ x ∈ b := by
  simp only [sameSetG, Bool.and_eq_true, List.all_eq_true, List.contains_iff_mem]
  constructor
  · rintro ⟨h1, h2⟩ i; exact ⟨h1 i, h2 i⟩
  · intro h; exact ⟨fun i hi => (h i).mp hi, fun i hi => (h i).mpr hi⟩

/-! ### supermaximal matches by brute force -/

def smemB (T p : List Nat) (b len : Nat) : Bool :=
  decide (0 < len) && decide (b + len ≤ p.length) && occursB (sub p b len) T &&
  (b == 0 || !occursB (sub p (b - 1) (len + 1)) T) &&
  (b + len == p.length || !occursB (sub p b (len + 1)) T)

theorem smemB_iff (T p : List Nat) (b len : Nat) : smemB T p b len = true ↔ Smem T p b len := by
  simp only [smemB, Smem, Bool.and_eq_true, Bool.or_eq_true, decide_eq_true_eq, beq_iff_eq,
    Bool.not_eq_true', occursB_iff, occursB_false_iff, and_assoc]

/-- all (b, len) with `Smem T p b len`, ordered by b then len -/
def allSmemsRef (T p : List Nat) : List (Nat × Nat) :=
  (List.range p.length).flatMap (fun b =>
    ((List.range (p.length + 1)).filter (fun len => smemB T p b len)).map (fun len => (b, len)))

theorem mem_allSmemsRef (T p : List Nat) (b len : Nat) :
    (b, len) ∈ allSmemsRef T p ↔ Smem T p b len := by
  simp only [allSmemsRef, List.mem_flatMap, List.mem_range, List.mem_map, List.mem_filter, Prod.mk.injEq]
  constructor
  · rintro ⟨b', _, len', ⟨_, h⟩, rfl, rfl⟩
    exact (smemB_iff T p _ _).mp h
  · intro h
    have h' := h
    obtain ⟨h1, h2, _⟩ := h'
    exact ⟨b, by omega, len, ⟨by omega, (smemB_iff T p b len).mpr h⟩, rfl, rfl⟩

/-- the matches covering pattern position `i` with length at least `l` -/
def smemsRef (T p : List Nat) (i l : Nat) : List (Nat × Nat) :=
  (allSmemsRef T p).filter (fun x => decide (x.1 ≤ i) && decide (i < x.1 + x.2) && decide (l ≤ x.2))

theorem mem_smemsRef (T p : List Nat) (i l b len : Nat) :
    (b, len) ∈ smemsRef T p i l ↔ (Smem T p b len ∧ b ≤ i ∧ i < b + len ∧ l ≤ len) := by
  simp only [smemsRef, List.mem_filter, mem_allSmemsRef, Bool.and_eq_true, decide_eq_true_eq, and_assoc]

/-- the matches with length at least `l` -/
def allSmemsMin (T p : List Nat) (l : Nat) : List (Nat × Nat) :=
  (allSmemsRef T p).filter (fun x => decide (l ≤ x.2))

theorem mem_allSmemsMin (T p : List Nat) (l b len : Nat) :
    (b, len) ∈ allSmemsMin T p l ↔ (Smem T p b len ∧ l ≤ len) := by
  simp only [allSmemsMin, List.mem_filter, mem_allSmemsRef, decide_eq_true_eq]

/-! ### acceptance functions -/

def smemIntervalsOkB (T sa p : List Nat) (o : SmemObs) : Bool :=
  mapsToB sa o.flo o.fhi (sub p o.b o.len) T && mapsToB sa o.rlo o.rhi (revcomp (sub p o.b o.len)) T

theorem smemIntervalsOkB_iff (T sa p : List Nat) (o : SmemObs) :
    smemIntervalsOkB T sa p o = true ↔ SmemIntervalsOk T sa p o := by
  simp only [smemIntervalsOkB, SmemIntervalsOk, Bool.and_eq_true, mapsToB_iff]

def keys (res : List SmemObs) : List (Nat × Nat) := res.map (fun o => (o.b, o.len))

theorem mem_keys (res : List SmemObs) (b len : Nat) :
    (b, len) ∈ keys res ↔ ∃ o ∈ res, o.b = b ∧ o.len = len := by
  simp only [keys, List.mem_map, Prod.mk.injEq]

/-- the reported pairs against an expected list of pairs, plus the intervals of every reported match -/
def checkAgainst (T sa p : List Nat) (expected : List (Nat × Nat)) (res : List SmemObs) : Bool :=
  sameSetG (keys res) expected && res.all (smemIntervalsOkB T sa p)

def checkSmems (T sa p : List Nat) (i l : Nat) (res : List SmemObs) : Bool :=
  checkAgainst T sa p (smemsRef T p i l) res

def checkAllSmems (T sa p : List Nat) (l : Nat) (res : List SmemObs) : Bool :=
  checkAgainst T sa p (allSmemsMin T p l) res

theorem checkAgainst_iff (T sa p : List Nat) (expected : List (Nat × Nat)) (res : List SmemObs) :
    checkAgainst T sa p expected res = true ↔
      ((∀ b len, (∃ o ∈ res, o.b = b ∧ o.len = len) ↔ (b, len) ∈ expected) ∧
       ∀ o ∈ res, SmemIntervalsOk T sa p o) := by
  simp only [checkAgainst, Bool.and_eq_true, sameSetG_iff, List.all_eq_true, smemIntervalsOkB_iff]
  constructor
  · rintro ⟨h1, h2⟩
    exact ⟨fun b len => by rw [← mem_keys]; exact h1 (b, len), h2⟩
  · rintro ⟨h1, h2⟩
    refine ⟨fun x => ?_, h2⟩
    obtain ⟨b, len⟩ := x
    rw [mem_keys]; exact h1 b len

/-! ### bi-interval of a string -/

def checkBi (T sa w : List Nat) (o : BiObs) : Bool :=
  let n := (occurrences w T).length
  decide (o.flo ≤ o.fhi) && decide (o.rlo ≤ o.rhi) && o.fhi - o.flo == n && o.rhi - o.rlo == n &&
  (n == 0 || (mapsToB sa o.flo o.fhi w T && mapsToB sa o.rlo o.rhi (revcomp w) T))

end RbV
