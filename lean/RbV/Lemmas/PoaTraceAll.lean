import RbV.Lemmas.PoaTrace
/-!
# The traceback over any *local* table names nodes in increasing rank

For a rank function `rk` that increases by at least `K` along every edge, with `K` larger than the number of emitted
operations, the list `traceF` emits over a local table satisfies `bodyB` — the hypothesis of `addAlignment_rankOK`; no
assumption on the fuel or on the start cell.  Local means the cells of `dpRows` (`TableOK`, `opsOK_of_tableOK`) and those the
clipping modes and `global_banded` add: `Xclip(0)` anywhere (prefix clip: drop to row 0 in the same column), `Yclip(0, _)` in row 0,
`Ins(None)` in a node's row (what `Traceback::get` answers in front of a band), and in the *last* row
`Xclip(r)` / `Yclip(c, _)` (suffix clips).  The suffix clips jump to an arbitrary row; this is harmless because
the operations emitted before (= after, in forward order) a cell of the last row can only be
`Ins(Some(last))` and clips: the last row has no successor row (`rk` is maximal there), so that part of the
list is accepted by `bodyB` from every state (`TInv.last`).
`Local` is what the faithful tables satisfy cell by cell (`CellOK`); `OpsOK` here, `ColsOK` (`PoaBound`: at most `j` consuming
operations from column `j`) and the column of a `Yclip` are its projections.
-/
namespace RbV.Poa.Model
open RbV.NW

/-- what the operation stored in cell `(v+1, j)` may be: `RowOp` (`PoaTrace`) and the cells the clipping modes and the band
add; `L` = node of the last row -/
def RowOpX (es : WEdges) (L v j : Nat) (op : POp) : Prop :=
  op = .m none ∨ op = .x 0 ∨ (j = 0 ∧ op = .d none) ∨
  (0 < j ∧ (op = .i (some v) ∨ op = .i none ∨ ∃ p ∈ inN es v, op = .m (some (p, v)) ∨ op = .d (some (p, v + 1)))) ∨
  (v = L ∧ ((∃ r, op = .x r) ∨ (0 < j ∧ ∃ c d, op = .y c d)))

/-- what `traceF_bodyB` needs of a table: row 0 and the rows of the nodes; `L` = node of the last row -/
structure OpsOK (es : WEdges) (L : Nat) (opAt : Nat → Nat → POp) : Prop where
  r0 : ∀ j, opAt 0 j = .m none ∨ opAt 0 j = .i none ∨ ∃ c, opAt 0 j = .y 0 c
  rows : ∀ v j, RowOpX es L v j (opAt (v + 1) j)

/-- what the operation stored in cell `(v+1, j)` is in the tables of `custom` and `global_banded` and in the translated matrix:
`RowOpX`, and column 0 holds `Del(None)` or an `Xclip`, and a `Yclip(c, d)` sits in column `d ≥ c` -/
def CellOK (es : WEdges) (L v j : Nat) (op : POp) : Prop :=
  RowOpX es L v j op ∧ (j = 0 → op = .d none ∨ ∃ r, op = .x r) ∧ ∀ c d, op = .y c d → c ≤ j ∧ d = j

/-- a table all of whose cells are fine: what `traceF_bodyB`, `traceF_consuming` (and `traceF_seqOK`) need of it -/
structure Local (es : WEdges) (L : Nat) (opAt : Nat → Nat → POp) : Prop where
  r0 : ∀ j, opAt 0 j = .m none ∨ opAt 0 j = .i none ∨ opAt 0 j = .y 0 j
  rows : ∀ v j, CellOK es L v j (opAt (v + 1) j)

theorem Local.opsOK {es : WEdges} {L : Nat} {opAt : Nat → Nat → POp} (h : Local es L opAt) : OpsOK es L opAt :=
  ⟨fun j => (h.r0 j).imp id (Or.imp id fun e => ⟨j, e⟩), fun v j => (h.rows v j).1⟩

theorem Local.ydiag {es : WEdges} {L : Nat} {opAt : Nat → Nat → POp} (h : Local es L opAt) (i j c d : Nat)
    (hy : opAt i j = .y c d) : d = j := by
  cases i with
  | zero => rcases h.r0 j with e | e | e <;> rw [e] at hy <;> cases hy; rfl
  | succ v => exact ((h.rows v j).2.2 c d hy).2

/-- `CellOK` of the operations a node row can hold other than suffix clips -/
theorem cellOK_of {es : WEdges} {L v j : Nat} {op : POp} (h : RowOpX es L v j op) (h0 : j = 0 → op = .d none ∨ ∃ r, op = .x r)
    (hy : ∀ c d, op ≠ .y c d) : CellOK es L v j op := ⟨h, h0, fun c d e => absurd e (hy c d)⟩

/-! `CellOK`, one lemma per kind of cell -/
namespace CellOK
variable {es : WEdges} {L v j : Nat}

theorem mNone (hj : 0 < j) : CellOK es L v j (.m none) :=
  cellOK_of (Or.inl rfl) (fun h0 => by omega) (fun _ _ e => by cases e)

theorem x0 : CellOK es L v j (.x 0) := cellOK_of (Or.inr (Or.inl rfl)) (fun _ => Or.inr ⟨0, rfl⟩) (fun _ _ e => by cases e)

theorem del0 : CellOK es L v 0 (.d none) :=
  cellOK_of (Or.inr (Or.inr (Or.inl ⟨rfl, rfl⟩))) (fun _ => Or.inl rfl) (fun _ _ e => by cases e)

theorem ins (hj : 0 < j) : CellOK es L v j (.i (some v)) :=
  cellOK_of (Or.inr (Or.inr (Or.inr (Or.inl ⟨hj, Or.inl rfl⟩)))) (fun h0 => by omega) (fun _ _ e => by cases e)

theorem insNone (hj : 0 < j) : CellOK es L v j (.i none) :=
  cellOK_of (Or.inr (Or.inr (Or.inr (Or.inl ⟨hj, Or.inr (Or.inl rfl)⟩)))) (fun h0 => by omega) (fun _ _ e => by cases e)

theorem predM (hj : 0 < j) {p : Nat} (hp : p ∈ inN es v) : CellOK es L v j (.m (some (p, v))) :=
  cellOK_of (Or.inr (Or.inr (Or.inr (Or.inl ⟨hj, Or.inr (Or.inr ⟨p, hp, Or.inl rfl⟩)⟩)))) (fun h0 => by omega)
    (fun _ _ e => by cases e)

theorem predD (hj : 0 < j) {p : Nat} (hp : p ∈ inN es v) : CellOK es L v j (.d (some (p, v + 1))) :=
  cellOK_of (Or.inr (Or.inr (Or.inr (Or.inl ⟨hj, Or.inr (Or.inr ⟨p, hp, Or.inr rfl⟩)⟩)))) (fun h0 => by omega)
    (fun _ _ e => by cases e)

/-- suffix clip of the query side, in the last row only -/
theorem suffixX (r : Nat) : CellOK es L L j (.x r) :=
  ⟨Or.inr (Or.inr (Or.inr (Or.inr ⟨rfl, Or.inl ⟨r, rfl⟩⟩))), fun _ => Or.inr ⟨r, rfl⟩, fun _ _ e => by cases e⟩

/-- suffix clip of the graph side: `Yclip(c, j)` in column `j ≥ c` of the last row -/
theorem suffixY (hj : 0 < j) {c : Nat} (hc : c ≤ j) : CellOK es L L j (.y c j) :=
  ⟨Or.inr (Or.inr (Or.inr (Or.inr ⟨rfl, Or.inr ⟨hj, c, j, rfl⟩⟩))), fun h0 => by omega,
    fun _ _ e => by cases e; exact ⟨hc, rfl⟩⟩

end CellOK

/-- where `Traceback::alignment` goes from cell `(i, j)` when it holds `op` -/
def tstep (op : POp) (i j : Nat) : Nat × Nat :=
  match op with
  | .m (some (p, _)) => (p + 1, j - 1)
  | .d (some (p, _)) => (p + 1, j)
  | .i (some p) => (p + 1, j - 1)
  | .m none => (0, j - 1)
  | .d none => (i - 1, j)
  | .i none => (i, j - 1)
  | .x r => (r, j)
  | .y r _ => (i, r)

theorem traceF_succ (opAt : Nat → Nat → POp) (f i j : Nat) (acc : List POp) (hij : ¬(i = 0 ∧ j = 0)) :
    traceF opAt (f + 1) i j acc =
      traceF opAt f (tstep (opAt i j) i j).1 (tstep (opAt i j) i j).2 (opAt i j :: acc) := by
  rw [traceF]
  simp only [Bool.and_eq_true, decide_eq_true_eq, hij, if_false]
  cases opAt i j with
  | m pq => cases pq with
    | none => rfl
    | some pq => rfl
  | d pq => cases pq with
    | none => rfl
    | some pq => rfl
  | i p => cases p <;> rfl
  | x r => rfl
  | y a b => rfl

theorem traceF_length_ge (opAt : Nat → Nat → POp) : ∀ (f i j : Nat) (acc : List POp),
    acc.length ≤ (traceF opAt f i j acc).length := by
  intro f
  induction f with
  | zero => intro i j acc; simp [traceF]
  | succ f ih =>
    intro i j acc
    by_cases hij : i = 0 ∧ j = 0
    · simp [traceF, hij]
    · rw [traceF_succ opAt f i j acc hij]
      exact Nat.le_trans (Nat.le_succ _) (ih _ _ (opAt i j :: acc))

theorem traceLoop_eq_traceF (t : Table) : ∀ (f i j : Nat) (acc : List POp),
    traceLoop t f i j acc = traceF (fun i j => (t.cell i j).op) f i j acc := by
  intro f
  induction f with
  | zero => intro i j acc; rfl
  | succ f ih =>
    intro i j acc
    by_cases hij : i = 0 ∧ j = 0
    · simp [traceLoop, traceF, hij]
    · rw [traceF_succ _ f i j acc hij, traceLoop]
      simp only [Bool.and_eq_true, decide_eq_true_eq, hij, if_false]
      split <;> rename_i h <;> simp only [h, tstep] <;> exact ih _ _ _

theorem opsOK_of_tableOK {es : WEdges} {t : Table} (L : Nat) (h : TableOK es t) :
    OpsOK es L (fun i j => (t.cell i j).op) := by
  refine ⟨fun j => ?_, fun v j => ?_⟩
  · rcases h.r0 j with e | e
    · exact Or.inl e
    · exact Or.inr (Or.inl e)
  · show RowOpX es L v j (t.cell (v + 1) j).op
    rw [Table.cell_succ]
    rcases h.rows v j with e | e | ⟨hj, e | e⟩
    · exact Or.inl e
    · exact Or.inr (Or.inr (Or.inl e))
    · exact Or.inr (Or.inr (Or.inr (Or.inl ⟨hj, Or.inl e⟩)))
    · exact Or.inr (Or.inr (Or.inr (Or.inl ⟨hj, Or.inr (Or.inr e)⟩)))

/-- backward invariant of `traceF_bodyB` on the list emitted so far: fine from the head's rank; in row 0 fine for every small bound with
`nc = true`; in the row of `v` fine for every bound below `rk v + K`, either `nc`; in the last row fine from every state — nothing
behind a cell of the last row names a node (the last node has the greatest rank), so the suffix clips may jump anywhere -/
structure TInv (rk : Nat → Nat) (n0 head K L i j : Nat) (acc : List POp) : Prop where
  base : bodyB rk n0 head (rk head) false acc = true
  row0 : i = 0 → 0 < j → ∀ b, b + acc.length < K → bodyB rk n0 head b true acc = true
  row : ∀ v, i = v + 1 → 0 < j → ∀ b nc, b + acc.length < rk v + K → bodyB rk n0 head b nc acc = true
  last : i = L + 1 → 0 < j → ∀ b nc, bodyB rk n0 head b nc acc = true

theorem tinv_free {rk : Nat → Nat} {n0 head K L i j : Nat} {acc : List POp}
    (h : ∀ b nc, bodyB rk n0 head b nc acc = true) : TInv rk n0 head K L i j acc :=
  ⟨h _ _, fun _ _ b _ => h b true, fun _ _ _ b nc _ => h b nc, fun _ _ b nc => h b nc⟩

theorem traceF_bodyB (es : WEdges) (opAt : Nat → Nat → POp) (rk : Nat → Nat) (n0 head K L : Nat)
    (ht : OpsOK es L opAt) (hK : K ≤ rk head) (hmin : ∀ v, rk head ≤ rk v) (hmax : ∀ v, rk v ≤ rk L)
    (hedge : ∀ v, ∀ p ∈ inN es v, rk p + K ≤ rk v ∧ v < n0) :
    ∀ (f i j : Nat) (acc : List POp), TInv rk n0 head K L i j acc → (traceF opAt f i j acc).length < K →
      bodyB rk n0 head (rk head) false (traceF opAt f i j acc) = true := by
  intro f
  induction f with
  | zero => intro i j acc h _; simpa [traceF] using h.base
  | succ f ih =>
    intro i j acc h hlen
    have hKpos : acc.length < K := Nat.lt_of_le_of_lt (traceF_length_ge opAt (f + 1) i j acc) hlen
    cases i with
    | zero =>
      by_cases hj : j = 0
      · subst hj; simpa [traceF] using h.base
      · have toRow0 : ∀ op, (op = .m none) → TInv rk n0 head K L 0 (j - 1) (op :: acc) := by
          intro op hop
          subst hop
          refine ⟨by simpa [bodyB] using h.base, ?_, fun v hv => by omega, fun hL _ => ?_⟩
          · intro _ _ b hb
            simp only [bodyB, Bool.and_eq_true, decide_eq_true_eq]
            simp only [List.length_cons] at hb
            exact ⟨by omega, h.base⟩
          · omega
        rw [traceF_succ opAt f 0 j acc (by omega)] at hlen ⊢
        rcases ht.r0 j with hop | hop | ⟨c, hop⟩
        · simp only [hop, tstep] at hlen ⊢
          exact ih _ _ _ (toRow0 _ rfl) hlen
        · simp only [hop, tstep] at hlen ⊢
          have hl := traceF_length_ge opAt f 0 (j - 1) (.i none :: acc)
          simp only [List.length_cons] at hl
          refine ih _ _ _ ⟨?_, ?_, fun v hv => by omega, fun hL _ => by omega⟩ hlen
          · simp only [bodyB]
            exact h.row0 rfl (by omega) 0 (by omega)
          · intro _ _ b hb
            simp only [bodyB]
            simp only [List.length_cons] at hb
            exact h.row0 rfl (by omega) (b + 1) (by omega)
        · simp only [hop, tstep] at hlen ⊢
          exact ih _ _ _ ⟨by simpa [bodyB] using h.base, fun _ h0 => by omega, fun v hv => by omega,
            fun hL _ => by omega⟩ hlen
    | succ v =>
      rw [traceF_succ opAt f (v + 1) j acc (by omega)] at hlen ⊢
      rcases ht.rows v j with hop | hop | ⟨hj, hop⟩ | ⟨hj, hop | hop | ⟨p, hp, hop | hop⟩⟩ | ⟨hvL, hop⟩
      · -- `Match(None)`: drop to row 0, one column to the left
        simp only [hop, tstep] at hlen ⊢
        refine ih _ _ _ ⟨by simpa [bodyB] using h.base, ?_, fun w hw => by omega, fun hL _ => by omega⟩ hlen
        intro _ _ b hb
        simp only [bodyB, Bool.and_eq_true, decide_eq_true_eq]
        simp only [List.length_cons] at hb
        exact ⟨by omega, h.base⟩
      · -- `Xclip(0)`: drop to row 0 in the same column
        simp only [hop, tstep] at hlen ⊢
        refine ih _ _ _ ⟨by simpa [bodyB] using h.base, ?_, fun w hw => by omega, fun hL _ => by omega⟩ hlen
        intro _ hj b hb
        simp only [bodyB]
        simp only [List.length_cons] at hb
        exact h.row v rfl hj b true (by omega)
      · -- column 0: `Del(None)`
        subst hj
        simp only [hop, tstep] at hlen ⊢
        exact ih _ _ _ ⟨by simpa [bodyB] using h.base, fun _ h0 => by omega, fun w _ h0 => by omega,
          fun _ h0 => by omega⟩ hlen
      · -- `Ins(Some v)`: same row
        simp only [hop, tstep] at hlen ⊢
        have hl := traceF_length_ge opAt f (v + 1) (j - 1) (.i (some v) :: acc)
        simp only [List.length_cons] at hl
        have := hmin v
        refine ih _ _ _ ⟨?_, fun h0 => by omega, ?_, ?_⟩ hlen
        · simp only [bodyB]
          exact h.row v rfl hj _ _ (by omega)
        · intro w hw _ b nc hb
          have : w = v := by omega
          subst this
          simp only [bodyB]
          simp only [List.length_cons] at hb
          exact h.row w rfl hj _ _ (by omega)
        · intro hL _ b nc
          simp only [bodyB]
          exact h.last hL hj _ _
      · -- `Ins(None)` inside a row (in front of a band): same row
        simp only [hop, tstep] at hlen ⊢
        have hl := traceF_length_ge opAt f (v + 1) (j - 1) (.i none :: acc)
        simp only [List.length_cons] at hl
        refine ih _ _ _ ⟨?_, fun h0 => by omega, ?_, ?_⟩ hlen
        · simp only [bodyB]
          exact h.row v rfl hj _ _ (by omega)
        · intro w hw _ b nc hb
          have : w = v := by omega
          subst this
          simp only [List.length_cons] at hb
          cases nc with
          | false => simp only [bodyB]; exact h.row w rfl hj _ _ (by omega)
          | true => simp only [bodyB]; exact h.row w rfl hj _ _ (by omega)
        · intro hL _ b nc
          cases nc with
          | false => simp only [bodyB]; exact h.last hL hj _ _
          | true => simp only [bodyB]; exact h.last hL hj _ _
      · -- `Match(Some((p, v)))`
        simp only [hop, tstep] at hlen ⊢
        have hl := traceF_length_ge opAt f (p + 1) (j - 1) (.m (some (p, v)) :: acc)
        simp only [List.length_cons] at hl
        have := hmin p
        obtain ⟨he1, he2⟩ := hedge v p hp
        refine ih _ _ _ ⟨?_, fun h0 => by omega, ?_, ?_⟩ hlen
        · simp only [bodyB, Bool.and_eq_true, decide_eq_true_eq]
          exact ⟨⟨he2, by omega⟩, h.row v rfl hj _ _ (by omega)⟩
        · intro w hw _ b nc hb
          have : w = p := by omega
          subst this
          simp only [List.length_cons] at hb
          simp only [bodyB, Bool.and_eq_true, decide_eq_true_eq]
          exact ⟨⟨he2, by omega⟩, h.row v rfl hj _ _ (by omega)⟩
        · intro hL _
          have : p = L := by omega
          subst this
          have := hmax v
          omega
      · -- `Del(Some((p, v+1)))`
        simp only [hop, tstep] at hlen ⊢
        obtain ⟨he1, he2⟩ := hedge v p hp
        refine ih _ _ _ ⟨by simpa [bodyB] using h.base, fun h0 => by omega, ?_, ?_⟩ hlen
        · intro w hw _ b nc hb
          have : w = p := by omega
          subst this
          simp only [List.length_cons] at hb
          simp only [bodyB]
          exact h.row v rfl hj _ _ (by omega)
        · intro hL _
          have : p = L := by omega
          subst this
          have := hmax v
          omega
      · -- suffix clips in the last row
        subst hvL
        rcases hop with ⟨r, hop⟩ | ⟨hj, c, d, hop⟩
        · simp only [hop, tstep] at hlen ⊢
          by_cases hj : 0 < j
          · exact ih _ _ _ (tinv_free (fun b nc => by simp only [bodyB]; exact h.last rfl hj b nc)) hlen
          · exact ih _ _ _ ⟨by simpa [bodyB] using h.base, fun _ h0 => by omega, fun w _ h0 => by omega,
              fun _ h0 => by omega⟩ hlen
        · simp only [hop, tstep] at hlen ⊢
          exact ih _ _ _ (tinv_free (fun b nc => by simp only [bodyB]; exact h.last rfl hj b nc)) hlen

end RbV.Poa.Model
