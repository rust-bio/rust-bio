import RbV.Model.MyersTraceback
/-!
What the search stores for the traceback (`seqStates`): the item with sequence number `j + 1` is the search state after `j`
text symbols (`runSt`, `seqStates_getD`).  Used by the ring lemmas and by the driver's single pass.  Core Lean only.
-/
namespace RbV.Model.MyersTraceback
open RbV.Model.MyersSimple (St)

/-- the search state after the text `u` -/
def runSt (w : Nat) (eqv : Nat → Nat → Bool) (p : List Nat) (s : St w) (u : List Nat) : St w :=
  u.foldl (fun s a => RbV.Model.MyersSimple.step p.length (RbV.Model.MyersSimple.peq w eqv p a) s) s

theorem seqStates_go_snoc (w : Nat) (eqv : Nat → Nat → Bool) (p : List Nat) : ∀ (u : List Nat) (s : St w) (a : Nat),
    seqStates.go w eqv p s (u ++ [a]) =
      seqStates.go w eqv p s u ++
        [RbV.Model.MyersSimple.step p.length (RbV.Model.MyersSimple.peq w eqv p a) (runSt w eqv p s u)] := by
  intro u
  induction u with
  | nil => intro s a; simp [seqStates.go, runSt]
  | cons b u ih =>
    intro s a
    simp only [List.cons_append, seqStates.go, ih, runSt, List.foldl_cons]

theorem seqStates_go_len (w : Nat) (eqv : Nat → Nat → Bool) (p : List Nat) : ∀ (u : List Nat) (s : St w),
    (seqStates.go w eqv p s u).length = u.length + 1 := by
  intro u
  induction u with
  | nil => intro s; simp [seqStates.go]
  | cons a u ih => intro s; simp [seqStates.go, ih]

/-- entry `j` of the stored states is the search state after `j` symbols -/
theorem seqStates_go_get (w : Nat) (eqv : Nat → Nat → Bool) (p : List Nat) : ∀ (t : List Nat) (s : St w) (j : Nat), j ≤ t.length →
    (seqStates.go w eqv p s t)[j]? = some (runSt w eqv p s (t.take j)) := by
  intro t
  induction t with
  | nil =>
    intro s j hj
    obtain rfl : j = 0 := by simpa using hj
    rfl
  | cons a t ih =>
    intro s j hj
    cases j with
    | zero => rfl
    | succ j => exact ih _ j (by simpa using hj)

/-- the item with sequence number `j + 1` is the search state after `t.take j` (sequence number 0 is the sentinel) -/
theorem seqStates_getD (w : Nat) (eqv : Nat → Nat → Bool) (p : List Nat) (dmax : Nat) (t : List Nat) (j : Nat) (hj : j ≤ t.length) :
    (seqStates w eqv p dmax t).getD (j + 1) ⟨0#w, 0#w, 0⟩ = runSt w eqv p (RbV.Model.MyersSimple.init w p.length) (t.take j) := by
  simp [seqStates, List.getD_eq_getElem?_getD, seqStates_go_get w eqv p t _ j hj]

theorem seqStates_length (w : Nat) (eqv : Nat → Nat → Bool) (p : List Nat) (dmax : Nat) (t : List Nat) :
    (seqStates w eqv p dmax t).length = t.length + 2 := by
  simp [seqStates, seqStates_go_len]

theorem seqStates_snoc (w : Nat) (eqv : Nat → Nat → Bool) (p : List Nat) (dmax : Nat) (u : List Nat) (a : Nat) :
    seqStates w eqv p dmax (u ++ [a]) =
      seqStates w eqv p dmax u ++
        [RbV.Model.MyersSimple.step p.length (RbV.Model.MyersSimple.peq w eqv p a)
          (runSt w eqv p (RbV.Model.MyersSimple.init w p.length) u)] := by
  simp only [seqStates, seqStates_go_snoc, List.cons_append]

end RbV.Model.MyersTraceback
