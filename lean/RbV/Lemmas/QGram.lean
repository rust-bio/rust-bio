import RbV.Spec.QGram
/-! Lemmas about q-gram codes, ranks, position lists and windows; then `lexLt`, the order of hit lists, with the lists sorted by
it (`kmerMatches`, `hits`).  Core Lean only. -/
namespace RbV.QGram

theorem le_two_pow_bitsFor (n : Nat) : n ≤ 2 ^ bitsFor n := by
  unfold bitsFor
  split
  · simp; omega
  · have := @Nat.lt_log2_self (n - 1)
    omega

theorem bitsFor_min (n b : Nat) (h : n ≤ 2 ^ b) : bitsFor n ≤ b := by
  unfold bitsFor
  split
  · omega
  · rename_i hn
    have h1 : 2 ^ Nat.log2 (n - 1) ≤ n - 1 := Nat.log2_self_le (by omega)
    have h2 : 2 ^ Nat.log2 (n - 1) < 2 ^ b := by omega
    have := (Nat.pow_lt_pow_iff_right (a := 2) (by omega)).mp h2
    omega

theorem filter_length_lt_of_mem {p : Nat → Bool} {l : List Nat} {c : Nat} (hc : c ∈ l) (hp : p c = false) :
    (l.filter p).length < l.length := by
  induction l with
  | nil => cases hc
  | cons a l ih =>
    simp only [List.filter]
    rcases List.mem_cons.mp hc with rfl | h
    · simp only [hp, List.length_cons]
      have := List.length_filter_le p l
      omega
    · have := ih h
      split <;> simp only [List.length_cons] <;> omega

theorem rank_lt_length {alpha : List Nat} {c : Nat} (hc : c ∈ alpha) : rank alpha c < alpha.length := by
  unfold rank
  apply filter_length_lt_of_mem hc
  simp

theorem rank_lt_two_pow {alpha : List Nat} {c : Nat} (hc : c ∈ alpha) : rank alpha c < 2 ^ bitsFor alpha.length :=
  Nat.lt_of_lt_of_le (rank_lt_length hc) (le_two_pow_bitsFor _)

theorem rank_lt_of_lt {alpha : List Nat} {a b : Nat} (ha : a ∈ alpha) (hab : a < b) :
    rank alpha a < rank alpha b := by
  -- the symbols below `a` are those of the symbols below `b` that are below `a`; `a` itself is below `b` only
  have e : alpha.filter (· < a) = (alpha.filter (· < b)).filter (· < a) := by
    rw [List.filter_filter]
    exact List.filter_congr fun x _ => by
      rw [Bool.eq_iff_iff, Bool.and_eq_true, decide_eq_true_eq, decide_eq_true_eq]; omega
  unfold rank
  rw [e]
  exact filter_length_lt_of_mem (List.mem_filter.mpr ⟨ha, decide_eq_true hab⟩) (decide_eq_false (Nat.lt_irrefl a))

theorem rank_injective {alpha : List Nat} {a b : Nat} (ha : a ∈ alpha) (hb : b ∈ alpha)
    (h : rank alpha a = rank alpha b) : a = b := by
  rcases Nat.lt_trichotomy a b with hlt | heq | hgt
  · have := rank_lt_of_lt ha hlt; omega
  · exact heq
  · have := rank_lt_of_lt hb hgt; omega

theorem foldl_code_inj (B : Nat) (u v : List Nat) (a a' : Nat) (hl : u.length = v.length)
    (hu : ∀ r ∈ u, r < B) (hv : ∀ r ∈ v, r < B)
    (h : u.foldl (fun c r => c * B + r) a = v.foldl (fun c r => c * B + r) a') : a = a' ∧ u = v := by
  induction u generalizing v a a' with
  | nil =>
    cases v with
    | nil => exact ⟨by simpa using h, rfl⟩
    | cons _ _ => simp at hl
  | cons r rs ih =>
    cases v with
    | nil => simp at hl
    | cons s ss =>
      simp only [List.foldl_cons] at h
      have hr := hu r (by simp)
      have hs := hv s (by simp)
      obtain ⟨h1, h2⟩ := ih ss (a * B + r) (a' * B + s) (by simpa using hl)
        (fun x hx => hu x (by simp [hx])) (fun x hx => hv x (by simp [hx])) h
      have hB : 0 < B := by omega
      have e1 : (a * B + r) / B = a := by
        rw [Nat.mul_comm, Nat.mul_add_div hB, Nat.div_eq_of_lt hr]; rfl
      have e2 : (a' * B + s) / B = a' := by
        rw [Nat.mul_comm, Nat.mul_add_div hB, Nat.div_eq_of_lt hs]; rfl
      have e3 : (a * B + r) % B = r := by
        rw [Nat.mul_comm, Nat.mul_add_mod, Nat.mod_eq_of_lt hr]
      have e4 : (a' * B + s) % B = s := by
        rw [Nat.mul_comm, Nat.mul_add_mod, Nat.mod_eq_of_lt hs]
      have haa : a = a' := by rw [← e1, ← e2, h1]
      have hrs : r = s := by rw [← e3, ← e4, h1]
      exact ⟨haa, by rw [hrs, h2]⟩

theorem code_injective (b : Nat) (u v : List Nat) (hl : u.length = v.length)
    (hu : ∀ r ∈ u, r < 2 ^ b) (hv : ∀ r ∈ v, r < 2 ^ b) (h : code b u = code b v) : u = v :=
  (foldl_code_inj (2 ^ b) u v 0 0 hl hu hv h).2

theorem code_append_single (b : Nat) (w : List Nat) (a : Nat) : code b (w ++ [a]) = code b w * 2 ^ b + a := by
  simp [code, List.foldl_append]

theorem foldl_code_shift (B : Nat) (w : List Nat) (x : Nat) :
    w.foldl (fun c r => c * B + r) x = x * B ^ w.length + w.foldl (fun c r => c * B + r) 0 := by
  induction w generalizing x with
  | nil => simp
  | cons a w ih =>
    simp only [List.foldl_cons, List.length_cons]
    rw [ih (x * B + a), ih (0 * B + a)]
    simp only [Nat.zero_mul, Nat.zero_add, Nat.pow_succ, Nat.add_mul]
    rw [Nat.mul_assoc, Nat.mul_comm B (B ^ w.length)]
    omega

theorem code_cons (b : Nat) (x : Nat) (w : List Nat) : code b (x :: w) = x * 2 ^ (b * w.length) + code b w := by
  unfold code
  simp only [List.foldl_cons, Nat.zero_mul, Nat.zero_add]
  rw [foldl_code_shift, Nat.pow_mul]

theorem code_lt (b : Nat) (w : List Nat) (hw : ∀ r ∈ w, r < 2 ^ b) : code b w < 2 ^ (b * w.length) := by
  induction w with
  | nil => simp [code]
  | cons x w ih =>
    rw [code_cons]
    have h1 := ih (fun r hr => hw r (by simp [hr]))
    have h2 : x + 1 ≤ 2 ^ b := hw x (by simp)
    have h3 : (x + 1) * 2 ^ (b * w.length) ≤ 2 ^ b * 2 ^ (b * w.length) := Nat.mul_le_mul_right _ h2
    have h4 : 2 ^ b * 2 ^ (b * w.length) = 2 ^ (b * (x :: w).length) := by
      rw [← Nat.pow_add]; congr 1; simp [Nat.mul_add]; omega
    rw [Nat.add_mul] at h3
    omega

theorem code_rank_injective (alpha u v : List Nat) (hu : ∀ c ∈ u, c ∈ alpha) (hv : ∀ c ∈ v, c ∈ alpha)
    (hl : u.length = v.length)
    (h : code (bitsFor alpha.length) (u.map (rank alpha)) = code (bitsFor alpha.length) (v.map (rank alpha))) :
    u = v := by
  have fits : ∀ c ∈ alpha, rank alpha c < 2 ^ bitsFor alpha.length :=
    fun c hc => rank_lt_two_pow hc
  have hr := code_injective (bitsFor alpha.length) (u.map (rank alpha)) (v.map (rank alpha)) (by simpa using hl)
    (by intro r hr; rcases List.mem_map.mp hr with ⟨c, hc, rfl⟩; exact fits c (hu c hc))
    (by intro r hr; rcases List.mem_map.mp hr with ⟨c, hc, rfl⟩; exact fits c (hv c hc)) h
  clear h
  induction u generalizing v with
  | nil => cases v with
    | nil => rfl
    | cons _ _ => simp at hl
  | cons a u ih =>
    cases v with
    | nil => simp at hl
    | cons b v =>
      simp only [List.map_cons, List.cons.injEq] at hr
      have hab := rank_injective (hu a (by simp)) (hv b (by simp)) hr.1
      rw [hab, ih v (fun c hc => hu c (by simp [hc])) (fun c hc => hv c (by simp [hc])) (by simpa using hl) hr.2]

theorem mem_qgramPositions (mc : Nat) (g t : List Nat) (i : Nat) :
    i ∈ qgramPositions mc g t ↔ OccursAt g t i ∧ (occurrences g t).length ≤ mc := by
  unfold qgramPositions
  simp only
  split
  · simp; intro _; omega
  · rw [mem_occurrences]; constructor
    · intro h; exact ⟨h, by omega⟩
    · intro h; exact h.1

theorem qgramPositions_sorted (mc : Nat) (g t : List Nat) : (qgramPositions mc g t).Pairwise (· < ·) := by
  unfold qgramPositions
  simp only
  split
  · simp
  · exact occurrences_sorted g t

theorem window_length {q : Nat} {l : List Nat} {i : Nat} (h : i + q ≤ l.length) : (window q l i).length = q := by
  simp [window]; omega

theorem mem_kmerMatches (x y : List Nat) (k i j : Nat) :
    (i, j) ∈ kmerMatches x y k ↔ i + k ≤ x.length ∧ j + k ≤ y.length ∧ window k x i = window k y j := by
  unfold kmerMatches
  simp only [List.mem_flatMap, List.mem_range, List.mem_map, mem_occurrences, Prod.mk.injEq]
  constructor
  · rintro ⟨i', hi', j', hocc, rfl, rfl⟩
    have hi : i' + k ≤ x.length := by omega
    have hl := window_length (q := k) (l := x) hi
    unfold OccursAt at hocc
    rw [hl] at hocc
    exact ⟨hi, hocc.1, by simpa [window] using hocc.2.symm⟩
  · rintro ⟨hi, hj, hw⟩
    refine ⟨i, by omega, j, ?_, rfl, rfl⟩
    have hl := window_length (q := k) (l := x) hi
    unfold OccursAt
    rw [hl]
    exact ⟨hj, by simpa [window] using hw.symm⟩

/-- a strictly ascending list inside `[b, n)` has at most `n - b` elements -/
theorem length_le_of_ascending (n : Nat) : ∀ (l : List Nat) (b : Nat), l.Pairwise (· < ·) → (∀ x ∈ l, b ≤ x ∧ x < n) → b ≤ n →
    b + l.length ≤ n := by
  intro l
  induction l with
  | nil => intro b _ _ h; simpa using h
  | cons a t ih =>
    intro b hp hb _
    rw [List.pairwise_cons] at hp
    have ha := hb a (by simp)
    have := ih (a + 1) hp.2 (fun x hx => ⟨hp.1 x hx, (hb x (by simp [hx])).2⟩) (by omega)
    simp only [List.length_cons]; omega

/-! `lexLt`, the order of hit lists (pattern position first), and the lists that are sorted by it -/

def lexLt (a b : Nat × Nat) : Prop := a.1 < b.1 ∨ (a.1 = b.1 ∧ a.2 < b.2)

theorem lexLt_irrefl (a : Nat × Nat) : ¬ lexLt a a := by unfold lexLt; omega

theorem lexLt_asymm (a b : Nat × Nat) : lexLt a b → ¬ lexLt b a := by unfold lexLt; omega

theorem lexLt_fst_le {a b : Nat × Nat} (h : lexLt a b) : a.1 ≤ b.1 := by
  unfold lexLt at h; omega

/-- on one diagonal the order is the order of the pattern positions -/
theorem lexLt_same_diag {a b : Nat × Nat} (h : lexLt a b) (hd : diag a = diag b) : a.1 < b.1 := by
  unfold lexLt at h; unfold diag at hd
  rcases h with h | ⟨h1, h2⟩
  · exact h
  · omega

/-- positions listed row by row, each row ascending, are in lexicographic order -/
theorem rows_lex_sorted (n : Nat) (f : Nat → List Nat) (hf : ∀ i, (f i).Pairwise (· < ·)) :
    ((List.range n).flatMap fun i => (f i).map fun p => (i, p)).Pairwise lexLt := by
  rw [List.pairwise_flatMap]
  constructor
  · intro i _
    rw [List.pairwise_map]
    exact (hf i).imp (fun h => Or.inr ⟨rfl, h⟩)
  · apply (List.pairwise_lt_range (n := n)).imp
    intro a b hab p hp q hq
    rcases List.mem_map.mp hp with ⟨_, _, rfl⟩
    rcases List.mem_map.mp hq with ⟨_, _, rfl⟩
    exact Or.inl hab

theorem kmerMatches_sorted (x y : List Nat) (k : Nat) : (kmerMatches x y k).Pairwise lexLt :=
  rows_lex_sorted _ _ (fun _ => occurrences_sorted _ _)

theorem hits_lex_sorted (mc q : Nat) (pat text : List Nat) : (hits mc q pat text).Pairwise lexLt :=
  rows_lex_sorted _ _ (fun _ => qgramPositions_sorted _ _ _)

theorem hits_fst_sorted (mc q : Nat) (pat text : List Nat) :
    (hits mc q pat text).Pairwise (fun a b => a.1 ≤ b.1) :=
  (hits_lex_sorted mc q pat text).imp lexLt_fst_le

end RbV.QGram
