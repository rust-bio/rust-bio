import RbV.Model.FMDSym
import RbV.Lemmas.SortedBridge
/-!
# C03's checker implies the sortedness hypothesis of the C06 theorems on every FMD text

In `fmdText seqs` the sentinel `$` (36) is the last symbol and the smallest one, so `checkSA_sortedAllB` applies.
-/
namespace RbV.FMDSym
open RbV RbV.FMDModel RbV.LF

theorem fmd_sentinel_min (seqs : List (List Nat)) (hne : seqs ≠ [])
    (hseqs : ∀ s ∈ seqs, ∀ c ∈ s, isDna c = true) :
    ∀ p, p < (fmdText seqs).length → sentinelOf (fmdText seqs) ≤ (fmdText seqs).getD p 0 := by
  intro p hp
  have hpos := fmd_length_pos seqs hne
  have hT : fmdText seqs ≠ [] := fun h => by rw [h] at hpos; simp at hpos
  rw [LFMulti.sentinelOf_eq _ hT, fmd_last seqs hne]
  rcases fmd_symbols seqs hseqs _ (List.getD_mem _ p 0 hp) with h | h
  · omega
  · exact Nat.le_of_lt (dna_gt _ h)

end RbV.FMDSym

namespace RbV.SmemModel
open RbV RbV.FMDModel RbV.FMDSym RbV.LF

/-- every array C03's checker accepts for an FMD text passes `LF.sortedAllB` -/
theorem sortedAllB_of_checkSA_fmd (seqs : List (List Nat)) (sa : List Nat) (hne : seqs ≠ [])
    (hseqs : ∀ s ∈ seqs, ∀ c ∈ s, isDna c = true) (hc : checkSA (fmdText seqs) sa = true) :
    sortedAllB (fmdText seqs) sa = true :=
  SortedBridge.checkSA_sortedAllB _ sa hc (fmd_sentinel_min seqs hne hseqs)

end RbV.SmemModel
