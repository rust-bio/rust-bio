import RbV.Model.PairwiseFill
import RbV.Lemmas.AlignRev
/-!
Basic lemmas for the refinement proof of `Model/PairwiseFill.lean` (core Lean only):
`iter` (a `for` loop that keeps all intermediate states) read by index, `upd` as `max`, and the forward reading of `score`:
splitting off the last operation of a scored alignment of two sub-ranges (`score_snoc_inv`, `slice_eq_snoc`, exported as
`last_op_cases`); the prefix clip penalties `pre`; the lists of reported operations.  The lemmas on `slice` and on `score` at `[]`
stand beside the definitions in `Spec/Align.lean`, appending one operation (`score_snoc_*`) beside `score_append` in `AlignRev.lean`.
-/
namespace RbV.Model.PairwiseFill
open RbV.Align

/-- state after `t` iterations, started at index `i0` in state `r` -/
def iterAt {α : Type} (step : Nat → α → α) (i0 : Nat) (r : α) : Nat → α
  | 0 => r
  | t + 1 => step (i0 + t + 1) (iterAt step i0 r t)

theorem iterAt_shift {α : Type} (step : Nat → α → α) (i0 : Nat) (r : α) (t : Nat) :
    iterAt step i0 r (t + 1) = iterAt step (i0 + 1) (step (i0 + 1) r) t := by
  induction t with
  | zero => simp [iterAt]
  | succ t ih =>
    rw [iterAt, ih]
    simp only [iterAt]
    have : i0 + (t + 1) + 1 = i0 + 1 + t + 1 := by omega
    rw [this]

theorem iter_length {α : Type} (step : Nat → α → α) (k i0 : Nat) (r : α) : (iter step k i0 r).length = k + 1 := by
  induction k generalizing i0 r with
  | zero => simp [iter]
  | succ k ih => simp [iter, ih]

theorem iter_getD {α : Type} (step : Nat → α → α) (d : α) (k : Nat) : ∀ (i0 : Nat) (r : α) (t : Nat), t ≤ k →
    (iter step k i0 r).getD t d = iterAt step i0 r t := by
  induction k with
  | zero =>
    intro i0 r t ht
    have : t = 0 := by omega
    subst this; simp [iter, iterAt]
  | succ k ih =>
    intro i0 r t ht
    cases t with
    | zero => simp [iter, iterAt]
    | succ t =>
      rw [iter, List.getD_cons_succ, ih (i0 + 1) (step (i0 + 1) r) t (by omega), iterAt_shift]

/-- the form used everywhere: a loop `for i in 1..=k` started from `r` -/
theorem iter_getD_zero {α : Type} (step : Nat → α → α) (d : α) (k : Nat) (r : α) :
    (iter step k 0 r).getD 0 d = r := by
  rw [iter_getD step d k 0 r 0 (by omega)]; rfl

theorem iter_getD_succ {α : Type} (step : Nat → α → α) (d : α) (k : Nat) (r : α) (t : Nat) (ht : t + 1 ≤ k) :
    (iter step k 0 r).getD (t + 1) d = step (t + 1) ((iter step k 0 r).getD t d) := by
  rw [iter_getD step d k 0 r (t + 1) ht, iter_getD step d k 0 r t (by omega)]
  simp [iterAt]

/-- one more `gap_extend`; with `a := (k : Int)` it also reads `g * ((k + 1 : Nat) : Int) = g * (k : Int) + g` (by unfolding) -/
theorem mul_add_one (g a : Int) : g * (a + 1) = g * a + g := by rw [Int.mul_add, Int.mul_one]

theorem upd_of_le {a b : Int} (h : a ≤ b) : upd a b = b := by
  unfold upd; split <;> omega

theorem upd_eq_max (a b : Int) : upd a b = max a b := by
  unfold upd; split <;> omega

theorem ite_gt_eq_max (a b : Int) : (if a > b then a else b) = max a b := by
  split <;> omega

theorem slice_eq_snoc (x : List Nat) (s e : Nat) (he : e ≤ x.length) (X : List Nat) (a : Nat)
    (h : slice x s e = X ++ [a]) : ∃ i, e = i + 1 ∧ s ≤ i ∧ X = slice x s i ∧ a = x.getD i 0 := by
  have hl := slice_length x s e he
  rw [h] at hl
  simp at hl
  obtain ⟨i, rfl⟩ : ∃ i, e = i + 1 := ⟨e - 1, by omega⟩
  refine ⟨i, rfl, by omega, ?_⟩
  rw [slice_succ x s i (by omega) (by omega)] at h
  have := List.append_inj' h (by simp)
  exact ⟨this.1.symm, by simpa using this.2.symm⟩

/-! ### `score`, read forwards -/

theorem valid_reverse (X Y : List Nat) (ops : List Op) (h : valid X Y ops = true) :
    valid X.reverse Y.reverse ops.reverse = true := by
  let sc0 : Sc := ⟨fun _ _ => 0, 0, 0⟩
  obtain ⟨v, hv⟩ := (valid_iff_score sc0 .none X Y ops).mp h
  exact (valid_iff_score sc0 .none _ _ _).mpr ⟨v, score_reverse sc0 ops X Y v hv⟩

theorem valid_append_inv : ∀ (ops1 : List Op) (X Y : List Nat) (ops2 : List Op), valid X Y (ops1 ++ ops2) = true →
    ∃ X1 X2 Y1 Y2, X = X1 ++ X2 ∧ Y = Y1 ++ Y2 ∧ valid X1 Y1 ops1 = true ∧ valid X2 Y2 ops2 = true := by
  intro ops1
  induction ops1 with
  | nil => intro X Y ops2 h; exact ⟨[], X, [], Y, rfl, rfl, rfl, h⟩
  | cons o r ih =>
    intro X Y ops2 h
    rw [List.cons_append] at h
    cases o with
    | mat | sub =>
      match X, Y, h with
      | [], _, h => simp [valid] at h
      | _ :: _, [], h => simp [valid] at h
      | a :: X, b :: Y, h =>
        simp only [valid, Bool.and_eq_true] at h
        obtain ⟨X1, X2, Y1, Y2, rfl, rfl, h1, h2⟩ := ih X Y ops2 h.2
        exact ⟨a :: X1, X2, b :: Y1, Y2, rfl, rfl, by simp only [valid, h.1, h1, Bool.and_self], h2⟩
    | ins =>
      match X, h with
      | [], h => cases Y <;> simp [valid] at h
      | a :: X, h =>
        simp only [valid] at h
        obtain ⟨X1, X2, Y1, Y2, rfl, rfl, h1, h2⟩ := ih X Y ops2 h
        exact ⟨a :: X1, X2, Y1, Y2, rfl, rfl, by simp only [valid, h1], h2⟩
    | del =>
      match Y, h with
      | [], h => cases X <;> simp [valid] at h
      | b :: Y, h =>
        rw [valid_del_eq] at h
        obtain ⟨X1, X2, Y1, Y2, rfl, rfl, h1, h2⟩ := ih X Y ops2 h
        exact ⟨X1, X2, b :: Y1, Y2, rfl, rfl, by rw [valid_del_eq]; exact h1, h2⟩

theorem score_snoc_inv (sc : Sc) (X Y : List Nat) (ops : List Op) (o : Op) (c : Int)
    (h : score sc .none X Y (ops ++ [o]) = some c) :
    ∃ X' dX Y' dY c', X = X' ++ dX ∧ Y = Y' ++ dY ∧ score sc .none X' Y' ops = some c' ∧
      (score sc (lastSt .none ops) dX dY [o]).map (· + c') = some c := by
  obtain ⟨X', dX, Y', dY, rfl, rfl, h1, _⟩ :=
    valid_append_inv ops X Y [o] ((valid_iff_score sc .none _ _ _).mpr ⟨c, h⟩)
  obtain ⟨c', hc'⟩ := (valid_iff_score sc .none _ _ _).mp h1
  exact ⟨X', dX, Y', dY, c', rfl, rfl, hc', by rw [← score_append sc ops .none X' Y' c' hc' dX dY [o]]; exact h⟩

/-- the last operation of a scored alignment of `x[xs..i]` with `y[ys..j]`: the form in which the completeness proof consumes this section -/
theorem last_op_cases {sc : Sc} {x y : List Nat} {xs ys i j : Nat} {ops : List Op} {c : Int} (hi : i ≤ x.length) (hj : j ≤ y.length)
    (hsc : score sc .none (slice x xs i) (slice y ys j) ops = some c) :
    (ops = [] ∧ i ≤ xs ∧ j ≤ ys ∧ c = 0) ∨
    (∃ ops' i' c', ops = ops' ++ [.ins] ∧ i = i' + 1 ∧ xs ≤ i' ∧
      score sc .none (slice x xs i') (slice y ys j) ops' = some c' ∧ c = c' + gapI sc (lastSt .none ops')) ∨
    (∃ ops' j' c', ops = ops' ++ [.del] ∧ j = j' + 1 ∧ ys ≤ j' ∧
      score sc .none (slice x xs i) (slice y ys j') ops' = some c' ∧ c = c' + gapD sc (lastSt .none ops')) ∨
    (∃ ops' i' j' c', lastSt .none ops = .none ∧ i = i' + 1 ∧ j = j' + 1 ∧ xs ≤ i' ∧ ys ≤ j' ∧
      score sc .none (slice x xs i') (slice y ys j') ops' = some c' ∧
      c = c' + sc.w (x.getD i' 0) (y.getD j' 0)) := by
  rcases ops.eq_nil_or_concat with rfl | ⟨ops', o, rfl⟩
  · left
    obtain ⟨h1, h2, h3⟩ := score_nil_inv hsc
    exact ⟨rfl, (slice_eq_nil_iff x xs i hi).mp h1, (slice_eq_nil_iff y ys j hj).mp h2, h3⟩
  · right
    rw [List.concat_eq_append] at hsc ⊢
    obtain ⟨X', dX, Y', dY, c', hX, hY, hc', hc⟩ := score_snoc_inv sc _ _ ops' o c hsc
    cases o with
    | ins =>
      left
      rcases dX with _ | ⟨a, _ | _⟩ <;> rcases dY with _ | ⟨b, _ | _⟩ <;> simp [score] at hc
      rw [List.append_nil] at hY
      obtain ⟨i', rfl, h1, rfl, _⟩ := slice_eq_snoc x xs i hi X' a hX
      exact ⟨ops', i', c', rfl, rfl, h1, hY ▸ hc', by omega⟩
    | del =>
      right; left
      rcases dX with _ | ⟨a, _ | _⟩ <;> rcases dY with _ | ⟨b, _ | _⟩ <;> simp [score] at hc
      rw [List.append_nil] at hX
      obtain ⟨j', rfl, h1, rfl, _⟩ := slice_eq_snoc y ys j hj Y' b hY
      exact ⟨ops', j', c', rfl, rfl, h1, hX ▸ hc', by omega⟩
    | mat | sub =>
      right; right
      rcases dX with _ | ⟨a, _ | _⟩ <;> rcases dY with _ | ⟨b, _ | _⟩ <;> simp [score] at hc
      obtain ⟨i', rfl, h1, rfl, rfl⟩ := slice_eq_snoc x xs i hi X' a hX
      obtain ⟨j', rfl, h2, rfl, rfl⟩ := slice_eq_snoc y ys j hj Y' b hY
      exact ⟨ops', i', j', c', by rw [lastSt_append_singleton]; rfl, rfl, rfl, h1, h2, hc', by omega⟩

/-! ### the prefix clip penalties -/

/-- prefix clip penalties of an alignment starting at `(xs, ys)` -/
def pre (cl : Clip) (xs ys : Nat) : Int := (if 0 < xs then cl.xp else 0) + (if 0 < ys then cl.yp else 0)

theorem clipPen_eq_pre (cl : Clip) (m n xs xe ys ye : Nat) : clipPen cl m n xs xe ys ye =
    pre cl xs ys + (if xe < m then cl.xs else 0) + (if ye < n then cl.ys else 0) := by
  simp only [clipPen, pre]; omega

/-! ### lists of reported operations -/

theorem coreOps_append (P Q : List AOp) : coreOps (P ++ Q) = coreOps P ++ coreOps Q := by
  induction P with
  | nil => rfl
  | cons a P ih => cases a <;> simp [coreOps, ih]

theorem xclipSum_append (P Q : List AOp) : xclipSum (P ++ Q) = xclipSum P + xclipSum Q := by
  induction P with
  | nil => simp [xclipSum]
  | cons a P ih => cases a <;> simp [xclipSum, ih] <;> omega

theorem yclipSum_append (P Q : List AOp) : yclipSum (P ++ Q) = yclipSum P + yclipSum Q := by
  induction P with
  | nil => simp [yclipSum]
  | cons a P ih => cases a <;> simp [yclipSum, ih] <;> omega

end RbV.Model.PairwiseFill
