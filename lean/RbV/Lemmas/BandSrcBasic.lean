import RbV.Basic.RsSem
/-!
A sequencing rule for the equality proofs about translated bodies (`RbV/Gen/SrcBand*.lean`): `Post x A` says that `x` finishes
normally with a value satisfying `A`.  A body `x >>= f` is walked statement by statement (`Post.bind`): what an `if` statement
leaves behind is described once, by a predicate that quantifies over what its branches do differently (the traceback codes, which
of two equal scores was written), and the rest of the body is proved once for all such states instead of once per branch.
-/
namespace RbV.Thm.GenSrc
open RbV RbV.Rs

/-- the shape `∃ a, x = ok a ∧ A a` that the tie-agnostic conclusions of the banded cell and column lemmas write out (`Step`,
`xsufTracker_eq`, `col_if2_eq`, …), under a name so that it can be sequenced -/
def Post {α : Type} (x : Res α) (A : α → Prop) : Prop := ∃ a, x = Res.ok a ∧ A a

theorem Post.ok {α : Type} {A : α → Prop} {a : α} (h : A a) : Post (Res.ok a) A := ⟨a, rfl, h⟩

theorem Post.bind {α β : Type} {x : Res α} {f : α → Res β} {A : α → Prop} {B : β → Prop}
    (hx : Post x A) (hf : ∀ a, A a → Post (f a) B) : Post (x >>= f) B := by
  obtain ⟨a, e, ha⟩ := hx
  rw [e]
  exact hf a ha

/-- `let (a, b) ← x; pure (a, b)` is `x` (how the translator ends a body whose last statement destructures a pair) -/
theorem bind_pair_eta {α β : Type} (x : Res (α × β)) : (x >>= fun p => match p with | (a, b) => pure (a, b)) = x := by
  cases x <;> rfl

end RbV.Thm.GenSrc
