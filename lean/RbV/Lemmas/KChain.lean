import RbV.Spec.KChain
/-! Lemmas about chains of k-mer matches and the LCSk++ reference DP (core Lean only). -/
namespace RbV.KChain

theorem le_max0_of_mem {l : List Nat} {a : Nat} (h : a ∈ l) : a ≤ max0 l := by
  induction l with
  | nil => cases h
  | cons b l ih =>
    simp only [max0]
    rcases List.mem_cons.mp h with rfl | h
    · omega
    · have := ih h; omega

theorem max0_zero_or_mem (l : List Nat) : max0 l = 0 ∨ max0 l ∈ l := by
  induction l with
  | nil => left; rfl
  | cons b l ih =>
    simp only [max0]
    by_cases hb : max0 l ≤ b
    · right; rw [Nat.max_eq_left hb]; simp
    · rw [Nat.max_eq_right (by omega)]
      rcases ih with h | h
      · omega
      · right; exact List.mem_cons_of_mem _ h

theorem max0_le {l : List Nat} {n : Nat} (h : ∀ a ∈ l, a ≤ n) : max0 l ≤ n := by
  rcases max0_zero_or_mem l with h0 | hm
  · omega
  · exact h _ hm

theorem max0_eq_of {l : List Nat} {v : Nat} (hub : ∀ a ∈ l, a ≤ v) (hat : v = 0 ∨ v ∈ l) : max0 l = v := by
  have h1 := max0_le hub
  rcases hat with h | h
  · omega
  · have := le_max0_of_mem h; omega

/-- the link relation as a proposition: diagonal continuation by one, or a start at least `k` later in both -/
def Link (k : Nat) (a b : M) : Prop :=
  (b.1 = a.1 + 1 ∧ b.2 = a.2 + 1) ∨ (a.1 + k ≤ b.1 ∧ a.2 + k ≤ b.2)

theorem link_iff (k : Nat) (a b : M) : link k a b = true ↔ Link k a b := by
  simp only [link, nonov, cont, Link, Bool.or_eq_true, Bool.and_eq_true, decide_eq_true_eq, beq_iff_eq]
  constructor
  · rintro (h | h)
    · right; exact h
    · left; omega
  · rintro (h | h)
    · right; omega
    · left; exact h

def Chain (k : Nat) : List M → Prop
  | [] => True
  | [_] => True
  | a :: b :: r => Link k a b ∧ Chain k (b :: r)

theorem chainB_iff (k : Nat) (c : List M) : chainB k c = true ↔ Chain k c := by
  induction c with
  | nil => simp [chainB, Chain]
  | cons a c ih =>
    cases c with
    | nil => simp [chainB, Chain]
    | cons b r => simp only [chainB, Chain, Bool.and_eq_true, link_iff, ih]

theorem Chain.tail {k : Nat} {a : M} {c : List M} (h : Chain k (a :: c)) : Chain k c := by
  cases c with
  | nil => trivial
  | cons b r => exact h.2

theorem link_x_lt {k : Nat} (hk : 0 < k) {a b : M} (h : Link k a b) : a.1 < b.1 := by
  rcases h with h | h <;> omega

theorem chain_append (k : Nat) (a b : List M) :
    Chain k (a ++ b) ↔ Chain k a ∧ Chain k b ∧ ∀ x y, a.getLast? = some x → b.head? = some y → Link k x y := by
  induction a with
  | nil => simp [Chain]
  | cons x a ih =>
    cases a with
    | nil =>
      cases b with
      | nil => simp [Chain]
      | cons y r => simp [Chain]; exact And.comm
    | cons x' r =>
      have e : x :: x' :: r ++ b = x :: x' :: (r ++ b) := rfl
      rw [e]
      simp only [Chain]
      have ih' := ih
      simp only [List.cons_append] at ih'
      rw [ih']
      simp only [List.getLast?_cons_cons]
      constructor
      · rintro ⟨h1, h2, h3, h4⟩; exact ⟨⟨h1, h2⟩, h3, h4⟩
      · rintro ⟨⟨h1, h2⟩, h3, h4⟩; exact ⟨h1, h2, h3, h4⟩

theorem chain_iff_adjacent (k : Nat) (c : List M) :
    Chain k c ↔ ∀ t, t + 1 < c.length → Link k (c.getD t (0, 0)) (c.getD (t + 1) (0, 0)) := by
  induction c with
  | nil => simp [Chain]
  | cons a c ih =>
    cases c with
    | nil => simp [Chain]
    | cons b r =>
      simp only [Chain, ih]
      constructor
      · rintro ⟨h1, h2⟩ t ht
        cases t with
        | zero => simpa using h1
        | succ t =>
          have := h2 t (by simp at ht ⊢; omega)
          simpa using this
      · intro h
        refine ⟨by simpa using h 0 (by simp), ?_⟩
        intro t ht
        have := h (t + 1) (by simp at ht ⊢; omega)
        simpa using this

/-! ### the chain DP over any pair of step relations

`N` (a step that scores `k`) and `C` (a step that scores `1`) are arbitrary; the only thing the optimality of the table needs
is a `key` that every step increases and along which the match list is sorted.  `table` (chains *starting* at a match, list
sorted ascending) and `tableR` (chains *ending* at a match, list descending, `Lemmas/KChainFwd.lean`) are the two instances. -/

section generic
variable (N C : M → M → Bool) (k : Nat)

def cellG (T : List (M × Nat)) (m : M) : Nat :=
  max (k + max0 ((T.filter (fun e => N m e.1)).map (·.2))) (max0 ((T.filter (fun e => C m e.1)).map (fun e => e.2 + 1)))

def tableG : List M → List (M × Nat)
  | [] => []
  | m :: rest => (m, cellG N C k (tableG rest) m) :: tableG rest

def GChain : List M → Prop
  | [] => True
  | [_] => True
  | a :: b :: r => (N a b || C a b) = true ∧ GChain (b :: r)

def gscore : List M → Nat
  | [] => 0
  | [_] => k
  | a :: b :: r => (if N a b then k else 1) + gscore (b :: r)

variable {N C k}

theorem tableG_fst (ms : List M) : (tableG N C k ms).map (·.1) = ms := by
  induction ms with
  | nil => rfl
  | cons m rest ih => simp [tableG, ih]

theorem exists_entryG {ms : List M} {b : M} (h : b ∈ ms) : ∃ v, (b, v) ∈ tableG N C k ms := by
  rw [← tableG_fst (N := N) (C := C) (k := k) ms] at h
  rcases List.mem_map.mp h with ⟨⟨b', v⟩, hm, rfl⟩
  exact ⟨v, hm⟩

theorem entry_memG {ms : List M} {b : M} {v : Nat} (h : (b, v) ∈ tableG N C k ms) : b ∈ ms := by
  rw [← tableG_fst (N := N) (C := C) (k := k) ms]
  exact List.mem_map.mpr ⟨(b, v), h, rfl⟩

theorem k_le_cellG (T : List (M × Nat)) (m : M) : k ≤ cellG N C k T m := by
  unfold cellG; omega

theorem step_add_le_cellG {T : List (M × Nat)} {m b : M} {v : Nat} (h : (b, v) ∈ T) (hl : (N m b || C m b) = true) :
    (if N m b then k else 1) + v ≤ cellG N C k T m := by
  unfold cellG
  cases hn : N m b with
  | true =>
    have : v ≤ max0 ((T.filter (fun e => N m e.1)).map (·.2)) :=
      le_max0_of_mem (List.mem_map.mpr ⟨(b, v), List.mem_filter.mpr ⟨h, hn⟩, rfl⟩)
    simp only [if_true]; omega
  | false =>
    rw [hn, Bool.false_or] at hl
    have : v + 1 ≤ max0 ((T.filter (fun e => C m e.1)).map (fun e => e.2 + 1)) :=
      le_max0_of_mem (List.mem_map.mpr ⟨(b, v), List.mem_filter.mpr ⟨h, hl⟩, rfl⟩)
    simp only [Bool.false_eq_true, if_false]; omega

theorem gchain_key_lt {key : M → Int} (hkey : ∀ a b, (N a b || C a b) = true → key a < key b) {a : M} {c : List M}
    (h : GChain N C (a :: c)) : ∀ e ∈ c, key a < key e := by
  induction c generalizing a with
  | nil => intro e he; cases he
  | cons b r ih =>
    intro e he
    have hab := hkey _ _ h.1
    rcases List.mem_cons.mp he with rfl | he
    · exact hab
    · have := ih h.2 e he; omega

/-- upper bound: no chain that starts at `m` and stays inside `ms` scores more than the table entry of `m` -/
theorem tableG_upper {key : M → Int} (hkey : ∀ a b, (N a b || C a b) = true → key a < key b) (ms : List M)
    (hs : ms.Pairwise (fun a b => key a ≤ key b)) :
    ∀ m v, (m, v) ∈ tableG N C k ms → ∀ c, GChain N C (m :: c) → (∀ e ∈ c, e ∈ ms) → gscore N k (m :: c) ≤ v := by
  induction ms with
  | nil => intro m v h; cases h
  | cons m0 rest ih =>
    rw [List.pairwise_cons] at hs
    intro m v hmv c hc hsub
    simp only [tableG, List.mem_cons] at hmv
    have hx := gchain_key_lt hkey hc
    -- the chain after `m` lives in `rest`: `m0` itself has a key at most that of `m`
    have hrest : key m0 ≤ key m → ∀ e ∈ c, e ∈ rest := by
      intro hm e he
      rcases List.mem_cons.mp (hsub e he) with h | h
      · have := hx e he; rw [h] at this; omega
      · exact h
    rcases hmv with heq | hT
    · have hm : m = m0 := congrArg Prod.fst heq
      have hv : v = cellG N C k (tableG N C k rest) m0 := congrArg Prod.snd heq
      subst hm hv
      cases c with
      | nil => exact k_le_cellG _ _
      | cons b r =>
        simp only [gscore]
        have hr := hrest (Int.le_refl _)
        obtain ⟨vb, hvb⟩ := exists_entryG (N := N) (C := C) (k := k) (hr b (by simp))
        have h1 := ih hs.2 b vb hvb r hc.2 (fun e he => hr e (by simp [he]))
        have h2 := step_add_le_cellG (k := k) hvb hc.1
        omega
    · exact ih hs.2 m v hT c hc (hrest (hs.1 m (entry_memG hT)))

/-- attained: every table entry is the score of an actual chain inside `ms` starting at its match -/
theorem tableG_attained (hk : 0 < k) (ms : List M) :
    ∀ m v, (m, v) ∈ tableG N C k ms → ∃ c, GChain N C (m :: c) ∧ (∀ e ∈ m :: c, e ∈ ms) ∧ gscore N k (m :: c) = v := by
  induction ms with
  | nil => intro m v h; cases h
  | cons m0 rest ih =>
    intro m v hmv
    simp only [tableG, List.mem_cons] at hmv
    rcases hmv with heq | hT
    · have hm : m = m0 := congrArg Prod.fst heq
      have hv : v = cellG N C k (tableG N C k rest) m0 := congrArg Prod.snd heq
      subst hm
      -- which alternative realises the cell?
      let A := ((tableG N C k rest).filter (fun e => N m e.1)).map (·.2)
      let B := ((tableG N C k rest).filter (fun e => C m e.1)).map (fun e => e.2 + 1)
      have hcell : cellG N C k (tableG N C k rest) m = max (k + max0 A) (max0 B) := rfl
      -- a chain `m :: b :: c` through an entry `(b, vb)` of the rest scores `step + vb`, which the cell bounds (`step_add_le_cellG`):
      -- it is enough that the entry realises the maximum from below
      have ext : ∀ b vb, (b, vb) ∈ tableG N C k rest → (N m b || C m b) = true → v ≤ (if N m b then k else 1) + vb →
          ∃ c, GChain N C (m :: c) ∧ (∀ e ∈ m :: c, e ∈ m :: rest) ∧ gscore N k (m :: c) = v := by
        intro b vb hbT hl hsum
        obtain ⟨c, hc, hsub, hsc⟩ := ih b vb hbT
        have hle := step_add_le_cellG (k := k) hbT hl
        refine ⟨b :: c, ⟨hl, hc⟩, ?_, by simp only [gscore, hsc]; omega⟩
        intro e he
        rcases List.mem_cons.mp he with rfl | he
        · simp
        · exact List.mem_cons_of_mem _ (hsub e he)
      by_cases hAB : max0 B ≤ k + max0 A
      · rw [hcell, Nat.max_eq_left hAB] at hv
        rcases max0_zero_or_mem A with h0 | hmem
        · exact ⟨[], trivial, by simp, by simp [gscore, hv, h0]⟩
        · rcases List.mem_map.mp hmem with ⟨⟨b, vb⟩, hb, hbv⟩
          rcases List.mem_filter.mp hb with ⟨hbT, hbn⟩
          have hbn' : N m b = true := hbn
          exact ext b vb hbT (by rw [hbn']; rfl) (by simp only [hbn', if_true, hv]; simp only at hbv; omega)
      · rw [hcell, Nat.max_eq_right (by omega)] at hv
        rcases max0_zero_or_mem B with h0 | hmem
        · omega
        · rcases List.mem_map.mp hmem with ⟨⟨b, vb⟩, hb, hbv⟩
          rcases List.mem_filter.mp hb with ⟨hbT, hbc⟩
          have hbc' : C m b = true := hbc
          exact ext b vb hbT (by rw [hbc']; exact Bool.or_true _) (by simp only at hbv; split <;> omega)
    · obtain ⟨c, hc, hsub, hsc⟩ := ih m v hT
      exact ⟨c, hc, fun e he => List.mem_cons_of_mem _ (hsub e he), hsc⟩

end generic

/-! ### the table of chains starting at a match -/

theorem table_eq (k : Nat) (ms : List M) : table k ms = tableG (nonov k) cont k ms := by
  induction ms with
  | nil => rfl
  | cons m rest ih => simp only [table, tableG, ih]; rfl

theorem chain_iff_g (k : Nat) (c : List M) : Chain k c ↔ GChain (nonov k) cont c := by
  rw [← chainB_iff]
  induction c with
  | nil => simp [chainB, GChain]
  | cons a c ih =>
    cases c with
    | nil => simp [chainB, GChain]
    | cons b r => simp only [chainB, GChain, Bool.and_eq_true, ih]; rfl

theorem score_eq_g (k : Nat) (c : List M) : score k c = gscore (nonov k) k c := by
  induction c with
  | nil => rfl
  | cons a c ih =>
    cases c with
    | nil => rfl
    | cons b r => simp only [score, gscore, ih]; rfl

theorem exists_entry {k : Nat} {ms : List M} {b : M} (h : b ∈ ms) : ∃ v, (b, v) ∈ table k ms := by
  rw [table_eq]; exact exists_entryG h

theorem key_lt_of_link {k : Nat} (hk : 0 < k) (a b : M) (h : (nonov k a b || cont a b) = true) : (a.1 : Int) < (b.1 : Int) := by
  have := link_x_lt hk ((link_iff k a b).mp h); omega

theorem table_upper {k : Nat} (hk : 0 < k) (ms : List M) (hs : ms.Pairwise (fun a b => a.1 ≤ b.1)) :
    ∀ m v, (m, v) ∈ table k ms → ∀ c, Chain k (m :: c) → (∀ e ∈ c, e ∈ ms) → score k (m :: c) ≤ v := by
  simp only [table_eq, chain_iff_g, score_eq_g]
  exact tableG_upper (key := fun m => (m.1 : Int)) (key_lt_of_link hk) ms (hs.imp (fun h => by omega))

theorem table_attained {k : Nat} (hk : 0 < k) (ms : List M) :
    ∀ m v, (m, v) ∈ table k ms →
      ∃ c, Chain k (m :: c) ∧ (∀ e ∈ m :: c, e ∈ ms) ∧ score k (m :: c) = v := by
  simp only [table_eq, chain_iff_g, score_eq_g]
  exact tableG_attained hk ms

end RbV.KChain
