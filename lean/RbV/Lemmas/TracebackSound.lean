import RbV.Model.MyersTraceback
import RbV.Lemmas.UkkonenEq
/-!
The decision rule of the Myers traceback, applied to the Sellers matrix, always produces a valid labelled alignment of
the whole pattern with `t[start..stop]` whose number of non-match operations is the matrix value (C10).
Core Lean only.

The walk is written once for an arbitrary rule (`walkR`); it is sound for every rule whose choice explains the value of the cell
(`OpOK`), which covers either order of the Ins / Del tests.  A loop whose body follows such a rule under an invariant is that walk
(`LoopSim`): the `while` loop of both traceback handlers is an instance.
-/
namespace RbV.Model.MyersTraceback
open RbV.EditDist
open RbV.Model.Ukkonen (cell cell_zero cell_nil cell_succ cell_diag cell_le_len fe_le_cons_pat nth nth_getElem newCol_low newCol_zero
  newCol_length nth_range)

/-! ### labelled alignments compose -/

theorem acost_del_cons (eqv : Nat → Nat → Bool) (p : List Nat) (b : Nat) (s : List Nat) (r : List Op) :
    acost eqv p (b :: s) (.del :: r) = (acost eqv p s r).map (· + 1) := by
  cases p <;> simp [acost]

theorem acost_append (eqv : Nat → Nat → Bool) (o1 : List Op) (p1 s1 : List Nat) :
    ∀ (v1 : Nat) (o2 : List Op) (p2 s2 : List Nat) (v2 : Nat),
    acost eqv p1 s1 o1 = some v1 → acost eqv p2 s2 o2 = some v2 →
    acost eqv (p1 ++ p2) (s1 ++ s2) (o1 ++ o2) = some (v2 + v1) := by
  induction p1, s1, o1 using acost.induct eqv with
  | case1 => intro v1 o2 p2 s2 v2 h1 h2; cases h1; exact h2
  | case2 a p b s r he ih =>
    intro v1 o2 p2 s2 v2 h1 h2
    simp only [acost, he, if_true] at h1
    simp only [List.cons_append, acost, he, if_true, ih v1 o2 p2 s2 v2 h1 h2]
  | case3 a p b s r he => intro v1 o2 p2 s2 v2 h1; simp [acost, he] at h1
  | case4 a p b s r he => intro v1 o2 p2 s2 v2 h1; simp [acost, he] at h1
  | case5 a p b s r he ih =>
    intro v1 o2 p2 s2 v2 h1 h2
    simp only [acost, he, Bool.false_eq_true, if_false, Option.map_eq_some_iff] at h1
    obtain ⟨u, hu, rfl⟩ := h1
    simp only [List.cons_append, acost, he, Bool.false_eq_true, if_false, ih u o2 p2 s2 v2 hu h2, Option.map_some, Nat.add_assoc]
  | case6 a p s r ih =>
    intro v1 o2 p2 s2 v2 h1 h2
    simp only [acost, Option.map_eq_some_iff] at h1
    obtain ⟨u, hu, rfl⟩ := h1
    simp only [List.cons_append, acost, ih u o2 p2 s2 v2 hu h2, Option.map_some, Nat.add_assoc]
  | case7 p b s r ih =>
    intro v1 o2 p2 s2 v2 h1 h2
    simp only [acost_del_cons, Option.map_eq_some_iff] at h1
    obtain ⟨u, hu, rfl⟩ := h1
    simp only [List.cons_append, acost_del_cons, ih u o2 p2 s2 v2 hu h2, Option.map_some, Nat.add_assoc]
  | case8 t x y h1 h2 h3 h4 h5 =>
    intro v1 o2 p2 s2 v2 h
    rw [acost] at h
    · cases h
    all_goals assumption

/-! ### the Sellers matrix: what the walk needs -/

/-- what the walk needs to know about the matrix `D` of pattern `p` against text `t` -/
structure IsSellers (eqv : Nat → Nat → Bool) (p t : List Nat) (D : Nat → Nat → Nat) : Prop where
  row0 : ∀ j, j ≤ t.length → D 0 j = 0
  col0 : ∀ i, i ≤ p.length → D i 0 = i
  recur : ∀ i j, (hi : i < p.length) → (hj : j < t.length) →
    D (i + 1) (j + 1) = min (unitW eqv p[i] t[j] + D i j) (min (1 + D i (j + 1)) (1 + D (i + 1) j))
  diag : ∀ i j, i < p.length → j < t.length → D i j ≤ D (i + 1) (j + 1)
  vlow : ∀ i j, i < p.length → j ≤ t.length → D i j ≤ D (i + 1) j + 1

/-- the pattern symbol and the text symbol of a cell decide between the two diagonal moves -/
theorem IsSellers.diag_eqv {eqv : Nat → Nat → Bool} {p t : List Nat} {D : Nat → Nat → Nat} (hD : IsSellers eqv p t D)
    (i j : Nat) (hi : i < p.length) (hj : j < t.length) :
    (D i j + 1 = D (i + 1) (j + 1) → eqv p[i] t[j] = false) ∧
    (D i j = D (i + 1) (j + 1) → D i (j + 1) + 1 ≠ D (i + 1) (j + 1) → D (i + 1) j + 1 ≠ D (i + 1) (j + 1) →
      eqv p[i] t[j] = true) := by
  have hrec := hD.recur i j hi hj
  unfold unitW at hrec
  cases he : eqv p[i] t[j] <;> simp only [he, if_true, Bool.false_eq_true, if_false] at hrec
  · exact ⟨fun _ => rfl, fun _ _ _ => by omega⟩
  · exact ⟨fun _ => by omega, fun _ _ _ => rfl⟩

theorem IsSellers.cell_bounds {eqv : Nat → Nat → Bool} {p t : List Nat} {D : Nat → Nat → Nat} (hD : IsSellers eqv p t D)
    (i j : Nat) (hi : i < p.length) (hj : j < t.length) :
    D i j ≤ D (i + 1) (j + 1) ∧ D i j ≤ D (i + 1) j + 1 ∧
    (D (i + 1) (j + 1) = D i j ∨ D (i + 1) (j + 1) = D i j + 1 ∨ D (i + 1) (j + 1) = D i (j + 1) + 1 ∨
      D (i + 1) (j + 1) = D (i + 1) j + 1) ∧
    D (i + 1) (j + 1) ≤ D i j + 1 ∧ D (i + 1) (j + 1) ≤ D i (j + 1) + 1 ∧ D (i + 1) (j + 1) ≤ D (i + 1) j + 1 := by
  have hrec := hD.recur i j hi hj
  have hu : unitW eqv p[i] t[j] ≤ 1 := by unfold unitW; split <;> omega
  have := hD.diag i j hi hj
  have := hD.vlow i j hi (by omega)
  omega

/-- column 0 is 0, 1, 2, …: only Ins explains a cell there -/
theorem IsSellers.col0_ins {eqv : Nat → Nat → Bool} {p t : List Nat} {D : Nat → Nat → Nat} (hD : IsSellers eqv p t D)
    (i : Nat) (hi : i < p.length) : D i 0 + 1 = D (i + 1) 0 := by
  rw [hD.col0 i (by omega), hD.col0 (i + 1) (by omega)]

theorem take_drop_succ (t : List Nat) (j s : Nat) (hj : j < t.length) (hs : s ≤ j) :
    (t.take (j + 1)).drop s = (t.take j).drop s ++ [t[j]] := by
  rw [List.take_succ_eq_append_getElem hj, List.drop_append_of_le_length (by simp; omega)]

/-! ### walks that follow a rule -/

/-- the cell the walk moves to from row `i + 1`, column `j` after the operation `o` -/
def opNext (o : Op) (i j : Nat) : Nat × Nat :=
  match o with
  | Op.sub => (i, j - 1)
  | Op.ins => (i, j)
  | Op.del => (i + 1, j - 1)
  | Op.mat => (i, j - 1)

/-- the walk that asks the rule `op` at every cell; same conventions as `walkF` -/
def walkR (op : Nat → Nat → Op) : Nat → Nat → Nat → Nat × List Op
  | 0, _, j => (j, [])
  | _, 0, j => (j, [])
  | fuel + 1, i + 1, j =>
    ((walkR op fuel (opNext (op i j) i j).1 (opNext (op i j) i j).2).1,
      op i j :: (walkR op fuel (opNext (op i j) i j).1 (opNext (op i j) i j).2).2)

/-- the operation `o` explains the value of the cell (row `i + 1`, column `j`) of `D` by the value of the cell it moves to; Match is
taken only where neither Ins nor Del explains the value (then the two symbols are equivalent) -/
def OpOK (D : Nat → Nat → Nat) (i j : Nat) : Op → Prop
  | Op.sub => 1 ≤ j ∧ D i (j - 1) + 1 = D (i + 1) j
  | Op.ins => D i j + 1 = D (i + 1) j
  | Op.del => 1 ≤ j ∧ D (i + 1) (j - 1) + 1 = D (i + 1) j
  | Op.mat => 1 ≤ j ∧ D i (j - 1) = D (i + 1) j ∧ D i j + 1 ≠ D (i + 1) j ∧ D (i + 1) (j - 1) + 1 ≠ D (i + 1) j

theorem opNext_snd (o : Op) (i j : Nat) : (opNext o i j).2 = if o = Op.ins then j else j - 1 := by
  cases o <;> rfl

theorem opNext_sum (o : Op) (i j : Nat) (h : o = Op.del → 1 ≤ j) : (opNext o i j).1 + (opNext o i j).2 ≤ i + j := by
  cases o
  · show i + (j - 1) ≤ i + j; omega
  · show i + (j - 1) ≤ i + j; omega
  · exact Nat.le_refl _
  · have := h rfl; show i + 1 + (j - 1) ≤ i + j; omega

theorem walkR_start_le (op : Nat → Nat → Op) : ∀ fuel i j, (walkR op fuel i j).1 ≤ j := by
  intro fuel
  induction fuel with
  | zero => intro i j; exact Nat.le_refl _
  | succ fuel ih =>
    intro i j
    cases i with
    | zero => exact Nat.le_refl _
    | succ i =>
      have h2 : (opNext (op i j) i j).2 ≤ j := by rw [opNext_snd]; split <;> omega
      exact Nat.le_trans (ih _ _) h2

theorem walkR_fuel (op : Nat → Nat → Op) (hdel : ∀ i j, op i j = Op.del → 1 ≤ j) : ∀ (f1 f2 i j : Nat),
    i + j ≤ f1 → i + j ≤ f2 → walkR op f1 i j = walkR op f2 i j := by
  intro f1
  induction f1 with
  | zero =>
    intro f2 i j h1 _
    have : i = 0 := by omega
    subst this
    cases f2 <;> rfl
  | succ f1 ih =>
    intro f2 i j h1 h2
    cases i with
    | zero => cases f2 <;> rfl
    | succ i =>
      cases f2 with
      | zero => omega
      | succ f2 =>
        have hd := opNext_sum (op i j) i j (hdel i j)
        simp only [walkR]
        rw [ih f2 _ _ (by omega) (by omega)]

/-- a loop body `iter` (operation pushed, whether the column moved, next state) follows the rule `op` under the invariant
`Inv i j h` (cursor of `h` at row `i` of column `j`; row 0 = finished), as long as no column left of `lo` is entered -/
structure LoopSim {H : Type} (fin : H → Bool) (iter : H → Op × Bool × H) (op : Nat → Nat → Op) (lo : Nat)
    (Inv : Nat → Nat → H → Prop) : Prop where
  done : ∀ j h, Inv 0 j h → fin h = true
  col0 : ∀ i j h, Inv (i + 1) j h → op i 0 = Op.ins
  step : ∀ i j h, Inv (i + 1) j h → fin h = false ∧ ((op i j ≠ Op.ins → lo + 1 ≤ j) →
    (iter h).1 = op i j ∧ (iter h).2.1 = (op i j != Op.ins) ∧
    Inv (opNext (op i j) i j).1 (opNext (op i j) i j).2 (iter h).2.2)

/-- a move to the left enters a column `≥ lo`: column 0 is never left (the rule says Ins there) -/
theorem LoopSim.enter {H : Type} {fin : H → Bool} {iter : H → Op × Bool × H} {op : Nat → Nat → Op} {lo : Nat}
    {Inv : Nat → Nat → H → Prop} (sim : LoopSim fin iter op lo Inv) {i j : Nat} {h : H} (inv : Inv (i + 1) j h)
    (hlo : lo ≤ (opNext (op i j) i j).2) (hne : op i j ≠ Op.ins) : lo + 1 ≤ j := by
  rw [opNext_snd, if_neg hne] at hlo
  cases j with
  | zero => exact absurd (sim.col0 i 0 h inv) hne
  | succ j' => exact Nat.succ_le_succ hlo

/-- **such a loop is the walk**: it pushes the operations of `walkR op` and counts `j − start` column moves, provided the walk
ends at a column `≥ lo` -/
theorem LoopSim.loop_eq {H : Type} {fin : H → Bool} {iter : H → Op × Bool × H} {op : Nat → Nat → Op} {lo : Nat}
    {Inv : Nat → Nat → H → Prop} (sim : LoopSim fin iter op lo Inv) (loop : Nat → H → Nat × List Op)
    (loop_zero : ∀ h, loop 0 h = (0, []))
    (loop_succ : ∀ f h, loop (f + 1) h = if fin h then (0, []) else
      ((loop f (iter h).2.2).1 + (if (iter h).2.1 then 1 else 0), (iter h).1 :: (loop f (iter h).2.2).2)) :
    ∀ (fuel i j : Nat) (h : H), Inv i j h → lo ≤ (walkR op fuel i j).1 →
      loop fuel h = (j - (walkR op fuel i j).1, (walkR op fuel i j).2) := by
  intro fuel
  induction fuel with
  | zero => intro i j h _ _; rw [loop_zero]; simp [walkR]
  | succ fuel ih =>
    intro i j h inv hlo
    cases i with
    | zero => rw [loop_succ, sim.done j h inv]; simp [walkR]
    | succ i' =>
      obtain ⟨hnf, hstep⟩ := sim.step i' j h inv
      simp only [walkR] at hlo ⊢
      have hle := walkR_start_le op fuel (opNext (op i' j) i' j).1 (opNext (op i' j) i' j).2
      have hsnd := opNext_snd (op i' j) i' j
      have hlo' := sim.enter inv (Nat.le_trans hlo hle)
      obtain ⟨e1, e2, e3⟩ := hstep hlo'
      rw [loop_succ, hnf, ih _ _ _ e3 hlo, e1, e2]
      simp only [Bool.false_eq_true, if_false]
      congr 1
      generalize (walkR op fuel (opNext (op i' j) i' j).1 (opNext (op i' j) i' j).2).1 = s at hlo hle ⊢
      rw [hsnd] at hle ⊢
      by_cases hop : op i' j = Op.ins
      · rw [if_pos hop, show (op i' j != Op.ins) = false by simp [hop]]; rfl
      · have := hlo' hop
        rw [if_neg hop] at hle ⊢
        rw [show (op i' j != Op.ins) = true by simp [hop], if_pos rfl]
        omega

/-- … and after any number of passes the state is at some cursor of the walk (all columns enterable: `lo = 0`) -/
theorem LoopSim.after_inv {H : Type} {fin : H → Bool} {iter : H → Op × Bool × H} {op : Nat → Nat → Op}
    {Inv : Nat → Nat → H → Prop} (sim : LoopSim fin iter op 0 Inv) (after : Nat → H)
    (after_succ : ∀ n, after (n + 1) = if fin (after n) then after n else (iter (after n)).2.2)
    (h0 : ∃ i j, Inv i j (after 0)) : ∀ n, ∃ i j, Inv i j (after n) := by
  intro n
  induction n with
  | zero => exact h0
  | succ n ih =>
    obtain ⟨i, j, inv⟩ := ih
    rw [after_succ]
    cases i with
    | zero => rw [sim.done j _ inv]; exact ⟨0, j, inv⟩
    | succ i' =>
      obtain ⟨hnf, hstep⟩ := sim.step i' j _ inv
      rw [hnf]
      exact ⟨_, _, (hstep (sim.enter inv (Nat.zero_le _))).2.2⟩

/-- **a walk that follows an explaining rule is sound**: it yields a start and a labelled alignment of `p[..i]` with
`t[start..j]` whose number of non-match operations is `D i j` -/
theorem walkR_sound (eqv : Nat → Nat → Bool) (p t : List Nat) (D : Nat → Nat → Nat) (hD : IsSellers eqv p t D)
    (op : Nat → Nat → Op) (hop : ∀ i j, i < p.length → j ≤ t.length → OpOK D i j (op i j)) :
    ∀ (fuel i j : Nat), i ≤ p.length → j ≤ t.length → i + j ≤ fuel →
      (walkR op fuel i j).1 ≤ j ∧
      acost eqv (p.take i) ((t.take j).drop (walkR op fuel i j).1) (walkR op fuel i j).2.reverse = some (D i j) := by
  intro fuel
  induction fuel with
  | zero =>
    intro i j hi hj hf
    have : i = 0 := by omega
    have : j = 0 := by omega
    subst_vars
    simp [walkR, acost, hD.row0 0 hj]
  | succ fuel ih =>
    intro i j hi hj hf
    cases i with
    | zero => simp [walkR, acost, hD.row0 j hj]
    | succ i =>
      have hip : i < p.length := by omega
      have htake : p.take (i + 1) = p.take i ++ [p[i]] := List.take_succ_eq_append_getElem hip
      have ok := hop i j hip hj
      simp only [walkR]
      -- every operation appends one column to the alignment found from the next cell
      cases ho : op i j <;> rw [ho] at ok <;> simp only [opNext, List.reverse_cons]
      · -- Match
        obtain ⟨hj1, hval, hni, hnd⟩ := ok
        obtain ⟨j', rfl⟩ := Nat.exists_eq_add_of_le' hj1
        simp only [Nat.add_sub_cancel] at hval hnd ⊢
        have hjt : j' < t.length := by omega
        obtain ⟨r1, r2⟩ := ih i j' (by omega) (by omega) (by omega)
        have heq := (hD.diag_eqv i j' hip hjt).2 hval hni hnd
        refine ⟨by omega, ?_⟩
        rw [htake, take_drop_succ t j' _ hjt r1]
        have hlast : acost eqv [p[i]] [t[j']] [Op.mat] = some 0 := by simp [acost, heq]
        rw [acost_append eqv _ _ _ _ _ _ _ _ r2 hlast, ← hval, Nat.zero_add]
      · -- Subst
        obtain ⟨hj1, hval⟩ := ok
        obtain ⟨j', rfl⟩ := Nat.exists_eq_add_of_le' hj1
        simp only [Nat.add_sub_cancel] at hval ⊢
        have hjt : j' < t.length := by omega
        obtain ⟨r1, r2⟩ := ih i j' (by omega) (by omega) (by omega)
        have hne := (hD.diag_eqv i j' hip hjt).1 hval
        refine ⟨by omega, ?_⟩
        rw [htake, take_drop_succ t j' _ hjt r1]
        have hlast : acost eqv [p[i]] [t[j']] [Op.sub] = some 1 := by simp [acost, hne]
        rw [acost_append eqv _ _ _ _ _ _ _ _ r2 hlast, ← hval, Nat.add_comm]
      · -- Ins
        obtain ⟨r1, r2⟩ := ih i j (by omega) hj (by omega)
        refine ⟨r1, ?_⟩
        rw [htake]
        have hlast : acost eqv [p[i]] [] [Op.ins] = some 1 := by simp [acost]
        have := acost_append eqv _ _ _ _ _ _ _ _ r2 hlast
        rw [List.append_nil] at this
        rw [this, ← ok, Nat.add_comm]
      · -- Del
        obtain ⟨hj1, hval⟩ := ok
        obtain ⟨j', rfl⟩ := Nat.exists_eq_add_of_le' hj1
        simp only [Nat.add_sub_cancel] at hval ⊢
        have hjt : j' < t.length := by omega
        obtain ⟨r1, r2⟩ := ih (i + 1) j' (by omega) (by omega) (by omega)
        refine ⟨by omega, ?_⟩
        rw [take_drop_succ t j' _ hjt r1]
        have hlast : acost eqv [] [t[j']] [Op.del] = some 1 := by simp [acost]
        have := acost_append eqv _ _ _ _ _ _ _ _ r2 hlast
        rw [List.append_nil] at this
        rw [this, ← hval, Nat.add_comm]

/-! ### the rule of `_traceback_at` -/

/-- the decision of the matrix-level rule at row `i + 1`, column `j` -/
def ruleOp (D : Nat → Nat → Nat) (i j : Nat) : Op :=
  if j ≥ 1 ∧ D i (j - 1) + 1 = D (i + 1) j then Op.sub
  else if D i j + 1 = D (i + 1) j then Op.ins
  else if j ≥ 1 ∧ D (i + 1) (j - 1) + 1 = D i (j - 1) then Op.del
  else Op.mat

def ruleNext (D : Nat → Nat → Nat) (i j : Nat) : Nat × Nat :=
  match ruleOp D i j with
  | Op.sub => (i, j - 1)
  | Op.ins => (i, j)
  | Op.del => (i + 1, j - 1)
  | Op.mat => (i, j - 1)

/-- the rule with the Del test before the Ins test (C10 does not fix which of several optimal paths is reported) -/
def ruleOpD (D : Nat → Nat → Nat) (i j : Nat) : Op :=
  if j ≥ 1 ∧ D i (j - 1) + 1 = D (i + 1) j then Op.sub
  else if j ≥ 1 ∧ D (i + 1) (j - 1) + 1 = D i (j - 1) then Op.del
  else if D i j + 1 = D (i + 1) j then Op.ins
  else Op.mat

/-- the rule for either order of the tests: `df = true` means Del first -/
def ruleOpG (df : Bool) (D : Nat → Nat → Nat) (i j : Nat) : Op := if df then ruleOpD D i j else ruleOp D i j

/-- the operation chosen from the outcomes `s`, `i`, `d` of the Subst, Ins and Del tests -/
def choose (df s i d : Bool) : Op :=
  if s then Op.sub
  else if df then (if d then Op.del else if i then Op.ins else Op.mat)
  else (if i then Op.ins else if d then Op.del else Op.mat)

theorem choose_sub {df s i d : Bool} (h : choose df s i d = Op.sub) : s = true := by
  cases df <;> cases s <;> cases i <;> cases d <;> first | rfl | cases h

theorem choose_ins {df s i d : Bool} (h : choose df s i d = Op.ins) : i = true := by
  cases df <;> cases s <;> cases i <;> cases d <;> first | rfl | cases h

theorem choose_del {df s i d : Bool} (h : choose df s i d = Op.del) : d = true := by
  cases df <;> cases s <;> cases i <;> cases d <;> first | rfl | cases h

theorem choose_mat {df s i d : Bool} (h : choose df s i d = Op.mat) : s = false ∧ i = false ∧ d = false := by
  cases df <;> cases s <;> cases i <;> cases d <;> first | exact ⟨rfl, rfl, rfl⟩ | cases h

theorem ruleOpG_eq_choose (df : Bool) (D : Nat → Nat → Nat) (i j : Nat) :
    ruleOpG df D i j = choose df (decide (j ≥ 1 ∧ D i (j - 1) + 1 = D (i + 1) j)) (decide (D i j + 1 = D (i + 1) j))
      (decide (j ≥ 1 ∧ D (i + 1) (j - 1) + 1 = D i (j - 1))) := by
  cases df <;> simp only [ruleOpG, ruleOp, ruleOpD, choose, decide_eq_true_eq, Bool.false_eq_true, if_false, if_true]

theorem ruleOpG_del_pos (df : Bool) (D : Nat → Nat → Nat) (i j : Nat) (h : ruleOpG df D i j = Op.del) : 1 ≤ j :=
  (of_decide_eq_true (choose_del ((ruleOpG_eq_choose df D i j).symm.trans h))).1

theorem walkF_eq_walkR (D : Nat → Nat → Nat) : ∀ fuel i j, walkF D fuel i j = walkR (ruleOp D) fuel i j := by
  intro fuel
  induction fuel with
  | zero => intro i j; rfl
  | succ fuel ih =>
    intro i j
    cases i with
    | zero => rfl
    | succ i =>
      simp only [walkF, walkR, ruleOp, ih]
      split
      · rfl
      · split
        · rfl
        · split <;> rfl

theorem walkF_start_le (D : Nat → Nat → Nat) (fuel i j : Nat) : (walkF D fuel i j).1 ≤ j := by
  rw [walkF_eq_walkR]
  exact walkR_start_le _ fuel i j

theorem walkF_fuel (D : Nat → Nat → Nat) (f1 f2 i j : Nat) (h1 : i + j ≤ f1) (h2 : i + j ≤ f2) :
    walkF D f1 i j = walkF D f2 i j := by
  rw [walkF_eq_walkR, walkF_eq_walkR]
  exact walkR_fuel _ (ruleOpG_del_pos false D) f1 f2 i j h1 h2

theorem ruleOpG_ok (df : Bool) {eqv : Nat → Nat → Bool} {p t : List Nat} {D : Nat → Nat → Nat} (hD : IsSellers eqv p t D)
    (i j : Nat) (hi : i < p.length) (hj : j ≤ t.length) : OpOK D i j (ruleOpG df D i j) := by
  have hc := ruleOpG_eq_choose df D i j
  cases ho : ruleOpG df D i j <;> rw [ho] at hc
  · -- Match: none of the three tests holds (at column 0 the Ins test does)
    obtain ⟨c1, c2, c3⟩ := choose_mat hc.symm
    have c2 := of_decide_eq_false c2
    cases j with
    | zero => exact absurd (hD.col0_ins i hi) c2
    | succ j' =>
      have hb := hD.cell_bounds i j' hi (by omega)
      have c1 := of_decide_eq_false c1
      have c3 := of_decide_eq_false c3
      simp only [OpOK, Nat.add_sub_cancel] at c1 c3 ⊢
      exact ⟨by omega, by omega, c2, by omega⟩
  · have c1 := of_decide_eq_true (choose_sub hc.symm)
    exact c1
  · have c2 := of_decide_eq_true (choose_ins hc.symm)
    exact c2
  · -- Del: left + 1 = diagonal ≤ current ≤ left + 1
    obtain ⟨hj1, c3⟩ := of_decide_eq_true (choose_del hc.symm)
    obtain ⟨j', rfl⟩ := Nat.exists_eq_add_of_le' hj1
    have hb := hD.cell_bounds i j' hi (by omega)
    simp only [OpOK, Nat.add_sub_cancel] at c3 ⊢
    exact ⟨by omega, by omega⟩

theorem walkF_sound (eqv : Nat → Nat → Bool) (p t : List Nat) (D : Nat → Nat → Nat) (hD : IsSellers eqv p t D) :
    ∀ (fuel i j : Nat), i ≤ p.length → j ≤ t.length → i + j ≤ fuel →
      (walkF D fuel i j).1 ≤ j ∧
      acost eqv (p.take i) ((t.take j).drop (walkF D fuel i j).1) (walkF D fuel i j).2.reverse = some (D i j) := by
  intro fuel i j
  rw [walkF_eq_walkR]
  exact walkR_sound eqv p t D hD _ (ruleOpG_ok false hD) fuel i j

/-! ### the computed matrix is the Sellers matrix -/

/-- a column list holds the true cells after the text prefix `u` -/
def ColExact (w : Nat → Nat → Nat) (p u : List Nat) (col : List Nat) : Prop :=
  col.length = p.length + 1 ∧ ∀ i, i ≤ p.length → nth col i = cell w p u i

theorem natNext_exact (w : Nat → Nat → Nat) (p u : List Nat) (c : Nat) (col : List Nat)
    (h : ColExact w p u col) : ColExact w p (u ++ [c]) (natNext w p c col) := by
  obtain ⟨hl, hx⟩ := h
  refine ⟨newCol_length w p c ⟨col, col, 0⟩ p.length hl hl (Nat.le_refl _), ?_⟩
  intro i
  induction i with
  | zero => intro _; unfold natNext; rw [newCol_zero, cell_zero]
  | succ i ih =>
    intro hi
    have hip : i < p.length := by omega
    unfold natNext at ih ⊢
    rw [newCol_low w p c ⟨col, col, 0⟩ p.length hl (Nat.le_refl _) i hip, ih (by omega)]
    simp only
    rw [hx (i + 1) hi, hx i (by omega), cell_succ w p u c i hip, nth_getElem p i hip]
    omega

theorem allCols_exact (w : Nat → Nat → Nat) (p : List Nat) : ∀ (t u : List Nat) (col : List Nat),
    ColExact w p u col → ∀ j, j ≤ t.length →
      ∃ cj, (allCols w p col t)[j]? = some cj ∧ ColExact w p (u ++ t.take j) cj := by
  intro t
  induction t with
  | nil => intro u col h j hj; have : j = 0 := by simpa using hj
           subst this; exact ⟨col, by simp [allCols], by simpa using h⟩
  | cons c t ih =>
    intro u col h j hj
    cases j with
    | zero => exact ⟨col, by simp [allCols], by simpa using h⟩
    | succ j =>
      obtain ⟨cj, h1, h2⟩ := ih (u ++ [c]) _ (natNext_exact w p u c col h) j (by simpa using hj)
      refine ⟨cj, by simpa [allCols] using h1, ?_⟩
      simpa [List.take_succ_cons, List.append_assoc] using h2

theorem Dm_matrix (w : Nat → Nat → Nat) (p t : List Nat) (i j : Nat) (hi : i ≤ p.length) (hj : j ≤ t.length) :
    Dm (matrix w p t) i j = cell w p (t.take j) i := by
  have h0 : ColExact w p [] (List.range (p.length + 1)) := by
    refine ⟨by simp, ?_⟩
    intro i hi
    rw [nth_range _ _ (by omega), cell_nil w p i hi]
  obtain ⟨cj, h1, h2⟩ := allCols_exact w p t [] _ h0 j hj
  unfold Dm matrix
  simp only [List.getD_eq_getElem?_getD, h1, Option.getD_some]
  simp only [List.nil_append] at h2
  have := h2.2 i hi
  unfold nth at this
  exact this

theorem isSellers_matrix (eqv : Nat → Nat → Bool) (p t : List Nat) :
    IsSellers eqv p t (Dm (matrix (unitW eqv) p t)) := by
  refine ⟨fun j hj => by rw [Dm_matrix _ p t 0 j (Nat.zero_le _) hj, cell_zero], ?_, ?_, ?_, ?_⟩
  · intro i hi
    rw [Dm_matrix _ p t i 0 hi (by omega)]
    simp [cell_nil _ p i hi]
  · intro i j hi hj
    rw [Dm_matrix _ p t (i + 1) (j + 1) (by omega) (by omega), Dm_matrix _ p t i j (by omega) (by omega),
      Dm_matrix _ p t i (j + 1) (by omega) (by omega), Dm_matrix _ p t (i + 1) j (by omega) (by omega),
      List.take_succ_eq_append_getElem hj, cell_succ _ p _ _ i hi]
  · intro i j hi hj
    rw [Dm_matrix _ p t (i + 1) (j + 1) (by omega) (by omega), Dm_matrix _ p t i j (by omega) (by omega),
      List.take_succ_eq_append_getElem hj]
    exact cell_diag _ p _ _ i hi
  · intro i j hi hj
    rw [Dm_matrix _ p t (i + 1) j (by omega) hj, Dm_matrix _ p t i j (by omega) hj]
    unfold cell
    rw [List.take_succ_eq_append_getElem hi]
    simp only [List.reverse_append, List.reverse_cons, List.reverse_nil, List.nil_append, List.singleton_append]
    have := fe_le_cons_pat (unitW eqv) p[i] (List.take i p).reverse (List.take j t).reverse
    omega

/-- **the traceback rule is sound**: for every end position the walk yields a start and a labelled alignment of the
whole pattern with `t[start..stop]` whose number of non-match operations is the Sellers value at that end -/
theorem traceback_sound (eqv : Nat → Nat → Bool) (p t : List Nat) (stop : Nat) (hs : stop ≤ t.length) :
    (traceback (unitW eqv) p t stop).1 ≤ stop ∧
    acost eqv p ((t.take stop).drop (traceback (unitW eqv) p t stop).1) (traceback (unitW eqv) p t stop).2 =
      some (cell (unitW eqv) p (t.take stop) p.length) := by
  have := walkF_sound eqv p t _ (isSellers_matrix eqv p t) (p.length + stop) p.length stop (Nat.le_refl _) hs
    (Nat.le_refl _)
  rw [Dm_matrix _ p t p.length stop (Nat.le_refl _) hs, List.take_length] at this
  exact this

/-- a labelled alignment of the pattern with `t[start..stop]` whose cost is the Sellers value at that end is an accepted hit
whenever that value is within `k` -/
theorem checkHit_of_acost (eqv : Nat → Nat → Bool) (p t : List Nat) (k start stop : Nat) (ops : List Op) (h1 : 1 ≤ stop)
    (hs : stop ≤ t.length) (hle : start ≤ stop) (hk : cell (unitW eqv) p (t.take stop) p.length ≤ k)
    (hc : acost eqv p ((t.take stop).drop start) ops = some (cell (unitW eqv) p (t.take stop) p.length)) :
    checkHit eqv p t k ⟨start, stop, cell (unitW eqv) p (t.take stop) p.length, ops⟩ = true := by
  have hrow := RbV.Model.Ukkonen.lastRow_cell (unitW eqv) p t (stop - 1) (by omega)
  rw [Nat.sub_add_cancel h1] at hrow
  unfold checkHit checkHitRow
  simp only [hle, h1, hs, hc, hrow, hk, decide_true, Bool.and_self, beq_self_eq_true]

/-- … so the predicted hit passes the acceptance test of C10 whenever its distance is within `k` -/
theorem traceback_checkHit (eqv : Nat → Nat → Bool) (p t : List Nat) (k stop : Nat) (h1 : 1 ≤ stop)
    (hs : stop ≤ t.length) (hk : cell (unitW eqv) p (t.take stop) p.length ≤ k) :
    checkHit eqv p t k ⟨(traceback (unitW eqv) p t stop).1, stop, cell (unitW eqv) p (t.take stop) p.length,
      (traceback (unitW eqv) p t stop).2⟩ = true :=
  checkHit_of_acost eqv p t k _ stop _ h1 hs (traceback_sound eqv p t stop hs).1 hk (traceback_sound eqv p t stop hs).2

/-! ### how far the walk goes to the left -/

theorem acost_len (eqv : Nat → Nat → Bool) (ops : List Op) (p s : List Nat) :
    ∀ v, acost eqv p s ops = some v → s.length ≤ p.length + v := by
  induction p, s, ops using acost.induct eqv with
  | case1 => intro v _; exact Nat.zero_le _
  | case2 a p b s r he ih =>
    intro v h
    simp only [acost, he, if_true] at h
    have := ih v h
    simp only [List.length_cons]; omega
  | case3 a p b s r he => intro v h; simp [acost, he] at h
  | case4 a p b s r he => intro v h; simp [acost, he] at h
  | case5 a p b s r he ih =>
    intro v h
    simp only [acost, he, Bool.false_eq_true, if_false, Option.map_eq_some_iff] at h
    obtain ⟨u, hu, rfl⟩ := h
    have := ih u hu
    simp only [List.length_cons]; omega
  | case6 a p s r ih =>
    intro v h
    simp only [acost, Option.map_eq_some_iff] at h
    obtain ⟨u, hu, rfl⟩ := h
    have := ih u hu
    simp only [List.length_cons]; omega
  | case7 p b s r ih =>
    intro v h
    simp only [acost_del_cons, Option.map_eq_some_iff] at h
    obtain ⟨u, hu, rfl⟩ := h
    have := ih u hu
    simp only [List.length_cons]; omega
  | case8 t x y h1 h2 h3 h4 h5 =>
    intro v h
    rw [acost] at h
    · cases h
    all_goals assumption

/-- an alignment of the whole pattern with `t[start..stop]` whose cost is the Sellers value `d` at that end spans at most
`m + min d m` text symbols -/
theorem span_of_acost (eqv : Nat → Nat → Bool) (p t : List Nat) (start stop : Nat) (ops : List Op) (hs : stop ≤ t.length)
    (h : acost eqv p ((t.take stop).drop start) ops = some (cell (unitW eqv) p (t.take stop) p.length)) :
    stop - start ≤ p.length + min (cell (unitW eqv) p (t.take stop) p.length) p.length := by
  have := acost_len eqv _ _ _ _ h
  have hl := cell_le_len (unitW eqv) p (t.take stop) p.length
  simp only [List.length_drop, List.length_take] at this
  omega

/-- the alignment found from a cell of value `d` spans at most `m + min d m` text symbols: `num_cols` of `find_all`
(`m + min(k, m)`) suffices for every hit -/
theorem traceback_span (eqv : Nat → Nat → Bool) (p t : List Nat) (stop : Nat) (hs : stop ≤ t.length) :
    stop - (traceback (unitW eqv) p t stop).1 ≤
      p.length + min (cell (unitW eqv) p (t.take stop) p.length) p.length :=
  span_of_acost eqv p t _ stop _ hs (traceback_sound eqv p t stop hs).2

/-! ### hits: an end whose last-row value is `d ≤ k` -/

theorem hit_cell (eqv : Nat → Nat → Bool) (p t : List Nat) (stop d : Nat) (h1 : 1 ≤ stop) (hs : stop ≤ t.length)
    (hdv : (lastRow (unitW eqv) p t)[stop - 1]? = some d) : cell (unitW eqv) p (t.take stop) p.length = d := by
  have hrow := RbV.Model.Ukkonen.lastRow_cell (unitW eqv) p t (stop - 1) (by omega)
  rw [Nat.sub_add_cancel h1, hdv] at hrow
  exact (Option.some.inj hrow).symm

theorem hit_window (eqv : Nat → Nat → Bool) (p t : List Nat) (k stop d : Nat) (h1 : 1 ≤ stop) (hs : stop ≤ t.length)
    (hdv : (lastRow (unitW eqv) p t)[stop - 1]? = some d) (hk : d ≤ k) :
    stop - (traceback (unitW eqv) p t stop).1 ≤ p.length + min k p.length := by
  have hspan := traceback_span eqv p t stop hs
  rw [hit_cell eqv p t stop d h1 hs hdv] at hspan
  omega

theorem checkHit_of_eq_traceback (eqv : Nat → Nat → Bool) (p t : List Nat) (k stop d : Nat) (h1 : 1 ≤ stop)
    (hs : stop ≤ t.length) (hdv : (lastRow (unitW eqv) p t)[stop - 1]? = some d) (hk : d ≤ k) (X : Nat × Nat × List Op)
    (heq : X = ((traceback (unitW eqv) p t stop).1, d, (traceback (unitW eqv) p t stop).2)) :
    checkHit eqv p t k ⟨X.1, stop, X.2.1, X.2.2⟩ = true := by
  subst heq
  have hc := hit_cell eqv p t stop d h1 hs hdv
  subst hc
  exact traceback_checkHit eqv p t k stop h1 hs hk

end RbV.Model.MyersTraceback
