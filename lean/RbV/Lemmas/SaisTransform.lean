import RbV.Lemmas.SaisText
/-
`suffix_array::transform_text` as modelled for SA-IS (`Sais.transformText`: ranks = index in the ascending alphabet)
equals the specification-level `Transform.transformText` (ranks = number of distinct smaller symbols); facts about ranks
and sentinel positions for `Lemmas/TransformSpec.lean`.
-/
namespace RbV.Sais

/-! ### `Alphabet::new` / `RankTransform::new`: index in the ascending alphabet = number of distinct smaller symbols -/

theorem idxOf_filter_range (p : Nat → Bool) (a n : Nat) (han : a < n) (hp : p a = true) :
    ((List.range n).filter p).idxOf a = ((List.range a).filter p).length := by
  induction n with
  | zero => omega
  | succ n ih =>
    rw [List.range_succ, List.filter_append, List.idxOf_append]
    by_cases h : a < n
    · rw [if_pos (by simp [List.mem_filter, h, hp])]; exact ih h
    · have : a = n := by omega
      subst this
      rw [if_neg (by simp [List.mem_filter])]
      simp [hp]

theorem alphabet_idxOf (t : List Nat) (a : Nat) (ha : a ∈ t) : (alphabet t).idxOf a = Transform.rankOf t a := by
  unfold alphabet Transform.rankOf
  have hf : (fun c => t.contains c) = (fun x => decide (x ∈ t)) := by
    funext c; simp
  rw [hf]
  exact idxOf_filter_range _ a _ (Nat.lt_succ_of_le (mem_le_foldl_max (fun x => x) t 0 a ha)) (by simp [ha])

theorem mem_alphabet (t : List Nat) (a : Nat) (ha : a ∈ t) : a ∈ alphabet t := by
  unfold alphabet
  rw [List.mem_filter, List.mem_range]
  exact ⟨Nat.lt_succ_of_le (mem_le_foldl_max (fun x => x) t 0 a ha), by simpa using ha⟩

theorem transformGo_eq (t : List Nat) (rk : Nat → Nat) (sent off : Nat) (xs : List Nat) (s : Nat)
    (h : ∀ a, a ∈ xs → rk a = Transform.rankOf t a) :
    Sais.transformGo rk sent off xs s = Transform.transformGo t sent off xs s := by
  induction xs generalizing s with
  | nil => rfl
  | cons a as ih =>
    have iha := fun s => ih s (fun b hb => h b (List.mem_cons_of_mem _ hb))
    simp only [Sais.transformGo, Transform.transformGo]
    rw [h a (List.mem_cons_self ..), iha, iha]

theorem transformText_eq (t : List Nat) : Sais.transformText t = Transform.transformText t := by
  unfold Sais.transformText Transform.transformText
  exact transformGo_eq t _ _ _ t _ (fun a ha => alphabet_idxOf t a ha)

end RbV.Sais
