import RbV.Model.Poa
import RbV.Ref.PoaCheck
/-!
# The graph of the model, and `topo` (the model of `petgraph::visit::Topo`) on a well-formed acyclic graph

First the vocabulary every POA file shares: `Dag g` (at least one node, end points in range, no directed cycle) and membership in
`inN` / `outN` / `plain` / `bumpEdge` with the weights `bumpEdge` and an appended edge give.  Then `topo`: it visits every node
exactly once, every node after all its predecessors (`topo_spec`; invariant `TopoInv` of `topoLoop`).  `posIn` turns the visiting
order into a rank function, `topoRk`, that starts at the head of `topo`, increases by `K` along every edge (`topoRk_spec`) and is
greatest at the node visited last (`topoRk_max`).  Last, for the table files: `dag_fold` / `dag_fold1`, invariants of folds
over `topo` of a DAG.
-/
namespace RbV.Poa.Model

/-! ## the graph: `Dag`; membership in `inN`, `outN`, `plain`, `bumpEdge`; `findEdge` -/

/-- at least one node, edge end points in range, no directed cycle -/
structure Dag (g : G) : Prop where
  ne : g.labels ≠ []
  wf : ∀ e ∈ g.es, e.1 < g.labels.length ∧ e.2.1 < g.labels.length
  acyclic : Acyclic (plain g.es)

theorem Dag.pos {g : G} (h : Dag g) : 0 < g.labels.length := List.length_pos_iff.mpr h.ne

/-- the node `topo` visits first: where `addAlignment` starts -/
abbrev G.head (g : G) : Nat := (topo g.labels.length g.es).headD 0

/-- the node `topo` visits last: the node of the last row of the tables -/
abbrev G.last (g : G) : Nat := (topo g.labels.length g.es).getLastD 0

theorem mem_inN (es : WEdges) (v p : Nat) : p ∈ inN es v ↔ ∃ w, (p, v, w) ∈ es := by
  simp only [inN, List.mem_reverse, List.mem_map, List.mem_filter, beq_iff_eq]
  constructor
  · rintro ⟨⟨a, b, w⟩, ⟨he, hb⟩, ha⟩
    simp only at hb ha
    subst hb; subst ha
    exact ⟨w, he⟩
  · rintro ⟨w, he⟩
    exact ⟨(p, v, w), ⟨he, rfl⟩, rfl⟩

theorem mem_outN (es : WEdges) (u x : Nat) : x ∈ outN es u ↔ ∃ w, (u, x, w) ∈ es := by
  simp only [outN, List.mem_reverse, List.mem_map, List.mem_filter, beq_iff_eq]
  constructor
  · rintro ⟨⟨a, b, w⟩, ⟨he, ha⟩, hb⟩
    simp only at hb ha
    subst hb; subst ha
    exact ⟨w, he⟩
  · rintro ⟨w, he⟩
    exact ⟨(u, x, w), ⟨he, rfl⟩, rfl⟩

theorem mem_plain (es : WEdges) (u v : Nat) : (u, v) ∈ plain es ↔ ∃ w, (u, v, w) ∈ es := by
  simp only [plain, List.mem_map]
  constructor
  · rintro ⟨⟨a, b, w⟩, he, h⟩
    simp only [Prod.mk.injEq] at h
    obtain ⟨rfl, rfl⟩ := h
    exact ⟨w, he⟩
  · rintro ⟨w, he⟩
    exact ⟨(u, v, w), he, rfl⟩

theorem outN_length (es : WEdges) (u : Nat) : (outN es u).length = (es.filter fun e => e.1 == u).length := by
  simp [outN]

theorem weight_append (es : WEdges) (x : Nat × Nat × Int) (u v : Nat) :
    weight (es ++ [x]) u v = weight es u v + (if x.1 = u ∧ x.2.1 = v then x.2.2 else 0) := by
  induction es with
  | nil => obtain ⟨a, b, w⟩ := x; simp [weight]
  | cons e r ih => obtain ⟨a, b, w⟩ := e; simp only [List.cons_append, weight, ih]; omega

theorem plain_bumpEdge : ∀ (es : WEdges) (k : Nat), plain (bumpEdge es k) = plain es := by
  intro es
  induction es with
  | nil => intro k; simp [bumpEdge]
  | cons e r ih =>
    intro k
    cases k with
    | zero => simp [bumpEdge, plain]
    | succ k => simp only [bumpEdge, plain, List.map_cons]; have := ih k; simp only [plain] at this; rw [this]

/-- an element of the bumped list is an old one, or an old one with its weight raised by 1 -/
theorem bumpEdge_mem : ∀ (es : WEdges) (k : Nat) (e' : Nat × Nat × Int), e' ∈ bumpEdge es k →
    e' ∈ es ∨ ∃ e ∈ es, e' = (e.1, e.2.1, e.2.2 + 1)
  | [], k, e', h => by simp [bumpEdge] at h
  | a :: r, 0, e', h => by
    simp only [bumpEdge, List.mem_cons] at h
    rcases h with rfl | h
    · right; exact ⟨a, List.mem_cons_self .., rfl⟩
    · left; exact List.mem_cons_of_mem _ h
  | a :: r, k + 1, e', h => by
    simp only [bumpEdge, List.mem_cons] at h
    rcases h with rfl | h
    · left; exact List.mem_cons_self ..
    · rcases bumpEdge_mem r k e' h with h1 | ⟨e, he, h1⟩
      · left; exact List.mem_cons_of_mem _ h1
      · right; exact ⟨e, List.mem_cons_of_mem _ he, h1⟩

theorem weight_bumpEdge : ∀ (es : WEdges) (k u v : Nat), weight es u v ≤ weight (bumpEdge es k) u v := by
  intro es
  induction es with
  | nil => intro k u v; simp [bumpEdge]
  | cons e r ih =>
    intro k u v
    obtain ⟨a, b, w⟩ := e
    cases k with
    | zero => simp only [bumpEdge, weight]; split <;> omega
    | succ k => simp only [bumpEdge, weight]; have := ih k u v; omega

theorem bumpEdge_eq_set : ∀ (es : WEdges) (k : Nat) (e : Nat × Nat × Int), es[k]? = some e →
    bumpEdge es k = es.set k (e.1, e.2.1, e.2.2 + 1)
  | [], k, e, h => by simp at h
  | a :: r, 0, e, h => by
    simp only [List.getElem?_cons_zero, Option.some.injEq] at h
    subst h; rfl
  | a :: r, k + 1, e, h => by
    simp only [List.getElem?_cons_succ] at h
    simp only [bumpEdge, List.set_cons_succ, bumpEdge_eq_set r k e h]

theorem zipIdx_mem_lt {α : Type} : ∀ (l : List α) (k0 : Nat) (x : α) (i : Nat), (x, i) ∈ l.zipIdx k0 → i < k0 + l.length
  | [], k0, x, i, h => by simp at h
  | a :: l, k0, x, i, h => by
    simp only [List.zipIdx_cons, List.mem_cons, Prod.mk.injEq] at h
    rcases h with ⟨_, rfl⟩ | h
    · simp
    · have := zipIdx_mem_lt l (k0 + 1) x i h
      simp only [List.length_cons]; omega

theorem findEdge_lt (es : WEdges) (u v k : Nat) (h : findEdge es u v = some k) : k < es.length := by
  unfold findEdge at h
  simp only at h
  have hm := List.mem_of_getLast? h
  simp only [List.mem_map, List.mem_filter] at hm
  obtain ⟨⟨e, i⟩, ⟨hmem, _⟩, rfl⟩ := hm
  have := zipIdx_mem_lt es 0 e i hmem
  omega

/-! ## pushing the ready successors -/

theorem pushFold_eq (P : Nat → Bool) : ∀ (L st : List Nat),
    L.foldl (fun st nb => if P nb then nb :: st else st) st = (L.filter P).reverse ++ st
  | [], _ => rfl
  | a :: L, st => by
    rw [List.foldl_cons, pushFold_eq P L, List.filter_cons]
    split <;> simp

theorem pushFold_mem (P : Nat → Bool) (L st : List Nat) (s : Nat) :
    s ∈ L.foldl (fun st nb => if P nb then nb :: st else st) st ↔ s ∈ st ∨ (s ∈ L ∧ P s = true) := by
  rw [pushFold_eq, List.mem_append, List.mem_reverse, List.mem_filter, Or.comm]

theorem pushFold_length (P : Nat → Bool) (L st : List Nat) :
    (L.foldl (fun st nb => if P nb then nb :: st else st) st).length ≤ st.length + L.length := by
  rw [pushFold_eq, List.length_append, List.length_reverse]
  have := List.length_filter_le P L
  omega

/-- edges whose source is not yet visited: the fuel measure -/
def pending (es : WEdges) (vis : List Nat) : Nat := (es.filter fun e => !vis.contains e.1).length

theorem pending_cons (es : WEdges) (vis : List Nat) (v : Nat) (hv : v ∉ vis) :
    pending es (v :: vis) + (es.filter fun e => e.1 == v).length = pending es vis := by
  unfold pending
  simp only [List.contains_cons]
  induction es with
  | nil => simp
  | cons e es ih =>
    simp only [List.filter_cons]
    cases h1 : (e.1 == v) with
    | true =>
      have h2 : vis.contains e.1 = false := by
        have : e.1 = v := by simpa using h1
        rw [this]; simpa using hv
      simp only [h2, Bool.true_or, Bool.not_true, Bool.false_eq_true, if_false, if_true, Bool.not_false,
        List.length_cons]
      omega
    | false =>
      cases h2 : vis.contains e.1 with
      | true => simpa [h2] using ih
      | false => simp only [Bool.or_self, Bool.not_false, if_true, Bool.false_eq_true, if_false, List.length_cons]; omega

/-! ## the loop invariant -/

/-- every predecessor of an entry stands behind it (the list is newest first) -/
def PredClosed (es : WEdges) : List Nat → Prop
  | [] => True
  | a :: r => (∀ p ∈ inN es a, p ∈ r) ∧ PredClosed es r

/-- invariant of `topoLoop`; `vis` = the nodes visited, newest first.  `nodup`, `visLt`, `stLt`: no node twice, only nodes `< n` (the
stack may hold visited nodes: they are skipped when popped); `ready`: a node on the stack has all its predecessors visited;
`closed`: `vis` is in topological order; `compl`: every node whose predecessors are all visited is visited or on the stack -/
structure TopoInv (n : Nat) (es : WEdges) (stack vis : List Nat) : Prop where
  nodup : vis.Nodup
  visLt : ∀ v ∈ vis, v < n
  stLt : ∀ v ∈ stack, v < n
  ready : ∀ s ∈ stack, ∀ p ∈ inN es s, p ∈ vis
  closed : PredClosed es vis
  compl : ∀ v, v < n → (∀ p ∈ inN es v, p ∈ vis) → v ∈ vis ∨ v ∈ stack

theorem topoLoop_spec (n : Nat) (es : WEdges) (wf : ∀ e ∈ es, e.1 < n ∧ e.2.1 < n) :
    ∀ (f : Nat) (stack vis : List Nat), TopoInv n es stack vis → stack.length + pending es vis < f →
      ∃ vis', topoLoop es f stack vis vis = vis'.reverse ∧ TopoInv n es [] vis' := by
  intro f
  induction f with
  | zero => intro stack vis _ h; omega
  | succ f ih =>
    intro stack vis inv hf
    cases stack with
    | nil => exact ⟨vis, by simp [topoLoop], inv⟩
    | cons v stack =>
      by_cases hv : vis.contains v = true
      · have hvm : v ∈ vis := by simpa using hv
        have : topoLoop es (f + 1) (v :: stack) vis vis = topoLoop es f stack vis vis := by
          simp [topoLoop, hvm]
        rw [this]
        apply ih
        · refine ⟨inv.nodup, inv.visLt, fun x hx => inv.stLt x (List.mem_cons_of_mem _ hx),
            fun s hs => inv.ready s (List.mem_cons_of_mem _ hs), inv.closed, ?_⟩
          intro u hu hp
          rcases inv.compl u hu hp with h | h
          · exact Or.inl h
          · rcases List.mem_cons.mp h with h | h
            · subst h; exact Or.inl hvm
            · exact Or.inr h
        · simp only [List.length_cons] at hf; omega
      · have hvm : v ∉ vis := by simpa using hv
        have hstep : topoLoop es (f + 1) (v :: stack) vis vis = topoLoop es f
            ((outN es v).foldl (fun st nb => if (inN es nb).all (v :: vis).contains then nb :: st else st) stack)
            (v :: vis) (v :: vis) := by
          simp [topoLoop, hvm]
        rw [hstep]
        apply ih
        · refine ⟨List.nodup_cons.mpr ⟨hvm, inv.nodup⟩, ?_, ?_, ?_, ?_, ?_⟩
          · intro x hx
            rcases List.mem_cons.mp hx with h | h
            · subst h; exact inv.stLt _ (by simp)
            · exact inv.visLt x h
          · intro x hx
            rcases (pushFold_mem _ _ _ _).mp hx with h | ⟨h, _⟩
            · exact inv.stLt x (List.mem_cons_of_mem _ h)
            · obtain ⟨w, hw⟩ := (mem_outN es v x).mp h
              exact (wf _ hw).2
          · intro s hs p hp
            rcases (pushFold_mem _ _ _ _).mp hs with h | ⟨_, h⟩
            · exact List.mem_cons_of_mem _ (inv.ready s (List.mem_cons_of_mem _ h) p hp)
            · have := List.all_eq_true.mp h p hp
              simpa using this
          · exact ⟨fun p hp => inv.ready v (by simp) p hp, inv.closed⟩
          · intro u hu hp
            by_cases hall : ∀ p ∈ inN es u, p ∈ vis
            · rcases inv.compl u hu hall with h | h
              · exact Or.inl (List.mem_cons_of_mem _ h)
              · rcases List.mem_cons.mp h with h | h
                · subst h; exact Or.inl (by simp)
                · exact Or.inr ((pushFold_mem _ _ _ _).mpr (Or.inl h))
            · -- some predecessor became visited just now: it is `v`, so `u` is a successor of `v`
              have hvu : v ∈ inN es u := by
                apply Classical.byContradiction
                intro hn
                apply hall
                intro p hp'
                rcases List.mem_cons.mp (hp p hp') with h | h
                · subst h; exact absurd hp' hn
                · exact h
              obtain ⟨w, hw⟩ := (mem_inN es u v).mp hvu
              right
              apply (pushFold_mem _ _ _ _).mpr
              right
              refine ⟨(mem_outN es v u).mpr ⟨w, hw⟩, ?_⟩
              apply List.all_eq_true.mpr
              intro p hp'
              simpa using hp p hp'
        · have h1 := pushFold_length (fun nb => (inN es nb).all (v :: vis).contains) (outN es v) stack
          have h2 := pending_cons es vis v hvm
          rw [outN_length] at h1
          simp only [List.length_cons] at hf
          omega

/-- what `topo` returns on a well-formed acyclic graph: the reverse of a duplicate-free list `vis` of exactly the nodes `< n`;
`vis` is newest first: the predecessors of a node stand behind it (`PredClosed`) -/
theorem topo_spec (n : Nat) (es : WEdges) (wf : ∀ e ∈ es, e.1 < n ∧ e.2.1 < n) (hac : Acyclic (plain es)) :
    ∃ vis, topo n es = vis.reverse ∧ vis.Nodup ∧ (∀ v, v ∈ vis ↔ v < n) ∧ PredClosed es vis := by
  have hinit : TopoInv n es ((List.range n).filter fun v => (inN es v).isEmpty).reverse [] := by
    refine ⟨List.nodup_nil, by simp, ?_, ?_, trivial, ?_⟩
    · intro v hv
      simp only [List.mem_reverse, List.mem_filter, List.mem_range] at hv
      exact hv.1
    · intro s hs p hp
      simp only [List.mem_reverse, List.mem_filter, List.mem_range, List.isEmpty_iff] at hs
      rw [hs.2] at hp
      exact absurd hp (by simp)
    · intro v hv hp
      right
      simp only [List.mem_reverse, List.mem_filter, List.mem_range, List.isEmpty_iff]
      refine ⟨hv, ?_⟩
      cases h : inN es v with
      | nil => rfl
      | cons a r => exact absurd (hp a (by rw [h]; simp)) (by simp)
  obtain ⟨vis, h1, inv⟩ := topoLoop_spec n es wf (n + es.length + 1) _ [] hinit (by
    have h1 : ((List.range n).filter fun v => (inN es v).isEmpty).length ≤ n := by
      have := List.length_filter_le (fun v => (inN es v).isEmpty) (List.range n)
      simpa using this
    have h2 : pending es [] ≤ es.length := List.length_filter_le _ _
    simp only [List.length_reverse]
    omega)
  refine ⟨vis, h1, inv.nodup, ?_, inv.closed⟩
  intro v
  constructor
  · exact inv.visLt v
  · intro hv
    apply Classical.byContradiction
    intro hnv
    have hacIn : ∀ w, ¬ ReachIn (plain es) (List.range n) w w := fun w hw => hac w (reach_of_reachIn hw)
    have hL : (List.range n).filter (fun u => !vis.contains u) ≠ [] := by
      intro he
      have : v ∈ (List.range n).filter (fun u => !vis.contains u) := by
        simp only [List.mem_filter, List.mem_range]
        exact ⟨hv, by simpa using hnv⟩
      rw [he] at this
      exact absurd this (by simp)
    obtain ⟨m, hm, hmin⟩ := exists_minimal (plain es) (List.range n) hacIn _ hL
    simp only [List.mem_filter, List.mem_range] at hm
    obtain ⟨hmn, hmv⟩ := hm
    have hmv' : m ∉ vis := by simpa using hmv
    cases hall : (inN es m).all (fun p => vis.contains p) with
    | true =>
      have := inv.compl m hmn (fun p hp => by simpa using List.all_eq_true.mp hall p hp)
      rcases this with h | h
      · exact hmv' h
      · exact absurd h (by simp)
    | false =>
      obtain ⟨p, hp, hpv⟩ := List.all_eq_false.mp hall
      obtain ⟨w, hw⟩ := (mem_inN es m p).mp hp
      have hpn : p < n := (wf _ hw).1
      refine hmin p ?_ (ReachIn.step (List.mem_range.mpr hpn) (List.mem_range.mpr hmn) ((mem_plain es p m).mpr ⟨w, hw⟩))
      simp only [List.mem_filter, List.mem_range]
      exact ⟨hpn, by simpa using hpv⟩

/-! ## the rank function of the visiting order -/

/-- 1-based position of `v` counted from the end of `l` (0 if absent); `l` = visiting order, newest first -/
def posIn : List Nat → Nat → Nat
  | [], _ => 0
  | a :: r, v => if v = a then r.length + 1 else posIn r v

theorem posIn_le : ∀ (l : List Nat) (v : Nat), posIn l v ≤ l.length := by
  intro l
  induction l with
  | nil => intro v; simp [posIn]
  | cons a r ih => intro v; simp only [posIn, List.length_cons]; split; omega; have := ih v; omega

theorem posIn_pos : ∀ (l : List Nat) (v : Nat), v ∈ l → 0 < posIn l v := by
  intro l
  induction l with
  | nil => intro v h; simp at h
  | cons a r ih =>
    intro v h
    simp only [posIn]
    split
    · omega
    · rename_i hne
      rcases List.mem_cons.mp h with h | h
      · exact absurd h hne
      · exact ih v h

theorem predClosed_mem (es : WEdges) : ∀ (l : List Nat), PredClosed es l → ∀ v ∈ l, ∀ p ∈ inN es v, p ∈ l := by
  intro l
  induction l with
  | nil => intro _ v h; simp at h
  | cons a r ih =>
    intro hc v hv p hp
    rcases List.mem_cons.mp hv with h | h
    · subst h; exact List.mem_cons_of_mem _ (hc.1 p hp)
    · exact List.mem_cons_of_mem _ (ih hc.2 v h p hp)

theorem posIn_lt (es : WEdges) : ∀ (l : List Nat), PredClosed es l → l.Nodup → ∀ v ∈ l, ∀ p ∈ inN es v,
    posIn l p < posIn l v := by
  intro l
  induction l with
  | nil => intro _ _ v h; simp at h
  | cons a r ih =>
    intro hc hn v hv p hp
    obtain ⟨har, hnr⟩ := List.nodup_cons.mp hn
    rcases List.mem_cons.mp hv with h | h
    · subst h
      have hpr : p ∈ r := hc.1 p hp
      have hpa : p ≠ v := fun e => har (e ▸ hpr)
      simp only [posIn, hpa, if_false, if_true]
      have := posIn_le r p
      omega
    · have hpr : p ∈ r := predClosed_mem es r hc.2 v h p hp
      have hpa : p ≠ a := fun e => har (e ▸ hpr)
      have hva : v ≠ a := fun e => har (e ▸ h)
      simp only [posIn, hpa, hva, if_false]
      exact ih hc.2 hnr v h p hp

theorem posIn_head : ∀ (l : List Nat), l.Nodup → posIn l (l.reverse.headD 0) ≤ 1 := by
  intro l
  induction l with
  | nil => intro _; simp [posIn]
  | cons a r ih =>
    intro hn
    obtain ⟨har, hnr⟩ := List.nodup_cons.mp hn
    cases hr : r with
    | nil => simp [posIn]
    | cons b r' =>
      have hne : r.reverse ≠ [] := by rw [hr]; simp
      have hh : (a :: r).reverse.headD 0 = r.reverse.headD 0 := by
        simp only [List.reverse_cons]
        cases h : r.reverse with
        | nil => exact absurd h hne
        | cons x xs => simp
      have hmem : r.reverse.headD 0 ∈ r := by
        cases h : r.reverse with
        | nil => exact absurd h hne
        | cons x xs =>
          have : x ∈ r.reverse := by rw [h]; simp
          simpa using this
      rw [← hr, hh]
      have hna : r.reverse.headD 0 ≠ a := fun e => har (e ▸ hmem)
      simp only [posIn, hna, if_false]
      exact ih hnr

/-- rank of node `v`: `K ·` (0-based position in `topo`, +1).  `- 1 + 1`: a node `topo` does not list gets rank `K` like the head, so
`topoRk_spec` / `topoRk_max` need no `v < n`.  The driver's certificate `acyclicCert` evaluates another rank function of the same
order, `Model.topoRank` (a node not listed gets 0), and `acyclic_of_cert` is about that one; no lemma relates the two — the proofs
go through `addAlignment_acyclic_of_bodyB`, which takes any rank function. -/
def topoRk (n : Nat) (es : WEdges) (K : Nat) (v : Nat) : Nat := K * ((posIn (topo n es).reverse v - 1) + 1)

theorem Dag.topo_spec {g : G} (h : Dag g) : ∃ vis, topo g.labels.length g.es = vis.reverse ∧ vis.Nodup ∧
    (∀ v, v ∈ vis ↔ v < g.labels.length) ∧ PredClosed g.es vis := Model.topo_spec g.labels.length g.es h.wf h.acyclic

theorem topoRk_spec {g : G} (hg : Dag g) (K : Nat) :
    g.head < g.labels.length ∧ K ≤ topoRk g.labels.length g.es K g.head ∧
    (∀ v, topoRk g.labels.length g.es K g.head ≤ topoRk g.labels.length g.es K v) ∧
    (∀ v, ∀ p ∈ inN g.es v, topoRk g.labels.length g.es K p + K ≤ topoRk g.labels.length g.es K v ∧ v < g.labels.length) := by
  have hn := hg.pos
  have wf := hg.wf
  have hac := hg.acyclic
  unfold G.head
  generalize g.labels.length = n at hn wf ⊢
  generalize g.es = es at wf hac ⊢
  obtain ⟨vis, h1, hnd, hmem, hcl⟩ := topo_spec n es wf hac
  have hrev : (topo n es).reverse = vis := by rw [h1]; simp
  have hhead : posIn vis ((topo n es).headD 0) ≤ 1 := by rw [h1]; exact posIn_head vis hnd
  refine ⟨?_, ?_, ?_, ?_⟩
  · have h0 : 0 ∈ vis := (hmem 0).mpr hn
    rw [h1]
    cases h : vis.reverse with
    | nil =>
      have : (0 : Nat) ∈ vis.reverse := by simpa using h0
      rw [h] at this; exact absurd this (by simp)
    | cons x xs =>
      have : x ∈ vis.reverse := by rw [h]; simp
      exact (hmem x).mp (by simpa using this)
  · unfold topoRk; exact Nat.le_mul_of_pos_right K (by omega)
  · intro v
    unfold topoRk
    rw [hrev]
    apply Nat.mul_le_mul_left
    omega
  · intro v p hp
    obtain ⟨w, hw⟩ := (mem_inN es v p).mp hp
    have hvn : v < n := (wf _ hw).2
    have hpn : p < n := (wf _ hw).1
    refine ⟨?_, hvn⟩
    have hlt := posIn_lt es vis hcl hnd v ((hmem v).mpr hvn) p hp
    have hpp := posIn_pos vis p ((hmem p).mpr hpn)
    unfold topoRk
    rw [hrev]
    have e1 : posIn vis p - 1 + 1 = posIn vis p := by omega
    have e2 : posIn vis v - 1 + 1 = posIn vis v := by omega
    rw [e1, e2]
    calc K * posIn vis p + K = K * (posIn vis p + 1) := by rw [Nat.mul_succ]
      _ ≤ K * posIn vis v := Nat.mul_le_mul_left K hlt

theorem topoRk_max {g : G} (hg : Dag g) (K : Nat) :
    ∀ v, topoRk g.labels.length g.es K v ≤ topoRk g.labels.length g.es K g.last := by
  obtain ⟨vis, h1, _, _, _⟩ := hg.topo_spec
  unfold G.last
  generalize g.labels.length = n at h1 ⊢
  generalize g.es = es at h1 ⊢
  have hrev : (topo n es).reverse = vis := by rw [h1]; simp
  intro v
  unfold topoRk
  rw [hrev, h1]
  apply Nat.mul_le_mul_left
  cases vis with
  | nil => simp [posIn]
  | cons a r =>
    have : (a :: r).reverse.getLastD 0 = a := by
      simp only [List.reverse_cons]; exact List.getLastD_concat
    rw [this]
    have h2 := posIn_le (a :: r) v
    simp only [posIn, if_true, List.length_cons] at h2 ⊢
    omega

/-! ## folds along `topo` of a DAG -/

theorem getLastD_mem {α : Type} : ∀ (l : List α) (d : α), l ≠ [] → l.getLastD d ∈ l
  | [], _, h => absurd rfl h
  | [a], _, _ => by simp [List.getLastD]
  | a :: b :: l, d, _ => by
    have := getLastD_mem (b :: l) a (by simp)
    simp only [List.getLastD_cons] at this ⊢
    exact List.mem_cons_of_mem _ this

/-- two folds along `topo` of a DAG, side by side: an invariant that a step hands on whenever the predecessors of its node are
done holds at the end, for a list `done` of nodes `< m` that contains the last node -/
theorem dag_fold {α β : Type} {labels : List Nat} {es : WEdges} (hd : Dag { labels := labels, es := es })
    (f : α → Nat → α) (g : β → Nat → β) (I : List Nat → α → β → Prop)
    (hstep : ∀ done a b v, (∀ p ∈ inN es v, p ∈ done) → (∀ u ∈ done, u < labels.length) → v < labels.length →
      I done a b → I (v :: done) (f a v) (g b v))
    (a : α) (b : β) (h0 : I [] a b) :
    ∃ done, I done ((topo labels.length es).foldl f a) ((topo labels.length es).foldl g b) ∧
      (topo labels.length es).getLastD 0 ∈ done ∧ ∀ u ∈ done, u < labels.length := by
  obtain ⟨vis, h1, _, hmem, hcl⟩ := topo_spec labels.length es hd.wf hd.acyclic
  have key : ∀ vis, PredClosed es vis → (∀ v ∈ vis, v < labels.length) →
      I vis (vis.reverse.foldl f a) (vis.reverse.foldl g b) := by
    intro vis
    induction vis with
    | nil => intro _ _; exact h0
    | cons v r ih =>
      intro hc hlt
      have hr : ∀ u ∈ r, u < labels.length := fun u hu => hlt u (List.mem_cons_of_mem _ hu)
      simp only [List.reverse_cons, List.foldl_append, List.foldl_cons, List.foldl_nil]
      exact hstep r _ _ v hc.1 hr (hlt v List.mem_cons_self) (ih hc.2 hr)
  have h0m : 0 ∈ vis := (hmem 0).mpr (List.length_pos_iff.mpr hd.ne)
  refine ⟨vis, by rw [h1]; exact key vis hcl fun v hv => (hmem v).mp hv, ?_, fun u hu => (hmem u).mp hu⟩
  rw [h1]
  exact List.mem_reverse.mp (getLastD_mem _ _ (List.ne_nil_of_mem (List.mem_reverse.mpr h0m)))

/-- the same for one fold -/
theorem dag_fold1 {α : Type} {labels : List Nat} {es : WEdges} (hd : Dag { labels := labels, es := es })
    (f : α → Nat → α) (I : List Nat → α → Prop)
    (hstep : ∀ done a v, (∀ p ∈ inN es v, p ∈ done) → (∀ u ∈ done, u < labels.length) → v < labels.length →
      I done a → I (v :: done) (f a v))
    (a : α) (h0 : I [] a) :
    ∃ done, I done ((topo labels.length es).foldl f a) ∧
      (topo labels.length es).getLastD 0 ∈ done ∧ ∀ u ∈ done, u < labels.length :=
  dag_fold hd f (fun (u : Unit) _ => u) (fun d a _ => I d a) (fun d a _ v => hstep d a v) a () h0

end RbV.Poa.Model
