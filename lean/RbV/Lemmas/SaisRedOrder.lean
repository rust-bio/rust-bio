import RbV.Lemmas.SaisLmsEq
import RbV.Lemmas.SaisLmsList
/-
The reduced text of SA-IS: if the labels of the LMS positions compare exactly like the typed LMS substrings
(`key`), then the suffixes of the reduced text compare exactly like the suffixes of the text at the LMS positions.
(1) a smaller key gives a smaller suffix; (2) with equal keys the two suffixes compare like those at the next LMS positions;
(3) induction along the list of LMS positions.
-/
namespace RbV.Sais

/-! ### peeling equal leading symbols off two suffixes -/

theorem suf_peel (t : List Nat) : ∀ l x y, x + l ≤ t.length → y + l ≤ t.length →
    (∀ k, k < l → sym t (x + k) = sym t (y + k)) →
    (lexLt (t.drop x) (t.drop y) ↔ lexLt (t.drop (x + l)) (t.drop (y + l))) := by
  intro l
  induction l with
  | zero => intro x y _ _ _; exact Iff.rfl
  | succ l ih =>
    intro x y hx hy he
    have e0 := he 0 (by omega)
    simp only [Nat.add_zero] at e0
    have h1 := ih (x + 1) (y + 1) (by omega) (by omega) (fun k hk => by
      have := he (k + 1) (by omega)
      have e1 : x + 1 + k = x + (k + 1) := by omega
      have e2 : y + 1 + k = y + (k + 1) := by omega
      rw [e1, e2]; exact this)
    have e1 : x + 1 + l = x + (l + 1) := by omega
    have e2 : y + 1 + l = y + (l + 1) := by omega
    rw [e1, e2] at h1
    rw [drop_sym t x (by omega), drop_sym t y (by omega), lexLt_cons, ← h1]
    constructor
    · rintro (h | ⟨_, h⟩)
      · omega
      · exact h
    · intro h; exact Or.inr ⟨e0, h⟩

/-! ### (1) a smaller typed LMS substring gives a smaller suffix -/

theorem sufR_of_enc_lt (t : List Nat) (hv : Valid t) (x y : Nat) (hx : x < t.length) (hy : y < t.length)
    (h : enc t x < enc t y) : sufR t x y := by
  rcases (enc_lt_iff t x y).mp h with h | ⟨h1, h2, h3⟩
  · exact (indRel_suf t hv).ofSym _ _ hx hy h
  · exact (indRel_suf t hv).ofLS _ _ hx hy h1 h2 h3

/-- a smaller typed LMS substring gives a smaller suffix (for any two positions; along the two keys) -/
theorem sufR_of_key_lt_aux (t : List Nat) (hv : Valid t) : ∀ m x y, t.length ≤ x + m → x < t.length → y < t.length →
    lexLt (key t x) (key t y) → sufR t x y := by
  intro m
  induction m with
  | zero => intro x y h1 h2; omega
  | succ m ih =>
    intro x y hm hx hy h
    by_cases hx1 : x + 1 < t.length
    · by_cases hy1 : y + 1 < t.length
      · obtain ⟨rx, ex⟩ := key_head t (x + 1)
        obtain ⟨ry, ey⟩ := key_head t (y + 1)
        rw [key_cons t x hx1, key_cons t y hy1, lexLt_cons] at h
        rcases h with h | ⟨he, h⟩
        · exact sufR_of_enc_lt t hv x y hx hy h
        · -- equal first typed symbols: the suffixes compare like those at `x + 1`, `y + 1`
          have hs := (enc_eq_iff t x y).mp he
          have hstep : sufR t (x + 1) (y + 1) → sufR t x y := fun h' => by
            unfold sufR at h' ⊢
            rw [drop_sym t x hx, drop_sym t y hy, lexLt_cons]
            exact Or.inr ⟨hs.1, h'⟩
          apply hstep
          -- a smaller second typed symbol decides; with equal ones `x + 1` and `y + 1` are LMS or not together
          have hlt := sufR_of_enc_lt t hv (x + 1) (y + 1) hx1 hy1
          cases hlx : isLms (tyOf t) (x + 1) <;> cases hly : isLms (tyOf t) (y + 1) <;>
            simp only [hlx, hly, if_true, if_false, Bool.false_eq_true] at h
          · exact ih (x + 1) (y + 1) (by omega) hx1 hy1 h
          · rw [ex, lexLt_cons] at h
            exact h.elim hlt (fun h => absurd h.2 (not_lexLt_nil _))
          · rw [ey, lexLt_cons] at h
            refine h.elim hlt (fun h => ?_)
            have := isLms_succ_congr (tyOf t) x y hs.2 ((enc_eq_iff t _ _).mp h.1).2
            rw [hlx, hly] at this
            cases this
          · rw [lexLt_cons] at h
            exact h.elim hlt (fun h => absurd h.2 (not_lexLt_nil _))
      · -- `y` is the last position: its key is the smallest
        rw [show y = t.length - 1 by omega] at h
        exact absurd h (lexLt_asymm (key_last_lt t hv x hx1))
    · -- `x` is the last position: its suffix is the smallest
      have hxl : x = t.length - 1 := by omega
      have hy1 : y + 1 < t.length := by
        apply Classical.byContradiction
        intro hc
        rw [show y = x by omega] at h
        exact lexLt_irrefl _ h
      exact (indRel_suf t hv).ofSym x y hx hy (hxl ▸ hv.lastMin y hy1)

theorem sufR_of_key_lt (t : List Nat) (hv : Valid t) (p q : Nat)
    (hp : isLms (tyOf t) p = true) (hq : isLms (tyOf t) q = true)
    (h : lexLt (key t p) (key t q)) : sufR t p q :=
  sufR_of_key_lt_aux t hv t.length p q (Nat.le_add_left _ _) (lt_of_isLms p hp) (lt_of_isLms q hq) h

/-! ### (2) equal typed LMS substrings -/

theorem sufR_of_key_eq (t : List Nat) (p q p' q' : Nat) (hpp : p < p') (hqq : q < q')
    (hp : NextLms t p (p' - p)) (hq : NextLms t q (q' - q)) (h : key t p = key t q) :
    (sufR t p q ↔ sufR t p' q') := by
  obtain ⟨e, henc⟩ := enc_eq_of_key_eq t p q _ _ hp hq h
  have := suf_peel t (p' - p) p q (Nat.le_of_lt (nextLms_lt t p _ hp)) (e ▸ Nat.le_of_lt (nextLms_lt t q _ hq))
    (fun k hk => ((enc_eq_iff t _ _).mp (henc k (Nat.le_of_lt hk))).1)
  rwa [Nat.add_sub_cancel' (Nat.le_of_lt hpp), e, Nat.add_sub_cancel' (Nat.le_of_lt hqq)] at this

/-! ### (3) the list of LMS positions -/

theorem nextLms_of_rho (t : List Nat) (x y a : Nat) (hxy : x < y) (hx : isLms (tyOf t) x = true)
    (hy : isLms (tyOf t) y = true) (rx : rho (tyOf t) x = a) (ry : rho (tyOf t) y = a + 1) :
    NextLms t x (y - x) := by
  refine ⟨by omega, ?_, ?_⟩
  · have e : x + (y - x) = y := by omega
    rw [e]; exact hy
  · intro k hk0 hk
    cases hc : isLms (tyOf t) (x + k) with
    | false => rfl
    | true =>
      have r1 := rho_mono (tyOf t) x (x + k) (by omega) hx
      have r2 := rho_mono (tyOf t) (x + k) y (by omega) hc
      omega

theorem nextLms_lmsOf (t : List Nat) (a : Nat) (ha : a + 1 < (lmsOf t).length) :
    NextLms t ((lmsOf t).getD a 0)
      ((lmsOf t).getD (a + 1) 0 - (lmsOf t).getD a 0) := by
  have hm := lmsOf_getD_mono t a (a + 1) (by omega) ha
  obtain ⟨_, ha2⟩ := lmsOf_getD_spec t a (by omega)
  obtain ⟨_, hb2⟩ := lmsOf_getD_spec t (a + 1) ha
  exact nextLms_of_rho t _ _ a hm ha2 hb2 (rho_lmsOf_getD t a (by omega))
    (rho_lmsOf_getD t (a + 1) ha)

/-- two different entries of the LMS list with equal keys: neither is the last one, and the suffixes compare like the
suffixes at the next entries -/
theorem lms_step_eq (t : List Nat) (hv : Valid t) (h2 : 2 ≤ t.length) (a b : Nat)
    (ha : a < (lmsOf t).length) (hb : b < (lmsOf t).length) (hab : a ≠ b)
    (hke : key t ((lmsOf t).getD a 0) = key t ((lmsOf t).getD b 0)) :
    a + 1 < (lmsOf t).length ∧ b + 1 < (lmsOf t).length ∧
    (sufR t ((lmsOf t).getD a 0) ((lmsOf t).getD b 0) ↔
      sufR t ((lmsOf t).getD (a + 1) 0) ((lmsOf t).getD (b + 1) 0)) := by
  obtain ⟨ha1, _⟩ := lmsOf_getD_spec t a ha
  obtain ⟨hb1, _⟩ := lmsOf_getD_spec t b hb
  have hne : (lmsOf t).getD a 0 ≠ (lmsOf t).getD b 0 :=
    fun e => hab (nodup_getD_inj _ (nodup_lmsBelow _ _) a b ha hb e)
  have ha' := lmsOf_succ_lt t hv h2 a ha (key_eq_not_last t hv _ _ ha1 hb1 hne hke)
  have hb' := lmsOf_succ_lt t hv h2 b hb
    (key_eq_not_last t hv _ _ hb1 ha1 hne.symm hke.symm)
  exact ⟨ha', hb', sufR_of_key_eq t _ _ _ _ (lmsOf_getD_mono t a (a + 1) (by omega) ha')
    (lmsOf_getD_mono t b (b + 1) (by omega) hb') (nextLms_lmsOf t a ha') (nextLms_lmsOf t b hb') hke⟩

/-- on the list of LMS positions the suffix order unfolds like `lexLt_cons`: first by the typed LMS substrings, then by
the next entries -/
theorem sufR_lms_cons (t : List Nat) (hv : Valid t) (h2 : 2 ≤ t.length) (a b : Nat)
    (ha : a < (lmsOf t).length) (hb : b < (lmsOf t).length) (hab : a ≠ b) :
    sufR t ((lmsOf t).getD a 0) ((lmsOf t).getD b 0) ↔
      lexLt (key t ((lmsOf t).getD a 0)) (key t ((lmsOf t).getD b 0)) ∨
      (key t ((lmsOf t).getD a 0) = key t ((lmsOf t).getD b 0) ∧
        sufR t ((lmsOf t).getD (a + 1) 0) ((lmsOf t).getD (b + 1) 0)) := by
  obtain ⟨_, ha2⟩ := lmsOf_getD_spec t a ha
  obtain ⟨_, hb2⟩ := lmsOf_getD_spec t b hb
  by_cases hke : key t ((lmsOf t).getD a 0) = key t ((lmsOf t).getD b 0)
  · rw [(lms_step_eq t hv h2 a b ha hb hab hke).2.2]
    exact ⟨fun h => Or.inr ⟨hke, h⟩, fun h => h.elim (fun h => absurd (hke ▸ h) (lexLt_irrefl _)) And.right⟩
  · constructor
    · intro hs
      exact Or.inl ((lexLt_total _ _ hke).resolve_right
        (fun h => lexLt_asymm (sufR_of_key_lt t hv _ _ hb2 ha2 h) hs))
    · rintro (h | ⟨h, _⟩)
      · exact sufR_of_key_lt t hv _ _ ha2 hb2 h
      · exact absurd h hke

theorem lms_suffix_order_aux (t : List Nat) (hv : Valid t) (h2 : 2 ≤ t.length) (red : List Nat)
    (hlen : red.length = (lmsOf t).length)
    (hord : ∀ a b, a < red.length → b < red.length →
      (red.getD a 0 < red.getD b 0 ↔
        lexLt (key t ((lmsOf t).getD a 0)) (key t ((lmsOf t).getD b 0))) ∧
      (red.getD a 0 = red.getD b 0 ↔
        key t ((lmsOf t).getD a 0) = key t ((lmsOf t).getD b 0))) :
    ∀ k a b, (red.length - a) + (red.length - b) ≤ k → a < red.length → b < red.length →
      (lexLt (red.drop a) (red.drop b) ↔
        sufR t ((lmsOf t).getD a 0) ((lmsOf t).getD b 0)) := by
  intro k
  induction k with
  | zero => intro a b hk ha hb; omega
  | succ k ih =>
    intro a b hk ha hb
    by_cases hab : a = b
    · subst hab
      exact ⟨fun h => absurd h (lexLt_irrefl _), fun h => absurd h (lexLt_irrefl _)⟩
    · obtain ⟨ho1, ho2⟩ := hord a b ha hb
      rw [List.drop_eq_getD_cons red a 0 ha, List.drop_eq_getD_cons red b 0 hb, lexLt_cons, sufR_lms_cons t hv h2 a b (by omega) (by omega) hab]
      -- both sides: the heads differ, or they agree and the tails compare
      refine or_congr ho1 ((and_congr_left' ho2).trans (and_congr_right fun hke => ?_))
      obtain ⟨ha', hb', _⟩ := lms_step_eq t hv h2 a b (by omega) (by omega) hab hke
      exact ih (a + 1) (b + 1) (by omega) (by omega) (by omega)

theorem lms_suffix_order (t : List Nat) (hv : Valid t) (h2 : 2 ≤ t.length) (red : List Nat)
    (hlen : red.length = (lmsOf t).length)
    (hord : ∀ a b, a < red.length → b < red.length →
      (red.getD a 0 < red.getD b 0 ↔
        lexLt (key t ((lmsOf t).getD a 0)) (key t ((lmsOf t).getD b 0))) ∧
      (red.getD a 0 = red.getD b 0 ↔
        key t ((lmsOf t).getD a 0) = key t ((lmsOf t).getD b 0)))
    (a b : Nat) (ha : a < red.length) (hb : b < red.length) :
    (lexLt (red.drop a) (red.drop b) ↔
      sufR t ((lmsOf t).getD a 0) ((lmsOf t).getD b 0)) :=
  lms_suffix_order_aux t hv h2 red hlen hord _ a b (Nat.le_refl _) ha hb

end RbV.Sais
