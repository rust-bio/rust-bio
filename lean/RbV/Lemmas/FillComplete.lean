import RbV.Lemmas.FillCells
/-!
Completeness side of the refinement proof of `Model/PairwiseFill.lean`: no alignment is missed.

`LB L i j v`: `v` is at least the value (prefix clip penalties included) of *every* alignment of a sub-range
`x[xs..i]` with a sub-range `y[ys..j]` (for the layers `I` / `D`: of those ending with an insertion / deletion).
`LBn i j v`: the same for the alignments that end in row `i` and in a column `ye ≤ j`, `ye < n`, with the y-suffix clip
charged (what `Sn[i]` has to dominate after column `j`).

`cc_all`: every cell of every column satisfies its bound (`CC`: the four values of a row against `LB` / `LBn`) (by the fill induction `cell_ind`, the last
operation of the alignment split off with `last_op_cases` of `FillBasic.lean`); `score_complete` (`FillFinal.lean`): the reported score
dominates every alignment of every sub-range pair with all four clip penalties.  Only `gap_extend ≤ 0` and
`xclip_suffix ≤ 0` are used; `MIN_SCORE` may be any integer here.

As `docs/notes/C01.md` records for the equivalent mutants m2/m12, completeness needs neither the x-suffix tracker of the
inner columns, nor the "delete y[0..j]" half of `xclip_score`, nor `yclip_score`, nor the second post-loop: the same
alignments are found along another path (clip y first, then x, in the last column).
-/
namespace RbV.Model.PairwiseFill
open RbV.Align

section
variable (sc : Sc) (cl : Clip) (x y : List Nat)

def LB (L : St) (i j : Nat) (v : Int) : Prop :=
  ∀ xs ys ops c, xs ≤ i → ys ≤ j → score sc .none (slice x xs i) (slice y ys j) ops = some c →
    (L = .ins → lastSt .none ops = .ins) → (L = .del → lastSt .none ops = .del) → c + pre cl xs ys ≤ v

def LBn (i j : Nat) (v : Int) : Prop :=
  ∀ xs ys ye ops c, xs ≤ i → ys ≤ ye → ye ≤ j → ye < y.length →
    score sc .none (slice x xs i) (slice y ys ye) ops = some c → c + pre cl xs ys + cl.ys ≤ v

/-- what `v` dominates among the alignments to `(i, j)` that do not end in `st`, with a gap opened after them: the premise of the
`I` / `D` steps (`lb_ins_step`, `lb_del_step`), produced by `lbOpen_of_none`, `lbOpen_col0`, `lbOpen_row0` -/
def LBopen (st : St) (i j : Nat) (v : Int) : Prop :=
  ∀ xs ys ops c, xs ≤ i → ys ≤ j → score sc .none (slice x xs i) (slice y ys j) ops = some c →
    lastSt .none ops ≠ st → c + pre cl xs ys + sc.go + sc.ge ≤ v

/-- the cell invariant: the values of row `i` of column `j` dominate what ends at `(i, j)` — `S` / `I` / `D` by `LB`, `Sn` by `LBn` -/
structure CC (j i : Nat) (r : Row) : Prop where
  S : LB sc cl x y .none i j r.s
  I : LB sc cl x y .ins i j r.i
  D : LB sc cl x y .del i j r.d
  Sn : LBn sc cl x y i j r.sn

variable {sc cl x y}

theorem lb_mono {L : St} {i j : Nat} {v v' : Int} (h : LB sc cl x y L i j v) (hv : v ≤ v') :
    LB sc cl x y L i j v' := by
  intro xs ys ops c h1 h2 h3 h4 h5
  have := h xs ys ops c h1 h2 h3 h4 h5
  omega

/-- `I` layer: extend the gap of an alignment ending with an insertion, or open one after anything else
(`hS`: what `v` dominates among the alignments to `(i, j)` that do not end with an insertion) -/
theorem lb_ins_step {i j : Nat} {rI v : Int} (hi : i + 1 ≤ x.length) (hj : j ≤ y.length)
    (hI : LB sc cl x y .ins i j rI) (h1 : rI + sc.ge ≤ v)
    (hS : LBopen sc cl x y .ins i j v) :
    LB sc cl x y .ins (i + 1) j v := by
  intro xs ys ops c hxs hys hsc hL _
  have hl := hL rfl
  rcases last_op_cases hi hj hsc with ⟨rfl, _⟩ | ⟨ops', i', c', rfl, hi', h1', hc', hc⟩ |
      ⟨ops', j', c', rfl, _⟩ | ⟨ops', i', j', c', hn, _⟩
  · cases hl
  · have e : i' = i := by omega
    subst e
    by_cases hlast : lastSt .none ops' = .ins
    · have := hI xs ys ops' c' h1' hys hc' (fun _ => hlast) nofun
      rw [hlast] at hc; simp only [gapI] at hc
      omega
    · have := hS xs ys ops' c' h1' hys hc' hlast
      have hg := gapI_of_ne_ins sc hlast
      omega
  · rw [lastSt_append_singleton] at hl; cases hl
  · rw [hn] at hl; cases hl

theorem lb_del_step {i j : Nat} {rD v : Int} (hi : i ≤ x.length) (hj : j + 1 ≤ y.length)
    (hD : LB sc cl x y .del i j rD) (h1 : rD + sc.ge ≤ v)
    (hS : LBopen sc cl x y .del i j v) :
    LB sc cl x y .del i (j + 1) v := by
  intro xs ys ops c hxs hys hsc _ hL
  have hl := hL rfl
  rcases last_op_cases hi hj hsc with ⟨rfl, _⟩ | ⟨ops', i', c', rfl, _⟩ |
      ⟨ops', j', c', rfl, hj', h1', hc', hc⟩ | ⟨ops', i', j', c', hn, _⟩
  · cases hl
  · rw [lastSt_append_singleton] at hl; cases hl
  · have e : j' = j := by omega
    subst e
    by_cases hlast : lastSt .none ops' = .del
    · have := hD xs ys ops' c' hxs h1' hc' nofun (fun _ => hlast)
      rw [hlast] at hc; simp only [gapD] at hc
      omega
    · have := hS xs ys ops' c' hxs h1' hc' hlast
      have hg := gapD_of_ne_del sc hlast
      omega
  · rw [hn] at hl; cases hl

/-- `LBopen` from a bound on the `S` cell -/
theorem lbOpen_of_none {i j : Nat} {rS v : Int} (hS : LB sc cl x y .none i j rS) (h : rS + sc.go + sc.ge ≤ v) (st : St) :
    LBopen sc cl x y st i j v := by
  intro xs ys ops c h1 h2 h3 _
  have := hS xs ys ops c h1 h2 h3 nofun nofun
  omega

/-- nothing ends with an insertion in row 0 … -/
theorem lb_ins_row0 (j : Nat) (hj : j ≤ y.length) (v : Int) : LB sc cl x y .ins 0 j v := by
  intro xs ys ops c hxs hys hsc hL _
  have hl := hL rfl
  rcases last_op_cases (Nat.zero_le _) hj hsc with ⟨rfl, _⟩ | ⟨ops', i', c', rfl, hi', _⟩ |
      ⟨ops', j', c', rfl, _⟩ | ⟨ops', i', j', c', hn, hi', _⟩
  · cases hl
  · omega
  · rw [lastSt_append_singleton] at hl; cases hl
  · omega

/-- … or with a deletion in column 0 -/
theorem lb_del_col0 (i : Nat) (hi : i ≤ x.length) (v : Int) : LB sc cl x y .del i 0 v := by
  intro xs ys ops c hxs hys hsc _ hL
  have hl := hL rfl
  rcases last_op_cases hi (Nat.zero_le _) hsc with ⟨rfl, _⟩ | ⟨ops', i', c', rfl, _⟩ |
      ⟨ops', j', c', rfl, hj', _⟩ | ⟨ops', i', j', c', hn, hi', hj', _⟩
  · cases hl
  · rw [lastSt_append_singleton] at hl; cases hl
  · omega
  · omega

/-- `S` layer at `(i, j)`: the empty alignment, the `I` / `D` layer of the same cell, or a diagonal step -/
theorem lb_none_of {i j : Nat} {vI vD v : Int} (hi : i ≤ x.length) (hj : j ≤ y.length)
    (hI : LB sc cl x y .ins i j vI) (hD : LB sc cl x y .del i j vD) (h1 : vI ≤ v) (h2 : vD ≤ v) (h0 : pre cl i j ≤ v)
    (hdiag : ∀ i' j', i = i' + 1 → j = j' + 1 →
      ∃ pS, LB sc cl x y .none i' j' pS ∧ pS + sc.w (x.getD i' 0) (y.getD j' 0) ≤ v) :
    LB sc cl x y .none i j v := by
  intro xs ys ops c hxs hys hsc _ _
  rcases last_op_cases hi hj hsc with ⟨rfl, h5, h6, rfl⟩ | ⟨ops', i', c', rfl, _⟩ |
      ⟨ops', j', c', rfl, _⟩ | ⟨ops', i', j', c', hn, hi', hj', h5, h6, hc', hc⟩
  · obtain rfl := Nat.le_antisymm hxs h5
    obtain rfl := Nat.le_antisymm hys h6
    omega
  · have := hI xs ys _ c hxs hys hsc (fun _ => lastSt_append_singleton _ _ _) nofun
    omega
  · have := hD xs ys _ c hxs hys hsc nofun (fun _ => lastSt_append_singleton _ _ _)
    omega
  · obtain ⟨pS, hS, h3⟩ := hdiag i' j' hi' hj'
    have := hS xs ys ops' c' h5 h6 hc' nofun nofun
    omega

theorem lb_none_step {i j : Nat} {vI vD pS v : Int} (hi : i + 1 ≤ x.length) (hj : j + 1 ≤ y.length)
    (hI : LB sc cl x y .ins (i + 1) (j + 1) vI) (hD : LB sc cl x y .del (i + 1) (j + 1) vD)
    (hS : LB sc cl x y .none i j pS) (h1 : vI ≤ v) (h2 : vD ≤ v)
    (h3 : pS + sc.w (x.getD i 0) (y.getD j 0) ≤ v) (h4 : cl.xp + cl.yp ≤ v) :
    LB sc cl x y .none (i + 1) (j + 1) v :=
  lb_none_of hi hj hI hD h1 h2 h4 fun _ _ ei ej => by
    obtain rfl := Nat.succ.inj ei
    obtain rfl := Nat.succ.inj ej
    exact ⟨pS, hS, h3⟩

/-- column 0: only insertions -/
theorem lb_none_col0 {i : Nat} {vI v : Int} (hi : i + 1 ≤ x.length)
    (hI : LB sc cl x y .ins (i + 1) 0 vI) (h1 : vI ≤ v) (h4 : cl.xp ≤ v) :
    LB sc cl x y .none (i + 1) 0 v :=
  lb_none_of hi (Nat.zero_le _) hI (lb_del_col0 (i + 1) hi v) h1 (Int.le_refl v)
    (by simp only [pre, Nat.succ_pos, Nat.lt_irrefl, if_true, if_false, Int.add_zero]; exact h4) fun _ _ _ ej => nomatch ej

/-- row 0: only deletions -/
theorem lb_none_row0 {j : Nat} {vD v : Int} (hj : j + 1 ≤ y.length)
    (hD : LB sc cl x y .del 0 (j + 1) vD) (h1 : vD ≤ v) (h4 : cl.yp ≤ v) :
    LB sc cl x y .none 0 (j + 1) v :=
  lb_none_of (Nat.zero_le _) hj (lb_ins_row0 (j + 1) hj v) hD (Int.le_refl v) h1
    (by simp only [pre, Nat.succ_pos, Nat.lt_irrefl, if_true, if_false, Int.zero_add]; exact h4) fun _ _ ei _ => nomatch ei

theorem lb_none_00 : LB sc cl x y .none 0 0 0 :=
  lb_none_of (Nat.zero_le _) (Nat.zero_le _) (lb_ins_row0 0 (Nat.zero_le _) 0) (lb_del_col0 0 (Nat.zero_le _) 0)
    (Int.le_refl 0) (Int.le_refl 0) (Int.le_refl 0) fun _ _ ei _ => nomatch ei

/-- in column 0 an alignment that does not end with an insertion is empty -/
theorem lbOpen_col0 {i : Nat} (hi : i ≤ x.length) {v : Int}
    (h : (if 0 < i then cl.xp else 0) + sc.go + sc.ge ≤ v) :
    LBopen sc cl x y .ins i 0 v := by
  intro xs ys ops c hxs hys hsc hl
  rcases last_op_cases hi (Nat.zero_le _) hsc with ⟨rfl, h5, h6, rfl⟩ | ⟨ops', i', c', rfl, _⟩ |
      ⟨ops', j', c', rfl, hj', _⟩ | ⟨ops', i', j', c', hn, hi', hj', _⟩
  · have e : xs = i := by omega
    subst e
    have : pre cl xs ys = (if 0 < xs then cl.xp else 0) := by
      simp only [pre, show ¬ 0 < ys by omega, if_false]; omega
    omega
  · exact absurd (lastSt_append_singleton _ _ _) hl
  · omega
  · omega

/-- in row 0 an alignment that does not end with a deletion is empty -/
theorem lbOpen_row0 {j : Nat} (hj : j ≤ y.length) {v : Int}
    (h : (if 0 < j then cl.yp else 0) + sc.go + sc.ge ≤ v) :
    LBopen sc cl x y .del 0 j v := by
  intro xs ys ops c hxs hys hsc hl
  rcases last_op_cases (Nat.zero_le _) hj hsc with ⟨rfl, h5, h6, rfl⟩ | ⟨ops', i', c', rfl, hi', _⟩ |
      ⟨ops', j', c', rfl, _⟩ | ⟨ops', i', j', c', hn, hi', hj', _⟩
  · have e : ys = j := by omega
    subst e
    have : pre cl xs ys = (if 0 < ys then cl.yp else 0) := by
      simp only [pre, show ¬ 0 < xs by omega, if_false]; omega
    omega
  · omega
  · exact absurd (lastSt_append_singleton _ _ _) hl
  · omega

theorem lb_iv0 (hge : sc.ge ≤ 0) : ∀ i, i + 1 ≤ x.length → LB sc cl x y .ins (i + 1) 0 (iv0 sc cl (i + 1)) := by
  intro i
  induction i with
  | zero =>
    intro hi
    refine lb_ins_step hi (Nat.zero_le _) (lb_ins_row0 0 (Nat.zero_le _) (iv0 sc cl 1 - sc.ge)) ?_
      (lbOpen_col0 (Nat.zero_le _) ?_)
    · simp only [Nat.zero_add]; omega
    · simp [iv0]
  | succ i ih =>
    intro hi
    refine lb_ins_step hi (Nat.zero_le _) (ih (by omega)) (iv0_step hge i) (lbOpen_col0 (by omega) ?_)
    rw [if_pos (by omega)]
    exact iv0_clip i

theorem lb_dv0 (hge : sc.ge ≤ 0) : ∀ j, j + 1 ≤ y.length → LB sc cl x y .del 0 (j + 1) (dv0 sc cl (j + 1)) := by
  intro j
  induction j with
  | zero =>
    intro hj
    refine lb_del_step (Nat.zero_le _) hj (lb_del_col0 0 (Nat.zero_le _) (dv0 sc cl 1 - sc.ge)) ?_
      (lbOpen_row0 (Nat.zero_le _) ?_)
    · simp only [Nat.zero_add]; omega
    · simp [dv0]
  | succ j ih =>
    intro hj
    refine lb_del_step (Nat.zero_le _) hj (ih (by omega)) (dv0_step hge j) (lbOpen_row0 (by omega) ?_)
    rw [if_pos (by omega)]
    exact dv0_clip j

/-- `Sn[i]` after column `j + 1`: what it dominated after column `j`, and `S[j+1][i] + yclip_suffix` -/
theorem lbn_step {i j : Nat} {pSn vS v : Int} (hp : LBn sc cl x y i j pSn) (hS : LB sc cl x y .none i (j + 1) vS)
    (h1 : pSn ≤ v) (h2 : j + 1 < y.length → vS + cl.ys ≤ v) : LBn sc cl x y i (j + 1) v := by
  intro xs ys ye ops c hxs hys hye hyn hsc
  by_cases e : ye = j + 1
  · subst e
    have := hS xs ys ops c hxs hys hsc nofun nofun
    have := h2 hyn
    omega
  · have := hp xs ys ye ops c hxs hys (by omega) hyn hsc
    omega

theorem lbn_zero {i : Nat} {vS v : Int} (hS : LB sc cl x y .none i 0 vS) (h2 : vS + cl.ys ≤ v) :
    LBn sc cl x y i 0 v := by
  intro xs ys ye ops c hxs hys hye hyn hsc
  have e : ye = 0 := by omega
  subst e
  have := hS xs ys ops c hxs hys hsc nofun nofun
  omega

theorem cc_row00 : CC sc cl x y 0 0 (row00 cl x y) := by
  refine ⟨lb_none_00, lb_ins_row0 0 (Nat.zero_le _) _, lb_del_col0 0 (Nat.zero_le _) _, ?_⟩
  exact lbn_zero (lb_none_00) (by simp [row00])

theorem cc_step0 (hge : sc.ge ≤ 0) (i : Nat) (hi : i + 1 ≤ x.length) (r : Row) :
    CC sc cl x y 0 (i + 1) (step0 sc cl x y (i + 1) r) := by
  rw [step0_eq]
  have hI := lb_iv0 (cl := cl) (y := y) hge i hi
  have hS : LB sc cl x y .none (i + 1) 0
      (max cl.xp (max (iv0 sc cl (i + 1)) (if i + 1 = x.length then r.xm else minScore))) :=
    lb_none_col0 hi hI (by omega) (by omega)
  exact ⟨hS, hI, lb_del_col0 (i + 1) hi _, lbn_zero hS (by dsimp only; omega)⟩

theorem cc_rowJ0 (hge : sc.ge ≤ 0) (j : Nat) (hj : j + 1 ≤ y.length) (p0 : Row)
    (hp : CC sc cl x y j 0 p0) : CC sc cl x y (j + 1) 0 (rowJ0 sc cl x y (j + 1) p0) := by
  rw [rowJ0_eq]
  have hD := lb_dv0 (cl := cl) (x := x) hge j hj
  have hS0 : LB sc cl x y .none 0 (j + 1) (max (dv0 sc cl (j + 1)) cl.yp) :=
    lb_none_row0 hj hD (by omega) (by omega)
  have hS : LB sc cl x y .none 0 (j + 1)
      (if j + 1 = y.length ∧ p0.sn > max (dv0 sc cl (j + 1)) cl.yp then p0.sn else max (dv0 sc cl (j + 1)) cl.yp) :=
    lb_mono hS0 (by split <;> omega)
  refine ⟨hS, lb_ins_row0 (j + 1) hj _, hD, ?_⟩
  refine lbn_step hp.Sn hS0 ?_ ?_
  · dsimp only; split <;> omega
  · intro hlt
    dsimp only
    rw [if_neg (by omega)]
    omega

theorem cc_stepJ (hxs : cl.xs ≤ 0) (j i : Nat) (hj : j + 1 ≤ y.length) (hi : i + 1 ≤ x.length)
    (prev : List Row) (r : Row)
    (hp1 : CC sc cl x y j i (prev.getD i default)) (hp : CC sc cl x y j (i + 1) (prev.getD (i + 1) default))
    (hr : CC sc cl x y (j + 1) i r) :
    CC sc cl x y (j + 1) (i + 1) (stepJ sc cl x y (j + 1) prev (i + 1) r) := by
  rw [stepJ_eq_xs _ _ _ _ hxs]
  have hI : LB sc cl x y .ins (i + 1) (j + 1) (bestI sc r) :=
    lb_ins_step hi (by omega) hr.I (Int.le_max_left _ _) (lbOpen_of_none hr.S (Int.le_max_right _ _) .ins)
  have hD : LB sc cl x y .del (i + 1) (j + 1) (bestD sc (prev.getD (i + 1) default)) :=
    lb_del_step hi hj hp.D (Int.le_max_left _ _) (lbOpen_of_none hp.S (Int.le_max_right _ _) .del)
  have hb5 : LB sc cl x y .none (i + 1) (j + 1) (bestS sc cl x y (j + 1) prev (i + 1) r) := by
    have hd := bestS_ge_diag sc cl x y (j + 1) prev (i + 1) r
    have hx := bestS_ge_xclip sc cl x y (j + 1) prev (i + 1) r
    simp only [Nat.add_sub_cancel] at hd
    exact lb_none_step hi hj hI hD hp1.S (bestS_ge_bestI ..) (bestS_ge_bestD ..) hd (by omega)
  exact ⟨hb5, hI, hD, lbn_step hp.Sn hb5 (Int.le_max_right _ _) fun _ => Int.le_max_left _ _⟩

theorem cc_all (hge : sc.ge ≤ 0) (hxs : cl.xs ≤ 0) : ∀ j, j ≤ y.length → ∀ i, i ≤ x.length →
    CC sc cl x y j i (cell sc cl x y j i) :=
  cell_ind sc cl x y cc_row00 (fun i hi r _ => cc_step0 hge i hi r) (cc_rowJ0 hge) fun j i hj hi => cc_stepJ hxs j i hj hi

end

end RbV.Model.PairwiseFill
