import RbV.Lemmas.PoaTraceAll
/-!
# The tables of `global_banded` (any bandwidth) and of `custom` (any clip penalties) are local (`Local`)

for every graph, query, scoring, bandwidth and clip penalties — no acyclicity needed here.
-/
namespace RbV.Poa.Model
open RbV.NW

/-- every answer of `Traceback::get` on this row is an operation allowed in the row of `v` at its column -/
def RowGood (es : WEdges) (L v : Nat) (row : BRow) : Prop := ∀ j, CellOK es L v j (row.get j).op

theorem rowGood_of_cells (es : WEdges) (L v : Nat) (cells : List Cell) (start stop : Nat)
    (h : ∀ k, k < cells.length → CellOK es L v (start + k) (cells.getD k mcell).op) :
    RowGood es L v { cells := cells, start := start, stop := stop } := by
  intro j
  rcases BRow.get_cases { cells := cells, start := start, stop := stop } j with ⟨k, hk, rfl, e⟩ | ⟨hj, e⟩ | ⟨hj, e⟩ | ⟨hj, e⟩
  · rw [e]; exact h k hk
  · rw [e, hj]; exact .del0
  · rw [e]; exact .insNone hj
  · rw [e]; exact .mNone (by omega)

theorem emptyRow_good (es : WEdges) (L v n : Nat) : RowGood es L v (emptyRow n) :=
  rowGood_of_cells es L v [] 0 (n + 1) (fun k hk => by simp at hk)

theorem predFold_op (sc : Sc) (v r b j : Nat) (S : Nat → Prop) :
    ∀ (preds : List (Nat × BRow)) (init : Cell), (∀ pp ∈ preds, S pp.1) →
      (preds.foldl (predStep sc v r b j) init).op = init.op ∨
        ∃ p, S p ∧ ((preds.foldl (predStep sc v r b j) init).op = .m (some (p, v)) ∨
          (preds.foldl (predStep sc v r b j) init).op = .d (some (p, v + 1))) := by
  intro preds
  induction preds with
  | nil => intro init _; left; rfl
  | cons pp preds ih =>
    intro init hS
    simp only [List.foldl_cons]
    rcases ih (predStep sc v r b j init pp) (fun q hq => hS q (List.mem_cons_of_mem _ hq)) with h | h
    · rcases predStep_op sc v r b j init pp with h1 | h1
      · left; rw [h]; exact h1
      · right; rw [h]; exact ⟨pp.1, hS pp (by simp), h1⟩
    · right; exact h

theorem cCand_op (sc : Sc) (init : Cell) (query : List Nat) (r0 : BRow) (es : WEdges) (v r : Nat)
    (preds : List (Nat × BRow)) (j : Nat) (hinit : init.op = .m none ∨ init.op = .x 0)
    (hp : ∀ pp ∈ preds, pp.1 ∈ inN es v) :
    (cCand sc init query r0 v r preds j).op = .m none ∨ (cCand sc init query r0 v r preds j).op = .x 0 ∨
    ∃ p ∈ inN es v, (cCand sc init query r0 v r preds j).op = .m (some (p, v)) ∨
      (cCand sc init query r0 v r preds j).op = .d (some (p, v + 1)) := by
  cases preds with
  | nil => left; rfl
  | cons pp rest =>
    have := predFold_op sc v r (query.getD (j - 1) 0) j (fun p => p ∈ inN es v) (pp :: rest) init hp
    rw [cCand_cons]
    rcases this with h | ⟨p, hp', h⟩
    · rcases hinit with h1 | h1
      · left; rw [h, h1]
      · right; left; rw [h, h1]
    · right; right; exact ⟨p, hp', h⟩

/-- cells `c0 :: insScan … (map cand [start+1 ..])` of a node's row are allowed at their columns; a first cell in front of column 0
is the `MIN_SCORE` start cell -/
theorem scanRow_good (es : WEdges) (L v : Nat) (gap : Int) (c0 : Cell) (start len : Nat) (cand : Nat → Cell)
    (stop : Nat)
    (hc0 : (0 < start ∧ c0.op = .m none) ∨ c0.op = .x 0 ∨ (start = 0 ∧ c0.op = .d none))
    (hcand : ∀ j, (cand j).op = .m none ∨ (cand j).op = .x 0 ∨
      ∃ p ∈ inN es v, (cand j).op = .m (some (p, v)) ∨ (cand j).op = .d (some (p, v + 1))) :
    RowGood es L v { cells := c0 :: insScan gap (.i (some v)) c0 ((List.range' (start + 1) len).map cand),
                      start := start, stop := stop } := by
  apply rowGood_of_cells
  intro k hk
  cases k with
  | zero =>
    simp only [List.getD_cons_zero, Nat.add_zero]
    rcases hc0 with ⟨h0, h⟩ | h | ⟨h1, h2⟩
    · rw [h]; exact .mNone h0
    · rw [h]; exact .x0
    · rw [h2, h1]; exact .del0
  | succ k =>
    simp only [List.getD_cons_succ]
    rcases List.getD_eq_or_mem (insScan gap (.i (some v)) c0 ((List.range' (start + 1) len).map cand)) k mcell with h | h
    · rw [h]; exact .mNone (by omega)
    · rcases insScan_op _ _ _ _ _ h with h1 | ⟨x, hx, h1⟩
      · rw [h1]; exact .ins (by omega)
      · simp only [List.mem_map] at hx
        obtain ⟨j, _, rfl⟩ := hx
        rw [h1]
        rcases hcand j with h2 | h2 | ⟨p, hp, h2 | h2⟩
        · rw [h2]; exact .mNone (by omega)
        · rw [h2]; exact .x0
        · rw [h2]; exact .predM (by omega) hp
        · rw [h2]; exact .predD (by omega) hp

theorem bNodeRow_good (sc : Sc) (xclip : Int) (query : List Nat) (r0 : BRow) (es : WEdges) (L v r : Nat)
    (preds : List (Nat × BRow)) (start end_ : Nat) (hp : ∀ pp ∈ preds, pp.1 ∈ inN es v) :
    RowGood es L v (bNodeRow sc xclip query r0 v r preds start end_) := by
  simp only [bNodeRow]
  apply scanRow_good
  · by_cases hs : start = 0
    · simp only [hs, if_true]
      rcases cmax_op ⟨((v : Int) + 1) * sc.gap, .d none⟩ ⟨xclip, .x 0⟩ with h | h
      · right; right; exact ⟨trivial, h⟩
      · right; left; exact h
    · simp only [hs, if_false]; left; exact ⟨Nat.pos_of_ne_zero hs, rfl⟩
  · intro j
    rw [bCand_eq_cCand]
    exact cCand_op sc mcell query r0 es v r preds j (Or.inl rfl) hp

theorem cNodeRow_good (sc : Sc) (xp : Int) (query : List Nat) (r0 : BRow) (es : WEdges) (L v r : Nat)
    (preds : List (Nat × BRow)) (hp : ∀ pp ∈ preds, pp.1 ∈ inN es v) :
    RowGood es L v (cNodeRow sc xp query r0 v r preds) := by
  simp only [cNodeRow]
  have := scanRow_good es L v sc.gap (cmax ⟨((v : Int) + 1) * sc.gap, .d none⟩ ⟨xp, .x 0⟩) 0 query.length
    (cCand sc (cmax mcell ⟨xp, .x 0⟩) query r0 v r preds) (query.length + 1)
    (by
      rcases cmax_op ⟨((v : Int) + 1) * sc.gap, .d none⟩ ⟨xp, .x 0⟩ with h | h
      · right; right; exact ⟨rfl, h⟩
      · right; left; exact h)
    (fun j => cCand_op sc _ query r0 es v r preds j (cmax_op mcell ⟨xp, .x 0⟩) hp)
  simpa using this

theorem bRow0_get (gap yclip : Int) (n j : Nat) :
    (bRow0 gap yclip n).get j =
      if j < n + 1 then (bRow0 gap yclip n).cells.getD j mcell else ⟨minScore, .i none⟩ := by
  by_cases h : j < n + 1
  · simp [BRow.get, bRow0, h]
  · have h0 : j ≠ 0 := by omega
    have h1 : n + 1 ≤ j := by omega
    simp [BRow.get, bRow0, h, h0, h1]

theorem bRow0_op (gap yclip : Int) (n j : Nat) :
    ((bRow0 gap yclip n).get j).op = .m none ∨ ((bRow0 gap yclip n).get j).op = .i none ∨
      ((bRow0 gap yclip n).get j).op = .y 0 j := by
  rw [bRow0_get]
  by_cases h : j < n + 1
  · simp only [h, if_true, bRow0]
    cases j with
    | zero => left; rfl
    | succ k =>
      have hk : k < n := by omega
      have e : ((⟨0, .m none⟩ : Cell) :: (List.range' 1 n).map (fun (j : Nat) => cmax (⟨(j : Int) * gap, .i none⟩ : Cell) ⟨yclip, .y 0 j⟩)).getD
          (k + 1) mcell = cmax ⟨((k + 1 : Nat) : Int) * gap, .i none⟩ ⟨yclip, .y 0 (k + 1)⟩ := by
        simp [List.getD_eq_getElem?_getD, List.getElem?_range' hk, Nat.add_comm 1 k]
      rw [e]
      rcases cmax_op (⟨((k + 1 : Nat) : Int) * gap, .i none⟩ : Cell) ⟨yclip, .y 0 (k + 1)⟩ with h1 | h1
      · right; left; exact h1
      · right; right; exact h1
  · simp only [h, if_false]
    right; left; trivial

/-! ## `global_banded` -/

theorem bandedRows_good (sc : Sc) (xclip yclip : Int) (labels : List Nat) (es : WEdges) (query : List Nat) (bw L : Nat) :
    ∀ u, RowGood es L u ((bandedRows sc xclip yclip labels es query bw).rows.getD u (emptyRow query.length)) := by
  simp only [bandedRows]
  refine foldl_inv (fun (st : BState) => ∀ u, RowGood es L u (st.rows.getD u (emptyRow query.length))) _ ?_ _ _ ?_
  · intro st v h
    exact getD_set_all _ _ v _ h (bNodeRow_good _ _ _ _ _ _ _ _ _ _ _ fun pp hpp => mem_predsMap hpp)
  · intro u
    rw [replicate_emptyRow_getD]
    exact emptyRow_good es L u query.length

theorem bandedTable_local (sc : Sc) (xclip yclip : Int) (labels : List Nat) (es : WEdges) (query : List Nat) (bw L : Nat) :
    Local es L (fun i j => ((bandedTable sc xclip yclip labels es query bw).cell i j).op) := by
  constructor
  · intro j
    simp only [BTable.cell, bandedTable, if_true]
    exact bRow0_op sc.gap yclip query.length j
  · intro v j
    simp only [BTable.cell, bandedTable, Nat.succ_ne_zero, if_false, Nat.add_sub_cancel]
    exact bandedRows_good sc xclip yclip labels es query bw L v j

theorem bandedTable_opsOK (sc : Sc) (xclip yclip : Int) (labels : List Nat) (es : WEdges) (query : List Nat) (bw L : Nat) :
    OpsOK es L (fun i j => ((bandedTable sc xclip yclip labels es query bw).cell i j).op) :=
  (bandedTable_local sc xclip yclip labels es query bw L).opsOK

/-! ## `custom` -/

theorem customRows_good (sc : Sc) (xp yp : Int) (labels : List Nat) (es : WEdges) (query : List Nat) (L : Nat) :
    ∀ u, RowGood es L u ((customSt sc xp yp labels es query).rows.getD u (emptyRow query.length)) := by
  refine foldl_inv (fun (st : CState) => ∀ u, RowGood es L u (st.rows.getD u (emptyRow query.length))) _ ?_ _ _ ?_
  · intro st v h
    exact getD_set_all _ _ v _ h (cNodeRow_good _ _ _ _ _ _ _ _ _ fun pp hpp => mem_predsMap hpp)
  · intro u
    rw [replicate_emptyRow_getD]
    exact emptyRow_good es L u query.length

theorem customTable_local (sc : Sc) (xp xs yp ys : Int) (labels : List Nat) (es : WEdges) (query : List Nat) :
    Local es (customTable sc xp xs yp ys labels es query).last
      (fun i j => ((customTable sc xp xs yp ys labels es query).cell i j).op) := by
  rw [customTable_eq]
  generalize (topo labels.length es).getLastD 0 = L
  have hrows := customRows_good sc xp yp labels es query L
  constructor
  · intro j
    exact bRow0_op sc.gap yp query.length j
  · intro v j
    simp only [BTable.cell, Nat.succ_ne_zero, if_false, Nat.add_sub_cancel]
    refine getD_set_all (P := RowGood es L) _ _ _ _ hrows ?_ v j
    obtain ⟨hlen, hops⟩ := finishCells_spec xs ys query.length (L + 1) (customSt sc xp yp labels es query).maxcol
      ((customSt sc xp yp labels es query).rows.getD L (emptyRow query.length))
    refine rowGood_of_cells es L L _ 0 (query.length + 1) fun k hk => ?_
    rw [hlen] at hk
    rw [Nat.zero_add]
    rcases hops k hk with h | ⟨x, h⟩ | ⟨hkn, hn0, c, hcn, h⟩
    · rw [h]; exact hrows L k
    · rw [h]; exact .suffixX x
    · rw [h, hkn]; exact .suffixY hn0 hcn

theorem customTable_opsOK (sc : Sc) (xp xs yp ys : Int) (labels : List Nat) (es : WEdges) (query : List Nat) :
    OpsOK es (customTable sc xp xs yp ys labels es query).last
      (fun i j => ((customTable sc xp xs yp ys labels es query).cell i j).op) :=
  (customTable_local sc xp xs yp ys labels es query).opsOK

end RbV.Poa.Model
