import RbV.Model.UniWs
import RbV.Lemmas.Fastx
/-!
# Without lead bytes of non-ASCII white space the Unicode text functions are the ASCII ones  (C11)

`trimEndU_eq`, `faHeaderU_eq`, `fqHeaderU_eq`, collected in `Txt.unicode_agrees` (`Txt.AgreesOn`, defined at the end): what
`Thm/C11.lean` and `Lemmas/FastqPrefixUtf8.lean` feed to `AllValid` / `Agrees`.
-/
namespace RbV.Fastx

theorem uws2_nolead {b0 : Nat} (h : isUwsLead b0 = false) (b1 : Nat) : uws2 b0 b1 = false := by
  simp only [isUwsLead, Bool.or_eq_false_iff, beq_eq_false_iff_ne] at h
  simp [uws2, h.1.1.1]

theorem uws3_nolead {b0 : Nat} (h : isUwsLead b0 = false) (b1 b2 : Nat) : uws3 b0 b1 b2 = false := by
  simp only [isUwsLead, Bool.or_eq_false_iff, beq_eq_false_iff_ne] at h
  simp [uws3, h.1.1.2, h.1.2, h.2]

theorem allWsU_eq (l : Bytes) (h : NoUws l) : allWsU l = l.all isWs := by
  induction l with
  | nil => rfl
  | cons b r ih =>
    have hb := h b (by simp)
    have ih' := ih fun x hx => h x (List.mem_cons_of_mem _ hx)
    unfold allWsU
    cases hw : isWs b with
    | true => simp only [if_true, List.all_cons, hw, Bool.true_and, ih']
    | false =>
      simp only [Bool.false_eq_true, if_false, List.all_cons, hw, Bool.false_and]
      cases r with
      | nil => rfl
      | cons b1 r1 =>
        simp only [uws2_nolead hb, Bool.false_eq_true, if_false]
        cases r1 with
        | nil => rfl
        | cons b2 r2 => simp [uws3_nolead hb]

theorem trimEndU_eq (l : Bytes) (h : NoUws l) : trimEndU l = trimEnd l := by
  induction l with
  | nil => rfl
  | cons b r ih =>
    have ih' := ih fun x hx => h x (List.mem_cons_of_mem _ hx)
    unfold trimEndU
    rw [allWsU_eq _ h]
    cases hall : (b :: r).all isWs with
    | true => simp [(trimEnd_eq_nil_iff _).mpr hall]
    | false =>
      simp only [Bool.false_eq_true, if_false, ih']
      simp only [List.all_cons] at hall
      simp only [trimEnd]
      split
      · rename_i hc
        simp only [Bool.and_eq_true, List.isEmpty_iff] at hc
        have := (trimEnd_eq_nil_iff r).mp hc.1
        simp [hc.2, this] at hall
      · rfl

theorem wsLenU_eq (b : Nat) (r : Bytes) (hb : isUwsLead b = false) :
    wsLenU (b :: r) = if isWs b then 1 else 0 := by
  unfold wsLenU
  by_cases hw : isWs b = true
  · simp only [hw, if_true]
  · simp only [hw, if_false]
    cases r with
    | nil => rfl
    | cons b1 r1 =>
      simp only [uws2_nolead hb, Bool.false_eq_true, if_false]
      cases r1 with
      | nil => rfl
      | cons b2 r2 => simp [uws3_nolead hb]

theorem splitWsU_eq (l : Bytes) (h : NoUws l) : splitWsU l = splitn2 isWs l := by
  induction l with
  | nil => rfl
  | cons b r ih =>
    have hb := h b (by simp)
    have ih' := ih fun x hx => h x (List.mem_cons_of_mem _ hx)
    unfold splitWsU
    rw [wsLenU_eq b r hb]
    cases hw : isWs b with
    | true => simp [splitn2, List.takeWhile, List.dropWhile, hw]
    | false =>
      simp only [Bool.false_eq_true, if_false, if_true, ih']
      simp [splitn2, List.takeWhile, List.dropWhile, hw]

theorem NoUws.tail {l : Bytes} (h : NoUws l) : NoUws l.tail := fun b hb => h b (List.mem_of_mem_tail hb)

theorem faHeaderU_eq (l : Bytes) (h : NoUws l) : faHeaderU l = faHeader l := by
  unfold faHeaderU faHeader
  rw [trimEndU_eq _ h.tail]
  exact splitWsU_eq _ fun b hb => h.tail b (trimEnd_subset _ b hb)

theorem fqHeaderU_eq (l : Bytes) (h : NoUws l) : fqHeaderU l = fqHeader l := by
  unfold fqHeaderU fqHeader
  rw [trimEndU_eq _ h.tail]

/-- `T` computes on the line `l` what the list models compute -/
def Txt.AgreesOn (T : Txt) (l : Bytes) : Prop := T.trim l = trimEnd l ∧ T.faHdr l = faHeader l ∧ T.fqHdr l = fqHeader l

theorem Txt.ascii_agrees (l : Bytes) : Txt.ascii.AgreesOn l := ⟨rfl, rfl, rfl⟩

theorem Txt.unicode_agrees (l : Bytes) (h : NoUws l) : Txt.unicode.AgreesOn l :=
  ⟨trimEndU_eq l h, faHeaderU_eq l h, fqHeaderU_eq l h⟩

end RbV.Fastx
