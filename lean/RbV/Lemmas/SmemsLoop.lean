import RbV.Model.Smems
/-!
# The sweep of `smems`, loop by loop (C06): a functional description of the nested loops of the backward sweep

Generic in the interval operations.  First what `dedup` keeps (`dedup_sublist`, `dedup_size_ne`, `dedup_repr`).  `inner_curr` / `inner_report` say what one round of the inner loop does to
`curr` and to `matches`; `outer_eq_spec` replaces the nested loops (with their `last_size`, `j`, `curr.is_empty()`
bookkeeping) by the recursion `outerSpec`: in round `k` at most the *first* (longest) candidate is reported — iff it
cannot be extended (or `k = -1`) and is long enough — and the next candidate list is the list of non-empty
extensions with runs of equal size reduced to their first member.  At the end: the forward phase as `smems` starts it (`fwdRes`,
`forwardPhase_eq`) and the dead start (`pattern[i]` does not occur).
-/
namespace RbV.SmemModel
open RbV

variable {ι : Type}

/-- the extensions of all candidates by `a` (with their new lengths) -/
def ext (ops : Ops ι) (a : Nat) (prev : List (ι × Nat)) : List (ι × Nat) :=
  prev.map (fun x => (ops.bwd x.1 a, x.2 + 1))

/-- keep the non-empty intervals whose size differs from the size of the last interval kept -/
def dedup (ops : Ops ι) : Int → List (ι × Nat) → List (ι × Nat)
  | _, [] => []
  | last, (f, ml) :: rest =>
    if (ops.size f != 0 && (ops.size f : Int) != last) = true then (f, ml) :: dedup ops (ops.size f) rest
    else dedup ops last rest

/-- the match reported in a round: the first candidate, if it cannot be extended (or `k = -1`) and `len ≥ l` -/
def report (ops : Ops ι) (a kk l : Nat) : List (ι × Nat) → List (Hit ι)
  | [] => []
  | (iv, ml) :: _ => if (ops.size (ops.bwd iv a) = 0 ∨ kk = 0) ∧ l ≤ ml then [⟨iv, kk, ml⟩] else []

theorem dedup_sublist (ops : Ops ι) : ∀ (xs : List (ι × Nat)) (last : Int), (dedup ops last xs).Sublist xs
  | [], _ => by simp [dedup]
  | (f, ml) :: rest, last => by
    unfold dedup
    split
    · exact (dedup_sublist ops rest _).cons_cons _
    · exact (dedup_sublist ops rest _).cons _

theorem dedup_size_ne (ops : Ops ι) : ∀ (xs : List (ι × Nat)) (last : Int), ∀ x ∈ dedup ops last xs, ops.size x.1 ≠ 0
  | [], _, x, hx => by simp [dedup] at hx
  | (f, ml) :: rest, last, x, hx => by
    unfold dedup at hx
    split at hx
    · rename_i hp
      rw [List.mem_cons] at hx
      rcases hx with rfl | hx
      · simp only [Bool.and_eq_true, bne_iff_ne, ne_eq] at hp
        exact hp.1
      · exact dedup_size_ne ops rest _ x hx
    · exact dedup_size_ne ops rest _ x hx

/-- every non-empty interval is kept or has the size of a kept interval that stands before it -/
theorem dedup_repr (ops : Ops ι) (x : ι × Nat) (l2 : List (ι × Nat)) (hx : ops.size x.1 ≠ 0) :
    ∀ (l1 : List (ι × Nat)) (last : Int),
      (ops.size x.1 : Int) = last ∨
      ∃ y ∈ dedup ops last (l1 ++ x :: l2), ops.size y.1 = ops.size x.1 ∧ (y = x ∨ y ∈ l1)
  | [], last => by
    by_cases h : (ops.size x.1 : Int) = last
    · exact Or.inl h
    · right
      refine ⟨x, ?_, rfl, Or.inl rfl⟩
      obtain ⟨f, ml⟩ := x
      simp only [List.nil_append, dedup]
      have hp : (ops.size f != 0 && (ops.size f : Int) != last) = true := by
        simp only [Bool.and_eq_true, bne_iff_ne, ne_eq]; exact ⟨hx, h⟩
      rw [if_pos hp]; simp
  | z :: l1, last => by
    obtain ⟨f, ml⟩ := z
    simp only [List.cons_append, dedup]
    by_cases hp : (ops.size f != 0 && (ops.size f : Int) != last) = true
    · rw [if_pos hp]
      right
      rcases dedup_repr ops x l2 hx l1 (ops.size f) with h | ⟨y, hy, hs, hyx⟩
      · refine ⟨(f, ml), by simp, ?_, Or.inr (by simp)⟩
        have : ops.size x.1 = ops.size f := by omega
        exact this.symm
      · refine ⟨y, List.mem_cons_of_mem _ hy, hs, ?_⟩
        rcases hyx with h | h
        · exact Or.inl h
        · exact Or.inr (List.mem_cons_of_mem _ h)
    · rw [if_neg hp]
      rcases dedup_repr ops x l2 hx l1 last with h | ⟨y, hy, hs, hyx⟩
      · exact Or.inl h
      · right
        refine ⟨y, hy, hs, ?_⟩
        rcases hyx with h | h
        · exact Or.inl h
        · exact Or.inr (List.mem_cons_of_mem _ h)

/-- the test that guards a report -/
def hitB (ops : Ops ι) (a kk l : Nat) (x : ι × Nat) (st : InnerSt ι) : Bool :=
  (ops.size (ops.bwd x.1 a) == 0 || kk == 0) && st.curr.isEmpty && decide (kk < st.jj) && decide (l ≤ x.2)

theorem hitB_iff (ops : Ops ι) (a kk l : Nat) (x : ι × Nat) (st : InnerSt ι) : hitB ops a kk l x st = true ↔
    (ops.size (ops.bwd x.1 a) = 0 ∨ kk = 0) ∧ st.curr = [] ∧ kk < st.jj ∧ l ≤ x.2 := by
  simp only [hitB, Bool.and_eq_true, Bool.or_eq_true, beq_iff_eq, decide_eq_true_eq, List.isEmpty_iff, and_assoc]

/-- what the body of the inner loop does to the state for one candidate: the body of `innerLoop` (`RbV/Model/Smems.lean`)
verbatim, tied to it by `innerLoop_cons := rfl` — a change of the model has to be made here too -/
def innerStep (ops : Ops ι) (a kk l : Nat) (x : ι × Nat) (st : InnerSt ι) : InnerSt ι :=
  let f := ops.bwd x.1 a
  let push : Bool := ops.size f != 0 && (ops.size f : Int) != st.last
  ⟨if push then st.curr ++ [(f, x.2 + 1)] else st.curr, if push then (ops.size f : Int) else st.last,
    if hitB ops a kk l x st then kk else st.jj, if hitB ops a kk l x st then st.ms ++ [⟨x.1, kk, x.2⟩] else st.ms⟩

theorem innerLoop_cons (ops : Ops ι) (a kk l : Nat) (x : ι × Nat) (rest : List (ι × Nat)) (st : InnerSt ι) :
    innerLoop ops a kk l (x :: rest) st = innerLoop ops a kk l rest (innerStep ops a kk l x st) := rfl

theorem inner_curr (ops : Ops ι) (a kk l : Nat) :
    ∀ (prev : List (ι × Nat)) (st : InnerSt ι),
      (innerLoop ops a kk l prev st).curr = st.curr ++ dedup ops st.last (ext ops a prev)
  | [], st => by simp [innerLoop, ext, dedup]
  | x :: rest, st => by
    rw [innerLoop_cons, inner_curr ops a kk l rest]
    simp only [innerStep, ext, List.map_cons, dedup]
    split <;> simp

/-- nothing can be reported any more in this round -/
def Blocked (kk l : Nat) (st : InnerSt ι) (rest : List (ι × Nat)) : Prop :=
  st.curr ≠ [] ∨ st.jj ≤ kk ∨ ∀ x ∈ rest, x.2 < l

/-- a blocked state reports nothing and stays blocked -/
theorem innerStep_blocked (ops : Ops ι) (a kk l : Nat) (x : ι × Nat) (rest : List (ι × Nat)) (st : InnerSt ι)
    (hb : Blocked kk l st (x :: rest)) :
    (innerStep ops a kk l x st).jj = st.jj ∧ (innerStep ops a kk l x st).ms = st.ms ∧
      Blocked kk l (innerStep ops a kk l x st) rest := by
  have hno : ¬ ((ops.size (ops.bwd x.1 a) = 0 ∨ kk = 0) ∧ st.curr = [] ∧ kk < st.jj ∧ l ≤ x.2) := by
    rintro ⟨_, h2, h3, h4⟩
    rcases hb with h | h | h
    · exact h h2
    · exact Nat.not_le_of_lt h3 h
    · exact Nat.not_le_of_lt (h x List.mem_cons_self) h4
  have hhit := mt (hitB_iff ops a kk l x st).mp hno
  have hjj : (innerStep ops a kk l x st).jj = st.jj := if_neg hhit
  refine ⟨hjj, if_neg hhit, ?_⟩
  rcases hb with h | h | h
  · left
    show (if _ then _ else _) ≠ []
    split
    · simp
    · exact h
  · exact Or.inr (Or.inl (hjj.symm ▸ h))
  · exact Or.inr (Or.inr fun y hy => h y (List.mem_cons_of_mem _ hy))

theorem inner_blocked (ops : Ops ι) (a kk l : Nat) :
    ∀ (rest : List (ι × Nat)) (st : InnerSt ι), Blocked kk l st rest →
      (innerLoop ops a kk l rest st).jj = st.jj ∧ (innerLoop ops a kk l rest st).ms = st.ms
  | [], st, _ => ⟨rfl, rfl⟩
  | x :: rest, st, hb => by
    obtain ⟨h1, h2, h3⟩ := innerStep_blocked ops a kk l x rest st hb
    rw [innerLoop_cons, ← h1, ← h2]
    exact inner_blocked ops a kk l rest _ h3

theorem inner_report (ops : Ops ι) (a kk l : Nat) (prev : List (ι × Nat)) (st : InnerSt ι)
    (hc : st.curr = []) (hl : st.last = -1) (hj : kk < st.jj)
    (hs : (prev.map (·.2)).Pairwise (· ≥ ·)) :
    (innerLoop ops a kk l prev st).ms = st.ms ++ report ops a kk l prev ∧
    kk ≤ (innerLoop ops a kk l prev st).jj := by
  cases prev with
  | nil => exact ⟨(List.append_nil _).symm, Nat.le_of_lt hj⟩
  | cons x rest =>
    simp only [List.map_cons, List.pairwise_cons] at hs
    rw [innerLoop_cons]
    show _ = st.ms ++ (if (ops.size (ops.bwd x.1 a) = 0 ∨ kk = 0) ∧ l ≤ x.2 then [⟨x.1, kk, x.2⟩] else []) ∧ _
    by_cases hcond : (ops.size (ops.bwd x.1 a) = 0 ∨ kk = 0) ∧ l ≤ x.2
    · -- the first candidate is reported; `j = k` blocks the rest of the round
      have hhit := (hitB_iff ops a kk l x st).mpr ⟨hcond.1, hc, hj, hcond.2⟩
      have hjj : (innerStep ops a kk l x st).jj = kk := if_pos hhit
      have hms : (innerStep ops a kk l x st).ms = st.ms ++ [⟨x.1, kk, x.2⟩] := if_pos hhit
      obtain ⟨h1, h2⟩ := inner_blocked ops a kk l rest _ (Or.inr (Or.inl (Nat.le_of_eq hjj)))
      rw [h1, h2, hjj, hms, if_pos hcond]
      exact ⟨rfl, Nat.le_refl _⟩
    · have hhit := mt (hitB_iff ops a kk l x st).mp (fun h => hcond ⟨h.1, h.2.2.2⟩)
      have hjj : (innerStep ops a kk l x st).jj = st.jj := if_neg hhit
      have hms : (innerStep ops a kk l x st).ms = st.ms := if_neg hhit
      have hb : Blocked kk l (innerStep ops a kk l x st) rest := by
        by_cases hlm : l ≤ x.2
        · -- then the candidate was extended: `curr` is no longer empty
          have hsz : ops.size (ops.bwd x.1 a) ≠ 0 := fun h => hcond ⟨Or.inl h, hlm⟩
          have hp : (ops.size (ops.bwd x.1 a) != 0 && (ops.size (ops.bwd x.1 a) : Int) != st.last) = true := by
            simp only [Bool.and_eq_true, bne_iff_ne, ne_eq]
            exact ⟨hsz, by rw [hl]; omega⟩
          left
          show (if _ then _ else _) ≠ []
          rw [if_pos hp]; simp
        · exact Or.inr (Or.inr fun y hy => by have := hs.1 y.2 (List.mem_map_of_mem hy); omega)
      obtain ⟨h1, h2⟩ := inner_blocked ops a kk l rest _ hb
      rw [h1, h2, hjj, hms, if_neg hcond, List.append_nil]
      exact ⟨rfl, Nat.le_of_lt hj⟩

/-- the backward sweep without the bookkeeping -/
def outerSpec (ops : Ops ι) (pat : List Nat) (l : Nat) : Nat → List (ι × Nat) → List (Hit ι) → List (Hit ι)
  | 0, prev, ms => ms ++ report ops 36 0 l prev
  | kk + 1, prev, ms =>
    if (dedup ops (-1) (ext ops (pat.getD kk 0) prev)).isEmpty then ms ++ report ops (pat.getD kk 0) (kk + 1) l prev
    else outerSpec ops pat l kk (dedup ops (-1) (ext ops (pat.getD kk 0) prev))
      (ms ++ report ops (pat.getD kk 0) (kk + 1) l prev)

theorem ext_dedup_sorted (ops : Ops ι) (a : Nat) (last : Int) (prev : List (ι × Nat))
    (hs : (prev.map (·.2)).Pairwise (· ≥ ·)) :
    ((dedup ops last (ext ops a prev)).map (·.2)).Pairwise (· ≥ ·) := by
  have h1 : ((ext ops a prev).map (·.2)).Pairwise (· ≥ ·) := by
    have : (ext ops a prev).map (·.2) = (prev.map (·.2)).map (· + 1) := by
      simp [ext, List.map_map, Function.comp_def]
    rw [this, List.pairwise_map]
    exact hs.imp (fun h => by omega)
  exact h1.sublist ((dedup_sublist ops _ last).map _)

theorem outer_eq_spec (ops : Ops ι) (pat : List Nat) (l : Nat) :
    ∀ (kk : Nat) (prev : List (ι × Nat)) (jj : Nat) (ms : List (Hit ι)),
      kk < jj → (prev.map (·.2)).Pairwise (· ≥ ·) →
      outerLoop ops pat l kk prev jj ms = outerSpec ops pat l kk prev ms
  | 0, prev, jj, ms, hj, hs => by
    simp only [outerLoop, outerSpec]
    exact (inner_report ops 36 0 l prev ⟨[], -1, jj, ms⟩ rfl rfl hj hs).1
  | kk + 1, prev, jj, ms, hj, hs => by
    simp only [outerLoop, outerSpec]
    have hr := inner_report ops (pat.getD kk 0) (kk + 1) l prev ⟨[], -1, jj, ms⟩ rfl rfl hj hs
    have hc := inner_curr ops (pat.getD kk 0) (kk + 1) l prev ⟨[], -1, jj, ms⟩
    simp only [List.nil_append] at hc
    rw [hc, hr.1]
    split
    · rfl
    · exact outer_eq_spec ops pat l kk _ _ _ (by omega) (ext_dedup_sorted ops _ _ prev hs)

/-- the result of the forward loop as `smems` starts it -/
def fwdRes (ops : Ops ι) (pat : List Nat) (i : Nat) : List (ι × Nat) × ι × Nat :=
  fwdLoop ops (pat.drop (i + 1)) (ops.initWith i (pat.getD i 0))
    (if ops.size (ops.initWith i (pat.getD i 0)) ≠ 0 then 1 else 0) []

theorem forwardPhase_eq (ops : Ops ι) (pat : List Nat) (i : Nat) :
    forwardPhase ops pat i = ((fwdRes ops pat i).1 ++ [((fwdRes ops pat i).2.1, (fwdRes ops pat i).2.2)]).reverse := rfl

/-! ### the dead start: `pattern[i]` does not occur

`init_interval_with(pattern[i])` is empty.  This is the only empty interval the sweep ever extends (the forward loop
leaves at an empty extension, the backward loop does not keep one); if its extensions are empty again, nothing happens. -/

theorem forwardPhase_of_dead_start (ops : Ops ι) (pat : List Nat) (i : Nat)
    (h0 : ops.size (ops.initWith i (pat.getD i 0)) = 0)
    (hf : i + 1 < pat.length → ∀ a, ops.size (ops.fwd (ops.initWith i (pat.getD i 0)) a) = 0) :
    forwardPhase ops pat i = [(ops.initWith i (pat.getD i 0), 0)] := by
  unfold forwardPhase
  generalize ops.initWith i (pat.getD i 0) = x at h0 hf ⊢
  cases hd : pat.drop (i + 1) with
  | nil => simp [fwdLoop, h0]
  | cons a rest =>
    have hlt : i + 1 < pat.length := by
      have := congrArg List.length hd
      rw [List.length_drop, List.length_cons] at this
      omega
    simp [fwdLoop, h0, hf hlt a]

theorem smems_of_dead_start (ops : Ops ι) (pat : List Nat) (i l : Nat) (hi : i < pat.length)
    (h0 : ops.size (ops.initWith i (pat.getD i 0)) = 0)
    (hf : i + 1 < pat.length → ∀ a, ops.size (ops.fwd (ops.initWith i (pat.getD i 0)) a) = 0)
    (hb : ∀ a, ops.size (ops.bwd (ops.initWith i (pat.getD i 0)) a) = 0) :
    smems ops pat i l = if l ≤ 0 then [⟨ops.initWith i (pat.getD i 0), i, 0⟩] else [] := by
  unfold smems
  rw [forwardPhase_of_dead_start ops pat i h0 hf]
  generalize ops.initWith i (pat.getD i 0) = x at hb ⊢
  -- one round of the backward sweep: the extension is empty, so nothing is pushed; the start interval is reported iff `l ≤ 0`
  cases i with
  | zero => simp [outerLoop, innerLoop, hb]
  | succ k => simp [outerLoop, innerLoop, hb, Nat.lt_of_succ_lt hi]

end RbV.SmemModel
