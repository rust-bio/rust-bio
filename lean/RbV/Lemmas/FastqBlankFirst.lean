import RbV.Model.Fastq
import RbV.Lemmas.Fastx
import RbV.Lemmas.BufLines
/-!
# The domain of the FASTQ header split: "the first white-space byte of the trimmed header is a blank"  (C11, source tie)

`blankFirst (trimEnd l.tail)` is what the property's domain (ids without white space) fixes about a header line `l`; it is all
the source-text theorems use of the pattern of `splitn(2, <pattern>)` in `fastq::Reader::read` (`Thm/GenSrcFastq.lean`).  Here:
every line of the file the writer produces for valid records, **and of every prefix of it**, has that shape (`goodLine`) —
descriptions may contain any white space but LF after the first blank.  Core Lean only.
-/
namespace RbV.Fastx
open RbV.BufLines

/-- the first white-space byte, if any, is a blank -/
def blankFirst : Bytes → Bool
  | [] => true
  | b :: r => if isWs b then b == 32 else blankFirst r

/-- splitting at a pattern that matches the blank and nothing that is not white space is splitting at the blank, where the first
white space is a blank (what a header split found in the source has to satisfy, and all that is used of it) -/
theorem splitn2_blankFirst (p : Nat → Bool) (h32 : p 32 = true) (hp : ∀ b, isWs b = false → p b = false) (s : Bytes)
    (h : blankFirst s = true) : splitn2 p s = splitn2 (· == 32) s := by
  induction s with
  | nil => rfl
  | cons b r ih =>
    unfold blankFirst at h
    by_cases hw : isWs b = true
    · simp only [hw, if_true, beq_iff_eq] at h
      subst h
      simp [splitn2, h32]
    · have hw' : isWs b = false := by simpa using hw
      simp only [hw', Bool.false_eq_true, if_false] at h
      have hb : (b == 32) = false := by
        simp only [isWs, Bool.or_eq_false_iff, beq_eq_false_iff_ne] at hw'
        simp; omega
      have := ih h
      simp only [splitn2, Prod.mk.injEq] at this ⊢
      simp [hp b hw', hb, this.1, this.2]

/-- a line in the domain of the FASTQ header split -/
def goodLine (l : Bytes) : Prop := blankFirst (trimEnd l.tail) = true

theorem blankFirst_nows (a : Bytes) (h : ∀ b ∈ a, isWs b = false) : blankFirst a = true := by
  induction a with
  | nil => rfl
  | cons b r ih =>
    have hb := h b (by simp)
    simp only [blankFirst, hb, Bool.false_eq_true, if_false]
    exact ih fun x hx => h x (by simp [hx])

theorem blankFirst_blank (a d : Bytes) (h : ∀ b ∈ a, isWs b = false) : blankFirst (a ++ 32 :: d) = true := by
  induction a with
  | nil => simp [blankFirst, isWs]
  | cons b r ih =>
    have hb := h b (by simp)
    simp only [List.cons_append, blankFirst, hb, Bool.false_eq_true, if_false]
    exact ih fun x hx => h x (by simp [hx])

theorem all_ws_prefix {p s : Bytes} (hp : p <+: s) (h : s.all isWs = true) : p.all isWs = true := by
  obtain ⟨t, rfl⟩ := hp
  simp only [List.all_append, Bool.and_eq_true] at h
  exact h.1

/-- the shape survives cutting: a prefix of a string whose trimmed form has a blank as first white space has one, too -/
theorem blankFirst_trimEnd_prefix : ∀ (s p : Bytes), p <+: s → blankFirst (trimEnd s) = true → blankFirst (trimEnd p) = true := by
  intro s
  induction s with
  | nil =>
    intro p hp _
    have : p = [] := List.prefix_nil.mp hp
    subst this; rfl
  | cons b r ih =>
    intro p hp hs
    cases p with
    | nil => rfl
    | cons c p' =>
      obtain ⟨rfl, hp'⟩ := List.cons_prefix_cons.mp hp
      by_cases hw : isWs c = true
      · by_cases ht : trimEnd p' = []
        · simp [trimEnd, ht, hw, blankFirst]
        · have htr : trimEnd r ≠ [] := by
            intro h0
            exact ht ((trimEnd_eq_nil_iff _).mpr (all_ws_prefix hp' ((trimEnd_eq_nil_iff _).mp h0)))
          rw [trimEnd_cons_of_ne_nil c htr] at hs
          rw [trimEnd_cons_of_ne_nil c ht]
          simpa [blankFirst, hw] using hs
      · have hw' : isWs c = false := by simpa using hw
        rw [trimEnd_cons_of_not_ws hw'] at hs ⊢
        simp only [blankFirst, hw', Bool.false_eq_true, if_false] at hs ⊢
        exact ih p' hp' hs

theorem goodLine_prefix {l l' : Bytes} (hp : l <+: l') (h : goodLine l') : goodLine l := by
  unfold goodLine at *
  apply blankFirst_trimEnd_prefix l'.tail l.tail _ h
  cases l with
  | nil => exact List.nil_prefix
  | cons b t =>
    cases l' with
    | nil => simp at hp
    | cons c t' => exact (List.cons_prefix_cons.mp hp).2

/-- **the lines of a prefix of a file**: lines of the file, then at most one more, a prefix of a line of the file -/
theorem splitLines_take (f : Bytes) (n : Nat) :
    ∃ ls p, splitLines (f.take n) = ls ++ (if p = [] then [] else [p]) ∧ (∀ l ∈ ls, l ∈ splitLines f) ∧
      (p = [] ∨ ∃ l ∈ splitLines f, p <+: l) := by
  induction f using firstLine_induction generalizing n with
  | nil => exact ⟨[], [], by simp [splitLines], by simp, .inl rfl⟩
  | step f hne ih =>
    have happ := firstLine_append f
    have hshape := firstLine_shape f
    rw [splitLines_eq_firstLine f hne]
    generalize firstLine f = ab at happ hshape ih
    obtain ⟨a, b⟩ := ab
    simp only at happ hshape ih ⊢
    subst happ
    rcases hshape with ⟨pre, rfl, h2⟩ | ⟨rfl, h2⟩
    · rw [List.append_assoc, List.singleton_append]
      rcases take_line_cases pre b n with ⟨-, h⟩ | ⟨-, h⟩ <;> rw [h]
      · exact ⟨[], pre.take n, by rw [splitLines_nolf_ite _ (nolf_take h2 n)]; rfl, by simp,
          .inr ⟨pre ++ [10], by simp, (List.take_prefix n pre).trans (List.prefix_append _ _)⟩⟩
      · obtain ⟨ls, p, e, h1, h3⟩ := ih (n - pre.length - 1)
        refine ⟨(pre ++ [10]) :: ls, p, by rw [splitLines_line _ _ h2, e]; rfl, ?_, ?_⟩
        · intro l hl
          rcases List.mem_cons.mp hl with rfl | hl
          · simp
          · exact List.mem_cons_of_mem _ (h1 l hl)
        · exact h3.imp id fun ⟨l, hl, hp⟩ => ⟨l, List.mem_cons_of_mem _ hl, hp⟩
    · rw [List.append_nil]
      exact ⟨[], a.take n, by rw [splitLines_nolf_ite _ (nolf_take h2 n)]; rfl, by simp,
        .inr ⟨a, by simp, List.take_prefix n a⟩⟩

theorem splitLines_take_prefix (f : Bytes) (n : Nat) : ∀ l ∈ splitLines (f.take n), ∃ l' ∈ splitLines f, l <+: l' := by
  obtain ⟨ls, p, e, h1, h2⟩ := splitLines_take f n
  intro l hl
  rw [e] at hl
  rcases List.mem_append.mp hl with hl | hl
  · exact ⟨l, h1 l hl, List.prefix_refl l⟩
  · split at hl
    · cases hl
    · rename_i hp
      obtain rfl := List.mem_singleton.mp hl
      exact h2.resolve_left hp
theorem goodLine_piece (x : Bytes) (hx : ∀ b ∈ x, isWs b = false) : goodLine (x ++ [10]) := by
  unfold goodLine
  cases x with
  | nil => simp [trimEnd, isWs, blankFirst]
  | cons b t =>
    have ht : ∀ y ∈ t, isWs y = false := fun y hy => hx y (by simp [hy])
    simp only [List.cons_append, List.tail_cons]
    rw [trimEnd_piece t [10] ht (Or.inl rfl)]
    exact blankFirst_nows t ht

theorem goodLine_header (c : Nat) (id : Bytes) (desc : Option Bytes) (hid : ∀ b ∈ id, isWs b = false)
    (hd : ∀ d, desc = some d → d ≠ [] ∧ 10 ∉ d ∧ NoTrailWs d) : goodLine (c :: hdrText id desc ++ [10]) := by
  unfold goodLine
  simp only [List.cons_append, List.tail_cons]
  rw [trimEnd_append_ws _ [10] (hdrText_noTrail id desc hid hd) (by simp [isWs])]
  cases desc with
  | none => simpa [hdrText] using blankFirst_nows id hid
  | some d => simpa [hdrText] using blankFirst_blank id d hid

/-- **every line of the file the FASTQ writer produces for valid records is in the domain of the header split** -/
theorem goodLine_writeFastq (recs : List FqRec) (hv : ∀ r ∈ recs, ValidFq r) :
    ∀ l ∈ splitLines (writeFastq recs), goodLine l := by
  induction recs with
  | nil => intro l hl; simp [writeFastq, splitLines] at hl
  | cons r rs ih =>
    have v := hv r (by simp)
    have hw : writeFastq (r :: rs) = layoutFastqRec r (writerLayout r) ++ writeFastq rs := by
      simp [writeFastq, writeFastqRec_eq_layout]
    rw [hw, splitLines_fqRec r (writerLayout r) (writeFastq rs) v (writerLayout_ok r v)]
    intro l hl
    simp only [writerLayout, List.map_cons, List.map_nil, List.cons_append, List.nil_append, List.mem_cons, List.append_nil] at hl
    rcases hl with rfl | rfl | rfl | rfl | hl
    · exact goodLine_header 64 r.id r.desc v.id_nows v.desc_ok
    · exact goodLine_piece r.seq v.seq_ok
    · simp [goodLine, trimEnd, isWs, blankFirst]
    · exact goodLine_piece r.qual v.qual_ok
    · exact ih (fun x hx => hv x (by simp [hx])) l hl

/-- … and so is every line of every prefix of that file -/
theorem goodLine_writeFastq_take (recs : List FqRec) (hv : ∀ r ∈ recs, ValidFq r) (n : Nat) :
    ∀ l ∈ splitLines ((writeFastq recs).take n), goodLine l := by
  intro l hl
  obtain ⟨l', hl', hp⟩ := splitLines_take_prefix _ n l hl
  exact goodLine_prefix hp (goodLine_writeFastq recs hv l' hl')

end RbV.Fastx
