import RbV.Lemmas.SaisLabelsDef
import RbV.Lemmas.SaisLmsList
/-
The naming loop of `sort_lms_suffixes` as a fold, reduced to the pure label sequence `labels` of the scanned LMS
positions: `label` = last label, `reduced_text[reduced_text_pos[q]]` = label of `q`.
-/
namespace RbV.Sais

/-- the writes `reduced_text[reduced_text_pos[q]] = label` of the loop -/
def redOf (redPos : List Nat) : List Nat → List Nat → List Nat → List Nat
  | red, q :: qs, lab :: labs => redOf redPos (red.set (redPos.getD q 0) lab) qs labs
  | red, _, _ => red

theorem foldl_nameStep_filter (t : List Nat) (ty : List Bool) (redPos : List Nat) (pos : List Nat) (st : Naming) :
    pos.foldl (nameStep t ty redPos) st = (pos.filter (isLms ty)).foldl (nameStep t ty redPos) st := by
  induction pos generalizing st with
  | nil => rfl
  | cons p pos ih =>
    simp only [List.foldl_cons, List.filter_cons]
    by_cases hl : isLms ty p = true
    · rw [if_pos hl, List.foldl_cons]; exact ih _
    · rw [if_neg hl]
      have : nameStep t ty redPos st p = st := by unfold nameStep; rw [if_neg hl]
      rw [this]; exact ih _

theorem foldl_nameStep_run (t : List Nat) (ty : List Bool) (redPos : List Nat) (qs : List Nat)
    (hq : ∀ q ∈ qs, isLms ty q = true) (st : Naming) :
    let r := qs.foldl (nameStep t ty redPos) st
    let labs := labelsGo (lmsSubEq t ty) st.prev st.label qs
    r.label = labs.getLastD st.label ∧ r.red = redOf redPos st.red qs labs := by
  induction qs generalizing st with
  | nil => simp [labelsGo, redOf]
  | cons q qs ih =>
    have hlq : isLms ty q = true := hq q (by simp)
    have ih' := ih (fun x hx => hq x (by simp [hx])) (nameStep t ty redPos st q)
    simp only [List.foldl_cons]
    cases hprev : st.prev with
    | none =>
      have hst : nameStep t ty redPos st q =
          { label := st.label, prev := some q, red := st.red.set (redPos.getD q 0) st.label } := by
        unfold nameStep; rw [if_pos hlq, hprev]
      rw [hst] at ih' ⊢
      simp only [labelsGo, redOf, List.getLastD_cons] at ih' ⊢
      exact ih'
    | some p =>
      have hst : nameStep t ty redPos st q =
          { label := (if !lmsSubEq t ty p q then st.label + 1 else st.label), prev := some q,
            red := st.red.set (redPos.getD q 0) (if !lmsSubEq t ty p q then st.label + 1 else st.label) } := by
        unfold nameStep; rw [if_pos hlq, hprev]
      rw [hst] at ih' ⊢
      simp only [labelsGo, redOf, List.getLastD_cons] at ih' ⊢
      exact ih'

theorem length_redOf (redPos : List Nat) (red qs labs : List Nat) : (redOf redPos red qs labs).length = red.length := by
  induction qs generalizing red labs with
  | nil => cases labs <;> simp [redOf]
  | cons q qs ih =>
    cases labs with
    | nil => simp [redOf]
    | cons lab labs => simp only [redOf]; rw [ih]; simp

theorem redOf_getD_other (redPos : List Nat) (red qs labs : List Nat) (j : Nat)
    (hj : ∀ q ∈ qs, redPos.getD q 0 ≠ j) : (redOf redPos red qs labs).getD j 0 = red.getD j 0 := by
  induction qs generalizing red labs with
  | nil => cases labs <;> simp [redOf]
  | cons q qs ih =>
    cases labs with
    | nil => simp [redOf]
    | cons lab labs =>
      simp only [redOf]
      rw [ih _ _ (fun x hx => hj x (by simp [hx])), List.getD_set_ne _ _ _ _ _ (hj q (by simp))]

theorem redOf_getD (redPos : List Nat) (red qs labs : List Nat) (a : Nat) (ha : a < qs.length)
    (hlen : labs.length = qs.length)
    (hinj : ∀ a b, a < b → b < qs.length → redPos.getD (qs.getD a 0) 0 ≠ redPos.getD (qs.getD b 0) 0)
    (hlt : ∀ a, a < qs.length → redPos.getD (qs.getD a 0) 0 < red.length) :
    (redOf redPos red qs labs).getD (redPos.getD (qs.getD a 0) 0) 0 = labs.getD a 0 := by
  induction qs generalizing red labs a with
  | nil => simp at ha
  | cons q qs ih =>
    cases labs with
    | nil => simp at hlen
    | cons lab labs =>
      simp only [redOf]
      cases a with
      | zero =>
        simp only [List.getD_cons_zero]
        rw [redOf_getD_other]
        · exact List.getD_set_self _ _ _ _ (by have := hlt 0 (by simp); simpa using this)
        · intro x hx
          obtain ⟨b, hb, he⟩ := List.exists_getD_of_mem qs 0 hx
          have := hinj 0 (b + 1) (by omega) (by simpa using hb)
          simp only [List.getD_cons_zero, List.getD_cons_succ] at this
          rw [he] at this
          exact fun e => this e.symm
      | succ a =>
        simp only [List.getD_cons_succ]
        apply ih
        · simpa using ha
        · simpa using hlen
        · intro a b hab hb
          have := hinj (a + 1) (b + 1) (by omega) (by simpa using hb)
          simpa using this
        · intro a ha
          have := hlt (a + 1) (by simpa using ha)
          simpa using this

theorem mem_redOf (redPos : List Nat) : ∀ (qs labs red : List Nat) (v : Nat),
    v ∈ redOf redPos red qs labs → v ∈ red ∨ v ∈ labs := by
  intro qs
  induction qs with
  | nil => intro labs red v h; simp only [redOf] at h; exact Or.inl h
  | cons q qs ih =>
    intro labs red v h
    cases labs with
    | nil => simp only [redOf] at h; exact Or.inl h
    | cons lab labs =>
      simp only [redOf] at h
      rcases ih labs _ v h with h1 | h1
      · rcases List.mem_or_eq_of_mem_set h1 with h2 | h2
        · exact Or.inl h2
        · exact Or.inr (by rw [h2]; exact List.mem_cons_self)
      · exact Or.inr (List.mem_cons_of_mem _ h1)

/-- **the naming loop**: with `qs` = the LMS positions in the order in which `pos` lists them -/
theorem naming_eq (t : List Nat) (ty : List Bool) (cnt : Nat) (s : St) :
    let qs := s.pos.filter (isLms ty)
    let labs := labels (lmsSubEq t ty) qs
    (naming t ty cnt s).label = labs.getLastD 0 ∧
    (naming t ty cnt s).red = redOf s.redPos (List.replicate cnt 0) qs labs := by
  unfold naming
  simp only []
  rw [List.set_replicate_self, foldl_nameStep_filter]
  have := foldl_nameStep_run t ty s.redPos (s.pos.filter (isLms ty))
    (fun q hq => (List.mem_filter.mp hq).2) { label := 0, prev := none, red := List.replicate cnt 0 }
  exact this

end RbV.Sais
