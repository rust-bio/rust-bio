import RbV.Model.RankSelect
/-
Bridge between the "block = list of at most 8 booleans" abstraction of `RbV.Model.RankSelect` and the `u8`
operations used by `rank_select.rs` (`count_ones`, `count_zeros`, `b & mask`, `b & bit`).  Three definitions here are
read with the theorems of `Thm/C17.lean`, not only used in proofs: `byteOf` is the assumed meaning of
`bv::BitVec<u8>::get_block` (`Thm/GenSrcRankSelect.blockByte` = `byteOf ∘ getBlock`), and `popcount8`, `rankMask` occur
in a statement there.  Core Lean only.
-/
namespace RbV.Lemmas.Bytes8
open RbV.Model.RankSelect

/-- the byte `get_block` returns for a block given as its list of bits (bit i of the byte = element i; little endian;
missing elements = zero padding) -/
def byteOf : List Bool → Nat
  | [] => 0
  | b :: r => (if b then 1 else 0) + 2 * byteOf r

/-- `u8::count_ones` -/
def popcount8 (x : Nat) : Nat := ((List.range 8).filter (fun i => x.testBit i)).length

/-- `((2u16 << j) - 1) as u8` -/
def rankMask (j : Nat) : Nat := ((2 <<< j) - 1) % 256

theorem byteOf_lt_two_pow (blk : List Bool) : byteOf blk < 2 ^ blk.length := by
  induction blk with
  | nil => simp [byteOf]
  | cons b r ih =>
    simp only [byteOf, List.length_cons, Nat.pow_succ]
    cases b <;> simp <;> omega

theorem byteOf_lt (blk : List Bool) (h : blk.length ≤ 8) : byteOf blk < 256 := by
  have h1 := byteOf_lt_two_pow blk
  have h2 : 2 ^ blk.length ≤ 2 ^ 8 := Nat.pow_le_pow_right (by decide) h
  omega

theorem testBit_byteOf (blk : List Bool) (i : Nat) : (byteOf blk).testBit i = blk.getD i false := by
  induction blk generalizing i with
  | nil => simp [byteOf]
  | cons b r ih =>
    cases i with
    | zero =>
      simp only [byteOf, Nat.testBit_zero, List.getD_cons_zero]
      cases b <;> simp <;> omega
    | succ i =>
      simp only [byteOf, Nat.testBit_succ, List.getD_cons_succ]
      rw [← ih i]
      congr 1
      cases b <;> simp <;> omega

/-- `count true` as a count over bit positions; positions past the end of the list read `false` -/
theorem count_eq_range (blk : List Bool) : ∀ n, blk.length ≤ n →
    blk.count true = ((List.range n).filter (fun i => blk.getD i false)).length := by
  induction blk with
  | nil => intro n _; rw [List.filter_eq_nil_iff.mpr (by simp)]; rfl
  | cons b r ih =>
    intro n h
    obtain ⟨m, rfl⟩ : ∃ m, n = m + 1 := ⟨n - 1, by simp at h; omega⟩
    have := ih m (by simpa using h)
    rw [List.range_succ_eq_map, List.filter_cons, List.filter_map, List.count_cons, this]
    cases b <;> simp [Function.comp_def]

/-- `get_block(b).count_ones()` -/
theorem popcount8_byteOf (blk : List Bool) (h : blk.length ≤ 8) : popcount8 (byteOf blk) = countOnes blk := by
  simp only [popcount8, testBit_byteOf]
  exact (count_eq_range blk 8 h).symm

/-- `get_block(b).count_zeros()` (u8: 8 − count_ones; the zero padding of a short last block is counted) -/
theorem countZeros_byteOf (blk : List Bool) (h : blk.length ≤ 8) : 8 - popcount8 (byteOf blk) = countZeros blk := by
  rw [popcount8_byteOf blk h]; rfl

theorem rankMask_eq (j : Nat) (hj : j < 8) : rankMask j = 2 ^ (j + 1) - 1 := by
  match j, hj with
  | 0, _ | 1, _ | 2, _ | 3, _ | 4, _ | 5, _ | 6, _ | 7, _ => all_goals decide

theorem getD_take (blk : List Bool) (n i : Nat) :
    (blk.take n).getD i false = (decide (i < n) && blk.getD i false) := by
  simp only [List.getD_eq_getElem?_getD, List.getElem?_take]
  by_cases h : i < n <;> simp [h]

/-- `(get_block(b) & mask).count_ones()` with `mask = ((2u16 << j) - 1) as u8`, `j = i % 8` -/
theorem popcount8_masked (blk : List Bool) (j : Nat) (hj : j < 8) :
    popcount8 (byteOf blk &&& rankMask j) = countOnes (blk.take (j + 1)) := by
  have hl : (blk.take (j + 1)).length ≤ 8 := by
    rw [List.length_take]; omega
  rw [rankMask_eq j hj]
  simp only [popcount8, countOnes, Nat.testBit_and, testBit_byteOf, Nat.testBit_two_pow_sub_one]
  simpa only [getD_take, Bool.and_comm] using (count_eq_range _ 8 hl).symm

theorem and_two_pow (x i : Nat) : x &&& 2 ^ i = if x.testBit i then 2 ^ i else 0 := by
  apply Nat.eq_of_testBit_eq
  intro k
  rw [Nat.testBit_and, Nat.testBit_two_pow]
  by_cases hk : i = k
  · subst hk
    cases hx : x.testBit i <;> simp
  · cases hx : x.testBit i <;> simp [hk]

/-- `is_match(b & bit)` for `select_1` (`bit = 1 << i`, `b & bit != 0`) -/
theorem bit_test (blk : List Bool) (i : Nat) :
    ((byteOf blk &&& (1 <<< i)) != 0) = blk.getD i false := by
  rw [Nat.one_shiftLeft, and_two_pow, testBit_byteOf]
  cases blk.getD i false
  · simp
  · simp

/-- … and for `select_0` (`b & bit == 0`) -/
theorem bit_test_zero (blk : List Bool) (i : Nat) :
    ((byteOf blk &&& (1 <<< i)) == 0) = !blk.getD i false := by
  rw [← bit_test blk i]; simp [bne]

end RbV.Lemmas.Bytes8
