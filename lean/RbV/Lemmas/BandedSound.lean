import RbV.Lemmas.FillSound
import RbV.Lemmas.FillWitAt
import RbV.Lemmas.Band
import RbV.Model.BandedDP
/-!
Soundness groundwork for the banded mirror (`Model/BandedDP.lean`), "Theorem B" of the comments of `Thm/C02.lean` (the
score the mirror reports is the score of the alignment it returns; not proved): the cell transition
`cellStep` that `fill` applies to every in-band cell `(i, j)`, `i, j ≥ 1`, maps *junk-or-witnessed* inputs to
junk-or-witnessed outputs.  `JW L i j v` (`Lemmas/FillSound.lean`): `v` is either
junk — at most `MIN_SCORE + (i + j)·W`, a value derived from the `MIN_SCORE` an out-of-band or reset cell holds — or
witnessed: bounded by the documented score of a real alignment of a sub-range pair that ends at `(i, j)` in layer `L`
(`Wit`).  Which cells the inputs come from does not matter (in the band or not, current or stale): only that each input
is junk-or-witnessed *for the matrix position it is read as*.
-/
namespace RbV.Model.BandedDP
open RbV.Align RbV.Model.PairwiseFill
open RbV.Model.Band (ite_of)

variable {sc : Sc} {cl : Clip} {x y : List Nat} {W : Int}

theorem pickI_jw {i j : Nat} (iUp sUp : Int) (tsUp : Tb) (clipI : Option Int)
    (hIe : JW sc cl x y W .ins i j (iUp + sc.ge)) (hIo : JW sc cl x y W .ins i j (sUp + sc.go + sc.ge))
    (hIc : ∀ c, clipI = some c → JW sc cl x y W .ins i j c) :
    JW sc cl x y W .ins i j (pickI sc iUp sUp tsUp clipI).1 := by
  have h0 : JW sc cl x y W .ins i j (pickI sc iUp sUp tsUp none).1 :=
    ite_of (P := fun p : Int × Tb => JW sc cl x y W .ins i j p.1) _ hIe hIo
  cases clipI with
  | none => exact h0
  | some c => exact ite_of (P := fun p : Int × Tb => JW sc cl x y W .ins i j p.1) _ (hIc c rfl) h0

theorem pickD_jw {i j : Nat} (dLeft sLeft gox : Int) (tsLeft : Tb)
    (hDe : JW sc cl x y W .del i j (dLeft + sc.ge)) (hDo : JW sc cl x y W .del i j (sLeft + gox + sc.ge)) :
    JW sc cl x y W .del i j (pickD sc dLeft sLeft gox tsLeft).1 :=
  ite_of (P := fun p : Int × Tb => JW sc cl x y W .del i j p.1) _ hDe hDo

theorem pickS_ind {P : Int × Tb → Prop} (isM eq : Bool) (m_score base bi bd xclip yclip : Int)
    (hB : P (base, if isM then .xsuf else .start)) (hM : P (m_score, if eq then .mat else .subst)) (hI : P (bi, .ins))
    (hD : P (bd, .del)) (hX : P (xclip, .xpre)) (hY : P (yclip, .ypre)) :
    P (pickS isM eq m_score base bi bd xclip yclip) :=
  ite_of _ hY (ite_of _ hX (ite_of _ hD (ite_of _ hI (ite_of _ hM hB))))

/-! ### The repaired transitions of /repo 1d30e2c and the `Sn[0]` term of `xclip_score`

A suffix clip keeps the layer of the clipped alignment: if the alignment ends with a deletion (insertion), so does the
clipped one, and the gap may be continued for `gap_extend` alone. -/

/-- clip the rest of `x` after row `i < m`, keeping the D layer -/
theorem wit_xsuf_del {i j : Nat} {v : Int} (h : Wit sc cl x y .del i j v) (hi : i < x.length) :
    Wit sc cl x y .del x.length j (v + cl.xs) := by
  obtain ⟨xs, xe, ys, ye, ops, h⟩ := h.named
  exact (witAt_layer (L' := .del) (witAt_xsuf h hi) nofun fun _ => h.last_del).wit

/-- clip the rest of `y` after column `j ≤ n`, keeping the I layer -/
theorem wit_ysuf_ins (hys : cl.ys ≤ 0) {i j : Nat} {v : Int} (h : Wit sc cl x y .ins i j v) :
    Wit sc cl x y .ins i y.length (v + cl.ys) := by
  obtain ⟨xs, xe, ys, ye, ops, hA⟩ := h.named
  rcases Nat.lt_or_ge j y.length with hj | hj
  · exact (witAt_layer (L' := .ins) (witAt_ysuf hA hj) (fun _ => hA.last_ins) nofun).wit
  · obtain rfl : j = y.length := Nat.le_antisymm (witAt_bounds hA).2.2.2.2.2 hj
    exact wit_mono h (by omega)

/-- an alignment that consumes nothing of `x` (row 0) followed by "clip the prefix `x[0..i]`", `i ≥ 1`: the value lands in
row `i` and pays `xclip_prefix` -/
theorem wit_row0_xpre {i j : Nat} {v : Int} (h : Wit sc cl x y .none 0 j v) (hi0 : 1 ≤ i) (hi : i ≤ x.length) :
    Wit sc cl x y .none i j (v + cl.xp) := by
  obtain ⟨xs, xe, ys, ye, ops, h⟩ := h.named
  exact (witAt_xpre h hi0 hi).2.2.wit

theorem jw_xsuf_del (H : Hyp sc cl x y W) {i j : Nat} {v : Int} (h : JW sc cl x y W .del i j v)
    (hi : i < x.length) : JW sc cl x y W .del x.length j (v + cl.xs) :=
  jw_step H.W0 h (by omega) (by have := H.xs; omega) (wit_xsuf_del · hi)

theorem jw_ysuf_ins (H : Hyp sc cl x y W) {i j : Nat} {v : Int} (h : JW sc cl x y W .ins i j v)
    (hj : j ≤ y.length) : JW sc cl x y W .ins i y.length (v + cl.ys) :=
  jw_step H.W0 h (by omega) (by have := H.ys; omega) (wit_ysuf_ins H.ys)

theorem jw_row0_xpre (H : Hyp sc cl x y W) {i j : Nat} {v : Int} (h : JW sc cl x y W .none 0 j v)
    (hi0 : 1 ≤ i) (hi : i ≤ x.length) : JW sc cl x y W .none i j (v + cl.xp) :=
  jw_step H.W0 h (by omega) (by have := H.xp; omega) (wit_row0_xpre · hi0 hi)

theorem add_max_max (a b c d : Int) : a + max (max b c) d = max (a + max b d) (c + a) := by
  rw [Int.max_assoc, Int.max_comm c d, ← Int.max_assoc, ← Int.max_add_left, Int.add_comm a c]

/-- **Every cell of the main loop of the banded fill**, the repaired transitions included.  The deletion after
`S[prev][i+1]` either pays `gap_open` (`sLeft` junk-or-witnessed in any layer) or nothing (`gap_open_after_xclip` returned 0)
— then `sLeft` must be junk-or-witnessed **in layer D** (the tracked x-suffix clip follows a deletion: `jw_xsuf_del`).  The
`clip_score` candidate exists in the last column only and is `sn + goy + gap_extend` with `goy = gap_open` (`sn = Sn[i]`
junk-or-witnessed at `(i, n)`) or `goy = 0` and `sn` junk-or-witnessed **in layer I** (`jw_ysuf_ins`).  `xclip_score` is
`xclip_prefix + max(yp', gap_open + gap_extend·(j+1))` with `yp' = yclip_prefix`, or in the last column
`max(yclip_prefix, Sn[0])` with `Sn[0]` junk-or-witnessed at `(0, n)`. -/
theorem cellStep_sound (H : Hyp sc cl x y W) (i j : Nat) (hi : i + 1 ≤ x.length) (hj : j + 1 ≤ y.length)
    (isM : Bool) (sDiag iUp sUp dLeft sLeft base : Int) (tsUp tsLeft : Tb) (clipI : Option Int) (gox yp' : Int)
    (hSd : JW sc cl x y W .none i j sDiag)
    (hIu : JW sc cl x y W .ins i (j + 1) iUp) (hSu : JW sc cl x y W .none i (j + 1) sUp)
    (hDl : JW sc cl x y W .del (i + 1) j dLeft)
    (hSl : (gox = sc.go ∧ JW sc cl x y W .none (i + 1) j sLeft) ∨ (gox = 0 ∧ JW sc cl x y W .del (i + 1) j sLeft))
    (hB : JW sc cl x y W .none (i + 1) (j + 1) base)
    (hC : ∀ c, clipI = some c → j + 1 = y.length ∧ ∃ sn goy, c = sn + goy + sc.ge ∧
      ((goy = sc.go ∧ JW sc cl x y W .none i y.length sn) ∨ (goy = 0 ∧ JW sc cl x y W .ins i y.length sn)))
    (hY : yp' = cl.yp ∨ (j + 1 = y.length ∧ ∃ sn0, yp' = max cl.yp sn0 ∧ JW sc cl x y W .none 0 y.length sn0)) :
    let c := cellStep sc isM (x.getD i 0 = y.getD j 0) (sc.w (x.getD i 0) (y.getD j 0)) sDiag iUp sUp dLeft sLeft base
      tsUp tsLeft clipI gox (cl.xp + max yp' (sc.go + sc.ge * (((j + 1 : Nat) : Int))))
      (cl.yp + sc.go + sc.ge * (((i + 1 : Nat) : Int)))
    JW sc cl x y W .none (i + 1) (j + 1) c.s ∧ JW sc cl x y W .ins (i + 1) (j + 1) c.i ∧
      JW sc cl x y W .del (i + 1) (j + 1) c.d := by
  intro c
  have hI := pickI_jw iUp sUp tsUp clipI (jw_ins_ext H hIu (by omega)) (jw_ins_open H hSu (by omega)) fun c hc => by
    obtain ⟨hn, sn, goy, rfl, h⟩ := hC c hc
    rw [hn]
    rcases h with ⟨rfl, h⟩ | ⟨rfl, h⟩
    · exact jw_ins_open H h (by omega)
    · rw [Int.add_zero]; exact jw_ins_ext H h (by omega)
  have hD := pickD_jw dLeft sLeft gox tsLeft (jw_del_ext H hDl (by omega)) <| by
    rcases hSl with ⟨rfl, h⟩ | ⟨rfl, h⟩
    · exact jw_del_open H h (by omega)
    · rw [Int.add_zero]; exact jw_del_ext H h (by omega)
  refine ⟨pickS_ind (P := fun p => JW sc cl x y W .none (i + 1) (j + 1) p.1) isM _ _ base _ _ _ _ hB
    (jw_diag H hSd (by omega) (by omega)) (jw_none hI) (jw_none hD) ?_ (jw_yclip H i j hi hj), hI, hD⟩
  rcases hY with rfl | ⟨hn, sn0, rfl, h⟩
  · exact jw_xclip H i j hi hj
  · rw [add_max_max]
    refine jw_max (jw_xclip H i j hi hj) ?_
    rw [hn]
    exact jw_row0_xpre H h (by omega) hi

/-- **One interior cell of the banded fill**: `cellStep_sound` at `clipI = none`, `gox = gap_open`, `yp' = yclip_prefix` — every cell
with `j + 1 < n` and `i + 1 < m`, and the cells of row `m` / column `n` whenever the transitions of /repo 1d30e2c do not apply.  The
plain form of the cell lemma; `Thm/C02.lean` publishes `cellStep_sound` itself. -/
theorem cellStep_interior_sound (H : Hyp sc cl x y W) (i j : Nat) (hi : i + 1 ≤ x.length) (hj : j + 1 ≤ y.length)
    (isM : Bool) (sDiag iUp sUp dLeft sLeft base : Int) (tsUp tsLeft : Tb)
    (hSd : JW sc cl x y W .none i j sDiag)
    (hIu : JW sc cl x y W .ins i (j + 1) iUp) (hSu : JW sc cl x y W .none i (j + 1) sUp)
    (hDl : JW sc cl x y W .del (i + 1) j dLeft) (hSl : JW sc cl x y W .none (i + 1) j sLeft)
    (hB : JW sc cl x y W .none (i + 1) (j + 1) base) :
    let c := cellStep sc isM (x.getD i 0 = y.getD j 0) (sc.w (x.getD i 0) (y.getD j 0)) sDiag iUp sUp dLeft sLeft base
      tsUp tsLeft none sc.go (cl.xp + max cl.yp (sc.go + sc.ge * (((j + 1 : Nat) : Int))))
      (cl.yp + sc.go + sc.ge * (((i + 1 : Nat) : Int)))
    JW sc cl x y W .none (i + 1) (j + 1) c.s ∧ JW sc cl x y W .ins (i + 1) (j + 1) c.i ∧
      JW sc cl x y W .del (i + 1) (j + 1) c.d :=
  cellStep_sound H i j hi hj isM sDiag iUp sUp dLeft sLeft base tsUp tsLeft none sc.go cl.yp hSd hIu hSu hDl
    (.inl ⟨rfl, hSl⟩) hB (fun _ h => nomatch h) (.inl rfl)

/-! ### What the S field says about the layer

`gap_open_after_xclip` / `gap_open_after_yclip` look at the S field of the cell a tracker points to.  The S field of a
main-loop cell is `DEL` (`INS`) only when `best_d_score` (`best_i_score`) won, so the S value then *is* the D (I) value
and inherits its layer; the tracker updates `S[curr][m] = S[curr][i] + xclip_suffix`, `Sn[i] = S[curr][i] + yclip_suffix`
keep that layer (`jw_xsuf_del`, `jw_ysuf_ins`).  Together: the layer hypotheses of `cellStep_sound` for the repaired
transitions are exactly what the previous cells establish. -/

theorem pickS_field (isM eq : Bool) (m_score base bi bd xclip yclip : Int) :
    ((pickS isM eq m_score base bi bd xclip yclip).2 = .ins → (pickS isM eq m_score base bi bd xclip yclip).1 = bi) ∧
      ((pickS isM eq m_score base bi bd xclip yclip).2 = .del → (pickS isM eq m_score base bi bd xclip yclip).1 = bd) :=
  pickS_ind (P := fun p => (p.2 = .ins → p.1 = bi) ∧ (p.2 = .del → p.1 = bd)) isM eq m_score base bi bd xclip yclip
    ⟨by cases isM <;> nofun, by cases isM <;> nofun⟩ ⟨by cases eq <;> nofun, by cases eq <;> nofun⟩
    ⟨fun _ => rfl, nofun⟩ ⟨nofun, fun _ => rfl⟩ ⟨nofun, nofun⟩ ⟨nofun, nofun⟩

theorem cellStep_field (sc : Sc) (isM eq : Bool) (w sDiag iUp sUp dLeft sLeft base : Int) (tsUp tsLeft : Tb)
    (clipI : Option Int) (gox xclip yclip : Int) :
    let c := cellStep sc isM eq w sDiag iUp sUp dLeft sLeft base tsUp tsLeft clipI gox xclip yclip
    (c.ts = .ins → c.s = c.i) ∧ (c.ts = .del → c.s = c.d) :=
  pickS_field ..

end RbV.Model.BandedDP
