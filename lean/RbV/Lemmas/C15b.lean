import RbV.Lemmas.C15
/-! C15, continued from `RbV/Lemmas/C15.lean` (same real-number model): n-ary sum, cumulative sum, `ln(1 - exp p)`, subtraction,
checked construction. -/
namespace RbV.C15
open Real

/-- the finite entries of a list (Rust: entries `!= ln_zero`) -/
def finites (l : List LP) : List ℝ := l.filterMap id

theorem sum_lin_eq (l : List LP) : (l.map lin).sum = ((finites l).map exp).sum := by
  induction l with
  | nil => simp [finites]
  | cons a t ih =>
    cases a with
    | none => simpa [finites, lin] using ih
    | some x => simpa [finites, lin] using ih

/-- maximum of the non-empty list `x :: xs` -/
noncomputable def lmax (x : ℝ) (xs : List ℝ) : ℝ := xs.foldr max x

theorem le_lmax (x : ℝ) (xs : List ℝ) : ∀ y ∈ x :: xs, y ≤ lmax x xs := by
  induction xs with
  | nil => intro y hy; simp only [List.mem_singleton] at hy; simp [lmax, hy]
  | cons z zs ih =>
    intro y hy
    simp only [lmax, List.foldr_cons]
    rcases List.mem_cons.mp hy with rfl | hy
    · exact le_trans (ih _ (List.mem_cons_self ..)) (le_max_right _ _)
    · rcases List.mem_cons.mp hy with rfl | hy
      · exact le_max_left _ _
      · exact le_trans (ih _ (List.mem_cons_of_mem _ hy)) (le_max_right _ _)

theorem lmax_mem (x : ℝ) (xs : List ℝ) : lmax x xs ∈ x :: xs := by
  induction xs with
  | nil => simp [lmax]
  | cons z zs ih =>
    simp only [lmax, List.foldr_cons]
    rcases max_choice z (zs.foldr max x) with h | h
    · rw [h]; simp
    · rw [h]
      rcases List.mem_cons.mp ih with h' | h'
      · simp only [lmax] at h'; rw [h']; simp
      · exact List.mem_cons_of_mem _ (List.mem_cons_of_mem _ h')

/-- `LogProb::ln_sum_exp`: all entries `ln 0` (or none at all) → `ln 0`; otherwise
`pmax + ln_1p(Σ_{i ≠ imax, pᵢ ≠ ln 0} E(pᵢ - pmax))` where `imax` is the first position of the maximum
(`List.erase` removes the first occurrence). -/
noncomputable def lnSumExp (E : ℝ → ℝ) (l : List LP) : LP :=
  match finites l with
  | [] => none
  | x :: xs =>
    some (lmax x xs + log (1 + (((x :: xs).erase (lmax x xs)).map fun y => E (y - lmax x xs)).sum))

/-- the shifted summands of `ln_sum_exp`, scaled back by `e^M` -/
theorem tail_near {E δ} (h : ApproxExp E δ) (M : ℝ) (R : List ℝ) (hR : ∀ y ∈ R, y ≤ M) :
    Near δ ((R.map fun y => E (y - M)).sum * exp M) (R.map exp).sum := by
  rw [← List.sum_map_mul_right]
  refine Near.sum fun y hy => ?_
  have := Near.mul_right (h (y - M) (sub_nonpos.mpr (hR y hy))) (exp_pos M).le
  rwa [← exp_add, sub_add_cancel] at this

theorem lnSumExp_error {E δ} (h : ApproxExp E δ) (hδ : δ < 1) (l : List LP) :
    Near δ (lin (lnSumExp E l)) (l.map lin).sum := by
  rw [sum_lin_eq]
  unfold lnSumExp
  cases hf : finites l with
  | nil => simp [lin, Near]
  | cons x xs =>
    have hmem := lmax_mem x xs
    have hR : ∀ y ∈ (x :: xs).erase (lmax x xs), y ≤ lmax x xs :=
      fun y hy => le_lmax x xs y (List.mem_of_mem_erase hy)
    have h0 : 0 ≤ (((x :: xs).erase (lmax x xs)).map fun y => E (y - lmax x xs)).sum :=
      List.sum_nonneg fun a ha => by
        obtain ⟨y, hy, rfl⟩ := List.mem_map.mp ha
        exact (h.pos hδ (sub_nonpos.mpr (hR y hy))).le
    -- `e^M (1 + Σ E(y − M))` against `e^M + Σ e^y`, the sums over the entries other than the maximum `M`
    simp only [lin]
    rw [((List.perm_cons_erase hmem).map exp).sum_eq, List.map_cons, List.sum_cons, exp_add, exp_log (by linarith),
      mul_add, mul_one, mul_comm]
    exact (Near.refl h.delta_nonneg (exp_pos _).le).add (tail_near h _ _ hR)

theorem lnSumExp_exact (l : List LP) : lin (lnSumExp exp l) = (l.map lin).sum :=
  eq_of_abs_sub_le_zero_mul (lnSumExp_error approxExp_exp (by norm_num) l)

/-- `Iterator::scan` with `scan_ln_add_exp`, started in state `s` -/
noncomputable def lnCumsumFrom (E : ℝ → ℝ) : LP → List LP → List LP
  | _, [] => []
  | s, p :: ps => lnAddExp E s p :: lnCumsumFrom E (lnAddExp E s p) ps

noncomputable def lnCumsumExp (E : ℝ → ℝ) (l : List LP) : List LP := lnCumsumFrom E none l

/-- one step of a scan, on numbers: a state within `ε` of `T` and a sum within `δ·min + τ·max` of the exact one give a state
within `ε + 2τ` of `T + p` (the old state is at most `2T`, so the `τ`-part is at most `τ(2T + p)`) -/
theorem scan_step_error {δ τ ε s p r T : ℝ} (hδ0 : 0 ≤ δ) (hτ : 0 ≤ τ) (hδε : δ ≤ ε) (hε : ε ≤ 1) (hp : 0 ≤ p) (hT : 0 ≤ T)
    (hs : Near ε s T) (hr : |r - (s + p)| ≤ δ * min s p + τ * max s p) :
    Near (ε + 2 * τ) r (T + p) := by
  unfold Near at *
  have h2 : δ * min s p ≤ δ * p := mul_le_mul_of_nonneg_left (min_le_right _ _) hδ0
  have h5 : s ≤ 2 * T := by linarith [(abs_le.mp hs).2, mul_le_of_le_one_left hT hε]
  have h6 : τ * max s p ≤ τ * (2 * T + p) :=
    mul_le_mul_of_nonneg_left (max_le (by linarith) (by linarith)) hτ
  have h7 : δ * p ≤ ε * p := mul_le_mul_of_nonneg_right hδε hp
  have e : r - (T + p) = (r - (s + p)) + (s - T) := by ring
  rw [e]
  calc _ ≤ |r - (s + p)| + |s - T| := abs_add_le _ _
    _ ≤ (ε + 2 * τ) * (T + p) := by linarith [mul_nonneg hτ hp]

theorem lnCumsumFrom_error {E δ} (h : ApproxExp E δ) (hδ : δ < 1) (ps : List LP) :
    ∀ (s : LP) (T : ℝ), 0 ≤ T → Near δ (lin s) T → ∀ (k : ℕ) (r : LP), (lnCumsumFrom E s ps)[k]? = some r →
      Near δ (lin r) (T + ((ps.take (k + 1)).map lin).sum) := by
  have hδ0 := h.delta_nonneg
  induction ps with
  | nil => intro s T _ _ k r hr; simp [lnCumsumFrom] at hr
  | cons p ps ih =>
    intro s T hT hs k r hr
    have hp := lin_nonneg p
    have hstep : Near δ (lin (lnAddExp E s p)) (T + lin p) := by
      have := scan_step_error (τ := 0) hδ0 le_rfl le_rfl hδ.le hp hT hs
        (by rw [zero_mul, add_zero]; exact lnAddExp_error h hδ s p)
      rwa [mul_zero, add_zero] at this
    cases k with
    | zero =>
      simp only [lnCumsumFrom, List.getElem?_cons_zero, Option.some.injEq] at hr
      subst hr
      simpa using hstep
    | succ k =>
      simp only [lnCumsumFrom, List.getElem?_cons_succ] at hr
      have := ih (lnAddExp E s p) (T + lin p) (by linarith) hstep k r hr
      simpa [List.take_succ_cons, add_assoc] using this

theorem lnCumsumExp_error {E δ} (h : ApproxExp E δ) (hδ : δ < 1) (l : List LP) (k : ℕ) (r : LP)
    (hr : (lnCumsumExp E l)[k]? = some r) :
    Near δ (lin r) ((l.take (k + 1)).map lin).sum := by
  have := lnCumsumFrom_error h hδ l none 0 le_rfl (by simp [lin, Near]) k r hr
  simpa using this

theorem lnCumsumExp_exact (l : List LP) (k : ℕ) (r : LP) (hr : (lnCumsumExp exp l)[k]? = some r) :
    lin r = ((l.take (k + 1)).map lin).sum :=
  eq_of_abs_sub_le_zero_mul (lnCumsumExp_error approxExp_exp (by norm_num) l k r hr)

theorem neg_expm1_pos {x : ℝ} (h : x < 0) : 0 < -(exp x - 1) := neg_pos.mpr (sub_neg.mpr (exp_lt_one_iff.mpr h))

/-- `ln_1m_exp(p)` for finite `p ≤ 0`: `p < -0.693 → ln_1p(-E p)`, else `ln(-exp_m1 p)` (`= ln 0` at `p = 0`) -/
noncomputable def ln1mExp (E : ℝ → ℝ) (x : ℝ) : LP :=
  if x < -0.693 then some (log (1 + -(E x)))
  else if x = 0 then none
  else some (log (-(exp x - 1)))

/-- the branch `ln_1p(−G p)`, for any `G` within `δ` of `exp` at `x` and below 1 there -/
theorem ln1p_branch {δ : ℝ} (G : ℝ → ℝ) {x : ℝ} (hG : |G x - exp x| ≤ δ * exp x) (hlt : G x < 1) :
    |lin (some (log (1 + -G x))) - (1 - exp x)| ≤ δ * exp x := by
  simp only [lin]
  rwa [exp_log (by linarith), show 1 + -G x - (1 - exp x) = -(G x - exp x) by ring, abs_neg]

/-- the branch `ln(−exp_m1 p)` is exact -/
theorem expm1_branch {δ : ℝ} (hδ0 : 0 ≤ δ) {x : ℝ} (hx : x < 0) :
    |lin (some (log (-(exp x - 1)))) - (1 - exp x)| ≤ δ * exp x := by
  simp only [lin]
  rw [exp_log (neg_expm1_pos hx), show -(exp x - 1) - (1 - exp x) = 0 by ring, abs_zero]
  exact mul_nonneg hδ0 (exp_pos x).le

theorem ln1mExp_error {E δ} (h : ApproxExp E δ) (hδ : δ ≤ 1 / 2) {x : ℝ} (hx : x ≤ 0) :
    |lin (ln1mExp E x) - (1 - exp x)| ≤ δ * exp x := by
  have hδ0 := h.delta_nonneg
  unfold ln1mExp
  split
  · rename_i hlt
    exact ln1p_branch E (h x hx) (approx_lt_one h hδ (hlt.le.trans (by norm_num)))
  · split
    · rename_i _ h0
      subst h0
      simp only [lin, exp_zero, sub_self, abs_zero, mul_one]
      exact hδ0
    · rename_i _ hne
      exact expm1_branch hδ0 (lt_of_le_of_ne hx hne)

theorem ln1mExp_exact {x : ℝ} (hx : x ≤ 0) : lin (ln1mExp exp x) = 1 - exp x :=
  eq_of_abs_sub_le_zero_mul (ln1mExp_error approxExp_exp (by norm_num) hx)

/-- `LogProb::ln_one_minus_exp` (`ln 0 ↦ ln 1`: `fastexp(-inf) = 0`, `ln_1p(-0) = 0`) -/
noncomputable def lnOneMinusExp (E : ℝ → ℝ) : LP → LP
  | none => some 0
  | some x => ln1mExp E x

theorem lnOneMinusExp_error {E δ} (h : ApproxExp E δ) (hδ : δ ≤ 1 / 2) (a : LP) (ha : lin a ≤ 1) :
    |lin (lnOneMinusExp E a) - (1 - lin a)| ≤ δ * lin a := by
  cases a with
  | none => simp [lnOneMinusExp, lin]
  | some x =>
    have hx : x ≤ 0 := nonpos_of_lin_le_one ha
    exact ln1mExp_error h hδ hx

noncomputable def addLP (a : ℝ) : LP → LP
  | none => none
  | some y => some (a + y)

theorem lin_addLP (a : ℝ) (y : LP) : lin (addLP a y) = exp a * lin y := by
  cases y with
  | none => simp [addLP, lin]
  | some y => simp [addLP, lin, exp_add]

/-- `e^a · r` for `r` within `δ·e^{b−a}` of `1 − e^{b−a}` is within `δ·e^b` of `e^a − e^b` -/
theorem sub_scale_error {a b δ r : ℝ} (h : |r - (1 - exp (b - a))| ≤ δ * exp (b - a)) :
    |exp a * r - (exp a - exp b)| ≤ δ * exp b := by
  have := scaled_error a h
  rwa [add_sub_cancel, mul_sub, mul_sub, mul_one, ← exp_add, add_sub_cancel] at this

/-- `LogProb::ln_sub_exp` (`relative_eq!(p0, p1)` modelled as `p0 = p1`; the case `self = ln 0 < other` violates the
`assert!(p0 >= p1)` and is mapped to `ln 0`) -/
noncomputable def lnSubExp (E : ℝ → ℝ) : LP → LP → LP
  | a, none => a
  | none, some _ => none
  | some a, some b => if a = b then none else addLP a (ln1mExp E (b - a))

theorem lnSubExp_error {E δ} (h : ApproxExp E δ) (hδ : δ ≤ 1 / 2) (a b : LP) (hab : lin b ≤ lin a) :
    |lin (lnSubExp E a b) - (lin a - lin b)| ≤ δ * lin b := by
  have hδ0 := h.delta_nonneg
  cases b with
  | none => simp [lnSubExp, lin]
  | some b =>
    cases a with
    | none =>
      simp only [lin] at hab
      exact absurd hab (not_le.mpr (exp_pos b))
    | some a =>
      have hba : b ≤ a := exp_le_exp.mp hab
      simp only [lnSubExp]
      split
      · rename_i he
        subst he
        simp only [lin, sub_self, abs_zero]
        exact mul_nonneg hδ0 (exp_pos _).le
      · have hx : b - a ≤ 0 := sub_nonpos.mpr hba
        rw [lin_addLP]
        exact sub_scale_error (ln1mExp_error h hδ hx)

theorem lnSubExp_exact (a b : LP) (hab : lin b ≤ lin a) : lin (lnSubExp exp a b) = lin a - lin b :=
  eq_of_abs_sub_le_zero_mul (lnSubExp_error approxExp_exp (by norm_num) a b hab)

/-- `Prob::checked` -/
noncomputable def checked (p : ℝ) : Option ℝ := if 0 ≤ p ∧ p ≤ 1 then some p else none

/-- `10^(−(−10·log₁₀ p)/10) = p` over the reals -/
theorem exp_phred_of_prob (p : ℝ) (hp : 0 < p) : exp (-(-10 * (log p / log 10)) / 10 * log 10) = p := by
  have h10 : log 10 ≠ 0 := (log_pos (by norm_num)).ne'
  have : -(-10 * (log p / log 10)) / 10 * log 10 = log p := by field_simp
  rw [this, exp_log hp]

end RbV.C15

namespace RbV.Thm.GenSrcProbs
open RbV.C15

theorem mem_finites {l : List LP} {y : ℝ} : y ∈ finites l ↔ some y ∈ l := by
  simp [finites]

end RbV.Thm.GenSrcProbs
