import RbV.Lemmas.PoaChain
import RbV.Lemmas.PoaHistory
/-!
# On the graph built from one sequence the general DP of the model *is* the chain recurrence

In the chain `0 → 1 → … → n-1` every node's only predecessor is the node before it, so along `topo` (any order that visits
predecessors first: `dag_fold1`) `dpRows` computes exactly the rows of `chainRows`, and the node visited last is `n-1`
(`topo_chain_last`); with `chainScore_eq_nwBest`: the score the model's
`global` reports on a linear graph is the Needleman–Wunsch optimum.
-/
namespace RbV.Poa.Model
open RbV.NW

def chainEs (n : Nat) : WEdges := (List.range (n - 1)).map fun i => (i, i + 1, (1 : Int))

theorem chainG_es (x : List Nat) : (chainG x).es = chainEs x.length := rfl

theorem filter_range_succ_eq (m v : Nat) :
    (List.range m).filter (fun i => i + 1 == v) = if 0 < v ∧ v ≤ m then [v - 1] else [] := by
  induction m with
  | zero => simp; omega
  | succ m ih =>
    rw [List.range_succ, List.filter_append, ih]
    by_cases h1 : 0 < v ∧ v ≤ m
    · have : ¬ m + 1 = v := by omega
      have h2 : 0 < v ∧ v ≤ m + 1 := by omega
      simp [h1, this, h2]
    · by_cases h2 : v = m + 1
      · subst h2; simp
      · have : ¬ m + 1 = v := fun e => h2 e.symm
        have h3 : ¬ (0 < v ∧ v ≤ m + 1) := by omega
        simp [h1, this, h3]

theorem inN_chain (n v : Nat) : inN (chainEs n) v = if 0 < v ∧ v < n then [v - 1] else [] := by
  simp only [inN, chainEs, List.filter_map]
  have : (List.range (n - 1)).filter ((fun e : Nat × Nat × Int => e.2.1 == v) ∘ fun i => (i, i + 1, (1 : Int))) =
      (List.range (n - 1)).filter (fun i => i + 1 == v) := rfl
  rw [this, filter_range_succ_eq]
  by_cases h : 0 < v ∧ v < n
  · have h' : 0 < v ∧ v ≤ n - 1 := by omega
    simp [h, h']
  · have h' : ¬ (0 < v ∧ v ≤ n - 1) := by omega
    simp [h, h']

/-- in a chain the visiting order is forced; in particular the node visited last is the last node -/
theorem topo_chain_last (x : List Nat) (hx : x ≠ []) : (topo x.length (chainEs x.length)).getLastD 0 = x.length - 1 := by
  have hd := chainG_dag x hx
  obtain ⟨vis, h1, hnd, hmem, hcl⟩ := topo_spec x.length (chainEs x.length) hd.wf hd.acyclic
  have hn : 0 < x.length := List.length_pos_iff.mpr hx
  cases vis with
  | nil => exact absurd ((hmem 0).mpr hn) (by simp)
  | cons a r =>
    rw [h1, List.reverse_cons, List.getLastD_concat]
    have ha : a < x.length := (hmem a).mp List.mem_cons_self
    -- were `a + 1` a node, it would be older than `a`, and so would its predecessor `a`
    have hsucc : ¬ a + 1 < x.length := fun h => by
      have hr : a + 1 ∈ r := ((List.mem_cons.mp ((hmem (a + 1)).mpr h)).resolve_left (by omega))
      have := predClosed_mem (chainEs x.length) r hcl.2 (a + 1) hr a (by rw [inN_chain]; simp [h])
      exact (List.nodup_cons.mp hnd).1 this
    omega

/-- the row of node `k` of the chain built from `x` -/
def cRow (sc : Sc) (q : List Nat) (r0 : List Cell) (x : List Nat) : Nat → List Cell
  | 0 => nodeRow sc q r0 0 (x.getD 0 0) []
  | k + 1 => nodeRow sc q r0 (k + 1) (x.getD (k + 1) 0) [(k, cRow sc q r0 x k)]

theorem dpRows_chain (sc : Sc) (x q : List Nat) (hx : x ≠ []) :
    ((dpRows sc x (chainEs x.length) q).rows.getD (x.length - 1) []) = cRow sc q (row0 sc.gap q.length) x (x.length - 1) := by
  have hd : Dag { labels := x, es := chainEs x.length } := chainG_dag x hx
  obtain ⟨done, inv, hlast, _⟩ := dag_fold1 hd
    (fun (rows : Array (List Cell)) v => rows.setIfInBounds v (nodeRow sc q (row0 sc.gap q.length) v (x.getD v 0)
      ((inN (chainEs x.length) v).map fun p => (p, rows.getD p []))))
    (fun done rows => rows.size = x.length ∧ ∀ u ∈ done, rows.getD u [] = cRow sc q (row0 sc.gap q.length) x u)
    (fun done rows v hpred _ hv inv => by
      refine ⟨by simpa using inv.1, fun u hu => ?_⟩
      by_cases huv : u = v
      · subst huv
        rw [getD_setIfInBounds_self _ (inv.1 ▸ hv)]
        rw [inN_chain] at hpred ⊢
        cases u with
        | zero => simp [cRow]
        | succ u' =>
          have h1 : 0 < u' + 1 ∧ u' + 1 < x.length := ⟨Nat.succ_pos _, hv⟩
          simp only [h1, and_self, if_true, List.map_cons, List.map_nil, Nat.add_sub_cancel] at hpred ⊢
          rw [inv.2 u' (hpred u' (by simp))]
          rfl
      · rw [getD_setIfInBounds_ne _ huv]
        exact inv.2 u ((List.mem_cons.mp hu).resolve_left huv))
    (Array.replicate x.length []) ⟨by simp, by simp⟩
  rw [topo_chain_last x hx] at hlast
  exact inv.2 _ hlast

theorem chainRows_eq_cRow (sc : Sc) (q : List Nat) (r0 : List Cell) (x : List Nat) :
    ∀ (xs pre : List Nat), x = pre ++ xs → 0 < pre.length + xs.length →
      chainRows sc q r0 pre.length (if pre.length = 0 then none else some (cRow sc q r0 x (pre.length - 1))) xs =
        cRow sc q r0 x (x.length - 1) := by
  intro xs
  induction xs with
  | nil =>
    intro pre hx hpos
    simp only [List.append_nil] at hx
    subst hx
    have : ¬ x.length = 0 := by simp at hpos; omega
    simp [chainRows, this]
  | cons a rest ih =>
    intro pre hx _
    have ha : x.getD pre.length 0 = a := by
      rw [hx]; simp [List.getD_eq_getElem?_getD]
    have := ih (pre ++ [a]) (by rw [hx]; simp) (by simp; omega)
    simp only [List.length_append, List.length_cons, List.length_nil, Nat.add_sub_cancel, Nat.succ_ne_zero,
      if_false] at this
    cases pre with
    | nil =>
      simp only [List.length_nil, if_true, chainRows, Nat.zero_add] at this ha ⊢
      rw [← this, ← ha]
      rfl
    | cons b pre' =>
      simp only [List.length_cons, Nat.succ_ne_zero, if_false, chainRows, Nat.add_sub_cancel] at this ha ⊢
      rw [← this, ← ha]
      rfl

theorem cRow_length (sc : Sc) (q x : List Nat) : ∀ k, (cRow sc q (row0 sc.gap q.length) x k).length = q.length + 1 := by
  have h0 : (row0 sc.gap q.length).length = q.length + 1 := by simp [row0, length_row0From]
  intro k
  induction k with
  | zero =>
    exact nodeRow_length sc q (row0 sc.gap q.length) 0 (x.getD 0 0) [] (fun _ => []) h0 (by simp)
  | succ k ih =>
    have := nodeRow_length sc q (row0 sc.gap q.length) (k + 1) (x.getD (k + 1) 0) [k]
      (fun _ => cRow sc q (row0 sc.gap q.length) x k) h0 (by intro p _; exact ih)
    simpa [cRow] using this

/-- **the general DP of the model on a linear graph is the chain recurrence** -/
theorem globalAlign_chain (sc : Sc) (x q : List Nat) (hx : x ≠ []) :
    (globalAlign sc x (chainEs x.length) q).1 = chainScore sc x q := by
  have hn : 0 < x.length := by
    cases x with
    | nil => exact absurd rfl hx
    | cons a r => simp
  have hfold := dpRows_chain sc x q hx
  have hchain := chainRows_eq_cRow sc q (row0 sc.gap q.length) x x [] (by simp) (by simpa using hn)
  simp only [List.length_nil, if_true] at hchain
  have hlen := cRow_length sc q x (x.length - 1)
  have hl : (dpRows sc x (chainEs x.length) q).last = x.length - 1 := topo_chain_last x hx
  simp only [globalAlign, Table.cell, chainScore, hchain, hl]
  have hne : ¬ x.length - 1 + 1 = 0 := by omega
  simp only [hne, if_false, Nat.add_sub_cancel]
  rw [hfold]
  generalize cRow sc q (row0 sc.gap q.length) x (x.length - 1) = R at hlen
  rw [List.getLast?_eq_getElem?, hlen]
  simp [List.getD_eq_getElem?_getD, hlen]

end RbV.Poa.Model
