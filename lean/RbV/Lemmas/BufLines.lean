import RbV.Model.BufLines
/-!
# `read_line` over a `BufReader` with any capacity and any admissible read schedule = line splitting  (C11)

`readLines c sched (init file) = splitLines file` and the per-call statement `readLine_spec`.
-/
namespace RbV.BufLines
open RbV.Fastx

/-! ## `splitLines` through `firstLine` (no reader yet) -/

theorem splitLines_eq_firstLine (f : Bytes) (h : f ≠ []) :
    splitLines f = (firstLine f).1 :: splitLines (firstLine f).2 := by
  induction f with
  | nil => exact absurd rfl h
  | cons b r ih =>
    by_cases hb : b = 10
    · simp [splitLines, firstLine, hb]
    · cases r with
      | nil => simp [splitLines, firstLine, hb]
      | cons b' r' =>
        have := ih (by simp)
        simp only [splitLines, firstLine, hb, if_false] at this ⊢
        rw [this]

theorem firstLine_fst_eq_nil (f : Bytes) : (firstLine f).1 = [] ↔ f = [] := by
  cases f with
  | nil => simp [firstLine]
  | cons b r => by_cases hb : b = 10 <;> simp [firstLine, hb]

theorem firstLine_append (f : Bytes) : (firstLine f).1 ++ (firstLine f).2 = f := by
  induction f with
  | nil => rfl
  | cons b r ih => by_cases hb : b = 10 <;> simp [firstLine, hb, ih]

theorem firstLine_shape (f : Bytes) :
    (∃ pre, (firstLine f).1 = pre ++ [10] ∧ 10 ∉ pre) ∨ ((firstLine f).2 = [] ∧ 10 ∉ (firstLine f).1) := by
  induction f with
  | nil => right; simp [firstLine]
  | cons b r ih =>
    by_cases hb : b = 10
    · left; exact ⟨[], by simp [firstLine, hb]⟩
    · simp only [firstLine, hb, if_false]
      rcases ih with ⟨pre, h1, h2⟩ | ⟨h1, h2⟩
      · left
        refine ⟨b :: pre, by simp [h1], ?_⟩
        intro hm
        rcases List.mem_cons.mp hm with h | h
        · exact hb h.symm
        · exact h2 h
      · right
        refine ⟨h1, ?_⟩
        intro hm
        rcases List.mem_cons.mp hm with h | h
        · exact hb h.symm
        · exact h2 h

theorem firstLine_induction {P : Bytes → Prop} (nil : P []) (step : ∀ f, f ≠ [] → P (firstLine f).2 → P f) (f : Bytes) :
    P f := by
  induction hn : f.length using Nat.strongRecOn generalizing f with
  | _ n ih =>
    by_cases hne : f = []
    · exact hne ▸ nil
    · refine step f hne (ih _ ?_ _ rfl)
      have h1 := congrArg List.length (firstLine_append f)
      have h2 : 0 < (firstLine f).1.length := List.length_pos_iff.mpr fun e => hne ((firstLine_fst_eq_nil f).mp e)
      rw [List.length_append] at h1
      omega

theorem mem_of_mem_splitLines (f : Bytes) : ∀ l ∈ splitLines f, ∀ b ∈ l, b ∈ f := by
  induction f using firstLine_induction with
  | nil => intro l hl; cases hl
  | step f hne ih =>
    intro l hl b hb
    rw [splitLines_eq_firstLine f hne] at hl
    rw [← firstLine_append f]
    rcases List.mem_cons.mp hl with rfl | hl'
    · exact List.mem_append_left _ hb
    · exact List.mem_append_right _ (ih l hl' b hb)

/-! ## `read_until` / `read_line` on the `BufReader` model -/

theorem firstLine_memchr_some (l r : Bytes) (i : Nat) (h : memchr 10 l = some i) :
    firstLine (l ++ r) = (l.take (i + 1), l.drop (i + 1) ++ r) := by
  induction l generalizing i with
  | nil => simp [memchr] at h
  | cons b t ih =>
    by_cases hb : b = 10
    · simp only [memchr, hb, if_true, Option.some.injEq] at h
      subst h
      simp [firstLine, hb]
    · simp only [memchr, hb, if_false, Option.map_eq_some_iff] at h
      obtain ⟨j, hj, rfl⟩ := h
      simp [firstLine, hb, ih j hj]

theorem firstLine_append_of_no_lf (ch rest : Bytes) (h : ∀ x ∈ ch, x ≠ 10) :
    firstLine (ch ++ rest) = (ch ++ (firstLine rest).1, (firstLine rest).2) := by
  induction ch with
  | nil => rfl
  | cons b t ih =>
    rw [List.cons_append, firstLine, if_neg (h b (List.mem_cons_self ..)), ih fun x hx => h x (List.mem_cons_of_mem _ hx)]
    rfl

theorem memchr_none {d : Nat} {l : Bytes} (h : memchr d l = none) : ∀ x ∈ l, x ≠ d := by
  induction l with
  | nil => simp
  | cons b t ih =>
    by_cases hb : b = d
    · simp [memchr, hb] at h
    · simp only [memchr, hb, if_false, Option.map_eq_none_iff] at h
      simpa [hb] using ih h

/-- with a capacity ≥ 1 and an admissible schedule an empty `fill_buf` means end of input -/
theorem fillBuf_empty (c : Nat) (sched : Nat → Nat) (hc : 1 ≤ c) (hs : Admissible sched) (s : St)
    (h : (fillBuf c sched s).buf = []) : s.pending = [] := by
  unfold fillBuf at h
  split at h
  · rename_i hb
    have hb' : s.buf = [] := by simpa using hb
    have h0 : (s.src.take (min (sched s.k) c)).length = 0 := by
      simp only [] at h
      rw [h]; rfl
    have := hs s.k
    simp only [List.length_take] at h0
    have : s.src.length = 0 := by omega
    simp [St.pending, hb', List.length_eq_zero_iff.mp this]
  · rename_i hb
    simp [h] at hb

theorem readUntil_spec (c : Nat) (sched : Nat → Nat) (hc : 1 ≤ c) (hs : Admissible sched) (s : St) (out : Bytes) :
    (readUntil c sched s out).1 = out ++ (firstLine s.pending).1 ∧
    (readUntil c sched s out).2.pending = (firstLine s.pending).2 := by
  fun_induction readUntil c sched s out with
  | case1 s out s1 i hm =>
    have hp : s1.pending = s.pending := fillBuf_pending c sched s
    rw [← hp]
    have := firstLine_memchr_some s1.buf s1.src i hm
    simp only [St.pending] at this ⊢
    rw [this]
    simp [consume]
  | case2 s out s1 hm he =>
    have he' : s1.buf = [] := by simpa using he
    have := fillBuf_empty c sched hc hs s he'
    have hp : s1.pending = s.pending := fillBuf_pending c sched s
    rw [hp, this]
    simp [firstLine]
  | case3 s out s1 hm hne ih =>
    have hp : s1.pending = s.pending := fillBuf_pending c sched s
    rw [← hp]
    have := firstLine_append_of_no_lf s1.buf s1.src (memchr_none hm)
    simp only [St.pending] at this ih ⊢
    rw [this]
    simpa [consume] using ih

/-- **one `read_line` call**: whatever the capacity and the schedule, it hands out the first line of the bytes not
yet delivered and leaves the rest pending -/
theorem readLine_spec (c : Nat) (sched : Nat → Nat) (hc : 1 ≤ c) (hs : Admissible sched) (s : St) :
    (readLine c sched s).1 = (firstLine s.pending).1 ∧ (readLine c sched s).2.pending = (firstLine s.pending).2 := by
  simpa [readLine] using readUntil_spec c sched hc hs s []

/-- at end of input `read_line` hands out the empty string, for ever (only the `read` counter moves) -/
theorem readLine_eof (c : Nat) (sched : Nat → Nat) (s : St) (h : s.pending = []) :
    readLine c sched s = ([], { s with k := s.k + 1 }) := by
  have hb : s.buf = [] := by
    have := congrArg List.length h
    simp only [St.pending, List.length_append, List.length_nil] at this
    exact List.length_eq_zero_iff.mp (by omega)
  have hsrc : s.src = [] := by simpa [St.pending, hb] using h
  have hf : fillBuf c sched s = { s with k := s.k + 1 } := by
    cases s with
    | mk b sr k =>
      simp only at hb hsrc
      subst hb hsrc
      simp [fillBuf]
  unfold readLine readUntil
  simp only [hf, hb, memchr]
  simp

theorem readLines_eq (c : Nat) (sched : Nat → Nat) (hc : 1 ≤ c) (hs : Admissible sched) (s : St) :
    readLines c sched s = splitLines s.pending := by
  fun_induction readLines c sched s with
  | case1 s he =>
    have he' : (readLine c sched s).1 = [] := by simpa using he
    rw [(readLine_spec c sched hc hs s).1, firstLine_fst_eq_nil] at he'
    rw [he']; rfl
  | case2 s hne ih =>
    have hne' : (readLine c sched s).1 ≠ [] := by simpa using hne
    have hsp := readLine_spec c sched hc hs s
    rw [hsp.1] at hne'
    have hp : s.pending ≠ [] := fun h => hne' ((firstLine_fst_eq_nil _).mpr h)
    rw [ih, hsp.1, hsp.2, ← splitLines_eq_firstLine _ hp]

theorem readLinesSt_pending (c : Nat) (sched : Nat → Nat) (hc : 1 ≤ c) (hs : Admissible sched) (s : St) :
    (readLinesSt c sched s).pending = [] := by
  fun_induction readLinesSt c sched s with
  | case1 s he =>
    have he' : (readLine c sched s).1 = [] := by simpa using he
    have hsp := readLine_spec c sched hc hs s
    rw [hsp.1, firstLine_fst_eq_nil] at he'
    rw [hsp.2, he']; rfl
  | case2 s hne ih => exact ih

/-! ## schedules -/

theorem cyclic_admissible (l : List Nat) : Admissible (cyclic l) := fun k => by
  unfold cyclic; omega

theorem chainSched_admissible (sched : Nat → Nat) (hs : Admissible sched) : Admissible (chainSched sched) := fun k => by
  unfold chainSched; split
  · exact Nat.le_refl 1
  · exact hs k

end RbV.BufLines
