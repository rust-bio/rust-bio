import RbV.Lemmas.PoaTopo
/-!
# The mirror model of `add_alignment` only ever grows the graph

For every graph, every operation list (valid alignment or not, any mode) and every query:
labels of existing nodes are kept, every edge stays, no total edge weight decreases, and at most one node
is created per operation that consumes a query symbol.  (`Extends` is the predicate the driver checks on
the real dumps with `extendsB`.)  Last: along an operation list of matches that agree with the labels and deletions (`Quiet`), such as
the identity alignment `idOps` of the reference on its own chain, no node is created (`addAlignment_identity_labels`).  At the end `SeqOK`, the operation lists on which the translated `add_alignment`
returns.
-/
namespace RbV.Poa.Model

/-- 1 for the operations that consume a query symbol -/
def opCost : POp → Nat
  | .m _ => 1
  | .i _ => 1
  | _ => 0

/-- a composable form of "only grows" -/
structure Grows (g1 g2 : G) : Prop where
  labels : ∃ t, g2.labels = g1.labels ++ t
  edges : ∀ e ∈ plain g1.es, e ∈ plain g2.es
  weights : ∀ u v, weight g1.es u v ≤ weight g2.es u v

theorem Grows.refl (g : G) : Grows g g := ⟨⟨[], by simp⟩, fun _ h => h, fun _ _ => Int.le_refl _⟩

theorem Grows.trans {a b c : G} (h1 : Grows a b) (h2 : Grows b c) : Grows a c := by
  obtain ⟨t1, ht1⟩ := h1.labels
  obtain ⟨t2, ht2⟩ := h2.labels
  refine ⟨⟨t1 ++ t2, by rw [ht2, ht1, List.append_assoc]⟩, fun e h => h2.edges e (h1.edges e h), fun u v => ?_⟩
  exact Int.le_trans (h1.weights u v) (h2.weights u v)

theorem Grows.extends {a b : G} (h : Grows a b) : Extends a.labels a.es b.labels b.es := by
  obtain ⟨t, ht⟩ := h.labels
  exact ⟨by rw [ht]; simp, h.edges, fun e _ => h.weights e.1 e.2⟩

theorem grows_addNode (g : G) (c : Nat) : Grows g (g.addNode c).1 :=
  ⟨⟨[c], rfl⟩, fun _ h => h, fun _ _ => Int.le_refl _⟩

theorem grows_addEdge (g : G) (a b : Nat) : Grows g (g.addEdge a b) := by
  refine ⟨⟨[], by simp [G.addEdge]⟩, ?_, ?_⟩
  · intro e h; simp only [G.addEdge, plain, List.map_append, List.mem_append]; exact Or.inl h
  · intro u v
    simp only [G.addEdge, weight_append]
    split <;> omega

theorem grows_bump (g : G) (k : Nat) : Grows g { g with es := bumpEdge g.es k } :=
  ⟨⟨[], by simp⟩, fun e h => by simpa [plain_bumpEdge] using h, fun u v => weight_bumpEdge g.es k u v⟩

theorem addStep_grows (head : Nat) (seq : List Nat) (st : AddSt) (op : POp) :
    Grows st.g (addStep head seq st op).g ∧
    (addStep head seq st op).g.labels.length ≤ st.g.labels.length + opCost op := by
  obtain ⟨g, prev, i, nc⟩ := st
  cases op with
  | m pq =>
    cases pq with
    | none =>
      by_cases hm : (decide (seq.getD i 0 ≠ g.labels.getD head 0) && decide (seq.getD i 0 ≠ wildcard)) = true <;> cases nc <;>
        simp only [addStep, hm, if_true, if_false, Bool.false_eq_true]
      · exact ⟨grows_addNode _ _, by simp [G.addNode, opCost]⟩
      · exact ⟨(grows_addNode _ _).trans (grows_addEdge _ _ _), by simp [G.addNode, G.addEdge, opCost]⟩
      · exact ⟨Grows.refl _, by simp [opCost]⟩
      · exact ⟨grows_addEdge _ _ _, by simp [G.addEdge, opCost]⟩
    | some pq =>
      obtain ⟨_, p⟩ := pq
      by_cases hm : (decide (seq.getD i 0 ≠ g.labels.getD p 0) && decide (seq.getD i 0 ≠ wildcard)) = true
      · simp only [addStep, hm, if_true]
        exact ⟨(grows_addNode _ _).trans (grows_addEdge _ _ _), by simp [G.addNode, G.addEdge, opCost]⟩
      · simp only [addStep, hm, if_false, Bool.false_eq_true]
        cases findEdge g.es prev p with
        | some k => exact ⟨grows_bump _ _, by simp [opCost]⟩
        | none =>
          by_cases hpn : (decide (prev ≠ head) && decide (prev ≠ p)) = true
          · simp only [hpn, if_true]; exact ⟨grows_addEdge _ _ _, by simp [G.addEdge, opCost]⟩
          · simp only [hpn, if_false, Bool.false_eq_true]; exact ⟨Grows.refl _, by simp [opCost]⟩
  | i p =>
    cases p with
    | none =>
      cases nc <;> simp only [addStep, if_true, if_false, Bool.false_eq_true]
      · exact ⟨grows_addNode _ _, by simp [G.addNode, opCost]⟩
      · exact ⟨(grows_addNode _ _).trans (grows_addEdge _ _ _), by simp [G.addNode, G.addEdge, opCost]⟩
    | some p =>
      simp only [addStep]
      exact ⟨(grows_addNode _ _).trans (grows_addEdge _ _ _), by simp [G.addNode, G.addEdge, opCost]⟩
  | d pq => exact ⟨Grows.refl _, by simp [addStep, opCost]⟩
  | x r => exact ⟨Grows.refl _, by simp [addStep, opCost]⟩
  | y a b => exact ⟨Grows.refl _, by simp [addStep, opCost]⟩

/-- number of operations that consume a query symbol -/
def consuming (ops : List POp) : Nat := (ops.map opCost).sum

theorem foldl_addStep_grows (head : Nat) (seq : List Nat) : ∀ (ops : List POp) (st : AddSt),
    Grows st.g (ops.foldl (addStep head seq) st).g ∧
    (ops.foldl (addStep head seq) st).g.labels.length ≤ st.g.labels.length + consuming ops := by
  intro ops
  induction ops with
  | nil => intro st; exact ⟨Grows.refl _, by simp [consuming]⟩
  | cons o r ih =>
    intro st
    have h1 := addStep_grows head seq st o
    have h2 := ih (addStep head seq st o)
    simp only [List.foldl_cons]
    refine ⟨h1.1.trans h2.1, ?_⟩
    have hc : consuming (o :: r) = opCost o + consuming r := by simp [consuming]
    omega

/-- `addAlignment` as a fold of `addStep`: grows, by at most one node per consuming operation -/
theorem addAlignment_growth (g : G) (ops : List POp) (seq : List Nat) :
    Grows g (addAlignment g ops seq) ∧ (addAlignment g ops seq).labels.length ≤ g.labels.length + consuming ops :=
  foldl_addStep_grows g.head seq ops { g := g, prev := g.head }

theorem Grows.addAlignment (g : G) (ops : List POp) (seq : List Nat) : Grows g (addAlignment g ops seq) :=
  (addAlignment_growth g ops seq).1

theorem addAlignment_grows (g : G) (ops : List POp) (seq : List Nat) :
    Extends g.labels g.es (addAlignment g ops seq).labels (addAlignment g ops seq).es ∧
    (addAlignment g ops seq).labels.length ≤ g.labels.length + consuming ops :=
  ⟨(addAlignment_growth g ops seq).1.extends, (addAlignment_growth g ops seq).2⟩

/-! ## Re-adding the reference along the identity alignment creates no node -/

/-- every operation is a `Match` whose query symbol equals the label of the matched node, or a `Del` -/
def Quiet (labels : List Nat) (head : Nat) (seq : List Nat) : Nat → List POp → Prop
  | _, [] => True
  | i, .m none :: r => seq.getD i 0 = labels.getD head 0 ∧ Quiet labels head seq (i + 1) r
  | i, .m (some (_, p)) :: r => seq.getD i 0 = labels.getD p 0 ∧ Quiet labels head seq (i + 1) r
  | i, .d _ :: r => Quiet labels head seq i r
  | _, _ => False

theorem quiet_labels (head : Nat) (seq : List Nat) : ∀ (ops : List POp) (st : AddSt),
    Quiet st.g.labels head seq st.i ops → (ops.foldl (addStep head seq) st).g.labels = st.g.labels := by
  intro ops
  induction ops with
  | nil => intro st _; rfl
  | cons o r ih =>
    intro st hq
    simp only [List.foldl_cons]
    cases o with
    | m pq =>
      cases pq with
      | none =>
        simp only [Quiet] at hq
        have hstep : (addStep head seq st (.m none)).g.labels = st.g.labels ∧ (addStep head seq st (.m none)).i = st.i + 1 := by
          simp only [addStep, hq.1, ne_eq, not_true_eq_false, Bool.false_and, decide_false, Bool.false_eq_true, if_false]
          split <;> simp [G.addEdge]
        rw [ih _ (by rw [hstep.1, hstep.2]; exact hq.2), hstep.1]
      | some pq =>
        obtain ⟨a, p⟩ := pq
        simp only [Quiet] at hq
        have hstep : (addStep head seq st (.m (some (a, p)))).g.labels = st.g.labels ∧
            (addStep head seq st (.m (some (a, p)))).i = st.i + 1 := by
          simp only [addStep, hq.1, ne_eq, not_true_eq_false, Bool.false_and, decide_false, Bool.false_eq_true, if_false]
          split
          · simp
          · split <;> simp [G.addEdge]
        rw [ih _ (by rw [hstep.1, hstep.2]; exact hq.2), hstep.1]
    | d pq =>
      simp only [Quiet] at hq
      exact ih _ (by simpa [addStep] using hq)
    | i p => simp [Quiet] at hq
    | x r' => simp [Quiet] at hq
    | y a b => simp [Quiet] at hq

/-- `Match(k, k+1), Match(k+1, k+2), …`, `n` of them -/
def idTail : Nat → Nat → List POp
  | _, 0 => []
  | k, n + 1 => .m (some (k, k + 1)) :: idTail (k + 1) n

/-- the operation list of the identity alignment on a chain of `n` nodes: `Match(None), Match(0,1), Match(1,2), …` -/
def idOps (n : Nat) : List POp := .m none :: idTail 0 (n - 1)

theorem quiet_idTail (x : List Nat) (head : Nat) : ∀ (n k : Nat), Quiet x head x (k + 1) (idTail k n) := by
  intro n
  induction n with
  | zero => intro k; simp [idTail, Quiet]
  | succ n ih => intro k; simp only [idTail, Quiet, true_and]; exact ih (k + 1)

/-- re-adding the reference along the identity alignment (whatever the edge weights are by now) leaves the
node labels equal to the reference -/
theorem addAlignment_identity_labels (x : List Nat) (es : WEdges)
    (hhead : x.getD ((topo x.length es).headD 0) 0 = x.getD 0 0) :
    (addAlignment { labels := x, es := es } (idOps x.length) x).labels = x := by
  unfold addAlignment
  apply quiet_labels
  simp only [idOps, Quiet]
  exact ⟨hhead.symm, quiet_idTail x _ _ 0⟩

end RbV.Poa.Model

/-! ## operation lists that are valid for a query and a graph (what the translated `add_alignment` needs in order to return) -/

namespace RbV.Thm.GenSrcPoaAdd
open RbV.Poa

/-- the operation list is valid for a query of length `n` and a graph with `m` nodes, from consumption index `i`: every consumed
position exists, every named node exists (`Yclip(_, r)` continues at `r`) -/
def SeqOK (n m : Nat) : Nat → List POp → Prop
  | _, [] => True
  | i, .m none :: r => i < n ∧ SeqOK n m (i + 1) r
  | i, .m (some (_, p)) :: r => i < n ∧ p < m ∧ SeqOK n m (i + 1) r
  | i, .i _ :: r => i < n ∧ SeqOK n m (i + 1) r
  | i, .d _ :: r => SeqOK n m i r
  | i, .x _ :: r => SeqOK n m i r
  | _, .y _ c :: r => SeqOK n m c r

end RbV.Thm.GenSrcPoaAdd
