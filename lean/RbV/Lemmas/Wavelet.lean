import RbV.Model.Wavelet
import RbV.Lemmas.RankSelectModel
/-
C17 [C] — correctness of the mirror model of `WaveletMatrix::rank` (three bit-sliced levels).

The proof generalises over the number of levels: `rankLoop_correct` says that after processing the `todo` levels
built from an arrangement `cur`, the interval `[spos, epos)` of `cur` has shrunk to the number of its elements that
agree with `c` on the bits `< todo`.  One level step is the stable-partition fact `partition_slice`.
Core Lean only.
-/
namespace RbV.Lemmas.Wavelet
open RbV.Model.Wavelet RbV.Spec.RankSelect
open RbV.Lemmas.RankSelectModel (cnt)

theorem count_map_eq_countP {α : Type} (q : α → Bool) (b : Bool) (l : List α) :
    (l.map q).count b = l.countP (fun v => q v == b) := by
  rw [List.count_eq_countP, List.countP_map]; rfl

/-- stable partition: the `q`-elements of `l[a..b)` sit, in order, in the interval
`[countP q l[0..a), countP q l[0..b))` of `l.filter q` -/
theorem filter_slice {α : Type} (q : α → Bool) (l : List α) (a b : Nat) (hab : a ≤ b) :
    ((l.filter q).drop ((l.take a).countP q)).take ((l.take b).countP q - (l.take a).countP q)
      = ((l.drop a).take (b - a)).filter q := by
  have hb := List.take_eq_take_append_of_le l hab
  have hl : l.filter q = (l.take a).filter q ++ (((l.drop a).take (b - a)).filter q
      ++ ((l.drop a).drop (b - a)).filter q) := by
    rw [← List.filter_append, ← List.filter_append, List.take_append_drop, List.take_append_drop]
  rw [hb, List.countP_append, hl]
  simp only [List.countP_eq_length_filter]
  rw [List.drop_left, Nat.add_sub_cancel_left, List.take_left]

theorem countP_take_le_length_filter {α : Type} (q : α → Bool) (l : List α) (a : Nat) :
    (l.take a).countP q ≤ (l.filter q).length := by
  rw [← List.countP_eq_length_filter]; exact List.countP_take_le_countP q l a

/-- the stable partition `¬q`-elements ++ `q`-elements: the elements of `l[s..e)` with `q = b` sit, in order, at their
rank among such elements, behind all `¬q`-elements if `b` is true -/
theorem partition_slice {α : Type} (q : α → Bool) (l : List α) (b : Bool) (s e : Nat) (hse : s ≤ e) :
    ((l.filter (fun v => !q v) ++ l.filter q).drop
        ((l.take s).countP (fun v => q v == b) + if b then (l.filter (fun v => !q v)).length else 0)).take
      ((l.take e).countP (fun v => q v == b) - (l.take s).countP (fun v => q v == b))
    = ((l.drop s).take (e - s)).filter (fun v => q v == b) := by
  cases b
  · simp only [beq_false, Bool.false_eq_true, if_false, Nat.add_zero]
    have hs := countP_take_le_length_filter (fun v => !q v) l s
    rw [List.drop_append_of_le_length hs, List.take_append_of_le_length]
    · exact filter_slice _ l s e hse
    · have := countP_take_le_length_filter (fun v => !q v) l e
      rw [List.length_drop]; omega
  · simp only [beq_true, if_true]
    rw [Nat.add_comm, List.drop_length_add_append]
    exact filter_slice q l s e hse


/-- `prank` over `rankRef` is the prefix count -/
theorem prank_rankRef (bs : List Bool) (b : Bool) (x : Nat) (hx : x ≤ bs.length) :
    prank (fun b i => rankRef b bs i) x b = cnt b bs x := by
  unfold prank
  split
  · next h => subst h; simp [cnt]
  · next h =>
    have h1 : x - 1 < bs.length := by omega
    have h2 : x - 1 + 1 = x := by omega
    simp only [rankRef, h1, if_true, Option.getD_some, RbV.Spec.RankSelect.rank, h2, cnt]

/-- `prank` against the declarative rank of the level's bit vector `cur.map q` counts the entries of
`cur[0..x)` whose bit is `b` -/
theorem prank_eq (q : Nat → Bool) (cur : List Nat) (b : Bool) (x : Nat) (hx : x ≤ cur.length) :
    prank (fun b i => rankRef b (cur.map q) i) x b = (cur.take x).countP (fun v => q v == b) := by
  rw [prank_rankRef _ b x (by rw [List.length_map]; exact hx), cnt, ← List.map_take, count_map_eq_countP]

/-- on an existing level `rkSpec` is the declarative rank of that level's bit vector -/
theorem rkSpec_of_getElem? {lvs : List Level} {level : Nat} {lv : Level} (hl : lvs[level]? = some lv) :
    rkSpec lvs level = fun b i => rankRef b lv.bits i := by
  funext b i; simp only [rkSpec, hl]

/-- the model's `prank` against the declarative rank counts the `b`-bits among the first `x` positions -/
theorem model_prank (lvs : List Level) (level : Nat) (lv : Level) (hl : lvs[level]? = some lv) (b : Bool) (x : Nat)
    (hx : x ≤ lv.bits.length) :
    prank (rkSpec lvs level) x b = cnt b lv.bits x := by
  rw [rkSpec_of_getElem? hl]
  exact prank_rankRef lv.bits b x hx

theorem length_buildLevels (code : Nat → Nat) (todo : Nat) (cur : List Nat) :
    (buildLevels code todo cur).length = todo := by
  induction todo generalizing cur with
  | zero => rfl
  | succ t ih => simp [buildLevels, ih]

theorem filter_split_length {α : Type} (f : α → Bool) (l : List α) :
    (l.filter (fun v => !f v)).length + (l.filter (fun v => f v)).length = l.length := by
  induction l with
  | nil => rfl
  | cons x xs ih =>
    cases h : f x <;> simp [h] <;> omega

/-- every level built by the mirror model has `|cur|` bits and stores its number of zeros -/
theorem buildLevels_wf (code : Nat → Nat) : ∀ (todo : Nat) (cur : List Nat) (lv : Level),
    lv ∈ buildLevels code todo cur → lv.bits.length = cur.length ∧ lv.zeros = lv.bits.count false := by
  intro todo
  induction todo with
  | zero => intro cur lv h; simp [buildLevels] at h
  | succ t ih =>
    intro cur lv h
    simp only [buildLevels, List.mem_cons] at h
    rcases h with rfl | h
    · refine ⟨by simp, ?_⟩
      simp only
      rw [count_map_eq_countP, List.countP_eq_length_filter]
      congr 1
      apply List.filter_congr
      intro x _
      cases bitOf code t x <;> rfl
    · have := ih _ lv h
      refine ⟨?_, this.2⟩
      rw [this.1, List.length_append]
      exact filter_split_length (bitOf code t) cur

/-- `x` and `c` have the same code bits at positions `< t` -/
def agree (code : Nat → Nat) (c : Nat) : Nat → Nat → Bool
  | 0, _ => true
  | t + 1, x => (bitOf code t x == bitOf code t c) && agree code c t x

/-- one level of `rankLoop`, both interval ends treated alike -/
theorem rankLoop_cons (code : Nat → Nat) (rk : Nat → Bool → Nat → Option Nat) (c : Nat) (lv : Level) (rest : List Level)
    (level spos epos : Nat) :
    rankLoop code rk c (lv :: rest) level spos epos
      = rankLoop code rk c rest (level + 1)
          (prank (rk level) spos (bitOf code rest.length c) + if bitOf code rest.length c then lv.zeros else 0)
          (prank (rk level) epos (bitOf code rest.length c) + if bitOf code rest.length c then lv.zeros else 0) := by
  rw [rankLoop]
  cases bitOf code rest.length c <;> rfl

theorem rankLoop_correct (code : Nat → Nat) (c : Nat) (todo : Nat) :
    ∀ (cur : List Nat) (rk : Nat → Bool → Nat → Option Nat) (level spos epos : Nat),
      (∀ j b i, rk (level + j) b i = rkSpec (buildLevels code todo cur) j b i) →
      spos ≤ epos → epos ≤ cur.length →
      rankLoop code rk c (buildLevels code todo cur) level spos epos
        = (((cur.drop spos).take (epos - spos)).filter (agree code c todo)).length := by
  induction todo with
  | zero =>
    intro cur rk level spos epos _ hse hel
    have : agree code c 0 = fun _ => true := by funext x; rfl
    simp only [buildLevels, rankLoop, this]
    rw [List.filter_eq_self.2 (fun _ _ => rfl), List.length_take, List.length_drop]
    omega
  | succ t ih =>
    intro cur rk level spos epos hrk hse hel
    have hrk0 : rk level = fun b i => rankRef b (cur.map (bitOf code t)) i := by
      funext b i
      have := hrk 0 b i
      simpa [rkSpec, buildLevels] using this
    have hrk' : ∀ j b i, rk (level + 1 + j) b i
        = rkSpec (buildLevels code t
            (cur.filter (fun v => !bitOf code t v) ++ cur.filter (fun v => bitOf code t v))) j b i := by
      intro j b i
      have := hrk (1 + j) b i
      rw [← Nat.add_assoc] at this
      rw [this]
      simp [rkSpec, buildLevels, Nat.add_comm 1 j]
    have hsl : spos ≤ cur.length := Nat.le_trans hse hel
    simp only [buildLevels]
    have hag : agree code c (t + 1) = fun x => (bitOf code t x == bitOf code t c) && agree code c t x := rfl
    rw [rankLoop_cons, length_buildLevels, hrk0, prank_eq _ _ _ _ hsl, prank_eq _ _ _ _ hel, hag]
    generalize bitOf code t c = b
    have hm := List.countP_take_mono (fun v => bitOf code t v == b) cur hse
    have hl : (cur.take epos).countP (fun v => bitOf code t v == b)
        + (if b then (cur.filter (fun v => !bitOf code t v)).length else 0)
        ≤ (cur.filter (fun v => !bitOf code t v) ++ cur.filter (fun v => bitOf code t v)).length := by
      have h0 := countP_take_le_length_filter (fun v => !bitOf code t v) cur epos
      have h1 := countP_take_le_length_filter (fun v => bitOf code t v) cur epos
      rw [List.length_append]
      cases b <;> simp only [beq_false, beq_true, Bool.false_eq_true, if_false, if_true] <;> omega
    rw [ih _ rk (level + 1) _ _ hrk' (Nat.add_le_add_right hm _) hl, Nat.add_sub_add_right,
      partition_slice _ _ _ _ _ hse, List.filter_filter]
    simp only [Bool.and_comm]


theorem bits3_eq : ∀ a < 8, ∀ b < 8,
    ((((a >>> 2) &&& 1) == 1) == (((b >>> 2) &&& 1) == 1)
      && ((((a >>> 1) &&& 1) == 1) == (((b >>> 1) &&& 1) == 1)
      && ((((a >>> 0) &&& 1) == 1) == (((b >>> 0) &&& 1) == 1) && true))) = (a == b) := by
  decide

theorem agree3 (code : Nat → Nat) (c x : Nat) (hc : code c < 8) (hx : code x < 8) :
    agree code c 3 x = (code x == code c) := by
  simp only [agree, bitOf]
  exact bits3_eq (code x) hx (code c) hc

/-- main theorem: with codes below 8 (three levels), `rank c p` counts the symbols of `text[0..=p]` that have the
same code as `c` -/
theorem rank_correct (code : Nat → Nat) (text : List Nat) (c p : Nat)
    (hp : p < text.length) (hc : code c < 8) (ht : ∀ x ∈ text, code x < 8) :
    rank code (rkSpec (build code text)) (build code text) c p
      = ((text.take (p + 1)).filter (fun x => code x == code c)).length := by
  unfold RbV.Model.Wavelet.rank build
  rw [rankLoop_correct code c 3 text _ 0 0 (p + 1) (by intro j b i; rw [Nat.zero_add]) (by omega) (by omega)]
  simp only [List.drop_zero, Nat.sub_zero]
  congr 1
  apply List.filter_congr
  intro x hx
  exact agree3 code c x hc (ht x (List.mem_of_mem_take hx))

/-- corollary: when the code is injective on the symbols that occur, this is the number of occurrences of `c` -/
theorem rank_eq_occ (code : Nat → Nat) (text : List Nat) (c p : Nat)
    (hp : p < text.length) (hc : code c < 8) (ht : ∀ x ∈ text, code x < 8)
    (hinj : ∀ x ∈ text, code x = code c → x = c) :
    rank code (rkSpec (build code text)) (build code text) c p = occ text c p := by
  rw [rank_correct code text c p hp hc ht, occ, List.count_eq_countP, List.countP_eq_length_filter]
  congr 1
  apply List.filter_congr
  intro x hx
  have hxt := List.mem_of_mem_take hx
  show (code x == code c) = (x == c)
  by_cases h : x = c
  · subst h; simp
  · have h2 : ¬ code x = code c := fun e => h (hinj x hxt e)
    rw [beq_eq_false_iff_ne.2 h2, beq_eq_false_iff_ne.2 h]

end RbV.Lemmas.Wavelet
