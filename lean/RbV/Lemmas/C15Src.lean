import RbV.Lemmas.C15b
import RbV.Lemmas.C15Gen
import RbV.Basic.RsSemGenprob
/-!
# C15: the instance of the abstract `f64` at which the translated source text is read — proof side only

`XR = ℝ ∪ {−∞, +∞, NaN}`: **`f64` without rounding**.  Finite values are real numbers with exact arithmetic, the three
special values follow the IEEE-754 rules the code relies on (`x + −∞ = −∞`, `exp(−∞) = 0`, `ln 0 = −∞`, `ln` of a negative
number is NaN, every comparison with NaN is false).  `xrOps E` is the `Rs.F64Ops XR` in which `fastexp` is `E` on finite
arguments (`fastexp(−∞) = 0`: the text falls back to `exp` below `MIN_VAL`).

Left out (stated in docs/notes/C15.md): rounding, overflow to ±∞ of finite results, signed zeros (`1/−0`), subnormals
other than in `fromBits`; `f64::EPSILON` is read as `0` (the idealisation in which rounding is absent), so
`relative_eq!(a, b)` with the default tolerances is `a = b`; an explicit `max_relative = r` keeps its meaning
`|a − b| ≤ max(|a|, |b|) · r`.
-/
namespace RbV.C15
open RbV.Rs

inductive XR where
  | fin (x : ℝ)
  | ninf
  | pinf
  | nan

namespace XR
noncomputable section

def add : XR → XR → XR
  | fin x, fin y => fin (x + y)
  | fin _, ninf => ninf
  | fin _, pinf => pinf
  | ninf, fin _ => ninf
  | ninf, ninf => ninf
  | pinf, fin _ => pinf
  | pinf, pinf => pinf
  | _, _ => nan

def neg : XR → XR
  | fin x => fin (-x)
  | ninf => pinf
  | pinf => ninf
  | nan => nan

def sub (a b : XR) : XR := add a (neg b)

/-- `x · (±∞)` for a finite `x`; `pos`: the infinity is `+∞`; `0 · ∞` is NaN -/
def infTimes (x : ℝ) (pos : Bool) : XR :=
  if 0 < x then (if pos then pinf else ninf) else if x < 0 then (if pos then ninf else pinf) else nan

def mul : XR → XR → XR
  | fin x, fin y => fin (x * y)
  | fin x, pinf => infTimes x true
  | fin x, ninf => infTimes x false
  | pinf, fin y => infTimes y true
  | ninf, fin y => infTimes y false
  | pinf, pinf => pinf
  | ninf, ninf => pinf
  | pinf, ninf => ninf
  | ninf, pinf => ninf
  | _, _ => nan

def div : XR → XR → XR
  | fin x, fin y => if y = 0 then infTimes x true else fin (x / y)
  | fin _, pinf => fin 0
  | fin _, ninf => fin 0
  | pinf, fin y => if y = 0 then pinf else infTimes y true
  | ninf, fin y => if y = 0 then ninf else infTimes y false
  | _, _ => nan

def lt : XR → XR → Bool
  | fin x, fin y => decide (x < y)
  | ninf, fin _ => true
  | ninf, pinf => true
  | fin _, pinf => true
  | _, _ => false

def le : XR → XR → Bool
  | fin x, fin y => decide (x ≤ y)
  | ninf, fin _ => true
  | ninf, pinf => true
  | ninf, ninf => true
  | fin _, pinf => true
  | pinf, pinf => true
  | _, _ => false

def eq : XR → XR → Bool
  | fin x, fin y => decide (x = y)
  | ninf, ninf => true
  | pinf, pinf => true
  | _, _ => false

def isNan : XR → Bool
  | nan => true
  | _ => false

def exp : XR → XR
  | fin x => fin (Real.exp x)
  | ninf => fin 0
  | pinf => pinf
  | nan => nan

def ln : XR → XR
  | fin x => if 0 < x then fin (Real.log x) else if x = 0 then ninf else nan
  | pinf => pinf
  | _ => nan

def ln1p : XR → XR
  | fin y => if -1 < y then fin (Real.log (1 + y)) else if y = -1 then ninf else nan
  | pinf => pinf
  | _ => nan

def expm1 : XR → XR
  | fin x => fin (Real.exp x - 1)
  | ninf => fin (-1)
  | pinf => pinf
  | nan => nan

def log10 : XR → XR
  | fin x => if 0 < x then fin (Real.log x / Real.log 10) else if x = 0 then ninf else nan
  | pinf => pinf
  | _ => nan

/-- `a.powf(b)` for a finite positive base (all the code uses: `10.0f64.powf(..)`); other bases are not modelled (NaN) -/
def powf : XR → XR → XR
  | fin a, fin b => if 0 < a then fin (Real.exp (b * Real.log a)) else nan
  | fin a, ninf => if 1 < a then fin 0 else nan
  | fin a, pinf => if 1 < a then pinf else nan
  | _, _ => nan

def fastexp (E : ℝ → ℝ) : XR → XR
  | fin x => fin (E x)
  | ninf => fin 0
  | _ => nan

/-- `relative_eq!` of the `approx` crate: equal, or both finite and `|a − b| ≤ ε` or `|a − b| ≤ max(|a|, |b|) · r` -/
def relEq : XR → XR → XR → XR → Bool
  | fin x, fin y, fin e, fin r => decide (x = y ∨ |x - y| ≤ e ∨ |x - y| ≤ max |x| |y| * r)
  | a, b, _, _ => eq a b

/-- `x as i64`: truncation towards zero, saturating; NaN ↦ 0 -/
def truncI64 : XR → Int
  | fin x => max (-(2 ^ 63 : Int)) (min (2 ^ 63 - 1) (if 0 ≤ x then ⌊x⌋ else ⌈x⌉))
  | ninf => -(2 ^ 63 : Int)
  | pinf => 2 ^ 63 - 1
  | nan => 0

/-- IEEE-754 binary64 decoding of a bit pattern -/
def fromBits (n : Nat) : XR :=
  let s : ℝ := if n / 2 ^ 63 % 2 = 1 then -1 else 1
  let e : Nat := n / 2 ^ 52 % 2 ^ 11
  let m : Nat := n % 2 ^ 52
  if e = 2047 then (if m = 0 then (if n / 2 ^ 63 % 2 = 1 then ninf else pinf) else nan)
  else if e = 0 then fin (s * (m : ℝ) * (2 : ℝ) ^ (-1074 : ℤ))
  else fin (s * (1 + (m : ℝ) / 2 ^ 52) * (2 : ℝ) ^ ((e : ℤ) - 1023))

end
end XR

/-- `f64` without rounding, with `fastexp = E` on finite arguments -/
noncomputable def xrOps (E : ℝ → ℝ) : F64Ops XR :=
  { add := XR.add, sub := XR.sub, mul := XR.mul, div := XR.div, neg := XR.neg, lt := XR.lt, le := XR.le, eq := XR.eq,
    ofDec := fun d => XR.fin (decR d), ofNat := fun n => XR.fin n, ofInt := fun k => XR.fin k, truncI64 := XR.truncI64,
    fromBits := XR.fromBits, inf := XR.pinf, negInf := XR.ninf, epsilon := XR.fin 0, ln2 := XR.fin (Real.log 2),
    isNan := XR.isNan, exp := XR.exp, ln := XR.ln, ln1p := XR.ln1p, expm1 := XR.expm1, log10 := XR.log10, powf := XR.powf,
    fastexp := XR.fastexp E, relEq := XR.relEq }

/-- a log-space probability of the model (`none` = `ln 0`) as a value of the abstract `f64` -/
def emb : LP → XR
  | none => XR.ninf
  | some x => XR.fin x

theorem emb_inj {a b : LP} (h : emb a = emb b) : a = b := by
  cases a <;> cases b <;> simp_all [emb]

section simp_lemmas
variable (E : ℝ → ℝ)
open XR

@[simp] theorem ops_add : (xrOps E).add = XR.add := rfl
@[simp] theorem ops_sub : (xrOps E).sub = XR.sub := rfl
@[simp] theorem ops_mul : (xrOps E).mul = XR.mul := rfl
@[simp] theorem ops_div : (xrOps E).div = XR.div := rfl
@[simp] theorem ops_neg : (xrOps E).neg = XR.neg := rfl
@[simp] theorem ops_lt : (xrOps E).lt = XR.lt := rfl
@[simp] theorem ops_le : (xrOps E).le = XR.le := rfl
@[simp] theorem ops_eq : (xrOps E).eq = XR.eq := rfl
@[simp] theorem ops_ofDec (d : Dec) : (xrOps E).ofDec d = fin (decR d) := rfl
@[simp] theorem ops_ofNat (n : Nat) : (xrOps E).ofNat n = fin n := rfl
@[simp] theorem ops_ofInt (k : Int) : (xrOps E).ofInt k = fin k := rfl
@[simp] theorem ops_truncI64 : (xrOps E).truncI64 = XR.truncI64 := rfl
@[simp] theorem ops_fromBits : (xrOps E).fromBits = XR.fromBits := rfl
@[simp] theorem ops_inf : (xrOps E).inf = pinf := rfl
@[simp] theorem ops_negInf : (xrOps E).negInf = ninf := rfl
@[simp] theorem ops_epsilon : (xrOps E).epsilon = fin 0 := rfl
@[simp] theorem ops_ln2 : (xrOps E).ln2 = fin (Real.log 2) := rfl
@[simp] theorem ops_isNan : (xrOps E).isNan = XR.isNan := rfl
@[simp] theorem ops_exp : (xrOps E).exp = XR.exp := rfl
@[simp] theorem ops_ln : (xrOps E).ln = XR.ln := rfl
@[simp] theorem ops_ln1p : (xrOps E).ln1p = XR.ln1p := rfl
@[simp] theorem ops_expm1 : (xrOps E).expm1 = XR.expm1 := rfl
@[simp] theorem ops_log10 : (xrOps E).log10 = XR.log10 := rfl
@[simp] theorem ops_powf : (xrOps E).powf = XR.powf := rfl
@[simp] theorem ops_fastexp : (xrOps E).fastexp = XR.fastexp E := rfl
@[simp] theorem ops_relEq : (xrOps E).relEq = XR.relEq := rfl

@[simp] theorem add_fin (x y : ℝ) : XR.add (fin x) (fin y) = fin (x + y) := rfl
@[simp] theorem add_fin_ninf (x : ℝ) : XR.add (fin x) ninf = ninf := rfl
@[simp] theorem add_ninf_fin (x : ℝ) : XR.add ninf (fin x) = ninf := rfl
@[simp] theorem neg_fin (x : ℝ) : XR.neg (fin x) = fin (-x) := rfl
@[simp] theorem sub_fin (x y : ℝ) : XR.sub (fin x) (fin y) = fin (x - y) := by simp [XR.sub, sub_eq_add_neg]
@[simp] theorem sub_ninf_fin (x : ℝ) : XR.sub ninf (fin x) = ninf := rfl
@[simp] theorem mul_fin (x y : ℝ) : XR.mul (fin x) (fin y) = fin (x * y) := rfl
@[simp] theorem lt_fin (x y : ℝ) : XR.lt (fin x) (fin y) = decide (x < y) := rfl
@[simp] theorem lt_ninf_fin (x : ℝ) : XR.lt ninf (fin x) = true := rfl
@[simp] theorem lt_fin_ninf (x : ℝ) : XR.lt (fin x) ninf = false := rfl
@[simp] theorem lt_ninf_ninf : XR.lt ninf ninf = false := rfl
@[simp] theorem le_fin (x y : ℝ) : XR.le (fin x) (fin y) = decide (x ≤ y) := rfl
@[simp] theorem le_ninf_fin (x : ℝ) : XR.le ninf (fin x) = true := rfl
@[simp] theorem le_fin_ninf (x : ℝ) : XR.le (fin x) ninf = false := rfl
@[simp] theorem le_ninf_ninf : XR.le ninf ninf = true := rfl
@[simp] theorem eq_fin (x y : ℝ) : XR.eq (fin x) (fin y) = decide (x = y) := rfl
@[simp] theorem eq_fin_ninf (x : ℝ) : XR.eq (fin x) ninf = false := rfl
@[simp] theorem eq_ninf_fin (x : ℝ) : XR.eq ninf (fin x) = false := rfl
@[simp] theorem eq_ninf_ninf : XR.eq ninf ninf = true := rfl
@[simp] theorem eq_fin_pinf (x : ℝ) : XR.eq (fin x) pinf = false := rfl
@[simp] theorem eq_ninf_pinf : XR.eq ninf pinf = false := rfl
@[simp] theorem exp_fin (x : ℝ) : XR.exp (fin x) = fin (Real.exp x) := rfl
@[simp] theorem expm1_fin (x : ℝ) : XR.expm1 (fin x) = fin (Real.exp x - 1) := rfl
@[simp] theorem exp_ninf : XR.exp XR.ninf = XR.fin 0 := rfl
@[simp] theorem expm1_ninf : XR.expm1 XR.ninf = XR.fin (-1) := rfl
@[simp] theorem fastexp_fin (x : ℝ) : XR.fastexp E (fin x) = fin (E x) := rfl
@[simp] theorem fastexp_ninf : XR.fastexp E ninf = fin 0 := rfl
theorem ln_fin_pos {x : ℝ} (h : 0 < x) : XR.ln (fin x) = fin (Real.log x) := by simp [XR.ln, h]
@[simp] theorem ln_fin_zero : XR.ln (fin 0) = ninf := by simp [XR.ln]
theorem ln1p_fin {y : ℝ} (h : -1 < y) : XR.ln1p (fin y) = fin (Real.log (1 + y)) := by simp [XR.ln1p, h]
@[simp] theorem ln1p_zero : XR.ln1p (fin 0) = fin 0 := by simp [XR.ln1p]
theorem log10_fin_pos {x : ℝ} (h : 0 < x) : XR.log10 (fin x) = fin (Real.log x / Real.log 10) := by simp [XR.log10, h]
@[simp] theorem isNan_fin (x : ℝ) : XR.isNan (fin x) = false := rfl
@[simp] theorem isNan_nan : XR.isNan nan = true := rfl
@[simp] theorem emb_none : emb none = ninf := rfl
@[simp] theorem emb_some (x : ℝ) : emb (some x) = fin x := rfl

/-- with `f64::EPSILON` read as 0, `relative_eq!(a, b)` is equality -/
@[simp] theorem relEq_zero (x y : ℝ) : XR.relEq (fin x) (fin y) (fin 0) (fin 0) = decide (x = y) := by
  simp only [XR.relEq, mul_zero, abs_nonpos_iff, sub_eq_zero, or_self]

theorem relEq_fin (x y e r : ℝ) :
    XR.relEq (fin x) (fin y) (fin e) (fin r) = decide (x = y ∨ |x - y| ≤ e ∨ |x - y| ≤ max |x| |y| * r) := rfl

end simp_lemmas

/-- `iter.sum::<f64>()` of finite values is the finite sum -/
theorem fsum_fin (E : ℝ → ℝ) (l : List ℝ) : Rs.fsum (xrOps E) (l.map XR.fin) = XR.fin l.sum := by
  unfold Rs.fsum
  have h : ∀ (acc : ℝ), List.foldl XR.add (XR.fin acc) (l.map XR.fin) = XR.fin (acc + l.sum) := by
    induction l with
    | nil => intro acc; simp
    | cons a t ih => intro acc; simp [ih, add_assoc]
  have := h 0
  simp only [ops_add, ops_ofDec]
  rw [decR_int, Int.cast_zero, this, zero_add]

/-! ### `enumerate()` with a start index (`Rs.enumIdxFrom`, `RbV/Basic/RsSemGenprob.lean`) -/

theorem enumIdxFrom_map {α β : Type} (f : α → β) : ∀ (k : Nat) (l : List α),
    Rs.enumIdxFrom k (l.map f) = (Rs.enumIdxFrom k l).map (fun it => (it.1, f it.2))
  | _, [] => rfl
  | k, a :: l => by simp [Rs.enumIdxFrom, enumIdxFrom_map f (k + 1) l]

theorem mem_enumIdxFrom {α : Type} : ∀ (k : Nat) (l : List α) (it : Nat × α), it ∈ Rs.enumIdxFrom k l →
    k ≤ it.1 ∧ it.1 < k + l.length
  | _, [], _, h => by simp [Rs.enumIdxFrom] at h
  | k, a :: l, it, h => by
    simp only [Rs.enumIdxFrom, List.mem_cons] at h
    rcases h with rfl | h
    · simp
    · have := mem_enumIdxFrom (k + 1) l it h
      simp only [List.length_cons]; omega

end RbV.C15

namespace RbV.Thm.GenSrcProbs
open RbV RbV.C15 Real

theorem lt_emb (a b : LP) : XR.lt (emb a) (emb b) = decide (lin a < lin b) := by
  cases a <;> cases b <;> simp [lin, exp_pos, (exp_pos _).le, not_lt.mpr]

theorem lin_le_none {y : LP} (h : lin y ≤ lin none) : y = none := by
  cases y with
  | none => rfl
  | some v => simp only [lin] at h; exact absurd h (not_le.mpr (exp_pos v))

theorem enumIdxFrom_append {α : Type} : ∀ (k : Nat) (l1 l2 : List α),
    Rs.enumIdxFrom k (l1 ++ l2) = Rs.enumIdxFrom k l1 ++ Rs.enumIdxFrom (k + l1.length) l2
  | _, [], _ => rfl
  | k, a :: l1, l2 => by
    simp only [List.cons_append, Rs.enumIdxFrom, enumIdxFrom_append (k + 1) l1 l2, List.length_cons]
    rw [show k + 1 + l1.length = k + (l1.length + 1) by omega]

end RbV.Thm.GenSrcProbs
