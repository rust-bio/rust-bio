import RbV.Lemmas.PoaCells
/-!
# The table of the clip-free model is local

Every cell of a row of node `v` carries one of
`Del(None)` (column 0 only), `Match(None)`, `Ins(Some v)`, `Match(Some((p, v)))`, `Del(Some((p, v+1)))` with
`p` a predecessor of `v` (`TableOK`, proved for `dpRows` below, for every graph, query and scoring); row 0
carries `Ins(None)` / `Match(None)`.  Hence a step of the traceback stays in the row, moves to the row of a
predecessor, drops to row 0 for good, or (column 0) walks down the first column; that the emitted list then names
nodes in increasing rank is proved once for all tables in `PoaTraceAll.lean` (`traceF_bodyB`).  Second half: a row of
the clip-free model column by column (`nodeCands_spec`, `nodeRow_length`, `nodeRow_low`), for the files that compare it with
the rows of `global_banded` and `custom`.
-/
namespace RbV.Poa.Model
open RbV.NW

/-- what the operation stored in cell `(v+1, j)` may be -/
def RowOp (es : WEdges) (v j : Nat) (op : POp) : Prop :=
  op = .m none ∨ (j = 0 ∧ op = .d none) ∨
  (0 < j ∧ (op = .i (some v) ∨ ∃ p ∈ inN es v, op = .m (some (p, v)) ∨ op = .d (some (p, v + 1))))

/-- all stored operations are local: row 0 has `Match(None)`/`Ins(None)`, the row of `v` has `RowOp` -/
structure TableOK (es : WEdges) (t : Table) : Prop where
  r0 : ∀ j, (t.r0.getD j ⟨0, .m none⟩).op = .m none ∨ (t.r0.getD j ⟨0, .m none⟩).op = .i none
  rows : ∀ v j, RowOp es v j (((t.rows.getD v []).getD j ⟨0, .m none⟩).op)

theorem Table.cell_zero (t : Table) (j : Nat) : t.cell 0 j = t.r0.getD j ⟨0, .m none⟩ := rfl

theorem Table.cell_succ (t : Table) (v j : Nat) : t.cell (v + 1) j = (t.rows.getD v []).getD j ⟨0, .m none⟩ := by
  simp only [Table.cell, Nat.add_one_ne_zero, if_false, Nat.add_sub_cancel]

/-! ## The table of `dpRows` is local (`TableOK`) — for every graph, query and scoring -/

theorem row0From_op (gap : Int) : ∀ (n k : Nat), ∀ c ∈ row0From gap k n, c.op = .i none := by
  intro n
  induction n with
  | zero => intro k c h; simp [row0From] at h
  | succ n ih =>
    intro k c h
    simp only [row0From, List.mem_cons] at h
    rcases h with rfl | h
    · rfl
    · exact ih _ c h

theorem firstCands_op (sc : Sc) (r : Nat) (r0 : List Cell) (q : List Nat) : ∀ c ∈ firstCands sc r r0 q, c.op = .m none := by
  intro c h
  rw [firstCands_eq] at h
  obtain ⟨_, _, _, _, rfl⟩ := mem_zipWith _ _ _ c h
  rfl

theorem predCands_op (sc : Sc) (r : Nat) (mOp dOp : POp) (ups : List Cell) (diag : Cell) (q : List Nat) :
    ∀ c ∈ predCands sc r mOp dOp diag ups q, c.op = mOp ∨ c.op = dOp := by
  intro c h
  rw [predCands_eq] at h
  obtain ⟨_, _, _, _, rfl⟩ := mem_zipWith _ _ _ c h
  exact cmax_op _ _

theorem zipMax_op (as bs : List Cell) : ∀ c ∈ zipMax as bs, (∃ a ∈ as, c.op = a.op) ∨ ∃ b ∈ bs, c.op = b.op := by
  intro c h
  rw [zipMax_eq] at h
  obtain ⟨a, ha, b, hb, rfl⟩ := mem_zipWith _ _ _ c h
  exact (cmax_op a b).imp (fun e => ⟨a, ha, e⟩) (fun e => ⟨b, hb, e⟩)

theorem insScan_op (gap : Int) (iOp : POp) : ∀ (cs : List Cell) (left : Cell),
    ∀ c ∈ insScan gap iOp left cs, c.op = iOp ∨ ∃ x ∈ cs, c.op = x.op := by
  intro cs
  induction cs with
  | nil => intro left c h; simp [insScan] at h
  | cons x cs ih =>
    intro left c h
    simp only [insScan, List.mem_cons] at h
    rcases h with rfl | h
    · rcases cmax_op x ⟨left.score + gap, iOp⟩ with h1 | h1
      · exact Or.inr ⟨x, by simp, h1⟩
      · exact Or.inl h1
    · rcases ih _ c h with h1 | ⟨y, hy, h1⟩
      · exact Or.inl h1
      · exact Or.inr ⟨y, by simp [hy], h1⟩

/-- the candidate built from one predecessor -/
def oneCand (sc : Sc) (query : List Nat) (v r p : Nat) (pr : List Cell) : List Cell :=
  match pr with
  | [] => []
  | d :: ups => predCands sc r (.m (some (p, v))) (.d (some (p, v + 1))) d ups query

theorem oneCand_op (sc : Sc) (query : List Nat) (v r p : Nat) (pr : List Cell) :
    ∀ c ∈ oneCand sc query v r p pr, c.op = .m (some (p, v)) ∨ c.op = .d (some (p, v + 1)) := by
  intro c h
  cases pr with
  | nil => simp [oneCand] at h
  | cons d ups => exact predCands_op sc r _ _ ups d query c h

theorem foldl_zipMax_op (one : Nat × List Cell → List Cell) (Q : POp → Prop) :
    ∀ (rest : List (Nat × List Cell)) (init : List Cell), (∀ c ∈ init, Q c.op) → (∀ pp ∈ rest, ∀ c ∈ one pp, Q c.op) →
      ∀ c ∈ rest.foldl (fun acc pp => zipMax acc (one pp)) init, Q c.op := by
  intro rest
  induction rest with
  | nil => intro init h _ c hc; exact h c hc
  | cons pp rest ih =>
    intro init h1 h2 c hc
    simp only [List.foldl_cons] at hc
    refine ih _ ?_ (fun q hq => h2 q (List.mem_cons_of_mem _ hq)) c hc
    intro x hx
    rcases zipMax_op _ _ x hx with ⟨a, ha, e⟩ | ⟨b, hb, e⟩
    · rw [e]; exact h1 a ha
    · rw [e]; exact h2 pp (by simp) b hb

/-- the candidates (before the insertion scan) of the row of `v` -/
def nodeCands (sc : Sc) (query : List Nat) (r0 : List Cell) (v r : Nat) (preds : List (Nat × List Cell)) : List Cell :=
  match preds with
  | [] => firstCands sc r r0 query
  | pp :: rest => rest.foldl (fun acc (pp : Nat × List Cell) => zipMax acc (oneCand sc query v r pp.1 pp.2))
      (oneCand sc query v r pp.1 pp.2)

theorem nodeRow_eq (sc : Sc) (query : List Nat) (r0 : List Cell) (v r : Nat) (preds : List (Nat × List Cell)) :
    nodeRow sc query r0 v r preds = col0 sc.gap v :: insScan sc.gap (.i (some v)) (col0 sc.gap v)
      (nodeCands sc query r0 v r preds) := by
  cases preds with
  | nil => rfl
  | cons pp rest => rfl

theorem nodeCands_op (sc : Sc) (query : List Nat) (r0 : List Cell) (es : WEdges) (v r : Nat)
    (preds : List (Nat × List Cell)) (hp : ∀ pp ∈ preds, pp.1 ∈ inN es v) :
    ∀ c ∈ nodeCands sc query r0 v r preds,
      c.op = .m none ∨ ∃ p ∈ inN es v, c.op = .m (some (p, v)) ∨ c.op = .d (some (p, v + 1)) := by
  intro x hx
  cases preds with
  | nil => left; exact firstCands_op sc r r0 query x hx
  | cons pp rest =>
    right
    refine foldl_zipMax_op (fun pp => oneCand sc query v r pp.1 pp.2) (fun op => ∃ p ∈ inN es v, op = .m (some (p, v)) ∨ op = .d (some (p, v + 1)))
      rest _ ?_ ?_ x hx
    · intro c hc
      exact ⟨pp.1, hp pp (by simp), oneCand_op sc query v r pp.1 pp.2 c hc⟩
    · intro q hq c hc
      exact ⟨q.1, hp q (List.mem_cons_of_mem _ hq), oneCand_op sc query v r q.1 q.2 c hc⟩

theorem nodeRow_rowOp (sc : Sc) (query : List Nat) (r0 : List Cell) (es : WEdges) (v r : Nat)
    (preds : List (Nat × List Cell)) (hp : ∀ pp ∈ preds, pp.1 ∈ inN es v) (j : Nat) :
    RowOp es v j ((nodeRow sc query r0 v r preds).getD j ⟨0, .m none⟩).op := by
  rw [nodeRow_eq]
  cases j with
  | zero => right; left; exact ⟨rfl, rfl⟩
  | succ j =>
    simp only [List.getD_cons_succ]
    rcases List.getD_eq_or_mem (insScan sc.gap (.i (some v)) (col0 sc.gap v) (nodeCands sc query r0 v r preds))
      j ⟨0, .m none⟩ with h | h
    · rw [h]; left; rfl
    · rcases insScan_op _ _ _ _ _ h with h1 | ⟨x, hx, h1⟩
      · right; right; exact ⟨by omega, Or.inl h1⟩
      · rw [h1]
        rcases nodeCands_op sc query r0 es v r preds hp x hx with h2 | h2
        · left; exact h2
        · right; right; exact ⟨by omega, Or.inr h2⟩

theorem dpRows_tableOK (sc : Sc) (labels : List Nat) (es : WEdges) (query : List Nat) :
    TableOK es (dpRows sc labels es query) := by
  constructor
  · intro j
    simp only [dpRows, row0]
    cases j with
    | zero => left; rfl
    | succ j =>
      simp only [List.getD_cons_succ]
      rcases List.getD_eq_or_mem (row0From sc.gap 0 query.length) j ⟨0, .m none⟩ with h | h
      · rw [h]; left; rfl
      · right; exact row0From_op _ _ _ _ h
  · simp only [dpRows]
    refine foldl_inv (fun (rows : Array (List Cell)) => ∀ v j, RowOp es v j ((rows.getD v []).getD j ⟨0, .m none⟩).op)
      _ ?_ _ _ ?_
    · intro rows u h
      exact getD_set_all (P := fun v (row : List Cell) => ∀ j, RowOp es v j (row.getD j ⟨0, .m none⟩).op) _ _ u _ h
        (nodeRow_rowOp _ _ _ _ _ _ _ fun pp hpp => mem_predsMap hpp)
    intro v j
    have : (Array.replicate labels.length ([] : List Cell)).getD v [] = [] := by
      simp only [Array.getD_eq_getD_getElem?, Array.getElem?_replicate]
      split <;> rfl
    rw [this]
    left; rfl

/-! ## the rows of the clip-free model column by column -/

theorem oneCand_spec (sc : Sc) (query : List Nat) (v r p : Nat) (pr : List Cell) (dflt : Cell)
    (hl : pr.length = query.length + 1) :
    (oneCand sc query v r p pr).length = query.length ∧
    ∀ j, j < query.length → (oneCand sc query v r p pr).getD j dflt =
      cmax ⟨(pr.getD j dflt).score + sc.w r (query.getD j 0), .m (some (p, v))⟩
           ⟨(pr.getD (j + 1) dflt).score + sc.gap, .d (some (p, v + 1))⟩ := by
  cases pr with
  | nil => simp at hl
  | cons d ups =>
    simp only [List.length_cons] at hl
    refine ⟨by simp only [oneCand, length_predCands]; omega, ?_⟩
    intro j hj
    simp only [oneCand]
    exact getD_predCands sc r _ _ dflt ups d query j (by omega) hj

/-- `pcG` = predecessor candidate of the global table: what predecessor `p` offers to cell `(v + 1, j + 1)` -/
def pcG (sc : Sc) (query : List Nat) (v r : Nat) (Lp : Nat → List Cell) (j p : Nat) : Cell :=
  cmax ⟨((Lp p).getD j mcell).score + sc.w r (query.getD j 0), .m (some (p, v))⟩
       ⟨((Lp p).getD (j + 1) mcell).score + sc.gap, .d (some (p, v + 1))⟩

/-- `gCol` = column of the global table: the candidate of cell `(v + 1, j + 1)`, predecessors `ps` with rows `Lp` -/
def gCol (sc : Sc) (query : List Nat) (r0 : List Cell) (v r : Nat) (Lp : Nat → List Cell) (j : Nat) (ps : List Nat) : Cell :=
  match ps with
  | [] => ⟨(r0.getD j mcell).score + sc.w r (query.getD j 0), .m none⟩
  | p :: rest => rest.foldl (fun acc p' => cmax acc (pcG sc query v r Lp j p')) (pcG sc query v r Lp j p)

theorem nodeCands_spec (sc : Sc) (query : List Nat) (r0 : List Cell) (v r : Nat) (ps : List Nat) (Lp : Nat → List Cell)
    (h0 : r0.length = query.length + 1) (hp : ∀ p ∈ ps, (Lp p).length = query.length + 1) :
    (nodeCands sc query r0 v r (ps.map fun p => (p, Lp p))).length = query.length ∧
    ∀ j, j < query.length → (nodeCands sc query r0 v r (ps.map fun p => (p, Lp p))).getD j mcell =
      gCol sc query r0 v r Lp j ps := by
  cases ps with
  | nil =>
    simp only [List.map_nil, nodeCands, gCol]
    rw [firstCands_eq]
    refine ⟨by rw [List.length_zipWith]; omega, ?_⟩
    intro j hj
    exact getD_zipWith _ r0 query j mcell 0 mcell (by omega) hj
  | cons p rest =>
    simp only [List.map_cons, nodeCands, gCol]
    have h1 := oneCand_spec sc query v r p (Lp p) mcell (hp p (by simp))
    obtain ⟨r1, r2⟩ := foldl_zipMax_spec query.length mcell (fun pp => oneCand sc query v r pp.1 pp.2)
      (rest.map fun p => (p, Lp p)) (oneCand sc query v r p (Lp p)) h1.1 (by
        intro pp hpp
        simp only [List.mem_map] at hpp
        obtain ⟨p', hp', rfl⟩ := hpp
        exact (oneCand_spec sc query v r p' (Lp p') mcell (hp p' (List.mem_cons_of_mem _ hp'))).1)
    refine ⟨r1, ?_⟩
    intro j hj
    rw [r2 j hj, h1.2 j hj, List.foldl_map]
    exact foldl_congr_mem _ _ rest _ fun x hx a => by
      rw [(oneCand_spec sc query v r x (Lp x) mcell (hp x (List.mem_cons_of_mem _ hx))).2 j hj]; rfl

theorem nodeRow_length (sc : Sc) (query : List Nat) (r0 : List Cell) (v r : Nat) (ps : List Nat) (Lp : Nat → List Cell)
    (h0 : r0.length = query.length + 1) (hp : ∀ p ∈ ps, (Lp p).length = query.length + 1) :
    (nodeRow sc query r0 v r (ps.map fun p => (p, Lp p))).length = query.length + 1 := by
  rw [nodeRow_eq]
  simp [length_insScan, (nodeCands_spec sc query r0 v r ps Lp h0 hp).1]

theorem nodeRow_low (sc : Sc) (query : List Nat) (r0 : List Cell) (v r : Nat) (preds : List (Nat × List Cell))
    (j : Nat) (hj : j < (nodeRow sc query r0 v r preds).length) :
    ((v : Int) + 1 + j) * sc.gap ≤ ((nodeRow sc query r0 v r preds).getD j mcell).score := by
  rw [nodeRow_eq] at hj ⊢
  cases j with
  | zero => simp [col0]
  | succ j =>
    simp only [List.length_cons, length_insScan] at hj
    simp only [List.getD_cons_succ]
    have := insScan_low sc.gap (.i (some v)) mcell (nodeCands sc query r0 v r preds) (col0 sc.gap v) j (by omega)
    simp only [col0] at this ⊢
    have e : ((v : Int) + 1 + ((j + 1 : Nat) : Int)) * sc.gap = ((v : Int) + 1) * sc.gap + ((j : Int) + 1) * sc.gap := by
      rw [← Int.add_mul]; congr 1
    rw [e]
    exact this

end RbV.Poa.Model
