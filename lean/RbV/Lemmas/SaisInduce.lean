import RbV.Lemmas.SaisPlace
import RbV.Lemmas.SaisLPass
import RbV.Lemmas.SaisSPass
import RbV.Lemmas.SaisLmsList
/-
`calc_pos` as a whole (C03 (d), (e)): for every arrangement of the LMS positions in `lms_pos` the result contains
every position exactly once; and it is sorted in any relation that satisfies the induced-sorting axioms and in which
`lms_pos` was sorted.
-/
namespace RbV.Sais

theorem calcPosRun_pos (t : List Nat) (ty : List Bool) (lms : List Nat) :
    (calcPosRun t ty lms).pos =
      (forDown t.length (sStep t ty)
        ((forUp t.length (lStep t ty t.length)
          ((placeLms t lms (List.replicate t.length t.length) (bEnd0 t)).1, initBucketStart t)).1, bEnd0 t)).1 := rfl

/-- what the L pass leaves is what the S pass needs (for a relation `RS` that `RL` implies on L-type positions) -/
theorem LInit.of_LDone {t : List Nat} (hv : Valid t) (h2 : 2 ≤ t.length) {RL RS : Nat → Nat → Prop} {pos0 posL : List Nat}
    (hLS : ∀ x y, x < t.length → y < t.length → isS (tyOf t) x = false → isS (tyOf t) y = false → RL x y → RS x y)
    (hp : Placed t RL pos0) (hd : LDone t RL pos0 posL) : LInit t RS posL := by
  have hdef : ∀ i, inLArea t i → posL.getD i 0 < t.length ∧ isS (tyOf t) (posL.getD i 0) = false := by
    intro i ⟨c, hc, h1, h2⟩
    have := (mem_Lset t c _).mp (hd.larea c hc i h1 h2)
    exact ⟨this.1, this.2.2⟩
  refine ⟨hd.len, hd.larea, ?_, ?_, ?_⟩
  · intro i j hij hi hj
    have := hj.lt
    exact hd.inj i j hij this (by have := (hdef i hi).1; omega) (by have := (hdef j hj).1; omega)
  · intro i j hij hi hj
    have hjn := hj.lt
    have h1 := hdef i hi
    have h2' := hdef j hj
    exact hLS _ _ h1.1 h2'.1 h1.2 h2'.2 (hd.sorted i j hij hjn (by omega) (by omega))
  · obtain ⟨i, hi, he⟩ := hp.all (t.length - 1) (isLms_last hv h2)
    have ha := hp.area i hi (by rw [he]; omega)
    rw [he, sym_last_zero hv] at ha
    obtain ⟨_, hb, hlo⟩ := ha
    unfold inBkt at hb
    rw [cntLt_one hv] at hb
    have hi0 : i = 0 := by omega
    subst hi0
    rw [cntLt_zero] at hlo
    have hK : 0 < maxSucc t := by
      have := sym_lt_maxSucc (t := t) (t.length - 1) (by omega); omega
    rw [hd.sarea 0 hK 0 (by rw [cntLt_zero]; omega) (by rw [cntLt_one hv]; omega)]
    exact he

/-- **Induced sorting** (`calc_pos`).  `RL` is the relation for the L pass, `RS` for the S pass. -/
theorem induced_sort (t : List Nat) (hv : Valid t) (RL RS : Nat → Nat → Prop)
    (hRL : IndRel t RL) (hsL : StepL t RL) (hRS : IndRel t RS) (hsS : StepS t RS)
    (hLS : ∀ x y, x < t.length → y < t.length → isS (tyOf t) x = false → isS (tyOf t) y = false → RL x y → RS x y)
    (lms : List Nat) (hl : LmsList t lms) (hinit : lms.Pairwise (fun p q => sym t p = sym t q → RL p q)) :
    SDone t RS (calcPosRun t (tyOf t) lms).pos := by
  by_cases h2 : 2 ≤ t.length
  · rw [calcPosRun_pos]
    have hp := placeLms_spec t hv RL hRL lms hl hinit
    exact sPass_spec t hv RS hRS hsS _ (LInit.of_LDone hv h2 hLS hp (lPass_spec t hv RL hRL hsL _ hp))
  · obtain ⟨rfl, rfl⟩ := eq_singleton_of_length_lt_two hv h2 hl
    exact ⟨rfl, by decide, fun i j hij hj => absurd hj (by simp; omega), fun i j hij hj => absurd hj (by simp; omega)⟩

theorem lmsList_lmsOf (t : List Nat) : LmsList t (lmsOf t) := ⟨nodup_lmsBelow _ _, mem_lmsOf t⟩

/-- **C03 (d), the induced-sort part**: for every arrangement of the LMS positions, `calc_pos` places every position
exactly once. -/
theorem calcPos_perm (t : List Nat) (hv : Valid t) (lms : List Nat) (hl : LmsList t lms) :
    (calcPosRun t (tyOf t) lms).pos.Perm (List.range t.length) :=
  SDone.perm (induced_sort t hv (fun _ _ => True) (fun _ _ => True) (indRel_true t) (stepL_true t)
    (indRel_true t) (stepS_true t) (fun _ _ _ _ _ _ _ => trivial) lms hl
    (List.pairwise_of_forall (fun _ _ _ => trivial)))

/-- after `calc_pos` slot 0 holds the final position (the only one with symbol 0) -/
theorem calcPosRun_head (t : List Nat) (hv : Valid t) (h2 : 2 ≤ t.length) (lms : List Nat) (hl : LmsList t lms) :
    (calcPosRun t (tyOf t) lms).pos.getD 0 0 = t.length - 1 := by
  have hR : IndRel t (fun x y => sym t x ≤ sym t y) := ⟨fun _ _ _ _ h => by omega, fun _ _ _ _ h _ _ => by omega⟩
  have hd := induced_sort t hv (fun x y => sym t x ≤ sym t y) (fun x y => sym t x ≤ sym t y) hR
    (fun _ _ _ _ h _ _ _ => by omega) hR (fun _ _ _ _ h _ _ _ => by omega) (fun _ _ _ _ _ _ h => h) lms hl
    (List.pairwise_of_forall (fun _ _ h => by omega))
  have hperm := SDone.perm hd
  have hmem : t.length - 1 ∈ (calcPosRun t (tyOf t) lms).pos := hperm.mem_iff.mpr (List.mem_range.mpr (by omega))
  obtain ⟨j, hj, he⟩ := List.exists_getD_of_mem _ 0 hmem
  rw [hd.len] at hj
  have h0 : sym t ((calcPosRun t (tyOf t) lms).pos.getD 0 0) = 0 := by
    by_cases hj0 : j = 0
    · subst hj0; rw [he]; exact sym_last_zero hv
    · have := hd.sorted 0 j (by omega) hj
      rw [he, sym_last_zero hv] at this
      omega
  have := (sym_eq_zero_iff hv (hd.lt 0 (by omega))).mp h0
  omega

end RbV.Sais
