import RbV.Lemmas.FillI32Step
import RbV.Basic.GetD
/-!
`custom_i32_no_overflow` (`Thm/C01.lean`): from the envelope `I32Env` to the whole fill.  The ranges `RB B (i·B)` hold in
every cell of the unbounded mirror (`cell_RB`, by the fill induction `cell_ind`), hence
every loop body of the checked mirror succeeds with the unbounded result (`iterC_eq` + the step lemmas of
`FillI32Step.lean`), column by column, through both post-loops, up to `fillC = some fill` and `customC`.  Core Lean only.
-/
namespace RbV.Model.PairwiseFill
open RbV.Align RbV.I32

theorem iterC_eq {α : Type} (stepC : Nat → α → Option α) (step : Nat → α → α) : ∀ (k i0 : Nat) (r : α),
    (∀ t, t < k → stepC (i0 + t + 1) (iterAt step i0 r t) = some (step (i0 + t + 1) (iterAt step i0 r t))) →
    iterC stepC k i0 r = some (iter step k i0 r) := by
  intro k
  induction k with
  | zero => intro i0 r _; rfl
  | succ k ih =>
    intro i0 r h
    have h0 := h 0 (by omega)
    simp only [iterAt, Nat.add_zero] at h0
    have ih' := ih (i0 + 1) (step (i0 + 1) r) (by
      intro t ht
      have := h (t + 1) (by omega)
      rw [iterAt_shift] at this
      have e : i0 + (t + 1) + 1 = i0 + 1 + t + 1 := by omega
      rw [e] at this
      exact this)
    simp only [iterC, iter, h0, ih']

section
variable {sc : Sc} {cl : Clip} {x y : List Nat} {B : Int}

def mxLen (x y : List Nat) : Int := ((max x.length y.length : Nat) : Int)

theorem natCast_succ_mul (i : Nat) (B : Int) : ((i + 1 : Nat) : Int) * B = (i : Int) * B + B := by
  push_cast; rw [Int.add_mul, Int.one_mul]

theorem env_num (E : I32Env sc cl x y B) : Num sc cl B (mxLen x y * B) := by
  obtain ⟨hB1, _, _, hgo, hge, hxp, hxs, hyp, hys, hroom⟩ := E
  have hM0 : (0 : Int) ≤ mxLen x y := by unfold mxLen; omega
  have e3 : ((max x.length y.length : Nat) : Int) = mxLen x y := rfl
  rw [e3, Int.add_mul, Int.one_mul] at hroom
  exact ⟨hB1, hgo, hge, hxp, hxs, hyp, hys, Int.mul_nonneg hM0 (by omega), hroom⟩

theorem env_idx (E : I32Env sc cl x y B) {k : Nat} (h1 : 1 ≤ k) (hk : k ≤ max x.length y.length) :
    Idx sc B (mxLen x y * B) k := by
  have hB1 := E.B1
  have hroom := E.room
  have hms := minScore_i32
  have e3 : ((max x.length y.length : Nat) : Int) = mxLen x y := rfl
  rw [e3, Int.add_mul, Int.one_mul] at hroom
  have hkM : (k : Int) ≤ mxLen x y := Int.ofNat_le.mpr hk
  have h1k : (1 : Int) ≤ (k : Int) := Int.ofNat_le.mpr h1
  -- `k ≤ k·B ≤ max(m, n)·B`, `B ≤ k·B`, `−k·B ≤ gap_extend·k ≤ 0`
  have h3 : (k : Int) * B ≤ mxLen x y * B := Int.mul_le_mul_of_nonneg_right hkM (by omega)
  have h5 : (k : Int) * 1 ≤ (k : Int) * B := Int.mul_le_mul_of_nonneg_left hB1 (by omega)
  have h6 : 1 * B ≤ (k : Int) * B := Int.mul_le_mul_of_nonneg_right h1k (by omega)
  have h2 : -B * (k : Int) ≤ sc.ge * (k : Int) := Int.mul_le_mul_of_nonneg_right E.ge.1 (by omega)
  have h4 : sc.ge * (k : Int) ≤ 0 * (k : Int) := Int.mul_le_mul_of_nonneg_right E.ge.2 (by omega)
  rw [Int.neg_mul, Int.mul_comm B] at h2
  rw [Int.zero_mul] at h4
  rw [Int.mul_one] at h5
  rw [Int.one_mul] at h6
  exact ⟨by omega, by omega, h4, ofUsize_ok (by omega)⟩

/-- room for `MIN_SCORE − 3B`, the `I/D + gap_extend` sums of `stepJC_eq` -/
theorem env_room3 (E : I32Env sc cl x y B) (h2 : 2 ≤ max x.length y.length) : 3 * B ≤ 2147483648 + minScore := by
  have hroom := E.room
  have hB1 := E.B1
  have : ((2 : Int) + 1) * B ≤ (((max x.length y.length : Nat) : Int) + 1) * B :=
    Int.mul_le_mul_of_nonneg_right (by omega) (by omega)
  omega

theorem cell_RB (E : I32Env sc cl x y B) : ∀ j, j ≤ y.length → ∀ i, i ≤ x.length →
    RB B ((i : Int) * B) (cell sc cl x y j i) := by
  have N := env_num E
  have hB1 := E.B1
  have hu0 : ∀ i : Nat, 0 ≤ (i : Int) * B := fun i => Int.mul_nonneg (by omega) (by omega)
  refine cell_ind sc cl x y (P := fun _ i r => RB B ((i : Int) * B) r) ?_ ?_ ?_ ?_
  · simpa using row00_RB (x := x) (y := y) N
  · intro i hi r hr
    rw [natCast_succ_mul]
    exact (step0_RB N (env_idx E (k := i + 1) (by omega) (by omega)) _ (hu0 i) hr).mono (by omega)
  · intro j hj p0 hp
    simp only [Int.natCast_zero, Int.zero_mul] at hp ⊢
    exact rowJ0_RB N (env_idx E (k := j + 1) (by omega) (by omega)) _ hp
  · intro j i hj hi prev r hp1 hp hr
    rw [natCast_succ_mul] at hp ⊢
    exact stepJ_RB N (env_idx E (k := i + 1) (by omega) (by omega)) (env_idx E (k := j + 1) (by omega) (by omega))
      prev _ (hu0 i) hr hp1 hp (E.whi _ (List.getD_mem _ _ _ (Nat.lt_of_succ_le hi)) _ (List.getD_mem _ _ _ (Nat.lt_of_succ_le hj)))

theorem col0_iterAt (t : Nat) (ht : t ≤ x.length) :
    iterAt (step0 sc cl x y) 0 (row00 cl x y) t = cell sc cl x y 0 t := by
  simp only [cell, colAt, col0]
  rw [iter_getD _ _ _ _ _ _ ht]

theorem colJ_iterAt (j t : Nat) (ht : t ≤ x.length) :
    iterAt (stepJ sc cl x y (j + 1) (colAt sc cl x y j)) 0
      (rowJ0 sc cl x y (j + 1) ((colAt sc cl x y j).getD 0 default)) t = cell sc cl x y (j + 1) t := by
  simp only [cell, colAt, colStep]
  rw [iter_getD _ _ _ _ _ _ ht]

theorem mul_B_le (E : I32Env sc cl x y B) {i : Nat} (hi : i ≤ max x.length y.length) :
    (i : Int) * B ≤ mxLen x y * B :=
  Int.mul_le_mul_of_nonneg_right (by unfold mxLen; omega) (by have := E.B1; omega)

theorem col0C_eq (E : I32Env sc cl x y B) : col0C sc cl x y = some (col0 sc cl x y) := by
  have N := env_num E
  have hB1 := E.B1
  unfold col0C col0
  refine iterC_eq _ _ _ _ _ fun t ht => ?_
  rw [col0_iterAt t (by omega), Nat.zero_add]
  have I := env_idx E (k := t + 1) (by omega) (by omega)
  exact step0C_eq N I _ (Int.mul_nonneg (by omega) (by omega)) (mul_B_le E (by omega))
    (cell_RB E 0 (by omega) t (by omega))

theorem colStepC_eq (E : I32Env sc cl x y B) (j : Nat) (hj : j + 1 ≤ y.length) :
    colStepC sc cl x y (j + 1) (colAt sc cl x y j) = some (colAt sc cl x y (j + 1)) := by
  have N := env_num E
  have hB1 := E.B1
  have J := env_idx E (k := j + 1) (by omega) (by omega)
  unfold colStepC
  rw [rowJ0C_eq N J, xclipC_eq N J]
  simp only [colAt, colStep]
  refine iterC_eq _ _ _ _ _ fun t ht => ?_
  have e := colJ_iterAt (sc := sc) (cl := cl) (x := x) (y := y) j t (by omega)
  rw [e, Nat.zero_add]
  have I := env_idx E (k := t + 1) (by omega) (by omega)
  have hp1 := cell_RB E j (by omega) t (by omega)
  have hp := cell_RB E j (by omega) (t + 1) (by omega)
  have hle := mul_B_le E (i := t + 1) (by omega)
  rw [natCast_succ_mul] at hp hle
  have hmx : x.getD t 0 ∈ x := List.getD_mem _ _ _ (by omega)
  have hmy : y.getD j 0 ∈ y := List.getD_mem _ _ _ (by omega)
  refine stepJC_eq N I J _ _ (Int.mul_nonneg (by omega) (by omega)) hle
    (cell_RB E (j + 1) (by omega) t (by omega)) hp1 hp ⟨E.wlo _ hmx _ hmy, E.whi _ hmx _ hmy⟩ ?_
  -- `I[curr][i-1] + gap_extend` and `D[prev][i] + gap_extend` reach `MIN_SCORE − 3B` only from a row / column `≥ 1`
  by_cases hM : 2 ≤ max x.length y.length
  · exact Or.inl (env_room3 E hM)
  · right
    have ht : t = 0 := by omega
    have hj0 : j = 0 := by omega
    subst ht; subst hj0
    constructor
    · rw [cell_succ_zero]; rfl
    · show (cell sc cl x y 0 1).d = minScore
      rw [cell_zero_succ _ _ _ _ _ (by omega)]; rfl

theorem colsC_eq (E : I32Env sc cl x y B) : ∀ k j, j + k ≤ y.length →
    colsC sc cl x y k j (colAt sc cl x y j) = some (iter (colStep sc cl x y) k j (colAt sc cl x y j)) := by
  intro k
  induction k with
  | zero => intro j _; rfl
  | succ k ih =>
    intro j hj
    have h1 := colStepC_eq E j (by omega)
    have h2 := ih (j + 1) (by omega)
    have e : colStep sc cl x y (j + 1) (colAt sc cl x y j) = colAt sc cl x y (j + 1) := rfl
    simp only [colsC, iter, h1, h2, e]

theorem allColsC_eq (E : I32Env sc cl x y B) : allColsC sc cl x y = some (allCols sc cl x y) := by
  unfold allColsC allCols
  rw [col0C_eq E]
  exact colsC_eq E y.length 0 (by omega)

theorem post1_iterAt (col : List Row) (t : Nat) (ht : t ≤ x.length) :
    iterAt (post1Step cl x col) 0 (post1Step cl x col 0 (p1init x col)) t = (post1 cl x col).getD t default := by
  simp only [post1]
  rw [iter_getD _ _ _ _ _ _ ht]

theorem post2_iterAt (s1 : List PSt) (t : Nat) (ht : t ≤ x.length) :
    iterAt (post2Step sc cl x s1) 0 (p2init x s1) t = (post2 sc cl x s1).getD t default := by
  simp only [post2]
  rw [iter_getD _ _ _ _ _ _ ht]

theorem lastCol_RB (E : I32Env sc cl x y B) (i : Nat) (hi : i ≤ x.length) :
    RB B ((x.length : Int) * B) ((colAt sc cl x y y.length).getD i default) :=
  (cell_RB E y.length (by omega) i hi).mono
    (Int.mul_le_mul_of_nonneg_right (by omega) (by have := E.B1; omega))

theorem post1_PB (E : I32Env sc cl x y B) : ∀ t, t ≤ x.length →
    PB ((x.length : Int) * B) ((post1 cl x (colAt sc cl x y y.length)).getD t default) := by
  have N := env_num E
  have hU := mul_B_le E (i := x.length) (by omega)
  intro t
  induction t with
  | zero =>
    intro _
    rw [post1_getD_zero]
    have hm := lastCol_RB E x.length (by omega)
    exact (post1StepC_eq N _ 0 _ hU (by simpa [p1init] using hm.xm) (lastCol_RB E 0 (by omega))).2
  | succ t ih =>
    intro ht
    rw [post1_getD_succ _ _ _ _ ht]
    exact (post1StepC_eq N _ (t + 1) _ hU (ih (by omega)).xm (lastCol_RB E (t + 1) ht)).2

theorem post1C_eq (E : I32Env sc cl x y B) :
    post1C cl x (colAt sc cl x y y.length) = some (post1 cl x (colAt sc cl x y y.length)) := by
  have N := env_num E
  have hU := mul_B_le E (i := x.length) (by omega)
  have hm := lastCol_RB E x.length (by omega)
  unfold post1C
  rw [(post1StepC_eq N _ 0 _ hU (by simpa [p1init] using hm.xm) (lastCol_RB E 0 (by omega))).1]
  simp only [post1]
  refine iterC_eq _ _ _ _ _ fun t ht => ?_
  rw [post1_iterAt _ t (by omega), Nat.zero_add]
  exact (post1StepC_eq N _ (t + 1) _ hU (post1_PB E t (by omega)).xm (lastCol_RB E (t + 1) (by omega))).1

theorem post2_PB (E : I32Env sc cl x y B) : ∀ t, t ≤ x.length →
    PB ((x.length : Int) * B) ((post2 sc cl x (post1 cl x (colAt sc cl x y y.length))).getD t default) := by
  have N := env_num E
  have hU := mul_B_le E (i := x.length) (by omega)
  intro t
  induction t with
  | zero =>
    intro _
    rw [post2_getD_zero]
    exact ⟨(post1_PB E 0 (by omega)).s, (post1_PB E x.length (by omega)).xm⟩
  | succ t ih =>
    intro ht
    have I := env_idx E (k := t + 1) (by omega) (by omega)
    rw [post2_getD_succ _ _ _ _ _ ht]
    exact (post2StepC_eq N I.BG _ (t + 1) _ hU (ih (by omega)) (post1_PB E (t + 1) ht).s).2

theorem post2C_eq (E : I32Env sc cl x y B) :
    post2C sc cl x (post1 cl x (colAt sc cl x y y.length)) =
      some (post2 sc cl x (post1 cl x (colAt sc cl x y y.length))) := by
  have N := env_num E
  have hU := mul_B_le E (i := x.length) (by omega)
  unfold post2C
  simp only [post2]
  refine iterC_eq _ _ _ _ _ fun t ht => ?_
  rw [post2_iterAt _ t (by omega), Nat.zero_add]
  have I := env_idx E (k := t + 1) (by omega) (by omega)
  exact (post2StepC_eq N I.BG _ (t + 1) _ hU (post2_PB E t (by omega)) (post1_PB E (t + 1) (by omega)).s).1

/-- **no checked operation of the fill fails, and the checked fill is the unbounded fill** -/
theorem fillC_eq (E : I32Env sc cl x y B) : fillC sc cl x y = some (fill sc cl x y) := by
  unfold fillC
  rw [allColsC_eq E]
  simp only [allCols_getD sc cl x y y.length (Nat.le_refl _), post1C_eq E, post2C_eq E, fill]

theorem customC_eq (E : I32Env sc cl x y B) : customC sc cl x y =
    match custom sc cl x y with
    | none => .noTermination
    | some o => .done o := by
  unfold customC
  rw [fillC_eq E, custom_eq_customOf]
  rfl

end

end RbV.Model.PairwiseFill
