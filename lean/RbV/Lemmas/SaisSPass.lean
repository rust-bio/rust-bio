import RbV.Lemmas.SaisPass
/-
The S pass of induced sorting (`sStep`, scanned right to left by `forDown`) as the instance `Dir.down` of the pass of
`SaisPass.lean`: its seeds are the L-areas, `bucket_end[c]` is the next slot of queue `c`, slot 0 (holding `n - 1`) counts as
written from the start.  `sStep` has no test for stale entries; that it never reads one is the "scan-ahead" lemma (the
entry read next is always live).  Result: `SDone` (`sPass_spec`).
The closing section states the same invariant in terms of the arrays alone (`SValid`, `SInv`); no proof of the pass rests on it.
-/
namespace RbV.Sais

/-! ### the three cases of the step -/

theorem sStep_skip0 (t : List Nat) (ty : List Bool) (k : Nat) (pos be : List Nat) (h : pos.getD k 0 = 0) :
    sStep t ty k (pos, be) = (pos, be) := by
  unfold sStep
  dsimp only
  rw [if_pos h]

theorem sStep_skipL (t : List Nat) (ty : List Bool) (k : Nat) (pos be : List Nat) (h : pos.getD k 0 ≠ 0)
    (hL : isS ty (pos.getD k 0 - 1) = false) : sStep t ty k (pos, be) = (pos, be) := by
  unfold sStep
  dsimp only
  rw [if_neg h, if_neg (by rw [hL]; exact Bool.false_ne_true)]

theorem sStep_write (t : List Nat) (ty : List Bool) (k : Nat) (pos be : List Nat) (h : pos.getD k 0 ≠ 0)
    (hS : isS ty (pos.getD k 0 - 1) = true) :
    sStep t ty k (pos, be) =
      (pos.set (be.getD (sym t (pos.getD k 0 - 1)) 0) (pos.getD k 0 - 1),
       be.set (sym t (pos.getD k 0 - 1)) (wrapSub1 (be.getD (sym t (pos.getD k 0 - 1)) 0))) := by
  unfold sStep sym
  dsimp only
  rw [if_neg h, if_pos hS]

/-! ### the invariant -/

/-- the ghost counter at the start: only slot 0 (holding `n - 1`) counts as written -/
def wInit : Nat → Nat := fun c => if c = 0 then 1 else 0

theorem wInit_zero : wInit 0 = 1 := rfl

theorem wInit_ne {c : Nat} (h : c ≠ 0) : wInit c = 0 := by simp [wInit, h]

/-- invariant of the S pass before the iteration with scan index `r - 1`: the invariant of a pass in direction `down` with
the L-areas as seeds; `bucket_end[c]` is the next slot of queue `c`; every scanned index is live; slot 0 counts as
written -/
structure SInvG (t : List Nat) (R : Nat → Nat → Prop) (r : Nat) (pos be : List Nat) (w : Nat → Nat) : Prop where
  g : GInv (Dir.down t) (fun x y => x ≠ y ∧ R y x) (inLArea t) (fun i => r ≤ i ∧ i < t.length) pos w
  lenB : be.length = maxSucc t
  ptr : ∀ c, c < maxSucc t → w c < (Sset t c).length → be.getD c 0 = (Dir.down t).slot c (w c)
  fin : ∀ i, r ≤ i → i < t.length → Live (Dir.down t) (inLArea t) w i
  w0 : w 0 = 1

section
variable {t : List Nat} {R : Nat → Nat → Prop} {r k : Nat} {pos be : List Nat} {w : Nat → Nat}

/-! ### the entry read next is live (scan-ahead) -/

/-- a bucket that lies completely right of the scan position holds every position with its symbol -/
theorem SInvG.full_bucket (inv : SInvG t R r pos be w) (d : Nat) (hr : r ≤ cntLt t d)
    (y : Nat) (hy : y < t.length) (hs : sym t y = d) :
    ∃ i, cntLt t d ≤ i ∧ i < cntLt t (d + 1) ∧ pos.getD i 0 = y := by
  have hE : cntLt t d + ((Lset t d).length + (Sset t d).length) = cntLt t (d + 1) := by
    rw [cntLt_succ_split t d, Nat.add_assoc]
  have hfin : ∀ j, cntLt t d ≤ j → j < cntLt t d + ((Lset t d).length + (Sset t d).length) →
      Live (Dir.down t) (inLArea t) w j :=
    fun j h1 h2 => inv.fin j (Nat.le_trans hr h1) (Nat.lt_of_lt_of_le (hE ▸ h2) (cntLt_le_length t (d + 1)))
  have hin : ∀ j, cntLt t d ≤ j → j < cntLt t d + ((Lset t d).length + (Sset t d).length) →
      pos.getD j 0 ∈ Lset t d ++ Sset t d := by
    intro j h1 h2
    obtain ⟨hl, hb, _⟩ := inv.g.classify (hfin j h1 h2)
    have hc : sym t (pos.getD j 0) = d := bkt_unique t _ d _ hb ⟨h1, hE ▸ h2⟩
    rw [List.mem_append, mem_Lset, mem_Sset]
    cases hS : isS (tyOf t) (pos.getD j 0)
    · exact Or.inl ⟨hl, hc, rfl⟩
    · exact Or.inr ⟨hl, hc, rfl⟩
  have hy' : y ∈ Lset t d ++ Sset t d := by
    rw [List.mem_append, mem_Lset, mem_Sset]
    cases hS : isS (tyOf t) y
    · exact Or.inl ⟨hy, hs, rfl⟩
    · exact Or.inr ⟨hy, hs, rfl⟩
  obtain ⟨i, hi1, hi2, hi3⟩ := seg_surj (fun i => pos.getD i 0) (cntLt t d) ((Lset t d).length + (Sset t d).length)
    (Lset t d ++ Sset t d) hin
    (fun i j hi hij hj => ((inv.g.sorted j i hij (hfin j (Nat.le_trans hi (Nat.le_of_lt hij)) hj)
      (hfin i hi (Nat.lt_trans hij hj))).1).symm)
    (by rw [List.length_append]; exact Nat.le_refl _) y hy'
  exact ⟨i, hi1, hE ▸ hi2, hi3⟩

/-- if the scan has not passed the next slot of queue `c`, then every S-type position with symbol `c` is written
(induction along the text) -/
theorem SInvG.all_written (hv : Valid t) (inv : SInvG t R r pos be w) (c : Nat) (c0 : c ≠ 0)
    (hr : r + w c ≤ cntLt t (c + 1)) {x : Nat} (hx : x ∈ Sset t c) :
    ∃ a, a < w c ∧ pos.getD ((Dir.down t).slot c a) 0 = x := by
  obtain ⟨hx1, hx2, hx3⟩ := (mem_Sset t c x).mp hx
  clear hx
  induction hm : t.length - x generalizing x with
  | zero => omega
  | succ m ih =>
    have hx4 : x + 1 < t.length := succ_lt_of_sym_ne_zero hv x hx1 (by rw [hx2]; exact c0)
    have hle := sym_le_of_isS x hx4 hx3
    have hfin : ∀ i, r ≤ i → i < t.length → pos.getD i 0 = x + 1 →
        ∃ a, a < w c ∧ pos.getD ((Dir.down t).slot c a) 0 = x := by
      intro i hi1 hi2 hi3
      obtain ⟨j, hj, hjx⟩ := inv.g.prog x hx4 hx3 i ⟨hi1, hi2⟩ (inv.fin i hi1 hi2) hi3
      obtain ⟨_, _, hq, _⟩ := inv.g.classify hj
      rw [hjx, hx2] at hq
      obtain ⟨a, ha, hja⟩ := hq hx3
      exact ⟨a, ha, by rw [← hja]; exact hjx⟩
    have hlen := cntLt_le_length t (c + 1)
    by_cases heq : sym t (x + 1) = c
    · have hS1 : isS (tyOf t) (x + 1) = true := by
        rw [← isS_of_eq x hx4 (by omega)]; exact hx3
      obtain ⟨a', h1, h3⟩ := ih hx4 heq hS1 (by omega)
      have hsl := Dir.down_slot t c a'
      exact hfin _ (by omega) (by omega) h3
    · have hmono := cntLt_mono t (c + 1) (sym t (x + 1)) (by omega)
      obtain ⟨i, hi1, hi2, hi3⟩ := inv.full_bucket (sym t (x + 1)) (by omega) (x + 1) hx4 rfl
      have := cntLt_le_length t (sym t (x + 1) + 1)
      exact hfin i (by omega) (by omega) hi3

/-- **scan-ahead**: the entry read by the next iteration is live -/
theorem SInvG.scan_ahead (hv : Valid t) (inv : SInvG t R (k + 1) pos be w) (hk : k < t.length) :
    Live (Dir.down t) (inLArea t) w k := by
  obtain ⟨c, hc, hb⟩ := exists_bkt t k hk
  by_cases hL : k < cntLt t c + (Lset t c).length
  · exact Or.inl ⟨c, hc, hb.1, hL⟩
  have hsplit := cntLt_succ_split t c
  have hb' := hb
  unfold inBkt at hb'
  refine Or.inr ⟨c, cntLt t (c + 1) - 1 - k, ?_, by rw [Dir.down_slot]; omega⟩
  apply Classical.byContradiction
  intro hn
  have c0 : c ≠ 0 := by
    intro h0
    subst h0
    have := inv.w0
    have h11 : cntLt t (0 + 1) = 1 := cntLt_one hv
    omega
  -- all of `Sset t c` is written already
  have hlen := length_le_of_surj _ (nodup_Sset t c) (fun a => pos.getD ((Dir.down t).slot c a) 0) (w c)
    (fun x hx => inv.all_written hv c c0 (by omega) hx)
  omega

/-! ### one iteration -/

theorem SInvG.push (hv : Valid t) (h : SInvG t R (k + 1) pos be w) (hk : k < t.length) (hp : pos.getD k 0 ≠ 0)
    (hS : isS (tyOf t) (pos.getD k 0 - 1) = true) :
    Push (Dir.down t) (fun x y => x ≠ y ∧ R y x) (inLArea t) (fun i => k + 1 ≤ i ∧ i < t.length) pos w k
      (pos.getD k 0 - 1) := by
  have hlt := (h.g.classify (h.scan_ahead hv hk)).1
  exact ⟨h.g, h.scan_ahead hv hk, fun _ hr => hr.1, by omega, by omega, hS⟩

theorem sStep_invG (hv : Valid t) (hR : IndRel t R) (hstep : StepS t R) (st : List Nat × List Nat)
    (hk : k < t.length) (h : ∃ w, SInvG t R (k + 1) st.1 st.2 w) :
    ∃ w, SInvG t R k (sStep t (tyOf t) k st).1 (sStep t (tyOf t) k st).2 w := by
  obtain ⟨pos, be⟩ := st
  obtain ⟨w, h⟩ := h
  dsimp only at h
  have hlk := h.scan_ahead hv hk
  have hsucc : (fun i => (k + 1 ≤ i ∧ i < t.length) ∨ i = k) = fun i => k ≤ i ∧ i < t.length :=
    funext fun i => propext (by omega)
  have hfin : ∀ {w' : Nat → Nat}, (∀ i, Live (Dir.down t) (inLArea t) w i → Live (Dir.down t) (inLArea t) w' i) →
      ∀ i, k ≤ i → i < t.length → Live (Dir.down t) (inLArea t) w' i := fun hm i hi hin => by
    by_cases hik : i = k
    · subst hik; exact hm _ hlk
    · exact hm _ (h.fin i (by omega) hin)
  have hskip : (∀ y, isS (tyOf t) y = true → pos.getD k 0 ≠ y + 1) → SInvG t R k pos be w := fun hno =>
    { h with g := hsucc ▸ h.g.skip (fun _ y _ hty => hno y hty), fin := hfin (fun _ h => h) }
  by_cases hp : pos.getD k 0 = 0
  · rw [sStep_skip0 t _ k pos be hp]
    exact ⟨w, hskip (fun y _ => by omega)⟩
  · cases hS : isS (tyOf t) (pos.getD k 0 - 1)
    · rw [sStep_skipL t _ k pos be hp hS]
      refine ⟨w, hskip (fun y hy heq => ?_)⟩
      rw [heq, Nat.add_sub_cancel, hy] at hS
      cases hS
    · have P := h.push hv hk hp hS
      have hxn := P.hxn
      have hD := DirRel.down hR hstep
      have hroom := P.room hD.ne
      have hc0 := sym_ne_zero hv (pos.getD k 0 - 1) hxn
      have hc : sym t (pos.getD k 0 - 1) < maxSucc t := sym_lt_maxSucc _ (by omega)
      have he1 : 1 ≤ (Dir.down t).slot (sym t (pos.getD k 0 - 1)) (w (sym t (pos.getD k 0 - 1))) := by
        have := ((Dir.down t).slot_bkt _ _ hroom).1
        have := cntLt_mono t 1 (sym t (pos.getD k 0 - 1)) (by omega)
        have := cntLt_one hv
        omega
      rw [sStep_write t _ k pos be hp hS, h.ptr _ hc hroom]
      refine ⟨updW w (sym t (pos.getD k 0 - 1)), hsucc ▸ P.next hD hv, ?_, ?_, hfin (fun _ h => h.mono), ?_⟩
      · rw [List.length_set]; exact h.lenB
      · intro d hd hlt'
        by_cases hdc : d = sym t (pos.getD k 0 - 1)
        · subst hdc
          rw [List.getD_set_self _ _ _ _ (by rw [h.lenB]; exact hd), updW_eq]
          unfold wrapSub1
          rw [if_neg (by omega)]
          rw [Dir.down_slot, Dir.down_slot]
          omega
        · rw [updW_ne w hdc] at hlt' ⊢
          rw [List.getD_set_ne _ _ _ _ _ (Ne.symm hdc)]; exact h.ptr d hd hlt'
      · rw [updW_ne w (Ne.symm hc0)]; exact h.w0

/-! ### the initial state -/

theorem lt_wInit (hv : Valid t) {c a : Nat} (h : a < wInit c) : c = 0 ∧ (Dir.down t).slot c a = 0 := by
  by_cases h0 : c = 0
  · subst h0
    rw [wInit_zero] at h
    rw [Dir.down_slot, cntLt_one hv]
    exact ⟨rfl, by omega⟩
  · rw [wInit_ne h0] at h; omega

theorem live_init (hv : Valid t) {i : Nat} (h : Live (Dir.down t) (inLArea t) wInit i) : i = 0 ∨ inLArea t i := by
  rcases h with h | ⟨c, a, ha, rfl⟩
  · exact Or.inr h
  · exact Or.inl (lt_wInit hv ha).2

theorem SInvG.init (hv : Valid t) (hR : IndRel t R) {posL : List Nat} (hL : LInit t R posL) :
    SInvG t R t.length posL (bEnd0 t) wInit where
  g :=
    { lenP := hL.len
      wle := fun c => by
        by_cases h0 : c = 0
        · subst h0; rw [wInit_zero]; exact Nat.le_of_eq (length_Sset_zero hv).symm
        · rw [wInit_ne h0]; exact Nat.zero_le _
      qmem := fun c a ha => by
        obtain ⟨rfl, h0⟩ := lt_wInit hv ha
        rw [h0, hL.zero]
        exact (mem_Sset_zero hv _).mpr rfl
      smem := fun i ⟨c, hc, h1, h2⟩ => by
        obtain ⟨hl, hs, hty⟩ := (mem_Lset _ _ _).mp (hL.larea c hc i h1 h2)
        exact ⟨c, (Dir.down_outside t c i).mpr ⟨h1, h2⟩, hl, hs, hty⟩
      sorted := fun i j hji hi hj => by
        have hji' : j < i := hji
        rcases live_init hv hi with h | hi'
        · omega
        · rcases live_init hv hj with h | hj'
          · subst h
            rw [hL.zero]
            obtain ⟨c, hc, h1, h2⟩ := hi'
            have hm := (mem_Lset _ _ _).mp (hL.larea c hc i h1 h2)
            have c0 : c ≠ 0 := by
              intro h0
              subst h0
              rw [Lset_zero hv, cntLt_zero] at h2
              simp at h2
            have hl0 := sym_last_zero hv
            have hpos := hv.pos
            exact ⟨fun heq => by rw [heq] at hm; omega, hR.ofSym _ _ (by omega) hm.1 (by omega)⟩
          · exact ⟨(hL.inj j i hji' hj' hi').symm, hL.sorted j i hji' hj' hi'⟩
      hist := fun c a ha h1 => by
        rw [(lt_wInit hv ha).2, hL.zero] at h1
        have := hv.pos
        omega
      prog := fun _ _ _ i hi => by omega }
  lenB := length_bEnd0 hv
  ptr := fun c hc hlt => by
    by_cases h0 : c = 0
    · subst h0
      rw [wInit_zero, length_Sset_zero hv] at hlt
      omega
    · rw [wInit_ne h0, getD_bEnd0 hv c hc, Dir.down_slot]; rfl
  fin := fun i h1 h2 => by omega
  w0 := rfl

end

/-- the S pass of induced sorting: starting from an array whose L-areas hold the L-type positions (`R`-sorted) and whose
slot 0 holds `n-1`, the right-to-left scan writes every other S-type position exactly once into the S-area of its
bucket; no stale/undefined entry is ever read; the result is `R`-sorted and contains every position once. -/
theorem sPass_spec (t : List Nat) (hv : Valid t) (R : Nat → Nat → Prop) (hR : IndRel t R) (hstep : StepS t R)
    (posL : List Nat) (hL : LInit t R posL) :
    SDone t R (forDown t.length (sStep t (tyOf t)) (posL, bEnd0 t)).1 := by
  obtain ⟨w, inv⟩ := forDown_inv t.length (sStep t (tyOf t)) (posL, bEnd0 t)
    (fun r st => ∃ w, SInvG t R r st.1 st.2 w) ⟨wInit, SInvG.init hv hR hL⟩
    (fun k st hk hP => sStep_invG hv hR hstep st hk hP)
  have hval := fun i (hi : i < t.length) => inv.fin i (Nat.zero_le _) hi
  refine ⟨inv.g.lenP, fun i hi => (inv.g.classify (hval i hi)).1, ?_, ?_⟩
  · intro i j hij hj
    exact ((inv.g.sorted j i hij (hval j hj) (hval i (by omega))).1).symm
  · intro i j hij hj
    exact (inv.g.sorted j i hij (hval j hj) (hval i (by omega))).2

/-! ### the same invariant in terms of the arrays

`SValid t w i` says that index `i` is final, `SInv` states the invariant of the S pass with `pos`, `bucket_end` and the bucket
bounds alone.  Nothing above rests on this section. -/

/-- index `i` is final: it lies in an L-area or in the already written part of an S-area (`Live` of `SaisPass.lean` at
`Dir.down`, in terms of the arrays alone) -/
def SValid (t : List Nat) (w : Nat → Nat) (i : Nat) : Prop :=
  ∃ c, c < maxSucc t ∧ inBkt t c i ∧ (i < cntLt t c + (Lset t c).length ∨ cntLt t (c + 1) ≤ i + w c)

/-- invariant of the S pass before the iteration with scan index `r - 1`, in terms of the arrays alone.  The proofs of the pass
work with `SInvG`, i.e. with the invariant `GInv` of `SaisPass.lean` at `Dir.down`. -/
structure SInv (t : List Nat) (R : Nat → Nat → Prop) (r : Nat) (pos be : List Nat) (w : Nat → Nat) : Prop where
  lenP : pos.length = t.length
  lenB : be.length = maxSucc t
  w0 : w 0 = 1
  wle : ∀ c, c < maxSucc t → w c ≤ (Sset t c).length
  bev : ∀ c, c < maxSucc t → w c < (Sset t c).length → be.getD c 0 = cntLt t (c + 1) - 1 - w c
  larea : ∀ c, c < maxSucc t → ∀ i, cntLt t c ≤ i → i < cntLt t c + (Lset t c).length → pos.getD i 0 ∈ Lset t c
  sarea : ∀ c, c < maxSucc t → ∀ i, i < cntLt t (c + 1) → cntLt t (c + 1) ≤ i + w c → pos.getD i 0 ∈ Sset t c
  inj : ∀ i j, i < j → SValid t w i → SValid t w j → pos.getD i 0 ≠ pos.getD j 0
  sorted : ∀ i j, i < j → SValid t w i → SValid t w j → R (pos.getD i 0) (pos.getD j 0)
  fin : ∀ i, r ≤ i → i < t.length → SValid t w i
  prog : ∀ x, x + 1 < t.length → isS (tyOf t) x = true → ∀ i, r ≤ i → i < t.length → pos.getD i 0 = x + 1 →
    ∃ j, SValid t w j ∧ pos.getD j 0 = x
  hist : ∀ c, c < maxSucc t → ∀ j, j < cntLt t (c + 1) → cntLt t (c + 1) ≤ j + w c → pos.getD j 0 + 1 < t.length →
    ∃ i, r ≤ i ∧ i < t.length ∧ pos.getD i 0 = pos.getD j 0 + 1

section
variable {t : List Nat} {w : Nat → Nat}

theorem SValid.lt (h : SValid t w i) : i < t.length := by
  obtain ⟨c, _, hb, _⟩ := h
  exact inBkt_lt_length t c i hb

end

end RbV.Sais
