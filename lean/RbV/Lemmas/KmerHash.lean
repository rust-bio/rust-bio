import RbV.Model.KmerHash
import RbV.Lemmas.QGram
import RbV.Lemmas.Lex
import RbV.Basic.Sorted
/-! C19 — the hash-map based k-mer matcher equals the reference `kmerMatches`.  Core Lean only. -/
namespace RbV.Lemmas.KmerHash
open RbV.QGram RbV.Model.KmerHash

theorem getD_entryPush (key key' : List Nat) (i : Nat) (m : HMap) :
    (hmGet key' (entryPush key i m)).getD [] = (hmGet key' m).getD [] ++ (if key = key' then [i] else []) := by
  induction m with
  | nil =>
    by_cases h : key = key' <;> simp [entryPush, hmGet, h]
  | cons e r ih =>
    obtain ⟨k', v⟩ := e
    by_cases h1 : k' = key
    · subst h1
      by_cases h2 : k' = key' <;> simp [entryPush, hmGet, h2]
    · by_cases h2 : k' = key'
      · subst h2
        have h3 : ¬ key = k' := fun e => h1 e.symm
        simp [entryPush, hmGet, h1, h3]
      · simp only [entryPush, hmGet, h1, h2, if_false]
        exact ih

theorem hmGet_foldl_entryPush (f : Nat → List Nat) (key : List Nat) (is : List Nat) (m : HMap) :
    (hmGet key (is.foldl (fun set i => entryPush (f i) i set) m)).getD [] =
      (hmGet key m).getD [] ++ is.filter (fun i => f i = key) := by
  induction is generalizing m with
  | nil => simp
  | cons a r ih =>
    simp only [List.foldl_cons]
    rw [ih, getD_entryPush]
    by_cases h : f a = key <;> simp [h]

/-- **`hash_kmers`**: the vector stored under a k-mer lists exactly its occurrence positions, ascending -/
theorem hashKmers_get (seq : List Nat) (k : Nat) (key : List Nat) :
    (hmGet key (hashKmers seq k)).getD [] =
      (List.range (seq.length + 1 - k)).filter (fun i => window k seq i = key) := by
  unfold hashKmers
  rw [hmGet_foldl_entryPush]; simp [hmGet]

theorem foldl_push_eq_flatMap {β : Type} (g : Nat → Option (List Nat)) (h : Nat → Nat → β) (is : List Nat) (acc : List β) :
    is.foldl (fun ms i => match g i with
        | some m1 => ms ++ m1.map (h i)
        | none => ms) acc = acc ++ is.flatMap (fun i => ((g i).getD []).map (h i)) := by
  induction is generalizing acc with
  | nil => simp
  | cons a r ih =>
    simp only [List.foldl_cons, List.flatMap_cons]
    rw [ih]
    cases g a <;> simp

theorem pairLe_trans (a b c : Nat × Nat) : pairLe a b = true → pairLe b c = true → pairLe a c = true := by
  simp only [pairLe, Bool.or_eq_true, Bool.and_eq_true, decide_eq_true_eq, beq_iff_eq]; exact lex_trans Nat.le_trans

theorem pairLe_total (a b : Nat × Nat) : (pairLe a b || pairLe b a) = true := by
  simp only [pairLe, Bool.or_eq_true, Bool.and_eq_true, decide_eq_true_eq, beq_iff_eq]; exact lex_total (Nat.le_total _ _)

theorem pairLe_antisymm (a b : Nat × Nat) (h1 : pairLe a b = true) (h2 : pairLe b a = true) : a = b := by
  simp only [pairLe, Bool.or_eq_true, Bool.and_eq_true, decide_eq_true_eq, beq_iff_eq] at h1 h2
  obtain ⟨e1, h1, h2⟩ := lex_antisymm h1 h2
  exact Prod.ext e1 (Nat.le_antisymm h1 h2)

theorem mergeSort_pairLe_strict (l : List (Nat × Nat)) (hn : l.Nodup) : (l.mergeSort pairLe).Pairwise lexLt := by
  have h1 : (l.mergeSort pairLe).Pairwise (fun a b => pairLe a b = true) := List.pairwise_mergeSort pairLe_trans pairLe_total l
  have h2 : (l.mergeSort pairLe).Nodup := (List.mergeSort_perm l pairLe).nodup_iff.mpr hn
  apply (h1.and h2).imp
  rintro a b ⟨hle, hne⟩
  simp only [pairLe, Bool.or_eq_true, Bool.and_eq_true, decide_eq_true_eq, beq_iff_eq] at hle
  unfold lexLt
  have : ¬ (a.1 = b.1 ∧ a.2 = b.2) := fun h => hne (Prod.ext h.1 h.2)
  omega

/-- the pushed pairs, one block per position of the scanned sequence -/
def pushed {β : Type} (n1 n2 k : Nat) (hashed scanned : List Nat) (h : Nat → Nat → β) : List β :=
  (List.range n2).flatMap (fun i =>
    ((List.range n1).filter (fun p => window k hashed p = window k scanned i)).map (h i))

theorem mem_pushed {β : Type} (n1 n2 k : Nat) (hashed scanned : List Nat) (h : Nat → Nat → β) (b : β) :
    b ∈ pushed n1 n2 k hashed scanned h ↔
      ∃ i p, i < n2 ∧ p < n1 ∧ window k hashed p = window k scanned i ∧ b = h i p := by
  unfold pushed
  simp only [List.mem_flatMap, List.mem_range, List.mem_map, List.mem_filter, decide_eq_true_eq]
  constructor
  · rintro ⟨i, hi, p, ⟨hp, hw⟩, rfl⟩; exact ⟨i, p, hi, hp, hw, rfl⟩
  · rintro ⟨i, p, hi, hp, hw, rfl⟩; exact ⟨i, hi, p, ⟨hp, hw⟩, rfl⟩

theorem pushed_nodup {β : Type} (n1 n2 k : Nat) (hashed scanned : List Nat) (h : Nat → Nat → β)
    (hinj : ∀ i p i' p', h i p = h i' p' → i = i' ∧ p = p') : (pushed n1 n2 k hashed scanned h).Nodup := by
  unfold pushed List.Nodup
  rw [List.pairwise_flatMap]
  constructor
  · intro i _
    rw [List.pairwise_map]
    have : (List.range n1).Pairwise (· < ·) := List.pairwise_lt_range
    apply (this.filter _).imp
    intro a b hab e
    have := (hinj _ _ _ _ e).2; omega
  · have : (List.range n2).Pairwise (· < ·) := List.pairwise_lt_range
    apply this.imp
    intro a b hab x hx y hy e
    rcases List.mem_map.mp hx with ⟨p, _, rfl⟩
    rcases List.mem_map.mp hy with ⟨q, _, rfl⟩
    have := (hinj _ _ _ _ e).1; omega

theorem seq1Hashed_eq (seq1 seq2 : List Nat) (k : Nat) :
    seq1Hashed (hashKmers seq1 k) seq2 k =
      (pushed (seq1.length + 1 - k) (seq2.length + 1 - k) k seq1 seq2 (fun i p => (p, i))).mergeSort pairLe := by
  unfold seq1Hashed
  refine Eq.trans (congrArg (fun l => l.mergeSort pairLe)
    (foldl_push_eq_flatMap (fun i => hmGet (window k seq2 i) (hashKmers seq1 k)) (fun i p => (p, i)) _ [])) ?_
  simp only [List.nil_append, hashKmers_get]
  rfl

theorem seq2Hashed_eq (seq1 seq2 : List Nat) (k : Nat) :
    seq2Hashed seq1 (hashKmers seq2 k) k =
      (pushed (seq2.length + 1 - k) (seq1.length + 1 - k) k seq2 seq1 (fun i p => (i, p))).mergeSort pairLe := by
  unfold seq2Hashed
  refine Eq.trans (congrArg (fun l => l.mergeSort pairLe)
    (foldl_push_eq_flatMap (fun i => hmGet (window k seq1 i) (hashKmers seq2 k)) (fun i p => (i, p)) _ [])) ?_
  simp only [List.nil_append, hashKmers_get]
  rfl

theorem seq1Hashed_correct (x y : List Nat) (k : Nat) : seq1Hashed (hashKmers x k) y k = kmerMatches x y k := by
  rw [seq1Hashed_eq]
  apply RbV.pairwise_eq_of_mem_iff lexLt lexLt_irrefl lexLt_asymm _ _ _ (kmerMatches_sorted x y k)
  · rintro ⟨i, j⟩
    rw [(List.mergeSort_perm _ _).mem_iff, mem_pushed, mem_kmerMatches]
    constructor
    · rintro ⟨i', p, hi, hp, hw, he⟩
      obtain ⟨rfl, rfl⟩ := Prod.mk.inj he
      exact ⟨by omega, by omega, hw⟩
    · rintro ⟨h1, h2, hw⟩
      exact ⟨j, i, by omega, by omega, hw, rfl⟩
  · apply mergeSort_pairLe_strict
    apply pushed_nodup
    intro i p i' p' e
    obtain ⟨h1, h2⟩ := Prod.mk.inj e
    exact ⟨h2, h1⟩

theorem seq2Hashed_correct (x y : List Nat) (k : Nat) : seq2Hashed x (hashKmers y k) k = kmerMatches x y k := by
  rw [seq2Hashed_eq]
  apply RbV.pairwise_eq_of_mem_iff lexLt lexLt_irrefl lexLt_asymm _ _ _ (kmerMatches_sorted x y k)
  · rintro ⟨i, j⟩
    rw [(List.mergeSort_perm _ _).mem_iff, mem_pushed, mem_kmerMatches]
    constructor
    · rintro ⟨i', p, hi, hp, hw, he⟩
      obtain ⟨rfl, rfl⟩ := Prod.mk.inj he
      exact ⟨by omega, by omega, hw.symm⟩
    · rintro ⟨h1, h2, hw⟩
      exact ⟨i, j, by omega, by omega, hw.symm, rfl⟩
  · apply mergeSort_pairLe_strict
    apply pushed_nodup
    intro i p i' p' e
    exact Prod.mk.inj e

theorem findKmerMatches_correct (x y : List Nat) (k : Nat) : findKmerMatches x y k = kmerMatches x y k := by
  unfold findKmerMatches
  split
  · exact seq1Hashed_correct x y k
  · exact seq2Hashed_correct x y k

end RbV.Lemmas.KmerHash
