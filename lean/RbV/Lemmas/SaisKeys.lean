import RbV.Lemmas.SaisInduceSpec
/-
The orders in which `calc_pos` sorts:

* `sufR t`   — the suffix order of `t` (second call: sorted LMS suffixes ⇒ sorted suffixes);
* `leKey t`  — the order of the *typed LMS substrings* `key t x` = symbols (with their L/S type) from `x` up to and
               including the next LMS position after `x` (first call: unsorted LMS positions ⇒ positions sorted by
               their LMS substring).  In the L pass of the first call an LMS position only counts with its first
               symbol (`keyL`, `leKeyL`: the third relation, the one the L pass of the first call is run with).
-/
namespace RbV.Sais

/-- symbol with its type: `(c, L) < (c, S) < (c+1, L)` -/
def enc (t : List Nat) (p : Nat) : Nat := 2 * sym t p + (if isS (tyOf t) p then 1 else 0)

/-- typed symbol and LMS flag of every position -/
def zs (t : List Nat) : List (Nat × Bool) := (List.range t.length).map (fun q => (enc t q, isLms (tyOf t) q))

theorem zs_drop (t : List Nat) (x : Nat) (hx : x < t.length) :
    (zs t).drop x = (enc t x, isLms (tyOf t) x) :: (zs t).drop (x + 1) := by
  have hl : x < (zs t).length := by unfold zs; simp; exact hx
  rw [List.drop_eq_getElem_cons hl]
  congr 1
  simp only [zs, List.getElem_map, List.getElem_range]

/-- typed symbols up to and including the first flagged one -/
def takeLms : List (Nat × Bool) → List Nat
  | [] => []
  | (e, f) :: r => e :: (if f then [] else takeLms r)

/-- typed LMS substring starting at `x` (for any position `x`): `x`, …, next LMS position after `x` -/
def key (t : List Nat) (x : Nat) : List Nat := enc t x :: takeLms ((zs t).drop (x + 1))

/-- in the L pass of the first call an LMS position counts with its first symbol only -/
def keyL (t : List Nat) (x : Nat) : List Nat := if isLms (tyOf t) x then [enc t x] else key t x

theorem key_head (t : List Nat) (x : Nat) : ∃ r, key t x = enc t x :: r := ⟨_, rfl⟩

theorem keyL_head (t : List Nat) (x : Nat) : ∃ r, keyL t x = enc t x :: r := by
  unfold keyL
  split
  · exact ⟨_, rfl⟩
  · exact ⟨_, rfl⟩

/-- `key x ≤ key y`; not strict on purpose: before the naming loop, positions with equal typed LMS substrings may stand in
any order -/
def leKey (t : List Nat) (x y : Nat) : Prop := ¬ lexLt (key t y) (key t x)

/-- `keyL x ≤ keyL y` -/
def leKeyL (t : List Nat) (x y : Nat) : Prop := ¬ lexLt (keyL t y) (keyL t x)

/-- suffix `x` is smaller than suffix `y` (the same relation as `sufLt t x y` of `Spec/SufOrder.lean`) -/
def sufR (t : List Nat) (x y : Nat) : Prop := lexLt (t.drop x) (t.drop y)

end RbV.Sais
