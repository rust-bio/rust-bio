import RbV.Lemmas.SaisTransform
/-
What the property C03 (and SA-IS) need of the output of `suffix_array::transform_text` — **not** the concrete numbers the
present Rust text happens to produce (docs/notes/C03.md, "transform_text modulo the sentinel order").

`Transform.Ok t tt`: `tt` has the length of `t`; every non-sentinel symbol is mapped to `rank + (sentinel_count − 1)`;
the sentinel occurrences get pairwise distinct values below `sentinel_count`, the final one the least
(`SentinelOrder t c (tt[·])`).  Any such `tt`
* compares positions like the key text of the property under the sentinel order it chose (`Ok.iso`), so a sorted
  suffix permutation of `tt` satisfies `IsSA t` (`Ok.isSA`), and
* is a text SA-IS accepts (`Ok.valid`: last symbol the unique minimum, dense alphabet — the sentinel values fill
  `0 … c−1` by pigeonhole).
`ok_transformText`: the mirror model (decreasing ranks) is one instance (hence `Sais.valid_transformText`);
`ok_transformTextUp`: ranks `(k+1) % c` for the `k`-th occurrence (seeded change C03-H1) is another.
-/
namespace RbV.Transform
open RbV RbV.Sais

structure Ok (t tt : List Nat) : Prop where
  len : tt.length = t.length
  sent : SentinelOrder t (t.count (sentinelOf t)) (fun p => tt.getD p 0)
  other : ∀ p, p < t.length → ¬ IsSentPos t p →
    tt.getD p 0 = rankOf t (t.getD p 0) + (t.count (sentinelOf t) - 1)

theorem ok_transformText (t : List Nat) (hne : t ≠ []) : Ok t (transformText t) := by
  refine ⟨length_transformText t, ?_, ?_⟩
  · have ho := sentinelOrder_rkAfter t hne
    have hv : ∀ p, IsSentPos t p → (transformText t).getD p 0 = rkAfter t p := by
      intro p hp
      rw [transformText_getD t p (sentPos_getD t p hp).1, if_pos hp]
    have hlast := isSentPos_last t hne
    refine ⟨?_, ?_, ?_⟩
    · intro p hp; rw [hv p hp]; exact ho.bound p hp
    · intro p q hp hq; rw [hv p hp, hv q hq]; exact ho.inj p q hp hq
    · intro q hq hne'; rw [hv q hq, hv _ hlast]; exact ho.last q hq hne'
  · intro p hp hns
    rw [transformText_getD t p hp, if_neg hns]

theorem Ok.iso {t tt : List Nat} (h : Ok t tt) (hne : t ≠ [])
    (hmin : ∀ p, p < t.length → sentinelOf t ≤ t.getD p 0) (p q : Nat) (hp : p < t.length) (hq : q < t.length) :
    (tt.getD p 0 < tt.getD q 0 ↔
      keyAt t (t.count (sentinelOf t)) (fun p => tt.getD p 0) p < keyAt t (t.count (sentinelOf t)) (fun p => tt.getD p 0) q) :=
  iso_of_values t tt _ h.sent (fun _ _ => rfl) h.other hne hmin p q hp hq

/-- **if SA-IS sorts `tt`, the result satisfies C03** (sentinel order: the one `tt` chose) -/
theorem Ok.isSA {t tt : List Nat} (h : Ok t tt) (hne : t ≠ [])
    (hmin : ∀ p, p < t.length → sentinelOf t ≤ t.getD p 0) (sa : List Nat) (hs : SuffixSorted tt sa) : IsSA t sa :=
  isSA_of_iso t tt sa _ h.sent h.len (h.iso hne hmin) hs

def sentPosList (t : List Nat) : List Nat := (List.range t.length).filter (fun p => decide (IsSentPos t p))

theorem mem_sentPosList (t : List Nat) (p : Nat) : p ∈ sentPosList t ↔ IsSentPos t p := by
  unfold sentPosList
  rw [List.mem_filter, List.mem_range, decide_eq_true_eq]
  exact ⟨fun h => h.2, fun h => ⟨(sentPos_getD t p h).1, h⟩⟩

theorem length_positions_eq_count (l : List Nat) (s : Nat) :
    ((List.range l.length).filter (fun p => decide (l[p]? = some s))).length = l.count s := by
  induction l with
  | nil => simp
  | cons a l ih =>
    rw [List.length_cons, List.range_succ_eq_map, List.filter_cons, List.filter_map, List.count_cons]
    have e : ((fun p => decide ((a :: l)[p]? = some s)) ∘ Nat.succ) = (fun p => decide (l[p]? = some s)) := by
      funext p; simp
    rw [e]
    by_cases h : a = s <;> simp [h, ih]

theorem length_sentPosList (t : List Nat) : (sentPosList t).length = t.count (sentinelOf t) :=
  length_positions_eq_count t (sentinelOf t)

/-- the sentinel values of an `Ok` text fill `0 … c − 1` -/
theorem Ok.sent_surj {t tt : List Nat} (h : Ok t tt) (c : Nat) (hc : c < t.count (sentinelOf t)) :
    ∃ p, IsSentPos t p ∧ tt.getD p 0 = c := by
  have hnd : ((sentPosList t).map (fun p => tt.getD p 0)).Nodup := by
    unfold List.Nodup
    rw [List.pairwise_map]
    have hnd0 : (sentPosList t).Pairwise (· ≠ ·) := List.Pairwise.filter _ List.nodup_range
    refine List.Pairwise.imp_of_mem ?_ hnd0
    intro a b ha hb hab he
    exact hab (h.sent.inj a b ((mem_sentPosList t a).mp ha) ((mem_sentPosList t b).mp hb) he)
  have := nodup_subset_surj ((sentPosList t).map (fun p => tt.getD p 0)) (List.range (t.count (sentinelOf t))) hnd
    (by
      intro x hx
      obtain ⟨p, hp, rfl⟩ := List.mem_map.mp hx
      rw [List.mem_range]
      exact h.sent.bound p ((mem_sentPosList t p).mp hp))
    (by rw [List.length_map, length_sentPosList, List.length_range]; exact Nat.le_refl _)
    c (List.mem_range.mpr hc)
  obtain ⟨p, hp, he⟩ := List.mem_map.mp this
  exact ⟨p, (mem_sentPosList t p).mp hp, he⟩

/-- an `Ok` text is one SA-IS accepts: non-empty, last symbol the unique minimum, dense alphabet -/
theorem Ok.valid {t tt : List Nat} (h : Ok t tt) (hne : t ≠ [])
    (hmin : ∀ p, p < t.length → sentinelOf t ≤ t.getD p 0) : Valid tt := by
  have hpos : 0 < t.length := List.length_pos_iff.mpr hne
  obtain ⟨o, ho⟩ : ∃ o, t.count (sentinelOf t) = o + 1 :=
    ⟨_, (Nat.succ_pred_eq_of_pos (List.count_pos_iff.mpr (sentinelOf_mem t hne))).symm⟩
  have hother : ∀ p, p < t.length → ¬ IsSentPos t p → tt.getD p 0 = rankOf t (t.getD p 0) + o := by
    intro p hp hs; rw [h.other p hp hs, ho, Nat.add_sub_cancel]
  have hrank := rankOf_pos_of_not_sent t hne hmin
  have hmemT : ∀ p, p < t.length → tt.getD p 0 ∈ tt := fun p hp => List.getD_mem _ p 0 (by rw [h.len]; exact hp)
  -- the last value is 0: some sentinel position holds 0, and the last one is the least
  have hlast0 : tt.getD (t.length - 1) 0 = 0 := by
    obtain ⟨p, hp, he⟩ := h.sent_surj 0 (by omega)
    by_cases hpe : p = t.length - 1
    · rw [← hpe]; exact he
    · have := h.sent.last p hp hpe
      omega
  refine ⟨by rw [h.len]; exact hpos, ?_, ?_⟩
  · intro i hi
    rw [h.len] at hi ⊢
    unfold sym
    rw [hlast0]
    by_cases hs : IsSentPos t i
    · have := h.sent.last i hs (by omega)
      omega
    · rw [hother i (by omega) hs]
      have := hrank i (by omega) hs
      omega
  · intro c x hx hcx
    by_cases hc : c < t.count (sentinelOf t)
    · obtain ⟨p, hp, he⟩ := h.sent_surj c hc
      rw [← he]
      exact hmemT p (sentPos_getD t p hp).1
    · obtain ⟨p, hp, rfl⟩ := List.exists_getD_of_mem _ 0 hx
      rw [h.len] at hp
      by_cases hs : IsSentPos t p
      · have := h.sent.bound p hs
        omega
      · rw [hother p hp hs] at hcx
        -- `c = r + o` with `1 ≤ r ≤ rankOf t (t.getD p 0)`: a symbol of rank `r` occurs, at a non-sentinel position
        obtain ⟨r, rfl⟩ : ∃ r, c = r + o := ⟨c - o, by omega⟩
        obtain ⟨b, hb, hbr⟩ : ∃ b, b ∈ t ∧ rankOf t b = r := by
          rcases Nat.lt_or_eq_of_le (Nat.le_of_add_le_add_right hcx) with hlt | heq
          · obtain ⟨b, hb1, _, hb3⟩ := exists_rankOf_eq t _ r hlt
            exact ⟨b, hb1, hb3⟩
          · exact ⟨_, List.getD_mem t p 0 hp, heq.symm⟩
        obtain ⟨q, hq, rfl⟩ := List.exists_getD_of_mem t 0 hb
        have hns : ¬ IsSentPos t q := fun hs' =>
          ne_sentinel_of_rank_pos t hmin _ (by omega) ((isSentPos_iff t q hq).mp hs')
        rw [← hbr, ← hother q hq hns]
        exact hmemT q hq

/-- `transform_text` hands SA-IS a text it accepts -/
theorem _root_.RbV.Sais.valid_transformText (t : List Nat) (hne : t ≠ [])
    (hmin : ∀ p, p < t.length → sentinelOf t ≤ t.getD p 0) : Valid (transformText t) :=
  (ok_transformText t hne).valid hne hmin

/-! ### another instance: ranks counted up modulo the count (seeded change C03-H1) -/

/-- `s += 1; push(s % c)` for a sentinel, `push(rank + offset)` otherwise -/
def transformGoUp (rk : Nat → Nat) (sent offset c : Nat) : List Nat → Nat → List Nat
  | [], _ => []
  | a :: as, s =>
    if a = sent then ((s + 1) % c) :: transformGoUp rk sent offset c as (s + 1)
    else (rk a + offset) :: transformGoUp rk sent offset c as s

def transformTextUp (t : List Nat) : List Nat :=
  transformGoUp (rankOf t) (sentinelOf t) (t.count (sentinelOf t) - 1) (t.count (sentinelOf t)) t 0

theorem length_transformGoUp (rk : Nat → Nat) (sent offset c : Nat) (xs : List Nat) (s : Nat) :
    (transformGoUp rk sent offset c xs s).length = xs.length := by
  induction xs generalizing s with
  | nil => rfl
  | cons a as ih => simp only [transformGoUp]; split <;> simp [ih]

theorem transformGoUp_getD (rk : Nat → Nat) (sent offset c : Nat) (xs : List Nat) (s i : Nat) (hi : i < xs.length) :
    (transformGoUp rk sent offset c xs s).getD i 0 =
      if xs.getD i 0 = sent then (s + xs.count sent - (xs.drop (i + 1)).count sent) % c else rk (xs.getD i 0) + offset := by
  induction xs generalizing i s with
  | nil => simp at hi
  | cons a as ih =>
    simp only [transformGoUp]
    by_cases ha : a = sent
    · subst ha
      rw [if_pos rfl]
      cases i with
      | zero =>
        simp only [List.getD_cons_zero, if_true, List.count_cons_self, Nat.zero_add, List.drop_succ_cons, List.drop_zero]
        congr 1; omega
      | succ i =>
        have := ih (s + 1) i (by simpa using hi)
        simp only [List.getD_cons_succ, List.count_cons_self, List.drop_succ_cons] at this ⊢
        rw [this]
        split
        · congr 1; omega
        · rfl
    · have hc : (a :: as).count sent = as.count sent := by rw [List.count_cons]; simp [ha]
      rw [if_neg ha, hc]
      cases i with
      | zero => simp [ha]
      | succ i =>
        have := ih s i (by simpa using hi)
        simpa using this

theorem count_take_drop (t : List Nat) (s k : Nat) : (t.take k).count s + (t.drop k).count s = t.count s := by
  rw [← List.count_append, List.take_append_drop]

/-- ranks `1, 2, …, c−1` in text order and `0` for the final sentinel: an instance of the specification -/
theorem ok_transformTextUp (t : List Nat) (hne : t ≠ []) : Ok t (transformTextUp t) := by
  have ho := sentinelOrder_rkAfter t hne
  have hlast := isSentPos_last t hne
  have hcnt : 0 < t.count (sentinelOf t) := List.count_pos_iff.mpr (sentinelOf_mem t hne)
  have hv : ∀ p, IsSentPos t p →
      (transformTextUp t).getD p 0 = (t.count (sentinelOf t) - rkAfter t p) % t.count (sentinelOf t) := by
    intro p hp
    obtain ⟨hpl, hpv⟩ := sentPos_getD t p hp
    unfold transformTextUp rkAfter
    rw [transformGoUp_getD _ _ _ _ t 0 p hpl, if_pos hpv, Nat.zero_add]
  refine ⟨length_transformGoUp _ _ _ _ t 0, ⟨?_, ?_, ?_⟩, ?_⟩
  · intro p hp; rw [hv p hp]; exact Nat.mod_lt _ hcnt
  · intro p q hp hq
    rw [hv p hp, hv q hq]
    intro he
    have b1 := ho.bound p hp
    have b2 := ho.bound q hq
    apply ho.inj p q hp hq
    by_cases h1 : rkAfter t p = 0 <;> by_cases h2 : rkAfter t q = 0
    · omega
    · rw [h1, Nat.sub_zero, Nat.mod_self, Nat.mod_eq_of_lt (by omega)] at he; omega
    · rw [h2, Nat.sub_zero, Nat.mod_self, Nat.mod_eq_of_lt (by omega)] at he; omega
    · rw [Nat.mod_eq_of_lt (by omega), Nat.mod_eq_of_lt (by omega)] at he; omega
  · intro q hq hne'
    rw [hv q hq, hv _ hlast, rkAfter_last, Nat.sub_zero, Nat.mod_self]
    have b2 := ho.bound q hq
    have := ho.last q hq hne'
    rw [rkAfter_last] at this
    rw [Nat.mod_eq_of_lt (by omega)]
    omega
  · intro p hp hns
    have : ¬ t.getD p 0 = sentinelOf t := fun e => hns ((isSentPos_iff t p hp).mpr e)
    unfold transformTextUp
    rw [transformGoUp_getD _ _ _ _ t 0 p hp, if_neg this]

end RbV.Transform
