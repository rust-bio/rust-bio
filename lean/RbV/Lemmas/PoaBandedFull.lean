import RbV.Model.PoaBanded
import RbV.Lemmas.PoaTopo
import RbV.Lemmas.PoaTrace
/-!
# `global_banded` with a band that covers the whole table computes the table of `global`

Model-level proof of the banded clause: for a DAG with `m` nodes, a query of length `n`, bandwidth
`≥ n`, default (`MIN_SCORE`) clip penalties, `gap ≤ 0` and no score reaching down to `MIN_SCORE`
(`MIN_SCORE < (m + n + 1)·gap`), every row of `bandedRows` starts at column 0, covers all `n + 1` columns and
holds exactly the cells (scores *and* operations) of `dpRows`; hence the same reported score.
The row lemma is stated for any fold start at `MIN_SCORE` (`cCand_eq`, `cCands_eq`) and the loop invariant has its part
about rows apart (`RInv`), because `custom` with `MIN_SCORE` clips (`PoaCustomGlobal.lean`) needs the same.
-/
namespace RbV.Poa.Model
open RbV.NW

/-! ## a full-band row against the row of the global table -/

/-- the rows of the banded table that coincide with a full row `L` of the global table -/
structure Rep (n : Nat) (b : BRow) (L : List Cell) : Prop where
  start : b.start = 0
  stop : n + 1 ≤ b.stop
  cells : b.cells = L
  len : L.length = n + 1

theorem Rep.get {n : Nat} {b : BRow} {L : List Cell} (h : Rep n b L) (j : Nat) (hj : j ≤ n) :
    b.get j = L.getD j mcell := by
  have h2 := h.stop
  have := b.get_inband j (by rw [h.start]; exact Nat.zero_le j) (by omega) (by rw [h.start, h.cells, h.len]; omega)
  rwa [h.start, h.cells] at this

/-- the predecessor step of the banded loop on a full-band row offers `pcG` -/
theorem bpc_eq (sc : Sc) (query : List Nat) (v r : Nat) (Lp : Nat → List Cell) (Bp : Nat → BRow) (j p : Nat) (acc : Cell)
    (hj : j < query.length) (hp : Rep query.length (Bp p) (Lp p)) :
    predStep sc v r (query.getD (j + 1 - 1) 0) (j + 1) acc (p, Bp p) = cmax acc (pcG sc query v r Lp j p) := by
  simp only [predStep, Nat.add_sub_cancel, pcG]
  rw [hp.get j (by omega), hp.get (j + 1) (by omega)]

theorem cCand_eq (sc : Sc) (init : Cell) (hinit : init.score = minScore) (query : List Nat) (r0 : List Cell) (r0b : BRow)
    (v r : Nat) (ps : List Nat) (Lp : Nat → List Cell) (Bp : Nat → BRow) (j : Nat) (hj : j < query.length)
    (h0 : Rep query.length r0b r0) (hp : ∀ p ∈ ps, Rep query.length (Bp p) (Lp p))
    (hlow : ∀ p ∈ ps, minScore ≤ ((Lp p).getD (j + 1) mcell).score + sc.gap) :
    cCand sc init query r0b v r (ps.map fun p => (p, Bp p)) (j + 1) = gCol sc query r0 v r Lp j ps := by
  cases ps with
  | nil =>
    simp only [List.map_nil, cCand, Nat.add_sub_cancel, gCol]
    rw [h0.get j (by omega)]
  | cons p rest =>
    simp only [List.map_cons, cCand_cons, List.foldl_cons, gCol]
    rw [bpc_eq sc query v r Lp Bp j p init hj (hp p (by simp))]
    have hfirst : cmax init (pcG sc query v r Lp j p) = pcG sc query v r Lp j p := by
      apply cmax_left_low
      have h1 := cmax_score_ge_right
        (⟨((Lp p).getD j mcell).score + sc.w r (query.getD j 0), .m (some (p, v))⟩ : Cell)
        ⟨((Lp p).getD (j + 1) mcell).score + sc.gap, .d (some (p, v + 1))⟩
      have h2 := hlow p (by simp)
      simp only [pcG, mcell] at h1 h2 ⊢
      omega
    rw [hfirst, List.foldl_map]
    exact foldl_congr_mem _ _ rest _ fun x hx a => bpc_eq sc query v r Lp Bp j x a hj (hp x (List.mem_cons_of_mem _ hx))

/-- the candidates of a row whose fold starts from a cell at `MIN_SCORE` are those of the clip-free row -/
theorem cCands_eq (sc : Sc) (init : Cell) (hinit : init.score = minScore) (query : List Nat) (r0 : List Cell) (r0b : BRow)
    (v r : Nat) (ps : List Nat) (Lp : Nat → List Cell) (Bp : Nat → BRow)
    (h0 : Rep query.length r0b r0) (hp : ∀ p ∈ ps, Rep query.length (Bp p) (Lp p))
    (hlow : ∀ p ∈ ps, ∀ j, j ≤ query.length → minScore ≤ ((Lp p).getD j mcell).score + sc.gap) :
    (List.range' 1 query.length).map (cCand sc init query r0b v r (ps.map fun p => (p, Bp p))) =
      nodeCands sc query r0 v r (ps.map fun p => (p, Lp p)) := by
  obtain ⟨g1, g2⟩ := nodeCands_spec sc query r0 v r ps Lp h0.len (fun p h => (hp p h).len)
  apply list_ext_getD mcell
  · rw [g1]; simp
  · intro j hj
    simp only [List.length_map, List.length_range'] at hj
    rw [g2 j hj]
    have : ((List.range' 1 query.length).map (cCand sc init query r0b v r (ps.map fun p => (p, Bp p)))).getD j mcell =
        cCand sc init query r0b v r (ps.map fun p => (p, Bp p)) (j + 1) := by
      simp [List.getD_eq_getElem?_getD, hj, Nat.add_comm]
    rw [this]
    exact cCand_eq sc init hinit query r0 r0b v r ps Lp Bp j hj h0 hp (fun p h => hlow p h (j + 1) (by omega))

/-- the `Xclip(0)` candidate of the first cell loses against `Del(None)` -/
theorem edgeCell_minclip (sc : Sc) (v : Nat) (hc0 : minScore < ((v : Int) + 1) * sc.gap) :
    cmax (⟨((v : Int) + 1) * sc.gap, .d none⟩ : Cell) ⟨minScore, .x 0⟩ = col0 sc.gap v := by
  rw [cmax_right_low _ _ (by simpa using hc0)]; rfl

theorem bNodeRow_cells (sc : Sc) (query : List Nat) (r0 : List Cell) (r0b : BRow) (v r : Nat) (ps : List Nat)
    (Lp : Nat → List Cell) (Bp : Nat → BRow) (end_ : Nat) (hend : query.length ≤ end_)
    (h0 : Rep query.length r0b r0) (hp : ∀ p ∈ ps, Rep query.length (Bp p) (Lp p))
    (hlow : ∀ p ∈ ps, ∀ j, j ≤ query.length → minScore ≤ ((Lp p).getD j mcell).score + sc.gap)
    (hc0 : minScore < ((v : Int) + 1) * sc.gap) :
    (bNodeRow sc minScore query r0b v r (ps.map fun p => (p, Bp p)) 0 end_).cells =
      nodeRow sc query r0 v r (ps.map fun p => (p, Lp p)) := by
  have hb : bCand sc query r0b v r (ps.map fun p => (p, Bp p)) = cCand sc mcell query r0b v r (ps.map fun p => (p, Bp p)) :=
    funext (bCand_eq_cCand sc query r0b v r _)
  rw [nodeRow_eq]
  simp only [bNodeRow, if_true, Nat.sub_zero, Nat.zero_add]
  rw [edgeCell_minclip sc v hc0, Nat.min_eq_left hend, hb, cCands_eq sc mcell rfl query r0 r0b v r ps Lp Bp h0 hp hlow]

/-! ## magnitudes: nothing reaches down to `MIN_SCORE` -/

/-- `k ↦ k · gap` falls (`gap ≤ 0`): above `MIN_SCORE` at `K`, above it at every `k ≤ K` -/
theorem low_of (gap : Int) (hg : gap ≤ 0) (k K : Nat) (hk : k ≤ K) (h : minScore < (K : Int) * gap) :
    minScore < (k : Int) * gap := by
  have : (K : Int) * gap ≤ (k : Int) * gap := Int.mul_le_mul_of_nonpos_right (by omega) hg
  omega

theorem row0From_eq (gap : Int) : ∀ (n k : Nat), (∀ j, k + 1 ≤ j → j ≤ k + n → minScore < (j : Int) * gap) →
    (List.range' (k + 1) n).map (fun (j : Nat) => cmax (⟨(j : Int) * gap, .i none⟩ : Cell) ⟨minScore, .y 0 j⟩) =
      row0From gap k n := by
  intro n
  induction n with
  | zero => intro k _; rfl
  | succ n ih =>
    intro k h
    simp only [List.range'_succ, List.map_cons, row0From]
    rw [cmax_right_low _ _ (by simpa using h (k + 1) (by omega) (by omega))]
    congr 1
    exact ih (k + 1) (fun j h1 h2 => h j (by omega) (by omega))

theorem bRow0_rep (gap : Int) (n : Nat) (h : ∀ j, 1 ≤ j → j ≤ n → minScore < (j : Int) * gap) :
    Rep n (bRow0 gap minScore n) (row0 gap n) := by
  refine ⟨rfl, Nat.le_refl _, ?_, by simp [row0, length_row0From]⟩
  simp only [bRow0, row0]
  congr 1
  exact row0From_eq gap n 0 (fun j h1 h2 => h j (by omega) (by omega))

/-! ## the loop invariants `RInv`, `BInv` -/

/-- every node of `order` has its predecessors among `done` and the nodes listed before it -/
def FwdClosed (es : WEdges) : List Nat → List Nat → Prop
  | _, [] => True
  | done, v :: rest => (∀ p ∈ inN es v, p ∈ done) ∧ FwdClosed es (v :: done) rest

theorem fwdClosed_mono (es : WEdges) : ∀ (l d1 d2 : List Nat), (∀ x ∈ d1, x ∈ d2) → FwdClosed es d1 l → FwdClosed es d2 l := by
  intro l
  induction l with
  | nil => intro _ _ _ _; trivial
  | cons v l ih =>
    intro d1 d2 hs h
    refine ⟨fun p hp => hs p (h.1 p hp), ih (v :: d1) (v :: d2) ?_ h.2⟩
    intro x hx
    rcases List.mem_cons.mp hx with h | h
    · subst h; simp
    · exact List.mem_cons_of_mem _ (hs x h)

/-- the part of the loop invariants that `global_banded` with a full band and `custom` with `MIN_SCORE` clips share: the rows
computed so far represent those of the clip-free table, whose cells are bounded from below -/
structure RInv (sc : Sc) (m n : Nat) (done : List Nat) (rowsG : Array (List Cell)) (rows : Array BRow) : Prop where
  sizeG : rowsG.size = m
  sizeB : rows.size = m
  rep : ∀ u ∈ done, Rep n (rows.getD u (emptyRow n)) (rowsG.getD u [])
  low : ∀ u ∈ done, ∀ j, j ≤ n → ((u : Int) + 1 + j) * sc.gap ≤ ((rowsG.getD u []).getD j mcell).score

theorem RInv.pred_low {sc : Sc} {m n : Nat} {done : List Nat} {rowsG : Array (List Cell)} {rows : Array BRow}
    (inv : RInv sc m n done rowsG rows) (hg : sc.gap ≤ 0) (hmin : minScore < ((m + n + 1 : Nat) : Int) * sc.gap)
    (p : Nat) (hp : p ∈ done) (hpm : p < m) (j : Nat) (hj : j ≤ n) :
    minScore ≤ ((rowsG.getD p []).getD j mcell).score + sc.gap := by
  have h1 := inv.low p hp j hj
  have h3 := low_of sc.gap hg (p + 1 + j + 1) _ (by omega) hmin
  have e : (((p + 1 + j + 1 : Nat) : Int)) * sc.gap = ((p : Int) + 1 + j) * sc.gap + sc.gap := by
    have : ((p + 1 + j + 1 : Nat) : Int) = ((p : Int) + 1 + j) + 1 := by omega
    rw [this, Int.add_mul, Int.one_mul]
  omega

theorem col0_low {gap : Int} {m n v : Nat} (hg : gap ≤ 0) (hmin : minScore < ((m + n + 1 : Nat) : Int) * gap) (hv : v < m) :
    minScore < ((v : Int) + 1) * gap := by
  have := low_of gap hg (v + 1) _ (by omega) hmin
  have e : ((v + 1 : Nat) : Int) = (v : Int) + 1 := by omega
  rw [e] at this; exact this

theorem RInv.step {sc : Sc} {m n : Nat} {done : List Nat} {rowsG : Array (List Cell)} {rows : Array BRow}
    (inv : RInv sc m n done rowsG rows) {v : Nat} (hv : v < m) (row : BRow) (L : List Cell) (hrep : Rep n row L)
    (hlow : ∀ j, j ≤ n → ((v : Int) + 1 + j) * sc.gap ≤ (L.getD j mcell).score) :
    RInv sc m n (v :: done) (rowsG.setIfInBounds v L) (rows.setIfInBounds v row) := by
  refine ⟨by simpa using inv.sizeG, by simpa using inv.sizeB, ?_, ?_⟩
  · intro u hu
    by_cases huv : u = v
    · subst huv
      rw [getD_setIfInBounds_self rowsG (inv.sizeG ▸ hv), getD_setIfInBounds_self rows (inv.sizeB ▸ hv)]
      exact hrep
    · rw [getD_setIfInBounds_ne _ huv, getD_setIfInBounds_ne _ huv]
      exact inv.rep u ((List.mem_cons.mp hu).resolve_left huv)
  · intro u hu j hj
    by_cases huv : u = v
    · subst huv
      rw [getD_setIfInBounds_self rowsG (inv.sizeG ▸ hv)]
      exact hlow j hj
    · rw [getD_setIfInBounds_ne _ huv]
      exact inv.low u ((List.mem_cons.mp hu).resolve_left huv) j hj

structure BInv (sc : Sc) (m n : Nat) (done : List Nat) (rowsG : Array (List Cell)) (st : BState) : Prop
    extends RInv sc m n done rowsG st.rows where
  msj : st.msj ≤ n

theorem banded_step (sc : Sc) (labels : List Nat) (es : WEdges) (query : List Nat) (bw : Nat)
    (hbw : query.length ≤ bw) (hg : sc.gap ≤ 0)
    (hmin : minScore < ((labels.length + query.length + 1 : Nat) : Int) * sc.gap)
    (done : List Nat) (rowsG : Array (List Cell)) (st : BState) (v : Nat) (hpred : ∀ p ∈ inN es v, p ∈ done)
    (hdone : ∀ u ∈ done, u < labels.length) (hv : v < labels.length)
    (inv : BInv sc labels.length query.length done rowsG st) :
    BInv sc labels.length query.length (v :: done)
      (rowsG.setIfInBounds v (nodeRow sc query (row0 sc.gap query.length) v (labels.getD v 0)
        ((inN es v).map fun p => (p, rowsG.getD p []))))
      (bStep sc minScore labels es query bw (bRow0 sc.gap minScore query.length) st v) := by
  have h0 : Rep query.length (bRow0 sc.gap minScore query.length) (row0 sc.gap query.length) :=
    bRow0_rep sc.gap query.length (fun j _ h2 => low_of sc.gap hg j _ (by omega) hmin)
  have hp : ∀ p ∈ inN es v, Rep query.length (st.rows.getD p (emptyRow query.length)) (rowsG.getD p []) :=
    fun p hp => inv.rep p (hpred p hp)
  have hstart : (if bw > st.msj then 0 else st.msj - bw) = 0 := by
    have := inv.msj
    split <;> omega
  have hcells := bNodeRow_cells sc query (row0 sc.gap query.length) (bRow0 sc.gap minScore query.length) v
    (labels.getD v 0) (inN es v) (fun p => rowsG.getD p []) (fun p => st.rows.getD p (emptyRow query.length))
    (st.msj + bw) (by omega) h0 hp
    (fun p hp => inv.toRInv.pred_low hg hmin p (hpred p hp) (hdone p (hpred p hp))) (col0_low hg hmin hv)
  have hlen := nodeRow_length sc query (row0 sc.gap query.length) v (labels.getD v 0) (inN es v)
    (fun p => rowsG.getD p []) h0.len (fun p h => (hp p h).len)
  refine ⟨?_, ?_⟩
  · simp only [bStep, hstart]
    exact inv.toRInv.step hv _ _ ⟨rfl, by simp [bNodeRow]; omega, hcells, hlen⟩
      (fun j hj => nodeRow_low sc query _ v _ _ j (by rw [hlen]; omega))
  · simp only [bStep, hstart]
    apply bUpdate_le
    · exact inv.msj
    · rw [hcells, List.length_tail, hlen]; omega

/-- **full band ⇒ the score of `global`** (model level).  Only `|query| ≤ bandwidth` is needed: the band is
centred on a column `≤ |query|`. -/
theorem bandedScore_full (sc : Sc) (labels : List Nat) (es : WEdges) (query : List Nat) (bw : Nat)
    (hd : Dag { labels := labels, es := es }) (hbw : query.length ≤ bw) (hg : sc.gap ≤ 0)
    (hmin : minScore < ((labels.length + query.length + 1 : Nat) : Int) * sc.gap) :
    bandedScore sc minScore minScore labels es query bw = (globalAlign sc labels es query).1 := by
  obtain ⟨done, inv, hlast, _⟩ := dag_fold hd _ _ (BInv sc labels.length query.length)
    (banded_step sc labels es query bw hbw hg hmin) (Array.replicate labels.length [])
    { rows := Array.replicate labels.length (emptyRow query.length), msj := 0, msr := minScore }
    ⟨⟨by simp, by simp, by simp, by simp⟩, Nat.zero_le _⟩
  have hrep := inv.rep _ hlast
  simp only [bandedScore, bandedRows, globalAlign, dpRows, Table.cell]
  rw [hrep.get query.length (Nat.le_refl _)]
  simp only [Nat.add_sub_cancel, Nat.succ_ne_zero, if_false]
  congr 1
  apply getD_default_irrel
  rw [hrep.len]; omega

end RbV.Poa.Model
