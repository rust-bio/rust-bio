import RbV.Model.Bom
/-!
# The factor-oracle theorem for the mirror model of `BOM::new`

`Bom.build p` runs the online oracle construction on `w = p.reverse`.  We prove that after every round the pair
`(table, suff)` satisfies the invariant `Inv u T suff` (`u` = the prefix of `w` processed so far):

* `suff[q] = some q'` implies `q' < q`, and every state `1..n` has a supply state;
* the inner transitions `j --u[j]--> j+1` exist;
* every table entry `q --a--> r` has `q < r ≤ n`, and `r = q+1` only for `a = u[q]`;
* **supply clause**: if `q --a--> r` and `S(q) = q'`, then `q'` has an `a`-transition too, and its target lies on
  the suffix path `r, S(r), S(S(r)), …` of `r`.

From the first, second and fourth clause one gets, by induction on `j`, that every suffix of `u[0..j)` is accepted from state 0
and ends in a state on the suffix path of `j` — hence every factor of `w` is accepted (Allauzen–Crochemore–Raffinot,
"the oracle accepts at least the factors").  The entry clause is `monotoneB`.

After the oracle theorem the file holds what rests on it: `findAll_eq_occurrences` (BOM is exact), the construction with
explicit panics (`buildS_eq_build`), and the search with the text indexed as in the Rust code (`scanS_eq`, `searchS_eq`,
`findAllS_eq_occurrences`).  Core Lean only.
-/
namespace RbV.Bom

/-! ### suffix paths -/

/-- `OnPath suff q r`: `r` lies on the suffix path `q, S(q), S(S(q)), …` -/
inductive OnPath (suff : List (Option Nat)) : Nat → Nat → Prop
  | refl (q : Nat) : OnPath suff q q
  | step (q q' r : Nat) : suff[q]? = some (some q') → OnPath suff q' r → OnPath suff q r

theorem OnPath.trans {suff : List (Option Nat)} {q r s : Nat} (h1 : OnPath suff q r) (h2 : OnPath suff r s) :
    OnPath suff q s := by
  induction h1 with
  | refl _ => exact h2
  | step q q' r hq _ ih => exact OnPath.step q q' s hq (ih h2)

theorem OnPath.append {suff : List (Option Nat)} {q r : Nat} (x : List (Option Nat)) (h : OnPath suff q r) :
    OnPath (suff ++ x) q r := by
  induction h with
  | refl _ => exact OnPath.refl _
  | step q q' r hq _ ih =>
    refine OnPath.step q q' r ?_ ih
    have : q < suff.length := (List.getElem?_eq_some_iff.mp hq).1
    rw [List.getElem?_append_left this]; exact hq

/-! ### transitions of an extended table (`tinsert`, a new last state) -/

theorem delta_eq_some {T : Table} {q a r : Nat} (h : delta T q a = some r) :
    ∃ l, T[q]? = some l ∧ lookup l a = some r := by
  unfold delta at h
  cases hT : T[q]? with
  | none => simp [hT] at h
  | some l => exact ⟨l, rfl, by simpa [hT] using h⟩

theorem delta_of_getElem? {T : Table} {q a : Nat} {l : List (Nat × Nat)} (h : T[q]? = some l) :
    delta T q a = lookup l a := by
  unfold delta; rw [h]

theorem delta_lt_length {T : Table} {q a r : Nat} (h : delta T q a = some r) : q < T.length := by
  obtain ⟨l, hl, _⟩ := delta_eq_some h
  exact (List.getElem?_eq_some_iff.mp hl).1

theorem delta_none_of_ge {T : Table} {q a : Nat} (h : T.length ≤ q) : delta T q a = none := by
  unfold delta; rw [List.getElem?_eq_none h]

theorem getElem?_tinsert (T : Table) (k a i q : Nat) :
    (tinsert T k a i)[q]? = if q = k then (T[q]?).map (fun l => (a, i) :: l) else T[q]? := by
  unfold tinsert
  by_cases h : q = k
  · subst h; simp
  · rw [List.getElem?_modify_ne _ _ (fun e => h e.symm)]; simp [h]

theorem length_tinsert (T : Table) (k a i : Nat) : (tinsert T k a i).length = T.length := by
  unfold tinsert; simp

theorem delta_tinsert_self (T : Table) (k a i : Nat) (hk : k < T.length) :
    delta (tinsert T k a i) k a = some i := by
  unfold delta
  rw [getElem?_tinsert]
  simp [List.getElem?_eq_getElem hk, lookup]

theorem delta_tinsert_other (T : Table) (k a i q b : Nat) (h : q ≠ k ∨ b ≠ a) :
    delta (tinsert T k a i) q b = delta T q b := by
  unfold delta
  rw [getElem?_tinsert]
  by_cases hq : q = k
  · subst hq
    have hb : ¬ a = b := by
      rcases h with h | h
      · exact absurd rfl h
      · exact fun e => h e.symm
    cases hT : T[q]? with
    | none => simp
    | some l => simp [lookup, hb]
  · simp [hq]

theorem delta_tinsert_eq_some {T : Table} {k a i q b r : Nat} (hk : k < T.length) (hno : delta T k a = none) :
    delta (tinsert T k a i) q b = some r ↔ delta T q b = some r ∨ (q = k ∧ b = a ∧ r = i) := by
  by_cases h : q = k ∧ b = a
  · obtain ⟨rfl, rfl⟩ := h
    rw [delta_tinsert_self T q b i hk, hno, Option.some.injEq]
    exact ⟨fun e => Or.inr ⟨rfl, rfl, e.symm⟩, fun h' => h'.elim nofun fun ⟨_, _, e⟩ => e.symm⟩
  · rw [delta_tinsert_other T k a i q b (Decidable.not_and_iff_not_or_not.mp h)]
    exact ⟨Or.inl, fun h' => h'.elim id fun ⟨hq, hb, _⟩ => absurd ⟨hq, hb⟩ h⟩

theorem mem_tinsert {T : Table} {k a i q : Nat} {l : List (Nat × Nat)} {e : Nat × Nat}
    (hl : (tinsert T k a i)[q]? = some l) (he : e ∈ l) :
    (∃ l0, T[q]? = some l0 ∧ e ∈ l0) ∨ (q = k ∧ e = (a, i)) := by
  rw [getElem?_tinsert] at hl
  split at hl
  · obtain ⟨l0, h0, rfl⟩ := Option.map_eq_some_iff.mp hl
    rcases List.mem_cons.mp he with he | he
    · exact Or.inr ⟨‹_›, he⟩
    · exact Or.inl ⟨l0, h0, he⟩
  · exact Or.inl ⟨l, hl, he⟩

theorem lookup_single {a i b r : Nat} (h : lookup [(a, i)] b = some r) : b = a ∧ r = i := by
  simp only [lookup] at h
  split at h
  · rename_i hb; simp at h; exact ⟨hb.symm, h.symm⟩
  · simp at h

theorem getElem?_snoc_eq_some {α : Type} {l : List α} {x y : α} {q : Nat} :
    (l ++ [x])[q]? = some y ↔ l[q]? = some y ∨ (q = l.length ∧ x = y) := by
  rcases Nat.lt_trichotomy q l.length with h | h | h
  · rw [List.getElem?_append_left h]
    exact ⟨Or.inl, fun h' => h'.elim id fun ⟨e, _⟩ => absurd e (Nat.ne_of_lt h)⟩
  · subst h
    rw [List.getElem?_append_right (Nat.le_refl _), Nat.sub_self, List.getElem?_cons_zero,
      List.getElem?_eq_none (Nat.le_refl _), Option.some.injEq]
    exact ⟨fun e => Or.inr ⟨rfl, e⟩, fun h' => h'.elim nofun fun ⟨_, e⟩ => e⟩
  · rw [List.getElem?_eq_none (by rw [List.length_append, List.length_singleton]; exact h),
      List.getElem?_eq_none (Nat.le_of_lt h)]
    exact ⟨nofun, fun h' => h'.elim nofun fun ⟨e, _⟩ => absurd e (Nat.ne_of_gt h)⟩

theorem delta_snoc_eq_some {T : Table} {a i q b r : Nat} :
    delta (T ++ [[(a, i)]]) q b = some r ↔ delta T q b = some r ∨ (q = T.length ∧ b = a ∧ r = i) := by
  constructor
  · intro h
    obtain ⟨l, hl, hlk⟩ := delta_eq_some h
    rcases getElem?_snoc_eq_some.mp hl with hl | ⟨hq, rfl⟩
    · exact Or.inl ((delta_of_getElem? hl).trans hlk)
    · exact Or.inr ⟨hq, lookup_single hlk⟩
  · rintro (h | ⟨rfl, rfl, rfl⟩)
    · obtain ⟨l, hl, hlk⟩ := delta_eq_some h
      exact (delta_of_getElem? (getElem?_snoc_eq_some.mpr (Or.inl hl))).trans hlk
    · exact (delta_of_getElem? (getElem?_snoc_eq_some.mpr (Or.inr ⟨rfl, rfl⟩))).trans (by rw [lookup, if_pos rfl])

theorem getD_none_eq_some {o : Option (Option Nat)} {x : Nat} (h : o.getD none = some x) : o = some (some x) := by
  cases o with
  | none => simp at h
  | some v => simpa using h

/-! ### the invariant, and one round of the construction -/

/-- invariant of the construction after the prefix `u` of the reversed pattern has been processed -/
structure Inv (u : List Nat) (T : Table) (suff : List (Option Nat)) : Prop where
  lenT : T.length = u.length
  lenS : suff.length = u.length + 1
  sDef : ∀ q, 0 < q → q ≤ u.length → ∃ q', suff[q]? = some (some q')
  sLt : ∀ q q' : Nat, suff[q]? = some (some q') → q' < q
  inner : ∀ j a, u[j]? = some a → delta T j a = some (j + 1)
  entries : ∀ q l e, T[q]? = some l → e ∈ l → q < e.2 ∧ e.2 ≤ u.length ∧ (e.2 = q + 1 → u[q]? = some e.1)
  supply : ∀ q q' a r, suff[q]? = some (some q') → delta T q a = some r →
    ∃ r', delta T q' a = some r' ∧ OnPath suff r r'

/-- loop invariant of the `while let Some(k_) = k` loop of the round that appends `a` (new state `u.length + 1`).  `fresh`: `k`
is an old state, and the states `≤ k_` have no transition into the new state yet.  `supply`, right disjunct: the one kind of
entry whose supply is still owed — an `a`-transition into the new state from a state whose supply state is the `k` the loop
stands at.  `top`: the supply state of the new state's predecessor has its `a`-transition into the new state, or is `k`. -/
structure Mid (u : List Nat) (a : Nat) (suff : List (Option Nat)) (T : Table) (k : Option Nat) : Prop where
  lenT : T.length = u.length
  inner : ∀ j b, u[j]? = some b → delta T j b = some (j + 1)
  entries : ∀ q l e, T[q]? = some l → e ∈ l → q < e.2 ∧ e.2 ≤ u.length + 1 ∧ (e.2 = q + 1 → u[q]? = some e.1)
  fresh : ∀ k_, k = some k_ → k_ < u.length ∧ ∀ q, q ≤ k_ → ∀ b r, delta T q b = some r → r ≤ u.length
  supply : ∀ q q' b r, suff[q]? = some (some q') → delta T q b = some r →
    (∃ r', delta T q' b = some r' ∧ OnPath suff r r') ∨ (b = a ∧ r = u.length + 1 ∧ k = some q')
  top : ∀ q', suff[u.length]? = some (some q') → delta T q' a = some (u.length + 1) ∨ k = some q'

theorem Inv.delta_bounds {u : List Nat} {T : Table} {suff : List (Option Nat)} (h : Inv u T suff)
    {q a r : Nat} (hd : delta T q a = some r) : q < r ∧ r ≤ u.length ∧ (r = q + 1 → u[q]? = some a) := by
  obtain ⟨l, hl, hlk⟩ := delta_eq_some hd
  exact h.entries q l (a, r) hl (lookup_mem l a r hlk)

theorem mid_init {u : List Nat} {T : Table} {suff : List (Option Nat)} (a : Nat) (h : Inv u T suff) :
    Mid u a suff T ((suff[u.length]?).getD none) where
  lenT := h.lenT
  inner := h.inner
  entries := by
    intro q l e hl he
    have := h.entries q l e hl he
    exact ⟨this.1, by omega, this.2.2⟩
  fresh := by
    intro k_ hk
    have hk' := getD_none_eq_some hk
    refine ⟨h.sLt _ _ hk', ?_⟩
    intro q _ b r hd
    exact (h.delta_bounds hd).2.1
  supply := by
    intro q q' b r hs hd
    exact Or.inl (h.supply q q' b r hs hd)
  top := by
    intro q' hs
    right; rw [hs]; rfl

theorem mid_step {u : List Nat} {a : Nat} {suff : List (Option Nat)} {T : Table} {k_ : Nat}
    (hsLt : ∀ q q' : Nat, suff[q]? = some (some q') → q' < q)
    (hM : Mid u a suff T (some k_)) (hno : delta T k_ a = none) :
    Mid u a suff (tinsert T k_ a (u.length + 1)) ((suff[k_]?).getD none) := by
  obtain ⟨hk, hfresh⟩ := hM.fresh k_ rfl
  have hkT : k_ < T.length := hM.lenT ▸ hk
  have hd {q b r : Nat} := @delta_tinsert_eq_some T k_ a (u.length + 1) q b r hkT hno
  refine ⟨(length_tinsert ..).trans hM.lenT, fun j b hj => hd.mpr (Or.inl (hM.inner j b hj)), ?_, ?_, ?_, ?_⟩
  · intro q l e hl he
    rcases mem_tinsert hl he with ⟨l0, hl0, he0⟩ | ⟨rfl, rfl⟩
    · exact hM.entries q l0 e hl0 he0
    · exact ⟨Nat.lt_succ_of_lt hk, Nat.le_refl _, fun h' => absurd (Nat.succ.inj h') (Nat.ne_of_gt hk)⟩
  · intro q' hq'
    have hlt := hsLt _ _ (getD_none_eq_some hq')
    refine ⟨Nat.lt_trans hlt hk, fun q hq b r hr => ?_⟩
    rcases hd.mp hr with hr | ⟨rfl, _⟩
    · exact hfresh q (Nat.le_trans hq (Nat.le_of_lt hlt)) b r hr
    · exact absurd hlt (Nat.not_lt.mpr hq)
  · intro q q' b r hs hr
    rcases hd.mp hr with hr | ⟨rfl, hb, hr⟩
    · rcases hM.supply q q' b r hs hr with ⟨r', hr', hp⟩ | ⟨hb, rfl, hk'⟩
      · exact Or.inl ⟨r', hd.mpr (Or.inl hr'), hp⟩
      · cases hk'
        exact Or.inl ⟨u.length + 1, hd.mpr (Or.inr ⟨rfl, hb, rfl⟩), OnPath.refl _⟩
    · exact Or.inr ⟨hb, hr, by rw [hs]; rfl⟩
  · intro q' hs
    rcases hM.top q' hs with h | h
    · exact Or.inl (hd.mpr (Or.inl h))
    · cases h
      exact Or.inl (hd.mpr (Or.inr ⟨rfl, rfl, rfl⟩))

theorem climb_spec (u : List Nat) (a : Nat) (suff : List (Option Nat))
    (hsLt : ∀ q q' : Nat, suff[q]? = some (some q') → q' < q) (hlenS : suff.length = u.length + 1) :
    ∀ (fuel : Nat) (T : Table) (k : Option Nat), Mid u a suff T k → (∀ k_, k = some k_ → k_ < fuel) →
      ∃ T' k', climb suff a (u.length + 1) fuel T k = (T', k') ∧
        climbS suff a (u.length + 1) fuel T k = some (T', k') ∧ Mid u a suff T' k' ∧
        (∀ k_, k' = some k_ → ∃ s, delta T' k_ a = some s) := by
  intro fuel
  induction fuel with
  | zero =>
    intro T k hM hf
    cases k with
    | none => exact ⟨T, none, rfl, rfl, hM, nofun⟩
    | some k_ => exact absurd (hf k_ rfl) (Nat.not_lt_zero _)
  | succ fuel ih =>
    intro T k hM hf
    cases k with
    | none => exact ⟨T, none, rfl, rfl, hM, nofun⟩
    | some k_ =>
      have hk : k_ < u.length := (hM.fresh k_ rfl).1
      obtain ⟨l, hT⟩ : ∃ l, T[k_]? = some l := ⟨_, List.getElem?_eq_getElem (hM.lenT ▸ hk)⟩
      obtain ⟨k1, hS⟩ : ∃ k1, suff[k_]? = some k1 := ⟨_, List.getElem?_eq_getElem (hlenS ▸ Nat.lt_succ_of_lt hk)⟩
      have hdl : lookup l a = delta T k_ a := (delta_of_getElem? hT).symm
      cases hd : delta T k_ a with
      | some s =>
        refine ⟨T, some k_, ?_, ?_, hM, fun k' hk' => ?_⟩
        · simp only [climb, hd, Option.isSome_some, if_true]
        · simp only [climbS, hT, hS, hdl, hd, Option.isSome_some, if_true]
        · cases hk'; exact ⟨s, hd⟩
      | none =>
        have hM' := mid_step hsLt hM hd
        rw [hS, Option.getD_some] at hM'
        obtain ⟨T', k', hc, hcS, hM'', hs⟩ := ih _ _ hM' fun k' hk' =>
          Nat.lt_of_lt_of_le (hsLt _ _ (hS.trans (congrArg some hk'))) (Nat.le_of_lt_succ (hf k_ rfl))
        refine ⟨T', k', ?_, ?_, hM'', hs⟩
        · simp only [climb, hd, Option.isSome_none, Bool.false_eq_true, if_false, hS, Option.getD_some, hc]
        · simp only [climbS, hT, hS, hdl, hd, Option.isSome_none, Bool.false_eq_true, if_false, hcS]

/-- closing a round: from the loop invariant at the exit of the `while let` loop and the value `s` read off at the
exit state, the new state with its single transition and `suff[i] = s` re-establish the invariant -/
theorem Mid.finish {u : List Nat} {T T' : Table} {suff : List (Option Nat)} {a s : Nat} {k' : Option Nat}
    (h : Inv u T suff) (hM : Mid u a suff T' k') (hs : s ≤ u.length)
    (hsk : ∀ k_, k' = some k_ → delta T' k_ a = some s) :
    Inv (u ++ [a]) (T' ++ [[(a, u.length + 1)]]) (suff ++ [some s]) := by
  have hnew : (suff ++ [some s])[u.length + 1]? = some (some s) :=
    getElem?_snoc_eq_some.mpr (Or.inr ⟨h.lenS.symm, rfl⟩)
  have hpathS : OnPath (suff ++ [some s]) (u.length + 1) s := OnPath.step _ s s hnew (OnPath.refl _)
  refine ⟨?_, ?_, ?_, ?_, ?_, ?_, ?_⟩
  · rw [List.length_append, List.length_append, hM.lenT]; rfl
  · rw [List.length_append, List.length_append, h.lenS]; rfl
  · intro q hq0 hq
    rw [List.length_append, List.length_singleton] at hq
    rcases Nat.lt_or_eq_of_le hq with hq | hq
    · obtain ⟨q', hq'⟩ := h.sDef q hq0 (Nat.le_of_lt_succ hq)
      exact ⟨q', getElem?_snoc_eq_some.mpr (Or.inl hq')⟩
    · exact ⟨s, hq ▸ hnew⟩
  · intro q q' hs'
    rcases getElem?_snoc_eq_some.mp hs' with hs' | ⟨hq, hq'⟩
    · exact h.sLt q q' hs'
    · cases hq'; rw [hq, h.lenS]; exact Nat.lt_succ_of_le hs
  · intro j b hj
    rcases getElem?_snoc_eq_some.mp hj with hj | ⟨hj, hb⟩
    · exact delta_snoc_eq_some.mpr (Or.inl (hM.inner j b hj))
    · exact delta_snoc_eq_some.mpr (Or.inr ⟨hj.trans hM.lenT.symm, hb.symm, by rw [hj]⟩)
  · intro q l e hl he
    rw [List.length_append, List.length_singleton]
    rcases getElem?_snoc_eq_some.mp hl with hl | ⟨hq, hl⟩
    · obtain ⟨h1, h2, h3⟩ := hM.entries q l e hl he
      exact ⟨h1, h2, fun he2 => getElem?_snoc_eq_some.mpr (Or.inl (h3 he2))⟩
    · subst hl; cases List.mem_singleton.mp he
      rw [hq, hM.lenT]
      exact ⟨Nat.lt_succ_self _, Nat.le_refl _, fun _ => getElem?_snoc_eq_some.mpr (Or.inr ⟨rfl, rfl⟩)⟩
  · intro q q' b r hs' hd
    rcases getElem?_snoc_eq_some.mp hs' with hs' | ⟨hq, _⟩
    · rcases delta_snoc_eq_some.mp hd with hd | ⟨hq, hb, hr⟩
      · rcases hM.supply q q' b r hs' hd with ⟨r', hr', hp⟩ | ⟨hb, hr, hk'⟩
        · exact ⟨r', delta_snoc_eq_some.mpr (Or.inl hr'), hp.append _⟩
        · subst hb hr; exact ⟨s, delta_snoc_eq_some.mpr (Or.inl (hsk q' hk')), hpathS⟩
      · subst hb hr
        rw [hq, hM.lenT] at hs'
        rcases hM.top q' hs' with h1 | h1
        · exact ⟨u.length + 1, delta_snoc_eq_some.mpr (Or.inl h1), OnPath.refl _⟩
        · exact ⟨s, delta_snoc_eq_some.mpr (Or.inl (hsk q' h1)), hpathS⟩
    · have hqT := delta_lt_length hd
      rw [List.length_append, List.length_singleton, hM.lenT, hq, h.lenS] at hqT
      exact absurd hqT (Nat.lt_irrefl _)

/-- what one round computes, in the terms of the loop invariant at the exit of the `while let` loop; the variant
with explicit panics computes the same -/
theorem addLetter_spec {u : List Nat} {T : Table} {suff : List (Option Nat)} (a : Nat) (h : Inv u T suff) :
    ∃ T' k' s, Mid u a suff T' k' ∧ s ≤ u.length ∧ (∀ k_, k' = some k_ → delta T' k_ a = some s) ∧
      addLetter (T, suff) a = (T' ++ [[(a, u.length + 1)]], suff ++ [some s]) ∧
      addLetterS (T, suff) a = some (T' ++ [[(a, u.length + 1)]], suff ++ [some s]) := by
  obtain ⟨k0, hS⟩ : ∃ k0, suff[u.length]? = some k0 :=
    ⟨_, List.getElem?_eq_getElem (h.lenS ▸ Nat.lt_succ_self _)⟩
  have hfuel : ∀ k_, (suff[u.length]?).getD none = some k_ → k_ < u.length + 1 + 1 := fun k_ hk =>
    Nat.lt_succ_of_lt (Nat.lt_succ_of_lt (h.sLt _ _ (getD_none_eq_some hk)))
  obtain ⟨T', k', hc, hcS, hM, hs⟩ :=
    climb_spec u a suff h.sLt h.lenS (u.length + 1 + 1) T _ (mid_init a h) hfuel
  rw [hS, Option.getD_some] at hc hcS
  cases k' with
  | none =>
    refine ⟨T', none, 0, hM, Nat.zero_le _, nofun, ?_, ?_⟩
    · simp only [addLetter, h.lenT, Nat.add_sub_cancel, hS, Option.getD_some, hc]
    · simp only [addLetterS, h.lenT, Nat.add_sub_cancel, hS, hcS]
  | some k_ =>
    obtain ⟨s, hs'⟩ := hs k_ rfl
    refine ⟨T', some k_, s, hM, (hM.fresh k_ rfl).2 k_ (Nat.le_refl _) a s hs', fun k2 hk2 => by cases hk2; exact hs',
      ?_, ?_⟩
    · simp only [addLetter, h.lenT, Nat.add_sub_cancel, hS, Option.getD_some, hc, hs']
    · simp only [addLetterS, h.lenT, Nat.add_sub_cancel, hS, hcS, hs']

theorem addLetter_inv {u : List Nat} {T : Table} {suff : List (Option Nat)} (a : Nat) (h : Inv u T suff) :
    Inv (u ++ [a]) (addLetter (T, suff) a).1 (addLetter (T, suff) a).2 := by
  obtain ⟨T', k', s, hM, hs, hsk, hadd, _⟩ := addLetter_spec a h
  rw [hadd]
  exact hM.finish h hs hsk

theorem inv_init : Inv [] [] [none] where
  lenT := rfl
  lenS := rfl
  sDef := fun q h0 h1 => absurd h0 (Nat.not_lt.mpr h1)
  sLt := fun q q' h => by cases q <;> cases h
  inner := fun j a h => nomatch h
  entries := fun q l e h => nomatch h
  supply := fun q q' a r _ h => nomatch h

theorem foldl_inv : ∀ (l u : List Nat) (st : Table × List (Option Nat)), Inv u st.1 st.2 →
    Inv (u ++ l) (l.foldl addLetter st).1 (l.foldl addLetter st).2 := by
  intro l
  induction l with
  | nil => intro u st h; simpa using h
  | cons a l ih =>
    intro u st h
    simp only [List.foldl_cons]
    have := ih (u ++ [a]) (addLetter st a) (addLetter_inv (T := st.1) (suff := st.2) a h)
    simpa using this

theorem build_inv (p : List Nat) : ∃ suff, Inv p.reverse (build p) suff := by
  have := foldl_inv p.reverse [] ([], [none]) inv_init
  exact ⟨_, by simpa [build] using this⟩

/-! ### the oracle accepts the factors -/

theorem Inv.path_zero {u : List Nat} {T : Table} {suff : List (Option Nat)} (h : Inv u T suff) :
    ∀ q, q ≤ u.length → OnPath suff q 0 := by
  intro q
  induction q using Nat.strongRecOn with
  | _ q ih =>
    intro hq
    by_cases h0 : q = 0
    · subst h0; exact OnPath.refl _
    · obtain ⟨q', hq'⟩ := h.sDef q (Nat.pos_of_ne_zero h0) hq
      have := h.sLt q q' hq'
      exact OnPath.step q q' 0 hq' (ih q' this (Nat.le_trans (Nat.le_of_lt this) hq))

/-- the supply clause along a whole suffix path -/
theorem Inv.path_step {u : List Nat} {T : Table} {suff : List (Option Nat)} (h : Inv u T suff)
    {j q : Nat} (hp : OnPath suff j q) : ∀ {a r : Nat}, delta T j a = some r →
      ∃ r', delta T q a = some r' ∧ OnPath suff r r' := by
  induction hp with
  | refl j => intro a r hd; exact ⟨r, hd, OnPath.refl _⟩
  | step j j' q hs _ ih =>
    intro a r hd
    obtain ⟨r1, hr1, hp1⟩ := h.supply j j' a r hs hd
    obtain ⟨r', hr', hp'⟩ := ih hr1
    exact ⟨r', hr', hp1.trans hp'⟩

theorem runT_append (T : Table) : ∀ (x y : List Nat) (q q' : Nat), runT T q x = some q' →
    runT T q (x ++ y) = runT T q' y := by
  intro x
  induction x with
  | nil => intro y q q' h; simp [runT] at h; subst h; rfl
  | cons c x ih =>
    intro y q q' h
    simp only [runT, List.cons_append] at h ⊢
    cases hd : delta T q c with
    | none => simp [hd] at h
    | some q1 =>
      simp only [hd] at h ⊢
      exact ih y q1 q' h

/-- every suffix of the prefix `u[0..j)` is accepted from state 0 and ends on the suffix path of state `j` -/
theorem Inv.accepts_suffix {u : List Nat} {T : Table} {suff : List (Option Nat)} (h : Inv u T suff) :
    ∀ j, j ≤ u.length → ∀ y, y <:+ u.take j → ∃ q, runT T 0 y = some q ∧ OnPath suff j q := by
  intro j
  induction j with
  | zero =>
    intro _ y hy
    rw [List.take_zero, List.suffix_nil] at hy
    subst hy
    exact ⟨0, rfl, OnPath.refl _⟩
  | succ j ih =>
    intro hj y hy
    rcases List.eq_nil_or_concat y with rfl | ⟨y', b, rfl⟩
    · exact ⟨0, rfl, h.path_zero (j + 1) hj⟩
    · have hb := List.getElem?_eq_getElem (Nat.lt_of_succ_le hj)
      rw [List.take_add_one, hb, Option.toList_some, List.concat_eq_append,
        List.suffix_append_inj_of_length_eq (s₁ := [b]) (s₂ := [u[j]]) rfl, List.cons.injEq] at hy
      obtain ⟨q, hq, hp⟩ := ih (Nat.le_of_succ_le hj) y' hy.1
      obtain ⟨r', hr', hp'⟩ := h.path_step hp (h.inner j b (hy.2.1 ▸ hb))
      refine ⟨r', ?_, hp'⟩
      rw [List.concat_eq_append, runT_append T y' [b] 0 q hq]
      simp [runT, hr']

theorem Inv.accepts_factor {u : List Nat} {T : Table} {suff : List (Option Nat)} (h : Inv u T suff)
    {y : List Nat} (hy : y <:+: u) : runT T 0 y ≠ none := by
  obtain ⟨x, z, rfl⟩ := hy
  obtain ⟨q, hq, _⟩ := h.accepts_suffix (x ++ y).length (by simp) y (List.take_left' rfl ▸ List.suffix_append x y)
  rw [hq]; simp

/-! ### the table conditions hold for every pattern; BOM is exact -/

/-- **Factor-oracle theorem** (Allauzen–Crochemore–Raffinot) for the mirror model of `BOM::new`: the oracle built
for `p` accepts every factor of `p` read backwards. -/
theorem build_Complete (p : List Nat) : Complete (build p) p := by
  obtain ⟨suff, h⟩ := build_inv p
  intro o l _
  exact h.accepts_factor
    (List.reverse_infix.mpr ((List.take_prefix l _).isInfix.trans (List.drop_suffix o p).isInfix))

theorem build_complete (p : List Nat) : completeB (build p) p = true :=
  (completeB_iff _ _).mpr (build_Complete p)

/-- every transition of the built table goes strictly upwards, at most to state `m`, and a transition `q → q+1`
is labelled with the `q`-th symbol of the reversed pattern. -/
theorem build_Monotone (p : List Nat) : Monotone (build p) p.reverse :=
  let ⟨_, h⟩ := build_inv p
  fun _ _ _ hd => h.delta_bounds hd

theorem build_monotone (p : List Nat) : monotoneB (build p) p.reverse = true := by
  obtain ⟨suff, h⟩ := build_inv p
  unfold monotoneB
  simp only [List.all_eq_true, List.mem_range]
  intro q hq e he
  rw [List.getElem?_eq_getElem hq] at he
  simp only [Option.getD_some] at he
  have := h.entries q _ e (List.getElem?_eq_getElem hq) he
  unfold entryOk
  simp only [Bool.and_eq_true, Bool.or_eq_true, decide_eq_true_eq, beq_iff_eq]
  refine ⟨⟨this.1, this.2.1⟩, ?_⟩
  by_cases he2 : e.2 = q + 1
  · right; exact this.2.2 he2
  · left; exact he2

/-- **BOM is exact**: construction and search of the mirror model together return exactly the occurrence list,
for every pattern and every text. -/
theorem findAll_eq_occurrences (p t : List Nat) : findAll p t = occurrences p t :=
  findAll_eq_occurrences_of_table p t (build_Complete p) (build_Monotone p)

/-! ### the construction with the panics explicit computes the same -/

theorem addLetterS_eq {u : List Nat} {T : Table} {suff : List (Option Nat)} (a : Nat) (h : Inv u T suff) :
    addLetterS (T, suff) a = some (addLetter (T, suff) a) := by
  obtain ⟨T', k', s, _, _, _, hadd, haddS⟩ := addLetter_spec a h
  rw [hadd, haddS]

theorem foldlS_eq : ∀ (l u : List Nat) (st : Table × List (Option Nat)), Inv u st.1 st.2 →
    l.foldl (fun st a => st.bind (addLetterS · a)) (some st) = some (l.foldl addLetter st) := by
  intro l
  induction l with
  | nil => intro u st _; rfl
  | cons a l ih =>
    intro u st h
    simp only [List.foldl_cons, Option.bind_some]
    rw [addLetterS_eq (T := st.1) (suff := st.2) a h]
    exact ih (u ++ [a]) (addLetter st a) (addLetter_inv (T := st.1) (suff := st.2) a h)

/-- the construction never takes a panicking branch of `BOM::new` (no out-of-bounds `table[k_]` / `suff[k_]`,
`unwrap` only on a present transition) and the model's fuel suffices -/
theorem buildS_eq_build (p : List Nat) : buildS p = some (build p) := by
  unfold buildS build
  rw [foldlS_eq p.reverse [] ([], [none]) inv_init]
  rfl

/-! ### the search with the text indexed as in the Rust code -/

theorem back_drop (t : List Nat) (window m r : Nat) (hw : m ≤ window) (hn : window ≤ t.length) (hr : r < m) :
    ∃ c, t[window - (r + 1)]? = some c ∧
      (((t.take window).reverse).take m).drop r = c :: (((t.take window).reverse).take m).drop (r + 1) := by
  have hlt : r < (((t.take window).reverse).take m).length := by rw [back_length t window m hw hn]; exact hr
  refine ⟨_, ?_, List.drop_eq_getElem_cons hlt⟩
  have hl : (t.take window).length = window := by rw [List.length_take]; exact Nat.min_eq_left hn
  have hrw : r < window := Nat.lt_of_lt_of_le hr hw
  rw [← List.getElem?_eq_getElem hlt, List.getElem?_take_of_lt hr, List.getElem?_reverse (hl.symm ▸ hrw), hl,
    Nat.sub_sub, Nat.add_comm 1 r,
    List.getElem?_take_of_lt (Nat.sub_lt (Nat.zero_lt_of_lt hrw) (Nat.succ_pos r))]

theorem scanS_none (T : Table) (t : List Nat) (window m : Nat) :
    ∀ (fuel j : Nat), scanS T t window m fuel j none = some (none, j)
  | 0, j => by simp only [scanS, Option.isSome_none, Bool.false_eq_true, and_false, if_false]
  | fuel + 1, j => by simp only [scanS, ite_self]

theorem scanS_eq (T : Table) (t : List Nat) (window m : Nat) (hw : m ≤ window) (hn : window ≤ t.length) :
    ∀ (fuel r q : Nat), r ≤ m → m + 1 ≤ r + fuel →
      scanS T t window m fuel (r + 1) (some q) =
        some ((scanBack T ((((t.take window).reverse).take m).drop r) q r).1,
              (scanBack T ((((t.take window).reverse).take m).drop r) q r).2 + 1) := by
  intro fuel
  induction fuel with
  | zero => intro r q hr hf; exact absurd (Nat.le_trans hf hr) (Nat.not_succ_le_self m)
  | succ fuel ih =>
    intro r q hr hf
    rcases Nat.lt_or_eq_of_le hr with hrm | rfl
    · obtain ⟨c, hc, hb⟩ := back_drop t window m r hw hn hrm
      have h1 : r + 1 ≤ m := hrm
      have h2 : ¬ window < r + 1 := Nat.not_lt.mpr (Nat.le_trans hrm hw)
      rw [hb]
      simp only [scanS, h1, if_true, h2, if_false, hc, scanBack]
      cases hd : delta T q c with
      | none => simp only [scanS_none]
      | some q' => exact ih (r + 1) q' hrm (by rw [Nat.add_right_comm]; exact hf)
    · rw [List.drop_of_length_le (Nat.le_of_eq (back_length t window r hw hn))]
      simp only [scanS, Nat.not_succ_le_self, if_false, scanBack]

theorem scanBack_le (T : Table) (back : List Nat) (q r : Nat) : (scanBack T back q r).2 ≤ r + back.length := by
  obtain ⟨n, hn, h, _⟩ := scanBack_spec T back q r
  rw [h]
  exact Nat.add_le_add_left hn r

/-- the scan as `Matches::next` starts it, `(Some(0), 1)`, at a window inside the text: it is `scanBack` of the window, and
reads at most `m` symbols -/
theorem scanS_init (T : Table) (t : List Nat) (window m : Nat) (hw : m ≤ window) (hn : window ≤ t.length) :
    ∃ q r, scanBack T (((t.take window).reverse).take m) 0 0 = (q, r) ∧
      scanS T t window m (m + 1) 1 (some 0) = some (q, r + 1) ∧ r ≤ m := by
  have hs := scanS_eq T t window m hw hn (m + 1) 0 0 (Nat.zero_le _) (Nat.le_add_left _ _)
  have hle := scanBack_le T (((t.take window).reverse).take m) 0 0
  rw [back_length t window m hw hn, Nat.zero_add] at hle
  rw [List.drop_zero, Nat.zero_add] at hs
  exact ⟨_, _, rfl, hs, hle⟩

theorem searchS_eq (T : Table) (m : Nat) (t : List Nat) :
    ∀ (fuel window : Nat), m ≤ window → t.length + 1 ≤ window + fuel →
      searchS T m t fuel window = some (search T m t fuel window) := by
  intro fuel
  induction fuel with
  | zero =>
    intro window hw hf
    have : ¬ window ≤ t.length := Nat.not_le.mpr hf
    simp only [searchS, search, this, if_false]
  | succ fuel ih =>
    intro window hw hf
    by_cases hn : window ≤ t.length
    · obtain ⟨q, r, hsb, hs, hle⟩ := scanS_init T t window m hw hn
      have h1 : ¬ (window < m ∨ m + 2 < r + 1) :=
        not_or.mpr ⟨Nat.not_lt.mpr hw, Nat.not_lt.mpr (Nat.succ_le_succ (Nat.le_succ_of_le hle))⟩
      have e : m + 2 - (r + 1) = m + 1 - r := Nat.add_sub_add_right (m + 1) 1 r
      simp only [searchS, search, hn, if_true, hs, hsb, h1, if_false, e]
      have hd : 1 ≤ m + 1 - r := Nat.sub_pos_of_lt (Nat.lt_succ_of_le hle)
      rw [ih (window + (m + 1 - r)) (Nat.le_trans hw (Nat.le_add_right _ _))
        (Nat.le_trans hf (Nat.add_right_comm window 1 fuel ▸ Nat.add_le_add_right (Nat.add_le_add_left hd window) fuel))]
    · simp only [searchS, search, hn, if_false]

/-- the index-literal model takes no panicking branch and computes the same list -/
theorem findAllS_eq_findAll (p t : List Nat) : findAllS p t = some (findAll p t) := by
  unfold findAllS findAll
  rw [buildS_eq_build]
  exact searchS_eq (build p) p.length t (t.length + 1) p.length (Nat.le_refl _) (by omega)

theorem findAllS_eq_occurrences (p t : List Nat) : findAllS p t = some (occurrences p t) := by
  rw [findAllS_eq_findAll, findAll_eq_occurrences p t]

end RbV.Bom
