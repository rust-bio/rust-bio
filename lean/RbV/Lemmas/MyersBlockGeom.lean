import RbV.Lemmas.MyersLongAll
/-!
The layout of a pattern cut into words (`long.rs`): `nb = ⌈m / w⌉` blocks of `w` rows, the last one of `m − (nb − 1)·w ∈ 1..w` rows
(`Geo`), and `MyersLong.blocksOf` has this layout (`geo_blocks`, `blocksOf_length`).  Used by the block-based traceback (C10) and by
the source-level constructor proofs of C09.  Core Lean only.
-/
namespace RbV.Model.MyersTracebackLong

/-- `nb = ⌈m / w⌉` blocks of `w ≥ 2` rows -/
structure Geo (w nb m : Nat) : Prop where
  hw : 2 ≤ w
  hnb : 1 ≤ nb
  lo : (nb - 1) * w < m
  hi : m ≤ (nb - 1) * w + w

/-- number of rows of block `B` -/
def lenB (w nb m B : Nat) : Nat := if B + 1 = nb then m - (nb - 1) * w else w

/-- number of rows covered by the first `L ≤ nb` blocks -/
def rowsL (w nb m L : Nat) : Nat := if L = nb then m else L * w

theorem succ_mul_le_of_lt (B L w : Nat) (h : B < L) : B * w + w ≤ L * w := by
  have := Nat.mul_le_mul_right w (show B + 1 ≤ L by omega)
  rw [Nat.succ_mul] at this
  exact this

open RbV.Model.MyersLong in
theorem geo_blocks (w : Nat) (hw : 2 ≤ w) (p : List Nat) (hp : 1 ≤ p.length) :
    Geo w (blocksOf w p).length p.length ∧
    (∀ B, B < (blocksOf w p).length → ∃ blk, (blocksOf w p)[B]? = some blk ∧
      blk.length = lenB w (blocksOf w p).length p.length B ∧ rows B (blocksOf w p) = B * w) ∧
    (∀ L, L ≤ (blocksOf w p).length → rows L (blocksOf w p) = rowsL w (blocksOf w p).length p.length L) := by
  obtain ⟨n, hn, lo, hi, len, rws⟩ := blocksOf_layout w (by omega) p hp
  have hall : rows (blocksOf w p).length (blocksOf w p) = p.length := by
    rw [rows_all]; exact congrArg _ (chunks_layout w (by omega) p.length p hp (Nat.le_refl _)).1
  rw [hn] at hall ⊢
  refine ⟨⟨hw, Nat.succ_pos n, lo, hi⟩, fun B hB => ?_, fun L hL => ?_⟩
  · obtain ⟨b, e1⟩ : ∃ b, (blocksOf w p)[B]? = some b := ⟨_, List.getElem?_eq_getElem (by omega)⟩
    refine ⟨b, e1, ?_, rws B (by omega)⟩
    rw [len B b e1]; unfold lenB
    simp only [Nat.add_right_cancel_iff, Nat.add_sub_cancel]
  · unfold rowsL
    by_cases h : L = n + 1
    · rw [if_pos h, h, hall]
    · rw [if_neg h]; exact rws L (by omega)

open RbV.Model.MyersLong in
/-- the number of blocks is `⌈m / w⌉` (`LongStatesHandler::init`: `ceil_div(m, w)`; the driver sizes the old contents of
the states vector with this expression) -/
theorem blocksOf_length (w : Nat) (hw : 2 ≤ w) (p : List Nat) (hp : 1 ≤ p.length) :
    (blocksOf w p).length = (p.length + w - 1) / w := by
  obtain ⟨n, hn, lo, hi, _⟩ := blocksOf_layout w (by omega) p hp
  rw [hn]
  exact ceil_unique (by rw [Nat.add_sub_cancel]; exact lo) (by rw [Nat.succ_mul]; exact hi)

end RbV.Model.MyersTracebackLong

namespace RbV.Thm.GenSrcMyersLongNew
open RbV.Model.MyersLong

/-- the blocks of a pattern: `⌈m/w⌉` of them, all of `w` rows except possibly the last (`m % w` rows when that is not 0) -/
theorem blocks_shape (w : Nat) (hw : 2 ≤ w) (p : List Nat) (hp : 1 ≤ p.length) :
    (blocksOf w p).length = (p.length + w - 1) / w ∧ 1 ≤ (blocksOf w p).length ∧ (blocksOf w p).length ≤ p.length ∧
    (∀ i blk, (blocksOf w p)[i]? = some blk →
      blk.length = (if i = (blocksOf w p).length - 1 ∧ p.length % w > 0 then p.length % w else w)) := by
  obtain ⟨n, hn, lo, hi, len, _⟩ := blocksOf_layout w (by omega) p hp
  refine ⟨RbV.Model.MyersTracebackLong.blocksOf_length w hw p hp, ?_⟩
  rw [hn, Nat.add_sub_cancel]
  have h2 : n * 2 ≤ n * w := Nat.mul_le_mul_left n hw
  refine ⟨Nat.succ_pos n, by omega, fun i b hb => ?_⟩
  rw [len i b hb]
  by_cases hl : i = n
  · subst hl
    -- the last block has `m − n·w ∈ 1..w` rows, which is `m % w` unless that is 0
    have hm : p.length % w = (p.length - i * w) % w := by
      conv => lhs; rw [show p.length = p.length - i * w + i * w by omega, Nat.add_mul_mod_self_right]
    by_cases hr : p.length - i * w = w
    · rw [hm, hr, Nat.mod_self]; simp
    · rw [Nat.mod_eq_of_lt (show p.length - i * w < w by omega)] at hm
      rw [if_pos rfl, if_pos ⟨rfl, by omega⟩, hm]
  · rw [if_neg hl, if_neg (fun h => hl h.1)]

end RbV.Thm.GenSrcMyersLongNew
