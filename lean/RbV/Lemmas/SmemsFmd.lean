import RbV.Lemmas.SmemsSim
import RbV.Lemmas.SmemsAll
/-!
# The bi-interval operations of the FMD index implement the string-level ones (C06)

`simHyp_fmd`: on an index over `fmdText seqs` whose suffix array passes `LF.sortedAllB`, with
`G x b e := x.size = #occ(pat[b..e)) ∧ (pat[b..e) occurs → x is the bi-interval of pat[b..e))` (`GFmd`; kept by
`FMDSym.chain_start`, `chain_step_forward`, `chain_step_backward`), the hypotheses of the lock-step theorem hold; an empty
`init_interval_with` has non-zero lower bounds, so extending it gives size `occ(lower-1, ·) - occ(lower-1, ·) = 0`.  Every
family of operations that simulates the string-level sweep through a relation inside `GFmd` satisfies the property (`smems_prop_of_sim`, `allSmems_prop_of_sim`); for the
bi-interval model: `smems_bi_eq_str`, `smems_bi_prop`, `allSmems_bi_prop`.

What this rests on (`RbV/Lemmas/Smems*.lean`): the nested loops are a plain recursion (`outer_eq_spec`: in round `k`
only the first, longest candidate can be reported); the string-level sweep is correct given two laws of occurrence
counts (`smems_abs_correct`; `Inv` is the invariant of the backward phase); occurrence counts satisfy the laws
(`countLaws_cnt`); operations that implement the string-level ones run in lock-step with them (`sim_smems`).
-/
namespace RbV.SmemModel
open RbV RbV.FMDModel RbV.FMDSym RbV.LF RbV.BSModel
open RbV.Thm.GenSrcFmdIndex (lessI occI)

/-- the candidate relation on an FMD index: the size is the number of occurrences of `pat[b..e)`, and if that is non-zero the
interval is the bi-interval of `pat[b..e)` -/
def GFmd (T sa pat : List Nat) (x : Bi) (b e : Nat) : Prop :=
  x.size = cnt T pat b e ∧ (cnt T pat b e ≠ 0 → BiOf T sa (sub pat b (e - b)) x)

theorem biOf_size (T sa P : List Nat) (x : Bi) (hperm : sa.Perm (List.range T.length)) (hP : P ≠ [])
    (h : BiOf T sa P x) : x.size = (occurrences P T).length :=
  ivOf_size hperm hP h.1

/-! ### the simulation hypotheses -/

theorem simHyp_fmd (seqs : List (List Nat)) (sa pat : List Nat)
    (hI : FmdIdx seqs sa) (hseqs : ∀ s ∈ seqs, ∀ c ∈ s, isDna c = true) (hpat : ∀ c ∈ pat, isDna c = true) :
    SimHyp (biOps (lessI seqs sa) (occI seqs sa))
      (cnt (fmdText seqs) pat) pat.length pat (GFmd (fmdText seqs) sa pat) := by
  have hperm := hI.perm
  have hinit : ∀ i, i < pat.length → GFmd (fmdText seqs) sa pat
      (initIntervalWith (lessI seqs sa) (pat.getD i 0)) i (i + 1) := fun i hi =>
    have hbi := chain_start seqs sa pat i hI hpat hi
    ⟨biOf_size _ sa _ _ hperm (sub_ne_nil pat i (i + 1 - i) (Nat.sub_pos_of_lt (Nat.lt_succ_self i)) hi) hbi, fun _ => hbi⟩
  refine ⟨fun x b e h => h.1, hinit, ?_, ?_, ?_⟩
  · intro x b e hg h0 hbe hem
    have hpos : 0 < x.size := Nat.pos_of_ne_zero (hg.1 ▸ h0)
    have hbi := chain_step_forward seqs sa pat x b e hI hseqs hpat hbe hem (hg.2 h0) hpos
    have hsz := biOf_size _ sa _ _ hperm (sub_ne_nil pat b (e + 1 - b) (by omega) (by omega)) hbi
    exact ⟨hsz, fun _ => hbi⟩
  · intro x b e hg h0 hb hbe hem
    have hpos : 0 < x.size := Nat.pos_of_ne_zero (hg.1 ▸ h0)
    have hbi := chain_step_backward seqs sa pat x b e hI hseqs hpat hb hbe hem (hg.2 h0) hpos
    have hsz := biOf_size _ sa _ _ hperm (sub_ne_nil pat (b - 1) (e - (b - 1)) (by omega) (by omega)) hbi
    exact ⟨hsz, fun _ => hbi⟩
  · intro i hi h0 a
    have hai := hpat _ (List.getD_mem pat i 0 hi)
    have hz : (initIntervalWith (lessI seqs sa) (pat.getD i 0)).size = 0 := (hinit i hi).1.trans h0
    exact ⟨forwardExt_dead (lessI seqs sa) _ _ a hz (less_pos seqs sa hI.ne hperm _ (isDna_compl _ hai)),
      backwardExt_dead (lessI seqs sa) _ _ a hz (less_pos seqs sa hI.ne hperm _ hai)⟩

/-! ### consequences for every family of operations that simulates the string-level one through a relation inside `GFmd` -/

/-- an interval that stands for an occurring substring has both strands right -/
theorem intervalsOk_of_G (seqs : List (List Nat)) (sa pat : List Nat) (hchk : sortedAllB (fmdText seqs) sa = true)
    (h : Hit Bi) (hg : GFmd (fmdText seqs) sa pat h.iv h.pos (h.pos + h.len))
    (hs : Smem (fmdText seqs) pat h.pos h.len) : SmemIntervalsOk (fmdText seqs) sa pat (hitObs h) := by
  have hperm := sortedAllB_perm hchk
  obtain ⟨h1, h2, h3, _, _⟩ := hs
  have e1 : h.pos + h.len - h.pos = h.len := Nat.add_sub_cancel_left ..
  have hcn : cnt (fmdText seqs) pat h.pos (h.pos + h.len) ≠ 0 := by
    unfold cnt; rw [e1]; exact (occurs_iff_length_pos _ _).mp h3
  have hbi := hg.2 hcn
  rw [e1] at hbi
  have := biIntervalOf_of_biOf _ sa _ h.iv hperm (sub_ne_nil pat h.pos h.len h1 (by omega)) hbi
  exact this.2.2.2.2 h3

theorem mem_map_hitObs {hs : List (Hit Bi)} {b len : Nat} :
    (∃ o ∈ hs.map hitObs, o.b = b ∧ o.len = len) ↔ (b, len) ∈ hs.map (fun h => (h.pos, h.len)) := by
  simp only [List.mem_map, hitObs, Prod.mk.injEq]
  constructor
  · rintro ⟨o, ⟨h, hh, rfl⟩, rfl, rfl⟩; exact ⟨h, hh, rfl, rfl⟩
  · rintro ⟨h, hh, rfl, rfl⟩; exact ⟨_, ⟨h, hh, rfl⟩, rfl, rfl⟩

section general
variable (seqs : List (List Nat)) (sa pat : List Nat) (hchk : sortedAllB (fmdText seqs) sa = true)
  {ops : Ops Bi} {G : Bi → Nat → Nat → Prop}
  (hS : SimHyp ops (cnt (fmdText seqs) pat) pat.length pat G)
  (hG : ∀ x b e, G x b e → GFmd (fmdText seqs) sa pat x b e)

include hS in
theorem smems_eq_str_of_sim (i l : Nat) (hi : i < pat.length) :
    (smems ops pat i l).map (fun h => (h.pos, h.len)) = smemsStr (fmdText seqs) pat i l :=
  (sim_smems (countLaws_cnt (fmdText seqs) pat) hS rfl i l hi).map_eq _ _ (fun a b hab => by rw [hab.1, hab.2.1])

include hS in
theorem allSmems_eq_str_of_sim (l : Nat) :
    (allSmems ops pat l).map (fun h => (h.pos, h.len)) = allSmemsStr (fmdText seqs) pat l :=
  (sim_allSmems (countLaws_cnt (fmdText seqs) pat) hS rfl l).map_eq _ _ (fun a b hab => by rw [hab.1, hab.2.1])

include hchk hS hG in
theorem smems_prop_of_sim (i l : Nat) (hi : i < pat.length) (hl : 1 ≤ l) :
    SmemsProp (fmdText seqs) sa pat i l ((smems ops pat i l).map hitObs) ∧
      ∀ h ∈ smems ops pat i l, h.pos + h.len ≤ pat.length := by
  have hsim := sim_smems (countLaws_cnt (fmdText seqs) pat) hS rfl i l hi
  have habs := fun k => smems_abs_correct (countLaws_cnt (fmdText seqs) pat) pat rfl hi l hl k
  refine ⟨⟨fun b len => ?_, fun o ho => ?_⟩, fun h hh => ?_⟩
  · rw [← mem_smemsRef, ← smemsStr_correct _ pat i l hi hl, ← smems_eq_str_of_sim seqs pat hS i l hi]
    exact mem_map_hitObs
  · obtain ⟨h, hh, rfl⟩ := List.mem_map.mp ho
    obtain ⟨k, hk, hpos, hlen, hg⟩ := hsim.mem_left h hh
    have hk' := (habs k).mp hk
    rw [hk'.1, ← hpos, ← hlen] at hg
    apply intervalsOk_of_G seqs sa pat hchk h (hG _ _ _ hg)
    rw [hpos, hlen]
    exact (absSmem_iff_smem _ _ _ _).mp hk'.2.2.1
  · obtain ⟨k, hk, hpos, hlen, _⟩ := hsim.mem_left h hh
    have := ((habs k).mp hk).2.2.1.2.1
    omega

include hchk hS hG in
theorem allSmems_prop_of_sim (l : Nat) (hl : 1 ≤ l) :
    AllSmemsProp (fmdText seqs) sa pat l ((allSmems ops pat l).map hitObs) := by
  have hsim := sim_allSmems (countLaws_cnt (fmdText seqs) pat) hS rfl l
  refine ⟨fun b len => ?_, fun o ho => ?_⟩
  · rw [← mem_allSmemsMin, ← allSmemsStr_correct _ pat l hl, ← allSmems_eq_str_of_sim seqs pat hS l]
    exact mem_map_hitObs
  · obtain ⟨h, hh, rfl⟩ := List.mem_map.mp ho
    obtain ⟨k, hk, hpos, hlen, hg⟩ := hsim.mem_left h hh
    have hk' := (allSmems_abs_correct (countLaws_cnt (fmdText seqs) pat) pat rfl l hl k).mp hk
    rw [hk'.1, ← hpos, ← hlen] at hg
    apply intervalsOk_of_G seqs sa pat hchk h (hG _ _ _ hg)
    rw [hpos, hlen]
    exact (absSmem_iff_smem _ _ _ _).mp hk'.2.1

end general

/-! ### the bi-interval model of `smems` / `all_smems` -/

section consequences
variable (seqs : List (List Nat)) (sa pat : List Nat)
  (hI : FmdIdx seqs sa) (hseqs : ∀ s ∈ seqs, ∀ c ∈ s, isDna c = true) (hpat : ∀ c ∈ pat, isDna c = true)

include hI hseqs hpat

/-- the bi-interval model and the string-level model report the same (position, length) pairs in the same order -/
theorem smems_bi_eq_str (i l : Nat) (hi : i < pat.length) :
    (smems (biOps (lessI seqs sa) (occI seqs sa)) pat i l).map
      (fun h => (h.pos, h.len)) = smemsStr (fmdText seqs) pat i l :=
  smems_eq_str_of_sim seqs pat (simHyp_fmd seqs sa pat hI hseqs hpat) i l hi

theorem allSmems_bi_eq_str (l : Nat) :
    (allSmems (biOps (lessI seqs sa) (occI seqs sa)) pat l).map
      (fun h => (h.pos, h.len)) = allSmemsStr (fmdText seqs) pat l :=
  allSmems_eq_str_of_sim seqs pat (simHyp_fmd seqs sa pat hI hseqs hpat) l

/-- **the mirror model of `smems`, run on `less`/`occ` of the index, satisfies the property** -/
theorem smems_bi_prop (i l : Nat) (hi : i < pat.length) (hl : 1 ≤ l) :
    SmemsProp (fmdText seqs) sa pat i l
      ((smems (biOps (lessI seqs sa) (occI seqs sa)) pat i l).map hitObs) :=
  (smems_prop_of_sim seqs sa pat hI.chk (simHyp_fmd seqs sa pat hI hseqs hpat) (fun _ _ _ h => h) i l hi hl).1

/-- **… and so does the mirror model of `all_smems`** -/
theorem allSmems_bi_prop (l : Nat) (hl : 1 ≤ l) :
    AllSmemsProp (fmdText seqs) sa pat l
      ((allSmems (biOps (lessI seqs sa) (occI seqs sa)) pat l).map hitObs) :=
  allSmems_prop_of_sim seqs sa pat hI.chk (simHyp_fmd seqs sa pat hI hseqs hpat) (fun _ _ _ h => h) l hl

end consequences

end RbV.SmemModel
