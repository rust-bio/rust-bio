import RbV.Basic.RsSemGenhmm
import RbV.Lemmas.C14
import RbV.Thm.GenSrcOk
/-!
Lemmas for the equality proofs of the translated HMM functions (`RbV/Thm/GenSrcHmm*.lean`; core Lean only).

* the instantiation of the abstract `LogProb` operations at exact numerators (`natOps`) and of the model accessors at a
  specification-level model (`hmmOps`);
* `Array2` cells (`get2`, `set2`, `row2`), loops over `0 … S-1` / over `enumerate()` with an invariant;
* what the invariants of the loops over the observations say of a table: `n` rows of `S` cells (`Shaped`), the first rows
  given (`RowsDone`);
* `RowFilled`: a `for j in hmm.states()` loop that writes one row of an `Array2` cell by cell;
* `maxBy` with a comparator that refines a score returns a score-maximal element (any scan order);
* from index-wise facts about the two `Array2`s of `viterbi_matrices` to `GoodMats` (`RbV/Lemmas/C14.lean`: matrices whose
  cells satisfy the Bellman conditions; the optimality of the path traced over them is `tbP_optimal` there).
-/
namespace RbV.Rs
open Res RbV.Thm.GenSrc

/-- `LogProb` read at exact non-negative numerators: `ln_zero` = 0, `ln_one` = 1, `+` on logs = product, `ln_sum_exp` = sum,
`ln_add_exp` = `+`, comparison = `compare`.  `z` is the (irrelevant) fill value of `Array2::zeros`. -/
def natOps (z : Nat) : LogOps Nat :=
  { zero := 0, one := 1, mul := fun a b => a * b, add := fun a b => a + b, sum := List.sum, isZero := fun a => a == 0,
    cmp := compare, arrZero := z }

/-- the accessors of `trait Model` for a specification-level model (position-independent transitions) -/
def hmmOps (m : RbV.Hmm.Hmm) : HmmOps Nat Nat :=
  { numStates := m.S, trans := fun a b _ => m.trans a b, transProb := m.trans, init := m.init, emit := m.emit, fin := m.fin,
    hasEnd := m.hasEnd }

@[simp] theorem natOps_zero (z : Nat) : (natOps z).zero = 0 := rfl
@[simp] theorem natOps_one (z : Nat) : (natOps z).one = 1 := rfl
@[simp] theorem natOps_mul (z a b : Nat) : (natOps z).mul a b = a * b := rfl
@[simp] theorem natOps_add (z a b : Nat) : (natOps z).add a b = a + b := rfl
@[simp] theorem natOps_sum (z : Nat) (l : List Nat) : (natOps z).sum l = l.sum := rfl
@[simp] theorem natOps_isZero (z a : Nat) : (natOps z).isZero a = (a == 0) := rfl
@[simp] theorem natOps_cmp (z a b : Nat) : (natOps z).cmp a b = compare a b := rfl
@[simp] theorem natOps_arrZero (z : Nat) : (natOps z).arrZero = z := rfl
@[simp] theorem hmmOps_numStates (m : RbV.Hmm.Hmm) : (hmmOps m).numStates = m.S := rfl
@[simp] theorem hmmOps_trans (m : RbV.Hmm.Hmm) (a b i : Nat) : (hmmOps m).trans a b i = m.trans a b := rfl
@[simp] theorem hmmOps_transProb (m : RbV.Hmm.Hmm) (a b : Nat) : (hmmOps m).transProb a b = m.trans a b := rfl
@[simp] theorem hmmOps_init (m : RbV.Hmm.Hmm) (s : Nat) : (hmmOps m).init s = m.init s := rfl
@[simp] theorem hmmOps_emit (m : RbV.Hmm.Hmm) (s o : Nat) : (hmmOps m).emit s o = m.emit s o := rfl
@[simp] theorem hmmOps_fin (m : RbV.Hmm.Hmm) (s : Nat) : (hmmOps m).fin s = m.fin s := rfl
@[simp] theorem hmmOps_hasEnd (m : RbV.Hmm.Hmm) : (hmmOps m).hasEnd = m.hasEnd := rfl

theorem lt_of_getElem?_eq_some {α : Type} {l : List α} {i : Nat} {a : α} (h : l[i]? = some a) : i < l.length :=
  (List.getElem?_eq_some_iff.mp h).1

theorem get2_ok {α : Type} {a : List (List α)} {i j : Nat} {r : List α} (h : a[i]? = some r) (hj : j < r.length) :
    get2 a i j = ok r[j] := by
  simp [get2, h, idx_ok hj]

theorem set2_ok {α : Type} {a : List (List α)} {i j : Nat} {r : List α} {v : α} (h : a[i]? = some r) (hj : j < r.length) :
    set2 a i j v = ok (a.set i (r.set j v)) := by
  simp [set2, h, hj]

theorem row2_ok {α : Type} {a : List (List α)} {i : Nat} {r : List α} (h : a[i]? = some r) : row2 a i = ok r := by
  simp [row2, idx, h]

theorem zeros2_length {α : Type} (z : α) (n s : Nat) : (zeros2 z n s).length = n := by simp [zeros2]

theorem zeros2_getElem? {α : Type} (z : α) (n s t : Nat) (h : t < n) : (zeros2 z n s)[t]? = some (List.replicate s z) := by
  simp [zeros2, h]

theorem ix_eq_getElem {c : List Nat} {k : Nat} (h : k < c.length) : RbV.Hmm.ix c k = c[k] := by
  simp [RbV.Hmm.ix, List.getD, List.getElem?_eq_getElem h]

theorem set_row_self {α : Type} {a : List (List α)} {i : Nat} {r : List α} (h : a[i]? = some r) : a.set i r = a := by
  obtain ⟨hi, rfl⟩ := List.getElem?_eq_some_iff.mp h
  exact List.set_getElem_self hi

/-- reading a cell of a known row, in the model's words -/
theorem get2_ix {a : List (List Nat)} {i j S : Nat} {r : List Nat} (h : a[i]? = some r) (hl : r.length = S) (hj : j < S) :
    get2 a i j = ok (RbV.Hmm.ix r j) := by
  subst hl
  rw [get2_ok h hj, ix_eq_getElem hj]

/-- an `Array2` with `n` rows of `S` cells -/
def Shaped {α : Type} (n S : Nat) (a : List (List α)) : Prop :=
  a.length = n ∧ ∀ t, t < n → ∃ r, a[t]? = some r ∧ r.length = S

theorem shaped_zeros2 {α : Type} (z : α) (n S : Nat) : Shaped n S (zeros2 z n S) :=
  ⟨zeros2_length _ _ _, fun t ht => ⟨_, zeros2_getElem? z _ _ t ht, List.length_replicate⟩⟩

theorem Shaped.set {α : Type} {n S i : Nat} {a : List (List α)} {r : List α} (h : Shaped n S a) (hi : i < n)
    (hr : r.length = S) : Shaped n S (a.set i r) := by
  refine ⟨List.length_set.trans h.1, fun t ht => ?_⟩
  by_cases hti : t = i
  · subst hti; exact ⟨r, List.getElem?_set_self (by rw [h.1]; exact hi), hr⟩
  · rw [List.getElem?_set_ne (Ne.symm hti)]; exact h.2 t ht

/-- a table of `n` rows of `S` cells whose rows `< j` are `row 0 … row (j-1)` (all rows when `j ≥ n`) -/
def RowsDone {α : Type} (n S : Nat) (row : Nat → List α) (j : Nat) (a : List (List α)) : Prop :=
  Shaped n S a ∧ ∀ t, t < j → t < n → a[t]? = some (row t)

theorem RowsDone.of_ge {α : Type} {n S j : Nat} {row : Nat → List α} {a : List (List α)} (h : RowsDone n S row j a) (hj : n ≤ j)
    (j' : Nat) : RowsDone n S row j' a :=
  ⟨h.1, fun t _ ht => h.2 t (by omega) ht⟩

theorem RowsDone.set {α : Type} {n S j : Nat} {row : Nat → List α} {a : List (List α)} (h : RowsDone n S row j a) (hj : j < n)
    {r : List α} (hr : r = row j) (hl : (row j).length = S) : RowsDone n S row (j + 1) (a.set j r) := by
  refine ⟨h.1.set hj (hr ▸ hl), fun t ht htn => ?_⟩
  by_cases htj : t = j
  · subst htj; simp [h.1.1, hj, hr]
  · rw [List.getElem?_set_ne (by omega)]; exact h.2 t (by omega) htn

theorem table_ext {α : Type} {a : List (List α)} {n : Nat} {f : Nat → List α} (hl : a.length = n)
    (h : ∀ t, t < n → a[t]? = some (f t)) : a = (List.range n).map f := by
  apply List.ext_getElem?
  intro t
  by_cases ht : t < n
  · rw [h t ht]; simp [ht]
  · rw [List.getElem?_eq_none (by omega), List.getElem?_eq_none (by simp; omega)]

theorem foldlM_enumFrom_inv {σ β : Type} (step : σ → (Nat × β) → Res σ) (Inv : Nat → σ → Prop) :
    ∀ (l : List β) (k : Nat) (s : σ), Inv k s →
      (∀ j b s, l[j]? = some b → Inv (k + j) s → ∃ s', step s (k + j, b) = ok s' ∧ Inv (k + j + 1) s') →
      ∃ s', List.foldlM step s (enumFrom k l) = ok s' ∧ Inv (k + l.length) s' := by
  intro l
  induction l with
  | nil => intro k s h _; exact ⟨s, by simp [enumFrom], h⟩
  | cons b l ih =>
    intro k s h hstep
    obtain ⟨s1, h1, i1⟩ := hstep 0 b s rfl h
    rw [Nat.add_zero] at h1 i1
    obtain ⟨s2, h2, i2⟩ := ih (k + 1) s1 i1 (fun j b' s' hb hi => by
      have e : k + 1 + j = k + (j + 1) := by omega
      rw [e] at hi ⊢
      exact hstep (j + 1) b' s' hb hi)
    refine ⟨s2, by simp [enumFrom, List.foldlM_cons, h1, h2], ?_⟩
    rwa [List.length_cons, Nat.add_comm l.length, ← Nat.add_assoc]

theorem foldlM_enumerate_inv {σ β : Type} (step : σ → (Nat × β) → Res σ) (Inv : Nat → σ → Prop) (l : List β) (s : σ)
    (h0 : Inv 0 s) (hstep : ∀ j b s, l[j]? = some b → Inv j s → ∃ s', step s (j, b) = ok s' ∧ Inv (j + 1) s') :
    ∃ s', List.foldlM step s (enumerate l) = ok s' ∧ Inv l.length s' := by
  have := foldlM_enumFrom_inv step Inv l 0 s h0 (fun j b s hb hi => by
    rw [Nat.zero_add] at hi ⊢; exact hstep j b s hb hi)
  rwa [Nat.zero_add] at this

theorem enumFrom_length {α : Type} (l : List α) (k : Nat) : (enumFrom k l).length = l.length := by
  induction l generalizing k with
  | nil => rfl
  | cons a l ih => simp [enumFrom, ih]

theorem mem_enumFrom {α : Type} {l : List α} {k i : Nat} {a : α} :
    (i, a) ∈ enumFrom k l ↔ ∃ j, i = k + j ∧ l[j]? = some a := by
  induction l generalizing k with
  | nil => simp [enumFrom]
  | cons b l ih =>
    simp only [enumFrom, List.mem_cons, Prod.mk.injEq, ih]
    constructor
    · rintro (⟨rfl, rfl⟩ | ⟨j, rfl, h⟩)
      · exact ⟨0, rfl, rfl⟩
      · exact ⟨j + 1, by omega, h⟩
    · rintro ⟨j, rfl, h⟩
      cases j with
      | zero => exact Or.inl ⟨rfl, (Option.some.inj h).symm⟩
      | succ j => exact Or.inr ⟨j, by omega, h⟩

theorem mem_enumerate {α : Type} {l : List α} {i : Nat} {a : α} : (i, a) ∈ enumerate l ↔ l[i]? = some a := by
  simp [enumerate, mem_enumFrom]

theorem enumerate_ne_nil {α : Type} {l : List α} (h : l ≠ []) : enumerate l ≠ [] := by
  cases l with
  | nil => exact absurd rfl h
  | cons a l => simp [enumerate, enumFrom]

/-- `a` is `a0` with the entries `0 … j-1` of row `i` replaced by `G 0 … G (j-1)` -/
structure RowFilled {α : Type} (a0 a : List (List α)) (i j : Nat) (G : Nat → α) (S : Nat) : Prop where
  len : a.length = a0.length
  other : ∀ t, t ≠ i → a[t]? = a0[t]?
  row : ∃ r r0, a[i]? = some r ∧ a0[i]? = some r0 ∧ r.length = S ∧ r0.length = S ∧
    (∀ k, k < j → r[k]? = some (G k)) ∧ (∀ k, j ≤ k → r[k]? = r0[k]?)

theorem RowFilled.zero {α : Type} {a0 : List (List α)} {i S : Nat} {r0 : List α} (G : Nat → α) (h : a0[i]? = some r0)
    (hl : r0.length = S) : RowFilled a0 a0 i 0 G S :=
  ⟨rfl, fun _ _ => rfl, r0, r0, h, h, hl, hl, fun k hk => absurd hk (by omega), fun _ _ => rfl⟩

theorem RowFilled.step {α : Type} {a0 a : List (List α)} {i j S : Nat} {G : Nat → α} (h : RowFilled a0 a i j G S) (hj : j < S) :
    ∃ a', set2 a i j (G j) = ok a' ∧ RowFilled a0 a' i (j + 1) G S := by
  obtain ⟨hlen, hoth, r, r0, hr, hr0, hl, hl0, hlo, hhi⟩ := h
  have hi : i < a.length := lt_of_getElem?_eq_some hr
  refine ⟨a.set i (r.set j (G j)), set2_ok hr (by omega), ?_⟩
  refine ⟨by simp [hlen], ?_, r.set j (G j), r0, by simp [hi], hr0, by simp [hl], hl0, ?_, ?_⟩
  · intro t ht
    rw [List.getElem?_set_ne (by omega)]
    exact hoth t ht
  · intro k hk
    by_cases hkj : k = j
    · subst hkj; simp [List.getElem?_set_self (by omega : k < r.length)]
    · rw [List.getElem?_set_ne (by omega)]
      exact hlo k (by omega)
  · intro k hk
    rw [List.getElem?_set_ne (by omega)]
    exact hhi k (by omega)

theorem RowFilled.get_other {α : Type} {a0 a : List (List α)} {i j S : Nat} {G : Nat → α} (h : RowFilled a0 a i j G S)
    {t : Nat} (ht : t ≠ i) (k : Nat) : get2 a t k = get2 a0 t k := by
  simp [get2, h.other t ht]

theorem RowFilled.row_other {α : Type} {a0 a : List (List α)} {i j S : Nat} {G : Nat → α} (h : RowFilled a0 a i j G S)
    {t : Nat} (ht : t ≠ i) : row2 a t = row2 a0 t := by
  simp [row2, idx, h.other t ht]

theorem RowFilled.get_pending {α : Type} {a0 a : List (List α)} {i j S : Nat} {G : Nat → α} (h : RowFilled a0 a i j G S)
    {k : Nat} (hk : j ≤ k) : get2 a i k = get2 a0 i k := by
  obtain ⟨_, _, r, r0, hr, hr0, _, _, _, hhi⟩ := h
  simp [get2, hr, hr0, idx, hhi k hk]

theorem RowFilled.done {α : Type} {a0 a : List (List α)} {i S : Nat} {G : Nat → α} (h : RowFilled a0 a i S G S) :
    a = a0.set i ((List.range S).map G) := by
  obtain ⟨hlen, hoth, r, r0, hr, hr0, hl, hl0, hlo, _⟩ := h
  have hr' : r = (List.range S).map G := by
    apply List.ext_getElem?
    intro k
    by_cases hk : k < S
    · rw [hlo k hk]; simp [hk]
    · rw [List.getElem?_eq_none (by omega), List.getElem?_eq_none (by simp; omega)]
  have hi : i < a0.length := lt_of_getElem?_eq_some hr0
  apply List.ext_getElem?
  intro t
  by_cases ht : t = i
  · subst ht; rw [hr, hr']; simp [hi]
  · rw [hoth t ht, List.getElem?_set_ne (by omega)]

/-- the whole loop: a `for j in 0 … S-1` whose body writes `G j` into `(proj s)[[i, j]]` (and keeps `Q`) -/
theorem fill_row {σ α : Type} (proj : σ → List (List α)) (step : σ → Nat → Res σ) (G : Nat → α) (i S : Nat)
    (Q : Nat → σ → Prop) (s0 : σ) (r0 : List α) (hr0 : (proj s0)[i]? = some r0) (hl : r0.length = S) (hQ : Q 0 s0)
    (hstep : ∀ j s, j < S → RowFilled (proj s0) (proj s) i j G S → Q j s →
      ∃ s', step s j = ok s' ∧ RowFilled (proj s0) (proj s') i (j + 1) G S ∧ Q (j + 1) s') :
    ∃ s', List.foldlM step s0 (List.range S) = ok s' ∧ proj s' = (proj s0).set i ((List.range S).map G) ∧ Q S s' := by
  obtain ⟨s', h1, h2, h3⟩ := foldlM_range_inv step (fun j s => RowFilled (proj s0) (proj s) i j G S ∧ Q j s) S s0
    ⟨RowFilled.zero G hr0 hl, hQ⟩ (fun j s hj ⟨h1, h2⟩ => by
      obtain ⟨s', e, f, q⟩ := hstep j s hj h1 h2
      exact ⟨s', e, f, q⟩)
  exact ⟨s', h1, h2.done, h3⟩

/-- the loop over the table alone whose body amounts to `a[[i, j]] = G j` -/
theorem fill_row_eq {α : Type} (step : List (List α) → Nat → Res (List (List α))) (G : Nat → α) (i S : Nat)
    (a0 : List (List α)) (r0 : List α) (hr0 : a0[i]? = some r0) (hl : r0.length = S)
    (hstep : ∀ j a, j < S → RowFilled a0 a i j G S → step a j = set2 a i j (G j)) :
    List.foldlM step a0 (List.range S) = ok (a0.set i ((List.range S).map G)) := by
  obtain ⟨s', h1, h2, _⟩ := fill_row (fun s => s) step G i S (fun _ _ => True) a0 r0 hr0 hl trivial (fun j s hj hf _ => by
    obtain ⟨a', ha', hf'⟩ := hf.step hj
    exact ⟨a', (hstep j s hj hf).trans ha', hf', trivial⟩)
  rw [h1, h2]

/-- the `Array2` of values inside a loop state: the state is the table itself or a tuple whose first component it is (the
translator orders the state variables by declaration, and every function declares `vals` first).  Used by the proofs about
`forward` only (`Thm/GenSrcHmmForward.lean`), whose documented rewrite adds a scratch buffer to the state; the `backward` and
`viterbi` proofs project by hand. -/
class HasVals (σ : Type) where
  get : σ → List (List Nat)

instance : HasVals (List (List Nat)) := ⟨fun s => s⟩
instance {β : Type} : HasVals (List (List Nat) × β) := ⟨fun s => s.1⟩

@[simp] theorem HasVals.get_plain (s : List (List Nat)) : HasVals.get s = s := rfl
@[simp] theorem HasVals.get_pair {β : Type} (v : List (List Nat)) (x : β) : HasVals.get (v, x) = v := rfl
@[simp] theorem HasVals.get_fst {β : Type} (s : List (List Nat) × β) : HasVals.get s = s.1 := rfl

theorem foldl_maxStep_spec {α : Type} (cmp : α → α → Ordering) (score : α → Nat)
    (hc : ∀ x y, (cmp x y = .gt → score y ≤ score x) ∧ (cmp x y ≠ .gt → score x ≤ score y)) :
    ∀ (l : List α) (a : α), (l.foldl (maxStep cmp) a = a ∨ l.foldl (maxStep cmp) a ∈ l) ∧
      score a ≤ score (l.foldl (maxStep cmp) a) ∧ ∀ y ∈ l, score y ≤ score (l.foldl (maxStep cmp) a) := by
  intro l
  induction l with
  | nil => intro a; simp
  | cons b l ih =>
    intro a
    simp only [List.foldl_cons]
    obtain ⟨h1, h2, h3⟩ := ih (maxStep cmp a b)
    have hm : (maxStep cmp a b = a ∨ maxStep cmp a b = b) ∧ score a ≤ score (maxStep cmp a b) ∧ score b ≤ score (maxStep cmp a b) := by
      unfold maxStep
      by_cases hg : cmp a b = .gt
      · rw [if_pos hg]; exact ⟨Or.inl rfl, Nat.le_refl _, (hc a b).1 hg⟩
      · rw [if_neg hg]; exact ⟨Or.inr rfl, (hc a b).2 hg, Nat.le_refl _⟩
    refine ⟨?_, Nat.le_trans hm.2.1 h2, ?_⟩
    · rcases h1 with h1 | h1
      · rw [h1]
        rcases hm.1 with e | e
        · left; exact e
        · right; rw [e]; simp
      · right; exact List.mem_cons_of_mem _ h1
    · intro y hy
      rcases List.mem_cons.mp hy with rfl | hy
      · exact Nat.le_trans hm.2.2 h2
      · exact h3 y hy

/-- the list form of `argmax_of_step` / `argmaxBy_spec` (`Lemmas/C14.lean`, the mirror model's scan over indices) -/
theorem maxBy_spec {α : Type} (cmp : α → α → Ordering) (score : α → Nat)
    (hc : ∀ x y, (cmp x y = .gt → score y ≤ score x) ∧ (cmp x y ≠ .gt → score x ≤ score y)) (l : List α) (hl : l ≠ []) :
    ∃ x, maxBy cmp l = some x ∧ x ∈ l ∧ ∀ y ∈ l, score y ≤ score x := by
  cases l with
  | nil => exact absurd rfl hl
  | cons a l =>
    obtain ⟨h1, h2, h3⟩ := foldl_maxStep_spec cmp score hc l a
    refine ⟨_, rfl, ?_, ?_⟩
    · rcases h1 with h1 | h1
      · rw [h1]; simp
      · exact List.mem_cons_of_mem _ h1
    · intro y hy
      rcases List.mem_cons.mp hy with rfl | hy
      · exact h2
      · exact h3 y hy

/-- `max_by` over the enumerated `row`, **in any order**, with a comparator that refines `score`: the index of an entry with
maximal score, paired with that entry -/
theorem maxBy_enumerate_spec (cmp : Nat × Nat → Nat × Nat → Ordering) (score : Nat × Nat → Nat)
    (hc : ∀ x y, (cmp x y = .gt → score y ≤ score x) ∧ (cmp x y ≠ .gt → score x ≤ score y)) (row : List Nat)
    (hS : 0 < row.length) (lst : List (Nat × Nat)) (hlst : ∀ x, x ∈ lst ↔ x ∈ enumerate row) :
    ∃ a, a < row.length ∧ maxBy cmp lst = some (a, RbV.Hmm.ix row a) ∧
      ∀ k, k < row.length → score (k, RbV.Hmm.ix row k) ≤ score (a, RbV.Hmm.ix row a) := by
  have hmem : ∀ k, k < row.length → (k, RbV.Hmm.ix row k) ∈ lst := fun k hk =>
    (hlst _).mpr (mem_enumerate.mpr (by rw [ix_eq_getElem hk]; exact List.getElem?_eq_getElem hk))
  obtain ⟨⟨a, v⟩, hx, hin, hub⟩ := maxBy_spec cmp score hc lst (List.ne_nil_of_mem (hmem 0 hS))
  have hav := mem_enumerate.mp ((hlst _).mp hin)
  have ha := lt_of_getElem?_eq_some hav
  have hv : v = RbV.Hmm.ix row a := by rw [ix_eq_getElem ha]; exact (List.getElem?_eq_some_iff.mp hav).2.symm
  subst hv
  exact ⟨a, ha, hx, fun k hk => hub _ (hmem k hk)⟩

end RbV.Rs

namespace RbV.Hmm

theorem ix_set_self {l : List Nat} {j v : Nat} (h : j < l.length) : ix (l.set j v) j = v := by
  simp [ix, List.getD, h]

theorem ix_set_ne {l : List Nat} {j c v : Nat} (h : c ≠ j) : ix (l.set j v) c = ix l c := by
  simp [ix, List.getD, List.getElem?_set_ne (Ne.symm h)]

theorem goodMats_of_index (m : Hmm) : ∀ (os : List Nat) (vs fs : List (List Nat)) (col : List Nat),
    vs.length = os.length → fs.length = os.length →
    (∀ t, t < os.length → GoodStep m ((col :: vs)[t]?.getD []) (os[t]?.getD 0) (vs[t]?.getD [], fs[t]?.getD [])) →
    GoodMats m col os (vs.zip fs) := by
  intro os
  induction os with
  | nil =>
    intro vs fs col hv hf _
    have : vs = [] := List.length_eq_zero_iff.mp hv
    subst this
    exact GoodMats.nil col
  | cons o os ih =>
    intro vs fs col hv hf h
    cases vs with
    | nil => simp at hv
    | cons v vs =>
      cases fs with
      | nil => simp at hf
      | cons f fs =>
        simp only [List.zip_cons_cons]
        refine GoodMats.cons (cf := (v, f)) ?_ (ih vs fs v (by simpa using hv) (by simpa using hf) ?_)
        · simpa using h 0 (by simp)
        · intro t ht
          simpa using h (t + 1) (by simp; omega)

theorem lastCol_zip : ∀ (vs fs : List (List Nat)) (col : List Nat), vs.length = fs.length →
    lastCol col (vs.zip fs) = (col :: vs)[vs.length]?.getD [] := by
  intro vs
  induction vs with
  | nil => intro fs col _; simp [lastCol]
  | cons v vs ih =>
    intro fs col h
    cases fs with
    | nil => simp at h
    | cons f fs =>
      simp only [List.zip_cons_cons, lastCol]
      rw [ih fs v (by simpa using h)]
      simp

end RbV.Hmm
