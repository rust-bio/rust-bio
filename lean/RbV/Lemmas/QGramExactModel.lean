import RbV.Model.QGramExact
import RbV.Lemmas.QGramExact
import RbV.Lemmas.QGramAssoc
/-! The model of `exact_matches` reports exactly the records of `exactMatchesRef` (for every `max_count`). Core only. -/
namespace RbV.QGram

/-- two runs that share a hit are the same run -/
theorem run_unique {H : List (Nat × Nat)} {a p n a' p' n' j : Nat} (h1 : IsRun H a p n) (h2 : IsRun H a' p' n')
    (hj : j ≤ n') (ha : a = a' + j) (hp : p = p' + j) : a = a' ∧ p = p' ∧ n = n' := by
  subst ha hp
  cases j with
  | succ j => exact absurd ⟨Nat.succ_pos _, Nat.succ_pos _, h2.1 j (Nat.le_of_succ_le hj)⟩ h1.2.1
  | zero =>
    refine ⟨rfl, rfl, ?_⟩
    rcases Nat.lt_trichotomy n n' with h | h | h
    · exact absurd (h2.1 (n + 1) h) h1.2.2
    · exact h
    · exact absurd (h1.1 (n' + 1) h) h2.2.2

theorem recOf_inj {q a p n a' p' n' : Nat} (h : recOf q a p n = recOf q a' p' n') : a = a' ∧ p = p' ∧ n = n' := by
  simp only [recOf, Prod.mk.injEq] at h
  omega

/-- the block of `n + 1` consecutive hits from `(a, p)` on is open on diagonal `d` after the hits `H1`: its hits are in `H1`, it
is left-maximal, and it ends at the last hit of `H1` on that diagonal -/
structure OpenRec (H H1 : List (Nat × Nat)) (d : Int) (a p n : Nat) : Prop where
  diag_eq : diag (a, p) = d
  hits : ∀ j, j ≤ n → (a + j, p + j) ∈ H1
  leftMax : LeftMax H a p
  last : ∀ h ∈ H1, diag h = d → h.1 ≤ a + n

/-- state invariant after the hits `H1` (a prefix of `H`) have been visited: the keys of the table are distinct; a diagonal has
an entry iff a hit of `H1` lies on it; the entry of a diagonal is an open record (`OpenRec`); every closed record is a (two-sided
maximal) run of `H`; every visited hit is covered by a closed record or by the open record of its diagonal -/
structure ExInv (q : Nat) (H H1 : List (Nat × Nat)) (st : List (Int × ExactRec) × List ExactRec) : Prop where
  keys : (AKeys st.1).Pairwise (· ≠ ·)
  absent : ∀ d, assocGet d st.1 = none ↔ ∀ h ∈ H1, diag h ≠ d
  open_ : ∀ d r, assocGet d st.1 = some r → ∃ a p n, r = recOf q a p n ∧ OpenRec H H1 d a p n
  closed : ∀ r ∈ st.2, ∃ a p n, r = recOf q a p n ∧ IsRun H a p n
  covered : ∀ h ∈ H1, ∃ a p n j, j ≤ n ∧ h = (a + j, p + j) ∧
      (recOf q a p n ∈ st.2 ∨ assocGet (diag h) st.1 = some (recOf q a p n))

theorem mem_prefix_of_lt {H H1 H2 : List (Nat × Nat)} {h x : Nat × Nat} (hs : H = H1 ++ h :: H2)
    (hsorted : H.Pairwise lexLt) (hx : x ∈ H) (hlt : x.1 < h.1) : x ∈ H1 := by
  rw [hs] at hx hsorted
  rcases List.mem_append.mp hx with h1 | h1
  · exact h1
  · exfalso
    rcases List.mem_cons.mp h1 with h2 | h2
    · rw [h2] at hlt; omega
    · have := (List.pairwise_cons.mp (List.pairwise_append.mp hsorted).2.1).1 x h2
      have := lexLt_fst_le this
      omega

/-- the part of the invariant that only depends on how the table was updated at key `diag h` -/
theorem exInv_update (q : Nat) (H H1 : List (Nat × Nat)) (h : Nat × Nat)
    (st : List (Int × ExactRec) × List ExactRec) (hinv : ExInv q H H1 st)
    (T' : List (Int × ExactRec)) (out' : List ExactRec) (a0 p0 n0 : Nat)
    (hkeys : (AKeys T').Pairwise (· ≠ ·))
    (hget : ∀ d', assocGet d' T' = if d' = diag h then some (recOf q a0 p0 n0) else assocGet d' st.1)
    (hnew : OpenRec H (H1 ++ [h]) (diag h) a0 p0 n0) (hend : h = (a0 + n0, p0 + n0))
    (hout : ∀ r ∈ out', r ∈ st.2 ∨ ∃ a p n, r = recOf q a p n ∧ IsRun H a p n)
    (hkeep : ∀ r ∈ st.2, r ∈ out')
    (hcov : ∀ a p n, assocGet (diag h) st.1 = some (recOf q a p n) →
        recOf q a p n ∈ out' ∨ (a = a0 ∧ p = p0 ∧ n ≤ n0)) :
    ExInv q H (H1 ++ [h]) (T', out') := by
  refine ⟨hkeys, ?_, ?_, ?_, ?_⟩
  · intro d'
    rw [hget d']
    by_cases hd : d' = diag h
    · simp only [hd, if_true]
      constructor
      · intro hh; cases hh
      · intro hh; exact absurd rfl (hh h (by simp))
    · simp only [hd, if_false]
      rw [hinv.absent d']
      constructor
      · intro hh x hx
        rcases List.mem_append.mp hx with h' | h'
        · exact hh x h'
        · simp at h'; rw [h']; exact fun e => hd e.symm
      · intro hh x hx; exact hh x (by simp [hx])
  · intro d' r hr
    rw [hget d'] at hr
    by_cases hd : d' = diag h
    · simp only [hd, if_true, Option.some.injEq] at hr
      subst hd
      exact ⟨a0, p0, n0, hr.symm, hnew⟩
    · simp only [hd, if_false] at hr
      obtain ⟨a, p, n, e1, o⟩ := hinv.open_ d' r hr
      refine ⟨a, p, n, e1, o.diag_eq, fun j hj => by simp [o.hits j hj], o.leftMax, ?_⟩
      intro x hx hdx
      rcases List.mem_append.mp hx with h' | h'
      · exact o.last x h' hdx
      · simp at h'; rw [h'] at hdx; exact absurd hdx.symm hd
  · intro r hr
    rcases hout r hr with h' | h'
    · exact hinv.closed r h'
    · exact h'
  · intro x hx
    rcases List.mem_append.mp hx with h' | h'
    · obtain ⟨a, p, n, j, hj, hxe, hc⟩ := hinv.covered x h'
      rcases hc with hc | hc
      · exact ⟨a, p, n, j, hj, hxe, Or.inl (hkeep _ hc)⟩
      · by_cases hd : diag x = diag h
        · rw [hd] at hc
          rcases hcov a p n hc with h'' | ⟨ea, ep, en⟩
          · exact ⟨a, p, n, j, hj, hxe, Or.inl h''⟩
          · subst ea ep
            refine ⟨a, p, n0, j, by omega, hxe, Or.inr ?_⟩
            rw [hget, if_pos hd]
        · refine ⟨a, p, n, j, hj, hxe, Or.inr ?_⟩
          rw [hget, if_neg hd]; exact hc
    · simp at h'
      subst h'
      refine ⟨a0, p0, n0, n0, Nat.le_refl _, hend, Or.inr ?_⟩
      rw [hget, if_pos rfl]


/-- a record opened at the hit `h` itself meets what `exInv_update` asks of the new entry, as soon as no earlier hit on the
diagonal of `h` lies in the row directly before `h` or later -/
theorem new_record_ok {H H1 H2 : List (Nat × Nat)} {h : Nat × Nat} (hs : H = H1 ++ h :: H2) (hsorted : H.Pairwise lexLt)
    (hprev : ∀ x ∈ H1, diag x = diag h → x.1 + 1 < h.1) :
    OpenRec H (H1 ++ [h]) (diag h) h.1 h.2 0 := by
  refine ⟨rfl, fun j hj => ?_, ?_, fun x hx hdx => ?_⟩
  · rw [Nat.le_zero.mp hj]; exact List.mem_append_right _ (List.mem_singleton.mpr rfl)
  · rintro ⟨h1, h2, h3⟩
    have hm := mem_prefix_of_lt hs hsorted h3 (Nat.sub_lt h1 Nat.one_pos)
    have := hprev _ hm (by unfold diag; simp only; omega)
    simp only at this
    omega
  · rcases List.mem_append.mp hx with h' | h'
    · have := hprev x h' hdx; omega
    · rw [List.mem_singleton.mp h']; exact Nat.le_refl _

theorem exInv_step (q : Nat) (H H1 H2 : List (Nat × Nat)) (h : Nat × Nat) (hs : H = H1 ++ h :: H2)
    (hsorted : H.Pairwise lexLt) (st : List (Int × ExactRec) × List ExactRec) (hinv : ExInv q H H1 st) :
    ExInv q H (H1 ++ [h]) (exactStep q st h) := by
  have hbefore : ∀ x ∈ H1, lexLt x h := by
    rw [hs] at hsorted
    exact fun x hx => (List.pairwise_append.mp hsorted).2.2 x hx h (by simp)
  have hsub : ∀ x ∈ H1, x ∈ H := by intro x hx; rw [hs]; simp [hx]
  have hhH : h ∈ H := by rw [hs]; simp
  unfold exactStep
  cases hget0 : assocGet (diag h) st.1 with
  | none =>
    simp only
    have hno : ∀ x ∈ H1, diag x ≠ diag h := (hinv.absent _).mp hget0
    apply exInv_update q H H1 h st hinv _ _ h.1 h.2 0
    · exact akeys_append hinv.keys hget0 _
    · intro d'; rw [assocGet_append d' _ _ hget0]; rfl
    · exact new_record_ok hs hsorted fun x hx hdx => absurd hdx (hno x hx)
    · rfl
    · intro r hr; left; exact hr
    · intro r hr; exact hr
    · intro a p n hc; rw [hget0] at hc; cases hc
  | some m =>
    obtain ⟨a, p', n, rfl, o⟩ := hinv.open_ _ m hget0
    have hlastH1 : (a + n, p' + n) ∈ H1 := o.hits n (Nat.le_refl _)
    have hdlast : diag (a + n, p' + n) = diag h := by
      rw [← o.diag_eq]; unfold diag; simp only; omega
    have hlt : a + n < h.1 := lexLt_same_diag (hbefore _ hlastH1) hdlast
    have hdiag : (h.2 : Int) - (h.1 : Int) = (p' : Int) - (a : Int) := by
      have := o.diag_eq; unfold diag at this; simp only at this; omega
    simp only [recOf]
    by_cases hcont : a + n + 1 = h.1
    · have hc : (a + n + q - q + 1 != h.1) = false := by
        rw [Nat.add_sub_cancel, hcont]; exact bne_self_eq_false _
      simp only [hc, Bool.false_eq_true, if_false]
      have hh2 : h.2 = p' + n + 1 := by omega
      apply exInv_update q H H1 h st hinv _ _ a p' (n + 1)
      · rw [akeys_set]; exact hinv.keys
      · intro d'
        rw [assocGet_set_some hget0, show (a, h.1 + q, p', h.2 + q) = recOf q a p' (n + 1) by rw [← hcont, hh2]; rfl]
      · refine ⟨o.diag_eq, ?_, o.leftMax, ?_⟩
        · intro j hj
          by_cases hjn : j ≤ n
          · simp [o.hits j hjn]
          · rw [show j = n + 1 by omega, show (a + (n + 1), p' + (n + 1)) = h from Prod.ext hcont hh2.symm]; simp
        · intro x hx hdx
          rcases List.mem_append.mp hx with h' | h'
          · have := o.last x h' hdx; omega
          · simp at h'; subst h'; omega
      · apply Prod.ext <;> simp only <;> omega
      · intro r hr; left; exact hr
      · intro r hr; exact hr
      · intro a1 p1 n1 hc1
        rw [hget0] at hc1
        simp only [Option.some.injEq] at hc1
        have := recOf_inj (q := q) (a := a) (p := p') (n := n) (a' := a1) (p' := p1) (n' := n1) hc1
        right; omega
    · have hc : (a + n + q - q + 1 != h.1) = true := by
        rw [Nat.add_sub_cancel]; exact bne_iff_ne.mpr hcont
      simp only [hc, if_true]
      apply exInv_update q H H1 h st hinv _ _ h.1 h.2 0
      · rw [akeys_set]; exact hinv.keys
      · exact fun d' => assocGet_set_some hget0 d' _
      · exact new_record_ok hs hsorted fun x hx hdx => by have := o.last x hx hdx; omega
      · rfl
      · intro r hr
        rcases List.mem_append.mp hr with h' | h'
        · left; exact h'
        · right
          simp at h'
          refine ⟨a, p', n, h', fun j hj => hsub _ (o.hits j hj), o.leftMax, ?_⟩
          intro hin
          have hm := mem_prefix_of_lt hs hsorted hin (by simp; omega)
          have := o.last _ hm (by rw [← o.diag_eq]; unfold diag; simp only; omega)
          simp only at this
          omega
      · intro r hr; simp [hr]
      · intro a1 p1 n1 hc1
        rw [hget0] at hc1
        simp only [Option.some.injEq] at hc1
        left
        rw [← hc1]; simp [recOf]

theorem exInv_foldl (q : Nat) (H : List (Nat × Nat)) (hsorted : H.Pairwise lexLt) :
    ∀ (H2 H1 : List (Nat × Nat)) (st : List (Int × ExactRec) × List ExactRec), H = H1 ++ H2 → ExInv q H H1 st →
      ExInv q H H (H2.foldl (exactStep q) st) := by
  intro H2
  induction H2 with
  | nil => intro H1 st hs hinv; simp at hs; subst hs; simpa using hinv
  | cons h H2 ih =>
    intro H1 st hs hinv
    simp only [List.foldl_cons]
    exact ih (H1 ++ [h]) (exactStep q st h) (by rw [hs]; simp) (exInv_step q H H1 H2 h hs hsorted st hinv)

theorem exInv_init (q : Nat) (H : List (Nat × Nat)) : ExInv q H [] ([], []) := by
  refine ⟨by simp [AKeys], ?_, ?_, ?_, ?_⟩
  · intro d; simp [assocGet]
  · intro d r hr; simp [assocGet] at hr
  · intro r hr; cases hr
  · intro h hh; cases hh

/-- **the model of `exact_matches` and the reference report the same records** -/
theorem exactMatchesModel_mem_iff (mc q : Nat) (pat text : List Nat) (r : ExactRec) :
    r ∈ exactMatchesModel mc q pat text ↔ r ∈ exactMatchesRef mc q pat text := by
  have hsorted := hits_lex_sorted mc q pat text
  have I := exInv_foldl q (hits mc q pat text) hsorted (hits mc q pat text) [] ([], []) (by simp)
    (exInv_init q _)
  rw [exactMatchesRef_iff_run mc q pat text]
  unfold exactMatchesModel
  simp only [List.mem_append, List.mem_map]
  -- open records are runs once every hit has been visited
  have hopen : ∀ d r, assocGet d ((hits mc q pat text).foldl (exactStep q) ([], [])).1 = some r →
      ∃ a p n, r = recOf q a p n ∧ IsRun (hits mc q pat text) a p n := by
    intro d r hr
    obtain ⟨a, p, n, e1, o⟩ := I.open_ d r hr
    refine ⟨a, p, n, e1, o.hits, o.leftMax, ?_⟩
    intro hin
    have := o.last _ hin (by rw [← o.diag_eq]; unfold diag; simp only; omega)
    simp only at this
    omega
  constructor
  · rintro (h | ⟨⟨d, r'⟩, hmem, rfl⟩)
    · exact I.closed r h
    · exact hopen d r' ((mem_iff_assocGet I.keys d r').mp hmem)
  · rintro ⟨a, p, n, rfl, hrun⟩
    have h0 : (a, p) ∈ hits mc q pat text := by simpa using hrun.1 0 (by omega)
    obtain ⟨a', p', n', j, hj, hxe, hc⟩ := I.covered _ h0
    simp only [Prod.mk.injEq] at hxe
    have hrun' : IsRun (hits mc q pat text) a' p' n' := by
      rcases hc with hc | hc
      · obtain ⟨a2, p2, n2, e, hr2⟩ := I.closed _ hc
        obtain ⟨rfl, rfl, rfl⟩ := recOf_inj e
        exact hr2
      · obtain ⟨a2, p2, n2, e, hr2⟩ := hopen _ _ hc
        obtain ⟨rfl, rfl, rfl⟩ := recOf_inj e
        exact hr2
    obtain ⟨rfl, rfl, rfl⟩ := run_unique hrun hrun' hj hxe.1 hxe.2
    rcases hc with hc | hc
    · left; exact hc
    · right
      exact ⟨(_, recOf q a p n), (mem_iff_assocGet I.keys _ _).mpr hc, rfl⟩

end RbV.QGram
