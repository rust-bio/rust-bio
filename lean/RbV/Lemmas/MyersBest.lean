import RbV.Ref.EditDist
import RbV.Lemmas.HitsClamp
import RbV.Basic.RsSemGenlong
/-!
`distance` / `find_best_end` of the Myers matchers from the list `find_all_end(text, MAX)` yields (C09): when no column value
exceeds the threshold, `hitsFrom` lists every end position, its first minimum (`Iterator::min_by_key`: first on ties) is the
reference `firstMin`, and the running minimum of `distance` is its value.  Core Lean only.
-/
namespace RbV.EditDist

/-- the update of `min_by_key`'s fold -/
def updBest (best y : Nat × Nat) : Nat × Nat := if y.2 < best.2 then y else best

/-- the update of `distance`: `if d < dist { dist = d }` -/
def updDist (dist : Nat) (y : Nat × Nat) : Nat := if y.2 < dist then y.2 else dist

/-- one text position of `distance`: the search with threshold `K ≥ dist` reports `d` or not, the running minimum is the same -/
theorem foldl_updDist_report (K dist d i : Nat) (rest : List (Nat × Nat)) (hd : dist ≤ K) :
    (if d ≤ K then (i, d) :: rest else rest).foldl updDist dist = rest.foldl updDist (if d < dist then d else dist) := by
  split
  · rfl
  · rw [if_neg (by omega)]

theorem foldl_updBest_hitsFrom (k : Nat) : ∀ (row : List Nat) (j : Nat) (best : Nat × Nat), (∀ d ∈ row, d ≤ k) →
    (hitsFrom k j row).foldl updBest best =
      match firstMin j row with
      | none => best
      | some y => if best.2 ≤ y.2 then best else y := by
  intro row
  induction row with
  | nil => intro j best _; simp [hitsFrom, firstMin]
  | cons d r ih =>
    intro j best h
    have hd : d ≤ k := h d (by simp)
    have ih' := ih (j + 1) (updBest best (j, d)) (fun x hx => h x (by simp [hx]))
    simp only [hitsFrom, hd, if_true, List.foldl_cons, ih', firstMin]
    cases hf : firstMin (j + 1) r with
    | none =>
      simp only [updBest]
      by_cases h1 : d < best.2
      · simp [h1]; omega
      · simp [h1]
    | some y =>
      obtain ⟨j', d'⟩ := y
      simp only [updBest]
      by_cases h1 : d < best.2 <;> by_cases h2 : d ≤ d' <;> by_cases h3 : best.2 ≤ d' <;>
        simp [h1, h2, h3] <;> omega

theorem foldl_updDist_eq_snd_foldl_updBest (l : List (Nat × Nat)) : ∀ (best : Nat × Nat), l.foldl updDist best.2 = (l.foldl updBest best).2 := by
  induction l with
  | nil => intro best; rfl
  | cons y l ih =>
    intro best
    simp only [List.foldl_cons]
    have : updDist best.2 y = (updBest best y).2 := by
      simp only [updDist, updBest]; split <;> rfl
    rw [this, ih]

/-- `find_best_end`: the first minimum of everything `find_all_end` lists = the reference `firstMin` -/
theorem minByKeySnd_hitsFrom (k : Nat) (row : List Nat) (j : Nat) (h : ∀ d ∈ row, d ≤ k) :
    RbV.Rs.minByKeySnd (hitsFrom k j row) = firstMin j row := by
  cases row with
  | nil => simp [hitsFrom, firstMin, RbV.Rs.minByKeySnd]
  | cons d r =>
    have hd : d ≤ k := h d (by simp)
    have := foldl_updBest_hitsFrom k r (j + 1) (j, d) (fun x hx => h x (by simp [hx]))
    simp only [hitsFrom, hd, if_true, RbV.Rs.minByKeySnd, firstMin]
    have hfun : (fun (best y : Nat × Nat) => if y.2 < best.2 then y else best) = updBest := rfl
    rw [hfun, this]
    cases firstMin (j + 1) r with
    | none => rfl
    | some y => obtain ⟨j', d'⟩ := y; simp only; split <;> rfl

/-- `distance`: the running minimum over everything `find_all_end` lists = the value of `firstMin` -/
theorem foldl_updDist_hitsFrom (k : Nat) (row : List Nat) (j : Nat) (h : ∀ d ∈ row, d ≤ k) :
    (hitsFrom k j row).foldl updDist k = ((firstMin j row).map (·.2)).getD k := by
  have h1 := foldl_updDist_eq_snd_foldl_updBest (hitsFrom k j row) (0, k)
  simp only at h1
  rw [h1, foldl_updBest_hitsFrom k row j (0, k) h]
  cases hf : firstMin j row with
  | none => rfl
  | some y =>
    simp only [Option.map_some, Option.getD_some]
    have hy : y.2 ≤ k := by
      obtain ⟨j', d'⟩ := y
      obtain ⟨_, h2, _, _⟩ := firstMin_spec row j j' d' hf
      exact h d' (List.mem_of_getElem? h2)
    by_cases hc : k ≤ y.2
    · simp [hc]; omega
    · simp [hc]

/-- with a threshold `K ≥ |p|` the hits are all end positions: their running minimum (`distance`) is the value of `firstMin` … -/
theorem hits_foldl_updDist (w : Nat → Nat → Nat) (p t : List Nat) (K : Nat) (hK : p.length ≤ K) :
    (hits w p t K).foldl updDist K = ((firstMin 0 (lastRow w p t)).map (·.2)).getD K :=
  foldl_updDist_hitsFrom K _ 0 fun d hd => Nat.le_trans (lastRow_le w p t d hd) hK

/-- … and their first minimum (`find_best_end`) is `firstMin` -/
theorem hits_minByKeySnd (w : Nat → Nat → Nat) (p t : List Nat) (K : Nat) (hK : p.length ≤ K) :
    RbV.Rs.minByKeySnd (hits w p t K) = firstMin 0 (lastRow w p t) :=
  minByKeySnd_hitsFrom K _ 0 fun d hd => Nat.le_trans (lastRow_le w p t d hd) hK

end RbV.EditDist
