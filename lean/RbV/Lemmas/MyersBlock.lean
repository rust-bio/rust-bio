import RbV.Model.MyersLong
/-!
`advance_block` of the block-based Myers matcher computes the next Sellers column on the rows of its block, given the
horizontal difference `hin` at the block's upper edge, and hands the difference at its lower edge on as `hout`
(C09 [C]).  Core Lean only (`BitVec` lemmas of core: `getLsbD_add`, `carry_succ`; no `bv_decide`).

The single-word `_step` is the block step with `hin = 0` (`Lemmas/MyersStep.lean`).
-/
namespace RbV.Model.MyersSimple

/-! ### the addition trick: `xh` bit `i` = `eq` bit `i` or the carry, and the carry is `mh` of the row below -/

theorem xh_bit {w : Nat} (eq pv : BitVec w) (i : Nat) (hi : i < w) :
    ((((eq &&& pv) + pv) ^^^ pv) ||| eq).getLsbD i =
      (eq.getLsbD i || BitVec.carry i (eq &&& pv) pv false) := by
  rw [BitVec.getLsbD_or, BitVec.getLsbD_xor, BitVec.getLsbD_add hi, BitVec.getLsbD_and]
  cases eq.getLsbD i <;> cases pv.getLsbD i <;> cases BitVec.carry i (eq &&& pv) pv false <;> rfl

theorem carry_step {w : Nat} (eq pv : BitVec w) (i : Nat) :
    BitVec.carry (i + 1) (eq &&& pv) pv false =
      (pv.getLsbD i && (eq.getLsbD i || BitVec.carry i (eq &&& pv) pv false)) := by
  rw [BitVec.carry_succ, BitVec.getLsbD_and]
  cases eq.getLsbD i <;> cases pv.getLsbD i <;> cases BitVec.carry i (eq &&& pv) pv false <;> rfl

/-! `xh` and `mh = pv & xh` as a recursion over the rows (`xh_zero`, `xh_succ`): no arithmetic left -/

theorem xh_zero {w : Nat} (eq pv : BitVec w) (hw : 0 < w) : (xhOf eq pv).getLsbD 0 = eq.getLsbD 0 := by
  rw [xhOf, xh_bit eq pv 0 hw, BitVec.carry_zero, Bool.or_false]

theorem xh_succ {w : Nat} (eq pv : BitVec w) (i : Nat) (hi : i + 1 < w) :
    (xhOf eq pv).getLsbD (i + 1) = (eq.getLsbD (i + 1) || (pv.getLsbD i && (xhOf eq pv).getLsbD i)) := by
  rw [xhOf, xh_bit eq pv (i + 1) hi, carry_step, xh_bit eq pv i (by omega)]

end RbV.Model.MyersSimple

namespace RbV.Model.MyersLong
open RbV.Model.MyersSimple

/-! ### one cell of the recurrence

`a`, `b` are the old column at a row and the next, `c` the new column at the row, `n` the new column at the next row.
The old vertical difference `b - a` is held by the bits `pvb`/`mvb`, the horizontal difference `c - a` at the row by
`hm`/`hp`.  The truth table of this one cell is all that is checked by cases; the rest is bookkeeping of bit positions. -/

theorem bool_eq_decide {b : Bool} {p : Prop} [Decidable p] (h : b = true ↔ p) : b = decide p := by
  cases b <;> simp_all

theorem min3_shift (a b c x : Int) :
    min (min (b + 1) (c + 1)) (a + x) = a + min (min (b - a + 1) (c - a + 1)) x := by
  rw [← Int.min_add_left, ← Int.min_add_left, show a + (b - a + 1) = b + 1 by omega, show a + (c - a + 1) = c + 1 by omega]

/-- the cell `n` from its three neighbours: the horizontal difference handed down to the next row (`mh = pv & xh`,
`ph = mv | !(xh | pv)` with `xh = eq | hm`) and the new vertical difference (`pv' = mh | !(xv | ph)`, `mv' = ph & xv` with
`xv = eq | mv`, `mh`/`ph` those of the row above) -/
theorem row_cell {a b c n : Int} {e pvb mvb hm hp xh : Bool}
    (hn : n = min (min (b + 1) (c + 1)) (a + (if e then 0 else 1)))
    (hv : -1 ≤ b - a ∧ b - a ≤ 1) (hpv : pvb = true ↔ b - a = 1) (hmv : mvb = true ↔ b - a = -1)
    (hh : -1 ≤ c - a ∧ c - a ≤ 1) (hhm : hm = true ↔ c - a = -1) (hhp : hp = true ↔ c - a = 1) (hx : xh = (e || hm)) :
    (-1 ≤ n - b ∧ n - b ≤ 1 ∧ ((pvb && xh) = true ↔ n - b = -1) ∧ ((mvb || !(xh || pvb)) = true ↔ n - b = 1)) ∧
    (-1 ≤ n - c ∧ n - c ≤ 1 ∧ ((hm || !((e || mvb) || hp)) = true ↔ n - c = 1) ∧
      ((hp && (e || mvb)) = true ↔ n - c = -1)) := by
  -- everything depends on the differences `b - a`, `c - a` ∈ {-1, 0, 1} and `e` only: 18 closed cases
  have hb : ∀ m : Int, a + m - b = m - (b - a) := fun m => by omega
  have hc : ∀ m : Int, a + m - c = m - (c - a) := fun m => by omega
  rw [hn, min3_shift, hb, hc, hx, bool_eq_decide hpv, bool_eq_decide hmv, bool_eq_decide hhm, bool_eq_decide hhp]
  generalize b - a = dv at hv ⊢
  generalize c - a = dh at hh ⊢
  rcases (by omega : dv = -1 ∨ dv = 0 ∨ dv = 1) with rfl | rfl | rfl <;>
    rcases (by omega : dh = -1 ∨ dh = 0 ∨ dh = 1) with rfl | rfl | rfl <;> cases e <;> decide

/-- `dist` and `hout` from the bits of `ph`, `mh` at the last row of a block -/
theorem row_dist {d : Nat} {b n : Int} {mh ph : Bool} (hd : (d : Int) = b) (hnn : 0 ≤ n)
    (hr : -1 ≤ n - b ∧ n - b ≤ 1) (hmh : mh = true ↔ n - b = -1) (hph : ph = true ↔ n - b = 1) :
    ((d + ph.toNat - mh.toNat : Nat) : Int) = n ∧ (ph.toNat : Int) - (mh.toNat : Int) = n - b := by
  cases mh <;> cases ph <;> simp at hmh hph ⊢ <;> omega

/-- the `dist` update does not underflow: `mh` is set at the last row only where the column falls to a value ≥ 0 -/
theorem row_nowrap {d : Nat} {b n : Int} {mh : Bool} (hd : (d : Int) = b) (hnn : 0 ≤ n) (hmh : mh = true ↔ n - b = -1)
    (ph : Bool) : mh.toNat ≤ d + ph.toNat := by
  cases mh
  · exact Nat.zero_le _
  · have := hmh.mp rfl
    have : 1 ≤ d := by omega
    exact Nat.le_trans this (Nat.le_add_right _ _)

/-- next column restricted to a block: local row 0 has the new value `b0` -/
def nextCB (D : Nat → Int) (e : Nat → Bool) (b0 : Int) : Nat → Int
  | 0 => b0
  | i + 1 => min (min (D (i + 1) + 1) (nextCB D e b0 i + 1)) (D i + (if e i then 0 else 1))

theorem nextCB_succ (D : Nat → Int) (e : Nat → Bool) (b0 : Int) (i : Nat) :
    nextCB D e b0 (i + 1) = min (min (D (i + 1) + 1) (nextCB D e b0 i + 1)) (D i + (if e i then 0 else 1)) := rfl

/-- `pv`/`mv` hold the vertical differences of the local column `D` (rows `0..n`) -/
structure EncB {w : Nat} (n : Nat) (D : Nat → Int) (pv mv : BitVec w) : Prop where
  diff : ∀ i, i < n → -1 ≤ D (i + 1) - D i ∧ D (i + 1) - D i ≤ 1
  pvb : ∀ i, i < n → (pv.getLsbD i = true ↔ D (i + 1) - D i = 1)
  mvb : ∀ i, i < n → (mv.getLsbD i = true ↔ D (i + 1) - D i = -1)

theorem EncB.congr {w : Nat} {n : Nat} {D D' : Nat → Int} {pv mv : BitVec w}
    (h : ∀ i, i ≤ n → D i = D' i) (enc : EncB n D pv mv) : EncB n D' pv mv := by
  refine ⟨?_, ?_, ?_⟩
  · intro i hi; rw [← h (i + 1) (by omega), ← h i (by omega)]; exact enc.diff i hi
  · intro i hi; rw [← h (i + 1) (by omega), ← h i (by omega)]; exact enc.pvb i hi
  · intro i hi; rw [← h (i + 1) (by omega), ← h i (by omega)]; exact enc.mvb i hi

theorem EncB.span {w : Nat} {n : Nat} {D : Nat → Int} {pv mv : BitVec w} (enc : EncB n D pv mv) :
    ∀ i j, j + i = n → D n - D j ≤ i := by
  intro i
  induction i with
  | zero => intro j h; subst h; simp
  | succ i ih =>
    intro j h
    have h1 := ih (j + 1) (by omega)
    have h2 := enc.diff j (by omega)
    omega

/-- a fresh block (`State::init`) encodes a column that rises by one per row -/
theorem EncB.allOnes {w n : Nat} (hn : n ≤ w) {D : Nat → Int} (hD : ∀ i, i < n → D (i + 1) - D i = 1) :
    EncB n D (BitVec.allOnes w) (0#w) := by
  refine ⟨fun i hi => by rw [hD i hi]; decide, fun i hi => ?_, fun i hi => ?_⟩
  · have : i < w := by omega
    simp [this, hD i hi]
  · simp [hD i hi]

theorem EncB.bit_diff {w n : Nat} {D : Nat → Int} {pv mv : BitVec w} (enc : EncB n D pv mv) (i : Nat) (hi : i < n) :
    ((pv.getLsbD i).toNat : Int) - ((mv.getLsbD i).toNat : Int) = D (i + 1) - D i ∧
    (pv.getLsbD i).toNat + (mv.getLsbD i).toNat ≤ 1 := by
  have hp := enc.pvb i hi
  have hv := enc.mvb i hi
  have hdf := enc.diff i hi
  cases hpv : pv.getLsbD i <;> cases hmv : mv.getLsbD i <;>
    simp only [hpv, hmv, Bool.false_eq_true, false_iff, true_iff, Bool.toNat_true, Bool.toNat_false] at hp hv ⊢ <;> omega

/-- `eq` with bit 0 forced when the incoming horizontal difference is −1 -/
def eqIn {w : Nat} (eq : BitVec w) (hin : Int) : BitVec w := if hin < 0 then eq ||| 1#w else eq

theorem eqIn_zero {w : Nat} (eq : BitVec w) (hin : Int) (hw : 0 < w) :
    (eqIn eq hin).getLsbD 0 = (eq.getLsbD 0 || decide (hin < 0)) := by
  unfold eqIn
  by_cases h : hin < 0
  · simp [h, BitVec.getLsbD_or, BitVec.getLsbD_one, hw]
  · simp [h]

theorem eqIn_succ {w : Nat} (eq : BitVec w) (hin : Int) (i : Nat) :
    (eqIn eq hin).getLsbD (i + 1) = eq.getLsbD (i + 1) := by
  unfold eqIn
  by_cases h : hin < 0
  · simp [h, BitVec.getLsbD_or, BitVec.getLsbD_one]
  · simp [h]

/-- horizontal differences row by row: range, and the bits of `mh = pv & xh`, `ph = mv | !(xh | pv)` (before the
shift) -/
theorem horizB {w : Nat} (n : Nat) (hn : n ≤ w) (D : Nat → Int) (eq pv mv : BitVec w) (b0 hin : Int)
    (hh : -1 ≤ hin ∧ hin ≤ 1) (hb : b0 - D 0 = hin) (enc : EncB n D pv mv) :
    ∀ i, i < n →
      -1 ≤ nextCB D eq.getLsbD b0 (i + 1) - D (i + 1) ∧ nextCB D eq.getLsbD b0 (i + 1) - D (i + 1) ≤ 1 ∧
      ((pv.getLsbD i && (xhOf (eqIn eq hin) pv).getLsbD i) = true ↔ nextCB D eq.getLsbD b0 (i + 1) - D (i + 1) = -1) ∧
      ((mv.getLsbD i || !((xhOf (eqIn eq hin) pv).getLsbD i || pv.getLsbD i)) = true ↔
        nextCB D eq.getLsbD b0 (i + 1) - D (i + 1) = 1) := by
  intro i
  induction i with
  | zero =>
    intro hi
    exact (row_cell (nextCB_succ D _ b0 0) (enc.diff 0 hi) (enc.pvb 0 hi) (enc.mvb 0 hi)
      (c := b0) (hm := decide (hin < 0)) (hp := decide (hin > 0)) (by omega) (by rw [decide_eq_true_iff]; omega)
      (by rw [decide_eq_true_iff]; omega) (by rw [xh_zero _ _ (by omega), eqIn_zero _ _ (by omega)])).1
  | succ i ih =>
    intro hi
    obtain ⟨h1, h2, h3, h4⟩ := ih (by omega)
    exact (row_cell (nextCB_succ D _ b0 (i + 1)) (enc.diff (i + 1) hi) (enc.pvb (i + 1) hi) (enc.mvb (i + 1) hi)
      ⟨h1, h2⟩ h3 h4 (by rw [xh_succ _ _ i (by omega), eqIn_succ])).1

theorem inbit_zero {w : Nat} (c : Prop) [Decidable c] (hw : 0 < w) :
    (if c then 1#w else 0#w).getLsbD 0 = decide c := by
  by_cases h : c <;> simp [h, hw]

theorem inbit_succ {w : Nat} (c : Prop) [Decidable c] (i : Nat) :
    (if c then 1#w else 0#w).getLsbD (i + 1) = false := by
  by_cases h : c <;> simp [h]

/-- the shifted words with the carried-in bit: bit `i` describes the horizontal difference of local row `i` -/
theorem horiz_shiftB {w : Nat} (n : Nat) (hn : n ≤ w) (D : Nat → Int) (eq pv mv : BitVec w) (b0 hin : Int)
    (hh : -1 ≤ hin ∧ hin ≤ 1) (hb : b0 - D 0 = hin) (enc : EncB n D pv mv) :
    ∀ i, i < n →
      -1 ≤ nextCB D eq.getLsbD b0 i - D i ∧ nextCB D eq.getLsbD b0 i - D i ≤ 1 ∧
      ((((pv &&& xhOf (eqIn eq hin) pv) <<< 1) ||| (if hin < 0 then 1#w else 0#w)).getLsbD i = true ↔
        nextCB D eq.getLsbD b0 i - D i = -1) ∧
      ((((mv ||| ~~~(xhOf (eqIn eq hin) pv ||| pv)) <<< 1) ||| (if hin > 0 then 1#w else 0#w)).getLsbD i = true ↔
        nextCB D eq.getLsbD b0 i - D i = 1) := by
  intro i hi
  rw [BitVec.getLsbD_or, BitVec.getLsbD_or, BitVec.getLsbD_shiftLeft, BitVec.getLsbD_shiftLeft]
  cases i with
  | zero =>
    rw [inbit_zero _ (by omega), inbit_zero _ (by omega)]
    simp only [nextCB]
    simp
    omega
  | succ j =>
    obtain ⟨h1, h2, h3, h4⟩ := horizB n hn D eq pv mv b0 hin hh hb enc j (by omega)
    have hw : decide (j + 1 < w) = true := by simp; omega
    have hw' : decide (j < w) = true := by simp; omega
    have h1' : decide (j + 1 < 1) = false := by simp
    rw [inbit_succ, inbit_succ]
    simp only [hw, h1', Nat.add_sub_cancel, Bool.not_false, Bool.and_true, Bool.true_and, Bool.or_false,
      BitVec.getLsbD_and, BitVec.getLsbD_or, BitVec.getLsbD_not, hw']
    exact ⟨h1, h2, h3, h4⟩

/-- **block step lemma**: if the block encodes the local column `D` (rows `0..n`, `n = bnd+1 ≤ w`), `dist = D n` and
`hin` is the horizontal difference at local row 0, then after `advance_block` the block encodes the next column, `dist`
is its last entry and `hout` the horizontal difference at the last row -/
theorem advanceBlock_enc {w : Nat} (bnd : Nat) (hn : bnd + 1 ≤ w) (D : Nat → Int) (eq : BitVec w) (s : St w)
    (b0 hin : Int) (hh : -1 ≤ hin ∧ hin ≤ 1) (hb : b0 - D 0 = hin)
    (enc : EncB (bnd + 1) D s.pv s.mv) (hd : (s.dist : Int) = D (bnd + 1))
    (hnn : 0 ≤ nextCB D eq.getLsbD b0 (bnd + 1)) :
    EncB (bnd + 1) (nextCB D eq.getLsbD b0) (advanceBlock bnd eq hin s).1.pv (advanceBlock bnd eq hin s).1.mv ∧
    ((advanceBlock bnd eq hin s).1.dist : Int) = nextCB D eq.getLsbD b0 (bnd + 1) ∧
    (advanceBlock bnd eq hin s).2 = nextCB D eq.getLsbD b0 (bnd + 1) - D (bnd + 1) := by
  have newbits : ∀ i, i < bnd + 1 →
      -1 ≤ nextCB D eq.getLsbD b0 (i + 1) - nextCB D eq.getLsbD b0 i ∧
        nextCB D eq.getLsbD b0 (i + 1) - nextCB D eq.getLsbD b0 i ≤ 1 ∧
      ((advanceBlock bnd eq hin s).1.pv.getLsbD i = true ↔
        nextCB D eq.getLsbD b0 (i + 1) - nextCB D eq.getLsbD b0 i = 1) ∧
      ((advanceBlock bnd eq hin s).1.mv.getLsbD i = true ↔
        nextCB D eq.getLsbD b0 (i + 1) - nextCB D eq.getLsbD b0 i = -1) := by
    intro i hi
    obtain ⟨a1, a2, a3, a4⟩ := horiz_shiftB (bnd + 1) hn D eq s.pv s.mv b0 hin hh hb enc i hi
    have hw : decide (i < w) = true := by simp; omega
    have := (row_cell (e := eq.getLsbD i) (nextCB_succ D _ b0 i) (enc.diff i hi) (enc.pvb i hi) (enc.mvb i hi) ⟨a1, a2⟩ a3 a4
      rfl).2
    simpa only [advanceBlock, eqIn, BitVec.getLsbD_or, BitVec.getLsbD_and, BitVec.getLsbD_not, hw, Bool.true_and] using this
  refine ⟨⟨fun i hi => ⟨(newbits i hi).1, (newbits i hi).2.1⟩, fun i hi => (newbits i hi).2.2.1,
    fun i hi => (newbits i hi).2.2.2⟩, ?_⟩
  obtain ⟨c1, c2, c3, c4⟩ := horizB (bnd + 1) hn D eq s.pv s.mv b0 hin hh hb enc bnd (by omega)
  have hw : decide (bnd < w) = true := by simp; omega
  have := row_dist hd hnn ⟨c1, c2⟩ c3 c4
  simpa only [advanceBlock, eqIn, BitVec.getLsbD_or, BitVec.getLsbD_and, BitVec.getLsbD_not, hw, Bool.true_and] using this

theorem hout_range {w : Nat} (bnd : Nat) (eq : BitVec w) (hin : Int) (s : St w) :
    -1 ≤ (advanceBlock bnd eq hin s).2 ∧ (advanceBlock bnd eq hin s).2 ≤ 1 := by
  simp only [advanceBlock]
  cases (s.mv ||| ~~~(xhOf (if hin < 0 then eq ||| 1#w else eq) s.pv ||| s.pv)).getLsbD bnd <;>
    cases (s.pv &&& xhOf (if hin < 0 then eq ||| 1#w else eq) s.pv).getLsbD bnd <;> simp

end RbV.Model.MyersLong
