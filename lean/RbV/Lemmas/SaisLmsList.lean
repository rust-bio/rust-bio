import RbV.Lemmas.SaisTypes
/-
The LMS positions of a text as a list: the index `rho` of an LMS position in `lmsBelow ty n` (`SaisTypes.lean`; this is
`reduced_text_pos`), and `lmsOf t`, all of them (`lms_pos` after the first loop of `calc_lms_pos`), which ends in the
last position of the text.
-/
namespace RbV.Sais

/-- `reduced_text_pos[q]` for an LMS position `q`: the number of LMS positions before it -/
def rho (ty : List Bool) (q : Nat) : Nat := (lmsBelow ty q).length

theorem lmsBelow_split (ty : List Bool) (q n : Nat) (hq : q < n) (hl : isLms ty q = true) :
    ∃ rest, lmsBelow ty n = lmsBelow ty q ++ q :: rest := by
  induction n with
  | zero => omega
  | succ n ih =>
    by_cases hqn : q = n
    · subst hqn
      exact ⟨[], by rw [lmsBelow_succ, if_pos hl]⟩
    · obtain ⟨rest, hr⟩ := ih (by omega)
      rw [lmsBelow_succ]
      by_cases hn : isLms ty n = true
      · exact ⟨rest ++ [n], by rw [if_pos hn, hr]; simp⟩
      · exact ⟨rest, by rw [if_neg hn, hr]⟩

theorem rho_lt (ty : List Bool) (q n : Nat) (hq : q < n) (hl : isLms ty q = true) : rho ty q < (lmsBelow ty n).length := by
  obtain ⟨rest, hr⟩ := lmsBelow_split ty q n hq hl
  rw [hr]; unfold rho; simp

theorem getD_rho (ty : List Bool) (q n : Nat) (hq : q < n) (hl : isLms ty q = true) :
    (lmsBelow ty n).getD (rho ty q) 0 = q := by
  obtain ⟨rest, hr⟩ := lmsBelow_split ty q n hq hl
  rw [hr]; unfold rho
  simp [List.getD_eq_getElem?_getD]

theorem rho_inj (ty : List Bool) (n p q : Nat) (hp : p < n) (hq : q < n) (hlp : isLms ty p = true)
    (hlq : isLms ty q = true) (h : rho ty p = rho ty q) : p = q := by
  have h1 := getD_rho ty p n hp hlp
  have h2 := getD_rho ty q n hq hlq
  rw [h] at h1; omega

theorem rho_mono (ty : List Bool) (q q' : Nat) (h : q < q') (hl : isLms ty q = true) : rho ty q < rho ty q' :=
  rho_lt ty q q' h hl

theorem length_lmsBelow_lt (ty : List Bool) (k : Nat) (hk : 0 < k) : (lmsBelow ty k).length < k := by
  induction k with
  | zero => omega
  | succ k ih =>
    rw [lmsBelow_succ]
    by_cases h0 : k = 0
    · subst h0
      have : isLms ty 0 = false := by simp [isLms]
      rw [this]; simp [lmsBelow]
    · have := ih (by omega)
      split
      · simp; omega
      · omega

/-- all LMS positions of `t`, ascending: `lms_pos` after the first loop of `calc_lms_pos` -/
abbrev lmsOf (t : List Nat) : List Nat := lmsBelow (tyOf t) t.length

theorem lmsOf_getD_spec (t : List Nat) (a : Nat) (ha : a < (lmsOf t).length) :
    (lmsOf t).getD a 0 < t.length ∧ isLms (tyOf t) ((lmsOf t).getD a 0) = true :=
  (mem_lmsBelow _ _ _).mp (List.getD_mem _ a 0 ha)

theorem rho_lmsOf_getD (t : List Nat) (j : Nat) (hj : j < (lmsOf t).length) : rho (tyOf t) ((lmsOf t).getD j 0) = j := by
  obtain ⟨h1, h2⟩ := lmsOf_getD_spec t j hj
  exact nodup_getD_inj _ (nodup_lmsBelow _ _) _ _ (rho_lt _ _ _ h1 h2) hj (getD_rho _ _ _ h1 h2)

theorem lmsOf_getD_mono (t : List Nat) (a b : Nat) (hab : a < b) (hb : b < (lmsOf t).length) :
    (lmsOf t).getD a 0 < (lmsOf t).getD b 0 := by
  have ha : a < (lmsOf t).length := by omega
  obtain ⟨_, hb2⟩ := lmsOf_getD_spec t b hb
  apply Classical.byContradiction
  intro hc
  by_cases he : (lmsOf t).getD a 0 = (lmsOf t).getD b 0
  · have := nodup_getD_inj _ (nodup_lmsBelow _ _) a b ha hb he; omega
  · have := rho_mono (tyOf t) _ _ (show (lmsOf t).getD b 0 < (lmsOf t).getD a 0 by omega) hb2
    rw [rho_lmsOf_getD t a ha, rho_lmsOf_getD t b hb] at this; omega

theorem length_lmsOf_lt (t : List Nat) (h : 0 < t.length) : (lmsOf t).length < t.length :=
  length_lmsBelow_lt _ _ h

theorem mem_lmsOf (t : List Nat) (p : Nat) : p ∈ lmsOf t ↔ isLms (tyOf t) p = true :=
  (mem_lmsBelow _ _ p).trans ⟨fun h => h.2, fun h => ⟨lt_of_isLms p h, h⟩⟩

theorem lmsOf_last (t : List Nat) (hv : Valid t) (h2 : 2 ≤ t.length) :
    lmsOf t = lmsBelow (tyOf t) (t.length - 1) ++ [t.length - 1] := by
  have : t.length = (t.length - 1) + 1 := by omega
  show lmsBelow (tyOf t) t.length = _
  conv => lhs; rw [this]
  rw [lmsBelow_succ, if_pos (isLms_last hv h2)]

theorem rho_last (t : List Nat) (hv : Valid t) (h2 : 2 ≤ t.length) :
    rho (tyOf t) (t.length - 1) + 1 = (lmsOf t).length := by
  rw [lmsOf_last t hv h2]; unfold rho; simp

theorem lmsOf_getD_last (t : List Nat) (hv : Valid t) (h2 : 2 ≤ t.length) :
    (lmsOf t).getD ((lmsOf t).length - 1) 0 = t.length - 1 := by
  have := getD_rho (tyOf t) (t.length - 1) t.length (by omega) (isLms_last hv h2)
  have h := rho_last t hv h2
  have e : (lmsOf t).length - 1 = rho (tyOf t) (t.length - 1) := by omega
  rw [e]; exact this

theorem lmsOf_succ_lt (t : List Nat) (hv : Valid t) (h2 : 2 ≤ t.length) (a : Nat)
    (ha : a < (lmsOf t).length)
    (h : (lmsOf t).getD a 0 + 1 < t.length) : a + 1 < (lmsOf t).length := by
  apply Classical.byContradiction
  intro hc
  have e : (lmsOf t).length - 1 = a := by omega
  have := lmsOf_getD_last t hv h2
  rw [e] at this
  omega

end RbV.Sais
