import RbV.Model.Ukkonen
import RbV.Lemmas.UkkonenCell
/-!
`findAllEnd_eq_hits`: the mirror model of Ukkonen's cut-off algorithm reports exactly the Sellers hits (C09 [B]).
Core Lean only.
-/
namespace RbV.Model.Ukkonen
open RbV.EditDist RbV.Thm.GenSrcScanD

/-! ### cells of a column -/

/-- cell `j` of a column (0 beyond its end) -/
def nth (l : List Nat) (j : Nat) : Nat := l[j]?.getD 0

@[simp] theorem nth_cons_zero (a : Nat) (l : List Nat) : nth (a :: l) 0 = a := by simp [nth]
@[simp] theorem nth_cons_succ (a : Nat) (l : List Nat) (j : Nat) : nth (a :: l) (j + 1) = nth l j := by simp [nth]

theorem nth_tail (l : List Nat) (j : Nat) : nth l.tail j = nth l (j + 1) := by
  cases l <;> simp [nth]

theorem nth_getElem (l : List Nat) (j : Nat) (h : j < l.length) : nth l j = l[j] := by
  simp [nth, h]

theorem nth_range (n j : Nat) (h : j < n) : nth (List.range n) j = j := by
  simp [nth, h]

theorem nth_replicate (n v j : Nat) (h : j < n) : nth (List.replicate n v) j = v := by
  simp [nth, h]

theorem nth_ge (l : List Nat) (j : Nat) (h : l.length ≤ j) : nth l j = 0 := by
  simp [nth, List.getElem?_eq_none h]

theorem nth_take_append (N old : List Nat) (j i : Nat) (hi : i < j) (hj : j ≤ N.length) :
    nth (N.take j ++ old.drop j) i = nth N i := by
  unfold nth
  rw [List.getElem?_append_left (by simp; omega), List.getElem?_take_of_lt hi]

/-! ### the inner loop, cell by cell -/

theorem fill_length (w : Nat → Nat → Nat) (c : Nat) : ∀ (n : Nat) (pat pt : List Nat) (diag left : Nat),
    n ≤ pat.length → n ≤ pt.length → (fill w c pat n pt diag left).length = n := by
  intro n
  induction n with
  | zero => intro pat pt diag left _ _; cases pat <;> cases pt <;> simp [fill]
  | succ n ih =>
    intro pat pt diag left h1 h2
    cases pat with
    | nil => simp at h1
    | cons a pat =>
      cases pt with
      | nil => simp at h2
      | cons x pt =>
        simp only [fill, List.length_cons]
        rw [ih pat pt _ _ (by simpa using h1) (by simpa using h2)]

theorem fill_nth (w : Nat → Nat → Nat) (c : Nat) : ∀ (n : Nat) (pat pt : List Nat) (diag left : Nat),
    n ≤ pat.length → n ≤ pt.length → ∀ i, i < n →
    nth (fill w c pat n pt diag left) i =
      min (min (nth pt i + 1) ((if i = 0 then left else nth (fill w c pat n pt diag left) (i - 1)) + 1))
        ((if i = 0 then diag else nth pt (i - 1)) + w (nth pat i) c) := by
  intro n
  induction n with
  | zero => intro pat pt diag left _ _ i hi; omega
  | succ n ih =>
    intro pat pt diag left h1 h2 i hi
    cases pat with
    | nil => simp at h1
    | cons a pat =>
      cases pt with
      | nil => simp at h2
      | cons x pt =>
        simp only [fill]
        cases i with
        | zero => simp
        | succ i =>
          have := ih pat pt x (min (min (x + 1) (left + 1)) (diag + w a c)) (by simpa using h1) (by simpa using h2) i (by omega)
          simp only [nth_cons_succ, this, Nat.add_sub_cancel, Nat.succ_ne_zero, if_false]
          cases i with
          | zero => simp
          | succ i => simp

/-! ### the new column -/

theorem newCol_length (w : Nat → Nat → Nat) (p : List Nat) (c : Nat) (s : St) (pre : Nat)
    (hp : s.prev.length = p.length + 1) (ho : s.old.length = p.length + 1) (hpre : pre ≤ p.length) :
    (newCol w p c s pre).length = p.length + 1 := by
  unfold newCol
  simp only [List.length_append, List.length_cons, List.length_drop]
  rw [fill_length w c pre p s.prev.tail _ _ hpre (by simp [hp]; omega)]
  omega

theorem newCol_zero (w : Nat → Nat → Nat) (p : List Nat) (c : Nat) (s : St) (pre : Nat) :
    nth (newCol w p c s pre) 0 = 0 := by
  simp [newCol, nth]

theorem newCol_low (w : Nat → Nat → Nat) (p : List Nat) (c : Nat) (s : St) (pre : Nat)
    (hp : s.prev.length = p.length + 1) (hpre : pre ≤ p.length) (j : Nat) (hj : j < pre) :
    nth (newCol w p c s pre) (j + 1) =
      min (min (nth s.prev (j + 1) + 1) (nth (newCol w p c s pre) j + 1)) (nth s.prev j + w (nth p j) c) := by
  have hlen := fill_length w c pre p s.prev.tail (s.prev.headD 0) 0 hpre (by simp [hp]; omega)
  have key : ∀ i, i < pre → nth (newCol w p c s pre) (i + 1) = nth (fill w c p pre s.prev.tail (s.prev.headD 0) 0) i := by
    intro i hi
    unfold newCol nth
    rw [List.getElem?_append_left (by rw [List.length_cons, hlen]; omega)]
    simp
  rw [key j hj, fill_nth w c pre p s.prev.tail _ _ hpre (by simp [hp]; omega) j hj]
  cases j with
  | zero =>
    have h0 : s.prev.headD 0 = nth s.prev 0 := by cases s.prev <;> simp [nth]
    rw [h0]
    simp [nth_tail, newCol_zero]
  | succ j =>
    simp only [Nat.succ_ne_zero, if_false, Nat.add_sub_cancel, nth_tail]
    rw [key j (by omega)]

theorem newCol_high (w : Nat → Nat → Nat) (p : List Nat) (c : Nat) (s : St) (pre : Nat)
    (hp : s.prev.length = p.length + 1) (hpre : pre ≤ p.length) (j : Nat) (hj : pre < j) :
    nth (newCol w p c s pre) j = nth s.old j := by
  have hlen := fill_length w c pre p s.prev.tail (s.prev.headD 0) 0 hpre (by simp [hp]; omega)
  unfold newCol nth
  rw [List.getElem?_append_right (by rw [List.length_cons, hlen]; omega)]
  simp only [List.length_cons, hlen, List.getElem?_drop]
  congr 2
  omega

/-- the cells the inner loop writes are at most their row index (so no `+ 1` on them overflows) -/
theorem newCol_le (w : Nat → Nat → Nat) (p : List Nat) (c : Nat) (s : St) (pre : Nat)
    (hp : s.prev.length = p.length + 1) (hpre : pre ≤ p.length) : ∀ j, j ≤ pre → nth (newCol w p c s pre) j ≤ j := by
  intro j
  induction j with
  | zero => intro _; rw [newCol_zero]; omega
  | succ j ih =>
    intro hj
    have := ih (by omega)
    rw [newCol_low w p c s pre hp hpre j (by omega)]
    omega

theorem newCol_take (w : Nat → Nat → Nat) (p : List Nat) (c : Nat) (s : St) (pre : Nat)
    (hp : s.prev.length = p.length + 1) (hpre : pre ≤ p.length) :
    (newCol w p c s pre).take (pre + 1) ++ s.old.drop (pre + 1) = newCol w p c s pre := by
  have hlen := fill_length w c pre p s.prev.tail (s.prev.headD 0) 0 hpre (by simp [hp]; omega)
  unfold newCol
  rw [List.take_left' (by rw [List.length_cons, hlen])]

/-! ### the cut-back loop -/

theorem cutBack_le (col : List Nat) (k : Nat) : ∀ l, cutBack col k l ≤ l := by
  intro l
  induction l with
  | zero => simp [cutBack]
  | succ l ih => simp only [cutBack]; split <;> omega

theorem cutBack_ok (col : List Nat) (k : Nat) : ∀ l, cutBack col k l = 0 ∨ nth col (cutBack col k l) ≤ k := by
  intro l
  induction l with
  | zero => simp [cutBack]
  | succ l ih =>
    simp only [cutBack]
    split
    · exact ih
    · rename_i h
      right
      simp only [nth, ← List.getD_eq_getElem?_getD]
      omega

theorem cutBack_above (col : List Nat) (k : Nat) : ∀ l j, cutBack col k l < j → j ≤ l → k < nth col j := by
  intro l
  induction l with
  | zero => intro j h1 h2; omega
  | succ l ih =>
    intro j h1 h2
    simp only [cutBack] at h1
    split at h1
    · rename_i h
      by_cases hj : j = l + 1
      · subst hj
        simp only [nth, ← List.getD_eq_getElem?_getD]
        exact h
      · exact ih j h1 (by omega)
    · omega

/-! ### the invariant -/

/-- state after the text prefix `u`: cells up to `lastk` are exact, the true values above `lastk` exceed `k`, and
whatever the buffers hold above `lastk` is at least `k` (so that `+ 1` exceeds `k`; for `old` from row `lastk + 2` on: its
row `lastk + 1` is written by the next inner loop before it is read) -/
structure Inv (w : Nat → Nat → Nat) (p : List Nat) (k : Nat) (u : List Nat) (s : St) : Prop where
  lenP : s.prev.length = p.length + 1
  lenO : s.old.length = p.length + 1
  lk_le : s.lastk ≤ p.length
  exact : ∀ j, j ≤ s.lastk → nth s.prev j = cell w p u j
  lk_ok : cell w p u s.lastk ≤ k
  above : ∀ j, s.lastk < j → j ≤ p.length → k < cell w p u j
  stale : ∀ j, s.lastk < j → j ≤ p.length → k ≤ nth s.prev j
  stale2 : ∀ j, s.lastk + 1 < j → j ≤ p.length → k ≤ nth s.old j

theorem inv_init (w : Nat → Nat → Nat) (p : List Nat) (k : Nat) : Inv w p k [] (init p.length k) := by
  refine ⟨by simp [init], by simp [init], by simp [init]; omega, ?_, ?_, ?_, ?_, ?_⟩
  · intro j hj
    simp only [init] at hj ⊢
    rw [nth_range _ _ (by omega), cell_nil w p j (by omega)]
  · simp only [init]; rw [cell_nil w p _ (by omega)]; omega
  · intro j h1 h2
    simp only [init] at h1
    rw [cell_nil w p j h2]; omega
  · intro j h1 h2
    simp only [init] at h1 ⊢
    rw [nth_range _ _ (by omega)]; omega
  · intro j h1 h2
    simp only [init] at h1 ⊢
    rw [nth_replicate _ _ _ (by omega)]; omega

/-- the cell above the old `lastk`: its stale upper neighbour `P ≥ k` stands in for the true one `C > k` without harm -/
theorem cutoff_cell {k P C X Y : Nat} (hP : k ≤ P) (hC : k < C)
    (h : min (min (P + 1) X) Y ≤ k ∨ min Y (min X (C + 1)) ≤ k) :
    min (min (P + 1) X) Y = min Y (min X (C + 1)) := by
  omega

/-- exactness of the new cells up to the old `lastk`, and "exact or both beyond k" for the cell above -/
theorem newCol_exact (w : Nat → Nat → Nat) (p : List Nat) (k : Nat) (u : List Nat) (s : St) (c : Nat)
    (inv : Inv w p k u s) :
    (∀ j, j ≤ s.lastk → nth (newCol w p c s (min (s.lastk + 1) p.length)) j = cell w p (u ++ [c]) j) ∧
    (s.lastk + 1 ≤ p.length →
      ((nth (newCol w p c s (min (s.lastk + 1) p.length)) (s.lastk + 1) ≤ k ∨ cell w p (u ++ [c]) (s.lastk + 1) ≤ k) →
        nth (newCol w p c s (min (s.lastk + 1) p.length)) (s.lastk + 1) = cell w p (u ++ [c]) (s.lastk + 1))) := by
  have hA : ∀ j, j ≤ s.lastk → nth (newCol w p c s (min (s.lastk + 1) p.length)) j = cell w p (u ++ [c]) j := by
    intro j
    induction j with
    | zero => intro _; rw [newCol_zero, cell_zero]
    | succ j ih =>
      intro hj
      have hjm : j < p.length := by have := inv.lk_le; omega
      rw [newCol_low w p c s _ inv.lenP (by omega) j (by omega), ih (by omega),
        inv.exact (j + 1) hj, inv.exact j (by omega), cell_succ w p u c j hjm, nth_getElem p j hjm]
      ac_rfl
  refine ⟨hA, ?_⟩
  intro hlt hor
  have hjm : s.lastk < p.length := hlt
  have e1 := newCol_low w p c s (min (s.lastk + 1) p.length) inv.lenP (Nat.min_le_right _ _) s.lastk
    (Nat.lt_min.mpr ⟨Nat.lt_succ_self _, hjm⟩)
  rw [hA s.lastk (Nat.le_refl _), inv.exact s.lastk (Nat.le_refl _), nth_getElem p _ hjm] at e1
  rw [e1, cell_succ w p u c s.lastk hjm, Nat.add_comm (w _ _), Nat.add_comm 1, Nat.add_comm 1] at hor ⊢
  exact cutoff_cell (inv.stale (s.lastk + 1) (Nat.lt_succ_self _) hlt) (inv.above (s.lastk + 1) (Nat.lt_succ_self _) hlt) hor

theorem inv_step (w : Nat → Nat → Nat) (p : List Nat) (k : Nat) (u : List Nat) (s : St) (c : Nat)
    (inv : Inv w p k u s) :
    Inv w p k (u ++ [c]) (step w p k s c).1 ∧
    (step w p k s c).2 = report w p k (u ++ [c]) := by
  obtain ⟨hA, hB⟩ := newCol_exact w p k u s c inv
  have hlk := inv.lk_le
  have hpre : min (s.lastk + 1) p.length ≤ p.length := Nat.min_le_right _ _
  have hpre1 : min (s.lastk + 1) p.length ≤ s.lastk + 1 := Nat.min_le_left _ _
  have hpre2 : min (s.lastk + 1) p.length = s.lastk + 1 ∨ min (s.lastk + 1) p.length = p.length := by omega
  have hlen := newCol_length w p c s _ inv.lenP inv.lenO hpre
  have hhigh := newCol_high w p c s (min (s.lastk + 1) p.length) inv.lenP hpre
  simp only [step]
  -- from here on the bound of the inner loop, the new column and the new `lastk` are just names
  generalize min (s.lastk + 1) p.length = pre at *
  have hle := cutBack_le (newCol w p c s pre) k pre
  have hok := cutBack_ok (newCol w p c s pre) k pre
  have hab := cutBack_above (newCol w p c s pre) k pre
  generalize newCol w p c s pre = N at *
  generalize cutBack N k pre = L at *
  have hex : ∀ j, j ≤ L → nth N j = cell w p (u ++ [c]) j := by
    intro j hj
    by_cases hjl : j ≤ s.lastk
    · exact hA j hjl
    · have hj1 : j = s.lastk + 1 := by omega
      subst hj1
      refine hB (by omega) (Or.inl ?_)
      rcases hok with h0 | h0
      · omega
      · rwa [show L = s.lastk + 1 by omega] at h0
  have habove : ∀ j, L < j → j ≤ p.length → k < cell w p (u ++ [c]) j := by
    intro j h1 h2
    by_cases hjp : j ≤ pre
    · have hgt := hab j h1 hjp
      by_cases hjl : j ≤ s.lastk
      · rw [← hA j hjl]; exact hgt
      · have hj1 : j = s.lastk + 1 := by omega
        subst hj1
        apply Nat.lt_of_not_le
        intro hcon
        have := hB h2 (Or.inr hcon)
        omega
    · cases j with
      | zero => omega
      | succ j =>
        have := cell_diag w p u c j (by omega)
        have := inv.above j (by omega) (by omega)
        omega
  have hlkok : cell w p (u ++ [c]) L ≤ k := by
    rcases hok with h0 | h0
    · rw [h0, cell_zero]; omega
    · rw [← hex _ (Nat.le_refl _)]; exact h0
  refine ⟨⟨hlen, inv.lenP, show L ≤ p.length by omega, hex, hlkok, habove, ?_, ?_⟩, ?_⟩
  · intro j h1 h2
    dsimp only at h1 ⊢
    by_cases hjp : j ≤ pre
    · have := hab j h1 hjp; omega
    · rw [hhigh j (by omega)]
      exact inv.stale2 j (by omega) h2
  · intro j h1 h2
    dsimp only at h1 ⊢
    by_cases hjl : j ≤ s.lastk
    · rw [inv.exact j hjl]
      have := habove j (by omega) h2
      have := cell_horiz w p u c j
      omega
    · exact inv.stale j (by omega) h2
  · by_cases hrep : cell w p (u ++ [c]) p.length ≤ k
    · have hlkm : L = p.length := by
        apply Nat.le_antisymm (by omega)
        apply Nat.le_of_not_lt
        intro hcon
        have := habove p.length hcon (Nat.le_refl _)
        omega
      have hv := hex p.length (by omega)
      unfold nth at hv
      simp [report, hlkm, hrep, hv]
    · have hlkm : L ≠ p.length := fun hcon => hrep (hcon ▸ hlkok)
      simp [report, hlkm, hrep]

theorem runO_eq_run (w : Nat → Nat → Nat) (p : List Nat) (k : Nat) : ∀ (t : List Nat) (s : St) (i : Nat),
    runO (step w p k) s i t = run w p k s i t := by
  intro t
  induction t with
  | nil => intro s i; simp [runO, run]
  | cons c t ih =>
    intro s i
    simp only [runO, run]
    rcases h : step w p k s c with ⟨s', _ | d⟩ <;> simp [ih]

/-- **Ukkonen**: the mirror model of the cut-off algorithm reports exactly the pairs (end, d) with d ≤ k of the
Sellers column — for every cost function, pattern, text and k -/
theorem findAllEnd_eq_hits (w : Nat → Nat → Nat) (p t : List Nat) (k : Nat) :
    findAllEnd w p t k = hits w p t k := by
  unfold findAllEnd
  rw [← runO_eq_run]
  exact runO_eq_hits w p k _ (Inv w p k) (inv_step w p k) _ (inv_init w p k) t

end RbV.Model.Ukkonen
