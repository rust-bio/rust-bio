import RbV.Lemmas.SmemsStr
import RbV.Lemmas.SmemsNext
/-!
# `all_smems`: the string-level model returns every supermaximal match of length ≥ l, and nothing else (C06)

The loop visits `i0 = 0`, then the largest end of a match covering `i0` (or `i0 + 1`).  A match that starts after
`i0` cannot end at or before the next visited position: a reported match covering `i0` that reached its end would
contain it, and supermaximal matches are not nested.  So every match is covered by a visited position.
-/
namespace RbV.SmemModel
open RbV

section abs
variable {c : Nat → Nat → Nat} {m : Nat} (hc : CountLaws c m)

include hc in
/-- count-supermaximal matches are not nested -/
theorem absSmem_not_inside {b len b' len' : Nat} (h : AbsSmem c m b len) (h' : AbsSmem c m b' len')
    (hb : b' < b) : b' + len' < b + len := by
  refine Nat.lt_of_not_le fun hge => ?_
  obtain ⟨g1, _, _, g4, _⟩ := h
  obtain ⟨_, k2, k3, _, _⟩ := h'
  rcases g4 with g4 | g4
  · exact absurd hb (g4 ▸ Nat.not_lt_zero b')
  · exact k3 (Nat.le_zero.mp (g4 ▸ hc.anti b' (b - 1) (b + len) (b' + len') (Nat.le_sub_one_of_lt hb)
      (Nat.lt_of_le_of_lt (Nat.sub_le b 1) (Nat.lt_add_of_pos_right g1)) hge k2))

include hc in
theorem absSmem_same_start {b len len' : Nat} (h : AbsSmem c m b len) (h' : AbsSmem c m b len') (hle : len ≤ len') :
    len = len' := by
  rcases Nat.eq_or_lt_of_le hle with e | hlt
  · exact e
  · obtain ⟨_, _, _, _, g5⟩ := h
    obtain ⟨_, k2, k3, _, _⟩ := h'
    have hlt' : b + len + 1 ≤ b + len' := Nat.add_lt_add_left hlt b
    rcases g5 with g5 | g5
    · exact absurd (g5.symm ▸ k2 : b + len' ≤ b + len) (Nat.not_le_of_gt hlt')
    · exact absurd (Nat.le_zero.mp (g5 ▸ hc.anti b b (b + len + 1) (b + len') (Nat.le_refl b)
        (Nat.lt_succ_of_le (Nat.le_add_right b len)) hlt' k2)) k3

include hc in
theorem nextI0_lt (pat : List Nat) (hm : pat.length = m) (l : Nat) (hl : 1 ≤ l) {i0 : Nat} (hi : i0 < m)
    {x : Hit (Nat × Nat)} (hx : AbsSmem c m x.pos x.len) (hp : i0 < x.pos) :
    nextI0 (smems (strOps c) pat i0 l) i0 < x.pos + x.len := by
  rw [nextI0_eq]
  rcases (foldl_next (fun h : Hit (Nat × Nat) => h.pos + h.len) (smems (strOps c) pat i0 l) (i0 + 1)).2.2 with
    n3 | ⟨y, hy, n3⟩
  · rw [n3]
    exact Nat.lt_of_le_of_lt hp (Nat.lt_add_of_pos_right hx.1)
  · rw [n3]
    have hy' := (smems_abs_correct hc pat hm hi l hl y).mp hy
    exact absSmem_not_inside hc hx hy'.2.2.1 (Nat.lt_of_le_of_lt hy'.2.1 hp)

include hc in
theorem allLoop_mem (pat : List Nat) (hm : pat.length = m) (l : Nat) (hl : 1 ≤ l) :
    ∀ (fuel i0 : Nat) (acc : List (Hit (Nat × Nat))), m - i0 ≤ fuel →
      ∀ x, x ∈ allLoop (strOps c) pat l fuel i0 acc ↔
        (x ∈ acc ∨ (x.iv = (x.pos, x.pos + x.len) ∧ AbsSmem c m x.pos x.len ∧ l ≤ x.len ∧ i0 < x.pos + x.len))
  | 0, i0, acc, hf, x => by
    simp only [allLoop]
    exact ⟨Or.inl, fun h => h.elim id fun ⟨_, ⟨_, g2, _⟩, _, h4⟩ => by omega⟩
  | fuel + 1, i0, acc, hf, x => by
    simp only [allLoop]
    by_cases hi : i0 < pat.length
    · rw [if_pos hi]
      have hi' : i0 < m := hm ▸ hi
      have n1 : i0 + 1 ≤ nextI0 (smems (strOps c) pat i0 l) i0 := (foldl_next _ (smems (strOps c) pat i0 l) (i0 + 1)).1
      rw [allLoop_mem pat hm l hl fuel _ _ (by omega) x]
      simp only [List.mem_append, smems_abs_correct hc pat hm hi' l hl]
      constructor
      · rintro ((h | ⟨h1, h2, h3, h4, h5⟩) | ⟨h1, h2, h3, h4⟩)
        · exact Or.inl h
        · exact Or.inr ⟨h1, h3, h5, h4⟩
        · exact Or.inr ⟨h1, h2, h3, Nat.lt_of_lt_of_le (Nat.lt_of_succ_le n1) (Nat.le_of_lt h4)⟩
      · rintro (h | ⟨h1, h2, h3, h4⟩)
        · exact Or.inl (Or.inl h)
        · by_cases hp : x.pos ≤ i0
          · exact Or.inl (Or.inr ⟨h1, hp, h2, h4, h3⟩)
          · exact Or.inr ⟨h1, h2, h3, nextI0_lt hc pat hm l hl hi' h2 (Nat.lt_of_not_le hp)⟩
    · rw [if_neg hi]
      exact ⟨Or.inl, fun h => h.elim id fun ⟨_, ⟨_, g2, _⟩, _, h4⟩ => by omega⟩

include hc in
theorem allSmems_abs_correct (pat : List Nat) (hm : pat.length = m) (l : Nat) (hl : 1 ≤ l) (x : Hit (Nat × Nat)) :
    x ∈ allSmems (strOps c) pat l ↔ (x.iv = (x.pos, x.pos + x.len) ∧ AbsSmem c m x.pos x.len ∧ l ≤ x.len) := by
  unfold allSmems
  rw [allLoop_mem hc pat hm l hl pat.length 0 [] (by omega) x]
  simp only [List.not_mem_nil, false_or]
  constructor
  · rintro ⟨h1, h2, h3, _⟩; exact ⟨h1, h2, h3⟩
  · rintro ⟨h1, h2, h3⟩; exact ⟨h1, h2, h3, by have := h2.1; omega⟩

end abs

/-- **the string-level model of `all_smems(pattern, l)` returns every supermaximal exact match of length ≥ `l`
(`allSmemsMin`) and nothing else**, as a set -/
theorem allSmemsStr_correct (T pat : List Nat) (l : Nat) (hl : 1 ≤ l) (b len : Nat) :
    (b, len) ∈ allSmemsStr T pat l ↔ (b, len) ∈ allSmemsMin T pat l := by
  rw [mem_allSmemsMin, ← absSmem_iff_smem]
  unfold allSmemsStr
  simp only [List.mem_map, Prod.mk.injEq]
  constructor
  · rintro ⟨x, hx, rfl, rfl⟩
    have := (allSmems_abs_correct (countLaws_cnt T pat) pat rfl l hl x).mp hx
    exact ⟨this.2.1, this.2.2⟩
  · rintro ⟨h1, h2⟩
    refine ⟨⟨(b, b + len), b, len⟩, ?_, rfl, rfl⟩
    exact (allSmems_abs_correct (countLaws_cnt T pat) pat rfl l hl _).mpr ⟨rfl, h1, h2⟩

end RbV.SmemModel
