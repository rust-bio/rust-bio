import RbV.Model.PoaCustom
import RbV.Basic.GetD
/-!
# What the proofs use of the small functions of the mirror models

By section: `cmax` (Rust's `max` on cells: score and operation of the result), folds with an invariant (`foldl_inv`), reading an
array after a write (`getD_setIfInBounds_self` / `_ne`, `getD_set_all`), `emptyRow`, `bCand` as `cCand`, the bounds `colUpdate` and
`cStep` keep on `max_in_column`; the row functions of the clip-free model as `zipWith` (`zipMax_eq` … `foldl_zipMax_spec`) and
the insertion scan by induction (`insScan_ind`, `insScan_low`); `BRow.get` answers a stored cell or one of its three `MIN_SCORE`
cells (`get_inband`, `get_cases`), `bUpdate_le`, `predStep` (the function `cCand` / `bCand` fold over the predecessors),
`xSuffix_spec` (what X suffix clipping does to the cells of the last row); `customTable_eq`: the table of `custom` is the state
after the loop over the nodes (`customSt`) with the last row finished (`finishCells`).
-/
namespace RbV.Poa.Model
open RbV.NW

theorem col_le {B : Int} {n j : Nat} (hB : 0 ≤ B) (hj : j ≤ n) : (j : Int) * B ≤ (n : Int) * B :=
  Int.mul_le_mul_of_nonneg_right (by omega) hB

theorem cmax_score (a b : Cell) : (cmax a b).score = max a.score b.score := by
  unfold cmax; split <;> omega

theorem cmax_op (a b : Cell) : (cmax a b).op = a.op ∨ (cmax a b).op = b.op := by
  unfold cmax; split <;> simp

theorem cmax_score_ge_right (a b : Cell) : b.score ≤ (cmax a b).score := by
  unfold cmax; split <;> omega

theorem cmax_left_low (a b : Cell) (h : ¬ a.score > b.score) : cmax a b = b := by
  unfold cmax; simp [h]

theorem cmax_right_low (a b : Cell) (h : a.score > b.score) : cmax a b = a := by
  unfold cmax; simp [h]

theorem foldl_inv {α β : Type} (P : β → Prop) (f : β → α → β) (h : ∀ b a, P b → P (f b a)) :
    ∀ (l : List α) (b : β), P b → P (l.foldl f b)
  | [], _, hb => hb
  | a :: l, b, hb => foldl_inv P f h l (f b a) (h b a hb)

theorem getD_setIfInBounds {α : Type} (a : Array α) (v u : Nat) (x d : α) :
    (a.setIfInBounds v x).getD u d = if u = v ∧ v < a.size then x else a.getD u d := by
  rw [Array.getD_setIfInBounds]; simp only [eq_comm]

theorem getD_setIfInBounds_self {α : Type} (a : Array α) {v : Nat} (h : v < a.size) (x d : α) :
    (a.setIfInBounds v x).getD v d = x := by rw [getD_setIfInBounds, if_pos ⟨rfl, h⟩]

theorem getD_setIfInBounds_ne {α : Type} (a : Array α) {u v : Nat} (h : u ≠ v) (x d : α) :
    (a.setIfInBounds v x).getD u d = a.getD u d := by rw [getD_setIfInBounds, if_neg fun e => h e.1]

/-- a property of every entry (by index) survives writing an entry that has it -/
theorem getD_set_all {α : Type} {P : Nat → α → Prop} (a : Array α) (d : α) (v : Nat) (x : α) (h : ∀ u, P u (a.getD u d))
    (hx : P v x) : ∀ u, P u ((a.setIfInBounds v x).getD u d) := by
  intro u
  rw [getD_setIfInBounds]
  split
  · rename_i hc; rw [hc.1]; exact hx
  · exact h u

theorem mem_predsMap {β : Type} {es : WEdges} {v : Nat} {f : Nat → β} {pp : Nat × β}
    (h : pp ∈ (inN es v).map fun p => (p, f p)) : pp.1 ∈ inN es v := by
  obtain ⟨p, hp, rfl⟩ := List.mem_map.mp h
  exact hp

theorem replicate_emptyRow_getD (m n u : Nat) :
    (Array.replicate m (emptyRow n)).getD u (emptyRow n) = emptyRow n := by
  simp only [Array.getD_eq_getD_getElem?, Array.getElem?_replicate]
  split <;> rfl

theorem bCand_eq_cCand (sc : Sc) (query : List Nat) (r0 : BRow) (v r : Nat) (preds : List (Nat × BRow)) (j : Nat) :
    bCand sc query r0 v r preds j = cCand sc mcell query r0 v r preds j := by
  cases preds <;> rfl

/-- `max_in_column` entries stay in `[0, U]` -/
theorem colUpdate_bound (U : Int) (i : Nat) : ∀ (mcs : List (Int × Nat)) (cs : List Cell),
    (∀ mc ∈ mcs, 0 ≤ mc.1 ∧ mc.1 ≤ U) → (∀ c ∈ cs, c.score ≤ U) →
    ∀ mc ∈ colUpdate i mcs cs, 0 ≤ mc.1 ∧ mc.1 ≤ U := by
  intro mcs
  induction mcs with
  | nil => intro cs h _ mc hm; simp [colUpdate] at hm
  | cons m0 mcs ih =>
    intro cs h1 h2 mc hm
    cases cs with
    | nil => simp only [colUpdate] at hm; exact h1 mc hm
    | cons c cs =>
      simp only [colUpdate, List.mem_cons] at hm
      rcases hm with hm | hm
      · subst hm
        have := h1 m0 (by simp)
        have := h2 c (by simp)
        split
        · simp only; omega
        · assumption
      · exact ih cs (fun x hx => h1 x (List.mem_cons_of_mem _ hx)) (fun x hx => h2 x (List.mem_cons_of_mem _ hx)) mc hm

/-- … through a step of the loop over the nodes of `custom`, when the cells of the new row behind column 0 are `≤ U` -/
theorem cStep_maxcol_bound (U : Int) (sc : Sc) (xp : Int) (labels : List Nat) (es : WEdges) (query : List Nat) (r0 : BRow)
    (st : CState) (v : Nat) (hm : ∀ mc ∈ st.maxcol, 0 ≤ mc.1 ∧ mc.1 ≤ U)
    (hc : ∀ c ∈ (cNodeRow sc xp query r0 v (labels.getD v 0)
      ((inN es v).map fun p => (p, st.rows.getD p (emptyRow query.length)))).cells.tail, c.score ≤ U) :
    ∀ mc ∈ (cStep sc xp labels es query r0 st v).maxcol, 0 ≤ mc.1 ∧ mc.1 ≤ U := by
  intro mc hmc
  simp only [cStep] at hmc
  cases hmcol : st.maxcol with
  | nil => rw [hmcol] at hmc; simp at hmc
  | cons m0 rest =>
    rw [hmcol] at hmc hm
    rcases List.mem_cons.mp hmc with rfl | hmc
    · exact hm _ List.mem_cons_self
    · exact colUpdate_bound U (v + 1) rest _ (fun x hx => hm x (List.mem_cons_of_mem _ hx)) hc mc hmc

/-! ## the row functions of the clip-free model as `zipWith` -/

theorem getD_zipWith {α β γ : Type} (f : α → β → γ) (as : List α) (bs : List β) (j : Nat) (da : α) (db : β) (dc : γ)
    (h1 : j < as.length) (h2 : j < bs.length) : (List.zipWith f as bs).getD j dc = f (as.getD j da) (bs.getD j db) := by
  simp [List.getD_eq_getElem?_getD, List.getElem?_zipWith, List.getElem?_eq_getElem h1, List.getElem?_eq_getElem h2]

theorem zipMax_eq : ∀ (as bs : List Cell), zipMax as bs = List.zipWith cmax as bs
  | [], _ => by simp [zipMax]
  | _ :: _, [] => by simp [zipMax]
  | _ :: as, _ :: bs => by simp [zipMax, zipMax_eq as bs]

theorem firstCands_eq (sc : Sc) (r : Nat) : ∀ (r0 : List Cell) (q : List Nat),
    firstCands sc r r0 q = List.zipWith (fun (d : Cell) b => (⟨d.score + sc.w r b, .m none⟩ : Cell)) r0 q
  | [], _ => by simp [firstCands]
  | _ :: _, [] => by simp [firstCands]
  | _ :: r0, _ :: q => by simp [firstCands, firstCands_eq sc r r0 q]

/-- column `j + 1` reads the predecessor's cells of the columns `j` (diagonal) and `j + 1` (up) -/
theorem predCands_eq (sc : Sc) (r : Nat) (mOp dOp : POp) : ∀ (ups : List Cell) (d : Cell) (q : List Nat),
    predCands sc r mOp dOp d ups q =
      List.zipWith (fun (p : Cell × Cell) b => cmax ⟨p.1.score + sc.w r b, mOp⟩ ⟨p.2.score + sc.gap, dOp⟩) ((d :: ups).zip ups) q
  | [], _, _ => by simp [predCands]
  | _ :: _, _, [] => by simp [predCands]
  | u :: ups, _, _ :: q => by simp [predCands, predCands_eq sc r mOp dOp ups u q]

theorem mem_zipWith {α β γ : Type} (f : α → β → γ) : ∀ (as : List α) (bs : List β) (c : γ), c ∈ List.zipWith f as bs →
    ∃ a ∈ as, ∃ b ∈ bs, c = f a b
  | [], _, _, h => by simp at h
  | _ :: _, [], _, h => by simp at h
  | a :: as, b :: bs, c, h => by
    simp only [List.zipWith_cons_cons, List.mem_cons] at h
    rcases h with rfl | h
    · exact ⟨a, List.mem_cons_self .., b, List.mem_cons_self .., rfl⟩
    · obtain ⟨x, hx, y, hy, e⟩ := mem_zipWith f as bs c h
      exact ⟨x, List.mem_cons_of_mem _ hx, y, List.mem_cons_of_mem _ hy, e⟩

theorem list_ext_getD {α : Type} {l1 l2 : List α} (d : α) (hl : l1.length = l2.length)
    (h : ∀ j, j < l1.length → l1.getD j d = l2.getD j d) : l1 = l2 := by
  apply List.ext_getElem hl
  intro j h1 h2
  have := h j h1
  simpa [List.getD_eq_getElem?_getD, List.getElem?_eq_getElem h1, List.getElem?_eq_getElem h2] using this

theorem foldl_congr_mem {α β : Type} (f g : β → α → β) : ∀ (l : List α) (b : β), (∀ x ∈ l, ∀ b, f b x = g b x) →
    l.foldl f b = l.foldl g b
  | [], _, _ => rfl
  | x :: l, b, h => by
    simp only [List.foldl_cons, h x List.mem_cons_self]
    exact foldl_congr_mem f g l _ fun y hy => h y (List.mem_cons_of_mem _ hy)

theorem length_predCands (sc : Sc) (r : Nat) (mOp dOp : POp) (ups : List Cell) (d : Cell) (q : List Nat) :
    (predCands sc r mOp dOp d ups q).length = min ups.length q.length := by
  simp only [predCands_eq, List.length_zipWith, List.length_zip, List.length_cons]; omega

theorem getD_predCands (sc : Sc) (r : Nat) (mOp dOp : POp) (dflt : Cell) (ups : List Cell) (d : Cell) (q : List Nat) (j : Nat)
    (h1 : j < ups.length) (h2 : j < q.length) :
    (predCands sc r mOp dOp d ups q).getD j dflt =
      cmax ⟨((d :: ups).getD j dflt).score + sc.w r (q.getD j 0), mOp⟩ ⟨((d :: ups).getD (j + 1) dflt).score + sc.gap, dOp⟩ := by
  have hz : j < ((d :: ups).zip ups).length := by simp only [List.length_zip, List.length_cons]; omega
  have hzip : ((d :: ups).zip ups).getD j (dflt, dflt) = ((d :: ups).getD j dflt, ups.getD j dflt) :=
    getD_zipWith Prod.mk _ _ j dflt dflt _ (Nat.lt_succ_of_lt h1) h1
  rw [predCands_eq, getD_zipWith _ _ _ j (dflt, dflt) 0 dflt hz h2, hzip, List.getD_cons_succ]

theorem length_insScan (gap : Int) (iOp : POp) : ∀ (cs : List Cell) (left : Cell), (insScan gap iOp left cs).length = cs.length := by
  intro cs
  induction cs with
  | nil => intro left; simp [insScan]
  | cons c cs ih => intro left; simp [insScan, ih]

/-- the insertion scan hands a column-indexed property from cell to cell: `P j0 left`, and a step from column `j0 + k` to the next -/
theorem insScan_ind (gap : Int) (iOp : POp) (dflt : Cell) (P : Nat → Cell → Prop) : ∀ (cs : List Cell) (left : Cell) (j0 : Nat),
    P j0 left → (∀ k, k < cs.length → ∀ l, P (j0 + k) l → P (j0 + k + 1) (cmax (cs.getD k dflt) ⟨l.score + gap, iOp⟩)) →
    ∀ k, k < cs.length → P (j0 + k + 1) ((insScan gap iOp left cs).getD k dflt) := by
  intro cs
  induction cs with
  | nil => intro left j0 _ _ k hk; simp at hk
  | cons c cs ih =>
    intro left j0 h0 hstep k hk
    have hc : P (j0 + 1) (cmax c ⟨left.score + gap, iOp⟩) := hstep 0 (Nat.succ_pos _) left h0
    have e1 : ∀ k', j0 + 1 + k' = j0 + (k' + 1) := fun _ => by omega
    cases k with
    | zero => exact hc
    | succ k =>
      rw [← e1 k]
      exact ih (cmax c ⟨left.score + gap, iOp⟩) (j0 + 1) hc
        (fun k' hk' l hl => by
          have h := hstep (k' + 1) (Nat.succ_lt_succ hk') l ((e1 k') ▸ hl)
          rw [e1 k']; exact h) k (Nat.lt_of_succ_lt_succ hk)

theorem insScan_low (gap : Int) (iOp : POp) (dflt : Cell) (cs : List Cell) (left : Cell) (j : Nat) (hj : j < cs.length) :
    left.score + ((j : Int) + 1) * gap ≤ ((insScan gap iOp left cs).getD j dflt).score := by
  have := insScan_ind gap iOp dflt (fun k c => left.score + (k : Int) * gap ≤ c.score) cs left 0 (by simp)
    (fun k _ l hl => by
      have := cmax_score_ge_right (cs.getD k dflt) ⟨l.score + gap, iOp⟩
      simp only [Nat.zero_add] at hl this ⊢
      push_cast
      rw [Int.add_mul, Int.one_mul]
      omega) j hj
  simpa using this

theorem foldl_zipMax_spec (n : Nat) (dflt : Cell) (one : Nat × List Cell → List Cell) :
    ∀ (rest : List (Nat × List Cell)) (init : List Cell), init.length = n → (∀ pp ∈ rest, (one pp).length = n) →
      (rest.foldl (fun acc pp => zipMax acc (one pp)) init).length = n ∧
      ∀ j, j < n → (rest.foldl (fun acc pp => zipMax acc (one pp)) init).getD j dflt =
        rest.foldl (fun acc pp => cmax acc ((one pp).getD j dflt)) (init.getD j dflt) := by
  intro rest
  induction rest with
  | nil => intro init h _; exact ⟨h, fun j _ => rfl⟩
  | cons pp rest ih =>
    intro init h1 h2
    simp only [List.foldl_cons]
    have hl : (zipMax init (one pp)).length = n := by
      rw [zipMax_eq, List.length_zipWith, h1, h2 pp (by simp)]; omega
    obtain ⟨r1, r2⟩ := ih (zipMax init (one pp)) hl (fun q hq => h2 q (List.mem_cons_of_mem _ hq))
    refine ⟨r1, ?_⟩
    intro j hj
    rw [r2 j hj, zipMax_eq, getD_zipWith cmax init (one pp) j dflt dflt dflt (by omega) (by rw [h2 pp (by simp)]; exact hj)]

theorem length_row0From (gap : Int) : ∀ (n k : Nat), (row0From gap k n).length = n := by
  intro n
  induction n with
  | zero => intro k; rfl
  | succ n ih => intro k; simp [row0From, ih]

theorem getD_default_irrel {α : Type} (l : List α) (j : Nat) (d1 d2 : α) (h : j < l.length) : l.getD j d1 = l.getD j d2 := by
  simp [List.getD_eq_getElem?_getD, List.getElem?_eq_getElem h]

/-! ## `Traceback::get` on a row by cases; the predecessor step of `max_cell`; X suffix clipping -/

theorem BRow.get_inband (r : BRow) (j : Nat) (h1 : r.start ≤ j) (h2 : j < r.stop) (h3 : j - r.start < r.cells.length) :
    r.get j = r.cells.getD (j - r.start) mcell := by
  have hne : r.cells ≠ [] := fun e => by rw [e] at h3; exact absurd h3 (Nat.not_lt_zero _)
  simp [BRow.get, h1, h2, hne]

/-- a row whose band covers `[0, n]`, read column by column (as the suffix clipping does), is its list of cells -/
theorem map_get_range (br : BRow) (n : Nat) (h0 : br.start = 0) (h1 : n + 1 ≤ br.stop) (hl : br.cells.length = n + 1) :
    (List.range (n + 1)).map br.get = br.cells := by
  apply List.ext_getElem
  · simp [hl]
  · intro k hk1 hk2
    simp only [List.length_map, List.length_range] at hk1
    rw [List.getElem_map, List.getElem_range, br.get_inband k (by omega) (by omega) (by rw [h0]; exact hk2), h0]
    simp [List.getD, hk2]

theorem BRow.get_cases (r : BRow) (j : Nat) :
    (∃ k, k < r.cells.length ∧ r.start + k = j ∧ r.get j = r.cells.getD k mcell) ∨
    (j = 0 ∧ r.get j = ⟨minScore, .d none⟩) ∨ (0 < j ∧ r.get j = ⟨minScore, .i none⟩) ∨ (0 < j ∧ r.get j = mcell) := by
  unfold BRow.get
  split
  · rename_i hc
    simp only [Bool.and_eq_true, decide_eq_true_eq, Bool.not_eq_true', List.isEmpty_eq_false_iff] at hc
    by_cases hk : j - r.start < r.cells.length
    · exact Or.inl ⟨j - r.start, hk, by omega, rfl⟩
    · have hpos : 0 < r.cells.length := List.length_pos_iff.mpr hc.2
      rw [List.getD_eq_getElem?_getD, List.getElem?_eq_none (Nat.le_of_not_lt hk)]
      exact Or.inr (Or.inr (Or.inr ⟨by omega, rfl⟩))
  · split
    · rename_i hj; exact Or.inr (Or.inl ⟨hj, rfl⟩)
    · rename_i hj
      split
      · exact Or.inr (Or.inr (Or.inl ⟨Nat.pos_of_ne_zero hj, rfl⟩))
      · exact Or.inr (Or.inr (Or.inr ⟨Nat.pos_of_ne_zero hj, rfl⟩))

/-- `max_scoring_j` stays a column of the cells scanned -/
theorem bUpdate_le (B : Nat) : ∀ (cells : List Cell) (j0 : Nat) (st : Nat × Int), st.1 ≤ B → j0 + cells.length ≤ B + 1 →
    (bUpdate cells j0 st).1 ≤ B := by
  intro cells
  induction cells with
  | nil => intro j0 st h _; simpa [bUpdate] using h
  | cons c cells ih =>
    intro j0 st h1 h2
    simp only [bUpdate, List.zipIdx_cons, List.foldl_cons]
    simp only [List.length_cons] at h2
    apply ih (j0 + 1)
    · split
      · simp; omega
      · exact h1
    · omega

/-- one predecessor's contribution to `max_cell` of column `j`: `max(acc, max(Match, Del))` -/
def predStep (sc : Sc) (v r b j : Nat) (acc : Cell) (pp : Nat × BRow) : Cell :=
  cmax acc (cmax ⟨(pp.2.get (j - 1)).score + sc.w r b, .m (some (pp.1, v))⟩ ⟨(pp.2.get j).score + sc.gap, .d (some (pp.1, v + 1))⟩)

theorem predStep_op (sc : Sc) (v r b j : Nat) (acc : Cell) (pp : Nat × BRow) :
    (predStep sc v r b j acc pp).op = acc.op ∨ (predStep sc v r b j acc pp).op = .m (some (pp.1, v)) ∨
      (predStep sc v r b j acc pp).op = .d (some (pp.1, v + 1)) := by
  unfold predStep
  rcases cmax_op acc (cmax ⟨(pp.2.get (j - 1)).score + sc.w r b, .m (some (pp.1, v))⟩
    ⟨(pp.2.get j).score + sc.gap, .d (some (pp.1, v + 1))⟩) with h | h
  · exact Or.inl h
  · rw [h]; exact Or.inr (cmax_op _ _)

theorem cCand_cons (sc : Sc) (init : Cell) (query : List Nat) (r0 : BRow) (v r : Nat) (p : Nat × BRow) (ps : List (Nat × BRow))
    (j : Nat) : cCand sc init query r0 v r (p :: ps) j = (p :: ps).foldl (predStep sc v r (query.getD (j - 1) 0) j) init := rfl

theorem xSuffix_spec (xs : Int) (lastI : Nat) (mcs : List (Int × Nat)) (cs : List Cell) (col : Nat) (mir : Int × Nat) :
    (xSuffix xs lastI col mcs cs mir).1.length = cs.length ∧
    (∀ k, ((xSuffix xs lastI col mcs cs mir).1.getD k mcell).op = (cs.getD k mcell).op ∨
      ∃ x, ((xSuffix xs lastI col mcs cs mir).1.getD k mcell).op = .x x) ∧
    ((xSuffix xs lastI col mcs cs mir).2.2 = mir.2 ∨
      (col ≤ (xSuffix xs lastI col mcs cs mir).2.2 ∧ (xSuffix xs lastI col mcs cs mir).2.2 < col + cs.length)) := by
  fun_induction xSuffix xs lastI col mcs cs mir with
  | case1 col mc mcs c cs mir hl rest mir' hx ih =>
    rw [hx] at ih
    obtain ⟨h1, h2, h3⟩ := ih
    refine ⟨congrArg (· + 1) h1, fun k => ?_, ?_⟩
    · cases k with
      | zero => left; rfl
      | succ k => exact h2 k
    · simp only [List.length_cons]
      rcases h3 with h3 | h3
      · exact Or.inl h3
      · right; simp only at h3; omega
  | case2 col mc mcs c cs mir hl maxcell mir1 rest mir' hx ih =>
    rw [hx] at ih
    obtain ⟨h1, h2, h3⟩ := ih
    refine ⟨congrArg (· + 1) h1, fun k => ?_, ?_⟩
    · cases k with
      | zero => exact (cmax_op c ⟨mc.1 + xs, .x mc.2⟩).imp_right fun h => ⟨mc.2, h⟩
      | succ k => exact h2 k
    · simp only [List.length_cons]
      rcases h3 with h3 | h3
      · rw [h3]
        simp only [mir1]
        split
        · right; simp only; omega
        · left; rfl
      · right; simp only at h3; omega
  | case3 t x cs mir hn => exact ⟨rfl, fun k => Or.inl rfl, Or.inl rfl⟩

/-! ## `customTable` in normal form -/

/-- the state of `custom` after the loop over the nodes -/
def customSt (sc : Sc) (xp yp : Int) (labels : List Nat) (es : WEdges) (query : List Nat) : CState :=
  (topo labels.length es).foldl (cStep sc xp labels es query (bRow0 sc.gap yp query.length))
    { rows := Array.replicate labels.length (emptyRow query.length),
      maxcol := List.replicate (query.length + 1) ((0 : Int), 0) }

/-- the cells of the last row (matrix index `lastI`) after suffix clipping: X clipping column by column, then Y clipping of
column `n` -/
def finishCells (xs ys : Int) (n lastI : Nat) (maxcol : List (Int × Nat)) (row : BRow) : List Cell :=
  let X := xSuffix xs lastI 0 maxcol ((List.range (n + 1)).map row.get) (0, 0)
  if X.2.2 ≠ n then setAt X.1 n (cmax (X.1.getD n mcell) ⟨X.2.1 + ys, .y X.2.2 n⟩) else X.1

theorem customTable_eq (sc : Sc) (xp xs yp ys : Int) (labels : List Nat) (es : WEdges) (query : List Nat) :
    customTable sc xp xs yp ys labels es query =
      { r0 := bRow0 sc.gap yp query.length,
        rows := (customSt sc xp yp labels es query).rows.setIfInBounds ((topo labels.length es).getLastD 0)
          { cells := finishCells xs ys query.length ((topo labels.length es).getLastD 0 + 1)
              (customSt sc xp yp labels es query).maxcol
              ((customSt sc xp yp labels es query).rows.getD ((topo labels.length es).getLastD 0) (emptyRow query.length)),
            start := 0, stop := query.length + 1 },
        last := (topo labels.length es).getLastD 0, n := query.length } := rfl

theorem finishCells_spec (xs ys : Int) (n lastI : Nat) (maxcol : List (Int × Nat)) (row : BRow) :
    (finishCells xs ys n lastI maxcol row).length = n + 1 ∧
    ∀ k, k < n + 1 →
      ((finishCells xs ys n lastI maxcol row).getD k mcell).op = (row.get k).op ∨
      (∃ x, ((finishCells xs ys n lastI maxcol row).getD k mcell).op = .x x) ∨
      (k = n ∧ 0 < n ∧ ∃ c, c ≤ n ∧ ((finishCells xs ys n lastI maxcol row).getD k mcell).op = .y c n) := by
  obtain ⟨h1, h2, h3⟩ := xSuffix_spec xs lastI maxcol ((List.range (n + 1)).map row.get) 0 (0, 0)
  simp only [finishCells]
  generalize xSuffix xs lastI 0 maxcol ((List.range (n + 1)).map row.get) (0, 0) = X at h1 h2 h3
  simp only [List.length_map, List.length_range] at h1 h3
  have hmir : X.2.2 ≤ n := by rcases h3 with h | h <;> omega
  have hc1 : ∀ k, k < n + 1 → (X.1.getD k mcell).op = (row.get k).op ∨ ∃ x, (X.1.getD k mcell).op = .x x := by
    intro k hk
    have : ((List.range (n + 1)).map row.get).getD k mcell = row.get k := by simp [List.getD_eq_getElem?_getD, hk]
    rcases h2 k with h | h
    · left; rw [h, this]
    · right; exact h
  split
  · refine ⟨by simp [setAt, h1], fun k hk => ?_⟩
    simp only [setAt]
    rw [List.getD_set]
    split
    · rename_i hkn
      rcases cmax_op (X.1.getD n mcell) ⟨X.2.1 + ys, .y X.2.2 n⟩ with h | h
      · rw [h, hkn.1]
        exact (hc1 k hk).imp_right Or.inl
      · exact Or.inr (Or.inr ⟨hkn.1.symm, by omega, X.2.2, hmir, h⟩)
    · exact (hc1 k hk).imp_right Or.inl
  · exact ⟨h1, fun k hk => (hc1 k hk).imp_right Or.inl⟩

end RbV.Poa.Model
