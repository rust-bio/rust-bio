import RbV.Lemmas.C15SrcAdd
/-! C15: value-level lemmas for the translated integration helpers (scaling in log space, the operand lists of the rules, one
trapezoid of the grid rule). -/
namespace RbV.C15
open Real RbV.Rs

/-- `s + c` in log space (`ln 0` stays `ln 0`): `addLP` (`RbV/Lemmas/C15b.lean`) under the name the integration helpers use; `add_emb_fin`
serves `emb r + fin c`, `add_fin_emb` (`C15SrcAdd.lean`) the other operand order of `XR.add` -/
noncomputable def shiftLP (c : ℝ) : LP → LP := addLP c

theorem lin_shiftLP (c : ℝ) (s : LP) : lin (shiftLP c s) = lin s * exp c := by
  rw [shiftLP, lin_addLP, mul_comm]

theorem add_emb_fin (r : LP) (c : ℝ) : XR.add (emb r) (XR.fin c) = emb (shiftLP c r) := by
  cases r with
  | none => rfl
  | some y => simp [shiftLP, addLP, add_comm]

theorem sub_emb_fin (r : LP) (c : ℝ) : XR.sub (emb r) (XR.fin c) = emb (shiftLP (-c) r) := by
  cases r with
  | none => rfl
  | some y => simp [shiftLP, addLP, sub_eq_add_neg, add_comm]

theorem scale_error {s : LP} {S ε : ℝ} (c : ℝ) (h : Near ε (lin s) S) : Near ε (lin (shiftLP c s)) (S * exp c) := by
  rw [lin_shiftLP]; exact h.mul_right (exp_pos c).le

/-- the inner grid points with their indices: what `linspace(..).enumerate().dropping(1).dropping_back(1)` yields -/
def innerPts (xs : List XR) : List (Nat × XR) := Rs.dropBack 1 ((Rs.enumIdx xs).drop 1)

/-- the operand list of both rules: the inner grid points, each shifted by the log of its weight, then the two end points -/
noncomputable def quadTerms (wt : Nat → ℝ) (d : Nat → XR → LP) (xs : List XR) (d0 dn : LP) : List LP :=
  (innerPts xs).map (fun it => shiftLP (log (wt it.1)) (d it.1 it.2)) ++ [d0] ++ [dn]

theorem quadTerms_emb (wt : Nat → ℝ) (d : Nat → XR → LP) (xs : List XR) (d0 dn : LP) :
    (innerPts xs).map (fun it => emb (shiftLP (log (wt it.1)) (d it.1 it.2))) ++ [emb d0] ++ [emb dn]
      = (quadTerms wt d xs d0 dn).map emb := by
  simp only [quadTerms, List.map_append, List.map_map, List.map_cons, List.map_nil]
  rfl

theorem quadTerms_sum {wt : Nat → ℝ} (hwt : ∀ i, 0 < wt i) (d : Nat → XR → LP) (xs : List XR) (d0 dn : LP) :
    ((quadTerms wt d xs d0 dn).map lin).sum = ((innerPts xs).map fun it => wt it.1 * lin (d it.1 it.2)).sum + lin d0 + lin dn := by
  have e : (lin ∘ fun it : Nat × XR => shiftLP (log (wt it.1)) (d it.1 it.2)) = fun it => wt it.1 * lin (d it.1 it.2) := by
    funext it
    simp only [Function.comp, lin_shiftLP, exp_log (hwt it.1), mul_comm]
  simp only [quadTerms, List.map_append, List.map_map, List.sum_append, List.map_cons, List.map_nil, List.sum_cons,
    List.sum_nil, add_zero, e]

/-- the tail of both rules, `ln_sum_exp(terms) + ln w − ln K`: within `δ` of `(Σ terms) · w / K` -/
theorem quad_error {E δ} (h : ApproxExp E δ) (hδ : δ < 1) (terms : List LP) {w K : ℝ} (hw : 0 < w) (hK : 0 < K) :
    Near δ (lin (shiftLP (-log K) (shiftLP (log w) (lnSumExp E terms)))) ((terms.map lin).sum * (w / K)) := by
  have h1 := scale_error (-log K) (scale_error (log w) (lnSumExp_error h hδ terms))
  rwa [exp_log hw, exp_neg, exp_log hK, mul_assoc, ← div_eq_mul_inv] at h1

theorem shiftLP_neg_log_mul {a b : ℝ} (ha : 0 < a) (hb : 0 < b) (s : LP) :
    shiftLP (-log b) (shiftLP (-log a) s) = shiftLP (-log (b * a)) s := by
  cases s with
  | none => rfl
  | some y => simp only [shiftLP, addLP, log_mul hb.ne' ha.ne', neg_add, add_assoc]

/-- `(n − 1) as f64` for `n ≥ 2` -/
theorem pred_cast {n : Nat} (hn : 2 ≤ n) :
    Rs.sub n 1 = Res.ok (n - 1) ∧ ((n - 1 : ℕ) : ℝ) = (n : ℝ) - 1 ∧ (0 : ℝ) < (n : ℝ) - 1 := by
  have h2 : (2 : ℝ) ≤ n := by exact_mod_cast hn
  exact ⟨sub_ok (by omega), by rw [Nat.cast_sub (by omega), Nat.cast_one], by linarith⟩

theorem idx_map_fin (gs : List ℝ) (j : Nat) (hj : j < gs.length) :
    Rs.idx (gs.map XR.fin) j = Res.ok (XR.fin (gs.getD j 0)) := by
  simp [Rs.idx, List.getElem?_map, List.getElem?_eq_getElem hj, List.getD_eq_getElem?_getD]

/-- values each within `ε` of their targets, as a list of model values whose sum is within `ε` of the total -/
theorem terms_exist {α : Type} (g : α → XR) (q : α → ℝ) (ε : ℝ) : ∀ l : List α,
    (∀ x ∈ l, ∃ t : LP, g x = emb t ∧ Near ε (lin t) (q x)) →
    ∃ ts : List LP, l.map g = ts.map emb ∧ Near ε (ts.map lin).sum (l.map q).sum
  | [], _ => ⟨[], rfl, by simp [Near]⟩
  | x :: l, h => by
    obtain ⟨t, ht, he⟩ := h x (List.mem_cons_self ..)
    obtain ⟨ts, hts, hes⟩ := terms_exist g q ε l (fun y hy => h y (List.mem_cons_of_mem _ hy))
    exact ⟨t :: ts, by simp [ht, hts], by simpa using he.add hes⟩

/-- one trapezoid in log space from any admissible addition: `(a ⊕ b) − ln 2 + ln w` -/
theorem trapezoid_term {E δ} (h : ApproxExp E δ) (hδ : δ < 1) {a b r : LP} (hn : AddNear E a b r) {w : ℝ} (hw : 0 < w) :
    XR.add (XR.sub (emb r) (XR.ln (XR.fin 2))) (XR.ln (XR.fin w)) = emb (shiftLP (log w) (shiftLP (-log 2) r)) ∧
    Near (δ + dropTol) (lin (shiftLP (log w) (shiftLP (-log 2) r))) (w / 2 * (lin a + lin b)) := by
  refine ⟨by rw [ln_fin_pos (show (0 : ℝ) < 2 by norm_num), ln_fin_pos hw, sub_emb_fin, add_emb_fin], ?_⟩
  have h5 := scale_error (log w) (scale_error (-log 2) (hn.near h hδ))
  rwa [exp_neg, exp_log (show (0 : ℝ) < 2 by norm_num), exp_log hw,
    show (lin a + lin b) * (2 : ℝ)⁻¹ * w = w / 2 * (lin a + lin b) by ring] at h5

end RbV.C15
