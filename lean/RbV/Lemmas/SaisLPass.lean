import RbV.Lemmas.SaisPass
/-
The L pass of induced sorting (`for r in 0..n` of `calc_pos`) as the instance `Dir.up` of the pass of `SaisPass.lean`:
its seeds are the placed LMS positions, `bucket_start[c]` is the next slot of queue `c`, and what is not live still holds
the "undefined" value `n` (which is what the `= n` test of `lStep` reads).  Result: `LDone` (`lPass_spec`).
The closing section states the same invariant in terms of the arrays alone (`LInv`, `WF`); no proof of the pass rests on it.
-/
namespace RbV.Sais

/-! ### the two cases of the step -/

theorem lStep_skip (t : List Nat) (ty : List Bool) (n r : Nat) (pos bs : List Nat)
    (h : pos.getD r 0 = n ∨ pos.getD r 0 = 0 ∨ isS ty (pos.getD r 0 - 1) = true) :
    lStep t ty n r (pos, bs) = (pos, bs) := by
  unfold lStep
  dsimp only
  generalize pos.getD r 0 = p at h ⊢
  rcases h with h | h | h
  · simp [h]
  · simp [h]
  · simp [isL_eq_not, h]

theorem lStep_write (t : List Nat) (ty : List Bool) (n r : Nat) (pos bs : List Nat)
    (h1 : pos.getD r 0 ≠ n) (h2 : pos.getD r 0 ≠ 0) (h3 : isS ty (pos.getD r 0 - 1) = false) :
    lStep t ty n r (pos, bs) =
      (pos.set (bs.getD (sym t (pos.getD r 0 - 1)) 0) (pos.getD r 0 - 1),
        bs.set (sym t (pos.getD r 0 - 1)) (bs.getD (sym t (pos.getD r 0 - 1)) 0 + 1)) := by
  unfold lStep sym
  dsimp only
  generalize pos.getD r 0 = p at h1 h2 h3 ⊢
  simp [isL_eq_not, h1, h2, h3]

/-! ### the invariant, its start, one iteration, the end -/

/-- the seeds of the L pass: the defined entries of the start array (the placed LMS positions) -/
def seedL (t pos0 : List Nat) (i : Nat) : Prop := i < t.length ∧ pos0.getD i 0 ≠ t.length

/-- invariant of the L pass before iteration `r`: the invariant of a pass in direction `up`; `bucket_start[c]` is the
next slot of queue `c`; what is not live is still undefined, the seeds are untouched -/
structure LInvG (t : List Nat) (R : Nat → Nat → Prop) (pos0 : List Nat) (r : Nat) (pos bs : List Nat)
    (w : Nat → Nat) : Prop where
  g : GInv (Dir.up t) (fun x y => x ≠ y ∧ R x y) (seedL t pos0) (fun i => i < r) pos w
  lenB : bs.length = maxSucc t
  ptr : ∀ c, c < maxSucc t → bs.getD c 0 = (Dir.up t).slot c (w c)
  dead : ∀ i, i < t.length → ¬ Live (Dir.up t) (seedL t pos0) w i → pos.getD i 0 = t.length
  keep : ∀ i, seedL t pos0 i → pos.getD i 0 = pos0.getD i 0

section
variable {t : List Nat} {R : Nat → Nat → Prop} {pos0 pos bs : List Nat} {w : Nat → Nat} {k : Nat}

theorem seed_of_live_zero {i : Nat} (h : Live (Dir.up t) (seedL t pos0) (fun _ => 0) i) : seedL t pos0 i :=
  h.elim id (fun ⟨_, _, h, _⟩ => absurd h (Nat.not_lt_zero _))

theorem seedL_spec (hp : Placed t R pos0) {i : Nat} (h : seedL t pos0 i) :
    ∃ c, (Dir.up t).outside c i ∧ pos0.getD i 0 < t.length ∧ sym t (pos0.getD i 0) = c ∧
      isS (tyOf t) (pos0.getD i 0) = !(Dir.up t).tgt := by
  obtain ⟨hl, hb, ha⟩ := hp.area i h.1 h.2
  exact ⟨_, (Dir.up_outside t _ i).mpr ⟨ha, hb.2⟩, lt_of_isLms _ hl, rfl, isS_of_isLms hl⟩

theorem LInvG.init (hv : Valid t) (hp : Placed t R pos0) :
    LInvG t R pos0 0 pos0 (initBucketStart t) (fun _ => 0) where
  g :=
    { lenP := hp.len
      wle := fun _ => Nat.zero_le _
      qmem := fun _ _ h => absurd h (Nat.not_lt_zero _)
      smem := fun _ h => seedL_spec hp h
      sorted := fun i j hij hi hj => by
        obtain ⟨_, hi'⟩ := seed_of_live_zero hi
        obtain ⟨hj1, hj'⟩ := seed_of_live_zero hj
        exact ⟨hp.inj i j hij hj1 hi' hj', hp.sorted i j hij hj1 hi' hj'⟩
      hist := fun _ _ h => absurd h (Nat.not_lt_zero _)
      prog := fun _ _ _ _ h => absurd h (Nat.not_lt_zero _) }
  lenB := length_initBucketStart hv
  ptr := fun c hc => getD_initBucketStart hv c hc
  dead := fun i hi hn => Classical.byContradiction fun hne => hn (Or.inl ⟨hi, hne⟩)
  keep := fun _ _ => rfl

theorem LInvG.live {i : Nat} (h : LInvG t R pos0 k pos bs w) (hi : i < t.length) (h1 : pos.getD i 0 ≠ t.length) :
    Live (Dir.up t) (seedL t pos0) w i :=
  Classical.byContradiction fun hn => h1 (h.dead i hi hn)

theorem LInvG.push (h : LInvG t R pos0 k pos bs w) (hk : k < t.length) (h1 : pos.getD k 0 ≠ t.length)
    (h2 : pos.getD k 0 ≠ 0) (h3 : isS (tyOf t) (pos.getD k 0 - 1) = false) :
    Push (Dir.up t) (fun x y => x ≠ y ∧ R x y) (seedL t pos0) (fun i => i < k) pos w k (pos.getD k 0 - 1) := by
  have hlt := (h.g.classify (h.live hk h1)).1
  exact ⟨h.g, h.live hk h1, fun _ hr => hr, by omega, by omega, h3⟩

theorem lStep_invG (hv : Valid t) (hR : IndRel t R) (hstep : StepL t R) (s : List Nat × List Nat) (hk : k < t.length)
    (h : ∃ w, LInvG t R pos0 k s.1 s.2 w) :
    ∃ w, LInvG t R pos0 (k + 1) (lStep t (tyOf t) t.length k s).1 (lStep t (tyOf t) t.length k s).2 w := by
  obtain ⟨pos, bs⟩ := s
  obtain ⟨w, h⟩ := h
  simp only at h
  have hsucc : (fun i => i < k ∨ i = k) = fun i => i < k + 1 := funext fun i => propext (by omega)
  have hskip : (pos.getD k 0 = t.length ∨ pos.getD k 0 = 0 ∨ isS (tyOf t) (pos.getD k 0 - 1) = true) →
      ∃ w, LInvG t R pos0 (k + 1) (lStep t (tyOf t) t.length k (pos, bs)).1
        (lStep t (tyOf t) t.length k (pos, bs)).2 w := by
    intro hs
    rw [lStep_skip _ _ _ _ _ _ hs]
    refine ⟨w, { h with g := hsucc ▸ h.g.skip (fun hl y hy hty he => ?_) }⟩
    rcases hs with h1 | h1 | h1
    · have := (h.g.classify hl).1; omega
    · omega
    · rw [he, Nat.add_sub_cancel, hty] at h1; cases h1
  by_cases h1 : pos.getD k 0 = t.length
  · exact hskip (Or.inl h1)
  by_cases h2 : pos.getD k 0 = 0
  · exact hskip (Or.inr (Or.inl h2))
  cases h3 : isS (tyOf t) (pos.getD k 0 - 1) with
  | true => exact hskip (Or.inr (Or.inr h3))
  | false =>
    have P := h.push hk h1 h2 h3
    have hD := DirRel.up hR hstep
    have hc : sym t (pos.getD k 0 - 1) < maxSucc t := sym_lt_maxSucc _ (by have := P.hxn; omega)
    rw [lStep_write _ _ _ _ _ _ h1 h2 h3, h.ptr _ hc]
    refine ⟨updW w (sym t (pos.getD k 0 - 1)), hsucc ▸ P.next hD hv, ?_, ?_, ?_, ?_⟩
    · rw [List.length_set]; exact h.lenB
    · intro d hd
      by_cases hdc : d = sym t (pos.getD k 0 - 1)
      · subst hdc
        rw [List.getD_set_self _ _ _ _ (by rw [h.lenB]; exact hd), updW_eq, Dir.up_slot, Dir.up_slot, Nat.add_assoc]
      · rw [List.getD_set_ne _ _ _ _ _ (Ne.symm hdc), updW_ne w hdc]; exact h.ptr d hd
    · intro i hi hn
      rw [List.getD_set_ne _ _ _ _ _ (fun e => hn (by rw [← e]; exact Live.slot _))]
      exact h.dead i hi (fun hl => hn hl.mono)
    · intro i hi
      rw [P.get_live hD (Or.inl hi)]; exact h.keep i hi

/-- at the end every L-type position is present (induction along the text, from the right) -/
theorem LInvG.present (hv : Valid t) (hp : Placed t R pos0) (h : LInvG t R pos0 t.length pos bs w) {x : Nat}
    (hx : x < t.length) (hL : isS (tyOf t) x = false) :
    ∃ j, Live (Dir.up t) (seedL t pos0) w j ∧ pos.getD j 0 = x := by
  induction hm : t.length - x generalizing x with
  | zero => omega
  | succ m ih =>
    have hx1 := lt_of_isL hv x hx hL
    cases hs : isS (tyOf t) (x + 1) with
    | false =>
      obtain ⟨i, hi, he⟩ := ih hx1 hs (by omega)
      exact h.g.prog x hx1 hL i (Live.lt h.g hi) hi he
    | true =>
      have hlms : isLms (tyOf t) (x + 1) = true := by
        rw [isLms_iff]; exact ⟨by omega, hs, by rw [Nat.add_sub_cancel]; exact hL⟩
      obtain ⟨i, hi, he⟩ := hp.all (x + 1) hlms
      have hsd : seedL t pos0 i := ⟨hi, by omega⟩
      exact h.g.prog x hx1 hL i hi (Or.inl hsd) (by rw [h.keep i hsd]; exact he)

theorem LInvG.full (hv : Valid t) (hp : Placed t R pos0) (h : LInvG t R pos0 t.length pos bs w) (d : Nat) :
    w d = (Lset t d).length := by
  refine Nat.le_antisymm (h.g.wle d)
    (length_le_of_surj _ (nodup_Lset t d) (fun a => pos.getD ((Dir.up t).slot d a) 0) _ fun y hy => ?_)
  obtain ⟨hy1, hy2, hy3⟩ := (mem_Lset _ _ _).mp hy
  obtain ⟨j, hj, he⟩ := h.present hv hp hy1 hy3
  obtain ⟨_, _, hq, _⟩ := h.g.classify hj
  rw [he, hy2] at hq
  obtain ⟨a, ha, hja⟩ := hq hy3
  exact ⟨a, ha, by rw [← hja]; exact he⟩

theorem LInvG.done (hv : Valid t) (hp : Placed t R pos0) (h : LInvG t R pos0 t.length pos bs w) : LDone t R pos0 pos := by
  refine ⟨h.g.lenP, ?_, ?_, ?_, ?_⟩
  · intro d _ i h1 h2
    have := h.g.qmem d (i - cntLt t d) (by rw [h.full hv hp d]; omega)
    rwa [Dir.up_slot, Nat.add_sub_cancel' h1] at this
  · intro d _ i h1 h2
    by_cases hs : pos0.getD i 0 = t.length
    · rw [hs]
      have hi : i < t.length := by have := cntLt_le_length t (d + 1); omega
      apply h.dead i hi
      rintro (⟨_, hs'⟩ | ⟨c, a, ha, rfl⟩)
      · exact hs' hs
      · exact (Dir.up t).not_outside_slot (Nat.lt_of_lt_of_le ha (h.g.wle c)) ((Dir.up_outside t d _).mpr ⟨h1, h2⟩)
    · exact h.keep i ⟨by have := cntLt_le_length t (d + 1); omega, hs⟩
  · intro i j hij hj hi' hj'
    exact (h.g.sorted i j hij (h.live (by omega) hi') (h.live hj hj')).1
  · intro i j hij hj hi' hj'
    exact (h.g.sorted i j hij (h.live (by omega) hi') (h.live hj hj')).2

end

/-- the L pass of induced sorting: starting from the placed LMS positions it writes every L-type position exactly
once into the L-area of its bucket, keeps the S-areas, and keeps the defined entries `R`-sorted. -/
theorem lPass_spec (t : List Nat) (hv : Valid t) (R : Nat → Nat → Prop) (hR : IndRel t R) (hstep : StepL t R)
    (pos0 : List Nat) (hp : Placed t R pos0) :
    LDone t R pos0 (forUp t.length (lStep t (tyOf t) t.length) (pos0, initBucketStart t)).1 := by
  obtain ⟨w, h⟩ := forUp_inv t.length (lStep t (tyOf t) t.length) (pos0, initBucketStart t)
    (fun r s => ∃ w, LInvG t R pos0 r s.1 s.2 w) ⟨_, LInvG.init hv hp⟩
    (fun k s hk hs => lStep_invG hv hR hstep s hk hs)
  exact h.done hv hp

/-! ### the same invariant in terms of the arrays

`LInv` states the invariant of the L pass with `pos`, `bucket_start` and the bucket bounds alone, `WF` what is known in a writing
iteration.  Nothing above rests on this section: `LInv.toG` reads an `LInv` as an `LInvG`, and `LInv.absent`, `LInv.present`
are `Push.absent`, `LInvG.present` through it. -/

theorem larea_le (t : List Nat) (c : Nat) :
    cntLt t c + (Lset t c).length ≤ cntLt t (c + 1) ∧ cntLt t (c + 1) ≤ t.length := by
  have := cntLt_succ_split t c
  have := cntLt_le_length t (c + 1)
  omega

/-- invariant of the L pass before iteration `r` (state `(pos, bs)`, start array `pos0`), in terms of the arrays alone.  The
proofs of the pass work with `LInvG`, i.e. with the invariant `GInv` of `SaisPass.lean` at `Dir.up`; `LInv.toG` reads an
`LInv` as one. -/
structure LInv (t : List Nat) (R : Nat → Nat → Prop) (pos0 : List Nat) (r : Nat) (pos bs : List Nat) : Prop where
  lenP : pos.length = t.length
  lenB : bs.length = maxSucc t
  bsLo : ∀ c, c < maxSucc t → cntLt t c ≤ bs.getD c 0
  bsHi : ∀ c, c < maxSucc t → bs.getD c 0 ≤ cntLt t c + (Lset t c).length
  /-- the filled part of an L-area: L-type positions of the bucket, each written when its successor was scanned -/
  hist : ∀ c, c < maxSucc t → ∀ i, cntLt t c ≤ i → i < bs.getD c 0 →
    pos.getD i 0 ∈ Lset t c ∧ ∃ r', r' < r ∧ pos.getD r' 0 = pos.getD i 0 + 1
  /-- everything else is as in `pos0` -/
  keep : ∀ c, c < maxSucc t → ∀ i, bs.getD c 0 ≤ i → i < cntLt t (c + 1) → pos.getD i 0 = pos0.getD i 0
  inj : ∀ i j, i < j → j < t.length → pos.getD i 0 ≠ t.length → pos.getD j 0 ≠ t.length →
    pos.getD i 0 ≠ pos.getD j 0
  sorted : ∀ i j, i < j → j < t.length → pos.getD i 0 ≠ t.length → pos.getD j 0 ≠ t.length →
    R (pos.getD i 0) (pos.getD j 0)
  /-- the L-type predecessor of a scanned entry has been written -/
  prog : ∀ x, x < t.length → isS (tyOf t) x = false → ∀ i, i < r → pos.getD i 0 = x + 1 →
    ∃ j, j < t.length ∧ pos.getD j 0 = x

section inv
variable {t : List Nat} {R : Nat → Nat → Prop} {pos0 pos bs : List Nat} {k : Nat}

/-- a defined entry sits in its own bucket: an L-type one in the filled part of the L-area (with its history), an
S-type one in the S-area -/
theorem LInv.classify (hp : Placed t R pos0) (h : LInv t R pos0 k pos bs) (i : Nat) (hi : i < t.length)
    (hne : pos.getD i 0 ≠ t.length) :
    pos.getD i 0 < t.length ∧ inBkt t (sym t (pos.getD i 0)) i ∧
    (isS (tyOf t) (pos.getD i 0) = false →
      i < bs.getD (sym t (pos.getD i 0)) 0 ∧ ∃ r', r' < k ∧ pos.getD r' 0 = pos.getD i 0 + 1) ∧
    (isS (tyOf t) (pos.getD i 0) = true →
      cntLt t (sym t (pos.getD i 0)) + (Lset t (sym t (pos.getD i 0))).length ≤ i ∧
        pos.getD i 0 = pos0.getD i 0 ∧ isLms (tyOf t) (pos.getD i 0) = true) := by
  obtain ⟨d, hd, hb⟩ := exists_bkt t i hi
  by_cases hlt : i < bs.getD d 0
  · obtain ⟨hm, hr⟩ := h.hist d hd i hb.1 hlt
    rw [mem_Lset] at hm
    obtain ⟨h1, h2, h3⟩ := hm
    refine ⟨h1, by rw [h2]; exact hb, fun _ => ⟨by rw [h2]; exact hlt, hr⟩, fun hs => ?_⟩
    rw [h3] at hs; cases hs
  · have hk := h.keep d hd i (by omega) hb.2
    have hne0 : pos0.getD i 0 ≠ t.length := by rw [← hk]; exact hne
    obtain ⟨hl, hbk, ha⟩ := hp.area i hi hne0
    rw [← hk] at hl hbk ha
    have hlms := (isLms_iff _ _).mp hl
    refine ⟨lt_of_isLms _ hl, hbk, fun hs => ?_, fun _ => ⟨ha, hk, hl⟩⟩
    rw [hlms.2.1] at hs; cases hs

end inv

/-- what is known in a writing iteration, in terms of `LInv` (the proofs of the pass use `Push`, `SaisPass.lean`) -/
structure WF (t : List Nat) (R : Nat → Nat → Prop) (pos0 : List Nat) (k : Nat) (pos bs : List Nat) (x c b : Nat) :
    Prop where
  inv : LInv t R pos0 k pos bs
  hk : k < t.length
  hx : x < t.length
  hx1 : x + 1 < t.length
  hpk : pos.getD k 0 = x + 1
  hL : isS (tyOf t) x = false
  hcx : sym t x = c
  hc : c < maxSucc t
  hbb : bs.getD c 0 = b
  absent : ∀ j, j < t.length → pos.getD j 0 ≠ x
  blo : cntLt t c ≤ b
  room : b < cntLt t c + (Lset t c).length
  bhi : b < cntLt t (c + 1)
  bn : b < t.length
  free : pos.getD b 0 = t.length
  kb : k < b

section bridge
variable {t : List Nat} {R : Nat → Nat → Prop} {pos0 pos bs : List Nat} {r k x : Nat}

/-- under `LInv` a defined entry is live, `bucket_start[c] - cntLt t c` slots of queue `c` counting as written -/
theorem LInv.live (hp : Placed t R pos0) (h : LInv t R pos0 r pos bs) (i : Nat) (hi : i < t.length)
    (hne : pos.getD i 0 ≠ t.length) : Live (Dir.up t) (seedL t pos0) (fun c => bs.getD c 0 - cntLt t c) i := by
  obtain ⟨_, hb, hL, hS⟩ := h.classify hp i hi hne
  cases hs : isS (tyOf t) (pos.getD i 0) with
  | false =>
    exact Or.inr ⟨_, i - cntLt t (sym t (pos.getD i 0)), Nat.sub_lt_sub_right hb.1 (hL hs).1,
      (Nat.add_sub_cancel' hb.1).symm⟩
  | true => exact Or.inl ⟨hi, by rw [← (hS hs).2.1]; exact hne⟩

theorem LInv.toG (hp : Placed t R pos0) (h : LInv t R pos0 r pos bs) :
    LInvG t R pos0 r pos bs (fun c => bs.getD c 0 - cntLt t c) := by
  have hslot : ∀ c a, a < bs.getD c 0 - cntLt t c →
      c < maxSucc t ∧ cntLt t c ≤ (Dir.up t).slot c a ∧ (Dir.up t).slot c a < bs.getD c 0 := fun c a ha => by
    rw [Dir.up_slot]
    refine ⟨Classical.byContradiction fun hn => ?_, by omega, by omega⟩
    rw [getD_oob _ _ _ (by rw [h.lenB]; omega)] at ha
    omega
  have hkeep : ∀ i, seedL t pos0 i → pos.getD i 0 = pos0.getD i 0 := fun i hs => by
    obtain ⟨c, ho, hl, rfl, _⟩ := seedL_spec hp hs
    have hc := sym_lt_maxSucc (t := t) _ hl
    have := h.bsHi _ hc
    rw [Dir.up_outside] at ho
    exact h.keep _ hc i (by omega) ho.2
  have hdef : ∀ i, Live (Dir.up t) (seedL t pos0) (fun c => bs.getD c 0 - cntLt t c) i →
      i < t.length ∧ pos.getD i 0 ≠ t.length := by
    rintro i (hs | ⟨c, a, ha, rfl⟩)
    · rw [hkeep i hs]; exact hs
    · obtain ⟨hc, h1, h2⟩ := hslot c a ha
      have hm := (mem_Lset _ _ _).mp (h.hist c hc _ h1 h2).1
      have := h.bsHi c hc
      have := larea_le t c
      exact ⟨by omega, by omega⟩
  refine ⟨⟨h.lenP, fun c => ?_, fun c a ha => ?_, fun i hs => ?_, fun i j hij hi hj => ?_, fun c a ha _ => ?_,
    fun y hy hty i hdi _ he => ?_⟩, h.lenB, fun c hc => ?_, fun i hi hn => ?_, hkeep⟩
  · rw [Dir.up_queue]
    by_cases hc : c < maxSucc t
    · have := h.bsHi c hc; omega
    · rw [getD_oob _ _ _ (by rw [h.lenB]; omega)]; omega
  · obtain ⟨hc, h1, h2⟩ := hslot c a ha
    exact (h.hist c hc _ h1 h2).1
  · rw [hkeep i hs]; exact seedL_spec hp hs
  · obtain ⟨_, hi'⟩ := hdef i hi
    obtain ⟨hj1, hj'⟩ := hdef j hj
    exact ⟨h.inj i j hij hj1 hi' hj', h.sorted i j hij hj1 hi' hj'⟩
  · obtain ⟨hc, h1, h2⟩ := hslot c a ha
    obtain ⟨_, r', hr', he⟩ := h.hist c hc _ h1 h2
    have hlt : r' < pos.length := Classical.byContradiction fun hn => by
      rw [getD_oob _ _ _ (by omega)] at he; omega
    rw [h.lenP] at hlt
    exact ⟨r', hr', h.live hp r' hlt (by omega), he⟩
  · obtain ⟨j, hj, hje⟩ := h.prog y (by omega) hty i hdi he
    exact ⟨j, h.live hp j hj (by omega), hje⟩
  · have := h.bsLo c hc
    rw [Dir.up_slot]; omega
  · exact Classical.byContradiction fun hne => hn (h.live hp i hi hne)

theorem LInv.absent (hv : Valid t) (hp : Placed t R pos0) (h : LInv t R pos0 k pos bs) (hk : k < t.length)
    (hx : x < t.length) (hpk : pos.getD k 0 = x + 1) (hL : isS (tyOf t) x = false) :
    ∀ j, j < t.length → pos.getD j 0 ≠ x := by
  intro j hj he
  have hx1 := lt_of_isL hv x hx hL
  have P : Push (Dir.up t) (fun x y => x ≠ y ∧ R x y) (seedL t pos0) (fun i => i < k) pos _ k x :=
    ⟨(h.toG hp).g, h.live hp k hk (by omega), fun _ hr => hr, hpk, hx1, hL⟩
  exact P.absent (fun _ _ h => h.1) (h.live hp j hj (by omega)) he

theorem LInv.present (hv : Valid t) (hp : Placed t R pos0) (h : LInv t R pos0 t.length pos bs) :
    ∀ m x, t.length - x ≤ m → x < t.length → isS (tyOf t) x = false → ∃ j, j < t.length ∧ pos.getD j 0 = x := by
  intro m x hm hx hL
  obtain ⟨j, hj, he⟩ := (h.toG hp).present hv hp hx hL
  exact ⟨j, Live.lt (h.toG hp).g hj, he⟩

end bridge

end RbV.Sais
