import RbV.Lemmas.TracebackState
/-!
The loop of the single-word traceback handler is the matrix walk, for either order of the Ins / Del tests.  Core Lean only.

C10 does not determine which of several optimal paths is reported, so the soundness theorems are needed for the order of the text,
Subst > Ins > Del, and for Subst > **Del > Ins** (seeded C10-H1 / C10-H4): `df = true` means Del first.  At matrix level both orders
are rules for the one walk `walkR` of `Lemmas/TracebackSound.lean` (`ruleOpG`, `walkD`, `walkG`); at handler level both are the loop
body `Cursor.iter` of the one cursor `Handler.cursor` (`Handler.iterG_eq`), which reads true cells (`handler_reads`,
`Lemmas/TracebackState.lean`).  The loop theorems are proved once for `Handler.loopG` (`loopG_eq_walkG`, `tracebackRdG_eq`); those for
the order of the text (`loop_eq_walkF`; `tracebackRd_eq` and `after_inv` are what `Lemmas/TracebackRing.lean` uses) are the instance `df = false`.
-/
namespace RbV.Model.MyersTraceback
open RbV.EditDist RbV.Model.MyersSimple
open RbV.Model.Ukkonen (cell)

/-! ### matrix level -/

/-- `walkF` with the Del test before the Ins test: `walkR (ruleOpD D)` written out (`walkD_eq_walkR`) -/
def walkD (D : Nat → Nat → Nat) : Nat → Nat → Nat → Nat × List Op
  | 0, _, j => (j, [])
  | _, 0, j => (j, [])
  | fuel + 1, i + 1, j =>
    if j ≥ 1 ∧ D i (j - 1) + 1 = D (i + 1) j then
      ((walkD D fuel i (j - 1)).1, Op.sub :: (walkD D fuel i (j - 1)).2)
    else if j ≥ 1 ∧ D (i + 1) (j - 1) + 1 = D i (j - 1) then
      ((walkD D fuel (i + 1) (j - 1)).1, Op.del :: (walkD D fuel (i + 1) (j - 1)).2)
    else if D i j + 1 = D (i + 1) j then
      ((walkD D fuel i j).1, Op.ins :: (walkD D fuel i j).2)
    else
      ((walkD D fuel i (j - 1)).1, Op.mat :: (walkD D fuel i (j - 1)).2)

theorem walkD_eq_walkR (D : Nat → Nat → Nat) : ∀ fuel i j, walkD D fuel i j = walkR (ruleOpD D) fuel i j := by
  intro fuel
  induction fuel with
  | zero => intro i j; rfl
  | succ fuel ih =>
    intro i j
    cases i with
    | zero => rfl
    | succ i =>
      simp only [walkD, walkR, ruleOpD, ih]
      split
      · rfl
      · split
        · rfl
        · split <;> rfl

/-! ### the walk parametrised by the order (`df = true`: Del before Ins) -/

/-- the walk for the order `df`: `walkR (ruleOpG df D)` (`walkG_eq_walkR`) -/
def walkG (df : Bool) (D : Nat → Nat → Nat) (fuel i j : Nat) : Nat × List Op :=
  if df then walkD D fuel i j else walkF D fuel i j

theorem walkG_eq_walkR (df : Bool) (D : Nat → Nat → Nat) (fuel i j : Nat) :
    walkG df D fuel i j = walkR (ruleOpG df D) fuel i j := by
  cases df
  · exact walkF_eq_walkR D fuel i j
  · exact walkD_eq_walkR D fuel i j

theorem walkG_start_le (df : Bool) (D : Nat → Nat → Nat) (fuel i j : Nat) : (walkG df D fuel i j).1 ≤ j := by
  rw [walkG_eq_walkR]
  exact walkR_start_le _ fuel i j

theorem walkG_sound (df : Bool) (eqv : Nat → Nat → Bool) (p t : List Nat) (D : Nat → Nat → Nat) (hD : IsSellers eqv p t D)
    (fuel i j : Nat) (hi : i ≤ p.length) (hj : j ≤ t.length) (hf : i + j ≤ fuel) :
    (walkG df D fuel i j).1 ≤ j ∧
    acost eqv (p.take i) ((t.take j).drop (walkG df D fuel i j).1) (walkG df D fuel i j).2.reverse = some (D i j) := by
  rw [walkG_eq_walkR]
  exact walkR_sound eqv p t D hD _ (ruleOpG_ok df hD) fuel i j hi hj hf

/-- the walk of either order from the end `stop` of the Sellers matrix spans at most `m + min d m` columns -/
theorem walkG_span (df : Bool) (eqv : Nat → Nat → Bool) (p t : List Nat) (stop : Nat) (hs : stop ≤ t.length) :
    stop - (walkG df (Dm (matrix (unitW eqv) p t)) (p.length + stop) p.length stop).1 ≤
      p.length + min (cell (unitW eqv) p (t.take stop) p.length) p.length := by
  have h := (walkG_sound df eqv p t _ (isSellers_matrix eqv p t) (p.length + stop) p.length stop (Nat.le_refl _) hs
    (Nat.le_refl _)).2
  rw [Dm_matrix _ p t p.length stop (Nat.le_refl _) hs, List.take_length] at h
  exact span_of_acost eqv p t _ stop _ hs h

/-! ### handler level -/

/-- one pass through the loop body with the Del test before the Ins test -/
def Handler.iterD {w : Nat} (dmax : Nat) (rd : Nat → St w) (h : Handler w) : Op × Bool × Handler w :=
  if (h.left.dist + 1) % (dmax + 1) = h.state.dist then
    (Op.sub, true, ((h.moveUp false).moveUpLeft false).moveToLeft rd)
  else
    match h.moveLeftDownIfBetter with
    | (true, h') => (Op.del, true, h'.moveToLeft rd)
    | (false, h') =>
      if (h'.state.pv &&& h'.pos) != 0#w then (Op.ins, false, (h'.moveUp true).moveUpLeft true)
      else (Op.mat, true, ((h'.moveUp false).moveUpLeft false).moveToLeft rd)

/-- one pass through the loop body for the order `df`: `Cursor.iter df` of `Handler.cursor` (`Handler.iterG_eq`) -/
def Handler.iterG {w : Nat} (df : Bool) (dmax : Nat) (rd : Nat → St w) (h : Handler w) : Op × Bool × Handler w :=
  if df then h.iterD dmax rd else h.iter dmax rd

/-- `Handler.loop` with the body `iterG df` -/
def Handler.loopG {w : Nat} (df : Bool) (dmax : Nat) (rd : Nat → St w) : Nat → Handler w → Nat × List Op
  | 0, _ => (0, [])
  | fuel + 1, h =>
    if h.finished then (0, []) else
      let r := Handler.loopG df dmax rd fuel (h.iterG df dmax rd).2.2
      (r.1 + (if (h.iterG df dmax rd).2.1 then 1 else 0), (h.iterG df dmax rd).1 :: r.2)

/-- `tracebackRd` with the loop `loopG df` -/
def tracebackRdG {w : Nat} (df : Bool) (dmax m : Nat) (rd : Nat → St w) (fuel : Nat) : Nat × Nat × List Op :=
  let r := Handler.loopG df dmax rd fuel (Handler.start m rd)
  (r.1, (rd 0).dist, r.2)

section
variable {w : Nat} {m dmax q lo : Nat} {D : Nat → Nat → Nat} {S : Nat → St w} {rd : Nat → St w}

theorem Handler.iterG_eq (df : Bool) (dmax : Nat) (rd : Nat → St w) (h : Handler w) :
    h.iterG df dmax rd = (Handler.cursor dmax rd).iter df h := by
  cases df <;>
    simp only [Handler.iterG, Handler.iter, Handler.iterD, Cursor.iter, Handler.cursor, decide_eq_true_eq, Bool.false_eq_true,
      if_false, if_true] <;> rcases h.moveLeftDownIfBetter with ⟨_ | _, h'⟩ <;> rfl

theorem iterG_maxMask (df : Bool) (dmax : Nat) (rd : Nat → St w) (h : Handler w) :
    (h.iterG df dmax rd).2.2.maxMask = h.maxMask := by
  rw [Handler.iterG_eq, Cursor.iter_eq _ df h h.ldb_keep]
  cases choose df _ _ _
  case del => exact (mldib_fields h).2.2.2.1
  all_goals rfl

theorem handler_sim (df : Bool) (st : Stored m dmax q lo D S rd) :
    LoopSim Handler.finished (Handler.iterG df dmax rd) (ruleOpG df D) lo (HInvAny m dmax q D S) := by
  rw [show Handler.iterG df dmax rd = (Handler.cursor dmax rd).iter df from funext (Handler.iterG_eq df dmax rd)]
  exact (handler_reads st).sim df

theorem loopG_eq_walkG (df : Bool) (st : Stored m dmax q lo D S rd) (fuel i j : Nat) (h : Handler w)
    (inv : HInvAny m dmax q D S i j h) (hlo : lo ≤ (walkG df D fuel i j).1) :
    Handler.loopG df dmax rd fuel h = (j - (walkG df D fuel i j).1, (walkG df D fuel i j).2) := by
  rw [walkG_eq_walkR] at hlo ⊢
  exact (handler_sim df st).loop_eq (Handler.loopG df dmax rd) (fun _ => rfl) (fun _ _ => rfl) fuel i j h inv hlo

theorem tracebackRdG_eq (df : Bool) (st : Stored m dmax q lo D S rd) (hq : 1 ≤ q) (fuel : Nat)
    (hlo : lo ≤ (walkG df D fuel m (q - 1)).1) :
    tracebackRdG df dmax m rd fuel =
      (q - 1 - (walkG df D fuel m (q - 1)).1, (S q).dist, (walkG df D fuel m (q - 1)).2) := by
  have hle := walkG_start_le df D fuel m (q - 1)
  have h := loopG_eq_walkG df st fuel m (q - 1) _ (start_inv st (by omega)) hlo
  unfold tracebackRdG
  rw [h, st.rd 0 (by omega)]
  simp

theorem loopG_false (dmax : Nat) (rd : Nat → St w) : ∀ (fuel : Nat) (h : Handler w),
    Handler.loopG false dmax rd fuel h = Handler.loop dmax rd fuel h := by
  intro fuel
  induction fuel with
  | zero => intro h; rfl
  | succ fuel ih => intro h; simp only [Handler.loopG, Handler.loop, Handler.iterG, ih, Bool.false_eq_true, if_false]

/-- **the loop is the matrix walk**: started with the true values at cursor `(i, j)`, the `while` loop of
`_traceback_at` pushes the operations of `walkF` and counts `j − start` left moves — provided no state older than
sequence number `lo` is needed, i.e. the walk ends at a column `≥ lo` -/
theorem loop_eq_walkF (st : Stored m dmax q lo D S rd) (fuel i j : Nat) (h : Handler w)
    (inv : HInvAny m dmax q D S i j h) (hlo : lo ≤ (walkF D fuel i j).1) :
    Handler.loop dmax rd fuel h = (j - (walkF D fuel i j).1, (walkF D fuel i j).2) := by
  rw [← loopG_false]
  exact loopG_eq_walkG false st fuel i j h inv hlo

theorem tracebackRd_eq (st : Stored m dmax q lo D S rd) (hq : 1 ≤ q) (fuel : Nat)
    (hlo : lo ≤ (walkF D fuel m (q - 1)).1) :
    tracebackRd dmax m rd fuel =
      (q - 1 - (walkF D fuel m (q - 1)).1, (S q).dist, (walkF D fuel m (q - 1)).2) := by
  have h := tracebackRdG_eq false st hq fuel hlo
  unfold tracebackRdG at h
  rw [loopG_false] at h
  exact h

/-- after any number of passes through the loop body the handler carries the true values at some cursor of the matrix
walk (all states readable: `lo = 0`) -/
theorem after_inv (st : Stored m dmax q 0 D S rd) (hq : 1 ≤ q) (n : Nat) :
    ∃ i j, HInvAny m dmax q D S i j (Handler.after dmax m rd n) :=
  (handler_sim false st).after_inv (Handler.after dmax m rd) (fun _ => rfl) ⟨m, q - 1, start_inv st (by omega)⟩ n

end

end RbV.Model.MyersTraceback
