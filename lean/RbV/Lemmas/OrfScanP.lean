import RbV.Model.OrfScanP
import RbV.Lemmas.OrfScan
/-!
# The ORF model with the length test as a parameter: the bounds and the emitted list that `Thm/GenSrcOrf.lean` needs (C20)

`Model/OrfScanP.lean`: `stepP P` / `runP P` / `findAllP P` = the mirror model of `Matches::next` with the length test of the
flush loop replaced by `P index start_pos`.  Here: the bounds `PB` on the pending starts (every one is the index of the last
base of a start codon already read), under which the checked operations of the source text succeed (only three-symbol start
codons are needed); the reported list as the concatenation of what the single steps emit (`findAllP_eq_emitsP`); that the
test of the source lies in the freedom of the property (`pinnedTest_ok`); and `Same`: the pending lists and the window of
two runs with different tests agree.  What `findAllP P` reports is `Lemmas.OrfScan.mem_findAllP`.

Core Lean only.
-/
namespace RbV.Lemmas.OrfScanP
open RbV.Orf RbV.Model.OrfScan RbV.Lemmas.OrfScan

/-- after `n` symbols every pending start is the index of the last base of a start codon already read, and the window
holds at most `n` symbols -/
structure PB (n : Nat) (st : State) : Prop where
  pend : ∀ f, f < 3 → ∀ s ∈ st.get f, 2 ≤ s ∧ s < n
  win : st.codon.length ≤ n
  win3 : st.codon.length ≤ 3

theorem init_PB : PB 0 State.init :=
  ⟨fun f _ s hs => by rw [init_get] at hs; exact (nomatch hs), Nat.le_refl 0, Nat.zero_le 3⟩

theorem window_length_le {n : Nat} {st : State} (h : st.codon.length ≤ n) (c : Nat) : (window st c).length ≤ n + 1 := by
  unfold window
  split <;> simp <;> omega

theorem window_length_le3 {st : State} (h : st.codon.length ≤ 3) (c : Nat) : (window st c).length ≤ 3 := by
  unfold window
  split <;> simp <;> omega

section
variable {starts : List (List Nat)} (h3s : ∀ c ∈ starts, c.length = 3)
include h3s

theorem pendingNow_bounds {n : Nat} {st : State}
    (hpb : PB n st) (c : Nat) : ∀ s ∈ pendingNow starts st n c, 2 ≤ s ∧ s ≤ n := by
  intro s hs
  have h3 : (n + 1) % 3 < 3 := Nat.mod_lt _ (by omega)
  unfold pendingNow at hs
  split at hs
  · rename_i hc
    rcases List.mem_append.mp hs with h | h
    · have := hpb.pend _ h3 s h; omega
    · have hs' : s = n := by simpa using h
      have hm : window st c ∈ starts := by simpa using hc
      have hl := h3s _ hm
      have := window_length_le hpb.win c
      omega
  · have := hpb.pend _ h3 s hs; omega

theorem stepP_PB (P : Nat → Nat → Bool)
    (stops : List (List Nat)) {n : Nat} {st : State} (hpb : PB n st) (c : Nat) :
    PB (n + 1) (stepP P starts stops st n c) := by
  refine ⟨?_, ?_, ?_⟩
  · intro f hf s hs
    by_cases hne : f = (n + 1) % 3
    · subst hne
      rw [stepP_get_same] at hs
      split at hs
      · simp at hs
      · have := pendingNow_bounds h3s hpb c s hs; omega
    · rw [stepP_get_other _ _ _ _ _ _ _ hf hne] at hs
      have := hpb.pend f hf s hs; omega
  · rw [stepP_codon]; exact window_length_le hpb.win c
  · rw [stepP_codon]; exact window_length_le3 hpb.win3 c

end

theorem runP_out (P : Nat → Nat → Bool) (starts stops : List (List Nat)) (seq : List Nat) :
    ∀ (st : State) (i : Nat), (runP P starts stops st i seq).out = st.out ++ emitsP P starts stops st i seq := by
  induction seq with
  | nil => intro st i; simp [runP, emitsP]
  | cons c rest ih =>
    intro st i
    simp only [runP, emitsP]
    rw [ih, stepP_out, List.append_assoc]

theorem findAllP_eq_emitsP (P : Nat → Nat → Bool) (starts stops : List (List Nat)) (seq : List Nat) :
    findAllP P starts stops seq = emitsP P starts stops State.init 0 seq := by
  unfold findAllP; rw [runP_out]; simp [State.init]

theorem pinnedTest_ok (minLen B : Nat) : LenTestOk (pinnedTest minLen) minLen B := by
  constructor
  · intro i s _ _ _ h; unfold pinnedTest; simp only [decide_eq_true_eq]; omega
  · intro i s _ _ _ h; unfold pinnedTest at h; simp only [decide_eq_true_eq] at h; omega

/-! ## the pending lists do not depend on the test -/

/-- two states with the same pending lists and window (they may differ in what has been emitted); `Same.step` states that
runs with different tests stay so related — the invariant `Lemmas.OrfScan.InvP` does not go through it -/
def Same (st st' : State) : Prop := (∀ f, f < 3 → st.get f = st'.get f) ∧ st.codon = st'.codon

theorem Same.window {st st' : State} (h : Same st st') (c : Nat) : window st c = window st' c := by
  unfold Model.OrfScan.window; rw [h.2]

theorem Same.pendingNow {st st' : State} (h : Same st st') (starts : List (List Nat)) (i c : Nat) :
    pendingNow starts st i c = pendingNow starts st' i c := by
  unfold Model.OrfScan.pendingNow
  rw [h.window c, h.1 _ (Nat.mod_lt _ (by omega))]

theorem Same.flushes {st st' : State} (h : Same st st') (starts stops : List (List Nat)) (i c : Nat) :
    flushes starts stops st i c = flushes starts stops st' i c := by
  unfold Model.OrfScan.flushes
  rw [h.pendingNow starts i c, h.window c]

theorem Same.step {st st' : State} (h : Same st st') (P P' : Nat → Nat → Bool) (starts stops : List (List Nat))
    (i c : Nat) : Same (stepP P starts stops st i c) (stepP P' starts stops st' i c) := by
  refine ⟨?_, ?_⟩
  · intro f hf
    by_cases hne : f = (i + 1) % 3
    · subst hne
      rw [stepP_get_same, stepP_get_same, h.flushes starts stops i c, h.pendingNow starts i c]
    · rw [stepP_get_other _ _ _ _ _ _ _ hf hne, stepP_get_other _ _ _ _ _ _ _ hf hne]
      exact h.1 f hf
  · rw [stepP_codon, stepP_codon, h.window c]

end RbV.Lemmas.OrfScanP
