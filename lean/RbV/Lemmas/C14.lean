import RbV.Model.Hmm
/-! # C14 — the proofs behind `RbV/Thm/C14.lean` (core Lean only)

Sums over states and paths, `paths`; backward and forward equal the likelihood (`backward_eq_likelihood`,
`forward_eq_likelihood`); Viterbi: what is asked of the tie-breaks (`IsArgmax`, `IsPick`; `argmax_of_step`: every arg-max scan of
the development, `cmpZ_refines`), the traceback over any matrices whose cells satisfy the Bellman conditions (`GoodStep`, `GoodMats`,
`tbK_spec`), `Optimal` and the step from the traceback to it (`tbP_optimal`, used for the mirror model's matrices in
`viterbiWith_spec` and for the tables of the translated text), `viterbi_spec`; the literal backward loop (`backwardLit_eq_backward`). -/
namespace RbV.Hmm

theorem ix_tab {S : Nat} (f : Nat → Nat) {k : Nat} (h : k < S) : ix (tab S f) k = f k := by
  simp [ix, tab, List.getD, h]

theorem tab_length (S : Nat) (f : Nat → Nat) : (tab S f).length = S := by simp [tab]

theorem sum_map_congr {α} (l : List α) (f g : α → Nat) (h : ∀ a ∈ l, f a = g a) :
    (l.map f).sum = (l.map g).sum := by
  induction l with
  | nil => rfl
  | cons a t ih =>
    simp only [List.map_cons, List.sum_cons]
    rw [h a (by simp), ih (fun b hb => h b (by simp [hb]))]

theorem sumS_congr {S : Nat} {f g : Nat → Nat} (h : ∀ k, k < S → f k = g k) : sumS S f = sumS S g := by
  unfold sumS
  apply sum_map_congr
  intro a ha
  exact h a (List.mem_range.mp ha)

theorem sum_map_add {α} (l : List α) (f g : α → Nat) :
    (l.map fun a => f a + g a).sum = (l.map f).sum + (l.map g).sum := by
  induction l with
  | nil => rfl
  | cons a t ih => simp only [List.map_cons, List.sum_cons, ih]; omega

theorem sum_map_mul_left {α} (l : List α) (c : Nat) (f : α → Nat) :
    (l.map fun a => c * f a).sum = c * (l.map f).sum := by
  induction l with
  | nil => simp
  | cons a t ih => simp only [List.map_cons, List.sum_cons, ih, Nat.mul_add]

theorem sum_map_mul_right {α} (l : List α) (c : Nat) (f : α → Nat) :
    (l.map fun a => f a * c).sum = (l.map f).sum * c := by
  induction l with
  | nil => simp
  | cons a t ih => simp only [List.map_cons, List.sum_cons, ih, Nat.add_mul]

theorem sum_map_zero {α} (l : List α) : (l.map fun _ => (0 : Nat)).sum = 0 := by
  induction l with
  | nil => rfl
  | cons a t ih => simp only [List.map_cons, List.sum_cons, ih]

theorem sum_comm {α β} (l₁ : List α) (l₂ : List β) (f : α → β → Nat) :
    (l₁.map fun a => (l₂.map fun b => f a b).sum).sum = (l₂.map fun b => (l₁.map fun a => f a b).sum).sum := by
  induction l₁ with
  | nil => simp [sum_map_zero]
  | cons a t ih => simp only [List.map_cons, List.sum_cons, ih, sum_map_add]

theorem sum_flatMap {α β} (l : List α) (g : α → List β) (f : β → Nat) :
    ((l.flatMap g).map f).sum = (l.map fun a => ((g a).map f).sum).sum := by
  induction l with
  | nil => rfl
  | cons a t ih => simp only [List.flatMap_cons, List.map_append, List.sum_append, List.map_cons, List.sum_cons, ih]

theorem sumS_comm (S : Nat) (f : Nat → Nat → Nat) :
    (sumS S fun a => sumS S fun b => f a b) = sumS S fun b => sumS S fun a => f a b := by
  unfold sumS; exact sum_comm _ _ f

theorem sumS_mul_left (S c : Nat) (f : Nat → Nat) : (sumS S fun a => c * f a) = c * sumS S f := by
  unfold sumS; exact sum_map_mul_left _ c f

theorem sumS_mul_right (S c : Nat) (f : Nat → Nat) : (sumS S fun a => f a * c) = sumS S f * c := by
  unfold sumS; exact sum_map_mul_right _ c f

theorem le_sum_of_mem {l : List Nat} {a : Nat} (h : a ∈ l) : a ≤ l.sum := by
  induction l with
  | nil => cases h
  | cons b t ih =>
    simp only [List.sum_cons]
    rcases List.mem_cons.mp h with rfl | h
    · omega
    · have := ih h; omega

theorem le_maxL_of_mem {l : List Nat} {a : Nat} (h : a ∈ l) : a ≤ maxL l := by
  induction l with
  | nil => cases h
  | cons b t ih =>
    simp only [maxL, List.foldr_cons]
    rcases List.mem_cons.mp h with rfl | h
    · omega
    · have := ih h; simp only [maxL] at this; omega

theorem maxL_le {l : List Nat} {v : Nat} (h : ∀ a ∈ l, a ≤ v) : maxL l ≤ v := by
  induction l with
  | nil => simp [maxL]
  | cons b t ih =>
    simp only [maxL, List.foldr_cons]
    have h1 := h b (by simp)
    have h2 := ih (fun a ha => h a (by simp [ha]))
    simp only [maxL] at h2; omega

theorem mem_paths {S : Nat} : ∀ {T : Nat} {π : List Nat}, π ∈ paths S T ↔ π.length = T ∧ ∀ s ∈ π, s < S := by
  intro T
  induction T with
  | zero =>
    intro π
    simp only [paths, List.mem_singleton]
    constructor
    · rintro rfl; simp
    · rintro ⟨h, _⟩; exact List.length_eq_zero_iff.mp h
  | succ T ih =>
    intro π
    simp only [paths, List.mem_flatMap, List.mem_map, List.mem_range]
    constructor
    · rintro ⟨s, hs, π', hπ', rfl⟩
      have := ih.mp hπ'
      refine ⟨by simp [this.1], ?_⟩
      intro x hx
      rcases List.mem_cons.mp hx with rfl | hx
      · exact hs
      · exact this.2 x hx
    · rintro ⟨hl, hall⟩
      cases π with
      | nil => simp at hl
      | cons s π' =>
        refine ⟨s, hall s (by simp), π', ih.mpr ⟨by simpa using hl, fun x hx => hall x (by simp [hx])⟩, rfl⟩

theorem cons_mem_paths {S T s : Nat} {π : List Nat} (hs : s < S) (h : π ∈ paths S T) : s :: π ∈ paths S (T + 1) := by
  simp only [paths, List.mem_flatMap, List.mem_map, List.mem_range]
  exact ⟨s, hs, π, h, rfl⟩

theorem mem_paths_succ {S T : Nat} {π : List Nat} (h : π ∈ paths S (T + 1)) :
    ∃ s π', π = s :: π' ∧ s < S ∧ π' ∈ paths S T := by
  simp only [paths, List.mem_flatMap, List.mem_map, List.mem_range] at h
  obtain ⟨s, hs, π', hπ', rfl⟩ := h
  exact ⟨s, π', rfl, hs, hπ'⟩

theorem sum_paths_succ (S T : Nat) (f : List Nat → Nat) :
    ((paths S (T + 1)).map f).sum = sumS S fun s => ((paths S T).map fun π => f (s :: π)).sum := by
  simp only [paths, sumS, sum_flatMap, List.map_map]
  rfl

/-- every arg-max here is a scan `A` over the indices that at `n` either moves to `n` or stays, moving only to a score at least
as large and staying only on one: it ends on an index of maximal score, whatever it does on ties (the same fact for
`Rs.maxBy`, a fold over a list: `maxBy_spec` in `Lemmas/HmmSrc.lean`) -/
theorem argmax_of_step (score A : Nat → Nat) (h1 : A 1 = 0)
    (hstep : ∀ n, 0 < n → (A (n + 1) = n ∧ score (A n) ≤ score n) ∨ (A (n + 1) = A n ∧ score n ≤ score (A n))) :
    ∀ {n : Nat}, 0 < n → A n < n ∧ ∀ k, k < n → score k ≤ score (A n) := by
  intro n hn
  induction n with
  | zero => cases hn
  | succ n ih =>
    rcases Nat.eq_zero_or_pos n with rfl | hpos
    · exact ⟨by rw [h1]; omega, fun k hk => by rw [show k = 0 by omega, h1]; exact Nat.le_refl _⟩
    · obtain ⟨hb, hub⟩ := ih hpos
      rcases hstep n hpos with ⟨e, h⟩ | ⟨e, h⟩ <;> rw [e] <;> refine ⟨by omega, fun k hk => ?_⟩ <;>
        rcases Nat.lt_succ_iff_lt_or_eq.mp hk with hk | rfl
      · exact Nat.le_trans (hub k hk) h
      · exact Nat.le_refl _
      · exact hub k hk
      · exact h

theorem argmaxLast_spec (f : Nat → Nat) {n : Nat} (h : 0 < n) : argmaxLast f n < n ∧ ∀ k, k < n → f k ≤ f (argmaxLast f n) :=
  argmax_of_step f (argmaxLast f) (by simp [argmaxLast]) (fun n _ => by
    by_cases hc : f (argmaxLast f n) ≤ f n
    · exact Or.inl ⟨by simp [argmaxLast, hc], hc⟩
    · exact Or.inr ⟨by simp [argmaxLast, hc], by omega⟩) h

theorem argmaxLast_lt (f : Nat → Nat) {n : Nat} (h : 0 < n) : argmaxLast f n < n := (argmaxLast_spec f h).1

theorem le_argmaxLast (f : Nat → Nat) {n k : Nat} (h : k < n) : f k ≤ f (argmaxLast f n) :=
  (argmaxLast_spec f (by omega)).2 k h

/-- Σ over all continuations of the weight of continuing from state `k` -/
def tailSum (m : Hmm) (k : Nat) (os : List Nat) : Nat := ((paths m.S os.length).map (chain m k os)).sum

theorem tailSum_nil (m : Hmm) (k : Nat) : tailSum m k [] = m.fin k := by
  simp [tailSum, paths, chain]

theorem tailSum_cons (m : Hmm) (j o : Nat) (os : List Nat) :
    tailSum m j (o :: os) = sumS m.S fun k => m.trans j k * m.emit k o * tailSum m k os := by
  simp only [tailSum, List.length_cons, sum_paths_succ, chain, sum_map_mul_left]

theorem ix_bcol (m : Hmm) (os : List Nat) : ∀ {k : Nat}, k < m.S → ix (bcol m os) k = tailSum m k os := by
  induction os with
  | nil => intro k hk; simp only [bcol, ix_tab _ hk, tailSum_nil]
  | cons o os ih =>
    intro j hj
    simp only [bcol, stepB, ix_tab _ hj, tailSum_cons]
    apply sumS_congr
    intro k hk
    rw [ih hk]; ac_rfl

theorem likelihood_cons (m : Hmm) (o : Nat) (os : List Nat) :
    likelihood m (o :: os) = sumS m.S fun k => m.init k * m.emit k o * tailSum m k os := by
  simp only [likelihood, List.length_cons, sum_paths_succ, joint, sum_map_mul_left, tailSum]

theorem backward_eq_likelihood (m : Hmm) (obs : List Nat) (h : obs ≠ []) : backward m obs = likelihood m obs := by
  cases obs with
  | nil => exact absurd rfl h
  | cons o os =>
    simp only [backward, finalB, likelihood_cons]
    apply sumS_congr
    intro k hk
    rw [ix_bcol m os hk]; ac_rfl

theorem fwdFrom_eq (m : Hmm) (os : List Nat) : ∀ col : List Nat,
    fwdFrom m col os = sumS m.S fun k => ix col k * tailSum m k os := by
  induction os with
  | nil =>
    intro col
    simp only [fwdFrom, tailSum_nil]
  | cons o os ih =>
    intro col
    simp only [fwdFrom, ih, tailSum_cons]
    -- Σ_j (Σ_k col k · t k j · e j o) · B j  =  Σ_k col k · Σ_j t k j · e j o · B j
    have h1 : (sumS m.S fun j => ix (stepF m col o) j * tailSum m j os)
        = sumS m.S fun j => sumS m.S fun k => ix col k * (m.trans k j * m.emit j o * tailSum m j os) := by
      apply sumS_congr
      intro j hj
      simp only [stepF, ix_tab _ hj]
      rw [← sumS_mul_right]
      apply sumS_congr
      intro k _
      ac_rfl
    rw [h1, sumS_comm]
    apply sumS_congr
    intro k _
    rw [sumS_mul_left]

theorem forward_eq_likelihood (m : Hmm) (obs : List Nat) (h : obs ≠ []) : forward m obs = likelihood m obs := by
  cases obs with
  | nil => exact absurd rfl h
  | cons o os =>
    simp only [forward, fwdFrom_eq, likelihood_cons]
    apply sumS_congr
    intro k hk
    simp only [col0, ix_tab _ hk]

/-- what the Viterbi proof needs of a predecessor selector -/
def IsArgmax (sel : Sel) : Prop :=
  ∀ (c t : Nat → Nat) (n : Nat), 0 < n → sel c t n < n ∧ ∀ k, k < n → c k * t k ≤ c (sel c t n) * t (sel c t n)

/-- what the Viterbi proof needs of the arg-max over the last column -/
def IsPick (pick : Pick) : Prop :=
  ∀ (f : Nat → Nat) (n : Nat), 0 < n → pick f n < n ∧ ∀ k, k < n → f k ≤ f (pick f n)

theorem isPick_argmaxLast : IsPick argmaxLast := fun f _ hn => argmaxLast_spec f hn

theorem isPick_argmaxFirst : IsPick argmaxFirst := fun f _ hn =>
  argmax_of_step f (argmaxFirst f) (by simp [argmaxFirst]) (fun n _ => by
    by_cases hc : f (argmaxFirst f n) < f n
    · exact Or.inl ⟨by simp [argmaxFirst, hc], by omega⟩
    · exact Or.inr ⟨by simp [argmaxFirst, hc], by omega⟩) hn

theorem argmaxLast_congr {f g : Nat → Nat} {n : Nat} (h : ∀ k, k < n → f k = g k) :
    argmaxLast f n = argmaxLast g n := by
  induction n with
  | zero => rfl
  | succ n ih =>
    have ih' := ih (fun k hk => h k (by omega))
    simp only [argmaxLast, ih', h n (by omega)]
    cases n with
    | zero => simp [argmaxLast, h 0 (by omega)]
    | succ n =>
      have hlt : argmaxLast g (n + 1) < n + 1 := argmaxLast_lt g (by omega)
      rw [h _ (by omega)]

theorem isArgmax_selLast : IsArgmax selLast := by
  intro c t n hn
  exact ⟨argmaxLast_lt _ hn, fun k hk => le_argmaxLast (fun k => c k * t k) hk⟩

theorem compare_refines (a b : Nat) : (compare a b = .gt → b ≤ a) ∧ (compare a b ≠ .gt → a ≤ b) :=
  ⟨fun h => Nat.le_of_lt (Nat.compare_eq_gt.mp h), fun h => Nat.le_of_not_lt fun hlt => h (Nat.compare_eq_gt.mpr hlt)⟩

/-- the zero-aware comparator refines the order of the products (in the sense a `max_by` fold needs), although it is not
a consistent order on them -/
theorem cmpZ_refines (c t : Nat → Nat) (a b : Nat) :
    (cmpZ c t a b = .gt → c b * t b ≤ c a * t a) ∧ (cmpZ c t a b ≠ .gt → c a * t a ≤ c b * t b) := by
  unfold cmpZ
  by_cases ha : c a = 0 <;> by_cases hb : c b = 0 <;> simp [ha, hb]
  exact compare_refines _ _

theorem argmaxBy_spec (cmp : Nat → Nat → Ordering) (score : Nat → Nat)
    (hc : ∀ a b, (cmp a b = .gt → score b ≤ score a) ∧ (cmp a b ≠ .gt → score a ≤ score b)) {n : Nat} (hn : 0 < n) :
    argmaxBy cmp n < n ∧ ∀ k, k < n → score k ≤ score (argmaxBy cmp n) :=
  argmax_of_step score (argmaxBy cmp) rfl (fun n hpos => by
    by_cases hg : cmp (argmaxBy cmp n) n = .gt
    · exact Or.inr ⟨by simp [argmaxBy, hg, Nat.ne_of_gt hpos], (hc _ _).1 hg⟩
    · exact Or.inl ⟨by simp [argmaxBy, hg, Nat.ne_of_gt hpos], (hc _ _).2 hg⟩) hn

theorem isArgmax_selZ : IsArgmax selZ :=
  fun c t _ hn => argmaxBy_spec (cmpZ c t) (fun k => c k * t k) (cmpZ_refines c t) hn

theorem ix_stepV_val (sel : Sel) (m : Hmm) (col : List Nat) (o : Nat) {j : Nat} (hj : j < m.S) :
    ix (stepV sel m col o).1 j =
      ix col (ix (stepV sel m col o).2 j) * m.trans (ix (stepV sel m col o).2 j) j * m.emit j o := by
  simp only [stepV, ix_tab _ hj]

theorem ix_stepV_ptr_lt {sel : Sel} (hsel : IsArgmax sel) (m : Hmm) (col : List Nat) (o : Nat) {j : Nat}
    (hj : j < m.S) : ix (stepV sel m col o).2 j < m.S := by
  simp only [stepV, ix_tab _ hj]
  exact (hsel _ _ _ (by omega)).1

theorem ix_stepV_ub {sel : Sel} (hsel : IsArgmax sel) (m : Hmm) (col : List Nat) (o : Nat) {j k : Nat}
    (hj : j < m.S) (hk : k < m.S) :
    ix col k * m.trans k j * m.emit j o ≤ ix (stepV sel m col o).1 j := by
  simp only [stepV, ix_tab _ hj]
  apply Nat.mul_le_mul_right
  exact (hsel (ix col) (fun k => m.trans k j) m.S (by omega)).2 k hk

/-- `cf = (value column, back-pointer column)` is a valid Viterbi step from the value column `col` under observation `o`:
every pointer is a state, the value is the pointed-to predecessor's continuation, and no predecessor does better -/
def GoodStep (m : Hmm) (col : List Nat) (o : Nat) (cf : List Nat × List Nat) : Prop :=
  ∀ j, j < m.S → ix cf.2 j < m.S ∧ ix cf.1 j = ix col (ix cf.2 j) * m.trans (ix cf.2 j) j * m.emit j o ∧
    ∀ k, k < m.S → ix col k * m.trans k j * m.emit j o ≤ ix cf.1 j

/-- `GoodMats m col os mats`: from the value column `col`, under the observations `os`, the (value column, back-pointer column)
pairs `mats` are valid steps one after the other -/
inductive GoodMats (m : Hmm) : List Nat → List Nat → List (List Nat × List Nat) → Prop
  | nil (col : List Nat) : GoodMats m col [] []
  | cons {col : List Nat} {o : Nat} {os : List Nat} {cf : List Nat × List Nat} {rest : List (List Nat × List Nat)} :
      GoodStep m col o cf → GoodMats m cf.1 os rest → GoodMats m col (o :: os) (cf :: rest)

/-- the value column of the last pair (`col` itself when there is none) -/
def lastCol (col : List Nat) : List (List Nat × List Nat) → List Nat
  | [] => col
  | cf :: rest => lastCol cf.1 rest

/-- the path traced along the back-pointers from a given final state `kL` -/
def tbP (kL : Nat) : List (List Nat × List Nat) → List Nat
  | [] => [kL]
  | cf :: rest => ix cf.2 ((tbP kL rest).headD 0) :: tbP kL rest

/-- the traceback over any good matrices (every valid tie-break), from any final state that maximises the weighted last column -/
theorem tbK_spec (m : Hmm) (w : Nat → Nat) (hw : ∀ k, k < m.S → w k = m.fin k) {os : List Nat} {col : List Nat}
    {mats : List (List Nat × List Nat)} (hg : GoodMats m col os mats) (kL : Nat) (hkL : kL < m.S)
    (hmax : ∀ k, k < m.S → ix (lastCol col mats) k * w k ≤ ix (lastCol col mats) kL * w kL) :
    ∃ k0 π, tbP kL mats = k0 :: π ∧ k0 < m.S ∧ π ∈ paths m.S os.length ∧
      ix col k0 * chain m k0 os π = ix (lastCol col mats) kL * w kL ∧
      ∀ k, k < m.S → ∀ ρ ∈ paths m.S os.length, ix col k * chain m k os ρ ≤ ix (lastCol col mats) kL * w kL := by
  induction hg with
  | nil col =>
    refine ⟨kL, [], rfl, hkL, by simp [paths], ?_, ?_⟩
    · simp [lastCol, chain, hw kL hkL]
    · intro k hk ρ hρ
      simp only [paths, List.length_nil, List.mem_singleton] at hρ
      subst hρ
      simp only [chain, ← hw k hk]
      exact hmax k hk
  | @cons col o os cf rest hstep _ ih =>
    obtain ⟨j0, π, hp, hj0, hπ, hval, hub⟩ := ih hmax
    obtain ⟨hptr, hv, hle⟩ := hstep j0 hj0
    simp only [tbP, hp, List.headD_cons, lastCol]
    refine ⟨ix cf.2 j0, j0 :: π, rfl, hptr, cons_mem_paths hj0 hπ, ?_, ?_⟩
    · rw [← hval, hv]
      simp only [chain]; ac_rfl
    · intro k hk ρ hρ
      obtain ⟨j, ρ', rfl, hj, hρ'⟩ := mem_paths_succ hρ
      simp only [chain]
      calc ix col k * (m.trans k j * m.emit j o * chain m j os ρ')
          = (ix col k * m.trans k j * m.emit j o) * chain m j os ρ' := by ac_rfl
        _ ≤ ix cf.1 j * chain m j os ρ' := Nat.mul_le_mul_right _ ((hstep j hj).2.2 k hk)
        _ ≤ _ := hub j hj ρ' hρ'

theorem goodMats_matFrom {sel : Sel} (hsel : IsArgmax sel) (m : Hmm) : ∀ (os : List Nat) (col : List Nat),
    GoodMats m col os (matFrom sel m col os) := by
  intro os
  induction os with
  | nil => intro col; exact GoodMats.nil col
  | cons o os ih =>
    intro col
    simp only [matFrom]
    refine GoodMats.cons ?_ (ih _)
    intro j hj
    exact ⟨ix_stepV_ptr_lt hsel m col o hj, ix_stepV_val sel m col o hj, fun k hk => ix_stepV_ub hsel m col o hj hk⟩

theorem tracebackW_eq (pick : Pick) (S : Nat) (w : Nat → Nat) : ∀ (mats : List (List Nat × List Nat)) (col : List Nat),
    tracebackW pick S w col mats = (tbP (pick (fun k => ix (lastCol col mats) k * w k) S) mats,
      ix (lastCol col mats) (pick (fun k => ix (lastCol col mats) k * w k) S) * w (pick (fun k => ix (lastCol col mats) k * w k) S)) := by
  intro mats
  induction mats with
  | nil => intro col; rfl
  | cons cf rest ih => intro col; simp only [tracebackW, tbP, lastCol, ih]

theorem traceback_spec {sel : Sel} (hsel : IsArgmax sel) {pick : Pick} (hpick : IsPick pick) (m : Hmm) (hS : 0 < m.S)
    (os : List Nat) (col : List Nat) :
    ∃ k0 π, (tracebackW pick m.S m.fin col (matFrom sel m col os)).1 = k0 :: π ∧ k0 < m.S ∧ π ∈ paths m.S os.length ∧
      ix col k0 * chain m k0 os π = (tracebackW pick m.S m.fin col (matFrom sel m col os)).2 ∧
      ∀ k, k < m.S → ∀ ρ ∈ paths m.S os.length,
        ix col k * chain m k os ρ ≤ (tracebackW pick m.S m.fin col (matFrom sel m col os)).2 := by
  rw [tracebackW_eq]
  exact tbK_spec m m.fin (fun _ _ => rfl) (goodMats_matFrom hsel m os col) _ (hpick _ _ hS).1 (hpick _ _ hS).2

theorem traceback_eq_W (S : Nat) (col : List Nat) (mats : List (List Nat × List Nat)) :
    traceback S col mats = tracebackW argmaxLast S (fun _ => 1) col mats := by
  induction mats generalizing col with
  | nil => simp [traceback, tracebackW]
  | cons cf rest ih => simp only [traceback, tracebackW, ih]

/-- **the end term is added after the matrix is complete**: the literal traceback on the matrices whose last
value column was multiplied by the end weights is the traceback that weights the last column by `fin` before
its arg-max — the back-pointer columns are the ones `viterbi_matrices` computed without the end term -/
theorem traceback_addEnd (m : Hmm) (hS : 0 < m.S) (mats : List (List Nat × List Nat)) : ∀ col : List Nat,
    traceback m.S (addEnd m col mats).1 (addEnd m col mats).2 = tracebackW argmaxLast m.S m.fin col mats := by
  induction mats with
  | nil =>
    intro col
    have hc : argmaxLast (ix (endCol m col)) m.S = argmaxLast (fun k => ix col k * m.fin k) m.S :=
      argmaxLast_congr (fun k hk => by simp only [endCol, ix_tab _ hk])
    have hlt : argmaxLast (fun k => ix col k * m.fin k) m.S < m.S := argmaxLast_lt _ hS
    simp only [addEnd, traceback, tracebackW, hc]
    simp only [endCol, ix_tab _ hlt]
  | cons cf rest ih =>
    intro col
    simp only [addEnd, traceback, tracebackW, ih]

theorem addEnd_ptrs (m : Hmm) (mats : List (List Nat × List Nat)) : ∀ col : List Nat,
    (addEnd m col mats).2.map (·.2) = mats.map (·.2) := by
  induction mats with
  | nil => intro col; rfl
  | cons cf rest ih => intro col; simp only [addEnd, List.map_cons, ih]

theorem matFrom_noEnd (sel : Sel) (m : Hmm) (col : List Nat) (os : List Nat) :
    matFrom sel m.noEnd col os = matFrom sel m col os := by
  induction os generalizing col with
  | nil => rfl
  | cons o os ih => simp only [matFrom, ih]; rfl

theorem viterbi_eq_viterbiWith_of_hasEnd (m : Hmm) (hS : 0 < m.S) (he : m.hasEnd = true) (obs : List Nat) :
    viterbi m obs = viterbiWith selZ argmaxLast m obs := by
  cases obs with
  | nil => rfl
  | cons o os => simp only [viterbi, viterbiWith, he, if_true, traceback_addEnd m hS]

theorem viterbi_eq_viterbiWith_noEnd (m : Hmm) (he : m.hasEnd = false) (obs : List Nat) :
    viterbi m obs = viterbiWith selZ argmaxLast m.noEnd obs := by
  cases obs with
  | nil => rfl
  | cons o os =>
    simp only [viterbi, viterbiWith, he, traceback_eq_W, matFrom_noEnd]
    rfl

/-- the end weights enter `chain` only through the last state of the path -/
theorem chain_noEnd_of_WF (m : Hmm) (hwf : m.WF) (he : m.hasEnd = false) : ∀ (os π : List Nat) (s : Nat),
    s < m.S → (∀ q ∈ π, q < m.S) → chain m.noEnd s os π = chain m s os π := by
  intro os
  induction os with
  | nil =>
    intro π s hs _
    cases π with
    | nil => simp only [chain, Hmm.noEnd, hwf he s hs]
    | cons q qs => simp only [chain]
  | cons o os ih =>
    intro π s hs hπ
    cases π with
    | nil => simp only [chain]
    | cons q qs =>
      simp only [chain]
      rw [ih qs q (hπ q (by simp)) (fun x hx => hπ x (by simp [hx]))]
      rfl

theorem joint_noEnd_of_WF (m : Hmm) (hwf : m.WF) (he : m.hasEnd = false) (obs π : List Nat)
    (hπ : ∀ q ∈ π, q < m.S) : joint m.noEnd obs π = joint m obs π := by
  cases obs with
  | nil => cases π <;> simp only [joint]
  | cons o os =>
    cases π with
    | nil => simp only [joint]
    | cons q qs =>
      simp only [joint]
      rw [chain_noEnd_of_WF m hwf he os qs q (hπ q (by simp)) (fun x hx => hπ x (by simp [hx]))]
      rfl

/-- `(π, v)` is an optimal decoding: `π` is a state path, `v` its joint weight, and no state path has a larger one -/
def Optimal (m : Hmm) (obs : List Nat) (r : List Nat × Nat) : Prop :=
  r.1 ∈ paths m.S obs.length ∧ joint m obs r.1 = r.2 ∧ ∀ ρ ∈ paths m.S obs.length, joint m obs ρ ≤ r.2

theorem optimal_unique {m : Hmm} {obs : List Nat} {r r' : List Nat × Nat} (h : Optimal m obs r) (h' : Optimal m obs r') :
    joint m obs r.1 = joint m obs r'.1 ∧ r.2 = r'.2 := by
  have h1 := h'.2.2 _ h.1
  have h2 := h.2.2 _ h'.1
  have := h.2.1
  have := h'.2.1
  omega

theorem eq_viterbiVal_of_optimal {m : Hmm} {obs : List Nat} {r : List Nat × Nat} (h : Optimal m obs r) :
    r.2 = viterbiVal m obs := by
  apply Nat.le_antisymm
  · rw [← h.2.1]; exact le_maxL_of_mem (List.mem_map.mpr ⟨_, h.1, rfl⟩)
  · apply maxL_le
    intro a ha
    obtain ⟨ρ, hρ, rfl⟩ := List.mem_map.mp ha
    exact h.2.2 ρ hρ

theorem tbP_optimal (m : Hmm) (w : Nat → Nat) (hw : ∀ k, k < m.S → w k = m.fin k) {o0 : Nat} {os : List Nat}
    {mats : List (List Nat × List Nat)} (hg : GoodMats m (col0 m o0) os mats) {kL : Nat} (hkL : kL < m.S)
    (hmax : ∀ k, k < m.S → ix (lastCol (col0 m o0) mats) k * w k ≤ ix (lastCol (col0 m o0) mats) kL * w kL) :
    Optimal m (o0 :: os) (tbP kL mats, ix (lastCol (col0 m o0) mats) kL * w kL) := by
  obtain ⟨k0, π, hp, hk0, hπ, hval, hub⟩ := tbK_spec m w hw hg kL hkL hmax
  simp only [Optimal, hp, List.length_cons]
  refine ⟨cons_mem_paths hk0 hπ, ?_, ?_⟩
  · rw [← hval]; simp only [joint, col0, ix_tab _ hk0]
  · intro ρ hρ
    obtain ⟨k, ρ', rfl, hk, hρ'⟩ := mem_paths_succ hρ
    have := hub k hk ρ' hρ'
    simpa only [joint, col0, ix_tab _ hk] using this

theorem viterbiWith_spec {sel : Sel} (hsel : IsArgmax sel) {pick : Pick} (hpick : IsPick pick) (m : Hmm) (hS : 0 < m.S)
    (obs : List Nat) (h : obs ≠ []) : Optimal m obs (viterbiWith sel pick m obs) := by
  cases obs with
  | nil => exact absurd rfl h
  | cons o os =>
    rw [viterbiWith, tracebackW_eq]
    exact tbP_optimal m m.fin (fun _ _ => rfl) (goodMats_matFrom hsel m os _) (hpick _ _ hS).1 (hpick _ _ hS).2

theorem viterbiE_spec (m : Hmm) (hS : 0 < m.S) (obs : List Nat) (h : obs ≠ []) : Optimal m obs (viterbiE m obs) :=
  viterbiWith_spec isArgmax_selLast isPick_argmaxLast m hS obs h

/-- the code mirror of `hmm::viterbi` is optimal for every well-formed model, with or without end vector -/
theorem viterbi_spec (m : Hmm) (hS : 0 < m.S) (hwf : m.WF) (obs : List Nat) (h : obs ≠ []) : Optimal m obs (viterbi m obs) := by
  cases he : m.hasEnd with
  | true =>
    rw [viterbi_eq_viterbiWith_of_hasEnd m hS he]
    exact viterbiWith_spec isArgmax_selZ isPick_argmaxLast m hS obs h
  | false =>
    rw [viterbi_eq_viterbiWith_noEnd m he]
    obtain ⟨hp, hj, hub⟩ := viterbiWith_spec isArgmax_selZ isPick_argmaxLast m.noEnd hS obs h
    have hp' : (viterbiWith selZ argmaxLast m.noEnd obs).1 ∈ paths m.S obs.length := hp
    refine ⟨hp', ?_, ?_⟩
    · rw [← hj, joint_noEnd_of_WF m hwf he obs _ (mem_paths.mp hp').2]
    · intro ρ hρ
      rw [← joint_noEnd_of_WF m hwf he obs ρ (mem_paths.mp hρ).2]
      exact hub ρ hρ

theorem bcol_eq_foldr (m : Hmm) (os : List Nat) :
    bcol m os = os.foldr (fun o acc => stepB m acc o) (tab m.S m.fin) := by
  induction os with
  | nil => rfl
  | cons o os ih => simp only [bcol, List.foldr_cons, ih]

/-- iterations `i ≥ 1` of the loop: `mid` are the observations still to be folded into the table (in reverse
order), the last iteration (`i = n-1`) produces the final sum with the first observation `o0` -/
theorem backwardLoop_mid (m : Hmm) (n o0 : Nat) (mid : List Nat) : ∀ (i : Nat) (cur : List Nat) (pvf : Nat),
    1 ≤ i → i + mid.length = n - 1 →
    backwardLoop m n i (mid ++ [o0]) cur pvf = finalB m (mid.foldl (fun acc o => stepB m acc o) cur) o0 := by
  induction mid with
  | nil =>
    intro i cur pvf hi hn
    have h0 : i ≠ 0 := by omega
    have h1 : i = n - 1 := by simpa using hn
    simp only [List.nil_append, backwardLoop, h0, if_false, ← h1, if_true, List.foldl_nil]
  | cons o mid ih =>
    intro i cur pvf hi hn
    have h0 : i ≠ 0 := by omega
    have h1 : i ≠ n - 1 := by simp only [List.length_cons] at hn; omega
    simp only [List.cons_append, backwardLoop, h0, h1, if_false, List.foldl_cons]
    exact ih (i + 1) _ pvf (by omega) (by simp only [List.length_cons] at hn; omega)

theorem backwardLit_eq_backward (m : Hmm) (obs : List Nat) : backwardLit m obs = backward m obs := by
  cases obs with
  | nil => rfl
  | cons o0 os =>
    simp only [backwardLit, backward, List.reverse_cons, List.length_cons, bcol_eq_foldr]
    rw [← List.foldl_reverse]
    cases hr : os.reverse with
    | nil =>
      have : os.length = 0 := by simpa using congrArg List.length hr
      simp [backwardLoop, this]
    | cons oL mid =>
      have hl : os.length = mid.length + 1 := by simpa using congrArg List.length hr
      have hgt : os.length + 1 > 1 := by omega
      simp only [List.cons_append, backwardLoop, if_true, hgt, List.foldl_cons]
      exact backwardLoop_mid m (os.length + 1) o0 mid 1 _ 0 (by omega) (by omega)

end RbV.Hmm
