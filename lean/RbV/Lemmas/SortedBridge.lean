import RbV.Ref.SA
import RbV.Model.LFMulti
import RbV.Model.LFSortedCheck
/-!
# From C03's suffix-array property to C05's sortedness hypothesis

`IsSA t sa` (C03: `sa` is sorted under *some* consistent order of the sentinel occurrences, the final sentinel least)
implies `LF.Sorted t sa a` (C05: the hypotheses of the LF-mapping argument) for every symbol `a` that is not the
sentinel, on every non-empty text whose sentinel is its smallest symbol.  The latter hypothesis is needed because the
order of C03 puts a sentinel occurrence below every other symbol whatever its numeric value, whereas
`LF.Sorted.mono` compares the raw symbols.

* `isSA_lfSorted`        `IsSA t sa → LF.Sorted t sa a`   (stands in `Model/LFMulti.lean`, beside `lfSorted_of_key`, which it instantiates)
* `lfSorted_sortedAllB`  converse of `LF.sortedAllB_sound`: the Boolean test accepts every array that is `LF.Sorted`
                         for all non-sentinel symbols
* `checkSA_sortedAllB`   C03's acceptance function implies C05's
-/
namespace RbV.SortedBridge
open RbV RbV.LF

theorem nextRow_spec {t sa : List Nat} (hp : sa.Perm (List.range t.length)) (i : Nat)
    (hlt : sa.getD i 0 + 1 < t.length) :
    nextRow sa i < sa.length ∧ sa.getD (nextRow sa i) 0 = sa.getD i 0 + 1 :=
  ⟨PermPos.rank_lt hp _ hlt, PermPos.getD_rank hp _ hlt⟩

/-- **completeness of `sortedAllB`** (converse of `LF.sortedAllB_sound`) -/
theorem lfSorted_sortedAllB (t sa : List Nat)
    (h : ∀ a, t.getD (t.length - 1) 0 ≠ a → LF.Sorted t sa a) : LF.sortedAllB t sa = true := by
  have h0 := h (t.getD (t.length - 1) 0 + 1) (by omega)
  have hp := h0.perm
  simp only [sortedAllB, Bool.and_eq_true, List.all_eq_true, List.mem_range]
  refine ⟨List.isPerm_iff.mpr hp, ?_⟩
  intro m hm
  have hm1 : m + 1 < sa.length := Nat.add_lt_of_lt_sub hm
  have hm0 : m < sa.length := Nat.lt_of_succ_lt hm1
  simp only [adjOk, Bool.and_eq_true, Bool.or_eq_true, decide_eq_true_eq, bne_iff_ne, beq_iff_eq, firstSym]
  refine ⟨decide_eq_true (h0.mono m (m + 1) (Nat.lt_succ_self m) hm1), ?_⟩
  by_cases hne' : t.getD (sa.getD m 0) 0 = t.getD (sa.getD (m + 1) 0) 0
  · by_cases hl : t.getD (sa.getD m 0) 0 = t.getD (t.length - 1) 0
    · exact Or.inl (Or.inr hl)
    · right
      have hs := h (t.getD (sa.getD m 0) 0) (Ne.symm hl)
      obtain ⟨r1, e1⟩ := nextRow_spec hp m (succ_lt hs _ (PermPos.getD_lt hp m hm0) rfl)
      obtain ⟨r2, e2⟩ := nextRow_spec hp (m + 1) (succ_lt hs _ (PermPos.getD_lt hp (m + 1) hm1) hne'.symm)
      exact hs.step m (m + 1) _ _ (Nat.lt_succ_self m) hm1 r1 r2 rfl hne'.symm e1 e2
  · exact Or.inl (Or.inl hne')

/-- **every array accepted by C03's `checkSA` passes C05's `sortedAllB`**, on texts whose sentinel is the smallest
symbol -/
theorem checkSA_sortedAllB (t sa : List Nat) (hc : checkSA t sa = true)
    (hmin : ∀ p, p < t.length → sentinelOf t ≤ t.getD p 0) : LF.sortedAllB t sa = true := by
  have hne := checkSA_ne_nil t sa hc
  exact lfSorted_sortedAllB t sa
    (fun a ha => isSA_lfSorted t sa hne (checkSA_isSA t sa hc) hmin a ha)

-- "A$A$" as bytes: accepted by `checkSA`, sentinel `36` is the smallest symbol, hence `sortedAllB`
example : checkSA [65, 36, 65, 36] [3, 1, 2, 0] = true := by decide +kernel
example : ∀ p, p < [65, 36, 65, 36].length → sentinelOf [65, 36, 65, 36] ≤ [65, 36, 65, 36].getD p 0 := by
  decide +kernel
example : LF.sortedAllB [65, 36, 65, 36] [3, 1, 2, 0] = true :=
  checkSA_sortedAllB _ _ (by decide +kernel) (by decide +kernel)
-- … and directly
example : LF.sortedAllB [65, 36, 65, 36] [3, 1, 2, 0] = true := by decide +kernel
-- GATTACA$ ($=0 A=1 C=2 G=3 T=4)
example : LF.sortedAllB [3, 1, 4, 4, 1, 2, 1, 0] [7, 6, 4, 1, 5, 0, 3, 2] = true :=
  checkSA_sortedAllB _ _ (by decide +kernel) (by decide +kernel)
-- `hmin` cannot be dropped: `B$A$` with a sentinel `67` larger than the letters is a suffix array for C03
-- (rows: final `$`, `$A$`, `A$`, `B$A$`), but its first symbols 67,67,65,66 are not non-decreasing
example : checkSA [66, 67, 65, 67] [3, 1, 2, 0] = true := by decide +kernel
example : LF.sortedAllB [66, 67, 65, 67] [3, 1, 2, 0] = false := by decide +kernel

end RbV.SortedBridge
