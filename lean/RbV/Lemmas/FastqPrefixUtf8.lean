import RbV.Lemmas.FastxStream
import RbV.Lemmas.Utf8Lines
import RbV.Lemmas.FastqBlankFirst
/-!
# Truncated streams with non-ASCII text: a cut inside a multi-byte character  (C11)

A prefix of a valid UTF-8 file has valid lines except possibly the last one (`ABL`).  On such input the FASTQ reader
with the UTF-8 check yields the items of the plain list model up to the `read` that meets the bad line, and the
UTF-8 error instead of that last item — so every record it yields is a record of the plain model.  The case without a bad line
is `fqRecordsU_valid` (step [B] of `FastxStream.lean` for FASTQ).  `Agrees T ls`: `T` agrees with the ASCII text functions on every
line (the second half of `AllValid`; not `GenSrcIdxFa.Agrees`, which compares results of the indexed reader).
-/
namespace RbV.Fastx
open RbV.BufLines

/-- all lines but the last are valid UTF-8 -/
def ABL : List Bytes → Prop
  | [] => True
  | [_] => True
  | l :: l' :: r => validUtf8 l = true ∧ ABL (l' :: r)

theorem ABL.tail {l : Bytes} {r : List Bytes} (h : ABL (l :: r)) : ABL r := by
  cases r with
  | nil => trivial
  | cons l' r' => exact h.2

theorem ABL.head_valid {l : Bytes} {r : List Bytes} (h : ABL (l :: r)) (hr : r ≠ []) : validUtf8 l = true := by
  cases r with
  | nil => exact absurd rfl hr
  | cons l' r' => exact h.1

theorem ABL.suffix {pre s : List Bytes} (h : ABL (pre ++ s)) : ABL s := by
  induction pre with
  | nil => exact h
  | cons p pre ih => exact ih (ABL.tail h)

theorem ABL.of_allValid {ls : List Bytes} (h : ∀ l ∈ ls, validUtf8 l = true) : ABL ls := by
  induction ls with
  | nil => trivial
  | cons l r ih =>
    cases r with
    | nil => trivial
    | cons l' r' => exact ⟨h l (by simp), ih fun x hx => h x (List.mem_cons_of_mem _ hx)⟩

theorem ABL.eq_nil_of_invalid {l : Bytes} {r : List Bytes} (h : ABL (l :: r)) (hl : ¬ validUtf8 l = true) : r = [] := by
  cases r with
  | nil => rfl
  | cons l' r' => exact absurd h.1 hl

theorem ABL.of_suffix {s ls : List Bytes} (h : s <:+ ls) (hv : ABL ls) : ABL s := by
  obtain ⟨pre, rfl⟩ := h; exact hv.suffix

theorem ABL.cons {l : Bytes} {r : List Bytes} (hl : validUtf8 l = true) (h : ABL r) : ABL (l :: r) := by
  cases r with
  | nil => trivial
  | cons l' r' => exact ⟨hl, h⟩

/-! ## the `…U` functions on lines that are valid except possibly the last -/

variable {T : Txt}

/-- `T` agrees with the ASCII text functions on every line -/
def Agrees (T : Txt) (ls : List Bytes) : Prop := ∀ l ∈ ls, T.AgreesOn l

theorem Agrees.tail {l : Bytes} {ls : List Bytes} (h : Agrees T (l :: ls)) : Agrees T ls :=
  fun x hx => h x (List.mem_cons_of_mem _ hx)

theorem Agrees.suffix {pre s : List Bytes} (h : Agrees T (pre ++ s)) : Agrees T s :=
  fun x hx => h x (List.mem_append_right _ hx)

theorem Agrees.of_suffix {s ls : List Bytes} (h : s <:+ ls) (ha : Agrees T ls) : Agrees T s :=
  fun x hx => ha x (h.subset hx)

/-- some line is not valid UTF-8 -/
def Bad (ls : List Bytes) : Prop := ∃ l ∈ ls, validUtf8 l = false

theorem Bad.cons {l : Bytes} {ls : List Bytes} (h : Bad ls) : Bad (l :: ls) :=
  h.imp fun _ h => ⟨List.mem_cons_of_mem _ h.1, h.2⟩

theorem Bad.of_suffix {s ls : List Bytes} (hs : s <:+ ls) (h : Bad s) : Bad ls :=
  h.imp fun _ h => ⟨hs.subset h.1, h.2⟩

theorem fqSeqU_abl (ls : List Bytes) (hv : ABL ls) (ha : Agrees T ls) :
    fqSeqU T ls = .ok (fqSeq ls) ∨ (fqSeqU T ls = .error [] ∧ (fqSeq ls).2.2.tail = [] ∧ Bad ls) := by
  induction ls with
  | nil => left; rfl
  | cons l ls ih =>
    by_cases hl : validUtf8 l = true
    · unfold fqSeqU fqSeq
      simp only [hl, Bool.not_true, Bool.false_eq_true, if_false]
      split
      · left; rfl
      · rcases ih hv.tail ha.tail with h | ⟨h, h', hb⟩
        · left; rw [h, (ha l (by simp)).1]
        · right; rw [h]; exact ⟨rfl, h', hb.cons⟩
    · obtain rfl := hv.eq_nil_of_invalid hl
      right
      have hl' : validUtf8 l = false := by simpa using hl
      refine ⟨by simp [fqSeqU, hl'], ?_, l, List.mem_singleton_self l, hl'⟩
      unfold fqSeq
      split <;> simp [fqSeq]

theorem fqQualU_abl (n : Nat) (ls : List Bytes) (hv : ABL ls) (ha : Agrees T ls) :
    fqQualU T n ls = .ok (fqQual n ls) ∨ (fqQualU T n ls = .error [] ∧ (fqQual n ls).2 = [] ∧ Bad ls) := by
  induction n generalizing ls with
  | zero => left; rfl
  | succ n ih =>
    cases ls with
    | nil => simpa [fqQualU, fqQual] using ih [] hv ha
    | cons l ls =>
      by_cases hl : validUtf8 l = true
      · simp only [fqQualU, fqQual, hl, Bool.not_true, Bool.false_eq_true, if_false]
        rcases ih ls hv.tail ha.tail with h | ⟨h, h', hb⟩
        · left; rw [h, (ha l (by simp)).1]
        · right; rw [h]; exact ⟨rfl, h', hb.cons⟩
      · obtain rfl := hv.eq_nil_of_invalid hl
        right
        have hl' : validUtf8 l = false := by simpa using hl
        exact ⟨by simp [fqQualU, hl'], by simp [fqQual, fqQual_nil], l, List.mem_singleton_self l, hl'⟩

/-- one `read`: either it is the `read` of the plain model, or it met the bad last line — then the `read` of the
plain model consumed everything as well -/
theorem fqReadU_abl (l : Bytes) (ls : List Bytes) (hv : ABL (l :: ls)) (ha : Agrees T (l :: ls)) :
    fqReadU T l ls = (.item (fqRead l ls).1, (fqRead l ls).2) ∨
      (fqReadU T l ls = (.utf8, []) ∧ (fqRead l ls).2 = [] ∧ Bad (l :: ls)) := by
  by_cases hl : validUtf8 l = true
  · have hsuf : (fqSeq ls).2.2.tail <:+ ls := (List.tail_suffix _).trans (fqSeq_suffix ls)
    have hvt := ABL.of_suffix hsuf hv.tail
    have hat := Agrees.of_suffix hsuf ha.tail
    unfold fqReadU fqRead
    simp only [hl, Bool.not_true, Bool.false_eq_true, if_false]
    split
    · left; rfl
    · rcases fqSeqU_abl ls hv.tail ha.tail with h | ⟨h, h', hb⟩
      · rw [h]
        simp only
        rcases fqQualU_abl (fqSeq ls).2.1 (fqSeq ls).2.2.tail hvt hat with hq | ⟨hq, hq', hb⟩
        · rw [hq]
          simp only [(ha l (by simp)).2.2]
          left
          split <;> rfl
        · rw [hq]; right
          refine ⟨rfl, ?_, (hb.of_suffix hsuf).cons⟩
          split <;> exact hq'
      · rw [h]; right
        refine ⟨rfl, ?_, hb.cons⟩
        rw [h']
        split <;> exact fqQual_nil _
  · obtain rfl := hv.eq_nil_of_invalid hl
    right
    have hl' : validUtf8 l = false := by simpa using hl
    refine ⟨by simp [fqReadU, hl'], ?_, l, List.mem_singleton_self l, hl'⟩
    have := fqRead_length_le l []
    exact List.length_eq_zero_iff.mp (by simpa using this)

/-- **the reader with the UTF-8 check on lines that are valid except possibly the last**: the items of the plain list
model, or those items with the last one replaced by the UTF-8 error -/
theorem fqRecordsU_abl (ls : List Bytes) (hv : ABL ls) (ha : Agrees T ls) :
    fqRecordsU T ls = (fqRecords ls).map .item ∨
      ∃ pre last, fqRecords ls = pre ++ [last] ∧ fqRecordsU T ls = pre.map .item ++ [.utf8] ∧ Bad ls := by
  fun_induction fqRecords ls with
  | case1 => left; simp [fqRecordsU]
  | case2 l ls ih =>
    rw [fqRecordsU_cons]
    rcases fqReadU_abl l ls hv ha with h | ⟨h, h', hb⟩
    · rw [h]
      have hp := fqRead_suffix l ls
      rcases ih (ABL.of_suffix hp hv.tail) (Agrees.of_suffix hp ha.tail) with h2 | ⟨p, last, h2, h3, hb⟩
      · left; simp [h2]
      · right
        exact ⟨(fqRead l ls).1 :: p, last, by simp [h2], by simp [h3], (hb.of_suffix hp).cons⟩
    · right
      refine ⟨[], (fqRead l ls).1, ?_, ?_, hb⟩
      · rw [h']; simp [fqRecords]
      · rw [h]; simp [fqRecordsU]

/-- no bad line at all: the plain list model -/
theorem fqRecordsU_valid (ls : List Bytes) (h : AllValid T ls) : fqRecordsU T ls = (fqRecords ls).map .item := by
  rcases fqRecordsU_abl ls (ABL.of_allValid fun l hl => (h l hl).1) (fun l hl => (h l hl).2) with e | ⟨_, _, _, _, l, hl, hb⟩
  · exact e
  · rw [(h l hl).1] at hb; cases hb

/-- every item (record or format error) of the reader with the UTF-8 check is an item of the plain list model -/
theorem fqRecordsU_abl_mem (ls : List Bytes) (hv : ABL ls) (ha : Agrees T ls) (x : FqItem)
    (hx : SItem.item x ∈ fqRecordsU T ls) : x ∈ fqRecords ls := by
  rcases fqRecordsU_abl ls hv ha with h | ⟨pre, last, h1, h2, _⟩
  · rw [h] at hx
    obtain ⟨y, hy, hxy⟩ := List.mem_map.mp hx
    cases hxy
    exact hy
  · rw [h2] at hx
    rw [h1]
    rcases List.mem_append.mp hx with hx' | hx'
    · obtain ⟨y, hy, hxy⟩ := List.mem_map.mp hx'
      cases hxy
      exact List.mem_append_left _ hy
    · simp at hx'

theorem abl_single_or_nil (l : Bytes) : ABL (if l = [] then [] else [l]) := by
  split <;> trivial

theorem ABL.append_last {ls : List Bytes} (h : ∀ l ∈ ls, validUtf8 l = true) (p : Bytes) :
    ABL (ls ++ if p = [] then [] else [p]) := by
  induction ls with
  | nil => exact abl_single_or_nil p
  | cons l r ih => exact ABL.cons (h l (by simp)) (ih fun x hx => h x (List.mem_cons_of_mem _ hx))

/-- **a prefix of a valid UTF-8 file has valid lines, except possibly the last** (the cut may fall inside a
multi-byte character): by `splitLines_take`, all but the last are lines of the file -/
theorem abl_splitLines_take (f : Bytes) (hv : validUtf8 f = true) (n : Nat) : ABL (splitLines (f.take n)) := by
  obtain ⟨ls, p, e, h1, -⟩ := splitLines_take f n
  rw [e]
  exact ABL.append_last (fun l hl => allValid_splitLines f hv l (h1 l hl)) p

end RbV.Fastx
