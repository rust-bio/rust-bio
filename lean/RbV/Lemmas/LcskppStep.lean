import RbV.Lemmas.LcskppSweep
/-! C19 — `lcskpp` mirror model: what one pass through the loop body does (start event: Fenwick query = best dominated
finished match; end event: diagonal lookup, publication), and that it keeps the sweep invariant.  Core Lean only. -/
namespace RbV.Lemmas.Lcskpp
open RbV.KChain RbV.Model.Lcskpp RbV.QGram RbV.Model.Fenwick RbV.Lemmas.Fenwick

theorem stepEv_start (ms : List M) (k : Nat) (s : St) (p : Nat) (hp : p < ms.length) (hl : s.dp.length = 2 * ms.length) :
    stepEv ms k s (startEv ms p) =
      if 0 < (Model.Fenwick.get maxNN (0, 0) s.tree (mAt ms p).2).1 then
        { tree := s.tree
          dp := s.dp.set p (k + (Model.Fenwick.get maxNN (0, 0) s.tree (mAt ms p).2).1,
                            ((Model.Fenwick.get maxNN (0, 0) s.tree (mAt ms p).2).2 : Int))
          best := maxNI s.best (k + (Model.Fenwick.get maxNN (0, 0) s.tree (mAt ms p).2).1, (p : Int)) }
      else { tree := s.tree, dp := s.dp.set p (k, -1), best := s.best } := by
  have hmod : (p + ms.length) % ms.length = p := by rw [Nat.add_mod_right, Nat.mod_eq_of_lt hp]
  have hge : p + ms.length ≥ ms.length := by omega
  have hlt : p < s.dp.length := by omega
  unfold stepEv
  simp only [startEv, hmod, hge, if_true, List.set_set, getD_set _ _ _ _ _ hlt, gt_iff_lt]

/-- the diagonal-continuation lookup of an end event -/
def contLookup (ms : List M) (k p : Nat) : Option Nat :=
  if (mAt ms p).1 + k > k && (mAt ms p).2 + k > k then
    findFrom ((mAt ms p).1 + k - k - 1, (mAt ms p).2 + k - k - 1) 0 ms
  else none

theorem contLookup_some {ms : List M} {k p c : Nat} (h : contLookup ms k p = some c) :
    c < ms.length ∧ cont (mAt ms c) (mAt ms p) = true := by
  unfold contLookup at h
  split at h
  · next hc =>
    simp only [Bool.and_eq_true, decide_eq_true_eq] at hc
    obtain ⟨j, hj, hcj, hm⟩ := findFrom_some h
    have : c = j := by omega
    subst this
    refine ⟨hj, ?_⟩
    simp only [cont, hm, Bool.and_eq_true, beq_iff_eq]; omega
  · cases h

theorem contLookup_none {ms : List M} {k p : Nat} (h : contLookup ms k p = none) (r : Nat) (hr : r < ms.length) :
    cont (mAt ms r) (mAt ms p) = false := by
  rw [Bool.eq_false_iff]; intro hc
  simp only [cont, Bool.and_eq_true, beq_iff_eq] at hc
  unfold contLookup at h
  split at h
  · have := findFrom_none h
    apply this
    have e : ((mAt ms p).1 + k - k - 1, (mAt ms p).2 + k - k - 1) = mAt ms r := by
      apply Prod.ext <;> simp only <;> omega
    rw [e]; exact mAt_mem hr
  · next hcond =>
    apply hcond
    simp only [Bool.and_eq_true, decide_eq_true_eq]; omega

theorem stepEv_end_some (ms : List M) (k : Nat) (s : St) (p c : Nat) (hp : p < ms.length)
    (hl : s.dp.length = 2 * ms.length) (h : contLookup ms k p = some c) :
    stepEv ms k s (endEv ms k p) =
      { tree := Model.Fenwick.set maxNN (0, 0) s.tree ((mAt ms p).2 + k)
                  ((maxNI (cellAt s p) ((cellAt s c).1 + 1, (c : Int))).1, p)
        dp := s.dp.set p (maxNI (cellAt s p) ((cellAt s c).1 + 1, (c : Int)))
        best := maxNI s.best ((maxNI (cellAt s p) ((cellAt s c).1 + 1, (c : Int))).1, (p : Int)) } := by
  have hmod : p % ms.length = p := Nat.mod_eq_of_lt hp
  have hge : ¬ (p ≥ ms.length) := by omega
  have hlt : p < s.dp.length := by omega
  unfold contLookup at h
  unfold stepEv cellAt
  dsimp only [endEv]
  simp only [hmod, hge, if_false]
  split at h
  · next hc =>
    split
    · simp only [h, getD_set _ _ _ _ _ hlt, if_true]
    · next hg => exact absurd hc hg
  · cases h

theorem stepEv_end_none (ms : List M) (k : Nat) (s : St) (p : Nat) (hp : p < ms.length)
    (h : contLookup ms k p = none) :
    stepEv ms k s (endEv ms k p) =
      { s with tree := Model.Fenwick.set maxNN (0, 0) s.tree ((mAt ms p).2 + k) ((cellAt s p).1, p) } := by
  have hmod : p % ms.length = p := Nat.mod_eq_of_lt hp
  have hge : ¬ (p ≥ ms.length) := by omega
  unfold contLookup at h
  unfold stepEv cellAt
  dsimp only [endEv]
  simp only [hmod, hge, if_false]
  split at h
  · next hc =>
    split
    · simp only [h]
    · rfl
  · next hc =>
    split
    · next hg => exact absurd hg hc
    · rfl

/-- **the Fenwick query of a start event returns the best finished match that ends at or before the start in both
coordinates** (processing order + prefix-max semantics): its score is `A` — the maximum of the final scores over the
dominated matches — and, when positive, it names such a match, already finished -/
theorem query_spec {ms : List M} {k : Nat} {done : List Ev} {s : St} {p : Nat} (hk : 0 < k) (hs : ms.Pairwise lexLt)
    (hI : Inv ms k done s) (hp : p < ms.length)
    (hev : Pos ms k done (startEv ms p)) :
    (Model.Fenwick.get maxNN (0, 0) s.tree (mAt ms p).2).1 = A ms k p ∧
    (0 < (Model.Fenwick.get maxNN (0, 0) s.tree (mAt ms p).2).1 →
      ∃ q, q < ms.length ∧ (Model.Fenwick.get maxNN (0, 0) s.tree (mAt ms p).2).2 = q ∧ endEv ms k q ∈ done ∧
        nonov k (mAt ms q) (mAt ms p) = true ∧ (Model.Fenwick.get maxNN (0, 0) s.tree (mAt ms p).2).1 = F ms k q) := by
  obtain ⟨ups, ht, hm⟩ := hI.tree
  have hy : (mAt ms p).2 < nFrom k 0 ms := by
    have := (nFrom_ge k ms 0 (mAt ms p) (mAt_mem hp)).2
    omega
  rw [ht, get_run_max _ ups _ hy]
  obtain ⟨hub, hat⟩ := agg_max_spec (fun q => decide (q ≤ (mAt ms p).2)) ups
  generalize agg maxNN (0, 0) (fun q => decide (q ≤ (mAt ms p).2)) ups = b at hub hat
  have hdom : ∀ q, endEv ms k q ∈ done → (mAt ms q).2 + k ≤ (mAt ms p).2 → nonov k (mAt ms q) (mAt ms p) = true := by
    intro q hin hle
    have := hev.ended_before hin
    simp only [nonov, Bool.and_eq_true, decide_eq_true_eq]
    omega
  constructor
  · symm
    apply A_eq hs
    · intro r hr hn
      have hu : ((mAt ms r).2 + k, (F ms k r, r)) ∈ ups := (hm _).mpr ⟨r, hr, hev.nonov_ended hr hn, rfl⟩
      have := hub _ hu (by
        simp only [nonov, Bool.and_eq_true, decide_eq_true_eq] at hn
        simp only [decide_eq_true_eq]; omega)
      unfold leNN at this; simp only at this; omega
    · rcases hat with h | ⟨u, hu, hP, hub'⟩
      · left; rw [h]
      · right
        obtain ⟨q, hq, hin, rfl⟩ := (hm u).mp hu
        simp only [decide_eq_true_eq] at hP
        exact ⟨q, hq, hdom q hin hP, by rw [← hub']⟩
  · intro hpos
    rcases hat with h | ⟨u, hu, hP, hub'⟩
    · rw [h] at hpos; simp at hpos
    · obtain ⟨q, hq, hin, rfl⟩ := (hm u).mp hu
      simp only [decide_eq_true_eq] at hP
      exact ⟨q, hq, by rw [← hub'], hin, hdom q hin hP, by rw [← hub']⟩

theorem inv_step_start {ms : List M} {k : Nat} {done : List Ev} {s : St} {p : Nat} (hk : 0 < k) (hs : ms.Pairwise lexLt)
    (hI : Inv ms k done s) (hp : p < ms.length) (hev : Pos ms k done (startEv ms p)) :
    Inv ms k (done ++ [startEv ms p]) (stepEv ms k s (startEv ms p)) := by
  have hend := hev.end_pending hk
  have hlt : p < s.dp.length := by rw [hI.len_dp]; omega
  obtain ⟨hq1, hq2⟩ := query_spec hk hs hI hp hev
  rw [stepEv_start ms k s p hp hI.len_dp]
  generalize Model.Fenwick.get maxNN (0, 0) s.tree (mAt ms p).2 = b at hq1 hq2
  by_cases hpos : 0 < b.1
  · rw [if_pos hpos]
    obtain ⟨q, hq, hb2, hin, hn, hbF⟩ := hq2 hpos
    apply inv_start_close hI hp hev.fresh hend
    · simp [List.length_set, hI.len_dp]
    · intro q' hne; rw [cellAt_set_ne hne]
    · rw [cellAt_set_self hlt]; simp only; rw [hq1]
    · rw [cellAt_set_self hlt]
      right
      refine ⟨q, hq, by simp only; rw [hb2], hin, (link_iff k _ _).mp (by simp only [link, hn, Bool.true_or]), ?_⟩
      simp only; rw [step_of_nonov hn, hbF]
    · rfl
    · right; rw [cellAt_set_self hlt]
  · rw [if_neg hpos]
    apply inv_start_close hI hp hev.fresh hend
    · simp [List.length_set, hI.len_dp]
    · intro q' hne; rw [cellAt_set_ne hne]
    · rw [cellAt_set_self hlt]; simp only; omega
    · rw [cellAt_set_self hlt]; left; exact ⟨rfl, rfl⟩
    · rfl
    · left; rw [cellAt_set_self hlt]; exact ⟨rfl, rfl⟩

/-- the diagonal predecessor `c` of `p` ended strictly before the end event of `p`: it is among the processed events -/
theorem cont_end_done {ms : List M} {k p c : Nat} {done : List Ev} (hlook : contLookup ms k p = some c)
    (hev : Pos ms k done (endEv ms k p)) : endEv ms k c ∈ done := by
  obtain ⟨hc, hcont⟩ := contLookup_some hlook
  apply hev.complete _ ((mem_sortedEvents ms k _).mpr ⟨c, hc, Or.inr rfl⟩)
  rw [Bool.eq_false_iff, Ne, evLe_iff]
  simp only [endEv, cont, Bool.and_eq_true, beq_iff_eq] at hcont ⊢
  omega

theorem inv_step_end {ms : List M} {k : Nat} {done : List Ev} {s : St} {p : Nat} (hk : 0 < k) (hs : ms.Pairwise lexLt)
    (hI : Inv ms k done s) (hp : p < ms.length) (hev : Pos ms k done (endEv ms k p)) :
    Inv ms k (done ++ [endEv ms k p]) (stepEv ms k s (endEv ms k p)) := by
  have hst := hev.started hk hp
  have hlt : p < s.dp.length := by rw [hI.len_dp]; omega
  have hcell : (cellAt s p).1 = k + A ms k p := hI.started p hp hst hev.fresh
  cases hlook : contLookup ms k p with
  | none =>
    rw [stepEv_end_none ms k s p hp hlook]
    have hBc : Bc ms k p = 0 := Bc_eq hs (by
      intro r hr hc; rw [contLookup_none hlook r hr] at hc; cases hc) (Or.inl rfl)
    have hF : F ms k p = (cellAt s p).1 := by rw [F_rec hk hs hp, hBc, hcell]; omega
    apply inv_end_close hI hp hst
    · exact hI.len_dp
    · intro q _; rfl
    · exact hF.symm
    · exact hI.ptr p hp hst
    · rw [hF]
    · left; exact ⟨rfl, rfl⟩
    · exact Nat.le_refl _
  | some c =>
    rw [stepEv_end_some ms k s p c hp hI.len_dp hlook]
    obtain ⟨hc, hcont⟩ := contLookup_some hlook
    have hcend := cont_end_done hlook hev
    have hFc : (cellAt s c).1 = F ms k c := hI.ended c hc hcend
    have hBc : Bc ms k p = F ms k c + 1 := Bc_eq hs (by
      intro r hr hrc
      have : mAt ms r = mAt ms c := by
        simp only [cont, Bool.and_eq_true, beq_iff_eq] at hrc hcont
        apply Prod.ext <;> omega
      rw [mAt_inj hs hr hc this]; exact Nat.le_refl _) (Or.inr ⟨c, hc, hcont, rfl⟩)
    rw [hFc]
    have hnew1 : (maxNI (cellAt s p) (F ms k c + 1, (c : Int))).1 = F ms k p := by
      rw [maxNI_fst, F_rec hk hs hp, hBc, hcell]
    apply inv_end_close hI hp hst
    · simp [List.length_set, hI.len_dp]
    · intro q' hne; rw [cellAt_set_ne hne]
    · rw [cellAt_set_self hlt]; exact hnew1
    · rw [cellAt_set_self hlt]
      rcases maxNI_cases (cellAt s p) (F ms k c + 1, (c : Int)) with h | h
      · rw [h]; exact hI.ptr p hp hst
      · rw [h]; right
        refine ⟨c, hc, rfl, hcend, ?_, ?_⟩
        · left
          simp only [cont, Bool.and_eq_true, beq_iff_eq] at hcont
          omega
        · simp only; rw [step_of_cont hk hcont]; omega
    · rw [hnew1]
    · right; rw [cellAt_set_self hlt]
    · rw [cellAt_set_self hlt, maxNI_fst]; omega

end RbV.Lemmas.Lcskpp
