import RbV.Lemmas.FillTbCols
/-!
End of the traceback proof: the functional mirror of the whole of `Aligner::custom` (`PairwiseFill.custom`: fill,
post-loops, traceback loop) terminates within its fuel and reports an alignment that the acceptance function of the
property accepts — real alignment of the reported sub-ranges, clip representation rule, recomputed score (clip penalties
included) equal to the reported score, reported score optimal.

The code the traceback starts from is good for the reported score (`corner_good`, from `claim_good`), so the traceback
yields an alignment whose value is *at least* the score (a path through a clip may re-open a gap that the alignment merely
extends).  That alignment is at most the optimum, and the score dominates every alignment (`score_complete`): the score is
the optimum (`fill_score_eq_opt_aux`) and equals the value of the reported alignment (`custom_accept_aux`).
-/
namespace RbV.Model.PairwiseFill
open RbV.Align

section
variable {sc : Sc} {cl : Clip} {x y : List Nat}

theorem fill_score_P2 : (fill sc cl x y).score = (P2 sc cl x y x.length).xm := fill_score sc cl x y

/-- a start register initialised with 0 and written when the clip is non-empty holds the start -/
theorem ite_pos_self (n : Nat) : (if 0 < n then n else 0) = n := by split <;> omega

/-- an end register initialised with the length and written when the clip is non-empty holds the end -/
theorem ite_lt_self {a m : Nat} (h : a ≤ m) : (if a < m then a else m) = a := by split <;> omega

/-- the code the traceback starts from is good for the reported score -/
theorem corner_good (H : SaneHyp sc cl x y) :
    GoodF sc cl x y x.length y.length ((finalT sc cl x y).tS x.length y.length) (fill sc cl x y).score := by
  rw [table_tS_n, fill_score_P2, ← (P2_last sc cl x y H.xs).2]
  exact claim_good H _ _ _ _ _ (Nat.lt_succ_self _) (.fin (Nat.le_refl _) (Int.le_refl _))

/-- **the refinement theorem** (auxiliary form with the side conditions bundled in `SaneHyp`): the score dominates
every alignment (`score_complete`), and it is the value of one, the alignment the traceback reports -/
theorem fill_score_eq_opt_aux (H : SaneHyp sc cl x y) : (fill sc cl x y).score = opt sc cl x y := by
  obtain ⟨⟨a, ⟨h1, h2, h3, h4, _⟩, ⟨c, hc, he⟩⟩, hmax⟩ := opt_optimal sc cl x y
  have hge := score_complete H.ge H.xs a.xs a.xe a.ys a.ye a.ops c h1 h2 h3 h4 hc
  obtain ⟨a', c', ha', hac', hv⟩ := wit_corner (corner_good H).wit
  have hle := hmax a' c' ha' hac'
  omega

/-- **the model of the whole function is accepted** (auxiliary form, side conditions bundled in `SaneHyp`) -/
theorem custom_accept_aux (H : SaneHyp sc cl x y) :
    ∃ o, custom sc cl x y = some o ∧ accept sc cl false x y o = true := by
  have hopt := fill_score_eq_opt_aux H
  obtain ⟨k, st', hk, hrun, P, xs, xe, ys, ye, r⟩ := corner_good H [] 0 0 x.length y.length
  have hloop := run_tbLoop hrun (2 * (x.length + y.length) + 16) (by omega)
  obtain ⟨h1, h2, _, h4, h5, _⟩ := witAt_bounds r.wit
  obtain ⟨c, hscore, hle⟩ := r.wit.score
  have hops' : st'.ops = P := by simpa using r.ops
  have e1 : st'.xstart = xs := by rw [r.xstart]; exact ite_pos_self xs
  have e2 : st'.ystart = ys := by rw [r.ystart]; exact ite_pos_self ys
  have e3 : st'.xend = xe := by rw [r.xend]; exact ite_lt_self h2
  have e4 : st'.yend = ye := by rw [r.yend]; exact ite_lt_self h5
  refine ⟨⟨(fill sc cl x y).score, xs, xe, ys, ye, x.length, y.length, P⟩, ?_, ?_⟩
  · -- the run
    have hT : (fill sc cl x y).table x.length y.length = finalT sc cl x y := rfl
    simp only [custom, hT, hloop, e1, e2, e3, e4, hops']
  · rw [accept_iff]
    have hval : valid (slice x xs xe) (slice y ys ye) (coreOps P) = true :=
      (valid_iff_score sc .none _ _ _).mpr ⟨c, hscore⟩
    have haln : IsAln x y (Out.toAln ⟨(fill sc cl x y).score, xs, xe, ys, ye, x.length, y.length, P⟩) :=
      ⟨h1, h2, h4, h5, hval⟩
    have hcp := clipPen_eq_pre cl x.length y.length xs xe ys ye
    have hub : c + clipPen cl x.length y.length xs xe ys ye ≤ opt sc cl x y :=
      valid_le_opt sc cl x y ⟨xs, xe, ys, ye, coreOps P⟩ _ haln ⟨c, hscore, rfl⟩
    refine ⟨haln, ⟨rfl, rfl, ?_⟩, ⟨c, hscore, ?_⟩, ?_⟩
    · simp only [if_false, Bool.false_eq_true]
      exact ⟨r.xclip, r.yclip⟩
    · show (fill sc cl x y).score = c + clipPen cl x.length y.length xs xe ys ye
      omega
    · show Optimal sc cl x y (fill sc cl x y).score
      rw [hopt]; exact opt_optimal sc cl x y

end

end RbV.Model.PairwiseFill
