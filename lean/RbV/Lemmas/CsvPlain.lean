import RbV.Lemmas.Tsv
/-! On bytes without `"` and CR the csv automaton reads plain lines: `rows = rowsPlain` (C13). Core Lean only. -/
namespace RbV.Tsv

/-! ## a plain line is a comment, a blank line, or the written form of its TAB-separated fields -/

/-- a data line: not empty, not a comment (the filter of `dataLines`, `Model/Tsv.lean`, by name) -/
def isDataLine (l : List Nat) : Bool := !(l.isEmpty || l.head? == some HASH)

def itemOf (l : List Nat) : Item :=
  if l.isEmpty then .blank else if l.head? == some HASH then .comment l.tail else .record l

theorem itemOf_line (l : List Nat) : (itemOf l).line = l := by
  unfold itemOf
  rcases l with _ | ⟨c, t⟩
  · rfl
  · by_cases h : c = HASH <;> simp [Item.line, h]

theorem itemOf_rec (l : List Nat) : (itemOf l).rec? = if isDataLine l then some l else none := by
  unfold itemOf isDataLine
  cases l.isEmpty <;> cases l.head? == some HASH <;> rfl

/-- nothing to quote: the fields of a line without `"`, CR, LF are written as the line -/
theorem recordBody_splitOn (l : List Nat) (hq : QUOTE ∉ l) (hcr : CR ∉ l) (hlf : LF ∉ l) (hne : l ≠ []) :
    recordBody (splitOn TAB l) = l := by
  have hid : (splitOn TAB l).map quoteField = splitOn TAB l := by
    conv => rhs; rw [← List.map_id (splitOn TAB l)]
    refine List.map_congr_left fun f hf => ?_
    obtain ⟨ht, hsub⟩ := splitOn_pieces TAB l f hf
    have : f.any needsQuote = false := by
      rw [List.any_eq_false]
      intro c hc hn
      simp only [needsQuote, Bool.or_eq_true, beq_iff_eq] at hn
      have := hsub c hc
      rcases hn with ((rfl | rfl) | rfl) | rfl
      · exact ht hc
      · exact hq this
      · exact hcr this
      · exact hlf this
    simp [quoteField, this]
  simp [recordBody, hid, join_splitOn, hne]

theorem hashStart_splitOn (l : List Nat) (h : (l.head? == some HASH) = false) : hashStart (splitOn TAB l) = false := by
  rcases l with _ | ⟨c, t⟩
  · rfl
  · by_cases hc : c = TAB
    · simp [splitOn, hc, hashStart]
    · have hh : c ≠ HASH := by simpa using h
      rw [splitOn_cons_ne TAB c t hc]
      cases splitOn TAB t <;> simp [consFirst, hashStart, hh]

/-- on bytes without `"` and CR the csv reader gives the non-empty, non-comment lines split at TAB: the bytes are a file
of comment lines, blank lines and written records (`run_items`) -/
theorem rows_plain (bytes : List Nat) (hq : QUOTE ∉ bytes) (hcr : CR ∉ bytes) : rows bytes = rowsPlain bytes := by
  have hp := splitOn_pieces LF bytes
  have hfile : ∀ ls : List (List Nat), ls ≠ [] → fileOf (ls.map itemOf) = join LF ls ++ [LF] := by
    intro ls
    induction ls with
    | nil => intro h; exact absurd rfl h
    | cons l r ih =>
      intro _
      cases r with
      | nil => simp [fileOf, render, join, itemOf_line]
      | cons m r =>
        have := ih (by simp)
        simp only [fileOf, List.map_cons, render, join, itemOf_line, List.append_assoc, List.cons_append] at this ⊢
        rw [this]
  have hgood : ∀ l ∈ (splitOn LF bytes).filter isDataLine, recordBody (splitOn TAB l) = l ∧ hashStart (splitOn TAB l) = false := by
    intro l hl
    obtain ⟨hl, hg⟩ := List.mem_filter.mp hl
    simp only [isDataLine, Bool.not_eq_true', Bool.or_eq_false_iff, List.isEmpty_eq_false_iff] at hg
    exact ⟨recordBody_splitOn l (fun e => hq ((hp l hl).2 _ e)) (fun e => hcr ((hp l hl).2 _ e)) (hp l hl).1 hg.1,
      hashStart_splitOn l hg.2⟩
  have := run_items [] ((splitOn LF bytes).map itemOf) (((splitOn LF bytes).filter isDataLine).map (splitOn TAB)) ?_ ?_ ?_
  · rw [hfile _ (splitOn_ne_nil LF bytes), join_splitOn, List.append_nil] at this
    exact this.trans (List.append_nil _)
  · rw [List.filterMap_map, List.map_map, show Item.rec? ∘ itemOf = _ from funext itemOf_rec]
    refine (congrFun (List.filterMap_eq_filter (p := isDataLine)) _).trans ?_
    conv => lhs; rw [← List.map_id (List.filter _ _)]
    exact List.map_congr_left fun l hl => (hgood l hl).1.symm
  · intro fs hfs
    obtain ⟨l, hl, rfl⟩ := List.mem_map.mp hfs
    exact ⟨splitOn_ne_nil TAB l, (hgood l hl).2⟩
  · intro t ht hlf
    obtain ⟨l, hl, he⟩ := List.mem_map.mp ht
    have : t = l.tail := by
      unfold itemOf at he
      split at he
      · cases he
      · split at he <;> cases he
        rfl
    exact (hp l hl).1 (List.mem_of_mem_tail (this ▸ hlf))

end RbV.Tsv
