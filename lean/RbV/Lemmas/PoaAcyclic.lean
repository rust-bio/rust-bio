import RbV.Basic.GetD
import RbV.Lemmas.PoaGrow
/-!
# The mirror model of `add_alignment` keeps the graph acyclic for rank-respecting operation lists

Hypotheses: the old graph has a rank function `rk` increasing along every edge (i.e. it is acyclic), and the
operation list visits the nodes it names in increasing rank with enough room for the nodes created in
between (`bodyB`; this is what "the traceback walks the graph in topological order" gives when `rk` is a
topological numbering scaled by more than the number of operations).  Conclusion: the new graph again has a
rank function, hence no cycle.  `Ins(None)`/`Match(None)` (query symbols inserted before the head, which then
get an edge *into* the old head) are covered: the inserted chain is ranked from 0 and must stay below the head.
That the tracebacks only emit such lists is proved in `RbV/Lemmas/PoaTraceAll.lean`; the driver additionally
evaluates `bodyB` on every observed operation list of the real code (tag `acyclic-cert`).
-/
namespace RbV.Poa.Model

/-- `R` ranks every node of `g`, agrees with `rk` on the old nodes and increases along every edge -/
structure RankOK (g : G) (R : List Nat) (rk : Nat → Nat) (n0 : Nat) : Prop where
  len : R.length = g.labels.length
  n0le : n0 ≤ R.length
  old : ∀ v, v < n0 → R.getD v 0 = rk v
  edges : ∀ e ∈ g.es, e.1 < R.length ∧ e.2.1 < R.length ∧ R.getD e.1 0 < R.getD e.2.1 0

theorem rankOK_addEdge {g : G} {R : List Nat} {rk : Nat → Nat} {n0 : Nat} (h : RankOK g R rk n0) (u v : Nat)
    (hu : u < R.length) (hv : v < R.length) (hr : R.getD u 0 < R.getD v 0) : RankOK (g.addEdge u v) R rk n0 := by
  refine ⟨by simp [G.addEdge, h.len], h.n0le, h.old, ?_⟩
  intro e he
  simp only [G.addEdge, List.mem_append, List.mem_singleton] at he
  rcases he with he | he
  · exact h.edges e he
  · subst he; exact ⟨hu, hv, hr⟩

theorem rankOK_fresh {g : G} {R : List Nat} {rk : Nat → Nat} {n0 : Nat} (h : RankOK g R rk n0) (c x : Nat) :
    RankOK (g.addNode c).1 (R ++ [x]) rk n0 ∧ (g.addNode c).2 < (R ++ [x]).length ∧
      (R ++ [x]).getD (g.addNode c).2 0 = x := by
  refine ⟨⟨by simp [G.addNode, h.len], by simp; have := h.n0le; omega, ?_, ?_⟩, ?_, ?_⟩
  · intro v hv
    rw [List.getD_append_left R [x] v 0 (by have := h.n0le; omega)]
    exact h.old v hv
  · intro e he
    obtain ⟨h1, h2, h3⟩ := h.edges e he
    refine ⟨by simp; omega, by simp; omega, ?_⟩
    rw [List.getD_append_left R [x] _ 0 h1, List.getD_append_left R [x] _ 0 h2]
    exact h3
  · show g.labels.length < (R ++ [x]).length
    rw [← h.len, List.length_append]; exact Nat.lt_succ_self _
  · show (R ++ [x]).getD g.labels.length 0 = x
    rw [← h.len]; exact List.getD_concat_length R x 0

theorem rankOK_link {g : G} {R : List Nat} {rk : Nat → Nat} {n0 : Nat} (h : RankOK g R rk n0) (c prev : Nat)
    (hp : prev < R.length) :
    RankOK ((g.addNode c).1.addEdge prev (g.addNode c).2) (R ++ [R.getD prev 0 + 1]) rk n0 ∧
      (g.addNode c).2 < (R ++ [R.getD prev 0 + 1]).length ∧
      (R ++ [R.getD prev 0 + 1]).getD (g.addNode c).2 0 = R.getD prev 0 + 1 := by
  obtain ⟨h1, h2, h3⟩ := rankOK_fresh h c (R.getD prev 0 + 1)
  refine ⟨rankOK_addEdge h1 prev _ ?_ h2 ?_, h2, h3⟩
  · rw [List.length_append]; exact Nat.lt_succ_of_lt hp
  · rw [h3, List.getD_append_left R _ _ 0 hp]; exact Nat.lt_succ_self _

theorem rankOK_bump {g : G} {R : List Nat} {rk : Nat → Nat} {n0 : Nat} (h : RankOK g R rk n0) (k : Nat) :
    RankOK { g with es := bumpEdge g.es k } R rk n0 := by
  refine ⟨h.len, h.n0le, h.old, ?_⟩
  intro e he
  rcases bumpEdge_mem g.es k e he with he | ⟨e0, he0, rfl⟩
  · exact h.edges e he
  · exact h.edges e0 he0

theorem addStep_rank (head : Nat) (seq : List Nat) (rk : Nat → Nat) (n0 : Nat) (st : AddSt) (R : List Nat)
    (b : Nat) (nc : Bool) (op : POp) (r : List POp)
    (hR : RankOK st.g R rk n0) (hp : st.prev < R.length) (hb : R.getD st.prev 0 ≤ b)
    (hc : st.notConnected = nc) (hh : head < n0) (hbody : bodyB rk n0 head b nc (op :: r) = true) :
    ∃ R' b' nc', RankOK (addStep head seq st op).g R' rk n0 ∧ (addStep head seq st op).prev < R'.length ∧
      R'.getD (addStep head seq st op).prev 0 ≤ b' ∧ (addStep head seq st op).notConnected = nc' ∧
      bodyB rk n0 head b' nc' r = true := by
  have hhR : head < R.length := by have := hR.n0le; omega
  have hRh : R.getD head 0 = rk head := hR.old head hh
  cases op with
  | m pq =>
    cases pq with
    | none =>
      cases nc with
      | false =>
        simp only [bodyB] at hbody
        by_cases hm : (decide (seq.getD st.i 0 ≠ st.g.labels.getD head 0) && decide (seq.getD st.i 0 ≠ wildcard)) = true
        · obtain ⟨h1, h2, h3⟩ := rankOK_fresh hR (seq.getD st.i 0) 0
          simp only [addStep, hc, hm, if_true, Bool.false_eq_true, if_false]
          exact ⟨R ++ [0], b, false, h1, h2, by rw [h3]; exact Nat.zero_le b, rfl, hbody⟩
        · simp only [addStep, hc, hm, Bool.false_eq_true, if_false]
          exact ⟨R, b, false, hR, hp, hb, rfl, hbody⟩
      | true =>
        simp only [bodyB, Bool.and_eq_true, decide_eq_true_eq] at hbody
        obtain ⟨hbh, hrest⟩ := hbody
        by_cases hm : (decide (seq.getD st.i 0 ≠ st.g.labels.getD head 0) && decide (seq.getD st.i 0 ≠ wildcard)) = true
        · -- mismatch with the head: new node linked from the inserted chain
          obtain ⟨h1, h2, h3⟩ := rankOK_link hR (seq.getD st.i 0) st.prev hp
          simp only [addStep, hc, hm, if_true, Bool.false_eq_true, if_false]
          exact ⟨_, rk head, false, h1, h2, by rw [h3]; omega, rfl, hrest⟩
        · -- match with the head: edge from the inserted chain into the head
          simp only [addStep, hc, hm, if_true, Bool.false_eq_true, if_false]
          exact ⟨R, rk head, false, rankOK_addEdge hR _ _ hp hhR (by rw [hRh]; omega), hhR, Nat.le_of_eq hRh, rfl, hrest⟩
    | some pq =>
      obtain ⟨a, p⟩ := pq
      simp only [bodyB, Bool.and_eq_true, decide_eq_true_eq] at hbody
      obtain ⟨⟨hpn, hbp⟩, hrest⟩ := hbody
      have hpR : p < R.length := by have := hR.n0le; omega
      have hRp : R.getD p 0 = rk p := hR.old p hpn
      by_cases hm : (decide (seq.getD st.i 0 ≠ st.g.labels.getD p 0) && decide (seq.getD st.i 0 ≠ wildcard)) = true
      · -- mismatch: new node ranked just above `prev`
        obtain ⟨h1, h2, h3⟩ := rankOK_link hR (seq.getD st.i 0) st.prev hp
        simp only [addStep, hm, if_true]
        exact ⟨_, rk p, nc, h1, h2, by rw [h3]; omega, hc, hrest⟩
      · simp only [addStep, hm, Bool.false_eq_true, if_false]
        refine ⟨R, rk p, nc, ?_, hpR, Nat.le_of_eq hRp, hc, hrest⟩
        cases findEdge st.g.es st.prev p with
        | some k => exact rankOK_bump hR _
        | none =>
          by_cases hpn : (decide (st.prev ≠ head) && decide (st.prev ≠ p)) = true
          · simp only [hpn, if_true]
            exact rankOK_addEdge hR _ _ hp hpR (by rw [hRp]; omega)
          · simp only [hpn, Bool.false_eq_true, if_false]
            exact hR
  | i p =>
    cases p with
    | none =>
      cases nc with
      | false =>
        simp only [bodyB] at hbody
        simp only [addStep, hc]
        obtain ⟨h1, h2, h3⟩ := rankOK_fresh hR (seq.getD st.i 0) 0
        simp only [Bool.false_eq_true, if_false]
        exact ⟨R ++ [0], 0, true, h1, h2, Nat.le_of_eq h3, rfl, hbody⟩
      | true =>
        simp only [bodyB] at hbody
        simp only [addStep, hc]
        obtain ⟨h1, h2, h3⟩ := rankOK_link hR (seq.getD st.i 0) st.prev hp
        simp only [if_true]
        exact ⟨_, b + 1, true, h1, h2, by rw [h3]; exact Nat.succ_le_succ hb, rfl, hbody⟩
    | some p =>
      simp only [bodyB] at hbody
      simp only [addStep]
      obtain ⟨h1, h2, h3⟩ := rankOK_link hR (seq.getD st.i 0) st.prev hp
      exact ⟨_, b + 1, nc, h1, h2, by rw [h3]; exact Nat.succ_le_succ hb, hc, hbody⟩
  | d pq => exact ⟨R, b, nc, hR, hp, hb, hc, by simpa [bodyB] using hbody⟩
  | x q => exact ⟨R, b, nc, hR, hp, hb, hc, by simpa [bodyB] using hbody⟩
  | y q1 q2 => exact ⟨R, b, nc, hR, hp, hb, hc, by simpa [bodyB] using hbody⟩

theorem foldl_addStep_rank (head : Nat) (seq : List Nat) (rk : Nat → Nat) (n0 : Nat) (hh : head < n0) :
    ∀ (ops : List POp) (st : AddSt) (R : List Nat) (b : Nat) (nc : Bool),
      RankOK st.g R rk n0 → st.prev < R.length → R.getD st.prev 0 ≤ b → st.notConnected = nc →
      bodyB rk n0 head b nc ops = true → ∃ R', RankOK (ops.foldl (addStep head seq) st).g R' rk n0 := by
  intro ops
  induction ops with
  | nil => intro st R b nc hR _ _ _ _; exact ⟨R, hR⟩
  | cons o r ih =>
    intro st R b nc hR hp hb hc hbody
    obtain ⟨R', b', nc', h1, h2, h3, h4, h5⟩ := addStep_rank head seq rk n0 st R b nc o r hR hp hb hc hh hbody
    exact ih _ R' b' nc' h1 h2 h3 h4 h5

theorem acyclic_of_rankOK {g : G} {R : List Nat} {rk : Nat → Nat} {n0 : Nat} (h : RankOK g R rk n0) :
    Acyclic (plain g.es) := by
  apply acyclic_of_rank (fun v => R.getD v 0)
  intro e he
  obtain ⟨w, hw⟩ := (mem_plain g.es e.1 e.2).mp he
  exact (h.edges _ hw).2.2

/-- `addAlignment` along an operation list that names nodes in increasing rank (`bodyB`) yields a graph with a
rank function again (which ranks the old nodes as before) -/
theorem addAlignment_rankOK (g : G) (rk : Nat → Nat) (ops : List POp) (seq : List Nat)
    (hrk : ∀ e ∈ g.es, e.1 < g.labels.length ∧ e.2.1 < g.labels.length ∧ rk e.1 < rk e.2.1)
    (hhead : g.head < g.labels.length) (hbody : bodyB rk g.labels.length g.head (rk g.head) false ops = true) :
    ∃ R, RankOK (addAlignment g ops seq) R rk g.labels.length := by
  unfold addAlignment
  unfold G.head at hhead hbody
  generalize (topo g.labels.length g.es).headD 0 = h at *
  have hR : RankOK g ((List.range g.labels.length).map rk) rk g.labels.length := by
    refine ⟨by simp, by simp, ?_, ?_⟩
    · intro v hv; simp [List.getD_eq_getElem?_getD, hv]
    · intro e he
      obtain ⟨h1, h2, h3⟩ := hrk e he
      refine ⟨by simpa using h1, by simpa using h2, ?_⟩
      simp [List.getD_eq_getElem?_getD, h1, h2, h3]
  have hh : ((List.range g.labels.length).map rk).getD h 0 ≤ rk h := by
    simp [List.getD_eq_getElem?_getD, hhead]
  exact foldl_addStep_rank h seq rk g.labels.length hhead ops
    { g := g, prev := h } _ (rk h) false hR (by simpa using hhead) hh rfl hbody

/-- `addAlignment` keeps the graph acyclic for every operation list that names nodes in increasing rank
(`bodyB`), starting from the rank of the head.  (That the model's traceback only produces such lists is
`traceF_bodyB` in `RbV/Lemmas/PoaTraceAll.lean`; the two are combined in `RbV/Lemmas/PoaHistory.lean`.) -/
theorem addAlignment_acyclic_of_bodyB (g : G) (rk : Nat → Nat) (ops : List POp) (seq : List Nat)
    (hrk : ∀ e ∈ g.es, e.1 < g.labels.length ∧ e.2.1 < g.labels.length ∧ rk e.1 < rk e.2.1)
    (hhead : g.head < g.labels.length) (hbody : bodyB rk g.labels.length g.head (rk g.head) false ops = true) :
    Acyclic (plain (addAlignment g ops seq).es) := by
  obtain ⟨R', hR'⟩ := addAlignment_rankOK g rk ops seq hrk hhead hbody
  exact acyclic_of_rankOK hR'

/-- the certificate the driver evaluates implies acyclicity of the model's result -/
theorem acyclic_of_cert (g : G) (ops : List POp) (seq : List Nat) (h : acyclicCert g ops = true) :
    Acyclic (plain (addAlignment g ops seq).es) := by
  simp only [acyclicCert, Bool.and_eq_true, decide_eq_true_eq, List.all_eq_true] at h
  obtain ⟨⟨hhead, hes⟩, hbody⟩ := h
  exact addAlignment_acyclic_of_bodyB g _ ops seq
    (fun e he => by have := hes e he; simpa [and_assoc] using this) hhead hbody

end RbV.Poa.Model
