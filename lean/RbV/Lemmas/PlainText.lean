import RbV.Lemmas.Utf8Lines
import RbV.Lemmas.UniWs
import RbV.Lemmas.Fastx
/-!
# The writer's output for text records is plain text  (C11)

Records with valid-UTF-8 id / description (without non-ASCII white space) and ASCII sequence / qualities are written
as valid UTF-8 without non-ASCII white space.
-/
namespace RbV.Fastx

theorem PlainText.append {a b : Bytes} (ha : PlainText a) (hb : PlainText b) : PlainText (a ++ b) :=
  ⟨by rw [validUtf8_append a b ha.1]; exact hb.1, fun x hx => by
    rcases List.mem_append.mp hx with h | h
    · exact ha.2 x h
    · exact hb.2 x h⟩

theorem PlainText.ascii {f : Bytes} (h : ∀ b ∈ f, b < 128) : PlainText f :=
  ⟨validUtf8_ascii f h, fun b hb => by
    have := h b hb
    simp only [isUwsLead, Bool.or_eq_false_iff, beq_eq_false_iff_ne]
    omega⟩

theorem PlainText.nil : PlainText [] := PlainText.ascii (by simp)

theorem PlainText.cons_ascii {b : Nat} {f : Bytes} (hb : b < 128) (hf : PlainText f) : PlainText (b :: f) := by
  have : PlainText ([b] ++ f) := PlainText.append (PlainText.ascii (by simp [hb])) hf
  simpa using this

theorem PlainText.flatMap {α : Type} (l : List α) (g : α → Bytes) (h : ∀ x ∈ l, PlainText (g x)) :
    PlainText (l.flatMap g) := by
  induction l with
  | nil => exact PlainText.nil
  | cons x l ih =>
    simp only [List.flatMap_cons]
    exact PlainText.append (h x (by simp)) (ih fun y hy => h y (List.mem_cons_of_mem _ hy))

theorem plainText_header (c : Nat) (hc : c < 128) (id m : Bytes) (hid : PlainText id) (hm : PlainText m) :
    PlainText (c :: id ++ m ++ [10]) := by
  have := PlainText.cons_ascii hc (PlainText.append (PlainText.append hid hm) (PlainText.ascii (f := [10]) (by simp)))
  simpa using this

theorem plainText_desc (d : Bytes) (hd : PlainText d) : PlainText (32 :: d) := PlainText.cons_ascii (by decide) hd

theorem plainText_writeFasta (wrap : Option Nat) (hw : ∀ w, wrap = some w → 1 ≤ w) (recs : List FaRec)
    (ht : ∀ r ∈ recs, TextFa r) : PlainText (writeFasta wrap recs) := by
  unfold writeFasta
  apply PlainText.flatMap
  intro r hr
  have t := ht r hr
  obtain ⟨id, desc, seq⟩ := r
  have hhead : PlainText (faHeaderBytes id desc) := by
    cases desc with
    | none => exact plainText_header 62 (by decide) id [] t.id_ok PlainText.nil
    | some d => exact plainText_header 62 (by decide) id (32 :: d) t.id_ok (plainText_desc d (t.desc_ok d rfl))
  unfold writeFastaRec
  apply PlainText.append hhead
  cases wrap with
  | none =>
    exact PlainText.ascii fun b hb => by
      rcases List.mem_append.mp hb with h | h
      · exact t.seq_ascii b h
      · simp only [List.mem_singleton] at h; omega
  | some w =>
    apply PlainText.flatMap
    intro c hc
    exact PlainText.ascii fun b hb => by
      rcases List.mem_append.mp hb with h | h
      · exact t.seq_ascii b (mem_chunks w (hw w rfl) seq c hc b h)
      · simp only [List.mem_singleton] at h; omega

theorem plainText_writeFastq (recs : List FqRec) (ht : ∀ r ∈ recs, TextFq r) : PlainText (writeFastq recs) := by
  unfold writeFastq
  apply PlainText.flatMap
  intro r hr
  have t := ht r hr
  obtain ⟨id, desc, seq, qual⟩ := r
  have h2 : PlainText (seq ++ [10, 43, 10] ++ qual ++ [10]) := PlainText.ascii fun b hb => by
    simp only [List.mem_append, List.mem_cons, List.not_mem_nil, or_false] at hb
    rcases hb with ((h | h) | h) | h
    · exact t.seq_ascii b h
    · omega
    · exact t.qual_ascii b h
    · omega
  cases desc with
  | none =>
    have := PlainText.append (plainText_header 64 (by decide) id [] t.id_ok PlainText.nil) h2
    simpa [writeFastqRec, List.append_assoc] using this
  | some d =>
    have := PlainText.append
      (plainText_header 64 (by decide) id (32 :: d) t.id_ok (plainText_desc d (t.desc_ok d rfl))) h2
    simpa [writeFastqRec, List.append_assoc] using this

end RbV.Fastx
