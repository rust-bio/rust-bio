import RbV.Lemmas.SmemsAbs
import RbV.Lemmas.SmemsNext
import RbV.Basic.GetD
/-!
# The sweep over any interval operations that *implement* the string-level ones returns the same matches (C06)

`SimHyp ops c m pat G`: `G x b e` — "the interval `x` stands for `pattern[b..e)`" — implies `size x = c b e`, is
established by `init_interval_with`, and is kept by `forward_ext` / `backward_ext` with the next / previous pattern
symbol as long as the interval is non-empty; an empty `init_interval_with` gives empty intervals when extended (it is
the only empty interval the sweep ever extends: `smems_of_dead_start`).  Then `smems ops` and `smems (strOps c)` run in
lock-step (`sim_smems`, `sim_allSmems`): same positions, same lengths, same order, and every reported interval stands
for its match.  From a start that occurs the lock-step rests on the invariant `Inv` of the string-level sweep (all
candidates of a round start at `kk` and occur).
-/
namespace RbV.SmemModel
open RbV

/-- element-wise relation of two lists -/
inductive LR {α β : Type} (R : α → β → Prop) : List α → List β → Prop
  | nil : LR R [] []
  | cons {a : α} {b : β} {as : List α} {bs : List β} : R a b → LR R as bs → LR R (a :: as) (b :: bs)

namespace LR
variable {α β : Type} {R : α → β → Prop}

theorem append {l1 l1' : List α} {l2 l2' : List β} (h : LR R l1 l2) (h' : LR R l1' l2') :
    LR R (l1 ++ l1') (l2 ++ l2') := by
  induction h with
  | nil => exact h'
  | cons hr _ ih => exact LR.cons hr ih

theorem single {a : α} {b : β} (h : R a b) : LR R [a] [b] := LR.cons h LR.nil

theorem reverse {l1 : List α} {l2 : List β} (h : LR R l1 l2) : LR R l1.reverse l2.reverse := by
  induction h with
  | nil => exact LR.nil
  | cons hr _ ih => simp only [List.reverse_cons]; exact ih.append (single hr)

theorem isEmpty_eq {l1 : List α} {l2 : List β} (h : LR R l1 l2) : l1.isEmpty = l2.isEmpty := by
  cases h <;> rfl

theorem map_eq {γ : Type} {l1 : List α} {l2 : List β} (f : α → γ) (g : β → γ) (hfg : ∀ a b, R a b → f a = g b)
    (h : LR R l1 l2) : l1.map f = l2.map g := by
  induction h with
  | nil => rfl
  | cons hr _ ih => simp only [List.map_cons, ih, hfg _ _ hr]

theorem mem_left {l1 : List α} {l2 : List β} (h : LR R l1 l2) : ∀ a ∈ l1, ∃ b ∈ l2, R a b := by
  induction h with
  | nil => intro a ha; simp at ha
  | cons hr _ ih =>
    intro a ha
    rw [List.mem_cons] at ha
    rcases ha with rfl | ha
    · exact ⟨_, by simp, hr⟩
    · obtain ⟨b, hb, hab⟩ := ih a ha
      exact ⟨b, List.mem_cons_of_mem _ hb, hab⟩

theorem map₂ {γ δ : Type} {R' : γ → δ → Prop} {f : α → γ} {g : β → δ} {l1 : List α} {l2 : List β} (h : LR R l1 l2) :
    (∀ a b, b ∈ l2 → R a b → R' (f a) (g b)) → LR R' (l1.map f) (l2.map g) := by
  induction h with
  | nil => intro _; exact LR.nil
  | cons hr _ ih =>
    intro hfg
    exact LR.cons (hfg _ _ List.mem_cons_self hr) (ih fun a b hb => hfg a b (List.mem_cons_of_mem _ hb))

/-- `dedup` looks at the sizes only -/
theorem dedup {ι κ : Type} {ops : Ops ι} {ops' : Ops κ} {R : ι × Nat → κ × Nat → Prop}
    (hsz : ∀ p q, R p q → ops.size p.1 = ops'.size q.1) {xs : List (ι × Nat)} {ys : List (κ × Nat)} (h : LR R xs ys) :
    ∀ last, LR R (SmemModel.dedup ops last xs) (SmemModel.dedup ops' last ys) := by
  induction h with
  | nil => intro _; exact LR.nil
  | @cons p q _ _ hr _ ih =>
    intro last
    obtain ⟨f, ml⟩ := p
    obtain ⟨f', ml'⟩ := q
    simp only [SmemModel.dedup, hsz _ _ hr]
    split
    · exact LR.cons hr (ih _)
    · exact ih _

end LR

variable {ι : Type}

structure SimHyp (ops : Ops ι) (c : Nat → Nat → Nat) (m : Nat) (pat : List Nat) (G : ι → Nat → Nat → Prop) :
    Prop where
  size_eq : ∀ x b e, G x b e → ops.size x = c b e
  init : ∀ i, i < m → G (ops.initWith i (pat.getD i 0)) i (i + 1)
  fwd : ∀ x b e, G x b e → c b e ≠ 0 → b < e → e < m → G (ops.fwd x (pat.getD e 0)) b (e + 1)
  bwd : ∀ x b e, G x b e → c b e ≠ 0 → 1 ≤ b → b < e → e ≤ m → G (ops.bwd x (pat.getD (b - 1) 0)) (b - 1) e
  dead : ∀ i, i < m → c i (i + 1) = 0 → ∀ a, ops.size (ops.fwd (ops.initWith i (pat.getD i 0)) a) = 0 ∧
    ops.size (ops.bwd (ops.initWith i (pat.getD i 0)) a) = 0

section sim
variable {ops : Ops ι} {c : Nat → Nat → Nat} {m : Nat} {pat : List Nat} {G : ι → Nat → Nat → Prop}
  (hc : CountLaws c m) (hS : SimHyp ops c m pat G)

/-- candidates: same length, the interval stands for the substring -/
def Rel (G : ι → Nat → Nat → Prop) (p : ι × Nat) (q : (Nat × Nat) × Nat) : Prop := p.2 = q.2 ∧ G p.1 q.1.1 q.1.2

/-- reported matches: same position and length, the interval stands for the substring the string-level model names -/
def HR (G : ι → Nat → Nat → Prop) (h : Hit ι) (k : Hit (Nat × Nat)) : Prop :=
  h.pos = k.pos ∧ h.len = k.len ∧ G h.iv k.iv.1 k.iv.2

include hS in
/-- the forward loops from a start that occurs: only occurring substrings are extended -/
theorem sim_fwdLoop (i : Nat) : ∀ (rest : List Nat) (e ml : Nat) (x : ι) (curr1 : List (ι × Nat))
    (curr2 : List ((Nat × Nat) × Nat)), rest = pat.drop e → pat.length = m → i < e → e ≤ m →
    LR (Rel G) curr1 curr2 → G x i e → c i e ≠ 0 →
    LR (Rel G)
      ((fwdLoop ops rest x ml curr1).1 ++ [((fwdLoop ops rest x ml curr1).2.1, (fwdLoop ops rest x ml curr1).2.2)])
      ((fwdLoop (strOps c) rest (i, e) ml curr2).1 ++
        [((fwdLoop (strOps c) rest (i, e) ml curr2).2.1, (fwdLoop (strOps c) rest (i, e) ml curr2).2.2)])
  | [], e, ml, x, curr1, curr2, _, _, _, _, hcur, hg, _ => by
    simp only [fwdLoop]
    exact hcur.append (LR.single ⟨rfl, hg⟩)
  | a :: rest, e, ml, x, curr1, curr2, hrest, hm, hie, hem, hcur, hg, hne => by
    have hlen : (a :: rest).length = m - e := by rw [hrest, List.length_drop, hm]
    simp only [List.length_cons] at hlen
    have he : e < pat.length := by omega
    have ha : a = pat.getD e 0 ∧ rest = pat.drop (e + 1) :=
      List.cons.inj (hrest.trans (List.drop_eq_getD_cons pat e 0 he))
    have hem' : e + 1 ≤ m := hm ▸ he
    have hg' : G (ops.fwd x a) i (e + 1) := by rw [ha.1]; exact hS.fwd x i e hg hne hie hem'
    rw [fwdLoop_str_cons]
    simp only [fwdLoop]
    rw [hS.size_eq _ _ _ hg, hS.size_eq _ _ _ hg']
    have hcur' : LR (Rel G) (if c i e ≠ c i (e + 1) then curr1 ++ [(x, ml)] else curr1)
        (if c i e ≠ c i (e + 1) then curr2 ++ [((i, e), ml)] else curr2) := by
      split
      · exact hcur.append (LR.single ⟨rfl, hg⟩)
      · exact hcur
    by_cases h0 : c i (e + 1) = 0
    · rw [if_pos h0, if_pos h0]
      exact hcur'.append (LR.single ⟨rfl, hg⟩)
    · rw [if_neg h0, if_neg h0]
      exact sim_fwdLoop i rest (e + 1) (ml + 1) (ops.fwd x a) _ _ ha.2 hm (Nat.lt_succ_of_lt hie) hem' hcur' hg' h0

include hS in
theorem sim_forwardPhase (hm : pat.length = m) (i : Nat) (hi : i < m) (h0 : c i (i + 1) ≠ 0) :
    LR (Rel G) (forwardPhase ops pat i) (forwardPhase (strOps c) pat i) := by
  have hg := hS.init i hi
  rw [forwardPhase_eq, forwardPhase_eq, fwdRes_str, fwdRes, hS.size_eq _ _ _ hg]
  exact (sim_fwdLoop hS i (pat.drop (i + 1)) (i + 1) _ _ [] [] rfl hm (Nat.lt_succ_self i) hi LR.nil hg h0).reverse

/-- the string-level candidates of round `kk - 1`: they start at `kk` and occur -/
def Shape (c : Nat → Nat → Nat) (m kk : Nat) (prev : List ((Nat × Nat) × Nat)) : Prop :=
  ∀ q ∈ prev, q.1.1 = kk ∧ kk < q.1.2 ∧ q.1.2 ≤ m ∧ c kk q.1.2 ≠ 0

theorem Inv.toShape {i kk : Nat} {prev : List ((Nat × Nat) × Nat)} (h : Inv c m i kk prev) (hk : kk ≤ i) :
    Shape c m kk prev := fun q hq =>
  have s := h.shape q hq
  ⟨s.1, Nat.lt_of_le_of_lt hk s.2.1, s.2.2.1, s.2.2.2.2⟩

include hS in
/-- one backward extension of a candidate of round `kk` by `pattern[kk - 1]`, on both sides -/
theorem sim_bwd {kk : Nat} {p : ι × Nat} {q : (Nat × Nat) × Nat} (hr : Rel G p q)
    (hq : q.1.1 = kk + 1 ∧ kk + 1 < q.1.2 ∧ q.1.2 ≤ m ∧ c (kk + 1) q.1.2 ≠ 0) :
    Rel G (ops.bwd p.1 (pat.getD kk 0), p.2 + 1) ((strOps c).bwd q.1 (pat.getD kk 0), q.2 + 1) := by
  obtain ⟨⟨b, e⟩, ml⟩ := q
  obtain ⟨rfl, hbe, hem, hlive⟩ := hq
  exact ⟨congrArg (· + 1) hr.1, hS.bwd p.1 (kk + 1) e hr.2 hlive (Nat.succ_pos kk) hbe hem⟩

include hS in
theorem sim_dedup (kk : Nat) {prev1 : List (ι × Nat)} {prev2 : List ((Nat × Nat) × Nat)}
    (h : LR (Rel G) prev1 prev2) (hsh : Shape c m (kk + 1) prev2) (last : Int) :
    LR (Rel G) (dedup ops last (ext ops (pat.getD kk 0) prev1))
      (dedup (strOps c) last (ext (strOps c) (pat.getD kk 0) prev2)) :=
  (h.map₂ fun _ q hq hr => sim_bwd hS hr (hsh q hq)).dedup (fun _ _ hr => hS.size_eq _ _ _ hr.2) last

/-- the reports of a round, given that the sizes of the extensions agree (in round `k = -1` they play no part) -/
theorem sim_report (a kk l : Nat) {prev1 : List (ι × Nat)} {prev2 : List ((Nat × Nat) × Nat)}
    (h : LR (Rel G) prev1 prev2)
    (hsz : kk = 0 ∨ ∀ p q, q ∈ prev2 → Rel G p q →
      ops.size (ops.bwd p.1 a) = (strOps c).size ((strOps c).bwd q.1 a)) :
    LR (HR G) (report ops a kk l prev1) (report (strOps c) a kk l prev2) := by
  cases h with
  | nil => exact LR.nil
  | @cons p q _ _ hr _ =>
    obtain ⟨x, ml⟩ := p
    obtain ⟨y, ml'⟩ := q
    obtain ⟨rfl, hg⟩ := hr
    have hcond : ((ops.size (ops.bwd x a) = 0 ∨ kk = 0) ∧ l ≤ ml) ↔
        (((strOps c).size ((strOps c).bwd y a) = 0 ∨ kk = 0) ∧ l ≤ ml) := by
      rcases hsz with rfl | hsz
      · simp
      · rw [hsz (x, ml) (y, ml) List.mem_cons_self ⟨rfl, hg⟩]
    simp only [report, hcond]
    split
    · exact LR.single ⟨rfl, rfl, hg⟩
    · exact LR.nil

include hc hS in
theorem sim_outerSpec (l : Nat) {i : Nat} : ∀ (kk : Nat) {prev1 : List (ι × Nat)} {prev2 : List ((Nat × Nat) × Nat)}
    {ms1 : List (Hit ι)} {ms2 : List (Hit (Nat × Nat))}, kk ≤ i →
    LR (Rel G) prev1 prev2 → Inv c m i kk prev2 → LR (HR G) ms1 ms2 →
    LR (HR G) (outerSpec ops pat l kk prev1 ms1) (outerSpec (strOps c) pat l kk prev2 ms2)
  | 0, _, _, _, _, hk, h, hinv, hms => by
    simp only [outerSpec]
    exact hms.append (sim_report 36 0 l h (Or.inl rfl))
  | kk + 1, _, _, _, _, hk, h, hinv, hms => by
    simp only [outerSpec]
    have hd := sim_dedup hS kk h (hinv.toShape hk) (-1)
    have hr := sim_report (pat.getD kk 0) (kk + 1) l h
      (Or.inr fun _ q hq hr => hS.size_eq _ _ _ (sim_bwd hS hr (hinv.toShape hk q hq)).2)
    rw [hd.isEmpty_eq]
    split
    · exact hms.append hr
    · exact sim_outerSpec l kk (Nat.le_of_succ_le hk) hd (hinv.step hc hk _) (hms.append hr)

include hc hS in
/-- **lock-step**: the sweep over `ops` and the string-level sweep report the same matches in the same order, and
each reported interval stands for its match -/
theorem sim_smems (hm : pat.length = m) (i l : Nat) (hi : i < m) :
    LR (HR G) (smems ops pat i l) (smems (strOps c) pat i l) := by
  have hg := hS.init i hi
  by_cases h0 : c i (i + 1) = 0
  · rw [smems_of_dead_start ops pat i l (hm ▸ hi) ((hS.size_eq _ _ _ hg).trans h0)
        (fun _ a => (hS.dead i hi h0 a).1) (fun a => (hS.dead i hi h0 a).2),
      smems_of_dead_start (strOps c) pat i l (hm ▸ hi) h0 (strOps_dead_fwd hc hm h0) (strOps_dead_bwd hc hi h0)]
    split
    · exact LR.single ⟨rfl, rfl, hg⟩
    · exact LR.nil
  · have hinv := forwardPhase_inv hc pat hm hi h0
    have hfp := sim_forwardPhase hS hm i hi h0
    have hs1 : ((forwardPhase ops pat i).map (·.2)).Pairwise (· ≥ ·) := by
      rw [hfp.map_eq (·.2) (·.2) (fun a b h => h.1)]; exact hinv.mls_sorted
    unfold smems
    rw [outer_eq_spec _ _ _ _ _ _ _ (by omega) hs1, outer_eq_spec _ _ _ _ _ _ _ (by omega) hinv.mls_sorted]
    exact sim_outerSpec hc hS l i (Nat.le_refl i) hfp hinv LR.nil

include hc hS in
theorem sim_allLoop (hm : pat.length = m) (l : Nat) : ∀ (fuel i0 : Nat) {acc1 : List (Hit ι)}
    {acc2 : List (Hit (Nat × Nat))}, LR (HR G) acc1 acc2 →
    LR (HR G) (allLoop ops pat l fuel i0 acc1) (allLoop (strOps c) pat l fuel i0 acc2)
  | 0, _, _, _, h => by simp only [allLoop]; exact h
  | fuel + 1, i0, _, _, h => by
    simp only [allLoop]
    split
    · rename_i hi
      have hsm := sim_smems hc hS hm i0 l (by omega)
      have hn : nextI0 (smems ops pat i0 l) i0 = nextI0 (smems (strOps c) pat i0 l) i0 := by
        rw [nextI0_eq, nextI0_eq, ← runMax_map (fun p : Nat × Nat => p.1 + p.2) (fun h : Hit ι => (h.pos, h.len)),
          ← runMax_map (fun p : Nat × Nat => p.1 + p.2) (fun h : Hit (Nat × Nat) => (h.pos, h.len)),
          hsm.map_eq (fun h => (h.pos, h.len)) (fun h => (h.pos, h.len)) (fun a b h => by rw [h.1, h.2.1])]
      rw [hn]
      exact sim_allLoop hm l fuel _ (h.append hsm)
    · exact h

include hc hS in
theorem sim_allSmems (hm : pat.length = m) (l : Nat) :
    LR (HR G) (allSmems ops pat l) (allSmems (strOps c) pat l) :=
  sim_allLoop hc hS hm l _ _ LR.nil

end sim

end RbV.SmemModel
