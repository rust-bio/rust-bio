import RbV.Lemmas.PoaHistory
/-!
# Node growth of one align-and-add step of the model is bounded by the query length

`ColsOK`: column 0 holds no query-consuming operation and no `Yclip` points to the right; every `Local` table has it
(`Local.colsOK`: every mode, and the translated matrix).  `traceF_consuming_on`: over such a table the traceback emits at most
`j` consuming operations from column `j`, each moving one column to the left.  It takes a set `S` of rows because the
clip-free table `dpRows` has the column-0 clause on computed rows only (`dpRows_col0`: `Del(None)` there); rows are computed
for every node because `topo` visits every node of a DAG.  With `addAlignment_grows` (one new node per consuming operation
at most) this bounds the growth per addition.  Last, `traceF_seqOK`: over a `ColsOK` table the list emitted is valid for the query
(`SeqOK`: every consumed position exists).
-/
namespace RbV.Poa.Model
open RbV.NW

theorem consuming_cons (op : POp) (r : List POp) : consuming (op :: r) = opCost op + consuming r := by
  simp [consuming]

/-- column 0 holds no query-consuming operation; `Yclip(c, _)` in column `j` has `c ≤ j` -/
structure ColsOK (opAt : Nat → Nat → POp) : Prop where
  col0 : ∀ i, 0 < i → opCost (opAt i 0) = 0
  yclip : ∀ i j c d, opAt i j = .y c d → c ≤ j

theorem Local.colsOK {es : WEdges} {L : Nat} {opAt : Nat → Nat → POp} (h : Local es L opAt) : ColsOK opAt := by
  refine ⟨fun i hi => ?_, fun i j c d hy => ?_⟩
  · obtain ⟨v, rfl⟩ : ∃ v, i = v + 1 := ⟨i - 1, by omega⟩
    rcases (h.rows v 0).2.1 rfl with e | ⟨r, e⟩ <;> rw [e] <;> rfl
  · cases i with
    | zero =>
      rcases h.r0 j with e | e | e <;> rw [e] at hy <;> cases hy
      exact Nat.zero_le _
    | succ v => exact ((h.rows v j).2.2 c d hy).1

/-- a consuming operation sends the traceback one column to the left, no operation to the right -/
theorem tstep_cost (op : POp) (i j : Nat) (h0 : j = 0 → opCost op = 0) (hy : ∀ c d, op = .y c d → c ≤ j) :
    (tstep op i j).2 + opCost op ≤ j := by
  cases op with
  | m pq =>
    have hj : j ≠ 0 := fun e => Nat.succ_ne_zero 0 (h0 e)
    cases pq <;> simp only [tstep, opCost] <;> omega
  | i p =>
    have hj : j ≠ 0 := fun e => Nat.succ_ne_zero 0 (h0 e)
    cases p <;> simp only [tstep, opCost] <;> omega
  | d pq => cases pq <;> simp only [tstep, opCost] <;> omega
  | x r => simp only [tstep, opCost]; omega
  | y c d => have := hy c d rfl; simp only [tstep, opCost]; omega

/-- the traceback emits at most `j` consuming operations from column `j`, as long as it stays in rows (`S`) whose column 0 holds
no consuming operation and whose `Yclip`s do not point to the right -/
theorem traceF_consuming_on (opAt : Nat → Nat → POp) (S : Nat → Prop)
    (hcol0 : ∀ i, S i → 0 < i → opCost (opAt i 0) = 0) (hy : ∀ i j c d, S i → opAt i j = .y c d → c ≤ j)
    (hS : ∀ i j, S i → S (tstep (opAt i j) i j).1) :
    ∀ (f i j : Nat) (acc : List POp), S i → consuming (traceF opAt f i j acc) ≤ consuming acc + j := by
  intro f
  induction f with
  | zero => intro i j acc _; simp [traceF]
  | succ f ih =>
    intro i j acc hi
    by_cases hij : i = 0 ∧ j = 0
    · simp [traceF, hij]
    · rw [traceF_succ opAt f i j acc hij]
      have h1 := ih _ (tstep (opAt i j) i j).2 (opAt i j :: acc) (hS i j hi)
      have h2 := tstep_cost (opAt i j) i j (fun e => by subst e; exact hcol0 i hi (by omega)) (fun c d e => hy i j c d hi e)
      rw [consuming_cons] at h1
      omega

theorem traceF_consuming (opAt : Nat → Nat → POp) (h : ColsOK opAt) (f i j : Nat) (acc : List POp) :
    consuming (traceF opAt f i j acc) ≤ consuming acc + j :=
  traceF_consuming_on opAt (fun _ => True) (fun i _ => h.col0 i) (fun i j c d _ => h.yclip i j c d) (fun _ _ _ => trivial)
    f i j acc trivial

/-- the clip-free table: within the rows `≤ n` of the nodes (all computed: column 0 holds `Del(None)`, pointers stay inside) -/
theorem traceLoop_consuming (es : WEdges) (t : Table) (n : Nat) (ht : TableOK es t)
    (hcol : ∀ v, v < n → ((t.rows.getD v []).getD 0 ⟨0, .m none⟩).op = .d none)
    (hedge : ∀ v, ∀ p ∈ inN es v, p < n) (f i j : Nat) (acc : List POp) (hi : i ≤ n) :
    consuming (traceLoop t f i j acc) ≤ consuming acc + j := by
  rw [traceLoop_eq_traceF]
  refine traceF_consuming_on _ (· ≤ n) ?_ ?_ ?_ f i j acc hi
  · intro i hi h0
    obtain ⟨v, rfl⟩ : ∃ v, i = v + 1 := ⟨i - 1, by omega⟩
    simp only [Table.cell_succ, hcol v (by omega)]; rfl
  · intro i j c d _ hy
    cases i with
    | zero =>
      simp only [Table.cell_zero] at hy
      rcases ht.r0 j with h | h <;> rw [h] at hy <;> cases hy
    | succ v =>
      simp only [Table.cell_succ] at hy
      rcases ht.rows v j with h | ⟨_, h⟩ | ⟨_, h | ⟨p, _, h | h⟩⟩ <;> rw [h] at hy <;> cases hy
  · intro i j hi
    cases i with
    | zero =>
      simp only [Table.cell_zero]
      rcases ht.r0 j with h | h <;> rw [h] <;> exact Nat.zero_le _
    | succ v =>
      simp only [Table.cell_succ]
      rcases ht.rows v j with h | ⟨_, h⟩ | ⟨_, h | ⟨p, hp, h | h⟩⟩ <;> rw [h] <;> simp only [tstep]
      · exact Nat.zero_le _
      · omega
      · exact hi
      · exact hedge v p hp
      · exact hedge v p hp

theorem dpRows_col0 (sc : Sc) (labels : List Nat) (es : WEdges) (query : List Nat) (v : Nat)
    (hv : v < labels.length) (hin : v ∈ topo labels.length es) :
    ((((dpRows sc labels es query).rows).getD v []).getD 0 ⟨0, .m none⟩).op = .d none := by
  simp only [dpRows]
  have key : ∀ (order : List Nat) (rows : Array (List Cell)), rows.size = labels.length →
      (v ∈ order ∨ ((rows.getD v []).getD 0 ⟨0, .m none⟩).op = .d none) →
      (((order.foldl (fun (rows : Array (List Cell)) v =>
          rows.setIfInBounds v (nodeRow sc query (row0 sc.gap query.length) v (labels.getD v 0)
            ((inN es v).map fun p => (p, rows.getD p [])))) rows).getD v []).getD 0 ⟨0, .m none⟩).op = .d none := by
    intro order
    induction order with
    | nil => intro rows _ h; simpa using h
    | cons u order ih =>
      intro rows hs h
      simp only [List.foldl_cons]
      apply ih _ (by simpa using hs)
      by_cases hu : v = u
      · right
        subst hu
        rw [getD_setIfInBounds_self _ (hs ▸ hv), nodeRow_eq]
        rfl
      · rcases h with h | h
        · rcases List.mem_cons.mp h with h | h
          · exact absurd h hu
          · exact Or.inl h
        · right
          rw [getD_setIfInBounds_ne _ hu]
          exact h
  exact key _ _ (by simp) (Or.inl hin)

theorem alignAdd_node_growth (sc : Sc) (g : G) (q : List Nat) (hg : Dag g) :
    (alignAdd sc g q).labels.length ≤ g.labels.length + q.length := by
  have hn := hg.pos
  obtain ⟨vis, h1, _, hmem, _⟩ := hg.topo_spec
  have hall : ∀ v, v < g.labels.length → v ∈ topo g.labels.length g.es := by
    intro v hv; rw [h1]; simpa using (hmem v).mpr hv
  have hlast : (dpRows sc g.labels g.es q).last + 1 ≤ g.labels.length := by
    simp only [dpRows, h1]
    have h2 := getLastD_mem vis.reverse 0 (List.ne_nil_of_mem (List.mem_reverse.mpr ((hmem 0).mpr hn)))
    exact (hmem _).mp (List.mem_reverse.mp h2)
  have hcons := traceLoop_consuming g.es (dpRows sc g.labels g.es q) g.labels.length (dpRows_tableOK sc g.labels g.es q)
    (fun v hv => dpRows_col0 sc g.labels g.es q v hv (hall v hv))
    (fun v p hp => by
      obtain ⟨w, hw⟩ := (mem_inN g.es v p).mp hp
      exact (hg.wf _ hw).1)
    ((g.labels.length + 2) * (q.length + 2)) ((dpRows sc g.labels g.es q).last + 1) q.length [] hlast
  have := (addAlignment_grows g (globalAlign sc g.labels g.es q).2 q).2
  simp only [alignAdd]
  simp only [globalAlign] at this ⊢
  simp only [consuming, List.map_nil, List.sum_nil, Nat.zero_add] at hcons
  simp only [consuming] at this
  omega

/-! ## node count along histories -/

theorem foldl_alignAdd_node_count : ∀ (steps : List (Sc × List Nat)) (g : G), Dag g →
    (steps.foldl (fun g s => alignAdd s.1 g s.2) g).labels.length ≤
      g.labels.length + (steps.map fun s => s.2.length).sum := by
  intro steps
  induction steps with
  | nil => intro g _; simp
  | cons s r ih =>
    intro g hg
    have h1 := ih _ (alignAdd_dag s.1 g s.2 hg)
    have h2 := alignAdd_node_growth s.1 g s.2 hg
    simp only [List.foldl_cons, List.map_cons, List.sum_cons]
    omega

theorem history_node_count (x : List Nat) (hx : x ≠ []) (steps : List (Sc × List Nat)) :
    (history x steps).labels.length ≤ x.length + (steps.map fun s => s.2.length).sum :=
  foldl_alignAdd_node_count steps _ (chainG_dag x hx)

end RbV.Poa.Model

/-! ## column tracking: the list the traceback emits is valid for the query (`SeqOK`) -/

namespace RbV.Thm.GenSrcPoaHistory
open RbV.Poa RbV.Poa.Model RbV.Thm.GenSrcPoaAdd

theorem seqOK_mono (n m : Nat) : ∀ (ops : List POp) (i i' : Nat), i ≤ i' → SeqOK n m i' ops → SeqOK n m i ops
  | [], _, _, _, _ => trivial
  | op :: r, i, i', hi, h => by
    cases op with
    | m pq =>
      cases pq with
      | none => simp only [SeqOK] at h ⊢; exact ⟨by omega, seqOK_mono n m r _ _ (by omega) h.2⟩
      | some pq => obtain ⟨a, p⟩ := pq; simp only [SeqOK] at h ⊢; exact ⟨by omega, h.2.1, seqOK_mono n m r _ _ (by omega) h.2.2⟩
    | d pq => simp only [SeqOK] at h ⊢; exact seqOK_mono n m r _ _ hi h
    | i p => simp only [SeqOK] at h ⊢; exact ⟨by omega, seqOK_mono n m r _ _ (by omega) h.2⟩
    | x r' => simp only [SeqOK] at h ⊢; exact seqOK_mono n m r _ _ hi h
    | y a b => simp only [SeqOK] at h ⊢; exact h

theorem seqOK_tstep (n m : Nat) (op : POp) (i j : Nat) (acc : List POp) (hj : j ≤ n) (h0 : j = 0 → opCost op = 0)
    (hy : ∀ c d, op = .y c d → c ≤ j ∧ d = j) (hm : ∀ a p, op = .m (some (a, p)) → p < m) (hs : SeqOK n m j acc) :
    (tstep op i j).2 ≤ n ∧ SeqOK n m (tstep op i j).2 (op :: acc) := by
  have hpos : opCost op = 1 → j - 1 < n ∧ j - 1 + 1 = j := fun h1 => by
    have : j ≠ 0 := fun e => by rw [h0 e] at h1; cases h1
    omega
  rcases op with (_ | ⟨a, p⟩) | (_ | ⟨a, p⟩) | (_ | p) | r | ⟨c, d⟩ <;> simp only [tstep, SeqOK]
  · obtain ⟨h1, h2⟩ := hpos rfl; exact ⟨by omega, h1, by rw [h2]; exact hs⟩
  · obtain ⟨h1, h2⟩ := hpos rfl; exact ⟨by omega, h1, hm a p rfl, by rw [h2]; exact hs⟩
  · exact ⟨hj, hs⟩
  · exact ⟨hj, hs⟩
  · obtain ⟨h1, h2⟩ := hpos rfl; exact ⟨by omega, h1, by rw [h2]; exact hs⟩
  · obtain ⟨h1, h2⟩ := hpos rfl; exact ⟨by omega, h1, by rw [h2]; exact hs⟩
  · exact ⟨hj, hs⟩
  · obtain ⟨h1, h2⟩ := hy c d rfl; exact ⟨by omega, by rw [h2]; exact hs⟩

/-- **column tracking**: the traceback over a column-monotone table whose `Yclip(_, d)` in column `j` has `d = j` and whose
`Match(Some((_, p)))` name nodes `< m` emits an operation list that is valid for a query of length `n` (`SeqOK`) -/
theorem traceF_seqOK (opAt : Nat → Nat → POp) (n m : Nat) (hcols : ColsOK opAt)
    (hy : ∀ i j c d, opAt i j = .y c d → d = j) (hm : ∀ i j a p, opAt i j = .m (some (a, p)) → p < m) :
    ∀ (f i j : Nat) (acc : List POp), j ≤ n → SeqOK n m j acc → SeqOK n m 0 (traceF opAt f i j acc) := by
  intro f
  induction f with
  | zero => intro i j acc _ hs; simp only [traceF]; exact seqOK_mono n m acc 0 j (Nat.zero_le _) hs
  | succ f ih =>
    intro i j acc hj hs
    by_cases hij : i = 0 ∧ j = 0
    · obtain ⟨rfl, rfl⟩ := hij
      simp only [traceF, Bool.and_self, decide_true, if_true]; exact hs
    · rw [traceF_succ opAt f i j acc hij]
      obtain ⟨h1, h2⟩ := seqOK_tstep n m (opAt i j) i j acc hj (fun e => by subst e; exact hcols.col0 i (by omega))
        (fun c d e => ⟨hcols.yclip i j c d e, hy i j c d e⟩) (hm i j) hs
      exact ih _ _ _ h1 h2

end RbV.Thm.GenSrcPoaHistory
