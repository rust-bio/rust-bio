import RbV.Lemmas.SaisTypes
/-
Buckets as index ranges, the sets of L-type / S-type positions of one symbol, and the relation axioms used by the
induced-sorting proofs.
-/
namespace RbV.Sais

/-- L-type positions with symbol `c` -/
def Lset (t : List Nat) (c : Nat) : List Nat :=
  (List.range t.length).filter (fun p => sym t p == c && !isS (tyOf t) p)

/-- S-type positions with symbol `c` -/
def Sset (t : List Nat) (c : Nat) : List Nat :=
  (List.range t.length).filter (fun p => sym t p == c && isS (tyOf t) p)

theorem mem_Lset (t : List Nat) (c p : Nat) : p ∈ Lset t c ↔ p < t.length ∧ sym t p = c ∧ isS (tyOf t) p = false := by
  simp [Lset]

theorem mem_Sset (t : List Nat) (c p : Nat) : p ∈ Sset t c ↔ p < t.length ∧ sym t p = c ∧ isS (tyOf t) p = true := by
  simp [Sset]

theorem nodup_Lset (t : List Nat) (c : Nat) : (Lset t c).Nodup := List.Nodup.sublist List.filter_sublist List.nodup_range
theorem nodup_Sset (t : List Nat) (c : Nat) : (Sset t c).Nodup := List.Nodup.sublist List.filter_sublist List.nodup_range

theorem count_eq_filter_range (l : List Nat) (c : Nat) :
    l.count c = ((List.range l.length).filter (fun p => l.getD p 0 == c)).length := by
  induction l with
  | nil => simp
  | cons a l ih =>
    rw [List.length_cons, List.range_succ_eq_map, List.filter_cons, List.filter_map, List.count_cons, ih]
    have : ((fun p => (a :: l).getD p 0 == c) ∘ Nat.succ) = (fun p => l.getD p 0 == c) := by
      funext p; simp
    rw [this]
    by_cases h : a = c
    · subst h; simp
    · simp [h]

theorem length_filter_split {α : Type} (l : List α) (p q : α → Bool) :
    (l.filter p).length = (l.filter (fun x => p x && !q x)).length + (l.filter (fun x => p x && q x)).length := by
  induction l with
  | nil => simp
  | cons a l ih =>
    simp only [List.filter_cons]
    cases hp : p a <;> cases hq : q a <;> simp [ih] <;> omega

/-- bucket `c` = its L-type positions followed by its S-type positions -/
theorem cntLt_succ_split (t : List Nat) (c : Nat) :
    cntLt t (c + 1) = cntLt t c + (Lset t c).length + (Sset t c).length := by
  rw [cntLt_succ, count_eq_filter_range,
    length_filter_split (List.range t.length) (fun p => t.getD p 0 == c) (fun p => isS (tyOf t) p)]
  unfold Lset Sset sym
  omega

/-- index `i` lies in bucket `c` -/
def inBkt (t : List Nat) (c i : Nat) : Prop := cntLt t c ≤ i ∧ i < cntLt t (c + 1)

theorem exists_bkt_aux (t : List Nat) (i k : Nat) (h : i < cntLt t k) : ∃ c, c < k ∧ inBkt t c i := by
  induction k with
  | zero => rw [cntLt_zero] at h; omega
  | succ k ih =>
    by_cases hk : i < cntLt t k
    · obtain ⟨c, hc, hb⟩ := ih hk
      exact ⟨c, by omega, hb⟩
    · exact ⟨k, by omega, ⟨by omega, h⟩⟩

theorem exists_bkt (t : List Nat) (i : Nat) (h : i < t.length) : ∃ c, c < maxSucc t ∧ inBkt t c i :=
  exists_bkt_aux t i (maxSucc t) (by rw [cntLt_maxSucc t _ (Nat.le_refl _)]; exact h)

theorem bkt_unique (t : List Nat) (c d i : Nat) (hc : inBkt t c i) (hd : inBkt t d i) : c = d := by
  unfold inBkt at hc hd
  apply Classical.byContradiction
  intro hne
  rcases Nat.lt_or_gt_of_ne hne with h | h
  · have := cntLt_mono t (c + 1) d (by omega); omega
  · have := cntLt_mono t (d + 1) c (by omega); omega

theorem bkt_lt_of_sym_lt (t : List Nat) (c d i j : Nat) (hc : inBkt t c i) (hd : inBkt t d j) (h : c < d) : i < j := by
  unfold inBkt at hc hd
  have := cntLt_mono t (c + 1) d (by omega); omega

theorem bkt_le_of_lt (t : List Nat) (c d i j : Nat) (hc : inBkt t c i) (hd : inBkt t d j) (h : i < j) : c ≤ d := by
  apply Classical.byContradiction
  intro hn
  have := bkt_lt_of_sym_lt t d c j i hd hc (by omega); omega

theorem inBkt_lt_length (t : List Nat) (c i : Nat) (h : inBkt t c i) : i < t.length := by
  have := cntLt_le_length t (c + 1); unfold inBkt at h; omega

/-! ### symbol 0 (the final sentinel) -/

theorem Lset_zero {t : List Nat} (hv : Valid t) : Lset t 0 = [] := by
  rw [List.eq_nil_iff_forall_not_mem]
  intro p hp
  rw [mem_Lset] at hp
  obtain ⟨hp1, hp2, hp3⟩ := hp
  have h1 := lt_of_isL hv p hp1 hp3
  have h2 := hv.lastMin p h1
  omega

theorem mem_Sset_zero {t : List Nat} (hv : Valid t) (p : Nat) : p ∈ Sset t 0 ↔ p = t.length - 1 := by
  rw [mem_Sset]
  constructor
  · rintro ⟨h1, h2, _⟩
    apply Classical.byContradiction
    intro hne
    have := hv.lastMin p (by omega)
    omega
  · intro h
    subst h
    exact ⟨by have := hv.pos; omega, sym_last_zero hv, isS_last t hv.pos⟩

theorem length_Sset_zero {t : List Nat} (hv : Valid t) : (Sset t 0).length = 1 := by
  have h1 : (Sset t 0).length ≤ [t.length - 1].length :=
    nodup_subset_length_le _ _ (nodup_Sset t 0) (fun x hx => by rw [mem_Sset_zero hv] at hx; simp [hx])
  have h2 : 0 < (Sset t 0).length := List.length_pos_of_mem ((mem_Sset_zero hv _).mpr rfl)
  simp only [List.length_cons, List.length_nil] at h1
  omega

theorem cntLt_one {t : List Nat} (hv : Valid t) : cntLt t 1 = 1 := by
  have := cntLt_succ_split t 0
  rw [cntLt_zero, Lset_zero hv, length_Sset_zero hv] at this
  simpa using this

/-! ### the relation axioms -/

/-- axioms on a relation between positions under which induced sorting produces an `R`-sorted array:
a smaller first symbol wins; among equal first symbols L-type comes before S-type. -/
structure IndRel (t : List Nat) (R : Nat → Nat → Prop) : Prop where
  ofSym : ∀ x y, x < t.length → y < t.length → sym t x < sym t y → R x y
  ofLS : ∀ x y, x < t.length → y < t.length → sym t x = sym t y → isS (tyOf t) x = false → isS (tyOf t) y = true → R x y

/-- two L-type positions with the same symbol are ordered like their successors -/
def StepL (t : List Nat) (R : Nat → Nat → Prop) : Prop :=
  ∀ x y, x < t.length → y < t.length → sym t x = sym t y → isS (tyOf t) x = false → isS (tyOf t) y = false →
    R (x + 1) (y + 1) → R x y

/-- two S-type positions (not the last one) with the same symbol are ordered like their successors -/
def StepS (t : List Nat) (R : Nat → Nat → Prop) : Prop :=
  ∀ x y, x + 1 < t.length → y + 1 < t.length → sym t x = sym t y → isS (tyOf t) x = true → isS (tyOf t) y = true →
    R (x + 1) (y + 1) → R x y

theorem indRel_true (t : List Nat) : IndRel t (fun _ _ => True) := ⟨fun _ _ _ _ _ => trivial, fun _ _ _ _ _ _ _ => trivial⟩

theorem stepL_true (t : List Nat) : StepL t (fun _ _ => True) := fun _ _ _ _ _ _ _ _ => trivial

theorem stepS_true (t : List Nat) : StepS t (fun _ _ => True) := fun _ _ _ _ _ _ _ _ => trivial

end RbV.Sais
