import RbV.Model.Tsv
/-! Lemmas on the csv layer of `Model/Tsv.lean` (quoting writer, state-machine reader) for C13.  Three parts: the run algebra
(`run_append`: a run over `a ++ b` = what `a` emits, then the run from the state after `a`); reading what the writer wrote, ending in
`run_record` and `run_items` (used by `Lemmas/CsvPlain.lean`) / `rows_fileOf` (`Lemmas/Tsv.lean`, C13); and `rows_append` (a line
break outside quotes separates what is read: C13 `earlier_records_unchanged_*`).  Core Lean only. -/
namespace RbV.Tsv

theorem needsQuote_false {c : Nat} (h : needsQuote c = false) : c ≠ TAB ∧ c ≠ QUOTE ∧ c ≠ CR ∧ c ≠ LF := by
  unfold needsQuote at h
  simp only [Bool.or_eq_false_iff, beq_eq_false_iff_ne, ne_eq] at h
  exact ⟨h.1.1.1, h.1.1.2, h.1.2, h.2⟩

theorem isTerm_of_plain {c : Nat} (h : needsQuote c = false) : isTerm c = false := by
  obtain ⟨_, _, h3, h4⟩ := needsQuote_false h
  simp [isTerm, h3, h4]

theorem isTerm_LF : isTerm LF = true := by decide
theorem isTerm_TAB : isTerm TAB = false := by decide
theorem isTerm_QUOTE : isTerm QUOTE = false := by decide

theorem run_cons (s : Csv) (c : Nat) (r : List Nat) :
    run s (c :: r) = (step s c).2.toList ++ run (step s c).1 r := by
  rw [run]

/-- records completed inside a byte string -/
def emitted : Csv → List Nat → List (List (List Nat))
  | _, [] => []
  | s, c :: r => (step s c).2.toList ++ emitted (step s c).1 r

theorem run_append (a b : List Nat) : ∀ s : Csv, run s (a ++ b) = emitted s a ++ run (runState s a) b := by
  induction a with
  | nil => intro s; simp [emitted, runState]
  | cons c r ih =>
    intro s
    rw [List.cons_append, run_cons, ih]
    simp [emitted, runState]

theorem run_eq_emitted (a : List Nat) (s : Csv) : run s a = emitted s a ++ finish (runState s a) := by
  have := run_append a [] s
  simpa [run] using this

/-! ## reading what the writer wrote -/

/-- an unquoted field body is copied byte by byte -/
theorem run_inField_plain (f : List Nat) (hf : f.any needsQuote = false) : ∀ (acc : List Nat)
    (flds : List (List Nat)) (rest : List Nat),
    run ⟨.inField, acc, flds⟩ (f ++ rest) = run ⟨.inField, acc ++ f, flds⟩ rest := by
  induction f with
  | nil => intro acc flds rest; simp
  | cons c t ih =>
    intro acc flds rest
    simp only [List.any_cons, Bool.or_eq_false_iff] at hf
    obtain ⟨hc, ht⟩ := hf
    obtain ⟨h1, _, _, _⟩ := needsQuote_false hc
    have hterm := isTerm_of_plain hc
    rw [List.cons_append, run_cons]
    simp only [step, h1, hterm, if_false, Bool.false_eq_true]
    rw [ih ht]
    simp

/-- a quoted field body (quotes doubled) up to the closing quote gives back the field -/
theorem run_inQuoted_escaped (f : List Nat) : ∀ (acc : List Nat) (flds : List (List Nat)) (rest : List Nat),
    run ⟨.inQuoted, acc, flds⟩ (escapeQuotes f ++ QUOTE :: rest) = run ⟨.quoteInQuoted, acc ++ f, flds⟩ rest := by
  induction f with
  | nil =>
    intro acc flds rest
    simp only [escapeQuotes, List.nil_append, List.append_nil]
    rw [run_cons]
    simp [step]
  | cons c t ih =>
    intro acc flds rest
    by_cases hc : c = QUOTE
    · subst hc
      simp only [escapeQuotes, if_true, List.cons_append]
      rw [run_cons]
      simp only [step, if_true]
      rw [run_cons]
      simp only [step, if_true]
      rw [ih]
      simp
    · simp only [escapeQuotes, hc, if_false, List.cons_append]
      rw [run_cons]
      simp only [step, hc, if_false]
      rw [ih]
      simp

/-- a byte `e` that ends a field (TAB, CR or LF) in one of the states in which a field can end -/
theorem run_end (st : CsvSt) (hst : st = .startField ∨ st = .inField ∨ st = .quoteInQuoted)
    (acc : List Nat) (hacc : st = .startField → acc = []) (flds : List (List Nat)) (e : Nat) (rest : List Nat)
    (he : e = TAB ∨ isTerm e = true) :
    run ⟨st, acc, flds⟩ (e :: rest)
      = if e = TAB then run ⟨.startField, [], flds ++ [acc]⟩ rest else (flds ++ [acc]) :: run Csv.start rest := by
  have heq : e ≠ QUOTE := by
    rcases he with h | h
    · rw [h]; decide
    · intro h'; rw [h'] at h; exact absurd h (by decide)
  rw [run_cons]
  have htq : TAB ≠ QUOTE := by decide
  by_cases ht : e = TAB
  · subst ht
    rcases hst with h | h | h
    · subst h; rw [hacc rfl]; simp [step, stepField, htq]
    · subst h; simp [step]
    · subst h; simp [step, htq]
  · have hterm : isTerm e = true := by
      rcases he with h | h
      · exact absurd h ht
      · exact h
    rcases hst with h | h | h
    · subst h; rw [hacc rfl]; simp [step, stepField, ht, heq, hterm]
    · subst h; simp [step, ht, hterm]
    · subst h; simp [step, ht, heq, hterm]

/-- what the reader does with a written field followed by a byte `e` that ends it (TAB, CR or LF), starting in
`StartField`: the field is read back, whatever it contains -/
theorem run_field (f : List Nat) (flds : List (List Nat)) (e : Nat) (rest : List Nat)
    (he : e = TAB ∨ isTerm e = true) :
    run ⟨.startField, [], flds⟩ (quoteField f ++ e :: rest)
      = if e = TAB then run ⟨.startField, [], flds ++ [f]⟩ rest else (flds ++ [f]) :: run Csv.start rest := by
  unfold quoteField
  by_cases hq : f.any needsQuote = true
  · simp only [hq, if_true, List.cons_append, List.append_assoc]
    rw [run_cons]
    simp only [step, stepField, if_true, Option.toList_none, List.nil_append]
    rw [run_inQuoted_escaped, List.nil_append]
    exact run_end .quoteInQuoted (by simp) f (by simp) flds e rest he
  · have hq' : f.any needsQuote = false := by simpa using hq
    simp only [hq', Bool.false_eq_true, if_false]
    cases f with
    | nil => exact run_end .startField (by simp) [] (by simp) flds e rest he
    | cons c t =>
      simp only [List.any_cons, Bool.or_eq_false_iff] at hq'
      obtain ⟨hc, ht'⟩ := hq'
      obtain ⟨h1, h2, _, _⟩ := needsQuote_false hc
      have hterm := isTerm_of_plain hc
      rw [List.cons_append, run_cons]
      simp only [step, stepField, h1, h2, hterm, if_false, Bool.false_eq_true, Option.toList_none,
        List.nil_append]
      rw [run_inField_plain t ht', List.singleton_append]
      exact run_end .inField (by simp) (c :: t) (by simp) flds e rest he

/-- a whole written record (at least one field), starting in `StartField` -/
theorem run_fields : ∀ (fs : List (List Nat)), fs ≠ [] → ∀ (flds : List (List Nat)) (rest : List Nat),
    run ⟨.startField, [], flds⟩ (join TAB (fs.map quoteField) ++ LF :: rest)
      = (flds ++ fs) :: run Csv.start rest := by
  intro fs
  induction fs with
  | nil => intro h; exact absurd rfl h
  | cons f t ih =>
    intro _ flds rest
    cases t with
    | nil =>
      simp only [List.map_cons, List.map_nil, join]
      rw [run_field f flds LF rest (Or.inr isTerm_LF)]
      simp [LF, TAB]
    | cons g u =>
      simp only [List.map_cons, join, List.append_assoc, List.cons_append]
      rw [run_field f flds TAB _ (Or.inl rfl)]
      simp only [if_true]
      have := ih (by simp) (flds ++ [f]) rest
      simp only [List.map_cons] at this
      rw [this]
      simp

/-- in `StartRecord` a byte that neither ends a line nor opens a comment is handled as in `StartField` -/
theorem run_start_eq (c : Nat) (r : List Nat) (h1 : isTerm c = false) (h2 : c ≠ HASH) :
    run Csv.start (c :: r) = run ⟨.startField, [], []⟩ (c :: r) := by
  rw [run_cons, run_cons]
  simp [step, Csv.start, h1, h2]

theorem join_cons_cons' (sep : Nat) (p q : List Nat) (r : List (List Nat)) :
    join sep (p :: q :: r) = p ++ sep :: join sep (q :: r) := rfl

theorem quoteField_head (f : List Nat) :
    (quoteField f).head? = if f.any needsQuote then some QUOTE else f.head? := by
  unfold quoteField
  split <;> rfl

/-- the first byte of a non-empty written record is neither a line end nor `#` (unless the record is `hashStart`) -/
theorem recordBody_head (fs : List (List Nat)) (hh : hashStart fs = false) (c : Nat) (r : List Nat)
    (hcr : join TAB (fs.map quoteField) = c :: r) : isTerm c = false ∧ c ≠ HASH := by
  cases fs with
  | nil => cases hcr
  | cons f t =>
    -- the first byte of the first written field, or the TAB after an empty first field
    have hc : (quoteField f).head? = some c ∨ ((quoteField f) = [] ∧ c = TAB) := by
      cases hq : quoteField f with
      | nil => cases t <;> simp_all [join]
      | cons x y => cases t <;> simp_all [join]
    rcases hc with hc | ⟨_, rfl⟩
    · rw [quoteField_head] at hc
      split at hc
      · cases hc; exact ⟨by decide, by decide⟩
      · rename_i hq
        cases f with
        | nil => cases hc
        | cons x f' =>
          cases hc
          have hq' : (c :: f').any needsQuote = false := by simpa using hq
          have hx : needsQuote c = false := by
            simp only [List.any_cons, Bool.or_eq_false_iff] at hq'
            exact hq'.1
          refine ⟨isTerm_of_plain hx, fun e => ?_⟩
          have h2 : hashStart ((c :: f') :: t) = (some c == some HASH && !(c :: f').any needsQuote) := rfl
          rw [h2, hq', e] at hh
          simp at hh
    · exact ⟨by decide, by decide⟩

theorem run_empty_record (rest : List Nat) :
    run Csv.start ([QUOTE, QUOTE] ++ LF :: rest) = [[]] :: run Csv.start rest := by
  simp only [List.cons_append, List.nil_append]
  rw [run_cons, run_cons, run_cons]
  simp [step, stepField, Csv.start, isTerm, QUOTE, HASH, LF, TAB, CR]

theorem join_quote_isEmpty (fs : List (List Nat)) (hne : fs ≠ [])
    (hb : (join TAB (fs.map quoteField)).isEmpty = true) : fs = [[]] := by
  cases fs with
  | nil => exact absurd rfl hne
  | cons f t =>
    cases t with
    | nil =>
      simp only [List.map_cons, List.map_nil, join, List.isEmpty_iff] at hb
      unfold quoteField at hb
      by_cases hq : f.any needsQuote = true
      · simp [hq] at hb
      · have hq' : f.any needsQuote = false := by simpa using hq
        simp only [hq', Bool.false_eq_true, if_false] at hb
        rw [hb]
    | cons g u =>
      simp only [List.map_cons, join, List.isEmpty_iff] at hb
      simp at hb

/-- **csv record round trip**: a written record followed by LF is read back as the original fields, whatever
bytes they contain, and the reader is at the start of a record again -/
theorem run_record (fs : List (List Nat)) (hne : fs ≠ []) (hh : hashStart fs = false) (rest : List Nat) :
    run Csv.start (recordBody fs ++ LF :: rest) = fs :: run Csv.start rest := by
  unfold recordBody
  cases hj : join TAB (fs.map quoteField) with
  | nil =>
    -- only `[[]]` is written as zero bytes
    rw [join_quote_isEmpty fs hne (by rw [hj]; rfl)]
    exact run_empty_record rest
  | cons c r =>
    obtain ⟨hc1, hc2⟩ := recordBody_head fs hh c r hj
    have := run_fields fs hne [] rest
    rw [hj] at this
    simpa [run_start_eq c _ hc1 hc2] using this

theorem run_comment_body (t : List Nat) (h : LF ∉ t) (rest : List Nat) :
    run ⟨.inComment, [], []⟩ (t ++ LF :: rest) = run Csv.start rest := by
  induction t with
  | nil =>
    simp only [List.nil_append]
    rw [run_cons]
    simp [step]
  | cons c u ih =>
    have hc : c ≠ LF := by
      intro e; apply h; simp [e]
    have hu : LF ∉ u := by
      intro e; apply h; simp [e]
    rw [List.cons_append, run_cons]
    simp only [step, hc, if_false]
    exact ih hu

theorem run_comment (t : List Nat) (h : LF ∉ t) (rest : List Nat) :
    run Csv.start (HASH :: t ++ LF :: rest) = run Csv.start rest := by
  rw [List.cons_append, run_cons]
  have : isTerm HASH = false := by decide
  simp only [step, Csv.start, this, Bool.false_eq_true, if_false, if_true]
  exact run_comment_body t h rest

theorem run_blank (rest : List Nat) : run Csv.start (LF :: rest) = run Csv.start rest := by
  rw [run_cons]
  simp [step, Csv.start, isTerm_LF]

/-- **lines**: record lines (written records), comment lines and blank lines in any order, each followed by LF, are
read as exactly the records, and the reader is at a record start for what follows -/
theorem run_items (rest : List Nat) : ∀ (items : List Item) (fss : List (List (List Nat))),
    items.filterMap Item.rec? = fss.map recordBody →
    (∀ fs ∈ fss, fs ≠ [] ∧ hashStart fs = false) →
    (∀ t, Item.comment t ∈ items → LF ∉ t) →
    run Csv.start (fileOf items ++ rest) = fss ++ run Csv.start rest := by
  intro items
  unfold fileOf
  induction items with
  | nil =>
    intro fss h _ _
    cases fss with
    | nil => rfl
    | cons _ _ => simp at h
  | cons it its ih =>
    intro fss h hok hc
    have hc' : ∀ t, Item.comment t ∈ its → LF ∉ t := fun t ht => hc t (by simp [ht])
    cases it with
    | record l =>
      cases fss with
      | nil => simp [Item.rec?] at h
      | cons fs fss' =>
        simp only [List.filterMap_cons, Item.rec?, List.map_cons, List.cons.injEq] at h
        obtain ⟨rfl, hrest⟩ := h
        obtain ⟨hne, hh⟩ := hok fs (by simp)
        simp only [List.map_cons, Item.line, render, List.append_assoc, List.cons_append]
        rw [run_record fs hne hh, ih fss' hrest (fun x hx => hok x (by simp [hx])) hc']
    | comment t =>
      simp only [List.filterMap_cons, Item.rec?] at h
      simp only [List.map_cons, Item.line, render, List.append_assoc, List.cons_append]
      have := run_comment t (hc t (by simp)) (render (its.map Item.line) ++ rest)
      simp only [List.cons_append] at this
      rw [this]
      exact ih fss h hok hc'
    | blank =>
      simp only [List.filterMap_cons, Item.rec?] at h
      simp only [List.map_cons, Item.line, render, List.nil_append, List.cons_append]
      rw [run_blank]
      exact ih fss h hok hc'

/-- **files** (the readers append one more LF) -/
theorem rows_fileOf (items : List Item) (fss : List (List (List Nat)))
    (h : items.filterMap Item.rec? = fss.map recordBody) (hok : ∀ fs ∈ fss, fs ≠ [] ∧ hashStart fs = false)
    (hc : ∀ t, Item.comment t ∈ items → LF ∉ t) : rows (fileOf items) = fss := by
  rw [rows, run_items [LF] items fss h hok hc, run_blank]
  exact List.append_nil _

/-! ## what follows a line break outside quotes never changes what was read before it -/

theorem step_LF_start (s : Csv) (h : s.st ≠ .inQuoted) : (step s LF).1 = Csv.start := by
  obtain ⟨st, fld, flds⟩ := s
  cases st <;> simp_all [step, stepField, isTerm, LF, QUOTE, TAB, CR, Csv.start]

theorem rows_append (a b : List Nat) (h : openQuote a = false) : rows (a ++ LF :: b) = rows a ++ rows b := by
  have hst : (runState Csv.start a).st ≠ .inQuoted := by
    unfold openQuote at h
    simpa using h
  have h1 := step_LF_start _ hst
  unfold rows
  rw [List.append_assoc, run_append a, run_append a [LF], List.cons_append, List.append_assoc]
  congr 1
  rw [run_cons, run_cons]
  cases hs : step (runState Csv.start a) LF with
  | mk s' o =>
    rw [hs] at h1
    simp only at h1
    subst h1
    cases o with
    | none => simp [run, finish, Csv.start]
    | some rec => simp [run, finish, Csv.start]

end RbV.Tsv
