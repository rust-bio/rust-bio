import RbV.Lemmas.MyersBlock
import RbV.Lemmas.UkkonenCell
/-!
The bit-vector step of Myers' algorithm (`Myers::_step`) computes the next Sellers column (C09 [C]): it is the block
step of `Lemmas/MyersBlock.lean` with no incoming difference, on a column that starts at 0.  `nextC` and `Enc` are the
self-contained single-word notions in which `Thm/C09.lean` states `myers_step`; everything about them is proved through
`nextCB` / `EncB` (`nextC_eq_nextCB`, `Enc.toB`, `Enc.ofB`).  From the step lemma to the whole
single-word search: the invariant `Inv` (the state encodes the true column), `inv_step`, and `findAllEnd_eq_hits`.  Core Lean only.
-/
namespace RbV.Model.MyersSimple
open RbV.EditDist RbV.Model.MyersLong

/-- the next Sellers column (search mode: row 0 stays 0) from the column `C` and the match bits `e` -/
def nextC (C : Nat → Int) (e : Nat → Bool) : Nat → Int
  | 0 => 0
  | i + 1 => min (min (C (i + 1) + 1) (nextC C e i + 1)) (C i + (if e i then 0 else 1))

/-- `pv`/`mv` hold the vertical differences of the column `C` (rows `0..m`) -/
structure Enc {w : Nat} (m : Nat) (C : Nat → Int) (pv mv : BitVec w) : Prop where
  zero : C 0 = 0
  diff : ∀ i, i < m → -1 ≤ C (i + 1) - C i ∧ C (i + 1) - C i ≤ 1
  pvb : ∀ i, i < m → (pv.getLsbD i = true ↔ C (i + 1) - C i = 1)
  mvb : ∀ i, i < m → (mv.getLsbD i = true ↔ C (i + 1) - C i = -1)

theorem nextC_eq_nextCB (C : Nat → Int) (e : Nat → Bool) : ∀ i, nextC C e i = nextCB C e 0 i
  | 0 => rfl
  | i + 1 => by rw [nextC, nextCB, nextC_eq_nextCB C e i]

theorem Enc.toB {w : Nat} {m : Nat} {C : Nat → Int} {pv mv : BitVec w} (enc : Enc m C pv mv) : EncB m C pv mv :=
  ⟨enc.diff, enc.pvb, enc.mvb⟩

theorem Enc.ofB {w : Nat} {m : Nat} {C : Nat → Int} {pv mv : BitVec w} (h0 : C 0 = 0) (enc : EncB m C pv mv) :
    Enc m C pv mv :=
  ⟨h0, enc.diff, enc.pvb, enc.mvb⟩

theorem Enc.congr {w : Nat} {m : Nat} {C C' : Nat → Int} {pv mv : BitVec w}
    (h : ∀ i, i ≤ m → C i = C' i) (enc : Enc m C pv mv) : Enc m C' pv mv :=
  Enc.ofB (by rw [← h 0 (Nat.zero_le _)]; exact enc.zero) (enc.toB.congr h)

theorem step_eq_advanceBlock {w : Nat} (m : Nat) (eq : BitVec w) (s : St w) :
    step m eq s = (advanceBlock (m - 1) eq 0 s).1 := by
  simp [step, advanceBlock]

/-- **Myers' step lemma** (single word): if `pv`/`mv` encode the Sellers column `C` and `dist = C m`, then after
`_step` they encode the next column and `dist` is its last entry -/
theorem step_enc {w : Nat} (m : Nat) (hm1 : 1 ≤ m) (hm : m ≤ w) (C : Nat → Int) (eq : BitVec w) (s : St w)
    (enc : Enc m C s.pv s.mv) (hd : (s.dist : Int) = C m) (hnn : 0 ≤ nextC C eq.getLsbD m) :
    Enc m (nextC C eq.getLsbD) (step m eq s).pv (step m eq s).mv ∧
    ((step m eq s).dist : Int) = nextC C eq.getLsbD m := by
  have em : m - 1 + 1 = m := by omega
  rw [nextC_eq_nextCB] at hnn
  have key := advanceBlock_enc (m - 1) (by omega) C eq s 0 0 (by omega) (by rw [enc.zero]; rfl)
    (em ▸ enc.toB) (em ▸ hd) (em ▸ hnn)
  rw [em, ← step_eq_advanceBlock] at key
  obtain ⟨k1, k2, _⟩ := key
  rw [funext (nextC_eq_nextCB C eq.getLsbD)]
  exact ⟨Enc.ofB rfl k1, k2⟩

/-! ### from the step lemma to the whole search -/

open RbV.Model.Ukkonen (cell cell_zero cell_nil cell_succ)

theorem ofBoolListLE'_bit (w : Nat) : ∀ (l : List Bool) (i : Nat), i < w →
    (peq.BitVec.ofBoolListLE' w l).getLsbD i = l[i]?.getD false := by
  intro l
  induction l with
  | nil => intro i _; simp [peq.BitVec.ofBoolListLE']
  | cons b bs ih =>
    intro i hi
    simp only [peq.BitVec.ofBoolListLE', BitVec.getLsbD_or, BitVec.getLsbD_shiftLeft]
    cases i with
    | zero =>
      cases b <;> simp
      all_goals omega
    | succ j =>
      have := ih j (by omega)
      have hw : decide (j + 1 < w) = true := by simp; omega
      cases b <;> simp [hw, this]

theorem peq_bit (w : Nat) (eqv : Nat → Nat → Bool) (p : List Nat) (a i : Nat) (hi : i < p.length) (hw : p.length ≤ w) :
    (peq w eqv p a).getLsbD i = eqv p[i] a := by
  unfold peq
  rw [ofBoolListLE'_bit w _ i (by omega)]
  simp [hi]

/-- the column recursion on the true cells -/
theorem nextC_cell (eqv : Nat → Nat → Bool) (p u : List Nat) (c : Nat) (e : Nat → Bool)
    (he : ∀ i, (hi : i < p.length) → e i = eqv p[i] c) :
    ∀ i, i ≤ p.length →
      nextC (fun i => (cell (unitW eqv) p u i : Int)) e i = (cell (unitW eqv) p (u ++ [c]) i : Int) := by
  intro i
  induction i with
  | zero => intro _; simp [nextC, cell_zero]
  | succ i ih =>
    intro hi
    have hlt : i < p.length := by omega
    simp only [nextC]
    rw [ih (by omega), cell_succ (unitW eqv) p u c i hlt, he i hlt]
    unfold unitW
    cases eqv p[i] c <;> simp only [Bool.false_eq_true, if_true, if_false, Lean.Omega.Int.ofNat_min] <;> push_cast <;>
      ac_rfl

/-- the state after the text prefix `u` -/
structure Inv {w : Nat} (eqv : Nat → Nat → Bool) (p u : List Nat) (s : St w) : Prop where
  enc : Enc p.length (fun i => (cell (unitW eqv) p u i : Int)) s.pv s.mv
  dist : s.dist = cell (unitW eqv) p u p.length

theorem inv_init (w : Nat) (eqv : Nat → Nat → Bool) (p : List Nat) (hw : p.length ≤ w) :
    Inv eqv p [] (init w p.length) := by
  refine ⟨Enc.ofB (by simp [cell_zero]) (EncB.allOnes hw fun i hi => ?_), by simp [init, cell_nil]⟩
  rw [cell_nil (unitW eqv) p i (by omega), cell_nil (unitW eqv) p (i + 1) (by omega)]
  omega

theorem inv_step {w : Nat} (eqv : Nat → Nat → Bool) (p u : List Nat) (c : Nat) (s : St w)
    (hm1 : 1 ≤ p.length) (hw : p.length ≤ w) (inv : Inv eqv p u s) :
    Inv eqv p (u ++ [c]) (step p.length (peq w eqv p c) s) := by
  have hcell := nextC_cell eqv p u c (peq w eqv p c).getLsbD (fun i hi => peq_bit w eqv p c i hi hw)
  have hd : (s.dist : Int) = (fun i => (cell (unitW eqv) p u i : Int)) p.length := by simp [inv.dist]
  have hnn : 0 ≤ nextC (fun i => (cell (unitW eqv) p u i : Int)) (peq w eqv p c).getLsbD p.length := by
    rw [hcell p.length (Nat.le_refl _)]; omega
  obtain ⟨e1, e2⟩ := step_enc p.length hm1 hw _ (peq w eqv p c) s inv.enc hd hnn
  refine ⟨Enc.congr hcell e1, ?_⟩
  rw [hcell p.length (Nat.le_refl _)] at e2
  exact Int.ofNat_inj.mp e2

end RbV.Model.MyersSimple

/- `stepO` stands under the name by which `Thm/C09.lean` (`myers_next_source_eq_model`) and the source-level proofs know it. -/
namespace RbV.Thm.GenSrcMyersMatches
open RbV.EditDist RbV.Model.MyersSimple RbV.Thm.GenSrcScanD
open RbV.Model.Ukkonen (report)

/-- one model step and what it reports -/
def stepO (w : Nat) (eqv : Nat → Nat → Bool) (p : List Nat) (k : Nat) (s : St w) (c : Nat) : St w × Option Nat :=
  (step p.length (peq w eqv p c) s,
    if (step p.length (peq w eqv p c) s).dist ≤ k then some (step p.length (peq w eqv p c) s).dist else none)

theorem runO_eq_run (w : Nat) (eqv : Nat → Nat → Bool) (p : List Nat) (k : Nat) : ∀ (t : List Nat) (s : St w) (i : Nat),
    runO (stepO w eqv p k) s i t = run eqv p k s i t := by
  intro t
  induction t with
  | nil => intro s i; simp [runO, run]
  | cons c t ih =>
    intro s i
    simp only [runO, run, stepO]
    by_cases h : (step p.length (peq w eqv p c) s).dist ≤ k <;> simp [h, ih]

theorem stepO_spec {w : Nat} (eqv : Nat → Nat → Bool) (p : List Nat) (k : Nat) (hm1 : 1 ≤ p.length) (hw : p.length ≤ w)
    (u : List Nat) (s : St w) (c : Nat) (inv : Inv eqv p u s) :
    Inv eqv p (u ++ [c]) (stepO w eqv p k s c).1 ∧ (stepO w eqv p k s c).2 = report (unitW eqv) p k (u ++ [c]) := by
  have inv' := inv_step eqv p u c s hm1 hw inv
  exact ⟨inv', by simp only [stepO, report, inv'.dist]⟩

end RbV.Thm.GenSrcMyersMatches

namespace RbV.Model.MyersSimple
open RbV.EditDist

/-- **Myers, single word**: for a pattern of 1 … w symbols the mirror model of `Myers<T>::find_all_end` (bit-vector
step `_step` on `w`-bit words) reports exactly the pairs (end, d), d ≤ k, of the Sellers column — for every symbol
equivalence (ambiguity/wildcard tables), text and k -/
theorem findAllEnd_eq_hits (w : Nat) (eqv : Nat → Nat → Bool) (p t : List Nat) (k : Nat)
    (hm1 : 1 ≤ p.length) (hw : p.length ≤ w) :
    findAllEnd w eqv p t k = hits (unitW eqv) p t k := by
  unfold findAllEnd
  rw [← Thm.GenSrcMyersMatches.runO_eq_run]
  exact Ukkonen.runO_eq_hits (unitW eqv) p k _ (Inv eqv p) (Thm.GenSrcMyersMatches.stepO_spec eqv p k hm1 hw) _
    (inv_init w eqv p hw) t

end RbV.Model.MyersSimple
