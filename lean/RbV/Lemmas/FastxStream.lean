import RbV.Model.FastxStream
import RbV.Lemmas.BufLines
import RbV.Lemmas.UniWs
/-!
# The stateful FASTA/FASTQ readers over the `BufReader` model compute the list models  (C11)

In the order of the file:
* for every capacity and schedule the readers never un-read and hand on valid lines (`readLineStr_le_of_eq`, `faReadS_inv`,
  `fqReadS_le`, …: what the proofs about the translated text need);
* with capacity ≥ 1 and an admissible schedule, one `read_line` (`readLineStr_none` / `_nil` / `_line`), then one `read` and the whole
  `Records` in terms of the lines still to come: FASTA (`faReadS_spec`, `faDrain_spec`), FASTQ (`fqReadS_spec`, `fqDrain_spec`);
  `Records` ends after at most lines + 2 (FASTA) / lines + 1 (FASTQ) calls of `next` (`faNextCalls_spec`, `fqNextCalls_spec`);
* [A] `parseFastaVia T c sched file = parseFastaU T file`, `parseFastqVia T c sched file = parseFastqU T file` for every
  capacity ≥ 1, every admissible schedule and **every** byte string (UTF-8 errors included);
* [B] when every line is valid UTF-8 the `…U` models are the plain list models of `Fasta.lean` / `Fastq.lean` (FASTA here;
  FASTQ: `fqRecordsU_valid` in `FastqPrefixUtf8.lean`, a case of the cut-stream theorem).

`T`, `c`, `sched` are explicit in every lemma of the file (in this order, before the lemma's own arguments); `hc`, `hs` follow them where
`include hc hs in` stands.  Only the lemmas about one `readLineStr` call take `c`, `sched` and the two states from their equation.
-/
namespace RbV.Fastx
open RbV.BufLines

variable (T : Txt) (c : Nat) (sched : Nat → Nat)

/-! ## Every capacity, every schedule: the readers never un-read, and a line they hand on is valid UTF-8

What `Thm/GenSrcFasta.lean`, `Thm/GenSrcFastq.lean` need of the mirror for the fuel of the translated loops and for `self.line[1..]`. -/

section
variable {c sched} {rd rd' : St}

theorem readLineStr_valid_of_eq {l : Bytes} (h : readLineStr c sched rd = (some l, rd')) : validUtf8 l = true := by
  have : (readLineStr c sched rd).1 = some l := by rw [h]
  unfold readLineStr at this
  simp only at this
  split at this
  · rename_i hh; simp only [Option.some.injEq] at this; rw [← this]; exact hh
  · cases this

theorem readLineStr_le_of_eq {o : Option Bytes} (h : readLineStr c sched rd = (o, rd')) :
    rd'.pending.length ≤ rd.pending.length := by
  obtain rfl : rd' = (readLineStr c sched rd).2 := by rw [h]
  have := readUntil_length c sched rd []
  simp only [readLineStr, readLine, List.length_nil] at this ⊢
  omega

theorem readLineStr_lt_of_eq {l : Bytes} (h : readLineStr c sched rd = (some l, rd')) (hl : l.isEmpty = false) :
    rd'.pending.length < rd.pending.length := by
  have hp := readLineStr_progress c sched rd
  rw [h] at hp
  rcases hp with hp | hp
  · simp only [Option.some.injEq] at hp
    simp [hp] at hl
  · exact hp

end

theorem faLoop_inv (rd : St) (seq : Bytes) :
    (faLoop T c sched rd seq).2.pending.length ≤ rd.pending.length ∧
      ∀ p, (faLoop T c sched rd seq).1 = some p → validUtf8 p.2 = true := by
  fun_induction faLoop T c sched rd seq with
  | case1 rd seq rd' h => exact ⟨readLineStr_le_of_eq h, by intro p hp; cases hp⟩
  | case2 rd seq l rd' h hc2 =>
    refine ⟨readLineStr_le_of_eq h, ?_⟩
    intro p hp
    simp only [Option.some.injEq] at hp
    subst hp
    exact readLineStr_valid_of_eq h
  | case3 rd seq l rd' h hc3 ih => exact ⟨Nat.le_trans ih.1 (readLineStr_le_of_eq h), ih.2⟩

/-- `read` never un-reads, and the look-ahead line it leaves is valid UTF-8 -/
theorem faReadS_inv (r : FaReader) (hv : validUtf8 r.line = true) :
    (faReadS T c sched r).2.rd.pending.length ≤ r.rd.pending.length ∧ validUtf8 (faReadS T c sched r).2.line = true := by
  have hfh : ∀ r : FaReader, validUtf8 r.line = true →
      (faFromHeader T c sched r).2.rd.pending.length ≤ r.rd.pending.length ∧
        validUtf8 (faFromHeader T c sched r).2.line = true := by
    intro r hv
    have hi := faLoop_inv T c sched r.rd []
    fun_cases faFromHeader T c sched r with
    | case1 => exact ⟨Nat.le_refl _, hv⟩
    | case2 _ rd' h => rw [h] at hi; exact ⟨hi.1, rfl⟩
    | case3 _ sq l rd' h => rw [h] at hi; exact ⟨hi.1, hi.2 _ rfl⟩
  fun_cases faReadS T c sched r with
  | case1 _ rd' h | case2 _ l rd' h => exact ⟨readLineStr_le_of_eq h, rfl⟩
  | case3 _ l rd' h _ =>
    have := hfh { rd := rd', line := l } (readLineStr_valid_of_eq h)
    exact ⟨Nat.le_trans this.1 (readLineStr_le_of_eq h), this.2⟩
  | case4 => exact hfh r hv

theorem fqSeqLoop_le (rd : St) (seq : Bytes) (n : Nat) :
    (fqSeqLoop T c sched rd seq n).2.pending.length ≤ rd.pending.length := by
  fun_induction fqSeqLoop T c sched rd seq n with
  | case1 rd seq n rd' h | case2 rd seq n l rd' h hc2 => exact readLineStr_le_of_eq h
  | case3 rd seq n l rd' h hc3 ih => exact Nat.le_trans ih (readLineStr_le_of_eq h)

theorem fqQualLoop_le :
    ∀ (n : Nat) (rd : St) (q : Bytes), (fqQualLoop T c sched n rd q).2.pending.length ≤ rd.pending.length := by
  intro n
  induction n with
  | zero => intro rd q; simp [fqQualLoop]
  | succ n ih =>
    intro rd q
    simp only [fqQualLoop]
    cases hq : readLineStr c sched rd with
    | mk o rd' =>
      cases o with
      | none => exact readLineStr_le_of_eq hq
      | some l => exact Nat.le_trans (ih rd' (q ++ T.trim l)) (readLineStr_le_of_eq hq)

/-- `read` never un-reads -/
theorem fqReadS_le (rd : St) :
    (fqReadS T c sched rd).2.pending.length ≤ rd.pending.length := by
  have b (rd) := fqSeqLoop_le T c sched rd [] 0
  have d (n rd) := fqQualLoop_le T c sched n rd []
  fun_cases fqReadS T c sched rd with
  | case1 rd1 h1 | case2 l rd1 h1 | case3 l rd1 h1 => exact readLineStr_le_of_eq h1
  | case4 l rd1 h1 _ _ rd2 h2 =>
    have b := b rd1; rw [h2] at b; exact Nat.le_trans b (readLineStr_le_of_eq h1)
  | case5 l rd1 h1 _ _ sq n rd2 h2 rd3 h3 | case6 l rd1 h1 _ _ sq n rd2 h2 q rd3 h3 | case7 l rd1 h1 _ _ sq n rd2 h2 q rd3 h3 =>
    have b := b rd1; have d := d n rd2; rw [h2] at b; rw [h3] at d
    exact Nat.le_trans d (Nat.le_trans b (readLineStr_le_of_eq h1))

/-- a record the mirror's `read` returns has non-empty qualities (an empty quality string is `IncompleteRecord`) -/
theorem fqReadS_ok_qual_ne (rd : St) (r : FqRec) :
    (fqReadS T c sched rd).1 = .item (.ok r) → r.qual ≠ [] := by
  fun_cases fqReadS T c sched rd with
  | case7 l rd1 _ _ _ sq n rd2 _ q rd3 _ hq => intro h; cases h; simpa using hq
  | _ => intro h; cases h

/-! ## Capacity ≥ 1 and an admissible schedule: one `read_line` in terms of the lines still to come -/

variable (hc : 1 ≤ c) (hs : Admissible sched)

theorem splitLines_eq_nil_iff (f : Bytes) : splitLines f = [] ↔ f = [] := by
  constructor
  · intro h
    cases f with
    | nil => rfl
    | cons b r => rw [splitLines_eq_firstLine _ (by simp)] at h; cases h
  · rintro rfl; rfl

section
variable {c sched} {rd rd' : St}
include hc hs

theorem readLineStr_eq {o : Option Bytes} (h : readLineStr c sched rd = (o, rd')) :
    o = (if validUtf8 (firstLine rd.pending).1 then some (firstLine rd.pending).1 else none) ∧
      rd'.pending = (firstLine rd.pending).2 := by
  have hsp := readLine_spec c sched hc hs rd
  unfold readLineStr at h
  rw [hsp.1] at h
  cases h
  exact ⟨rfl, hsp.2⟩

/-! in terms of the lines still to come, per outcome of the call: the error, end of input, a line -/

theorem readLineStr_none (h : readLineStr c sched rd = (none, rd')) :
    ∃ l, validUtf8 l = false ∧ splitLines rd.pending = l :: splitLines rd'.pending := by
  obtain ⟨ho, hp⟩ := readLineStr_eq hc hs h
  refine ⟨(firstLine rd.pending).1, ?_, ?_⟩
  · cases hv : validUtf8 (firstLine rd.pending).1
    · rfl
    · simp [hv] at ho
  · rw [hp]
    exact splitLines_eq_firstLine _ fun e => by simp [e, firstLine, validUtf8] at ho

theorem readLineStr_nil (h : readLineStr c sched rd = (some [], rd')) : rd.pending = [] ∧ rd'.pending = [] := by
  obtain ⟨ho, hp⟩ := readLineStr_eq hc hs h
  have : rd.pending = [] := by
    apply (firstLine_fst_eq_nil _).mp
    split at ho
    · exact (Option.some.inj ho).symm
    · cases ho
  rw [hp, this]
  exact ⟨rfl, rfl⟩

theorem readLineStr_line {l : Bytes} (h : readLineStr c sched rd = (some l, rd')) (hl : l.isEmpty = false) :
    validUtf8 l = true ∧ splitLines rd.pending = l :: splitLines rd'.pending := by
  obtain ⟨ho, hp⟩ := readLineStr_eq hc hs h
  split at ho
  · rename_i hv
    obtain rfl := Option.some.inj ho
    refine ⟨hv, ?_⟩
    rw [hp]
    exact splitLines_eq_firstLine _ fun e => by simp [e, firstLine] at hl
  · cases ho

end

/-! ## FASTA: one `read`, `Records`, the number of `next` calls -/

/-- the reader state `r` stands for the lines `ls` still to be parsed -/
def FaRep (r : FaReader) (ls : List Bytes) : Prop :=
  validUtf8 r.line = true ∧ ls = (if r.line = [] then [] else [r.line]) ++ splitLines r.rd.pending

include hc hs in
theorem faLoop_spec (rd : St) (seq : Bytes) :
    match faSeqU T (splitLines rd.pending) with
    | none => (faLoop T c sched rd seq).1 = none
    | some p => ∃ line, (faLoop T c sched rd seq).1 = some (seq ++ p.1, line) ∧
        FaRep { rd := (faLoop T c sched rd seq).2, line := line } p.2 := by
  fun_induction faLoop T c sched rd seq with
  | case1 rd seq rd' h =>
    obtain ⟨l, hv, hsp⟩ := readLineStr_none hc hs h
    simp [hsp, faSeqU, hv]
  | case2 rd seq l rd' h hc2 =>
    cases he : l.isEmpty
    · obtain ⟨hv, hsp⟩ := readLineStr_line hc hs h he
      have hne : l ≠ [] := List.isEmpty_eq_false_iff.mp he
      simp [hsp, faSeqU, hv, show startsWith l 62 = true by simpa [he] using hc2, FaRep, hne]
    · obtain rfl : l = [] := by simpa using he
      obtain ⟨hp, hp'⟩ := readLineStr_nil hc hs h
      simp [hp, splitLines, faSeqU, FaRep, validUtf8, hp']
  | case3 rd seq l rd' h hc3 ih =>
    simp only [Bool.or_eq_true, not_or, Bool.not_eq_true] at hc3
    obtain ⟨hv, hsp⟩ := readLineStr_line hc hs h hc3.1
    rw [hsp]
    simp only [faSeqU, hv, hc3.2]
    cases hq : faSeqU T (splitLines rd'.pending) with
    | none => rw [hq] at ih; simpa using ih
    | some p =>
      rw [hq] at ih
      obtain ⟨line, h1, h2⟩ := ih
      exact ⟨line, by simpa using h1, h2⟩

/-- the outcome of one `Reader::read` in terms of the lines still to come.  A predicate, where FASTQ has an equation (`fqReadS_spec`):
the FASTQ model is built from a one-record function `fqReadU`, `faRecordsU` is defined directly and has none to be equal to -/
def FaReadSpec (out : FaOut × FaReader) : List Bytes → Prop
  | [] => out.1 = .record { id := [], desc := none, seq := [] }
  | l :: rest =>
    if validUtf8 l = false then out.1 = .utf8
    else if startsWith l 62 = false then out.1 = .err
    else match faSeqU T rest with
      | none => out.1 = .utf8
      | some p => out.1 = .record { id := (T.faHdr l).1, desc := (T.faHdr l).2, seq := p.1 } ∧ FaRep out.2 p.2

include hc hs in
theorem faFromHeader_spec (r : FaReader)
    (hv : validUtf8 r.line = true) :
    FaReadSpec T (faFromHeader T c sched r) (r.line :: splitLines r.rd.pending) := by
  unfold FaReadSpec faFromHeader
  simp only [hv, Bool.true_eq_false, if_false]
  by_cases hst : startsWith r.line 62 = true
  · simp only [hst, Bool.not_true, Bool.false_eq_true, if_false, Bool.true_eq_false]
    have := faLoop_spec T c sched hc hs r.rd []
    cases hq : faSeqU T (splitLines r.rd.pending) with
    | none =>
      rw [hq] at this
      simp only at this ⊢
      split
      · rfl
      · rename_i heq; rw [heq] at this; cases this
    | some p =>
      rw [hq] at this
      obtain ⟨line, h1, h2⟩ := this
      simp only
      split
      · rename_i heq; rw [heq] at h1; cases h1
      · rename_i sq l rd' heq
        rw [heq] at h1 h2
        simp only [Option.some.injEq, Prod.mk.injEq, List.nil_append] at h1
        obtain ⟨rfl, rfl⟩ := h1
        exact ⟨rfl, h2⟩
  · have hst' : startsWith r.line 62 = false := by simpa using hst
    simp [hst']

include hc hs in
theorem faReadS_spec (r : FaReader)
    (ls : List Bytes) (hr : FaRep r ls) : FaReadSpec T (faReadS T c sched r) ls := by
  obtain ⟨hv, rfl⟩ := hr
  fun_cases faReadS T c sched r with
  | case1 he rd' h =>
    have hl : r.line = [] := by simpa using he
    obtain ⟨l, hv', hsp⟩ := readLineStr_none hc hs h
    simp [hl, hsp, FaReadSpec, hv']
  | case2 he l rd' h hle =>
    have hl : r.line = [] := by simpa using he
    obtain rfl : l = [] := by simpa using hle
    simp [hl, (readLineStr_nil hc hs h).1, splitLines, FaReadSpec]
  | case3 he l rd' h hle =>
    have hl : r.line = [] := by simpa using he
    obtain ⟨hv', hsp⟩ := readLineStr_line hc hs h (by simpa using hle)
    simp only [hl, if_true, List.nil_append, hsp]
    exact faFromHeader_spec T c sched hc hs { rd := rd', line := l } hv'
  | case4 he =>
    have hl : r.line ≠ [] := by simpa using he
    simp only [hl, if_false, List.singleton_append]
    exact faFromHeader_spec T c sched hc hs r hv

theorem faRecordsU_cons (l : Bytes) (rest : List Bytes) :
    faRecordsU T (l :: rest) =
      if validUtf8 l = false then [.utf8]
      else if startsWith l 62 = false then [.item .err]
      else match faSeqU T rest with
        | none => [.utf8]
        | some p =>
          if ({ id := (T.faHdr l).1, desc := (T.faHdr l).2, seq := p.1 } : FaRec).isEmpty then []
          else .item (.ok { id := (T.faHdr l).1, desc := (T.faHdr l).2, seq := p.1 }) :: faRecordsU T p.2 := by
  rw [faRecordsU]
  cases hv : validUtf8 l <;> cases hst : startsWith l 62 <;> simp only [Bool.not_true, Bool.not_false, if_true,
    if_false, Bool.false_eq_true, Bool.true_eq_false]
  split <;> rename_i heq <;> rw [heq]

include hc hs in
theorem faDrain_spec (fuel : Nat) :
    ∀ (r : FaReader) (ls : List Bytes), FaRep r ls → ls.length < fuel →
      (faDrain T c sched fuel r).1 = faRecordsU T ls := by
  induction fuel with
  | zero => intro r ls _ h; omega
  | succ fuel ih =>
    intro r ls hr hlen
    have hsp := faReadS_spec T c sched hc hs r ls hr
    unfold faDrain
    cases hrd : faReadS T c sched r with
    | mk out r' =>
    rw [hrd] at hsp
    cases ls with
    | nil =>
      simp only [FaReadSpec] at hsp
      subst hsp
      simp [FaRec.isEmpty, faRecordsU]
    | cons l rest =>
      simp only [FaReadSpec] at hsp
      rw [faRecordsU_cons]
      cases hv : validUtf8 l with
      | false => simp only [hv, if_true] at hsp ⊢; subst hsp; rfl
      | true =>
        cases hst : startsWith l 62 with
        | false => simp only [hv, hst, if_true, if_false, Bool.true_eq_false] at hsp ⊢; subst hsp; rfl
        | true =>
          simp only [hv, hst, if_false, Bool.true_eq_false] at hsp ⊢
          cases hq : faSeqU T rest with
          | none => rw [hq] at hsp; simp only at hsp ⊢; subst hsp; rfl
          | some p =>
            rw [hq] at hsp
            simp only at hsp ⊢
            obtain ⟨h1, h2⟩ := hsp
            subst h1
            have hlen' := faSeqU_length_le T rest p hq
            simp only [List.length_cons] at hlen
            simp only
            split
            · rfl
            · rw [ih _ p.2 h2 (by omega)]

/-- the calls of `Records::next`: one per item, and the one that returns `None`; out of fuel only when as many items as
the fuel were drained -/
theorem faNextCalls_drain (fuel : Nat) : ∀ r : FaReader,
    (∀ n, faNextCalls T c sched fuel r = some n → n = (faDrain T c sched fuel r).1.length + 1) ∧
    (faNextCalls T c sched fuel r = none → (faDrain T c sched fuel r).1.length = fuel) := by
  induction fuel with
  | zero => intro r; simp [faNextCalls, faDrain]
  | succ fuel ih =>
    intro r
    unfold faNextCalls faDrain
    rcases faReadS T c sched r with ⟨x | _ | _, r'⟩
    · cases hx : x.isEmpty
      · simpa [hx] using ih r'
      · simp [hx]
    · simp
    · simp

/-- every item but a last error uses up a header line -/
theorem faRecordsU_length_le (ls : List Bytes) : (faRecordsU T ls).length ≤ ls.length := by
  fun_induction faRecordsU T ls with
  | case1 => simp
  | case2 | case3 | case4 => simp
  | case5 => simp
  | case6 l ls _ _ p hq r _ ih =>
    have := faSeqU_length_le T ls p hq
    simp only [List.length_cons]; omega

include hc hs in
/-- `Records` ends: `next` returns `None` after at most two calls more than there are lines still to come -/
theorem faNextCalls_spec (fuel : Nat)
    (r : FaReader) (ls : List Bytes) (hr : FaRep r ls) (hlen : ls.length < fuel) :
    ∃ n, faNextCalls T c sched fuel r = some n ∧ n ≤ ls.length + 2 := by
  have h := faNextCalls_drain T c sched fuel r
  have hl := faRecordsU_length_le T ls
  rw [faDrain_spec T c sched hc hs fuel r ls hr hlen] at h
  cases hn : faNextCalls T c sched fuel r with
  | none => have := h.2 hn; omega
  | some n => have := h.1 n hn; exact ⟨n, rfl, by omega⟩

/-! ## FASTQ -/

include hc hs in
theorem fqSeqLoop_spec (rd : St) (seq : Bytes)
    (n : Nat) :
    match fqSeqU T (splitLines rd.pending) with
    | .error r => (fqSeqLoop T c sched rd seq n).1 = none ∧ splitLines (fqSeqLoop T c sched rd seq n).2.pending = r
    | .ok p => (fqSeqLoop T c sched rd seq n).1 = some (seq ++ p.1, n + p.2.1) ∧
        splitLines (fqSeqLoop T c sched rd seq n).2.pending = p.2.2.tail := by
  fun_induction fqSeqLoop T c sched rd seq n with
  | case1 rd seq n rd' h =>
    obtain ⟨l, hv, hsp⟩ := readLineStr_none hc hs h
    simp [hsp, fqSeqU, hv]
  | case2 rd seq n l rd' h hc2 =>
    cases he : l.isEmpty
    · obtain ⟨hv, hsp⟩ := readLineStr_line hc hs h he
      simp [hsp, fqSeqU, hv, show startsWith l 43 = true by simpa [he] using hc2]
    · obtain rfl : l = [] := by simpa using he
      obtain ⟨hp, hp'⟩ := readLineStr_nil hc hs h
      simp [hp, hp', splitLines, fqSeqU]
  | case3 rd seq n l rd' h hc3 ih =>
    simp only [Bool.or_eq_true, not_or, Bool.not_eq_true] at hc3
    obtain ⟨hv, hsp⟩ := readLineStr_line hc hs h hc3.1
    rw [hsp]
    simp only [fqSeqU, hv, hc3.2]
    cases hq : fqSeqU T (splitLines rd'.pending) <;> rw [hq] at ih <;> simpa [Nat.add_assoc, Nat.add_comm 1] using ih

include hc hs in
theorem fqQualLoop_spec (n : Nat) :
    ∀ (rd : St) (q : Bytes),
    match fqQualU T n (splitLines rd.pending) with
    | .error r => (fqQualLoop T c sched n rd q).1 = none ∧ splitLines (fqQualLoop T c sched n rd q).2.pending = r
    | .ok p => (fqQualLoop T c sched n rd q).1 = some (q ++ p.1) ∧
        splitLines (fqQualLoop T c sched n rd q).2.pending = p.2 := by
  induction n with
  | zero => intro rd q; simp [fqQualU, fqQualLoop]
  | succ n ih =>
    intro rd q
    unfold fqQualLoop
    cases hrd : readLineStr c sched rd with
    | mk o rd' =>
    rcases o with _ | l
    · obtain ⟨l, hv, hsp⟩ := readLineStr_none hc hs hrd
      simp [hsp, fqQualU, hv]
    · cases he : l.isEmpty
      · obtain ⟨hv, hsp⟩ := readLineStr_line hc hs hrd he
        rw [hsp]
        simp only [fqQualU, hv, Bool.not_true, Bool.false_eq_true, if_false]
        have := ih rd' (q ++ T.trim l)
        cases hq : fqQualU T n (splitLines rd'.pending) <;> rw [hq] at this <;> simpa using this
      · obtain rfl : l = [] := by simpa using he
        obtain ⟨hp, hp'⟩ := readLineStr_nil hc hs hrd
        have := ih rd' (q ++ T.trim [])
        rw [hp', splitLines] at this
        simpa [hp, splitLines, fqQualU, T.trim_nil] using this

/-- an item of the list model as an outcome of `read` -/
def SItem.toFqOut : SItem FqItem → FqOut
  | .item i => .item i
  | .utf8 => .utf8

include hc hs in
/-- one `read` is the one-record model function `fqReadU` on the lines still to come (FASTA: the predicate `FaReadSpec`) -/
theorem fqReadS_spec (rd : St) :
    match splitLines rd.pending with
    | [] => (fqReadS T c sched rd).1 = .eof ∧ (fqReadS T c sched rd).2.pending = []
    | l :: rest => (fqReadS T c sched rd).1 = (fqReadU T l rest).1.toFqOut ∧
        splitLines (fqReadS T c sched rd).2.pending = (fqReadU T l rest).2 := by
  unfold fqReadS
  cases hrd : readLineStr c sched rd with
  | mk o rd1 =>
  rcases o with _ | l
  · obtain ⟨l, hv, hsp⟩ := readLineStr_none hc hs hrd
    simp [hsp, fqReadU, hv, SItem.toFqOut]
  · cases hne : l.isEmpty
    case true =>
      obtain rfl : l = [] := by simpa using hne
      obtain ⟨hp, hp'⟩ := readLineStr_nil hc hs hrd
      simp [hp, splitLines, hp']
    case false =>
      obtain ⟨hv, hsp⟩ := readLineStr_line hc hs hrd hne
      rw [hsp]
      simp only [hne, Bool.false_eq_true, if_false]
      cases hst : startsWith l 64 with
      | false => simp [fqReadU, hv, hst, SItem.toFqOut]
      | true =>
        simp only [fqReadU, hv, hst, Bool.not_true, Bool.false_eq_true, if_false]
        have h1 := fqSeqLoop_spec T c sched hc hs rd1 [] 0
        cases hl1 : fqSeqLoop T c sched rd1 [] 0 with
        | mk o2 rd2 =>
        simp only [hl1, List.nil_append, Nat.zero_add] at h1
        cases hq : fqSeqU T (splitLines rd1.pending) with
        | error r =>
          simp only [hq] at h1
          obtain ⟨rfl, h1b⟩ := h1
          simp [SItem.toFqOut, h1b]
        | ok p =>
          simp only [hq] at h1
          obtain ⟨rfl, h1b⟩ := h1
          simp only
          have h2 := fqQualLoop_spec T c sched hc hs p.2.1 rd2 []
          cases hl2 : fqQualLoop T c sched p.2.1 rd2 [] with
          | mk o3 rd3 =>
          simp only [hl2, h1b, List.nil_append] at h2
          cases hq2 : fqQualU T p.2.1 p.2.2.tail with
          | error r =>
            simp only [hq2] at h2
            obtain ⟨rfl, h2b⟩ := h2
            simp [SItem.toFqOut, h2b]
          | ok q =>
            simp only [hq2] at h2
            obtain ⟨rfl, h2b⟩ := h2
            simp only
            cases hqe : q.1.isEmpty <;> simp [SItem.toFqOut, h2b]

theorem fqRecordsU_cons (l : Bytes) (rest : List Bytes) :
    fqRecordsU T (l :: rest) = (fqReadU T l rest).1 :: fqRecordsU T (fqReadU T l rest).2 := by
  rw [fqRecordsU]

include hc hs in
theorem fqDrain_spec (fuel : Nat) :
    ∀ (rd : St), (splitLines rd.pending).length < fuel →
      (fqDrain T c sched fuel rd).1 = fqRecordsU T (splitLines rd.pending) := by
  induction fuel with
  | zero => intro rd h; omega
  | succ fuel ih =>
    intro rd hlen
    have hsp := fqReadS_spec T c sched hc hs rd
    unfold fqDrain
    cases hrd : fqReadS T c sched rd with
    | mk out rd' =>
    rw [hrd] at hsp
    cases hls : splitLines rd.pending with
    | nil =>
      rw [hls] at hsp
      simp only at hsp
      rw [hsp.1]
      simp [fqRecordsU]
    | cons l rest =>
      rw [hls] at hsp hlen
      simp only at hsp
      obtain ⟨h1, h2⟩ := hsp
      have hle := fqReadU_length_le T l rest
      simp only [List.length_cons] at hlen
      have hih := ih rd' (by rw [h2]; omega)
      rw [fqRecordsU_cons, h1]
      cases (fqReadU T l rest).1 <;> simp [SItem.toFqOut, hih, h2]

theorem fqNextCalls_drain (fuel : Nat) : ∀ rd : St,
    (∀ n, fqNextCalls T c sched fuel rd = some n → n = (fqDrain T c sched fuel rd).1.length + 1) ∧
    (fqNextCalls T c sched fuel rd = none → (fqDrain T c sched fuel rd).1.length = fuel) := by
  induction fuel with
  | zero => intro rd; simp [fqNextCalls, fqDrain]
  | succ fuel ih =>
    intro rd
    unfold fqNextCalls fqDrain
    rcases fqReadS T c sched rd with ⟨_ | _ | _, rd'⟩
    · simp
    · simpa using ih rd'
    · simpa using ih rd'

/-- every `read` uses up a line -/
theorem fqRecordsU_length_le (ls : List Bytes) : (fqRecordsU T ls).length ≤ ls.length := by
  fun_induction fqRecordsU T ls with
  | case1 => simp
  | case2 l ls ih =>
    have := fqReadU_length_le T l ls
    simp only [List.length_cons]; omega

include hc hs in
/-- `fastq::Records` ends: at most one `next` call per line, plus one -/
theorem fqNextCalls_spec (fuel : Nat)
    (rd : St) (hlen : (splitLines rd.pending).length < fuel) :
    ∃ n, fqNextCalls T c sched fuel rd = some n ∧ n ≤ (splitLines rd.pending).length + 1 := by
  have h := fqNextCalls_drain T c sched fuel rd
  have hl := fqRecordsU_length_le T (splitLines rd.pending)
  rw [fqDrain_spec T c sched hc hs fuel rd hlen] at h
  cases hn : fqNextCalls T c sched fuel rd with
  | none => have := h.2 hn; omega
  | some n => have := h.1 n hn; exact ⟨n, rfl, by omega⟩

/-! ## [A] the stateful readers compute the list models with the UTF-8 check -/

include hc hs in
theorem parseFastaVia_eq (file : Bytes) :
    parseFastaVia T c sched file = parseFastaU T file := by
  unfold parseFastaVia parseFastaU
  apply faDrain_spec T c sched hc hs
  · exact ⟨rfl, by simp [init, St.pending]⟩
  · exact splitLines_length_lt file

include hc hs in
theorem parseFastqVia_eq (file : Bytes) :
    parseFastqVia T c sched file = parseFastqU T file := by
  unfold parseFastqVia parseFastqU
  have h := fqDrain_spec T c sched hc hs (file.length + 1) (init file)
  simp only [init, St.pending, List.nil_append] at h
  exact h (splitLines_length_lt file)

/-! ## [B] on lines that are valid UTF-8 and on which `T` agrees with the ASCII text functions, the `…U` models are
the plain list models -/

section

/-- every line is valid UTF-8 and `T` computes on it what the list models compute -/
def AllValid (ls : List Bytes) : Prop := ∀ l ∈ ls, validUtf8 l = true ∧ T.AgreesOn l

variable {T}

theorem AllValid.tail {l : Bytes} {ls : List Bytes} (h : AllValid T (l :: ls)) : AllValid T ls :=
  fun x hx => h x (List.mem_cons_of_mem _ hx)

theorem faSeq_subset (ls : List Bytes) : ∀ x ∈ (faSeq ls).2, x ∈ ls := by
  induction ls with
  | nil => simp [faSeq]
  | cons l ls ih =>
    unfold faSeq
    split
    · intro x hx; exact hx
    · intro x hx; exact List.mem_cons_of_mem _ (ih x hx)

theorem faSeqU_valid (ls : List Bytes) (h : AllValid T ls) : faSeqU T ls = some (faSeq ls) := by
  induction ls with
  | nil => rfl
  | cons l ls ih =>
    obtain ⟨hv, ha⟩ := h l (by simp)
    unfold faSeqU faSeq
    simp only [hv, Bool.not_true, Bool.false_eq_true, if_false]
    split
    · rfl
    · rw [ih h.tail, ha.1]; rfl

theorem faRecordsU_valid (ls : List Bytes) (h : AllValid T ls) : faRecordsU T ls = (faRecords ls).map .item := by
  fun_induction faRecords ls with
  | case1 => simp [faRecordsU]
  | case2 l ls hst =>
    obtain ⟨hv, ha⟩ := h l (by simp)
    have hst' : startsWith l 62 = false := by simpa using hst
    simp [faRecordsU_cons, hv, hst']
  | case3 l ls hst hd sr r he =>
    obtain ⟨hv, ha⟩ := h l (by simp)
    have hst' : startsWith l 62 = true := by simpa using hst
    have he' : ({ id := (faHeader l).1, desc := (faHeader l).2, seq := (faSeq ls).1 } : FaRec).isEmpty = true := he
    simp [faRecordsU_cons, hv, hst', faSeqU_valid ls h.tail, ha.2.1, he']
  | case4 l ls hst hd sr r he ih =>
    obtain ⟨hv, ha⟩ := h l (by simp)
    have hst' : startsWith l 62 = true := by simpa using hst
    have he' : ({ id := (faHeader l).1, desc := (faHeader l).2, seq := (faSeq ls).1 } : FaRec).isEmpty = false := by
      simpa using he
    have hsub : AllValid T (faSeq ls).2 := fun x hx => h x (List.mem_cons_of_mem _ (faSeq_subset ls x hx))
    have := ih hsub
    simp only [faRecordsU_cons, hv, hst', faSeqU_valid ls h.tail, ha.2.1, he', Bool.true_eq_false, if_false,
      Bool.false_eq_true, List.map_cons]
    rw [this]

end

end RbV.Fastx
