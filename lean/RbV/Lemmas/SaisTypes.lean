import RbV.Lemmas.SaisText
/-
L/S types (`PosTypes::new`) by their local rules, LMS positions, and the first loop of `calc_lms_pos`
(C03 (b): `lms_pos` = exactly the LMS positions, ascending; `reduced_text_pos[r]` = index of `r` among them).
L-type is always written `isS … = false`; `isL` of the model is removed with `isL_eq_not`.
-/
namespace RbV.Sais

variable {t : List Nat}

/-! ### `isS`, `isL`, `isLms` of any type vector -/

theorem isL_eq_not (ty : List Bool) (p : Nat) : isL ty p = !isS ty p := rfl

theorem isLms_iff (ty : List Bool) (p : Nat) :
    isLms ty p = true ↔ p ≠ 0 ∧ isS ty p = true ∧ isS ty (p - 1) = false := by
  unfold isLms isL isS
  simp [Bool.and_eq_true, and_assoc]

theorem not_isLms_of_L {ty : List Bool} {x : Nat} (h : isS ty x = false) : isLms ty x = false := by
  cases hl : isLms ty x with
  | false => rfl
  | true => rw [((isLms_iff ty x).mp hl).2.1] at h; cases h

theorem not_isLms_succ_of_S {ty : List Bool} {x : Nat} (h : isS ty x = true) : isLms ty (x + 1) = false := by
  cases hl : isLms ty (x + 1) with
  | false => rfl
  | true => rw [isLms_iff, Nat.add_sub_cancel, h] at hl; exact absurd hl.2.2 (by simp)

theorem isS_of_isLms {ty : List Bool} {x : Nat} (h : isLms ty x = true) : isS ty x = true :=
  ((isLms_iff ty x).mp h).2.1

theorem isLms_succ_congr (ty : List Bool) (p q : Nat) (h0 : isS ty p = isS ty q) (h1 : isS ty (p + 1) = isS ty (q + 1)) :
    isLms ty (p + 1) = isLms ty (q + 1) := by
  rw [Bool.eq_iff_iff, isLms_iff, isLms_iff, Nat.add_sub_cancel, Nat.add_sub_cancel, h0, h1]
  simp

/-! ### the types of a text: the two local rules of `PosTypes::new`, and that they type correctly -/

/-- abbreviation: the types of `t` -/
def tyOf (t : List Nat) : List Bool := PosTypes.posTypes t

theorem length_tyOf (t : List Nat) : (tyOf t).length = t.length := PosTypes.length_posTypes t

theorem isS_last (t : List Nat) (h : 0 < t.length) : isS (tyOf t) (t.length - 1) = true := by
  unfold tyOf
  induction t with
  | nil => simp at h
  | cons a l ih =>
    cases l with
    | nil => simp [PosTypes.posTypes, isS]
    | cons b rest =>
      rw [PosTypes.posTypes_cons2]
      have := ih (by simp)
      simp only [List.length_cons] at this ⊢
      unfold isS at this ⊢
      have e : rest.length + 1 + 1 - 1 = (rest.length + 1 - 1) + 1 := by omega
      rw [e, List.getD_cons_succ]
      exact this

/-- the rule of `PosTypes::new` for a position that has a successor -/
theorem isS_step (t : List Nat) (p : Nat) (h : p + 1 < t.length) :
    isS (tyOf t) p =
      if sym t p = sym t (p + 1) then isS (tyOf t) (p + 1) else decide (sym t p < sym t (p + 1)) := by
  unfold tyOf
  induction t generalizing p with
  | nil => simp at h
  | cons a l ih =>
    cases l with
    | nil => simp at h
    | cons b rest =>
      rw [PosTypes.posTypes_cons2]
      cases p with
      | zero => simp [isS, sym]
      | succ p =>
        have := ih p (by simpa using h)
        unfold isS sym at this ⊢
        simp only [List.getD_cons_succ]
        exact this

/-- **L/S typing is correct**: in a text whose last symbol occurs nowhere else, `posTypes[p]` is `true` (S-type)
exactly when suffix p is smaller than suffix p+1 (and for the last position).  From the local rules, right to left. -/
theorem _root_.RbV.PosTypes.posTypes_spec (ks : List Nat)
    (hu : ∀ i, i + 1 < ks.length → ks.getD i 0 ≠ ks.getD (ks.length - 1) 0) (p : Nat) (hp : p < ks.length) :
    (PosTypes.posTypes ks)[p]? =
      some (decide (lexLt (ks.drop p) (ks.drop (p + 1))) || decide (p + 1 = ks.length)) := by
  have key : ∀ m p, ks.length ≤ p + m → p < ks.length →
      (isS (tyOf ks) p = true ↔ lexLt (ks.drop p) (ks.drop (p + 1)) ∨ p + 1 = ks.length) := by
    intro m
    induction m with
    | zero => intro p h1 h2; omega
    | succ m ih =>
      intro p hm hp
      by_cases hl : p + 1 = ks.length
      · rw [show p = ks.length - 1 by omega, isS_last ks (by omega)]
        exact ⟨fun _ => Or.inr (by omega), fun _ => rfl⟩
      · have hp1 : p + 1 < ks.length := by omega
        rw [isS_step ks p hp1, drop_sym ks p hp, drop_sym ks (p + 1) hp1, lexLt_cons]
        by_cases he : sym ks p = sym ks (p + 1)
        · -- `p + 1` is not the last position, whose symbol is not repeated
          have hp2 : p + 1 + 1 ≠ ks.length := fun hc =>
            hu p hp1 (by rw [show ks.length - 1 = p + 1 by omega]; exact he)
          rw [if_pos he, ih (p + 1) (by omega) hp1, ← drop_sym ks (p + 1) hp1]
          simp [he, hl, hp2]
        · rw [if_neg he]
          simp [he, hl]
  have hk := key ks.length p (Nat.le_add_left _ _) hp
  unfold isS tyOf at hk
  rw [List.getD_eq_getElem?_getD, List.getElem?_eq_getElem (by rw [PosTypes.length_posTypes]; exact hp)] at hk
  rw [List.getElem?_eq_getElem (by rw [PosTypes.length_posTypes]; exact hp), Option.some.injEq, Bool.eq_iff_iff]
  simpa using hk

/-! ### consequences of the local rules -/

theorem isS_of_lt (p : Nat) (h : p + 1 < t.length) (hlt : sym t p < sym t (p + 1)) : isS (tyOf t) p = true := by
  rw [isS_step t p h]
  have : sym t p ≠ sym t (p + 1) := by omega
  simp [this, hlt]

theorem isL_of_gt (p : Nat) (h : p + 1 < t.length) (hgt : sym t (p + 1) < sym t p) : isS (tyOf t) p = false := by
  rw [isS_step t p h]
  have : sym t p ≠ sym t (p + 1) := by omega
  have h2 : ¬ sym t p < sym t (p + 1) := by omega
  simp [this, h2]

theorem isS_of_eq (p : Nat) (h : p + 1 < t.length) (he : sym t p = sym t (p + 1)) :
    isS (tyOf t) p = isS (tyOf t) (p + 1) := by
  rw [isS_step t p h]; simp [he]

theorem sym_le_of_isS (p : Nat) (h : p + 1 < t.length) (hs : isS (tyOf t) p = true) : sym t p ≤ sym t (p + 1) := by
  apply Classical.byContradiction
  intro hc
  have := isL_of_gt (t := t) p h (by omega)
  rw [this] at hs; cases hs

theorem sym_ge_of_isL (p : Nat) (h : p + 1 < t.length) (hs : isS (tyOf t) p = false) : sym t (p + 1) ≤ sym t p := by
  apply Classical.byContradiction
  intro hc
  have := isS_of_lt (t := t) p h (by omega)
  rw [this] at hs; cases hs

theorem isS_oob (p : Nat) (h : t.length ≤ p) : isS (tyOf t) p = false := by
  unfold isS
  rw [List.getD_eq_getElem?_getD, List.getElem?_eq_none (by rw [length_tyOf]; exact h)]; rfl

theorem lt_of_isL (hv : Valid t) (p : Nat) (hp : p < t.length) (hs : isS (tyOf t) p = false) : p + 1 < t.length := by
  apply Classical.byContradiction
  intro hc
  have : p = t.length - 1 := by omega
  rw [this, isS_last t hv.pos] at hs
  cases hs

theorem isL_penult (hv : Valid t) (h2 : 2 ≤ t.length) : isS (tyOf t) (t.length - 2) = false := by
  have h1 := hv.lastMin (t.length - 2) (by omega)
  apply isL_of_gt (t.length - 2) (by omega)
  have : t.length - 2 + 1 = t.length - 1 := by omega
  rw [this]; exact h1

theorem isLms_last (hv : Valid t) (h2 : 2 ≤ t.length) : isLms (tyOf t) (t.length - 1) = true := by
  rw [isLms_iff]
  refine ⟨by omega, isS_last t hv.pos, ?_⟩
  have : t.length - 1 - 1 = t.length - 2 := by omega
  rw [this]; exact isL_penult hv h2

theorem lt_of_isLms (p : Nat) (h : isLms (tyOf t) p = true) : p < t.length := by
  rw [isLms_iff] at h
  apply Classical.byContradiction
  intro hc
  rw [isS_oob p (by omega)] at h
  exact absurd h.2.1 (by simp)

/-! ### the list of LMS positions and the collection loop -/

/-- LMS positions below `k`, ascending -/
def lmsBelow (ty : List Bool) (k : Nat) : List Nat := (List.range k).filter (isLms ty)

theorem lmsBelow_succ (ty : List Bool) (k : Nat) :
    lmsBelow ty (k + 1) = if isLms ty k then lmsBelow ty k ++ [k] else lmsBelow ty k := by
  unfold lmsBelow
  rw [List.range_succ, List.filter_append]
  by_cases h : isLms ty k = true <;> simp [h]

theorem mem_lmsBelow (ty : List Bool) (n p : Nat) : p ∈ lmsBelow ty n ↔ p < n ∧ isLms ty p = true := by
  unfold lmsBelow; simp

theorem nodup_lmsBelow (ty : List Bool) (n : Nat) : (lmsBelow ty n).Nodup :=
  List.Nodup.sublist List.filter_sublist List.nodup_range

/-- state of the collection loop after `k` iterations -/
theorem collect_spec (ty : List Bool) (red : List Nat) (k : Nat) (hk : k ≤ red.length) :
    let c := forUp k (collectStep ty) ([], red, 0)
    c.1 = lmsBelow ty k ∧ c.2.2 = (lmsBelow ty k).length ∧ c.2.1.length = red.length ∧
    (∀ r, r < k → isLms ty r = true → c.2.1.getD r 0 = (lmsBelow ty r).length) ∧
    (∀ r, k ≤ r → c.2.1.getD r 0 = red.getD r 0) := by
  induction k with
  | zero => simp [forUp, lmsBelow]
  | succ k ih =>
    obtain ⟨h1, h2, h3, h4, h5⟩ := ih (by omega)
    simp only [forUp]
    generalize forUp k (collectStep ty) ([], red, 0) = c at h1 h2 h3 h4 h5 ⊢
    unfold collectStep
    rw [lmsBelow_succ]
    by_cases hl : isLms ty k = true
    · simp only [hl, if_true]
      refine ⟨by rw [h1], by rw [h2]; simp, by rw [List.length_set, h3], ?_, ?_⟩
      · intro r hr hlr
        by_cases hrk : r = k
        · subst hrk
          rw [List.getD_set_self _ _ _ _ (by omega), h2]
        · rw [List.getD_set_ne _ _ _ _ _ (by omega)]
          exact h4 r (by omega) hlr
      · intro r hr
        rw [List.getD_set_ne _ _ _ _ _ (by omega)]
        exact h5 r (by omega)
    · simp only [hl]
      refine ⟨h1, h2, h3, ?_, fun r hr => h5 r (by omega)⟩
      intro r hr hlr
      by_cases hrk : r = k
      · subst hrk; exact absurd hlr hl
      · exact h4 r (by omega) hlr

end RbV.Sais
