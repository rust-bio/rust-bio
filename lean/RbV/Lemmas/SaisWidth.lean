import RbV.Lemmas.SaisFirst
import RbV.Lemmas.SaisTransform
/-!
C03, integer widths of SA-IS (`src/data_structures/suffix_array.rs`).

The reduced text of `sort_lms_suffixes::<T, S>` is a `Vec<S>` with `S` chosen by `calc_lms_pos` from
`lms_substring_count` (`u8` if `≤ u8::MAX`, `u16` if `≤ u16::MAX`, `u32` if `≤ u32::MAX`, else `u64`); every value
stored is `cast(label).unwrap()` (a panic, not a truncation, if it does not fit).  The mirror stores `Nat`s.  Here:
every value the naming loop stores — the initial `cast(0)`, every `label` — is `< lms_substring_count`
(`naming_lt_count`), every value of `transform_text::<T>` is `< alphabet.len() + sentinel_count` (`transformText_lt`),
and a value below the dispatching count fits the type the `if`/`match` chain selects provided every guard's bound fits
its arm's type (`pick_fits`; the guards and types are extracted from the source text: `RbV/Gen/SaisWidth.lean`).
-/
namespace RbV.Sais

/-- the type an `if count <= K₁ {…u_{b₁}…} else if count <= K₂ {…} … else {…u_e…}` chain selects: `arms` = the pairs
`(Kᵢ, bᵢ)` in source order, `els` = `e` -/
def pick (arms : List (Nat × Nat)) (els : Nat) (count : Nat) : Nat :=
  match arms.find? (fun a => decide (count ≤ a.1)) with
  | some a => a.2
  | none => els

/-- if every guard's bound fits the type its arm instantiates (and `count` is a `usize`), a value below the dispatching
count fits the selected type: `cast(v).unwrap()` does not panic -/
theorem pick_fits (arms : List (Nat × Nat)) (els count v : Nat) (harms : ∀ a ∈ arms, a.1 < 2 ^ a.2)
    (hels : count < 2 ^ els) (hv : v < count) : v < 2 ^ pick arms els count := by
  unfold pick
  cases h : arms.find? (fun a => decide (count ≤ a.1)) with
  | none => simp only []; omega
  | some a =>
    simp only []
    have h1 := List.find?_some h
    have h2 := harms a (List.mem_of_find?_eq_some h)
    simp only [decide_eq_true_eq] at h1
    omega

/-- **every entry of the reduced text is below `lms_substring_count`** (for the text the naming loop of the mirror
builds on the `pos` left by the first `calc_pos`) -/
theorem red1_lt_count (t : List Nat) (hv : Valid t) (redPos : List Nat) (v : Nat)
    (hmem : v ∈ red1 t redPos) : v < (lmsOf t).length := by
  unfold red1 at hmem
  rcases mem_redOf redPos _ _ _ v hmem with h | h
  · have hpos : 0 < (lmsOf t).length := by
      rcases Nat.eq_zero_or_pos (lmsOf t).length with h0 | h0
      · rw [h0] at h; simp at h
      · exact h0
    rw [List.mem_replicate] at h
    omega
  · have := labels_lt_length _ _ v h
    rw [length_qs1 t hv] at this
    exact this

/-- the naming loop of the mirror, run on the state the first `calc_pos` leaves (`s.pos = pos1 t`), with
`cnt = lms_substring_count`: the final `label` and every entry of `reduced_text` are below `cnt` -/
theorem naming_lt_count (t : List Nat) (hv : Valid t) (s : St) (hs : s.pos = pos1 t)
    (hm : 0 < (lmsOf t).length) :
    (naming t (tyOf t) (lmsOf t).length s).label < (lmsOf t).length ∧
      ∀ v ∈ (naming t (tyOf t) (lmsOf t).length s).red, v < (lmsOf t).length := by
  obtain ⟨hlab', hred'⟩ := naming_pos1 t s hs
  unfold labs1 at hlab'
  constructor
  · rw [hlab', labels_getLastD, length_qs1 t hv]
    have := labels_getD_le (lmsSubEq t (tyOf t)) (qs1 t) ((lmsOf t).length - 1) (by rw [length_qs1 t hv]; omega)
    omega
  · intro v hv'
    rw [hred'] at hv'
    exact red1_lt_count t hv s.redPos v hv'

/-! ### `transform_text::<T>`, `T` chosen from `alphabet.len() + sentinel_count` -/

/-- **every value of the transformed text is below `alphabet.len() + sentinel_count`** -/
theorem transformText_lt (t : List Nat) (v : Nat) (hv : v ∈ Sais.transformText t) :
    v < (alphabet t).length + t.count (sentinelOf t) := by
  rw [transformText_eq] at hv
  obtain ⟨p, hp, rfl⟩ := List.exists_getD_of_mem _ 0 hv
  rw [Transform.length_transformText] at hp
  rw [Transform.transformText_getD t p hp]
  have hmem : t.getD p 0 ∈ t := List.getD_mem t p 0 hp
  split
  · rename_i hsp
    have := (Transform.sentinelOrder_rkAfter t (List.ne_nil_of_length_pos (by omega))).bound p hsp
    omega
  · have h1 := alphabet_idxOf t _ hmem
    have h2 := List.idxOf_lt_length_iff.mpr (mem_alphabet t _ hmem)
    have hc : 0 < t.count (sentinelOf t) := List.count_pos_iff.mpr (Transform.sentinelOf_mem t (by
      intro h; rw [h] at hp; simp at hp))
    omega

end RbV.Sais
