import RbV.Lemmas.FillWit
/-!
Named witnesses (`WitAt`, `FillWit.lean`) at the start of a traceback and behind a prefix clip.  Used by the traceback
proof (`FillRun.lean`), where the alignment is the one the traceback emits.
-/
namespace RbV.Model.PairwiseFill
open RbV.Align

section
variable {sc : Sc} {cl : Clip} {x y : List Nat} {L : St} {i j : Nat} {v : Int} {xs xe ys ye : Nat} {ops : List Op}

theorem witAt_start (hv : v ≤ 0) : WitAt sc cl x y .none 0 0 v 0 0 0 0 [] := by
  refine ⟨0, Nat.le_refl _, Nat.le_refl _, Nat.zero_le _, Nat.le_refl _, Nat.le_refl _, Nat.zero_le _, ?_, ?_, ?_, ?_,
    nofun, nofun⟩
  · intro h; omega
  · intro h; omega
  · simp [slice_self, score]
  · simp [pre]; omega

/-- clip `x[0..i]` in front of an alignment that starts in row 0 and stays there -/
theorem witAt_xpre (h : WitAt sc cl x y L 0 j v xs xe ys ye ops) (hi1 : 1 ≤ i) (hi : i ≤ x.length) :
    xs = 0 ∧ xe = 0 ∧ WitAt sc cl x y .none i j (v + cl.xp) i i ys ye ops := by
  obtain ⟨c, h1, h2, h3, h4, h5, h6, h7, h8, hsc, hle, _, _⟩ := h
  have e1 : xe = 0 := by omega
  have e2 : xs = 0 := by omega
  subst e1; subst e2
  refine ⟨rfl, rfl, c, Nat.le_refl _, Nat.le_refl _, hi, h4, h5, h6, fun h => by omega, h8, ?_, ?_, nofun, nofun⟩
  · rw [slice_self] at hsc ⊢; exact hsc
  · simp only [Nat.lt_irrefl, if_false, pre] at hle ⊢
    simp only [show 0 < i by omega, if_true]
    generalize (if ye < j then cl.ys else 0) = t at hle ⊢
    omega

/-- clip `y[0..j]` in front of an alignment that starts in column 0 and stays there -/
theorem witAt_ypre (h : WitAt sc cl x y L i 0 v xs xe ys ye ops) (hj1 : 1 ≤ j) (hj : j ≤ y.length) :
    ys = 0 ∧ ye = 0 ∧ WitAt sc cl x y .none i j (v + cl.yp) xs xe j j ops := by
  obtain ⟨c, h1, h2, h3, h4, h5, h6, h7, h8, hsc, hle, _, _⟩ := h
  have e1 : ye = 0 := by omega
  have e2 : ys = 0 := by omega
  subst e1; subst e2
  refine ⟨rfl, rfl, c, h1, h2, h3, Nat.le_refl _, Nat.le_refl _, hj, h7, fun h => by omega, ?_, ?_, nofun, nofun⟩
  · rw [slice_self] at hsc ⊢; exact hsc
  · simp only [Nat.lt_irrefl, if_false, pre] at hle ⊢
    simp only [show 0 < j by omega, if_true]
    generalize (if xe < i then cl.xs else 0) = t at hle ⊢
    omega

end

end RbV.Model.PairwiseFill
