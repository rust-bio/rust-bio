import RbV.Lemmas.C15c
import RbV.Gen.Scales
/-!
C15: the source-extracted constants (`RbV/Gen/Scales.lean`, regenerated from `src/stats/probs/mod.rs` and
`src/utils/fastexp.rs` on every run) as rationals / reals — proof side only.
-/
namespace RbV.C15
open RbV.Gen.Scales

/-- exact rational value of a decimal literal `mant / 10^scale` -/
def decQ (d : RbV.Dec) : ℚ := (d.mant : ℚ) / (10 : ℚ) ^ d.scale

/-- the same value as a real number -/
noncomputable def decR (d : RbV.Dec) : ℝ := ((decQ d : ℚ) : ℝ)

theorem decR_eq (d : RbV.Dec) : decR d = (d.mant : ℝ) / (10 : ℝ) ^ d.scale := by
  unfold decR decQ; push_cast; rfl

theorem decR_int (n : Int) : decR ⟨n, 0⟩ = n := by rw [decR_eq]; simp

/-- `LOG_TO_PHRED_FACTOR` / `PHRED_TO_LOG_FACTOR` of `src/stats/probs/mod.rs`: exact rational values of the literals
extracted on this run -/
def LOG_TO_PHRED_FACTOR : ℚ := decQ logToPhred
def PHRED_TO_LOG_FACTOR : ℚ := decQ phredToLog

/-- the polynomial of `fastexp.rs` over the extracted coefficients, evaluated in the order of the source:
`f2 = ((x·C4 + C3)·x + C2) · ((x + C1)·x) + C0` -/
noncomputable def fastexpPolyGen (y : ℝ) : ℝ :=
  ((y * decR coeff4 + decR coeff3) * y + decR coeff2) * ((y + decR coeff1) * y) + decR coeff0

/-- the same polynomial over ℚ (for evaluation at rational points) -/
def fastexpPolyGenQ (y : ℚ) : ℚ :=
  ((y * decQ coeff4 + decQ coeff3) * y + decQ coeff2) * ((y + decQ coeff1) * y) + decQ coeff0

theorem fastexpPolyGen_cast (y : ℚ) : fastexpPolyGen (y : ℝ) = ((fastexpPolyGenQ y : ℚ) : ℝ) := by
  unfold fastexpPolyGen fastexpPolyGenQ decR; push_cast; ring

/-- with `COEFF_0 = 1` the generated polynomial is the `fastexpPoly` of `C15c` -/
theorem fastexpPolyGen_eq (h0 : decQ coeff0 = 1) (y : ℝ) :
    fastexpPolyGen y = fastexpPoly (decR coeff1) (decR coeff2) (decR coeff3) (decR coeff4) y := by
  unfold fastexpPolyGen fastexpPoly
  have : decR coeff0 = 1 := by unfold decR; rw [h0]; norm_num
  rw [this]

end RbV.C15
