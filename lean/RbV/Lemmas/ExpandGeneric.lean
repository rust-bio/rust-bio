import RbV.Model.Expand
/-! C19 — `expand_kmer_matches`: a sweep that, for every element of a list sorted along each diagonal, pushes positions
strictly between the previous element of that diagonal and the element itself never pushes a position twice, nor one that
is in the list.  Core Lean only. -/
namespace RbV.Lemmas.Expand
open RbV.KChain RbV.Model.Expand

/-- diagonal of a position -/
def dg (z : M) : Int := (z.1 : Int) - (z.2 : Int)

section generic
variable (key : M → Int)

/-- elements of one diagonal come in ascending key order -/
def DiagSorted (l : List M) : Prop := l.Pairwise (fun a b => dg a = dg b → key a < key b)

/-- the positions pushed for `e` lie on its diagonal, before `e` and after every earlier element of the diagonal -/
def BlockOk (pre : List M) (e : M) (blk : List M) : Prop :=
  (∀ z ∈ blk, dg z = dg e ∧ key z < key e ∧ ∀ a ∈ pre, dg a = dg e → key a < key z) ∧ blk.Nodup

def BlocksOk : List M → List M → List (List M) → Prop
  | _, [], [] => True
  | pre, e :: r, b :: bs => BlockOk key pre e b ∧ BlocksOk (pre ++ [e]) r bs
  | _, _, _ => False

theorem diagSorted_nodup {l : List M} (h : DiagSorted key l) : l.Nodup := by
  apply h.imp
  intro a b hab e
  subst e
  have := hab rfl
  omega

theorem blocks_nodup : ∀ (rest pre : List M) (bs : List (List M)), DiagSorted key (pre ++ rest) → BlocksOk key pre rest bs →
    bs.flatten.Nodup ∧ (∀ z ∈ bs.flatten, z ∉ pre ++ rest) ∧
    (∀ z ∈ bs.flatten, ∃ e ∈ rest, dg z = dg e ∧ key z < key e ∧ ∀ a ∈ pre, dg a = dg e → key a < key z) := by
  intro rest
  induction rest with
  | nil =>
    intro pre bs _ hb
    cases bs with
    | nil => simp
    | cons b bs => simp [BlocksOk] at hb
  | cons e r ih =>
    intro pre bs hs hb
    cases bs with
    | nil => simp [BlocksOk] at hb
    | cons b bs' =>
      simp only [BlocksOk] at hb
      obtain ⟨⟨hbz, hbn⟩, hrest⟩ := hb
      have hs' : DiagSorted key ((pre ++ [e]) ++ r) := by simpa using hs
      obtain ⟨ih1, ih2, ih3⟩ := ih (pre ++ [e]) bs' hs' hrest
      have hs2 := List.pairwise_append.mp hs
      have her : ∀ c ∈ r, dg e = dg c → key e < key c := (List.pairwise_cons.mp hs2.2.1).1
      refine ⟨?_, ?_, ?_⟩
      · simp only [List.flatten_cons]
        rw [List.nodup_append]
        refine ⟨hbn, ih1, ?_⟩
        intro z hz w hw hzw
        subst hzw
        obtain ⟨h1, h2, _⟩ := hbz z hz
        obtain ⟨e', _, h4, _, h6⟩ := ih3 z hw
        have := h6 e (by simp) (by omega)
        omega
      · intro z hz
        simp only [List.flatten_cons] at hz
        rcases List.mem_append.mp hz with hz | hz
        · obtain ⟨h1, h2, h3⟩ := hbz z hz
          intro hmem
          rcases List.mem_append.mp hmem with hm | hm
          · have := h3 z hm h1; omega
          · rcases List.mem_cons.mp hm with rfl | hm
            · omega
            · have := her z hm h1.symm; omega
        · have := ih2 z hz
          simpa using this
      · intro z hz
        simp only [List.flatten_cons] at hz
        rcases List.mem_append.mp hz with hz | hz
        · obtain ⟨h1, h2, h3⟩ := hbz z hz
          exact ⟨e, by simp, h1, h2, h3⟩
        · obtain ⟨e', he', h4, h5, h6⟩ := ih3 z hz
          exact ⟨e', List.mem_cons_of_mem _ he', h4, h5, fun a ha => h6 a (List.mem_append_left _ ha)⟩

/-- … so the swept list together with everything pushed is duplicate-free -/
theorem sweep_nodup (l : List M) (bs : List (List M)) (hs : DiagSorted key l) (hb : BlocksOk key [] l bs) :
    (l ++ bs.flatten).Nodup := by
  obtain ⟨h1, h2, _⟩ := blocks_nodup key l [] bs (by simpa using hs) hb
  rw [List.nodup_append]
  refine ⟨diagSorted_nodup key hs, h1, ?_⟩
  intro a ha b hb' hab
  subst hab
  exact h2 a hb' (by simpa using ha)

theorem imGet_insert {β : Type} (d d' : Int) (v : β) (m : IMap β) :
    imGet d' (imInsert d v m) = if d = d' then some v else imGet d' m := by
  induction m with
  | nil => simp [imInsert, imGet]
  | cons e r ih =>
    obtain ⟨d0, v0⟩ := e
    by_cases h1 : d0 = d
    · subst h1
      by_cases h2 : d0 = d' <;> simp [imInsert, imGet, h2]
    · by_cases h2 : d0 = d'
      · subst h2
        have h3 : ¬ d = d0 := fun e => h1 e.symm
        simp [imInsert, imGet, h1, h3]
      · simp only [imInsert, imGet, h1, h2, if_false]
        exact ih

variable {β : Type} (emb : M → β)

/-- the map holds, per diagonal, (the embedding of) an element of the prefix that is last in key order -/
def MapInv (pre : List M) (map : IMap β) : Prop :=
  ∀ d, match imGet d map with
    | none => ∀ a ∈ pre, dg a ≠ d
    | some v => ∃ a ∈ pre, v = emb a ∧ dg a = d ∧ ∀ a' ∈ pre, dg a' = d → key a' ≤ key a

theorem mapInv_nil : MapInv key emb [] ([] : IMap β) := by
  intro d; simp [imGet]

theorem mapInv_insert {pre : List M} {e : M} {map : IMap β} (hs : DiagSorted key (pre ++ [e]))
    (hI : MapInv key emb pre map) : MapInv key emb (pre ++ [e]) (imInsert (dg e) (emb e) map) := by
  intro d
  rw [imGet_insert]
  have hs2 := List.pairwise_append.mp hs
  by_cases hd : dg e = d
  · rw [if_pos hd]
    refine ⟨e, by simp, rfl, hd, ?_⟩
    intro a' ha' hda
    rcases List.mem_append.mp ha' with h | h
    · have := hs2.2.2 a' h e (by simp) (by omega); omega
    · simp at h; subst h; omega
  · rw [if_neg hd]
    have := hI d
    split
    · next hnone =>
      rw [hnone] at this
      intro a ha
      rcases List.mem_append.mp ha with h | h
      · exact this a h
      · simp at h; subst h; exact hd
    · next v hsome =>
      rw [hsome] at this
      obtain ⟨a, ha, hv, hda, hmax⟩ := this
      refine ⟨a, List.mem_append_left _ ha, hv, hda, ?_⟩
      intro a' ha' hda'
      rcases List.mem_append.mp ha' with h | h
      · exact hmax a' h hda'
      · simp at h; subst h; exact absurd hda' hd

/-- a sweep whose rounds push admissible blocks: the vector grows by the flattened blocks -/
theorem fold_blocks (core : IMap β → M → Option (IMap β × List M))
    (hcore : ∀ pre map e, DiagSorted key (pre ++ [e]) → MapInv key emb pre map →
      ∃ blk, core map e = some (imInsert (dg e) (emb e) map, blk) ∧ BlockOk key pre e blk) :
    ∀ (rest pre : List M) (map : IMap β) (vec : List M), DiagSorted key (pre ++ rest) → MapInv key emb pre map →
      ∃ map' bs, rest.foldl (pushStep core) (some (map, vec)) = some (map', vec ++ bs.flatten) ∧ BlocksOk key pre rest bs := by
  intro rest
  induction rest with
  | nil => intro pre map vec _ _; exact ⟨map, [], by simp, trivial⟩
  | cons e r ih =>
    intro pre map vec hs hI
    have hs1 : DiagSorted key (pre ++ [e]) := by
      have : DiagSorted key ((pre ++ [e]) ++ r) := by simpa using hs
      exact (List.pairwise_append.mp this).1
    obtain ⟨blk, hc, hb⟩ := hcore pre map e hs1 hI
    have hs' : DiagSorted key ((pre ++ [e]) ++ r) := by simpa using hs
    obtain ⟨map', bs, hf, hbs⟩ := ih (pre ++ [e]) _ (vec ++ blk) hs' (mapInv_insert key emb hs1 hI)
    refine ⟨map', blk :: bs, ?_, ⟨hb, hbs⟩⟩
    simp only [List.foldl_cons, pushStep, hc]
    rw [hf]; simp

/-- … and together with the swept list it is duplicate-free -/
theorem fold_nodup (core : IMap β → M → Option (IMap β × List M))
    (hcore : ∀ pre map e, DiagSorted key (pre ++ [e]) → MapInv key emb pre map →
      ∃ blk, core map e = some (imInsert (dg e) (emb e) map, blk) ∧ BlockOk key pre e blk)
    (l vec : List M) (hs : DiagSorted key l) :
    ∃ map' extra, l.foldl (pushStep core) (some ([], vec)) = some (map', vec ++ extra) ∧ (l ++ extra).Nodup := by
  obtain ⟨map', bs, hf, hbs⟩ := fold_blocks key emb core hcore l [] [] vec (by simpa using hs) (mapInv_nil key emb)
  exact ⟨map', bs.flatten, hf, sweep_nodup key l bs hs hbs⟩

end generic
end RbV.Lemmas.Expand
