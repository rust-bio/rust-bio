import RbV.Lemmas.PoaCells
/-!
# The POA recurrence on a graph built from one sequence computes the Needleman–Wunsch optimum

`Model.chainScore` runs the row functions of the mirror model (`row0`, `col0`, `firstCands`, `predCands`,
`insScan` — the same ones the general DP uses) over the chain `0 → 1 → … → m-1`.  The Rust recurrence differs
from the textbook one in two places: it works on prefixes (rows = reference nodes in order) and the first
node has no "delete this node after j insertions" candidate.  `chainScore_eq_nwBest` shows that neither
matters: the last cell equals `nwBest sc x y` for every scoring function, reference and query.
-/
namespace RbV.Poa.Model
open RbV.NW

/-! ## Reversal invariance of the optimum -/

theorem score_append (sc : Sc) : ∀ (o1 : List Op) (x1 y1 x2 y2 : List Nat) (o2 : List Op) (a b : Int),
    score sc x1 y1 o1 = some a → score sc x2 y2 o2 = some b →
    score sc (x1 ++ x2) (y1 ++ y2) (o1 ++ o2) = some (a + b) := by
  intro o1
  induction o1 with
  | nil =>
    intro x1 y1 x2 y2 o2 a b h1 h2
    obtain ⟨rfl, rfl, rfl⟩ := score_nil_some h1
    simpa using h2
  | cons o r ih =>
    intro x1 y1 x2 y2 o2 a b h1 h2
    obtain ⟨x', y', u, hu, ho⟩ := score_cons_some h1
    have := ih x' y' x2 y2 o2 u b hu h2
    rcases ho with ⟨c, d, rfl, rfl, rfl, rfl⟩ | ⟨d, rfl, rfl, rfl, rfl⟩ | ⟨c, rfl, rfl, rfl, rfl⟩
    · rw [List.cons_append, List.cons_append, List.cons_append, score_mat, this, Option.map_some]; congr 1; omega
    · rw [List.cons_append, List.cons_append, score_ins, this, Option.map_some]; congr 1; omega
    · rw [List.cons_append, List.cons_append, score_del, this, Option.map_some]; congr 1; omega

theorem score_reverse (sc : Sc) : ∀ (ops : List Op) (x y : List Nat) (v : Int),
    score sc x y ops = some v → score sc x.reverse y.reverse ops.reverse = some v := by
  intro ops
  induction ops with
  | nil =>
    intro x y v h
    obtain ⟨rfl, rfl, rfl⟩ := score_nil_some h
    rfl
  | cons o r ih =>
    intro x y v h
    obtain ⟨x', y', u, hu, ho⟩ := score_cons_some h
    have h1 := ih x' y' u hu
    rcases ho with ⟨c, d, rfl, rfl, rfl, rfl⟩ | ⟨d, rfl, rfl, rfl, rfl⟩ | ⟨c, rfl, rfl, rfl, rfl⟩
    · have h2 : score sc [c] [d] [Op.mat] = some (0 + sc.w c d) := by simp [score]
      have := score_append sc _ _ _ _ _ _ _ _ h1 h2
      simp only [List.reverse_cons]
      rw [this]; congr 1; omega
    · have h2 : score sc [] [d] [Op.ins] = some (0 + sc.gap) := by simp [score]
      have := score_append sc _ _ _ _ _ _ _ _ h1 h2
      simp only [List.reverse_cons]
      simp only [List.append_nil] at this
      rw [this]; congr 1; omega
    · have h2 : score sc [c] [] [Op.del] = some (0 + sc.gap) := by simp [score]
      have := score_append sc _ _ _ _ _ _ _ _ h1 h2
      simp only [List.reverse_cons]
      simp only [List.append_nil] at this
      rw [this]; congr 1; omega

theorem nwBest_reverse_le (sc : Sc) (x y : List Nat) : nwBest sc x.reverse y.reverse ≤ nwBest sc x y := by
  obtain ⟨ops, h⟩ := nw_attained sc x.reverse y.reverse
  have := score_reverse sc ops _ _ _ h
  simp only [List.reverse_reverse] at this
  exact nw_upper sc _ _ _ _ this

theorem nwBest_reverse (sc : Sc) (x y : List Nat) : nwBest sc x.reverse y.reverse = nwBest sc x y := by
  have h1 := nwBest_reverse_le sc x y
  have h2 := nwBest_reverse_le sc x.reverse y.reverse
  simp only [List.reverse_reverse] at h2
  omega

/-! ## Closed forms on the border -/

theorem nwBest_nil_left (sc : Sc) : ∀ y : List Nat, nwBest sc [] y = (y.length : Int) * sc.gap := by
  intro y
  induction y with
  | nil => simp [nwBest]
  | cons b y ih =>
    rw [nwBest, ih]
    simp only [List.length_cons, Int.natCast_add, Int.add_mul]
    omega

theorem nwBest_nil_right (sc : Sc) : ∀ x : List Nat, nwBest sc x [] = (x.length : Int) * sc.gap := by
  intro x
  induction x with
  | nil => simp [nwBest]
  | cons a x ih =>
    rw [nwBest, ih]
    simp only [List.length_cons, Int.natCast_add, Int.add_mul]
    omega

/-! ## Rows -/

/-- optimum of `xr` against every extension of the processed (reversed) query prefix `yr` by symbols of `q` -/
def specRowP (sc : Sc) (xr : List Nat) : List Nat → List Nat → List Int
  | _, [] => []
  | yr, b :: q => nwBest sc xr (b :: yr) :: specRowP sc xr (b :: yr) q

theorem row0From_scores (sc : Sc) : ∀ (q yr : List Nat),
    (row0From sc.gap yr.length q.length).map (·.score) = specRowP sc [] yr q := by
  intro q
  induction q with
  | nil => intro yr; simp [row0From, specRowP]
  | cons b q ih =>
    intro yr
    simp only [List.length_cons, row0From, List.map_cons, specRowP]
    have := ih (b :: yr)
    simp only [List.length_cons] at this
    rw [this, nwBest_nil_left]
    simp

/-- a node with one predecessor: the Rust row is the spec row -/
theorem predRow_scores (sc : Sc) (a : Nat) (xr : List Nat) (mOp dOp iOp : POp) :
    ∀ (q yr : List Nat) (diag : Cell) (ups : List Cell) (left : Cell),
      diag.score = nwBest sc xr yr → ups.map (·.score) = specRowP sc xr yr q →
      left.score = nwBest sc (a :: xr) yr →
      (insScan sc.gap iOp left (predCands sc a mOp dOp diag ups q)).map (·.score) = specRowP sc (a :: xr) yr q := by
  intro q
  induction q with
  | nil =>
    intro yr diag ups left _ _ _
    cases ups <;> simp [predCands, insScan, specRowP]
  | cons b q ih =>
    intro yr diag ups left hd hu hl
    cases ups with
    | nil => simp [specRowP] at hu
    | cons up ups =>
      simp only [specRowP, List.map_cons, List.cons.injEq] at hu
      simp only [predCands, insScan, List.map_cons, specRowP]
      have hcell : (cmax (cmax ⟨diag.score + sc.w a b, mOp⟩ ⟨up.score + sc.gap, dOp⟩) ⟨left.score + sc.gap, iOp⟩).score
          = nwBest sc (a :: xr) (b :: yr) := by
        rw [cmax_score, cmax_score]
        simp only []
        rw [hd, hu.1, hl]
        conv => rhs; rw [nwBest]
        omega
      rw [ih (b :: yr) up ups _ hu.1 hu.2 hcell, hcell]

/-- the first node: no "delete after insertions" candidate, same row nevertheless -/
theorem firstRow_scores (sc : Sc) (a : Nat) (iOp : POp) :
    ∀ (q yr : List Nat) (cells : List Cell) (left : Cell),
      cells.map (·.score) = nwBest sc [] yr :: specRowP sc [] yr q →
      left.score = nwBest sc [a] yr →
      (insScan sc.gap iOp left (firstCands sc a cells q)).map (·.score) = specRowP sc [a] yr q := by
  intro q
  induction q with
  | nil =>
    intro yr cells left _ _
    cases cells <;> simp [firstCands, insScan, specRowP]
  | cons b q ih =>
    intro yr cells left hc hl
    cases cells with
    | nil => simp at hc
    | cons d rest =>
      simp only [List.map_cons, List.cons.injEq, specRowP] at hc
      simp only [firstCands, insScan, List.map_cons, specRowP]
      have hcell : (cmax (⟨d.score + sc.w a b, .m none⟩ : Cell) ⟨left.score + sc.gap, iOp⟩).score
          = nwBest sc [a] (b :: yr) := by
        rw [cmax_score]
        simp only []
        rw [hc.1, hl]
        have h1 := nwBest_del_ge sc a [] yr
        have h2 : nwBest sc [] (b :: yr) = sc.gap + nwBest sc [] yr := by rw [nwBest]
        conv => rhs; rw [nwBest]
        omega
      have hrest : rest.map (·.score) = nwBest sc [] (b :: yr) :: specRowP sc [] (b :: yr) q := by
        rw [hc.2]
      rw [ih (b :: yr) rest _ hrest hcell, hcell]

/-- scores of the full row that belongs to the processed reference prefix `xr` (reversed) -/
def specFull (sc : Sc) (xr y : List Nat) : List Int := nwBest sc xr [] :: specRowP sc xr [] y

theorem row0_scores (sc : Sc) (y : List Nat) : (row0 sc.gap y.length).map (·.score) = specFull sc [] y := by
  simp only [row0, List.map_cons, specFull]
  have := row0From_scores sc y []
  simp only [List.length_nil] at this
  rw [this]; simp [nwBest]

theorem col0_score (sc : Sc) (a : Nat) (xr : List Nat) :
    (col0 sc.gap xr.length).score = nwBest sc (a :: xr) [] := by
  rw [nwBest_nil_right]
  simp [col0]

theorem chainRows_scores (sc : Sc) (y : List Nat) :
    ∀ (x xr : List Nat) (pr : List Cell), (xr ≠ [] → pr.map (·.score) = specFull sc xr y) →
      (chainRows sc y (row0 sc.gap y.length) xr.length (if xr = [] then none else some pr) x).map (·.score)
        = specFull sc (x.reverse ++ xr) y := by
  intro x
  induction x with
  | nil =>
    intro xr pr hpr
    simp only [chainRows, List.reverse_nil, List.nil_append]
    by_cases hx : xr = []
    · subst hx; simp [row0_scores]
    · simp [hx, hpr hx]
  | cons a x ih =>
    intro xr pr hpr
    simp only [chainRows]
    have hnext : (nodeRow sc y (row0 sc.gap y.length) xr.length a
        (match (if xr = [] then none else some pr) with | none => [] | some pr => [(xr.length - 1, pr)])).map (·.score)
        = specFull sc (a :: xr) y := by
      by_cases hx : xr = []
      · subst hx
        simp only [if_true, nodeRow, List.map_cons, specFull, List.length_nil]
        have h0 := row0_scores sc y
        have hc := col0_score sc a []
        simp only [List.length_nil] at hc
        rw [firstRow_scores sc a _ y [] _ _ (by simpa [specFull] using h0) hc, hc]
      · have hpr := hpr hx
        simp only [hx, if_false, nodeRow, List.foldl_nil, specFull]
        cases pr with
        | nil => simp [specFull] at hpr
        | cons d ups =>
          simp only [specFull, List.map_cons, List.cons.injEq] at hpr
          have hc := col0_score sc a xr
          simp only [List.map_cons]
          rw [predRow_scores sc a xr _ _ _ y [] d ups _ hpr.1 hpr.2 hc, hc]
    have := ih (a :: xr) _ fun _ => hnext
    simp only [List.length_cons, reduceCtorEq, if_false] at this
    simp only [List.reverse_cons, List.append_assoc, List.singleton_append]
    exact this

theorem specRowP_last (sc : Sc) (xr : List Nat) : ∀ (q yr : List Nat),
    (nwBest sc xr yr :: specRowP sc xr yr q).getLast? = some (nwBest sc xr (q.reverse ++ yr)) := by
  intro q
  induction q with
  | nil => intro yr; simp [specRowP]
  | cons b q ih =>
    intro yr
    simp only [specRowP, List.getLast?_cons_cons]
    rw [ih (b :: yr)]
    simp

/-- **refinement theorem**: the score `Aligner::global` computes on the graph built from `x` alone, as
mirrored by the model's row functions, is the Needleman–Wunsch optimum -/
theorem chainScore_eq_nwBest (sc : Sc) (x y : List Nat) : chainScore sc x y = nwBest sc x y := by
  unfold chainScore
  have h2 := chainRows_scores sc y x [] [] (fun h => absurd rfl h)
  simp only [List.length_nil, if_true, List.append_nil] at h2
  rw [← List.getLast?_map, h2, specFull, specRowP_last]
  simp only [List.append_nil, Option.getD_some]
  exact nwBest_reverse sc x y

end RbV.Poa.Model
