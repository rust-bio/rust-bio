import RbV.Lemmas.PoaTablesOK
import RbV.Lemmas.PoaHistory
/-!
# Every alignment mode of the model keeps the graph a DAG

`stepOps` = the operation list `Aligner::{global, semiglobal, local, custom, global_banded}(q).alignment()`
reports in the faithful models (`customAlign`, `bandedTable`), `stepAdd` = `add_to_graph()` after it.
-/
namespace RbV.Poa.Model
open RbV.NW

/-- the configured clip penalties of the `Scoring` -/
structure Clips where
  xp : Int
  xs : Int
  yp : Int
  ys : Int

inductive Mode
  | global
  | semiglobal
  | local
  | custom
  | banded (bw : Nat)

/-- the operation list `Aligner::<mode>(q).alignment()` reports (faithful models) -/
def stepOps (sc : Sc) (cl : Clips) (g : G) (mode : Mode) (q : List Nat) : List POp :=
  match mode with
  | .global => (customAlign sc minScore minScore minScore minScore g.labels g.es q).2
  | .semiglobal => (customAlign sc minScore minScore 0 0 g.labels g.es q).2
  | .local => (customAlign sc 0 0 0 0 g.labels g.es q).2
  | .custom => (customAlign sc cl.xp cl.xs cl.yp cl.ys g.labels g.es q).2
  | .banded bw => (bandedTable sc cl.xp cl.yp g.labels g.es q bw).ops g.labels.length

/-- `Aligner::<mode>(q).add_to_graph()` -/
def stepAdd (sc : Sc) (cl : Clips) (g : G) (mode : Mode) (q : List Nat) : G :=
  addAlignment g (stepOps sc cl g mode q) q

theorem customAlign_add_dag (sc : Sc) (xp xs yp ys : Int) (g : G) (q : List Nat) (hg : Dag g) :
    Dag (addAlignment g (customAlign sc xp xs yp ys g.labels g.es q).2 q) := by
  simp only [customAlign, BTable.ops]
  apply traceF_add_dag g q hg
  have := customTable_opsOK sc xp xs yp ys g.labels g.es q
  simpa [customTable] using this

theorem stepAdd_dag (sc : Sc) (cl : Clips) (g : G) (mode : Mode) (q : List Nat) (hg : Dag g) :
    Dag (stepAdd sc cl g mode q) := by
  cases mode with
  | global => exact customAlign_add_dag sc _ _ _ _ g q hg
  | semiglobal => exact customAlign_add_dag sc _ _ _ _ g q hg
  | «local» => exact customAlign_add_dag sc _ _ _ _ g q hg
  | custom => exact customAlign_add_dag sc _ _ _ _ g q hg
  | banded bw =>
    simp only [stepAdd, stepOps, BTable.ops]
    apply traceF_add_dag g q hg
    exact bandedTable_opsOK sc cl.xp cl.yp g.labels g.es q bw _

theorem stepAdd_grows (sc : Sc) (cl : Clips) (g : G) (mode : Mode) (q : List Nat) : Grows g (stepAdd sc cl g mode q) :=
  Grows.addAlignment g _ q

/-- one step of a history: scoring, configured clip penalties, mode, query -/
abbrev HStep := Sc × Clips × Mode × List Nat

/-- the graph after a series of align-and-add steps in arbitrary modes, from the chain of `x` -/
def historyM (x : List Nat) (steps : List HStep) : G :=
  steps.foldl (fun g s => stepAdd s.1 s.2.1 g s.2.2.1 s.2.2.2) (chainG x)

theorem historyM_dag (x : List Nat) (hx : x ≠ []) (steps : List HStep) : Dag (historyM x steps) := by
  unfold historyM
  exact foldl_inv Dag _ (fun g s h => stepAdd_dag s.1 s.2.1 g s.2.2.1 s.2.2.2 h) steps _ (chainG_dag x hx)

theorem historyM_grows (x : List Nat) (steps more : List HStep) :
    Grows (historyM x steps) (historyM x (steps ++ more)) := by
  unfold historyM
  rw [List.foldl_append]
  exact foldl_inv (Grows _) _ (fun g s h => h.trans (stepAdd_grows s.1 s.2.1 g s.2.2.1 s.2.2.2)) more _ (Grows.refl _)

end RbV.Poa.Model
