import RbV.Lemmas.ExpandGeneric
import RbV.Lemmas.KmerHash
import RbV.Lemmas.LcskppEvents
/-! C19 — `expand_kmer_matches` mirror model: both walks stay strictly between neighbours of a diagonal, the loops end by
their own condition, the result is strictly sorted and keeps the seeds.  Core Lean only. -/
namespace RbV.Lemmas.Expand
open RbV.KChain RbV.Model.Expand RbV.Model.Lcskpp RbV.QGram

/-- what the map of the left sweep stores for a match: its coordinates as `Int`s (the map of the right sweep stores the match
itself, `id`) -/
def embL (a : M) : Int × Int := ((a.1 : Int), (a.2 : Int))
/-- the left sweep visits a diagonal by ascending `x` -/
def keyL (z : M) : Int := (z.1 : Int)
/-- the right sweep visits a diagonal by descending `x`: the generic sweep wants ascending keys, hence the sign -/
def keyR (z : M) : Int := -(z.1 : Int)

theorem leftLoop_spec (seq1 seq2 : List Nat) (allowed : Nat) (last : Int × Int) (D : Int) (hD : last.1 - last.2 = D)
    (h1 : -1 ≤ last.1) (h2 : -1 ≤ last.2) :
    ∀ (fuel : Nat) (curr : Int × Int) (nmm : Nat), curr.1 - curr.2 = D → 1 ≤ fuel → curr.1 - last.1 + 1 ≤ (fuel : Int) →
      ∃ blk, leftLoop seq1 seq2 allowed last fuel curr nmm = some blk ∧
        (∀ z ∈ blk, dg z = D ∧ last.1 < (z.1 : Int) ∧ (z.1 : Int) ≤ curr.1) ∧ blk.Pairwise (fun a b => a.1 > b.1) := by
  intro fuel
  induction fuel with
  | zero => intro curr nmm _ h; omega
  | succ fuel ih =>
    intro curr nmm hc _ hf
    unfold leftLoop
    by_cases hge : iGe last curr = true
    · rw [if_pos hge]; exact ⟨[], rfl, by simp, by simp⟩
    · rw [if_neg hge]
      simp only [iGe, Bool.or_eq_true, Bool.and_eq_true, decide_eq_true_eq, beq_iff_eq, ge_iff_le, gt_iff_lt] at hge
      have hlt : last.1 < curr.1 := by omega
      dsimp only
      generalize (nmm + (if seq1.getD curr.1.toNat 0 = seq2.getD curr.2.toNat 0 then 0 else 1)) = nmm'
      by_cases hbud : nmm' > allowed
      · rw [if_pos hbud]; exact ⟨[], rfl, by simp, by simp⟩
      · rw [if_neg hbud]
        obtain ⟨blk, hb, hz, hp⟩ := ih (curr.1 - 1, curr.2 - 1) nmm' (by simp only; omega) (by omega)
          (by simp only; omega)
        rw [hb]
        have e1 : ((curr.1.toNat : Nat) : Int) = curr.1 := Int.toNat_of_nonneg (by omega)
        have e2 : ((curr.2.toNat : Nat) : Int) = curr.2 := Int.toNat_of_nonneg (by omega)
        refine ⟨(curr.1.toNat, curr.2.toNat) :: blk, rfl, ?_, ?_⟩
        · intro z hz'
          rcases List.mem_cons.mp hz' with rfl | hz'
          · simp only [dg, e1, e2]; omega
          · obtain ⟨a, b, c⟩ := hz z hz'
            simp only at c
            exact ⟨a, b, by omega⟩
        · refine List.pairwise_cons.mpr ⟨?_, hp⟩
          intro z hz'
          obtain ⟨_, _, c⟩ := hz z hz'
          simp only at c
          have : ((curr.1.toNat : Nat) : Int) > (z.1 : Int) := by omega
          simp only; omega

theorem leftCore_spec (seq1 seq2 : List Nat) (allowed : Nat) (pre : List M) (map : IMap (Int × Int)) (e : M)
    (_hs : DiagSorted keyL (pre ++ [e])) (hI : MapInv keyL embL pre map) :
    ∃ blk, leftCore seq1 seq2 allowed map e = some (imInsert (dg e) (embL e) map, blk) ∧ BlockOk keyL pre e blk := by
  have hmap := hI (dg e)
  have hlast : ∃ last : Int × Int, (imGet (dg e) map).getD ((e.1 : Int) - ((min e.1 e.2 : Nat) : Int) - 1,
        (e.2 : Int) - ((min e.1 e.2 : Nat) : Int) - 1) = last ∧ last.1 - last.2 = dg e ∧ -1 ≤ last.1 ∧ -1 ≤ last.2 ∧
      ∀ a ∈ pre, dg a = dg e → keyL a ≤ last.1 := by
    cases hget : imGet (dg e) map with
    | none =>
      rw [hget] at hmap
      refine ⟨_, rfl, ?_, ?_, ?_, ?_⟩
      · simp only [Option.getD_none, dg]; omega
      · simp only [Option.getD_none]; omega
      · simp only [Option.getD_none]; omega
      · intro a ha hda; exact absurd hda (hmap a ha)
    | some v =>
      rw [hget] at hmap
      obtain ⟨a, ha, hv, hda, hmax⟩ := hmap
      subst hv
      refine ⟨_, rfl, ?_, ?_, ?_, ?_⟩
      · simp only [Option.getD_some, embL, dg] at hda ⊢; omega
      · simp only [Option.getD_some, embL]; omega
      · simp only [Option.getD_some, embL]; omega
      · intro a' ha' hda'
        simp only [Option.getD_some, embL]
        exact hmax a' ha' hda'
  obtain ⟨last, hl, hd, h1, h2, hmax⟩ := hlast
  obtain ⟨blk, hb, hz, hp⟩ := leftLoop_spec seq1 seq2 allowed last (dg e) hd h1 h2 (e.1 + 2) ((e.1 : Int) - 1, (e.2 : Int) - 1) 0
    (by simp only [dg]; omega) (by omega) (by simp only; omega)
  refine ⟨blk, ?_, ?_, ?_⟩
  · unfold leftCore
    simp only
    rw [show ((e.1 : Int) - (e.2 : Int)) = dg e from rfl, hl, hb]
    rfl
  · intro z hz'
    obtain ⟨a, b, c⟩ := hz z hz'
    simp only at c
    refine ⟨a, by simp only [keyL]; omega, ?_⟩
    intro a' ha' hda'
    have := hmax a' ha' hda'
    simp only [keyL] at this ⊢; omega
  · apply hp.imp
    intro a b hab e'
    subst e'; omega

theorem rightLoop_spec (seq1 seq2 : List Nat) (k allowed : Nat) (next : M) (D : Int) (hD : dg next = D) :
    ∀ (fuel : Nat) (curr : M) (nmm : Nat), dg curr = D → 1 ≤ fuel → (next.1 : Int) - (curr.1 : Int) + 1 ≤ (fuel : Int) →
      ∃ blk, rightLoop seq1 seq2 k allowed next fuel curr nmm = some blk ∧
        (∀ z ∈ blk, dg z = D ∧ z.1 < next.1 ∧ curr.1 ≤ z.1) ∧ blk.Pairwise (fun a b => a.1 < b.1) := by
  intro fuel
  induction fuel with
  | zero => intro curr nmm _ h; omega
  | succ fuel ih =>
    intro curr nmm hc _ hf
    unfold rightLoop
    by_cases hge : mGe curr next = true
    · rw [if_pos hge]; exact ⟨[], rfl, by simp, by simp⟩
    · rw [if_neg hge]
      simp only [mGe, Bool.or_eq_true, Bool.and_eq_true, decide_eq_true_eq, beq_iff_eq, ge_iff_le, gt_iff_lt] at hge
      have hlt : curr.1 < next.1 := by simp only [dg] at hD hc; omega
      dsimp only
      generalize (nmm + (if seq1.getD (curr.1 + k - 1) 0 = seq2.getD (curr.2 + k - 1) 0 then 0 else 1)) = nmm'
      by_cases hbud : nmm' > allowed
      · rw [if_pos hbud]; exact ⟨[], rfl, by simp, by simp⟩
      · rw [if_neg hbud]
        obtain ⟨blk, hb, hz, hp⟩ := ih (curr.1 + 1, curr.2 + 1) nmm'
          (by simp only [dg] at hc ⊢; omega) (by omega) (by simp only; omega)
        rw [hb]
        refine ⟨curr :: blk, rfl, ?_, ?_⟩
        · intro z hz'
          rcases List.mem_cons.mp hz' with rfl | hz'
          · exact ⟨hc, hlt, Nat.le_refl _⟩
          · obtain ⟨a, b, c⟩ := hz z hz'
            simp only at c
            exact ⟨a, b, by omega⟩
        · refine List.pairwise_cons.mpr ⟨?_, hp⟩
          intro z hz'
          obtain ⟨_, _, c⟩ := hz z hz'
          simp only at c
          omega

theorem rightCore_spec (seq1 seq2 : List Nat) (k allowed : Nat) (pre : List M) (map : IMap M) (e : M)
    (hs : DiagSorted keyR (pre ++ [e])) (hI : MapInv keyR id pre map) :
    ∃ blk, rightCore seq1 seq2 k allowed map e = some (imInsert (dg e) (id e) map, blk) ∧ BlockOk keyR pre e blk := by
  have hmap := hI (dg e)
  have hnext : ∃ next : M, (imGet (dg e) map).getD (e.1 + (min (seq1.length - e.1) (seq2.length - e.2) - (k - 1)),
        e.2 + (min (seq1.length - e.1) (seq2.length - e.2) - (k - 1))) = next ∧ dg next = dg e ∧ e.1 ≤ next.1 ∧
      ∀ a ∈ pre, dg a = dg e → next.1 ≤ a.1 := by
    cases hget : imGet (dg e) map with
    | none =>
      rw [hget] at hmap
      refine ⟨_, rfl, ?_, ?_, ?_⟩
      · simp only [Option.getD_none, dg]; omega
      · simp only [Option.getD_none]; omega
      · intro a ha hda; exact absurd hda (hmap a ha)
    | some v =>
      rw [hget] at hmap
      obtain ⟨a, ha, hv, hda, hmax⟩ := hmap
      simp only [id] at hv
      subst hv
      have hs2 := List.pairwise_append.mp hs
      have hlt := hs2.2.2 v ha e (by simp) hda
      refine ⟨_, rfl, ?_, ?_, ?_⟩
      · simp only [Option.getD_some]; exact hda
      · simp only [Option.getD_some, keyR] at hlt ⊢; omega
      · intro a' ha' hda'
        have := hmax a' ha' hda'
        simp only [Option.getD_some, keyR] at this ⊢; omega
  obtain ⟨next, hn, hd, hge, hmin⟩ := hnext
  obtain ⟨blk, hb, hz, hp⟩ := rightLoop_spec seq1 seq2 k allowed next (dg e) hd (next.1 + 2 - e.1) (e.1 + 1, e.2 + 1) 0
    (by simp only [dg]; omega) (by omega) (by simp only; omega)
  refine ⟨blk, ?_, ?_, ?_⟩
  · unfold rightCore
    simp only
    rw [show ((e.1 : Int) - (e.2 : Int)) = dg e from rfl, hn, hb]
    rfl
  · intro z hz'
    obtain ⟨a, b, c⟩ := hz z hz'
    simp only at c
    refine ⟨a, by simp only [keyR]; omega, ?_⟩
    intro a' ha' hda'
    have := hmin a' ha' hda'
    simp only [keyR]; omega
  · apply hp.imp
    intro a b hab e'
    subst e'; omega

theorem diagSortedL_of_lex {l : List M} (h : l.Pairwise lexLt) : DiagSorted keyL l := by
  apply h.imp
  intro a b hab hd
  simp only [lexLt] at hab
  simp only [dg] at hd
  simp only [keyL]; omega

theorem diagSortedR_of_lex {l : List M} (h : l.Pairwise lexLt) : DiagSorted keyR l.reverse := by
  unfold DiagSorted
  rw [List.pairwise_reverse]
  apply h.imp
  intro a b hab hd
  simp only [lexLt] at hab
  simp only [dg] at hd
  simp only [keyR]; omega

theorem expand_model_ok (seq1 seq2 : List Nat) (k : Nat) (ms : List M) (allowed : Nat) (hs : ms.Pairwise lexLt) :
    ∃ r, expandKmerMatches seq1 seq2 k ms allowed = .ok r ∧ r.Pairwise lexLt ∧ ∀ m ∈ ms, m ∈ r := by
  have hsorted : sortedStrict ms = true := (RbV.Lemmas.Lcskpp.sortedStrict_iff ms).mpr hs
  obtain ⟨map1, extra1, hf1, hn1⟩ := fold_nodup keyL embL (leftCore seq1 seq2 allowed)
    (leftCore_spec seq1 seq2 allowed) ms ms (diagSortedL_of_lex hs)
  have hE := RbV.Lemmas.KmerHash.mergeSort_pairLe_strict (ms ++ extra1) hn1
  obtain ⟨map2, extra2, hf2, hn2⟩ := fold_nodup keyR id (rightCore seq1 seq2 k allowed)
    (rightCore_spec seq1 seq2 k allowed) ((ms ++ extra1).mergeSort Model.KmerHash.pairLe).reverse
    ((ms ++ extra1).mergeSort Model.KmerHash.pairLe) (diagSortedR_of_lex hE)
  have hn2' : (((ms ++ extra1).mergeSort Model.KmerHash.pairLe) ++ extra2).Nodup :=
    ((List.reverse_perm _).append_right extra2).nodup_iff.mp hn2
  refine ⟨_, ?_, RbV.Lemmas.KmerHash.mergeSort_pairLe_strict _ hn2', ?_⟩
  · unfold expandKmerMatches
    simp only [hsorted, Bool.not_true, Bool.false_eq_true, if_false, hf1, hf2]
  · intro m hm
    rw [(List.mergeSort_perm _ _).mem_iff]
    apply List.mem_append_left
    rw [(List.mergeSort_perm _ _).mem_iff]
    exact List.mem_append_left _ hm

end RbV.Lemmas.Expand
