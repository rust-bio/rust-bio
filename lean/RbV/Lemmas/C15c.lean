import RbV.Lemmas.C15
/-!
C15: real-number model of `src/utils/fastexp.rs` — the bit trick is exact, only the polynomial approximates.

`fastexp(x)` for `x > MIN_VAL`: `x' = x · (1/ln 2)`, `bits = x' as i64` (truncation towards zero = `⌈x'⌉` for
`x ≤ 0`), `y = x' − bits ∈ (−1, 0]`, result `2^bits · P(y)` where `2^bits` is assembled exactly from the exponent
field (`f64::from_bits((bits + 1023) << 52)`) and `P` is a degree-4 polynomial approximating `2^y`.
Here `2^t` is written `exp (t · log 2)`.  Not in this file's `fastexpModel`: `ONEBYLOG2` is a 10-digit literal (relative
2·10⁻¹⁰ in `x'`), f64 rounding, and the cut-off `MIN_VAL` (the translated text with literal and cut-off:
`RbV/Thm/GenSrcFastExp.lean`).
-/
namespace RbV.C15
open Real

/-- the polynomial of `fastexp.rs`, evaluated in the order of the source -/
def fastexpPoly (c1 c2 c3 c4 : ℝ) (y : ℝ) : ℝ := ((y * c4 + c3) * y + c2) * ((y + c1) * y) + 1

noncomputable def fastexpModel (P : ℝ → ℝ) (x : ℝ) : ℝ :=
  exp ((⌈x / log 2⌉ : ℝ) * log 2) * P (x / log 2 - ⌈x / log 2⌉)

theorem fastexpModel_approx (P : ℝ → ℝ) (δ : ℝ)
    (hP : ∀ y : ℝ, -1 < y → y ≤ 0 → |P y - exp (y * log 2)| ≤ δ * exp (y * log 2)) :
    ApproxExp (fastexpModel P) δ := by
  intro x _
  have hl2 : log 2 ≠ 0 := (log_pos (by norm_num)).ne'
  set x' := x / log 2 with hx'
  have hy1 : -1 < x' - ⌈x'⌉ := by have := Int.ceil_lt_add_one x'; linarith
  have hy0 : x' - ⌈x'⌉ ≤ 0 := by have := Int.le_ceil x'; linarith
  have hx : x = (⌈x'⌉ : ℝ) * log 2 + (x' - ⌈x'⌉) * log 2 := by
    rw [hx']; field_simp; ring
  have := scaled_error ((⌈x'⌉ : ℝ) * log 2) (hP _ hy1 hy0)
  rwa [mul_sub, ← exp_add, ← hx] at this

end RbV.C15
