import RbV.Lemmas.SaisBasic
import RbV.Ref.BWT
/-
Texts accepted by `Sais::construct` (`Valid`: non-empty, the last symbol is the unique minimum, dense alphabet)
and the buckets: `init_bucket_start` / `init_bucket_end` are the prefix sums of the symbol counts (C03 (c)).
-/
namespace RbV.Sais

/-- symbol at position `p` -/
def sym (t : List Nat) (p : Nat) : Nat := t.getD p 0

/-- number of symbols below `c` = start of bucket `c` -/
def cntLt (t : List Nat) (c : Nat) : Nat := t.countP (fun x => decide (x < c))

/-- 1 + largest symbol (0 for the empty text) = number of buckets -/
def maxSucc (l : List Nat) : Nat := l.foldl (fun acc x => max acc (x + 1)) 0

/-- what `Sais::construct` expects of its text -/
structure Valid (t : List Nat) : Prop where
  pos : 0 < t.length
  lastMin : ∀ i, i + 1 < t.length → sym t (t.length - 1) < sym t i
  dense : ∀ c x, x ∈ t → c ≤ x → c ∈ t

theorem Valid.ne_nil {t : List Nat} (hv : Valid t) : t ≠ [] := List.ne_nil_of_length_pos hv.pos

theorem maxSucc_append (l : List Nat) (a : Nat) : maxSucc (l ++ [a]) = max (maxSucc l) (a + 1) := by
  simp [maxSucc, List.foldl_append]

theorem le_foldl_max {α : Type} (f : α → Nat) (l : List α) (b : Nat) :
    b ≤ l.foldl (fun acc x => max acc (f x)) b := by
  induction l generalizing b with
  | nil => simp
  | cons a l ih => simp only [List.foldl_cons]; have := ih (max b (f a)); omega

theorem mem_le_foldl_max {α : Type} (f : α → Nat) (l : List α) (b : Nat) (x : α) (hx : x ∈ l) :
    f x ≤ l.foldl (fun acc x => max acc (f x)) b := by
  induction l generalizing b with
  | nil => simp at hx
  | cons a l ih =>
    simp only [List.foldl_cons]
    rcases List.mem_cons.mp hx with rfl | h
    · have := le_foldl_max f l (max b (f x)); omega
    · exact ih _ h

theorem lt_maxSucc_of_mem (l : List Nat) (x : Nat) (hx : x ∈ l) : x < maxSucc l :=
  mem_le_foldl_max (· + 1) l 0 x hx

/-! ### symbols of a `Valid` text -/

section
variable {t : List Nat}

theorem drop_sym (t : List Nat) (x : Nat) (hx : x < t.length) : t.drop x = sym t x :: t.drop (x + 1) :=
  List.drop_eq_getD_cons t x 0 hx

theorem sym_ne_last (hv : Valid t) (p : Nat) (hp : p + 1 < t.length) : sym t p ≠ sym t (t.length - 1) := by
  have := hv.lastMin p hp; omega

theorem sym_mem (p : Nat) (hp : p < t.length) : sym t p ∈ t := List.getD_mem t p 0 hp

theorem sym_lt_maxSucc (p : Nat) (hp : p < t.length) : sym t p < maxSucc t := lt_maxSucc_of_mem t _ (sym_mem p hp)

theorem sym_last_zero (hv : Valid t) : sym t (t.length - 1) = 0 := by
  have hm : sym t (t.length - 1) ∈ t := sym_mem _ (by have := hv.pos; omega)
  have h0 : 0 ∈ t := hv.dense 0 _ hm (by omega)
  obtain ⟨i, hi, he⟩ := List.exists_getD_of_mem t 0 h0
  by_cases hil : i + 1 < t.length
  · have := hv.lastMin i hil
    unfold sym at this; omega
  · have : i = t.length - 1 := by omega
    rw [← this]; exact he

/-- in a `Valid` text exactly the last symbol is 0 -/
theorem sym_eq_zero_iff (hv : Valid t) {p : Nat} (hp : p < t.length) : sym t p = 0 ↔ p + 1 = t.length := by
  constructor
  · intro h0
    apply Classical.byContradiction
    intro hne
    have := hv.lastMin p (by omega)
    omega
  · intro h
    rw [show p = t.length - 1 by omega]; exact sym_last_zero hv

theorem sym_ne_zero (hv : Valid t) (p : Nat) (hp : p + 1 < t.length) : sym t p ≠ 0 :=
  fun h => by have := (sym_eq_zero_iff hv (by omega)).mp h; omega

theorem succ_lt_of_sym_ne_zero (hv : Valid t) (p : Nat) (hp : p < t.length) (h : sym t p ≠ 0) : p + 1 < t.length := by
  have := mt (sym_eq_zero_iff hv hp).mpr h; omega

theorem valid_length_one (hv : Valid t) (h1 : t.length = 1) : t = [0] := by
  match t, h1 with
  | [a], _ =>
    have := sym_last_zero hv
    simp [sym] at this
    rw [this]

end

theorem foldl_maxSucc_witness (l : List Nat) (b : Nat) :
    l.foldl (fun acc x => max acc (x + 1)) b = b ∨ ∃ x ∈ l, l.foldl (fun acc x => max acc (x + 1)) b = x + 1 := by
  induction l generalizing b with
  | nil => left; rfl
  | cons a l ih =>
    simp only [List.foldl_cons]
    rcases ih (max b (a + 1)) with h | ⟨x, hx, h⟩
    · rw [h]
      by_cases hb : a + 1 ≤ b
      · left; omega
      · right; exact ⟨a, by simp, by omega⟩
    · right; exact ⟨x, by simp [hx], h⟩

theorem maxSucc_witness (l : List Nat) (hne : l ≠ []) : ∃ x ∈ l, maxSucc l = x + 1 := by
  rcases foldl_maxSucc_witness l 0 with h | h
  · cases l with
    | nil => exact absurd rfl hne
    | cons a l =>
      have := lt_maxSucc_of_mem (a :: l) a (by simp)
      unfold maxSucc at this; omega
  · exact h

theorem count_eq_zero_of_ge (l : List Nat) (c : Nat) (h : maxSucc l ≤ c) : l.count c = 0 := by
  apply List.count_eq_zero_of_not_mem
  intro hm
  have := lt_maxSucc_of_mem l c hm
  omega

/-- `cntLt` is the `less` count of the BWT references; its arithmetic is proved there -/
theorem cntLt_eq_lessRef (t : List Nat) (c : Nat) : cntLt t c = lessRef t c := rfl

theorem cntLt_succ (t : List Nat) (c : Nat) : cntLt t (c + 1) = cntLt t c + t.count c := lessRef_succ t c

theorem cntLt_zero (t : List Nat) : cntLt t 0 = 0 := by
  unfold cntLt; simp

theorem cntLt_mono (t : List Nat) (a b : Nat) (h : a ≤ b) : cntLt t a ≤ cntLt t b := lessRef_mono t h

theorem cntLt_le_length (t : List Nat) (c : Nat) : cntLt t c ≤ t.length := by
  unfold cntLt; exact List.countP_le_length

theorem cntLt_maxSucc (t : List Nat) (c : Nat) (h : maxSucc t ≤ c) : cntLt t c = t.length := by
  unfold cntLt
  rw [List.countP_eq_length]
  intro x hx
  have := lt_maxSucc_of_mem t x hx
  simp; omega

/-- entry of the `VecMap` for key `c` -/
def cOpt (l : List Nat) (c : Nat) : Option Nat := if l.count c = 0 then none else some (l.count c)

theorem cOpt_snoc (l : List Nat) (c k : Nat) :
    cOpt (l ++ [c]) k = if k = c then some (l.count c + 1) else cOpt l k := by
  unfold cOpt
  rw [List.count_append]
  by_cases h : k = c
  · subst h; simp
  · have : List.count k [c] = 0 := by simp [List.count_cons]; exact fun e => h e.symm
    simp [h, this]

/-- `m` is the `VecMap` of the counts of `l` -/
def CountsMap (m : List (Option Nat)) (l : List Nat) : Prop :=
  m.length = maxSucc l ∧ ∀ c, c < m.length → m[c]? = some (cOpt l c)

theorem countsMap_vmIncr (m : List (Option Nat)) (l : List Nat) (a : Nat) (h : CountsMap m l) : CountsMap (vmIncr m a) (l ++ [a]) := by
  obtain ⟨hlen, hent⟩ := h
  have hpad : ∀ m' : List (Option Nat),
      m' = (if a < m.length then m else m ++ List.replicate (a + 1 - m.length) none) →
      m'.length = max (maxSucc l) (a + 1) ∧ ∀ c, c < m'.length → m'[c]? = some (cOpt l c) := by
    intro m' hm'
    by_cases ha : a < m.length
    · rw [if_pos ha] at hm'; subst hm'
      exact ⟨by omega, hent⟩
    · rw [if_neg ha] at hm'; subst hm'
      refine ⟨by simp; omega, ?_⟩
      intro c hc
      by_cases hcm : c < m.length
      · rw [List.getElem?_append_left hcm]; exact hent c hcm
      · rw [List.getElem?_append_right (by omega)]
        simp only [List.length_append, List.length_replicate] at hc
        rw [List.getElem?_replicate, if_pos (by omega)]
        unfold cOpt
        rw [count_eq_zero_of_ge l c (by omega)]; simp
  unfold vmIncr
  obtain ⟨hl', he'⟩ := hpad _ rfl
  generalize (if a < m.length then m else m ++ List.replicate (a + 1 - m.length) none) = m' at hl' he' ⊢
  have ha' : a < m'.length := by omega
  have hga : m'.getD a none = cOpt l a := by
    rw [List.getD_eq_getElem?_getD, he' a ha']; rfl
  have key : ∀ v : Nat, v = l.count a + 1 → CountsMap (m'.set a (some v)) (l ++ [a]) := by
    intro v hv
    refine ⟨by rw [List.length_set, maxSucc_append]; exact hl', ?_⟩
    intro c hc
    rw [List.length_set] at hc
    rw [List.getElem?_set]
    by_cases hac : a = c
    · subst hac
      rw [if_pos rfl, if_pos ha', cOpt_snoc, if_pos rfl, hv]
    · rw [if_neg hac, he' c hc, cOpt_snoc, if_neg (Ne.symm hac)]
  dsimp only
  rw [hga]
  unfold cOpt
  by_cases h0 : l.count a = 0
  · rw [if_pos h0]; exact key 1 (by omega)
  · rw [if_neg h0]; exact key _ rfl

theorem countsMap_foldl (t : List Nat) (m : List (Option Nat)) (l : List Nat) (h : CountsMap m l) :
    CountsMap (t.foldl vmIncr m) (l ++ t) := by
  induction t generalizing m l with
  | nil => simpa using h
  | cons a t ih =>
    simp only [List.foldl_cons]
    have := ih (vmIncr m a) (l ++ [a]) (countsMap_vmIncr m l a h)
    simpa using this

theorem countsMap_bucketSizes (t : List Nat) : CountsMap (bucketSizes t) t := by
  have := countsMap_foldl t [] [] ⟨rfl, by simp⟩
  simpa [bucketSizes] using this

theorem bucketSizes_eq (t : List Nat) : bucketSizes t = (List.range (maxSucc t)).map (cOpt t) := by
  obtain ⟨hl, he⟩ := countsMap_bucketSizes t
  apply List.ext_getElem?
  intro i
  by_cases hi : i < (bucketSizes t).length
  · rw [he i hi, List.getElem?_map, List.getElem?_range (by omega)]; rfl
  · rw [List.getElem?_eq_none (by omega), List.getElem?_eq_none (by simp; omega)]

theorem filterMap_eq_map_of_some {α β : Type} (f : α → Option β) (g : α → β) (l : List α)
    (h : ∀ c ∈ l, f c = some (g c)) : l.filterMap f = l.map g := by
  induction l with
  | nil => rfl
  | cons a l ih =>
    rw [List.filterMap_cons, h a (by simp), List.map_cons, ih (fun c hc => h c (by simp [hc]))]

/-- for a dense text every key is present: `values()` = the counts of `0..K` -/
theorem bucketSizes_values (t : List Nat) (hd : ∀ c x, x ∈ t → c ≤ x → c ∈ t) :
    (bucketSizes t).filterMap id = (List.range (maxSucc t)).map (fun c => t.count c) := by
  rw [bucketSizes_eq, List.filterMap_map]
  by_cases hne : t = []
  · subst hne; simp [maxSucc]
  · obtain ⟨x, hx, hm⟩ := maxSucc_witness t hne
    apply filterMap_eq_map_of_some
    intro c hc
    rw [List.mem_range] at hc
    have hcm : c ∈ t := hd c x hx (by omega)
    have : t.count c ≠ 0 := by
      intro h0
      exact (List.count_eq_zero.mp h0) hcm
    simp [cOpt, this]

theorem prefixSums_counts (t : List Nat) (a k : Nat) :
    prefixSums ((List.range' a k).map (fun c => t.count c)) (cntLt t a) = (List.range' a k).map (cntLt t) := by
  induction k generalizing a with
  | zero => simp [prefixSums]
  | succ k ih =>
    rw [List.range'_succ]
    simp only [List.map_cons, prefixSums]
    rw [← cntLt_succ, ih (a + 1)]

/-- **`init_bucket_start`** (C03 (c)): for a dense text, `bucket_start[c]` = number of symbols below `c` -/
theorem initBucketStart_eq (t : List Nat) (hd : ∀ c x, x ∈ t → c ≤ x → c ∈ t) :
    initBucketStart t = (List.range (maxSucc t)).map (cntLt t) := by
  unfold initBucketStart
  rw [bucketSizes_values t hd]
  have := prefixSums_counts t 0 (maxSucc t)
  rw [cntLt_zero] at this
  simpa [List.range_eq_range'] using this

/-- **`init_bucket_end`** (C03 (c)): `bucket_end[c]` = (number of symbols ≤ `c`) − 1 -/
theorem initBucketEnd_eq (t : List Nat) (hne : t ≠ []) (hd : ∀ c x, x ∈ t → c ≤ x → c ∈ t) :
    initBucketEnd (initBucketStart t) t.length = (List.range (maxSucc t)).map (fun c => cntLt t (c + 1) - 1) := by
  rw [initBucketStart_eq t hd]
  unfold initBucketEnd
  obtain ⟨x, hx, hm⟩ := maxSucc_witness t hne
  -- `range (x + 1)` is `0 :: map succ (range x)` on the left and `range x ++ [x]` on the right
  rw [← cntLt_maxSucc t _ (Nat.le_refl _), hm]
  conv => lhs; rw [List.range_succ_eq_map, List.map_cons, List.drop_succ_cons, List.drop_zero, List.map_map, List.map_map]
  rw [List.range_succ, List.map_append, List.map_singleton]
  rfl

end RbV.Sais
