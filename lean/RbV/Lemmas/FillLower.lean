import RbV.Lemmas.FillSound
/-!
No `S` cell and no `I` cell (row ≥ 1) of `Model/PairwiseFill.lean` holds junk: each dominates the closed-form score of
"delete `y[0..j]`, insert `x[0..i]`", which under `SaneHyp` lies above `MIN_SCORE`.  Needed by the traceback proof: the
code left in a cell is never the untouched default, and a gap is never "extended" out of a sentinel.
-/
namespace RbV.Model.PairwiseFill
open RbV.Align

section
variable (sc : Sc)

/-- score of deleting `j` symbols, then inserting `i` symbols -/
def Lw (i j : Nat) : Int :=
  (if j = 0 then 0 else sc.go + sc.ge * (j : Int)) + (if i = 0 then 0 else sc.go + sc.ge * (i : Int))

theorem ge_mul_anti (hge : sc.ge ≤ 0) {k k' : Nat} (h : k ≤ k') : sc.ge * (k' : Int) ≤ sc.ge * (k : Int) :=
  Int.mul_le_mul_of_nonpos_left hge (Int.ofNat_le.mpr h)

theorem Lw_col0 (i : Nat) : Lw sc (i + 1) 0 = sc.go + sc.ge * ((i + 1 : Nat) : Int) := by simp [Lw]

theorem Lw_row0 (j : Nat) : Lw sc 0 (j + 1) = sc.go + sc.ge * ((j + 1 : Nat) : Int) := by simp [Lw]

theorem Lw_row_succ (i j : Nat) (h1 : 1 ≤ i) : Lw sc (i + 1) j = Lw sc i j + sc.ge := by
  unfold Lw
  obtain ⟨k, rfl⟩ : ∃ k, i = k + 1 := ⟨i - 1, by omega⟩
  have e := mul_add_one sc.ge ((k : Int) + 1)
  simp only [show k + 1 ≠ 0 by omega, show k + 1 + 1 ≠ 0 by omega, if_false]
  push_cast
  omega

theorem Lw_row_one (j : Nat) : Lw sc 1 j = Lw sc 0 j + sc.go + sc.ge := by
  unfold Lw
  simp
  omega

variable {sc}
variable {cl : Clip} {x y : List Nat}

variable (sc cl x y) in
theorem cell_lower (hxs : cl.xs ≤ 0) : ∀ j, j ≤ y.length → ∀ i, i ≤ x.length →
    Lw sc i j ≤ (cell sc cl x y j i).s ∧ (1 ≤ i → Lw sc i j ≤ (cell sc cl x y j i).i) := by
  refine cell_ind sc cl x y (P := fun j i r => Lw sc i j ≤ r.s ∧ (1 ≤ i → Lw sc i j ≤ r.i)) ?_ ?_ ?_ ?_
  · simp [row00, Lw]
  · intro i hi r _
    rw [step0_eq]
    dsimp only
    have := iv0_ge (sc := sc) (cl := cl) (i + 1) (by omega)
    have e := Lw_col0 sc i
    exact ⟨by omega, fun _ => by omega⟩
  · intro j hj p0 _
    rw [rowJ0_eq]
    dsimp only
    have := dv0_ge (sc := sc) (cl := cl) (j + 1) (by omega)
    have e := Lw_row0 sc j
    refine ⟨?_, fun h => by omega⟩
    split <;> omega
  · intro j i hj hi prev r _ _ ⟨h1, h2⟩
    rw [stepJ_eq_xs _ _ _ _ hxs]
    dsimp only
    have hb := bestS_ge_bestI (sc := sc) (cl := cl) (x := x) (y := y) (j + 1) prev (i + 1) r
    have hI : Lw sc (i + 1) (j + 1) ≤ bestI sc r := by
      unfold bestI
      rcases Nat.eq_zero_or_pos i with rfl | hpos
      · have := Lw_row_one sc (j + 1)
        simp only [Nat.zero_add] at *
        omega
      · have := Lw_row_succ sc i (j + 1) hpos
        have := h2 hpos
        omega
    exact ⟨Int.le_trans hI hb, fun _ => hI⟩

variable {W : Int}

theorem Lw_gt_min (H : SaneHyp sc cl x y)
    (i j : Nat) (hi : i ≤ x.length) (hj : j ≤ y.length) : minScore - sc.go < Lw sc i j ∨ (minScore < Lw sc i j ∧ 1 ≤ i ∧ 1 ≤ j) := by
  have hs := H.room
  have e : sc.ge * ((x.length : Int) + y.length) = sc.ge * (x.length : Int) + sc.ge * (y.length : Int) := Int.mul_add _ _ _
  have h1 := ge_mul_anti sc H.ge hi
  have h2 := ge_mul_anti sc H.ge hj
  have h3 := ge_mul_anti sc H.ge (Nat.zero_le i)
  have h4 := ge_mul_anti sc H.ge (Nat.zero_le j)
  simp only [Int.natCast_zero, Int.mul_zero] at h3 h4
  have := H.go
  unfold Lw
  by_cases hi0 : i = 0
  · left; subst hi0; simp only [if_true]; split <;> omega
  · by_cases hj0 : j = 0
    · left; subst hj0; simp only [if_true, hi0, if_false]; omega
    · right; simp only [hi0, hj0, if_false]; exact ⟨by omega, by omega, by omega⟩

theorem cell_s_gt_min (H : SaneHyp sc cl x y)
    (i j : Nat) (hi : i ≤ x.length) (hj : j ≤ y.length) : minScore < (cell sc cl x y j i).s := by
  have := (cell_lower sc cl x y H.xs j hj i hi).1
  have hgo := H.go
  rcases Lw_gt_min H i j hi hj with h | h <;> omega

theorem cell_i_gt_min (H : Hyp sc cl x y W)
    (hs : minScore + ((x.length : Int) + y.length) * W < 2 * sc.go + sc.ge * ((x.length : Int) + y.length))
    (i j : Nat) (hi : i ≤ x.length) (hj : j ≤ y.length) (h1 : 1 ≤ i) : minScore < (cell sc cl x y j i).i := by
  have := (cell_lower sc cl x y H.xs j hj i hi).2 h1
  have hgo := H.go
  rcases Lw_gt_min (.of_room H.go H.ge ⟨H.xp, H.xs, H.yp, H.ys⟩ H.W0 hs) i j hi hj with h | h <;> omega

/-- in row 0 and in column 0 even `S + gap_open` stays above the sentinel (so `MIN_SCORE + gap_extend` never wins the
`I[·][0]` / `D[0][·]` comparison) -/
theorem cell_s_go_row0 (H : SaneHyp sc cl x y)
    (j : Nat) (hj : j ≤ y.length) : minScore < (cell sc cl x y j 0).s + sc.go := by
  have := (cell_lower sc cl x y H.xs j hj 0 (Nat.zero_le _)).1
  rcases Lw_gt_min H 0 j (Nat.zero_le _) hj with h | h <;> omega

theorem cell_s_go_col0 (H : SaneHyp sc cl x y)
    (i : Nat) (hi : i ≤ x.length) : minScore < (cell sc cl x y 0 i).s + sc.go := by
  have := (cell_lower sc cl x y H.xs 0 (Nat.zero_le _) i hi).1
  rcases Lw_gt_min H i 0 hi (Nat.zero_le _) with h | h <;> omega

end

end RbV.Model.PairwiseFill
