import RbV.Lemmas.LcskppStep
/-! C19 — `lcskpp` mirror model: the whole sweep, the traceback, optimality.  Core Lean only. -/
namespace RbV.Lemmas.Lcskpp
open RbV.KChain RbV.Model.Lcskpp RbV.QGram

theorem sweep_inv_prefix {ms : List M} {k : Nat} (hk : 0 < k) (hs : ms.Pairwise lexLt) {done rest : List Ev}
    (h : sortedEvents ms k = done ++ rest) : Inv ms k done (done.foldl (stepEv ms k) (initSt ms k)) :=
  sweep_ind (inv_step_start hk hs) (inv_step_end hk hs) (inv_init ms k) h

theorem sweep_inv {ms : List M} {k : Nat} (hk : 0 < k) (hs : ms.Pairwise lexLt) :
    Inv ms k (sortedEvents ms k) (sweep ms k) :=
  sweep_inv_prefix hk hs (List.append_nil _).symm

theorem final_cell {ms : List M} {k : Nat} (hk : 0 < k) (hs : ms.Pairwise lexLt) {q : Nat} (hq : q < ms.length) :
    (cellAt (sweep ms k) q).1 = F ms k q :=
  (sweep_inv hk hs).ended q hq ((mem_sortedEvents ms k _).mpr ⟨q, hq, Or.inr rfl⟩)

theorem final_ptr {ms : List M} {k : Nat} (hk : 0 < k) (hs : ms.Pairwise lexLt) {q : Nat} (hq : q < ms.length) :
    PtrOk ms k (sortedEvents ms k) (cellAt (sweep ms k) q) q :=
  (sweep_inv hk hs).ptr q hq ((mem_sortedEvents ms k _).mpr ⟨q, hq, Or.inl rfl⟩)

/-- `best_dp` after the sweep: it names a match whose final cell carries the best score of all cells -/
theorem final_best {ms : List M} {k : Nat} (hk : 0 < k) (hs : ms.Pairwise lexLt) (hne : 0 < ms.length) :
    (∃ p, p < ms.length ∧ (sweep ms k).best.2 = (p : Int) ∧ (sweep ms k).best.1 = F ms k p) ∧
    ∀ q, q < ms.length → F ms k q ≤ (sweep ms k).best.1 := by
  have hI := sweep_inv hk hs
  have hub : ∀ q, q < ms.length → F ms k q ≤ (sweep ms k).best.1 := by
    intro q hq
    rw [← final_cell hk hs hq]
    exact hI.best_ub q hq ((mem_sortedEvents ms k _).mpr ⟨q, hq, Or.inl rfl⟩)
  refine ⟨?_, hub⟩
  rcases hI.best_at with h | ⟨p, hp, h2, _, h1⟩
  · refine ⟨0, hne, by rw [h]; rfl, ?_⟩
    have h1 := hub 0 hne
    have h2 := k_le_F hk hs hne
    rw [h] at h1 ⊢; simp only at h1 ⊢; omega
  · exact ⟨p, hp, h2, by rw [h1, final_cell hk hs hp]⟩

theorem best_eq_max0 {ms : List M} {k : Nat} (hk : 0 < k) (hs : ms.Pairwise lexLt) (hne : 0 < ms.length) :
    (sweep ms k).best.1 = max0 (dpScores ms k) := by
  obtain ⟨⟨p, hp, _, h1⟩, hub⟩ := final_best hk hs hne
  symm
  apply max0_eq_of
  · intro a ha
    obtain ⟨i, hi, rfl⟩ := List.getElem_of_mem ha
    have hi' : i < ms.length := by rw [dpScores_length] at hi; exact hi
    have := hub i hi'
    unfold F at this
    rw [List.getD_eq_getElem?_getD, List.getElem?_eq_getElem hi] at this
    exact this
  · right
    rw [h1]; unfold F
    have hi : p < (dpScores ms k).length := by rw [dpScores_length]; exact hp
    rw [List.getD_eq_getElem?_getD, List.getElem?_eq_getElem hi]
    exact List.getElem_mem hi

theorem traceLoop_neg (dp : List (Nat × Int)) (fuel : Nat) : traceLoop dp (fuel + 1) (-1) = some [] := by
  simp [traceLoop]

theorem traceLoop_nat (dp : List (Nat × Int)) (fuel p : Nat) :
    traceLoop dp (fuel + 1) (p : Int) = (traceLoop dp fuel (dp.getD p (0, 0)).2).map (p :: ·) := by
  simp [traceLoop]

/-- the traceback over any `dp` vector in which every pointer is `-1` or a valid link to an earlier match: from `p` it
terminates within `p + 2` rounds of the loop and yields (latest match first) a valid chain of descending indices; a property
`Q` of (match, score) that holds of a chain start with score `k` and is carried along every link holds of the chain's score -/
theorem trace_links {ms : List M} {k : Nat} (hk : 0 < k) (hs : ms.Pairwise lexLt) (dp : List (Nat × Int)) (Q : Nat → Nat → Prop)
    (hptr : ∀ p, p < ms.length → ((dp.getD p (0, 0)).2 = -1 ∧ Q p k) ∨
      ∃ r, r < ms.length ∧ (dp.getD p (0, 0)).2 = (r : Int) ∧ Link k (mAt ms r) (mAt ms p) ∧
        ∀ v, Q r v → Q p (step k (mAt ms r) (mAt ms p) + v)) :
    ∀ p, p < ms.length → ∀ fuel, p + 2 ≤ fuel →
      ∃ tb, traceLoop dp fuel (p : Int) = some (p :: tb) ∧ (∀ i ∈ p :: tb, i < ms.length) ∧
        RChain k ((p :: tb).map (mAt ms)) ∧ Q p (rscore k ((p :: tb).map (mAt ms))) ∧ (p :: tb).Pairwise (· > ·) := by
  intro p
  induction p using Nat.strongRecOn with
  | _ p ih =>
    intro hp fuel hfuel
    obtain ⟨fuel, rfl⟩ : ∃ f, fuel = f + 1 := ⟨fuel - 1, by omega⟩
    rw [traceLoop_nat]
    rcases hptr p hp with ⟨h2, hQ⟩ | ⟨r, hr, h2, hlink, hQ⟩
    · rw [h2]
      obtain ⟨fuel, rfl⟩ : ∃ f, fuel = f + 1 := ⟨fuel - 1, by omega⟩
      rw [traceLoop_neg]
      exact ⟨[], rfl, by simpa using hp, trivial, hQ, List.pairwise_singleton _ _⟩
    · rw [h2]
      have hrp : r < p := idx_lt_of_x_lt hs hr (link_x_lt hk hlink)
      obtain ⟨tb, ht, hall, hch, hsc, hpw⟩ := ih r hrp hr fuel (by omega)
      rw [ht]
      refine ⟨r :: tb, rfl, ?_, ⟨hlink, hch⟩, hQ _ hsc, List.pairwise_cons.mpr ⟨?_, hpw⟩⟩
      · intro i hi
        rcases List.mem_cons.mp hi with rfl | hi
        · exact hp
        · exact hall i hi
      · intro i hi
        rcases List.mem_cons.mp hi with rfl | hi
        · exact hrp
        · exact Nat.lt_trans ((List.pairwise_cons.mp hpw).1 i hi) hrp

theorem trace_spec {ms : List M} {k : Nat} (hk : 0 < k) (hs : ms.Pairwise lexLt) :
    ∀ p, p < ms.length → ∀ fuel, p + 2 ≤ fuel →
      ∃ tb, traceLoop (sweep ms k).dp fuel (p : Int) = some (p :: tb) ∧ (∀ i ∈ p :: tb, i < ms.length) ∧
        RChain k ((p :: tb).map (mAt ms)) ∧ rscore k ((p :: tb).map (mAt ms)) = F ms k p ∧
        (p :: tb).Pairwise (· > ·) := by
  refine trace_links hk hs _ (fun p v => v = F ms k p) fun p hp => ?_
  have hcell := final_cell hk hs hp
  rcases final_ptr hk hs hp with ⟨h2, h1⟩ | ⟨r, hr, h2, _, hlink, h1⟩
  · exact Or.inl ⟨h2, by rw [← hcell, h1]⟩
  · exact Or.inr ⟨r, hr, h2, hlink, fun v hv => by rw [hv, ← hcell, h1]⟩

/-! ### what the driver's checker accepts -/

theorem validChain_iff_chain (ms : List M) (k : Nat) (u : List Nat) :
    validChain ms k u = true ↔ (∀ i ∈ u, i < ms.length) ∧ Chain k (u.map (mAt ms)) := by
  unfold validChain
  rw [Bool.and_eq_true, chainB_iff, List.all_eq_true]
  simp only [decide_eq_true_eq]
  rfl

/-- the traceback (latest match first) of in-range indices that form a chain, reversed, is accepted -/
theorem validChain_of_trace {ms : List M} {k : Nat} {l : List Nat} (hall : ∀ i ∈ l, i < ms.length)
    (hch : RChain k (l.map (mAt ms))) : validChain ms k l.reverse = true := by
  rw [validChain_iff_chain, List.map_reverse, ← rchain_iff]
  exact ⟨fun i hi => hall i (List.mem_reverse.mp hi), hch⟩

theorem lcskpp_model_ok {ms : List M} {k : Nat} (hk : 0 < k) (hs : ms.Pairwise lexLt) :
    ∃ r, lcskpp ms k = .ok r ∧ r.score = max0 (dpScores ms k) ∧ validChain ms k r.path = true ∧
      score k (pathMatches ms r.path) = max0 (dpScores ms k) ∧
      (∀ q, q < ms.length → (r.dp.getD q (0, 0)).1 = (dpScores ms k).getD q 0) ∧ r.path.Pairwise (· < ·) := by
  cases hms : ms with
  | nil =>
    refine ⟨{ path := [], score := 0, dp := [] }, by simp [lcskpp], by simp [dpScores, tableR, max0], by simp [validChain, pathMatches, chainB],
      by simp [pathMatches, score, dpScores, tableR, max0], by intro q hq; simp at hq, by simp⟩
  | cons m0 rest =>
    rw [← hms]
    have hne : 0 < ms.length := by rw [hms]; simp
    have hsorted : sortedStrict ms = true := (sortedStrict_iff ms).mpr hs
    obtain ⟨⟨p, hp, hb2, hb1⟩, _⟩ := final_best hk hs hne
    obtain ⟨tb, ht, hall, hch, hsc, hpw⟩ := trace_spec hk hs p hp (ms.length + 1) (by omega)
    have hopt : (sweep ms k).best.1 = max0 (dpScores ms k) := best_eq_max0 hk hs hne
    refine ⟨{ path := (p :: tb).reverse, score := (sweep ms k).best.1, dp := (sweep ms k).dp }, ?_, hopt, ?_, ?_, ?_, ?_⟩
    · unfold lcskpp
      have hemp : ms.isEmpty = false := by rw [hms]; rfl
      simp only [hemp, hsorted, Bool.false_eq_true, if_false, Bool.not_true, hb2, ht]
    · exact validChain_of_trace hall hch
    · have hpm : pathMatches ms (p :: tb).reverse = ((p :: tb).map (mAt ms)).reverse := by
        unfold pathMatches; rw [List.map_reverse]; rfl
      show score k (pathMatches ms (p :: tb).reverse) = _
      rw [hpm, ← rscore_eq, hsc, ← hb1, hopt]
    · intro q hq
      exact final_cell hk hs hq
    · show ((p :: tb).reverse).Pairwise (· < ·)
      rw [List.pairwise_reverse]; exact hpw

end RbV.Lemmas.Lcskpp
