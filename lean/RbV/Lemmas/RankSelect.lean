import RbV.Spec.RankSelect
/-! Lemmas behind `RbV/Thm/C17.lean`: the one-pass tables equal the declarative rank / select. Core only. -/
namespace RbV.Lemmas.RankSelect
open RbV.Spec.RankSelect

theorem rank_cons_succ (b x : Bool) (xs : List Bool) (i : Nat) :
    rank b (x :: xs) (i + 1) = (if x = b then 1 else 0) + rank b xs i := by
  unfold rank
  rw [List.take_succ_cons, List.count_cons]
  by_cases h : x = b <;> simp [h] <;> omega

theorem rank_cons_zero (b x : Bool) (xs : List Bool) :
    rank b (x :: xs) 0 = (if x = b then 1 else 0) := by
  unfold rank
  by_cases h : x = b <;> simp [h]

theorem prefixCounts_getElem? (b : Bool) (bits : List Bool) (acc i : Nat) :
    (prefixCounts b bits acc)[i]? = if i < bits.length then some (acc + rank b bits i) else none := by
  induction bits generalizing acc i with
  | nil => simp [prefixCounts]
  | cons x xs ih =>
    cases i with
    | zero =>
      simp only [prefixCounts, List.getElem?_cons_zero, List.length_cons, Nat.zero_lt_succ, if_true,
        rank_cons_zero]
      by_cases h : x = b <;> simp [h]
    | succ i =>
      simp only [prefixCounts, List.getElem?_cons_succ, ih, List.length_cons, Nat.succ_lt_succ_iff,
        rank_cons_succ]
      by_cases h : x = b <;> simp [h, Nat.add_assoc]

theorem rank_pos_of_getElem? (b : Bool) (bits : List Bool) (q : Nat) (h : bits[q]? = some b) :
    1 ≤ rank b bits q := by
  unfold rank
  have : b ∈ bits.take (q + 1) := by
    apply List.mem_of_getElem? (i := q)
    rw [List.getElem?_take]; simp [h]
  exact List.count_pos_iff.mpr this

theorem positions_getElem? (b : Bool) (bits : List Bool) (off k p : Nat) :
    (positions b bits off)[k]? = some p ↔
      ∃ q, p = off + q ∧ bits[q]? = some b ∧ rank b bits q = k + 1 := by
  induction bits generalizing off k with
  | nil => simp [positions]
  | cons x xs ih =>
    by_cases hx : x = b
    · simp only [positions, hx, if_true]
      cases k with
      | zero =>
        simp only [List.getElem?_cons_zero, Option.some.injEq]
        constructor
        · rintro rfl; exact ⟨0, rfl, by simp, by simp [rank_cons_zero]⟩
        · rintro ⟨q, rfl, h1, h2⟩
          cases q with
          | zero => rfl
          | succ q =>
            rw [rank_cons_succ] at h2
            simp only [List.getElem?_cons_succ] at h1
            have := rank_pos_of_getElem? b xs q h1
            simp at h2; omega
      | succ k =>
        simp only [List.getElem?_cons_succ, ih]
        constructor
        · rintro ⟨q, rfl, h1, h2⟩
          exact ⟨q + 1, by omega, by simpa using h1, by rw [rank_cons_succ]; simp; omega⟩
        · rintro ⟨q, rfl, h1, h2⟩
          cases q with
          | zero => rw [rank_cons_zero] at h2; simp at h2
          | succ q =>
            rw [rank_cons_succ] at h2
            exact ⟨q, by omega, by simpa using h1, by simp at h2; omega⟩
    · simp only [positions, hx, if_false, ih]
      constructor
      · rintro ⟨q, rfl, h1, h2⟩
        exact ⟨q + 1, by omega, by simpa using h1, by rw [rank_cons_succ]; simp [hx]; exact h2⟩
      · rintro ⟨q, rfl, h1, h2⟩
        cases q with
        | zero => simp at h1; exact absurd h1 hx
        | succ q =>
          rw [rank_cons_succ] at h2
          exact ⟨q, by omega, by simpa using h1, by simpa [hx] using h2⟩

theorem positions_length (b : Bool) (bits : List Bool) (off : Nat) :
    (positions b bits off).length = bits.count b := by
  induction bits generalizing off with
  | nil => simp [positions]
  | cons x xs ih =>
    by_cases hx : x = b <;> simp [positions, hx, ih]

theorem selectRef_some_iff (b : Bool) (bits : List Bool) (j p : Nat) :
    selectRef b bits j = some p ↔ IsSelect b bits j p := by
  unfold selectRef IsSelect
  by_cases hj : j = 0
  · subst hj
    simp only [if_true]
    constructor
    · intro h; cases h
    · rintro ⟨h1, h2⟩
      have := rank_pos_of_getElem? b bits p h1
      omega
  · simp only [hj, if_false, positions_getElem?]
    constructor
    · rintro ⟨q, rfl, h1, h2⟩
      simp only [Nat.zero_add]
      exact ⟨h1, by omega⟩
    · rintro ⟨h1, h2⟩
      exact ⟨p, by omega, h1, by omega⟩

theorem selectRef_none_iff (b : Bool) (bits : List Bool) (j : Nat) :
    selectRef b bits j = none ↔ j = 0 ∨ bits.count b < j := by
  unfold selectRef
  by_cases hj : j = 0
  · simp [hj]
  · simp only [hj, if_false, false_or, List.getElem?_eq_none_iff, positions_length]
    omega

end RbV.Lemmas.RankSelect
