import RbV.Lemmas.TracebackOrder
import RbV.Lemmas.TracebackSeq
/-!
The states vector of the Myers traceback as a ring buffer (C10).  Core Lean only.

* `readSlot_mod`: the reversed, cyclic iterator started at the slot of sequence number `q` reaches, with its `k`-th
  `next()`, the slot of sequence number `q − k`.
* `storeAll_get`: after the items have been stored cyclically, each of the last `N` items is in its slot `s % N`.
* `ring_read`: hence the `k`-th item read is item `q − k`, as long as fewer than `N` items were stored after it.
* `stored_concrete`: the states the search stores satisfy the assumptions (`Stored`) of `tracebackRd_eq` with the Sellers matrix.
* `tracebackStore_eq`: the whole stored-state traceback returns the start and path of the matrix-level rule.

* `after_cells`: after any number of passes on the stored states the handler's numbers and tests are Sellers cells and their
  comparisons.
How far the walk goes to the left (`traceback_span`, `hit_window`) is matrix-level: `Lemmas/TracebackSound.lean`.
-/
namespace RbV.Model.MyersTraceback
open RbV.EditDist
open RbV.Model.MyersSimple (St)
open RbV.Model.Ukkonen (cell cell_zero cell_nil cell_le_len)

/-! ### modular arithmetic of the slots -/

theorem mod_add_ne (N a d : Nat) (hd : 0 < d) (hdN : d < N) : (a + d) % N ≠ a % N := by
  intro h
  have h1 := Nat.sub_mod_eq_zero_of_mod_eq h
  have e : a + d - a = d := by omega
  rw [e, Nat.mod_eq_of_lt hdN] at h1
  omega

theorem add_mul_mod_small (N x y : Nat) (hx : x < N) : (x + N * y) % N = x := by
  rw [Nat.add_mul_mod_self_left, Nat.mod_eq_of_lt hx]

theorem readSlot_mod (N q k : Nat) (hN : 0 < N) (hk : k ≤ q) : readSlot N (q % N) k = (q - k) % N := by
  unfold readSlot
  have hdm := Nat.div_add_mod q N
  have hlt := Nat.mod_lt q hN
  generalize q % N = r at *
  generalize q / N = cq at *
  by_cases hc : k ≤ r
  · rw [if_pos hc]
    have e : q - k = (r - k) + N * cq := by omega
    rw [e, add_mul_mod_small N _ _ (by omega)]
  · rw [if_neg hc]
    -- d = k − pos − 1;  (q − k) + d + 1 = N · (q / N)
    generalize hdd : k - r - 1 = d at *
    have hd := Nat.div_add_mod d N
    have hr := Nat.mod_lt d hN
    generalize d % N = rd at *
    generalize d / N = cd at *
    have hle : N * cd ≤ N * cq := by omega
    have hsub : N * (cq - cd) = N * cq - N * cd := Nat.mul_sub _ _ _
    have hg : cq - cd ≥ 1 := by
      apply Nat.pos_of_ne_zero
      intro h0
      rw [h0] at hsub
      omega
    obtain ⟨g, hgg⟩ : ∃ g, cq - cd = g + 1 := ⟨cq - cd - 1, by omega⟩
    rw [hgg, Nat.mul_succ] at hsub
    have e : q - k = (N - 1 - rd) + N * g := by omega
    rw [e, add_mul_mod_small N _ _ (by omega)]

/-! ### the cyclic store -/

theorem storeAll_length {w : Nat} (N : Nat) : ∀ (items : List (St w)) (store : List (St w)) (s : Nat),
    (storeAll N store s items).length = store.length := by
  intro items
  induction items with
  | nil => intro store s; rfl
  | cons x r ih => intro store s; simp [storeAll, ih]

theorem storeAll_untouched {w : Nat} (N : Nat) : ∀ (items : List (St w)) (store : List (St w)) (s r : Nat),
    (∀ i, i < items.length → (s + i) % N ≠ r) → (storeAll N store s items)[r]? = store[r]? := by
  intro items
  induction items with
  | nil => intro store s r _; rfl
  | cons x rest ih =>
    intro store s r h
    simp only [storeAll]
    rw [ih (store.set (s % N) x) (s + 1) r]
    · have := h 0 (by simp)
      simp only [Nat.add_zero] at this
      rw [List.getElem?_set_ne this]
    · intro i hi
      have := h (i + 1) (by simp; omega)
      rw [show s + 1 + i = s + (i + 1) by omega]
      exact this

theorem storeAll_get {w : Nat} (N : Nat) (hN : 0 < N) : ∀ (items : List (St w)) (store : List (St w)) (s i : Nat),
    store.length = N → (hi : i < items.length) → items.length - 1 - i < N →
    (storeAll N store s items)[(s + i) % N]? = some items[i] := by
  intro items
  induction items with
  | nil => intro store s i _ hi; simp at hi
  | cons x rest ih =>
    intro store s i hl hi hwin
    simp only [storeAll]
    cases i with
    | zero =>
      simp only [List.length_cons, Nat.add_sub_cancel, Nat.sub_zero] at hwin
      simp only [Nat.add_zero]
      rw [storeAll_untouched N rest _ (s + 1) (s % N)]
      · rw [List.getElem?_set_self (by rw [hl]; exact Nat.mod_lt s hN)]
        rfl
      · intro i hi'
        rw [show s + 1 + i = s + (i + 1) by omega]
        exact mod_add_ne N s (i + 1) (by omega) (by omega)
    | succ i' =>
      have := ih (store.set (s % N) x) (s + 1) i' (by simp [hl]) (by simpa using hi)
        (by simp only [List.length_cons] at hwin; omega)
      rw [show s + (i' + 1) = s + 1 + i' by omega, this]
      rfl

/-- **ring lookup**: `N` slots filled cyclically from sequence number 0 with `items`; the iterator started at the slot
of sequence number `q` yields item `q − k` at its `k`-th step, provided fewer than `N` items have been stored from that
item on (i.e. it has not been overwritten) — whatever the vector held before -/
theorem ring_read {w : Nat} (N : Nat) (hN : 0 < N) (old items : List (St w)) (hold : old.length = N) (q k : Nat)
    (hq : q < items.length) (hk : k ≤ q) (hwin : items.length - 1 - (q - k) < N) :
    readStore (storeAll N old 0 items) (q % N) k = items.getD (q - k) ⟨0#w, 0#w, 0⟩ := by
  unfold readStore
  rw [storeAll_length, hold, readSlot_mod N q k hN hk]
  have := storeAll_get N hN items old 0 (q - k) hold (by omega) hwin
  rw [Nat.zero_add] at this
  rw [List.getD_eq_getElem?_getD, List.getD_eq_getElem?_getD, this, List.getElem?_eq_getElem (by omega)]

/-! ### availability test of the lazy API -/

/-- `find_all_lazy` allocates `n + 2` slots for a text of `n` symbols: after `c ≤ n` symbols the slot of the last write
is `c + 1`, and `traceback_at(e)` answers exactly for the end positions `e < c` already searched -/
theorem availableAt_iff (n c e : Nat) (hc : c ≤ n) : availableAt (n + 2) c e = true ↔ e < c := by
  unfold availableAt
  rw [Nat.mod_eq_of_lt (by omega)]
  simp only [decide_eq_true_eq]
  omega

/-! ### the states the search stores -/

/-- C09's invariant along a run of the search -/
theorem inv_run {w : Nat} (eqv : Nat → Nat → Bool) (p : List Nat) (hm1 : 1 ≤ p.length) (hw : p.length ≤ w) :
    ∀ (v u : List Nat) (s : St w), RbV.Model.MyersSimple.Inv eqv p u s →
      RbV.Model.MyersSimple.Inv eqv p (u ++ v) (runSt w eqv p s v) := by
  intro v
  induction v with
  | nil => intro u s inv; simpa [runSt] using inv
  | cons a v ih =>
    intro u s inv
    have := ih (u ++ [a]) _ (RbV.Model.MyersSimple.inv_step eqv p u a s hm1 hw inv)
    simpa [runSt, List.append_assoc] using this

/-- the stored item with sequence number `j + 1` is the search state after `j` text symbols (C09 invariant) -/
theorem seqStates_inv (w : Nat) (eqv : Nat → Nat → Bool) (p : List Nat) (dmax : Nat) (t : List Nat)
    (hm1 : 1 ≤ p.length) (hw : p.length ≤ w) (j : Nat) (hj : j ≤ t.length) :
    RbV.Model.MyersSimple.Inv eqv p (t.take j) ((seqStates w eqv p dmax t).getD (j + 1) ⟨0#w, 0#w, 0⟩) := by
  rw [seqStates_getD w eqv p dmax t j hj]
  exact inv_run eqv p hm1 hw (t.take j) [] _ (RbV.Model.MyersSimple.inv_init w eqv p hw)

/-- the items stored for a prefix of the text are the first items stored for the whole text -/
theorem seqStates_take (w : Nat) (eqv : Nat → Nat → Bool) (p : List Nat) (dmax : Nat) (t : List Nat)
    (c s : Nat) (hc : c ≤ t.length) (hs : s ≤ c + 1) :
    (seqStates w eqv p dmax (t.take c)).getD s ⟨0#w, 0#w, 0⟩ = (seqStates w eqv p dmax t).getD s ⟨0#w, 0#w, 0⟩ := by
  cases s with
  | zero => simp [seqStates]
  | succ j =>
    rw [seqStates_getD w eqv p dmax (t.take c) j (by rw [List.length_take]; omega), seqStates_getD w eqv p dmax t j (by omega),
      List.take_take, Nat.min_eq_left (by omega)]

/-- the reader of the ring after `c` symbols, started at the slot of sequence number `stop + 1 ≤ c + 1`, yields the stored states in
descending order down to sequence number `c + 2 − N` -/
theorem ring_read_seq (w : Nat) (eqv : Nat → Nat → Bool) (p : List Nat) (dmax N : Nat) (old : List (St w)) (t : List Nat)
    (c stop : Nat) (hN : 0 < N) (hold : old.length = N) (hc : c ≤ t.length) (hs : stop ≤ c) (k : Nat)
    (hk : k + (c + 2 - N) ≤ stop + 1) :
    readStore (storeAll N old 0 (seqStates w eqv p dmax (t.take c))) ((stop + 1) % N) k =
      (seqStates w eqv p dmax t).getD (stop + 1 - k) ⟨0#w, 0#w, 0⟩ := by
  have hlen := seqStates_length w eqv p dmax (t.take c)
  rw [List.length_take, Nat.min_eq_left hc] at hlen
  rw [ring_read N hN old _ hold (stop + 1) k (by omega) (by omega) (by omega)]
  exact seqStates_take w eqv p dmax t c (stop + 1 - k) hc (by omega)

/-- the Sellers matrix and the states the search stores satisfy the assumptions of the loop theorem for every iterator
`rd` that yields the stored states down to sequence number `lo` -/
theorem stored_of_rd (w : Nat) (eqv : Nat → Nat → Bool) (p : List Nat) (dmax lo : Nat) (t : List Nat) (stop : Nat)
    (rd : Nat → St w) (hm1 : 1 ≤ p.length) (hw : p.length ≤ w) (hd : p.length < dmax) (hs : stop ≤ t.length)
    (hrd : ∀ k, k + lo ≤ stop + 1 → rd k = (seqStates w eqv p dmax t).getD (stop + 1 - k) ⟨0#w, 0#w, 0⟩) :
    Stored p.length dmax (stop + 1) lo (Dm (matrix (unitW eqv) p t))
      (fun s => (seqStates w eqv p dmax t).getD s ⟨0#w, 0#w, 0⟩) rd := by
  have hD := Dm_matrix (unitW eqv) p t
  refine ⟨hm1, hw, hd, ?_, ?_, ?_, ?_⟩
  · intro i hi
    rw [hD i 0 hi (by omega)]
    simp [cell_nil _ p i hi]
  · intro i j hi hj
    rw [hD i j hi (by omega)]
    exact cell_le_len _ p _ i
  · intro s hsq
    cases s with
    | zero =>
      have e : (seqStates w eqv p dmax t).getD 0 ⟨0#w, 0#w, 0⟩ = maxSt w dmax := by simp [seqStates]
      rw [e]
      exact ⟨guard_enc dmax p.length hw, by simp only [colOf, if_true, maxSt]; omega⟩
    | succ j =>
      have inv := seqStates_inv w eqv p dmax t hm1 hw j (by omega)
      refine ⟨VEnc.congr ?_ (VEnc.of_enc inv.enc), ?_⟩
      · intro i hi
        rw [colOf_succ, hD i j hi (by omega)]
      · rw [colOf_succ, hD _ j (Nat.le_refl _) (by omega), inv.dist]
  · exact hrd

/-- … in particular the ring: `c` = number of text symbols consumed so far, `stop ≤ c` the (exclusive) end, reads
possible down to sequence number `c + 2 − N` -/
theorem stored_concrete (w : Nat) (eqv : Nat → Nat → Bool) (p : List Nat) (dmax N : Nat) (old : List (St w)) (t : List Nat)
    (c stop : Nat) (hm1 : 1 ≤ p.length) (hw : p.length ≤ w) (hd : p.length < dmax) (hN : 0 < N) (hold : old.length = N)
    (hc : c ≤ t.length) (hs : stop ≤ c) :
    Stored p.length dmax (stop + 1) (c + 2 - N) (Dm (matrix (unitW eqv) p t))
      (fun s => (seqStates w eqv p dmax t).getD s ⟨0#w, 0#w, 0⟩)
      (readStore (storeAll N old 0 (seqStates w eqv p dmax (t.take c))) ((stop + 1) % N)) :=
  stored_of_rd w eqv p dmax _ t stop _ hm1 hw hd (by omega)
    (ring_read_seq w eqv p dmax N old t c stop hN hold hc hs)

/-- **the stored-state traceback returns what the matrix rule returns**, whenever the walk ends at a column whose left
neighbour has not been overwritten in the ring (`c + 2 − N ≤ start`) -/
theorem tracebackStore_eq (w : Nat) (eqv : Nat → Nat → Bool) (p : List Nat) (dmax N : Nat) (old : List (St w)) (t : List Nat)
    (c stop : Nat) (hm1 : 1 ≤ p.length) (hw : p.length ≤ w) (hd : p.length < dmax) (hN : 0 < N) (hold : old.length = N)
    (hc : c ≤ t.length) (hs : stop ≤ c) (hwin : c + 2 - N ≤ (traceback (unitW eqv) p t stop).1) :
    tracebackStore w eqv p dmax N old t c stop =
      ((traceback (unitW eqv) p t stop).1, cell (unitW eqv) p (t.take stop) p.length,
       (traceback (unitW eqv) p t stop).2) := by
  have st := stored_concrete w eqv p dmax N old t c stop hm1 hw hd hN hold hc hs
  unfold traceback at hwin ⊢
  simp only at hwin ⊢
  have h := tracebackRd_eq st (by omega) (p.length + stop) (by simpa using hwin)
  simp only [Nat.add_sub_cancel] at h
  have hle := walkF_start_le (Dm (matrix (unitW eqv) p t)) (p.length + stop) p.length stop
  have inv := seqStates_inv w eqv p dmax t hm1 hw stop (by omega)
  unfold tracebackStore
  simp only [h, inv.dist]
  congr 1
  omega


/-! ### the handler's numbers are matrix cells (concrete form) -/

/-- what "the handler `h` carries the true values at cell `(i + 1, j)`" means, in terms of the Sellers cells
`C r c = cell … (t.take c) r` (row `r` after `c` text symbols) -/
def HandlerCells (w : Nat) (eqv : Nat → Nat → Bool) (p t : List Nat) (dmax i j : Nat) (h : Handler w) : Prop :=
  h.state.dist = cell (unitW eqv) p (t.take j) (i + 1) ∧
  (1 ≤ j → h.left.dist = cell (unitW eqv) p (t.take (j - 1)) i) ∧
  (j = 0 → h.left.dist + (p.length - i) = dmax) ∧
  (((h.left.dist + 1) % (dmax + 1) = h.state.dist) ↔
    (1 ≤ j ∧ cell (unitW eqv) p (t.take (j - 1)) i + 1 = cell (unitW eqv) p (t.take j) (i + 1))) ∧
  (((h.state.pv &&& h.pos) != 0#w) =
    decide (cell (unitW eqv) p (t.take j) i + 1 = cell (unitW eqv) p (t.take j) (i + 1))) ∧
  (((h.left.mv &&& h.pos) != 0#w) =
    decide (1 ≤ j ∧ cell (unitW eqv) p (t.take (j - 1)) (i + 1) + 1 = cell (unitW eqv) p (t.take (j - 1)) i))

/-- after `n` passes through the loop body of `_traceback_at(end = stop − 1)` on the states stored by the search, the
handler is finished or its cursor is at some cell `(i + 1, j)` and: `block.dist` is that cell, `left_block.dist` the
diagonal cell `(i, j − 1)` (for `j = 0` the sentinel value `dmax − (m − i)`), and the three tests of the loop body are the
comparisons of the neighbouring cells -/
theorem after_cells (w : Nat) (eqv : Nat → Nat → Bool) (p t : List Nat) (dmax stop n : Nat)
    (hm1 : 1 ≤ p.length) (hw : p.length ≤ w) (hd : p.length < dmax) (hs : stop ≤ t.length) :
    (Handler.after dmax p.length (fun k => (seqStates w eqv p dmax t).getD (stop + 1 - k) ⟨0#w, 0#w, 0⟩) n).pos = 0#w ∨
    ∃ i j, i < p.length ∧ j ≤ stop ∧
      (Handler.after dmax p.length (fun k => (seqStates w eqv p dmax t).getD (stop + 1 - k) ⟨0#w, 0#w, 0⟩) n).pos =
        BitVec.twoPow w i ∧
      (Handler.after dmax p.length (fun k => (seqStates w eqv p dmax t).getD (stop + 1 - k) ⟨0#w, 0#w, 0⟩) n).taken =
        stop - j + 2 ∧
      HandlerCells w eqv p t dmax i j
        (Handler.after dmax p.length (fun k => (seqStates w eqv p dmax t).getD (stop + 1 - k) ⟨0#w, 0#w, 0⟩) n) := by
  have st := stored_of_rd w eqv p dmax 0 t stop
    (fun k => (seqStates w eqv p dmax t).getD (stop + 1 - k) ⟨0#w, 0#w, 0⟩) hm1 hw hd hs (fun k _ => rfl)
  obtain ⟨ci, j, hinv⟩ := after_inv st (Nat.succ_pos stop) n
  have hD := Dm_matrix (unitW eqv) p t
  generalize Handler.after dmax p.length (fun k => (seqStates w eqv p dmax t).getD (stop + 1 - k) ⟨0#w, 0#w, 0⟩) n = h
    at hinv ⊢
  cases ci with
  | zero => left; exact hinv
  | succ i =>
    right
    simp only [HInvAny] at hinv
    have hi := hinv.hi
    have hj := hinv.hj
    have hi1 : i + 1 ≤ p.length := hi
    have hi0 : i ≤ p.length := Nat.le_of_lt hi
    have hjs : j ≤ stop := Nat.le_of_lt_succ hj
    have hjt : j ≤ t.length := Nat.le_trans hjs hs
    have hjt1 : j - 1 ≤ t.length := Nat.le_trans (Nat.sub_le j 1) hjt
    have htk : h.taken = stop - j + 2 := by have := hinv.taken; omega
    have t1 := test_subst st hinv
    have t2 := test_ins st hinv
    have t3 := test_del st hinv
    have sd := hinv.sdist
    have ld := hinv.ldist
    rw [colOf_succ] at sd
    rw [hD _ _ hi1 hjt] at sd t1 t2
    rw [hD _ _ hi0 hjt1] at t1 t3
    rw [hD _ _ hi0 hjt] at t2
    rw [hD _ _ hi1 hjt1] at t3
    refine ⟨i, j, hi, hjs, hinv.pos, htk, Int.ofNat.inj sd, ?_, ?_, t1, t2, t3⟩
    · intro hj1
      obtain ⟨j', rfl⟩ := Nat.exists_eq_add_of_le' hj1
      rw [colOf_succ, hD _ _ hi0 (Nat.le_of_succ_le hjt)] at ld
      exact Int.ofNat.inj ld
    · intro hj0
      subst hj0
      simp only [colOf, if_true] at ld
      omega

end RbV.Model.MyersTraceback
