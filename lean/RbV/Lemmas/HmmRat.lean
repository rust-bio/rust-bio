import RbV.Spec.Hmm
/-! # C14 — from cleared numerators to probabilities

The specification of C14 (`Spec/Hmm.lean`) and the source-level theorems about the translated `forward` / `backward` /
`viterbi` speak about natural-number *numerators* over common denominators.  This file links them to exact rational
probabilities (core `Rat`): `HmmQ` is a model whose entries are rationals, `jointQ` / `likelihoodQ` are the product of the
*probabilities* along a path / its sum over all paths, and `Scaled m q dI dT dE dF` says that `m` is `q` with the
denominators `dI` (initial), `dT` (transition), `dE` (emission), `dF` (end) cleared.  Every path has the same number of
factors of each kind, so clearing denominators multiplies every path weight by the same constant
`scale dI dT dE dF T = dI · dE · (dT·dE)^(T-1) · dF` (`joint_scaled`), hence the likelihood too (`likelihood_scaled`) and
the order of path weights is unchanged (`jointQ_le_of_joint_le`).  Core Lean only. -/
namespace RbV.Hmm

/-- a model with exact rational entries (probabilities) -/
structure HmmQ where
  S : Nat
  init : Nat → Rat
  trans : Nat → Nat → Rat
  emit : Nat → Nat → Rat
  fin : Nat → Rat

/-- `chain` over the rationals -/
def chainQ (q : HmmQ) : Nat → List Nat → List Nat → Rat
  | s, [], [] => q.fin s
  | s, o :: os, p :: ps => q.trans s p * q.emit p o * chainQ q p os ps
  | _, _, _ => 0

/-- P(path, observations): initial · ∏ transition · ∏ emission · end, as probabilities -/
def jointQ (q : HmmQ) : List Nat → List Nat → Rat
  | o :: os, p :: ps => q.init p * q.emit p o * chainQ q p os ps
  | _, _ => 0

def sumQ : List Rat → Rat
  | [] => 0
  | x :: xs => x + sumQ xs

/-- P(observations) = Σ over all state paths -/
def likelihoodQ (q : HmmQ) (obs : List Nat) : Rat := sumQ ((paths q.S obs.length).map (jointQ q obs))

/-- `m` is `q` with the denominators cleared -/
structure Scaled (m : Hmm) (q : HmmQ) (dI dT dE dF : Nat) : Prop where
  S : q.S = m.S
  init : ∀ s, q.init s * (dI : Rat) = (m.init s : Rat)
  trans : ∀ a b, q.trans a b * (dT : Rat) = (m.trans a b : Rat)
  emit : ∀ s o, q.emit s o * (dE : Rat) = (m.emit s o : Rat)
  fin : ∀ s, q.fin s * (dF : Rat) = (m.fin s : Rat)

/-- the common factor of all paths over `T ≥ 1` observations -/
def scale (dI dT dE dF T : Nat) : Nat := dI * dE * ((dT * dE) ^ (T - 1) * dF)

theorem chain_scaled {m : Hmm} {q : HmmQ} {dI dT dE dF : Nat} (h : Scaled m q dI dT dE dF) :
    ∀ (os ps : List Nat) (s : Nat),
      chainQ q s os ps * (((dT * dE) ^ os.length * dF : Nat) : Rat) = (chain m s os ps : Rat)
  | [], [], s => by simp [chainQ, chain, h.fin]
  | [], _ :: _, s => by simp [chainQ, chain]
  | _ :: _, [], s => by simp [chainQ, chain]
  | o :: os, p :: ps, s => by
    have ih := chain_scaled h os ps p
    have ht := h.trans s p
    have he := h.emit p o
    simp only [chainQ, chain, List.length_cons, Nat.pow_succ, Rat.natCast_mul] at ih ⊢
    generalize chainQ q p os ps = X at ih ⊢
    generalize (((dT * dE) ^ os.length : Nat) : Rat) = P at ih ⊢
    grind

/-- **clearing denominators multiplies every path weight by the same constant** -/
theorem joint_scaled {m : Hmm} {q : HmmQ} {dI dT dE dF : Nat} (h : Scaled m q dI dT dE dF) (obs π : List Nat) :
    jointQ q obs π * (scale dI dT dE dF obs.length : Rat) = (joint m obs π : Rat) := by
  cases obs with
  | nil => simp [jointQ, joint]
  | cons o os =>
    cases π with
    | nil => simp [jointQ, joint]
    | cons p ps =>
      have hc := chain_scaled h os ps p
      have hi := h.init p
      have he := h.emit p o
      simp only [jointQ, joint, scale, List.length_cons, Nat.add_sub_cancel, Rat.natCast_mul] at hc ⊢
      generalize chainQ q p os ps = X at hc ⊢
      generalize (((dT * dE) ^ os.length : Nat) : Rat) = P at hc ⊢
      grind

theorem sumQ_scaled (f : List Nat → Rat) (g : List Nat → Nat) (c : Rat) (l : List (List Nat))
    (h : ∀ π, f π * c = (g π : Rat)) : sumQ (l.map f) * c = ((l.map g).sum : Nat) := by
  induction l with
  | nil => simp [sumQ]
  | cons a l ih =>
    have ha := h a
    simp only [List.map_cons, sumQ, List.sum_cons, Rat.natCast_add]
    grind

/-- **P(observations) · scale = the numerator likelihood** -/
theorem likelihood_scaled {m : Hmm} {q : HmmQ} {dI dT dE dF : Nat} (h : Scaled m q dI dT dE dF) (obs : List Nat) :
    likelihoodQ q obs * (scale dI dT dE dF obs.length : Rat) = (likelihood m obs : Rat) := by
  unfold likelihoodQ likelihood
  rw [h.S]
  exact sumQ_scaled _ _ _ _ (joint_scaled h obs)

/-- the model of probabilities `numerator / denominator` -/
def ofNumerators (m : Hmm) (dI dT dE dF : Nat) : HmmQ :=
  { S := m.S, init := fun s => (m.init s : Rat) / dI, trans := fun a b => (m.trans a b : Rat) / dT,
    emit := fun s o => (m.emit s o : Rat) / dE, fin := fun s => (m.fin s : Rat) / dF }

theorem natCast_ne_zero {d : Nat} (h : d ≠ 0) : (d : Rat) ≠ 0 := by exact_mod_cast h

theorem ofNumerators_scaled (m : Hmm) (dI dT dE dF : Nat) (hI : dI ≠ 0) (hT : dT ≠ 0) (hE : dE ≠ 0) (hF : dF ≠ 0) :
    Scaled m (ofNumerators m dI dT dE dF) dI dT dE dF :=
  ⟨rfl, fun _ => Rat.div_mul_cancel (natCast_ne_zero hI), fun _ _ => Rat.div_mul_cancel (natCast_ne_zero hT),
    fun _ _ => Rat.div_mul_cancel (natCast_ne_zero hE), fun _ => Rat.div_mul_cancel (natCast_ne_zero hF)⟩

theorem scale_ne_zero (dI dT dE dF T : Nat) (hI : dI ≠ 0) (hT : dT ≠ 0) (hE : dE ≠ 0) (hF : dF ≠ 0) :
    scale dI dT dE dF T ≠ 0 :=
  Nat.mul_ne_zero (Nat.mul_ne_zero hI hE)
    (Nat.mul_ne_zero (Nat.ne_of_gt (Nat.pow_pos (Nat.pos_of_ne_zero (Nat.mul_ne_zero hT hE)))) hF)

theorem eq_div_of_mul_eq {x n c : Rat} (hc : c ≠ 0) (h : x * c = n) : x = n / c := by
  rw [← h, Rat.mul_div_cancel hc]

/-- **clearing denominators preserves the order of path weights** (so the arg-max over paths is the same) -/
theorem jointQ_le_of_joint_le {m : Hmm} {q : HmmQ} {dI dT dE dF : Nat} (h : Scaled m q dI dT dE dF)
    (hI : dI ≠ 0) (hT : dT ≠ 0) (hE : dE ≠ 0) (hF : dF ≠ 0) (obs π ρ : List Nat) (hle : joint m obs ρ ≤ joint m obs π) :
    jointQ q obs ρ ≤ jointQ q obs π := by
  have hc : (0 : Rat) < (scale dI dT dE dF obs.length : Rat) := by
    have := Nat.pos_of_ne_zero (scale_ne_zero dI dT dE dF obs.length hI hT hE hF)
    exact_mod_cast this
  apply Rat.le_of_mul_le_mul_right _ hc
  rw [joint_scaled h, joint_scaled h]
  exact_mod_cast hle

end RbV.Hmm
