import RbV.Model.BandL
import RbV.Lemmas.Band
/-! `set_boundaries` and `create_from_match_path` of the band mirror with `lazy_extend` a parameter
(`RbV/Model/BandL.lean`): shape, growth and coverage hold for **every** value of the tuning constant, hence for the
mirror `RbV/Model/Band.lean` the driver runs, which is the instance `lazy_extend = 2 * k`. -/
namespace RbV.Model.Band
open RbV.Align

/-! Both blocks of `set_boundaries` are `if`-trees whose leaves are `b`, `add_kmer`, `add_gap` or `add_gap` after
`add_kmer`; the conditions play no role. -/

theorem Stable.startL {P : Band → Prop} (hP : Stable P) {b : Band} (h : P b) (L : Nat) (st : Nat × Nat) (w : Nat)
    (cl : Clip) : P (boundStartL L b st w cl) :=
  ite_of _ h <| ite_of _ (hP.gap (hP.kmer h ..) ..) <|
    ite_of _ (ite_of _ (hP.gap (hP.kmer h ..) ..) (hP.kmer h ..)) (hP.gap h ..)

theorem Stable.endL {P : Band → Prop} (hP : Stable P) {b : Band} (h : P b) (L : Nat) (en : Nat × Nat) (k w : Nat)
    (cl : Clip) : P (boundEndL L b en k w cl) :=
  ite_of _ h <| ite_of _ (ite_of _ (hP.gap (hP.kmer h ..) ..) (hP.kmer h ..)) <|
    ite_of _ (ite_of _ (hP.gap (hP.kmer h ..) ..) (hP.kmer h ..)) (hP.gap h ..)

theorem Stable.boundariesL {P : Band → Prop} (hP : Stable P) {b : Band} (h : P b) (L : Nat) (st en : Nat × Nat)
    (k w : Nat) (cl : Clip) : P (setBoundariesL L b st en k w cl) :=
  hP.endL (hP.startL h ..) ..

theorem setBoundariesL_wf {m n : Nat} {b : Band} (h : WF m n b) (L : Nat) (st en : Nat × Nat) (k w : Nat) (cl : Clip) :
    WF m n (setBoundariesL L b st en k w cl) := (wf_stable m n).boundariesL h ..

theorem boundStartL_grow (L : Nat) (b : Band) (st : Nat × Nat) (w : Nat) (cl : Clip) : BGrow b (boundStartL L b st w cl) :=
  (grow_stable b).startL (BGrow.refl b) ..

theorem setBoundariesL_grow (L : Nat) (b : Band) (st en : Nat × Nat) (k w : Nat) (cl : Clip) :
    BGrow b (setBoundariesL L b st en k w cl) := (grow_stable b).boundariesL (BGrow.refl b) ..

theorem createFromMatchPathL_wf (L m n k w : Nat) (cl : Clip) (path : List Nat) (ms : List (Nat × Nat)) :
    WF m n (createFromMatchPathL L m n k w cl path ms) :=
  ite_of _ (fullMatrix_new_wf m n) <|
    List.foldlRecOn (motive := fun st => WF m n st.1) _ _ (b := (_, none))
      (setBoundariesL_wf (new_wf m n) ..) (fun st h idx _ => pathStep_wf k w ms st idx h)

theorem createFromMatchPathL_covers (L m n k w : Nat) (cl : Clip) (path : List Nat) (ms : List (Nat × Nat))
    (hne : ms ≠ []) (hin : ∀ idx ∈ path, InSeq m n k ms idx) (idx : Nat) (hidx : idx ∈ path) :
    Covers (createFromMatchPathL L m n k w cl path ms) k ms idx := by
  unfold createFromMatchPathL
  rw [if_neg (by simpa using hne)]
  exact foldl_pathStep_covers path _ ⟨setBoundariesL_wf (new_wf m n) .., fun _ h => by cases h⟩ hin idx hidx

theorem createFromMatchPathL_nil (L m n k w : Nat) (cl : Clip) (path : List Nat) :
    createFromMatchPathL L m n k w cl path [] = fullMatrix (new m n) := rfl

/-! ### The mirror the driver runs: `lazy_extend = 2 * k` -/

theorem setBoundaries_grow (b : Band) (st en : Nat × Nat) (k w : Nat) (cl : Clip) :
    BGrow b (setBoundaries b st en k w cl) := setBoundariesL_pinned b st en k w cl ▸ setBoundariesL_grow (2 * k) b st en k w cl

theorem createFromMatchPath_wf (m n k w : Nat) (cl : Clip) (path : List Nat) (ms : List (Nat × Nat)) :
    WF m n (createFromMatchPath m n k w cl path ms) :=
  createFromMatchPathL_pinned m n k w cl path ms ▸ createFromMatchPathL_wf (2 * k) m n k w cl path ms

theorem createFromMatchPath_covers (m n k w : Nat) (cl : Clip) (path : List Nat) (ms : List (Nat × Nat))
    (hne : ms ≠ []) (hin : ∀ idx ∈ path, InSeq m n k ms idx) (idx : Nat) (hidx : idx ∈ path) :
    Covers (createFromMatchPath m n k w cl path ms) k ms idx :=
  createFromMatchPathL_pinned m n k w cl path ms ▸ createFromMatchPathL_covers (2 * k) m n k w cl path ms hne hin idx hidx

end RbV.Model.Band
