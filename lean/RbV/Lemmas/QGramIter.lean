import RbV.Model.QGramIter
import RbV.Lemmas.QGram
/-! Refinement of the iterator models: `qgramsModel = fwdCodes`, `revQgramsModel = reverse fwdCodes`. -/
namespace RbV.QGram

/-- the last `q` elements (all of `l` when it is shorter): the window the forward register holds after the symbols `l` -/
def lastq (q : Nat) (l : List Nat) : List Nat := l.drop (l.length - q)

theorem lastq_length_le (q : Nat) (l : List Nat) : (lastq q l).length ≤ q := by
  unfold lastq; simp; omega

theorem lastq_mem {q : Nat} {l : List Nat} {r : Nat} (h : r ∈ lastq q l) : r ∈ l :=
  List.mem_of_mem_drop h

theorem lastq_append_single (q : Nat) (h : List Nat) (a : Nat) :
    lastq q (lastq q h ++ [a]) = lastq q (h ++ [a]) := by
  unfold lastq
  have e : List.drop (h.length - q) h ++ [a] = List.drop (h.length - q) (h ++ [a]) := by
    rw [List.drop_append_of_le_length (by omega)]
  rw [e, List.drop_drop]
  congr 1
  simp
  omega

theorem and_maskOf (q bits x : Nat) (hqb : q * bits ≤ 64) : x &&& maskOf q bits = x % 2 ^ (q * bits) := by
  unfold maskOf
  split
  · exact Nat.and_two_pow_sub_one_eq_mod x _
  · have : q * bits = 64 := by omega
    rw [this]; exact Nat.and_two_pow_sub_one_eq_mod x 64

theorem pushFwd_eq (bits q qg a : Nat) (hq : 0 < q) (hqb : q * bits ≤ 64) (ha : a < 2 ^ bits) :
    pushFwd bits (maskOf q bits) qg a = (qg * 2 ^ bits + a) % 2 ^ (q * bits) := by
  have hb : bits ≤ 64 := Nat.le_trans (Nat.le_mul_of_pos_left bits hq) hqb
  unfold pushFwd
  rw [Nat.shiftLeft_eq]
  have e1 : (qg * 2 ^ bits) % 2 ^ 64 = (qg % 2 ^ (64 - bits)) * 2 ^ bits := by
    have : (2:Nat) ^ 64 = 2 ^ (64 - bits) * 2 ^ bits := by
      rw [← Nat.pow_add]; congr 1; omega
    rw [this, Nat.mul_mod_mul_right]
  have e0 := e1
  rw [e1, ← Nat.shiftLeft_eq, ← Nat.shiftLeft_add_eq_or_of_lt ha, Nat.shiftLeft_eq, and_maskOf _ _ _ hqb, ← e0]
  rw [Nat.add_mod, Nat.mod_mod_of_dvd _ (Nat.pow_dvd_pow 2 hqb), ← Nat.add_mod]

theorem code_slide (b q : Nat) (hq : 0 < q) (w : List Nat) (a : Nat) (hw : w.length ≤ q)
    (hwb : ∀ r ∈ w, r < 2 ^ b) (ha : a < 2 ^ b) :
    (code b w * 2 ^ b + a) % 2 ^ (q * b) = code b (lastq q (w ++ [a])) := by
  have hall : ∀ r ∈ w ++ [a], r < 2 ^ b := by
    intro r hr
    rcases List.mem_append.mp hr with h | h
    · exact hwb r h
    · simp at h; omega
  by_cases hlt : w.length < q
  · have : lastq q (w ++ [a]) = w ++ [a] := by
      unfold lastq
      have : (w ++ [a]).length - q = 0 := by simp; omega
      rw [this]; rfl
    rw [this, ← code_append_single]
    apply Nat.mod_eq_of_lt
    have h1 := code_lt b (w ++ [a]) hall
    have h2 : 2 ^ (b * (w ++ [a]).length) ≤ 2 ^ (q * b) := by
      apply Nat.pow_le_pow_right (by omega)
      rw [Nat.mul_comm]
      apply Nat.mul_le_mul_right
      simp; omega
    omega
  · have hlen : w.length = q := by omega
    cases w with
    | nil => simp at hlen; omega
    | cons x w' =>
      have : lastq q (x :: w' ++ [a]) = w' ++ [a] := by
        unfold lastq
        have : (x :: w' ++ [a]).length - q = 1 := by simp at hlen ⊢; omega
        rw [this]; rfl
      rw [this, ← code_append_single]
      have : x :: w' ++ [a] = x :: (w' ++ [a]) := rfl
      rw [this, code_cons]
      have hl : (w' ++ [a]).length = q := by simp at hlen ⊢; omega
      rw [hl, Nat.mul_comm b q, Nat.add_comm, Nat.add_mul_mod_self_right]
      apply Nat.mod_eq_of_lt
      have h1 := code_lt b (w' ++ [a]) (fun r hr => hall r (List.mem_cons_of_mem _ hr))
      rw [hl, Nat.mul_comm] at h1
      exact h1

theorem scanFwd_spec (b q : Nat) (hq : 0 < q) (hqb : q * b ≤ 64) (rs : List Nat) (hrs : ∀ r ∈ rs, r < 2 ^ b)
    (h : List Nat) (hh : ∀ r ∈ h, r < 2 ^ b) :
    scanFwd b (maskOf q b) (code b (lastq q h)) rs =
      (List.range rs.length).map (fun j => code b (lastq q (h ++ rs.take (j + 1)))) := by
  induction rs generalizing h with
  | nil => simp [scanFwd]
  | cons a t ih =>
    have ha : a < 2 ^ b := hrs a (by simp)
    have step : pushFwd b (maskOf q b) (code b (lastq q h)) a = code b (lastq q (h ++ [a])) := by
      rw [pushFwd_eq b q _ a hq hqb ha,
        code_slide b q hq (lastq q h) a (lastq_length_le q h) (fun r hr => hh r (lastq_mem hr)) ha,
        lastq_append_single]
    simp only [scanFwd, step, List.length_cons, List.range_succ_eq_map, List.map_cons, List.map_map]
    congr 1
    rw [ih (fun r hr => hrs r (by simp [hr])) (h ++ [a])
      (by intro r hr; rcases List.mem_append.mp hr with h' | h'
          · exact hh r h'
          · simp at h'; omega)]
    apply List.map_congr_left
    intro j _
    simp

theorem qgramsModel_eq (alpha : List Nat) (q : Nat) (text : List Nat) (hq : 0 < q)
    (hqb : q * bitsFor alpha.length ≤ 64) (ht : ∀ c ∈ text, c ∈ alpha) :
    qgramsModel alpha q text = fwdCodes alpha q text := by
  unfold qgramsModel fwdCodes windows
  simp only
  have hrs : ∀ r ∈ text.map (rank alpha), r < 2 ^ bitsFor alpha.length := by
    intro r hr
    rcases List.mem_map.mp hr with ⟨c, hc, rfl⟩
    exact rank_lt_two_pow (ht c hc)
  have := scanFwd_spec (bitsFor alpha.length) q hq hqb (text.map (rank alpha)) hrs [] (by simp)
  simp only [lastq, List.length_nil, Nat.zero_sub, List.drop_zero, List.nil_append] at this
  have hc0 : code (bitsFor alpha.length) [] = 0 := rfl
  rw [hc0] at this
  rw [this]
  apply List.ext_getElem
  · simp; omega
  · intro i h1 h2
    simp only [List.length_drop, List.length_map, List.length_range] at h1
    simp only [List.getElem_drop, List.getElem_map, List.getElem_range, window]
    congr 1
    have hl : (List.take (q - 1 + i + 1) (List.map (rank alpha) text)).length = q + i := by
      simp; omega
    rw [hl]
    have : q + i - q = i := by omega
    rw [this, List.drop_take]
    congr 1
    omega


theorem pushRev_eq (b q st a : Nat) (hq : 0 < q) (hst : st < 2 ^ (q * b)) :
    pushRev b ((q - 1) * b) st a = st / 2 ^ b + a * 2 ^ ((q - 1) * b) := by
  unfold pushRev
  have hlt : st / 2 ^ b < 2 ^ ((q - 1) * b) := by
    apply Nat.div_lt_of_lt_mul
    rw [← Nat.pow_add]
    have : b + (q - 1) * b = q * b := by
      have : q = (q - 1) + 1 := by omega
      conv => rhs; rw [this, Nat.add_mul]
      omega
    rw [this]; exact hst
  rw [Nat.shiftRight_eq_div_pow, Nat.or_comm, ← Nat.shiftLeft_add_eq_or_of_lt hlt, Nat.shiftLeft_eq, Nat.add_comm]

/-- state of the reverse iterator after the symbols `h` (text order) have been consumed from the back -/
def stRev (b q : Nat) (h : List Nat) : Nat := code b (h.take q) * 2 ^ ((q - (h.take q).length) * b)

theorem stRev_lt (b q : Nat) (h : List Nat) (hh : ∀ r ∈ h, r < 2 ^ b) : stRev b q h < 2 ^ (q * b) := by
  unfold stRev
  have h1 := code_lt b (h.take q) (fun r hr => hh r (List.mem_of_mem_take hr))
  have hl : (h.take q).length ≤ q := by simp; omega
  have : 2 ^ (q * b) = 2 ^ (b * (h.take q).length) * 2 ^ ((q - (h.take q).length) * b) := by
    rw [← Nat.pow_add]; congr 1
    rw [Nat.mul_comm b, ← Nat.add_mul]; congr 1; omega
  rw [this]
  exact Nat.mul_lt_mul_of_pos_right h1 (Nat.two_pow_pos _)

theorem stRev_step (b q : Nat) (hq : 0 < q) (h : List Nat) (a : Nat) (hh : ∀ r ∈ h, r < 2 ^ b) :
    stRev b q h / 2 ^ b + a * 2 ^ ((q - 1) * b) = stRev b q (a :: h) := by
  have hB : 0 < 2 ^ b := Nat.two_pow_pos _
  obtain ⟨q', rfl⟩ : ∃ q', q = q' + 1 := ⟨q - 1, by omega⟩
  unfold stRev
  simp only [List.take_succ_cons, Nat.add_sub_cancel]
  by_cases hlt : h.length ≤ q'
  · have e1 : h.take (q' + 1) = h := List.take_of_length_le (by omega)
    have e2 : h.take q' = h := List.take_of_length_le hlt
    rw [e1, e2, code_cons]
    simp only [List.length_cons]
    have x1 : (q' + 1 - h.length) * b = (q' - h.length) * b + b := by
      have : q' + 1 - h.length = (q' - h.length) + 1 := by omega
      rw [this, Nat.add_mul]; omega
    have x2 : q' * b = b * h.length + (q' - h.length) * b := by
      rw [Nat.mul_comm b, ← Nat.add_mul]; congr 1; omega
    have x3 : q' + 1 - (h.length + 1) = q' - h.length := by omega
    rw [x1, Nat.pow_add, ← Nat.mul_assoc, Nat.mul_div_cancel _ hB, x2, Nat.pow_add, x3, Nat.add_mul,
      Nat.mul_assoc, Nat.add_comm]
  · have hl1 : (h.take (q' + 1)).length = q' + 1 := by simp; omega
    have hl2 : (h.take q').length = q' := by simp; omega
    have hz : q' < h.length := by omega
    have e1 : h.take (q' + 1) = h.take q' ++ [h[q']] := by
      rw [List.take_add_one, List.getElem?_eq_getElem hz]; rfl
    rw [hl1]
    simp only [List.length_cons, hl2, Nat.sub_self, Nat.zero_mul, Nat.pow_zero, Nat.mul_one]
    rw [e1, code_append_single, code_cons, hl2, Nat.mul_comm b q']
    have hzb : h[q'] < 2 ^ b := hh _ (List.getElem_mem hz)
    rw [Nat.add_comm (code b (List.take q' h) * 2 ^ b), Nat.add_mul_div_right _ _ hB, Nat.div_eq_of_lt hzb]
    omega

theorem scanRev_spec (b q : Nat) (hq : 0 < q) (rs : List Nat) (hrs : ∀ r ∈ rs, r < 2 ^ b)
    (h : List Nat) (hh : ∀ r ∈ h, r < 2 ^ b) :
    scanRev b ((q - 1) * b) (stRev b q h) rs =
      (List.range rs.length).map (fun j => stRev b q ((rs.take (j + 1)).reverse ++ h)) := by
  induction rs generalizing h with
  | nil => simp [scanRev]
  | cons a t ih =>
    have step : pushRev b ((q - 1) * b) (stRev b q h) a = stRev b q (a :: h) := by
      rw [pushRev_eq b q _ a hq (stRev_lt b q h hh), stRev_step b q hq h a hh]
    simp only [scanRev, step, List.length_cons, List.range_succ_eq_map, List.map_cons, List.map_map]
    congr 1
    rw [ih (fun r hr => hrs r (by simp [hr])) (a :: h)
      (by intro r hr; rcases List.mem_cons.mp hr with h' | h'
          · rw [h']; exact hrs a (by simp)
          · exact hh r h')]
    apply List.map_congr_left
    intro j _
    simp

theorem revQgramsModel_eq (alpha : List Nat) (q : Nat) (text : List Nat) (hq : 0 < q)
    (ht : ∀ c ∈ text, c ∈ alpha) :
    revQgramsModel alpha q text = (fwdCodes alpha q text).reverse := by
  unfold revQgramsModel fwdCodes windows
  simp only
  have hrs : ∀ r ∈ (text.map (rank alpha)).reverse, r < 2 ^ bitsFor alpha.length := by
    intro r hr
    rcases List.mem_map.mp (List.mem_reverse.mp hr) with ⟨c, hc, rfl⟩
    exact rank_lt_two_pow (ht c hc)
  have := scanRev_spec (bitsFor alpha.length) q hq (text.map (rank alpha)).reverse hrs [] (by simp)
  have h0 : stRev (bitsFor alpha.length) q [] = 0 := by simp [stRev, code]
  rw [h0] at this
  rw [this]
  apply List.ext_getElem
  · simp; omega
  · intro i h1 h2
    have h2' : i < text.length + 1 - q := by simpa using h2
    simp only [List.getElem_drop, List.getElem_map, List.getElem_range, List.getElem_reverse, List.length_map,
      List.length_range, List.append_nil, window, stRev]
    have e : (List.take (q - 1 + i + 1) (List.map (rank alpha) text).reverse).reverse
        = List.drop (text.length - (q + i)) (List.map (rank alpha) text) := by
      rw [List.take_reverse, List.reverse_reverse]; simp; congr 1; omega
    rw [e]
    have hl : (List.take q (List.drop (text.length - (q + i)) (List.map (rank alpha) text))).length = q := by
      simp; omega
    rw [hl]
    simp only [Nat.sub_self, Nat.zero_mul, Nat.pow_zero, Nat.mul_one]
    have : text.length - (q + i) = text.length + 1 - q - 1 - i := by omega
    rw [this]

end RbV.QGram
