import RbV.Model.Lcskpp
import RbV.Lemmas.KmerHash
import RbV.Lemmas.QGram
import RbV.Lemmas.Lex
import RbV.Lemmas.Fenwick
/-! C19 — `lcskpp` mirror model: the sorted match list and the lookup `binary_search` stands for (`findG`), the event list and its
sort order, what the position of an event in the sorted vector says (`Pos`), induction along the sweep (`sweep_ind`), the pair
maxima `maxNN` / `maxNI`, prefix-max semantics of the Fenwick queries.  Core Lean only. -/
namespace RbV.Lemmas.Lcskpp
open RbV.KChain RbV.Model.Lcskpp RbV.QGram RbV.Lemmas.Fenwick

def mAt (ms : List M) (p : Nat) : M := ms.getD p (0, 0)

theorem mAt_eq_getElem {ms : List M} {p : Nat} (h : p < ms.length) : mAt ms p = ms[p] := by
  unfold mAt
  rw [List.getD_eq_getElem?_getD, List.getElem?_eq_getElem h]; rfl

theorem mAt_mem {ms : List M} {p : Nat} (h : p < ms.length) : mAt ms p ∈ ms := by
  rw [mAt_eq_getElem h]; exact List.getElem_mem h

theorem exists_mAt {ms : List M} {m : M} (h : m ∈ ms) : ∃ p, p < ms.length ∧ mAt ms p = m := by
  obtain ⟨p, hp, rfl⟩ := List.getElem_of_mem h
  exact ⟨p, hp, mAt_eq_getElem hp⟩

theorem mAt_lexLt {ms : List M} (hs : ms.Pairwise lexLt) {p q : Nat} (hpq : p < q) (hq : q < ms.length) :
    lexLt (mAt ms p) (mAt ms q) := by
  rw [mAt_eq_getElem (by omega : p < ms.length), mAt_eq_getElem hq]
  exact List.pairwise_iff_getElem.mp hs p q (by omega) hq hpq

theorem idx_lt_of_x_lt {ms : List M} (hs : ms.Pairwise lexLt) {p q : Nat} (hp : p < ms.length)
    (h : (mAt ms p).1 < (mAt ms q).1) : p < q := by
  rcases Nat.lt_trichotomy p q with h1 | h1 | h1
  · exact h1
  · subst h1; omega
  · have := mAt_lexLt hs h1 hp
    unfold lexLt at this; omega

theorem mAt_inj {ms : List M} (hs : ms.Pairwise lexLt) {p q : Nat} (hp : p < ms.length) (hq : q < ms.length)
    (h : mAt ms p = mAt ms q) : p = q := by
  rcases Nat.lt_trichotomy p q with h1 | h1 | h1
  · have := mAt_lexLt hs h1 hq; rw [h] at this; exact absurd this (lexLt_irrefl _)
  · exact h1
  · have := mAt_lexLt hs h1 hp; rw [h] at this; exact absurd this (lexLt_irrefl _)

theorem sorted_x_of_lex {ms : List M} (hs : ms.Pairwise lexLt) : ms.Pairwise (fun a b => a.1 ≤ b.1) :=
  hs.imp (by intro a b h; unfold lexLt at h; omega)

theorem nodup_of_lex {ms : List M} (hs : ms.Pairwise lexLt) : ms.Nodup :=
  hs.imp (by intro a b h e; subst e; exact lexLt_irrefl _ h)

theorem mLt_iff (a b : M) : mLt a b = true ↔ lexLt a b := by
  simp only [mLt, lexLt, Bool.or_eq_true, Bool.and_eq_true, decide_eq_true_eq, beq_iff_eq]

theorem lexLt_trans {a b c : M} (h1 : lexLt a b) (h2 : lexLt b c) : lexLt a c := by
  unfold lexLt at *; omega

/-- the assertion loop of the Rust code accepts exactly the strictly sorted lists -/
theorem sortedStrict_iff (ms : List M) : sortedStrict ms = true ↔ ms.Pairwise lexLt := by
  induction ms with
  | nil => simp [sortedStrict]
  | cons a l ih =>
    cases l with
    | nil => simp [sortedStrict]
    | cons b r =>
      simp only [sortedStrict, Bool.and_eq_true, mLt_iff, ih]
      constructor
      · rintro ⟨h1, h2⟩
        refine List.pairwise_cons.mpr ⟨?_, h2⟩
        intro c hc
        rcases List.mem_cons.mp hc with rfl | hc
        · exact h1
        · exact lexLt_trans h1 ((List.pairwise_cons.mp h2).1 c hc)
      · intro h
        have := List.pairwise_cons.mp h
        exact ⟨this.1 b (by simp), this.2⟩

/-- first position (counted from `i`) that holds `key`: the contract of `binary_search` on a strictly sorted slice, for any
element type; `findFrom` (matches) and `findIdx` (index paths) are this function -/
def findG {α : Type} [DecidableEq α] (key : α) : Nat → List α → Option Nat
  | _, [] => none
  | i, a :: r => if a = key then some i else findG key (i + 1) r

theorem findG_some {α : Type} [DecidableEq α] {key : α} {l : List α} {i c : Nat} (h : findG key i l = some c) :
    ∃ j, c = i + j ∧ l[j]? = some key := by
  induction l generalizing i with
  | nil => simp [findG] at h
  | cons a r ih =>
    simp only [findG] at h
    by_cases ha : a = key
    · rw [if_pos ha] at h
      exact ⟨0, by simpa using h.symm, by simp [ha]⟩
    · rw [if_neg ha] at h
      obtain ⟨j, hc, hm⟩ := ih h
      exact ⟨j + 1, by omega, by simpa using hm⟩

theorem findG_none {α : Type} [DecidableEq α] {key : α} {l : List α} {i : Nat} (h : findG key i l = none) : key ∉ l := by
  induction l generalizing i with
  | nil => simp
  | cons a r ih =>
    simp only [findG] at h
    by_cases ha : a = key
    · rw [if_pos ha] at h; cases h
    · rw [if_neg ha] at h
      intro hm
      rcases List.mem_cons.mp hm with rfl | hm
      · exact ha rfl
      · exact ih h hm

theorem findFrom_eq (key : M) (i : Nat) (l : List M) : findFrom key i l = findG key i l := by
  induction l generalizing i with
  | nil => rfl
  | cons a r ih => simp only [findFrom, findG, ih]

theorem findFrom_some {key : M} {l : List M} {i c : Nat} (h : findFrom key i l = some c) :
    ∃ j, j < l.length ∧ c = i + j ∧ mAt l j = key := by
  rw [findFrom_eq] at h
  obtain ⟨j, hc, hj⟩ := findG_some h
  exact ⟨j, (List.getElem?_eq_some_iff.mp hj).1, hc, by unfold mAt; rw [List.getD_eq_getElem?_getD, hj]; rfl⟩

theorem findFrom_none {key : M} {l : List M} {i : Nat} (h : findFrom key i l = none) : key ∉ l :=
  findG_none (findFrom_eq key i l ▸ h)

def startEv (ms : List M) (p : Nat) : Ev := ((mAt ms p).1, (mAt ms p).2, p + ms.length)
def endEv (ms : List M) (k p : Nat) : Ev := ((mAt ms p).1 + k, (mAt ms p).2 + k, p)

theorem mem_eventsFrom (len k : Nat) (l : List M) (i0 : Nat) (e : Ev) :
    e ∈ eventsFrom len k i0 l ↔
      ∃ j, j < l.length ∧ (e = ((mAt l j).1, (mAt l j).2, i0 + j + len) ∨ e = ((mAt l j).1 + k, (mAt l j).2 + k, i0 + j)) := by
  induction l generalizing i0 with
  | nil => simp [eventsFrom]
  | cons m r ih =>
    simp only [eventsFrom, List.mem_cons, ih, List.length_cons]
    constructor
    · rintro (h | h | ⟨j, hj, h⟩)
      · exact ⟨0, by omega, Or.inl (by simpa [mAt] using h)⟩
      · exact ⟨0, by omega, Or.inr (by simpa [mAt] using h)⟩
      · refine ⟨j + 1, by omega, ?_⟩
        have e1 : mAt (m :: r) (j + 1) = mAt r j := by simp [mAt]
        have e2 : i0 + (j + 1) = i0 + 1 + j := by omega
        rw [e1, e2]; exact h
    · rintro ⟨j, hj, h⟩
      cases j with
      | zero => rcases h with h | h
                · left; simpa [mAt] using h
                · right; left; simpa [mAt] using h
      | succ j =>
        right; right
        refine ⟨j, by omega, ?_⟩
        have e1 : mAt (m :: r) (j + 1) = mAt r j := by simp [mAt]
        have e2 : i0 + (j + 1) = i0 + 1 + j := by omega
        rw [e1, e2] at h; exact h

/-- the third components of the pushed events, in push order -/
theorem eventsFrom_ids_nodup (len k : Nat) (l : List M) (i0 : Nat) (h : i0 + l.length ≤ len) :
    ((eventsFrom len k i0 l).map (·.2.2)).Pairwise (· ≠ ·) := by
  induction l generalizing i0 with
  | nil => simp [eventsFrom]
  | cons m r ih =>
    simp only [List.length_cons] at h
    simp only [eventsFrom, List.map_cons, List.pairwise_cons, List.mem_map, List.mem_cons]
    refine ⟨?_, ?_, ih (i0 + 1) (by omega)⟩
    · rintro t (rfl | ⟨e, he, rfl⟩)
      · omega
      · rcases (mem_eventsFrom len k r (i0 + 1) e).mp he with ⟨j, hj, rfl | rfl⟩ <;> simp <;> omega
    · rintro t ⟨e, he, rfl⟩
      rcases (mem_eventsFrom len k r (i0 + 1) e).mp he with ⟨j, hj, rfl | rfl⟩ <;> simp <;> omega

theorem eventsFrom_nodup (len k : Nat) (l : List M) (i0 : Nat) (h : i0 + l.length ≤ len) :
    (eventsFrom len k i0 l).Nodup := by
  have := eventsFrom_ids_nodup len k l i0 h
  rw [List.pairwise_map] at this
  exact this.imp (by intro a b hab e; exact hab (by rw [e]))

theorem evLe_iff (a b : Ev) :
    evLe a b = true ↔ a.1 < b.1 ∨ (a.1 = b.1 ∧ (a.2.1 < b.2.1 ∨ (a.2.1 = b.2.1 ∧ a.2.2 ≤ b.2.2))) := by
  simp only [evLe, Bool.or_eq_true, Bool.and_eq_true, decide_eq_true_eq, beq_iff_eq]

theorem evLe_trans (a b c : Ev) : evLe a b = true → evLe b c = true → evLe a c = true := by
  simp only [evLe_iff]; exact lex_trans (lex_trans Nat.le_trans)

theorem evLe_total (a b : Ev) : (evLe a b || evLe b a) = true := by
  rw [Bool.or_eq_true, evLe_iff, evLe_iff]; exact lex_total (lex_total (Nat.le_total _ _))

theorem sortedEvents_pairwise (ms : List M) (k : Nat) :
    (sortedEvents ms k).Pairwise (fun a b => evLe a b = true) :=
  List.pairwise_mergeSort evLe_trans evLe_total _

theorem sortedEvents_nodup (ms : List M) (k : Nat) : (sortedEvents ms k).Nodup :=
  (List.mergeSort_perm _ _).nodup_iff.mpr (eventsFrom_nodup ms.length k ms 0 (by omega))

theorem mem_sortedEvents (ms : List M) (k : Nat) (e : Ev) :
    e ∈ sortedEvents ms k ↔ ∃ p, p < ms.length ∧ (e = startEv ms p ∨ e = endEv ms k p) := by
  unfold sortedEvents
  rw [(List.mergeSort_perm _ _).mem_iff, mem_eventsFrom]
  simp only [startEv, endEv, Nat.zero_add]

/-- what a position in the sorted event vector gives: the event was not processed before, everything processed before is
`≤` it, and every event that is not `≥` it has been processed -/
theorem split_facts {E done rest : List Ev} {e : Ev} (hp : E.Pairwise (fun a b => evLe a b = true)) (hn : E.Nodup)
    (hE : E = done ++ e :: rest) :
    e ∉ done ∧ (∀ d ∈ done, evLe d e = true) ∧ (∀ e' ∈ E, evLe e e' = false → e' ∈ done) := by
  subst hE
  have hn' := List.nodup_append.mp hn
  have hp' := List.pairwise_append.mp hp
  refine ⟨?_, ?_, ?_⟩
  · intro h; exact hn'.2.2 e h e (by simp) rfl
  · intro d hd; exact hp'.2.2 d hd e (by simp)
  · intro e' he' hle
    rcases List.mem_append.mp he' with h | h
    · exact h
    · rcases List.mem_cons.mp h with rfl | h
      · have := evLe_total e' e'; simp [hle] at this
      · have := (List.pairwise_cons.mp hp'.2.1).1 e' h
        rw [hle] at this; cases this

theorem startEv_inj {ms : List M} {p q : Nat} (h : startEv ms p = startEv ms q) : p = q := by
  have := congrArg (fun e : Ev => e.2.2) h
  simp only [startEv] at this; omega

theorem endEv_inj {ms : List M} {k p q : Nat} (h : endEv ms k p = endEv ms k q) : p = q := by
  have := congrArg (fun e : Ev => e.2.2) h
  simpa only [endEv] using this

theorem endEv_ne_startEv {ms : List M} {k p q : Nat} (hq : q < ms.length) : endEv ms k q ≠ startEv ms p := by
  intro h
  have := congrArg (fun e : Ev => e.2.2) h
  simp only [startEv, endEv] at this; omega

/-! membership in the processed events after one more event -/
section
variable {ms : List M} {k p q : Nat} {done : List Ev}

theorem start_mem_snoc_start : startEv ms q ∈ done ++ [startEv ms p] ↔ startEv ms q ∈ done ∨ q = p := by
  rw [List.mem_append, List.mem_singleton]
  exact or_congr_right ⟨startEv_inj, fun h => by rw [h]⟩

theorem end_mem_snoc_end : endEv ms k q ∈ done ++ [endEv ms k p] ↔ endEv ms k q ∈ done ∨ q = p := by
  rw [List.mem_append, List.mem_singleton]
  exact or_congr_right ⟨endEv_inj, fun h => by rw [h]⟩

theorem end_mem_snoc_start (hq : q < ms.length) : endEv ms k q ∈ done ++ [startEv ms p] ↔ endEv ms k q ∈ done := by
  rw [List.mem_append, List.mem_singleton, or_iff_left (endEv_ne_startEv hq)]

theorem start_mem_snoc_end (hp : p < ms.length) : startEv ms q ∈ done ++ [endEv ms k p] ↔ startEv ms q ∈ done := by
  rw [List.mem_append, List.mem_singleton, or_iff_left (Ne.symm (endEv_ne_startEv hp))]

end

/-- the event `e` stands in the sorted event vector right after the processed events `done` -/
structure Pos (ms : List M) (k : Nat) (done : List Ev) (e : Ev) : Prop where
  fresh : e ∉ done
  before : ∀ d ∈ done, evLe d e = true
  complete : ∀ e' ∈ sortedEvents ms k, evLe e e' = false → e' ∈ done

theorem Pos.of_split {ms : List M} {k : Nat} {done rest : List Ev} {e : Ev} (h : sortedEvents ms k = done ++ e :: rest) :
    Pos ms k done e :=
  have ⟨h1, h2, h3⟩ := split_facts (sortedEvents_pairwise ms k) (sortedEvents_nodup ms k) h
  ⟨h1, h2, h3⟩

/-! The sort order between a start and an end event, read off the coordinates (the third components only break ties: an end
event has an index below `len`, a start event one from `len` on), and what a position therefore says about the matches. -/

section
variable {ms : List M} {k p q : Nat} {done : List Ev}

theorem evLe_end_start (h : evLe (endEv ms k q) (startEv ms p) = true) :
    (mAt ms q).1 + k < (mAt ms p).1 ∨ ((mAt ms q).1 + k = (mAt ms p).1 ∧ (mAt ms q).2 + k ≤ (mAt ms p).2) := by
  rw [evLe_iff] at h
  simp only [startEv, endEv] at h
  omega

theorem evLe_start_end (hq : q < ms.length) (h : evLe (startEv ms p) (endEv ms k q) = true) :
    (mAt ms p).1 < (mAt ms q).1 + k ∨ ((mAt ms p).1 = (mAt ms q).1 + k ∧ (mAt ms p).2 < (mAt ms q).2 + k) := by
  rw [evLe_iff] at h
  simp only [startEv, endEv] at h
  omega

theorem Pos.ended_before (hev : Pos ms k done (startEv ms p))
    (hin : endEv ms k q ∈ done) : (mAt ms q).1 + k ≤ (mAt ms p).1 := by
  have := evLe_end_start (hev.before _ hin); omega

theorem Pos.nonov_ended (hev : Pos ms k done (startEv ms p)) (hq : q < ms.length)
    (hn : nonov k (mAt ms q) (mAt ms p) = true) : endEv ms k q ∈ done := by
  apply hev.complete _ ((mem_sortedEvents ms k _).mpr ⟨q, hq, Or.inr rfl⟩)
  rw [Bool.eq_false_iff]; intro h
  have := evLe_start_end hq h
  simp only [nonov, Bool.and_eq_true, decide_eq_true_eq] at hn
  omega

theorem Pos.end_pending (hev : Pos ms k done (startEv ms p)) (hk : 0 < k) :
    endEv ms k p ∉ done := fun hin => by
  have := hev.ended_before hin; omega

theorem Pos.started (hev : Pos ms k done (endEv ms k p)) (hk : 0 < k) (hp : p < ms.length) :
    startEv ms p ∈ done := by
  apply hev.complete _ ((mem_sortedEvents ms k _).mpr ⟨p, hp, Or.inl rfl⟩)
  rw [Bool.eq_false_iff]; intro h
  have := evLe_end_start h; omega

end

/-- **induction along the sweep**, for a step function on states of any type: a relation `I` between the processed prefix
and the state that holds at the start and is kept by a start event and by an end event, each at its position, holds after
every prefix of the sorted event vector -/
theorem sweep_ind {S : Type} {ms : List M} {k : Nat} {step : S → Ev → S} {I : List Ev → S → Prop}
    (hstart : ∀ {done s p}, I done s → p < ms.length → Pos ms k done (startEv ms p) → I (done ++ [startEv ms p]) (step s (startEv ms p)))
    (hend : ∀ {done s p}, I done s → p < ms.length → Pos ms k done (endEv ms k p) → I (done ++ [endEv ms k p]) (step s (endEv ms k p)))
    {s0 : S} (h0 : I [] s0) {done rest : List Ev} (h : sortedEvents ms k = done ++ rest) : I done (done.foldl step s0) := by
  suffices H : ∀ (mid pre post : List Ev) (s : S), sortedEvents ms k = pre ++ mid ++ post → I pre s →
      I (pre ++ mid) (mid.foldl step s) from H done [] rest s0 h h0
  intro mid
  induction mid with
  | nil => intro pre post s _ hI; rw [List.append_nil]; exact hI
  | cons e mid ih =>
    intro pre post s h hI
    have hE : sortedEvents ms k = pre ++ e :: (mid ++ post) := by rw [h]; simp
    have hmem : e ∈ sortedEvents ms k := by rw [hE]; simp
    have hnext := ih (pre ++ [e]) post (step s e) (by rw [h]; simp)
    rw [List.append_assoc, List.singleton_append] at hnext
    obtain ⟨p, hp, rfl | rfl⟩ := (mem_sortedEvents ms k e).mp hmem
    · exact hnext (hstart hI hp (Pos.of_split hE))
    · exact hnext (hend hI hp (Pos.of_split hE))

theorem maxNI_fst (a b : Nat × Int) : (maxNI a b).1 = max a.1 b.1 := by
  unfold maxNI
  split
  · next h => simp only [Bool.or_eq_true, Bool.and_eq_true, decide_eq_true_eq, beq_iff_eq] at h; omega
  · next h => simp only [Bool.or_eq_true, Bool.and_eq_true, decide_eq_true_eq, beq_iff_eq] at h; omega

theorem maxNI_cases (a b : Nat × Int) : maxNI a b = a ∨ maxNI a b = b := by
  unfold maxNI; split <;> simp

def leNN (a b : Nat × Nat) : Prop := a.1 < b.1 ∨ (a.1 = b.1 ∧ a.2 ≤ b.2)

instance (a b : Nat × Nat) : Decidable (leNN a b) := by unfold leNN; infer_instance

theorem maxNN_of_le {a b : Nat × Nat} (h : leNN a b) : maxNN a b = b := by
  unfold maxNN; rw [if_pos]; unfold leNN at h; simpa using h

theorem maxNN_of_not_le {a b : Nat × Nat} (h : ¬ leNN a b) : maxNN a b = a := by
  unfold maxNN; rw [if_neg]; unfold leNN at h; simpa using h

/-- `maxNN` takes the maximum by the derived order of `(u32, u32)`, `Model.KmerHash.pairLe`; `leNN` is its reading as a proposition -/
theorem pairLe_iff (a b : Nat × Nat) : Model.KmerHash.pairLe a b = true ↔ leNN a b := by
  simp only [Model.KmerHash.pairLe, leNN, Bool.or_eq_true, Bool.and_eq_true, decide_eq_true_eq, beq_iff_eq]

theorem maxNN_comm (a b : Nat × Nat) : maxNN a b = maxNN b a := ite_max_comm Model.KmerHash.pairLe (fun a b => by simpa using KmerHash.pairLe_total a b) KmerHash.pairLe_antisymm a b

theorem maxNN_assoc (a b c : Nat × Nat) : maxNN (maxNN a b) c = maxNN a (maxNN b c) :=
  ite_max_assoc Model.KmerHash.pairLe (fun a b => by simpa using KmerHash.pairLe_total a b) KmerHash.pairLe_trans a b c

theorem maxNN_id (a : Nat × Nat) : maxNN (0, 0) a = a := by
  by_cases h : leNN (0, 0) a
  · rw [maxNN_of_le h]
  · rw [maxNN_of_not_le h]; unfold leNN at h; simp only at h; apply Prod.ext <;> simp only <;> omega

/-- prefix-max semantics of an aggregate: an upper bound of the selected updates that is the default or one of them -/
theorem agg_max_spec (P : Nat → Bool) (ups : List (Nat × (Nat × Nat))) :
    (∀ u ∈ ups, P u.1 = true → leNN u.2 (agg maxNN (0, 0) P ups)) ∧
    (agg maxNN (0, 0) P ups = (0, 0) ∨ ∃ u ∈ ups, P u.1 = true ∧ u.2 = agg maxNN (0, 0) P ups) := by
  refine ⟨?_, agg_selective maxNN (0, 0) (fun a b => by unfold maxNN; split <;> simp) P ups⟩
  induction ups with
  | nil => simp
  | cons w ws ih =>
    intro u hu hP
    by_cases hw : P w.1 = true
    · simp only [agg, hw, if_true]
      by_cases hle : leNN w.2 (agg maxNN (0, 0) P ws)
      · rw [maxNN_of_le hle]
        rcases List.mem_cons.mp hu with rfl | hu
        · exact hle
        · exact ih u hu hP
      · rw [maxNN_of_not_le hle]
        rcases List.mem_cons.mp hu with rfl | hu
        · unfold leNN; omega
        · have := ih u hu hP
          unfold leNN at this hle ⊢; omega
    · have hw' : P w.1 = false := by simpa using hw
      simp only [agg, hw', Bool.false_eq_true, if_false]
      rcases List.mem_cons.mp hu with rfl | hu
      · rw [hw'] at hP; cases hP
      · exact ih u hu hP

/-- **a Fenwick query is the prefix maximum of the updates so far** (C18's `get_run` at the pair maximum) -/
theorem get_run_max (n : Nat) (ups : List (Nat × (Nat × Nat))) (i : Nat) (hi : i < n) :
    Model.Fenwick.get maxNN (0, 0) (run maxNN (0, 0) n ups) i = agg maxNN (0, 0) (fun q => decide (q ≤ i)) ups :=
  get_run maxNN (0, 0) maxNN_assoc maxNN_comm maxNN_id n ups i hi

theorem nFrom_ge_init (k : Nat) (l : List M) (n0 : Nat) : n0 ≤ nFrom k n0 l := by
  induction l generalizing n0 with
  | nil => simp [nFrom]
  | cons m r ih => simp only [nFrom]; have := ih (max (max n0 (m.1 + k)) (m.2 + k)); omega

theorem nFrom_ge (k : Nat) (l : List M) (n0 : Nat) (m : M) (h : m ∈ l) : m.1 + k ≤ nFrom k n0 l ∧ m.2 + k ≤ nFrom k n0 l := by
  induction l generalizing n0 with
  | nil => cases h
  | cons a r ih =>
    simp only [nFrom]
    rcases List.mem_cons.mp h with rfl | h
    · have := nFrom_ge_init k r (max (max n0 (m.1 + k)) (m.2 + k)); omega
    · exact ih _ h

theorem eventsFrom_length (len k : Nat) : ∀ (l : List M) (i0 : Nat), (eventsFrom len k i0 l).length = 2 * l.length := by
  intro l
  induction l with
  | nil => intro _; rfl
  | cons m r ih => intro i0; simp only [eventsFrom, List.length_cons, ih]; omega

theorem nFrom_le (k B : Nat) : ∀ (l : List M) (n : Nat), n ≤ B → (∀ m ∈ l, m.1 + k ≤ B ∧ m.2 + k ≤ B) → nFrom k n l ≤ B := by
  intro l
  induction l with
  | nil => intro n h _; exact h
  | cons m r ih =>
    intro n h hb
    have := hb m (by simp)
    exact ih _ (by omega) (fun m' hm' => hb m' (by simp [hm']))

end RbV.Lemmas.Lcskpp
