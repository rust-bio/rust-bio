import RbV.Lemmas.SaisInduce
import RbV.Lemmas.SaisLmsEq
import RbV.Lemmas.SaisLabels
import RbV.Lemmas.SaisNaming
/-
The first call of `calc_pos` (on the LMS positions in text order) sorts all positions by their typed LMS substring;
consequences for the naming loop: the reduced text compares like the LMS substrings and is itself a text that
`Sais::construct` accepts (C03 (f), first half).
-/
namespace RbV.Sais

/-- `pos` after the first call of `calc_pos` -/
def pos1 (t : List Nat) : List Nat := (calcPosRun t (tyOf t) (lmsBelow (tyOf t) t.length)).pos

/-- the LMS positions in the order in which `pos1` lists them -/
def qs1 (t : List Nat) : List Nat := (pos1 t).filter (isLms (tyOf t))

/-- the labels given to them by the naming loop -/
def labs1 (t : List Nat) : List Nat := labels (lmsSubEq t (tyOf t)) (qs1 t)

theorem first_pass (t : List Nat) (hv : Valid t) : SDone t (leKey t) (pos1 t) := by
  refine induced_sort t hv (leKeyL t) (leKey t) (indRel_keyL t) (stepL_keyL t hv) (indRel_key t)
    (stepS_key t) (fun x y _ _ hx hy h => leKey_of_leKeyL t x y hx hy h) _ (lmsList_lmsOf t) ?_
  have h0 : (lmsOf t).Pairwise (fun _ _ => True) := List.pairwise_of_forall (fun _ _ => trivial)
  refine h0.imp_of_mem ?_
  intro p q hp hq _ hs
  rw [mem_lmsBelow] at hp hq
  exact leKeyL_lms t p q hp.2 hq.2 hs

theorem pos1_nodup (t : List Nat) (hv : Valid t) : (pos1 t).Nodup :=
  ((SDone.perm (first_pass t hv)).nodup_iff).mpr List.nodup_range

theorem mem_pos1 (t : List Nat) (hv : Valid t) (p : Nat) : p ∈ pos1 t ↔ p < t.length := by
  rw [(SDone.perm (first_pass t hv)).mem_iff, List.mem_range]

theorem qs1_nodup (t : List Nat) (hv : Valid t) : (qs1 t).Nodup :=
  List.Nodup.sublist List.filter_sublist (pos1_nodup t hv)

theorem mem_qs1 (t : List Nat) (hv : Valid t) (p : Nat) :
    p ∈ qs1 t ↔ isLms (tyOf t) p = true := by
  unfold qs1
  rw [List.mem_filter, mem_pos1 t hv]
  exact ⟨fun h => h.2, fun h => ⟨lt_of_isLms p h, h⟩⟩

theorem qs1_sorted (t : List Nat) (hv : Valid t) :
    (qs1 t).Pairwise (fun p q => ¬ lexLt (key t q) (key t p)) :=
  List.Pairwise.sublist List.filter_sublist (SDone.pairwise (first_pass t hv))

theorem qs1_perm (t : List Nat) (hv : Valid t) : (qs1 t).Perm (lmsOf t) := by
  rw [List.perm_ext_iff_of_nodup (qs1_nodup t hv) (nodup_lmsBelow _ _)]
  intro p
  rw [mem_qs1 t hv, mem_lmsBelow]
  exact ⟨fun h => ⟨lt_of_isLms p h, h⟩, fun h => h.2⟩

theorem length_qs1 (t : List Nat) (hv : Valid t) :
    (qs1 t).length = (lmsOf t).length := (qs1_perm t hv).length_eq

theorem lmsSubEq_iff_of_mem_qs1 (t : List Nat) (hv : Valid t) (p q : Nat) (hp : p ∈ qs1 t) (hq : q ∈ qs1 t)
    (hne : p ≠ q) : lmsSubEq t (tyOf t) p q = true ↔ key t p = key t q :=
  lmsSubEq_iff t hv p q ((mem_qs1 t hv p).mp hp) ((mem_qs1 t hv q).mp hq) hne

theorem labs1_spec (t : List Nat) (hv : Valid t) (a b : Nat) (ha : a < (qs1 t).length)
    (hb : b < (qs1 t).length) :
    ((labs1 t).getD a 0 < (labs1 t).getD b 0 ↔ lexLt (key t ((qs1 t).getD a 0)) (key t ((qs1 t).getD b 0))) ∧
    ((labs1 t).getD a 0 = (labs1 t).getD b 0 ↔ key t ((qs1 t).getD a 0) = key t ((qs1 t).getD b 0)) :=
  labels_lt_eq_iff (key t) _ (qs1 t) (qs1_nodup t hv) (lmsSubEq_iff_of_mem_qs1 t hv) (qs1_sorted t hv) a b ha hb

/-- `reduced_text_pos` after the first loop of `calc_lms_pos` -/
def RedPosOk (t : List Nat) (redPos : List Nat) : Prop :=
  ∀ q, isLms (tyOf t) q = true → redPos.getD q 0 = rho (tyOf t) q

/-- the reduced text written by the naming loop -/
def red1 (t : List Nat) (redPos : List Nat) : List Nat :=
  redOf redPos (List.replicate (lmsOf t).length 0) (qs1 t) (labs1 t)

/-- the first loop of `calc_lms_pos` on a text: `lms_pos = lmsOf t`; `reduced_text_pos` keeps its length and holds `rho` at
every LMS position -/
theorem collect_lmsOf (t rp : List Nat) (h : t.length ≤ rp.length) :
    ∃ c2 c3, forUp t.length (collectStep (tyOf t)) ([], rp, 0) = (lmsOf t, c2, c3) ∧ c2.length = rp.length ∧
      RedPosOk t c2 := by
  have hc := collect_spec (tyOf t) rp t.length h
  simp only [] at hc
  generalize forUp t.length (collectStep (tyOf t)) ([], rp, 0) = c at hc ⊢
  obtain ⟨c1, c2, c3⟩ := c
  obtain ⟨h1, _, h3, h4, _⟩ := hc
  simp only [] at h1 h3 h4
  subst h1
  exact ⟨c2, c3, rfl, h3, fun q hq => h4 q (lt_of_isLms q hq) hq⟩

/-- the naming loop run on the state the first `calc_pos` leaves: its label and its reduced text are `labs1`, `red1` -/
theorem naming_pos1 (t : List Nat) (s : St) (hs : s.pos = pos1 t) :
    (naming t (tyOf t) (lmsOf t).length s).label = (labs1 t).getLastD 0 ∧
    (naming t (tyOf t) (lmsOf t).length s).red = red1 t s.redPos := by
  have := naming_eq t (tyOf t) (lmsOf t).length s
  rwa [hs] at this

theorem length_red1 (t : List Nat) (redPos : List Nat) : (red1 t redPos).length = (lmsOf t).length := by
  unfold red1; rw [length_redOf]; simp

theorem qs1_getD_lms (t : List Nat) (hv : Valid t) (a : Nat) (ha : a < (qs1 t).length) :
    isLms (tyOf t) ((qs1 t).getD a 0) = true := (mem_qs1 t hv _).mp (List.getD_mem _ a 0 ha)

theorem red1_getD (t : List Nat) (hv : Valid t) (redPos : List Nat) (hr : RedPosOk t redPos)
    (a : Nat) (ha : a < (qs1 t).length) :
    (red1 t redPos).getD (rho (tyOf t) ((qs1 t).getD a 0)) 0 = (labs1 t).getD a 0 := by
  have hl := fun a ha => qs1_getD_lms t hv a ha
  rw [← hr _ (hl a ha)]
  unfold red1
  apply redOf_getD _ _ _ _ a ha (length_labels _ _)
  · intro a b hab hb
    rw [hr _ (hl a (by omega)), hr _ (hl b hb)]
    intro he
    have := rho_inj (tyOf t) t.length _ _ (lt_of_isLms _ (hl a (by omega))) (lt_of_isLms _ (hl b hb))
      (hl a (by omega)) (hl b hb) he
    have := nodup_getD_inj _ (qs1_nodup t hv) a b (by omega) hb this
    omega
  · intro a ha
    rw [hr _ (hl a ha), List.length_replicate]
    exact rho_lt (tyOf t) _ t.length (lt_of_isLms _ (hl a ha)) (hl a ha)

theorem exists_qs1_index (t : List Nat) (hv : Valid t) (j : Nat)
    (hj : j < (lmsOf t).length) :
    ∃ a, a < (qs1 t).length ∧ (qs1 t).getD a 0 = (lmsOf t).getD j 0 ∧
      rho (tyOf t) ((qs1 t).getD a 0) = j := by
  have hm := List.getD_mem _ j 0 hj
  have := (qs1_perm t hv).mem_iff.mpr hm
  obtain ⟨a, ha, he⟩ := List.exists_getD_of_mem _ 0 this
  exact ⟨a, ha, he, by rw [he]; exact rho_lmsOf_getD t j hj⟩

/-- **the reduced text compares like the typed LMS substrings** -/
theorem red1_ord (t : List Nat) (hv : Valid t) (redPos : List Nat) (hr : RedPosOk t redPos)
    (a b : Nat) (ha : a < (red1 t redPos).length) (hb : b < (red1 t redPos).length) :
    ((red1 t redPos).getD a 0 < (red1 t redPos).getD b 0 ↔
      lexLt (key t ((lmsOf t).getD a 0)) (key t ((lmsOf t).getD b 0))) ∧
    ((red1 t redPos).getD a 0 = (red1 t redPos).getD b 0 ↔
      key t ((lmsOf t).getD a 0) = key t ((lmsOf t).getD b 0)) := by
  rw [length_red1] at ha hb
  obtain ⟨a', ha', hea, hra⟩ := exists_qs1_index t hv a ha
  obtain ⟨b', hb', heb, hrb⟩ := exists_qs1_index t hv b hb
  have h1 := red1_getD t hv redPos hr a' ha'
  have h2' := red1_getD t hv redPos hr b' hb'
  rw [hra] at h1; rw [hrb] at h2'
  rw [h1, h2', ← hea, ← heb]
  exact labs1_spec t hv a' b' ha' hb'

/-- **the reduced text is a text `Sais::construct` accepts** -/
theorem valid_red1 (t : List Nat) (hv : Valid t) (h2 : 2 ≤ t.length) (redPos : List Nat) (hr : RedPosOk t redPos)
    (hm : 1 < (lmsOf t).length) : Valid (red1 t redPos) := by
  have hlen := length_red1 t redPos
  have hq := length_qs1 t hv
  refine ⟨by omega, ?_, ?_⟩
  · intro i hi
    unfold sym
    have := (red1_ord t hv redPos hr ((red1 t redPos).length - 1) i (by omega) (by omega)).1
    rw [this, hlen, lmsOf_getD_last t hv h2]
    apply key_last_lt t hv
    -- the `i`-th LMS position is not the last one
    have hi' : i < (lmsOf t).length := by omega
    have hm' := List.getD_mem _ i 0 hi'
    rw [mem_lmsBelow] at hm'
    apply Classical.byContradiction
    intro hc
    have he : (lmsOf t).getD i 0 = t.length - 1 := by omega
    have := rho_lmsOf_getD t i hi'
    rw [he] at this
    have := rho_last t hv h2
    omega
  · intro c x hx hcx
    obtain ⟨j, hj, he⟩ := List.exists_getD_of_mem _ 0 hx
    rw [hlen] at hj
    obtain ⟨a, ha, _, hra⟩ := exists_qs1_index t hv j hj
    have h1 := red1_getD t hv redPos hr a ha
    rw [hra, he] at h1
    have hne : qs1 t ≠ [] := by
      intro e; rw [e] at ha; simp at ha
    have hle := labels_le_last (lmsSubEq t (tyOf t)) (qs1 t) a ha
    obtain ⟨a', ha', hv'⟩ := labels_dense (lmsSubEq t (tyOf t)) (qs1 t) c hne (by unfold labs1 at h1; omega)
    have h3 := red1_getD t hv redPos hr a' ha'
    unfold labs1 at h3
    rw [hv'] at h3
    rw [← h3]
    apply List.getD_mem
    rw [hlen]
    exact rho_lt (tyOf t) _ t.length (lt_of_isLms _ (qs1_getD_lms t hv a' ha')) (qs1_getD_lms t hv a' ha')

end RbV.Sais
