import RbV.Lemmas.TracebackLongMoves
/-!
The moves of `_traceback_at` with the block-based handler carry the true values to the next cursor position, which again is a
cell of value `≤ k`; with the three tests of `Lemmas/TracebackLongInv.lean` the handler is a `Cursor` that `Reads` the matrix
(`lhandler_reads`, `Lemmas/TracebackCursor.lean`) (C10, block-based handler).  Core Lean only.
-/
namespace RbV.Model.MyersTracebackLong
open RbV.Model.MyersSimple (St)
open RbV.Model.MyersTraceback

section
variable {w nb m k q lo : Nat} {D : Nat → Nat → Nat} {S : Nat → Array (St w)} {rd : Nat → Array (St w)}

/-- `move_to_left` loads the new left block: block `BLx` of column `jn − 1` (sequence number `jn`), adjusted with the range
mask to the left cursor's row `ρ` — the diagonal neighbour of a cell of value `≤ k`, hence inside a computed block (or
in the guard column) -/
theorem load_left (st : StoredL nb m k q lo D S rd) {ρ jn BLx ax : Nat} {g : LHandler w}
    (hρ : ρ < m) (hjn : jn < q) (hk : D (ρ + 1) jn ≤ k) (lg : LGeo nb m ρ BLx ax g) (hrd : rd g.taken = S jn) :
    BCur nb m D S jn BLx ax ρ (g.moveToLeft rd).leftBlock := by
  have hlw := st.geo.len_le BLx
  have hdk : ∀ j1, jn = j1 + 1 → D (BLx * w + ax) j1 ≤ k := by
    intro j1 hj1
    subst hj1
    have := st.diag ρ j1 hρ hjn
    rw [← lg.hrowL]
    omega
  obtain ⟨CL, be⟩ := st.block_enc (Nat.le_of_lt hjn) lg.hBL lg.ha lg.ha1 hdk
  -- nothing wraps around: the guard block has `mv = 0`, a computed block a distance `≤ m + w`
  have hsmall : ((S jn).getD BLx dflt).dist + popc (((S jn).getD BLx dflt).mv &&& g.leftMask) ≤ umax := by
    cases jn with
    | zero =>
      rw [st.guard BLx lg.hBL]
      show umax + popc (0#w &&& g.leftMask) ≤ umax
      rw [popc_zero_and]; omega
    | succ j1 =>
      have hspan := be.enc.span (lenB w nb m BLx - ax) (by omega)
      rw [show lenB w nb m BLx - (lenB w nb m BLx - ax) = ax by have := lg.ha; omega,
        be.exact j1 rfl ax lg.ha (hdk j1 rfl), ← be.dist] at hspan
      have hbd := st.bound ρ j1 (by omega) (by omega)
      rw [lg.hrowL] at hbd
      have hpc := popc_le (((S (j1 + 1)).getD BLx dflt).mv &&& g.leftMask)
      have hsm := st.small
      omega
  have sp := adjustByMaskU_spec CL ((S jn).getD BLx dflt) g.leftMask ax lg.ha hlw be.enc lg.lmask be.dist
    (be.nonneg lg.ha (st.len_le_umax BLx) hdk) hsmall
  have v := be.val lg.ha hdk sp.2.2
  rw [← lg.hrowL] at v
  show BCur nb m D S jn BLx ax ρ (adjustByMaskU ((rd g.taken).getD g.leftBlockPos dflt) g.leftMask)
  rw [hrd, lg.leftBlockPos]
  exact ⟨sp.1, sp.2.1, v.1, v.2⟩

/-- from row 1 every kind of upward move ends the walk -/
theorem moveUp_finish {B b : Nat} {h : LHandler w} (g : Geo w nb m) (rg : RGeo nb m 0 B b h) (adj : Bool) :
    (h.moveUp adj).pos = 0#w ∧ (h.moveUp adj).blockPos = 0 := by
  obtain ⟨hB, hb⟩ := rg.zero g
  subst hB hb
  have c : ((h.pos != 1#w) || h.blockPos == 0) = true := by rw [rg.blockPos]; simp
  constructor
  · unfold LHandler.moveUp; rw [if_pos c]
    show h.pos >>> 1 = 0#w
    rw [rg.pos]; exact twoPow_shr_zero
  · unfold LHandler.moveUp; rw [if_pos c]; exact rg.blockPos

/-- `move_up(true)` from a cell of value `≤ k` whose upper neighbour is smaller by one: the cached block (adjusted by one bit, or
reloaded from the block above) holds the value of the upper neighbour -/
theorem block_up (st : StoredL nb m k q lo D S rd) {r j B b BL a B' b' : Nat} {h : LHandler w}
    (inv : LInvC nb m k q D S (r + 1) j B b BL a h) (hup : D (r + 1) j + 1 = D (r + 1 + 1) j)
    (hR : (1 ≤ b ∧ B' = B ∧ b' + 1 = b ∧ (h.moveUp true).block = adjustDist h.block (BitVec.twoPow w b)) ∨
      (b = 0 ∧ B = B' + 1 ∧ b' + 1 = w ∧ (h.moveUp true).block = h.col.getD B' dflt)) :
    BCur nb m D S (j + 1) B' (b' + 1) (r + 1) (h.moveUp true).block := by
  have hj := inv.hj
  have hk := inv.hk
  have hrow := inv.rg.hrow
  have hdk : ∀ j1, j + 1 = j1 + 1 → D (r + 1) j1 ≤ k := by
    intro j1 e
    obtain rfl : j = j1 := Nat.succ.inj e
    omega
  rcases hR with ⟨hb1, rfl, rfl, hblk⟩ | ⟨rfl, rfl, hbb, hblk⟩
  · -- inside the block: `adjust_dist` on the cached block, whose distance stands one row further down
    rw [hblk]
    have hrow2 : B' * w + (b' + 1 + 1) = r + 1 + 1 := by omega
    have c : BCur nb m D S (j + 1) B' (b' + 1 + 1) (B' * w + (b' + 1 + 1)) h.block := by rw [hrow2]; exact inv.cur
    exact st.up hj inv.rg.hB inv.rg.hb (Or.inr hb1) hrow hdk h.block inv.cur.pv inv.cur.mv
      (c.enc_dist inv.rg.hb (fun j1 e => by obtain rfl : j = j1 := Nat.succ.inj e; rw [hrow2]; exact hk))
  · -- block switch: the whole block above, whose last row is the row of the upper neighbour
    have hlen := lenB_inner (w := w) (m := m) B' inv.rg.hB
    have v := st.whole hj (Nat.lt_of_succ_lt inv.rg.hB) (by rw [hlen, hrow, Nat.succ_mul]; rfl) hdk
    rw [hlen] at v
    rw [hblk, inv.col, hbb]
    exact v

/-- `move_up_left(true)` after `move_up(true)`: the cached left block (adjusted by one bit, or reloaded from the block above) holds
the value of the new diagonal cell -/
theorem left_up (st : StoredL nb m k q lo D S rd) {r j B b BL a B' b' BL' a' : Nat} {h : LHandler w}
    (inv : LInvC nb m k q D S (r + 1) j B b BL a h) (hdkr : ∀ j1, j = j1 + 1 → D r j1 ≤ k)
    (rg' : RGeo nb m r B' b' (h.moveUp true)) (lg' : LGeo nb m r BL' a' ((h.moveUp true).moveUpLeft true))
    (hL : (1 ≤ a ∧ BL' = BL ∧ a' + 1 = a ∧ ((h.moveUp true).moveUpLeft true).leftBlock =
          adjustDist (h.moveUp true).leftBlock (h.moveUp true).pos) ∨
      (a = 1 ∧ BL = BL' + 1 ∧ a' = w ∧ ((h.moveUp true).moveUpLeft true).leftBlock = (h.moveUp true).leftCol.getD BL' dflt)) :
    BCur nb m D S j BL' a' r ((h.moveUp true).moveUpLeft true).leftBlock := by
  have hj := inv.hj
  rcases hL with ⟨ha1, hBB, haa, hblk⟩ | ⟨ha1, hBB, haa, hblk⟩
  · -- inside the block: `adjust_dist` on the cached left block, whose distance stands one row further down
    rw [hblk, moveUp_leftBlock, rg'.pos]
    subst hBB
    have hbb : b' = a' := by
      have hlb := rg'.hb
      have hlwB := st.geo.len_le B'
      have hlwL := st.geo.len_le BL'
      have hla := lg'.ha
      rcases cursor_cases w B' b' BL' a' (by omega) (by omega) (by rw [← rg'.hrow, ← lg'.hrowL]) with
        ⟨_, e⟩ | ⟨_, _, e⟩
      · exact e.symm
      · have := inv.lg.ha; omega
    subst hbb haa
    have c : BCur nb m D S j BL' (b' + 1) (BL' * w + (b' + 1)) h.leftBlock := by rw [← inv.lg.hrowL]; exact inv.left
    exact st.up (Nat.le_of_lt hj) lg'.hBL inv.lg.ha lg'.ha1 lg'.hrowL hdkr h.leftBlock inv.left.pv inv.left.mv
      (c.enc_dist inv.lg.ha (fun j1 hj1 => by rw [← inv.lg.hrowL]; subst hj1; exact inv.diag_le st (by omega)))
  · -- block switch: the whole block above, whose last row is the cursor's row
    rw [hblk, moveUp_leftCol, inv.leftCol]
    subst hBB
    have hlen : lenB w nb m BL' = a' := by have := lg'.ha; have := st.geo.len_le BL'; omega
    rw [← hlen]
    exact st.whole (Nat.le_of_lt hj) lg'.hBL (by rw [hlen]; exact lg'.hrowL) hdkr

/-- `move_up(true); move_up_left(true)` — the vertical move of Ins -/
theorem moveL_ins (st : StoredL nb m k q lo D S rd) {i' j B b BL a : Nat} {h : LHandler w}
    (inv : LInvC nb m k q D S i' j B b BL a h) (hup : D i' j + 1 = D (i' + 1) j) :
    LInvAny nb m k q D S i' j ((h.moveUp true).moveUpLeft true) := by
  cases i' with
  | zero =>
    obtain ⟨f1, f2⟩ := moveUp_finish st.geo inv.rg true
    exact ⟨by rw [moveUpLeft_pos]; exact f1, by rw [moveUpLeft_blockPos]; exact f2⟩
  | succ r =>
    have hi := inv.hi
    have hj := inv.hj
    have hr : r < m := by omega
    have hk' : D (r + 1) j ≤ k := by have := inv.hk; omega
    have hdkr : ∀ j1, j = j1 + 1 → D r j1 ≤ k := by
      intro j1 hj1
      subst hj1
      have := st.diag r j1 hr hj
      omega
    obtain ⟨B', b', rg', hR⟩ := inv.rg.moveUp st.geo true
    have lg1 : LGeo nb m (r + 1) BL a (h.moveUp true) :=
      inv.lg.frame (moveUp_leftBlockPos h true) (moveUp_leftMaxMask h true) (moveUp_leftMask h true)
    obtain ⟨BL', a', lg', hL⟩ := lg1.moveUpLeft st.geo hi true
    simp only [if_true] at hR hL
    exact ⟨B', b', BL', a', ⟨hr, hj, hk', rg'.frame (moveUpLeft_blockPos _ true) (moveUpLeft_pos _ true), lg',
      by rw [moveUpLeft_col, moveUp_col]; exact inv.col, by rw [moveUpLeft_leftCol, moveUp_leftCol]; exact inv.leftCol,
      by rw [moveUpLeft_block]; exact block_up st inv hup hR, left_up st inv hdkr rg' lg' hL,
      by rw [moveUpLeft_taken, moveUp_taken]; exact inv.taken⟩⟩

/-- `move_up(false); move_up_left(false); move_to_left()` — the diagonal move of Subst and Match: the old left block becomes the
current block, the new left block is loaded -/
theorem moveL_diag (st : StoredL nb m k q lo D S rd) {i' j B b BL a : Nat} {h : LHandler w}
    (inv : LInvC nb m k q D S i' j B b BL a h) (hlo : lo + 1 ≤ j) :
    LInvAny nb m k q D S i' (j - 1) (((h.moveUp false).moveUpLeft false).moveToLeft rd) := by
  cases i' with
  | zero =>
    obtain ⟨f1, f2⟩ := moveUp_finish st.geo inv.rg false
    refine ⟨?_, ?_⟩
    · show ((h.moveUp false).moveUpLeft false).pos = 0#w
      rw [moveUpLeft_pos]; exact f1
    · show ((h.moveUp false).moveUpLeft false).blockPos = 0
      rw [moveUpLeft_blockPos]; exact f2
  | succ r =>
    obtain ⟨j0, rfl⟩ := Nat.exists_eq_add_of_le' (Nat.le_of_add_left_le hlo)
    have hi := inv.hi
    have hj := inv.hj
    have hdk := inv.diag_le st (by omega)
    simp only [Nat.add_sub_cancel] at hdk
    simp only [Nat.add_sub_cancel, LInvAny]
    obtain ⟨B', b', rg', hR⟩ := inv.rg.moveUp st.geo false
    have lg1 : LGeo nb m (r + 1) BL a (h.moveUp false) :=
      inv.lg.frame (moveUp_leftBlockPos h false) (moveUp_leftMaxMask h false) (moveUp_leftMask h false)
    obtain ⟨BL', a', lg', hL⟩ := lg1.moveUpLeft st.geo hi false
    -- the new right cursor is the old left cursor: same row, hence same block and local row
    have hBB : B' = BL ∧ b' + 1 = a := by
      have ha1 := inv.lg.ha1
      have hlwB := st.geo.len_le B
      have hlwL := st.geo.len_le BL
      have hla := inv.lg.ha
      rcases inv.cases st with ⟨e1, e2⟩ | ⟨e1, e2, e3⟩ <;> rcases hR with ⟨hb1, hB1, hb2, _⟩ | ⟨hb0, hB1, hb2, _⟩ <;>
        constructor <;> omega
    have htk : ((h.moveUp false).moveUpLeft false).taken = h.taken := by rw [moveUpLeft_taken, moveUp_taken]
    have hrd : rd ((h.moveUp false).moveUpLeft false).taken = S j0 := by rw [htk]; exact inv.rd_taken st hlo
    have hlb : ((h.moveUp false).moveUpLeft false).leftBlock = h.leftBlock := by
      rw [moveUpLeft_false_leftBlock, moveUp_leftBlock]
    exact ⟨B', b', BL', a', ⟨by omega, by omega, hdk,
      (rg'.frame (moveUpLeft_blockPos _ false) (moveUpLeft_pos _ false)).frame rfl rfl, lg'.frame rfl rfl rfl,
      by show ((h.moveUp false).moveUpLeft false).leftCol = _; rw [moveUpLeft_leftCol, moveUp_leftCol]; exact inv.leftCol, hrd,
      by show BCur nb m D S (j0 + 1) B' (b' + 1) (r + 1) ((h.moveUp false).moveUpLeft false).leftBlock
         rw [hlb, hBB.1, hBB.2]; exact inv.left,
      load_left st (by omega) (by omega) hdk lg' hrd,
      by show ((h.moveUp false).moveUpLeft false).taken + 1 = _; rw [htk, inv.taken]; omega⟩⟩

/-- `move_left_down_if_better()` returned true, then `move_to_left()` — the horizontal move of Del -/
theorem moveL_del (st : StoredL nb m k q lo D S rd) {i' j B b BL a : Nat} {h : LHandler w}
    (inv : LInvC nb m k q D S i' j B b BL a h) (hlo : lo + 1 ≤ j)
    (hdel : D (i' + 1) (j - 1) + 1 = D i' (j - 1)) (blk : St w)
    (hpv : blk.pv = ((S j).getD B dflt).pv) (hmv : blk.mv = ((S j).getD B dflt).mv)
    (hdist : blk.dist = h.leftBlock.dist - 1) :
    LInvAny nb m k q D S (i' + 1) (j - 1) (LHandler.moveToLeft rd { h with leftBlock := blk }) := by
  obtain ⟨j0, rfl⟩ := Nat.exists_eq_add_of_le' (Nat.le_of_add_left_le hlo)
  have hi := inv.hi
  have hj := inv.hj
  have hdk := inv.diag_le st (by omega)
  have hld := inv.left.dist (by omega)
  simp only [Nat.add_sub_cancel] at hdk hdel hld
  simp only [Nat.add_sub_cancel, LInvAny]
  have hk' : D (i' + 1) j0 ≤ k := by omega
  have hrd : rd h.taken = S j0 := inv.rd_taken st hlo
  exact ⟨B, b, BL, a, ⟨hi, by omega, hk', inv.rg.frame rfl rfl, inv.lg.frame rfl rfl rfl, inv.leftCol, hrd,
    ⟨hpv, hmv, fun _ => by show blk.dist = D (i' + 1) j0; rw [hdist, hld]; omega, fun e => by omega⟩,
    load_left st (g := { h with leftBlock := blk }) hi (by omega) hk' (inv.lg.frame rfl rfl rfl) hrd,
    by show h.taken + 1 = _; rw [inv.taken]; omega⟩⟩

/-- `LongTracebackHandler` as `_traceback_at` uses it -/
def LHandler.cursor (rd : Nat → Array (St w)) : Cursor (LHandler w) where
  fin := LHandler.finished
  sub h := decide ((h.leftBlock.dist + 1) % (umax + 1) = h.block.dist)
  ins h := (h.block.pv &&& h.pos) != 0#w
  ldb := LHandler.moveLeftDownIfBetter
  diag h := ((h.moveUp false).moveUpLeft false).moveToLeft rd
  vert h := (h.moveUp true).moveUpLeft true
  left h := h.moveToLeft rd

theorem LHandler.iter_eq (rd : Nat → Array (St w)) (h : LHandler w) : h.iter rd = (LHandler.cursor rd).iter false h := by
  simp only [LHandler.iter, Cursor.iter, LHandler.cursor, decide_eq_true_eq, Bool.false_eq_true, if_false]
  rcases h.moveLeftDownIfBetter with ⟨_ | _, h'⟩ <;> rfl

/-- **the block-based handler reads true cells** along the walk of a hit: its tests are the tests of the matrix rule, its moves carry
the true values to the next cursor position, again a cell of value `≤ k`; column 0 is 0, 1, 2, …, so the rule says Ins there -/
theorem lhandler_reads (st : StoredL nb m k q lo D S rd) : Reads (LHandler.cursor rd) D lo (LInvAny nb m k q D S) where
  done := fun j h inv => by
    have inv : h.pos = 0#w ∧ h.blockPos = 0 := inv
    simp [LHandler.cursor, LHandler.finished, inv.1, inv.2]
  cur := fun i j h inv => by
    obtain ⟨B, b, BL, a, inv⟩ : LInv nb m k q D S i j h := inv
    have hlw := st.geo.len_le B
    have hb := inv.rg.hb
    have hi := inv.hi
    obtain ⟨t3, t3f, t3t⟩ := testL_del st inv
    refine ⟨?_, ?_, decide_eq_decide.mpr (testL_subst st inv), testL_ins st inv, t3, t3f, moveL_diag st inv, moveL_ins st inv,
      fun hlo hf => ?_⟩
    · simp only [LHandler.cursor, LHandler.finished, inv.rg.pos]
      rw [beq_false_of_ne (twoPow_ne_zero (by omega))]
      rfl
    · rw [st.col0 i (by omega), st.col0 (i + 1) (by omega)]
    · obtain ⟨blk, e, hpv, hmv, hdist⟩ := t3t hf
      show LInvAny nb m k q D S (i + 1) (j - 1) (LHandler.moveToLeft rd h.moveLeftDownIfBetter.2)
      rw [e]
      exact moveL_del st inv hlo (of_decide_eq_true (t3.symm.trans hf)).2 blk hpv hmv hdist

end

end RbV.Model.MyersTracebackLong
