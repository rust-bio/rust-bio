import RbV.Lemmas.SaisLabelsDef
import RbV.Spec.SufOrder
import RbV.Basic.GetD
/-
Properties of the label sequence `labels eq qs` of the naming loop: labels start at 0, grow by at most one per step,
are dense, and (on a key-sorted scan with `eq` deciding key equality) are order-isomorphic to the keys.
-/
namespace RbV.Sais

theorem step_mono (f : Nat → Nat) (n : Nat) (hstep : ∀ a, a + 1 < n → f a ≤ f (a + 1) ∧ f (a + 1) ≤ f a + 1)
    (a b : Nat) (hab : a ≤ b) (hb : b < n) : f a ≤ f b ∧ f b ≤ f a + (b - a) := by
  induction b with
  | zero =>
    have : a = 0 := by omega
    subst this
    exact ⟨Nat.le_refl _, by omega⟩
  | succ b ih =>
    by_cases h : a = b + 1
    · subst h
      exact ⟨Nat.le_refl _, by omega⟩
    · have h1 := ih (by omega) (by omega)
      have h2 := hstep b hb
      exact ⟨by omega, by omega⟩

/-- discrete intermediate value -/
theorem step_dense (f : Nat → Nat) (n : Nat) (h0 : f 0 = 0)
    (hstep : ∀ a, a + 1 < n → f a ≤ f (a + 1) ∧ f (a + 1) ≤ f a + 1)
    (b : Nat) (hb : b < n) (v : Nat) (hv : v ≤ f b) : ∃ a, a ≤ b ∧ f a = v := by
  induction b with
  | zero => exact ⟨0, Nat.le_refl _, by omega⟩
  | succ b ih =>
    have h2 := hstep b hb
    by_cases h : v ≤ f b
    · obtain ⟨a, ha, hfa⟩ := ih (by omega) h
      exact ⟨a, by omega, hfa⟩
    · exact ⟨b + 1, Nat.le_refl _, by omega⟩

/-- the label given to the first scanned position -/
def firstLab (eq : Nat → Nat → Bool) (prev : Option Nat) (lab q : Nat) : Nat :=
  match prev with
  | none => lab
  | some p => if !eq p q then lab + 1 else lab

theorem labelsGo_cons (eq : Nat → Nat → Bool) (prev : Option Nat) (lab q : Nat) (r : List Nat) :
    labelsGo eq prev lab (q :: r) = firstLab eq prev lab q :: labelsGo eq (some q) (firstLab eq prev lab q) r := by
  cases prev <;> rfl

theorem length_labelsGo (eq : Nat → Nat → Bool) (prev : Option Nat) (lab : Nat) (qs : List Nat) :
    (labelsGo eq prev lab qs).length = qs.length := by
  induction qs generalizing prev lab with
  | nil => cases prev <;> rfl
  | cons q r ih => rw [labelsGo_cons, List.length_cons, List.length_cons, ih]

theorem labelsGo_step (eq : Nat → Nat → Bool) (prev : Option Nat) (lab : Nat) (qs : List Nat) (a : Nat)
    (ha : a + 1 < qs.length) :
    (labelsGo eq prev lab qs).getD (a + 1) 0 =
      (labelsGo eq prev lab qs).getD a 0 + (if eq (qs.getD a 0) (qs.getD (a + 1) 0) then 0 else 1) := by
  induction qs generalizing prev lab a with
  | nil => simp at ha
  | cons q r ih =>
    rw [labelsGo_cons]
    cases a with
    | zero =>
      cases r with
      | nil => simp at ha
      | cons q' r' =>
        rw [labelsGo_cons]
        simp only [List.getD_cons_succ, List.getD_cons_zero, firstLab]
        cases eq q q' <;> simp
    | succ a =>
      simp only [List.getD_cons_succ]
      exact ih (some q) _ a (by simpa using ha)

theorem length_labels (eq : Nat → Nat → Bool) (qs : List Nat) : (labels eq qs).length = qs.length :=
  length_labelsGo eq none 0 qs

theorem labels_step (eq : Nat → Nat → Bool) (qs : List Nat) (a : Nat) (ha : a + 1 < qs.length) :
    (labels eq qs).getD (a + 1) 0 =
      (labels eq qs).getD a 0 + (if eq (qs.getD a 0) (qs.getD (a + 1) 0) then 0 else 1) :=
  labelsGo_step eq none 0 qs a ha

theorem labels_step_bounds (eq : Nat → Nat → Bool) (qs : List Nat) (a : Nat) (ha : a + 1 < qs.length) :
    (labels eq qs).getD a 0 ≤ (labels eq qs).getD (a + 1) 0 ∧
      (labels eq qs).getD (a + 1) 0 ≤ (labels eq qs).getD a 0 + 1 := by
  rw [labels_step eq qs a ha]
  split <;> omega

theorem labels_zero (eq : Nat → Nat → Bool) (qs : List Nat) : (labels eq qs).getD 0 0 = 0 := by
  cases qs with
  | nil => rfl
  | cons q r => simp [labels, labelsGo_cons, firstLab]

theorem labels_mono (eq : Nat → Nat → Bool) (qs : List Nat) (a b : Nat) (hab : a ≤ b) (hb : b < qs.length) :
    (labels eq qs).getD a 0 ≤ (labels eq qs).getD b 0 ∧ (labels eq qs).getD b 0 ≤ (labels eq qs).getD a 0 + (b - a) :=
  step_mono (fun i => (labels eq qs).getD i 0) qs.length (labels_step_bounds eq qs) a b hab hb

theorem labels_getD_le (eq : Nat → Nat → Bool) (qs : List Nat) (a : Nat) (ha : a < qs.length) :
    (labels eq qs).getD a 0 ≤ a := by
  have := (labels_mono eq qs 0 a (Nat.zero_le _) ha).2
  rw [labels_zero] at this; omega

theorem labels_lt_length (eq : Nat → Nat → Bool) (qs : List Nat) (v : Nat) (hv : v ∈ labels eq qs) : v < qs.length := by
  obtain ⟨a, ha, rfl⟩ := List.exists_getD_of_mem _ 0 hv
  rw [length_labels] at ha
  have := labels_getD_le eq qs a ha; omega

theorem labels_getLastD (eq : Nat → Nat → Bool) (qs : List Nat) :
    (labels eq qs).getLastD 0 = (labels eq qs).getD (qs.length - 1) 0 := by
  rw [List.getLastD_eq_getD, length_labels]

theorem labels_le_last (eq : Nat → Nat → Bool) (qs : List Nat) (a : Nat) (ha : a < qs.length) :
    (labels eq qs).getD a 0 ≤ (labels eq qs).getLastD 0 := by
  rw [labels_getLastD eq qs]
  exact (labels_mono eq qs a (qs.length - 1) (by omega) (by omega)).1

theorem labels_dense (eq : Nat → Nat → Bool) (qs : List Nat) (v : Nat) (hne : qs ≠ [])
    (hv : v ≤ (labels eq qs).getLastD 0) : ∃ a, a < qs.length ∧ (labels eq qs).getD a 0 = v := by
  have hpos : 0 < qs.length := List.length_pos_iff.mpr hne
  rw [labels_getLastD eq qs] at hv
  obtain ⟨a, ha, hfa⟩ := step_dense (fun i => (labels eq qs).getD i 0) qs.length (labels_zero eq qs)
    (labels_step_bounds eq qs) (qs.length - 1) (by omega) v hv
  exact ⟨a, by omega, hfa⟩

theorem labels_eq_iff_of_le (K : Nat → List Nat) (eq : Nat → Nat → Bool) (qs : List Nat) (hnd : qs.Nodup)
    (heq : ∀ p q, p ∈ qs → q ∈ qs → p ≠ q → (eq p q = true ↔ K p = K q))
    (hs : qs.Pairwise (fun p q => ¬ lexLt (K q) (K p))) (a b : Nat) (hab : a ≤ b) (hb : b < qs.length) :
    ((labels eq qs).getD a 0 = (labels eq qs).getD b 0 ↔ K (qs.getD a 0) = K (qs.getD b 0)) := by
  have hO : ∀ i j, i < j → j < qs.length → ¬ lexLt (K (qs.getD j 0)) (K (qs.getD i 0)) :=
    fun i j hij hj => List.pairwise_getD qs i j 0 hs hij hj
  have hN : ∀ i j, i < j → j < qs.length → qs.getD i 0 ≠ qs.getD j 0 :=
    fun i j hij hj => List.pairwise_getD qs i j 0 hnd hij hj
  have hM : ∀ i, i < qs.length → qs.getD i 0 ∈ qs := fun i hi => List.getD_mem qs i 0 hi
  induction b with
  | zero =>
    have : a = 0 := by omega
    subst this
    exact ⟨fun _ => rfl, fun _ => rfl⟩
  | succ b ih =>
    by_cases h : a = b + 1
    · subst h
      exact ⟨fun _ => rfl, fun _ => rfl⟩
    · have hab' : a ≤ b := by omega
      have ih' := ih hab' (by omega)
      have hm := labels_mono eq qs a b hab' (by omega)
      have hst := labels_step eq qs b hb
      have hE := heq _ _ (hM b (by omega)) (hM (b + 1) hb) (hN b (b + 1) (by omega) hb)
      constructor
      · intro hL
        have h1 : (labels eq qs).getD a 0 = (labels eq qs).getD b 0 := by
          rw [hst] at hL; omega
        have h2 : eq (qs.getD b 0) (qs.getD (b + 1) 0) = true := by
          cases hc : eq (qs.getD b 0) (qs.getD (b + 1) 0) with
          | true => rfl
          | false =>
            rw [hst, hc] at hL
            have h1 : (if false = true then 0 else 1 : Nat) = 1 := rfl
            rw [h1] at hL; omega
        rw [ih'.mp h1]
        exact hE.mp h2
      · intro hK
        have hKab : K (qs.getD a 0) = K (qs.getD b 0) := by
          by_cases hab2 : a = b
          · rw [hab2]
          · apply Classical.byContradiction
            intro hne
            rcases lexLt_total _ _ hne with hlt | hlt
            · rw [hK] at hlt
              exact hO b (b + 1) (by omega) hb hlt
            · exact hO a b (by omega) (by omega) hlt
        have h2 : eq (qs.getD b 0) (qs.getD (b + 1) 0) = true := hE.mpr (by rw [← hKab, hK])
        rw [hst, h2, ih'.mpr hKab]
        simp

/-- on a key-sorted list with `eq` deciding key equality, labels compare like keys -/
theorem labels_lt_eq_iff (K : Nat → List Nat) (eq : Nat → Nat → Bool) (qs : List Nat) (hnd : qs.Nodup)
    (heq : ∀ p q, p ∈ qs → q ∈ qs → p ≠ q → (eq p q = true ↔ K p = K q))
    (hs : qs.Pairwise (fun p q => ¬ lexLt (K q) (K p))) (a b : Nat) (ha : a < qs.length) (hb : b < qs.length) :
    ((labels eq qs).getD a 0 < (labels eq qs).getD b 0 ↔ lexLt (K (qs.getD a 0)) (K (qs.getD b 0))) ∧
    ((labels eq qs).getD a 0 = (labels eq qs).getD b 0 ↔ K (qs.getD a 0) = K (qs.getD b 0)) := by
  have hO : ∀ i j, i < j → j < qs.length → ¬ lexLt (K (qs.getD j 0)) (K (qs.getD i 0)) :=
    fun i j hij hj => List.pairwise_getD qs i j 0 hs hij hj
  rcases Nat.lt_trichotomy a b with hab | hab | hab
  · have hE := labels_eq_iff_of_le K eq qs hnd heq hs a b (by omega) hb
    have hm := labels_mono eq qs a b (by omega) hb
    refine ⟨⟨fun hlt => ?_, fun hlt => ?_⟩, hE⟩
    · have hne : K (qs.getD a 0) ≠ K (qs.getD b 0) := fun h => by
        have := hE.mpr h; omega
      rcases lexLt_total _ _ hne with h | h
      · exact h
      · exact absurd h (hO a b hab hb)
    · have hne : (labels eq qs).getD a 0 ≠ (labels eq qs).getD b 0 := fun h => by
        have := hE.mp h
        rw [this] at hlt
        exact lexLt_irrefl _ hlt
      omega
  · subst hab
    exact ⟨⟨fun h => absurd h (Nat.lt_irrefl _), fun h => absurd h (lexLt_irrefl _)⟩, ⟨fun _ => rfl, fun _ => rfl⟩⟩
  · have hE := labels_eq_iff_of_le K eq qs hnd heq hs b a (by omega) ha
    have hm := labels_mono eq qs b a (by omega) ha
    refine ⟨⟨fun hlt => ?_, fun hlt => ?_⟩, ⟨fun h => (hE.mp h.symm).symm, fun h => (hE.mpr h.symm).symm⟩⟩
    · omega
    · exact absurd hlt (hO b a hab ha)

/-- if there are as many labels as positions, the keys are strictly increasing -/
theorem labels_all_distinct (K : Nat → List Nat) (eq : Nat → Nat → Bool) (qs : List Nat) (hnd : qs.Nodup)
    (heq : ∀ p q, p ∈ qs → q ∈ qs → p ≠ q → (eq p q = true ↔ K p = K q))
    (hs : qs.Pairwise (fun p q => ¬ lexLt (K q) (K p)))
    (hfull : qs.length ≤ (labels eq qs).getLastD 0 + 1) : qs.Pairwise (fun p q => lexLt (K p) (K q)) := by
  rw [List.pairwise_iff_getElem]
  intro i j hi hj hij
  rw [labels_getLastD eq qs] at hfull
  have h0 := labels_zero eq qs
  have h1 := labels_mono eq qs 0 i (by omega) hi
  have h2 := labels_mono eq qs j (qs.length - 1) (by omega) (by omega)
  have hsp := (labels_lt_eq_iff K eq qs hnd heq hs i j hi hj).1
  rw [List.getD_eq_getElem qs i 0 hi, List.getD_eq_getElem qs j 0 hj] at hsp
  exact hsp.mp (by omega)

end RbV.Sais
