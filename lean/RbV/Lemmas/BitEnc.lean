import RbV.Model.BitEnc
import RbV.Lemmas.BitEncBits
import RbV.Basic.GetD
/-! List-level part of the `BitEnc` refinement proof (C18 [A]): every operation of the mirror model preserves
`Abs w s l` — "state `s` represents the plain vector `l`".  Block-level facts come from `BitEncBits`. Core only. -/
namespace RbV.Lemmas.BitEnc
open RbV.Model.BitEnc RbV.Lemmas.BitEncBits
open RbV.Spec.BitEnc (Op specStep perBlock specBlocks)

theorem per_pos (w : Nat) (hw : 1 ≤ w ∧ w ≤ 8) : 0 < 32 / w :=
  Nat.div_pos (by omega) (by omega)

/-- `addr` in slot coordinates -/
theorem addr_eq (w i : Nat) (hw : 1 ≤ w ∧ w ≤ 8) :
    addr w i = (i / (32 / w), (i % (32 / w)) * w) := by
  unfold addr
  simp only [usable_eq w]
  have hw0 : 0 < w := by omega
  rw [Nat.mul_div_mul_right _ _ hw0, Nat.mul_mod_mul_right]

theorem addr_fst (w i : Nat) (hw : 1 ≤ w ∧ w ≤ 8) : (addr w i).1 = i / (32 / w) := by
  rw [addr_eq w i hw]

theorem addr_snd (w i : Nat) (hw : 1 ≤ w ∧ w ≤ 8) : (addr w i).2 = i % (32 / w) * w := by
  rw [addr_eq w i hw]

theorem addr_snd_lt (w i : Nat) (hw : 1 ≤ w ∧ w ≤ 8) : (addr w i).2 < usable w := by
  unfold addr
  exact Nat.mod_lt _ (usable_pos w hw)

theorem addr_snd_eq_zero (w i : Nat) (hw : 1 ≤ w ∧ w ≤ 8) : (addr w i).2 = 0 ↔ i % (32 / w) = 0 := by
  rw [addr_snd w i hw, Nat.mul_eq_zero]
  exact or_iff_left (by omega)

/-- value at index `i` of the packed storage -/
def getI (w : Nat) (st : List Nat) (i : Nat) : Nat := slot w (st.getD (i / (32 / w)) 0) (i % (32 / w))

/-- storage after writing index `i` -/
def setI (w : Nat) (st : List Nat) (i v : Nat) : List Nat :=
  st.set (i / (32 / w)) (rmw w (st.getD (i / (32 / w)) 0) ((i % (32 / w)) * w) v)

theorem getByAddr_addr (w : Nat) (st : List Nat) (i : Nat) (hw : 1 ≤ w ∧ w ≤ 8) :
    getByAddr w st (addr w i).1 (addr w i).2 = getI w st i := by
  rw [addr_eq w i hw]; rfl

theorem setByAddr_addr (w : Nat) (st : List Nat) (i v : Nat) (hw : 1 ≤ w ∧ w ≤ 8) :
    setByAddr w st (addr w i).1 (addr w i).2 v = setI w st i v := by
  rw [addr_eq w i hw]; rfl

theorem length_setI (w : Nat) (st : List Nat) (i v : Nat) : (setI w st i v).length = st.length := by
  simp [setI]

theorem eq_of_div_mod (p i j : Nat) (h1 : i / p = j / p) (h2 : i % p = j % p) : i = j := by
  have a := Nat.div_add_mod i p
  have b := Nat.div_add_mod j p
  rw [h1, h2] at a; omega

theorem getI_setI (w : Nat) (st : List Nat) (i j v : Nat) (hw : 1 ≤ w ∧ w ≤ 8)
    (hi : i / (32 / w) < st.length) :
    getI w (setI w st i v) j = if j = i then v % 2 ^ w else getI w st j := by
  have hp := per_pos w hw
  unfold getI setI
  by_cases hb : j / (32 / w) = i / (32 / w)
  · rw [hb, List.getD_set_self _ _ _ _ hi]
    by_cases hs : j % (32 / w) = i % (32 / w)
    · have : j = i := eq_of_div_mod _ _ _ hb hs
      simp only [this, if_true]
      exact slot_rmw_same w _ _ v (Nat.mod_lt _ hp)
    · have hne : j ≠ i := fun h => hs (by rw [h])
      simp only [hne, if_false]
      rw [slot_rmw_other w _ _ _ v (fun h => hs h.symm)]
  · have hne : j ≠ i := fun h => hb (by rw [h])
    simp only [hne, if_false]
    rw [List.getD_set_ne _ _ _ _ _ (fun h => hb h.symm)]

/-- an out-of-bounds write changes nothing (`List.set` is then the identity) -/
theorem setI_oob (w : Nat) (st : List Nat) (i v : Nat) (hi : st.length ≤ i / (32 / w)) : setI w st i v = st := by
  unfold setI; exact List.set_eq_of_length_le hi

/-- the part of the abstraction relation that does not talk about the block count -/
def AbsP (w : Nat) (s : St) (l : List Nat) : Prop :=
  s.len = l.length ∧ ∀ i, i < s.len → l[i]? = some (getI w s.storage i)

/-- `s` represents the plain vector `l` (and has exactly the specified number of blocks: `Shape` of
`Thm/GenSrcBitEncOps.lean`, by `Shape.of_abs`) -/
def Abs (w : Nat) (s : St) (l : List Nat) : Prop :=
  AbsP w s l ∧ s.storage.length = specBlocks w s.len

theorem abs_new (w : Nat) (hw : 1 ≤ w ∧ w ≤ 8) : Abs w new [] := by
  refine ⟨⟨rfl, ?_⟩, ?_⟩
  · intro i hi; simp [new] at hi
  · have hp := per_pos w hw
    simp only [new, specBlocks, perBlock, List.length_nil]
    rw [Nat.div_eq_of_lt (by omega)]

/-! ### block counts: `⌈n / p⌉` is written `(n + p - 1) / p` -/

theorem ceil_eq (p n : Nat) (hp : 0 < p) : (n + p - 1) / p = n / p + if n % p = 0 then 0 else 1 := by
  have e : n + p - 1 = p * (n / p) + (n % p + p - 1) := by have := Nat.div_add_mod n p; omega
  have hr := Nat.mod_lt n hp
  rw [e, Nat.mul_add_div hp]
  split
  · rw [Nat.div_eq_of_lt (a := n % p + p - 1) (by omega)]
  · rw [Nat.div_eq_of_lt_le (k := 1) (m := n % p + p - 1) (by omega) (by omega)]

theorem ceil_of_mod_eq_zero (p n : Nat) (hp : 0 < p) (h : n % p = 0) : (n + p - 1) / p = n / p := by
  rw [ceil_eq p n hp, if_pos h]; rfl

theorem ceil_of_mod_ne_zero (p n : Nat) (hp : 0 < p) (h : n % p ≠ 0) : (n + p - 1) / p = n / p + 1 := by
  rw [ceil_eq p n hp, if_neg h]

theorem ceil_succ (p n : Nat) (hp : 0 < p) : (n + 1 + p - 1) / p = n / p + 1 := by
  rw [show n + 1 + p - 1 = n + p by omega, Nat.add_div_right n hp]

theorem le_ceil_mul (p n : Nat) (hp : 0 < p) : n ≤ (n + p - 1) / p * p := by
  have := Nat.lt_mul_div_succ (n + p - 1) hp
  rw [Nat.mul_succ, Nat.mul_comm] at this
  omega

theorem ceil_pred_mul_lt (p n : Nat) (h : 0 < n) : ((n + p - 1) / p - 1) * p < n := by
  have := Nat.div_mul_le_self (n + p - 1) p
  rw [Nat.sub_mul, Nat.one_mul]
  omega

theorem blocks_lt (p n i : Nat) (hp : 0 < p) (h : i < n) : i / p < (n + p - 1) / p := by
  rw [Nat.div_lt_iff_lt_mul hp]
  exact Nat.lt_of_lt_of_le h (le_ceil_mul p n hp)

theorem absP_write_end (w : Nat) (st : List Nat) (len : Nat) (l : List Nat) (v : Nat) (hw : 1 ≤ w ∧ w ≤ 8)
    (h : AbsP w { storage := st, len := len } l) (hb : len / (32 / w) < st.length) :
    AbsP w { storage := setI w st len v, len := len + 1 } (l ++ [v % 2 ^ w]) := by
  obtain ⟨hl, hg⟩ := h
  simp only at hl hg
  refine ⟨by simp [hl], ?_⟩
  intro i hi
  simp only at hi ⊢
  rw [getI_setI w st len i v hw hb]
  by_cases hil : i = len
  · subst hil
    simp only [if_true]
    rw [List.getElem?_append_right (by omega)]
    simp [hl]
  · simp only [hil, if_false]
    have : i < len := by omega
    rw [List.getElem?_append_left (by omega)]
    exact hg i this

theorem getI_append_left (w : Nat) (st ext : List Nat) (i : Nat) (h : i / (32 / w) < st.length) :
    getI w (st ++ ext) i = getI w st i := by
  unfold getI
  simp [List.getD_eq_getElem?_getD, List.getElem?_append_left h]

theorem abs_push (w : Nat) (s : St) (l : List Nat) (v : Nat) (hw : 1 ≤ w ∧ w ≤ 8) (h : Abs w s l) :
    Abs w (push w s v) (l ++ [v % 2 ^ w]) := by
  obtain ⟨hP, hB⟩ := h
  have hp := per_pos w hw
  have hw0 : 0 < w := by omega
  have hsucc := ceil_succ _ s.len hp
  unfold push
  rw [addr_eq w s.len hw]
  simp only
  have hset : ∀ st, setByAddr w st (s.len / (32 / w)) (s.len % (32 / w) * w) v = setI w st s.len v := fun _ => rfl
  rw [hset]
  simp only [specBlocks, perBlock] at hB
  by_cases h0 : s.len % (32 / w) = 0
  · have hbit : s.len % (32 / w) * w = 0 := by rw [h0]; simp
    simp only [hbit, if_true]
    have e2 := ceil_of_mod_eq_zero _ s.len hp h0
    constructor
    · apply absP_write_end w (s.storage ++ [0]) s.len l v hw
      · refine ⟨hP.1, ?_⟩
        intro i hi
        simp only at hi ⊢
        rw [getI_append_left w _ _ _ (by rw [hB]; exact blocks_lt _ _ _ hp hi)]
        exact hP.2 i hi
      · simp only [List.length_append, List.length_cons, List.length_nil]; omega
    · simp only [length_setI, List.length_append, List.length_cons, List.length_nil, specBlocks, perBlock]
      omega
  · have hbit : ¬ s.len % (32 / w) * w = 0 := Nat.mul_ne_zero h0 (Nat.ne_of_gt hw0)
    simp only [hbit, if_false]
    have e2 := ceil_of_mod_ne_zero _ s.len hp h0
    constructor
    · exact absP_write_end w s.storage s.len l v hw hP (by omega)
    · simp only [length_setI, specBlocks, perBlock]; omega

theorem abs_set (w : Nat) (s : St) (l : List Nat) (i v : Nat) (hw : 1 ≤ w ∧ w ≤ 8) (h : Abs w s l) :
    Abs w (set w s i v) (l.set i (v % 2 ^ w)) := by
  obtain ⟨⟨hl, hg⟩, hB⟩ := h
  unfold Model.BitEnc.set
  rw [addr_eq w i hw]
  simp only
  have hset : setByAddr w s.storage (i / (32 / w)) (i % (32 / w) * w) v = setI w s.storage i v := rfl
  rw [hset]
  refine ⟨⟨by simp [hl], ?_⟩, by simpa [length_setI] using hB⟩
  intro j hj
  simp only at hj ⊢
  by_cases hb : i / (32 / w) < s.storage.length
  · rw [getI_setI w _ i j v hw hb]
    by_cases hji : j = i
    · subst hji
      simp only [if_true]
      rw [List.getElem?_set_self (by omega)]
    · simp only [hji, if_false]
      rw [List.getElem?_set_ne (fun h => hji h.symm)]
      exact hg j hj
  · rw [setI_oob w _ i v (by omega)]
    have hp := per_pos w hw
    simp only [specBlocks, perBlock] at hB
    have : ¬ i < s.len := by
      intro hlt
      have := blocks_lt _ _ _ hp hlt
      omega
    rw [List.getElem?_set_ne (by omega)]
    exact hg j hj

theorem get_of_abs (w : Nat) (s : St) (l : List Nat) (i : Nat) (hw : 1 ≤ w ∧ w ≤ 8) (h : Abs w s l) :
    get w s i = l[i]? := by
  obtain ⟨⟨hl, hg⟩, _⟩ := h
  unfold Model.BitEnc.get
  by_cases hi : i ≥ s.len
  · simp only [hi, if_true]
    exact (List.getElem?_eq_none (by omega)).symm
  · simp only [hi, if_false]
    have := getByAddr_addr w s.storage i hw
    rw [hg i (by omega)]
    simp only [Option.some.injEq]
    exact this

theorem toList_of_abs (w : Nat) (s : St) (l : List Nat) (hw : 1 ≤ w ∧ w ≤ 8) (h : Abs w s l) :
    toList w s = l := by
  obtain ⟨⟨hl, hg⟩, _⟩ := h
  apply List.ext_getElem?
  intro i
  unfold toList
  by_cases hi : i < s.len
  · rw [hg i hi]
    simp [hi, getByAddr_addr w s.storage i hw]
  · rw [List.getElem?_eq_none (by simp; omega), List.getElem?_eq_none (by omega)]

theorem abs_clear (w : Nat) (s : St) (hw : 1 ≤ w ∧ w ≤ 8) : Abs w (clear s) [] := abs_new w hw


/-! ### push_values is `n` pushes

Phase 1 (the fill-up loop) is a run of `push`es (`push_mid`).  Phase 2 starts on a block boundary and writes whole
`valueBlock`s and one partial block; so does a run of `push`es from there, block by block (`push_filled`). -/

theorem abs_foldl_push (w v : Nat) (hw : 1 ≤ w ∧ w ≤ 8) : ∀ (n : Nat) (s : St) (l : List Nat), Abs w s l →
    Abs w ((List.replicate n v).foldl (push w) s) (l ++ List.replicate n (v % 2 ^ w)) := by
  intro n
  induction n with
  | zero => intro s l h; simpa using h
  | succ n ih =>
    intro s l h
    have := ih _ _ (abs_push w s l v hw h)
    rwa [List.append_assoc, List.singleton_append, ← List.replicate_succ] at this

/-- every state with the specified block count represents the vector it decodes to -/
theorem abs_self (w : Nat) (s : St) (hs : s.storage.length = specBlocks w s.len) :
    Abs w s ((List.range s.len).map (getI w s.storage)) :=
  ⟨⟨by simp, fun i hi => by simp [hi]⟩, hs⟩

theorem div_mod_of_eq (p b t : Nat) (ht : t < p) : (b * p + t) / p = b ∧ (b * p + t) % p = t := by
  have hp : 0 < p := by omega
  constructor
  · rw [Nat.mul_comm, Nat.mul_add_div hp, Nat.div_eq_of_lt ht]; rfl
  · rw [Nat.mul_comm, Nat.mul_add_mod, Nat.mod_eq_of_lt ht]

theorem succ_div_mod (m p : Nat) (hp : 0 < p) :
    if m % p + 1 = p then (m + 1) / p = m / p + 1 ∧ (m + 1) % p = 0
    else (m + 1) / p = m / p ∧ (m + 1) % p = m % p + 1 := by
  have hdm := Nat.div_add_mod m p
  have hr := Nat.mod_lt m hp
  split
  · have e : m + 1 = (m / p + 1) * p + 0 := by rw [Nat.succ_mul, Nat.mul_comm]; omega
    rw [e]; exact div_mod_of_eq p (m / p + 1) 0 hp
  · have e : m + 1 = m / p * p + (m % p + 1) := by rw [Nat.mul_comm]; omega
    rw [e]; exact div_mod_of_eq p (m / p) (m % p + 1) (by omega)

theorem push_mid (w : Nat) (s : St) (v block t : Nat) (hw : 1 ≤ w ∧ w ≤ 8)
    (hlen : s.len = block * (32 / w) + t) (h0 : 0 < t) (ht : t < 32 / w) :
    push w s v = { storage := setByAddr w s.storage block (t * w) v, len := s.len + 1 } := by
  have ⟨hd, hm⟩ := div_mod_of_eq (32 / w) block t ht
  have hbit : t * w ≠ 0 := Nat.mul_ne_zero (by omega) (by omega)
  unfold push
  rw [addr_eq w s.len hw, hlen, hd, hm]
  simp only [hbit, if_false]

/-- the fill-up loop, started at slot `t > 0` of the last block, is a run of `push`es that stops when `n` is used up
or the block is full -/
theorem fill_spec (w block v : Nat) (hw : 1 ≤ w ∧ w ≤ 8) : ∀ (n t : Nat) (s : St),
    0 < t → t ≤ 32 / w → s.len = block * (32 / w) + t →
    ∃ k, k ≤ n ∧ fillLoop w block v (t * w) n s = ((List.replicate k v).foldl (push w) s, n - k) ∧
      (n - k > 0 → (s.len + k) % (32 / w) = 0) := by
  intro n
  induction n with
  | zero => intro t s _ _ _; exact ⟨0, Nat.le_refl 0, by simp [fillLoop], fun h => absurd h (Nat.lt_irrefl 0)⟩
  | succ n ih =>
    intro t s h0 ht hlen
    unfold fillLoop
    rw [usable_eq w]
    by_cases htp : t < 32 / w
    · rw [if_pos (Nat.mul_lt_mul_of_pos_right htp (by omega)), ← push_mid w s v block t hw hlen h0 htp, ← Nat.succ_mul]
      obtain ⟨k, hk, h1, h3⟩ := ih (t + 1) (push w s v) (by omega) htp
        (by rw [push_mid w s v block t hw hlen h0 htp]; simp only; omega)
      refine ⟨k + 1, by omega, by rw [h1, List.replicate_succ, List.foldl_cons, Nat.succ_sub_succ], fun h => ?_⟩
      have := h3 (by omega)
      rwa [show (push w s v).len = s.len + 1 from rfl, Nat.add_right_comm, Nat.add_assoc] at this
    · rw [if_neg (fun hc => htp (Nat.lt_of_mul_lt_mul_right hc))]
      refine ⟨0, Nat.zero_le _, rfl, fun _ => ?_⟩
      have : t = 32 / w := by omega
      rw [Nat.add_zero, hlen, this, Nat.add_mod_right, Nat.mul_mod_left]

/-- the fill-up loop moves `len + n` from the rest to the length -/
theorem fillLoop_len_add_rest (w block value : Nat) : ∀ (n b : Nat) (s : St),
    (fillLoop w block value b n s).1.len + (fillLoop w block value b n s).2 = s.len + n := by
  intro n
  induction n with
  | zero => intro b s; simp [fillLoop]
  | succ n ih =>
    intro b s
    by_cases hb : b < usable w
    · simp only [fillLoop, hb, if_true]
      have := ih (b + w) { storage := setByAddr w s.storage block b value, len := s.len + 1 }
      simp only at this
      omega
    · simp [fillLoop, hb]

/-- the first `if` of `push_values` (fills up the last storage block) -/
def phase1 (w : Nat) (s : St) (n v : Nat) : St × Nat :=
  if (addr w s.len).2 > 0 then fillLoop w (addr w s.len).1 v (addr w s.len).2 n s else (s, n)

/-- the second `if` of `push_values` (whole storage blocks, then a partial one) -/
def phase2 (w : Nat) (s1 : St) (n1 v : Nat) : St :=
  if n1 > 0 then
    let vb := valueBlock w v
    let i := s1.len + n1
    let st := resize s1.storage (addr w i).1 vb
    let st := if (addr w i).2 > 0 then st ++ [vb >>> (usable w - (addr w i).2)] else st
    { storage := st, len := i }
  else s1

theorem pushValues_eq (w : Nat) (s : St) (n v : Nat) :
    pushValues w s n v = phase2 w (phase1 w s n v).1 (phase1 w s n v).2 v := rfl

/-- phase 1 is some `k ≤ n` pushes, and ends on a block boundary unless it used up `n` -/
theorem phase1_spec (w : Nat) (s : St) (n v : Nat) (hw : 1 ≤ w ∧ w ≤ 8) :
    ∃ k, k ≤ n ∧ phase1 w s n v = ((List.replicate k v).foldl (push w) s, n - k) ∧
      (n - k > 0 → (s.len + k) % (32 / w) = 0) := by
  unfold phase1
  rw [addr_eq w s.len hw]
  simp only
  by_cases h0 : s.len % (32 / w) = 0
  · rw [h0, Nat.zero_mul, if_neg (Nat.lt_irrefl 0)]
    exact ⟨0, Nat.zero_le _, rfl, fun _ => h0⟩
  · rw [if_pos (Nat.mul_pos (by omega) (by omega))]
    exact fill_spec w _ v hw n _ s (by omega) (Nat.le_of_lt (Nat.mod_lt _ (per_pos w hw)))
      (by rw [Nat.mul_comm]; exact (Nat.div_add_mod _ _).symm)

theorem set_last (X : List Nat) (y z : Nat) : (X ++ [y]).set X.length z = X ++ [z] := by
  rw [List.set_append_right _ _ (Nat.le_refl _), Nat.sub_self]; rfl

/-- `a` whole blocks of `v`s and `r` more values after the state `s1` (which ends on a block boundary) -/
def filled (w v : Nat) (s1 : St) (a r : Nat) : St :=
  { storage := s1.storage ++ List.replicate a (valueBlock w v) ++ (if r = 0 then [] else [partBlock w v r]),
    len := s1.len + (a * (32 / w) + r) }

/-- one more `push`: the partial block gains a slot, or is complete -/
theorem push_filled (w v : Nat) (hw : 1 ≤ w ∧ w ≤ 8) (s1 : St) (hL : s1.len = s1.storage.length * (32 / w))
    (a r : Nat) (hr : r < 32 / w) :
    push w (filled w v s1 a r) v = if r + 1 = 32 / w then filled w v s1 (a + 1) 0 else filled w v s1 a (r + 1) := by
  have hlen : (filled w v s1 a r).len = (s1.storage.length + a) * (32 / w) + r := by
    simp only [filled, hL, Nat.add_mul]; omega
  obtain ⟨hd, hm⟩ := div_mod_of_eq (32 / w) (s1.storage.length + a) r hr
  have hX : (s1.storage ++ List.replicate a (valueBlock w v)).length = s1.storage.length + a := by simp
  -- after the allocation test the last block is `partBlock w v r` in both cases (a fresh block is `partBlock w v 0`)
  have hst : (if r * w = 0 then (filled w v s1 a r).storage ++ [0] else (filled w v s1 a r).storage)
      = s1.storage ++ List.replicate a (valueBlock w v) ++ [partBlock w v r] := by
    by_cases h0 : r = 0
    · subst h0; simp [filled, partBlock_zero w v hw]
    · simp [filled, h0, Nat.mul_ne_zero h0 (show w ≠ 0 by omega)]
  unfold push
  rw [addr_eq w _ hw, hlen, hd, hm]
  simp only [setByAddr]
  rw [hst, ← hX, List.getD_concat_length, set_last, rmw_partBlock w v r hw hr, hX]
  simp only [filled, hL, Nat.add_mul]
  split
  · rename_i h1
    rw [h1, partBlock_full, St.mk.injEq, List.replicate_succ']
    exact ⟨by simp, by omega⟩
  · rw [St.mk.injEq, if_neg (by omega)]
    exact ⟨rfl, by omega⟩

theorem foldl_push_filled (w v : Nat) (hw : 1 ≤ w ∧ w ≤ 8) (s1 : St) (hL : s1.len = s1.storage.length * (32 / w))
    (m : Nat) :
    (List.replicate m v).foldl (push w) (filled w v s1 0 0) = filled w v s1 (m / (32 / w)) (m % (32 / w)) := by
  have hp := per_pos w hw
  induction m with
  | zero => simp
  | succ m ih =>
    rw [List.replicate_succ', List.foldl_append, List.foldl_cons, List.foldl_nil, ih,
      push_filled w v hw s1 hL _ _ (Nat.mod_lt m hp)]
    have := succ_div_mod m (32 / w) hp
    split <;> rename_i h
    · rw [if_pos h] at this; rw [this.1, this.2]
    · rw [if_neg h] at this; rw [this.1, this.2]

theorem phase2_spec (w v : Nat) (hw : 1 ≤ w ∧ w ≤ 8) (s1 : St) (hL : s1.len = s1.storage.length * (32 / w))
    (n1 : Nat) (hn : 0 < n1) : phase2 w s1 n1 v = filled w v s1 (n1 / (32 / w)) (n1 % (32 / w)) := by
  have hp := per_pos w hw
  have hL' : s1.len = 32 / w * s1.storage.length := by rw [hL, Nat.mul_comm]
  unfold phase2 filled
  rw [if_pos hn]
  simp only
  rw [addr_eq w _ hw]
  simp only
  rw [hL', Nat.mul_add_div hp, Nat.mul_add_mod, resize, List.take_of_length_le (Nat.le_add_right _ _), Nat.add_sub_cancel_left,
    St.mk.injEq]
  refine ⟨?_, by have := Nat.div_add_mod n1 (32 / w); rw [Nat.mul_comm] at this; omega⟩
  by_cases h0 : n1 % (32 / w) = 0
  · rw [h0, Nat.zero_mul, if_neg (Nat.lt_irrefl 0), if_pos rfl, List.append_nil]
  · rw [if_pos (Nat.mul_pos (Nat.pos_of_ne_zero h0) (by omega)), if_neg h0, partBlock, usable_eq, Nat.sub_mul]

/-- **`push_values(n, v)` is `n` times `push(v)`**, on every state with the specified block count -/
theorem pushValues_eq_foldl (w : Nat) (hw : 1 ≤ w ∧ w ≤ 8) (s : St) (hs : s.storage.length = specBlocks w s.len)
    (n v : Nat) : pushValues w s n v = (List.replicate n v).foldl (push w) s := by
  obtain ⟨k, hk, h1, hz⟩ := phase1_spec w s n v hw
  -- the block count after the `k` pushes of phase 1 comes from `abs_push`
  have hA := abs_foldl_push w v hw k s _ (abs_self w s hs)
  have hl1 : ((List.replicate k v).foldl (push w) s).len = s.len + k := by rw [hA.1.1]; simp
  rw [pushValues_eq, h1, show List.replicate n v = List.replicate k v ++ List.replicate (n - k) v by
    rw [List.replicate_append_replicate]; congr 1; omega, List.foldl_append]
  simp only
  rw [← hl1] at hz
  generalize (List.replicate k v).foldl (push w) s = s1 at hA hz ⊢
  generalize n - k = n1 at hz ⊢
  by_cases hn : n1 > 0
  · have hp := per_pos w hw
    have hal := hz hn
    have hL : s1.len = s1.storage.length * (32 / w) := by
      have := Nat.div_add_mod s1.len (32 / w)
      rw [hal, Nat.add_zero, Nat.mul_comm] at this
      rw [hA.2, specBlocks, perBlock, ceil_of_mod_eq_zero _ _ hp hal]
      exact this.symm
    rw [phase2_spec w v hw s1 hL n1 hn, ← foldl_push_filled w v hw s1 hL n1]
    congr 1
    simp [filled]
  · obtain rfl : n1 = 0 := by omega
    simp [phase2]

theorem abs_pushValues (w : Nat) (s : St) (l : List Nat) (n v : Nat) (hw : 1 ≤ w ∧ w ≤ 8) (h : Abs w s l) :
    Abs w (pushValues w s n v) (l ++ List.replicate n (v % 2 ^ w)) := by
  rw [pushValues_eq_foldl w hw s h.2]
  exact abs_foldl_push w v hw n s l h

theorem abs_step (w : Nat) (s : St) (l : List Nat) (op : Op) (hw : 1 ≤ w ∧ w ≤ 8) (h : Abs w s l) :
    Abs w (step w s op) (specStep w l op) := by
  cases op with
  | push v => exact abs_push w s l v hw h
  | pushValues n v => exact abs_pushValues w s l n v hw h
  | set i v => exact abs_set w s l i v hw h
  | get i => exact h
  | iter => exact h
  | clear => exact abs_clear w s hw

theorem abs_run (w : Nat) (hw : 1 ≤ w ∧ w ≤ 8) (ops : List Op) : ∀ (s : St) (l : List Nat), Abs w s l →
    Abs w (ops.foldl (step w) s) (ops.foldl (specStep w) l) := by
  induction ops with
  | nil => intro s l h; exact h
  | cons op ops ih => intro s l h; exact ih _ _ (abs_step w s l op hw h)


/-! ### blocks stay 32-bit words (the `u32` of the Rust code never overflows into a 33rd bit in the model) -/

def Wf (st : List Nat) : Prop := ∀ x ∈ st, x < U32

theorem getD_lt (st : List Nat) (b : Nat) (h : Wf st) : st.getD b 0 < U32 := by
  rw [List.getD_eq_getElem?_getD]
  cases hb : st[b]? with
  | none => simp [U32]
  | some x => exact h x (List.mem_of_getElem? hb)

theorem wf_setByAddr (w : Nat) (st : List Nat) (block bit v : Nat) (h : Wf st) :
    Wf (setByAddr w st block bit v) := by
  intro x hx
  unfold setByAddr at hx
  rcases List.mem_or_eq_of_mem_set hx with hx | rfl
  · exact h x hx
  · exact rmw_lt w _ bit v (getD_lt st block h)

theorem wf_push (w : Nat) (s : St) (v : Nat) (h : Wf s.storage) : Wf (push w s v).storage := by
  unfold push
  simp only
  apply wf_setByAddr
  split
  · intro x hx
    rcases List.mem_append.mp hx with hx | hx
    · exact h x hx
    · simp at hx; subst hx; simp [U32]
  · exact h

theorem wf_pushValues (w : Nat) (s : St) (n v : Nat) (hw : 1 ≤ w ∧ w ≤ 8) (hs : s.storage.length = specBlocks w s.len)
    (h : Wf s.storage) : Wf (pushValues w s n v).storage := by
  rw [pushValues_eq_foldl w hw s hs]
  clear hs
  induction n generalizing s with
  | zero => exact h
  | succ n ih => exact ih _ (wf_push w s v h)

theorem wf_step (w : Nat) (s : St) (op : Op) (hw : 1 ≤ w ∧ w ≤ 8) (hs : s.storage.length = specBlocks w s.len)
    (h : Wf s.storage) : Wf (step w s op).storage := by
  cases op with
  | push v => exact wf_push w s v h
  | pushValues n v => exact wf_pushValues w s n v hw hs h
  | set i v => exact wf_setByAddr w _ _ _ _ h
  | get i => exact h
  | iter => exact h
  | clear => intro x hx; simp [step, clear] at hx

/-- `Abs` is carried along for the block count, which `wf_pushValues` needs -/
theorem wf_run (w : Nat) (hw : 1 ≤ w ∧ w ≤ 8) (ops : List Op) : ∀ (s : St) (l : List Nat), Abs w s l → Wf s.storage →
    Wf (ops.foldl (step w) s).storage := by
  induction ops with
  | nil => intro s l _ h; exact h
  | cons op ops ih => intro s l hA h; exact ih _ _ (abs_step w s l op hw hA) (wf_step w s op hw hA.2 h)

end RbV.Lemmas.BitEnc
