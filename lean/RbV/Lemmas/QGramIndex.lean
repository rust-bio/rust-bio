import RbV.Model.QGramIndex
import RbV.Lemmas.QGram
import RbV.Basic.Sorted
import RbV.Basic.GetD
/-! The q-gram index model: counting-sort correctness of `buildIndex` (`FillInv`, `fillInv_step`, `IndexTables` — the invariant and
the tables that `Thm/GenSrcQGramIndex.lean` follows the translated loops with — and `buildIndex_correct`), then from codes back to
q-grams: the slice for the code of a q-gram is `qgramPositions` (`fwdCodes_lt`, `indexModel_eq`).  Core Lean only. -/
namespace RbV.QGram

def posFrom (c : Nat) : Nat → List Nat → List Nat
  | _, [] => []
  | off, x :: l => if x = c then off :: posFrom c (off + 1) l else posFrom c (off + 1) l

/-- the positions of `c`, read off the list with its indices -/
theorem posFrom_eq (c : Nat) (l : List Nat) (off : Nat) :
    posFrom c off l = ((l.zipIdx off).filter (fun x => x.1 = c)).map (·.2) := by
  induction l generalizing off with
  | nil => rfl
  | cons y l ih =>
    rw [posFrom, ih, List.zipIdx_cons, List.filter_cons]
    by_cases h : y = c <;> simp [h]

theorem posFrom_snoc (c off : Nat) (l : List Nat) (x : Nat) :
    posFrom c off (l ++ [x]) = posFrom c off l ++ (if x = c then [off + l.length] else []) := by
  rw [posFrom_eq, posFrom_eq, List.zipIdx_append, List.filter_append, List.map_append]
  congr 1
  by_cases h : x = c <;> simp [h]

theorem length_posFrom (c off : Nat) (l : List Nat) : (posFrom c off l).length = l.count c := by
  rw [posFrom_eq, List.length_map, List.count_eq_length_filter]
  conv => rhs; rw [← List.zipIdx_map_fst off l, List.filter_map, List.length_map]
  congr 1

theorem mem_posFrom (c off : Nat) (l : List Nat) (i : Nat) :
    i ∈ posFrom c off l ↔ off ≤ i ∧ l[i - off]? = some c := by
  rw [posFrom_eq, ← List.mk_mem_zipIdx_iff_le_and_getElem?_sub]
  simp only [List.mem_map, List.mem_filter, decide_eq_true_eq]
  exact ⟨fun ⟨⟨x, j⟩, ⟨h, hx⟩, hj⟩ => by simp only at hx hj; rw [← hx, ← hj]; exact h, fun h => ⟨(c, i), ⟨h, rfl⟩, rfl⟩⟩

theorem posFrom_sorted (c off : Nat) (l : List Nat) : (posFrom c off l).Pairwise (· < ·) := by
  rw [posFrom_eq, List.pairwise_map]
  refine List.Pairwise.filter _ ?_
  rw [← List.pairwise_map (f := Prod.snd) (R := (· < ·)), List.zipIdx_map_snd]
  exact List.pairwise_lt_range'

theorem length_bump1 (l : List Nat) (i : Nat) : (bump1 l i).length = l.length := by simp [bump1]

theorem length_foldl_bump1 (codes T : List Nat) : (codes.foldl bump1 T).length = T.length := by
  induction codes generalizing T with
  | nil => rfl
  | cons c codes ih => simp only [List.foldl_cons]; rw [ih, length_bump1]

theorem getD_foldl_bump1 (codes T : List Nat) (hc : ∀ c ∈ codes, c < T.length) (j : Nat) :
    (codes.foldl bump1 T).getD j 0 = T.getD j 0 + codes.count j := by
  induction codes generalizing T with
  | nil => simp
  | cons c codes ih =>
    simp only [List.foldl_cons]
    rw [ih (bump1 T c) (by intro x hx; rw [length_bump1]; exact hc x (by simp [hx]))]
    have hcl : c < T.length := hc c (by simp)
    unfold bump1
    rw [List.getD_set, List.count_cons]
    by_cases h : c = j
    · subst h; simp [hcl]; omega
    · have : (c == j) = false := by simpa using h
      simp [h, this]

theorem getD_bump1_le (l : List Nat) (i j : Nat) : (bump1 l i).getD j 0 ≤ l.getD j 0 + 1 := by
  unfold bump1; rw [List.getD_set]; split
  · rename_i h; rw [h.1]; omega
  · omega

theorem sum_set (l : List Nat) (i v : Nat) (h : i < l.length) : (l.set i v).sum + l.getD i 0 = l.sum + v := by
  induction l generalizing i with
  | nil => simp at h
  | cons a t ih =>
    cases i with
    | zero => simp; omega
    | succ i =>
      simp only [List.length_cons] at h
      have := ih i (by omega)
      simp only [List.set_cons_succ, List.sum_cons, List.getD_cons_succ]
      omega

theorem sum_bump1 (l : List Nat) (i : Nat) (h : i < l.length) : (bump1 l i).sum = l.sum + 1 := by
  have := sum_set l i (l.getD i 0 + 1) h
  unfold bump1; omega

theorem sum_foldl_bump1 (codes : List Nat) : ∀ (T : List Nat), (∀ c ∈ codes, c < T.length) →
    (codes.foldl bump1 T).sum = T.sum + codes.length := by
  induction codes with
  | nil => intro T _; simp
  | cons c codes ih =>
    intro T h
    simp only [List.foldl_cons, List.length_cons]
    rw [ih (bump1 T c) (by intro x hx; rw [length_bump1]; exact h x (List.mem_cons_of_mem _ hx)),
      sum_bump1 T c (h c List.mem_cons_self)]
    omega

theorem sum_map_mask_le (mc : Nat) (l : List Nat) : (l.map (fun a => if a > mc then 0 else a)).sum ≤ l.sum := by
  induction l with
  | nil => simp
  | cons a t ih => simp only [List.map_cons, List.sum_cons]; split <;> omega

theorem sum_replicate_zero (n : Nat) : (List.replicate n 0).sum = 0 := by
  induction n with
  | zero => rfl
  | succ n ih => simp [List.replicate_succ, ih]

theorem length_prescan (s : Nat) (l : List Nat) : (prescan s l).length = l.length := by
  induction l generalizing s with
  | nil => rfl
  | cons v t ih => simp [prescan, ih]

theorem getD_prescan (s : Nat) (l : List Nat) (j : Nat) (hj : j < l.length) :
    (prescan s l).getD j 0 = s + (l.take j).sum := by
  induction l generalizing s j with
  | nil => simp at hj
  | cons v t ih =>
    cases j with
    | zero => simp [prescan]
    | succ j =>
      simp only [prescan, List.getD_eq_getElem?_getD, List.getElem?_cons_succ, List.take_succ_cons, List.sum_cons]
      have := ih (s + v) j (by simpa using hj)
      simp only [List.getD_eq_getElem?_getD] at this
      rw [this]; omega

theorem sum_take_succ (l : List Nat) (c : Nat) : (l.take (c + 1)).sum = (l.take c).sum + l.getD c 0 := by
  induction l generalizing c with
  | nil => simp
  | cons v t ih =>
    cases c with
    | zero => simp
    | succ c =>
      simp only [List.take_succ_cons, List.sum_cons, ih c]
      simp only [List.getD_eq_getElem?_getD, List.getElem?_cons_succ]
      omega

theorem sum_take_mono (l : List Nat) {c c' : Nat} (h : c ≤ c') : (l.take c).sum ≤ (l.take c').sum := by
  induction h with
  | refl => exact Nat.le_refl _
  | step _ ih => rw [sum_take_succ]; omega

theorem sum_take_le (l : List Nat) (k : Nat) : (l.take k).sum ≤ l.sum := by
  have := sum_take_mono l (Nat.le_add_right k l.length)
  rwa [List.take_of_length_le (Nat.le_add_left _ _)] at this

theorem take_drop_set_outside (l : List Nat) (a n j v : Nat) (h : j < a ∨ a + n ≤ j) :
    ((l.set j v).drop a).take n = (l.drop a).take n := by
  apply List.ext_getElem?
  intro i
  simp only [List.getElem?_take, List.getElem?_drop, List.getElem?_set]
  split
  · rw [if_neg (by omega)]
  · rfl

theorem take_drop_set_end (l : List Nat) (a n v : Nat) (h : a + n < l.length) :
    ((l.set (a + n) v).drop a).take (n + 1) = (l.drop a).take n ++ [v] := by
  rw [List.take_succ_eq_append_getElem (by rw [List.length_drop, List.length_set]; omega),
    take_drop_set_outside l a n (a + n) v (Or.inr (Nat.le_refl _)), List.getElem_drop, List.getElem_set_self]

/-- invariant of the loop after the codes `P` have been processed: the block of every unmasked code `c` starts at the prefix
sum of `m`, and its first `offset[c]` slots hold the positions of `c` in `P` -/
def FillInv (m : List Nat) (size : Nat) (P : List Nat) (st : List Nat × List Nat) : Prop :=
  st.1.length = (m.take size).sum ∧ st.2.length = size ∧
  ∀ c, c < size → m.getD c 0 ≠ 0 →
    st.2.getD c 0 = (posFrom c 0 P).length ∧ (st.1.drop (m.take c).sum).take (st.2.getD c 0) = posFrom c 0 P

theorem fillInv_step (m : List Nat) (size : Nat) (address codes : List Nat)
    (haddr : ∀ c, c ≤ size → address.getD c 0 = (m.take c).sum)
    (hmc : ∀ c, c < size → m.getD c 0 = 0 ∨ m.getD c 0 = codes.count c)
    (P : List Nat) (x : Nat) (rest : List Nat) (hsplit : codes = P ++ x :: rest) (hx : x < size)
    (st : List Nat × List Nat) (hinv : FillInv m size P st) :
    FillInv m size (P ++ [x]) (fillStep address st P.length x) := by
  obtain ⟨hl1, hl2, hinv⟩ := hinv
  have hdiff : address.getD (x + 1) 0 - address.getD x 0 = m.getD x 0 := by
    rw [haddr (x + 1) (by omega), haddr x (by omega), sum_take_succ]; omega
  unfold fillStep
  simp only [hdiff]
  by_cases hm0 : m.getD x 0 = 0
  · -- masked (or absent) q-gram: nothing happens
    simp only [hm0, bne_self_eq_false, Bool.false_eq_true, if_false]
    refine ⟨hl1, hl2, fun c hc hmc0 => ?_⟩
    have hcx : ¬ x = c := by intro h; rw [h] at hm0; exact hmc0 hm0
    rw [posFrom_snoc, if_neg hcx, List.append_nil]
    exact hinv c hc hmc0
  · have hne : (m.getD x 0 != 0) = true := by simpa using hm0
    simp only [hne, if_true]
    -- the block of an unmasked code `c` has `count c` slots and ends inside `pos`; `x` itself still has a free slot
    have hblock : ∀ c, c < size → m.getD c 0 ≠ 0 →
        (posFrom c 0 P).length + (if x = c then 1 else 0) ≤ m.getD c 0 ∧
        (m.take c).sum + m.getD c 0 ≤ (m.take size).sum := by
      intro c hc hmc0
      refine ⟨?_, ?_⟩
      · rw [(hmc c hc).resolve_left hmc0, length_posFrom, hsplit, List.count_append, List.count_cons]
        split <;> simp [*]
      · rw [← sum_take_succ]; exact sum_take_mono m hc
    obtain ⟨hoffx, hposx⟩ := hinv x hx hm0
    have hbx := hblock x hx hm0
    rw [if_pos rfl] at hbx
    rw [haddr x (by omega), hoffx]
    refine ⟨by simp [hl1], by simp [hl2], fun c hc hmc0 => ?_⟩
    rw [List.getD_set, hl2, posFrom_snoc]
    by_cases hcx : x = c
    · subst hcx
      rw [if_pos ⟨rfl, hx⟩, if_pos rfl, List.length_append, List.length_singleton,
        take_drop_set_end _ _ _ _ (by omega), ← hoffx, hposx, Nat.zero_add]
      exact ⟨rfl, rfl⟩
    · obtain ⟨hoffc, hposc⟩ := hinv c hc hmc0
      have hbc := hblock c hc hmc0
      rw [if_neg hcx] at hbc
      rw [if_neg (fun h => hcx h.1), if_neg hcx, List.append_nil, take_drop_set_outside _ _ _ _ _ ?_]
      · exact ⟨hoffc, hposc⟩
      · -- blocks of different codes do not overlap
        rw [hoffc]
        rcases Nat.lt_or_gt_of_ne hcx with h | h
        · have := sum_take_mono m (show x + 1 ≤ c by omega); rw [sum_take_succ] at this; omega
        · have := sum_take_mono m (show c + 1 ≤ x by omega); rw [sum_take_succ] at this; omega

theorem fillInv_fill (m : List Nat) (size : Nat) (address codes : List Nat)
    (haddr : ∀ c, c ≤ size → address.getD c 0 = (m.take c).sum)
    (hmc : ∀ c, c < size → m.getD c 0 = 0 ∨ m.getD c 0 = codes.count c)
    (hcodes : ∀ c ∈ codes, c < size) :
    ∀ (rest P : List Nat) (st : List Nat × List Nat), codes = P ++ rest → FillInv m size P st →
      FillInv m size codes (fill address P.length rest st) := by
  intro rest
  induction rest with
  | nil => intro P st hs h; simp only [fill]; rw [hs]; simpa using h
  | cons x rest ih =>
    intro P st hs hinv
    simp only [fill]
    have hx : x < size := hcodes x (by rw [hs]; simp)
    have := ih (P ++ [x]) (fillStep address st P.length x) (by rw [hs]; simp)
      (fillInv_step m size address codes haddr hmc P x rest hs hx st hinv)
    simpa using this

/-- what the first three steps of `buildIndex` leave behind: the masked count table `m` (`m[c]` = the number of
occurrences of `c`, or 0 when there are more than `mc`), `address` = its prefix sums, and the invariant of the fill loop
before its first iteration -/
structure IndexTables (size mc : Nat) (codes m address : List Nat) : Prop where
  masked : ∀ j, j < size + 1 → m.getD j 0 = if codes.count j > mc then 0 else codes.count j
  prefixSum : ∀ j, j ≤ size → address.getD j 0 = (m.take j).sum
  zero_or_count : ∀ j, j < size → m.getD j 0 = 0 ∨ m.getD j 0 = codes.count j
  address_length : address.length = size + 1
  fill_init : FillInv m size [] (List.replicate (address.getLastD 0) 0, List.replicate size 0)

theorem indexTables (size mc : Nat) (codes : List Nat) (hcodes : ∀ c ∈ codes, c < size) :
    IndexTables size mc codes ((codes.foldl bump1 (List.replicate (size + 1) 0)).map (fun a => if a > mc then 0 else a))
      (prescan 0 ((codes.foldl bump1 (List.replicate (size + 1) 0)).map (fun a => if a > mc then 0 else a))) := by
  generalize hcn : codes.foldl bump1 (List.replicate (size + 1) 0) = counts
  generalize hmn : counts.map (fun a => if a > mc then 0 else a) = m
  have hcl : counts.length = size + 1 := by rw [← hcn, length_foldl_bump1, List.length_replicate]
  have hml : m.length = size + 1 := by rw [← hmn, List.length_map, hcl]
  have hcounts : ∀ j, counts.getD j 0 = codes.count j := by
    intro j
    have := getD_foldl_bump1 codes (List.replicate (size + 1) 0)
      (by intro x hx; have := hcodes x hx; rw [List.length_replicate]; omega) j
    rw [List.getD_replicate, ite_self, hcn] at this
    rw [this, Nat.zero_add]
  have hm : ∀ j, j < size + 1 → m.getD j 0 = if codes.count j > mc then 0 else codes.count j := by
    intro j hj
    rw [← hcounts j, ← hmn, List.getD_eq_getElem?_getD, List.getD_eq_getElem?_getD, List.getElem?_map,
      List.getElem?_eq_getElem (by omega)]
    rfl
  have haddr : ∀ j, j ≤ size → (prescan 0 m).getD j 0 = (m.take j).sum := by
    intro j hj
    rw [getD_prescan 0 m j (by omega), Nat.zero_add]
  have hal : (prescan 0 m).length = size + 1 := by rw [length_prescan, hml]
  refine ⟨hm, haddr, fun j hj => ?_, hal, ?_, List.length_replicate, fun j _ _ => ?_⟩
  · rw [hm j (by omega)]; split
    · exact Or.inl rfl
    · exact Or.inr rfl
  · show (List.replicate ((prescan 0 m).getLastD 0) 0).length = _
    rw [List.length_replicate, List.getLastD_eq_getD, hal, Nat.add_sub_cancel, haddr size (Nat.le_refl _)]
  · rw [List.getD_replicate, ite_self]
    exact ⟨rfl, rfl⟩

/-- the invariant of the fill loop after its last iteration, from the tables `buildIndex` builds before it -/
theorem IndexTables.fill {size mc : Nat} {codes m address : List Nat} (T : IndexTables size mc codes m address)
    (hcodes : ∀ c ∈ codes, c < size) :
    FillInv m size codes (fill address 0 codes (List.replicate (address.getLastD 0) 0, List.replicate size 0)) :=
  fillInv_fill m size address codes T.prefixSum T.zero_or_count hcodes codes [] _ (List.nil_append _).symm T.fill_init

/-- **counting-sort correctness**: when every code is below the table size, the slice reported for a code is the
ascending list of its positions — or nothing when it occurs more than `mc` times -/
theorem buildIndex_correct (size mc : Nat) (codes : List Nat) (hcodes : ∀ c ∈ codes, c < size) (c : Nat)
    (hc : c < size) :
    qgramMatchesModel (buildIndex size mc codes) c = if codes.count c > mc then [] else posFrom c 0 codes := by
  have T := indexTables size mc codes hcodes
  unfold qgramMatchesModel buildIndex
  dsimp only
  generalize (codes.foldl bump1 (List.replicate (size + 1) 0)).map (fun a => if a > mc then 0 else a) = m at T
  generalize prescan 0 m = address at T
  obtain ⟨-, -, hfin⟩ := T.fill hcodes
  have hm := T.masked c (by omega)
  rw [T.prefixSum (c + 1) (by omega), T.prefixSum c (by omega), sum_take_succ, Nat.add_sub_cancel_left]
  by_cases hmasked : codes.count c > mc
  · rw [if_pos hmasked] at hm
    rw [hm, List.take_zero, if_pos hmasked]
  · rw [if_neg hmasked] at hm ⊢
    by_cases h0 : m.getD c 0 = 0
    · rw [h0, List.take_zero]
      exact (List.eq_nil_of_length_eq_zero (by rw [length_posFrom, ← hm, h0])).symm
    · obtain ⟨hoff, hpos⟩ := hfin c hc h0
      rw [← hpos, hoff, length_posFrom, hm]

/-- the tables of the model: `address` has `size + 1` slots, is monotone, and its last value is the length of `pos` -/
theorem buildIndex_bounds (size mc : Nat) (codes : List Nat) (hcodes : ∀ c ∈ codes, c < size) (c : Nat) (hc : c < size) :
    (buildIndex size mc codes).1.length = size + 1 ∧
    (buildIndex size mc codes).1.getD c 0 ≤ (buildIndex size mc codes).1.getD (c + 1) 0 ∧
    (buildIndex size mc codes).1.getD (c + 1) 0 ≤ (buildIndex size mc codes).2.length := by
  have T := indexTables size mc codes hcodes
  unfold buildIndex
  dsimp only
  generalize (codes.foldl bump1 (List.replicate (size + 1) 0)).map (fun a => if a > mc then 0 else a) = m at T
  generalize prescan 0 m = address at T
  obtain ⟨hl1, -, -⟩ := T.fill hcodes
  refine ⟨T.address_length, ?_, ?_⟩
  · rw [T.prefixSum c (by omega), T.prefixSum (c + 1) (by omega)]
    exact sum_take_mono m (by omega)
  · rw [hl1, T.prefixSum (c + 1) (by omega)]
    exact sum_take_mono m (by omega)

theorem getElem?_fwdCodes (alpha : List Nat) (q : Nat) (text : List Nat) (i : Nat) :
    (fwdCodes alpha q text)[i]? =
      if i < text.length + 1 - q then some (code (bitsFor alpha.length) ((window q text i).map (rank alpha))) else none := by
  simp only [fwdCodes, windows, List.getElem?_map, List.length_map]
  by_cases h : i < text.length + 1 - q
  · rw [List.getElem?_range h]; simp [h, window, List.map_take, List.map_drop]
  · rw [if_neg h, List.getElem?_eq_none (by simp; omega)]; rfl

theorem posFrom_fwdCodes (alpha : List Nat) (q : Nat) (text gram : List Nat)
    (ht : ∀ c ∈ text, c ∈ alpha) (hg : ∀ c ∈ gram, c ∈ alpha) (hgl : gram.length = q) :
    posFrom (code (bitsFor alpha.length) (gram.map (rank alpha))) 0 (fwdCodes alpha q text) = occurrences gram text := by
  apply sorted_eq_of_mem_iff _ _ (posFrom_sorted _ _ _) (occurrences_sorted _ _)
  intro i
  rw [mem_posFrom, mem_occurrences, Nat.sub_zero, getElem?_fwdCodes]
  unfold OccursAt
  rw [hgl]
  constructor
  · rintro ⟨_, h⟩
    split at h
    · rename_i hi
      have hi' : i + q ≤ text.length := by omega
      simp only [Option.some.injEq] at h
      refine ⟨hi', ?_⟩
      exact code_rank_injective alpha (window q text i) gram
        (fun c hc => ht c (List.mem_of_mem_drop (List.mem_of_mem_take hc))) hg
        (by rw [window_length hi', hgl]) h
    · cases h
  · rintro ⟨hi, hw⟩
    refine ⟨Nat.zero_le _, ?_⟩
    rw [if_pos (by omega)]
    unfold window
    rw [hw]

theorem code_rank_lt (alpha w : List Nat) (hw : ∀ c ∈ w, c ∈ alpha) :
    code (bitsFor alpha.length) (w.map (rank alpha)) < 2 ^ (bitsFor alpha.length * w.length) := by
  have := code_lt (bitsFor alpha.length) (w.map (rank alpha)) (by
    intro r hr
    rcases List.mem_map.mp hr with ⟨c, hc, rfl⟩
    exact rank_lt_two_pow (hw c hc))
  rwa [List.length_map] at this

/-- every reference code of a text over the alphabet is below the table size `2^(bits·q)` -/
theorem fwdCodes_lt (alpha : List Nat) (q : Nat) (text : List Nat) (ht : ∀ c ∈ text, c ∈ alpha) :
    ∀ c ∈ fwdCodes alpha q text, c < 2 ^ (bitsFor alpha.length * q) := by
  intro c hc
  obtain ⟨i, hi⟩ := List.getElem?_of_mem hc
  rw [getElem?_fwdCodes] at hi
  split at hi
  · rename_i hlt
    have hi' : i + q ≤ text.length := by omega
    have := code_rank_lt alpha (window q text i) (fun c hc => ht c (List.mem_of_mem_drop (List.mem_of_mem_take hc)))
    rw [window_length hi'] at this
    exact Option.some.inj hi ▸ this
  · cases hi

theorem fwdCodes_length_le (alpha : List Nat) (q : Nat) (text : List Nat) :
    (fwdCodes alpha q text).length ≤ text.length + 1 := by
  simp [fwdCodes, windows]

/-- **the index model answers `qgram_matches` exactly**: built over the codes of the text with `2^(bits·q)` (+1)
address slots, the slice for the code of a q-gram is `qgramPositions` of that q-gram -/
theorem indexModel_eq (alpha : List Nat) (q mc : Nat) (text gram : List Nat)
    (ht : ∀ c ∈ text, c ∈ alpha) (hg : ∀ c ∈ gram, c ∈ alpha) (hgl : gram.length = q) :
    qgramMatchesModel (buildIndex (2 ^ (bitsFor alpha.length * q)) mc (fwdCodes alpha q text))
        (code (bitsFor alpha.length) (gram.map (rank alpha))) = qgramPositions mc gram text := by
  rw [buildIndex_correct _ mc _ (fwdCodes_lt alpha q text ht) _ (hgl ▸ code_rank_lt alpha gram hg),
    ← length_posFrom _ 0, posFrom_fwdCodes alpha q text gram ht hg hgl]
  rfl

end RbV.QGram
