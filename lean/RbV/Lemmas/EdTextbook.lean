import RbV.Ref.EditDist
/-!
The three-way minimum used as the definition of `ed` agrees with the usual textbook presentation, in which a pair
of matching symbols is simply skipped (C09).  Core Lean only.
-/
namespace RbV.EditDist

theorem ed_le_cons_text (w : Nat → Nat → Nat) : ∀ (p s : List Nat) (c : Nat), ed w p s ≤ 1 + ed w p (c :: s) := by
  intro p
  induction p with
  | nil => intro s c; rw [ed_nil_cons]; omega
  | cons a p ih =>
    intro s c
    have h1 := ed_cons_pat_le w a p s
    have h2 := ih s c
    rw [ed_cons_cons]
    omega

theorem ed_le_cons_pat (w : Nat → Nat → Nat) (a : Nat) (p : List Nat) : ∀ (s : List Nat), ed w p s ≤ 1 + ed w (a :: p) s := by
  intro s
  induction s with
  | nil => rw [ed_cons_nil]; omega
  | cons b s ih =>
    have h1 := ed_cons_text_le w b p s
    rw [ed_cons_cons]
    omega

/-- textbook form: a zero-cost pair (equal / equivalent symbols) is skipped … -/
theorem ed_match (w : Nat → Nat → Nat) (a b : Nat) (p s : List Nat) (h : w a b = 0) :
    ed w (a :: p) (b :: s) = ed w p s := by
  have h1 := ed_le_cons_text w p s b
  have h2 := ed_le_cons_pat w a p s
  rw [ed_cons_cons, h]
  omega

/-- … and otherwise one of substitution, insertion, deletion is paid -/
theorem ed_mismatch (w : Nat → Nat → Nat) (a b : Nat) (p s : List Nat) (h : w a b = 1) :
    ed w (a :: p) (b :: s) = 1 + min (ed w p s) (min (ed w p (b :: s)) (ed w (a :: p) s)) := by
  rw [ed_cons_cons, h]
  omega

end RbV.EditDist
