import RbV.Lemmas.PoaModes
import RbV.Lemmas.PoaBound
/-!
# Node growth ≤ |query| for every mode of the model

The tables of `custom` / `global_banded` are `Local`, hence `ColsOK` (`PoaBound`: the traceback emits at most `j` query-consuming
operations from column `j`); with `addAlignment_grows` each step of a history adds at most `|query|` nodes.
-/
namespace RbV.Poa.Model
open RbV.NW

/-! ## the tables of `global_banded` and `custom` satisfy `ColsOK`: they are `Local` -/

theorem bandedTable_colsOK (sc : Sc) (xclip yclip : Int) (labels : List Nat) (es : WEdges) (query : List Nat) (bw : Nat) :
    ColsOK (fun i j => ((bandedTable sc xclip yclip labels es query bw).cell i j).op) :=
  (bandedTable_local sc xclip yclip labels es query bw 0).colsOK

theorem customTable_colsOK (sc : Sc) (xp xs yp ys : Int) (labels : List Nat) (es : WEdges) (query : List Nat) :
    ColsOK (fun i j => ((customTable sc xp xs yp ys labels es query).cell i j).op) :=
  (customTable_local sc xp xs yp ys labels es query).colsOK

/-- the operation list of a table with `ColsOK` consumes at most its `n` query symbols -/
theorem BTable.ops_consuming (t : BTable) (m : Nat) (h : ColsOK (fun i j => (t.cell i j).op)) : consuming (t.ops m) ≤ t.n := by
  have := traceF_consuming _ h ((m + 3) * (t.n + 3)) (t.last + 1) t.n []
  simpa [consuming, BTable.ops] using this

/-- **node growth ≤ |query|** for every mode, every graph (acyclic or not), every scoring and clip penalties -/
theorem stepAdd_node_growth (sc : Sc) (cl : Clips) (g : G) (mode : Mode) (q : List Nat) :
    (stepAdd sc cl g mode q).labels.length ≤ g.labels.length + q.length := by
  have hgrow := (addAlignment_grows g (stepOps sc cl g mode q) q).2
  have hcons : consuming (stepOps sc cl g mode q) ≤ q.length := by
    -- the projections `.2`, `.n` of the tables are taken by name: left to `exact`, the unifier unfolds the whole table
    have hc : ∀ xp xs yp ys, consuming (customAlign sc xp xs yp ys g.labels g.es q).2 ≤ q.length := by
      intro xp xs yp ys
      have := (customTable sc xp xs yp ys g.labels g.es q).ops_consuming g.labels.length
        (customTable_colsOK sc xp xs yp ys g.labels g.es q)
      have hn : (customTable sc xp xs yp ys g.labels g.es q).n = q.length := rfl
      rw [hn] at this
      simp only [customAlign]
      exact this
    cases mode with
    | global => exact hc _ _ _ _
    | semiglobal => exact hc _ _ _ _
    | «local» => exact hc _ _ _ _
    | custom => exact hc _ _ _ _
    | banded bw =>
      have := (bandedTable sc cl.xp cl.yp g.labels g.es q bw).ops_consuming g.labels.length
        (bandedTable_colsOK sc cl.xp cl.yp g.labels g.es q bw)
      have hn : (bandedTable sc cl.xp cl.yp g.labels g.es q bw).n = q.length := rfl
      rw [hn] at this
      simp only [stepOps]
      exact this
  unfold stepAdd
  omega

theorem historyM_node_count (x : List Nat) (steps : List HStep) :
    (historyM x steps).labels.length ≤ x.length + (steps.map fun s => s.2.2.2.length).sum := by
  unfold historyM
  have key : ∀ (steps : List HStep) (g : G),
      (steps.foldl (fun g s => stepAdd s.1 s.2.1 g s.2.2.1 s.2.2.2) g).labels.length ≤
        g.labels.length + (steps.map fun s => s.2.2.2.length).sum := by
    intro steps
    induction steps with
    | nil => intro g; simp
    | cons s r ih =>
      intro g
      have h1 := ih (stepAdd s.1 s.2.1 g s.2.2.1 s.2.2.2)
      have h2 := stepAdd_node_growth s.1 s.2.1 g s.2.2.1 s.2.2.2
      simp only [List.foldl_cons, List.map_cons, List.sum_cons]
      omega
  exact key steps (chainG x)

end RbV.Poa.Model
