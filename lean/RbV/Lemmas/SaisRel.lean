import RbV.Lemmas.SaisKeys
/-
The relation axioms (`IndRel`, `StepL`, `StepS`) for the orders of `SaisKeys`: the suffix order `sufR`, the order
`leKey` of the typed LMS substrings, and its L-pass variant `leKeyL`.
-/
namespace RbV.Sais

/-! ### suffix order -/

theorem suf_LS_aux (t : List Nat) (hv : Valid t) :
    ∀ k x y, t.length - x ≤ k → x < t.length → y < t.length → sym t x = sym t y →
      isS (tyOf t) x = false → isS (tyOf t) y = true → lexLt (t.drop x) (t.drop y) := by
  intro k
  induction k with
  | zero => intro x y hk hx; omega
  | succ k ih =>
    intro x y hk hx hy he hL hS
    have hx1 : x + 1 < t.length := lt_of_isL hv x hx hL
    have hy1 : y + 1 < t.length := by
      apply Classical.byContradiction
      intro hc
      have hyl : y = t.length - 1 := by omega
      have := sym_ne_last hv x hx1
      rw [← hyl] at this
      exact this he
    have h1 : sym t (x + 1) ≤ sym t x := sym_ge_of_isL x hx1 hL
    have h2 : sym t y ≤ sym t (y + 1) := sym_le_of_isS y hy1 hS
    rw [drop_sym t x hx, drop_sym t y hy, lexLt_cons]
    right
    refine ⟨he, ?_⟩
    by_cases hlt : sym t (x + 1) < sym t (y + 1)
    · rw [drop_sym t (x + 1) hx1, drop_sym t (y + 1) hy1, lexLt_cons]
      left; exact hlt
    · have ex : sym t x = sym t (x + 1) := by omega
      have ey : sym t y = sym t (y + 1) := by omega
      have hL' : isS (tyOf t) (x + 1) = false := by rw [← isS_of_eq x hx1 ex]; exact hL
      have hS' : isS (tyOf t) (y + 1) = true := by rw [← isS_of_eq y hy1 ey]; exact hS
      exact ih (x + 1) (y + 1) (by omega) hx1 hy1 (by omega) hL' hS'

theorem indRel_suf (t : List Nat) (hv : Valid t) : IndRel t (sufR t) := by
  refine ⟨?_, ?_⟩
  · intro x y hx hy h
    unfold sufR
    rw [drop_sym t x hx, drop_sym t y hy, lexLt_cons]
    left; exact h
  · intro x y hx hy he hL hS
    exact suf_LS_aux t hv (t.length - x) x y (Nat.le_refl _) hx hy he hL hS

theorem stepL_suf (t : List Nat) : StepL t (sufR t) := by
  intro x y hx hy he _ _ h
  unfold sufR at h ⊢
  rw [drop_sym t x hx, drop_sym t y hy, lexLt_cons]
  right; exact ⟨he, h⟩

theorem stepS_suf (t : List Nat) : StepS t (sufR t) := by
  intro x y hx hy he _ _ h
  unfold sufR at h ⊢
  rw [drop_sym t x (by omega), drop_sym t y (by omega), lexLt_cons]
  right; exact ⟨he, h⟩

/-! ### typed symbols -/

theorem enc_lt_iff (t : List Nat) (x y : Nat) :
    enc t x < enc t y ↔
      sym t x < sym t y ∨ (sym t x = sym t y ∧ isS (tyOf t) x = false ∧ isS (tyOf t) y = true) := by
  unfold enc
  cases isS (tyOf t) x <;> cases isS (tyOf t) y <;> simp <;> omega

theorem enc_eq_iff (t : List Nat) (x y : Nat) :
    enc t x = enc t y ↔ sym t x = sym t y ∧ isS (tyOf t) x = isS (tyOf t) y := by
  unfold enc
  cases isS (tyOf t) x <;> cases isS (tyOf t) y <;> simp <;> omega

/-! ### typed LMS substrings -/

theorem key_succ (t : List Nat) (x : Nat) (hx : x + 1 < t.length) (hn : isLms (tyOf t) (x + 1) = false) :
    key t x = enc t x :: key t (x + 1) := by
  unfold key
  rw [zs_drop t (x + 1) hx, hn]
  simp [takeLms]

theorem key_succ_lms (t : List Nat) (x : Nat) (hx : x + 1 < t.length) (hl : isLms (tyOf t) (x + 1) = true) :
    key t x = [enc t x, enc t (x + 1)] := by
  unfold key
  rw [zs_drop t (x + 1) hx, hl]
  simp [takeLms]

theorem key_cons (t : List Nat) (x : Nat) (hx : x + 1 < t.length) :
    key t x = enc t x :: (if isLms (tyOf t) (x + 1) = true then [enc t (x + 1)] else key t (x + 1)) := by
  cases hl : isLms (tyOf t) (x + 1)
  · rw [key_succ t x hx hl, if_neg (by simp)]
  · rw [key_succ_lms t x hx hl, if_pos rfl]

theorem keyL_of_L (t : List Nat) (x : Nat) (h : isS (tyOf t) x = false) : keyL t x = key t x := by
  unfold keyL
  rw [not_isLms_of_L h]
  simp

theorem indRel_of_head (t : List Nat) (K : Nat → List Nat) (hK : ∀ x, ∃ r, K x = enc t x :: r) :
    IndRel t (fun x y => ¬ lexLt (K y) (K x)) := by
  refine ⟨fun x y _ _ h => ?_, fun x y _ _ he hL hS => ?_⟩ <;>
    (obtain ⟨rx, ex⟩ := hK x; obtain ⟨ry, ey⟩ := hK y; rw [ex, ey])
  · exact not_lexLt_of_head_lt _ _ _ _ ((enc_lt_iff t x y).mpr (Or.inl h))
  · exact not_lexLt_of_head_lt _ _ _ _ ((enc_lt_iff t x y).mpr (Or.inr ⟨he, hL, hS⟩))

theorem indRel_key (t : List Nat) : IndRel t (leKey t) := indRel_of_head t (key t) (key_head t)

theorem indRel_keyL (t : List Nat) : IndRel t (leKeyL t) := indRel_of_head t (keyL t) (keyL_head t)

theorem stepS_key (t : List Nat) : StepS t (leKey t) := by
  intro x y hx hy he hSx hSy h
  unfold leKey at h ⊢
  rw [key_succ t x hx (not_isLms_succ_of_S hSx), key_succ t y hy (not_isLms_succ_of_S hSy),
    (enc_eq_iff t x y).mpr ⟨he, by rw [hSx, hSy]⟩]
  exact not_lexLt_cons_of_tail _ _ _ h

/-! ### the L-pass variant -/

theorem keyL_succ_of_L (t : List Nat) (hv : Valid t) (x : Nat) (hx : x < t.length) (hL : isS (tyOf t) x = false) :
    keyL t x = enc t x :: keyL t (x + 1) := by
  have hx1 : x + 1 < t.length := lt_of_isL hv x hx hL
  rw [keyL_of_L t x hL]
  cases hl : isLms (tyOf t) (x + 1) with
  | true =>
    rw [key_succ_lms t x hx1 hl]
    unfold keyL
    rw [hl]
    simp
  | false =>
    rw [key_succ t x hx1 hl]
    unfold keyL
    rw [hl]
    simp

theorem stepL_keyL (t : List Nat) (hv : Valid t) : StepL t (leKeyL t) := by
  intro x y hx hy he hLx hLy h
  unfold leKeyL at h ⊢
  rw [keyL_succ_of_L t hv x hx hLx, keyL_succ_of_L t hv y hy hLy,
    (enc_eq_iff t x y).mpr ⟨he, by rw [hLx, hLy]⟩]
  exact not_lexLt_cons_of_tail _ _ _ h

theorem leKey_of_leKeyL (t : List Nat) (x y : Nat) (hx : isS (tyOf t) x = false) (hy : isS (tyOf t) y = false)
    (h : leKeyL t x y) : leKey t x y := by
  unfold leKeyL at h
  unfold leKey
  rw [keyL_of_L t x hx, keyL_of_L t y hy] at h
  exact h

theorem leKeyL_lms (t : List Nat) (p q : Nat) (hp : isLms (tyOf t) p = true) (hq : isLms (tyOf t) q = true)
    (h : sym t p = sym t q) : leKeyL t p q := by
  unfold leKeyL keyL
  rw [hp, hq, (enc_eq_iff t p q).mpr ⟨h, by rw [isS_of_isLms hp, isS_of_isLms hq]⟩]
  simp only [if_true]
  exact lexLt_irrefl _

end RbV.Sais
