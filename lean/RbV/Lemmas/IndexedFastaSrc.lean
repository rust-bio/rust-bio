import RbV.Model.IndexedFasta
import RbV.Lemmas.IndexedFasta
/-!
# The read loop of C12: `StepOk`, `Cut`, `readLoop_spec`, `read_of_cut` (shared by the model theorems and the translated text)

What one `read_line` call must deliver for its callers (`StepOk`), stated on the numbers of bytes consumed / kept, its
consequence for the loop invariant `Inv` (`inv_step`), and where a run of such calls over the bases `cur … stop-1` ends
(`Cut`).  Both the mirror model's `readLine` / `readLoop` (here) and the *translated* `IndexedReader`
(`Thm/GenSrcIdxFa.lean`) are specified through these, so that the two agree.  Core only.
-/
namespace RbV.IdxFa
open RbV.Fastx

theorem fillBuf_rest (sched : Nat → Nat) (s : St) : (fillBuf sched s).rest = s.rest := by
  unfold fillBuf; split <;> rfl

theorem fillBuf_avail_pos (sched : Nat → Nat) (s : St) (hs : ∀ k, 0 < sched k) (hne : s.rest ≠ []) :
    0 < (fillBuf sched s).avail := by
  have hlen : 0 < s.rest.length := List.length_pos_iff.mpr hne
  have := hs s.k
  unfold fillBuf; split
  · show 0 < min (sched s.k) s.rest.length; omega
  · omega

theorem fillBuf_avail_le (sched : Nat → Nat) (s : St) (hav : s.avail ≤ s.rest.length) :
    (fillBuf sched s).avail ≤ s.rest.length := by
  unfold fillBuf; split
  · show min (sched s.k) s.rest.length ≤ s.rest.length; omega
  · exact hav

theorem fillBuf_avail_nil (sched : Nat → Nat) (s : St) (hr : s.rest = []) (hav : s.avail ≤ s.rest.length) :
    (fillBuf sched s).avail = 0 := by
  have h0 : s.avail = 0 := by rw [hr] at hav; simpa using hav
  simp [fillBuf, h0, hr]

/-- One successful `read_line` call, seen from its callers: from column `lo` it consumed `tr > 0` buffered bytes, of
which the first `n` were bases (appended to the output), left the column at `lo'`; the bases kept are exactly those between
the old and the new column (`bases`), never more than asked for. -/
structure StepOk (idx : Idx) (avail lo bl tr n lo' : Nat) : Prop where
  tr_pos : 0 < tr
  tr_le : tr ≤ avail
  in_line : lo + tr ≤ idx.lB
  bases : min lo idx.lb + n = min (lo + tr) idx.lb
  n_le : n ≤ bl
  col : lo' = if idx.lB ≤ lo + tr then 0 else lo + tr

/-- `StepOk` from one conjunction (the form one `omega` call proves) -/
theorem StepOk.of_and {idx : Idx} {avail lo bl tr n : Nat}
    (h : 0 < tr ∧ tr ≤ avail ∧ lo + tr ≤ idx.lB ∧ min lo idx.lb + n = min (lo + tr) idx.lb ∧ n ≤ bl) :
    StepOk idx avail lo bl tr n (if idx.lB ≤ lo + tr then 0 else lo + tr) :=
  ⟨h.1, h.2.1, h.2.2.1, h.2.2.2.1, h.2.2.2.2, rfl⟩

/-- the two ways `read_line` chooses its numbers: everything buffered up to the end of the line's bytes, keeping the bases … -/
theorem StepOk.of_line {idx : Idx} {a lo bl : Nat} (ha : 0 < a) (hlB : idx.lb < idx.lB) (hlo : lo < idx.lB)
    (hc : min a (idx.lb - min idx.lb lo) ≤ bl) :
    StepOk idx a lo bl (min a (idx.lB - lo)) (min a (idx.lb - min idx.lb lo))
      (if idx.lB ≤ lo + min a (idx.lB - lo) then 0 else lo + min a (idx.lB - lo)) := by
  refine .of_and ⟨by omega, Nat.min_le_left _ _, by omega, ?_, hc⟩
  rcases Nat.lt_or_ge lo idx.lb with h | h
  · rw [Nat.min_eq_left (Nat.le_of_lt h), Nat.min_eq_right (Nat.le_of_lt h)]; omega
  · rw [Nat.min_eq_right h, Nat.min_eq_left h]; omega

/-- … or, when more bases are buffered than wanted, exactly `bl` of them -/
theorem StepOk.of_wanted {idx : Idx} {a lo bl : Nat} (hbl : 0 < bl) (hlB : idx.lb < idx.lB)
    (hc : ¬ min a (idx.lb - min idx.lb lo) ≤ bl) :
    StepOk idx a lo bl bl bl (if idx.lB ≤ lo + bl then 0 else lo + bl) := by
  obtain ⟨h1, h2⟩ := Nat.lt_min.mp (Nat.lt_of_not_le hc)
  clear hc
  exact .of_and ⟨hbl, Nat.le_of_lt h1, by omega, by omega, Nat.le_refl _⟩

theorem StepOk.kept_le {idx : Idx} {avail lo bl tr n lo' : Nat} (ok : StepOk idx avail lo bl tr n lo') : n ≤ tr := by
  have := ok.bases; omega

theorem StepOk.kept_on_line {idx : Idx} {avail lo bl tr n lo' j : Nat} (ok : StepOk idx avail lo bl tr n lo')
    (hj : j < n) : lo + j < idx.lb := by
  have := ok.bases; omega

theorem StepOk.wrap {idx : Idx} {avail lo bl tr n lo' : Nat} (ok : StepOk idx avail lo bl tr n lo')
    (hlB : idx.lb < idx.lB) (hw : idx.lB ≤ lo + tr) : lo' = 0 ∧ lo + tr = idx.lB ∧ min lo idx.lb + n = idx.lb := by
  have h1 := ok.bases
  have h2 := ok.in_line
  refine ⟨by rw [ok.col, if_pos hw], by omega, by omega⟩

theorem inv_step {f : Bytes} {sched : Nat → Nat} {idx : Idx} {s : St} {lo cur line bl tr n lo' : Nat}
    (hlb : 0 < idx.lb) (hlB : idx.lb < idx.lB) (inv : Inv f idx s lo cur line)
    (ok : StepOk idx (fillBuf sched s).avail lo bl tr n lo') :
    ∃ line', Inv f idx (consume (fillBuf sched s) tr) lo' (cur + n) line' ∧
      (consume (fillBuf sched s) tr).rest.length < s.rest.length ∧
      s.rest.take n = slice f idx cur (cur + n) ∧ ∀ j, j < n → pos idx (cur + j) < f.length := by
  have hn := ok.kept_le
  have h1 := ok.tr_pos
  have h2 := ok.tr_le
  have ha := fillBuf_avail_le sched s inv.avail_le
  have hcons : (consume (fillBuf sched s) tr).rest = f.drop (idx.off + line * idx.lB + lo + tr) := by
    simp only [consume, fillBuf_rest, inv.rest_eq, List.drop_drop]
  have hclen : (consume (fillBuf sched s) tr).rest.length = s.rest.length - tr := by
    simp only [consume, fillBuf_rest, List.length_drop]
  have hpos : ∀ j, j < n → pos idx (cur + j) = idx.off + line * idx.lB + lo + j := by
    intro j hj
    have hl := ok.kept_on_line hj
    have hc : cur + j = line * idx.lb + (lo + j) := by have := inv.cur_eq; omega
    rw [hc, pos_line idx hlb line (lo + j) hl]; omega
  have hinv : ∃ line', Inv f idx (consume (fillBuf sched s) tr) lo' (cur + n) line' := by
    have hcur := inv.cur_eq
    have hav : (consume (fillBuf sched s) tr).avail ≤ (consume (fillBuf sched s) tr).rest.length := by
      rw [hclen]; exact Nat.sub_le_sub_right ha tr
    by_cases hw : idx.lB ≤ lo + tr
    · obtain ⟨e1, e2, e3⟩ := ok.wrap hlB hw
      refine ⟨line + 1, ?_, by omega, ?_, hav⟩
      · rw [hcons, e1, Nat.add_one_mul]; congr 1; omega
      · rw [e1, Nat.add_one_mul]; omega
    · have e1 : lo' = lo + tr := by rw [ok.col, if_neg hw]
      have hb := ok.bases
      exact ⟨line, by rw [hcons, e1, Nat.add_assoc], by omega, by omega, hav⟩
  obtain ⟨line', hinv⟩ := hinv
  refine ⟨line', hinv, by omega, take_eq_slice f s.rest idx _ cur n inv.rest_eq (by omega) hpos, fun j hj => ?_⟩
  have hlen : s.rest.length = f.length - (idx.off + line * idx.lB + lo) := by rw [inv.rest_eq, List.length_drop]
  rw [hpos j hj]
  omega

theorem Inv.outside {f : Bytes} {idx : Idx} {s : St} {lo cur line : Nat} (inv : Inv f idx s lo cur line)
    (hlb : 0 < idx.lb) (hlB : idx.lb < idx.lB) (hr : s.rest = []) : f.length ≤ pos idx cur := by
  have h := inv.rest_eq
  rw [hr] at h
  exact Nat.le_trans (List.drop_eq_nil_iff.mp h.symm) (inv.base_le_pos hlb hlB)

/-- `m` is the first base from `cur` on that lies outside the file, or `stop` if there is none before `stop`.  The file
alone determines `m`; every loop over `read_line` delivers the bases `cur … m-1` and fails iff `m < stop`. -/
structure Cut (f : Bytes) (idx : Idx) (cur stop m : Nat) : Prop where
  le : cur ≤ m
  le_stop : m ≤ stop
  inside : ∀ i, cur ≤ i → i < m → pos idx i < f.length
  outside : m < stop → f.length ≤ pos idx m

theorem Cut.exists (f : Bytes) (idx : Idx) {cur stop : Nat} (h : cur ≤ stop) : ∃ m, Cut f idx cur stop m := by
  induction hd : stop - cur generalizing cur with
  | zero => exact ⟨cur, Nat.le_refl _, h, fun i _ _ => by omega, fun _ => by omega⟩
  | succ d ih =>
    by_cases hp : pos idx cur < f.length
    · obtain ⟨m, hm⟩ := ih (cur := cur + 1) (by omega) (by omega)
      refine ⟨m, Nat.le_of_succ_le hm.le, hm.le_stop, fun i h1 h2 => ?_, hm.outside⟩
      by_cases e : i = cur
      · exact e ▸ hp
      · exact hm.inside i (by omega) h2
    · exact ⟨cur, Nat.le_refl _, h, fun i _ _ => by omega, fun _ => by omega⟩

theorem Cut.of_inside {f : Bytes} {idx : Idx} {cur stop : Nat} (h : cur ≤ stop)
    (hin : ∀ i, cur ≤ i → i < stop → pos idx i < f.length) : Cut f idx cur stop stop :=
  ⟨h, Nat.le_refl _, hin, fun h => absurd h (Nat.lt_irrefl _)⟩

theorem Cut.lt_stop {f : Bytes} {idx : Idx} {cur stop m : Nat} (c : Cut f idx cur stop m) (h : cur < stop)
    (hout : f.length ≤ pos idx (stop - 1)) : m < stop := by
  rcases Nat.lt_or_ge m stop with hm | hm
  · exact hm
  · have := c.inside (stop - 1) (by omega) (by omega); omega

theorem Cut.eq_of_outside {f : Bytes} {idx : Idx} {cur stop m : Nat} (c : Cut f idx cur stop m)
    (hout : f.length ≤ pos idx cur) : m = cur := by
  rcases Nat.lt_or_ge cur m with hm | hm
  · have := c.inside cur (Nat.le_refl _) hm; omega
  · exact Nat.le_antisymm hm c.le

theorem Cut.advance {f : Bytes} {idx : Idx} {cur stop m n : Nat} (c : Cut f idx cur stop m) (hn : cur + n ≤ stop)
    (hin : ∀ j, j < n → pos idx (cur + j) < f.length) : Cut f idx (cur + n) stop m := by
  refine ⟨?_, c.le_stop, fun i h1 h2 => c.inside i (by omega) h2, c.outside⟩
  rcases Nat.lt_or_ge m (cur + n) with hm | hm
  · have h1 := c.le
    have h2 := c.outside (by omega)
    have h3 := hin (m - cur) (by omega)
    rw [show cur + (m - cur) = m by omega] at h3
    omega
  · exact hm

theorem readLine_model_eof (sched : Nat → Nat) (idx : Idx) (s : St) (lo bl : Nat)
    (hr : s.rest = []) (hav : s.avail ≤ s.rest.length) :
    readLine sched idx s lo bl = .error .eof := by
  simp only [readLine, fillBuf_avail_nil sched s hr hav, if_true]

theorem readLine_ok (sched : Nat → Nat) (idx : Idx) (s : St) (lo bl : Nat) (hlB : idx.lb < idx.lB) (hlo : lo < idx.lB)
    (hbl : 0 < bl) (ha : 0 < (fillBuf sched s).avail) :
    ∃ tr n lo', readLine sched idx s lo bl = .ok (consume (fillBuf sched s) tr, lo', s.rest.take n) ∧
      StepOk idx (fillBuf sched s).avail lo bl tr n lo' := by
  unfold readLine
  simp only [fillBuf_rest]
  generalize (fillBuf sched s).avail = a at ha ⊢
  rw [if_neg (by omega)]
  by_cases hc : min a (idx.lb - min idx.lb lo) ≤ bl
  · simp only [if_pos hc]
    rw [if_neg (by omega)]
    exact ⟨_, _, _, rfl, .of_line ha hlB hlo hc⟩
  · simp only [if_neg hc]
    rw [if_neg (by omega)]
    exact ⟨_, _, _, rfl, .of_wanted hbl hlB hc⟩

theorem readLoop_done (sched : Nat → Nat) (idx : Idx) (cap fuel : Nat) (s : St) (lo : Nat) :
    readLoop sched idx cap fuel s lo 0 = ([], none) := by
  cases fuel <;> rfl

theorem readLoop_error {sched : Nat → Nat} {idx : Idx} {cap : Nat} {s : St} {lo bl : Nat} {e : Err} (fuel : Nat)
    (hbl : bl ≠ 0) (h : readLine sched idx s lo (min cap bl) = .error e) :
    readLoop sched idx cap (fuel + 1) s lo bl = ([], some e) := by
  simp only [readLoop, if_neg hbl, h]

theorem readLoop_ok {sched : Nat → Nat} {idx : Idx} {cap : Nat} {s s' : St} {lo lo' bl : Nat} {kept : Bytes} (fuel : Nat)
    (hbl : bl ≠ 0) (h : readLine sched idx s lo (min cap bl) = .ok (s', lo', kept)) :
    readLoop sched idx cap (fuel + 1) s lo bl =
      (kept ++ (readLoop sched idx cap fuel s' lo' (bl - kept.length)).1,
        (readLoop sched idx cap fuel s' lo' (bl - kept.length)).2) := by
  simp only [readLoop, if_neg hbl, h]

theorem readLoop_spec (f : Bytes) (sched : Nat → Nat) (idx : Idx) (cap stop : Nat)
    (hlb : 0 < idx.lb) (hlB : idx.lb < idx.lB) (hs : ∀ k, 0 < sched k) (hcap : 0 < cap) :
    ∀ fuel s lo cur line m, Inv f idx s lo cur line → Cut f idx cur stop m → s.rest.length < fuel →
      readLoop sched idx cap fuel s lo (stop - cur) = (slice f idx cur m, if m < stop then some .eof else none) := by
  intro fuel
  induction fuel with
  | zero => intro s lo cur line m _ _ h; omega
  | succ fuel ih =>
    intro s lo cur line m inv c hfuel
    have h1 := c.le
    have h2 := c.le_stop
    by_cases hdone : cur = stop
    · obtain rfl : m = cur := by omega
      rw [hdone, Nat.sub_self, readLoop_done, slice_self, if_neg (Nat.lt_irrefl _)]
    · by_cases hne : s.rest = []
      · obtain rfl := c.eq_of_outside (inv.outside hlb hlB hne)
        rw [readLoop_error fuel (by omega) (readLine_model_eof sched idx s lo _ hne inv.avail_le), slice_self,
          if_pos (by omega)]
      · obtain ⟨tr, n, lo', hrl, ok⟩ := readLine_ok sched idx s lo (min cap (stop - cur)) hlB inv.lo_lt (by omega)
          (fillBuf_avail_pos sched s hs hne)
        obtain ⟨line', inv', hshort, hslice, hin⟩ := inv_step hlb hlB inv ok
        have hn := ok.n_le
        have hk : (s.rest.take n).length = n := by rw [hslice, slice_length]; omega
        have c' := c.advance (by omega) hin
        have hm := c'.le
        rw [readLoop_ok fuel (by omega) hrl, hk, show stop - cur - n = stop - (cur + n) by omega,
          ih _ lo' (cur + n) line' m inv' c' (by omega), hslice, slice_append f idx (Nat.le_add_right cur n) hm]

/-- an empty interval makes no `read_line` call, so the chunk size asked for only matters for `start < stop` -/
theorem readLoop_seekTo (file : Bytes) (sched : Nat → Nat) (idx : Idx) (cap start stop m : Nat)
    (hlb : 0 < idx.lb) (hlB : idx.lb < idx.lB) (hs : ∀ k, 0 < sched k) (hcap : start < stop → 0 < cap)
    (c : Cut file idx start stop m) :
    readLoop sched idx cap (file.length + 1) (seekTo file idx start).1 (seekTo file idx start).2 (stop - start) =
      (slice file idx start m, if m < stop then some .eof else none) := by
  have h1 := c.le
  have h2 := c.le_stop
  by_cases he : start = stop
  · obtain rfl : m = start := by omega
    rw [he, Nat.sub_self, readLoop_done, slice_self, if_neg (Nat.lt_irrefl _)]
  · exact readLoop_spec file sched idx cap stop hlb hlB hs (hcap (by omega)) _ _ _ start _ m
      (seekTo_inv file idx start hlb hlB) c (seekTo_rest_length_lt file idx start)

/-- **both readers on any file**, in terms of the cut `m` the file determines: the bases `start … m-1`, and the end-of-file
error iff `m < stop` (`read` then returns only the error, the iterator the bases and then the error) -/
theorem read_of_cut (file : Bytes) (sched : Nat → Nat) (idx : Idx) {start stop m : Nat}
    (hlb : 0 < idx.lb) (hlB : idx.lb < idx.lB) (hs : ∀ k, 0 < sched k) (h1 : start ≤ stop) (h2 : stop ≤ idx.len)
    (c : Cut file idx start stop m) :
    readIntoBuffer file sched idx start stop = (if m < stop then .error .eof else .ok (slice file idx start m)) ∧
    readIter file sched idx start stop = .ok (slice file idx start m, if m < stop then some .eof else none) := by
  have hl := fun cap hcap => readLoop_seekTo file sched idx cap start stop m hlb hlB hs hcap c
  constructor
  · unfold readIntoBuffer
    rw [if_neg (Nat.not_lt.mpr h2), if_neg (Nat.not_lt.mpr h1)]
    dsimp only
    rw [hl _ (fun h => by omega)]
    by_cases hm : m < stop
    · rw [if_pos hm, if_pos hm]
    · rw [if_neg hm, if_neg hm]
  · unfold readIter
    rw [if_neg (Nat.not_lt.mpr h2), if_neg (Nat.not_lt.mpr h1)]
    dsimp only
    rw [hl _ (fun h => by omega)]

end RbV.IdxFa
