import RbV.Lemmas.FillTb
import RbV.Lemmas.FillLower
/-!
Traceback proof, fill side, part 2: the final table read through `cell`; `SorX`: what the main loop leaves in an S cell (a good
code — or, in row `m`, still `TB_XCLIP_SUFFIX` explained by the tracker); the x-suffix tracker and the `Sn` registers are
explained by cells of the same column / row (`trkOK_all`, `snOK_all`: facts about the fill alone); lower bounds on the cells of
row 0 and column 0.
-/
namespace RbV.Model.PairwiseFill
open RbV.Align

section
variable (sc : Sc) (cl : Clip) (x y : List Nat)

/-- the table the traceback loop of `custom` runs on -/
def finalT : Table := (fill sc cl x y).table x.length y.length

theorem fill_cols_getD (j : Nat) (hj : j ≤ y.length) (i : Nat) :
    (((fill sc cl x y).cols.getD j []).getD i default) = cell sc cl x y j i := by
  simp only [fill, allCols_getD sc cl x y j hj, cell]

theorem fill_p2 : (fill sc cl x y).p2 = p2L sc cl x y := by
  simp only [fill, allCols_getD sc cl x y y.length (Nat.le_refl _), p2L, p1L]

theorem table_tS_lt (i j : Nat) (hj : j < y.length) : (finalT sc cl x y).tS i j = (cell sc cl x y j i).t.ts := by
  simp only [finalT, Filled.table, if_neg (Nat.ne_of_lt hj), fill_cols_getD sc cl x y j (Nat.le_of_lt hj)]

theorem table_tI_lt (i j : Nat) (hj : j < y.length) : (finalT sc cl x y).tI i j = (cell sc cl x y j i).t.ti := by
  simp only [finalT, Filled.table, if_neg (Nat.ne_of_lt hj), fill_cols_getD sc cl x y j (Nat.le_of_lt hj)]

theorem table_tD (i j : Nat) (hj : j ≤ y.length) : (finalT sc cl x y).tD i j = (cell sc cl x y j i).t.td := by
  simp only [finalT, Filled.table, fill_cols_getD sc cl x y j hj]

theorem table_lx_lt (j : Nat) (hj : j < y.length) :
    (finalT sc cl x y).lx j = (cell sc cl x y j x.length).t.lx := by
  simp only [finalT, Filled.table, if_neg (Nat.ne_of_lt hj), fill_cols_getD sc cl x y j (Nat.le_of_lt hj)]

theorem table_ly (i : Nat) : (finalT sc cl x y).ly i = (cell sc cl x y y.length i).t.ly := by
  simp only [finalT, Filled.table, fill_cols_getD sc cl x y y.length (Nat.le_refl _)]

theorem table_tS_n (i : Nat) : (finalT sc cl x y).tS i y.length = (P2 sc cl x y i).ts := by
  simp only [finalT, Filled.table, if_true, fill_p2, P2]

theorem table_tI_n (i : Nat) : (finalT sc cl x y).tI i y.length = (P2 sc cl x y i).ti := by
  simp only [finalT, Filled.table, if_true, fill_p2, P2]

theorem table_lx_n : (finalT sc cl x y).lx y.length = (P2 sc cl x y x.length).lx := by
  simp only [finalT, Filled.table, if_true, fill_p2, P2]

/-- `Good` on the final table -/
abbrev GoodF (i j : Nat) (c : Tb) (v : Int) : Prop := Good sc cl x y (finalT sc cl x y) i j c v

/-- S cell of `(i, j)` as the main loop left it: good, or (row `m` only) still the default `TB_XCLIP_SUFFIX`, the value
being what the x-suffix tracker of this column took from a row `k < m` -/
def SorX (j i : Nat) : Prop :=
  (GoodF sc cl x y i j (cell sc cl x y j i).t.ts (cell sc cl x y j i).s ∧ (cell sc cl x y j i).t.ts ≠ .xsuf) ∨
    (i = x.length ∧ (cell sc cl x y j i).t.ts = .xsuf ∧ ∃ k, 1 ≤ k ∧ k < x.length ∧
      (cell sc cl x y j i).t.lx = x.length - k ∧ (cell sc cl x y j i).s ≤ (cell sc cl x y j k).s + cl.xs)

/-- the x-suffix tracker after row `i < m`: untouched, or taken from a row `k ≤ i` -/
def TrkOK (j i : Nat) : Prop :=
  (cell sc cl x y j i).xm = minScore ∨ ∃ k, 1 ≤ k ∧ k ≤ i ∧ (cell sc cl x y j i).t.lx = x.length - k ∧
    (cell sc cl x y j i).xm ≤ (cell sc cl x y j k).s + cl.xs

/-- `Sn[i]`, `Ly[i]` after column `j`: untouched, or taken from a column `jj ≤ j` -/
def SnOK (j i : Nat) : Prop :=
  (cell sc cl x y j i).sn = minScore ∨ ∃ jj, jj ≤ j ∧ (cell sc cl x y j i).t.ly = y.length - jj ∧
    (cell sc cl x y j i).sn ≤ (cell sc cl x y jj i).s + cl.ys

end

section
variable {sc : Sc} {cl : Clip} {x y : List Nat}

/-- the tracker after a row that left it alone or set it from the cell just written -/
theorem trk_next {j i : Nat} (hT : TrkOK sc cl x y j i)
    (h : ((cell sc cl x y j (i + 1)).xm = (cell sc cl x y j i).xm ∧
        (cell sc cl x y j (i + 1)).t.lx = (cell sc cl x y j i).t.lx) ∨
      ((cell sc cl x y j (i + 1)).t.lx = x.length - (i + 1) ∧
        (cell sc cl x y j (i + 1)).xm = (cell sc cl x y j (i + 1)).s + cl.xs)) :
    TrkOK sc cl x y j (i + 1) := by
  rcases h with ⟨h1, h2⟩ | ⟨h1, h2⟩
  · rcases hT with h0 | ⟨k, hk1, hk2, hk3, hk4⟩
    · exact Or.inl (h1.trans h0)
    · exact Or.inr ⟨k, hk1, Nat.le_succ_of_le hk2, h2.trans hk3, by rw [h1]; exact hk4⟩
  · exact Or.inr ⟨i + 1, Nat.succ_le_succ (Nat.zero_le i), Nat.le_refl _, h1, Int.le_of_eq h2⟩

/-- `Sn[i]`, `Ly[i]` after a column that left them alone or set them from the cell just written -/
theorem sn_next {j i : Nat} (hP : SnOK sc cl x y j i)
    (h : ((cell sc cl x y (j + 1) i).sn = (cell sc cl x y j i).sn ∧
        (cell sc cl x y (j + 1) i).t.ly = (cell sc cl x y j i).t.ly) ∨
      ((cell sc cl x y (j + 1) i).t.ly = y.length - (j + 1) ∧
        (cell sc cl x y (j + 1) i).sn = (cell sc cl x y (j + 1) i).s + cl.ys)) :
    SnOK sc cl x y (j + 1) i := by
  rcases h with ⟨h1, h2⟩ | ⟨h1, h2⟩
  · rcases hP with h0 | ⟨jj, hjj, hly, hsn⟩
    · exact Or.inl (h1.trans h0)
    · exact Or.inr ⟨jj, Nat.le_succ_of_le hjj, h2.trans hly, by rw [h1]; exact hsn⟩
  · exact Or.inr ⟨j + 1, Nat.le_refl _, h1, Int.le_of_eq h2⟩

/-- **the x-suffix tracker is explained**, in every column: a fact about the fill alone -/
theorem trkOK_all (j : Nat) : ∀ i, i < x.length → TrkOK sc cl x y j i := by
  intro i
  induction i with
  | zero =>
    intro hm
    left
    cases j with
    | zero => rw [cell_zero_zero]; simp only [row00]; rw [if_neg (by omega)]
    | succ j => rw [cell_succ_zero]; simp only [rowJ0]; rw [if_neg (by omega)]
  | succ i ih =>
    intro hm
    refine trk_next (ih (by omega)) ?_
    cases j with
    | zero =>
      rw [cell_zero_succ sc cl x y i (by omega)]
      exact step0_trk sc cl x y (i + 1) _ (by omega)
    | succ j =>
      rw [cell_succ_succ sc cl x y j i (by omega)]
      exact stepJ_trk sc cl x y (j + 1) _ (i + 1) _ (by omega)

/-- **`Sn[i]`, `Ly[i]` are explained**, in every row: a fact about the fill alone -/
theorem snOK_all (i : Nat) (hi : i ≤ x.length) : ∀ j, SnOK sc cl x y j i := by
  intro j
  induction j with
  | zero =>
    cases i with
    | zero => exact Or.inr ⟨0, Nat.le_refl _, by rw [cell_zero_zero]; simp [row00], by rw [cell_zero_zero]; simp [row00]⟩
    | succ i =>
      have := step0_sn sc cl x y (i + 1) (cell sc cl x y 0 i)
      rw [← cell_zero_succ sc cl x y i hi] at this
      exact this.imp id fun h => ⟨0, Nat.le_refl _, h.1, Int.le_of_eq h.2⟩
  | succ j ih =>
    refine sn_next ih ?_
    cases i with
    | zero => rw [cell_succ_zero]; exact rowJ0_sn sc cl x y (j + 1) _
    | succ i => rw [cell_succ_succ sc cl x y j i hi]; exact stepJ_sn sc cl x y (j + 1) _ (i + 1) _

/-- a cell above the sentinel whose S code is still the default holds the tracker's value: it is the cell of row `m`, and
the tracker was set from a row `k < m` -/
theorem sorx_default {j i : Nat} (hgt : minScore < (cell sc cl x y j (i + 1)).s) (hT : i < x.length → TrkOK sc cl x y j i)
    (hts : i + 1 = x.length → (cell sc cl x y j (i + 1)).t.ts = .xsuf)
    (hsv : (cell sc cl x y j (i + 1)).s = if i + 1 = x.length then (cell sc cl x y j i).xm else minScore)
    (hlx : i + 1 = x.length → (cell sc cl x y j (i + 1)).t.lx = (cell sc cl x y j i).t.lx) :
    SorX sc cl x y j (i + 1) := by
  by_cases hm : i + 1 = x.length
  · rw [if_pos hm] at hsv
    rcases hT (by omega) with h0 | ⟨k, hk1, hk2, hk3, hk4⟩
    · omega
    · exact Or.inr ⟨hm, hts hm, k, hk1, by omega, (hlx hm).trans hk3, by rw [hsv]; exact hk4⟩
  · rw [if_neg hm] at hsv; omega

theorem cell_d_row0 (j : Nat) : (cell sc cl x y (j + 1) 0).d = dv0 sc cl (j + 1) := by
  rw [cell_succ_zero, rowJ0_eq]

/-! ### lower bounds on the edges -/

theorem cell_row0_ge (j : Nat) :
    max cl.yp (sc.go + sc.ge * ((j + 1 : Nat) : Int)) ≤ (cell sc cl x y (j + 1) 0).s := by
  rw [cell_succ_zero, rowJ0_eq]
  dsimp only
  have := dv0_ge (sc := sc) (cl := cl) (j + 1) (by omega)
  split <;> omega

theorem cell_col0_ge (hxs : cl.xs ≤ 0) (i : Nat) (hi : i + 1 ≤ x.length) :
    sc.go + sc.ge * ((i + 1 : Nat) : Int) ≤ (cell sc cl x y 0 (i + 1)).s := by
  have := (cell_lower sc cl x y hxs 0 (Nat.zero_le _) (i + 1) hi).1
  rw [Lw_col0] at this
  exact this

theorem cell_col0_i_ge (hxs : cl.xs ≤ 0) (i : Nat) (hi : i ≤ x.length) (h1 : 1 ≤ i) :
    sc.go + sc.ge * (i : Int) ≤ (cell sc cl x y 0 i).i := by
  obtain ⟨k, rfl⟩ : ∃ k, i = k + 1 := ⟨i - 1, by omega⟩
  have := (cell_lower sc cl x y hxs 0 (Nat.zero_le _) (k + 1) hi).2 h1
  rw [Lw_col0] at this
  exact this

end

end RbV.Model.PairwiseFill
