import RbV.Spec.Orf
import RbV.Model.OrfScanP
/-! Refinement of the ORF mirror model (C20 [B]): the sliding-window state machine of `orf.rs`, with any test `P` in its
flush loop, reports exactly the open reading frames that pass `P` together with every earlier start of a frame with the
same end, each once (`mem_findAllP`); with the test of the source these are the frames more than `minLen + 2` long
(`good_iff_goodP`).  Core Lean only. -/
namespace RbV.Lemmas.OrfScan
open RbV.Orf RbV.Model.OrfScan

theorem lt_three {o : Nat} (h : o < 3) : o = 0 ∨ o = 1 ∨ o = 2 := by omega

theorem get_set_same (st : State) (off : Nat) (l : List Nat) (h : off < 3) : (st.set off l).get off = l := by
  rcases lt_three h with rfl | rfl | rfl <;> rfl

theorem get_set_other (st : State) (off f : Nat) (l : List Nat) (ho : off < 3) (hf : f < 3) (hne : f ≠ off) :
    (st.set off l).get f = st.get f := by
  rcases lt_three ho with rfl | rfl | rfl <;> rcases lt_three hf with rfl | rfl | rfl <;>
    first | rfl | exact absurd rfl hne

theorem init_get (f : Nat) : State.init.get f = [] := by
  unfold State.get; split
  · rfl
  · split <;> rfl

theorem set_codon (st : State) (off : Nat) (l : List Nat) : (st.set off l).codon = st.codon := by
  unfold State.set; split <;> (try split) <;> rfl

theorem set_out (st : State) (off : Nat) (l : List Nat) : (st.set off l).out = st.out := by
  unfold State.set; split <;> (try split) <;> rfl

theorem get_with_codon (st : State) (c : List Nat) (f : Nat) : ({ st with codon := c } : State).get f = st.get f := rfl
theorem get_with_out (st : State) (o : List (Nat × Nat × Nat)) (f : Nat) : ({ st with out := o } : State).get f = st.get f := rfl

section
variable (P : Nat → Nat → Bool) (starts stops : List (List Nat)) (st : State) (i c : Nat)

theorem stepP_out :
    (stepP P starts stops st i c).out = st.out ++ Model.OrfScan.emitted P starts stops st i c := by
  rw [stepP_def]; unfold Model.OrfScan.emitted
  cases h : flushes starts stops st i c
  · simp [set_out]
  · simp

theorem stepP_codon :
    (stepP P starts stops st i c).codon = window st c := by
  rw [stepP_def]
  cases h : flushes starts stops st i c
  · simp [set_codon]
  · simp [set_codon]

theorem stepP_get_same :
    (stepP P starts stops st i c).get ((i + 1) % 3)
      = if flushes starts stops st i c then [] else pendingNow starts st i c := by
  rw [stepP_def]
  have h3 : (i + 1) % 3 < 3 := Nat.mod_lt _ (by omega)
  cases h : flushes starts stops st i c
  · simp only [Bool.false_eq_true, if_false]
    exact get_set_same _ _ _ h3
  · simp only [if_true]
    rw [get_with_out]
    exact get_set_same _ _ _ h3

theorem stepP_get_other (f : Nat) (hf : f < 3) (hne : f ≠ (i + 1) % 3) : (stepP P starts stops st i c).get f = st.get f := by
  rw [stepP_def]
  have h3 : (i + 1) % 3 < 3 := Nat.mod_lt _ (by omega)
  cases h : flushes starts stops st i c
  · simp only [Bool.false_eq_true, if_false]
    rw [get_set_other _ _ _ _ h3 hf hne, get_with_codon]
  · simp only [if_true]
    rw [get_with_out, get_set_other _ _ _ _ h3 hf hne, get_with_codon]

end

/-- at a stop codon the frame's list is emptied and its flush is appended to `out` (nothing, if nothing was pending) -/
theorem stepP_stop (P : Nat → Nat → Bool) {starts stops : List (List Nat)} {st : State} {i c : Nat}
    (hs : stops.contains (window st c) = true) :
    (stepP P starts stops st i c).get ((i + 1) % 3) = [] ∧
    (stepP P starts stops st i c).out
      = st.out ++ ((pendingNow starts st i c).takeWhile (P i)).map fun s => (s - 2, i + 1, (i + 1) % 3) := by
  rw [stepP_get_same, stepP_out]
  unfold Model.OrfScan.emitted flushes
  rw [hs]
  cases pendingNow starts st i c <;> exact ⟨rfl, rfl⟩

theorem stepP_nostop (P : Nat → Nat → Bool) {starts stops : List (List Nat)} {st : State} {i c : Nat}
    (hs : stops.contains (window st c) = false) :
    (stepP P starts stops st i c).get ((i + 1) % 3) = pendingNow starts st i c ∧
    (stepP P starts stops st i c).out = st.out := by
  rw [stepP_get_same, stepP_out]
  unfold Model.OrfScan.emitted flushes
  rw [hs, Bool.and_false]
  exact ⟨rfl, List.append_nil _⟩

theorem codonAt_eq (seq : List Nat) (k : Nat) (h : k + 3 ≤ seq.length) :
    codonAt seq k = [seq[k]'(by omega), seq[k + 1]'(by omega), seq[k + 2]'(by omega)] := by
  unfold codonAt
  rw [List.drop_eq_getElem_cons (by omega : k < seq.length), List.drop_eq_getElem_cons (by omega : k + 1 < seq.length),
    List.drop_eq_getElem_cons (by omega : k + 1 + 1 < seq.length)]
  rfl

theorem mem_takeWhile_asc (p : Nat → Bool) (l : List Nat) (hs : l.Pairwise (· < ·)) (x : Nat) :
    x ∈ l.takeWhile p ↔ x ∈ l ∧ ∀ a ∈ l, a ≤ x → p a = true := by
  induction l with
  | nil => exact ⟨fun h => (nomatch h), fun h => (nomatch h.1)⟩
  | cons a t ih =>
    rw [List.pairwise_cons] at hs
    -- the head is the least member
    have hax : x ∈ a :: t → a ≤ x := fun hx =>
      (List.mem_cons.mp hx).elim (fun e => e ▸ Nat.le_refl _) fun h => Nat.le_of_lt (hs.1 x h)
    rw [List.takeWhile_cons]
    cases hp : p a
    · exact ⟨fun h => (nomatch h), fun ⟨hx, h⟩ => absurd (h a List.mem_cons_self (hax hx)) (by rw [hp]; exact Bool.noConfusion)⟩
    · rw [if_pos rfl, List.mem_cons, List.mem_cons, ih hs.2]
      constructor
      · rintro (rfl | ⟨hx, h⟩)
        · exact ⟨Or.inl rfl, fun b hb hbx => (List.mem_cons.mp hb).elim (fun e => e ▸ hp)
            fun hb' => absurd hbx (Nat.not_le_of_lt (hs.1 b hb'))⟩
        · exact ⟨Or.inr hx, fun b hb hbx => (List.mem_cons.mp hb).elim (fun e => e ▸ hp) fun hb' => h b hb' hbx⟩
      · rintro ⟨hx | hx, h⟩
        · exact Or.inl hx
        · exact Or.inr ⟨hx, fun b hb => h b (List.mem_cons_of_mem _ hb)⟩

theorem takeWhile_sublist_nodup (p : Nat → Bool) (l : List Nat) (h : l.Nodup) : (l.takeWhile p).Nodup :=
  (List.takeWhile_sublist p).nodup h

section
variable (seq : List Nat) (starts stops : List (List Nat)) (minLen : Nat)

/-- a start codon whose last symbol has index `i` -/
def StartEnd (i : Nat) : Prop := 2 ≤ i ∧ i < seq.length ∧ codonAt seq (i - 2) ∈ starts
/-- a stop codon whose last symbol has index `j` -/
def StopEnd (j : Nat) : Prop := 2 ≤ j ∧ j < seq.length ∧ codonAt seq (j - 2) ∈ stops

/-- after `n` symbols: the start codon ending at `i` is still waiting for its stop codon in frame `f` -/
def Pending (n i f : Nat) : Prop :=
  i < n ∧ (i + 1) % 3 = f ∧ StartEnd seq starts i ∧ ∀ j, i < j → j < n → (j + 1) % 3 = f → ¬ StopEnd seq stops j

/-- what has been reported after `n` symbols: `GoodP` at the test of the source (`good_iff_goodP`) -/
def Good (n : Nat) (t : Nat × Nat × Nat) : Prop :=
  IsOrf seq starts stops t.1 t.2.1 ∧ t.2.1 ≤ n ∧ minLen + 2 < t.2.1 - t.1 ∧ t.2.2 = t.1 % 3

/-- the window after `n` symbols -/
def Window (n : Nat) (w : List Nat) : Prop :=
  (n < 3 → w = seq.take n) ∧ (3 ≤ n → w = codonAt seq (n - 3))

/-- the invariant of the run with the test of the source: `InvP (pinnedTest minLen)` (`InvP.inv`) -/
structure Inv (n : Nat) (st : State) : Prop where
  win : Window seq n st.codon
  pend : ∀ f, f < 3 → ∀ i, i ∈ st.get f ↔ Pending seq starts stops n i f
  sorted : ∀ f, f < 3 → (st.get f).Pairwise (· < ·)
  out : ∀ t, t ∈ st.out ↔ Good seq starts stops minLen n t
  nodup : st.out.Nodup

/-- a pending start and a stop codon ending at `n` in its frame make an open reading frame, and conversely.
(`omega` is slow on `% 3` facts and on truncated subtraction: the indices are written as sums, the frame facts go through
`mod3_*`, and `omega` gets the linear goals with the frame facts cleared.) -/
theorem pending_stop_iff (n i : Nat) (hn : n < seq.length) (hstop : StopEnd seq stops n) :
    Pending seq starts stops n i ((n + 1) % 3) ↔ (2 ≤ i ∧ IsOrf seq starts stops (i - 2) (n + 1)) := by
  obtain ⟨hn2, -, hst⟩ := hstop
  obtain ⟨m, rfl⟩ := Nat.exists_eq_add_of_le' hn2
  constructor
  · rintro ⟨h1, h2, ⟨h3, -, h5⟩, h6⟩
    obtain ⟨s, rfl⟩ := Nat.exists_eq_add_of_le' h3
    have hgap : s + 3 + 3 ≤ m + 3 := mod3_gap (Nat.succ_lt_succ h1) h2
    have hs3 : s % 3 = (m + 3) % 3 := (Nat.add_mod_right s 3).symm.trans h2
    refine ⟨h3, ?_, ?_, sub_mod3 hs3, h5, hst, fun k hk1 hk2 hk3 hk =>
      h6 (k + 2) ?_ ?_ ((Nat.add_mod_eq_add_mod_right 3 (mod3_of_sub ?_ hk3)).symm.trans h2) ⟨?_, ?_, hk⟩⟩
    all_goals clear h2 hs3 h6
    · omega
    · omega
    all_goals clear hk3
    all_goals omega
  · rintro ⟨h3, g1, g2, g3, g4, -, g6⟩
    obtain ⟨s, rfl⟩ := Nat.exists_eq_add_of_le' h3
    have h2 : (s + 3) % 3 = (m + 3) % 3 :=
      (Nat.add_mod_right s 3).trans (mod3_of_sub (Nat.le_of_add_right_le (k := 6) g1) g3)
    refine ⟨?_, h2, ⟨h3, ?_, g4⟩, fun j hj1 hj2 hj3 hj => ?_⟩
    · clear h2 g3; omega
    · clear h2 g3; omega
    obtain ⟨k, rfl⟩ := Nat.exists_eq_add_of_le' hj.1
    have hg1 := mod3_gap (a := s + 3) (b := k + 3) (Nat.succ_lt_succ hj1) (h2.trans hj3.symm)
    have hg2 := mod3_gap (a := k + 3) (b := m + 3) (Nat.succ_lt_succ hj2) hj3
    refine g6 k ?_ ?_ (Nat.add_sub_add_right k 3 s ▸ sub_mod3 (h2.trans hj3.symm)) hj.2.2
    all_goals clear h2 g3 hj3
    all_goals omega

end

section
variable {seq : List Nat} {starts stops : List (List Nat)}

theorem window_step {n : Nat} {w : List Nat} (hn : n < seq.length) (hw : Window seq n w) :
    Window seq (n + 1) ((if w.length ≥ 3 then w.drop 1 else w) ++ [seq[n]]) := by
  by_cases h3 : n < 3
  · -- the window still fills up
    obtain rfl := hw.1 h3
    have hl : ¬ (seq.take n).length ≥ 3 := by rw [List.length_take]; omega
    rw [if_neg hl, ← List.take_succ_eq_append_getElem hn]
    refine ⟨fun _ => rfl, fun h => ?_⟩
    obtain rfl : n = 2 := by omega
    rfl
  · -- a full window loses its first symbol
    obtain ⟨m, rfl⟩ := Nat.exists_eq_add_of_le' (Nat.le_of_not_lt h3)
    obtain rfl := hw.2 (by omega)
    refine ⟨fun h => by omega, fun _ => ?_⟩
    have hl : (codonAt seq (m + 3 - 3)).length ≥ 3 := by
      unfold codonAt; rw [List.length_take, List.length_drop]; omega
    rw [if_pos hl]
    have e : (seq.drop (m + 1)).take 3 = (seq.drop (m + 1)).take 2 ++ [seq[m + 3]] := by
      rw [List.take_succ_eq_append_getElem (i := 2) (by rw [List.length_drop]; omega), List.getElem_drop]
    show ((seq.drop m).take 3).drop 1 ++ [seq[m + 3]] = (seq.drop (m + 1)).take 3
    rw [List.drop_take, List.drop_drop, e]

theorem window_mem_iff {n : Nat} {w : List Nat} (cs : List (List Nat)) (hn : n < seq.length)
    (hw : Window seq (n + 1) w) (h3 : ∀ c ∈ cs, c.length = 3) :
    w ∈ cs ↔ (2 ≤ n ∧ n < seq.length ∧ codonAt seq (n - 2) ∈ cs) := by
  by_cases h2 : 2 ≤ n
  · have := hw.2 (by omega)
    have e : n + 1 - 3 = n - 2 := by omega
    rw [e] at this
    subst this
    exact ⟨fun h => ⟨h2, hn, h⟩, fun h => h.2.2⟩
  · obtain rfl := hw.1 (by omega)
    exact ⟨fun h => absurd (h3 _ h) (by rw [List.length_take]; omega), fun h => absurd h.1 h2⟩

theorem pending_other {n i f : Nat} (hne : f ≠ (n + 1) % 3) :
    Pending seq starts stops (n + 1) i f ↔ Pending seq starts stops n i f := by
  constructor
  · rintro ⟨h1, h2, h3, h4⟩
    have hin : i ≠ n := fun e => hne (e ▸ h2.symm)
    exact ⟨Nat.lt_of_le_of_ne (Nat.le_of_lt_succ h1) hin, h2, h3, fun j a b c => h4 j a (Nat.lt_succ_of_lt b) c⟩
  · rintro ⟨h1, h2, h3, h4⟩
    refine ⟨Nat.lt_succ_of_lt h1, h2, h3, fun j a b c => ?_⟩
    have hjn : j ≠ n := fun e => hne (e ▸ c.symm)
    exact h4 j a (Nat.lt_of_le_of_ne (Nat.le_of_lt_succ b) hjn) c

theorem pending_same_nostop {n i : Nat} (hns : ¬ StopEnd seq stops n) :
    Pending seq starts stops (n + 1) i ((n + 1) % 3) ↔
      (Pending seq starts stops n i ((n + 1) % 3) ∨ (i = n ∧ StartEnd seq starts n)) := by
  constructor
  · rintro ⟨h1, h2, h3, h4⟩
    by_cases e : i = n
    · exact Or.inr ⟨e, e ▸ h3⟩
    · exact Or.inl ⟨Nat.lt_of_le_of_ne (Nat.le_of_lt_succ h1) e, h2, h3, fun j a b c => h4 j a (Nat.lt_succ_of_lt b) c⟩
  · rintro (⟨h1, h2, h3, h4⟩ | ⟨rfl, h3⟩)
    · refine ⟨Nat.lt_succ_of_lt h1, h2, h3, fun j a b c => ?_⟩
      by_cases e : j = n
      · exact e ▸ hns
      · exact h4 j a (Nat.lt_of_le_of_ne (Nat.le_of_lt_succ b) e) c
    · exact ⟨Nat.lt_succ_self _, rfl, h3, fun j a b _ => absurd (Nat.le_of_lt_succ b) (Nat.not_le_of_lt a)⟩

end

/-! ## the invariant for every length test

The flush hands the test the index `e - 1` of the last base of the stop codon and the position `s + 2` of the last base of the
start codon; it `break`s at the first pending start that fails, so a frame is reported iff it and every earlier start with
the same end pass. -/

section
variable (seq : List Nat) (starts stops : List (List Nat)) (P : Nat → Nat → Bool)

/-- what has been reported after `n` symbols when the flush loop uses the test `P` -/
def GoodP (n : Nat) (t : Nat × Nat × Nat) : Prop :=
  IsOrf seq starts stops t.1 t.2.1 ∧ t.2.1 ≤ n ∧ t.2.2 = t.1 % 3 ∧
    ∀ s, s ≤ t.1 → IsOrf seq starts stops s t.2.1 → P (t.2.1 - 1) (s + 2) = true

/-- `Inv` with the test of the flush loop as a parameter -/
structure InvP (n : Nat) (st : State) : Prop where
  win : Window seq n st.codon
  pend : ∀ f, f < 3 → ∀ i, i ∈ st.get f ↔ Pending seq starts stops n i f
  sorted : ∀ f, f < 3 → (st.get f).Pairwise (· < ·)
  out : ∀ t, t ∈ st.out ↔ GoodP seq starts stops P n t
  nodup : st.out.Nodup

end

section
variable {seq : List Nat} {starts stops : List (List Nat)} {P : Nat → Nat → Bool}

/-- the arguments the flush hands to the test for a frame `[s, e)` -/
theorem frame_args {s e L : Nat} (h1 : s + 6 ≤ e) (h2 : e ≤ L) :
    e - 1 < L ∧ 2 ≤ s + 2 ∧ s + 2 ≤ e - 1 ∧ e - 1 + 3 - (s + 2) = e - s ∧ e - 1 + 1 - (s + 2) + 2 = e - s := by omega

theorem goodP_step_nostop {n : Nat} (hns : ¬ StopEnd seq stops n) (t : Nat × Nat × Nat) :
    GoodP seq starts stops P (n + 1) t ↔ GoodP seq starts stops P n t := by
  constructor
  · rintro ⟨h1, h2, h4, h5⟩
    refine ⟨h1, ?_, h4, h5⟩
    by_cases e : t.2.1 = n + 1
    · -- a frame ending at `n + 1` has its stop codon ending at `n`
      obtain ⟨g1, g2, -, -, g5, -⟩ := h1
      rw [e] at g1 g2 g5
      refine absurd ⟨?_, g2, ?_⟩ hns
      · clear h4 h5; omega
      · rwa [show n - 2 = n + 1 - 3 by clear h4 h5; omega]
    · exact Nat.le_of_lt_succ (Nat.lt_of_le_of_ne h2 e)
  · rintro ⟨h1, h2, h4, h5⟩
    exact ⟨h1, Nat.le_succ_of_le h2, h4, h5⟩

/-- at a stop codon the flush adds exactly the frames that end here and pass the test together with all earlier starts:
the pending starts are the starts of the frames ending here (`pending_stop_iff`), in ascending order -/
theorem goodP_step_stop {n : Nat} {sp : List Nat} (hn : n < seq.length) (hstop : StopEnd seq stops n)
    (hsp : ∀ i, i ∈ sp ↔ Pending seq starts stops n i ((n + 1) % 3)) (hsort : sp.Pairwise (· < ·))
    (t : Nat × Nat × Nat) :
    GoodP seq starts stops P (n + 1) t ↔
      (GoodP seq starts stops P n t ∨
        t ∈ (sp.takeWhile (P n)).map fun s => (s - 2, n + 1, (n + 1) % 3)) := by
  have hmem : ∀ i, i ∈ sp ↔ (2 ≤ i ∧ IsOrf seq starts stops (i - 2) (n + 1)) := fun i =>
    (hsp i).trans (pending_stop_iff seq starts stops n i hn hstop)
  simp only [List.mem_map, mem_takeWhile_asc (P n) sp hsort, hmem]
  constructor
  · rintro ⟨h1, h2, h4, h5⟩
    by_cases e : t.2.1 = n + 1
    · obtain ⟨a, b, c⟩ := t
      subst e
      have hm : a % 3 = (n + 1) % 3 := mod3_of_sub (Nat.le_of_add_right_le h1.1) h1.2.2.1
      refine Or.inr ⟨a + 2, ⟨⟨Nat.le_add_left _ _, h1⟩, fun s hs hsa => ?_⟩, ?_⟩
      · obtain ⟨s', rfl⟩ := Nat.exists_eq_add_of_le' hs.1
        exact h5 s' (Nat.le_of_add_le_add_right hsa) hs.2
      · rw [Nat.add_sub_cancel]; exact congrArg (fun x => (a, n + 1, x)) (h4.trans hm).symm
    · exact Or.inl ⟨h1, Nat.le_of_lt_succ (Nat.lt_of_le_of_ne h2 e), h4, h5⟩
  · rintro (⟨h1, h2, h4, h5⟩ | ⟨s, ⟨⟨h2s, hio⟩, hall⟩, rfl⟩)
    · exact ⟨h1, Nat.le_succ_of_le h2, h4, h5⟩
    · refine ⟨hio, Nat.le_refl _, (mod3_of_sub (Nat.le_of_add_right_le hio.1) hio.2.2.1).symm, fun s' hs' ho => ?_⟩
      exact hall (s' + 2) ⟨Nat.le_add_left _ _, by rwa [Nat.add_sub_cancel]⟩ (by omega)

theorem flush_nodup {n : Nat} {sp : List Nat} (p : Nat → Bool) (hsort : sp.Pairwise (· < ·)) (h2 : ∀ s ∈ sp, 2 ≤ s) :
    ((sp.takeWhile p).map fun s => (s - 2, n + 1, (n + 1) % 3)).Nodup := by
  unfold List.Nodup
  have hsub := List.takeWhile_sublist p (l := sp)
  -- `s ↦ s - 2` is injective from 2 on
  refine List.Pairwise.map _ (fun a b (h : a < b ∧ 2 ≤ a) e => ?_)
    ((hsort.sublist hsub).imp_of_mem fun ha _ hab => ⟨hab, h2 _ (hsub.subset ha)⟩)
  have := congrArg Prod.fst e
  simp only at this
  omega

theorem step_invP (h3s : ∀ c ∈ starts, c.length = 3) (h3p : ∀ c ∈ stops, c.length = 3)
    (hd : ∀ c ∈ starts, c ∉ stops) {n : Nat} {st : State} (hn : n < seq.length)
    (inv : InvP seq starts stops P n st) :
    InvP seq starts stops P (n + 1) (stepP P starts stops st n seq[n]) := by
  have hw' : Window seq (n + 1) (window st seq[n]) := window_step hn inv.win
  have hoff : (n + 1) % 3 < 3 := Nat.mod_lt _ (by decide)
  have hstart_iff := window_mem_iff starts hn hw' h3s
  have hstop_iff := window_mem_iff stops hn hw' h3p
  have hother := stepP_get_other P starts stops st n seq[n]
  by_cases hs : StopEnd seq stops n
  · have hnst : ¬ StartEnd seq starts n := fun h => hd _ h.2.2 hs.2.2
    have hpn : pendingNow starts st n seq[n] = st.get ((n + 1) % 3) :=
      if_neg fun hb => hnst (hstart_iff.mp (List.contains_iff_mem.mp hb))
    obtain ⟨hg, ho⟩ := stepP_stop P (starts := starts) (i := n)
      (List.contains_iff_mem.mpr (hstop_iff.mpr hs))
    rw [hpn] at ho
    refine ⟨?_, ?_, ?_, ?_, ?_⟩
    · rw [stepP_codon]; exact hw'
    · intro f hf i
      by_cases hfo : f = (n + 1) % 3
      · subst hfo
        rw [hg]
        simp only [List.not_mem_nil, false_iff]
        rintro ⟨h1, h2, h3, h4⟩
        by_cases e : i = n
        · subst e; exact hnst h3
        · exact h4 n (Nat.lt_of_le_of_ne (Nat.le_of_lt_succ h1) e) (Nat.lt_succ_self n) rfl hs
      · rw [hother f hf hfo, pending_other hfo]; exact inv.pend f hf i
    · intro f hf
      by_cases hfo : f = (n + 1) % 3
      · subst hfo; rw [hg]; exact List.Pairwise.nil
      · rw [hother f hf hfo]; exact inv.sorted f hf
    · intro t
      rw [ho, List.mem_append, inv.out t]
      exact (goodP_step_stop hn hs (inv.pend _ hoff) (inv.sorted _ hoff) t).symm
    · rw [ho, List.nodup_append]
      refine ⟨inv.nodup, flush_nodup _ (inv.sorted _ hoff) ?_, ?_⟩
      · intro s hs'
        exact ((inv.pend _ hoff s).mp hs').2.2.1.1
      · -- what was reported before ends at or before `n`, what is reported now ends at `n + 1`
        intro a ha b hb e
        subst e
        have h1 := ((inv.out a).mp ha).2.1
        obtain ⟨s, _, rfl⟩ := List.mem_map.mp hb
        exact Nat.not_succ_le_self n h1
  · have hcs : stops.contains (window st seq[n]) = false :=
      Bool.eq_false_iff.mpr fun hb => hs (hstop_iff.mp (List.contains_iff_mem.mp hb))
    obtain ⟨hg, ho⟩ := stepP_nostop P (starts := starts) (i := n) hcs
    have hmem : ∀ i, i ∈ pendingNow starts st n seq[n] ↔
        (Pending seq starts stops n i ((n + 1) % 3) ∨ (i = n ∧ StartEnd seq starts n)) := by
      intro i
      unfold pendingNow
      by_cases hb : starts.contains (window st seq[n]) = true
      · have hst := hstart_iff.mp (List.contains_iff_mem.mp hb)
        rw [if_pos hb, List.mem_append, List.mem_singleton, inv.pend _ hoff i]
        exact or_congr_right ⟨fun h => ⟨h, hst⟩, fun h => h.1⟩
      · have hnst : ¬ StartEnd seq starts n := fun h => hb (List.contains_iff_mem.mpr (hstart_iff.mpr h))
        rw [if_neg hb, inv.pend _ hoff i]
        exact ⟨Or.inl, fun h => h.resolve_right fun h' => hnst h'.2⟩
    refine ⟨?_, ?_, ?_, ?_, ?_⟩
    · rw [stepP_codon]; exact hw'
    · intro f hf i
      by_cases hfo : f = (n + 1) % 3
      · subst hfo
        rw [hg, hmem i, pending_same_nostop hs]
      · rw [hother f hf hfo, pending_other hfo]; exact inv.pend f hf i
    · intro f hf
      by_cases hfo : f = (n + 1) % 3
      · subst hfo
        rw [hg]
        unfold pendingNow
        split
        · rw [List.pairwise_append]
          refine ⟨inv.sorted _ hoff, List.pairwise_singleton _ _, ?_⟩
          intro a ha b hb'
          rw [List.mem_singleton.mp hb']
          exact ((inv.pend _ hoff a).mp ha).1
        · exact inv.sorted _ hoff
      · rw [hother f hf hfo]; exact inv.sorted f hf
    · intro t
      rw [ho, goodP_step_nostop hs t]; exact inv.out t
    · rw [ho]; exact inv.nodup

theorem init_invP : InvP seq starts stops P 0 State.init := by
  refine ⟨⟨fun _ => rfl, fun h => by omega⟩, ?_, ?_, ?_, List.nodup_nil⟩
  · intro f hf i
    rw [init_get]
    exact ⟨fun h => (nomatch h), fun h => absurd h.1 (Nat.not_lt_zero i)⟩
  · intro f hf
    rw [init_get]; exact List.Pairwise.nil
  · intro t
    exact ⟨fun h => (nomatch h), fun h => absurd (Nat.le_trans h.1.1 h.2.1) (by omega)⟩

theorem run_invP (h3s : ∀ c ∈ starts, c.length = 3) (h3p : ∀ c ∈ stops, c.length = 3)
    (hd : ∀ c ∈ starts, c ∉ stops) : ∀ (rest pre : List Nat) (st : State), seq = pre ++ rest →
    InvP seq starts stops P pre.length st →
    InvP seq starts stops P seq.length (runP P starts stops st pre.length rest) := by
  intro rest
  induction rest with
  | nil =>
    intro pre st hseq inv
    have : seq.length = pre.length := by rw [hseq]; simp
    rw [this]; exact inv
  | cons c rest' ih =>
    intro pre st hseq inv
    have hn : pre.length < seq.length := by rw [hseq]; simp
    have hget : seq[pre.length] = c := by
      simp only [hseq, List.getElem_append_right (Nat.le_refl _), Nat.sub_self, List.getElem_cons_zero]
    have hstep := step_invP h3s h3p hd hn inv
    rw [hget] at hstep
    have := ih (pre ++ [c]) (stepP P starts stops st pre.length c) (by rw [hseq]; simp) (by
      simpa using hstep)
    simpa [runP] using this

/-- **what the finder reports, for every length test**: `(s, e, s % 3)` for the open reading frames `[s, e)` such that the
test passes for `s` and for every earlier start of a frame with the same end -/
theorem mem_findAllP (h3s : ∀ c ∈ starts, c.length = 3) (h3p : ∀ c ∈ stops, c.length = 3)
    (hd : ∀ c ∈ starts, c ∉ stops) (t : Nat × Nat × Nat) :
    t ∈ findAllP P starts stops seq ↔
      (IsOrf seq starts stops t.1 t.2.1 ∧ t.2.2 = t.1 % 3 ∧
        ∀ s, s ≤ t.1 → IsOrf seq starts stops s t.2.1 → P (t.2.1 - 1) (s + 2) = true) := by
  have inv := run_invP (P := P) h3s h3p hd seq [] State.init rfl init_invP
  exact (inv.out t).trans ⟨fun ⟨h1, _, h3, h4⟩ => ⟨h1, h3, h4⟩, fun ⟨h1, h3, h4⟩ => ⟨h1, h1.2.1, h3, h4⟩⟩

theorem findAllP_nodup (h3s : ∀ c ∈ starts, c.length = 3) (h3p : ∀ c ∈ stops, c.length = 3)
    (hd : ∀ c ∈ starts, c ∉ stops) : (findAllP P starts stops seq).Nodup :=
  (run_invP (P := P) h3s h3p hd seq [] State.init rfl init_invP).nodup

/-! ## the test of the source: `Inv` is `InvP (pinnedTest minLen)` -/

/-- the source's test is antitone in the start, so "every earlier start passes" says no more than "this start passes", i.e.
the frame is more than `minLen + 2` long -/
theorem good_iff_goodP (minLen n : Nat) (t : Nat × Nat × Nat) :
    Good seq starts stops minLen n t ↔ GoodP seq starts stops (pinnedTest minLen) n t := by
  refine and_congr_right fun hio => and_congr_right fun _ => ⟨fun ⟨h3, h4⟩ => ⟨h4, fun s hs hio' => ?_⟩, fun ⟨h4, h5⟩ => ⟨?_, h4⟩⟩
  · have e := (frame_args hio'.1 hio'.2.1).2.2.2.2
    refine decide_eq_true ?_
    clear hio hio' h4; omega
  · have h := of_decide_eq_true (h5 t.1 (Nat.le_refl _) hio)
    have e := (frame_args hio.1 hio.2.1).2.2.2.2
    clear h5 hio; omega

theorem InvP.inv {minLen n : Nat} {st : State} (h : InvP seq starts stops (pinnedTest minLen) n st) :
    Inv seq starts stops minLen n st :=
  ⟨h.win, h.pend, h.sorted, fun t => (h.out t).trans (good_iff_goodP minLen n t).symm, h.nodup⟩

theorem findAll_inv (minLen : Nat) (h3s : ∀ c ∈ starts, c.length = 3) (h3p : ∀ c ∈ stops, c.length = 3)
    (hd : ∀ c ∈ starts, c ∉ stops) :
    Inv seq starts stops minLen seq.length (run starts stops minLen State.init 0 seq) := by
  rw [run_eq_runP]
  exact (run_invP h3s h3p hd seq [] State.init rfl init_invP).inv

end

end RbV.Lemmas.OrfScan
