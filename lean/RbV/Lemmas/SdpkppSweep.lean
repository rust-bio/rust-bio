import RbV.Lemmas.SdpkppMax
import RbV.Lemmas.LcskppFinal
/-! C19 — `sdpkpp` mirror model: every predecessor pointer written by the sweep is a valid link, hence the traceback is a
valid chain, and every score stays within a budget that the translated text's `u32` arithmetic needs — for every strictly
sorted match list, `k ≥ 1`, and all scoring parameters.  Core Lean only. -/
namespace RbV.Lemmas.Sdpkpp
open RbV.KChain RbV.Model.Lcskpp RbV.Model.Sdpkpp RbV.QGram RbV.Lemmas.Fenwick RbV.Lemmas.Lcskpp

/-- gap-penalised candidate score of a start event at `(x, y)` over a record with score `sc` at `(X, Y)`; `R` = reward -/
def gapScore (R gO gE x y sc X Y : Nat) : Nat :=
  sc + R - (if max (x - X) (y - Y) > 0 then gO + max (x - X) (y - Y) * gE else 0)

theorem stepS_start (ms : List M) (k msc gO gE : Nat) (s : Model.Sdpkpp.St) (p : Nat) (hp : p < ms.length)
    (hl : s.dp.length = 2 * ms.length) (bp : PrevPtr) (hbp : Model.Fenwick.get maxPP dfltPP s.tree (mAt ms p).2 = bp) :
    Model.Sdpkpp.stepEv ms k msc gO gE s (startEv ms p) =
      if 0 < bp.score then
        { tree := s.tree
          dp := s.dp.set p (maxNI (k * msc, -1) (gapScore (k * msc) gO gE (mAt ms p).1 (mAt ms p).2 bp.score bp.x bp.y, (bp.id : Int)))
          best := maxNI s.best ((maxNI (k * msc, -1)
            (gapScore (k * msc) gO gE (mAt ms p).1 (mAt ms p).2 bp.score bp.x bp.y, (bp.id : Int))).1, (p : Int)) }
      else { tree := s.tree, dp := s.dp.set p (k * msc, -1), best := s.best } := by
  have hmod : (p + ms.length) % ms.length = p := by rw [Nat.add_mod_right, Nat.mod_eq_of_lt hp]
  have hge : p + ms.length ≥ ms.length := by omega
  have hlt : p < s.dp.length := by omega
  unfold Model.Sdpkpp.stepEv
  dsimp only [startEv]
  simp only [hmod, hge, if_true, List.set_set, getD_set _ _ _ _ _ hlt, gt_iff_lt, gapScore, hbp]

theorem stepS_end_some (ms : List M) (k msc gO gE : Nat) (s : Model.Sdpkpp.St) (p c : Nat) (hp : p < ms.length)
    (hl : s.dp.length = 2 * ms.length) (h : contLookup ms k p = some c) :
    Model.Sdpkpp.stepEv ms k msc gO gE s (endEv ms k p) =
      { tree := Model.Fenwick.set maxPP dfltPP s.tree ((mAt ms p).2 + k)
          (PrevPtr.new (maxNI (s.dp.getD p (0, 0)) ((s.dp.getD c (0, 0)).1 + msc, (c : Int))).1 ((mAt ms p).1 + k) ((mAt ms p).2 + k) p gE)
        dp := s.dp.set p (maxNI (s.dp.getD p (0, 0)) ((s.dp.getD c (0, 0)).1 + msc, (c : Int)))
        best := maxNI s.best ((maxNI (s.dp.getD p (0, 0)) ((s.dp.getD c (0, 0)).1 + msc, (c : Int))).1, (p : Int)) } := by
  have hmod : p % ms.length = p := Nat.mod_eq_of_lt hp
  have hge : ¬ (p ≥ ms.length) := by omega
  have hlt : p < s.dp.length := by omega
  unfold contLookup at h
  unfold Model.Sdpkpp.stepEv
  dsimp only [endEv]
  simp only [hmod, hge, if_false]
  split at h
  · next hc =>
    split
    · simp only [h, getD_set _ _ _ _ _ hlt, if_true]
    · next hg => exact absurd hc hg
  · cases h

theorem stepS_end_none (ms : List M) (k msc gO gE : Nat) (s : Model.Sdpkpp.St) (p : Nat) (hp : p < ms.length)
    (h : contLookup ms k p = none) :
    Model.Sdpkpp.stepEv ms k msc gO gE s (endEv ms k p) =
      { s with tree := (Model.Fenwick.set maxPP dfltPP s.tree ((mAt ms p).2 + k)
          (PrevPtr.new (s.dp.getD p (0, 0)).1 ((mAt ms p).1 + k) ((mAt ms p).2 + k) p gE)) } := by
  have hmod : p % ms.length = p := Nat.mod_eq_of_lt hp
  have hge : ¬ (p ≥ ms.length) := by omega
  unfold contLookup at h
  unfold Model.Sdpkpp.stepEv
  dsimp only [endEv]
  simp only [hmod, hge, if_false]
  split at h
  · next hc =>
    split
    · simp only [h]
    · rfl
  · next hc =>
    split
    · next hg => exact absurd hg hc
    · rfl

/-! ### the invariant of the sweep

One invariant serves both results: every written pointer is a link (so the traceback is a valid chain), and every score stays
within the budget `(q + 1)·k·match_score` of its match `q` while every published record is `PrevPtr::new` of a finished match
at its end point (so the machine arithmetic of the translated text cannot overflow, `Thm/GenSrcSdpkpp.lean`).  Neither part
needs a hypothesis on the scoring parameters. -/

def PtrOkS (ms : List M) (k : Nat) (c : Nat × Int) (q : Nat) : Prop :=
  c.2 = -1 ∨ ∃ r, r < ms.length ∧ c.2 = (r : Int) ∧ Link k (mAt ms r) (mAt ms q)

theorem PtrOkS.max {ms : List M} {k q : Nat} {a b : Nat × Int} (ha : PtrOkS ms k a q) (hb : PtrOkS ms k b q) :
    PtrOkS ms k (maxNI a b) q := by
  rcases maxNI_cases a b with h | h <;> rw [h] <;> assumption

theorem succ_mul_add_le (q p R : Nat) (h : q < p) : (q + 1) * R + R ≤ (p + 1) * R := by
  have : (q + 1 + 1) * R ≤ (p + 1) * R := Nat.mul_le_mul_right R (by omega)
  rw [Nat.add_mul (q + 1) 1 R, Nat.one_mul] at this
  exact this

theorem le_succ_mul (p R : Nat) : R ≤ (p + 1) * R := by
  rw [Nat.add_mul, Nat.one_mul]; omega

structure InvS (ms : List M) (k msc gE : Nat) (done : List Ev) (s : Model.Sdpkpp.St) : Prop where
  len_dp : s.dp.length = 2 * ms.length
  tree : ∃ ups, s.tree = run maxPP dfltPP (nFrom k 0 ms) ups ∧
    ∀ u ∈ ups, ∃ q sc, q < ms.length ∧ endEv ms k q ∈ done ∧ u.1 = (mAt ms q).2 + k ∧
      u.2 = PrevPtr.new sc ((mAt ms q).1 + k) ((mAt ms q).2 + k) q gE ∧ sc ≤ (q + 1) * (k * msc)
  cells : ∀ q, q < ms.length → (s.dp.getD q (0, 0)).1 ≤ (q + 1) * (k * msc)
  ptr : ∀ q, q < ms.length → startEv ms q ∈ done → PtrOkS ms k (s.dp.getD q (0, 0)) q
  best : 0 < ms.length → ∃ p, p < ms.length ∧ s.best.2 = (p : Int)

theorem invS_init (ms : List M) (k msc gE : Nat) : InvS ms k msc gE [] (Model.Sdpkpp.initSt ms k) := by
  refine ⟨by simp [Model.Sdpkpp.initSt], ⟨[], by simp [Model.Sdpkpp.initSt, run, Model.Fenwick.new], by simp⟩, ?_, ?_,
    fun hne => ⟨0, hne, rfl⟩⟩
  · intro q hq
    have : (Model.Sdpkpp.initSt ms k).dp.getD q (0, 0) = (0, 0) := by
      have hq2 : q < 2 * ms.length := by omega
      simp [Model.Sdpkpp.initSt, List.getD_eq_getElem?_getD, hq2]
    rw [this]; exact Nat.zero_le _
  · intro q _ h; cases h

/-- what the Fenwick query of a start event returns when its score is positive: the record of a match that ended at or
before the start in both coordinates -/
theorem queryB {ms : List M} {k msc gE : Nat} {done : List Ev} {s : Model.Sdpkpp.St} {p : Nat} (hk : 0 < k) (hs : ms.Pairwise lexLt)
    (hI : InvS ms k msc gE done s) (hp : p < ms.length) (hev : Pos ms k done (startEv ms p))
    (hpos : 0 < (Model.Fenwick.get maxPP dfltPP s.tree (mAt ms p).2).score) :
    ∃ q sc, q < p ∧ q < ms.length ∧
      Model.Fenwick.get maxPP dfltPP s.tree (mAt ms p).2 = PrevPtr.new sc ((mAt ms q).1 + k) ((mAt ms q).2 + k) q gE ∧
      sc ≤ (q + 1) * (k * msc) ∧ (mAt ms q).1 + k ≤ (mAt ms p).1 ∧ (mAt ms q).2 + k ≤ (mAt ms p).2 := by
  obtain ⟨ups, ht, hm⟩ := hI.tree
  have hy : (mAt ms p).2 < nFrom k 0 ms := by
    have := (nFrom_ge k ms 0 (mAt ms p) (mAt_mem hp)).2; omega
  -- C18's theorem at the record maximum: the query is the aggregate of the updates of the prefix, hence the default or one of them
  rw [ht, get_run maxPP dfltPP maxPP_assoc maxPP_comm maxPP_id _ ups _ hy] at hpos ⊢
  rcases agg_selective maxPP dfltPP maxPP_cases (fun i => decide (i ≤ (mAt ms p).2)) ups with hd | ⟨u, hu, hP, hv⟩
  · rw [hd] at hpos; simp [dfltPP] at hpos
  · obtain ⟨q, sc, hq, he, hu1, hu2, hsc⟩ := hm u hu
    simp only [decide_eq_true_eq] at hP
    have hx := hev.ended_before he
    have hqp : q < p := idx_lt_of_x_lt hs hq (by omega)
    exact ⟨q, sc, hqp, hq, by rw [← hv, hu2], hsc, hx, by omega⟩

theorem InvS.set_cell {ms : List M} {k msc gE : Nat} {done : List Ev} {s : Model.Sdpkpp.St} (hI : InvS ms k msc gE done s) {p : Nat}
    (hp : p < ms.length) {c : Nat × Int} (hc : c.1 ≤ (p + 1) * (k * msc)) (hptr : PtrOkS ms k c p) {b : Nat × Int}
    (hb : b = s.best ∨ b.2 = (p : Int)) :
    InvS ms k msc gE done { tree := s.tree, dp := s.dp.set p c, best := b } := by
  have hlt : p < s.dp.length := by rw [hI.len_dp]; omega
  refine ⟨by rw [List.length_set]; exact hI.len_dp, hI.tree, fun q hq => ?_, fun q hq hst => ?_, fun hne => ?_⟩
  · simp only [getD_set _ _ _ _ _ hlt]
    split
    · next h => subst h; exact hc
    · exact hI.cells q hq
  · simp only [getD_set _ _ _ _ _ hlt]
    split
    · next h => subst h; exact hptr
    · exact hI.ptr q hq hst
  · rcases hb with h | h
    · rw [h]; exact hI.best hne
    · exact ⟨p, hp, h⟩

theorem InvS.started {ms : List M} {k msc gE : Nat} {done : List Ev} {s : Model.Sdpkpp.St} (hI : InvS ms k msc gE done s) {p : Nat}
    (hptr : PtrOkS ms k (s.dp.getD p (0, 0)) p) : InvS ms k msc gE (done ++ [startEv ms p]) s := by
  obtain ⟨ups, ht, hm⟩ := hI.tree
  refine ⟨hI.len_dp, ⟨ups, ht, fun u hu => ?_⟩, hI.cells, fun q hq hst => ?_, hI.best⟩
  · obtain ⟨q, sc, h1, h2, h3⟩ := hm u hu
    exact ⟨q, sc, h1, List.mem_append_left _ h2, h3⟩
  · rcases start_mem_snoc_start.mp hst with h | rfl
    · exact hI.ptr q hq h
    · exact hptr

theorem InvS.publish {ms : List M} {k msc gE : Nat} {done : List Ev} {s : Model.Sdpkpp.St} (hI : InvS ms k msc gE done s) {p : Nat}
    (hp : p < ms.length) {sc : Nat} (hsc : sc ≤ (p + 1) * (k * msc)) :
    InvS ms k msc gE (done ++ [endEv ms k p]) { s with tree := (Model.Fenwick.set maxPP dfltPP s.tree ((mAt ms p).2 + k)
      (PrevPtr.new sc ((mAt ms p).1 + k) ((mAt ms p).2 + k) p gE)) } := by
  obtain ⟨ups, ht, hm⟩ := hI.tree
  refine ⟨hI.len_dp, ⟨ups ++ [((mAt ms p).2 + k, PrevPtr.new sc ((mAt ms p).1 + k) ((mAt ms p).2 + k) p gE)],
    by rw [run_snoc, ht], fun u hu => ?_⟩, hI.cells, fun q hq hst => ?_, hI.best⟩
  · rcases List.mem_append.mp hu with hu | hu
    · obtain ⟨q, sc', h1, h2, h3⟩ := hm u hu
      exact ⟨q, sc', h1, List.mem_append_left _ h2, h3⟩
    · rw [List.mem_singleton.mp hu]
      exact ⟨p, sc, hp, List.mem_append_right _ (List.mem_singleton.mpr rfl), rfl, rfl, hsc⟩
  · exact hI.ptr q hq ((start_mem_snoc_end hp).mp hst)

/-- the cell an end event writes when match `c` continues into `p` on the diagonal stays within the budget of `p` -/
theorem InvS.cont_le {ms : List M} {k msc gE : Nat} {done : List Ev} {s : Model.Sdpkpp.St} (hI : InvS ms k msc gE done s) {p c : Nat}
    (hk : 0 < k) (hs : ms.Pairwise lexLt) (hp : p < ms.length) (hlook : contLookup ms k p = some c) :
    c < p ∧ (maxNI (s.dp.getD p (0, 0)) ((s.dp.getD c (0, 0)).1 + msc, (c : Int))).1 ≤ (p + 1) * (k * msc) := by
  obtain ⟨hc, hcont⟩ := contLookup_some hlook
  simp only [cont, Bool.and_eq_true, beq_iff_eq] at hcont
  have hcp : c < p := idx_lt_of_x_lt hs hc (by omega)
  have hmsc : msc ≤ k * msc := Nat.le_mul_of_pos_left msc hk
  have h1 := hI.cells p hp
  have h2 := hI.cells c hc
  have h3 := succ_mul_add_le c p (k * msc) hcp
  rw [maxNI_fst]
  exact ⟨hcp, by simp only; omega⟩

theorem invS_step_start {ms : List M} {k msc gO gE : Nat} {done : List Ev} {s : Model.Sdpkpp.St} {p : Nat} (hk : 0 < k)
    (hs : ms.Pairwise lexLt) (hI : InvS ms k msc gE done s) (hp : p < ms.length) (hev : Pos ms k done (startEv ms p)) :
    InvS ms k msc gE (done ++ [startEv ms p]) (Model.Sdpkpp.stepEv ms k msc gO gE s (startEv ms p)) := by
  have hlt : p < s.dp.length := by rw [hI.len_dp]; omega
  have hset : ∀ {c : Nat × Int} {b : Nat × Int}, c.1 ≤ (p + 1) * (k * msc) → PtrOkS ms k c p → (b = s.best ∨ b.2 = (p : Int)) →
      InvS ms k msc gE (done ++ [startEv ms p]) { tree := s.tree, dp := s.dp.set p c, best := b } := fun hc hptr hb =>
    (hI.set_cell hp hc hptr hb).started (by simp only [getD_set _ _ _ _ _ hlt]; exact hptr)
  rw [stepS_start ms k msc gO gE s p hp hI.len_dp _ rfl]
  split
  · next hpos =>
    -- the new cell is the fresh start or the gap-penalised extension of the queried record, which belongs to some `q < p`
    obtain ⟨q, sc, hqp, hql, hbp, hsc, hx, hy⟩ := queryB hk hs hI hp hev hpos
    refine hset ?_ (PtrOkS.max (Or.inl rfl) (Or.inr ⟨q, hql, by rw [hbp]; rfl, Or.inr ⟨hx, hy⟩⟩))
      ((maxNI_cases _ _).imp id (congrArg Prod.snd))
    rw [maxNI_fst, hbp]
    have h1 := le_succ_mul p (k * msc)
    have h2 := succ_mul_add_le q p (k * msc) hqp
    have h3 : (PrevPtr.new sc ((mAt ms q).1 + k) ((mAt ms q).2 + k) q gE).score = sc := rfl
    simp only [gapScore, h3]; omega
  · exact hset (le_succ_mul p (k * msc)) (Or.inl rfl) (Or.inl rfl)

theorem invS_step_end {ms : List M} {k msc gO gE : Nat} {done : List Ev} {s : Model.Sdpkpp.St} {p : Nat} (hk : 0 < k)
    (hs : ms.Pairwise lexLt) (hI : InvS ms k msc gE done s) (hp : p < ms.length) (hev : Pos ms k done (endEv ms k p)) :
    InvS ms k msc gE (done ++ [endEv ms k p]) (Model.Sdpkpp.stepEv ms k msc gO gE s (endEv ms k p)) := by
  cases hlook : contLookup ms k p with
  | none =>
    rw [stepS_end_none ms k msc gO gE s p hp hlook]
    exact hI.publish hp (hI.cells p hp)
  | some c =>
    rw [stepS_end_some ms k msc gO gE s p c hp hI.len_dp hlook]
    have hnew := (hI.cont_le hk hs hp hlook).2
    have hst := hev.started hk hp
    obtain ⟨hc, hcont⟩ := contLookup_some hlook
    simp only [cont, Bool.and_eq_true, beq_iff_eq] at hcont
    -- the cell keeps its justified pointer or points at the diagonal predecessor `c`
    have hptr := PtrOkS.max (hI.ptr p hp hst) (Or.inr ⟨c, hc, rfl, Or.inl (by omega)⟩ : PtrOkS ms k ((s.dp.getD c (0, 0)).1 + msc, (c : Int)) p)
    exact (hI.set_cell hp hnew hptr ((maxNI_cases _ _).imp id (congrArg Prod.snd))).publish hp hnew

theorem sweepS_inv {ms : List M} {k : Nat} (msc gO gE : Nat) (hk : 0 < k) (hs : ms.Pairwise lexLt) :
    InvS ms k msc gE (sortedEvents ms k) (Model.Sdpkpp.sweep ms k msc gO gE) :=
  sweep_ind (invS_step_start hk hs) (invS_step_end hk hs)
    (invS_init ms k msc gE) (List.append_nil _).symm

/-- following the pointers written by the `sdpkpp` sweep gives a valid chain and ends within `p + 2` rounds -/
theorem traceS_spec {ms : List M} {k : Nat} (msc gO gE : Nat) (hk : 0 < k) (hs : ms.Pairwise lexLt) :
    ∀ p, p < ms.length → ∀ fuel, p + 2 ≤ fuel →
      ∃ tb, traceLoop (Model.Sdpkpp.sweep ms k msc gO gE).dp fuel (p : Int) = some (p :: tb) ∧
        (∀ i ∈ p :: tb, i < ms.length) ∧ RChain k ((p :: tb).map (mAt ms)) ∧ (p :: tb).Pairwise (· > ·) := by
  intro p hp fuel hfuel
  obtain ⟨tb, ht, hall, hch, -, hpw⟩ := trace_links hk hs (Model.Sdpkpp.sweep ms k msc gO gE).dp (fun _ _ => True)
    (fun q hq => by
      rcases (sweepS_inv msc gO gE hk hs).ptr q hq
        ((mem_sortedEvents ms k _).mpr ⟨q, hq, Or.inl rfl⟩) with h2 | ⟨r, hr, h2, hlink⟩
      · exact Or.inl ⟨h2, trivial⟩
      · exact Or.inr ⟨r, hr, h2, hlink, fun _ _ => trivial⟩) p hp fuel hfuel
  exact ⟨tb, ht, hall, hch, hpw⟩

theorem sdpkpp_model_ok {ms : List M} {k : Nat} (msc gO gE : Nat) (hk : 0 < k) (hs : ms.Pairwise lexLt) :
    ∃ r, Model.Sdpkpp.sdpkpp ms k msc gO gE = .ok r ∧ validChain ms k r.path = true ∧ (ms ≠ [] → r.path ≠ []) ∧
      r.path.Pairwise (· < ·) := by
  cases hms : ms with
  | nil =>
    exact ⟨{ path := [], score := 0, dp := [] }, by simp [Model.Sdpkpp.sdpkpp], by simp [validChain, pathMatches, chainB],
      by simp, by simp⟩
  | cons m0 rest =>
    rw [← hms]
    have hne : 0 < ms.length := by rw [hms]; simp
    have hsorted : sortedStrict ms = true := (sortedStrict_iff ms).mpr hs
    obtain ⟨p, hp, hb2⟩ := (sweepS_inv msc gO gE hk hs).best hne
    obtain ⟨tb, ht, hall, hch, hpw⟩ := traceS_spec msc gO gE hk hs p hp (ms.length + 1) (by omega)
    refine ⟨{ path := (p :: tb).reverse, score := (Model.Sdpkpp.sweep ms k msc gO gE).best.1,
              dp := (Model.Sdpkpp.sweep ms k msc gO gE).dp }, ?_, ?_, ?_, ?_⟩
    · unfold Model.Sdpkpp.sdpkpp
      have hemp : ms.isEmpty = false := by rw [hms]; rfl
      simp only [hemp, hsorted, Bool.false_eq_true, if_false, Bool.not_true, hb2, ht]
    · exact validChain_of_trace hall hch
    · intro _; simp
    · show ((p :: tb).reverse).Pairwise (· < ·)
      rw [List.pairwise_reverse]; exact hpw

end RbV.Lemmas.Sdpkpp

