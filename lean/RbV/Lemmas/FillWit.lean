import RbV.Lemmas.FillCells
/-!
*Witnesses*: what it means that a value of `Model/PairwiseFill.lean` is justified by a real alignment.

`Wit L i j v` says that the value `v` held by a cell of layer `L` at matrix position `(i, j)` is justified by a real
alignment: sub-ranges `x[xs..xe]`, `y[ys..ye]` and an operation list with score `c` such that
`v ≤ c + prefix clip penalties + the suffix clip penalties already charged`, where the alignment ends at the cell
(`xe = i`, `ye = j`) or — only in the last row / last column — before it, with the suffix clip charged
(`xe < i = m`, `ye < j = n`).  For the layers `I` / `D` the operation list ends with an insertion / deletion and the
alignment ends in that row / column (so that the gap can be extended for `gap_extend` only).

`WitAt L i j v xs xe ys ye ops` is the same with the alignment named (`Wit L i j v ↔ ∃ xs xe ys ye ops, WitAt …`); the
transitions are proved on named witnesses (`witAt_*`, used as such by the traceback proof) and read off for `Wit`.

The transitions of the DP map witnesses to witnesses: gap opened / extended, diagonal step, suffix clips (`witAt_ins`,
`witAt_del`, `witAt_diag`, `witAt_xsuf`, `witAt_ysuf`, and in `FillWitAt.lean` the start and the prefix clips `witAt_start`,
`witAt_xpre`, `witAt_ypre`; for `Wit`: `wit_ins_open`, `wit_ins_ext`, `wit_del_open`, `wit_del_ext`,
`wit_diag`, chains of insertions / deletions).  Opening a gap needs `gap_open ≤ 0`: a path through a clip re-opens a gap
that the real alignment merely extends, so a value is `≤` its witness, not `=`.
-/
namespace RbV.Model.PairwiseFill
open RbV.Align

section
variable (sc : Sc) (cl : Clip) (x y : List Nat)

/-- the twelve clauses are those of `WitAt` below, with the alignment quantified (`Wit.named`, `WitAt.wit` convert) -/
def Wit (L : St) (i j : Nat) (v : Int) : Prop :=
  ∃ xs xe ys ye ops c, xs ≤ xe ∧ xe ≤ i ∧ i ≤ x.length ∧ ys ≤ ye ∧ ye ≤ j ∧ j ≤ y.length ∧
    (xe < i → i = x.length) ∧ (ye < j → j = y.length) ∧
    score sc .none (slice x xs xe) (slice y ys ye) ops = some c ∧
    v ≤ c + pre cl xs ys + (if xe < i then cl.xs else 0) + (if ye < j then cl.ys else 0) ∧
    (L = .ins → lastSt .none ops = .ins ∧ xe = i) ∧ (L = .del → lastSt .none ops = .del ∧ ye = j)

/-- `Wit` with the alignment named: the same twelve clauses, written out a second time -/
def WitAt (L : St) (i j : Nat) (v : Int) (xs xe ys ye : Nat) (ops : List Op) : Prop :=
  ∃ c, xs ≤ xe ∧ xe ≤ i ∧ i ≤ x.length ∧ ys ≤ ye ∧ ye ≤ j ∧ j ≤ y.length ∧
    (xe < i → i = x.length) ∧ (ye < j → j = y.length) ∧
    score sc .none (slice x xs xe) (slice y ys ye) ops = some c ∧
    v ≤ c + pre cl xs ys + (if xe < i then cl.xs else 0) + (if ye < j then cl.ys else 0) ∧
    (L = .ins → lastSt .none ops = .ins ∧ xe = i) ∧ (L = .del → lastSt .none ops = .del ∧ ye = j)

variable {sc cl x y}

theorem Wit.named {L : St} {i j : Nat} {v : Int} (h : Wit sc cl x y L i j v) :
    ∃ xs xe ys ye ops, WitAt sc cl x y L i j v xs xe ys ye ops := by
  obtain ⟨xs, xe, ys, ye, ops, c, h⟩ := h
  exact ⟨xs, xe, ys, ye, ops, c, h⟩

theorem WitAt.wit {L : St} {i j : Nat} {v : Int} {xs xe ys ye : Nat} {ops : List Op}
    (h : WitAt sc cl x y L i j v xs xe ys ye ops) : Wit sc cl x y L i j v := by
  obtain ⟨c, h⟩ := h
  exact ⟨xs, xe, ys, ye, ops, c, h⟩

/-- the layer of a witness may be renamed to any layer its last operation and end point justify -/
theorem witAt_layer {L L' : St} {i j : Nat} {v : Int} {xs xe ys ye : Nat} {ops : List Op}
    (h : WitAt sc cl x y L i j v xs xe ys ye ops) (hI : L' = .ins → lastSt .none ops = .ins ∧ xe = i)
    (hD : L' = .del → lastSt .none ops = .del ∧ ye = j) : WitAt sc cl x y L' i j v xs xe ys ye ops := by
  obtain ⟨c, h1, h2, h3, h4, h5, h6, h7, h8, hsc, hle, _, _⟩ := h
  exact ⟨c, h1, h2, h3, h4, h5, h6, h7, h8, hsc, hle, hI, hD⟩

theorem witAt_none {L : St} {i j : Nat} {v : Int} {xs xe ys ye : Nat} {ops : List Op}
    (h : WitAt sc cl x y L i j v xs xe ys ye ops) : WitAt sc cl x y .none i j v xs xe ys ye ops :=
  witAt_layer h nofun nofun

theorem witAt_bounds {L : St} {i j : Nat} {v : Int} {xs xe ys ye : Nat} {ops : List Op}
    (h : WitAt sc cl x y L i j v xs xe ys ye ops) :
    xs ≤ xe ∧ xe ≤ i ∧ i ≤ x.length ∧ ys ≤ ye ∧ ye ≤ j ∧ j ≤ y.length := by
  obtain ⟨c, h1, h2, h3, h4, h5, h6, _⟩ := h
  exact ⟨h1, h2, h3, h4, h5, h6⟩

variable {L : St} {i j : Nat} {v : Int} {xs xe ys ye : Nat} {ops : List Op}

/-! The other clauses of `WitAt`, by name (`witAt_bounds`: the six inequalities), for the steps that read one or two of them.  The
transitions below (`witAt_mono`, `witAt_ins`, …, and `witAt_layer` above) are of the other kind: each consumes all twelve clauses
and issues a full witness again, so they open `h` by the whole pattern `⟨c, h1, …, h8, hsc, hle, hI, hD⟩` and close by the
anonymous constructor in the same order. -/

theorem WitAt.stop_x (h : WitAt sc cl x y L i j v xs xe ys ye ops) : xe < i → i = x.length := by
  obtain ⟨_, _, _, _, _, _, _, h7, _⟩ := h; exact h7

theorem WitAt.stop_y (h : WitAt sc cl x y L i j v xs xe ys ye ops) : ye < j → j = y.length := by
  obtain ⟨_, _, _, _, _, _, _, _, h8, _⟩ := h; exact h8

theorem WitAt.score (h : WitAt sc cl x y L i j v xs xe ys ye ops) :
    ∃ c, score sc .none (slice x xs xe) (slice y ys ye) ops = some c ∧
      v ≤ c + pre cl xs ys + (if xe < i then cl.xs else 0) + (if ye < j then cl.ys else 0) := by
  obtain ⟨c, _, _, _, _, _, _, _, _, hsc, hle, _⟩ := h; exact ⟨c, hsc, hle⟩

theorem WitAt.last_ins (h : WitAt sc cl x y .ins i j v xs xe ys ye ops) : lastSt .none ops = .ins ∧ xe = i := by
  obtain ⟨_, _, _, _, _, _, _, _, _, _, _, hI, _⟩ := h; exact hI rfl

theorem WitAt.last_del (h : WitAt sc cl x y .del i j v xs xe ys ye ops) : lastSt .none ops = .del ∧ ye = j := by
  obtain ⟨_, _, _, _, _, _, _, _, _, _, _, _, hD⟩ := h; exact hD rfl

theorem witAt_mono {v' : Int} (h : WitAt sc cl x y L i j v xs xe ys ye ops) (hv : v' ≤ v) :
    WitAt sc cl x y L i j v' xs xe ys ye ops := by
  obtain ⟨c, h1, h2, h3, h4, h5, h6, h7, h8, hsc, hle, hI, hD⟩ := h
  exact ⟨c, h1, h2, h3, h4, h5, h6, h7, h8, hsc, by omega, hI, hD⟩

theorem witAt_xe_eq (h : WitAt sc cl x y L i j v xs xe ys ye ops) (hi : i < x.length) : xe = i := by
  have := witAt_bounds h; have := h.stop_x; omega

theorem witAt_ye_eq (h : WitAt sc cl x y L i j v xs xe ys ye ops) (hj : j < y.length) : ye = j := by
  have := witAt_bounds h; have := h.stop_y; omega

/-- one more insertion: it extends the gap (for `gap_extend`) if the witness is one of the `I` layer, else it may open
one; `hv` bounds the new value for whichever of the two the last operation of the witness makes it -/
theorem witAt_ins {v' : Int} (h : WitAt sc cl x y L i j v xs xe ys ye ops) (hi : i < x.length)
    (hv : ∀ st, (L = .ins → st = .ins) → v' ≤ v + gapI sc st) :
    WitAt sc cl x y .ins (i + 1) j v' xs (xe + 1) ys ye (ops ++ [.ins]) := by
  have hxe := witAt_xe_eq h hi
  obtain ⟨c, h1, h2, h3, h4, h5, h6, h7, h8, hsc, hle, hI, _⟩ := h
  subst hxe
  have := hv (lastSt .none ops) fun e => (hI e).1
  refine ⟨c + gapI sc (lastSt .none ops), Nat.le_succ_of_le h1, Nat.le_refl _, hi, h4, h5, h6,
    fun h => absurd h (Nat.lt_irrefl _), h8, ?_, ?_, ?_, ?_⟩
  · rw [slice_succ x xs xe h1 hi]; exact score_snoc_ins sc _ _ ops c _ hsc
  · simp only [Nat.lt_irrefl, if_false] at hle ⊢
    generalize (if ye < j then cl.ys else 0) = t at hle ⊢
    omega
  · intro _; exact ⟨lastSt_append_singleton _ _ _, rfl⟩
  · intro h; cases h

theorem witAt_del {v' : Int} (h : WitAt sc cl x y L i j v xs xe ys ye ops) (hj : j < y.length)
    (hv : ∀ st, (L = .del → st = .del) → v' ≤ v + gapD sc st) :
    WitAt sc cl x y .del i (j + 1) v' xs xe ys (ye + 1) (ops ++ [.del]) := by
  have hye := witAt_ye_eq h hj
  obtain ⟨c, h1, h2, h3, h4, h5, h6, h7, h8, hsc, hle, _, hD⟩ := h
  subst hye
  have := hv (lastSt .none ops) fun e => (hD e).1
  refine ⟨c + gapD sc (lastSt .none ops), h1, h2, h3, Nat.le_succ_of_le h4, Nat.le_refl _, hj, h7,
    fun h => absurd h (Nat.lt_irrefl _), ?_, ?_, ?_, ?_⟩
  · rw [slice_succ y ys ye h4 hj]; exact score_snoc_del sc _ _ ops c _ hsc
  · simp only [Nat.lt_irrefl, if_false] at hle ⊢
    generalize (if xe < i then cl.xs else 0) = t at hle ⊢
    omega
  · intro h; cases h
  · intro _; exact ⟨lastSt_append_singleton _ _ _, rfl⟩

theorem witAt_diag {o : Op} (h : WitAt sc cl x y L i j v xs xe ys ye ops) (hi : i < x.length) (hj : j < y.length)
    (ho : (o = .mat ∧ x.getD i 0 = y.getD j 0) ∨ (o = .sub ∧ x.getD i 0 ≠ y.getD j 0)) :
    WitAt sc cl x y .none (i + 1) (j + 1) (v + sc.w (x.getD i 0) (y.getD j 0)) xs (xe + 1) ys (ye + 1) (ops ++ [o]) := by
  have hxe := witAt_xe_eq h hi
  have hye := witAt_ye_eq h hj
  obtain ⟨c, h1, h2, h3, h4, h5, h6, h7, h8, hsc, hle, _, _⟩ := h
  subst hxe; subst hye
  simp only [Nat.lt_irrefl, if_false] at hle
  refine ⟨c + sc.w (x.getD xe 0) (y.getD ye 0), Nat.le_succ_of_le h1, Nat.le_refl _, hi, Nat.le_succ_of_le h4,
    Nat.le_refl _, hj, fun h => absurd h (Nat.lt_irrefl _), fun h => absurd h (Nat.lt_irrefl _), ?_, ?_, nofun, nofun⟩
  · rw [slice_succ x xs xe h1 hi, slice_succ y ys ye h4 hj]
    rcases ho with ⟨rfl, hab⟩ | ⟨rfl, hab⟩
    · exact score_snoc_mat sc _ _ ops c _ _ hab hsc
    · exact score_snoc_sub sc _ _ ops c _ _ hab hsc
  · simp only [Nat.lt_irrefl, if_false]; omega

theorem witAt_xsuf (h : WitAt sc cl x y L i j v xs xe ys ye ops) (hi : i < x.length) :
    WitAt sc cl x y .none x.length j (v + cl.xs) xs i ys ye ops := by
  have hxe := witAt_xe_eq h hi
  obtain ⟨c, h1, h2, h3, h4, h5, h6, h7, h8, hsc, hle, _, _⟩ := h
  subst hxe
  refine ⟨c, h1, by omega, Nat.le_refl _, h4, h5, h6, fun _ => rfl, h8, hsc, ?_, nofun, nofun⟩
  simp only [Nat.lt_irrefl, if_false, hi, if_true] at hle ⊢
  generalize (if ye < j then cl.ys else 0) = t at hle ⊢
  omega

theorem witAt_ysuf (h : WitAt sc cl x y L i j v xs xe ys ye ops) (hj : j < y.length) :
    WitAt sc cl x y .none i y.length (v + cl.ys) xs xe ys j ops := by
  have hye := witAt_ye_eq h hj
  obtain ⟨c, h1, h2, h3, h4, h5, h6, h7, h8, hsc, hle, _, _⟩ := h
  subst hye
  refine ⟨c, h1, h2, h3, h4, by omega, Nat.le_refl _, h7, fun _ => rfl, hsc, ?_, nofun, nofun⟩
  simp only [Nat.lt_irrefl, if_false, hj, if_true] at hle ⊢
  generalize (if xe < i then cl.xs else 0) = t at hle ⊢
  omega

theorem wit_mono {v' : Int} (h : Wit sc cl x y L i j v) (hv : v' ≤ v) :
    Wit sc cl x y L i j v' := by
  obtain ⟨xs, xe, ys, ye, ops, h⟩ := h.named
  exact (witAt_mono h hv).wit

theorem wit_none (h : Wit sc cl x y L i j v) : Wit sc cl x y .none i j v := by
  obtain ⟨xs, xe, ys, ye, ops, h⟩ := h.named
  exact (witAt_none h).wit

/-- the empty alignment at `(i, j)`: clip both prefixes -/
theorem wit_pre (hi : i ≤ x.length) (hj : j ≤ y.length) : Wit sc cl x y .none i j (pre cl i j) := by
  refine ⟨i, i, j, j, [], 0, Nat.le_refl _, Nat.le_refl _, hi, Nat.le_refl _, Nat.le_refl _, hj, ?_, ?_, ?_, ?_, ?_, ?_⟩
  · intro h; omega
  · intro h; omega
  · simp [slice_self, score]
  · simp
  · intro h; cases h
  · intro h; cases h

theorem wit_ins_open (hgo : sc.go ≤ 0) (h : Wit sc cl x y L i j v)
    (hi : i < x.length) : Wit sc cl x y .ins (i + 1) j (v + sc.go + sc.ge) := by
  obtain ⟨xs, xe, ys, ye, ops, h⟩ := h.named
  exact (witAt_ins h hi fun st _ => by have := gapI_ge sc hgo st; omega).wit

theorem wit_ins_ext (h : Wit sc cl x y .ins i j v)
    (hi : i < x.length) : Wit sc cl x y .ins (i + 1) j (v + sc.ge) := by
  obtain ⟨xs, xe, ys, ye, ops, h⟩ := h.named
  exact (witAt_ins h hi fun st e => by rw [e rfl]; exact Int.le_refl _).wit

theorem wit_del_open (hgo : sc.go ≤ 0) (h : Wit sc cl x y L i j v)
    (hj : j < y.length) : Wit sc cl x y .del i (j + 1) (v + sc.go + sc.ge) := by
  obtain ⟨xs, xe, ys, ye, ops, h⟩ := h.named
  exact (witAt_del h hj fun st _ => by have := gapD_ge sc hgo st; omega).wit

theorem wit_del_ext (h : Wit sc cl x y .del i j v)
    (hj : j < y.length) : Wit sc cl x y .del i (j + 1) (v + sc.ge) := by
  obtain ⟨xs, xe, ys, ye, ops, h⟩ := h.named
  exact (witAt_del h hj fun st e => by rw [e rfl]; exact Int.le_refl _).wit

theorem wit_diag (h : Wit sc cl x y L i j v)
    (hi : i < x.length) (hj : j < y.length) :
    Wit sc cl x y .none (i + 1) (j + 1) (v + sc.w (x.getD i 0) (y.getD j 0)) := by
  obtain ⟨xs, xe, ys, ye, ops, h⟩ := h.named
  by_cases hab : x.getD i 0 = y.getD j 0
  · exact (witAt_diag h hi hj (Or.inl ⟨rfl, hab⟩)).wit
  · exact (witAt_diag h hi hj (Or.inr ⟨rfl, hab⟩)).wit

theorem wit_ins_chain (hgo : sc.go ≤ 0) (h : Wit sc cl x y L i j v) :
    ∀ k : Nat, i + (k + 1) ≤ x.length → Wit sc cl x y .ins (i + (k + 1)) j (v + sc.go + sc.ge * ((k : Int) + 1)) := by
  intro k
  induction k with
  | zero =>
    intro hk
    have := wit_ins_open hgo h (by omega)
    simpa using this
  | succ k ih =>
    intro hk
    have := wit_ins_ext (ih (by omega)) (by omega)
    have e : i + (k + 1) + 1 = i + (k + 1 + 1) := by omega
    rw [e] at this
    refine wit_mono this ?_
    push_cast
    rw [mul_add_one _ ((k : Int) + 1)]; omega

theorem wit_del_chain (hgo : sc.go ≤ 0) (h : Wit sc cl x y L i j v) :
    ∀ k : Nat, j + (k + 1) ≤ y.length → Wit sc cl x y .del i (j + (k + 1)) (v + sc.go + sc.ge * ((k : Int) + 1)) := by
  intro k
  induction k with
  | zero =>
    intro hk
    have := wit_del_open hgo h (by omega)
    simpa using this
  | succ k ih =>
    intro hk
    have := wit_del_ext (ih (by omega)) (by omega)
    have e : j + (k + 1) + 1 = j + (k + 1 + 1) := by omega
    rw [e] at this
    refine wit_mono this ?_
    push_cast
    rw [mul_add_one _ ((k : Int) + 1)]; omega

theorem wit_corner (h : Wit sc cl x y L x.length y.length v) :
    ∃ a c, IsAln x y a ∧ AlnScore sc cl x y a c ∧ v ≤ c := by
  obtain ⟨xs, xe, ys, ye, ops, c, h1, h2, h3, h4, h5, h6, h7, h8, hsc, hle, _, _⟩ := h
  refine ⟨⟨xs, xe, ys, ye, ops⟩, c + clipPen cl x.length y.length xs xe ys ye, ⟨h1, h2, h4, h5, ?_⟩, ⟨c, hsc, rfl⟩, ?_⟩
  · exact (valid_iff_score sc .none _ _ _).mpr ⟨c, hsc⟩
  · rw [clipPen_eq_pre]; omega

end

end RbV.Model.PairwiseFill
