import RbV.Lemmas.PoaBandedFull
/-!
# `custom` with all clip penalties at `MIN_SCORE` (= `Aligner::global`) computes the table of the clip-free model

when no score comes near `MIN_SCORE`: `gap ≤ 0`, substitution scores `≤ W`, and
`MIN_SCORE < (m + n + 1)·gap − n·W`.  Then every clip candidate loses (prefix clips against the lower bound
`(v+1+j)·gap` of a cell, suffix clips because `column maximum + MIN_SCORE ≤ n·W + MIN_SCORE` is below it), so
the rows of `customTable` are the rows of `dpRows` and the reported scores agree.
-/
namespace RbV.Poa.Model
open RbV.NW

/-! ## upper bound `j·W` on the cells of the clip-free rows -/

theorem pcG_up (sc : Sc) (query : List Nat) (v r : Nat) (Lp : Nat → List Cell) (j p : Nat) (W : Int)
    (hw : ∀ a b, sc.w a b ≤ W) (hg : sc.gap ≤ 0)
    (h1 : ((Lp p).getD j mcell).score ≤ (j : Int) * W) (h2 : ((Lp p).getD (j + 1) mcell).score ≤ ((j + 1 : Nat) : Int) * W) :
    (pcG sc query v r Lp j p).score ≤ ((j + 1 : Nat) : Int) * W := by
  simp only [pcG, cmax_score]
  have := hw r (query.getD j 0)
  have e : ((j + 1 : Nat) : Int) * W = (j : Int) * W + W := by
    have : ((j + 1 : Nat) : Int) = (j : Int) + 1 := by omega
    rw [this, Int.add_mul, Int.one_mul]
  omega

theorem foldl_cmax_up (B : Int) (f : Nat → Cell) : ∀ (l : List Nat) (a : Cell), a.score ≤ B → (∀ p ∈ l, (f p).score ≤ B) →
    (l.foldl (fun acc p => cmax acc (f p)) a).score ≤ B := by
  intro l
  induction l with
  | nil => intro a h _; exact h
  | cons x l ih =>
    intro a h1 h2
    simp only [List.foldl_cons]
    apply ih
    · rw [cmax_score]
      have := h2 x (by simp)
      omega
    · intro p hp; exact h2 p (List.mem_cons_of_mem _ hp)

theorem gCol_up (sc : Sc) (query : List Nat) (r0 : List Cell) (v r : Nat) (Lp : Nat → List Cell) (j : Nat) (ps : List Nat)
    (W : Int) (hW : 0 ≤ W) (hw : ∀ a b, sc.w a b ≤ W) (hg : sc.gap ≤ 0)
    (h0 : (r0.getD j mcell).score ≤ 0)
    (hp : ∀ p ∈ ps, ((Lp p).getD j mcell).score ≤ (j : Int) * W ∧ ((Lp p).getD (j + 1) mcell).score ≤ ((j + 1 : Nat) : Int) * W) :
    (gCol sc query r0 v r Lp j ps).score ≤ ((j + 1 : Nat) : Int) * W := by
  cases ps with
  | nil =>
    simp only [gCol]
    have := hw r (query.getD j 0)
    have h3 := col_le (B := W) (j := 1) (n := j + 1) hW (by omega)
    simp only [Int.natCast_one, Int.one_mul] at h3
    omega
  | cons p rest =>
    simp only [gCol]
    apply foldl_cmax_up
    · exact pcG_up sc query v r Lp j p W hw hg (hp p (by simp)).1 (hp p (by simp)).2
    · intro p' hp'
      have := hp p' (List.mem_cons_of_mem _ hp')
      exact pcG_up sc query v r Lp j p' W hw hg this.1 this.2

theorem insScan_up (gap W : Int) (hg : gap ≤ 0) (hW : 0 ≤ W) (iOp : POp) (cs : List Cell) (left : Cell) (c : Nat)
    (hl : left.score ≤ (c : Int) * W) (hc : ∀ k, k < cs.length → (cs.getD k mcell).score ≤ ((c + 1 + k : Nat) : Int) * W)
    (k : Nat) (hk : k < cs.length) : ((insScan gap iOp left cs).getD k mcell).score ≤ ((c + 1 + k : Nat) : Int) * W := by
  have := insScan_ind gap iOp mcell (fun j x => x.score ≤ (j : Int) * W) cs left c hl
    (fun k hk l hl => by
      have h1 := hc k hk
      have h2 := col_le (B := W) (j := c + k) (n := c + k + 1) hW (by omega)
      rw [Nat.add_right_comm] at h1
      rw [cmax_score]
      simp only at hl ⊢
      omega) k hk
  rwa [Nat.add_right_comm] at this

theorem nodeRow_up (sc : Sc) (query : List Nat) (r0 : List Cell) (v r : Nat) (ps : List Nat) (Lp : Nat → List Cell)
    (W : Int) (hW : 0 ≤ W) (hw : ∀ a b, sc.w a b ≤ W) (hg : sc.gap ≤ 0)
    (h0 : r0.length = query.length + 1) (h0up : ∀ j, (r0.getD j mcell).score ≤ 0)
    (hp : ∀ p ∈ ps, (Lp p).length = query.length + 1 ∧ ∀ j, j ≤ query.length → ((Lp p).getD j mcell).score ≤ (j : Int) * W) :
    ∀ j, j ≤ query.length → ((nodeRow sc query r0 v r (ps.map fun p => (p, Lp p))).getD j mcell).score ≤ (j : Int) * W := by
  intro j hj
  rw [nodeRow_eq]
  have hc0 : (col0 sc.gap v).score ≤ ((0 : Nat) : Int) * W := by
    simp only [col0, Int.natCast_zero, Int.zero_mul]
    have : (0 : Int) ≤ (v : Int) + 1 := by omega
    exact Int.mul_nonpos_of_nonneg_of_nonpos this hg
  cases j with
  | zero => simpa using hc0
  | succ j =>
    simp only [List.getD_cons_succ]
    obtain ⟨g1, g2⟩ := nodeCands_spec sc query r0 v r ps Lp h0 (fun p h => (hp p h).1)
    have := insScan_up sc.gap W hg hW (.i (some v)) (nodeCands sc query r0 v r (ps.map fun p => (p, Lp p)))
      (col0 sc.gap v) 0 hc0
      (fun k hk => by
        rw [g1] at hk
        rw [g2 k hk]
        have := gCol_up sc query r0 v r Lp k ps W hW hw hg (h0up k)
          (fun p h => ⟨(hp p h).2 k (by omega), (hp p h).2 (k + 1) (by omega)⟩)
        simpa [Nat.add_comm] using this)
      j (by rw [g1]; omega)
    simpa [Nat.add_comm] using this

theorem row0From_nonpos (gap : Int) (hg : gap ≤ 0) : ∀ (n k : Nat), ∀ c ∈ row0From gap k n, c.score ≤ 0 := by
  intro n
  induction n with
  | zero => intro k c h; simp [row0From] at h
  | succ n ih =>
    intro k c h
    simp only [row0From, List.mem_cons] at h
    rcases h with rfl | h
    · simp only
      have : (0 : Int) ≤ (k : Int) + 1 := by omega
      exact Int.mul_nonpos_of_nonneg_of_nonpos this hg
    · exact ih _ c h

theorem row0_up (gap : Int) (hg : gap ≤ 0) (n j : Nat) : ((row0 gap n).getD j mcell).score ≤ 0 := by
  rcases List.getD_eq_or_mem (row0 gap n) j mcell with h | h
  · rw [h]; decide
  · generalize (row0 gap n).getD j mcell = c at h
    simp only [row0, List.mem_cons] at h
    rcases h with h | h
    · rw [h]; simp
    · exact row0From_nonpos gap hg _ _ _ h

/-! ## one row of `custom` with `MIN_SCORE` clips -/

theorem cNodeRow_cells (sc : Sc) (query : List Nat) (r0 : List Cell) (r0b : BRow) (v r : Nat) (ps : List Nat)
    (Lp : Nat → List Cell) (Bp : Nat → BRow)
    (h0 : Rep query.length r0b r0) (hp : ∀ p ∈ ps, Rep query.length (Bp p) (Lp p))
    (hlow : ∀ p ∈ ps, ∀ j, j ≤ query.length → minScore ≤ ((Lp p).getD j mcell).score + sc.gap)
    (hc0 : minScore < ((v : Int) + 1) * sc.gap) :
    (cNodeRow sc minScore query r0b v r (ps.map fun p => (p, Bp p))).cells =
      nodeRow sc query r0 v r (ps.map fun p => (p, Lp p)) := by
  rw [nodeRow_eq]
  simp only [cNodeRow]
  rw [edgeCell_minclip sc v hc0, cCands_eq sc _ (by rw [cmax_score]; simp [mcell]) query r0 r0b v r ps Lp Bp h0 hp hlow]

/-! ## suffix clips that lose change nothing -/

theorem xSuffix_noop (xs U : Int) (lastI : Nat) (mcs : List (Int × Nat)) (cs : List Cell) (col : Nat) (mir : Int × Nat)
    (hlose : ∀ mc ∈ mcs, ∀ c ∈ cs, c.score > mc.1 + xs) (hup : ∀ c ∈ cs, c.score ≤ U) (h1 : 0 ≤ mir.1) (h2 : mir.1 ≤ U) :
    (xSuffix xs lastI col mcs cs mir).1 = cs ∧ 0 ≤ (xSuffix xs lastI col mcs cs mir).2.1 ∧
      (xSuffix xs lastI col mcs cs mir).2.1 ≤ U := by
  fun_induction xSuffix xs lastI col mcs cs mir with
  | case1 col mc mcs c cs mir hl rest mir' hx ih =>
    rw [hx] at ih
    obtain ⟨r1, r2⟩ := ih (fun a ha b hb => hlose a (List.mem_cons_of_mem _ ha) b (List.mem_cons_of_mem _ hb))
      (fun b hb => hup b (List.mem_cons_of_mem _ hb)) h1 h2
    exact ⟨congrArg (c :: ·) r1, r2⟩
  | case2 col mc mcs c cs mir hl maxcell mir1 rest mir' hx ih =>
    have hc : maxcell = c := cmax_right_low _ _ (hlose mc List.mem_cons_self c List.mem_cons_self)
    have hcu := hup c List.mem_cons_self
    rw [hx] at ih
    obtain ⟨r1, r2⟩ := ih (fun a ha b hb => hlose a (List.mem_cons_of_mem _ ha) b (List.mem_cons_of_mem _ hb))
      (fun b hb => hup b (List.mem_cons_of_mem _ hb)) (by simp only [mir1, hc]; split <;> omega)
      (by simp only [mir1, hc]; split <;> omega)
    exact ⟨by rw [hc]; exact congrArg (c :: ·) r1, r2⟩
  | case3 t x cs mir hn => exact ⟨rfl, h1, h2⟩

/-! ## the loop invariant `CInv`; the finished last row -/

/-- `RInv`, and `up`: `j·W` bounds every finished clip-free row from above; `mcb`: the column maxima lie in `[0, n·W]` -/
structure CInv (sc : Sc) (W : Int) (m n : Nat) (done : List Nat) (rowsG : Array (List Cell)) (st : CState) : Prop
    extends RInv sc m n done rowsG st.rows where
  up : ∀ u ∈ done, ∀ j, j ≤ n → ((rowsG.getD u []).getD j mcell).score ≤ (j : Int) * W
  mcb : ∀ mc ∈ st.maxcol, 0 ≤ mc.1 ∧ mc.1 ≤ (n : Int) * W

theorem custom_step (sc : Sc) (labels : List Nat) (es : WEdges) (query : List Nat) (W : Int)
    (hg : sc.gap ≤ 0) (hW : 0 ≤ W) (hw : ∀ a b, sc.w a b ≤ W)
    (hmin : minScore < ((labels.length + query.length + 1 : Nat) : Int) * sc.gap)
    (done : List Nat) (rowsG : Array (List Cell)) (st : CState) (v : Nat) (hpred : ∀ p ∈ inN es v, p ∈ done)
    (hdone : ∀ u ∈ done, u < labels.length) (hv : v < labels.length)
    (inv : CInv sc W labels.length query.length done rowsG st) :
    CInv sc W labels.length query.length (v :: done)
      (rowsG.setIfInBounds v (nodeRow sc query (row0 sc.gap query.length) v (labels.getD v 0)
        ((inN es v).map fun p => (p, rowsG.getD p []))))
      (cStep sc minScore labels es query (bRow0 sc.gap minScore query.length) st v) := by
  have h0 : Rep query.length (bRow0 sc.gap minScore query.length) (row0 sc.gap query.length) :=
    bRow0_rep sc.gap query.length (fun j _ h2 => low_of sc.gap hg j _ (by omega) hmin)
  have hp : ∀ p ∈ inN es v, Rep query.length (st.rows.getD p (emptyRow query.length)) (rowsG.getD p []) :=
    fun p hp => inv.rep p (hpred p hp)
  have hcells := cNodeRow_cells sc query (row0 sc.gap query.length) (bRow0 sc.gap minScore query.length) v
    (labels.getD v 0) (inN es v) (fun p => rowsG.getD p []) (fun p => st.rows.getD p (emptyRow query.length))
    h0 hp (fun p hp => inv.toRInv.pred_low hg hmin p (hpred p hp) (hdone p (hpred p hp))) (col0_low hg hmin hv)
  have hlen := nodeRow_length sc query (row0 sc.gap query.length) v (labels.getD v 0) (inN es v)
    (fun p => rowsG.getD p []) h0.len (fun p h => (hp p h).len)
  have hup := nodeRow_up sc query (row0 sc.gap query.length) v (labels.getD v 0) (inN es v)
    (fun p => rowsG.getD p []) W hW hw hg h0.len (row0_up sc.gap hg query.length)
    (fun p h => ⟨(hp p h).len, inv.up p (hpred p h)⟩)
  refine ⟨?_, ?_, ?_⟩
  · simp only [cStep]
    exact inv.toRInv.step hv _ _ ⟨rfl, by simp [cNodeRow], hcells, hlen⟩
      (fun j hj => nodeRow_low sc query _ v _ _ j (by rw [hlen]; omega))
  · intro u hu j hj
    by_cases huv : u = v
    · subst huv
      rw [getD_setIfInBounds_self _ (inv.sizeG ▸ hv)]
      exact hup j hj
    · rw [getD_setIfInBounds_ne _ huv]
      exact inv.up u ((List.mem_cons.mp hu).resolve_left huv) j hj
  · refine cStep_maxcol_bound _ sc minScore labels es query _ st v inv.mcb fun c hcm => ?_
    rw [hcells] at hcm
    obtain ⟨k, hk, e⟩ := List.exists_getD_of_mem _ mcell (List.mem_of_mem_tail hcm)
    rw [hlen] at hk
    have h1 := hup k (by omega)
    rw [e] at h1
    have h2 := col_le (B := W) (j := k) (n := query.length) hW (by omega)
    omega

/-- suffix clips that lose leave the cells `Traceback::get` reads from the last row -/
theorem finishCells_noop (xs ys U : Int) (n lastI : Nat) (maxcol : List (Int × Nat)) (row : BRow) (cells : List Cell)
    (hcells : (List.range (n + 1)).map row.get = cells) (hlen : cells.length = n + 1)
    (hlose : ∀ mc ∈ maxcol, ∀ c ∈ cells, c.score > mc.1 + xs) (hup : ∀ c ∈ cells, c.score ≤ U) (hU : 0 ≤ U)
    (hy : ∀ c ∈ cells, c.score > U + ys) : finishCells xs ys n lastI maxcol row = cells := by
  obtain ⟨x1, _, x3⟩ := xSuffix_noop xs U lastI maxcol cells 0 (0, 0) hlose hup (Int.le_refl _) hU
  simp only [finishCells, hcells]
  generalize xSuffix xs lastI 0 maxcol cells (0, 0) = X at x1 x3
  rw [x1]
  split
  · have hn : n < cells.length := by omega
    have e : cells.getD n mcell = cells[n] := by simp [List.getD_eq_getElem?_getD, List.getElem?_eq_getElem hn]
    have := hy _ (List.getElem_mem hn)
    rw [e, cmax_right_low _ _ (by simp only; omega)]
    exact List.set_getElem_self hn
  · rfl

theorem customAlign_fst (sc : Sc) (xp xs yp ys : Int) (labels : List Nat) (es : WEdges) (query : List Nat) :
    (customAlign sc xp xs yp ys labels es query).1 = (customTable sc xp xs yp ys labels es query).score := by
  simp only [customAlign]

/-- **`Aligner::global` in the faithful model reports the score of the clip-free model** -/
theorem customScore_minclips (sc : Sc) (labels : List Nat) (es : WEdges) (query : List Nat) (W : Int)
    (hd : Dag { labels := labels, es := es }) (hg : sc.gap ≤ 0) (hW : 0 ≤ W) (hw : ∀ a b, sc.w a b ≤ W)
    (hmin : minScore < ((labels.length + query.length + 1 : Nat) : Int) * sc.gap - (query.length : Int) * W) :
    (customAlign sc minScore minScore minScore minScore labels es query).1 = (globalAlign sc labels es query).1 := by
  have hnW : 0 ≤ (query.length : Int) * W := Int.mul_nonneg (by omega) hW
  have hmin' : minScore < ((labels.length + query.length + 1 : Nat) : Int) * sc.gap := by omega
  obtain ⟨done, inv, hlast, hlt⟩ := dag_fold hd _ _ (CInv sc W labels.length query.length)
    (custom_step sc labels es query W hg hW hw hmin') (Array.replicate labels.length [])
    { rows := Array.replicate labels.length (emptyRow query.length),
      maxcol := List.replicate (query.length + 1) ((0 : Int), 0) }
    ⟨⟨by simp, by simp, by simp, by simp⟩, by simp, by
      intro mc hmc
      rw [List.mem_replicate] at hmc
      rw [hmc.2]
      exact ⟨Int.le_refl _, hnW⟩⟩
  rw [customAlign_fst, customTable_eq]
  simp only [globalAlign, dpRows, BTable.score, BTable.cell, Table.cell, Nat.succ_ne_zero, if_false, Nat.add_sub_cancel]
  change CInv sc W labels.length query.length done _ (customSt sc minScore minScore labels es query) at inv
  generalize (topo labels.length es).getLastD 0 = L at hlast ⊢
  have hLlt := hlt L hlast
  have hrep := inv.rep L hlast
  have hlow := inv.low L hlast
  have hup := inv.up L hlast
  generalize customSt sc minScore minScore labels es query = st at inv hrep ⊢
  generalize ((topo labels.length es).foldl _ (Array.replicate labels.length [])).getD L [] = LG at hrep hlow hup ⊢
  -- the cells read from the finished last row are the clip-free row, bounded on both sides
  have hcells : (List.range (query.length + 1)).map (st.rows.getD L (emptyRow query.length)).get = LG := by
    rw [map_get_range _ _ hrep.start hrep.stop (by rw [hrep.cells]; exact hrep.len)]; exact hrep.cells
  have hmemb : ∀ c ∈ LG, ((labels.length + query.length : Nat) : Int) * sc.gap ≤ c.score ∧
      c.score ≤ (query.length : Int) * W := by
    intro c hc
    obtain ⟨k, hk, e⟩ := List.exists_getD_of_mem _ mcell hc
    rw [hrep.len] at hk
    have h1 := hlow k (by omega)
    have h2 := hup k (by omega)
    rw [e] at h1 h2
    have h3 := col_le (B := W) (j := k) (n := query.length) hW (by omega)
    have h4 : ((labels.length + query.length : Nat) : Int) * sc.gap ≤ ((L + 1 + k : Nat) : Int) * sc.gap :=
      Int.mul_le_mul_of_nonpos_right (by omega) hg
    have e2 : ((L + 1 + k : Nat) : Int) = (L : Int) + 1 + k := by omega
    rw [e2] at h4
    exact ⟨by omega, by omega⟩
  have hA : ((labels.length + query.length + 1 : Nat) : Int) * sc.gap ≤ ((labels.length + query.length : Nat) : Int) * sc.gap :=
    Int.mul_le_mul_of_nonpos_right (by omega) hg
  rw [finishCells_noop minScore minScore ((query.length : Int) * W) query.length (L + 1) st.maxcol _ LG hcells hrep.len
    (fun mc hmc c hc => by have := inv.mcb mc hmc; have := hmemb c hc; omega) (fun c hc => (hmemb c hc).2) hnW
    (fun c hc => by have := hmemb c hc; omega)]
  rw [getD_setIfInBounds_self _ (inv.sizeB ▸ hLlt),
    Rep.get ⟨rfl, Nat.le_refl _, rfl, hrep.len⟩ query.length (Nat.le_refl _)]
  rw [getD_default_irrel LG query.length mcell ⟨0, .m none⟩ (by rw [hrep.len]; omega)]

end RbV.Poa.Model
