import RbV.Spec.QGram
import RbV.Lemmas.QGram
/-! `exactMatchesRef` (maximal runs of consecutive q-gram hits on a diagonal) = maximal exact matches of
length ≥ q, when no q-gram is masked. Core Lean only. -/
namespace RbV.QGram

/-- `pat[ps .. ps+L)` and `text[ts .. ts+L)` exist and agree symbol by symbol -/
def Agree (pat text : List Nat) (ps ts L : Nat) : Prop :=
  ps + L ≤ pat.length ∧ ts + L ≤ text.length ∧ ∀ j, j < L → pat[ps + j]? = text[ts + j]?

/-- the symbols at `a` in the pattern and `b` in the text exist and are equal -/
def SymEq (pat text : List Nat) (a b : Nat) : Prop := a < pat.length ∧ b < text.length ∧ pat[a]? = text[b]?

/-- maximal exact match of length `L ≥ q`; `exact_matches_are_maximal_exact_matches` (`Thm/C19.lean`) states its unfolding -/
def IsMEM (q : Nat) (pat text : List Nat) (ps ts L : Nat) : Prop :=
  q ≤ L ∧ Agree pat text ps ts L ∧
  ¬ (0 < ps ∧ 0 < ts ∧ SymEq pat text (ps - 1) (ts - 1)) ∧ ¬ SymEq pat text (ps + L) (ts + L)

variable {pat text : List Nat}

theorem Agree.mono {ps ts L L' : Nat} (h : Agree pat text ps ts L) (hl : L' ≤ L) : Agree pat text ps ts L' :=
  ⟨by have := h.1; omega, by have := h.2.1; omega, fun j hj => h.2.2 j (by omega)⟩

theorem agree_split (ps ts a b : Nat) :
    Agree pat text ps ts (a + b) ↔ Agree pat text ps ts a ∧ Agree pat text (ps + a) (ts + a) b := by
  constructor
  · intro h
    refine ⟨h.mono (by omega), by have := h.1; omega, by have := h.2.1; omega, fun j hj => ?_⟩
    have := h.2.2 (a + j) (by omega)
    rwa [← Nat.add_assoc, ← Nat.add_assoc] at this
  · rintro ⟨h1, h2⟩
    refine ⟨by have := h2.1; omega, by have := h2.2.1; omega, fun j hj => ?_⟩
    by_cases hja : j < a
    · exact h1.2.2 j hja
    · have := h2.2.2 (j - a) (by omega)
      have e1 : ps + a + (j - a) = ps + j := by omega
      have e2 : ts + a + (j - a) = ts + j := by omega
      rwa [e1, e2] at this

theorem agree_one (a b : Nat) : Agree pat text a b 1 ↔ SymEq pat text a b := by
  unfold Agree SymEq
  constructor
  · rintro ⟨h1, h2, h3⟩; exact ⟨by omega, by omega, by simpa using h3 0 (by omega)⟩
  · rintro ⟨h1, h2, h3⟩
    refine ⟨by omega, by omega, fun j hj => ?_⟩
    have : j = 0 := by omega
    subst this; simpa using h3

theorem agree_succ (ps ts L : Nat) :
    Agree pat text ps ts (L + 1) ↔ Agree pat text ps ts L ∧ SymEq pat text (ps + L) (ts + L) := by
  rw [agree_split, agree_one]

theorem agree_shift (ps ts L : Nat) :
    Agree pat text ps ts (L + 1) ↔ SymEq pat text ps ts ∧ Agree pat text (ps + 1) (ts + 1) L := by
  rw [Nat.add_comm L 1, agree_split, agree_one]

theorem getElem?_window (q : Nat) (l : List Nat) (i j : Nat) :
    (window q l i)[j]? = if j < q then l[i + j]? else none := by
  unfold window
  rw [List.getElem?_take]
  split <;> simp [List.getElem?_drop]

/-- (i, p) is a q-gram hit -/
def Hit (q : Nat) (pat text : List Nat) (i p : Nat) : Prop := Agree pat text i p q

theorem window_eq_iff (q i p : Nat) :
    window q pat i = window q text p ↔ ∀ j, j < q → pat[i + j]? = text[p + j]? := by
  constructor
  · intro h j hj
    have := congrArg (fun l => l[j]?) h
    simpa [getElem?_window, hj] using this
  · intro h
    apply List.ext_getElem?
    intro j
    rw [getElem?_window, getElem?_window]
    split
    · exact h j (by assumption)
    · rfl

/-- `isHit` spelt out: both q-grams exist, are equal, and the q-gram is not masked -/
theorem isHit_iff_window (mc q : Nat) (i p : Nat) :
    isHit mc q pat text i p = true ↔
      i + q ≤ pat.length ∧ p + q ≤ text.length ∧ window q pat i = window q text p ∧
      (occurrences (window q pat i) text).length ≤ mc := by
  unfold isHit
  simp only [Bool.and_eq_true, decide_eq_true_eq, List.contains_iff_mem, mem_qgramPositions, OccursAt]
  constructor
  · rintro ⟨hi, ⟨hp, hw⟩, hc⟩
    rw [window_length hi] at hp hw
    exact ⟨hi, hp, hw.symm, hc⟩
  · rintro ⟨hi, hp, hw, hc⟩
    refine ⟨hi, ⟨?_, ?_⟩, hc⟩
    · rw [window_length hi]; exact hp
    · rw [window_length hi]; exact hw.symm

theorem isHit_iff (mc q : Nat) (hmc : ∀ g, (occurrences g text).length ≤ mc) (i p : Nat) :
    isHit mc q pat text i p = true ↔ Hit q pat text i p := by
  rw [isHit_iff_window, window_eq_iff]
  exact ⟨fun ⟨hi, hp, hw, _⟩ => ⟨hi, hp, hw⟩, fun ⟨hi, hp, hw⟩ => ⟨hi, hp, hw, hmc _⟩⟩

theorem mem_hits_iff (mc q : Nat) (i p : Nat) :
    (i, p) ∈ hits mc q pat text ↔ isHit mc q pat text i p = true := by
  unfold hits isHit
  simp only [List.mem_flatMap, List.mem_range, List.mem_map, Prod.mk.injEq, Bool.and_eq_true,
    decide_eq_true_eq, List.contains_iff_mem]
  constructor
  · rintro ⟨i', hi', p', hp', rfl, rfl⟩
    by_cases hq : q ≤ pat.length
    · exact ⟨by omega, hp'⟩
    · omega
  · rintro ⟨hi, hp⟩
    exact ⟨i, by omega, p, hp, rfl, rfl⟩

/-- `n ≥ 1` consecutive hits starting at (i, p) = agreement over `n − 1 + q` symbols -/
theorem hits_run_iff (q : Nat) (hq : 0 < q) (i p : Nat) (n : Nat) :
    (∀ j, j ≤ n → Hit q pat text (i + j) (p + j)) ↔ Agree pat text i p (n + q) := by
  constructor
  · -- position `t` lies in the hit that starts at `t` (first symbol), or, from `n` on, in the last hit
    intro h
    have hn := h n (Nat.le_refl n)
    refine ⟨by have := hn.1; omega, by have := hn.2.1; omega, fun t ht => ?_⟩
    by_cases htn : t < n
    · exact (h t (by omega)).2.2 0 hq
    · have := hn.2.2 (t - n) (by omega)
      rwa [show i + n + (t - n) = i + t by omega, show p + n + (t - n) = p + t by omega] at this
  · intro h j hj
    exact ((agree_split i p j q).mp (h.mono (by omega))).2

def recOf (q a p n : Nat) : ExactRec := (a, a + n + q, p, p + n + q)

/-- no hit directly before (a, p) on its diagonal -/
def LeftMax (H : List (Nat × Nat)) (a p : Nat) : Prop := ¬ (0 < a ∧ 0 < p ∧ (a - 1, p - 1) ∈ H)

/-- `n + 1` consecutive hits from (a, p), maximal on both sides -/
def IsRun (H : List (Nat × Nat)) (a p n : Nat) : Prop :=
  (∀ j, j ≤ n → (a + j, p + j) ∈ H) ∧ LeftMax H a p ∧ (a + n + 1, p + n + 1) ∉ H

theorem runLen_spec (mc q : Nat) (pat text : List Nat) :
    ∀ fuel i p, pat.length < i + fuel →
      (∀ j, j < runLen mc q pat text fuel i p → isHit mc q pat text (i + j) (p + j) = true) ∧
      ¬ isHit mc q pat text (i + runLen mc q pat text fuel i p) (p + runLen mc q pat text fuel i p) = true := by
  intro fuel
  induction fuel with
  | zero =>
    intro i p h
    simp only [runLen, Nat.add_zero]
    refine ⟨fun j hj => by omega, fun hh => ?_⟩
    unfold isHit at hh
    simp only [Bool.and_eq_true, decide_eq_true_eq] at hh
    omega
  | succ fuel ih =>
    intro i p h
    simp only [runLen]
    by_cases hh : isHit mc q pat text i p = true
    · simp only [hh, if_true]
      obtain ⟨h1, h2⟩ := ih (i + 1) (p + 1) (by omega)
      constructor
      · intro j hj
        cases j with
        | zero => exact hh
        | succ j =>
          have := h1 j (Nat.lt_of_succ_lt_succ hj)
          rwa [Nat.add_right_comm i 1 j, Nat.add_right_comm p 1 j] at this
      · rw [Nat.add_right_comm i 1, Nat.add_right_comm p 1] at h2; exact h2
    · have hh' : isHit mc q pat text i p = false := by simpa using hh
      simp only [hh', Bool.false_eq_true, if_false, Nat.add_zero]
      exact ⟨fun j hj => by omega, fun hx => by simp at hx⟩

/-- the reference reports exactly the records of the runs of the hit list -/
theorem exactMatchesRef_iff_run (mc q : Nat) (pat text : List Nat) (r : ExactRec) :
    r ∈ exactMatchesRef mc q pat text ↔ ∃ a p n, r = recOf q a p n ∧ IsRun (hits mc q pat text) a p n := by
  unfold exactMatchesRef
  simp only [List.mem_filterMap]
  constructor
  · rintro ⟨⟨i, p⟩, hmem, hres⟩
    have hhit : isHit mc q pat text i p = true := (mem_hits_iff mc q i p).mp hmem
    simp only at hres
    split at hres
    · cases hres
    · rename_i hleft
      simp only [Option.some.injEq] at hres
      obtain ⟨hrun, hstop⟩ := runLen_spec mc q pat text (pat.length + 1) i p (by omega)
      have hn : 0 < runLen mc q pat text (pat.length + 1) i p := by
        simp only [runLen, hhit, if_true]; omega
      obtain ⟨n, hn'⟩ : ∃ n, runLen mc q pat text (pat.length + 1) i p = n + 1 :=
        ⟨runLen mc q pat text (pat.length + 1) i p - 1, by omega⟩
      rw [hn'] at hrun hstop hres
      refine ⟨i, p, n, ?_, ?_, ?_, ?_⟩
      · rw [← hres]; rfl
      · intro j hj; exact (mem_hits_iff mc q _ _).mpr (hrun j (by omega))
      · rintro ⟨h1, h2, h3⟩
        apply hleft
        simp only [Bool.and_eq_true, decide_eq_true_eq]
        exact ⟨⟨h1, h2⟩, (mem_hits_iff mc q _ _).mp h3⟩
      · exact fun hin => hstop ((mem_hits_iff mc q _ _).mp hin)
  · rintro ⟨a, p, n, rfl, hrun, hleft, hstop⟩
    have h0 : (a, p) ∈ hits mc q pat text := by simpa using hrun 0 (by omega)
    refine ⟨(a, p), h0, ?_⟩
    simp only
    have hnl : ¬ ((decide (a > 0) && decide (p > 0) && isHit mc q pat text (a - 1) (p - 1)) = true) := by
      simp only [Bool.and_eq_true, decide_eq_true_eq]
      rintro ⟨⟨h1, h2⟩, h3⟩
      exact hleft ⟨h1, h2, (mem_hits_iff mc q _ _).mpr h3⟩
    rw [if_neg hnl]
    obtain ⟨hr, hs⟩ := runLen_spec mc q pat text (pat.length + 1) a p (by omega)
    have hlen : runLen mc q pat text (pat.length + 1) a p = n + 1 := by
      rcases Nat.lt_trichotomy (runLen mc q pat text (pat.length + 1) a p) (n + 1) with h | h | h
      · exfalso; apply hs
        exact (mem_hits_iff mc q _ _).mp (hrun _ (by omega))
      · exact h
      · exact absurd ((mem_hits_iff mc q _ _).mpr (hr (n + 1) h)) hstop
    simp only [hlen, recOf, Option.some.injEq, Prod.mk.injEq]
    exact ⟨trivial, rfl, trivial, rfl⟩

/-- when no q-gram is masked, a run of `n + 1` hits of the hit list is a maximal exact match of length `n + q` -/
theorem isRun_hits_iff (mc q : Nat) (hq : 0 < q) (hmc : ∀ g, (occurrences g text).length ≤ mc) (a p n : Nat) :
    IsRun (hits mc q pat text) a p n ↔ IsMEM q pat text a p (n + q) := by
  have hH : ∀ i j, (i, j) ∈ hits mc q pat text ↔ Hit q pat text i j :=
    fun i j => (mem_hits_iff mc q i j).trans (isHit_iff mc q hmc i j)
  have hrun := hits_run_iff (pat := pat) (text := text) q hq a p n
  unfold IsRun LeftMax IsMEM
  simp only [hH, hrun, Nat.le_add_left, true_and]
  refine and_congr_right fun hag => and_congr (not_congr (and_congr_right fun ha => and_congr_right fun hp => ?_)) (not_congr ?_)
  · -- one symbol to the left: `Agree (a-1) (p-1) (q+1)` splits off its first symbol
    have hsh := agree_shift (pat := pat) (text := text) (a - 1) (p - 1) q
    rw [Nat.sub_add_cancel ha, Nat.sub_add_cancel hp] at hsh
    exact ⟨fun h => (agree_one _ _).mp (Agree.mono h hq), fun h => (hsh.mpr ⟨h, hag.mono (Nat.le_add_left q n)⟩).mono (Nat.le_succ q)⟩
  · -- one symbol to the right: `Agree a p (n+q+1)` splits as `(n+1) + q` and as `(n+q) + 1`
    have e : n + 1 + q = n + q + 1 := by omega
    constructor
    · intro h
      have h1 : Agree pat text a p (n + 1 + q) := (agree_split a p (n + 1) q).mpr ⟨hag.mono (by omega), h⟩
      rw [e, agree_succ] at h1
      exact h1.2
    · intro h
      have h1 : Agree pat text a p (n + q + 1) := (agree_succ a p (n + q)).mpr ⟨hag, h⟩
      rw [← e, agree_split] at h1
      exact h1.2

theorem exactMatchesRef_iff_maximal (mc q : Nat) (hq : 0 < q) (hmc : ∀ g, (occurrences g text).length ≤ mc)
    (ps pe ts te : Nat) :
    (ps, pe, ts, te) ∈ exactMatchesRef mc q pat text ↔
      ∃ L, pe = ps + L ∧ te = ts + L ∧ IsMEM q pat text ps ts L := by
  rw [exactMatchesRef_iff_run mc q pat text]
  constructor
  · rintro ⟨a, p, n, hr, hrun⟩
    simp only [recOf, Prod.mk.injEq] at hr
    obtain ⟨rfl, rfl, rfl, rfl⟩ := hr
    exact ⟨n + q, Nat.add_assoc _ _ _, Nat.add_assoc _ _ _, (isRun_hits_iff mc q hq hmc _ _ n).mp hrun⟩
  · rintro ⟨L, rfl, rfl, hM⟩
    obtain ⟨n, rfl⟩ : ∃ n, L = n + q := ⟨L - q, by have := hM.1; omega⟩
    exact ⟨ps, ts, n, by simp only [recOf, Nat.add_assoc], (isRun_hits_iff mc q hq hmc ps ts n).mpr hM⟩

end RbV.QGram
