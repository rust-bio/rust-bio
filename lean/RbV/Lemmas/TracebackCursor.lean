import RbV.Lemmas.TracebackSound
/-!
The loop body of `traceback.rs: _traceback_at`, written once over what it uses of a `TracebackHandler` (`Cursor`: three tests, three
moves), for either order of the Ins / Del tests.  A handler whose tests are the comparisons of the neighbouring matrix cells and whose
moves keep its cursor invariant (`Reads`) follows the matrix rule: `Reads.sim` gives the `LoopSim` of `Lemmas/TracebackSound.lean`.
The single-word handler (`handler_reads`, `Lemmas/TracebackState.lean`) and the block-based one (`lhandler_reads`,
`Lemmas/TracebackLongStep.lean`) are the two instances; each supplies only its accessor lemmas.  Core Lean only.
-/
namespace RbV.Model.MyersTraceback
open RbV.EditDist

/-- what `_traceback_at` uses of a `TracebackHandler` -/
structure Cursor (H : Type) where
  fin : H → Bool
  /-- `left_block.dist.wrapping_add(1) == block.dist` -/
  sub : H → Bool
  /-- `block.pv & pos != 0` -/
  ins : H → Bool
  /-- `move_left_down_if_better()` -/
  ldb : H → Bool × H
  /-- `move_up(false); move_up_left(false); move_to_left()` -/
  diag : H → H
  /-- `move_up(true); move_up_left(true)` -/
  vert : H → H
  /-- `move_to_left()` -/
  left : H → H

/-- one pass through the body of `while !h.finished()` -/
def Cursor.iter {H : Type} (c : Cursor H) (df : Bool) (h : H) : Op × Bool × H :=
  if c.sub h then (Op.sub, true, c.diag h)
  else if df then
    match c.ldb h with
    | (true, h') => (Op.del, true, c.left h')
    | (false, h') => if c.ins h' then (Op.ins, false, c.vert h') else (Op.mat, true, c.diag h')
  else if c.ins h then (Op.ins, false, c.vert h)
  else
    match c.ldb h with
    | (true, h') => (Op.del, true, c.left h')
    | (false, h') => (Op.mat, true, c.diag h')

/-- the handler after the operation `o` -/
def Cursor.move {H : Type} (c : Cursor H) (h : H) : Op → H
  | Op.ins => c.vert h
  | Op.del => c.left (c.ldb h).2
  | _ => c.diag h

/-- an unsuccessful `move_left_down_if_better` leaves the handler alone: the pass is the choice and its move -/
theorem Cursor.iter_eq {H : Type} (c : Cursor H) (df : Bool) (h : H) (keep : (c.ldb h).1 = false → (c.ldb h).2 = h) :
    c.iter df h = (choose df (c.sub h) (c.ins h) (c.ldb h).1, choose df (c.sub h) (c.ins h) (c.ldb h).1 != Op.ins,
      c.move h (choose df (c.sub h) (c.ins h) (c.ldb h).1)) := by
  unfold Cursor.iter choose Cursor.move
  rcases hl : c.ldb h with ⟨b, h'⟩
  rw [hl] at keep
  cases b
  · obtain rfl : h' = h := keep rfl
    dsimp only
    cases c.sub h' <;> cases df <;> cases c.ins h' <;> rfl
  · dsimp only
    cases c.sub h <;> cases df <;> cases c.ins h <;> rfl

/-- at the cursor `(i + 1, j)` the tests of `c` are the comparisons of the matrix rule and its moves lead to the neighbouring cursor (as long
as no column left of `lo` is entered) -/
structure ReadsAt {H : Type} (c : Cursor H) (D : Nat → Nat → Nat) (lo : Nat) (Inv : Nat → Nat → H → Prop) (i j : Nat) (h : H) :
    Prop where
  more : c.fin h = false
  col0 : D i 0 + 1 = D (i + 1) 0
  sub : c.sub h = decide (j ≥ 1 ∧ D i (j - 1) + 1 = D (i + 1) j)
  ins : c.ins h = decide (D i j + 1 = D (i + 1) j)
  del : (c.ldb h).1 = decide (j ≥ 1 ∧ D (i + 1) (j - 1) + 1 = D i (j - 1))
  keep : (c.ldb h).1 = false → (c.ldb h).2 = h
  diag : lo + 1 ≤ j → Inv i (j - 1) (c.diag h)
  vert : D i j + 1 = D (i + 1) j → Inv i j (c.vert h)
  left : lo + 1 ≤ j → (c.ldb h).1 = true → Inv (i + 1) (j - 1) (c.left (c.ldb h).2)

structure Reads {H : Type} (c : Cursor H) (D : Nat → Nat → Nat) (lo : Nat) (Inv : Nat → Nat → H → Prop) : Prop where
  done : ∀ j h, Inv 0 j h → c.fin h = true
  cur : ∀ i j h, Inv (i + 1) j h → ReadsAt c D lo Inv i j h

/-- **such a handler follows the matrix rule**, whichever of Ins / Del is tested first -/
theorem Reads.sim {H : Type} {c : Cursor H} {D : Nat → Nat → Nat} {lo : Nat} {Inv : Nat → Nat → H → Prop} (r : Reads c D lo Inv)
    (df : Bool) : LoopSim c.fin (c.iter df) (ruleOpG df D) lo Inv where
  done := r.done
  col0 := fun i j h inv => by
    have := (r.cur i j h inv).col0
    rw [ruleOpG_eq_choose]
    cases df <;> simp [choose, this]
  step := fun i j h inv => by
    have a := r.cur i j h inv
    refine ⟨a.more, ?_⟩
    rw [c.iter_eq df h a.keep, ruleOpG_eq_choose, ← a.sub, ← a.ins, ← a.del]
    intro hlo
    refine ⟨rfl, rfl, ?_⟩
    cases ho : choose df (c.sub h) (c.ins h) (c.ldb h).1 <;> rw [ho] at hlo
    · exact a.diag (hlo (by decide))
    · exact a.diag (hlo (by decide))
    · exact a.vert (of_decide_eq_true (a.ins.symm.trans (choose_ins ho)))
    · exact a.left (hlo (by decide)) (choose_del ho)

end RbV.Model.MyersTraceback
