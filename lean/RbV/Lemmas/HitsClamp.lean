import RbV.Lemmas.UkkonenCell
/-!
A threshold above the pattern length is as good as the pattern length: no entry of the Sellers column exceeds `|p|`
(the pattern can always be aligned against the empty substring), so `hits w p t (min k |p|) = hits w p t k`.
Used by `ukkonen_source_exact` (C09): a text of `find_all_end` that clamps `k` to `m` first reports the same pairs.
Core Lean only.
-/
namespace RbV.EditDist

theorem hitsFrom_clamp (k m : Nat) : ∀ (l : List Nat) (off : Nat), (∀ d ∈ l, d ≤ m) →
    hitsFrom (min k m) off l = hitsFrom k off l := by
  intro l
  induction l with
  | nil => intro off _; simp [hitsFrom]
  | cons d r ih =>
    intro off h
    have hd : d ≤ m := h d (by simp)
    have hr := ih (off + 1) (fun x hx => h x (by simp [hx]))
    simp only [hitsFrom, hr]
    by_cases hk : d ≤ k
    · have : d ≤ min k m := by omega
      simp [hk, this]
    · have : ¬ d ≤ min k m := by omega
      simp [hk, this]

theorem lastRow_le (w : Nat → Nat → Nat) (p t : List Nat) : ∀ d ∈ lastRow w p t, d ≤ p.length := by
  intro d hd
  obtain ⟨i, hi, rfl⟩ := List.getElem_of_mem hd
  have hlen := lastRow_length w p t
  have hc := RbV.Model.Ukkonen.lastRow_cell w p t i (by omega)
  rw [List.getElem?_eq_getElem hi] at hc
  injection hc with hc
  rw [hc]
  exact Nat.le_trans (RbV.Model.Ukkonen.cell_le w p _ _) (Nat.min_le_right _ _)

theorem hits_clamp (w : Nat → Nat → Nat) (p t : List Nat) (k : Nat) : hits w p t (min k p.length) = hits w p t k := by
  unfold hits
  exact hitsFrom_clamp k p.length _ 0 (lastRow_le w p t)

end RbV.EditDist
