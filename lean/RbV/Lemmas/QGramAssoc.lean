import RbV.Model.QGramExact
import RbV.Model.QGramMatches
import RbV.Lemmas.QGram
/-! Association lists keyed by diagonals, as the models of `matches` and `exact_matches` keep them: lookup after an append
and after an update in place, keys, membership (`lookupD` of `Model/QGramMatches.lean` is `assocGet` on `MatchRec`).  Core
only. -/
namespace RbV.QGram

def AKeys {β : Type} (T : List (Int × β)) : List Int := T.map (·.1)

theorem assocGet_none_iff {β : Type} (d : Int) (T : List (Int × β)) : assocGet d T = none ↔ d ∉ AKeys T := by
  induction T with
  | nil => simp [assocGet, AKeys]
  | cons e T ih =>
    simp only [assocGet, AKeys, List.map_cons, List.mem_cons, not_or]
    split
    · rename_i h; simp [h]
    · rename_i h
      rw [ih]; unfold AKeys
      constructor
      · intro h'; exact ⟨fun hh => h hh.symm, h'⟩
      · intro h'; exact h'.2

/-- lookup after appending an entry under a key the table does not hold -/
theorem assocGet_append {β : Type} (d : Int) (T : List (Int × β)) (e : Int × β) (h : assocGet e.1 T = none) :
    assocGet d (T ++ [e]) = if d = e.1 then some e.2 else assocGet d T := by
  induction T with
  | nil => simp [assocGet, eq_comm]
  | cons a T ih =>
    simp only [assocGet] at h
    split at h
    · cases h
    · next hae =>
      simp only [List.cons_append, assocGet]
      by_cases had : a.1 = d
      · have : ¬ d = e.1 := fun hde => hae (had.trans hde)
        simp only [had, if_true, this, if_false]
      · simp only [had, if_false]; exact ih h

theorem assocGet_map {β : Type} (d d0 : Int) (f : β → β) (T : List (Int × β)) :
    assocGet d (T.map fun e => if e.1 = d0 then (e.1, f e.2) else e) =
      if d = d0 then (assocGet d T).map f else assocGet d T := by
  induction T with
  | nil => simp [assocGet]
  | cons a T ih =>
    simp only [List.map_cons, assocGet]
    by_cases h1 : a.1 = d0
    · simp only [h1, if_true]
      by_cases h2 : d0 = d
      · simp [h2]
      · have h2' : ¬ d = d0 := fun hh => h2 hh.symm
        simp only [h2, if_false, h2']
        rw [ih]; simp [h2']
    · simp only [h1, if_false]
      by_cases h2 : a.1 = d
      · have : ¬ d = d0 := by intro hh; rw [hh] at h2; exact h1 h2
        simp [h2, this]
      · simp only [h2, if_false]; exact ih

theorem assocGet_set {β : Type} (d d0 : Int) (v : β) (T : List (Int × β)) :
    assocGet d (assocSet d0 v T) = if d = d0 then (assocGet d T).map (fun _ => v) else assocGet d T :=
  assocGet_map d d0 (fun _ => v) T

/-- the form for a key the table holds -/
theorem assocGet_set_some {β : Type} {d0 : Int} {T : List (Int × β)} {m : β} (h : assocGet d0 T = some m) (d : Int) (v : β) :
    assocGet d (assocSet d0 v T) = if d = d0 then some v else assocGet d T := by
  rw [assocGet_set]; split
  · next e => rw [e, h]; rfl
  · rfl

theorem akeys_map {β : Type} (d : Int) (f : β → β) (T : List (Int × β)) :
    AKeys (T.map fun e => if e.1 = d then (e.1, f e.2) else e) = AKeys T := by
  unfold AKeys
  rw [List.map_map]
  apply List.map_congr_left
  intro e _
  simp only [Function.comp]
  split <;> rfl

theorem akeys_set {β : Type} (d : Int) (v : β) (T : List (Int × β)) : AKeys (assocSet d v T) = AKeys T :=
  akeys_map d (fun _ => v) T

theorem akeys_append {β : Type} {T : List (Int × β)} {d : Int} (hk : (AKeys T).Pairwise (· ≠ ·)) (h : assocGet d T = none)
    (v : β) : (AKeys (T ++ [(d, v)])).Pairwise (· ≠ ·) := by
  unfold AKeys at hk ⊢
  rw [List.map_append, List.pairwise_append]
  refine ⟨hk, List.pairwise_singleton _ _, fun a ha b hb => ?_⟩
  rw [List.mem_singleton.mp hb]
  exact fun (hab : a = d) => (assocGet_none_iff d T).mp h (hab ▸ ha)

theorem assocGet_mem {β : Type} {d : Int} {T : List (Int × β)} {m : β} (h : assocGet d T = some m) : (d, m) ∈ T := by
  induction T with
  | nil => simp [assocGet] at h
  | cons e T ih =>
    simp only [assocGet] at h
    split at h
    · next he => cases h; obtain ⟨a, b⟩ := e; simp at he; subst he; simp
    · exact List.mem_cons_of_mem _ (ih h)

theorem mem_iff_assocGet {β : Type} {T : List (Int × β)} (hk : (AKeys T).Pairwise (· ≠ ·)) (d : Int) (r : β) :
    (d, r) ∈ T ↔ assocGet d T = some r := by
  induction T with
  | nil => simp [assocGet]
  | cons e T ih =>
    unfold AKeys at hk
    rw [List.map_cons, List.pairwise_cons] at hk
    simp only [List.mem_cons, assocGet]
    by_cases h1 : e.1 = d
    · simp only [h1, if_true, Option.some.injEq]
      constructor
      · rintro (h | h)
        · rw [← h]
        · exfalso
          have := hk.1 d (List.mem_map.mpr ⟨(d, r), h, rfl⟩)
          exact this h1
      · intro h; left; rw [← h, ← h1]
    · simp only [h1, if_false]
      rw [← ih hk.2]
      constructor
      · rintro (h | h)
        · rw [← h] at h1; exact absurd rfl h1
        · exact h
      · intro h; right; exact h

theorem lookupD_eq_assocGet (d : Int) (T : List (Int × MatchRec)) : lookupD d T = assocGet d T := by
  induction T with
  | nil => rfl
  | cons e T ih => simp only [lookupD, assocGet, ih]

end RbV.QGram
