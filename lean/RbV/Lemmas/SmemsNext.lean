import RbV.Model.Smems
/-!
# The running maximum `next_i0` of `all_smems` (C06)

`for (_, p, l) in curr_smems.iter() { if p + l > next_i0 { next_i0 = p + l } }` as a fold, for any measure `f`:
it is at least the start value and every `f h`, and it is one of them (`foldl_next`); so the order of the list does not
matter (`foldl_next_perm`).  The model's `nextI0` is the instance `f h = h.pos + h.len` started at `i0 + 1` (`nextI0_eq`); the
translated matches use the same fold on tuples (`GenSrcFmdAllSmems.nextT`).
-/
namespace RbV.SmemModel

/-- the running maximum of `f` over `cs`, started at `n` -/
def runMax {α : Type} (f : α → Nat) (cs : List α) (n : Nat) : Nat := cs.foldl (fun nx h => if f h > nx then f h else nx) n

theorem nextI0_eq {ι : Type} (cs : List (Hit ι)) (i0 : Nat) : nextI0 cs i0 = runMax (fun h => h.pos + h.len) cs (i0 + 1) := rfl

theorem runMax_map {α β : Type} (f : α → Nat) (g : β → α) (cs : List β) (n : Nat) :
    runMax f (cs.map g) n = runMax (fun x => f (g x)) cs n := List.foldl_map

theorem foldl_next {α : Type} (f : α → Nat) : ∀ (cs : List α) (n : Nat),
    n ≤ runMax f cs n ∧ (∀ h ∈ cs, f h ≤ runMax f cs n) ∧ (runMax f cs n = n ∨ ∃ h ∈ cs, runMax f cs n = f h)
  | [], n => ⟨Nat.le_refl n, fun _ h => absurd h List.not_mem_nil, Or.inl rfl⟩
  | x :: rest, n => by
    have e : runMax f (x :: rest) n = runMax f rest (if f x > n then f x else n) := rfl
    rw [e]
    obtain ⟨h1, h2, h3⟩ := foldl_next f rest (if f x > n then f x else n)
    have hi : n ≤ (if f x > n then f x else n) ∧ f x ≤ (if f x > n then f x else n) := by split <;> omega
    refine ⟨Nat.le_trans hi.1 h1, fun h hh => ?_, ?_⟩
    · rcases List.mem_cons.mp hh with rfl | hh
      · exact Nat.le_trans hi.2 h1
      · exact h2 h hh
    · rcases h3 with h3 | ⟨h, hh, h3⟩
      · rw [h3]
        split
        · exact Or.inr ⟨x, List.mem_cons_self, rfl⟩
        · exact Or.inl rfl
      · exact Or.inr ⟨h, List.mem_cons_of_mem _ hh, h3⟩

theorem foldl_next_perm {α : Type} (f : α → Nat) {l1 l2 : List α} (h : l1.Perm l2) (n : Nat) :
    runMax f l1 n = runMax f l2 n := by
  have key : ∀ {a b : List α}, (∀ x ∈ a, x ∈ b) → runMax f a n ≤ runMax f b n := by
    intro a b hab
    obtain ⟨b1, b2, _⟩ := foldl_next f b n
    rcases (foldl_next f a n).2.2 with a3 | ⟨x, hx, a3⟩
    · rw [a3]; exact b1
    · rw [a3]; exact b2 x (hab x hx)
  exact Nat.le_antisymm (key fun x hx => h.mem_iff.mp hx) (key fun x hx => h.mem_iff.mpr hx)

end RbV.SmemModel
