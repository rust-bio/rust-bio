import RbV.Lemmas.KChainFwd
import RbV.Lemmas.LcskppEvents
/-! C19 — the table of the forward recurrence seen as a function of the match index, and as a fixed point: every cell is
`cellF` of the *whole* table (later matches cannot be predecessors).  The sweep proofs speak of three numbers per match `p`:
`F` its final score, `A` the best final score of a predecessor that does not overlap it (0 when there is none), `Bc` the final
score of its diagonal predecessor + 1 (0 when there is none); they are used through `F_rec` (`F = max (k + A) Bc`), `A_eq`, `Bc_eq`
and `F_le`.  Core Lean only. -/
namespace RbV.Lemmas.Lcskpp
open RbV.KChain RbV.Model.Lcskpp RbV.QGram

theorem cellF_cons_irrelevant {k : Nat} {T : List (M × Nat)} {e : M × Nat} {m : M}
    (h1 : nonov k e.1 m = false) (h2 : cont e.1 m = false) : cellF k (e :: T) m = cellF k T m := by
  unfold cellF; simp [h1, h2]

theorem tableR_fix {k : Nat} (hk : 0 < k) (rs : List M) (hs : rs.Pairwise (fun a b => b.1 ≤ a.1)) :
    ∀ m v, (m, v) ∈ tableR k rs → v = cellF k (tableR k rs) m := by
  induction rs with
  | nil => intro m v h; cases h
  | cons m0 rest ih =>
    rw [List.pairwise_cons] at hs
    intro m v hmv
    simp only [tableR, List.mem_cons] at hmv
    have hirr : ∀ m : M, m.1 ≤ m0.1 → cellF k ((m0, cellF k (tableR k rest) m0) :: tableR k rest) m = cellF k (tableR k rest) m := by
      intro m hm
      apply cellF_cons_irrelevant
      · simp only [nonov, Bool.and_eq_false_iff, decide_eq_false_iff_not]; omega
      · simp only [cont, Bool.and_eq_false_iff, beq_eq_false_iff_ne, ne_eq]; omega
    rcases hmv with heq | hT
    · have hm : m = m0 := congrArg Prod.fst heq
      have hv : v = cellF k (tableR k rest) m0 := congrArg Prod.snd heq
      subst hm
      simp only [tableR]
      rw [hirr m (Nat.le_refl _)]; exact hv
    · simp only [tableR]
      rw [hirr m (hs.1 m (entry_memR hT))]
      exact ih hs.2 m v hT

theorem tableR_unique {k : Nat} {rs : List M} (hn : rs.Nodup) {m : M} {v v' : Nat}
    (h1 : (m, v) ∈ tableR k rs) (h2 : (m, v') ∈ tableR k rs) : v = v' := by
  induction rs with
  | nil => cases h1
  | cons m0 rest ih =>
    rw [List.nodup_cons] at hn
    simp only [tableR, List.mem_cons] at h1 h2
    rcases h1 with h1 | h1 <;> rcases h2 with h2 | h2
    · exact (Prod.mk.inj (h1.trans h2.symm)).2
    · have : m = m0 := congrArg Prod.fst h1
      subst this; exact absurd (entry_memR h2) hn.1
    · have : m = m0 := congrArg Prod.fst h2
      subst this; exact absurd (entry_memR h1) hn.1
    · exact ih hn.2 h1 h2

/-- the final `dp[p].0` the recurrence prescribes -/
def F (ms : List M) (k p : Nat) : Nat := (dpScores ms k).getD p 0

theorem tableR_length (k : Nat) (rs : List M) : (tableR k rs).length = rs.length := by
  have := congrArg List.length (tableR_fst k rs)
  simpa using this

theorem dpScores_length (ms : List M) (k : Nat) : (dpScores ms k).length = ms.length := by
  simp [dpScores, tableR_length]

theorem mem_table_F {ms : List M} {k p : Nat} (hp : p < ms.length) :
    (mAt ms p, F ms k p) ∈ tableR k ms.reverse := by
  have hl := tableR_length k ms.reverse
  have hi : ms.length - 1 - p < (tableR k ms.reverse).length := by rw [hl]; simp; omega
  have hmem := List.getElem_mem hi
  have hfst : ((tableR k ms.reverse)[ms.length - 1 - p]'hi).1 = mAt ms p := by
    have h1 : ((tableR k ms.reverse).map (·.1))[ms.length - 1 - p]'(by simpa using hi) = ms.reverse[ms.length - 1 - p]'(by simp; omega) := by
      simp only [tableR_fst]
    rw [List.getElem_map] at h1
    rw [h1, List.getElem_reverse]
    unfold mAt
    rw [List.getD_eq_getElem?_getD, List.getElem?_eq_getElem hp]
    simp only [Option.getD_some]
    congr 1; omega
  have hsnd : ((tableR k ms.reverse)[ms.length - 1 - p]'hi).2 = F ms k p := by
    unfold F dpScores
    rw [List.getD_eq_getElem?_getD, List.getElem?_eq_getElem (by simp [tableR_length]; exact hp)]
    simp only [Option.getD_some, List.getElem_reverse, List.getElem_map, List.length_map]
    have e : (tableR k ms.reverse).length - 1 - p = ms.length - 1 - p := by rw [hl]; simp
    simp only [e]
  have : (tableR k ms.reverse)[ms.length - 1 - p]'hi = (mAt ms p, F ms k p) := Prod.ext hfst hsnd
  rw [← this]; exact hmem

theorem entry_F {ms : List M} {k : Nat} (hs : ms.Pairwise lexLt) {m : M} {w : Nat}
    (h : (m, w) ∈ tableR k ms.reverse) : ∃ r, r < ms.length ∧ mAt ms r = m ∧ w = F ms k r := by
  have hm : m ∈ ms := by simpa using entry_memR h
  obtain ⟨r, hr, rfl⟩ := exists_mAt hm
  refine ⟨r, hr, rfl, ?_⟩
  exact tableR_unique ((List.reverse_perm ms).nodup_iff.mpr (nodup_of_lex hs)) h (mem_table_F hr)

/-- best finished non-overlapping predecessor of match `p` (0 when there is none) -/
def A (ms : List M) (k p : Nat) : Nat :=
  max0 (((tableR k ms.reverse).filter (fun e => nonov k e.1 (mAt ms p))).map (·.2))

/-- diagonal predecessor + 1 (0 when there is none) -/
def Bc (ms : List M) (k p : Nat) : Nat :=
  max0 (((tableR k ms.reverse).filter (fun e => cont e.1 (mAt ms p))).map (fun e => e.2 + 1))

/-- what a cell maximises over, by match index: the entries of the table whose match satisfies `P`, seen through `g` -/
theorem mem_cands {ms : List M} {k : Nat} (hs : ms.Pairwise lexLt) (P : M → Bool) (g : Nat → Nat) (a : Nat) :
    a ∈ ((tableR k ms.reverse).filter (fun e => P e.1)).map (fun e => g e.2) ↔
      ∃ r, r < ms.length ∧ P (mAt ms r) = true ∧ g (F ms k r) = a := by
  constructor
  · intro ha
    rcases List.mem_map.mp ha with ⟨⟨m, w⟩, hmw, rfl⟩
    rcases List.mem_filter.mp hmw with ⟨hT, hn⟩
    obtain ⟨r, hr, rfl, rfl⟩ := entry_F hs hT
    exact ⟨r, hr, hn, rfl⟩
  · rintro ⟨r, hr, hn, rfl⟩
    exact List.mem_map.mpr ⟨(mAt ms r, F ms k r), List.mem_filter.mpr ⟨mem_table_F hr, hn⟩, rfl⟩

theorem max0_cands_eq {ms : List M} {k v : Nat} (hs : ms.Pairwise lexLt) (P : M → Bool) (g : Nat → Nat)
    (hub : ∀ r, r < ms.length → P (mAt ms r) = true → g (F ms k r) ≤ v)
    (hat : v = 0 ∨ ∃ r, r < ms.length ∧ P (mAt ms r) = true ∧ g (F ms k r) = v) :
    max0 (((tableR k ms.reverse).filter (fun e => P e.1)).map (fun e => g e.2)) = v := by
  apply max0_eq_of
  · intro a ha
    obtain ⟨r, hr, hn, rfl⟩ := (mem_cands hs P g a).mp ha
    exact hub r hr hn
  · exact hat.imp id (fun h => (mem_cands hs P g v).mpr h)

theorem F_rec {ms : List M} {k p : Nat} (hk : 0 < k) (hs : ms.Pairwise lexLt) (hp : p < ms.length) :
    F ms k p = max (k + A ms k p) (Bc ms k p) :=
  tableR_fix hk ms.reverse (List.pairwise_reverse.mpr (sorted_x_of_lex hs)) _ _ (mem_table_F hp)

theorem k_le_F {ms : List M} {k p : Nat} (hk : 0 < k) (hs : ms.Pairwise lexLt) (hp : p < ms.length) : k ≤ F ms k p := by
  rw [F_rec hk hs hp]; omega

theorem A_eq {ms : List M} {k p v : Nat} (hs : ms.Pairwise lexLt)
    (hub : ∀ r, r < ms.length → nonov k (mAt ms r) (mAt ms p) = true → F ms k r ≤ v)
    (hat : v = 0 ∨ ∃ r, r < ms.length ∧ nonov k (mAt ms r) (mAt ms p) = true ∧ F ms k r = v) : A ms k p = v :=
  max0_cands_eq hs (fun m => nonov k m (mAt ms p)) (fun w => w) hub hat

theorem Bc_eq {ms : List M} {k p v : Nat} (hs : ms.Pairwise lexLt)
    (hub : ∀ r, r < ms.length → cont (mAt ms r) (mAt ms p) = true → F ms k r + 1 ≤ v)
    (hat : v = 0 ∨ ∃ r, r < ms.length ∧ cont (mAt ms r) (mAt ms p) = true ∧ F ms k r + 1 = v) : Bc ms k p = v :=
  max0_cands_eq hs (fun m => cont m (mAt ms p)) (· + 1) hub hat

/-- a chain ending at match `p` scores at most `min(x, y) + k`: the scores fit wherever the coordinates do -/
theorem F_le {ms : List M} {k : Nat} (hk : 0 < k) (hs : ms.Pairwise lexLt) :
    ∀ p, p < ms.length → F ms k p ≤ min (mAt ms p).1 (mAt ms p).2 + k := by
  intro p
  induction p using Nat.strongRecOn with
  | _ p ih =>
    intro hp
    rw [F_rec hk hs hp]
    -- a predecessor `r` lies before `p` in the list, so the bound holds for it; it ends `k` (resp. 1) before `p` in both coordinates
    have hA : A ms k p ≤ min (mAt ms p).1 (mAt ms p).2 := max0_le fun a ha => by
      obtain ⟨r, hr, hn, rfl⟩ := (mem_cands hs (fun m => nonov k m (mAt ms p)) (fun w => w) a).mp ha
      simp only [nonov, Bool.and_eq_true, decide_eq_true_eq] at hn
      have := ih r (idx_lt_of_x_lt hs hr (by omega)) hr
      omega
    have hB : Bc ms k p ≤ min (mAt ms p).1 (mAt ms p).2 + k := max0_le fun a ha => by
      obtain ⟨r, hr, hn, rfl⟩ := (mem_cands hs (fun m => cont m (mAt ms p)) (· + 1) a).mp ha
      simp only [cont, Bool.and_eq_true, beq_iff_eq] at hn
      have := ih r (idx_lt_of_x_lt hs hr (by omega)) hr
      omega
    omega

end RbV.Lemmas.Lcskpp
