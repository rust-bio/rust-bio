import RbV.Lemmas.TracebackLongStep
/-!
From `init_traceback` through the whole loop of `_traceback_at` with the block-based handler (C10, block-based handler):
for a hit (last-row value `≤ k`) the loop pushes the operations of the matrix walk `walkF` and counts its left
moves.  Core Lean only.
-/
namespace RbV.Model.MyersTracebackLong
open RbV.Model.MyersSimple (St)
open RbV.Model.MyersTraceback

section
variable {w nb m k q lo : Nat} {D : Nat → Nat → Nat} {S : Nat → Array (St w)} {rd : Nat → Array (St w)}

/-- `LongTracebackHandler::new` with `last_m` = length of the last block -/
theorem new_eq (g : Geo w nb m) (rd : Nat → Array (St w)) :
    LHandler.new nb m rd =
      { blockPos := nb - 1, leftBlockPos := nb - 1, col := rd 0, leftCol := rd 1,
        block := (rd 0).getD (nb - 1) dflt, leftBlock := (rd 1).getD (nb - 1) dflt,
        leftMaxMask := BitVec.twoPow w (lenB w nb m (nb - 1) - 1), pos := BitVec.twoPow w (lenB w nb m (nb - 1) - 1),
        leftMask := if lenB w nb m (nb - 1) ≠ 1 then 0#w else BitVec.twoPow w 1, taken := 2 } := by
  unfold LHandler.new
  simp only [g.lastM, ofNat_two, BitVec.twoPow_eq]

/-- the initial range mask after the first `move_up_left` when no block switch happens -/
theorem start_mask (len : Nat) (h1 : 1 ≤ len) (hl : len ≤ w) (hw : 2 ≤ w) :
    ∀ x, (((if len ≠ 1 then 0#w else BitVec.twoPow w 1) >>> 1) ||| BitVec.twoPow w (len - 1)).getLsbD x =
      decide (len - 1 ≤ x ∧ x < len) := by
  by_cases h : len = 1
  · subst h
    rw [if_neg (by simp), twoPow_shr_succ 0 (by omega)]
    simp only [Nat.sub_self, BitVec.or_self]
    exact mask_single 1 (by omega) (by omega)
  · rw [if_pos h]
    exact leftMask_step (0#w) len h1 hl (Nat.le_refl _) (mask_zero len)

/-- at a hit the last block of the current column is a computed block and its own distance is the hit's value -/
theorem StoredL.last_block (st : StoredL nb m k q lo D S rd) {j : Nat} (hj : j < q) (hhit : D m j ≤ k) :
    BCur nb m D S (j + 1) (nb - 1) (lenB w nb m (nb - 1)) m ((S (j + 1)).getD (nb - 1) dflt) :=
  st.whole hj (Nat.sub_lt st.geo.hnb Nat.one_pos) st.geo.last_end.symm
    (fun j1 e => by obtain rfl : j = j1 := Nat.succ.inj e; exact hhit)

theorem StoredL.diag_k (st : StoredL nb m k q lo D S rd) {i j j1 : Nat} (hi : i < m) (hj : j < q) (hk : D (i + 1) j ≤ k)
    (hj1 : j = j1 + 1) : D i j1 ≤ k := by
  subst hj1
  have := st.diag i j1 hi hj
  omega

/-- `init_traceback` followed by `move_up_left(true)` at a hit: cursor at row `m` of column `q − 1` -/
theorem startL_inv (st : StoredL nb m k q lo D S rd) (hq : lo + 1 ≤ q) (hhit : D m (q - 1) ≤ k) :
    LInvAny nb m k q D S m (q - 1) ((LHandler.new nb m rd).moveUpLeft true) := by
  have g := st.geo
  have hw := g.hw
  have hnb := g.hnb
  have hlast := g.last_end
  have hl1 := g.len_pos (nb - 1)
  have hlw := g.len_le (nb - 1)
  obtain ⟨m', rfl⟩ : ∃ m', m = m' + 1 := ⟨m - 1, by have := g.lo; omega⟩
  obtain ⟨j, rfl⟩ := Nat.exists_eq_add_of_le' (Nat.le_of_add_left_le hq)
  simp only [Nat.add_sub_cancel] at hhit
  simp only [Nat.add_sub_cancel, LInvAny]
  have r0 : rd 0 = S (j + 1) := st.rd 0 (by omega)
  have r1 : rd 1 = S j := by rw [st.rd 1 (by omega)]; simp
  have htk : (2 : Nat) = j + 1 - j + 1 := by omega
  have hjq : j < j + 1 := Nat.lt_succ_self j
  have hm' : m' < m' + 1 := Nat.lt_succ_self m'
  rw [new_eq g rd, r0, r1]
  generalize hlen : lenB w nb (m' + 1) (nb - 1) = len at *
  by_cases hsw : len = 1 ∧ nb ≠ 1
  · -- the last block has a single row: the left cursor starts at the lower boundary of the block above
    obtain ⟨hl, hn⟩ := hsw
    obtain ⟨n2, rfl⟩ : ∃ n2, nb = n2 + 2 := ⟨nb - 2, by omega⟩
    have e1 : n2 + 2 - 1 = n2 + 1 := rfl
    rw [e1] at hlen hlast ⊢
    have hsm : (n2 + 1) * w = n2 * w + w := Nat.succ_mul n2 w
    have hlen0 : lenB w (n2 + 2) (m' + 1) n2 = w := lenB_inner n2 (by omega)
    have c : ¬ (((((if len ≠ 1 then 0#w else BitVec.twoPow w 1) : BitVec w) &&& BitVec.ofNat w 0b10) == 0#w ||
        (n2 + 1 == 0)) = true) := by
      rw [bit1_test hw, if_neg (by omega)]
      simp [BitVec.getLsbD_twoPow]; omega
    have f1 : n2 + 1 < n2 + 2 := Nat.lt_succ_self _
    have f2 : len - 1 < lenB w (n2 + 2) (m' + 1) (n2 + 1) := by omega
    have f3 : m' = (n2 + 1) * w + (len - 1) := by omega
    have f4 : n2 < n2 + 2 := Nat.lt_succ_of_lt (Nat.lt_succ_self _)
    have f5 : w ≤ lenB w (n2 + 2) (m' + 1) n2 := Nat.le_of_eq hlen0.symm
    have f6 : (1 : Nat) ≤ w := Nat.le_of_succ_le hw
    have f7 : m' = n2 * w + w := by omega
    have f8 : m' = n2 * w + lenB w (n2 + 2) (m' + 1) n2 := by rw [hlen0]; exact f7
    have hbe : BCur (n2 + 2) (m' + 1) D S (j + 1) (n2 + 1) (len - 1 + 1) (m' + 1) ((S (j + 1)).getD (n2 + 1) dflt) := by
      rw [show len - 1 + 1 = len by omega, ← hlen]; exact st.last_block hjq hhit
    have v := st.whole (j := j) (BL := n2) (ρ := m') (Nat.le_succ j) f4 f8 (fun j1 => st.diag_k hm' hjq hhit)
    rw [hlen0] at v
    unfold LHandler.moveUpLeft
    rw [if_neg c]
    refine ⟨n2 + 1, len - 1, n2, w, ⟨hm', hjq, hhit, ⟨f1, f2, f3, rfl, rfl⟩,
      ⟨f4, f5, Or.inr f6, f7, rfl, ?_, ?_⟩, rfl, rfl, hbe, v, htk⟩⟩
    · show (1#w <<< (w - 1)) = _
      rw [hlen0]; exact (BitVec.twoPow_eq w (w - 1)).symm
    · rw [hlen0]; exact mask_zero w
  · -- no block switch: `adjust_dist(pos)` on the last block of the left column
    have c : (((((if len ≠ 1 then 0#w else BitVec.twoPow w 1) : BitVec w) &&& BitVec.ofNat w 0b10) == 0#w ||
        (nb - 1 == 0)) = true) := by
      by_cases h1 : len = 1
      · have : nb = 1 := by
          apply Classical.byContradiction
          intro hne
          exact hsw ⟨h1, hne⟩
        subst this
        simp
      · rw [if_pos h1]; simp
    have hmask := start_mask (w := w) len hl1 hlw hw
    have hBLn : nb - 1 < nb := Nat.sub_lt hnb Nat.one_pos
    have ha1 : nb - 1 = 0 ∨ 1 ≤ len - 1 := by omega
    have f2 : len - 1 < lenB w nb (m' + 1) (nb - 1) := by omega
    have f3 : m' = (nb - 1) * w + (len - 1) := by omega
    have f5 : len - 1 + 1 = lenB w nb (m' + 1) (nb - 1) := by omega
    have hbe : BCur nb (m' + 1) D S (j + 1) (nb - 1) (len - 1 + 1) (m' + 1) ((S (j + 1)).getD (nb - 1) dflt) := by
      rw [show len - 1 + 1 = len by omega, ← hlen]; exact st.last_block hjq hhit
    have hleft := st.up (j := j) (BL := nb - 1) (a := len - 1) (ρ := m') (Nat.le_succ j) hBLn f2 ha1 f3
      (fun j1 => st.diag_k hm' hjq hhit) ((S j).getD (nb - 1) dflt) rfl rfl (fun CL be => by rw [f5]; exact be.dist)
    unfold LHandler.moveUpLeft
    rw [if_pos c]
    exact ⟨nb - 1, len - 1, nb - 1, len - 1, ⟨hm', hjq, hhit,
      ⟨hBLn, f2, f3, rfl, rfl⟩,
      ⟨hBLn, Nat.le_of_lt f2, ha1, f3, rfl, by rw [hlen], by rw [hlen]; exact hmask⟩,
      rfl, rfl, hbe, hleft, htk⟩⟩

theorem lhandler_sim (st : StoredL nb m k q lo D S rd) :
    LoopSim LHandler.finished (LHandler.iter rd) (ruleOp D) lo (LInvAny nb m k q D S) := by
  rw [show LHandler.iter rd = (LHandler.cursor rd).iter false from funext (LHandler.iter_eq rd)]
  exact (lhandler_reads st).sim false

/-- **the loop is the matrix walk** (block-based handler): started with the true values at a cursor of value `≤ k`, the
`while` loop of `_traceback_at` pushes the operations of `walkF` and counts `j − start` left moves — provided the walk
ends at a column `≥ lo` (no state older than sequence number `lo` is needed) -/
theorem loopL_eq_walkF (st : StoredL nb m k q lo D S rd) (fuel i j : Nat) (h : LHandler w)
    (inv : LInvAny nb m k q D S i j h) (hlo : lo ≤ (walkF D fuel i j).1) :
    LHandler.loop rd fuel h = (j - (walkF D fuel i j).1, (walkF D fuel i j).2) := by
  rw [walkF_eq_walkR] at hlo ⊢
  exact (lhandler_sim st).loop_eq (LHandler.loop rd) (fun _ => rfl) (fun _ _ => rfl) fuel i j h inv hlo

/-- after any number of passes through the loop body the handler carries the true values at some cursor of the matrix
walk of a hit (all states readable: `lo = 0`) -/
theorem afterL_inv (st : StoredL nb m k q 0 D S rd) (hq : 1 ≤ q) (hhit : D m (q - 1) ≤ k) (n : Nat) :
    ∃ i j, LInvAny nb m k q D S i j (LHandler.after nb m rd n) :=
  (lhandler_sim st).after_inv (LHandler.after nb m rd) (fun _ => rfl) ⟨m, q - 1, startL_inv st (by omega) hhit⟩ n

/-- `_traceback_at` with the block-based handler on the stored columns = the matrix-level walk, for a hit -/
theorem tracebackRdL_eq (st : StoredL nb m k q lo D S rd) (hq : 1 ≤ q) (hhit : D m (q - 1) ≤ k) (fuel : Nat)
    (hlo : lo ≤ (walkF D fuel m (q - 1)).1) :
    tracebackRdL nb m rd fuel =
      (q - 1 - (walkF D fuel m (q - 1)).1, D m (q - 1), (walkF D fuel m (q - 1)).2) := by
  have hle := walkF_start_le D fuel m (q - 1)
  have h := loopL_eq_walkF st fuel m (q - 1) _ (startL_inv st (by omega) hhit) hlo
  unfold tracebackRdL
  simp only [h]
  congr 2
  -- the distance read from the last block of the current column
  have g := st.geo
  obtain ⟨j, rfl⟩ := Nat.exists_eq_add_of_le' hq
  simp only [Nat.add_sub_cancel] at hhit ⊢
  rw [new_eq g rd, st.rd 0 (by omega)]
  exact (st.last_block (Nat.lt_succ_self j) hhit).dist (Nat.succ_pos j)

end

end RbV.Model.MyersTracebackLong
