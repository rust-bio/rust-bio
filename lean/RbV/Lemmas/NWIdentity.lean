import RbV.Ref.NW
/-!
# When is the identity alignment of a sequence with itself the *unique* optimum?

If every pair scores at most `M`, equal pairs score exactly `M`, and `2·gap < M` (in particular: `M > 0`,
`gap ≤ 0`, or `M ≥ 0`, `gap < 0`), then every global alignment of `x` with `x` other than `mat, …, mat`
scores strictly less than the identity alignment.  This is the side condition under which C16's clause
"re-adding the reference leaves nodes and consensus unchanged" is a consequence of optimality.
(With a match score of 0 and gap 0 every alignment ties and the clause does not follow.)
-/
namespace RbV.NW

/-- `M · |x|` without multiplication (keeps every goal linear for `omega`) -/
def tot (M : Int) : List Nat → Int
  | [] => 0
  | _ :: x => M + tot M x

/-- `D` for every gap operation -/
def pen (D : Int) : List Op → Int
  | [] => 0
  | .mat :: r => pen D r
  | _ :: r => D + pen D r

theorem score_bound (sc : Sc) (M : Int) (hle : ∀ a b, sc.w a b ≤ M) :
    ∀ (ops : List Op) (x y : List Nat) (v : Int), score sc x y ops = some v →
      2 * v + pen (M - 2 * sc.gap) ops ≤ tot M x + tot M y := by
  intro ops
  induction ops with
  | nil =>
    intro x y v h
    obtain ⟨rfl, rfl, rfl⟩ := score_nil_some h
    simp [pen, tot]
  | cons o r ih =>
    intro x y v h
    obtain ⟨x', y', u, hu, ho⟩ := score_cons_some h
    have := ih x' y' u hu
    rcases ho with ⟨a, b, rfl, rfl, rfl, rfl⟩ | ⟨b, rfl, rfl, rfl, rfl⟩ | ⟨a, rfl, rfl, rfl, rfl⟩
    · have := hle a b
      simp only [pen, tot]; omega
    · simp only [pen, tot]; omega
    · simp only [pen, tot]; omega

theorem pen_nonneg (D : Int) (hD : 0 < D) : ∀ ops : List Op, 0 ≤ pen D ops := by
  intro ops
  induction ops with
  | nil => simp [pen]
  | cons o r ih => cases o <;> simp only [pen] <;> omega

theorem all_mat_of_pen_zero (sc : Sc) (D : Int) (hD : 0 < D) :
    ∀ (ops : List Op) (x y : List Nat) (v : Int), score sc x y ops = some v → pen D ops = 0 →
      ops = List.replicate x.length Op.mat := by
  intro ops
  induction ops with
  | nil =>
    intro x y v h _
    cases x <;> cases y <;> simp [score] at h
    simp
  | cons o r ih =>
    intro x y v h hp
    obtain ⟨x', y', u, hu, ho⟩ := score_cons_some h
    have hr := pen_nonneg D hD r
    rcases ho with ⟨a, b, rfl, rfl, rfl, rfl⟩ | ⟨b, rfl, rfl, rfl, rfl⟩ | ⟨a, rfl, rfl, rfl, rfl⟩
    · simp only [pen] at hp
      have := ih x' y' u hu hp
      simp [List.replicate_succ, ← this]
    · simp only [pen] at hp; omega
    · simp only [pen] at hp; omega

theorem score_identity (sc : Sc) (M : Int) (hd : ∀ a, sc.w a a = M) :
    ∀ x : List Nat, score sc x x (List.replicate x.length Op.mat) = some (tot M x) := by
  intro x
  induction x with
  | nil => simp [score, tot]
  | cons a x ih => simp [List.replicate_succ, score, ih, tot, hd]; omega

theorem identity_unique (sc : Sc) (M : Int) (hle : ∀ a b, sc.w a b ≤ M)
    (hg : 2 * sc.gap < M) (x : List Nat) (ops : List Op) (v : Int)
    (h : score sc x x ops = some v) (hne : ops ≠ List.replicate x.length Op.mat) : v < tot M x := by
  have hb := score_bound sc M hle ops x x v h
  have hD : 0 < M - 2 * sc.gap := by omega
  have hp := pen_nonneg _ hD ops
  have : pen (M - 2 * sc.gap) ops ≠ 0 := fun h0 => hne (all_mat_of_pen_zero sc _ hD ops x x v h h0)
  omega

end RbV.NW
