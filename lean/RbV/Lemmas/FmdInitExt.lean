import RbV.Model.FMDSym
/-!
# Extension of `init_interval()` (the bi-interval of the empty string) (C06)

On an FMD index, `backward_ext(init_interval(), a)` and `forward_ext(init_interval(), a)` are both
`init_interval_with(a)` — field by field, `match_size` included — for every `a` of `ACGTNacgtn`; hence (with
`init_interval_with_correct`) the bi-interval of the one-symbol string `a`.
-/
namespace RbV.FMDSym
open RbV RbV.FMDModel RbV.LF RbV.BSModel

section
variable (seqs : List (List Nat)) (sa : List Nat) (hne : seqs ≠ [])
  (hseqs : ∀ s ∈ seqs, ∀ c ∈ s, isDna c = true) (hperm : sa.Perm (List.range (fmdText seqs).length))

include hne hperm in
/-- at the last row `occ` has counted the whole BWT -/
theorem occ_full (b : Nat) :
    occRef (bwtOf (fmdText seqs) sa) (sa.length - 1) b = (bwtOf (fmdText seqs) sa).count b := by
  have hn : 0 < sa.length := by rw [PermPos.length hperm]; exact fmd_length_pos seqs hne
  unfold occRef
  rw [List.take_of_length_le (by rw [length_bwtOf]; omega)]

include hseqs hperm in
theorem bwt_symbols : ∀ v ∈ bwtOf (fmdText seqs) sa, v ∈ compOrder := by
  intro v hv
  have : v ∈ fmdText seqs := by
    rw [← List.count_pos_iff, ← count_bwt _ _ hperm, List.count_pos_iff]; exact hv
  exact mem_compOrder_of v (fmd_symbols seqs hseqs v this)

include hperm in
theorem bwt_count_compl (b : Nat) :
    (bwtOf (fmdText seqs) sa).count (dnaCompl b) = (bwtOf (fmdText seqs) sa).count b := by
  rw [count_bwt _ _ hperm, count_bwt _ _ hperm]
  by_cases hb : b = 36
  · subst hb; rfl
  · exact count_symmetry seqs b hb

include hne hseqs hperm in
/-- `backward_ext(init_interval(), a) = init_interval_with(a)` -/
theorem backwardExt_initInterval (a : Nat) (ha : isDna a = true) :
    backwardExt (lessRef (bwtOf (fmdText seqs) sa)) (occRef (bwtOf (fmdText seqs) sa)) (initInterval sa.length) a =
      initIntervalWith (lessRef (bwtOf (fmdText seqs) sa)) a := by
  have hao := (dna_facts a ha).1
  have hspec := extLoop_snd (occRef (bwtOf (fmdText seqs) sa)) (initInterval sa.length) a order (0, 0, 0) hao
  have hfst := extLoop_fst (occRef (bwtOf (fmdText seqs) sa)) (initInterval sa.length) a order 0 0 0 hao
  have hcnt : ∀ b, cntOf (occRef (bwtOf (fmdText seqs) sa)) (initInterval sa.length) b =
      (bwtOf (fmdText seqs) sa).count b := by
    intro b
    simp only [cntOf, initInterval, if_true, Nat.sub_zero, Nat.zero_add]
    exact occ_full seqs sa hne hperm b
  have hrev : (extLoop (occRef (bwtOf (fmdText seqs) sa)) (initInterval sa.length) a order (0, 0, 0)).1 =
      lessRef (bwtOf (fmdText seqs) sa) (dnaCompl a) := by
    rw [hfst]
    simp only [Nat.zero_add]
    unfold lessRef
    rw [countP_lt_eq_sumBefore _ (bwt_symbols seqs sa hseqs hperm) a hao]
    apply sumBefore_congr
    intro b _
    rw [hcnt, bwt_count_compl seqs sa hperm]
  simp only [initInterval] at hspec
  simp only [if_true, Nat.sub_zero, Nat.zero_add] at hspec
  have hsz := occ_full seqs sa hne hperm a
  simp only [backwardExt, initIntervalWith, initInterval, Bi.mk.injEq]
  simp only [initInterval] at hrev
  rw [hspec] at *
  refine ⟨by simp, hrev, ?_, trivial⟩
  simp only [hsz, lessRef_succ]; omega

include hne hseqs hperm in
/-- `forward_ext(init_interval(), a) = init_interval_with(a)` -/
theorem forwardExt_initInterval (a : Nat) (ha : isDna a = true) :
    forwardExt (lessRef (bwtOf (fmdText seqs) sa)) (occRef (bwtOf (fmdText seqs) sa)) (initInterval sa.length) a =
      initIntervalWith (lessRef (bwtOf (fmdText seqs) sa)) a := by
  have hsw : swapped (initInterval sa.length) = initInterval sa.length := rfl
  unfold forwardExt
  rw [hsw, backwardExt_initInterval seqs sa hne hseqs hperm _ (isDna_compl a ha)]
  simp only [swapped, initIntervalWith, dnaCompl_invol, Bi.mk.injEq, true_and, and_true]
  rw [lessRef_succ, lessRef_succ, bwt_count_compl seqs sa hperm]
  omega

end

end RbV.FMDSym
