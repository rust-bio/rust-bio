import RbV.Lemmas.SaisInduceSpec
/-
One pass of induced sorting, seen without its direction.  A pass scans the array in some order (`bef`), and when it
reads `x + 1` with `x` of the type it is writing (`tgt`), it appends `x` to the queue of bucket `sym t x` (`slot c a` =
the `a`-th slot of that queue).  Entries that are never written but are read are the *seeds*.  `GInv` is the loop
invariant and `Push.next` its preservation by a write; the L pass (`Dir.up`: left to right, queues grow upwards from the
bucket starts, seeds = the placed LMS positions) and the S pass (`Dir.down`: right to left, queues grow downwards from
the bucket ends, seeds = the L-areas) are its two instances.
-/
namespace RbV.Sais

/-- the geometry of a pass: scan order on indices, scan order on buckets, and the queue of each bucket -/
structure Dir (t : List Nat) where
  /-- `bef i j`: the scan reads index `i` before index `j` -/
  bef : Nat → Nat → Prop
  /-- `bktBef c d`: the scan is through with bucket `c` before it enters bucket `d` -/
  bktBef : Nat → Nat → Prop
  /-- `isS` of the positions the pass writes -/
  tgt : Bool
  /-- `slot c a`: the index of the `a`-th slot of queue `c`, in the order in which the slots are filled -/
  slot : Nat → Nat → Nat
  /-- the positions that belong into queue `c` -/
  queue : Nat → List Nat
  /-- the part of bucket `c` outside its queue -/
  outside : Nat → Nat → Prop
  mem_queue : ∀ c x, x ∈ queue c ↔ x < t.length ∧ sym t x = c ∧ isS (tyOf t) x = tgt
  asymm : ∀ i j, bef i j → ¬ bef j i
  bkt_of_bef : ∀ c d i j, inBkt t c i → inBkt t d j → bef i j → c = d ∨ bktBef c d
  bef_of_bkt : ∀ c d i j, inBkt t c i → inBkt t d j → bktBef c d → bef i j
  slot_bkt : ∀ c a, a < (queue c).length → inBkt t c (slot c a)
  slot_mono : ∀ c a a', a < a' → a' < (queue c).length → bef (slot c a) (slot c a')
  slot_outside : ∀ c a i, a < (queue c).length → outside c i → bef (slot c a) i
  outside_bkt : ∀ c i, outside c i → inBkt t c i
  /-- a position of the written type and its successor: same bucket and same type, or the successor's bucket is scanned
  earlier -/
  succ_sym : ∀ x, x + 1 < t.length → isS (tyOf t) x = tgt →
    (sym t (x + 1) = sym t x ∧ isS (tyOf t) (x + 1) = tgt) ∨ bktBef (sym t (x + 1)) (sym t x)

/-- the induced-sorting axioms on a relation, read in the direction of the scan; `ne` makes distinctness of the entries
a part of sortedness -/
structure DirRel {t : List Nat} (D : Dir t) (R : Nat → Nat → Prop) : Prop where
  ofSym : ∀ x y, x < t.length → y < t.length → D.bktBef (sym t x) (sym t y) → R x y
  ofTy : ∀ x y, x < t.length → y < t.length → sym t x = sym t y → isS (tyOf t) x = D.tgt →
    isS (tyOf t) y = !D.tgt → R x y
  step : ∀ x y, x + 1 < t.length → y + 1 < t.length → sym t x = sym t y → isS (tyOf t) x = D.tgt →
    isS (tyOf t) y = D.tgt → R (x + 1) (y + 1) → R x y
  ne : ∀ x y, R x y → x ≠ y

/-- the ghost counter after a write into bucket `c` -/
def updW (w : Nat → Nat) (c : Nat) : Nat → Nat := fun d => if d = c then w c + 1 else w d

theorem updW_eq (w : Nat → Nat) (c : Nat) : updW w c c = w c + 1 := by simp [updW]

theorem updW_ne (w : Nat → Nat) {c d : Nat} (h : d ≠ c) : updW w c d = w d := by simp [updW, h]

theorem lt_updW {w : Nat → Nat} {c d a : Nat} (h : a < updW w c d) : (d = c ∧ a = w c) ∨ a < w d := by
  by_cases hdc : d = c
  · subst hdc; rw [updW_eq] at h; omega
  · rw [updW_ne w hdc] at h; exact Or.inr h

theorem lt_updW_of_lt {w : Nat → Nat} {c d a : Nat} (h : a < w d) : a < updW w c d := by
  by_cases hdc : d = c
  · subst hdc; rw [updW_eq]; omega
  · rw [updW_ne w hdc]; exact h

theorem bool_eq_or_not (b c : Bool) : b = c ∨ b = !c := by cases b <;> cases c <;> simp

theorem bool_eq_not_elim {b c : Bool} (h1 : b = c) (h2 : b = !c) : False := by cases c <;> simp_all

section pass
variable {t : List Nat} {D : Dir t} {R : Nat → Nat → Prop} {seed done : Nat → Prop} {pos : List Nat} {w : Nat → Nat}
  {k x : Nat}

theorem Dir.irrefl (D : Dir t) (i : Nat) : ¬ D.bef i i := fun h => D.asymm i i h h

theorem Dir.slot_lt (D : Dir t) {c a a' : Nat} (ha : a < (D.queue c).length)
    (h : D.bef (D.slot c a) (D.slot c a')) : a < a' := by
  rcases Nat.lt_trichotomy a a' with h1 | h1 | h1
  · exact h1
  · subst h1; exact absurd h (D.irrefl _)
  · exact absurd (D.slot_mono c a' a h1 ha) (D.asymm _ _ h)

theorem Dir.not_outside_slot (D : Dir t) {c d a : Nat} (ha : a < (D.queue c).length) (ho : D.outside d (D.slot c a)) : False := by
  have := bkt_unique t _ _ _ (D.outside_bkt _ _ ho) (D.slot_bkt c a ha)
  subst this
  exact D.irrefl _ (D.slot_outside _ _ _ ha ho)

/-- index `i` holds an entry that counts: a seed, or a written slot of a queue (`w c` slots of queue `c` are written) -/
def Live (D : Dir t) (seed : Nat → Prop) (w : Nat → Nat) (i : Nat) : Prop :=
  seed i ∨ ∃ c a, a < w c ∧ i = D.slot c a

theorem Live.not_slot {c : Nat} (hwle : ∀ c, w c ≤ (D.queue c).length) (hseed : ∀ i, seed i → ∃ c, D.outside c i)
    (hroom : w c < (D.queue c).length) : ¬ Live D seed w (D.slot c (w c)) := by
  rintro (h | ⟨d, a, ha, he⟩)
  · obtain ⟨d, ho⟩ := hseed _ h
    exact D.not_outside_slot hroom ho
  · have hac := Nat.lt_of_lt_of_le ha (hwle d)
    have : c = d := bkt_unique t _ _ _ (D.slot_bkt _ _ hroom) (he ▸ D.slot_bkt d a hac)
    subst this
    exact D.irrefl _ (he ▸ D.slot_mono _ a _ ha hroom)

/-- invariant of a pass: `done` = the indices scanned so far -/
structure GInv (D : Dir t) (R : Nat → Nat → Prop) (seed done : Nat → Prop) (pos : List Nat) (w : Nat → Nat) : Prop where
  lenP : pos.length = t.length
  wle : ∀ c, w c ≤ (D.queue c).length
  /-- a written slot of queue `c` holds a position that belongs into it -/
  qmem : ∀ c a, a < w c → pos.getD (D.slot c a) 0 ∈ D.queue c
  /-- a seed lies in some bucket outside its queue and holds a position with the symbol of that bucket and of the type the
  pass does not write -/
  smem : ∀ i, seed i → ∃ c, D.outside c i ∧ pos.getD i 0 < t.length ∧ sym t (pos.getD i 0) = c ∧
    isS (tyOf t) (pos.getD i 0) = !D.tgt
  sorted : ∀ i j, D.bef i j → Live D seed w i → Live D seed w j → R (pos.getD i 0) (pos.getD j 0)
  /-- a queue entry was written when its successor was scanned -/
  hist : ∀ c a, a < w c → pos.getD (D.slot c a) 0 + 1 < t.length →
    ∃ r, done r ∧ Live D seed w r ∧ pos.getD r 0 = pos.getD (D.slot c a) 0 + 1
  /-- the predecessor of a scanned entry, if of the written type, has been written -/
  prog : ∀ y, y + 1 < t.length → isS (tyOf t) y = D.tgt → ∀ i, done i → Live D seed w i → pos.getD i 0 = y + 1 →
    ∃ j, Live D seed w j ∧ pos.getD j 0 = y

/-- a live entry sits in the bucket of its symbol: in the queue if it is of the written type, outside it otherwise -/
theorem GInv.classify (inv : GInv D R seed done pos w) {i : Nat} (h : Live D seed w i) :
    pos.getD i 0 < t.length ∧ inBkt t (sym t (pos.getD i 0)) i ∧
    (isS (tyOf t) (pos.getD i 0) = D.tgt →
      ∃ a, a < w (sym t (pos.getD i 0)) ∧ i = D.slot (sym t (pos.getD i 0)) a) ∧
    (isS (tyOf t) (pos.getD i 0) = (!D.tgt) → D.outside (sym t (pos.getD i 0)) i) := by
  rcases h with h | ⟨c, a, ha, rfl⟩
  · obtain ⟨c, ho, hl, hs, hty⟩ := inv.smem i h
    rw [hs]
    refine ⟨hl, D.outside_bkt c i ho, fun h' => ?_, fun _ => ho⟩
    exact (bool_eq_not_elim h' hty).elim
  · obtain ⟨hl, hs, hty⟩ := (D.mem_queue _ _).mp (inv.qmem c a ha)
    rw [hs]
    refine ⟨hl, D.slot_bkt c a (Nat.lt_of_lt_of_le ha (inv.wle c)), fun _ => ⟨a, ha, rfl⟩, fun h' => ?_⟩
    exact (bool_eq_not_elim hty h').elim

theorem Live.lt (inv : GInv D R seed done pos w) {i : Nat} (h : Live D seed w i) : i < t.length :=
  inBkt_lt_length t _ _ (inv.classify h).2.1

/-- the situation of a write: the scan is at the live index `k`, which holds `x + 1`, and `x` is of the written type -/
structure Push (D : Dir t) (R : Nat → Nat → Prop) (seed done : Nat → Prop) (pos : List Nat) (w : Nat → Nat)
    (k x : Nat) : Prop where
  inv : GInv D R seed done pos w
  lk : Live D seed w k
  dk : ∀ r, done r → D.bef r k
  hpk : pos.getD k 0 = x + 1
  hxn : x + 1 < t.length
  hT : isS (tyOf t) x = D.tgt

/-- `x` is not yet present: it would have been written when `x + 1` was scanned, and `x + 1` occurs only at `k`.
(`absent`, `room`, `slot_lt`, `kb` use of `R` only that related entries differ, `hne`, not the axioms `DirRel`.) -/
theorem Push.absent (P : Push D R seed done pos w k x) (hne : ∀ x y, R x y → x ≠ y) {j : Nat} (hj : Live D seed w j) :
    pos.getD j 0 ≠ x := by
  intro he
  obtain ⟨_, _, hq, _⟩ := P.inv.classify hj
  rw [he] at hq
  obtain ⟨a, ha, rfl⟩ := hq P.hT
  obtain ⟨r, hr, hlr, hre⟩ := P.inv.hist _ a ha (by rw [he]; exact P.hxn)
  rw [he, ← P.hpk] at hre
  exact hne _ _ (P.inv.sorted r k (P.dk r hr) hlr P.lk) hre

/-- … so its queue is not full (pigeonhole) -/
theorem Push.room (P : Push D R seed done pos w k x) (hne : ∀ x y, R x y → x ≠ y) :
    w (sym t x) < (D.queue (sym t x)).length := by
  have hxl : x < t.length := by have := P.hxn; omega
  have hle := P.inv.wle (sym t x)
  have hlive : ∀ a, a < w (sym t x) → Live D seed w (D.slot (sym t x) a) := fun a ha => Or.inr ⟨_, a, ha, rfl⟩
  have hnd : (x :: slice (fun a => pos.getD (D.slot (sym t x) a) 0) 0 (w (sym t x))).Nodup := by
    rw [List.nodup_cons]
    constructor
    · intro hm
      obtain ⟨a, ha, he⟩ := (mem_slice _ _ _ _).mp hm
      rw [Nat.zero_add] at he
      exact P.absent hne (hlive a ha) he
    · apply nodup_slice
      intro a a' haa ha'
      rw [Nat.zero_add, Nat.zero_add]
      exact hne _ _ (P.inv.sorted _ _ (D.slot_mono _ a a' haa (by omega)) (hlive a (by omega)) (hlive a' ha'))
  have hlen := nodup_subset_length_le _ (D.queue (sym t x)) hnd (by
    intro y hy
    rcases List.mem_cons.mp hy with rfl | hy
    · exact (D.mem_queue _ _).mpr ⟨hxl, rfl, P.hT⟩
    · obtain ⟨a, ha, he⟩ := (mem_slice _ _ _ _).mp hy
      rw [Nat.zero_add] at he
      rw [← he]; exact P.inv.qmem _ a ha)
  rw [List.length_cons, length_slice] at hlen
  omega

theorem Push.slot_lt (P : Push D R seed done pos w k x) (hne : ∀ x y, R x y → x ≠ y) :
    D.slot (sym t x) (w (sym t x)) < t.length :=
  inBkt_lt_length t _ _ (D.slot_bkt _ _ (P.room hne))

theorem Push.kb (P : Push D R seed done pos w k x) (hne : ∀ x y, R x y → x ≠ y) :
    D.bef k (D.slot (sym t x) (w (sym t x))) := by
  have hroom := P.room hne
  obtain ⟨_, hbk, hq, _⟩ := P.inv.classify P.lk
  rw [P.hpk] at hbk hq
  rcases D.succ_sym x P.hxn P.hT with ⟨hs, hty⟩ | hlt
  · obtain ⟨a, ha, hka⟩ := hq hty
    rw [hs] at ha hka
    rw [hka]
    exact D.slot_mono _ a _ ha hroom
  · exact D.bef_of_bkt _ _ _ _ hbk (D.slot_bkt _ _ hroom) hlt

theorem Live.of_updW {c i : Nat} (h : Live D seed (updW w c) i) :
    i = D.slot c (w c) ∨ Live D seed w i := by
  rcases h with h | ⟨c, a, ha, he⟩
  · exact Or.inr (Or.inl h)
  · rcases lt_updW ha with ⟨rfl, rfl⟩ | ha
    · exact Or.inl he
    · exact Or.inr (Or.inr ⟨c, a, ha, he⟩)

theorem Live.mono {c i : Nat} (h : Live D seed w i) : Live D seed (updW w c) i :=
  h.imp id (fun ⟨c, a, ha, he⟩ => ⟨c, a, lt_updW_of_lt ha, he⟩)

theorem Live.slot (c : Nat) : Live D seed (updW w c) (D.slot c (w c)) :=
  Or.inr ⟨_, _, by rw [updW_eq]; exact Nat.lt_succ_self _, rfl⟩

section next
variable (hR : DirRel D R) (P : Push D R seed done pos w k x)
include hR P

theorem Push.not_live : ¬ Live D seed w (D.slot (sym t x) (w (sym t x))) :=
  Live.not_slot P.inv.wle (fun i h => let ⟨c, ho, _⟩ := P.inv.smem i h; ⟨c, ho⟩) (P.room hR.ne)

theorem Push.get_slot :
    (pos.set (D.slot (sym t x) (w (sym t x))) x).getD (D.slot (sym t x) (w (sym t x))) 0 = x :=
  List.getD_set_self _ _ _ _ (by rw [P.inv.lenP]; exact P.slot_lt hR.ne)

theorem Push.get_live {i : Nat} (h : Live D seed w i) :
    (pos.set (D.slot (sym t x) (w (sym t x))) x).getD i 0 = pos.getD i 0 :=
  List.getD_set_ne _ _ _ _ _ (fun e => P.not_live hR (e ▸ h))

theorem Push.rel_after {j : Nat} (hj : Live D seed w j) (hbj : D.bef (D.slot (sym t x) (w (sym t x))) j) :
    R x (pos.getD j 0) := by
  have hxl : x < t.length := by have := P.hxn; omega
  have hroom := P.room hR.ne
  obtain ⟨hy, hbk, hq, _⟩ := P.inv.classify hj
  rcases D.bkt_of_bef _ _ _ _ (D.slot_bkt _ _ hroom) hbk hbj with he | hlt
  · rcases bool_eq_or_not (isS (tyOf t) (pos.getD j 0)) D.tgt with hty | hty
    · obtain ⟨a, ha, hja⟩ := hq hty
      rw [← he] at ha hja
      rw [hja] at hbj
      have := D.slot_lt hroom hbj
      omega
    · exact hR.ofTy _ _ hxl hy he P.hT hty
  · exact hR.ofSym _ _ hxl hy hlt

theorem Push.rel_before (hv : Valid t) {i : Nat} (hi : Live D seed w i) (hib : D.bef i (D.slot (sym t x) (w (sym t x)))) :
    R (pos.getD i 0) x := by
  have hxl : x < t.length := by have := P.hxn; omega
  have hroom := P.room hR.ne
  obtain ⟨hy, hbk, hq, ho⟩ := P.inv.classify hi
  rcases D.bkt_of_bef _ _ _ _ hbk (D.slot_bkt _ _ hroom) hib with he | hlt
  · rcases bool_eq_or_not (isS (tyOf t) (pos.getD i 0)) D.tgt with hty | hty
    · obtain ⟨a, ha, hia⟩ := hq hty
      have hy1 : pos.getD i 0 + 1 < t.length :=
        succ_lt_of_sym_ne_zero hv _ hy (by rw [he]; exact sym_ne_zero hv x P.hxn)
      rw [hia] at hy1
      obtain ⟨r, hr, hlr, hre⟩ := P.inv.hist _ a ha hy1
      have hrel := P.inv.sorted r k (P.dk r hr) hlr P.lk
      rw [hre, P.hpk, ← hia] at hrel
      rw [← hia] at hy1
      exact hR.step _ _ hy1 P.hxn he hty P.hT hrel
    · have := D.slot_outside _ _ _ hroom (he ▸ ho hty)
      exact absurd hib (D.asymm _ _ this)
  · exact hR.ofSym _ _ hy hxl hlt

theorem Push.next (hv : Valid t) :
    GInv D R seed (fun i => done i ∨ i = k) (pos.set (D.slot (sym t x) (w (sym t x))) x) (updW w (sym t x)) where
  lenP := by rw [List.length_set]; exact P.inv.lenP
  wle := fun c => by
    by_cases hc : c = sym t x
    · subst hc; rw [updW_eq]; exact P.room hR.ne
    · rw [updW_ne w hc]; exact P.inv.wle c
  qmem := fun c a ha => by
    rcases lt_updW ha with ⟨rfl, rfl⟩ | ha
    · rw [P.get_slot hR]
      exact (D.mem_queue _ _).mpr ⟨by have := P.hxn; omega, rfl, P.hT⟩
    · rw [P.get_live hR (Or.inr ⟨c, a, ha, rfl⟩)]; exact P.inv.qmem c a ha
  smem := fun i hi => by rw [P.get_live hR (Or.inl hi)]; exact P.inv.smem i hi
  sorted := fun i j hij hi hj => by
    rcases Live.of_updW hi with rfl | hi
    · rcases Live.of_updW hj with rfl | hj
      · exact absurd hij (D.irrefl _)
      · rw [P.get_slot hR, P.get_live hR hj]; exact P.rel_after hR hj hij
    · rcases Live.of_updW hj with rfl | hj
      · rw [P.get_slot hR, P.get_live hR hi]; exact P.rel_before hR hv hi hij
      · rw [P.get_live hR hi, P.get_live hR hj]; exact P.inv.sorted i j hij hi hj
  hist := fun c a ha h1 => by
    rcases lt_updW ha with ⟨rfl, rfl⟩ | ha
    · rw [P.get_slot hR]
      exact ⟨k, Or.inr rfl, Live.mono P.lk, by rw [P.get_live hR P.lk]; exact P.hpk⟩
    · rw [P.get_live hR (Or.inr ⟨c, a, ha, rfl⟩)] at h1 ⊢
      obtain ⟨r, hr, hlr, hre⟩ := P.inv.hist c a ha h1
      exact ⟨r, Or.inl hr, Live.mono hlr, by rw [P.get_live hR hlr]; exact hre⟩
  prog := fun y hy hty i hdi hli he => by
    have hkb := P.kb hR.ne
    rcases Live.of_updW hli with rfl | hli
    · exfalso
      rcases hdi with hdi | hdi
      · exact D.asymm _ _ hkb (P.dk _ hdi)
      · rw [hdi] at hkb; exact D.irrefl _ hkb
    · rw [P.get_live hR hli] at he
      rcases hdi with hdi | rfl
      · obtain ⟨j, hj, hje⟩ := P.inv.prog y hy hty i hdi hli he
        exact ⟨j, Live.mono hj, by rw [P.get_live hR hj]; exact hje⟩
      · have : y = x := by have := P.hpk; omega
        subst this
        exact ⟨_, Live.slot _, P.get_slot hR⟩

end next

theorem GInv.skip (inv : GInv D R seed done pos w)
    (hno : Live D seed w k → ∀ y, y + 1 < t.length → isS (tyOf t) y = D.tgt → pos.getD k 0 ≠ y + 1) :
    GInv D R seed (fun i => done i ∨ i = k) pos w :=
  { inv with
    hist := fun c a ha h1 => by
      obtain ⟨r, hr, h⟩ := inv.hist c a ha h1
      exact ⟨r, Or.inl hr, h⟩
    prog := fun y hy hty i hdi hli he => by
      rcases hdi with hdi | rfl
      · exact inv.prog y hy hty i hdi hli he
      · exact absurd he (hno hli y hy hty) }

end pass

/-- the L pass: left to right, queue `c` = the L-area of bucket `c` from its start upwards -/
def Dir.up (t : List Nat) : Dir t where
  bef := fun i j => i < j
  bktBef := fun c d => c < d
  tgt := false
  slot := fun c a => cntLt t c + a
  queue := Lset t
  outside := fun c i => cntLt t c + (Lset t c).length ≤ i ∧ i < cntLt t (c + 1)
  mem_queue := mem_Lset t
  asymm := fun _ _ h => Nat.lt_asymm h
  bkt_of_bef := fun c d i j hc hd h => by have := bkt_le_of_lt t c d i j hc hd h; omega
  bef_of_bkt := fun c d i j hc hd h => bkt_lt_of_sym_lt t c d i j hc hd h
  slot_bkt := fun c a ha => by have := cntLt_succ_split t c; unfold inBkt; omega
  slot_mono := fun c a a' h _ => Nat.add_lt_add_left h _
  slot_outside := fun c a i ha ho => by have := ho.1; omega
  outside_bkt := fun c i ho => by have := ho.1; have := ho.2; unfold inBkt; omega
  succ_sym := fun x hx hL => by
    have hge := sym_ge_of_isL x hx hL
    by_cases he : sym t (x + 1) = sym t x
    · exact Or.inl ⟨he, by rw [← isS_of_eq x hx he.symm]; exact hL⟩
    · exact Or.inr (by omega)

theorem Dir.up_slot (t : List Nat) (c a : Nat) : (Dir.up t).slot c a = cntLt t c + a := rfl

theorem Dir.up_queue (t : List Nat) (c : Nat) : (Dir.up t).queue c = Lset t c := rfl

theorem Dir.up_outside (t : List Nat) (c i : Nat) :
    (Dir.up t).outside c i ↔ cntLt t c + (Lset t c).length ≤ i ∧ i < cntLt t (c + 1) := Iff.rfl

/-- the S pass: right to left, queue `c` = the S-area of bucket `c` from its end downwards -/
def Dir.down (t : List Nat) : Dir t where
  bef := fun i j => j < i
  bktBef := fun c d => d < c
  tgt := true
  slot := fun c a => cntLt t (c + 1) - 1 - a
  queue := Sset t
  outside := fun c i => cntLt t c ≤ i ∧ i < cntLt t c + (Lset t c).length
  mem_queue := mem_Sset t
  asymm := fun _ _ h => Nat.lt_asymm h
  bkt_of_bef := fun c d i j hc hd h => by have := bkt_le_of_lt t d c j i hd hc h; omega
  bef_of_bkt := fun c d i j hc hd h => bkt_lt_of_sym_lt t d c j i hd hc h
  slot_bkt := fun c a ha => by have := cntLt_succ_split t c; unfold inBkt; omega
  slot_mono := fun c a a' h ha' => by have := cntLt_succ_split t c; omega
  slot_outside := fun c a i ha ho => by have := cntLt_succ_split t c; have := ho.2; omega
  outside_bkt := fun c i ho => by have := cntLt_succ_split t c; have := ho.1; have := ho.2; unfold inBkt; omega
  succ_sym := fun x hx hS => by
    have hle := sym_le_of_isS x hx hS
    by_cases he : sym t (x + 1) = sym t x
    · exact Or.inl ⟨he, by rw [← isS_of_eq x hx he.symm]; exact hS⟩
    · exact Or.inr (by omega)

theorem Dir.down_slot (t : List Nat) (c a : Nat) : (Dir.down t).slot c a = cntLt t (c + 1) - 1 - a := rfl

theorem Dir.down_outside (t : List Nat) (c i : Nat) :
    (Dir.down t).outside c i ↔ cntLt t c ≤ i ∧ i < cntLt t c + (Lset t c).length := Iff.rfl

theorem DirRel.up {t : List Nat} {R : Nat → Nat → Prop} (hR : IndRel t R) (hs : StepL t R) :
    DirRel (Dir.up t) (fun x y => x ≠ y ∧ R x y) where
  ofSym := fun x y hx hy h => ⟨fun e => by rw [e] at h; exact Nat.lt_irrefl _ h, hR.ofSym x y hx hy h⟩
  ofTy := fun x y hx hy he h1 h2 => ⟨fun e => bool_eq_not_elim (e ▸ h1) h2, hR.ofLS x y hx hy he h1 h2⟩
  step := fun x y hx hy he h1 h2 h => ⟨fun e => h.1 (by rw [e]), hs x y (by omega) (by omega) he h1 h2 h.2⟩
  ne := fun _ _ h => h.1

theorem DirRel.down {t : List Nat} {R : Nat → Nat → Prop} (hR : IndRel t R) (hs : StepS t R) :
    DirRel (Dir.down t) (fun x y => x ≠ y ∧ R y x) where
  ofSym := fun x y hx hy h => ⟨fun e => by rw [e] at h; exact Nat.lt_irrefl _ h, hR.ofSym y x hy hx h⟩
  ofTy := fun x y hx hy he h1 h2 => ⟨fun e => bool_eq_not_elim (e ▸ h1) h2, hR.ofLS y x hy hx he.symm h2 h1⟩
  step := fun x y hx hy he h1 h2 h => ⟨fun e => h.1 (by rw [e]), hs y x hy hx he.symm h2 h1 h.2⟩
  ne := fun _ _ h => h.1

end RbV.Sais
