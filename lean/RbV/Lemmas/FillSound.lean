import RbV.Lemmas.FillWit
/-!
Junk or witnessed: the relation `JW` and its closure under the transitions of the DP.

`MIN_SCORE` is an ordinary integer in the code, used as "no alignment ends here" (`I[·][0]`, `D[0][·]`, a freshly reset
`S[curr][i]`, the empty trackers).  Such a value may be carried along (`MIN_SCORE + gap_extend`, …), so a value is either
*junk* — `≤ MIN_SCORE + (i + j)·W`, `W` a bound on the substitution scores that occur — or justified by a witness
(`FillWit.lean`).  Used by the banded cell of C02 (`Lemmas/BandedSound.lean`).  The refinement theorems of C01 need less:
`SaneHyp` below (no bound on the substitution scores); there, that no S cell holds junk is `FillLower.lean`, and that the
reported score is the value of an alignment is read off the traceback (`corner_good` in `FillAccept.lean`).
-/
namespace RbV.Model.PairwiseFill
open RbV.Align

/-- junk bound after `k` steps -/
def jb (W : Int) (k : Nat) : Int := minScore + (k : Int) * W

theorem jb_mono {W : Int} (hW : 0 ≤ W) {k k' : Nat} (h : k ≤ k') : jb W k ≤ jb W k' := by
  unfold jb
  have := Int.mul_le_mul_of_nonneg_right (Int.ofNat_le.mpr h) hW
  omega

theorem jb_succ (W : Int) (k : Nat) : jb W (k + 1) = jb W k + W := by
  unfold jb; push_cast; rw [Int.add_mul]; omega

/-- the side conditions of the `JW` lemmas: non-positive gap and clip penalties, `W ≥ 0` bounds the substitution
scores of the symbol pairs that occur -/
structure Hyp (sc : Sc) (cl : Clip) (x y : List Nat) (W : Int) : Prop where
  go : sc.go ≤ 0
  ge : sc.ge ≤ 0
  xp : cl.xp ≤ 0
  xs : cl.xs ≤ 0
  yp : cl.yp ≤ 0
  ys : cl.ys ≤ 0
  W0 : 0 ≤ W
  wle : ∀ i j, i < x.length → j < y.length → sc.w (x.getD i 0) (y.getD j 0) ≤ W

/-- what the refinement theorems of C01 need: non-positive gap and clip penalties, and the sentinel lies below the score of
the worst global alignment (insert all of `x`, delete all of `y`).  The substitution scores are not restricted. -/
structure SaneHyp (sc : Sc) (cl : Clip) (x y : List Nat) : Prop where
  go : sc.go ≤ 0
  ge : sc.ge ≤ 0
  xp : cl.xp ≤ 0
  xs : cl.xs ≤ 0
  yp : cl.yp ≤ 0
  ys : cl.ys ≤ 0
  room : minScore < 2 * sc.go + sc.ge * ((x.length : Int) + y.length)

theorem SaneHyp.of_room {sc : Sc} {cl : Clip} {x y : List Nat} {W : Int} (hgo : sc.go ≤ 0) (hge : sc.ge ≤ 0)
    (hcl : cl.xp ≤ 0 ∧ cl.xs ≤ 0 ∧ cl.yp ≤ 0 ∧ cl.ys ≤ 0) (hW : 0 ≤ W)
    (hs : minScore + ((x.length : Int) + y.length) * W < 2 * sc.go + sc.ge * ((x.length : Int) + y.length)) :
    SaneHyp sc cl x y := by
  have : 0 ≤ ((x.length : Int) + y.length) * W := Int.mul_nonneg (by omega) hW
  exact ⟨hgo, hge, hcl.1, hcl.2.1, hcl.2.2.1, hcl.2.2.2, by omega⟩

theorem SaneHyp.of_sane {sc : Sc} {cl : Clip} {x y : List Nat} {W : Int} (hgo : sc.go ≤ 0) (hge : sc.ge ≤ 0)
    (hcl : cl.xp ≤ 0 ∧ cl.xs ≤ 0 ∧ cl.yp ≤ 0 ∧ cl.ys ≤ 0) (h : Sane sc x y W) : SaneHyp sc cl x y :=
  .of_room hgo hge hcl h.1 h.2.2

section
variable (sc : Sc) (cl : Clip) (x y : List Nat) (W : Int)

def JW (L : St) (i j : Nat) (v : Int) : Prop := v ≤ jb W (i + j) ∨ Wit sc cl x y L i j v

variable {sc cl x y W}

theorem jw_min (hW : 0 ≤ W) (L : St) (i j : Nat) : JW sc cl x y W L i j minScore := by
  left
  have := jb_mono hW (Nat.zero_le (i + j))
  simp [jb] at this ⊢
  omega

theorem jw_wit {L : St} {i j : Nat} {v : Int} (h : Wit sc cl x y L i j v) : JW sc cl x y W L i j v := Or.inr h

theorem jw_none {L : St} {i j : Nat} {v : Int} (h : JW sc cl x y W L i j v) : JW sc cl x y W .none i j v := by
  rcases h with h | h
  · left; exact h
  · right; exact wit_none h

theorem jw_cast_j {L : St} {i j j' : Nat} {v : Int} (e : j = j') (h : JW sc cl x y W L i j v) :
    JW sc cl x y W L i j' v := e ▸ h

theorem jw_max {L : St} {i j : Nat} {a b : Int} (ha : JW sc cl x y W L i j a) (hb : JW sc cl x y W L i j b) :
    JW sc cl x y W L i j (max a b) := by
  rcases Int.le_total a b with h | h
  · rw [Int.max_eq_right h]; exact hb
  · rw [Int.max_eq_left h]; exact ha

/-- a transition that does not raise the value and does not go back in the matrix: junk stays junk, a witness is
mapped by `f` -/
theorem jw_step (hW : 0 ≤ W) {L L' : St} {i j i' j' : Nat} {v v' : Int} (h : JW sc cl x y W L i j v)
    (hij : i + j ≤ i' + j') (hv : v' ≤ v) (f : Wit sc cl x y L i j v → Wit sc cl x y L' i' j' v') :
    JW sc cl x y W L' i' j' v' := by
  rcases h with h | h
  · left
    have := jb_mono hW hij
    omega
  · exact Or.inr (f h)

theorem jw_ins_open (H : Hyp sc cl x y W) {L : St} {i j : Nat} {v : Int} (h : JW sc cl x y W L i j v)
    (hi : i < x.length) : JW sc cl x y W .ins (i + 1) j (v + sc.go + sc.ge) :=
  jw_step H.W0 h (by omega) (by have := H.go; have := H.ge; omega) fun h => wit_ins_open H.go h hi

theorem jw_ins_ext (H : Hyp sc cl x y W) {i j : Nat} {v : Int} (h : JW sc cl x y W .ins i j v)
    (hi : i < x.length) : JW sc cl x y W .ins (i + 1) j (v + sc.ge) :=
  jw_step H.W0 h (by omega) (by have := H.ge; omega) fun h => wit_ins_ext h hi

theorem jw_del_open (H : Hyp sc cl x y W) {L : St} {i j : Nat} {v : Int} (h : JW sc cl x y W L i j v)
    (hj : j < y.length) : JW sc cl x y W .del i (j + 1) (v + sc.go + sc.ge) :=
  jw_step H.W0 h (by omega) (by have := H.go; have := H.ge; omega) fun h => wit_del_open H.go h hj

theorem jw_del_ext (H : Hyp sc cl x y W) {i j : Nat} {v : Int} (h : JW sc cl x y W .del i j v)
    (hj : j < y.length) : JW sc cl x y W .del i (j + 1) (v + sc.ge) :=
  jw_step H.W0 h (by omega) (by have := H.ge; omega) fun h => wit_del_ext h hj

theorem jw_diag (H : Hyp sc cl x y W) {L : St} {i j : Nat} {v : Int} (h : JW sc cl x y W L i j v)
    (hi : i < x.length) (hj : j < y.length) :
    JW sc cl x y W .none (i + 1) (j + 1) (v + sc.w (x.getD i 0) (y.getD j 0)) := by
  rcases h with h | h
  · left
    have h1 := jb_succ W (i + j)
    have h2 := jb_mono H.W0 (show i + j + 1 ≤ i + 1 + (j + 1) by omega)
    have := H.wle i j hi hj
    omega
  · right; exact wit_diag h hi hj

/-- `xclip_score`: clip `x[0..i]`, then clip or delete `y[0..j]` -/
theorem jw_xclip (H : Hyp sc cl x y W) (i j : Nat) (hi : i + 1 ≤ x.length) (hj : j + 1 ≤ y.length) :
    JW sc cl x y W .none (i + 1) (j + 1) (cl.xp + max cl.yp (sc.go + sc.ge * (((j + 1 : Nat) : Int)))) := by
  have e : cl.xp + max cl.yp (sc.go + sc.ge * (((j + 1 : Nat) : Int))) =
      max (cl.xp + cl.yp) (cl.xp + sc.go + sc.ge * ((j : Int) + 1)) := by push_cast; omega
  rw [e]
  refine jw_max (jw_wit (wit_mono (wit_pre (i := i + 1) (j := j + 1) (by omega) (by omega)) (by simp [pre]))) ?_
  have h0 : Wit sc cl x y .none (i + 1) 0 (pre cl (i + 1) 0) := wit_pre (by omega) (Nat.zero_le _)
  have := wit_del_chain H.go h0 j (by omega)
  simp only [Nat.zero_add] at this
  exact jw_wit (wit_none (wit_mono this (by simp [pre])))

/-- `yclip_score`: clip `y[0..j]`, insert `x[0..i]` -/
theorem jw_yclip (H : Hyp sc cl x y W) (i j : Nat) (hi : i + 1 ≤ x.length) (hj : j + 1 ≤ y.length) :
    JW sc cl x y W .none (i + 1) (j + 1) (cl.yp + sc.go + sc.ge * (((i + 1 : Nat) : Int))) := by
  have h0 : Wit sc cl x y .none 0 (j + 1) (pre cl 0 (j + 1)) := wit_pre (Nat.zero_le _) (by omega)
  have := wit_ins_chain H.go h0 i (by omega)
  simp only [Nat.zero_add] at this
  exact jw_wit (wit_none (wit_mono this (by simp [pre])))

end

end RbV.Model.PairwiseFill
