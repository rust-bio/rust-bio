import RbV.Lemmas.MyersLongAll
/-!
The band logic of the block-based Myers matcher (`States::step`: activation of the next block, `add_state`,
deactivation of trailing blocks) keeps the invariant that makes the reported pairs exact (C09 [C]).  Core Lean only.

The active blocks hold a *pseudo-column* `P` (rows `0..R`): `P ≥ C` (the true Sellers column) and `P r = C r` wherever
`C r ≤ k`; every row below the active blocks has `C r > k`.
-/
namespace RbV.Model.MyersLong
open RbV.EditDist RbV.Model.MyersSimple
open RbV.Model.Ukkonen (cell cell_zero cell_nil cell_succ cell_diag report)

/-! ### the column recursion: locality, monotonicity, exactness below the threshold -/

theorem nextC_congr (P Q : Nat → Int) (e : Nat → Bool) (R : Nat) (h : ∀ r, r ≤ R → P r = Q r) :
    ∀ r, r ≤ R → nextC P e r = nextC Q e r := by
  intro r
  induction r with
  | zero => intro _; rfl
  | succ r ih =>
    intro hr
    simp only [nextC]
    rw [ih (by omega), h (r + 1) hr, h r (by omega)]

theorem min3_mono {a b c a' b' c' : Int} (ha : a ≤ a') (hb : b ≤ b') (hc : c ≤ c') :
    min (min a b) c ≤ min (min a' b') c' :=
  Int.le_min.mpr ⟨Int.le_min.mpr ⟨Int.le_trans (Int.le_trans (Int.min_le_left _ _) (Int.min_le_left _ _)) ha,
    Int.le_trans (Int.le_trans (Int.min_le_left _ _) (Int.min_le_right _ _)) hb⟩,
    Int.le_trans (Int.min_le_right _ _) hc⟩

theorem min3_spec (p q r : Int) :
    min (min p q) r ≤ p ∧ min (min p q) r ≤ q ∧ min (min p q) r ≤ r ∧
      (min (min p q) r = p ∨ min (min p q) r = q ∨ min (min p q) r = r) := by
  omega

/-- a cell computed from larger neighbours that are exact where they are ≤ k is exact where it is ≤ k: the neighbour
that attains the minimum is itself ≤ k -/
theorem min3_exact {a b c a' b' c' x k : Int} (hx : 0 ≤ x) (ha : a ≤ a') (hb : b ≤ b') (hc : c ≤ c')
    (ea : a ≤ k → a' = a) (eb : b ≤ k → b' = b) (ec : c ≤ k → c' = c)
    (hm : min (min (b + 1) (c + 1)) (a + x) ≤ k) :
    min (min (b' + 1) (c' + 1)) (a' + x) = min (min (b + 1) (c + 1)) (a + x) := by
  obtain ⟨h1, h2, h3, h4⟩ := min3_spec (b + 1) (c + 1) (a + x)
  obtain ⟨g1, g2, g3, g4⟩ := min3_spec (b' + 1) (c' + 1) (a' + x)
  generalize min (min (b + 1) (c + 1)) (a + x) = m at *
  generalize min (min (b' + 1) (c' + 1)) (a' + x) = m' at *
  rcases h4 with h | h | h
  · have := eb (by omega); omega
  · have := ec (by omega); omega
  · have := ea (by omega); omega

theorem nextC_mono (C P : Nat → Int) (e : Nat → Bool) (R : Nat) (h : ∀ r, r ≤ R → C r ≤ P r) :
    ∀ r, r ≤ R → nextC C e r ≤ nextC P e r := by
  intro r
  induction r with
  | zero => intro _; exact Int.le_refl _
  | succ r ih =>
    intro hr
    exact min3_mono (Int.add_le_add_right (h (r + 1) hr) 1) (Int.add_le_add_right (ih (by omega)) 1)
      (Int.add_le_add_right (h r (by omega)) _)

theorem nextC_exact (C P : Nat → Int) (e : Nat → Bool) (R : Nat) (k : Int) (h : ∀ r, r ≤ R → C r ≤ P r)
    (hx : ∀ r, r ≤ R → C r ≤ k → P r = C r) :
    ∀ r, r ≤ R → nextC C e r ≤ k → nextC P e r = nextC C e r := by
  intro r
  induction r with
  | zero => intro _ _; rfl
  | succ r ih =>
    intro hr hk
    exact min3_exact (by split <;> decide) (h r (by omega)) (h (r + 1) hr) (nextC_mono C P e R h r (by omega))
      (hx r (by omega)) (hx (r + 1) hr) (ih (by omega)) hk

theorem nextC_nonneg (C : Nat → Int) (e : Nat → Bool) (h : ∀ r, 0 ≤ C r) : ∀ r, 0 ≤ nextC C e r := by
  intro r
  induction r with
  | zero => simp [nextC]
  | succ r ih =>
    simp only [nextC]
    have := h (r + 1)
    have := h r
    split <;> omega

/-! ### the band invariant -/

/-- the active blocks `sts` hold the pseudo-column `P` after the text prefix `u` -/
structure Band {w : Nat} (eqv : Nat → Nat → Bool) (p : List Nat) (k : Nat) (blks : List (List Nat))
    (P : Nat → Int) (u : List Nat) (sts : List (St w)) : Prop where
  col : ColEnc P 0 blks sts
  ne : 1 ≤ sts.length
  nn : ∀ r, 0 ≤ P r
  ge : ∀ r, r ≤ rows sts.length blks → (cell (unitW eqv) p u r : Int) ≤ P r
  ex : ∀ r, r ≤ rows sts.length blks → (cell (unitW eqv) p u r : Int) ≤ k → P r = cell (unitW eqv) p u r
  out : ∀ r, rows sts.length blks < r → r ≤ p.length → (k : Int) < cell (unitW eqv) p u r

theorem band_cut {w : Nat} (eqv : Nat → Nat → Bool) (p : List Nat) (k : Nat) (blks : List (List Nat))
    (P : Nat → Int) (u : List Nat) (sts : List (St w)) (s : St w) (hne : sts ≠ [])
    (hd : k + w ≤ s.dist) (b : Band eqv p k blks P u (sts ++ [s])) : Band eqv p k blks P u sts := by
  obtain ⟨hc, ⟨blk, hblk, hl1, hlw, henc, hdist⟩⟩ := (ColEnc_snoc_iff blks sts s 0).mp b.col
  have hrows : rows (sts ++ [s]).length blks = rows sts.length blks + blk.length := by
    simp only [List.length_append, List.length_cons, List.length_nil]
    exact rows_succ blks sts.length blk hblk
  simp only [Nat.zero_add] at henc hdist
  refine ⟨hc, by cases sts <;> simp_all, b.nn, ?_, ?_, ?_⟩
  · intro r hr; exact b.ge r (by rw [hrows]; omega)
  · intro r hr; exact b.ex r (by rw [hrows]; omega)
  · intro r hr hm
    by_cases hin : r ≤ rows sts.length blks + blk.length
    · -- a row of the dropped block
      obtain ⟨j, rfl⟩ : ∃ j, r = rows sts.length blks + j := ⟨r - rows sts.length blks, by omega⟩
      have hsp := henc.span (blk.length - j) j (by omega)
      have hP : ((k + w : Nat) : Int) ≤ P (rows sts.length blks + blk.length) := by
        rw [← hdist]; exact_mod_cast hd
      apply Int.lt_of_not_ge
      intro hcon
      have := b.ex _ (by rw [hrows]; omega) hcon
      push_cast at hP
      omega
    · exact b.out r (by rw [hrows]; omega) hm

theorem band_cutRev {w : Nat} (eqv : Nat → Nat → Bool) (p : List Nat) (k : Nat) (blks : List (List Nat))
    (P : Nat → Int) (u : List Nat) : ∀ (l : List (St w)), Band eqv p k blks P u l.reverse →
    Band eqv p k blks P u (cutRev k w l).reverse := by
  intro l
  induction l with
  | nil => intro h; simpa [cutRev] using h
  | cons s t ih =>
    intro h
    cases t with
    | nil => simpa [cutRev] using h
    | cons s2 t2 =>
      simp only [cutRev]
      by_cases hd : s.dist ≥ k + w
      · rw [if_pos hd]
        apply ih
        have h' : Band eqv p k blks P u ((s2 :: t2).reverse ++ [s]) := by simpa using h
        exact band_cut eqv p k blks P u _ s (by simp) hd h'
      · rw [if_neg hd]; exact h

/-- `known_dist()` followed by the test `≤ k`, in a state that satisfies the invariant, reports the bottom cell of the true
column exactly when that is ≤ k -/
theorem band_report {w : Nat} (eqv : Nat → Nat → Bool) (p : List Nat) (k : Nat) (blks : List (List Nat))
    (hflat : blks.flatten = p) (hsz : ∀ blk, blk ∈ blks → 1 ≤ blk.length ∧ blk.length ≤ w)
    (P : Nat → Int) (u : List Nat) (sts : List (St w)) (b : Band eqv p k blks P u sts) :
    (match knownDist blks.length sts with
      | some d => if d ≤ k then some d else none
      | none => none) = report (unitW eqv) p k u := by
  unfold knownDist report
  by_cases hl : sts.length = blks.length
  · -- all blocks active: the last block's `dist` is `P` at the bottom row, which is ≥ the true cell and equal where that is ≤ k
    rw [if_pos hl]
    have hne : sts ≠ [] := by intro h; have := b.ne; simp [h] at this
    have hlast := ColEnc_last blks sts 0 b.col hne
    have hR : rows sts.length blks = p.length := by rw [hl, rows_all, hflat]
    rw [Nat.zero_add, hR] at hlast
    have hge := b.ge p.length (by omega)
    have hex := b.ex p.length (by omega)
    cases hg : sts.getLast? with
    | none => rw [List.getLast?_eq_none_iff] at hg; exact absurd hg hne
    | some s =>
      rw [hg] at hlast
      simp only [Option.map_some, Option.getD_some] at hlast ⊢
      by_cases hc : cell (unitW eqv) p u p.length ≤ k
      · have := hex (by exact_mod_cast hc)
        have hd : s.dist = cell (unitW eqv) p u p.length := by omega
        rw [if_pos hc, hd, if_pos hc]
      · rw [if_neg hc, if_neg (by omega)]
  · -- the bottom row is below the active blocks, hence above k
    rw [if_neg hl]
    have hle := ColEnc_length_le blks sts 0 b.col
    have hlt := rows_lt blks sts.length (fun blk h => (hsz blk h).1) (by omega)
    rw [hflat] at hlt
    have := b.out p.length hlt (Nat.le_refl _)
    exact (if_neg (by omega)).symm

theorem Band.zero {w : Nat} {eqv : Nat → Nat → Bool} {p : List Nat} {k : Nat} {blks : List (List Nat)} {P : Nat → Int}
    {u : List Nat} {sts : List (St w)} (b : Band eqv p k blks P u sts) : P 0 = 0 := by
  simpa [cell_zero] using b.ex 0 (by omega) (by simp [cell_zero])

/-- the column `P` continued below row `R` by the steepest ascent -/
def steep (P : Nat → Int) (R r : Nat) : Int := if r ≤ R then P r else P R + ((r - R : Nat) : Int)

theorem steep_low (P : Nat → Int) {R r : Nat} (hr : r ≤ R) : steep P R r = P r := if_pos hr

theorem steep_high (P : Nat → Int) (R i : Nat) : steep P R (R + i) = P R + i := by
  unfold steep
  split
  · have : i = 0 := by omega
    subst this; simp
  · rw [Nat.add_sub_cancel_left]

theorem steep_nonneg {P : Nat → Int} (h : ∀ r, 0 ≤ P r) (R r : Nat) : 0 ≤ steep P R r := by
  unfold steep
  split
  · exact h r
  · have := h R; omega

/-! ### one text symbol -/

section step
variable {w : Nat} (eqv : Nat → Nat → Bool) (p : List Nat) (k : Nat) (blks : List (List Nat))
  (hflat : blks.flatten = p) (hsz : ∀ blk, blk ∈ blks → 1 ≤ blk.length ∧ blk.length ≤ w)

include hflat hsz in
theorem peq_matchBits (a n : Nat) (blk : List Nat) (hblk : blks[n]? = some blk) (i : Nat) (hi : i < blk.length) :
    (peq w eqv blk a).getLsbD i = matchBits eqv p a (rows n blks + i) := by
  obtain ⟨hn, rfl⟩ := List.getElem?_eq_some_iff.mp hblk
  have hsplit : p = (blks.take n).flatten ++ (blks[n] ++ (blks.drop (n + 1)).flatten) := by
    rw [← hflat]
    conv => lhs; rw [← List.take_append_drop n blks, List.drop_eq_getElem_cons hn, List.flatten_append, List.flatten_cons]
  rw [peq_bit w eqv _ a i hi (hsz _ (List.getElem_mem hn)).2, rows_eq, hsplit]
  exact (matchBits_block eqv a _ _ _ i hi).symm

/-- a pseudo-column that dominates the true column on rows `0..R`, is exact there where the true column is ≤ k, with all
rows below `R` above k, does so again after the next text symbol — except that row `R + 1` may have come down to k -/
theorem band_next (P : Nat → Int) (u : List Nat) (a R : Nat) (hR : R ≤ p.length)
    (hge : ∀ r, r ≤ R → (cell (unitW eqv) p u r : Int) ≤ P r)
    (hex : ∀ r, r ≤ R → (cell (unitW eqv) p u r : Int) ≤ k → P r = cell (unitW eqv) p u r)
    (hout : ∀ r, R < r → r ≤ p.length → (k : Int) < cell (unitW eqv) p u r) :
    (∀ r, r ≤ R → (cell (unitW eqv) p (u ++ [a]) r : Int) ≤ nextC P (matchBits eqv p a) r) ∧
    (∀ r, r ≤ R → (cell (unitW eqv) p (u ++ [a]) r : Int) ≤ k →
      nextC P (matchBits eqv p a) r = cell (unitW eqv) p (u ++ [a]) r) ∧
    (∀ r, R + 1 < r → r ≤ p.length → (k : Int) < cell (unitW eqv) p (u ++ [a]) r) := by
  have hcell := nextC_cell eqv p u a (matchBits eqv p a) (fun i hi => by simp [matchBits, hi])
  refine ⟨fun r hr => ?_, fun r hr hk => ?_, fun r hr hm => ?_⟩
  · rw [← hcell r (by omega)]
    exact nextC_mono _ P _ R hge r hr
  · rw [← hcell r (by omega)] at hk ⊢
    exact nextC_exact _ P _ R k hge hex r hr hk
  · cases r with
    | zero => omega
    | succ r =>
      have h1 : (cell (unitW eqv) p u r : Int) ≤ cell (unitW eqv) p (u ++ [a]) (r + 1) := by
        exact_mod_cast cell_diag (unitW eqv) p u a r (by omega)
      have h2 := hout r (by omega) (by omega)
      omega

include hflat in
/-- advancing the active blocks: they now hold `nextC P e`, which again dominates the true column and is exact
where the true column is ≤ k; the rows two or more below the active region stay above k -/
theorem band_advance (P : Nat → Int) (u : List Nat) (sts : List (St w)) (a : Nat)
    (b : Band eqv p k blks P u sts) :
    ColEnc (nextC P (matchBits eqv p a)) 0 blks (advanceAll eqv a blks sts 0).1 ∧
    (advanceAll eqv a blks sts 0).1.length = sts.length ∧
    (advanceAll eqv a blks sts 0).2 =
      nextC P (matchBits eqv p a) (rows sts.length blks) - P (rows sts.length blks) ∧
    (-1 ≤ (advanceAll eqv a blks sts 0).2 ∧ (advanceAll eqv a blks sts 0).2 ≤ 1) ∧
    (∀ r, r ≤ rows sts.length blks →
      (cell (unitW eqv) p (u ++ [a]) r : Int) ≤ nextC P (matchBits eqv p a) r) ∧
    (∀ r, r ≤ rows sts.length blks → (cell (unitW eqv) p (u ++ [a]) r : Int) ≤ k →
      nextC P (matchBits eqv p a) r = cell (unitW eqv) p (u ++ [a]) r) ∧
    (∀ r, rows sts.length blks + 1 < r → r ≤ p.length → (k : Int) < cell (unitW eqv) p (u ++ [a]) r) := by
  obtain ⟨k1, k2, k3, k4⟩ := advanceAll_enc eqv a P p (nextC_nonneg _ _ b.nn) blks sts [] 0 hflat
    b.col (by omega) (by simp [nextC, b.zero])
  rw [List.length_nil, Nat.zero_add] at k3
  exact ⟨k1, k2, k3, k4, band_next eqv p k P u a _ (by rw [← hflat]; exact rows_le_all blks _) b.ge b.ex b.out⟩

include hflat hsz in
/-- switching the next block on (whatever the reason) keeps the invariant: the new block continues the previous
pseudo-column by the steepest ascent, which dominates the true column because that rises by at most one per row -/
theorem band_activate (P : Nat → Int) (u : List Nat) (sts : List (St w)) (a : Nat) (blk : List Nat)
    (hblk : blks[sts.length]? = some blk) (d : Nat)
    (hd : (d : Int) = P (rows sts.length blks) + blk.length)
    (b : Band eqv p k blks P u sts) :
    ∃ P', Band eqv p k blks P' (u ++ [a])
      ((advanceAll eqv a blks sts 0).1 ++
        [(advanceBlock (blk.length - 1) (peq w eqv blk a) (advanceAll eqv a blks sts 0).2
          ⟨BitVec.allOnes w, 0#w, d⟩).1]) := by
  obtain ⟨a1, a2, a3, a4, _, _, a7⟩ := band_advance eqv p k blks hflat P u sts a b
  obtain ⟨hl1, hlw⟩ := hsz blk (List.mem_of_getElem? hblk)
  have hrs := rows_succ blks sts.length blk hblk
  have hRm : rows sts.length blks + blk.length ≤ p.length := by
    rw [← hrs, ← hflat]; exact rows_le_all blks _
  have hcong : ∀ r, r ≤ rows sts.length blks →
      nextC P (matchBits eqv p a) r = nextC (steep P (rows sts.length blks)) (matchBits eqv p a) r :=
    nextC_congr P _ _ _ (fun r hr => (steep_low P hr).symm)
  have hnn := nextC_nonneg _ (matchBits eqv p a) (steep_nonneg b.nn (rows sts.length blks))
  obtain ⟨e1, e2, _, _⟩ := advanceBlock_col (steep P (rows sts.length blks)) (matchBits eqv p a) (rows sts.length blks)
    blk.length hl1 hlw (peq w eqv blk a) ⟨BitVec.allOnes w, 0#w, d⟩ _
    (peq_matchBits eqv p blks hflat hsz a _ blk hblk) a4
    (by rw [a3, ← hcong _ (Nat.le_refl _), steep_low P (Nat.le_refl _)])
    (EncB.allOnes hlw (fun i _ => by rw [steep_high, steep_high]; push_cast; omega))
    (by rw [steep_high]; exact hd) (hnn _)
  have hlen : ((advanceAll eqv a blks sts 0).1 ++
        [(advanceBlock (blk.length - 1) (peq w eqv blk a) (advanceAll eqv a blks sts 0).2
          ⟨BitVec.allOnes w, 0#w, d⟩).1]).length = sts.length + 1 := by simp [a2]
  have hge : ∀ r, r ≤ rows sts.length blks + blk.length →
      (cell (unitW eqv) p u r : Int) ≤ steep P (rows sts.length blks) r := by
    intro r hr
    by_cases hlow : r ≤ rows sts.length blks
    · rw [steep_low P hlow]; exact b.ge r hlow
    · obtain ⟨i, rfl⟩ : ∃ i, r = rows sts.length blks + i := ⟨r - rows sts.length blks, by omega⟩
      have h1 : (cell (unitW eqv) p u (rows sts.length blks + i) : Int) ≤
          cell (unitW eqv) p u (rows sts.length blks) + (i : Int) := by
        exact_mod_cast cell_vert_iter (unitW eqv) p u (rows sts.length blks) i (by omega)
      have h2 := b.ge (rows sts.length blks) (Nat.le_refl _)
      rw [steep_high]
      omega
  have hex : ∀ r, r ≤ rows sts.length blks + blk.length → (cell (unitW eqv) p u r : Int) ≤ k →
      steep P (rows sts.length blks) r = cell (unitW eqv) p u r := by
    intro r hr hk
    by_cases hlow : r ≤ rows sts.length blks
    · rw [steep_low P hlow]; exact b.ex r hlow hk
    · have := b.out r (by omega) (by omega); omega
  obtain ⟨n1, n2, _⟩ := band_next eqv p k (steep P (rows sts.length blks)) u a _ hRm hge hex
    (fun r hr hm => b.out r (by omega) hm)
  rw [← hrs] at n1 n2
  refine ⟨_, ?_, by rw [hlen]; omega, hnn, by rw [hlen]; exact n1, by rw [hlen]; exact n2,
    fun r hr hm => a7 r (by rw [hlen, hrs] at hr; omega) hm⟩
  rw [ColEnc_snoc_iff]
  refine ⟨ColEnc.congr blks _ 0 (fun r hr => hcong r (by rw [a2] at hr; omega)) a1, blk, by rw [a2]; exact hblk,
    hl1, hlw, ?_, ?_⟩
  · rw [a2, Nat.zero_add]; exact e1
  · rw [a2, Nat.zero_add]; exact e2

/-- the row below the active blocks stays above k when the activation test fails: `c`, `c1` the true column at the last
active row and the next, `n` the new column at the last active row, `P`, `N` the pseudo-column there before and after -/
theorem noact_cell {k c c1 n x : Nat} {P N : Int} (hout : k < c1) (hvert : c1 ≤ c + 1) (hhor : c ≤ n + 1)
    (hex : (c : Int) ≤ k → P = c) (hex' : (n : Int) ≤ k → N = n)
    (hn : P ≤ k → x = 1 ∧ P ≤ N) : k < min (x + c) (min (1 + n) (1 + c1)) := by
  omega

include hflat in
theorem band_noact (P : Nat → Int) (u : List Nat) (sts : List (St w)) (a : Nat)
    (b : Band eqv p k blks P u sts)
    (hn : rows sts.length blks < p.length →
      ¬ (P (rows sts.length blks) ≤ k ∧
        (matchBits eqv p a (rows sts.length blks) = true ∨ (advanceAll eqv a blks sts 0).2 < 0))) :
    Band eqv p k blks (nextC P (matchBits eqv p a)) (u ++ [a]) (advanceAll eqv a blks sts 0).1 := by
  obtain ⟨a1, a2, a3, a4, a5, a6, a7⟩ := band_advance eqv p k blks hflat P u sts a b
  refine ⟨a1, by rw [a2]; exact b.ne, nextC_nonneg _ _ b.nn, by rw [a2]; exact a5, by rw [a2]; exact a6, ?_⟩
  rw [a2]
  intro r hr hm
  by_cases hr1 : rows sts.length blks + 1 < r
  · exact a7 r hr1 hm
  · have hrR : r = rows sts.length blks + 1 := by omega
    subst hrR
    have hlt : rows sts.length blks < p.length := by omega
    have hnc := hn hlt
    have hmb : matchBits eqv p a (rows sts.length blks) = eqv p[rows sts.length blks] a := by
      simp [matchBits, hlt]
    rw [hmb, a3] at hnc
    have houtN : k < cell (unitW eqv) p u (rows sts.length blks + 1) := by
      exact_mod_cast b.out (rows sts.length blks + 1) (by omega) hm
    suffices hN : k < cell (unitW eqv) p (u ++ [a]) (rows sts.length blks + 1) by exact_mod_cast hN
    rw [cell_succ (unitW eqv) p u a (rows sts.length blks) hlt]
    refine noact_cell houtN (cell_vert (unitW eqv) p u _ hlt) (cell_horiz_lower (unitW eqv) p u a _)
      (b.ex _ (Nat.le_refl _)) (a6 _ (Nat.le_refl _)) (fun hPk => ?_)
    have hne : eqv p[rows sts.length blks] a = false := by
      cases h : eqv p[rows sts.length blks] a
      · rfl
      · exact absurd ⟨hPk, Or.inl h⟩ hnc
    refine ⟨by simp [unitW, hne], ?_⟩
    have : ¬ nextC P (matchBits eqv p a) (rows sts.length blks) - P (rows sts.length blks) < 0 :=
      fun h => hnc ⟨hPk, Or.inr h⟩
    omega

include hflat in
/-- the last active block's new `dist` minus the carry is the previous pseudo-column at the lower edge of the active rows -/
theorem band_prev (P : Nat → Int) (u : List Nat) (sts : List (St w)) (a : Nat) (b : Band eqv p k blks P u sts) :
    ((((advanceAll eqv a blks sts 0).1.getLast?.map (·.dist)).getD 0 : Nat) : Int) - (advanceAll eqv a blks sts 0).2 =
      P (rows sts.length blks) := by
  obtain ⟨a1, a2, a3, _⟩ := band_advance eqv p k blks hflat P u sts a b
  have hne' : (advanceAll eqv a blks sts 0).1 ≠ [] := by
    intro h; have := b.ne; rw [h] at a2; simp at a2; omega
  have hlast := ColEnc_last blks _ 0 a1 hne'
  rw [Nat.zero_add, a2] at hlast
  rw [hlast, a3]
  omega

include hflat hsz in
/-- **`States::step` keeps the band invariant** -/
theorem band_step (P : Nat → Int) (u : List Nat) (sts : List (St w)) (a : Nat)
    (b : Band eqv p k blks P u sts) :
    ∃ P', Band eqv p k blks P' (u ++ [a]) (stepStates eqv blks k a sts) := by
  have hprev := band_prev eqv p k blks hflat P u sts a b
  have hne : sts ≠ [] := by intro h; have := b.ne; simp [h] at this
  rw [stepStates_eq eqv blks k a sts _ _ hne rfl _ rfl, hprev]
  -- no activation, whatever the reason
  have helse : ∀ (hn : rows sts.length blks < p.length →
      ¬ (P (rows sts.length blks) ≤ k ∧
        (matchBits eqv p a (rows sts.length blks) = true ∨ (advanceAll eqv a blks sts 0).2 < 0))),
      ∃ P', Band eqv p k blks P' (u ++ [a]) (cutRev k w (advanceAll eqv a blks sts 0).1.reverse).reverse := by
    intro hn
    have hb := band_noact eqv p k blks hflat P u sts a b hn
    refine ⟨nextC P (matchBits eqv p a),
      band_cutRev eqv p k blks (nextC P (matchBits eqv p a)) (u ++ [a]) (advanceAll eqv a blks sts 0).1.reverse ?_⟩
    simpa using hb
  cases hblk : blks[sts.length]? with
  | none =>
    apply helse
    intro hR
    have := rows_ge_length blks _ (List.getElem?_eq_none_iff.mp hblk)
    rw [hflat] at this
    omega
  | some blk =>
    obtain ⟨hl1, _⟩ := hsz blk (List.mem_of_getElem? hblk)
    have hnext : (peq w eqv blk a).getLsbD 0 = matchBits eqv p a (rows sts.length blks) :=
      peq_matchBits eqv p blks hflat hsz a _ blk hblk 0 (by omega)
    simp only []
    split
    · apply band_activate eqv p k blks hflat hsz P u sts a blk hblk _ _ b
      have h0 := b.nn (rows sts.length blks)
      omega
    · rename_i hc
      apply helse
      intro _ hcon
      exact hc ⟨b.nn _, hcon.1, by rw [hnext]; exact hcon.2⟩

end step

/-! ### the initial states -/

theorem initGo_prefix (w : Nat) : ∀ (blks : List (List Nat)) (n acc : Nat),
    (∀ blk, blk ∈ blks → 1 ≤ blk.length ∧ blk.length ≤ w) →
    ColEnc (fun r => (r : Int)) acc blks (initStates.go w n blks acc) ∧
    (initStates.go w n blks acc).length = min n blks.length := by
  intro blks
  induction blks with
  | nil => intro n acc _; cases n <;> simp [initStates.go, ColEnc]
  | cons blk blks ih =>
    intro n acc hb
    cases n with
    | zero => simp [initStates.go, ColEnc]
    | succ n =>
      simp only [initStates.go]
      obtain ⟨i1, i2⟩ := ih n (acc + blk.length) (fun b hb' => hb b (by simp [hb']))
      have hbl := hb blk (by simp)
      exact ⟨⟨hbl.1, hbl.2, EncB.allOnes hbl.2 (fun i _ => by push_cast; omega), by simp, i1⟩,
        by simp only [List.length_cons, i2]; omega⟩

/-- the model's initial blocks: block `i` is `State::init(rows covered by blocks 0..i)` -/
def initList (w : Nat) (blks : List (List Nat)) (n : Nat) : List (St w) :=
  (List.range n).map (fun i => (⟨BitVec.allOnes w, 0#w, rows (i + 1) blks⟩ : St w))

theorem initGo_eq (w : Nat) : ∀ (blks : List (List Nat)) (n acc : Nat), n ≤ blks.length →
    initStates.go w n blks acc =
      (List.range n).map (fun i => (⟨BitVec.allOnes w, 0#w, acc + rows (i + 1) blks⟩ : St w)) := by
  intro blks
  induction blks with
  | nil => intro n acc h; have : n = 0 := by simpa using h
           subst this; simp [initStates.go]
  | cons blk rest ih =>
    intro n acc h
    cases n with
    | zero => simp [initStates.go]
    | succ n =>
      simp only [initStates.go, List.range_succ_eq_map, List.map_cons, List.map_map]
      rw [ih n (acc + blk.length) (by simpa using h)]
      simp only [rows, Nat.add_zero, List.cons.injEq, true_and]
      apply List.map_congr_left
      intro i _
      simp only [Function.comp, rows, Nat.add_assoc]

theorem initList_succ (w : Nat) (blks : List (List Nat)) (n : Nat) :
    initList w blks (n + 1) = initList w blks n ++ [⟨BitVec.allOnes w, 0#w, rows (n + 1) blks⟩] := by
  simp [initList, List.range_succ]

theorem band_init (w : Nat) (hw : 1 ≤ w) (eqv : Nat → Nat → Bool) (p : List Nat) (hp : 1 ≤ p.length) (k : Nat) :
    Band eqv p k (blocksOf w p) (fun r => (r : Int)) [] (initStates w (blocksOf w p) p.length k) := by
  have hflat := blocksOf_flatten w hw p hp
  have c4 : 1 ≤ (blocksOf w p).length := (chunks_layout w hw p.length p hp (Nat.le_refl _)).2.1
  obtain ⟨g1, g2⟩ := initGo_prefix w (blocksOf w p) (max 1 ((min k p.length + w - 1) / w)) 0 (blocksOf_mem_length w hw p hp)
  have hlen : (initStates w (blocksOf w p) p.length k).length =
      min (max 1 ((min k p.length + w - 1) / w)) (blocksOf w p).length := g2
  have hRm := rows_blocksOf_le w hw p hp (initStates w (blocksOf w p) p.length k).length
  refine ⟨g1, ?_, by intro r; simp, ?_, ?_, ?_⟩
  · rw [hlen]; omega
  · intro r hr; rw [cell_nil (unitW eqv) p r (by omega)]; simp
  · intro r hr _; rw [cell_nil (unitW eqv) p r (by omega)]
  · intro r hr hm
    rw [cell_nil (unitW eqv) p r hm]
    rw [hlen] at hr
    by_cases hall : (blocksOf w p).length ≤ max 1 ((min k p.length + w - 1) / w)
    · rw [Nat.min_eq_right hall, rows_all, hflat] at hr
      omega
    · have hlt : max 1 ((min k p.length + w - 1) / w) < (blocksOf w p).length := by omega
      rw [Nat.min_eq_left (by omega)] at hr
      obtain ⟨_, _, _, _, hrows⟩ := (chunks_layout w hw p.length p hp (Nat.le_refl _)).2.2.2 _ hlt
      unfold blocksOf at hr
      rw [hrows] at hr
      have h1 := div_mul_ge (min k p.length) w hw
      have h2 : (min k p.length + w - 1) / w * w ≤ max 1 ((min k p.length + w - 1) / w) * w :=
        Nat.mul_le_mul_right w (by omega)
      have : (k : Nat) < r := by omega
      exact_mod_cast this

end RbV.Model.MyersLong

/- `stepO` stands under the name by which `Thm/C09.lean` (`myers_long_next_source_eq_model`) and the source-level proofs know it. -/
namespace RbV.Thm.GenSrcMyersLongMatches
open RbV.EditDist RbV.Model.MyersSimple RbV.Model.MyersLong RbV.Thm.GenSrcScanD
open RbV.Model.Ukkonen (report)

/-- one model step and what it reports -/
def stepO (w : Nat) (eqv : Nat → Nat → Bool) (p : List Nat) (k : Nat) (s : List (St w)) (c : Nat) : List (St w) × Option Nat :=
  (stepStates eqv (blocksOf w p) k c s,
    match knownDist (blocksOf w p).length (stepStates eqv (blocksOf w p) k c s) with
    | some d => if d ≤ k then some d else none
    | none => none)

theorem runO_eq_run (w : Nat) (eqv : Nat → Nat → Bool) (p : List Nat) (k : Nat) : ∀ (t : List Nat) (s : List (St w)) (i : Nat),
    runO (stepO w eqv p k) s i t = RbV.Model.MyersLong.run eqv (blocksOf w p) k s i t := by
  intro t
  induction t with
  | nil => intro s i; simp [runO, RbV.Model.MyersLong.run]
  | cons c t ih =>
    intro s i
    simp only [runO, RbV.Model.MyersLong.run, stepO]
    cases hk : knownDist (blocksOf w p).length (stepStates eqv (blocksOf w p) k c s) with
    | none => simp [ih]
    | some d => by_cases h : d ≤ k <;> simp [h, ih]

theorem stepO_spec {w : Nat} (eqv : Nat → Nat → Bool) (p : List Nat) (k : Nat) (hw : 1 ≤ w) (hp : 1 ≤ p.length)
    (u : List Nat) (s : List (St w)) (c : Nat) (inv : ∃ P, Band eqv p k (blocksOf w p) P u s) :
    (∃ P, Band eqv p k (blocksOf w p) P (u ++ [c]) (stepO w eqv p k s c).1) ∧
      (stepO w eqv p k s c).2 = report (unitW eqv) p k (u ++ [c]) := by
  obtain ⟨P, b⟩ := inv
  have c1 := blocksOf_flatten w hw p hp
  have c2 := blocksOf_mem_length w hw p hp
  obtain ⟨P', b'⟩ := band_step eqv p k (blocksOf w p) c1 c2 P u s c b
  exact ⟨⟨P', b'⟩, band_report eqv p k (blocksOf w p) c1 c2 P' (u ++ [c]) _ b'⟩

end RbV.Thm.GenSrcMyersLongMatches

namespace RbV.Model.MyersLong
open RbV.EditDist

/-- **block-based Myers**: the mirror model of `long::Myers<T>::find_all_end` — blocks of `w` bits, `advance_block`
with carries, band-limited activation (`States::new`, `add_state`, `States::step`), `known_dist` — returns exactly the
Sellers hits, for every word width, pattern, equivalence, text and `k` -/
theorem findAllEnd_eq_hits (w : Nat) (eqv : Nat → Nat → Bool) (p t : List Nat) (k : Nat)
    (hw : 1 ≤ w) (hp : 1 ≤ p.length) :
    findAllEnd w eqv p t k = hits (unitW eqv) p t k := by
  unfold findAllEnd
  rw [← Thm.GenSrcMyersLongMatches.runO_eq_run]
  exact Ukkonen.runO_eq_hits (unitW eqv) p k _ (fun u s => ∃ P, Band eqv p k (blocksOf w p) P u s)
    (Thm.GenSrcMyersLongMatches.stepO_spec eqv p k hw hp) _ ⟨_, band_init w hw eqv p hp k⟩ t

end RbV.Model.MyersLong
