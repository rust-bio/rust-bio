import RbV.Model.BandedDP
import RbV.Ref.Banded
import RbV.Lemmas.Band
/-! Lemmas about the mirror of banded `compute_alignment` (`RbV/Model/BandedDP.lean`): the traceback `loop` with the
fuel the model gives it can only fail to stop at a step that makes no progress, and such a step is a `usize` underflow
or a zero-length clip that is repeated forever; what the sentinel test and `degenerate` say about score and lengths; at the end, the candidate chains of `cellStep` as `max` chains. -/
namespace RbV.Model.BandedDP
open RbV.Align
open RbV.Model.PairwiseFill (Tb Table TbState tbStep tbLoop)

/-- measure of the traceback loop: twice the remaining symbols, plus one when the layer to be processed is not the S
field of the current cell (a zero-length clip moves from such a layer to the S field of the same cell) -/
def mu (T : Table) (st : TbState) : Nat := 2 * (st.i + st.j) + (if st.layer = T.tS st.i st.j then 0 else 1)

/-- states the loop passes through -/
inductive Reach (T : Table) : TbState → TbState → Prop
  | refl (st : TbState) : Reach T st st
  | step {a b c : TbState} : tbStep T a = some b → Reach T b c → Reach T a c

/-- a state in which the Rust text does not make progress: `i -= 1` / `j -= 1` would underflow (`usize`: a panic), or
the clip about to be taken has length 0 and leads back to the same layer of the same cell (the `loop` never ends: this
is how the banded aligner hung on empty sequences before /repo commit e62cffb).  Not every panic of the `loop` is a `Stall`:
a suffix clip longer than what is left (`i -= Lx[j]` with `Lx[j] > i`) underflows in the Rust text and is truncated by `tbStep`. -/
def Stall (T : Table) (st : TbState) : Prop :=
  match st.layer with
  | .start => False
  | .ins => st.i = 0
  | .del => st.j = 0
  | .mat => st.i = 0 ∨ st.j = 0
  | .subst => st.i = 0 ∨ st.j = 0
  | .xpre => st.i = 0 ∧ T.tS 0 st.j = .xpre
  | .xsuf => (T.lx st.j = 0 ∨ st.i = 0) ∧ T.tS st.i st.j = .xsuf
  | .ypre => st.j = 0 ∧ T.tS st.i 0 = .ypre
  | .ysuf => (T.ly st.i = 0 ∨ st.j = 0) ∧ T.tS st.i st.j = .ysuf

instance (T : Table) (st : TbState) : Decidable (Stall T st) := by unfold Stall; split <;> infer_instance

/-- the table the traceback `loop` of the mirror reads: what `computeAlignment` builds from the fill -/
def tbTable (sc : Sc) (cl : Clip) (x y : List Nat) (b : Band.Band) : Table :=
  (fill sc cl x.toArray y.toArray b.ranges.toArray).table x.length y.length

/-- the state in which `computeAlignment` enters the traceback `loop`: the corner `(m, n)` with its S field -/
def tbInit (sc : Sc) (cl : Clip) (x y : List Nat) (b : Band.Band) : TbState :=
  ⟨x.length, y.length, (tbTable sc cl x y b).tS x.length y.length, [], 0, 0, x.length, y.length⟩

theorem mu_lt {T : Table} {a b : TbState} (h : b.i + b.j < a.i + a.j) : mu T b < mu T a := by
  unfold mu
  split <;> split <;> omega

theorem mu_of_layer {T : Table} {a : TbState} (h : a.layer = T.tS a.i a.j) : mu T a = 2 * (a.i + a.j) := by
  rw [mu, if_pos h, Nat.add_zero]

theorem mu_of_layer_ne {T : Table} {a : TbState} (h : a.layer ≠ T.tS a.i a.j) : mu T a = 2 * (a.i + a.j) + 1 := by
  rw [mu, if_neg h]

/-- every step from a state that is not a `Stall` decreases the measure: a move consumes a symbol; a clip lands on the S
field of its target cell, and one that consumes nothing started from another layer of that cell -/
theorem step_decreases (T : Table) (st st' : TbState) (h : tbStep T st = some st') (hs : ¬ Stall T st) :
    mu T st' < mu T st := by
  obtain ⟨i, j, layer, ops, xs, ys, xe, ye⟩ := st
  cases layer <;> cases h <;> simp only [Stall] at hs
  case ins | del | mat | subst => exact mu_lt (by simp only; omega)
  case xpre =>
    by_cases hi : i = 0
    · rw [mu_of_layer rfl, mu_of_layer_ne fun e => hs ⟨hi, hi ▸ e.symm⟩]; simp only; omega
    · exact mu_lt (by simp only; omega)
  case ypre =>
    by_cases hj : j = 0
    · rw [mu_of_layer rfl, mu_of_layer_ne fun e => hs ⟨hj, hj ▸ e.symm⟩]; simp only; omega
    · exact mu_lt (by simp only; omega)
  case xsuf =>
    by_cases hi : T.lx j = 0 ∨ i = 0
    · rw [mu_of_layer rfl, mu_of_layer_ne fun e => hs ⟨hi, e.symm⟩]; simp only; omega
    · exact mu_lt (by simp only; omega)
  case ysuf =>
    by_cases hj : T.ly i = 0 ∨ j = 0
    · rw [mu_of_layer rfl, mu_of_layer_ne fun e => hs ⟨hj, e.symm⟩]; simp only; omega
    · exact mu_lt (by simp only; omega)

theorem Reach.trans_step {T : Table} {a b c : TbState} (h1 : Reach T a b) (h2 : tbStep T b = some c) : Reach T a c := by
  induction h1 with
  | refl st => exact .step h2 (.refl _)
  | step hs _ ih => exact .step hs (ih h2)

theorem stall_of_tbLoop_none (T : Table) : ∀ (fuel : Nat) (st : TbState), tbLoop T fuel st = none → mu T st < fuel →
    ∃ st1, Reach T st st1 ∧ Stall T st1 := by
  intro fuel
  induction fuel with
  | zero => intro st _ h; omega
  | succ fuel ih =>
    intro st hn hmu
    unfold tbLoop at hn
    split at hn
    · simp at hn
    · rename_i st' hst'
      by_cases hs : Stall T st
      · exact ⟨st, .refl _, hs⟩
      · have := step_decreases T st st' hst' hs
        obtain ⟨st1, hr, hs1⟩ := ih st' hn (by omega)
        exact ⟨st1, .step hst' hr, hs1⟩

theorem mu_init_lt_fuel (T : Table) (m n : Nat) (ops : List AOp) (a b c d : Nat) (l : Tb) :
    mu T ⟨m, n, l, ops, a, b, c, d⟩ < tbFuel m n := by
  unfold mu tbFuel
  simp only
  split <;> omega

theorem overBudget_fullMatrix (x y : List Nat) :
    Band.overBudget (Band.fullMatrix (Band.new x.length y.length)) = Align.overBudget x y := by
  unfold Band.overBudget Align.overBudget maxCells
  rw [Band.numCells_full]

theorem isSentinel_fields {o : Out} (h : isSentinel o = true) : o.score = minScore ∧ o.xlen = 0 ∧ o.ylen = 0 := by
  simp only [isSentinel, Bool.and_eq_true, beq_iff_eq] at h
  exact ⟨h.1.1.1.1.1.1.1, h.1.1.2, h.1.2⟩

theorem degenerate_lens (sc : Sc) (cl : Clip) (m n : Nat) :
    (degenerate sc cl m n).xlen = m ∧ (degenerate sc cl m n).ylen = n := by
  -- every branch of `degenerate` is a literal with `xlen := m`, `ylen := n`
  simp only [degenerate, apply_ite Out.xlen, apply_ite Out.ylen, ite_self, and_self]

end RbV.Model.BandedDP

/-! ### The candidate chains of `cellStep` as `max` chains

`pickI`, `pickD`, `pickS` (`Model/BandedDP.lean`) are chains of `better`; their values are maxima.  (The namespace is that of the
proofs about the translated cell, which use these equations.) -/
namespace RbV.Thm.GenSrcBandedFill
open RbV.Align
open RbV.Model.BandedDP (pickI pickD pickS)

/-- a candidate replaces the current best only when strictly better: the `if c > best.0 { best = (c, t) }` of the mirror -/
def better {α : Type} (c : Int) (t : α) (b : Int × α) : Int × α := if c > b.1 then (c, t) else b

theorem better_fst {α : Type} (c : Int) (t : α) (b : Int × α) : (better c t b).1 = max c b.1 := by
  unfold better
  by_cases h : c > b.1
  · rw [if_pos h]; exact (Int.max_eq_left (Int.le_of_lt h)).symm
  · rw [if_neg h]; exact (Int.max_eq_right (Int.not_lt.mp h)).symm

theorem pickI_eq (sc : Sc) (iUp sUp : Int) (tsUp : RbV.Model.PairwiseFill.Tb) (cl : Option Int) :
    pickI sc iUp sUp tsUp cl =
      match cl with
      | some c => better c .ysuf (better (iUp + sc.ge) .ins (sUp + sc.go + sc.ge, tsUp))
      | none => better (iUp + sc.ge) .ins (sUp + sc.go + sc.ge, tsUp) := by
  cases cl <;> rfl

theorem pickI_val (sc : Sc) (iUp sUp : Int) (tsUp : RbV.Model.PairwiseFill.Tb) (cl : Option Int) :
    (pickI sc iUp sUp tsUp cl).1 =
      match cl with
      | some c => max c (max (iUp + sc.ge) (sUp + sc.go + sc.ge))
      | none => max (iUp + sc.ge) (sUp + sc.go + sc.ge) := by
  rw [pickI_eq]
  cases cl <;> simp only [better_fst]

theorem pickD_val (sc : Sc) (dLeft sLeft gox : Int) (tsLeft : RbV.Model.PairwiseFill.Tb) :
    (pickD sc dLeft sLeft gox tsLeft).1 = max (dLeft + sc.ge) (sLeft + gox + sc.ge) :=
  better_fst (dLeft + sc.ge) RbV.Model.PairwiseFill.Tb.del (sLeft + gox + sc.ge, tsLeft)

theorem pickS_eq (isM eq : Bool) (ms base bi bd xc yc : Int) :
    pickS isM eq ms base bi bd xc yc = better yc .ypre (better xc .xpre (better bd .del (better bi .ins
      (better ms (if eq then .mat else .subst) (base, if isM then .xsuf else .start))))) := rfl

theorem pickS_val (isM eq : Bool) (ms base bi bd xc yc : Int) :
    (pickS isM eq ms base bi bd xc yc).1 = max yc (max xc (max bd (max bi (max ms base)))) := by
  simp only [pickS_eq, better_fst]

end RbV.Thm.GenSrcBandedFill
