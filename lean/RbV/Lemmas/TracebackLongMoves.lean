import RbV.Lemmas.TracebackLongInv
/-!
Block addressing of the upward moves of the block-based traceback handler (C10, block-based handler): which fields each move
leaves alone, and `move_up` / `move_up_left` with their block switching as the single-word moves on the concatenated bit vector
(`RGeo.moveUp`, `LGeo.moveUpLeft`).  The values the moves carry: `Lemmas/TracebackLongStep.lean`.  Core Lean only.
-/
namespace RbV.Model.MyersTracebackLong
open RbV.Model.MyersSimple (St)
open RbV.Model.MyersTraceback

/-! ### which fields a move leaves alone -/

section frame
variable {w : Nat} (h : LHandler w) (adj : Bool)

theorem moveUp_col : (h.moveUp adj).col = h.col := (apply_ite LHandler.col _ _ _).trans (ite_self _)
theorem moveUp_leftCol : (h.moveUp adj).leftCol = h.leftCol := (apply_ite LHandler.leftCol _ _ _).trans (ite_self _)
theorem moveUp_leftBlock : (h.moveUp adj).leftBlock = h.leftBlock := (apply_ite LHandler.leftBlock _ _ _).trans (ite_self _)
theorem moveUp_leftMask : (h.moveUp adj).leftMask = h.leftMask := (apply_ite LHandler.leftMask _ _ _).trans (ite_self _)
theorem moveUp_leftMaxMask : (h.moveUp adj).leftMaxMask = h.leftMaxMask := (apply_ite LHandler.leftMaxMask _ _ _).trans (ite_self _)
theorem moveUp_leftBlockPos : (h.moveUp adj).leftBlockPos = h.leftBlockPos := (apply_ite LHandler.leftBlockPos _ _ _).trans (ite_self _)
theorem moveUp_taken : (h.moveUp adj).taken = h.taken := (apply_ite LHandler.taken _ _ _).trans (ite_self _)
theorem moveUp_false_block : (h.moveUp false).block = h.block :=
  (apply_ite LHandler.block _ _ _).trans (ite_self _)

theorem moveUpLeft_col : (h.moveUpLeft adj).col = h.col := (apply_ite LHandler.col _ _ _).trans (ite_self _)
theorem moveUpLeft_leftCol : (h.moveUpLeft adj).leftCol = h.leftCol := (apply_ite LHandler.leftCol _ _ _).trans (ite_self _)
theorem moveUpLeft_block : (h.moveUpLeft adj).block = h.block := (apply_ite LHandler.block _ _ _).trans (ite_self _)
theorem moveUpLeft_pos : (h.moveUpLeft adj).pos = h.pos := (apply_ite LHandler.pos _ _ _).trans (ite_self _)
theorem moveUpLeft_blockPos : (h.moveUpLeft adj).blockPos = h.blockPos := (apply_ite LHandler.blockPos _ _ _).trans (ite_self _)
theorem moveUpLeft_taken : (h.moveUpLeft adj).taken = h.taken := (apply_ite LHandler.taken _ _ _).trans (ite_self _)
theorem moveUpLeft_false_leftBlock : (h.moveUpLeft false).leftBlock = h.leftBlock :=
  (apply_ite LHandler.leftBlock _ _ _).trans (ite_self _)

end frame

theorem RGeo.frame {w nb m i' B b : Nat} {h h' : LHandler w} (rg : RGeo nb m i' B b h)
    (e1 : h'.blockPos = h.blockPos) (e2 : h'.pos = h.pos) : RGeo nb m i' B b h' :=
  ⟨rg.hB, rg.hb, rg.hrow, by rw [e1]; exact rg.blockPos, by rw [e2]; exact rg.pos⟩

theorem LGeo.frame {w nb m i' BL a : Nat} {h h' : LHandler w} (lg : LGeo nb m i' BL a h)
    (e1 : h'.leftBlockPos = h.leftBlockPos) (e2 : h'.leftMaxMask = h.leftMaxMask) (e3 : h'.leftMask = h.leftMask) :
    LGeo nb m i' BL a h' :=
  ⟨lg.hBL, lg.ha, lg.ha1, lg.hrowL, by rw [e1]; exact lg.leftBlockPos, by rw [e2]; exact lg.lmax,
    by rw [e3]; exact lg.lmask⟩

/-! ### `move_up`, `move_up_left`: block addressing -/

theorem RGeo.zero {w nb m B b : Nat} {h : LHandler w} (g : Geo w nb m) (rg : RGeo nb m 0 B b h) : B = 0 ∧ b = 0 := by
  have hrow := rg.hrow
  have hw := g.hw
  cases B with
  | zero => omega
  | succ B0 =>
    have hsm : (B0 + 1) * w = B0 * w + w := Nat.succ_mul B0 w
    have := rg.hb
    constructor <;> omega

/-- `move_up`: from row index `r + 1` to `r`, inside the block or to the last bit of the block above -/
theorem RGeo.moveUp {w nb m r B b : Nat} {h : LHandler w} (g : Geo w nb m) (rg : RGeo nb m (r + 1) B b h) (adj : Bool) :
    ∃ B' b', RGeo nb m r B' b' (h.moveUp adj) ∧
      ((1 ≤ b ∧ B' = B ∧ b' + 1 = b ∧
          (h.moveUp adj).block = (if adj then adjustDist h.block (BitVec.twoPow w b) else h.block)) ∨
       (b = 0 ∧ B = B' + 1 ∧ b' + 1 = w ∧
          (h.moveUp adj).block = (if adj then h.col.getD B' dflt else h.block))) := by
  have hlw := g.len_le B
  have hb := rg.hb
  have hrow := rg.hrow
  cases b with
  | succ b0 =>
    have c : ((h.pos != 1#w) || h.blockPos == 0) = true := by
      rw [rg.pos, rg.blockPos, pos_test (by omega)]; simp
    refine ⟨B, b0, ⟨rg.hB, by omega, by omega, ?_, ?_⟩, Or.inl ⟨by omega, rfl, rfl, ?_⟩⟩
    · unfold LHandler.moveUp; rw [if_pos c]; exact rg.blockPos
    · unfold LHandler.moveUp; rw [if_pos c]
      show h.pos >>> 1 = _
      rw [rg.pos]; exact twoPow_shr_succ b0 (by omega)
    · unfold LHandler.moveUp; rw [if_pos c, rg.pos]
  | zero =>
    obtain ⟨B0, rfl⟩ : ∃ B0, B = B0 + 1 := by
      cases B with
      | zero => simp at hrow
      | succ B0 => exact ⟨B0, rfl⟩
    have c : ¬ (((h.pos != 1#w) || h.blockPos == 0) = true) := by
      rw [rg.pos, rg.blockPos, pos_test (by omega)]; simp
    have hsm : (B0 + 1) * w = B0 * w + w := Nat.succ_mul B0 w
    have hlen : lenB w nb m B0 = w := lenB_inner B0 (by have := rg.hB; omega)
    have hw := g.hw
    refine ⟨B0, w - 1, ⟨by have := rg.hB; omega, by omega, by omega, ?_, ?_⟩, Or.inr ⟨rfl, rfl, by omega, ?_⟩⟩
    · unfold LHandler.moveUp; rw [if_neg c]
      show h.blockPos - 1 = B0
      rw [rg.blockPos]; rfl
    · unfold LHandler.moveUp; rw [if_neg c]
      exact (BitVec.twoPow_eq w (w - 1)).symm
    · unfold LHandler.moveUp; rw [if_neg c, rg.blockPos]; rfl

/-- `move_up_left`: the left cursor from global row `r + 1` to `r`: the range mask grows by one bit, or the cursor
switches to the lower boundary of the block above (empty mask) -/
theorem LGeo.moveUpLeft {w nb m r BL a : Nat} {h : LHandler w} (g : Geo w nb m) (hi : r + 1 < m)
    (lg : LGeo nb m (r + 1) BL a h) (adj : Bool) :
    ∃ BL' a', LGeo nb m r BL' a' (h.moveUpLeft adj) ∧
      ((1 ≤ a ∧ BL' = BL ∧ a' + 1 = a ∧
          (h.moveUpLeft adj).leftBlock = (if adj then adjustDist h.leftBlock h.pos else h.leftBlock)) ∨
       (a = 1 ∧ BL = BL' + 1 ∧ a' = w ∧
          (h.moveUpLeft adj).leftBlock = (if adj then h.leftCol.getD BL' dflt else h.leftBlock))) := by
  have hlw := g.len_le BL
  have hl1 := g.len_pos BL
  have hw := g.hw
  have ha := lg.ha
  have hrow := lg.hrowL
  have hend := g.block_end_le BL lg.hBL
  have hbit : ((h.leftMask &&& BitVec.ofNat w 0b10) == 0#w || h.leftBlockPos == 0) =
      decide (¬ (a ≤ 1 ∧ 1 < lenB w nb m BL) ∨ BL = 0) := by
    rw [bit1_test hw, lg.lmask, lg.leftBlockPos, Bool.eq_iff_iff]
    simp only [Bool.or_eq_true, Bool.not_eq_true', decide_eq_false_iff_not, beq_iff_eq, decide_eq_true_eq]
  have ha_pos : 1 ≤ a := by
    rcases lg.ha1 with h0 | h1
    · subst h0; omega
    · exact h1
  by_cases hsw : a = 1 ∧ BL ≠ 0
  · -- switch to the block above
    obtain ⟨BL0, rfl⟩ : ∃ BL0, BL = BL0 + 1 := ⟨BL - 1, by omega⟩
    have hsm : (BL0 + 1) * w = BL0 * w + w := Nat.succ_mul BL0 w
    have hlen2 : 1 < lenB w nb m (BL0 + 1) := by
      unfold lenB at hend ⊢
      split
      · rename_i hlast
        rw [if_pos hlast] at hend
        have : nb - 1 = BL0 + 1 := by omega
        rw [this] at hend ⊢
        omega
      · omega
    have c : ¬ (((h.leftMask &&& BitVec.ofNat w 0b10) == 0#w || h.leftBlockPos == 0) = true) := by
      rw [hbit]; simp; omega
    have hlen0 : lenB w nb m BL0 = w := lenB_inner BL0 (by have := lg.hBL; omega)
    refine ⟨BL0, w, ⟨by have := lg.hBL; omega, by omega, Or.inr (by omega), by omega, ?_, ?_, ?_⟩,
      Or.inr ⟨hsw.1, rfl, rfl, ?_⟩⟩
    · unfold LHandler.moveUpLeft; rw [if_neg c]
      show h.leftBlockPos - 1 = BL0
      rw [lg.leftBlockPos]; rfl
    · unfold LHandler.moveUpLeft; rw [if_neg c, hlen0]
      exact (BitVec.twoPow_eq w (w - 1)).symm
    · unfold LHandler.moveUpLeft; rw [if_neg c, hlen0]
      exact mask_zero w
    · unfold LHandler.moveUpLeft; rw [if_neg c, lg.leftBlockPos]; rfl
  · have c : ((h.leftMask &&& BitVec.ofNat w 0b10) == 0#w || h.leftBlockPos == 0) = true := by
      rw [hbit]; simp; omega
    have hmask := leftMask_step h.leftMask a hl1 hlw ha lg.lmask
    refine ⟨BL, a - 1, ⟨lg.hBL, by omega, by omega, by omega, ?_, ?_, ?_⟩, Or.inl ⟨ha_pos, rfl, by omega, ?_⟩⟩
    · unfold LHandler.moveUpLeft; rw [if_pos c]; exact lg.leftBlockPos
    · unfold LHandler.moveUpLeft; rw [if_pos c]; exact lg.lmax
    · unfold LHandler.moveUpLeft; rw [if_pos c]
      show ∀ x, ((h.leftMask >>> 1) ||| h.leftMaxMask).getLsbD x = _
      rw [lg.lmax]; exact hmask
    · unfold LHandler.moveUpLeft; rw [if_pos c]

end RbV.Model.MyersTracebackLong
