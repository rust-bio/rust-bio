import RbV.Model.PairwiseFillI32
import RbV.Lemmas.FillCells
/-!
`custom_i32_no_overflow` (`Thm/C01.lean`), step lemmas: inside the numeric envelope `Num` every loop body of the
checked-`i32` mirror `Model/PairwiseFillI32.lean` succeeds and returns what the unbounded body returns (`*_eq`), and the
unbounded bodies keep the value ranges `RB` / `PB` on which that rests (`*_RB`; `PB` for the post-loops, inside `post1StepC_eq` / `post2StepC_eq`).  Core Lean only.

The bundles of side conditions on `(sc, cl, x, y)`: `AlignEnv` (`Model/PairwiseFillI32.lean`; what harness and driver check)
implies `I32Env` (no overflow) and `Sane` (`Model/PairwiseFill.lean`: `MIN_SCORE` acts as minus infinity; `thmHyp` is its Boolean
form together with the sign conditions).  Of `I32Env` the step lemmas here use `Num` and `Idx` below (`env_num`, `env_idx` in
`FillI32.lean`); of `Sane` the C01 proofs use `SaneHyp` (`FillSound.lean`).  `Hyp` (`FillSound.lean`) is for the banded cell of C02.

Ranges (`u` = `i·B` for row `i`): `MIN_SCORE ≤ S, Sn, S[curr][m] ≤ u`, `MIN_SCORE − 2B ≤ I, D ≤ u`; every intermediate sum
lies in `[2·MIN_SCORE, u + B]` or in `[MIN_SCORE − G − B, …]` or `[MIN_SCORE − 3B, …]` with `G = max(m, n)·B ≥ −gap_extend·k`.

Every `*_eq` has the same shape: the operands of each checked sum lie in intervals whose sum fits `i32` (`add_rng`), so
one `simp` replaces each `add a b` by `some (a + b)`; with every `if a > b` written as `max` both bodies are then the
same term.  The intervals of the values computed on the way (`bestS_rng`, `s0_rng`, …) serve the `*_RB` lemmas too.
-/
namespace RbV.Model.PairwiseFill
open RbV.Align RbV.I32

/-- the numeric envelope of the step lemmas: `B ≥ 1` bounds `|gap_open|` and `|gap_extend|`, the clip penalties lie in
`[MIN_SCORE, 0]`, and `G ≥ 0` bounds every product `|gap_extend · k|` that occurs (`Idx`), with room for `MIN_SCORE − G − B` in `i32` -/
structure Num (sc : Sc) (cl : Clip) (B G : Int) : Prop where
  B1 : 1 ≤ B
  go : -B ≤ sc.go ∧ sc.go ≤ 0
  ge : -B ≤ sc.ge ∧ sc.ge ≤ 0
  xp : minScore ≤ cl.xp ∧ cl.xp ≤ 0
  xs : minScore ≤ cl.xs ∧ cl.xs ≤ 0
  yp : minScore ≤ cl.yp ∧ cl.yp ≤ 0
  ys : minScore ≤ cl.ys ∧ cl.ys ≤ 0
  G0 : 0 ≤ G
  room : G + B ≤ 2147483648 + minScore

/-- per index `k` (a row or column number the text casts to `i32`): the cast is exact and `gap_extend · k ∈ [−G, 0]`; `B ≤ G` -/
structure Idx (sc : Sc) (B G : Int) (k : Nat) : Prop where
  BG : B ≤ G
  lo : -G ≤ sc.ge * (k : Int)
  hi : sc.ge * (k : Int) ≤ 0
  cast : ofUsize k = (k : Int)

theorem minScore_i32 : -2147483648 ≤ minScore + minScore ∧ minScore < 0 := by decide

/-- the value ranges of a row (head comment); `u` is the upper bound of its row -/
structure RB (B u : Int) (r : Row) : Prop where
  s : minScore ≤ r.s ∧ r.s ≤ u
  i : minScore - 2 * B ≤ r.i ∧ r.i ≤ u
  d : minScore - 2 * B ≤ r.d ∧ r.d ≤ u
  sn : minScore ≤ r.sn ∧ r.sn ≤ u
  xm : minScore ≤ r.xm ∧ r.xm ≤ u

theorem add_rng {a b la ha lb hb : Int} (h1 : la ≤ a ∧ a ≤ ha) (h2 : lb ≤ b ∧ b ≤ hb)
    (hl : -2147483648 ≤ la + lb) (hh : ha + hb ≤ 2147483647) : add a b = some (a + b) :=
  add_ok ⟨by omega, by omega⟩

theorem max_rng {lo hi a b : Int} (ha : a ≤ hi) (hb : lo ≤ b ∧ b ≤ hi) : lo ≤ max a b ∧ max a b ≤ hi :=
  ⟨Int.le_trans hb.1 (Int.le_max_right a b), Int.max_le.2 ⟨ha, hb.2⟩⟩

theorem ite_rng {c : Prop} [Decidable c] {lo hi a b : Int} (ha : lo ≤ a ∧ a ≤ hi) (hb : lo ≤ b ∧ b ≤ hi) :
    lo ≤ (if c then a else b) ∧ (if c then a else b) ≤ hi := by
  split <;> assumption

theorem rng_mono {lo hi hi' v : Int} (h : lo ≤ v ∧ v ≤ hi) (hh : hi ≤ hi') : lo ≤ v ∧ v ≤ hi' :=
  ⟨h.1, Int.le_trans h.2 hh⟩

theorem RB.mono {B u u' : Int} {r : Row} (h : RB B u r) (hu : u ≤ u') : RB B u' r :=
  ⟨rng_mono h.s hu, rng_mono h.i hu, rng_mono h.d hu,
    rng_mono h.sn hu, rng_mono h.xm hu⟩

variable {sc : Sc} {cl : Clip} {x y : List Nat} {B G : Int}

theorem openC_eq (N : Num sc cl B G) (hBG : B ≤ G) {a u : Int} (ha : minScore ≤ a ∧ a ≤ u) (hu : u ≤ G) :
    openC sc a = some (a + sc.go + sc.ge) := by
  have hms := minScore_i32
  have hgo := N.go
  have hroom := N.room
  unfold openC
  rw [add_rng ha N.go (by omega) (by omega)]
  exact add_rng (a := a + sc.go) ⟨by omega, by omega⟩ N.ge (lb := -B) (la := minScore - B) (ha := u) (by omega) (by omega)

theorem mulC_eq (N : Num sc cl B G) {k : Nat} (I : Idx sc B G k) : mul sc.ge (k : Int) = some (sc.ge * (k : Int)) := by
  have hms := minScore_i32
  have := N.room
  have := N.B1
  exact mul_ok ⟨by have := I.lo; omega, by have := I.hi; omega⟩

/-- the code `edgeC` writes next to the value `edgeV sc c k`: the gap code `g` or the clip code `cc`, whichever candidate wins -/
def edgeT (sc : Sc) (c : Int) (g cc : Tb) (k : Nat) : Tb :=
  if k = 1 then .start else if sc.go + sc.ge * (k : Int) > c + sc.go + sc.ge then g else cc

theorem edgeC_eq (N : Num sc cl B G) {k : Nat} (I : Idx sc B G k) {c : Int} (hc : minScore ≤ c ∧ c ≤ 0) (g cc : Tb) :
    edgeC sc c g cc k = some (edgeV sc c k, edgeT sc c g cc k) := by
  have hms := minScore_i32
  have hroom := N.room
  have hBG := I.BG
  have hB1 := N.B1
  have h1 : add sc.go sc.ge = some (sc.go + sc.ge) := add_rng N.go N.ge (by omega) (by omega)
  have h2 : add sc.go (sc.ge * (k : Int)) = some (sc.go + sc.ge * (k : Int)) :=
    add_rng N.go ⟨I.lo, I.hi⟩ (by omega) (by omega)
  have h3 : add c sc.go = some (c + sc.go) := add_rng hc N.go (by omega) (by omega)
  have h4 : add (c + sc.go) sc.ge = some (c + sc.go + sc.ge) :=
    add_rng (la := minScore - B) (ha := 0) ⟨by have := N.go; omega, by have := N.go; omega⟩ N.ge (by omega) (by omega)
  unfold edgeC edgeV edgeT
  by_cases hk : k = 1
  · simp only [hk, if_true, h1]
  · simp only [hk, if_false, I.cast, mulC_eq N I, h2, h3, h4, ← ite_gt_eq_max]
    split <;> rfl

theorem edgeV_bounds (N : Num sc cl B G) {k : Nat} (I : Idx sc B G k) {c : Int} (hc : minScore ≤ c ∧ c ≤ 0) :
    minScore - 2 * B ≤ edgeV sc c k ∧ edgeV sc c k ≤ 0 := by
  have hgo := N.go
  have hge := N.ge
  have hB1 := N.B1
  have hi := I.hi
  unfold edgeV
  exact ite_rng ⟨by omega, by omega⟩ (max_rng (by omega) ⟨by omega, by omega⟩)

theorem row00_RB (N : Num sc cl B G) : RB B 0 (row00 cl x y) := by
  have hms := minScore_i32
  have hB1 := N.B1
  have h0 : minScore ≤ (0 : Int) ∧ (0 : Int) ≤ 0 := ⟨by omega, by omega⟩
  have hm : minScore ≤ minScore ∧ minScore ≤ 0 := ⟨by omega, by omega⟩
  have hm2 : minScore - 2 * B ≤ minScore ∧ minScore ≤ 0 := ⟨by omega, by omega⟩
  exact ⟨h0, hm2, hm2, N.ys, ite_rng h0 hm⟩

theorem s0_rng (N : Num sc cl B G) {i : Nat} (Ii : Idx sc B G i) (r : Row) {u : Int} (hu0 : 0 ≤ u) (hr : RB B u r) :
    minScore ≤ max cl.xp (max (iv0 sc cl i) (if i = x.length then r.xm else minScore)) ∧
      max cl.xp (max (iv0 sc cl i) (if i = x.length then r.xm else minScore)) ≤ u := by
  have hev : _ ≤ iv0 sc cl i ∧ iv0 sc cl i ≤ 0 := edgeV_bounds N Ii N.xp
  have hms := minScore_i32
  have hxp := N.xp
  exact max_rng (by omega) (max_rng (by omega) (ite_rng hr.xm ⟨by omega, by omega⟩))

theorem step0_RB (N : Num sc cl B G) {i : Nat} (Ii : Idx sc B G i) (r : Row) {u : Int} (hu0 : 0 ≤ u)
    (hr : RB B u r) : RB B u (step0 sc cl x y i r) := by
  have hev : _ ≤ iv0 sc cl i ∧ iv0 sc cl i ≤ 0 := edgeV_bounds N Ii N.xp
  have hs := s0_rng (x := x) N Ii r hu0 hr
  have hms := minScore_i32
  have hB1 := N.B1
  have hxs := N.xs
  have hys := N.ys
  rw [step0_eq]
  refine ⟨hs, ?_, ?_, ?_, ?_⟩ <;> dsimp only
  · exact ⟨hev.1, by omega⟩
  · exact ⟨by omega, by omega⟩
  · exact max_rng (by omega) ⟨by omega, by omega⟩
  · exact ite_rng hs (max_rng (by omega) hr.xm)

theorem step0C_eq (N : Num sc cl B G) {i : Nat} (Ii : Idx sc B G i) (r : Row) {u : Int} (hu0 : 0 ≤ u) (huG : u ≤ G)
    (hr : RB B u r) : step0C sc cl x y i r = some (step0 sc cl x y i r) := by
  have hs := s0_rng (x := x) N Ii r hu0 hr
  have hms := minScore_i32
  have hroom := N.room
  have hB1 := N.B1
  have h1 := add_rng hs N.xs (by omega) (by omega)
  have h2 := add_rng hs N.ys (by omega) (by omega)
  by_cases him : i = x.length
  · simp only [iv0, eq_true him, if_true] at h2
    simp only [step0C, step0, edgeC_eq N Ii N.xp, edgeV, edgeT, upd_eq_max, ite_gt_eq_max, h2, eq_true him, if_true, ne_eq,
      not_true_eq_false, false_and, if_false]
  · simp only [iv0, eq_false him, if_false] at h1 h2
    simp only [step0C, step0, edgeC_eq N Ii N.xp, edgeV, edgeT, upd_eq_max, ite_gt_eq_max, h1, h2, eq_false him, if_false, ne_eq,
      not_false_eq_true, true_and]

theorem sJ0_rng (N : Num sc cl B G) {j : Nat} (Ij : Idx sc B G j) :
    minScore ≤ max (dv0 sc cl j) cl.yp ∧ max (dv0 sc cl j) cl.yp ≤ 0 :=
  max_rng (edgeV_bounds N Ij N.yp).2 N.yp

theorem rowJ0_RB (N : Num sc cl B G) {j : Nat} (Ij : Idx sc B G j) (p0 : Row) (hp : RB B 0 p0) :
    RB B 0 (rowJ0 sc cl x y j p0) := by
  have hev : _ ≤ dv0 sc cl j ∧ dv0 sc cl j ≤ 0 := edgeV_bounds N Ij N.yp
  have hs0 := sJ0_rng N Ij
  have hms := minScore_i32
  have hB1 := N.B1
  have hys := N.ys
  have hs0' : minScore ≤ (if j = y.length ∧ p0.sn > max (dv0 sc cl j) cl.yp then p0.sn else max (dv0 sc cl j) cl.yp) ∧
      (if j = y.length ∧ p0.sn > max (dv0 sc cl j) cl.yp then p0.sn else max (dv0 sc cl j) cl.yp) ≤ 0 :=
    ite_rng hp.sn hs0
  rw [rowJ0_eq]
  refine ⟨hs0', ?_, hev, ?_, ?_⟩ <;> dsimp only
  · exact ⟨by omega, by omega⟩
  · exact ite_rng hp.sn (max_rng (by omega) hp.sn)
  · exact ite_rng hs0' ⟨by omega, by omega⟩

theorem rowJ0C_eq (N : Num sc cl B G) {j : Nat} (Ij : Idx sc B G j) (p0 : Row) :
    rowJ0C sc cl x y j p0 = some (rowJ0 sc cl x y j p0) := by
  have hms := minScore_i32
  have hroom := N.room
  have hB1 := N.B1
  have hG0 := N.G0
  have h1 := add_rng (sJ0_rng N Ij) N.ys (by omega) (by omega)
  simp only [dv0] at h1
  by_cases hc : j = y.length ∧ p0.sn > max (edgeV sc cl.yp j) cl.yp
  · simp only [edgeV] at hc
    simp only [rowJ0C, rowJ0, edgeC_eq N Ij N.yp, edgeV, edgeT, ite_gt_eq_max, eq_true hc, if_true]
  · simp only [edgeV] at hc
    simp only [rowJ0C, rowJ0, edgeC_eq N Ij N.yp, edgeV, edgeT, ite_gt_eq_max, eq_false hc, if_false, h1, upd_eq_max]

theorem xclipC_eq (N : Num sc cl B G) {j : Nat} (Ij : Idx sc B G j) :
    xclipC sc cl j = some (cl.xp + max cl.yp (sc.go + sc.ge * (j : Int))) := by
  have hms := minScore_i32
  have hroom := N.room
  have hB1 := N.B1
  have hBG := Ij.BG
  have hyp := N.yp
  have hgo := N.go
  have h1 : add sc.go (sc.ge * (j : Int)) = some (sc.go + sc.ge * (j : Int)) :=
    add_rng N.go ⟨Ij.lo, Ij.hi⟩ (by omega) (by omega)
  have h2 : add cl.xp (max cl.yp (sc.go + sc.ge * (j : Int))) = some (cl.xp + max cl.yp (sc.go + sc.ge * (j : Int))) :=
    add_rng N.xp (max_rng (lo := -B - G) (hi := 0) N.yp.2
      ⟨by have := Ij.lo; omega, by have := Ij.hi; omega⟩) (by omega) (by omega)
  simp only [xclipC, Ij.cast, mulC_eq N Ij, h1, h2]

theorem bestI_rng (N : Num sc cl B G) {r : Row} {u : Int} (hr : RB B u r) :
    minScore - 2 * B ≤ bestI sc r ∧ bestI sc r ≤ u := by
  have hs := hr.s
  have hi := hr.i
  have hgo := N.go
  have hge := N.ge
  exact max_rng (by omega) ⟨by omega, by omega⟩

theorem bestD_rng (N : Num sc cl B G) {r : Row} {u : Int} (hr : RB B u r) :
    minScore - 2 * B ≤ bestD sc r ∧ bestD sc r ≤ u := by
  have hs := hr.s
  have hd := hr.d
  have hgo := N.go
  have hge := N.ge
  exact max_rng (by omega) ⟨by omega, by omega⟩

/-- `best_s_score`: the sentinel or the register from below, six candidates from above -/
theorem bestS_rng (N : Num sc cl B G) {i j : Nat} (Ii : Idx sc B G i) (Ij : Idx sc B G j) (prev : List Row) (r : Row)
    {u : Int} (hu0 : 0 ≤ u)
    (hr : RB B u r) (hp1 : RB B u (prev.getD (i - 1) default)) (hp : RB B (u + B) (prev.getD i default))
    (hw : sc.w (x.getD (i - 1) 0) (y.getD (j - 1) 0) ≤ B) :
    minScore ≤ bestS sc cl x y j prev i r ∧ bestS sc cl x y j prev i r ≤ u + B := by
  have hms := minScore_i32
  have hB1 := N.B1
  have hgo := N.go
  have hxp := N.xp
  have hyp := N.yp
  have hi := Ii.hi
  have hj := Ij.hi
  have hbI := (bestI_rng N hr).2
  have hp1s := hp1.s.2
  exact max_rng (by omega) (max_rng (by omega) (max_rng (bestD_rng N hp).2 (max_rng (by omega) (max_rng (by omega)
    (ite_rng (rng_mono hr.xm (by omega)) ⟨by omega, by omega⟩)))))

theorem stepJ_RB (N : Num sc cl B G) {i j : Nat} (Ii : Idx sc B G i) (Ij : Idx sc B G j) (prev : List Row) (r : Row)
    {u : Int} (hu0 : 0 ≤ u)
    (hr : RB B u r) (hp1 : RB B u (prev.getD (i - 1) default)) (hp : RB B (u + B) (prev.getD i default))
    (hw : sc.w (x.getD (i - 1) 0) (y.getD (j - 1) 0) ≤ B) :
    RB B (u + B) (stepJ sc cl x y j prev i r) := by
  have hb5 := bestS_rng N Ii Ij prev r hu0 hr hp1 hp hw
  have hxs := N.xs
  have hys := N.ys
  have hB1 := N.B1
  rw [stepJ_eq_xs _ _ _ _ hxs.2]
  refine ⟨hb5, rng_mono (bestI_rng N hr) (by omega), bestD_rng N hp, ?_, ?_⟩ <;> dsimp only
  · exact max_rng (by omega) hp.sn
  · exact max_rng (by omega) (ite_rng hb5 (rng_mono hr.xm (by omega)))

/-- `h3`: `I[curr][i-1] + gap_extend` and `D[prev][i] + gap_extend` are the two sums that can go `3·B` below the sentinel -/
theorem stepJC_eq (N : Num sc cl B G) {i j : Nat} (Ii : Idx sc B G i) (Ij : Idx sc B G j) (prev : List Row) (r : Row)
    {u : Int} (hu0 : 0 ≤ u) (huG : u + B ≤ G)
    (hr : RB B u r) (hp1 : RB B u (prev.getD (i - 1) default)) (hp : RB B (u + B) (prev.getD i default))
    (hw : -B ≤ sc.w (x.getD (i - 1) 0) (y.getD (j - 1) 0) ∧ sc.w (x.getD (i - 1) 0) (y.getD (j - 1) 0) ≤ B)
    (h3 : 3 * B ≤ 2147483648 + minScore ∨ (r.i = minScore ∧ (prev.getD i default).d = minScore)) :
    stepJC sc cl x y j prev (cl.xp + max cl.yp (sc.go + sc.ge * (j : Int))) i r = some (stepJ sc cl x y j prev i r) := by
  have hms := minScore_i32
  have hB1 := N.B1
  have hroom := N.room
  have hG0 := N.G0
  have hBG := Ii.BG
  have hM := add_rng hp1.s hw (by omega) (by omega)
  have hIext : add r.i sc.ge = some (r.i + sc.ge) :=
    add_ok ⟨by have := hr.i; have := N.ge; omega, by have := hr.i; have := N.ge; omega⟩
  have hDext : add (prev.getD i default).d sc.ge = some ((prev.getD i default).d + sc.ge) :=
    add_ok ⟨by have := hp.d; have := N.ge; omega, by have := hp.d; have := N.ge; omega⟩
  have hY0 := add_rng N.yp N.go (by omega) (by omega)
  have hY : add (cl.yp + sc.go) (sc.ge * (i : Int)) = some (cl.yp + sc.go + sc.ge * (i : Int)) :=
    add_rng (la := minScore - B) (ha := 0) ⟨by have := N.yp; have := N.go; omega, by have := N.yp; have := N.go; omega⟩
      ⟨Ii.lo, Ii.hi⟩ (by omega) (by omega)
  have hb5 := bestS_rng N Ii Ij prev r hu0 hr hp1 hp hw.2
  have hXs := add_rng hb5 N.xs (by omega) (by omega)
  have hYs := add_rng hb5 N.ys (by omega) (by omega)
  simp only [bestS, bestI, bestD] at hXs hYs
  simp only [stepJC, stepJ, Ii.cast, mulC_eq N Ii, openC_eq N hBG hr.s (Int.le_trans (by omega) huG),
    openC_eq N hBG hp.s huG, hM, hIext, hDext, hY0, hY, upd_eq_max, ite_gt_eq_max, hXs, cellS_eq N.xs.2, hYs]

/-! ### the loops over the last column -/

/-- ranges of the state of the post-loops -/
structure PB (U : Int) (p : PSt) : Prop where
  s : minScore ≤ p.s ∧ p.s ≤ U
  xm : minScore ≤ p.xm ∧ p.xm ≤ U

theorem post1StepC_eq (N : Num sc cl B G) (col : List Row) (i : Nat) (p : PSt) {U : Int} (hU : U ≤ G)
    (hp : minScore ≤ p.xm ∧ p.xm ≤ U) (hr : RB B U (col.getD i default)) :
    post1StepC cl x col i p = some (post1Step cl x col i p) ∧ PB U (post1Step cl x col i p) := by
  have hms := minScore_i32
  have hroom := N.room
  have hB1 := N.B1
  have hxs := N.xs
  have hs1 : minScore ≤ max (col.getD i default).sn (if i = x.length then p.xm else (col.getD i default).s) ∧
      max (col.getD i default).sn (if i = x.length then p.xm else (col.getD i default).s) ≤ U :=
    max_rng hr.sn.2 (ite_rng hp hr.s)
  have h1 := add_rng hs1 N.xs (by omega) (by omega)
  have hxm2 := max_rng (a := max (col.getD i default).sn (if i = x.length then p.xm else (col.getD i default).s) + cl.xs)
    (by omega) (ite_rng (c := i = x.length) hs1 hp)
  constructor
  · simp only [post1StepC, post1Step, upd_eq_max, h1]
  · rw [post1Step_eq]
    exact ⟨ite_rng hxm2 hs1, hxm2⟩

theorem post2StepC_eq (N : Num sc cl B G) (hBG : B ≤ G) (s1 : List PSt) (i : Nat) (p : PSt) {U : Int} (hU : U ≤ G)
    (hp : PB U p) (hq : minScore ≤ (s1.getD i default).s ∧ (s1.getD i default).s ≤ U) :
    post2StepC sc cl x s1 i p = some (post2Step sc cl x s1 i p) ∧ PB U (post2Step sc cl x s1 i p) := by
  have hms := minScore_i32
  have hroom := N.room
  have hB1 := N.B1
  have hgo := N.go
  have hge := N.ge
  have hxs := N.xs
  have hps := hp.s
  have hcur : minScore ≤ (if i = x.length then p.xm else (s1.getD i default).s) ∧
      (if i = x.length then p.xm else (s1.getD i default).s) ≤ U := ite_rng hp.xm hq
  by_cases hc : p.s + sc.go + sc.ge > (if i = x.length then p.xm else (s1.getD i default).s)
  · -- the new `I` value beats the cell: it lies between the cell and `U`
    have hss : minScore ≤ p.s + sc.go + sc.ge ∧ p.s + sc.go + sc.ge ≤ U := ⟨by omega, by omega⟩
    have h1 := add_rng hss N.xs (by omega) (by omega)
    have hxm2 := max_rng (a := p.s + sc.go + sc.ge + cl.xs) (by omega) (ite_rng (c := i = x.length) hss hp.xm)
    simp only [post2StepC, post2Step, openC_eq N hBG hp.s hU, hc, if_true, h1, upd_eq_max]
    exact ⟨trivial, ite_rng hxm2 hss, hxm2⟩
  · simp only [post2StepC, post2Step, openC_eq N hBG hp.s hU, hc, if_false]
    exact ⟨trivial, hcur, hp.xm⟩

end RbV.Model.PairwiseFill
