import RbV.Lemmas.PoaTopo
import RbV.Lemmas.PoaCells
/-!
# The consensus of the model is a non-empty word spelled by a path of the graph

for every graph with at least one node, edge end points in range and no directed cycle (no assumption on the
edge weights).  The table built by `consTable` stores for every node either "no successor" (`none` =
`usize::MAX`) or one of its predecessors; `argmaxLast` lands on a node; `consWalk` follows the stored
predecessors, each step lowering the topological rank, so it ends within the fuel and never leaves the graph.
-/
namespace RbV.Poa.Model

/-- the stored successor of `v` is absent or a predecessor of `v` -/
def NextOK (es : WEdges) (v : Nat) (e : CEntry) : Prop := e.2.2 = none ∨ ∃ u ∈ inN es v, e.2.2 = some u

theorem foldl_next (S : Nat → Prop) (f : CEntry → Nat → CEntry)
    (hf : ∀ best u, f best u = best ∨ (f best u).2.2 = some u) :
    ∀ (L : List Nat) (init : CEntry), (init.2.2 = none ∨ ∃ u, S u ∧ init.2.2 = some u) → (∀ u ∈ L, S u) →
      ((L.foldl f init).2.2 = none ∨ ∃ u, S u ∧ (L.foldl f init).2.2 = some u) := by
  intro L
  induction L with
  | nil => intro init h _; exact h
  | cons a L ih =>
    intro init h hS
    simp only [List.foldl_cons]
    apply ih
    · rcases hf init a with h1 | h1
      · rw [h1]; exact h
      · exact Or.inr ⟨a, hS a (by simp), h1⟩
    · intro u hu; exact hS u (List.mem_cons_of_mem _ hu)

theorem ite_or (c : Bool) (x y : CEntry) :
    (if c = true then y else x) = x ∨ (if c = true then y else x) = y := by
  cases c <;> simp

theorem consTable_spec (n : Nat) (es : WEdges) :
    (consTable n es).size = n ∧ ∀ v, NextOK es v ((consTable n es).getD v (0, 0, none)) := by
  unfold consTable
  refine foldl_inv (fun (tab : Array CEntry) => tab.size = n ∧ ∀ v, NextOK es v (tab.getD v (0, 0, none))) _ ?_ _ _ ?_
  · intro tab a h
    refine ⟨by simpa using h.1, ?_⟩
    intro v
    rw [getD_setIfInBounds]
    split
    · rename_i hc
      rw [hc.1]
      apply foldl_next (fun u => u ∈ inN es a)
      · intro best u
        exact (ite_or _ best (_, _, some u)).imp (fun h => h) (fun h => congrArg (·.2.2) h)
      · left; rfl
      · intro u hu; exact hu
    · exact h.2 v
  · refine ⟨by simp, ?_⟩
    intro v
    left
    simp only [Array.getD_eq_getD_getElem?, Array.getElem?_replicate]
    split <;> rfl

/-! ## `argmaxLast` lands on an index of the table -/

def amStep : Nat × Option Int → CEntry × Nat → Nat × Option Int := fun (bi, bs) (e, i) =>
    match bs with
    | none => (i, some e.2.1)
    | some s => if e.2.1 ≥ s then (i, some e.2.1) else (bi, bs)

theorem argmaxLast_eq (tab : Array CEntry) : argmaxLast tab = (tab.toList.zipIdx.foldl amStep (0, none)).1 := rfl

theorem amFold_some : ∀ (l : List CEntry) (k bi : Nat) (s : Int),
    ((l.zipIdx k).foldl amStep (bi, some s)).1 = bi ∨
    (k ≤ ((l.zipIdx k).foldl amStep (bi, some s)).1 ∧ ((l.zipIdx k).foldl amStep (bi, some s)).1 < k + l.length) := by
  intro l
  induction l with
  | nil => intro k bi s; left; rfl
  | cons e l ih =>
    intro k bi s
    simp only [List.zipIdx_cons, List.foldl_cons, List.length_cons]
    by_cases h : e.2.1 ≥ s
    · have : amStep (bi, some s) (e, k) = (k, some e.2.1) := by simp [amStep, h]
      rw [this]
      rcases ih (k + 1) k e.2.1 with h1 | h1
      · right; omega
      · right; omega
    · have : amStep (bi, some s) (e, k) = (bi, some s) := by simp [amStep, h]
      rw [this]
      rcases ih (k + 1) bi s with h1 | h1
      · left; exact h1
      · right; omega

theorem argmaxLast_lt (tab : Array CEntry) (h : 0 < tab.size) : argmaxLast tab < tab.size := by
  rw [argmaxLast_eq]
  have hl : tab.toList.length = tab.size := by simp
  cases hc : tab.toList with
  | nil => rw [hc] at hl; simp at hl; omega
  | cons e l =>
    rw [hc] at hl
    simp only [List.length_cons] at hl
    simp only [List.zipIdx_cons, List.foldl_cons]
    have : amStep (0, none) (e, 0) = (0, some e.2.1) := rfl
    rw [this]
    rcases amFold_some l (0 + 1) 0 e.2.1 with h1 | h1
    · omega
    · omega

/-! ## the walk -/

theorem consWalk_path (labels : List Nat) (es : WEdges) (tab : Array CEntry) (rho : Nat → Nat)
    (hwf : ∀ e ∈ es, e.1 < labels.length ∧ e.2.1 < labels.length)
    (htab : ∀ v, NextOK es v (tab.getD v (0, 0, none)))
    (hrho : ∀ v, ∀ p ∈ inN es v, rho p < rho v) :
    ∀ (f v : Nat) (P : List Nat), v < labels.length → rho v + 1 < f → IsWalk (plain es) (v :: P) →
      (∀ u ∈ P, u < labels.length) →
      ∃ P', P' ≠ [] ∧ IsWalk (plain es) P' ∧ (∀ u ∈ P', u < labels.length) ∧
        consWalk labels tab f (some v) (P.map fun u => labels.getD u 0) = some (P'.map fun u => labels.getD u 0) := by
  intro f
  induction f with
  | zero => intro v P _ h; omega
  | succ f ih =>
    intro v P hv hf hw hP
    have hPv : ∀ u ∈ v :: P, u < labels.length := by
      intro u hu
      rcases List.mem_cons.mp hu with h | h
      · subst h; exact hv
      · exact hP u h
    simp only [consWalk, hv, if_true]
    rcases htab v with h | ⟨u, hu, h⟩
    · rw [h]
      refine ⟨v :: P, by simp, hw, hPv, ?_⟩
      cases f with
      | zero => omega
      | succ f => simp [consWalk]
    · rw [h]
      obtain ⟨w, hw'⟩ := (mem_inN es v u).mp hu
      have := ih u (v :: P) (hwf _ hw').1 (by have := hrho v u hu; omega)
        ⟨(mem_plain es u v).mpr ⟨w, hw'⟩, hw⟩ hPv
      simpa using this

/-- on a DAG the walk back from any node ends within the fuel `node_count + 2` and spells a path: the position in `topo` is the rank -/
theorem consWalk_dag (labels : List Nat) (es : WEdges) (hg : Dag { labels := labels, es := es }) (tab : Array CEntry)
    (htab : ∀ v, NextOK es v (tab.getD v (0, 0, none))) (pos : Nat) (hpos : pos < labels.length) :
    ∃ P', P' ≠ [] ∧ IsWalk (plain es) P' ∧ (∀ u ∈ P', u < labels.length) ∧
      consWalk labels tab (labels.length + 2) (some pos) [] = some (P'.map fun u => labels.getD u 0) := by
  obtain ⟨vis, _, hnd, hmem, hcl⟩ := topo_spec labels.length es hg.wf hg.acyclic
  have hlen : vis.length ≤ labels.length := by
    have := List.Nodup.length_le_of_subset hnd (l₂ := List.range labels.length)
      (fun v hv => List.mem_range.mpr ((hmem v).mp hv))
    simpa using this
  exact consWalk_path labels es tab (posIn vis) hg.wf htab
    (fun v p hp => by
      obtain ⟨w, hw⟩ := (mem_inN es v p).mp hp
      exact posIn_lt es vis hcl hnd v ((hmem v).mpr (hg.wf _ hw).2) p hp)
    (labels.length + 2) pos [] hpos (by have := posIn_le vis pos; omega) trivial (by simp)

theorem consensus_path (labels : List Nat) (es : WEdges) (hg : Dag { labels := labels, es := es }) :
    ∃ w, consensus labels es = some w ∧ w ≠ [] ∧ Spelled labels (plain es) w := by
  have hn : 0 < labels.length := hg.pos
  obtain ⟨hsize, htab⟩ := consTable_spec labels.length es
  have hpos := argmaxLast_lt (consTable labels.length es) (by omega)
  rw [hsize] at hpos
  obtain ⟨P', hne, hwalk, hval, heq⟩ := consWalk_dag labels es hg (consTable labels.length es) htab _ hpos
  refine ⟨P'.map fun u => labels.getD u 0, ?_, ?_, P', hwalk, hval, rfl⟩
  · simpa [consensus] using heq
  · intro h
    exact hne (List.map_eq_nil_iff.mp h)

end RbV.Poa.Model
