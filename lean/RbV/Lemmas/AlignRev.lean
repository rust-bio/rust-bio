import RbV.Ref.Gotoh
/-!
The affine-gap score along a split of the sequences, and its reversal symmetry (core Lean only).

`kind`, `lastSt`, `score_append`: the score of `ops1 ++ ops2` is the score of `ops1` plus that of `ops2` read in the
state `ops1` ends in.  This is what the refinement proof of `Aligner::custom` (`Lemmas/Fill*.lean`) uses: it extends
alignments of prefixes by one operation (`score_snoc_ins`, `score_snoc_del`, `score_snoc_mat`, `score_snoc_sub`).

`score_reverse`, `best_reverse`: the score of an operation list is invariant under reversing both sequences and the
list — a maximal run of k insertions costs `go + k·ge` whichever end it is read from — so the matrix over *prefixes*
and the specification `best`, which recurses over *suffixes*, speak of the same quantity.  A fact of its own (exported by
`Thm/C01.lean`); the refinement proof does not go through it.
-/
namespace RbV.Align

def kind : Op → St
  | .ins => .ins
  | .del => .del
  | _ => .none

/-- kind of the last column after `ops`, starting from `st` -/
def lastSt (st : St) : List Op → St
  | [] => st
  | o :: r => lastSt (kind o) r

theorem lastSt_append_singleton (st : St) (l : List Op) (o : Op) : lastSt st (l ++ [o]) = kind o := by
  induction l generalizing st with
  | nil => simp only [List.nil_append, lastSt]
  | cons a l ih => simp only [List.cons_append, lastSt, ih]

theorem score_append (sc : Sc) : ∀ (ops1 : List Op) (st : St) (x1 y1 : List Nat) (v1 : Int),
    score sc st x1 y1 ops1 = some v1 → ∀ (x2 y2 : List Nat) (ops2 : List Op),
    score sc st (x1 ++ x2) (y1 ++ y2) (ops1 ++ ops2) =
      (score sc (lastSt st ops1) x2 y2 ops2).map (· + v1) := by
  intro ops1
  induction ops1 with
  | nil =>
    intro st x1 y1 v1 h x2 y2 ops2
    obtain ⟨rfl, rfl, rfl⟩ := Model.PairwiseFill.score_nil_inv h
    simp only [List.nil_append, Int.add_zero, lastSt, Option.map_id_fun', id_eq]
  | cons o r ih =>
    intro st x1 y1 v1 h x2 y2 ops2
    cases o with
    | mat | sub =>
      obtain ⟨a, x1, b, y1, u, rfl, rfl, h', rfl, heq⟩ := score_diag_cons (by simp) h
      simp only [List.cons_append, heq, ih .none x1 y1 u h' x2 y2 ops2, lastSt, kind, Option.map_map]
      congr 1; funext t; simp only [Function.comp]; omega
    | ins =>
      obtain ⟨a, x1, u, rfl, h', rfl⟩ := score_ins_cons h
      simp only [List.cons_append, score, ih .ins x1 y1 u h' x2 y2 ops2, lastSt, kind, Option.map_map]
      congr 1; funext t; simp only [Function.comp]; omega
    | del =>
      obtain ⟨b, y1, u, rfl, h', rfl⟩ := score_del_cons h
      simp only [List.cons_append, score_del_eq, ih .del x1 y1 u h' x2 y2 ops2, lastSt, kind, Option.map_map]
      congr 1; funext t; simp only [Function.comp]; omega

end RbV.Align

/-! `score_append` for one more operation, under the names the `Lemmas/Fill*.lean` files use -/
namespace RbV.Model.PairwiseFill
open RbV.Align

theorem score_snoc_ins (sc : Sc) (X Y : List Nat) (ops : List Op) (c : Int) (a : Nat)
    (h : score sc .none X Y ops = some c) :
    score sc .none (X ++ [a]) Y (ops ++ [.ins]) = some (c + gapI sc (lastSt .none ops)) := by
  have := score_append sc ops .none X Y c h [a] [] [.ins]
  rw [List.append_nil] at this
  rw [this]; simp [score]; omega

theorem score_snoc_del (sc : Sc) (X Y : List Nat) (ops : List Op) (c : Int) (b : Nat)
    (h : score sc .none X Y ops = some c) :
    score sc .none X (Y ++ [b]) (ops ++ [.del]) = some (c + gapD sc (lastSt .none ops)) := by
  have := score_append sc ops .none X Y c h [] [b] [.del]
  rw [List.append_nil] at this
  rw [this]; simp [score]; omega

theorem score_snoc_mat (sc : Sc) (X Y : List Nat) (ops : List Op) (c : Int) (a b : Nat) (hab : a = b)
    (h : score sc .none X Y ops = some c) :
    score sc .none (X ++ [a]) (Y ++ [b]) (ops ++ [.mat]) = some (c + sc.w a b) := by
  have := score_append sc ops .none X Y c h [a] [b] [.mat]
  rw [this]; simp [score, hab]; omega

theorem score_snoc_sub (sc : Sc) (X Y : List Nat) (ops : List Op) (c : Int) (a b : Nat) (hab : a ≠ b)
    (h : score sc .none X Y ops = some c) :
    score sc .none (X ++ [a]) (Y ++ [b]) (ops ++ [.sub]) = some (c + sc.w a b) := by
  have := score_append sc ops .none X Y c h [a] [b] [.sub]
  rw [this]; simp [score, hab]; omega

end RbV.Model.PairwiseFill

namespace RbV.Align

/-- what a previous-column state saves on the first operation -/
def adj (sc : Sc) (st : St) : List Op → Int
  | .ins :: _ => if st = .ins then sc.go else 0
  | .del :: _ => if st = .del then sc.go else 0
  | _ => 0

theorem score_none_of_state (sc : Sc) (st : St) (x y : List Nat) (ops : List Op) (v : Int)
    (h : score sc st x y ops = some v) : score sc .none x y ops = some (v + adj sc st ops) := by
  cases ops with
  | nil =>
    obtain ⟨rfl, rfl, rfl⟩ := Model.PairwiseFill.score_nil_inv h
    simp only [score, adj, Int.add_zero]
  | cons o r =>
    cases o with
    | mat | sub =>
      obtain ⟨a, x, b, y, u, rfl, rfl, _, _, heq⟩ := score_diag_cons (by simp) h
      rw [heq] at h ⊢; rw [h]; simp only [adj, Int.add_zero]
    | ins =>
      obtain ⟨a, x, u, rfl, h', rfl⟩ := score_ins_cons h
      simp only [score, h', Option.map_some]
      cases st <;> simp [adj, gapI] <;> omega
    | del =>
      obtain ⟨b, y, u, rfl, h', rfl⟩ := score_del_cons h
      rw [score_del_eq, h', Option.map_some]
      cases st <;> simp [adj, gapD] <;> omega

theorem lastSt_reverse (r : List Op) :
    lastSt .none r.reverse = match r with | [] => St.none | o :: _ => kind o := by
  cases r with
  | nil => simp only [List.reverse_nil, lastSt]
  | cons o r => simp only [List.reverse_cons, lastSt_append_singleton]

/-- **Reversal symmetry of the score**: reading both sequences and the operations backwards gives the same
score (and the same validity). -/
theorem score_reverse (sc : Sc) : ∀ (ops : List Op) (x y : List Nat) (v : Int),
    score sc .none x y ops = some v → score sc .none x.reverse y.reverse ops.reverse = some v := by
  intro ops
  induction ops with
  | nil =>
    intro x y v h
    obtain ⟨rfl, rfl, rfl⟩ := Model.PairwiseFill.score_nil_inv h
    rfl
  | cons o r ih =>
    intro x y v h
    cases o with
    | mat | sub =>
      obtain ⟨a, x, b, y, u, rfl, rfl, h', rfl, heq⟩ := score_diag_cons (by simp) h
      rw [List.reverse_cons, List.reverse_cons, List.reverse_cons,
        score_append sc r.reverse .none x.reverse y.reverse u (ih x y u h') [a] [b], heq]
      simp only [score, Option.map_some, Int.zero_add, Option.some.injEq]; omega
    | ins =>
      obtain ⟨a, x, u, rfl, h', rfl⟩ := score_ins_cons h
      have hr := ih x y _ (score_none_of_state sc .ins x y r u h')
      simp only [List.reverse_cons, Model.PairwiseFill.score_snoc_ins sc _ _ _ _ a hr, lastSt_reverse]
      cases r with
      | nil => simp only [gapI, adj, Int.add_zero]
      | cons o' r' => cases o' <;> simp [adj, gapI, kind] <;> omega
    | del =>
      obtain ⟨b, y, u, rfl, h', rfl⟩ := score_del_cons h
      have hr := ih x y _ (score_none_of_state sc .del x y r u h')
      simp only [List.reverse_cons, Model.PairwiseFill.score_snoc_del sc _ _ _ _ b hr, lastSt_reverse]
      cases r with
      | nil => simp only [gapD, adj, Int.add_zero]
      | cons o' r' => cases o' <;> simp [adj, gapD, kind] <;> omega

/-- … hence the optimum over operation lists is the same read forwards or backwards -/
theorem best_reverse (sc : Sc) (x y : List Nat) :
    best sc .none x.reverse y.reverse = best sc .none x y := by
  have key : ∀ x y : List Nat, best sc .none x y ≤ best sc .none x.reverse y.reverse := by
    intro x y
    obtain ⟨ops, h⟩ := best_attained sc .none x y
    exact best_upper sc ops.reverse .none _ _ _ (score_reverse sc ops x y _ h)
  have h1 := key x y
  have h2 := key x.reverse y.reverse
  simp only [List.reverse_reverse] at h2
  omega

end RbV.Align
