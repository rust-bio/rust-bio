import RbV.Model.PoaI32
import RbV.Lemmas.PoaCells
/-!
`poa_i32_no_overflow` (`Thm/C16.lean`), lemmas: inside `PoaEnv` the cells of the unbounded mirrors of `Poa::custom` and
`Poa::global_banded` stay in `[MIN_SCORE − B, j·B]` (column `j ≤ n`; row 0: `[MIN_SCORE, 0]`; `max_in_column`,
`max_in_row` in `[0, n·B]`), hence every checked operation of `Model/PoaI32.lean` succeeds with the unbounded result.
Last section, the other direction: what a `some` result of `bRow0C`, `cStepC`, `xSuffixC`, `customTableC` consists of (each compiled
`match` of the mirror is an `Option.bind`), for the proofs about the translated text.  Core Lean only.
-/
namespace RbV.Poa.Model.I32P
open RbV.NW RbV.I32

theorem foldlC_eq {α β : Type} (fC : β → α → Option β) (f : β → α → β) (P : β → Prop) :
    ∀ (l : List α) (b : β), P b → (∀ a ∈ l, ∀ b, P b → fC b a = some (f b a) ∧ P (f b a)) →
      foldlC fC b l = some (l.foldl f b) ∧ P (l.foldl f b) := by
  intro l
  induction l with
  | nil => intro b hb _; exact ⟨rfl, hb⟩
  | cons a as ih =>
    intro b hb h
    obtain ⟨h1, h2⟩ := h a List.mem_cons_self b hb
    simp only [foldlC, h1, List.foldl_cons]
    exact ih _ h2 (fun a' ha' => h a' (List.mem_cons_of_mem _ ha'))

theorem mapC_eq {α β : Type} (fC : α → Option β) (f : α → β) : ∀ (l : List α), (∀ a ∈ l, fC a = some (f a)) →
    mapC fC l = some (l.map f) := by
  intro l
  induction l with
  | nil => intro _; rfl
  | cons a as ih =>
    intro h
    simp only [mapC, h a List.mem_cons_self, ih (fun a' ha' => h a' (List.mem_cons_of_mem _ ha')), List.map_cons]

theorem minScore_poa_i32 : -2147483648 ≤ minScore + minScore ∧ minScore < 0 := by decide

/-- a cell of column `j` (`j ≤ n`) is in range -/
def InR (B : Int) (n j : Nat) (c : Cell) : Prop :=
  j ≤ n ∧ minScore - B ≤ c.score ∧ c.score ≤ (j : Int) * B

/-- the cells of columns `j0, j0 + 1, …` are in range -/
def CellsOK (B : Int) (n : Nat) : Nat → List Cell → Prop
  | _, [] => True
  | j, c :: cs => InR B n j c ∧ CellsOK B n (j + 1) cs

def RowOK (B : Int) (n : Nat) (r : BRow) : Prop := CellsOK B n r.start r.cells

/-- row 0: `[MIN_SCORE, 0]` in every column -/
def Row0OK (r0 : BRow) : Prop := ∀ j, minScore ≤ (r0.get j).score ∧ (r0.get j).score ≤ 0

theorem cellsOK_getD {B : Int} {n : Nat} : ∀ (cells : List Cell) (j0 k : Nat), CellsOK B n j0 cells → k < cells.length →
    InR B n (j0 + k) (cells.getD k mcell) := by
  intro cells
  induction cells with
  | nil => intro j0 k _ hk; simp at hk
  | cons c cs ih =>
    intro j0 k h hk
    cases k with
    | zero => simpa using h.1
    | succ k =>
      have := ih (j0 + 1) k h.2 (by simpa using hk)
      have e : j0 + 1 + k = j0 + (k + 1) := by omega
      rw [e] at this
      simpa using this

theorem natCast_mul_nonneg (j : Nat) {B : Int} (hB : 0 ≤ B) : 0 ≤ (j : Int) * B := Int.mul_nonneg (by omega) hB

/-- `Traceback::get` on a row in range gives a score in `[MIN_SCORE − B, j·B]` (no `j ≤ n` claim: out-of-band answers) -/
theorem get_ok {B : Int} {n : Nat} (hB : 0 ≤ B) (r : BRow) (h : RowOK B n r) (j : Nat) :
    minScore - B ≤ (r.get j).score ∧ (r.get j).score ≤ (j : Int) * B := by
  have hms := minScore_poa_i32
  have hj := natCast_mul_nonneg j hB
  rcases r.get_cases j with ⟨k, hk, rfl, e⟩ | ⟨_, e⟩ | ⟨_, e⟩ | ⟨_, e⟩
  · rw [e]; exact (cellsOK_getD r.cells r.start k h hk).2
  all_goals rw [e]; simp only [mcell]; omega

theorem emptyRow_ok (B : Int) (n : Nat) : RowOK B n (emptyRow n) := by simp [RowOK, emptyRow, CellsOK]

theorem pred_mul (j : Nat) (B : Int) (hj : 1 ≤ j) : ((j - 1 : Nat) : Int) * B = (j : Int) * B - B := by
  have e : ((j - 1 : Nat) : Int) = (j : Int) - 1 := by omega
  rw [e, Int.sub_mul, Int.one_mul]

section
variable {sc : Sc} {xp xs yp ys : Int} {labels query : List Nat} {B : Int}

theorem predC_eq (E : PoaEnv sc xp xs yp ys labels query B) (v r b j : Nat) (hj1 : 1 ≤ j) (hjn : j ≤ query.length)
    (hw : -B ≤ sc.w r b ∧ sc.w r b ≤ B) (acc : Cell) (pp : Nat × BRow) (hp : RowOK B query.length pp.2)
    (hacc : minScore ≤ acc.score ∧ acc.score ≤ (j : Int) * B) :
    predC sc v r b j acc pp = some (predStep sc v r b j acc pp) ∧
      (minScore ≤ (predStep sc v r b j acc pp).score ∧ (predStep sc v r b j acc pp).score ≤ (j : Int) * B) := by
  have hB1 := E.B1
  have hgap := E.gap
  have h2B := E.twoB
  have hnB := E.nB
  have hjB := col_le (B := B) (by omega) hjn
  have g1 := get_ok (by omega) pp.2 hp (j - 1)
  have g2 := get_ok (by omega) pp.2 hp j
  rw [pred_mul j B hj1] at g1
  unfold predC predStep
  rw [add_ok ⟨by omega, by omega⟩]; simp only []
  rw [add_ok ⟨by omega, by omega⟩]; simp only []
  refine ⟨trivial, ?_⟩
  simp only [cmax_score]
  omega

/-- `max_cell` of a column (`candC` = `cCand`, and `bCand` for `init = mcell`) -/
theorem candC_eq (E : PoaEnv sc xp xs yp ys labels query B) (init : Cell) (hinit : minScore ≤ init.score ∧ init.score ≤ 0)
    (r0 : BRow) (hr0 : Row0OK r0) (v r : Nat) (hr : r ∈ labels) (preds : List (Nat × BRow))
    (hpreds : ∀ pp ∈ preds, RowOK B query.length pp.2) (j : Nat) (hj1 : 1 ≤ j) (hjn : j ≤ query.length) :
    candC sc init query r0 v r preds j = some (cCand sc init query r0 v r preds j) ∧
      InR B query.length j (cCand sc init query r0 v r preds j) := by
  have hB1 := E.B1
  have h2B := E.twoB
  have hms := minScore_poa_i32
  have hBj : B ≤ (j : Int) * B := by
    have := Int.mul_le_mul_of_nonneg_right (show (1 : Int) ≤ (j : Int) by omega) (show 0 ≤ B by omega)
    omega
  have hq : query.getD (j - 1) 0 ∈ query := by
    rw [List.getD_eq_getElem?_getD, List.getElem?_eq_getElem (by omega)]; exact List.getElem_mem _
  have hw := And.intro (E.wlo r hr _ hq) (E.whi r hr _ hq)
  unfold candC cCand
  cases preds with
  | nil =>
    simp only []
    have g := hr0 (j - 1)
    rw [add_ok ⟨by omega, by omega⟩]
    exact ⟨rfl, hjn, by simp only []; omega, by simp only []; omega⟩
  | cons p ps =>
    simp only []
    have := foldlC_eq (predC sc v r (query.getD (j - 1) 0) j) (predStep sc v r (query.getD (j - 1) 0) j)
      (fun acc => minScore ≤ acc.score ∧ acc.score ≤ (j : Int) * B) (p :: ps) init ⟨hinit.1, by omega⟩
      (fun pp hpp acc hacc => predC_eq E v r _ j hj1 hjn hw acc pp (hpreds pp hpp) hacc)
    exact ⟨this.1, hjn, Int.le_trans (by omega) this.2.1, this.2.2⟩

theorem insScanC_eq (E : PoaEnv sc xp xs yp ys labels query B) (iOp : POp) : ∀ (cands : List Cell) (j0 : Nat) (left : Cell),
    (minScore - B ≤ left.score ∧ left.score ≤ (j0 : Int) * B) →
    CellsOK B query.length (j0 + 1) cands →
    insScanC sc.gap iOp left cands = some (insScan sc.gap iOp left cands) ∧
      CellsOK B query.length (j0 + 1) (insScan sc.gap iOp left cands) := by
  have hB1 := E.B1
  have hgap := E.gap
  have h2B := E.twoB
  have hnB := E.nB
  intro cands
  induction cands with
  | nil => intro j0 left _ _; exact ⟨rfl, trivial⟩
  | cons c cs ih =>
    intro j0 left hl hc
    obtain ⟨⟨hcn, hc1, hc2⟩, hcs⟩ := hc
    have hjB := col_le (B := B) (n := query.length) (j := j0) (by omega) (by omega)
    have e : ((j0 + 1 : Nat) : Int) * B = (j0 : Int) * B + B := by
      push_cast; rw [Int.add_mul, Int.one_mul]
    simp only [insScanC, insScan]
    rw [add_ok ⟨by omega, by omega⟩]; simp only []
    have hcell : minScore - B ≤ (cmax c ⟨left.score + sc.gap, iOp⟩).score ∧
        (cmax c ⟨left.score + sc.gap, iOp⟩).score ≤ ((j0 + 1 : Nat) : Int) * B := by
      rw [cmax_score]; simp only []; omega
    obtain ⟨h1, h2⟩ := ih (j0 + 1) _ hcell hcs
    rw [h1]
    exact ⟨rfl, ⟨hcn, hcell⟩, h2⟩

theorem cellsOK_map_range' {n : Nat} (f : Nat → Cell) : ∀ (k j0 : Nat), (∀ j, j0 ≤ j → j < j0 + k → InR B n j (f j)) →
    CellsOK B n j0 ((List.range' j0 k).map f) := by
  intro k
  induction k with
  | zero => intro j0 _; simp [List.range', CellsOK]
  | succ k ih =>
    intro j0 h
    simp only [List.range', List.map_cons, CellsOK]
    exact ⟨h j0 (Nat.le_refl _) (by omega), ih (j0 + 1) (fun j h1 h2 => h j (by omega) (by omega))⟩

theorem natCast_mul_gap (E : PoaEnv sc xp xs yp ys labels query B) (k : Nat) :
    -((k : Int) * B) ≤ (k : Int) * sc.gap ∧ (k : Int) * sc.gap ≤ 0 := by
  have hgap := E.gap
  have h1 : (k : Int) * (-B) ≤ (k : Int) * sc.gap := Int.mul_le_mul_of_nonneg_left hgap.1 (by omega)
  have h2 : (k : Int) * sc.gap ≤ (k : Int) * 0 := Int.mul_le_mul_of_nonneg_left hgap.2 (by omega)
  rw [Int.mul_neg] at h1
  rw [Int.mul_zero] at h2
  exact ⟨h1, h2⟩

/-- `initialize_scores` -/
theorem bRow0C_eq (E : PoaEnv sc xp xs yp ys labels query B) :
    bRow0C sc.gap yp query.length = some (bRow0 sc.gap yp query.length) := by
  have hB1 := E.B1
  have hnB := E.nB
  unfold bRow0C bRow0
  have h0 : mul sc.gap (ofUsize 0) = some (sc.gap * ((0 : Nat) : Int)) := by
    rw [ofUsize_ok (by omega)]
    exact mul_ok (by rw [Int.natCast_zero, Int.mul_zero]; decide)
  rw [h0]; simp only []
  rw [mapC_eq _ (fun (j : Nat) => cmax ⟨(j : Int) * sc.gap, .i none⟩ ⟨yp, .y 0 j⟩)]
  intro j hj
  rw [List.mem_range'_1] at hj
  have hjB := col_le (B := B) (n := query.length) (j := j) (by omega) (by omega)
  have hjj : (j : Int) * 1 ≤ (j : Int) * B := Int.mul_le_mul_of_nonneg_left hB1 (by omega)
  have hg := natCast_mul_gap E j
  have hc : sc.gap * (j : Int) = (j : Int) * sc.gap := Int.mul_comm _ _
  have hm : mul sc.gap (j : Int) = some (sc.gap * (j : Int)) := mul_ok (by unfold InRange; omega)
  simp only [ofUsize_ok (show (j : Int) ≤ 2147483647 by omega), hm, hc]

theorem get_bounds_of_all (r : BRow) (lo hi : Int) (hall : ∀ c ∈ r.cells, lo ≤ c.score ∧ c.score ≤ hi)
    (hm : lo ≤ minScore ∧ minScore ≤ hi) (j : Nat) : lo ≤ (r.get j).score ∧ (r.get j).score ≤ hi := by
  rcases r.get_cases j with ⟨k, hk, _, e⟩ | ⟨_, e⟩ | ⟨_, e⟩ | ⟨_, e⟩
  · rw [e, List.getD_eq_getElem?_getD, List.getElem?_eq_getElem hk]; exact hall _ (List.getElem_mem hk)
  all_goals rw [e]; exact hm

theorem bRow0_ok (E : PoaEnv sc xp xs yp ys labels query B) : Row0OK (bRow0 sc.gap yp query.length) := by
  have hms := minScore_poa_i32
  have hyp := E.yp
  refine get_bounds_of_all _ minScore 0 ?_ ⟨by omega, by omega⟩
  intro c hc
  simp only [bRow0, List.mem_cons, List.mem_map] at hc
  rcases hc with rfl | ⟨j, _, rfl⟩
  · simp only []; omega
  · have hg := natCast_mul_gap E j
    rw [cmax_score]; simp only []; omega

theorem edgeCellC_eq (E : PoaEnv sc xp xs yp ys labels query B) (v : Nat) (hv : v < labels.length) :
    edgeCellC sc xp v = some (cmax ⟨((v : Int) + 1) * sc.gap, .d none⟩ ⟨xp, .x 0⟩) ∧
      (minScore ≤ (cmax ⟨((v : Int) + 1) * sc.gap, .d none⟩ ⟨xp, .x 0⟩ : Cell).score ∧
        (cmax ⟨((v : Int) + 1) * sc.gap, .d none⟩ ⟨xp, .x 0⟩ : Cell).score ≤ 0) := by
  have hB1 := E.B1
  have hxp := E.xp
  have hmB := E.mB
  have hg := natCast_mul_gap E (v + 1)
  have hvB : ((v + 1 : Nat) : Int) * B ≤ (labels.length : Int) * B := Int.mul_le_mul_of_nonneg_right (by omega) (by omega)
  have hvv : ((v + 1 : Nat) : Int) * 1 ≤ ((v + 1 : Nat) : Int) * B := Int.mul_le_mul_of_nonneg_left hB1 (by omega)
  have e : ((v + 1 : Nat) : Int) = (v : Int) + 1 := by push_cast; rfl
  have hc : sc.gap * ((v + 1 : Nat) : Int) = ((v : Int) + 1) * sc.gap := by rw [e]; exact Int.mul_comm _ _
  have hcast : ((v + 1 : Nat) : Int) ≤ 2147483647 := by omega
  rw [e] at hg hvB hvv
  have hm : mul sc.gap ((v + 1 : Nat) : Int) = some (sc.gap * ((v + 1 : Nat) : Int)) :=
    mul_ok (by unfold InRange; rw [hc]; omega)
  simp only [edgeCellC, ofUsize_ok hcast, hm, hc]
  exact ⟨trivial, by rw [cmax_score]; simp only []; omega, by rw [cmax_score]; simp only []; omega⟩

theorem initCell_ok (E : PoaEnv sc xp xs yp ys labels query B) :
    minScore ≤ (cmax mcell ⟨xp, .x 0⟩).score ∧ (cmax mcell ⟨xp, .x 0⟩).score ≤ 0 := by
  have hxp := E.xp
  rw [cmax_score]; simp only [mcell]; omega

/-- candidates and insertion scan of a node's row from column `start + 1` on, behind a first cell `c0` in `[MIN_SCORE, 0]` -/
theorem scanRowC_eq (E : PoaEnv sc xp xs yp ys labels query B) (r0 : BRow) (hr0 : Row0OK r0) (v r : Nat) (hr : r ∈ labels)
    (preds : List (Nat × BRow)) (hpreds : ∀ pp ∈ preds, RowOK B query.length pp.2)
    (init c0 : Cell) (hinit : minScore ≤ init.score ∧ init.score ≤ 0)
    (hc0 : minScore ≤ c0.score ∧ c0.score ≤ 0) (start len : Nat) (hsl : start + len ≤ query.length) :
    mapC (candC sc init query r0 v r preds) (List.range' (start + 1) len) =
        some ((List.range' (start + 1) len).map (cCand sc init query r0 v r preds)) ∧
      insScanC sc.gap (.i (some v)) c0 ((List.range' (start + 1) len).map (cCand sc init query r0 v r preds)) =
        some (insScan sc.gap (.i (some v)) c0 ((List.range' (start + 1) len).map (cCand sc init query r0 v r preds))) ∧
      CellsOK B query.length start (c0 :: insScan sc.gap (.i (some v)) c0
        ((List.range' (start + 1) len).map (cCand sc init query r0 v r preds))) := by
  have hB1 := E.B1
  have hms := minScore_poa_i32
  have hsB := natCast_mul_nonneg start (show 0 ≤ B by omega)
  have hcand : ∀ j, start + 1 ≤ j → j < start + 1 + len →
      candC sc init query r0 v r preds j = some (cCand sc init query r0 v r preds j) ∧
        InR B query.length j (cCand sc init query r0 v r preds j) :=
    fun j h1 h2 => candC_eq E init hinit r0 hr0 v r hr preds hpreds j (by omega) (by omega)
  obtain ⟨hi1, hi2⟩ := insScanC_eq E (.i (some v)) _ start c0 ⟨by omega, by omega⟩
    (cellsOK_map_range' _ _ _ (fun j h1 h2 => (hcand j h1 h2).2))
  exact ⟨mapC_eq _ _ _ (fun j hj => (hcand j (List.mem_range'_1.mp hj).1 (List.mem_range'_1.mp hj).2).1), hi1,
    ⟨by omega, by omega, by omega⟩, hi2⟩

theorem cNodeRowC_eq (E : PoaEnv sc xp xs yp ys labels query B) (r0 : BRow) (hr0 : Row0OK r0) (v : Nat) (hv : v < labels.length)
    (preds : List (Nat × BRow)) (hpreds : ∀ pp ∈ preds, RowOK B query.length pp.2) :
    cNodeRowC sc xp query r0 v (labels.getD v 0) preds = some (cNodeRow sc xp query r0 v (labels.getD v 0) preds) ∧
      RowOK B query.length (cNodeRow sc xp query r0 v (labels.getD v 0) preds) := by
  obtain ⟨he, hc0⟩ := edgeCellC_eq E v hv
  obtain ⟨h1, h2, h3⟩ := scanRowC_eq E r0 hr0 v _ (List.getD_mem labels v 0 hv) preds hpreds _ _ (initCell_ok E) hc0 0 query.length
    (by rw [Nat.zero_add]; exact Nat.le_refl _)
  unfold cNodeRowC cNodeRow
  rw [he]; simp only []
  rw [h1]; simp only []
  rw [h2]
  exact ⟨rfl, h3⟩

theorem bNodeRowC_eq (E : PoaEnv sc xp xs yp ys labels query B) (r0 : BRow) (hr0 : Row0OK r0) (v : Nat) (hv : v < labels.length)
    (preds : List (Nat × BRow)) (hpreds : ∀ pp ∈ preds, RowOK B query.length pp.2) (start end_ : Nat) (hs : start ≤ query.length) :
    bNodeRowC sc xp query r0 v (labels.getD v 0) preds start end_ =
        some (bNodeRow sc xp query r0 v (labels.getD v 0) preds start end_) ∧
      RowOK B query.length (bNodeRow sc xp query r0 v (labels.getD v 0) preds start end_) := by
  have hms := minScore_poa_i32
  have hsl : start + (min query.length end_ - start) ≤ query.length := by omega
  obtain ⟨he, hc0⟩ := edgeCellC_eq E v hv
  have hc0' : (if start = 0 then edgeCellC sc xp v else some mcell) =
      some (if start = 0 then cmax ⟨((v : Int) + 1) * sc.gap, .d none⟩ ⟨xp, .x 0⟩ else mcell) := by
    split
    · exact he
    · rfl
  have hc0b : minScore ≤ (if start = 0 then cmax ⟨((v : Int) + 1) * sc.gap, .d none⟩ ⟨xp, .x 0⟩ else mcell : Cell).score ∧
      (if start = 0 then cmax ⟨((v : Int) + 1) * sc.gap, .d none⟩ ⟨xp, .x 0⟩ else mcell : Cell).score ≤ 0 := by
    split
    · exact hc0
    · simp only [mcell]; omega
  have hmc : minScore ≤ mcell.score ∧ mcell.score ≤ 0 := by simp only [mcell]; omega
  obtain ⟨h1, h2, h3⟩ := scanRowC_eq E r0 hr0 v _ (List.getD_mem labels v 0 hv) preds hpreds mcell _ hmc hc0b start _ hsl
  have hb : bCand sc query r0 v (labels.getD v 0) preds = cCand sc mcell query r0 v (labels.getD v 0) preds :=
    funext (bCand_eq_cCand sc query r0 v _ preds)
  unfold bNodeRowC bNodeRow
  rw [hc0']; simp only []
  rw [hb, h1]; simp only []
  rw [h2]
  exact ⟨rfl, h3⟩

theorem cellsOK_all {n : Nat} : ∀ (cs : List Cell) (j0 : Nat), 0 ≤ B → CellsOK B n j0 cs →
    ∀ c ∈ cs, minScore - B ≤ c.score ∧ c.score ≤ (n : Int) * B := by
  intro cs
  induction cs with
  | nil => intro _ _ _ c hc; simp at hc
  | cons c0 cs ih =>
    intro j0 hB h c hc
    rcases List.mem_cons.mp hc with rfl | hc'
    · obtain ⟨hj, h1, h2⟩ := h.1
      exact ⟨h1, Int.le_trans h2 (col_le hB hj)⟩
    · exact ih (j0 + 1) hB h.2 c hc'

theorem predsOK {n : Nat} {rows : Array BRow} (h : ∀ p, RowOK B n (rows.getD p (emptyRow n))) (ps : List Nat) :
    ∀ pp ∈ ps.map fun p => (p, rows.getD p (emptyRow n)), RowOK B n pp.2 := by
  intro pp hpp
  obtain ⟨p, _, rfl⟩ := List.mem_map.mp hpp
  exact h p

theorem rowsOK_set {n : Nat} {rows : Array BRow} (h : ∀ p, RowOK B n (rows.getD p (emptyRow n))) (v : Nat) {row : BRow}
    (hrow : RowOK B n row) : ∀ p, RowOK B n ((rows.setIfInBounds v row).getD p (emptyRow n)) :=
  getD_set_all (P := fun _ r => RowOK B n r) _ _ v _ h hrow

/-- invariant of the loop over the nodes in `custom`: every stored score within the envelope (`mcb` as in `CInv`) -/
structure CRange (B : Int) (n : Nat) (st : CState) : Prop where
  rows : ∀ p, RowOK B n (st.rows.getD p (emptyRow n))
  mcb : ∀ mc ∈ st.maxcol, 0 ≤ mc.1 ∧ mc.1 ≤ (n : Int) * B

theorem cStepC_eq (E : PoaEnv sc xp xs yp ys labels query B) (es : WEdges) (r0 : BRow) (hr0 : Row0OK r0)
    (st : CState) (hst : CRange B query.length st) (v : Nat) (hv : v < labels.length) :
    cStepC sc xp labels es query r0 st v = some (cStep sc xp labels es query r0 st v) ∧
      CRange B query.length (cStep sc xp labels es query r0 st v) := by
  have hB1 := E.B1
  obtain ⟨h1, h2⟩ := cNodeRowC_eq E r0 hr0 v hv _ (predsOK hst.rows (inN es v))
  unfold cStepC cStep
  simp only [h1]
  refine ⟨rfl, rowsOK_set hst.rows v h2, ?_⟩
  exact cStep_maxcol_bound _ sc xp labels es query r0 st v hst.mcb
    fun c hc => (cellsOK_all _ 0 (by omega) h2 c (List.mem_of_mem_tail hc)).2

theorem xSuffixC_eq (xs U : Int) (hxs : minScore ≤ xs ∧ xs ≤ 0) (hU : U ≤ 2147483647) (lastI : Nat)
    (mcs : List (Int × Nat)) (cs : List Cell) (col : Nat) (mir : Int × Nat)
    (hmc : ∀ mc ∈ mcs, 0 ≤ mc.1 ∧ mc.1 ≤ U) (hcs : ∀ c ∈ cs, c.score ≤ U) (hm : 0 ≤ mir.1 ∧ mir.1 ≤ U) :
    xSuffixC xs lastI col mcs cs mir = some (xSuffix xs lastI col mcs cs mir) ∧
      (0 ≤ (xSuffix xs lastI col mcs cs mir).2.1 ∧ (xSuffix xs lastI col mcs cs mir).2.1 ≤ U) := by
  have hms := minScore_poa_i32
  fun_induction xSuffix xs lastI col mcs cs mir with
  | case1 col mc mcs c cs mir hl rest mir' hx ih =>
    rw [hx] at ih
    obtain ⟨e1, e2⟩ := ih (fun x hx => hmc x (List.mem_cons_of_mem _ hx)) (fun x hx => hcs x (List.mem_cons_of_mem _ hx)) hm
    simp only [xSuffixC, hl, if_true, e1]
    exact ⟨trivial, e2⟩
  | case2 col mc mcs c cs mir hl maxcell mir1 rest mir' hx ih =>
    have h0 := hmc mc List.mem_cons_self
    have hc0 := hcs c List.mem_cons_self
    have hmir1 : 0 ≤ mir1.1 ∧ mir1.1 ≤ U := by
      have := cmax_score c ⟨mc.1 + xs, .x mc.2⟩
      simp only [mir1, maxcell]
      split
      · simp only [] at this ⊢; omega
      · exact hm
    rw [hx] at ih
    obtain ⟨e1, e2⟩ := ih (fun x hx => hmc x (List.mem_cons_of_mem _ hx)) (fun x hx => hcs x (List.mem_cons_of_mem _ hx)) hmir1
    simp only [xSuffixC, hl, if_false, add_ok (show InRange (mc.1 + xs) from ⟨by omega, by omega⟩)]
    rw [e1]
    exact ⟨rfl, e2⟩
  | case3 t x cs mir hn =>
    refine ⟨?_, hm⟩
    unfold xSuffixC
    split
    · rename_i mc mcs c cs
      exact absurd rfl (fun h => hn mc mcs c cs rfl h)
    · rfl

/-- **`Poa::custom` with `i32` scores: no overflow inside the envelope, the table is the unbounded mirror's** -/
theorem customTableC_eq (E : PoaEnv sc xp xs yp ys labels query B) (es : WEdges)
    (hord : ∀ v ∈ topo labels.length es, v < labels.length) :
    customTableC sc xp xs yp ys labels es query = some (customTable sc xp xs yp ys labels es query) := by
  have hB1 := E.B1
  have hms := minScore_poa_i32
  have hnB0 : 0 ≤ (query.length : Int) * B := natCast_mul_nonneg _ (by omega)
  obtain ⟨hf1, hf2⟩ := foldlC_eq (cStepC sc xp labels es query (bRow0 sc.gap yp query.length))
    (cStep sc xp labels es query (bRow0 sc.gap yp query.length)) (CRange B query.length)
    (topo labels.length es)
    { rows := Array.replicate labels.length (emptyRow query.length), maxcol := List.replicate (query.length + 1) ((0 : Int), 0) }
    ⟨fun p => by rw [replicate_emptyRow_getD]; exact emptyRow_ok B _,
     fun mc hmc => by rw [List.mem_replicate] at hmc; rw [hmc.2]; exact ⟨Int.le_refl 0, hnB0⟩⟩
    (fun v hv st hst => cStepC_eq E es _ (bRow0_ok E) st hst v (hord v hv))
  change foldlC _ _ _ = some (customSt sc xp yp labels es query) at hf1
  change CRange B query.length (customSt sc xp yp labels es query) at hf2
  rw [customTable_eq]
  unfold customTableC finishCells
  simp only [bRow0C_eq E, hf1]
  generalize customSt sc xp yp labels es query = st at hf2 ⊢
  have hcells : ∀ c ∈ (List.range (query.length + 1)).map
      (st.rows.getD ((topo labels.length es).getLastD 0) (emptyRow query.length)).get, c.score ≤ (query.length : Int) * B := by
    intro c hc
    rw [List.mem_map] at hc
    obtain ⟨j, hj, rfl⟩ := hc
    rw [List.mem_range] at hj
    have := get_ok (n := query.length) (by omega) _ (hf2.rows ((topo labels.length es).getLastD 0)) j
    exact Int.le_trans this.2 (col_le (by omega) (by omega))
  obtain ⟨hx1, hx2⟩ := xSuffixC_eq xs ((query.length : Int) * B) E.xs E.nB ((topo labels.length es).getLastD 0 + 1)
    st.maxcol _ 0 (0, 0) hf2.mcb hcells ⟨Int.le_refl 0, hnB0⟩
  simp only [hx1]
  have hnB := E.nB
  have hys := E.ys
  rw [add_ok ⟨by omega, by omega⟩]

/-! ### `global_banded` -/

theorem cellsOK_tail_len {n : Nat} (cells : List Cell) (j0 : Nat) (h : CellsOK B n j0 cells) (hne : cells ≠ []) :
    j0 + 1 + cells.tail.length ≤ n + 1 := by
  have hpos := List.length_pos_iff.mpr hne
  have := (cellsOK_getD cells j0 (cells.length - 1) h (by omega)).1
  rw [List.length_tail]
  omega

/-- invariant of the loop over the nodes in `global_banded`: every stored score within the envelope (`msj` as in `BInv`) -/
structure BRange (B : Int) (n : Nat) (st : BState) : Prop where
  rows : ∀ p, RowOK B n (st.rows.getD p (emptyRow n))
  msj : st.msj ≤ n

theorem bStepC_eq (E : PoaEnv sc xp xs yp ys labels query B) (es : WEdges) (bw : Nat) (r0 : BRow) (hr0 : Row0OK r0)
    (st : BState) (hst : BRange B query.length st) (v : Nat) (hv : v < labels.length) :
    bStepC sc xp labels es query bw r0 st v = some (bStep sc xp labels es query bw r0 st v) ∧
      BRange B query.length (bStep sc xp labels es query bw r0 st v) := by
  have hmsj := hst.msj
  have hstart : (if bw > st.msj then 0 else st.msj - bw) ≤ query.length := by split <;> omega
  obtain ⟨h1, h2⟩ := bNodeRowC_eq E r0 hr0 v hv _ (predsOK hst.rows (inN es v))
    (if bw > st.msj then 0 else st.msj - bw) (st.msj + bw) hstart
  unfold bStepC bStep
  simp only [h1]
  refine ⟨trivial, rowsOK_set hst.rows v h2, ?_⟩
  simp only []
  exact bUpdate_le query.length _ _ _ hmsj (cellsOK_tail_len _ _ h2 (by simp [bNodeRow]))

/-- **`Poa::global_banded` with `i32` scores: no overflow inside the envelope, the rows are the unbounded mirror's** -/
theorem bandedRowsC_eq (E : PoaEnv sc xp xs yp ys labels query B) (es : WEdges) (bw : Nat)
    (hord : ∀ v ∈ topo labels.length es, v < labels.length) :
    bandedRowsC sc xp yp labels es query bw =
      some (bRow0 sc.gap yp query.length, bandedRows sc xp yp labels es query bw) := by
  obtain ⟨hf1, _⟩ := foldlC_eq (bStepC sc xp labels es query bw (bRow0 sc.gap yp query.length))
    (bStep sc xp labels es query bw (bRow0 sc.gap yp query.length)) (BRange B query.length)
    (topo labels.length es)
    { rows := Array.replicate labels.length (emptyRow query.length), msj := 0, msr := minScore }
    ⟨fun p => by rw [replicate_emptyRow_getD]; exact emptyRow_ok B _, Nat.zero_le _⟩
    (fun v hv st hst => bStepC_eq E es bw _ (bRow0_ok E) st hst v (hord v hv))
  unfold bandedRowsC bandedRows
  simp only [bRow0C_eq E, hf1]

end

end RbV.Poa.Model.I32P

/-! ## what a `some` result of the checked-`i32` mirror consists of (for the proofs about the translated `Poa::custom`) -/

namespace RbV.Thm.GenSrcPoaAlign
open RbV RbV.NW RbV.Poa RbV.Poa.Model

/-! The checked mirror (`Model/PoaI32.lean`) is written with `match o with | none => none | some a => f a`; each of its compiled
matchers is `Option.bind`, so a `some` result is taken apart by `Option.bind_eq_some_iff`. -/

theorem mOpt {α β : Type} (o : Option α) (f : α → Option β) : foldlC.match_1 (fun _ => Option β) o (fun _ => none) f = o.bind f := by
  cases o <;> rfl

theorem mList {α β : Type} (o : Option (List α)) (f : List α → Option β) :
    mapC.match_1 (fun _ => Option β) o (fun _ => none) f = o.bind f := by cases o <;> rfl

theorem mInt {β : Type} (o : Option Int) (f : Int → Option β) : bRow0C.match_1 (fun _ => Option β) o (fun _ => none) f = o.bind f := by
  cases o <;> rfl

theorem mCells {β : Type} (o : Option (List Cell)) (f : List Cell → Option β) :
    bRow0C.match_3 (fun _ => Option β) o (fun _ => none) f = o.bind f := by cases o <;> rfl

theorem mCell {β : Type} (o : Option Cell) (f : Cell → Option β) : cNodeRowC.match_1 (fun _ => Option β) o (fun _ => none) f = o.bind f := by
  cases o <;> rfl

theorem mRow {β : Type} (o : Option BRow) (f : BRow → Option β) : cStepC.match_3 (fun _ => Option β) o (fun _ => none) f = o.bind f := by
  cases o <;> rfl

theorem mSt {β : Type} (o : Option CState) (f : CState → Option β) :
    customTableC.match_1 (fun _ => Option β) o (fun _ => none) f = o.bind f := by cases o <;> rfl

theorem mPair {β : Type} (o : Option (List Cell × Int × Nat)) (f : List Cell → Int × Nat → Option β) :
    xSuffixC.match_1 (fun _ => Option β) o (fun _ => none) f = o.bind fun p => f p.1 p.2 := by
  rcases o with _ | ⟨_, _⟩ <;> rfl

theorem mapC_cons_some {α β : Type} {f : α → Option β} {a : α} {l : List α} {r : List β} (h : mapC f (a :: l) = some r) :
    ∃ b bs, f a = some b ∧ mapC f l = some bs ∧ r = b :: bs := by
  simp only [mapC, mOpt, mList, Option.bind_eq_some_iff, Option.some.injEq] at h
  obtain ⟨b, hb, bs, hbs, rfl⟩ := h
  exact ⟨b, bs, hb, hbs, rfl⟩

theorem mapC_length {α β : Type} {f : α → Option β} : ∀ {l : List α} {r : List β}, mapC f l = some r → r.length = l.length
  | [], r, h => by simp only [mapC, Option.some.injEq] at h; subst h; rfl
  | a :: l, r, h => by
    obtain ⟨b, bs, _, h2, rfl⟩ := mapC_cons_some h
    simp [mapC_length h2]

theorem foldlC_cons_some {α β : Type} {f : β → α → Option β} {a : α} {l : List α} {b r : β}
    (h : foldlC f b (a :: l) = some r) : ∃ b', f b a = some b' ∧ foldlC f b' l = some r := by
  simpa only [foldlC, mOpt, Option.bind_eq_some_iff] using h

/-- one cell of row 0 (`initialize_scores`, before column 0 is overwritten) -/
def row0Cell (gap yclip : Int) (j : Nat) : Option Cell :=
  match I32.mul gap (I32.ofUsize j) with
  | none => none
  | some g => some (cmax ⟨g, .i none⟩ ⟨yclip, .y 0 j⟩)

theorem row0Cell_eq (gap yclip : Int) :
    row0Cell gap yclip = fun j => (I32.mul gap (I32.ofUsize j)).bind fun g => some (cmax ⟨g, .i none⟩ ⟨yclip, .y 0 j⟩) := by
  funext j; unfold row0Cell; cases I32.mul gap (I32.ofUsize j) <;> rfl

theorem bRow0C_some {gap yclip : Int} {n : Nat} {r0 : BRow} (h : bRow0C gap yclip n = some r0) :
    ∃ g0 cs, I32.mul gap (I32.ofUsize 0) = some g0 ∧ mapC (row0Cell gap yclip) (List.range' 1 n) = some cs ∧
      r0 = { cells := ⟨0, .m none⟩ :: cs, start := 0, stop := n + 1 } := by
  simp only [bRow0C, mInt, mCells, Option.bind_eq_some_iff, Option.some.injEq] at h
  obtain ⟨g0, h0, cs, h1, rfl⟩ := h
  exact ⟨g0, cs, h0, by rw [row0Cell_eq]; exact h1, rfl⟩

theorem bRow0C_shape {gap yclip : Int} {n : Nat} {r0 : BRow} (h : bRow0C gap yclip n = some r0) :
    r0.start = 0 ∧ r0.stop = n + 1 ∧ r0.cells.length = n + 1 := by
  obtain ⟨_, cs, _, h1, rfl⟩ := bRow0C_some h
  simp [mapC_length h1]

/-- candidate and insertion scan of a row, column by column (as the Rust loop interleaves them) -/
def colLoopC (cand : Nat → Option Cell) (gap : Int) (iOp : POp) : Cell → List Nat → Option (List Cell)
  | _, [] => some []
  | left, j :: js =>
    (cand j).bind fun c => (I32.add left.score gap).bind fun s =>
      (colLoopC cand gap iOp (cmax c ⟨s, iOp⟩) js).bind fun rest => some (cmax c ⟨s, iOp⟩ :: rest)

theorem insScanC_cons_some {gap : Int} {iOp : POp} {left c : Cell} {cs r : List Cell}
    (h : insScanC gap iOp left (c :: cs) = some r) :
    ∃ s rest, I32.add left.score gap = some s ∧ insScanC gap iOp (cmax c ⟨s, iOp⟩) cs = some rest ∧
      r = cmax c ⟨s, iOp⟩ :: rest := by
  simp only [insScanC, mInt, mCells, Option.bind_eq_some_iff, Option.some.injEq] at h
  obtain ⟨s, hs, rest, hr, rfl⟩ := h
  exact ⟨s, rest, hs, hr, rfl⟩

theorem colLoopC_cons_some {cand : Nat → Option Cell} {gap : Int} {iOp : POp} {left : Cell} {j : Nat} {js : List Nat}
    {r : List Cell} (h : colLoopC cand gap iOp left (j :: js) = some r) :
    ∃ c s rest, cand j = some c ∧ I32.add left.score gap = some s ∧
      colLoopC cand gap iOp (cmax c ⟨s, iOp⟩) js = some rest ∧ r = cmax c ⟨s, iOp⟩ :: rest := by
  simp only [colLoopC, Option.bind_eq_some_iff, Option.some.injEq] at h
  obtain ⟨c, hc, s, hs, rest, hr, rfl⟩ := h
  exact ⟨c, s, rest, hc, hs, hr, rfl⟩

theorem colLoopC_of (cand : Nat → Option Cell) (gap : Int) (iOp : POp) : ∀ (js : List Nat) (left : Cell) (cands cs : List Cell),
    mapC cand js = some cands → insScanC gap iOp left cands = some cs → colLoopC cand gap iOp left js = some cs
  | [], left, cands, cs, h1, h2 => by
    simp only [mapC, Option.some.injEq] at h1; subst h1
    simp only [insScanC, Option.some.injEq] at h2; subst h2; rfl
  | j :: js, left, cands, cs, h1, h2 => by
    obtain ⟨c, cands', hc, h1', rfl⟩ := mapC_cons_some h1
    obtain ⟨s, rest, hs, hr, rfl⟩ := insScanC_cons_some h2
    simp only [colLoopC, hc, hs, colLoopC_of cand gap iOp js _ cands' rest h1' hr, Option.bind_some]

theorem insScanC_length (gap : Int) (iOp : POp) : ∀ (cands : List Cell) (left : Cell) (cs : List Cell),
    insScanC gap iOp left cands = some cs → cs.length = cands.length
  | [], left, cs, h => by simp only [insScanC, Option.some.injEq] at h; subst h; rfl
  | c :: cands, left, cs, h => by
    obtain ⟨s, rest, _, hr, rfl⟩ := insScanC_cons_some h
    simp only [List.length_cons, insScanC_length gap iOp cands _ rest hr]

theorem predC_some {sc : Sc} {v r b j : Nat} {acc res : Cell} {pp : Nat × BRow} (h : predC sc v r b j acc pp = some res) :
    ∃ ms ds, I32.add (pp.2.get (j - 1)).score (sc.w r b) = some ms ∧ I32.add (pp.2.get j).score sc.gap = some ds ∧
      res = cmax acc (cmax ⟨ms, .m (some (pp.1, v))⟩ ⟨ds, .d (some (pp.1, v + 1))⟩) := by
  simp only [predC, mInt, Option.bind_eq_some_iff, Option.some.injEq] at h
  obtain ⟨ms, hm, ds, hd, rfl⟩ := h
  exact ⟨ms, ds, hm, hd, rfl⟩

theorem edgeCellC_some {sc : Sc} {xp : Int} {v : Nat} {c0 : Cell} (h : edgeCellC sc xp v = some c0) :
    ∃ g, I32.mul sc.gap (I32.ofUsize (v + 1)) = some g ∧ c0 = cmax ⟨g, .d none⟩ ⟨xp, .x 0⟩ := by
  simp only [edgeCellC, mInt, Option.bind_eq_some_iff, Option.some.injEq] at h
  obtain ⟨g, hg, rfl⟩ := h
  exact ⟨g, hg, rfl⟩

/-- a step of the mirror's main loop that does not overflow: first cell, candidates and scanned cells of the new row -/
theorem cStepC_some {sc : Sc} {xp : Int} {labels : List Nat} {es : WEdges} {query : List Nat} {r0 : BRow} {st st' : CState}
    {v : Nat} (h : cStepC sc xp labels es query r0 st v = some st') :
    ∃ c0 cands cells, edgeCellC sc xp v = some c0 ∧
      mapC (candC sc (cmax mcell ⟨xp, .x 0⟩) query r0 v (labels.getD v 0)
        ((inN es v).map fun p => (p, st.rows.getD p (emptyRow query.length)))) (List.range' 1 query.length) = some cands ∧
      insScanC sc.gap (.i (some v)) c0 cands = some cells ∧
      st' = { rows := st.rows.setIfInBounds v { cells := c0 :: cells, start := 0, stop := query.length + 1 },
              maxcol := match st.maxcol with
                | [] => []
                | m0 :: rest => m0 :: colUpdate (v + 1) rest cells } := by
  simp only [cStepC, cNodeRowC, mCell, mCells, mRow, Option.bind_eq_some_iff, Option.some.injEq] at h
  obtain ⟨_, ⟨c0, hc0, cands, hcands, cells, hcells, rfl⟩, rfl⟩ := h
  exact ⟨c0, cands, cells, hc0, hcands, hcells, rfl⟩

theorem xSuffixC_cons_some {xs : Int} {lastI col : Nat} {mc : Int × Nat} {mcs : List (Int × Nat)} {c : Cell} {cs rest : List Cell}
    {mir mir' : Int × Nat} (h : xSuffixC xs lastI col (mc :: mcs) (c :: cs) mir = some (rest, mir')) :
    (mc.2 = lastI ∧ ∃ r1, xSuffixC xs lastI (col + 1) mcs cs mir = some (r1, mir') ∧ rest = c :: r1) ∨
    (mc.2 ≠ lastI ∧ ∃ s r1, I32.add mc.1 xs = some s ∧
      xSuffixC xs lastI (col + 1) mcs cs
        (if mir.1 < (cmax c ⟨s, .x mc.2⟩).score then ((cmax c ⟨s, .x mc.2⟩).score, col) else mir) = some (r1, mir') ∧
      rest = cmax c ⟨s, .x mc.2⟩ :: r1) := by
  simp only [xSuffixC, mInt, mPair] at h
  split at h <;> simp only [Option.bind_eq_some_iff, Option.some.injEq, Prod.mk.injEq] at h
  · rename_i hsk
    obtain ⟨⟨r1, m1⟩, hr, rfl, rfl⟩ := h
    exact Or.inl ⟨hsk, r1, hr, rfl⟩
  · rename_i hsk
    obtain ⟨s, ha, ⟨r1, m1⟩, hr, rfl, rfl⟩ := h
    exact Or.inr ⟨hsk, s, r1, ha, hr, rfl⟩

theorem colUpdate_length (i : Nat) : ∀ (mcs : List (Int × Nat)) (cs : List Cell), (colUpdate i mcs cs).length = mcs.length
  | [], cs => by cases cs <;> simp [colUpdate]
  | mc :: mcs, [] => by simp [colUpdate]
  | mc :: mcs, c :: cs => by simp [colUpdate, colUpdate_length i mcs cs]

theorem customTableC_some {sc : Sc} {xp xs yp ys : Int} {labels : List Nat} {es : WEdges} {query : List Nat} {t : BTable}
    (h : customTableC sc xp xs yp ys labels es query = some t) :
    ∃ r0 st cells1 mir s, bRow0C sc.gap yp query.length = some r0 ∧
      foldlC (cStepC sc xp labels es query r0)
        { rows := Array.replicate labels.length (emptyRow query.length), maxcol := List.replicate (query.length + 1) ((0 : Int), 0) }
        (topo labels.length es) = some st ∧
      xSuffixC xs ((topo labels.length es).getLastD 0 + 1) 0 st.maxcol
        ((List.range (query.length + 1)).map (st.rows.getD ((topo labels.length es).getLastD 0) (emptyRow query.length)).get) (0, 0) =
        some (cells1, mir) ∧
      I32.add mir.1 ys = some s ∧
      t = { r0 := r0,
            rows := st.rows.setIfInBounds ((topo labels.length es).getLastD 0)
              { cells := if mir.2 ≠ query.length then
                  setAt cells1 query.length (cmax (cells1.getD query.length mcell) ⟨s, .y mir.2 query.length⟩) else cells1,
                start := 0, stop := query.length + 1 },
            last := (topo labels.length es).getLastD 0, n := query.length } := by
  simp only [customTableC, mInt, mRow, mSt, mPair, Option.bind_eq_some_iff, Option.some.injEq] at h
  obtain ⟨r0, h0, st, hst, ⟨cells1, mir⟩, hx, s, hy, rfl⟩ := h
  exact ⟨r0, st, cells1, mir, s, h0, hst, hx, hy, rfl⟩

theorem customTableC_last {sc : Sc} {xp xs yp ys : Int} {labels : List Nat} {es : WEdges} {query : List Nat} {t : BTable}
    (h : customTableC sc xp xs yp ys labels es query = some t) : t.last = (topo labels.length es).getLastD 0 ∧ t.n = query.length := by
  obtain ⟨_, _, _, _, _, _, _, _, _, rfl⟩ := customTableC_some h
  exact ⟨rfl, rfl⟩

end RbV.Thm.GenSrcPoaAlign
