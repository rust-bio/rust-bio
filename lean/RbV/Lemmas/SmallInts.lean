import RbV.Model.SmallInts
import RbV.Spec.Containers
/-
C18 — `SmallInts<S,B>` behaves like a plain `Vec<B>`: refinement of the mirror model
(`RbV.Model.SmallInts`) against the list specification (`RbV.Spec.SmallInts`).  Core Lean only.

`Abs` alone is an inductive invariant, also for an out-of-range `set` (which panics in Rust; in the
model it leaves `small` unchanged and at most adds a binding for an index `≥ length` to `big`, which no
in-range read consults, and which a later `push` of a big value shadows, of a small value never reads).
-/
namespace RbV.Lemmas.SmallInts
open RbV.Model.SmallInts RbV.Spec.SmallInts

/-- the model state `s` represents the plain vector `l`: same length and `get` agrees with indexing at
EVERY index (so reads beyond the end are `none`) -/
def Abs (hi : Int) (s : St) (l : List Int) : Prop :=
  s.small.length = l.length ∧ ∀ i, get hi s i = l[i]?

theorem lookup_cons_ne (k i : Nat) (v : Int) (m : List (Nat × Int)) (h : k ≠ i) :
    lookup ((k, v) :: m) i = lookup m i := by
  simp only [lookup, if_neg h]

theorem lookup_cons_eq (i : Nat) (v : Int) (m : List (Nat × Int)) :
    lookup ((i, v) :: m) i = some v := by
  simp only [lookup, if_true]

theorem abs_get_lt {hi : Int} {s : St} {l : List Int} (h : Abs hi s l) (i : Nat)
    (hs : i < s.small.length) (hl : i < l.length) :
    realValue hi s i s.small[i] = some l[i] := by
  have := h.2 i
  simp only [Model.SmallInts.get, dif_pos hs, List.getElem?_eq_getElem hl] at this
  exact this

theorem abs_new (hi : Int) : Abs hi new [] := by
  refine ⟨rfl, fun i => ?_⟩
  simp [Model.SmallInts.get, new]

theorem abs_fromElem (hi v : Int) (n : Nat) (hv : v < hi) :
    Abs hi (fromElem v n) (specFromElem v n) := by
  refine ⟨by simp [fromElem, specFromElem], fun i => ?_⟩
  have hlen : (fromElem v n).small.length = n := by simp [fromElem]
  simp only [Model.SmallInts.get, specFromElem]
  by_cases h : i < n
  · have h' : i < (fromElem v n).small.length := by omega
    rw [dif_pos h']
    have : (fromElem v n).small[i] = v := by simp [fromElem]
    simp only [this, realValue, if_pos hv, List.getElem?_replicate, if_pos h]
  · have h' : ¬ i < (fromElem v n).small.length := by omega
    rw [dif_neg h']
    simp only [List.getElem?_replicate, if_neg h]

theorem abs_push_small (hi : Int) (s : St) (l : List Int) (x : Int) (hx : x < hi) (h : Abs hi s l) :
    Abs hi { s with small := s.small ++ [x] } (l ++ [x]) := by
  refine ⟨by simp [h.1], fun i => ?_⟩
  have hlen := h.1
  simp only [Model.SmallInts.get, List.length_append, List.length_singleton]
  split
  · rename_i hi'
    by_cases hlt : i < s.small.length
    · have := abs_get_lt h i hlt (by omega)
      simp only [List.getElem_append_left hlt]
      rw [List.getElem?_append_left (by omega), List.getElem?_eq_getElem (by omega)]
      simpa only [realValue] using this
    · have hi_eq : i = s.small.length := by omega
      subst hi_eq
      rw [List.getElem_append_right (by omega)]
      rw [List.getElem?_append_right (by omega)]
      simp [realValue, hx, hlen]
  · rename_i hi'
    rw [List.getElem?_eq_none (by simp; omega)]

theorem abs_push_big (hi : Int) (s : St) (l : List Int) (v : Int) (h : Abs hi s l) :
    Abs hi { small := s.small ++ [hi], big := (s.small.length, v) :: s.big } (l ++ [v]) := by
  refine ⟨by simp [h.1], fun i => ?_⟩
  have hlen := h.1
  simp only [Model.SmallInts.get, List.length_append, List.length_singleton]
  split
  · rename_i hi'
    by_cases hlt : i < s.small.length
    · have := abs_get_lt h i hlt (by omega)
      simp only [List.getElem_append_left hlt]
      rw [List.getElem?_append_left (by omega), List.getElem?_eq_getElem (by omega)]
      simp only [realValue] at this ⊢
      rw [lookup_cons_ne _ _ _ _ (by omega)]
      exact this
    · have hi_eq : i = s.small.length := by omega
      subst hi_eq
      rw [List.getElem_append_right (by omega)]
      rw [List.getElem?_append_right (by omega)]
      simp [realValue, lookup_cons_eq, hlen]
  · rename_i hi'
    rw [List.getElem?_eq_none (by simp; omega)]

theorem abs_push (lo hi : Int) (s : St) (l : List Int) (v : Int) (h : Abs hi s l) :
    Abs hi (push lo hi s v) (l ++ [v]) := by
  simp only [push, Model.SmallInts.cast]
  split
  · rename_i x hc
    split at hc
    · injection hc with hc
      subst hc
      split
      · rename_i hx
        exact abs_push_small hi s l v hx h
      · exact abs_push_big hi s l v h
    · exact absurd hc (by simp)
  · exact abs_push_big hi s l v h

theorem abs_set_small (hi : Int) (s : St) (l : List Int) (i : Nat) (x : Int) (hx : x < hi)
    (h : Abs hi s l) : Abs hi { s with small := s.small.set i x } (l.set i x) := by
  refine ⟨by simp [h.1], fun j => ?_⟩
  have hlen := h.1
  simp only [Model.SmallInts.get, List.length_set]
  split
  · rename_i hj
    have := abs_get_lt h j hj (by omega)
    rw [List.getElem?_eq_getElem (by simp; omega)]
    simp only [List.getElem_set]
    by_cases hij : i = j
    · simp only [if_pos hij, realValue, if_pos hx]
    · simp only [if_neg hij]
      simpa only [realValue] using this
  · rename_i hj
    rw [List.getElem?_eq_none (by simp; omega)]

theorem abs_set_big (hi : Int) (s : St) (l : List Int) (i : Nat) (v : Int)
    (h : Abs hi s l) : Abs hi { small := s.small.set i hi, big := (i, v) :: s.big } (l.set i v) := by
  refine ⟨by simp [h.1], fun j => ?_⟩
  have hlen := h.1
  simp only [Model.SmallInts.get, List.length_set]
  split
  · rename_i hj
    have := abs_get_lt h j hj (by omega)
    rw [List.getElem?_eq_getElem (by simp; omega)]
    simp only [List.getElem_set]
    by_cases hij : i = j
    · subst hij
      simp [realValue, lookup_cons_eq]
    · simp only [if_neg hij]
      simp only [realValue] at this ⊢
      rw [lookup_cons_ne _ _ _ _ hij]
      exact this
  · rename_i hj
    rw [List.getElem?_eq_none (by simp; omega)]

theorem abs_set (lo hi : Int) (s : St) (l : List Int) (i : Nat) (v : Int) (h : Abs hi s l) :
    Abs hi (set lo hi s i v) (l.set i v) := by
  simp only [Model.SmallInts.set, Model.SmallInts.cast]
  split
  · rename_i x hc
    split at hc
    · injection hc with hc
      subst hc
      split
      · rename_i hx
        exact abs_set_small hi s l i v hx h
      · exact abs_set_big hi s l i v h
    · exact absurd hc (by simp)
  · exact abs_set_big hi s l i v h

/-- one operation; NO in-range hypothesis for `set` is needed -/
theorem abs_step (lo hi : Int) (s : St) (l : List Int) (op : Op) (h : Abs hi s l) :
    Abs hi (step lo hi s op) (specStep l op) := by
  cases op with
  | push v => exact abs_push lo hi s l v h
  | set i v => exact abs_set lo hi s l i v h
  | get i => exact h
  | iter => exact h
  | decompress => exact h

theorem abs_run (lo hi : Int) (ops : List Op) (s : St) (l : List Int) (h : Abs hi s l) :
    Abs hi (ops.foldl (step lo hi) s) (ops.foldl specStep l) := by
  induction ops generalizing s l with
  | nil => exact h
  | cons op r ih => exact ih _ _ (abs_step lo hi s l op h)

theorem iterFrom_eq (hi : Int) (s : St) (r : List Int) :
    ∀ (k : Nat) (m : List Int), r.length = m.length →
      (∀ j (h1 : j < r.length) (h2 : j < m.length), realValue hi s (k + j) r[j] = some m[j]) →
      iterFrom hi s r k = m := by
  induction r with
  | nil =>
    intro k m hl _
    cases m with
    | nil => rfl
    | cons a m => simp at hl
  | cons v r ih =>
    intro k m hl hr
    cases m with
    | nil => simp at hl
    | cons a m =>
      have h0 := hr 0 (by simp) (by simp)
      simp only [Nat.add_zero, List.getElem_cons_zero] at h0
      simp only [iterFrom, h0]
      congr 1
      apply ih (k + 1) m (by simpa using hl)
      intro j h1 h2
      have := hr (j + 1) (by simp; omega) (by simp; omega)
      simp only [List.getElem_cons_succ] at this
      rw [show k + 1 + j = k + (j + 1) by omega]
      exact this

/-- iteration / decompress yields exactly the vector -/
theorem toList_of_abs (hi : Int) (s : St) (l : List Int) (h : Abs hi s l) : toList hi s = l := by
  unfold toList
  apply iterFrom_eq hi s s.small 0 l h.1
  intro j h1 h2
  rw [Nat.zero_add]
  exact abs_get_lt h j h1 h2

theorem get_of_abs (hi : Int) (s : St) (l : List Int) (h : Abs hi s l) (i : Nat) :
    get hi s i = l[i]? := h.2 i

theorem run_from_new (lo hi : Int) (ops : List Op) :
    Abs hi (ops.foldl (step lo hi) new) (ops.foldl specStep []) :=
  abs_run lo hi ops new [] (abs_new hi)

theorem run_from_elem (lo hi v : Int) (n : Nat) (hv : v < hi) (ops : List Op) :
    Abs hi (ops.foldl (step lo hi) (fromElem v n)) (ops.foldl specStep (specFromElem v n)) :=
  abs_run lo hi ops (fromElem v n) (specFromElem v n) (abs_fromElem hi v n hv)

theorem toList_run_from_new (lo hi : Int) (ops : List Op) :
    toList hi (ops.foldl (step lo hi) new) = ops.foldl specStep [] :=
  toList_of_abs hi _ _ (run_from_new lo hi ops)

theorem toList_run_from_elem (lo hi v : Int) (n : Nat) (hv : v < hi) (ops : List Op) :
    toList hi (ops.foldl (step lo hi) (fromElem v n)) = ops.foldl specStep (specFromElem v n) :=
  toList_of_abs hi _ _ (run_from_elem lo hi v n hv ops)

end RbV.Lemmas.SmallInts
