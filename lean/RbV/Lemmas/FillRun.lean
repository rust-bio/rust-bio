import RbV.Lemmas.FillWitAt
/-!
The traceback loop of `Model/PairwiseFill.lean`, semantically.

`Run T st st' k`: from state `st` the loop reaches `st'` with `layer = TB_START` after `k` iterations.
`Good T i j c v`: started at matrix position `(i, j)` with `last_layer = c` — whatever has been pushed so far and
whatever the registers `xstart/ystart/xend/yend` hold — the loop stops after at most `i + j` iterations, and the
operations it has pushed, read forwards, are a named witness (`WitAt`) for the value `v` at `(i, j)`: an alignment of
`x[xs..xe]` with `y[ys..ye]` whose value, clip penalties included, is at least `v`; the clip operations add up to
`xs + (i − xe)` and `ys + (j − ye)`; and the four registers end up holding the coordinates of that alignment (a
register is written exactly when the corresponding clip is non-empty).

One lemma per arm of the `match` (`good_start … good_ysuf`; the six lemmas for the four arms that push a core operation are
instances of `good_core`): a move code is good for a value if the code it leads to is good for the value the move came from.
`FillTb*.lean` apply them to the codes the fill writes, cell by cell.  `Good.wit`: a good code stands for a real alignment of at
least its value, which is how the reported score is bounded by the optimum.
-/
namespace RbV.Model.PairwiseFill
open RbV.Align

/-! ### runs -/

inductive Run (T : Table) : TbState → TbState → Nat → Prop
  | stop {st : TbState} : st.layer = .start → Run T st st 0
  | step {st st' st'' : TbState} {k : Nat} : tbStep T st = some st' → Run T st' st'' k → Run T st st'' (k + 1)

theorem run_tbLoop {T : Table} {st st' : TbState} {k : Nat} (h : Run T st st' k) :
    ∀ fuel, k < fuel → tbLoop T fuel st = some st' := by
  induction h with
  | stop hl =>
    intro fuel hf
    obtain ⟨f, rfl⟩ : ∃ f, fuel = f + 1 := ⟨fuel - 1, by omega⟩
    simp [tbLoop, tbStep, hl]
  | step hs _ ih =>
    intro fuel hf
    obtain ⟨f, rfl⟩ : ∃ f, fuel = f + 1 := ⟨fuel - 1, by omega⟩
    simp only [tbLoop, hs]
    exact ih f (by omega)

/-- the layer of the specification a move code ends in -/
def layerOf : Tb → St
  | .ins => .ins
  | .del => .del
  | _ => .none

section
variable (sc : Sc) (cl : Clip) (x y : List Nat) (T : Table)

/-- what a finished run from `(i, j)` with code `c`, entered with pushed operations `acc` and registers `a b d e`, has
produced: the operations `P` on top of `acc`, which are a witness with the coordinates `xs xe ys ye` -/
structure RunOut (i j : Nat) (c : Tb) (v : Int) (acc : List AOp) (a b d e : Nat) (st' : TbState) (P : List AOp)
    (xs xe ys ye : Nat) : Prop where
  layer : st'.layer = .start
  ops : st'.ops = P ++ acc
  wit : WitAt sc cl x y (layerOf c) i j v xs xe ys ye (coreOps P)
  xclip : xclipSum P = xs + (i - xe)
  yclip : yclipSum P = ys + (j - ye)
  xstart : st'.xstart = (if 0 < xs then xs else a)
  ystart : st'.ystart = (if 0 < ys then ys else b)
  xend : st'.xend = (if xe < i then xe else d)
  yend : st'.yend = (if ye < j then ye else e)

def RunRes (i j : Nat) (c : Tb) (v : Int) (acc : List AOp) (a b d e : Nat) (st' : TbState) : Prop :=
  ∃ P xs xe ys ye, RunOut sc cl x y i j c v acc a b d e st' P xs xe ys ye

def Good (i j : Nat) (c : Tb) (v : Int) : Prop :=
  ∀ acc a b d e, ∃ k st', k ≤ i + j ∧ Run T ⟨i, j, c, acc, a, b, d, e⟩ st' k ∧ RunRes sc cl x y i j c v acc a b d e st'

variable {sc cl x y T}

theorem good_mono {i j : Nat} {c : Tb} {v v' : Int} (h : Good sc cl x y T i j c v) (hv : v' ≤ v) :
    Good sc cl x y T i j c v' := by
  intro acc a b d e
  obtain ⟨k, st', hk, hrun, P, xs, xe, ys, ye, r⟩ := h acc a b d e
  exact ⟨k, st', hk, hrun, P, xs, xe, ys, ye, { r with wit := witAt_mono r.wit hv }⟩

/-- a good code stands for a real alignment of at least that value -/
theorem Good.wit {i j : Nat} {c : Tb} {v : Int} (h : Good sc cl x y T i j c v) : Wit sc cl x y (layerOf c) i j v := by
  obtain ⟨_, _, _, _, _, _, _, _, _, r⟩ := h [] 0 0 0 0
  exact r.wit.wit

/-- `TB_START => break`, at the origin -/
theorem good_start {v : Int} (hv : v ≤ 0) : Good sc cl x y T 0 0 .start v := by
  intro acc a b d e
  refine ⟨0, _, Nat.le_refl _, Run.stop rfl, [], 0, 0, 0, 0, rfl, rfl, witAt_start hv, ?_, ?_, ?_, ?_, ?_, ?_⟩ <;>
    simp [xclipSum, yclipSum]

/-- a register that holds the end of an alignment stopped before row `i` (then `i = m` and `dx = 0`), else `d` -/
theorem reg_shift {xe i dx d m : Nat} (h7 : xe < i → i = m) (hb : i + dx ≤ m) :
    (if xe < i then xe else d) = if xe + dx < i + dx then xe + dx else d := by
  split <;> split <;> omega

/-- one iteration that pushes the core operation `o` and moves `dx` rows and `dy` columns up: clips and registers are
those of the rest of the run, the witness is extended by `o` (`hw`) -/
theorem good_core {i j : Nat} {c c' : Tb} {v v' : Int} {o : Op} (dx dy : Nat) (hd : 0 < dx + dy)
    (hstep : ∀ acc a b d e, tbStep T ⟨i + dx, j + dy, c, acc, a, b, d, e⟩ = some ⟨i, j, c', .core o :: acc, a, b, d, e⟩)
    (h : Good sc cl x y T i j c' v')
    (hw : ∀ {xs xe ys ye ops}, WitAt sc cl x y (layerOf c') i j v' xs xe ys ye ops →
      WitAt sc cl x y (layerOf c) (i + dx) (j + dy) v xs (xe + dx) ys (ye + dy) (ops ++ [o])) :
    Good sc cl x y T (i + dx) (j + dy) c v := by
  intro acc a b d e
  obtain ⟨k, st', hk, hrun, P, xs, xe, ys, ye, r⟩ := h (.core o :: acc) a b d e
  have hb := witAt_bounds (hw r.wit)
  refine ⟨k + 1, st', by omega, Run.step (hstep acc a b d e) hrun, P ++ [.core o], xs, xe + dx, ys, ye + dy,
    { r with ops := by rw [r.ops, List.append_assoc]; rfl, wit := ?_, xclip := ?_, yclip := ?_, xend := ?_, yend := ?_ }⟩
  · rw [coreOps_append]; exact hw r.wit
  · rw [xclipSum_append, r.xclip, Nat.add_sub_add_right]; rfl
  · rw [yclipSum_append, r.yclip, Nat.add_sub_add_right]; rfl
  · rw [r.xend]; exact reg_shift r.wit.stop_x hb.2.2.1
  · rw [r.yend]; exact reg_shift r.wit.stop_y hb.2.2.2.2.2

/-- `TB_INS`, the I field of the cell names where the gap was opened from -/
theorem good_ins_open (hgo : sc.go ≤ 0) {i j : Nat} {c' : Tb} {v v' : Int} (hi : i < x.length)
    (hT : T.tI (i + 1) j = c') (h : Good sc cl x y T i j c' v') (hv : v ≤ v' + sc.go + sc.ge) :
    Good sc cl x y T (i + 1) j .ins v :=
  good_core (o := .ins) 1 0 (by omega) (fun _ _ _ _ _ => by simp [tbStep, hT]) h fun hw => witAt_ins hw hi fun st _ => by have := gapI_ge sc hgo st; omega

/-- `TB_INS`, the I field says `TB_INS`: the gap is extended -/
theorem good_ins_ext {i j : Nat} {v v' : Int} (hi : i < x.length)
    (hT : T.tI (i + 1) j = .ins) (h : Good sc cl x y T i j .ins v') (hv : v ≤ v' + sc.ge) :
    Good sc cl x y T (i + 1) j .ins v :=
  good_core (o := .ins) 1 0 (by omega) (fun _ _ _ _ _ => by simp [tbStep, hT]) h fun hw => witAt_ins hw hi fun st e => by rw [e rfl]; exact hv

theorem good_del_open (hgo : sc.go ≤ 0) {i j : Nat} {c' : Tb} {v v' : Int} (hj : j < y.length)
    (hT : T.tD i (j + 1) = c') (h : Good sc cl x y T i j c' v') (hv : v ≤ v' + sc.go + sc.ge) :
    Good sc cl x y T i (j + 1) .del v :=
  good_core (o := .del) 0 1 (by omega) (fun _ _ _ _ _ => by simp [tbStep, hT]) h fun hw => witAt_del hw hj fun st _ => by have := gapD_ge sc hgo st; omega

theorem good_del_ext {i j : Nat} {v v' : Int} (hj : j < y.length)
    (hT : T.tD i (j + 1) = .del) (h : Good sc cl x y T i j .del v') (hv : v ≤ v' + sc.ge) :
    Good sc cl x y T i (j + 1) .del v :=
  good_core (o := .del) 0 1 (by omega) (fun _ _ _ _ _ => by simp [tbStep, hT]) h fun hw => witAt_del hw hj fun st e => by rw [e rfl]; exact hv

theorem good_mat {i j : Nat} {v v' : Int} (hi : i < x.length) (hj : j < y.length)
    (hab : x.getD i 0 = y.getD j 0) (h : Good sc cl x y T i j (T.tS i j) v')
    (hv : v ≤ v' + sc.w (x.getD i 0) (y.getD j 0)) : Good sc cl x y T (i + 1) (j + 1) .mat v :=
  good_core 1 1 (by omega) (fun _ _ _ _ _ => rfl) h fun hw => witAt_mono (witAt_diag hw hi hj (Or.inl ⟨rfl, hab⟩)) hv

theorem good_sub {i j : Nat} {v v' : Int} (hi : i < x.length) (hj : j < y.length)
    (hab : x.getD i 0 ≠ y.getD j 0) (h : Good sc cl x y T i j (T.tS i j) v')
    (hv : v ≤ v' + sc.w (x.getD i 0) (y.getD j 0)) : Good sc cl x y T (i + 1) (j + 1) .subst v :=
  good_core 1 1 (by omega) (fun _ _ _ _ _ => rfl) h fun hw => witAt_mono (witAt_diag hw hi hj (Or.inr ⟨rfl, hab⟩)) hv

/-- `TB_XCLIP_PREFIX`: `Xclip(i)`, continue in row 0 -/
theorem good_xpre {i j : Nat} {v v' : Int} (hi1 : 1 ≤ i) (hi : i ≤ x.length)
    (h : Good sc cl x y T 0 j (T.tS 0 j) v') (hv : v ≤ v' + cl.xp) : Good sc cl x y T i j .xpre v := by
  intro acc a b d e
  obtain ⟨k, st', hk, hrun, P, xs, xe, ys, ye, r⟩ := h (.xclip i :: acc) i b d e
  obtain ⟨e1, e2, hw'⟩ := witAt_xpre r.wit hi1 hi
  subst e1; subst e2
  have r1 := r.xstart
  refine ⟨k + 1, st', by omega, Run.step (by simp [tbStep]) hrun, P ++ [.xclip i], i, i, ys, ye,
    { r with ops := by simp [r.ops], wit := ?_, xclip := ?_, yclip := ?_, xstart := ?_, xend := by simpa using r.xend }⟩
  · rw [coreOps_append]
    simpa [coreOps, layerOf] using witAt_mono hw' hv
  · rw [xclipSum_append, r.xclip]; simp [xclipSum]
  · rw [yclipSum_append, r.yclip]; simp [yclipSum]
  · simp at r1; simp [r1]; omega

/-- `TB_XCLIP_SUFFIX`: `Xclip(Lx[j])`, continue `Lx[j]` rows up, in row `k` -/
theorem good_xsuf {j k : Nat} {v v' : Int} (hk : k < x.length) (hlx : T.lx j = x.length - k)
    (h : Good sc cl x y T k j (T.tS k j) v') (hv : v ≤ v' + cl.xs) : Good sc cl x y T x.length j .xsuf v := by
  have ek : x.length - T.lx j = k := by omega
  intro acc a b d e
  obtain ⟨n, st', hn, hrun, P, xs, xe, ys, ye, r⟩ := h (.xclip (T.lx j) :: acc) a b k e
  have hxe := witAt_xe_eq r.wit hk
  subst hxe
  refine ⟨n + 1, st', by omega, Run.step (by simp [tbStep, ek]) hrun, P ++ [.xclip (T.lx j)], xs, xe, ys, ye,
    { r with ops := by simp [r.ops], wit := ?_, xclip := ?_, yclip := ?_, xend := ?_ }⟩
  · rw [coreOps_append]
    simpa [coreOps, layerOf] using witAt_mono (witAt_xsuf r.wit hk) hv
  · rw [xclipSum_append, r.xclip, hlx]; simp [xclipSum]
  · rw [yclipSum_append, r.yclip]; simp [yclipSum]
  · rw [r.xend, if_neg (Nat.lt_irrefl _), if_pos hk]

theorem good_ypre {i j : Nat} {v v' : Int} (hj1 : 1 ≤ j) (hj : j ≤ y.length)
    (h : Good sc cl x y T i 0 (T.tS i 0) v') (hv : v ≤ v' + cl.yp) : Good sc cl x y T i j .ypre v := by
  intro acc a b d e
  obtain ⟨k, st', hk, hrun, P, xs, xe, ys, ye, r⟩ := h (.yclip j :: acc) a j d e
  obtain ⟨e1, e2, hw'⟩ := witAt_ypre r.wit hj1 hj
  subst e1; subst e2
  have r2 := r.ystart
  refine ⟨k + 1, st', by omega, Run.step (by simp [tbStep]) hrun, P ++ [.yclip j], xs, xe, j, j,
    { r with ops := by simp [r.ops], wit := ?_, xclip := ?_, yclip := ?_, ystart := ?_, yend := by simpa using r.yend }⟩
  · rw [coreOps_append]
    simpa [coreOps, layerOf] using witAt_mono hw' hv
  · rw [xclipSum_append, r.xclip]; simp [xclipSum]
  · rw [yclipSum_append, r.yclip]; simp [yclipSum]
  · simp at r2; simp [r2]; omega

theorem good_ysuf {i k : Nat} {v v' : Int} (hk : k < y.length) (hly : T.ly i = y.length - k)
    (h : Good sc cl x y T i k (T.tS i k) v') (hv : v ≤ v' + cl.ys) : Good sc cl x y T i y.length .ysuf v := by
  have ek : y.length - T.ly i = k := by omega
  intro acc a b d e
  obtain ⟨n, st', hn, hrun, P, xs, xe, ys, ye, r⟩ := h (.yclip (T.ly i) :: acc) a b d k
  have hye := witAt_ye_eq r.wit hk
  subst hye
  refine ⟨n + 1, st', by omega, Run.step (by simp [tbStep, ek]) hrun, P ++ [.yclip (T.ly i)], xs, xe, ys, ye,
    { r with ops := by simp [r.ops], wit := ?_, xclip := ?_, yclip := ?_, yend := ?_ }⟩
  · rw [coreOps_append]
    simpa [coreOps, layerOf] using witAt_mono (witAt_ysuf r.wit hk) hv
  · rw [xclipSum_append, r.xclip]; simp [xclipSum]
  · rw [yclipSum_append, r.yclip, hly]; simp [yclipSum]
  · rw [r.yend, if_neg (Nat.lt_irrefl _), if_pos hk]

end

end RbV.Model.PairwiseFill
