import RbV.Lemmas.SaisSets
/-
Interfaces of the three phases of `calc_pos` (LMS placement, L pass, S pass): what each phase needs and delivers.
`R` is the relation in which the result is sorted (see `IndRel`, `StepL`, `StepS` in `SaisSets.lean`); with
`R := fun _ _ => True` the statements are the pure "every position is placed exactly once" part.
With them: length and entries of the initial `bucket_start` / `bucket_end`, and what `SDone` gives its users (`SDone.perm`,
`SDone.pairwise`).
-/
namespace RbV.Sais

/-- `self.lms_pos` on entry of `calc_pos`: every LMS position exactly once, in any order -/
structure LmsList (t : List Nat) (lms : List Nat) : Prop where
  nodup : lms.Nodup
  mem : ∀ p, p ∈ lms ↔ isLms (tyOf t) p = true

theorem LmsList.reverse {t lms : List Nat} (hl : LmsList t lms) : LmsList t lms.reverse :=
  ⟨List.pairwise_reverse.mpr (hl.nodup.imp Ne.symm), fun p => by rw [List.mem_reverse]; exact hl.mem p⟩

/-- a text of length 1 is `[0]` and has no LMS position -/
theorem eq_singleton_of_length_lt_two {t lms : List Nat} (hv : Valid t) (h2 : ¬ 2 ≤ t.length) (hl : LmsList t lms) :
    t = [0] ∧ lms = [] := by
  have ht := valid_length_one hv (by have := hv.pos; omega)
  subst ht
  refine ⟨rfl, List.eq_nil_iff_forall_not_mem.mpr fun p hp => ?_⟩
  have := (hl.mem p).mp hp
  have hlt := lt_of_isLms p this
  rw [isLms_iff] at this
  simp at hlt
  omega

/-- the initial value of `bucket_end` -/
def bEnd0 (t : List Nat) : List Nat := initBucketEnd (initBucketStart t) t.length

theorem getD_initBucketStart {t : List Nat} (hv : Valid t) (c : Nat) (hc : c < maxSucc t) :
    (initBucketStart t).getD c 0 = cntLt t c := by
  rw [initBucketStart_eq t hv.dense, List.getD_eq_getElem?_getD, List.getElem?_map, List.getElem?_range hc]
  rfl

theorem length_initBucketStart {t : List Nat} (hv : Valid t) : (initBucketStart t).length = maxSucc t := by
  rw [initBucketStart_eq t hv.dense]; simp

theorem length_bEnd0 {t : List Nat} (hv : Valid t) : (bEnd0 t).length = maxSucc t := by
  unfold bEnd0
  rw [initBucketEnd_eq t hv.ne_nil hv.dense]
  simp

theorem getD_bEnd0 {t : List Nat} (hv : Valid t) (c : Nat) (hc : c < maxSucc t) :
    (bEnd0 t).getD c 0 = cntLt t (c + 1) - 1 := by
  unfold bEnd0
  rw [initBucketEnd_eq t hv.ne_nil hv.dense]
  simp [List.getD_eq_getElem?_getD, hc]

/-- state of `pos` after "insert LMS positions to the end of their buckets" (undefined entries hold `n`) -/
structure Placed (t : List Nat) (R : Nat → Nat → Prop) (pos0 : List Nat) : Prop where
  len : pos0.length = t.length
  /-- a defined entry is an LMS position sitting in the S-area of its own bucket -/
  area : ∀ i, i < t.length → pos0.getD i 0 ≠ t.length →
    isLms (tyOf t) (pos0.getD i 0) = true ∧ inBkt t (sym t (pos0.getD i 0)) i ∧
      cntLt t (sym t (pos0.getD i 0)) + (Lset t (sym t (pos0.getD i 0))).length ≤ i
  inj : ∀ i j, i < j → j < t.length → pos0.getD i 0 ≠ t.length → pos0.getD j 0 ≠ t.length →
    pos0.getD i 0 ≠ pos0.getD j 0
  all : ∀ p, isLms (tyOf t) p = true → ∃ i, i < t.length ∧ pos0.getD i 0 = p
  sorted : ∀ i j, i < j → j < t.length → pos0.getD i 0 ≠ t.length → pos0.getD j 0 ≠ t.length →
    R (pos0.getD i 0) (pos0.getD j 0)

/-- state of `pos` after the L pass, relative to the state `pos0` before it -/
structure LDone (t : List Nat) (R : Nat → Nat → Prop) (pos0 pos : List Nat) : Prop where
  len : pos.length = t.length
  /-- the L-area of bucket `c` holds L-type positions with symbol `c` -/
  larea : ∀ c, c < maxSucc t → ∀ i, cntLt t c ≤ i → i < cntLt t c + (Lset t c).length → pos.getD i 0 ∈ Lset t c
  /-- the S-areas are untouched -/
  sarea : ∀ c, c < maxSucc t → ∀ i, cntLt t c + (Lset t c).length ≤ i → i < cntLt t (c + 1) →
    pos.getD i 0 = pos0.getD i 0
  inj : ∀ i j, i < j → j < t.length → pos.getD i 0 ≠ t.length → pos.getD j 0 ≠ t.length →
    pos.getD i 0 ≠ pos.getD j 0
  sorted : ∀ i j, i < j → j < t.length → pos.getD i 0 ≠ t.length → pos.getD j 0 ≠ t.length →
    R (pos.getD i 0) (pos.getD j 0)

/-- index `i` lies in the L-area of its bucket -/
def inLArea (t : List Nat) (i : Nat) : Prop :=
  ∃ c, c < maxSucc t ∧ cntLt t c ≤ i ∧ i < cntLt t c + (Lset t c).length

theorem inLArea.lt {t : List Nat} {i : Nat} (h : inLArea t i) : i < t.length := by
  obtain ⟨c, _, h1, h2⟩ := h
  have := cntLt_succ_split t c
  have := cntLt_le_length t (c + 1)
  omega

/-- what the S pass needs of the array it starts from -/
structure LInit (t : List Nat) (R : Nat → Nat → Prop) (pos : List Nat) : Prop where
  len : pos.length = t.length
  larea : ∀ c, c < maxSucc t → ∀ i, cntLt t c ≤ i → i < cntLt t c + (Lset t c).length → pos.getD i 0 ∈ Lset t c
  inj : ∀ i j, i < j → inLArea t i → inLArea t j → pos.getD i 0 ≠ pos.getD j 0
  sorted : ∀ i j, i < j → inLArea t i → inLArea t j → R (pos.getD i 0) (pos.getD j 0)
  /-- slot 0 (the bucket of the final sentinel) holds `n − 1` -/
  zero : pos.getD 0 0 = t.length - 1

/-- the result of the S pass: every position exactly once, `R`-sorted -/
structure SDone (t : List Nat) (R : Nat → Nat → Prop) (pos : List Nat) : Prop where
  len : pos.length = t.length
  lt : ∀ i, i < t.length → pos.getD i 0 < t.length
  inj : ∀ i j, i < j → j < t.length → pos.getD i 0 ≠ pos.getD j 0
  sorted : ∀ i j, i < j → j < t.length → R (pos.getD i 0) (pos.getD j 0)

theorem SDone.perm {t : List Nat} {R : Nat → Nat → Prop} {pos : List Nat} (h : SDone t R pos) :
    pos.Perm (List.range t.length) :=
  perm_range_of_inj pos h.len h.lt h.inj

theorem SDone.pairwise {t : List Nat} {R : Nat → Nat → Prop} {pos : List Nat} (h : SDone t R pos) :
    pos.Pairwise R := by
  rw [List.pairwise_iff_getElem]
  intro i j hi hj hij
  have := h.sorted i j hij (by rw [← h.len]; exact hj)
  rw [List.getD_eq_getElem?_getD, List.getD_eq_getElem?_getD, List.getElem?_eq_getElem hi,
    List.getElem?_eq_getElem hj] at this
  simpa using this

end RbV.Sais
