import RbV.Model.FastxStream
import RbV.Lemmas.BufLines
/-!
# UTF-8 validity and line splitting  (C11)

`read_line` validates each line separately; LF is never part of a multi-byte sequence, so the lines of a valid
UTF-8 file are valid, and ASCII is valid.
-/
namespace RbV.Fastx
open RbV.BufLines

theorem validUtf8_ascii (l : Bytes) (h : ∀ b ∈ l, b < 128) : validUtf8 l = true := by
  induction l with
  | nil => rfl
  | cons b r ih =>
    have hb := h b (by simp)
    unfold validUtf8
    simp only [hb, if_true]
    exact ih fun x hx => h x (List.mem_cons_of_mem _ hx)

/-- **The first character of valid UTF-8**: a non-empty valid `f` is a character `ch` followed by valid UTF-8, a character in
front does not change validity, and LF occurs in a character only as the character LF itself. -/
theorem validUtf8_char {f : Bytes} (h : validUtf8 f = true) (hne : f ≠ []) :
    ∃ ch rest, f = ch ++ rest ∧ ch ≠ [] ∧ validUtf8 rest = true ∧ (∀ s, validUtf8 (ch ++ s) = validUtf8 s) ∧
      (ch = [10] ∨ ∀ x ∈ ch, x ≠ 10) := by
  fun_induction validUtf8 f with
  | case1 => exact absurd rfl hne
  | case2 b0 r hb _ =>
    refine ⟨[b0], r, rfl, by simp, h, fun s => ?_, ?_⟩
    · simp only [List.cons_append, List.nil_append]; (conv => lhs; unfold validUtf8)
      simp only [hb, if_true]
    · by_cases h10 : b0 = 10
      · exact .inl (by rw [h10])
      · exact .inr (by simpa using h10)
  | case3 => cases h
  | case4 b0 hb0 b1 r hr _ =>
    simp only [Bool.and_eq_true] at h
    refine ⟨[b0, b1], r, rfl, by simp, h.2, fun s => ?_, .inr ?_⟩
    · simp only [List.cons_append, List.nil_append]; (conv => lhs; unfold validUtf8)
      simp only [hb0, if_false, hr, if_true, h.1, Bool.true_and]
    · simp only [isCont, Bool.and_eq_true, decide_eq_true_eq] at h
      simp only [List.mem_cons, List.not_mem_nil, or_false, forall_eq_or_imp, forall_eq]
      omega
  | case5 => cases h
  | case6 b1 b2 r _ _ _ =>
    simp only [Bool.and_eq_true] at h
    obtain ⟨⟨h1, h2⟩, h3⟩ := h
    refine ⟨[224, b1, b2], r, rfl, by simp, h3, fun s => ?_, .inr ?_⟩
    · simp only [List.cons_append, List.nil_append]; (conv => lhs; unfold validUtf8)
      simp [h1, h2]
    · simp only [isCont, Bool.and_eq_true, decide_eq_true_eq] at h1 h2
      simp only [List.mem_cons, List.not_mem_nil, or_false, forall_eq_or_imp, forall_eq]
      omega
  | case7 b0 hb0 b1 hr b2 r h224 hr2 _ =>
    simp only [Bool.and_eq_true] at h
    obtain ⟨⟨h1, h2⟩, h3⟩ := h
    refine ⟨[b0, b1, b2], r, rfl, by simp, h3, fun s => ?_, .inr ?_⟩
    · simp only [List.cons_append, List.nil_append]; (conv => lhs; unfold validUtf8)
      simp only [hb0, if_false, hr, h224, hr2, if_true, h1, h2, Bool.true_and, Bool.false_eq_true]
    · simp only [isCont, Bool.and_eq_true, decide_eq_true_eq] at h1 h2
      simp only [List.mem_cons, List.not_mem_nil, or_false, forall_eq_or_imp, forall_eq]
      omega
  | case8 b1 b2 r _ _ _ _ _ =>
    simp only [Bool.and_eq_true] at h
    obtain ⟨⟨h1, h2⟩, h3⟩ := h
    refine ⟨[237, b1, b2], r, rfl, by simp, h3, fun s => ?_, .inr ?_⟩
    · simp only [List.cons_append, List.nil_append]; (conv => lhs; unfold validUtf8)
      simp [h1, h2]
    · simp only [isCont, Bool.and_eq_true, decide_eq_true_eq] at h1 h2
      simp only [List.mem_cons, List.not_mem_nil, or_false, forall_eq_or_imp, forall_eq]
      omega
  | case9 => cases h
  | case10 b1 b2 b3 r _ _ _ _ _ _ =>
    simp only [Bool.and_eq_true] at h
    obtain ⟨⟨⟨h1, h2⟩, h3⟩, h4⟩ := h
    refine ⟨[240, b1, b2, b3], r, rfl, by simp, h4, fun s => ?_, .inr ?_⟩
    · simp only [List.cons_append, List.nil_append]; (conv => lhs; unfold validUtf8)
      simp [h1, h2, h3]
    · simp only [isCont, Bool.and_eq_true, decide_eq_true_eq] at h1 h2 h3
      simp only [List.mem_cons, List.not_mem_nil, or_false, forall_eq_or_imp, forall_eq]
      omega
  | case11 b0 hb0 b1 hr b2 h224 hr2 hne2 b3 r hne3 hr3 _ =>
    simp only [Bool.and_eq_true] at h
    obtain ⟨⟨⟨h1, h2⟩, h3⟩, h4⟩ := h
    refine ⟨[b0, b1, b2, b3], r, rfl, by simp, h4, fun s => ?_, .inr ?_⟩
    · simp only [List.cons_append, List.nil_append]; (conv => lhs; unfold validUtf8)
      simp only [hb0, if_false, hr, h224, hr2, hne2, hne3, hr3, if_true, h1, h2, h3, Bool.true_and, Bool.false_eq_true]
    · simp only [isCont, Bool.and_eq_true, decide_eq_true_eq] at h1 h2 h3
      simp only [List.mem_cons, List.not_mem_nil, or_false, forall_eq_or_imp, forall_eq]
      omega
  | case12 b1 b2 b3 r _ _ _ _ _ _ _ _ =>
    simp only [Bool.and_eq_true] at h
    obtain ⟨⟨⟨h1, h2⟩, h3⟩, h4⟩ := h
    refine ⟨[244, b1, b2, b3], r, rfl, by simp, h4, fun s => ?_, .inr ?_⟩
    · simp only [List.cons_append, List.nil_append]; (conv => lhs; unfold validUtf8)
      simp [h1, h2, h3]
    · simp only [isCont, Bool.and_eq_true, decide_eq_true_eq] at h1 h2 h3
      simp only [List.mem_cons, List.not_mem_nil, or_false, forall_eq_or_imp, forall_eq]
      omega
  | case13 => cases h

theorem validUtf8_append (a b : Bytes) (ha : validUtf8 a = true) : validUtf8 (a ++ b) = validUtf8 b := by
  induction hn : a.length using Nat.strongRecOn generalizing a with
  | _ n ih =>
    by_cases hne : a = []
    · rw [hne, List.nil_append]
    · obtain ⟨ch, rest, rfl, hch, hv, hs, -⟩ := validUtf8_char ha hne
      have := List.length_pos_iff.mpr hch
      rw [List.append_assoc, hs, ih rest.length (by rw [← hn, List.length_append]; omega) rest hv rfl]

theorem validUtf8_firstLine (f : Bytes) (h : validUtf8 f = true) :
    validUtf8 (firstLine f).1 = true ∧ validUtf8 (firstLine f).2 = true := by
  induction hn : f.length using Nat.strongRecOn generalizing f with
  | _ n ih =>
    by_cases hne : f = []
    · subst hne; exact ⟨rfl, rfl⟩
    · obtain ⟨ch, rest, rfl, hch, hv, hs, rfl | hlf⟩ := validUtf8_char h hne
      · exact ⟨rfl, hv⟩
      · have := List.length_pos_iff.mpr hch
        obtain ⟨i1, i2⟩ := ih rest.length (by rw [← hn, List.length_append]; omega) rest hv rfl
        rw [firstLine_append_of_no_lf ch rest hlf]
        exact ⟨by rw [hs]; exact i1, i2⟩

/-- a valid UTF-8 file has only valid lines (LF is never part of a multi-byte sequence) -/
theorem allValid_splitLines (f : Bytes) (h : validUtf8 f = true) : ∀ l ∈ splitLines f, validUtf8 l = true := by
  induction f using firstLine_induction with
  | nil => intro l hl; cases hl
  | step f hne ih =>
    intro l hl
    rw [splitLines_eq_firstLine f hne] at hl
    have hfl := validUtf8_firstLine f h
    rcases List.mem_cons.mp hl with rfl | hl'
    · exact hfl.1
    · exact ih hfl.2 l hl'

/-- in valid UTF-8 no character starts with a continuation byte -/
theorem validUtf8_head (x : Nat) (r : Bytes) (h : validUtf8 (x :: r) = true) : ¬ (128 ≤ x ∧ x < 192) := by
  intro ⟨h1, h2⟩
  have n1 : ¬ x < 128 := by omega
  have n2 : ¬ 194 ≤ x := by omega
  have n3 : ¬ x = 224 := by omega
  have n4 : ¬ 225 ≤ x := by omega
  have n5 : ¬ x = 238 := by omega
  have n6 : ¬ x = 239 := by omega
  have n7 : ¬ x = 237 := by omega
  have n8 : ¬ x = 240 := by omega
  have n9 : ¬ 241 ≤ x := by omega
  have n10 : ¬ x = 244 := by omega
  rcases r with _ | ⟨b1, _ | ⟨b2, _ | ⟨b3, r3⟩⟩⟩ <;> simp [validUtf8, n1, n2, n3, n4, n5, n6, n7, n8, n9, n10] at h

end RbV.Fastx
