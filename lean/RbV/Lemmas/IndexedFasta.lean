import RbV.Model.IndexedFasta
/-! Lemmas behind the C12 theorems: `pos` arithmetic, `slice`, the loop invariant `Inv` and the state `seek_to` establishes,
soundness of the driver's well-formedness check. Core only. -/
namespace RbV.IdxFa
open RbV.Fastx

theorem pos_line (idx : Idx) (hlb : 0 < idx.lb) (line r : Nat) (hr : r < idx.lb) :
    pos idx (line * idx.lb + r) = idx.off + line * idx.lB + r := by
  unfold pos
  have h1 : (line * idx.lb + r) / idx.lb = line := by
    rw [Nat.add_comm, Nat.mul_comm, Nat.add_mul_div_left _ _ hlb, Nat.div_eq_of_lt hr]; omega
  have h2 : (line * idx.lb + r) % idx.lb = r := by
    rw [Nat.add_comm, Nat.mul_comm, Nat.add_mul_mod_self_left, Nat.mod_eq_of_lt hr]
  rw [h1, h2]

theorem pos_mono (idx : Idx) (hlb : 0 < idx.lb) (hlB : idx.lb ≤ idx.lB) {i j : Nat} (h : i ≤ j) :
    pos idx i ≤ pos idx j := by
  unfold pos
  have hd : i / idx.lb ≤ j / idx.lb := Nat.div_le_div_right h
  have hi := Nat.div_add_mod i idx.lb
  have hj := Nat.div_add_mod j idx.lb
  have hmi : i % idx.lb < idx.lb := Nat.mod_lt _ hlb
  have hmj : j % idx.lb < idx.lb := Nat.mod_lt _ hlb
  rcases Nat.lt_or_ge (i / idx.lb) (j / idx.lb) with hlt | hge
  · have : (i / idx.lb + 1) * idx.lB ≤ j / idx.lb * idx.lB := Nat.mul_le_mul_right _ hlt
    rw [Nat.add_mul] at this
    omega
  · have he : i / idx.lb = j / idx.lb := Nat.le_antisymm hd hge
    rw [he] at hi ⊢
    omega

theorem slice_length (f : Bytes) (idx : Idx) (a b : Nat) : (slice f idx a b).length = b - a := by
  simp [slice]

theorem slice_self (f : Bytes) (idx : Idx) (a : Nat) : slice f idx a a = [] := by
  simp [slice]

theorem slice_append (f : Bytes) (idx : Idx) {a b c : Nat} (hab : a ≤ b) (hbc : b ≤ c) :
    slice f idx a b ++ slice f idx b c = slice f idx a c := by
  unfold slice
  rw [← List.map_append]
  have : List.range' a (b - a) ++ List.range' b (c - b) = List.range' a (c - a) := by
    have h := @List.range'_append_1 a (b - a) (c - b)
    have e1 : a + (b - a) = b := by omega
    have e2 : b - a + (c - b) = c - a := by omega
    rw [e1, e2] at h; exact h
  rw [this]

/-- bytes taken from the stream at `base` are the slice of the bases whose positions start at `base` -/
theorem take_eq_slice (f rest : Bytes) (idx : Idx) (base cur n : Nat)
    (hrest : rest = f.drop base) (hn : n ≤ rest.length)
    (hpos : ∀ j, j < n → pos idx (cur + j) = base + j) :
    rest.take n = slice f idx cur (cur + n) := by
  subst hrest
  have hlen : (f.drop base).length = f.length - base := List.length_drop
  apply List.ext_getElem
  · simp [slice_length]; omega
  · intro j h1 h2
    have hj : j < n := by simp at h1; omega
    simp only [slice, List.getElem_take, List.getElem_drop, List.getElem_map, List.getElem_range']
    rw [Nat.one_mul, hpos j hj, List.getD_eq_getElem?_getD, List.getElem?_eq_getElem (by omega)]
    rfl

theorem slice_of_at (f : Bytes) (idx : Idx) (seq : Bytes) (a b : Nat) (hab : a ≤ b) (hb : b ≤ seq.length)
    (h : ∀ i, a ≤ i → (hi : i < b) → f[pos idx i]? = some (seq[i]'(by omega))) :
    slice f idx a b = (seq.drop a).take (b - a) := by
  apply List.ext_getElem
  · simp [slice_length]; omega
  · intro j h1 h2
    have hj : j < b - a := by simpa [slice_length] using h1
    simp only [slice, List.getElem_map, List.getElem_range', List.getElem_take, List.getElem_drop, Nat.one_mul]
    rw [List.getD_eq_getElem?_getD, h (a + j) (by omega) (by omega)]
    rfl

/-- the state invariant of the read loop: the stream is at line `line`, column `lo`, the next base is `cur` -/
structure Inv (f : Bytes) (idx : Idx) (s : St) (lo cur line : Nat) : Prop where
  rest_eq : s.rest = f.drop (idx.off + line * idx.lB + lo)
  lo_lt : lo < idx.lB
  cur_eq : cur = line * idx.lb + min lo idx.lb
  avail_le : s.avail ≤ s.rest.length

theorem Inv.base_le_pos {f : Bytes} {idx : Idx} {s : St} {lo cur line : Nat}
    (inv : Inv f idx s lo cur line) (hlb : 0 < idx.lb) (hlB : idx.lb < idx.lB) :
    idx.off + line * idx.lB + lo ≤ pos idx cur := by
  obtain ⟨_, hlo, hcur, _⟩ := inv
  by_cases h : lo < idx.lb
  · have : cur = line * idx.lb + lo := by omega
    rw [this, pos_line idx hlb line lo h]; omega
  · have : cur = (line + 1) * idx.lb + 0 := by rw [Nat.add_mul]; omega
    rw [this, pos_line idx hlb (line + 1) 0 hlb, Nat.add_mul]; omega

theorem seekTo_inv (f : Bytes) (idx : Idx) (start : Nat) (hlb : 0 < idx.lb) (hlB : idx.lb < idx.lB) :
    Inv f idx (seekTo f idx start).1 (seekTo f idx start).2 start (start / idx.lb) := by
  have hm : start % idx.lb < idx.lb := Nat.mod_lt _ hlb
  refine ⟨rfl, ?_, ?_, ?_⟩
  · simp only [seekTo]; omega
  · simp only [seekTo]
    have := Nat.div_add_mod start idx.lb
    rw [Nat.mul_comm] at this
    omega
  · simp [seekTo]

theorem seekTo_rest_length_lt (f : Bytes) (idx : Idx) (start : Nat) : (seekTo f idx start).1.rest.length < f.length + 1 := by
  simp only [seekTo, List.length_drop]; omega

theorem WellFormed.pos_lt {file seq : Bytes} {idx : Idx} (wf : WellFormed file idx seq) {i : Nat} (hi : i < seq.length) :
    pos idx i < file.length := by
  have := wf.at_pos i hi
  rcases Nat.lt_or_ge (pos idx i) file.length with h | h
  · exact h
  · rw [List.getElem?_eq_none h] at this; cases this

theorem WellFormed.last_inside {file seq : Bytes} {idx : Idx} (wf : WellFormed file idx seq) {start stop : Nat}
    (h1 : start ≤ stop) (h2 : stop ≤ idx.len) : start = stop ∨ pos idx (stop - 1) < file.length := by
  have hl := wf.len_eq
  by_cases he : start = stop
  · exact Or.inl he
  · exact Or.inr (wf.pos_lt (by omega))

/-! ### soundness of the executable well-formedness check used by the driver -/

theorem wfLines_sound (lb lB : Nat) (hlb : 0 < lb) :
    ∀ fuel (rest seq : Bytes), wfLines lb lB fuel rest seq = true →
      ∀ i, (h : i < seq.length) → rest[i / lb * lB + i % lb]? = some seq[i] := by
  intro fuel
  induction fuel with
  | zero =>
    intro rest seq hw i h
    simp [wfLines] at hw
    subst hw; simp at h
  | succ fuel ih =>
    intro rest seq hw i h
    unfold wfLines at hw
    have hne : seq.isEmpty = false := by
      cases seq with
      | nil => simp at h
      | cons b s => rfl
    simp only [hne, Bool.false_eq_true, if_false] at hw
    have first : ∀ n, rest.take n = seq.take n → i < n → i < lb → rest[i / lb * lB + i % lb]? = some seq[i] := by
      intro n hn hin hil
      have h1 : i / lb = 0 := Nat.div_eq_of_lt hil
      have h2 : i % lb = i := Nat.mod_eq_of_lt hil
      rw [h1, h2, Nat.zero_mul, Nat.zero_add]
      have := congrArg (fun l => l[i]?) hn
      simp only [List.getElem?_take, if_pos hin] at this
      rw [this, List.getElem?_eq_getElem h]
    split at hw
    · rename_i hle
      have heq : rest.take seq.length = seq := by simpa using hw
      exact first seq.length (by rw [heq, List.take_of_length_le (Nat.le_refl _)]) h (by omega)
    · rename_i hgt
      simp only [Bool.and_eq_true, beq_iff_eq] at hw
      obtain ⟨h1, h2⟩ := hw
      rcases Nat.lt_or_ge i lb with hil | hil
      · exact first lb h1 hil hil
      · have hj : i - lb < (seq.drop lb).length := by simp only [List.length_drop]; omega
        have := ih (rest.drop lB) (seq.drop lb) h2 (i - lb) hj
        rw [List.getElem?_drop, List.getElem_drop] at this
        have e1 : i / lb = (i - lb) / lb + 1 := Nat.div_eq_sub_div hlb hil
        have e2 : i % lb = (i - lb) % lb := Nat.mod_eq_sub_mod hil
        have e3 : lb + (i - lb) = i := by omega
        rw [e1, e2, Nat.add_mul, Nat.one_mul]
        simp only [e3] at this
        rw [← this]
        congr 1
        omega

/-- the driver's check establishes the hypothesis of the C12 theorems -/
theorem wellFormed_of_wfCheck (file : Bytes) (idx : Idx) (seq : Bytes) (h : wfCheck file idx seq = true) :
    WellFormed file idx seq := by
  simp only [wfCheck, Bool.and_eq_true, beq_iff_eq, decide_eq_true_eq] at h
  obtain ⟨⟨⟨h1, h2⟩, h3⟩, h4⟩ := h
  refine ⟨h1, h2, h3, ?_⟩
  intro i hi
  have := wfLines_sound idx.lb idx.lB h2 _ _ _ h4 i hi
  rw [List.getElem?_drop] at this
  rw [← this]
  unfold pos
  congr 1
  omega

end RbV.IdxFa
