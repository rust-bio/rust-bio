import RbV.Lemmas.SmemsAbs
import RbV.Model.FMDSym
import RbV.Ref.Smem
/-!
# The occurrence counts of the substrings of a pattern satisfy the two laws the sweep needs (C06)

`cnt T pat b e` = number of occurrences of `pat[b..e)` in `T`.  `countLaws_cnt : CountLaws (cnt T pat) |pat|`, and
`AbsSmem (cnt T pat)` is the specification's `Smem T pat`; together with `smems_abs_correct` this gives
`smemsStr_correct`: the string-level model returns exactly `smemsRef T pat i l`.
-/
namespace RbV.SmemModel
open RbV RbV.FMDSym

/-- an occurrence of `pat[b..b+x+n+y)` gives an occurrence of its part `pat[b+x..b+x+n)` -/
theorem occ_sub_mono (T pat : List Nat) (b x n y p : Nat) (hm : b + x + n + y ≤ pat.length)
    (h : OccursAt (sub pat b (x + n + y)) T p) : OccursAt (sub pat (b + x) n) T (p + x) := by
  rw [sub_append, sub_append, occursAt_append_iff, occursAt_append_iff, length_sub pat b x (by omega)] at h
  exact h.1.2

theorem occ_sub_prefix (T pat : List Nat) (b n y p : Nat) (hm : b + n + y ≤ pat.length)
    (h : OccursAt (sub pat b (n + y)) T p) : OccursAt (sub pat b n) T p :=
  occ_sub_mono T pat b 0 n y p (by omega) (by rwa [Nat.zero_add])

/-- glue: `pat[b..b+x+n)` at `p` and `pat[b+x..b+x+n+y)` at `p + x` give `pat[b..b+x+n+y)` at `p` -/
theorem occ_sub_glue (T pat : List Nat) (b x n y p : Nat) (hm : b + x + n + y ≤ pat.length)
    (hl : OccursAt (sub pat b (x + n)) T p) (hr : OccursAt (sub pat (b + x) (n + y)) T (p + x)) :
    OccursAt (sub pat b (x + n + y)) T p := by
  rw [sub_append pat b (x + n) y, occursAt_append_iff, length_sub pat b _ (by omega)]
  rw [sub_append, occursAt_append_iff, length_sub pat _ n (by omega)] at hr
  exact ⟨hl, by rw [← Nat.add_assoc, ← Nat.add_assoc]; exact hr.2⟩

theorem mem_of_subset_of_length {l1 l2 : List Nat} (h1 : l1.Nodup) (hsub : l1 ⊆ l2)
    (hlen : l2.length ≤ l1.length) : ∀ x ∈ l2, x ∈ l1 := by
  intro x hx
  apply Classical.byContradiction
  intro hnx
  have hsub' : l1 ⊆ l2.erase x := by
    intro y hy
    have hyx : y ≠ x := fun h => hnx (h ▸ hy)
    exact (List.mem_erase_of_ne hyx).2 (hsub hy)
  have := h1.length_le_of_subset hsub'
  rw [List.length_erase_of_mem hx] at this
  have : 0 < l2.length := List.length_pos_of_mem hx
  omega

theorem cnt_add (T pat : List Nat) (b n : Nat) : cnt T pat b (b + n) = (occurrences (sub pat b n) T).length := by
  unfold cnt
  rw [Nat.add_sub_cancel_left]

theorem occurrences_sub_anti (T pat : List Nat) (b x n y : Nat) (hm : b + x + n + y ≤ pat.length) :
    (occurrences (sub pat b (x + n + y)) T).length ≤ (occurrences (sub pat (b + x) n) T).length := by
  have hnd : ((occurrences (sub pat b (x + n + y)) T).map (· + x)).Nodup := by
    unfold List.Nodup
    rw [List.pairwise_map]
    exact (occurrences_sorted _ T).imp (fun h => by omega)
  have hsub : (occurrences (sub pat b (x + n + y)) T).map (· + x) ⊆ occurrences (sub pat (b + x) n) T := by
    intro q hq
    obtain ⟨p, hp, rfl⟩ := List.mem_map.mp hq
    rw [mem_occurrences] at hp ⊢
    exact occ_sub_mono T pat b x n y p hm hp
  have := hnd.length_le_of_subset hsub
  rwa [List.length_map] at this

/-- equal counts of `pat[b..b+n)` and its extension `pat[b..b+n+y)`: every occurrence of the shorter continues -/
theorem occurrences_sub_extends (T pat : List Nat) (b n y : Nat) (hm : b + n + y ≤ pat.length)
    (heq : (occurrences (sub pat b n) T).length = (occurrences (sub pat b (n + y)) T).length) (p : Nat)
    (hp : OccursAt (sub pat b n) T p) : OccursAt (sub pat b (n + y)) T p := by
  have hsub : occurrences (sub pat b (n + y)) T ⊆ occurrences (sub pat b n) T := fun q hq =>
    (mem_occurrences _ _ _).mpr (occ_sub_prefix T pat b n y q hm ((mem_occurrences _ _ _).mp hq))
  exact (mem_occurrences _ _ _).mp
    (mem_of_subset_of_length (occurrences_nodup _ T) hsub (Nat.le_of_eq heq) p ((mem_occurrences _ _ _).mpr hp))

theorem occurrences_sub_closed (T pat : List Nat) (b x n y : Nat) (hm : b + x + n + y ≤ pat.length)
    (heq : (occurrences (sub pat (b + x) n) T).length = (occurrences (sub pat (b + x) (n + y)) T).length) :
    (occurrences (sub pat b (x + n)) T).length = (occurrences (sub pat b (x + n + y)) T).length := by
  congr 1
  apply sorted_eq_of_mem_iff _ _ (occurrences_sorted _ T) (occurrences_sorted _ T)
  intro p
  rw [mem_occurrences, mem_occurrences]
  refine ⟨fun hp => ?_, occ_sub_prefix T pat b (x + n) y p (by omega)⟩
  exact occ_sub_glue T pat b x n y p hm hp
    (occurrences_sub_extends T pat (b + x) n y hm heq _ (occ_sub_mono T pat b x n 0 p (by omega) hp))

theorem countLaws_cnt (T pat : List Nat) : CountLaws (cnt T pat) pat.length := by
  constructor
  · intro b' b e e' h1 h2 h3 h4
    obtain ⟨x, rfl⟩ := Nat.exists_eq_add_of_le h1
    obtain ⟨n, rfl⟩ := Nat.exists_eq_add_of_le (Nat.le_of_lt h2)
    obtain ⟨y, rfl⟩ := Nat.exists_eq_add_of_le h3
    rw [show b' + x + n + y = b' + (x + n + y) by omega, cnt_add, cnt_add]
    exact occurrences_sub_anti T pat b' x n y h4
  · intro b' b e e' h1 h2 h3 h4 heq
    obtain ⟨x, rfl⟩ := Nat.exists_eq_add_of_le h1
    obtain ⟨n, rfl⟩ := Nat.exists_eq_add_of_le (Nat.le_of_lt h2)
    obtain ⟨y, rfl⟩ := Nat.exists_eq_add_of_le h3
    rw [Nat.add_assoc (b' + x) n y, cnt_add, cnt_add] at heq
    rw [show b' + x + n + y = b' + (x + n + y) by omega, show b' + x + n = b' + (x + n) by omega, cnt_add, cnt_add]
    exact occurrences_sub_closed T pat b' x n y h4 heq

theorem absSmem_iff_smem (T pat : List Nat) (b len : Nat) :
    AbsSmem (cnt T pat) pat.length b len ↔ Smem T pat b len := by
  unfold AbsSmem Smem cnt
  rw [Nat.add_sub_cancel_left, show b + len + 1 - b = len + 1 by omega]
  simp only [occurs_iff_length_pos, Classical.not_not]
  by_cases hb : b = 0
  · simp only [hb, true_or]
  · rw [show b + len - (b - 1) = len + 1 by omega]

/-- **the string-level model of `smems(pattern, i, l)` returns exactly the supermaximal exact matches covering
`i` of length ≥ `l`** (`smemsRef`), as a set -/
theorem smemsStr_correct (T pat : List Nat) (i l : Nat) (hi : i < pat.length) (hl : 1 ≤ l) (b len : Nat) :
    (b, len) ∈ smemsStr T pat i l ↔ (b, len) ∈ smemsRef T pat i l := by
  rw [mem_smemsRef, ← absSmem_iff_smem]
  unfold smemsStr
  simp only [List.mem_map, Prod.mk.injEq]
  constructor
  · rintro ⟨x, hx, rfl, rfl⟩
    have := (smems_abs_correct (countLaws_cnt T pat) pat rfl hi l hl x).mp hx
    exact ⟨this.2.2.1, this.2.1, this.2.2.2.1, this.2.2.2.2⟩
  · rintro ⟨h1, h2, h3, h4⟩
    refine ⟨⟨(b, b + len), b, len⟩, ?_, rfl, rfl⟩
    exact (smems_abs_correct (countLaws_cnt T pat) pat rfl hi l hl _).mpr ⟨rfl, h2, h1, h3, h4⟩

end RbV.SmemModel
