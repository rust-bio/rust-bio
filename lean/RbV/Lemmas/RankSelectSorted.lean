import RbV.Lemmas.RankSelectModel
/-!
C17 [B] — the superblock table is sorted w.r.t. the `Ord` of `SuperblockRank`, and what follows for
`superblocks.binary_search(&SuperblockRank::First(j))`.

`select_x` calls the standard library's `binary_search`.  The translated body (`RbV/Gen/SrcRankSelect.lean`) has an
abstract function `bsearch` in its place; `BSearchOk` states the *documented* contract of `<[T]>::binary_search` followed
by `Ok(i) | Err(i) => i` (std documentation: on a slice sorted by `Ord`, `Ok(i)` = index of *a* matching element, `Err(i)`
= index where the key could be inserted keeping the order).  `bsearch_eq_searchIdx`: on the table `fn superblocks` builds,
every function with that contract returns the mirror model's `searchIdx` (number of entries below the key) for a key
`First(j)` — because the table is sorted (`superblocks_sorted`) and holds at most one `First` entry per rank value
(`superblocks_first_gt`).  Core Lean only.
-/
namespace RbV.Lemmas.RankSelectSorted
open RbV.Model.RankSelect RbV.Lemmas.RankSelectModel

/-- documented contract of `xs.binary_search(&key)` read through `Ok(i) | Err(i) => i`, for the order `lt` (C19 reads the same
std function through `Rs.BSearchOk`, `Basic/RsSemGensparse.lean`: result `Except`, `Ok i ⇒ s[i] = key`, `Err ⇒ absent`) -/
def BSearchOk {σ : Type} (lt : σ → σ → Bool) (bs : List σ → σ → Nat) : Prop :=
  ∀ (l : List σ) (key : σ),
    (∀ (a b : Nat) (_ : a < b) (hb : b < l.length), lt l[b] (l[a]'(by omega)) = false) →
    (∃ h : bs l key < l.length, l[bs l key] = key) ∨
    (bs l key ≤ l.length ∧ (∀ (i : Nat) (h : i < l.length), i < bs l key → lt l[i] key = true) ∧
      (∀ (i : Nat) (h : i < l.length), bs l key ≤ i → lt key l[i] = true))

/-! ### the order `SbRank.lt` (`lt_first`, `lt_first_false` are in `Lemmas/RankSelectModel.lean`) -/

theorem lt_iff (a b : SbRank) : a.lt b = true ↔
    a.val < b.val ∨ (a.val = b.val ∧ (match a, b with | .first _, .some _ => true | _, _ => false) = true) := by
  unfold SbRank.lt
  rw [Bool.or_eq_true, Bool.and_eq_true, decide_eq_true_iff, beq_iff_eq]
  cases a <;> cases b <;> exact Iff.rfl

/-- asymmetry at a `First` key -/
theorem lt_asymm_first (e : SbRank) (j : Nat) (h : SbRank.lt (.first j) e = true) : e.lt (.first j) = false := by
  rw [lt_first_false]
  rw [lt_iff] at h
  cases e <;> simp [SbRank.val] at h ⊢ <;> omega

/-- elements the order does not separate are equal -/
theorem eq_of_not_lt_of_not_lt (a b : SbRank) (h1 : a.lt b = false) (h2 : b.lt a = false) : a = b := by
  rw [← Bool.not_eq_true, lt_iff] at h1 h2
  cases a <;> cases b <;> simp [SbRank.val] at h1 h2 ⊢ <;> omega

theorem lt_of_lt_of_not_lt (a b c : SbRank) (h1 : a.lt b = true) (h2 : c.lt b = false) : a.lt c = true := by
  rw [← Bool.not_eq_true, lt_iff] at h2
  rw [lt_iff] at h1 ⊢
  cases a <;> cases b <;> cases c <;> simp [SbRank.val] at h1 h2 ⊢ <;> omega

/-! ### constructors of the table: `First` exactly when the rank differs from the previous entry -/

/-- invariant of the `superblocks` loop about constructors -/
structure CInv (st : SbState) : Prop where
  last : st.last = (st.out.getLast?).map SbRank.val
  ctor : ∀ (m : Nat) (h : m + 1 < st.out.length) (r : Nat), st.out[m + 1] = SbRank.first r →
    (st.out[m]'(by omega)).val ≠ r

theorem cinv_step (t : Bool) (s : Nat) (gb : Nat → List Bool) (st : SbState) (block : Nat) (h : CInv st) :
    CInv (sbStep t s gb st block) := by
  obtain ⟨hlast, hctor⟩ := h
  unfold sbStep
  by_cases hz : st.i % s = 0
  · simp only [hz, if_true]
    refine ⟨by simp only [List.getLast?_append, List.getLast?_singleton, Option.or_some, Option.map_some, Option.some_or]
               split <;> rfl, ?_⟩
    intro m hm r hr
    simp only [List.length_append, List.length_singleton] at hm
    by_cases hm' : m + 1 < st.out.length
    · rw [List.getElem_append_left hm'] at hr
      rw [List.getElem_append_left (by omega)]
      exact hctor m hm' r hr
    · have hme : m + 1 = st.out.length := by omega
      have hr' : (if some st.rank ≠ st.last then SbRank.first st.rank else SbRank.some st.rank) = SbRank.first r := by
        rw [← hr]
        simp [hme]
      rw [List.getElem_append_left (by omega)]
      split at hr'
      · rename_i hne
        have hrr : st.rank = r := by cases hr'; rfl
        rw [hlast] at hne
        have hl : st.out.getLast? = some (st.out[m]'(by omega)) := by
          rw [List.getLast?_eq_getElem?]
          have : st.out.length - 1 = m := by omega
          rw [this, List.getElem?_eq_getElem]
        rw [hl] at hne
        intro he
        apply hne
        simp [he, hrr]
      · cases hr'
  · simp only [hz, if_false]
    exact ⟨hlast, hctor⟩

theorem cinv_fold (t : Bool) (s : Nat) (gb : Nat → List Bool) (L : List Nat) (st : SbState) (h : CInv st) :
    CInv (L.foldl (sbStep t s gb) st) := by
  induction L generalizing st with
  | nil => exact h
  | cons x xs ih => exact ih _ (cinv_step t s gb st x h)

theorem superblocks_ctor (t : Bool) (n s : Nat) (gb : Nat → List Bool) (m : Nat)
    (h : m + 1 < (superblocks t n s gb).length) (r : Nat) (hr : (superblocks t n s gb)[m + 1] = SbRank.first r) :
    ((superblocks t n s gb)[m]'(by omega)).val ≠ r := by
  have := cinv_fold t s gb (List.range ((n + 7) / 8)) {} ⟨rfl, by intro m h; simp at h⟩
  exact this.ctor m h r hr

/-- general form: a list sorted by `SbRank.lt` in which a `First` entry is strictly above everything before it -/
theorem bsearch_eq_searchIdx_of (sbs : List SbRank)
    (hsorted : ∀ (a b : Nat) (_ : a < b) (hb : b < sbs.length), SbRank.lt sbs[b] (sbs[a]'(by omega)) = false)
    (hfirst : ∀ (a b : Nat) (_ : a < b) (hb : b < sbs.length) (r : Nat), sbs[b] = SbRank.first r →
      (sbs[a]'(by omega)).val < r)
    (bs : List SbRank → SbRank → Nat) (hbs : BSearchOk SbRank.lt bs) (j : Nat) :
    bs sbs (.first j) = searchIdx sbs (.first j) := by
  have hc := hbs sbs (.first j) hsorted
  generalize bs sbs (.first j) = r at hc
  symm
  unfold searchIdx
  rcases hc with ⟨hlt, heq⟩ | ⟨hle, hbelow, habove⟩
  · apply takeWhile_length_eq _ (.first 0) sbs r (by omega)
    · intro m hm
      rw [List.getD_eq_getElem _ _ _ (by omega), lt_first]
      exact hfirst m r hm hlt j heq
    · intro _
      rw [List.getD_eq_getElem _ _ _ hlt, heq, lt_first_false]
      exact Nat.le_refl _
  · apply takeWhile_length_eq _ (.first 0) sbs r hle
    · intro m hm
      rw [List.getD_eq_getElem _ _ _ (by omega)]
      exact hbelow m (by omega) hm
    · intro hlt
      rw [List.getD_eq_getElem _ _ _ hlt]
      exact lt_asymm_first _ j (habove r hlt (Nat.le_refl _))

section table
variable (t : Bool) (bits : List Bool) (s : Nat) (h8 : 8 ∣ s) (hs : 0 < s)
include h8 hs

theorem superblocks_val_mono (a b : Nat) (hab : a ≤ b) (hb : b < (superblocks t bits.length s (getBlock bits)).length) :
    ((superblocks t bits.length s (getBlock bits))[a]'(by omega)).val
      ≤ ((superblocks t bits.length s (getBlock bits))[b]).val := by
  have hL := lt_superblocks_length t bits s h8 hs
  have ha : a < (superblocks t bits.length s (getBlock bits)).length := by omega
  rw [← List.getD_eq_getElem _ a (.first 0) ha, ← List.getD_eq_getElem _ b (.first 0) hb, superblocks_val t bits s h8 hs a ((hL a).mp ha),
    superblocks_val t bits s h8 hs b ((hL b).mp hb)]
  exact cnt_mono t bits (Nat.mul_le_mul_right s hab)

theorem superblocks_first_gt (a b : Nat) (hab : a < b) (hb : b < (superblocks t bits.length s (getBlock bits)).length)
    (r : Nat) (hr : (superblocks t bits.length s (getBlock bits))[b] = SbRank.first r) :
    ((superblocks t bits.length s (getBlock bits))[a]'(by omega)).val < r := by
  obtain ⟨c, rfl⟩ : ∃ c, b = c + 1 := ⟨b - 1, by omega⟩
  have h1 := superblocks_ctor t bits.length s (getBlock bits) c hb r hr
  have h2 := superblocks_val_mono t bits s h8 hs a c (by omega) (by omega)
  have h3 := superblocks_val_mono t bits s h8 hs c (c + 1) (by omega) hb
  rw [hr] at h3
  have h4 : (SbRank.first r).val = r := rfl
  rw [h4] at h3
  omega

theorem superblocks_sorted (a b : Nat) (hab : a < b)
    (hb : b < (superblocks t bits.length s (getBlock bits)).length) :
    SbRank.lt ((superblocks t bits.length s (getBlock bits))[b])
      ((superblocks t bits.length s (getBlock bits))[a]'(by omega)) = false := by
  have hm := superblocks_val_mono t bits s h8 hs a b (by omega) hb
  have hf := superblocks_first_gt t bits s h8 hs a b hab hb
  generalize (superblocks t bits.length s (getBlock bits))[b] = y at hm hf
  generalize (superblocks t bits.length s (getBlock bits))[a]'(by omega) = x at hm hf
  rw [← Bool.not_eq_true, lt_iff]
  cases y with
  | first r =>
    have h1 := hf r rfl
    cases x <;> simp [SbRank.val] at h1 ⊢ <;> omega
  | some r =>
    cases x <;> simp [SbRank.val] at hm ⊢ <;> omega

/-- **the std call in `select_x`**: on the table built by `fn superblocks`, every function with the documented contract of
`binary_search` returns, for the key `First(j)`, the number of entries below the key -/
theorem bsearch_eq_searchIdx (bs : List SbRank → SbRank → Nat) (hbs : BSearchOk SbRank.lt bs) (j : Nat) :
    bs (superblocks t bits.length s (getBlock bits)) (.first j)
      = searchIdx (superblocks t bits.length s (getBlock bits)) (.first j) :=
  bsearch_eq_searchIdx_of _ (superblocks_sorted t bits s h8 hs) (superblocks_first_gt t bits s h8 hs) bs hbs j

end table

/-- non-vacuity of `BSearchOk`: "number of leading entries below the key" satisfies the contract on every sorted list -/
theorem searchIdx_ok : BSearchOk SbRank.lt searchIdx := by
  intro l key hs
  unfold searchIdx
  obtain ⟨h1, h2⟩ := takeWhile_spec (fun e => e.lt key) key l
  have hle := length_takeWhile_le (fun e => e.lt key) l
  generalize (l.takeWhile (fun e => e.lt key)).length = r at h1 h2 hle
  by_cases hr : r < l.length
  · have hnot := List.getD_eq_getElem l r key hr ▸ h2 hr
    by_cases hk : key.lt l[r] = true
    · right
      refine ⟨by omega, fun i h hi => List.getD_eq_getElem l i key h ▸ h1 i hi, ?_⟩
      intro i h hi
      by_cases hir : i = r
      · subst hir; exact hk
      · exact lt_of_lt_of_not_lt key l[r] l[i] hk (hs r i (by omega) h)
    · left
      exact ⟨hr, eq_of_not_lt_of_not_lt _ _ hnot (by simpa using hk)⟩
  · right
    exact ⟨by omega, fun i h hi => List.getD_eq_getElem l i key h ▸ h1 i hi, fun i h hi => by omega⟩

end RbV.Lemmas.RankSelectSorted
