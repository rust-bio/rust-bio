import RbV.Model.Fenwick
import RbV.Spec.Containers
import RbV.Basic.GetD
/-
C18 — correctness of the Fenwick-tree mirror model (`RbV.Model.Fenwick`) against the specification
`RbV.Spec.Fenwick` (`prefixSum`, `prefixMax`).

One generic theorem (`get_run`) for an associative, commutative operation with identity `dflt`;
`sum_correct` and `max_correct` are corollaries.

Invariant (`Inv`): slot `j` (`1 ≤ j ≤ n`) of the tree holds the aggregate of the updates whose 1-based
position `q + 1` lies in `(j - lowbit j, j]`.
Core Lean only.
-/
namespace RbV.Lemmas.Fenwick
open RbV.Model.Fenwick RbV.Spec.Fenwick


theorem lowbit_zero : lowbit 0 = 0 := by
  rw [lowbit]; simp

theorem lowbit_odd (i : Nat) (h : i % 2 = 1) : lowbit i = 1 := by
  rw [lowbit]
  have : i ≠ 0 := by omega
  simp [this, h]

theorem lowbit_even (i : Nat) (h0 : 0 < i) (h : i % 2 = 0) : lowbit i = 2 * lowbit (i / 2) := by
  rw [lowbit]
  have h1 : i ≠ 0 := by omega
  have h2 : ¬ (i % 2 = 1) := by omega
  simp [h1, h2]

theorem lowbit_bit1 (h : Nat) : lowbit (2 * h + 1) = 1 := lowbit_odd _ (by omega)

theorem lowbit_bit0 (h : Nat) : lowbit (2 * h) = 2 * lowbit h := by
  by_cases h0 : h = 0
  · subst h0; rw [Nat.mul_zero, lowbit_zero]
  · rw [lowbit_even (2 * h) (by omega) (by omega), Nat.mul_div_cancel_left h (by omega)]

/-- induction along the binary representation (the recursion of `lowbit`) -/
theorem bit_induction {P : Nat → Prop} (odd : ∀ h, P (2 * h + 1)) (even : ∀ h, 0 < h → P h → P (2 * h)) :
    ∀ i, 0 < i → P i := by
  intro i
  induction i using Nat.strongRecOn with
  | _ i ih =>
    intro hi
    have hd := Nat.div_add_mod i 2
    by_cases hodd : i % 2 = 1
    · rw [← hd, hodd]; exact odd _
    · have : i = 2 * (i / 2) := by omega
      rw [this]; exact even _ (by omega) (ih _ (by omega) (by omega))

theorem lowbit_pos_le : ∀ i : Nat, 0 < i → 0 < lowbit i ∧ lowbit i ≤ i := by
  apply bit_induction
  · intro h; rw [lowbit_bit1]; omega
  · intro h _ ih; rw [lowbit_bit0]; omega

theorem lowbit_pos (i : Nat) (h : 0 < i) : 0 < lowbit i := (lowbit_pos_le i h).1
theorem lowbit_le (i : Nat) : lowbit i ≤ i := by
  by_cases h : 0 < i
  · exact (lowbit_pos_le i h).2
  · have : i = 0 := by omega
    subst this; rw [lowbit_zero]; omega

/-- the upward step at least doubles the lowest bit -/
theorem lowbit_add_lowbit : ∀ i : Nat, 0 < i → 2 * lowbit i ≤ lowbit (i + lowbit i) := by
  apply bit_induction
  · intro h
    rw [lowbit_bit1, show 2 * h + 1 + 1 = 2 * (h + 1) by omega, lowbit_bit0]
    have := lowbit_pos (h + 1) (by omega)
    omega
  · intro h _ ih
    rw [lowbit_bit0, ← Nat.mul_add, lowbit_bit0]
    omega

/-- the ranges `(j - lowbit j, j]` are laminar: an index strictly inside the range of `j` has its upward
successor still `≤ j` -/
theorem lowbit_laminar (j i : Nat) (h1 : j - lowbit j < i) (h2 : i < j) : i + lowbit i ≤ j := by
  have hj : 0 < j := by omega
  revert i
  revert j
  apply bit_induction (P := fun j => ∀ i, j - lowbit j < i → i < j → i + lowbit i ≤ j)
  · intro h i h1 h2; rw [lowbit_bit1] at h1; omega
  · intro h _ ih i h1 h2
    rw [lowbit_bit0] at h1
    have hd := Nat.div_add_mod i 2
    by_cases hodd : i % 2 = 1
    · rw [lowbit_odd i hodd]; omega
    · have hi : i = 2 * (i / 2) := by omega
      rw [hi, lowbit_bit0]
      have := ih (i / 2) (by omega) (by omega)
      omega

/-! ### `i & -i` and `i & (i - 1)` on bit patterns -/

/-- `k` and its complement in `n` bits share no bit -/
theorem and_compl (n k : Nat) (h : k < 2 ^ n) : k &&& (2 ^ n - (k + 1)) = 0 := by
  apply Nat.eq_of_testBit_eq
  intro i
  rw [Nat.testBit_and, Nat.testBit_two_pow_sub_succ h]
  cases k.testBit i <;> simp

/-- `&&&` digit by digit -/
theorem and_bit (a b r s : Nat) (hr : r < 2) (hs : s < 2) :
    (2 * a + r) &&& (2 * b + s) = 2 * (a &&& b) + (r &&& s) := by
  have hd : ∀ a r, r < 2 → (2 * a + r) / 2 = a ∧ (2 * a + r) % 2 = r := fun a r hr =>
    ⟨by rw [Nat.mul_add_div (by decide), Nat.div_eq_of_lt hr]; rfl, by rw [Nat.mul_add_mod, Nat.mod_eq_of_lt hr]⟩
  rw [← Nat.div_add_mod ((2 * a + r) &&& (2 * b + s)) 2, Nat.and_div_two, (hd a r hr).1, (hd b s hs).1,
    Nat.and_mod_two_pow (n := 1), Nat.pow_one, (hd a r hr).2, (hd b s hs).2]

/-- two's complement: `i & -i` (in `w` bits) is the lowest set bit of `i` -/
theorem and_neg_eq_lowbit : ∀ i, 0 < i → ∀ w, i < 2 ^ w → i &&& (2 ^ w - i) = lowbit i := by
  have hw1 : ∀ {i w : Nat}, 0 < i → i < 2 ^ w → ∃ w', w = w' + 1 := by
    intro i w h0 h
    cases w with
    | zero => rw [Nat.pow_zero] at h; omega
    | succ w' => exact ⟨w', rfl⟩
  apply bit_induction
  · intro h w hw
    obtain ⟨w, rfl⟩ := hw1 (by omega) hw
    rw [Nat.pow_succ] at hw ⊢
    rw [show 2 ^ w * 2 - (2 * h + 1) = 2 * (2 ^ w - (h + 1)) + 1 by omega, and_bit _ _ 1 1 (by omega) (by omega),
      and_compl w h (by omega), lowbit_bit1]
    rfl
  · intro h h0 ih w hw
    obtain ⟨w, rfl⟩ := hw1 (by omega) hw
    rw [Nat.pow_succ] at hw ⊢
    rw [show 2 ^ w * 2 - 2 * h = 2 * (2 ^ w - h) by omega]
    exact (and_bit h _ 0 0 (by omega) (by omega)).trans (by rw [ih w (by omega), lowbit_bit0]; rfl)

/-- `idx & (idx - 1)` clears the lowest set bit: the other common way to write the `get` step -/
theorem and_pred : ∀ i, 0 < i → i &&& (i - 1) = i - lowbit i := by
  apply bit_induction
  · intro h
    rw [lowbit_bit1, Nat.add_sub_cancel]
    exact (and_bit h h 1 0 (by omega) (by omega)).trans (by rw [Nat.and_self]; rfl)
  · intro h h0 ih
    rw [show 2 * h - 1 = 2 * (h - 1) + 1 by omega, lowbit_bit0]
    exact (and_bit h (h - 1) 0 1 (by omega) (by omega)).trans (by rw [ih, Nat.zero_and]; omega)

theorem getD_set {α : Type} (l : List α) (i j : Nat) (v d : α) (hi : i < l.length) :
    (l.set i v).getD j d = if j = i then v else l.getD j d := by
  simp only [List.getD_set_of_lt j v d hi, eq_comm (a := i)]

section Generic
variable {α : Type} (op : α → α → α) (dflt : α)

/-- fold of `op` over the values of the updates whose index satisfies `P` -/
def agg (P : Nat → Bool) : List (Nat × α) → α
  | [] => dflt
  | u :: us => if P u.1 then op u.2 (agg P us) else agg P us

/-- position `q` (0-based; 1-based `q + 1`) is covered by tree slot `j` -/
def cov (j q : Nat) : Bool := decide (j - lowbit j < q + 1 ∧ q + 1 ≤ j)

/-- the aggregate of an operation that returns one of its arguments (a maximum) is the default or one of the selected updates -/
theorem agg_selective (hop : ∀ a b, op a b = a ∨ op a b = b) (P : Nat → Bool) (ups : List (Nat × α)) :
    agg op dflt P ups = dflt ∨ ∃ u ∈ ups, P u.1 = true ∧ u.2 = agg op dflt P ups := by
  induction ups with
  | nil => left; rfl
  | cons w ws ih =>
    have ih' : agg op dflt P ws = dflt ∨ ∃ u ∈ w :: ws, P u.1 = true ∧ u.2 = agg op dflt P ws :=
      ih.imp id fun ⟨u, hu, h⟩ => ⟨u, List.mem_cons_of_mem _ hu, h⟩
    by_cases hw : P w.1 = true
    · simp only [agg, hw, if_true]
      rcases hop w.2 (agg op dflt P ws) with h | h <;> rw [h]
      · exact Or.inr ⟨w, by simp, hw, rfl⟩
      · exact ih'
    · have hw' : P w.1 = false := by simpa using hw
      simp only [agg, hw', Bool.false_eq_true, if_false]
      exact ih'

variable (hassoc : ∀ a b c : α, op (op a b) c = op a (op b c))
variable (hcomm : ∀ a b : α, op a b = op b a)
variable (hid : ∀ a : α, op dflt a = a)

include hid hcomm in
theorem op_dflt_right (a : α) : op a dflt = a := by rw [hcomm, hid]

theorem agg_congr (P Q : Nat → Bool) (h : ∀ q, P q = Q q) (ups : List (Nat × α)) :
    agg op dflt P ups = agg op dflt Q ups := by
  have : P = Q := funext h
  rw [this]

theorem agg_false (P : Nat → Bool) (h : ∀ q, P q = false) (ups : List (Nat × α)) :
    agg op dflt P ups = dflt := by
  induction ups with
  | nil => rfl
  | cons u us ih => simp [agg, h, ih]

include hassoc hcomm hid in
theorem agg_split (R P Q : Nat → Bool) (hR : ∀ q, R q = (P q || Q q))
    (hdisj : ∀ q, ¬ (P q = true ∧ Q q = true)) (ups : List (Nat × α)) :
    agg op dflt R ups = op (agg op dflt P ups) (agg op dflt Q ups) := by
  induction ups with
  | nil => simp [agg, hid]
  | cons u us ih =>
    have h1 := hR u.1
    have h2 := hdisj u.1
    cases hP : P u.1 <;> cases hQ : Q u.1 <;> simp [hP, hQ] at h1 h2
    · simp [agg, h1, hP, hQ, ih]
    · simp only [agg, h1, hP, hQ, ih, if_true]
      rw [← hassoc, hcomm u.2, hassoc]
      simp
    · simp only [agg, h1, hP, hQ, ih, if_true]
      rw [hassoc]
      simp

include hassoc hcomm in
theorem agg_snoc (P : Nat → Bool) (ups : List (Nat × α)) (u : Nat × α) :
    agg op dflt P (ups ++ [u]) =
      if P u.1 then op (agg op dflt P ups) u.2 else agg op dflt P ups := by
  induction ups with
  | nil =>
    cases hP : P u.1 <;> simp [agg, hP]
    exact hcomm _ _
  | cons w ws ih =>
    cases hP : P u.1 <;> cases hW : P w.1 <;> simp [agg, hP, hW, ih, hassoc]


/-- tree slot `j` holds the aggregate of the updates covered by `j` -/
def Inv (n : Nat) (tree : List α) (ups : List (Nat × α)) : Prop :=
  tree.length = n + 1 ∧
  ∀ j, 1 ≤ j → j ≤ n → tree.getD j dflt = agg op dflt (cov j) ups

theorem inv_new (n : Nat) : Inv op dflt n (new dflt n) [] := by
  refine ⟨by simp [new], ?_⟩
  intro j _ hj
  have hj' : j < n + 1 := by omega
  simp [new, agg, List.getD_eq_getElem?_getD, hj']


include hassoc hcomm hid in
theorem getLoop_spec (n : Nat) (tree : List α) (ups : List (Nat × α)) (hinv : Inv op dflt n tree ups) :
    ∀ (fuel idx : Nat) (sum : α), idx ≤ n → idx ≤ fuel →
      getLoop op dflt tree fuel idx sum = op sum (agg op dflt (fun q => decide (q + 1 ≤ idx)) ups) := by
  intro fuel
  induction fuel with
  | zero =>
    intro idx sum _ h0
    have : idx = 0 := by omega
    subst this
    rw [getLoop, agg_false op dflt _ (by intro q; simp), op_dflt_right op dflt hcomm hid]
  | succ fuel ih =>
    intro idx sum hn hf
    rw [getLoop]
    by_cases hpos : idx > 0
    · simp only [hpos, if_true]
      have hlp := lowbit_pos idx hpos
      have hll := lowbit_le idx
      rw [ih (idx - lowbit idx) _ (by omega) (by omega), hinv.2 idx (by omega) hn, hassoc]
      congr 1
      symm
      apply agg_split op dflt hassoc hcomm hid
      · intro q
        simp only [cov]
        rw [Bool.eq_iff_iff]
        simp only [Bool.or_eq_true, decide_eq_true_eq]
        omega
      · intro q
        simp only [cov, decide_eq_true_eq]
        omega
    · have : idx = 0 := by omega
      subst this
      simp only [if_neg hpos]
      rw [agg_false op dflt _ (by intro q; simp), op_dflt_right op dflt hcomm hid]

include hassoc hcomm hid in
theorem get_spec (n : Nat) (tree : List α) (ups : List (Nat × α)) (hinv : Inv op dflt n tree ups)
    (i : Nat) (hi : i < n) :
    get op dflt tree i = agg op dflt (fun q => decide (q ≤ i)) ups := by
  rw [Model.Fenwick.get, getLoop_spec op dflt hassoc hcomm hid n tree ups hinv (i + 1) (i + 1) dflt (by omega)
    (by omega), hid]
  apply agg_congr
  intro q
  rw [Bool.eq_iff_iff]
  simp only [decide_eq_true_eq]
  omega


theorem setLoop_spec (n q : Nat) (val : α) :
    ∀ (fuel idx : Nat) (tree : List α), 0 < idx → tree.length = n + 1 → n + 1 ≤ fuel + idx →
      (idx ≤ n → cov idx q = true) →
      (setLoop op dflt val fuel idx tree).length = n + 1 ∧
      ∀ j, 1 ≤ j → j ≤ n →
        (setLoop op dflt val fuel idx tree).getD j dflt =
          if idx ≤ j ∧ cov j q = true then op (tree.getD j dflt) val else tree.getD j dflt := by
  intro fuel
  induction fuel with
  | zero =>
    intro idx tree _ hlen hf _
    rw [setLoop]
    refine ⟨hlen, ?_⟩
    intro j _ hj
    have : ¬ idx ≤ j := by omega
    simp [this]
  | succ fuel ih =>
    intro idx tree hpos hlen hf hcov
    rw [setLoop]
    by_cases hlt : idx < tree.length
    · simp only [hlt, if_true]
      have hlp := lowbit_pos idx hpos
      have hdbl := lowbit_add_lowbit idx hpos
      have hc := hcov (by omega)
      simp only [cov, decide_eq_true_eq] at hc
      have := ih (idx + lowbit idx) (tree.set idx (op (tree.getD idx dflt) val)) (by omega)
        (by simp [hlen]) (by omega)
        (by
          intro _
          simp only [cov, decide_eq_true_eq]
          omega)
      refine ⟨this.1, ?_⟩
      intro j hj1 hjn
      rw [this.2 j hj1 hjn, getD_set _ _ _ _ _ hlt]
      by_cases hji : j = idx
      · subst hji
        have h1 : ¬ (j + lowbit j ≤ j) := by omega
        have h2 : cov j q = true := by simp only [cov, decide_eq_true_eq]; omega
        simp [h1, h2]
      · simp only [hji, if_false]
        by_cases hcj : cov j q = true
        · have hcj' := hcj
          simp only [cov, decide_eq_true_eq] at hcj'
          by_cases hle : idx ≤ j
          · have := lowbit_laminar j idx (by omega) (by omega)
            simp [hcj, hle, this]
          · have : ¬ (idx + lowbit idx ≤ j) := by omega
            simp [hle, this]
        · simp [hcj]
    · simp only [hlt, if_false]
      refine ⟨hlen, ?_⟩
      intro j _ hj
      have : ¬ idx ≤ j := by omega
      simp [this]

include hassoc hcomm in
theorem inv_set (n : Nat) (tree : List α) (ups : List (Nat × α)) (hinv : Inv op dflt n tree ups)
    (u : Nat × α) : Inv op dflt n (set op dflt tree u.1 u.2) (ups ++ [u]) := by
  have hp := lowbit_pos (u.1 + 1) (by omega)
  have hl := hinv.1
  have := setLoop_spec op dflt n u.1 u.2 tree.length (u.1 + 1) tree (by omega) hinv.1 (by omega)
    (by
      intro _
      simp only [cov, decide_eq_true_eq]
      omega)
  refine ⟨this.1, ?_⟩
  intro j hj1 hjn
  rw [Model.Fenwick.set, this.2 j hj1 hjn, agg_snoc op dflt hassoc hcomm, hinv.2 j hj1 hjn]
  by_cases hc : cov j u.1 = true
  · have hc' := hc
    simp only [cov, decide_eq_true_eq] at hc'
    have : u.1 + 1 ≤ j := by omega
    simp [hc, this]
  · simp [hc]

/-- the tree after a history of updates -/
def run (n : Nat) (ups : List (Nat × α)) : List α :=
  ups.foldl (fun t u => set op dflt t u.1 u.2) (new dflt n)

theorem run_snoc (n : Nat) (ups : List (Nat × α)) (u : Nat × α) :
    run op dflt n (ups ++ [u]) = set op dflt (run op dflt n ups) u.1 u.2 := by
  simp [run, List.foldl_append]

theorem length_setLoop (val : α) : ∀ (fuel idx : Nat) (tree : List α),
    (setLoop op dflt val fuel idx tree).length = tree.length := by
  intro fuel
  induction fuel with
  | zero => intro idx tree; simp [setLoop]
  | succ f ih =>
    intro idx tree
    rw [setLoop]
    split
    · rw [ih]; simp
    · rfl

theorem length_foldl_set (ups : List (Nat × α)) : ∀ (tree : List α),
    (ups.foldl (fun t u => set op dflt t u.1 u.2) tree).length = tree.length := by
  induction ups with
  | nil => intro tree; rfl
  | cons u us ih => intro tree; rw [List.foldl_cons, ih, Model.Fenwick.set, length_setLoop]

theorem length_run (n : Nat) (ups : List (Nat × α)) : (run op dflt n ups).length = n + 1 := by
  rw [run, length_foldl_set]; simp [new]

include hassoc hcomm in
theorem inv_foldl (n : Nat) (ups' : List (Nat × α)) :
    ∀ (tree : List α) (ups : List (Nat × α)), Inv op dflt n tree ups →
      Inv op dflt n (ups'.foldl (fun t u => set op dflt t u.1 u.2) tree) (ups ++ ups') := by
  induction ups' with
  | nil => intro tree ups h; simpa using h
  | cons u us ih =>
    intro tree ups h
    have := ih _ _ (inv_set op dflt hassoc hcomm n tree ups h u)
    simpa using this

include hassoc hcomm in
theorem inv_run (n : Nat) (ups : List (Nat × α)) : Inv op dflt n (run op dflt n ups) ups := by
  have := inv_foldl op dflt hassoc hcomm n ups _ _ (inv_new op dflt n)
  simpa [run] using this

include hassoc hcomm hid in
/-- generic correctness: a query at `i` returns the aggregate of all updates with index `≤ i` -/
theorem get_run (n : Nat) (ups : List (Nat × α)) (i : Nat) (hi : i < n) :
    get op dflt (run op dflt n ups) i = agg op dflt (fun q => decide (q ≤ i)) ups :=
  get_spec op dflt hassoc hcomm hid n _ ups (inv_run op dflt hassoc hcomm n ups) i hi

end Generic


/-- the tree after a history of updates -/
def runSum (n : Nat) (ups : List (Nat × Int)) : List Int := run (· + ·) 0 n ups
def runMax (n : Nat) (ups : List (Nat × Nat)) : List Nat := run max 0 n ups

theorem agg_sum (ups : List (Nat × Int)) (i : Nat) :
    agg (· + ·) (0 : Int) (fun q => decide (q ≤ i)) ups = prefixSum ups i := by
  unfold prefixSum
  induction ups with
  | nil => simp [agg]
  | cons u us ih =>
    by_cases h : u.1 ≤ i
    · simp [agg, h, ih]
    · simp [agg, h, ih]

theorem foldl_max (xs : List Nat) : ∀ a : Nat, xs.foldl max a = max a (xs.foldl max 0) := by
  induction xs with
  | nil => intro a; exact (Nat.max_zero a).symm
  | cons x xs ih =>
    intro a
    rw [List.foldl_cons, List.foldl_cons, ih (max a x), ih (max 0 x), Nat.zero_max, Nat.max_assoc]

theorem agg_max (ups : List (Nat × Nat)) (i : Nat) :
    agg max (0 : Nat) (fun q => decide (q ≤ i)) ups = prefixMax ups i := by
  unfold prefixMax
  induction ups with
  | nil => simp [agg]
  | cons u us ih =>
    by_cases h : u.1 ≤ i
    · simp only [agg, h, decide_true, if_true, List.filter_cons, List.map_cons, List.foldl_cons, ih]
      rw [foldl_max _ (max 0 u.2), Nat.zero_max]
    · simp [agg, h, ih]

-- `hups` is not needed (an update at an index `≥ n` touches no slot and is counted by no query below `n`); it is the
-- hypothesis of `RbV.Thm.C18.fenwick_sum_correct` / `fenwick_max_correct`, which these two lemmas prove
set_option linter.unusedVariables false in
theorem sum_correct (n : Nat) (ups : List (Nat × Int)) (hups : ∀ u ∈ ups, u.1 < n) (i : Nat)
    (hi : i < n) : get (· + ·) 0 (runSum n ups) i = prefixSum ups i := by
  have := get_run (· + ·) (0 : Int) Int.add_assoc Int.add_comm Int.zero_add n ups i hi
  rw [← agg_sum]
  exact this

set_option linter.unusedVariables false in
theorem max_correct (n : Nat) (ups : List (Nat × Nat)) (hups : ∀ u ∈ ups, u.1 < n) (i : Nat)
    (hi : i < n) : get max 0 (runMax n ups) i = prefixMax ups i := by
  have := get_run max (0 : Nat) Nat.max_assoc Nat.max_comm Nat.zero_max n ups i hi
  rw [← agg_max]
  exact this

/-! The loops commute with a homomorphism of the operation (`Thm/GenSrcSdpkpp.lean` reads a tree of `PrevPtr`s through its tuple
representation `tree.map toT`). -/

theorem getLoop_map {α β : Type} (f : α → β) (op : α → α → α) (op' : β → β → β) (d : α) (hop : ∀ a b, f (op a b) = op' (f a) (f b))
    (tree : List α) : ∀ fuel idx sum, getLoop op' (f d) (tree.map f) fuel idx (f sum) = f (getLoop op d tree fuel idx sum) := by
  intro fuel
  induction fuel with
  | zero => intro idx sum; rfl
  | succ n ih =>
    intro idx sum
    simp only [getLoop]
    split
    · rw [List.getD_map, ← hop, ih]
    · rfl

theorem setLoop_map {α β : Type} (f : α → β) (op : α → α → α) (op' : β → β → β) (d : α) (hop : ∀ a b, f (op a b) = op' (f a) (f b))
    (v : α) : ∀ fuel idx (tree : List α), setLoop op' (f d) (f v) fuel idx (tree.map f) = (setLoop op d v fuel idx tree).map f := by
  intro fuel
  induction fuel with
  | zero => intro idx tree; rfl
  | succ n ih =>
    intro idx tree
    simp only [setLoop, List.length_map]
    split
    · rw [List.getD_map, ← hop, ← List.map_set, ih]
    · rfl

end RbV.Lemmas.Fenwick
