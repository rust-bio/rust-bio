import RbV.Model.RankSelect
import RbV.Spec.RankSelect
import RbV.Lemmas.RankSelect
import RbV.Basic.GetD
import RbV.Basic.PrefixCount
/-!
C17 [A]/[B] — the mirror model of `RankSelect` (`RbV/Model/RankSelect.lean`) equals the reference functions of
`RbV/Spec/RankSelect.lean`: superblock table, `rank_1`/`rank_0`, `select_1`/`select_0`.  Core Lean only.
-/
namespace RbV.Lemmas.RankSelectModel
open RbV.Model.RankSelect RbV.Spec.RankSelect RbV.Lemmas.RankSelect


/-- number of `t`-bits among the first `m` positions; `rank t bits i = cnt t bits (i + 1)` (`rank_eq_cnt`) -/
def cnt (t : Bool) (bits : List Bool) (m : Nat) : Nat := (bits.take m).count t

theorem cnt_add (t : Bool) (bits : List Bool) (m d : Nat) :
    cnt t bits (m + d) = cnt t bits m + ((bits.drop m).take d).count t := List.count_take_add bits t m d

theorem cnt_le (t : Bool) (bits : List Bool) (m : Nat) : cnt t bits m ≤ m := List.count_take_le bits t m

theorem cnt_mono (t : Bool) (bits : List Bool) {m m' : Nat} (h : m ≤ m') : cnt t bits m ≤ cnt t bits m' :=
  List.count_take_mono bits t h

theorem cnt_le_count (t : Bool) (bits : List Bool) (m : Nat) : cnt t bits m ≤ bits.count t :=
  List.count_take_le_count bits t m

theorem count_true_add_false (l : List Bool) : l.count true + l.count false = l.length := by
  induction l with
  | nil => rfl
  | cons x xs ih => cases x <;> simp <;> omega

theorem cnt_true_add_false (bits : List Bool) (m : Nat) (h : m ≤ bits.length) :
    cnt true bits m + cnt false bits m = m := by
  unfold cnt
  rw [count_true_add_false, List.length_take]; omega

theorem cnt_ge_length (t : Bool) (bits : List Bool) (m : Nat) (h : bits.length ≤ m) :
    cnt t bits m = bits.count t := by
  unfold cnt; rw [List.take_of_length_le h]

theorem cnt_succ (t : Bool) (bits : List Bool) (m : Nat) (x : Bool) (h : bits[m]? = some x) :
    cnt t bits (m + 1) = cnt t bits m + (if x = t then 1 else 0) := List.count_take_succ bits t h

theorem rank_eq_cnt (t : Bool) (bits : List Bool) (i : Nat) : rank t bits i = cnt t bits (i + 1) := rfl


theorem cnt_block (t : Bool) (bits : List Bool) (B : Nat) :
    cnt t bits (8 * (B + 1)) = cnt t bits (8 * B) + (getBlock bits B).count t := by
  have : 8 * (B + 1) = 8 * B + 8 := by omega
  rw [this, cnt_add]; rfl

theorem getBlock_length_le (bits : List Bool) (B : Nat) : (getBlock bits B).length ≤ 8 := by
  unfold getBlock; rw [List.length_take]; omega

theorem getBlock_length_full (bits : List Bool) (B : Nat) (h : 8 * (B + 1) ≤ bits.length) :
    (getBlock bits B).length = 8 := by
  unfold getBlock; rw [List.length_take, List.length_drop]; omega

theorem getBlock_getD (bits : List Bool) (B i : Nat) (hi : i < 8) :
    (getBlock bits B).getD i false = (bits[8 * B + i]?).getD false := by
  unfold getBlock
  rw [List.getD_eq_getElem?_getD, List.getElem?_take, if_pos hi, List.getElem?_drop]

/-- the per-block count used by `superblocks` / `select_x` -/
def blkCount (t : Bool) (blk : List Bool) : Nat := if t then countOnes blk else countZeros blk

theorem blkCount_ge (t : Bool) (blk : List Bool) (h : blk.length ≤ 8) : blk.count t ≤ blkCount t blk := by
  have h1 := count_true_add_false blk
  cases t <;> simp only [blkCount, countOnes, countZeros] <;> simp <;> omega

theorem blkCount_full (t : Bool) (blk : List Bool) (h : blk.length = 8) : blkCount t blk = blk.count t := by
  have h1 := count_true_add_false blk
  cases t <;> simp only [blkCount, countOnes, countZeros] <;> simp <;> omega

theorem blkCount_le (t : Bool) (blk : List Bool) (h : blk.length ≤ 8) : blkCount t blk ≤ 8 := by
  have h1 := List.count_le_length (a := true) (l := blk)
  cases t <;> simp only [blkCount, countOnes, countZeros] <;> simp <;> omega

/-! ### the superblock table -/

/-- the running rank of `superblocks` after `B` blocks (for `t = false` the zero padding is counted) -/
def runRank (t : Bool) (bits : List Bool) (B : Nat) : Nat :=
  if t then cnt true bits (8 * B) else 8 * B - cnt true bits (8 * B)

theorem runRank_succ (t : Bool) (bits : List Bool) (B : Nat) :
    runRank t bits (B + 1) = runRank t bits B + blkCount t (getBlock bits B) := by
  have h1 := cnt_block true bits B
  have h2 := cnt_le true bits (8 * B)
  have h3 := getBlock_length_le bits B
  have h4 := List.count_le_length (a := true) (l := getBlock bits B)
  cases t <;> simp only [runRank, blkCount, countOnes, countZeros] <;> simp <;> omega

theorem runRank_eq_cnt (t : Bool) (bits : List Bool) (B : Nat) (h : 8 * B ≤ bits.length) :
    runRank t bits B = cnt t bits (8 * B) := by
  have := cnt_true_add_false bits (8 * B) h
  cases t <;> simp [runRank] <;> omega

/-- invariant of the `superblocks` loop after `B` blocks; `q = s / 8` blocks per superblock -/
structure SbInv (t : Bool) (bits : List Bool) (q : Nat) (B : Nat) (st : SbState) : Prop where
  hi : st.i = 8 * B
  hrank : st.rank = runRank t bits B
  hlen1 : B ≤ st.out.length * q
  hlen2 : st.out.length * q < B + q
  hval : ∀ m, m < st.out.length → (st.out.getD m (.first 0)).val = runRank t bits (m * q)

theorem sbInv_step (t : Bool) (bits : List Bool) (q : Nat) (hq : 0 < q) (B : Nat) (st : SbState)
    (h : SbInv t bits q B st) : SbInv t bits q (B + 1) (sbStep t (8 * q) (getBlock bits) st B) := by
  obtain ⟨hi, hrank, hlen1, hlen2, hval⟩ := h
  have hmod : st.i % (8 * q) = 8 * (B % q) := by rw [hi, Nat.mul_mod_mul_left]
  have hbc : (if t then countOnes (getBlock bits B) else countZeros (getBlock bits B))
      = blkCount t (getBlock bits B) := rfl
  by_cases h0 : B % q = 0
  · -- a new entry is pushed
    have hB : B = st.out.length * q := by
      have hd := Nat.div_add_mod B q
      rw [h0, Nat.add_zero, Nat.mul_comm] at hd
      have h1 : B / q ≤ st.out.length := by
        apply Nat.le_of_mul_le_mul_right (c := q) _ hq; omega
      have h2 : st.out.length < B / q + 1 := by
        apply Nat.lt_of_mul_lt_mul_right (a := q); rw [Nat.succ_mul]; omega
      have : st.out.length = B / q := by omega
      rw [this]; exact hd.symm
    have hc : st.i % (8 * q) = 0 := by omega
    unfold sbStep
    simp only [hc, if_true, hbc]
    refine ⟨by simp only [hi]; omega, by simp only [hrank, runRank_succ], ?_, ?_, ?_⟩
    · simp only [List.length_append, List.length_singleton, Nat.succ_mul]; omega
    · simp only [List.length_append, List.length_singleton, Nat.succ_mul]; omega
    · intro m hm
      simp only [List.length_append, List.length_singleton] at hm
      by_cases hm' : m < st.out.length
      · rw [List.getD_append_left _ _ _ _ hm']; exact hval m hm'
      · have : m = st.out.length := by omega
        subst this
        rw [List.getD_concat_length, ← hB]
        split <;> simp [SbRank.val, hrank]
  · have hc : ¬ st.i % (8 * q) = 0 := by omega
    unfold sbStep
    simp only [hc, if_false, hbc]
    have : B ≠ st.out.length * q := by
      intro he; rw [he, Nat.mul_mod_left] at h0; exact h0 rfl
    refine ⟨by simp only [hi]; omega, by simp only [hrank, runRank_succ], ?_, ?_, hval⟩
    · show B + 1 ≤ st.out.length * q
      omega
    · show st.out.length * q < B + 1 + q
      omega

theorem sbInv_fold (t : Bool) (bits : List Bool) (q : Nat) (hq : 0 < q) (B : Nat) :
    SbInv t bits q B ((List.range B).foldl (sbStep t (8 * q) (getBlock bits)) {}) := by
  induction B with
  | zero =>
    refine ⟨rfl, ?_, by simp, by simpa using hq, by intro m hm; simp at hm⟩
    cases t <;> simp [runRank, cnt]
  | succ B ih =>
    rw [List.range_succ, List.foldl_append]
    exact sbInv_step t bits q hq B _ ih

theorem eight_dvd (k : Nat) : 8 ∣ k * 32 := ⟨4 * k, by omega⟩

theorem lt_superblocks_length (t : Bool) (bits : List Bool) (s : Nat) (h8 : 8 ∣ s) (hs : 0 < s) (m : Nat) :
    m < (superblocks t bits.length s (getBlock bits)).length ↔ m * s < bits.length := by
  obtain ⟨q, rfl⟩ := h8
  obtain ⟨-, -, h1, h2, -⟩ := sbInv_fold t bits q (by omega) ((bits.length + 7) / 8)
  rw [Nat.mul_left_comm]
  constructor
  · intro hm
    have := Nat.mul_le_mul_right q (Nat.succ_le_of_lt hm)
    rw [Nat.succ_mul] at this
    have := Nat.lt_of_add_lt_add_right (Nat.lt_of_le_of_lt this h2)
    omega
  · intro hm
    exact Nat.lt_of_mul_lt_mul_right (Nat.lt_of_lt_of_le (show m * q < (bits.length + 7) / 8 by omega) h1)

theorem superblocks_val (t : Bool) (bits : List Bool) (s : Nat) (h8 : 8 ∣ s) (hs : 0 < s) (m : Nat)
    (hm : m * s < bits.length) :
    ((superblocks t bits.length s (getBlock bits)).getD m (.first 0)).val = cnt t bits (m * s) := by
  have hL := (lt_superblocks_length t bits s h8 hs m).mpr hm
  obtain ⟨q, rfl⟩ := h8
  rw [Nat.mul_left_comm] at hm ⊢
  rw [superblocks, (sbInv_fold t bits q (by omega) ((bits.length + 7) / 8)).hval m hL, runRank_eq_cnt t bits _ (by omega)]


/-! ### rank -/

theorem foldl_countOnes (bits : List Bool) (lo len r0 : Nat) :
    (List.range' lo len).foldl (fun r blk => r + countOnes (getBlock bits blk)) r0 + cnt true bits (8 * lo)
      = r0 + cnt true bits (8 * (lo + len)) := by
  induction len generalizing lo r0 with
  | zero => simp
  | succ len ih =>
    rw [List.range'_succ, List.foldl_cons]
    have h1 := ih (lo + 1) (r0 + countOnes (getBlock bits lo))
    have h2 := cnt_block true bits lo
    have e : lo + (len + 1) = lo + 1 + len := by omega
    rw [e]
    simp only [countOnes] at *
    omega

theorem rank1_spec (bits : List Bool) (s : Nat) (h8 : 8 ∣ s) (sbs : List SbRank)
    (hV : ∀ m, m * s < bits.length → (sbs.getD m (.first 0)).val = cnt true bits (m * s)) (i : Nat) :
    rank1 bits.length s (getBlock bits) sbs i = rankRef true bits i := by
  unfold rank1 rankRef
  by_cases hi : i < bits.length
  · have hsb : i / s * s ≤ i := Nat.div_mul_le_self _ _
    rw [if_neg (Nat.not_le.mpr hi), if_pos hi]
    simp only [hV _ (Nat.lt_of_le_of_lt hsb hi), rank_eq_cnt]
    obtain ⟨q, rfl⟩ := h8
    rw [Nat.mul_left_comm, Nat.mul_div_cancel_left _ (by omega : 0 < 8)]
    rw [Nat.mul_left_comm] at hsb
    generalize i / (8 * q) * q = lo at hsb ⊢
    have hf := foldl_countOnes bits lo (i / 8 - lo)
      (cnt true bits (8 * lo) + countOnes (List.take (i % 8 + 1) (getBlock bits (i / 8))))
    rw [show lo + (i / 8 - lo) = i / 8 by omega] at hf
    have h3 := cnt_add true bits (8 * (i / 8)) (i % 8 + 1)
    rw [show 8 * (i / 8) + (i % 8 + 1) = i + 1 by omega] at h3
    have hb : (bits.drop (8 * (i / 8))).take (i % 8 + 1) = (getBlock bits (i / 8)).take (i % 8 + 1) := by
      unfold getBlock; rw [List.take_take]; congr 1; omega
    rw [hb] at h3
    simp only [countOnes, Option.some.injEq] at hf ⊢
    omega
  · rw [if_pos (Nat.le_of_not_lt hi), if_neg hi]

theorem rank1_correct (bits : List Bool) (k : Nat) (hk : 1 ≤ k) (i : Nat) :
    rank1 bits.length (k * 32) (getBlock bits) (superblocks true bits.length (k * 32) (getBlock bits)) i
      = rankRef true bits i :=
  rank1_spec bits (k * 32) (eight_dvd k) _ (superblocks_val true bits (k * 32) (eight_dvd k) (by omega)) i

theorem rank0_correct (bits : List Bool) (k : Nat) (hk : 1 ≤ k) (i : Nat) :
    rank0 bits.length (k * 32) (getBlock bits) (superblocks true bits.length (k * 32) (getBlock bits)) i
      = rankRef false bits i := by
  unfold rank0
  rw [rank1_correct bits k hk i]
  unfold rankRef
  by_cases hi : i < bits.length
  · simp only [hi, if_true, Option.map_some, Option.some.injEq]
    have := cnt_true_add_false bits (i + 1) (by omega)
    simp only [rank_eq_cnt]; omega
  · simp [hi]

/-! ### select

`cnt b bits` is monotone with unit steps, so `cnt b bits g < j ↔ g ≤ p` for the position `p` of the `j`-th `b`-bit
(`cnt_lt_iff`).  The superblock search, the byte loop and the bit loop of `select_x` are this fact on three grids; each
gets one equation (`selectX_spec`, `selectBlocks_spec`, `scan_spec`). -/

theorem lt_first (e : SbRank) (j : Nat) : e.lt (.first j) = true ↔ e.val < j := by
  cases e <;> simp [SbRank.lt, SbRank.val] <;> exact decide_eq_true_iff

theorem lt_first_false (e : SbRank) (j : Nat) : e.lt (.first j) = false ↔ j ≤ e.val := by
  rw [← Bool.not_eq_true, lt_first]; omega

theorem takeWhile_spec {α : Type} (f : α → Bool) (d : α) (l : List α) :
    (∀ i, i < (l.takeWhile f).length → f (l.getD i d) = true) ∧
    ((l.takeWhile f).length < l.length → f (l.getD (l.takeWhile f).length d) = false) := by
  induction l with
  | nil => exact ⟨fun i h => by simp at h, fun h => by simp at h⟩
  | cons x xs ih =>
    by_cases hx : f x = true
    · simp only [List.takeWhile_cons, hx, if_true, List.length_cons]
      refine ⟨fun i hi => ?_, fun h => by simpa using ih.2 (by omega)⟩
      cases i with
      | zero => simpa using hx
      | succ i => simpa using ih.1 i (by omega)
    · simp only [List.takeWhile_cons, hx]
      exact ⟨fun i hi => by simp at hi, fun _ => by simpa using hx⟩

theorem length_takeWhile_le {α} (f : α → Bool) (l : List α) : (l.takeWhile f).length ≤ l.length :=
  (List.takeWhile_prefix f).length_le

theorem takeWhile_length_eq {α : Type} (f : α → Bool) (d : α) (l : List α) (c : Nat) (hc : c ≤ l.length)
    (h1 : ∀ m, m < c → f (l.getD m d) = true) (h2 : c < l.length → f (l.getD c d) = false) :
    (l.takeWhile f).length = c := by
  obtain ⟨s1, s2⟩ := takeWhile_spec f d l
  have hle := length_takeWhile_le f l
  apply Nat.le_antisymm
  · refine Nat.le_of_not_lt fun h => ?_
    have := s1 c h
    rw [h2 (by omega)] at this; cases this
  · refine Nat.le_of_not_lt fun h => ?_
    have := h1 _ h
    rw [s2 (by omega)] at this; cases this

theorem getBlock_getD_eq (bits : List Bool) (B i : Nat) (x : Bool) (hi : i < 8) (h : bits[8 * B + i]? = some x) :
    (getBlock bits B).getD i false = x := by
  rw [getBlock_getD bits B i hi, h]; rfl

theorem scan_notFound_le (blk : List Bool) (b : Bool) (j : Nat) : ∀ fuel i rank r,
    scanBits blk b j fuel i rank = .notFound r → r ≤ rank + fuel := by
  intro fuel
  induction fuel with
  | zero => intro i rank r h; simp only [scanBits] at h; cases h; omega
  | succ fuel ih =>
    intro i rank r h
    have hx : (if blk.getD i false = b then 1 else 0) ≤ 1 := by split <;> omega
    rw [scanBits] at h
    generalize (if blk.getD i false = b then 1 else 0) = x at h hx
    by_cases hj : rank + x = j
    · simp only [hj, if_true] at h; cases h
    · simp only [hj, if_false] at h
      have := ih _ _ _ h
      omega

theorem selectBlocks_cons (n : Nat) (gb : Nat → List Bool) (b : Bool) (j block : Nat) (rest : List Nat) (rank : Nat) :
    selectBlocks n gb b j (block :: rest) rank =
      if rank + blkCount b (gb block) ≥ j then
        match scanBits (gb block) b j (min 8 (n - block * 8)) 0 rank with
        | .found pos => some (block * 8 + pos)
        | .notFound rank' => selectBlocks n gb b j rest (rank' + blkCount b (gb block))
      else selectBlocks n gb b j rest (rank + blkCount b (gb block)) := by
  rw [selectBlocks]; rfl

theorem selectBlocks_nil (n : Nat) (gb : Nat → List Bool) (b : Bool) (j rank : Nat) :
    selectBlocks n gb b j [] rank = none := by
  rw [selectBlocks]

theorem cnt_lt_iff (b : Bool) (bits : List Bool) (j p : Nat) (h : selectRef b bits j = some p) (g : Nat) :
    cnt b bits g < j ↔ g ≤ p := by
  obtain ⟨hbit, hrk⟩ := (selectRef_some_iff b bits j p).mp h
  have hs := cnt_succ b bits p b hbit
  rw [rank_eq_cnt] at hrk
  simp only [if_true] at hs
  constructor
  · intro hg
    apply Nat.le_of_not_lt
    intro hpg
    have := cnt_mono b bits (show p + 1 ≤ g from hpg)
    omega
  · intro hg
    have := cnt_mono b bits hg
    omega

theorem selectRef_isSome (b : Bool) (bits : List Bool) (j g : Nat) (hj : j ≠ 0) (h : j ≤ cnt b bits g) :
    ∃ p, selectRef b bits j = some p := by
  cases hs : selectRef b bits j with
  | some p => exact ⟨p, rfl⟩
  | none =>
    have := (selectRef_none_iff b bits j).mp hs
    have := cnt_le_count b bits g
    omega

/-- the answer of the bit scan, put back into absolute position, once the count has reached `j` after block `lo` began -/
theorem some_found (b : Bool) (bits : List Bool) (j lo e : Nat) (hlt : cnt b bits (8 * lo) < j) (hc : j ≤ cnt b bits e) :
    some (lo * 8 + ((selectRef b bits j).getD 0 - 8 * lo)) = selectRef b bits j := by
  obtain ⟨p, hp⟩ := selectRef_isSome b bits j e (by omega) hc
  have := (cnt_lt_iff b bits j p hp (8 * lo)).mp hlt
  rw [hp, Option.getD_some]
  exact congrArg some (by omega)

theorem scan_spec (bits : List Bool) (b : Bool) (j B : Nat) : ∀ fuel i, i + fuel ≤ 8 → 8 * B + i + fuel ≤ bits.length →
    cnt b bits (8 * B + i) < j →
    scanBits (getBlock bits B) b j fuel i (cnt b bits (8 * B + i)) =
      if j ≤ cnt b bits (8 * B + i + fuel) then .found ((selectRef b bits j).getD 0 - 8 * B)
      else .notFound (cnt b bits (8 * B + i + fuel)) := by
  intro fuel
  induction fuel with
  | zero => intro i _ _ h; rw [scanBits, Nat.add_zero, if_neg (by omega)]
  | succ fuel ih =>
    intro i h8 hn hlt
    have hx : bits[8 * B + i]? = some (bits[8 * B + i]'(by omega)) := List.getElem?_eq_getElem _
    generalize bits[8 * B + i]'(by omega) = x at hx
    have hs := cnt_succ b bits (8 * B + i) x hx
    have e : 8 * B + i + (fuel + 1) = 8 * B + (i + 1) + fuel := by omega
    rw [scanBits, getBlock_getD_eq bits B i x (by omega) hx, ← hs, e]
    by_cases hj : cnt b bits (8 * B + i + 1) = j
    · have hsel : selectRef b bits j = some (8 * B + i) := by
        rw [selectRef_some_iff]
        have hxb : x = b := by
          apply Classical.byContradiction; intro hne; rw [if_neg hne] at hs; omega
        exact ⟨hxb ▸ hx, hj⟩
      have := cnt_mono b bits (show 8 * B + i + 1 ≤ 8 * B + (i + 1) + fuel by omega)
      rw [if_pos hj, if_pos (by omega), hsel, Option.getD_some, Nat.add_sub_cancel_left]
    · rw [if_neg hj]
      have h1 : (if x = b then 1 else 0) ≤ 1 := by split <;> omega
      exact ih (i + 1) (by omega) (by omega) (show cnt b bits (8 * B + i + 1) < j by omega)

theorem selectBlocks_spec (bits : List Bool) (b : Bool) (j : Nat) : ∀ len lo, lo + len ≤ (bits.length + 7) / 8 →
    cnt b bits (8 * lo) < j →
    selectBlocks bits.length (getBlock bits) b j (List.range' lo len) (cnt b bits (8 * lo))
      = if j ≤ cnt b bits (8 * (lo + len)) then selectRef b bits j else none := by
  intro len
  induction len with
  | zero => intro lo _ h; rw [List.range'_zero, selectBlocks_nil, Nat.add_zero, if_neg (by omega)]
  | succ len ih =>
    intro lo hN hlt
    rw [List.range'_succ, selectBlocks_cons]
    have hblk := cnt_block b bits lo
    have hge := blkCount_ge b _ (getBlock_length_le bits lo)
    have hmono := cnt_mono b bits (show 8 * (lo + 1) ≤ 8 * (lo + (len + 1)) by omega)
    by_cases hfull : 8 * (lo + 1) ≤ bits.length
    · -- a whole block: the block count is exact
      rw [blkCount_full b _ (getBlock_length_full bits lo hfull), ← hblk, show lo + (len + 1) = lo + 1 + len by omega]
      by_cases hc : cnt b bits (8 * (lo + 1)) ≥ j
      · have hs := scan_spec bits b j lo 8 0 (by omega) (by omega) hlt
        simp only [Nat.add_zero, ← Nat.mul_succ] at hs
        have hm := cnt_mono b bits (show 8 * (lo + 1) ≤ 8 * (lo + 1 + len) by omega)
        rw [show min 8 (bits.length - lo * 8) = 8 by omega, if_pos hc, hs, if_pos hc, if_pos (Nat.le_trans hc hm)]
        exact some_found b bits j lo _ hlt hc
      · rw [if_neg hc]
        exact ih (lo + 1) (by omega) (by omega)
    · -- the last, partial block: nothing follows it, and the count stops at the end of the vector
      obtain rfl : len = 0 := by omega
      have hend : cnt b bits (8 * (lo + 1)) = cnt b bits (8 * lo + min 8 (bits.length - lo * 8)) := by
        rw [cnt_ge_length b bits _ (by omega), cnt_ge_length b bits _ (by omega)]
      simp only [List.range'_zero, selectBlocks_nil, Nat.zero_add]
      rw [hend]
      have hs := scan_spec bits b j lo (min 8 (bits.length - lo * 8)) 0 (by omega) (by omega) hlt
      simp only [Nat.add_zero] at hs
      by_cases hc : j ≤ cnt b bits (8 * lo + min 8 (bits.length - lo * 8))
      · rw [if_pos (show _ ≥ j by omega), hs, if_pos hc, if_pos hc]
        exact some_found b bits j lo _ hlt hc
      · rw [if_neg hc]
        split
        · rw [hs, if_neg hc]
        · rfl

/-- **`select_x` on any table of sampled prefix counts**, for every superblock size `s` that is a whole number of bytes:
one entry per started superblock, entry `m` = the prefix count at bit `m·s`.  Both polarities, every `j`. -/
theorem selectX_spec (b : Bool) (bits : List Bool) (s : Nat) (h8 : 8 ∣ s) (hs : 0 < s) (hn : bits ≠ []) (sbs : List SbRank)
    (hL : ∀ m, m < sbs.length ↔ m * s < bits.length)
    (hV : ∀ m, m * s < bits.length → (sbs.getD m (.first 0)).val = cnt b bits (m * s)) (j : Nat) :
    selectX bits.length s (getBlock bits) sbs b j = selectRef b bits j := by
  obtain ⟨q, rfl⟩ := h8
  have hq : 0 < q := by omega
  -- block coordinates: superblock `m` starts at block `m·q`
  have hL : ∀ m, m < sbs.length ↔ m * q < (bits.length + 7) / 8 := fun m =>
    (hL m).trans (by rw [Nat.mul_left_comm]; omega)
  have hV : ∀ m, m * q < (bits.length + 7) / 8 → (sbs.getD m (.first 0)).val = cnt b bits (8 * (m * q)) := fun m hm => by
    rw [hV m (by rw [Nat.mul_left_comm]; omega), Nat.mul_left_comm]
  by_cases hj0 : j = 0
  · subst hj0; simp [selectX, selectRef]
  have hnpos : 0 < bits.length := List.length_pos_iff.mpr hn
  unfold selectX searchIdx
  simp only [hj0, if_false]
  obtain ⟨h1, h2⟩ := takeWhile_spec (fun e => e.lt (.first j)) (.first 0) sbs
  have hle := length_takeWhile_le (fun e => e.lt (.first j)) sbs
  generalize (sbs.takeWhile (fun e => e.lt (.first j))).length = c at h1 h2 hle
  have h0 : 0 < sbs.length := (hL 0).mpr (by omega)
  -- the first entry is 0 < j, so at least one entry lies below the key
  have hc : 0 < c := by
    apply Nat.pos_of_ne_zero; intro hc; subst hc
    have := h2 h0
    rw [lt_first_false, hV 0 (by omega)] at this
    simp [cnt] at this; omega
  obtain ⟨sb, rfl⟩ : ∃ sb, c = sb + 1 := ⟨c - 1, by omega⟩
  have hsb := (hL sb).mp (by omega)
  have hlt : cnt b bits (8 * (sb * q)) < j := by
    have := h1 sb (by omega); rwa [lt_first, hV sb hsb] at this
  rw [Nat.add_sub_cancel, hV sb hsb, Nat.mul_left_comm, Nat.mul_div_cancel_left _ (by omega : 0 < 8),
    Nat.mul_div_cancel_left _ (by omega : 0 < 8)]
  rw [selectBlocks_spec bits b j _ _ (by omega) hlt,
    show sb * q + (min (sb * q + q) ((bits.length + 7) / 8) - sb * q) = min ((sb + 1) * q) ((bits.length + 7) / 8) by
      rw [Nat.succ_mul]; omega]
  split
  · rfl
  · -- the count does not reach `j` inside the superblock: then it is the last one, and there is no `j`-th bit at all
    rename_i hnc
    symm; rw [selectRef_none_iff]; right
    by_cases hnext : (sb + 1) * q < (bits.length + 7) / 8
    · have := h2 ((hL _).mpr hnext)
      rw [lt_first_false, hV _ hnext] at this
      rw [Nat.min_eq_left (Nat.le_of_lt hnext)] at hnc
      omega
    · rw [Nat.min_eq_right (Nat.le_of_not_lt hnext), cnt_ge_length b bits _ (by omega)] at hnc
      omega

theorem select_correct (b : Bool) (bits : List Bool) (k : Nat) (hk : 1 ≤ k) (hn : bits ≠ []) (j : Nat) :
    selectX bits.length (k * 32) (getBlock bits) (superblocks b bits.length (k * 32) (getBlock bits)) b j
      = selectRef b bits j :=
  selectX_spec b bits (k * 32) (eight_dvd k) (by omega) hn _ (lt_superblocks_length b bits (k * 32) (eight_dvd k) (by omega))
    (superblocks_val b bits (k * 32) (eight_dvd k) (by omega)) j

end RbV.Lemmas.RankSelectModel
