import RbV.Model.Fasta
import RbV.Model.Fastq
/-! Lemmas behind the C11 theorems: line splitting, end trimming, header parsing; the two layout theorems (`parseFasta_layout`,
`parseFastq_layout`: a layout built from `hdrText`, `NoTrailWs`, `NextIs` is read back as its records) and the writer as a layout
(`writerPieces`, `writerLayout`, `writeFasta_eq_layout`, `writeFastq_eq_layout`).  Core only. -/
namespace RbV.Fastx

/-! ## Line splitting -/

theorem splitLines_line (l r : Bytes) (h : 10 ∉ l) : splitLines (l ++ 10 :: r) = (l ++ [10]) :: splitLines r := by
  induction l with
  | nil => simp [splitLines]
  | cons b l ih =>
    have hb : b ≠ 10 := fun e => h (by simp [e])
    have hl : 10 ∉ l := fun e => h (by simp [e])
    simp only [List.cons_append, splitLines, if_neg hb, ih hl]

theorem splitLines_nolf (p : Bytes) (h : 10 ∉ p) (hne : p ≠ []) : splitLines p = [p] := by
  induction p with
  | nil => exact absurd rfl hne
  | cons b p ih =>
    have hb : b ≠ 10 := fun e => h (by simp [e])
    have hp : 10 ∉ p := fun e => h (by simp [e])
    cases p with
    | nil => simp [splitLines, hb]
    | cons c p =>
      have := ih hp (by simp)
      rw [splitLines, if_neg hb, this]

theorem splitLines_nolf_ite (l : Bytes) (h : 10 ∉ l) : splitLines l = if l = [] then [] else [l] := by
  by_cases hl : l = []
  · subst hl; rfl
  · rw [if_neg hl, splitLines_nolf l h hl]

/-- the fuel bound: a file has no more lines than bytes -/
theorem splitLines_length_lt (f : Bytes) : (splitLines f).length < f.length + 1 := by
  induction f with
  | nil => simp [splitLines]
  | cons b r ih =>
    unfold splitLines
    split
    · simp only [List.length_cons]; omega
    · split <;> rename_i heq <;> rw [heq] at ih <;> simp only [List.length_cons, List.length_nil] at ih ⊢ <;> omega

theorem IsEol.cases {e : Bytes} (h : IsEol e) : e = [10] ∨ e = [13, 10] := h

theorem splitLines_eol (l e r : Bytes) (h : 10 ∉ l) (he : IsEol e) :
    splitLines (l ++ e ++ r) = (l ++ e) :: splitLines r := by
  rcases he with rfl | rfl
  · simpa using splitLines_line l r h
  · have h' : 10 ∉ l ++ [13] := by simp [h]
    have := splitLines_line (l ++ [13]) r h'
    simpa using this

theorem splitLines_head (b : Nat) (r : Bytes) :
    ∃ l ls, splitLines (b :: r) = l :: ls ∧ l.head? = some b := by
  unfold splitLines
  split
  · rename_i hb; exact ⟨[10], _, rfl, by simp [hb]⟩
  · split
    · exact ⟨[b], [], rfl, rfl⟩
    · exact ⟨_, _, rfl, rfl⟩

theorem take_line_cases (b rest : Bytes) (c : Nat) :
    (c ≤ b.length ∧ (b ++ 10 :: rest).take c = b.take c) ∨
    (b.length < c ∧ (b ++ 10 :: rest).take c = b ++ 10 :: rest.take (c - b.length - 1)) := by
  rcases Nat.lt_or_ge b.length c with h | h
  · right
    refine ⟨h, ?_⟩
    rw [List.take_append, List.take_of_length_le (Nat.le_of_lt h), List.take_cons (by omega)]
  · left
    exact ⟨h, List.take_append_of_le_length h⟩

theorem nolf_take {b : Bytes} (h : 10 ∉ b) (c : Nat) : 10 ∉ b.take c := fun e => h (List.mem_of_mem_take e)

theorem nolf_of_nows (p : Bytes) (h : ∀ b ∈ p, isWs b = false) : 10 ∉ p := by
  intro h10
  have := h 10 h10
  simp [isWs] at this

/-! ## End trimming -/

/-- no trailing white space (vacuous for the empty string); the third clause of `ValidFa.desc_ok` / `ValidFq.desc_ok` is this,
definitionally, and is passed where `NoTrailWs d` is expected -/
def NoTrailWs (a : Bytes) : Prop := ∀ x, a.getLast? = some x → isWs x = false

theorem trimEnd_eq_nil_iff (l : Bytes) : trimEnd l = [] ↔ l.all isWs = true := by
  induction l with
  | nil => simp [trimEnd]
  | cons b r ih =>
    simp only [trimEnd, List.all_cons, Bool.and_eq_true]
    constructor
    · intro h
      split at h
      · rename_i hc
        simp only [Bool.and_eq_true, List.isEmpty_iff] at hc
        exact ⟨hc.2, ih.mp hc.1⟩
      · cases h
    · intro ⟨h1, h2⟩
      simp [ih.mpr h2, h1]

theorem trimEnd_cons_of_ne_nil (c : Nat) {r : Bytes} (h : trimEnd r ≠ []) : trimEnd (c :: r) = c :: trimEnd r := by
  simp only [trimEnd]
  cases h' : trimEnd r with
  | nil => exact absurd h' h
  | cons => simp

theorem trimEnd_cons_of_not_ws {c : Nat} (h : isWs c = false) (r : Bytes) : trimEnd (c :: r) = c :: trimEnd r := by
  simp [trimEnd, h]

theorem trimEnd_subset (l : Bytes) : ∀ b ∈ trimEnd l, b ∈ l := by
  induction l with
  | nil => simp [trimEnd]
  | cons c r ih =>
    intro b hb
    simp only [trimEnd] at hb
    split at hb
    · cases hb
    · rcases List.mem_cons.mp hb with rfl | hb'
      · simp
      · exact List.mem_cons_of_mem _ (ih b hb')

theorem trimEnd_ws (w : Bytes) (h : ∀ b ∈ w, isWs b = true) : trimEnd w = [] :=
  (trimEnd_eq_nil_iff w).mpr (List.all_eq_true.mpr h)

theorem trimEnd_append_ws (a w : Bytes) (ha : NoTrailWs a) (hw : ∀ b ∈ w, isWs b = true) :
    trimEnd (a ++ w) = a := by
  induction a with
  | nil => simpa using trimEnd_ws w hw
  | cons b a ih =>
    have ha' : NoTrailWs a := by
      intro x hx
      cases a with
      | nil => simp at hx
      | cons c a => exact ha x (by simpa [List.getLast?_cons_cons] using hx)
    have := ih ha'
    simp only [List.cons_append, trimEnd, this]
    cases a with
    | nil =>
      have hb : isWs b = false := ha b (by simp)
      simp [hb]
    | cons c a => simp

theorem noTrailWs_of_all (a : Bytes) (h : ∀ b ∈ a, isWs b = false) : NoTrailWs a := by
  intro x hx
  exact h x (List.mem_of_getLast? hx)

theorem eol_ws {e : Bytes} (he : IsEol e) : ∀ b ∈ e, isWs b = true := by
  rcases he with rfl | rfl <;> simp [isWs]

theorem eol_head_ne {e : Bytes} (he : IsEol e) : e.head? ≠ some 62 ∧ e.head? ≠ some 43 := by
  rcases he with rfl | rfl <;> simp

theorem trimEnd_piece (p e : Bytes) (hp : ∀ b ∈ p, isWs b = false) (he : IsEol e) : trimEnd (p ++ e) = p :=
  trimEnd_append_ws p e (noTrailWs_of_all p hp) (eol_ws he)

/-! ## The header line -/

theorem splitn2_nosep (sep : Nat → Bool) (a : Bytes) (ha : ∀ b ∈ a, sep b = false) :
    splitn2 sep a = (a, none) := by
  induction a with
  | nil => rfl
  | cons b a ih =>
    have hb := ha b (by simp)
    have := ih (fun x hx => ha x (by simp [hx]))
    simp only [splitn2, Prod.mk.injEq] at this ⊢
    simp [List.takeWhile, List.dropWhile, hb, this.1]
    have h2 := this.2
    split at h2 <;> simp_all

theorem splitn2_sep (sep : Nat → Bool) (a d : Bytes) (s : Nat) (ha : ∀ b ∈ a, sep b = false) (hs : sep s = true) :
    splitn2 sep (a ++ s :: d) = (a, some d) := by
  induction a with
  | nil => simp [splitn2, List.takeWhile, List.dropWhile, hs]
  | cons b a ih =>
    have hb := ha b (by simp)
    have := ih (fun x hx => ha x (by simp [hx]))
    simp only [splitn2, Prod.mk.injEq] at this ⊢
    simp only [List.cons_append, List.takeWhile, List.dropWhile, hb, Bool.not_false]
    exact ⟨by simp [this.1], this.2⟩

/-- the text after the start character of a header line -/
def hdrText (id : Bytes) (desc : Option Bytes) : Bytes :=
  id ++ (match desc with | some d => 32 :: d | none => [])

theorem hdrText_noTrail (id : Bytes) (desc : Option Bytes) (hid : ∀ b ∈ id, isWs b = false)
    (hd : ∀ d, desc = some d → d ≠ [] ∧ 10 ∉ d ∧ NoTrailWs d) : NoTrailWs (hdrText id desc) := by
  cases desc with
  | none => simpa [hdrText] using noTrailWs_of_all id hid
  | some d =>
    obtain ⟨hne, _, hl⟩ := hd d rfl
    intro x hx
    apply hl x
    simp only [hdrText] at hx
    rw [List.getLast?_append] at hx
    cases d with
    | nil => exact absurd rfl hne
    | cons c d =>
      simp only [List.getLast?_cons_cons] at hx
      cases h : (c :: d).getLast? with
      | none => simp at h
      | some y => simp [h] at hx; simp [hx]

theorem hdrText_nolf (c : Nat) (hc : c ≠ 10) (id : Bytes) (desc : Option Bytes) (hid : ∀ b ∈ id, isWs b = false)
    (hd : ∀ d, desc = some d → d ≠ [] ∧ 10 ∉ d ∧ NoTrailWs d) : 10 ∉ c :: hdrText id desc := by
  intro h
  have h10 : isWs 10 = true := rfl
  rcases List.mem_cons.mp h with h | h
  · exact hc h.symm
  cases desc with
  | none =>
    simp only [hdrText, List.append_nil] at h
    have := hid 10 h; simp [h10] at this
  | some d =>
    simp only [hdrText, List.mem_append, List.mem_cons] at h
    rcases h with h | h | h
    · have := hid 10 h; simp [h10] at this
    · cases h
    · exact (hd d rfl).2.1 h

/-- FASTA: the header line gives back id and description -/
theorem faHeader_line (id : Bytes) (desc : Option Bytes) (e : Bytes) (he : IsEol e)
    (hid : ∀ b ∈ id, isWs b = false) (hd : ∀ d, desc = some d → d ≠ [] ∧ 10 ∉ d ∧ NoTrailWs d) :
    faHeader (62 :: hdrText id desc ++ e) = (id, desc) := by
  unfold faHeader
  simp only [List.cons_append, List.tail_cons]
  rw [trimEnd_append_ws _ _ (hdrText_noTrail id desc hid hd) (eol_ws he)]
  cases desc with
  | none => simpa [hdrText] using splitn2_nosep isWs id hid
  | some d => simpa [hdrText] using splitn2_sep isWs id d 32 hid rfl

/-- FASTQ: the same with `splitn(2, ' ')` -/
theorem fqHeader_line (id : Bytes) (desc : Option Bytes) (e : Bytes) (he : IsEol e)
    (hid : ∀ b ∈ id, isWs b = false) (hd : ∀ d, desc = some d → d ≠ [] ∧ 10 ∉ d ∧ NoTrailWs d) :
    fqHeader (64 :: hdrText id desc ++ e) = (id, desc) := by
  unfold fqHeader
  simp only [List.cons_append, List.tail_cons]
  rw [trimEnd_append_ws _ _ (hdrText_noTrail id desc hid hd) (eol_ws he)]
  have hid' : ∀ b ∈ id, (b == 32) = false := by
    intro b hb
    have := hid b hb
    cases h : (b == 32) with
    | false => rfl
    | true => simp at h; subst h; simp [isWs] at this
  cases desc with
  | none => simpa [hdrText] using splitn2_nosep (· == 32) id hid'
  | some d => simpa [hdrText] using splitn2_sep (· == 32) id d 32 hid' rfl

/-! ## FASTA: a layout is read back as its records -/

theorem splitLines_pieces (ps : List Bytes) (e r : Bytes) (hps : ∀ p ∈ ps, 10 ∉ p) (he : IsEol e) :
    splitLines (ps.flatMap (· ++ e) ++ r) = ps.map (· ++ e) ++ splitLines r := by
  induction ps with
  | nil => simp
  | cons p ps ih =>
    have h1 := hps p (by simp)
    have h2 := ih (fun q hq => hps q (by simp [hq]))
    simp only [List.flatMap_cons, List.map_cons, List.cons_append, List.append_assoc]
    have := splitLines_eol p e (ps.flatMap (· ++ e) ++ r) h1 he
    simp only [List.append_assoc] at this
    rw [this, h2]

/-- what may follow a record: end of stream, or a line starting with the given character -/
def NextIs (c : Nat) (rest : List Bytes) : Prop := rest = [] ∨ ∃ l ls, rest = l :: ls ∧ startsWith l c = true

theorem nextIs_splitLines (c : Nat) (f : Bytes) (h : f = [] ∨ ∃ r, f = c :: r) : NextIs c (splitLines f) := by
  rcases h with rfl | ⟨r, rfl⟩
  · left; rfl
  · right
    obtain ⟨l, ls, h1, h2⟩ := splitLines_head c r
    exact ⟨l, ls, h1, by simp [startsWith, h2]⟩

theorem startsWith_piece (p e : Bytes) (c : Nat) (hp : p.head? ≠ some c) (he : e.head? ≠ some c) :
    startsWith (p ++ e) c = false := by
  cases p with
  | nil => simpa [startsWith] using he
  | cons b p => simpa [startsWith] using hp

theorem faSeq_pieces (ps : List Bytes) (e : Bytes) (rest : List Bytes) (he : IsEol e)
    (hps : ∀ p ∈ ps, (∀ b ∈ p, isWs b = false) ∧ p.head? ≠ some 62) (hrest : NextIs 62 rest) :
    faSeq (ps.map (· ++ e) ++ rest) = (ps.flatten, rest) := by
  induction ps with
  | nil =>
    rcases hrest with rfl | ⟨l, ls, rfl, hl⟩
    · rfl
    · simp [faSeq, hl]
  | cons p ps ih =>
    obtain ⟨h1, h2⟩ := hps p (by simp)
    have := ih (fun q hq => hps q (by simp [hq]))
    have hs := startsWith_piece p e 62 h2 (eol_head_ne he).1
    simp only [List.map_cons, List.cons_append, faSeq, hs, this, trimEnd_piece p e h1 he, List.flatten_cons]
    simp

theorem validFa_desc (r : FaRec) (v : ValidFa r) : ∀ d, r.desc = some d → d ≠ [] ∧ 10 ∉ d ∧ NoTrailWs d := v.desc_ok

theorem layoutFastaRec_eq (r : FaRec) (ps : List Bytes) (e : Bytes) :
    layoutFastaRec r ps e = (62 :: hdrText r.id r.desc) ++ e ++ ps.flatMap (· ++ e) := by
  cases h : r.desc <;> simp [layoutFastaRec, hdrText, h]

theorem mem_pieces {ps : List Bytes} {s : Bytes} (h : ps.flatten = s) {p : Bytes} (hp : p ∈ ps) {b : Nat}
    (hb : b ∈ p) : b ∈ s := by
  rw [← h]; exact List.mem_flatten.mpr ⟨p, hp, hb⟩

theorem splitLines_faRec (r : FaRec) (ps : List Bytes) (e R : Bytes) (v : ValidFa r) (he : IsEol e)
    (hps : ps.flatten = r.seq) :
    splitLines (layoutFastaRec r ps e ++ R) =
      (62 :: hdrText r.id r.desc ++ e) :: (ps.map (· ++ e) ++ splitLines R) := by
  rw [layoutFastaRec_eq]
  have hn := hdrText_nolf 62 (by decide) r.id r.desc v.id_nows v.desc_ok
  have hp : ∀ p ∈ ps, 10 ∉ p := by
    intro p hp
    apply nolf_of_nows
    intro b hb
    exact (v.seq_ok b (mem_pieces hps hp hb)).1
  have := splitLines_eol (62 :: hdrText r.id r.desc) e (ps.flatMap (· ++ e) ++ R) hn he
  simp only [List.append_assoc] at this ⊢
  rw [this, splitLines_pieces ps e R hp he]

theorem faRecords_rec (r : FaRec) (ps : List Bytes) (e : Bytes) (rest : List Bytes) (v : ValidFa r) (he : IsEol e)
    (hps : ps.flatten = r.seq) (hrest : NextIs 62 rest) :
    faRecords ((62 :: hdrText r.id r.desc ++ e) :: (ps.map (· ++ e) ++ rest)) = .ok r :: faRecords rest := by
  have hpp : ∀ p ∈ ps, (∀ b ∈ p, isWs b = false) ∧ p.head? ≠ some 62 := by
    intro p hp
    have hmem : ∀ b ∈ p, b ∈ r.seq := fun b hb => mem_pieces hps hp hb
    refine ⟨fun b hb => (v.seq_ok b (hmem b hb)).1, ?_⟩
    cases p with
    | nil => simp
    | cons b p => simpa using (v.seq_ok b (hmem b (by simp))).2
  rw [faRecords]
  have hsw : startsWith (62 :: hdrText r.id r.desc ++ e) 62 = true := by simp [startsWith]
  simp only [hsw, Bool.not_true, Bool.false_eq_true, if_false]
  rw [faHeader_line r.id r.desc e he v.id_nows v.desc_ok, faSeq_pieces ps e rest he hpp hrest, hps]
  have hne : ({ id := r.id, desc := r.desc, seq := r.seq } : FaRec).isEmpty = false := by
    have := v.seq_ne
    simp only [FaRec.isEmpty, Bool.and_eq_false_imp]
    intro _
    simpa using this
  simp [hne]

theorem layoutFasta_start (L : List (FaRec × List Bytes × Bytes)) :
    layoutFasta L = [] ∨ ∃ r, layoutFasta L = 62 :: r := by
  cases L with
  | nil => left; rfl
  | cons x L => right; simp [layoutFasta, layoutFastaRec]

theorem parseFasta_layout (L : List (FaRec × List Bytes × Bytes))
    (h : ∀ x ∈ L, ValidFa x.1 ∧ x.2.1.flatten = x.1.seq ∧ IsEol x.2.2) :
    parseFasta (layoutFasta L) = L.map (fun x => FaItem.ok x.1) := by
  induction L with
  | nil => simp [parseFasta, layoutFasta, splitLines, faRecords]
  | cons x L ih =>
    obtain ⟨v, hp, he⟩ := h x (by simp)
    have ih' := ih (fun y hy => h y (by simp [hy]))
    have hcons : layoutFasta (x :: L) = layoutFastaRec x.1 x.2.1 x.2.2 ++ layoutFasta L := by
      simp [layoutFasta]
    unfold parseFasta at ih' ⊢
    rw [hcons, splitLines_faRec x.1 x.2.1 x.2.2 _ v he hp,
      faRecords_rec x.1 x.2.1 x.2.2 _ v he hp (nextIs_splitLines 62 _ (layoutFasta_start L)), ih']
    simp

/-! ## FASTA: the writer is a layout -/

theorem chunks_flatten (w : Nat) (hw : 1 ≤ w) (l : Bytes) : (chunks w l).flatten = l := by
  induction l using chunks.induct w with
  | case1 l h =>
    rw [chunks, dif_pos h]
    rcases h with h | h
    · omega
    · simp [h]
  | case2 l h ih =>
    rw [chunks, dif_neg h]
    simp [ih, List.take_append_drop]

theorem mem_chunks (w : Nat) (hw : 1 ≤ w) (l : Bytes) : ∀ c ∈ chunks w l, ∀ b ∈ c, b ∈ l :=
  fun _ hc _ hb => mem_pieces (chunks_flatten w hw l) hc hb

/-- the pieces the writer cuts a sequence into -/
def writerPieces (wrap : Option Nat) (s : Bytes) : List Bytes :=
  match wrap with
  | none => [s]
  | some w => chunks w s

theorem writeFasta_eq_layout (wrap : Option Nat) (recs : List FaRec) :
    writeFasta wrap recs = layoutFasta (recs.map fun r => (r, writerPieces wrap r.seq, [10])) := by
  induction recs with
  | nil => rfl
  | cons r recs ih =>
    simp only [writeFasta, layoutFasta, List.flatMap_cons, List.map_cons] at ih ⊢
    rw [ih]
    congr 1
    cases wrap <;> simp [writeFastaRec, layoutFastaRec, faHeaderBytes, writerPieces]

/-! ## FASTQ: a layout is read back as its records -/

theorem fqSeq_pieces (ps : List Bytes) (e : Bytes) (rest : List Bytes) (he : IsEol e)
    (hps : ∀ p ∈ ps, (∀ b ∈ p, isWs b = false) ∧ p.head? ≠ some 43) (hrest : NextIs 43 rest) :
    fqSeq (ps.map (· ++ e) ++ rest) = (ps.flatten, ps.length, rest) := by
  induction ps with
  | nil =>
    rcases hrest with rfl | ⟨l, ls, rfl, hl⟩
    · rfl
    · simp [fqSeq, hl]
  | cons p ps ih =>
    obtain ⟨h1, h2⟩ := hps p (by simp)
    have := ih (fun q hq => hps q (by simp [hq]))
    have hs := startsWith_piece p e 43 h2 (eol_head_ne he).2
    simp only [List.map_cons, List.cons_append, fqSeq, hs, this, trimEnd_piece p e h1 he, List.flatten_cons,
      List.length_cons]
    simp

theorem fqQual_pieces (qs : List Bytes) (e : Bytes) (X : List Bytes) (he : IsEol e)
    (hq : ∀ p ∈ qs, ∀ b ∈ p, isWs b = false) :
    fqQual qs.length (qs.map (· ++ e) ++ X) = (qs.flatten, X) := by
  induction qs with
  | nil => simp [fqQual]
  | cons p qs ih =>
    have := ih (fun q hq' => hq q (by simp [hq']))
    simp only [List.length_cons, List.map_cons, List.cons_append, fqQual, this,
      trimEnd_piece p e (hq p (by simp)) he, List.flatten_cons]

theorem layoutFastqRec_eq (r : FqRec) (y : FqLayout) :
    layoutFastqRec r y = (64 :: hdrText r.id r.desc) ++ y.eol ++
      (y.seqPieces.flatMap (· ++ y.eol) ++ ((43 :: y.plus) ++ y.eol ++ y.qualPieces.flatMap (· ++ y.eol))) := by
  cases h : r.desc <;> simp [layoutFastqRec, hdrText, h]

theorem splitLines_fqRec (r : FqRec) (y : FqLayout) (R : Bytes) (v : ValidFq r) (ok : y.Ok r) :
    splitLines (layoutFastqRec r y ++ R) =
      (64 :: hdrText r.id r.desc ++ y.eol) ::
        (y.seqPieces.map (· ++ y.eol) ++ ((43 :: y.plus ++ y.eol) :: (y.qualPieces.map (· ++ y.eol) ++ splitLines R))) := by
  rw [layoutFastqRec_eq]
  have he := ok.eol
  have hn := hdrText_nolf 64 (by decide) r.id r.desc v.id_nows v.desc_ok
  have hsp : ∀ p ∈ y.seqPieces, 10 ∉ p := fun p hp =>
    nolf_of_nows p (fun b hb => v.seq_ok b (mem_pieces ok.seq_eq hp hb))
  have hqp : ∀ p ∈ y.qualPieces, 10 ∉ p := fun p hp =>
    nolf_of_nows p (fun b hb => v.qual_ok b (mem_pieces ok.qual_eq hp hb))
  have hplus : 10 ∉ 43 :: y.plus := by
    intro h
    rcases List.mem_cons.mp h with h | h
    · cases h
    · exact ok.plus_nolf h
  have h1 := splitLines_eol (64 :: hdrText r.id r.desc) y.eol
    (y.seqPieces.flatMap (· ++ y.eol) ++ ((43 :: y.plus) ++ y.eol ++ y.qualPieces.flatMap (· ++ y.eol)) ++ R) hn he
  have h2 := splitLines_pieces y.seqPieces y.eol
    ((43 :: y.plus) ++ y.eol ++ y.qualPieces.flatMap (· ++ y.eol) ++ R) hsp he
  have h3 := splitLines_eol (43 :: y.plus) y.eol (y.qualPieces.flatMap (· ++ y.eol) ++ R) hplus he
  have h4 := splitLines_pieces y.qualPieces y.eol R hqp he
  simp only [List.append_assoc] at h1 h2 h3 h4 ⊢
  rw [h1, h2, h3, h4]

theorem fqRead_rec (r : FqRec) (y : FqLayout) (rest : List Bytes) (v : ValidFq r) (ok : y.Ok r) :
    fqRead (64 :: hdrText r.id r.desc ++ y.eol)
      (y.seqPieces.map (· ++ y.eol) ++ ((43 :: y.plus ++ y.eol) :: (y.qualPieces.map (· ++ y.eol) ++ rest)))
      = (.ok r, rest) := by
  have he := ok.eol
  have hsp : ∀ p ∈ y.seqPieces, (∀ b ∈ p, isWs b = false) ∧ p.head? ≠ some 43 := fun p hp =>
    ⟨fun b hb => v.seq_ok b (mem_pieces ok.seq_eq hp hb), ok.no_plus p hp⟩
  have hqp : ∀ p ∈ y.qualPieces, ∀ b ∈ p, isWs b = false := fun p hp b hb =>
    v.qual_ok b (mem_pieces ok.qual_eq hp hb)
  have hnext : NextIs 43 ((43 :: y.plus ++ y.eol) :: (y.qualPieces.map (· ++ y.eol) ++ rest)) :=
    Or.inr ⟨_, _, rfl, by simp [startsWith]⟩
  unfold fqRead
  have hsw : startsWith (64 :: hdrText r.id r.desc ++ y.eol) 64 = true := by simp [startsWith]
  simp only [hsw, Bool.not_true, Bool.false_eq_true, if_false]
  rw [fqHeader_line r.id r.desc y.eol he v.id_nows v.desc_ok, fqSeq_pieces _ _ _ he hsp hnext]
  have hQ := fqQual_pieces y.qualPieces y.eol rest he hqp
  simp only [List.tail_cons, ok.same, hQ, ok.seq_eq, ok.qual_eq]
  have hq : r.qual.isEmpty = false := by
    have h1 := v.qual_len
    have h2 := v.seq_ne
    cases hq : r.qual with
    | nil => rw [hq] at h1; exact absurd (List.eq_nil_of_length_eq_zero h1.symm) h2
    | cons b q => rfl
  simp [hq]

theorem layoutFastq_start (L : List (FqRec × FqLayout)) :
    layoutFastq L = [] ∨ ∃ r, layoutFastq L = 64 :: r := by
  cases L with
  | nil => left; rfl
  | cons x L => right; simp [layoutFastq, layoutFastqRec]

theorem parseFastq_layout (L : List (FqRec × FqLayout)) (h : ∀ x ∈ L, ValidFq x.1 ∧ x.2.Ok x.1) :
    parseFastq (layoutFastq L) = L.map (fun x => FqItem.ok x.1) := by
  induction L with
  | nil => simp [parseFastq, layoutFastq, splitLines, fqRecords]
  | cons x L ih =>
    obtain ⟨v, ok⟩ := h x (by simp)
    have ih' := ih (fun y hy => h y (by simp [hy]))
    have hcons : layoutFastq (x :: L) = layoutFastqRec x.1 x.2 ++ layoutFastq L := by simp [layoutFastq]
    unfold parseFastq at ih' ⊢
    rw [hcons, splitLines_fqRec x.1 x.2 _ v ok, fqRecords, fqRead_rec x.1 x.2 _ v ok, ih']
    simp

/-! ## FASTQ: the writer is a layout -/

def writerLayout (r : FqRec) : FqLayout := { seqPieces := [r.seq], qualPieces := [r.qual], eol := [10], plus := [] }

theorem writeFastqRec_eq_layout (r : FqRec) : writeFastqRec r = layoutFastqRec r (writerLayout r) := by
  simp [writeFastqRec, layoutFastqRec, writerLayout]

theorem writeFastq_eq_layout (recs : List FqRec) :
    writeFastq recs = layoutFastq (recs.map fun r => (r, writerLayout r)) := by
  simp [writeFastq, layoutFastq, List.flatMap_map, funext writeFastqRec_eq_layout]

theorem writerLayout_ok (r : FqRec) (v : ValidFq r) : (writerLayout r).Ok r :=
  { seq_eq := by simp [writerLayout]
    qual_eq := by simp [writerLayout]
    same := rfl
    no_plus := by intro p hp; simp [writerLayout] at hp; subst hp; exact v.seq_plus
    eol := Or.inl rfl
    plus_nolf := by simp [writerLayout] }

/-- a written record followed by anything: the one-record step of `parseFastq_layout` for the writer's layout -/
theorem parseFastq_rec_append (r : FqRec) (v : ValidFq r) (X : Bytes) :
    parseFastq (writeFastqRec r ++ X) = .ok r :: parseFastq X := by
  unfold parseFastq
  rw [writeFastqRec_eq_layout, splitLines_fqRec r (writerLayout r) X v (writerLayout_ok r v), fqRecords,
    fqRead_rec r (writerLayout r) _ v (writerLayout_ok r v)]

end RbV.Fastx
