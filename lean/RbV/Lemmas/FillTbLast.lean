import RbV.Lemmas.FillTbRows
/-!
Traceback proof, fill side, part 3: the last column, which the two post-loops rewrite.

`P1 i`, `P2 i`: row `i` after the first / second post-loop.  The loop bodies by cases on `i = m`; how the values and codes of
`P1`, `P2` come from those of the main loop (`P1_s_ts`, `P1_iv_ti`, `P2_zero_fields`) and that values only grow (`P1_s_ge`,
`P2_s_ge`, `P2_iv_ge`); `finalI_succ`: the I code the second post-loop leaves; `P2_last`: in row `m` the cell is the register.
-/
namespace RbV.Model.PairwiseFill
open RbV.Align

section
variable (sc : Sc) (cl : Clip) (x y : List Nat)

/-! ### the loop bodies, by cases on `i = m` -/

theorem post1Step_lt (col : List Row) (i : Nat) (p : PSt) (hm : i ≠ x.length) {r : Row} (hr : col.getD i default = r) :
    post1Step cl x col i p =
      ⟨upd r.sn r.s, upd (upd r.sn r.s + cl.xs) p.xm, r.i, if r.sn > r.s then .ysuf else r.t.ts, r.t.ti,
        if upd r.sn r.s + cl.xs > p.xm then .xsuf else p.sm,
        if upd r.sn r.s + cl.xs > p.xm then x.length - i else p.lx⟩ := by
  subst hr
  simp only [post1Step, if_neg hm]

theorem post1Step_last (hxs : cl.xs ≤ 0) (col : List Row) (i : Nat) (p : PSt) (hm : i = x.length) {r : Row}
    (hr : col.getD i default = r) :
    post1Step cl x col i p =
      ⟨upd r.sn p.xm, upd r.sn p.xm, r.i, if r.sn > p.xm then .ysuf else p.sm, r.t.ti,
        if r.sn > p.xm then .ysuf else p.sm, p.lx⟩ := by
  subst hr
  have h : ¬ (upd (col.getD i default).sn p.xm + cl.xs > upd (col.getD i default).sn p.xm) := by omega
  simp only [post1Step, if_pos hm]
  rw [upd_of_le (Int.not_lt.mp h), if_neg h, if_neg h]

theorem post2Step_iv (s1 : List PSt) (i : Nat) (p : PSt) :
    (post2Step sc cl x s1 i p).iv =
      (if p.s + sc.go + sc.ge > (s1.getD i default).iv then p.s + sc.go + sc.ge else (s1.getD i default).iv) ∧
    (post2Step sc cl x s1 i p).ti =
      (if p.s + sc.go + sc.ge > (s1.getD i default).iv then p.ts else (s1.getD i default).ti) := by
  unfold post2Step
  dsimp only
  by_cases hm : i = x.length
  · simp only [if_pos hm]
    by_cases hc : p.s + sc.go + sc.ge > p.xm
    · rw [if_pos hc]; exact ⟨rfl, rfl⟩
    · rw [if_neg hc]; exact ⟨rfl, rfl⟩
  · simp only [if_neg hm]
    by_cases hc : p.s + sc.go + sc.ge > (s1.getD i default).s
    · rw [if_pos hc]; exact ⟨rfl, rfl⟩
    · rw [if_neg hc]; exact ⟨rfl, rfl⟩

theorem post2Step_lt (s1 : List PSt) (i : Nat) (p : PSt) (hm : i ≠ x.length) :
    ((post2Step sc cl x s1 i p).s = (if p.s + sc.go + sc.ge > (s1.getD i default).s then p.s + sc.go + sc.ge
        else (s1.getD i default).s)) ∧
    ((post2Step sc cl x s1 i p).ts = (if p.s + sc.go + sc.ge > (s1.getD i default).s then .ins
        else (s1.getD i default).ts)) ∧
    (((post2Step sc cl x s1 i p).xm = p.xm ∧ (post2Step sc cl x s1 i p).sm = p.sm ∧
        (post2Step sc cl x s1 i p).lx = p.lx) ∨
      ((post2Step sc cl x s1 i p).sm = .xsuf ∧ (post2Step sc cl x s1 i p).lx = x.length - i ∧
        (post2Step sc cl x s1 i p).xm = (post2Step sc cl x s1 i p).s + cl.xs)) := by
  unfold post2Step
  simp only [if_neg hm]
  by_cases hc : p.s + sc.go + sc.ge > (s1.getD i default).s
  · rw [if_pos hc, if_pos hc, if_pos hc]
    refine ⟨rfl, rfl, ?_⟩
    dsimp only
    unfold upd
    by_cases hd : p.s + sc.go + sc.ge + cl.xs > p.xm
    · right; rw [if_pos hd, if_pos hd, if_pos hd]; exact ⟨rfl, rfl, rfl⟩
    · left; rw [if_neg hd, if_neg hd, if_neg hd]; exact ⟨rfl, rfl, rfl⟩
  · rw [if_neg hc, if_neg hc, if_neg hc]
    exact ⟨rfl, rfl, Or.inl ⟨rfl, rfl, rfl⟩⟩

theorem post2Step_last (hxs : cl.xs ≤ 0) (s1 : List PSt) (i : Nat) (p : PSt) (hm : i = x.length) :
    (post2Step sc cl x s1 i p).lx = p.lx ∧ (post2Step sc cl x s1 i p).ts = (post2Step sc cl x s1 i p).sm ∧
    (post2Step sc cl x s1 i p).s = (post2Step sc cl x s1 i p).xm ∧
    ((post2Step sc cl x s1 i p).xm = (if p.s + sc.go + sc.ge > p.xm then p.s + sc.go + sc.ge else p.xm)) ∧
    ((post2Step sc cl x s1 i p).sm = (if p.s + sc.go + sc.ge > p.xm then .ins else p.sm)) := by
  unfold post2Step
  simp only [if_pos hm]
  have hno : ¬ (p.s + sc.go + sc.ge + cl.xs > p.s + sc.go + sc.ge) := by omega
  by_cases hc : p.s + sc.go + sc.ge > p.xm
  · simp only [if_pos hc, if_neg hno, upd_of_le (show p.s + sc.go + sc.ge + cl.xs ≤ p.s + sc.go + sc.ge by omega)]
    simp
  · simp only [if_neg hc]
    simp

/-! ### row by row -/

theorem P1_eq (i : Nat) (hi : i ≤ x.length) :
    ∃ p, P1 sc cl x y i = post1Step cl x (colAt sc cl x y y.length) i p := by
  cases i with
  | zero => exact ⟨_, P1_zero sc cl x y⟩
  | succ k => exact ⟨_, P1_succ sc cl x y k hi⟩

theorem P1_iv_ti (i : Nat) (hi : i ≤ x.length) :
    (P1 sc cl x y i).iv = (cell sc cl x y y.length i).i ∧ (P1 sc cl x y i).ti = (cell sc cl x y y.length i).t.ti := by
  obtain ⟨p, hp⟩ := P1_eq sc cl x y i hi
  rw [hp]; exact ⟨rfl, rfl⟩

/-- S cell of row `i < m` after the first post-loop -/
theorem P1_s_ts (i : Nat) (hi : i < x.length) :
    (P1 sc cl x y i).s = upd (cell sc cl x y y.length i).sn (cell sc cl x y y.length i).s ∧
    (P1 sc cl x y i).ts = (if (cell sc cl x y y.length i).sn > (cell sc cl x y y.length i).s then .ysuf
      else (cell sc cl x y y.length i).t.ts) := by
  obtain ⟨p, hp⟩ := P1_eq sc cl x y i (by omega)
  rw [hp, post1Step_lt cl x _ _ _ (by omega) rfl]
  exact ⟨rfl, rfl⟩

/-- values only grow through the post-loops -/
theorem P1_s_ge (i : Nat) (hi : i < x.length) : (cell sc cl x y y.length i).s ≤ (P1 sc cl x y i).s := by
  rw [(P1_s_ts sc cl x y i hi).1]
  unfold upd; split <;> omega

theorem P2_zero_fields :
    (P2 sc cl x y 0).s = (P1 sc cl x y 0).s ∧ (P2 sc cl x y 0).ts = (P1 sc cl x y 0).ts ∧
    (P2 sc cl x y 0).iv = (P1 sc cl x y 0).iv ∧ (P2 sc cl x y 0).ti = (P1 sc cl x y 0).ti := by
  rw [P2_zero]; exact ⟨rfl, rfl, rfl, rfl⟩

theorem P2_s_ge (i : Nat) (hi : i < x.length) : (P1 sc cl x y i).s ≤ (P2 sc cl x y i).s := by
  cases i with
  | zero => rw [(P2_zero_fields sc cl x y).1]; exact Int.le_refl _
  | succ k =>
    rw [P2_succ sc cl x y k (by omega)]
    have := (post2Step_lt sc cl x (p1L sc cl x y) (k + 1) (P2 sc cl x y k) (by omega)).1
    rw [this]
    rw [p1L_getD]
    split <;> omega

theorem P2_iv_ge (i : Nat) (hi : i ≤ x.length) : (cell sc cl x y y.length i).i ≤ (P2 sc cl x y i).iv := by
  cases i with
  | zero => rw [(P2_zero_fields sc cl x y).2.2.1, (P1_iv_ti sc cl x y 0 hi).1]; exact Int.le_refl _
  | succ k =>
    rw [P2_succ sc cl x y k hi, (post2Step_iv sc cl x _ _ _).1]
    rw [p1L_getD, (P1_iv_ti sc cl x y (k + 1) hi).1]
    split <;> omega

variable {sc cl x y} in
/-- the final I code of row `i + 1` is good for the final I value -/
theorem finalI_succ (H : SaneHyp sc cl x y)
    (i : Nat) (hi : i + 1 ≤ x.length)
    (hfin : GoodF sc cl x y i y.length (P2 sc cl x y i).ts (P2 sc cl x y i).s)
    (hmain : (finalT sc cl x y).tI (i + 1) y.length = (cell sc cl x y y.length (i + 1)).t.ti →
      GoodF sc cl x y (i + 1) y.length .ins (cell sc cl x y y.length (i + 1)).i) :
    GoodF sc cl x y (i + 1) y.length .ins (P2 sc cl x y (i + 1)).iv := by
  have hT := table_tI_n sc cl x y (i + 1)
  obtain ⟨e1, e2⟩ := post2Step_iv sc cl x (p1L sc cl x y) (i + 1) (P2 sc cl x y i)
  rw [p1L_getD, (P1_iv_ti sc cl x y (i + 1) hi).1] at e1
  rw [p1L_getD, (P1_iv_ti sc cl x y (i + 1) hi).1, (P1_iv_ti sc cl x y (i + 1) hi).2] at e2
  rw [P2_succ sc cl x y i hi] at hT
  rw [P2_succ sc cl x y i hi, e1]
  rw [e2] at hT
  by_cases hc : (P2 sc cl x y i).s + sc.go + sc.ge > (cell sc cl x y y.length (i + 1)).i
  · rw [if_pos hc] at hT ⊢
    exact good_ins_open H.go (by omega) hT hfin (Int.le_refl _)
  · rw [if_neg hc] at hT ⊢
    exact hmain hT

theorem P2_row0_ge (j : Nat) (hj : j + 1 = y.length) (hm : 0 < x.length) :
    max cl.yp (sc.go + sc.ge * ((j + 1 : Nat) : Int)) ≤ (P2 sc cl x y 0).s := by
  have h1 := cell_row0_ge (sc := sc) (cl := cl) (x := x) (y := y) j
  have h2 := P1_s_ge sc cl x y 0 hm
  have h3 := P2_s_ge sc cl x y 0 hm
  rw [← hj] at h2
  omega

/-- in row `m` the cell is the register, also after the post-loops -/
theorem P2_last (hxs : cl.xs ≤ 0) :
    (P2 sc cl x y x.length).ts = (P2 sc cl x y x.length).sm ∧ (P2 sc cl x y x.length).s = (P2 sc cl x y x.length).xm := by
  rcases Nat.eq_zero_or_pos x.length with hm0 | hm1
  · have e := post1Step_last cl x hxs (colAt sc cl x y y.length) 0
      (p1init x (colAt sc cl x y y.length)) hm0.symm rfl
    rw [hm0, P2_zero]
    simp only [p2init, hm0]
    rw [p1L_getD, P1_zero, e]
    exact ⟨rfl, rfl⟩
  · obtain ⟨i, hi⟩ : ∃ i, x.length = i + 1 := ⟨x.length - 1, by omega⟩
    obtain ⟨_, e2, e3, _, _⟩ := post2Step_last sc cl x hxs (p1L sc cl x y) (i + 1)
      (P2 sc cl x y i) hi.symm
    rw [← P2_succ sc cl x y i (by omega), ← hi] at e2 e3
    exact ⟨e2, e3⟩

end

end RbV.Model.PairwiseFill
