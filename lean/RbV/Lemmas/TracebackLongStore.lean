import RbV.Model.MyersTracebackLong
import RbV.Lemmas.MyersBlockGeom
import RbV.Basic.GetD
/-!
The states vector of the block-based Myers traceback (`long.rs: LongStatesHandler::{set_max_state, add_state}`,
`traceback.rs: Traceback::{new, add_state}`) (C10, block-based handler).  Core Lean only.

* `addColumn_getD`, `setMaxColumn_getD`: what the two writers do to the flat vector (computed blocks, sentinel block
  below them, everything else — in particular the slots further down in the same column — untouched).
* `colAt`: the `nb` slots of one column.
-/
namespace RbV.Model.MyersTracebackLong
open RbV.Model.MyersSimple (St)
open RbV.Model.MyersTraceback

/-! ### reads and writes of the flat vector -/

theorem getD_set {α : Type} (a : Array α) (i : Nat) (v d : α) (x : Nat) :
    (a.setIfInBounds i v).getD x d = if x = i ∧ i < a.size then v else a.getD x d := by
  simp only [Array.getD_setIfInBounds, eq_comm (a := x)]

theorem getD_oob {α : Type} (a : Array α) (d : α) (x : Nat) (h : a.size ≤ x) : a.getD x d = d := by
  simp [Array.getD, Nat.not_lt.mpr h]

theorem copy_size {w : Nat} (base : Nat) : ∀ (src : List (St w)) (store : Array (St w)) (i : Nat),
    (addColumn.copy base store i src).size = store.size := by
  intro src
  induction src with
  | nil => intro store i; rfl
  | cons s r ih => intro store i; simp only [addColumn.copy, ih, Array.size_setIfInBounds]

theorem copy_getD {w : Nat} (base : Nat) : ∀ (src : List (St w)) (store : Array (St w)) (i x : Nat),
    (addColumn.copy base store i src).getD x dflt =
      if base + i ≤ x ∧ x < base + i + src.length ∧ x < store.size then src.getD (x - (base + i)) dflt
      else store.getD x dflt := by
  intro src
  induction src with
  | nil =>
    intro store i x
    simp only [addColumn.copy, List.length_nil, Nat.add_zero]
    rw [if_neg (by omega)]
  | cons s r ih =>
    intro store i x
    simp only [addColumn.copy, ih, Array.size_setIfInBounds, getD_set, List.length_cons]
    by_cases hx : x = base + i
    · subst hx
      rw [if_neg (by omega)]
      by_cases hs : base + i < store.size
      · rw [if_pos ⟨rfl, hs⟩, if_pos (by omega)]
        simp
      · rw [if_neg (by omega), if_neg (by omega)]
    · by_cases hin : base + i ≤ x ∧ x < base + i + (r.length + 1) ∧ x < store.size
      · rw [if_pos (by omega), if_pos hin]
        obtain ⟨d, hd⟩ : ∃ d, x - (base + i) = d + 1 := ⟨x - (base + i) - 1, by omega⟩
        have e : x - (base + (i + 1)) = d := by omega
        rw [hd, e]
        simp
      · rw [if_neg (by omega), if_neg (by omega), if_neg hin]

theorem addColumn_size {w : Nat} (nb : Nat) (store : Array (St w)) (slot : Nat) (src : List (St w)) :
    (addColumn nb store slot src).size = store.size := by
  unfold addColumn
  split <;> simp only [Array.size_setIfInBounds, copy_size]

/-- `add_state`: the computed blocks, the sentinel block below them (if there is room), nothing else -/
theorem addColumn_getD {w : Nat} (nb : Nat) (store : Array (St w)) (slot : Nat) (src : List (St w)) (x : Nat) :
    (addColumn nb store slot src).getD x dflt =
      if slot * nb ≤ x ∧ x < slot * nb + src.length ∧ x < store.size then src.getD (x - slot * nb) dflt
      else if x = slot * nb + src.length ∧ src.length < nb ∧ x < store.size then ⟨0#w, 0#w, umax⟩
      else store.getD x dflt := by
  unfold addColumn
  simp only
  by_cases hl : src.length < nb
  · rw [if_pos hl, getD_set, copy_size, copy_getD]
    simp only [Nat.add_zero]
    by_cases h1 : slot * nb ≤ x ∧ x < slot * nb + src.length ∧ x < store.size
    · have h3 : ¬ (x = slot * nb + src.length ∧ slot * nb + src.length < store.size) := by omega
      simp only [if_pos h1, if_neg h3]
    · by_cases h2 : x = slot * nb + src.length ∧ src.length < nb ∧ x < store.size
      · have h3 : x = slot * nb + src.length ∧ slot * nb + src.length < store.size := by omega
        simp only [if_neg h1, if_pos h2, if_pos h3]
      · have h3 : ¬ (x = slot * nb + src.length ∧ slot * nb + src.length < store.size) := by omega
        simp only [if_neg h1, if_neg h2, if_neg h3]
  · rw [if_neg hl, copy_getD]
    simp only [Nat.add_zero]
    by_cases h1 : slot * nb ≤ x ∧ x < slot * nb + src.length ∧ x < store.size
    · simp only [if_pos h1]
    · have h2 : ¬ (x = slot * nb + src.length ∧ src.length < nb ∧ x < store.size) := by omega
      simp only [if_neg h1, if_neg h2]

theorem setMax_go {w : Nat} (base : Nat) : ∀ (n : Nat) (store : Array (St w)),
    ((List.range n).foldl (fun st i => st.setIfInBounds (base + i) (maxSt w umax)) store).size = store.size ∧
    ∀ x, ((List.range n).foldl (fun st i => st.setIfInBounds (base + i) (maxSt w umax)) store).getD x dflt =
      if base ≤ x ∧ x < base + n ∧ x < store.size then maxSt w umax else store.getD x dflt := by
  intro n
  induction n with
  | zero =>
    intro store
    refine ⟨rfl, fun x => ?_⟩
    simp only [List.range_zero, List.foldl_nil]
    rw [if_neg (by omega)]
  | succ n ih =>
    intro store
    obtain ⟨i1, i2⟩ := ih store
    rw [List.range_succ, List.foldl_append]
    simp only [List.foldl_cons, List.foldl_nil, Array.size_setIfInBounds, getD_set]
    refine ⟨i1, fun x => ?_⟩
    rw [i1, i2]
    by_cases hx : x = base + n ∧ base + n < store.size
    · rw [if_pos hx, if_pos (by omega)]
    · rw [if_neg hx]
      by_cases h1 : base ≤ x ∧ x < base + n ∧ x < store.size
      · rw [if_pos h1, if_pos (by omega)]
      · rw [if_neg h1, if_neg (by omega)]

theorem setMaxColumn_size {w : Nat} (nb : Nat) (store : Array (St w)) (slot : Nat) :
    (setMaxColumn nb store slot).size = store.size := (setMax_go (slot * nb) nb store).1

/-- `set_max_state`: all `nb` blocks of the column -/
theorem setMaxColumn_getD {w : Nat} (nb : Nat) (store : Array (St w)) (slot x : Nat) :
    (setMaxColumn nb store slot).getD x dflt =
      if slot * nb ≤ x ∧ x < slot * nb + nb ∧ x < store.size then maxSt w umax else store.getD x dflt :=
  (setMax_go (slot * nb) nb store).2 x

/-- the `nb` slots of column `σ` -/
def colAt {w : Nat} (nb : Nat) (store : Array (St w)) (σ : Nat) : Array (St w) :=
  store.extract (σ * nb) (σ * nb + nb)

theorem readColumn_eq {w : Nat} (nb N : Nat) (store : Array (St w)) (pos n : Nat) :
    readColumn nb N store pos n = colAt nb store (readSlot N pos n) := rfl

theorem colAt_size {w : Nat} (nb : Nat) (store : Array (St w)) (σ : Nat) (h : σ * nb + nb ≤ store.size) :
    (colAt nb store σ).size = nb := by
  unfold colAt
  rw [Array.size_extract]
  omega

theorem colAt_getD {w : Nat} (nb : Nat) (store : Array (St w)) (σ B : Nat) (h : σ * nb + nb ≤ store.size) (hB : B < nb) :
    (colAt nb store σ).getD B dflt = store.getD (σ * nb + B) dflt := by
  unfold colAt
  simp only [Array.getD_eq_getD_getElem?, Array.getElem?_extract]
  rw [if_pos (by omega)]

theorem colAt_congr {w : Nat} (nb : Nat) (x y : Array (St w)) (σ : Nat) (hx : σ * nb + nb ≤ x.size)
    (hy : σ * nb + nb ≤ y.size) (h : ∀ B, B < nb → x.getD (σ * nb + B) dflt = y.getD (σ * nb + B) dflt) :
    colAt nb x σ = colAt nb y σ := by
  apply Array.ext
  · rw [colAt_size nb x σ hx, colAt_size nb y σ hy]
  · intro i h1 h2
    rw [colAt_size nb x σ hx] at h1
    have e1 := colAt_getD nb x σ i hx h1
    have e2 := colAt_getD nb y σ i hy h1
    have := h i h1
    rw [← e1, ← e2] at this
    simpa [Array.getD, h1, h2, colAt_size nb x σ hx, colAt_size nb y σ hy] using this

theorem slot_disjoint (nb σ τ B : Nat) (hne : σ ≠ τ) (hB : B < nb) :
    ¬ (τ * nb ≤ σ * nb + B ∧ σ * nb + B < τ * nb + nb) := by
  intro ⟨h1, h2⟩
  rcases Nat.lt_or_gt_of_ne hne with hlt | hgt
  · have := succ_mul_le_of_lt σ τ nb hlt
    omega
  · have := succ_mul_le_of_lt τ σ nb hgt
    omega

theorem slot_le (nb N σ : Nat) (h : σ < N) : σ * nb + nb ≤ N * nb := succ_mul_le_of_lt σ N nb h

/-- right after `add_state` the column holds the computed blocks and, below them, the sentinel block -/
theorem addColumn_written {w : Nat} (nb : Nat) (store : Array (St w)) (slot : Nat) (src : List (St w))
    (hsz : slot * nb + nb ≤ store.size) (hl : src.length ≤ nb) :
    (∀ B, B < src.length → (addColumn nb store slot src).getD (slot * nb + B) dflt = src.getD B dflt) ∧
    (src.length < nb → (addColumn nb store slot src).getD (slot * nb + src.length) dflt = ⟨0#w, 0#w, umax⟩) := by
  constructor
  · intro B hB
    rw [addColumn_getD, if_pos (by omega)]
    congr 1; omega
  · intro hlt
    rw [addColumn_getD, if_neg (by omega), if_pos (by omega)]

theorem addColumn_other {w : Nat} (nb : Nat) (store : Array (St w)) (slot : Nat) (src : List (St w))
    (hl : src.length ≤ nb) (σ B : Nat) (hne : σ ≠ slot) (hB : B < nb) :
    (addColumn nb store slot src).getD (σ * nb + B) dflt = store.getD (σ * nb + B) dflt := by
  have hd := slot_disjoint nb σ slot B hne hB
  rw [addColumn_getD, if_neg (by omega), if_neg (by omega)]

end RbV.Model.MyersTracebackLong
