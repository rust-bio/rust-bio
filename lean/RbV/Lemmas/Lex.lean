/-! Order tools for records compared field by field: one level of a lexicographic order on `Nat` keys (`lex_total`, `lex_trans`,
`lex_antisymm`; nest them for more fields), and `max` by a Boolean order (`ite_max_comm`, `ite_max_assoc`).  Core Lean only. -/
namespace RbV

/-! one level of a lexicographic order on `Nat`-keyed records: `a < b ∨ (a = b ∧ r)`, `r` the order of the remaining fields -/

theorem lex_total {a b : Nat} {r r' : Prop} (h : r ∨ r') : (a < b ∨ (a = b ∧ r)) ∨ (b < a ∨ (b = a ∧ r')) := by
  rcases Nat.lt_trichotomy a b with hab | rfl | hab
  · exact Or.inl (Or.inl hab)
  · exact h.imp (fun hr => Or.inr ⟨rfl, hr⟩) (fun hr => Or.inr ⟨rfl, hr⟩)
  · exact Or.inr (Or.inl hab)

theorem lex_trans {a b c : Nat} {r1 r2 r3 : Prop} (h : r1 → r2 → r3) :
    (a < b ∨ (a = b ∧ r1)) → (b < c ∨ (b = c ∧ r2)) → (a < c ∨ (a = c ∧ r3)) := by
  rintro (h1 | ⟨rfl, h1⟩) (h2 | ⟨rfl, h2⟩)
  · exact Or.inl (Nat.lt_trans h1 h2)
  · exact Or.inl h1
  · exact Or.inl h2
  · exact Or.inr ⟨rfl, h h1 h2⟩

theorem lex_antisymm {a b : Nat} {r r' : Prop} : (a < b ∨ (a = b ∧ r)) → (b < a ∨ (b = a ∧ r')) → a = b ∧ r ∧ r' := by
  rintro (h1 | ⟨rfl, h1⟩) (h2 | ⟨_, h2⟩)
  · exact absurd h2 (Nat.lt_asymm h1)
  · omega
  · exact absurd h2 (Nat.lt_irrefl _)
  · exact ⟨rfl, h1, h2⟩

/-! `max` by a Boolean order that is total, transitive and antisymmetric is commutative and associative -/
section
variable {α : Type} (le : α → α → Bool) (htot : ∀ a b, le a b = true ∨ le b a = true)
include htot

theorem ite_max_comm (hanti : ∀ a b, le a b = true → le b a = true → a = b) (a b : α) :
    (if le a b then b else a) = (if le b a then a else b) := by
  by_cases h1 : le a b = true <;> by_cases h2 : le b a = true
  · rw [if_pos h1, if_pos h2]; exact (hanti a b h1 h2).symm
  · rw [if_pos h1, if_neg h2]
  · rw [if_neg h1, if_pos h2]
  · exact absurd (htot a b) (not_or.mpr ⟨h1, h2⟩)

theorem ite_max_assoc (htrans : ∀ a b c, le a b = true → le b c = true → le a c = true) (a b c : α) :
    (if le (if le a b then b else a) c then c else (if le a b then b else a))
      = (if le a (if le b c then c else b) then (if le b c then c else b) else a) := by
  have hlt : ∀ x y, ¬ le x y = true → le y x = true := fun x y h => (htot x y).resolve_left h
  by_cases h1 : le a b = true <;> by_cases h2 : le b c = true
  · rw [if_pos h1, if_pos h2, if_pos (htrans a b c h1 h2)]
  · rw [if_pos h1, if_neg h2, if_pos h1]
  · rw [if_neg h1, if_pos h2]
  · have h3 : ¬ le a c = true := fun h => h1 (htrans a c b h (hlt b c h2))
    rw [if_neg h1, if_neg h2, if_neg h3, if_neg h1]

end

end RbV
