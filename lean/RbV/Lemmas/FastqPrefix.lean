import RbV.Lemmas.Fastx
/-! Truncated FASTQ streams (C11 [B]): what the reader makes of a prefix of the writer's output. Core only. -/
namespace RbV.Fastx

/-- a header-only / sequence-only start of a record is reported as incomplete, and the stream is exhausted -/
theorem fqRecords_incomplete (l : Bytes) (ls : List Bytes) (h64 : startsWith l 64 = true)
    (hq : fqQual (fqSeq ls).2.1 (fqSeq ls).2.2.tail = ([], [])) : fqRecords (l :: ls) = [.incomplete] := by
  rw [fqRecords]
  have : fqRead l ls = (.incomplete, []) := by
    unfold fqRead
    simp [h64, hq]
  rw [this, fqRecords]

/-- the three complete lines in front of the qualities, then a (partial) quality line -/
theorem fqRecords_partial_qual (r : FqRec) (v : ValidFq r) (p : Bytes) (hp : ∀ b ∈ p, isWs b = false) (hne : p ≠ []) :
    fqRecords [64 :: hdrText r.id r.desc ++ [10], r.seq ++ [10], [43, 10], p]
      = [.ok { id := r.id, desc := r.desc, seq := r.seq, qual := p }] := by
  rw [fqRecords]
  have hs : startsWith (r.seq ++ [10]) 43 = false :=
    startsWith_piece r.seq [10] 43 v.seq_plus (by simp)
  have ht : trimEnd (r.seq ++ [10]) = r.seq := trimEnd_piece r.seq [10] v.seq_ok (Or.inl rfl)
  have htp : trimEnd p = p := by
    have := trimEnd_append_ws p [] (noTrailWs_of_all p hp) (by simp)
    simpa using this
  have hpe : p.isEmpty = false := by cases p with
    | nil => exact absurd rfl hne
    | cons b p => rfl
  have hsw : startsWith (64 :: hdrText r.id r.desc ++ [10]) 64 = true := by simp [startsWith]
  have : fqRead (64 :: hdrText r.id r.desc ++ [10]) [r.seq ++ [10], [43, 10], p]
      = (.ok { id := r.id, desc := r.desc, seq := r.seq, qual := p }, []) := by
    unfold fqRead
    simp only [hsw, Bool.not_true, Bool.false_eq_true, if_false]
    rw [fqHeader_line r.id r.desc [10] (Or.inl rfl) v.id_nows v.desc_ok]
    have h43 : startsWith [43, 10] 43 = true := rfl
    simp [fqSeq, hs, h43, ht, fqQual, htp, hpe]
  rw [this, fqRecords]

theorem writeFastqRec_eq_lines (r : FqRec) :
    writeFastqRec r = (64 :: hdrText r.id r.desc) ++ 10 :: (r.seq ++ 10 :: ([43] ++ 10 :: (r.qual ++ 10 :: []))) := by
  cases h : r.desc <;> simp [writeFastqRec, hdrText, h]

/-- **a cut inside one record**: nothing, an `IncompleteRecord` error, the complete record (only the final line feed
is missing), or a record with too short a quality string (which fails `check`) -/
theorem parseFastq_cut_rec (r : FqRec) (v : ValidFq r) (c : Nat) :
    parseFastq ((writeFastqRec r).take c) = [] ∨
    parseFastq ((writeFastqRec r).take c) = [.incomplete] ∨
    parseFastq ((writeFastqRec r).take c) = [.ok r] ∨
    ∃ r', parseFastq ((writeFastqRec r).take c) = [.ok r'] ∧ r'.check = false := by
  have hH := hdrText_nolf 64 (by decide) r.id r.desc v.id_nows v.desc_ok
  have hS : 10 ∉ r.seq := nolf_of_nows r.seq v.seq_ok
  have hQ : 10 ∉ r.qual := nolf_of_nows r.qual v.qual_ok
  have hP : 10 ∉ ([43] : Bytes) := by simp
  have hsw : startsWith (64 :: hdrText r.id r.desc ++ [10]) 64 = true := by simp [startsWith]
  have hs43 : startsWith (r.seq ++ [10]) 43 = false := startsWith_piece r.seq [10] 43 v.seq_plus (by simp)
  have h43 : startsWith [43, 10] 43 = true := rfl
  unfold parseFastq
  rw [writeFastqRec_eq_lines]
  -- 1. header line
  rcases take_line_cases (64 :: hdrText r.id r.desc) _ c with ⟨_, e1⟩ | ⟨h1, e1⟩
  · rw [e1]
    cases c with
    | zero => left; simp [splitLines, fqRecords]
    | succ c =>
      right; left
      have hne : (64 :: hdrText r.id r.desc).take (c + 1) ≠ [] := by simp
      rw [splitLines_nolf _ (nolf_take hH _) hne]
      exact fqRecords_incomplete _ _ (by simp [startsWith]) (by simp [fqSeq, fqQual])
  · rw [e1, splitLines_line _ _ hH]
    -- 2. sequence line
    rcases take_line_cases r.seq _ (c - (64 :: hdrText r.id r.desc).length - 1) with ⟨_, e2⟩ | ⟨h2, e2⟩
    · rw [e2]
      right; left
      generalize c - (64 :: hdrText r.id r.desc).length - 1 = c2
      cases c2 with
      | zero => exact fqRecords_incomplete _ _ hsw (by simp [splitLines, fqSeq, fqQual])
      | succ c2 =>
        have hne : r.seq.take (c2 + 1) ≠ [] := by
          have := v.seq_ne
          cases hs : r.seq with
          | nil => exact absurd hs this
          | cons b s => simp
        rw [splitLines_nolf _ (nolf_take hS _) hne]
        have hp : startsWith (r.seq.take (c2 + 1)) 43 = false := by
          have := v.seq_plus
          simp only [startsWith, List.head?_take]
          simp; exact this
        exact fqRecords_incomplete _ _ hsw (by simp [fqSeq, hp, fqQual])
    · rw [e2, splitLines_line _ _ hS]
      generalize c - (64 :: hdrText r.id r.desc).length - 1 - r.seq.length - 1 = c3
      -- 3. separator line
      rcases take_line_cases [43] (r.qual ++ [10]) c3 with ⟨_, e3⟩ | ⟨h3, e3⟩
      · rw [e3]
        right; left
        cases c3 with
        | zero => exact fqRecords_incomplete _ _ hsw (by simp [splitLines, fqSeq, hs43, fqQual])
        | succ c3 =>
          have : List.take (c3 + 1) ([43] : Bytes) = [43] := by simp
          rw [this, splitLines_nolf _ hP (by simp)]
          have h43' : startsWith [43] 43 = true := rfl
          exact fqRecords_incomplete _ _ hsw (by simp [fqSeq, hs43, h43', fqQual])
      · rw [e3, splitLines_line _ _ hP]
        generalize c3 - ([43] : Bytes).length - 1 = c4
        -- 4. quality line
        rcases take_line_cases r.qual [] c4 with ⟨h4, e4⟩ | ⟨_, e4⟩
        · rw [e4]
          cases c4 with
          | zero =>
            right; left
            exact fqRecords_incomplete _ _ hsw (by simp [splitLines, fqSeq, hs43, h43, fqQual])
          | succ c4 =>
            have hne : r.qual.take (c4 + 1) ≠ [] := by
              cases hq : r.qual with
              | nil => rw [hq] at h4; simp at h4
              | cons b q => simp
            rw [splitLines_nolf _ (nolf_take hQ _) hne]
            have hp : ∀ b ∈ r.qual.take (c4 + 1), isWs b = false :=
              fun b hb => v.qual_ok b (List.mem_of_mem_take hb)
            have hrec := fqRecords_partial_qual r v _ hp hne
            simp only [List.singleton_append, List.cons_append, List.nil_append] at hrec ⊢
            rw [hrec]
            rcases Nat.lt_or_ge (c4 + 1) r.qual.length with hlt | hge
            · right; right; right
              refine ⟨_, rfl, ?_⟩
              have hl := v.qual_len
              simp only [FqRec.check, List.length_take, Bool.and_eq_false_imp]
              intro _
              simp; omega
            · right; right; left
              rw [List.take_of_length_le hge]
        · rw [e4]
          right; right; left
          have := parseFastq_rec_append r v []
          unfold parseFastq at this
          rw [writeFastqRec_eq_lines] at this
          simp only [List.append_nil, List.take_nil, splitLines, fqRecords] at this ⊢
          have hl := splitLines_line r.qual [] hQ
          simp only [splitLines] at hl
          rw [hl]
          rw [splitLines_line _ _ hH, splitLines_line _ _ hS, splitLines_line _ _ hP, hl] at this
          simpa [fqRecords] using this

end RbV.Fastx
