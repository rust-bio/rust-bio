import RbV.Lemmas.FillComplete
/-!
The two loops over the last column on the completeness side: `score_complete` — the reported score dominates every
alignment of every sub-range pair, all four clip penalties charged.
-/
namespace RbV.Model.PairwiseFill
open RbV.Align

/-- a sequence that never falls from one index to the next, up to `m`, is below its value at `m` -/
theorem le_of_forall_le_succ (f : Nat → Int) (m : Nat) (h : ∀ i, i + 1 ≤ m → f i ≤ f (i + 1)) (i : Nat) (hi : i ≤ m) :
    f i ≤ f m := by
  obtain ⟨d, rfl⟩ := Nat.exists_eq_add_of_le hi
  induction d with
  | zero => exact Int.le_refl _
  | succ d ih =>
    have := ih (fun k hk => h k (by omega)) (by omega)
    have := h (i + d) (by omega)
    rw [← Nat.add_assoc]
    omega

section
variable {sc : Sc} {cl : Clip} {x y : List Nat}

/-- in row `m` the cell is the register -/
private theorem cell_xm_eq_s' (j i : Nat) (hi : i = x.length) :
    (cell sc cl x y j i).xm = (cell sc cl x y j i).s := by
  cases j with
  | zero =>
    cases i with
    | zero => rw [cell_zero_zero]; simp [row00, ← hi]
    | succ k => rw [cell_zero_succ _ _ _ _ k (by omega), step0_eq]; simp [hi]
  | succ j =>
    cases i with
    | zero => rw [cell_succ_zero, rowJ0_eq]; simp [← hi]
    | succ k => rw [cell_succ_succ _ _ _ _ j k (by omega), stepJ_eq]; simp [hi]

variable (sc cl x y) in
theorem cell_xm_eq_s (j : Nat) : (cell sc cl x y j x.length).xm = (cell sc cl x y j x.length).s :=
  cell_xm_eq_s' j x.length rfl

/-! ### first post-loop -/

theorem post1Step_facts (hxs : cl.xs ≤ 0) (col : List Row) (i : Nat) (p0 : PSt) :
    let p := post1Step cl x col i p0
    p0.xm ≤ p.xm ∧ p.s + cl.xs ≤ p.xm ∧ (col.getD i default).sn ≤ p.s ∧
      (i < x.length → (col.getD i default).s ≤ p.s) ∧ (i = x.length → p0.xm ≤ p.s ∧ p.s ≤ p.xm) := by
  rw [post1Step_eq]
  dsimp only
  by_cases hm : i = x.length
  · simp only [if_pos hm]
    refine ⟨by omega, by omega, by omega, by omega, fun _ => ⟨by omega, by omega⟩⟩
  · simp only [if_neg hm]
    refine ⟨by omega, by omega, by omega, fun _ => by omega, fun h => absurd h hm⟩

theorem post1_xm_mono (hxs : cl.xs ≤ 0) (i : Nat) (hi : i + 1 ≤ x.length) :
    (P1 sc cl x y i).xm ≤ (P1 sc cl x y (i + 1)).xm := by
  rw [P1_succ sc cl x y i hi]
  exact (post1Step_facts hxs _ _ _).1

theorem p1_inv (hxs : cl.xs ≤ 0) : ∀ i, i ≤ x.length →
    (cell sc cl x y y.length x.length).xm ≤ (P1 sc cl x y i).xm ∧ (P1 sc cl x y i).s + cl.xs ≤ (P1 sc cl x y i).xm ∧
      (cell sc cl x y y.length i).sn ≤ (P1 sc cl x y i).s ∧
      (i < x.length → (cell sc cl x y y.length i).s ≤ (P1 sc cl x y i).s) ∧
      (i = x.length → (cell sc cl x y y.length x.length).xm ≤ (P1 sc cl x y i).s ∧ (P1 sc cl x y i).s ≤ (P1 sc cl x y i).xm) := by
  intro i
  induction i with
  | zero =>
    intro _
    rw [P1_zero]
    exact post1Step_facts (x := x) hxs (colAt sc cl x y y.length) 0 (p1init x (colAt sc cl x y y.length))
  | succ i ih =>
    intro hi
    obtain ⟨g1, _⟩ := ih (by omega)
    rw [P1_succ sc cl x y i hi]
    have := post1Step_facts (x := x) hxs (colAt sc cl x y y.length) (i + 1) (P1 sc cl x y i)
    dsimp only at this
    obtain ⟨h1, h2, h3, h4, h5⟩ := this
    exact ⟨by omega, h2, h3, h4, fun e => ⟨by have := (h5 e).1; omega, (h5 e).2⟩⟩

/-- after the first post-loop the register dominates every row of the last column, with its own value or with what
`Sn` tracked, `xclip_suffix` charged below row `m` -/
theorem p1_final (hxs : cl.xs ≤ 0) (i : Nat) (hi : i ≤ x.length) :
    max (cell sc cl x y y.length i).s (cell sc cl x y y.length i).sn + (if i < x.length then cl.xs else 0) ≤
      (P1 sc cl x y x.length).xm := by
  have hmono := le_of_forall_le_succ (fun i => (P1 sc cl x y i).xm) x.length (post1_xm_mono hxs) i hi
  obtain ⟨h1, h2, h3, h4, h5⟩ := p1_inv (sc := sc) (cl := cl) (x := x) (y := y) hxs i hi
  by_cases hm : i = x.length
  · subst hm
    have := cell_xm_eq_s sc cl x y y.length
    have := h5 rfl
    simp only [Nat.lt_irrefl, if_false]
    omega
  · have := h4 (by omega)
    simp only [show i < x.length by omega, if_true]
    omega

/-! ### second post-loop: the register only grows -/

theorem post2Step_xm (s1 : List PSt) (i : Nat) (p : PSt) : p.xm ≤ (post2Step sc cl x s1 i p).xm := by
  unfold post2Step
  dsimp only
  by_cases hm : i = x.length
  · simp only [if_pos hm, upd_eq_max]
    split <;> dsimp only <;> omega
  · simp only [if_neg hm, upd_eq_max]
    split <;> dsimp only <;> omega

theorem p2_final : (P1 sc cl x y x.length).xm ≤ (fill sc cl x y).score := by
  rw [fill_score]
  have hmono := le_of_forall_le_succ (fun i => (P2 sc cl x y i).xm) x.length
    (fun k hk => by rw [P2_succ sc cl x y k hk]; exact post2Step_xm _ _ _) 0 (Nat.zero_le _)
  rw [P2_zero] at hmono
  exact hmono

/-- **completeness**: the reported score dominates the value of every alignment of every pair of sub-ranges -/
theorem score_complete (hge : sc.ge ≤ 0) (hxs : cl.xs ≤ 0) (xs xe ys ye : Nat) (ops : List Op) (c : Int)
    (h1 : xs ≤ xe) (h2 : xe ≤ x.length) (h3 : ys ≤ ye) (h4 : ye ≤ y.length)
    (hsc : score sc .none (slice x xs xe) (slice y ys ye) ops = some c) :
    c + clipPen cl x.length y.length xs xe ys ye ≤ (fill sc cl x y).score := by
  have hcc := cc_all (sc := sc) (cl := cl) (x := x) (y := y) hge hxs y.length (Nat.le_refl _) xe h2
  have hp1 := p1_final (sc := sc) (cl := cl) (x := x) (y := y) hxs xe h2
  have hp2 := p2_final (sc := sc) (cl := cl) (x := x) (y := y)
  have hcell : c + pre cl xs ys + (if ye < y.length then cl.ys else 0) ≤
      max (cell sc cl x y y.length xe).s (cell sc cl x y y.length xe).sn := by
    by_cases hy : ye = y.length
    · subst hy
      have := hcc.S xs ys ops c h1 h3 hsc nofun nofun
      simp only [Nat.lt_irrefl, if_false]
      omega
    · have := hcc.Sn xs ys ye ops c h1 h3 h4 (by omega) hsc
      simp only [show ye < y.length by omega, if_true]
      omega
  have e := clipPen_eq_pre cl x.length y.length xs xe ys ye
  omega

end

end RbV.Model.PairwiseFill
