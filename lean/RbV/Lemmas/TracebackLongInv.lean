import RbV.Lemmas.TracebackLongGeom
/-!
The invariant of the block-based traceback handler (`long.rs: LongTracebackHandler`) along the walk of a hit, and its
three tests (C10, block-based handler).  Core Lean only.

`ColFacts`: what the search leaves in the slots of one column (C09's band invariant seen block by block): the first
`L` blocks encode a pseudo-column `P ≥` true column that is exact wherever the true value is `≤ k`, all rows below these
blocks are `> k`, block `L` (if there is one) is the sentinel `dist = usize::MAX, pv = mv = 0`; slots further down are
unconstrained (stale).  `StoredL`: all columns a traceback from sequence number `q` can reach.  `BCur`: a cached copy of a stored block
whose distance stands at a given row (both cursors of the handler are such); `LInvC`: the handler with its cursor at a cell of value
`≤ k`.  `StoredL.whole`, `StoredL.up`: a whole block, and a block cursor moved up one row by `adjust_dist`, hold the true value.
-/
namespace RbV.Model.MyersTracebackLong
open RbV.Model.MyersSimple (St)
open RbV.Model.MyersTraceback

/-- one stored column of the block-based search; `Dj` = the true Sellers column -/
structure ColFacts {w : Nat} (nb m k : Nat) (Dj : Nat → Nat) (col : Array (St w)) (L : Nat) (P : Nat → Int) : Prop where
  hL1 : 1 ≤ L
  hLn : L ≤ nb
  enc : ∀ B, B < L → VEnc (lenB w nb m B) (fun i => P (B * w + i)) (col.getD B dflt).pv (col.getD B dflt).mv ∧
    ((col.getD B dflt).dist : Int) = P (B * w + lenB w nb m B)
  sent : L < nb → col.getD L dflt = ⟨0#w, 0#w, umax⟩
  ge : ∀ r, r ≤ rowsL w nb m L → (Dj r : Int) ≤ P r
  ex : ∀ r, r ≤ rowsL w nb m L → Dj r ≤ k → P r = (Dj r : Int)
  out : ∀ r, rowsL w nb m L < r → r ≤ m → k < Dj r

/-- the stored columns and the iterator, for a traceback that starts at sequence number `q` (matrix column `q − 1`);
`lo` = smallest sequence number that can still be read -/
structure StoredL {w : Nat} (nb m k q lo : Nat) (D : Nat → Nat → Nat) (S : Nat → Array (St w))
    (rd : Nat → Array (St w)) : Prop where
  geo : Geo w nb m
  small : m + 2 * w + 2 ≤ umax
  col0 : ∀ i, i ≤ m → D i 0 = i
  bound : ∀ i j, i ≤ m → j < q → D i j ≤ m
  diag : ∀ i j, i < m → j + 1 < q → D i j ≤ D (i + 1) (j + 1)
  vert : ∀ i j, i < m → j < q → D (i + 1) j ≤ D i j + 1 ∧ D i j ≤ D (i + 1) j + 1
  size : ∀ s, s ≤ q → (S s).size = nb
  guard : ∀ B, B < nb → (S 0).getD B dflt = maxSt w umax
  cols : ∀ j, j < q → ∃ L P, ColFacts nb m k (fun r => D r j) (S (j + 1)) L P
  rd : ∀ n, n + lo ≤ q → rd n = S (q - n)

/-! ### two generic facts -/

theorem arr_get?_of_lt {α : Type} (arr : Array α) (i : Nat) (d : α) (hlt : i < arr.size) :
    arr[i]? = some (arr.getD i d) := by
  simp [Array.getD, hlt]

/-- the result `(flag, handler)` of a test whose bit tells `P` -/
theorem flag_shape {H : Type} {bit : Bool} {P : Prop} [Decidable P] (hkey : bit = true ↔ P) (h h' : H) (r : Bool × H)
    (hr : r = if bit = true then (true, h') else (false, h)) :
    r.1 = decide P ∧ (r.1 = false → r.2 = h) ∧ (r.1 = true → r.2 = h') := by
  subst hr
  cases bit
  · exact ⟨(decide_eq_false (fun hc => Bool.false_ne_true (hkey.mpr hc))).symm, fun _ => rfl,
      fun hc => absurd hc Bool.false_ne_true⟩
  · exact ⟨(decide_eq_true (hkey.mp rfl)).symm, fun hc => absurd hc.symm Bool.false_ne_true, fun _ => rfl⟩

/-! ### exactness of the cells the walk looks at -/

section
variable {w nb m k : Nat} {Dj : Nat → Nat} {col : Array (St w)} {L : Nat} {P : Nat → Int}

/-- a cell of value `≤ k` lies in a computed block and is stored exactly -/
theorem ColFacts.exact (cf : ColFacts nb m k Dj col L P) (r : Nat) (hr : r ≤ m) (hk : Dj r ≤ k) :
    r ≤ rowsL w nb m L ∧ P r = (Dj r : Int) := by
  have h1 : r ≤ rowsL w nb m L := by
    apply Nat.le_of_not_lt
    intro h
    have := cf.out r h hr
    omega
  exact ⟨h1, cf.ex r h1 hk⟩

/-- … and so is the cell above it -/
theorem ColFacts.exact_up (cf : ColFacts nb m k Dj col L P) (g : Geo w nb m)
    (hv : ∀ i, i < m → Dj (i + 1) ≤ Dj i + 1 ∧ Dj i ≤ Dj (i + 1) + 1)
    (B b : Nat) (hB : B < nb) (hb : b < lenB w nb m B) (hk : Dj (B * w + b + 1) ≤ k) :
    B < L ∧ P (B * w + b + 1) = (Dj (B * w + b + 1) : Int) ∧ P (B * w + b) = (Dj (B * w + b) : Int) := by
  have hend := g.block_end_le B hB
  obtain ⟨h1, h2⟩ := cf.exact (B * w + b + 1) (by omega) hk
  have hBL : B < L := (g.row_in_iff B b L hB hb).mp h1
  refine ⟨hBL, h2, ?_⟩
  have hd := (cf.enc B hBL).1.diff b hb
  rw [← Nat.add_assoc, h2] at hd
  have hge := cf.ge (B * w + b) (by omega)
  have hvv := hv (B * w + b) (by omega)
  by_cases hkk : Dj (B * w + b) ≤ k
  · exact cf.ex _ (by omega) hkk
  · omega

/-- the `mv` bit below an exact cell of value `≤ k` tells the truth -/
theorem ColFacts.down (cf : ColFacts nb m k Dj col L P) (g : Geo w nb m)
    (hv : ∀ i, i < m → Dj (i + 1) ≤ Dj i + 1 ∧ Dj i ≤ Dj (i + 1) + 1)
    (B b : Nat) (hB : B < nb) (hb : b < lenB w nb m B) (hBL : B < L) (hk : Dj (B * w + b) ≤ k) :
    ((col.getD B dflt).mv.getLsbD b = true ↔ Dj (B * w + b + 1) + 1 = Dj (B * w + b)) := by
  have hend := g.block_end_le B hB
  have h1 : B * w + b + 1 ≤ rowsL w nb m L := (g.row_in_iff B b L hB hb).mpr hBL
  have hd := (cf.enc B hBL).1.diff b hb
  have hm := (cf.enc B hBL).1.mvb b hb
  rw [← Nat.add_assoc] at hd hm
  rw [hm]
  have hx := cf.ex (B * w + b) (by omega) hk
  have hge := cf.ge (B * w + b + 1) h1
  have hvv := hv (B * w + b) (by omega)
  rw [hx]
  constructor
  · intro h; omega
  · intro h
    have := cf.ex (B * w + b + 1) h1 (by omega)
    omega

end

/-! ### the handler invariant -/

/-- right cursor: row index `i'` = bit `b` of block `B` -/
structure RGeo {w : Nat} (nb m : Nat) (i' B b : Nat) (h : LHandler w) : Prop where
  hB : B < nb
  hb : b < lenB w nb m B
  hrow : i' = B * w + b
  blockPos : h.blockPos = B
  pos : h.pos = BitVec.twoPow w b

/-- left (diagonal) cursor: global row `i'` = local row `a` of block `BL`; the range mask covers local rows `a..len−1` -/
structure LGeo {w : Nat} (nb m : Nat) (i' BL a : Nat) (h : LHandler w) : Prop where
  hBL : BL < nb
  ha : a ≤ lenB w nb m BL
  ha1 : BL = 0 ∨ 1 ≤ a
  hrowL : i' = BL * w + a
  leftBlockPos : h.leftBlockPos = BL
  lmax : h.leftMaxMask = BitVec.twoPow w (lenB w nb m BL - 1)
  lmask : ∀ x, h.leftMask.getLsbD x = decide (a ≤ x ∧ x < lenB w nb m BL)

/-- `blk` is a copy of block `B` of the stored column with sequence number `s` whose `dist` has been moved to local row `x`: it is the
value of row `ρ` (`= B·w + x`) of matrix column `s − 1`; in the guard column (`s = 0`) it is `umax − (len − x)` -/
structure BCur {w : Nat} (nb m : Nat) (D : Nat → Nat → Nat) (S : Nat → Array (St w)) (s B x ρ : Nat) (blk : St w) : Prop where
  pv : blk.pv = ((S s).getD B dflt).pv
  mv : blk.mv = ((S s).getD B dflt).mv
  dist : 1 ≤ s → blk.dist = D ρ (s - 1)
  dist0 : s = 0 → blk.dist + (lenB w nb m B - x) = umax

/-- the handler with its cursor at row `i' + 1` of matrix column `j` (a cell of value `≤ k`): right cursor = bit `b` of
block `B`, left (diagonal) cursor = local row `a` of block `BL` in the left column -/
structure LInvC {w : Nat} (nb m k q : Nat) (D : Nat → Nat → Nat) (S : Nat → Array (St w)) (i' j B b BL a : Nat)
    (h : LHandler w) : Prop where
  hi : i' < m
  hj : j < q
  hk : D (i' + 1) j ≤ k
  rg : RGeo nb m i' B b h
  lg : LGeo nb m i' BL a h
  col : h.col = S (j + 1)
  leftCol : h.leftCol = S j
  cur : BCur nb m D S (j + 1) B (b + 1) (i' + 1) h.block
  left : BCur nb m D S j BL a i' h.leftBlock
  taken : h.taken = q - j + 1

/-- `LInvC` (the invariant with the block coordinates named) for some coordinates -/
def LInv {w : Nat} (nb m k q : Nat) (D : Nat → Nat → Nat) (S : Nat → Array (St w)) (i' j : Nat) (h : LHandler w) : Prop :=
  ∃ B b BL a, LInvC nb m k q D S i' j B b BL a h

/-- cursor at row `i` of column `j`; row 0 = finished -/
def LInvAny {w : Nat} (nb m k q : Nat) (D : Nat → Nat → Nat) (S : Nat → Array (St w)) (i j : Nat) (h : LHandler w) : Prop :=
  match i with
  | 0 => h.pos = 0#w ∧ h.blockPos = 0
  | i' + 1 => LInv nb m k q D S i' j h

section
variable {w nb m k q lo : Nat} {D : Nat → Nat → Nat} {S : Nat → Array (St w)} {rd : Nat → Array (St w)}
  {i' j B b BL a : Nat} {h : LHandler w}

theorem LInvC.bdist (inv : LInvC nb m k q D S i' j B b BL a h) : h.block.dist = D (i' + 1) j :=
  inv.cur.dist (Nat.succ_pos j)

theorem LInvC.rd_taken (st : StoredL nb m k q lo D S rd) {j0 : Nat}
    (inv : LInvC nb m k q D S i' (j0 + 1) B b BL a h) (hlo : lo + 1 ≤ j0 + 1) : rd h.taken = S j0 := by
  have hj := inv.hj
  rw [inv.taken, st.rd _ (by omega)]
  congr 1; omega

theorem LInvC.cases (st : StoredL nb m k q lo D S rd) (inv : LInvC nb m k q D S i' j B b BL a h) :
    (BL = B ∧ a = b) ∨ (b = 0 ∧ B = BL + 1 ∧ a = w) := by
  have h1 := st.geo.len_le B
  have h2 := st.geo.len_le BL
  exact cursor_cases w B b BL a (by have := inv.rg.hb; omega) (by have := inv.lg.ha; omega)
    (by rw [← inv.rg.hrow, ← inv.lg.hrowL])

theorem LInvC.diag_le (st : StoredL nb m k q lo D S rd) (inv : LInvC nb m k q D S i' j B b BL a h) (hj1 : 1 ≤ j) :
    D i' (j - 1) ≤ k := by
  obtain ⟨j', rfl⟩ := Nat.exists_eq_add_of_le' hj1
  have := st.diag i' j' inv.hi inv.hj
  have := inv.hk
  simp only [Nat.add_sub_cancel]
  omega

/-- test 1: `left.dist.wrapping_add(1) == block.dist` ⇔ diagonal value + 1 = current value (never at column 0) -/
theorem testL_subst (st : StoredL nb m k q lo D S rd) (inv : LInvC nb m k q D S i' j B b BL a h) :
    ((h.leftBlock.dist + 1) % (umax + 1) = h.block.dist) ↔ (j ≥ 1 ∧ D i' (j - 1) + 1 = D (i' + 1) j) := by
  have hs := inv.bdist
  have hsm := st.small
  have hi := inv.hi
  have hbd := st.bound (i' + 1) j (by omega) inv.hj
  cases j with
  | zero =>
    have hl := inv.left.dist0 rfl
    have hlen := st.geo.len_le BL
    have hc := st.col0 (i' + 1) (by omega)
    by_cases hz : lenB w nb m BL - a = 0
    · have : h.leftBlock.dist + 1 = umax + 1 := by omega
      rw [this, Nat.mod_self]
      omega
    · rw [Nat.mod_eq_of_lt (by omega)]
      omega
  | succ j' =>
    have hl := inv.left.dist (by omega)
    simp only [Nat.add_sub_cancel] at hl ⊢
    have hb := st.bound i' j' (by omega) (by have := inv.hj; omega)
    rw [Nat.mod_eq_of_lt (by omega)]
    omega

/-- test 2: `block.pv & pos != 0` ⇔ upper value + 1 = current value -/
theorem testL_ins (st : StoredL nb m k q lo D S rd) (inv : LInvC nb m k q D S i' j B b BL a h) :
    ((h.block.pv &&& h.pos) != 0#w) = decide (D i' j + 1 = D (i' + 1) j) := by
  obtain ⟨L, P, cf⟩ := st.cols j inv.hj
  have hlw := st.geo.len_le B
  have hb := inv.rg.hb
  have hk := inv.hk
  have hrow := inv.rg.hrow
  subst hrow
  obtain ⟨hBL, e1, e0⟩ := cf.exact_up st.geo (fun i hi => st.vert i j hi inv.hj) B b inv.rg.hB hb hk
  rw [inv.rg.pos, test_twoPow _ b (by omega), inv.cur.pv]
  have hp := (cf.enc B hBL).1.pvb b hb
  rw [← Nat.add_assoc, e1, e0] at hp
  rw [Bool.eq_iff_iff, hp]
  simp only [decide_eq_true_eq]
  omega

end

/-! ### the block under a cursor -/

/-- block `BL` of the stored column with sequence number `j` encodes the local column `CL`: exact wherever the value in
matrix column `j − 1` is `≤ k`; for `j = 0` it is a block of the guard column -/
structure BlockEnc {w : Nat} (nb m k : Nat) (D : Nat → Nat → Nat) (j BL : Nat) (blk : St w) (CL : Nat → Int) : Prop where
  enc : VEnc (lenB w nb m BL) CL blk.pv blk.mv
  dist : (blk.dist : Int) = CL (lenB w nb m BL)
  exact : ∀ j1, j = j1 + 1 → ∀ x, x ≤ lenB w nb m BL → D (BL * w + x) j1 ≤ k → CL x = (D (BL * w + x) j1 : Int)
  guard : j = 0 → ∀ x, CL x = (umax : Int) - lenB w nb m BL + x

namespace BlockEnc
variable {w nb m k j BL : Nat} {D : Nat → Nat → Nat} {blk : St w} {CL : Nat → Int}

/-- a number that stands at local row `x` (a row of value `≤ k`), in the form the handler invariant keeps it -/
theorem val (be : BlockEnc nb m k D j BL blk CL) {x v : Nat} (hx : x ≤ lenB w nb m BL)
    (hk : ∀ j1, j = j1 + 1 → D (BL * w + x) j1 ≤ k) (hv : (v : Int) = CL x) :
    (1 ≤ j → v = D (BL * w + x) (j - 1)) ∧ (j = 0 → v + (lenB w nb m BL - x) = umax) := by
  cases j with
  | zero =>
    rw [be.guard rfl] at hv
    exact ⟨fun h => by omega, fun _ => by omega⟩
  | succ j1 =>
    rw [be.exact j1 rfl x hx (hk j1 rfl)] at hv
    exact ⟨fun _ => by rw [Nat.add_sub_cancel]; omega, fun h => by omega⟩

theorem of_val (be : BlockEnc nb m k D j BL blk CL) {x v : Nat} (hx : x ≤ lenB w nb m BL)
    (hk : ∀ j1, j = j1 + 1 → D (BL * w + x) j1 ≤ k) (h1 : 1 ≤ j → v = D (BL * w + x) (j - 1))
    (h0 : j = 0 → v + (lenB w nb m BL - x) = umax) : (v : Int) = CL x := by
  cases j with
  | zero =>
    rw [be.guard rfl]
    have := h0 rfl
    omega
  | succ j1 =>
    rw [be.exact j1 rfl x hx (hk j1 rfl), h1 (by omega), Nat.add_sub_cancel]

theorem nonneg (be : BlockEnc nb m k D j BL blk CL) {x : Nat} (hx : x ≤ lenB w nb m BL) (hlen : lenB w nb m BL ≤ umax)
    (hk : ∀ j1, j = j1 + 1 → D (BL * w + x) j1 ≤ k) : 0 ≤ CL x := by
  cases j with
  | zero => rw [be.guard rfl]; omega
  | succ j1 => rw [be.exact j1 rfl x hx (hk j1 rfl)]; omega

end BlockEnc

section
variable {w nb m k q lo : Nat} {D : Nat → Nat → Nat} {S : Nat → Array (St w)} {rd : Nat → Array (St w)}

/-- a block of a stored column that contains a row `BL·w + a` of value `≤ k` (not merely as the upper boundary of a block
other than the first) is a computed block, or a block of the guard column -/
theorem StoredL.block_enc (st : StoredL nb m k q lo D S rd) {j BL a : Nat} (hj : j ≤ q) (hBL : BL < nb)
    (ha : a ≤ lenB w nb m BL) (ha1 : BL = 0 ∨ 1 ≤ a) (hdk : ∀ j1, j = j1 + 1 → D (BL * w + a) j1 ≤ k) :
    ∃ CL, BlockEnc nb m k D j BL ((S j).getD BL dflt) CL := by
  have hlw := st.geo.len_le BL
  have hend := st.geo.block_end_le BL hBL
  cases j with
  | zero =>
    refine ⟨fun x => (umax : Int) - lenB w nb m BL + x, ?_, ?_, fun j1 h => by omega, fun _ _ => rfl⟩
    · rw [st.guard BL hBL]; exact guard_enc umax _ hlw
    · rw [st.guard BL hBL]; simp only [maxSt]; omega
  | succ j' =>
    obtain ⟨L, P, cf⟩ := st.cols j' (by omega)
    obtain ⟨h1, _⟩ := cf.exact (BL * w + a) (by omega) (hdk j' rfl)
    have hBLL : BL < L := by
      rcases ha1 with h0 | h1'
      · have := cf.hL1; omega
      · exact (st.geo.lrow_in_iff BL a L hBL h1' ha).mp h1
    refine ⟨fun x => P (BL * w + x), (cf.enc BL hBLL).1, (cf.enc BL hBLL).2, ?_, fun h => by omega⟩
    intro j1 hj1 x hx hk
    obtain rfl : j' = j1 := by omega
    exact (cf.exact (BL * w + x) (by omega) hk).2

theorem StoredL.len_le_umax (st : StoredL nb m k q lo D S rd) (BL : Nat) : lenB w nb m BL ≤ umax := by
  have := st.geo.len_le BL
  have := st.small
  omega

/-- a whole block whose last row `ρ` has a value `≤ k`: its own distance is the value there -/
theorem StoredL.whole (st : StoredL nb m k q lo D S rd) {j BL ρ : Nat} (hj : j ≤ q) (hBL : BL < nb)
    (hρ : ρ = BL * w + lenB w nb m BL) (hdk : ∀ j1, j = j1 + 1 → D ρ j1 ≤ k) :
    BCur nb m D S j BL (lenB w nb m BL) ρ ((S j).getD BL dflt) := by
  subst hρ
  obtain ⟨CL, be⟩ := st.block_enc hj hBL (Nat.le_refl _) (Or.inr (st.geo.len_pos BL)) hdk
  have v := be.val (Nat.le_refl _) hdk be.dist
  exact ⟨rfl, rfl, v.1, v.2⟩

/-- the distance of a block cursor in terms of the local column its block encodes -/
theorem BCur.enc_dist {j BL x : Nat} {lb : St w} (c : BCur nb m D S j BL x (BL * w + x) lb) (hx : x ≤ lenB w nb m BL)
    (hk : ∀ j1, j = j1 + 1 → D (BL * w + x) j1 ≤ k) :
    ∀ CL, BlockEnc nb m k D j BL ((S j).getD BL dflt) CL → (lb.dist : Int) = CL x :=
  fun _ be => be.of_val hx hk c.dist c.dist0

/-- `adjust_dist(1 << a)` on a copy `lb` of block `BL` whose distance stands at local row `a + 1` moves it to local row `a`
(global row `ρ`, a row of value `≤ k`) -/
theorem StoredL.up (st : StoredL nb m k q lo D S rd) {j BL a ρ : Nat} (hj : j ≤ q) (hBL : BL < nb)
    (ha : a < lenB w nb m BL) (ha1 : BL = 0 ∨ 1 ≤ a) (hρ : ρ = BL * w + a) (hdk : ∀ j1, j = j1 + 1 → D ρ j1 ≤ k)
    (lb : St w) (hpv : lb.pv = ((S j).getD BL dflt).pv) (hmv : lb.mv = ((S j).getD BL dflt).mv)
    (hd : ∀ CL, BlockEnc nb m k D j BL ((S j).getD BL dflt) CL → (lb.dist : Int) = CL (a + 1)) :
    BCur nb m D S j BL a ρ (adjustDist lb (BitVec.twoPow w a)) := by
  subst hρ
  obtain ⟨CL, be⟩ := st.block_enc hj hBL (Nat.le_of_lt ha) ha1 hdk
  have encL : VEnc (lenB w nb m BL) CL lb.pv lb.mv := by rw [hpv, hmv]; exact be.enc
  have sp := adjustDist_spec CL lb a ha (st.geo.len_le BL) encL (hd CL be)
    (be.nonneg (Nat.le_of_lt ha) (st.len_le_umax BL) hdk)
  have v := be.val (Nat.le_of_lt ha) hdk sp.2.2
  exact ⟨by rw [sp.1, hpv], by rw [sp.2.1, hmv], v.1, v.2⟩

variable {i' j B b BL a : Nat} {h : LHandler w}

/-- test 3, `move_left_down_if_better`: true ⇔ left value + 1 = diagonal value (never at column 0, never into the sentinel
block); when true, the left block becomes the block under the right cursor's row in the left column with the left value -/
theorem testL_del (st : StoredL nb m k q lo D S rd) (inv : LInvC nb m k q D S i' j B b BL a h) :
    h.moveLeftDownIfBetter.1 = decide (j ≥ 1 ∧ D (i' + 1) (j - 1) + 1 = D i' (j - 1)) ∧
    (h.moveLeftDownIfBetter.1 = false → h.moveLeftDownIfBetter.2 = h) ∧
    (h.moveLeftDownIfBetter.1 = true → ∃ blk, h.moveLeftDownIfBetter.2 = { h with leftBlock := blk } ∧
      blk.pv = ((S j).getD B dflt).pv ∧ blk.mv = ((S j).getD B dflt).mv ∧ blk.dist = h.leftBlock.dist - 1) := by
  have hlwB := st.geo.len_le B
  have hlwBL := st.geo.len_le BL
  have hw := st.geo.hw
  have hb := inv.rg.hb
  have hrow := inv.rg.hrow
  have hi := inv.hi
  -- the truth of the test bit, for the block `B` of the left column and bit `b`
  have key : B = BL + 1 ∨ B = BL → B < nb →
      (((S j).getD B dflt).mv.getLsbD b = true ↔ (j ≥ 1 ∧ D (i' + 1) (j - 1) + 1 = D i' (j - 1))) := by
    intro hBB hBn
    cases j with
    | zero =>
      rw [st.guard B hBn]
      simp [maxSt]
    | succ j' =>
      obtain ⟨L, P, cf⟩ := st.cols j' (by have := inv.hj; omega)
      have hdk := inv.diag_le st (by omega)
      simp only [Nat.add_sub_cancel] at hdk ⊢
      obtain ⟨h1, h2⟩ := cf.exact i' (by omega) hdk
      have hv : ∀ i, i < m → D (i + 1) j' ≤ D i j' + 1 ∧ D i j' ≤ D (i + 1) j' + 1 :=
        fun i hi' => st.vert i j' hi' (by have := inv.hj; omega)
      by_cases hBL : B < L
      · have := cf.down st.geo hv B b hBn hb hBL (by rw [← hrow]; exact hdk)
        rw [← hrow] at this
        rw [this]
        constructor
        · intro h'; exact ⟨by omega, h'⟩
        · intro h'; exact h'.2
      · -- the block is the sentinel
        have hBeq : B = L := by
          rcases inv.cases st with ⟨e1, e2⟩ | ⟨e1, e2, e3⟩
          · -- same block: the diagonal row is inside the computed blocks, so `B < L`
            exfalso
            apply hBL
            rcases inv.lg.ha1 with h0 | h1'
            · have := cf.hL1; omega
            · have hrl := inv.lg.hrowL
              rw [hrl] at h1
              have := (st.geo.lrow_in_iff BL a L inv.lg.hBL h1' inv.lg.ha).mp h1
              omega
          · have hrl := inv.lg.hrowL
            rw [hrl] at h1
            have := (st.geo.lrow_in_iff BL a L inv.lg.hBL (by omega) inv.lg.ha).mp h1
            omega
        have hs := cf.sent (by omega)
        rw [hBeq, hs]
        have hrows : rowsL w nb m L < i' + 1 := by
          apply Nat.lt_of_not_le
          intro hle
          rw [hrow] at hle
          have := (st.geo.row_in_iff B b L hBn hb).mp hle
          omega
        have := cf.out (i' + 1) hrows (by omega)
        simp only [BitVec.getLsbD_zero, Bool.false_eq_true, false_iff]
        omega
  unfold LHandler.moveLeftDownIfBetter
  rcases inv.cases st with ⟨e1, e2⟩ | ⟨e1, e2, e3⟩
  · -- left cursor inside the block of the right cursor
    subst e1 e2
    have hm : (h.leftMask != 0#w) = true := by
      rw [mask_ne_zero h.leftMask a _ inv.lg.lmask]; simp; exact hb
    have ht : ((h.leftBlock.mv &&& h.pos) != 0#w) = ((S j).getD BL dflt).mv.getLsbD a := by
      rw [inv.rg.pos, test_twoPow _ a (by omega), inv.left.mv]
    have hkey := key (Or.inr rfl) inv.rg.hB
    rw [if_pos hm, ht]
    obtain ⟨f1, f2, f3⟩ := flag_shape hkey h _ _ rfl
    exact ⟨f1, f2, fun hc => ⟨_, f3 hc, inv.left.pv, inv.left.mv, rfl⟩⟩
  · -- left cursor at the lower boundary of the block above
    subst e1 e2
    have hlen : lenB w nb m BL = w := lenB_inner BL (by have := inv.rg.hB; omega)
    have hm : (h.leftMask != 0#w) = false := by
      rw [mask_ne_zero h.leftMask a _ inv.lg.lmask]; simp; omega
    have hget : h.leftCol[h.leftBlockPos + 1]? = some ((S j).getD (BL + 1) dflt) := by
      rw [inv.leftCol, inv.lg.leftBlockPos]
      apply arr_get?_of_lt
      rw [st.size j (by have := inv.hj; omega)]
      exact inv.rg.hB
    have hkey := key (Or.inl rfl) inv.rg.hB
    rw [hm, if_neg Bool.false_ne_true, hget]
    dsimp only
    rw [bit0_test (by omega)]
    obtain ⟨f1, f2, f3⟩ := flag_shape hkey h _ _ rfl
    exact ⟨f1, f2, fun hc => ⟨_, f3 hc, rfl, rfl, rfl⟩⟩

end

end RbV.Model.MyersTracebackLong
