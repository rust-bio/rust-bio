import RbV.Lemmas.MyersStep
/-!
What every proof about the block-based Myers matcher (C09 [C]) rests on, in this order: `rows` and `ColEnc` (the active blocks
encode a column) with their lemmas; the match bits of a text symbol; the carry chain (`advance_block` over the active blocks of a
column computes the next Sellers column on their rows: `advanceAll_enc`); `States::step` in normal form (`stepStates_eq`); the
layout of the blocks of a pattern (`chunks_layout` is the induction, `blocksOf_layout` the form for users; `chunks_spec` and, in
`Lemmas/MyersBlockGeom.lean` / `Thm/GenSrcMyersLongNew.lean`, `geo_blocks`, `blocksOf_length`, `blocks_shape` are read off them).
Core Lean only.
-/
namespace RbV.Model.MyersLong
open RbV.Model.MyersSimple

/-! ### `rows` and `ColEnc` -/

/-- rows covered by the first `n` blocks -/
def rows : Nat → List (List Nat) → Nat
  | 0, _ => 0
  | _, [] => 0
  | n + 1, blk :: blks => blk.length + rows n blks

theorem rows_eq : ∀ (blks : List (List Nat)) (n : Nat), rows n blks = (blks.take n).flatten.length := by
  intro blks
  induction blks with
  | nil => intro n; cases n <;> simp [rows]
  | cons b blks ih => intro n; cases n <;> simp [rows, ih]

theorem rows_all (blks : List (List Nat)) : rows blks.length blks = blks.flatten.length := by
  rw [rows_eq, List.take_length]

theorem rows_succ (blks : List (List Nat)) (n : Nat) (blk : List Nat) (h : blks[n]? = some blk) :
    rows (n + 1) blks = rows n blks + blk.length := by
  rw [rows_eq, rows_eq, List.take_succ, h]
  simp

theorem rows_le_all (blks : List (List Nat)) (n : Nat) : rows n blks ≤ blks.flatten.length := by
  rw [rows_eq]
  conv => rhs; rw [← List.take_append_drop n blks, List.flatten_append, List.length_append]
  exact Nat.le_add_right _ _

theorem rows_ge_length (blks : List (List Nat)) (n : Nat) (h : blks.length ≤ n) : rows n blks = blks.flatten.length := by
  rw [rows_eq, List.take_of_length_le h]

theorem rows_lt (blks : List (List Nat)) (n : Nat) (hsz : ∀ blk, blk ∈ blks → 1 ≤ blk.length) (hn : n < blks.length) :
    rows n blks < blks.flatten.length := by
  have h := List.getElem?_eq_getElem hn
  have := rows_succ blks n _ h
  have := rows_le_all blks (n + 1)
  have := hsz _ (List.mem_of_getElem? h)
  omega

/-- the active blocks `sts` (a prefix of the blocks `blks`, starting at row `r0`) encode the column `C` -/
def ColEnc {w : Nat} (C : Nat → Int) : Nat → List (List Nat) → List (St w) → Prop
  | _, _, [] => True
  | _, [], _ :: _ => False
  | r0, blk :: blks, s :: ss =>
    1 ≤ blk.length ∧ blk.length ≤ w ∧ EncB blk.length (fun i => C (r0 + i)) s.pv s.mv ∧
    (s.dist : Int) = C (r0 + blk.length) ∧ ColEnc C (r0 + blk.length) blks ss

theorem ColEnc.congr {w : Nat} {C C' : Nat → Int} : ∀ (blks : List (List Nat)) (sts : List (St w)) (r0 : Nat),
    (∀ r, r ≤ r0 + rows sts.length blks → C r = C' r) → ColEnc C r0 blks sts → ColEnc C' r0 blks sts := by
  intro blks
  induction blks with
  | nil => intro sts r0 _ h; cases sts <;> simp_all [ColEnc]
  | cons blk blks ih =>
    intro sts r0 hc h
    cases sts with
    | nil => simp [ColEnc]
    | cons s ss =>
      obtain ⟨h1, h2, h3, h4, h5⟩ := h
      simp only [List.length_cons, rows] at hc
      refine ⟨h1, h2, EncB.congr (fun i hi => hc (r0 + i) (by omega)) h3, ?_, ?_⟩
      · rw [← hc (r0 + blk.length) (by omega)]; exact h4
      · exact ih ss (r0 + blk.length) (fun r hr => hc r (by omega)) h5

theorem ColEnc.get {w : Nat} {C : Nat → Int} : ∀ (blks : List (List Nat)) (sts : List (St w)) (r0 : Nat),
    ColEnc C r0 blks sts → ∀ (B : Nat) (s : St w), sts[B]? = some s → ∃ blk, blks[B]? = some blk ∧
      1 ≤ blk.length ∧ blk.length ≤ w ∧ EncB blk.length (fun i => C (r0 + rows B blks + i)) s.pv s.mv ∧
      (s.dist : Int) = C (r0 + rows B blks + blk.length) := by
  intro blks
  induction blks with
  | nil => intro sts r0 h B s hs; cases sts <;> simp_all [ColEnc]
  | cons blk blks ih =>
    intro sts r0 h B s hs
    cases sts with
    | nil => simp at hs
    | cons s0 ss =>
      obtain ⟨h1, h2, h3, h4, h5⟩ := h
      cases B with
      | zero =>
        obtain rfl : s0 = s := by simpa using hs
        exact ⟨blk, rfl, h1, h2, by simpa [rows] using h3, by simpa [rows] using h4⟩
      | succ B =>
        obtain ⟨b2, e1, e2, e3, e4, e5⟩ := ih ss (r0 + blk.length) h5 B s (by simpa using hs)
        simp only [rows, ← Nat.add_assoc]
        exact ⟨b2, by simpa using e1, e2, e3, e4, e5⟩

theorem ColEnc_length_le {w : Nat} {C : Nat → Int} (blks : List (List Nat)) (sts : List (St w)) (r0 : Nat)
    (h : ColEnc C r0 blks sts) : sts.length ≤ blks.length := by
  cases hn : sts.length with
  | zero => exact Nat.zero_le _
  | succ n =>
    obtain ⟨blk, hb, _⟩ := ColEnc.get blks sts r0 h n sts[n] (List.getElem?_eq_getElem (by omega))
    exact (List.getElem?_eq_some_iff.mp hb).1

theorem ColEnc_last {w : Nat} {C : Nat → Int} (blks : List (List Nat)) (sts : List (St w)) (r0 : Nat)
    (h : ColEnc C r0 blks sts) (hne : sts ≠ []) :
    (((sts.getLast?.map (·.dist)).getD 0 : Nat) : Int) = C (r0 + rows sts.length blks) := by
  obtain ⟨s, hs⟩ : ∃ s, sts.getLast? = some s := Option.isSome_iff_exists.mp (by cases sts <;> simp_all)
  obtain ⟨n, hn⟩ : ∃ n, sts.length = n + 1 := ⟨sts.length - 1, by cases sts <;> simp_all⟩
  obtain ⟨blk, hb, _, _, _, hd⟩ := ColEnc.get blks sts r0 h n s (by rw [← hs, List.getLast?_eq_getElem?, hn]; rfl)
  rw [hs, hn, rows_succ blks n blk hb, ← Nat.add_assoc]
  exact hd

theorem ColEnc_snoc_iff {w : Nat} {C : Nat → Int} : ∀ (blks : List (List Nat)) (sts : List (St w)) (s : St w) (r0 : Nat),
    ColEnc C r0 blks (sts ++ [s]) ↔
      ColEnc C r0 blks sts ∧ ∃ blk, blks[sts.length]? = some blk ∧ 1 ≤ blk.length ∧ blk.length ≤ w ∧
        EncB blk.length (fun i => C (r0 + rows sts.length blks + i)) s.pv s.mv ∧
        (s.dist : Int) = C (r0 + rows sts.length blks + blk.length) := by
  intro blks
  induction blks with
  | nil => intro sts s r0; cases sts <;> simp [ColEnc]
  | cons b blks ih =>
    intro sts s r0
    cases sts with
    | nil =>
      simp only [List.nil_append, ColEnc, List.length_nil, List.getElem?_cons_zero, rows, Nat.add_zero, true_and]
      constructor
      · rintro ⟨h1, h2, h3, h4, _⟩; exact ⟨b, rfl, h1, h2, h3, h4⟩
      · rintro ⟨blk, hb, h1, h2, h3, h4⟩
        injection hb with hb; subst hb
        exact ⟨h1, h2, h3, h4, by cases blks <;> simp [ColEnc]⟩
    | cons s0 ss =>
      simp only [List.cons_append, ColEnc, List.length_cons, List.getElem?_cons_succ, rows]
      rw [ih ss s (r0 + b.length)]
      simp only [Nat.add_assoc]
      constructor
      · rintro ⟨h1, h2, h3, h4, h5, h6⟩; exact ⟨⟨h1, h2, h3, h4, h5⟩, h6⟩
      · rintro ⟨⟨h1, h2, h3, h4, h5⟩, h6⟩; exact ⟨h1, h2, h3, h4, h5, h6⟩

/-- the distances of an encoded column grow by at most one per row -/
theorem ColEnc_bound {w : Nat} {C : Nat → Int} : ∀ (blks : List (List Nat)) (sts : List (St w)) (r0 : Nat),
    ColEnc C r0 blks sts → ∀ s ∈ sts, (s.dist : Int) ≤ C r0 + rows sts.length blks := by
  intro blks
  induction blks with
  | nil => intro sts r0 h s hs; cases sts <;> simp_all [ColEnc]
  | cons blk blks ih =>
    intro sts r0 h s hs
    cases sts with
    | nil => simp at hs
    | cons s0 ss =>
      obtain ⟨h1, h2, h3, h4, h5⟩ := h
      have hsp := h3.span blk.length 0 (Nat.zero_add _)
      simp only [Nat.add_zero] at hsp
      simp only [List.length_cons, rows]
      simp only [List.mem_cons] at hs
      rcases hs with rfl | hs
      · push_cast; omega
      · have := ih ss (r0 + blk.length) h5 s hs
        push_cast; omega

theorem ColEnc_dist_lt {w : Nat} {C : Nat → Int} (blks : List (List Nat)) (sts : List (St w)) (hc : ColEnc C 0 blks sts)
    (h0 : C 0 = 0) (B : Nat) (hB : ∀ n, rows n blks ≤ B) (hB63 : B + 1 < 2 ^ 63) : ∀ s ∈ sts, s.dist + 1 < 2 ^ 63 := by
  intro s hs
  have h1 := ColEnc_bound blks sts 0 hc s hs
  have h2 := hB sts.length
  rw [h0] at h1
  omega

/-! ### the match bits -/

/-- the match bits of text symbol `a` against the pattern `p` -/
def matchBits (eqv : Nat → Nat → Bool) (p : List Nat) (a : Nat) (r : Nat) : Bool :=
  match p[r]? with
  | some x => eqv x a
  | none => false

/-- … on the rows of a block `blk` of `p` are `blk`'s own -/
theorem matchBits_block (eqv : Nat → Nat → Bool) (a : Nat) (pre blk post : List Nat) (i : Nat) (hi : i < blk.length) :
    matchBits eqv (pre ++ (blk ++ post)) a (pre.length + i) = eqv blk[i] a := by
  unfold matchBits
  rw [List.getElem?_append_right (Nat.le_add_right _ _), Nat.add_sub_cancel_left, List.getElem?_append_left hi,
    List.getElem?_eq_getElem hi]

/-! ### the carry chain -/

/-- the block-local recursion is the global one on the rows of the block -/
theorem nextCB_eq (C : Nat → Int) (e e' : Nat → Bool) (r0 n : Nat) (he : ∀ i, i < n → e' i = e (r0 + i)) :
    ∀ i, i ≤ n → nextCB (fun i => C (r0 + i)) e' (nextC C e r0) i = nextC C e (r0 + i) := by
  intro i
  induction i with
  | zero => intro _; rfl
  | succ i ih =>
    intro hi
    have : nextC C e (r0 + (i + 1)) =
        min (min (C (r0 + i + 1) + 1) (nextC C e (r0 + i) + 1)) (C (r0 + i) + (if e (r0 + i) then 0 else 1)) := rfl
    rw [this]
    simp only [nextCB]
    rw [ih (by omega), he i (by omega)]
    rfl

/-- **a block of a column**: `advance_block` on the block that holds rows `r0 .. r0+n` of the column `C`, with match bits
`e` and the horizontal difference `hin` at row `r0`, leaves the rows of the next column, hands on the difference at row
`r0+n`, and its `dist` update does not underflow -/
theorem advanceBlock_col {w : Nat} (C : Nat → Int) (e : Nat → Bool) (r0 n : Nat) (h1 : 1 ≤ n) (hn : n ≤ w)
    (eq : BitVec w) (s : St w) (hin : Int) (hpe : ∀ i, i < n → eq.getLsbD i = e (r0 + i))
    (hh : -1 ≤ hin ∧ hin ≤ 1) (hb : nextC C e r0 - C r0 = hin)
    (enc : EncB n (fun i => C (r0 + i)) s.pv s.mv) (hd : (s.dist : Int) = C (r0 + n)) (hnn : 0 ≤ nextC C e (r0 + n)) :
    EncB n (fun i => nextC C e (r0 + i)) (advanceBlock (n - 1) eq hin s).1.pv (advanceBlock (n - 1) eq hin s).1.mv ∧
    ((advanceBlock (n - 1) eq hin s).1.dist : Int) = nextC C e (r0 + n) ∧
    (advanceBlock (n - 1) eq hin s).2 = nextC C e (r0 + n) - C (r0 + n) ∧
    ((s.pv &&& xhOf (eqIn eq hin) s.pv).getLsbD (n - 1)).toNat ≤
      s.dist + ((s.mv ||| ~~~(xhOf (eqIn eq hin) s.pv ||| s.pv)).getLsbD (n - 1)).toNat := by
  obtain ⟨m, rfl⟩ : ∃ m, n = m + 1 := ⟨n - 1, by omega⟩
  have hloc := nextCB_eq C e eq.getLsbD r0 (m + 1) hpe
  have hL := hloc _ (Nat.le_refl _)
  rw [← hL] at hnn
  obtain ⟨k1, k2, k3⟩ := advanceBlock_enc m hn (fun i => C (r0 + i)) eq s (nextC C e r0) hin hh hb enc hd hnn
  obtain ⟨_, _, c3, _⟩ := horizB (m + 1) hn (fun i => C (r0 + i)) eq s.pv s.mv (nextC C e r0) hin hh hb enc m
    (Nat.lt_succ_self m)
  rw [hL] at k2 k3
  refine ⟨EncB.congr hloc k1, k2, k3, ?_⟩
  rw [BitVec.getLsbD_and]
  exact row_nowrap hd hnn c3 _

/-- the carry chain over the active blocks `sts` of the pattern `p = pre ++ blks.flatten` (first active row `|pre|`) -/
theorem advanceAll_enc {w : Nat} (eqv : Nat → Nat → Bool) (a : Nat) (C : Nat → Int) (p : List Nat)
    (hnn : ∀ r, 0 ≤ nextC C (matchBits eqv p a) r) :
    ∀ (blks : List (List Nat)) (sts : List (St w)) (pre : List Nat) (hin : Int), pre ++ blks.flatten = p →
      ColEnc C pre.length blks sts → -1 ≤ hin ∧ hin ≤ 1 → nextC C (matchBits eqv p a) pre.length - C pre.length = hin →
      ColEnc (nextC C (matchBits eqv p a)) pre.length blks (advanceAll eqv a blks sts hin).1 ∧
      (advanceAll eqv a blks sts hin).1.length = sts.length ∧
      (advanceAll eqv a blks sts hin).2 = nextC C (matchBits eqv p a) (pre.length + rows sts.length blks) -
        C (pre.length + rows sts.length blks) ∧
      (-1 ≤ (advanceAll eqv a blks sts hin).2 ∧ (advanceAll eqv a blks sts hin).2 ≤ 1) := by
  intro blks
  induction blks with
  | nil =>
    intro sts pre hin _ hc hh hb
    cases sts with
    | nil => simp [advanceAll, ColEnc, rows, hb, hh]
    | cons s ss => simp [ColEnc] at hc
  | cons blk blks ih =>
    intro sts pre hin hp hc hh hb
    cases sts with
    | nil => simp [advanceAll, ColEnc, rows, hb, hh]
    | cons s ss =>
      obtain ⟨hl1, hlw, henc, hdist, hrest⟩ := hc
      rw [List.flatten_cons] at hp
      obtain ⟨k1, k2, k3, _⟩ := advanceBlock_col C (matchBits eqv p a) pre.length blk.length hl1 hlw (peq w eqv blk a) s hin
        (fun i hi => by rw [peq_bit w eqv blk a i hi hlw, ← hp, matchBits_block eqv a pre blk _ i hi]) hh hb henc hdist (hnn _)
      rw [← List.length_append] at hrest k3
      obtain ⟨i1, i2, i3, i4⟩ := ih ss (pre ++ blk) _ (by rw [List.append_assoc]; exact hp) hrest (hout_range _ _ _ _) k3.symm
      rw [List.length_append] at i1 i3
      simp only [advanceAll, List.length_cons, rows]
      exact ⟨⟨hl1, hlw, k1, k2, i1⟩, by rw [i2], by rw [i3, Nat.add_assoc], i4⟩

theorem advanceAll_length {w : Nat} (eqv : Nat → Nat → Bool) (a : Nat) : ∀ (blks : List (List Nat)) (sts : List (St w)) (hin : Int),
    sts.length ≤ blks.length → (advanceAll eqv a blks sts hin).1.length = sts.length := by
  intro blks
  induction blks with
  | nil => intro sts hin h; cases sts <;> simp_all [advanceAll]
  | cons blk blks ih =>
    intro sts hin h
    cases sts with
    | nil => simp [advanceAll]
    | cons s ss => simp [advanceAll, ih ss _ (by simpa using h)]

theorem advanceAll_range {w : Nat} (eqv : Nat → Nat → Bool) (a : Nat) : ∀ (blks : List (List Nat)) (sts : List (St w)) (hin : Int),
    (-1 ≤ hin ∧ hin ≤ 1) → -1 ≤ (advanceAll eqv a blks sts hin).2 ∧ (advanceAll eqv a blks sts hin).2 ≤ 1 := by
  intro blks
  induction blks with
  | nil => intro sts hin h; cases sts <;> simpa [advanceAll] using h
  | cons blk blks ih =>
    intro sts hin h
    cases sts with
    | nil => simpa [advanceAll] using h
    | cons s ss =>
      simp only [advanceAll]
      exact ih ss _ (hout_range _ _ _ _)

/-! ### `States::step` in normal form -/

/-- `States::step` after the carry chain `advanceAll … = (R1, c)`, `d` the last active block's new `dist`: the next block is
switched on iff there is one and the previous column's value `d − c` at the lower edge is in `0..k` and the block's first row
matches or the carry is negative; otherwise trailing blocks are cut -/
theorem stepStates_eq {w : Nat} (eqv : Nat → Nat → Bool) (blks : List (List Nat)) (k a : Nat) (sts R1 : List (St w)) (c : Int)
    (hne : sts ≠ []) (hR : advanceAll eqv a blks sts 0 = (R1, c)) (d : Nat) (hd : (R1.getLast?.map (·.dist)).getD 0 = d) :
    stepStates eqv blks k a sts =
      match blks[sts.length]? with
      | some blk =>
        if 0 ≤ (d : Int) - c ∧ (d : Int) - c ≤ k ∧ ((peq w eqv blk a).getLsbD 0 = true ∨ c < 0) then
          R1 ++ [(advanceBlock (blk.length - 1) (peq w eqv blk a) c
            ⟨BitVec.allOnes w, 0#w, ((d : Int) + blk.length - c).toNat⟩).1]
        else (cutRev k w R1.reverse).reverse
      | none => (cutRev k w R1.reverse).reverse := by
  have hpos : 0 < sts.length := List.length_pos_iff.mpr hne
  have hidx : sts.length - 1 + 1 = sts.length := Nat.sub_add_cancel hpos
  unfold stepStates
  simp only [hR, hd, hidx]
  cases hb : blks[sts.length]? with
  | none =>
    have : ¬ sts.length - 1 < blks.length - 1 := by have := List.getElem?_eq_none_iff.mp hb; omega
    simp [this]
  | some blk =>
    have : sts.length - 1 < blks.length - 1 := by have := (List.getElem?_eq_some_iff.mp hb).1; omega
    simp only [this, decide_true, Bool.and_true, Bool.and_eq_true, Bool.or_eq_true, decide_eq_true_eq, and_assoc]

/-! ### the blocks of a pattern -/

theorem ceil_unique {w m nb : Nat} (lo : (nb - 1) * w < m) (hi : m ≤ nb * w) : nb = (m + w - 1) / w := by
  obtain ⟨n, rfl⟩ : ∃ n, nb = n + 1 := ⟨nb - 1, by cases nb <;> simp_all⟩
  rw [Nat.add_sub_cancel] at lo
  rw [Nat.add_mul, Nat.one_mul] at hi
  symm
  apply Nat.div_eq_of_lt_le <;> simp only [Nat.add_mul, Nat.one_mul] <;> omega

theorem div_mul_ge (x w : Nat) (hw : 1 ≤ w) : x ≤ (x + w - 1) / w * w := by
  have h1 := Nat.div_add_mod (x + w - 1) w
  have h2 := Nat.mod_lt (x + w - 1) (show w > 0 by omega)
  have h3 : w * ((x + w - 1) / w) = (x + w - 1) / w * w := Nat.mul_comm _ _
  omega

theorem chunks_small (w fuel : Nat) (p : List Nat) (h : p.length ≤ w) : chunks w (fuel + 1) p = [p] := by
  rw [chunks, if_pos h]

theorem chunks_step (w fuel : Nat) (p : List Nat) (h : ¬ p.length ≤ w) :
    chunks w (fuel + 1) p = p.take w :: chunks w fuel (p.drop w) := by
  rw [chunks, if_neg h]

/-- the blocks of a pattern of `m ≥ 1` symbols concatenate to the pattern and cover it (`m ≤ nb·w`); block `B` starts at row
`B·w`, a row of the pattern, and has `min w (m − B·w)` rows -/
theorem chunks_layout (w : Nat) (hw : 1 ≤ w) : ∀ (fuel : Nat) (p : List Nat), 1 ≤ p.length → p.length ≤ fuel →
    (chunks w fuel p).flatten = p ∧ 1 ≤ (chunks w fuel p).length ∧ p.length ≤ (chunks w fuel p).length * w ∧
    ∀ B, B < (chunks w fuel p).length → B * w < p.length ∧ ∃ blk, (chunks w fuel p)[B]? = some blk ∧
      blk.length = min w (p.length - B * w) ∧ rows B (chunks w fuel p) = B * w := by
  intro fuel
  induction fuel with
  | zero => intro p h1 h2; omega
  | succ fuel ih =>
    intro p h1 h2
    by_cases hle : p.length ≤ w
    · rw [chunks_small w fuel p hle]
      refine ⟨List.flatten_singleton, Nat.le_refl 1, by rw [List.length_singleton, Nat.one_mul]; exact hle, fun B hB => ?_⟩
      obtain rfl : B = 0 := Nat.lt_one_iff.mp hB
      rw [Nat.zero_mul]
      exact ⟨h1, p, rfl, (Nat.min_eq_right hle).symm, rfl⟩
    · rw [chunks_step w fuel p hle]
      have hd : (p.drop w).length = p.length - w := List.length_drop
      obtain ⟨i1, _, i2, i3⟩ := ih (p.drop w) (by omega) (by omega)
      rw [hd] at i2 i3
      refine ⟨by rw [List.flatten_cons, i1, List.take_append_drop], Nat.succ_pos _, ?_, fun B hB => ?_⟩
      · rw [List.length_cons, Nat.succ_mul]; omega
      · cases B with
        | zero =>
          rw [Nat.zero_mul]
          exact ⟨h1, _, rfl, by rw [List.length_take]; rfl, rfl⟩
        | succ B =>
          obtain ⟨j1, blk, e1, e2, e3⟩ := i3 B (Nat.lt_of_succ_lt_succ hB)
          rw [Nat.succ_mul]
          refine ⟨by omega, blk, e1, by rw [e2]; omega, ?_⟩
          rw [rows, e3, List.length_take]; omega

theorem chunks_spec (w : Nat) (hw : 1 ≤ w) (fuel : Nat) (p : List Nat) (h1 : 1 ≤ p.length) (h2 : p.length ≤ fuel) :
    (chunks w fuel p).flatten = p ∧ (∀ blk, blk ∈ chunks w fuel p → 1 ≤ blk.length ∧ blk.length ≤ w) ∧
    (chunks w fuel p).length ≤ (p.length + w - 1) / w ∧ 1 ≤ (chunks w fuel p).length := by
  obtain ⟨fl, hpos, hi, blk⟩ := chunks_layout w hw fuel p h1 h2
  refine ⟨fl, fun b hb => ?_, Nat.le_of_eq (ceil_unique (blk _ (by omega)).1 hi), hpos⟩
  obtain ⟨B, hB, rfl⟩ := List.getElem_of_mem hb
  obtain ⟨lo, b', e1, e2, _⟩ := blk B hB
  rw [List.getElem?_eq_getElem hB] at e1
  rw [Option.some.inj e1, e2]
  omega

/-- the same for `blocksOf w p`, with the last block `n` singled out: `n + 1` blocks, every one of `w` rows except the last,
which has the `m − n·w ∈ 1..w` rows that are left; the first `B ≤ n` blocks cover `B·w` rows -/
theorem blocksOf_layout (w : Nat) (hw : 1 ≤ w) (p : List Nat) (hp : 1 ≤ p.length) :
    ∃ n, (blocksOf w p).length = n + 1 ∧ n * w < p.length ∧ p.length ≤ n * w + w ∧
      (∀ B blk, (blocksOf w p)[B]? = some blk → blk.length = if B = n then p.length - n * w else w) ∧
      ∀ B, B ≤ n → rows B (blocksOf w p) = B * w := by
  obtain ⟨_, hpos, hi, blk⟩ := chunks_layout w hw p.length p hp (Nat.le_refl _)
  unfold blocksOf
  generalize chunks w p.length p = blks at *
  obtain ⟨n, hn⟩ : ∃ n, blks.length = n + 1 := ⟨blks.length - 1, by omega⟩
  rw [hn] at hi blk
  rw [Nat.succ_mul] at hi
  refine ⟨n, hn, (blk n (Nat.lt_succ_self n)).1, hi, fun B b hb => ?_, fun B hB => ?_⟩
  · have hB : B < n + 1 := by rw [← hn]; exact (List.getElem?_eq_some_iff.mp hb).1
    obtain ⟨_, b', e1, e2, _⟩ := blk B hB
    rw [hb] at e1
    rw [Option.some.inj e1, e2]
    by_cases hl : B = n
    · rw [if_pos hl, hl]; omega
    · have := (blk (B + 1) (by omega)).1
      rw [Nat.succ_mul] at this
      rw [if_neg hl]; omega
  · obtain ⟨_, _, _, _, e3⟩ := blk B (by omega)
    exact e3

theorem blocksOf_flatten (w : Nat) (hw : 1 ≤ w) (p : List Nat) (hp : 1 ≤ p.length) : (blocksOf w p).flatten = p :=
  (chunks_layout w hw p.length p hp (Nat.le_refl _)).1

theorem blocksOf_mem_length (w : Nat) (hw : 1 ≤ w) (p : List Nat) (hp : 1 ≤ p.length) :
    ∀ blk, blk ∈ blocksOf w p → 1 ≤ blk.length ∧ blk.length ≤ w :=
  (chunks_spec w hw p.length p hp (Nat.le_refl _)).2.1

theorem rows_blocksOf_le (w : Nat) (hw : 1 ≤ w) (p : List Nat) (hp : 1 ≤ p.length) (n : Nat) : rows n (blocksOf w p) ≤ p.length := by
  have := rows_le_all (blocksOf w p) n
  rwa [blocksOf_flatten w hw p hp] at this

end RbV.Model.MyersLong
