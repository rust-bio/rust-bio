import RbV.Lemmas.Band
import RbV.Basic.GetD
/-!
`Band.Connected` (`Model/Band.lean`): the full-matrix band is connected; consequences of connectedness (starts and ends
are non-decreasing over the whole run of non-empty columns).  Core Lean only.
-/
namespace RbV.Model.Band

theorem connected_replicate (k r : Nat) : Connected (List.replicate k (0, r)) := by
  refine ⟨fun j hj h1 h2 => ?_, fun j hj h1 h2 j' hj' hlt => ?_⟩
  · simp only [List.mem_range, List.length_replicate] at hj
    simp only [NE, List.getD_replicate] at h1 h2 ⊢
    by_cases h : j + 1 < k
    · simp only [h, hj, if_true]; omega
    · simp only [h, if_false] at h2; omega
  · simp only [List.mem_range, List.length_replicate] at hj hj'
    simp only [NE, List.getD_replicate] at h1 h2
    by_cases h : j + 1 < k
    · simp only [h, hj, if_true] at h1 h2; omega
    · omega

theorem connected_fullMatrix (m n : Nat) : Connected (fullMatrix (new m n)).ranges := by
  rw [fullMatrix_new]; exact connected_replicate _ _

theorem connected_mono {rs : Ranges} (h : Connected rs) {j j' : Nat} (hjj : j ≤ j') (hl : j' < rs.length) (h1 : NE rs j)
    (h2 : NE rs j') :
    (rs.getD j (0, 0)).1 ≤ (rs.getD j' (0, 0)).1 ∧ (rs.getD j (0, 0)).2 ≤ (rs.getD j' (0, 0)).2 := by
  suffices H : ∀ d j, j + d < rs.length → NE rs j → NE rs (j + d) →
      (rs.getD j (0, 0)).1 ≤ (rs.getD (j + d) (0, 0)).1 ∧ (rs.getD j (0, 0)).2 ≤ (rs.getD (j + d) (0, 0)).2 by
    obtain ⟨d, rfl⟩ := Nat.exists_eq_add_of_le hjj
    exact H d j hl h1 h2
  intro d
  induction d with
  | zero => exact fun j _ _ _ => ⟨Nat.le_refl _, Nat.le_refl _⟩
  | succ d ih =>
    intro j hl h1 h2
    have hj : j ∈ List.range rs.length := List.mem_range.mpr (by omega)
    rw [← Nat.add_assoc, Nat.add_right_comm] at hl h2 ⊢
    -- column `j + 1` is not empty: otherwise every later column would be
    have hne : NE rs (j + 1) := by
      cases d with
      | zero => exact h2
      | succ d => exact Decidable.byContradiction fun hn => h.2 j hj h1 hn _ (List.mem_range.mpr hl) (by omega) h2
    have hs := h.1 j hj h1 hne
    have := ih (j + 1) hl hne h2
    exact ⟨Nat.le_trans hs.2.1 this.1, Nat.le_trans hs.2.2 this.2⟩
end RbV.Model.Band
