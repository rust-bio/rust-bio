import RbV.Lemmas.FillBasic
/-!
The columns of `Model/PairwiseFill.lean` read cell by cell: `cell j i` is row `i` of column `j`; the recurrences that
tie a cell to its neighbours (`cell_zero_succ`, `cell_succ_zero`, `cell_succ_succ`), and the loop bodies with every
`if a > b` written as `max` (`step0_eq`, `rowJ0_eq`, `stepJ_eq`, `post1Step_eq`; `edgeV`, `bestI`, `bestD`, `bestS` name the
values computed on the way, with the inequalities between them); at the end the post-loops and `fill` read entry by entry
(`post1_getD_*`, `post2_getD_*`, `allCols_getD`, `fill_score`), on which the traceback files build.
-/
namespace RbV.Model.PairwiseFill
open RbV.Align

section
variable (sc : Sc) (cl : Clip) (x y : List Nat)

def cell (j i : Nat) : Row := (colAt sc cl x y j).getD i default

theorem cell_zero_zero : cell sc cl x y 0 0 = row00 cl x y := by
  simp only [cell, colAt, col0, iter_getD_zero]

theorem cell_zero_succ (i : Nat) (hi : i + 1 ≤ x.length) :
    cell sc cl x y 0 (i + 1) = step0 sc cl x y (i + 1) (cell sc cl x y 0 i) := by
  simp only [cell, colAt, col0]
  rw [iter_getD_succ _ _ _ _ _ hi]

theorem cell_succ_zero (j : Nat) :
    cell sc cl x y (j + 1) 0 = rowJ0 sc cl x y (j + 1) (cell sc cl x y j 0) := by
  simp only [cell, colAt, colStep, iter_getD_zero]

theorem cell_succ_succ (j i : Nat) (hi : i + 1 ≤ x.length) :
    cell sc cl x y (j + 1) (i + 1) =
      stepJ sc cl x y (j + 1) (colAt sc cl x y j) (i + 1) (cell sc cl x y (j + 1) i) := by
  simp only [cell, colAt, colStep]
  rw [iter_getD_succ _ _ _ _ _ hi]

/-- **fill induction**: a property of rows that `row00` has and the three loop bodies hand on (from the cell above,
and in an inner column from the two cells of the previous column that the body reads) holds of every cell -/
theorem cell_ind {P : Nat → Nat → Row → Prop} (h00 : P 0 0 (row00 cl x y))
    (h0 : ∀ i, i + 1 ≤ x.length → ∀ r, P 0 i r → P 0 (i + 1) (step0 sc cl x y (i + 1) r))
    (hJ0 : ∀ j, j + 1 ≤ y.length → ∀ p0, P j 0 p0 → P (j + 1) 0 (rowJ0 sc cl x y (j + 1) p0))
    (hJ : ∀ j i, j + 1 ≤ y.length → i + 1 ≤ x.length → ∀ prev r, P j i (prev.getD i default) →
      P j (i + 1) (prev.getD (i + 1) default) → P (j + 1) i r →
      P (j + 1) (i + 1) (stepJ sc cl x y (j + 1) prev (i + 1) r)) :
    ∀ j, j ≤ y.length → ∀ i, i ≤ x.length → P j i (cell sc cl x y j i) := by
  intro j
  induction j with
  | zero =>
    intro _ i
    induction i with
    | zero => intro _; rw [cell_zero_zero]; exact h00
    | succ i ih => intro hi; rw [cell_zero_succ _ _ _ _ _ hi]; exact h0 i hi _ (ih (Nat.le_of_succ_le hi))
  | succ j ihj =>
    intro hj i
    have hj' := Nat.le_of_succ_le hj
    induction i with
    | zero => intro _; rw [cell_succ_zero]; exact hJ0 j hj _ (ihj hj' 0 (Nat.zero_le _))
    | succ i ih =>
      intro hi
      have hi' := Nat.le_of_succ_le hi
      rw [cell_succ_succ _ _ _ _ _ _ hi]
      exact hJ j i hj hi _ _ (ihj hj' i hi') (ihj hj' (i + 1) hi) (ih hi')

/-! ### the loop bodies in `max` form -/

/-- the first row / first column of a gap layer, `c` = the clip penalty of that side: a gap of length `k` from the
origin, or (from `k = 2` on) the clip followed by a gap of length 1.  `iv0 sc cl` and `dv0 sc cl` below are written out, not
defined through it; they unfold to `edgeV sc cl.xp` / `edgeV sc cl.yp`, and the `iv0_*` / `dv0_*` lemmas are the `edgeV_*` ones -/
def edgeV (sc : Sc) (c : Int) (k : Nat) : Int :=
  if k = 1 then sc.go + sc.ge else max (sc.go + sc.ge * (k : Int)) (c + sc.go + sc.ge)

theorem edgeV_one (c : Int) : edgeV sc c 1 = sc.go + sc.ge := if_pos rfl

theorem edgeV_succ_succ (c : Int) (k : Nat) :
    edgeV sc c (k + 1 + 1) = max (sc.go + sc.ge * ((k + 1 + 1 : Nat) : Int)) (c + sc.go + sc.ge) :=
  if_neg (by omega)

theorem edgeV_ge (c : Int) (k : Nat) (h1 : 1 ≤ k) : sc.go + sc.ge * (k : Int) ≤ edgeV sc c k := by
  obtain ⟨k, rfl⟩ : ∃ k', k = k' + 1 := ⟨k - 1, by omega⟩
  cases k with
  | zero => rw [edgeV_one]; simp only [Nat.zero_add, Int.natCast_one, Int.mul_one]; exact Int.le_refl _
  | succ k => rw [edgeV_succ_succ]; exact Int.le_max_left _ _

theorem edgeV_clip (c : Int) (k : Nat) : c + sc.go + sc.ge ≤ edgeV sc c (k + 1 + 1) := by
  rw [edgeV_succ_succ]; exact Int.le_max_right _ _

theorem edgeV_step (hge : sc.ge ≤ 0) (c : Int) (k : Nat) : edgeV sc c (k + 1) + sc.ge ≤ edgeV sc c (k + 1 + 1) := by
  have e : sc.ge * ((k + 1 + 1 : Nat) : Int) = sc.ge * ((k + 1 : Nat) : Int) + sc.ge := mul_add_one sc.ge (k + 1 : Nat)
  rw [edgeV_succ_succ, e]
  cases k with
  | zero => rw [edgeV_one]; simp only [Nat.zero_add, Int.natCast_one, Int.mul_one]; omega
  | succ k => rw [edgeV_succ_succ]; omega

/-- `I[0][i]` -/
def iv0 (i : Nat) : Int :=
  if i = 1 then sc.go + sc.ge else max (sc.go + sc.ge * (i : Int)) (cl.xp + sc.go + sc.ge)

theorem step0_eq (i : Nat) (r : Row) : step0 sc cl x y i r =
    let s2 := max cl.xp (max (iv0 sc cl i) (if i = x.length then r.xm else minScore))
    ⟨s2, iv0 sc cl i, minScore, max (s2 + cl.ys) minScore, if i = x.length then s2 else max (s2 + cl.xs) r.xm,
      (step0 sc cl x y i r).t⟩ := by
  refine Row.ext ?_ ?_ ?_ ?_ ?_ rfl <;> simp only [step0, iv0, upd_eq_max, ite_gt_eq_max]

/-- `D[j][0]` -/
def dv0 (j : Nat) : Int :=
  if j = 1 then sc.go + sc.ge else max (sc.go + sc.ge * (j : Int)) (cl.yp + sc.go + sc.ge)

theorem rowJ0_eq (j : Nat) (p0 : Row) : rowJ0 sc cl x y j p0 =
    let s0 := max (dv0 sc cl j) cl.yp
    let s0' := if j = y.length ∧ p0.sn > s0 then p0.sn else s0
    ⟨s0', minScore, dv0 sc cl j, if j = y.length ∧ p0.sn > s0 then p0.sn else max (s0 + cl.ys) p0.sn,
      if x.length = 0 then s0' else minScore, (rowJ0 sc cl x y j p0).t⟩ := by
  refine Row.ext ?_ ?_ ?_ ?_ ?_ rfl <;> simp only [rowJ0, dv0, upd_eq_max, ite_gt_eq_max] <;> rfl

/-! the `edgeV_*` lemmas under the names of the two instances -/
section
variable {sc cl}

theorem iv0_one : iv0 sc cl 1 = sc.go + sc.ge := edgeV_one sc cl.xp

theorem iv0_step (hge : sc.ge ≤ 0) (i : Nat) : iv0 sc cl (i + 1) + sc.ge ≤ iv0 sc cl (i + 1 + 1) :=
  edgeV_step sc hge cl.xp i

theorem iv0_clip (i : Nat) : cl.xp + sc.go + sc.ge ≤ iv0 sc cl (i + 1 + 1) := edgeV_clip sc cl.xp i

theorem dv0_one : dv0 sc cl 1 = sc.go + sc.ge := edgeV_one sc cl.yp

theorem dv0_step (hge : sc.ge ≤ 0) (j : Nat) : dv0 sc cl (j + 1) + sc.ge ≤ dv0 sc cl (j + 1 + 1) :=
  edgeV_step sc hge cl.yp j

theorem dv0_clip (j : Nat) : cl.yp + sc.go + sc.ge ≤ dv0 sc cl (j + 1 + 1) := edgeV_clip sc cl.yp j

theorem iv0_ge (i : Nat) (h1 : 1 ≤ i) : sc.go + sc.ge * (i : Int) ≤ iv0 sc cl i := edgeV_ge sc cl.xp i h1

theorem dv0_ge (j : Nat) (h1 : 1 ≤ j) : sc.go + sc.ge * (j : Int) ≤ dv0 sc cl j := edgeV_ge sc cl.yp j h1

end

/-- `best_i_score` -/
def bestI (r : Row) : Int := max (r.i + sc.ge) (r.s + sc.go + sc.ge)
/-- `best_d_score` (`pr` = same row of the previous column) -/
def bestD (pr : Row) : Int := max (pr.d + sc.ge) (pr.s + sc.go + sc.ge)

/-- `best_s_score` before it is stored: all six candidates -/
def bestS (j : Nat) (prev : List Row) (i : Nat) (r : Row) : Int :=
  max (cl.yp + sc.go + sc.ge * (i : Int))
    (max (cl.xp + max cl.yp (sc.go + sc.ge * (j : Int)))
      (max (bestD sc (prev.getD i default))
        (max (bestI sc r)
          (max ((prev.getD (i - 1) default).s + sc.w (x.getD (i - 1) 0) (y.getD (j - 1) 0))
            (if i = x.length then r.xm else minScore)))))

theorem bestS_ge_xclip (j : Nat) (prev : List Row) (i : Nat) (r : Row) :
    cl.xp + max cl.yp (sc.go + sc.ge * (j : Int)) ≤ bestS sc cl x y j prev i r :=
  Int.le_trans (Int.le_max_left _ _) (Int.le_max_right _ _)

theorem bestS_ge_bestD (j : Nat) (prev : List Row) (i : Nat) (r : Row) :
    bestD sc (prev.getD i default) ≤ bestS sc cl x y j prev i r :=
  Int.le_trans (Int.le_trans (Int.le_max_left _ _) (Int.le_max_right _ _)) (Int.le_max_right _ _)

theorem bestS_ge_bestI (j : Nat) (prev : List Row) (i : Nat) (r : Row) :
    bestI sc r ≤ bestS sc cl x y j prev i r :=
  Int.le_trans (Int.le_trans (Int.le_trans (Int.le_max_left _ _) (Int.le_max_right _ _)) (Int.le_max_right _ _))
    (Int.le_max_right _ _)

theorem bestS_ge_diag (j : Nat) (prev : List Row) (i : Nat) (r : Row) :
    (prev.getD (i - 1) default).s + sc.w (x.getD (i - 1) 0) (y.getD (j - 1) 0) ≤ bestS sc cl x y j prev i r :=
  Int.le_trans (Int.le_trans (Int.le_trans (Int.le_trans (Int.le_max_left _ _) (Int.le_max_right _ _))
    (Int.le_max_right _ _)) (Int.le_max_right _ _)) (Int.le_max_right _ _)

/-- with `xclip_suffix ≤ 0` the register update in row `m` leaves `best_s_score` in the cell -/
theorem cellS_eq {xs : Int} (hxs : xs ≤ 0) (b5 xm : Int) (i m : Nat) :
    (if i = m then max (b5 + xs) (if i = m then b5 else xm) else b5) = b5 := by
  split
  · exact Int.max_eq_right (by omega)
  · rfl

theorem stepJ_eq (j : Nat) (prev : List Row) (i : Nat) (r : Row) : stepJ sc cl x y j prev i r =
    let b5 := bestS sc cl x y j prev i r
    let xm2 := max (b5 + cl.xs) (if i = x.length then b5 else r.xm)
    let s := if i = x.length then xm2 else b5
    ⟨s, bestI sc r, bestD sc (prev.getD i default), max (s + cl.ys) (prev.getD i default).sn, xm2,
      (stepJ sc cl x y j prev i r).t⟩ := by
  refine Row.ext ?_ ?_ ?_ ?_ ?_ rfl <;> simp only [stepJ, bestS, bestI, bestD, upd_eq_max, ite_gt_eq_max]

theorem stepJ_eq_xs (hxs : cl.xs ≤ 0) (j : Nat) (prev : List Row) (i : Nat) (r : Row) : stepJ sc cl x y j prev i r =
    let b5 := bestS sc cl x y j prev i r
    ⟨b5, bestI sc r, bestD sc (prev.getD i default), max (b5 + cl.ys) (prev.getD i default).sn,
      max (b5 + cl.xs) (if i = x.length then b5 else r.xm), (stepJ sc cl x y j prev i r).t⟩ := by
  rw [stepJ_eq]
  simp only [cellS_eq hxs]

theorem post1Step_eq (col : List Row) (i : Nat) (p : PSt) : post1Step cl x col i p =
    let r := col.getD i default
    let s1 := max r.sn (if i = x.length then p.xm else r.s)
    let xm2 := max (s1 + cl.xs) (if i = x.length then s1 else p.xm)
    ⟨if i = x.length then xm2 else s1, xm2, (post1Step cl x col i p).iv, (post1Step cl x col i p).ts,
      (post1Step cl x col i p).ti, (post1Step cl x col i p).sm, (post1Step cl x col i p).lx⟩ := by
  refine PSt.ext ?_ ?_ rfl rfl rfl rfl rfl <;> simp only [post1Step, upd_eq_max]

/-! ### the post-loops and `fill`, entry by entry -/

theorem post1_getD_zero (col : List Row) :
    (post1 cl x col).getD 0 default = post1Step cl x col 0 (p1init x col) := by
  simp only [post1, iter_getD_zero]

theorem post1_getD_succ (col : List Row) (i : Nat) (hi : i + 1 ≤ x.length) :
    (post1 cl x col).getD (i + 1) default = post1Step cl x col (i + 1) ((post1 cl x col).getD i default) := by
  simp only [post1]
  rw [iter_getD_succ _ _ _ _ _ hi]

theorem post2_getD_zero (s1 : List PSt) :
    (post2 sc cl x s1).getD 0 default = p2init x s1 := by
  simp only [post2, iter_getD_zero]

theorem post2_getD_succ (s1 : List PSt) (i : Nat) (hi : i + 1 ≤ x.length) :
    (post2 sc cl x s1).getD (i + 1) default =
      post2Step sc cl x s1 (i + 1) ((post2 sc cl x s1).getD i default) := by
  simp only [post2]
  rw [iter_getD_succ _ _ _ _ _ hi]

/-- the last column after the first post-loop -/
def p1L : List PSt := post1 cl x (colAt sc cl x y y.length)

/-- the last column after the second post-loop -/
def p2L : List PSt := post2 sc cl x (p1L sc cl x y)

/-- row `i` of the last column after the first post-loop -/
def P1 (i : Nat) : PSt := (p1L sc cl x y).getD i default

/-- row `i` of the last column after the second post-loop -/
def P2 (i : Nat) : PSt := (p2L sc cl x y).getD i default

/-- the post-loop lemmas of `FillCells.lean` speak of `s1.getD i default` for any list `s1` -/
theorem p1L_getD (i : Nat) : (p1L sc cl x y).getD i default = P1 sc cl x y i := rfl

theorem P1_zero : P1 sc cl x y 0 = post1Step cl x (colAt sc cl x y y.length) 0 (p1init x (colAt sc cl x y y.length)) := by
  simp only [P1, p1L, post1_getD_zero]

theorem P1_succ (i : Nat) (hi : i + 1 ≤ x.length) :
    P1 sc cl x y (i + 1) = post1Step cl x (colAt sc cl x y y.length) (i + 1) (P1 sc cl x y i) := by
  simp only [P1, p1L, post1_getD_succ _ _ _ _ hi]

theorem P2_zero : P2 sc cl x y 0 = p2init x (p1L sc cl x y) := by
  simp only [P2, p2L, post2_getD_zero]

theorem P2_succ (i : Nat) (hi : i + 1 ≤ x.length) :
    P2 sc cl x y (i + 1) = post2Step sc cl x (p1L sc cl x y) (i + 1) (P2 sc cl x y i) := by
  simp only [P2, p2L, post2_getD_succ _ _ _ _ _ hi]

theorem allCols_getD (j : Nat) (hj : j ≤ y.length) : (allCols sc cl x y).getD j [] = colAt sc cl x y j := by
  induction j with
  | zero => simp only [allCols, iter_getD_zero, colAt]
  | succ j ih =>
    simp only [allCols] at ih ⊢
    rw [iter_getD_succ _ _ _ _ _ hj, ih (by omega), colAt]

theorem fill_score : (fill sc cl x y).score =
    ((post2 sc cl x (post1 cl x (colAt sc cl x y y.length))).getD x.length default).xm := by
  simp only [fill, allCols_getD sc cl x y y.length (Nat.le_refl _)]

end

end RbV.Model.PairwiseFill
