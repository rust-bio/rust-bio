import RbV.Model.QGramMatches
import RbV.Lemmas.QGramAssoc
/-! The model of `matches` reports exactly the records of `matchesRef`. Core Lean only. -/
namespace RbV.QGram

theorem foldl_min_eq {l : List Nat} {a : Nat} (h : ∀ x ∈ l, a ≤ x) : l.foldl min a = a := by
  induction l with
  | nil => rfl
  | cons b l ih =>
    simp only [List.foldl_cons]
    have : min a b = a := Nat.min_eq_left (h b (by simp))
    rw [this]; exact ih (fun x hx => h x (by simp [hx]))

theorem foldl_max_eq_getLast (l : List Nat) (a : Nat) (h : (a :: l).Pairwise (· ≤ ·)) :
    l.foldl max a = (a :: l).getLast (by simp) := by
  induction l generalizing a with
  | nil => rfl
  | cons b l ih =>
    rw [List.pairwise_cons] at h
    simp only [List.foldl_cons]
    have : max a b = b := Nat.max_eq_right (h.1 b (by simp))
    rw [this, ih b h.2]
    simp [List.getLast_cons]

def onDiag (d : Int) (H : List (Nat × Nat)) : List (Nat × Nat) := H.filter (fun h => diag h = d)

/-- first hit, last hit and number of hits of diagonal `d`, in list order -/
def summary (q : Nat) (H : List (Nat × Nat)) (d : Int) : Option MatchRec :=
  match onDiag d H with
  | [] => none
  | h0 :: rest =>
    let hl := (h0 :: rest).getLast (by simp)
    some (h0.1, hl.1 + q, h0.2, hl.2 + q, (h0 :: rest).length)

theorem onDiag_append (d : Int) (H : List (Nat × Nat)) (h : Nat × Nat) :
    onDiag d (H ++ [h]) = onDiag d H ++ (if diag h = d then [h] else []) := by
  unfold onDiag
  rw [List.filter_append]
  congr 1
  simp only [List.filter]
  split <;> rename_i hh <;> simp at hh <;> simp [hh]

theorem summary_snoc (q : Nat) (H : List (Nat × Nat)) (h : Nat × Nat) (d : Int) :
    summary q (H ++ [h]) d =
      if d = diag h then
        (match summary q H d with
         | none => some (fresh q h)
         | some r => some (bump q h r))
      else summary q H d := by
  unfold summary
  rw [onDiag_append]
  by_cases hd : d = diag h
  · subst hd
    simp only [if_true]
    cases hH : onDiag (diag h) H with
    | nil => simp [fresh]
    | cons h0 rest =>
      simp only [List.cons_append, bump]
      congr 1
      simp [List.getLast_cons]
  · rw [if_neg hd, if_neg fun e => hd e.symm, List.append_nil]

/-- the table represents the hits seen so far -/
def Represents (q : Nat) (T : List (Int × MatchRec)) (H : List (Nat × Nat)) : Prop :=
  (∀ d, assocGet d T = summary q H d) ∧ (AKeys T).Pairwise (· ≠ ·)

theorem represents_step (q : Nat) (T : List (Int × MatchRec)) (H : List (Nat × Nat)) (h : Nat × Nat)
    (hr : Represents q T H) : Represents q (matchesStep q T h) (H ++ [h]) := by
  obtain ⟨hl, hk⟩ := hr
  unfold matchesStep
  rw [lookupD_eq_assocGet]
  cases hlook : assocGet (diag h) T with
  | none =>
    simp only
    constructor
    · intro d
      rw [assocGet_append d T _ hlook, summary_snoc, hl d]
      split
      · next e => rw [e, ← hl, hlook]
      · rfl
    · exact akeys_append hk hlook _
  | some r0 =>
    simp only
    constructor
    · intro d
      rw [assocGet_map, summary_snoc, ← hl d]
      split
      · next e => rw [e, hlook]; rfl
      · rfl
    · rw [akeys_map]; exact hk

theorem represents_foldl (q : Nat) (H : List (Nat × Nat)) :
    ∀ (T : List (Int × MatchRec)) (H0 : List (Nat × Nat)), Represents q T H0 →
      Represents q (H.foldl (matchesStep q) T) (H0 ++ H) := by
  induction H with
  | nil => intro T H0 h; simpa using h
  | cons h H ih =>
    intro T H0 hr
    simp only [List.foldl_cons]
    have := ih (matchesStep q T h) (H0 ++ [h]) (represents_step q T H0 h hr)
    simpa using this

theorem represents_nil (q : Nat) : Represents q [] [] := by
  constructor
  · intro d; simp [assocGet, summary, onDiag]
  · simp [AKeys]

/-- on one diagonal of a list sorted by pattern position, the first hit has the least and the last hit the greatest
pattern and text positions -/
theorem summary_eq_diagRec (q : Nat) (H : List (Nat × Nat)) (hs : H.Pairwise (fun a b => a.1 ≤ b.1)) (d : Int)
    (hne : onDiag d H ≠ []) : summary q H d = some (diagRec q H d) := by
  unfold summary diagRec
  have hsd : (onDiag d H).Pairwise (fun a b => a.1 ≤ b.1) := List.Pairwise.sublist List.filter_sublist hs
  have hdiag : ∀ h ∈ onDiag d H, diag h = d := by
    intro h hh
    have := (List.mem_filter.mp hh).2
    simpa using this
  have hsd2 : (onDiag d H).Pairwise (fun a b => a.2 ≤ b.2) := by
    have : (onDiag d H).Pairwise (fun a b => a.1 ≤ b.1 ∧ diag a = d ∧ diag b = d) := by
      rw [List.pairwise_iff_forall_sublist] at hsd ⊢
      intro a b hab
      have ha : a ∈ onDiag d H := hab.subset (by simp)
      have hb : b ∈ onDiag d H := hab.subset (by simp)
      exact ⟨hsd hab, hdiag a ha, hdiag b hb⟩
    apply this.imp
    rintro a b ⟨h1, h2, h3⟩
    unfold diag at h2 h3
    omega
  change (match onDiag d H with
    | [] => none
    | h0 :: rest => some (h0.1, ((h0 :: rest).getLast (by simp)).1 + q, h0.2, ((h0 :: rest).getLast (by simp)).2 + q, (h0 :: rest).length)) = _
  unfold onDiag at hne hsd hsd2 ⊢
  cases hH : H.filter (fun h => diag h = d) with
  | nil => exact absurd hH hne
  | cons h0 rest =>
    rw [hH] at hsd hsd2
    simp only [List.map_cons, minList, maxList, List.length_cons]
    have p1 : ((h0 :: rest).map (·.1)).Pairwise (· ≤ ·) := by rw [List.pairwise_map]; exact hsd
    have p2 : ((h0 :: rest).map (·.2)).Pairwise (· ≤ ·) := by rw [List.pairwise_map]; exact hsd2
    simp only [List.map_cons] at p1 p2
    rw [foldl_min_eq (fun x hx => (List.pairwise_cons.mp p1).1 x hx),
      foldl_min_eq (fun x hx => (List.pairwise_cons.mp p2).1 x hx),
      foldl_max_eq_getLast _ _ p1, foldl_max_eq_getLast _ _ p2]
    have g1 : (h0.1 :: rest.map (·.1)).getLast (by simp) = ((h0 :: rest).getLast (by simp)).1 := by
      have := List.getLast_map (f := (·.1)) (l := h0 :: rest) (by simp)
      simpa using this
    have g2 : (h0.2 :: rest.map (·.2)).getLast (by simp) = ((h0 :: rest).getLast (by simp)).2 := by
      have := List.getLast_map (f := (·.2)) (l := h0 :: rest) (by simp)
      simpa using this
    rw [g1, g2]

theorem mem_dedupInt (a : Int) (l : List Int) : a ∈ dedupInt l ↔ a ∈ l := by
  induction l with
  | nil => simp [dedupInt]
  | cons b l ih =>
    simp only [dedupInt, List.mem_cons, List.mem_filter, ih]
    constructor
    · rintro (h | ⟨h, _⟩)
      · left; exact h
      · right; exact h
    · rintro (h | h)
      · left; exact h
      · by_cases hab : a = b
        · left; exact hab
        · right; exact ⟨h, by simpa using hab⟩

/-- **the model of `matches` and the reference report the same records** -/
theorem matchesModel_mem_iff (mc q minc : Nat) (pat text : List Nat) (r : MatchRec) :
    r ∈ matchesModel mc q minc pat text ↔ r ∈ matchesRef mc q minc pat text := by
  unfold matchesModel matchesRef
  simp only
  have hrep := represents_foldl q (hits mc q pat text) [] [] (represents_nil q)
  simp only [List.nil_append] at hrep
  obtain ⟨hl, hk⟩ := hrep
  have hs := hits_fst_sorted mc q pat text
  simp only [List.mem_filter, List.mem_map]
  constructor
  · rintro ⟨⟨⟨d, r'⟩, hmem, rfl⟩, hc⟩
    have h1 := (mem_iff_assocGet hk d r').mp hmem
    rw [hl d] at h1
    have hne : onDiag d (hits mc q pat text) ≠ [] := by
      intro h0; unfold summary at h1; rw [h0] at h1; cases h1
    rw [summary_eq_diagRec q _ hs d hne] at h1
    simp only [Option.some.injEq] at h1
    refine ⟨⟨d, ?_, h1⟩, hc⟩
    rw [mem_dedupInt]
    obtain ⟨h, hh⟩ := List.exists_mem_of_ne_nil _ hne
    have := List.mem_filter.mp hh
    exact List.mem_map.mpr ⟨h, this.1, by simpa using this.2⟩
  · rintro ⟨⟨d, hd, rfl⟩, hc⟩
    rw [mem_dedupInt] at hd
    rcases List.mem_map.mp hd with ⟨h, hh, hdiag⟩
    have hne : onDiag d (hits mc q pat text) ≠ [] := by
      intro h0
      have : h ∈ onDiag d (hits mc q pat text) := List.mem_filter.mpr ⟨hh, by simpa using hdiag⟩
      rw [h0] at this; cases this
    have h1 := summary_eq_diagRec q _ hs d hne
    rw [← hl d] at h1
    exact ⟨⟨(d, diagRec q (hits mc q pat text) d), (mem_iff_assocGet hk d _).mpr h1, rfl⟩, hc⟩

end RbV.QGram
