import RbV.Lemmas.SdpkppSweep
/-! C19 — `sdpkpp_union_lcskpp_path`: splicing the `sdpkpp` chain into the `lcskpp` chain at common matches gives a valid
chain.  Core Lean only. -/
namespace RbV.Lemmas.Sdpkpp
open RbV.KChain RbV.Model.Lcskpp RbV.Model.Sdpkpp RbV.QGram RbV.Lemmas.Lcskpp

/-- replace what follows a common element on the left chain -/
theorem chain_splice_left {k : Nat} {A B S : List M} {x : M} (h1 : Chain k (A ++ x :: B)) (h2 : Chain k (x :: S)) :
    Chain k (A ++ x :: S) := by
  rw [chain_append] at h1 ⊢
  exact ⟨h1.1, h2, by simpa using h1.2.2⟩

/-- replace what precedes a common element on the right chain -/
theorem chain_splice_right {k : Nat} {S A C : List M} {x : M} (h1 : Chain k (S ++ [x])) (h2 : Chain k (A ++ x :: C)) :
    Chain k (S ++ x :: C) := by
  rw [chain_append] at h1 h2 ⊢
  exact ⟨h1.1, h2.2.1, by simpa using h1.2.2⟩

theorem findIdx_eq (key i : Nat) (l : List Nat) : findIdx key i l = findG key i l := by
  induction l generalizing i with
  | nil => rfl
  | cons a r ih => simp only [findIdx, findG, ih]

theorem findIdx_split {key : Nat} {l : List Nat} {i0 c : Nat} (h : findIdx key i0 l = some c) :
    ∃ j, c = i0 + j ∧ l = l.take j ++ key :: l.drop (j + 1) := by
  rw [findIdx_eq] at h
  obtain ⟨j, hc, hj⟩ := findG_some h
  obtain ⟨hlt, he⟩ := List.getElem?_eq_some_iff.mp hj
  exact ⟨j, hc, by rw [← he, ← List.drop_eq_getElem_cons hlt, List.take_append_drop]⟩

theorem union_valid (ms : List M) (k : Nat) (lp sp : List Nat) (hl : validChain ms k lp = true)
    (hs : validChain ms k sp = true) (first last : Nat) (hf : sp.head? = some first) (hla : sp.getLast? = some last) :
    validChain ms k (lp.take ((findIdx first 0 lp).getD 0) ++ sp ++
      lp.drop (match findIdx last 0 lp with | some ind => ind + 1 | none => lp.length)) = true := by
  rw [validChain_iff_chain] at hl hs ⊢
  obtain ⟨sp', hsp'⟩ := List.head?_eq_some_iff.mp hf
  obtain ⟨sp0, hsp0⟩ := List.getLast?_eq_some_iff.mp hla
  constructor
  · intro i hi
    rcases List.mem_append.mp hi with hi | hi
    · rcases List.mem_append.mp hi with hi | hi
      · exact hl.1 i (List.mem_of_mem_take hi)
      · exact hs.1 i hi
    · exact hl.1 i (List.mem_of_mem_drop hi)
  · -- step 1: prefix of the lcskpp chain ++ sdpkpp chain
    have step1 : Chain k ((lp.take ((findIdx first 0 lp).getD 0) ++ sp).map (mAt ms)) := by
      cases hfi : findIdx first 0 lp with
      | none => simpa using hs.2
      | some i =>
        obtain ⟨j, hij, hsplit⟩ := findIdx_split hfi
        have hij' : i = j := by omega
        subst hij'
        simp only [Option.getD_some]
        have hL := hl.2
        rw [hsplit] at hL
        have hS := hs.2
        rw [hsp'] at hS ⊢
        simp only [List.map_append, List.map_cons] at hL hS ⊢
        exact chain_splice_left hL hS
    -- step 2: ++ suffix of the lcskpp chain
    cases hla' : findIdx last 0 lp with
    | none => simpa using step1
    | some i =>
      obtain ⟨j, hij, hsplit⟩ := findIdx_split hla'
      have hij' : i = j := by omega
      subst hij'
      simp only
      have hL := hl.2
      rw [hsplit] at hL
      rw [hsp0] at step1 ⊢
      simp only [List.map_append, List.map_cons, List.map_nil, ← List.append_assoc] at hL step1 ⊢
      have := chain_splice_right step1 hL
      simpa [List.append_assoc] using this

theorem exists_head_getLast {α : Type} {l : List α} (h : l ≠ []) : ∃ a b, l.head? = some a ∧ l.getLast? = some b := by
  cases l with
  | nil => exact absurd rfl h
  | cons a t => exact ⟨a, (a :: t).getLast (by simp), rfl, List.getLast?_eq_some_getLast _⟩

theorem unionPath_model_ok {ms : List M} {k : Nat} (msc go ge : Nat) (hk : 0 < k) (hs : ms.Pairwise lexLt) :
    ∃ u, unionPath ms k msc go ge = .ok u ∧ validChain ms k u = true := by
  cases hms : ms with
  | nil => exact ⟨[], by simp [unionPath], by simp [validChain, pathMatches, chainB]⟩
  | cons m0 rest =>
    rw [← hms]
    have hne : ms ≠ [] := by rw [hms]; simp
    have hemp : ms.isEmpty = false := by rw [hms]; rfl
    obtain ⟨l, hl, _, hlv, _⟩ := lcskpp_model_ok hk hs
    obtain ⟨r, hr, hrv, hrne, _⟩ := sdpkpp_model_ok msc go ge hk hs
    have hpne := hrne hne
    obtain ⟨first, last, hf, hla⟩ := exists_head_getLast hpne
    refine ⟨_, ?_, union_valid ms k l.path r.path hlv hrv first last hf hla⟩
    unfold unionPath
    simp only [hemp, Bool.false_eq_true, if_false, hl, hr, hf, hla]
    rfl

end RbV.Lemmas.Sdpkpp
