import RbV.Model.BitEnc
/-
Bit-level lemmas about the `BitEnc` model (`RbV.Model.BitEnc`): slots of a 32-bit block,
the masked read-modify-write `rmw`, and the replicated `valueBlock`.  Core Lean only.
-/
namespace RbV.Lemmas.BitEncBits
open RbV.Model.BitEnc

/-- value stored in slot `s` of block `x` -/
def slot (w x s : Nat) : Nat := (x >>> (s * w)) &&& mask w

theorem mask_eq (w : Nat) : mask w = 2 ^ w - 1 := by
  unfold mask; rw [Nat.one_shiftLeft]

/-- a mask of at most 8 bits fits a byte -/
theorem mask_le (w : Nat) (hw : w ≤ 8) : mask w ≤ 255 := by
  rw [mask_eq]
  have : 2 ^ w ≤ 2 ^ 8 := Nat.pow_le_pow_right (by omega) hw
  omega

theorem usable_eq (w : Nat) : usable w = 32 / w * w := by
  unfold usable
  have h := Nat.div_add_mod 32 w
  have h2 : w * (32 / w) = 32 / w * w := Nat.mul_comm _ _
  omega

theorem usable_pos (w : Nat) (hw : 1 ≤ w ∧ w ≤ 8) : 0 < usable w := by
  unfold usable
  have := Nat.mod_lt 32 (show w > 0 by omega)
  omega

theorem usable_le (w : Nat) : usable w ≤ 32 := by unfold usable; omega


theorem testBit_mask (w i : Nat) : (mask w).testBit i = decide (i < w) := by
  rw [mask_eq, Nat.testBit_two_pow_sub_one]

theorem testBit_slot (w y s k : Nat) :
    (slot w y s).testBit k = (decide (k < w) && y.testBit (s * w + k)) := by
  unfold slot
  rw [Nat.testBit_and, Nat.testBit_shiftRight, testBit_mask, Bool.and_comm]

theorem slot_lt (w x s : Nat) : slot w x s < 2 ^ w := by
  unfold slot
  rw [mask_eq, Nat.and_two_pow_sub_one_eq_mod]
  exact Nat.mod_lt _ (Nat.two_pow_pos w)

theorem slot_bound (w s : Nat) (hs : s < 32 / w) : s * w + w ≤ 32 := by
  have h1 : (s + 1) * w ≤ 32 / w * w := Nat.mul_le_mul_right w hs
  have h2 : 32 / w * w ≤ 32 := Nat.div_mul_le_self 32 w
  rw [Nat.succ_mul] at h1
  omega

theorem slot_sep (w s s' : Nat) (h : s < s') : s * w + w ≤ s' * w := by
  have h1 : (s + 1) * w ≤ s' * w := Nat.mul_le_mul_right w h
  rw [Nat.succ_mul] at h1
  exact h1

theorem testBit_shl_mod (x s i : Nat) :
    ((x <<< s) % U32).testBit i = (decide (s ≤ i ∧ i < 32) && x.testBit (i - s)) := by
  unfold U32
  rw [Nat.testBit_mod_two_pow, Nat.testBit_shiftLeft]
  by_cases h1 : i < 32 <;> by_cases h2 : s ≤ i <;> simp [h1, h2]

theorem decide_window (s w i : Nat) :
    (decide (s ≤ i ∧ i < 32) && decide (i - s < w)) = decide (s ≤ i ∧ i < s + w ∧ i < 32) := by
  rw [← Bool.decide_and]
  exact decide_eq_decide.mpr (by omega)

theorem testBit_maskShift (w bit i : Nat) :
    ((mask w <<< bit) % U32).testBit i = decide (bit ≤ i ∧ i < bit + w ∧ i < 32) := by
  rw [testBit_shl_mod, testBit_mask, decide_window]

theorem testBit_valShift (w bit v i : Nat) :
    (((v &&& mask w) <<< bit) % U32).testBit i
      = (decide (bit ≤ i ∧ i < bit + w ∧ i < 32) && v.testBit (i - bit)) := by
  rw [testBit_shl_mod, Nat.testBit_and, testBit_mask, Bool.and_comm (v.testBit _), ← Bool.and_assoc, decide_window]

theorem testBit_rmw (w x bit v i : Nat) :
    (rmw w x bit v).testBit i
      = if bit ≤ i ∧ i < bit + w ∧ i < 32 then v.testBit (i - bit) else x.testBit i := by
  unfold rmw
  simp only [Nat.testBit_or, Nat.testBit_xor, testBit_maskShift, testBit_valShift]
  by_cases h : bit ≤ i ∧ i < bit + w ∧ i < 32
  · simp [h]
  · simp [h]


theorem slot_rmw_same (w x s v : Nat) (hs : s < 32 / w) :
    slot w (rmw w x (s * w) v) s = v % 2 ^ w := by
  have hb := slot_bound w s hs
  apply Nat.eq_of_testBit_eq
  intro k
  rw [testBit_slot, testBit_rmw, Nat.testBit_mod_two_pow]
  by_cases hk : k < w
  · have hc : s * w ≤ s * w + k ∧ s * w + k < s * w + w ∧ s * w + k < 32 := by omega
    rw [if_pos hc, Nat.add_sub_cancel_left]
  · simp [hk]

/-- the other slots of the block are untouched (no bound on `x` needed: bits ≥ 32 are neither
written nor read) -/
theorem slot_rmw_other (w x s s' v : Nat) (hne : s ≠ s') :
    slot w (rmw w x (s * w) v) s' = slot w x s' := by
  apply Nat.eq_of_testBit_eq
  intro k
  rw [testBit_slot, testBit_slot, testBit_rmw]
  by_cases hk : k < w
  · have hc : ¬ (s * w ≤ s' * w + k ∧ s' * w + k < s * w + w ∧ s' * w + k < 32) := by
      rcases Nat.lt_or_gt_of_ne hne with h | h
      · have := slot_sep w s s' h; omega
      · have := slot_sep w s' s h; omega
    rw [if_neg hc]
  · simp [hk]

theorem rmw_lt (w x bit v : Nat) (hx : x < U32) : rmw w x bit v < U32 := by
  unfold rmw
  have hpos : 0 < U32 := Nat.two_pow_pos 32
  have hm : (mask w <<< bit) % U32 < 2 ^ 32 := Nat.mod_lt _ hpos
  have hv : ((v &&& mask w) <<< bit) % U32 < 2 ^ 32 := Nat.mod_lt _ hpos
  have hx' : x < 2 ^ 32 := hx
  show _ < 2 ^ 32
  exact Nat.or_lt_two_pow (Nat.xor_lt_two_pow (Nat.or_lt_two_pow hx' hm) hm) hv


theorem valueBlockLoop_acc (w : Nat) : ∀ (k v acc : Nat),
    valueBlockLoop w k v acc = acc ||| valueBlockLoop w k v 0 := by
  intro k
  induction k with
  | zero => intro v acc; simp [valueBlockLoop]
  | succ k ih =>
    intro v acc
    rw [valueBlockLoop, valueBlockLoop, ih _ (acc ||| v), ih _ (0 ||| v), Nat.zero_or, Nat.or_assoc]

/-- the `j`-th iterate of the loop variable `v` -/
def vshift (w v j : Nat) : Nat := ((v % 2 ^ w) <<< (j * w)) % U32

theorem testBit_vshift (w v j i : Nat) :
    (vshift w v j).testBit i
      = (decide (j * w ≤ i ∧ i < j * w + w ∧ i < 32) && v.testBit (i - j * w)) := by
  unfold vshift
  rw [testBit_shl_mod, Nat.testBit_mod_two_pow, ← Bool.and_assoc, decide_window]

theorem shl_mod_shl (x a b : Nat) : (((x <<< a) % U32) <<< b) % U32 = (x <<< (a + b)) % U32 := by
  apply Nat.eq_of_testBit_eq
  intro i
  rw [testBit_shl_mod, testBit_shl_mod, testBit_shl_mod, ← Bool.and_assoc, ← Bool.decide_and, Nat.sub_sub,
    Nat.add_comm b a]
  congr 1
  exact decide_eq_decide.mpr (by omega)

theorem vshift_succ (w v j : Nat) : (vshift w v j <<< w) % U32 = vshift w v (j + 1) := by
  unfold vshift
  rw [shl_mod_shl, Nat.succ_mul]

theorem vshift_zero (w v : Nat) (hw : 1 ≤ w ∧ w ≤ 8) : vshift w v 0 = v &&& mask w := by
  unfold vshift
  rw [Nat.zero_mul, Nat.shiftLeft_zero, mask_eq, Nat.and_two_pow_sub_one_eq_mod]
  apply Nat.mod_eq_of_lt
  have h1 : v % 2 ^ w < 2 ^ w := Nat.mod_lt _ (Nat.two_pow_pos w)
  have h2 : 2 ^ w ≤ 2 ^ 32 := Nat.pow_le_pow_right (by omega) (by omega)
  exact Nat.lt_of_lt_of_le h1 h2

theorem mod_of_window (t w i : Nat) (h1 : t * w ≤ i) (h2 : i < t * w + w) : i % w = i - t * w :=
  calc i % w = (t * w + (i - t * w)) % w := by rw [Nat.add_sub_cancel' h1]
    _ = (i - t * w) % w := Nat.mul_add_mod_self_right ..
    _ = i - t * w := Nat.mod_eq_of_lt (by omega)

theorem testBit_valueBlockLoop (w v i : Nat) : ∀ (k j : Nat), j + k ≤ 32 / w →
    (valueBlockLoop w k (vshift w v j) 0).testBit i = (decide (j * w ≤ i ∧ i < (j + k) * w) && v.testBit (i % w)) := by
  intro k
  induction k with
  | zero =>
    intro j _
    have hc : ¬ (j * w ≤ i ∧ i < (j + 0) * w) := by rw [Nat.add_zero]; omega
    rw [valueBlockLoop, Nat.zero_testBit, decide_eq_false hc, Bool.false_and]
  | succ k ih =>
    intro j hjk
    have hb := slot_bound w j (by omega)
    rw [valueBlockLoop, vshift_succ, Nat.zero_or, valueBlockLoop_acc, Nat.testBit_or, ih (j + 1) (by omega), testBit_vshift,
      show j + 1 + k = j + (k + 1) by omega, Nat.succ_mul]
    have hk : (j + (k + 1)) * w = j * w + w + k * w := by rw [Nat.add_mul, Nat.succ_mul]; omega
    by_cases hwin : j * w ≤ i ∧ i < j * w + w
    · rw [decide_eq_true (show j * w ≤ i ∧ i < j * w + w ∧ i < 32 by omega), decide_eq_false (by omega),
        decide_eq_true (by omega), mod_of_window j w i hwin.1 hwin.2]
      simp
    · rw [decide_eq_false (show ¬ (j * w ≤ i ∧ i < j * w + w ∧ i < 32) by omega), Bool.false_and, Bool.false_or]
      congr 2
      exact propext (by omega)

theorem testBit_valueBlock (w v i : Nat) (hw : 1 ≤ w ∧ w ≤ 8) :
    (valueBlock w v).testBit i = (decide (i < 32 / w * w) && v.testBit (i % w)) := by
  unfold valueBlock
  rw [← vshift_zero w v hw, testBit_valueBlockLoop w v i (32 / w) 0 (by omega), Nat.zero_mul, Nat.zero_add]
  simp

/-- the low `t` slots of the replicated block: what `t` pushes of `v` into a fresh block leave (`rmw_partBlock`), and the
partial last block `push_values` writes -/
def partBlock (w v t : Nat) : Nat := valueBlock w v >>> ((32 / w - t) * w)

theorem testBit_partBlock (w v t i : Nat) (hw : 1 ≤ w ∧ w ≤ 8) (ht : t ≤ 32 / w) :
    (partBlock w v t).testBit i = (decide (i < t * w) && v.testBit (i % w)) := by
  have := Nat.mul_le_mul_right w ht
  rw [partBlock, Nat.testBit_shiftRight, testBit_valueBlock w v _ hw, Nat.mul_add_mod_self_right, Nat.sub_mul]
  congr 2
  exact propext (by omega)

theorem partBlock_zero (w v : Nat) (hw : 1 ≤ w ∧ w ≤ 8) : partBlock w v 0 = 0 := by
  apply Nat.eq_of_testBit_eq
  intro i
  rw [testBit_partBlock w v 0 i hw (Nat.zero_le _), Nat.zero_mul, Nat.zero_testBit]
  simp

theorem partBlock_full (w v : Nat) : partBlock w v (32 / w) = valueBlock w v := by
  rw [partBlock, Nat.sub_self, Nat.zero_mul, Nat.shiftRight_zero]

theorem rmw_partBlock (w v t : Nat) (hw : 1 ≤ w ∧ w ≤ 8) (ht : t < 32 / w) :
    rmw w (partBlock w v t) (t * w) v = partBlock w v (t + 1) := by
  have hb := slot_bound w t ht
  apply Nat.eq_of_testBit_eq
  intro i
  rw [testBit_rmw, testBit_partBlock w v t i hw (by omega), testBit_partBlock w v (t + 1) i hw (by omega), Nat.succ_mul]
  by_cases hwin : t * w ≤ i ∧ i < t * w + w
  · rw [if_pos (by omega), decide_eq_true (by omega), mod_of_window t w i hwin.1 hwin.2, Bool.true_and]
  · rw [if_neg (by omega)]
    congr 2
    exact propext (by omega)

theorem slot_valueBlock (w v s : Nat) (hw : 1 ≤ w ∧ w ≤ 8) (hs : s < 32 / w) :
    slot w (valueBlock w v) s = v % 2 ^ w := by
  have hb : (s + 1) * w ≤ 32 / w * w := Nat.mul_le_mul_right w hs
  rw [Nat.succ_mul] at hb
  apply Nat.eq_of_testBit_eq
  intro k
  rw [testBit_slot, testBit_valueBlock w v _ hw, Nat.testBit_mod_two_pow]
  by_cases hk : k < w
  · rw [mod_of_window s w _ (Nat.le_add_right _ _) (by omega), Nat.add_sub_cancel_left, decide_eq_true (show s * w + k < 32 / w * w by omega),
      Bool.true_and]
  · simp [hk]

end RbV.Lemmas.BitEncBits
