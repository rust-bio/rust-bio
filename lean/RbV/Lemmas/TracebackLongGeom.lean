import RbV.Model.MyersTracebackLong
import RbV.Lemmas.MyersBlockGeom
import RbV.Lemmas.TracebackState
/-!
Block addressing of the block-based Myers traceback (`long.rs: LongTracebackHandler`) (C10, block-based handler).
Core Lean only.

A pattern of `m` symbols is cut into `nb` blocks of `w` rows, the last one of `m − (nb − 1)·w ∈ 1..w` rows (`Geo`,
`Lemmas/MyersBlockGeom.lean`).  Row index `i` (the vertical difference between matrix rows `i` and `i + 1`) lives in block
`B`, bit `b`, with `i = B·w + b`.
This file has the arithmetic of this addressing, the bit tests the handler uses to detect a block boundary
(`pos_bitvec != 1`, `left_mask & 0b10 == 0`, `left_mask != 0`, `mv & 1 == 1`) and the `u64` version of `adjust_by_mask`.
-/
namespace RbV.Model.MyersTracebackLong
open RbV.Model.MyersSimple (St)
open RbV.Model.MyersTraceback

/-! ### geometry -/

theorem Geo.len_pos {w nb m : Nat} (g : Geo w nb m) (B : Nat) : 1 ≤ lenB w nb m B := by
  unfold lenB; have := g.lo; have := g.hw; split <;> omega

theorem Geo.len_le {w nb m : Nat} (g : Geo w nb m) (B : Nat) : lenB w nb m B ≤ w := by
  unfold lenB; have := g.hi; split <;> omega

theorem lenB_inner {w nb m : Nat} (B : Nat) (h : B + 1 < nb) : lenB w nb m B = w := by
  unfold lenB; rw [if_neg (by omega)]

theorem Geo.block_end_le {w nb m : Nat} (g : Geo w nb m) (B : Nat) (hB : B < nb) : B * w + lenB w nb m B ≤ m := by
  unfold lenB
  have h1 := g.lo
  split
  · rename_i h
    have : B = nb - 1 := by omega
    subst this; omega
  · have := succ_mul_le_of_lt B (nb - 1) w (by omega)
    omega

theorem Geo.last_end {w nb m : Nat} (g : Geo w nb m) : (nb - 1) * w + lenB w nb m (nb - 1) = m := by
  unfold lenB
  have h1 := g.lo
  have h2 := g.hnb
  rw [if_pos (by omega)]
  omega

theorem Geo.inner_end {w nb m : Nat} (g : Geo w nb m) (B : Nat) (h : B + 1 < nb) :
    B * w + lenB w nb m B = (B + 1) * w := by
  rw [lenB_inner B h, Nat.succ_mul]

/-- row index `B·w + b` (bit `b` of block `B`) is below the first `L` blocks iff `B < L` -/
theorem Geo.row_in_iff {w nb m : Nat} (g : Geo w nb m) (B b L : Nat) (hB : B < nb) (hb : b < lenB w nb m B) :
    B * w + b + 1 ≤ rowsL w nb m L ↔ B < L := by
  have hend := g.block_end_le B hB
  have hlw := g.len_le B
  unfold rowsL
  split
  · omega
  · constructor
    · intro h
      apply Nat.lt_of_not_le
      intro hle
      have := Nat.mul_le_mul_right w hle
      omega
    · intro h
      have := succ_mul_le_of_lt B L w h
      omega

theorem Geo.rows_le {w nb m : Nat} (g : Geo w nb m) (L : Nat) (hL : L ≤ nb) : rowsL w nb m L ≤ m := by
  unfold rowsL
  split
  · omega
  · have := succ_mul_le_of_lt L nb w (by omega)
    have h1 := g.lo
    have h2 := g.hnb
    obtain ⟨n, rfl⟩ := Nat.exists_eq_add_of_le' h2
    simp only [Nat.add_sub_cancel] at h1
    have := Nat.mul_le_mul_right w (show L ≤ n by omega)
    omega

/-- the left cursor `B·w + a` with `a ≥ 1`: its row is within the first `L` blocks iff `B < L` -/
theorem Geo.lrow_in_iff {w nb m : Nat} (g : Geo w nb m) (B a L : Nat) (hB : B < nb) (ha1 : 1 ≤ a)
    (ha : a ≤ lenB w nb m B) : B * w + a ≤ rowsL w nb m L ↔ B < L := by
  have := g.row_in_iff B (a - 1) L hB (by omega)
  rw [← this]
  omega

/-- `last_m` of `LongTracebackHandler::new` -/
theorem Geo.lastM {w nb m : Nat} (g : Geo w nb m) :
    (if m % w = 0 then w else m % w) = lenB w nb m (nb - 1) := by
  have h1 := g.lo
  have h2 := g.hi
  have h3 := g.hw
  have h4 := g.hnb
  have hl : lenB w nb m (nb - 1) = m - (nb - 1) * w := by
    unfold lenB; rw [if_pos (by omega)]
  rw [hl]
  have hc := Nat.mul_comm w (nb - 1)
  have e : m = (m - (nb - 1) * w) + w * (nb - 1) := by omega
  by_cases hfull : m - (nb - 1) * w = w
  · have h0 : m % w = 0 := by
      rw [e, Nat.add_mul_mod_self_left, hfull, Nat.mod_self]
    rw [if_pos h0, hfull]
  · have hm : m % w = m - (nb - 1) * w := by
      conv => lhs; rw [e]
      rw [Nat.add_mul_mod_self_left, Nat.mod_eq_of_lt (by omega)]
    rw [hm, if_neg (by omega)]

/-- right cursor (block `B`, bit `b`) and left cursor (block `BL`, local row `a`) on the same global row: either the same
block, or the right cursor is at the first bit of the block below the left one -/
theorem cursor_cases (w B b BL a : Nat) (hb : b < w) (ha : a ≤ w)
    (h : B * w + b = BL * w + a) : (BL = B ∧ a = b) ∨ (b = 0 ∧ B = BL + 1 ∧ a = w) := by
  rcases Nat.lt_trichotomy BL B with hlt | heq | hgt
  · right
    have h1 := succ_mul_le_of_lt BL B w hlt
    refine ⟨by omega, ?_, by omega⟩
    apply Nat.le_antisymm
    · apply Nat.le_of_not_lt
      intro h2
      have h3 := succ_mul_le_of_lt (BL + 1) B w h2
      rw [Nat.succ_mul] at h3
      omega
    · omega
  · left; subst heq; omega
  · have h1 := succ_mul_le_of_lt B BL w hgt
    omega

/-! ### bit tests -/

theorem twoPow_eq_one_iff {w b : Nat} (hb : b < w) : BitVec.twoPow w b = 1#w ↔ b = 0 := by
  constructor
  · intro h
    have := congrArg (fun x => x.getLsbD b) h
    simp only [BitVec.getLsbD_twoPow, BitVec.getLsbD_one] at this
    simp [hb] at this
    omega
  · intro h; subst h; simp [BitVec.twoPow]

/-- `pos_bitvec != 1 || block_pos == 0` -/
theorem pos_test {w b : Nat} (hb : b < w) (B : Nat) :
    ((BitVec.twoPow w b != 1#w) || B == 0) = decide (b ≠ 0 ∨ B = 0) := by
  rw [Bool.eq_iff_iff]
  simp only [Bool.or_eq_true, bne_iff_ne, ne_eq, beq_iff_eq, decide_eq_true_eq, twoPow_eq_one_iff hb]

theorem ofNat_two {w : Nat} : BitVec.ofNat w 0b10 = BitVec.twoPow w 1 := by
  apply BitVec.eq_of_toNat_eq
  simp [BitVec.toNat_twoPow]

/-- `left_mask & 0b10 == 0` -/
theorem bit1_test {w : Nat} (hw : 2 ≤ w) (x : BitVec w) :
    ((x &&& BitVec.ofNat w 0b10) == 0#w) = !x.getLsbD 1 := by
  have := test_twoPow x 1 (by omega)
  rw [ofNat_two]
  rw [← this]
  cases h : (x &&& BitVec.twoPow w 1) == 0#w <;> simp [bne, h]

/-- `b.mv & 1 == 1` -/
theorem bit0_test {w : Nat} (hw : 1 ≤ w) (x : BitVec w) : ((x &&& 1#w) == 1#w) = x.getLsbD 0 := by
  have e : (1#w) = BitVec.twoPow w 0 := by simp [BitVec.twoPow]
  rw [e, BitVec.and_twoPow]
  cases h : x.getLsbD 0
  · simp only [Bool.false_eq_true, if_false]
    apply beq_false_of_ne
    exact (twoPow_ne_zero (by omega)).symm
  · simp

theorem mask_ne_zero {w : Nat} (mask : BitVec w) (a len : Nat)
    (h : ∀ b, mask.getLsbD b = decide (a ≤ b ∧ b < len)) : (mask != 0#w) = decide (a < len) := by
  rw [Bool.eq_iff_iff]
  simp only [bne_iff_ne, ne_eq, decide_eq_true_eq]
  constructor
  · intro hne
    apply Nat.lt_of_not_le
    intro hle
    apply hne
    apply BitVec.eq_of_getLsbD_eq
    intro i hi
    rw [h]
    simp; omega
  · intro hlt he
    have := h a
    rw [he] at this
    simp at this
    omega

theorem mask_zero {w : Nat} (len : Nat) : ∀ b, (0#w).getLsbD b = decide (len ≤ b ∧ b < len) := by
  intro b; simp

theorem mask_single {w : Nat} (len : Nat) (h1 : 1 ≤ len) (hl : len ≤ w) :
    ∀ b, (BitVec.twoPow w (len - 1)).getLsbD b = decide (len - 1 ≤ b ∧ b < len) := by
  intro b
  rw [BitVec.getLsbD_twoPow, Bool.eq_iff_iff]
  simp only [Bool.and_eq_true, decide_eq_true_eq]
  omega

/-! ### `adjust_by_mask` in `u64` arithmetic -/

/-- `adjust_by_mask` with wrap-around modulo `U + 1` (`U` kept abstract: `2^64 − 1` must never be unfolded) -/
def adjG {w : Nat} (U : Nat) (s : St w) (mask : BitVec w) : St w :=
  { s with dist := ((s.dist + popc (s.mv &&& mask)) % (U + 1) + (U + 1) - popc (s.pv &&& mask)) % (U + 1) }

theorem adjustByMaskU_eq {w : Nat} (s : St w) (mask : BitVec w) : adjustByMaskU s mask = adjG umax s mask := rfl

/-- `adjust_by_mask` on a block that encodes the local column `C` (rows `0..len`, `dist = C len`), mask = bits
`r..len−1`: the distance moves to local row `r`; nothing wraps around as long as `dist + #mv < 2^64` -/
theorem adjG_spec {w len : Nat} (U : Nat) (C : Nat → Int) (s : St w) (mask : BitVec w) (r : Nat) (hr : r ≤ len)
    (hlw : len ≤ w) (enc : VEnc len C s.pv s.mv) (hmask : ∀ b, mask.getLsbD b = decide (r ≤ b ∧ b < len))
    (hd : (s.dist : Int) = C len) (h0 : 0 ≤ C r) (hsmall : s.dist + popc (s.mv &&& mask) ≤ U) :
    (adjG U s mask).pv = s.pv ∧ (adjG U s mask).mv = s.mv ∧
    ((adjG U s mask).dist : Int) = C r := by
  obtain ⟨_, _, hle, hval⟩ := adjustByMask_spec C s mask r hr hlw enc hmask hd h0
  refine ⟨rfl, rfl, ?_⟩
  simp only [adjustByMask] at hval
  simp only [adjG]
  have h1 : (s.dist + popc (s.mv &&& mask)) % (U + 1) = s.dist + popc (s.mv &&& mask) :=
    Nat.mod_eq_of_lt (by omega)
  rw [h1]
  have h2 : s.dist + popc (s.mv &&& mask) + (U + 1) - popc (s.pv &&& mask) =
      (s.dist + popc (s.mv &&& mask) - popc (s.pv &&& mask)) + (U + 1) := by omega
  rw [h2, Nat.add_mod_right, Nat.mod_eq_of_lt (by omega)]
  exact hval

theorem adjustByMaskU_spec {w len : Nat} (C : Nat → Int) (s : St w) (mask : BitVec w) (r : Nat) (hr : r ≤ len)
    (hlw : len ≤ w) (enc : VEnc len C s.pv s.mv) (hmask : ∀ b, mask.getLsbD b = decide (r ≤ b ∧ b < len))
    (hd : (s.dist : Int) = C len) (h0 : 0 ≤ C r) (hsmall : s.dist + popc (s.mv &&& mask) ≤ umax) :
    (adjustByMaskU s mask).pv = s.pv ∧ (adjustByMaskU s mask).mv = s.mv ∧
    ((adjustByMaskU s mask).dist : Int) = C r := by
  rw [adjustByMaskU_eq]
  exact adjG_spec umax C s mask r hr hlw enc hmask hd h0 hsmall

end RbV.Model.MyersTracebackLong
