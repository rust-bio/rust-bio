import RbV.Lemmas.SaisRel
/-
`lms_substring_eq` (the comparison used by the naming loop of `sort_lms_suffixes`) decides equality of the typed LMS
substrings `key t i`, `key t j` of two different LMS positions.
-/
namespace RbV.Sais

theorem lmsSubEqGo_succ (t : List Nat) (ty : List Bool) (i j f k : Nat) :
    lmsSubEqGo t ty i j (f + 1) k =
      if t.getD (i + k) 0 ≠ t.getD (j + k) 0 then false
      else if isLms ty (i + k) ≠ isLms ty (j + k) then false
      else if (decide (k > 0) && isLms ty (i + k) && isLms ty (j + k)) = true then true
      else lmsSubEqGo t ty i j f (k + 1) := rfl

/-- the loop returns `true` iff it reaches an offset `l > 0` at which both positions are LMS, all symbols and LMS flags
up to `l` agree, and no earlier offset `> 0` has both flags set -/
theorem lmsSubEqGo_iff (t : List Nat) (ty : List Bool) (i j f k : Nat) :
    lmsSubEqGo t ty i j f k = true ↔
      ∃ l, k ≤ l ∧ l < k + f ∧ 0 < l ∧ isLms ty (i + l) = true ∧ isLms ty (j + l) = true ∧
        (∀ k', k ≤ k' → k' ≤ l →
          t.getD (i + k') 0 = t.getD (j + k') 0 ∧ isLms ty (i + k') = isLms ty (j + k')) ∧
        (∀ k', k ≤ k' → k' < l → 0 < k' → ¬ (isLms ty (i + k') = true ∧ isLms ty (j + k') = true)) := by
  induction f generalizing k with
  | zero =>
    constructor
    · intro h; simp [lmsSubEqGo] at h
    · rintro ⟨l, h1, h2, _⟩; omega
  | succ f ih =>
    rw [lmsSubEqGo_succ]
    by_cases hs : t.getD (i + k) 0 = t.getD (j + k) 0
    · rw [if_neg (by simpa using hs)]
      by_cases hf : isLms ty (i + k) = isLms ty (j + k)
      · rw [if_neg (by simpa using hf)]
        by_cases hb : (decide (k > 0) && isLms ty (i + k) && isLms ty (j + k)) = true
        · rw [if_pos hb]
          simp only [Bool.and_eq_true, decide_eq_true_eq] at hb
          obtain ⟨⟨hk0, hbi⟩, hbj⟩ := hb
          refine ⟨fun _ => ⟨k, Nat.le_refl _, by omega, hk0, hbi, hbj, ?_, ?_⟩, fun _ => rfl⟩
          · intro k' h1 h2
            have : k' = k := by omega
            subst this; exact ⟨hs, hf⟩
          · intro k' h1 h2; omega
        · rw [if_neg hb, ih (k + 1)]
          simp only [Bool.and_eq_true, decide_eq_true_eq] at hb
          constructor
          · rintro ⟨l, h1, h2, h3, h4, h5, h6, h7⟩
            refine ⟨l, by omega, by omega, h3, h4, h5, ?_, ?_⟩
            · intro k' a b
              by_cases hk : k' = k
              · subst hk; exact ⟨hs, hf⟩
              · exact h6 k' (by omega) b
            · intro k' a b c
              by_cases hk : k' = k
              · subst hk; intro hh; exact hb ⟨⟨c, hh.1⟩, hh.2⟩
              · exact h7 k' (by omega) b c
          · rintro ⟨l, h1, h2, h3, h4, h5, h6, h7⟩
            have hlk : l ≠ k := by
              intro e; subst e; exact hb ⟨⟨h3, h4⟩, h5⟩
            exact ⟨l, by omega, by omega, h3, h4, h5, fun k' a b => h6 k' (by omega) b,
              fun k' a b c => h7 k' (by omega) b c⟩
      · rw [if_pos (by simpa using hf)]
        constructor
        · intro h; cases h
        · rintro ⟨l, h1, h2, h3, h4, h5, h6, h7⟩
          exact absurd (h6 k (Nat.le_refl _) h1).2 hf
    · rw [if_pos (by simpa using hs)]
      constructor
      · intro h; cases h
      · rintro ⟨l, h1, h2, h3, h4, h5, h6, h7⟩
        exact absurd (h6 k (Nat.le_refl _) h1).1 hs

/-- `x + l` is the first LMS position strictly after `x` -/
def NextLms (t : List Nat) (x l : Nat) : Prop :=
  0 < l ∧ isLms (tyOf t) (x + l) = true ∧ ∀ k, 0 < k → k < l → isLms (tyOf t) (x + k) = false

theorem nextLms_lt (t : List Nat) (x l : Nat) (h : NextLms t x l) : x + l < t.length :=
  lt_of_isLms _ h.2.1

theorem exists_nextLms (t : List Nat) (hv : Valid t) (x : Nat) (hx : x + 1 < t.length) :
    ∃ l, NextLms t x l := by
  have hlast := isLms_last hv (by omega)
  obtain ⟨l, a, b, c, d⟩ := exists_least_pos (fun k => isLms (tyOf t) (x + k) = true) (t.length - 1 - x)
    (by omega) (by have : x + (t.length - 1 - x) = t.length - 1 := by omega
                   rw [this]; exact hlast)
  refine ⟨l, a, c, ?_⟩
  intro k hk0 hkl
  have := d k hk0 hkl
  simpa using this

theorem takeLms_drop (t : List Nat) (l q : Nat) (hl : isLms (tyOf t) (q + l) = true)
    (hn : ∀ k, k < l → isLms (tyOf t) (q + k) = false) :
    takeLms ((zs t).drop q) = (List.range (l + 1)).map (fun k => enc t (q + k)) := by
  induction l generalizing q with
  | zero =>
    have hlt : q < t.length := lt_of_isLms _ hl
    rw [zs_drop t q hlt]
    simp only [Nat.add_zero] at hl
    simp [takeLms, hl]
  | succ l ih =>
    have hlt : q + (l + 1) < t.length := lt_of_isLms _ hl
    rw [zs_drop t q (by omega)]
    have h0 := hn 0 (by omega)
    simp only [Nat.add_zero] at h0
    have := ih (q + 1) (by rw [Nat.add_assoc, Nat.add_comm 1]; exact hl)
      (fun k hk => by rw [Nat.add_assoc, Nat.add_comm 1]; exact hn (k + 1) (by omega))
    rw [List.range_succ_eq_map]
    simp only [takeLms, h0, this, List.map_cons, List.map_map, Nat.add_zero]
    simp [Function.comp_def, Nat.add_assoc, Nat.add_comm 1]

/-- **key characterization**: the typed LMS substring of `x` is the list of the typed symbols at offsets `0..l` -/
theorem key_eq_of_nextLms (t : List Nat) (x l : Nat) (h : NextLms t x l) :
    key t x = (List.range (l + 1)).map (fun k => enc t (x + k)) := by
  obtain ⟨h0, h1, h2⟩ := h
  cases l with
  | zero => omega
  | succ l =>
    unfold key
    rw [takeLms_drop t l (x + 1) (by rw [Nat.add_assoc, Nat.add_comm 1]; exact h1)
      (fun k hk => by rw [Nat.add_assoc, Nat.add_comm 1]; exact h2 (k + 1) (by omega) (by omega))]
    rw [List.range_succ_eq_map (n := l + 1)]
    simp [Function.comp_def, Nat.add_assoc, Nat.add_comm 1]

/-- the key of the last position is below every other -/
theorem key_last_lt (t : List Nat) (hv : Valid t) (q : Nat) (hq : q + 1 < t.length) :
    lexLt (key t (t.length - 1)) (key t q) := by
  obtain ⟨r1, h1⟩ := key_head t (t.length - 1)
  obtain ⟨r2, h2⟩ := key_head t q
  rw [h1, h2, lexLt_cons]
  left
  exact (enc_lt_iff t _ _).mpr (Or.inl (hv.lastMin q hq))

theorem enc_eq_of_key_eq (t : List Nat) (x y lx ly : Nat) (hx : NextLms t x lx) (hy : NextLms t y ly)
    (h : key t x = key t y) : lx = ly ∧ ∀ k, k ≤ lx → enc t (x + k) = enc t (y + k) := by
  rw [key_eq_of_nextLms t x lx hx, key_eq_of_nextLms t y ly hy] at h
  have hlen := congrArg List.length h
  simp only [List.length_map, List.length_range] at hlen
  have e : lx = ly := by omega
  subst e
  refine ⟨rfl, ?_⟩
  intro k hk
  exact (List.map_inj_left.mp h) k (List.mem_range.mpr (by omega))

theorem key_eq_not_last (t : List Nat) (hv : Valid t) (p q : Nat) (hp : p < t.length) (hq : q < t.length)
    (hne : p ≠ q) (h : key t p = key t q) : p + 1 < t.length := by
  unfold key at h
  have he := ((enc_eq_iff t _ _).mp (List.cons.inj h).1).1
  apply Classical.byContradiction
  intro hc
  have e : p = t.length - 1 := by omega
  have := sym_ne_last hv q (by omega)
  rw [← e] at this
  exact this he.symm

theorem key_eq_of_loop (t : List Nat) (i j l : Nat) (hl0 : 0 < l)
    (hli : isLms (tyOf t) (i + l) = true) (hlj : isLms (tyOf t) (j + l) = true)
    (heq : ∀ k', k' ≤ l → sym t (i + k') = sym t (j + k') ∧ isLms (tyOf t) (i + k') = isLms (tyOf t) (j + k'))
    (hnb : ∀ k', k' < l → 0 < k' → ¬ (isLms (tyOf t) (i + k') = true ∧ isLms (tyOf t) (j + k') = true)) :
    key t i = key t j := by
  have hni : NextLms t i l := by
    refine ⟨hl0, hli, ?_⟩
    intro k hk0 hkl
    cases hc : isLms (tyOf t) (i + k) with
    | false => rfl
    | true => exact absurd ⟨hc, by rw [← (heq k (by omega)).2]; exact hc⟩ (hnb k hkl hk0)
  have hnj : NextLms t j l := by
    refine ⟨hl0, hlj, ?_⟩
    intro k hk0 hkl
    cases hc : isLms (tyOf t) (j + k) with
    | false => rfl
    | true => exact absurd ⟨by rw [(heq k (by omega)).2]; exact hc, hc⟩ (hnb k hkl hk0)
  have hil : i + l < t.length := lt_of_isLms _ hli
  have hjl : j + l < t.length := lt_of_isLms _ hlj
  have hty : ∀ m k, k + m = l → isS (tyOf t) (i + k) = isS (tyOf t) (j + k) := by
    intro m
    induction m with
    | zero =>
      intro k hk
      have : k = l := by omega
      subst this
      rw [isS_of_isLms hli, isS_of_isLms hlj]
    | succ m ih =>
      intro k hk
      have h1 := ih (k + 1) (by omega)
      have e1 := (heq k (by omega)).1
      have e2 := (heq (k + 1) (by omega)).1
      have si := isS_step t (i + k) (by omega)
      have sj := isS_step t (j + k) (by omega)
      rw [Nat.add_assoc] at si sj
      rw [si, sj, e1, e2]
      exact congrArg (fun b => if sym t (j + k) = sym t (j + (k + 1)) then b else
        decide (sym t (j + k) < sym t (j + (k + 1)))) h1
  rw [key_eq_of_nextLms t i l hni, key_eq_of_nextLms t j l hnj]
  apply List.map_inj_left.mpr
  intro k hk
  have hk' : k ≤ l := by have := List.mem_range.mp hk; omega
  exact (enc_eq_iff t _ _).mpr ⟨(heq k hk').1, hty (l - k) k (by omega)⟩

/-- **`lms_substring_eq`** decides equality of the typed LMS substrings of two different LMS positions -/
theorem lmsSubEq_iff (t : List Nat) (hv : Valid t) (i j : Nat)
    (hi : isLms (tyOf t) i = true) (hj : isLms (tyOf t) j = true) (hij : i ≠ j) :
    lmsSubEq t (tyOf t) i j = true ↔ key t i = key t j := by
  unfold lmsSubEq
  rw [lmsSubEqGo_iff]
  have hin : i < t.length := lt_of_isLms _ hi
  have hjn : j < t.length := lt_of_isLms _ hj
  constructor
  · rintro ⟨l, _, _, h3, h4, h5, h6, h7⟩
    exact key_eq_of_loop t i j l h3 h4 h5 (fun k' hk => h6 k' (Nat.zero_le _) hk)
      (fun k' a b => h7 k' (Nat.zero_le _) a b)
  · intro hk
    have hi1 : i + 1 < t.length := key_eq_not_last t hv i j hin hjn hij hk
    have hj1 : j + 1 < t.length := key_eq_not_last t hv j i hjn hin hij.symm hk.symm
    obtain ⟨li, hli⟩ := exists_nextLms t hv i hi1
    have hlin := nextLms_lt t i li hli
    obtain ⟨lj, hlj⟩ := exists_nextLms t hv j hj1
    obtain ⟨e, henc⟩ := enc_eq_of_key_eq t i j li lj hli hlj hk
    subst e
    have hsym : ∀ k, k ≤ li → sym t (i + k) = sym t (j + k) := fun k hk => ((enc_eq_iff t _ _).mp (henc k hk)).1
    have hty : ∀ k, k ≤ li → isS (tyOf t) (i + k) = isS (tyOf t) (j + k) :=
      fun k hk => ((enc_eq_iff t _ _).mp (henc k hk)).2
    refine ⟨li, Nat.zero_le _, by omega, hli.1, hli.2.1, hlj.2.1, ?_, ?_⟩
    · intro k _ hk
      refine ⟨hsym k hk, ?_⟩
      cases k with
      | zero => simp only [Nat.add_zero]; rw [hi, hj]
      | succ k =>
        exact isLms_succ_congr _ (i + k) (j + k) (hty k (by omega)) (hty (k + 1) hk)
    · intro k _ hkl hk0 hh
      have := hli.2.2 k hk0 hkl
      rw [this] at hh
      exact absurd hh.1 (by simp)

end RbV.Sais
