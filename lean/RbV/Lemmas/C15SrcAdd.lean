import RbV.Lemmas.C15Src
/-!
C15: the obligations on the translated `ln_add_exp` are stated **up to the tolerance the property leaves**: the source
must return the model's value `max + ln_1p(E(min − max))`, or — when the operands are more than `−dropGap = 37` apart in
log space — the larger operand (an early exit changes the linear-space result by less than `dropTol = 10⁻¹⁵` of the
larger operand, far inside the 0.5 % of the property and below `f64` resolution).  Everything downstream (error bounds
of `ln_add_exp`, of the cumulative sum, of the grid integration) is derived from `AddNear`, never from exact equality.
Also here: the two leaves of the translated `ln_1m_exp` (`leaf_ln1p`, `leaf_expm1`) and the runs of the scan in which every
step is an admissible addition (`ScanNear`, `ScanNear.error`).
-/
namespace RbV.C15
open Real

/-- log-space distance beyond which dropping the smaller summand is accepted -/
def dropGap : ℝ := -37
/-- linear-space tolerance (relative to the larger operand) granted to an early exit -/
noncomputable def dropTol : ℝ := 1 / 10 ^ 15

theorem exp_dropGap_le : exp dropGap ≤ dropTol := by
  have h1 : (1.125 : ℝ) ≤ exp (1 / 8) := by have := add_one_le_exp (1 / 8 : ℝ); linarith
  have h2 : exp 1 = exp (1 / 8) ^ 8 := by rw [← exp_nat_mul]; norm_num
  have h2' : (2.565 : ℝ) ≤ exp 1 := by
    rw [h2]
    calc (2.565 : ℝ) ≤ (1.125 : ℝ) ^ 8 := by norm_num
      _ ≤ exp (1 / 8) ^ 8 := pow_le_pow_left₀ (by norm_num) h1 8
  have h2'' : exp 37 = exp 1 ^ 37 := by rw [← exp_nat_mul]; norm_num
  have h3 : (10 : ℝ) ^ 15 ≤ exp 37 := by
    rw [h2'']
    calc (10 : ℝ) ^ 15 ≤ (2.565 : ℝ) ^ 37 := by norm_num
      _ ≤ exp 1 ^ 37 := pow_le_pow_left₀ (by norm_num) h2' 37
  unfold dropGap dropTol
  rw [exp_neg, one_div]
  exact inv_anti₀ (by positivity) h3

theorem dropTol_nonneg : 0 ≤ dropTol := by unfold dropTol; positivity

/-- `r` is an admissible result of `a ⊕ b`: the model's value, or the larger operand when they are far apart -/
def AddNear (E : ℝ → ℝ) (a b r : LP) : Prop :=
  r = lnAddExp E a b ∨ ∃ x y : ℝ, a = some x ∧ b = some y ∧ min x y - max x y < dropGap ∧ r = some (max x y)

theorem addNear_model (E : ℝ → ℝ) (a b : LP) : AddNear E a b (lnAddExp E a b) := Or.inl rfl

theorem AddNear.error {E δ} (h : ApproxExp E δ) (hδ : δ < 1) {a b r : LP} (hn : AddNear E a b r) :
    |lin r - (lin a + lin b)| ≤ δ * min (lin a) (lin b) + dropTol * max (lin a) (lin b) := by
  have hτ := dropTol_nonneg
  rcases hn with rfl | ⟨x, y, rfl, rfl, hgap, rfl⟩
  · have := lnAddExp_error h hδ a b
    have h2 : 0 ≤ dropTol * max (lin a) (lin b) := mul_nonneg hτ (le_trans (lin_nonneg a) (le_max_left _ _))
    linarith
  · have hδ0 := h.delta_nonneg
    simp only [lin]
    have hsum := exp_max_add_exp_min x y
    have h1 : exp (max x y) - (exp x + exp y) = -exp (min x y) := by linarith
    rw [h1, abs_neg, abs_of_pos (exp_pos _)]
    have h2 : exp (min x y) = exp (min x y - max x y) * exp (max x y) := by rw [← exp_add]; ring_nf
    have h3 : exp (min x y - max x y) ≤ dropTol := le_trans (exp_le_exp.mpr hgap.le) exp_dropGap_le
    rw [← exp_monotone.map_max, h2]
    have h5 : 0 ≤ δ * min (exp x) (exp y) := mul_nonneg hδ0 (le_min (exp_pos _).le (exp_pos _).le)
    have h6 := mul_le_mul_of_nonneg_right h3 (exp_pos (max x y)).le
    linarith

theorem AddNear.near {E δ} (h : ApproxExp E δ) (hδ : δ < 1) {a b r : LP} (hn : AddNear E a b r) :
    Near (δ + dropTol) (lin r) (lin a + lin b) := by
  have ha := lin_nonneg a
  have hb := lin_nonneg b
  have h2 : δ * min (lin a) (lin b) ≤ δ * (lin a + lin b) :=
    mul_le_mul_of_nonneg_left (le_trans (min_le_left _ _) (by linarith)) h.delta_nonneg
  have h3 : dropTol * max (lin a) (lin b) ≤ dropTol * (lin a + lin b) :=
    mul_le_mul_of_nonneg_left (max_le (by linarith) (by linarith)) dropTol_nonneg
  unfold Near
  linarith [hn.error h hδ]

theorem AddNear.none_iff {E} {a b r : LP} (hn : AddNear E a b r) : r = none ↔ a = none ∧ b = none := by
  rcases hn with rfl | ⟨x, y, rfl, rfl, _, rfl⟩
  · cases a <;> cases b <;> simp [lnAddExp]
  · simp

/-- leaf `ln_1p(−G p)` of `ln_1m_exp`, for any `G` within `δ` of `exp` at `x` and below 1 there -/
theorem leaf_ln1p {δ : ℝ} (G : ℝ → ℝ) {x : ℝ} (hG : |G x - exp x| ≤ δ * exp x) (hlt : G x < 1) :
    ∃ r : LP, (Rs.Res.ok (XR.ln1p (XR.fin (-G x))) : Rs.Res XR) = Rs.Res.ok (emb r) ∧ |lin r - (1 - exp x)| ≤ δ * exp x :=
  ⟨some (log (1 + -G x)), by rw [ln1p_fin (by linarith)]; rfl, ln1p_branch G hG hlt⟩

/-- leaf `ln(−exp_m1 p)` of `ln_1m_exp` -/
theorem leaf_expm1 {δ : ℝ} (hδ0 : 0 ≤ δ) {x : ℝ} (hx : x ≤ 0) :
    ∃ r : LP, (Rs.Res.ok (XR.ln (XR.fin (-(exp x - 1)))) : Rs.Res XR) = Rs.Res.ok (emb r) ∧ |lin r - (1 - exp x)| ≤ δ * exp x := by
  rcases eq_or_lt_of_le hx with h0 | hlt
  · subst h0
    exact ⟨none, by simp, by simp [lin, hδ0]⟩
  · exact ⟨some (log (-(exp x - 1))), by rw [ln_fin_pos (neg_expm1_pos hlt)]; rfl, expm1_branch hδ0 hlt⟩

theorem add_fin_emb (x : ℝ) (r : LP) : XR.add (XR.fin x) (emb r) = emb (addLP x r) := by
  cases r <;> rfl

/-- `rs` is a run of the scan from state `s` over `ps` in which every step is an admissible addition -/
def ScanNear (E : ℝ → ℝ) : LP → List LP → List LP → Prop
  | _, [], rs => rs = []
  | s, p :: ps, rs => ∃ r rs', rs = r :: rs' ∧ AddNear E s p r ∧ ScanNear E r ps rs'

theorem ScanNear.length {E} : ∀ {ps : List LP} {s : LP} {rs : List LP}, ScanNear E s ps rs → rs.length = ps.length
  | [], _, _, h => by simp only [ScanNear] at h; simp [h]
  | _ :: _, _, _, h => by
    obtain ⟨r, rs', rfl, _, h'⟩ := h
    simp [ScanNear.length h']

theorem scanNear_model (E : ℝ → ℝ) : ∀ (ps : List LP) (s : LP), ScanNear E s ps (lnCumsumFrom E s ps)
  | [], _ => rfl
  | _ :: ps, _ => ⟨_, _, rfl, addNear_model .., scanNear_model E ps _⟩

/-- from a state within `ε ≥ δ` of `T`, entry `k` of an admissible run is within `ε + 2(k+1)·dropTol` of `T` plus the prefix
sum: every step adds `2·dropTol` to the relative error -/
theorem ScanNear.error {E δ} (h : ApproxExp E δ) (hδ : δ < 1) : ∀ (ps : List LP) (s : LP) (rs : List LP) (T ε : ℝ),
    0 ≤ T → δ ≤ ε → Near ε (lin s) T → ScanNear E s ps rs → ∀ (k : ℕ) (r : LP), rs[k]? = some r →
    ε + 2 * (k + 1 : ℕ) * dropTol ≤ 1 →
    Near (ε + 2 * (k + 1 : ℕ) * dropTol) (lin r) (T + ((ps.take (k + 1)).map lin).sum) := by
  have hτ := dropTol_nonneg
  intro ps
  induction ps with
  | nil => intro s rs T ε _ _ _ hs k r hr; simp only [ScanNear] at hs; subst hs; simp at hr
  | cons p ps ih =>
    intro s rs T ε hT hε hs hscan k r hr hk
    obtain ⟨r0, rs', rfl, hadd, hrest⟩ := hscan
    have hp := lin_nonneg p
    have hk0 : (0 : ℝ) ≤ 2 * (k : ℝ) * dropTol := by positivity
    have hstep : Near (ε + 2 * dropTol) (lin r0) (T + lin p) :=
      scan_step_error h.delta_nonneg hτ hε (by push_cast at hk; linarith) hp hT hs (hadd.error h hδ)
    cases k with
    | zero =>
      simp only [List.getElem?_cons_zero, Option.some.injEq] at hr
      subst hr
      simpa using hstep
    | succ k =>
      simp only [List.getElem?_cons_succ] at hr
      have e : ε + 2 * ((k + 1 + 1 : ℕ) : ℝ) * dropTol = ε + 2 * dropTol + 2 * ((k + 1 : ℕ) : ℝ) * dropTol := by
        push_cast; ring
      rw [e] at hk ⊢
      rw [List.take_succ_cons, List.map_cons, List.sum_cons, ← add_assoc]
      exact ih r0 rs' (T + lin p) (ε + 2 * dropTol) (by linarith) (by linarith) hstep hrest k r hr hk

end RbV.C15
