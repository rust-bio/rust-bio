import RbV.Lemmas.SmemsLoop
/-!
# Correctness of the string-level sweep from two laws of occurrence counts (C06)

`c b e` stands for the number of occurrences of `pattern[b..e)`.  All the sweep needs to know about it:

* `anti`   — a substring occurs at least as often as any string containing it;
* `closed` — if `pattern[b..e)` and its extension `pattern[b..e')` occur equally often (every occurrence of the shorter
             is followed by the rest), the same holds after prepending `pattern[b'..b)` to both.

`smems_abs_correct`: under these laws the string-level sweep started at `i` returns exactly the pairs `(b, len)` that
are supermaximal in the sense of `c` (`AbsSmem`), cover `i` and have `len ≥ l`.
-/
namespace RbV.SmemModel
open RbV

structure CountLaws (c : Nat → Nat → Nat) (m : Nat) : Prop where
  anti : ∀ b' b e e', b' ≤ b → b < e → e ≤ e' → e' ≤ m → c b' e' ≤ c b e
  closed : ∀ b' b e e', b' ≤ b → b < e → e ≤ e' → e' ≤ m → c b e = c b e' → c b' e = c b' e'

/-- supermaximal in terms of the counts: occurs, and neither one-symbol extension exists-and-occurs -/
def AbsSmem (c : Nat → Nat → Nat) (m b len : Nat) : Prop :=
  0 < len ∧ b + len ≤ m ∧ c b (b + len) ≠ 0 ∧ (b = 0 ∨ c (b - 1) (b + len) = 0) ∧
  (b + len = m ∨ c b (b + len + 1) = 0)

@[simp] theorem strOps_size (c : Nat → Nat → Nat) (p : Nat × Nat) : (strOps c).size p = c p.1 p.2 := rfl
@[simp] theorem strOps_bwd (c : Nat → Nat → Nat) (p : Nat × Nat) (a : Nat) : (strOps c).bwd p a = (p.1 - 1, p.2) := rfl
@[simp] theorem strOps_fwd (c : Nat → Nat → Nat) (p : Nat × Nat) (a : Nat) : (strOps c).fwd p a = (p.1, p.2 + 1) := rfl
@[simp] theorem strOps_init (c : Nat → Nat → Nat) (i a : Nat) : (strOps c).initWith i a = (i, i + 1) := rfl

/-! ### the invariant of the backward sweep -/

section abs
variable {c : Nat → Nat → Nat} {m : Nat} (hc : CountLaws c m) {i : Nat} (l : Nat)

/-- the candidate list at the start of round `k = kk - 1`: intervals `(kk, e)` with their lengths, `e` decreasing;
every occurring `pattern[kk..e)` (`e > i`) is represented by a candidate `e' ≥ e` with the same count -/
structure Inv (c : Nat → Nat → Nat) (m i kk : Nat) (prev : List ((Nat × Nat) × Nat)) : Prop where
  shape : ∀ x ∈ prev, x.1.1 = kk ∧ i < x.1.2 ∧ x.1.2 ≤ m ∧ x.2 = x.1.2 - kk ∧ c kk x.1.2 ≠ 0
  sorted : (prev.map (·.1.2)).Pairwise (· ≥ ·)
  complete : ∀ e, i < e → e ≤ m → c kk e ≠ 0 → ∃ x ∈ prev, e ≤ x.1.2 ∧ c kk e = c kk x.1.2

theorem Inv.mls_sorted {kk : Nat} {prev : List ((Nat × Nat) × Nat)} (h : Inv c m i kk prev) :
    (prev.map (·.2)).Pairwise (· ≥ ·) := by
  have hs := h.sorted
  rw [List.pairwise_map] at hs ⊢
  refine hs.imp_of_mem ?_
  intro a b ha hb hab
  have h1 := h.shape a ha
  have h2 := h.shape b hb
  omega

theorem Inv.head_max {kk : Nat} {x : (Nat × Nat) × Nat} {rest : List ((Nat × Nat) × Nat)}
    (h : Inv c m i kk (x :: rest)) : ∀ y ∈ x :: rest, y.1.2 ≤ x.1.2 := by
  intro y hy
  have hs := h.sorted
  simp only [List.map_cons, List.pairwise_cons] at hs
  rw [List.mem_cons] at hy
  rcases hy with rfl | hy
  · exact Nat.le_refl _
  · exact hs.1 _ (List.mem_map_of_mem (f := fun z : (Nat × Nat) × Nat => z.1.2) hy)

/-- the first candidate cannot be extended to the right -/
theorem Inv.head_rmax {kk : Nat} {x : (Nat × Nat) × Nat} {rest : List ((Nat × Nat) × Nat)}
    (h : Inv c m i kk (x :: rest)) : x.1.2 = m ∨ c kk (x.1.2 + 1) = 0 := by
  have hx := h.shape x (by simp)
  by_cases h1 : x.1.2 = m
  · exact Or.inl h1
  · right
    apply Classical.byContradiction
    intro h2
    obtain ⟨y, hy, hle, _⟩ := h.complete (x.1.2 + 1) (Nat.lt_succ_of_lt hx.2.1) (Nat.lt_of_le_of_ne hx.2.2.1 h1) h2
    exact Nat.not_succ_le_self _ (Nat.le_trans hle (h.head_max y hy))

include hc in
/-- a right-maximal occurring `pattern[kk..e)` is the first candidate -/
theorem Inv.smem_is_head {kk : Nat} {prev : List ((Nat × Nat) × Nat)} (h : Inv c m i kk prev) (hk : kk ≤ i)
    (e : Nat) (hie : i < e) (hem : e ≤ m) (hce : c kk e ≠ 0) (hr : e = m ∨ c kk (e + 1) = 0) :
    ∃ rest, prev = ((kk, e), e - kk) :: rest := by
  obtain ⟨y, hy, hle, _⟩ := h.complete e hie hem hce
  -- no candidate ends beyond `e`: it would occur, and contain `pattern[kk..e+1)`
  have hend : ∀ z ∈ prev, e ≤ z.1.2 → z.1.2 = e := by
    intro z hz hez
    have hzs := h.shape z hz
    rcases Nat.eq_or_lt_of_le hez with he | hlt
    · exact he.symm
    · rcases hr with hr | hr
      · exact absurd (hr.symm ▸ hzs.2.2.1 : z.1.2 ≤ e) (Nat.not_le_of_gt hlt)
      · exact absurd (Nat.le_zero.mp (hr ▸ hc.anti kk kk (e + 1) z.1.2 (Nat.le_refl _)
          (Nat.lt_succ_of_lt (Nat.lt_of_le_of_lt hk hie)) hlt hzs.2.2.1)) hzs.2.2.2.2
  have hye := hend y hy hle
  cases prev with
  | nil => simp at hy
  | cons x rest =>
    have hxs := h.shape x List.mem_cons_self
    have hxe := hend x List.mem_cons_self (hye ▸ h.head_max y hy)
    obtain ⟨⟨xb, xe⟩, xml⟩ := x
    obtain ⟨h1, _, _, h4, _⟩ := hxs
    simp only at h1 hxe h4
    subst h1; subst hxe; subst h4
    exact ⟨rest, rfl⟩

include hc in
theorem Inv.step {kk : Nat} {prev : List ((Nat × Nat) × Nat)} (h : Inv c m i (kk + 1) prev) (hk : kk + 1 ≤ i)
    (a : Nat) : Inv c m i kk (dedup (strOps c) (-1) (ext (strOps c) a prev)) := by
  -- the extended list: every candidate `(kk + 1, e)` becomes `(kk, e)`
  have hE : ext (strOps c) a prev = prev.map (fun x => ((kk, x.1.2), x.2 + 1)) :=
    List.map_congr_left fun x hx => by simp only [strOps_bwd, (h.shape x hx).1, Nat.add_sub_cancel]
  rw [hE]
  have hsub := dedup_sublist (strOps c) (prev.map (fun x => ((kk, x.1.2), x.2 + 1))) (-1)
  have hsorted_ext : ((prev.map (fun x => ((kk, x.1.2), x.2 + 1))).map (·.1.2)).Pairwise (· ≥ ·) := by
    rw [List.map_map]; exact h.sorted
  refine ⟨?_, hsorted_ext.sublist (hsub.map _), ?_⟩
  · intro y hy
    have hsz := dedup_size_ne (strOps c) _ _ y hy
    obtain ⟨x, hx, rfl⟩ := List.mem_map.mp (hsub.subset hy)
    have hxs := h.shape x hx
    exact ⟨rfl, hxs.2.1, hxs.2.2.1, by simp only; omega, hsz⟩
  · intro e hie hem hce
    have hke : kk + 1 < e := Nat.lt_of_le_of_lt hk hie
    have hce1 : c (kk + 1) e ≠ 0 := fun h0 =>
      hce (Nat.le_zero.mp (h0 ▸ hc.anti kk (kk + 1) e e (Nat.le_succ kk) hke (Nat.le_refl _) hem))
    obtain ⟨x, hx, hle, heq⟩ := h.complete e hie hem hce1
    have heq' : c kk e = c kk x.1.2 :=
      hc.closed kk (kk + 1) e x.1.2 (Nat.le_succ kk) hke hle (h.shape x hx).2.2.1 heq
    obtain ⟨l1, l2, hsplit⟩ := List.append_of_mem
      (List.mem_map_of_mem (f := fun x : (Nat × Nat) × Nat => ((kk, x.1.2), x.2 + 1)) hx)
    have hnz : (strOps c).size ((kk, x.1.2), x.2 + 1).1 ≠ 0 :=
      show c kk x.1.2 ≠ 0 from heq' ▸ hce
    rcases dedup_repr (strOps c) ((kk, x.1.2), x.2 + 1) l2 hnz l1 (-1) with hneg | ⟨y, hy, hs, hyx⟩
    · omega
    · rw [← hsplit] at hy
      refine ⟨y, hy, ?_, ?_⟩
      · rcases hyx with rfl | hyl
        · exact hle
        · -- `y` stands before the extension of `x`, so its end is not smaller
          rw [hsplit, List.map_append, List.map_cons, List.pairwise_append] at hsorted_ext
          have := hsorted_ext.2.2 y.1.2 (List.mem_map_of_mem (f := fun z : (Nat × Nat) × Nat => z.1.2) hyl)
            x.1.2 (by simp)
          omega
      · obtain ⟨x0, _, rfl⟩ := List.mem_map.mp (hsub.subset hy)
        exact heq'.trans hs.symm

/-! ### what a round reports, and the whole backward sweep -/

include hc in
theorem report_mem {kk : Nat} {prev : List ((Nat × Nat) × Nat)} (h : Inv c m i kk prev) (hk : kk ≤ i) (a : Nat)
    (x : Hit (Nat × Nat)) :
    x ∈ report (strOps c) a kk l prev ↔
      (x.pos = kk ∧ x.iv = (x.pos, x.pos + x.len) ∧ AbsSmem c m x.pos x.len ∧ i < x.pos + x.len ∧ l ≤ x.len) := by
  constructor
  · intro hx
    cases prev with
    | nil => simp [report] at hx
    | cons y rest =>
      obtain ⟨iv, ml⟩ := y
      simp only [report] at hx
      split at hx
      · rename_i hcond
        rw [List.mem_singleton.mp hx]
        obtain ⟨h1, h2, h3, h4, h5⟩ := h.shape (iv, ml) List.mem_cons_self
        have hr := h.head_rmax
        simp only [strOps_size, strOps_bwd] at hcond
        simp only at h1 h2 h3 h4 h5 hr ⊢
        have he : kk + ml = iv.2 := by omega
        refine ⟨trivial, by rw [he, ← h1], ⟨by omega, he ▸ h3, he ▸ h5, ?_, he ▸ hr⟩, he ▸ h2, hcond.2⟩
        rw [he]
        exact h1 ▸ hcond.1.symm
      · simp at hx
  · rintro ⟨h2, h1, ⟨_, g2, g3, g4, g5⟩, h4, h5⟩
    obtain ⟨xiv, xpos, xlen⟩ := x
    simp only at h1 h2 g2 g3 g4 g5 h4 h5
    subst h2
    obtain ⟨rest, hp⟩ := h.smem_is_head hc hk (xpos + xlen) h4 g2 g3 g5
    rw [hp]
    have hcond : ((strOps c).size ((strOps c).bwd (xpos, xpos + xlen) a) = 0 ∨ xpos = 0) ∧ l ≤ xpos + xlen - xpos :=
      ⟨g4.symm, by omega⟩
    rw [report, if_pos hcond, List.mem_singleton, h1, Nat.add_sub_cancel_left]

include hc in
/-- the backward sweep from round `kk - 1` downwards reports exactly the supermaximal matches that start at a
position `≤ kk`, cover `i` and have length `≥ l` -/
theorem outerSpec_mem (pat : List Nat) :
    ∀ (kk : Nat) (prev : List ((Nat × Nat) × Nat)) (ms : List (Hit (Nat × Nat))), kk ≤ i → Inv c m i kk prev →
      ∀ x, x ∈ outerSpec (strOps c) pat l kk prev ms ↔
        (x ∈ ms ∨ (x.pos ≤ kk ∧ x.iv = (x.pos, x.pos + x.len) ∧ AbsSmem c m x.pos x.len ∧ i < x.pos + x.len ∧
          l ≤ x.len))
  | 0, prev, ms, hk, h, x => by
    simp only [outerSpec, List.mem_append, report_mem hc l h hk 36 x, Nat.le_zero]
  | kk + 1, prev, ms, hk, h, x => by
    have hstep := h.step hc hk (pat.getD kk 0)
    simp only [outerSpec]
    split
    · rename_i hemp
      rw [List.isEmpty_iff.mp hemp] at hstep
      simp only [List.mem_append, report_mem hc l h hk (pat.getD kk 0) x]
      refine or_congr_right ⟨fun ⟨h2, hq⟩ => ⟨Nat.le_of_eq h2, hq⟩, fun ⟨h2, hq⟩ => ⟨?_, hq⟩⟩
      -- a match starting further left would have a candidate in the (empty) next list
      apply Classical.byContradiction
      intro hp
      obtain ⟨_, ⟨_, g2, g3, _, _⟩, h4, _⟩ := hq
      have := hc.anti x.pos kk (x.pos + x.len) (x.pos + x.len) (by omega) (by omega) (Nat.le_refl _) g2
      obtain ⟨y, hy, _⟩ := hstep.complete (x.pos + x.len) h4 g2 (by omega)
      exact absurd hy List.not_mem_nil
    · rw [outerSpec_mem pat kk _ _ (Nat.le_of_succ_le hk) hstep x]
      simp only [List.mem_append, report_mem hc l h hk (pat.getD kk 0) x]
      constructor
      · rintro ((h1 | ⟨h2, hq⟩) | ⟨h2, hq⟩)
        · exact Or.inl h1
        · exact Or.inr ⟨Nat.le_of_eq h2, hq⟩
        · exact Or.inr ⟨Nat.le_succ_of_le h2, hq⟩
      · rintro (h1 | ⟨h2, hq⟩)
        · exact Or.inl (Or.inl h1)
        · rcases Nat.lt_or_eq_of_le h2 with h2 | h2
          · exact Or.inr ⟨Nat.le_of_lt_succ h2, hq⟩
          · exact Or.inl (Or.inr ⟨h2, hq⟩)

end abs

/-! ### the forward phase -/

section fwd
variable {c : Nat → Nat → Nat} {m : Nat} (hc : CountLaws c m) {i : Nat}

/-- the list built so far by the forward loop standing at `(i, e)` -/
structure FInv (c : Nat → Nat → Nat) (i e : Nat) (curr : List ((Nat × Nat) × Nat)) : Prop where
  shape : ∀ x ∈ curr, x.1.1 = i ∧ i < x.1.2 ∧ x.1.2 < e ∧ x.2 = x.1.2 - i
  sorted : (curr.map (·.1.2)).Pairwise (· ≤ ·)
  cover : ∀ e', i < e' → e' < e → (∃ x ∈ curr, x.1.2 = e') ∨ c i e' = c i (e' + 1)

/-- the list after the forward phase (before `reverse`): ends of the right extensions of `pattern[i..i+1)` at which
the count drops, then the longest occurring extension `emax` -/
structure FRes (c : Nat → Nat → Nat) (m i emax : Nat) (L : List ((Nat × Nat) × Nat)) : Prop where
  shape : ∀ x ∈ L, x.1.1 = i ∧ i < x.1.2 ∧ x.1.2 ≤ emax ∧ x.2 = x.1.2 - i
  sorted : (L.map (·.1.2)).Pairwise (· ≤ ·)
  cover : ∀ e', i < e' → e' < emax → (∃ x ∈ L, x.1.2 = e') ∨ c i e' = c i (e' + 1)
  last : ∃ x ∈ L, x.1.2 = emax
  bound : i < emax ∧ emax ≤ m ∧ c i emax ≠ 0 ∧ (emax = m ∨ c i (emax + 1) = 0)

theorem pairwise_snoc {L : List ((Nat × Nat) × Nat)} {x : (Nat × Nat) × Nat}
    (hs : (L.map (·.1.2)).Pairwise (· ≤ ·)) (hx : ∀ y ∈ L, y.1.2 ≤ x.1.2) :
    ((L ++ [x]).map (·.1.2)).Pairwise (· ≤ ·) := by
  rw [List.map_append, List.pairwise_append]
  refine ⟨hs, List.pairwise_singleton _ _, fun a ha b hb => ?_⟩
  obtain ⟨y, hy, rfl⟩ := List.mem_map.mp ha
  rw [List.map_singleton, List.mem_singleton] at hb
  rw [hb]; exact hx y hy

theorem FInv.snoc {e : Nat} {curr : List ((Nat × Nat) × Nat)} (h : FInv c i e curr) (hie : i < e) :
    FInv c i (e + 1) (curr ++ [((i, e), e - i)]) := by
  refine ⟨fun x hx => ?_, pairwise_snoc h.sorted (fun y hy => Nat.le_of_lt (h.shape y hy).2.2.1), fun e' h1 h2 => ?_⟩
  · rcases List.mem_append.mp hx with hx | hx
    · have := h.shape x hx; omega
    · rw [List.mem_singleton.mp hx]; exact ⟨rfl, hie, Nat.lt_succ_self e, rfl⟩
  · by_cases hee : e' = e
    · exact Or.inl ⟨_, List.mem_append_right _ (List.mem_singleton_self _), hee.symm⟩
    · rcases h.cover e' h1 (Nat.lt_of_le_of_ne (Nat.le_of_lt_succ h2) hee) with ⟨x, hx, he⟩ | h3
      · exact Or.inl ⟨x, List.mem_append_left _ hx, he⟩
      · exact Or.inr h3

theorem FInv.skip {e : Nat} {curr : List ((Nat × Nat) × Nat)} (h : FInv c i e curr) (heq : c i e = c i (e + 1)) :
    FInv c i (e + 1) curr := by
  refine ⟨fun x hx => ?_, h.sorted, fun e' g1 g2 => ?_⟩
  · have := h.shape x hx; omega
  · by_cases hee : e' = e
    · subst hee; exact Or.inr heq
    · exact h.cover e' g1 (Nat.lt_of_le_of_ne (Nat.le_of_lt_succ g2) hee)

/-- the final `push` of the current interval repeats the last end -/
theorem FRes.snoc {emax : Nat} {L : List ((Nat × Nat) × Nat)} (h : FRes c m i emax L) :
    FRes c m i emax (L ++ [((i, emax), emax - i)]) := by
  refine ⟨fun x hx => ?_, pairwise_snoc h.sorted (fun y hy => (h.shape y hy).2.2.1), fun e' g1 g2 => ?_,
    ⟨_, List.mem_append_right _ (List.mem_singleton_self _), rfl⟩, h.bound⟩
  · rcases List.mem_append.mp hx with hx | hx
    · exact h.shape x hx
    · rw [List.mem_singleton.mp hx]; exact ⟨rfl, h.bound.1, Nat.le_refl _, rfl⟩
  · rcases h.cover e' g1 g2 with ⟨x, hx, he⟩ | h3
    · exact Or.inl ⟨x, List.mem_append_left _ hx, he⟩
    · exact Or.inr h3

theorem FInv.finish {e : Nat} {curr : List ((Nat × Nat) × Nat)} (h : FInv c i e curr) (hie : i < e) (hem : e ≤ m)
    (hce : c i e ≠ 0) (hr : e = m ∨ c i (e + 1) = 0) : FRes c m i e (curr ++ [((i, e), e - i)]) := by
  have h' := h.snoc hie
  exact ⟨fun x hx => by have := h'.shape x hx; omega, h'.sorted, fun e' g1 g2 => h'.cover e' g1 (Nat.lt_succ_of_lt g2),
    ⟨_, List.mem_append_right _ (List.mem_singleton_self _), rfl⟩, hie, hem, hce, hr⟩

theorem fwdLoop_str_cons (a : Nat) (rest : List Nat) (e ml : Nat) (curr : List ((Nat × Nat) × Nat)) :
    fwdLoop (strOps c) (a :: rest) (i, e) ml curr =
      if c i (e + 1) = 0 then ((if c i e ≠ c i (e + 1) then curr ++ [((i, e), ml)] else curr), (i, e), ml)
      else fwdLoop (strOps c) rest (i, e + 1) (ml + 1) (if c i e ≠ c i (e + 1) then curr ++ [((i, e), ml)] else curr) :=
  rfl

theorem fwd_spec : ∀ (rest : List Nat) (e : Nat) (curr : List ((Nat × Nat) × Nat)),
    rest.length = m - e → i < e → e ≤ m → c i e ≠ 0 → FInv c i e curr →
    ∃ emax, FRes c m i emax ((fwdLoop (strOps c) rest (i, e) (e - i) curr).1 ++
      [((fwdLoop (strOps c) rest (i, e) (e - i) curr).2.1, (fwdLoop (strOps c) rest (i, e) (e - i) curr).2.2)])
  | [], e, curr, hlen, hie, hem, hce, h => by
    simp only [List.length_nil] at hlen
    exact ⟨e, h.finish hie hem hce (Or.inl (Nat.le_antisymm hem (Nat.le_of_sub_eq_zero hlen.symm)))⟩
  | a :: rest, e, curr, hlen, hie, hem, hce, h => by
    simp only [List.length_cons] at hlen
    rw [fwdLoop_str_cons]
    by_cases h0 : c i (e + 1) = 0
    · rw [if_pos h0, if_pos (fun h => hce (h.trans h0) : c i e ≠ c i (e + 1))]
      exact ⟨e, (h.finish hie hem hce (Or.inr h0)).snoc⟩
    · rw [if_neg h0, show e - i + 1 = e + 1 - i from (Nat.succ_sub (Nat.le_of_lt hie)).symm]
      apply fwd_spec rest (e + 1) _ (by omega) (Nat.lt_succ_of_lt hie) (by omega) h0
      by_cases hne : c i e ≠ c i (e + 1)
      · rw [if_pos hne]; exact h.snoc hie
      · rw [if_neg hne]; exact h.skip (Classical.not_not.mp hne)

theorem FRes.climb {emax : Nat} {L : List ((Nat × Nat) × Nat)} (h : FRes c m i emax L) :
    ∀ d e, emax - e = d → i < e → e ≤ emax → ∃ x ∈ L, e ≤ x.1.2 ∧ c i e = c i x.1.2
  | 0, e, hd, _, h2 => by
    obtain ⟨x, hx, he⟩ := h.last
    have : e = emax := by omega
    subst this
    exact ⟨x, hx, Nat.le_of_eq he.symm, by rw [he]⟩
  | d + 1, e, hd, h1, h2 => by
    rcases h.cover e h1 (Nat.lt_of_sub_pos (hd ▸ Nat.succ_pos d)) with ⟨x, hx, he⟩ | heq
    · exact ⟨x, hx, Nat.le_of_eq he.symm, by rw [he]⟩
    · obtain ⟨x, hx, hle, hcx⟩ := FRes.climb h d (e + 1) (by omega) (Nat.lt_succ_of_lt h1) (by omega)
      exact ⟨x, hx, Nat.le_of_succ_le hle, heq.trans hcx⟩

include hc in
theorem inv_of_fres {emax : Nat} {L : List ((Nat × Nat) × Nat)} (h : FRes c m i emax L) :
    Inv c m i i L.reverse := by
  obtain ⟨hb1, hb2, hb3, hb4⟩ := h.bound
  refine ⟨?_, ?_, ?_⟩
  · intro x hx
    rw [List.mem_reverse] at hx
    have hs := h.shape x hx
    exact ⟨hs.1, hs.2.1, Nat.le_trans hs.2.2.1 hb2, hs.2.2.2, fun h0 =>
      hb3 (Nat.le_zero.mp (h0 ▸ hc.anti i i x.1.2 emax (Nat.le_refl _) hs.2.1 hs.2.2.1 hb2))⟩
  · rw [List.map_reverse, List.pairwise_reverse]
    exact h.sorted.imp (fun hab => hab)
  · intro e hie hem hce
    have hle : e ≤ emax := by
      refine Nat.le_of_not_lt fun hgt => ?_
      rcases hb4 with hb4 | hb4
      · exact absurd (hb4 ▸ hem : e ≤ emax) (Nat.not_le_of_gt hgt)
      · exact hce (Nat.le_zero.mp (hb4 ▸ hc.anti i i (emax + 1) e (Nat.le_refl _) (Nat.lt_succ_of_lt hb1) hgt hem))
    obtain ⟨x, hx, h1, h2⟩ := h.climb (emax - e) e rfl hie hle
    exact ⟨x, List.mem_reverse.mpr hx, h1, h2⟩

theorem fwdRes_str (pat : List Nat) (i : Nat) :
    fwdRes (strOps c) pat i = fwdLoop (strOps c) (pat.drop (i + 1)) (i, i + 1) (if c i (i + 1) ≠ 0 then 1 else 0) [] :=
  rfl

include hc in
theorem forwardPhase_inv (pat : List Nat) (hm : pat.length = m) (hi : i < m) (h0 : c i (i + 1) ≠ 0) :
    Inv c m i i (forwardPhase (strOps c) pat i) := by
  rw [forwardPhase_eq, fwdRes_str, if_pos h0]
  have hF : FInv c i (i + 1) [] := ⟨by simp, by simp, fun e' h1 h2 => by omega⟩
  obtain ⟨emax, hres⟩ := fwd_spec (pat.drop (i + 1)) (i + 1) [] (by rw [List.length_drop, hm]) (Nat.lt_succ_self i)
    hi h0 hF
  rw [Nat.add_sub_cancel_left] at hres
  exact inv_of_fres hc hres

include hc in
/-- `pattern[i..i+1)` does not occur: neither do its two extensions -/
theorem strOps_dead_fwd {pat : List Nat} (hm : pat.length = m) (h0 : c i (i + 1) = 0) (h1 : i + 1 < pat.length)
    (a : Nat) : (strOps c).size ((strOps c).fwd ((strOps c).initWith i (pat.getD i 0)) a) = 0 :=
  Nat.le_zero.mp (h0 ▸ hc.anti i i (i + 1) (i + 1 + 1) (Nat.le_refl _) (Nat.lt_succ_self i) (Nat.le_succ _) (hm ▸ h1))

include hc in
theorem strOps_dead_bwd {pat : List Nat} (hi : i < m) (h0 : c i (i + 1) = 0) (a : Nat) :
    (strOps c).size ((strOps c).bwd ((strOps c).initWith i (pat.getD i 0)) a) = 0 :=
  Nat.le_zero.mp (h0 ▸ hc.anti (i - 1) i (i + 1) (i + 1) (Nat.sub_le i 1) (Nat.lt_succ_self i) (Nat.le_refl _) hi)

include hc in
/-- `pattern[i]` does not occur: nothing is reported (for `l ≥ 1`) -/
theorem smems_dead (pat : List Nat) (hm : pat.length = m) (hi : i < m) (l : Nat) (hl : 1 ≤ l)
    (h0 : c i (i + 1) = 0) : smems (strOps c) pat i l = [] := by
  rw [smems_of_dead_start (strOps c) pat i l (hm ▸ hi) h0 (strOps_dead_fwd hc hm h0) (strOps_dead_bwd hc hi h0)]
  exact if_neg (Nat.not_le_of_gt hl)

include hc in
/-- **the string-level sweep is correct**: started at `i < |pattern|` with `l ≥ 1` it returns exactly the
supermaximal matches (in the sense of the counts) covering `i` of length `≥ l`, each with its own interval -/
theorem smems_abs_correct (pat : List Nat) (hm : pat.length = m) (hi : i < m) (l : Nat) (hl : 1 ≤ l)
    (x : Hit (Nat × Nat)) :
    x ∈ smems (strOps c) pat i l ↔
      (x.iv = (x.pos, x.pos + x.len) ∧ x.pos ≤ i ∧ AbsSmem c m x.pos x.len ∧ i < x.pos + x.len ∧ l ≤ x.len) := by
  by_cases h0 : c i (i + 1) = 0
  · rw [smems_dead hc pat hm hi l hl h0]
    simp only [List.not_mem_nil, false_iff]
    rintro ⟨_, h2, ⟨g1, g2, g3, _, _⟩, h4, _⟩
    have := hc.anti x.pos i (i + 1) (x.pos + x.len) h2 (Nat.lt_succ_self i) h4 g2
    omega
  · have hinv := forwardPhase_inv hc pat hm hi h0
    unfold smems
    rw [outer_eq_spec _ _ _ _ _ _ _ (by omega) hinv.mls_sorted,
      outerSpec_mem hc l pat i _ [] (Nat.le_refl _) hinv x]
    simp only [List.not_mem_nil, false_or]
    exact and_left_comm

end fwd

end RbV.SmemModel
