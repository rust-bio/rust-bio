import RbV.Lemmas.PoaAcyclic
import RbV.Lemmas.PoaTraceAll
import RbV.Lemmas.PoaTopo
import RbV.Lemmas.PoaGrow
/-!
# Histories of the model: align-and-add keeps the graph a growing DAG

`Dag g` (`PoaTopo`) = at least one node, edge end points in range, no directed cycle.  One step of a history is
`alignAdd sc g q` = `add_alignment` along the operation list of the model's global alignment of `q`;
`history x steps` starts from the chain built from the reference `x` (`Poa::from_string`).
`traceF_add_dag`: adding along the traceback of *any* local table keeps a DAG; the clip-free model is an instance.
-/
namespace RbV.Poa.Model
open RbV.NW

theorem dag_of_rankOK {g : G} {R : List Nat} {rk : Nat → Nat} {n0 : Nat} (h : RankOK g R rk n0) (hn : 0 < n0) :
    Dag g := by
  refine ⟨?_, ?_, acyclic_of_rankOK h⟩
  · intro he
    have h1 := h.len
    have h2 := h.n0le
    have h3 : g.labels.length = 0 := by rw [he]; rfl
    omega
  · intro e he
    obtain ⟨h1, h2, _⟩ := h.edges e he
    rw [← h.len]
    exact ⟨h1, h2⟩

/-- adding along the traceback of any local table (`OpsOK` with `L` = last node of `topo`) keeps a DAG -/
theorem traceF_add_dag (g : G) (q : List Nat) (hg : Dag g) (opAt : Nat → Nat → POp)
    (hops : OpsOK g.es g.last opAt) (f i j : Nat) :
    Dag (addAlignment g (traceF opAt f i j []) q) := by
  have hn := hg.pos
  obtain ⟨ops, hops'⟩ : ∃ ops, ops = traceF opAt f i j [] := ⟨_, rfl⟩
  rw [← hops']
  obtain ⟨hhead, hK, hmin, hedge⟩ := topoRk_spec hg (ops.length + 1)
  have hmax := topoRk_max hg (ops.length + 1)
  have hbody := traceF_bodyB g.es opAt (topoRk g.labels.length g.es (ops.length + 1))
    g.labels.length g.head (ops.length + 1) _ hops
    hK hmin hmax hedge f i j [] (tinv_free (by intros; simp [bodyB])) (by rw [← hops']; omega)
  have hrk : ∀ e ∈ g.es, e.1 < g.labels.length ∧ e.2.1 < g.labels.length ∧
      topoRk g.labels.length g.es (ops.length + 1) e.1 < topoRk g.labels.length g.es (ops.length + 1) e.2.1 := by
    intro e he
    obtain ⟨h1, h2⟩ := hg.wf e he
    have := (hedge e.2.1 e.1 ((mem_inN g.es e.2.1 e.1).mpr ⟨e.2.2, he⟩)).1
    exact ⟨h1, h2, by omega⟩
  rw [← hops'] at hbody
  obtain ⟨R, hR⟩ := addAlignment_rankOK g _ ops q hrk hhead hbody
  exact dag_of_rankOK hR hn

/-- **the link** for the clip-free model: on a DAG, whatever the query, the scoring, the fuel and the start cell, adding
along the operation list of the model's traceback gives a DAG again -/
theorem traceback_add_dag (sc : Sc) (g : G) (q : List Nat) (hg : Dag g) (f i j : Nat) :
    Dag (addAlignment g (traceLoop (dpRows sc g.labels g.es q) f i j []) q) := by
  rw [traceLoop_eq_traceF]
  exact traceF_add_dag g q hg _ (opsOK_of_tableOK _ (dpRows_tableOK sc g.labels g.es q)) f i j

/-- `Aligner::global(q).add_to_graph()` in the model -/
def alignAdd (sc : Sc) (g : G) (q : List Nat) : G := addAlignment g (globalAlign sc g.labels g.es q).2 q

theorem alignAdd_dag (sc : Sc) (g : G) (q : List Nat) (hg : Dag g) : Dag (alignAdd sc g q) := by
  simp only [alignAdd, globalAlign]
  exact traceback_add_dag sc g q hg _ _ _

/-- `Poa::from_string`: the chain `0 → 1 → …` with weight 1 -/
def chainG (x : List Nat) : G := { labels := x, es := (List.range (x.length - 1)).map fun i => (i, i + 1, 1) }

theorem chainG_dag (x : List Nat) (hx : x ≠ []) : Dag (chainG x) := by
  refine ⟨hx, ?_, ?_⟩
  · intro e he
    simp only [chainG, List.mem_map, List.mem_range] at he
    obtain ⟨i, hi, rfl⟩ := he
    simp only [chainG]
    omega
  · apply acyclic_of_rank (fun v => v)
    intro e he
    simp only [chainG, plain, List.map_map, List.mem_map, List.mem_range] at he
    obtain ⟨i, _, rfl⟩ := he
    simp

/-- the graph after a series of align-and-add steps (each with its own scoring and query) -/
def history (x : List Nat) (steps : List (Sc × List Nat)) : G :=
  steps.foldl (fun g s => alignAdd s.1 g s.2) (chainG x)

-- by induction, not `foldl_inv`: given the fold as an argument the unifier unfolds `alignAdd`
theorem foldl_alignAdd_dag : ∀ (steps : List (Sc × List Nat)) (g : G), Dag g →
    Dag (steps.foldl (fun g s => alignAdd s.1 g s.2) g) := by
  intro steps
  induction steps with
  | nil => intro g h; exact h
  | cons s r ih => intro g h; rw [List.foldl_cons]; exact ih _ (alignAdd_dag s.1 g s.2 h)

theorem history_dag (x : List Nat) (hx : x ≠ []) (steps : List (Sc × List Nat)) : Dag (history x steps) :=
  foldl_alignAdd_dag steps _ (chainG_dag x hx)

theorem alignAdd_grows (sc : Sc) (g : G) (q : List Nat) : Grows g (alignAdd sc g q) := Grows.addAlignment g _ q

theorem foldl_alignAdd_grows : ∀ (steps : List (Sc × List Nat)) (g : G),
    Grows g (steps.foldl (fun g s => alignAdd s.1 g s.2) g) := by
  intro steps
  induction steps with
  | nil => intro g; exact Grows.refl g
  | cons s r ih => intro g; rw [List.foldl_cons]; exact (alignAdd_grows s.1 g s.2).trans (ih _)

theorem history_grows (x : List Nat) (steps more : List (Sc × List Nat)) :
    Grows (history x steps) (history x (steps ++ more)) := by
  unfold history
  rw [List.foldl_append]
  exact foldl_alignAdd_grows more _

end RbV.Poa.Model
