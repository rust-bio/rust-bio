import Mathlib.Analysis.SpecialFunctions.Log.Basic
/-!
# Real-number model of `src/stats/probs/mod.rs` (C15) — proof-side only, never imported by the driver

`LP = Option ℝ` : a log-space probability, `none` = `ln 0` (`f64::NEG_INFINITY`), `some x` = the finite value `x`.
`lin` is the linear-space image.  Every function takes the exponential `E` it uses as a parameter:
`E = Real.exp` gives the exact algorithm, `ApproxExp E δ` is the accuracy hypothesis on `fastexp`
(relative error `δ` on `(-∞, 0]`; measured, not proved — see meta/C15.json).
`ln_1p y` is `log (1 + y)`, `exp_m1 x` is `exp x - 1` (both exact in the Rust code: std library functions).
-/
namespace RbV.C15
open Real

abbrev LP := Option ℝ

/-- linear-space image of a log-space probability -/
noncomputable def lin : LP → ℝ
  | none => 0
  | some x => exp x

theorem lin_nonneg (a : LP) : 0 ≤ lin a := by
  cases a with
  | none => simp [lin]
  | some x => exact (exp_pos x).le

theorem nonpos_of_lin_le_one {x : ℝ} (h : lin (some x) ≤ 1) : x ≤ 0 := exp_le_one_iff.mp h

/-- accuracy hypothesis on the approximate exponential -/
def ApproxExp (E : ℝ → ℝ) (δ : ℝ) : Prop := ∀ x ≤ 0, |E x - exp x| ≤ δ * exp x

theorem approxExp_exp : ApproxExp exp 0 := by intro x _; simp

/-- with the exact exponential (`δ = 0`) an error bound is an equation -/
theorem eq_of_abs_sub_le_zero_mul {a b c : ℝ} (h : |a - b| ≤ 0 * c) : a = b := by
  rwa [zero_mul, abs_nonpos_iff, sub_eq_zero] at h

theorem ApproxExp.lower {E δ} (h : ApproxExp E δ) {x : ℝ} (hx : x ≤ 0) : (1 - δ) * exp x ≤ E x := by
  have := (abs_le.mp (h x hx)).1; nlinarith

theorem ApproxExp.upper {E δ} (h : ApproxExp E δ) {x : ℝ} (hx : x ≤ 0) : E x ≤ (1 + δ) * exp x := by
  have := (abs_le.mp (h x hx)).2; nlinarith

theorem ApproxExp.pos {E δ} (h : ApproxExp E δ) (hδ : δ < 1) {x : ℝ} (hx : x ≤ 0) : 0 < E x := by
  have := h.lower hx
  have : 0 < (1 - δ) * exp x := mul_pos (by linarith) (exp_pos x)
  linarith

theorem ApproxExp.delta_nonneg {E δ} (h : ApproxExp E δ) : 0 ≤ δ := by
  have := h 0 le_rfl
  simp only [exp_zero, mul_one] at this
  exact le_trans (abs_nonneg _) this

/-- below `−1/2` an approximate exponential with `δ ≤ 1/2` stays below 1 (so that `ln_1p(−E x)` is finite) -/
theorem approx_lt_one {E δ} (h : ApproxExp E δ) (hδ : δ ≤ 1 / 2) {x : ℝ} (hx : x ≤ -(1 / 2)) : E x < 1 := by
  -- `exp (−1/2) < 2/3` because `3/2 < exp (1/2)`
  have h2 : exp (-(1 / 2)) * exp (1 / 2) = 1 := by rw [← exp_add, neg_add_cancel, exp_zero]
  have h3 : (1 / 2 : ℝ) + 1 < exp (1 / 2) := add_one_lt_exp (by norm_num)
  have h4 : exp (-(1 / 2)) * (1 / 2 + 1) < 1 := (mul_lt_mul_of_pos_left h3 (exp_pos _)).trans_eq h2
  calc E x ≤ (1 + δ) * exp x := h.upper (hx.trans (by norm_num))
    _ ≤ (1 + 1 / 2) * exp (-(1 / 2)) :=
      mul_le_mul (add_le_add_right hδ 1) (exp_le_exp.mpr hx) (exp_pos x).le (by norm_num)
    _ < 1 := by rwa [mul_comm, add_comm]

/-! ## relative error

`Near ε x S`: `x` is within relative error `ε` of `S`.  `ApproxExp E δ` says `Near δ (E x) (exp x)` for `x ≤ 0`, and the error
theorems of the sums, the scan and the integration helpers conclude `Near`; they follow from its closure under sums, scaling
and composition. -/

def Near (ε x S : ℝ) : Prop := |x - S| ≤ ε * S

namespace Near
variable {ε η x y S T c : ℝ}

theorem refl (hε : 0 ≤ ε) (hS : 0 ≤ S) : Near ε S S := by
  unfold Near; rw [sub_self, abs_zero]; exact mul_nonneg hε hS

theorem add (h₁ : Near ε x S) (h₂ : Near ε y T) : Near ε (x + y) (S + T) := by
  unfold Near at *
  rw [add_sub_add_comm, mul_add]
  exact (abs_add_le _ _).trans (add_le_add h₁ h₂)

theorem mul_right (h : Near ε x S) (hc : 0 ≤ c) : Near ε (x * c) (S * c) := by
  unfold Near at *
  rw [← sub_mul, abs_mul, abs_of_nonneg hc, ← mul_assoc]
  exact mul_le_mul_of_nonneg_right h hc

theorem sum {α : Type} {f g : α → ℝ} : ∀ {l : List α}, (∀ a ∈ l, Near ε (f a) (g a)) → Near ε (l.map f).sum (l.map g).sum
  | [], _ => by simp [Near]
  | a :: l, h => by
    simp only [List.map_cons, List.sum_cons]
    exact (h a (List.mem_cons_self ..)).add (sum fun b hb => h b (List.mem_cons_of_mem _ hb))

/-- composition: within `ε` of an intermediate value that is within `η` of the target (the intermediate is at most `(1 + η) S`) -/
theorem trans (h₁ : Near ε x y) (h₂ : Near η y S) (hε : 0 ≤ ε) : Near (ε * (1 + η) + η) x S := by
  unfold Near at *
  have hy : y ≤ (1 + η) * S := by linarith [(abs_le.mp h₂).2]
  calc |x - S| = |(x - y) + (y - S)| := by ring_nf
    _ ≤ |x - y| + |y - S| := abs_add_le _ _
    _ ≤ ε * ((1 + η) * S) + η * S := add_le_add (h₁.trans (mul_le_mul_of_nonneg_left hy hε)) h₂
    _ = (ε * (1 + η) + η) * S := by ring

end Near

/-- a relative error at `d` scaled by `e^M` is the same relative error at `M + d` -/
theorem scaled_error {u v d δ : ℝ} (M : ℝ) (h : |u - v| ≤ δ * exp d) : |exp M * (u - v)| ≤ δ * exp (M + d) := by
  rw [abs_mul, abs_of_pos (exp_pos M), exp_add, mul_left_comm]
  exact mul_le_mul_of_nonneg_left h (exp_pos M).le

/-- `LogProb::ln_add_exp`: `other == ln_zero → self`; otherwise order the operands, `p0 == ln_zero → ln_zero`,
else `p0 + ln_1p(E(p1 - p0))`  (`self = ln 0`, `other = b` finite: `p0 = b`, `p1 = -inf`, `E(-inf) = 0`, result `b`). -/
noncomputable def lnAddExp (E : ℝ → ℝ) : LP → LP → LP
  | a, none => a
  | none, some b => some b
  | some a, some b => some (max a b + log (1 + E (min a b - max a b)))

theorem exp_max_add_exp_min (a b : ℝ) : exp (max a b) + exp (min a b) = exp a + exp b := by
  rcases le_total a b with h | h
  · rw [max_eq_right h, min_eq_left h]; ring
  · rw [max_eq_left h, min_eq_right h]

theorem lin_lnAddExp_finite {E δ} (h : ApproxExp E δ) (hδ : δ < 1) (a b : ℝ) :
    lin (lnAddExp E (some a) (some b)) - (exp a + exp b)
      = exp (max a b) * (E (min a b - max a b) - exp (min a b - max a b)) := by
  have hd : min a b - max a b ≤ 0 := sub_nonpos.mpr (min_le_max)
  have hpos : 0 < 1 + E (min a b - max a b) := by have := h.pos hδ hd; linarith
  simp only [lnAddExp, lin]
  rw [exp_add, exp_log hpos, ← exp_max_add_exp_min a b]
  have : exp (min a b) = exp (max a b) * exp (min a b - max a b) := by rw [← exp_add]; ring_nf
  rw [this]; ring

theorem lnAddExp_error {E δ} (h : ApproxExp E δ) (hδ : δ < 1) (a b : LP) :
    |lin (lnAddExp E a b) - (lin a + lin b)| ≤ δ * min (lin a) (lin b) := by
  have hδ0 := h.delta_nonneg
  cases b with
  | none =>
    simp only [lnAddExp, lin, add_zero, sub_self, abs_zero]
    exact mul_nonneg hδ0 (le_min (lin_nonneg a) le_rfl)
  | some b =>
    cases a with
    | none =>
      simp only [lnAddExp, lin, zero_add, sub_self, abs_zero]
      exact mul_nonneg hδ0 (le_min le_rfl (exp_pos b).le)
    | some a =>
      have hd : min a b - max a b ≤ 0 := sub_nonpos.mpr (min_le_max)
      show |lin (lnAddExp E (some a) (some b)) - (exp a + exp b)| ≤ δ * min (exp a) (exp b)
      rw [lin_lnAddExp_finite h hδ, ← exp_monotone.map_min]
      have := scaled_error (max a b) (h _ hd)
      rwa [add_sub_cancel] at this

theorem lnAddExp_exact (a b : LP) : lin (lnAddExp exp a b) = lin a + lin b :=
  eq_of_abs_sub_le_zero_mul (lnAddExp_error approxExp_exp (by norm_num) a b)

end RbV.C15
