import RbV.Lemmas.FillRun
/-!
Traceback proof, fill side, part 1: the loop bodies of `Model/PairwiseFill.lean` write *good* move codes.

For every code written into a traceback cell together with the value written into the score cell, `Good T i j code value`
(`FillRun.lean`) is derived from the goodness of the codes of the cells the value came from — `T` is the final table;
what the lemmas need to know about it (`T.tI (i+1) j = …`, …) is a hypothesis here and is discharged in `FillTbCols.lean`
(columns `j < n`: the cell is never written again; column `n`: the post-loops rewrite it, `FillTbLast.lean`).

The S field is chosen by a chain of `if cand > best` steps starting from a default (`TB_XCLIP_SUFFIX` with the tracker's
value, or `TB_START`/`MIN_SCORE`); `Chain`: after each step the pair (code, value) is either still the default or
good.
-/
namespace RbV.Model.PairwiseFill
open RbV.Align

/-- `S[curr][i] = best; if S[curr][i] + xclip_suffix > S[curr][m] {…}` leaves `best` in the cell (for `i = m` the
comparison is `best + xclip_suffix > best`) -/
theorem s_final {b5 xs xm : Int} {m i : Nat} (hxs : xs ≤ 0) :
    (if i = m then upd (b5 + xs) (if i = m then b5 else xm) else b5) = b5 := by
  rw [upd_eq_max]; exact cellS_eq hxs b5 xm i m

/-- the pair (code, value) after some steps `if cand > best { best = cand; tb.set_s_bits(code) }` from the default `(c0, b0)`:
still the default, or it is good (`P`) and one of the candidates' codes (`Q`) -/
def Chain (P : Tb → Int → Prop) (Q : Tb → Prop) (c0 : Tb) (b0 : Int) (c : Tb) (b : Int) : Prop :=
  (c = c0 ∧ b = b0) ∨ (P c b ∧ Q c)

theorem Chain.init {P : Tb → Int → Prop} {Q : Tb → Prop} {c0 : Tb} {b0 : Int} : Chain P Q c0 b0 c0 b0 := Or.inl ⟨rfl, rfl⟩

theorem Chain.step {P : Tb → Int → Prop} {Q : Tb → Prop} {c0 c k : Tb} {b0 b v : Int}
    (h : Chain P Q c0 b0 c b) (hk : P k v) (hq : Q k) : Chain P Q c0 b0 (if v > b then k else c) (upd v b) := by
  unfold upd
  split
  · right; exact ⟨hk, hq⟩
  · exact h

/-- `if b > xm { xm = b; lx = k }`: both untouched, or both set -/
theorem trk_shape (b xm : Int) (k lx : Nat) :
    (upd b xm = xm ∧ (if b > xm then k else lx) = lx) ∨ ((if b > xm then k else lx) = k ∧ upd b xm = b) := by
  unfold upd
  split
  · right; exact ⟨rfl, rfl⟩
  · left; exact ⟨rfl, rfl⟩

theorem sn0_shape (b : Int) (k : Nat) :
    upd b minScore = minScore ∨ ((if b > minScore then k else 0) = k ∧ upd b minScore = b) :=
  (trk_shape b minScore k 0).imp (·.1) id

section
variable {sc : Sc} {cl : Clip} {x y : List Nat} {T : Table}

/-! ### `I` and `D` fields (main loop) -/

/-- `best_i_score` with the I field `if i_score > s_score { TB_INS } else { S field of the cell above }` -/
theorem ins_good_main (hgo : sc.go ≤ 0) {i j : Nat} (r : Row) (hi : i + 1 ≤ x.length)
    (hT : T.tI (i + 1) j = if r.i + sc.ge > r.s + sc.go + sc.ge then .ins else r.t.ts)
    (hS : Good sc cl x y T i j r.t.ts r.s) (hI : 1 ≤ i → Good sc cl x y T i j .ins r.i)
    (hjunk : i = 0 → ¬ (r.i + sc.ge > r.s + sc.go + sc.ge)) :
    Good sc cl x y T (i + 1) j .ins (if r.i + sc.ge > r.s + sc.go + sc.ge then r.i + sc.ge else r.s + sc.go + sc.ge) := by
  by_cases hc : r.i + sc.ge > r.s + sc.go + sc.ge
  · rw [if_pos hc] at hT ⊢
    have h1 : 1 ≤ i := by
      rcases Nat.eq_zero_or_pos i with h0 | h0
      · exact absurd hc (hjunk h0)
      · exact h0
    exact good_ins_ext (by omega) hT (hI h1) (Int.le_refl _)
  · rw [if_neg hc] at hT ⊢
    exact good_ins_open hgo (by omega) hT hS (Int.le_refl _)

theorem del_good_main (hgo : sc.go ≤ 0) {i j : Nat} (pr : Row) (hj : j + 1 ≤ y.length)
    (hT : T.tD i (j + 1) = if pr.d + sc.ge > pr.s + sc.go + sc.ge then .del else pr.t.ts)
    (hS : Good sc cl x y T i j pr.t.ts pr.s) (hD : 1 ≤ j → Good sc cl x y T i j .del pr.d)
    (hjunk : j = 0 → ¬ (pr.d + sc.ge > pr.s + sc.go + sc.ge)) :
    Good sc cl x y T i (j + 1) .del (if pr.d + sc.ge > pr.s + sc.go + sc.ge then pr.d + sc.ge else pr.s + sc.go + sc.ge) := by
  by_cases hc : pr.d + sc.ge > pr.s + sc.go + sc.ge
  · rw [if_pos hc] at hT ⊢
    have h1 : 1 ≤ j := by
      rcases Nat.eq_zero_or_pos j with h0 | h0
      · exact absurd hc (hjunk h0)
      · exact h0
    exact good_del_ext (by omega) hT (hD h1) (Int.le_refl _)
  · rw [if_neg hc] at hT ⊢
    exact good_del_open hgo (by omega) hT hS (Int.le_refl _)

/-! ### the S field of the inner loop -/

/-- the cell written by `stepJ`: its S code is still the default `TB_XCLIP_SUFFIX` with the value the cell had on
entry, or it is good for the value written -/
theorem stepJ_good_S (hxs : cl.xs ≤ 0) {i j : Nat} (prev : List Row) (r : Row)
    (hi : i + 1 ≤ x.length) (hj : j + 1 ≤ y.length)
    (hM : Good sc cl x y T i j (T.tS i j) (prev.getD i default).s)
    (hI : Good sc cl x y T (i + 1) (j + 1) .ins (stepJ sc cl x y (j + 1) prev (i + 1) r).i)
    (hD : Good sc cl x y T (i + 1) (j + 1) .del (stepJ sc cl x y (j + 1) prev (i + 1) r).d)
    (hX : Good sc cl x y T 0 (j + 1) (T.tS 0 (j + 1)) (max cl.yp (sc.go + sc.ge * ((j + 1 : Nat) : Int))))
    (hY : Good sc cl x y T (i + 1) 0 (T.tS (i + 1) 0) (sc.go + sc.ge * ((i + 1 : Nat) : Int))) :
    Chain (Good sc cl x y T (i + 1) (j + 1)) (· ≠ .xsuf) .xsuf (if i + 1 = x.length then r.xm else minScore)
      (stepJ sc cl x y (j + 1) prev (i + 1) r).t.ts (stepJ sc cl x y (j + 1) prev (i + 1) r).s := by
  -- the five candidates
  have k1 : Good sc cl x y T (i + 1) (j + 1) (if x.getD i 0 = y.getD j 0 then Tb.mat else Tb.subst)
      ((prev.getD i default).s + sc.w (x.getD i 0) (y.getD j 0)) := by
    split
    · rename_i hab; exact good_mat (by omega) (by omega) hab hM (Int.le_refl _)
    · rename_i hab; exact good_sub (by omega) (by omega) hab hM (Int.le_refl _)
  have k4 : Good sc cl x y T (i + 1) (j + 1) .xpre (cl.xp + max cl.yp (sc.go + sc.ge * ((j + 1 : Nat) : Int))) :=
    good_xpre (by omega) hi hX (by omega)
  have k5 : Good sc cl x y T (i + 1) (j + 1) .ypre (cl.yp + sc.go + sc.ge * ((i + 1 : Nat) : Int)) :=
    good_ypre (by omega) hj hY (by omega)
  have q1 : (if x.getD i 0 = y.getD j 0 then Tb.mat else Tb.subst) ≠ Tb.xsuf := by split <;> simp
  have c5 := (((((Chain.init (P := Good sc cl x y T (i + 1) (j + 1)) (Q := (· ≠ Tb.xsuf)) (c0 := .xsuf)
    (b0 := if i + 1 = x.length then r.xm else minScore)).step k1 q1).step hI (by simp)).step hD (by simp)).step k4
    (by simp)).step k5 (by simp)
  -- the value stored: `S[curr][i] + xclip_suffix > S[curr][m]` cannot fire for `i = m`
  simp only [stepJ, Nat.add_sub_cancel]
  rw [s_final hxs]
  exact c5

/-! ### the registers in the inner loop -/


variable (sc cl x y) in
/-- x-suffix tracker after `stepJ`, rows below `m`: unchanged, or set from the cell just written -/
theorem stepJ_trk (j : Nat) (prev : List Row) (i : Nat) (r : Row) (hm : i ≠ x.length) :
    let r' := stepJ sc cl x y j prev i r
    (r'.xm = r.xm ∧ r'.t.lx = r.t.lx) ∨ (r'.t.lx = x.length - i ∧ r'.xm = r'.s + cl.xs) := by
  simp only [stepJ, if_neg hm]
  exact trk_shape _ _ _ _

variable (sc cl x y) in
/-- … and in row `m` (the cell is the register): `Lx[j]` keeps what the rows above left -/
theorem stepJ_lx_last (hxs : cl.xs ≤ 0) (j : Nat) (prev : List Row) (i : Nat) (r : Row) (hm : i = x.length) :
    (stepJ sc cl x y j prev i r).t.lx = r.t.lx := by
  simp only [stepJ, if_pos hm]
  rw [if_neg (by omega)]

variable (sc cl x y) in
/-- `Sn[i]`, `Ly[i]` after `stepJ`: unchanged, or set from the cell just written -/
theorem stepJ_sn (j : Nat) (prev : List Row) (i : Nat) (r : Row) :
    let r' := stepJ sc cl x y j prev i r
    (r'.sn = (prev.getD i default).sn ∧ r'.t.ly = (prev.getD i default).t.ly) ∨
      (r'.t.ly = y.length - j ∧ r'.sn = r'.s + cl.ys) := by
  simp only [stepJ]
  exact trk_shape _ _ _ _

/-! ### column 0 -/

theorem step0_good_I (hgo : sc.go ≤ 0) {i : Nat} (r : Row) (hi : i + 1 ≤ x.length)
    (hT : T.tI (i + 1) 0 = (step0 sc cl x y (i + 1) r).t.ti)
    (hO : Good sc cl x y T 0 0 (T.tS 0 0) 0)
    (hI : 1 ≤ i → Good sc cl x y T i 0 .ins r.i ∧ sc.go + sc.ge * (i : Int) ≤ r.i) :
    Good sc cl x y T (i + 1) 0 .ins (step0 sc cl x y (i + 1) r).i := by
  simp only [step0] at hT ⊢
  by_cases h1 : i + 1 = 1
  · rw [if_pos h1] at hT ⊢
    have e : i = 0 := by omega
    subst e
    exact good_ins_open hgo (by omega) hT (good_start (Int.le_refl 0)) (by omega)
  · rw [if_neg h1] at hT ⊢
    obtain ⟨hgI, hvI⟩ := hI (by omega)
    by_cases hc : sc.go + sc.ge * ((i + 1 : Nat) : Int) > cl.xp + sc.go + sc.ge
    · rw [if_pos hc] at hT ⊢
      refine good_ins_ext (by omega) hT hgI ?_
      have e : sc.ge * ((i + 1 : Nat) : Int) = sc.ge * (i : Int) + sc.ge := mul_add_one sc.ge i
      omega
    · rw [if_neg hc] at hT ⊢
      exact good_ins_open hgo (by omega) hT (good_xpre (v := cl.xp) (by omega) (by omega) hO (by omega)) (by omega)

/-- the S code of column 0: the default (`TB_XCLIP_SUFFIX` with the tracker's value in row `m`, `TB_START` with
`MIN_SCORE` above), or good -/
theorem step0_good_S {i : Nat} (r : Row) (hi : i + 1 ≤ x.length)
    (hI : Good sc cl x y T (i + 1) 0 .ins (step0 sc cl x y (i + 1) r).i)
    (hO : Good sc cl x y T 0 0 (T.tS 0 0) 0) :
    Chain (Good sc cl x y T (i + 1) 0) (· ≠ .xsuf) (if i + 1 = x.length then Tb.xsuf else Tb.start)
      (if i + 1 = x.length then r.xm else minScore) (step0 sc cl x y (i + 1) r).t.ts (step0 sc cl x y (i + 1) r).s := by
  have k2 : Good sc cl x y T (i + 1) 0 .xpre cl.xp := good_xpre (by omega) hi hO (by omega)
  have c2 := ((Chain.init (P := Good sc cl x y T (i + 1) 0) (Q := (· ≠ Tb.xsuf))
    (c0 := if i + 1 = x.length then Tb.xsuf else Tb.start) (b0 := if i + 1 = x.length then r.xm else minScore)).step hI
    (by simp)).step k2 (by simp)
  simp only [step0] at c2 ⊢
  exact c2

variable (sc cl x y) in
theorem step0_trk (i : Nat) (r : Row) (hm : i ≠ x.length) :
    let r' := step0 sc cl x y i r
    (r'.xm = r.xm ∧ r'.t.lx = r.t.lx) ∨ (r'.t.lx = x.length - i ∧ r'.xm = r'.s + cl.xs) := by
  simp only [step0, if_neg hm, ne_eq, hm, not_false_eq_true, true_and]
  exact trk_shape _ _ _ _

variable (sc cl x y) in
theorem step0_last (i : Nat) (r : Row) (hm : i = x.length) :
    (step0 sc cl x y i r).t.lx = r.t.lx ∧ (step0 sc cl x y i r).xm = (step0 sc cl x y i r).s := by
  simp [step0, hm]

variable (sc cl x y) in
theorem step0_sn (i : Nat) (r : Row) :
    let r' := step0 sc cl x y i r
    r'.sn = minScore ∨ (r'.t.ly = y.length ∧ r'.sn = r'.s + cl.ys) := by
  simp only [step0]
  exact sn0_shape _ _

/-! ### row 0 -/

theorem rowJ0_good_D (hgo : sc.go ≤ 0) {j : Nat} (p0 : Row) (hj : j + 1 ≤ y.length)
    (hT : T.tD 0 (j + 1) = (rowJ0 sc cl x y (j + 1) p0).t.td)
    (hO : Good sc cl x y T 0 0 (T.tS 0 0) 0)
    (hD : 1 ≤ j → Good sc cl x y T 0 j .del p0.d ∧ sc.go + sc.ge * (j : Int) ≤ p0.d) :
    Good sc cl x y T 0 (j + 1) .del (rowJ0 sc cl x y (j + 1) p0).d := by
  simp only [rowJ0] at hT ⊢
  by_cases h1 : j + 1 = 1
  · rw [if_pos h1] at hT ⊢
    have e : j = 0 := by omega
    subst e
    exact good_del_open hgo (by omega) hT (good_start (Int.le_refl 0)) (by omega)
  · rw [if_neg h1] at hT ⊢
    obtain ⟨hgD, hvD⟩ := hD (by omega)
    by_cases hc : sc.go + sc.ge * ((j + 1 : Nat) : Int) > cl.yp + sc.go + sc.ge
    · rw [if_pos hc] at hT ⊢
      refine good_del_ext (by omega) hT hgD ?_
      have e : sc.ge * ((j + 1 : Nat) : Int) = sc.ge * (j : Int) + sc.ge := mul_add_one sc.ge j
      omega
    · rw [if_neg hc] at hT ⊢
      exact good_del_open hgo (by omega) hT (good_ypre (v := cl.yp) (by omega) (by omega) hO (by omega)) (by omega)

variable (sc cl x y) in
/-- the S cell of row 0 in terms of its D cell -/
theorem rowJ0_s_ts (j : Nat) (p0 : Row) :
    (rowJ0 sc cl x y j p0).s =
      (if j = y.length ∧ p0.sn > (if (rowJ0 sc cl x y j p0).d > cl.yp then (rowJ0 sc cl x y j p0).d else cl.yp)
        then p0.sn else (if (rowJ0 sc cl x y j p0).d > cl.yp then (rowJ0 sc cl x y j p0).d else cl.yp)) ∧
    (rowJ0 sc cl x y j p0).t.ts =
      (if j = y.length ∧ p0.sn > (if (rowJ0 sc cl x y j p0).d > cl.yp then (rowJ0 sc cl x y j p0).d else cl.yp)
        then Tb.ysuf else (if (rowJ0 sc cl x y j p0).d > cl.yp then Tb.del else Tb.ypre)) := ⟨rfl, rfl⟩

theorem rowJ0_good_S {j : Nat} (p0 : Row) (hj : j + 1 ≤ y.length)
    (hD : Good sc cl x y T 0 (j + 1) .del (rowJ0 sc cl x y (j + 1) p0).d)
    (hO : Good sc cl x y T 0 0 (T.tS 0 0) 0)
    (hY : j + 1 = y.length →
      p0.sn > (if (rowJ0 sc cl x y (j + 1) p0).d > cl.yp then (rowJ0 sc cl x y (j + 1) p0).d else cl.yp) →
      Good sc cl x y T 0 (j + 1) .ysuf p0.sn) :
    Good sc cl x y T 0 (j + 1) (rowJ0 sc cl x y (j + 1) p0).t.ts (rowJ0 sc cl x y (j + 1) p0).s := by
  have k2 : Good sc cl x y T 0 (j + 1) .ypre cl.yp := good_ypre (by omega) hj hO (by omega)
  obtain ⟨e1, e2⟩ := rowJ0_s_ts sc cl x y (j + 1) p0
  rw [e1, e2]
  generalize (rowJ0 sc cl x y (j + 1) p0).d = d0 at hD hY ⊢
  by_cases hc : j + 1 = y.length ∧ p0.sn > (if d0 > cl.yp then d0 else cl.yp)
  · rw [if_pos hc, if_pos hc]; exact hY hc.1 hc.2
  · rw [if_neg hc, if_neg hc]
    by_cases hd : d0 > cl.yp
    · rw [if_pos hd, if_pos hd]; exact hD
    · rw [if_neg hd, if_neg hd]; exact k2

variable (sc cl x y) in
theorem rowJ0_sn_ly (j : Nat) (p0 : Row) :
    let s0 := (if (rowJ0 sc cl x y j p0).d > cl.yp then (rowJ0 sc cl x y j p0).d else cl.yp)
    (rowJ0 sc cl x y j p0).sn = (if j = y.length ∧ p0.sn > s0 then p0.sn else upd (s0 + cl.ys) p0.sn) ∧
    (rowJ0 sc cl x y j p0).t.ly =
      (if j = y.length ∧ p0.sn > s0 then p0.t.ly else if s0 + cl.ys > p0.sn then y.length - j else p0.t.ly) :=
  ⟨rfl, rfl⟩

variable (sc cl x y) in
theorem rowJ0_ly_of_ysuf (j : Nat) (p0 : Row)
    (hc : j = y.length ∧ p0.sn > (if (rowJ0 sc cl x y j p0).d > cl.yp then (rowJ0 sc cl x y j p0).d else cl.yp)) :
    (rowJ0 sc cl x y j p0).t.ly = p0.t.ly := by
  obtain ⟨_, e4⟩ := rowJ0_sn_ly sc cl x y j p0
  rw [e4, if_pos hc]

variable (sc cl x y) in
/-- `Sn[0]`, `Ly[0]` after the `i = 0` block: unchanged, or set from the cell just written -/
theorem rowJ0_sn (j : Nat) (p0 : Row) :
    let r' := rowJ0 sc cl x y j p0
    (r'.sn = p0.sn ∧ r'.t.ly = p0.t.ly) ∨ (r'.t.ly = y.length - j ∧ r'.sn = r'.s + cl.ys) := by
  obtain ⟨e1, e2⟩ := rowJ0_s_ts sc cl x y j p0
  obtain ⟨e3, e4⟩ := rowJ0_sn_ly sc cl x y j p0
  dsimp only at e3 e4 ⊢
  rw [e1, e3, e4]
  generalize (rowJ0 sc cl x y j p0).d = d0
  by_cases hc : j = y.length ∧ p0.sn > (if d0 > cl.yp then d0 else cl.yp)
  · rw [if_pos hc, if_pos hc, if_pos hc]; left; exact ⟨rfl, rfl⟩
  · rw [if_neg hc, if_neg hc, if_neg hc]
    exact trk_shape _ _ _ _

end

end RbV.Model.PairwiseFill
