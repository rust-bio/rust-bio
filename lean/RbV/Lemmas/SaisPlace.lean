import RbV.Lemmas.SaisPass
/-
The first phase of `calc_pos`: "insert LMS positions to the end of their buckets" (`placeLms`) establishes `Placed`.
The placement writes into the queues of direction `down` (`SaisPass.lean`: the S-area of a bucket from its end): after
the positions `D`, queue `c` holds the `dcnt t D c` positions of `D` with symbol `c` (`PInvG`).  The closing section states the same in terms
of the arrays alone (`PInv`); no proof rests on it.
-/
namespace RbV.Sais

/-- number of elements of `D` with symbol `c` -/
def dcnt (t : List Nat) (D : List Nat) (c : Nat) : Nat := (D.filter (fun p => sym t p == c)).length

theorem dcnt_nil (t : List Nat) (c : Nat) : dcnt t [] c = 0 := rfl

theorem dcnt_snoc (t D : List Nat) (p : Nat) : dcnt t (D ++ [p]) = updW (dcnt t D) (sym t p) := by
  funext c
  by_cases h : c = sym t p
  · subst h; simp [dcnt, updW_eq]
  · simp [dcnt, updW_ne _ h, Ne.symm h]

/-- LMS positions with symbol `c` fit into the S-area of bucket `c` -/
theorem dcnt_le_Sset (t L : List Nat) (c : Nat) (hnd : L.Nodup) (hlms : ∀ p ∈ L, isLms (tyOf t) p = true) :
    dcnt t L c ≤ (Sset t c).length := by
  unfold dcnt
  apply nodup_subset_length_le _ _ (List.Nodup.sublist List.filter_sublist hnd)
  intro x hx
  rw [List.mem_filter] at hx
  rw [mem_Sset]
  have hl := hlms x hx.1
  exact ⟨lt_of_isLms x hl, by simpa using hx.2, isS_of_isLms hl⟩

/-- state `st = (pos, bucket_end)` after the positions `D` have been placed, in terms of the queues -/
structure PInvG (t : List Nat) (R : Nat → Nat → Prop) (D : List Nat) (st : List Nat × List Nat) : Prop where
  lenP : st.1.length = t.length
  lenB : st.2.length = maxSucc t
  ptr : ∀ c, c < maxSucc t → dcnt t D c < (Sset t c).length → st.2.getD c 0 = (Dir.down t).slot c (dcnt t D c)
  dead : ∀ i, i < t.length → ¬ Live (Dir.down t) (fun _ => False) (dcnt t D) i → st.1.getD i 0 = t.length
  qmem : ∀ c a, a < dcnt t D c → st.1.getD ((Dir.down t).slot c a) 0 ∈ D ∧ sym t (st.1.getD ((Dir.down t).slot c a) 0) = c
  all : ∀ p, p ∈ D → ∃ c a, a < dcnt t D c ∧ st.1.getD ((Dir.down t).slot c a) 0 = p
  /-- within a queue a later entry is different from and `R`-before an earlier one -/
  sorted : ∀ c a b, a < b → b < dcnt t D c →
    st.1.getD ((Dir.down t).slot c b) 0 ≠ st.1.getD ((Dir.down t).slot c a) 0 ∧
      R (st.1.getD ((Dir.down t).slot c b) 0) (st.1.getD ((Dir.down t).slot c a) 0)

theorem placeStep_eq (t : List Nat) (st : List Nat × List Nat) (p : Nat) :
    placeStep t st p =
      (st.1.set (st.2.getD (sym t p) 0) p, st.2.set (sym t p) (wrapSub1 (st.2.getD (sym t p) 0))) := rfl

theorem PInvG.init (t : List Nat) (R : Nat → Nat → Prop) (hv : Valid t) :
    PInvG t R [] (List.replicate t.length t.length, bEnd0 t) := by
  refine ⟨by simp, length_bEnd0 hv, fun c hc _ => ?_, fun i hi _ => by rw [List.getD_replicate, if_pos hi],
    fun c a ha => absurd ha (Nat.not_lt_zero _), fun p hp => absurd hp (List.not_mem_nil), fun c a b _ hb => absurd hb (Nat.not_lt_zero _)⟩
  show (bEnd0 t).getD c 0 = _
  rw [getD_bEnd0 hv c hc, dcnt_nil, Dir.down_slot]
  rfl

section step
variable {t : List Nat} {R : Nat → Nat → Prop} {D : List Nat} {st : List Nat × List Nat} {p : Nat}

theorem placeStep_invG (h : PInvG t R D st) (hwle : ∀ c, dcnt t D c ≤ (Sset t c).length) (hpD : p ∉ D) (hp : p < t.length)
    (hR : ∀ q, q ∈ D → sym t p = sym t q → R p q) (hroom : dcnt t D (sym t p) < (Sset t (sym t p)).length) :
    st.2.getD (sym t p) 0 < t.length ∧ PInvG t R (D ++ [p]) (placeStep t st p) := by
  have hc : sym t p < maxSucc t := sym_lt_maxSucc p hp
  have hb := (Dir.down t).slot_bkt _ _ hroom
  have hbn := inBkt_lt_length t _ _ hb
  have hnl : ¬ Live (Dir.down t) (fun _ => False) (dcnt t D) ((Dir.down t).slot (sym t p) (dcnt t D (sym t p))) :=
    Live.not_slot hwle (fun _ h => h.elim) hroom
  rw [placeStep_eq, h.ptr _ hc hroom]
  -- the array after the write: `p` at the slot, everything live as before
  have hget : (st.1.set ((Dir.down t).slot (sym t p) (dcnt t D (sym t p))) p).getD
      ((Dir.down t).slot (sym t p) (dcnt t D (sym t p))) 0 = p := List.getD_set_self _ _ _ _ (by rw [h.lenP]; exact hbn)
  have hold : ∀ c a, a < dcnt t D c → (st.1.set ((Dir.down t).slot (sym t p) (dcnt t D (sym t p))) p).getD
      ((Dir.down t).slot c a) 0 = st.1.getD ((Dir.down t).slot c a) 0 := fun c a ha =>
    List.getD_set_ne _ _ _ _ _ (fun e => hnl (e ▸ Or.inr ⟨c, a, ha, rfl⟩))
  refine ⟨hbn, by rw [List.length_set]; exact h.lenP, by rw [List.length_set]; exact h.lenB, fun d hd hlt => ?_,
    fun i hi hn => ?_, fun d a ha => ?_, fun q hq => ?_, fun d a b hab hb' => ?_⟩
  · rw [dcnt_snoc] at hlt ⊢
    by_cases hdc : d = sym t p
    · subst hdc
      rw [updW_eq] at hlt ⊢
      rw [List.getD_set_self _ _ _ _ (by rw [h.lenB]; exact hd), Dir.down_slot, Dir.down_slot]
      unfold wrapSub1
      have := cntLt_succ_split t (sym t p)
      rw [if_neg (by omega)]
      omega
    · rw [updW_ne _ hdc] at hlt ⊢
      rw [List.getD_set_ne _ _ _ _ _ (Ne.symm hdc)]; exact h.ptr d hd hlt
  · rw [dcnt_snoc] at hn
    rw [List.getD_set_ne _ _ _ _ _ (fun e => hn (by rw [← e]; exact Live.slot _))]
    exact h.dead i hi (fun hl => hn hl.mono)
  · rw [dcnt_snoc] at ha
    rcases lt_updW ha with ⟨rfl, rfl⟩ | ha
    · rw [hget]; exact ⟨by simp, rfl⟩
    · rw [hold d a ha]
      exact ⟨List.mem_append_left _ (h.qmem d a ha).1, (h.qmem d a ha).2⟩
  · rw [dcnt_snoc]
    rcases List.mem_append.mp hq with hq | hq
    · obtain ⟨c, a, ha, he⟩ := h.all q hq
      exact ⟨c, a, lt_updW_of_lt ha, by rw [hold c a ha]; exact he⟩
    · rw [List.mem_singleton.mp hq]
      exact ⟨_, _, by rw [updW_eq]; exact Nat.lt_succ_self _, hget⟩
  · rw [dcnt_snoc] at hb'
    rcases lt_updW hb' with ⟨rfl, rfl⟩ | hb'
    · obtain ⟨hm, hs⟩ := h.qmem _ a hab
      rw [hget, hold _ a hab]
      exact ⟨fun e => hpD (e ▸ hm), hR _ hm hs.symm⟩
    · rw [hold d a (by omega), hold d b hb']
      exact h.sorted d a b hab hb'

end step

/-- the next placement of the loop over `L = D ++ p :: rest`: the S-area of `p`'s bucket still has room (the LMS positions of
a bucket fit into it), the slot lies inside the array, and the invariant moves on -/
theorem placeStep_invG_split (t : List Nat) (R : Nat → Nat → Prop) (D rest : List Nat) (p : Nat)
    (st : List Nat × List Nat) (hlms : ∀ q, q ∈ D ++ p :: rest → isLms (tyOf t) q = true)
    (hnd : (D ++ p :: rest).Nodup) (hpw : (D ++ p :: rest).Pairwise (fun q p => sym t p = sym t q → R p q))
    (h : PInvG t R D st) :
    st.2.getD (sym t p) 0 < t.length ∧ PInvG t R (D ++ [p]) (placeStep t st p) := by
  have hsub : ∀ q, q ∈ D ++ [p] → q ∈ D ++ p :: rest := fun q hq => by
    rcases List.mem_append.mp hq with hq | hq
    · exact List.mem_append_left _ hq
    · exact List.mem_append_right _ (List.mem_cons.mpr (Or.inl (List.mem_singleton.mp hq)))
  have hnd' : (D ++ [p]).Nodup := hnd.sublist (List.Sublist.append_left (List.singleton_sublist.mpr List.mem_cons_self) D)
  have hle := dcnt_le_Sset t (D ++ [p]) (sym t p) hnd' (fun q hq => hlms q (hsub q hq))
  rw [dcnt_snoc, updW_eq] at hle
  have hp := hsub p (List.mem_append_right _ (List.mem_singleton.mpr rfl))
  exact placeStep_invG h
    (fun c => dcnt_le_Sset t D c (List.nodup_append.mp hnd').1 (fun q hq => hlms q (List.mem_append_left _ hq)))
    (fun hpD => (List.nodup_append.mp hnd).2.2 p hpD p List.mem_cons_self rfl) (lt_of_isLms p (hlms p hp))
    (fun q hq => (List.pairwise_append.mp hpw).2.2 q hq p List.mem_cons_self) hle

theorem placeFold_inv (t : List Nat) (R : Nat → Nat → Prop) (L : List Nat)
    (hlms : ∀ p, p ∈ L → isLms (tyOf t) p = true) (hnd : L.Nodup)
    (hpw : L.Pairwise (fun q p => sym t p = sym t q → R p q)) :
    ∀ (rest D : List Nat) (st : List Nat × List Nat), D ++ rest = L → PInvG t R D st →
      PInvG t R L (rest.foldl (placeStep t) st) := by
  intro rest
  induction rest with
  | nil =>
    intro D st hDL h
    rw [List.append_nil] at hDL; subst hDL; exact h
  | cons p rest ih =>
    intro D st hDL h
    subst hDL
    exact ih (D ++ [p]) _ (List.append_assoc ..) (placeStep_invG_split t R D rest p st hlms hnd hpw h).2

/-- "insert LMS positions to the end of their buckets": afterwards every LMS position sits exactly once in the S-area
of its own bucket, in the order of `lms` within a bucket; everything else is undefined (`n`). -/
theorem placeLms_spec (t : List Nat) (hv : Valid t) (R : Nat → Nat → Prop) (hR : IndRel t R)
    (lms : List Nat) (hl : LmsList t lms)
    (hinit : lms.Pairwise (fun p q => sym t p = sym t q → R p q)) :
    Placed t R (placeLms t lms (List.replicate t.length t.length) (bEnd0 t)).1 := by
  have hnd := hl.reverse.nodup
  have hlms : ∀ p, p ∈ lms.reverse → isLms (tyOf t) p = true := fun p => (hl.reverse.mem p).mp
  have hpw : lms.reverse.Pairwise (fun q p => sym t p = sym t q → R p q) := by
    rw [List.pairwise_reverse]; exact hinit
  have h := placeFold_inv t R lms.reverse hlms hnd hpw lms.reverse [] _ (List.nil_append _) (PInvG.init t R hv)
  unfold placeLms
  generalize List.foldl (placeStep t) (List.replicate t.length t.length, bEnd0 t) lms.reverse = st at h ⊢
  have hwle := fun c => dcnt_le_Sset t lms.reverse c hnd hlms
  -- a defined entry is a queue entry
  have hq : ∀ i, i < t.length → st.1.getD i 0 ≠ t.length →
      ∃ c a, a < dcnt t lms.reverse c ∧ i = (Dir.down t).slot c a ∧ isLms (tyOf t) (st.1.getD i 0) = true ∧
        sym t (st.1.getD i 0) = c ∧ inBkt t c i ∧ cntLt t c + (Lset t c).length ≤ i := by
    intro i hi hd
    have hl : Live (Dir.down t) (fun _ => False) (dcnt t lms.reverse) i :=
      Classical.byContradiction fun hn => hd (h.dead i hi hn)
    obtain ⟨c, a, ha, rfl⟩ := hl.resolve_left id
    obtain ⟨hm, hs⟩ := h.qmem c a ha
    have hac := Nat.lt_of_lt_of_le ha (hwle c)
    refine ⟨c, a, ha, rfl, hlms _ hm, hs, (Dir.down t).slot_bkt c a hac, ?_⟩
    have := cntLt_succ_split t c
    rw [Dir.down_slot]; omega
  -- two defined entries, the left one first
  have hpair : ∀ i j, i < j → j < t.length → st.1.getD i 0 ≠ t.length → st.1.getD j 0 ≠ t.length →
      st.1.getD i 0 ≠ st.1.getD j 0 ∧ R (st.1.getD i 0) (st.1.getD j 0) := by
    intro i j hij hj hdi hdj
    obtain ⟨c, a, ha, rfl, hli, hsi, hbi, _⟩ := hq i (by omega) hdi
    obtain ⟨d, b, hb, rfl, hlj, hsj, hbj, _⟩ := hq j hj hdj
    by_cases hcd : c = d
    · subst hcd
      have hba : b < a := (Dir.down t).slot_lt (Nat.lt_of_lt_of_le hb (hwle c)) hij
      exact h.sorted c b a hba ha
    · have hlt : c < d := Nat.lt_of_le_of_ne (bkt_le_of_lt t c d _ _ hbi hbj hij) hcd
      rw [← hsi, ← hsj] at hlt
      exact ⟨fun e => by rw [e] at hlt; exact Nat.lt_irrefl _ hlt,
        hR.ofSym _ _ (lt_of_isLms _ hli) (lt_of_isLms _ hlj) hlt⟩
  refine ⟨h.lenP, fun i hi hd => ?_, fun i j hij hj hdi hdj => (hpair i j hij hj hdi hdj).1, fun p hp => ?_,
    fun i j hij hj hdi hdj => (hpair i j hij hj hdi hdj).2⟩
  · obtain ⟨c, a, _, _, hli, hs, hb, hlo⟩ := hq i hi hd
    rw [hs]; exact ⟨hli, hb, hlo⟩
  · obtain ⟨c, a, ha, he⟩ := h.all p (by rw [List.mem_reverse]; exact (hl.mem p).mpr hp)
    exact ⟨_, inBkt_lt_length t _ _ ((Dir.down t).slot_bkt c a (Nat.lt_of_lt_of_le ha (hwle c))), he⟩

/-! ### the same state in terms of the arrays

Nothing above rests on this section. -/

/-- state `st = (pos, bucket_end)` after the positions `D` have been placed, in terms of the arrays alone.  The proofs work
with `PInvG` (the same in terms of the queues of `SaisPass.lean`). -/
structure PInv (t : List Nat) (R : Nat → Nat → Prop) (D : List Nat) (st : List Nat × List Nat) : Prop where
  lenP : st.1.length = t.length
  lenB : st.2.length = maxSucc t
  bend : ∀ c, c < maxSucc t → dcnt t D c < cntLt t (c + 1) → st.2.getD c 0 = cntLt t (c + 1) - 1 - dcnt t D c
  undef : ∀ c i, inBkt t c i → i + dcnt t D c < cntLt t (c + 1) → st.1.getD i 0 = t.length
  defd : ∀ c i, inBkt t c i → cntLt t (c + 1) ≤ i + dcnt t D c → st.1.getD i 0 ∈ D ∧ sym t (st.1.getD i 0) = c
  all : ∀ p, p ∈ D → ∃ i, i < t.length ∧ st.1.getD i 0 = p
  inj : ∀ i j, i < j → j < t.length → st.1.getD i 0 ≠ t.length → st.1.getD j 0 ≠ t.length →
    st.1.getD i 0 ≠ st.1.getD j 0
  sorted : ∀ i j, i < j → j < t.length → st.1.getD i 0 ≠ t.length → st.1.getD j 0 ≠ t.length →
    sym t (st.1.getD i 0) = sym t (st.1.getD j 0) → R (st.1.getD i 0) (st.1.getD j 0)

end RbV.Sais
