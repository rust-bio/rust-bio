import RbV.Model.Sais
import RbV.Basic.GetD
/-
Generic lemmas for the proofs about the SA-IS mirror model (`Model/Sais.lean`):
loop invariants for `forUp`/`forDown`, `getD`/`set`, pigeonhole principles on lists.
-/
namespace RbV.Sais

/-! ### the loops `forUp`, `forDown`: invariants, and as folds -/

theorem forUp_inv {σ : Type} (n : Nat) (f : Nat → σ → σ) (s : σ) (P : Nat → σ → Prop)
    (h0 : P 0 s) (hstep : ∀ k s, k < n → P k s → P (k + 1) (f k s)) : P n (forUp n f s) := by
  induction n with
  | zero => exact h0
  | succ m ih =>
    simp only [forUp]
    exact hstep m _ (by omega) (ih (fun k s hk => hstep k s (by omega)))

theorem forDown_inv {σ : Type} (n : Nat) (f : Nat → σ → σ) (s : σ) (P : Nat → σ → Prop)
    (h0 : P n s) (hstep : ∀ k s, k < n → P (k + 1) s → P k (f k s)) : P 0 (forDown n f s) := by
  induction n generalizing s with
  | zero => exact h0
  | succ m ih =>
    simp only [forDown]
    exact ih (f m s) (hstep m s (by omega) h0) (fun k s hk => hstep k s (by omega))

theorem forUp_eq_foldl {σ : Type} (f : Nat → σ → σ) (n : Nat) (s : σ) :
    forUp n f s = (List.range n).foldl (fun s r => f r s) s := by
  induction n with
  | zero => rfl
  | succ n ih => rw [List.range_succ, List.foldl_append, ← ih]; rfl

theorem forDown_eq_foldl {σ : Type} (f : Nat → σ → σ) (n : Nat) (s : σ) :
    forDown n f s = (List.range n).reverse.foldl (fun s r => f r s) s := by
  induction n generalizing s with
  | zero => rfl
  | succ n ih => rw [List.range_succ, List.reverse_append, List.reverse_singleton, List.singleton_append, List.foldl_cons, ← ih]; rfl

theorem foldl_inv {α σ : Type} (l : List α) (f : σ → α → σ) (s : σ) (P : List α → σ → Prop)
    (h0 : P l s) (hstep : ∀ a rest s, P (a :: rest) s → P rest (f s a)) : P [] (l.foldl f s) := by
  induction l generalizing s with
  | nil => exact h0
  | cons a rest ih => exact ih (f s a) (hstep a rest s h0)

/-! ### `getD` -/

theorem getD_oob {α : Type} (l : List α) (i : Nat) (d : α) (h : l.length ≤ i) : l.getD i d = d := by
  rw [List.getD_eq_getElem?_getD, List.getElem?_eq_none h]; rfl

theorem getD_set_oob {α : Type} (l : List α) (i j : Nat) (a d : α) (h : l.length ≤ i) :
    (l.set i a).getD j d = l.getD j d := by
  rw [List.set_eq_of_length_le h]

theorem nodup_getD_inj (l : List Nat) (hnd : l.Nodup) (a b : Nat) (ha : a < l.length) (hb : b < l.length)
    (h : l.getD a 0 = l.getD b 0) : a = b := by
  unfold List.Nodup at hnd
  rw [List.pairwise_iff_getElem] at hnd
  rw [List.getD_eq_getElem?_getD, List.getD_eq_getElem?_getD, List.getElem?_eq_getElem ha,
    List.getElem?_eq_getElem hb] at h
  simp only [Option.getD_some] at h
  apply Classical.byContradiction
  intro hne
  rcases Nat.lt_or_gt_of_ne hne with h' | h'
  · exact hnd _ _ ha hb h' h
  · exact hnd _ _ hb ha h' h.symm

/-! ### pigeonhole: duplicate-free lists, injective maps into a list -/

theorem nodup_subset_length_le (l m : List Nat) (hnd : l.Nodup) (hsub : ∀ x ∈ l, x ∈ m) : l.length ≤ m.length :=
  hnd.length_le_of_subset hsub

theorem nodup_subset_surj (l m : List Nat) (hnd : l.Nodup) (hsub : ∀ x ∈ l, x ∈ m) (hlen : m.length ≤ l.length) :
    ∀ x ∈ m, x ∈ l := by
  intro x hx
  apply Classical.byContradiction
  intro hnx
  have hsub' : ∀ y ∈ l, y ∈ m.erase x := by
    intro y hy
    have hyx : y ≠ x := fun e => hnx (e ▸ hy)
    exact (List.mem_erase_of_ne hyx).mpr (hsub y hy)
  have h1 := nodup_subset_length_le l (m.erase x) hnd hsub'
  have hl := List.length_erase_of_mem hx
  have hpos : 0 < m.length := List.length_pos_of_mem hx
  omega

/-- the values `f a, …, f (a+k-1)` as a list -/
def slice (f : Nat → Nat) (a k : Nat) : List Nat := (List.range k).map (fun i => f (a + i))

theorem mem_slice (f : Nat → Nat) (a k x : Nat) : x ∈ slice f a k ↔ ∃ i, i < k ∧ f (a + i) = x := by
  simp [slice]

theorem nodup_slice (f : Nat → Nat) (a k : Nat) (hinj : ∀ i j, i < j → j < k → f (a + i) ≠ f (a + j)) :
    (slice f a k).Nodup := by
  unfold slice List.Nodup
  rw [List.pairwise_map]
  have : (List.range k).Pairwise (fun i j => i < j ∧ j < k) := by
    rw [List.pairwise_iff_getElem]
    intro i j hi hj hij
    simp only [List.getElem_range]
    simp only [List.length_range] at hj
    exact ⟨hij, hj⟩
  exact this.imp (fun h => hinj _ _ h.1 h.2)

theorem length_slice (f : Nat → Nat) (a k : Nat) : (slice f a k).length = k := by simp [slice]

/-- a duplicate-free list all of whose members are among `f 0, …, f (k-1)` has at most `k` members -/
theorem length_le_of_surj (M : List Nat) (hnd : M.Nodup) (f : Nat → Nat) (k : Nat)
    (h : ∀ x ∈ M, ∃ a, a < k ∧ f a = x) : M.length ≤ k := by
  have := nodup_subset_length_le M (slice f 0 k) hnd
    (fun x hx => (mem_slice _ _ _ _).mpr (by simpa using h x hx))
  rwa [length_slice] at this

theorem inj_le (f : Nat → Nat) (a k : Nat) (M : List Nat) (hin : ∀ i, i < k → f (a + i) ∈ M)
    (hinj : ∀ i j, i < j → j < k → f (a + i) ≠ f (a + j)) : k ≤ M.length := by
  have h := nodup_subset_length_le (slice f a k) M (nodup_slice f a k hinj)
    (fun x hx => by obtain ⟨i, hi, he⟩ := (mem_slice f a k x).mp hx; exact he ▸ hin i hi)
  simpa [slice] using h

/-- an injective map of the segment `a, …, a + k - 1` into a list of at most `k` members reaches every member -/
theorem seg_surj (f : Nat → Nat) (a k : Nat) (M : List Nat)
    (hin : ∀ j, a ≤ j → j < a + k → f j ∈ M)
    (hinj : ∀ i j, a ≤ i → i < j → j < a + k → f i ≠ f j) (hk : M.length ≤ k) :
    ∀ x, x ∈ M → ∃ j, a ≤ j ∧ j < a + k ∧ f j = x := by
  intro x hx
  have h := nodup_subset_surj (slice f a k) M
    (nodup_slice f a k fun i j hij hj => hinj (a + i) (a + j) (by omega) (by omega) (by omega))
    (fun x hx => by obtain ⟨i, hi, he⟩ := (mem_slice f a k x).mp hx; exact he ▸ hin (a + i) (by omega) (by omega))
    (by rw [length_slice]; exact hk) x hx
  obtain ⟨i, hi, he⟩ := (mem_slice f a k x).mp h
  exact ⟨a + i, by omega, by omega, he⟩

theorem perm_range_of_inj (l : List Nat) {n : Nat} (hlen : l.length = n) (hlt : ∀ i, i < n → l.getD i 0 < n)
    (hinj : ∀ i j, i < j → j < n → l.getD i 0 ≠ l.getD j 0) : l.Perm (List.range n) := by
  subst hlen
  have hnd : l.Nodup := by
    unfold List.Nodup
    rw [List.pairwise_iff_getElem]
    intro i j hi hj hij
    have := hinj i j hij hj
    rw [List.getD_eq_getElem?_getD, List.getD_eq_getElem?_getD, List.getElem?_eq_getElem hi,
      List.getElem?_eq_getElem hj] at this
    simpa using this
  rw [List.perm_ext_iff_of_nodup hnd List.nodup_range]
  intro a
  constructor
  · intro ha
    obtain ⟨i, hi, he⟩ := List.exists_getD_of_mem l 0 ha
    rw [List.mem_range, ← he]; exact hlt i hi
  · intro ha
    have := nodup_subset_surj l (List.range l.length) hnd
      (fun x hx => by
        obtain ⟨i, hi, he⟩ := List.exists_getD_of_mem l 0 hx
        rw [List.mem_range, ← he]; exact hlt i hi)
      (by simp) a ha
    exact this

/-- the least positive witness of a predicate on `Nat` -/
theorem exists_least_pos (P : Nat → Prop) (m : Nat) (h0 : 0 < m) (hm : P m) :
    ∃ l, 0 < l ∧ l ≤ m ∧ P l ∧ ∀ k, 0 < k → k < l → ¬ P k := by
  induction m using Nat.strongRecOn with
  | _ m ih =>
    by_cases h : ∃ k, 0 < k ∧ k < m ∧ P k
    · obtain ⟨k, hk0, hkm, hk⟩ := h
      obtain ⟨l, a, b, c, d⟩ := ih k hkm hk0 hk
      exact ⟨l, a, by omega, c, d⟩
    · exact ⟨m, h0, Nat.le_refl _, hm, fun k hk0 hkm hk => h ⟨k, hk0, hkm, hk⟩⟩

end RbV.Sais
