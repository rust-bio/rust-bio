import RbV.Model.Tsv
import RbV.Lemmas.Csv
/-! Lemmas for the round-trip theorems of C13 (`Thm/C13.lean`), and the domain of those theorems: `BedOk`, `NoQuoteEnds`, `TokOk`,
`DialectOk`, `KeyOk`, `ValOk`, `AttrsOk`, `GffOk`.  The `join` and `foldl` facts also serve the proofs about the translated GFF writer
and reader (`Thm/GenSrcGff.lean`, `Thm/GenSrcGffRead.lean`).  Core Lean only. -/
namespace RbV.Tsv

/-! ## `splitOn` -/

theorem splitOn_ne_nil (sep : Nat) (s : List Nat) : splitOn sep s ≠ [] := by
  induction s with
  | nil => simp [splitOn]
  | cons c r ih =>
    unfold splitOn
    by_cases h : c = sep
    · simp [h]
    · simp only [h, if_false]
      cases hs : splitOn sep r with
      | nil => simp [consFirst]
      | cons p ps => simp [consFirst]

theorem splitOn_cons_ne (sep c : Nat) (r : List Nat) (h : c ≠ sep) :
    splitOn sep (c :: r) = consFirst c (splitOn sep r) := by
  rw [splitOn]
  simp only [h, if_false]

theorem splitOn_cons_self (c : Nat) (r : List Nat) : splitOn c (c :: r) = [] :: splitOn c r := by
  rw [splitOn]; simp

theorem splitOn_no_sep (sep : Nat) (l : List Nat) (h : sep ∉ l) : splitOn sep l = [l] := by
  induction l with
  | nil => simp [splitOn]
  | cons c r ih =>
    have hc : c ≠ sep := by
      intro e; apply h; simp [e]
    have hr : sep ∉ r := by
      intro e; apply h; simp [e]
    rw [splitOn_cons_ne sep c r hc, ih hr, consFirst]

theorem consFirst_append (c : Nat) (xs ys : List (List Nat)) (h : xs ≠ []) :
    consFirst c (xs ++ ys) = consFirst c xs ++ ys := by
  cases xs with
  | nil => exact absurd rfl h
  | cons p ps => simp [consFirst]

theorem splitOn_append_sep' (sep : Nat) (a b : List Nat) :
    splitOn sep (a ++ sep :: b) = splitOn sep a ++ splitOn sep b := by
  induction a with
  | nil => simp [splitOn]
  | cons c r ih =>
    by_cases hc : c = sep
    · subst hc
      rw [List.cons_append]
      rw [show splitOn c (c :: (r ++ c :: b)) = [] :: splitOn c (r ++ c :: b) by rw [splitOn]; simp]
      rw [show splitOn c (c :: r) = [] :: splitOn c r by rw [splitOn]; simp]
      rw [ih]; rfl
    · rw [List.cons_append, splitOn_cons_ne sep c _ hc, splitOn_cons_ne sep c r hc, ih,
        consFirst_append c _ _ (splitOn_ne_nil sep r)]

theorem splitOn_append_sep (sep : Nat) (l rest : List Nat) (h : sep ∉ l) :
    splitOn sep (l ++ sep :: rest) = l :: splitOn sep rest := by
  rw [splitOn_append_sep', splitOn_no_sep sep l h]; rfl

theorem splitOn_join (sep : Nat) : ∀ (ps : List (List Nat)), ps ≠ [] → (∀ p ∈ ps, sep ∉ p) →
    splitOn sep (join sep ps) = ps := by
  intro ps
  induction ps with
  | nil => intro h; exact absurd rfl h
  | cons p rest ih =>
    intro _ hp
    cases rest with
    | nil =>
      simp only [join]
      exact splitOn_no_sep sep p (hp p (by simp))
    | cons q r =>
      simp only [join]
      rw [splitOn_append_sep sep p _ (hp p (by simp))]
      rw [ih (by simp) (fun x hx => hp x (by simp [hx]))]

theorem join_consFirst (sep c : Nat) (ps : List (List Nat)) (h : ps ≠ []) :
    join sep (consFirst c ps) = c :: join sep ps := by
  cases ps with
  | nil => exact absurd rfl h
  | cons q qs =>
    cases qs with
    | nil => simp [consFirst, join]
    | cons q2 qs2 => simp [consFirst, join]

theorem join_splitOn (sep : Nat) (s : List Nat) : join sep (splitOn sep s) = s := by
  induction s with
  | nil => simp [splitOn, join]
  | cons c r ih =>
    by_cases hc : c = sep
    · subst hc
      rw [splitOn_cons_self]
      cases hs : splitOn c r with
      | nil => exact absurd hs (splitOn_ne_nil c r)
      | cons q qs =>
        rw [hs] at ih
        simp only [join, List.nil_append]
        rw [ih]
    · rw [splitOn_cons_ne sep c r hc, join_consFirst sep c _ (splitOn_ne_nil sep r), ih]

theorem mem_consFirst {c : Nat} {p : List Nat} {ps : List (List Nat)} (h : p ∈ consFirst c ps) :
    (∃ q, p = c :: q ∧ (q ∈ ps ∨ (ps = [] ∧ q = []))) ∨ p ∈ ps := by
  cases ps with
  | nil =>
    simp only [consFirst, List.mem_singleton] at h
    exact Or.inl ⟨[], h, Or.inr ⟨rfl, rfl⟩⟩
  | cons q qs =>
    simp only [consFirst, List.mem_cons] at h
    rcases h with h | h
    · exact Or.inl ⟨q, h, Or.inl (by simp)⟩
    · exact Or.inr (by simp [h])

theorem splitOn_pieces (sep : Nat) (s : List Nat) : ∀ p ∈ splitOn sep s, sep ∉ p ∧ ∀ c ∈ p, c ∈ s := by
  induction s with
  | nil =>
    intro p hp
    simp only [splitOn, List.mem_singleton] at hp
    subst hp
    simp
  | cons c r ih =>
    intro p hp
    by_cases hc : c = sep
    · subst hc
      rw [splitOn_cons_self, List.mem_cons] at hp
      rcases hp with hp | hp
      · subst hp; simp
      · obtain ⟨h1, h2⟩ := ih p hp
        exact ⟨h1, fun x hx => by simp [h2 x hx]⟩
    · rw [splitOn_cons_ne sep c r hc] at hp
      rcases mem_consFirst hp with ⟨q, rfl, hq⟩ | hp'
      · rcases hq with hq | ⟨hnil, _⟩
        · obtain ⟨h1, h2⟩ := ih q hq
          refine ⟨?_, ?_⟩
          · intro hmem
            simp only [List.mem_cons] at hmem
            rcases hmem with h | h
            · exact hc h.symm
            · exact h1 h
          · intro x hx
            simp only [List.mem_cons] at hx ⊢
            rcases hx with h | h
            · exact Or.inl h
            · exact Or.inr (h2 x h)
        · exact absurd hnil (splitOn_ne_nil sep r)
      · obtain ⟨h1, h2⟩ := ih p hp'
        exact ⟨h1, fun x hx => by simp [h2 x hx]⟩

theorem splitOn_render : ∀ (ls : List (List Nat)), (∀ l ∈ ls, LF ∉ l) →
    splitOn LF (render ls) = ls ++ [[]] := by
  intro ls
  induction ls with
  | nil => intro _; simp [render, splitOn]
  | cons l rest ih =>
    intro h
    simp only [render]
    rw [splitOn_append_sep LF l _ (h l (by simp))]
    rw [ih (fun x hx => h x (by simp [hx]))]
    simp

/-! ## decimal numbers: `toDec`, `parseDec`, `readU64` -/

theorem toDec_ne_nil (n : Nat) : toDec n ≠ [] := by
  unfold toDec
  by_cases h : n < 10
  · simp [h]
  · simp [h]

theorem toDec_small (n : Nat) (h : n < 10) : toDec n = [48 + n] := by
  unfold toDec; simp [h]

theorem toDec_digits (n : Nat) : ∀ c ∈ toDec n, 48 ≤ c ∧ c ≤ 57 := by
  induction n using Nat.strongRecOn with
  | _ n ih =>
    intro c hc
    unfold toDec at hc
    by_cases h : n < 10
    · simp only [h, if_true, List.mem_singleton] at hc
      omega
    · simp only [h, if_false, List.mem_append, List.mem_singleton] at hc
      rcases hc with hc | hc
      · exact ih (n / 10) (by omega) c hc
      · omega

theorem digitsVal_append (acc : Nat) (a b : List Nat) :
    digitsVal acc (a ++ b) = digitsVal (digitsVal acc a) b := by
  simp [digitsVal, List.foldl_append]

theorem digitsVal_toDec (n : Nat) : digitsVal 0 (toDec n) = n := by
  induction n using Nat.strongRecOn with
  | _ n ih =>
    unfold toDec
    by_cases h : n < 10
    · simp [h, digitsVal]
    · simp only [h, if_false]
      rw [digitsVal_append, ih (n / 10) (by omega)]
      simp only [digitsVal, List.foldl_cons, List.foldl_nil]
      omega

theorem toDec_all_isDigit (n : Nat) : (toDec n).all isDigit = true := by
  rw [List.all_eq_true]
  intro c hc
  have := toDec_digits n c hc
  simp [isDigit, this.1, this.2]

theorem parseDec_toDec (n : Nat) : parseDec (toDec n) = some n := by
  unfold parseDec
  have h1 : (toDec n).isEmpty = false := List.isEmpty_eq_false_iff.mpr (toDec_ne_nil n)
  simp [h1, toDec_all_isDigit, digitsVal_toDec]

theorem readU64_toDec (n : Nat) (h : n < 2 ^ 64) : readU64 (toDec n) = .ok n := by
  unfold readU64
  rw [parseDec_toDec]
  simp [h]

theorem toDec_no (n : Nat) (c : Nat) (hc : c < 48) : c ∉ toDec n := by
  intro h
  have := toDec_digits n c h
  omega

/-! ## `join`; two facts about `foldl` (for the closures of `Thm/GenSrcGffRead.lean`) -/

theorem foldl_snoc {α β : Type} (f : β → α) (l : List β) (acc : List α) :
    List.foldl (fun a x => a ++ [f x]) acc l = acc ++ l.map f := by
  induction l generalizing acc with
  | nil => simp
  | cons x r ih => simp [ih]

theorem foldl_app {α β : Type} (g : β → List α) (l : List β) (acc : List α) :
    List.foldl (fun a x => a ++ g x) acc l = acc ++ l.flatMap g := by
  induction l generalizing acc with
  | nil => simp
  | cons x r ih => simp [ih]

theorem join_append (c : Nat) (a b : List (List Nat)) (ha : a ≠ []) (hb : b ≠ []) :
    join c (a ++ b) = join c a ++ c :: join c b := by
  induction a with
  | nil => exact absurd rfl ha
  | cons p r ih =>
    cases r with
    | nil =>
      cases b with
      | nil => exact absurd rfl hb
      | cons q s => simp [join]
    | cons q r =>
      have := ih (by simp)
      simp only [List.cons_append, join, List.append_assoc] at this ⊢
      rw [this]

theorem join_flatMap {α : Type} (c : Nat) (f : α → List (List Nat)) (g : List α) (hf : ∀ x ∈ g, f x ≠ []) :
    join c (g.flatMap f) = join c (g.map fun x => join c (f x)) := by
  induction g with
  | nil => rfl
  | cons x rest ih =>
    have ih' := ih (fun y hy => hf y (List.mem_cons_of_mem _ hy))
    cases rest with
    | nil => simp [join]
    | cons y rest =>
      have hne : (y :: rest).flatMap f ≠ [] := by
        have := hf y (by simp)
        simp only [List.flatMap_cons]
        intro h
        exact this (List.append_eq_nil_iff.mp h).1
      rw [List.flatMap_cons, join_append c _ _ (hf x (by simp)) hne, ih']
      simp [join]

theorem mem_join (sep : Nat) : ∀ (ps : List (List Nat)) (c : Nat), c ∈ join sep ps → c = sep ∨ ∃ p ∈ ps, c ∈ p := by
  intro ps
  induction ps with
  | nil => intro c h; simp [join] at h
  | cons p rest ih =>
    intro c h
    cases rest with
    | nil =>
      simp only [join] at h
      exact Or.inr ⟨p, by simp, h⟩
    | cons q r =>
      simp only [join, List.mem_append, List.mem_cons] at h
      rcases h with h | h | h
      · exact Or.inr ⟨p, by simp, h⟩
      · exact Or.inl h
      · rcases ih c h with h' | ⟨x, hx, hc⟩
        · exact Or.inl h'
        · exact Or.inr ⟨x, by simp [hx], hc⟩

/-! ## BED -/

/-- a BED record of the domain: `k` auxiliary columns, coordinates fit `u64`, and the written line is not taken
for a comment (the chromosome name does not start with `#` — unless it also contains TAB, `"`, CR or LF, in which case
the writer quotes it).  Every other byte content of the text columns is allowed. -/
structure BedOk (k : Nat) (r : BedRec) : Prop where
  cols : r.aux.length = k
  chromHash : hashStart (bedFields r) = false
  startRange : r.start < 2 ^ 64
  stopRange : r.stop < 2 ^ 64

theorem parseBedFields_bedFields (r : BedRec) (h1 : r.start < 2 ^ 64) (h2 : r.stop < 2 ^ 64) :
    parseBedFields (bedFields r) = .ok r := by
  unfold bedFields parseBedFields
  simp only [readU64_toDec _ h1, readU64_toDec _ h2]

/-! ## the attribute scanner: trimming, `matchAt`, `scan` -/

theorem dropWhile_id (p : Nat → Bool) (s : List Nat) (h : ∀ c, s.head? = some c → p c = false) :
    s.dropWhile p = s := by
  cases s with
  | nil => rfl
  | cons c r =>
    have := h c (by simp)
    simp [List.dropWhile_cons, this]

theorem takeWhile_nil_of_head (p : Nat → Bool) (s : List Nat) (h : ∀ c, s.head? = some c → p c = false) :
    s.takeWhile p = [] := by
  cases s with
  | nil => rfl
  | cons c r =>
    have := h c (by simp)
    simp [List.takeWhile_cons, this]

theorem takeWhile_append_stop (p : Nat → Bool) (a b : List Nat) (ha : ∀ c ∈ a, p c = true)
    (hb : ∀ c, b.head? = some c → p c = false) : (a ++ b).takeWhile p = a ∧ (a ++ b).dropWhile p = b := by
  rw [List.takeWhile_append_of_pos ha, List.dropWhile_append_of_pos ha, takeWhile_nil_of_head p b hb, dropWhile_id p b hb,
    List.append_nil]
  exact ⟨rfl, rfl⟩

theorem trimBoth_id (p : Nat → Bool) (s : List Nat) (h1 : ∀ c, s.head? = some c → p c = false)
    (h2 : ∀ c, s.getLast? = some c → p c = false) : trimBoth p s = s := by
  unfold trimBoth
  rw [dropWhile_id p s h1, dropWhile_id p s.reverse (by rw [List.head?_reverse]; exact h2), List.reverse_reverse]

/-- no quote character at either end -/
def NoQuoteEnds (s : List Nat) : Prop :=
  (∀ c, s.head? = some c → c ≠ 39 ∧ c ≠ 34) ∧ (∀ c, s.getLast? = some c → c ≠ 39 ∧ c ≠ 34)

theorem trimQuotes_id (s : List Nat) (h : NoQuoteEnds s) : trimQuotes s = s := by
  unfold trimQuotes
  rw [trimBoth_id isQuote1 s (fun c hc => by simp [isQuote1, (h.1 c hc).1])
    (fun c hc => by simp [isQuote1, (h.2 c hc).1])]
  exact trimBoth_id isQuote2 s (fun c hc => by simp [isQuote2, (h.1 c hc).2])
    (fun c hc => by simp [isQuote2, (h.2 c hc).2])

/-- a key or a raw value as the regular expression sees it: non-empty, only key/value symbols -/
structure TokOk (d : Dialect) (t : List Nat) : Prop where
  ne : t ≠ []
  kv : ∀ c ∈ t, isKV d c = true

theorem isKV_delim (d : Dialect) : isKV d d.delim = false := by simp [isKV]
theorem isKV_term (d : Dialect) : isKV d d.term = false := by simp [isKV]

/-- the regular expression finds a written segment and stops right after it -/
theorem matchAt_seg (d : Dialect) (k raw tail more : List Nat) (hk : TokOk d k) (hks : k.head? ≠ some SPACE)
    (hr : TokOk d raw) (ht : (tail = [] ∧ more = []) ∨ tail = d.term :: more) :
    matchAt d (k ++ d.delim :: (raw ++ tail)) = some (k, raw, more) := by
  have hsp : ∀ c, (k ++ d.delim :: (raw ++ tail)).head? = some c → isSpace c = false := by
    intro c hc
    cases k with
    | nil => exact absurd rfl hk.ne
    | cons a t =>
      simp only [List.cons_append, List.head?_cons, Option.some.injEq] at hc hks
      subst hc
      simp only [isSpace, beq_eq_false_iff_ne, ne_eq]
      exact fun e => hks (by rw [e])
  have h1 := takeWhile_nil_of_head isSpace _ hsp
  have h2 := dropWhile_id isSpace _ hsp
  have h3 := takeWhile_append_stop (isKV d) k (d.delim :: (raw ++ tail)) hk.kv
    (fun c hc => by simp only [List.head?_cons, Option.some.injEq] at hc; subst hc; exact isKV_delim d)
  have htail : ∀ c, tail.head? = some c → isKV d c = false := by
    intro c hc
    rcases ht with ⟨h, _⟩ | h
    · subst h; simp at hc
    · subst h
      simp only [List.head?_cons, Option.some.injEq] at hc
      subst hc; exact isKV_term d
  have h4 := takeWhile_append_stop (isKV d) raw tail hr.kv htail
  have hkne : k.isEmpty = false := List.isEmpty_eq_false_iff.mpr hk.ne
  have hrne : raw.isEmpty = false := List.isEmpty_eq_false_iff.mpr hr.ne
  unfold matchAt
  simp only [h1, h2, h3.1, h3.2, hkne, Bool.not_false, if_true, Bool.false_eq_true, if_false, h4.1, h4.2, hrne]
  rcases ht with ⟨h, hm⟩ | h
  · subst h; subst hm; rfl
  · subst h; simp

theorem scan_nil (d : Dialect) (fuel : Nat) : scan d fuel [] = [] := by
  cases fuel <;> rfl

theorem renderSeg_length (d : Dialect) (s : List Nat × List Nat) :
    (renderSeg d s).length = s.1.length + 1 + s.2.length := by
  simp [renderSeg]; omega

theorem scan_step (d : Dialect) (k raw J : List Nat) (fuel : Nat) (hk : TokOk d k)
    (hks : k.head? ≠ some SPACE) (hr : TokOk d raw) :
    scan d (fuel + 1) (k ++ d.delim :: (raw ++ d.term :: J)) = (k, raw) :: scan d fuel J := by
  have hm := matchAt_seg d k raw (d.term :: J) J hk hks hr (Or.inr rfl)
  cases hkk : k with
  | nil => exact absurd hkk hk.ne
  | cons a t =>
    rw [hkk] at hm
    simp only [List.cons_append] at hm ⊢
    simp only [scan, hm]

theorem scan_last (d : Dialect) (k raw : List Nat) (fuel : Nat) (hk : TokOk d k)
    (hks : k.head? ≠ some SPACE) (hr : TokOk d raw) :
    scan d (fuel + 1) (k ++ d.delim :: raw) = [(k, raw)] := by
  have hm := matchAt_seg d k raw [] [] hk hks hr (Or.inl ⟨rfl, rfl⟩)
  cases hkk : k with
  | nil => exact absurd hkk hk.ne
  | cons a t =>
    rw [hkk] at hm
    simp only [List.cons_append, List.append_nil] at hm ⊢
    simp only [scan, hm, scan_nil]

/-- the scanner returns exactly the written segments -/
theorem scan_segments (d : Dialect) : ∀ (segs : List (List Nat × List Nat)),
    (∀ s ∈ segs, TokOk d s.1 ∧ s.1.head? ≠ some SPACE ∧ TokOk d s.2) →
    ∀ fuel, (join d.term (segs.map (renderSeg d))).length < fuel →
      scan d fuel (join d.term (segs.map (renderSeg d))) = segs := by
  intro segs
  induction segs with
  | nil => intro _ fuel _; simp [join, scan_nil]
  | cons s rest ih =>
    intro hs fuel hf
    obtain ⟨hk, hks, hr⟩ := hs s (by simp)
    cases fuel with
    | zero => omega
    | succ fuel =>
      cases rest with
      | nil =>
        simp only [List.map_cons, List.map_nil, join]
        exact scan_last d s.1 s.2 fuel hk hks hr
      | cons s2 r2 =>
        rw [List.map_cons, List.map_cons, join_cons_cons'] at hf ⊢
        have h1 : renderSeg d s ++ d.term :: join d.term (renderSeg d s2 :: r2.map (renderSeg d))
            = s.1 ++ d.delim :: (s.2 ++ d.term :: join d.term (renderSeg d s2 :: r2.map (renderSeg d))) := by
          simp [renderSeg]
        rw [h1] at hf ⊢
        rw [scan_step d s.1 s.2 _ fuel hk hks hr]
        have := ih (fun x hx => hs x (by simp [hx])) fuel (by
          rw [List.map_cons]
          simp only [List.length_cons, List.length_append] at hf
          omega)
        rw [List.map_cons] at this
        rw [this]

/-! ## attribute column: parse ∘ write -/

structure DialectOk (d : Dialect) : Prop where
  vdelimKV : d.repeatKeys = false → isKV d d.vdelim = true

theorem gff3_ok : DialectOk gff3 := ⟨by decide⟩

theorem gff2_ok : DialectOk gff2 := ⟨by decide⟩

/-- an attribute key of the domain: non-empty, free of the dialect's delimiters and TAB, not starting with a blank,
no quote character at either end -/
structure KeyOk (d : Dialect) (k : List Nat) : Prop where
  tok : TokOk d k
  noSpace : k.head? ≠ some SPACE
  noQuote : NoQuoteEnds k

/-- an attribute value of the domain -/
structure ValOk (d : Dialect) (v : List Nat) : Prop where
  tok : TokOk d v
  noVdelim : d.vdelim ∉ v
  noQuote : NoQuoteEnds v

def AttrsOk (d : Dialect) (g : List (List Nat × List (List Nat))) : Prop :=
  ∀ kv ∈ g, KeyOk d kv.1 ∧ kv.2 ≠ [] ∧ ∀ v ∈ kv.2, ValOk d v

theorem join_ne_nil (sep : Nat) (p : List Nat) (rest : List (List Nat)) (h : p ≠ []) : join sep (p :: rest) ≠ [] := by
  cases rest with
  | nil => simpa [join] using h
  | cons q r =>
    cases p with
    | nil => exact absurd rfl h
    | cons a t => simp [join]

theorem rawJoin_ok (d : Dialect) (hd : DialectOk d) (hrep : d.repeatKeys = false) (vs : List (List Nat))
    (hne : vs ≠ []) (hv : ∀ v ∈ vs, ValOk d v) : TokOk d (join d.vdelim vs) := by
  constructor
  · cases vs with
    | nil => exact absurd rfl hne
    | cons v rest => exact join_ne_nil _ v rest (hv v (by simp)).tok.ne
  · intro c hc
    rcases mem_join _ _ _ hc with h | ⟨p, hp, hcp⟩
    · rw [h]; exact hd.vdelimKV hrep
    · exact (hv p hp).tok.kv c hcp

theorem segments_ok (d : Dialect) (hd : DialectOk d) (g : List (List Nat × List (List Nat))) (hg : AttrsOk d g) :
    ∀ s ∈ segments d g, TokOk d s.1 ∧ s.1.head? ≠ some SPACE ∧ TokOk d s.2 := by
  intro s hs
  unfold segments at hs
  obtain ⟨kv, hkv, hmem⟩ := List.mem_flatMap.mp hs
  obtain ⟨hk, hne, hv⟩ := hg kv hkv
  by_cases hrep : d.repeatKeys = true
  · simp only [hrep, if_true, List.mem_map] at hmem
    obtain ⟨v, hvm, rfl⟩ := hmem
    exact ⟨hk.tok, hk.noSpace, (hv v hvm).tok⟩
  · have hrep' : d.repeatKeys = false := by simpa using hrep
    simp only [hrep', Bool.false_eq_true, if_false, List.mem_singleton] at hmem
    subst hmem
    exact ⟨hk.tok, hk.noSpace, rawJoin_ok d hd hrep' kv.2 hne hv⟩

/-- what the reader makes of one scanned segment -/
def unpack (d : Dialect) (kv : List Nat × List Nat) : List (List Nat × List Nat) :=
  (splitOn d.vdelim kv.2).map fun v => (trimQuotes kv.1, trimQuotes v)

theorem unpack_segment (d : Dialect) (k : List Nat) (vs : List (List Nat)) (hk : KeyOk d k) (hne : vs ≠ [])
    (hv : ∀ v ∈ vs, ValOk d v) :
    ((if d.repeatKeys then vs.map fun v => (k, v) else [(k, join d.vdelim vs)]).flatMap (unpack d))
      = vs.map fun v => (k, v) := by
  by_cases hrep : d.repeatKeys = true
  · simp only [hrep, if_true]
    clear hne
    induction vs with
    | nil => rfl
    | cons v rest ih =>
      have hvv := hv v (by simp)
      simp only [List.map_cons, List.flatMap_cons]
      rw [ih (fun x hx => hv x (by simp [hx]))]
      simp only [unpack, splitOn_no_sep _ _ hvv.noVdelim, List.map_cons, List.map_nil,
        trimQuotes_id _ hk.noQuote, trimQuotes_id _ hvv.noQuote, List.singleton_append]
  · have hrep' : d.repeatKeys = false := by simpa using hrep
    simp only [hrep', Bool.false_eq_true, if_false, List.flatMap_cons, List.flatMap_nil, List.append_nil]
    simp only [unpack]
    rw [splitOn_join _ vs hne (fun p hp => (hv p hp).noVdelim)]
    apply List.map_congr_left
    intro v hvm
    rw [trimQuotes_id _ hk.noQuote, trimQuotes_id _ (hv v hvm).noQuote]

theorem parseAttrs_writeAttrs (d : Dialect) (hd : DialectOk d) (g : List (List Nat × List (List Nat)))
    (hg : AttrsOk d g) : parseAttrs d (writeAttrs d g) = flatPairs g := by
  unfold parseAttrs writeAttrs
  rw [scan_segments d (segments d g) (segments_ok d hd g hg) _ (Nat.lt_succ_self _)]
  show (segments d g).flatMap (unpack d) = flatPairs g
  unfold segments flatPairs
  induction g with
  | nil => rfl
  | cons kv rest ih =>
    obtain ⟨hk, hne, hv⟩ := hg kv (by simp)
    simp only [List.flatMap_cons, List.flatMap_append]
    rw [ih (fun x hx => hg x (by simp [hx]))]
    rw [unpack_segment d kv.1 kv.2 hk hne hv]

/-! ## GFF record line -/

/-- a GFF record of the domain: the written line is not taken for a comment (see `BedOk`), coordinates fit `u64`,
phase ∈ {`.`,0,1,2}, attributes of the domain.  seqname, source, type, score and strand are arbitrary byte strings. -/
structure GffOk (d : Dialect) (r : GffRec) : Prop where
  seqHash : hashStart (gffFields d r) = false
  startRange : r.start < 2 ^ 64
  stopRange : r.stop < 2 ^ 64
  phaseRange : ∀ n, r.phase = some n → n < 3
  attrsOk : AttrsOk d r.attrs

theorem readPhase_phaseStr (p : Option Nat) (h : ∀ n, p = some n → n < 3) : readPhase (phaseStr p) = .ok p := by
  cases p with
  | none => simp [readPhase, phaseStr]
  | some n =>
    have hn := h n rfl
    have hd : toDec n = [48 + n] := toDec_small n (by omega)
    unfold readPhase phaseStr
    have hne : toDec n ≠ [46] := by
      rw [hd]; simp; omega
    simp only [hne, if_false, parseDec_toDec, if_true, hn]

theorem readPhase_ge3 (n : Nat) (h : 3 ≤ n) : readPhase (toDec n) = .err "phase-ge3" := by
  unfold readPhase
  have hne : toDec n ≠ [46] := by
    intro e
    have := toDec_digits n 46 (by rw [e]; simp)
    omega
  have hlt : ¬ n < 3 := by omega
  simp only [hne, if_false, parseDec_toDec, if_true, hlt]

theorem parseGffFields_gffFields {d : Dialect} (hd : DialectOk d) {r : GffRec} (h : GffOk d r) :
    parseGffFields d (gffFields d r) = .ok r.asRead := by
  unfold gffFields parseGffFields
  simp only [readU64_toDec _ h.startRange, readU64_toDec _ h.stopRange, readPhase_phaseStr _ h.phaseRange,
    parseAttrs_writeAttrs d hd _ h.attrsOk, GffRec.asRead]

/-! ## lookup in the pairs read -/

/-- the values of a key among the pairs of one key -/
theorem valuesOf_map_key (k' k : List Nat) (vs : List (List Nat)) :
    valuesOf (vs.map fun v => (k', v)) k = if k' = k then vs else [] := by
  unfold valuesOf
  rw [List.filterMap_map]
  by_cases h : k' = k
  · simp only [Function.comp_def, h, if_true]; exact List.filterMap_some
  · simp only [Function.comp_def, h, if_false]; exact List.filterMap_eq_nil_iff.mpr fun _ _ => rfl

/-- the multimap view in closed form: the values of the entries with that key, in order -/
theorem valuesOf_flatPairs_eq (k : List Nat) : ∀ (g : List (List Nat × List (List Nat))),
    valuesOf (flatPairs g) k = g.flatMap fun kv => if kv.1 = k then kv.2 else []
  | [] => rfl
  | kv :: rest => by
    have ih := valuesOf_flatPairs_eq k rest
    have h1 := valuesOf_map_key kv.1 k kv.2
    unfold valuesOf at ih h1 ⊢
    unfold flatPairs at ih ⊢
    rw [List.flatMap_cons, List.filterMap_append, h1, ih, List.flatMap_cons]

/-- the multimap view: all values of a key, in order, from a key ↦ values list with distinct keys -/
theorem valuesOf_flatPairs : ∀ (g : List (List Nat × List (List Nat))), (g.map (·.1)).Nodup →
    ∀ k vs, (k, vs) ∈ g → valuesOf (flatPairs g) k = vs := by
  intro g hnd k vs hmem
  rw [valuesOf_flatPairs_eq]
  induction g with
  | nil => cases hmem
  | cons kv rest ih =>
    simp only [List.map_cons, List.nodup_cons] at hnd
    rw [List.flatMap_cons]
    rcases List.mem_cons.mp hmem with h | h
    · subst h
      -- no other entry has this key
      have : (rest.flatMap fun kv => if kv.1 = k then kv.2 else []) = [] :=
        List.flatMap_eq_nil_iff.mpr fun kv' hkv' =>
          if_neg fun e => hnd.1 (List.mem_map.mpr ⟨kv', hkv', e⟩)
      rw [if_pos rfl, this, List.append_nil]
    · rw [if_neg fun e : kv.1 = k => hnd.1 (e ▸ List.mem_map.mpr ⟨(k, vs), h, rfl⟩), List.nil_append]
      exact ih hnd.2 h

/-! ## The row formats: `withCount` over `rows` -/

theorem withCount_uniform {α : Type} (parse : List (List Nat) → Res α) (rs : List (List (List Nat))) (n : Nat)
    (h : ∀ r ∈ rs, r.length = n) : withCount parse rs = rs.map parse := by
  unfold withCount
  cases rs with
  | nil => rfl
  | cons r0 rest =>
    simp only
    apply List.map_congr_left
    intro r hr
    have h1 := h r hr
    have h2 := h r0 (by simp)
    simp [h1, h2]

/-- **Round trip of a row format** (what BED and GFF share): if the record lines of a file are the written forms
`recordBody (fields r)` of records whose field lists have a common length, do not start with `#`, and are parsed back to
`out r`, then the file — comment and blank lines interleaved at will — is read as exactly `out r` for each record. -/
theorem withCount_rows_fileOf {α ρ : Type} (fields : α → List (List Nat)) (parse : List (List Nat) → Res ρ) (out : α → ρ)
    (n : Nat) (recs : List α) (items : List Item)
    (hrecs : ∀ r ∈ recs, fields r ≠ [] ∧ hashStart (fields r) = false ∧ (fields r).length = n ∧
      parse (fields r) = .ok (out r))
    (hitems : items.filterMap Item.rec? = recs.map fun r => recordBody (fields r))
    (hcomments : ∀ t, Item.comment t ∈ items → LF ∉ t) :
    withCount parse (rows (fileOf items)) = recs.map fun r => Res.ok (out r) := by
  rw [rows_fileOf items (recs.map fields) (by rw [hitems, List.map_map]; rfl)
      (List.forall_mem_map.mpr fun r hr => ⟨(hrecs r hr).1, (hrecs r hr).2.1⟩) hcomments,
    withCount_uniform parse _ n (List.forall_mem_map.mpr fun r hr => (hrecs r hr).2.2.1), List.map_map]
  exact List.map_congr_left fun r hr => (hrecs r hr).2.2.2

theorem withCount_prefix {α : Type} (parse : List (List Nat) → Res α) (r1 r2 : List (List (List Nat))) :
    (withCount parse (r1 ++ r2)).take (withCount parse r1).length = withCount parse r1 := by
  cases r1 with
  | nil => simp [withCount]
  | cons r0 t =>
    simp only [withCount, List.cons_append, List.map_cons, List.map_append, List.length_cons, List.length_map]
    rw [List.take_succ_cons]
    congr 1
    rw [List.take_append_of_le_length (by simp)]
    rw [List.take_of_length_le (by simp)]

end RbV.Tsv
