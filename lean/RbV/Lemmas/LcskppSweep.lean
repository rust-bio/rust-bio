import RbV.Lemmas.LcskppTable
/-! C19 — the sweep of `lcskpp` evaluates the forward recurrence: invariant of the event loop.  Core Lean only. -/
namespace RbV.Lemmas.Lcskpp
open RbV.KChain RbV.Model.Lcskpp RbV.QGram RbV.Lemmas.Fenwick

theorem step_of_cont {k : Nat} (hk : 0 < k) {a b : M} (h : cont a b = true) : step k a b = 1 := by
  simp only [cont, Bool.and_eq_true, beq_iff_eq] at h
  unfold step nonov
  split
  · next hn => simp only [Bool.and_eq_true, decide_eq_true_eq] at hn; omega
  · rfl

theorem step_of_nonov {k : Nat} {a b : M} (h : nonov k a b = true) : step k a b = k := by
  unfold step; rw [if_pos h]

def cellAt (s : St) (q : Nat) : Nat × Int := s.dp.getD q (0, 0)

theorem cellAt_set_self {s : St} {p : Nat} {c : Nat × Int} {t : List (Nat × Nat)} {b : Nat × Int} (hlt : p < s.dp.length) :
    cellAt { tree := t, dp := s.dp.set p c, best := b } p = c := by
  unfold cellAt; rw [getD_set _ _ _ _ _ hlt, if_pos rfl]

theorem cellAt_set_ne {s : St} {p q : Nat} {c : Nat × Int} {t : List (Nat × Nat)} {b : Nat × Int} (hne : q ≠ p) :
    cellAt { tree := t, dp := s.dp.set p c, best := b } q = cellAt s q := by
  unfold cellAt; simp only [List.getD_eq_getElem?_getD, List.getElem?_set_ne (Ne.symm hne)]

/-- the predecessor pointer of a cell is justified -/
def PtrOk (ms : List M) (k : Nat) (done : List Ev) (c : Nat × Int) (q : Nat) : Prop :=
  (c.2 = -1 ∧ c.1 = k) ∨
  ∃ r, r < ms.length ∧ c.2 = (r : Int) ∧ endEv ms k r ∈ done ∧ Link k (mAt ms r) (mAt ms q) ∧
    c.1 = step k (mAt ms r) (mAt ms q) + F ms k r

theorem PtrOk.mono {ms : List M} {k : Nat} {done done' : List Ev} {c : Nat × Int} {q : Nat}
    (h : PtrOk ms k done c q) (hsub : ∀ e, e ∈ done → e ∈ done') : PtrOk ms k done' c q := by
  rcases h with h | ⟨r, h1, h2, h3, h4⟩
  · exact Or.inl h
  · exact Or.inr ⟨r, h1, h2, hsub _ h3, h4⟩

/-- `best_dp` is at least `k`, dominates every started cell, and is the initial `(k, 0)` or the cell of a started match -/
structure BestOk (ms : List M) (k : Nat) (done : List Ev) (s : St) : Prop where
  ge : k ≤ s.best.1
  ub : ∀ q, q < ms.length → startEv ms q ∈ done → (cellAt s q).1 ≤ s.best.1
  named : s.best = (k, 0) ∨
    ∃ p, p < ms.length ∧ s.best.2 = (p : Int) ∧ startEv ms p ∈ done ∧ s.best.1 = (cellAt s p).1

/-- an event of match `p` keeps `BestOk`: only the cell of `p` changes, a started cell only grows, and `best` either stays
(the new cell is below it, and a started cell is then unchanged) or is `max`ed with the new cell -/
theorem BestOk.step {ms : List M} {k : Nat} {done done' : List Ev} {s s' : St} {p : Nat} (hB : BestOk ms k done s) (hp : p < ms.length)
    (hsub : ∀ e, e ∈ done → e ∈ done') (hnew : ∀ q, startEv ms q ∈ done' → startEv ms q ∈ done ∨ q = p) (hp' : startEv ms p ∈ done')
    (hother : ∀ q, q ≠ p → cellAt s' q = cellAt s q) (hraise : startEv ms p ∈ done → (cellAt s p).1 ≤ (cellAt s' p).1)
    (hbest : (s'.best = s.best ∧ (cellAt s' p).1 ≤ s.best.1 ∧ (startEv ms p ∈ done → cellAt s' p = cellAt s p)) ∨
      s'.best = maxNI s.best ((cellAt s' p).1, (p : Int))) :
    BestOk ms k done' s' := by
  have hmono : s.best.1 ≤ s'.best.1 ∧ (cellAt s' p).1 ≤ s'.best.1 := by
    rcases hbest with ⟨h, h', _⟩ | h
    · rw [h]; exact ⟨Nat.le_refl _, h'⟩
    · rw [h, maxNI_fst]; simp only; omega
  refine ⟨Nat.le_trans hB.ge hmono.1, fun q hq hst => ?_, ?_⟩
  · by_cases hqp : q = p
    · subst hqp; exact hmono.2
    · rw [hother q hqp]
      rcases hnew q hst with h | h
      · exact Nat.le_trans (hB.ub q hq h) hmono.1
      · exact absurd h hqp
  · -- `best` kept: it still is `(k, 0)` or the cell of the match it named; if that match is `p`, both bounds meet
    have hold : s'.best = s.best → (s'.best = (k, 0) ∨
        ∃ p0, p0 < ms.length ∧ s'.best.2 = (p0 : Int) ∧ startEv ms p0 ∈ done' ∧ s'.best.1 = (cellAt s' p0).1) := by
      intro hb
      rcases hB.named with h | ⟨p0, hp0, hb2, hs0, hb1⟩
      · left; rw [hb]; exact h
      · refine Or.inr ⟨p0, hp0, by rw [hb]; exact hb2, hsub _ hs0, ?_⟩
        by_cases hne : p0 = p
        · subst hne
          have h1 := hraise hs0
          have h2 := hmono.2
          rw [hb] at h2 ⊢
          omega
        · rw [hb, hother p0 hne]; exact hb1
    rcases hbest with ⟨hb, _⟩ | hb
    · exact hold hb
    · rcases maxNI_cases s.best ((cellAt s' p).1, (p : Int)) with hc | hc
      · exact hold (by rw [hb, hc])
      · exact Or.inr ⟨p, hp, by rw [hb, hc], hp', by rw [hb, hc]⟩

/-- the invariant of the sweep after the events `done`.  `tree`: the Fenwick tree is the run of exactly the publications
`(y_q + k, (F q, q))` of the finished matches.  `ended` / `started`: a finished cell carries the recurrence's score `F`, a started
unfinished one `k + A` (best dominated finished match).  `ptr`: the pointer of every started cell is justified (`PtrOk`).
`best_*`: `best_dp` is at least `k`, bounds every started cell and is the initial `(k, 0)` or a started cell (`BestOk`). -/
structure Inv (ms : List M) (k : Nat) (done : List Ev) (s : St) : Prop where
  len_dp : s.dp.length = 2 * ms.length
  tree : ∃ ups, s.tree = run maxNN (0, 0) (nFrom k 0 ms) ups ∧
    ∀ u, u ∈ ups ↔ ∃ q, q < ms.length ∧ endEv ms k q ∈ done ∧ u = ((mAt ms q).2 + k, (F ms k q, q))
  ended : ∀ q, q < ms.length → endEv ms k q ∈ done → (cellAt s q).1 = F ms k q
  started : ∀ q, q < ms.length → startEv ms q ∈ done → endEv ms k q ∉ done → (cellAt s q).1 = k + A ms k q
  ptr : ∀ q, q < ms.length → startEv ms q ∈ done → PtrOk ms k done (cellAt s q) q
  best_ge : k ≤ s.best.1
  best_ub : ∀ q, q < ms.length → startEv ms q ∈ done → (cellAt s q).1 ≤ s.best.1
  best_at : s.best = (k, 0) ∨
    ∃ p, p < ms.length ∧ s.best.2 = (p : Int) ∧ startEv ms p ∈ done ∧ s.best.1 = (cellAt s p).1

theorem Inv.best {ms : List M} {k : Nat} {done : List Ev} {s : St} (hI : Inv ms k done s) : BestOk ms k done s :=
  ⟨hI.best_ge, hI.best_ub, hI.best_at⟩

theorem inv_init (ms : List M) (k : Nat) : Inv ms k [] (initSt ms k) := by
  refine ⟨by simp [initSt], ⟨[], by simp [initSt, run], by simp⟩, ?_, ?_, ?_, by simp [initSt], ?_, Or.inl rfl⟩ <;>
    (intro q _ h; cases h)

/-- what a start event of `p` may do to the state, by content: lengths, the other cells, the cell of `p`, its pointer, the tree, `best` -/
theorem inv_start_close {ms : List M} {k : Nat} {done : List Ev} {s s' : St} {p : Nat}
    (hI : Inv ms k done s) (hp : p < ms.length) (hnot : startEv ms p ∉ done) (hend : endEv ms k p ∉ done)
    (hlen : s'.dp.length = 2 * ms.length) (hother : ∀ q, q ≠ p → cellAt s' q = cellAt s q)
    (hcell : (cellAt s' p).1 = k + A ms k p) (hptr : PtrOk ms k done (cellAt s' p) p) (htree : s'.tree = s.tree)
    (hbest : (s'.best = s.best ∧ (cellAt s' p).1 = k) ∨ s'.best = maxNI s.best ((cellAt s' p).1, (p : Int))) :
    Inv ms k (done ++ [startEv ms p]) s' := by
  have hsub : ∀ e, e ∈ done → e ∈ done ++ [startEv ms p] := fun e he => List.mem_append_left _ he
  have hB : BestOk ms k (done ++ [startEv ms p]) s' := by
    refine hI.best.step hp hsub (fun q h => start_mem_snoc_start.mp h) (start_mem_snoc_start.mpr (Or.inr rfl)) hother (fun h => absurd h hnot) ?_
    rcases hbest with ⟨hb, hc⟩ | hb
    · exact Or.inl ⟨hb, by rw [hc]; exact hI.best_ge, fun h => absurd h hnot⟩
    · exact Or.inr hb
  refine ⟨hlen, ?_, ?_, ?_, ?_, hB.ge, hB.ub, hB.named⟩
  · obtain ⟨ups, ht, hm⟩ := hI.tree
    refine ⟨ups, by rw [htree, ht], ?_⟩
    intro u; rw [hm u]
    constructor
    · rintro ⟨q, hq, he, hu⟩; exact ⟨q, hq, (end_mem_snoc_start hq).mpr he, hu⟩
    · rintro ⟨q, hq, he, hu⟩; exact ⟨q, hq, (end_mem_snoc_start hq).mp he, hu⟩
  · intro q hq he
    have he' := (end_mem_snoc_start hq).mp he
    have hne : q ≠ p := by intro e; subst e; exact hend he'
    rw [hother q hne]; exact hI.ended q hq he'
  · intro q hq hst hne
    by_cases hqp : q = p
    · subst hqp; exact hcell
    · rw [hother q hqp]
      rcases start_mem_snoc_start.mp hst with h | h
      · exact hI.started q hq h (fun h' => hne ((end_mem_snoc_start hq).mpr h'))
      · exact absurd h hqp
  · intro q hq hst
    by_cases hqp : q = p
    · subst hqp; exact hptr.mono hsub
    · rw [hother q hqp]
      rcases start_mem_snoc_start.mp hst with h | h
      · exact (hI.ptr q hq h).mono hsub
      · exact absurd h hqp

/-- the same for an end event of `p`; `hmono`: the cell of `p` does not shrink -/
theorem inv_end_close {ms : List M} {k : Nat} {done : List Ev} {s s' : St} {p : Nat}
    (hI : Inv ms k done s) (hp : p < ms.length) (hst : startEv ms p ∈ done)
    (hlen : s'.dp.length = 2 * ms.length) (hother : ∀ q, q ≠ p → cellAt s' q = cellAt s q)
    (hcell : (cellAt s' p).1 = F ms k p) (hptr : PtrOk ms k done (cellAt s' p) p)
    (htree : s'.tree = Model.Fenwick.set maxNN (0, 0) s.tree ((mAt ms p).2 + k) (F ms k p, p))
    (hbest : (s'.best = s.best ∧ cellAt s' p = cellAt s p) ∨ s'.best = maxNI s.best ((cellAt s' p).1, (p : Int)))
    (hmono : (cellAt s p).1 ≤ (cellAt s' p).1) :
    Inv ms k (done ++ [endEv ms k p]) s' := by
  have hsub : ∀ e, e ∈ done → e ∈ done ++ [endEv ms k p] := fun e he => List.mem_append_left _ he
  have hB : BestOk ms k (done ++ [endEv ms k p]) s' := by
    refine hI.best.step hp hsub (fun q h => Or.inl ((start_mem_snoc_end hp).mp h)) ((start_mem_snoc_end hp).mpr hst) hother (fun _ => hmono) ?_
    rcases hbest with ⟨hb, hc⟩ | hb
    · exact Or.inl ⟨hb, by rw [hc]; exact hI.best_ub p hp hst, fun _ => hc⟩
    · exact Or.inr hb
  refine ⟨hlen, ?_, ?_, ?_, ?_, hB.ge, hB.ub, hB.named⟩
  · obtain ⟨ups, ht, hm⟩ := hI.tree
    refine ⟨ups ++ [((mAt ms p).2 + k, (F ms k p, p))], by rw [run_snoc, htree, ht], ?_⟩
    intro u
    rw [List.mem_append, List.mem_singleton, hm u]
    constructor
    · rintro (⟨q, hq, he, hu⟩ | hu)
      · exact ⟨q, hq, end_mem_snoc_end.mpr (Or.inl he), hu⟩
      · exact ⟨p, hp, end_mem_snoc_end.mpr (Or.inr rfl), hu⟩
    · rintro ⟨q, hq, he, hu⟩
      rcases end_mem_snoc_end.mp he with h | h
      · exact Or.inl ⟨q, hq, h, hu⟩
      · subst h; exact Or.inr hu
  · intro q hq he
    by_cases hqp : q = p
    · subst hqp; exact hcell
    · rw [hother q hqp]
      rcases end_mem_snoc_end.mp he with h | h
      · exact hI.ended q hq h
      · exact absurd h hqp
  · intro q hq hs hne
    have hqp : q ≠ p := by intro e; subst e; exact hne (end_mem_snoc_end.mpr (Or.inr rfl))
    rw [hother q hqp]
    exact hI.started q hq ((start_mem_snoc_end hp).mp hs) (fun h' => hne (end_mem_snoc_end.mpr (Or.inl h')))
  · intro q hq hs
    by_cases hqp : q = p
    · subst hqp; exact hptr.mono hsub
    · rw [hother q hqp]; exact (hI.ptr q hq ((start_mem_snoc_end hp).mp hs)).mono hsub

end RbV.Lemmas.Lcskpp
