/-
The label sequence produced by the naming loop of `sort_lms_suffixes`, as a pure function of the scanned LMS positions.
The two definitions stand apart from their lemmas (`SaisLabels.lean`) so that `SaisNaming.lean`, which only needs the
definitions, does not wait for those proofs.
-/
namespace RbV.Sais

/-- labels of the scanned LMS positions: `prev`, current `label`, remaining positions -/
def labelsGo (eq : Nat → Nat → Bool) : Option Nat → Nat → List Nat → List Nat
  | _, _, [] => []
  | none, lab, q :: r => lab :: labelsGo eq (some q) lab r
  | some p, lab, q :: r =>
    (if !eq p q then lab + 1 else lab) :: labelsGo eq (some q) (if !eq p q then lab + 1 else lab) r

/-- labels given to `qs` (scanned in this order), starting with label 0 -/
def labels (eq : Nat → Nat → Bool) (qs : List Nat) : List Nat := labelsGo eq none 0 qs

end RbV.Sais
