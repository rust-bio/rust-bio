import RbV.Lemmas.FillTbLast
import RbV.Lemmas.FillFinal
/-!
Traceback proof, fill side, part 4: every code the traceback loop can meet is good for the value next to it.

`Claim`: the claims (cursor, code, value) the fill makes — S code and value of a cell as the main loop left them and, in the
last column, as the post-loops left them; the I and D values.  Every arm of the traceback `match` moves towards the origin,
so one induction over `i + j` does (`claim_good`): a claim at `(i, j)` is good if the claims nearer the origin are (`Below`).
Per kind of claim: `del_good`; `ins_main_good`, `insN_good`, `ins_good`; `sorx_main`, `main_good`; `fin_good_lt`;
`fin_good_last` (cell `(m, n)`: the registers through both post-loops, `RegOK`).  The case analyses are those of `FillTb.lean`;
what they ask about other cells is a claim nearer the origin.
-/
namespace RbV.Model.PairwiseFill
open RbV.Align

section
variable (sc : Sc) (cl : Clip) (x y : List Nat)

/-- the claims "started at `(i, j)` with this code the traceback loop produces a witness for this value" that the fill
makes: the S code and value of a cell as the main loop left them (`main`; in the last column below row `m` only, where the
I field of the row below may still name them) and as the post-loops left them (`fin`), the I and D values -/
inductive Claim : Nat → Nat → Tb → Int → Prop
  | main {i j : Nat} {v : Int} : i ≤ x.length → j ≤ y.length → (j < y.length ∨ i < x.length) →
      v ≤ (cell sc cl x y j i).s → Claim i j (cell sc cl x y j i).t.ts v
  | fin {i : Nat} {v : Int} : i ≤ x.length → v ≤ (P2 sc cl x y i).s → Claim i y.length (P2 sc cl x y i).ts v
  | ins {i j : Nat} {v : Int} : 1 ≤ i → i ≤ x.length → j < y.length → v ≤ (cell sc cl x y j i).i → Claim i j .ins v
  | insN {i : Nat} {v : Int} : 1 ≤ i → i ≤ x.length → v ≤ (P2 sc cl x y i).iv → Claim i y.length .ins v
  | del {i j : Nat} {v : Int} : i ≤ x.length → 1 ≤ j → j ≤ y.length → v ≤ (cell sc cl x y j i).d → Claim i j .del v

/-- the claims nearer the origin than `(i, j)` are good -/
def Below (i j : Nat) : Prop :=
  ∀ i' j' c v, i' + j' < i + j → Claim sc cl x y i' j' c v → GoodF sc cl x y i' j' c v

/-- the S code of `traceback[m][n]`, the value of `S[curr][m]` and `Lx[n]` fit together: `TB_XCLIP_SUFFIX` is explained
by a row `k < m` (with its *final* value), any other code is good as it stands -/
def RegOK (sm : Tb) (xm : Int) (lx : Nat) : Prop :=
  (sm = .xsuf → ∃ k, k < x.length ∧ lx = x.length - k ∧ xm ≤ (P2 sc cl x y k).s + cl.xs) ∧
  (sm ≠ .xsuf → GoodF sc cl x y x.length y.length sm xm)

end

section
variable {sc : Sc} {cl : Clip} {x y : List Nat} {i j : Nat}

/-- the S code the final table holds at a cursor nearer the origin: before the last column the code of the main loop … -/
theorem Below.tS (ih : Below sc cl x y i j) {i' j' : Nat} {b : Int} (hlt : i' + j' < i + j) (hi : i' ≤ x.length)
    (hj : j' < y.length) (hb : b ≤ (cell sc cl x y j' i').s) : GoodF sc cl x y i' j' ((finalT sc cl x y).tS i' j') b := by
  rw [table_tS_lt sc cl x y i' j' hj]
  exact ih _ _ _ _ hlt (.main hi (Nat.le_of_lt hj) (Or.inl hj) hb)

/-- … in the last column the code the post-loops left -/
theorem Below.tSn (ih : Below sc cl x y i j) {i' : Nat} {b : Int} (hlt : i' + y.length < i + j) (hi : i' ≤ x.length)
    (hb : b ≤ (P2 sc cl x y i').s) : GoodF sc cl x y i' y.length ((finalT sc cl x y).tS i' y.length) b := by
  rw [table_tS_n]
  exact ih _ _ _ _ hlt (.fin hi hb)

/-- the origin, for a cursor that is not the origin -/
theorem Below.origin (ih : Below sc cl x y i j) (h0 : 0 < i + j) (hi : i ≤ x.length) (hj : j ≤ y.length) :
    GoodF sc cl x y 0 0 ((finalT sc cl x y).tS 0 0) 0 := by
  rcases Nat.eq_zero_or_pos y.length with hn | hn
  · have h2 := P1_s_ge sc cl x y 0 (by omega)
    have h3 := P2_s_ge sc cl x y 0 (by omega)
    rw [hn, cell_zero_zero] at h2
    have := ih.tSn (i' := 0) (b := 0) (by omega) (Nat.zero_le _) (Int.le_trans h2 h3)
    rwa [hn] at this
  · exact ih.tS h0 (Nat.zero_le _) hn (by rw [cell_zero_zero]; exact Int.le_refl 0)

/-! ### the codes of the main loop -/

/-- the D code -/
theorem del_good (H : SaneHyp sc cl x y) (hi : i ≤ x.length) (hj : j + 1 ≤ y.length) (ih : Below sc cl x y i (j + 1)) :
    GoodF sc cl x y i (j + 1) .del (cell sc cl x y (j + 1) i).d := by
  have hD : 1 ≤ j → GoodF sc cl x y i j .del (cell sc cl x y j i).d :=
    fun h1 => ih _ _ _ _ (by omega) (.del hi h1 (by omega) (Int.le_refl _))
  cases i with
  | zero =>
    rw [cell_succ_zero]
    refine rowJ0_good_D H.go _ hj ?_ (ih.origin (by omega) hi hj) (fun h1 => ⟨hD h1, ?_⟩)
    · rw [table_tD sc cl x y 0 (j + 1) hj, cell_succ_zero]
    · obtain ⟨k, rfl⟩ : ∃ k, j = k + 1 := ⟨j - 1, by omega⟩
      rw [cell_d_row0]
      exact dv0_ge (k + 1) (by omega)
  | succ i =>
    rw [cell_succ_succ sc cl x y j i hi]
    refine del_good_main H.go (cell sc cl x y j (i + 1)) hj ?_ (ih _ _ _ _ (by omega) (.main hi (by omega) (Or.inl (by omega)) (Int.le_refl _))) hD
      (fun hj0 => ?_)
    · rw [table_tD sc cl x y (i + 1) (j + 1) hj, cell_succ_succ sc cl x y j i hi]; rfl
    · subst hj0
      have h1 := cell_s_go_col0 H (i + 1) hi
      have h2 : (cell sc cl x y 0 (i + 1)).d = minScore := by rw [cell_zero_succ _ _ _ _ _ hi]; rfl
      omega

/-- the I code of the main loop, where the table still holds it -/
theorem ins_main_good (H : SaneHyp sc cl x y) (hi : i + 1 ≤ x.length) (hj : j ≤ y.length)
    (hT : (finalT sc cl x y).tI (i + 1) j = (cell sc cl x y j (i + 1)).t.ti)
    (hI : 1 ≤ i → GoodF sc cl x y i j .ins (cell sc cl x y j i).i) (ih : Below sc cl x y (i + 1) j) :
    GoodF sc cl x y (i + 1) j .ins (cell sc cl x y j (i + 1)).i := by
  cases j with
  | zero =>
    rw [cell_zero_succ _ _ _ _ _ hi] at hT ⊢
    exact step0_good_I H.go _ hi hT (ih.origin (by omega) hi hj)
      (fun h1 => ⟨hI h1, cell_col0_i_ge H.xs i (by omega) h1⟩)
  | succ j =>
    rw [cell_succ_succ sc cl x y j i hi] at hT ⊢
    refine ins_good_main H.go (cell sc cl x y (j + 1) i) hi hT
      (ih _ _ _ _ (by omega) (.main (by omega) hj (Or.inr (by omega)) (Int.le_refl _))) hI (fun h0 => ?_)
    -- row 0 holds no I value: `MIN_SCORE + gap_extend` loses against `S + gap_open + gap_extend`
    subst h0
    have h1 := cell_s_go_row0 H (j + 1) hj
    have h2 : (cell sc cl x y (j + 1) 0).i = minScore := by rw [cell_succ_zero]; rfl
    omega

/-- the final I code of the last column -/
theorem insN_good (H : SaneHyp sc cl x y) (hi : i + 1 ≤ x.length) (ih : Below sc cl x y (i + 1) y.length) :
    GoodF sc cl x y (i + 1) y.length .ins (P2 sc cl x y (i + 1)).iv :=
  finalI_succ H i hi (ih _ _ _ _ (by omega) (.fin (by omega) (Int.le_refl _))) fun hT =>
    ins_main_good H hi (Nat.le_refl _) hT
      (fun h1 => good_mono (ih _ _ _ _ (by omega) (.insN h1 (by omega) (Int.le_refl _))) (P2_iv_ge sc cl x y i (by omega))) ih

/-- the I value of the main loop, in every column -/
theorem ins_good (H : SaneHyp sc cl x y) (hi : i ≤ x.length) (hj : j ≤ y.length) (ih : Below sc cl x y i j) (h1 : 1 ≤ i) :
    GoodF sc cl x y i j .ins (cell sc cl x y j i).i := by
  obtain ⟨i, rfl⟩ : ∃ k, i = k + 1 := ⟨i - 1, by omega⟩
  rcases Nat.lt_or_ge j y.length with hlt | hge
  · exact ins_main_good H hi hj (table_tI_lt sc cl x y (i + 1) j hlt)
      (fun h1 => ih _ _ _ _ (by omega) (.ins h1 (by omega) hlt (Int.le_refl _))) ih
  · obtain rfl : j = y.length := by omega
    exact good_mono (insN_good H hi ih) (P2_iv_ge sc cl x y (i + 1) hi)

/-- row 0 of column `j + 1`, whichever loop wrote its final code -/
theorem Below.row0 (ih : Below sc cl x y (i + 1) (j + 1)) (hi : i + 1 ≤ x.length) (hj : j + 1 ≤ y.length) :
    GoodF sc cl x y 0 (j + 1) ((finalT sc cl x y).tS 0 (j + 1)) (max cl.yp (sc.go + sc.ge * ((j + 1 : Nat) : Int))) := by
  rcases Nat.lt_or_ge (j + 1) y.length with hlt | hge
  · exact ih.tS (by omega) (Nat.zero_le _) hlt (cell_row0_ge j)
  · have hjn : j + 1 = y.length := by omega
    have := ih.tSn (i' := 0) (by omega) (Nat.zero_le _) (P2_row0_ge sc cl x y j hjn (by omega))
    rwa [← hjn] at this

/-- the S code of the main loop: good, or (row `m`) the default explained by the tracker -/
theorem sorx_main (H : SaneHyp sc cl x y) (hi : i ≤ x.length) (hj : j ≤ y.length) (ih : Below sc cl x y i j) :
    SorX sc cl x y j i := by
  have hgt := cell_s_gt_min H i j hi hj
  cases i with
  | zero =>
    cases j with
    | zero =>
      refine Or.inl ⟨?_, ?_⟩ <;> rw [cell_zero_zero]
      · exact good_start (Int.le_refl 0)
      · simp [row00]
    | succ j =>
      have hcell := cell_succ_zero sc cl x y j
      have hD := del_good H hi hj ih
      refine Or.inl ⟨?_, ?_⟩
      · rw [hcell] at hD ⊢
        refine rowJ0_good_S _ hj hD (ih.origin (by omega) hi hj) (fun hjn hc => ?_)
        -- `TB_YCLIP_SUFFIX` in row 0 of the last column
        rcases snOK_all 0 (Nat.zero_le _) j with h0 | ⟨jj, hjj, hly, hsn⟩
        · -- an untouched `Sn[0]` cannot have won: the cell would hold the sentinel
          exfalso
          have e := (rowJ0_s_ts sc cl x y (j + 1) (cell sc cl x y j 0)).1
          rw [if_pos ⟨hjn, hc⟩, h0, ← hcell] at e
          omega
        · have hly' : (finalT sc cl x y).ly 0 = y.length - jj := by
            rw [table_ly, ← hjn, hcell, rowJ0_ly_of_ysuf sc cl x y (j + 1) _ ⟨hjn, hc⟩, hly, hjn]
          rw [hjn]
          exact good_ysuf (by omega) hly' (ih.tS (by omega) hi (by omega) (Int.le_refl _)) hsn
      · rw [hcell, (rowJ0_s_ts sc cl x y (j + 1) _).2]
        repeat' split
        all_goals simp
  | succ i =>
    have hI' := ins_good H hi hj ih (Nat.succ_pos i)
    cases j with
    | zero =>
      have hcell := cell_zero_succ sc cl x y i hi
      rw [hcell] at hI'
      have := step0_good_S (cell sc cl x y 0 i) hi hI' (ih.origin (by omega) hi hj)
      rw [← hcell] at this
      rcases this with ⟨hts, hsv⟩ | hg
      · refine sorx_default hgt (trkOK_all 0 i) (fun hm => by rw [hts, if_pos hm]) hsv (fun hm => ?_)
        have := (step0_last sc cl x y (i + 1) (cell sc cl x y 0 i) hm).1
        rw [← hcell] at this
        exact this
      · exact Or.inl hg
    | succ j =>
      have hcell := cell_succ_succ sc cl x y j i hi
      have hD := del_good H hi hj ih
      have hM := ih.tS (i' := i) (j' := j) (by omega) (by omega) (by omega) (Int.le_refl _)
      rw [hcell] at hI' hD
      have := stepJ_good_S H.xs (colAt sc cl x y j) (cell sc cl x y (j + 1) i) hi hj hM hI' hD (ih.row0 hi hj)
        (ih.tS (by omega) hi (by omega) (cell_col0_ge H.xs i hi))
      rw [← hcell] at this
      rcases this with ⟨hts, hsv⟩ | hg
      · refine sorx_default hgt (trkOK_all (j + 1) i) (fun _ => hts) hsv (fun hm => ?_)
        have := stepJ_lx_last sc cl x y H.xs (j + 1) (colAt sc cl x y j) (i + 1)
          (cell sc cl x y (j + 1) i) hm
        rw [← hcell] at this
        exact this
      · exact Or.inl hg

/-- … good, wherever the default of row `m` is final: in the columns before the last -/
theorem main_good (H : SaneHyp sc cl x y) (hi : i ≤ x.length) (hj : j ≤ y.length) (h : j < y.length ∨ i < x.length)
    (ih : Below sc cl x y i j) : GoodF sc cl x y i j (cell sc cl x y j i).t.ts (cell sc cl x y j i).s := by
  rcases sorx_main H hi hj ih with hg | ⟨hm, hts, k, hk1, hk2, hlx, hv⟩
  · exact hg.1
  · have hjn : j < y.length := by omega
    subst hm
    rw [hts]
    exact good_xsuf hk2 (by rw [table_lx_lt sc cl x y j hjn, hlx]) (ih.tS (by omega) (by omega) hjn (Int.le_refl _)) hv

/-! ### the last column -/

/-- `TB_YCLIP_SUFFIX` in the last column is good for `Sn[i]` whenever `Sn[i]` beats a value that is at least the S
cell of the main loop -/
theorem ysuf_good (H : SaneHyp sc cl x y) (hi : i ≤ x.length) (ih : Below sc cl x y i y.length) (c : Int)
    (hc : (cell sc cl x y y.length i).s ≤ c) (hgt : (cell sc cl x y y.length i).sn > c) :
    GoodF sc cl x y i y.length .ysuf (cell sc cl x y y.length i).sn := by
  have hmin := cell_s_gt_min H i y.length hi (Nat.le_refl _)
  have hys := H.ys
  rcases snOK_all (sc := sc) (cl := cl) (y := y) i hi y.length with h0 | ⟨jj, hjj, hly, hv⟩
  · omega
  · have hjn : jj < y.length := Nat.lt_of_le_of_ne hjj (fun e => by subst e; omega)
    have hly' : (finalT sc cl x y).ly i = y.length - jj := by rw [table_ly, hly]
    exact good_ysuf hjn hly' (ih.tS (by omega) hi hjn (Int.le_refl _)) hv

/-- rows `< m` of the last column: the code the post-loops left -/
theorem fin_good_lt (H : SaneHyp sc cl x y) (hi : i < x.length) (ih : Below sc cl x y i y.length) :
    GoodF sc cl x y i y.length (P2 sc cl x y i).ts (P2 sc cl x y i).s := by
  have hmain := main_good H (Nat.le_of_lt hi) (Nat.le_refl _) (Or.inr hi) ih
  have hp1 : GoodF sc cl x y i y.length (P1 sc cl x y i).ts (P1 sc cl x y i).s := by
    obtain ⟨e1, e2⟩ := P1_s_ts sc cl x y i hi
    rw [e1, e2]
    unfold upd
    by_cases hc : (cell sc cl x y y.length i).sn > (cell sc cl x y y.length i).s
    · rw [if_pos hc, if_pos hc]
      exact ysuf_good H (Nat.le_of_lt hi) ih _ (Int.le_refl _) hc
    · rw [if_neg hc, if_neg hc]; exact hmain
  cases i with
  | zero => rw [(P2_zero_fields sc cl x y).1, (P2_zero_fields sc cl x y).2.1]; exact hp1
  | succ k =>
    obtain ⟨e1, e2, _⟩ := post2Step_lt sc cl x (p1L sc cl x y) (k + 1) (P2 sc cl x y k) (by omega)
    rw [P2_succ sc cl x y k (by omega), e1, e2, p1L_getD]
    by_cases hc : (P2 sc cl x y k).s + sc.go + sc.ge > (P1 sc cl x y (k + 1)).s
    · rw [if_pos hc, if_pos hc]
      refine good_mono (insN_good H (by omega) ih) ?_
      rw [P2_succ sc cl x y k (by omega), (post2Step_iv sc cl x _ _ _).1]
      split <;> omega
    · rw [if_neg hc, if_neg hc]; exact hp1

/-! ### the registers of row `m` -/

theorem reg1_step (H : SaneHyp sc cl x y)
    (ih : Below sc cl x y x.length y.length) (i : Nat) (hi : i ≤ x.length) (p : PSt)
    (hp : RegOK sc cl x y p.sm p.xm p.lx) (hmono : (cell sc cl x y y.length x.length).s ≤ p.xm)
    (hP1 : P1 sc cl x y i = post1Step cl x (colAt sc cl x y y.length) i p) :
    RegOK sc cl x y (P1 sc cl x y i).sm (P1 sc cl x y i).xm (P1 sc cl x y i).lx ∧
      (cell sc cl x y y.length x.length).s ≤ (P1 sc cl x y i).xm := by
  by_cases hm : i = x.length
  · -- row `m`: the cell is the register
    rw [hP1, post1Step_last cl x H.xs _ i p hm (r := cell sc cl x y y.length x.length) (by rw [hm]; rfl)]
    dsimp only
    unfold upd
    by_cases hc : (cell sc cl x y y.length x.length).sn > p.xm
    · rw [if_pos hc, if_pos hc]
      refine ⟨⟨nofun, fun _ => ?_⟩, by omega⟩
      exact ysuf_good H (Nat.le_refl _) ih p.xm hmono hc
    · rw [if_neg hc, if_neg hc]
      exact ⟨hp, hmono⟩
  · have e1 := (P1_s_ts sc cl x y i (by omega)).1
    rw [hP1, post1Step_lt cl x _ i p hm (r := cell sc cl x y y.length i) rfl]
    dsimp only
    rw [← e1]
    unfold upd
    by_cases hc : (P1 sc cl x y i).s + cl.xs > p.xm
    · rw [if_pos hc, if_pos hc, if_pos hc]
      refine ⟨⟨fun _ => ⟨i, by omega, rfl, ?_⟩, fun h => absurd rfl h⟩, by omega⟩
      have := P2_s_ge sc cl x y i (by omega)
      omega
    · rw [if_neg hc, if_neg hc, if_neg hc]
      exact ⟨hp, hmono⟩

theorem reg1_all (H : SaneHyp sc cl x y)
    (ih : Below sc cl x y x.length y.length) (hsx : SorX sc cl x y y.length x.length) : ∀ i, i ≤ x.length →
    RegOK sc cl x y (P1 sc cl x y i).sm (P1 sc cl x y i).xm (P1 sc cl x y i).lx ∧
      (cell sc cl x y y.length x.length).s ≤ (P1 sc cl x y i).xm := by
  intro i
  induction i with
  | zero =>
    intro _
    refine reg1_step H ih 0 (Nat.zero_le _) (p1init x (colAt sc cl x y y.length)) ?_ ?_ (P1_zero sc cl x y)
    · -- the registers as the main loop left them
      show RegOK sc cl x y (cell sc cl x y y.length x.length).t.ts (cell sc cl x y y.length x.length).xm
        (cell sc cl x y y.length x.length).t.lx
      rw [cell_xm_eq_s sc cl x y y.length]
      rcases hsx with ⟨hg, hne⟩ | ⟨_, hts, k, hk1, hk2, hlx, hv⟩
      · exact ⟨fun h => absurd h hne, fun _ => hg⟩
      · refine ⟨fun _ => ⟨k, hk2, hlx, ?_⟩, fun h => absurd hts h⟩
        have h2 := P1_s_ge sc cl x y k hk2
        have h3 := P2_s_ge sc cl x y k hk2
        omega
    · exact Int.le_of_eq (cell_xm_eq_s sc cl x y y.length).symm
  | succ i ih' =>
    intro hi
    obtain ⟨h1, h2⟩ := ih' (by omega)
    exact reg1_step H ih (i + 1) hi (P1 sc cl x y i) h1 h2 (P1_succ sc cl x y i hi)

theorem reg2_all (H : SaneHyp sc cl x y)
    (hreg1 : RegOK sc cl x y (P1 sc cl x y x.length).sm (P1 sc cl x y x.length).xm (P1 sc cl x y x.length).lx)
    (hfinI : 1 ≤ x.length → GoodF sc cl x y x.length y.length .ins (P2 sc cl x y x.length).iv) : ∀ i, i ≤ x.length →
    RegOK sc cl x y (P2 sc cl x y i).sm (P2 sc cl x y i).xm (P2 sc cl x y i).lx := by
  intro i
  induction i with
  | zero => intro _; rw [P2_zero]; exact hreg1
  | succ i ih =>
    intro hi
    have hp := ih (by omega)
    by_cases hm : i + 1 = x.length
    · obtain ⟨e1, _, _, e4, e5⟩ := post2Step_last sc cl x H.xs (p1L sc cl x y) (i + 1)
        (P2 sc cl x y i) hm
      rw [P2_succ sc cl x y i hi, e1, e4, e5]
      by_cases hc : (P2 sc cl x y i).s + sc.go + sc.ge > (P2 sc cl x y i).xm
      · rw [if_pos hc, if_pos hc]
        refine ⟨nofun, fun _ => good_mono (hfinI (by omega)) ?_⟩
        rw [← hm, P2_succ sc cl x y i hi, (post2Step_iv sc cl x _ _ _).1]
        split <;> omega
      · rw [if_neg hc, if_neg hc]; exact hp
    · obtain ⟨_, _, e3⟩ := post2Step_lt sc cl x (p1L sc cl x y) (i + 1) (P2 sc cl x y i) hm
      rw [← P2_succ sc cl x y i hi] at e3
      rcases e3 with ⟨h1, h2, h3⟩ | ⟨h1, h2, h3⟩
      · rw [h1, h2, h3]; exact hp
      · rw [h1, h2, h3]
        exact ⟨fun _ => ⟨i + 1, by omega, rfl, Int.le_refl _⟩, fun h => absurd rfl h⟩

/-- cell `(m, n)`: the registers through both post-loops -/
theorem fin_good_last (H : SaneHyp sc cl x y) (ih : Below sc cl x y x.length y.length) :
    GoodF sc cl x y x.length y.length (P2 sc cl x y x.length).ts (P2 sc cl x y x.length).s := by
  have hfinI : 1 ≤ x.length → GoodF sc cl x y x.length y.length .ins (P2 sc cl x y x.length).iv := by
    intro h1
    obtain ⟨k, hk⟩ : ∃ k, x.length = k + 1 := ⟨x.length - 1, by omega⟩
    rw [hk] at ih ⊢
    exact insN_good H (by omega) ih
  have hsx := sorx_main H (Nat.le_refl _) (Nat.le_refl _) ih
  have hreg1 := (reg1_all H ih hsx x.length (Nat.le_refl _)).1
  have hreg2 := reg2_all H hreg1 hfinI x.length (Nat.le_refl _)
  rw [(P2_last sc cl x y H.xs).1, (P2_last sc cl x y H.xs).2]
  by_cases hx : (P2 sc cl x y x.length).sm = .xsuf
  · obtain ⟨k, hk, hlx, hv⟩ := hreg2.1 hx
    rw [hx]
    have hl : (finalT sc cl x y).lx y.length = x.length - k := by
      rw [table_lx_n]; exact hlx
    exact good_xsuf hk hl (ih.tSn (by omega) (by omega) (Int.le_refl _)) hv
  · exact hreg2.2 hx

/-- **every claim is good** -/
theorem claim_good (H : SaneHyp sc cl x y) :
    ∀ N i j c v, i + j < N → Claim sc cl x y i j c v → GoodF sc cl x y i j c v := by
  intro N
  induction N with
  | zero => intro i j c v hN; omega
  | succ N IH =>
    intro i j c v hN h
    have ih : Below sc cl x y i j := fun i' j' c' v' hlt h' => IH i' j' c' v' (by omega) h'
    cases h with
    | main hi hj hor hv => exact good_mono (main_good H hi hj hor ih) hv
    | fin hi hv =>
      rcases Nat.lt_or_ge i x.length with hlt | hge
      · exact good_mono (fin_good_lt H hlt ih) hv
      · obtain rfl : i = x.length := by omega
        exact good_mono (fin_good_last H ih) hv
    | ins h1 hi hj hv => exact good_mono (ins_good H hi (Nat.le_of_lt hj) ih h1) hv
    | insN h1 hi hv =>
      obtain ⟨k, rfl⟩ : ∃ k, i = k + 1 := ⟨i - 1, by omega⟩
      exact good_mono (insN_good H hi ih) hv
    | del hi h1 hj hv =>
      obtain ⟨k, rfl⟩ : ∃ k, j = k + 1 := ⟨j - 1, by omega⟩
      exact good_mono (del_good H hi hj ih) hv

end

end RbV.Model.PairwiseFill
