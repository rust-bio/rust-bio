import RbV.Lemmas.SaisFirst
import RbV.Lemmas.SaisRedOrder
import RbV.Lemmas.TransformSpec
/-
SA-IS as a whole (C03 (f), (g)): `sort_lms_suffixes` leaves the LMS positions sorted by their suffixes (naming, and
recursion on the reduced text where two LMS substrings are equal), hence `Sais::construct` returns the sorted suffix
permutation of every text it accepts; `suffix_array_int` and `suffix_array` follow.
-/
namespace RbV.Sais

/-- `lms_pos` on entry of the second `calc_pos`: all LMS positions, sorted by their suffixes -/
def LmsSorted (t : List Nat) (lms : List Nat) : Prop := LmsList t lms ∧ lms.Pairwise (sufR t)

theorem pairwise_of_length_le_one {α : Type} (R : α → α → Prop) (l : List α) (h : l.length ≤ 1) : l.Pairwise R := by
  match l, h with
  | [], _ => exact List.Pairwise.nil
  | [a], _ => exact List.pairwise_singleton R a

theorem suffixSorted_of_sdone {t pos : List Nat} (h : SDone t (sufR t) pos) : SuffixSorted t pos :=
  ⟨SDone.perm h, SDone.pairwise h⟩

/-- **C03 (e)**: induced sorting from correctly sorted LMS suffixes gives the sorted suffix permutation -/
theorem induced_sort_suffix (t : List Nat) (hv : Valid t) (lms : List Nat) (hl : LmsSorted t lms) :
    SuffixSorted t (calcPosRun t (tyOf t) lms).pos :=
  suffixSorted_of_sdone (induced_sort t hv (sufR t) (sufR t) (indRel_suf t hv) (stepL_suf t) (indRel_suf t hv)
    (stepS_suf t) (fun _ _ _ _ _ _ h => h) lms hl.1
    (List.Pairwise.imp (S := fun p q => sym t p = sym t q → sufR t p q) (fun h _ => h) hl.2))

/-- `calc_lms_pos` unfolded: the three outcomes of `sort_lms_suffixes` -/
theorem calcLmsPos_lmsPos (rec : List Nat → St → St) (t : List Nat) (ty : List Bool) (s : St) :
    (calcLmsPos rec t ty s).lmsPos =
      (let c := forUp t.length (collectStep ty) ([], s.redPos, 0)
       let sB : St := calcPos t ty { s with lmsPos := c.1, redPos := c.2.1 }
       if c.1.length > 1 then
         if (naming t ty c.1.length sB).label + 1 < c.1.length then
           (rec (naming t ty c.1.length sB).red sB).pos.map (fun p => c.1.getD p 0)
         else sB.pos.filter (isLms ty)
       else c.1) := by
  unfold calcLmsPos sortLmsSuffixes
  simp only []
  rw [apply_ite St.lmsPos, apply_ite St.lmsPos]
  rfl

/-- **C03 (f)**: after `calc_lms_pos`, `lms_pos` holds every LMS position once, sorted by suffix — given that the
recursive call sorts shorter texts. -/
theorem calcLmsPos_sorted (f : Nat)
    (ih : ∀ t' s', Valid t' → t'.length ≤ f → t'.length ≤ s'.redPos.length → SuffixSorted t' (construct f t' s').pos)
    (t : List Nat) (hv : Valid t) (hn : t.length ≤ f + 1) (s : St) (hs : t.length ≤ s.redPos.length) :
    LmsSorted t (calcLmsPos (construct f) t (tyOf t) s).lmsPos := by
  rw [calcLmsPos_lmsPos]
  obtain ⟨c2, c3, hc, h3, hred⟩ := collect_lmsOf t s.redPos hs
  rw [hc]
  simp only []
  have hmlt := length_lmsOf_lt t hv.pos
  by_cases hm : (lmsOf t).length > 1
  · rw [if_pos hm]
    have h2 : 2 ≤ t.length := by omega
    -- the state before the naming loop
    have hpos : (calcPos t (tyOf t) { s with lmsPos := lmsOf t, redPos := c2 }).pos = pos1 t := rfl
    have hrp : (calcPos t (tyOf t) { s with lmsPos := lmsOf t, redPos := c2 }).redPos = c2 := rfl
    generalize calcPos t (tyOf t) { s with lmsPos := lmsOf t, redPos := c2 } = sB at hpos hrp ⊢
    obtain ⟨hlab, hredv⟩ := naming_pos1 t sB hpos
    rw [hredv, hlab, hrp]
    by_cases hrec : (labs1 t).getLastD 0 + 1 < (lmsOf t).length
    · rw [if_pos hrec]
      -- recursion on the reduced text
      have hvr := valid_red1 t hv h2 c2 hred hm
      have hlr := length_red1 t c2
      have hsr := ih (red1 t c2) sB hvr (by omega) (by rw [hrp, h3]; omega)
      generalize (construct f (red1 t c2) sB).pos = sa at hsr
      obtain ⟨hperm, hpw⟩ := hsr
      rw [hlr] at hperm
      have hpm := hperm.map (fun p => (lmsOf t).getD p 0)
      rw [List.map_getD_range] at hpm
      refine ⟨⟨hpm.nodup_iff.mpr (nodup_lmsBelow _ _), ?_⟩, ?_⟩
      · intro p
        rw [hpm.mem_iff, mem_lmsBelow]
        exact ⟨fun h => h.2, fun h => ⟨lt_of_isLms p h, h⟩⟩
      · rw [List.pairwise_map]
        refine hpw.imp_of_mem ?_
        intro a b ha hb hab
        have ha' : a < (red1 t c2).length := by rw [hlr]; exact List.mem_range.mp (hperm.mem_iff.mp ha)
        have hb' : b < (red1 t c2).length := by rw [hlr]; exact List.mem_range.mp (hperm.mem_iff.mp hb)
        exact (lms_suffix_order t hv h2 (red1 t c2) hlr (red1_ord t hv c2 hred) a b ha' hb').mp hab
    · rw [if_neg hrec, hpos]
      -- all LMS substrings are different
      refine ⟨⟨qs1_nodup t hv, mem_qs1 t hv⟩, ?_⟩
      have hfull : (qs1 t).length ≤ (labs1 t).getLastD 0 + 1 := by rw [length_qs1 t hv]; omega
      have := labels_all_distinct (key t) _ (qs1 t) (qs1_nodup t hv) (lmsSubEq_iff_of_mem_qs1 t hv) (qs1_sorted t hv) hfull
      refine this.imp_of_mem ?_
      intro p q hp hq hpq
      exact sufR_of_key_lt t hv p q ((mem_qs1 t hv p).mp hp) ((mem_qs1 t hv q).mp hq) hpq
  · rw [if_neg hm]
    exact ⟨lmsList_lmsOf t, pairwise_of_length_le_one _ _ (Nat.le_of_not_gt hm)⟩

/-- **`Sais::construct` sorts** (C03 (g), integer texts): for every text it accepts (non-empty, last symbol the unique
minimum, dense alphabet) and enough recursion fuel, `pos` is the sorted suffix permutation. -/
theorem construct_sorted : ∀ (f : Nat) (t : List Nat) (s : St), Valid t → t.length ≤ f → t.length ≤ s.redPos.length →
    SuffixSorted t (construct f t s).pos := by
  intro f
  induction f with
  | zero => intro t s hv hf; have := hv.pos; omega
  | succ f ih =>
    intro t s hv hf hs
    exact induced_sort_suffix t hv _ (calcLmsPos_sorted f ih t hv hf s hs)

theorem suffixArrayInt_sorted (t : List Nat) (hv : Valid t) : SuffixSorted t (suffixArrayInt t) :=
  construct_sorted t.length t (St.new t.length) hv (Nat.le_refl _) (by simp [St.new])

theorem suffixArray_isSA (t : List Nat) (hne : t ≠ []) (hmin : ∀ p, p < t.length → sentinelOf t ≤ t.getD p 0) :
    IsSA t (suffixArray t) := by
  unfold suffixArray
  simp only []
  rw [transformText_eq]
  apply Transform.transform_sorted_isSA t _ hne hmin
  apply construct_sorted _ _ _ (valid_transformText t hne hmin) (Nat.le_refl _)
  simp [St.new, Transform.length_transformText]

/-- Boolean test for `Valid` (for examples) -/
def validB (t : List Nat) : Bool :=
  decide (0 < t.length) &&
  (List.range (t.length - 1)).all (fun i => decide (sym t (t.length - 1) < sym t i)) &&
  (List.range (maxSucc t)).all (fun c => t.contains c)

theorem valid_of_validB (t : List Nat) (h : validB t = true) : Valid t := by
  unfold validB at h
  simp only [Bool.and_eq_true, decide_eq_true_eq, List.all_eq_true, List.mem_range] at h
  obtain ⟨⟨h1, h2⟩, h3⟩ := h
  refine ⟨h1, fun i hi => h2 i (by omega), ?_⟩
  intro c x hx hcx
  have := lt_maxSucc_of_mem t x hx
  have := h3 c (by omega)
  simpa using this

end RbV.Sais
