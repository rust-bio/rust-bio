import RbV.Model.LcskFwd
import RbV.Lemmas.KChain
/-! The forward recurrence computes, for every match, the best score of a valid chain *ending* there. Core only. -/
namespace RbV.KChain

/-- chain written latest match first -/
def RChain (k : Nat) : List M → Prop
  | [] => True
  | [_] => True
  | b :: a :: r => Link k a b ∧ RChain k (a :: r)

def rscore (k : Nat) : List M → Nat
  | [] => 0
  | [_] => k
  | b :: a :: r => step k a b + rscore k (a :: r)

/-! `tableR` is the generic table for the two step relations read backwards; its key is the negated first coordinate. -/

theorem tableR_eq (k : Nat) (rs : List M) : tableR k rs = tableG (fun b a => nonov k a b) (fun b a => cont a b) k rs := by
  induction rs with
  | nil => rfl
  | cons m rest ih => simp only [tableR, tableG, ih]; rfl

theorem rchain_iff_g (k : Nat) (c : List M) : RChain k c ↔ GChain (fun b a => nonov k a b) (fun b a => cont a b) c := by
  induction c with
  | nil => simp [RChain, GChain]
  | cons b c ih =>
    cases c with
    | nil => simp [RChain, GChain]
    | cons a r => simp only [RChain, GChain, ih, ← link_iff]; rfl

theorem rscore_eq_g (k : Nat) (c : List M) : rscore k c = gscore (fun b a => nonov k a b) k c := by
  induction c with
  | nil => rfl
  | cons b c ih =>
    cases c with
    | nil => rfl
    | cons a r => simp only [rscore, gscore, ih]; rfl

theorem tableR_fst (k : Nat) (rs : List M) : (tableR k rs).map (·.1) = rs := by
  rw [tableR_eq]; exact tableG_fst rs

theorem exists_entryR {k : Nat} {rs : List M} {b : M} (h : b ∈ rs) : ∃ v, (b, v) ∈ tableR k rs := by
  rw [tableR_eq]; exact exists_entryG h

theorem entry_memR {k : Nat} {rs : List M} {b : M} {v : Nat} (h : (b, v) ∈ tableR k rs) : b ∈ rs := by
  rw [tableR_eq] at h; exact entry_memG h

theorem tableR_upper {k : Nat} (hk : 0 < k) (rs : List M) (hs : rs.Pairwise (fun a b => b.1 ≤ a.1)) :
    ∀ m v, (m, v) ∈ tableR k rs → ∀ c, RChain k (m :: c) → (∀ e ∈ c, e ∈ rs) → rscore k (m :: c) ≤ v := by
  simp only [tableR_eq, rchain_iff_g, rscore_eq_g]
  exact tableG_upper (key := fun m => -(m.1 : Int)) (fun b a h => by have := key_lt_of_link hk a b h; omega) rs
    (hs.imp (fun h => by omega))

theorem tableR_attained {k : Nat} (hk : 0 < k) (rs : List M) :
    ∀ m v, (m, v) ∈ tableR k rs →
      ∃ c, RChain k (m :: c) ∧ (∀ e ∈ m :: c, e ∈ rs) ∧ rscore k (m :: c) = v := by
  simp only [tableR_eq, rchain_iff_g, rscore_eq_g]
  exact tableG_attained hk rs

theorem chain_snoc (k : Nat) (l : List M) (b : M) :
    Chain k (l ++ [b]) ↔ Chain k l ∧ ∀ a, l.getLast? = some a → Link k a b := by
  rw [chain_append]
  simp [Chain]

theorem score_snoc (k : Nat) (l : List M) (b : M) :
    score k (l ++ [b]) = match l.getLast? with
      | none => k
      | some a => score k l + step k a b := by
  induction l with
  | nil => simp [score]
  | cons x l ih =>
    cases l with
    | nil => simp [score]; omega
    | cons y r =>
      have e : x :: y :: r ++ [b] = x :: y :: (r ++ [b]) := rfl
      rw [e]
      simp only [score]
      have ih' := ih
      simp only [List.cons_append, List.getLast?_cons_cons] at ih' ⊢
      rw [ih']
      cases hr : (y :: r).getLast? with
      | none => simp at hr
      | some a => simp only; omega

theorem rchain_iff (k : Nat) (c : List M) : RChain k c ↔ Chain k c.reverse := by
  induction c with
  | nil => simp [RChain, Chain]
  | cons b c ih =>
    cases c with
    | nil => simp [RChain, Chain]
    | cons a r =>
      simp only [RChain, List.reverse_cons] at ih ⊢
      rw [chain_snoc, ih]
      constructor
      · rintro ⟨h1, h2⟩
        refine ⟨h2, fun x hx => ?_⟩
        simp at hx; rw [← hx]; exact h1
      · rintro ⟨h1, h2⟩
        exact ⟨h2 a (by simp), h1⟩

theorem rscore_eq (k : Nat) (c : List M) : rscore k c = score k c.reverse := by
  induction c with
  | nil => simp [rscore, score]
  | cons b c ih =>
    cases c with
    | nil => simp [rscore, score]
    | cons a r =>
      simp only [rscore, List.reverse_cons] at ih ⊢
      rw [score_snoc, ih]
      have : ((r.reverse ++ [a]).getLast?) = some a := by simp
      rw [this]; simp only; omega

end RbV.KChain
