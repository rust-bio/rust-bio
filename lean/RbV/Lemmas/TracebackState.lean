import RbV.Model.MyersTraceback
import RbV.Lemmas.MyersStep
import RbV.Lemmas.TracebackCursor
/-!
The stored-state traceback of the single-word Myers matcher reads the true cells of the Sellers matrix (C10).
Core Lean only.

`Handler` (model of `ShortTracebackHandler`) keeps the distance of the cell under the cursor of the current column and of
the diagonal cell in the left column.  We show that these two numbers, which the code derives from single bits
(`adjust_dist`) and bit counts (`adjust_by_mask`) of the stored `pv`/`mv` words, are the matrix entries, that the three
tests of `_traceback_at` are therefore the tests of the matrix-level rule and that its moves keep the invariant
(`handler_reads`: the handler is a `Cursor` that `Reads` the matrix, `Lemmas/TracebackCursor.lean`).  The loop as a whole:
`Lemmas/TracebackOrder.lean`.
-/
namespace RbV.Model.MyersTraceback
open RbV.Model.MyersSimple (St)

/-! ### single bits and masks -/

theorem twoPow_ne_zero {w r : Nat} (h : r < w) : BitVec.twoPow w r ≠ 0#w := by
  intro e
  have := congrArg (fun x => x.getLsbD r) e
  simp [h] at this

/-- `x & (1 << r) != 0` is the test of bit `r` -/
theorem test_twoPow {w : Nat} (x : BitVec w) (r : Nat) (h : r < w) :
    ((x &&& BitVec.twoPow w r) != 0#w) = x.getLsbD r := by
  rw [BitVec.and_twoPow]
  cases hx : x.getLsbD r <;> simp [twoPow_ne_zero h]

theorem twoPow_shr_succ {w : Nat} (r : Nat) (h : r + 1 < w) :
    BitVec.twoPow w (r + 1) >>> 1 = BitVec.twoPow w r := by
  apply BitVec.eq_of_getLsbD_eq
  intro i hi
  rw [BitVec.getLsbD_ushiftRight, BitVec.getLsbD_twoPow, BitVec.getLsbD_twoPow]
  have h1 : decide (r + 1 < w) = true := by simp [h]
  have h2 : decide (r < w) = true := by simp; omega
  rw [h1, h2]
  simp only [Bool.true_and]
  by_cases e : r = i
  · subst e; simp; omega
  · have : ¬ (r + 1 = 1 + i) := by omega
    simp [e, this]

theorem twoPow_shr_zero {w : Nat} : BitVec.twoPow w 0 >>> 1 = 0#w := by
  apply BitVec.eq_of_getLsbD_eq
  intro i hi
  rw [BitVec.getLsbD_ushiftRight, BitVec.getLsbD_twoPow]
  have : ¬ (0 = 1 + i) := by omega
  simp [this]

/-- `left_mask = (left_mask >> 1) | max_mask`: the range of set bits grows downwards by one -/
theorem leftMask_step {w m : Nat} (lm : BitVec w) (r : Nat) (hm1 : 1 ≤ m) (hmw : m ≤ w) (hr : r ≤ m)
    (h : ∀ b, lm.getLsbD b = decide (r ≤ b ∧ b < m)) :
    ∀ b, ((lm >>> 1) ||| BitVec.twoPow w (m - 1)).getLsbD b = decide (r - 1 ≤ b ∧ b < m) := by
  intro b
  rw [BitVec.getLsbD_or, BitVec.getLsbD_ushiftRight, h, BitVec.getLsbD_twoPow]
  have h1 : decide (m - 1 < w) = true := by simp; omega
  rw [h1, Bool.true_and]
  rw [Bool.eq_iff_iff]
  simp only [Bool.or_eq_true, decide_eq_true_eq]
  omega

/-! ### vertical encoding of a column (without the condition on row 0, so that the sentinel column is covered) -/

structure VEnc {w : Nat} (m : Nat) (C : Nat → Int) (pv mv : BitVec w) : Prop where
  diff : ∀ i, i < m → -1 ≤ C (i + 1) - C i ∧ C (i + 1) - C i ≤ 1
  pvb : ∀ i, i < m → (pv.getLsbD i = true ↔ C (i + 1) - C i = 1)
  mvb : ∀ i, i < m → (mv.getLsbD i = true ↔ C (i + 1) - C i = -1)

theorem VEnc.of_enc {w m : Nat} {C : Nat → Int} {pv mv : BitVec w} (e : RbV.Model.MyersSimple.Enc m C pv mv) :
    VEnc m C pv mv := ⟨e.diff, e.pvb, e.mvb⟩

/-- `VEnc` is C09's block encoding `EncB`, whose lemmas serve here -/
theorem VEnc.toB {w m : Nat} {C : Nat → Int} {pv mv : BitVec w} (e : VEnc m C pv mv) : RbV.Model.MyersLong.EncB m C pv mv :=
  ⟨e.diff, e.pvb, e.mvb⟩

theorem VEnc.ofB {w m : Nat} {C : Nat → Int} {pv mv : BitVec w} (e : RbV.Model.MyersLong.EncB m C pv mv) : VEnc m C pv mv :=
  ⟨e.diff, e.pvb, e.mvb⟩

theorem VEnc.bit_diff {w m : Nat} {C : Nat → Int} {pv mv : BitVec w} (enc : VEnc m C pv mv) (i : Nat) (hi : i < m) :
    ((pv.getLsbD i).toNat : Int) - ((mv.getLsbD i).toNat : Int) = C (i + 1) - C i ∧
    (pv.getLsbD i).toNat + (mv.getLsbD i).toNat ≤ 1 :=
  enc.toB.bit_diff i hi

theorem VEnc.congr {w : Nat} {m : Nat} {C C' : Nat → Int} {pv mv : BitVec w}
    (h : ∀ i, i ≤ m → C i = C' i) (enc : VEnc m C pv mv) : VEnc m C' pv mv :=
  .ofB (enc.toB.congr h)

theorem VEnc.span {w len : Nat} {C : Nat → Int} {pv mv : BitVec w} (enc : VEnc len C pv mv) (i : Nat) (hi : i ≤ len) :
    C len - C (len - i) ≤ i :=
  enc.toB.span i (len - i) (by omega)

/-- the sentinel `State::max()` encodes, in a column (or block) of `len` rows, the column `U − len + i` -/
theorem guard_enc {w : Nat} (U len : Nat) (hl : len ≤ w) :
    VEnc len (fun i => (U : Int) - len + i) (maxSt w U).pv (maxSt w U).mv :=
  .ofB (RbV.Model.MyersLong.EncB.allOnes hl (fun i _ => by omega))

/-- `adjust_dist(1 << r)` moves the distance from row `r + 1` to row `r` (and never subtracts from 0) -/
theorem adjustDist_spec {w m : Nat} (C : Nat → Int) (s : St w) (r : Nat) (hr : r < m) (hmw : m ≤ w)
    (enc : VEnc m C s.pv s.mv) (hd : (s.dist : Int) = C (r + 1)) (h0 : 0 ≤ C r) :
    (adjustDist s (BitVec.twoPow w r)).pv = s.pv ∧ (adjustDist s (BitVec.twoPow w r)).mv = s.mv ∧
    ((adjustDist s (BitVec.twoPow w r)).dist : Int) = C r := by
  have hb := enc.bit_diff r hr
  unfold adjustDist
  rw [test_twoPow _ r (by omega), test_twoPow _ r (by omega)]
  cases hpv : s.pv.getLsbD r <;> cases hmv : s.mv.getLsbD r <;>
    simp only [hpv, hmv, Bool.toNat_true, Bool.toNat_false, Bool.false_eq_true, if_false, if_true, true_and] at hb ⊢ <;>
    omega

theorem adjustDist_zero {w : Nat} (s : St w) : adjustDist s 0#w = s := by
  simp [adjustDist]

/-- a set `pv` bit says the value below is larger by one, hence `≥ 1`: the `-= 1` of `adjust_dist` does not underflow -/
theorem pv_bit_pos {w m : Nat} (C : Nat → Int) (s : St w) (r : Nat) (hr : r < m) (hmw : m ≤ w)
    (enc : VEnc m C s.pv s.mv) (hd : (s.dist : Int) = C (r + 1)) (h0 : 0 ≤ C r)
    (hne : (s.pv &&& BitVec.twoPow w r) ≠ 0#w) : 1 ≤ s.dist := by
  have hb : ((s.pv &&& BitVec.twoPow w r) != 0#w) = true := bne_iff_ne.mpr hne
  rw [test_twoPow _ r (by omega)] at hb
  have := (enc.pvb r hr).mp hb
  omega

/-- the counting argument behind `adjust_by_mask` -/
theorem popc_go_range {w m : Nat} (C : Nat → Int) (pv mv mask : BitVec w) (r : Nat) (enc : VEnc m C pv mv)
    (hmask : ∀ b, mask.getLsbD b = decide (r ≤ b ∧ b < m)) :
    ∀ n, (popc.go (pv &&& mask) n : Int) - (popc.go (mv &&& mask) n : Int) = C (max r (min n m)) - C r := by
  intro n
  induction n with
  | zero =>
    rw [show max r (min 0 m) = r by omega]
    simp [popc.go]
  | succ n ih =>
    simp only [popc.go, BitVec.getLsbD_and, hmask]
    by_cases hin : r ≤ n ∧ n < m
    · rw [show max r (min (n + 1) m) = n + 1 by omega]
      rw [show max r (min n m) = n by omega] at ih
      have hb := (enc.bit_diff n hin.2).1
      rw [decide_eq_true hin, Bool.and_true, Bool.and_true]
      omega
    · rw [show max r (min (n + 1) m) = max r (min n m) by omega, decide_eq_false hin]
      simp only [Bool.and_false, Bool.toNat_false, Nat.add_zero]
      exact ih

theorem popc_go_le {w : Nat} (x : BitVec w) : ∀ n, popc.go x n ≤ n := by
  intro n
  induction n with
  | zero => simp [popc.go]
  | succ n ih =>
    simp only [popc.go]
    cases x.getLsbD n <;> simp <;> omega

theorem popc_le {w : Nat} (x : BitVec w) : popc x ≤ w := popc_go_le x w

theorem popc_zero_and {w : Nat} (mask : BitVec w) : popc (0#w &&& mask) = 0 := by
  have e : 0#w &&& mask = 0#w := by simp
  rw [e]
  unfold popc
  have : ∀ n, popc.go (0#w) n = 0 := by
    intro n
    induction n with
    | zero => rfl
    | succ n ih => simp [popc.go, ih]
  exact this w

/-- `adjust_by_mask(mask)` with `mask` = bits `r..m-1` moves the distance from row `m` to row `r`; the subtraction
`dist + #mv − #pv` does not go below 0 -/
theorem adjustByMask_spec {w m : Nat} (C : Nat → Int) (s : St w) (mask : BitVec w) (r : Nat) (hr : r ≤ m) (hmw : m ≤ w)
    (enc : VEnc m C s.pv s.mv) (hmask : ∀ b, mask.getLsbD b = decide (r ≤ b ∧ b < m))
    (hd : (s.dist : Int) = C m) (h0 : 0 ≤ C r) :
    (adjustByMask s mask).pv = s.pv ∧ (adjustByMask s mask).mv = s.mv ∧
    popc (s.pv &&& mask) ≤ s.dist + popc (s.mv &&& mask) ∧
    ((adjustByMask s mask).dist : Int) = C r := by
  have h := popc_go_range C s.pv s.mv mask r enc hmask w
  have e : max r (min w m) = m := by omega
  rw [e] at h
  unfold adjustByMask popc
  refine ⟨rfl, rfl, ?_, ?_⟩
  · omega
  · simp only
    omega

/-! ### the stored columns and the handler invariant -/

/-- the column of values that belongs to sequence number `s`: the sentinel `State::max()` stands for a column
`dmax − m + i` to the left of the matrix, sequence number `j + 1` for matrix column `j` -/
def colOf (D : Nat → Nat → Nat) (dmax m : Nat) (s : Nat) (i : Nat) : Int :=
  if s = 0 then (dmax : Int) - m + i else (D i (s - 1) : Int)

theorem colOf_succ (D : Nat → Nat → Nat) (dmax m s i : Nat) : colOf D dmax m (s + 1) i = (D i s : Int) := by
  simp [colOf]

/-- what the traceback from sequence number `q` (= matrix column `q − 1`) assumes about the stored states `S` and about
the iterator `rd` it reads them through; `lo` = smallest sequence number that can still be read (ring buffer) -/
structure Stored {w : Nat} (m dmax q lo : Nat) (D : Nat → Nat → Nat) (S : Nat → St w) (rd : Nat → St w) : Prop where
  hm1 : 1 ≤ m
  hmw : m ≤ w
  hdm : m < dmax
  col0 : ∀ i, i ≤ m → D i 0 = i
  bound : ∀ i j, i ≤ m → j < q → D i j ≤ m
  enc : ∀ s, s ≤ q → VEnc m (colOf D dmax m s) (S s).pv (S s).mv ∧ ((S s).dist : Int) = colOf D dmax m s m
  rd : ∀ k, k + lo ≤ q → rd k = S (q - k)

theorem colOf_nonneg {w m dmax q lo : Nat} {D : Nat → Nat → Nat} {S rd : Nat → St w} (st : Stored m dmax q lo D S rd) (s i : Nat) : 0 ≤ colOf D dmax m s i := by
  unfold colOf
  have := st.hdm
  split <;> omega

theorem colOf_le {w m dmax q lo : Nat} {D : Nat → Nat → Nat} {S rd : Nat → St w} (st : Stored m dmax q lo D S rd) (s i : Nat)
    (hs : s ≤ q) (hi : i ≤ m) : colOf D dmax m s i ≤ (dmax : Int) := by
  have hdm := st.hdm
  unfold colOf
  split
  · omega
  · have := st.bound i (s - 1) hi (by omega)
    omega

/-- the handler with the cursor at row `i' + 1` of matrix column `j`: the current state carries the value of that cell,
the left state the value of the diagonal cell (row `i'`, column `j − 1`; the sentinel column for `j = 0`) -/
structure HInv {w : Nat} (m dmax q : Nat) (D : Nat → Nat → Nat) (S : Nat → St w) (i' j : Nat) (h : Handler w) : Prop where
  hi : i' < m
  hj : j < q
  maxMask : h.maxMask = BitVec.twoPow w (m - 1)
  pos : h.pos = BitVec.twoPow w i'
  lmask : ∀ b, h.leftMask.getLsbD b = decide (i' ≤ b ∧ b < m)
  spv : h.state.pv = (S (j + 1)).pv
  smv : h.state.mv = (S (j + 1)).mv
  sdist : (h.state.dist : Int) = colOf D dmax m (j + 1) (i' + 1)
  lpv : h.left.pv = (S j).pv
  lmv : h.left.mv = (S j).mv
  ldist : (h.left.dist : Int) = colOf D dmax m j i'
  taken : h.taken = q - j + 1

/-- cursor at row `i` of column `j`; row 0 = finished -/
def HInvAny {w : Nat} (m dmax q : Nat) (D : Nat → Nat → Nat) (S : Nat → St w) (i j : Nat) (h : Handler w) : Prop :=
  match i with
  | 0 => h.pos = 0#w
  | i' + 1 => HInv m dmax q D S i' j h

/-! ### the three tests are the tests of the matrix rule -/

section
variable {w : Nat} {m dmax q lo : Nat} {D : Nat → Nat → Nat} {S : Nat → St w} {rd : Nat → St w}

/-- test 1: `left.dist.wrapping_add(1) == block.dist` ⇔ diagonal value + 1 = current value (never at column 0) -/
theorem test_subst (st : Stored m dmax q lo D S rd) {i' j : Nat} {h : Handler w} (inv : HInv m dmax q D S i' j h) :
    ((h.left.dist + 1) % (dmax + 1) = h.state.dist) ↔ (j ≥ 1 ∧ D i' (j - 1) + 1 = D (i' + 1) j) := by
  have hs := inv.sdist
  have hl := inv.ldist
  rw [colOf_succ] at hs
  have hdm := st.hdm
  have hi := inv.hi
  cases j with
  | zero =>
    simp only [colOf, if_true] at hl
    have hc := st.col0 (i' + 1) (by omega)
    have hlt : h.left.dist + 1 < dmax + 1 := by omega
    rw [Nat.mod_eq_of_lt hlt]
    omega
  | succ j' =>
    rw [colOf_succ] at hl
    have hb := st.bound i' j' (by omega) (by have := inv.hj; omega)
    have hlt : h.left.dist + 1 < dmax + 1 := by omega
    rw [Nat.mod_eq_of_lt hlt]
    simp only [Nat.add_sub_cancel]
    omega

/-- test 2: `block.pv & pos != 0` ⇔ upper value + 1 = current value -/
theorem test_ins (st : Stored m dmax q lo D S rd) {i' j : Nat} {h : Handler w} (inv : HInv m dmax q D S i' j h) :
    ((h.state.pv &&& h.pos) != 0#w) = decide (D i' j + 1 = D (i' + 1) j) := by
  have hi := inv.hi
  have hmw := st.hmw
  rw [inv.pos, test_twoPow _ i' (by omega), inv.spv]
  have e := ((st.enc (j + 1) (by have := inv.hj; omega)).1).pvb i' hi
  rw [colOf_succ, colOf_succ] at e
  rw [Bool.eq_iff_iff, e]
  simp only [decide_eq_true_eq]
  omega

/-- test 3 (`move_left_down_if_better`): `left.mv & pos != 0` ⇔ left value + 1 = diagonal value (never at column 0:
the sentinel has `mv = 0`) -/
theorem test_del (st : Stored m dmax q lo D S rd) {i' j : Nat} {h : Handler w} (inv : HInv m dmax q D S i' j h) :
    ((h.left.mv &&& h.pos) != 0#w) = decide (j ≥ 1 ∧ D (i' + 1) (j - 1) + 1 = D i' (j - 1)) := by
  have hi := inv.hi
  have hmw := st.hmw
  rw [inv.pos, test_twoPow _ i' (by omega), inv.lmv]
  have e := ((st.enc j (by have := inv.hj; omega)).1).mvb i' hi
  rw [Bool.eq_iff_iff, e]
  simp only [decide_eq_true_eq]
  cases j with
  | zero => simp only [colOf, if_true]; omega
  | succ j' => rw [colOf_succ, colOf_succ]; simp only [Nat.add_sub_cancel]; omega

/-! ### the moves keep the invariant -/

/-- `move_to_left` draws the state of the column to the left of the left column -/
theorem rd_taken (st : Stored m dmax q lo D S rd) {i' j' : Nat} {h : Handler w} (inv : HInv m dmax q D S i' (j' + 1) h)
    (hlo : lo + 1 ≤ j' + 1) : rd h.taken = S j' := by
  have hjq := inv.hj
  rw [inv.taken, st.rd _ (by omega)]
  congr 1; omega

/-- `left_mask = (left_mask >> 1) | max_mask` in `move_up_left`: the range mask of the row above -/
theorem HInv.mask_up (st : Stored m dmax q lo D S rd) {i' j : Nat} {h : Handler w} (inv : HInv m dmax q D S i' j h) (b : Nat) :
    ((h.leftMask >>> 1) ||| h.maxMask).getLsbD b = decide (i' - 1 ≤ b ∧ b < m) := by
  rw [inv.maxMask]
  exact leftMask_step h.leftMask i' st.hm1 st.hmw (Nat.le_of_lt inv.hi) inv.lmask b

/-- `move_up(false); move_up_left(false); move_to_left()` — the diagonal move of Subst and Match -/
theorem move_diag (st : Stored m dmax q lo D S rd) {i' j : Nat} {h : Handler w} (inv : HInv m dmax q D S i' j h)
    (hlo : lo + 1 ≤ j) :
    HInvAny m dmax q D S i' (j - 1) (((h.moveUp false).moveUpLeft false).moveToLeft rd) := by
  have hi := inv.hi
  have hmw := st.hmw
  have hjq := inv.hj
  cases i' with
  | zero =>
    have hpos : h.pos >>> 1 = 0#w := by rw [inv.pos]; exact twoPow_shr_zero
    exact hpos
  | succ r =>
    obtain ⟨j', rfl⟩ := Nat.exists_eq_add_of_le' (Nat.le_of_add_left_le hlo)
    have htk : h.taken + 1 = q - j' + 1 := by rw [inv.taken]; omega
    have hr : r < m := by omega
    have hj' : j' < q := by omega
    have hmask : ∀ b, _ = decide (r ≤ b ∧ b < m) := inv.mask_up st
    -- the new left state: column `j' − 1` (sequence number `j'`), moved from row `m` to row `r` by the range mask
    obtain ⟨encL, dL⟩ := st.enc j' (by omega)
    rw [← rd_taken st inv hlo] at encL dL
    have hadj := adjustByMask_spec (colOf D dmax m j') (rd h.taken) ((h.leftMask >>> 1) ||| h.maxMask) r
      (by omega) hmw encL hmask dL (colOf_nonneg st j' r)
    have hpos : h.pos >>> 1 = BitVec.twoPow w r := by rw [inv.pos]; exact twoPow_shr_succ r (by omega)
    exact ⟨hr, hj', inv.maxMask, hpos, hmask,
      inv.lpv, inv.lmv, inv.ldist, (rd_taken st inv hlo) ▸ hadj.1, (rd_taken st inv hlo) ▸ hadj.2.1, hadj.2.2.2, htk⟩

/-- `move_up(true); move_up_left(true)` — the vertical move of Ins -/
theorem move_ins (st : Stored m dmax q lo D S rd) {i' j : Nat} {h : Handler w} (inv : HInv m dmax q D S i' j h) :
    HInvAny m dmax q D S i' j ((h.moveUp true).moveUpLeft true) := by
  have hi := inv.hi
  have hmw := st.hmw
  have hjq := inv.hj
  cases i' with
  | zero =>
    have hpos : h.pos >>> 1 = 0#w := by rw [inv.pos]; exact twoPow_shr_zero
    exact hpos
  | succ r =>
    have hmask : ∀ b, _ = decide (r ≤ b ∧ b < m) := inv.mask_up st
    have hpos : h.pos >>> 1 = BitVec.twoPow w r := by rw [inv.pos]; exact twoPow_shr_succ r (by omega)
    obtain ⟨encS, _⟩ := st.enc (j + 1) (by omega)
    obtain ⟨encL, _⟩ := st.enc j (by omega)
    rw [← inv.spv, ← inv.smv] at encS
    rw [← inv.lpv, ← inv.lmv] at encL
    -- both cached states move up one row by `adjust_dist`: the current one with bit `r + 1`, the left one with bit `r`
    have a1 := adjustDist_spec (colOf D dmax m (j + 1)) h.state (r + 1) hi hmw encS inv.sdist
      (colOf_nonneg st (j + 1) (r + 1))
    have a2 := adjustDist_spec (colOf D dmax m j) h.left r (by omega) hmw encL inv.ldist
      (colOf_nonneg st j r)
    rw [← inv.pos] at a1
    rw [← hpos] at a2
    exact ⟨by omega, hjq, inv.maxMask, hpos, hmask, a1.1.trans inv.spv, a1.2.1.trans inv.smv, a1.2.2,
      a2.1.trans inv.lpv, a2.2.1.trans inv.lmv, a2.2.2, inv.taken⟩

/-- `move_left_down_if_better()` returned true (`left.dist -= 1`), then `move_to_left()` — the horizontal move of Del -/
theorem move_del (st : Stored m dmax q lo D S rd) {i' j : Nat} {h : Handler w} (inv : HInv m dmax q D S i' j h)
    (hlo : lo + 1 ≤ j) (hdel : D (i' + 1) (j - 1) + 1 = D i' (j - 1)) :
    HInvAny m dmax q D S (i' + 1) (j - 1)
      (Handler.moveToLeft rd { h with left := { h.left with dist := h.left.dist - 1 } }) := by
  have hi := inv.hi
  have hjq := inv.hj
  obtain ⟨j', rfl⟩ := Nat.exists_eq_add_of_le' (Nat.le_of_add_left_le hlo)
  have htk : h.taken + 1 = q - j' + 1 := by rw [inv.taken]; omega
  have hj' : j' < q := by omega
  have hld : ((h.left.dist - 1 : Nat) : Int) = colOf D dmax m (j' + 1) (i' + 1) := by
    have := inv.ldist
    rw [colOf_succ] at this ⊢
    simp only [Nat.add_sub_cancel] at hdel
    omega
  obtain ⟨encL, dL⟩ := st.enc j' (Nat.le_of_lt hj')
  rw [← rd_taken st inv hlo] at encL dL
  have hadj := adjustByMask_spec (colOf D dmax m j') (rd h.taken) h.leftMask i' (Nat.le_of_lt hi) st.hmw encL inv.lmask dL
    (colOf_nonneg st j' i')
  exact ⟨hi, hj', inv.maxMask, inv.pos, inv.lmask, inv.lpv, inv.lmv, hld, (rd_taken st inv hlo) ▸ hadj.1,
    (rd_taken st inv hlo) ▸ hadj.2.1, hadj.2.2.2, htk⟩

/-! ### which fields a move leaves alone -/

theorem moveUp_fields (h : Handler w) (adj : Bool) :
    (h.moveUp adj).state.pv = h.state.pv ∧ (h.moveUp adj).state.mv = h.state.mv ∧ (h.moveUp adj).left = h.left ∧
    (h.moveUp adj).maxMask = h.maxMask ∧ (h.moveUp adj).leftMask = h.leftMask ∧ (h.moveUp adj).taken = h.taken ∧
    (h.moveUp adj).pos = h.pos >>> 1 := by
  cases adj <;> simp [Handler.moveUp, adjustDist] <;> (repeat' split) <;> simp

theorem moveUpLeft_fields (h : Handler w) (adj : Bool) :
    (h.moveUpLeft adj).left.pv = h.left.pv ∧ (h.moveUpLeft adj).left.mv = h.left.mv ∧ (h.moveUpLeft adj).state = h.state ∧
    (h.moveUpLeft adj).maxMask = h.maxMask ∧ (h.moveUpLeft adj).pos = h.pos ∧ (h.moveUpLeft adj).taken = h.taken := by
  cases adj <;> simp [Handler.moveUpLeft, adjustDist] <;> (repeat' split) <;> simp

theorem mldib_fields (h : Handler w) :
    h.moveLeftDownIfBetter.2.left.pv = h.left.pv ∧ h.moveLeftDownIfBetter.2.left.mv = h.left.mv ∧
    h.moveLeftDownIfBetter.2.state = h.state ∧ h.moveLeftDownIfBetter.2.maxMask = h.maxMask ∧
    h.moveLeftDownIfBetter.2.pos = h.pos ∧ h.moveLeftDownIfBetter.2.taken = h.taken ∧
    h.moveLeftDownIfBetter.2.leftMask = h.leftMask ∧
    h.moveLeftDownIfBetter.1 = ((h.left.mv &&& h.pos) != 0#w) := by
  unfold Handler.moveLeftDownIfBetter
  split <;> simp_all

theorem mtl_fields (rd : Nat → St w) (g : Handler w) :
    (g.moveToLeft rd).pos = g.pos ∧ (g.moveToLeft rd).leftMask = g.leftMask ∧ (g.moveToLeft rd).maxMask = g.maxMask :=
  ⟨rfl, rfl, rfl⟩

/-! ### the handler as a `Cursor` -/

/-- `ShortTracebackHandler` as `_traceback_at` uses it -/
def Handler.cursor (dmax : Nat) (rd : Nat → St w) : Cursor (Handler w) where
  fin := Handler.finished
  sub h := decide ((h.left.dist + 1) % (dmax + 1) = h.state.dist)
  ins h := (h.state.pv &&& h.pos) != 0#w
  ldb := Handler.moveLeftDownIfBetter
  diag h := ((h.moveUp false).moveUpLeft false).moveToLeft rd
  vert h := (h.moveUp true).moveUpLeft true
  left h := h.moveToLeft rd

theorem Handler.ldb_flag (h : Handler w) : h.moveLeftDownIfBetter.1 = ((h.left.mv &&& h.pos) != 0#w) :=
  (mldib_fields h).2.2.2.2.2.2.2

theorem Handler.ldb_keep (h : Handler w) (hf : h.moveLeftDownIfBetter.1 = false) : h.moveLeftDownIfBetter.2 = h := by
  unfold Handler.moveLeftDownIfBetter at hf ⊢; split <;> simp_all

/-- **the handler reads true cells**: its tests are the tests of the matrix rule, its moves carry the true values to the next cursor
position; column 0 is 0, 1, 2, …, so the rule says Ins there and the walk never leaves the matrix to the left -/
theorem handler_reads (st : Stored m dmax q lo D S rd) : Reads (Handler.cursor dmax rd) D lo (HInvAny m dmax q D S) where
  done := fun j h inv => by simp [Handler.cursor, Handler.finished, show h.pos = 0#w from inv]
  cur := fun i j h inv => by
    have inv : HInv m dmax q D S i j h := inv
    have hi := inv.hi
    have hmw := st.hmw
    have t3 := test_del st inv
    have hflag := h.ldb_flag
    refine ⟨?_, ?_, decide_eq_decide.mpr (test_subst st inv), test_ins st inv, hflag.trans t3, h.ldb_keep, move_diag st inv,
      fun _ => move_ins st inv, fun hlo hf => ?_⟩
    · simp only [Handler.cursor, Handler.finished, inv.pos]
      exact beq_false_of_ne (twoPow_ne_zero (by omega))
    · rw [st.col0 i (by omega), st.col0 (i + 1) (by omega)]
    · have c := hflag.symm.trans hf
      simp only [Handler.cursor, Handler.moveLeftDownIfBetter, if_pos c]
      exact move_del st inv hlo (of_decide_eq_true (t3.symm.trans c)).2

/-! ### `init_traceback` -/

/-- `init_traceback` followed by `move_up_left(true)`: cursor at row `m` of column `q − 1`, left cursor at row `m − 1` -/
theorem start_inv (st : Stored m dmax q lo D S rd) (hq : lo + 1 ≤ q) :
    HInvAny m dmax q D S m (q - 1) (Handler.start m rd) := by
  have hm1 := st.hm1
  have hmw := st.hmw
  obtain ⟨m', rfl⟩ := Nat.exists_eq_add_of_le' hm1
  obtain ⟨j, rfl⟩ := Nat.exists_eq_add_of_le' (Nat.le_of_add_left_le hq)
  simp only [Nat.add_sub_cancel, HInvAny]
  have r0 : rd 0 = S (j + 1) := st.rd 0 (by omega)
  have r1 : rd 1 = S j := by rw [st.rd 1 (by omega)]; simp
  have hz : ∀ b, (0#w).getLsbD b = decide (m' + 1 ≤ b ∧ b < m' + 1) := by
    intro b; simp
  have hmask := leftMask_step (0#w) (m' + 1) hm1 hmw (Nat.le_refl _) hz
  simp only [Nat.add_sub_cancel] at hmask
  obtain ⟨encS, dS⟩ := st.enc (j + 1) (by omega)
  obtain ⟨encL, dL⟩ := st.enc j (by omega)
  have a2 := adjustDist_spec (colOf D dmax (m' + 1) j) (S j) m' (by omega) hmw encL dL
    (colOf_nonneg st j m')
  have htp : (1#w <<< m') = BitVec.twoPow w m' := (BitVec.twoPow_eq w m').symm
  refine ⟨by omega, by omega, ?_, ?_, ?_, ?_, ?_, ?_, ?_, ?_, ?_, ?_⟩ <;>
    simp only [Handler.start, Handler.new, Handler.moveUpLeft, Nat.add_sub_cancel, htp, r0, r1, if_true]
  all_goals first | exact hmask | exact dS | exact a2.1 | exact a2.2.1 | exact a2.2.2 | omega

end

end RbV.Model.MyersTraceback
