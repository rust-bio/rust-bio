import RbV.Model.Sdpkpp
import RbV.Lemmas.Lex
/-! C19 — `sdpkpp` mirror model: the maximum of `PrevPtr` records is a commutative monoid operation, so C18's Fenwick
theorem applies (`queryB`, `Lemmas/SdpkppSweep.lean`).  Core Lean only. -/
namespace RbV.Lemmas.Sdpkpp
open RbV.Model.Sdpkpp

theorem ppLe_iff (a b : PrevPtr) : ppLe a b = true ↔
    a.plane < b.plane ∨ (a.plane = b.plane ∧ (a.score < b.score ∨ (a.score = b.score ∧ (a.d < b.d ∨ (a.d = b.d ∧
      (a.id < b.id ∨ (a.id = b.id ∧ (a.x < b.x ∨ (a.x = b.x ∧ a.y ≤ b.y))))))))) := by
  simp only [ppLe, Bool.or_eq_true, Bool.and_eq_true, decide_eq_true_eq, beq_iff_eq]

theorem ppLe_total (a b : PrevPtr) : ppLe a b = true ∨ ppLe b a = true := by
  rw [ppLe_iff, ppLe_iff]
  exact lex_total (lex_total (lex_total (lex_total (lex_total (Nat.le_total _ _)))))

theorem ppLe_trans {a b c : PrevPtr} (h1 : ppLe a b = true) (h2 : ppLe b c = true) : ppLe a c = true := by
  rw [ppLe_iff] at *
  exact lex_trans (lex_trans (lex_trans (lex_trans (lex_trans Nat.le_trans)))) h1 h2

theorem ppLe_antisymm {a b : PrevPtr} (h1 : ppLe a b = true) (h2 : ppLe b a = true) : a = b := by
  rw [ppLe_iff] at *
  obtain ⟨e1, h1, h2⟩ := lex_antisymm h1 h2
  obtain ⟨e2, h1, h2⟩ := lex_antisymm h1 h2
  obtain ⟨e3, h1, h2⟩ := lex_antisymm h1 h2
  obtain ⟨e4, h1, h2⟩ := lex_antisymm h1 h2
  obtain ⟨e5, h1, h2⟩ := lex_antisymm h1 h2
  cases a; cases b
  simp only [PrevPtr.mk.injEq]
  exact ⟨e1, e2, e3, e4, e5, Nat.le_antisymm h1 h2⟩

theorem maxPP_of_le {a b : PrevPtr} (h : ppLe a b = true) : maxPP a b = b := by unfold maxPP; rw [if_pos h]

theorem maxPP_comm (a b : PrevPtr) : maxPP a b = maxPP b a :=
  ite_max_comm ppLe ppLe_total (fun _ _ => ppLe_antisymm) a b

theorem maxPP_assoc (a b c : PrevPtr) : maxPP (maxPP a b) c = maxPP a (maxPP b c) :=
  ite_max_assoc ppLe ppLe_total (fun _ _ _ => ppLe_trans) a b c

theorem maxPP_id (a : PrevPtr) : maxPP dfltPP a = a := by
  apply maxPP_of_le
  rw [ppLe_iff]; simp only [dfltPP]; omega

theorem maxPP_cases (a b : PrevPtr) : maxPP a b = a ∨ maxPP a b = b := by
  unfold maxPP; split <;> simp

end RbV.Lemmas.Sdpkpp
