import RbV.Model.Band
/-! Lemmas about the `Band` mirror (`RbV/Model/Band.lean`): every operation keeps the shape (`rows`, `cols`, one range
per column, range bounds ≤ `rows`) and only *grows* ranges; what `add_kmer` / `add_entry` put into the band.  Both facts
are instances of `Stable`: the constructor is built from `add_entry` and `add_kmer` alone, so whatever these two keep
is kept throughout (`set_boundaries` and the constructor itself: `RbV/Lemmas/BandL.lean`). -/
namespace RbV.Model.Band

theorem ite_of {α : Sort _} {P : α → Prop} (c : Prop) [Decidable c] {a b : α} (ha : P a) (hb : P b) :
    P (if c then a else b) := by
  split <;> assumption

theorem forCols_length (a b : Nat) (f : Nat → Nat × Nat → Nat × Nat) (rs : Ranges) :
    (forCols a b f rs).length = rs.length := by simp [forCols]

theorem forCols_get? (a b : Nat) (f : Nat → Nat × Nat → Nat × Nat) (rs : Ranges) (j : Nat) :
    (forCols a b f rs)[j]? = rs[j]?.map (fun r => if a ≤ j ∧ j < b then f j r else r) := by
  simp [forCols, List.getElem?_mapIdx]

/-- same columns, every range of `rs'` contains the one of `rs` -/
def Grow (rs rs' : Ranges) : Prop :=
  rs'.length = rs.length ∧ ∀ (j : Nat) (p : Nat × Nat), rs[j]? = some p → ∃ p' : Nat × Nat, rs'[j]? = some p' ∧ p'.1 ≤ p.1 ∧ p.2 ≤ p'.2

theorem Grow.refl (rs : Ranges) : Grow rs rs := ⟨rfl, fun _ p h => ⟨p, h, Nat.le_refl _, Nat.le_refl _⟩⟩

theorem Grow.trans {a b c : Ranges} (h1 : Grow a b) (h2 : Grow b c) : Grow a c := by
  refine ⟨h2.1.trans h1.1, fun j p hp => ?_⟩
  obtain ⟨p', hp', l1, l2⟩ := h1.2 j p hp
  obtain ⟨p'', hp'', l3, l4⟩ := h2.2 j p' hp'
  exact ⟨p'', hp'', Nat.le_trans l3 l1, Nat.le_trans l2 l4⟩

/-- no range bound exceeds `rows` -/
def Bdd (rows : Nat) (rs : Ranges) : Prop := ∀ (j : Nat) (p : Nat × Nat), rs[j]? = some p → p.1 ≤ rows ∧ p.2 ≤ rows

/-- the loop body `f` only widens a range, and not beyond row `rows` -/
def Widens (rows : Nat) (f : Nat → Nat × Nat → Nat × Nat) : Prop :=
  ∀ j p, (f j p).1 ≤ p.1 ∧ p.2 ≤ (f j p).2 ∧ (p.2 ≤ rows → (f j p).2 ≤ rows)

theorem widens_start (rows : Nat) (g : Nat → Nat) : Widens rows fun j p => (min p.1 (g j), p.2) :=
  fun _ _ => ⟨Nat.min_le_left .., Nat.le_refl _, id⟩

theorem widens_end (rows : Nat) (g : Nat → Nat) : Widens rows fun j p => (p.1, max p.2 (min (g j) rows)) :=
  fun _ _ => ⟨Nat.le_refl _, Nat.le_max_left .., fun h => Nat.max_le.mpr ⟨h, Nat.min_le_right ..⟩⟩

theorem widens_both (rows x y : Nat) : Widens rows fun _ p => (min p.1 x, max p.2 (min y rows)) :=
  fun _ _ => ⟨Nat.min_le_left .., Nat.le_max_left .., fun h => Nat.max_le.mpr ⟨h, Nat.min_le_right ..⟩⟩

theorem forCols_grow {rows : Nat} {f : Nat → Nat × Nat → Nat × Nat} (hf : Widens rows f) (a b : Nat) (rs : Ranges) :
    Grow rs (forCols a b f rs) := by
  refine ⟨forCols_length .., fun j p hp => ?_⟩
  rw [forCols_get?, hp, Option.map_some]
  exact ⟨_, rfl, ite_of (P := fun q : Nat × Nat => q.1 ≤ p.1 ∧ p.2 ≤ q.2) _ ⟨(hf j p).1, (hf j p).2.1⟩
    ⟨Nat.le_refl _, Nat.le_refl _⟩⟩

theorem forCols_bdd {rows : Nat} {f : Nat → Nat × Nat → Nat × Nat} (hf : Widens rows f) (a b : Nat) {rs : Ranges}
    (h : Bdd rows rs) : Bdd rows (forCols a b f rs) := by
  intro j p hp
  rw [forCols_get?] at hp
  obtain ⟨q, hq, rfl⟩ := Option.map_eq_some_iff.mp hp
  have hq' := h j q hq
  exact ite_of (P := fun q : Nat × Nat => q.1 ≤ rows ∧ q.2 ≤ rows) _
    ⟨Nat.le_trans (hf j q).1 hq'.1, (hf j q).2.2 hq'.2⟩ hq'

/-- the shape every band of an aligner for `|x| = m`, `|y| = n` has -/
structure WF (m n : Nat) (b : Band) : Prop where
  rows : b.rows = m + 1
  cols : b.cols = n + 1
  len : b.ranges.length = n + 1
  bdd : Bdd (m + 1) b.ranges

theorem WF.get {m n : Nat} {b : Band} (h : WF m n b) {j : Nat} (hj : j ≤ n) :
    ∃ p, b.ranges[j]? = some p ∧ p.1 ≤ m + 1 ∧ p.2 ≤ m + 1 :=
  have hl : j < b.ranges.length := h.len ▸ Nat.lt_succ_of_le hj
  ⟨_, List.getElem?_eq_getElem hl, h.bdd j _ (List.getElem?_eq_getElem hl)⟩

/-- `b'` has the shape of `b` and contains it -/
structure BGrow (b b' : Band) : Prop where
  rows : b'.rows = b.rows
  cols : b'.cols = b.cols
  grow : Grow b.ranges b'.ranges

theorem BGrow.refl (b : Band) : BGrow b b := ⟨rfl, rfl, Grow.refl _⟩
theorem BGrow.trans {a b c : Band} (h1 : BGrow a b) (h2 : BGrow b c) : BGrow a c :=
  ⟨h2.rows.trans h1.rows, h2.cols.trans h1.cols, h1.grow.trans h2.grow⟩

theorem bdd_replicate {rows : Nat} (k : Nat) {p : Nat × Nat} (h1 : p.1 ≤ rows) (h2 : p.2 ≤ rows) :
    Bdd rows (List.replicate k p) := by
  intro j q hq
  rw [List.eq_of_mem_replicate (List.mem_of_getElem? hq)]
  exact ⟨h1, h2⟩

theorem new_wf (m n : Nat) : WF m n (new m n) :=
  ⟨rfl, rfl, List.length_replicate, bdd_replicate _ (Nat.le_refl _) (Nat.zero_le _)⟩

theorem fullMatrix_new_wf (m n : Nat) : WF m n (fullMatrix (new m n)) :=
  ⟨rfl, rfl, List.length_replicate, bdd_replicate _ (Nat.zero_le _) (Nat.le_refl _)⟩

theorem addEntry_grow (b : Band) (r c w : Nat) : BGrow b (addEntry b r c w) :=
  ⟨rfl, rfl, forCols_grow (widens_both b.rows _ _) ..⟩

theorem addEntry_wf {m n : Nat} {b : Band} (h : WF m n b) (r c w : Nat) : WF m n (addEntry b r c w) :=
  ⟨h.rows, h.cols, (forCols_length ..).trans h.len,
    h.rows ▸ forCols_bdd (widens_both b.rows _ _) _ _ (h.rows ▸ h.bdd)⟩

/-! ### `add_kmer`: two loops lower `start`, two raise `end`, never above `rows` -/

theorem addKmer_grow (b : Band) (r c k w : Nat) : BGrow b (addKmer b r c k w) :=
  ite_of _ (BGrow.refl b) ⟨rfl, rfl,
    (((forCols_grow (widens_start b.rows _) ..).trans (forCols_grow (widens_start b.rows _) ..)).trans
      (forCols_grow (widens_end b.rows _) ..)).trans (forCols_grow (widens_end b.rows _) ..)⟩

theorem addKmer_wf {m n : Nat} {b : Band} (h : WF m n b) (r c k w : Nat) : WF m n (addKmer b r c k w) :=
  ite_of _ h ⟨h.rows, h.cols, by simp only [forCols_length]; exact h.len,
    h.rows ▸ forCols_bdd (widens_end b.rows _) _ _ (forCols_bdd (widens_end b.rows _) _ _
      (forCols_bdd (widens_start b.rows _) _ _ (forCols_bdd (widens_start b.rows _) _ _ (h.rows ▸ h.bdd))))⟩

/-! ### What `add_entry` and `add_kmer` keep, every later operation keeps -/

structure Stable (P : Band → Prop) : Prop where
  entry : ∀ {b : Band}, P b → ∀ r c w, P (addEntry b r c w)
  kmer : ∀ {b : Band}, P b → ∀ r c k w, P (addKmer b r c k w)

theorem wf_stable (m n : Nat) : Stable (WF m n) := ⟨addEntry_wf, addKmer_wf⟩

theorem grow_stable (b₀ : Band) : Stable (BGrow b₀) :=
  ⟨fun h _ _ _ => h.trans (addEntry_grow ..), fun h _ _ _ _ => h.trans (addKmer_grow ..)⟩

theorem Stable.gap {P : Band → Prop} (hP : Stable P) {b : Band} (h : P b) (s e : Nat × Nat) (w : Nat) :
    P (addGap b s e w) :=
  ite_of _ (List.foldlRecOn (motive := P) _ _ h fun _ hb _ _ => hP.entry hb ..)
    (List.foldlRecOn (motive := P) _ _ h fun _ hb _ _ => hP.entry hb ..)

theorem Stable.step {P : Band → Prop} (hP : Stable P) (k w : Nat) (ms : List (Nat × Nat))
    (st : Band × Option (Nat × Nat)) (idx : Nat) (h : P st.1) : P (pathStep k w ms st idx).1 := by
  unfold pathStep
  split
  · exact ite_of (P := fun q : Band × Option (Nat × Nat) => P q.1) _ (hP.entry h ..) (hP.kmer (hP.gap h ..) ..)
  · exact hP.kmer h ..

theorem addGap_grow (b : Band) (s e : Nat × Nat) (w : Nat) : BGrow b (addGap b s e w) :=
  (grow_stable b).gap (BGrow.refl b) s e w

theorem pathStep_wf {m n : Nat} (k w : Nat) (ms : List (Nat × Nat)) (st : Band × Option (Nat × Nat)) (idx : Nat)
    (h : WF m n st.1) : WF m n (pathStep k w ms st idx).1 :=
  (wf_stable m n).step k w ms st idx h

/-! ### `Mem`: what `add_entry` and `add_kmer` put into the band -/

theorem mem_iff (b : Band) (i j : Nat) :
    Mem b i j ↔ ∃ p, b.ranges[j]? = some p ∧ p.1 ≤ i ∧ i < p.2 := by
  unfold Mem
  rw [List.getD_eq_getElem?_getD]
  cases b.ranges[j]? <;> simp

theorem Mem.mono {b b' : Band} (h : BGrow b b') {i j : Nat} (hm : Mem b i j) : Mem b' i j := by
  rw [mem_iff] at hm ⊢
  obtain ⟨p, hp, l1, l2⟩ := hm
  obtain ⟨p', hp', l3, l4⟩ := h.grow.2 j p hp
  exact ⟨p', hp', Nat.le_trans l3 l1, Nat.lt_of_lt_of_le l2 l4⟩

theorem addEntry_mem {m n : Nat} {b : Band} (h : WF m n b) (r c w : Nat) (hr : r ≤ m) (hc : c ≤ n) :
    Mem (addEntry b r c w) r c := by
  have hc' : c < b.ranges.length := by rw [h.len]; omega
  have hcol : c - w ≤ c ∧ c < min (c + w + 1) b.cols := by rw [h.cols]; omega
  have hrow : r < min (r + w + 1) b.rows := by rw [h.rows]; omega
  rw [mem_iff]
  simp only [addEntry, forCols_get?, List.getElem?_eq_getElem hc', Option.map_some, if_pos hcol]
  exact ⟨_, rfl, Nat.le_trans (Nat.min_le_right ..) (Nat.sub_le ..), Nat.lt_of_lt_of_le hrow (Nat.le_max_right ..)⟩

/-! One conditional loop body of `add_kmer` acting on a column `p`, seen from a row `i`: `start = min(start, x)` keeps
`start ≤ i` and establishes it when `x ≤ i`, `end = max(end, y)` likewise for `i < end`; neither touches the other bound. -/

theorem start_le_of_min {c : Prop} [Decidable c] {p : Nat × Nat} {x i : Nat} (h : p.1 ≤ i ∨ (c ∧ x ≤ i)) :
    (if c then (min p.1 x, p.2) else p).1 ≤ i := by
  split
  · exact h.elim (Nat.le_trans (Nat.min_le_left ..)) fun h => Nat.le_trans (Nat.min_le_right ..) h.2
  · exact h.resolve_right fun h' => absurd h'.1 ‹_›

theorem start_le_of_max {c : Prop} [Decidable c] {p : Nat × Nat} {y i : Nat} (h : p.1 ≤ i) :
    (if c then (p.1, max p.2 y) else p).1 ≤ i := by
  split <;> exact h

theorem lt_end_of_max {c : Prop} [Decidable c] {p : Nat × Nat} {y i : Nat} (h : i < p.2 ∨ (c ∧ i < y)) :
    i < (if c then (p.1, max p.2 y) else p).2 := by
  split
  · exact h.elim (Nat.lt_of_lt_of_le · (Nat.le_max_left ..)) fun h => Nat.lt_of_lt_of_le h.2 (Nat.le_max_right ..)
  · exact h.resolve_right fun h' => absurd h'.1 ‹_›

/-- `add_kmer((r, c), k, w)` puts the `k` diagonal cells `(r + t, c + t)`, `t < k`, of the k-mer into the band -/
theorem addKmer_mem {m n : Nat} {b : Band} (h : WF m n b) (r c k w t : Nat) (hr : r + k ≤ m) (hc : c + k ≤ n)
    (ht : t < k) : Mem (addKmer b r c k w) (r + t) (c + t) := by
  have hk : k ≠ 0 := by omega
  have hc' : c + t < b.ranges.length := by rw [h.len]; omega
  rw [mem_iff]
  simp only [addKmer, hk, if_false, forCols_get?, List.getElem?_eq_getElem hc', Option.map_some, h.rows, h.cols]
  refine ⟨_, rfl, start_le_of_max (start_le_of_max (start_le_of_min ?_)), lt_end_of_max ?_⟩
  · -- column `c + t` is reached by the first loop if `t ≤ w`, and by the second, with `i = r - w + (t - w)`, if not
    by_cases hw : t ≤ w
    · exact .inl (start_le_of_min (.inr (by omega)))
    · exact .inr (by omega)
  · -- … by the loop that counts down, with `i = r + w + k - (k - 1 - w - t)`, if `t + w + 1 < k`, and by the last if not
    by_cases hw : t + w + 1 < k
    · exact .inl (lt_end_of_max (.inr (by omega)))
    · exact .inr (by omega)

/-! ### The path loop covers its k-mers -/

/-- the k-mer `ms[idx]` lies inside the sequences -/
def InSeq (m n k : Nat) (ms : List (Nat × Nat)) (idx : Nat) : Prop :=
  (ms.getD idx (0, 0)).1 + k ≤ m ∧ (ms.getD idx (0, 0)).2 + k ≤ n

/-- the `k` diagonal cells of the k-mer `ms[idx]` are in the band -/
def Covers (b : Band) (k : Nat) (ms : List (Nat × Nat)) (idx : Nat) : Prop :=
  ∀ t, t < k → Mem b ((ms.getD idx (0, 0)).1 + t) ((ms.getD idx (0, 0)).2 + t)

theorem pathStep_snd (k w : Nat) (ms : List (Nat × Nat)) (st : Band × Option (Nat × Nat)) (idx : Nat) :
    (pathStep k w ms st idx).2 = some (ms.getD idx (0, 0)) := by
  unfold pathStep
  simp only
  split
  · split <;> rfl
  · rfl

/-- invariant of `for &idx in path`: shape, and the k-mer `prev` is covered -/
structure PInv (m n k : Nat) (st : Band × Option (Nat × Nat)) : Prop where
  wf : WF m n st.1
  prev : ∀ p, st.2 = some p → ∀ t, t < k → Mem st.1 (p.1 + t) (p.2 + t)

theorem pathStep_inv {m n k w : Nat} {ms : List (Nat × Nat)} {st : Band × Option (Nat × Nat)}
    (h : PInv m n k st) (idx : Nat) (hin : InSeq m n k ms idx) : PInv m n k (pathStep k w ms st idx) := by
  refine ⟨pathStep_wf k w ms st idx h.wf, fun q hq t ht => ?_⟩
  rw [pathStep_snd] at hq
  cases hq
  obtain ⟨hr, hc⟩ := hin
  unfold pathStep
  simp only
  generalize ms.getD idx (0, 0) = q at hr hc ⊢
  split
  · rename_i p hp
    split
    · rename_i hcont
      -- continues: the last cell is added by `add_entry`, the others belong to the previous k-mer
      obtain ⟨q1, q2⟩ := q
      obtain ⟨rfl, rfl⟩ : q1 = p.1 + 1 ∧ q2 = p.2 + 1 := hcont
      by_cases hl : t + 1 = k
      · subst hl
        rw [Nat.add_right_comm p.1, Nat.add_right_comm p.2]
        exact addEntry_mem h.wf _ _ _ (by omega) (by omega)
      · rw [Nat.add_assoc, Nat.add_assoc, Nat.add_comm 1 t]
        exact (h.prev p hp (t + 1) (by omega)).mono (addEntry_grow ..)
    · exact addKmer_mem ((wf_stable m n).gap h.wf ..) _ _ _ _ _ hr hc ht
  · exact addKmer_mem h.wf _ _ _ _ _ hr hc ht

/-- a k-mer is covered once its step has run, and the rest of the loop only grows the band -/
theorem foldl_pathStep_covers {m n k w : Nat} {ms : List (Nat × Nat)} (path : List Nat) (st : Band × Option (Nat × Nat))
    (h : PInv m n k st) (hin : ∀ idx ∈ path, InSeq m n k ms idx) :
    ∀ idx ∈ path, Covers (path.foldl (pathStep k w ms) st).1 k ms idx := by
  induction path generalizing st with
  | nil => nofun
  | cons a l ih =>
    have h' := pathStep_inv (w := w) h a (hin a List.mem_cons_self)
    intro idx hi t ht
    rcases List.mem_cons.mp hi with rfl | hi
    · exact (h'.prev _ (pathStep_snd ..) t ht).mono <|
        List.foldlRecOn (motive := fun s : Band × Option (Nat × Nat) => BGrow (pathStep k w ms st idx).1 s.1) l _ (BGrow.refl _)
          fun s hs a _ => (grow_stable _).step k w ms s a hs
    · exact ih _ h' (fun i hi => hin i (List.mem_cons_of_mem _ hi)) idx hi t ht

/-! ### `num_cells` of the full matrix -/

theorem fullMatrix_new (m n : Nat) : fullMatrix (new m n) = ⟨m + 1, n + 1, List.replicate (n + 1) (0, m + 1)⟩ := rfl

theorem foldl_replicate_add (k c acc : Nat) :
    (List.replicate k (0, c)).foldl (fun acc (p : Nat × Nat) => acc + (p.2 - p.1)) acc = acc + k * c := by
  induction k generalizing acc with
  | zero => simp
  | succ k ih => rw [List.replicate_succ, List.foldl_cons, ih]; simp only [Nat.sub_zero, Nat.succ_mul]; omega

theorem numCells_full (m n : Nat) : numCells (fullMatrix (new m n)) = (m + 1) * (n + 1) := by
  rw [fullMatrix_new, numCells]
  simp only
  rw [foldl_replicate_add, Nat.zero_add, Nat.mul_comm]

theorem numCells_full_lt {m n : Nat} (hm : m + 1 < 2 ^ 32) (hn : n + 1 < 2 ^ 32) :
    numCells (fullMatrix (new m n)) < 2 ^ 64 :=
  numCells_full m n ▸ Nat.lt_of_lt_of_le (Nat.mul_lt_mul'' hm hn) (by decide)

end RbV.Model.Band
