import RbV.Ref.EditDist
import RbV.Basic.ScanO
/-!
The Sellers cell `cell w p u j` (`D[j]` after the text prefix `u`) with its column recurrence, and the one argument all
three approximate matchers share (C09): each is a column scanner, one step per text symbol, and is exact as soon as its
step reports the bottom cell of the new column exactly when that is ≤ k (`runO_eq_hits`).  Core Lean only.
-/
namespace RbV.Model.Ukkonen
open RbV.EditDist RbV.Thm.GenSrcScanD

/-! ### Lipschitz properties of `fe` -/

theorem fe_cons_cons (w : Nat → Nat → Nat) (a b : Nat) (q u : List Nat) :
    fe w (a :: q) (b :: u) = min (w a b + fe w q u) (min (1 + fe w q (b :: u)) (1 + fe w (a :: q) u)) := by
  rw [fe]

theorem fe_cons_nil (w : Nat → Nat → Nat) (a : Nat) (q : List Nat) : fe w (a :: q) [] = 1 + fe w q [] := by
  rw [fe]

theorem fe_cons_text_le (w : Nat → Nat → Nat) (q u : List Nat) (b : Nat) : fe w q (b :: u) ≤ 1 + fe w q u := by
  cases q with
  | nil => simp [fe]
  | cons a q => rw [fe]; omega

theorem fe_cons_pat_le (w : Nat → Nat → Nat) (q u : List Nat) (a : Nat) : fe w (a :: q) u ≤ 1 + fe w q u := by
  cases u with
  | nil => rw [fe]; omega
  | cons b u => rw [fe]; omega

theorem fe_le_cons_text (w : Nat → Nat → Nat) : ∀ (q u : List Nat) (c : Nat), fe w q u ≤ 1 + fe w q (c :: u) := by
  intro q
  induction q with
  | nil => intro u c; simp [fe]
  | cons a q ih =>
    intro u c
    have h1 := fe_cons_pat_le w q u a
    have h2 := ih u c
    rw [fe_cons_cons]
    omega

theorem fe_le_cons_pat (w : Nat → Nat → Nat) (a : Nat) (q : List Nat) : ∀ (u : List Nat), fe w q u ≤ 1 + fe w (a :: q) u := by
  intro u
  induction u with
  | nil => rw [fe_cons_nil]; omega
  | cons b u ih =>
    have h1 := fe_cons_text_le w q u b
    rw [fe_cons_cons]
    omega

theorem fe_diag (w : Nat → Nat → Nat) (a c : Nat) (q u : List Nat) : fe w q u ≤ fe w (a :: q) (c :: u) := by
  have h1 := fe_le_cons_text w q u c
  have h2 := fe_le_cons_pat w a q u
  rw [fe_cons_cons]
  omega

/-! ### the true Sellers cell `D[j]` after the text prefix `u` -/

def cell (w : Nat → Nat → Nat) (p u : List Nat) (j : Nat) : Nat := fe w (p.take j).reverse u.reverse

theorem cell_zero (w : Nat → Nat → Nat) (p u : List Nat) : cell w p u 0 = 0 := by simp [cell, fe]

theorem cell_nil (w : Nat → Nat → Nat) (p : List Nat) (j : Nat) (h : j ≤ p.length) : cell w p [] j = j := by
  simp [cell, fe_nil_right]; omega

theorem cell_succ (w : Nat → Nat → Nat) (p u : List Nat) (c j : Nat) (hj : j < p.length) :
    cell w p (u ++ [c]) (j + 1) =
      min (w p[j] c + cell w p u j) (min (1 + cell w p (u ++ [c]) j) (1 + cell w p u (j + 1))) := by
  unfold cell
  rw [List.take_succ_eq_append_getElem hj]
  simp only [List.reverse_append, List.reverse_cons, List.reverse_nil, List.nil_append, List.singleton_append]
  rw [fe]

theorem cell_diag (w : Nat → Nat → Nat) (p u : List Nat) (c j : Nat) (hj : j < p.length) :
    cell w p u j ≤ cell w p (u ++ [c]) (j + 1) := by
  unfold cell
  rw [List.take_succ_eq_append_getElem hj]
  simp only [List.reverse_append, List.reverse_cons, List.reverse_nil, List.nil_append, List.singleton_append]
  exact fe_diag w _ _ _ _

theorem cell_horiz (w : Nat → Nat → Nat) (p u : List Nat) (c j : Nat) :
    cell w p (u ++ [c]) j ≤ 1 + cell w p u j := by
  unfold cell
  simp only [List.reverse_append, List.reverse_cons, List.reverse_nil, List.nil_append, List.singleton_append]
  exact fe_cons_text_le w _ _ _

theorem lastRow_cell (w : Nat → Nat → Nat) (p t : List Nat) (i : Nat) (h : i < t.length) :
    (lastRow w p t)[i]? = some (cell w p (t.take (i + 1)) p.length) := by
  rw [lastRow_fe w p t i h]; simp [cell]


theorem cell_le (w : Nat → Nat → Nat) (p u : List Nat) (j : Nat) : cell w p u j ≤ min j p.length := by
  unfold cell
  have := fe_le w (p.take j).reverse u.reverse 0
  simp only [List.take_zero, ed_nil_right, List.length_reverse, List.length_take] at this
  exact this

end RbV.Model.Ukkonen

namespace RbV.Model.MyersLong
open RbV.Model.Ukkonen (cell fe_cons_pat_le fe_le_cons_text)

theorem cell_vert (w : Nat → Nat → Nat) (p u : List Nat) (j : Nat) (hj : j < p.length) :
    cell w p u (j + 1) ≤ cell w p u j + 1 := by
  unfold cell
  rw [List.take_succ_eq_append_getElem hj]
  simp only [List.reverse_append, List.reverse_cons, List.reverse_nil, List.nil_append, List.singleton_append]
  have := fe_cons_pat_le w (List.take j p).reverse u.reverse p[j]
  omega

theorem cell_horiz_lower (w : Nat → Nat → Nat) (p u : List Nat) (c j : Nat) :
    cell w p u j ≤ cell w p (u ++ [c]) j + 1 := by
  unfold cell
  simp only [List.reverse_append, List.reverse_cons, List.reverse_nil, List.nil_append, List.singleton_append]
  have := fe_le_cons_text w (List.take j p).reverse u.reverse c
  omega

theorem cell_vert_iter (w : Nat → Nat → Nat) (p u : List Nat) (j : Nat) : ∀ i, j + i ≤ p.length →
    cell w p u (j + i) ≤ cell w p u j + i := by
  intro i
  induction i with
  | zero => intro _; simp
  | succ i ih =>
    intro h
    have h1 := ih (by omega)
    have h2 := cell_vert w p u (j + i) (by omega)
    have e : j + (i + 1) = j + i + 1 := by omega
    rw [e]; omega

end RbV.Model.MyersLong

namespace RbV.Model.Ukkonen
open RbV.EditDist RbV.Thm.GenSrcScanD

/-! ### column scanners -/

/-- what a correct step reports after the text prefix `u` -/
def report (w : Nat → Nat → Nat) (p : List Nat) (k : Nat) (u : List Nat) : Option Nat :=
  if cell w p u p.length ≤ k then some (cell w p u p.length) else none

theorem lastRow_drop (w : Nat → Nat → Nat) (p u t : List Nat) (c : Nat) :
    (lastRow w p (u ++ c :: t)).drop u.length =
      cell w p (u ++ [c]) p.length :: (lastRow w p (u ++ c :: t)).drop (u.length + 1) := by
  have hlt : u.length < (lastRow w p (u ++ c :: t)).length := by rw [lastRow_length]; simp
  have hget := lastRow_cell w p (u ++ c :: t) u.length (by simp)
  rw [show (u ++ c :: t).take (u.length + 1) = u ++ [c] by
    rw [show u ++ c :: t = (u ++ [c]) ++ t by simp, List.take_left' (by simp)], List.getElem?_eq_getElem hlt] at hget
  rw [List.drop_eq_getElem_cons hlt, Option.some.inj hget]

/-- a scanner whose states satisfy `I u` after the prefix `u` and whose step reports `report` lists the hits still to come -/
theorem runO_eq_hitsFrom {σ : Type} (w : Nat → Nat → Nat) (p : List Nat) (k : Nat) (stepO : σ → Nat → σ × Option Nat)
    (I : List Nat → σ → Prop)
    (hstep : ∀ u s c, I u s → I (u ++ [c]) (stepO s c).1 ∧ (stepO s c).2 = report w p k (u ++ [c])) :
    ∀ (t u : List Nat) (s : σ), I u s →
      runO stepO s u.length t = hitsFrom k u.length ((lastRow w p (u ++ t)).drop u.length) := by
  intro t
  induction t with
  | nil =>
    intro u s _
    rw [List.append_nil, List.drop_eq_nil_of_le (by rw [lastRow_length]; exact Nat.le_refl _)]
    rfl
  | cons c t ih =>
    intro u s inv
    obtain ⟨inv', hrep⟩ := hstep u s c inv
    have ih' := ih (u ++ [c]) _ inv'
    rw [List.length_append, List.length_singleton, List.append_assoc, List.singleton_append] at ih'
    rw [lastRow_drop]
    simp only [runO, hitsFrom, hrep, report]
    by_cases hk : cell w p (u ++ [c]) p.length ≤ k
    · rw [if_pos hk, if_pos hk, ih']
    · rw [if_neg hk, if_neg hk, ih']

theorem runO_eq_hits {σ : Type} (w : Nat → Nat → Nat) (p : List Nat) (k : Nat) (stepO : σ → Nat → σ × Option Nat)
    (I : List Nat → σ → Prop)
    (hstep : ∀ u s c, I u s → I (u ++ [c]) (stepO s c).1 ∧ (stepO s c).2 = report w p k (u ++ [c]))
    (s : σ) (h0 : I [] s) (t : List Nat) : runO stepO s 0 t = hits w p t k :=
  runO_eq_hitsFrom w p k stepO I hstep t [] s h0

theorem cell_le_len (wf : Nat → Nat → Nat) (p u : List Nat) (j : Nat) : cell wf p u j ≤ p.length :=
  Nat.le_trans (cell_le wf p u j) (Nat.min_le_right _ _)

end RbV.Model.Ukkonen
