import RbV.Model.LFMapping
/-!
# Mirror model of `SampledSuffixArray::get` (C05: "positions resolved through a sampled suffix array")

```rust
if index < self.len() {
    let mut pos = index; let mut offset = 0;
    loop {
        if pos % self.s == 0 { return Some(self.sample[pos / self.s] + offset); }
        let c = self.bwt.borrow()[pos];
        if c == self.sentinel { return Some(self.extra_rows[&pos] + offset); }
        pos = self.less.borrow()[c as usize] + self.occ.borrow().get(self.bwt.borrow(), pos - 1, c);
        offset += 1;
    }
} else { None }
```
`sample` holds `sa[i]` for the rows `i` with `i % s == 0` (at index `i / s`), `extra_rows` holds `sa[i]` for the other
rows whose BWT symbol is the sentinel (`SuffixArray::sample`).  The stored values are modelled by the two lookup
functions `sampleGet`, `extraGet` together with exactly these two facts as hypotheses.  The unbounded `loop` is given
fuel `n + 1`; the theorem shows the fuel is never exhausted on a sorted array.

`Model/SampledGet.lean` (C03) is the second mirror of the same listing: there the stored data are the vector and the partial map
`SuffixArray::sample` builds (`sampleVec`, `extraRow`) and `less` is an array; `Sampled.getGo_correct` is the same induction.
-/
namespace RbV.SampledModel
open RbV RbV.LF

def getLoop (s : Nat) (bwt : List Nat) (sentinel : Nat) (less : Nat → Nat) (occ : Nat → Nat → Nat)
    (sampleGet extraGet : Nat → Nat) : Nat → Nat → Nat → Option Nat
  | 0, _, _ => none
  | fuel + 1, pos, offset =>
    if pos % s = 0 then some (sampleGet (pos / s) + offset)
    else if bwt.getD pos 0 = sentinel then some (extraGet pos + offset)
    else getLoop s bwt sentinel less occ sampleGet extraGet fuel
      (less (bwt.getD pos 0) + occ (pos - 1) (bwt.getD pos 0)) (offset + 1)

def get (s : Nat) (bwt : List Nat) (sentinel : Nat) (less : Nat → Nat) (occ : Nat → Nat → Nat)
    (sampleGet extraGet : Nat → Nat) (n index : Nat) : Option Nat :=
  if index < n then getLoop s bwt sentinel less occ sampleGet extraGet (n + 1) index 0 else none

theorem getLoop_correct (t sa : List Nat) (s : Nat) (sampleGet extraGet : Nat → Nat)
    (hsorted : ∀ a, a ≠ t.getD (t.length - 1) 0 → Sorted t sa a)
    (hsample : ∀ pos, pos < sa.length → pos % s = 0 → sampleGet (pos / s) = sa.getD pos 0)
    (hextra : ∀ pos, pos < sa.length → pos % s ≠ 0 → (bwtOf t sa).getD pos 0 = t.getD (t.length - 1) 0 →
      extraGet pos = sa.getD pos 0) :
    ∀ fuel pos offset, pos < sa.length → sa.getD pos 0 < fuel →
      getLoop s (bwtOf t sa) (t.getD (t.length - 1) 0) (lessRef (bwtOf t sa)) (occRef (bwtOf t sa))
        sampleGet extraGet fuel pos offset = some (sa.getD pos 0 + offset) := by
  intro fuel
  induction fuel with
  | zero => intro pos offset _ h; omega
  | succ fuel ih =>
    intro pos offset hpos hfuel
    simp only [getLoop]
    by_cases h0 : pos % s = 0
    · rw [if_pos h0, hsample pos hpos h0]
    · rw [if_neg h0]
      by_cases hsent : (bwtOf t sa).getD pos 0 = t.getD (t.length - 1) 0
      · rw [if_pos hsent, hextra pos hpos h0 hsent]
      · obtain ⟨x, hx, hzx, -, hlf⟩ := lf_row (hsorted _ hsent) pos hpos rfl
        rw [hzx] at hfuel ⊢
        rw [if_neg hsent, occRef_pred _ _ pos (Nat.pos_of_ne_zero fun h => h0 (h ▸ Nat.zero_mod s)), hlf,
          ih x (offset + 1) hx (Nat.lt_of_succ_lt_succ hfuel), Nat.add_right_comm, Nat.add_assoc]

/-- **`SampledSuffixArray::get` returns `sa[index]`** on every sorted array, for every sampling rate, as long as the
stored samples and extra rows hold what `SuffixArray::sample` puts there. -/
theorem get_correct (t sa : List Nat) (s : Nat) (sampleGet extraGet : Nat → Nat)
    (hsorted : ∀ a, a ≠ t.getD (t.length - 1) 0 → Sorted t sa a)
    (hperm : sa.Perm (List.range t.length))
    (hsample : ∀ pos, pos < sa.length → pos % s = 0 → sampleGet (pos / s) = sa.getD pos 0)
    (hextra : ∀ pos, pos < sa.length → pos % s ≠ 0 → (bwtOf t sa).getD pos 0 = t.getD (t.length - 1) 0 →
      extraGet pos = sa.getD pos 0)
    (index : Nat) (hi : index < sa.length) :
    get s (bwtOf t sa) (t.getD (t.length - 1) 0) (lessRef (bwtOf t sa)) (occRef (bwtOf t sa))
      sampleGet extraGet sa.length index = some (sa.getD index 0) := by
  unfold get
  rw [if_pos hi]
  have := getLoop_correct t sa s sampleGet extraGet hsorted hsample hextra (sa.length + 1) index 0 hi
    (by have := PermPos.getD_lt hperm index hi; have := PermPos.length hperm; omega)
  simpa using this

end RbV.SampledModel
