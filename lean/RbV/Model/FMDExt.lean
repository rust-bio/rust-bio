import RbV.Spec.FMD
import RbV.Model.LFMapping
/-!
# Mirror model of the FMD-index bi-interval operations (C06)

`backwardExt`, `forwardExt`, `initIntervalWith`, `initInterval` follow `FMDIndex::{backward_ext, forward_ext,
init_interval_with, init_interval}` line by line over abstract `less`/`occ`.

```rust
let mut s = 0; let mut o = 0; let mut l = interval.lower_rev;
for &b in b"$TGCNAtgcna" {
    l += s;
    o = if interval.lower == 0 { 0 } else { self.fmindex.occ(interval.lower - 1, b) };
    s = self.fmindex.occ(interval.lower + interval.size - 1, b) - o;
    if b == a { break; }
}
let k = self.fmindex.less(a) + o;
BiInterval { lower: k, lower_rev: l, size: s, match_size: interval.match_size + 1 }
```
-/
namespace RbV.FMDModel
open RbV RbV.BSModel

structure Bi where
  lower : Nat
  lowerRev : Nat
  size : Nat
  matchSize : Nat
  deriving Repr, DecidableEq

/-- `$TGCNAtgcna` -/
def order : List Nat := [36, 84, 71, 67, 78, 65, 116, 103, 99, 110, 97]

/-- the `for` loop; state = (l, s, o) -/
def extLoop (occ : Nat → Nat → Nat) (iv : Bi) (a : Nat) : List Nat → Nat × Nat × Nat → Nat × Nat × Nat
  | [], st => st
  | b :: rest, (l, s, _) =>
    let o' := if iv.lower = 0 then 0 else occ (iv.lower - 1) b
    let s' := occ (iv.lower + iv.size - 1) b - o'
    if b = a then (l + s, s', o') else extLoop occ iv a rest (l + s, s', o')

def backwardExt (less : Nat → Nat) (occ : Nat → Nat → Nat) (iv : Bi) (a : Nat) : Bi :=
  let r := extLoop occ iv a order (iv.lowerRev, 0, 0)
  { lower := less a + r.2.2, lowerRev := r.1, size := r.2.1, matchSize := iv.matchSize + 1 }

def swapped (iv : Bi) : Bi := { lower := iv.lowerRev, lowerRev := iv.lower, size := iv.size, matchSize := iv.matchSize }

def forwardExt (less : Nat → Nat) (occ : Nat → Nat → Nat) (iv : Bi) (a : Nat) : Bi :=
  swapped (backwardExt less occ (swapped iv) (dnaCompl a))

def initIntervalWith (less : Nat → Nat) (a : Nat) : Bi :=
  { lower := less a, lowerRev := less (dnaCompl a), size := less (a + 1) - less a, matchSize := 1 }

def initInterval (n : Nat) : Bi := { lower := 0, lowerRev := 0, size := n, matchSize := 0 }

/-- `forward()` and `revcomp()` as (lo, hi) pairs -/
def fwd (iv : Bi) : Nat × Nat := (iv.lower, iv.lower + iv.size)
def rev (iv : Bi) : Nat × Nat := (iv.lowerRev, iv.lowerRev + iv.size)

/-! ### the alphabet `ACGTNacgtn` -/

/-- the complements of the order string, ascending -/
def compOrder : List Nat := order.map dnaCompl

def isDna (c : Nat) : Bool := [65, 67, 71, 84, 78, 97, 99, 103, 116, 110].contains c

/-- all that is used of a symbol of `ACGTNacgtn`, by one look at the ten of them: its place in the two order strings,
its bounds (above the sentinel, `+ 1` fits a byte), and that its complement is one of them again -/
theorem dna_facts (c : Nat) (h : isDna c = true) :
    c ∈ order ∧ c ∈ compOrder ∧ 36 < c ∧ c < 255 ∧ isDna (dnaCompl c) = true := by
  simp only [isDna, List.contains_iff_mem, List.mem_cons, List.not_mem_nil, or_false] at h
  rcases h with h | h | h | h | h | h | h | h | h | h <;> subst h <;> decide

theorem isDna_compl (c : Nat) (h : isDna c = true) : isDna (dnaCompl c) = true := (dna_facts c h).2.2.2.2

theorem dna_gt (c : Nat) (h : isDna c = true) : 36 < c := (dna_facts c h).2.2.1

theorem isDna_ne_sentinel (c : Nat) (h : isDna c = true) : (36 : Nat) ≠ c := Nat.ne_of_lt (dna_gt c h)

theorem mem_compOrder_of (c : Nat) (h : c = 36 ∨ isDna c = true) : c ∈ compOrder := by
  rcases h with h | h
  · subst h; decide
  · exact (dna_facts c h).2.1

/-! ### the forward half of `backward_ext` is the LF step -/

/-- the size and the `occ` below the interval that the loop leaves for `a` (the size is `cntOf occ iv a` of `Model/FMDRev.lean`,
where `extLoop_fst` gives the first component) -/
theorem extLoop_snd (occ : Nat → Nat → Nat) (iv : Bi) (a : Nat) :
    ∀ (ord : List Nat) (st : Nat × Nat × Nat), a ∈ ord →
      (extLoop occ iv a ord st).2 =
        (occ (iv.lower + iv.size - 1) a - (if iv.lower = 0 then 0 else occ (iv.lower - 1) a),
         if iv.lower = 0 then 0 else occ (iv.lower - 1) a) := by
  intro ord
  induction ord with
  | nil => intro st h; simp at h
  | cons b rest ih =>
    intro st h
    obtain ⟨l, s, o⟩ := st
    simp only [extLoop]
    by_cases hb : b = a
    · subst hb; simp
    · simp only [hb, if_false]
      apply ih
      simp only [List.mem_cons] at h
      rcases h with h | h
      · exact absurd h.symm hb
      · exact h

/-- on an empty interval with `lower ≠ 0` every size the loop computes is `occ(lower-1, b) - occ(lower-1, b) = 0`:
`l` does not move and the size stays `0` -/
theorem extLoop_dead (occ : Nat → Nat → Nat) (iv : Bi) (a : Nat) (h0 : iv.size = 0) (hl : iv.lower ≠ 0) :
    ∀ (ord : List Nat) (st : Nat × Nat × Nat), st.2.1 = 0 →
      (extLoop occ iv a ord st).1 = st.1 ∧ (extLoop occ iv a ord st).2.1 = 0
  | [], st, h => by simpa [extLoop] using h
  | b :: rest, (l, s, o), h => by
    simp only at h
    subst h
    simp only [extLoop, h0, if_neg hl, Nat.add_zero, Nat.sub_self]
    split
    · exact ⟨rfl, rfl⟩
    · exact extLoop_dead occ iv a h0 hl rest _ rfl

/-- the component of `extLoop`'s result that is added to `less(a)` is at most the `occ` value it was read from -/
theorem extLoop_o_le (occF : Nat → Nat → Nat) (iv : Bi) (a : Nat) (N : Nat)
    (hN : ∀ r b, occF r b ≤ N) : ∀ (ord : List Nat) (st : Nat × Nat × Nat), st.2.2 ≤ N →
      (extLoop occF iv a ord st).2.2 ≤ N := by
  intro ord
  induction ord with
  | nil => intro st h; simpa [extLoop] using h
  | cons b rest ih =>
    intro st h
    obtain ⟨l, s, o⟩ := st
    simp only [extLoop]
    have hb : (if iv.lower = 0 then 0 else occF (iv.lower - 1) b) ≤ N := by
      split
      · exact Nat.zero_le N
      · exact hN _ _
    split
    · exact hb
    · exact ih _ hb

theorem order_length : order.length = 11 := rfl

theorem sum_map_le (f : Nat → Nat) (N : Nat) (h : ∀ b, f b ≤ N) : ∀ ord : List Nat, (ord.map f).sum ≤ ord.length * N
  | [] => by simp
  | b :: rest => by
    have := sum_map_le f N h rest
    have hb := h b
    simp only [List.map_cons, List.sum_cons, List.length_cons, Nat.succ_mul]
    omega

/-- the first component grows by at most `|ord|` sizes, every size is at most the bound `N` of `occ` -/
theorem extLoop_bounds (occF : Nat → Nat → Nat) (iv : Bi) (a N : Nat) (hN : ∀ r b, occF r b ≤ N) :
    ∀ (ord : List Nat) (l s o : Nat), s ≤ N →
      l ≤ (extLoop occF iv a ord (l, s, o)).1 ∧ (extLoop occF iv a ord (l, s, o)).1 ≤ l + s + ord.length * N ∧
        (extLoop occF iv a ord (l, s, o)).2.1 ≤ N := by
  intro ord
  induction ord with
  | nil => intro l s o hs; simp [extLoop]; omega
  | cons b rest ih =>
    intro l s o hs
    have hs' : occF (iv.lower + iv.size - 1) b - (if iv.lower = 0 then 0 else occF (iv.lower - 1) b) ≤ N :=
      Nat.le_trans (Nat.sub_le _ _) (hN _ b)
    simp only [extLoop, List.length_cons, Nat.succ_mul]
    split
    · simp only; omega
    · have := ih (l + s) _ (if iv.lower = 0 then 0 else occF (iv.lower - 1) b) hs'
      omega

/-- extending an empty bi-interval whose lower bound on the extended strand's side is non-zero gives an empty one -/
theorem backwardExt_dead (less : Nat → Nat) (occ : Nat → Nat → Nat) (iv : Bi) (a : Nat) (h0 : iv.size = 0)
    (hl : iv.lower ≠ 0) : (backwardExt less occ iv a).size = 0 :=
  (extLoop_dead occ iv a h0 hl order _ rfl).2

theorem forwardExt_dead (less : Nat → Nat) (occ : Nat → Nat → Nat) (iv : Bi) (a : Nat) (h0 : iv.size = 0)
    (hl : iv.lowerRev ≠ 0) : (forwardExt less occ iv a).size = 0 :=
  backwardExt_dead less occ (swapped iv) (dnaCompl a) h0 hl

/-- For every symbol of the loop's order string, the forward interval and the size computed by `backward_ext` are
those of the LF step: if `[lower, lower+size)` are exactly the rows whose suffix starts with `P` (non-empty), the
new `[lower, lower+size)` are exactly the rows whose suffix starts with `a·P`. -/
theorem backwardExt_forward (t sa : List Nat) (less : Nat → Nat) (occ : Nat → Nat → Nat) (a : Nat) (P : List Nat)
    (iv : Bi) (ha : a ∈ order) (hLF : LFStep t sa less occ a)
    (hiv : IvOf t sa P iv.lower (iv.lower + iv.size)) (hne : 0 < iv.size) :
    IvOf t sa (a :: P) (backwardExt less occ iv a).lower
      ((backwardExt less occ iv a).lower + (backwardExt less occ iv a).size) := by
  have hspec := extLoop_snd occ iv a order (iv.lowerRev, 0, 0) ha
  obtain ⟨hle, hstep⟩ := hLF P iv.lower (iv.lower + iv.size) hiv (by omega)
  have e0 : (if iv.lower > 0 then occ (iv.lower - 1) a else 0) = (if iv.lower = 0 then 0 else occ (iv.lower - 1) a) := by
    simp only [gt_iff_lt, Nat.pos_iff_ne_zero, ite_not]
  rw [e0] at hle hstep
  have hs : (backwardExt less occ iv a).size =
      occ (iv.lower + iv.size - 1) a - (if iv.lower = 0 then 0 else occ (iv.lower - 1) a) := by
    simp only [backwardExt]; rw [hspec]
  have hl : (backwardExt less occ iv a).lower = less a + (if iv.lower = 0 then 0 else occ (iv.lower - 1) a) := by
    simp only [backwardExt]; rw [hspec]
  rw [hs, hl]
  have : less a + (if iv.lower = 0 then 0 else occ (iv.lower - 1) a) +
      (occ (iv.lower + iv.size - 1) a - (if iv.lower = 0 then 0 else occ (iv.lower - 1) a)) =
      less a + occ (iv.lower + iv.size - 1) a := by omega
  rw [this]
  exact hstep

end RbV.FMDModel
