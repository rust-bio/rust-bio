import RbV.Spec.RankSelect
/-
C17 [C] — mirror model of `bio::data_structures::wavelet_matrix::WaveletMatrix` (three bit-sliced levels).

`code : Nat → Nat` is the `DNA2INT` look-up.  `WaveletMatrix::new` keeps two vectors `curr_zeros`, `curr_ones`
and writes the level's bits for `curr_zeros` followed by `curr_ones`; the model keeps their concatenation `cur`
(the next `curr_zeros` is the stable sub-sequence of `cur` with bit 0, the next `curr_ones` the one with bit 1).
Each level is a `RankSelect`; its `rank_0` / `rank_1` are read through an accessor `rk level b i`
(`rankRef b (level bits) i` in the theorems — justified by `Lemmas.RankSelectModel.rank1_correct` / `rank0_correct` — an array look-up in the driver).
Core Lean only.
-/
namespace RbV.Model.Wavelet
open RbV.Spec.RankSelect

/-- `((DNA2INT[val] >> shift) & 1) == 1` -/
def bitOf (code : Nat → Nat) (shift v : Nat) : Bool := ((code v >>> shift) &&& 1) == 1

structure Level where
  bits : List Bool
  zeros : Nat
  deriving Repr

/-- the `for level in 0..height` loop of `WaveletMatrix::new`; `todo` = number of levels still to build
(`shift = todo - 1 = height - level - 1`) -/
def buildLevels (code : Nat → Nat) : Nat → List Nat → List Level
  | 0, _ => []
  | todo + 1, cur =>
    let shift := todo
    let bits := cur.map (bitOf code shift)
    let nextZeros := cur.filter (fun v => !bitOf code shift v)
    let nextOnes := cur.filter (fun v => bitOf code shift v)
    { bits := bits, zeros := nextZeros.length } :: buildLevels code todo (nextZeros ++ nextOnes)

/-- `WaveletMatrix::new(text)` with `height = 3` -/
def build (code : Nat → Nat) (text : List Nat) : List Level := buildLevels code 3 text

/-- `fn prank(&self, level, p, val)`; `rk b i` is `levels[level].rank_b(i)` -/
def prank (rk : Bool → Nat → Option Nat) (p : Nat) (val : Bool) : Nat :=
  if p = 0 then 0 else (rk val (p - 1)).getD 0

/-- the `for level in 0..height` loop of `rank` over the remaining levels (`shift = remaining - 1`) -/
def rankLoop (code : Nat → Nat) (rk : Nat → Bool → Nat → Option Nat) (c : Nat) :
    List Level → Nat → Nat → Nat → Nat
  | [], _, spos, epos => epos - spos
  | lv :: rest, level, spos, epos =>
    let shift := rest.length
    if bitOf code shift c then
      rankLoop code rk c rest (level + 1) (prank (rk level) spos true + lv.zeros) (prank (rk level) epos true + lv.zeros)
    else
      rankLoop code rk c rest (level + 1) (prank (rk level) spos false) (prank (rk level) epos false)

/-- `pub fn rank(&self, val, p)` (`p < width` is asserted by the code) -/
def rank (code : Nat → Nat) (rk : Nat → Bool → Nat → Option Nat) (levels : List Level) (c p : Nat) : Nat :=
  rankLoop code rk c levels 0 0 (p + 1)

/-- the accessor the theorems use: the declarative rank of the level's bit vector -/
def rkSpec (levels : List Level) (level : Nat) (b : Bool) (i : Nat) : Option Nat :=
  match levels[level]? with
  | some lv => rankRef b lv.bits i
  | none => none

end RbV.Model.Wavelet
