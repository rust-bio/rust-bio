import RbV.Spec.QGram
/-!
# C19 — mirror models of the `QGrams` / `RevQGrams` iterators of `src/alphabets/mod.rs` (core Lean only)

`usize` is modelled as `Nat` with the truncation to 64 bits written out where the Rust operation can lose bits
(`<<=`).  The refinement theorems are in `RbV/Lemmas/QGramIter.lean`.
-/
namespace RbV.QGram

/-- `1usize.checked_shl(q * bits).unwrap_or(0).wrapping_sub(1)` -/
def maskOf (q bits : Nat) : Nat := if q * bits < 64 then 2 ^ (q * bits) - 1 else 2 ^ 64 - 1

/-- `qgram_push`: `qgram <<= bits; qgram |= a; qgram &= mask` -/
def pushFwd (bits mask qg a : Nat) : Nat := (((qg <<< bits) % 2 ^ 64) ||| a) &&& mask

/-- the values `next()` returns, one per symbol -/
def scanFwd (bits mask : Nat) : Nat → List Nat → List Nat
  | _, [] => []
  | qg, a :: t => pushFwd bits mask qg a :: scanFwd bits mask (pushFwd bits mask qg a) t

/-- `RankTransform::qgrams(q, text)`: the constructor consumes the first `q − 1` values -/
def qgramsModel (alpha : List Nat) (q : Nat) (text : List Nat) : List Nat :=
  let bits := bitsFor alpha.length
  (scanFwd bits (maskOf q bits) 0 (text.map (rank alpha))).drop (q - 1)

/-- `qgram_push_rev`: `qgram >>= bits; qgram |= a << left_shift`.  The shift is not truncated here: the model is the Rust
operation only while `a · 2^shift < 2^64`, which holds for ranks (`a < 2^bits`, `shift = (q − 1)·bits`, `q·bits ≤ 64`:
`rank_shift_lt` in `Thm/GenSrcQGrams.lean`) -/
def pushRev (bits shift qg a : Nat) : Nat := (qg >>> bits) ||| (a <<< shift)

def scanRev (bits shift : Nat) : Nat → List Nat → List Nat
  | _, [] => []
  | qg, a :: t => pushRev bits shift qg a :: scanRev bits shift (pushRev bits shift qg a) t

/-- `RankTransform::rev_qgrams(q, text)`: symbols are taken from the back (`next_back`) -/
def revQgramsModel (alpha : List Nat) (q : Nat) (text : List Nat) : List Nat :=
  let bits := bitsFor alpha.length
  (scanRev bits ((q - 1) * bits) 0 (text.map (rank alpha)).reverse).drop (q - 1)

end RbV.QGram
