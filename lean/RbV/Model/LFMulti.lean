import RbV.Model.LFMapping
import RbV.Ref.SA
/-
Texts with SEVERAL sentinel occurrences: from sortedness under a key text to the hypothesis of the LF-mapping lemma.

With several sentinels the suffix order is the one of a key text `ks` (`keyText t B rk`, sentinels replaced by their ranks).
`KeyOf t ks` says what the LF argument needs of it: `ks` orders the positions like `t` as far as non-sentinel symbols go
(`keyOf_keyText`: the key text of every sentinel order does, where the sentinel is the smallest symbol; `KeyOf.refl`: so does
`t` itself).  `lfSorted_of_key`: an array sorted in the suffix order of such a `ks` is `LF.Sorted` for every symbol but the
sentinel — nothing is asked of the order among the rows that start with a sentinel.  `SortedBridge.isSA_lfSorted` at the end is that
for the key text of an array with C03's property `IsSA`.
-/
namespace RbV.LFMulti
open RbV

/-- `ks` orders the positions like the text does, as far as non-sentinel symbols are concerned -/
structure KeyOf (t ks : List Nat) : Prop where
  len : ks.length = t.length
  lt_iff : ∀ y x, y < t.length → x < t.length → t.getD x 0 ≠ t.getD (t.length - 1) 0 →
    (ks.getD y 0 < ks.getD x 0 ↔ t.getD y 0 < t.getD x 0)
  eq_iff : ∀ y x, y < t.length → x < t.length → t.getD x 0 ≠ t.getD (t.length - 1) 0 →
    (ks.getD y 0 = ks.getD x 0 ↔ t.getD y 0 = t.getD x 0)

theorem KeyOf.refl (t : List Nat) : KeyOf t t := ⟨rfl, fun _ _ _ _ _ => Iff.rfl, fun _ _ _ _ _ => Iff.rfl⟩

/-- an array sorted in the suffix order of a key text is LF-sorted for every symbol but the sentinel, provided the
sentinel is the smallest symbol: `LF.Sorted.mono` compares the raw symbols, whereas a key text may put a sentinel
occurrence below every other symbol whatever its value -/
theorem lfSorted_of_key (t ks sa : List Nat) (hperm : sa.Perm (List.range t.length)) (hpw : sa.Pairwise (sufLt ks))
    (hk : KeyOf t ks) (hmin : ∀ p, p < t.length → t.getD (t.length - 1) 0 ≤ t.getD p 0)
    (a : Nat) (ha : t.getD (t.length - 1) 0 ≠ a) : LF.Sorted t sa a := by
  -- two rows `i < j`: their first keys are in order, and on a tie so are the suffixes that follow
  have hrow : ∀ i j, i < j → j < sa.length → sa.getD i 0 < t.length ∧ sa.getD j 0 < t.length ∧
      (ks.getD (sa.getD i 0) 0 < ks.getD (sa.getD j 0) 0 ∨
        (ks.getD (sa.getD i 0) 0 = ks.getD (sa.getD j 0) 0 ∧ sufLt ks (sa.getD i 0 + 1) (sa.getD j 0 + 1))) := by
    intro i j hij hj
    have hpi := PermPos.getD_lt hperm i (Nat.lt_trans hij hj)
    have hpj := PermPos.getD_lt hperm j hj
    exact ⟨hpi, hpj, (sufLt_iff_getD ks _ _ (hk.len ▸ hpi) (hk.len ▸ hpj)).mp (List.pairwise_getD sa i j 0 hpw hij hj)⟩
  refine ⟨hperm, ?_, ?_, ha⟩
  · intro i j hij hj
    obtain ⟨hpi, hpj, hlt⟩ := hrow i j hij hj
    by_cases hsi : t.getD (sa.getD i 0) 0 = t.getD (t.length - 1) 0
    · rw [hsi]; exact hmin _ hpj
    · refine Nat.le_of_not_lt (fun hgt => ?_)
      have := (hk.lt_iff _ _ hpj hpi hsi).mpr hgt
      rcases hlt with h | ⟨h, _⟩ <;> omega
  · intro i j i' j' hij hj hi' hj' h1 h2 e1 e2
    obtain ⟨hpi, hpj, hlt⟩ := hrow i j hij hj
    have hkeq := (hk.eq_iff _ _ hpi hpj (h2 ▸ ha.symm)).mpr (h1.trans h2.symm)
    have hnext := (hlt.resolve_left (fun h => Nat.lt_irrefl _ (hkeq ▸ h))).2
    rcases Nat.lt_trichotomy i' j' with hlt' | heq | hgt
    · exact hlt'
    · exfalso
      subst heq
      have := LF.sa_inj hperm i j (Nat.lt_trans hij hj) hj (Nat.add_right_cancel (e1.symm.trans e2))
      omega
    · exfalso
      have hrev := List.pairwise_getD sa j' i' 0 hpw hgt hi'
      rw [e1, e2] at hrev
      exact lexLt_asymm hnext hrev

theorem sentinelOf_eq (t : List Nat) (hne : t ≠ []) : sentinelOf t = t.getD (t.length - 1) 0 := by
  have h := isSentPos_last t hne
  unfold IsSentPos at h
  rw [List.getD_eq_getElem?_getD, h]; rfl

theorem keyOf_keyText (t : List Nat) (B : Nat) (rk : Nat → Nat) (ho : SentinelOrder t B rk) (hne : t ≠ [])
    (hmin : ∀ p, p < t.length → sentinelOf t ≤ t.getD p 0) : KeyOf t (keyText t B rk) := by
  have hs := sentinelOf_eq t hne
  have hval := isSentPos_iff t
  refine ⟨length_keyText t B rk, ?_, ?_⟩
  · intro y x hy hx hxs
    rw [← hs] at hxs
    rw [getD_keyText t B rk y hy, getD_keyText t B rk x hx]
    exact keyAt_lt_iff_of_not_sent t B rk ho hmin y x hy hx (fun e => hxs ((hval x hx).mp e))
  · intro y x hy hx hxs
    rw [← hs] at hxs
    rw [getD_keyText t B rk y hy, getD_keyText t B rk x hx]
    have hnx : ¬ IsSentPos t x := fun e => hxs ((hval x hx).mp e)
    unfold keyAt
    by_cases hsy : IsSentPos t y
    · have hb := ho.bound y hsy
      have e1 := (hval y hy).mp hsy
      rw [if_pos hsy, if_neg hnx]
      constructor
      · intro e; omega
      · intro e; rw [e1] at e; exact absurd e.symm hxs
    · rw [if_neg hsy, if_neg hnx]; omega

end RbV.LFMulti

/-! ### … for the arrays C03 accepts (the bridge to C05's hypothesis; the rest of it is `Lemmas/SortedBridge.lean`) -/

namespace RbV.SortedBridge
open RbV

theorem checkSA_ne_nil (t sa : List Nat) (hc : checkSA t sa = true) : t ≠ [] :=
  ((checkSA_eq_true_iff t sa).mp hc).2.1

/-- **every suffix array in the sense of C03 is LF-sorted** for every non-sentinel symbol, on a non-empty text whose
sentinel is its smallest symbol -/
theorem isSA_lfSorted (t sa : List Nat) (hne : t ≠ []) (h : IsSA t sa)
    (hmin : ∀ p, p < t.length → sentinelOf t ≤ t.getD p 0)
    (a : Nat) (ha : t.getD (t.length - 1) 0 ≠ a) : LF.Sorted t sa a := by
  obtain ⟨B, rk, ho, hp, hpw⟩ := h
  rw [length_keyText] at hp
  exact LFMulti.lfSorted_of_key t _ sa hp hpw (LFMulti.keyOf_keyText t B rk ho hne hmin)
    (fun p hp => LFMulti.sentinelOf_eq t hne ▸ hmin p hp) a ha

end RbV.SortedBridge
