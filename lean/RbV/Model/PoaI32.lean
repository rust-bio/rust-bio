import RbV.Model.PoaCustom
import RbV.Basic.I32
/-!
Checked-`i32` version of the mirror models of `bio::alignment::poa::Poa::custom` (`Model/PoaCustom.lean`, what
`Aligner::global`/`semiglobal`/`local`/`custom` run) and `Poa::global_banded` (`Model/PoaBanded.lean`).

Every `+` and `*` the Rust text performs on `i32` scores is `I32.add` / `I32.mul` (`none` = the overflow panic of a build
with `overflow-checks`): `(j as i32) * gap_open` of `initialize_scores` (for `j = 0 ..= n`, the value of column 0 is then
overwritten), `(row as i32) * gap_open` of `new_row` (only when the row starts at the edge), per column
`get(0, j-1).score + score(r, q)` or, per predecessor, `get(i_p, j-1).score + score(r, q)` and
`get(i_p, j).score + gap_open`, then `get(i, j-1).score + gap_open`; in `custom` the suffix clipping
`score + xclip_suffix` (not evaluated for a column skipped by `continue`) and `max_in_row.0 + yclip_suffix`.
(The products are written `gap_open * (j as i32)`: checked `i32` multiplication is commutative, and with the cast first
Lean's `whnf` would try to evaluate the cast's `% 2³²` on a symbolic `usize`.)  Comparisons, `max` and the band arithmetic (on `usize`, modelled on `Nat` as in the unbounded mirror) are exact.
Everything else is literally the unbounded mirror.  Theorems `poa_i32_no_overflow`, `poa_banded_i32_no_overflow`
(`Thm/C16.lean`): inside `PoaEnv` no checked operation fails and the tables are those of the unbounded mirrors.
Core Lean only.
-/
namespace RbV.Poa.Model
open RbV.NW RbV.Poa RbV.I32

/-- `l.foldl f init` for a body that can panic -/
def foldlC {α β : Type} (f : β → α → Option β) : β → List α → Option β
  | b, [] => some b
  | b, a :: as =>
    match f b a with
    | none => none
    | some b' => foldlC f b' as

/-- `l.map f` for a body that can panic -/
def mapC {α β : Type} (f : α → Option β) : List α → Option (List β)
  | [] => some []
  | a :: as =>
    match f a with
    | none => none
    | some b =>
      match mapC f as with
      | none => none
      | some bs => some (b :: bs)

/-- `initialize_scores` -/
def bRow0C (gap yclip : Int) (n : Nat) : Option BRow :=
  -- `j = 0`: `(0 as i32) * gap_open`, overwritten by `Match(None)` with score 0
  match mul gap (ofUsize 0) with
  | none => none
  | some _ =>
    match mapC (fun (j : Nat) =>
        match mul gap (ofUsize j) with
        | none => none
        | some g => some (cmax ⟨g, .i none⟩ ⟨yclip, .y 0 j⟩)) (List.range' 1 n) with
    | none => none
    | some cs => some { cells := ⟨0, .m none⟩ :: cs, start := 0, stop := n + 1 }

/-- one predecessor's contribution to `max_cell` -/
def predC (sc : Sc) (v r b j : Nat) (acc : Cell) (pp : Nat × BRow) : Option Cell :=
  match add (pp.2.get (j - 1)).score (sc.w r b) with
  | none => none
  | some ms =>
    match add (pp.2.get j).score sc.gap with
    | none => none
    | some ds => some (cmax acc (cmax ⟨ms, .m (some (pp.1, v))⟩ ⟨ds, .d (some (pp.1, v + 1))⟩))

/-- `max_cell` of column `j` (`cCand` / `bCand`; `init` = the start cell of the fold) -/
def candC (sc : Sc) (init : Cell) (query : List Nat) (r0 : BRow) (v r : Nat) (preds : List (Nat × BRow)) (j : Nat) :
    Option Cell :=
  let b := query.getD (j - 1) 0
  match preds with
  | [] =>
    match add (r0.get (j - 1)).score (sc.w r b) with
    | none => none
    | some s => some ⟨s, .m none⟩
  | _ => foldlC (predC sc v r b j) init preds

/-- `max(max_cell, Ins)` left to right (`insScan`) -/
def insScanC (gap : Int) (iOp : POp) : Cell → List Cell → Option (List Cell)
  | _, [] => some []
  | left, c :: cs =>
    match add left.score gap with
    | none => none
    | some s =>
      let cell := cmax c ⟨s, iOp⟩
      match insScanC gap iOp cell cs with
      | none => none
      | some rest => some (cell :: rest)

/-- first cell of a row that starts at the edge: `max(Del(None) (row as i32) * gap_open, Xclip(0) xclip)` -/
def edgeCellC (sc : Sc) (xp : Int) (v : Nat) : Option Cell :=
  match mul sc.gap (ofUsize (v + 1)) with
  | none => none
  | some g => some (cmax ⟨g, .d none⟩ ⟨xp, .x 0⟩)

def cNodeRowC (sc : Sc) (xp : Int) (query : List Nat) (r0 : BRow) (v r : Nat) (preds : List (Nat × BRow)) : Option BRow :=
  match edgeCellC sc xp v with
  | none => none
  | some c0 =>
    let init : Cell := cmax mcell ⟨xp, .x 0⟩
    match mapC (candC sc init query r0 v r preds) (List.range' 1 query.length) with
    | none => none
    | some cands =>
      -- the Rust loop interleaves `max_cell` and the insertion candidate column by column; the sums are the same
      match insScanC sc.gap (.i (some v)) c0 cands with
      | none => none
      | some cells => some { cells := c0 :: cells, start := 0, stop := query.length + 1 }

def cStepC (sc : Sc) (xp : Int) (labels : List Nat) (es : WEdges) (query : List Nat) (r0 : BRow)
    (st : CState) (v : Nat) : Option CState :=
  let preds := (inN es v).map fun p => (p, st.rows.getD p (emptyRow query.length))
  match cNodeRowC sc xp query r0 v (labels.getD v 0) preds with
  | none => none
  | some row =>
    some { rows := st.rows.setIfInBounds v row,
           maxcol := match st.maxcol with
             | [] => []
             | m0 :: rest => m0 :: colUpdate (v + 1) rest row.cells.tail }

/-- X suffix clipping (`xSuffix`): `score + xclip_suffix` is not evaluated for a skipped column -/
def xSuffixC (xs : Int) (lastI : Nat) : Nat → List (Int × Nat) → List Cell → Int × Nat → Option (List Cell × (Int × Nat))
  | col, mc :: mcs, c :: cs, mir =>
    if mc.2 = lastI then
      match xSuffixC xs lastI (col + 1) mcs cs mir with
      | none => none
      | some (rest, mir') => some (c :: rest, mir')
    else
      match add mc.1 xs with
      | none => none
      | some s =>
        let maxcell := cmax c ⟨s, .x mc.2⟩
        let mir1 := if mir.1 < maxcell.score then (maxcell.score, col) else mir
        match xSuffixC xs lastI (col + 1) mcs cs mir1 with
        | none => none
        | some (rest, mir') => some (maxcell :: rest, mir')
  | _, _, cs, mir => some (cs, mir)

/-- `Poa::custom` with `i32` scores: `none` = an overflow panic -/
def customTableC (sc : Sc) (xp xs yp ys : Int) (labels : List Nat) (es : WEdges) (query : List Nat) : Option BTable :=
  let n := query.length
  match bRow0C sc.gap yp n with
  | none => none
  | some r0 =>
    let order := topo labels.length es
    match foldlC (cStepC sc xp labels es query r0)
        { rows := Array.replicate labels.length (emptyRow n), maxcol := List.replicate (n + 1) ((0 : Int), 0) } order with
    | none => none
    | some st =>
      let last := order.getLastD 0
      let lastRow := st.rows.getD last (emptyRow n)
      let cells := (List.range (n + 1)).map lastRow.get
      match xSuffixC xs (last + 1) 0 st.maxcol cells (0, 0) with
      | none => none
      | some (cells1, mir) =>
        match add mir.1 ys with
        | none => none
        | some s =>
          let ycell := cmax (cells1.getD n mcell) ⟨s, .y mir.2 n⟩
          let cells2 := if mir.2 ≠ n then setAt cells1 n ycell else cells1
          some { r0 := r0, rows := st.rows.setIfInBounds last { cells := cells2, start := 0, stop := n + 1 },
                 last := last, n := n }

/-! ### `global_banded` -/

def bNodeRowC (sc : Sc) (xclip : Int) (query : List Nat) (r0 : BRow) (v r : Nat) (preds : List (Nat × BRow))
    (start end_ : Nat) : Option BRow :=
  match (if start = 0 then edgeCellC sc xclip v else some mcell) with
  | none => none
  | some c0 =>
    let hi := min query.length end_
    match mapC (candC sc mcell query r0 v r preds) (List.range' (start + 1) (hi - start)) with
    | none => none
    | some cands =>
      match insScanC sc.gap (.i (some v)) c0 cands with
      | none => none
      | some cells => some { cells := c0 :: cells, start := start, stop := end_ + 1 }

def bStepC (sc : Sc) (xclip : Int) (labels : List Nat) (es : WEdges) (query : List Nat) (bw : Nat) (r0 : BRow)
    (st : BState) (v : Nat) : Option BState :=
  let start := if bw > st.msj then 0 else st.msj - bw
  let end_ := st.msj + bw
  let preds := (inN es v).map fun p => (p, st.rows.getD p (emptyRow query.length))
  match bNodeRowC sc xclip query r0 v (labels.getD v 0) preds start end_ with
  | none => none
  | some row =>
    let upd := bUpdate row.cells.tail (start + 1) (st.msj, st.msr)
    some { rows := st.rows.setIfInBounds v row, msj := upd.1, msr := upd.2 }

/-- `Poa::global_banded` with `i32` scores (row 0 and the rows of the nodes) -/
def bandedRowsC (sc : Sc) (xclip yclip : Int) (labels : List Nat) (es : WEdges) (query : List Nat) (bw : Nat) :
    Option (BRow × BState) :=
  match bRow0C sc.gap yclip query.length with
  | none => none
  | some r0 =>
    match foldlC (bStepC sc xclip labels es query bw r0)
        { rows := Array.replicate labels.length (emptyRow query.length), msj := 0, msr := minScore }
        (topo labels.length es) with
    | none => none
    | some st => some (r0, st)

/-! ### The envelope -/

/-- `PoaEnv sc xp xs yp ys labels query B`: `B ≥ 1` bounds `|score(r, q)|` for the node labels `r` and query symbols `q`
and `|gap_open|`; `gap_open ≤ 0`; the four clip penalties lie in `[MIN_SCORE, 0]`; `n·B < 2³¹`, `m·B < 2³¹`
(`m` nodes, `n` query symbols), `2·B ≤ 2³¹ + MIN_SCORE`. -/
structure PoaEnv (sc : Sc) (xp xs yp ys : Int) (labels query : List Nat) (B : Int) : Prop where
  B1 : 1 ≤ B
  wlo : ∀ r ∈ labels, ∀ q ∈ query, -B ≤ sc.w r q
  whi : ∀ r ∈ labels, ∀ q ∈ query, sc.w r q ≤ B
  gap : -B ≤ sc.gap ∧ sc.gap ≤ 0
  xp : minScore ≤ xp ∧ xp ≤ 0
  xs : minScore ≤ xs ∧ xs ≤ 0
  yp : minScore ≤ yp ∧ yp ≤ 0
  ys : minScore ≤ ys ∧ ys ≤ 0
  nB : (query.length : Int) * B ≤ 2147483647
  mB : (labels.length : Int) * B ≤ 2147483647
  twoB : 2 * B ≤ 2147483648 + minScore

/-- largest absolute value of `score(r, q)` over node labels × query symbols and of `gap_open` (at least 1): meant as the least
`B` for the clauses `B1`, `wlo`, `whi`, `gap` of `PoaEnv` (no lemma states it) -/
def poaBound (sc : Sc) (labels query : List Nat) : Int :=
  labels.foldl (fun acc r => query.foldl (fun acc q => max acc (max (sc.w r q) (-(sc.w r q)))) acc) (max 1 (-sc.gap))

/-- the clauses of `PoaEnv` the driver evaluates, with `B = poaBound`; meant to imply `PoaEnv … (poaBound …)` — not proved -/
def poaEnvB (sc : Sc) (xp xs yp ys : Int) (labels query : List Nat) : Bool :=
  let B := poaBound sc labels query
  decide (sc.gap ≤ 0) && decide (minScore ≤ xp ∧ xp ≤ 0) && decide (minScore ≤ xs ∧ xs ≤ 0) &&
    decide (minScore ≤ yp ∧ yp ≤ 0) && decide (minScore ≤ ys ∧ ys ≤ 0) &&
    decide ((query.length : Int) * B ≤ 2147483647) && decide ((labels.length : Int) * B ≤ 2147483647) &&
    decide (2 * B ≤ 2147483648 + minScore)

/-- score and operations of the `i32` run of `custom` (`none` = overflow) -/
def customAlignC (sc : Sc) (xp xs yp ys : Int) (labels : List Nat) (es : WEdges) (query : List Nat) : Option (Int × List POp) :=
  (customTableC sc xp xs yp ys labels es query).map fun t => (t.score, t.ops labels.length)

/-- the score the `i32` run of `global_banded` reports (`none` = overflow) -/
def bandedScoreC (sc : Sc) (xclip yclip : Int) (labels : List Nat) (es : WEdges) (query : List Nat) (bw : Nat) : Option Int :=
  (bandedRowsC sc xclip yclip labels es query bw).map fun p =>
    let last := (topo labels.length es).getLastD 0
    ((p.2.rows.getD last (emptyRow query.length)).get query.length).score

end RbV.Poa.Model
