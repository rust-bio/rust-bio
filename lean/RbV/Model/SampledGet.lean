import RbV.Model.LFMap
import RbV.Model.Occ
/-
Mirror model of `SuffixArray::sample` / `SampledSuffixArray::get` (C03) for texts whose last symbol is their
unique smallest symbol, and the theorem `sampled_get_correct`: `get(i) = sa[i]` for every row, every sampling rate
`s ≥ 1` and every exact `less`/`Occ` (in particular `lessModel` and `occGet ∘ occNewLoop` for every `k ≥ 1`).

```
loop {
    if pos % s == 0 { return Some(sample[pos / s] + offset); }
    let c = bwt[pos];
    if c == sentinel { return Some(extra_rows[&pos] + offset); }
    pos = less[c] + occ.get(bwt, pos - 1, c);
    offset += 1;
}
```
`sample[j] = sa[j·s]`; `extra_rows` maps every unsampled row whose BWT symbol is the sentinel to its `sa` value
(modelled as a partial function on rows: `none` = key absent = the `HashMap` index would panic).
The loop lemma `getGo_correct` asks of the array what `SampledModel.getLoop_correct` asks: `LF.Sorted` for every symbol but the
sentinel (the LF step, `LF.lf_row`, is only taken from rows whose BWT symbol is not the sentinel).  `sampled_get_correct` supplies
that for a single sentinel, `LFMulti.sampled_get_correct_multi` (through `SortedBridge.isSA_lfSorted`) for every array accepted
by `checkSA`, with any number of sentinel occurrences; both instantiate `sampled_get_of_lfSorted`.
-/
namespace RbV.Sampled
open RbV RbV.Kasai RbV.LFMap RbV.OccM

/-- `sample` vector built by `SuffixArray::sample` -/
def sampleVec (sa : List Nat) (s : Nat) : List Nat :=
  ((List.range sa.length).filter (fun i => i % s = 0)).map (fun i => sa.getD i 0)

/-- `extra_rows` as a partial function on rows -/
def extraRow (bwt sa : List Nat) (s sent : Nat) (i : Nat) : Option Nat :=
  if i % s ≠ 0 ∧ bwt.getD i 0 = sent then some (sa.getD i 0) else none

/-- the loop of `get` with fuel; `none` = a failed lookup (or fuel exhausted) -/
def getGo (bwt sa : List Nat) (s sent : Nat) (lessA : List Nat) (occF : Nat → Nat → Nat) :
    Nat → Nat → Nat → Option Nat
  | 0, _, _ => none
  | f + 1, pos, off =>
    if pos % s = 0 then ((sampleVec sa s)[pos / s]?).map (· + off)
    else
      let c := bwt.getD pos 0
      if c = sent then (extraRow bwt sa s sent pos).map (· + off)
      else getGo bwt sa s sent lessA occF f (lessA.getD c 0 + occF (pos - 1) c) (off + 1)

def sampledGet (bwt sa : List Nat) (s sent : Nat) (lessA : List Nat) (occF : Nat → Nat → Nat) (i : Nat) :
    Option Nat :=
  if i < bwt.length then getGo bwt sa s sent lessA occF (bwt.length + 1) i 0 else none

theorem sampleVec_getElem? (sa : List Nat) (s : Nat) (hs : 0 < s) (pos : Nat) (hp : pos < sa.length)
    (hm : pos % s = 0) : (sampleVec sa s)[pos / s]? = some (sa.getD pos 0) :=
  map_filter_mod_getElem? _ _ s pos hs hp hm

theorem mem_sampleVec (sa : List Nat) (s x : Nat) (h : x ∈ sampleVec sa s) : ∃ i, x = sa.getD i 0 := by
  unfold sampleVec at h
  obtain ⟨i, _, hi⟩ := List.mem_map.mp h
  exact ⟨i, hi.symm⟩

theorem extraRow_some (bwt sa : List Nat) (s sent pos x : Nat) (h : extraRow bwt sa s sent pos = some x) :
    x = sa.getD pos 0 := by
  unfold extraRow at h
  split at h
  · exact (Option.some.inj h).symm
  · exact absurd h (by simp)

/-- the loop reaches a sampled or cached row before the fuel runs out and returns `sa[pos] + off`.  The array need only be
`LF.Sorted` for the symbols other than the sentinel (several sentinel occurrences in any order), since the LF step is
only taken from rows whose BWT symbol is not the sentinel -/
theorem getGo_correct (t sa : List Nat) (hperm : sa.Perm (List.range t.length))
    (hsorted : ∀ a, a ≠ t.getD (t.length - 1) 0 → LF.Sorted t sa a)
    (s : Nat) (hs : 0 < s) (m : Nat) (hm : ∀ x ∈ t, x < m) (lessA : List Nat) (occF : Nat → Nat → Nat)
    (hless : ∀ c, c < m → lessA[c]? = some (lessRef (bwtRef t sa) c))
    (hocc : ∀ r c, r < t.length → occF r c = occRef (bwtRef t sa) r c) :
    ∀ (f pos off : Nat), pos < t.length → sa.getD pos 0 < f →
      getGo (bwtRef t sa) sa s (t.getD (t.length - 1) 0) lessA occF f pos off = some (sa.getD pos 0 + off) := by
  have hsal : sa.length = t.length := PermPos.length hperm
  rw [← LF.bwtOf_eq_bwtRef t sa (PermPos.mem_lt hperm)] at hless hocc ⊢
  intro f
  induction f with
  | zero => intro pos off _ hf; omega
  | succ f ih =>
    intro pos off hpos hf
    simp only [getGo]
    by_cases hmod : pos % s = 0
    · rw [if_pos hmod, sampleVec_getElem? sa s hs pos (hsal ▸ hpos) hmod]; rfl
    · rw [if_neg hmod]
      by_cases hc : (LF.bwtOf t sa).getD pos 0 = t.getD (t.length - 1) 0
      · rw [if_pos hc]
        unfold extraRow
        rw [if_pos ⟨hmod, hc⟩]; rfl
      · obtain ⟨x, hx, hzx, hxa, hlf⟩ := LF.lf_row (hsorted _ hc) pos (hsal ▸ hpos) rfl
        have hcm : (LF.bwtOf t sa).getD pos 0 < m := by
          have hl := PermPos.getD_lt hperm x hx
          rw [← hxa]
          exact hm _ (List.getD_mem _ _ _ hl)
        have hnext : lessA.getD ((LF.bwtOf t sa).getD pos 0) 0 + occF (pos - 1) ((LF.bwtOf t sa).getD pos 0) = x := by
          rw [List.getD_eq_getElem?_getD, hless _ hcm, hocc _ _ (Nat.lt_of_le_of_lt (Nat.sub_le _ _) hpos), ← hlf]
          exact congrArg _ (LF.occRef_pred _ _ pos (Nat.pos_of_ne_zero fun h => hmod (h ▸ Nat.zero_mod s)))
        rw [hzx] at hf ⊢
        rw [if_neg hc, hnext, ih x (off + 1) (hsal ▸ hx) (Nat.lt_of_succ_lt_succ hf), Nat.add_right_comm, Nat.add_assoc]

/-- `get(i) = sa[i]` on every array that is `LF.Sorted` for the symbols other than the sentinel: the form the single-sentinel and
the `checkSA` statements below instantiate -/
theorem sampled_get_of_lfSorted (t sa : List Nat) (hperm : sa.Perm (List.range t.length))
    (hsorted : ∀ a, a ≠ t.getD (t.length - 1) 0 → LF.Sorted t sa a) (s : Nat) (hs : 0 < s)
    (m : Nat) (hm : ∀ x ∈ t, x < m) (lessA : List Nat) (occF : Nat → Nat → Nat)
    (hless : ∀ c, c < m → lessA[c]? = some (lessRef (bwtRef t sa) c))
    (hocc : ∀ r c, r < t.length → occF r c = occRef (bwtRef t sa) r c)
    (i : Nat) (hi : i < t.length) :
    sampledGet (bwtRef t sa) sa s (t.getD (t.length - 1) 0) lessA occF i = some (sa.getD i 0) := by
  unfold sampledGet
  have hbl := length_bwtRef t sa (PermPos.length hperm)
  rw [if_pos (by rw [hbl]; exact hi), hbl,
    getGo_correct t sa hperm hsorted s hs m hm lessA occF hless hocc (t.length + 1) i 0 hi
      (Nat.lt_succ_of_lt (PermPos.getD_lt hperm i (PermPos.length hperm ▸ hi)))]
  rfl

/-- the mirror models of `less()` and of `Occ::new` / `Occ::get` are exact `less` / `occ`, for every `k ≥ 1` -/
theorem models_exact (bwt : List Nat) (k m : Nat) (hk : 0 < k) :
    (∀ c, c < m → (lessModel bwt m)[c]? = some (lessRef bwt c)) ∧
      ∀ r c, r < bwt.length → occGet (occNewLoop bwt k c) bwt k r c = occRef bwt r c :=
  ⟨fun c hc => less_eq _ m c hc, fun r c hr => by rw [occNewLoop_eq _ k c hk]; exact occ_get_eq _ k r c hk hr⟩

/-- **`SampledSuffixArray::get(i) = sa[i]`** for every row, every sampling rate, with the exact `less`/`Occ`. -/
theorem sampled_get_correct (t sa : List Nat) (h : Sorted t sa) (hsg : Single t) (s : Nat) (hs : 0 < s)
    (m : Nat) (hm : ∀ x ∈ t, x < m) (lessA : List Nat) (occF : Nat → Nat → Nat)
    (hless : ∀ c, c < m → lessA[c]? = some (lessRef (bwtRef t sa) c))
    (hocc : ∀ r c, r < t.length → occF r c = occRef (bwtRef t sa) r c)
    (i : Nat) (hi : i < t.length) :
    sampledGet (bwtRef t sa) sa s (t.getD (t.length - 1) 0) lessA occF i = some (sa.getD i 0) :=
  sampled_get_of_lfSorted t sa h.perm
    (fun a ha => LFMulti.lfSorted_of_key t t sa h.perm h.sorted (LFMulti.KeyOf.refl t) hsg.min a ha.symm)
    s hs m hm lessA occF hless hocc i hi

/-- … in particular with the mirror models of `less()` and of `Occ::new` / `Occ::get`, for every `k ≥ 1` -/
theorem sampled_get_correct_models (t sa : List Nat) (h : Sorted t sa) (hsg : Single t) (s k : Nat)
    (hs : 0 < s) (hk : 0 < k) (m : Nat) (hm : ∀ x ∈ t, x < m) (i : Nat) (hi : i < t.length) :
    sampledGet (bwtRef t sa) sa s (t.getD (t.length - 1) 0) (lessModel (bwtRef t sa) m)
      (fun r c => occGet (occNewLoop (bwtRef t sa) k c) (bwtRef t sa) k r c) i = some (sa.getD i 0) :=
  sampled_get_correct t sa h hsg s hs m hm _ _ (models_exact _ k m hk).1
    (fun r c hr => (models_exact _ k m hk).2 r c (by rw [length_bwtRef t sa h.length]; exact hr)) i hi

/-- **`SampledSuffixArray::get(i) = sa[i]` for every accepted suffix array of every text whose sentinel is its
smallest symbol** (any number of sentinel occurrences), every sampling rate `s ≥ 1`, every Occ rate `k ≥ 1`. -/
theorem _root_.RbV.LFMulti.sampled_get_correct_multi (t sa : List Nat) (hc : checkSA t sa = true)
    (hmin : ∀ p, p < t.length → sentinelOf t ≤ t.getD p 0)
    (s k : Nat) (hs : 0 < s) (hk : 0 < k) (m : Nat) (hm : ∀ x ∈ t, x < m) (i : Nat) (hi : i < t.length) :
    sampledGet (bwtRef t sa) sa s (sentinelOf t) (lessModel (bwtRef t sa) m)
      (fun r c => occGet (occNewLoop (bwtRef t sa) k c) (bwtRef t sa) k r c) i = some (sa.getD i 0) := by
  have hne := SortedBridge.checkSA_ne_nil t sa hc
  obtain ⟨B, rk, _, hp, _⟩ := checkSA_isSA t sa hc
  rw [length_keyText] at hp
  rw [LFMulti.sentinelOf_eq t hne]
  exact sampled_get_of_lfSorted t sa hp
    (fun a ha => SortedBridge.isSA_lfSorted t sa hne (checkSA_isSA t sa hc) hmin a ha.symm)
    s hs m hm _ _ (models_exact _ k m hk).1
    (fun r c hr => (models_exact _ k m hk).2 r c (by rw [length_bwtRef t sa (PermPos.length hp)]; exact hr)) i hi

end RbV.Sampled
