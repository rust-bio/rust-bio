import RbV.Model.FMDExt
import RbV.Model.LFSortedCheck
import RbV.Basic.GetD
/-!
# Reverse-strand half of `backward_ext` (C06)

1. `next_mono`: on a sorted array the rows whose suffix starts with a sentinel-free `Q` are ordered by the symbol
   that follows `Q`.
2. `mono_block`: for a monotone key on an interval the rows with key `c` are the block that starts after all rows
   with a smaller key.
3. `extLoop_fst`: the loop of `backward_ext` returns `lower_rev + Σ_{b before a in $TGCNAtgcna} size_b`.
4. `backwardExt_reverse`: hence, **given strand symmetry of the index** (for every `b` of the order string the number
   of rows of `b·P` — as the loop computes it — equals the number of rows of `revcomp(P)·complement(b)`), the new
   `lower_rev … + size` are exactly the rows of `revcomp(a·P)`.
5. The side conditions of 4 on an FMD text (`fmd_symbols`, `fmd_last`, `fmd_next_exists`; `FmdIdx`: the hypotheses
   "non-empty list of sequences, array passes `LF.sortedAllB`" of the theorems about an FMD index):
   `backwardExt_reverse_fmd`.
-/
namespace RbV.FMDModel
open RbV RbV.BSModel RbV.LF

/-! ### 1. rows of `Q` are ordered by the symbol after `Q` -/

theorem next_mono (t sa : List Nat) (hperm : sa.Perm (List.range t.length))
    (hall : ∀ a, t.getD (t.length - 1) 0 ≠ a → Sorted t sa a) :
    ∀ (Q : List Nat), (∀ q ∈ Q, t.getD (t.length - 1) 0 ≠ q) →
      ∀ r1 r2, r1 < r2 → r2 < sa.length → OccursAt Q t (sa.getD r1 0) → OccursAt Q t (sa.getD r2 0) →
        t.getD (sa.getD r1 0 + Q.length) 0 ≤ t.getD (sa.getD r2 0 + Q.length) 0 := by
  intro Q
  induction Q with
  | nil =>
    -- `mono` is carried by every `Sorted` instance; take a symbol different from the last one
    intro _ r1 r2 h12 h2 _ _
    simpa using (hall (t.getD (t.length - 1) 0 + 1) (by omega)).mono r1 r2 h12 h2
  | cons q Q' ih =>
    intro hQ r1 r2 h12 h2 ho1 ho2
    have hq := hQ q (by simp)
    have hs := hall q hq
    rw [occursAt_cons_iff] at ho1 ho2
    obtain ⟨hl1, ha1, hn1⟩ := ho1
    obtain ⟨hl2, ha2, hn2⟩ := ho2
    obtain ⟨z1, hz1, he1⟩ := sa_surj hperm _ (succ_lt hs _ hl1 ha1)
    obtain ⟨z2, hz2, he2⟩ := sa_surj hperm _ (succ_lt hs _ hl2 ha2)
    have hz := hs.step r1 r2 z1 z2 h12 h2 hz1 hz2 ha1 ha2 he1 he2
    have := ih (fun x hx => hQ x (by simp [hx])) z1 z2 hz hz2 (by rw [he1]; exact hn1) (by rw [he2]; exact hn2)
    rw [he1, he2] at this
    simp only [List.length_cons]
    rw [Nat.add_comm Q'.length 1, ← Nat.add_assoc, ← Nat.add_assoc]; exact this

/-! ### 2. blocks of a monotone key -/

theorem countP_threshold (p : Nat → Bool) :
    ∀ S, (∀ i j, i < j → j < S → p j = true → p i = true) → ∀ j, j < S → (j < (List.range S).countP p ↔ p j = true)
  | 0, _, j, hj => absurd hj (Nat.not_lt_zero j)
  | S + 1, hdown, j, hj => by
    have hle : (List.range S).countP p ≤ S := by
      have := List.countP_le_length (p := p) (l := List.range S)
      rwa [List.length_range] at this
    rw [List.range_succ, List.countP_append, List.countP_singleton]
    by_cases hp : p S = true
    · rw [if_pos hp]
      have hall : (List.range S).countP p = S := by
        rw [List.countP_eq_length.mpr (fun x hx => hdown x S (List.mem_range.mp hx) (Nat.lt_succ_self S) hp), List.length_range]
      rw [hall]
      by_cases hjS : j = S
      · subst hjS; exact ⟨fun _ => hp, fun _ => hj⟩
      · exact ⟨fun _ => hdown j S (Nat.lt_of_le_of_ne (Nat.le_of_lt_succ hj) hjS) (Nat.lt_succ_self S) hp, fun _ => hj⟩
    · rw [if_neg hp, Nat.add_zero]
      by_cases hjS : j = S
      · subst hjS; exact ⟨fun h => absurd h (Nat.not_lt_of_le hle), fun h => absurd h hp⟩
      · exact countP_threshold p S (fun i k hik hk => hdown i k hik (Nat.lt_succ_of_lt hk)) j
          (Nat.lt_of_le_of_ne (Nat.le_of_lt_succ hj) hjS)

theorem countP_le_split (g : Nat → Nat) (c : Nat) (l : List Nat) :
    l.countP (fun i => decide (g i ≤ c)) = l.countP (fun i => decide (g i < c)) + l.countP (fun i => g i == c) := by
  have h1 := List.length_eq_countP_add_countP (fun i => decide (g i ≤ c)) (l := l)
  have h2 := length_eq_three_counts g c l
  have h3 : l.countP (fun i => decide ¬ (decide (g i ≤ c)) = true) = l.countP (fun i => decide (c < g i)) :=
    List.countP_congr (fun x _ => by simp only [decide_eq_true_eq, Nat.not_le])
  omega

theorem mono_block (g : Nat → Nat) (L S c : Nat) (hmono : ∀ i j, i < j → j < S → g i ≤ g j) (row : Nat) :
    (L + (List.range S).countP (fun i => g i < c) ≤ row ∧
      row < L + (List.range S).countP (fun i => g i < c) + (List.range S).countP (fun i => g i == c)) ↔
      (L ≤ row ∧ row < L + S ∧ g (row - L) = c) := by
  have h3 := length_eq_three_counts g c (List.range S)
  rw [List.length_range] at h3
  by_cases hr : L ≤ row ∧ row < L + S
  · obtain ⟨j, rfl⟩ := Nat.exists_eq_add_of_le hr.1
    have hj : j < S := Nat.lt_of_add_lt_add_left hr.2
    have hlt := countP_threshold (fun i => decide (g i < c)) S (fun i k hik hk h => by
      simp only [decide_eq_true_eq] at h ⊢; exact Nat.lt_of_le_of_lt (hmono i k hik hk) h) j hj
    have hle := countP_threshold (fun i => decide (g i ≤ c)) S (fun i k hik hk h => by
      simp only [decide_eq_true_eq] at h ⊢; exact Nat.le_trans (hmono i k hik hk) h) j hj
    rw [countP_le_split] at hle
    simp only [decide_eq_true_eq] at hlt hle
    rw [Nat.add_sub_cancel_left]
    omega
  · omega

/-! ### 3. what the loop accumulates -/

/-- `Σ f b` over the symbols of `ord` strictly before `a` -/
def sumBefore (f : Nat → Nat) (a : Nat) : List Nat → Nat
  | [] => 0
  | b :: rest => if b = a then 0 else f b + sumBefore f a rest

/-- the size the loop computes for symbol `b` -/
def cntOf (occ : Nat → Nat → Nat) (iv : Bi) (b : Nat) : Nat :=
  occ (iv.lower + iv.size - 1) b - (if iv.lower = 0 then 0 else occ (iv.lower - 1) b)

theorem extLoop_fst (occ : Nat → Nat → Nat) (iv : Bi) (a : Nat) :
    ∀ (ord : List Nat) (l s o : Nat), a ∈ ord →
      (extLoop occ iv a ord (l, s, o)).1 = l + s + sumBefore (cntOf occ iv) a ord := by
  intro ord
  induction ord with
  | nil => intro l s o h; simp at h
  | cons b rest ih =>
    intro l s o h
    simp only [extLoop, sumBefore]
    by_cases hb : b = a
    · simp [hb]
    · simp only [hb, if_false]
      have hr : a ∈ rest := by
        simp only [List.mem_cons] at h
        rcases h with h | h
        · exact absurd h.symm hb
        · exact h
      rw [ih _ _ _ hr]; unfold cntOf; omega

theorem sumBefore_add (f g : Nat → Nat) (a : Nat) (ord : List Nat) :
    sumBefore (fun b => f b + g b) a ord = sumBefore f a ord + sumBefore g a ord := by
  induction ord with
  | nil => simp [sumBefore]
  | cons b rest ih => simp only [sumBefore]; split <;> omega

theorem sumBefore_zero (a : Nat) (ord : List Nat) : sumBefore (fun _ => 0) a ord = 0 := by
  induction ord with
  | nil => simp [sumBefore]
  | cons b rest ih => simp only [sumBefore]; split <;> omega

theorem sumBefore_congr (f g : Nat → Nat) (a : Nat) : ∀ (ord : List Nat), (∀ b ∈ ord, f b = g b) →
    sumBefore f a ord = sumBefore g a ord
  | [], _ => rfl
  | b :: rest, h => by
    simp only [sumBefore]
    rw [h b (by simp), sumBefore_congr f g a rest (fun x hx => h x (List.mem_cons_of_mem _ hx))]

/-- point-wise: a symbol of `compOrder` is smaller than `complement a` iff it is the complement of a symbol that
comes before `a` in the order string (finite check over the 11 × 11 pairs) -/
theorem lt_iff_before : ∀ v ∈ compOrder, ∀ a ∈ order,
    (if v < dnaCompl a then 1 else 0) = sumBefore (fun b => if v = dnaCompl b then 1 else 0) a order := by decide +kernel

theorem countP_lt_eq_sumBefore (vals : List Nat) (hin : ∀ v ∈ vals, v ∈ compOrder) (a : Nat) (ha : a ∈ order) :
    vals.countP (fun v => v < dnaCompl a) = sumBefore (fun b => vals.count (dnaCompl b)) a order := by
  induction vals with
  | nil => simp [sumBefore_zero]
  | cons v vals ih =>
    have hv := hin v (by simp)
    have ih' := ih (fun x hx => hin x (by simp [hx]))
    have hpt := lt_iff_before v hv a ha
    have : (fun b => (v :: vals).count (dnaCompl b)) =
        (fun b => vals.count (dnaCompl b) + (if v = dnaCompl b then 1 else 0)) := by
      funext b
      rw [List.count_cons]
      simp only [beq_iff_eq]
    rw [this, sumBefore_add, ← ih', ← hpt, List.countP_cons]
    simp only [decide_eq_true_eq]

/-! ### 4. the reverse-strand interval -/

/-- **Reverse-strand half of `backward_ext`, given strand symmetry.**  `Q` sentinel-free (in the application
`Q = revcomp P`); `iv` a non-empty bi-interval whose reverse interval holds exactly the rows of `Q`.  If for every symbol
`b` of the order string the size the loop computes for `b` equals the number of rows of `Q·complement(b)` (strand symmetry;
for `b = $` this includes the cyclic predecessor of position 0), every row of `Q` is followed by a symbol of the alphabet,
then the new `[lower_rev, lower_rev + size)` are exactly the rows of `Q·complement(a)` (= `revcomp(a·P)`). -/
theorem backwardExt_reverse (t sa : List Nat) (less : Nat → Nat) (occ : Nat → Nat → Nat) (a : Nat) (Q : List Nat)
    (iv : Bi) (ha : a ∈ order)
    (hchk : sortedAllB t sa = true)
    (hQ : ∀ q ∈ Q, t.getD (t.length - 1) 0 ≠ q)
    (hiv : IvOf t sa Q iv.lowerRev (iv.lowerRev + iv.size))
    (hin : ∀ r, iv.lowerRev ≤ r → r < iv.lowerRev + iv.size → sa.getD r 0 + Q.length < t.length)
    (halpha : ∀ r, iv.lowerRev ≤ r → r < iv.lowerRev + iv.size → t.getD (sa.getD r 0 + Q.length) 0 ∈ compOrder)
    (hsym : ∀ b ∈ order, cntOf occ iv b =
      (List.range iv.size).countP (fun i => t.getD (sa.getD (iv.lowerRev + i) 0 + Q.length) 0 == dnaCompl b)) :
    IvOf t sa (Q ++ [dnaCompl a]) (backwardExt less occ iv a).lowerRev
      ((backwardExt less occ iv a).lowerRev + (backwardExt less occ iv a).size) := by
  have hperm := sortedAllB_perm hchk
  obtain ⟨h1, h2, h3⟩ := hiv
  -- the symbol after `Q` as a function of the offset in the interval
  obtain ⟨g, hg⟩ : ∃ g : Nat → Nat, ∀ i, g i = t.getD (sa.getD (iv.lowerRev + i) 0 + Q.length) 0 := ⟨_, fun _ => rfl⟩
  simp only [← hg] at hsym
  have hrow : ∀ i, i < iv.size → iv.lowerRev + i < sa.length := fun i hi =>
    Nat.lt_of_lt_of_le (Nat.add_lt_add_left hi _) h2
  have hrowQ : ∀ i, i < iv.size → OccursAt Q t (sa.getD (iv.lowerRev + i) 0) := fun i hi =>
    (h3 (iv.lowerRev + i) (hrow i hi)).mp ⟨Nat.le_add_right _ _, Nat.add_lt_add_left hi _⟩
  have hgmono : ∀ i j, i < j → j < iv.size → g i ≤ g j := by
    intro i j hij hj
    rw [hg, hg]
    exact next_mono t sa hperm (sortedAllB_sound t sa hchk) Q hQ (iv.lowerRev + i) (iv.lowerRev + j) (Nat.add_lt_add_left hij _)
      (hrow j hj) (hrowQ i (Nat.lt_trans hij hj)) (hrowQ j hj)
  have hvals : ∀ v ∈ (List.range iv.size).map g, v ∈ compOrder := by
    intro v hv
    obtain ⟨i, hi, rfl⟩ := List.mem_map.mp hv
    rw [hg]
    exact halpha (iv.lowerRev + i) (Nat.le_add_right _ _) (Nat.add_lt_add_left (List.mem_range.mp hi) _)
  have hsize : (backwardExt less occ iv a).size = (List.range iv.size).countP (fun i => g i == dnaCompl a) := by
    rw [← hsym a ha]
    simp only [backwardExt, cntOf]
    rw [extLoop_snd occ iv a order (iv.lowerRev, 0, 0) ha]
  have hlrev : (backwardExt less occ iv a).lowerRev =
      iv.lowerRev + (List.range iv.size).countP (fun i => g i < dnaCompl a) := by
    have := countP_lt_eq_sumBefore _ hvals a ha
    simp only [List.countP_map, Function.comp_def, List.count_eq_countP] at this
    simp only [backwardExt]
    rw [extLoop_fst occ iv a order iv.lowerRev 0 0 ha, this, Nat.add_zero]
    congr 1
    exact sumBefore_congr _ _ a order hsym
  have h3c := length_eq_three_counts g (dnaCompl a) (List.range iv.size)
  rw [List.length_range] at h3c
  rw [hlrev, hsize]
  refine ⟨by omega, by omega, fun row hrow => ?_⟩
  rw [occursAt_snoc, mono_block g iv.lowerRev iv.size (dnaCompl a) hgmono row]
  constructor
  · rintro ⟨r1, r2, r3⟩
    rw [hg, Nat.add_sub_cancel' r1] at r3
    exact ⟨(h3 row hrow).mp ⟨r1, r2⟩, hin row r1 r2, r3⟩
  · rintro ⟨ho, _, hc⟩
    obtain ⟨r1, r2⟩ := (h3 row hrow).mpr ho
    refine ⟨r1, r2, ?_⟩
    rw [hg, Nat.add_sub_cancel' r1]
    exact hc

/-! ### 5. the side conditions on an FMD text -/

theorem fmd_symbols (seqs : List (List Nat)) (hs : ∀ s ∈ seqs, ∀ c ∈ s, isDna c = true) :
    ∀ c ∈ fmdText seqs, c = 36 ∨ isDna c = true := by
  intro c hc
  simp only [fmdText, List.mem_flatMap, List.mem_append, List.mem_singleton, fmdSentinel] at hc
  obtain ⟨s, hs', h⟩ := hc
  rcases h with ((h | h) | h) | h
  · exact Or.inr (hs s hs' c h)
  · exact Or.inl h
  · simp only [revcomp, List.mem_map, List.mem_reverse] at h
    obtain ⟨d, hd, rfl⟩ := h
    exact Or.inr (isDna_compl d (hs s hs' d hd))
  · exact Or.inl h

theorem fmd_last (seqs : List (List Nat)) (hne : seqs ≠ []) :
    (fmdText seqs).getD ((fmdText seqs).length - 1) 0 = 36 := by
  rw [← List.getLastD_eq_getD]
  obtain rfl | ⟨init, s, rfl⟩ := List.eq_nil_or_concat seqs
  · exact absurd rfl hne
  · simp [fmdText, fmdSentinel, ← List.append_assoc]

/-- an FMD index: `sa` passes `LF.sortedAllB` for the text of a non-empty list of sequences -/
structure FmdIdx (seqs : List (List Nat)) (sa : List Nat) : Prop where
  ne : seqs ≠ []
  chk : sortedAllB (fmdText seqs) sa = true

namespace FmdIdx
variable {seqs : List (List Nat)} {sa : List Nat} (h : FmdIdx seqs sa)
include h

theorem perm : sa.Perm (List.range (fmdText seqs).length) := sortedAllB_perm h.chk

theorem last : (fmdText seqs).getD ((fmdText seqs).length - 1) 0 = 36 := fmd_last seqs h.ne

/-- every DNA symbol differs from the last symbol of the text, so the array is `Sorted` for it -/
theorem sorted (a : Nat) (ha : isDna a = true) : Sorted (fmdText seqs) sa a :=
  sortedAllB_sound _ sa h.chk a (by rw [h.last]; exact isDna_ne_sentinel a ha)

end FmdIdx

theorem fmd_next_exists (T Q : List Nat) (hlast : T.getD (T.length - 1) 0 = 36) (hQ : ∀ q ∈ Q, isDna q = true)
    (p : Nat) (hp : p < T.length) (ho : OccursAt Q T p) : p + Q.length < T.length := by
  obtain rfl | ⟨Q', c, rfl⟩ := List.eq_nil_or_concat Q
  · simpa using hp
  · rw [List.concat_eq_append, occursAt_snoc] at ho
    obtain ⟨_, h1, h2⟩ := ho
    simp only [List.concat_eq_append, List.length_append, List.length_singleton]
    by_cases he : p + Q'.length = T.length - 1
    · exfalso
      rw [he, hlast] at h2
      exact isDna_ne_sentinel c (hQ c (by simp)) h2
    · omega

/-- **Reverse-strand half of `backward_ext` on an FMD text**: only strand symmetry is left as a hypothesis. -/
theorem backwardExt_reverse_fmd (seqs : List (List Nat)) (sa : List Nat) (less : Nat → Nat) (occ : Nat → Nat → Nat)
    (a : Nat) (Q : List Nat) (iv : Bi) (ha : a ∈ order)
    (hI : FmdIdx seqs sa) (hseqs : ∀ s ∈ seqs, ∀ c ∈ s, isDna c = true)
    (hQ : ∀ q ∈ Q, isDna q = true)
    (hiv : IvOf (fmdText seqs) sa Q iv.lowerRev (iv.lowerRev + iv.size))
    (hsym : ∀ b ∈ order, cntOf occ iv b =
      (List.range iv.size).countP
        (fun i => (fmdText seqs).getD (sa.getD (iv.lowerRev + i) 0 + Q.length) 0 == dnaCompl b)) :
    IvOf (fmdText seqs) sa (Q ++ [dnaCompl a]) (backwardExt less occ iv a).lowerRev
      ((backwardExt less occ iv a).lowerRev + (backwardExt less occ iv a).size) := by
  have hin : ∀ r, iv.lowerRev ≤ r → r < iv.lowerRev + iv.size →
      sa.getD r 0 + Q.length < (fmdText seqs).length := by
    intro r h1 h2
    have hr : r < sa.length := by have := hiv.2.1; omega
    exact fmd_next_exists _ Q hI.last hQ _ (PermPos.getD_lt hI.perm r hr) ((hiv.2.2 r hr).mp ⟨h1, h2⟩)
  apply backwardExt_reverse (fmdText seqs) sa less occ a Q iv ha hI.chk _ hiv hin _ hsym
  · intro q hq; rw [hI.last]; exact isDna_ne_sentinel q (hQ q hq)
  · intro r h1 h2
    exact mem_compOrder_of _ (fmd_symbols seqs hseqs _ (List.getD_mem _ _ 0 (hin r h1 h2)))

end RbV.FMDModel
