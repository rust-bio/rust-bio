import RbV.Model.MyersTraceback
import RbV.Model.MyersLong
/-!
Mirror model of the traceback of the block-based Myers matcher (`long.rs: LongStatesHandler`, `LongTracebackHandler`;
the loop is the same `traceback.rs: _traceback_at`) (C10; proved: `Thm/C10.lean: traceback_long_model_sound`,
lemmas in `Lemmas/TracebackLong{Geom,Inv,Moves,Step,Loop,Store,Sound}.lean`).  Core Lean only.

A column of the states vector has `nb = ⌈m / w⌉` slots.  `add_state` copies the blocks the search has computed for the
column (`States::step` of the C09 model: band-limited) and, if there are fewer than `nb`, puts a sentinel block
(`dist = usize::MAX`, `pv = mv = 0`) below them; slots further down keep whatever they held before.  The handler keeps
the index of the block under the cursor of the current (`blockPos`) and of the left column (`leftBlockPos`), a copy of
these two blocks and references to the two columns.  `usize` distances: `Nat` with `wrapping_add` in the Subst test and
the `u64` wrap-around of `adjust_by_mask` modelled with `umax = 2^64 − 1`; `-= 1` is truncated subtraction.
-/
namespace RbV.Model.MyersTracebackLong
open RbV.EditDist
open RbV.Model.MyersSimple (St)
open RbV.Model.MyersTraceback (popc adjustDist maxSt readSlot)

def umax : Nat := 2 ^ 64 - 1

/-- `State::adjust_by_mask` in `u64` arithmetic -/
def adjustByMaskU {w : Nat} (s : St w) (mask : BitVec w) : St w :=
  { s with dist := ((s.dist + popc (s.mv &&& mask)) % (umax + 1) + (umax + 1) - popc (s.pv &&& mask)) % (umax + 1) }

def dflt {w : Nat} : St w := ⟨0#w, 0#w, 0⟩

structure LHandler (w : Nat) where
  blockPos : Nat
  leftBlockPos : Nat
  col : Array (St w)
  leftCol : Array (St w)
  block : St w
  leftBlock : St w
  leftMaxMask : BitVec w
  pos : BitVec w
  leftMask : BitVec w
  taken : Nat

/-- `LongTracebackHandler::new(n_blocks, m, pos, states)`; `rd k` = `k`-th column (chunk of `nb` states) of the reversed
cyclic iterator -/
def LHandler.new {w : Nat} (nb m : Nat) (rd : Nat → Array (St w)) : LHandler w :=
  let lastM := if m % w = 0 then w else m % w
  let mask0 := 1#w <<< (lastM - 1)
  let col := rd 0
  let leftCol := rd 1
  { blockPos := nb - 1, leftBlockPos := nb - 1, col := col, leftCol := leftCol,
    block := col.getD (nb - 1) dflt, leftBlock := leftCol.getD (nb - 1) dflt,
    leftMaxMask := mask0, pos := mask0,
    leftMask := if lastM ≠ 1 then 0#w else BitVec.ofNat w 0b10, taken := 2 }

def LHandler.moveUp {w : Nat} (h : LHandler w) (adjust : Bool) : LHandler w :=
  if h.pos != 1#w || h.blockPos == 0 then
    { h with block := if adjust then adjustDist h.block h.pos else h.block, pos := h.pos >>> 1 }
  else
    { h with pos := 1#w <<< (w - 1), blockPos := h.blockPos - 1,
             block := if adjust then h.col.getD (h.blockPos - 1) dflt else h.block }

def LHandler.moveUpLeft {w : Nat} (h : LHandler w) (adjust : Bool) : LHandler w :=
  if (h.leftMask &&& BitVec.ofNat w 0b10) == 0#w || h.leftBlockPos == 0 then
    { h with leftMask := (h.leftMask >>> 1) ||| h.leftMaxMask,
             leftBlock := if adjust then adjustDist h.leftBlock h.pos else h.leftBlock }
  else
    { h with leftMaxMask := 1#w <<< (w - 1), leftMask := 0#w, leftBlockPos := h.leftBlockPos - 1,
             leftBlock := if adjust then h.leftCol.getD (h.leftBlockPos - 1) dflt else h.leftBlock }

def LHandler.moveToLeft {w : Nat} (rd : Nat → Array (St w)) (h : LHandler w) : LHandler w :=
  let newLeft := rd h.taken
  { h with col := h.leftCol, leftCol := newLeft, block := h.leftBlock,
           leftBlock := adjustByMaskU (newLeft.getD h.leftBlockPos dflt) h.leftMask, taken := h.taken + 1 }

def LHandler.moveLeftDownIfBetter {w : Nat} (h : LHandler w) : Bool × LHandler w :=
  if h.leftMask != 0#w then
    if (h.leftBlock.mv &&& h.pos) != 0#w then
      (true, { h with leftBlock := { h.leftBlock with dist := h.leftBlock.dist - 1 } })
    else (false, h)
  else
    match h.leftCol[h.leftBlockPos + 1]? with
    | some b =>
      if (b.mv &&& 1#w) == 1#w then (true, { h with leftBlock := { b with dist := h.leftBlock.dist - 1 } })
      else (false, h)
    | none => (false, h)

def LHandler.finished {w : Nat} (h : LHandler w) : Bool := h.pos == 0#w && h.blockPos == 0

def LHandler.iter {w : Nat} (rd : Nat → Array (St w)) (h : LHandler w) : Op × Bool × LHandler w :=
  if (h.leftBlock.dist + 1) % (umax + 1) = h.block.dist then
    (Op.sub, true, ((h.moveUp false).moveUpLeft false).moveToLeft rd)
  else if (h.block.pv &&& h.pos) != 0#w then
    (Op.ins, false, (h.moveUp true).moveUpLeft true)
  else
    match h.moveLeftDownIfBetter with
    | (true, h') => (Op.del, true, h'.moveToLeft rd)
    | (false, h') => (Op.mat, true, ((h'.moveUp false).moveUpLeft false).moveToLeft rd)

def LHandler.loop {w : Nat} (rd : Nat → Array (St w)) : Nat → LHandler w → Nat × List Op
  | 0, _ => (0, [])
  | fuel + 1, h =>
    if h.finished then (0, []) else
      let r := LHandler.loop rd fuel (h.iter rd).2.2
      (r.1 + (if (h.iter rd).2.1 then 1 else 0), (h.iter rd).1 :: r.2)

/-- `_traceback_at`: (`h_offset`, `dist`, ops as pushed) -/
def tracebackRdL {w : Nat} (nb m : Nat) (rd : Nat → Array (St w)) (fuel : Nat) : Nat × Nat × List Op :=
  let h0 := LHandler.new nb m rd
  let r := LHandler.loop rd fuel (h0.moveUpLeft true)
  (r.1, h0.block.dist, r.2)

/-- the handler when the loop is entered: `init_traceback` then `move_up_left(true)` -/
def LHandler.start {w : Nat} (nb m : Nat) (rd : Nat → Array (St w)) : LHandler w :=
  (LHandler.new nb m rd).moveUpLeft true

/-- the handler after `n` passes through the loop body -/
def LHandler.after {w : Nat} (nb m : Nat) (rd : Nat → Array (St w)) : Nat → LHandler w
  | 0 => LHandler.start nb m rd
  | n + 1 =>
    let h := LHandler.after nb m rd n
    if h.finished then h else (h.iter rd).2.2

/-! ### the states vector: `N` columns of `nb` slots -/

/-- `LongStatesHandler::add_state(source, pos, states)` -/
def addColumn {w : Nat} (nb : Nat) (store : Array (St w)) (slot : Nat) (source : List (St w)) : Array (St w) :=
  let base := slot * nb
  let rec copy (store : Array (St w)) (i : Nat) : List (St w) → Array (St w)
    | [] => store
    | s :: r => copy (store.setIfInBounds (base + i) s) (i + 1) r
  let store := copy store 0 source
  if source.length < nb then store.setIfInBounds (base + source.length) ⟨0#w, 0#w, umax⟩ else store

/-- `set_max_state(pos)` -/
def setMaxColumn {w : Nat} (nb : Nat) (store : Array (St w)) (slot : Nat) : Array (St w) :=
  (List.range nb).foldl (fun st i => st.setIfInBounds (slot * nb + i) (maxSt w umax)) store

def readColumn {w : Nat} (nb N : Nat) (store : Array (St w)) (pos k : Nat) : Array (St w) :=
  store.extract (readSlot N pos k * nb) (readSlot N pos k * nb + nb)

/-- `_traceback_at(self.pos)` after `c` symbols: (start, dist, ops forward) -/
def tracebackNowL {w : Nat} (nb m N : Nat) (store : Array (St w)) (c : Nat) : Nat × Nat × List Op :=
  let r := tracebackRdL nb m (readColumn nb N store ((c + 1) % N)) (m + c + 2 * nb)
  (c - r.1, r.2.1, r.2.2.reverse)

def scanGoL (w : Nat) (eqv : Nat → Nat → Bool) (blks : List (List Nat)) (m k N : Nat) (want : Nat → Bool) :
    Array (St w) → List (St w) → Nat → List Nat → List (Nat × Nat × Nat × List Op)
  | store, _, c, [] => if want c then [(c, tracebackNowL blks.length m N store c)] else []
  | store, sts, c, a :: rest =>
    let sts' := RbV.Model.MyersLong.stepStates eqv blks k a sts
    (if want c then [(c, tracebackNowL blks.length m N store c)] else []) ++
      scanGoL w eqv blks m k N want (addColumn blks.length store ((c + 2) % N) sts') sts' (c + 1) rest

/-- the block-based search with threshold `k` over `t`, the states vector of `N` columns with previous contents `old`
(`N * nb` states), tracebacks at the wanted ends -/
def scanStoreL (w : Nat) (eqv : Nat → Nat → Bool) (p : List Nat) (k N : Nat) (old : List (St w)) (t : List Nat)
    (want : Nat → Bool) : List (Nat × Nat × Nat × List Op) :=
  let blks := RbV.Model.MyersLong.blocksOf w p
  let nb := blks.length
  let s0 := RbV.Model.MyersLong.initStates w blks p.length k
  scanGoL w eqv blks p.length k N want (addColumn nb (setMaxColumn nb old.toArray (0 % N)) (1 % N) s0) s0 0 t

/-! ### the function the soundness theorem is about

`scanStoreL` walks over the text once and keeps the states vector in an `Array` (as `FullMatches` / `LazyMatches` do).
`tracebackStoreL … t c` = what it reports at the end `c` (`Lemmas/TracebackLongSound.lean: scanStoreL_eq`): the search
state and the states vector after the first `c` symbols (`stateAfter`), then `_traceback_at(self.pos)`. -/

/-- one text symbol: `States::step`, then `add_state` into the slot of sequence number `c + 2`; state = (states vector,
active blocks, number of symbols consumed) -/
def stepStore (w : Nat) (eqv : Nat → Nat → Bool) (blks : List (List Nat)) (k N : Nat)
    (st : Array (St w) × List (St w) × Nat) (a : Nat) : Array (St w) × List (St w) × Nat :=
  let sts' := RbV.Model.MyersLong.stepStates eqv blks k a st.2.1
  (addColumn blks.length st.1 ((st.2.2 + 2) % N) sts', sts', st.2.2 + 1)

/-- `Traceback::new` (guard column, initial column) followed by the search over `u` -/
def stateAfter (w : Nat) (eqv : Nat → Nat → Bool) (p : List Nat) (k N : Nat) (old : List (St w)) (u : List Nat) :
    Array (St w) × List (St w) × Nat :=
  let blks := RbV.Model.MyersLong.blocksOf w p
  let nb := blks.length
  let s0 := RbV.Model.MyersLong.initStates w blks p.length k
  u.foldl (stepStore w eqv blks k N) (addColumn nb (setMaxColumn nb old.toArray (0 % N)) (1 % N) s0, s0, 0)

/-- the whole stored-state traceback of the block-based version: search the first `c` symbols of `t` with threshold `k`
storing the columns in a vector of `N` columns (`N * nb` states, previous contents `old`), then `_traceback_at` at the
column of the (exclusive) end `stop ≤ c` (`stop = c`: `traceback()` of the eager API; `stop < c`: `traceback_at(stop − 1)`
of the lazy API); (start, dist, ops forward) -/
def tracebackStoreLAt (w : Nat) (eqv : Nat → Nat → Bool) (p : List Nat) (k N : Nat) (old : List (St w)) (t : List Nat)
    (c stop : Nat) : Nat × Nat × List Op :=
  tracebackNowL (RbV.Model.MyersLong.blocksOf w p).length p.length N (stateAfter w eqv p k N old (t.take c)).1 stop

/-- … at the current column (what `scanStoreL` reports) -/
def tracebackStoreL (w : Nat) (eqv : Nat → Nat → Bool) (p : List Nat) (k N : Nat) (old : List (St w)) (t : List Nat)
    (c : Nat) : Nat × Nat × List Op :=
  tracebackStoreLAt w eqv p k N old t c c

end RbV.Model.MyersTracebackLong
