import RbV.Spec.RankSelect
/-
C17 [A]/[B] — mirror model of `bio::data_structures::rank_select` (src/data_structures/rank_select.rs).

The bit vector is a `List Bool`.  A *block* is what `bits.get_block(b)` returns for `BitVec<u8>`: the (at most 8)
bits `8b .. 8b+7`; `bv` masks the padding of the last block, so a short last block is the list of its valid
bits and `count_zeros` (which counts the zero padding too) is `8 - count_ones`.  Blocks are read through an accessor
`gb : Nat → List Bool` (`getBlock bits` in the theorems, an array look-up in the driver).
`s = 32·k` is the superblock size in bits.  Loops are folds over index ranges; the early `return` of `select_x`
is a recursion over the list of block indices.  Core Lean only.
-/
namespace RbV.Model.RankSelect

/-- `bits.get_block(b)` -/
def getBlock (bits : List Bool) (b : Nat) : List Bool := (bits.drop (8 * b)).take 8

/-- all blocks, in order (what the driver indexes): `(chunks bits)[b] = getBlock bits b` -/
def chunks (bits : List Bool) : List (List Bool) :=
  (List.range ((bits.length + 7) / 8)).map (getBlock bits)

def countOnes (blk : List Bool) : Nat := blk.count true
/-- `u8::count_zeros` of the (zero-padded) byte -/
def countZeros (blk : List Bool) : Nat := 8 - blk.count true

/-- `enum SuperblockRank { First(u64), Some(u64) }` -/
inductive SbRank where
  | first (r : Nat)
  | some (r : Nat)
  deriving Repr, DecidableEq

/-- `Deref` -/
def SbRank.val : SbRank → Nat
  | .first r => r
  | .some r => r

/-- `impl Ord for SuperblockRank`: by rank, `First(r) < Some(r)` -/
def SbRank.lt (a b : SbRank) : Bool :=
  a.val < b.val || (a.val == b.val && (match a, b with | .first _, .some _ => true | _, _ => false))

/-- the four `let mut` of `fn superblocks`: the table `superblocks`, the running `rank`, `last` (the rank at the previous
superblock boundary, `None` before the first) and the bit index `i`, which advances by 8 per block -/
structure SbState where
  out : List SbRank := []
  rank : Nat := 0
  last : Option Nat := none
  i : Nat := 0

/-- body of `for block in 0..nblocks` in `fn superblocks(t, n, s, bits)` -/
def sbStep (t : Bool) (s : Nat) (gb : Nat → List Bool) (st : SbState) (block : Nat) : SbState :=
  let b := gb block
  let st := if st.i % s = 0 then
      { st with out := st.out ++ [if some st.rank ≠ st.last then SbRank.first st.rank else SbRank.some st.rank],
                last := some st.rank }
    else st
  { st with rank := st.rank + (if t then countOnes b else countZeros b), i := st.i + 8 }

/-- `fn superblocks(t, n, s, bits) -> Vec<SuperblockRank>`; `nblocks = ⌈n / 8⌉` -/
def superblocks (t : Bool) (n s : Nat) (gb : Nat → List Bool) : List SbRank :=
  ((List.range ((n + 7) / 8)).foldl (sbStep t s gb) {}).out

/-- `pub fn rank_1(&self, i) -> Option<u64>` -/
def rank1 (n s : Nat) (gb : Nat → List Bool) (sbs1 : List SbRank) (i : Nat) : Option Nat :=
  if i ≥ n then none
  else
    let sb := i / s
    let b := i / 8
    let j := i % 8
    let rank := (sbs1.getD sb (.first 0)).val
    -- `(get_block(b) & ((2 << j) - 1)).count_ones()`: the low j+1 bits of the block
    let rank := rank + countOnes ((gb b).take (j + 1))
    -- `for block in (s * self.s / 8)..b { rank += get_block(block).count_ones() }`
    let lo := sb * s / 8
    some ((List.range' lo (b - lo)).foldl (fun r blk => r + countOnes (gb blk)) rank)

/-- `pub fn rank_0(&self, i)`: `self.rank_1(i).map(|r| (i + 1) - r)` -/
def rank0 (n s : Nat) (gb : Nat → List Bool) (sbs1 : List SbRank) (i : Nat) : Option Nat :=
  (rank1 n s gb sbs1 i).map (fun r => (i + 1) - r)

/-- `superblocks.binary_search(&First(j))` followed by `Ok(i) | Err(i) => i`: the slice is sorted and holds at most
one element equal to the key, so both outcomes are the number of elements strictly below the key -/
def searchIdx (sbs : List SbRank) (key : SbRank) : Nat := (sbs.takeWhile (fun e => e.lt key)).length

/-- outcome of the bit loop over one block: returned from inside with the bit's index, or fell through with the new rank -/
inductive Scan where
  | found (pos : Nat)
  | notFound (rank : Nat)

/-- `for i in 0..max_bit { rank += is_match(b & bit) as u64; if rank == j { return Some(..i) } bit <<= 1 }` -/
def scanBits (blk : List Bool) (isOne : Bool) (j : Nat) : Nat → Nat → Nat → Scan
  | 0, _, rank => .notFound rank
  | fuel + 1, i, rank =>
    let rank := rank + (if blk.getD i false = isOne then 1 else 0)
    if rank = j then .found i else scanBits blk isOne j fuel (i + 1) rank

/-- the block loop of `select_x` over the block indices still to visit -/
def selectBlocks (n : Nat) (gb : Nat → List Bool) (isOne : Bool) (j : Nat) : List Nat → Nat → Option Nat
  | [], _ => none
  | block :: rest, rank =>
    let b := gb block
    let p := if isOne then countOnes b else countZeros b
    if rank + p ≥ j then
      -- `max_bit = min(8, len - block * 8)`: do not look at the unused bits of the last block
      match scanBits b isOne j (min 8 (n - block * 8)) 0 rank with
      | .found pos => some (block * 8 + pos)
      | .notFound rank' => selectBlocks n gb isOne j rest (rank' + p)   -- `rank += p` after the scan, as in the code
    else selectBlocks n gb isOne j rest (rank + p)

/-- `fn select_x(&self, j, superblocks, is_match, count_all)`; `isOne = true` for `select_1` -/
def selectX (n s : Nat) (gb : Nat → List Bool) (sbs : List SbRank) (isOne : Bool) (j : Nat) : Option Nat :=
  if j = 0 then none
  else
    let sb := searchIdx sbs (.first j) - 1            -- `saturating_sub(1)`
    let rank := (sbs.getD sb (.first 0)).val
    let firstBlock := sb * s / 8
    let hi := min (firstBlock + s / 8) ((n + 7) / 8)   -- `cmp::min(first_block + self.s / 8, self.bits.block_len())`
    selectBlocks n gb isOne j (List.range' firstBlock (hi - firstBlock)) rank

/-- the whole structure as built by `RankSelect::new(bits, k)` -/
structure RS where
  n : Nat
  s : Nat
  sbs1 : List SbRank
  sbs0 : List SbRank

def build (bits : List Bool) (k : Nat) (gb : Nat → List Bool) : RS :=
  let n := bits.length
  let s := k * 32
  { n := n, s := s, sbs1 := superblocks true n s gb, sbs0 := superblocks false n s gb }

end RbV.Model.RankSelect
