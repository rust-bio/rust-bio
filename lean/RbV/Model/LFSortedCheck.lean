import RbV.Model.LFMapping
/-!
# A decidable (and cheap) sufficient condition for `LF.Sorted` (C05)

`sortedAllB t sa` looks at adjacent rows only (plus one permutation test); `sortedAllB_sound` lifts it to
`LF.Sorted t sa a` for every symbol `a` different from the last text symbol (the sentinel).  The driver evaluates it
on the suffix array the implementation printed, so that on each such case `RbV.Thm.C05.backward_search_correct`
applies to the mirror model.
-/
namespace RbV.LF
open RbV

/-- first symbol of the suffix in row `i` -/
def firstSym (t sa : List Nat) (i : Nat) : Nat := t.getD (sa.getD i 0) 0

/-- row of the text position following the one in row `i` -/
def nextRow (sa : List Nat) (i : Nat) : Nat := sa.idxOf (sa.getD i 0 + 1)

/-- the condition on rows `i`, `i+1`: first symbols non-decreasing; and if they are equal and not the sentinel, the rows of the
two successor positions are in the same order -/
def adjOk (t sa : List Nat) (i : Nat) : Bool :=
  decide (firstSym t sa i ≤ firstSym t sa (i + 1)) &&
  (firstSym t sa i != firstSym t sa (i + 1) || firstSym t sa i == t.getD (t.length - 1) 0 ||
    decide (nextRow sa i < nextRow sa (i + 1)))

def sortedAllB (t sa : List Nat) : Bool :=
  sa.isPerm (List.range t.length) && (List.range (sa.length - 1)).all (adjOk t sa)

theorem sortedAllB_perm {t sa : List Nat} (h : sortedAllB t sa = true) : sa.Perm (List.range t.length) := by
  simp only [sortedAllB, Bool.and_eq_true] at h
  exact List.isPerm_iff.mp h.1

theorem sortedAllB_sound (t sa : List Nat) (h : sortedAllB t sa = true) (a : Nat)
    (ha : t.getD (t.length - 1) 0 ≠ a) : Sorted t sa a := by
  have hperm := sortedAllB_perm h
  simp only [sortedAllB, Bool.and_eq_true, List.all_eq_true, List.mem_range] at h
  have hadj := h.2
  have hadj1 : ∀ m, m + 1 < sa.length → firstSym t sa m ≤ firstSym t sa (m + 1) := by
    intro m hm
    have := hadj m (Nat.lt_sub_of_add_lt hm)
    simp only [adjOk, Bool.and_eq_true, decide_eq_true_eq] at this
    exact this.1
  have hadj2 : ∀ m, m + 1 < sa.length → firstSym t sa m = a → firstSym t sa (m + 1) = a →
      nextRow sa m < nextRow sa (m + 1) := by
    intro m hm h1 h2
    have := hadj m (Nat.lt_sub_of_add_lt hm)
    simp only [adjOk, Bool.and_eq_true, Bool.or_eq_true, decide_eq_true_eq, bne_iff_ne, beq_iff_eq] at this
    rcases this.2 with (h3 | h3) | h3
    · exact absurd (h1.trans h2.symm) h3
    · exact absurd (h3.symm.trans h1) ha
    · exact h3
  have hmono : ∀ j i, i < j → j < sa.length → firstSym t sa i ≤ firstSym t sa j := by
    intro j
    induction j with
    | zero => intro i hi; exact absurd hi (Nat.not_lt_zero i)
    | succ j ih =>
      intro i hi hj
      by_cases hij : i = j
      · subst hij; exact hadj1 i hj
      · exact Nat.le_trans (ih i (Nat.lt_of_le_of_ne (Nat.le_of_lt_succ hi) hij) (Nat.lt_of_succ_lt hj))
          (hadj1 j hj)
  have hchain : ∀ j i, i < j → j < sa.length → firstSym t sa i = a → firstSym t sa j = a →
      nextRow sa i < nextRow sa j := by
    intro j
    induction j with
    | zero => intro i hi; exact absurd hi (Nat.not_lt_zero i)
    | succ j ih =>
      intro i hi hj h1 h2
      by_cases hij : i = j
      · subst hij; exact hadj2 i hj h1 h2
      · have hij' : i < j := Nat.lt_of_le_of_ne (Nat.le_of_lt_succ hi) hij
        have hja : firstSym t sa j = a :=
          Nat.le_antisymm (h2 ▸ hadj1 j hj) (h1 ▸ hmono j i hij' (Nat.lt_of_succ_lt hj))
        exact Nat.lt_trans (ih i hij' (Nat.lt_of_succ_lt hj) h1 hja) (hadj2 j hj hja h2)
  have hrow : ∀ i i', i' < sa.length → sa.getD i' 0 = sa.getD i 0 + 1 → nextRow sa i = i' := by
    intro i i' hi' he
    unfold nextRow
    rw [← he]
    exact PermPos.rank_getD hperm i' hi'
  refine ⟨hperm, fun i j hij hj => hmono j i hij hj, ?_, ha⟩
  intro i j i' j' hij hj hi' hj' h1 h2 e1 e2
  have := hchain j i hij hj h1 h2
  rw [hrow i i' hi' e1, hrow j j' hj' e2] at this
  exact this

/-- non-vacuity: the suffix array of `GATTACA$` (`$`=0 A=1 C=2 G=3 T=4) passes, a wrong array does not -/
example : sortedAllB [3, 1, 4, 4, 1, 2, 1, 0] [7, 6, 4, 1, 5, 0, 3, 2] = true := by decide +kernel
example : sortedAllB [3, 1, 4, 4, 1, 2, 1, 0] [7, 4, 6, 1, 5, 0, 3, 2] = false := by decide +kernel
/-- two sentinels (`A$A$`): both orders of the sentinel rows are accepted -/
example : sortedAllB [1, 0, 1, 0] [3, 1, 2, 0] = true := by decide +kernel
example : sortedAllB [1, 0, 1, 0] [1, 3, 0, 2] = true := by decide +kernel

end RbV.LF
