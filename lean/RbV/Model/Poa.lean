import RbV.Ref.NW
import RbV.Ref.PoaAccept
/-!
# Mirror model of `bio::alignment::poa` (global mode)

Follows `src/alignment/poa.rs` statement by statement, with petgraph's iteration orders made explicit:

* graph = labels + weighted edge list in insertion order; `neighbors_directed(v, Incoming)` and
  `neighbors(v)` enumerate edges most-recent-first (`inN`, `outN`);
* `topo` = `petgraph::visit::Topo` (stack of ready nodes, initial nodes in index order, popped from the end);
* `dpRows` = `Poa::custom` with all clip penalties at `MIN_SCORE` (what `Aligner::global` runs): row 0,
  first column `(node index + 1)·gap`, per-row maximisation over the predecessors with Rust's `max`
  tie-breaking (the later candidate wins a tie), then the insertion scan;
* `traceLoop` = `Traceback::alignment`; `addAlignment` = `Poa::add_alignment` (wildcard `X` included);
* `consensus` = `Aligner::consensus` (as repaired by 8b80f4b: one table entry per node, `usize::MAX` as the
  initial successor; returns `none` where the Rust code would index out of bounds — never for a non-empty well-formed
  acyclic graph, see `consensus_is_path`).

The driver runs these against the observed operations / graph dumps / consensus and reports differences as
`drift-*` tags (never as violations: tie-breaks are not part of the property).  The row functions
`predCands`, `firstCands`, `insScan` are shared with `chainScore`, the specialisation to a graph built
from one sequence, which `RbV/Lemmas/PoaChain.lean` proves equal to the Needleman–Wunsch optimum.
-/
namespace RbV.Poa.Model
open RbV.NW RbV.Poa

structure Cell where
  score : Int
  op : POp
deriving Repr

/-- Rust's `std::cmp::max` on `TracebackCell` (ordered by score): the second argument wins a tie -/
def cmax (a b : Cell) : Cell := if a.score > b.score then a else b

/-! ## Row functions (shared by the general DP and the chain specialisation) -/

/-- row 0, columns `k+1 ..`: `Ins(None)` with `(column)·gap` -/
def row0From (gap : Int) : Nat → Nat → List Cell
  | _, 0 => []
  | k, n + 1 => ⟨((k : Int) + 1) * gap, .i none⟩ :: row0From gap (k + 1) n

/-- row 0 of the table for a query of length `n`: `(0,0)` is `Match(None)` with score 0, `(0,j)` is
`Ins(None)` with `j·gap` -/
def row0 (gap : Int) (n : Nat) : List Cell := ⟨0, .m none⟩ :: row0From gap 0 n

/-- per-predecessor candidates for columns `j+1..`: `diag` = predecessor cell at column `j`, `ups` = its
cells at columns `j+1..`; `max(Match, Del)` with ties going to `Del` -/
def predCands (sc : Sc) (r : Nat) (mOp dOp : POp) : Cell → List Cell → List Nat → List Cell
  | diag, up :: ups, b :: q =>
    cmax ⟨diag.score + sc.w r b, mOp⟩ ⟨up.score + sc.gap, dOp⟩ :: predCands sc r mOp dOp up ups q
  | _, _, _ => []

/-- a node without predecessor: only `Match(None)` from row 0 -/
def firstCands (sc : Sc) (r : Nat) : List Cell → List Nat → List Cell
  | diag :: rest, b :: q => ⟨diag.score + sc.w r b, .m none⟩ :: firstCands sc r rest q
  | _, _ => []

/-- `max(max_cell, Ins)` left to right; `left` = this row's cell in the previous column -/
def insScan (gap : Int) (iOp : POp) : Cell → List Cell → List Cell
  | _, [] => []
  | left, c :: cs =>
    let cell := cmax c ⟨left.score + gap, iOp⟩
    cell :: insScan gap iOp cell cs

/-- pointwise `max(acc, new)` (ties → new) -/
def zipMax : List Cell → List Cell → List Cell
  | a :: as, b :: bs => cmax a b :: zipMax as bs
  | _, _ => []

/-- first column of the row of node `v`: `Del(None)` with `(v+1)·gap` -/
def col0 (gap : Int) (v : Nat) : Cell := ⟨((v : Int) + 1) * gap, .d none⟩

/-- the row of node `v` (label `r`) from the rows of its predecessors, listed in `neighbors_directed` order -/
def nodeRow (sc : Sc) (query : List Nat) (r0 : List Cell) (v r : Nat) (preds : List (Nat × List Cell)) : List Cell :=
  let c0 := col0 sc.gap v
  let cands :=
    match preds with
    | [] => firstCands sc r r0 query
    | (p, pr) :: rest =>
      let one := fun (p : Nat) (pr : List Cell) =>
        match pr with
        | [] => []
        | d :: ups => predCands sc r (.m (some (p, v))) (.d (some (p, v + 1))) d ups query
      rest.foldl (fun acc (p', pr') => zipMax acc (one p' pr')) (one p pr)
  c0 :: insScan sc.gap (.i (some v)) c0 cands

/-! ## petgraph iteration orders -/

abbrev WEdges := List (Nat × Nat × Int)

def inN (es : WEdges) (v : Nat) : List Nat := ((es.filter fun e => e.2.1 == v).map (·.1)).reverse
def outN (es : WEdges) (u : Nat) : List Nat := ((es.filter fun e => e.1 == u).map (·.2.1)).reverse

/-- `Topo::next` iterated to exhaustion; `stack` has its top at the head -/
def topoLoop (es : WEdges) : Nat → List Nat → List Nat → List Nat → List Nat
  | 0, _, _, acc => acc.reverse
  | _, [], _, acc => acc.reverse
  | f + 1, v :: stack, visited, acc =>
    if visited.contains v then topoLoop es f stack visited acc else
    let visited := v :: visited
    let stack := (outN es v).foldl (fun st nb => if (inN es nb).all visited.contains then nb :: st else st) stack
    topoLoop es f stack visited (v :: acc)

def topo (n : Nat) (es : WEdges) : List Nat :=
  let initials := (List.range n).filter fun v => (inN es v).isEmpty
  topoLoop es (n + es.length + 1) initials.reverse [] []

/-! ## `Poa::custom` in global mode, `Traceback::alignment` -/

structure Table where
  r0 : List Cell
  rows : Array (List Cell)     -- indexed by node; `[]` = not computed
  last : Nat

def dpRows (sc : Sc) (labels : List Nat) (es : WEdges) (query : List Nat) : Table :=
  let n := labels.length
  let r0 := row0 sc.gap query.length
  let order := topo n es
  let rows := order.foldl (init := Array.replicate n ([] : List Cell)) fun rows v =>
    let preds := (inN es v).map fun p => (p, rows.getD p [])
    rows.setIfInBounds v (nodeRow sc query r0 v (labels.getD v 0) preds)
  { r0 := r0, rows := rows, last := order.getLastD 0 }

def Table.cell (t : Table) (i j : Nat) : Cell :=
  if i = 0 then t.r0.getD j ⟨0, .m none⟩ else (t.rows.getD (i - 1) []).getD j ⟨0, .m none⟩

/-- `Traceback::alignment`: operations in forward order -/
def traceLoop (t : Table) : Nat → Nat → Nat → List POp → List POp
  | 0, _, _, acc => acc
  | f + 1, i, j, acc =>
    if i = 0 && j = 0 then acc else
    let op := (t.cell i j).op
    match op with
    | .m (some (p, _)) => traceLoop t f (p + 1) (j - 1) (op :: acc)
    | .d (some (p, _)) => traceLoop t f (p + 1) j (op :: acc)
    | .i (some p) => traceLoop t f (p + 1) (j - 1) (op :: acc)
    | .m none => traceLoop t f 0 (j - 1) (op :: acc)
    | .d none => traceLoop t f (i - 1) j (op :: acc)
    | .i none => traceLoop t f i (j - 1) (op :: acc)
    | .x r => traceLoop t f r j (op :: acc)
    | .y r _ => traceLoop t f i r (op :: acc)

/-- score and operations `Aligner::global(query).alignment()` reports -/
def globalAlign (sc : Sc) (labels : List Nat) (es : WEdges) (query : List Nat) : Int × List POp :=
  let t := dpRows sc labels es query
  ((t.cell (t.last + 1) query.length).score, traceLoop t ((labels.length + 2) * (query.length + 2)) (t.last + 1) query.length [])

/-! ## The chain specialisation: the graph built from one sequence -/

/-- rows of the nodes `v, v+1, …` of a chain, given the row of node `v-1` (or `none` for the first node) -/
def chainRows (sc : Sc) (query : List Nat) (r0 : List Cell) : Nat → Option (List Cell) → List Nat → List Cell
  | _, prev, [] => prev.getD r0
  | v, prev, a :: x =>
    let preds := match prev with | none => [] | some pr => [(v - 1, pr)]
    chainRows sc query r0 (v + 1) (some (nodeRow sc query r0 v a preds)) x

/-- the score `global` reports on the graph built from `x` alone (non-empty `x`): last cell of the last row -/
def chainScore (sc : Sc) (x query : List Nat) : Int :=
  ((chainRows sc query (row0 sc.gap query.length) 0 none x).getLast?.map (·.score)).getD 0

/-! ## `Poa::add_alignment` -/

structure G where
  labels : List Nat
  es : WEdges

def G.addNode (g : G) (c : Nat) : G × Nat := ({ g with labels := g.labels ++ [c] }, g.labels.length)
def G.addEdge (g : G) (u v : Nat) : G := { g with es := g.es ++ [(u, v, 1)] }

/-- index of the edge `find_edge(u, v)` returns (the most recent one) -/
def findEdge (es : WEdges) (u v : Nat) : Option Nat :=
  let idxs := (es.zipIdx.filter fun (e, _) => e.1 == u && e.2.1 == v).map (·.2)
  idxs.getLast?

/-- `*edge_weight_mut(k) += 1` -/
def bumpEdge : WEdges → Nat → WEdges
  | [], _ => []
  | e :: r, 0 => (e.1, e.2.1, e.2.2 + 1) :: r
  | e :: r, k + 1 => e :: bumpEdge r k

structure AddSt where
  g : G
  prev : Nat
  i : Nat := 0
  notConnected : Bool := false

def wildcard : Nat := 88   -- b'X'

def addStep (head : Nat) (seq : List Nat) (st : AddSt) (op : POp) : AddSt :=
  let c := seq.getD st.i 0
  match op with
  | .m none =>
    let st :=
      if c ≠ st.g.labels.getD head 0 && c ≠ wildcard then
        let (g, nn) := st.g.addNode c
        let g := if st.notConnected then g.addEdge st.prev nn else g
        { st with g := g, notConnected := false, prev := nn }
      else st
    let st := if st.notConnected then { st with g := st.g.addEdge st.prev head, prev := head, notConnected := false } else st
    { st with i := st.i + 1 }
  | .m (some (_, p)) =>
    if c ≠ st.g.labels.getD p 0 && c ≠ wildcard then
      let (g, nn) := st.g.addNode c
      { st with g := g.addEdge st.prev nn, prev := nn, i := st.i + 1 }
    else
      let g :=
        match findEdge st.g.es st.prev p with
        | some k => { st.g with es := bumpEdge st.g.es k }
        | none => if st.prev ≠ head && st.prev ≠ p then st.g.addEdge st.prev p else st.g
      { st with g := g, prev := p, i := st.i + 1 }
  | .i none =>
    let (g, nn) := st.g.addNode c
    let g := if st.notConnected then g.addEdge st.prev nn else g
    { st with g := g, prev := nn, notConnected := true, i := st.i + 1 }
  | .i (some _) =>
    let (g, nn) := st.g.addNode c
    { st with g := g.addEdge st.prev nn, prev := nn, i := st.i + 1 }
  | .d _ => st
  | .x _ => st
  | .y _ r => { st with i := r }

def addAlignment (g : G) (ops : List POp) (seq : List Nat) : G :=
  let head := (topo g.labels.length g.es).headD 0
  (ops.foldl (addStep head seq) { g := g, prev := head }).g

/-! ## `Aligner::consensus` -/

/-- weight of all edges `u → v` (`edges_connecting(..).sum()`) -/
def wsum (es : WEdges) (u v : Nat) : Int :=
  (es.filter fun e => e.1 == u && e.2.1 == v).foldl (fun a e => a + e.2.2) 0

/-- lexicographic `>` on `(weight, score, index)` -/
def tgt (a b : Int × Int × Nat) : Bool :=
  a.1 > b.1 || (a.1 == b.1 && (a.2.1 > b.2.1 || (a.2.1 == b.2.1 && a.2.2 > b.2.2)))

/-- `none` as predecessor = `usize::MAX`; entry = (weight, score, next) -/
abbrev CEntry := Int × Int × Option Nat

def consTable (n : Nat) (es : WEdges) : Array CEntry :=
  (topo n es).foldl (init := Array.replicate n ((0, 0, none) : CEntry)) fun tab v =>
    let best : Int × Int × Option Nat :=
      (inN es v).foldl (init := ((0, 0, none) : CEntry)) fun best u =>
        let w := wsum es u v
        let s := w + (tab.getD u (0, 0, none)).2.1
        -- `usize::MAX` compares greater than every index
        let gt := match best.2.2 with
          | none => w > best.1 || (w == best.1 && s > best.2.1)
          | some bi => tgt (w, s, u) (best.1, best.2.1, bi)
        if gt then (w, s, some u) else best
    tab.setIfInBounds v best

/-- index of the last maximum of the scores (`max_by_key` returns the last one) -/
def argmaxLast (tab : Array CEntry) : Nat :=
  (tab.toList.zipIdx.foldl (init := ((0 : Nat), (none : Option Int))) fun (bi, bs) (e, i) =>
    match bs with
    | none => (i, some e.2.1)
    | some s => if e.2.1 ≥ s then (i, some e.2.1) else (bi, bs)).1

def consWalk (labels : List Nat) (tab : Array CEntry) : Nat → Option Nat → List Nat → Option (List Nat)
  | 0, _, _ => none                 -- would loop
  | _, none, acc => some acc
  | f + 1, some pos, acc =>
    if pos < labels.length then consWalk labels tab f (tab.getD pos (0, 0, none)).2.2 (labels.getD pos 0 :: acc)
    else none                        -- index out of bounds in the Rust code

def consensus (labels : List Nat) (es : WEdges) : Option (List Nat) :=
  let tab := consTable labels.length es
  consWalk labels tab (labels.length + 2) (some (argmaxLast tab)) []

/-! ## Certificate for "the operation list walks the graph in topological order"

`bodyB rk n0 head (rk head) false ops` is the hypothesis of `addAlignment_acyclic_of_bodyB`
(`RbV/Lemmas/PoaAcyclic.lean`); `topoRank` is the rank function the driver evaluates it with. -/

/-- `b` bounds the rank of `prev`, `nc` is the value of `edge_not_connected`; every named node (and the head,
when an edge into it is due) must lie above `b` -/
def bodyB (rk : Nat → Nat) (n0 head : Nat) : Nat → Bool → List POp → Bool
  | _, _, [] => true
  | b, false, .m none :: r => bodyB rk n0 head b false r
  | b, true, .m none :: r => decide (b < rk head) && bodyB rk n0 head (rk head) false r
  | b, nc, .m (some (_, p)) :: r => decide (p < n0) && decide (b < rk p) && bodyB rk n0 head (rk p) nc r
  | b, nc, .i (some _) :: r => bodyB rk n0 head (b + 1) nc r
  | _, false, .i none :: r => bodyB rk n0 head 0 true r
  | b, true, .i none :: r => bodyB rk n0 head (b + 1) true r
  | b, nc, .d _ :: r => bodyB rk n0 head b nc r
  | b, nc, .x _ :: r => bodyB rk n0 head b nc r
  | b, nc, .y _ _ :: r => bodyB rk n0 head b nc r

/-- `K · (1 + position in topo)`; nodes `topo` does not reach get rank 0.  (The proofs about the model's traceback use another rank
function of the same order, `topoRk` of `Lemmas/PoaTopo.lean`; no lemma relates the two.) -/
def topoRank (n : Nat) (es : WEdges) (K : Nat) : Nat → Nat :=
  let order := topo n es
  let ranks := order.zipIdx.foldl (init := Array.replicate n 0) fun a (v, i) => a.setIfInBounds v (K * (i + 1))
  fun v => ranks.getD v 0

/-- do the observed operations carry the certificate for this graph? -/
def acyclicCert (g : G) (ops : List POp) : Bool :=
  let n := g.labels.length
  let head := (topo n g.es).headD 0
  let rk := topoRank n g.es (ops.length + 1)
  decide (head < n) &&
  g.es.all (fun e => decide (e.1 < n) && decide (e.2.1 < n) && decide (rk e.1 < rk e.2.1)) &&
  bodyB rk n head (rk head) false ops

end RbV.Poa.Model
