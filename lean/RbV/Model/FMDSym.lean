import RbV.Model.FMDRev
import RbV.Basic.Sorted
import RbV.Basic.Slices
import RbV.Basic.PrefixCount
/-!
# Strand symmetry of an FMD text (C06)

Occurrence counts in `fmdText seqs` are invariant under reverse complement; this discharges the hypothesis `hsym` of
`FMDModel.backwardExt_reverse_fmd`.  With it: `backwardExt_correct`, `forwardExt_correct`, `initIntervalWith_correct`
(the operations keep `BiOf`: both row intervals of a bi-interval hold exactly the rows of the string and of its reverse
complement) and the steps `chain_start` / `chain_step_forward` / `chain_step_backward` along a pattern.
-/
/- The two tables of the index of an FMD text keep the namespace of `Thm/GenSrcFmdIndex.lean`, whose theorems about the
translated `smems` / `all_smems` are stated with them. -/
namespace RbV.Thm.GenSrcFmdIndex
open RbV RbV.BSModel RbV.LF RbV.FMDModel

/-- `less` of the index of an FMD text: of the BWT of `fmdText seqs` under the array `sa` -/
abbrev lessI (seqs : List (List Nat)) (sa : List Nat) : Nat → Nat := lessRef (bwtOf (fmdText seqs) sa)

/-- `occ` of that index -/
abbrev occI (seqs : List (List Nat)) (sa : List Nat) : Nat → Nat → Nat := occRef (bwtOf (fmdText seqs) sa)

end RbV.Thm.GenSrcFmdIndex

namespace RbV.FMDSym
open RbV RbV.BSModel RbV.LF RbV.FMDModel

/-! ### occurrences, pointwise -/

theorem dnaCompl_invol (c : Nat) : dnaCompl (dnaCompl c) = c := by
  by_cases h1 : c = 65
  · subst h1; decide
  by_cases h2 : c = 84
  · subst h2; decide
  by_cases h3 : c = 67
  · subst h3; decide
  by_cases h4 : c = 71
  · subst h4; decide
  by_cases h5 : c = 97
  · subst h5; decide
  by_cases h6 : c = 116
  · subst h6; decide
  by_cases h7 : c = 99
  · subst h7; decide
  by_cases h8 : c = 103
  · subst h8; decide
  have : dnaCompl c = c := by simp [dnaCompl, h1, h2, h3, h4, h5, h6, h7, h8]
  rw [this, this]

theorem revcomp_length (s : List Nat) : (revcomp s).length = s.length := by simp [revcomp]

theorem revcomp_revcomp (s : List Nat) : revcomp (revcomp s) = s := by
  simp only [revcomp, List.map_reverse, List.reverse_reverse, List.map_map]
  conv => rhs; rw [← List.map_id s]
  apply List.map_congr_left
  intro c _
  simp [dnaCompl_invol]

theorem revcomp_append (x y : List Nat) : revcomp (x ++ y) = revcomp y ++ revcomp x := by
  simp [revcomp]

theorem revcomp_cons (a : Nat) (P : List Nat) : revcomp (a :: P) = revcomp P ++ [dnaCompl a] := by simp [revcomp]

theorem revcomp_ne_nil {P : List Nat} (hP : P ≠ []) : revcomp P ≠ [] := fun h =>
  hP (List.length_eq_zero_iff.mp (by rw [← revcomp_length, h]; rfl))

theorem revcomp_dna {P : List Nat} (hP : ∀ q ∈ P, isDna q = true) : ∀ q ∈ revcomp P, isDna q = true := by
  intro q hq
  simp only [revcomp, List.mem_map, List.mem_reverse] at hq
  obtain ⟨d, hd, rfl⟩ := hq
  exact isDna_compl d (hP d hd)

theorem revcomp_get (X : List Nat) (j : Nat) (hj : j < X.length) :
    (revcomp X)[j]? = (X[X.length - 1 - j]?).map dnaCompl := by
  unfold revcomp
  rw [List.getElem?_map, List.getElem?_reverse hj]

theorem occursAt_revcomp (W X : List Nat) (p : Nat) (h : OccursAt W X p) :
    OccursAt (revcomp W) (revcomp X) (X.length - W.length - p) := by
  rw [occursAt_iff_idx] at h ⊢
  obtain ⟨h1, h2⟩ := h
  simp only [revcomp_length]
  refine ⟨by omega, fun k hk => ?_⟩
  rw [revcomp_get X _ (by omega), revcomp_get W _ hk]
  have e : X.length - 1 - (X.length - W.length - p + k) = p + (W.length - 1 - k) := by omega
  rw [e, h2 _ (by omega)]

theorem occurrences_revcomp_length (W X : List Nat) :
    (occurrences W X).length = (occurrences (revcomp W) (revcomp X)).length := by
  have hmapnd : ((occurrences W X).map (fun p => X.length - W.length - p)).Nodup := by
    rw [List.nodup_iff_pairwise_ne, List.pairwise_map]
    apply (occurrences_sorted W X).imp_of_mem
    intro a b ha hb hab
    have h1 := ((mem_occurrences W X a).mp ha).1
    have h2 := ((mem_occurrences W X b).mp hb).1
    omega
  have hperm : ((occurrences W X).map (fun p => X.length - W.length - p)).Perm
      (occurrences (revcomp W) (revcomp X)) := by
    rw [List.perm_ext_iff_of_nodup hmapnd (occurrences_nodup _ _)]
    intro q
    simp only [List.mem_map, mem_occurrences]
    constructor
    · rintro ⟨p, hp, rfl⟩; exact occursAt_revcomp W X p hp
    · intro hq
      have := occursAt_revcomp _ _ q hq
      simp only [revcomp_revcomp, revcomp_length] at this
      refine ⟨_, this, ?_⟩
      have hb := hq.1
      simp only [revcomp_length] at hb
      omega
  have := hperm.length_eq
  simpa using this

/-! ### occurrences in a concatenation whose first part ends with the sentinel -/

/-- `V` (length ≥ 2, no sentinel except possibly at its end) cannot straddle the sentinel that ends `X` -/
theorem occursAt_append_text (V X Y : List Nat) (hV2 : 2 ≤ V.length)
    (hVns : ∀ k, k + 1 < V.length → V[k]? ≠ some 36)
    (hlast : X[X.length - 1]? = some 36) (p : Nat) :
    OccursAt V (X ++ Y) p ↔ (OccursAt V X p ∨ (X.length ≤ p ∧ OccursAt V Y (p - X.length))) := by
  by_cases hA : p + V.length ≤ X.length
  · have e : OccursAt V (X ++ Y) p ↔ OccursAt V X p := by
      simp only [OccursAt, List.length_append, List.drop_append_of_le_length (show p ≤ X.length by omega),
        List.take_append_of_le_length (show V.length ≤ (X.drop p).length by rw [List.length_drop]; omega)]
      exact and_congr_left' (by omega)
    rw [e]
    exact ⟨Or.inl, fun h => h.elim id (fun h' => by omega)⟩
  · by_cases hB : X.length ≤ p
    · have e : OccursAt V (X ++ Y) p ↔ OccursAt V Y (p - X.length) := by
        simp only [OccursAt, List.length_append, List.drop_append, List.drop_eq_nil_of_le hB,
          List.nil_append]
        exact and_congr_left' (by omega)
      rw [e]
      exact ⟨fun h => Or.inr ⟨hB, h⟩, fun h => h.elim (fun h' => absurd h'.1 hA) (·.2)⟩
    · -- across the end of `X`: the symbol of `V` on the last position of `X` would be the sentinel
      refine ⟨fun h => ?_, fun h => h.elim (fun h' => absurd h'.1 hA) (fun h' => absurd h'.1 hB)⟩
      have := ((occursAt_iff_idx _ _ _).mp h).2 (X.length - 1 - p) (by omega)
      rw [show p + (X.length - 1 - p) = X.length - 1 by omega, List.getElem?_append_left (by omega), hlast] at this
      exact absurd this.symm (hVns _ (by omega))

theorem occurrences_append_length (V X Y : List Nat) (hV2 : 2 ≤ V.length)
    (hVns : ∀ k, k + 1 < V.length → V[k]? ≠ some 36)
    (hlast : X[X.length - 1]? = some 36) :
    (occurrences V (X ++ Y)).length = (occurrences V X).length + (occurrences V Y).length := by
  have heq : occurrences V (X ++ Y) = occurrences V X ++ (occurrences V Y).map (· + X.length) := by
    apply sorted_eq_of_mem_iff _ _ (occurrences_sorted _ _)
    · rw [List.pairwise_append]
      refine ⟨occurrences_sorted _ _, ?_, ?_⟩
      · rw [List.pairwise_map]
        exact (occurrences_sorted _ _).imp (fun h => Nat.add_lt_add_right h _)
      · intro a ha b hb
        have h1 := ((mem_occurrences _ _ a).mp ha).1
        simp only [List.mem_map] at hb
        obtain ⟨b', _, rfl⟩ := hb
        omega
    · intro i
      rw [mem_occurrences, occursAt_append_text V X Y hV2 hVns hlast i]
      simp only [List.mem_append, List.mem_map, mem_occurrences]
      constructor
      · rintro (h | ⟨h1, h2⟩)
        · exact Or.inl h
        · exact Or.inr ⟨_, h2, Nat.sub_add_cancel h1⟩
      · rintro (h | ⟨b', h2, rfl⟩)
        · exact Or.inl h
        · exact Or.inr ⟨Nat.le_add_left _ _, by simpa using h2⟩
  rw [heq]; simp

/-! ### blocks of an FMD text -/

def block (s : List Nat) : List Nat := s ++ [fmdSentinel] ++ revcomp s ++ [fmdSentinel]

theorem fmdText_cons (s : List Nat) (rest : List (List Nat)) : fmdText (s :: rest) = block s ++ fmdText rest := by
  simp [fmdText, block]

theorem fmdText_append (a b : List (List Nat)) : fmdText (a ++ b) = fmdText a ++ fmdText b := by
  simp [fmdText]

theorem block_pos (s : List Nat) : 0 < (block s).length := by simp [block]; omega

theorem fmd_length_pos (seqs : List (List Nat)) (hne : seqs ≠ []) : 0 < (fmdText seqs).length := by
  cases seqs with
  | nil => exact absurd rfl hne
  | cons s rest => rw [fmdText_cons]; have := block_pos s; simp only [List.length_append]; omega

theorem block_last (s : List Nat) : (block s)[(block s).length - 1]? = some 36 := by
  have h : (block s).length - 1 = (s ++ [fmdSentinel] ++ revcomp s).length := by simp [block]
  rw [h]
  unfold block
  rw [List.getElem?_append_right (Nat.le_refl _)]
  simp [fmdSentinel]

def blockCount (V : List Nat) (seqs : List (List Nat)) : Nat :=
  (seqs.map (fun s => (occurrences V (block s)).length)).sum

theorem fmd_count (V : List Nat) (hV2 : 2 ≤ V.length) (hVns : ∀ k, k + 1 < V.length → V[k]? ≠ some 36)
    (seqs : List (List Nat)) : (occurrences V (fmdText seqs)).length = blockCount V seqs := by
  induction seqs with
  | nil =>
    have : fmdText [] = [] := by simp [fmdText]
    rw [this, occurrences_short V [] (by simp; omega)]
    simp [blockCount]
  | cons s rest ih =>
    rw [fmdText_cons, occurrences_append_length V (block s) (fmdText rest) hV2 hVns (block_last s), ih]
    simp [blockCount]

theorem blockCount_reverse (V : List Nat) (seqs : List (List Nat)) :
    blockCount V seqs.reverse = blockCount V seqs := by
  simp [blockCount, List.map_reverse, List.sum_reverse]

theorem revcomp_single : revcomp [36] = [36] := by decide

theorem revcomp_block (s : List Nat) : revcomp (block s) ++ [36] = 36 :: block s := by
  unfold block
  simp only [revcomp_append, revcomp_revcomp, fmdSentinel, revcomp_single]
  simp

theorem revcomp_fmdText (seqs : List (List Nat)) :
    revcomp (fmdText seqs) ++ [36] = 36 :: fmdText seqs.reverse := by
  induction seqs with
  | nil => simp [fmdText, revcomp]
  | cons s rest ih =>
    rw [fmdText_cons, revcomp_append, List.append_assoc, revcomp_block, List.reverse_cons, fmdText_append]
    have : revcomp (fmdText rest) ++ 36 :: block s = (revcomp (fmdText rest) ++ [36]) ++ block s := by simp
    rw [this, ih]
    simp [fmdText, block]

theorem dnaCompl_eq_sentinel (c : Nat) (h : dnaCompl c = 36) : c = 36 := by
  have := dnaCompl_invol c
  rw [h] at this
  rw [← this]; decide

/-- **Strand symmetry.**  For a string `W` of length ≥ 2 whose symbols after the first are not the sentinel, the
number of occurrences in `$·T` (i.e. in `T` with the cyclic predecessor of position 0) equals the number of
occurrences of its reverse complement in `T = fmdText seqs`. -/
theorem strand_symmetry (seqs : List (List Nat)) (W : List Nat) (hW2 : 2 ≤ W.length)
    (hWns : ∀ k, 1 ≤ k → k < W.length → W[k]? ≠ some 36) :
    (occurrences W (36 :: fmdText seqs)).length = (occurrences (revcomp W) (fmdText seqs)).length := by
  have hV2 : 2 ≤ (revcomp W).length := by rw [revcomp_length]; exact hW2
  have hVns : ∀ k, k + 1 < (revcomp W).length → (revcomp W)[k]? ≠ some 36 := by
    intro k hk
    rw [revcomp_length] at hk
    rw [revcomp_get W k (by omega)]
    intro h
    have hidx : W.length - 1 - k < W.length := by omega
    rw [List.getElem?_eq_getElem hidx] at h
    simp only [Option.map_some, Option.some.injEq] at h
    have := dnaCompl_eq_sentinel _ h
    apply hWns (W.length - 1 - k) (by omega) hidx
    rw [List.getElem?_eq_getElem hidx, this]
  rw [occurrences_revcomp_length W (36 :: fmdText seqs)]
  have e : revcomp (36 :: fmdText seqs) = [36] ++ fmdText seqs.reverse := by
    have : (36 :: fmdText seqs) = [36] ++ fmdText seqs := rfl
    rw [this, revcomp_append, revcomp_single, revcomp_fmdText]; rfl
  rw [e, occurrences_append_length (revcomp W) [36] _ hV2 hVns (by simp),
    occurrences_short (revcomp W) [36] (by simp; omega),
    fmd_count _ hV2 hVns, blockCount_reverse, ← fmd_count _ hV2 hVns]
  simp

/-! ### from rows to positions -/

theorem cntOf_eq (t sa : List Nat) (iv : Bi) (b : Nat) (hpos : 0 < iv.size) :
    cntOf (occRef (bwtOf t sa)) iv b =
      (ivMap sa iv.lower (iv.lower + iv.size)).countP (fun p => bwSym t p == b) := by
  have e1 : occRef (bwtOf t sa) (iv.lower + iv.size - 1) b = ((bwtOf t sa).take (iv.lower + iv.size)).count b := by
    unfold occRef; congr 2; omega
  have e2 : (if iv.lower = 0 then 0 else occRef (bwtOf t sa) (iv.lower - 1) b) = ((bwtOf t sa).take iv.lower).count b := by
    split
    · rename_i h; rw [h]; simp
    · unfold occRef; congr 2; omega
  unfold cntOf
  rw [e1, e2, List.take_add, List.count_append, Nat.add_sub_cancel_left]
  unfold bwtOf ivMap
  rw [← List.map_drop, ← List.map_take, List.count_eq_countP, List.countP_map, Nat.add_sub_cancel_left]
  rfl

theorem ivMap_perm (t sa P : List Nat) (lo hi : Nat) (hperm : sa.Perm (List.range t.length)) (hP : P ≠ [])
    (hiv : IvOf t sa P lo hi) : (ivMap sa lo hi).Perm (occurrences P t) := by
  have hnd : (ivMap sa lo hi).Nodup :=
    (PermPos.nodup hperm).sublist ((List.take_sublist _ _).trans (List.drop_sublist _ _))
  rw [List.perm_ext_iff_of_nodup hnd (occurrences_nodup _ _)]
  intro i
  rw [mem_occurrences]
  exact (ivOf_mapsTo t sa P lo hi (surj_of_perm hperm) hP hiv).2.2 i

theorem ivMap_eq_map (sa : List Nat) (L S : Nat) (h : L + S ≤ sa.length) :
    ivMap sa L (L + S) = (List.range S).map (fun i => sa.getD (L + i) 0) := by
  unfold ivMap
  apply List.ext_getElem?
  intro k
  rw [Nat.add_sub_cancel_left, List.getElem?_take, List.getElem?_map]
  · by_cases hk : k < S
    · rw [if_pos hk, List.getElem?_drop]
      have : L + k < sa.length := by omega
      simp [List.getD_eq_getElem?_getD, List.getElem?_eq_getElem this, List.getElem?_range hk]
    · rw [if_neg hk]
      have : (List.range S)[k]? = none := List.getElem?_eq_none (by simp; omega)
      simp [this]

theorem ivOf_size {t sa P : List Nat} {lo S : Nat} (hperm : sa.Perm (List.range t.length)) (hP : P ≠ [])
    (hiv : IvOf t sa P lo (lo + S)) : S = (occurrences P t).length := by
  have := (ivMap_perm t sa P _ _ hperm hP hiv).length_eq
  rwa [ivMap_eq_map sa lo S hiv.2.1, List.length_map, List.length_range] at this

/-! ### from positions to occurrences of the extended strings -/

theorem count_prev (T P : List Nat) (b : Nat) (hP : P ≠ [])
    (hlast : T.getD (T.length - 1) 0 = 36) :
    (occurrences P T).countP (fun p => bwSym T p == b) = (occurrences (b :: P) (36 :: T)).length := by
  rw [List.countP_eq_length_filter]
  congr 1
  apply sorted_eq_of_mem_iff _ _ ((occurrences_sorted P T).filter _) (occurrences_sorted _ _)
  intro p
  simp only [List.mem_filter, mem_occurrences, beq_iff_eq]
  rw [occursAt_cons_iff, occursAt_shift]
  have hprev : (36 :: T).getD p 0 = bwSym T p := by
    cases p with
    | zero => simp only [bwSym, Nat.lt_irrefl, if_false, hlast]; simp
    | succ q => simp [bwSym]
  rw [hprev]
  constructor
  · rintro ⟨h1, h2⟩
    exact ⟨by have := h1.lt hP; simp; omega, h2, h1⟩
  · rintro ⟨_, h2, h1⟩; exact ⟨h1, h2⟩

theorem count_next (T Q : List Nat) (c : Nat) (hQ : Q ≠ []) (hlast : T.getD (T.length - 1) 0 = 36)
    (hQd : ∀ q ∈ Q, isDna q = true) :
    (occurrences Q T).countP (fun p => T.getD (p + Q.length) 0 == c) = (occurrences (Q ++ [c]) T).length := by
  rw [List.countP_eq_length_filter]
  congr 1
  apply sorted_eq_of_mem_iff _ _ ((occurrences_sorted Q T).filter _) (occurrences_sorted _ _)
  intro p
  simp only [List.mem_filter, mem_occurrences, beq_iff_eq]
  rw [occursAt_snoc]
  constructor
  · rintro ⟨h1, h2⟩
    exact ⟨h1, fmd_next_exists T Q hlast hQd p (h1.lt hQ) h1, h2⟩
  · rintro ⟨h1, _, h2⟩; exact ⟨h1, h2⟩

/-! ### strand symmetry in the form `backwardExt_reverse_fmd` needs -/

theorem cntOf_eq_rows_next (seqs : List (List Nat)) (sa P : List Nat) (iv : Bi)
    (hI : FmdIdx seqs sa) (hP : P ≠ []) (hPd : ∀ q ∈ P, isDna q = true)
    (hfw : IvOf (fmdText seqs) sa P iv.lower (iv.lower + iv.size))
    (hrv : IvOf (fmdText seqs) sa (revcomp P) iv.lowerRev (iv.lowerRev + iv.size))
    (hpos : 0 < iv.size) :
    ∀ b ∈ order, cntOf (occRef (bwtOf (fmdText seqs) sa)) iv b =
      (List.range iv.size).countP
        (fun i => (fmdText seqs).getD (sa.getD (iv.lowerRev + i) 0 + (revcomp P).length) 0 == dnaCompl b) := by
  intro b _
  have hQ := revcomp_ne_nil hP
  have hQd := revcomp_dna hPd
  rw [cntOf_eq _ _ _ _ hpos, (ivMap_perm _ _ P _ _ hI.perm hP hfw).countP_eq,
    count_prev _ P b hP hI.last]
  have hR : (List.range iv.size).countP
      (fun i => (fmdText seqs).getD (sa.getD (iv.lowerRev + i) 0 + (revcomp P).length) 0 == dnaCompl b) =
      (ivMap sa iv.lowerRev (iv.lowerRev + iv.size)).countP
        (fun p => (fmdText seqs).getD (p + (revcomp P).length) 0 == dnaCompl b) := by
    rw [ivMap_eq_map sa _ _ hrv.2.1, List.countP_map]; rfl
  rw [hR, (ivMap_perm _ _ (revcomp P) _ _ hI.perm hQ hrv).countP_eq,
    count_next _ (revcomp P) (dnaCompl b) hQ hI.last hQd]
  have hW2 : 2 ≤ (b :: P).length := by
    cases P with
    | nil => exact absurd rfl hP
    | cons a q => simp
  have hWns : ∀ k, 1 ≤ k → k < (b :: P).length → (b :: P)[k]? ≠ some 36 := by
    intro k hk1 hk2 h
    obtain ⟨k', rfl⟩ : ∃ k', k = k' + 1 := ⟨k - 1, by omega⟩
    rw [List.getElem?_cons_succ] at h
    have hk' : k' < P.length := by simp only [List.length_cons] at hk2; omega
    rw [List.getElem?_eq_getElem hk'] at h
    have := hPd _ (List.getElem_mem hk')
    simp only [Option.some.injEq] at h
    rw [h] at this
    exact absurd this (by decide)
  rw [strand_symmetry seqs (b :: P) hW2 hWns]
  rw [revcomp_cons]

/-! ### `backward_ext` and `forward_ext` are correct on every FMD index -/

/-- the two row intervals of a bi-interval hold exactly the rows of `P` and of `revcomp P` -/
def BiOf (T sa P : List Nat) (iv : Bi) : Prop :=
  IvOf T sa P iv.lower (iv.lower + iv.size) ∧ IvOf T sa (revcomp P) iv.lowerRev (iv.lowerRev + iv.size)

/-- **`backward_ext` is correct**: on an index over `fmdText seqs` whose array passes `sortedAllB`, if `iv` is the
(non-empty) bi-interval of the non-empty DNA string `P`, then `backward_ext(iv, a)` is the bi-interval of `a·P`, for
every `a` of `ACGTNacgtn`. -/
theorem backwardExt_correct (seqs : List (List Nat)) (sa P : List Nat) (iv : Bi) (a : Nat)
    (hI : FmdIdx seqs sa) (hseqs : ∀ s ∈ seqs, ∀ c ∈ s, isDna c = true)
    (hP : P ≠ []) (hPd : ∀ q ∈ P, isDna q = true) (ha : isDna a = true)
    (hbi : BiOf (fmdText seqs) sa P iv) (hpos : 0 < iv.size) :
    BiOf (fmdText seqs) sa (a :: P)
      (backwardExt (lessRef (bwtOf (fmdText seqs) sa)) (occRef (bwtOf (fmdText seqs) sa)) iv a) := by
  have hao := (dna_facts a ha).1
  obtain ⟨hfw, hrv⟩ := hbi
  refine ⟨backwardExt_forward _ sa _ _ a P iv hao (lfStep_of_sorted (hI.sorted a ha)) hfw hpos, ?_⟩
  have hQd := revcomp_dna hPd
  have := backwardExt_reverse_fmd seqs sa (lessRef (bwtOf (fmdText seqs) sa)) (occRef (bwtOf (fmdText seqs) sa))
    a (revcomp P) iv hao hI hseqs hQd hrv (cntOf_eq_rows_next seqs sa P iv hI hP hPd hfw hrv hpos)
  rw [revcomp_cons]; exact this

theorem biOf_swapped (T sa P : List Nat) (iv : Bi) (h : BiOf T sa P iv) : BiOf T sa (revcomp P) (swapped iv) := by
  obtain ⟨h1, h2⟩ := h
  exact ⟨h2, by rw [revcomp_revcomp]; exact h1⟩

/-- **`forward_ext` is correct**: `forward_ext(iv, a)` is the bi-interval of `P·a` -/
theorem forwardExt_correct (seqs : List (List Nat)) (sa P : List Nat) (iv : Bi) (a : Nat)
    (hI : FmdIdx seqs sa) (hseqs : ∀ s ∈ seqs, ∀ c ∈ s, isDna c = true)
    (hP : P ≠ []) (hPd : ∀ q ∈ P, isDna q = true) (ha : isDna a = true)
    (hbi : BiOf (fmdText seqs) sa P iv) (hpos : 0 < iv.size) :
    BiOf (fmdText seqs) sa (P ++ [a])
      (forwardExt (lessRef (bwtOf (fmdText seqs) sa)) (occRef (bwtOf (fmdText seqs) sa)) iv a) := by
  have hca := isDna_compl a ha
  have hQ := revcomp_ne_nil hP
  have hQd := revcomp_dna hPd
  have h := backwardExt_correct seqs sa (revcomp P) (swapped iv) (dnaCompl a) hI hseqs hQ hQd hca
    (biOf_swapped _ _ _ _ hbi) hpos
  have h' := biOf_swapped _ _ _ _ h
  rwa [revcomp_cons, revcomp_revcomp, dnaCompl_invol] at h'

/-- in the terms of the specification (`BiIntervalOf`, `RbV/Spec/FMD.lean`): sizes = number of occurrences, and both
intervals map to exactly the occurrences of the string / of its reverse complement -/
theorem biIntervalOf_of_biOf (T sa P : List Nat) (iv : Bi) (hperm : sa.Perm (List.range T.length)) (hP : P ≠ [])
    (h : BiOf T sa P iv) :
    BiIntervalOf T sa P ⟨iv.lower, iv.lower + iv.size, iv.lowerRev, iv.lowerRev + iv.size⟩ := by
  obtain ⟨h1, h2⟩ := h
  have hQ := revcomp_ne_nil hP
  refine ⟨Nat.le_add_right _ _, Nat.le_add_right _ _, ?_, ?_, fun _ => ⟨ivOf_mapsTo T sa P _ _ (surj_of_perm hperm) hP h1,
    ivOf_mapsTo T sa _ _ _ (surj_of_perm hperm) hQ h2⟩⟩
  · exact (Nat.add_sub_cancel_left ..).trans (ivOf_size hperm hP h1)
  · exact (Nat.add_sub_cancel_left ..).trans (ivOf_size hperm hP h1)

/-! ### `init_interval_with` -/

theorem lessRef_succ (bwt : List Nat) (a : Nat) : lessRef bwt (a + 1) = lessRef bwt a + bwt.count a :=
  List.countP_lt_succ bwt a

theorem ivOf_single (t sa : List Nat) (a : Nat) (hs : Sorted t sa a) :
    IvOf t sa [a] (lessRef (bwtOf t sa) a) (lessRef (bwtOf t sa) a + (bwtOf t sa).count a) := by
  have hperm := hs.perm
  have h0 : IvOf t sa [] 0 sa.length := ivOf_nil t sa (fun row hrow => Nat.le_of_lt (PermPos.getD_lt hperm row hrow))
  have := ivOf_step hs [] 0 sa.length h0
  have e0 : occLt (bwtOf t sa) 0 a = 0 := by simp [occLt]
  have e1 : occLt (bwtOf t sa) sa.length a = (bwtOf t sa).count a := by
    unfold occLt
    rw [List.take_of_length_le (Nat.le_of_eq (length_bwtOf t sa))]
  rw [e0, e1] at this
  simpa using this

theorem count_compl_map (l : List Nat) (a : Nat) : (l.map dnaCompl).count (dnaCompl a) = l.count a := by
  rw [List.count_eq_countP, List.countP_map, List.count_eq_countP]
  apply List.countP_congr
  intro x _
  simp only [Function.comp, beq_iff_eq]
  constructor
  · intro h; have := congrArg dnaCompl h; simpa [dnaCompl_invol] using this
  · intro h; rw [h]

theorem count_revcomp (l : List Nat) (a : Nat) : (revcomp l).count (dnaCompl a) = l.count a := by
  unfold revcomp
  rw [count_compl_map, List.count_reverse]

theorem count_fmdText (seqs : List (List Nat)) (c : Nat) :
    (fmdText seqs).count c = (seqs.map (fun s => (block s).count c)).sum := by
  induction seqs with
  | nil => simp [fmdText]
  | cons s rest ih => rw [fmdText_cons, List.count_append, ih]; simp

theorem count_symmetry (seqs : List (List Nat)) (a : Nat) (ha : a ≠ 36) :
    (fmdText seqs).count (dnaCompl a) = (fmdText seqs).count a := by
  have hc : dnaCompl a ≠ 36 := fun h => ha (dnaCompl_eq_sentinel a h)
  have h1 : (revcomp (fmdText seqs) ++ [36]).count (dnaCompl a) = (fmdText seqs).count a := by
    rw [List.count_append, count_revcomp]
    simp [List.count_singleton, Ne.symm hc]
  rw [revcomp_fmdText, List.count_cons] at h1
  have h36 : ((36 : Nat) == dnaCompl a) = false := by simp [Ne.symm hc]
  rw [h36] at h1
  simp only [Bool.false_eq_true, if_false, Nat.add_zero] at h1
  rw [← h1, count_fmdText, count_fmdText, List.map_reverse, List.sum_reverse]

theorem count_bwt (t sa : List Nat) (hperm : sa.Perm (List.range t.length)) (c : Nat) :
    (bwtOf t sa).count c = t.count c := countP_bwtOf hperm (· == c)

/-! ### `less(a) ≥ 1` for every DNA symbol: the sentinel occurs and is smaller -/

theorem less_pos (seqs : List (List Nat)) (sa : List Nat) (hne : seqs ≠ [])
    (hperm : sa.Perm (List.range (fmdText seqs).length)) (a : Nat) (ha : isDna a = true) :
    lessRef (bwtOf (fmdText seqs) sa) a ≠ 0 :=
  Nat.ne_of_gt (less_pos_of_perm hperm (fmd_length_pos seqs hne) (by rw [fmd_last seqs hne]; exact dna_gt a ha))

/-- **`init_interval_with(a)` is the bi-interval of the one-symbol string `a`** -/
theorem initIntervalWith_correct (seqs : List (List Nat)) (sa : List Nat) (a : Nat)
    (hI : FmdIdx seqs sa) (ha : isDna a = true) :
    BiOf (fmdText seqs) sa [a] (initIntervalWith (lessRef (bwtOf (fmdText seqs) sa)) a) := by
  have hca := isDna_compl a ha
  have hperm := hI.perm
  have hsize : (initIntervalWith (lessRef (bwtOf (fmdText seqs) sa)) a).size = (bwtOf (fmdText seqs) sa).count a := by
    simp only [initIntervalWith, lessRef_succ]; omega
  have hcnt : (bwtOf (fmdText seqs) sa).count (dnaCompl a) = (bwtOf (fmdText seqs) sa).count a := by
    rw [count_bwt _ _ hperm, count_bwt _ _ hperm, count_symmetry seqs a (isDna_ne_sentinel a ha).symm]
  constructor
  · rw [hsize]; exact ivOf_single _ sa a (hI.sorted a ha)
  · have : revcomp [a] = [dnaCompl a] := by simp [revcomp]
    rw [this, hsize, ← hcnt]
    exact ivOf_single _ sa (dnaCompl a) (hI.sorted _ hca)

/-! ### substrings `sub w lo k` of a pattern: length, splitting, growing by one symbol (what `smems` and the harness chains do) -/

theorem length_sub (pat : List Nat) (b len : Nat) (h : b + len ≤ pat.length) : (sub pat b len).length = len := by
  simp only [sub, List.length_take, List.length_drop]; omega

theorem sub_append (pat : List Nat) (b x n : Nat) : sub pat b (x + n) = sub pat b x ++ sub pat (b + x) n := by
  unfold sub
  rw [List.take_add, List.drop_drop]

theorem sub_snoc (w : List Nat) (lo k : Nat) (h : lo + k < w.length) :
    sub w lo (k + 1) = sub w lo k ++ [w.getD (lo + k) 0] := by
  unfold sub
  have hk : k < (w.drop lo).length := by simp; omega
  rw [List.take_succ_eq_append_getElem hk, List.getElem_drop, List.getD_eq_getElem _ _ _ h]

theorem sub_cons (w : List Nat) (lo k : Nat) (h1 : 1 ≤ lo) (h2 : lo - 1 < w.length) :
    sub w (lo - 1) (k + 1) = w.getD (lo - 1) 0 :: sub w lo k := by
  unfold sub
  rw [List.drop_eq_getD_cons w (lo - 1) 0 h2, List.take_succ_cons, Nat.sub_add_cancel h1]

theorem sub_ne_nil (w : List Nat) (lo k : Nat) (hk : 0 < k) (h : lo < w.length) : sub w lo k ≠ [] := by
  intro he
  have := congrArg List.length he
  simp only [sub, List.length_take, List.length_drop, List.length_nil] at this
  omega

theorem sub_dna (w : List Nat) (lo k : Nat) (hw : ∀ c ∈ w, isDna c = true) : ∀ q ∈ sub w lo k, isDna q = true := by
  intro q hq
  exact hw q ((List.drop_sublist lo w).subset ((List.take_sublist k _).subset hq))

/-- one forward step of a chain: from the bi-interval of `w[lo..hi)` to that of `w[lo..hi+1)` -/
theorem chain_step_forward (seqs : List (List Nat)) (sa w : List Nat) (iv : Bi) (lo hi : Nat)
    (hI : FmdIdx seqs sa) (hseqs : ∀ s ∈ seqs, ∀ c ∈ s, isDna c = true) (hw : ∀ c ∈ w, isDna c = true)
    (hlh : lo < hi) (hhi : hi < w.length)
    (hbi : BiOf (fmdText seqs) sa (sub w lo (hi - lo)) iv) (hpos : 0 < iv.size) :
    BiOf (fmdText seqs) sa (sub w lo (hi + 1 - lo))
      (forwardExt (lessRef (bwtOf (fmdText seqs) sa)) (occRef (bwtOf (fmdText seqs) sa)) iv (w.getD hi 0)) := by
  have e2 : lo + (hi - lo) = hi := Nat.add_sub_cancel' (Nat.le_of_lt hlh)
  rw [Nat.succ_sub (Nat.le_of_lt hlh), sub_snoc w lo (hi - lo) (e2.symm ▸ hhi), e2]
  exact forwardExt_correct seqs sa _ iv _ hI hseqs
    (sub_ne_nil w lo _ (Nat.sub_pos_of_lt hlh) (Nat.lt_trans hlh hhi))
    (sub_dna w lo _ hw) (hw _ (List.getD_mem w hi 0 hhi)) hbi hpos

/-- one backward step of a chain: from the bi-interval of `w[lo..hi)` to that of `w[lo-1..hi)` -/
theorem chain_step_backward (seqs : List (List Nat)) (sa w : List Nat) (iv : Bi) (lo hi : Nat)
    (hI : FmdIdx seqs sa) (hseqs : ∀ s ∈ seqs, ∀ c ∈ s, isDna c = true) (hw : ∀ c ∈ w, isDna c = true)
    (hlo : 1 ≤ lo) (hlh : lo < hi) (hhi : hi ≤ w.length)
    (hbi : BiOf (fmdText seqs) sa (sub w lo (hi - lo)) iv) (hpos : 0 < iv.size) :
    BiOf (fmdText seqs) sa (sub w (lo - 1) (hi - (lo - 1)))
      (backwardExt (lessRef (bwtOf (fmdText seqs) sa)) (occRef (bwtOf (fmdText seqs) sa)) iv (w.getD (lo - 1) 0)) := by
  have e : hi - (lo - 1) = (hi - lo) + 1 := by omega
  have hlo1 : lo - 1 < w.length := by omega
  rw [e, sub_cons w lo (hi - lo) hlo hlo1]
  exact backwardExt_correct seqs sa _ iv _ hI hseqs
    (sub_ne_nil w lo _ (Nat.sub_pos_of_lt hlh) (Nat.lt_of_lt_of_le hlh hhi))
    (sub_dna w lo _ hw) (hw _ (List.getD_mem w (lo - 1) 0 hlo1)) hbi hpos

/-- start of a chain: `init_interval_with(w[j])` is the bi-interval of `w[j..j+1)` -/
theorem chain_start (seqs : List (List Nat)) (sa w : List Nat) (j : Nat)
    (hI : FmdIdx seqs sa) (hw : ∀ c ∈ w, isDna c = true)
    (hj : j < w.length) :
    BiOf (fmdText seqs) sa (sub w j (j + 1 - j))
      (initIntervalWith (lessRef (bwtOf (fmdText seqs) sa)) (w.getD j 0)) := by
  have e : j + 1 - j = 0 + 1 := Nat.add_sub_cancel_left ..
  rw [e, sub_snoc w j 0 hj]
  simp only [sub, List.take_zero, List.nil_append, Nat.add_zero]
  exact initIntervalWith_correct seqs sa _ hI (hw _ (List.getD_mem w j 0 hj))

end RbV.FMDSym
