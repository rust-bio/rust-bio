import RbV.Model.PairwiseFill
import RbV.Basic.I32
/-!
Checked-`i32` version of the functional mirror `Model/PairwiseFill.lean` of `bio::alignment::pairwise::Aligner::custom`.

Every `+` and `*` that the Rust text performs on `i32` values is `I32.add` / `I32.mul` here (a result outside
`[−2³¹, 2³¹)` is `none`: the panic of a build with `overflow-checks`), in the order and association of the Rust
text (`a + b + c` is `(a + b) + c`; a sum behind `&&` is evaluated only when the left operand holds; a sum that the text
evaluates twice — once in the `if`, once in the assignment — is written once, the two evaluations being the same
operation on the same operands); `i as i32`, `j as i32` are `I32.ofUsize` (truncating cast).  Comparisons, `max` and
moves between cells are exact on `i32`.  Everything else — the order of the candidates, the strict `>`, the registers,
the traceback codes — is literally `Model/PairwiseFill.lean`; the traceback `loop` does no score arithmetic and is
shared (`customOf`).

`Thm/C01.lean` `custom_i32_no_overflow`: inside the envelope `I32Env` no checked operation fails and this mirror
returns exactly what the unbounded mirror returns.  Core Lean only.
-/
namespace RbV.Model.PairwiseFill
open RbV.Align RbV.I32

/-- `iter` for a loop body that can panic -/
def iterC {α : Type} (step : Nat → α → Option α) : Nat → Nat → α → Option (List α)
  | 0, _, r => some [r]
  | k + 1, i, r =>
    match step (i + 1) r with
    | none => none
    | some r' =>
      match iterC step k (i + 1) r' with
      | none => none
      | some l => some (r :: l)

section
variable (sc : Sc) (cl : Clip) (x y : List Nat)

/-- `I[k][i]` of the initialisation, `D[curr][0]` of the `i = 0` block (`clipPen` = `xclip_prefix` / `yclip_prefix`,
`k` = `i` / `j`): `gap_open + gap_extend` for `k = 1`, else the larger of `gap_open + gap_extend * (k as i32)` and
`clip + gap_open + gap_extend`, with the code to write (`gapCode` = `TB_INS` / `TB_DEL`, `clipCode`) -/
def edgeC (clipPen : Int) (gapCode clipCode : Tb) (k : Nat) : Option (Int × Tb) :=
  if k = 1 then
    match add sc.go sc.ge with
    | none => none
    | some v => some (v, .start)
  else
    match mul sc.ge (ofUsize k) with
    | none => none
    | some t =>
      match add sc.go t with
      | none => none
      | some g_score =>
        match add clipPen sc.go with
        | none => none
        | some c0 =>
          match add c0 sc.ge with
          | none => none
          | some c_score => some (if g_score > c_score then (g_score, gapCode) else (c_score, clipCode))

/-- body of `for i in 1..=m` of the initialisation (`step0`) -/
def step0C (i : Nat) (r : Row) : Option Row :=
  let m := x.length
  match edgeC sc cl.xp .ins .xpre i with
  | none => none
  | some (iv, ti) =>
    let base := if i = m then r.xm else minScore
    let ts0 : Tb := if i = m then .xsuf else .start
    let s1 := upd iv base
    let ts1 : Tb := if iv > base then .ins else ts0
    let s2 := upd cl.xp s1
    let ts2 : Tb := if cl.xp > s1 then .xpre else ts1
    -- `if i != m && S[k][i] + xclip_suffix > S[k][m]`: the sum is evaluated only for `i != m`
    match (if i = m then some (s2, r.t.lx) else
        match add s2 cl.xs with
        | none => none
        | some c => some (upd c r.xm, if c > r.xm then m - i else r.t.lx)) with
    | none => none
    | some (xm, lx) =>
      -- `if S[k][i] + yclip_suffix > Sn[i]`
      match add s2 cl.ys with
      | none => none
      | some c =>
        let ly := if c > minScore then y.length else 0
        some ⟨s2, iv, minScore, upd c minScore, xm, ⟨ts2, ti, .start, ly, lx⟩⟩

def col0C : Option (List Row) := iterC (step0C sc cl x y) x.length 0 (row00 cl x y)

/-- the block "Handle i = 0 case" and the reset loop (`rowJ0`) -/
def rowJ0C (j : Nat) (prev0 : Row) : Option Row :=
  let n := y.length
  match edgeC sc cl.yp .del .ypre j with
  | none => none
  | some (d0, td) =>
    let s0 := if d0 > cl.yp then d0 else cl.yp
    let ts0 : Tb := if d0 > cl.yp then .del else .ypre
    let sn0 := prev0.sn
    -- `if j == n && Sn[0] > S[curr][0] { … } else if S[curr][0] + yclip_suffix > Sn[0] { … }`
    if j = n ∧ sn0 > s0 then
      some ⟨sn0, minScore, d0, sn0, if x.length = 0 then sn0 else minScore, ⟨.ysuf, .start, td, prev0.t.ly, 0⟩⟩
    else
      match add s0 cl.ys with
      | none => none
      | some c =>
        some ⟨s0, minScore, d0, upd c sn0, if x.length = 0 then s0 else minScore,
          ⟨ts0, .start, td, if c > sn0 then n - j else prev0.t.ly, 0⟩⟩

/-- `let xclip_score = xclip_prefix + max(yclip_prefix, gap_open + gap_extend * (j as i32))`: evaluated once per column,
before the inner loop (also when `m = 0`) -/
def xclipC (j : Nat) : Option Int :=
  match mul sc.ge (ofUsize j) with
  | none => none
  | some t =>
    match add sc.go t with
    | none => none
    | some g => add cl.xp (max cl.yp g)

/-- `a + gap_open + gap_extend` -/
def openC (a : Int) : Option Int :=
  match add a sc.go with
  | none => none
  | some b => add b sc.ge

/-- body of `for i in 1..m + 1` (`stepJ`); `xclip_score` is the value computed before the loop -/
def stepJC (j : Nat) (prev : List Row) (xclip_score : Int) (i : Nat) (r : Row) : Option Row :=
  let m := x.length
  let q := y.getD (j - 1) 0
  let p := x.getD (i - 1) 0
  let pr1 := prev.getD (i - 1) default
  let pr := prev.getD i default
  match add pr1.s (sc.w p q) with
  | none => none
  | some m_score =>
  match add r.i sc.ge with
  | none => none
  | some i_score =>
  match openC sc r.s with
  | none => none
  | some s_score =>
  let best_i_score := if i_score > s_score then i_score else s_score
  let ti : Tb := if i_score > s_score then .ins else r.t.ts
  match add pr.d sc.ge with
  | none => none
  | some d_score =>
  match openC sc pr.s with
  | none => none
  | some s_score2 =>
  let best_d_score := if d_score > s_score2 then d_score else s_score2
  let td : Tb := if d_score > s_score2 then .del else pr.t.ts
  let b0 := if i = m then r.xm else minScore
  let b1 := upd m_score b0
  let c1 : Tb := if m_score > b0 then (if p = q then .mat else .subst) else .xsuf
  let b2 := upd best_i_score b1
  let c2 : Tb := if best_i_score > b1 then .ins else c1
  let b3 := upd best_d_score b2
  let c3 : Tb := if best_d_score > b2 then .del else c2
  let b4 := upd xclip_score b3
  let c4 : Tb := if xclip_score > b3 then .xpre else c3
  -- `yclip_prefix + gap_open + gap_extend * (i as i32)`
  match add cl.yp sc.go with
  | none => none
  | some y0 =>
  match mul sc.ge (ofUsize i) with
  | none => none
  | some t =>
  match add y0 t with
  | none => none
  | some yclip_score =>
  let b5 := upd yclip_score b4
  let c5 : Tb := if yclip_score > b4 then .ypre else c4
  -- `if S[curr][i] + xclip_suffix > S[curr][m]`
  match add b5 cl.xs with
  | none => none
  | some cx =>
  let xm1 := if i = m then b5 else r.xm
  let xm2 := upd cx xm1
  let lx := if cx > xm1 then m - i else r.t.lx
  let s := if i = m then xm2 else b5
  -- `if S[curr][i] + yclip_suffix > Sn[i]`
  match add s cl.ys with
  | none => none
  | some cy =>
  let ly := if cy > pr.sn then y.length - j else pr.t.ly
  some ⟨s, best_i_score, best_d_score, upd cy pr.sn, xm2, ⟨c5, ti, td, ly, lx⟩⟩

def colStepC (j : Nat) (prev : List Row) : Option (List Row) :=
  match rowJ0C sc cl x y j (prev.getD 0 default) with
  | none => none
  | some r0 =>
    match xclipC sc cl j with
    | none => none
    | some xclip_score => iterC (stepJC sc cl x y j prev xclip_score) x.length 0 r0

/-- the outer loop `for j in 1..=n`, keeping every column (`allCols`): `k` more columns after column `j` -/
def colsC : Nat → Nat → List Row → Option (List (List Row))
  | 0, _, c => some [c]
  | k + 1, j, c =>
    match colStepC sc cl x y (j + 1) c with
    | none => none
    | some c' =>
      match colsC k (j + 1) c' with
      | none => none
      | some l => some (c :: l)

def allColsC : Option (List (List Row)) :=
  match col0C sc cl x y with
  | none => none
  | some c0 => colsC sc cl x y y.length 0 c0

/-- body of "Handle suffix clipping in the j=n case" (`post1Step`) -/
def post1StepC (col : List Row) (i : Nat) (p : PSt) : Option PSt :=
  let m := x.length
  let r := col.getD i default
  let cur := if i = m then p.xm else r.s
  let curT : Tb := if i = m then p.sm else r.t.ts
  let s1 := upd r.sn cur
  let t1 : Tb := if r.sn > cur then .ysuf else curT
  let xm1 := if i = m then s1 else p.xm
  let sm1 : Tb := if i = m then t1 else p.sm
  match add s1 cl.xs with
  | none => none
  | some c =>
    let xm2 := upd c xm1
    let sm2 : Tb := if c > xm1 then .xsuf else sm1
    let lx := if c > xm1 then m - i else p.lx
    some ⟨if i = m then xm2 else s1, xm2, r.i, if i = m then sm2 else t1, r.t.ti, sm2, lx⟩

def post1C (col : List Row) : Option (List PSt) :=
  match post1StepC cl x col 0 (p1init x col) with
  | none => none
  | some p0 => iterC (post1StepC cl x col) x.length 0 p0

/-- body of "recompute the last column of I" (`post2Step`) -/
def post2StepC (s1 : List PSt) (i : Nat) (p : PSt) : Option PSt :=
  let m := x.length
  let q := s1.getD i default
  match openC sc p.s with
  | none => none
  | some s_score =>
    let iv := if s_score > q.iv then s_score else q.iv
    let ti : Tb := if s_score > q.iv then p.ts else q.ti
    let cur := if i = m then p.xm else q.s
    let curT : Tb := if i = m then p.sm else q.ts
    if s_score > cur then
      let xm1 := if i = m then s_score else p.xm
      let sm1 : Tb := if i = m then .ins else p.sm
      match add s_score cl.xs with
      | none => none
      | some c =>
        let xm2 := upd c xm1
        let sm2 : Tb := if c > xm1 then .xsuf else sm1
        let lx := if c > xm1 then m - i else p.lx
        some ⟨if i = m then xm2 else s_score, xm2, iv, if i = m then sm2 else .ins, ti, sm2, lx⟩
    else some ⟨cur, p.xm, iv, curT, ti, p.sm, p.lx⟩

def post2C (s1 : List PSt) : Option (List PSt) :=
  iterC (post2StepC sc cl x s1) x.length 0 (p2init x s1)

/-- the fill with `i32` arithmetic: `none` = an overflow panic somewhere in the fill -/
def fillC : Option Filled :=
  match allColsC sc cl x y with
  | none => none
  | some cols =>
    match post1C cl x (cols.getD y.length []) with
    | none => none
    | some p1 =>
      match post2C sc cl x p1 with
      | none => none
      | some p2 => some ⟨cols, p1, p2, (p2.getD x.length default).xm⟩

end

/-- the traceback `loop` and the construction of the `Alignment` from what the fill left behind (no score arithmetic) -/
def customOf (f : Filled) (m n : Nat) : Option Out :=
  let T := f.table m n
  match tbLoop T (2 * (m + n) + 16) ⟨m, n, T.tS m n, [], 0, 0, m, n⟩ with
  | none => none
  | some st => some ⟨f.score, st.xstart, st.xend, st.ystart, st.yend, m, n, st.ops⟩

theorem custom_eq_customOf (sc : Sc) (cl : Clip) (x y : List Nat) :
    custom sc cl x y = customOf (fill sc cl x y) x.length y.length := rfl

/-- outcome of a call with `i32` scores -/
inductive Outcome where
  /-- an `i32` operation of the fill overflowed (panic in a build with overflow checks) -/
  | overflow
  /-- the traceback loop did not stop within its fuel -/
  | noTermination
  | done (o : Out)
deriving DecidableEq

/-- the whole of `Aligner::custom` with `i32` scores -/
def customC (sc : Sc) (cl : Clip) (x y : List Nat) : Outcome :=
  match fillC sc cl x y with
  | none => .overflow
  | some f =>
    match customOf f x.length y.length with
    | none => .noTermination
    | some o => .done o

/-! ### The envelope in which no `i32` operation overflows -/

/-- `I32Env sc cl x y B`: `B ≥ 1` bounds the absolute value of the substitution scores that occur and of both gap
penalties; gap and clip penalties are `≤ 0`, the clip penalties are `≥ MIN_SCORE` (any value in between, not only
`MIN_SCORE` or small); and `(max(m, n) + 1) · B ≤ 2³¹ + MIN_SCORE` (= 1 288 490 189 in the pinned tree).  The bound is
exact: with `yclip_prefix = MIN_SCORE`, `gap_open = gap_extend = −B` the sum `yclip_prefix + gap_open + gap_extend * m` of
row `m` is `MIN_SCORE − (m + 1)·B` (the real code panics there for the first `B` beyond the bound: docs/notes/C01.md), and
with `xclip_prefix = yclip_prefix = MIN_SCORE` the `xclip_score` of column `n` is `MIN_SCORE − (n + 1)·B`.  Decidable. -/
structure I32Env (sc : Sc) (cl : Clip) (x y : List Nat) (B : Int) : Prop where
  B1 : 1 ≤ B
  wlo : ∀ a ∈ x, ∀ b ∈ y, -B ≤ sc.w a b
  whi : ∀ a ∈ x, ∀ b ∈ y, sc.w a b ≤ B
  go : -B ≤ sc.go ∧ sc.go ≤ 0
  ge : -B ≤ sc.ge ∧ sc.ge ≤ 0
  xp : minScore ≤ cl.xp ∧ cl.xp ≤ 0
  xs : minScore ≤ cl.xs ∧ cl.xs ≤ 0
  yp : minScore ≤ cl.yp ∧ cl.yp ≤ 0
  ys : minScore ≤ cl.ys ∧ cl.ys ≤ 0
  room : ((max x.length y.length : Nat) + 1) * B ≤ 2147483648 + minScore

theorem i32Env_iff (sc : Sc) (cl : Clip) (x y : List Nat) (B : Int) : I32Env sc cl x y B ↔
    (1 ≤ B ∧ (∀ a ∈ x, ∀ b ∈ y, -B ≤ sc.w a b) ∧ (∀ a ∈ x, ∀ b ∈ y, sc.w a b ≤ B) ∧ (-B ≤ sc.go ∧ sc.go ≤ 0) ∧
      (-B ≤ sc.ge ∧ sc.ge ≤ 0) ∧ (minScore ≤ cl.xp ∧ cl.xp ≤ 0) ∧ (minScore ≤ cl.xs ∧ cl.xs ≤ 0) ∧
      (minScore ≤ cl.yp ∧ cl.yp ≤ 0) ∧ (minScore ≤ cl.ys ∧ cl.ys ≤ 0) ∧
      ((max x.length y.length : Nat) + 1) * B ≤ 2147483648 + minScore) :=
  ⟨fun ⟨a, b, c, d, e, f, g, h, i, j⟩ => ⟨a, b, c, d, e, f, g, h, i, j⟩,
   fun ⟨a, b, c, d, e, f, g, h, i, j⟩ => ⟨a, b, c, d, e, f, g, h, i, j⟩⟩

instance (sc : Sc) (cl : Clip) (x y : List Nat) (B : Int) : Decidable (I32Env sc cl x y B) :=
  decidable_of_iff _ (i32Env_iff sc cl x y B).symm

/-- **The parametric envelope of C01's tie to the `i32` code**: `B ≥ 1` bounds the absolute value of the substitution
scores that occur and of both gap penalties, gap and clip penalties are `≤ 0`, clip penalties `≥ MIN_SCORE`, and
`2·(m + n + 1)·B < −MIN_SCORE` (= 858 993 459 in the pinned tree).  It implies both `I32Env` (no overflow) and
`Sane sc x y B` (`MIN_SCORE` acts as minus infinity): `Thm/C01.lean` `alignEnv_i32Env`, `alignEnv_sane`.  The harness
refuses calls outside it (`align_util::in_envelope`), the driver evaluates it on every call (tag `align-env`). -/
def AlignEnv (sc : Sc) (cl : Clip) (x y : List Nat) (B : Int) : Prop :=
  1 ≤ B ∧ (∀ a ∈ x, ∀ b ∈ y, -B ≤ sc.w a b) ∧ (∀ a ∈ x, ∀ b ∈ y, sc.w a b ≤ B) ∧ (-B ≤ sc.go ∧ sc.go ≤ 0) ∧
    (-B ≤ sc.ge ∧ sc.ge ≤ 0) ∧ (minScore ≤ cl.xp ∧ cl.xp ≤ 0) ∧ (minScore ≤ cl.xs ∧ cl.xs ≤ 0) ∧
    (minScore ≤ cl.yp ∧ cl.yp ≤ 0) ∧ (minScore ≤ cl.ys ∧ cl.ys ≤ 0) ∧
    2 * (((x.length : Int) + y.length + 1) * B) < -minScore

instance (sc : Sc) (cl : Clip) (x y : List Nat) (B : Int) : Decidable (AlignEnv sc cl x y B) := by
  unfold AlignEnv; infer_instance

/-- largest absolute value of a substitution score of a symbol pair that occurs, of `gap_open` and `gap_extend`
(at least 1): the least `B` for `I32Env` -/
def bMax (sc : Sc) (x y : List Nat) : Int :=
  x.foldl (fun acc a => y.foldl (fun acc b => max acc (max (sc.w a b) (-(sc.w a b)))) acc)
    (max 1 (max (-sc.go) (-sc.ge)))

/-- `I32Env` with `B = bMax`, as a Boolean -/
def i32Env (sc : Sc) (cl : Clip) (x y : List Nat) : Bool :=
  let B := bMax sc x y
  decide (sc.go ≤ 0) && decide (sc.ge ≤ 0) &&
    decide (minScore ≤ cl.xp ∧ cl.xp ≤ 0) && decide (minScore ≤ cl.xs ∧ cl.xs ≤ 0) &&
    decide (minScore ≤ cl.yp ∧ cl.yp ≤ 0) && decide (minScore ≤ cl.ys ∧ cl.ys ≤ 0) &&
    decide (((max x.length y.length : Nat) + 1) * B ≤ 2147483648 + minScore)

/-- `AlignEnv`, as the driver evaluates it (with `B = bMax`) -/
def alignEnv (sc : Sc) (cl : Clip) (x y : List Nat) : Bool :=
  let B := bMax sc x y
  decide (sc.go ≤ 0) && decide (sc.ge ≤ 0) &&
    decide (minScore ≤ cl.xp ∧ cl.xp ≤ 0) && decide (minScore ≤ cl.xs ∧ cl.xs ≤ 0) &&
    decide (minScore ≤ cl.yp ∧ cl.yp ≤ 0) && decide (minScore ≤ cl.ys ∧ cl.ys ≤ 0) &&
    decide (2 * (((x.length : Int) + y.length + 1) * B) < -minScore)

end RbV.Model.PairwiseFill
