import RbV.Model.Kasai
/-
Mirror model of `suffix_array::shortest_unique_substrings` and its refinement theorem (C03).

```
let mut sus = vec![None; n];
for i in 0..n {
    let len = 1 + cmp::max(lcp.get(i).unwrap(), lcp.get(i + 1).unwrap_or(0)) as usize;
    let p = pos.get(i).unwrap();
    if n - p >= len { sus[p] = Some(len); }
}
```
`susModel_eq`: on a sorted suffix permutation with its LCP array, the loop returns `susRef t p` for every
position — the longest prefix shared with *any* other suffix is shared with a neighbour in the array.
-/
namespace RbV.Sus
open RbV RbV.Kasai

def susStep (n : Nat) (sa : List Nat) (lcp : List Int) (sus : List (Option Nat)) (i : Nat) : List (Option Nat) :=
  let len := 1 + (max (lcp.getD i 0) (lcp.getD (i + 1) 0)).toNat
  let p := sa.getD i 0
  if n - p ≥ len then sus.set p (some len) else sus

def susModel (sa : List Nat) (lcp : List Int) : List (Option Nat) :=
  (List.range sa.length).foldl (susStep sa.length sa lcp) (List.replicate sa.length none)

/-! ### neighbours in suffix order share the longest prefixes -/

theorem cpl_sandwich_right (x y z : List Nat) (h1 : lexLt x y) (h2 : lexLt y z ∨ y = z) : cpl x z ≤ cpl x y := by
  rcases h2 with h2 | rfl
  · exact (cpl_between x y z h1 h2).1
  · exact Nat.le_refl _

theorem maxShare_le (t : List Nat) (p : Nat) (qs : List Nat) (M : Nat)
    (h : ∀ q ∈ qs, q ≠ p → cpl (t.drop p) (t.drop q) ≤ M) : maxShare t p qs ≤ M := by
  induction qs with
  | nil => simp [maxShare]
  | cons x xs ih =>
    simp only [maxShare]
    have ih' := ih (fun q hq => h q (List.mem_cons_of_mem _ hq))
    split
    · exact ih'
    · rename_i hx
      have := h x (by simp) hx
      omega

/-- LCP with the predecessor row (0 for row 0) -/
def nbPrev (t sa : List Nat) (i : Nat) : Nat :=
  if 1 ≤ i then cpl (t.drop (sa.getD (i - 1) 0)) (t.drop (sa.getD i 0)) else 0

/-- LCP with the successor row (0 for the last row) -/
def nbNext (t sa : List Nat) (i : Nat) : Nat :=
  if i + 1 < t.length then cpl (t.drop (sa.getD i 0)) (t.drop (sa.getD (i + 1) 0)) else 0

section
variable {t sa : List Nat} (h : Sorted t sa)
include h

/-- among the rows, the prefix two suffixes share is shared with every row between them: in particular with the row after
the first and with the row before the second -/
theorem cpl_rows_le {i j : Nat} (hij : i < j) (hj : j < t.length) :
    cpl (t.drop (sa.getD i 0)) (t.drop (sa.getD j 0)) ≤ cpl (t.drop (sa.getD i 0)) (t.drop (sa.getD (i + 1) 0)) ∧
    cpl (t.drop (sa.getD i 0)) (t.drop (sa.getD j 0)) ≤ cpl (t.drop (sa.getD (j - 1) 0)) (t.drop (sa.getD j 0)) := by
  have le : ∀ a b, a ≤ b → b < t.length →
      lexLt (t.drop (sa.getD a 0)) (t.drop (sa.getD b 0)) ∨ t.drop (sa.getD a 0) = t.drop (sa.getD b 0) := fun a b hab hb =>
    (Nat.eq_or_lt_of_le hab).elim (fun e => Or.inr (e ▸ rfl)) fun hlt => Or.inl (h.lt_of_rank_lt a b hlt hb)
  exact ⟨cpl_sandwich_right _ _ _ (h.lt_of_rank_lt i (i + 1) (Nat.lt_succ_self i) (by omega)) (le (i + 1) j hij hj),
    cpl_sandwich _ _ _ (le i (j - 1) (by omega) (by omega)) (h.lt_of_rank_lt (j - 1) j (by omega) hj)⟩

/-- every other row is a candidate of `maxShare` -/
theorem cpl_row_le_maxShare {i r : Nat} (hi : i < t.length) (hr : r < t.length) (hne : r ≠ i) :
    cpl (t.drop (sa.getD i 0)) (t.drop (sa.getD r 0)) ≤ maxShare t (sa.getD i 0) (List.range t.length) :=
  maxShare_ge t _ _ _ (List.mem_range.mpr (h.getD_lt r hr)) fun e => hne (by
    have := h.rank_getD r hr
    rwa [e, h.rank_getD i hi, eq_comm] at this)

theorem maxShare_eq_neighbours (i : Nat) (hi : i < t.length) :
    maxShare t (sa.getD i 0) (List.range t.length) = max (nbPrev t sa i) (nbNext t sa i) := by
  apply Nat.le_antisymm
  · apply maxShare_le
    intro q hq hne
    rw [List.mem_range] at hq
    have rq := h.rank_lt q hq
    have hrq : sa.idxOf q ≠ i := fun e => hne (by rw [← e, h.getD_rank q hq])
    rw [← h.getD_rank q hq]
    rcases Nat.lt_or_gt_of_ne hrq with hlt | hgt
    · have := (cpl_rows_le h hlt hi).2
      rw [cpl_comm] at this
      exact Nat.le_trans this (Nat.le_trans (by rw [nbPrev, if_pos (by omega)]; exact Nat.le_refl _) (Nat.le_max_left _ _))
    · exact Nat.le_trans (cpl_rows_le h hgt rq).1
        (Nat.le_trans (by rw [nbNext, if_pos (by omega)]; exact Nat.le_refl _) (Nat.le_max_right _ _))
  · apply Nat.max_le.mpr
    constructor
    · unfold nbPrev
      split
      · rw [cpl_comm]; exact cpl_row_le_maxShare h hi (by omega) (by omega)
      · exact Nat.zero_le _
    · unfold nbNext
      split
      · rename_i h1; exact cpl_row_le_maxShare h hi h1 (by omega)
      · exact Nat.zero_le _

end

/-! ### the two LCP entries read by the loop -/

theorem nbPrev_le (t sa : List Nat) (i : Nat) : nbPrev t sa i ≤ t.length := by
  unfold nbPrev
  split
  · exact Nat.le_trans (cpl_le_right _ _) (by rw [List.length_drop]; exact Nat.sub_le _ _)
  · exact Nat.zero_le _

theorem nbNext_le (t sa : List Nat) (i : Nat) : nbNext t sa i ≤ t.length := by
  unfold nbNext
  split
  · exact Nat.le_trans (cpl_le_left _ _) (by rw [List.length_drop]; exact Nat.sub_le _ _)
  · exact Nat.zero_le _

/-- the two entries row `i` reads: each is the LCP with that neighbour, or `-1` at an end of the array (where that LCP
counts as 0) -/
theorem lcpRef_getD_row (t sa : List Nat) (h : Sorted t sa) (i : Nat) (hi : i < t.length) :
    (lcpRef t sa).getD i 0 = (if 1 ≤ i then (nbPrev t sa i : Int) else -1) ∧
    (lcpRef t sa).getD (i + 1) 0 = (if i + 1 < t.length then (nbNext t sa i : Int) else -1) := by
  have hlen := h.length
  have hsa : sa ≠ [] := fun e => by rw [e] at hlen; exact absurd (hlen ▸ hi) (Nat.not_lt_zero _)
  rw [List.getD_eq_getElem?_getD, List.getD_eq_getElem?_getD]
  constructor
  · cases i with
    | zero => rw [(lcpRef_ends t sa).1]; rfl
    | succ j =>
      rw [lcpRef_inner t sa j (hlen ▸ hi), if_pos (Nat.succ_le_succ (Nat.zero_le j)), nbPrev,
        if_pos (Nat.succ_le_succ (Nat.zero_le j)), Nat.add_sub_cancel]
      rfl
  · by_cases h0 : i + 1 < t.length
    · rw [lcpRef_inner t sa i (hlen ▸ h0), if_pos h0, nbNext, if_pos h0]
      rfl
    · rw [if_neg h0, show i + 1 = sa.length by omega, lcpRef_last t sa hsa]
      rfl

theorem max_lcpRef (t sa : List Nat) (h : Sorted t sa) (i : Nat) (hi : i < t.length) :
    (max ((lcpRef t sa).getD i 0) ((lcpRef t sa).getD (i + 1) 0)).toNat = max (nbPrev t sa i) (nbNext t sa i) := by
  obtain ⟨e1, e2⟩ := lcpRef_getD_row t sa h i hi
  have e1' : (lcpRef t sa).getD i 0 = nbPrev t sa i ∨ ((lcpRef t sa).getD i 0 = -1 ∧ nbPrev t sa i = 0) := by
    rw [e1]
    split
    · exact Or.inl rfl
    · exact Or.inr ⟨rfl, if_neg ‹_›⟩
  have e2' : (lcpRef t sa).getD (i + 1) 0 = nbNext t sa i ∨ ((lcpRef t sa).getD (i + 1) 0 = -1 ∧ nbNext t sa i = 0) := by
    rw [e2]
    split
    · exact Or.inl rfl
    · exact Or.inr ⟨rfl, if_neg ‹_›⟩
  generalize (lcpRef t sa).getD i 0 = x at e1'
  generalize (lcpRef t sa).getD (i + 1) 0 = y at e2'
  clear e1 e2 hi h
  omega

/-! ### the loop -/

theorem length_susStep (n : Nat) (sa : List Nat) (lcp : List Int) (sus : List (Option Nat)) (i : Nat) :
    (susStep n sa lcp sus i).length = sus.length := by
  unfold susStep
  dsimp only
  split
  · exact List.length_set
  · rfl

theorem length_foldl_susStep (n : Nat) (sa : List Nat) (lcp : List Int) :
    ∀ (l : List Nat) (s : List (Option Nat)), (l.foldl (susStep n sa lcp) s).length = s.length
  | [], _ => rfl
  | _ :: l, _ => by rw [List.foldl_cons, length_foldl_susStep n sa lcp l, length_susStep]

/-- row `i` writes at `sa[i]` only -/
theorem getElem?_susStep_ne {n : Nat} {sa : List Nat} {lcp : List Int} {sus : List (Option Nat)} {i p : Nat}
    (hne : sa.getD i 0 ≠ p) : (susStep n sa lcp sus i)[p]? = sus[p]? := by
  unfold susStep
  dsimp only
  split
  · exact List.getElem?_set_ne hne
  · rfl

/-- value written for row `i` -/
def rowVal (t sa : List Nat) (i : Nat) : Option Nat :=
  let len := 1 + max (nbPrev t sa i) (nbNext t sa i)
  if t.length - sa.getD i 0 ≥ len then some len else none

theorem susStep_lcpRef (t sa : List Nat) (h : Sorted t sa) (i : Nat) (hi : i < t.length)
    (sus : List (Option Nat)) :
    susStep sa.length sa (lcpRef t sa) sus i =
      match rowVal t sa i with
      | some v => sus.set (sa.getD i 0) (some v)
      | none => sus := by
  unfold susStep rowVal
  simp only
  rw [max_lcpRef t sa h i hi, h.length]
  split <;> rfl

/-- after the rows below `j`, position `p` holds the value of its row if that row is below `j` (every position has one
row: `sa` is a permutation), and `None` else -/
theorem getElem?_foldl_susStep (t sa : List Nat) (h : Sorted t sa) (j : Nat) (hj : j ≤ t.length) :
    ∀ p, p < t.length →
      ((List.range j).foldl (susStep sa.length sa (lcpRef t sa)) (List.replicate sa.length none))[p]? =
        some (if sa.idxOf p < j then rowVal t sa (sa.idxOf p) else none) := by
  induction j with
  | zero =>
    intro p hp
    simp [h.length, hp]
  | succ j ih =>
    intro p hp
    have ih' := ih (by omega) p hp
    rw [List.range_succ, List.foldl_append, List.foldl_cons, List.foldl_nil]
    by_cases hr : sa.idxOf p = j
    · rw [if_pos (by omega), hr, susStep_lcpRef t sa h j (by omega)]
      cases rowVal t sa j with
      | none => rw [ih', if_neg (by omega)]
      | some v =>
        rw [← hr, h.getD_rank p hp,
          List.getElem?_set_self (by rw [length_foldl_susStep, List.length_replicate, h.length]; exact hp)]
    · rw [getElem?_susStep_ne fun e => hr (by rw [← e, h.rank_getD j (by omega)]), ih']
      by_cases hlt : sa.idxOf p < j
      · rw [if_pos hlt, if_pos (by omega)]
      · rw [if_neg hlt, if_neg (by omega)]

/-- **The loop of `shortest_unique_substrings` on a sorted suffix permutation and its LCP array returns the
brute-force shortest-unique-substring length of every position.** -/
theorem susModel_eq (t sa : List Nat) (h : Sorted t sa) :
    susModel sa (lcpRef t sa) = (List.range t.length).map (susRef t) := by
  apply List.ext_getElem?
  intro p
  unfold susModel
  by_cases hp : p < t.length
  · have hrp := h.rank_lt p hp
    have := getElem?_foldl_susStep t sa h t.length (Nat.le_refl _) p hp
    rw [if_pos hrp, ← h.length] at this
    rw [this, List.getElem?_map, List.getElem?_range hp]
    simp only [Option.map_some, Option.some.injEq]
    unfold rowVal susRef
    simp only
    rw [← maxShare_eq_neighbours h _ hrp, h.getD_rank p hp]
    by_cases hc : p + (maxShare t p (List.range t.length) + 1) ≤ t.length
    · rw [if_pos hc, if_pos (by omega)]; congr 1; omega
    · rw [if_neg hc, if_neg (by omega)]
  · rw [List.getElem?_eq_none (by rw [length_foldl_susStep, List.length_replicate, h.length]; omega),
      List.getElem?_eq_none (by simp; omega)]

end RbV.Sus
