import RbV.Spec.Interval
/-!
# Mirror model of `array_backed_interval_tree.rs` (cgranges-style implicit interval tree)

Follows `insert`, `index`, `index_core`, `find_into` (definitions; proofs in `RbV/Model/IitProofs.lean`, `IitIndex.lean`).

Representation:
* `entries: Vec<InternalEntry>` is a `List Cell` (`Cell` = entry + `max`); `a[i]` is `getC a i` (total: a default
  cell outside the range; the Rust code only indexes inside the range, see `RbV/Thm/GenSrcIit.lean`).
* `sort_by_key(|e| e.interval.start)` is a *stable* sort by start: `List.mergeSort` with `≤` on starts (stable).
* `for i in (i0..n).step_by(step)` is a fold over `stepIdx i0 n step` = `[i0, i0+step, …]` below `n`.
* `while (1 << k) <= n { …; k += 1 }` starting at `k = 1` runs for `k = 1 … log2 n`; it is a fold over that range
  and `max_level = k - 1 = log2 n` afterwards.
* the fixed 64-cell stack with top pointer `t` is a `List` whose head is the top. (Depth never exceeds
  `max_level + 1 ≤ 64` for `usize` sizes; the model has no such bound.)
* results are collected in the order `find_into` pushes them.

Core Lean only.
-/
namespace RbV.Iit
open RbV.Ivl

structure Cell where
  e : Entry
  mx : Int
deriving DecidableEq, Repr, Inhabited

structure State where
  entries : List Cell := []
  maxLevel : Nat := 0
  indexed : Bool := false
deriving Repr, Inhabited

def getC (a : List Cell) (i : Nat) : Cell := a[i]?.getD default

def setMx (a : List Cell) (i : Nat) (m : Int) : List Cell :=
  match a[i]? with
  | some c => a.set i { c with mx := m }
  | none => a

/-- `insert`: push with `max = end`, mark un-indexed -/
def State.insert (s : State) (e : Entry) : State :=
  { s with entries := s.entries ++ [⟨e, e.hi⟩], indexed := false }

/-- the indices `i0, i0+step, …` that are `< n` -/
def stepIdx (i0 n step : Nat) : List Nat := List.range' i0 ((n - i0 + step - 1) / step) step

def max3 (a b c : Int) : Int := max a (max b c)

/-- the first loop of `index_core`: every even index gets `max = end`; `last_i`, `last_value` follow it -/
def level0 (a : List Cell) (n : Nat) : List Cell × Nat × Int :=
  (stepIdx 0 n 2).foldl (fun (st : List Cell × Nat × Int) i =>
      let a := st.1
      let a := setMx a i (getC a i).e.hi
      (a, i, (getC a i).mx))
    (a, 0, (getC a 0).mx)

/-- the body of the `while` loop for one level `k ≥ 1` -/
def levelStep (n : Nat) (st : List Cell × Nat × Int) (k : Nat) : List Cell × Nat × Int :=
  let (a, lastI, lastV) := st
  let x := 1 <<< (k - 1)
  let i0 := (x <<< 1) - 1
  let step := x <<< 2
  let a := (stepIdx i0 n step).foldl (fun (a : List Cell) i =>
      let endLeft := (getC a (i - x)).mx
      let endRight := if i + x < n then (getC a (i + x)).mx else lastV
      setMx a i (max3 (getC a i).e.hi endLeft endRight))
    a
  let lastI := if (lastI >>> k) &&& 1 > 0 then lastI - x else lastI + x
  let lastV := if lastI < n ∧ (getC a lastI).mx > lastV then (getC a lastI).mx else lastV
  (a, lastI, lastV)

/-- `index_core`; returns the new cells and the new `max_level` -/
def indexCore (a : List Cell) (maxLevel : Nat) : List Cell × Nat :=
  if a.isEmpty then (a, maxLevel) else
  let n := a.length
  let st := level0 a n
  let st := (List.range' 1 (Nat.log2 n)).foldl (levelStep n) st
  (st.1, Nat.log2 n)

def sortByStart (a : List Cell) : List Cell := a.mergeSort (fun c d => decide (c.e.lo ≤ d.e.lo))

/-- `index` -/
def State.index (s : State) : State :=
  if s.indexed then s else
  let (a, ml) := indexCore (sortByStart s.entries) s.maxLevel
  { entries := a, maxLevel := ml, indexed := true }

/-- a stack cell of `find_into` -/
structure SC where
  /-- level of the subtree (leaves are level 0) -/
  k : Nat
  /-- index of the root of the subtree -/
  x : Nat
  /-- the left child has been dealt with -/
  w : Bool
deriving Repr

/-- termination measure of `findLoop`: a cell weighs more than what replaces it in one round (`stackWeight`: the sum) -/
def SC.weight (c : SC) : Nat := if c.w then 3 ^ c.k + 1 else 3 ^ (c.k + 1)

def stackWeight (s : List SC) : Nat := (s.map SC.weight).sum

/-- the scan of a small subtree: cells in index order, stop at the first start `≥ end` -/
def scan (q : Query) : List Cell → List Entry
  | [] => []
  | c :: cs => if c.e.lo ≥ q.hi then [] else if q.lo < c.e.hi then c.e :: scan q cs else scan q cs

theorem pow3_pos (k : Nat) : 0 < 3 ^ k := Nat.pow_pos (by decide)

/-- the `while t > 0` loop of `find_into` -/
def findLoop (a : List Cell) (n : Nat) (q : Query) : List SC → List Entry
  | [] => []
  | ⟨k, x, w⟩ :: st =>
    if k ≤ 3 then
      let i0 := (x >>> k) <<< k
      let i1 := min (i0 + (1 <<< (k + 1)) - 1) n
      scan q ((a.take i1).drop i0) ++ findLoop a n q st
    else if !w then
      let y := x - (1 <<< (k - 1))
      if y ≥ n ∨ (getC a y).mx > q.lo then findLoop a n q (⟨k - 1, y, false⟩ :: ⟨k, x, true⟩ :: st)
      else findLoop a n q (⟨k, x, true⟩ :: st)
    else if x < n ∧ (getC a x).e.lo < q.hi then
      (if q.lo < (getC a x).e.hi then [(getC a x).e] else [])
        ++ findLoop a n q (⟨k - 1, x + (1 <<< (k - 1)), false⟩ :: st)
    else findLoop a n q st
termination_by s => stackWeight s
decreasing_by
  all_goals simp only [stackWeight, List.map_cons, List.sum_cons, SC.weight]
  · have := pow3_pos k; split <;> omega
  · obtain ⟨j, rfl⟩ : ∃ j, k = j + 1 := ⟨k - 1, by omega⟩
    have := pow3_pos j
    simp_all [Nat.pow_succ] <;> omega
  · obtain ⟨j, rfl⟩ : ∃ j, k = j + 1 := ⟨k - 1, by omega⟩
    have := pow3_pos j
    simp_all [Nat.pow_succ] <;> omega
  · obtain ⟨j, rfl⟩ : ∃ j, k = j + 1 := ⟨k - 1, by omega⟩
    have := pow3_pos j
    simp_all [Nat.pow_succ] <;> omega
  · have := pow3_pos k; split <;> omega

/-- `find` / `find_into`: `none` = refused (not indexed) -/
def State.find (s : State) (q : Query) : Option (List Entry) :=
  if !s.indexed then none
  else some (findLoop s.entries s.entries.length q [⟨s.maxLevel, (1 <<< s.maxLevel) - 1, false⟩])

end RbV.Iit
