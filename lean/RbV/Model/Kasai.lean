import RbV.Ref.SortedSA
/-
Mirror model of `suffix_array::lcp` (Kasai et al.) and its refinement theorem (C03).

```
for (p, &r) in rank.iter().enumerate().take(n - 1) {
    let pred = pos[r - 1];
    while pred + l < n && p + l < n && text[p + l] == text[pred + l] { l += 1; }
    lcp.set(r, l as isize);
    l = if l > 0 { l - 1 } else { 0 };
}
```
`rank[p]` is modelled by its defining function `sa.idxOf p`.
`kasai_eq_lcpRef`: for a permutation `sa` of all positions that is sorted in (plain) suffix order and starts with
`n-1` (`Kasai.Sorted`, `Ref/SortedSA.lean`), the loop computes `lcpRef t sa`.  The invariant is the classical one: the value of `l` carried into the
iteration for `p` never exceeds the true LCP of suffix `p` with its predecessor (it drops by at most one).
-/
namespace RbV.Kasai
open RbV

/-- the `while` loop (fuel `f`) -/
def extend (t : List Nat) (p pred : Nat) : Nat → Nat → Nat
  | 0, l => l
  | f + 1, l =>
    if pred + l < t.length ∧ p + l < t.length ∧ t.getD (p + l) 0 = t.getD (pred + l) 0 then
      extend t p pred f (l + 1)
    else l

def kasaiGo (t sa : List Nat) : List Nat → Nat → List Int → List Int
  | [], _, lcp => lcp
  | p :: ps, l, lcp =>
    let r := sa.idxOf p
    let pred := sa.getD (r - 1) 0
    let l' := extend t p pred t.length l
    kasaiGo t sa ps (l' - 1) (lcp.set r (l' : Int))

def kasai (t sa : List Nat) : List Int :=
  kasaiGo t sa (List.range (t.length - 1)) 0 (List.replicate (t.length + 1) (-1))

theorem cpl_cons_drop (t : List Nat) (a b : Nat) (ha : a < t.length) (hb : b < t.length) :
    cpl (t.drop a) (t.drop b) =
      if t.getD a 0 = t.getD b 0 then cpl (t.drop (a + 1)) (t.drop (b + 1)) + 1 else 0 := by
  rw [List.drop_eq_getElem_cons ha, List.drop_eq_getElem_cons hb]
  simp only [cpl, List.getD_eq_getElem?_getD, List.getElem?_eq_getElem ha, List.getElem?_eq_getElem hb,
    Option.getD_some]

theorem extend_le (t : List Nat) (p pred : Nat) : ∀ (f l : Nat), l ≤ t.length → extend t p pred f l ≤ t.length := by
  intro f
  induction f with
  | zero => intro l h; simpa [extend] using h
  | succ f ih =>
    intro l h
    simp only [extend]
    split
    · rename_i hc; exact ih (l + 1) (by omega)
    · exact h

theorem extend_eq (t : List Nat) (p pred f l : Nat) (hf : t.length ≤ p + l + f) :
    extend t p pred f l = l + cpl (t.drop (p + l)) (t.drop (pred + l)) := by
  induction f generalizing l with
  | zero =>
    have : t.drop (p + l) = [] := List.drop_eq_nil_of_le hf
    simp [extend, this, cpl]
  | succ f ih =>
    simp only [extend]
    split
    · rename_i h
      rw [ih (l + 1) (by omega), cpl_cons_drop t (p + l) (pred + l) h.2.1 h.1, if_pos h.2.2]
      rw [← Nat.add_assoc p, ← Nat.add_assoc pred, Nat.add_assoc l, Nat.add_comm 1]
    · rename_i h
      by_cases h1 : p + l < t.length
      · by_cases h2 : pred + l < t.length
        · rw [cpl_cons_drop t (p + l) (pred + l) h1 h2]
          have : ¬ t.getD (p + l) 0 = t.getD (pred + l) 0 := fun e => h ⟨h2, h1, e⟩
          rw [if_neg this]; rfl
        · have : t.drop (pred + l) = [] := List.drop_eq_nil_of_le (Nat.le_of_not_lt h2)
          rw [this]; cases t.drop (p + l) <;> simp [cpl]
      · have : t.drop (p + l) = [] := List.drop_eq_nil_of_le (Nat.le_of_not_lt h1)
        rw [this]; simp [cpl]

theorem cpl_add (a b : List Nat) (l : Nat) (h : l ≤ cpl a b) :
    cpl a b = l + cpl (a.drop l) (b.drop l) := by
  induction l generalizing a b with
  | zero => simp
  | succ l ih =>
    cases a with
    | nil => simp [cpl] at h
    | cons x xs =>
      cases b with
      | nil => simp [cpl] at h
      | cons y ys =>
        simp only [cpl] at h ⊢
        split at h
        · rename_i hxy
          simp only [hxy, if_true, List.drop_succ_cons]
          rw [ih xs ys (by omega)]; omega
        · omega

theorem cpl_between (x y z : List Nat) (h1 : lexLt x y) (h2 : lexLt y z) : cpl x z ≤ cpl x y ∧ cpl x z ≤ cpl y z := by
  induction x generalizing y z with
  | nil => simp [cpl]
  | cons a xs ih =>
    cases y with
    | nil => simp [lexLt] at h1
    | cons b ys =>
      cases z with
      | nil => simp [lexLt] at h2
      | cons c zs =>
        simp only [lexLt] at h1 h2
        simp only [cpl]
        by_cases hac : a = c
        · subst hac
          -- the heads of `x` and `z` agree, so the head of `y` agrees with them and the tails are ordered the same way
          have hb : b = a := by
            rcases h1 with h | ⟨h, _⟩ <;> rcases h2 with h' | ⟨h', _⟩ <;> omega
          subst hb
          simp only [if_true]
          have := ih ys zs (h1.resolve_left (Nat.lt_irrefl b)).2 (h2.resolve_left (Nat.lt_irrefl b)).2
          omega
        · simp [hac]

theorem cpl_sandwich (x y z : List Nat) (h1 : lexLt x y ∨ x = y) (h2 : lexLt y z) : cpl x z ≤ cpl y z := by
  rcases h1 with h1 | h1
  · exact (cpl_between x y z h1 h2).2
  · subst h1; exact Nat.le_refl _

/-- LCP of suffix `p` with its predecessor in the array -/
def lcpOf (t sa : List Nat) (p : Nat) : Nat :=
  cpl (t.drop p) (t.drop (sa.getD (sa.idxOf p - 1) 0))

/-- **Kasai's inequality**: the LCP with the predecessor drops by at most one from position `p` to `p+1` -/
theorem kasai_ineq (t sa : List Nat) (h : Sorted t sa) (p : Nat) (hp : p + 1 < t.length)
    (hr : 0 < sa.idxOf p) : lcpOf t sa p - 1 ≤ lcpOf t sa (p + 1) := by
  by_cases hl : lcpOf t sa p ≤ 1
  · exact Nat.le_trans (Nat.sub_le_sub_right hl 1) (Nat.zero_le _)
  · have hpn : p < t.length := Nat.lt_of_succ_lt hp
    -- predecessor q of p
    obtain ⟨hqn, hqp⟩ := h.pred_lt p hpn hr
    unfold lcpOf at hl ⊢
    generalize sa.getD (sa.idxOf p - 1) 0 = q at hqn hqp hl ⊢
    -- first symbols agree, q + 1 is a position
    have hq1 : q + 1 < t.length := by
      have := cpl_le_right (t.drop p) (t.drop q)
      rw [List.length_drop] at this; omega
    have hc := cpl_cons_drop t p q hpn hqn
    have hhead : t.getD p 0 = t.getD q 0 := by
      apply Classical.byContradiction; intro hne; rw [if_neg hne] at hc; omega
    rw [if_pos hhead] at hc
    -- suffix q+1 < suffix p+1
    have hlt1 : lexLt (t.drop (q + 1)) (t.drop (p + 1)) :=
      (((sufLt_iff_getD t q p hqn hpn).mp hqp).resolve_left (fun h' => Nat.lt_irrefl _ (hhead ▸ h'))).2
    have hrk := h.rank_lt_of_lt (q + 1) (p + 1) hq1 hp hlt1
    -- the predecessor of p+1 lies between q+1 and p+1
    have hs := cpl_sandwich _ _ _ (h.le_pred (q + 1) (p + 1) hq1 hp hrk)
      (h.pred_lt (p + 1) hp (Nat.lt_of_le_of_lt (Nat.zero_le _) hrk)).2
    rw [cpl_comm (t.drop (p + 1)) _]
    rw [cpl_comm (t.drop (q + 1)) (t.drop (p + 1))] at hs
    rw [hc, Nat.add_sub_cancel]
    exact hs

/-- expected content of the LCP array when the positions `< p` have been processed -/
def expectAt (t sa : List Nat) (p r : Nat) : Int :=
  if 1 ≤ r ∧ r < t.length ∧ sa.getD r 0 < p then (lcpOf t sa (sa.getD r 0) : Int) else -1

theorem expectAt_succ {t sa : List Nat} (h : Sorted t sa) (hn : 0 < t.length) (p : Nat) (hp : p < t.length - 1)
    (r : Nat) : expectAt t sa (p + 1) r = if sa.idxOf p = r then (lcpOf t sa p : Int) else expectAt t sa p r := by
  have hpn : p < t.length := by omega
  have rp := h.rank_lt p hpn
  unfold expectAt
  by_cases he : sa.idxOf p = r
  · subst he
    rw [if_pos rfl, if_pos ⟨h.rank_pos hn p hp, rp, by rw [h.getD_rank p hpn]; exact Nat.lt_succ_self p⟩,
      h.getD_rank p hpn]
  · rw [if_neg he]
    by_cases hc : 1 ≤ r ∧ r < t.length
    · have hne : sa.getD r 0 ≠ p := fun e => he (by rw [← e]; exact h.rank_getD r hc.2)
      by_cases hlt : sa.getD r 0 < p
      · rw [if_pos ⟨hc.1, hc.2, Nat.lt_succ_of_lt hlt⟩, if_pos ⟨hc.1, hc.2, hlt⟩]
      · rw [if_neg (fun hh => hlt (by have := hh.2.2; omega)), if_neg (fun hh => hlt hh.2.2)]
    · rw [if_neg (fun hh => hc ⟨hh.1, hh.2.1⟩), if_neg (fun hh => hc ⟨hh.1, hh.2.1⟩)]

theorem extend_lcpOf (t sa : List Nat) (p l : Nat) (hl : l ≤ lcpOf t sa p) :
    extend t p (sa.getD (sa.idxOf p - 1) 0) t.length l = lcpOf t sa p := by
  rw [extend_eq t p _ t.length l (Nat.le_add_left _ _)]
  unfold lcpOf at hl ⊢
  have := cpl_add _ _ l hl
  rw [List.drop_drop, List.drop_drop] at this
  exact this.symm

theorem kasaiGo_spec (t sa : List Nat) (h : Sorted t sa) (hn : 0 < t.length) :
    ∀ (d p l : Nat) (lcp : List Int), p + d = t.length - 1 → (d = 0 ∨ l ≤ lcpOf t sa p) →
      lcp.length = t.length + 1 →
      (∀ r, r ≤ t.length → lcp[r]? = some (expectAt t sa p r)) →
      ∀ r, r ≤ t.length →
        (kasaiGo t sa (List.range' p d) l lcp)[r]? = some (expectAt t sa (t.length - 1) r) := by
  intro d
  induction d with
  | zero =>
    intro p l lcp hpd _ _ hinv r hr
    have : p = t.length - 1 := by omega
    subst this
    simpa [kasaiGo] using hinv r hr
  | succ d ih =>
    intro p l lcp hpd hl hlen hinv r hr
    have hl' : l ≤ lcpOf t sa p := hl.resolve_left (Nat.succ_ne_zero d)
    have hpn : p < t.length - 1 := by omega
    have rp := h.rank_lt p (Nat.lt_of_lt_of_le hpn (Nat.sub_le _ _))
    rw [List.range'_succ]
    simp only [kasaiGo]
    rw [extend_lcpOf t sa p l hl']
    apply ih (p + 1) (lcpOf t sa p - 1) _ (by omega) ?_ (by rw [List.length_set]; exact hlen) ?_ r hr
    · by_cases hd : d = 0
      · left; exact hd
      · right; exact kasai_ineq t sa h p (by omega) (h.rank_pos hn p hpn)
    · intro r' hr'
      rw [List.getElem?_set, expectAt_succ h hn p hpn r']
      by_cases he : sa.idxOf p = r'
      · rw [if_pos he, if_pos he, if_pos (by rw [hlen]; exact Nat.lt_succ_of_lt rp)]
      · rw [if_neg he, if_neg he, hinv r' hr']

theorem length_kasaiGo (t sa : List Nat) : ∀ (ps : List Nat) (l : Nat) (lcp : List Int),
    (kasaiGo t sa ps l lcp).length = lcp.length
  | [], _, _ => rfl
  | p :: ps, l, lcp => by simp only [kasaiGo]; rw [length_kasaiGo t sa ps, List.length_set]

theorem expectAt_last {t sa : List Nat} (h : Sorted t sa) (hn : 0 < t.length) (r : Nat) (hr : r ≤ t.length) :
    some (expectAt t sa (t.length - 1) r) = (lcpRef t sa)[r]? := by
  have hlen := h.length
  unfold expectAt
  cases r with
  | zero => rw [if_neg (fun hh => absurd hh.1 (by decide)), (lcpRef_ends t sa).1]
  | succ r =>
    rcases Nat.lt_or_eq_of_le hr with hlt | heq
    · rw [lcpRef_inner t sa r (by rw [hlen]; exact hlt)]
      have hne : sa.getD (r + 1) 0 ≠ t.length - 1 := by
        intro e
        have := h.rank_getD (r + 1) hlt
        rw [e, h.rank_last] at this
        exact Nat.succ_ne_zero r this.symm
      have hlt' := h.getD_lt (r + 1) hlt
      rw [if_pos ⟨Nat.succ_pos r, hlt, by omega⟩]
      unfold lcpOf
      rw [h.rank_getD (r + 1) hlt, cpl_comm, Nat.add_sub_cancel]
    · rw [if_neg (fun hh => Nat.lt_irrefl _ (heq ▸ hh.2.1))]
      have := lcpRef_last t sa (h.ne_nil hn)
      rw [hlen, ← heq] at this
      exact this.symm

/-- **The Kasai loop computes the LCP array** of every sorted suffix permutation that starts with `n-1`. -/
theorem kasai_eq_lcpRef (t sa : List Nat) (h : Sorted t sa) (hn : 0 < t.length) :
    kasai t sa = lcpRef t sa := by
  have hlen := h.length
  have hspec := kasaiGo_spec t sa h hn (t.length - 1) 0 0 (List.replicate (t.length + 1) (-1))
    (Nat.zero_add _) (Or.inr (Nat.zero_le _)) List.length_replicate
    (by
      intro r hr
      rw [List.getElem?_replicate, if_pos (Nat.lt_succ_of_le hr)]
      unfold expectAt
      rw [if_neg (fun hh => Nat.not_lt_zero _ hh.2.2)])
  apply List.ext_getElem?
  intro r
  by_cases hr : r ≤ t.length
  · unfold kasai
    rw [List.range_eq_range', hspec r hr, expectAt_last h hn r hr]
  · have l1 : (kasai t sa).length = t.length + 1 := by
      unfold kasai; rw [length_kasaiGo, List.length_replicate]
    have l2 := length_lcpRef t sa (h.ne_nil hn)
    rw [List.getElem?_eq_none (by omega), List.getElem?_eq_none (by omega)]

end RbV.Kasai
