import RbV.Model.SampledSA
import RbV.Model.Occ
/-!
# Mirror model of `SuffixArray::sample` (what the sampled array stores)

```rust
for i in 0..self.len() {
    let idx = self.get(i).unwrap();
    if (i % sampling_rate) == 0 { sample.push(idx); }
    else if bwt.borrow()[i] == sentinel { extra_rows.insert(i, idx); }
}
```
`build sa bwt s sentinel i` = (sample, extra_rows) after the rows `0 … i-1`; the hash map is an association list.
`build_sample` / `build_extra` are the two facts `SampledModel.get_correct` needs.
-/
namespace RbV.SampledModel
open RbV

def build (sa bwt : List Nat) (s sentinel : Nat) : Nat → List Nat × List (Nat × Nat)
  | 0 => ([], [])
  | i + 1 =>
    let st := build sa bwt s sentinel i
    if i % s = 0 then (st.1 ++ [sa.getD i 0], st.2)
    else if bwt.getD i 0 = sentinel then (st.1, (i, sa.getD i 0) :: st.2)
    else st

def sampleGet (smp : List Nat) (q : Nat) : Nat := smp.getD q 0

def extraGet (ex : List (Nat × Nat)) (pos : Nat) : Nat := ((ex.lookup pos).getD 0)

theorem build_fst (sa bwt : List Nat) (s sentinel : Nat) : ∀ i,
    (build sa bwt s sentinel i).1 = ((List.range i).filter (fun j => j % s = 0)).map (fun j => sa.getD j 0)
  | 0 => rfl
  | i + 1 => by
    rw [List.range_succ, List.filter_append, List.map_append, ← build_fst sa bwt s sentinel i]
    simp only [build]
    by_cases hm : i % s = 0
    · simp only [hm, if_true, List.filter_cons, decide_true, List.filter_nil, List.map_cons, List.map_nil]
    · simp only [hm, if_false, List.filter_cons, decide_false, Bool.false_eq_true, List.filter_nil, List.map_nil,
        List.append_nil]
      split <;> rfl

theorem build_sample (sa bwt : List Nat) (s sentinel : Nat) (hs : 0 < s) (n pos : Nat) (hpos : pos < n)
    (hm : pos % s = 0) :
    sampleGet (build sa bwt s sentinel n).1 (pos / s) = sa.getD pos 0 := by
  unfold sampleGet
  rw [build_fst, List.getD_eq_getElem?_getD, OccM.map_filter_mod_getElem? _ n s pos hs hpos hm]
  rfl

theorem build_extra (sa bwt : List Nat) (s sentinel : Nat) (n pos : Nat) (hpos : pos < n)
    (hm : pos % s ≠ 0) (hb : bwt.getD pos 0 = sentinel) :
    extraGet (build sa bwt s sentinel n).2 pos = sa.getD pos 0 := by
  induction n with
  | zero => omega
  | succ n ih =>
    simp only [build]
    by_cases hpn : pos = n
    · subst hpn
      rw [if_neg hm, if_pos hb]
      simp [extraGet]
    · have hlt : pos < n := by omega
      by_cases hm' : n % s = 0
      · simp only [hm', if_true]; exact ih hlt
      · simp only [hm', if_false]
        split
        · have hih := ih hlt
          unfold extraGet at hih ⊢
          have : (pos == n) = false := by simp [hpn]
          simp only [List.lookup_cons, this]
          exact hih
        · exact ih hlt

end RbV.SampledModel
