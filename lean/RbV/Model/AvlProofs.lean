import RbV.Ref.AvlCheck
/-!
# Proofs about the AVL mirror model (`RbV/Model/Avl.lean`): `repair`, the search, the panics, the invariant

* `toList_repair`, `repair_good`, `repair_grow`  `repair` keeps the in-order sequence and restores exact fields and
  balance; the height grows by ≤ 1 (what an insertion needs of it: `RbV/Model/AvlG.lean`, where the insertion and
  history theorems are)
* `findLoop_perm`, `find_perm`  the pruned stack search reports exactly the overlapping entries (under `SearchInv`)
* `bumpTree` lemmas        `find_mut` + payload mutation keeps shape, fields, order and positive widths, and maps the
  stored multiset (histories of insertions and mutations: `RbV/Model/AvlG.lean`)
* `repairP_eq`, `insertP_eq`  the `unwrap`/`expect` panics of `repair`/`rotate_*` are never reached, on any tree
* `inv_iff`              the declarative invariant `Inv` = `Sorted` + exact fields + balance on stored heights (`Good`)
Core Lean only.
-/
namespace RbV.Avl
open RbV.Ivl

/-! ## rotations and `repair` keep the in-order sequence -/

@[simp] theorem toList_mk (l : Tree) (e : Entry) (r : Tree) : toList (mk l e r) = toList l ++ e :: toList r := rfl

@[simp] theorem ht_node (l : Tree) (e : Entry) (mx : Int) (h : Nat) (r : Tree) : ht (.node l e mx h r) = h := rfl

@[simp] theorem ht_nil : ht .nil = 0 := rfl

@[simp] theorem ht_mk (l : Tree) (e : Entry) (r : Tree) : ht (mk l e r) = 1 + max (ht l) (ht r) := rfl

theorem toList_rotateLeft (t : Tree) : toList (rotateLeft t) = toList t := by
  unfold rotateLeft
  split
  · simp [toList]
  · rfl

theorem toList_rotateRight (t : Tree) : toList (rotateRight t) = toList t := by
  unfold rotateRight
  split
  · simp [toList]
  · rfl

theorem toList_repair (t : Tree) : toList (repair t) = toList t := by
  unfold repair
  split
  · rfl
  · simp only
    repeat' split
    all_goals simp only [toList_rotateLeft, toList_rotateRight, toList, mk]

theorem size_eq_length : ∀ t, size t = (toList t).length
  | .nil => rfl
  | .node l e mx h r => by simp [size, toList, size_eq_length l, size_eq_length r]; omega

theorem sorted_repair (t : Tree) : Sorted (repair t) ↔ Sorted t := by unfold Sorted; rw [toList_repair]

/-- fields exact and balanced (on the stored heights, which are then the true ones) -/
def Good (t : Tree) : Prop := Fields t ∧ BalF t

theorem good_nil : Good .nil := ⟨trivial, trivial⟩

theorem good_node_iff (l : Tree) (e : Entry) (mx : Int) (h : Nat) (r : Tree) :
    Good (.node l e mx h r) ↔
      Good l ∧ Good r ∧ mx = updMax l e r ∧ h = updHeight l r ∧ ht l ≤ ht r + 1 ∧ ht r ≤ ht l + 1 := by
  simp only [Good, Fields, BalF]
  constructor
  · intro ⟨⟨a, b, c, d⟩, ⟨e', f, g, i⟩⟩; exact ⟨⟨a, e'⟩, ⟨b, f⟩, c, d, g, i⟩
  · intro ⟨⟨a, e'⟩, ⟨b, f⟩, c, d, g, i⟩; exact ⟨⟨a, b, c, d⟩, ⟨e', f, g, i⟩⟩

theorem good_mk (l : Tree) (e : Entry) (r : Tree) (gl : Good l) (gr : Good r) (h1 : ht l ≤ ht r + 1)
    (h2 : ht r ≤ ht l + 1) : Good (mk l e r) := by
  unfold mk
  rw [good_node_iff]
  exact ⟨gl, gr, rfl, rfl, h1, h2⟩

theorem good_leaf (e : Entry) : Good (leaf e) := by
  unfold leaf
  rw [good_node_iff]
  exact ⟨good_nil, good_nil, rfl, rfl, by simp, by simp⟩

theorem good_ht_pos (t : Tree) (g : Good t) (hp : 0 < ht t) :
    ∃ l e mx h r, t = .node l e mx h r ∧ Good l ∧ Good r ∧ h = 1 + max (ht l) (ht r) ∧ ht l ≤ ht r + 1 ∧
      ht r ≤ ht l + 1 := by
  cases t with
  | nil => simp at hp
  | node l e mx h r =>
    rw [good_node_iff] at g
    obtain ⟨gl, gr, _, hh, b1, b2⟩ := g
    exact ⟨l, e, mx, h, r, rfl, gl, gr, hh, b1, b2⟩

theorem repair_bal (l : Tree) (x : Entry) (mx : Int) (h : Nat) (r : Tree) (hb : ht l ≤ ht r + 1 ∧ ht r ≤ ht l + 1) :
    repair (.node l x mx h r) = mk l x r := by
  simp only [repair, hb, and_self, ↓reduceIte]

/-- right-heavy: the inner rotation of the zig-zag case, then the outer one -/
theorem repair_right (l : Tree) (x : Entry) (mx : Int) (h : Nat) (rl : Tree) (y : Entry) (rmx : Int) (rh : Nat)
    (rr : Tree) (hb : ¬(ht l ≤ rh + 1 ∧ rh ≤ ht l + 1)) (hg : rh > ht l) :
    repair (.node l x mx h (.node rl y rmx rh rr)) =
      rotateLeft (.node l x mx h (if ht rl > ht rr then rotateRight (.node rl y rmx rh rr) else .node rl y rmx rh rr)) := by
  simp only [repair, ht_node, hb, hg, ↓reduceIte]

theorem repair_left (ll : Tree) (y : Entry) (lmx : Int) (lh : Nat) (lr : Tree) (x : Entry) (mx : Int) (h : Nat)
    (r : Tree) (hb : ¬(lh ≤ ht r + 1 ∧ ht r ≤ lh + 1)) (hg : ¬ ht r > lh) :
    repair (.node (.node ll y lmx lh lr) x mx h r) =
      rotateRight (.node (if ht lr > ht ll then rotateLeft (.node ll y lmx lh lr) else .node ll y lmx lh lr) x mx h r) := by
  simp only [repair, ht_node, hb, hg, ↓reduceIte]

theorem repair_RL (L A Bt RR : Tree) (x y z : Entry) (mx amx rmx : Int) (h ah rh : Nat)
    (hb : ¬(ht L ≤ rh + 1 ∧ rh ≤ ht L + 1)) (hg : rh > ht L) (hd : ah > ht RR) :
    repair (.node L x mx h (.node (.node A z amx ah Bt) y rmx rh RR)) = mk (mk L x A) z (mk Bt y RR) := by
  rw [repair_right _ _ _ _ _ _ _ _ _ hb hg, if_pos (show ht (.node A z amx ah Bt) > ht RR from hd)]; rfl

theorem repair_RR (L RL RR : Tree) (x y : Entry) (mx rmx : Int) (h rh : Nat)
    (hb : ¬(ht L ≤ rh + 1 ∧ rh ≤ ht L + 1)) (hg : rh > ht L) (hd : ¬ ht RL > ht RR) :
    repair (.node L x mx h (.node RL y rmx rh RR)) = mk (mk L x RL) y RR := by
  rw [repair_right _ _ _ _ _ _ _ _ _ hb hg, if_neg hd]; rfl

theorem repair_LR (LL A Bt R : Tree) (x y z : Entry) (mx amx lmx : Int) (h ah lh : Nat)
    (hb : ¬(lh ≤ ht R + 1 ∧ ht R ≤ lh + 1)) (hg : ¬ ht R > lh) (hd : ah > ht LL) :
    repair (.node (.node LL y lmx lh (.node A z amx ah Bt)) x mx h R) = mk (mk LL y A) z (mk Bt x R) := by
  rw [repair_left _ _ _ _ _ _ _ _ _ hb hg, if_pos (show ht (.node A z amx ah Bt) > ht LL from hd)]; rfl

theorem repair_LL (LL LR R : Tree) (x y : Entry) (mx lmx : Int) (h lh : Nat)
    (hb : ¬(lh ≤ ht R + 1 ∧ ht R ≤ lh + 1)) (hg : ¬ ht R > lh) (hd : ¬ ht LR > ht LL) :
    repair (.node (.node LL y lmx lh LR) x mx h R) = mk LL y (mk LR x R) := by
  rw [repair_left _ _ _ _ _ _ _ _ _ hb hg, if_neg hd]; rfl

/-! ### the three shapes a rotation produces, with the heights of the parts related linearly -/

theorem good_rotL {A B C : Tree} (x y : Entry) (gA : Good A) (gB : Good B) (gC : Good C) (h1 : ht A ≤ ht B)
    (h2 : ht B ≤ ht A + 1) (h3 : ht C = ht A + 1) :
    Good (mk (mk A x B) y C) ∧ ht (mk (mk A x B) y C) = ht B + 2 := by
  have hi : ht (mk A x B) = ht B + 1 := by rw [ht_mk, Nat.max_eq_right h1, Nat.add_comm]
  have hb : ht (mk A x B) ≤ ht C + 1 ∧ ht C ≤ ht (mk A x B) + 1 ∧ 1 + max (ht (mk A x B)) (ht C) = ht B + 2 := by
    rw [hi, h3]; omega
  exact ⟨good_mk _ _ _ (good_mk _ _ _ gA gB (Nat.le_succ_of_le h1) h2) gC hb.1 hb.2.1, hb.2.2⟩

theorem good_rotR {A B C : Tree} (x y : Entry) (gA : Good A) (gB : Good B) (gC : Good C) (h1 : ht C ≤ ht B)
    (h2 : ht B ≤ ht C + 1) (h3 : ht A = ht C + 1) :
    Good (mk A y (mk B x C)) ∧ ht (mk A y (mk B x C)) = ht B + 2 := by
  have hi : ht (mk B x C) = ht B + 1 := by rw [ht_mk, Nat.max_eq_left h1, Nat.add_comm]
  have hb : ht A ≤ ht (mk B x C) + 1 ∧ ht (mk B x C) ≤ ht A + 1 ∧ 1 + max (ht A) (ht (mk B x C)) = ht B + 2 := by
    rw [hi, h3]; omega
  exact ⟨good_mk _ _ _ gA (good_mk _ _ _ gB gC h2 (Nat.le_succ_of_le h1)) hb.1 hb.2.1, hb.2.2⟩

/-- result of a double rotation (the same shape for right-left and left-right): the outer parts `A`, `D` are equally
tall, the two halves `B`, `C` of the node that moves to the top are as tall or one shorter -/
theorem good_rot2 {A B C D : Tree} (x y z : Entry) (gA : Good A) (gB : Good B) (gC : Good C) (gD : Good D)
    (hD : ht D = ht A) (b1 : ht B ≤ ht A) (b2 : ht A ≤ ht B + 1) (c1 : ht C ≤ ht A) (c2 : ht A ≤ ht C + 1) :
    Good (mk (mk A x B) z (mk C y D)) ∧ ht (mk (mk A x B) z (mk C y D)) = ht A + 2 := by
  have hl : ht (mk A x B) = ht A + 1 := by rw [ht_mk, Nat.max_eq_left b1, Nat.add_comm]
  have hr : ht (mk C y D) = ht A + 1 := by rw [ht_mk, hD, Nat.max_eq_right c1, Nat.add_comm]
  rw [← hD] at c1 c2
  refine ⟨good_mk _ _ _ (good_mk _ _ _ gA gB b2 (Nat.le_succ_of_le b1))
    (good_mk _ _ _ gC gD (Nat.le_succ_of_le c1) c2) ?_ ?_, ?_⟩
  · rw [hl, hr]; exact Nat.le_succ _
  · rw [hl, hr]; exact Nat.le_succ _
  · rw [ht_mk, hl, hr, Nat.max_self, Nat.add_comm]

/-- the height bounds of `repair_good` when one child is two taller than the other, the shorter having height `a`, and
the result has height `k + 2` -/
theorem repair_bounds {a k : Nat} (h1 : a ≤ k) (h2 : k ≤ a + 1) :
    (max a (a + 2) ≤ k + 2 ∧ k + 2 ≤ 1 + max a (a + 2)) ∧ (max (a + 2) a ≤ k + 2 ∧ k + 2 ≤ 1 + max (a + 2) a) := by
  omega

theorem repair_good (l : Tree) (x : Entry) (mx : Int) (h : Nat) (r : Tree) (gl : Good l) (gr : Good r)
    (h1 : ht l ≤ ht r + 2) (h2 : ht r ≤ ht l + 2) :
    Good (repair (.node l x mx h r)) ∧ max (ht l) (ht r) ≤ ht (repair (.node l x mx h r)) ∧
      ht (repair (.node l x mx h r)) ≤ 1 + max (ht l) (ht r) := by
  by_cases hb : ht l ≤ ht r + 1 ∧ ht r ≤ ht l + 1
  · rw [repair_bal _ _ _ _ _ hb, ht_mk]
    exact ⟨good_mk l x r gl gr hb.1 hb.2, Nat.le_add_left _ _, Nat.le_refl _⟩
  · by_cases hgt : ht r > ht l
    · -- right-heavy by exactly 2
      have h2' : ht r = ht l + 2 := by omega
      clear h1 h2
      obtain ⟨rl, y, rmx, rh, rr, rfl, grl, grr, hrh, b1, b2⟩ := good_ht_pos r gr (by rw [h2']; exact Nat.succ_pos _)
      simp only [ht_node] at hb hgt h2' ⊢
      by_cases hd : ht rl > ht rr
      · rw [Nat.max_eq_left (Nat.le_of_lt hd)] at hrh
        obtain ⟨a, z, amx, ah, b, rfl, ga, gb, hah, c1, c2⟩ := good_ht_pos rl grl (Nat.zero_lt_of_lt hd)
        simp only [ht_node] at hd b1 hrh
        rw [repair_RL _ _ _ _ _ _ _ _ _ _ _ _ _ hb hgt hd]
        clear hb hgt b2
        have hf : ht rr = ht l ∧ ht a ≤ ht l ∧ ht l ≤ ht a + 1 ∧ ht b ≤ ht l ∧ ht l ≤ ht b + 1 := by omega
        obtain ⟨g, e⟩ := good_rot2 x y z gl ga gb grr hf.1 hf.2.1 hf.2.2.1 hf.2.2.2.1 hf.2.2.2.2
        rw [e, h2']
        exact ⟨g, (repair_bounds (Nat.le_refl _) (Nat.le_succ _)).1⟩
      · rw [Nat.max_eq_right (Nat.le_of_not_gt hd)] at hrh
        rw [repair_RR _ _ _ _ _ _ _ _ _ hb hgt hd]
        clear hb hgt
        have hf : ht l ≤ ht rl ∧ ht rl ≤ ht l + 1 ∧ ht rr = ht l + 1 := by omega
        obtain ⟨g, e⟩ := good_rotL x y gl grl grr hf.1 hf.2.1 hf.2.2
        rw [e, h2']
        exact ⟨g, (repair_bounds hf.1 hf.2.1).1⟩
    · -- left-heavy by exactly 2
      have h1' : ht l = ht r + 2 := by omega
      clear h1 h2
      obtain ⟨ll, y, lmx, lh, lr, rfl, gll, glr, hlh, b1, b2⟩ := good_ht_pos l gl (by rw [h1']; exact Nat.succ_pos _)
      simp only [ht_node] at hb hgt h1' ⊢
      by_cases hd : ht lr > ht ll
      · rw [Nat.max_eq_right (Nat.le_of_lt hd)] at hlh
        obtain ⟨a, z, amx, ah, b, rfl, ga, gb, hah, c1, c2⟩ := good_ht_pos lr glr (Nat.zero_lt_of_lt hd)
        simp only [ht_node] at hd b2 hlh
        rw [repair_LR _ _ _ _ _ _ _ _ _ _ _ _ _ hb hgt hd]
        clear hb hgt b1
        have hf : ht r = ht ll ∧ ht a ≤ ht ll ∧ ht ll ≤ ht a + 1 ∧ ht b ≤ ht ll ∧ ht ll ≤ ht b + 1 := by omega
        obtain ⟨g, e⟩ := good_rot2 y x z gll ga gb gr hf.1 hf.2.1 hf.2.2.1 hf.2.2.2.1 hf.2.2.2.2
        rw [e, h1', ← hf.1]
        exact ⟨g, (repair_bounds (Nat.le_refl _) (Nat.le_succ _)).2⟩
      · rw [Nat.max_eq_left (Nat.le_of_not_gt hd)] at hlh
        rw [repair_LL _ _ _ _ _ _ _ _ _ hb hgt hd]
        clear hb hgt
        have hf : ht r ≤ ht lr ∧ ht lr ≤ ht r + 1 ∧ ht ll = ht r + 1 := by omega
        obtain ⟨g, e⟩ := good_rotR x y gll glr gr hf.1 hf.2.1 hf.2.2
        rw [e, h1']
        exact ⟨g, (repair_bounds hf.1 hf.2.1).2⟩

theorem repair_grow {l l' r r' : Tree} (x : Entry) (mx : Int) (h : Nat) (gl : Good l') (gr : Good r')
    (b1 : ht l ≤ ht r + 1) (b2 : ht r ≤ ht l + 1) (l1 : ht l ≤ ht l') (l2 : ht l' ≤ ht l + 1) (r1 : ht r ≤ ht r')
    (r2 : ht r' ≤ ht r + 1) :
    Good (repair (.node l' x mx h r')) ∧ updHeight l r ≤ ht (repair (.node l' x mx h r')) ∧
      ht (repair (.node l' x mx h r')) ≤ updHeight l r + 1 := by
  unfold updHeight
  by_cases hb : ht l' ≤ ht r' + 1 ∧ ht r' ≤ ht l' + 1
  · rw [repair_bal _ _ _ _ _ hb, ht_mk]
    exact ⟨good_mk _ _ _ gl gr hb.1 hb.2, by omega⟩
  · have hd : ht l' ≤ ht r' + 2 ∧ ht r' ≤ ht l' + 2 := by omega
    obtain ⟨g, e⟩ := repair_good l' x mx h r' gl gr hd.1 hd.2
    exact ⟨g, by omega⟩

/-! ## the pruned stack search -/

/-- every stored interval has positive width -/
def PosW (t : Tree) : Prop := ∀ e ∈ toList t, e.lo < e.hi

/-- what one tree on the stack still has to contribute -/
def answer (q : Query) (t : Tree) : List Entry := expected (toList t) q

theorem answer_nil (q : Query) : answer q .nil = [] := rfl

theorem flatMap_push (q : Query) (t : Tree) (s : List Tree) :
    (push t s).flatMap (answer q) = answer q t ++ s.flatMap (answer q) := by
  cases t <;> simp [push, answer_nil]

theorem mem_push {t' t : Tree} {s : List Tree} (h : t' ∈ push t s) : t' = t ∨ t' ∈ s := by
  cases t with
  | nil => exact Or.inr h
  | node l e mx hh r => simpa [push] using h

theorem intersect_iff (q : Query) (e : Entry) (hq : q.lo < q.hi) (he : e.lo < e.hi) :
    intersect q e = true ↔ Overlaps q e := by
  simp only [intersect, Overlaps, Bool.and_eq_true, decide_eq_true_eq]
  omega

theorem answer_node (q : Query) (l : Tree) (e : Entry) (mx : Int) (h : Nat) (r : Tree) :
    answer q (.node l e mx h r) =
      answer q l ++ (if Overlaps q e then [e] else []) ++ answer q r := by
  simp only [answer, expected, toList, List.filter_append, List.filter_cons]
  split <;> simp_all

theorem answer_eq_nil (q : Query) (t : Tree) (h : ∀ a ∈ toList t, ¬ Overlaps q a) : answer q t = [] := by
  simp only [answer, expected, List.filter_eq_nil_iff, decide_eq_true_eq]
  exact h

theorem ok_push {P : Tree → Prop} {t : Tree} {s : List Tree} (ht : P t) (hs : ∀ t' ∈ s, P t') : ∀ t' ∈ push t s, P t' := by
  intro t' h
  rcases mem_push h with rfl | h
  · exact ht
  · exact hs t' h

theorem ok_node {l r : Tree} {e : Entry} {mx : Int} {h : Nat}
    (ok : SearchInv (.node l e mx h r) ∧ PosW (.node l e mx h r)) :
    (SearchInv l ∧ PosW l) ∧ (SearchInv r ∧ PosW r) ∧ e.lo < e.hi :=
  ⟨⟨ok.1.1, fun a ha => ok.2 a (by simp [toList, ha])⟩, ⟨ok.1.2.1, fun a ha => ok.2 a (by simp [toList, ha])⟩,
    ok.2 e (by simp [toList])⟩

/-- the right child is pushed last, so it is answered first -/
theorem perm_children (L R S : List Entry) : (R ++ (L ++ S)).Perm (L ++ (R ++ S)) := by
  rw [← List.append_assoc, ← List.append_assoc]
  exact List.perm_append_comm.append_right S

theorem findLoop_perm (q : Query) (hq : q.lo < q.hi) : ∀ (s : List Tree),
    (∀ t ∈ s, SearchInv t ∧ PosW t) → (findLoop q s).Perm (s.flatMap (answer q)) := by
  intro s
  fun_induction findLoop q s with
  | case1 => intro _; exact List.Perm.refl _
  | case2 s ih =>
    intro hs
    rw [List.flatMap_cons, answer_nil, List.nil_append]
    exact ih (fun t hmem => hs t (List.mem_cons_of_mem _ hmem))
  | case3 l e mx h r s h1 h2 h3 ih =>
    intro hs
    obtain ⟨okl, okr, he⟩ := ok_node (hs _ List.mem_cons_self)
    have ih' := ih (ok_push okr (ok_push okl (fun t hmem => hs t (List.mem_cons_of_mem _ hmem))))
    rw [flatMap_push, flatMap_push] at ih'
    rw [List.flatMap_cons, answer_node, if_pos ((intersect_iff q e hq he).mp h3), List.append_assoc, List.append_assoc,
      List.singleton_append]
    exact ((ih'.trans (perm_children _ _ _)).cons e).trans List.perm_middle.symm
  | case4 l e mx h r s h1 h2 h3 ih =>
    intro hs
    obtain ⟨okl, okr, he⟩ := ok_node (hs _ List.mem_cons_self)
    have ih' := ih (ok_push okr (ok_push okl (fun t hmem => hs t (List.mem_cons_of_mem _ hmem))))
    rw [flatMap_push, flatMap_push] at ih'
    rw [List.flatMap_cons, answer_node, if_neg (fun hc => h3 ((intersect_iff q e hq he).mpr hc)), List.append_nil,
      List.append_assoc]
    exact ih'.trans (perm_children _ _ _)
  | case5 l e mx h r s h1 h2 ih =>
    -- the query ends before this node starts: nothing here or to the right
    intro hs
    obtain ⟨okl, -, -⟩ := ok_node (hs _ List.mem_cons_self)
    have hord := (hs _ List.mem_cons_self).1.2.2.2
    have hr : answer q r = [] := answer_eq_nil q r (fun a ha => by have := hord a ha; unfold Overlaps; omega)
    have ih' := ih (ok_push okl (fun t hmem => hs t (List.mem_cons_of_mem _ hmem)))
    rw [flatMap_push] at ih'
    rw [List.flatMap_cons, answer_node, hr, if_neg (by unfold Overlaps; omega), List.append_nil, List.append_nil]
    exact ih'
  | case6 l e mx h r s h1 ih =>
    -- the query starts at or after the largest end below this node
    intro hs
    have hmx := (hs _ List.mem_cons_self).1.2.2.1
    rw [List.flatMap_cons, answer_eq_nil q _ (fun a ha => by
      have := hmx a (by simpa [toList] using ha)
      unfold Overlaps; omega), List.nil_append]
    exact ih (fun t hmem => hs t (List.mem_cons_of_mem _ hmem))

theorem find_perm (t : Tree) (q : Query) (hs : SearchInv t) (hp : PosW t) (hq : q.lo < q.hi) :
    (find t q).Perm (expected (toList t) q) := by
  unfold find
  have := findLoop_perm q hq (push t []) (by
    intro t' ht'
    rcases mem_push ht' with rfl | h
    · exact ⟨hs, hp⟩
    · simp at h)
  rw [flatMap_push] at this
  simpa [answer] using this

theorem weight_lt_node (l : Tree) (e : Entry) (mx : Int) (h : Nat) (r : Tree) (s : List Tree) :
    weight s < weight (.node l e mx h r :: s) ∧ weight (push l s) < weight (.node l e mx h r :: s) ∧
      weight (push r (push l s)) < weight (.node l e mx h r :: s) := by
  have := weight_push r (push l s)
  have := weight_push l s
  simp only [weight, size]
  omega

theorem findLoop_length_le (q : Query) : ∀ (s : List Tree), (findLoop q s).length ≤ weight s := by
  intro s
  fun_induction findLoop q s with
  | case1 => exact Nat.le_refl _
  | case2 s ih => exact Nat.le_trans ih (Nat.le_add_left _ _)
  | case3 l e mx h r s h1 h2 h3 ih => exact Nat.succ_le_of_lt (Nat.lt_of_le_of_lt ih (weight_lt_node l e mx h r s).2.2)
  | case4 l e mx h r s h1 h2 h3 ih => exact Nat.le_trans ih (Nat.le_of_lt (weight_lt_node l e mx h r s).2.2)
  | case5 l e mx h r s h1 h2 ih => exact Nat.le_trans ih (Nat.le_of_lt (weight_lt_node l e mx h r s).2.1)
  | case6 l e mx h r s h1 ih => exact Nat.le_trans ih (Nat.le_of_lt (weight_lt_node l e mx h r s).1)

theorem toList_bumpTree (q : Query) (delta : Int) : ∀ t, toList (bumpTree q delta t) =
    (toList t).map (fun e => if intersect q e then { e with data := e.data + delta } else e)
  | .nil => rfl
  | .node l e mx h r => by
    simp only [bumpTree, toList, List.map_append, List.map_cons, toList_bumpTree q delta l,
      toList_bumpTree q delta r]

theorem ht_bumpTree (q : Query) (delta : Int) : ∀ t, ht (bumpTree q delta t) = ht t
  | .nil => rfl
  | .node _ _ _ _ _ => rfl

theorem updMax_bumpTree (q : Query) (delta : Int) (l : Tree) (e e' : Entry) (r : Tree) (he : e'.hi = e.hi) :
    updMax (bumpTree q delta l) e' (bumpTree q delta r) = updMax l e r := by
  cases l <;> cases r <;> simp [updMax, bumpTree, he]

theorem good_bumpTree (q : Query) (delta : Int) : ∀ t, Good t → Good (bumpTree q delta t)
  | .nil, _ => good_nil
  | .node l e mx h r, g => by
    rw [good_node_iff] at g
    obtain ⟨gl, gr, hm, hh, b1, b2⟩ := g
    simp only [bumpTree]
    rw [good_node_iff]
    refine ⟨good_bumpTree q delta l gl, good_bumpTree q delta r gr, ?_, ?_, ?_, ?_⟩
    · rw [updMax_bumpTree q delta l e _ r (by split <;> rfl)]; exact hm
    · simp only [updHeight, ht_bumpTree]; exact hh
    · simp only [ht_bumpTree]; exact b1
    · simp only [ht_bumpTree]; exact b2

theorem sorted_bumpTree (q : Query) (delta : Int) (t : Tree) (hs : Sorted t) : Sorted (bumpTree q delta t) := by
  unfold Sorted at *
  rw [toList_bumpTree, List.pairwise_map]
  refine hs.imp ?_
  intro a b hab
  split <;> split <;> exact hab

theorem posW_bumpTree (q : Query) (d : Int) (t : Tree) (hp : PosW t) : PosW (bumpTree q d t) := by
  intro a ha
  rw [toList_bumpTree, List.mem_map] at ha
  obtain ⟨b, hb, rfl⟩ := ha
  have := hp b hb
  split <;> exact this

theorem bumpTree_perm (q : Query) (d : Int) (t : Tree) (s : List Entry) (hp : PosW t) (hq : q.lo < q.hi)
    (h : (toList t).Perm s) : (toList (bumpTree q d t)).Perm (bump s q d) := by
  rw [toList_bumpTree]
  unfold bump
  have : (toList t).map (fun e => if intersect q e then { e with data := e.data + d } else e) =
      (toList t).map (fun e => if Overlaps q e then { e with data := e.data + d } else e) := by
    apply List.map_congr_left
    intro a ha
    have := intersect_iff q a hq (hp a ha)
    by_cases hc : Overlaps q a
    · simp [hc, this.mpr hc]
    · have : intersect q a = false := by
        cases hi : intersect q a
        · rfl
        · exact absurd (this.mp hi) hc
      simp [hc, this]
  rw [this]
  exact h.map _

/-! ## the panicking branches are unreachable -/

/-- `rotate_left` with its `unwrap()` made explicit -/
def rotateLeftP : Tree → Option Tree
  | .node t1 x _ _ (.node t2 y _ _ t3) => some (mk (mk t1 x t2) y t3)
  | _ => none

def rotateRightP : Tree → Option Tree
  | .node (.node t1 y _ _ t2) x _ _ t3 => some (mk t1 y (mk t2 x t3))
  | _ => none

/-- `repair` with `expect("Invalid tree: leaf is taller than its sibling.")` and the `unwrap()`s explicit:
`none` = the Rust code would panic -/
def repairP : Tree → Option Tree
  | .nil => some .nil
  | .node l x mx h r =>
    let lh := ht l
    let rh := ht r
    if lh ≤ rh + 1 ∧ rh ≤ lh + 1 then some (mk l x r)
    else if rh > lh then
      match r with
      | .node rl _ _ _ rr =>
        if ht rl > ht rr then (rotateRightP r).bind (fun r' => rotateLeftP (.node l x mx h r'))
        else rotateLeftP (.node l x mx h r)
      | .nil => none
    else
      match l with
      | .node ll _ _ _ lr =>
        if ht lr > ht ll then (rotateLeftP l).bind (fun l' => rotateRightP (.node l' x mx h r))
        else rotateRightP (.node l x mx h r)
      | .nil => none

def insertP : Tree → Entry → Option Tree
  | .nil, e => some (leaf e)
  | .node l x mx h r, e =>
    if e.lo ≤ x.lo then (insertP l e).bind (fun l' => repairP (.node l' x mx h r))
    else (insertP r e).bind (fun r' => repairP (.node l x mx h r'))

theorem exists_node_of_lt_ht {t : Tree} {k : Nat} (h : k < ht t) : ∃ l e mx hh r, t = .node l e mx hh r := by
  cases t with
  | nil => exact absurd h (Nat.not_lt_zero _)
  | node l e mx hh r => exact ⟨l, e, mx, hh, r, rfl⟩

/-- no tree at all reaches a panicking branch of `repair`: a child is unwrapped only after its stored height was found
strictly larger than another height, and an absent child counts as height 0 -/
theorem repairP_eq (t : Tree) : repairP t = some (repair t) := by
  cases t with
  | nil => rfl
  | node l x mx h r =>
    unfold repairP repair
    simp only
    split
    · rfl
    · split
      · rename_i hgt
        obtain ⟨rl, y, rmx, rh, rr, rfl⟩ := exists_node_of_lt_ht hgt
        simp only
        split
        · rename_i hd
          obtain ⟨a, z, amx, ah, b, rfl⟩ := exists_node_of_lt_ht hd
          rfl
        · rfl
      · have hl : ht r + 1 < ht l := by omega
        obtain ⟨ll, y, lmx, lh, lr, rfl⟩ := exists_node_of_lt_ht hl
        simp only
        split
        · rename_i hd
          obtain ⟨a, z, amx, ah, b, rfl⟩ := exists_node_of_lt_ht hd
          rfl
        · rfl

theorem insertP_eq : ∀ (t : Tree) (e : Entry), insertP t e = some (insert t e)
  | .nil, e => rfl
  | .node l x mx h r, e => by
    unfold insertP insert
    split
    · rw [insertP_eq l e, Option.bind_some, repairP_eq]
    · rw [insertP_eq r e, Option.bind_some, repairP_eq]

/-! ## the declarative invariant `Inv` and the field-level form are the same thing -/

theorem isMaxEnd_unique (es : List Entry) (m1 m2 : Int) (h1 : IsMaxEnd es m1) (h2 : IsMaxEnd es m2) : m1 = m2 := by
  obtain ⟨a1, e1, he1, hm1⟩ := h1
  obtain ⟨a2, e2, he2, hm2⟩ := h2
  have := a1 e2 he2
  have := a2 e1 he1
  omega

theorem fields_of_ok : ∀ t, MaxOk t → HeightOk t → Fields t
  | .nil, _, _ => trivial
  | .node l e mx h r, hm, hh => by
    obtain ⟨ml, mr, hmax⟩ := hm
    obtain ⟨hl, hr, hht⟩ := hh
    have fl := fields_of_ok l ml hl
    have fr := fields_of_ok r mr hr
    have f' : Fields (.node l e (updMax l e r) (updHeight l r) r) := ⟨fl, fr, rfl, rfl⟩
    have hmx := (fields_maxOk _ f').2.2
    refine ⟨fl, fr, isMaxEnd_unique _ _ _ hmax hmx, ?_⟩
    rw [hht]
    simp only [realHeight, updHeight, ht_eq_realHeight l fl, ht_eq_realHeight r fr]

theorem balF_of_balanced : ∀ t, Fields t → Balanced t → BalF t
  | .nil, _, _ => trivial
  | .node l e mx h r, hf, hb => by
    obtain ⟨fl, fr, _, _⟩ := hf
    obtain ⟨bl, br, h1, h2⟩ := hb
    refine ⟨balF_of_balanced l fl bl, balF_of_balanced r fr br, ?_, ?_⟩
    · rw [ht_eq_realHeight l fl, ht_eq_realHeight r fr]; exact h1
    · rw [ht_eq_realHeight l fl, ht_eq_realHeight r fr]; exact h2

theorem inv_iff (t : Tree) : Inv t ↔ Sorted t ∧ Good t := by
  constructor
  · intro h
    have hf := fields_of_ok t h.maxOk h.heightOk
    exact ⟨h.sorted, hf, balF_of_balanced t hf h.balanced⟩
  · intro ⟨hs, hf, hb⟩
    exact inv_of_fields t hs hf hb

theorem inv_nil : Inv .nil := (inv_iff .nil).mpr ⟨by simp [Sorted, toList], good_nil⟩

end RbV.Avl
