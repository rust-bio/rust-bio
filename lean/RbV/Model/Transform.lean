import RbV.Spec.SufOrder
import RbV.Basic.GetD
/-
Mirror model of `suffix_array::transform_text` (the sentinel-aware rank transform that is fed to SA-IS) and the
theorem that ties it to the specification (C03):

```
let offset = sentinel_count - 1;
let mut s = sentinel_count;
for &a in text {
    if a == sentinel { s -= 1; transformed.push(s); }
    else { transformed.push(ranks[a] + offset); }          // ranks: index in the sorted alphabet of the text
}
```
`transform_sorted_isSA`: whenever an array is the sorted suffix permutation of the *transformed* integer text, it
satisfies `IsSA` for the byte text, with the sentinel order "a later sentinel is smaller" (rank of a sentinel = number
of sentinels after it).  So the property C03 follows from SA-IS sorting its integer input correctly.
`Transform.transformText` here takes the ranks from `rankOf` (a count: the form the proofs use); `Sais.transformText`
(`Model/Sais.lean`) looks them up in the sorted alphabet as the code does and is what the driver runs;
`Sais.transformText_eq` (`Lemmas/SaisTransform.lean`) says they are equal.
-/
namespace RbV.Transform

/-- `RankTransform`: index of `c` in the sorted alphabet of the text = number of distinct text symbols below `c` -/
def rankOf (t : List Nat) (c : Nat) : Nat := ((List.range c).filter (fun x => decide (x ∈ t))).length

def transformGo (t : List Nat) (sent offset : Nat) : List Nat → Nat → List Nat
  | [], _ => []
  | a :: as, s =>
    if a = sent then (s - 1) :: transformGo t sent offset as (s - 1)
    else (rankOf t a + offset) :: transformGo t sent offset as s

def transformText (t : List Nat) : List Nat :=
  transformGo t (sentinelOf t) (t.count (sentinelOf t) - 1) t (t.count (sentinelOf t))

/-- sentinels after position `p` -/
def rkAfter (t : List Nat) (p : Nat) : Nat := (t.drop (p + 1)).count (sentinelOf t)

theorem length_transformGo (t : List Nat) (sent offset : Nat) (xs : List Nat) (s : Nat) :
    (transformGo t sent offset xs s).length = xs.length := by
  induction xs generalizing s with
  | nil => rfl
  | cons a as ih => simp only [transformGo]; split <;> simp [ih]

theorem transformGo_getD (t : List Nat) (sent offset : Nat) (xs : List Nat) (i : Nat) (hi : i < xs.length) :
    (transformGo t sent offset xs (xs.count sent)).getD i 0 =
      if xs.getD i 0 = sent then (xs.drop (i + 1)).count sent else rankOf t (xs.getD i 0) + offset := by
  induction xs generalizing i with
  | nil => simp at hi
  | cons a as ih =>
    simp only [transformGo]
    by_cases ha : a = sent
    · subst ha
      have hc : (a :: as).count a - 1 = as.count a := by simp
      rw [if_pos rfl, hc]
      cases i with
      | zero => simp
      | succ i =>
        have := ih i (by simpa using hi)
        simpa [List.getD_eq_getElem?_getD] using this
    · have hc : (a :: as).count sent = as.count sent := by
        rw [List.count_cons]; simp [ha]
      rw [if_neg ha, hc]
      cases i with
      | zero => simp [ha]
      | succ i =>
        have := ih i (by simpa using hi)
        simpa [List.getD_eq_getElem?_getD] using this

theorem transformText_getD (t : List Nat) (p : Nat) (hp : p < t.length) :
    (transformText t).getD p 0 =
      if IsSentPos t p then rkAfter t p else rankOf t (t.getD p 0) + (t.count (sentinelOf t) - 1) := by
  unfold transformText rkAfter
  rw [transformGo_getD t _ _ t p hp]
  have := (isSentPos_iff t p hp).symm
  by_cases h : IsSentPos t p
  · rw [if_pos (this.mpr h), if_pos h]
  · rw [if_neg (fun e => h (this.mp e)), if_neg h]

theorem length_transformText (t : List Nat) : (transformText t).length = t.length :=
  length_transformGo t _ _ t _

/-! ### the sentinel order "later is smaller" -/

theorem count_drop_split (t : List Nat) (s p : Nat) (hp : p < t.length) :
    (t.drop p).count s = (if t.getD p 0 = s then 1 else 0) + (t.drop (p + 1)).count s := by
  rw [List.drop_eq_getElem_cons hp, List.count_cons, List.getD_eq_getElem?_getD, List.getElem?_eq_getElem hp]
  simp only [Option.getD_some, beq_iff_eq]
  omega

theorem count_drop_mono (t : List Nat) (s : Nat) (a b : Nat) (h : a ≤ b) :
    (t.drop b).count s ≤ (t.drop a).count s := by
  have : t.drop b = (t.drop a).drop (b - a) := by rw [List.drop_drop]; congr 1; omega
  rw [this]
  exact (List.drop_sublist _ _).count_le _

theorem sentPos_getD (t : List Nat) (p : Nat) (h : IsSentPos t p) : p < t.length ∧ t.getD p 0 = sentinelOf t := by
  unfold IsSentPos at h
  have := List.getElem?_eq_some_iff.mp h
  refine ⟨this.1, ?_⟩
  rw [List.getD_eq_getElem?_getD, h]; rfl

theorem rkAfter_strict (t : List Nat) (p q : Nat) (hq : IsSentPos t q) (hpq : p < q) :
    rkAfter t q < rkAfter t p := by
  unfold rkAfter
  obtain ⟨hql, hqv⟩ := sentPos_getD t q hq
  have h1 := count_drop_split t (sentinelOf t) q hql
  rw [if_pos hqv] at h1
  have h2 := count_drop_mono t (sentinelOf t) (p + 1) q (by omega)
  omega

theorem sentinelOrder_rkAfter (t : List Nat) (hne : t ≠ []) :
    SentinelOrder t (t.count (sentinelOf t)) (rkAfter t) := by
  refine ⟨?_, ?_, ?_⟩
  · intro p hp
    obtain ⟨hpl, hpv⟩ := sentPos_getD t p hp
    have h1 := count_drop_split t (sentinelOf t) p hpl
    rw [if_pos hpv] at h1
    have h2 := count_drop_mono t (sentinelOf t) 0 p (by omega)
    simp only [List.drop_zero] at h2
    unfold rkAfter; omega
  · intro p q hp hq he
    rcases Nat.lt_trichotomy p q with h | h | h
    · have := rkAfter_strict t p q hq h; omega
    · exact h
    · have := rkAfter_strict t q p hp h; omega
  · intro q hq hne'
    obtain ⟨hql, _⟩ := sentPos_getD t q hq
    have hlast := isSentPos_last t hne
    have := rkAfter_strict t q (t.length - 1) hlast (by omega)
    omega

/-! ### ranks of symbols -/

theorem rankOf_mono (t : List Nat) (a b : Nat) (h : a ≤ b) : rankOf t a ≤ rankOf t b := by
  unfold rankOf
  have : List.range a = (List.range b).take a := by rw [List.take_range]; congr 1; omega
  rw [this]
  exact ((List.take_sublist _ _).filter _).length_le

theorem rankOf_strict (t : List Nat) (a b : Nat) (h : a < b) (ha : a ∈ t) : rankOf t a < rankOf t b := by
  have h1 := rankOf_mono t (a + 1) b (by omega)
  have h2 : rankOf t (a + 1) = rankOf t a + 1 := by
    unfold rankOf
    rw [List.range_succ, List.filter_append]
    simp [ha]
  omega

theorem sentinelOf_mem (t : List Nat) (hne : t ≠ []) : sentinelOf t ∈ t := by
  have := sentPos_getD t _ (isSentPos_last t hne)
  rw [← this.2]; exact List.getD_mem t _ 0 this.1

/-- a position that is not a sentinel position carries a symbol of positive rank (the sentinel is the smallest symbol) -/
theorem rankOf_pos_of_not_sent (t : List Nat) (hne : t ≠ []) (hmin : ∀ p, p < t.length → sentinelOf t ≤ t.getD p 0)
    (x : Nat) (hx : x < t.length) (hns : ¬ IsSentPos t x) : 0 < rankOf t (t.getD x 0) :=
  Nat.lt_of_le_of_lt (Nat.zero_le _) (rankOf_strict t (sentinelOf t) (t.getD x 0)
    (Nat.lt_of_le_of_ne (hmin x hx) (fun e => hns ((isSentPos_iff t x hx).mpr e.symm))) (sentinelOf_mem t hne))

theorem rankOf_succ (t : List Nat) (b : Nat) :
    rankOf t (b + 1) = rankOf t b + (if b ∈ t then 1 else 0) := by
  unfold rankOf
  rw [List.range_succ, List.filter_append]
  by_cases hb : b ∈ t <;> simp [hb]

theorem exists_rankOf_eq (t : List Nat) (a r : Nat) (hr : r < rankOf t a) :
    ∃ b, b ∈ t ∧ b < a ∧ rankOf t b = r := by
  induction a with
  | zero => simp [rankOf] at hr
  | succ a ih =>
    rw [rankOf_succ] at hr
    by_cases ha : a ∈ t
    · rw [if_pos ha] at hr
      by_cases hra : r = rankOf t a
      · exact ⟨a, ha, by omega, hra.symm⟩
      · obtain ⟨b, hb1, hb2, hb3⟩ := ih (by omega)
        exact ⟨b, hb1, by omega, hb3⟩
    · rw [if_neg ha] at hr
      obtain ⟨b, hb1, hb2, hb3⟩ := ih (by omega)
      exact ⟨b, hb1, by omega, hb3⟩

theorem rkAfter_last (t : List Nat) : rkAfter t (t.length - 1) = 0 := by
  unfold rkAfter
  rw [List.drop_eq_nil_of_le (by omega)]; simp

/-- every member of the text below which there is no other member has rank 0; hence a symbol of positive rank
is not the (minimal) sentinel -/
theorem ne_sentinel_of_rank_pos (t : List Nat) (hmin : ∀ p, p < t.length → sentinelOf t ≤ t.getD p 0)
    (b : Nat) (hr : 0 < rankOf t b) : b ≠ sentinelOf t := by
  intro e
  obtain ⟨b', hb1, hb2, _⟩ := exists_rankOf_eq t b 0 hr
  obtain ⟨p, hp, hpe⟩ := List.exists_getD_of_mem t 0 hb1
  have := hmin p hp
  omega

/-- a text `tt` that carries the ranks `rk` of a sentinel order at the sentinel positions and `rank + (sentinel_count − 1)`
elsewhere compares every pair of positions like the key text of the specification under that order -/
theorem iso_of_values (t tt : List Nat) (rk : Nat → Nat) (ho : SentinelOrder t (t.count (sentinelOf t)) rk)
    (hsent : ∀ p, IsSentPos t p → tt.getD p 0 = rk p)
    (hother : ∀ p, p < t.length → ¬ IsSentPos t p →
      tt.getD p 0 = rankOf t (t.getD p 0) + (t.count (sentinelOf t) - 1))
    (hne : t ≠ []) (hmin : ∀ p, p < t.length → sentinelOf t ≤ t.getD p 0)
    (p q : Nat) (hp : p < t.length) (hq : q < t.length) :
    (tt.getD p 0 < tt.getD q 0 ↔
      keyAt t (t.count (sentinelOf t)) rk p < keyAt t (t.count (sentinelOf t)) rk q) := by
  rw [keyAt_lt_iff t _ _ ho]
  have hrank1 := rankOf_pos_of_not_sent t hne hmin
  by_cases hsp : IsSentPos t p <;> by_cases hsq : IsSentPos t q
  · rw [hsent p hsp, hsent q hsq]
    simp [hsp, hsq]
  · have hb := ho.bound p hsp
    have hr := hrank1 q hq hsq
    rw [hsent p hsp, hother q hq hsq]
    simp only [hsp, hsq, not_true_eq_false, not_false_eq_true, true_and, false_and, and_false,
      and_true, or_false, or_true, iff_true]
    omega
  · have hb := ho.bound q hsq
    have hr := hrank1 p hp hsp
    rw [hsent q hsq, hother p hp hsp]
    simp only [hsp, hsq, not_true_eq_false, not_false_eq_true, true_and, false_and, and_false,
      or_false, iff_false]
    omega
  · rw [hother p hp hsp, hother q hq hsq]
    simp only [hsp, hsq, not_false_eq_true, true_and, false_and, false_or]
    constructor
    · intro h
      apply Classical.byContradiction
      intro hge
      have := rankOf_mono t (t.getD q 0) (t.getD p 0) (by omega)
      omega
    · intro h
      have := rankOf_strict t _ _ h (List.getD_mem t p 0 hp)
      omega

/-- … so a sorted suffix permutation of `tt` satisfies C03 under that sentinel order -/
theorem isSA_of_iso (t tt sa : List Nat) (rk : Nat → Nat) (ho : SentinelOrder t (t.count (sentinelOf t)) rk)
    (hlen : tt.length = t.length)
    (hiso : ∀ p q, p < t.length → q < t.length → (tt.getD p 0 < tt.getD q 0 ↔
      keyAt t (t.count (sentinelOf t)) rk p < keyAt t (t.count (sentinelOf t)) rk q))
    (h : SuffixSorted tt sa) : IsSA t sa := by
  refine ⟨t.count (sentinelOf t), rk, ho, ?_⟩
  obtain ⟨hp, hpw⟩ := h
  rw [hlen] at hp
  refine ⟨by rw [length_keyText]; exact hp, ?_⟩
  have hiso' : ∀ p q, p < tt.length → q < tt.length → (tt.getD p 0 < tt.getD q 0 ↔
      (keyText t (t.count (sentinelOf t)) rk).getD p 0 < (keyText t (t.count (sentinelOf t)) rk).getD q 0) := by
    intro p q hp' hq'
    rw [hlen] at hp' hq'
    rw [getD_keyText t _ _ p hp', getD_keyText t _ _ q hq']
    exact hiso p q hp' hq'
  exact pairwise_sufLt_congr tt (keyText t _ _) (by rw [hlen, length_keyText]) hiso' hpw

/-- the transformed text compares every pair of positions exactly like the key text of the specification -/
theorem transform_iso (t : List Nat) (hne : t ≠ []) (hmin : ∀ p, p < t.length → sentinelOf t ≤ t.getD p 0)
    (p q : Nat) (hp : p < t.length) (hq : q < t.length) :
    ((transformText t).getD p 0 < (transformText t).getD q 0 ↔
      keyAt t (t.count (sentinelOf t)) (rkAfter t) p < keyAt t (t.count (sentinelOf t)) (rkAfter t) q) :=
  iso_of_values t _ _ (sentinelOrder_rkAfter t hne)
    (fun x hx => by rw [transformText_getD t x (sentPos_getD t x hx).1, if_pos hx])
    (fun x hx hns => by rw [transformText_getD t x hx, if_neg hns]) hne hmin p q hp hq

/-- **If SA-IS sorts the transformed text, the result satisfies C03.** -/
theorem transform_sorted_isSA (t sa : List Nat) (hne : t ≠ [])
    (hmin : ∀ p, p < t.length → sentinelOf t ≤ t.getD p 0)
    (h : SuffixSorted (transformText t) sa) : IsSA t sa :=
  isSA_of_iso t _ sa _ (sentinelOrder_rkAfter t hne) (length_transformText t) (transform_iso t hne hmin) h

end RbV.Transform
