import RbV.Model.Fasta
import RbV.Model.Fastq
import RbV.Model.BufLines
import RbV.Model.UniWs
/-!
# Stateful mirror of `fasta::Reader::read` / `fastq::Reader::read` / `Records` over the `BufReader` model  (C11)

Core Lean only.  `RbV/Model/Fasta.lean` and `Fastq.lean` work on the list of lines; here the readers are written the
way the Rust code is: a reader object that owns a `BufReader` (`BufLines.St`, capacity `c`, read schedule `sched`),
calls `read_line` when the code does, keeps the look-ahead `self.line` (FASTA), and fails with `InvalidData` when a
line is not valid UTF-8 (`read_line` into a `String` validates **the whole appended line**, after `read_until`
returned — so a multi-byte character that is split over several `read`s / buffer refills is validated in one piece;
the line has been consumed and the string is left empty).

Every function takes the text functions `T : Txt` (`trim_end`, header-line split): `Txt.unicode` for the Rust code
(`char::is_whitespace`), `Txt.ascii` for the list models (`RbV/Model/UniWs.lean`).

Second part: the list models *with* the UTF-8 check (`faRecordsU`, `fqRecordsU`) — what the stateful readers compute,
as a function of `splitLines file` alone (`RbV/Lemmas/FastxStream.lean`), for **every** byte string.
-/
namespace RbV.Fastx
open RbV.BufLines

/-! ## `core::str::from_utf8` (validity only) -/

def isCont (b : Nat) : Bool := 128 ≤ b && b ≤ 191

/-- well-formed UTF-8 (Unicode table 3-7: no overlong forms, no surrogates, nothing above U+10FFFF) -/
def validUtf8 : Bytes → Bool
  | [] => true
  | b0 :: r =>
    if b0 < 128 then validUtf8 r
    else match r with
      | [] => false
      | b1 :: r1 =>
        if 194 ≤ b0 && b0 ≤ 223 then isCont b1 && validUtf8 r1
        else match r1 with
          | [] => false
          | b2 :: r2 =>
            if b0 = 224 then 160 ≤ b1 && b1 ≤ 191 && isCont b2 && validUtf8 r2
            else if (225 ≤ b0 && b0 ≤ 236) || b0 = 238 || b0 = 239 then isCont b1 && isCont b2 && validUtf8 r2
            else if b0 = 237 then 128 ≤ b1 && b1 ≤ 159 && isCont b2 && validUtf8 r2
            else match r2 with
              | [] => false
              | b3 :: r3 =>
                if b0 = 240 then 144 ≤ b1 && b1 ≤ 191 && isCont b2 && isCont b3 && validUtf8 r3
                else if 241 ≤ b0 && b0 ≤ 243 then isCont b1 && isCont b2 && isCont b3 && validUtf8 r3
                else if b0 = 244 then 128 ≤ b1 && b1 ≤ 143 && isCont b2 && isCont b3 && validUtf8 r3
                else false

/-- text the readers treat like the list models do: valid UTF-8 without the lead bytes of non-ASCII white space -/
def PlainText (f : Bytes) : Prop := validUtf8 f = true ∧ NoUws f

instance (f : Bytes) : Decidable (PlainText f) := by unfold PlainText; infer_instance

/-- what the writer's argument types give (`&str` id and description, byte-slice sequence) for the records the
property speaks of: id and description valid UTF-8 (here: without non-ASCII white space), ASCII sequence -/
structure TextFa (r : FaRec) : Prop where
  id_ok : PlainText r.id
  desc_ok : ∀ d, r.desc = some d → PlainText d
  seq_ascii : ∀ b ∈ r.seq, b < 128

structure TextFq (r : FqRec) : Prop where
  id_ok : PlainText r.id
  desc_ok : ∀ d, r.desc = some d → PlainText d
  seq_ascii : ∀ b ∈ r.seq, b < 128
  qual_ascii : ∀ b ∈ r.qual, b < 128

instance (r : FaRec) : Decidable (TextFa r) :=
  decidable_of_iff (PlainText r.id ∧ (∀ d, r.desc = some d → PlainText d) ∧ (∀ b ∈ r.seq, b < 128))
    ⟨fun ⟨a, b, c⟩ => ⟨a, b, c⟩, fun ⟨a, b, c⟩ => ⟨a, b, c⟩⟩

instance (r : FqRec) : Decidable (TextFq r) :=
  decidable_of_iff (PlainText r.id ∧ (∀ d, r.desc = some d → PlainText d) ∧ (∀ b ∈ r.seq, b < 128) ∧
      (∀ b ∈ r.qual, b < 128))
    ⟨fun ⟨a, b, c, d⟩ => ⟨a, b, c, d⟩, fun ⟨a, b, c, d⟩ => ⟨a, b, c, d⟩⟩

/-- `BufRead::read_line(&mut s)` with `s` empty: `none` = `Err(InvalidData)` (the bytes are consumed, `s` stays
empty); `some []` = end of input -/
def readLineStr (c : Nat) (sched : Nat → Nat) (s : St) : Option Bytes × St :=
  (if validUtf8 (readLine c sched s).1 then some (readLine c sched s).1 else none, (readLine c sched s).2)

/-- a line was handed out (or refused): fewer bytes are pending -/
theorem readLineStr_progress (c : Nat) (sched : Nat → Nat) (s : St) :
    (readLineStr c sched s).1 = some [] ∨ (readLineStr c sched s).2.pending.length < s.pending.length := by
  have h := readUntil_length c sched s []
  unfold readLineStr
  cases hl : (readLine c sched s).1 with
  | nil => left; simp [validUtf8]
  | cons b t =>
    right
    simp only [readLine] at hl
    simp only [readLine, hl, List.length_cons, List.length_nil] at h ⊢
    omega

/-! ## FASTA -/

/-- `fasta::Reader`: the `BufReader` and the look-ahead `self.line` -/
structure FaReader where
  rd : St
  line : Bytes
deriving Repr, Inhabited

/-- what `Reader::read` returns: `Ok(())` with the record filled, `Err("Expected > …")`, `Err(InvalidData)` -/
inductive FaOut where
  | record (r : FaRec)
  | err
  | utf8
deriving DecidableEq, Repr, Inhabited

/-- the `loop` of `Reader::read`: `line.clear(); read_line(&mut line)?; if line.is_empty() || line.starts_with('>')
{ break } seq.push_str(line.trim_end())`.  `none` = the `?` fired. -/
def faLoop (T : Txt) (c : Nat) (sched : Nat → Nat) (rd : St) (seq : Bytes) : Option (Bytes × Bytes) × St :=
  match h : readLineStr c sched rd with
  | (none, rd') => (none, rd')
  | (some l, rd') =>
    if l.isEmpty || startsWith l 62 then (some (seq, l), rd')
    else faLoop T c sched rd' (seq ++ T.trim l)
termination_by rd.pending.length
decreasing_by
  rename_i hne
  have hp := readLineStr_progress c sched rd
  rw [h] at hp
  rcases hp with hp | hp
  · simp only [Option.some.injEq] at hp
    simp [hp] at hne
  · exact hp

/-- `Reader::read` from the point where `self.line` holds a non-empty line -/
def faFromHeader (T : Txt) (c : Nat) (sched : Nat → Nat) (r : FaReader) : FaOut × FaReader :=
  if !startsWith r.line 62 then (.err, r)
  else
    match faLoop T c sched r.rd [] with
    | (none, rd') => (.utf8, { rd := rd', line := [] })
    | (some (seq, l), rd') =>
      (.record { id := (T.faHdr r.line).1, desc := (T.faHdr r.line).2, seq := seq }, { rd := rd', line := l })

/-- `Reader::read` -/
def faReadS (T : Txt) (c : Nat) (sched : Nat → Nat) (r : FaReader) : FaOut × FaReader :=
  if r.line.isEmpty then
    match readLineStr c sched r.rd with
    | (none, rd') => (.utf8, { rd := rd', line := [] })
    | (some l, rd') =>
      if l.isEmpty then (.record { id := [], desc := none, seq := [] }, { rd := rd', line := [] })
      else faFromHeader T c sched { rd := rd', line := l }
  else faFromHeader T c sched r

/-- an item of the `Records` iterators with the I/O error `InvalidData` -/
inductive SItem (α : Type) where
  | item (i : α)
  | utf8
deriving DecidableEq, Repr, Inhabited

/-- `Records` drained (`next` until `None`; after an error the iterator ends); the same sequence of `read` calls is
made by the loop `read(&mut record)` until `record.is_empty()` or an error.  `fuel` bounds the number of `next`
calls; `parseFastaVia` supplies more than there are lines. -/
def faDrain (T : Txt) (c : Nat) (sched : Nat → Nat) : Nat → FaReader → List (SItem FaItem) × FaReader
  | 0, r => ([], r)
  | fuel + 1, r =>
    match faReadS T c sched r with
    | (.utf8, r') => ([.utf8], r')
    | (.err, r') => ([.item .err], r')
    | (.record x, r') =>
      if x.isEmpty then ([], r')
      else (.item (.ok x) :: (faDrain T c sched fuel r').1, (faDrain T c sched fuel r').2)

/-- `fasta::Reader::from_bufread(BufReader::with_capacity(c, source))`, `.records()` drained -/
def parseFastaVia (T : Txt) (c : Nat) (sched : Nat → Nat) (file : Bytes) : List (SItem FaItem) :=
  (faDrain T c sched (file.length + 1) { rd := init file, line := [] }).1

/-- the number of `Records::next` calls up to and including the one that returns `None` (`none`: more than `fuel`).
After an item `Some(Err(_))` the next call returns `None` (`error_has_occured`). -/
def faNextCalls (T : Txt) (c : Nat) (sched : Nat → Nat) : Nat → FaReader → Option Nat
  | 0, _ => none
  | fuel + 1, r =>
    match faReadS T c sched r with
    | (.utf8, _) => some 2
    | (.err, _) => some 2
    | (.record x, r') => if x.isEmpty then some 1 else (faNextCalls T c sched fuel r').map (· + 1)

/-! ## FASTQ -/

/-- `read_line` + `while !line.is_empty() && !line.starts_with('+') { seq.push_str(line.trim_end()); line.clear();
read_line(&mut line)?; lines_read += 1 }`, written with the `read_line` at the head of the loop; the line that ends
the loop is dropped (the code clears the buffer before the next `read_line`) -/
def fqSeqLoop (T : Txt) (c : Nat) (sched : Nat → Nat) (rd : St) (seq : Bytes) (n : Nat) : Option (Bytes × Nat) × St :=
  match h : readLineStr c sched rd with
  | (none, rd') => (none, rd')
  | (some l, rd') =>
    if l.isEmpty || startsWith l 43 then (some (seq, n), rd')
    else fqSeqLoop T c sched rd' (seq ++ T.trim l) (n + 1)
termination_by rd.pending.length
decreasing_by
  rename_i hne
  have hp := readLineStr_progress c sched rd
  rw [h] at hp
  rcases hp with hp | hp
  · simp only [Option.some.injEq] at hp
    simp [hp] at hne
  · exact hp

/-- `for _ in 0..lines_read { line.clear(); read_line(&mut line)?; qual.push_str(line.trim_end()) }` -/
def fqQualLoop (T : Txt) (c : Nat) (sched : Nat → Nat) : Nat → St → Bytes → Option Bytes × St
  | 0, rd, q => (some q, rd)
  | n + 1, rd, q =>
    match readLineStr c sched rd with
    | (none, rd') => (none, rd')
    | (some l, rd') => fqQualLoop T c sched n rd' (q ++ T.trim l)

/-- what `fastq::Reader::read` returns: `Ok(())` with an empty record (end of input), a record or a format error,
`Err(ReadError(InvalidData))` -/
inductive FqOut where
  | eof
  | item (i : FqItem)
  | utf8
deriving DecidableEq, Repr, Inhabited

/-- `fastq::Reader::read` (the reader's only state is the `BufReader`: `line_buffer` is cleared before every use) -/
def fqReadS (T : Txt) (c : Nat) (sched : Nat → Nat) (rd : St) : FqOut × St :=
  match readLineStr c sched rd with
  | (none, rd1) => (.utf8, rd1)
  | (some l, rd1) =>
    if l.isEmpty then (.eof, rd1)
    else if !startsWith l 64 then (.item .missingAt, rd1)
    else
      match fqSeqLoop T c sched rd1 [] 0 with
      | (none, rd2) => (.utf8, rd2)
      | (some (seq, n), rd2) =>
        match fqQualLoop T c sched n rd2 [] with
        | (none, rd3) => (.utf8, rd3)
        | (some q, rd3) =>
          if q.isEmpty then (.item .incomplete, rd3)
          else (.item (.ok { id := (T.fqHdr l).1, desc := (T.fqHdr l).2, seq := seq, qual := q }), rd3)

/-- `fastq::Records` drained: errors are items, the iteration goes on until `read` leaves the record empty -/
def fqDrain (T : Txt) (c : Nat) (sched : Nat → Nat) : Nat → St → List (SItem FqItem) × St
  | 0, rd => ([], rd)
  | fuel + 1, rd =>
    match fqReadS T c sched rd with
    | (.eof, rd') => ([], rd')
    | (.item i, rd') => (.item i :: (fqDrain T c sched fuel rd').1, (fqDrain T c sched fuel rd').2)
    | (.utf8, rd') => (.utf8 :: (fqDrain T c sched fuel rd').1, (fqDrain T c sched fuel rd').2)

/-- the number of `fastq::Records::next` calls up to and including the one that returns `None` -/
def fqNextCalls (T : Txt) (c : Nat) (sched : Nat → Nat) : Nat → St → Option Nat
  | 0, _ => none
  | fuel + 1, rd =>
    match fqReadS T c sched rd with
    | (.eof, _) => some 1
    | (.item _, rd') => (fqNextCalls T c sched fuel rd').map (· + 1)
    | (.utf8, rd') => (fqNextCalls T c sched fuel rd').map (· + 1)

def parseFastqVia (T : Txt) (c : Nat) (sched : Nat → Nat) (file : Bytes) : List (SItem FqItem) :=
  (fqDrain T c sched (file.length + 1) (init file)).1

/-! ## The list models with the UTF-8 check -/

/-- `faSeq` with validation (`none`: a line that is not valid UTF-8 was met) -/
def faSeqU (T : Txt) : List Bytes → Option (Bytes × List Bytes)
  | [] => some ([], [])
  | l :: ls =>
    if !validUtf8 l then none
    else if startsWith l 62 then some ([], l :: ls)
    else (faSeqU T ls).map fun p => (T.trim l ++ p.1, p.2)

theorem faSeqU_length_le (T : Txt) (ls : List Bytes) : ∀ p, faSeqU T ls = some p → p.2.length ≤ ls.length := by
  induction ls with
  | nil => intro p h; simp [faSeqU] at h; subst h; simp
  | cons l ls ih =>
    intro p h
    unfold faSeqU at h
    split at h
    · cases h
    · split at h
      · cases h; simp
      · simp only [Option.map_eq_some_iff] at h
        obtain ⟨q, hq, rfl⟩ := h
        have := ih q hq
        simp only [List.length_cons]; omega

def faRecordsU (T : Txt) (lines : List Bytes) : List (SItem FaItem) :=
  match lines with
  | [] => []
  | l :: ls =>
    if !validUtf8 l then [.utf8]
    else if !startsWith l 62 then [.item .err]
    else
      match h : faSeqU T ls with
      | none => [.utf8]
      | some p =>
        let r : FaRec := { id := (T.faHdr l).1, desc := (T.faHdr l).2, seq := p.1 }
        if r.isEmpty then [] else .item (.ok r) :: faRecordsU T p.2
termination_by lines.length
decreasing_by
  have := faSeqU_length_le T ls p h
  simp only [List.length_cons]; omega

/-- what the FASTA reader yields on a byte stream, UTF-8 errors included -/
def parseFastaU (T : Txt) (file : Bytes) : List (SItem FaItem) := faRecordsU T (splitLines file)

/-- `fqSeq` with validation; `error ls` = a bad line was met, `ls` are the lines after it -/
def fqSeqU (T : Txt) : List Bytes → Except (List Bytes) (Bytes × Nat × List Bytes)
  | [] => .ok ([], 0, [])
  | l :: ls =>
    if !validUtf8 l then .error ls
    else if startsWith l 43 then .ok ([], 0, l :: ls)
    else match fqSeqU T ls with
      | .error r => .error r
      | .ok p => .ok (T.trim l ++ p.1, p.2.1 + 1, p.2.2)

def fqQualU (T : Txt) : Nat → List Bytes → Except (List Bytes) (Bytes × List Bytes)
  | 0, ls => .ok ([], ls)
  | n + 1, [] => fqQualU T n []
  | n + 1, l :: ls =>
    if !validUtf8 l then .error ls
    else match fqQualU T n ls with
      | .error r => .error r
      | .ok p => .ok (T.trim l ++ p.1, p.2)

def fqReadU (T : Txt) (l : Bytes) (ls : List Bytes) : SItem FqItem × List Bytes :=
  if !validUtf8 l then (.utf8, ls)
  else if !startsWith l 64 then (.item .missingAt, ls)
  else
    match fqSeqU T ls with
    | .error r => (.utf8, r)
    | .ok s =>
      match fqQualU T s.2.1 s.2.2.tail with
      | .error r => (.utf8, r)
      | .ok q =>
        if q.1.isEmpty then (.item .incomplete, q.2)
        else (.item (.ok { id := (T.fqHdr l).1, desc := (T.fqHdr l).2, seq := s.1, qual := q.1 }), q.2)

/-- what `fqSeqU`, `fqQualU`, `fqReadU` leave is a suffix of the lines they were given -/
theorem fqSeqU_suffix (T : Txt) (ls : List Bytes) :
    match fqSeqU T ls with
    | .error r => r <:+ ls
    | .ok p => p.2.2 <:+ ls := by
  induction ls with
  | nil => exact List.suffix_refl _
  | cons l ls ih =>
    cases hv : validUtf8 l with
    | false => simp only [fqSeqU, hv, Bool.not_false, if_true]; exact List.suffix_cons _ _
    | true =>
      cases hp : startsWith l 43 with
      | true => simp only [fqSeqU, hv, hp, Bool.not_true, Bool.false_eq_true, if_false, if_true]; exact List.suffix_refl _
      | false =>
        simp only [fqSeqU, hv, hp, Bool.not_true, Bool.false_eq_true, if_false]
        cases hq : fqSeqU T ls <;> rw [hq] at ih <;> exact ih.trans (List.suffix_cons _ _)

theorem fqQualU_suffix (T : Txt) (n : Nat) (ls : List Bytes) :
    match fqQualU T n ls with
    | .error r => r <:+ ls
    | .ok p => p.2 <:+ ls := by
  induction n generalizing ls with
  | zero => exact List.suffix_refl _
  | succ n ih =>
    cases ls with
    | nil => exact ih []
    | cons l ls =>
      cases hv : validUtf8 l with
      | false => simp only [fqQualU, hv, Bool.not_false, if_true]; exact List.suffix_cons _ _
      | true =>
        simp only [fqQualU, hv, Bool.not_true, Bool.false_eq_true, if_false]
        have := ih ls
        cases hq : fqQualU T n ls <;> rw [hq] at this <;> exact this.trans (List.suffix_cons _ _)

theorem fqReadU_suffix (T : Txt) (l : Bytes) (ls : List Bytes) : (fqReadU T l ls).2 <:+ ls := by
  unfold fqReadU
  split
  · exact List.suffix_refl _
  · split
    · exact List.suffix_refl _
    · have h1 := fqSeqU_suffix T ls
      split <;> rename_i heq <;> rw [heq] at h1
      · exact h1
      · rename_i s
        have h2 := (fqQualU_suffix T s.2.1 s.2.2.tail)
        have h3 := (List.tail_suffix s.2.2).trans h1
        split <;> rename_i heq2 <;> rw [heq2] at h2
        · exact h2.trans h3
        · split <;> exact h2.trans h3

theorem fqReadU_length_le (T : Txt) (l : Bytes) (ls : List Bytes) : (fqReadU T l ls).2.length ≤ ls.length :=
  (fqReadU_suffix T l ls).length_le

def fqRecordsU (T : Txt) (lines : List Bytes) : List (SItem FqItem) :=
  match lines with
  | [] => []
  | l :: ls => (fqReadU T l ls).1 :: fqRecordsU T (fqReadU T l ls).2
termination_by lines.length
decreasing_by
  have := fqReadU_length_le T l ls
  simp only [List.length_cons]; omega

/-- what the FASTQ reader yields on a byte stream, UTF-8 errors included -/
def parseFastqU (T : Txt) (file : Bytes) : List (SItem FqItem) := fqRecordsU T (splitLines file)

end RbV.Fastx
