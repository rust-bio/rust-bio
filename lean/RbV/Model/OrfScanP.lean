import RbV.Model.OrfScan
/-!
# The ORF mirror model with the length test of the flush loop as a parameter (C20)

`stepP P` is `Model.OrfScan.step` with the test `index + 1 - start_pos > min_len` replaced by an arbitrary
`P index start_pos`.  The property leaves the finder free to report or not to report frames whose length lies in
`[min_len, min_len + 2]`; `LenTestOk` is exactly that freedom, stated on the arguments the test sees
(`start_pos` = index of the *last* base of the start codon, so the frame length is `index + 3 - start_pos`).
`Lemmas.OrfScan.mem_findAllP` says what the model reports for **every** test, `Thm.C20.orf_model_any_test_accepted` that it is
sound and complete for every test inside the freedom; the translated source
text of `Matches::next` (`Gen/SrcOrf.lean`) is proved equal to `findAllP` of its own test (`Thm/GenSrcOrf.lean`).
Core Lean only.
-/
namespace RbV.Model.OrfScan

/-- the window after reading `nuc` -/
def window (st : State) (nuc : Nat) : List Nat :=
  (if st.codon.length ≥ 3 then st.codon.drop 1 else st.codon) ++ [nuc]

/-- the pending starts of the current frame after the possible push of `index` -/
def pendingNow (starts : List (List Nat)) (st : State) (index nuc : Nat) : List Nat :=
  if starts.contains (window st nuc) then st.get ((index + 1) % 3) ++ [index] else st.get ((index + 1) % 3)

/-- the current frame is flushed: it has pending starts and the window is a stop codon -/
def flushes (starts stops : List (List Nat)) (st : State) (index nuc : Nat) : Bool :=
  !(pendingNow starts st index nuc).isEmpty && stops.contains (window st nuc)

/-- what one iteration pushes on `found` -/
def emitted (P : Nat → Nat → Bool) (starts stops : List (List Nat)) (st : State) (index nuc : Nat) :
    List (Nat × Nat × Nat) :=
  if flushes starts stops st index nuc then
    ((pendingNow starts st index nuc).takeWhile (P index)).map fun s => (s - 2, index + 1, (index + 1) % 3)
  else []

/-- one iteration of the `for (index, nuc)` loop, length test `P index start_pos`: the text of `step`, written so to be read
against it; proofs use the form `stepP_def` -/
def stepP (P : Nat → Nat → Bool) (starts stops : List (List Nat)) (st : State) (index nuc : Nat) : State :=
  let codon := (if st.codon.length ≥ 3 then st.codon.drop 1 else st.codon) ++ [nuc]
  let off := (index + 1) % 3
  let st := { st with codon := codon }
  let sp := if starts.contains codon then st.get off ++ [index] else st.get off
  if !sp.isEmpty && stops.contains codon then
    let emitted := (sp.takeWhile (P index)).map fun s => (s - 2, index + 1, off)
    { (st.set off []) with out := st.out ++ emitted }
  else st.set off sp

/-- `stepP` in terms of `window`, `pendingNow`, `flushes`, `emitted` -/
theorem stepP_def (P : Nat → Nat → Bool) (starts stops : List (List Nat)) (st : State) (index nuc : Nat) :
    stepP P starts stops st index nuc =
      if flushes starts stops st index nuc then
        { (({ st with codon := window st nuc } : State).set ((index + 1) % 3) []) with
            out := st.out ++ (((pendingNow starts st index nuc).takeWhile (P index)).map
              fun s => (s - 2, index + 1, (index + 1) % 3)) }
      else ({ st with codon := window st nuc } : State).set ((index + 1) % 3) (pendingNow starts st index nuc) := rfl

def runP (P : Nat → Nat → Bool) (starts stops : List (List Nat)) : State → Nat → List Nat → State
  | st, _, [] => st
  | st, i, c :: rest => runP P starts stops (stepP P starts stops st i c) (i + 1) rest

/-- all ORFs the iterator yields, in order, when its length test is `P` -/
def findAllP (P : Nat → Nat → Bool) (starts stops : List (List Nat)) (seq : List Nat) : List (Nat × Nat × Nat) :=
  (runP P starts stops State.init 0 seq).out

/-- the test of the present source text -/
def pinnedTest (minLen : Nat) (index s : Nat) : Bool := decide (index + 1 - s > minLen)

theorem step_eq_stepP (starts stops : List (List Nat)) (minLen : Nat) (st : State) (index nuc : Nat) :
    step starts stops minLen st index nuc = stepP (pinnedTest minLen) starts stops st index nuc := rfl

theorem run_eq_runP (starts stops : List (List Nat)) (minLen : Nat) (seq : List Nat) :
    ∀ (st : State) (i : Nat), run starts stops minLen st i seq = runP (pinnedTest minLen) starts stops st i seq := by
  induction seq with
  | nil => intro st i; rfl
  | cons c rest ih => intro st i; simp only [run, runP, step_eq_stepP, ih]

theorem findAll_eq_findAllP (starts stops : List (List Nat)) (minLen : Nat) (seq : List Nat) :
    findAll starts stops minLen seq = findAllP (pinnedTest minLen) starts stops seq := by
  unfold findAll findAllP; rw [run_eq_runP]

/-- the freedom the property leaves to the length test, for indices below `B`: a frame more than two bases longer than
`minLen` must pass, a frame that passes must be at least `minLen` long (frame length = `index + 3 - s`) -/
structure LenTestOk (P : Nat → Nat → Bool) (minLen B : Nat) : Prop where
  lo : ∀ i s, i < B → 2 ≤ s → s ≤ i → minLen + 2 < i + 3 - s → P i s = true
  hi : ∀ i s, i < B → 2 ≤ s → s ≤ i → P i s = true → minLen ≤ i + 3 - s

/-- everything emitted from state `st` on, without the accumulator -/
def emitsP (P : Nat → Nat → Bool) (starts stops : List (List Nat)) : State → Nat → List Nat → List (Nat × Nat × Nat)
  | _, _, [] => []
  | st, i, c :: rest => emitted P starts stops st i c ++ emitsP P starts stops (stepP P starts stops st i c) (i + 1) rest

end RbV.Model.OrfScan
