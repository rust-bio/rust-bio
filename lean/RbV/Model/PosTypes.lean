/-
SA-IS, first mechanism: the L/S typing of positions (`PosTypes::new` in suffix_array.rs).

```
pos_types[n-1] = S
for p in (0..n-1).rev() {
    if text[p] == text[p+1] { pos_types[p] = pos_types[p+1] } else { pos_types[p] = text[p] < text[p+1] }
}
```
`posTypes_spec` (in `RbV/Lemmas/SaisTypes.lean`, derived from the two local rules `isS_last`, `isS_step`): for a text whose
last symbol occurs nowhere else, position p is typed S (true) iff its suffix is smaller than the suffix at p+1.
-/
namespace RbV.PosTypes

/-- types of the positions of `ks`, computed from the right; `true` = S-type -/
def posTypes : List Nat → List Bool
  | [] => []
  | [_] => [true]
  | a :: b :: rest =>
    match posTypes (b :: rest) with
    | [] => []      -- unreachable: the recursive result has the length of its argument
    | tb :: ts => (if a = b then tb else decide (a < b)) :: tb :: ts

theorem length_posTypes : ∀ ks : List Nat, (posTypes ks).length = ks.length
  | [] => rfl
  | [_] => rfl
  | a :: b :: rest => by
    have ih := length_posTypes (b :: rest)
    simp only [posTypes]
    cases h : posTypes (b :: rest) with
    | nil => rw [h] at ih; simp at ih
    | cons tb ts => rw [h] at ih; simp only [List.length_cons] at ih ⊢; omega

/-- the recursion of `posTypes` without its unreachable branch -/
theorem posTypes_cons2 (a b : Nat) (rest : List Nat) :
    posTypes (a :: b :: rest) =
      (if a = b then (posTypes (b :: rest)).getD 0 false else decide (a < b)) ::
        posTypes (b :: rest) := by
  simp only [posTypes]
  cases h : posTypes (b :: rest) with
  | nil =>
    have := length_posTypes (b :: rest)
    rw [h] at this; simp at this
  | cons tb ts => simp

end RbV.PosTypes
