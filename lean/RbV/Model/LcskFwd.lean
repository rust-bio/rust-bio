import RbV.Spec.KChain
/-!
# C19 — the forward recurrence `lcskpp` fills its `dp_vector` with (core Lean only)

`dp[p].0` = `k` + the best finished predecessor that ends at or before the start of `p` in both sequences (0 when there is
none), or the score of the match one step back on the diagonal + 1, whichever is larger.  The event sweep and the max-Fenwick
tree are how the Rust code *evaluates* this recurrence (modelled in `Model/Lcskpp.lean` and proved to compute it:
`lcskpp_model_dp_is_recurrence`, `Thm/C19.lean`).  `dpScores` evaluates it directly in list
order (predecessors come earlier in a list sorted by first coordinate).
-/
namespace RbV.KChain

/-- `dp[m].0` given the cells `T` of the earlier matches -/
def cellF (k : Nat) (T : List (M × Nat)) (m : M) : Nat :=
  max (k + max0 ((T.filter (fun e => nonov k e.1 m)).map (·.2)))
      (max0 ((T.filter (fun e => cont e.1 m)).map (fun e => e.2 + 1)))

/-- cells of a list given latest match first -/
def tableR (k : Nat) : List M → List (M × Nat)
  | [] => []
  | m :: rest => (m, cellF k (tableR k rest) m) :: tableR k rest

/-- the `dp_vector` scores of `lcskpp(ms, k)`, in the order of `ms` -/
def dpScores (ms : List M) (k : Nat) : List Nat := ((tableR k ms.reverse).map (·.2)).reverse

end RbV.KChain
