import RbV.Model.MyersSimple
/-!
Mirror model of the block-based Myers matcher (`pattern_matching::myers::long`: `new_ambig`, `advance_block`,
`States::{new, add_state, step, known_dist}`, `Matches::next`) (C09 [C]).  Core Lean only.
A block is a `MyersSimple.St w` (`pv`, `mv`, `dist` = value of the block's last row).  `usize` arithmetic on `dist` is
modelled with `Nat` (truncated subtraction where Rust wraps; the wrap is never reached from a valid state) and
`max_dist.saturating_add(w)` is the unbounded `k + w`: no `dist` of a valid state comes near `usize::MAX`.
-/
namespace RbV.Model.MyersLong
open RbV.EditDist RbV.Model.MyersSimple

/-- `advance_block(state, p, a, hin) -> hout`; `bnd` = bit index of `p.bound` -/
def advanceBlock {w : Nat} (bnd : Nat) (eq : BitVec w) (hin : Int) (s : St w) : St w × Int :=
  let xv := eq ||| s.mv
  let eq' := if hin < 0 then eq ||| 1#w else eq
  let xh := xhOf eq' s.pv
  let ph := s.mv ||| ~~~(xh ||| s.pv)
  let mh := s.pv &&& xh
  let hout : Int := ((ph.getLsbD bnd).toNat : Int) - ((mh.getLsbD bnd).toNat : Int)
  let dist := s.dist + (ph.getLsbD bnd).toNat - (mh.getLsbD bnd).toNat
  let ph := (ph <<< 1) ||| (if hin > 0 then 1#w else 0#w)
  let mh := (mh <<< 1) ||| (if hin < 0 then 1#w else 0#w)
  (⟨mh ||| ~~~(xv ||| ph), ph &&& xv, dist⟩, hout)

/-- the per-block pattern data: symbols of the block (`chunks(w)`); `bound = 1 << (len - 1)` -/
def chunks (w : Nat) : Nat → List Nat → List (List Nat)
  | 0, _ => []
  | fuel + 1, p => if p.length ≤ w then [p] else p.take w :: chunks w fuel (p.drop w)

def blocksOf (w : Nat) (p : List Nat) : List (List Nat) := chunks w p.length p

/-- advance all active blocks from top to bottom, threading the carry -/
def advanceAll {w : Nat} (eqv : Nat → Nat → Bool) (a : Nat) : List (List Nat) → List (St w) → Int → List (St w) × Int
  | blk :: blks, s :: ss, hin =>
    let (s', hout) := advanceBlock (blk.length - 1) (peq w eqv blk a) hin s
    let (rest, c) := advanceAll eqv a blks ss hout
    (s' :: rest, c)
  | _, _, hin => ([], hin)

/-- `while last_block > 0 && states[last_block].dist >= max_dist + w { last_block -= 1 }; truncate`, on the
reversed list (last block first) -/
def cutRev {w : Nat} (k ww : Nat) : List (St w) → List (St w)
  | [] => []
  | [s] => [s]
  | s :: s2 :: ss => if s.dist ≥ k + ww then cutRev k ww (s2 :: ss) else s :: s2 :: ss

/-- `States::step(a, peq, max_dist)` -/
def stepStates {w : Nat} (eqv : Nat → Nat → Bool) (blks : List (List Nat)) (k : Nat) (a : Nat)
    (sts : List (St w)) : List (St w) :=
  let r := advanceAll eqv a blks sts 0
  let sts' : List (St w) := r.1
  let carry : Int := r.2
  let lastBlock : Nat := sts.length - 1
  let maxBlock : Nat := blks.length - 1
  let lastDist : Int := (((sts'.getLast?.map (·.dist)).getD 0 : Nat) : Int)
  let nextEq : Bool := match blks[lastBlock + 1]? with
    | some blk => (peq w eqv blk a).getLsbD 0
    | none => false
  if decide (0 ≤ lastDist - carry) && decide (lastDist - carry ≤ (k : Int)) && decide (lastBlock < maxBlock)
      && (nextEq || decide (carry < 0)) then
    -- add_state(-carry): dist = prev_dist + delta - carry, then advance the new block with hin = carry
    match blks[lastBlock + 1]? with
    | some blk =>
      let d : Int := lastDist + (blk.length : Int) - carry
      let fresh : St w := ⟨BitVec.allOnes w, 0#w, d.toNat⟩
      sts' ++ [(advanceBlock (blk.length - 1) (peq w eqv blk a) carry fresh).1]
    | none => sts'
  else (cutRev k w sts'.reverse).reverse

/-- `States::new(m, max_dist)`: `max(1, ceil(min(max_dist, m) / w))` blocks, `dist` = rows covered so far -/
def initStates (w : Nat) (blks : List (List Nat)) (m k : Nat) : List (St w) :=
  let minBlocks := max 1 ((min k m + w - 1) / w)
  let rec go : Nat → List (List Nat) → Nat → List (St w)
    | 0, _, _ => []
    | _, [], _ => []
    | n + 1, blk :: rest, acc => ⟨BitVec.allOnes w, 0#w, acc + blk.length⟩ :: go n rest (acc + blk.length)
  go minBlocks blks 0

/-- `known_dist()`: the last block's distance if all blocks are computed -/
def knownDist {w : Nat} (nblocks : Nat) (sts : List (St w)) : Option Nat :=
  if sts.length = nblocks then sts.getLast?.map (·.dist) else none

def run {w : Nat} (eqv : Nat → Nat → Bool) (blks : List (List Nat)) (k : Nat) :
    List (St w) → Nat → List Nat → List (Nat × Nat)
  | _, _, [] => []
  | sts, i, a :: t =>
    let sts' := stepStates eqv blks k a sts
    match knownDist blks.length sts' with
    | some d => if d ≤ k then (i, d) :: run eqv blks k sts' (i + 1) t else run eqv blks k sts' (i + 1) t
    | none => run eqv blks k sts' (i + 1) t

/-- `long::Myers<T>::find_all_end(text, k).collect()` -/
def findAllEnd (w : Nat) (eqv : Nat → Nat → Bool) (p t : List Nat) (k : Nat) : List (Nat × Nat) :=
  let blks := blocksOf w p
  run eqv blks k (initStates w blks p.length k) 0 t

end RbV.Model.MyersLong
