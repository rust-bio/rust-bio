import RbV.Drv.C07
/-!
# The driver's `rebuild` inverts the pre-order dump format of the hook

`rebuild` (in `RbV/Drv/C07.lean`) turns the list `(depth, start, end, max, height, has_left, has_right)` back into a
tree. For every tree `t`, rebuilding the dump of `t` gives `t` back (payload data is not part of the dump and is
set to 0), so `checkAVL` is applied to the tree that was dumped.
Core Lean only.
-/
namespace RbV.Drv.C07
open RbV.Ivl RbV.Avl

def toDNodes (t : Tree) (d : Nat) : List DNode :=
  (Avl.dump t d).map fun (d, a, b, m, h, l, r) => ⟨d, a, b, m, (h : Int), l, r⟩

def eraseData : Tree → Tree
  | .nil => .nil
  | .node l e mx h r => .node (eraseData l) ⟨e.lo, e.hi, 0⟩ mx h (eraseData r)

theorem toDNodes_nil (d : Nat) : toDNodes .nil d = [] := rfl

theorem toDNodes_node (l : Tree) (e : Entry) (mx : Int) (h : Nat) (r : Tree) (d : Nat) :
    toDNodes (.node l e mx h r) d =
      ⟨d, e.lo, e.hi, mx, (h : Int), decide (l ≠ .nil), decide (r ≠ .nil)⟩ :: (toDNodes l (d + 1) ++ toDNodes r (d + 1)) := by
  simp [toDNodes, Avl.dump]

theorem length_toDNodes : ∀ (t : Tree) (d : Nat), (toDNodes t d).length = size t
  | .nil, _ => rfl
  | .node l e mx h r, d => by
    rw [toDNodes_node, List.length_cons, List.length_append, length_toDNodes l, length_toDNodes r, size]
    omega

/-- what `rebuild` does with a child, present or not: this is the statement that goes through the induction -/
theorem rebuild_child : ∀ (t : Tree) (d : Nat) (rest : List DNode) (fuel : Nat), size t ≤ fuel →
    (if decide (t ≠ .nil) = true then rebuild fuel d (toDNodes t d ++ rest) else some (.nil, toDNodes t d ++ rest))
      = some (eraseData t, rest)
  | .nil, _, _, _, _ => by simp [toDNodes_nil, eraseData]
  | .node l e mx h r, d, rest, 0, hs => by simp [size] at hs
  | .node l e mx h r, d, rest, fuel + 1, hs => by
    simp only [size] at hs
    have hl := rebuild_child l (d + 1) (toDNodes r (d + 1) ++ rest) fuel (by omega)
    have hr := rebuild_child r (d + 1) rest fuel (by omega)
    rw [if_pos (by simp), toDNodes_node, List.cons_append, rebuild]
    simp only [ne_eq, not_true_eq_false, if_false, List.append_assoc] at hl hr ⊢
    rw [hl]
    simp only
    rw [hr]
    simp [eraseData]

theorem rebuild_dump (t : Tree) (d : Nat) (rest : List DNode) (fuel : Nat) (h : t ≠ .nil) (hs : size t ≤ fuel) :
    rebuild fuel d (toDNodes t d ++ rest) = some (eraseData t, rest) := by
  have := rebuild_child t d rest fuel hs
  rwa [if_pos (decide_eq_true h)] at this

theorem checkAVL_eraseData (t : Tree) (n : Nat) : checkAVL (eraseData t) n = checkAVL t n := by
  have hsz : ∀ t, size (eraseData t) = size t := by
    intro t; induction t with
    | nil => rfl
    | node l e mx h r ihl ihr => simp [eraseData, size, ihl, ihr]
  have hht : ∀ t, ht (eraseData t) = ht t := by intro t; cases t <;> rfl
  have hum : ∀ l e r, updMax (eraseData l) ⟨e.lo, e.hi, 0⟩ (eraseData r) = updMax l e r := by
    intro l e r; cases l <;> cases r <;> rfl
  have hcn : ∀ t, checkNodes (eraseData t) = checkNodes t := by
    intro t; induction t with
    | nil => rfl
    | node l e mx h r ihl ihr =>
      simp only [eraseData, checkNodes, ihl, ihr, hht, hum, updHeight]
      rw [Bool.eq_iff_iff]
      simp only [Bool.and_eq_true, decide_eq_true_eq]
      simp
      intros
      exact decide_eq_true_iff.symm
  have htl : ∀ t, toList (eraseData t) = (toList t).map (fun e => ⟨e.lo, e.hi, 0⟩) := by
    intro t; induction t with
    | nil => rfl
    | node l e mx h r ihl ihr => simp [eraseData, toList, ihl, ihr]
  have hsb : ∀ l : List Entry, sortedB (l.map fun e => ⟨e.lo, e.hi, 0⟩) = sortedB l := by
    intro l; induction l with
    | nil => rfl
    | cons a l ih =>
      cases l with
      | nil => rfl
      | cons b rest => exact congrArg (decide (a.lo ≤ b.lo) && ·) ih
  simp only [checkAVL, hsz, hcn, htl, hsb]

end RbV.Drv.C07
