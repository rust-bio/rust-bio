import RbV.Model.Kmp
/-!
Mirror model of `pattern_matching::shift_and` (`accept = bit` is set before `bit <<= 1`, which shifts the bit out after the 64th
symbol: for `m = 64` the accept mask is bit 63).

Rust:
```
masks:  bit = 1; accept = 0; for c in pattern { masks[c] |= bit; accept = bit; bit <<= 1 }      (u64)
next:   active = ((active << 1) | 1) & masks[c];  if active & accept > 0 { yield i + 1 - m }     (u64)
```
`u64` values are `Nat`s reduced modulo 2^64 where the Rust operation truncates (`<<`).
-/
namespace RbV.ShiftAnd

def W : Nat := 2 ^ 64

/-- state of the `masks` loop: the table (as a function), the running bit, the accept mask -/
structure MState where
  masks : Nat → Nat
  bit : Nat
  accept : Nat

def masksStep (s : MState) (c : Nat) : MState :=
  { masks := fun x => if x = c then s.masks x ||| s.bit else s.masks x
    accept := s.bit
    bit := (s.bit <<< 1) % W }

def masksLoop (p : List Nat) : MState :=
  p.foldl masksStep { masks := fun _ => 0, bit := 1, accept := 0 }

/-- one text symbol -/
def step (ms : MState) (active c : Nat) : Nat :=
  (((active <<< 1) % W) ||| 1) &&& ms.masks c

/-- the iterator: `i` is the index of the head of the remaining text -/
def run (ms : MState) (m : Nat) : List Nat → Nat → Nat → List Nat
  | [], _, _ => []
  | c :: t, i, active =>
    let a := step ms active c
    if a &&& ms.accept > 0 then (i + 1 - m) :: run ms m t (i + 1) a else run ms m t (i + 1) a

def findAll (p t : List Nat) : List Nat := run (masksLoop p) p.length t 0 0

theorem masksStep_bit {s : MState} {j₀ : Nat} (a : Nat) (hb : s.bit = 2 ^ j₀ % W) (hj : j₀ < 64) :
    s.bit = 2 ^ j₀ ∧ (masksStep s a).bit = 2 ^ (j₀ + 1) % W := by
  have hbit : s.bit = 2 ^ j₀ := by rw [hb]; exact Nat.mod_eq_of_lt (Nat.pow_lt_pow_right (by decide) hj)
  refine ⟨hbit, ?_⟩
  show (s.bit <<< 1) % W = _
  rw [hbit, Nat.shiftLeft_eq, ← Nat.pow_succ]

theorem masksStep_masks_testBit {s : MState} {j₀ : Nat} (a c j : Nat) (hb : s.bit = 2 ^ j₀) :
    ((masksStep s a).masks c).testBit j = ((s.masks c).testBit j || (decide (c = a) && decide (j₀ = j))) := by
  show (if c = a then s.masks c ||| s.bit else s.masks c).testBit j = _
  split
  · rename_i h
    rw [Nat.testBit_or, hb, Nat.testBit_two_pow, decide_eq_true h, Bool.true_and]
  · rename_i h
    rw [decide_eq_false h, Bool.false_and, Bool.or_false]

/-- the loop sets bit `j₀ + i` of `masks[c]` for every `i` with `p[i] = c` and nothing else -/
theorem foldl_masks_testBit (p : List Nat) : ∀ (s : MState) (j₀ : Nat), s.bit = 2 ^ j₀ % W → j₀ + p.length ≤ 64 →
    ∀ c j, ((p.foldl masksStep s).masks c).testBit j = true ↔
      (s.masks c).testBit j = true ∨ ∃ i, j = j₀ + i ∧ p[i]? = some c := by
  induction p with
  | nil => intro s j₀ _ _ c j; simp
  | cons a p ih =>
    intro s j₀ hb hlen c j
    obtain ⟨hbit, hnb⟩ := masksStep_bit a hb (Nat.lt_of_lt_of_le (Nat.lt_add_of_pos_right (Nat.succ_pos _)) hlen)
    rw [List.foldl_cons, ih (masksStep s a) (j₀ + 1) hnb (by rw [Nat.add_right_comm]; exact hlen) c j,
      masksStep_masks_testBit a c j hbit, Bool.or_eq_true, or_assoc]
    refine or_congr_right ⟨?_, ?_⟩
    · rintro (h | ⟨i, rfl, hi⟩)
      · rw [Bool.and_eq_true, decide_eq_true_eq, decide_eq_true_eq] at h
        exact ⟨0, h.2.symm, by rw [h.1]; rfl⟩
      · exact ⟨i + 1, Nat.add_right_comm j₀ 1 i, hi⟩
    · rintro ⟨i, rfl, hi⟩
      cases i with
      | zero => exact Or.inl (by rw [Option.some.inj hi]; simp)
      | succ i => exact Or.inr ⟨i, (Nat.add_right_comm j₀ 1 i).symm, hi⟩

theorem foldl_masks_accept (p : List Nat) : ∀ (s : MState) (j₀ a : Nat), s.bit = 2 ^ j₀ % W →
    j₀ + p.length < 64 → ((a :: p).foldl masksStep s).accept = 2 ^ (j₀ + p.length) := by
  induction p with
  | nil => intro s j₀ a hb hlen; exact (masksStep_bit a hb hlen).1
  | cons b p ih =>
    intro s j₀ a hb hlen
    have hnb := (masksStep_bit a hb (Nat.lt_of_le_of_lt (Nat.le_add_right _ _) hlen)).2
    rw [List.foldl_cons, ih (masksStep s a) (j₀ + 1) b hnb (by rw [Nat.add_right_comm]; exact hlen),
      List.length_cons, Nat.add_right_comm]
    rfl

theorem masks_testBit (p : List Nat) (hm : p.length ≤ 64) (c j : Nat) :
    ((masksLoop p).masks c).testBit j = (p[j]? == some c) := by
  rw [Bool.eq_iff_iff, beq_iff_eq, masksLoop, foldl_masks_testBit p _ 0 rfl (by rw [Nat.zero_add]; exact hm) c j]
  simp

theorem accept_eq (p : List Nat) (hm : p.length ≤ 64) (hp : 0 < p.length) :
    (masksLoop p).accept = 2 ^ (p.length - 1) := by
  cases p with
  | nil => exact absurd hp (Nat.lt_irrefl 0)
  | cons a p =>
    rw [masksLoop, foldl_masks_accept p _ 0 a rfl (by rw [Nat.zero_add]; exact hm), Nat.zero_add]
    rfl

/-- the prefix of `p` of length `j+1` is a suffix of the processed text `pre` -/
def SufMatch (p pre : List Nat) (j : Nat) : Prop :=
  j < p.length ∧ j < pre.length ∧ ∀ k, k ≤ j → p[k]? = pre[pre.length - 1 - j + k]?

/-- the automaton invariant: bit `j` of the state stands for KMP's prefix–suffix of length `j + 1` (`sufMatch_iff_isPS`) -/
def Inv (p pre : List Nat) (a : Nat) : Prop := ∀ j, a.testBit j = true ↔ SufMatch p pre j

theorem inv_nil (p : List Nat) : Inv p [] 0 := by
  intro j; simp [SufMatch]

theorem sufMatch_iff_isPS (p pre : List Nat) (j : Nat) : SufMatch p pre j ↔ Kmp.IsPS p pre (j + 1) := by
  unfold SufMatch Kmp.IsPS
  rw [Nat.sub_sub, Nat.add_comm 1 j]
  exact and_congr_right fun _ => and_congr_right fun _ => forall_congr' fun k =>
    ⟨fun h hk => h (Nat.le_of_lt_succ hk), fun h hk => h (Nat.lt_succ_of_le hk)⟩

theorem sufMatch_zero (p pre : List Nat) (c : Nat) :
    SufMatch p (pre ++ [c]) 0 ↔ p[0]? = some c := by
  rw [sufMatch_iff_isPS, Kmp.isPS_snoc]
  exact and_iff_right (Kmp.isPS_zero p pre)

theorem sufMatch_succ (p pre : List Nat) (c j : Nat) :
    SufMatch p (pre ++ [c]) (j + 1) ↔ SufMatch p pre j ∧ p[j + 1]? = some c := by
  rw [sufMatch_iff_isPS, sufMatch_iff_isPS, Kmp.isPS_snoc]

theorem step_inv (p pre : List Nat) (a c : Nat) (hm : p.length ≤ 64) (h : Inv p pre a) :
    Inv p (pre ++ [c]) (step (masksLoop p) a c) := by
  intro j
  unfold step
  rw [Nat.testBit_and, masks_testBit p hm]
  cases j with
  | zero =>
    rw [sufMatch_zero]
    simp [Nat.testBit_zero]
  | succ j =>
    rw [sufMatch_succ, ← h j]
    simp only [Nat.testBit_or, W, Nat.testBit_mod_two_pow, Nat.testBit_shiftLeft]
    have h1 : (1 : Nat).testBit (j + 1) = false := by
      rw [Nat.testBit_succ]; simp
    by_cases hj : j + 1 < 64
    · simp [hj, h1]
    · have : p[j + 1]? = none := by
        apply List.getElem?_eq_none; omega
      simp [hj, h1, this]

theorem and_pow_ne_zero_iff (a k : Nat) : a &&& 2 ^ k ≠ 0 ↔ a.testBit k = true := by
  constructor
  · intro hne
    obtain ⟨i, hi⟩ := Nat.exists_testBit_of_ne_zero hne
    rw [Nat.testBit_and, Nat.testBit_two_pow, Bool.and_eq_true, decide_eq_true_eq] at hi
    exact hi.2 ▸ hi.1
  · intro hb h0
    have : (a &&& 2 ^ k).testBit k = true := by
      rw [Nat.testBit_and, Nat.testBit_two_pow, hb, decide_eq_true rfl]; rfl
    rw [h0, Nat.zero_testBit] at this
    exact Bool.false_ne_true this

theorem accept_test (p pre : List Nat) (a : Nat) (hm : p.length ≤ 64) (hp : 0 < p.length) (h : Inv p pre a) :
    (a &&& (masksLoop p).accept > 0) ↔ SufMatch p pre (p.length - 1) := by
  rw [accept_eq p hm hp, ← h, ← and_pow_ne_zero_iff]
  exact Nat.pos_iff_ne_zero

theorem sufMatch_full_iff (p pre : List Nat) (hp : 0 < p.length) :
    SufMatch p pre (p.length - 1) ↔ p <:+ pre := by
  rw [sufMatch_iff_isPS, Nat.sub_add_cancel hp, Kmp.isPS_full_iff]

/-- the iterator is the generic scanner with the automaton's step and accept test -/
theorem run_eq_scan (ms : MState) (m : Nat) : ∀ (t : List Nat) (i active : Nat),
    run ms m t i active = Scan.scan (step ms) (fun a => decide (a &&& ms.accept > 0)) m t i active
  | [], _, _ => rfl
  | c :: t, i, active => by
    simp only [run, Scan.scan, run_eq_scan ms m t, decide_eq_true_eq]

/-- **ShiftAnd is exact**: for every pattern of 1..64 symbols and every text the iterator yields exactly the
ascending list of all occurrence positions. -/
theorem findAll_eq_occurrences (p t : List Nat) (hp : 0 < p.length) (hm : p.length ≤ 64) :
    findAll p t = occurrences p t := by
  rw [findAll, run_eq_scan]
  refine Scan.scan_eq_occurrences _ _ p (Inv p) (fun pre a c => step_inv p pre a c hm) (fun pre a h => ?_) hp 0
    (inv_nil p) t
  rw [decide_eq_true_eq, accept_test p pre a hm hp h, sufMatch_full_iff p pre hp]

end RbV.ShiftAnd
