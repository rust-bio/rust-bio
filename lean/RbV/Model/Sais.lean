import RbV.Model.PosTypes
import RbV.Model.Transform
/-
Mirror model of SA-IS as implemented in `src/data_structures/suffix_array.rs`:

  `suffix_array` → `transform_text` → `Sais::construct` → `PosTypes::new`, `calc_lms_pos` (collect LMS positions,
  `calc_pos` on the unsorted LMS positions, `sort_lms_suffixes`: naming with `lms_substring_eq`, recursion on the
  reduced text) → `calc_pos` (induced sorting: `init_bucket_start`, `init_bucket_end`, LMS placement, L pass, S pass)

and of `suffix_array_int` (= `Sais::construct` on the integer text itself).

Conventions of the mirror
* texts of every width (`u8`/`u16`/`u32`/`u64` transformed texts and reduced texts, `usize` integer texts) are one
  `List Nat` model.  The width matters in the Rust code only through `cast(..).unwrap()`, which panics on overflow;
  the widths are chosen by `suffix_array` / `calc_lms_pos` so that every value fits (`alphabet.len() +
  sentinel_count ≤ MAX`, `label < lms_substring_count ≤ MAX`), so no truncation is modelled.
* `usize` arithmetic: unbounded `Nat`, except `wrapping_sub(1)` which is modelled as written (`0 ↦ 2^64 − 1`).
* `&mut self` fields → a record `St` threaded through the functions; a `for` loop → `forUp`/`forDown`/`foldl`.
* an out-of-range index (a panic in Rust) is totalised: reads give a default (`getD`), writes are dropped
  (`List.set`).  The theorems are stated under the guard of the real code (text ends in its unique minimum, dense
  alphabet), under which no such index occurs.
* `lms_substring_eq`'s `for k in 0..` gets fuel `n + 1`.
* the recursion `construct → calc_lms_pos → sort_lms_suffixes → construct` gets fuel = text length (the reduced text
  has at most half the length).
-/
namespace RbV.Sais

/-! ### loops -/

/-- `for r in 0..n { s = f r s }` -/
def forUp (n : Nat) (f : Nat → σ → σ) (s : σ) : σ :=
  match n with
  | 0 => s
  | k + 1 => f k (forUp k f s)

/-- `for r in (0..n).rev() { s = f r s }` -/
def forDown (n : Nat) (f : Nat → σ → σ) (s : σ) : σ :=
  match n with
  | 0 => s
  | k + 1 => forDown k f (f k s)

/-! ### `PosTypes` -/

/-- `is_s_pos` (`get_bit`; out of range is a panic in Rust, `false` here) -/
def isS (ty : List Bool) (p : Nat) : Bool := ty.getD p false
/-- `is_l_pos` -/
def isL (ty : List Bool) (p : Nat) : Bool := !ty.getD p false
/-- `is_lms_pos`: `p != 0 && is_s_pos(p) && is_l_pos(p - 1)` -/
def isLms (ty : List Bool) (p : Nat) : Bool := p != 0 && isS ty p && isL ty (p - 1)

/-! ### buckets -/

/-- `VecMap<usize>` as `Vec<Option<usize>>`: `if !contains_key(c) { insert(c, 0) }; *get_mut(c) += 1` -/
def vmIncr (m : List (Option Nat)) (c : Nat) : List (Option Nat) :=
  let m' := if c < m.length then m else m ++ List.replicate (c + 1 - m.length) none
  match m'.getD c none with
  | none => m'.set c (some 1)
  | some k => m'.set c (some (k + 1))

/-- first loop of `init_bucket_start`: the `VecMap` of symbol counts -/
def bucketSizes (t : List Nat) : List (Option Nat) := t.foldl vmIncr []

/-- `for &size in values() { bucket_start.push(sum); sum += size }` -/
def prefixSums : List Nat → Nat → List Nat
  | [], _ => []
  | s :: ss, sum => sum :: prefixSums ss (sum + s)

/-- `init_bucket_start`: `values()` iterates over the present keys in ascending order -/
def initBucketStart (t : List Nat) : List Nat := prefixSums ((bucketSizes t).filterMap id) 0

/-- `init_bucket_end`: `for &r in &bucket_start[1..] { push(r - 1) }; push(n - 1)` -/
def initBucketEnd (bs : List Nat) (n : Nat) : List Nat := (bs.drop 1).map (· - 1) ++ [n - 1]

/-- `usize::MAX` = 2^64 − 1 -/
def usizeMax : Nat := 18446744073709551615

/-- `x.wrapping_sub(1)` on `usize` (64 bit) -/
def wrapSub1 (x : Nat) : Nat := if x = 0 then usizeMax else x - 1

/-! ### `calc_pos` (induced sorting) -/

/-- one iteration of `for &p in self.lms_pos.iter().rev()` -/
def placeStep (t : List Nat) (st : List Nat × List Nat) (p : Nat) : List Nat × List Nat :=
  let c := t.getD p 0
  let e := st.2.getD c 0
  (st.1.set e p, st.2.set c (wrapSub1 e))

/-- insert LMS positions to the end of their buckets -/
def placeLms (t lms pos be : List Nat) : List Nat × List Nat :=
  lms.reverse.foldl (placeStep t) (pos, be)

/-- one iteration of `for r in 0..n` (insert L-positions) -/
def lStep (t : List Nat) (ty : List Bool) (n r : Nat) (st : List Nat × List Nat) : List Nat × List Nat :=
  let p := st.1.getD r 0
  if p = n || p = 0 then st
  else
    let pred := p - 1
    if isL ty pred then
      let c := t.getD pred 0
      let b := st.2.getD c 0
      (st.1.set b pred, st.2.set c (b + 1))
    else st

/-- one iteration of `for r in (0..n).rev()` (insert S-positions); note: no test for the "unknown" value `n` -/
def sStep (t : List Nat) (ty : List Bool) (r : Nat) (st : List Nat × List Nat) : List Nat × List Nat :=
  let p := st.1.getD r 0
  if p = 0 then st
  else
    let pred := p - 1
    if isS ty pred then
      let c := t.getD pred 0
      let e := st.2.getD c 0
      (st.1.set e pred, st.2.set c (wrapSub1 e))
    else st

/-- result of `calc_pos`: the three fields it (re)computes -/
structure CP where
  pos : List Nat
  bStart : List Nat
  bEnd : List Nat

/-- `calc_pos(text, pos_types)` run on `self.lms_pos = lms` (it clears `pos`, `bucket_start`, `bucket_end` first) -/
def calcPosRun (t : List Nat) (ty : List Bool) (lms : List Nat) : CP :=
  let n := t.length
  let bs := initBucketStart t
  let be := initBucketEnd bs n
  let pos := List.replicate n n
  let (pos, _) := placeLms t lms pos be
  let be := initBucketEnd bs n
  let (pos, bs) := forUp n (lStep t ty n) (pos, bs)
  let (pos, be) := forDown n (sStep t ty) (pos, be)
  { pos := pos, bStart := bs, bEnd := be }

/-! ### the object `Sais` -/

/-- the fields of `struct Sais` -/
structure St where
  pos : List Nat
  lmsPos : List Nat
  redPos : List Nat      -- `reduced_text_pos`, allocated once in `Sais::new` and shared by all recursion levels
  bStart : List Nat
  bEnd : List Nat

/-- `Sais::new(n)` -/
def St.new (n : Nat) : St :=
  { pos := [], lmsPos := [], redPos := List.replicate n 0, bStart := [], bEnd := [] }

/-- `calc_pos` on the object: overwrites `pos`, `bucket_start`, `bucket_end` -/
def calcPos (t : List Nat) (ty : List Bool) (s : St) : St :=
  let r := calcPosRun t ty s.lmsPos
  { s with pos := r.pos, bStart := r.bStart, bEnd := r.bEnd }

/-- `lms_substring_eq`, iteration `k` (fuel `f`) -/
def lmsSubEqGo (t : List Nat) (ty : List Bool) (i j : Nat) : Nat → Nat → Bool
  | 0, _ => false
  | f + 1, k =>
    let lmsi := isLms ty (i + k)
    let lmsj := isLms ty (j + k)
    if t.getD (i + k) 0 ≠ t.getD (j + k) 0 then false
    else if lmsi ≠ lmsj then false
    else if k > 0 && lmsi && lmsj then true
    else lmsSubEqGo t ty i j f (k + 1)

/-- `lms_substring_eq(text, pos_types, i, j)` -/
def lmsSubEq (t : List Nat) (ty : List Bool) (i j : Nat) : Bool := lmsSubEqGo t ty i j (t.length + 1) 0

/-- state of the naming loop: `label`, `prev`, `reduced_text` -/
structure Naming where
  label : Nat
  prev : Option Nat
  red : List Nat

/-- one iteration of `for &p in &self.pos` in `sort_lms_suffixes` -/
def nameStep (t : List Nat) (ty : List Bool) (redPos : List Nat) (st : Naming) (p : Nat) : Naming :=
  if isLms ty p then
    let label :=
      match st.prev with
      | some q => if !lmsSubEq t ty q p then st.label + 1 else st.label
      | none => st.label
    { label := label, prev := some p, red := st.red.set (redPos.getD p 0) label }
  else st

/-- the naming part of `sort_lms_suffixes` -/
def naming (t : List Nat) (ty : List Bool) (cnt : Nat) (s : St) : Naming :=
  let red := List.replicate cnt 0
  let red := red.set (s.redPos.getD (s.pos.getD 0 0) 0) 0
  s.pos.foldl (nameStep t ty s.redPos) { label := 0, prev := none, red := red }

/-- `sort_lms_suffixes` (`rec` = `construct` of the next level) -/
def sortLmsSuffixes (rec : List Nat → St → St) (t : List Nat) (ty : List Bool) (cnt : Nat) (s : St) : St :=
  if cnt > 1 then
    let nm := naming t ty cnt s
    if nm.label + 1 < cnt then
      let backup := s.lmsPos
      let s := rec nm.red s
      { s with lmsPos := s.pos.map (fun p => backup.getD p 0) }
    else
      { s with lmsPos := s.pos.filter (isLms ty) }
  else s

/-- first loop of `calc_lms_pos`: `(lms_pos, reduced_text_pos, i)` -/
def collectStep (ty : List Bool) (r : Nat) (st : List Nat × List Nat × Nat) : List Nat × List Nat × Nat :=
  if isLms ty r then (st.1 ++ [r], st.2.1.set r st.2.2, st.2.2 + 1) else st

/-- `calc_lms_pos` -/
def calcLmsPos (rec : List Nat → St → St) (t : List Nat) (ty : List Bool) (s : St) : St :=
  let n := t.length
  let c := forUp n (collectStep ty) ([], s.redPos, 0)
  let s := { s with lmsPos := c.1, redPos := c.2.1 }
  let s := calcPos t ty s
  sortLmsSuffixes rec t ty s.lmsPos.length s

/-- `Sais::construct` with recursion fuel -/
def construct : Nat → List Nat → St → St
  | 0, _, s => s
  | f + 1, t, s =>
    let ty := PosTypes.posTypes t
    let s := calcLmsPos (construct f) t ty s
    calcPos t ty s

/-- `suffix_array_int(text)` -/
def suffixArrayInt (t : List Nat) : List Nat := (construct t.length t (St.new t.length)).pos

/-! ### `suffix_array`: `Alphabet::new`, `RankTransform::new`, `transform_text` -/

/-- `Alphabet::new(text)`: the symbols of the text in ascending order (iteration over the `BitSet`) -/
def alphabet (t : List Nat) : List Nat := (List.range (t.foldl max 0 + 1)).filter (fun c => t.contains c)

/-- the loop of `transform_text`, with `rk a` = `transform.ranks.get(a)` -/
def transformGo (rk : Nat → Nat) (sent offset : Nat) : List Nat → Nat → List Nat
  | [], _ => []
  | a :: as, s =>
    if a = sent then (s - 1) :: transformGo rk sent offset as (s - 1)
    else (rk a + offset) :: transformGo rk sent offset as s

/-- `transform_text(text, &alphabet, sentinel_count)`; `RankTransform::new(alphabet)` maps a symbol to its index in
the ascending alphabet.  (Equal to the specification-level `Transform.transformText`: `transformText_eq`.) -/
def transformText (t : List Nat) : List Nat :=
  let sent := sentinelOf t
  let sc := t.count sent
  let al := alphabet t
  transformGo (fun a => al.idxOf a) sent (sc - 1) t sc

/-- `suffix_array(text)` (the `assert!` of `sentinel_count` — every symbol ≥ the last one — is a precondition; the
choice of `u8`/`u16`/`u32`/`u64` by `alphabet.len() + sentinel_count` only guarantees that the casts succeed) -/
def suffixArray (t : List Nat) : List Nat :=
  let tt := transformText t
  (construct tt.length tt (St.new t.length)).pos

end RbV.Sais
