import RbV.Model.ShiftAnd
import RbV.Basic.Scan
/-!
Mirror model of `pattern_matching::bndm` (`active` starts as `u64::MAX` for `m = 64`, where `(1 << m) - 1` would overflow).

Rust:
```
new:  (masks, accept) = shift_and::masks(pattern.rev())
next: while window <= n {
        occ = None; active = if m >= 64 { u64::MAX } else { (1 << m) - 1 }; (j, lastsuffix) = (1, 0);
        while active != 0 {
          active &= masks[text[window - j]];
          if active & accept != 0 { if j == m { occ = Some(window - m); break } else { lastsuffix = j } }
          j += 1; active <<= 1;
        }
        window += m - lastsuffix;
        if occ.is_some() { return occ }
      }
```
`window - j` underflow (a panic in Rust) is `none` in the model; the theorem shows it never happens.
-/
namespace RbV.Bndm
open RbV.ShiftAnd (MState masksLoop W)

/-- inner `while active != 0` loop; result `(occ found, lastsuffix)` -/
def inner (ms : MState) (m : Nat) (t : List Nat) (window : Nat) : Nat → Nat → Nat → Nat → Option (Bool × Nat)
  | 0, _, active, ls => if active = 0 then some (false, ls) else none       -- fuel exhausted: never (theorem)
  | fuel + 1, j, active, ls =>
    if active = 0 then some (false, ls) else
    if window < j then none else                                            -- usize underflow
    match t[window - j]? with
    | none => none                                                          -- index out of bounds
    | some c =>
      let a := active &&& ms.masks c
      if a &&& ms.accept ≠ 0 then
        if j = m then some (true, ls)
        else inner ms m t window fuel (j + 1) ((a <<< 1) % W) j
      else inner ms m t window fuel (j + 1) ((a <<< 1) % W) ls

def initActive (m : Nat) : Nat := if m ≥ 64 then W - 1 else (1 <<< m) - 1

def outer (ms : MState) (m : Nat) (t : List Nat) : Nat → Nat → Option (List Nat)
  | 0, window => if window ≤ t.length then none else some []                -- fuel exhausted: never (theorem)
  | fuel + 1, window =>
    if window ≤ t.length then
      match inner ms m t window (m + 1) 1 (initActive m) 0 with
      | none => none
      | some (occ, ls) =>
        match outer ms m t fuel (window + (m - ls)) with
        | none => none
        | some rest => some (if occ then (window - m) :: rest else rest)
    else some []

def findAll (p t : List Nat) : Option (List Nat) :=
  outer (masksLoop p.reverse) p.length t (t.length + 1) p.length

section
variable (p t : List Nat)

/-- `t[b .. b+l) = p[o .. o+l)` -/
def Seg (b l o : Nat) : Prop := ∀ k, k < l → t[b + k]? = p[o + k]?

theorem seg_zero (b o : Nat) : Seg p t b 0 o := fun _ hk => absurd hk (Nat.not_lt_zero _)

theorem seg_succ (b l o : Nat) : Seg p t b (l + 1) o ↔ t[b]? = p[o]? ∧ Seg p t (b + 1) l (o + 1) := by
  constructor
  · intro h
    refine ⟨h 0 (Nat.succ_pos l), fun k hk => ?_⟩
    rw [Nat.add_right_comm b 1 k, Nat.add_right_comm o 1 k]
    exact h (k + 1) (Nat.succ_lt_succ hk)
  · rintro ⟨h0, h⟩ k hk
    cases k with
    | zero => exact h0
    | succ k =>
      have := h k (Nat.lt_of_succ_lt_succ hk)
      rwa [Nat.add_right_comm b 1 k, Nat.add_right_comm o 1 k] at this

variable {p t} in
theorem seg_bound (b l o : Nat) (hb : b + l < t.length) (h : Seg p t b (l + 1) o) : o + l < p.length := by
  have h1 := h l (Nat.lt_succ_self l)
  rw [List.getElem?_eq_getElem hb] at h1
  exact (List.getElem?_eq_some_iff.mp h1.symm).1

variable {p t} in
theorem seg_suffix (b d l o : Nat) (h : Seg p t b (d + l) o) : Seg p t (b + d) l (o + d) := by
  intro k hk
  rw [Nat.add_assoc, Nat.add_assoc]
  exact h (d + k) (Nat.add_lt_add_left hk d)

variable {p t} in
theorem seg_prefix (b l d o : Nat) (h : Seg p t b (l + d) o) : Seg p t b l o :=
  fun k hk => h k (Nat.lt_add_right d hk)

theorem occursAt_iff_seg (s : Nat) : OccursAt p t s ↔ s + p.length ≤ t.length ∧ Seg p t s p.length 0 := by
  rw [occursAt_iff_idx]
  unfold Seg
  simp only [Nat.zero_add]

end

theorem initActive_testBit (m i : Nat) (hm : m ≤ 64) : (initActive m).testBit i = decide (i < m) := by
  unfold initActive
  split
  · have : m = 64 := by omega
    subst this
    show (2 ^ 64 - 1).testBit i = _
    rw [Nat.testBit_two_pow_sub_one]
  · rw [Nat.shiftLeft_eq, Nat.one_mul, Nat.testBit_two_pow_sub_one]

theorem rmask_testBit (p : List Nat) (hm : p.length ≤ 64) (c : Nat) {i o : Nat} (h : i + o + 1 = p.length) :
    ((masksLoop p.reverse).masks c).testBit i = (p[o]? == some c) := by
  rw [ShiftAnd.masks_testBit p.reverse (by rw [List.length_reverse]; exact hm), List.getElem?_reverse' h]

theorem rmask_testBit_high (p : List Nat) (hm : p.length ≤ 64) (c i : Nat) (hi : p.length ≤ i) :
    ((masksLoop p.reverse).masks c).testBit i = false := by
  rw [ShiftAnd.masks_testBit p.reverse (by rw [List.length_reverse]; exact hm),
    List.getElem?_eq_none (by rw [List.length_reverse]; exact hi)]
  rfl

/-- Loop invariant for the window `t[s .. s+m)` after its last `l` symbols `t[b .. s+m)` have been read (the loop
counter is `j = l + 1`): bit `i` of `active` says that they spell the factor of `p` that begins `i` symbols before
the end of `p`; `ls` is the longest proper prefix of `p` met so far as a suffix of the window. -/
structure IInv (p t : List Nat) (s b l active ls : Nat) : Prop where
  pos : b + l = s + p.length
  bits : ∀ i o, i + o = p.length → 0 < o → (active.testBit i = true ↔ Seg p t b l o)
  lm : active ≠ 0 → l < p.length
  ls_lt : ls < p.length
  ls_le : ls ≤ l
  ls_max : ∀ s' k, s' + k = s + p.length → ls < k → k ≤ l → ¬ Seg p t s' k 0

theorem IInv.init (p t : List Nat) (s : Nat) (hp : 0 < p.length) (hm : p.length ≤ 64) :
    IInv p t s (s + p.length) 0 (initActive p.length) 0 where
  pos := rfl
  bits i o h ho := by
    rw [initActive_testBit p.length i hm, decide_eq_true (h ▸ Nat.lt_add_of_pos_right ho)]
    exact iff_of_true rfl (seg_zero p t _ _)
  lm _ := hp
  ls_lt := hp
  ls_le := Nat.le_refl 0
  ls_max _ k _ h1 h2 := absurd h2 (Nat.not_le_of_lt h1)

/-- when `active = 0`, no prefix longer than `ls` ends at the window: one longer than the part read would have a
suffix among the factors that `active` records -/
theorem IInv.exit {p t : List Nat} {s b l ls : Nat} (inv : IInv p t s b l 0 ls) :
    ¬ Seg p t s p.length 0 ∧ ls < p.length ∧
      ∀ s' k, s' + k = s + p.length → ls < k → k < p.length → ¬ Seg p t s' k 0 := by
  suffices key : ∀ s' k, s' + k = s + p.length → ls < k → k ≤ p.length → ¬ Seg p t s' k 0 from
    ⟨key s _ rfl inv.ls_lt (Nat.le_refl _), inv.ls_lt,
      fun s' k hsk h1 h2 => key s' k hsk h1 (Nat.le_of_lt h2)⟩
  intro s' k hsk hk hkm hf
  rcases Nat.lt_or_ge l k with h | h
  · obtain ⟨e, rfl⟩ := Nat.exists_eq_add_of_le' (Nat.le_of_lt h)
    obtain ⟨i, hi⟩ := Nat.le.dest (Nat.le_trans (Nat.le_add_right e l) hkm)
    have hb : b = s' + e := Nat.add_right_cancel (inv.pos.trans (hsk.symm.trans (Nat.add_assoc s' e l).symm))
    have h1 := seg_suffix s' e l 0 hf
    rw [Nat.zero_add, ← hb] at h1
    have h2 := (inv.bits i e (Nat.add_comm e i ▸ hi) (by omega)).mpr h1
    rw [Nat.zero_testBit] at h2
    exact Bool.false_ne_true h2
  · exact inv.ls_max s' k hsk hk h hf

theorem IInv.lt_length {p t : List Nat} {s b l active ls : Nat} (inv : IInv p t s (b + 1) l active ls)
    (hn : s + p.length ≤ t.length) : b + l < t.length :=
  Nat.lt_of_lt_of_le (Nat.add_lt_add_right (Nat.lt_succ_self b) l) (inv.pos ▸ hn)

section step
variable {p t : List Nat} {s b l active ls c : Nat} (inv : IInv p t s (b + 1) l active ls)
  (hm : p.length ≤ 64) (hc : t[b]? = some c)
include inv hm hc

theorem IInv.and_bits (i o : Nat) (h : i + o + 1 = p.length) :
    (active &&& (masksLoop p.reverse).masks c).testBit i = true ↔ Seg p t b (l + 1) o := by
  rw [Nat.testBit_and, Bool.and_eq_true, rmask_testBit p hm c h, beq_iff_eq,
    inv.bits i (o + 1) h (Nat.succ_pos o), seg_succ, hc]
  exact ⟨fun h => ⟨h.2.symm, h.1⟩, fun h => ⟨h.2, h.1.symm⟩⟩

/-- the accept test `active & masks[c] & accept != 0`: a prefix of `p` of length `l + 1` ends at the window -/
theorem IInv.accept_iff :
    (active &&& (masksLoop p.reverse).masks c) &&& (masksLoop p.reverse).accept ≠ 0 ↔ Seg p t b (l + 1) 0 := by
  rw [ShiftAnd.accept_eq p.reverse (by rw [List.length_reverse]; exact hm)
      (by rw [List.length_reverse]; exact Nat.zero_lt_of_lt inv.ls_lt), List.length_reverse, ShiftAnd.and_pow_ne_zero_iff,
    inv.and_bits hm hc (p.length - 1) 0 (Nat.sub_add_cancel (Nat.zero_lt_of_lt inv.ls_lt))]

theorem IInv.shift_bits (hn : s + p.length ≤ t.length) (i o : Nat) (h : i + o = p.length) (ho : 0 < o) :
    (((active &&& (masksLoop p.reverse).masks c) <<< 1) % W).testBit i = true ↔ Seg p t b (l + 1) o := by
  unfold W
  rw [Nat.testBit_mod_two_pow, Nat.testBit_shiftLeft]
  cases i with
  | zero =>
    refine ⟨fun h => ?_, fun hf => ?_⟩
    · simp at h
    · have := seg_bound b l o (inv.lt_length hn) hf
      omega
  | succ i =>
    rw [Bool.and_eq_true, Bool.and_eq_true, decide_eq_true_eq, decide_eq_true_eq, Nat.add_sub_cancel,
      inv.and_bits hm hc i o (Nat.add_right_comm i 1 o ▸ h)]
    exact ⟨fun h => h.2.2, fun h' => ⟨by omega, Nat.succ_pos i, h'⟩⟩

theorem IInv.step_prefix (hn : s + p.length ≤ t.length) (hl : l + 1 < p.length) :
    IInv p t s b (l + 1) (((active &&& (masksLoop p.reverse).masks c) <<< 1) % W) (l + 1) where
  pos := Nat.add_right_comm b 1 l ▸ inv.pos
  bits := inv.shift_bits hm hc hn
  lm _ := hl
  ls_lt := hl
  ls_le := Nat.le_refl _
  ls_max _ _ _ h1 h2 := absurd h2 (Nat.not_le_of_lt h1)

/-- the state after a symbol that completes no prefix of `p`; once the whole window is read the only factor of
length `m` is `p` itself, so `active` becomes 0 -/
theorem IInv.step_other (hn : s + p.length ≤ t.length) (hnf : ¬ Seg p t b (l + 1) 0) :
    IInv p t s b (l + 1) (((active &&& (masksLoop p.reverse).masks c) <<< 1) % W) ls where
  pos := Nat.add_right_comm b 1 l ▸ inv.pos
  bits := inv.shift_bits hm hc hn
  lm hne := by
    rcases Nat.lt_or_ge (l + 1) p.length with h | h
    · exact h
    · exfalso
      apply hne
      have hz : active &&& (masksLoop p.reverse).masks c = 0 := by
        apply Nat.eq_of_testBit_eq
        intro i
        rw [Nat.zero_testBit]
        rcases Nat.lt_or_ge i p.length with hi | hi
        · obtain ⟨o, ho⟩ := Nat.le.dest hi
          rw [← Bool.not_eq_true, inv.and_bits hm hc i o (Nat.add_right_comm i 1 o ▸ ho)]
          intro hf
          have := seg_bound b l o (inv.lt_length hn) hf
          have ho0 : o = 0 :=
            Nat.lt_one_iff.mp (Nat.lt_of_add_lt_add_right (Nat.add_comm l 1 ▸ Nat.lt_of_lt_of_le this h))
          exact hnf (ho0 ▸ hf)
        · rw [Nat.testBit_and, rmask_testBit_high p hm c i hi, Bool.and_false]
      rw [hz]; rfl
  ls_lt := inv.ls_lt
  ls_le := Nat.le_succ_of_le inv.ls_le
  ls_max s' k hsk h1 h2 hf := by
    rcases Nat.lt_or_ge k (l + 1) with h | h
    · exact inv.ls_max s' k hsk h1 (Nat.le_of_lt_succ h) hf
    · obtain rfl := Nat.le_antisymm h2 h
      have hs' : s' = b :=
        Nat.add_right_cancel (hsk.trans (by rw [← inv.pos, Nat.add_assoc, Nat.add_comm 1 l]))
      exact hnf (hs' ▸ hf)

end step

/-- result of the inner loop on the window `t[s .. s+m)`: a match is flagged exactly when the window is an
occurrence, and no prefix of the pattern longer than `lastsuffix` (and shorter than `m`) ends at the window -/
theorem inner_spec (p t : List Nat) (s : Nat) (hm : p.length ≤ 64) (hn : s + p.length ≤ t.length) :
    ∀ (fuel b l active ls : Nat), p.length + 1 ≤ fuel + l → IInv p t s b l active ls →
      ∃ occ ls', inner (masksLoop p.reverse) p.length t (s + p.length) fuel (l + 1) active ls = some (occ, ls') ∧
        (occ = true ↔ Seg p t s p.length 0) ∧ ls' < p.length ∧
        ∀ s' k, s' + k = s + p.length → ls' < k → k < p.length → ¬ Seg p t s' k 0 := by
  intro fuel
  induction fuel with
  | zero =>
    intro b l active ls hf inv
    have h0 : active = 0 := Classical.byContradiction fun h => by have := inv.lm h; omega
    subst h0
    exact ⟨false, ls, by rw [inner, if_pos rfl], iff_of_false Bool.false_ne_true inv.exit.1, inv.exit.2⟩
  | succ fuel ih =>
    intro b l active ls hf inv
    rw [inner]
    by_cases ha : active = 0
    · subst ha
      rw [if_pos rfl]
      exact ⟨false, ls, rfl, iff_of_false Bool.false_ne_true inv.exit.1, inv.exit.2⟩
    · have hl := inv.lm ha
      have hpos := inv.pos
      obtain ⟨b, rfl⟩ : ∃ b', b = b' + 1 := Nat.exists_eq_add_one_of_ne_zero fun h0 => by
        rw [h0, Nat.zero_add] at hpos
        exact Nat.not_le_of_lt hl (le_of_le_of_eq (Nat.le_add_left _ _) hpos.symm)
      have hidx : b < t.length := Nat.lt_of_le_of_lt (Nat.le_add_right b l) (inv.lt_length hn)
      have hc := List.getElem?_eq_getElem hidx
      rw [if_neg ha, if_neg (Nat.not_lt_of_le (Nat.le_trans (Nat.succ_le_of_lt hl) (Nat.le_add_left _ _))),
        show s + p.length - (l + 1) = b by rw [← hpos, Nat.add_assoc, Nat.add_comm 1 l, Nat.add_sub_cancel], hc]
      generalize t[b] = c at hc
      have hacc := inv.accept_iff hm hc
      dsimp only
      by_cases hA : active &&& (masksLoop p.reverse).masks c &&& (masksLoop p.reverse).accept ≠ 0
      · have hfj := hacc.mp hA
        rw [if_pos hA]
        by_cases hjeq : l + 1 = p.length
        · rw [if_pos hjeq]
          rw [hjeq] at hfj
          obtain rfl : b = s :=
            Nat.add_right_cancel (m := p.length) (by rw [← hpos, ← hjeq, Nat.add_assoc, Nat.add_comm 1 l])
          exact ⟨true, ls, rfl, iff_of_true rfl hfj, inv.ls_lt,
            fun s' k hsk h1 h2 => inv.ls_max s' k hsk h1 (Nat.le_of_lt_succ (hjeq.symm ▸ h2 : k < l + 1))⟩
        · rw [if_neg hjeq]
          exact ih b (l + 1) _ (l + 1) (Nat.add_right_comm fuel 1 l ▸ hf)
            (inv.step_prefix hm hc hn (Nat.lt_of_le_of_ne (Nat.succ_le_of_lt hl) hjeq))
      · rw [if_neg hA]
        exact ih b (l + 1) _ ls (Nat.add_right_comm fuel 1 l ▸ hf)
          (inv.step_other hm hc hn (fun h => hA (hacc.mpr h)))

/-- the inner loop from the initial state of the window `t[s .. s+m)`: `occ` says whether the window is an
occurrence, and no occurrence starts after it before the next window, `d = m - lastsuffix` further on -/
theorem inner_init (p t : List Nat) (s : Nat) (hp : 0 < p.length) (hm : p.length ≤ 64)
    (hn : s + p.length ≤ t.length) :
    ∃ occ ls d, inner (masksLoop p.reverse) p.length t (s + p.length) (p.length + 1) 1 (initActive p.length) 0
        = some (occ, ls) ∧ ls + d = p.length ∧ Verdict (OccursAt p t) s occ d := by
  obtain ⟨occ, ls, hin, hocc, hls, hmax⟩ :=
    inner_spec p t s hm hn (p.length + 1) _ 0 _ 0 (Nat.le_refl _) (IInv.init p t s hp hm)
  obtain ⟨d, hd⟩ := Nat.le.dest (Nat.le_of_lt hls)
  refine ⟨occ, ls, d, hin, hd, Nat.pos_of_ne_zero fun h0 => Nat.ne_of_lt hls (h0 ▸ hd : ls + 0 = _), hocc.trans ?_, fun s' h1 h2 h => ?_⟩
  · rw [occursAt_iff_seg]
    exact (and_iff_right hn).symm
  · have h2 : s' + ls < s + p.length := by rw [← hd, Nat.add_comm ls d, ← Nat.add_assoc]; exact Nat.add_lt_add_right h2 ls
    obtain ⟨k, hk⟩ := Nat.le.dest (Nat.le_of_lt (Nat.lt_of_le_of_lt (Nat.le_add_right s' ls) h2))
    have hkm : k < p.length := Nat.lt_of_add_lt_add_left (hk ▸ Nat.add_lt_add_right h1 k)
    obtain ⟨e, he⟩ := Nat.le.dest (Nat.le_of_lt hkm)
    exact hmax s' k hk (Nat.lt_of_add_lt_add_left (hk ▸ h2)) hkm
      (seg_prefix s' k e 0 (he ▸ ((occursAt_iff_seg p t s').mp h).2))

theorem outer_ascFrom (p t : List Nat) (hp : 0 < p.length) (hm : p.length ≤ 64) :
    ∀ (fuel s : Nat), t.length + 1 ≤ s + p.length + fuel →
      ∃ L, outer (masksLoop p.reverse) p.length t fuel (s + p.length) = some L ∧ AscFrom (OccursAt p t) s L := by
  refine window_loop (R := fun fuel s L => outer (masksLoop p.reverse) p.length t fuel (s + p.length) = some L)
    (fun s h => Nat.lt_succ_of_le h.1) (fun fuel s h => ?_) fun fuel s h => ?_
  · have hn : ¬ s + p.length ≤ t.length := Nat.not_le_of_lt h
    cases fuel <;> rw [outer, if_neg hn]
  · have hn : s + p.length ≤ t.length := Nat.le_of_lt_succ h
    obtain ⟨occ, ls, d, hin, hd, v⟩ := inner_init p t s hp hm hn
    refine ⟨occ, d, v, fun L hL => ?_⟩
    rw [outer, if_pos hn, hin]
    dsimp only
    rw [Nat.sub_eq_of_eq_add' hd.symm, ← Nat.add_right_comm, hL, Nat.add_sub_cancel]

/-- **BNDM is exact** for every pattern of 1..64 symbols and every text: it never underflows, never reads out of
bounds, never runs out of fuel, and yields exactly the ascending list of all occurrences. -/
theorem findAll_eq_occurrences (p t : List Nat) (hp : 0 < p.length) (hm : p.length ≤ 64) :
    findAll p t = some (occurrences p t) := by
  obtain ⟨L, hL, h⟩ := outer_ascFrom p t hp hm (t.length + 1) 0 (by omega)
  rw [Nat.zero_add] at hL
  rw [findAll, hL, h.eq_occurrences]

end RbV.Bndm
