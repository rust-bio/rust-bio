import RbV.Model.AvlProofs
/-!
# The AVL mirror model with the tie-break of `Node::insert` as a parameter

`Node::insert` sends an interval whose start equals the start of the visited node to the *left* (`interval.start <=
self.interval.start`).  Nothing in the property depends on that choice: the invariant proofs only need that an entry that
goes left does not start after the node and an entry that goes right does not start before it (`TieOk`).  `insertG tb` is
`Avl.insert` with the test `tb new visited` in the place of `new.lo ≤ visited.lo`; the invariant proofs are done for
every `tb` with `TieOk tb` (seeded change C07-H1 flips the tie-break: the translated
`insert` is proved equal to `insertG tb` for the test found in the source, and the test is proved `TieOk`).
`insertG_le`: at the test of the source `insertG` is `Avl.insert`, so the theorems about `Avl.insert` and about histories of
insertions and mutations (`run_correct`) at the end of the file are the instance `tbLe`.  Core Lean only.
-/
namespace RbV.Avl
open RbV.Ivl

/-- `tb e x`: the new entry `e` descends into the left subtree of a node holding `x` -/
abbrev TieBreak := Entry → Entry → Bool

/-- what the invariants need of the tie-break -/
def TieOk (tb : TieBreak) : Prop := ∀ e x, (tb e x = true → e.lo ≤ x.lo) ∧ (tb e x = false → x.lo ≤ e.lo)

/-- the test of the source: equal starts go left -/
def tbLe : TieBreak := fun e x => decide (e.lo ≤ x.lo)
/-- the test of seeded change C07-H1: equal starts go right; with `tieOk_lt` a second admissible tie-break beside `tbLe` -/
def tbLt : TieBreak := fun e x => decide (e.lo < x.lo)

theorem tieOk_le : TieOk tbLe := by intro e x; simp only [tbLe, decide_eq_true_eq, decide_eq_false_iff_not]; omega
theorem tieOk_lt : TieOk tbLt := by intro e x; simp only [tbLt, decide_eq_true_eq, decide_eq_false_iff_not]; omega

/-- `Node::insert` with the tie-break test as a parameter -/
def insertG (tb : TieBreak) : Tree → Entry → Tree
  | .nil, e => leaf e
  | .node l x mx h r, e =>
    if tb e x then repair (.node (insertG tb l e) x mx h r)
    else repair (.node l x mx h (insertG tb r e))

theorem insertG_le : ∀ (t : Tree) (e : Entry), insertG tbLe t e = insert t e
  | .nil, _ => rfl
  | .node l x mx h r, e => by
    unfold insertG insert
    simp only [tbLe, decide_eq_true_eq, insertG_le l e, insertG_le r e]

def buildG (tb : TieBreak) (es : List Entry) : Tree := es.foldl (insertG tb) .nil

theorem toList_insertG_perm (tb : TieBreak) : ∀ (t : Tree) (e : Entry), (toList (insertG tb t e)).Perm (e :: toList t)
  | .nil, e => List.Perm.refl _
  | .node l x mx h r, e => by
    unfold insertG
    split
    · rw [toList_repair]; exact (toList_insertG_perm tb l e).append_right _
    · rw [toList_repair]
      -- `e` moves over `x` and over the left part
      exact ((((toList_insertG_perm tb r e).cons x).trans (List.Perm.swap e x _)).append_left _).trans List.perm_middle

theorem size_insertG (tb : TieBreak) (t : Tree) (e : Entry) : size (insertG tb t e) = size t + 1 := by
  rw [size_eq_length, size_eq_length, (toList_insertG_perm tb t e).length_eq]; rfl

/-- stated for the fold from any tree `t`; `buildG tb es` is the fold from `.nil` (so is `buildG_correct` below) -/
theorem size_buildG (tb : TieBreak) (es : List Entry) (t : Tree) :
    size (es.foldl (insertG tb) t) = size t + es.length := by
  induction es generalizing t with
  | nil => rfl
  | cons e es ih => simp only [List.foldl_cons, ih, size_insertG, List.length_cons]; omega

theorem insertG_sorted (tb : TieBreak) (ht : TieOk tb) (t : Tree) (e : Entry) (hs : Sorted t) :
    Sorted (insertG tb t e) := by
  induction t with
  | nil => simp [Sorted, insertG, leaf, toList]
  | node l x mx h r ihl ihr =>
    obtain ⟨sl, sr, h1, h2⟩ := (sorted_node_iff l x mx h r).mp hs
    unfold insertG
    split
    · rename_i hc
      rw [sorted_repair, sorted_node_iff]
      exact ⟨ihl sl, sr, fun a ha => (List.mem_cons.mp ((toList_insertG_perm tb l e).subset ha)).elim
        (fun h => h ▸ (ht e x).1 hc) (h1 a), h2⟩
    · rename_i hc
      rw [sorted_repair, sorted_node_iff]
      exact ⟨sl, ihr sr, h1, fun b hb => (List.mem_cons.mp ((toList_insertG_perm tb r e).subset hb)).elim
        (fun h => h ▸ (ht e x).2 (Bool.eq_false_iff.mpr hc)) (h2 b)⟩

theorem insertG_good (tb : TieBreak) : ∀ (t : Tree) (e : Entry), Good t →
    Good (insertG tb t e) ∧ ht t ≤ ht (insertG tb t e) ∧ ht (insertG tb t e) ≤ ht t + 1
  | .nil, e, _ => ⟨good_leaf e, Nat.zero_le _, Nat.le_refl _⟩
  | .node l x mx h r, e, g => by
    rw [good_node_iff] at g
    obtain ⟨gl, gr, _, rfl, b1, b2⟩ := g
    unfold insertG
    split
    · obtain ⟨gi, i1, i2⟩ := insertG_good tb l e gl
      exact repair_grow x mx _ gi gr b1 b2 i1 i2 (Nat.le_refl _) (Nat.le_succ _)
    · obtain ⟨gi, i1, i2⟩ := insertG_good tb r e gr
      exact repair_grow x mx _ gl gi b1 b2 (Nat.le_refl _) (Nat.le_succ _) i1 i2

/-- the true height grows by at most one -/
theorem insertG_height (tb : TieBreak) (t : Tree) (e : Entry) (h : Inv t) :
    realHeight t ≤ realHeight (insertG tb t e) ∧ realHeight (insertG tb t e) ≤ realHeight t + 1 := by
  have g := ((inv_iff t).mp h).2
  have gi := insertG_good tb t e g
  rw [← ht_eq_realHeight t g.1, ← ht_eq_realHeight _ gi.1.1]
  exact gi.2

theorem insertG_inv (tb : TieBreak) (ht : TieOk tb) (t : Tree) (e : Entry) (h : Inv t) : Inv (insertG tb t e) := by
  rw [inv_iff] at h ⊢
  exact ⟨insertG_sorted tb ht t e h.1, (insertG_good tb t e h.2).1⟩

theorem posW_insertG (tb : TieBreak) (t : Tree) (e : Entry) (hp : PosW t) (he : e.lo < e.hi) :
    PosW (insertG tb t e) := by
  intro a ha
  have := (toList_insertG_perm tb t e).subset ha
  simp only [List.mem_cons] at this
  rcases this with rfl | h
  · exact he
  · exact hp a h

theorem buildG_correct (tb : TieBreak) (ht : TieOk tb) : ∀ (es : List Entry) (t : Tree), (∀ e ∈ es, e.lo < e.hi) →
    Inv t → PosW t →
    Inv (es.foldl (insertG tb) t) ∧ PosW (es.foldl (insertG tb) t) ∧
      (toList (es.foldl (insertG tb) t)).Perm (es.reverse ++ toList t)
  | [], t, _, hi, hp => ⟨hi, hp, by simp⟩
  | e :: es, t, hw, hi, hp => by
    obtain ⟨a, b, c⟩ := buildG_correct tb ht es (insertG tb t e) (fun x hx => hw x (by simp [hx]))
      (insertG_inv tb ht t e hi) (posW_insertG tb t e hp (hw e (by simp)))
    refine ⟨a, b, c.trans ?_⟩
    simp only [List.reverse_cons, List.append_assoc, List.singleton_append]
    exact List.Perm.append_left _ (toList_insertG_perm tb t e)

/-! ## `Avl.insert` is `insertG` at the test of the source -/

theorem toList_insert_perm (t : Tree) (e : Entry) : (toList (insert t e)).Perm (e :: toList t) := by
  rw [← insertG_le]; exact toList_insertG_perm tbLe t e

theorem size_insert (t : Tree) (e : Entry) : size (insert t e) = size t + 1 := by
  rw [← insertG_le]; exact size_insertG tbLe t e

theorem insert_sorted (t : Tree) (e : Entry) (hs : Sorted t) : Sorted (insert t e) := by
  rw [← insertG_le]; exact insertG_sorted tbLe tieOk_le t e hs

theorem insert_good (t : Tree) (e : Entry) (g : Good t) :
    Good (insert t e) ∧ ht t ≤ ht (insert t e) ∧ ht (insert t e) ≤ ht t + 1 := by
  rw [← insertG_le]; exact insertG_good tbLe t e g

theorem insert_inv (t : Tree) (e : Entry) (h : Inv t) : Inv (insert t e) := by
  rw [← insertG_le]; exact insertG_inv tbLe tieOk_le t e h

theorem posW_insert (t : Tree) (e : Entry) (hp : PosW t) (he : e.lo < e.hi) : PosW (insert t e) := by
  rw [← insertG_le]; exact posW_insertG tbLe t e hp he

/-! ## whole histories of `insert` and `find_mut` mutations -/

inductive HOp where
  | ins (e : Entry)
  | bump (q : Query) (delta : Int)

/-- the model after a history -/
def runModel : List HOp → Tree → Tree
  | [], t => t
  | .ins e :: ops, t => runModel ops (insert t e)
  | .bump q d :: ops, t => runModel ops (bumpTree q d t)

/-- the stored multiset after a history (specification level) -/
def runSpec : List HOp → List Entry → List Entry
  | [], s => s
  | .ins e :: ops, s => runSpec ops (e :: s)
  | .bump q d :: ops, s => runSpec ops (bump s q d)

def HOp.wf : HOp → Prop
  | .ins e => e.lo < e.hi
  | .bump q _ => q.lo < q.hi

theorem run_correct : ∀ (ops : List HOp) (t : Tree) (s : List Entry), (∀ o ∈ ops, o.wf) → Inv t → PosW t →
    (toList t).Perm s →
    Inv (runModel ops t) ∧ PosW (runModel ops t) ∧ (toList (runModel ops t)).Perm (runSpec ops s)
  | [], t, s, _, hi, hp, hperm => ⟨hi, hp, hperm⟩
  | .ins e :: ops, t, s, hw, hi, hp, hperm => by
    have he : e.lo < e.hi := hw (.ins e) (by simp)
    exact run_correct ops (insert t e) (e :: s) (fun o ho => hw o (by simp [ho])) (insert_inv t e hi)
      (posW_insert t e hp he) ((toList_insert_perm t e).trans (List.Perm.cons e hperm))
  | .bump q d :: ops, t, s, hw, hi, hp, hperm => by
    have hq : q.lo < q.hi := hw (.bump q d) (by simp)
    have hi' : Inv (bumpTree q d t) := by
      rw [inv_iff] at hi ⊢
      exact ⟨sorted_bumpTree q d t hi.1, good_bumpTree q d t hi.2⟩
    exact run_correct ops (bumpTree q d t) (bump s q d) (fun o ho => hw o (by simp [ho])) hi'
      (posW_bumpTree q d t hp) (bumpTree_perm q d t s hp hq hperm)

end RbV.Avl
