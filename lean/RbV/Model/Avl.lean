import RbV.Spec.Interval
/-!
# Mirror model of `avl_interval_tree.rs` (definitions; the proofs are in `RbV/Model/AvlProofs.lean`)

Follows `Node::{new, insert, update_height, update_max, repair, rotate_left, rotate_right}`,
`IntervalTreeIterator::next` / `IntervalTreeIteratorMut::next` and `intersect` line by line.

Differences in representation (none in behaviour):
* `Option<Box<Node>>` is `Tree` (`nil` = `None`); `IntervalTree { root }` is the same `Tree`.
* The Rust rotations keep the *box* of the subtree root in place and **swap the payloads**
  (`swap_interval_data`) of the old root and the child that moves up, then re-hang the three subtrees. Seen as a
  value this is exactly the classical pointer rotation: after `rotate_left` on `(t1, x, (t2, y, t3))` the node at
  the root position holds `y`, its left child holds `x` with children `t1`, `t2`, and its right child is `t3`.
  The model builds that tree directly (`mk (mk t1 x t2) y t3`); `mk` is `update_height` + `update_max`, called
  first on the lower node and then on the upper one, as in the Rust code.
* heights are `Nat` (`i64` in Rust; they are never negative) and `(left_h - right_h).abs() <= 1` is written
  `lh ≤ rh + 1 ∧ rh ≤ lh + 1`.
* `unwrap()` / `expect("Invalid tree: leaf is taller than its sibling.")` on a missing child are panics in Rust;
  the model returns the tree unchanged there. `repairP_eq` / `insertP_eq` (`RbV/Model/AvlProofs.lean`) show those branches
  are never reached, whatever the tree.
* the iterator's `Vec` stack is a `List` whose head is the top; the results are collected in the order the
  iterator yields them.

Core Lean only (the driver runs this model next to the real tree).
-/
namespace RbV.Avl
open RbV.Ivl

inductive Tree where
  | nil : Tree
  | node (l : Tree) (e : Entry) (mx : Int) (h : Nat) (r : Tree) : Tree
deriving Repr, DecidableEq, Inhabited

/-- `self.left.as_ref().map_or(0, |n| n.height)` -/
def ht : Tree → Nat
  | .nil => 0
  | .node _ _ _ h _ => h

/-- in-order list of the payloads -/
def toList : Tree → List Entry
  | .nil => []
  | .node l e _ _ r => toList l ++ e :: toList r

def size : Tree → Nat
  | .nil => 0
  | .node l _ _ _ r => size l + 1 + size r

/-- `update_max`: start from the node's own end, take the children's `max` fields into account when present -/
def updMax (l : Tree) (e : Entry) (r : Tree) : Int :=
  let m := e.hi
  let m := match l with
    | .nil => m
    | .node _ _ lm _ _ => if m < lm then lm else m
  match r with
  | .nil => m
  | .node _ _ rm _ _ => if m < rm then rm else m

/-- `update_height` -/
def updHeight (l r : Tree) : Nat := 1 + max (ht l) (ht r)

/-- a node whose `height` and `max` have just been recomputed from its children (`update_height; update_max`) -/
def mk (l : Tree) (e : Entry) (r : Tree) : Tree := .node l e (updMax l e r) (updHeight l r) r

/-- `Node::new` -/
def leaf (e : Entry) : Tree := .node .nil e e.hi 1 .nil

/-- `rotate_left` (payload swap = pointer rotation, see the header) -/
def rotateLeft : Tree → Tree
  | .node t1 x _ _ (.node t2 y _ _ t3) => mk (mk t1 x t2) y t3
  | t => t

/-- `rotate_right` -/
def rotateRight : Tree → Tree
  | .node (.node t1 y _ _ t2) x _ _ t3 => mk t1 y (mk t2 x t3)
  | t => t

/-- `repair` -/
def repair : Tree → Tree
  | .nil => .nil
  | .node l x mx h r =>
    let lh := ht l
    let rh := ht r
    if lh ≤ rh + 1 ∧ rh ≤ lh + 1 then mk l x r
    else if rh > lh then
      let r' := match r with
        | .node rl _ _ _ rr => if ht rl > ht rr then rotateRight r else r
        | .nil => r
      rotateLeft (.node l x mx h r')
    else
      let l' := match l with
        | .node ll _ _ _ lr => if ht lr > ht ll then rotateLeft l else l
        | .nil => l
      rotateRight (.node l' x mx h r)

/-- `IntervalTree::insert` / `Node::insert`: equal starts go to the left -/
def insert : Tree → Entry → Tree
  | .nil, e => leaf e
  | .node l x mx h r, e =>
    if e.lo ≤ x.lo then repair (.node (insert l e) x mx h r)
    else repair (.node l x mx h (insert r e))

/-- the tree after a whole insertion history -/
def build (es : List Entry) : Tree := es.foldl insert .nil

/-- `intersect` -/
def intersect (q : Query) (e : Entry) : Bool :=
  decide (q.lo < q.hi) && decide (e.lo < e.hi) && decide (q.hi > e.lo) && decide (q.lo < e.hi)

/-- `if let Some(ref c) = child { nodes.push(c) }` -/
def push (t : Tree) (s : List Tree) : List Tree :=
  match t with
  | .nil => s
  | t => t :: s

def weight : List Tree → Nat
  | [] => 0
  | t :: s => 2 * size t + 1 + weight s

theorem weight_push (t : Tree) (s : List Tree) : weight (push t s) ≤ 2 * size t + 1 + weight s := by
  cases t <;> simp [push, weight, size]

/-- the loop of `IntervalTreeIterator::next`, run to exhaustion -/
def findLoop (q : Query) : List Tree → List Entry
  | [] => []
  | .nil :: s => findLoop q s
  | .node l e mx _ r :: s =>
    if q.lo < mx then
      if q.hi > e.lo then
        if intersect q e then e :: findLoop q (push r (push l s)) else findLoop q (push r (push l s))
      else findLoop q (push l s)
    else findLoop q s
termination_by s => weight s
decreasing_by
  all_goals simp only [weight, size]
  · omega
  · have := weight_push r (push l s); have := weight_push l s; omega
  · have := weight_push r (push l s); have := weight_push l s; omega
  · have := weight_push l s; omega
  · omega

/-- `IntervalTree::find(q).collect()` -/
def find (t : Tree) (q : Query) : List Entry := findLoop q (push t [])

/-- effect of `for e in tree.find_mut(q) { *e.data() += delta }`: the mutable iterator runs the same loop as
`find` (the code of the two `next` functions is identical up to `mut`), so it hands out the payload of exactly the
nodes `find` reports; shape, keys, `max` and `height` are untouched -/
def bumpTree (q : Query) (delta : Int) : Tree → Tree
  | .nil => .nil
  | .node l e mx h r =>
    .node (bumpTree q delta l) (if intersect q e then { e with data := e.data + delta } else e) mx h
      (bumpTree q delta r)

/-- pre-order dump in the format of the hook `verif_dump`: (depth, start, end, max, height, has_left, has_right) -/
def dump : Tree → Nat → List (Nat × Int × Int × Int × Nat × Bool × Bool)
  | .nil, _ => []
  | .node l e mx h r, d =>
    (d, e.lo, e.hi, mx, h, decide (l ≠ .nil), decide (r ≠ .nil)) :: (dump l (d + 1) ++ dump r (d + 1))

/-! ### `AnnotMap`: one tree per reference id (`HashMap<R, IntervalTree>` as an association list) -/

abbrev AMap := List (Nat × Tree)

def AMap.get (m : AMap) (r : Nat) : Option Tree := (m.find? (fun p => p.1 == r)).map (·.2)

/-- `insert_at` / `insert_loc`: `entry(refid).or_default().insert(start..start+length, data)` -/
def AMap.insertAt : AMap → Nat → Entry → AMap
  | [], r, e => [(r, insert .nil e)]
  | (r', t) :: m, r, e => if r' == r then (r', insert t e) :: m else (r', t) :: AMap.insertAt m r e

/-- `AnnotMap::find`: the tree of that reference id, or nothing -/
def AMap.find (m : AMap) (r : Nat) (q : Query) : List Entry :=
  match m.get r with
  | some t => Avl.find t q
  | none => []

end RbV.Avl
