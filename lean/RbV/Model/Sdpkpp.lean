import RbV.Model.Lcskpp
/-!
# C19 — mirror model of `bio::alignment::sparse::sdpkpp` and `sdpkpp_union_lcskpp_path` (core Lean only)

Same event sweep as `lcskpp` (`RbV/Model/Lcskpp.lean`: events, sort, traceback are shared), but the max-Fenwick tree holds
`PrevPtr { plane, score, d, id, x, y }` records (derived lexicographic `Ord` in field order), a start event turns the best
record of the prefix into a gap-penalised candidate, an end event publishes `PrevPtr::new(dp[p].0, ev.0, ev.1, p, gap_extend)`.
`gap_open` / `gap_extend` are given as magnitudes (`_gap_open = (-gap_open) as u32`), so the assertion "gap parameters
cannot be positive" holds by construction.  `u32` is unbounded `Nat`; `saturating_sub` and the plain `cur - prev`
subtractions are `Nat` subtraction (the plain ones never go below zero on the processing order: `Thm/GenSrcSdpkpp.lean` shows
that the checked subtractions of the translated text succeed).
-/
namespace RbV.Model.Sdpkpp
open RbV.KChain RbV.Model.Lcskpp

structure PrevPtr where
  plane : Nat
  score : Nat
  d : Nat
  id : Nat
  x : Nat
  y : Nat
deriving DecidableEq, Repr

/-- `PrevPtr::default()` -/
def dfltPP : PrevPtr := ⟨0, 0, 0, 0, 0, 0⟩

/-- `PrevPtr::new(score, x, y, id, gap_extend)` -/
def PrevPtr.new (score x y id gapExtend : Nat) : PrevPtr :=
  let d := x + y
  { plane := score + d * gapExtend, score := score, d := d, id := id, x := x, y := y }

/-- derived `Ord` on `PrevPtr`: `a ≤ b` -/
def ppLe (a b : PrevPtr) : Bool :=
  a.plane < b.plane || (a.plane == b.plane && (a.score < b.score || (a.score == b.score && (a.d < b.d || (a.d == b.d &&
    (a.id < b.id || (a.id == b.id && (a.x < b.x || (a.x == b.x && a.y ≤ b.y)))))))))

/-- `std::cmp::max` on `PrevPtr` -/
def maxPP (a b : PrevPtr) : PrevPtr := if ppLe a b then b else a

structure St where
  tree : List PrevPtr
  dp : List (Nat × Int)
  best : Nat × Int

/-- body of `for ev in events` -/
def stepEv (ms : List M) (k matchScore gapOpen gapExtend : Nat) (s : St) (ev : Ev) : St :=
  let len := ms.length
  let p := ev.2.2 % len
  let j := ev.2.1
  if ev.2.2 ≥ len then
    -- "Default case -- chain starts at this node"
    let dp1 := s.dp.set p (k * matchScore, -1)
    -- "Find best previous chain, and extend."
    let bp := Fenwick.get maxPP dfltPP s.tree j
    if bp.score > 0 then
      let gap := max (ev.1 - bp.x) (ev.2.1 - bp.y)
      let gapPenalty := if gap > 0 then gapOpen + gap * gapExtend else 0
      let reward := k * matchScore
      let newScore := (bp.score + reward) - gapPenalty
      let dp2 := dp1.set p (maxNI (dp1.getD p (0, 0)) (newScore, (bp.id : Int)))
      { s with dp := dp2, best := maxNI s.best ((dp2.getD p (0, 0)).1, (p : Int)) }
    else { s with dp := dp1 }
  else
    let s1 : St :=
      if ev.1 > k && ev.2.1 > k then
        match findFrom (ev.1 - k - 1, ev.2.1 - k - 1) 0 ms with
        | some c =>
          let cand : Nat × Int := ((s.dp.getD c (0, 0)).1 + matchScore, (c : Int))
          let dp1 := s.dp.set p (maxNI (s.dp.getD p (0, 0)) cand)
          { s with dp := dp1, best := maxNI s.best ((dp1.getD p (0, 0)).1, (p : Int)) }
        | none => s
      else s
    { s1 with tree := Fenwick.set maxPP dfltPP s1.tree ev.2.1 (PrevPtr.new (s1.dp.getD p (0, 0)).1 ev.1 ev.2.1 p gapExtend) }

def initSt (ms : List M) (k : Nat) : St :=
  { tree := Fenwick.new dfltPP (nFrom k 0 ms)
    dp := List.replicate (2 * ms.length) (0, 0)
    best := (k, 0) }

def sweep (ms : List M) (k matchScore gapOpen gapExtend : Nat) : St :=
  (sortedEvents ms k).foldl (stepEv ms k matchScore gapOpen gapExtend) (initSt ms k)

/-- `sdpkpp(matches, k, match_score, -gapOpen, -gapExtend)` -/
def sdpkpp (ms : List M) (k matchScore gapOpen gapExtend : Nat) : Except String Res :=
  if ms.isEmpty then .ok { path := [], score := 0, dp := [] }
  else if !sortedStrict ms then .error "incoming matches must be sorted"
  else
    let s := sweep ms k matchScore gapOpen gapExtend
    match traceLoop s.dp (ms.length + 1) s.best.2 with
    | none => .error "traceback out of fuel"
    | some tb => .ok { path := tb.reverse, score := s.best.1, dp := s.dp }

/-- contract of `path.binary_search(&key)` on a strictly ascending path: `Ok(i)` with `path[i] == key`, or `Err` -/
def findIdx (key : Nat) : Nat → List Nat → Option Nat
  | _, [] => none
  | i, a :: r => if a = key then some i else findIdx key (i + 1) r

/-- `sdpkpp_union_lcskpp_path` -/
def unionPath (ms : List M) (k matchScore gapOpen gapExtend : Nat) : Except String (List Nat) :=
  if ms.isEmpty then .ok []
  else
    match lcskpp ms k, sdpkpp ms k matchScore gapOpen gapExtend with
    | .ok l, .ok s =>
      match s.path.head?, s.path.getLast? with
      | some first, some last =>
        let pre := (findIdx first 0 l.path).getD 0
        let post := match findIdx last 0 l.path with
          | some ind => ind + 1
          | none => l.path.length
        .ok (l.path.take pre ++ s.path ++ l.path.drop post)
      | _, _ => .error "index out of bounds"   -- `sdpkpp_al.path[0]` on an empty path
    | .error e, _ => .error e
    | _, .error e => .error e

end RbV.Model.Sdpkpp
