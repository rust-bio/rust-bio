import RbV.Spec.QGram
/-!
# C19 — mirror model of `QGramIndex::with_max_count` and `qgram_matches` (core Lean only)

`Vec<usize>` is a `List Nat`; indexing is totalised with `getD`/`set` (the refinement theorem is stated under the guard that
makes every Rust index in range: all codes below the table size `2^(bits·q)`; a table of only `|A|^q` slots is too small,
see the example after `index_model_counting_sort` in `Thm/C19.lean`).
-/
namespace RbV.QGram

/-- `address[qgram] += 1` -/
def bump1 (l : List Nat) (i : Nat) : List Nat := l.set i (l.getD i 0 + 1)

/-- `utils::prescan(&mut a, s, +)`: every slot receives the sum of the slots before it -/
def prescan : Nat → List Nat → List Nat
  | _, [] => []
  | s, v :: t => s :: prescan (s + v) t

/-- one iteration of the loop that fills `pos` (state: `pos`, `offset`) -/
def fillStep (address : List Nat) (st : List Nat × List Nat) (i c : Nat) : List Nat × List Nat :=
  let a := address.getD c 0
  if address.getD (c + 1) 0 - a != 0 then
    (st.1.set (a + st.2.getD c 0) i, st.2.set c (st.2.getD c 0 + 1))
  else st

def fill (address : List Nat) : Nat → List Nat → List Nat × List Nat → List Nat × List Nat
  | _, [], st => st
  | i, c :: rest, st => fill address (i + 1) rest (fillStep address st i c)

/-- `with_max_count` given the q-gram codes of the text and the number of address slots − 1; result (address, pos) -/
def buildIndex (size mc : Nat) (codes : List Nat) : List Nat × List Nat :=
  let counts := codes.foldl bump1 (List.replicate (size + 1) 0)
  let masked := counts.map (fun a => if a > mc then 0 else a)
  let address := prescan 0 masked
  let pos0 := List.replicate (address.getLastD 0) 0
  (address, (fill address 0 codes (pos0, List.replicate size 0)).1)

/-- `&self.pos[self.address[qgram]..self.address[qgram + 1]]` -/
def qgramMatchesModel (idx : List Nat × List Nat) (c : Nat) : List Nat :=
  (idx.2.drop (idx.1.getD c 0)).take (idx.1.getD (c + 1) 0 - idx.1.getD c 0)

end RbV.QGram
