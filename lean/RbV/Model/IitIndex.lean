import RbV.Model.IitProofs
/-!
# Proofs about the array-backed mirror model, part 2: `index_core` establishes the search invariants — every n

* `fold_setMx_spec`  frame lemma for a `for` loop that rewrites the `max` of distinct cells
* `level0_spec`      the first loop: even cells get `max = end`; `last_i` = last even index, `last_value` its end
* `linv_step`        one round of the `while` loop keeps `LInv`: the `max` of every node of level ≤ k bounds the
                     ends of the in-range part of its subtree, `last_i` is the level-k ancestor of the last leaf
                     and `last_value` bounds the in-range part of *its* subtree (the imaginary right spine)
* `indexCore_spec`   hence `MaxUB`, sortedness and `n < 2^(max_level+1)` after `index_core`
* `find_spec`, `runArr_spec`  whole histories of `insert` / `index`
Core Lean only.
-/
namespace RbV.Iit
open RbV.Ivl

theorem length_setMx (a : List Cell) (i : Nat) (m : Int) : (setMx a i m).length = a.length := by
  unfold setMx; split <;> simp

theorem getC_setMx (a : List Cell) (i : Nat) (m : Int) (j : Nat) :
    getC (setMx a i m) j = if j = i ∧ i < a.length then { getC a i with mx := m } else getC a j := by
  unfold setMx getC
  by_cases hi : i < a.length
  · have : a[i]? = some a[i] := List.getElem?_eq_getElem hi
    simp only [this, List.getElem?_set]
    by_cases hj : j = i
    · subst hj; simp [hi]
    · have : ¬ i = j := fun h => hj h.symm
      simp [hj, this]
  · have : a[i]? = none := List.getElem?_eq_none (by omega)
    simp [hi]

theorem getC_setMx_e (a : List Cell) (i : Nat) (m : Int) (j : Nat) : (getC (setMx a i m) j).e = (getC a j).e := by
  rw [getC_setMx]; split
  · rename_i h; rw [h.1]
  · rfl

/-! ## arithmetic on nodes, from `node_iff` -/

theorem node_unique (k u v L : Nat) (hu : Node k u) (hv : Node k v)
    (h1 : u + 1 - 2 ^ k ≤ L) (h2 : L < u + 2 ^ k) (h3 : v + 1 - 2 ^ k ≤ L) (h4 : L < v + 2 ^ k) : u = v := by
  obtain ⟨a, ha⟩ := node_iff.mp hu
  obtain ⟨b, hb⟩ := node_iff.mp hv
  have hp := Nat.two_pow_pos k
  rw [Nat.mul_add, Nat.mul_one, Nat.mul_left_comm] at ha hb
  -- the ranges are `[2 p a, 2 p (a + 1))` and `[2 p b, 2 p (b + 1))`
  rcases Nat.lt_trichotomy a b with hlt | rfl | hgt
  · have := Nat.mul_le_mul_left (2 ^ k) (Nat.succ_le_of_lt hlt)
    rw [Nat.mul_succ] at this
    omega
  · omega
  · have := Nat.mul_le_mul_left (2 ^ k) (Nat.succ_le_of_lt hgt)
    rw [Nat.mul_succ] at this
    omega

/-- the parent of a node is the level-`j + 1` node to its left or to its right, as bit `j + 1` of the index says -/
theorem node_parent {j u : Nat} (h : Node j u) :
    if u / 2 ^ (j + 1) % 2 > 0 then Node (j + 1) (u - 2 ^ j) else Node (j + 1) (u + 2 ^ j) := by
  obtain ⟨t, ht⟩ := node_iff.mp h
  have hp := Nat.two_pow_pos j
  rw [Nat.mul_add, Nat.mul_one, Nat.mul_left_comm] at ht
  have hq : u / 2 ^ (j + 1) = t := by
    rw [two_pow_succ]
    apply Nat.div_eq_of_lt_le
    · rw [Nat.mul_comm, Nat.mul_assoc]; omega
    · rw [Nat.add_mul, Nat.one_mul, Nat.mul_comm, Nat.mul_assoc]; omega
  rw [hq]
  obtain ⟨c, rfl | rfl⟩ : ∃ c, t = 2 * c ∨ t = 2 * c + 1 := ⟨t / 2, by omega⟩
  · rw [if_neg (by omega)]
    refine node_iff.mpr ⟨c, ?_⟩
    simp only [two_pow_succ, Nat.mul_add, Nat.mul_one, Nat.mul_left_comm _ 2, Nat.mul_assoc] at ht ⊢; omega
  · rw [if_pos (by omega)]
    refine node_iff.mpr ⟨c, ?_⟩
    simp only [two_pow_succ, Nat.mul_add, Nat.mul_one, Nat.mul_left_comm _ 2, Nat.mul_assoc] at ht ⊢; omega

theorem parent_range_right {l p L : Nat} (h : l + 1 - p ≤ L ∧ L < l + p) :
    (l - p + 1 - 2 * p ≤ L ∧ L < l - p + 2 * p) ∧ l - p ≤ L := by
  omega

theorem parent_range_left {l p L : Nat} (h : l + 1 - p ≤ L ∧ L < l + p) : l + p + 1 - 2 * p ≤ L ∧ L < l + p + 2 * p := by
  omega

/-- a node has exactly one level: `x + 1` is an odd multiple of one power of two only -/
theorem node_level_lt_absurd {k k' x : Nat} (hlt : k < k') (h : Node k x) (h' : Node k' x) : False := by
  obtain ⟨t, ht⟩ := node_iff.mp h
  obtain ⟨t', ht'⟩ := node_iff.mp h'
  obtain ⟨d, rfl⟩ := Nat.exists_eq_add_of_lt hlt
  rw [ht, Nat.add_assoc, Nat.pow_add, Nat.mul_assoc, two_pow_succ, Nat.mul_assoc] at ht'
  have := Nat.eq_of_mul_eq_mul_left (Nat.two_pow_pos k) ht'
  omega

theorem node_level_unique {k k' x : Nat} (h : Node k x) (h' : Node k' x) : k = k' := by
  rcases Nat.lt_trichotomy k k' with hlt | heq | hgt
  · exact (node_level_lt_absurd hlt h h').elim
  · exact heq
  · exact (node_level_lt_absurd hgt h' h).elim

theorem node_zero_iff (x : Nat) : Node 0 x ↔ x % 2 = 0 := by
  unfold Node; simp

theorem node_succ_odd {k i : Nat} (h : Node (k + 1) i) : i % 2 = 1 := by
  rcases Nat.mod_two_eq_zero_or_one i with h0 | h1
  · exact absurd (node_level_unique ((node_zero_iff i).mpr h0) h) (Nat.succ_ne_zero k).symm
  · exact h1

theorem node_children_not_same_level {k i : Nat} (h : Node (k + 1) i) :
    ¬ Node (k + 1) (i - 2 ^ k) ∧ ¬ Node (k + 1) (i + 2 ^ k) :=
  ⟨fun h' => Nat.succ_ne_self k (node_level_unique h' (node_left h)),
    fun h' => Nat.succ_ne_self k (node_level_unique h' (node_right h))⟩

/-! ## the frame lemma: a fold of `setMx` over distinct indices -/

theorem fold_setMx_spec (h : List Cell → Nat → Int) : ∀ (idxs : List Nat) (a : List Cell), idxs.Nodup →
    (∀ (a a' : List Cell) (i : Nat), i ∈ idxs → (∀ j, j ∉ idxs → getC a j = getC a' j) →
      (∀ j, (getC a j).e = (getC a' j).e) → h a i = h a' i) →
    let R := idxs.foldl (fun a i => setMx a i (h a i)) a
    R.length = a.length ∧ (∀ j, (getC R j).e = (getC a j).e) ∧ (∀ j, j ∉ idxs → getC R j = getC a j) ∧
      (∀ i, i ∈ idxs → i < a.length → (getC R i).mx = h a i)
  | [], a, _, _ => by simp
  | i :: rest, a, hnd, hcongr => by
    rw [List.nodup_cons] at hnd
    have hc' : ∀ (a a' : List Cell) (i' : Nat), i' ∈ rest → (∀ j, j ∉ rest → getC a j = getC a' j) →
        (∀ j, (getC a j).e = (getC a' j).e) → h a i' = h a' i' := by
      intro a a' i' hi' h1 h2
      exact hcongr a a' i' (List.mem_cons_of_mem _ hi') (fun j hj => h1 j (fun hm => hj (List.mem_cons_of_mem _ hm))) h2
    have ih := fold_setMx_spec h rest (setMx a i (h a i)) hnd.2 hc'
    simp only [List.foldl_cons]
    simp only at ih
    obtain ⟨i1, i2, i3, i4⟩ := ih
    refine ⟨by rw [i1, length_setMx], ?_, ?_, ?_⟩
    · intro j; rw [i2, getC_setMx_e]
    · intro j hj
      simp only [List.mem_cons, not_or] at hj
      rw [i3 j hj.2, getC_setMx]
      simp [hj.1]
    · intro i' hi' hlt
      simp only [List.mem_cons] at hi'
      rcases hi' with rfl | hi'
      · rw [i3 i' hnd.1, getC_setMx]
        simp [hlt]
      · rw [i4 i' hi' (by rw [length_setMx]; exact hlt)]
        apply hcongr _ _ i' (List.mem_cons_of_mem _ hi')
        · intro j hj
          simp only [List.mem_cons, not_or] at hj
          rw [getC_setMx]; simp [hj.1]
        · intro j; rw [getC_setMx_e]

theorem mem_stepIdx (i0 n step i : Nat) (hs : 0 < step) :
    i ∈ stepIdx i0 n step ↔ ∃ t, i = i0 + step * t ∧ i < n := by
  unfold stepIdx
  rw [List.mem_range']
  constructor
  · rintro ⟨t, ht, rfl⟩
    refine ⟨t, rfl, ?_⟩
    have : t + 1 ≤ (n - i0 + step - 1) / step := ht
    rw [Nat.le_div_iff_mul_le hs, Nat.add_mul, Nat.one_mul, Nat.mul_comm] at this
    omega
  · rintro ⟨t, rfl, hlt⟩
    refine ⟨t, ?_, rfl⟩
    show t + 1 ≤ _
    rw [Nat.le_div_iff_mul_le hs, Nat.add_mul, Nat.one_mul, Nat.mul_comm]
    omega

theorem nodup_stepIdx (i0 n step : Nat) (hs : 0 < step) : (stepIdx i0 n step).Nodup :=
  List.nodup_range' step hs

/-! ## `index_core`, level 0 (the first loop) -/

/-- the last even index below `n` (the last leaf of the implicit tree) -/
def lastLeaf (n : Nat) : Nat := n - 1 - (n - 1) % 2

theorem lastLeaf_lt {n : Nat} (hn : 0 < n) : lastLeaf n < n := by unfold lastLeaf; omega

theorem lastLeaf_even (n : Nat) : lastLeaf n % 2 = 0 := by unfold lastLeaf; omega

theorem succ_le_lastLeaf {x i n : Nat} (hodd : x % 2 = 1) (hi : x < i) (hn : i < n) : x + 1 ≤ lastLeaf n := by
  unfold lastLeaf; omega

/-- the body of the first loop, as the step of a fold over the even indices -/
def level0Step (st : List Cell × Nat × Int) (i : Nat) : List Cell × Nat × Int :=
  let a := setMx st.1 i (getC st.1 i).e.hi
  (a, i, (getC a i).mx)

theorem level0_eq (a : List Cell) (n : Nat) : level0 a n = (stepIdx 0 n 2).foldl level0Step (a, 0, (getC a 0).mx) := rfl

theorem fold_level0Step_fst : ∀ (idxs : List Nat) (st : List Cell × Nat × Int),
    (idxs.foldl level0Step st).1 = idxs.foldl (fun a i => setMx a i (getC a i).e.hi) st.1
  | [], _ => rfl
  | i :: rest, st => by
    simp only [List.foldl_cons]
    rw [fold_level0Step_fst rest (level0Step st i)]
    rfl

theorem stepIdx_zero_two (n : Nat) (hn : 0 < n) :
    stepIdx 0 n 2 = List.range' 0 (lastLeaf n / 2) 2 ++ [lastLeaf n] := by
  obtain ⟨m, rfl⟩ := Nat.exists_eq_add_one_of_ne_zero (Nat.ne_of_gt hn)
  have e : lastLeaf (m + 1) = 2 * (m / 2) := Nat.sub_eq_of_eq_add (Nat.div_add_mod m 2).symm
  rw [e, Nat.mul_div_cancel_left _ (by decide : 0 < 2)]
  unfold stepIdx
  rw [show (m + 1 - 0 + 2 - 1) / 2 = m / 2 + 1 from Nat.add_div_right m (show 0 < 2 by decide), List.range'_concat, Nat.zero_add]

theorem level0_spec (a : List Cell) (hn : 0 < a.length) :
    let r := level0 a a.length
    r.1.length = a.length ∧ (∀ j, (getC r.1 j).e = (getC a j).e) ∧
      (∀ j, j % 2 = 0 → j < a.length → (getC r.1 j).mx = (getC a j).e.hi) ∧
      r.2.1 = lastLeaf a.length ∧ r.2.2 = (getC a (lastLeaf a.length)).e.hi := by
  intro r
  have hspec := fold_setMx_spec (fun a i => (getC a i).e.hi) (stepIdx 0 a.length 2) a
    (nodup_stepIdx 0 _ 2 (by decide)) (by intro a a' i _ _ h2; simp only [h2 i])
  simp only at hspec
  obtain ⟨s1, s2, s3, s4⟩ := hspec
  have hfst : r.1 = (stepIdx 0 a.length 2).foldl (fun a i => setMx a i (getC a i).e.hi) a := by
    show (level0 a a.length).1 = _
    rw [level0_eq, fold_level0Step_fst]
  have hlt := lastLeaf_lt hn
  have hLe := lastLeaf_even a.length
  have hmem : ∀ j, j % 2 = 0 → j < a.length → j ∈ stepIdx 0 a.length 2 := by
    intro j hj hlt
    rw [mem_stepIdx 0 _ 2 j (by decide)]
    exact ⟨j / 2, by omega, hlt⟩
  refine ⟨by rw [hfst, s1], by intro j; rw [hfst, s2], ?_, ?_, ?_⟩
  · intro j hj hlt
    rw [hfst, s4 j (hmem j hj hlt) hlt]
  · show (level0 a a.length).2.1 = _
    rw [level0_eq, stepIdx_zero_two _ hn, List.foldl_append]
    rfl
  · show (level0 a a.length).2.2 = _
    have h2 : (level0 a a.length).2.2 = (getC (level0 a a.length).1 (lastLeaf a.length)).mx := by
      rw [level0_eq, stepIdx_zero_two _ hn, List.foldl_append]
      simp only [List.foldl_cons, List.foldl_nil, level0Step]
    rw [h2]
    have := s4 (lastLeaf a.length) (hmem _ hLe hlt) hlt
    rw [← hfst] at this
    exact this

/-! ## `index_core`, one level (one round of the `while` loop) -/

/-- what the inner loop writes at node `i` of a level whose children are `x` away: the largest of the node's own end, the
left child's `max`, and the right child's `max` — or `last_value` when that child is out of range -/
def levelMax (n x : Nat) (lastV : Int) (a : List Cell) (i : Nat) : Int :=
  max3 (getC a i).e.hi (getC a (i - x)).mx (if i + x < n then (getC a (i + x)).mx else lastV)

theorem levelStep_eq (n : Nat) (a : List Cell) (lastI : Nat) (lastV : Int) (j : Nat) :
    levelStep n (a, lastI, lastV) (j + 1) =
      (let a' := (stepIdx (2 ^ (j + 1) - 1) n (2 ^ (j + 2))).foldl (fun a i => setMx a i (levelMax n (2 ^ j) lastV a i)) a
       let lastI' := if (lastI / 2 ^ (j + 1)) % 2 > 0 then lastI - 2 ^ j else lastI + 2 ^ j
       let lastV' := if lastI' < n ∧ (getC a' lastI').mx > lastV then (getC a' lastI').mx else lastV
       (a', lastI', lastV')) := by
  have e1 : 2 ^ j * 2 ^ 1 = 2 ^ (j + 1) := (Nat.pow_add 2 j 1).symm
  have e2 : 2 ^ j * 2 ^ 2 = 2 ^ (j + 2) := (Nat.pow_add 2 j 2).symm
  simp only [levelStep, Nat.add_sub_cancel, Nat.shiftLeft_eq, Nat.shiftRight_eq_div_pow,
    Nat.and_one_is_mod, Nat.one_mul, e1, e2, levelMax]
  rfl

/-! ### a value that bounds the ends of the in-range part of a subtree -/

/-- `v` bounds the ends of the in-range entries of the subtree of node `x` of level `k` -/
def Covers (a : List Cell) (k x : Nat) (v : Int) : Prop :=
  ∀ j, x + 1 - 2 ^ k ≤ j → j < x + 2 ^ k → j < a.length → (getC a j).e.hi ≤ v

theorem Covers.mono {a : List Cell} {k x : Nat} {v w : Int} (h : Covers a k x v) (hv : v ≤ w) : Covers a k x w :=
  fun j h1 h2 h3 => Int.le_trans (h j h1 h2 h3) hv

/-- the subtree of a leaf is the leaf -/
theorem covers_leaf {a : List Cell} {x : Nat} {v : Int} (h : (getC a x).e.hi ≤ v) : Covers a 0 x v := by
  intro j h1 h2 _
  obtain rfl : j = x := by omega
  exact h

/-- a node's subtree is its left child's, the node, and its right child's -/
theorem covers_node {a : List Cell} {j x : Nat} {v : Int} (hn : Node (j + 1) x) (hl : Covers a j (x - 2 ^ j) v)
    (hx : x < a.length → (getC a x).e.hi ≤ v) (hr : Covers a j (x + 2 ^ j) v) : Covers a (j + 1) x v := by
  intro i h1 h2 h3
  rcases Nat.lt_trichotomy i x with hlt | rfl | hgt
  · exact hl i ((left_range hn).1 ▸ h1) ((left_range hn).2.symm ▸ hlt) h3
  · exact hx h3
  · exact hr i ((right_range j x).1 ▸ hgt) ((right_range j x).2 ▸ h2) h3

/-- of a node out of range only the left subtree is in range -/
theorem covers_of_left {a : List Cell} {j x : Nat} {v : Int} (hn : Node (j + 1) x) (hl : Covers a j (x - 2 ^ j) v)
    (hx : a.length ≤ x) : Covers a (j + 1) x v :=
  fun i h1 _ h3 => hl i ((left_range hn).1 ▸ h1) ((left_range hn).2.symm ▸ Nat.lt_of_lt_of_le h3 hx) h3

/-- the invariant of the `while` loop of `index_core` after the levels `≤ k` have been processed -/
structure LInv (a0 : List Cell) (k : Nat) (st : List Cell × Nat × Int) : Prop where
  len : st.1.length = a0.length
  same : ∀ j, (getC st.1 j).e = (getC a0 j).e
  ub : ∀ k' x, k' ≤ k → Node k' x → x < a0.length → Covers a0 k' x (getC st.1 x).mx
  lnode : Node k st.2.1
  lrange : st.2.1 + 1 - 2 ^ k ≤ lastLeaf a0.length ∧ lastLeaf a0.length < st.2.1 + 2 ^ k
  lval : Covers a0 k st.2.1 st.2.2

theorem max3_ge (a b c : Int) : a ≤ max3 a b c ∧ b ≤ max3 a b c ∧ c ≤ max3 a b c := by
  unfold max3; omega

theorem le_lastV {c : Prop} [Decidable c] (hc : c) (m lv : Int) : m ≤ if c ∧ m > lv then m else lv := by
  split
  · exact Int.le_refl m
  · rename_i h
    exact Int.not_lt.mp (fun hgt => h ⟨hc, hgt⟩)

theorem linv_base (a0 : List Cell) (hn : 0 < a0.length) : LInv a0 0 (level0 a0 a0.length) := by
  obtain ⟨l1, l2, l3, l4, l5⟩ := level0_spec a0 hn
  refine ⟨l1, l2, ?_, ?_, ?_, ?_⟩
  · intro k' x hk hnode hx
    obtain rfl := Nat.le_zero.mp hk
    exact covers_leaf (Int.le_of_eq (l3 x ((node_zero_iff x).mp hnode) hx).symm)
  · rw [l4]; exact (node_zero_iff _).mpr (lastLeaf_even _)
  · rw [l4]; exact ⟨Nat.sub_le_of_le_add (Nat.le_refl _), Nat.lt_add_of_pos_right (Nat.two_pow_pos 0)⟩
  · rw [l4, l5]; exact covers_leaf (Int.le_refl _)

theorem mem_levelIdx (j n i : Nat) : i ∈ stepIdx (2 ^ (j + 1) - 1) n (2 ^ (j + 2)) ↔ Node (j + 1) i ∧ i < n := by
  have hp := Nat.two_pow_pos (j + 1)
  rw [mem_stepIdx _ _ _ _ (Nat.two_pow_pos _), node_iff, two_pow_succ (j + 1)]
  constructor
  · rintro ⟨t, h1, h2⟩
    exact ⟨⟨t, by rw [Nat.mul_add, Nat.mul_one, Nat.mul_left_comm, ← Nat.mul_assoc]; omega⟩, h2⟩
  · rintro ⟨⟨t, h1⟩, h2⟩
    exact ⟨t, by rw [Nat.mul_add, Nat.mul_one, Nat.mul_left_comm, ← Nat.mul_assoc] at h1; omega, h2⟩

/-- the value the inner loop writes at a node of level `j + 1` covers its subtree: the left child's `max` covers the left
half, the right child's the right half, and if the right child is out of range it is `last_i`, whose imaginary subtree
`last_value` covers -/
theorem levelMax_covers (a0 a : List Cell) (j lastI : Nat) (lastV : Int) (same : ∀ i, (getC a i).e = (getC a0 i).e)
    (ub : ∀ x, Node j x → x < a0.length → Covers a0 j x (getC a x).mx)
    (lnode : Node j lastI) (lrange : lastI + 1 - 2 ^ j ≤ lastLeaf a0.length ∧ lastLeaf a0.length < lastI + 2 ^ j)
    (lval : Covers a0 j lastI lastV) {x : Nat} (hnode : Node (j + 1) x) (hx : x < a0.length) :
    Covers a0 (j + 1) x (levelMax a0.length (2 ^ j) lastV a x) := by
  obtain ⟨m1, m2, m3⟩ := max3_ge (getC a x).e.hi (getC a (x - 2 ^ j)).mx
    (if x + 2 ^ j < a0.length then (getC a (x + 2 ^ j)).mx else lastV)
  refine covers_node hnode ((ub _ (node_left hnode) (Nat.lt_of_le_of_lt (Nat.sub_le _ _) hx)).mono m2)
    (fun _ => same x ▸ m1) (Covers.mono ?_ m3)
  by_cases hr : x + 2 ^ j < a0.length
  · rw [if_pos hr]
    exact ub _ (node_right hnode) hr
  · rw [if_neg hr]
    -- the right child is out of range: it is `last_i`, the level-`j` ancestor of the last leaf
    intro i h1 h2 h3
    have hEq : lastI = x + 2 ^ j :=
      node_unique j lastI (x + 2 ^ j) (lastLeaf a0.length) lnode (node_right hnode) lrange.1 lrange.2
        ((right_range j x).1 ▸ succ_le_lastLeaf (node_succ_odd hnode) (show x + 1 ≤ i from (right_range j x).1 ▸ h1) h3)
        (Nat.lt_of_lt_of_le (lastLeaf_lt (Nat.zero_lt_of_lt h3))
          (Nat.le_trans (Nat.le_of_not_lt hr) (Nat.le_add_right _ _)))
    exact lval i (hEq ▸ h1) (hEq ▸ h2) h3

theorem linv_step (a0 : List Cell) (j : Nat) (a : List Cell) (lastI : Nat) (lastV : Int)
    (hn : 0 < a0.length) (inv : LInv a0 j (a, lastI, lastV)) :
    LInv a0 (j + 1) (levelStep a0.length (a, lastI, lastV) (j + 1)) := by
  obtain ⟨len, same, ub, lnode, lrange, lval⟩ := inv
  simp only at len same ub lnode lrange lval
  have e2 : 2 ^ (j + 1) = 2 * 2 ^ j := two_pow_succ j
  have hidx := mem_levelIdx j a0.length
  have hspec := fold_setMx_spec (levelMax a0.length (2 ^ j) lastV) (stepIdx (2 ^ (j + 1) - 1) a0.length (2 ^ (j + 2))) a
    (nodup_stepIdx _ _ _ (Nat.two_pow_pos _)) (by
      intro b b' i hi h1 h2
      have hsep := node_children_not_same_level ((hidx i).mp hi).1
      simp only [levelMax, h2 i, h1 _ (fun hc => hsep.1 ((hidx _).mp hc).1), h1 _ (fun hc => hsep.2 ((hidx _).mp hc).1)])
  simp only at hspec
  obtain ⟨s1, s2, s3, s4⟩ := hspec
  rw [levelStep_eq]
  simp only
  generalize hA : (stepIdx (2 ^ (j + 1) - 1) a0.length (2 ^ (j + 2))).foldl
    (fun a i => setMx a i (levelMax a0.length (2 ^ j) lastV a i)) a = A at *
  -- the new bound for all levels ≤ j+1
  have ub' : ∀ k' x, k' ≤ j + 1 → Node k' x → x < a0.length → Covers a0 k' x (getC A x).mx := by
    intro k' x hk hnode hx
    rcases Nat.lt_or_eq_of_le hk with hk' | rfl
    · rw [s3 x (fun hc => Nat.ne_of_lt hk' (node_level_unique hnode ((hidx x).mp hc).1))]
      exact ub k' x (Nat.le_of_lt_succ hk') hnode hx
    · rw [s4 x ((hidx x).mpr ⟨hnode, hx⟩) (len ▸ hx)]
      exact levelMax_covers a0 a j lastI lastV same (fun x => ub j x (Nat.le_refl j)) lnode lrange lval hnode hx
  -- whichever node becomes the new `last_i`
  have fin : ∀ P, Node (j + 1) P →
      P + 1 - 2 ^ (j + 1) ≤ lastLeaf a0.length ∧ lastLeaf a0.length < P + 2 ^ (j + 1) →
      (¬ P < a0.length → Covers a0 (j + 1) P lastV) →
      LInv a0 (j + 1) (A, P, if P < a0.length ∧ (getC A P).mx > lastV then (getC A P).mx else lastV) := by
    intro P hP hr hout
    refine ⟨s1.trans len, fun i => (s2 i).trans (same i), ub', hP, hr, ?_⟩
    by_cases hnew : P < a0.length
    · exact (ub' (j + 1) P (Nat.le_refl _) hP hnew).mono (le_lastV hnew _ _)
    · show Covers _ _ _ (if _ then _ else _)
      rw [if_neg (fun h => hnew h.1)]
      exact hout hnew
  have hpar := node_parent lnode
  by_cases hc : lastI / 2 ^ (j + 1) % 2 > 0
  · -- `last_i` is a right child: its parent `last_i - x` is in range
    rw [if_pos hc] at hpar
    have hr := parent_range_right lrange
    simp only [hc, if_true]
    exact fin _ hpar (e2 ▸ hr.1) (fun hnot => absurd (Nat.lt_of_le_of_lt hr.2 (lastLeaf_lt hn)) hnot)
  · rw [if_neg hc] at hpar
    simp only [hc, if_false]
    exact fin _ hpar (e2 ▸ parent_range_left lrange)
      (fun hnew => covers_of_left hpar ((Nat.add_sub_cancel lastI (2 ^ j)).symm ▸ lval) (Nat.le_of_not_lt hnew))

/-! ## `index_core`, all levels; `index`; whole histories -/

theorem linv_levels (a0 : List Cell) (hn : 0 < a0.length) : ∀ m,
    LInv a0 m ((List.range' 1 m).foldl (levelStep a0.length) (level0 a0 a0.length))
  | 0 => linv_base a0 hn
  | m + 1 => by
    have ih := linv_levels a0 hn m
    rw [List.range'_concat, List.foldl_append]
    simp only [List.foldl_cons, List.foldl_nil, Nat.one_mul]
    generalize (List.range' 1 m).foldl (levelStep a0.length) (level0 a0 a0.length) = st at ih ⊢
    obtain ⟨a, li, lv⟩ := st
    rw [Nat.add_comm 1 m]
    exact linv_step a0 m a li lv hn ih

theorem map_e_eq (a b : List Cell) (hl : a.length = b.length) (h : ∀ j, (getC a j).e = (getC b j).e) :
    a.map (·.e) = b.map (·.e) := by
  apply List.ext_getElem (by simp [hl])
  intro i h1 h2
  simp only [List.length_map] at h1 h2
  simp only [List.getElem_map]
  have := h i
  simp only [getC, List.getElem?_eq_getElem h1, List.getElem?_eq_getElem h2, Option.getD_some] at this
  exact this

theorem sortedC_iff_map (a : List Cell) : SortedC a ↔ (a.map (·.e)).Pairwise (fun x y => x.lo ≤ y.lo) := by
  unfold SortedC; rw [List.pairwise_map]

/-- what `index_core` establishes, for every n and whatever the `max` fields held before -/
theorem indexCore_spec (a0 : List Cell) (ml : Nat) (hs : SortedC a0) :
    (indexCore a0 ml).1.map (·.e) = a0.map (·.e) ∧ SortedC (indexCore a0 ml).1 ∧ MaxUB (indexCore a0 ml).1 ∧
      (indexCore a0 ml).1.length < 2 ^ ((indexCore a0 ml).2 + 1) := by
  unfold indexCore
  by_cases he : a0.isEmpty
  · simp only [he, if_true]
    have : a0 = [] := by simpa using he
    subst this
    refine ⟨trivial, hs, ?_, by simp; exact Nat.two_pow_pos _⟩
    intro k x _ hx; simp at hx
  · simp only [he, Bool.false_eq_true, if_false]
    have hn : 0 < a0.length := by
      cases a0 with
      | nil => simp at he
      | cons c cs => simp
    have inv := linv_levels a0 hn (Nat.log2 a0.length)
    generalize (List.range' 1 (Nat.log2 a0.length)).foldl (levelStep a0.length) (level0 a0 a0.length) = st at inv ⊢
    obtain ⟨len, same, ub, _, _, _⟩ := inv
    have hmap := map_e_eq st.1 a0 len same
    refine ⟨hmap, ?_, ?_, ?_⟩
    · rw [sortedC_iff_map, hmap, ← sortedC_iff_map]; exact hs
    · intro k x hnode hx j h1 h2 h3
      rw [len] at hx h3
      have hk : k ≤ Nat.log2 a0.length := by
        rw [Nat.le_log2 (by omega)]
        have := node_ge hnode
        omega
      have := ub k x hk hnode hx j h1 h2 h3
      have hs' : (getC st.1 j).e.hi = (getC a0 j).e.hi := by rw [same]
      omega
    · rw [len]
      exact Nat.lt_log2_self

theorem sortByStart_perm (a : List Cell) : (sortByStart a).Perm a := List.mergeSort_perm _ _

theorem sortByStart_sorted (a : List Cell) : SortedC (sortByStart a) := by
  unfold SortedC sortByStart
  have := List.pairwise_mergeSort (le := fun c d : Cell => decide (c.e.lo ≤ d.e.lo))
    (by intro a b c; simp only [decide_eq_true_eq]; omega)
    (by intro a b; simp only [Bool.or_eq_true, decide_eq_true_eq]; omega) a
  exact this.imp (by intro a b h; simpa using h)

/-- well-formed state: if it claims to be indexed, the search invariants hold -/
def State.WF (s : State) : Prop :=
  s.indexed = true → SortedC s.entries ∧ MaxUB s.entries ∧ s.entries.length < 2 ^ (s.maxLevel + 1)

def State.stored (s : State) : List Entry := s.entries.map (·.e)

theorem wf_empty : State.WF {} := by intro h; simp at h

theorem wf_insert (s : State) (e : Entry) : (s.insert e).WF := by intro h; simp [State.insert] at h

theorem stored_insert (s : State) (e : Entry) : (s.insert e).stored = s.stored ++ [e] := by
  simp [State.insert, State.stored]

theorem wf_index (s : State) (h : s.WF) : s.index.WF ∧ s.index.indexed = true ∧ s.index.stored.Perm s.stored := by
  unfold State.index
  by_cases hi : s.indexed
  · simp only [hi, if_true]; exact ⟨h, trivial, List.Perm.refl _⟩
  · simp only [hi, Bool.false_eq_true, if_false]
    obtain ⟨h1, h2, h3, h4⟩ := indexCore_spec (sortByStart s.entries) s.maxLevel (sortByStart_sorted _)
    refine ⟨fun _ => ⟨h2, h3, h4⟩, trivial, ?_⟩
    simp only [State.stored]
    rw [h1]
    exact (sortByStart_perm s.entries).map _

/-- an indexed, well-formed state answers exactly (as a list: in index order); an un-indexed one refuses -/
theorem find_spec (s : State) (q : Query) (h : s.WF) :
    s.find q = if s.indexed then some (expected s.stored q) else none := by
  unfold State.find
  by_cases hi : s.indexed
  · obtain ⟨h1, h2, h3⟩ := h hi
    simp only [hi, Bool.not_true, Bool.false_eq_true, if_false, if_true]
    rw [find_eq s.entries s.maxLevel q h1 h2 h3]
    rfl
  · simp [hi]

inductive AOp where
  | ins (e : Entry)
  | index

def runArr : List AOp → State → State
  | [], s => s
  | .ins e :: ops, s => runArr ops (s.insert e)
  | .index :: ops, s => runArr ops s.index

/-- the inserted entries, in insertion order -/
def insertedOf : List AOp → List Entry
  | [] => []
  | .ins e :: ops => e :: insertedOf ops
  | .index :: ops => insertedOf ops

/-- `true` iff the history ends in an indexed state (the last operation that matters is `index`) -/
def endsIndexed : List AOp → Bool → Bool
  | [], b => b
  | .ins _ :: ops, _ => endsIndexed ops false
  | .index :: ops, _ => endsIndexed ops true

theorem runArr_spec : ∀ (ops : List AOp) (s : State), s.WF →
    (runArr ops s).WF ∧ (runArr ops s).stored.Perm (s.stored ++ insertedOf ops) ∧
      (runArr ops s).indexed = endsIndexed ops s.indexed
  | [], s, h => ⟨h, by simp [runArr, insertedOf], rfl⟩
  | .ins e :: ops, s, _ => by
    obtain ⟨i1, i2, i3⟩ := runArr_spec ops (s.insert e) (wf_insert s e)
    refine ⟨i1, ?_, ?_⟩
    · rw [stored_insert] at i2
      simpa [runArr, insertedOf] using i2
    · simpa [runArr, endsIndexed, State.insert] using i3
  | .index :: ops, s, h => by
    obtain ⟨w1, w2, w3⟩ := wf_index s h
    obtain ⟨i1, i2, i3⟩ := runArr_spec ops s.index w1
    refine ⟨i1, ?_, ?_⟩
    · simp only [runArr, insertedOf]
      exact i2.trans (List.Perm.append_right _ w3)
    · simp only [runArr, endsIndexed]
      rw [i3, w2]

end RbV.Iit
