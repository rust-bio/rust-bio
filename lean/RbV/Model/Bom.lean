import RbV.Basic.Scan
/-!
Mirror model of `pattern_matching::bom` (backward oracle matching).

Rust (construction): for (j, b) in pattern.rev().enumerate() { i = j+1; a = b;
    delta = {a ↦ i};  k = suff[i-1];
    while let Some(k_) = k { if table[k_].contains_key(a) { break }  table[k_].insert(a, i);  k = suff[k_] }
    suff[i] = Some(match k { Some(k) => table[k][a], None => 0 });  table.push(delta) }
Rust (search):  while window <= n { (q, j) = (Some(0), 1);
    while j <= m { match q { Some(q_) => { q = delta(q_, text[window - j]); j += 1 } None => break } }
    i = window - m;  window += m + 2 - j;  if q.is_some() { return Some(i) } }

The search loop is proved correct for **all texts** under two decidable conditions on the oracle table
(`Complete`: every factor of the pattern, read backwards, is accepted; `Monotone`: every transition goes to a
higher state, at most `m`, and a transition `q → q+1` is labelled with the `q`-th symbol of the reversed pattern).
That the *construction* establishes them for every pattern is the factor-oracle theorem of Allauzen, Crochemore and
Raffinot; it is proved in `RbV/Lemmas/BomOracle.lean` (`build_complete`, `build_monotone`, and the unconditional
`findAll_eq_occurrences`). The driver also evaluates both conditions on the model's table for every pattern of the
correspondence run, as a cross-check of model and proof.
-/
namespace RbV.Bom

abbrev Table := List (List (Nat × Nat))

def lookup : List (Nat × Nat) → Nat → Option Nat
  | [], _ => none
  | (b, q) :: l, a => if b = a then some q else lookup l a

/-- `BOM::delta` -/
def delta (T : Table) (q a : Nat) : Option Nat :=
  match T[q]? with
  | none => none
  | some l => lookup l a

def tinsert (T : Table) (k a i : Nat) : Table := T.modify k (fun l => (a, i) :: l)

/-- the `while let Some(k_) = k` loop; fuel = number of states -/
def climb (suff : List (Option Nat)) (a i : Nat) : Nat → Table → Option Nat → Table × Option Nat
  | 0, T, k => (T, k)
  | _ + 1, T, none => (T, none)
  | fuel + 1, T, some k_ =>
    if (delta T k_ a).isSome then (T, some k_)
    else climb suff a i fuel (tinsert T k_ a i) ((suff[k_]?).getD none)

/-- one round of the construction loop -/
def addLetter (st : Table × List (Option Nat)) (a : Nat) : Table × List (Option Nat) :=
  let (T, suff) := st
  let i := T.length + 1
  let (T', k) := climb suff a i (i + 1) T ((suff[i - 1]?).getD none)
  let s := match k with
    | some k_ => (delta T' k_ a).getD 0
    | none => 0
  (T' ++ [[(a, i)]], suff ++ [some s])

def build (p : List Nat) : Table := (p.reverse.foldl addLetter ([], [none])).1

/-! The same construction with the panics of the Rust code made explicit (`none` = the real code would panic:
`table[k_]` out of bounds, `suff[..]` read at an index that was never written, `.unwrap()` of an absent
transition — or the model's fuel ran out).  `buildS p = some (build p)` for every pattern
(`RbV/Lemmas/BomOracle.lean`), so `build` never relies on the totalised `getD`/`[_]?` defaults. -/

def climbS (suff : List (Option Nat)) (a i : Nat) : Nat → Table → Option Nat → Option (Table × Option Nat)
  | 0, T, none => some (T, none)
  | 0, _, some _ => none
  | _ + 1, T, none => some (T, none)
  | fuel + 1, T, some k_ =>
    match T[k_]?, suff[k_]? with
    | some l, some k' =>
      if (lookup l a).isSome then some (T, some k_) else climbS suff a i fuel (tinsert T k_ a i) k'
    | _, _ => none

def addLetterS (st : Table × List (Option Nat)) (a : Nat) : Option (Table × List (Option Nat)) :=
  let i := st.1.length + 1
  match st.2[i - 1]? with
  | none => none
  | some k0 =>
    match climbS st.2 a i (i + 1) st.1 k0 with
    | none => none
    | some (T', none) => some (T' ++ [[(a, i)]], st.2 ++ [some 0])
    | some (T', some k_) =>
      match delta T' k_ a with                       -- `*table[k].get(a).unwrap()`
      | none => none
      | some s => some (T' ++ [[(a, i)]], st.2 ++ [some s])

def buildS (p : List Nat) : Option Table :=
  (p.reverse.foldl (fun st a => st.bind (addLetterS · a)) (some ([], [none]))).map (·.1)

/-- reading a word from state `q` -/
def runT (T : Table) : Nat → List Nat → Option Nat
  | q, [] => some q
  | q, c :: w => match delta T q c with
    | none => none
    | some q' => runT T q' w

/-- the inner `while j <= m` loop over the window read backwards; returns (final state, symbols read) -/
def scanBack (T : Table) : List Nat → Nat → Nat → Option Nat × Nat
  | [], q, r => (some q, r)
  | c :: rest, q, r => match delta T q c with
    | none => (none, r + 1)
    | some q' => scanBack T rest q' (r + 1)

def search (T : Table) (m : Nat) (t : List Nat) : Nat → Nat → List Nat
  | 0, _ => []
  | fuel + 1, window =>
    if window ≤ t.length then
      let back := ((t.take window).reverse).take m
      let (q, r) := scanBack T back 0 0
      let rest := search T m t fuel (window + (m + 1 - r))       -- j = r + 1, shift = m + 2 - j
      if q.isSome then (window - m) :: rest else rest
    else []

def findAll (p t : List Nat) : List Nat := search (build p) p.length t (t.length + 1) p.length

/-! The search with the text indexed exactly as in the Rust code (`text[window - j]`, `window - m`, `m + 2 - j` in
`usize`); `none` = the real code would panic (subtraction underflow, index out of bounds) or the model's fuel ran
out.  `findAllS p t = some (findAll p t)` for every pattern (`RbV/Lemmas/BomOracle.lean`). -/

/-- `while j <= m { match q { Some(q_) => { q = delta(q_, text[window - j]); j += 1 } None => break } }` -/
def scanS (T : Table) (t : List Nat) (window m : Nat) : Nat → Nat → Option Nat → Option (Option Nat × Nat)
  | 0, j, q => if j ≤ m ∧ q.isSome then none else some (q, j)
  | fuel + 1, j, q =>
    if j ≤ m then
      match q with
      | some q_ =>
        if window < j then none else
        match t[window - j]? with
        | none => none
        | some c => scanS T t window m fuel (j + 1) (delta T q_ c)
      | none => some (none, j)
    else some (q, j)

def searchS (T : Table) (m : Nat) (t : List Nat) : Nat → Nat → Option (List Nat)
  | 0, window => if window ≤ t.length then none else some []
  | fuel + 1, window =>
    if window ≤ t.length then
      match scanS T t window m (m + 1) 1 (some 0) with
      | none => none
      | some (q, j) =>
        if window < m ∨ m + 2 < j then none else
        match searchS T m t fuel (window + (m + 2 - j)) with
        | none => none
        | some rest => some (if q.isSome then (window - m) :: rest else rest)
    else some []

def findAllS (p t : List Nat) : Option (List Nat) :=
  (buildS p).bind fun T => searchS T p.length t (t.length + 1) p.length

/-! ### decidable conditions on the table -/

/-- every factor of `p`, read backwards, is accepted -/
def Complete (T : Table) (p : List Nat) : Prop :=
  ∀ o l, o + l ≤ p.length → runT T 0 ((p.drop o).take l).reverse ≠ none

def completeB (T : Table) (p : List Nat) : Bool :=
  (List.range (p.length + 1)).all fun o => (List.range (p.length + 1 - o)).all fun l =>
    (runT T 0 ((p.drop o).take l).reverse).isSome

theorem completeB_iff (T : Table) (p : List Nat) : completeB T p = true ↔ Complete T p := by
  unfold completeB Complete
  simp only [List.all_eq_true, List.mem_range, Option.isSome_iff_ne_none, Nat.lt_sub_iff_add_lt, Nat.lt_succ_iff]
  exact ⟨fun h o l hol => h o (Nat.le_trans (Nat.le_add_right o l) hol) l (Nat.add_comm o l ▸ hol),
    fun h o _ l hl => h o l (Nat.add_comm l o ▸ hl)⟩

/-- transitions go strictly upwards, never beyond `m`, and `q → q+1` only on the `q`-th symbol of `rp` -/
def Monotone (T : Table) (rp : List Nat) : Prop :=
  ∀ q a q', delta T q a = some q' → q < q' ∧ q' ≤ rp.length ∧ (q' = q + 1 → rp[q]? = some a)

def entryOk (rp : List Nat) (q : Nat) (e : Nat × Nat) : Bool :=
  decide (q < e.2) && decide (e.2 ≤ rp.length) && (decide (e.2 ≠ q + 1) || rp[q]? == some e.1)

def monotoneB (T : Table) (rp : List Nat) : Bool :=
  (List.range T.length).all fun q => ((T[q]?).getD []).all (entryOk rp q)

theorem lookup_mem (l : List (Nat × Nat)) (a q : Nat) (h : lookup l a = some q) : (a, q) ∈ l := by
  induction l with
  | nil => simp [lookup] at h
  | cons e l ih =>
    obtain ⟨b, r⟩ := e
    simp only [lookup] at h
    split at h
    · rename_i hb; subst hb; simp at h; subst h; simp
    · simp [ih h]

/-- what the driver's check `monotoneB` (tag `bom-table-ok`) means; `build_Monotone` itself is read off the construction's invariant -/
theorem monotoneB_sound (T : Table) (rp : List Nat) (h : monotoneB T rp = true) : Monotone T rp := by
  intro q a q' hd
  unfold delta at hd
  cases hT : T[q]? with
  | none => simp [hT] at hd
  | some l =>
    simp only [hT] at hd
    have hmem := lookup_mem l a q' hd
    have hq : q < T.length := (List.getElem?_eq_some_iff.mp hT).1
    unfold monotoneB at h
    simp only [List.all_eq_true, List.mem_range] at h
    have := h q hq (a, q') (by simpa [hT] using hmem)
    unfold entryOk at this
    simp only [Bool.and_eq_true, Bool.or_eq_true, decide_eq_true_eq, beq_iff_eq] at this
    obtain ⟨⟨h1, h2⟩, h3⟩ := this
    refine ⟨h1, h2, ?_⟩
    intro he
    rcases h3 with h3 | h3
    · exact absurd he h3
    · exact h3

theorem runT_cons_some {T : Table} {q c q' : Nat} {w : List Nat} (h : runT T q (c :: w) = some q') :
    ∃ q1, delta T q c = some q1 ∧ runT T q1 w = some q' := by
  rw [runT] at h
  split at h
  · exact absurd h (by simp)
  · exact ⟨_, ‹_›, h⟩

theorem runT_bounds {T : Table} {rp : List Nat} (hM : Monotone T rp) :
    ∀ (w : List Nat) (q q' : Nat), runT T q w = some q' → q + w.length ≤ q' ∧ q' ≤ max q rp.length := by
  intro w
  induction w with
  | nil => intro q q' h; cases h; exact ⟨Nat.le_refl _, Nat.le_max_left _ _⟩
  | cons c w ih =>
    intro q q' h
    obtain ⟨q1, hd, h⟩ := runT_cons_some h
    obtain ⟨h1, h2⟩ := ih q1 q' h
    obtain ⟨hm1, hm2, _⟩ := hM q c q1 hd
    rw [List.length_cons, Nat.max_eq_right hm2] at *
    exact ⟨by omega, Nat.le_trans h2 (Nat.le_max_right _ _)⟩

/-- a word accepted along a path that climbs exactly one state per symbol is a factor of `rp` at that position -/
theorem runT_tight {T : Table} {rp : List Nat} (hM : Monotone T rp) :
    ∀ (w : List Nat) (q : Nat), runT T q w = some (q + w.length) → w = (rp.drop q).take w.length := by
  intro w
  induction w with
  | nil => intro q _; rfl
  | cons c w ih =>
    intro q h
    obtain ⟨q1, hd, h⟩ := runT_cons_some h
    obtain ⟨hm1, _, hm3⟩ := hM q c q1 hd
    rw [List.length_cons, ← Nat.add_assoc, Nat.add_right_comm] at h
    have hlow := Nat.le_of_add_le_add_right (runT_bounds hM w q1 _ h).1
    cases Nat.le_antisymm hlow hm1
    obtain ⟨hq, hc⟩ := List.getElem?_eq_some_iff.mp (hm3 rfl)
    rw [List.drop_eq_getElem_cons hq, List.length_cons, List.take_succ_cons, hc, ← ih (q + 1) h]

/-- a word as long as `rp` that is accepted from state 0 is `rp` -/
theorem eq_of_accept {T : Table} {rp w : List Nat} (hM : Monotone T rp) {q' : Nat}
    (hlen : w.length = rp.length) (hr : runT T 0 w = some q') : w = rp := by
  obtain ⟨h1, h2⟩ := runT_bounds hM w 0 q' hr
  rw [Nat.max_eq_right (Nat.zero_le _), ← hlen, ← Nat.zero_add w.length] at h2
  rw [Nat.le_antisymm h2 h1] at hr
  have := runT_tight hM w 0 hr
  rwa [hlen, List.drop_zero, List.take_length] at this

/-- the inner loop reads a prefix of `back`: all of it, or up to and including the first rejected symbol -/
theorem scanBack_spec (T : Table) : ∀ (back : List Nat) (q r : Nat), ∃ n, n ≤ back.length ∧
    scanBack T back q r = (runT T q (back.take n), r + n) ∧ (runT T q (back.take n) ≠ none → n = back.length) := by
  intro back
  induction back with
  | nil => intro q r; exact ⟨0, Nat.le_refl _, rfl, fun _ => rfl⟩
  | cons c rest ih =>
    intro q r
    cases hd : delta T q c with
    | none => exact ⟨1, Nat.le_add_left _ _, by simp only [scanBack, runT, hd, List.take_succ_cons, List.take_zero],
        fun h => absurd (by simp only [runT, hd, List.take_succ_cons, List.take_zero]) h⟩
    | some q1 =>
      obtain ⟨n, hn, h1, h2⟩ := ih q1 (r + 1)
      refine ⟨n + 1, Nat.succ_le_succ hn, ?_, ?_⟩
      · simp only [scanBack, runT, hd, List.take_succ_cons, h1, Nat.add_assoc, Nat.add_comm 1 n]
      · simp only [runT, hd, List.take_succ_cons, List.length_cons]
        exact fun h => congrArg (· + 1) (h2 h)

theorem back_eq (t : List Nat) (i m : Nat) (hn : i + m ≤ t.length) :
    ((t.take (i + m)).reverse).take m = ((t.drop i).take m).reverse := by
  rw [List.take_add, List.reverse_append]
  apply List.take_left'
  rw [List.length_reverse, List.length_take, List.length_drop]
  exact Nat.min_eq_left (Nat.le_sub_of_add_le' hn)

theorem occ_slice {p t : List Nat} {s : Nat} (h : OccursAt p t s) (o l : Nat) (hol : o + l ≤ p.length) :
    (t.drop (s + o)).take l = (p.drop o).take l := by
  conv => rhs; rw [← h.2]
  rw [List.drop_take, List.take_take, List.drop_drop, Nat.min_eq_left (by omega)]

theorem back_length (t : List Nat) (window m : Nat) (hw : m ≤ window) (hn : window ≤ t.length) :
    (((t.take window).reverse).take m).length = m := by
  rw [List.length_take, List.length_reverse, List.length_take, Nat.min_eq_left hn]
  exact Nat.min_eq_left hw

/-- a window whose last `m` symbols are all accepted is an occurrence -/
theorem occ_of_accept {p t : List Nat} {T : Table} (hM : Monotone T p.reverse) {i q' : Nat}
    (hn : i + p.length ≤ t.length)
    (hr : runT T 0 (((t.take (i + p.length)).reverse).take p.length) = some q') : OccursAt p t i := by
  have hlen := back_length t _ p.length (Nat.le_add_left _ _) hn
  have := eq_of_accept hM (hlen.trans p.length_reverse.symm) hr
  rw [back_eq t i p.length hn, List.reverse_inj] at this
  exact ⟨hn, this⟩

/-- an occurrence that covers the last `l` symbols read makes them a (reversed) factor of `p`, which a complete
table accepts -/
theorem accept_of_occ {p t : List Nat} {T : Table} (hC : Complete T p) {s o l : Nat}
    (hol : o + l ≤ p.length) (hocc : OccursAt p t s) :
    runT T 0 (((t.take (s + o + l)).reverse).take l) ≠ none := by
  rw [back_eq t (s + o) l (by have := hocc.1; omega), occ_slice hocc o l hol]
  exact hC o l hol

/-- what the backward scan of the window `[i, i + m)` decides: a full scan reports `i` and shifts by one; a scan
rejected after `r` symbols shifts so far that every occurrence passed over would cover the rejected suffix -/
theorem verdict {p t : List Nat} {T : Table} (hC : Complete T p) (hM : Monotone T p.reverse) {i r : Nat}
    {q : Option Nat} (hn : i + p.length ≤ t.length)
    (hsb : scanBack T (((t.take (i + p.length)).reverse).take p.length) 0 0 = (q, r)) :
    Verdict (OccursAt p t) i q.isSome (p.length + 1 - r) := by
  obtain ⟨n, hnl, hs, hfull⟩ := scanBack_spec T (((t.take (i + p.length)).reverse).take p.length) 0 0
  rw [back_length t _ p.length (Nat.le_add_left _ _) hn] at hnl hfull
  rw [List.take_take, Nat.min_eq_left hnl] at hs hfull
  obtain ⟨rfl, rfl⟩ := Prod.mk.inj (hsb.symm.trans hs)
  rw [Nat.zero_add]
  have hd : p.length + 1 - n + n = p.length + 1 := Nat.sub_add_cancel (Nat.le_succ_of_le hnl)
  have hd0 : 0 < p.length + 1 - n := Nat.sub_pos_of_lt (Nat.lt_succ_of_le hnl)
  generalize p.length + 1 - n = d at hd hd0 ⊢
  cases hr : runT T 0 (((t.take (i + p.length)).reverse).take n) with
  | none =>
    -- every occurrence in `[i, i + d)` would cover the rejected suffix of the window
    have key : ∀ e, e < d → ¬ OccursAt p t (i + e) := fun e he h2 => by
      obtain ⟨o, ho⟩ := Nat.le.dest (Nat.succ_le_of_lt he)
      have hm : e + o + n = p.length := Nat.succ.inj (show e + o + n + 1 = p.length + 1 by
        rw [← hd, ← ho, Nat.add_right_comm e 1 o, Nat.add_right_comm (e + o) 1 n])
      rw [show i + p.length = i + e + o + n by rw [← hm]; simp only [Nat.add_assoc]] at hr
      exact accept_of_occ hC (by rw [← hm, Nat.add_assoc]; exact Nat.le_add_left _ _) h2 hr
    refine ⟨hd0, ⟨fun h => absurd h Bool.false_ne_true, fun h => absurd h (key 0 hd0)⟩, fun x h1 h2 => ?_⟩
    obtain ⟨e, rfl⟩ := Nat.le.dest (Nat.le_of_lt h1)
    exact key e (Nat.lt_of_add_lt_add_left h2)
  | some q' =>
    have hnm : n = p.length := hfull (by rw [hr]; exact Option.some_ne_none _)
    subst hnm
    obtain rfl : d = 1 := Nat.add_right_cancel (hd.trans (Nat.add_comm _ _))
    exact ⟨hd0, iff_of_true rfl (occ_of_accept hM hn hr),
      fun x h1 h2 => absurd h1 (Nat.not_lt_of_le (Nat.le_of_lt_succ h2))⟩

theorem search_window (p t : List Nat) (T : Table) (hC : Complete T p) (hM : Monotone T p.reverse) (fuel i : Nat)
    (hf : t.length + 1 ≤ i + p.length + fuel) :
    AscFrom (OccursAt p t) i (search T p.length t fuel (i + p.length)) := by
  refine window_loop_fun (F := fun fuel i => search T p.length t fuel (i + p.length))
    (fun s h => Nat.lt_succ_of_le h.1) (fun fuel s h => ?_) (fun fuel s h => ?_) fuel i hf
  · cases fuel with
    | zero => rfl
    | succ fuel => rw [search, if_neg (Nat.not_le_of_lt h)]
  · have hn : s + p.length ≤ t.length := Nat.le_of_lt_succ h
    cases hsb : scanBack T (((t.take (s + p.length)).reverse).take p.length) 0 0 with
    | mk q r =>
      refine ⟨_, _, verdict hC hM hn hsb, ?_⟩
      simp only [search, hn, if_true, hsb]
      rw [Nat.add_right_comm s, Nat.add_sub_cancel]

/-- **BOM search is exact on every text** for every table that is `Complete` and `Monotone` for the pattern
(decidable by `completeB`, `monotoneB`; both hold for the table of every pattern, see `RbV/Lemmas/BomOracle.lean`). -/
theorem findAll_eq_occurrences_of_table (p t : List Nat)
    (hC : Complete (build p) p) (hM : Monotone (build p) p.reverse) :
    findAll p t = occurrences p t := by
  have h := search_window p t (build p) hC hM (t.length + 1) 0 (by omega)
  rw [Nat.zero_add] at h
  exact h.eq_occurrences

end RbV.Bom
