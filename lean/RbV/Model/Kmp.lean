import RbV.Basic.Scan
/-!
Mirror model of `pattern_matching::kmp`.

Rust:
```
lps:    q = 0; lps = [0; m]; for i in 1..m { while q > 0 && p[q] != p[i] { q = lps[q-1] }
                                             if p[q] == p[i] { q += 1 }  lps[i] = q }
delta:  while q == m || (p[q] != a && q > 0) { q = lps[q-1] }   if p[q] == a { q += 1 }
next:   q = delta(q, c); if q == m { yield 1 + i - m }
```
`while` loops take fuel (`q` strictly decreases); `lps` is built as a growing list (`lps[q-1]` only reads entries
already written).

After the model: the prefix–suffix relation `IsPS` / `MaxPS` (which `Model/ShiftAnd.lean` builds on too), the fallback loop keeps
"no longer match can be extended" (`fallback_spec`, `advance_spec`), the failure table is the table of longest proper borders
(`lps_spec`), and the matcher is exact (`findAll_eq_occurrences`, through `Scan.scan_eq_occurrences`).
-/
namespace RbV.Kmp

/-- the `while` loop shared by `lps` (`withM = false`) and `delta` (`withM = true`) -/
def fallback (p lps : List Nat) (a : Nat) (withM : Bool) : Nat → Nat → Nat
  | 0, q => q
  | fuel + 1, q =>
    if (withM && q == p.length) || (p[q]? != some a && decide (q > 0)) then
      fallback p lps a withM fuel (lps.getD (q - 1) 0)
    else q

def advance (p lps : List Nat) (a : Nat) (withM : Bool) (q : Nat) : Nat :=
  let q' := fallback p lps a withM (q + 1) q
  if p[q']? == some a then q' + 1 else q'

/-- `for i in 1..m`: `rest` = `p[i..]`, `acc` = `lps[0..i)`, `q` = `lps[i-1]` -/
def lpsLoop (p : List Nat) : List Nat → List Nat → Nat → List Nat
  | [], acc, _ => acc
  | a :: rest, acc, q =>
    let q' := advance p acc a false q
    lpsLoop p rest (acc ++ [q']) q'

def lps (p : List Nat) : List Nat :=
  match p with
  | [] => []
  | _ :: rest => lpsLoop p rest [0] 0

def delta (p lpsT : List Nat) (q a : Nat) : Nat := advance p lpsT a true q

def findAll (p t : List Nat) : List Nat :=
  let l := lps p
  Scan.scan (delta p l) (fun q => q == p.length) p.length t 0 0

/-! ### prefix–suffix relation -/

/-- the prefix of `p` of length `k` is a suffix of `pre` -/
def IsPS (p pre : List Nat) (k : Nat) : Prop :=
  k ≤ p.length ∧ k ≤ pre.length ∧ ∀ j, j < k → p[j]? = pre[pre.length - k + j]?

/-- `q` is the longest such prefix -/
def MaxPS (p pre : List Nat) (q : Nat) : Prop := IsPS p pre q ∧ ∀ k, IsPS p pre k → k ≤ q

theorem isPS_zero (p pre : List Nat) : IsPS p pre 0 := ⟨by omega, by omega, fun j h => by omega⟩

theorem isPS_iff_suffix (p pre : List Nat) (k : Nat) : IsPS p pre k ↔ k ≤ p.length ∧ p.take k <:+ pre := by
  unfold IsPS
  refine and_congr_right fun hk => ?_
  have hl : (p.take k).length = k := by rw [List.length_take, Nat.min_eq_left hk]
  rw [List.suffix_iff_eq_drop, hl]
  constructor
  · rintro ⟨h2, h3⟩
    apply List.ext_getElem?
    intro j
    rw [List.getElem?_drop, List.getElem?_take]
    split
    · exact h3 j ‹_›
    · exact (List.getElem?_eq_none (by omega)).symm
  · intro h
    have h2 : k ≤ pre.length := by
      have := congrArg List.length h
      rw [hl, List.length_drop] at this
      omega
    exact ⟨h2, fun j hj => by rw [← List.getElem?_drop, ← h, List.getElem?_take_of_lt hj]⟩

theorem isPS_snoc (p pre : List Nat) (a k : Nat) :
    IsPS p (pre ++ [a]) (k + 1) ↔ IsPS p pre k ∧ p[k]? = some a := by
  by_cases hk : k < p.length
  · rw [isPS_iff_suffix, isPS_iff_suffix, List.take_add_one, List.getElem?_eq_getElem hk, Option.toList_some,
      List.suffix_append_inj_of_length_eq (s₁ := [p[k]]) (s₂ := [a]) rfl, List.cons.injEq, Option.some.injEq]
    exact ⟨fun h => ⟨⟨Nat.le_of_lt hk, h.2.1⟩, h.2.2.1⟩, fun h => ⟨hk, h.1.2, h.2, rfl⟩⟩
  · exact iff_of_false (fun h => hk h.1) (fun h => hk (List.getElem?_eq_some_iff.mp h.2).1)

/-- shorter prefix–suffixes of `pre` are exactly the prefix–suffixes of the longer one -/
theorem isPS_trans (p pre : List Nat) (q k : Nat) (hq : IsPS p pre q) (hk : k ≤ q) :
    IsPS p pre k ↔ IsPS p (p.take q) k := by
  rw [isPS_iff_suffix] at hq
  rw [isPS_iff_suffix, isPS_iff_suffix]
  refine and_congr_right fun hkp => ⟨fun h => List.suffix_of_suffix_length_le h hq.2 ?_, fun h => h.trans hq.2⟩
  rw [List.length_take, List.length_take, Nat.min_eq_left hkp, Nat.min_eq_left hq.1]
  exact hk

/-- borders: prefix–suffixes of `p[1..n]` are the proper prefix–suffixes of `p[0..n]` -/
theorem isPS_drop_one (p : List Nat) (n k : Nat) (hn : 1 ≤ n) (hnm : n ≤ p.length) :
    IsPS p ((p.take n).drop 1) k ↔ k < n ∧ IsPS p (p.take n) k := by
  have hlen : (p.take n).length = n := by rw [List.length_take, Nat.min_eq_left hnm]
  rw [isPS_iff_suffix, isPS_iff_suffix]
  constructor
  · rintro ⟨hk, h⟩
    have := h.length_le
    rw [List.length_take, Nat.min_eq_left hk, List.length_drop, hlen] at this
    exact ⟨by omega, hk, h.trans (List.drop_suffix 1 _)⟩
  · rintro ⟨hkn, hk, h⟩
    refine ⟨hk, List.suffix_of_suffix_length_le h (List.drop_suffix 1 _) ?_⟩
    rw [List.length_take, Nat.min_eq_left hk, List.length_drop, hlen]
    omega

/-- the entries of the (partial) failure table `acc` are right: entry `i` is smaller than `i + 1`, the prefix of `p` of that
length is a suffix of `p[..i+1]`, and it is the longest proper one -/
def LpsSpec (p acc : List Nat) : Prop :=
  ∀ i, i < acc.length →
    acc.getD i 0 < i + 1 ∧ IsPS p (p.take (i + 1)) (acc.getD i 0) ∧
      ∀ k, k < i + 1 → IsPS p (p.take (i + 1)) k → k ≤ acc.getD i 0

/-! ### the fallback loop -/

/-- loop invariant of `fallback`: `q` matches and no longer match can be extended by `a` -/
def FInv (p pre : List Nat) (a q : Nat) : Prop :=
  IsPS p pre q ∧ ∀ k, q < k → IsPS p pre k → p[k]? ≠ some a

/-- the condition of the `while` loop of `fallback`: follow the failure link -/
def Back (p : List Nat) (a : Nat) (withM : Bool) (q : Nat) : Prop :=
  (withM = true ∧ q = p.length) ∨ (p[q]? ≠ some a ∧ 0 < q)

theorem fallback_cond_iff (p : List Nat) (a : Nat) (withM : Bool) (q : Nat) :
    ((withM && q == p.length) || (p[q]? != some a && decide (q > 0))) = true ↔ Back p a withM q := by
  simp only [Back, Bool.or_eq_true, Bool.and_eq_true, beq_iff_eq, bne_iff_ne, ne_eq, decide_eq_true_eq, gt_iff_lt]

theorem fallback_back (p acc : List Nat) (a : Nat) (withM : Bool) (fuel q : Nat) (h : Back p a withM q) :
    fallback p acc a withM (fuel + 1) q = fallback p acc a withM fuel (acc.getD (q - 1) 0) := by
  rw [fallback, if_pos ((fallback_cond_iff p a withM q).mpr h)]

theorem fallback_stop (p acc : List Nat) (a : Nat) (withM : Bool) (fuel q : Nat) (h : ¬ Back p a withM q) :
    fallback p acc a withM (fuel + 1) q = q := by
  rw [fallback, if_neg (fun hc => h ((fallback_cond_iff p a withM q).mp hc))]

theorem fallback_spec (p acc pre : List Nat) (a : Nat) (withM : Bool) (hp : 0 < p.length)
    (hspec : LpsSpec p acc) :
    ∀ (fuel q : Nat), q < fuel → q ≤ acc.length → FInv p pre a q →
      FInv p pre a (fallback p acc a withM fuel q) ∧
        (p[fallback p acc a withM fuel q]? = some a ∨ fallback p acc a withM fuel q = 0) := by
  intro fuel
  induction fuel with
  | zero => intro q h; exact absurd h (Nat.not_lt_zero q)
  | succ fuel ih =>
    intro q hf hacc hinv
    by_cases hB : Back p a withM q
    · -- fall back: `q > 0` and `p[q] ≠ a`; the table entry is the longest proper prefix–suffix of `p[..q]`
      rw [fallback_back p acc a withM fuel q hB]
      obtain ⟨hq0, hne⟩ : 0 < q ∧ p[q]? ≠ some a := by
        rcases hB with ⟨_, h⟩ | ⟨h, h0⟩
        · exact ⟨h ▸ hp, by rw [h, List.getElem?_eq_none (Nat.le_refl _)]; exact fun h => nomatch h⟩
        · exact ⟨h0, h⟩
      obtain ⟨q, rfl⟩ := Nat.exists_eq_add_one_of_ne_zero (Nat.ne_of_gt hq0)
      rw [Nat.add_sub_cancel]
      obtain ⟨s1, s2, s3⟩ := hspec q hacc
      refine ih (acc.getD q 0) (Nat.lt_of_lt_of_le s1 (Nat.le_of_lt_succ hf)) (Nat.le_trans (Nat.le_of_lt s1) hacc)
        ⟨(isPS_trans p pre (q + 1) _ hinv.1 (Nat.le_of_lt s1)).mpr s2, fun k hk hps => ?_⟩
      rcases Nat.lt_trichotomy k (q + 1) with h | h | h
      · exact absurd (s3 k h ((isPS_trans p pre (q + 1) k hinv.1 (Nat.le_of_lt h)).mp hps)) (Nat.not_le_of_lt hk)
      · exact h ▸ hne
      · exact hinv.2 k h hps
    · rw [fallback_stop p acc a withM fuel q hB]
      have hc := not_or.mp hB
      refine ⟨hinv, ?_⟩
      by_cases h : p[q]? = some a
      · exact Or.inl h
      · exact Or.inr (Nat.eq_zero_of_not_pos fun h0 => hc.2 ⟨h, h0⟩)

theorem advance_spec (p acc pre : List Nat) (a : Nat) (withM : Bool) (hp : 0 < p.length)
    (hspec : LpsSpec p acc) (q : Nat) (hacc : q ≤ acc.length) (hmax : MaxPS p pre q) : MaxPS p (pre ++ [a]) (advance p acc a withM q) := by
  have hinv : FInv p pre a q := ⟨hmax.1, fun k hk hps => absurd (hmax.2 k hps) (Nat.not_le_of_lt hk)⟩
  obtain ⟨⟨f1, f2⟩, f4⟩ := fallback_spec p acc pre a withM hp hspec (q + 1) q (Nat.lt_succ_self q) hacc hinv
  unfold advance
  dsimp only
  generalize fallback p acc a withM (q + 1) q = q' at f1 f2 f4
  -- a prefix–suffix of `pre ++ [a]` is empty or extends one of `pre` by `a`
  have hext : ∀ k, IsPS p (pre ++ [a]) (k + 1) → k ≤ q' ∧ p[k]? = some a := fun k hk =>
    have h := (isPS_snoc p pre a k).mp hk
    ⟨Nat.le_of_not_lt fun hlt => f2 k hlt h.1 h.2, h.2⟩
  split
  · rename_i heq
    refine ⟨(isPS_snoc p pre a _).mpr ⟨f1, beq_iff_eq.mp heq⟩, fun k hk => ?_⟩
    cases k with
    | zero => exact Nat.zero_le _
    | succ k => exact Nat.succ_le_succ (hext k hk).1
  · rename_i hne
    have hne' : p[q']? ≠ some a := fun h => hne (beq_iff_eq.mpr h)
    obtain rfl : q' = 0 := f4.resolve_left hne'
    refine ⟨isPS_zero _ _, fun k hk => ?_⟩
    cases k with
    | zero => exact Nat.le_refl 0
    | succ k =>
      obtain ⟨h0, hk'⟩ := hext k hk
      exact absurd (Nat.le_zero.mp h0 ▸ hk') hne'

/-! ### the failure table -/

theorem lpsSpec_snoc {p acc : List Nat} {v : Nat} (hs : LpsSpec p acc)
    (hv : v < acc.length + 1 ∧ IsPS p (p.take (acc.length + 1)) v ∧
      ∀ k, k < acc.length + 1 → IsPS p (p.take (acc.length + 1)) k → k ≤ v) :
    LpsSpec p (acc ++ [v]) := by
  intro i hi
  rw [List.length_append, List.length_singleton] at hi
  rw [List.getD_eq_getElem?_getD]
  rcases Nat.lt_succ_iff_lt_or_eq.mp hi with hlt | rfl
  · rw [List.getElem?_append_left hlt, ← List.getD_eq_getElem?_getD]
    exact hs i hlt
  · rw [List.getElem?_append_right (Nat.le_refl _), Nat.sub_self]
    exact hv

theorem lpsLoop_spec (p : List Nat) (hp : 0 < p.length) :
    ∀ (rest acc : List Nat) (q : Nat), 1 ≤ acc.length → acc.length + rest.length = p.length →
      rest = p.drop acc.length → LpsSpec p acc → MaxPS p ((p.take acc.length).drop 1) q →
      LpsSpec p (lpsLoop p rest acc q) ∧ (lpsLoop p rest acc q).length = p.length := by
  intro rest
  induction rest with
  | nil => intro acc q _ hl _ hs _; exact ⟨hs, hl⟩
  | cons a rest ih =>
    intro acc q h1 hl hrest hs hmax
    rw [lpsLoop]
    have hi : acc.length < p.length := hl ▸ Nat.lt_add_of_pos_right (Nat.succ_pos _)
    have hlen : (p.take acc.length).length = acc.length := by
      rw [List.length_take, Nat.min_eq_left (Nat.le_of_lt hi)]
    rw [List.drop_eq_getElem_cons hi] at hrest
    obtain ⟨ha', hrest'⟩ := List.cons.inj hrest
    have ha : p[acc.length]? = some a := by rw [List.getElem?_eq_getElem hi, ha']
    -- the text before position `i + 1`, without its first symbol, grows by `a`
    have hpre : (p.take (acc.length + 1)).drop 1 = (p.take acc.length).drop 1 ++ [a] := by
      rw [List.take_add_one, ha]
      exact List.drop_append_of_le_length (hlen.symm ▸ h1)
    have hqlt : q < acc.length := by
      have := hmax.1.2.1
      rw [List.length_drop, hlen] at this
      exact Nat.lt_of_le_of_lt this (Nat.sub_lt h1 Nat.one_pos)
    have hmax' := advance_spec p acc _ a false hp hs q (Nat.le_of_lt hqlt) hmax
    rw [← hpre] at hmax'
    have hdo := fun k => isPS_drop_one p (acc.length + 1) k (Nat.succ_pos _) hi
    have hps := (hdo _).mp hmax'.1
    refine ih (acc ++ [advance p acc a false q]) _ ?_ ?_ ?_
      (lpsSpec_snoc hs ⟨hps.1, hps.2, fun k hk hkps => hmax'.2 k ((hdo k).mpr ⟨hk, hkps⟩)⟩) ?_
    · rw [List.length_append]; exact Nat.le_add_left _ _
    · rw [List.length_append, List.length_singleton, Nat.add_assoc, Nat.add_comm 1]; exact hl
    · rw [List.length_append]; exact hrest'
    · rw [List.length_append]; exact hmax'

theorem lps_spec (p : List Nat) (hp : 0 < p.length) : LpsSpec p (lps p) ∧ (lps p).length = p.length := by
  cases p with
  | nil => simp at hp
  | cons a rest =>
    simp only [lps]
    apply lpsLoop_spec (a :: rest) hp rest [0] 0 (by simp) (by simp; omega) (by simp)
    · intro i hi
      simp at hi; subst hi
      refine ⟨by simp, isPS_zero _ _, fun k hk _ => by simp; omega⟩
    · simp only [List.length_singleton, List.take_succ_cons, List.take_zero, List.drop_one, List.tail_cons]
      refine ⟨isPS_zero _ _, fun k hk => ?_⟩
      have := hk.2.1
      simpa using this

/-! ### the matcher -/

theorem maxPS_nil (p : List Nat) : MaxPS p [] 0 :=
  ⟨isPS_zero _ _, fun k hk => by have := hk.2.1; simpa using this⟩

/-- a step of the automaton keeps the state the longest prefix of `p` that is a suffix of the text read -/
theorem delta_maxPS (p pre : List Nat) (hp : 0 < p.length) (q c : Nat) (hmax : MaxPS p pre q) :
    MaxPS p (pre ++ [c]) (delta p (lps p) q c) := by
  obtain ⟨hspec, hlen⟩ := lps_spec p hp
  exact advance_spec p (lps p) pre c true hp hspec q (hlen ▸ hmax.1.1) hmax

theorem isPS_full_iff (p pre : List Nat) : IsPS p pre p.length ↔ p <:+ pre := by
  rw [isPS_iff_suffix, List.take_length, and_iff_right (Nat.le_refl _)]

/-- **KMP is exact** for every non-empty pattern and every text. -/
theorem findAll_eq_occurrences (p t : List Nat) (hp : 0 < p.length) : findAll p t = occurrences p t := by
  unfold findAll
  simp only []
  apply Scan.scan_eq_occurrences (delta p (lps p)) (fun q => q == p.length) p (fun pre q => MaxPS p pre q)
  · exact fun pre q c hmax => delta_maxPS p pre hp q c hmax
  · intro pre q hmax
    simp only [beq_iff_eq]
    rw [← isPS_full_iff]
    constructor
    · intro h; rw [← h]; exact hmax.1
    · intro h
      have := hmax.2 _ h
      have := hmax.1.1
      omega
  · exact hp
  · exact maxPS_nil p

end RbV.Kmp
