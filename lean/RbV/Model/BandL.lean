import RbV.Model.Band
/-!
The band mirror with the tuning constant `lazy_extend` of `Band::set_boundaries` as a parameter `L` (genband).

`RbV/Model/Band.lean` transcribes `let lazy_extend: usize = 2 * k;`.  The property does not determine that constant (a band
that extends `3k` or `2k + 1` cells before the first / after the last k-mer is as good: seeded change C02-H1, mutant b2), so
the equality "translated source text = mirror" (`RbV/Thm/GenSrcBand.lean`) is stated against these `…L` versions, for whatever
value the initialiser found in the text computes, and the band theorems (`RbV/Lemmas/BandL.lean`) are proved for every `L`.
At `L = 2 * k` the definitions are the ones of `Model/Band.lean`, which the driver runs (`boundStartL_pinned`, `boundEndL_pinned` by `rfl`,
the two composite ones by rewriting with these).
Core Lean only.
-/
namespace RbV.Model.Band
open RbV.Align

/-- the block `// ---- START ----` of `Band::set_boundaries` with `lazy_extend = L` -/
def boundStartL (L : Nat) (b : Band) (start : Nat × Nat) (w : Nat) (cl : Clip) : Band :=
  let r := start.1
  let c := start.2
  if r = 0 ∧ c = 0 then b else
  let score_to_start : Int := (if r > 0 then cl.xp else 0) + (if c > 0 then cl.yp else 0)
  if score_to_start = 0 then
    let d := min L (min r c)
    addGap (addKmer b (r - d) (c - d) d w) (r - L, c - L) (r - d, c - d) w
  else
    let diagonal_score : Int := if r > c then cl.xp else if r < c then cl.yp else 0
    if diagonal_score = 0 then
      let d := min r c
      let b := addKmer b (r - d) (c - d) d w
      let st := (r - L, c - L)
      let en := (r - d, c - d)
      if st.1 ≤ en.1 ∧ st.2 ≤ en.2 then addGap b st en w else b
    else addGap b (0, 0) start w

/-- the block `// ---- END ----` of `Band::set_boundaries` with `lazy_extend = L` -/
def boundEndL (L : Nat) (b : Band) (end_ : Nat × Nat) (k w : Nat) (cl : Clip) : Band :=
  let r := end_.1 + k
  let c := end_.2 + k
  if r = b.rows ∧ c = b.cols then b else
  let score_from_end : Int := (if r = b.rows then 0 else cl.xs) + (if c = b.cols then 0 else cl.ys)
  let r1 (d : Nat) := min b.rows (r + d) - 1
  let c1 (d : Nat) := min b.cols (c + d) - 1
  let r2 := min b.rows (r + L)
  let c2 := min b.cols (c + L)
  if score_from_end = 0 then
    let d := min L (min (b.rows - r) (b.cols - c))
    let b' := addKmer b r c d w
    if r1 d ≤ r2 ∧ c1 d ≤ c2 then addGap b' (r1 d, c1 d) (r2, c2) w else b'
  else
    let dr := b.rows - r
    let dc := b.cols - c
    let diagonal_score : Int := if dr > dc then cl.xs else if dr < dc then cl.ys else 0
    if diagonal_score = 0 then
      let d := min dr dc
      let b' := addKmer b r c d w
      if r1 d ≤ r2 ∧ c1 d ≤ c2 then addGap b' (r1 d, c1 d) (r2, c2) w else b'
    else addGap b (r, c) (b.rows, b.cols) w

/-- `Band::set_boundaries` with `lazy_extend = L` -/
def setBoundariesL (L : Nat) (b : Band) (start end_ : Nat × Nat) (k w : Nat) (cl : Clip) : Band :=
  boundEndL L (boundStartL L b start w cl) end_ k w cl

/-- `Band::create_from_match_path` with `lazy_extend = L` -/
def createFromMatchPathL (L : Nat) (m n k w : Nat) (cl : Clip) (path : List Nat) (ms : List (Nat × Nat)) : Band :=
  let b := new m n
  if ms.isEmpty then fullMatrix b else
  let ps := path.headD 0
  let pe := path.getLastD 0
  let b := setBoundariesL L b (ms.getD ps (0, 0)) (ms.getD pe (0, 0)) k w cl
  (path.foldl (pathStep k w ms) (b, none)).1

theorem boundStartL_pinned (b : Band) (start : Nat × Nat) (k w : Nat) (cl : Clip) :
    boundStartL (2 * k) b start w cl = boundStart b start k w cl := rfl
theorem boundEndL_pinned (b : Band) (end_ : Nat × Nat) (k w : Nat) (cl : Clip) :
    boundEndL (2 * k) b end_ k w cl = boundEnd b end_ k w cl := rfl
theorem setBoundariesL_pinned (b : Band) (start end_ : Nat × Nat) (k w : Nat) (cl : Clip) :
    setBoundariesL (2 * k) b start end_ k w cl = setBoundaries b start end_ k w cl := by
  rw [setBoundariesL, boundStartL_pinned, boundEndL_pinned, setBoundaries]
theorem createFromMatchPathL_pinned (m n k w : Nat) (cl : Clip) (path : List Nat) (ms : List (Nat × Nat)) :
    createFromMatchPathL (2 * k) m n k w cl path ms = createFromMatchPath m n k w cl path ms := by
  simp only [createFromMatchPathL, createFromMatchPath, setBoundariesL_pinned]

end RbV.Model.Band
