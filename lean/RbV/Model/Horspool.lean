import RbV.Spec.Occ
import RbV.Basic.Scan
/-!
Mirror model of `pattern_matching::horspool`.

Rust:
```
new:   shift = [m; 256]; for (j, a) in pattern[..m-1].enumerate() { shift[a] = m - 1 - j }
next:  loop { while last < n && text[last] != pattern_last { last += shift[text[last]] }
              if last >= n { return None }
              i = last + 1 - m; j = last; last += shift[pattern_last];
              if text[i..j] == pattern[..m-1] { return Some(i) } }
```
The two nested loops advance `last` by `shift[text[last]]` in both cases and report `i` exactly when the last symbol
and the first `m-1` symbols agree; the model is the same loop written once, with fuel `n` (each round advances `last`).
-/
namespace RbV.Horspool

def shiftLoop (m : Nat) : List Nat → Nat → (Nat → Nat) → (Nat → Nat)
  | [], _, f => f
  | a :: q, j, f => shiftLoop m q (j + 1) (fun x => if x = a then m - 1 - j else f x)

def shiftTab (p : List Nat) : Nat → Nat :=
  shiftLoop p.length (p.take (p.length - 1)) 0 (fun _ => p.length)

def go (p t : List Nat) (sh : Nat → Nat) : Nat → Nat → List Nat
  | 0, _ => []
  | fuel + 1, last =>
    match t[last]? with
    | none => []                                   -- last >= n
    | some c =>
      let i := last + 1 - p.length
      let next := last + sh c
      if p[p.length - 1]? = some c ∧ (t.drop i).take (p.length - 1) = p.take (p.length - 1)
      then i :: go p t sh fuel next else go p t sh fuel next

def findAll (p t : List Nat) : List Nat := go p t (shiftTab p) t.length (p.length - 1)

theorem shiftLoop_cases (m : Nat) (q : List Nat) (j : Nat) (f : Nat → Nat) (c : Nat) :
    (c ∉ q ∧ shiftLoop m q j f c = f c) ∨
    (∃ i, i < q.length ∧ q[i]? = some c ∧ shiftLoop m q j f c = m - 1 - (j + i) ∧
      ∀ i', i < i' → q[i']? ≠ some c) := by
  induction q generalizing j f with
  | nil => left; simp [shiftLoop]
  | cons a q ih =>
    simp only [shiftLoop]
    rcases ih (j + 1) (fun x => if x = a then m - 1 - j else f x) with ⟨hn, hr⟩ | ⟨i, hi, hq, hr, hl⟩
    · by_cases hca : c = a
      · right
        refine ⟨0, by simp, by simp [hca], ?_, ?_⟩
        · rw [hr]; simp [hca]
        · intro i' hi'
          cases i' with
          | zero => omega
          | succ i' =>
            simp only [List.getElem?_cons_succ]
            intro h
            exact hn (List.mem_of_getElem? h)
      · left
        refine ⟨by simp [hca, hn], ?_⟩
        rw [hr]; simp [hca]
    · right
      refine ⟨i + 1, by simp; omega, by simpa using hq, ?_, ?_⟩
      · rw [hr]; congr 1; omega
      · intro i' hi'
        cases i' with
        | zero => omega
        | succ i' =>
          simp only [List.getElem?_cons_succ]
          exact hl i' (by omega)

/-- the table entry of `c`, for a pattern of `m' + 1` symbols: `m' + 1` if `c` is not among the first `m'`, else the
distance `d` from its last position there to the last position of the pattern -/
theorem shiftTab_cases (p : List Nat) {m' : Nat} (hm : p.length = m' + 1) (c : Nat) :
    (c ∉ p.take m' ∧ shiftTab p c = m' + 1) ∨
    ∃ i d, i + d = m' ∧ 0 < d ∧ shiftTab p c = d ∧ ∀ i', i < i' → i' < m' → p[i']? ≠ some c := by
  unfold shiftTab
  rw [hm, Nat.add_sub_cancel]
  rcases shiftLoop_cases (m' + 1) (p.take m') 0 (fun _ => m' + 1) c with h | ⟨i, hi, _, hr, hl⟩
  · exact Or.inl h
  · rw [List.length_take, Nat.min_eq_left (hm ▸ Nat.le_succ m')] at hi
    rw [Nat.add_sub_cancel, Nat.zero_add] at hr
    refine Or.inr ⟨i, m' - i, Nat.add_sub_cancel' (Nat.le_of_lt hi), Nat.sub_pos_of_lt hi, hr, fun i' h1 h2 => ?_⟩
    rw [← List.getElem?_take_of_lt h2]
    exact hl i' h1

theorem shift_bounds (p : List Nat) (hp : 0 < p.length) (c : Nat) :
    1 ≤ shiftTab p c ∧ shiftTab p c ≤ p.length := by
  obtain ⟨m', hm⟩ : ∃ m', p.length = m' + 1 := ⟨p.length - 1, (Nat.sub_add_cancel hp).symm⟩
  rcases shiftTab_cases p hm c with ⟨_, hr⟩ | ⟨i, d, hid, hd, hr, _⟩
  · rw [hr, hm]; exact ⟨Nat.succ_pos m', Nat.le_refl _⟩
  · rw [hr, hm]; exact ⟨hd, Nat.le_succ_of_le (hid ▸ Nat.le_add_left d i)⟩

/-- no symbol `c` in the pattern strictly between the position the shift aligns and the last position -/
theorem shift_safe_at (p : List Nat) {m' : Nat} (hm : p.length = m' + 1) (c : Nat) {i d : Nat} (hid : i + d = m')
    (hd : 0 < d) (hlt : d < shiftTab p c) : p[i]? ≠ some c := by
  have hi : i < m' := hid ▸ Nat.lt_add_of_pos_right hd
  rcases shiftTab_cases p hm c with ⟨hn, _⟩ | ⟨i₀, d₀, hid₀, _, hr, hl⟩
  · intro h
    rw [← List.getElem?_take_of_lt hi] at h
    exact hn (List.mem_of_getElem? h)
  · have h : i₀ + d < i + d := by rw [hid, ← hid₀]; exact Nat.add_lt_add_left (hr ▸ hlt) i₀
    exact hl i (Nat.lt_of_add_lt_add_right h) hi

/-- `shift_safe_at` in the index form that `C08.horspool_new_source_spec` states -/
theorem shift_safe (p : List Nat) (hp : 0 < p.length) (c d : Nat) (hd : 0 < d) (hlt : d < shiftTab p c) :
    p[p.length - 1 - d]? ≠ some c := by
  obtain ⟨m', hm⟩ : ∃ m', p.length = m' + 1 := ⟨p.length - 1, (Nat.sub_add_cancel hp).symm⟩
  obtain ⟨i, hi⟩ := Nat.le.dest (show d ≤ m' by have := (shift_bounds p hp c).2; omega)
  rw [hm, Nat.add_sub_cancel, ← hi, Nat.add_sub_cancel_left]
  exact shift_safe_at p hm c (Nat.add_comm d i ▸ hi) hd hlt

section
variable {p t : List Nat} {m' : Nat} (hm : p.length = m' + 1)
include hm

/-- what one round of `go` decides at the window `[s, s + m']`, `c` being the symbol under the window's end -/
theorem verdict {s c : Nat} (hc : t[s + m']? = some c) :
    Verdict (OccursAt p t) s (decide (p[m']? = some c ∧ (t.drop s).take m' = p.take m')) (shiftTab p c) where
  pos := (shift_bounds p (hm ▸ Nat.succ_pos m') c).1
  rep := by
    rw [decide_eq_true_iff, occursAt_iff_idx, take_drop_eq_iff t p s m', hm, Nat.forall_lt_succ_right, hc]
    exact ⟨fun h => ⟨(List.getElem?_eq_some_iff.mp hc).1, h.2, h.1.symm⟩, fun h => ⟨h.2.2.symm, h.2.1⟩⟩
  -- the shift jumps over no occurrence: one starting `d` after the window, `0 < d < shift[c]`, would put `c` at
  -- pattern position `m - 1 - d`
  skip x h1 h2 hocc := by
    obtain ⟨d, rfl⟩ := Nat.exists_eq_add_of_le (Nat.le_of_lt h1)
    have hlt : d < shiftTab p c := Nat.lt_of_add_lt_add_left h2
    have hb := (shift_bounds p (hm ▸ Nat.succ_pos m') c).2
    obtain ⟨i, hi⟩ := Nat.le.dest (show d ≤ m' by omega)
    have h := ((occursAt_iff_idx p t _).mp hocc).2 i (by omega)
    rw [Nat.add_assoc, hi, hc] at h
    exact shift_safe_at p hm c (Nat.add_comm d i ▸ hi) (Nat.lt_add_right_iff_pos.mp h1) hlt h.symm

theorem go_ascFrom (fuel s : Nat) (hf : t.length ≤ s + m' + fuel) :
    AscFrom (OccursAt p t) s (go p t (shiftTab p) fuel (s + m')) := by
  refine window_loop_fun (P := OccursAt p t) (c := m') (N := t.length) (F := fun fuel s => go p t (shiftTab p) fuel (s + m'))
    (fun s (h : OccursAt p t s) => show s + (m' + 1) ≤ _ from hm ▸ h.1) ?_ ?_ fuel s hf
  · intro fuel s h
    cases fuel with
    | zero => rfl
    | succ fuel => rw [go, List.getElem?_eq_none h]
  · intro fuel s h
    have hc := List.getElem?_eq_getElem h
    refine ⟨_, _, verdict hm hc, ?_⟩
    rw [go, hc]
    dsimp only
    rw [hm, Nat.add_sub_cancel, Nat.add_sub_add_right, Nat.add_sub_cancel, Nat.add_right_comm s]
    simp only [decide_eq_true_eq]

end

/-- **Horspool is exact** for every non-empty pattern and every text. -/
theorem findAll_eq_occurrences (p t : List Nat) (hp : 0 < p.length) : findAll p t = occurrences p t := by
  obtain ⟨m', hm⟩ : ∃ m', p.length = m' + 1 := ⟨p.length - 1, (Nat.sub_add_cancel hp).symm⟩
  have h := go_ascFrom hm (t := t) t.length 0 (Nat.le_add_left _ _)
  rw [Nat.zero_add] at h
  rw [findAll, hm, Nat.add_sub_cancel]
  exact h.eq_occurrences

end RbV.Horspool
