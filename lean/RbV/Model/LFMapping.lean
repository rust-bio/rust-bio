import RbV.Model.BackwardSearch
import RbV.Ref.PermPos
import RbV.Basic.PrefixCount
import RbV.Basic.GetD
/-!
# The LF-mapping lemma (C05)

For a text `t` and an array `sa` that is a permutation of the positions and is *LF-sorted* for the symbol `a`
(rows ordered by first symbol; two rows starting with `a` are ordered like the rows of the positions that follow
them — both are consequences of suffix-sortedness under any consistent order of the sentinels), the concrete
`less` / `occ` computed from the BWT of `(t, sa)` provide the LF step `LFStep` of `RbV/Model/BackwardSearch.lean`.
All hypotheses are decidable predicates on `(t, sa, a)`.

Trap: this file and several built on it alone (`SampledSA`, `FMDSym`, `FMDRev`, …) sit in `namespace RbV.…`, `open RbV.LF` and
write `lessRef` / `occRef` unqualified, meaning the `LF.` ones below.  `Ref/BWT.lean` declares `RbV.lessRef` / `RbV.occRef` (same
bodies); were it among the imports of this file, those would take precedence there (the enclosing namespace wins over an `open`)
and the statements would silently speak of other constants.  So this file does not import `Ref/BWT.lean`, directly or
indirectly; `Model/LFMap.lean` is where the two vocabularies meet (`LF.bwtOf_eq_bwtRef`).
-/
namespace RbV.LF
open RbV RbV.BSModel

/-- the BWT symbol of the row that holds position `p`: the symbol before `p`, cyclically -/
def bwSym (t : List Nat) (p : Nat) : Nat := if p > 0 then t.getD (p - 1) 0 else t.getD (t.length - 1) 0

def bwtOf (t sa : List Nat) : List Nat := sa.map (bwSym t)

/-- `less(a)` = number of BWT symbols smaller than `a` (the Rust code builds it by counting + exclusive prefix sums) -/
def lessRef (bwt : List Nat) (a : Nat) : Nat := bwt.countP (· < a)

/-- `occ(r, a)` = number of `a` in `bwt[0..=r]` -/
def occRef (bwt : List Nat) (r a : Nat) : Nat := (bwt.take (r + 1)).count a

/-- number of `a` in `bwt[0..z)` -/
def occLt (bwt : List Nat) (z a : Nat) : Nat := (bwt.take z).count a

/-- the hypotheses on `(t, sa)` for symbol `a` -/
structure Sorted (t sa : List Nat) (a : Nat) : Prop where
  perm : sa.Perm (List.range t.length)
  /-- rows are ordered by their first symbol -/
  mono : ∀ i j, i < j → j < sa.length → t.getD (sa.getD i 0) 0 ≤ t.getD (sa.getD j 0) 0
  /-- two rows that start with `a` are ordered like the rows of the following positions -/
  step : ∀ i j i' j', i < j → j < sa.length → i' < sa.length → j' < sa.length →
    t.getD (sa.getD i 0) 0 = a → t.getD (sa.getD j 0) 0 = a →
    sa.getD i' 0 = sa.getD i 0 + 1 → sa.getD j' 0 = sa.getD j 0 + 1 → i' < j'
  /-- the text ends with a symbol different from `a` (the sentinel) -/
  last : t.getD (t.length - 1) 0 ≠ a

/-! ### list facts; the BWT by row -/

theorem mem_take_of_lt {sa : List Nat} (y x : Nat) (hy : y < x) (hx : x ≤ sa.length) : sa.getD y 0 ∈ sa.take x := by
  rw [List.mem_take_iff_getElem]
  have hy' : y < sa.length := Nat.lt_of_lt_of_le hy hx
  exact ⟨y, Nat.lt_min.mpr ⟨hy, hy'⟩, (List.getD_eq_getElem _ _ _ hy').symm⟩

theorem lt_of_mem_take {sa : List Nat} (p x : Nat) (h : p ∈ sa.take x) : ∃ y, y < x ∧ y < sa.length ∧ sa.getD y 0 = p := by
  rw [List.mem_take_iff_getElem] at h
  obtain ⟨y, hy, he⟩ := h
  obtain ⟨hyx, hy'⟩ := Nat.lt_min.mp hy
  exact ⟨y, hyx, hy', (List.getD_eq_getElem _ _ _ hy').trans he⟩

theorem length_eq_three_counts (f : Nat → Nat) (a : Nat) (l : List Nat) :
    l.length = l.countP (fun p => f p < a) + l.countP (fun p => f p == a) + l.countP (fun p => a < f p) := by
  induction l with
  | nil => simp
  | cons b l ih =>
    simp only [List.length_cons, List.countP_cons, decide_eq_true_eq, beq_iff_eq, ih]
    rcases Nat.lt_trichotomy (f b) a with h | h | h
    · rw [if_pos h, if_neg (Nat.ne_of_lt h), if_neg (Nat.lt_asymm h)]; omega
    · rw [if_neg (h ▸ Nat.lt_irrefl _), if_pos h, if_neg (h ▸ Nat.lt_irrefl _)]; omega
    · rw [if_neg (Nat.lt_asymm h), if_neg (Nat.ne_of_gt h), if_pos h]; omega

theorem length_bwtOf (t sa : List Nat) : (bwtOf t sa).length = sa.length := List.length_map _

theorem bwt_getD {t sa : List Nat} (z : Nat) (hz : z < sa.length) :
    (bwtOf t sa).getD z 0 = bwSym t (sa.getD z 0) := by
  unfold bwtOf
  rw [List.getD_eq_getElem _ _ _ (by rw [List.length_map]; exact hz), List.getElem_map, List.getD_eq_getElem _ _ _ hz]

section perm
variable {t sa : List Nat} (hp : sa.Perm (List.range t.length))
include hp

theorem sa_surj (p : Nat) (h : p < t.length) : ∃ row, row < sa.length ∧ sa.getD row 0 = p :=
  ⟨sa.idxOf p, PermPos.rank_lt hp p h, PermPos.getD_rank hp p h⟩

theorem sa_inj (i j : Nat) (hi : i < sa.length) (hj : j < sa.length) (h : sa.getD i 0 = sa.getD j 0) : i = j := by
  rw [← PermPos.rank_getD hp i hi, ← PermPos.rank_getD hp j hj, h]

theorem surj_of_perm : Surj t sa := fun i hi => sa_surj hp i hi

end perm

/-! ### the crux: rows before `x` that start with `a`  ↔  rows before `z` whose BWT symbol is `a` -/

section crux
variable {t sa : List Nat} {a : Nat} (hs : Sorted t sa a)
include hs

theorem succ_lt (p : Nat) (hp : p < t.length) (ha : t.getD p 0 = a) : p + 1 < t.length := by
  have hl := hs.last
  by_cases h : p = t.length - 1
  · subst h; exact absurd ha hl
  · omega

omit hs in
theorem bwSym_succ (t : List Nat) (p : Nat) : bwSym t (p + 1) = t.getD p 0 := by simp [bwSym]

theorem bwSym_eq_a (q : Nat) (h : bwSym t q = a) : ∃ p, q = p + 1 ∧ t.getD p 0 = a := by
  cases q with
  | zero => simp only [bwSym, Nat.lt_irrefl, if_false] at h; exact absurd h hs.last
  | succ p => exact ⟨p, rfl, by simpa [bwSym] using h⟩

theorem mem_take_succ_iff (x z p : Nat) (hx : x < sa.length) (hz : z < sa.length)
    (hxa : t.getD (sa.getD x 0) 0 = a) (hzx : sa.getD z 0 = sa.getD x 0 + 1)
    (hp : p < t.length) (hpa : t.getD p 0 = a) : p ∈ sa.take x ↔ p + 1 ∈ sa.take z := by
  have hperm := hs.perm
  constructor
  · intro hm
    obtain ⟨y, hyx, hy, hey⟩ := lt_of_mem_take p x hm
    obtain ⟨y', hy', hey'⟩ := sa_surj hperm (p + 1) (succ_lt hs p hp hpa)
    have := hs.step y x y' z hyx hx hy' hz (by rw [hey]; exact hpa) hxa (by rw [hey', hey]) hzx
    rw [← hey']; exact mem_take_of_lt y' z this (Nat.le_of_lt hz)
  · intro hm
    obtain ⟨y', hy'z, hy', hey'⟩ := lt_of_mem_take (p + 1) z hm
    obtain ⟨y, hy, hey⟩ := sa_surj hperm p hp
    by_cases h1 : y < x
    · rw [← hey]; exact mem_take_of_lt y x h1 (Nat.le_of_lt hx)
    · exfalso
      by_cases h2 : y = x
      · subst h2
        exact Nat.lt_irrefl z (sa_inj hperm y' z hy' hz (by rw [hey', hzx, hey]) ▸ hy'z)
      · exact Nat.lt_asymm hy'z (hs.step x y z y' (Nat.lt_of_le_of_ne (Nat.le_of_not_lt h1) (Ne.symm h2)) hy hz hy' hxa
          (by rw [hey]; exact hpa) hzx (by rw [hey', hey]))

theorem count_first_eq_occLt (x z : Nat) (hx : x < sa.length) (hz : z < sa.length)
    (hxa : t.getD (sa.getD x 0) 0 = a) (hzx : sa.getD z 0 = sa.getD x 0 + 1) :
    (sa.take x).countP (fun p => t.getD p 0 == a) = occLt (bwtOf t sa) z a := by
  have hperm := hs.perm
  have hnd := PermPos.nodup hperm
  unfold occLt bwtOf
  rw [← List.map_take, List.count_eq_countP, List.countP_map]
  simp only [List.countP_eq_length_filter]
  have hU : ((sa.take x).filter (fun p => t.getD p 0 == a)).Nodup :=
    (hnd.sublist (List.take_sublist x sa)).sublist List.filter_sublist
  have hV : ((sa.take z).filter ((fun x => x == a) ∘ bwSym t)).Nodup :=
    (hnd.sublist (List.take_sublist z sa)).sublist List.filter_sublist
  have hU' : (((sa.take x).filter (fun p => t.getD p 0 == a)).map (· + 1)).Nodup := by
    rw [List.nodup_iff_pairwise_ne, List.pairwise_map]
    exact (List.nodup_iff_pairwise_ne.mp hU).imp (fun h => by omega)
  have hperm2 : (((sa.take x).filter (fun p => t.getD p 0 == a)).map (· + 1)).Perm
      ((sa.take z).filter ((fun x => x == a) ∘ bwSym t)) := by
    rw [List.perm_ext_iff_of_nodup hU' hV]
    intro q
    simp only [List.mem_map, List.mem_filter, beq_iff_eq, Function.comp]
    constructor
    · rintro ⟨p, ⟨hpm, hpa⟩, rfl⟩
      have hpl : p < t.length := PermPos.mem_lt hperm p ((List.take_sublist x sa).subset hpm)
      exact ⟨(mem_take_succ_iff hs x z p hx hz hxa hzx hpl hpa).mp hpm, by rw [bwSym_succ]; exact hpa⟩
    · rintro ⟨hqm, hqa⟩
      obtain ⟨p, rfl, hpa⟩ := bwSym_eq_a hs q hqa
      have hql : p + 1 < t.length := PermPos.mem_lt hperm (p + 1) ((List.take_sublist z sa).subset hqm)
      exact ⟨p, ⟨(mem_take_succ_iff hs x z p hx hz hxa hzx (by omega) hpa).mpr hqm, hpa⟩, rfl⟩
  have := hperm2.length_eq
  simpa using this

end crux

/-! ### `less`: rows are grouped by first symbol -/

/-- the BWT is a cyclic shift of the text: counting over all positions gives the same result -/
theorem countP_bwSym (t : List Nat) (q : Nat → Bool) :
    (List.range t.length).countP (fun p => q (bwSym t p)) = (List.range t.length).countP (fun p => q (t.getD p 0)) := by
  cases hn : t.length with
  | zero => simp
  | succ m =>
    conv => lhs; rw [List.range_succ_eq_map]
    conv => rhs; rw [List.range_succ]
    simp only [List.countP_cons, List.countP_map, List.countP_append, Function.comp_def,
      bwSym_succ]
    simp [bwSym, hn]

theorem countP_bwtOf {t sa : List Nat} (hp : sa.Perm (List.range t.length)) (q : Nat → Bool) :
    (bwtOf t sa).countP q = t.countP q := by
  unfold bwtOf
  rw [List.countP_map, hp.countP_eq]
  have h := countP_bwSym t q
  simp only [Function.comp_def] at h ⊢
  rw [h]
  conv => rhs; rw [← List.map_getD_range t 0, List.countP_map]
  rfl

section less
variable {t sa : List Nat} {a : Nat} (hs : Sorted t sa a)
include hs

theorem lessRef_eq : lessRef (bwtOf t sa) a = sa.countP (fun p => t.getD p 0 < a) := by
  unfold lessRef bwtOf
  rw [List.countP_map]
  have h1 := hs.perm.countP_eq (fun p => decide (bwSym t p < a))
  have h2 := hs.perm.countP_eq (fun p => decide (t.getD p 0 < a))
  have h3 := countP_bwSym t (fun c => decide (c < a))
  simp only [Function.comp_def] at *
  rw [h1, h2, h3]

theorem countP_lt_take (x : Nat) (hxa : t.getD (sa.getD x 0) 0 = a) :
    (sa.take x).countP (fun p => t.getD p 0 < a) = lessRef (bwtOf t sa) a := by
  rw [lessRef_eq hs]
  conv => rhs; rw [← List.take_append_drop x sa]
  rw [List.countP_append]
  have : (sa.drop x).countP (fun p => decide (t.getD p 0 < a)) = 0 := by
    rw [List.countP_eq_zero]
    intro p hp
    obtain ⟨k, hk, he⟩ := List.mem_iff_getElem.mp hp
    simp only [List.length_drop] at hk
    simp only [List.getElem_drop] at he
    have hxk : x + k < sa.length := Nat.add_lt_of_lt_sub' hk
    have hget : sa.getD (x + k) 0 = p := by rw [List.getD_eq_getElem _ _ _ hxk, he]
    simp only [decide_eq_true_eq, Nat.not_lt]
    by_cases hk0 : k = 0
    · subst hk0; rw [← hget, Nat.add_zero, hxa]; exact Nat.le_refl _
    · have := hs.mono x (x + k) (Nat.lt_add_of_pos_right (Nat.pos_of_ne_zero hk0)) hxk
      rw [hxa, hget] at this; exact this
  rw [this, Nat.add_zero]

theorem countP_gt_take (x : Nat) (hx : x < sa.length) (hxa : t.getD (sa.getD x 0) 0 = a) :
    (sa.take x).countP (fun p => a < t.getD p 0) = 0 := by
  rw [List.countP_eq_zero]
  intro p hp
  obtain ⟨y, hyx, hy, he⟩ := lt_of_mem_take p x hp
  have := hs.mono y x hyx hx
  rw [hxa, he] at this
  simp only [decide_eq_true_eq]; omega

/-- **LF-mapping lemma.**  If row `x` starts with `a` and row `z` holds the next position, then
`x = less(a) + #{rows before z whose BWT symbol is a}` — i.e. `LF(z) = x`. -/
theorem lf_mapping (x z : Nat) (hx : x < sa.length) (hz : z < sa.length)
    (hxa : t.getD (sa.getD x 0) 0 = a) (hzx : sa.getD z 0 = sa.getD x 0 + 1) :
    x = lessRef (bwtOf t sa) a + occLt (bwtOf t sa) z a := by
  have h0 := length_eq_three_counts (fun p => t.getD p 0) a (sa.take x)
  rw [countP_lt_take hs x hxa, countP_gt_take hs x hx hxa, count_first_eq_occLt hs x z hx hz hxa hzx] at h0
  simp only [List.length_take] at h0
  omega

/-- the same, seen from the row the step starts at: a row `z` whose BWT symbol is `a` is sent by
`less a + #{a before z}` to the row that holds the preceding text position -/
theorem lf_row (z : Nat) (hz : z < sa.length) (hb : (bwtOf t sa).getD z 0 = a) :
    ∃ x, x < sa.length ∧ sa.getD z 0 = sa.getD x 0 + 1 ∧ t.getD (sa.getD x 0) 0 = a ∧
      lessRef (bwtOf t sa) a + occLt (bwtOf t sa) z a = x := by
  rw [bwt_getD z hz] at hb
  obtain ⟨p, hpz, hpa⟩ := bwSym_eq_a hs _ hb
  have hpl := PermPos.getD_lt hs.perm z hz
  rw [hpz] at hpl
  obtain ⟨x, hx, hex⟩ := sa_surj hs.perm p (Nat.lt_of_succ_lt hpl)
  rw [← hex] at hpz hpa
  exact ⟨x, hx, hpz, hpa, (lf_mapping hs x z hx hz hpa hpz).symm⟩

end less

theorem occRef_pred (bwt : List Nat) (a z : Nat) (hz : 0 < z) : occRef bwt (z - 1) a = occLt bwt z a := by
  unfold occRef occLt; rw [Nat.sub_add_cancel hz]

theorem occLt_mono (bwt : List Nat) (a z z' : Nat) (h : z ≤ z') : occLt bwt z a ≤ occLt bwt z' a :=
  List.count_take_mono bwt a h

theorem occLt_succ (bwt : List Nat) (a z : Nat) (hz : z < bwt.length) :
    occLt bwt (z + 1) a = occLt bwt z a + (if bwt.getD z 0 = a then 1 else 0) :=
  List.count_take_succ bwt a (by rw [List.getD_eq_getElem _ _ _ hz]; exact List.getElem?_eq_getElem hz)

theorem occLt_le_count (bwt : List Nat) (a z : Nat) : occLt bwt z a ≤ bwt.count a :=
  List.count_take_le_count bwt a z

theorem occLt_ivt (bwt : List Nat) (a lo k : Nat) : ∀ hi, hi ≤ bwt.length → occLt bwt lo a ≤ k → k < occLt bwt hi a →
    ∃ z, lo ≤ z ∧ z < hi ∧ bwt.getD z 0 = a ∧ occLt bwt z a = k := by
  intro hi
  induction hi with
  | zero =>
    intro _ h1 h2
    simp [occLt] at h2
  | succ hi ih =>
    intro hle h1 h2
    rw [occLt_succ bwt a hi hle] at h2
    by_cases hk : k < occLt bwt hi a
    · obtain ⟨z, hz1, hz2, hz3, hz4⟩ := ih (Nat.le_of_succ_le hle) h1 hk
      exact ⟨z, hz1, Nat.lt_succ_of_lt hz2, hz3, hz4⟩
    · split at h2
      · rename_i ha
        refine ⟨hi, ?_, Nat.lt_succ_self hi, ha, Nat.le_antisymm (Nat.le_of_not_lt hk) (Nat.le_of_lt_succ h2)⟩
        -- lo ≤ hi: otherwise occLt lo ≥ occLt (hi+1) > k
        apply Nat.le_of_not_lt
        intro hlo
        have := occLt_mono bwt a (hi + 1) lo hlo
        rw [occLt_succ bwt a hi hle, if_pos ha] at this
        exact Nat.lt_irrefl k (Nat.lt_of_lt_of_le h2 (Nat.le_trans this h1))
      · exact absurd h2 hk

section step
variable {t sa : List Nat} {a : Nat} (hs : Sorted t sa a)
include hs

theorem ivOf_step (P : List Nat) (lo hi : Nat) (hiv : IvOf t sa P lo hi) :
    IvOf t sa (a :: P) (lessRef (bwtOf t sa) a + occLt (bwtOf t sa) lo a)
      (lessRef (bwtOf t sa) a + occLt (bwtOf t sa) hi a) := by
  have hperm := hs.perm
  have hlen := length_bwtOf t sa
  obtain ⟨h1, h2, h3⟩ := hiv
  refine ⟨Nat.add_le_add_left (occLt_mono (bwtOf t sa) a lo hi h1) _, ?_, ?_⟩
  · exact Nat.le_trans (Nat.add_le_add_left (occLt_le_count (bwtOf t sa) a hi) _)
      (hlen ▸ List.countP_lt_add_count_le (bwtOf t sa) a)
  · intro x hx
    constructor
    · -- a row of the new interval is `less a + k` with `occLt lo ≤ k < occLt hi`: `k` is attained at a row `z`
      -- of the old interval that holds `a`, and `LF z = x`
      rintro ⟨hx1, hx2⟩
      obtain ⟨k, rfl⟩ := Nat.exists_eq_add_of_le hx1
      rw [Nat.add_assoc] at hx2
      obtain ⟨z, hz1, hz2, hz3, hz4⟩ := occLt_ivt (bwtOf t sa) a lo (occLt (bwtOf t sa) lo a + k) hi
        (hlen ▸ h2) (Nat.le_add_right _ _) (Nat.lt_of_add_lt_add_left hx2)
      have hz : z < sa.length := Nat.lt_of_lt_of_le hz2 h2
      obtain ⟨x', hx', hzx, hxa, hlf⟩ := lf_row hs z hz hz3
      rw [hz4, ← Nat.add_assoc] at hlf
      subst hlf
      rw [occursAt_cons_iff, ← hzx]
      exact ⟨PermPos.getD_lt hperm _ hx', hxa, (h3 z hz).mp ⟨hz1, hz2⟩⟩
    · intro ho
      rw [occursAt_cons_iff] at ho
      obtain ⟨hpl, hpa, hoP⟩ := ho
      obtain ⟨z, hz, hez⟩ := sa_surj hperm (sa.getD x 0 + 1) (succ_lt hs _ hpl hpa)
      have hzin := (h3 z hz).mpr (by rw [hez]; exact hoP)
      have hlf := lf_mapping hs x z hx hz hpa hez
      have hbz : (bwtOf t sa).getD z 0 = a := by rw [bwt_getD z hz, hez, bwSym_succ]; exact hpa
      have hsucc := occLt_succ (bwtOf t sa) a z (hlen ▸ hz)
      rw [if_pos hbz] at hsucc
      have hm2 := occLt_mono (bwtOf t sa) a (z + 1) hi hzin.2
      rw [hsucc] at hm2
      rw [hlf]
      exact ⟨Nat.add_le_add_left (occLt_mono (bwtOf t sa) a lo z hzin.1) _, Nat.add_lt_add_left hm2 _⟩

theorem lfStep_of_sorted : LFStep t sa (lessRef (bwtOf t sa)) (occRef (bwtOf t sa)) a := by
  intro P lo hi hiv hne
  have key := ivOf_step hs P lo hi hiv
  have e1 : (if lo > 0 then occRef (bwtOf t sa) (lo - 1) a else 0) = occLt (bwtOf t sa) lo a := by
    split
    · rename_i h; exact occRef_pred _ a lo h
    · rename_i h; rw [Nat.eq_zero_of_not_pos h]; rfl
  have e2 := occRef_pred (bwtOf t sa) a hi (Nat.lt_of_le_of_lt (Nat.zero_le lo) hne)
  rw [e1, e2]
  exact ⟨key.1, key⟩

end step

/-- the last symbol of the text is in the BWT, so `less a ≥ 1` for every larger `a` (what keeps `less + occ - 1` from underflowing) -/
theorem less_pos_of_perm {t sa : List Nat} {a : Nat} (hp : sa.Perm (List.range t.length)) (hn : 0 < t.length)
    (hlt : t.getD (t.length - 1) 0 < a) : 1 ≤ lessRef (bwtOf t sa) a := by
  unfold lessRef
  rw [countP_bwtOf hp]
  exact List.countP_pos_iff.mpr ⟨_, List.getD_mem t _ 0 (Nat.sub_lt hn Nat.one_pos), by simpa using hlt⟩

/-- **`backward_search` is correct on every LF-sorted index** (multi-sentinel texts included: nothing is assumed
about the order of the rows that start with the sentinel).  For every text `t` ending in a symbol smaller than all
pattern symbols, every array `sa` that is `Sorted` for the pattern symbols, and every non-empty pattern, the result
of the mirror model — run with `less`/`occ` computed from the BWT of `(t, sa)` — satisfies the property statement
`BSProp`. -/
theorem backwardSearch_correct (t sa pat : List Nat) (hp : pat ≠ []) (hn : 0 < t.length)
    (hsent : ∀ a ∈ pat, t.getD (t.length - 1) 0 < a)
    (hsorted : ∀ a ∈ pat, Sorted t sa a) :
    BSProp t sa pat (backwardSearch (lessRef (bwtOf t sa)) (occRef (bwtOf t sa)) sa.length pat) := by
  obtain ⟨a0, ha0⟩ : ∃ a, a ∈ pat := by
    cases pat with
    | nil => exact absurd rfl hp
    | cons a q => exact ⟨a, by simp⟩
  have hperm := (hsorted a0 ha0).perm
  apply backwardSearch_correct_of_LF t sa pat _ _ hp
  · rw [PermPos.length hperm]; exact hn
  · intro row hrow; exact Nat.le_of_lt (PermPos.getD_lt hperm row hrow)
  · exact surj_of_perm hperm
  · intro a ha; exact less_pos_of_perm (hsorted a ha).perm hn (hsent a ha)
  · intro a ha; exact lfStep_of_sorted (hsorted a ha)

end RbV.LF
