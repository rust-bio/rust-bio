import RbV.Model.Fasta
/-!
# Byte-level model of `bio::io::fastq::{Writer, Reader, Records}` and of the `fastx` sniffer  (property C11)

Follows `Reader::read` of `/repo/src/io/fastq.rs` line by line, on the list of `read_line` pieces (see
`RbV/Model/Fasta.lean`): header line `@id desc`; sequence lines up to the line starting with `+` (their number is
counted); that line is consumed; then *as many* quality lines as there were sequence lines; an empty quality string
is the error `IncompleteRecord`.  `Records::next` does **not** stop after an error: it keeps reading from where
the failed `read` stopped, and ends at end of stream.
-/
namespace RbV.Fastx

structure FqRec where
  id : Bytes
  desc : Option Bytes
  seq : Bytes
  qual : Bytes
deriving DecidableEq, Repr, Inhabited

inductive FqItem where
  | ok (r : FqRec)
  | missingAt        -- "expected '@' at record start"
  | incomplete       -- "Incomplete record. …"
deriving DecidableEq, Repr, Inhabited

/-- `Record::check` -/
def FqRec.check (r : FqRec) : Bool :=
  !r.id.isEmpty && r.seq.all (· < 128) && r.qual.all (· < 128) && r.seq.length == r.qual.length

/-- the `while` loop of `Reader::read`: sequence lines up to end of stream or a line starting with `+`;
returns the sequence, the number of lines read and the remaining lines *starting with* the terminating line -/
def fqSeq : List Bytes → Bytes × Nat × List Bytes
  | [] => ([], 0, [])
  | l :: ls =>
    if startsWith l 43 then ([], 0, l :: ls)
    else let r := fqSeq ls; (trimEnd l ++ r.1, r.2.1 + 1, r.2.2)

/-- the `for _ in 0..lines_read` loop: `n` further `read_line` calls (empty at end of stream) -/
def fqQual : Nat → List Bytes → Bytes × List Bytes
  | 0, ls => ([], ls)
  | n + 1, [] => let r := fqQual n []; (r.1, r.2)
  | n + 1, l :: ls => let r := fqQual n ls; (trimEnd l ++ r.1, r.2)

theorem fqSeq_suffix (ls : List Bytes) : (fqSeq ls).2.2 <:+ ls := by
  induction ls with
  | nil => exact List.suffix_refl _
  | cons l ls ih =>
    unfold fqSeq
    split
    · exact List.suffix_refl _
    · exact ih.trans (List.suffix_cons _ _)

theorem fqQual_suffix (n : Nat) (ls : List Bytes) : (fqQual n ls).2 <:+ ls := by
  induction n generalizing ls with
  | zero => exact List.suffix_refl _
  | succ n ih =>
    cases ls with
    | nil => simpa [fqQual] using ih []
    | cons l ls => exact (ih ls).trans (List.suffix_cons _ _)

theorem fqQual_nil (n : Nat) : (fqQual n []).2 = [] := List.suffix_nil.mp (fqQual_suffix n [])

/-- header line (starting with `@`) → id and description: `splitn(2, ' ')` on the end-trimmed rest -/
def fqHeader (l : Bytes) : Bytes × Option Bytes := splitn2 (· == 32) (trimEnd l.tail)

/-- one `Reader::read` on a stream that is not at its end: the item and the lines left -/
def fqRead (l : Bytes) (ls : List Bytes) : FqItem × List Bytes :=
  if !startsWith l 64 then (.missingAt, ls)
  else
    let h := fqHeader l
    let s := fqSeq ls
    -- the line that ended the loop (the `+` line, if any) has been consumed
    let q := fqQual s.2.1 s.2.2.tail
    if q.1.isEmpty then (.incomplete, q.2)
    else (.ok { id := h.1, desc := h.2, seq := s.1, qual := q.1 }, q.2)

theorem fqRead_suffix (l : Bytes) (ls : List Bytes) : (fqRead l ls).2 <:+ ls := by
  have hq : (fqQual (fqSeq ls).2.1 (fqSeq ls).2.2.tail).2 <:+ ls :=
    (fqQual_suffix _ _).trans ((List.tail_suffix _).trans (fqSeq_suffix ls))
  unfold fqRead
  split
  · exact List.suffix_refl _
  · simp only
    split <;> exact hq

theorem fqRead_length_le (l : Bytes) (ls : List Bytes) : (fqRead l ls).2.length ≤ ls.length :=
  (fqRead_suffix l ls).length_le

/-- `Records`: `read` after `read` until end of stream (errors are items, the iteration goes on) -/
def fqRecords (lines : List Bytes) : List FqItem :=
  match lines with
  | [] => []
  | l :: ls => (fqRead l ls).1 :: fqRecords (fqRead l ls).2
termination_by lines.length
decreasing_by
  have := fqRead_length_le l ls
  simp only [List.length_cons]; omega

def parseFastq (file : Bytes) : List FqItem := fqRecords (splitLines file)

/-! ## Writer -/

/-- `Writer::write` -/
def writeFastqRec (r : FqRec) : Bytes :=
  64 :: r.id ++ (match r.desc with | some d => 32 :: d | none => []) ++ [10] ++ r.seq ++ [10, 43, 10] ++ r.qual ++ [10]

def writeFastq (recs : List FqRec) : Bytes := recs.flatMap writeFastqRec

/-! ## Layouts: multi-line sequence / quality, CRLF, repeated header on the `+` line -/

structure FqLayout where
  seqPieces : List Bytes
  qualPieces : List Bytes
  eol : Bytes
  plus : Bytes          -- what follows `+` on the separator line
deriving Repr

def layoutFastqRec (r : FqRec) (y : FqLayout) : Bytes :=
  64 :: r.id ++ (match r.desc with | some d => 32 :: d | none => []) ++ y.eol ++
  y.seqPieces.flatMap (· ++ y.eol) ++ (43 :: y.plus ++ y.eol) ++ y.qualPieces.flatMap (· ++ y.eol)

def layoutFastq (l : List (FqRec × FqLayout)) : Bytes := l.flatMap (fun x => layoutFastqRec x.1 x.2)

/-- the records the property speaks of: id without white space, description (if any) non-empty, without line feed,
not ending in white space; sequence non-empty, without white space, not starting with `+` (a line starting with `+`
*is* the separator); qualities of the same length, without white space (they may start with `@` or `+`) -/
structure ValidFq (r : FqRec) : Prop where
  id_nows : ∀ b ∈ r.id, isWs b = false
  desc_ok : ∀ d, r.desc = some d → d ≠ [] ∧ 10 ∉ d ∧ (∀ x, d.getLast? = some x → isWs x = false)
  seq_ne : r.seq ≠ []
  seq_ok : ∀ b ∈ r.seq, isWs b = false
  seq_plus : r.seq.head? ≠ some 43
  qual_len : r.qual.length = r.seq.length
  qual_ok : ∀ b ∈ r.qual, isWs b = false

instance (r : FqRec) : Decidable (ValidFq r) :=
  decidable_of_iff
    ((∀ b ∈ r.id, isWs b = false) ∧
     (∀ d, r.desc = some d → d ≠ [] ∧ 10 ∉ d ∧ (∀ x, d.getLast? = some x → isWs x = false)) ∧
     r.seq ≠ [] ∧ (∀ b ∈ r.seq, isWs b = false) ∧ r.seq.head? ≠ some 43 ∧
     r.qual.length = r.seq.length ∧ (∀ b ∈ r.qual, isWs b = false))
    ⟨fun ⟨a, b, c, d, e, f, g⟩ => ⟨a, b, c, d, e, f, g⟩, fun ⟨a, b, c, d, e, f, g⟩ => ⟨a, b, c, d, e, f, g⟩⟩

/-- a layout the reader accepts for `r`: the pieces concatenate to sequence / qualities, equally many of both,
no sequence piece starts with `+`, a line terminator LF or CRLF, no line feed on the `+` line -/
structure FqLayout.Ok (r : FqRec) (y : FqLayout) : Prop where
  seq_eq : y.seqPieces.flatten = r.seq
  qual_eq : y.qualPieces.flatten = r.qual
  same : y.seqPieces.length = y.qualPieces.length
  no_plus : ∀ p ∈ y.seqPieces, p.head? ≠ some 43
  eol : IsEol y.eol
  plus_nolf : 10 ∉ y.plus

/-! ## fastx sniffer -/

inductive Kind where | fasta | fastq
deriving DecidableEq, Repr

/-- `get_kind` / `get_kind_seek` / `EitherRecords::kind`: the first byte decides (`none`: empty input or an
illegal start character — an error) -/
def sniff (file : Bytes) : Option Kind :=
  match file with
  | 62 :: _ => some .fasta
  | 64 :: _ => some .fastq
  | _ => none

end RbV.Fastx
