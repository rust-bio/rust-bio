import RbV.Ref.SortedSA
import RbV.Ref.BWT
import RbV.Model.LFMulti
/-
The LF-mapping lemma (C04, also the basis of C03's sampled suffix array and of C05).

For a text `t` whose last symbol is its unique smallest symbol, a sorted suffix permutation `sa` (first entry n−1)
and `bwt = bwtRef t sa`:

    lessRef bwt c + occRef bwt r c − 1  =  row of the position that cyclically precedes sa[r]        (c = bwt[r])

This file holds the vocabulary of that statement (`cpred`, `Single`, `lfRef`, the BWT as a permutation of the text) and the
theorem `lf_mapping`.  The counting argument itself is `LF.lf_row` (`RbV/Model/LFMapping.lean`, for arrays that are `LF.Sorted` for
one symbol, written in that file's own `LF.bwtOf`, `LF.lessRef`, `LF.occRef`); `RbV/Model/LFMulti.lean` brings it to arrays sorted
in the suffix order of a key text (`LFMulti.KeyOf`, `lfSorted_of_key`; here the key text is `t` itself).  That settles every row
whose BWT symbol is not the sentinel; the one row that holds the sentinel is counted directly.  Here the two vocabularies meet:
`LF.bwtOf_eq_bwtRef`, and the closing `rfl` of `lf_mapping` (`LF.lessRef`/`LF.occRef` unfold to `lessRef`/`occRef` of `Ref/BWT.lean`).
-/
namespace RbV.LFMap
open RbV RbV.Kasai

/-- cyclic predecessor of a position -/
def cpred (n p : Nat) : Nat := (p + n - 1) % n

theorem cpred_zero (n : Nat) (hn : 0 < n) : cpred n 0 = n - 1 := by
  unfold cpred; rw [Nat.zero_add]; exact Nat.mod_eq_of_lt (by omega)

theorem cpred_succ (n p : Nat) (hp : p + 1 < n) : cpred n (p + 1) = p := by
  unfold cpred
  have : p + 1 + n - 1 = p + n := by omega
  rw [this, Nat.add_mod_right, Nat.mod_eq_of_lt (by omega)]

theorem cpred_of_pos (n p : Nat) (h1 : 1 ≤ p) (hp : p < n) : cpred n p = p - 1 := by
  have := cpred_succ n (p - 1) (by omega)
  rwa [Nat.sub_add_cancel h1] at this

theorem cpred_next (n i : Nat) (hi : i < n) : cpred n ((i + 1) % n) = i := by
  by_cases h : i + 1 < n
  · rw [Nat.mod_eq_of_lt h, cpred_succ n i h]
  · have hn : i + 1 = n := Nat.le_antisymm hi (Nat.le_of_not_lt h)
    rw [hn, Nat.mod_self, cpred_zero n (Nat.lt_of_le_of_lt (Nat.zero_le i) hi)]
    exact Nat.sub_eq_of_eq_add hn.symm

/-- the text has a unique smallest symbol, at its end -/
structure Single (t : List Nat) : Prop where
  pos : 0 < t.length
  min : ∀ p, p < t.length → t.getD (t.length - 1) 0 ≤ t.getD p 0
  uniq : ∀ p, p < t.length → t.getD p 0 = t.getD (t.length - 1) 0 → p = t.length - 1

theorem countP_range_getD (l : List Nat) (q : Nat → Bool) :
    (List.range l.length).countP (fun i => q (l.getD i 0)) = l.countP q := by
  have h := List.countP_map (p := q) (f := fun i => l.getD i 0) (l := List.range l.length)
  rw [List.map_getD_range] at h
  rw [h]; rfl

/-- the BWT of `Model/LFMapping.lean` (`if p > 0`) is the specification's (`% n`) on arrays of text positions -/
theorem _root_.RbV.LF.bwtOf_eq_bwtRef (t sa : List Nat) (hsa : ∀ p ∈ sa, p < t.length) : LF.bwtOf t sa = bwtRef t sa :=
  map_ite_eq_bwtRef t sa hsa

/-- every symbol occurs as often in the BWT as in the text (`LF.countP_bwSym`: the BWT symbols of all positions are a
cyclic shift of the text) -/
theorem bwt_perm (t sa : List Nat) (hp : sa.Perm (List.range t.length)) : (bwtRef t sa).Perm t := by
  rw [← LF.bwtOf_eq_bwtRef t sa (PermPos.mem_lt hp), List.perm_iff_count]
  exact fun a => LF.countP_bwtOf hp (· == a)

theorem length_bwtRef (t sa : List Nat) (hl : sa.length = t.length) : (bwtRef t sa).length = t.length := by
  unfold bwtRef; rw [List.length_map, hl]

theorem bwtRef_getD (t sa : List Nat) (hl : sa.length = t.length) (r : Nat) (hr : r < t.length) :
    (bwtRef t sa).getD r 0 = t.getD (cpred t.length (sa.getD r 0)) 0 := by
  have hl' : r < sa.length := by rw [hl]; exact hr
  unfold bwtRef cpred
  rw [List.getD_eq_getElem _ _ _ (by rw [List.length_map]; exact hl'), List.getElem_map, List.getD_eq_getElem _ _ _ hl']

/-- `less[c] + occ(c, r) − 1` with `c = bwt[r]` -/
def lfRef (bwt : List Nat) (r : Nat) : Nat :=
  lessRef bwt (bwt.getD r 0) + occRef bwt r (bwt.getD r 0) - 1

theorem occRef_row (bwt : List Nat) (r : Nat) (hr : r < bwt.length) :
    occRef bwt r (bwt.getD r 0) = (bwt.take r).count (bwt.getD r 0) + 1 := by
  unfold occRef
  rw [List.take_add_one, List.count_append, List.getD_eq_getElem _ _ _ hr, List.getElem?_eq_getElem hr]
  simp

theorem count_sentinel (t : List Nat) (hs : Single t) : t.count (t.getD (t.length - 1) 0) = 1 := by
  rw [List.count_eq_countP, ← countP_range_getD t (fun x => x == t.getD (t.length - 1) 0)]
  have : (List.range t.length).countP (fun i => t.getD i 0 == t.getD (t.length - 1) 0) =
      (List.range t.length).countP (fun i => i == t.length - 1) := by
    apply List.countP_congr
    intro i hi
    rw [List.mem_range] at hi
    simp only [beq_iff_eq]
    constructor
    · exact hs.uniq i hi
    · intro e; rw [e]
  rw [this, ← List.count_eq_countP, List.nodup_range.count, if_pos]
  rw [List.mem_range]; have := hs.pos; omega

theorem lessRef_sentinel (t : List Nat) (hs : Single t) : lessRef t (t.getD (t.length - 1) 0) = 0 := by
  unfold lessRef
  rw [List.countP_eq_zero]
  intro x hx
  obtain ⟨i, hi, e⟩ := List.exists_getD_of_mem t 0 hx
  have := hs.min i hi
  intro hlt
  have hlt' := of_decide_eq_true hlt
  omega

theorem lf_mapping (t sa : List Nat) (h : Sorted t sa) (hs : Single t) (r : Nat) (hr : r < t.length) :
    lfRef (bwtRef t sa) r = sa.idxOf (cpred t.length (sa.getD r 0)) := by
  have hp := h.getD_lt r hr
  have hc := bwtRef_getD t sa h.length r hr
  by_cases hp0 : sa.getD r 0 = 0
  · -- the row of the whole text: its predecessor is the final sentinel, row 0, and no other row holds the sentinel
    rw [hp0, cpred_zero _ hs.pos] at hc
    unfold lfRef
    rw [hc, hp0, cpred_zero _ hs.pos, h.rank_last]
    have hl : lessRef (bwtRef t sa) (t.getD (t.length - 1) 0) = 0 :=
      ((bwt_perm t sa h.perm).countP_eq _).trans (lessRef_sentinel t hs)
    have h2 : ((bwtRef t sa).take (r + 1)).count (t.getD (t.length - 1) 0) ≤
        (bwtRef t sa).count (t.getD (t.length - 1) 0) := (List.take_sublist _ _).count_le _
    rw [(bwt_perm t sa h.perm).count_eq, count_sentinel t hs] at h2
    rw [hl, Nat.zero_add]
    exact Nat.sub_eq_zero_of_le h2
  · -- every other row holds a symbol `c` that is not the sentinel: the rows starting with `c` are sorted by their successors
    -- (`lfSorted_of_key`), so the row of the preceding position is where `LF.lf_row` finds it
    have hcs : t.getD (t.length - 1) 0 ≠ (bwtRef t sa).getD r 0 := by
      rw [hc, cpred_of_pos _ _ (Nat.pos_of_ne_zero hp0) hp]
      intro e
      have := hs.uniq _ (by omega) e.symm
      omega
    have hb := LF.bwtOf_eq_bwtRef t sa (PermPos.mem_lt h.perm)
    obtain ⟨x, hx, hzx, -, hlf⟩ := LF.lf_row
      (LFMulti.lfSorted_of_key t t sa h.perm h.sorted (LFMulti.KeyOf.refl t) hs.min _ (by rw [hb]; exact hcs)) r (h.length ▸ hr) rfl
    rw [hb] at hlf
    rw [hzx] at hp ⊢
    rw [cpred_succ _ _ hp, h.rank_getD x (h.length ▸ hx), ← hlf]
    unfold lfRef
    rw [occRef_row _ r (by rw [length_bwtRef t sa h.length]; exact hr), ← Nat.add_assoc, Nat.add_sub_cancel]
    -- `hlf` is written in `LF.lessRef`, `LF.occRef` (`Model/LFMapping.lean`), the goal in `lessRef`, `occRef` (`Ref/BWT.lean`):
    -- both unfold to the same `countP` / `count` of a prefix
    rfl

end RbV.LFMap
