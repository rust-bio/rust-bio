import RbV.Ref.BS
/-!
# Mirror model of `FMIndexable::backward_search` (C05)

`loop` / `backwardSearch` follow the Rust code line by line over an abstract `less : symbol → Nat` and
`occ : row → symbol → Nat` (`occ r a` = number of `a` in `bwt[0..=r]`), exactly the two trait methods the Rust
function uses.  `usize` is modelled by `Nat`; the only subtraction that could underflow is `less + occ(r,a) - 1`,
which is safe under the property's precondition (the sentinel is smaller than every pattern symbol, so `less a ≥ 1`).

```rust
let (mut l, mut r) = (0, self.bwt().len() - 1);
let (mut pl, mut pr) = (l, r);
let mut matched_len = 0;
let mut complete_match = true;
for &a in pattern.rev() {
    let less = self.less(a);
    pl = l; pr = r;
    l = less + if l > 0 { self.occ(l - 1, a) } else { 0 };
    r = less + self.occ(r, a) - 1;
    if l > r { complete_match = false; break; }
    matched_len += 1;
}
if matched_len > 0 { if complete_match { Complete(l, r+1) } else { Partial(pl, pr+1, matched_len) } } else { Absent }
```
-/
namespace RbV.BSModel
open RbV

structure St where
  l : Nat
  r : Nat
  pl : Nat
  pr : Nat
  matched : Nat
  complete : Bool
  deriving Repr, DecidableEq

/-- the `for` loop over the reversed pattern (`rev` = the symbols still to be processed, last pattern symbol first) -/
def loop (less : Nat → Nat) (occ : Nat → Nat → Nat) : List Nat → St → St
  | [], s => s
  | a :: rest, s =>
    let l' := less a + (if s.l > 0 then occ (s.l - 1) a else 0)
    let r' := less a + occ s.r a - 1
    if l' > r' then
      { l := l', r := r', pl := s.l, pr := s.r, matched := s.matched, complete := false }
    else
      loop less occ rest { l := l', r := r', pl := s.l, pr := s.r, matched := s.matched + 1, complete := s.complete }

theorem loop_cons (less : Nat → Nat) (occ : Nat → Nat → Nat) (a : Nat) (rest : List Nat) (s : St) :
    loop less occ (a :: rest) s =
      if less a + (if s.l > 0 then occ (s.l - 1) a else 0) > less a + occ s.r a - 1 then
        { l := less a + (if s.l > 0 then occ (s.l - 1) a else 0), r := less a + occ s.r a - 1,
          pl := s.l, pr := s.r, matched := s.matched, complete := false }
      else
        loop less occ rest
          { l := less a + (if s.l > 0 then occ (s.l - 1) a else 0), r := less a + occ s.r a - 1,
            pl := s.l, pr := s.r, matched := s.matched + 1, complete := s.complete } := rfl

/-- the interval bounds of the model's loop stay below `2^64` (so that `r + 1`, `pr + 1` do not overflow) -/
theorem loop_bounds (lessF : Nat → Nat) (occF : Nat → Nat → Nat) : ∀ (rev : List Nat) (s : St),
    (∀ a ∈ rev, 1 ≤ lessF a ∧ ∀ r, lessF a + occF r a < 2 ^ 64) → s.r + 1 < 2 ^ 64 → s.pr + 1 < 2 ^ 64 →
    (loop lessF occF rev s).r + 1 < 2 ^ 64 ∧ (loop lessF occF rev s).pr + 1 < 2 ^ 64 := by
  intro rev
  induction rev with
  | nil => intro s _ h1 h2; exact ⟨h1, h2⟩
  | cons a rest ih =>
    intro s h h1 h2
    obtain ⟨hl, hb⟩ := h a (by simp)
    have := hb s.r
    rw [loop_cons]
    by_cases hc : lessF a + (if s.l > 0 then occF (s.l - 1) a else 0) > lessF a + occF s.r a - 1
    · rw [if_pos hc]
      exact ⟨by show lessF a + occF s.r a - 1 + 1 < 2 ^ 64; omega, h1⟩
    · rw [if_neg hc]
      exact ih _ (fun b hb' => h b (List.mem_cons_of_mem _ hb')) (by show lessF a + occF s.r a - 1 + 1 < 2 ^ 64; omega) h1

def finish (s : St) : BSRes :=
  if s.matched > 0 then
    if s.complete then .complete s.l (s.r + 1) else .part s.pl (s.pr + 1) s.matched
  else .absent

/-- `backward_search` on an index of `n` rows -/
def backwardSearch (less : Nat → Nat) (occ : Nat → Nat → Nat) (n : Nat) (pat : List Nat) : BSRes :=
  finish (loop less occ pat.reverse ⟨0, n - 1, 0, n - 1, 0, true⟩)

/-! ### what the index has to provide: the LF-mapping step

`IvOf t sa P lo hi`: the rows `lo ≤ row < hi` are exactly the rows whose suffix starts with `P`. -/

def IvOf (t sa P : List Nat) (lo hi : Nat) : Prop :=
  lo ≤ hi ∧ hi ≤ sa.length ∧ ∀ row, row < sa.length → ((lo ≤ row ∧ row < hi) ↔ OccursAt P t (sa.getD row 0))

/-- every text position is held by some row -/
def Surj (t sa : List Nat) : Prop := ∀ i, i < t.length → ∃ row, row < sa.length ∧ sa.getD row 0 = i

/-- the LF-mapping step for symbol `a`: from the (non-empty) row interval of `P` to the row interval of `a·P` -/
def LFStep (t sa : List Nat) (less : Nat → Nat) (occ : Nat → Nat → Nat) (a : Nat) : Prop :=
  ∀ P lo hi, IvOf t sa P lo hi → lo < hi →
    less a + (if lo > 0 then occ (lo - 1) a else 0) ≤ less a + occ (hi - 1) a ∧
    IvOf t sa (a :: P) (less a + (if lo > 0 then occ (lo - 1) a else 0)) (less a + occ (hi - 1) a)

theorem ivOf_nil (t sa : List Nat) (hperm : ∀ row, row < sa.length → sa.getD row 0 ≤ t.length) :
    IvOf t sa [] 0 sa.length := by
  refine ⟨Nat.zero_le _, Nat.le_refl _, fun row hrow => ?_⟩
  simp only [OccursAt, List.length_nil, Nat.add_zero, List.take_zero, and_true, Nat.zero_le, true_and]
  exact ⟨fun _ => hperm row hrow, fun _ => hrow⟩

theorem ivOf_occurs (t sa P : List Nat) (lo hi : Nat) (h : IvOf t sa P lo hi) (hne : lo < hi) : Occurs P t := by
  obtain ⟨_, h2, h3⟩ := h
  exact ⟨sa.getD lo 0, (h3 lo (by omega)).mp ⟨Nat.le_refl _, hne⟩⟩

theorem ivOf_empty_not_occurs (t sa P : List Nat) (lo : Nat) (hs : Surj t sa) (hP : P ≠ [])
    (h : IvOf t sa P lo lo) : ¬ Occurs P t := by
  rintro ⟨i, hi⟩
  obtain ⟨row, hrow, he⟩ := hs i (hi.lt hP)
  have := (h.2.2 row hrow).mpr (he ▸ hi)
  omega

theorem ivOf_mapsTo (t sa P : List Nat) (lo hi : Nat) (hs : Surj t sa) (hP : P ≠ [])
    (h : IvOf t sa P lo hi) : MapsTo sa lo hi P t := by
  obtain ⟨h1, h2, h3⟩ := h
  refine ⟨h1, h2, fun i => ?_⟩
  rw [mem_ivMap_iff sa lo hi i h2]
  constructor
  · rintro ⟨row, hr1, hr2, rfl⟩
    exact (h3 row (Nat.lt_of_lt_of_le hr2 h2)).mp ⟨hr1, hr2⟩
  · intro ho
    obtain ⟨row, hrow, he⟩ := hs i (ho.lt hP)
    obtain ⟨hr1, hr2⟩ := (h3 row hrow).mpr (he ▸ ho)
    exact ⟨row, hr1, hr2, he⟩

/-- outcome of the loop, in terms of the pattern -/
def Final (t sa pat : List Nat) (s : St) : Prop :=
  (s.complete = true ∧ s.matched = pat.length ∧ s.l ≤ s.r ∧ IvOf t sa pat s.l (s.r + 1)) ∨
  (s.complete = false ∧ s.matched < pat.length ∧ s.pl ≤ s.pr ∧
    IvOf t sa (suffix pat s.matched) s.pl (s.pr + 1) ∧ ¬ Occurs (suffix pat (s.matched + 1)) t)

theorem suffix_of_append (rest P : List Nat) : suffix (rest ++ P) P.length = P := by
  simp [suffix]

theorem loop_spec (t sa pat : List Nat) (less : Nat → Nat) (occ : Nat → Nat → Nat)
    (hs : Surj t sa) (hless : ∀ a ∈ pat, 1 ≤ less a) (hLF : ∀ a ∈ pat, LFStep t sa less occ a) :
    ∀ (rev P : List Nat) (s : St), rev.reverse ++ P = pat →
      s.matched = P.length → s.complete = true → s.l ≤ s.r → IvOf t sa P s.l (s.r + 1) →
      Final t sa pat (loop less occ rev s) := by
  intro rev
  induction rev with
  | nil =>
    intro P s hpat hm hc hle hiv
    simp only [List.reverse_nil, List.nil_append] at hpat
    subst hpat
    exact Or.inl ⟨hc, hm, hle, hiv⟩
  | cons a rest ih =>
    intro P s hpat hm hc hle hiv
    have hpat' : rest.reverse ++ (a :: P) = pat := by
      rw [← hpat]; simp
    have ha : a ∈ pat := by rw [← hpat']; simp
    have hstep := hLF a ha P s.l (s.r + 1) hiv (Nat.lt_succ_of_le hle)
    simp only [Nat.add_sub_cancel] at hstep
    obtain ⟨hle', hiv'⟩ := hstep
    have hl1 := hless a ha
    rw [loop_cons]
    generalize (less a + if s.l > 0 then occ (s.l - 1) a else 0) = L at hle' hiv' ⊢
    by_cases hgt : L > less a + occ s.r a - 1
    · -- empty interval: break
      rw [if_pos hgt]
      right
      have hsufP : suffix pat P.length = P := by rw [← hpat]; exact suffix_of_append _ _
      have hsufaP : suffix pat (P.length + 1) = a :: P := by
        rw [← hpat']; exact suffix_of_append rest.reverse (a :: P)
      have hlen : P.length < pat.length := by rw [← hpat']; simp; omega
      refine ⟨rfl, by simpa [hm] using hlen, hle, ?_, ?_⟩
      · simp only [hm, hsufP]; exact hiv
      · simp only [hm, hsufaP]
        have heq : L = less a + occ s.r a := by omega
        rw [heq] at hiv'
        exact ivOf_empty_not_occurs t sa (a :: P) _ hs (by simp) hiv'
    · rw [if_neg hgt]
      have hr1 : less a + occ s.r a - 1 + 1 = less a + occ s.r a :=
        Nat.sub_add_cancel (Nat.le_trans hl1 (Nat.le_add_right _ _))
      exact ih (a :: P)
        { l := L, r := less a + occ s.r a - 1, pl := s.l, pr := s.r, matched := s.matched + 1, complete := s.complete }
        hpat' (by simp [hm]) hc (Nat.le_of_not_lt hgt) (by simp only; rw [hr1]; exact hiv')

/-- **Backward search is correct whenever the index provides the LF-mapping step** (loop-invariant part of the
classical argument: the remembered last non-empty interval, the matched length, the completeness flag). -/
theorem backwardSearch_correct_of_LF (t sa pat : List Nat) (less : Nat → Nat) (occ : Nat → Nat → Nat)
    (hp : pat ≠ []) (hn : 0 < sa.length)
    (hrange : ∀ row, row < sa.length → sa.getD row 0 ≤ t.length)
    (hs : Surj t sa) (hless : ∀ a ∈ pat, 1 ≤ less a) (hLF : ∀ a ∈ pat, LFStep t sa less occ a) :
    BSProp t sa pat (backwardSearch less occ sa.length pat) := by
  have h0 : IvOf t sa [] 0 (sa.length - 1 + 1) := by
    have : sa.length - 1 + 1 = sa.length := by omega
    rw [this]; exact ivOf_nil t sa hrange
  have hfin := loop_spec t sa pat less occ hs hless hLF pat.reverse [] ⟨0, sa.length - 1, 0, sa.length - 1, 0, true⟩
    (by simp) rfl rfl (Nat.zero_le _) h0
  have hlen : 0 < pat.length := by
    cases pat with
    | nil => exact absurd rfl hp
    | cons a q => simp
  unfold backwardSearch finish
  generalize loop less occ pat.reverse ⟨0, sa.length - 1, 0, sa.length - 1, 0, true⟩ = st at hfin ⊢
  rcases hfin with ⟨hc, hm, hle, hiv⟩ | ⟨hc, hm, hle, hiv, hno⟩
  · rw [if_pos (hm.symm ▸ hlen), if_pos hc]
    exact ⟨ivOf_occurs t sa pat _ _ hiv (Nat.lt_succ_of_le hle), ivOf_mapsTo t sa pat _ _ hs hp hiv⟩
  · split
    · rename_i hpos
      rw [if_neg (by simp [hc])]
      refine ⟨hpos, hm, ⟨Nat.le_of_lt hm, ivOf_occurs t sa _ _ _ hiv (Nat.lt_succ_of_le hle), fun l' h1 h2 hocc => ?_⟩, ?_⟩
      · exact hno (occurs_suffix_mono pat t _ l' h1 hocc)
      · apply ivOf_mapsTo t sa _ _ _ hs _ hiv
        intro he
        have : (suffix pat st.matched).length = 0 := by
          rw [he]; rfl
        simp only [suffix, List.length_drop] at this
        omega
    · rename_i hz
      have hz' : st.matched = 0 := Nat.eq_zero_of_not_pos hz
      rw [hz'] at hno
      exact hno

end RbV.BSModel
