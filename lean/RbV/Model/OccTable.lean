import RbV.Model.Occ
/-
The loop of `Occ::new` with its real state: a vector of counters `curr_occ` (one per symbol value < m) and the
table `occ` (one column per symbol value < m; only the columns of the tracked symbols `alpha` are filled).

```
for (i, &c) in bwt.iter().enumerate() {
    curr_occ[c as usize] += 1;
    if i % k as usize == 0 { for &a in &alpha { occ[a].push(curr_occ[a]); } }
}
```
`occTable_col`: the column of every tracked symbol is the single-symbol loop `occNewLoop` of `RbV/Model/Occ.lean`
(hence, by `occNewLoop_eq`, the checkpoint table of the specification).
-/
namespace RbV.OccM

/-- `for &a in &alpha { occ[a].push(curr_occ[a]); }` -/
def pushAll (cur : List Nat) (alpha : List Nat) (occ : List (List Nat)) : List (List Nat) :=
  alpha.foldl (fun o a => o.modify a (· ++ [cur.getD a 0])) occ

theorem length_pushAll (cur alpha : List Nat) (occ : List (List Nat)) : (pushAll cur alpha occ).length = occ.length := by
  unfold pushAll
  induction alpha generalizing occ with
  | nil => rfl
  | cons a as ih => rw [List.foldl_cons, ih]; simp

def occTableGo (k : Nat) (alpha : List Nat) : List Nat → Nat → List Nat × List (List Nat) → List Nat × List (List Nat)
  | [], _, st => st
  | x :: xs, i, (cur, occ) =>
    let cur' := bump cur x
    occTableGo k alpha xs (i + 1) (cur', if i % k = 0 then pushAll cur' alpha occ else occ)

/-- `Occ::new(bwt, k, alphabet).occ` with `m = max_symbol + 1`, `alpha` = tracked symbols -/
def occTable (bwt : List Nat) (k : Nat) (alpha : List Nat) (m : Nat) : List (List Nat) :=
  (occTableGo k alpha bwt 0 (List.replicate m 0, List.replicate m [])).2

theorem pushAll_getElem?_of_not_mem (cur alpha : List Nat) (occ : List (List Nat)) (a : Nat) (h : a ∉ alpha) :
    (pushAll cur alpha occ)[a]? = occ[a]? := by
  unfold pushAll
  induction alpha generalizing occ with
  | nil => rfl
  | cons b bs ih =>
    rw [List.foldl_cons, ih _ (fun hm => h (List.mem_cons_of_mem _ hm)), List.getElem?_modify]
    have : b ≠ a := fun e => h (e ▸ List.mem_cons_self)
    simp [this]

theorem pushAll_getElem? (cur alpha : List Nat) (occ : List (List Nat)) (a : Nat) (hm : a ∈ alpha)
    (hnd : alpha.Nodup) : (pushAll cur alpha occ)[a]? = (occ[a]?).map (· ++ [cur.getD a 0]) := by
  induction alpha generalizing occ with
  | nil => simp at hm
  | cons b bs ih =>
    rw [List.nodup_cons] at hnd
    have hstep : pushAll cur (b :: bs) occ = pushAll cur bs (occ.modify b (· ++ [cur.getD b 0])) := by
      simp [pushAll]
    rw [hstep]
    rw [List.mem_cons] at hm
    by_cases hab : a = b
    · subst hab
      rw [pushAll_getElem?_of_not_mem _ _ _ _ hnd.1, List.getElem?_modify]
      simp
    · rcases hm with hm | hm
      · exact absurd hm hab
      · rw [ih _ hm hnd.2, List.getElem?_modify]
        have : ¬ b = a := fun e => hab e.symm
        simp [this]

theorem occTableGo_col (k : Nat) (alpha : List Nat) (a : Nat) (hm : a ∈ alpha) (hnd : alpha.Nodup)
    (xs : List Nat) (i : Nat) (cur : List Nat) (occ : List (List Nat)) (col : List Nat) (v : Nat)
    (hcur : cur[a]? = some v) (hocc : occ[a]? = some col) :
    (occTableGo k alpha xs i (cur, occ)).2[a]? = some (col ++ occLoop k a xs i v) := by
  induction xs generalizing i cur occ col v with
  | nil => simp [occTableGo, occLoop, hocc]
  | cons x xs ih =>
    simp only [occTableGo, occLoop]
    have hcur' : (bump cur x)[a]? = some (if x = a then v + 1 else v) := by
      rw [bump, List.getElem?_modify, hcur]
      by_cases h : x = a <;> simp [h]
    have hgetD : (bump cur x).getD a 0 = (if x = a then v + 1 else v) := by
      rw [List.getD_eq_getElem?_getD, hcur']; rfl
    by_cases hk : i % k = 0
    · simp only [hk, if_true]
      have hocc' : (pushAll (bump cur x) alpha occ)[a]? = some (col ++ [if x = a then v + 1 else v]) := by
        rw [pushAll_getElem? _ _ _ _ hm hnd, hocc, hgetD]; rfl
      rw [ih (i + 1) _ _ _ _ hcur' hocc']
      simp
    · simp only [hk, if_false]
      exact ih (i + 1) _ _ _ _ hcur' hocc

theorem occTable_col (bwt : List Nat) (k : Nat) (alpha : List Nat) (m a : Nat)
    (hm : a ∈ alpha) (hnd : alpha.Nodup) (ha : a < m) :
    (occTable bwt k alpha m)[a]? = some (occNewLoop bwt k a) := by
  unfold occTable occNewLoop
  have := occTableGo_col k alpha a hm hnd bwt 0 (List.replicate m 0) (List.replicate m []) [] 0
    (by simp [ha]) (by simp [ha])
  simpa using this

end RbV.OccM
