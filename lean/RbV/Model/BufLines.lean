import RbV.Model.Fasta
/-!
# Mirror model of `std::io::BufReader` + `BufRead::read_until(b'\n')` / `read_line`  (property C11)

Core Lean only.  The FASTA/FASTQ reader models (`RbV/Model/Fasta.lean`, `Fastq.lean`) work on `splitLines file`, the
list of pieces that successive `read_line` calls hand out.  This file models *how* `read_line` produces those pieces:

```text
BufReader::fill_buf:   if pos >= filled { filled = inner.read(&mut buf[..cap])?; pos = 0 }   Ok(&buf[pos..filled])
BufReader::consume(n): pos = min(pos + n, filled)
read_until(r, b'\n', out):
    loop {
        let (done, used) = {
            let available = r.fill_buf()?;
            match memchr(b'\n', available) {
                Some(i) => { out.extend_from_slice(&available[..=i]); (true, i + 1) }
                None    => { out.extend_from_slice(available);        (false, available.len()) }
            }
        };
        r.consume(used);
        if done || used == 0 { return Ok(read) }
    }
read_line(r, s: &mut String) = read_until(r, b'\n', s.as_mut_vec()), then UTF-8 validation of the appended bytes
```

* `St.buf` = `&buf[pos..filled]` (the buffered bytes that have not been consumed), `St.src` = the bytes the underlying
  reader has not handed out yet, `St.k` = the number of `read` calls made on the underlying reader so far.
* `c` is the buffer capacity (`BufReader::with_capacity(c, _)`): one `read` is asked for at most `c` bytes.
* `sched : Nat → Nat` is the **read schedule**: the `k`-th `read` call on the underlying reader returns
  `min (sched k) (min c available)` bytes.  A reader that returns between 1 and `min(requested, available)` bytes per
  call, and 0 only at end of input, is exactly such a function with `1 ≤ sched k` (`Admissible`).
  (`Fragmenting` of `harness/src/fragio.rs` is the cyclic schedule given on the case line.)

The loops are defined by well-founded recursion on the number of bytes not yet delivered: a round of `read_until`
either returns (`done`, or `used == 0`) or has consumed a non-empty buffer.  So the *model* terminates for every `c`
and every schedule; what `1 ≤ c` and admissibility buy is **correctness**: an empty `fill_buf` then really means end
of input (otherwise a zero-length read would be taken for end of file and the line cut short).
-/
namespace RbV.BufLines
open RbV.Fastx

/-- the `BufReader` seen from outside -/
structure St where
  buf : Bytes
  src : Bytes
  k : Nat
deriving DecidableEq, Repr, Inhabited

/-- a fresh `BufReader` over a source holding `file` -/
def init (file : Bytes) : St := { buf := [], src := file, k := 0 }

/-- the bytes that have not been delivered yet -/
def St.pending (s : St) : Bytes := s.buf ++ s.src

/-- every `read` before the end of input returns at least one byte -/
def Admissible (sched : Nat → Nat) : Prop := ∀ k, 1 ≤ sched k

/-- `BufReader::fill_buf`: one `read` of at most `c` bytes on the underlying reader, only when nothing is buffered -/
def fillBuf (c : Nat) (sched : Nat → Nat) (s : St) : St :=
  if s.buf.isEmpty then
    let n := min (sched s.k) c                       -- (`take` hands out fewer when fewer are available)
    { buf := s.src.take n, src := s.src.drop n, k := s.k + 1 }
  else s

/-- `BufReader::consume` -/
def consume (s : St) (n : Nat) : St := { s with buf := s.buf.drop n }

/-- `memchr(d, l)`: index of the first `d` -/
def memchr (d : Nat) : Bytes → Option Nat
  | [] => none
  | b :: r => if b = d then some 0 else (memchr d r).map (· + 1)

theorem fillBuf_pending (c : Nat) (sched : Nat → Nat) (s : St) : (fillBuf c sched s).pending = s.pending := by
  unfold fillBuf St.pending
  split
  · rename_i h
    have : s.buf = [] := by simpa using h
    simp [this]
  · rfl

/-- `read_until(b'\n', out)`: the extended output and the new reader state -/
def readUntil (c : Nat) (sched : Nat → Nat) (s : St) (out : Bytes) : Bytes × St :=
  let s1 := fillBuf c sched s
  match memchr 10 s1.buf with
  | some i => (out ++ s1.buf.take (i + 1), consume s1 (i + 1))
  | none =>
    if s1.buf.isEmpty then (out, s1)                                          -- `used == 0`
    else readUntil c sched (consume s1 s1.buf.length) (out ++ s1.buf)
termination_by s.pending.length
decreasing_by
  rename_i hne
  have hne' : ¬ (fillBuf c sched s).buf.isEmpty = true := hne
  have h1 := congrArg List.length (fillBuf_pending c sched s)
  have h2 : 0 < (fillBuf c sched s).buf.length := by
    cases hb : (fillBuf c sched s).buf with
    | nil => simp [hb] at hne'
    | cons => simp
  simp only [St.pending, consume, List.length_append, List.length_drop] at h1 ⊢
  omega

/-- `read_line` into an empty (cleared) string, before UTF-8 validation -/
def readLine (c : Nat) (sched : Nat → Nat) (s : St) : Bytes × St := readUntil c sched s []

/-- no byte is lost or invented: what is appended to the output is taken off the pending bytes -/
theorem readUntil_length (c : Nat) (sched : Nat → Nat) (s : St) (out : Bytes) :
    (readUntil c sched s out).1.length + (readUntil c sched s out).2.pending.length
      = out.length + s.pending.length := by
  fun_induction readUntil c sched s out with
  | case1 s out s1 i hm =>
    have h1 : s1.pending.length = s.pending.length := congrArg List.length (fillBuf_pending c sched s)
    simp only [St.pending, consume, List.length_append, List.length_drop, List.length_take] at h1 ⊢
    omega
  | case2 s out s1 hm he =>
    have h1 : s1.pending.length = s.pending.length := congrArg List.length (fillBuf_pending c sched s)
    simp only [St.pending, List.length_append] at h1 ⊢
    omega
  | case3 s out s1 hm hne ih =>
    have h1 : s1.pending.length = s.pending.length := congrArg List.length (fillBuf_pending c sched s)
    simp only [St.pending, consume, List.length_append, List.length_drop] at h1 ih ⊢
    omega

/-- the lines handed out by repeated `read_line` calls, up to the first empty one (= end of input) -/
def readLines (c : Nat) (sched : Nat → Nat) (s : St) : List Bytes :=
  if (readLine c sched s).1.isEmpty then []
  else (readLine c sched s).1 :: readLines c sched (readLine c sched s).2
termination_by s.pending.length
decreasing_by
  rename_i hne
  have h := readUntil_length c sched s []
  have h2 : 0 < (readLine c sched s).1.length := by
    cases hb : (readLine c sched s).1 with
    | nil => simp [hb] at hne
    | cons => simp
  simp only [readLine, List.length_nil] at h h2 ⊢
  omega

/-- the final state after all lines were read (used for the observable number of `read` calls) -/
def readLinesSt (c : Nat) (sched : Nat → Nat) (s : St) : St :=
  if (readLine c sched s).1.isEmpty then (readLine c sched s).2
  else readLinesSt c sched (readLine c sched s).2
termination_by s.pending.length
decreasing_by
  rename_i hne
  have h := readUntil_length c sched s []
  have h2 : 0 < (readLine c sched s).1.length := by
    cases hb : (readLine c sched s).1 with
    | nil => simp [hb] at hne
    | cons => simp
  simp only [readLine, List.length_nil] at h h2 ⊢
  omega

/-- all lines of a file read through a fresh `BufReader` of capacity `c` over a source with read schedule `sched` -/
def linesVia (c : Nat) (sched : Nat → Nat) (file : Bytes) : List Bytes := readLines c sched (init file)

/-- the cyclic schedule of `Fragmenting` (`harness/src/fragio.rs`) -/
def cyclic (l : List Nat) (k : Nat) : Nat := max 1 (l.getD (k % l.length) 1)

/-- `fastx::get_kind(source)`: `read_exact` of one byte (the source's read number 0, asked for 1 byte), then
`Cursor([b]).chain(source)`: seen by a `BufReader` put on top, read number 0 returns that one byte and read number
`k ≥ 1` is the source's read number `k` — one more admissible schedule over the same byte string. -/
def chainSched (sched : Nat → Nat) (k : Nat) : Nat := if k = 0 then 1 else sched k

/-! ## Specification side: the first line of a byte string -/

/-- the first line (up to and including the first LF, or everything) and what follows it -/
def firstLine : Bytes → Bytes × Bytes
  | [] => ([], [])
  | b :: r => if b = 10 then ([10], r) else ((b :: (firstLine r).1), (firstLine r).2)

end RbV.BufLines
