/-!
# Mirror model of `bio::seq_analysis::orf::Matches::next` (C20)

The Rust iterator slides a three-symbol window over the sequence.  For every index it
* updates the window (`codon`), computes `offset = (index + 1) % 3`,
* pushes `index` on `start_pos[offset]` when the window is a start codon,
* when `start_pos[offset]` is non-empty and the window is a stop codon: emits, for the pending starts in order and
  as long as `index + 1 - start_pos > min_len`, `Orf { start: start_pos - 2, end: index + 1, offset }`
  (it `break`s at the first pending start that is too short) and clears `start_pos[offset]`.
The `found` queue only buffers the emitted ORFs; the iterator yields them in emission order.  `findAll` is the list
of everything the iterator yields.
-/
namespace RbV.Model.OrfScan

structure State where
  /-- `start_pos[0]`, `start_pos[1]`, `start_pos[2]` -/
  p0 : List Nat
  p1 : List Nat
  p2 : List Nat
  /-- the sliding window (`VecDeque<u8>` of at most three symbols) -/
  codon : List Nat
  /-- everything pushed on `found` so far, in order -/
  out : List (Nat × Nat × Nat)

def State.init : State := ⟨[], [], [], [], []⟩

def State.get (st : State) (off : Nat) : List Nat :=
  if off = 0 then st.p0 else if off = 1 then st.p1 else st.p2

def State.set (st : State) (off : Nat) (l : List Nat) : State :=
  if off = 0 then { st with p0 := l } else if off = 1 then { st with p1 := l } else { st with p2 := l }

/-- one iteration of the `for (index, nuc)` loop (`stepP` of `Model/OrfScanP.lean` at the test `index + 1 - s > minLen`) -/
def step (starts stops : List (List Nat)) (minLen : Nat) (st : State) (index nuc : Nat) : State :=
  let codon := (if st.codon.length ≥ 3 then st.codon.drop 1 else st.codon) ++ [nuc]
  let off := (index + 1) % 3
  let st := { st with codon := codon }
  let sp := if starts.contains codon then st.get off ++ [index] else st.get off
  if !sp.isEmpty && stops.contains codon then
    let emitted := (sp.takeWhile fun s => decide (index + 1 - s > minLen)).map fun s => (s - 2, index + 1, off)
    { (st.set off []) with out := st.out ++ emitted }
  else st.set off sp

def run (starts stops : List (List Nat)) (minLen : Nat) : State → Nat → List Nat → State
  | st, _, [] => st
  | st, i, c :: rest => run starts stops minLen (step starts stops minLen st i c) (i + 1) rest

/-- all ORFs the iterator yields, in order -/
def findAll (starts stops : List (List Nat)) (minLen : Nat) (seq : List Nat) : List (Nat × Nat × Nat) :=
  (run starts stops minLen State.init 0 seq).out

end RbV.Model.OrfScan
