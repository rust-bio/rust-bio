import RbV.Model.LFMap
import RbV.Model.Occ
/-
Mirror model of `bwt::bwtfind` and `bwt::invert_bwt`, and the round-trip theorem (C04).

```
let mut less = less(bwt, alphabet);
for (r, &c) in bwt.iter().enumerate() { bwtfind[less[c]] = r; less[c] += 1; }
…
let mut r = bwtfind[0];
for _ in 0..n { r = bwtfind[r]; inverse.push(bwt[r]); }
```
`invert_bwt_correct`: for a text whose last symbol is its unique smallest symbol and a sorted suffix permutation `sa`,
`invertModel (bwtRef t sa) m = t`.  `bwtfind` inverts the slot function `r ↦ less[bwt[r]] + #{bwt[r] before r}` of any list
(`bwtfind_slot`); on a BWT that function is the LF mapping (`slot_eq_lfRef`), which sends the row of a position to the row of
its cyclic predecessor (`lf_mapping`), so following `bwtfind` from the row of the
final sentinel walks through the rows of positions 0, 1, 2, … .
-/
namespace RbV.InvBWT
open RbV RbV.Kasai RbV.LFMap RbV.OccM

def bwtfindGo : List Nat → Nat → List Nat → List Nat → List Nat
  | [], _, _, bf => bf
  | c :: cs, r, less, bf => bwtfindGo cs (r + 1) (bump less c) (bf.set (less.getD c 0) r)

def bwtfindModel (bwt : List Nat) (m : Nat) : List Nat :=
  bwtfindGo bwt 0 (lessModel bwt m) (List.replicate bwt.length 0)

def invertGo (bwt bf : List Nat) : Nat → Nat → List Nat
  | 0, _ => []
  | k + 1, r => bwt.getD (bf.getD r 0) 0 :: invertGo bwt bf k (bf.getD r 0)

def invertModel (bwt : List Nat) (m : Nat) : List Nat :=
  invertGo bwt (bwtfindModel bwt m) bwt.length ((bwtfindModel bwt m).getD 0 0)

theorem length_bwtfindGo :
    ∀ (cs : List Nat) (r : Nat) (ls bf : List Nat), (bwtfindGo cs r ls bf).length = bf.length := by
  intro cs
  induction cs with
  | nil => intro r ls bf; rfl
  | cons c cs ih => intro r ls bf; simp [bwtfindGo, ih]

theorem bwtfindGo_lt (N : Nat) : ∀ (cs : List Nat) (r : Nat) (ls bf : List Nat),
    r + cs.length ≤ N → (∀ v ∈ bf, v < N) → ∀ v ∈ bwtfindGo cs r ls bf, v < N := by
  intro cs
  induction cs with
  | nil => intro r ls bf _ h; exact h
  | cons c cs ih =>
    intro r ls bf hr h
    simp only [List.length_cons] at hr
    simp only [bwtfindGo]
    apply ih (r + 1) _ _ (by omega)
    intro v hv
    rcases List.mem_or_eq_of_mem_set hv with h' | h'
    · exact h v h'
    · omega

/-- the slot written for row `r`: `less[c]` plus the number of earlier rows holding `c` -/
def slot (bwt : List Nat) (r : Nat) : Nat :=
  lessRef bwt (bwt.getD r 0) + (bwt.take r).count (bwt.getD r 0)

theorem slot_eq_lfRef (bwt : List Nat) (r : Nat) (hr : r < bwt.length) : slot bwt r = lfRef bwt r := by
  unfold slot lfRef
  rw [occRef_row bwt r hr]; omega

theorem slot_lt_block (bwt : List Nat) (i : Nat) (hi : i < bwt.length) :
    slot bwt i < lessRef bwt (bwt.getD i 0) + bwt.count (bwt.getD i 0) := by
  have h1 := LF.occLt_succ bwt (bwt.getD i 0) i hi
  rw [if_pos rfl] at h1
  exact Nat.add_lt_add_left (Nat.lt_of_lt_of_le (h1 ▸ Nat.lt_succ_self _) (LF.occLt_le_count bwt _ (i + 1))) _

theorem slot_lt (bwt : List Nat) (i : Nat) (hi : i < bwt.length) : slot bwt i < bwt.length :=
  Nat.lt_of_lt_of_le (slot_lt_block bwt i hi) (lessRef_add_count_le bwt _)

/-- the slot function is the rank of a stable counting sort: strictly increasing on the rows of one symbol, and the block
of a smaller symbol lies below the block of a larger one -/
theorem slot_ne (bwt : List Nat) (i j : Nat) (hij : i < j) (hj : j < bwt.length) : slot bwt i ≠ slot bwt j := by
  have hi := Nat.lt_trans hij hj
  have block : ∀ r r', r < bwt.length → bwt.getD r 0 < bwt.getD r' 0 → slot bwt r < slot bwt r' := fun r r' hr h =>
    Nat.lt_of_lt_of_le (slot_lt_block bwt r hr)
      (Nat.le_trans (lessRef_succ bwt _ ▸ lessRef_mono bwt h) (Nat.le_add_right _ _))
  rcases Nat.lt_trichotomy (bwt.getD i 0) (bwt.getD j 0) with h | h | h
  · exact Nat.ne_of_lt (block i j hi h)
  · have h1 := LF.occLt_succ bwt (bwt.getD i 0) i hi
    rw [if_pos rfl] at h1
    have h2 := LF.occLt_mono bwt (bwt.getD i 0) (i + 1) j hij
    unfold slot
    rw [← h]
    exact Nat.ne_of_lt (Nat.add_lt_add_left (Nat.lt_of_lt_of_le (h1 ▸ Nat.lt_succ_self _) h2) _)
  · exact Nat.ne_of_gt (block j i hj h)

theorem slot_inj (bwt : List Nat) (i j : Nat) (hi : i < bwt.length) (hj : j < bwt.length)
    (h : slot bwt i = slot bwt j) : i = j := by
  rcases Nat.lt_trichotomy i j with hij | hij | hij
  · exact absurd h (slot_ne bwt i j hij hj)
  · exact hij
  · exact absurd h.symm (slot_ne bwt j i hij hi)

theorem bump_seen (bwt less pre : List Nat) (m c : Nat)
    (hless : ∀ x, x < m → less[x]? = some (lessRef bwt x + pre.count x)) :
    ∀ x, x < m → (bump less c)[x]? = some (lessRef bwt x + (pre ++ [c]).count x) := by
  intro x hx
  rw [bump, List.getElem?_modify, hless x hx, List.count_append]
  by_cases hcx : c = x
  · subst hcx; simp; omega
  · have : ¬ (c == x) = true := by simpa using hcx
    simp [hcx]

theorem bwtfindGo_spec (bwt : List Nat) (m : Nat) (hsym : ∀ x ∈ bwt, x < m) :
    ∀ (cs pre less bf : List Nat), bwt = pre ++ cs →
      (∀ c, c < m → less[c]? = some (lessRef bwt c + pre.count c)) →
      bf.length = bwt.length →
      (∀ r', r' < pre.length → bf.getD (slot bwt r') 0 = r') →
      ∀ r', r' < bwt.length → (bwtfindGo cs pre.length less bf).getD (slot bwt r') 0 = r' := by
  intro cs
  induction cs with
  | nil =>
    intro pre less bf hb _ _ hbf r' hr'
    simp only [bwtfindGo]
    apply hbf
    rw [hb] at hr'; simpa using hr'
  | cons c cs ih =>
    intro pre less bf hb hless hlen hbf r' hr'
    simp only [bwtfindGo]
    have hrlen : pre.length < bwt.length := by rw [hb]; simp
    have hcm : c < m := hsym c (by rw [hb]; simp)
    have hbr : bwt.getD pre.length 0 = c := by
      rw [hb, List.getD_eq_getElem?_getD, List.getElem?_append_right (Nat.le_refl _)]; simp
    have htake : bwt.take pre.length = pre := by rw [hb]; simp
    have hslot : less.getD c 0 = slot bwt pre.length := by
      rw [List.getD_eq_getElem?_getD, hless c hcm]
      unfold slot; rw [hbr, htake]; rfl
    have hpre : bwt = (pre ++ [c]) ++ cs := by rw [hb]; simp
    have hl : (pre ++ [c]).length = pre.length + 1 := by simp
    rw [← hl]
    apply ih (pre ++ [c]) _ _ hpre
    · exact bump_seen bwt less pre m c hless
    · rw [List.length_set]; exact hlen
    · intro r'' hr''
      rw [hl] at hr''
      rw [hslot, List.getD_eq_getElem?_getD, List.getElem?_set]
      by_cases he : r'' = pre.length
      · subst he
        rw [if_pos rfl, if_pos (by rw [hlen]; exact slot_lt _ _ hrlen)]; rfl
      · have hne : slot bwt pre.length ≠ slot bwt r'' := by
          intro e
          exact he (slot_inj _ _ _ (by omega) hrlen e.symm)
        rw [if_neg hne, ← List.getD_eq_getElem?_getD]
        exact hbf r'' (by omega)
    · exact hr'

/-- **`bwtfind` inverts the slot function of every list**: `bwtfind[less[c] + #{r' < r | bwt[r'] = c}] = r` -/
theorem bwtfind_slot (bwt : List Nat) (m : Nat) (hsym : ∀ x ∈ bwt, x < m) (r : Nat) (hr : r < bwt.length) :
    (bwtfindModel bwt m).getD (slot bwt r) 0 = r := by
  unfold bwtfindModel
  have := bwtfindGo_spec bwt m hsym bwt [] (lessModel bwt m) (List.replicate bwt.length 0) (by simp)
    (by intro c hc; rw [less_eq bwt m c hc]; simp) (by simp) (by intro r' hr'; simp at hr') r hr
  simpa using this

theorem bwtfind_rank_succ (t sa : List Nat) (h : Sorted t sa) (hs : Single t) (m : Nat) (hm : ∀ x ∈ t, x < m)
    (i : Nat) (hi : i < t.length) :
    (bwtfindModel (bwtRef t sa) m).getD (sa.idxOf i) 0 = sa.idxOf ((i + 1) % t.length) := by
  have hbl := length_bwtRef t sa h.length
  have hsym : ∀ x ∈ bwtRef t sa, x < m := fun x hx => hm x ((bwt_perm t sa h.perm).mem_iff.mp hx)
  have hslot : ∀ r, r < t.length → slot (bwtRef t sa) r = sa.idxOf (cpred t.length (sa.getD r 0)) := by
    intro r hr
    rw [slot_eq_lfRef _ r (by rw [hbl]; exact hr), lf_mapping t sa h hs r hr]
  have hnext : (i + 1) % t.length < t.length := Nat.mod_lt _ hs.pos
  have hr := h.rank_lt _ hnext
  have := bwtfind_slot (bwtRef t sa) m hsym (sa.idxOf ((i + 1) % t.length)) (by rw [hbl]; exact hr)
  rw [hslot _ hr, h.getD_rank _ hnext, cpred_next t.length i hi] at this
  exact this

theorem invertGo_eq (t sa : List Nat) (h : Sorted t sa) (hs : Single t) (m : Nat) (hm : ∀ x ∈ t, x < m) :
    ∀ (k i : Nat), i < t.length →
      invertGo (bwtRef t sa) (bwtfindModel (bwtRef t sa) m) k (sa.idxOf i) =
        (List.range k).map (fun j => t.getD ((i + j) % t.length) 0) := by
  intro k
  induction k with
  | zero => intro i _; rfl
  | succ k ih =>
    intro i hi
    have hnext : (i + 1) % t.length < t.length := Nat.mod_lt _ hs.pos
    simp only [invertGo]
    rw [bwtfind_rank_succ t sa h hs m hm i hi, ih _ hnext, List.range_succ_eq_map, List.map_cons, List.map_map]
    have hr := h.rank_lt _ hnext
    rw [bwtRef_getD t sa h.length _ hr, h.getD_rank _ hnext, cpred_next t.length i hi]
    congr 1
    · rw [Nat.add_zero, Nat.mod_eq_of_lt hi]
    · apply List.map_congr_left
      intro j _
      simp only [Function.comp]
      have e : ((i + 1) % t.length + j) % t.length = (i + Nat.succ j) % t.length := by
        rw [Nat.mod_add_mod]
        congr 1
        omega
      rw [e]

/-- **`invert_bwt(bwt(t)) = t`** for every text whose last symbol is its unique smallest symbol. -/
theorem invert_bwt_correct (t sa : List Nat) (h : Sorted t sa) (hs : Single t) (m : Nat) (hm : ∀ x ∈ t, x < m) :
    invertModel (bwtRef t sa) m = t := by
  unfold invertModel
  have hbl := length_bwtRef t sa h.length
  have h0 : (bwtfindModel (bwtRef t sa) m).getD 0 0 = sa.idxOf 0 := by
    have := bwtfind_rank_succ t sa h hs m hm (t.length - 1) (by have := hs.pos; omega)
    rw [h.rank_last] at this
    have e : (t.length - 1 + 1) % t.length = 0 := by
      have : t.length - 1 + 1 = t.length := by have := hs.pos; omega
      rw [this, Nat.mod_self]
    rw [e] at this
    exact this
  rw [h0, hbl, invertGo_eq t sa h hs m hm t.length 0 hs.pos]
  have : (List.range t.length).map (fun j => t.getD ((0 + j) % t.length) 0) =
      (List.range t.length).map (fun j => t.getD j 0) := by
    apply List.map_congr_left
    intro j hj
    rw [List.mem_range] at hj
    rw [Nat.zero_add, Nat.mod_eq_of_lt hj]
  rw [this, List.map_getD_range]

end RbV.InvBWT
