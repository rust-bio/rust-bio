import RbV.Model.AvlG
/-!
# `AnnotMap` model: one AVL tree per reference id — `find` is the filter on that id's entries
Core Lean only.
-/
namespace RbV.Avl
open RbV.Ivl

/-- all stored (refid, entry) pairs -/
def AMap.entries (m : AMap) : List (Nat × Entry) := m.flatMap (fun p => (toList p.2).map (fun e => (p.1, e)))

/-- the entries stored under reference id `r` -/
def AMap.storedAt (m : AMap) (r : Nat) : List Entry := (m.entries.filter (fun p => p.1 == r)).map (·.2)

/-- distinct keys (it is a map), every tree satisfies the AVL invariant and holds positive-width intervals -/
def AMap.WF (m : AMap) : Prop := (m.map (·.1)).Nodup ∧ ∀ p ∈ m, Inv p.2 ∧ PosW p.2

theorem AMap.storedAt_cons (r' : Nat) (t : Tree) (m : AMap) (r : Nat) :
    AMap.storedAt ((r', t) :: m) r = (if r' = r then toList t else []) ++ AMap.storedAt m r := by
  simp only [AMap.storedAt, AMap.entries, List.flatMap_cons, List.filter_append, List.map_append]
  congr 1
  by_cases h : r' = r
  · subst h
    simp [List.filter_map, Function.comp_def]
  · simp [h, List.filter_map, Function.comp_def]

theorem AMap.storedAt_absent : ∀ (m : AMap) (r : Nat), r ∉ m.map (·.1) → AMap.storedAt m r = []
  | [], _, _ => rfl
  | (r', t) :: m, r, h => by
    simp only [List.map_cons, List.mem_cons, not_or] at h
    rw [AMap.storedAt_cons, AMap.storedAt_absent m r h.2]
    simp [Ne.symm h.1]

theorem AMap.get_cons (r' : Nat) (t : Tree) (m : AMap) (r : Nat) :
    AMap.get ((r', t) :: m) r = if r' = r then some t else AMap.get m r := by
  simp only [AMap.get, List.find?_cons]
  by_cases h : r' = r
  · simp [h]
  · have hb : (r' == r) = false := by simpa using h
    simp [h, hb]

theorem AMap.get_absent : ∀ (m : AMap) (r : Nat), r ∉ m.map (·.1) → AMap.get m r = none
  | [], _, _ => rfl
  | (r', t) :: m, r, h => by
    simp only [List.map_cons, List.mem_cons, not_or] at h
    rw [AMap.get_cons, AMap.get_absent m r h.2]
    simp [Ne.symm h.1]

theorem AMap.storedAt_eq : ∀ (m : AMap) (r : Nat), (m.map (·.1)).Nodup →
    AMap.storedAt m r = match AMap.get m r with | some t => toList t | none => []
  | [], _, _ => rfl
  | (r', t) :: m, r, hn => by
    simp only [List.map_cons, List.nodup_cons] at hn
    rw [AMap.storedAt_cons, AMap.get_cons]
    by_cases h : r' = r
    · subst h
      simp [AMap.storedAt_absent m r' hn.1]
    · simp only [h, if_false, List.nil_append]
      exact AMap.storedAt_eq m r hn.2

theorem AMap.find_perm (m : AMap) (r : Nat) (q : Query) (hw : m.WF) (hq : q.lo < q.hi) :
    (m.find r q).Perm (expected (m.storedAt r) q) := by
  rw [AMap.storedAt_eq m r hw.1]
  unfold AMap.find
  cases hg : AMap.get m r with
  | none => simp [expected]
  | some t =>
    have hmem : ∃ p ∈ m, p.2 = t := by
      unfold AMap.get at hg
      cases hf : m.find? (fun p => p.1 == r) with
      | none => simp [hf] at hg
      | some p =>
        simp [hf] at hg
        exact ⟨p, List.mem_of_find?_eq_some hf, hg⟩
    obtain ⟨p, hp, rfl⟩ := hmem
    have := hw.2 p hp
    exact RbV.Avl.find_perm p.2 q this.1.searchInv this.2 hq

theorem AMap.keys_insertAt : ∀ (m : AMap) (r : Nat) (e : Entry),
    (AMap.insertAt m r e).map (·.1) = if r ∈ m.map (·.1) then m.map (·.1) else m.map (·.1) ++ [r]
  | [], r, e => by simp [AMap.insertAt]
  | (r', t) :: m, r, e => by
    unfold AMap.insertAt
    by_cases h : r' = r
    · simp [h]
    · have ih := AMap.keys_insertAt m r e
      simp only [beq_iff_eq, h, if_false, List.map_cons, List.mem_cons, Ne.symm h, false_or, ih]
      split <;> simp

theorem AMap.wf_insertAt : ∀ (m : AMap) (r : Nat) (e : Entry), m.WF → e.lo < e.hi → (AMap.insertAt m r e).WF := by
  intro m r e hw he
  constructor
  · rw [AMap.keys_insertAt]
    split
    · exact hw.1
    · rename_i hni
      rw [List.nodup_append]
      refine ⟨hw.1, by simp, ?_⟩
      intro a ha b hb
      simp only [List.mem_singleton] at hb
      subst hb
      intro hab
      subst hab
      exact hni ha
  · have key : ∀ (m : AMap), (∀ p ∈ m, Inv p.2 ∧ PosW p.2) → ∀ p ∈ AMap.insertAt m r e, Inv p.2 ∧ PosW p.2 := by
      intro m
      induction m with
      | nil =>
        intro _ p hp
        simp only [AMap.insertAt, List.mem_singleton] at hp
        subst hp
        exact ⟨insert_inv _ _ inv_nil, posW_insert _ _ (by intro a ha; simp [toList] at ha) he⟩
      | cons hd tl ih =>
        intro hall p hp
        obtain ⟨r', t⟩ := hd
        unfold AMap.insertAt at hp
        split at hp
        · simp only [List.mem_cons] at hp
          rcases hp with rfl | hp
          · have := hall (r', t) (by simp)
            exact ⟨insert_inv _ _ this.1, posW_insert _ _ this.2 he⟩
          · exact hall p (by simp [hp])
        · simp only [List.mem_cons] at hp
          rcases hp with rfl | hp
          · exact hall (r', t) (by simp)
          · exact ih (fun p hp => hall p (by simp [hp])) p hp
    exact key m hw.2

theorem AMap.storedAt_insertAt : ∀ (m : AMap) (r : Nat) (e : Entry) (r' : Nat),
    (AMap.storedAt (AMap.insertAt m r e) r').Perm ((if r = r' then [e] else []) ++ AMap.storedAt m r')
  | [], r, e, r' => by
    simp only [AMap.insertAt]
    rw [AMap.storedAt_cons]
    by_cases h : r = r' <;> simp [h, insert, leaf, toList, AMap.storedAt, AMap.entries]
  | (k, t) :: m, r, e, r' => by
    unfold AMap.insertAt
    by_cases hk : k = r
    · subst hk
      simp only [beq_self_eq_true, if_true]
      rw [AMap.storedAt_cons, AMap.storedAt_cons]
      by_cases h : k = r'
      · simp only [h, if_true]
        rw [← List.append_assoc]
        apply List.Perm.append_right
        simpa using toList_insert_perm t e
      · simp [h]
    · simp only [beq_iff_eq, hk, if_false]
      rw [AMap.storedAt_cons, AMap.storedAt_cons]
      have ih := AMap.storedAt_insertAt m r e r'
      refine (List.Perm.append_left _ ih).trans ?_
      rw [← List.append_assoc, ← List.append_assoc]
      exact List.Perm.append_right _ List.perm_append_comm

end RbV.Avl
