import RbV.Ref.BWT
import RbV.Basic.Sorted
import RbV.Gen.Occ
/-
Mirror models for C04 (src/data_structures/bwt.rs).

* `bwtModel`      the loop of `bwt()`                         `bwtModel_eq`
* `occNew`        the checkpoint table as a function          (entry i = occRef bwt (i*k) c)
* `occNewLoop`    the incremental loop of `Occ::new`          `occNewLoop_eq : occNewLoop = occNew`
* `occGet`        `Occ::get` with its three branches          `occ_get_eq : occGet (occNew …) = occRef`
* `occBranch`     which branch of `occGet` answers a query      (named in C04's statements about the threshold and in the evidence tags)
* `lessModel`     `less()`: count array + `utils::prescan`    `less_eq`
-/
namespace RbV.OccM
open RbV

/-- `bwt[r] = if p > 0 { text[p - 1] } else { text[n - 1] }` with `p = pos[r]` -/
def bwtModel (t sa : List Nat) : List Nat :=
  sa.map (fun p => if p > 0 then t.getD (p - 1) 0 else t.getD (t.length - 1) 0)

theorem bwtModel_eq (t sa : List Nat) (h : ∀ p ∈ sa, p < t.length) : bwtModel t sa = bwtRef t sa :=
  map_ite_eq_bwtRef t sa h

/-- checkpoints: entry i = occRef bwt (i*k) c, for every i with i*k < n  (Occ::new pushes at rows i % k == 0) -/
def occNew (bwt : List Nat) (k c : Nat) : List Nat :=
  (List.range ((bwt.length + k - 1) / k)).map (fun i => occRef bwt (i * k) c)

/-- count of c in bwt[lo..=hi] (bytecount::count(&bwt[lo..=hi], a)) -/
def cnt (bwt : List Nat) (lo hi c : Nat) : Nat := ((bwt.drop lo).take (hi + 1 - lo)).count c

/-- `Occ::get(bwt, r, c)` on the checkpoint column `cp` of symbol `c`.  The sampling-rate threshold of the look-ahead
shortcut (`if self.k > 64`) is **not copied**: `Gen.Occ.hiCheckpointThreshold` is extracted from the source text on
every run (tools/gen_tables.py); `occ_get_eq` below does not depend on its value. -/
def occGet (cp : List Nat) (bwt : List Nat) (k r c : Nat) : Nat :=
  let lo := r / k
  let loOcc := cp.getD lo 0
  let fwd := cnt bwt (lo * k + 1) r c + loOcc
  if k > Gen.Occ.hiCheckpointThreshold then
    match cp[lo + 1]? with
    | some hiOcc =>
      if loOcc = hiOcc then loOcc
      else
        let hiIdx := (lo + 1) * k
        if hiIdx - r < k / 2 then hiOcc - cnt bwt (r + 1) hiIdx c else fwd
    | none => fwd
  else fwd

/-- which branch of `Occ::get` answers the query (for the evidence tags) -/
def occBranch (cp : List Nat) (k r : Nat) : String :=
  let lo := r / k
  if k > Gen.Occ.hiCheckpointThreshold then
    match cp[lo + 1]? with
    | some hiOcc =>
      if cp.getD lo 0 = hiOcc then "early-exit"
      else if (lo + 1) * k - r < k / 2 then "backward" else "forward-hi"
    | none => "forward-last"
  else "forward"

theorem count_take_split (l : List Nat) (a b c : Nat) (h : a ≤ b) :
    (l.take b).count c = (l.take a).count c + ((l.drop a).take (b - a)).count c :=
  List.count_take_split l c h

theorem occRef_split (bwt : List Nat) (a r c : Nat) (h : a ≤ r) :
    occRef bwt r c = occRef bwt a c + cnt bwt (a + 1) r c := by
  unfold occRef cnt
  rw [count_take_split bwt (a+1) (r+1) c (by omega)]

theorem getElem?_occNew (bwt : List Nat) (k c i : Nat) (hk : 0 < k) :
    (occNew bwt k c)[i]? = if i * k < bwt.length then some (occRef bwt (i * k) c) else none := by
  unfold occNew
  rw [List.getElem?_map]
  have hiff : i < (bwt.length + k - 1) / k ↔ i * k < bwt.length := by
    rw [Nat.lt_div_iff_mul_lt hk]; omega
  by_cases h : i * k < bwt.length
  · rw [if_pos h, List.getElem?_range (hiff.mpr h)]; rfl
  · rw [if_neg h, List.getElem?_eq_none (by rw [List.length_range]; exact Nat.le_of_not_lt (mt hiff.mp h))]; rfl

theorem getD_occNew (bwt : List Nat) (k c i : Nat) (hk : 0 < k) (hi : i * k < bwt.length) :
    (occNew bwt k c).getD i 0 = occRef bwt (i*k) c := by
  rw [List.getD_eq_getElem?_getD, getElem?_occNew bwt k c i hk, if_pos hi]; rfl

theorem cnt_le (bwt : List Nat) (lo hi c : Nat) : cnt bwt lo hi c ≤ hi + 1 - lo :=
  Nat.le_trans List.count_le_length (List.length_take_le _ _)

theorem occRef_le (bwt : List Nat) (r c : Nat) : occRef bwt r c ≤ bwt.length :=
  Nat.le_trans List.count_le_length (List.length_take_le' _ _)

theorem hi_occNew (bwt : List Nat) (k r a v : Nat) (hk : 0 < k) (h : (occNew bwt k a)[r / k + 1]? = some v) :
    r / k * k + k < bwt.length ∧ v = occRef bwt r a + cnt bwt (r + 1) (r / k * k + k) a := by
  rw [getElem?_occNew bwt k a _ hk, Nat.add_one_mul] at h
  split at h
  · rename_i hin
    exact ⟨hin, by rw [← Option.some.inj h]; exact occRef_split bwt r _ a (Nat.le_of_lt (Nat.lt_div_mul_add hk))⟩
  · cases h

theorem occ_get_eq (bwt : List Nat) (k r c : Nat) (hk : 0 < k) (hr : r < bwt.length) :
    occGet (occNew bwt k c) bwt k r c = occRef bwt r c := by
  have hlo : r / k * k ≤ r := Nat.div_mul_le_self r k
  have hL := getD_occNew bwt k c (r / k) hk (Nat.lt_of_le_of_lt hlo hr)
  have hR := occRef_split bwt (r / k * k) r c hlo
  have hfwd : cnt bwt (r / k * k + 1) r c + (occNew bwt k c).getD (r / k) 0 = occRef bwt r c := by
    rw [hL, hR]; exact Nat.add_comm _ _
  unfold occGet
  simp only
  split
  · split
    · rename_i hiOcc hh
      obtain ⟨-, hv⟩ := hi_occNew bwt k r c hiOcc hk hh
      rw [Nat.add_one_mul]
      split
      · -- no `c` between the two checkpoints
        rename_i heq
        rw [hL] at heq ⊢
        omega
      · split
        · omega
        · exact hfwd
    · exact hfwd
  · exact hfwd

/-! ### the loop of `Occ::new`, projected on one tracked symbol `c`

```
for (i, &ch) in bwt.iter().enumerate() {
    curr_occ[ch] += 1;
    if i % k == 0 { for &a in &alpha { occ[a].push(curr_occ[a]); } }
}
```
-/

/-- remaining symbols, row index `i`, running counter `cur` of symbol `c`; returns the values pushed -/
def occLoop (k c : Nat) : List Nat → Nat → Nat → List Nat
  | [], _, _ => []
  | x :: xs, i, cur =>
    let cur' := if x = c then cur + 1 else cur
    if i % k = 0 then cur' :: occLoop k c xs (i + 1) cur' else occLoop k c xs (i + 1) cur'

def occNewLoop (bwt : List Nat) (k c : Nat) : List Nat := occLoop k c bwt 0 0

theorem occLoop_eq (k c : Nat) (xs pre : List Nat) :
    occLoop k c xs pre.length (pre.count c) =
      ((List.range' pre.length xs.length).filter (fun r => r % k = 0)).map (fun r => occRef (pre ++ xs) r c) := by
  induction xs generalizing pre with
  | nil => simp [occLoop]
  | cons x xs ih =>
    have hcur : (if x = c then pre.count c + 1 else pre.count c) = (pre ++ [x]).count c := by
      by_cases h : x = c <;> simp [h, List.count_append]
    have hlen : pre.length + 1 = (pre ++ [x]).length := by simp
    have happ : pre ++ x :: xs = (pre ++ [x]) ++ xs := by simp
    have hocc : occRef (pre ++ x :: xs) pre.length c = (pre ++ [x]).count c := by
      unfold occRef
      rw [happ, hlen, List.take_left']
      rfl
    simp only [occLoop, List.length_cons, List.range'_succ, List.filter_cons]
    rw [hcur, hlen, ih (pre ++ [x]), ← happ, ← hlen]
    by_cases hm : pre.length % k = 0
    · simp [hm, hocc]
    · simp [hm]

theorem filter_range_mod (n k : Nat) (hk : 0 < k) :
    (List.range n).filter (fun r => r % k = 0) = (List.range ((n + k - 1) / k)).map (fun i => i * k) := by
  apply sorted_eq_of_mem_iff
  · exact List.Pairwise.filter _ List.pairwise_lt_range
  · rw [List.pairwise_map]
    exact List.pairwise_lt_range.imp (fun h => Nat.mul_lt_mul_of_lt_of_le h (Nat.le_refl k) hk)
  · intro r
    simp only [List.mem_filter, List.mem_range, List.mem_map, decide_eq_true_eq]
    constructor
    · rintro ⟨h1, h2⟩
      refine ⟨r / k, ?_, Nat.div_mul_cancel (Nat.dvd_of_mod_eq_zero h2)⟩
      rw [Nat.lt_div_iff_mul_lt hk, Nat.div_mul_cancel (Nat.dvd_of_mod_eq_zero h2)]
      omega
    · rintro ⟨i, h1, rfl⟩
      rw [Nat.lt_div_iff_mul_lt hk] at h1
      exact ⟨by omega, Nat.mul_mod_left i k⟩

theorem map_filter_mod_getElem? {α : Type} (f : Nat → α) (n k pos : Nat) (hk : 0 < k) (hp : pos < n)
    (hm : pos % k = 0) : (((List.range n).filter (fun i => i % k = 0)).map f)[pos / k]? = some (f pos) := by
  rw [filter_range_mod _ _ hk, List.map_map, List.getElem?_map]
  have hlt : pos / k < (n + k - 1) / k := by
    rw [Nat.lt_div_iff_mul_lt hk, Nat.div_mul_cancel (Nat.dvd_of_mod_eq_zero hm)]
    omega
  rw [List.getElem?_range hlt]
  simp only [Option.map_some, Function.comp, Nat.div_mul_cancel (Nat.dvd_of_mod_eq_zero hm)]

theorem occNewLoop_eq (bwt : List Nat) (k c : Nat) (hk : 0 < k) : occNewLoop bwt k c = occNew bwt k c := by
  have := occLoop_eq k c bwt []
  simp only [List.length_nil, List.count_nil, List.nil_append] at this
  unfold occNewLoop occNew
  rw [this, List.range'_eq_map_range]
  have e : List.map (fun x => 0 + x) (List.range bwt.length) = List.range bwt.length := by simp
  rw [e, filter_range_mod _ _ hk, List.map_map]
  rfl

/-- `less[c] += 1` -/
def bump (arr : List Nat) (c : Nat) : List Nat := arr.modify c (· + 1)

theorem modify_eq_set {α : Type} (l : List α) (i : Nat) (f : α → α) (h : i < l.length) :
    l.modify i f = l.set i (f l[i]) := by
  apply List.ext_getElem?
  intro j
  rw [List.getElem?_modify, List.getElem?_set]
  by_cases hij : i = j
  · subst hij; simp [h]
  · simp [hij]

theorem bump_eq_set (cur : List Nat) (c : Nat) (h : c < cur.length) : bump cur c = cur.set c (cur[c] + 1) :=
  modify_eq_set cur c _ h

theorem length_bump (cur : List Nat) (c : Nat) : (bump cur c).length = cur.length := by simp [bump]

theorem bump_le (cur : List Nat) (c i : Nat) (hc : c < cur.length) (hb : ∀ v ∈ cur, v ≤ i) :
    ∀ v ∈ bump cur c, v ≤ i + 1 := by
  intro v hv
  rw [bump_eq_set cur c hc] at hv
  rcases List.mem_or_eq_of_mem_set hv with h | h
  · exact Nat.le_succ_of_le (hb v h)
  · exact h ▸ Nat.succ_le_succ (hb _ (List.getElem_mem hc))

/-- the count loop over the BWT, on an array of `m` zeros -/
def countArr (bwt : List Nat) (m : Nat) : List Nat := bwt.foldl bump (List.replicate m 0)

/-- `utils::prescan(a, neutral = s, +)`: every entry is replaced by the sum of the entries before it -/
def prescanGo : Nat → List Nat → List Nat
  | _, [] => []
  | s, v :: l => s :: prescanGo (s + v) l

def lessModel (bwt : List Nat) (m : Nat) : List Nat := prescanGo 0 (countArr bwt m)

theorem foldl_bump_getElem? (bwt acc : List Nat) (c : Nat) :
    (bwt.foldl bump acc)[c]? = (acc[c]?).map (· + bwt.count c) := by
  induction bwt generalizing acc with
  | nil => simp
  | cons x xs ih =>
    rw [List.foldl_cons, ih, bump, List.getElem?_modify, List.count_cons]
    cases acc[c]? with
    | none => simp
    | some v =>
      by_cases h : x = c
      · subst h; simp; omega
      · have h' : ¬ (x == c) = true := by simpa using h
        simp [h, h']

theorem countArr_eq (bwt : List Nat) (m : Nat) : countArr bwt m = (List.range m).map (fun x => bwt.count x) := by
  apply List.ext_getElem?
  intro c
  unfold countArr
  rw [foldl_bump_getElem?, List.getElem?_replicate, List.getElem?_map]
  by_cases h : c < m
  · rw [if_pos h, List.getElem?_range h]; simp
  · rw [if_neg h, List.getElem?_eq_none (by rw [List.length_range]; exact Nat.le_of_not_lt h)]; rfl

theorem length_countArr (bwt : List Nat) (m : Nat) : (countArr bwt m).length = m := by
  rw [countArr_eq, List.length_map, List.length_range]

theorem prescanGo_getElem? (s : Nat) (l : List Nat) (i : Nat) (h : i < l.length) :
    (prescanGo s l)[i]? = some (s + (l.take i).sum) := by
  induction l generalizing s i with
  | nil => simp at h
  | cons v l ih =>
    cases i with
    | zero => simp [prescanGo]
    | succ i =>
      simp only [prescanGo, List.getElem?_cons_succ, List.take_succ_cons, List.sum_cons]
      rw [ih (s + v) i (by simpa using h)]
      simp; omega

theorem take_countArr (bwt : List Nat) (m c : Nat) (h : c ≤ m) :
    (countArr bwt m).take c = (List.range c).map (fun x => bwt.count x) := by
  rw [countArr_eq, ← List.map_take, List.take_range, Nat.min_eq_left h]

/-- `less()` (array of size m = max_symbol + 2) holds, for every index, the number of smaller symbols -/
theorem less_eq (bwt : List Nat) (m c : Nat) (h : c < m) :
    (lessModel bwt m)[c]? = some (lessRef bwt c) := by
  unfold lessModel
  rw [prescanGo_getElem? 0 _ c (by rw [length_countArr]; exact h), take_countArr bwt m c (by omega),
    List.sum_count_range, Nat.zero_add]
  rfl

theorem length_prescanGo (l : List Nat) : ∀ s, (prescanGo s l).length = l.length := by
  induction l with
  | nil => intro s; rfl
  | cons v l ih => intro s; simp [prescanGo, ih]

theorem length_lessModel (bwt : List Nat) (m : Nat) : (lessModel bwt m).length = m := by
  unfold lessModel; rw [length_prescanGo, length_countArr]

end RbV.OccM
