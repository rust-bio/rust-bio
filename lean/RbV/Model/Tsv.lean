/-!
# Tab-separated record files: BED and GFF/GTF (C13) — model of the format, writer and reader

Bytes are `Nat`s, a file is a `List Nat`.  The record layer is `csv` as `bed.rs` / `gff.rs` configure it
(delimiter TAB, comment byte `#` on the reader only, no headers, default quoting = `"` with doubling, default
terminator = CR, LF or CRLF, writer `QuoteStyle::Necessary`, reader not flexible, input followed by one LF):

* writer (`quoteField`, `recordBody`): a field is put in quotes exactly when it contains TAB, `"`, CR or LF
  (csv-core `requires_quotes`; the writers do **not** configure a comment byte, so `#` never forces quotes); inside
  quotes every `"` is doubled; a record that would otherwise be written as zero bytes is written as `""`.
* reader (`step` / `run`): the NFA of `csv-core` (`Reader::transition_nfa`, `transition_final_nfa`) with the ε-moves
  collapsed: a field is quoted only if its first byte is `"`; inside quotes `""` is one quote and a single `"` ends the
  quoted part (bytes after it up to the next TAB / line end are appended literally); quotes elsewhere are literal;
  CR and LF both end a record, empty records are skipped; `#` at the start of a record opens a comment up to LF.
* `BedRec`, `bedLine`, `readBed` — chrom, start, end + k auxiliary columns; a file has one column count
  (the count of its first record; a line with another count is an error — `csv`'s non-flexible reader).
* `GffRec`, `gffLine`, `readGff` — nine columns; phase `.`/0/1/2; the attribute column per dialect:
  `k=v1,v2;k2=v` (GFF3) or `k v1;k v2;k2 v` (GFF2/GTF2).  The attribute reader `parseAttrs` is the key/value
  regular expression ` *(?P<key>[^dt\t]+)d(?P<value>[^dt\t]+)t?` of `gff.rs` written out as a scanner
  (`matchAt`/`scan`: leftmost match, greedy runs, retry one symbol further on failure), followed by the split on the
  value delimiter and the trimming of quote characters.
* Outcome of reading one record: `ok r`, `err why` (the property demands an error) or `unspec` (the text does not
  say: `+5`, `0x1f`, `007` as numbers).
-/
namespace RbV.Tsv

def TAB : Nat := 9
def LF : Nat := 10
def HASH : Nat := 35
def SPACE : Nat := 32
def CR : Nat := 13
def QUOTE : Nat := 34

/-! ## Splitting and joining -/

/-- put a symbol in front of the first piece -/
def consFirst (c : Nat) : List (List Nat) → List (List Nat)
  | [] => [[c]]
  | p :: ps => (c :: p) :: ps

/-- split at every occurrence of `sep`; always at least one piece -/
def splitOn (sep : Nat) : List Nat → List (List Nat)
  | [] => [[]]
  | c :: r => if c = sep then [] :: splitOn sep r else consFirst c (splitOn sep r)

def join (sep : Nat) : List (List Nat) → List Nat
  | [] => []
  | [p] => p
  | p :: q :: r => p ++ sep :: join sep (q :: r)

/-- a file: every line followed by LF -/
def render : List (List Nat) → List Nat
  | [] => []
  | l :: ls => l ++ LF :: render ls

/-! ## Decimal numbers -/

def toDec (n : Nat) : List Nat :=
  if n < 10 then [48 + n] else toDec (n / 10) ++ [48 + n % 10]

def isDigit (c : Nat) : Bool := decide (48 ≤ c) && decide (c ≤ 57)

def digitsVal (acc : Nat) (s : List Nat) : Nat := s.foldl (fun a c => a * 10 + (c - 48)) acc

/-- a non-empty string of decimal digits → its value -/
def parseDec (s : List Nat) : Option Nat :=
  if s.isEmpty || !s.all isDigit then none else some (digitsVal 0 s)

inductive Num where
  | ok (n : Nat)
  | err
  | unspec
  deriving Repr, DecidableEq

/-- `u64` field: a canonical decimal below 2^64 is that number, a canonical decimal from 2^64 on and anything that
is not a number at all is an error; other spellings some parsers accept (`+5`, `0x1f`, leading zeros) are left open -/
def readU64 (s : List Nat) : Num :=
  match parseDec s with
  | some n =>
    if s = toDec n then (if n < 2 ^ 64 then .ok n else .err) else .unspec
  | none =>
    match s with
    | 43 :: r => if parseDec r |>.isSome then .unspec else .err          -- "+digits"
    | 48 :: 120 :: _ => .unspec                                          -- "0x…"
    | _ => .err

/-! ## Outcome of one line -/

inductive Res (α : Type) where
  | ok (r : α)
  | err (why : String)
  | unspec
  deriving Repr, DecidableEq

/-! ## The csv layer: quoting writer and state-machine reader -/

/-- record terminators of the reader (`Terminator::CRLF`: CR, LF or CRLF) -/
def isTerm (c : Nat) : Bool := c == LF || c == CR

/-- bytes that force quotes around a field (`csv-core` `WriterBuilder::build`, `requires_quotes`): the delimiter,
the quote, CR and LF.  The writers of `bed.rs` / `gff.rs` set no comment byte, so `#` is not among them. -/
def needsQuote (c : Nat) : Bool := c == TAB || c == QUOTE || c == CR || c == LF

/-- `csv_core::writer::quote` with `double_quote = true` -/
def escapeQuotes : List Nat → List Nat
  | [] => []
  | c :: r => if c = QUOTE then QUOTE :: QUOTE :: escapeQuotes r else c :: escapeQuotes r

/-- one field as `QuoteStyle::Necessary` writes it -/
def quoteField (f : List Nat) : List Nat :=
  if f.any needsQuote then QUOTE :: (escapeQuotes f ++ [QUOTE]) else f

/-- one record without its terminator; `""` when nothing else was written (`Writer::terminator`,
`record_bytes == 0`: a sole empty field, or no field at all) -/
def recordBody (fs : List (List Nat)) : List Nat :=
  let b := join TAB (fs.map quoteField)
  if b.isEmpty then [QUOTE, QUOTE] else b

/-- the reader would take the written record for a comment: the first field starts with `#` and nothing in it
forces quotes.  In the BED/GFF line format such a line *is* a comment (`#a` TAB `1` TAB `2`): the record has no
representation in the format and is outside the property's domain (the round-trip theorems exclude it). -/
def hashStart : List (List Nat) → Bool
  | f :: _ => f.head? == some HASH && !f.any needsQuote
  | [] => false

inductive CsvSt where
  | startRecord        -- `StartRecord` (also `EndRecord`, `CRLF`: they differ only in discarding a following LF)
  | startField         -- `StartField` after a delimiter
  | inField            -- `InField`
  | inQuoted           -- `InQuotedField`
  | quoteInQuoted      -- `InDoubleEscapedQuote`: a `"` was seen inside a quoted field
  | inComment          -- `InComment`
  deriving Repr, DecidableEq

/-- reader state: automaton state, bytes of the current field, completed fields of the current record -/
structure Csv where
  st : CsvSt
  fld : List Nat
  flds : List (List Nat)
  deriving Repr, DecidableEq

def Csv.start : Csv := ⟨.startRecord, [], []⟩

/-- `StartField` on byte `c` -/
def stepField (flds : List (List Nat)) (c : Nat) : Csv × Option (List (List Nat)) :=
  if c = QUOTE then (⟨.inQuoted, [], flds⟩, none)
  else if c = TAB then (⟨.startField, [], flds ++ [[]]⟩, none)
  else if isTerm c then (Csv.start, some (flds ++ [[]]))
  else (⟨.inField, [c], flds⟩, none)

/-- one byte: new state and the record that is complete with this byte, if any -/
def step (s : Csv) (c : Nat) : Csv × Option (List (List Nat)) :=
  match s.st with
  | .startRecord =>
    if isTerm c then (Csv.start, none)
    else if c = HASH then (⟨.inComment, [], []⟩, none)
    else stepField [] c
  | .startField => stepField s.flds c
  | .inField =>
    if c = TAB then (⟨.startField, [], s.flds ++ [s.fld]⟩, none)
    else if isTerm c then (Csv.start, some (s.flds ++ [s.fld]))
    else (⟨.inField, s.fld ++ [c], s.flds⟩, none)
  | .inQuoted =>
    if c = QUOTE then (⟨.quoteInQuoted, s.fld, s.flds⟩, none)
    else (⟨.inQuoted, s.fld ++ [c], s.flds⟩, none)
  | .quoteInQuoted =>
    if c = QUOTE then (⟨.inQuoted, s.fld ++ [QUOTE], s.flds⟩, none)
    else if c = TAB then (⟨.startField, [], s.flds ++ [s.fld]⟩, none)
    else if isTerm c then (Csv.start, some (s.flds ++ [s.fld]))
    else (⟨.inField, s.fld ++ [c], s.flds⟩, none)
  | .inComment => if c = LF then (Csv.start, none) else (⟨.inComment, [], []⟩, none)

/-- end of input (`transition_final_nfa`): a record that has begun is delivered -/
def finish (s : Csv) : List (List (List Nat)) :=
  match s.st with
  | .startRecord | .inComment => []
  | _ => [s.flds ++ [s.fld]]

def run : Csv → List Nat → List (List (List Nat))
  | s, [] => finish s
  | s, c :: r => (step s c).2.toList ++ run (step s c).1 r

/-- the records (field lists) of a file as `bed::Reader` / `gff::Reader` hand them to `csv`: the input followed by
one LF (`reader.chain(b"\n")`) -/
def rows (bytes : List Nat) : List (List (List Nat)) := run Csv.start (bytes ++ [LF])

/-- state of the reader after a byte string -/
def runState : Csv → List Nat → Csv
  | s, [] => s
  | s, c :: r => runState (step s c).1 r

/-- the bytes end inside an open quoted field (the hypothesis of `earlier_records_unchanged_*`, `Lemmas/Csv.lean`: `rows_append`) -/
def openQuote (a : List Nat) : Bool := (runState Csv.start a).st == .inQuoted

/-- the non-empty, non-comment lines -/
def dataLines (bytes : List Nat) : List (List Nat) :=
  (splitOn LF bytes).filter fun l => !(l.isEmpty || l.head? == some HASH)

/-- the quote-free reading (`rows = rowsPlain` on bytes without `"` and CR: `Lemmas/CsvPlain.lean`): split at LF, drop empty lines and
comment lines, split at TAB -/
def rowsPlain (bytes : List Nat) : List (List (List Nat)) := (dataLines bytes).map (splitOn TAB)

/-- what a file consists of: record lines, comment lines (`#…`) and blank lines, in any order -/
inductive Item where
  | record (line : List Nat)
  | comment (text : List Nat)
  | blank
  deriving Repr, DecidableEq

def Item.line : Item → List Nat
  | .record l => l
  | .comment t => HASH :: t
  | .blank => []

def Item.rec? : Item → Option (List Nat)
  | .record l => some l
  | _ => none

def fileOf (items : List Item) : List Nat := render (items.map Item.line)

/-- `csv` (non-flexible): every record must have as many fields as the first one -/
def withCount (parse : List (List Nat) → Res α) (rs : List (List (List Nat))) : List (Res α) :=
  match rs with
  | [] => []
  | r0 :: _ => rs.map fun r => if r.length = r0.length then parse r else .err "cols-unequal"

/-! ## BED -/

structure BedRec where
  chrom : List Nat
  start : Nat
  stop : Nat
  aux : List (List Nat)
  deriving Repr, DecidableEq

def bedFields (r : BedRec) : List (List Nat) := r.chrom :: toDec r.start :: toDec r.stop :: r.aux

/-- a written BED record without its line end -/
def bedLine (r : BedRec) : List Nat := recordBody (bedFields r)

def parseBedFields : List (List Nat) → Res BedRec
  | chrom :: s :: e :: aux =>
    match readU64 s, readU64 e with
    | .ok a, .ok b => .ok ⟨chrom, a, b, aux⟩
    | .err, _ => .err "num"
    | _, .err => .err "num"
    | _, _ => .unspec
  | _ => .err "cols-lt3"

def readBed (bytes : List Nat) : List (Res BedRec) := withCount parseBedFields (rows bytes)

/-! ## GFF -/

structure Dialect where
  delim : Nat
  term : Nat
  vdelim : Nat
  /-- several values of one key: joined by `vdelim` (false) or written as repeated `key value` pairs (true) -/
  repeatKeys : Bool
  deriving Repr, DecidableEq

def gff3 : Dialect := ⟨61, 59, 44, false⟩       -- '='  ';'  ','
def gff2 : Dialect := ⟨32, 59, 0, true⟩         -- ' '  ';'  NUL   (also GTF2)

structure GffRec where
  seqname : List Nat
  source : List Nat
  ftype : List Nat
  start : Nat
  stop : Nat
  score : List Nat
  strand : List Nat
  phase : Option Nat
  /-- key ↦ values, keys in the order the writer happens to emit them -/
  attrs : List (List Nat × List (List Nat))
  deriving Repr, DecidableEq

/-- the `key<delim>rawvalue` segments of an attribute column -/
def segments (d : Dialect) (g : List (List Nat × List (List Nat))) : List (List Nat × List Nat) :=
  g.flatMap fun kv => if d.repeatKeys then kv.2.map fun v => (kv.1, v) else [(kv.1, join d.vdelim kv.2)]

def renderSeg (d : Dialect) (s : List Nat × List Nat) : List Nat := s.1 ++ d.delim :: s.2

def writeAttrs (d : Dialect) (g : List (List Nat × List (List Nat))) : List Nat :=
  join d.term ((segments d g).map (renderSeg d))

def phaseStr : Option Nat → List Nat
  | none => [46]
  | some n => toDec n

def gffFields (d : Dialect) (r : GffRec) : List (List Nat) :=
  [r.seqname, r.source, r.ftype, toDec r.start, toDec r.stop, r.score, r.strand, phaseStr r.phase,
   writeAttrs d r.attrs]

/-- a written GFF record without its line end -/
def gffLine (d : Dialect) (r : GffRec) : List Nat := recordBody (gffFields d r)

/-- symbols a key or a value may consist of: `[^<delim><term>\t]` -/
def isKV (d : Dialect) (c : Nat) : Bool := c != d.delim && c != d.term && c != TAB

def isSpace (c : Nat) : Bool := c == SPACE

/-- one attempt to match ` *(key)<delim>(value)<term>?` at the head of `s` → (key, raw value, rest) -/
def matchAt (d : Dialect) (s : List Nat) : Option (List Nat × List Nat × List Nat) :=
  let sp := s.takeWhile isSpace
  let s1 := s.dropWhile isSpace
  let run := s1.takeWhile (isKV d)
  let s2 := s1.dropWhile (isKV d)
  -- `key+`: the greedy ` *` hands one blank back when blanks are key symbols and nothing else is there
  let key : List Nat := if !run.isEmpty then run else if isKV d SPACE && !sp.isEmpty then [SPACE] else []
  if key.isEmpty then none else
  match s2 with
  | c :: s3 =>
    if c = d.delim then
      let val := s3.takeWhile (isKV d)
      let s4 := s3.dropWhile (isKV d)
      if val.isEmpty then none else
      match s4 with
      | t :: s5 => if t = d.term then some (key, val, s5) else some (key, val, s4)
      | [] => some (key, val, [])
    else none
  | [] => none

/-- all matches, leftmost first, non-overlapping (`captures_iter`) -/
def scan (d : Dialect) : Nat → List Nat → List (List Nat × List Nat)
  | 0, _ => []
  | _ + 1, [] => []
  | fuel + 1, c :: r =>
    match matchAt d (c :: r) with
    | some (k, v, rest) => (k, v) :: scan d fuel rest
    | none => scan d fuel r

def isQuote1 (c : Nat) : Bool := c == 39        -- '
def isQuote2 (c : Nat) : Bool := c == 34        -- "

def trimBoth (p : Nat → Bool) (s : List Nat) : List Nat :=
  ((s.dropWhile p).reverse.dropWhile p).reverse

/-- `s.trim_matches('\'').trim_matches('"')` -/
def trimQuotes (s : List Nat) : List Nat := trimBoth isQuote2 (trimBoth isQuote1 s)

/-- attribute column → (key, value) pairs in insertion order -/
def parseAttrs (d : Dialect) (s : List Nat) : List (List Nat × List Nat) :=
  (scan d (s.length + 1) s).flatMap fun kv =>
    (splitOn d.vdelim kv.2).map fun v => (trimQuotes kv.1, trimQuotes v)

/-- the (key, value) pairs of a key ↦ values list -/
def flatPairs (g : List (List Nat × List (List Nat))) : List (List Nat × List Nat) :=
  g.flatMap fun kv => kv.2.map fun v => (kv.1, v)

/-- all values of a key, in insertion order (the multimap view) -/
def valuesOf (pairs : List (List Nat × List Nat)) (k : List Nat) : List (List Nat) :=
  pairs.filterMap fun kv => if kv.1 = k then some kv.2 else none

def insertKV (g : List (List Nat × List (List Nat))) (k v : List Nat) : List (List Nat × List (List Nat)) :=
  match g with
  | [] => [(k, [v])]
  | (k', vs) :: rest => if k' = k then (k', vs ++ [v]) :: rest else (k', vs) :: insertKV rest k v

/-- group pairs by key (first-occurrence order of keys, insertion order of values) -/
def group (pairs : List (List Nat × List Nat)) : List (List Nat × List (List Nat)) :=
  pairs.foldl (fun g kv => insertKV g kv.1 kv.2) []

def readPhase (s : List Nat) : Res (Option Nat) :=
  if s = [46] then .ok none else
  match parseDec s with
  | some n => if s = toDec n then (if n < 3 then .ok (some n) else .err "phase-ge3") else .unspec
  | none =>
    match s with
    | 43 :: r => if parseDec r |>.isSome then .unspec else .err "phase-bad"
    | _ => .err "phase-bad"

/-- a GFF record as the reader builds it: attributes as (key, value) pairs in insertion order -/
structure GffRead where
  seqname : List Nat
  source : List Nat
  ftype : List Nat
  start : Nat
  stop : Nat
  score : List Nat
  strand : List Nat
  phase : Option Nat
  pairs : List (List Nat × List Nat)
  deriving Repr, DecidableEq

def parseGffFields (d : Dialect) : List (List Nat) → Res GffRead
  | [a, b, c, s, e, sc, st, ph, att] =>
    match readU64 s, readU64 e, readPhase ph with
    | .ok x, .ok y, .ok p => .ok ⟨a, b, c, x, y, sc, st, p, parseAttrs d att⟩
    | .err, _, _ => .err "num"
    | _, .err, _ => .err "num"
    | _, _, .err w => .err w
    | _, _, _ => .unspec
  | fs => .err ("cols" ++ toString fs.length)

def readGff (d : Dialect) (bytes : List Nat) : List (Res GffRead) :=
  withCount (parseGffFields d) (rows bytes)

/-- what reading back a written record must give -/
def GffRec.asRead (r : GffRec) : GffRead :=
  ⟨r.seqname, r.source, r.ftype, r.start, r.stop, r.score, r.strand, r.phase, flatPairs r.attrs⟩

end RbV.Tsv
