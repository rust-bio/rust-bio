import RbV.Spec.Containers
/-
Mirror model of `bio::data_structures::smallints::SmallInts<S, B>`.

`smallints : Vec<S>` is a `List Int`, `bigints : BTreeMap<usize, B>` an association list (newest binding
first; `BTreeMap::insert` replaces, which `lookup` of the first binding reproduces).  The small type is
given by its range `[lo, hi]` (`hi = S::max_value()`); `cast(v) : Option<S>` succeeds iff `lo ≤ v ≤ hi`.
Core Lean only.
-/
namespace RbV.Model.SmallInts
open RbV.Spec.SmallInts (Op)

structure St where
  small : List Int
  big : List (Nat × Int)
  deriving Repr

def new : St := { small := [], big := [] }

/-- `num_traits::cast::<B, S>(v)` -/
def cast (lo hi v : Int) : Option Int := if lo ≤ v ∧ v ≤ hi then some v else none

def lookup (m : List (Nat × Int)) (i : Nat) : Option Int :=
  match m with
  | [] => none
  | (k, v) :: r => if k = i then some v else lookup r i

/-- `from_elem(v, n)` (the assertion `v > 0 → v < max` is the caller's obligation) -/
def fromElem (v : Int) (n : Nat) : St := { small := List.replicate n v, big := [] }

/-- `fn real_value(&self, i, v: S) -> Option<B>` -/
def realValue (hi : Int) (s : St) (i : Nat) (v : Int) : Option Int :=
  if v < hi then some v else lookup s.big i

/-- `pub fn get(&self, i) -> Option<B>` -/
def get (hi : Int) (s : St) (i : Nat) : Option Int :=
  if h : i < s.small.length then realValue hi s i s.small[i] else none

/-- `pub fn push(&mut self, v: B)` -/
def push (lo hi : Int) (s : St) (v : Int) : St :=
  match cast lo hi v with
  | some x => if x < hi then { s with small := s.small ++ [x] }
              else { small := s.small ++ [hi], big := (s.small.length, v) :: s.big }
  | none => { small := s.small ++ [hi], big := (s.small.length, v) :: s.big }

/-- `pub fn set(&mut self, i, v: B)` -/
def set (lo hi : Int) (s : St) (i : Nat) (v : Int) : St :=
  match cast lo hi v with
  | some x => if x < hi then { s with small := s.small.set i x }
              else { small := s.small.set i hi, big := (i, v) :: s.big }
  | none => { small := s.small.set i hi, big := (i, v) :: s.big }

/-- the state after one operation (`get`, `iter`, `decompress` leave it unchanged); `Thm/GenSrcSmallInts.srcStep` mirrors
it operation by operation -/
def step (lo hi : Int) (s : St) : Op → St
  | .push v => push lo hi s v
  | .set i v => set lo hi s i v
  | .get _ => s
  | .iter => s
  | .decompress => s

/-- `iter()` / `decompress()`: `real_value(i, smallints[i])` for every `i`, stopping at the first `None` -/
def iterFrom (hi : Int) (s : St) : List Int → Nat → List Int
  | [], _ => []
  | v :: r, i =>
    match realValue hi s i v with
    | some x => x :: iterFrom hi s r (i + 1)
    | none => []

def toList (hi : Int) (s : St) : List Int := iterFrom hi s s.small 0

end RbV.Model.SmallInts
