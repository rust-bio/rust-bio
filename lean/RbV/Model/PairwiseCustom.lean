import RbV.Spec.Align
/-!
Mirror model of `bio::alignment::pairwise::Aligner::custom` (src/alignment/pairwise/mod.rs), written to follow
the Rust code statement by statement: two rolling columns `S/I/D` indexed by `j % 2`, the suffix-clip
trackers `Lx/Ly/Sn`, one traceback cell (three 4-bit fields) per matrix cell, the two post-loops for the last
column and the traceback state machine.  `i32` is modelled by `Int` (the correspondence runs inside the `AlignEnv`
envelope where no overflow occurs); the traceback loop carries fuel (a model of a non-terminating traceback
returns `none`).

Status: executable model, *run* by the C01 driver on every `custom/global/semiglobal/local` call and compared
with the implementation's whole observable result (score, coordinates, operations) — a difference is reported
as tag `drift`, never as a violation (tie-breaks are not part of the property).  No refinement theorem
is proved about this mirror; those of `RbV/Thm/C01.lean` are about the functional mirror `Model/PairwiseFill.lean`.
-/
namespace RbV.Model.Pairwise
open RbV.Align

structure Cell where
  s : Nat
  i : Nat
  d : Nat
deriving Inhabited, Repr

def TB_START : Nat := 0
def TB_INS : Nat := 1
def TB_DEL : Nat := 2
def TB_SUBST : Nat := 3
def TB_MATCH : Nat := 4
def TB_XCLIP_PREFIX : Nat := 5
def TB_XCLIP_SUFFIX : Nat := 6
def TB_YCLIP_PREFIX : Nat := 7
def TB_YCLIP_SUFFIX : Nat := 8

abbrev Col := Array Int

def set2 (a : Array Col) (k i : Nat) (v : Int) : Array Col := a.set! k ((a[k]!).set! i v)
def get2 (a : Array Col) (k i : Nat) : Int := (a[k]!)[i]!

/-- all the state `custom` leaves behind before the traceback -/
structure Filled where
  S : Array Col
  Lx : Array Nat
  Ly : Array Nat
  tb : Array Cell
  score : Int

def fill (sc : Sc) (cl : Clip) (x y : Array Nat) : Filled := Id.run do
  let m := x.size
  let n := y.size
  let cols := n + 1
  let MIN := minScore
  let go := sc.go
  let ge := sc.ge
  -- self.traceback.init(m, n)
  let mut tb : Array Cell := Array.replicate ((m + 1) * (n + 1)) ⟨TB_START, TB_START, TB_START⟩
  let mut I : Array Col := #[Array.replicate (m + 1) MIN, Array.replicate (m + 1) MIN]
  let mut D : Array Col := #[Array.replicate (m + 1) MIN, Array.replicate (m + 1) MIN]
  let mut S : Array Col := #[Array.replicate (m + 1) MIN, Array.replicate (m + 1) MIN]
  let mut Lx : Array Nat := Array.replicate (n + 1) 0
  let mut Ly : Array Nat := Array.replicate (m + 1) 0
  let mut Sn : Col := Array.replicate (m + 1) MIN
  for k in [0:2] do
    S := set2 S k 0 0
    if k == 0 then
      tb := tb.set! 0 ⟨TB_START, TB_START, TB_START⟩
      Sn := Sn.set! 0 cl.ys
      Ly := Ly.set! 0 n
    for i in [1:m + 1] do
      let mut t : Cell := ⟨TB_START, TB_START, TB_START⟩
      if i == 1 then
        I := set2 I k i (go + ge)
        t := { t with i := TB_START }
      else
        let i_score := go + ge * (i : Int)
        let c_score := cl.xp + go + ge
        if i_score > c_score then
          I := set2 I k i i_score
          t := { t with i := TB_INS }
        else
          I := set2 I k i c_score
          t := { t with i := TB_XCLIP_PREFIX }
      if i == m then
        t := { t with s := TB_XCLIP_SUFFIX }
      else
        S := set2 S k i MIN
      if get2 I k i > get2 S k i then
        S := set2 S k i (get2 I k i)
        t := { t with s := TB_INS }
      if cl.xp > get2 S k i then
        S := set2 S k i cl.xp
        t := { t with s := TB_XCLIP_PREFIX }
      if i != m && get2 S k i + cl.xs > get2 S k m then
        S := set2 S k m (get2 S k i + cl.xs)
        Lx := Lx.set! 0 (m - i)
      if k == 0 then
        tb := tb.set! (i * cols + 0) t
      if get2 S k i + cl.ys > Sn[i]! then
        Sn := Sn.set! i (get2 S k i + cl.ys)
        Ly := Ly.set! i n
  for j in [1:n + 1] do
    let curr := j % 2
    let prev := 1 - curr
    -- i = 0
    let mut t0 : Cell := ⟨TB_START, TB_START, TB_START⟩
    I := set2 I curr 0 MIN
    if j == 1 then
      D := set2 D curr 0 (go + ge)
      t0 := { t0 with d := TB_START }
    else
      let d_score := go + ge * (j : Int)
      let c_score := cl.yp + go + ge
      if d_score > c_score then
        D := set2 D curr 0 d_score
        t0 := { t0 with d := TB_DEL }
      else
        D := set2 D curr 0 c_score
        t0 := { t0 with d := TB_YCLIP_PREFIX }
    if get2 D curr 0 > cl.yp then
      S := set2 S curr 0 (get2 D curr 0)
      t0 := { t0 with s := TB_DEL }
    else
      S := set2 S curr 0 cl.yp
      t0 := { t0 with s := TB_YCLIP_PREFIX }
    if j == n && Sn[0]! > get2 S curr 0 then
      S := set2 S curr 0 Sn[0]!
      t0 := { t0 with s := TB_YCLIP_SUFFIX }
    else if get2 S curr 0 + cl.ys > Sn[0]! then
      Sn := Sn.set! 0 (get2 S curr 0 + cl.ys)
      Ly := Ly.set! 0 (n - j)
    tb := tb.set! (0 * cols + j) t0
    for i in [1:m + 1] do
      S := set2 S curr i MIN
    let q := y[j - 1]!
    let xclip_score := cl.xp + max cl.yp (go + ge * (j : Int))
    for i in [1:m + 1] do
      let p := x[i - 1]!
      let mut t : Cell := ⟨TB_START, TB_START, TB_START⟩
      let m_score := get2 S prev (i - 1) + sc.w p q
      let i_score := get2 I curr (i - 1) + ge
      let s_score := get2 S curr (i - 1) + go + ge
      let mut best_i_score := s_score
      if i_score > s_score then
        best_i_score := i_score
        t := { t with i := TB_INS }
      else
        best_i_score := s_score
        t := { t with i := (tb[(i - 1) * cols + j]!).s }
      let d_score := get2 D prev i + ge
      let s_score2 := get2 S prev i + go + ge
      let mut best_d_score := s_score2
      if d_score > s_score2 then
        best_d_score := d_score
        t := { t with d := TB_DEL }
      else
        best_d_score := s_score2
        t := { t with d := (tb[i * cols + (j - 1)]!).s }
      t := { t with s := TB_XCLIP_SUFFIX }
      let mut best_s_score := get2 S curr i
      if m_score > best_s_score then
        best_s_score := m_score
        t := { t with s := if p == q then TB_MATCH else TB_SUBST }
      if best_i_score > best_s_score then
        best_s_score := best_i_score
        t := { t with s := TB_INS }
      if best_d_score > best_s_score then
        best_s_score := best_d_score
        t := { t with s := TB_DEL }
      if xclip_score > best_s_score then
        best_s_score := xclip_score
        t := { t with s := TB_XCLIP_PREFIX }
      let yclip_score := cl.yp + go + ge * (i : Int)
      if yclip_score > best_s_score then
        best_s_score := yclip_score
        t := { t with s := TB_YCLIP_PREFIX }
      S := set2 S curr i best_s_score
      I := set2 I curr i best_i_score
      D := set2 D curr i best_d_score
      if get2 S curr i + cl.xs > get2 S curr m then
        S := set2 S curr m (get2 S curr i + cl.xs)
        Lx := Lx.set! j (m - i)
      if get2 S curr i + cl.ys > Sn[i]! then
        Sn := Sn.set! i (get2 S curr i + cl.ys)
        Ly := Ly.set! i (n - j)
      tb := tb.set! (i * cols + j) t
  -- Handle suffix clipping in the j = n case
  let jn := n
  let cn := jn % 2
  for i in [0:m + 1] do
    if Sn[i]! > get2 S cn i then
      S := set2 S cn i Sn[i]!
      tb := tb.modify (i * cols + jn) fun c => { c with s := TB_YCLIP_SUFFIX }
    if get2 S cn i + cl.xs > get2 S cn m then
      S := set2 S cn m (get2 S cn i + cl.xs)
      Lx := Lx.set! jn (m - i)
      tb := tb.modify (m * cols + jn) fun c => { c with s := TB_XCLIP_SUFFIX }
  -- recompute the last column of I
  for i in [1:m + 1] do
    let s_score := get2 S cn (i - 1) + go + ge
    if s_score > get2 I cn i then
      I := set2 I cn i s_score
      let s_bit := (tb[(i - 1) * cols + jn]!).s
      tb := tb.modify (i * cols + jn) fun c => { c with i := s_bit }
    if s_score > get2 S cn i then
      S := set2 S cn i s_score
      tb := tb.modify (i * cols + jn) fun c => { c with s := TB_INS }
      if get2 S cn i + cl.xs > get2 S cn m then
        S := set2 S cn m (get2 S cn i + cl.xs)
        Lx := Lx.set! jn (m - i)
        tb := tb.modify (m * cols + jn) fun c => { c with s := TB_XCLIP_SUFFIX }
  return ⟨S, Lx, Ly, tb, get2 S (n % 2) m⟩

structure TbState where
  i : Nat
  j : Nat
  layer : Nat
  ops : List AOp      -- forward order: each traceback step conses in front (the Rust code pushes and reverses)
  xstart : Nat
  ystart : Nat
  xend : Nat
  yend : Nat

/-- one iteration of the traceback `loop`; `none` = `break` (TB_START) or the `panic!` arm -/
def tbStep (f : Filled) (cols : Nat) (st : TbState) : Option TbState :=
  let cell (i j : Nat) : Cell := f.tb[i * cols + j]!
  let l := st.layer
  if l == TB_START then none
  else if l == TB_INS then
    some { st with ops := .core .ins :: st.ops, layer := (cell st.i st.j).i, i := st.i - 1 }
  else if l == TB_DEL then
    some { st with ops := .core .del :: st.ops, layer := (cell st.i st.j).d, j := st.j - 1 }
  else if l == TB_MATCH then
    some { st with ops := .core .mat :: st.ops, layer := (cell (st.i - 1) (st.j - 1)).s, i := st.i - 1, j := st.j - 1 }
  else if l == TB_SUBST then
    some { st with ops := .core .sub :: st.ops, layer := (cell (st.i - 1) (st.j - 1)).s, i := st.i - 1, j := st.j - 1 }
  else if l == TB_XCLIP_PREFIX then
    some { st with ops := .xclip st.i :: st.ops, xstart := st.i, i := 0, layer := (cell 0 st.j).s }
  else if l == TB_XCLIP_SUFFIX then
    let i' := st.i - f.Lx[st.j]!
    some { st with ops := .xclip f.Lx[st.j]! :: st.ops, i := i', xend := i', layer := (cell i' st.j).s }
  else if l == TB_YCLIP_PREFIX then
    some { st with ops := .yclip st.j :: st.ops, ystart := st.j, j := 0, layer := (cell st.i 0).s }
  else if l == TB_YCLIP_SUFFIX then
    let j' := st.j - f.Ly[st.i]!
    some { st with ops := .yclip f.Ly[st.i]! :: st.ops, j := j', yend := j', layer := (cell st.i j').s }
  else none

def tbLoop (f : Filled) (cols : Nat) : Nat → TbState → Option TbState
  | 0, _ => none                      -- fuel exhausted: the real loop would not have terminated
  | fuel + 1, st =>
    if st.layer == TB_START then some st
    else match tbStep f cols st with
      | none => none
      | some st' => tbLoop f cols fuel st'

/-- the whole of `Aligner::custom`: the reported `Alignment` (mode omitted) -/
def custom (sc : Sc) (cl : Clip) (xl yl : List Nat) : Option Out :=
  let x := xl.toArray
  let y := yl.toArray
  let m := x.size
  let n := y.size
  let f := fill sc cl x y
  let st0 : TbState := ⟨m, n, (f.tb[m * (n + 1) + n]!).s, [], 0, 0, m, n⟩
  -- every step either consumes a symbol or is one of at most four clips
  match tbLoop f (n + 1) (2 * (m + n) + 16) st0 with
  | none => none
  | some st =>
    -- `operations.reverse()`: `ops` was built by consing, i.e. it already is in forward order
    some ⟨f.score, st.xstart, st.xend, st.ystart, st.yend, m, n, st.ops⟩

/-- `filter_clip_operations` -/
def filterClips (o : Out) : Out := { o with ops := o.ops.filter fun a => match a with | .core _ => true | _ => false }

end RbV.Model.Pairwise
