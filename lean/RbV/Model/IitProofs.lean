import RbV.Model.Iit
/-!
# Proofs about the array-backed mirror model (`RbV/Model/Iit.lean`), part 1: the explicit-stack search

`find_eq`: on a start-sorted array whose `max` fields bound the ends of the in-range part of every implicit
subtree (`MaxUB`), `find_into` returns exactly the overlapping entries, in index order — for every n.
`node_iff` (a node of level `k` is an index `x` with `x + 1` an odd multiple of `2^k`) is what the arithmetic on nodes rests on;
`StackOk`, `findLoop_leaf/down/up`, `StackOk.induction`: the invariant of the loop, its three rounds, and induction over
its runs — used here for `findLoop_eq` and in `RbV/Thm/GenSrcIit.lean` for the translated loop.
Core Lean only.
-/
namespace RbV.Iit
open RbV.Ivl

def slice (a : List Cell) (lo hi : Nat) : List Cell := (a.take hi).drop lo

theorem getElem?_slice (a : List Cell) (lo hi i : Nat) :
    (slice a lo hi)[i]? = if lo + i < hi then a[lo + i]? else none := by
  simp only [slice, List.getElem?_drop, List.getElem?_take]

theorem length_slice (a : List Cell) (lo hi : Nat) : (slice a lo hi).length = min hi a.length - lo := by
  simp [slice]

theorem slice_split (a : List Cell) (lo mid hi : Nat) (h1 : lo ≤ mid) (h2 : mid ≤ hi) :
    slice a lo hi = slice a lo mid ++ slice a mid hi := by
  unfold slice
  by_cases hlo : lo ≤ a.length
  · have e : a.take mid = (a.take hi).take mid := by rw [List.take_take, Nat.min_eq_left h2]
    rw [e, ← List.drop_append_of_le_length (by simp only [List.length_take]; omega), List.take_append_drop]
  · have hn : ∀ k n, lo ≤ n → (a.take k).drop n = [] := fun k n hn =>
      List.drop_eq_nil_of_le (Nat.le_trans (List.length_take_le' _ _) (Nat.le_trans (Nat.le_of_not_le hlo) hn))
    rw [hn _ _ (Nat.le_refl _), hn _ _ (Nat.le_refl _), hn _ _ h1]
    rfl

theorem slice_empty (a : List Cell) (lo hi : Nat) (h : a.length ≤ lo ∨ hi ≤ lo) : slice a lo hi = [] := by
  apply List.eq_nil_of_length_eq_zero
  rw [length_slice]; omega

theorem slice_one (a : List Cell) (x : Nat) (h : x < a.length) : slice a x (x + 1) = [getC a x] := by
  apply List.ext_getElem?
  intro i
  rw [getElem?_slice]
  cases i with
  | zero => simp [getC, h]
  | succ i => simp

theorem mem_slice {a : List Cell} {lo hi : Nat} {c : Cell} (h : c ∈ slice a lo hi) :
    ∃ j, lo ≤ j ∧ j < hi ∧ j < a.length ∧ c = getC a j := by
  obtain ⟨i, hi'⟩ := List.mem_iff_getElem?.mp h
  rw [getElem?_slice] at hi'
  split at hi'
  · rename_i hlt
    have hl : lo + i < a.length := by
      by_cases hh : lo + i < a.length
      · exact hh
      · rw [List.getElem?_eq_none (by omega)] at hi'; simp at hi'
    refine ⟨lo + i, by omega, hlt, hl, ?_⟩
    simp [getC, hi']
  · simp at hi'

theorem slice_all (a : List Cell) : slice a 0 a.length = a := by simp [slice]

theorem slice_beyond (a : List Cell) (lo hi : Nat) (h : a.length ≤ hi) : slice a lo hi = slice a lo a.length := by
  simp [slice, List.take_of_length_le h]

theorem slice_min (a : List Cell) (lo hi : Nat) : slice a lo (min hi a.length) = slice a lo hi := by
  by_cases h : hi ≤ a.length
  · rw [Nat.min_eq_left h]
  · rw [Nat.min_eq_right (by omega), slice_beyond a lo hi (by omega)]

/-! ## the leaf scan on a start-sorted run is the overlap filter -/

def SortedC (a : List Cell) : Prop := a.Pairwise (fun c d => c.e.lo ≤ d.e.lo)

def ans (q : Query) (cs : List Cell) : List Entry := expected (cs.map (·.e)) q

theorem ans_append (q : Query) (a b : List Cell) : ans q (a ++ b) = ans q a ++ ans q b := by
  simp [ans, expected]

theorem ans_eq_nil (q : Query) (cs : List Cell) (h : ∀ c ∈ cs, ¬ Overlaps q c.e) : ans q cs = [] := by
  simp only [ans, expected, List.filter_eq_nil_iff, decide_eq_true_eq, List.mem_map]
  rintro e ⟨c, hc, rfl⟩
  exact h c hc

theorem ans_cons (q : Query) (c : Cell) (cs : List Cell) :
    ans q (c :: cs) = (if Overlaps q c.e then [c.e] else []) ++ ans q cs := by
  simp only [ans, expected, List.map_cons, List.filter_cons]
  split <;> simp_all

theorem ans_one (q : Query) (c : Cell) (h : c.e.lo < q.hi) :
    ans q [c] = if q.lo < c.e.hi then [c.e] else [] := by
  rw [ans_cons]
  simp only [ans, expected, List.map_nil, List.filter_nil, List.append_nil, Overlaps]
  by_cases h2 : q.lo < c.e.hi <;> simp [h, h2]

theorem scan_eq (q : Query) : ∀ (cs : List Cell), SortedC cs → scan q cs = ans q cs
  | [], _ => rfl
  | c :: cs, hs => by
    unfold SortedC at hs
    rw [List.pairwise_cons] at hs
    unfold scan
    split
    · rename_i hge
      symm
      apply ans_eq_nil
      intro d hd
      simp only [List.mem_cons] at hd
      unfold Overlaps
      rcases hd with rfl | hd
      · omega
      · have := hs.1 d hd; omega
    · rename_i hlt
      have ih := scan_eq q cs hs.2
      rw [ans_cons, ih]
      split
      · rename_i hov
        have : Overlaps q c.e := ⟨hov, by omega⟩
        simp [this]
      · rename_i hov
        have : ¬ Overlaps q c.e := fun h => hov h.1
        simp [this]

theorem sortedC_slice (a : List Cell) (lo hi : Nat) (h : SortedC a) : SortedC (slice a lo hi) := by
  unfold SortedC slice at *
  exact (h.sublist (List.take_sublist _ _)).sublist (List.drop_sublist _ _)

theorem sortedC_get (a : List Cell) (h : SortedC a) (i j : Nat) (hij : i ≤ j) (hj : j < a.length) :
    (getC a i).e.lo ≤ (getC a j).e.lo := by
  unfold SortedC at h
  rcases Nat.lt_or_eq_of_le hij with hlt | rfl
  · have := List.pairwise_iff_getElem.mp h i j (by omega) hj hlt
    simpa [getC, hj, (by omega : i < a.length)] using this
  · omega

/-- `x` is a node of level `k`: `x ≡ 2^k − 1 (mod 2^(k+1))` -/
def Node (k x : Nat) : Prop := x % 2 ^ (k + 1) + 1 = 2 ^ k

theorem two_pow_succ (k : Nat) : 2 ^ (k + 1) = 2 * 2 ^ k := by rw [Nat.pow_succ, Nat.mul_comm]

theorem two_pow_succ_succ (k : Nat) : 2 ^ (k + 2) = 4 * 2 ^ k := by
  rw [Nat.pow_succ, Nat.pow_succ, Nat.mul_assoc, Nat.mul_comm]

theorem mod_of_eq {x m q r : Nat} (h : x = m * q + r) (hr : r < m) : x % m = r := by
  rw [h, Nat.mul_add_mod, Nat.mod_eq_of_lt hr]

theorem node_iff {k x : Nat} : Node k x ↔ ∃ t, x + 1 = 2 ^ k * (2 * t + 1) := by
  have hp := Nat.two_pow_pos k
  unfold Node
  rw [two_pow_succ]
  constructor
  · intro h
    refine ⟨x / (2 * 2 ^ k), ?_⟩
    have := Nat.div_add_mod x (2 * 2 ^ k)
    rw [Nat.mul_add, Nat.mul_one, Nat.mul_left_comm, ← Nat.mul_assoc]
    omega
  · rintro ⟨t, h⟩
    rw [Nat.mul_add, Nat.mul_one, Nat.mul_left_comm, ← Nat.mul_assoc] at h
    rw [mod_of_eq (show x = 2 * 2 ^ k * t + (2 ^ k - 1) by omega) (by omega)]; omega

theorem node_ge {k x : Nat} (h : Node k x) : 2 ^ k ≤ x + 1 := by
  obtain ⟨t, ht⟩ := node_iff.mp h
  rw [ht]; exact Nat.le_mul_of_pos_right _ (Nat.succ_pos _)

theorem node_children {k x : Nat} (h : Node (k + 1) x) : Node k (x - 2 ^ k) ∧ Node k (x + 2 ^ k) := by
  obtain ⟨t, ht⟩ := node_iff.mp h
  have hp := Nat.two_pow_pos k
  rw [two_pow_succ] at ht
  refine ⟨node_iff.mpr ⟨2 * t, ?_⟩, node_iff.mpr ⟨2 * t + 1, ?_⟩⟩ <;>
    simp only [Nat.mul_add, Nat.mul_one, Nat.mul_left_comm _ 2, Nat.mul_assoc] at ht ⊢ <;> omega

theorem node_left {k x : Nat} (h : Node (k + 1) x) : Node k (x - 2 ^ k) := (node_children h).1

theorem node_right {k x : Nat} (h : Node (k + 1) x) : Node k (x + 2 ^ k) := (node_children h).2

theorem left_range {k x : Nat} (h : Node (k + 1) x) :
    x - 2 ^ k + 1 - 2 ^ k = x + 1 - 2 ^ (k + 1) ∧ x - 2 ^ k + 2 ^ k = x := by
  have := node_ge h
  have := Nat.two_pow_pos k
  rw [two_pow_succ] at *
  omega

theorem right_range (k x : Nat) : x + 2 ^ k + 1 - 2 ^ k = x + 1 ∧ x + 2 ^ k + 2 ^ k = x + 2 ^ (k + 1) := by
  rw [two_pow_succ]; omega

theorem node_root (K : Nat) : Node K (2 ^ K - 1) :=
  node_iff.mpr ⟨0, by have := Nat.two_pow_pos K; rw [Nat.mul_zero, Nat.zero_add, Nat.mul_one]; omega⟩

theorem node_shift {k x : Nat} (h : Node k x) : (x >>> k) <<< k = x + 1 - 2 ^ k := by
  obtain ⟨t, ht⟩ := node_iff.mp h
  have hp := Nat.two_pow_pos k
  rw [Nat.mul_add, Nat.mul_one] at ht
  rw [Nat.shiftRight_eq_div_pow, Nat.shiftLeft_eq,
    Nat.div_eq_of_lt_le (k := 2 * t) (by rw [Nat.mul_comm]; omega) (by rw [Nat.add_mul, Nat.one_mul, Nat.mul_comm]; omega),
    Nat.mul_comm]
  omega


/-! ## the explicit-stack search -/

/-- every in-range node's `max` bounds the ends of the in-range entries of its subtree -/
def MaxUB (a : List Cell) : Prop :=
  ∀ k x, Node k x → x < a.length → ∀ j, x + 1 - 2 ^ k ≤ j → j < x + 2 ^ k → j < a.length →
    (getC a j).e.hi ≤ (getC a x).mx

/-- what a stack cell still has to contribute: its whole subtree (`w = false`) or the node and its right
subtree (`w = true`), in index order -/
def cellAns (a : List Cell) (q : Query) (c : SC) : List Entry :=
  if c.w then ans q (slice a c.x (c.x + 2 ^ c.k)) else ans q (slice a (c.x + 1 - 2 ^ c.k) (c.x + 2 ^ c.k))

/-- the cells `find_into` scans for a stack cell of level `k ≤ 3` (of any vector of `n` cells) -/
def leafCells {α : Type} (a : List α) (n k x : Nat) : List α :=
  (a.take (min ((x >>> k) <<< k + (1 <<< (k + 1)) - 1) n)).drop ((x >>> k) <<< k)

/-- the scan of a small subtree (`k ≤ 3` in `find_into`, but true of every node) is the whole contribution of the node -/
theorem scan_node (a : List Cell) (q : Query) (hs : SortedC a) {k x : Nat} (hn : Node k x) :
    scan q (leafCells a a.length k x) = cellAns a q ⟨k, x, false⟩ := by
  have hge := node_ge hn
  have e1 : x + 1 - 2 ^ k + 2 * 2 ^ k - 1 = x + 2 ^ k := by omega
  show scan q (slice a _ _) = ans q (slice a _ _)
  rw [scan_eq q _ (sortedC_slice a _ _ hs), node_shift hn, Nat.one_shiftLeft, two_pow_succ, e1, slice_min]

theorem cellAns_split (a : List Cell) (q : Query) {j x : Nat} (hn : Node (j + 1) x) :
    cellAns a q ⟨j + 1, x, false⟩ = cellAns a q ⟨j, x - 2 ^ j, false⟩ ++ cellAns a q ⟨j + 1, x, true⟩ := by
  simp only [cellAns, Bool.false_eq_true, if_false, if_true]
  rw [← ans_append, (left_range hn).1, (left_range hn).2,
    ← slice_split a _ x _ (Nat.sub_le_of_le_add (Nat.add_le_add_left (Nat.two_pow_pos _) x)) (Nat.le_add_right x _)]

theorem cellAns_pruned (a : List Cell) (q : Query) (hm : MaxUB a) {k y : Nat} (hn : Node k y)
    (h : ¬ (y ≥ a.length ∨ (getC a y).mx > q.lo)) : cellAns a q ⟨k, y, false⟩ = [] := by
  apply ans_eq_nil
  intro c hcm
  obtain ⟨i, hi1, hi2, hi3, rfl⟩ := mem_slice hcm
  have := hm k y hn (by omega) i hi1 hi2 hi3
  unfold Overlaps; omega

theorem cellAns_visit (a : List Cell) (q : Query) {j x : Nat} (hx : x < a.length) (hlo : (getC a x).e.lo < q.hi) :
    cellAns a q ⟨j + 1, x, true⟩
      = (if q.lo < (getC a x).e.hi then [(getC a x).e] else []) ++ cellAns a q ⟨j, x + 2 ^ j, false⟩ := by
  simp only [cellAns, Bool.false_eq_true, if_false, if_true]
  rw [slice_split a x (x + 1) _ (Nat.le_succ x) (Nat.add_le_add_left (Nat.two_pow_pos _) x), ans_append, slice_one a x hx,
    ans_one q _ hlo, (right_range j x).1, (right_range j x).2]

theorem cellAns_stop (a : List Cell) (q : Query) (hs : SortedC a) {k x : Nat}
    (h : ¬ (x < a.length ∧ (getC a x).e.lo < q.hi)) : cellAns a q ⟨k, x, true⟩ = [] := by
  show ans q (slice a x (x + 2 ^ k)) = []
  by_cases hx : x < a.length
  · apply ans_eq_nil
    intro c hcm
    obtain ⟨i, hi1, hi2, hi3, rfl⟩ := mem_slice hcm
    have := sortedC_get a hs x i hi1 hi3
    have hlo : ¬ (getC a x).e.lo < q.hi := fun hlt => h ⟨hx, hlt⟩
    unfold Overlaps; omega
  · rw [slice_empty a _ _ (Or.inl (by omega))]; rfl

/-! ### the stack of `find_into`: its invariant, the three rounds of the loop, and induction over them -/

/-- a stack cell is a node of its level inside the tree of height `K`; a cell whose left subtree was dealt with (`w`) is
never one of the small subtrees that are scanned -/
def OkC (K : Nat) (c : SC) : Prop := Node c.k c.x ∧ c.x + 2 ^ c.k ≤ 2 ^ (K + 1) ∧ c.k ≤ K ∧ (c.w = true → ¬ c.k ≤ 3)

/-- the invariant of the `while t > 0` loop: every cell is `OkC`, and the levels increase strictly from the top (so at
most `K + 1` cells are ever on the stack) -/
def StackOk (K : Nat) : List SC → Prop
  | [] => True
  | c :: S => OkC K c ∧ (∀ d ∈ S, c.k < d.k) ∧ StackOk K S

theorem StackOk.head {K : Nat} {c : SC} {S : List SC} (h : StackOk K (c :: S)) : OkC K c := h.1

theorem StackOk.tail {K : Nat} {c : SC} {S : List SC} (h : StackOk K (c :: S)) : StackOk K S := h.2.2

theorem stackOk_root (K : Nat) : StackOk K [⟨K, 2 ^ K - 1, false⟩] :=
  have hp := Nat.two_pow_pos K
  ⟨⟨node_root K, by show 2 ^ K - 1 + 2 ^ K ≤ 2 ^ (K + 1); rw [Nat.pow_succ]; omega, Nat.le_refl _, fun h => nomatch h⟩,
    fun _ hd => (nomatch hd), trivial⟩

/-- the levels increase from the top and end at `K` or below -/
theorem length_le_of_increasing {K : Nat} : ∀ {S : List SC} {c : SC}, StackOk K (c :: S) → S.length + c.k ≤ K
  | [], _, h => (Nat.zero_add _).symm ▸ h.1.2.2.1
  | d :: S, c, h => by
    have := length_le_of_increasing h.2.2
    have := h.2.1 d List.mem_cons_self
    simp only [List.length_cons]
    omega

theorem StackOk.mark {K j x : Nat} {S : List SC} (h : StackOk K (⟨j + 1, x, false⟩ :: S)) (hj : ¬ j + 1 ≤ 3) :
    StackOk K (⟨j + 1, x, true⟩ :: S) :=
  ⟨⟨h.1.1, h.1.2.1, h.1.2.2.1, fun _ => hj⟩, h.2⟩

/-- the left child goes above its parent, the right child in its place -/
theorem StackOk.left {K j x : Nat} {S : List SC} (h : StackOk K (⟨j + 1, x, true⟩ :: S)) :
    StackOk K (⟨j, x - 2 ^ j, false⟩ :: ⟨j + 1, x, true⟩ :: S) := by
  obtain ⟨⟨hn, hb, hk, -⟩, hlt, -⟩ := id h
  have e := two_pow_succ j
  simp only at hn hb hk
  refine ⟨⟨node_left hn, by simp only; omega, by simp only; omega, fun h => nomatch h⟩, fun d hd => ?_, h⟩
  rcases List.mem_cons.mp hd with rfl | hd
  · exact Nat.lt_succ_self j
  · exact Nat.lt_trans (Nat.lt_succ_self j) (hlt d hd)

theorem StackOk.right {K j x : Nat} {S : List SC} (h : StackOk K (⟨j + 1, x, true⟩ :: S)) :
    StackOk K (⟨j, x + 2 ^ j, false⟩ :: S) := by
  obtain ⟨⟨hn, hb, hk, -⟩, hlt, hS⟩ := h
  simp only at hn hb hk
  exact ⟨⟨node_right hn, by simp only; omega, by simp only; omega, fun h => nomatch h⟩,
    fun d hd => Nat.lt_trans (Nat.lt_succ_self j) (hlt d hd), hS⟩

theorem stackWeight_cons (c : SC) (S : List SC) : stackWeight (c :: S) = c.weight + stackWeight S := by
  simp only [stackWeight, List.map_cons, List.sum_cons]

theorem weight_pop (c : SC) (S : List SC) : stackWeight S < stackWeight (c :: S) := by
  have : 0 < c.weight := by
    unfold SC.weight; split
    · exact Nat.succ_pos _
    · exact pow3_pos _
  rw [stackWeight_cons]; omega

theorem weight_mark (k x : Nat) (S : List SC) : stackWeight (⟨k, x, true⟩ :: S) < stackWeight (⟨k, x, false⟩ :: S) := by
  have := pow3_pos k
  simp only [stackWeight_cons, SC.weight, if_true, Bool.false_eq_true, if_false, Nat.pow_succ]
  omega

theorem weight_left (j x y : Nat) (S : List SC) :
    stackWeight (⟨j, y, false⟩ :: ⟨j + 1, x, true⟩ :: S) < stackWeight (⟨j + 1, x, false⟩ :: S) := by
  have := pow3_pos j
  simp only [stackWeight_cons, SC.weight, if_true, Bool.false_eq_true, if_false, Nat.pow_succ]
  omega

theorem weight_right (j x y : Nat) (S : List SC) :
    stackWeight (⟨j, y, false⟩ :: S) < stackWeight (⟨j + 1, x, true⟩ :: S) := by
  simp only [stackWeight_cons, SC.weight, if_true, Bool.false_eq_true, if_false, Nat.pow_succ]
  omega

/-! the three rounds of the loop, with the shifts of the code read as powers of two -/

theorem findLoop_leaf (a : List Cell) (n : Nat) (q : Query) {k : Nat} (x : Nat) (w : Bool) (st : List SC) (hk : k ≤ 3) :
    findLoop a n q (⟨k, x, w⟩ :: st) =
      scan q (leafCells a n k x) ++ findLoop a n q st := by
  rw [findLoop, if_pos hk]; rfl

theorem findLoop_down (a : List Cell) (n : Nat) (q : Query) {j : Nat} (x : Nat) (st : List SC) (hj : ¬ j + 1 ≤ 3) :
    findLoop a n q (⟨j + 1, x, false⟩ :: st) =
      if x - 2 ^ j ≥ n ∨ (getC a (x - 2 ^ j)).mx > q.lo then
        findLoop a n q (⟨j, x - 2 ^ j, false⟩ :: ⟨j + 1, x, true⟩ :: st)
      else findLoop a n q (⟨j + 1, x, true⟩ :: st) := by
  rw [findLoop, if_neg hj]
  simp only [Bool.not_false, if_true, Nat.add_sub_cancel, Nat.one_shiftLeft]

theorem findLoop_up (a : List Cell) (n : Nat) (q : Query) {j : Nat} (x : Nat) (st : List SC) (hj : ¬ j + 1 ≤ 3) :
    findLoop a n q (⟨j + 1, x, true⟩ :: st) =
      if x < n ∧ (getC a x).e.lo < q.hi then
        (if q.lo < (getC a x).e.hi then [(getC a x).e] else []) ++ findLoop a n q (⟨j, x + 2 ^ j, false⟩ :: st)
      else findLoop a n q st := by
  rw [findLoop, if_neg hj]
  simp only [Bool.not_true, Bool.false_eq_true, if_false, Nat.add_sub_cancel, Nat.one_shiftLeft]

/-- induction over the runs of the loop from a stack that satisfies the invariant: a small subtree is scanned and popped;
a node seen for the first time is marked, with or without its left child pushed on top; a marked node is replaced by its
right child or popped.  Each stack the loop may go to satisfies the invariant again and is lighter. -/
theorem StackOk.induction {K : Nat} {motive : List SC → Prop} (nil : motive [])
    (leaf : ∀ k x st, k ≤ 3 → StackOk K (⟨k, x, false⟩ :: st) → motive st → motive (⟨k, x, false⟩ :: st))
    (down : ∀ j x st, ¬ j + 1 ≤ 3 → StackOk K (⟨j + 1, x, false⟩ :: st) →
      motive (⟨j, x - 2 ^ j, false⟩ :: ⟨j + 1, x, true⟩ :: st) → motive (⟨j + 1, x, true⟩ :: st) →
      motive (⟨j + 1, x, false⟩ :: st))
    (up : ∀ j x st, ¬ j + 1 ≤ 3 → StackOk K (⟨j + 1, x, true⟩ :: st) →
      motive (⟨j, x + 2 ^ j, false⟩ :: st) → motive st → motive (⟨j + 1, x, true⟩ :: st)) :
    ∀ S, StackOk K S → motive S := by
  suffices h : ∀ n S, stackWeight S < n → StackOk K S → motive S from fun S => h _ S (Nat.lt_succ_self _)
  intro n
  induction n with
  | zero => intro S h; exact absurd h (Nat.not_lt_zero _)
  | succ n ih =>
    intro S hw hS
    have sub : ∀ S', stackWeight S' < stackWeight S → StackOk K S' → motive S' :=
      fun S' h => ih S' (Nat.lt_of_lt_of_le h (Nat.le_of_lt_succ hw))
    match S, hS with
    | [], _ => exact nil
    | ⟨k, x, w⟩ :: st, hS =>
      by_cases hk : k ≤ 3
      · obtain rfl : w = false := Bool.eq_false_iff.mpr (fun hw => hS.head.2.2.2 hw hk)
        exact leaf k x st hk hS (sub st (weight_pop _ _) hS.tail)
      · obtain ⟨j, rfl⟩ := Nat.exists_eq_add_one_of_ne_zero (fun h : k = 0 => hk (h ▸ Nat.zero_le 3))
        cases w
        · exact down j x st hk hS (sub _ (weight_left j x _ st) (hS.mark hk).left) (sub _ (weight_mark _ x st) (hS.mark hk))
        · exact up j x st hk hS (sub _ (weight_right j x _ st) hS.right) (sub _ (weight_pop _ st) hS.tail)

theorem findLoop_eq (a : List Cell) (q : Query) (hs : SortedC a) (hm : MaxUB a) {K : Nat} :
    ∀ (S : List SC), StackOk K S → findLoop a a.length q S = S.flatMap (cellAns a q) := by
  refine StackOk.induction (by rw [findLoop]; rfl) ?_ ?_ ?_
  · intro k x st hk hS ih
    rw [findLoop_leaf a _ q x false st hk, ih, List.flatMap_cons, scan_node a q hs hS.head.1]
  · intro j x st hj hS ih1 ih2
    have hn : Node (j + 1) x := hS.head.1
    rw [findLoop_down a _ q x st hj, List.flatMap_cons, cellAns_split a q hn]
    split
    · rw [ih1, List.flatMap_cons, List.flatMap_cons, List.append_assoc]
    · rename_i hc
      rw [ih2, List.flatMap_cons, cellAns_pruned a q hm (node_left hn) hc, List.nil_append]
  · intro j x st hj hS ih1 ih2
    rw [findLoop_up a _ q x st hj, List.flatMap_cons]
    split
    · rename_i hc
      rw [ih1, List.flatMap_cons, cellAns_visit a q hc.1 hc.2, List.append_assoc]
    · rename_i hc
      rw [ih2, cellAns_stop a q hs hc, List.nil_append]

/-- `find` on an indexed state: exactly the overlapping entries, in index order -/
theorem find_eq (a : List Cell) (K : Nat) (q : Query) (hs : SortedC a) (hm : MaxUB a)
    (hK : a.length < 2 ^ (K + 1)) :
    findLoop a a.length q [⟨K, (1 <<< K) - 1, false⟩] = ans q a := by
  rw [Nat.one_shiftLeft, findLoop_eq a q hs hm _ (stackOk_root K)]
  simp only [List.flatMap_cons, List.flatMap_nil, List.append_nil, cellAns, Bool.false_eq_true, if_false]
  have hp := Nat.two_pow_pos K
  have h1 : 2 ^ K - 1 + 1 - 2 ^ K = 0 := by omega
  rw [h1, slice_beyond a 0 _ (by omega), slice_all]

end RbV.Iit
