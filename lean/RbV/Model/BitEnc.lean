import RbV.Spec.Containers
/-
C18 [A] — mirror model of `bio::data_structures::bitenc::BitEnc` (src/data_structures/bitenc.rs).

`storage : Vec<u32>` is a `List Nat` (every block `< 2^32`; the `u32` truncation of `<<` is written out
as `% 2^32`), `len` the number of symbols.  `width`, `mask`, `usable_bits_per_block` are functions of `w`.
Every function follows the Rust body statement by statement, `push_values` too (fill-up loop bounded by the
usable bits, value masked before it is replicated); `known/C18.json` records the histories on which the code
before commit 48b7982 deviated from this model.
Core Lean only.
-/
namespace RbV.Model.BitEnc
open RbV.Spec.BitEnc (Op)

def U32 : Nat := 2 ^ 32

structure St where
  storage : List Nat
  len : Nat
  deriving Repr, DecidableEq

/-- `fn mask(width) -> u32 { (1 << width) - 1 }` -/
def mask (w : Nat) : Nat := (1 <<< w) - 1

/-- `usable_bits_per_block: 32 - 32 % width` -/
def usable (w : Nat) : Nat := 32 - 32 % w

/-- `BitEnc::new(width)` -/
def new : St := { storage := [], len := 0 }

/-- `fn addr(&self, i) -> (block, bit)` -/
def addr (w i : Nat) : Nat × Nat :=
  let k := i * w
  (k / usable w, k % usable w)

/-- `fn get_by_addr`: `((self.storage[block] >> bit) & self.mask) as u8` -/
def getByAddr (w : Nat) (st : List Nat) (block bit : Nat) : Nat :=
  ((st.getD block 0) >>> bit) &&& mask w

/-- the three read-modify-write statements of `set_by_addr` on one block -/
def rmw (w x bit value : Nat) : Nat :=
  let m := (mask w <<< bit) % U32          -- let mask = self.mask << bit;
  let x1 := x ||| m                        -- self.storage[block] |= mask;
  let x2 := x1 ^^^ m                       -- self.storage[block] ^= mask;
  x2 ||| (((value &&& mask w) <<< bit) % U32)   -- … |= (u32::from(value) & self.mask) << bit;

/-- `fn set_by_addr(&mut self, block, bit, value)` (Rust panics when `block` is out of bounds; here the
list is returned unchanged and the theorems carry the bound) -/
def setByAddr (w : Nat) (st : List Nat) (block bit value : Nat) : List Nat :=
  st.set block (rmw w (st.getD block 0) bit value)

/-- `pub fn push(&mut self, value)` -/
def push (w : Nat) (s : St) (value : Nat) : St :=
  let (block, bit) := addr w s.len
  let st := if bit = 0 then s.storage ++ [0] else s.storage
  { storage := setByAddr w st block bit value, len := s.len + 1 }

/-- the fill-up loop `for bit in (bit..usable).step_by(width).take(n) { set_by_addr; n -= 1; len += 1 }`;
returns the state and the remaining `n` -/
def fillLoop (w block value : Nat) : Nat → Nat → St → St × Nat
  | _, 0, s => (s, 0)
  | bit, n + 1, s =>
    if bit < usable w then
      fillLoop w block value (bit + w) n
        { storage := setByAddr w s.storage block bit value, len := s.len + 1 }
    else (s, n + 1)

/-- `for _ in 0..32 / width { value_block |= v; v <<= width; }` -/
def valueBlockLoop (w : Nat) : Nat → Nat → Nat → Nat
  | 0, _, acc => acc
  | k + 1, v, acc => valueBlockLoop w k ((v <<< w) % U32) (acc ||| v)

def valueBlock (w value : Nat) : Nat := valueBlockLoop w (32 / w) (value &&& mask w) 0

/-- `Vec::resize(new_len, x)` -/
def resize (st : List Nat) (n x : Nat) : List Nat := st.take n ++ List.replicate (n - st.length) x

/-- `pub fn push_values(&mut self, n, value)` -/
def pushValues (w : Nat) (s : St) (n value : Nat) : St :=
  let (block, bit) := addr w s.len
  let (s1, n1) := if bit > 0 then fillLoop w block value bit n s else (s, n)
  if n1 > 0 then
    let vb := valueBlock w value
    let i := s1.len + n1
    let (block, bit) := addr w i
    let st := resize s1.storage block vb
    let st := if bit > 0 then st ++ [vb >>> (usable w - bit)] else st
    { storage := st, len := i }
  else s1

/-- `pub fn set(&mut self, i, value)` -/
def set (w : Nat) (s : St) (i value : Nat) : St :=
  let (block, bit) := addr w i
  { s with storage := setByAddr w s.storage block bit value }

/-- `pub fn get(&self, i) -> Option<u8>` -/
def get (w : Nat) (s : St) (i : Nat) : Option Nat :=
  if i ≥ s.len then none
  else
    let (block, bit) := addr w i
    some (getByAddr w s.storage block bit)

/-- `pub fn clear(&mut self)` -/
def clear (_s : St) : St := { storage := [], len := 0 }

/-- `nr_blocks` -/
def nrBlocks (s : St) : Nat := s.storage.length

/-- one operation of a history -/
def step (w : Nat) (s : St) : Op → St
  | .push v => push w s v
  | .pushValues n v => pushValues w s n v
  | .set i v => set w s i v
  | .get _ => s
  | .iter => s
  | .clear => clear s

/-- `iter()`: `get(0), get(1), …` until `None` -/
def toList (w : Nat) (s : St) : List Nat :=
  (List.range s.len).map (fun i => getByAddr w s.storage (addr w i).1 (addr w i).2)

end RbV.Model.BitEnc
