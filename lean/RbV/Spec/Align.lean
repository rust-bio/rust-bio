import RbV.Gen.Limits
/-
Pairwise alignment with affine gaps and clipped ends — the mathematical content of C01 / C02
(core Lean only).

Conventions are those of rust-bio's `pairwise` module:
* `ins` consumes one symbol of `x` (x aligned with a gap), `del` consumes one symbol of `y`;
* a maximal run of `k` insertions (or of `k` deletions) costs `go + k·ge`; an insertion directly after a
  deletion (or vice versa) opens a new gap;
* `mat` is only allowed on equal symbols and `sub` only on unequal ones; both score `w a b`;
* an alignment aligns the sub-range `x[xs..xe]` with `y[ys..ye]`; each of the four clipped ends that is
  **non-empty** costs its clip penalty once.
-/
namespace RbV.Align

inductive Op | mat | sub | ins | del
deriving DecidableEq, Repr

/-- kind of the previous column (needed for the affine gap cost) -/
inductive St | none | ins | del
deriving DecidableEq, Repr

structure Sc where
  w : Nat → Nat → Int
  go : Int
  ge : Int

/-- the four clip penalties (x prefix, x suffix, y prefix, y suffix) -/
structure Clip where
  xp : Int
  xs : Int
  yp : Int
  ys : Int
deriving DecidableEq, Repr

/-- `MIN_SCORE` of `bio::alignment::pairwise`: the code's "minus infinity" (an ordinary integer here).
Not a copy: `RbV/Gen/Limits.lean` is regenerated from the source text of `pairwise/mod.rs` on every `./check C01|C02`
(tools/gen_tables.py), so the specification follows the tree under test; what the value must satisfy is stated in
`RbV/Thm/GenLimits.lean` and, as property theorems, in `RbV/Thm/C01.lean` / `C02.lean`.  No theorem about `score`/`opt`/`accept`
depends on the numeric value. -/
def minScore : Int := RbV.Gen.Limits.minScorePairwise

def gapI (sc : Sc) : St → Int
  | .ins => sc.ge
  | _ => sc.go + sc.ge

def gapD (sc : Sc) : St → Int
  | .del => sc.ge
  | _ => sc.go + sc.ge

theorem gapI_of_ne_ins (sc : Sc) {st : St} (h : st ≠ .ins) : gapI sc st = sc.go + sc.ge := by
  cases st <;> first | rfl | exact absurd rfl h

theorem gapD_of_ne_del (sc : Sc) {st : St} (h : st ≠ .del) : gapD sc st = sc.go + sc.ge := by
  cases st <;> first | rfl | exact absurd rfl h

/-- score of an operation list aligning exactly `x` with `y`; `none` = not a valid alignment of `x` with `y` -/
def score (sc : Sc) : St → List Nat → List Nat → List Op → Option Int
  | _, [], [], [] => some 0
  | _, a :: x, b :: y, .mat :: r =>
      if a = b then (score sc .none x y r).map (· + sc.w a b) else none
  | _, a :: x, b :: y, .sub :: r =>
      if a ≠ b then (score sc .none x y r).map (· + sc.w a b) else none
  | st, _ :: x, y, .ins :: r => (score sc .ins x y r).map (· + gapI sc st)
  | st, x, _ :: y, .del :: r => (score sc .del x y r).map (· + gapD sc st)
  | _, _, _, _ => none

/-! what the first operation of an alignment consumes and scores -/

/-- the `del` equation for any `X` (`score` matches on `x` first, so `simp [score]` gives it only after `cases X`) -/
theorem score_del_eq (sc : Sc) (st : St) (X : List Nat) (b : Nat) (Y : List Nat) (r : List Op) :
    score sc st X (b :: Y) (.del :: r) = (score sc .del X Y r).map (· + gapD sc st) := by cases X <;> rfl

theorem score_ins_cons {sc : Sc} {st : St} {X Y : List Nat} {r : List Op} {v : Int}
    (h : score sc st X Y (.ins :: r) = some v) :
    ∃ a X' u, X = a :: X' ∧ score sc .ins X' Y r = some u ∧ v = u + gapI sc st := by
  cases X with
  | nil => cases Y <;> simp [score] at h
  | cons a X' =>
    simp only [score, Option.map_eq_some_iff] at h
    obtain ⟨u, hu, rfl⟩ := h
    exact ⟨a, X', u, rfl, hu, rfl⟩

theorem score_del_cons {sc : Sc} {st : St} {X Y : List Nat} {r : List Op} {v : Int}
    (h : score sc st X Y (.del :: r) = some v) :
    ∃ b Y' u, Y = b :: Y' ∧ score sc .del X Y' r = some u ∧ v = u + gapD sc st := by
  cases Y with
  | nil => cases X <;> simp [score] at h
  | cons b Y' =>
    rw [score_del_eq, Option.map_eq_some_iff] at h
    obtain ⟨u, hu, rfl⟩ := h
    exact ⟨b, Y', u, rfl, hu, rfl⟩

theorem score_diag_cons {sc : Sc} {st : St} {X Y : List Nat} {r : List Op} {v : Int} {o : Op}
    (ho : o = .mat ∨ o = .sub) (h : score sc st X Y (o :: r) = some v) :
    ∃ a X' b Y' u, X = a :: X' ∧ Y = b :: Y' ∧ score sc .none X' Y' r = some u ∧ v = u + sc.w a b ∧
      ∀ st' X'' Y'' r', score sc st' (a :: X'') (b :: Y'') (o :: r') = (score sc .none X'' Y'' r').map (· + sc.w a b) := by
  match X, Y, h with
  | [], _, h => rcases ho with rfl | rfl <;> simp [score] at h
  | _ :: _, [], h => rcases ho with rfl | rfl <;> simp [score] at h
  | a :: X', b :: Y', h =>
    rcases ho with rfl | rfl <;> simp only [score] at h <;> split at h <;>
      simp only [Option.map_eq_some_iff, reduceCtorEq] at h
    all_goals
      obtain ⟨u, hu, rfl⟩ := h
      rename_i hab
      exact ⟨a, X', b, Y', u, rfl, rfl, hu, rfl, fun _ _ _ _ => by simp only [score, if_pos hab]⟩

/-- validity alone (independent of the scoring scheme): the operations consume exactly `x` and `y`,
`mat` on equal symbols only, `sub` on unequal symbols only -/
def valid : List Nat → List Nat → List Op → Bool
  | [], [], [] => true
  | a :: x, b :: y, .mat :: r => a = b && valid x y r
  | a :: x, b :: y, .sub :: r => a ≠ b && valid x y r
  | _ :: x, y, .ins :: r => valid x y r
  | x, _ :: y, .del :: r => valid x y r
  | _, _, _ => false

theorem valid_del_eq (X : List Nat) (b : Nat) (Y : List Nat) (r : List Op) : valid X (b :: Y) (.del :: r) = valid X Y r := by
  cases X <;> rfl

theorem score_isSome_eq_valid (sc : Sc) : ∀ (ops : List Op) (st : St) (x y : List Nat),
    (score sc st x y ops).isSome = valid x y ops := by
  intro ops
  induction ops with
  | nil => intro st x y; cases x <;> cases y <;> simp [score, valid]
  | cons o r ih =>
    intro st x y
    cases o with
    | mat | sub =>
      cases x with
      | nil => cases y <;> simp [score, valid]
      | cons a x =>
        cases y with
        | nil => simp [score, valid]
        | cons b y =>
          simp only [score, valid]
          by_cases h : a = b <;> simp [h, ih]
    | ins =>
      cases x with
      | nil => cases y <;> simp [score, valid]
      | cons a x => simp [score, valid, ih]
    | del =>
      cases y with
      | nil => cases x <;> simp [score, valid]
      | cons b y => cases x <;> simp [score, valid, ih]

theorem valid_iff_score (sc : Sc) (st : St) (x y : List Nat) (ops : List Op) :
    valid x y ops = true ↔ ∃ v, score sc st x y ops = some v := by
  rw [← score_isSome_eq_valid sc ops st x y, Option.isSome_iff_exists]

/-- the sub-range `x[s..e]` -/
def slice (x : List Nat) (s e : Nat) : List Nat := (x.take e).drop s

/-- an alignment as a mathematical object: the two sub-ranges and the operations between them -/
structure Aln where
  xs : Nat
  xe : Nat
  ys : Nat
  ye : Nat
  ops : List Op
deriving DecidableEq, Repr

/-- `a` is an alignment of a sub-range of `x` with a sub-range of `y` -/
def IsAln (x y : List Nat) (a : Aln) : Prop :=
  a.xs ≤ a.xe ∧ a.xe ≤ x.length ∧ a.ys ≤ a.ye ∧ a.ye ≤ y.length ∧
  valid (slice x a.xs a.xe) (slice y a.ys a.ye) a.ops = true

instance (x y : List Nat) (a : Aln) : Decidable (IsAln x y a) := by unfold IsAln; infer_instance

/-- clip penalty of every non-empty clipped end (`m`, `n` = lengths of x and y) -/
def clipPen (cl : Clip) (m n xs xe ys ye : Nat) : Int :=
  (if 0 < xs then cl.xp else 0) + (if xe < m then cl.xs else 0) +
  (if 0 < ys then cl.yp else 0) + (if ye < n then cl.ys else 0)

/-- `v` is the score of alignment `a` under `(sc, cl)`: affine-gap score of the operations on the two
sub-ranges plus the clip penalties of the non-empty clipped ends -/
def AlnScore (sc : Sc) (cl : Clip) (x y : List Nat) (a : Aln) (v : Int) : Prop :=
  ∃ c, score sc .none (slice x a.xs a.xe) (slice y a.ys a.ye) a.ops = some c ∧
    v = c + clipPen cl x.length y.length a.xs a.xe a.ys a.ye

/-- `s` is the optimum of the documented model: attained by some alignment, exceeded by none -/
def Optimal (sc : Sc) (cl : Clip) (x y : List Nat) (s : Int) : Prop :=
  (∃ a, IsAln x y a ∧ AlnScore sc cl x y a s) ∧
  (∀ a v, IsAln x y a → AlnScore sc cl x y a v → v ≤ s)

theorem Optimal_unique {sc : Sc} {cl : Clip} {x y : List Nat} {s t : Int}
    (hs : Optimal sc cl x y s) (ht : Optimal sc cl x y t) : s = t := by
  obtain ⟨⟨a, ha, has⟩, hsu⟩ := hs
  obtain ⟨⟨b, hb, hbt⟩, htu⟩ := ht
  have h1 := hsu b t hb hbt
  have h2 := htu a s ha has
  omega

/-! ### What an aligner reports -/

/-- reported operations: core operations and clip operations with their lengths -/
inductive AOp
  | core (o : Op)
  | xclip (n : Nat)
  | yclip (n : Nat)
deriving DecidableEq, Repr

def coreOps : List AOp → List Op
  | [] => []
  | .core o :: r => o :: coreOps r
  | _ :: r => coreOps r

def xclipSum : List AOp → Nat
  | [] => 0
  | .xclip n :: r => n + xclipSum r
  | _ :: r => xclipSum r

def yclipSum : List AOp → Nat
  | [] => 0
  | .yclip n :: r => n + yclipSum r
  | _ :: r => yclipSum r

def hasClip : List AOp → Bool
  | [] => false
  | .core _ :: r => hasClip r
  | _ :: _ => true

/-- the reported `Alignment` value (mode omitted) -/
structure Out where
  score : Int
  xs : Nat
  xe : Nat
  ys : Nat
  ye : Nat
  xlen : Nat
  ylen : Nat
  ops : List AOp
deriving DecidableEq, Repr

def Out.toAln (o : Out) : Aln := ⟨o.xs, o.xe, o.ys, o.ye, coreOps o.ops⟩

/-- representation rule for clips (the weak reading fixed in DESIGN §4: lengths are checked by their sum
per sequence against the coordinates, not by the position of the clip operations in the list).
`filtered` = the mode documents that clip operations are removed (semiglobal, local). -/
def ClipRule (filtered : Bool) (x y : List Nat) (o : Out) : Prop :=
  o.xlen = x.length ∧ o.ylen = y.length ∧
  (if filtered then hasClip o.ops = false
   else xclipSum o.ops = o.xs + (x.length - o.xe) ∧ yclipSum o.ops = o.ys + (y.length - o.ye))

instance (f : Bool) (x y : List Nat) (o : Out) : Decidable (ClipRule f x y o) := by
  unfold ClipRule; infer_instance

end RbV.Align

/-! ### `slice`, `score` at `[]`, the gap costs

Under the names the `Lemmas/Fill*.lean` files (namespace `RbV.Model.PairwiseFill`) use them by. -/
namespace RbV.Model.PairwiseFill
open RbV.Align

theorem slice_self (x : List Nat) (i : Nat) : slice x i i = [] := by
  simp [slice]

theorem slice_length (x : List Nat) (s e : Nat) (he : e ≤ x.length) : (slice x s e).length = e - s := by
  simp [slice, List.length_drop, List.length_take]; omega

theorem slice_succ (x : List Nat) (s i : Nat) (hs : s ≤ i) (hi : i < x.length) :
    slice x s (i + 1) = slice x s i ++ [x.getD i 0] := by
  unfold slice
  rw [← List.take_append_getElem hi, List.drop_append_of_le_length (by simp [List.length_take]; omega)]
  simp [List.getD_eq_getElem?_getD, List.getElem?_eq_getElem hi]

theorem slice_eq_nil_iff (x : List Nat) (s e : Nat) (he : e ≤ x.length) : slice x s e = [] ↔ e ≤ s := by
  rw [← List.length_eq_zero_iff, slice_length x s e he]; omega

theorem score_nil_inv {sc : Sc} {st : St} {X Y : List Nat} {c : Int} (h : score sc st X Y [] = some c) :
    X = [] ∧ Y = [] ∧ c = 0 := by
  cases X <;> cases Y <;> simp [score] at h
  exact ⟨rfl, rfl, h.symm⟩

theorem gapI_ge (sc : Sc) (hgo : sc.go ≤ 0) (st : St) : sc.go + sc.ge ≤ gapI sc st := by
  cases st <;> simp [gapI] <;> omega

theorem gapD_ge (sc : Sc) (hgo : sc.go ≤ 0) (st : St) : sc.go + sc.ge ≤ gapD sc st := by
  cases st <;> simp [gapD] <;> omega

end RbV.Model.PairwiseFill
