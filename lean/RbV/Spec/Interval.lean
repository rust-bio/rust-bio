/-!
# Spec for C07: stored entries, half-open overlap, the expected answer of a query, multiset equality

Keys and data are `Int` (the harness drives the trees with `i64` keys/data and the annotation map with `isize`
keys). An entry is an interval `[lo, hi)` with a payload. The property speaks about positive-width entries and
positive-width queries only.

Core Lean only (imported by the driver).
-/
namespace RbV.Ivl

structure Entry where
  lo : Int
  hi : Int
  data : Int
deriving DecidableEq, Repr, Inhabited

/-- a query interval `[lo, hi)` -/
structure Query where
  lo : Int
  hi : Int
deriving DecidableEq, Repr, Inhabited

/-- half-open overlap: the two intervals share at least one point (for positive widths) -/
def Overlaps (q : Query) (e : Entry) : Prop := q.lo < e.hi ∧ e.lo < q.hi

instance (q : Query) (e : Entry) : Decidable (Overlaps q e) := by unfold Overlaps; exact inferInstance

/-- for positive widths `Overlaps` is "there is an integer point in both" -/
theorem overlaps_iff_common_point (q : Query) (e : Entry) (hq : q.lo < q.hi) (he : e.lo < e.hi) :
    Overlaps q e ↔ ∃ x : Int, q.lo ≤ x ∧ x < q.hi ∧ e.lo ≤ x ∧ x < e.hi := by
  unfold Overlaps
  constructor
  · intro ⟨h1, h2⟩
    refine ⟨max q.lo e.lo, ?_, ?_, ?_, ?_⟩ <;> omega
  · intro ⟨x, h1, h2, h3, h4⟩
    omega

/-- the answer the property determines (as a multiset): the stored entries that overlap the query -/
def expected (stored : List Entry) (q : Query) : List Entry := stored.filter (fun e => decide (Overlaps q e))

theorem mem_expected (stored : List Entry) (q : Query) (e : Entry) :
    e ∈ expected stored q ↔ e ∈ stored ∧ Overlaps q e := by
  simp [expected]

/-- the expected answer of a store in two parts is the two answers, one after the other -/
theorem expected_append (a b : List Entry) (q : Query) : expected (a ++ b) q = expected a q ++ expected b q := by
  simp [expected]

/-- `find_mut` + mutation of the payload of every reported entry, at the level of the stored multiset -/
def bump (stored : List Entry) (q : Query) (delta : Int) : List Entry :=
  stored.map (fun e => if Overlaps q e then { e with data := e.data + delta } else e)

/-! ## multiset equality of two entry lists, decided by sorting -/

/-- lexicographic order on (lo, hi, data) -/
def entryLe (a b : Entry) : Bool :=
  decide (a.lo < b.lo ∨ (a.lo = b.lo ∧ (a.hi < b.hi ∨ (a.hi = b.hi ∧ a.data ≤ b.data))))

theorem entryLe_trans (a b c : Entry) : entryLe a b = true → entryLe b c = true → entryLe a c = true := by
  simp only [entryLe, decide_eq_true_eq]; omega

theorem entryLe_total (a b : Entry) : (entryLe a b || entryLe b a) = true := by
  simp only [entryLe, Bool.or_eq_true, decide_eq_true_eq]; omega

theorem entryLe_antisymm (a b : Entry) : entryLe a b = true → entryLe b a = true → a = b := by
  simp only [entryLe, decide_eq_true_eq]
  intro h1 h2
  cases a; cases b
  simp only [Entry.mk.injEq] at *
  omega

def sortEntries (l : List Entry) : List Entry := l.mergeSort entryLe

theorem sortEntries_perm (l : List Entry) : (sortEntries l).Perm l := List.mergeSort_perm l entryLe

theorem sortEntries_sorted (l : List Entry) : (sortEntries l).Pairwise (fun a b => entryLe a b = true) :=
  List.pairwise_mergeSort entryLe_trans entryLe_total l

/-- two sorted lists with the same members-with-multiplicity are equal -/
theorem sorted_perm_eq (l₁ l₂ : List Entry) (h₁ : l₁.Pairwise (fun a b => entryLe a b = true))
    (h₂ : l₂.Pairwise (fun a b => entryLe a b = true)) (h : l₁.Perm l₂) : l₁ = l₂ :=
  List.Perm.eq_of_pairwise (fun a b _ _ => entryLe_antisymm a b) h₁ h₂ h

/-- the driver's multiset comparison -/
def sameMultiset (a b : List Entry) : Bool := sortEntries a == sortEntries b

theorem sameMultiset_iff (a b : List Entry) : sameMultiset a b = true ↔ a.Perm b := by
  simp only [sameMultiset, beq_iff_eq]
  constructor
  · intro h
    exact (sortEntries_perm a).symm.trans (h ▸ sortEntries_perm b)
  · intro h
    apply sorted_perm_eq _ _ (sortEntries_sorted a) (sortEntries_sorted b)
    exact (sortEntries_perm a).trans (h.trans (sortEntries_perm b).symm)

end RbV.Ivl
