/-!
# Open reading frames (C20): specification and acceptance function

A sequence is a `List Nat`; codon sets are lists of lists.  Positions are 0-based; an ORF is the half-open range
`[s, e)` from the first base of its start codon to just after the last base of its stop codon
(`Orf { start, end, offset }` of `bio::seq_analysis::orf`).
-/
namespace RbV.Orf

/-- the (up to) three symbols starting at position `i` -/
def codonAt (seq : List Nat) (i : Nat) : List Nat := (seq.drop i).take 3

/-- `[s, e)` is an open reading frame: it starts with a start codon, ends with a stop codon, its length is a
multiple of three (so the stop codon is in frame), and no in-frame codon strictly between the start codon and the
final stop codon is a stop codon — i.e. the final codon is the *first* in-frame stop codon after the start. -/
def IsOrf (seq : List Nat) (starts stops : List (List Nat)) (s e : Nat) : Prop :=
  s + 6 ≤ e ∧ e ≤ seq.length ∧ (e - s) % 3 = 0 ∧
  codonAt seq s ∈ starts ∧ codonAt seq (e - 3) ∈ stops ∧
  ∀ k, s + 3 ≤ k → k + 6 ≤ e → (k - s) % 3 = 0 → codonAt seq k ∉ stops

/-- scan the codons at `k, k+3, k+6, …` for the first stop codon; result = position just after it -/
def stopSearch (seq : List Nat) (stops : List (List Nat)) : Nat → Nat → Option Nat
  | _, 0 => none
  | k, fuel + 1 =>
    if k + 3 ≤ seq.length then
      if stops.contains (codonAt seq k) then some (k + 3) else stopSearch seq stops (k + 3) fuel
    else none

/-- end of the reading frame opened by a start codon at `s`, if a stop codon follows in frame -/
def orfEnd (seq : List Nat) (stops : List (List Nat)) (s : Nat) : Option Nat :=
  stopSearch seq stops (s + 3) seq.length

def isOrfB (seq : List Nat) (starts stops : List (List Nat)) (s e : Nat) : Bool :=
  decide (s + 3 ≤ seq.length) && starts.contains (codonAt seq s) && (orfEnd seq stops s == some e)

/-- every open reading frame of the sequence, by ascending start -/
def allOrfs (seq : List Nat) (starts stops : List (List Nat)) : List (Nat × Nat) :=
  (List.range seq.length).filterMap fun s =>
    if decide (s + 3 ≤ seq.length) && starts.contains (codonAt seq s) then
      (orfEnd seq stops s).map fun e => (s, e)
    else none

/-- Acceptance of a reported list of `(start, end, offset)` triples — the sandwich of the property:
* every reported triple is an ORF, at least `minLen` long, with `offset = start % 3`;
* no triple is reported twice;
* every ORF more than two bases longer than `minLen` is reported. -/
def acceptOrf (seq : List Nat) (starts stops : List (List Nat)) (minLen : Nat) (out : List (Nat × Nat × Nat)) : Bool :=
  out.all (fun t => isOrfB seq starts stops t.1 t.2.1 && decide (minLen ≤ t.2.1 - t.1) && (t.2.2 == t.1 % 3)) &&
  decide out.Nodup &&
  (allOrfs seq starts stops).all (fun p => decide (p.2 - p.1 ≤ minLen + 2) || out.contains (p.1, p.2, p.1 % 3))

/-! ## Frame arithmetic: two positions are in the same frame iff their distance is a multiple of three -/

section
variable {a b : Nat}

theorem mod3_of_sub (hab : a ≤ b) (h : (b - a) % 3 = 0) : a % 3 = b % 3 := by
  rw [← Nat.sub_add_cancel hab, Nat.add_mod, h, Nat.zero_add, Nat.mod_mod]

theorem sub_mod3 (h : a % 3 = b % 3) : (b - a) % 3 = 0 := Nat.sub_mod_eq_zero_of_mod_eq h.symm

theorem mod3_gap (hlt : a < b) (h : a % 3 = b % 3) : a + 3 ≤ b := by omega

theorem sub_add3_mod (h : a + 3 ≤ b) : (b - (a + 3)) % 3 = (b - a) % 3 := by
  rw [show b - a = b - (a + 3) + 3 by omega, Nat.add_mod_right]

theorem sub_gap (hab : a ≤ b) (hne : a ≠ b) (h : (b - a) % 3 = 0) : a + 3 ≤ b :=
  mod3_gap (Nat.lt_of_le_of_ne hab hne) (mod3_of_sub hab h)

end

theorem stopSearch_spec (seq : List Nat) (stops : List (List Nat)) (fuel : Nat) :
    ∀ k e, seq.length ≤ k + 3 * fuel →
      (stopSearch seq stops k fuel = some e ↔
        (k + 3 ≤ e ∧ e ≤ seq.length ∧ (e - k) % 3 = 0 ∧ codonAt seq (e - 3) ∈ stops ∧
          ∀ j, k ≤ j → j + 6 ≤ e → (j - k) % 3 = 0 → codonAt seq j ∉ stops)) := by
  induction fuel with
  | zero =>
    intro k e h
    exact ⟨fun h' => (nomatch h'), fun ⟨h1, h2, _⟩ => by omega⟩
  | succ n ih =>
    intro k e h
    rw [stopSearch]
    by_cases hk : k + 3 ≤ seq.length
    · rw [if_pos hk]
      by_cases hc : codonAt seq k ∈ stops
      · rw [if_pos (List.contains_iff_mem.mpr hc)]
        constructor
        · intro he
          cases he
          exact ⟨Nat.le_refl _, hk, by rw [Nat.add_sub_cancel_left], hc, fun j h1 h2 _ => by omega⟩
        · intro ⟨h1, _, h3, _, h5⟩
          by_cases he : k + 3 = e
          · rw [he]
          · exact absurd hc (h5 k (Nat.le_refl _) (sub_gap h1 he (by rwa [sub_add3_mod h1])) (by rw [Nat.sub_self]))
      · rw [if_neg (fun h => hc (List.contains_iff_mem.mp h)), ih (k + 3) e (by omega)]
        constructor
        · intro ⟨h1, h2, h3, h4, h5⟩
          refine ⟨Nat.le_of_add_right_le h1, h2, (sub_add3_mod (Nat.le_of_add_right_le h1)).symm.trans h3, h4, ?_⟩
          intro j hj1 hj2 hj3
          by_cases hjk : k = j
          · subst hjk; exact hc
          · have hg := sub_gap hj1 hjk hj3
            exact h5 j hg hj2 ((sub_add3_mod hg).trans hj3)
        · intro ⟨h1, h2, h3, h4, h5⟩
          have hne : k + 3 ≠ e := by
            rintro rfl
            rw [Nat.add_sub_cancel] at h4
            exact hc h4
          have hg := sub_gap h1 hne ((sub_add3_mod h1).trans h3)
          exact ⟨hg, h2, (sub_add3_mod h1).trans h3, h4,
            fun j hj1 hj2 hj3 => h5 j (Nat.le_of_add_right_le hj1) hj2 ((sub_add3_mod hj1).symm.trans hj3)⟩
    · rw [if_neg hk]
      exact ⟨fun h' => (nomatch h'), fun ⟨h1, h2, _⟩ => by omega⟩

theorem orfEnd_spec (seq : List Nat) (stops : List (List Nat)) (s e : Nat) :
    orfEnd seq stops s = some e ↔
      (s + 6 ≤ e ∧ e ≤ seq.length ∧ (e - s) % 3 = 0 ∧ codonAt seq (e - 3) ∈ stops ∧
        ∀ k, s + 3 ≤ k → k + 6 ≤ e → (k - s) % 3 = 0 → codonAt seq k ∉ stops) := by
  unfold orfEnd
  rw [stopSearch_spec seq stops seq.length (s + 3) e (by omega)]
  constructor
  · intro ⟨h1, h2, h3, h4, h5⟩
    have h1' : s + 3 ≤ e := Nat.le_of_add_right_le h1
    exact ⟨h1, h2, (sub_add3_mod h1').symm.trans h3, h4,
      fun k hk1 hk2 hk3 => h5 k hk1 hk2 ((sub_add3_mod hk1).trans hk3)⟩
  · intro ⟨h1, h2, h3, h4, h5⟩
    have h1' : s + 3 ≤ e := Nat.le_of_add_right_le (k := 3) h1
    exact ⟨h1, h2, (sub_add3_mod h1').trans h3, h4,
      fun k hk1 hk2 hk3 => h5 k hk1 hk2 ((sub_add3_mod hk1).symm.trans hk3)⟩

theorem isOrfB_iff (seq : List Nat) (starts stops : List (List Nat)) (s e : Nat) :
    isOrfB seq starts stops s e = true ↔ IsOrf seq starts stops s e := by
  unfold isOrfB IsOrf
  simp only [Bool.and_eq_true, decide_eq_true_eq, List.contains_iff_mem, beq_iff_eq]
  rw [orfEnd_spec]
  constructor
  · intro ⟨⟨_, h2⟩, h3, h4, h5, h6, h7⟩
    exact ⟨h3, h4, h5, h2, h6, h7⟩
  · intro ⟨h3, h4, h5, h2, h6, h7⟩
    exact ⟨⟨by omega, h2⟩, h3, h4, h5, h6, h7⟩

theorem mem_allOrfs (seq : List Nat) (starts stops : List (List Nat)) (s e : Nat) :
    (s, e) ∈ allOrfs seq starts stops ↔ IsOrf seq starts stops s e := by
  rw [← isOrfB_iff]
  unfold allOrfs isOrfB
  simp only [List.mem_filterMap, List.mem_range]
  constructor
  · intro ⟨s', hs', h⟩
    by_cases hc : (decide (s' + 3 ≤ seq.length) && starts.contains (codonAt seq s')) = true
    · simp only [hc, if_true, Option.map_eq_some_iff] at h
      obtain ⟨e', he', hp⟩ := h
      have h1 : s' = s := by simpa using congrArg Prod.fst hp
      have h2 : e' = e := by simpa using congrArg Prod.snd hp
      subst h1; subst h2
      simp only [Bool.and_eq_true] at hc ⊢
      refine ⟨hc, ?_⟩
      simp [he']
    · exfalso
      simp only [hc] at h
      simp at h
  · intro h
    simp only [Bool.and_eq_true, beq_iff_eq] at h
    refine ⟨s, ?_, ?_⟩
    · have := h.1.1
      simp only [decide_eq_true_eq] at this
      omega
    · have hc : (decide (s + 3 ≤ seq.length) && starts.contains (codonAt seq s)) = true := by
        simp only [Bool.and_eq_true]; exact h.1
      simp only [hc, if_true, h.2, Option.map_some]

end RbV.Orf
