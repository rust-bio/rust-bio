/-
C18 — the *specifications* of the three containers: what "behaves like a plain vector" means.

* `Spec.BitEnc`   a `BitEnc` of width `w` is a `List Nat` of width-masked values (`v % 2^w`);
                 the block count the property fixes is `⌈len / ⌊32/w⌋⌉`.
* `Spec.SmallInts` a `SmallInts<S,B>` is a `List Int`.
* `Spec.Fenwick`  a Fenwick tree is the list of all updates `(idx, val)` applied so far; a query at `i`
                 folds the operation over the updates with `idx ≤ i`.
Core Lean only (imported by the driver).
-/
namespace RbV.Spec

/-! ## BitEnc -/
namespace BitEnc

inductive Op where
  | push (v : Nat)
  | pushValues (n v : Nat)
  | set (i v : Nat)
  | get (i : Nat)
  | iter
  | clear
  deriving Repr, DecidableEq

/-- the vector after one operation (`set` is only issued with `i < len`; `List.set` beyond the end is the
identity, the harness never sends that) -/
def specStep (w : Nat) (l : List Nat) : Op → List Nat
  | .push v => l ++ [v % 2 ^ w]
  | .pushValues n v => l ++ List.replicate n (v % 2 ^ w)
  | .set i v => l.set i (v % 2 ^ w)
  | .get _ => l
  | .iter => l
  | .clear => []

/-- values per 32-bit block -/
def perBlock (w : Nat) : Nat := 32 / w

/-- `⌈len / perBlock⌉` -/
def specBlocks (w len : Nat) : Nat := (len + perBlock w - 1) / perBlock w

/-- what a read returns -/
def specGet (l : List Nat) (i : Nat) : Option Nat := l[i]?

end BitEnc

/-! ## SmallInts -/
namespace SmallInts

inductive Op where
  | push (v : Int)
  | set (i : Nat) (v : Int)
  | get (i : Nat)
  | iter
  | decompress
  deriving Repr, DecidableEq

def specStep (l : List Int) : Op → List Int
  | .push v => l ++ [v]
  | .set i v => l.set i v
  | .get _ => l
  | .iter => l
  | .decompress => l

def specFromElem (v : Int) (n : Nat) : List Int := List.replicate n v

end SmallInts

/-! ## Fenwick trees -/
namespace Fenwick

/-- prefix sum at `i` of all updates `(idx, val)` -/
def prefixSum (ups : List (Nat × Int)) (i : Nat) : Int :=
  ((ups.filter (fun u => u.1 ≤ i)).map (·.2)).sum

/-- prefix maximum at `i` (values are naturals; `0` — the default of the value type — when there is none) -/
def prefixMax (ups : List (Nat × Nat)) (i : Nat) : Nat :=
  ((ups.filter (fun u => u.1 ≤ i)).map (·.2)).foldl max 0

end Fenwick

end RbV.Spec
