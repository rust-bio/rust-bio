/-!
# GC content (C20)

`gc_content(seq)` = (number of symbols among `G C g c`) / (length); `gc3_content` the same over every third
symbol.  The Rust functions return an `f32`; the driver parses the printed decimal value into an exact fraction
`p / q` and compares it with the exact ratio within 10⁻⁶.  The empty sequence is outside the domain (0/0).
-/
namespace RbV.Gc

def isGC (b : Nat) : Bool := b == 67 || b == 71 || b == 99 || b == 103

def gcCount (s : List Nat) : Nat := s.countP isGC

/-- the symbols at positions `off, off+3, off+6, …` -/
def every3 (s : List Nat) (off : Nat) : List Nat :=
  (List.range ((s.length + 2 - off) / 3)).map fun i => s.getD (off + 3 * i) 0

/-- `|p/q − c/l| ≤ 10⁻⁶`, cross-multiplied (all quantities natural numbers, `q, l > 0`) -/
def within1e6 (p q c l : Nat) : Bool :=
  decide ((max (p * l) (c * q) - min (p * l) (c * q)) * 1000000 ≤ q * l)

theorem gcCount_le (s : List Nat) : gcCount s ≤ s.length := List.countP_le_length

theorem within1e6_iff (p q c l : Nat) :
    within1e6 p q c l = true ↔
      ((p : Int) * l - c * q) * 1000000 ≤ q * l ∧ ((c : Int) * q - p * l) * 1000000 ≤ q * l := by
  unfold within1e6
  rw [decide_eq_true_eq, ← Int.natCast_mul, ← Int.natCast_mul, ← Int.natCast_mul]
  generalize p * l = a
  generalize c * q = b
  generalize q * l = d
  rcases Nat.le_total a b with h | h
  · rw [Nat.max_eq_right h, Nat.min_eq_left h]; omega
  · rw [Nat.max_eq_left h, Nat.min_eq_right h]; omega

end RbV.Gc
