/-!
# Alphabets and rank transform (C20)

Mirror of `bio::alphabets::Alphabet` (a bit set over byte values) and `RankTransform` (ranks assigned by
enumerating the bit set in ascending order).  The bit set is modelled by the ascending, duplicate-free list of its
members, built exactly as a bit set enumerates: by running through 0 … 255 and keeping the members.
`mk`, `isWord`, `rank` (= `idxOf`), `transform`, `maxSymbol` are the model; the specification they are measured against is membership
(`mem_mk`, `isWord_iff`) and `countLt`, the number of smaller members (`rank_eq_countLt`).
-/
namespace RbV.Alpha

/-- `Alphabet::new(symbols)`: the members in ascending order -/
def mk (syms : List Nat) : List Nat := (List.range 256).filter (fun b => syms.contains b)

/-- `Alphabet::is_word(text)` -/
def isWord (A : List Nat) (t : List Nat) : Bool := t.all (fun c => A.contains c)

/-- `RankTransform::get(a)`: position of `a` in the ascending enumeration -/
def rank (A : List Nat) (a : Nat) : Nat := A.idxOf a

/-- `RankTransform::transform(text)` -/
def transform (A : List Nat) (t : List Nat) : List Nat := t.map (rank A)

/-- `Alphabet::max_symbol()` -/
def maxSymbol (A : List Nat) : Option Nat := A.getLast?

/-- number of members smaller than `a`: the *definition* of the rank of `a` in an ordered set -/
def countLt (A : List Nat) (a : Nat) : Nat := (A.filter (fun b => decide (b < a))).length

theorem mem_mk (syms : List Nat) (b : Nat) : b ∈ mk syms ↔ b ∈ syms ∧ b < 256 := by
  unfold mk
  simp only [List.mem_filter, List.mem_range, List.contains_iff_mem]
  constructor
  · intro ⟨h1, h2⟩; exact ⟨h2, h1⟩
  · intro ⟨h1, h2⟩; exact ⟨h2, h1⟩

theorem mk_sorted (syms : List Nat) : (mk syms).Pairwise (· < ·) :=
  List.Pairwise.filter _ List.pairwise_lt_range

theorem isWord_iff (A t : List Nat) : isWord A t = true ↔ ∀ c ∈ t, c ∈ A := by
  unfold isWord
  simp only [List.all_eq_true, List.contains_iff_mem]

theorem rank_getElem (A : List Nat) (hs : A.Pairwise (· < ·)) (i : Nat) (hi : i < A.length) :
    rank A A[i] = i := by
  unfold rank
  induction A generalizing i with
  | nil => simp at hi
  | cons x xs ih =>
    rw [List.pairwise_cons] at hs
    cases i with
    | zero => simp [List.idxOf_cons]
    | succ j =>
      have hj : j < xs.length := by simpa using hi
      have hlt : x < xs[j] := hs.1 _ (List.getElem_mem hj)
      have hne : (x == xs[j]) = false := by
        simp only [beq_eq_false_iff_ne, ne_eq]; omega
      simp only [List.getElem_cons_succ, List.idxOf_cons, hne, cond_false]
      rw [ih hs.2 j hj]

theorem rank_eq_countLt : ∀ (A : List Nat), A.Pairwise (· < ·) → ∀ a ∈ A, rank A a = countLt A a := by
  intro A
  induction A with
  | nil => intro _ a ha; simp at ha
  | cons x xs ih =>
    intro hs a ha
    rw [List.pairwise_cons] at hs
    unfold rank countLt
    by_cases hax : a = x
    · subst hax
      have : (xs.filter (fun b => decide (b < a))) = [] := by
        rw [List.filter_eq_nil_iff]
        intro b hb
        have := hs.1 b hb
        simp only [decide_eq_true_eq]; omega
      simp [List.idxOf_cons, List.filter_cons, this]
    · have hmem : a ∈ xs := by
        rcases List.mem_cons.mp ha with h | h
        · exact absurd h hax
        · exact h
      have hlt : x < a := hs.1 a hmem
      have hne : (x == a) = false := by
        simp only [beq_eq_false_iff_ne, ne_eq]; omega
      have := ih hs.2 a hmem
      unfold rank countLt at this
      simp only [List.idxOf_cons, hne, cond_false, List.filter_cons, hlt, decide_true, if_true,
        List.length_cons, this]

end RbV.Alpha
