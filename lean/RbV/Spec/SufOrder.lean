/-
Suffix order (C03–C06).

* `lexLt`       strict lexicographic order on `List Nat` (a proper prefix is smaller), with irreflexivity,
                transitivity, totality.
* `SentinelOrder t B rk`   a total order on the sentinel occurrences of `t`, given by distinct ranks `rk p < B`,
                in which the final sentinel is least.
* `keyText t B rk`         the text with every sentinel occurrence replaced by its rank and every other symbol `c`
                by `B + c`  (so: every sentinel below every other symbol, sentinels among themselves by `rk`,
                other symbols by their value).
* `sufLt ks i j`           suffix `i` of `ks` is smaller than suffix `j`.
* `SuffixSorted ks sa`     `sa` is a permutation of all positions of `ks`, strictly increasing in the
                lexicographic order of the suffixes of `ks`.
* `IsSA t sa`              the property C03 for byte texts: sorted under *some* sentinel order.

The definitions from `sentinelOf` (the last symbol) and `IsSentPos` to `IsSA` stand together; their lemmas follow in two blocks:
sentinel positions and key texts (`keyAt`, the symbol `keyText` holds at a position, compared in `keyAt_lt_iff`), and `sufLt`
(one step of the comparison `sufLt_iff_getD`; `sufLt_congr`: texts that compare all pairs of positions alike order their
suffixes alike; `sufLt_keyText_iff`).
-/
namespace RbV

/-- strict lexicographic order; a proper prefix is smaller -/
def lexLt : List Nat → List Nat → Prop
  | _, [] => False
  | [], _ :: _ => True
  | a :: as, b :: bs => a < b ∨ (a = b ∧ lexLt as bs)

/-- Boolean version of `lexLt` -/
def lexLtB : List Nat → List Nat → Bool
  | _, [] => false
  | [], _ :: _ => true
  | a :: as, b :: bs => decide (a < b) || (a == b && lexLtB as bs)

theorem lexLtB_iff (x y : List Nat) : lexLtB x y = true ↔ lexLt x y := by
  induction x generalizing y with
  | nil => cases y <;> simp [lexLtB, lexLt]
  | cons a as ih =>
    cases y with
    | nil => simp [lexLtB, lexLt]
    | cons b bs => simp [lexLtB, lexLt, ih]

instance (x y : List Nat) : Decidable (lexLt x y) := decidable_of_iff _ (lexLtB_iff x y)

theorem lexLt_irrefl (x : List Nat) : ¬ lexLt x x := by
  induction x with
  | nil => simp [lexLt]
  | cons a as ih => simp [lexLt, ih]

theorem lexLt_trans {x y z : List Nat} : lexLt x y → lexLt y z → lexLt x z := by
  induction x generalizing y z with
  | nil =>
    cases y with
    | nil => simp [lexLt]
    | cons b bs => cases z <;> simp [lexLt]
  | cons a as ih =>
    cases y with
    | nil => simp [lexLt]
    | cons b bs =>
      cases z with
      | nil => simp [lexLt]
      | cons c cs =>
        simp only [lexLt]
        rintro (h1 | ⟨h1, h1'⟩) (h2 | ⟨h2, h2'⟩)
        · left; omega
        · left; omega
        · left; omega
        · right; exact ⟨by omega, ih h1' h2'⟩

theorem lexLt_total (x y : List Nat) : x ≠ y → lexLt x y ∨ lexLt y x := by
  induction x generalizing y with
  | nil => cases y <;> simp [lexLt]
  | cons a as ih =>
    cases y with
    | nil => simp [lexLt]
    | cons b bs =>
      intro hne
      simp only [lexLt]
      by_cases hab : a = b
      · subst hab
        have : as ≠ bs := fun h => hne (by rw [h])
        rcases ih bs this with h | h
        · left; right; exact ⟨rfl, h⟩
        · right; right; exact ⟨rfl, h⟩
      · rcases Nat.lt_or_gt_of_ne hab with h | h
        · left; left; exact h
        · right; left; exact h

theorem lexLt_asymm {x y : List Nat} (h : lexLt x y) : ¬ lexLt y x :=
  fun h' => lexLt_irrefl x (lexLt_trans h h')

theorem lexLt_cons (a b : Nat) (as bs : List Nat) :
    lexLt (a :: as) (b :: bs) ↔ (a < b ∨ (a = b ∧ lexLt as bs)) := by
  simp only [lexLt]

theorem not_lexLt_nil (r : List Nat) : ¬ lexLt r [] := by
  cases r <;> simp [lexLt]

theorem not_lexLt_of_head_lt (a b : Nat) (as bs : List Nat) (h : a < b) : ¬ lexLt (b :: bs) (a :: as) := by
  rw [lexLt_cons]
  intro h'
  rcases h' with h' | ⟨h', _⟩ <;> omega

theorem not_lexLt_cons_of_tail (a : Nat) (as bs : List Nat) (h : ¬ lexLt bs as) : ¬ lexLt (a :: bs) (a :: as) := by
  rw [lexLt_cons]
  intro h'
  rcases h' with h' | ⟨_, h'⟩
  · omega
  · exact h h'

/-- the sentinel of a text is its last symbol -/
def sentinelOf (t : List Nat) : Nat := t.getLastD 0

/-- position `p` holds the sentinel -/
def IsSentPos (t : List Nat) (p : Nat) : Prop := t[p]? = some (sentinelOf t)

instance (t : List Nat) (p : Nat) : Decidable (IsSentPos t p) := by unfold IsSentPos; infer_instance

/-- A total order on the sentinel occurrences, represented by distinct ranks below `B`;
the final sentinel is the least one. -/
structure SentinelOrder (t : List Nat) (B : Nat) (rk : Nat → Nat) : Prop where
  bound : ∀ p, IsSentPos t p → rk p < B
  inj : ∀ p q, IsSentPos t p → IsSentPos t q → rk p = rk q → p = q
  last : ∀ q, IsSentPos t q → q ≠ t.length - 1 → rk (t.length - 1) < rk q

/-- comparison key of position `p`: a sentinel gets its rank (`< B`), any other symbol `c` gets `B + c` -/
def keyAt (t : List Nat) (B : Nat) (rk : Nat → Nat) (p : Nat) : Nat :=
  if IsSentPos t p then rk p else B + t.getD p 0

def keyText (t : List Nat) (B : Nat) (rk : Nat → Nat) : List Nat :=
  (List.range t.length).map (keyAt t B rk)

/-- suffix `i` of `ks` is lexicographically smaller than suffix `j` -/
def sufLt (ks : List Nat) (i j : Nat) : Prop := lexLt (ks.drop i) (ks.drop j)

/-- `sa` lists every position of `ks` exactly once, in strictly increasing suffix order -/
def SuffixSorted (ks sa : List Nat) : Prop :=
  sa.Perm (List.range ks.length) ∧ sa.Pairwise (sufLt ks)

/-- C03 for byte texts: a sorted permutation of all suffixes under one consistent sentinel order -/
def IsSA (t sa : List Nat) : Prop :=
  ∃ B rk, SentinelOrder t B rk ∧ SuffixSorted (keyText t B rk) sa

/-! ### sentinel positions and key texts -/

theorem IsSentPos.lt {t : List Nat} {p : Nat} (h : IsSentPos t p) : p < t.length :=
  (List.getElem?_eq_some_iff.mp h).1

theorem isSentPos_last (t : List Nat) (h : t ≠ []) : IsSentPos t (t.length - 1) := by
  unfold IsSentPos sentinelOf
  rw [List.getLastD_eq_getLast?, List.getLast?_eq_getElem?]
  have : t.length - 1 < t.length := by
    cases t with
    | nil => exact absurd rfl h
    | cons a l => simp
  simp [List.getElem?_eq_getElem this]

theorem isSentPos_iff (t : List Nat) (p : Nat) (h : p < t.length) :
    IsSentPos t p ↔ t.getD p 0 = sentinelOf t := by
  unfold IsSentPos
  rw [List.getD_eq_getElem?_getD, List.getElem?_eq_getElem h]; simp

theorem length_keyText (t : List Nat) (B : Nat) (rk : Nat → Nat) : (keyText t B rk).length = t.length := by
  simp [keyText]

theorem getD_keyText (t : List Nat) (B : Nat) (rk : Nat → Nat) (p : Nat) (h : p < t.length) :
    (keyText t B rk).getD p 0 = keyAt t B rk p := by
  unfold keyText
  rw [List.getD_eq_getElem?_getD, List.getElem?_map, List.getElem?_range h]
  rfl

theorem keyAt_lt_iff (t : List Nat) (B : Nat) (rk : Nat → Nat) (ho : SentinelOrder t B rk) (p q : Nat) :
    keyAt t B rk p < keyAt t B rk q ↔
      ((IsSentPos t p ∧ IsSentPos t q ∧ rk p < rk q) ∨ (IsSentPos t p ∧ ¬ IsSentPos t q) ∨
       (¬ IsSentPos t p ∧ ¬ IsSentPos t q ∧ t.getD p 0 < t.getD q 0)) := by
  unfold keyAt
  by_cases hp : IsSentPos t p <;> by_cases hq : IsSentPos t q
  · simp [hp, hq]
  · have := ho.bound p hp
    simp [hp, hq]; omega
  · have := ho.bound q hq
    simp [hp, hq]; omega
  · simp [hp, hq]

theorem keyAt_lt_iff_of_not_sent (t : List Nat) (B : Nat) (rk : Nat → Nat) (ho : SentinelOrder t B rk)
    (hmin : ∀ p, p < t.length → sentinelOf t ≤ t.getD p 0) (y x : Nat) (hy : y < t.length) (hx : x < t.length)
    (hnx : ¬ IsSentPos t x) : keyAt t B rk y < keyAt t B rk x ↔ t.getD y 0 < t.getD x 0 := by
  rw [keyAt_lt_iff t B rk ho]
  by_cases hsy : IsSentPos t y
  · have e1 := (isSentPos_iff t y hy).mp hsy
    have e2 : t.getD x 0 ≠ sentinelOf t := fun e => hnx ((isSentPos_iff t x hx).mpr e)
    have := hmin x hx
    simp only [hsy, hnx, not_true_eq_false, not_false_eq_true, true_and, false_and, and_false, and_true,
      or_false, or_true, true_iff]
    omega
  · simp [hsy, hnx]

/-! ### the order of the suffixes of a text -/

theorem sufLt_iff_getD (ks : List Nat) (p q : Nat) (hp : p < ks.length) (hq : q < ks.length) :
    sufLt ks p q ↔ ks.getD p 0 < ks.getD q 0 ∨ (ks.getD p 0 = ks.getD q 0 ∧ sufLt ks (p + 1) (q + 1)) := by
  unfold sufLt
  rw [List.drop_eq_getElem_cons hp, List.drop_eq_getElem_cons hq, List.getD_eq_getElem?_getD, List.getD_eq_getElem?_getD,
    List.getElem?_eq_getElem hp, List.getElem?_eq_getElem hq]
  rfl

theorem not_sufLt_of_length_le (ks : List Nat) (p q : Nat) (hq : ks.length ≤ q) : ¬ sufLt ks p q := by
  unfold sufLt
  rw [List.drop_eq_nil_of_le hq]
  exact not_lexLt_nil _

theorem sufLt_of_length_le (ks : List Nat) (p q : Nat) (hp : ks.length ≤ p) : sufLt ks p q ↔ q < ks.length := by
  unfold sufLt
  rw [List.drop_eq_nil_of_le hp]
  by_cases hq : q < ks.length
  · rw [List.drop_eq_getElem_cons hq]; simp [lexLt, hq]
  · rw [List.drop_eq_nil_of_le (Nat.le_of_not_lt hq)]; simp [lexLt, hq]

theorem sufLt_trans {ks : List Nat} {i j k : Nat} : sufLt ks i j → sufLt ks j k → sufLt ks i k :=
  lexLt_trans

/-- two texts of one length whose symbols compare alike order their suffixes alike -/
theorem sufLt_congr (ks ks' : List Nat) (hlen : ks.length = ks'.length)
    (hiso : ∀ p q, p < ks.length → q < ks.length → (ks.getD p 0 < ks.getD q 0 ↔ ks'.getD p 0 < ks'.getD q 0))
    (i j : Nat) : sufLt ks i j ↔ sufLt ks' i j := by
  generalize hd : ks.length - i = d
  induction d generalizing i j with
  | zero =>
    have hi : ks.length ≤ i := Nat.le_of_sub_eq_zero hd
    rw [sufLt_of_length_le ks i j hi, sufLt_of_length_le ks' i j (hlen ▸ hi), hlen]
  | succ d ih =>
    have hi : i < ks.length := Nat.lt_of_sub_pos (hd ▸ Nat.succ_pos d)
    by_cases hj : j < ks.length
    · rw [sufLt_iff_getD ks i j hi hj, sufLt_iff_getD ks' i j (hlen ▸ hi) (hlen ▸ hj)]
      have e1 := hiso i j hi hj
      have e2 := hiso j i hj hi
      have e3 : ks.getD i 0 = ks.getD j 0 ↔ ks'.getD i 0 = ks'.getD j 0 := by omega
      exact or_congr e1 (and_congr e3 (ih (i + 1) (j + 1) (by rw [Nat.sub_succ, hd]; rfl)))
    · exact ⟨fun h => absurd h (not_sufLt_of_length_le ks i j (Nat.le_of_not_lt hj)),
        fun h => absurd h (not_sufLt_of_length_le ks' i j (hlen ▸ Nat.le_of_not_lt hj))⟩

/-- … hence an array sorted by the suffixes of one is sorted by the suffixes of the other -/
theorem pairwise_sufLt_congr (ks ks' : List Nat) (hlen : ks.length = ks'.length)
    (hiso : ∀ p q, p < ks.length → q < ks.length → (ks.getD p 0 < ks.getD q 0 ↔ ks'.getD p 0 < ks'.getD q 0))
    {sa : List Nat} (h : sa.Pairwise (sufLt ks)) : sa.Pairwise (sufLt ks') :=
  h.imp fun hab => (sufLt_congr ks ks' hlen hiso _ _).mp hab

theorem sufLt_keyText_iff (t : List Nat) (B : Nat) (rk : Nat → Nat) (p q : Nat) (hp : p < t.length) (hq : q < t.length) :
    sufLt (keyText t B rk) p q ↔ keyAt t B rk p < keyAt t B rk q ∨
      (keyAt t B rk p = keyAt t B rk q ∧ sufLt (keyText t B rk) (p + 1) (q + 1)) := by
  rw [sufLt_iff_getD _ p q (by rw [length_keyText]; exact hp) (by rw [length_keyText]; exact hq),
    getD_keyText t B rk p hp, getD_keyText t B rk q hq]

end RbV
