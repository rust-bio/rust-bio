/-
Occurrences of a pattern in a text (C05, C06, C08, C19).
Spec: `OccursAt p t i`  :=  the pattern is the slice of the text starting at `i`.
Reference: `occurrences p t` (ascending scan).  The lemmas say it is exactly the
ascending duplicate-free list of all `i` with `OccursAt p t i` (`mem_occurrences`, `occurrences_sorted`); `isPrefix`, `occFrom` and
their lemmas serve these two (`occurrences_nodup`, `occurrences_short` follow from them).  Last: `OccursAt` of a
pattern split in two (`occursAt_append_iff`), of one symbol, of `a :: P`, of `Q ++ [c]`, and in a text with one symbol put before it.
-/
namespace RbV

/-- `p` occurs in `t` at position `i` -/
def OccursAt (p t : List Nat) (i : Nat) : Prop :=
  i + p.length ≤ t.length ∧ (t.drop i).take p.length = p

/-- Boolean test: `p` is a prefix of `t` -/
def isPrefix : List Nat → List Nat → Bool
  | [], _ => true
  | _ :: _, [] => false
  | a :: p, b :: t => a == b && isPrefix p t

theorem isPrefix_iff (p t : List Nat) :
    isPrefix p t = true ↔ p.length ≤ t.length ∧ t.take p.length = p := by
  induction p generalizing t with
  | nil => simp [isPrefix]
  | cons a p ih =>
    cases t with
    | nil => simp [isPrefix]
    | cons b t =>
      simp only [isPrefix, Bool.and_eq_true, beq_iff_eq, ih, List.length_cons, List.take_succ_cons,
        List.cons.injEq]
      constructor
      · rintro ⟨rfl, h1, h2⟩; exact ⟨by omega, rfl, h2⟩
      · rintro ⟨h1, h2, h3⟩; exact ⟨h2.symm, by omega, h3⟩

/-- the positions `≥ off` at which `p` occurs, found by scanning the suffixes of `t`; `off` is the position of the head of `t` -/
def occFrom (p : List Nat) : List Nat → Nat → List Nat
  | [], off => if p.isEmpty then [off] else []
  | b :: t, off =>
      if isPrefix p (b :: t) then off :: occFrom p t (off + 1) else occFrom p t (off + 1)

/-- ascending list of all start positions of (possibly overlapping) occurrences -/
def occurrences (p t : List Nat) : List Nat := occFrom p t 0

theorem mem_occFrom (p t : List Nat) (off i : Nat) :
    i ∈ occFrom p t off ↔ off ≤ i ∧ OccursAt p t (i - off) := by
  induction t generalizing off with
  | nil =>
    simp only [occFrom, OccursAt]
    cases p with
    | nil => simp; omega
    | cons a p => simp
  | cons b t ih =>
    -- past the head, position `i` of `b :: t` counted from `off` is position `i` of `t` counted from `off + 1`
    have hrest : i ∈ occFrom p t (off + 1) ↔ off < i ∧ OccursAt p (b :: t) (i - off) := by
      rw [ih]
      refine and_congr_right fun h => ?_
      rw [show i - off = (i - (off + 1)) + 1 by omega]
      simp [OccursAt]; omega
    have hhead : OccursAt p (b :: t) 0 ↔ isPrefix p (b :: t) = true := by
      rw [isPrefix_iff]; simp [OccursAt]
    have hsplit : off ≤ i ∧ OccursAt p (b :: t) (i - off) ↔
        (i = off ∧ isPrefix p (b :: t) = true) ∨ (off < i ∧ OccursAt p (b :: t) (i - off)) := by
      rw [← hhead]
      constructor
      · rintro ⟨h1, h2⟩
        rcases Nat.eq_or_lt_of_le h1 with rfl | hlt
        · rw [Nat.sub_self] at h2; exact Or.inl ⟨rfl, h2⟩
        · exact Or.inr ⟨hlt, h2⟩
      · rintro (⟨rfl, h2⟩ | ⟨h1, h2⟩)
        · exact ⟨Nat.le_refl _, by rwa [Nat.sub_self]⟩
        · exact ⟨Nat.le_of_lt h1, h2⟩
    rw [hsplit, ← hrest, occFrom]
    by_cases hpre : isPrefix p (b :: t) = true
    · rw [if_pos hpre, List.mem_cons]; simp only [hpre, and_true]
    · rw [if_neg hpre]; exact ⟨Or.inr, fun h => h.resolve_left fun h' => hpre h'.2⟩
theorem mem_occurrences (p t : List Nat) (i : Nat) :
    i ∈ occurrences p t ↔ OccursAt p t i := by
  simp [occurrences, mem_occFrom]

theorem occFrom_lower (p t : List Nat) (off : Nat) : ∀ i ∈ occFrom p t off, off ≤ i := by
  intro i hi; exact ((mem_occFrom p t off i).mp hi).1

theorem occFrom_sorted (p t : List Nat) (off : Nat) :
    (occFrom p t off).Pairwise (· < ·) := by
  induction t generalizing off with
  | nil => simp only [occFrom]; split <;> simp
  | cons b t ih =>
    simp only [occFrom]
    split
    · rw [List.pairwise_cons]
      refine ⟨?_, ih (off + 1)⟩
      intro j hj
      have := occFrom_lower p t (off + 1) j hj
      omega
    · exact ih (off + 1)

theorem occurrences_sorted (p t : List Nat) : (occurrences p t).Pairwise (· < ·) :=
  occFrom_sorted p t 0

theorem occurrences_nodup (W X : List Nat) : (occurrences W X).Nodup :=
  List.nodup_iff_pairwise_ne.mpr ((occurrences_sorted W X).imp (fun h => Nat.ne_of_lt h))

theorem occurrences_short (V X : List Nat) (h : X.length < V.length) : occurrences V X = [] := by
  apply List.eq_nil_iff_forall_not_mem.mpr
  intro i hi
  have := ((mem_occurrences V X i).mp hi).1
  omega

theorem OccursAt.lt {P t : List Nat} {i : Nat} (h : OccursAt P t i) (hP : P ≠ []) : i < t.length := by
  have := h.1
  cases P with
  | nil => exact absurd rfl hP
  | cons a q => simp only [List.length_cons] at this; omega

/-! ### `OccursAt` against `++`, `::`, a symbol appended, a symbol put before the text -/

theorem occursAt_append_iff (X W t : List Nat) (i : Nat) :
    OccursAt (X ++ W) t i ↔ OccursAt X t i ∧ OccursAt W t (i + X.length) := by
  unfold OccursAt
  rw [List.length_append, List.take_add, List.drop_drop]
  constructor
  · rintro ⟨h1, h2⟩
    have hl : ((t.drop i).take X.length).length = X.length := by
      rw [List.length_take, List.length_drop]; omega
    obtain ⟨e1, e2⟩ := List.append_inj h2 hl
    exact ⟨⟨by omega, e1⟩, by omega, e2⟩
  · rintro ⟨⟨_, e1⟩, h3, e2⟩
    exact ⟨by omega, by rw [e1, e2]⟩

theorem occursAt_singleton (a : Nat) (t : List Nat) (i : Nat) : OccursAt [a] t i ↔ i < t.length ∧ t.getD i 0 = a := by
  unfold OccursAt
  simp only [List.length_singleton]
  constructor
  · rintro ⟨h1, h2⟩
    have hi : i < t.length := by omega
    rw [List.drop_eq_getElem_cons hi, List.take_succ_cons, List.take_zero] at h2
    exact ⟨hi, by rw [List.getD_eq_getElem?_getD, List.getElem?_eq_getElem hi]; exact (List.cons.inj h2).1⟩
  · rintro ⟨hi, h2⟩
    rw [List.getD_eq_getElem?_getD, List.getElem?_eq_getElem hi] at h2
    exact ⟨by omega, by rw [List.drop_eq_getElem_cons hi, List.take_succ_cons, List.take_zero]; exact congrArg (· :: []) h2⟩

theorem occursAt_cons_iff (a : Nat) (P t : List Nat) (i : Nat) :
    OccursAt (a :: P) t i ↔ i < t.length ∧ t.getD i 0 = a ∧ OccursAt P t (i + 1) := by
  rw [← List.singleton_append, occursAt_append_iff, occursAt_singleton, and_assoc]; rfl

theorem occursAt_snoc (Q t : List Nat) (c i : Nat) :
    OccursAt (Q ++ [c]) t i ↔ OccursAt Q t i ∧ i + Q.length < t.length ∧ t.getD (i + Q.length) 0 = c := by
  rw [occursAt_append_iff, occursAt_singleton]

theorem occursAt_shift (P T : List Nat) (x p : Nat) : OccursAt P (x :: T) (p + 1) ↔ OccursAt P T p := by
  simp only [OccursAt, List.length_cons, List.drop_succ_cons]
  exact and_congr_left' (by omega)

end RbV
