/-
C17 — specification and reference functions for rank/select on bit vectors and for the wavelet matrix.

Spec (declarative):
* `rank b bits i`  = number of `b`-bits at positions `0..=i`
* `IsSelect b bits j p` : position `p` holds the `j`-th `b`-bit (1-based)
* `occ text c p`   = number of occurrences of `c` in `text[0..=p]`
Reference functions used by the driver: `rankRef` (None beyond the end), `selectRef` (via the ascending list
`positions` of all `b`-bits), and the linear-time tables `prefixCounts`.  The lemmas connecting them are in
`RbV/Lemmas/RankSelect.lean`; the property theorems in `RbV/Thm/C17.lean`.
Wavelet matrix: `dnaSyms` (the six symbols of the property), `tableOk` (what the wavelet theorems assume of the code
table `DNA2INT`, and what the driver checks on the table the harness prints) and `dna2intLit` (a literal copy of the
table: `Thm/C17.dna2int_literal_ok` is `tableOk` on it; the driver reports when the extracted table differs from it).
Core Lean only.
-/
namespace RbV.Spec.RankSelect

/-- number of `b`-bits among positions `0..=i` -/
def rank (b : Bool) (bits : List Bool) (i : Nat) : Nat := (bits.take (i + 1)).count b

/-- `rank_1` / `rank_0` of the property: `None` beyond the end -/
def rankRef (b : Bool) (bits : List Bool) (i : Nat) : Option Nat :=
  if i < bits.length then some (rank b bits i) else none

/-- `p` is the position of the `j`-th `b`-bit -/
def IsSelect (b : Bool) (bits : List Bool) (j p : Nat) : Prop :=
  bits[p]? = some b ∧ rank b bits p = j

/-- ascending list of the positions of all `b`-bits; `off` is the position of the head -/
def positions (b : Bool) : List Bool → Nat → List Nat
  | [], _ => []
  | x :: xs, off => if x = b then off :: positions b xs (off + 1) else positions b xs (off + 1)

/-- `select_1` / `select_0` of the property: `None` for `j = 0` and for `j` larger than the count -/
def selectRef (b : Bool) (bits : List Bool) (j : Nat) : Option Nat :=
  if j = 0 then none else (positions b bits 0)[j - 1]?

/-- running counts: entry `i` = `rank b bits i` (one pass; what the driver evaluates) -/
def prefixCounts (b : Bool) : List Bool → Nat → List Nat
  | [], _ => []
  | x :: xs, acc =>
    let acc' := if x = b then acc + 1 else acc
    acc' :: prefixCounts b xs acc'

/-! ### wavelet matrix -/

/-- occurrences of `c` in `text[0..=p]` -/
def occ (text : List Nat) (c p : Nat) : Nat := (text.take (p + 1)).count c

/-- the six symbols of the property: A C G T N $ -/
def dnaSyms : List Nat := [65, 67, 71, 84, 78, 36]

/-- the check the driver applies to the `DNA2INT` table printed by the harness: 128 entries, codes of the six
symbols below 8 and pairwise distinct -/
def tableOk (t : List Nat) : Bool :=
  t.length == 128 && dnaSyms.all (fun a => t.getD a 0 < 8) &&
  dnaSyms.all (fun a => dnaSyms.all (fun b => a == b || t.getD a 0 != t.getD b 0))

/-- literal copy of `const DNA2INT: [u8; 128]` in src/data_structures/wavelet_matrix.rs (pinned tree) -/
def dna2intLit : List Nat := [
    0, 0, 0, 0, 0, 0, 0, 0, 0, 0,
    0, 0, 0, 0, 0, 0, 0, 0, 0, 0,
    0, 0, 0, 0, 0, 0, 0, 0, 0, 0,
    0, 0, 0, 0, 0, 0, 5, 0, 0, 0,
    0, 0, 0, 0, 0, 0, 0, 0, 0, 1,
    2, 3, 4, 5, 6, 7, 0, 0, 0, 0,
    0, 0, 0, 0, 0, 0, 0, 1, 0, 0,
    0, 2, 0, 0, 0, 0, 0, 0, 4, 0,
    0, 0, 0, 0, 3, 0, 0, 0, 0, 0,
    0, 0, 0, 0, 0, 0, 0, 0, 0, 1,
    0, 0, 0, 2, 0, 0, 0, 0, 0, 0,
    4, 0, 0, 0, 0, 0, 3, 0, 0, 0,
    0, 0, 0, 0, 0, 0, 0, 0]

end RbV.Spec.RankSelect
