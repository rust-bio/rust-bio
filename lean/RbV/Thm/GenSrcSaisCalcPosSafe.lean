import RbV.Thm.GenSrcSaisCalcPos
import RbV.Lemmas.SaisInduce
/-!
# Every run of the model's `calc_pos` on a text SA-IS accepts is index-safe

`safeRun_of_valid`: for a `Sais.Valid` text (shorter than `2^64`) and any list of its LMS positions (`LmsList`: each once,
in any order) the run of `Sais.calcPosRun` satisfies `SafeRun` — at every step of the placement, of the L pass and of the
S pass the indices the step uses lie inside the vectors, and `bucket_start[c] + 1` does not overflow.  The bounds are read
off the loop invariants of the model-level proofs, instantiated with the trivial relation (`PInvG`: `bucket_end[c]` points
into the S-area; for the two passes `Push.room`: the queue of the bucket written is not full, so its next slot, which the
bucket pointer holds, lies inside the array).  With it `calc_pos_source_eq_model` holds for every such run: the translated
`calc_pos` never panics there and returns what the model returns.
-/
namespace RbV.Thm.GenSrcSaisCalcPos
open RbV RbV.Sais

theorem safeFold_up {σ : Type} (safe : σ → Nat → Prop) (f : Nat → σ → σ) (P : Nat → σ → Prop) (n : Nat)
    (hstep : ∀ k s, k < n → P k s → safe s k ∧ P (k + 1) (f k s)) (s : σ) (h0 : P 0 s) :
    SafeFold safe (fun s r => f r s) (List.range n) s := by
  have go : ∀ (d k : Nat) (s : σ), k + d = n → P k s → SafeFold safe (fun s r => f r s) (List.range' k d) s := by
    intro d
    induction d with
    | zero => intro k s _ _; trivial
    | succ d ih =>
      intro k s hk hP
      rw [List.range'_succ]
      obtain ⟨h1, h2⟩ := hstep k s (by omega) hP
      exact ⟨h1, ih (k + 1) (f k s) (by omega) h2⟩
  rw [List.range_eq_range']
  exact go n 0 s (by omega) h0

theorem safeFold_down {σ : Type} (safe : σ → Nat → Prop) (f : Nat → σ → σ) (P : Nat → σ → Prop) (n : Nat)
    (hstep : ∀ k s, k < n → P (k + 1) s → safe s k ∧ P k (f k s)) :
    ∀ (k : Nat) (s : σ), k ≤ n → P k s → SafeFold safe (fun s r => f r s) (List.range k).reverse s := by
  intro k
  induction k with
  | zero => intro s _ _; trivial
  | succ k ih =>
    intro s hk hP
    rw [List.range_succ, List.reverse_append, List.reverse_singleton, List.singleton_append]
    obtain ⟨h1, h2⟩ := hstep k s (by omega) hP
    exact ⟨h1, ih (f k s) (by omega) h2⟩

/-- the relation under which nothing has to be sorted: the bounds do not depend on the order -/
private abbrev trivR : Nat → Nat → Prop := fun _ _ => True

/-- placement: `bucket_end[c]` points into the bucket -/
theorem place_safe (t : List Nat) (L : List Nat) (hlms : ∀ p, p ∈ L → isLms (tyOf t) p = true) (hnd : L.Nodup) :
    ∀ (rest D : List Nat) (st : List Nat × List Nat), D ++ rest = L → PInvG t trivR D st →
      SafeFold (PlaceSafe t) (placeStep t) rest st := by
  intro rest
  induction rest with
  | nil => intro D st _ _; trivial
  | cons p rest ih =>
    intro D st hDL h
    subst hDL
    obtain ⟨hslot, hnext⟩ := placeStep_invG_split t trivR D rest p st hlms hnd
      (List.pairwise_of_forall (fun _ _ _ => trivial)) h
    have hp : p < t.length := lt_of_isLms p (hlms p (List.mem_append_right D List.mem_cons_self))
    refine ⟨⟨hp, ?_, ?_⟩, ih (D ++ [p]) _ (List.append_assoc ..) hnext⟩
    · show sym t p < st.2.length
      rw [h.lenB]; exact sym_lt_maxSucc p hp
    · show st.2.getD (sym t p) 0 < st.1.length
      rw [h.lenP]; exact hslot

theorem safeRun_of_valid (t : List Nat) (hv : Valid t) (hsz : t.length < 2 ^ 64) (lms : List Nat) (hl : LmsList t lms) :
    SafeRun t (tyOf t) lms := by
  have hne := hv.ne_nil
  by_cases h2 : 2 ≤ t.length
  · have hnd := hl.reverse.nodup
    have hlms : ∀ p, p ∈ lms.reverse → isLms (tyOf t) p = true := fun p => (hl.reverse.mem p).mp
    have hp := placeLms_spec t hv trivR (indRel_true t) lms hl (List.pairwise_of_forall (fun _ _ _ => trivial))
    have hbe : bEnd0 t = (List.range (maxSucc t)).map (fun c => cntLt t (c + 1) - 1) := initBucketEnd_eq t hne hv.dense
    refine ⟨?_, ?_, ?_, ?_⟩
    · -- bucket ends fit `usize`
      intro x hx
      change x ∈ bEnd0 t at hx
      rw [hbe] at hx
      obtain ⟨c, _, rfl⟩ := List.mem_map.mp hx
      have := cntLt_le_length t (c + 1)
      omega
    · exact place_safe t lms.reverse hlms hnd lms.reverse [] _ (List.nil_append _) (PInvG.init t trivR hv)
    · -- L pass
      change SafeFold _ _ (List.range t.length) ((placeLms t lms (List.replicate t.length t.length) (bEnd0 t)).1, initBucketStart t)
      generalize (placeLms t lms (List.replicate t.length t.length) (bEnd0 t)).1 = pos0 at hp
      apply safeFold_up (LSafe t (tyOf t) t.length) (lStep t (tyOf t) t.length)
        (fun r s => ∃ w, LInvG t trivR pos0 r s.1 s.2 w) t.length ?_ _ ⟨_, LInvG.init hv hp⟩
      intro k s hk h
      refine ⟨?_, lStep_invG hv (indRel_true t) (stepL_true t) s hk h⟩
      obtain ⟨pos, bs⟩ := s
      obtain ⟨w, h⟩ := h
      simp only at h
      refine ⟨by show k < pos.length; rw [h.g.lenP]; exact hk, ?_⟩
      show (pos.getD k 0 = t.length ∨ pos.getD k 0 = 0) ∨ _
      by_cases h1 : pos.getD k 0 = t.length
      · exact Or.inl (Or.inl h1)
      by_cases h0 : pos.getD k 0 = 0
      · exact Or.inl (Or.inr h0)
      right
      dsimp only
      have hlt := (h.g.classify (h.live hk h1)).1
      refine ⟨by rw [length_tyOf]; omega, ?_⟩
      intro hL
      have h3 : isS (tyOf t) (pos.getD k 0 - 1) = false := by
        rw [isL_eq_not] at hL; simpa using hL
      have P := h.push hk h1 h0 h3
      have hsl := P.slot_lt (fun _ _ h => h.1)
      have hc : sym t (pos.getD k 0 - 1) < maxSucc t := sym_lt_maxSucc _ (by omega)
      refine ⟨by omega, ?_, ?_, ?_⟩
      · show sym t (pos.getD k 0 - 1) < bs.length
        rw [h.lenB]; exact hc
      · show bs.getD (sym t (pos.getD k 0 - 1)) 0 < pos.length
        rw [h.ptr _ hc, h.g.lenP]; exact hsl
      · show bs.getD (sym t (pos.getD k 0 - 1)) 0 + 1 < 2 ^ 64
        rw [h.ptr _ hc]; omega
    · -- S pass
      change SafeFold _ _ (List.range t.length).reverse
        ((forUp t.length (lStep t (tyOf t) t.length)
          ((placeLms t lms (List.replicate t.length t.length) (bEnd0 t)).1, initBucketStart t)).1, bEnd0 t)
      have hL := LInit.of_LDone hv h2 (RS := trivR) (fun _ _ _ _ _ _ _ => trivial) hp
        (lPass_spec t hv trivR (indRel_true t) (stepL_true t) _ hp)
      generalize (forUp t.length (lStep t (tyOf t) t.length) (_, initBucketStart t)).1 = posL at hL
      apply safeFold_down (SSafe t (tyOf t)) (sStep t (tyOf t)) (fun r st => ∃ w, SInvG t trivR r st.1 st.2 w) t.length ?_
        t.length _ (Nat.le_refl _) ⟨wInit, SInvG.init hv (indRel_true t) hL⟩
      intro k st hk hP
      refine ⟨?_, sStep_invG hv (indRel_true t) (stepS_true t) st hk hP⟩
      obtain ⟨pos, be⟩ := st
      obtain ⟨w, inv⟩ := hP
      simp only at inv
      refine ⟨by show k < pos.length; rw [inv.g.lenP]; exact hk, ?_⟩
      show pos.getD k 0 = 0 ∨ _
      by_cases h0 : pos.getD k 0 = 0
      · exact Or.inl h0
      right
      dsimp only
      have hlt := (inv.g.classify (inv.scan_ahead hv hk)).1
      refine ⟨by rw [length_tyOf]; omega, ?_⟩
      intro hS
      have P := inv.push hv hk h0 hS
      have hc : sym t (pos.getD k 0 - 1) < maxSucc t := sym_lt_maxSucc _ (by omega)
      refine ⟨by omega, ?_, ?_⟩
      · show sym t (pos.getD k 0 - 1) < be.length
        rw [inv.lenB]; exact hc
      · show be.getD (sym t (pos.getD k 0 - 1)) 0 < pos.length
        rw [inv.ptr _ hc (P.room (fun _ _ h => h.1)), inv.g.lenP]; exact P.slot_lt (fun _ _ h => h.1)
  · obtain ⟨rfl, rfl⟩ := eq_singleton_of_length_lt_two hv h2 hl
    exact ⟨by decide, by decide, by decide, by decide⟩

end RbV.Thm.GenSrcSaisCalcPos
