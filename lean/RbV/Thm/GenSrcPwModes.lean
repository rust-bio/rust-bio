import RbV.Gen.SrcPwModes
/-!
# The mode wrappers `Aligner::{global, semiglobal, local}` (translated text) = `custom` with the mode's clip penalties, scoring
restored (C01)

`RbV/Gen/SrcPwModes.lean` is regenerated from the source text on every `./check C01`; `custom` is an abstract function
parameter there (any function `Aligner → x → y → Res (Alignment × Aligner)`), so the statements below hold for whatever
`custom` does — in particular for the translated one (`Gen/SrcPwCustom.lean`).

* `*_eq_custom_with_mode_clips`: the wrapper calls `custom` **once**, on the aligner whose four clip penalties are exactly the
  mode's (`MIN_SCORE`×4 / `MIN_SCORE, MIN_SCORE, 0, 0` / `0`×4) and whose other fields are untouched; it returns `custom`'s
  alignment with the mode tag set (and, for semiglobal / local, the clip operations filtered out); the aligner it leaves
  behind is the one `custom` left, with the four clip penalties put back to what they were on entry.
* `*_source_restores_scoring`: if `custom` does not write `self.scoring` (true of the translated `custom`:
  `GenSrcPwKeeps.custom_keeps_scoring`), the wrapper leaves `self.scoring` exactly as it found it — history independence of
  the scoring (seeded C01-1, C01-4, C01-6 break exactly this or the clause above).
-/
set_option linter.unusedSimpArgs false
namespace RbV.Thm.GenSrcPwModes
open RbV RbV.Rs RbV.Gen.Limits RbV.Gen.SrcPwTypes RbV.Gen.SrcPwModes

/-- the aligner with the four clip penalties replaced -/
def withClips (a : Aligner) (xp xs yp ys : Int) : Aligner :=
  { a with scoring := { a.scoring with xclip_prefix := xp, xclip_suffix := xs, yclip_prefix := yp, yclip_suffix := ys } }

/-- what a wrapper does around `custom`: run it with the clips `(xp, xs, yp, ys)`, post-process the alignment, put the
caller's clip penalties back -/
def wrapped (custom : Aligner → List Nat → List Nat → Res (Alignment × Aligner)) (post : Alignment → Alignment)
    (xp xs yp ys : Int) (a : Aligner) (x y : List Nat) : Res (Alignment × Aligner) :=
  match custom (withClips a xp xs yp ys) x y with
  | .ok (al, a') =>
    .ok (post al, withClips a' a.scoring.xclip_prefix a.scoring.xclip_suffix a.scoring.yclip_prefix a.scoring.yclip_suffix)
  | .panic => .panic
  | .fuel => .fuel

/-- `custom` does not write `self.scoring` -/
def KeepsScoring (custom : Aligner → List Nat → List Nat → Res (Alignment × Aligner)) : Prop :=
  ∀ s x y al s', custom s x y = .ok (al, s') → s'.scoring = s.scoring

theorem idx4 (a b c d : Int) : Rs.idx [a, b, c, d] 0 = .ok a ∧ Rs.idx [a, b, c, d] 1 = .ok b ∧
    Rs.idx [a, b, c, d] 2 = .ok c ∧ Rs.idx [a, b, c, d] 3 = .ok d := ⟨rfl, rfl, rfl, rfl⟩

/-- the mode tag and the clip filter commute (the text may set the tag before or after filtering) -/
theorem filter_mode (al : Alignment) (m : AlignmentMode) :
    ({ Alignment.filterClipOperations al with mode := m } : Alignment) = Alignment.filterClipOperations { al with mode := m } := rfl

theorem global_eq_custom_with_mode_clips (custom : Aligner → List Nat → List Nat → Res (Alignment × Aligner))
    (a : Aligner) (x y : List Nat) :
    global_ custom a x y = wrapped custom (fun al => { al with mode := .Global })
      minScorePairwise minScorePairwise minScorePairwise minScorePairwise a x y := by
  unfold global_ wrapped withClips
  simp only [Res.pure_eq_ok, Res.ok_bind, bind, Res.bind]
  cases custom _ x y with
  | ok p => obtain ⟨al, a'⟩ := p; simp [idx4, Res.bind, filter_mode]
  | panic => rfl
  | fuel => rfl

theorem semiglobal_eq_custom_with_mode_clips (custom : Aligner → List Nat → List Nat → Res (Alignment × Aligner))
    (a : Aligner) (x y : List Nat) :
    semiglobal_ custom a x y = wrapped custom
      (fun al => Alignment.filterClipOperations { al with mode := .Semiglobal })
      minScorePairwise minScorePairwise 0 0 a x y := by
  unfold semiglobal_ wrapped withClips
  simp only [Res.pure_eq_ok, Res.ok_bind, bind, Res.bind]
  cases custom _ x y with
  | ok p => obtain ⟨al, a'⟩ := p; simp [idx4, Res.bind, filter_mode]
  | panic => rfl
  | fuel => rfl

theorem local_eq_custom_with_mode_clips (custom : Aligner → List Nat → List Nat → Res (Alignment × Aligner))
    (a : Aligner) (x y : List Nat) :
    local_ custom a x y = wrapped custom
      (fun al => Alignment.filterClipOperations { al with mode := .Local }) 0 0 0 0 a x y := by
  unfold local_ wrapped withClips
  simp only [Res.pure_eq_ok, Res.ok_bind, bind, Res.bind]
  cases custom _ x y with
  | ok p => obtain ⟨al, a'⟩ := p; simp [idx4, Res.bind, filter_mode]
  | panic => rfl
  | fuel => rfl

/-- a wrapped call leaves the scoring as it found it, and the rest of the aligner as `custom` left it -/
theorem wrapped_restores (custom : Aligner → List Nat → List Nat → Res (Alignment × Aligner)) (hk : KeepsScoring custom)
    (post : Alignment → Alignment) (xp xs yp ys : Int) (a : Aligner) (x y : List Nat) (al : Alignment) (a' : Aligner)
    (h : wrapped custom post xp xs yp ys a x y = .ok (al, a')) :
    a'.scoring = a.scoring ∧ ∃ al0 a0, custom (withClips a xp xs yp ys) x y = .ok (al0, a0) ∧ al = post al0 ∧
      a'.I = a0.I ∧ a'.D = a0.D ∧ a'.S = a0.S ∧ a'.Lx = a0.Lx ∧ a'.Ly = a0.Ly ∧ a'.Sn = a0.Sn ∧
      a'.traceback = a0.traceback := by
  unfold wrapped at h
  cases hc : custom (withClips a xp xs yp ys) x y with
  | ok p =>
    obtain ⟨al0, a0⟩ := p
    rw [hc] at h
    simp only [Res.ok.injEq, Prod.mk.injEq] at h
    obtain ⟨h1, h2⟩ := h
    have hs := hk _ _ _ _ _ hc
    subst h1 h2
    refine ⟨?_, al0, a0, rfl, rfl, rfl, rfl, rfl, rfl, rfl, rfl, rfl⟩
    simp only [withClips] at hs ⊢
    rw [hs]
  | panic => rw [hc] at h; cases h
  | fuel => rw [hc] at h; cases h

theorem global_source_restores_scoring (custom : Aligner → List Nat → List Nat → Res (Alignment × Aligner))
    (hk : KeepsScoring custom) (a : Aligner) (x y : List Nat) (al : Alignment) (a' : Aligner)
    (h : global_ custom a x y = .ok (al, a')) : a'.scoring = a.scoring := by
  rw [global_eq_custom_with_mode_clips] at h
  exact (wrapped_restores custom hk _ _ _ _ _ a x y al a' h).1

theorem semiglobal_source_restores_scoring (custom : Aligner → List Nat → List Nat → Res (Alignment × Aligner))
    (hk : KeepsScoring custom) (a : Aligner) (x y : List Nat) (al : Alignment) (a' : Aligner)
    (h : semiglobal_ custom a x y = .ok (al, a')) : a'.scoring = a.scoring := by
  rw [semiglobal_eq_custom_with_mode_clips] at h
  exact (wrapped_restores custom hk _ _ _ _ _ a x y al a' h).1

theorem local_source_restores_scoring (custom : Aligner → List Nat → List Nat → Res (Alignment × Aligner))
    (hk : KeepsScoring custom) (a : Aligner) (x y : List Nat) (al : Alignment) (a' : Aligner)
    (h : local_ custom a x y = .ok (al, a')) : a'.scoring = a.scoring := by
  rw [local_eq_custom_with_mode_clips] at h
  exact (wrapped_restores custom hk _ _ _ _ _ a x y al a' h).1

end RbV.Thm.GenSrcPwModes
