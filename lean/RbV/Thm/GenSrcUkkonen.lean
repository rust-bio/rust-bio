import RbV.Gen.SrcUkkonen
import RbV.Model.Ukkonen
import RbV.Lemmas.UkkonenEq
import RbV.Thm.GenSrcBasic
import RbV.Thm.GenSrcScanD
import RbV.Thm.GenSrcOk
/-!
# The translated text of `Ukkonen::find_all_end` / `ukkonen::Matches::next` equals the mirror model `Ukkonen.run`

`RbV/Gen/SrcUkkonen.lean` is regenerated from `src/pattern_matching/ukkonen.rs` by `tools/rs2lean_pm.py` on every
`./check C09`.  The two DP columns `D: [Vec<usize>; 2]` are a list of two lists; which of them is the column being
written depends on the parity of the text position (`col = i % 2`).  The user's cost closure is the abstract function
`cost` (values `< 2^32`: it returns `u32`).  The translated `next` works on the explicit iterator state
`(D, text, lastk)`; `Rs.drain` calls it until `None`.

* `iter_cons`: one round of the translated `for (i, c) in &mut self.text` = one `Ukkonen.step` of the mirror model
  (inner `for j in 1..=lastk` = `newCol`, `while D[col][lastk] > k` = `cutBack`), on every state whose two columns have
  `m + 1` cells with entries `≤ B` (`B + 2^32 ≤ 2^64`: no checked addition overflows).
* `findAllEnd_init`: **whatever the two buffers held before** (any two lists: the state a previous search left behind),
  `find_all_end` resets them to `[k'+1; m+1]`, `0..=m` — the initial state of the model for the threshold `k'` it stores
  (`k' = k`, or `min k m`: clamping the threshold to the pattern length changes no result, `hits_clamp`).
* `findAllSrc_eq_model`: `find_all_end` followed by `next` until `None` = `Ukkonen.findAllEnd` of the mirror model.
-/
set_option linter.unusedSimpArgs false

namespace RbV.Thm.GenSrcUkkonen
open RbV RbV.Rs RbV.Gen.SrcUkkonen RbV.Model.Ukkonen RbV.Thm.GenSrc

/-! ### the two buffers -/

/-- `D` when buffer number `col` holds `cur` and the other one holds `oth` -/
def two (col : Nat) (cur oth : List Nat) : List (List Nat) := if col = 0 then [cur, oth] else [oth, cur]

theorem idx_two_col (col : Nat) (h : col < 2) (cur oth : List Nat) : Rs.idx (two col cur oth) col = Res.ok cur := by
  have : col = 0 ∨ col = 1 := by omega
  rcases this with rfl | rfl <;> simp [two, Rs.idx]

theorem idx_two_oth (col : Nat) (h : col < 2) (cur oth : List Nat) : Rs.idx (two col cur oth) (1 - col) = Res.ok oth := by
  have : col = 0 ∨ col = 1 := by omega
  rcases this with rfl | rfl <;> simp [two, Rs.idx]

theorem setIdx_two (col : Nat) (h : col < 2) (cur oth v : List Nat) :
    Rs.setIdx (two col cur oth) col v = Res.ok (two col v oth) := by
  have : col = 0 ∨ col = 1 := by omega
  rcases this with rfl | rfl <;> simp [two, Rs.setIdx]

theorem two_flip (col : Nat) (h : col < 2) (cur oth : List Nat) : two col cur oth = two (1 - col) oth cur := by
  have : col = 0 ∨ col = 1 := by omega
  rcases this with rfl | rfl <;> simp [two]

theorem idx_nth (l : List Nat) (j : Nat) (h : j < l.length) : Rs.idx l j = Res.ok (nth l j) := by
  rw [nth_getElem l j h]; exact Rs.idx_ok h

theorem nth_set_self (l : List Nat) (j v : Nat) (h : j < l.length) : nth (l.set j v) j = v := by
  simp [nth, h]

theorem nth_set_ne (l : List Nat) (j i v : Nat) (h : j ≠ i) : nth (l.set j v) i = nth l i := by
  simp [nth, List.getElem?_set_ne h]

theorem take_drop_set (N old : List Nat) (j : Nat) (hN : j < N.length) (hO : j < old.length) :
    (N.take j ++ old.drop j).set j (nth N j) = N.take (j + 1) ++ old.drop (j + 1) := by
  have hl : (N.take j).length = j := by rw [List.length_take]; omega
  rw [List.set_append_right _ _ (by omega), hl, Nat.sub_self, List.drop_eq_getElem_cons hO, List.set_cons_zero,
    List.take_succ_eq_append_getElem hN, List.append_assoc, nth_getElem N j hN]
  rfl

/-! ### well-formed states: two columns of `m + 1` cells, entries bounded by `B` -/

structure WF (m B : Nat) (s : St) : Prop where
  lenP : s.prev.length = m + 1
  lenO : s.old.length = m + 1
  lk : s.lastk ≤ m
  bP : ∀ j, nth s.prev j ≤ B
  bO : ∀ j, nth s.old j ≤ B

theorem natMin_eq (a b : Nat) : Nat.min a b = min a b := rfl

section
variable (cost : Nat → Nat → Nat) (hcost : ∀ a b, cost a b < 2 ^ 32)
include hcost

/- keeps `simp` out of the continuation of a bind while it rewrites the operation in front of it -/
attribute [local congr] GenSrc.bind_congr_arg in
/-- the body of `for j in 1..=self.lastk`: cell `j` of the current column from its three neighbours -/
theorem for1_step (col : Nat) (hcol : col < 2) (p : List Nat) (c : Nat) (cur oth : List Nat) (j : Nat)
    (hj1 : 1 ≤ j) (hjc : j < cur.length) (hjo : j < oth.length) (hjp : j ≤ p.length)
    (hb1 : nth oth j + 1 < 2 ^ 64) (hb2 : nth cur (j - 1) + 1 < 2 ^ 64) (hb3 : nth oth (j - 1) + 2 ^ 32 ≤ 2 ^ 64) :
    next_for1 (cost := cost) (col := col) (prev := 1 - col) (pattern := p) (c := c) (two col cur oth) j =
      Res.ok (two col (cur.set j (min (min (nth oth j + 1) (nth cur (j - 1) + 1))
        (nth oth (j - 1) + cost (nth p (j - 1)) c))) oth) := by
  have hc := hcost (nth p (j - 1)) c
  simp (disch := omega) [rs_ok, next_for1, idx_two_oth col hcol, idx_two_col col hcol, setIdx_two col hcol, idx_nth]
  -- what may be left: the same cell value up to the order of the operands of `min` / `+`
  first | done | (refine congrArg (fun v => two _ (List.set _ _ v) _) ?_; (try simp only [natMin_eq]); omega)

/-- the inner loop: the cells `1..=pre` of the current column become those of the model's `newCol` -/
theorem for1_fold (col : Nat) (hcol : col < 2) (p : List Nat) (c : Nat) (s : St) (pre B : Nat) (hB : B + 2 ^ 32 ≤ 2 ^ 64)
    (hmB : p.length ≤ B) (wf : WF p.length B s) (hpre : pre ≤ p.length) :
    ∀ n j, 1 ≤ j → j + n = pre + 1 →
      (List.range' j n).foldlM (next_for1 (cost := cost) (col := col) (prev := 1 - col) (pattern := p) (c := c))
        (two col ((newCol cost p c s pre).take j ++ s.old.drop j) s.prev) =
      Res.ok (two col (newCol cost p c s pre) s.prev) := by
  have hlenN := newCol_length cost p c s pre wf.lenP wf.lenO hpre
  intro n
  induction n with
  | zero =>
    intro j hj1 hjn
    have : j = pre + 1 := by omega
    subst this
    simp [newCol_take cost p c s pre wf.lenP hpre]
  | succ n ih =>
    intro j hj1 hjn
    have hcur : ∀ i, i < j → nth ((newCol cost p c s pre).take j ++ s.old.drop j) i = nth (newCol cost p c s pre) i :=
      fun i hi => nth_take_append _ _ j i hi (by omega)
    have hle := newCol_le cost p c s pre wf.lenP hpre (j - 1) (by omega)
    have hb1 := wf.bP j
    have hb3 := wf.bP (j - 1)
    have hstep := for1_step cost hcost col hcol p c ((newCol cost p c s pre).take j ++ s.old.drop j) s.prev j hj1
      (by simp [hlenN, wf.lenO]; omega) (by rw [wf.lenP]; omega) (by omega) (by omega)
      (by rw [hcur (j - 1) (by omega)]; omega) (by omega)
    rw [hcur (j - 1) (by omega)] at hstep
    have hlow := newCol_low cost p c s pre wf.lenP hpre (j - 1) (by omega)
    have hj' : j - 1 + 1 = j := by omega
    rw [hj'] at hlow
    rw [← hlow, take_drop_set _ _ j (by omega) (by rw [wf.lenO]; omega)] at hstep
    rw [List.range'_succ, List.foldlM_cons, hstep]
    simp only [Res.ok_bind]
    exact ih (j + 1) (by omega) (by omega)

omit hcost in
/-- `while D[col][lastk] > k { lastk -= 1 }` = the model's `cutBack` (cell 0 of the column is 0, so the loop stops there) -/
theorem while1_eq (col : Nat) (hcol : col < 2) (N oth : List Nat) (k : Nat) (h0 : nth N 0 = 0) :
    ∀ l fuel, l < fuel → l < N.length →
      next_while1 (cost := cost) (D := two col N oth) (col := col) (k := k) fuel l = Res.ok (cutBack N k l) := by
  have e1 : Rs.idx (two col N oth) col = Res.ok N := idx_two_col col hcol N oth
  intro l
  induction l with
  | zero =>
    intro fuel hf hl
    cases fuel with
    | zero => omega
    | succ fuel =>
      have e2 : Rs.idx N 0 = Res.ok 0 := by rw [idx_nth N 0 hl, h0]
      rw [next_while1]
      simp [e1, e2, cutBack]
  | succ l ih =>
    intro fuel hf hl
    cases fuel with
    | zero => omega
    | succ fuel =>
      have e2 : Rs.idx N (l + 1) = Res.ok (nth N (l + 1)) := idx_nth N _ hl
      have e3 : Rs.sub (l + 1) 1 = Res.ok l := by rw [Rs.sub_ok (by omega)]; rfl
      have hg : N.getD (l + 1) 0 = nth N (l + 1) := by simp [nth, List.getD_eq_getElem?_getD]
      have hg' : N[l + 1]?.getD 0 = nth N (l + 1) := rfl
      rw [next_while1]
      by_cases hgt : nth N (l + 1) > k
      · have hgt' : k < nth N (l + 1) := hgt
        have hngt : ¬ nth N (l + 1) ≤ k := by omega
        simp [e1, e2, e3, hgt, hgt', hngt, cutBack, hg, hg', ih fuel (by omega) (by omega)]
      · have hgt' : ¬ k < nth N (l + 1) := hgt
        have hngt : nth N (l + 1) ≤ k := by omega
        simp [e1, e2, hgt, hgt', hngt, cutBack, hg, hg']

/-- the source-level state that represents the model state `s` before text position `i` -/
def Dof (i : Nat) (s : St) : List (List Nat) := two (i % 2) s.old s.prev

omit hcost in
theorem Dof_step (i : Nat) (N : List Nat) (s : St) (lk : Nat) : two (i % 2) N s.prev = Dof (i + 1) ⟨N, s.prev, lk⟩ := by
  unfold Dof
  have h : i % 2 < 2 := Nat.mod_lt _ (by omega)
  rw [two_flip (i % 2) h]
  congr 1
  omega

omit hcost in
theorem step_wf (p : List Nat) (k B : Nat) (hmB : p.length ≤ B) (s : St) (c : Nat) (wf : WF p.length B s) :
    WF p.length B (step cost p k s c).1 := by
  have hpre : min (s.lastk + 1) p.length ≤ p.length := Nat.min_le_right _ _
  refine ⟨newCol_length cost p c s _ wf.lenP wf.lenO hpre, wf.lenP, ?_, ?_, wf.bP⟩
  · have := cutBack_le (newCol cost p c s (min (s.lastk + 1) p.length)) k (min (s.lastk + 1) p.length)
    simp only [step]
    omega
  · intro j
    simp only [step]
    by_cases hj : j ≤ min (s.lastk + 1) p.length
    · have := newCol_le cost p c s _ wf.lenP hpre j hj
      omega
    · rw [newCol_high cost p c s _ wf.lenP hpre j (by omega)]
      exact wf.bO j

/-- **one round of the translated `for (i, c) in &mut self.text`** = one `step` of the mirror model -/
theorem iter_cons (p : List Nat) (k B : Nat) (hB : B + 2 ^ 32 ≤ 2 ^ 64) (hmB : p.length ≤ B) (i : Nat) (s : St) (c : Nat)
    (rest : List Nat) (wf : WF p.length B s) :
    next_iter1 (cost := cost) (m := p.length) (pattern := p) (k := k) (c :: rest) i (Dof i s, s.lastk) =
      match (step cost p k s c).2 with
      | some d => Res.ok (Dof (i + 1) (step cost p k s c).1, (step cost p k s c).1.lastk, (rest, i + 1), some (some (i, d)))
      | none => next_iter1 (cost := cost) (m := p.length) (pattern := p) (k := k) rest (i + 1)
          (Dof (i + 1) (step cost p k s c).1, (step cost p k s c).1.lastk) := by
  have hcol : i % 2 < 2 := Nat.mod_lt _ (by omega)
  have hlk := wf.lk
  have e1 : Rs.sub 1 (i % 2) = Res.ok (1 - i % 2) := Rs.sub_ok (by omega)
  have e2 : Rs.idx (Dof i s) (i % 2) = Res.ok s.old := idx_two_col _ hcol _ _
  have e3 : Rs.setIdx s.old 0 0 = Res.ok (s.old.set 0 0) := Rs.setIdx_ok (by rw [wf.lenO]; omega)
  have e4 : ∀ v, Rs.setIdx (Dof i s) (i % 2) v = Res.ok (two (i % 2) v s.prev) := fun v => setIdx_two _ hcol _ _ v
  have e5 : Rs.add 64 s.lastk 1 = Res.ok (s.lastk + 1) := Rs.add_ok (by omega)
  have e5' : Rs.add 64 1 s.lastk = Res.ok (s.lastk + 1) := by rw [Nat.add_comm]; exact Rs.add_ok (by omega)
  have hmin' : Nat.min p.length (s.lastk + 1) = min (s.lastk + 1) p.length := Nat.min_comm _ _
  have hpre : min (s.lastk + 1) p.length ≤ p.length := Nat.min_le_right _ _
  have hpos : 1 ≤ min (s.lastk + 1) p.length + 1 := Nat.le_add_left _ _
  rw [next_iter1]
  simp only [step]
  -- from here on the bound of the inner loop, the new column and the new `lastk` are just names
  generalize hp : min (s.lastk + 1) p.length = pre at *
  have hstart : s.old.set 0 0 = (newCol cost p c s pre).take 1 ++ s.old.drop 1 := by
    have : (newCol cost p c s pre).take 1 = [0] := by simp [newCol]
    rw [this]
    cases hso : s.old with
    | nil => have := wf.lenO; rw [hso] at this; simp at this
    | cons x xs => simp
  have e6 := for1_fold cost hcost (i % 2) hcol p c s pre B hB hmB wf hpre pre 1 (Nat.le_refl 1) (Nat.add_comm 1 pre)
  rw [← hstart] at e6
  have hlenN := newCol_length cost p c s pre wf.lenP wf.lenO hpre
  have e7 := while1_eq cost (i % 2) hcol (newCol cost p c s pre) s.prev k (newCol_zero cost p c s _) pre (pre + 1)
    (Nat.lt_succ_self _) (by omega)
  have hD := fun lk => Dof_step i (newCol cost p c s pre) s lk
  generalize newCol cost p c s pre = N at *
  have e8 : Rs.idx (two (i % 2) N s.prev) (i % 2) = Res.ok N := idx_two_col _ hcol _ _
  have e9 : Rs.idx N p.length = Res.ok (N.getD p.length 0) := idx_getD _ _ 0 (by omega)
  generalize cutBack N k pre = L at *
  have hmin : Nat.min (s.lastk + 1) p.length = pre := hp
  by_cases hm : L = p.length
  · have hm' : p.length = L := hm.symm
    simp [e1, e2, e3, e4, e5, e5', hmin, hmin', e6, e7, e8, e9, hm, ← hD]
  · have hm' : ¬ p.length = L := fun h => hm h.symm
    simp [e1, e2, e3, e4, e5, e5', hmin, hmin', e6, e7, hm, hm', ← hD]

/-! ### `next`, driven until `None` -/

/-- the part of the iterator state of `ukkonen::Matches` that `next` modifies besides the text iterator: `(D, lastk)` -/
abbrev SrcSt := List (List Nat) × Nat

/-- the translated loop helper with its result regrouped as (matcher state, text iterator, outcome) -/
def iterS (p : List Nat) (k : Nat) (rest : List Nat) (i : Nat) (r : SrcSt) :
    Res (SrcSt × (List Nat × Nat) × Option (Option (Nat × Nat))) := do
  let (D, lastk, text, o) ← next_iter1 (cost := cost) (m := p.length) (pattern := p) (k := k) rest i r
  pure ((D, lastk), text, o)

/-- the translated `next` of the matcher for pattern `p` and threshold `k`, regrouped likewise -/
def nextR (p : List Nat) (k : Nat) (r : SrcSt) (tx : List Nat × Nat) : Res (SrcSt × (List Nat × Nat) × Option (Nat × Nat)) := do
  let (D, text, lastk, o) ← next (cost := cost) (D := r.1) (pattern := p) (text := tx) (lastk := r.2) (m := p.length) (k := k)
  pure ((D, lastk), text, o)

omit hcost in
theorem iterS_nil (p : List Nat) (k i : Nat) (r : SrcSt) : iterS cost p k [] i r = Res.ok (r, ([], i), none) := by
  obtain ⟨D, lastk⟩ := r
  simp [iterS, next_iter1]

omit hcost in
theorem nextR_of_iterS (p : List Nat) (k : Nat) (r : SrcSt) (tx : List Nat × Nat) (r' : SrcSt) (tx' : List Nat × Nat)
    (o : Option (Option (Nat × Nat))) (h : iterS cost p k tx.1 tx.2 r = Res.ok (r', tx', o)) :
    nextR cost p k r tx = Res.ok (r', tx', o.join) := by
  obtain ⟨D, lastk⟩ := r
  unfold iterS at h
  unfold nextR next
  cases hit : next_iter1 (cost := cost) (m := p.length) (pattern := p) (k := k) tx.1 tx.2 (D, lastk) with
  | panic => rw [hit] at h; simp at h
  | fuel => rw [hit] at h; simp at h
  | ok v =>
    obtain ⟨D', lastk', text', o'⟩ := v
    rw [hit] at h
    simp only [Res.ok_bind, Res.pure_eq_ok, Res.ok.injEq, Prod.mk.injEq] at h
    obtain ⟨⟨rfl, rfl⟩, rfl, rfl⟩ := h
    cases o' with
    | none => simp [hit]
    | some v => cases v <;> simp [hit]

theorem iterS_cons (p : List Nat) (k B : Nat) (hB : B + 2 ^ 32 ≤ 2 ^ 64) (hmB : p.length ≤ B) (i : Nat) (s : St) (c : Nat)
    (rest : List Nat) (wf : WF p.length B s) :
    iterS cost p k (c :: rest) i (Dof i s, s.lastk) =
      GenSrcScanD.branch (step cost p k s c).2
        (fun d => Res.ok ((Dof (i + 1) (step cost p k s c).1, (step cost p k s c).1.lastk), (rest, i + 1), some (some (i, d))))
        (iterS cost p k rest (i + 1) (Dof (i + 1) (step cost p k s c).1, (step cost p k s c).1.lastk)) := by
  unfold iterS
  rw [iter_cons cost hcost p k B hB hmB i s c rest wf]
  cases (step cost p k s c).2 <;> simp

/-- **`ukkonen::Matches::next` as written, called until `None`**, from any well-formed state = the model's `run` -/
theorem drain_eq (p : List Nat) (k B : Nat) (hB : B + 2 ^ 32 ≤ 2 ^ 64) (hmB : p.length ≤ B) (fuel : Nat) (rest : List Nat)
    (i : Nat) (s : St) (wf : WF p.length B s) (h64 : i + rest.length < 2 ^ 64) (hf : rest.length < fuel) :
    Rs.drain (GenSrcScanD.nextS (nextR cost p k)) fuel ((Dof i s, s.lastk), (rest, i)) = Res.ok (run cost p k s i rest) := by
  rw [← runO_eq_run]
  exact GenSrcScanD.drain_eq_run (step cost p k) (WF p.length B) (fun _ => True) (fun i s => (Dof i s, s.lastk))
    (iterS cost p k) (nextR cost p k) (iterS_nil cost p k)
    (fun i s c rest wf _ _ => iterS_cons cost hcost p k B hB hmB i s c rest wf)
    (nextR_of_iterS cost p k) (fun s c wf _ => step_wf cost p k B hmB s c wf) fuel rest i s wf (fun _ _ => trivial) h64 hf

/-- **one call of `ukkonen::Matches::next` as written** on a well-formed state: no panic; `None` exactly when the text is
exhausted without a further hit of the model, otherwise the model's next hit `Some((i, d))` (`GenSrcScanD.StepSpec`) -/
theorem next_eq_model (p : List Nat) (k B : Nat) (hB : B + 2 ^ 32 ≤ 2 ^ 64) (hmB : p.length ≤ B) (rest : List Nat)
    (i : Nat) (s : St) (wf : WF p.length B s) (h64 : i + rest.length < 2 ^ 64) :
    ∃ r' tx' o, nextR cost p k (Dof i s, s.lastk) (rest, i) = Res.ok (r', tx', o) ∧
      GenSrcScanD.StepSpec (step cost p k) (WF p.length B) (fun i s => (Dof i s, s.lastk)) rest i s r' tx' (o.map some) := by
  exact GenSrcScanD.next_spec (step cost p k) (WF p.length B) (fun _ => True) (fun i s => (Dof i s, s.lastk))
    (iterS cost p k) (nextR cost p k) (iterS_nil cost p k)
    (fun i s c rest wf _ _ => iterS_cons cost hcost p k B hB hmB i s c rest wf)
    (nextR_of_iterS cost p k) (fun s c wf _ => step_wf cost p k B hmB s c wf) rest i s wf (fun _ _ => trivial) h64

end

/-! ### `find_all_end`: the buffers are reset, whatever a previous search left in them -/

/-- **`Ukkonen::find_all_end` as written**: for *any* previous contents `D` of the two buffers the iterator starts in the
initial state of the mirror model for the threshold `k'` it stores, where `k' = k` (rust-bio as verified) or `k' = min k m`
(a text that clamps the threshold first; same hits by `hits_clamp`) -/
theorem findAllEnd_init (D : List (List Nat)) (hD : D.length = 2) (p t : List Nat) (k : Nat) (hk : k + 1 < 2 ^ 64)
    (hm : p.length + 1 < 2 ^ 64) :
    ∃ k', (k' = k ∨ k' = min k p.length) ∧
      Gen.SrcUkkonen.findAllEnd D p t k =
        Res.ok (Dof 0 (init p.length k'), (p, (t, 0), (init p.length k').lastk, p.length, k')) := by
  match D, hD with
  | [d0, d1], _ =>
    have e1 : Rs.add 64 k 1 = Res.ok (k + 1) := Rs.add_ok hk
    have e1' : Rs.add 64 1 k = Res.ok (k + 1) := by rw [Nat.add_comm]; exact Rs.add_ok (by omega)
    have e2 : Rs.add 64 p.length 1 = Res.ok (p.length + 1) := Rs.add_ok hm
    have e2' : Rs.add 64 1 p.length = Res.ok (p.length + 1) := by rw [Nat.add_comm]; exact Rs.add_ok (by omega)
    have e3 : Rs.add 64 (min k p.length) 1 = Res.ok (min k p.length + 1) := Rs.add_ok (by omega)
    have e3' : Rs.add 64 1 (min k p.length) = Res.ok (min k p.length + 1) := by rw [Nat.add_comm]; exact Rs.add_ok (by omega)
    -- `k.saturating_add(1)` (proposed fix C09-ukkonen-maxk-overflow) is `k + 1` inside the hypotheses
    have e1s : Rs.saturatingAdd 64 k 1 = k + 1 := by simp only [Rs.saturatingAdd]; omega
    have e3s : Rs.saturatingAdd 64 (min k p.length) 1 = min k p.length + 1 := by simp only [Rs.saturatingAdd]; omega
    have e4 : Nat.min k p.length = min k p.length := rfl
    have e4' : Nat.min p.length k = min k p.length := Nat.min_comm _ _
    have e5 : min (min k p.length) p.length = min k p.length := by omega
    first
      | refine ⟨k, Or.inl rfl, ?_⟩
        simp [Gen.SrcUkkonen.findAllEnd, Rs.idx, Rs.setIdx, Rs.resize, e1, e1', e1s, e2, e2', e3, e3', e3s, e4, e4', e5, Dof, two, init,
          List.range_eq_range']
        done
      | refine ⟨min k p.length, Or.inr rfl, ?_⟩
        simp [Gen.SrcUkkonen.findAllEnd, Rs.idx, Rs.setIdx, Rs.resize, e1, e1', e1s, e2, e2', e3, e3', e3s, e4, e4', e5, Dof, two, init,
          List.range_eq_range']
        done

theorem init_wf (m k : Nat) : WF m (max (k + 1) m) (init m k) := by
  refine ⟨by simp [init], by simp [init], by simp [init]; omega, ?_, ?_⟩
  · intro j
    simp only [init]
    by_cases hj : j < m + 1
    · rw [nth_range _ _ hj]; omega
    · rw [nth_ge _ _ (by simp; omega)]; omega
  · intro j
    simp only [init]
    by_cases hj : j < m + 1
    · rw [nth_replicate _ _ _ hj]; omega
    · rw [nth_ge _ _ (by simp; omega)]; omega

/-- the translated functions put together as a caller does: `ukkonen.find_all_end(p, t, k).collect()` on a matcher object
whose buffers hold `D` (left there by `with_capacity` or by any earlier search) -/
def findAllSrc (cost : Nat → Nat → Nat) (D : List (List Nat)) (p t : List Nat) (k : Nat) : Res (List (Nat × Nat)) := do
  let (D, (pattern, text, lastk, m, k)) ← Gen.SrcUkkonen.findAllEnd D p t k
  Rs.drain (fun (st : SrcSt × (List Nat × Nat)) => do
    let (D', text', lastk', o) ← next (cost := cost) (D := st.1.1) (pattern := pattern) (text := st.2) (lastk := st.1.2)
      (m := m) (k := k)
    pure (((D', lastk'), text'), o)) (t.length + 1) ((D, lastk), text)

/-- **Ukkonen end to end, on the translated source text**: `find_all_end` and `next` (until `None`) as written in
`ukkonen.rs` never panic and return the mirror model's list for the threshold `k'` the matcher stores — for every cost
function with `u32` values, every previous content of the two buffers, pattern, text and `k` (sizes fit `usize`). -/
theorem findAllSrc_eq_model (cost : Nat → Nat → Nat) (hcost : ∀ a b, cost a b < 2 ^ 32) (D : List (List Nat))
    (hD : D.length = 2) (p t : List Nat) (k : Nat) (hk : k + 2 ^ 32 < 2 ^ 64) (hm : p.length + 2 ^ 32 < 2 ^ 64)
    (h64 : t.length < 2 ^ 64) :
    ∃ k', (k' = k ∨ k' = min k p.length) ∧
      findAllSrc cost D p t k = Res.ok (RbV.Model.Ukkonen.findAllEnd cost p t k') := by
  obtain ⟨k', hk', hinit⟩ := findAllEnd_init D hD p t k (by omega) (by omega)
  refine ⟨k', hk', ?_⟩
  have hkk : k' ≤ k := by rcases hk' with rfl | rfl <;> omega
  have := drain_eq cost hcost p k' (max (k' + 1) p.length) (by omega) (by omega) (t.length + 1) t 0 (init p.length k')
    (init_wf p.length k') (by omega) (by omega)
  have hfun : (fun (st : SrcSt × (List Nat × Nat)) => do
      let (D', text', lastk', o) ← next (cost := cost) (D := st.1.1) (pattern := p) (text := st.2) (lastk := st.1.2)
        (m := p.length) (k := k')
      pure (((D', lastk'), text'), o)) = GenSrcScanD.nextS (nextR cost p k') := by
    funext st
    simp only [GenSrcScanD.nextS, nextR]
    cases next (cost := cost) (D := st.1.1) (pattern := p) (text := st.2) (lastk := st.1.2) (m := p.length) (k := k') <;> rfl
  simp only [findAllSrc, hinit, Res.ok_bind]
  rw [hfun]
  exact this

end RbV.Thm.GenSrcUkkonen
