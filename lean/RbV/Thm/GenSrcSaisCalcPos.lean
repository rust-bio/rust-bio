import RbV.Gen.SrcSaisCalcPos
import RbV.Lemmas.SaisBasic
import RbV.Thm.GenSrcBasic
/-!
# The translated text of `Sais::calc_pos` (induced sorting) equals the mirror model `Sais.calcPosRun` on index-safe runs

`RbV/Gen/SrcSaisCalcPos.lean` is regenerated by `tools/rs2lean_gensa.py` on every `./check C03`.  `self.init_bucket_start`,
`self.init_bucket_end` and the `PosTypes` predicates are abstract (monadic) parameters — instantiated by `calcPosK_eq_of_safe`
(`Thm/GenSrcSaisConstruct.lean`) with the translated functions of `Gen/SrcSaisBuckets.lean` / `Gen/SrcPosTypes.lean` — and `cast::<T, usize>` is the abstract `castU`.

The mirror model totalises out-of-range accesses (`getD`, dropped `set`); the Rust code panics there.  The equality is
therefore stated for **index-safe runs** of the model (`SafeFold`: at every step of the three passes the indices the step
uses are in range and `bucket_start[c] + 1` does not overflow): `for1_eq`, `for2_eq`, `for3_eq` (placement of the LMS
positions, L pass, S pass = `placeStep`, `lStep`, `sStep` step by step) and `calc_pos_eq_model`.  That every run on a
`Sais.Valid` text with an LMS list is index-safe is proved in `Thm/GenSrcSaisCalcPosSafe.lean` (`safeRun_of_valid`, from the
invariants of `Lemmas/SaisPlace/LPass/SPass.lean`).
-/
set_option linter.unusedSimpArgs false

namespace RbV.Thm.GenSrcSaisCalcPos
open RbV RbV.Rs RbV.Gen RbV.Thm.GenSrc RbV.Sais

/-- every step of `foldl step` from `s` over `xs` is safe -/
def SafeFold {σ α : Type} (safe : σ → α → Prop) (step : σ → α → σ) : List α → σ → Prop
  | [], _ => True
  | a :: as, s => safe s a ∧ SafeFold safe step as (step s a)

instance {σ α : Type} (safe : σ → α → Prop) (step : σ → α → σ) [∀ s a, Decidable (safe s a)] :
    ∀ (xs : List α) (s : σ), Decidable (SafeFold safe step xs s)
  | [], _ => isTrue trivial
  | a :: as, s =>
    have := instDecidableSafeFold safe step as (step s a)
    inferInstanceAs (Decidable (safe s a ∧ SafeFold safe step as (step s a)))

abbrev St2 := List Nat × List Nat

/-- placement step: `text[p]`, `bucket_end[c]`, `pos[bucket_end[c]]` in range -/
def PlaceSafe (t : List Nat) (st : St2) (p : Nat) : Prop :=
  p < t.length ∧ t.getD p 0 < st.2.length ∧ st.2.getD (t.getD p 0) 0 < st.1.length

instance (t : List Nat) (st : St2) (p : Nat) : Decidable (PlaceSafe t st p) := by unfold PlaceSafe; infer_instance

/-- L-pass step: `pos[r]` in range; if a predecessor is looked at, its type bit, symbol, bucket pointer and slot are in
range and the pointer can be incremented -/
def LSafe (t : List Nat) (ty : List Bool) (n : Nat) (st : St2) (r : Nat) : Prop :=
  r < st.1.length ∧ ((st.1.getD r 0 = n ∨ st.1.getD r 0 = 0) ∨
    (st.1.getD r 0 - 1 < ty.length ∧ (isL ty (st.1.getD r 0 - 1) = true →
      st.1.getD r 0 - 1 < t.length ∧ t.getD (st.1.getD r 0 - 1) 0 < st.2.length ∧
      st.2.getD (t.getD (st.1.getD r 0 - 1) 0) 0 < st.1.length ∧ st.2.getD (t.getD (st.1.getD r 0 - 1) 0) 0 + 1 < 2 ^ 64)))

instance (t : List Nat) (ty : List Bool) (n : Nat) (st : St2) (r : Nat) : Decidable (LSafe t ty n st r) := by
  unfold LSafe; infer_instance

/-- S-pass step (no test for the "unknown" value `n`) -/
def SSafe (t : List Nat) (ty : List Bool) (st : St2) (r : Nat) : Prop :=
  r < st.1.length ∧ (st.1.getD r 0 = 0 ∨
    (st.1.getD r 0 - 1 < ty.length ∧ (isS ty (st.1.getD r 0 - 1) = true →
      st.1.getD r 0 - 1 < t.length ∧ t.getD (st.1.getD r 0 - 1) 0 < st.2.length ∧
      st.2.getD (t.getD (st.1.getD r 0 - 1) 0) 0 < st.1.length)))

instance (t : List Nat) (ty : List Bool) (st : St2) (r : Nat) : Decidable (SSafe t ty st r) := by
  unfold SSafe; infer_instance

theorem wrappingSub_one (x : Nat) (hx : x < 2 ^ 64) : Rs.wrappingSub 64 x 1 = wrapSub1 x := by
  unfold Rs.wrappingSub wrapSub1 usizeMax
  by_cases h : x = 0
  · subst h; decide
  · rw [if_neg h]
    have : (1 : Nat) % 2 ^ 64 = 1 := by decide
    rw [this]
    have e : x + (2 ^ 64 - 1) = (x - 1) + 2 ^ 64 := by omega
    rw [e, Nat.add_mod_right, Nat.mod_eq_of_lt (by omega)]

theorem wrapSub1_lt (x : Nat) (hx : x < 2 ^ 64) : wrapSub1 x < 2 ^ 64 := by
  unfold wrapSub1 usizeMax; split <;> omega

theorem getD_lt_of_all (l : List Nat) (i : Nat) (h : ∀ x ∈ l, x < 2 ^ 64) : l.getD i 0 < 2 ^ 64 := by
  by_cases hi : i < l.length
  · rw [List.getD_eq_getElem l i 0 hi]; exact h _ (List.getElem_mem hi)
  · rw [List.getD_eq_getElem?_getD, List.getElem?_eq_none (by omega)]; decide

theorem small_set_wrapSub1 (be : List Nat) (c : Nat) (hb : ∀ x ∈ be, x < 2 ^ 64) :
    ∀ x ∈ be.set c (wrapSub1 (be.getD c 0)), x < 2 ^ 64 := by
  intro x hx
  rcases List.mem_or_eq_of_mem_set hx with h | h
  · exact hb x h
  · rw [h]; exact wrapSub1_lt _ (getD_lt_of_all be _ hb)

section loops
variable (castU : Nat → Option Nat) (isLF isSF isLmsF : Nat → Res Bool)
  (ibs : VecMap → List Nat → List Nat → Res (VecMap × List Nat)) (ibe : List Nat → List Nat → List Nat → Res (List Nat))
  (t : List Nat) (ty : List Bool)

/-- the placement loop = `foldl placeStep` -/
theorem for1_eq (hc : ∀ c ∈ t, castU c = some c) : ∀ (ps : List Nat) (st : St2), (∀ x ∈ st.2, x < 2 ^ 64) →
    SafeFold (PlaceSafe t) (placeStep t) ps st →
    SrcSaisCalcPos.calc_pos_for1 castU isLF isSF isLmsF ibs ibe t ps st = Res.ok (ps.foldl (placeStep t) st) := by
  intro ps
  induction ps with
  | nil => intro st _ _; rfl
  | cons p ps ih =>
    intro st hb hs
    obtain ⟨pos, be⟩ := st
    obtain ⟨⟨h1, h2, h3⟩, hrest⟩ := hs
    rw [SrcSaisCalcPos.calc_pos_for1, List.foldl_cons, ← ih _ (small_set_wrapSub1 be _ hb) hrest]
    simp only [idx_getD t p 0 h1, hc _ (List.getD_mem t p 0 h1), expect_some, Res.ok_bind, idx_getD be _ 0 h2,
      Rs.setIdx_ok h3, wrappingSub_one _ (getD_lt_of_all be _ hb), Rs.setIdx_ok h2]
    rfl

/-- the L pass = `foldl` of `lStep` over the rows -/
theorem for2_eq (hc : ∀ c ∈ t, castU c = some c) (hL : ∀ q, q < ty.length → isLF q = Res.ok (isL ty q)) (n : Nat) :
    ∀ (rs : List Nat) (st : St2), SafeFold (LSafe t ty n) (fun s r => lStep t ty n r s) rs st →
    SrcSaisCalcPos.calc_pos_for2 castU isLF isSF isLmsF ibs ibe t ty n rs st =
      Res.ok (rs.foldl (fun s r => lStep t ty n r s) st) := by
  intro rs
  induction rs with
  | nil => intro st _; rfl
  | cons r rs ih =>
    intro st hs
    obtain ⟨pos, bs⟩ := st
    obtain ⟨⟨h1, h2⟩, hrest⟩ := hs
    rw [SrcSaisCalcPos.calc_pos_for2, List.foldl_cons, ← ih _ hrest, idx_getD pos r 0 h1, Res.ok_bind]
    unfold lStep
    dsimp only at h1 h2 ⊢
    generalize pos.getD r 0 = v at h2 ⊢
    simp only [Bool.or_eq_true, beq_iff_eq, decide_eq_true_eq]
    -- the skip test is decided for either order of its disjuncts and of the operands of `==`
    by_cases hskip : v = n ∨ v = 0
    · rcases hskip with rfl | rfl <;> simp only [true_or, or_true, ↓reduceIte]
    · obtain ⟨hq, hin⟩ := h2.resolve_left hskip
      have hnen : v ≠ n := fun e => hskip (Or.inl e)
      have hne0 : v ≠ 0 := fun e => hskip (Or.inr e)
      simp only [hnen, hnen.symm, hne0, hne0.symm, or_self, ↓reduceIte]
      rw [Rs.sub_ok (Nat.pos_of_ne_zero hne0), Res.ok_bind, hL _ hq, Res.ok_bind]
      generalize v - 1 = u at hq hin ⊢
      cases hl : isL ty u with
      | false => simp only [Bool.false_eq_true, ↓reduceIte, Res.pure_eq_ok, Res.ok_bind]
      | true =>
        obtain ⟨g1, g2, g3, g4⟩ := hin hl
        simp only [↓reduceIte, idx_getD t u 0 g1, hc _ (List.getD_mem t u 0 g1), expect_some, Res.ok_bind,
          idx_getD bs _ 0 g2, Rs.setIdx_ok g3, Rs.add_ok g4, Rs.add_ok_comm g4, Rs.setIdx_ok g2, Res.pure_eq_ok]

/-- the S pass = `foldl` of `sStep` over the rows (from the right) -/
theorem for3_eq (hc : ∀ c ∈ t, castU c = some c) (hS : ∀ q, q < ty.length → isSF q = Res.ok (isS ty q)) :
    ∀ (rs : List Nat) (st : St2), (∀ x ∈ st.2, x < 2 ^ 64) → SafeFold (SSafe t ty) (fun s r => sStep t ty r s) rs st →
    SrcSaisCalcPos.calc_pos_for3 castU isLF isSF isLmsF ibs ibe t ty rs st =
      Res.ok (rs.foldl (fun s r => sStep t ty r s) st) := by
  intro rs
  induction rs with
  | nil => intro st _ _; rfl
  | cons r rs ih =>
    intro st hb hs
    obtain ⟨pos, be⟩ := st
    obtain ⟨⟨h1, h2⟩, hrest⟩ := hs
    have hb' : ∀ x ∈ (sStep t ty r (pos, be)).2, x < 2 ^ 64 := by
      unfold sStep
      dsimp only
      split
      · exact hb
      · split
        · exact small_set_wrapSub1 be _ hb
        · exact hb
    rw [SrcSaisCalcPos.calc_pos_for3, List.foldl_cons, ← ih _ hb' hrest, idx_getD pos r 0 h1, Res.ok_bind]
    unfold sStep
    dsimp only at h1 h2 hb ⊢
    generalize pos.getD r 0 = v at h2 ⊢
    simp only [beq_iff_eq]
    by_cases hskip : v = 0
    · rw [if_pos hskip, if_pos hskip]
    · obtain ⟨hq, hin⟩ := h2.resolve_left hskip
      rw [if_neg hskip, if_neg hskip, Rs.sub_ok (Nat.pos_of_ne_zero hskip), Res.ok_bind, hS _ hq, Res.ok_bind]
      generalize v - 1 = u at hq hin ⊢
      cases hl : isS ty u with
      | false => simp only [Bool.false_eq_true, ↓reduceIte, Res.pure_eq_ok, Res.ok_bind]
      | true =>
        obtain ⟨g1, g2, g3⟩ := hin hl
        simp only [↓reduceIte, idx_getD t u 0 g1, hc _ (List.getD_mem t u 0 g1), expect_some, Res.ok_bind,
          idx_getD be _ 0 g2, Rs.setIdx_ok g3, wrappingSub_one _ (getD_lt_of_all be _ hb), Rs.setIdx_ok g2,
          Res.pure_eq_ok]

end loops

/-- **index-safe run of the model's `calc_pos`** on `lms_pos = lms`: every step of the three passes stays in range -/
structure SafeRun (t : List Nat) (ty : List Bool) (lms : List Nat) : Prop where
  small : ∀ x ∈ initBucketEnd (initBucketStart t) t.length, x < 2 ^ 64
  place : SafeFold (PlaceSafe t) (placeStep t) lms.reverse
    (List.replicate t.length t.length, initBucketEnd (initBucketStart t) t.length)
  lpass : SafeFold (LSafe t ty t.length) (fun s r => lStep t ty t.length r s) (List.range t.length)
    ((placeLms t lms (List.replicate t.length t.length) (initBucketEnd (initBucketStart t) t.length)).1, initBucketStart t)
  spass : SafeFold (SSafe t ty) (fun s r => sStep t ty r s) (List.range t.length).reverse
    ((forUp t.length (lStep t ty t.length)
      ((placeLms t lms (List.replicate t.length t.length) (initBucketEnd (initBucketStart t) t.length)).1, initBucketStart t)).1,
     initBucketEnd (initBucketStart t) t.length)

/-- **translated `calc_pos` = mirror model `calcPosRun`** on every index-safe run; the abstract parts behave like the
translated `init_bucket_start` / `init_bucket_end` / `is_l_pos` / `is_s_pos` are proved to behave -/
theorem calc_pos_eq_model (castU : Nat → Option Nat) (isLF isSF isLmsF : Nat → Res Bool)
    (ibs : VecMap → List Nat → List Nat → Res (VecMap × List Nat)) (ibe : List Nat → List Nat → List Nat → Res (List Nat))
    (pos0 lms : List Nat) (bsz : VecMap) (bst0 be0 t : List Nat) (ty : List Bool) (m : VecMap)
    (hc : ∀ c ∈ t, castU c = some c)
    (hL : ∀ q, q < ty.length → isLF q = Res.ok (isL ty q)) (hS : ∀ q, q < ty.length → isSF q = Res.ok (isS ty q))
    (hibs : ibs bsz bst0 t = Res.ok (m, initBucketStart t))
    (hibe : ∀ be, ibe (initBucketStart t) be t = Res.ok (initBucketEnd (initBucketStart t) t.length))
    (hsafe : SafeRun t ty lms) :
    SrcSaisCalcPos.calc_pos castU isLF isSF isLmsF ibs ibe pos0 lms bsz bst0 be0 t ty =
      Res.ok ((calcPosRun t ty lms).pos, m, (calcPosRun t ty lms).bStart, (calcPosRun t ty lms).bEnd) := by
  have h1 := for1_eq castU isLF isSF isLmsF ibs ibe t hc lms.reverse
    (List.replicate t.length t.length, initBucketEnd (initBucketStart t) t.length) hsafe.small hsafe.place
  have h2 := for2_eq castU isLF isSF isLmsF ibs ibe t ty hc hL t.length (List.range t.length) _ hsafe.lpass
  have h3 := for3_eq castU isLF isSF isLmsF ibs ibe t ty hc hS (List.range t.length).reverse _ hsafe.small hsafe.spass
  rw [← forUp_eq_foldl] at h2
  rw [← forDown_eq_foldl] at h3
  have hp : lms.reverse.foldl (placeStep t) (List.replicate t.length t.length, initBucketEnd (initBucketStart t) t.length) =
      placeLms t lms (List.replicate t.length t.length) (initBucketEnd (initBucketStart t) t.length) := rfl
  rw [hp] at h1
  unfold SrcSaisCalcPos.calc_pos calcPosRun
  simp only [hibs, hibe, Rs.resizeV_nil, Res.ok_bind, Res.pure_eq_ok, Nat.sub_zero, ← List.range_eq_range']
  rw [h1]
  simp only [Res.ok_bind]
  generalize hpl : placeLms t lms (List.replicate t.length t.length) (initBucketEnd (initBucketStart t) t.length) = pl at h2 h3 ⊢
  obtain ⟨pl1, pl2⟩ := pl
  simp only [] at h2 h3 ⊢
  rw [h2]
  simp only [Res.ok_bind]
  generalize hlp : forUp t.length (lStep t ty t.length) (pl1, initBucketStart t) = lp at h3 ⊢
  obtain ⟨lp1, lp2⟩ := lp
  simp only [] at h3 ⊢
  rw [h3]
  simp only [Res.ok_bind]

end RbV.Thm.GenSrcSaisCalcPos
