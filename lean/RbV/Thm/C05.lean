import RbV.Ref.BS
import RbV.Model.LFMapping
import RbV.Model.LFSortedCheck
import RbV.Model.SampledSA
import RbV.Model.SampleBuild
import RbV.Lemmas.SortedBridge
import RbV.Thm.GenSrcBackwardSearch
import RbV.Thm.GenSrcOcc
import RbV.Thm.GenSrcFmAccess
/-!
# C05 — FM-index backward search returns exactly the pattern's occurrences

The oracle of the correspondence run is `checkBS t sa p res` (`RbV/Ref/BS.lean`): `t` the indexed text, `sa` the
suffix array as the implementation printed it, `p` the pattern, `res` the `BackwardSearchResult`.  The theorems say
that it accepts exactly the results the property allows (`BSProp`, `RbV/Spec/FMIndex.lean`), for every text, array,
non-empty pattern and result — and that the property fixes the kind of result and the partial length uniquely.
Helper lemmas live in `RbV/Ref/BS.lean`.

Parts of the file: the oracle (`checkBS_iff` … `some_result_accepted`); the mirror model of `backward_search` is correct on every
LF-sorted index, on every suffix array in the sense of C03 and on every array `checkSA` accepts (`lf_mapping` …
`backward_search_correct_of_checkSA`, `model_accepted`); positions resolved through a sampled suffix array (`sampled_get_correct` …);
then the translated text of `fmindex.rs`: `backward_search` (with `occ_source_is_spec` for the translated `Occ::get` of `bwt.rs`)
and `Interval::occ`.
-/
namespace RbV.Thm.C05
open RbV

/-- **Base theorem.** For a non-empty pattern the acceptance function decides the property statement: `Complete(iv)` is accepted iff the
pattern occurs and `iv` lies inside the array and maps through it to exactly the occurrence set; `Partial(iv, l)` iff
`0 < l < |p|`, `l` is the length of the longest occurring suffix and `iv` maps to exactly that suffix's occurrences;
`Absent` iff not even the last symbol occurs. -/
theorem checkBS_iff (t sa p : List Nat) (hp : p ≠ []) (res : BSRes) :
    checkBS t sa p res = true ↔ BSProp t sa p res := by
  cases res with
  | complete lo hi =>
    simp only [checkBS, BSProp, Bool.and_eq_true, beq_iff_eq, longestSuf_full_iff, mapsToB_iff]
  | part lo hi l =>
    simp only [checkBS, BSProp, Bool.and_eq_true, beq_iff_eq, decide_eq_true_eq, mapsToB_iff,
      isLongestSuf_iff]
    constructor
    · rintro ⟨⟨⟨h1, h2⟩, h3⟩, h4⟩; subst h3; exact ⟨h1, h2, rfl, h4⟩
    · rintro ⟨h1, h2, h3, h4⟩; subst h3; exact ⟨⟨⟨h1, h2⟩, rfl⟩, h4⟩
  | absent =>
    simp only [checkBS, BSProp, beq_iff_eq, longestSuf_zero_iff p t hp]

/-- what "maps to exactly the occurrences" means, spelled out: the rows `lo ≤ r < hi` exist, every one of them holds
an occurrence position, and every occurrence position is held by one of them -/
theorem mapsTo_spelled_out (sa : List Nat) (lo hi : Nat) (p t : List Nat) :
    MapsTo sa lo hi p t ↔
      (lo ≤ hi ∧ hi ≤ sa.length ∧
        (∀ r, lo ≤ r → r < hi → OccursAt p t (sa.getD r 0)) ∧
        (∀ i, OccursAt p t i → ∃ r, lo ≤ r ∧ r < hi ∧ sa.getD r 0 = i)) := by
  unfold MapsTo
  constructor
  · rintro ⟨h1, h2, h3⟩
    exact ⟨h1, h2, fun r hr1 hr2 => (h3 _).mp ((mem_ivMap_iff sa lo hi _ h2).mpr ⟨r, hr1, hr2, rfl⟩),
      fun i hi' => (mem_ivMap_iff sa lo hi i h2).mp ((h3 i).mpr hi')⟩
  · rintro ⟨h1, h2, h3, h4⟩
    refine ⟨h1, h2, fun i => ?_⟩
    rw [mem_ivMap_iff sa lo hi i h2]
    exact ⟨fun ⟨r, hr1, hr2, hr3⟩ => hr3 ▸ h3 r hr1 hr2, h4 i⟩

/-- the three kinds of result exclude each other, so "Complete exactly when the pattern occurs" and "Absent exactly
when the last symbol does not occur" are consequences of `BSProp` -/
theorem result_kind_determined (t sa p : List Nat) (hp : p ≠ []) (res : BSRes) (h : BSProp t sa p res) :
    (Occurs p t ↔ ∃ lo hi, res = .complete lo hi) ∧
    (¬ Occurs (suffix p 1) t ↔ res = .absent) ∧
    (∀ lo hi l, res = .part lo hi l → IsLongestSuf p t l) := by
  have hlen : 1 ≤ p.length := List.length_pos_iff.mpr hp
  cases res with
  | complete lo hi =>
    refine ⟨⟨fun _ => ⟨lo, hi, rfl⟩, fun _ => h.1⟩, ⟨fun hn => ?_, fun hn => by cases hn⟩, fun _ _ _ hh => by cases hh⟩
    exact absurd (occurs_suffix_mono p t 1 p.length hlen (by rw [suffix_length]; exact h.1)) hn
  | part lo hi l =>
    obtain ⟨h1, h2, h3, h4⟩ := h
    refine ⟨⟨fun ho => ?_, fun ⟨_, _, hh⟩ => by cases hh⟩, ⟨fun hn => ?_, fun hn => by cases hn⟩, ?_⟩
    · exact absurd (by rw [suffix_length]; exact ho) (h3.2.2 p.length h2 (Nat.le_refl _))
    · exact absurd (occurs_suffix_mono p t 1 l h1 h3.2.1) hn
    · intro lo' hi' l' hh; cases hh; exact h3
  | absent =>
    refine ⟨⟨fun ho => ?_, fun ⟨_, _, hh⟩ => by cases hh⟩, ⟨fun _ => rfl, fun _ => h⟩, fun _ _ _ hh => by cases hh⟩
    exact absurd (occurs_suffix_mono p t 1 p.length hlen (by rw [suffix_length]; exact ho)) h

/-- the partial length the property asks for is unique -/
theorem partial_length_unique (p t : List Nat) (l₁ l₂ : Nat) :
    IsLongestSuf p t l₁ → IsLongestSuf p t l₂ → l₁ = l₂ :=
  isLongestSuf_unique p t l₁ l₂

/-- for every text and non-empty pattern there are an array and a result that the checker accepts (`BSProp` is satisfiable):
with `occ := positions of the longest occurring suffix` and an array that lists them in its first rows.  Nothing is said about
a given array. -/
theorem some_result_accepted (t p : List Nat) (hp : p ≠ []) :
    ∃ sa res, checkBS t sa p res = true := by
  have hlen : 1 ≤ p.length := List.length_pos_iff.mpr hp
  let m := longestSuf p t p.length
  by_cases h0 : m = 0
  · exact ⟨[], .absent, by simp only [checkBS, beq_iff_eq]; exact h0⟩
  · by_cases hf : m = p.length
    · refine ⟨occurrences p t, .complete 0 (occurrences p t).length, ?_⟩
      simp only [checkBS, Bool.and_eq_true, beq_iff_eq]
      refine ⟨hf, ?_⟩
      rw [mapsToB_iff]
      exact ⟨Nat.zero_le _, Nat.le_refl _, fun i => by simp [ivMap, mem_occurrences]⟩
    · have hle := longestSuf_le p t p.length
      refine ⟨occurrences (suffix p m) t, .part 0 (occurrences (suffix p m) t).length m, ?_⟩
      simp only [checkBS, Bool.and_eq_true, beq_iff_eq, decide_eq_true_eq]
      refine ⟨⟨⟨by omega, by omega⟩, rfl⟩, ?_⟩
      rw [mapsToB_iff]
      exact ⟨Nat.zero_le _, Nat.le_refl _, fun i => by simp [ivMap, mem_occurrences]⟩

/-! Non-vacuity on concrete inputs: the text `GATTACA$` and its suffix array `[7,6,4,1,5,0,3,2]`. -/
section examples
/-- "GATTACA$" with $=0, A=1, C=2, G=3, T=4 -/
private def txt : List Nat := [3, 1, 4, 4, 1, 2, 1, 0]
private def sa : List Nat := [7, 6, 4, 1, 5, 0, 3, 2]

-- pattern "TA" is complete with rows 6..7 ↦ {3}
example : checkBS txt sa [4, 1] (.complete 6 7) = true := by decide +kernel
-- a wrong interval is rejected
example : checkBS txt sa [4, 1] (.complete 6 8) = false := by decide +kernel
-- pattern "GTACA": longest occurring suffix "TACA" (length 4) at position 3, row 6 — the repo's partial-match test
example : checkBS txt sa [3, 4, 1, 2, 1] (.part 6 7 4) = true := by decide +kernel
example : checkBS txt sa [3, 4, 1, 2, 1] (.part 6 7 3) = false := by decide +kernel
example : checkBS txt sa [3, 4, 1, 2, 1] (.complete 6 7) = false := by decide +kernel
-- a symbol that does not occur: Absent
example : checkBS txt sa [1, 5] .absent = true := by decide +kernel
example : checkBS txt sa [1, 2] .absent = false := by decide +kernel
example : BSProp txt sa [4, 1] (.complete 6 7) := (checkBS_iff txt sa [4, 1] (by decide +kernel) _).mp
  (by decide +kernel)
end examples

/-! ## mirror model of `backward_search` and the LF-mapping argument

`BSModel.backwardSearch less occ n pat` (`RbV/Model/BackwardSearch.lean`) follows the Rust function line by line over
abstract `less`/`occ`; `LF.lessRef`, `LF.occRef`, `LF.bwtOf` (`RbV/Model/LFMapping.lean`) are the values the index
components hold for the BWT of `(t, sa)`.  `LF.Sorted t sa a` is the sortedness hypothesis, a conjunction of bounded
(hence decidable) statements about `(t, sa, a)`: `sa` is a permutation of the positions, rows are ordered by first
symbol, two rows starting with `a` are ordered like the rows of the following positions, and the text does not end
in `a`.  Every suffix array in the sense of C03 (any consistent order of the sentinels) of a text whose sentinel
is its smallest symbol satisfies it for every non-sentinel symbol (`SortedBridge.isSA_lfSorted`; without that condition it fails:
the example at the end of `RbV/Lemmas/SortedBridge.lean`); nothing is assumed about the order among the sentinel rows. -/

/-- **LF-mapping lemma**: on a sorted array, if row `x` starts with `a` and row `z` holds the next text position,
then `x = less(a) + #{rows before z whose BWT symbol is a}` -/
theorem lf_mapping (t sa : List Nat) (a x z : Nat) (hs : LF.Sorted t sa a) (hx : x < sa.length) (hz : z < sa.length)
    (hxa : t.getD (sa.getD x 0) 0 = a) (hzx : sa.getD z 0 = sa.getD x 0 + 1) :
    x = LF.lessRef (LF.bwtOf t sa) a + LF.occLt (LF.bwtOf t sa) z a :=
  LF.lf_mapping hs x z hx hz hxa hzx

/-- **interval refinement**: the rows whose suffix starts with `a·P` are
`less a + occ(a, lo-1) … less a + occ(a, hi-1) - 1` when `lo … hi-1` are the rows whose suffix starts with `P` -/
theorem lf_step (t sa : List Nat) (a : Nat) (hs : LF.Sorted t sa a) :
    BSModel.LFStep t sa (LF.lessRef (LF.bwtOf t sa)) (LF.occRef (LF.bwtOf t sa)) a :=
  LF.lfStep_of_sorted hs

/-- loop-invariant part (last non-empty interval, matched length, completeness flag), for *any* `less`/`occ` that provide the LF
step and have `less a ≥ 1` on the pattern symbols, a non-empty array whose entries are `≤ |t|` and hold every text position
(`Surj`: what gives "no missing occurrence"), and a non-empty pattern -/
theorem backward_search_correct_of_LF (t sa pat : List Nat) (less : Nat → Nat) (occ : Nat → Nat → Nat)
    (hp : pat ≠ []) (hn : 0 < sa.length)
    (hrange : ∀ row, row < sa.length → sa.getD row 0 ≤ t.length)
    (hs : BSModel.Surj t sa) (hless : ∀ a ∈ pat, 1 ≤ less a) (hLF : ∀ a ∈ pat, BSModel.LFStep t sa less occ a) :
    BSProp t sa pat (BSModel.backwardSearch less occ sa.length pat) :=
  BSModel.backwardSearch_correct_of_LF t sa pat less occ hp hn hrange hs hless hLF

/-- **`backward_search` is correct** for every text ending in a symbol smaller than all pattern symbols (one or
many sentinels), every array sorted in the sense above, and every non-empty pattern: the mirror model's result
satisfies the property statement -/
theorem backward_search_correct (t sa pat : List Nat) (hp : pat ≠ []) (hn : 0 < t.length)
    (hsent : ∀ a ∈ pat, t.getD (t.length - 1) 0 < a)
    (hsorted : ∀ a ∈ pat, LF.Sorted t sa a) :
    BSProp t sa pat
      (BSModel.backwardSearch (LF.lessRef (LF.bwtOf t sa)) (LF.occRef (LF.bwtOf t sa)) sa.length pat) :=
  LF.backwardSearch_correct t sa pat hp hn hsent hsorted

/-- the same with the sortedness hypothesis given as the Boolean `LF.sortedAllB t sa` (permutation test plus
conditions on adjacent rows only), which the driver evaluates on the array the implementation printed -/
theorem backward_search_correct_decidable (t sa pat : List Nat) (hp : pat ≠ []) (hn : 0 < t.length)
    (hsent : ∀ a ∈ pat, t.getD (t.length - 1) 0 < a)
    (hsorted : LF.sortedAllB t sa = true) :
    BSProp t sa pat
      (BSModel.backwardSearch (LF.lessRef (LF.bwtOf t sa)) (LF.occRef (LF.bwtOf t sa)) sa.length pat) :=
  backward_search_correct t sa pat hp hn hsent
    (fun a ha => LF.sortedAllB_sound t sa hsorted a (Nat.ne_of_lt (hsent a ha)))

example : BSProp [3, 1, 4, 4, 1, 2, 1, 0] [7, 6, 4, 1, 5, 0, 3, 2] [3, 4, 1, 2, 1]
    (BSModel.backwardSearch (LF.lessRef (LF.bwtOf [3, 1, 4, 4, 1, 2, 1, 0] [7, 6, 4, 1, 5, 0, 3, 2]))
      (LF.occRef (LF.bwtOf [3, 1, 4, 4, 1, 2, 1, 0] [7, 6, 4, 1, 5, 0, 3, 2])) 8 [3, 4, 1, 2, 1]) :=
  backward_search_correct_decidable _ _ _ (by decide +kernel) (by decide +kernel) (by decide +kernel)
    (by decide +kernel)

/-- **`backward_search` is correct on every suffix array in the sense of C03**: no sortedness hypothesis left.  For
every non-empty text whose last symbol (the sentinel) is its smallest symbol and is smaller than all pattern symbols,
every array with `IsSA t sa` (sorted under some consistent order of the sentinel occurrences, `RbV/Spec/SufOrder.lean`)
and every non-empty pattern, the mirror model's result satisfies the property statement.  The bridge
`IsSA t sa → LF.Sorted t sa a` is `RbV.SortedBridge.isSA_lfSorted`. -/
theorem backward_search_correct_of_isSA (t sa pat : List Nat) (hp : pat ≠ []) (hne : t ≠ [])
    (h : IsSA t sa)
    (hmin : ∀ p, p < t.length → sentinelOf t ≤ t.getD p 0)
    (hsent : ∀ a ∈ pat, t.getD (t.length - 1) 0 < a) :
    BSProp t sa pat
      (BSModel.backwardSearch (LF.lessRef (LF.bwtOf t sa)) (LF.occRef (LF.bwtOf t sa)) sa.length pat) :=
  backward_search_correct t sa pat hp (List.length_pos_iff.mpr hne) hsent
    (fun a ha => SortedBridge.isSA_lfSorted t sa hne h hmin a (Nat.ne_of_lt (hsent a ha)))

/-- **`backward_search` is correct on every array accepted by C03's checker**: no sortedness hypothesis left.  For
every non-empty text whose last symbol (the sentinel) is its smallest symbol and is smaller than all pattern symbols,
every array `sa` with `checkSA t sa = true` (⇔ `IsSA t sa`, theorem `RbV.Thm.C03.checkSA_iff`) and every non-empty
pattern, the mirror model's result satisfies the property statement -/
theorem backward_search_correct_of_checkSA (t sa pat : List Nat) (hp : pat ≠ [])
    (hc : checkSA t sa = true)
    (hmin : ∀ p, p < t.length → sentinelOf t ≤ t.getD p 0)
    (hsent : ∀ a ∈ pat, t.getD (t.length - 1) 0 < a) :
    BSProp t sa pat
      (BSModel.backwardSearch (LF.lessRef (LF.bwtOf t sa)) (LF.occRef (LF.bwtOf t sa)) sa.length pat) :=
  backward_search_correct_of_isSA t sa pat hp (SortedBridge.checkSA_ne_nil t sa hc) (checkSA_isSA t sa hc) hmin hsent

-- the same instance through `checkSA`; every hypothesis is decided
example : BSProp [3, 1, 4, 4, 1, 2, 1, 0] [7, 6, 4, 1, 5, 0, 3, 2] [3, 4, 1, 2, 1]
    (BSModel.backwardSearch (LF.lessRef (LF.bwtOf [3, 1, 4, 4, 1, 2, 1, 0] [7, 6, 4, 1, 5, 0, 3, 2]))
      (LF.occRef (LF.bwtOf [3, 1, 4, 4, 1, 2, 1, 0] [7, 6, 4, 1, 5, 0, 3, 2])) 8 [3, 4, 1, 2, 1]) :=
  backward_search_correct_of_checkSA _ _ _ (by decide +kernel) (by decide +kernel) (by decide +kernel)
    (by decide +kernel)

-- the same through `IsSA`, obtained from the checker
example : BSProp [3, 1, 4, 4, 1, 2, 1, 0] [7, 6, 4, 1, 5, 0, 3, 2] [3, 4, 1, 2, 1]
    (BSModel.backwardSearch (LF.lessRef (LF.bwtOf [3, 1, 4, 4, 1, 2, 1, 0] [7, 6, 4, 1, 5, 0, 3, 2]))
      (LF.occRef (LF.bwtOf [3, 1, 4, 4, 1, 2, 1, 0] [7, 6, 4, 1, 5, 0, 3, 2])) 8 [3, 4, 1, 2, 1]) :=
  backward_search_correct_of_isSA _ _ _ (by decide +kernel) (by decide +kernel) (checkSA_isSA _ _
    (by decide +kernel)) (by decide +kernel) (by decide +kernel)

/-- **positions resolved through a sampled suffix array**: the mirror model of `SampledSuffixArray::get` (LF walk to
the next sampled row, or to a row whose BWT symbol is the sentinel, for which `sample` stores an extra entry) returns
`sa[index]` for every row, every sampling rate `s` (for `s = 0` the Rust code panics at `pos % self.s`, the model does not) and
every text with one or many sentinels, provided the array passes `sortedAllB` and the stored samples / extra rows hold what
`SuffixArray::sample` puts there.  (Such a `get` is what the hypothesis `hget` of `interval_occ_source_eq_model` asks for; the
translated `get` is tied to a model in C03 only.) -/
theorem sampled_get_correct (t sa : List Nat) (s : Nat) (sampleGet extraGet : Nat → Nat)
    (hsorted : LF.sortedAllB t sa = true)
    (hsample : ∀ pos, pos < sa.length → pos % s = 0 → sampleGet (pos / s) = sa.getD pos 0)
    (hextra : ∀ pos, pos < sa.length → pos % s ≠ 0 →
      (LF.bwtOf t sa).getD pos 0 = t.getD (t.length - 1) 0 → extraGet pos = sa.getD pos 0)
    (index : Nat) (hi : index < sa.length) :
    SampledModel.get s (LF.bwtOf t sa) (t.getD (t.length - 1) 0) (LF.lessRef (LF.bwtOf t sa))
      (LF.occRef (LF.bwtOf t sa)) sampleGet extraGet sa.length index = some (sa.getD index 0) :=
  SampledModel.get_correct t sa s sampleGet extraGet
    (fun a ha => LF.sortedAllB_sound t sa hsorted a (Ne.symm ha)) (LF.sortedAllB_perm hsorted) hsample hextra index hi

-- GATTACA$, sampling rate 3: row 4 (position 5) is reached from the sample of row 6 … every row gives sa[row]
example : (List.range 8).map (fun i => SampledModel.get 3 (LF.bwtOf [3, 1, 4, 4, 1, 2, 1, 0] [7, 6, 4, 1, 5, 0, 3, 2]) 0
      (LF.lessRef (LF.bwtOf [3, 1, 4, 4, 1, 2, 1, 0] [7, 6, 4, 1, 5, 0, 3, 2]))
      (LF.occRef (LF.bwtOf [3, 1, 4, 4, 1, 2, 1, 0] [7, 6, 4, 1, 5, 0, 3, 2]))
      (fun q => [7, 6, 4, 1, 5, 0, 3, 2].getD (q * 3) 0) (fun _ => 0) 8 i)
    = [7, 6, 4, 1, 5, 0, 3, 2].map some := by decide +kernel

/-- … and with the stored data produced by the mirror model of `SuffixArray::sample` itself (`SampledModel.build`:
`sample` vector and `extra_rows` map after the construction loop) no hypothesis about the stored values is left:
construction followed by `get` returns `sa[index]` for every row, every sampling rate `s ≥ 1`, on every array
passing `sortedAllB` -/
theorem sampled_array_correct (t sa : List Nat) (s : Nat) (hs : 0 < s)
    (hsorted : LF.sortedAllB t sa = true) (index : Nat) (hi : index < sa.length) :
    SampledModel.get s (LF.bwtOf t sa) (t.getD (t.length - 1) 0) (LF.lessRef (LF.bwtOf t sa))
      (LF.occRef (LF.bwtOf t sa))
      (SampledModel.sampleGet (SampledModel.build sa (LF.bwtOf t sa) s (t.getD (t.length - 1) 0) sa.length).1)
      (SampledModel.extraGet (SampledModel.build sa (LF.bwtOf t sa) s (t.getD (t.length - 1) 0) sa.length).2)
      sa.length index = some (sa.getD index 0) :=
  sampled_get_correct t sa s _ _ hsorted
    (fun pos hpos hm => SampledModel.build_sample sa _ s _ hs sa.length pos hpos hm)
    (fun pos hpos hm hb => SampledModel.build_extra sa _ s _ sa.length pos hpos hm hb)
    index hi

/-- the same for every array accepted by C03's checker (⇔ `IsSA t sa`), on texts whose sentinel is the smallest
symbol: construction followed by `get` returns `sa[index]` for every row and every sampling rate `s ≥ 1` -/
theorem sampled_array_correct_of_checkSA (t sa : List Nat) (s : Nat) (hs : 0 < s)
    (hc : checkSA t sa = true)
    (hmin : ∀ p, p < t.length → sentinelOf t ≤ t.getD p 0) (index : Nat) (hi : index < sa.length) :
    SampledModel.get s (LF.bwtOf t sa) (t.getD (t.length - 1) 0) (LF.lessRef (LF.bwtOf t sa))
      (LF.occRef (LF.bwtOf t sa))
      (SampledModel.sampleGet (SampledModel.build sa (LF.bwtOf t sa) s (t.getD (t.length - 1) 0) sa.length).1)
      (SampledModel.extraGet (SampledModel.build sa (LF.bwtOf t sa) s (t.getD (t.length - 1) 0) sa.length).2)
      sa.length index = some (sa.getD index 0) :=
  sampled_array_correct t sa s hs (SortedBridge.checkSA_sortedAllB t sa hc hmin) index hi

/-- … and `get` alone, with the stored values as hypotheses -/
theorem sampled_get_correct_of_checkSA (t sa : List Nat) (s : Nat) (sampleGet extraGet : Nat → Nat)
    (hc : checkSA t sa = true)
    (hmin : ∀ p, p < t.length → sentinelOf t ≤ t.getD p 0)
    (hsample : ∀ pos, pos < sa.length → pos % s = 0 → sampleGet (pos / s) = sa.getD pos 0)
    (hextra : ∀ pos, pos < sa.length → pos % s ≠ 0 →
      (LF.bwtOf t sa).getD pos 0 = t.getD (t.length - 1) 0 → extraGet pos = sa.getD pos 0)
    (index : Nat) (hi : index < sa.length) :
    SampledModel.get s (LF.bwtOf t sa) (t.getD (t.length - 1) 0) (LF.lessRef (LF.bwtOf t sa))
      (LF.occRef (LF.bwtOf t sa)) sampleGet extraGet sa.length index = some (sa.getD index 0) :=
  sampled_get_correct t sa s sampleGet extraGet (SortedBridge.checkSA_sortedAllB t sa hc hmin) hsample hextra index hi

-- two sequences "A$A$" as bytes, sampling rate 2, from C03's checker: every row gives `sa[row]`
example : ∀ i, i < 4 → SampledModel.get 2 (LF.bwtOf [65, 36, 65, 36] [3, 1, 2, 0]) 36
      (LF.lessRef (LF.bwtOf [65, 36, 65, 36] [3, 1, 2, 0])) (LF.occRef (LF.bwtOf [65, 36, 65, 36] [3, 1, 2, 0]))
      (SampledModel.sampleGet (SampledModel.build [3, 1, 2, 0] (LF.bwtOf [65, 36, 65, 36] [3, 1, 2, 0]) 2 36 4).1)
      (SampledModel.extraGet (SampledModel.build [3, 1, 2, 0] (LF.bwtOf [65, 36, 65, 36] [3, 1, 2, 0]) 2 36 4).2)
      4 i = some ([3, 1, 2, 0].getD i 0) :=
  fun i hi => sampled_array_correct_of_checkSA [65, 36, 65, 36] [3, 1, 2, 0] 2 (by decide +kernel)
    (by decide +kernel) (by decide +kernel) i hi

-- two sequences "A$A$" (A=1, $=0), sampling rate 2: row 3 is not sampled and its BWT symbol is the sentinel → extra row
example : SampledModel.build [3, 1, 2, 0] (LF.bwtOf [1, 0, 1, 0] [3, 1, 2, 0]) 2 0 4 = ([3, 2], [(3, 0)]) := by
  decide +kernel

/-- by `backward_search_correct` the result of the mirror model is accepted by the oracle: on a sorted index the checker and the
mirror model agree -/
theorem model_accepted (t sa pat : List Nat) (hp : pat ≠ []) (hn : 0 < t.length)
    (hsent : ∀ a ∈ pat, t.getD (t.length - 1) 0 < a)
    (hsorted : ∀ a ∈ pat, LF.Sorted t sa a) :
    checkBS t sa pat
      (BSModel.backwardSearch (LF.lessRef (LF.bwtOf t sa)) (LF.occRef (LF.bwtOf t sa)) sa.length pat) = true :=
  (checkBS_iff t sa pat hp _).mpr (backward_search_correct t sa pat hp hn hsent hsorted)

section model_examples
/-- "GATTACA$" with $=0, A=1, C=2, G=3, T=4 and its suffix array -/
private def txt' : List Nat := [3, 1, 4, 4, 1, 2, 1, 0]
private def sa' : List Nat := [7, 6, 4, 1, 5, 0, 3, 2]
-- the mirror model on the repo's test cases: GATTACA complete, GTACA partial (4), and an absent symbol
example : BSModel.backwardSearch (LF.lessRef (LF.bwtOf txt' sa')) (LF.occRef (LF.bwtOf txt' sa')) 8 [3, 1, 4, 4, 1, 2, 1]
    = .complete 5 6 := by decide +kernel
example : BSModel.backwardSearch (LF.lessRef (LF.bwtOf txt' sa')) (LF.occRef (LF.bwtOf txt' sa')) 8 [3, 4, 1, 2, 1]
    = .part 6 7 4 := by decide +kernel
example : BSModel.backwardSearch (LF.lessRef (LF.bwtOf txt' sa')) (LF.occRef (LF.bwtOf txt' sa')) 8 [1, 5]
    = .absent := by decide +kernel
example : LF.bwtOf txt' sa' = [1, 2, 4, 3, 1, 0, 4, 1] := by decide +kernel
end model_examples

/-! ## `FMIndexable::backward_search` translated from the source text (docs/notes/GEN.md, "Translated function bodies")

`RbV/Gen/SrcBackwardSearch.lean` is regenerated from `src/data_structures/fmindex.rs` by `tools/rs2lean.py` on every
`./check C05` (proofs: `RbV/Thm/GenSrcBackwardSearch.lean`).  The required trait methods `self.less(a)`, `self.occ(r, a)`,
`self.bwt()` are parameters; the `break` is a flag of the fold; `BackwardSearchResult` is a generated inductive
(`GenSrcBackwardSearch.toGen : BSRes → BackwardSearchResult`).  `Rs.Res.ok v` = no checked `usize` operation panics. -/

/-- **`backward_search`, as written, is the mirror model `BSModel.backwardSearch`** over the same `less`/`occ` — the trait
methods `self.less(a)`, `self.occ(r, a)` taken as total functions, not the translated accessors —, for a non-empty BWT, `less(a) ≥ 1` on the pattern symbols (the subtraction `less + occ - 1`) and sums that fit a `usize` -/
theorem backward_search_source_eq_model (lessF : Nat → Nat) (occF : Nat → Nat → Nat) (bwt pat : List Nat)
    (hn : 0 < bwt.length) (hn' : bwt.length < 2 ^ 64) (hm : pat.length < 2 ^ 64) (hless : ∀ a ∈ pat, 1 ≤ lessF a)
    (hb : ∀ a ∈ pat, ∀ r, lessF a + occF r a < 2 ^ 64) :
    Gen.SrcBackwardSearch.backward_search lessF occF bwt pat
      = Rs.Res.ok (GenSrcBackwardSearch.toGen (BSModel.backwardSearch lessF occF bwt.length pat)) :=
  GenSrcBackwardSearch.backward_search_eq_model lessF occF bwt pat hn hn' hm hless hb

/-- **generated code satisfies the property**: on every LF-sorted array of a text whose last symbol is smaller than all
pattern symbols (one or many sentinels), the *translated* body of `backward_search` — with the trait methods `less`/`occ` taken
to be the total functions `LF.lessRef`/`LF.occRef` of the BWT of `(t, sa)`, not the translated accessors `FMIndex::less`/`occ`
(which can panic for a symbol outside the tables; that they return these values on alphabet symbols is C04 and
`GenSrcFmAccess.accessors_exact`, not composed here) — passes all its own checked operations and returns a result that satisfies
the property statement `BSProp`, for every non-empty pattern (sizes below `2^64`) -/
theorem backward_search_source_correct (t sa pat : List Nat) (hp : pat ≠ []) (hn : 0 < t.length)
    (hlen : t.length < 2 ^ 64) (hm : pat.length < 2 ^ 64)
    (hsent : ∀ a ∈ pat, t.getD (t.length - 1) 0 < a)
    (hsorted : ∀ a ∈ pat, LF.Sorted t sa a) :
    ∃ res, Gen.SrcBackwardSearch.backward_search (LF.lessRef (LF.bwtOf t sa)) (LF.occRef (LF.bwtOf t sa))
        (LF.bwtOf t sa) pat = Rs.Res.ok (GenSrcBackwardSearch.toGen res) ∧ BSProp t sa pat res := by
  obtain ⟨a0, ha0⟩ := List.exists_mem_of_ne_nil pat hp
  have hsa : sa.length = t.length := PermPos.length (hsorted a0 ha0).perm
  have hbl : (LF.bwtOf t sa).length = sa.length := by simp [LF.bwtOf]
  refine ⟨_, ?_, backward_search_correct t sa pat hp hn hsent hsorted⟩
  rw [← hbl]
  apply GenSrcBackwardSearch.backward_search_eq_model
  · rw [hbl, hsa]; exact hn
  · rw [hbl, hsa]; exact hlen
  · exact hm
  · exact fun a ha => LF.less_pos_of_perm (hsorted a ha).perm hn (hsent a ha)
  · intro a _ r
    have h1 : LF.lessRef (LF.bwtOf t sa) a + (LF.bwtOf t sa).count a ≤ (LF.bwtOf t sa).length :=
      List.countP_lt_add_count_le (LF.bwtOf t sa) a
    have h2 : LF.occRef (LF.bwtOf t sa) r a ≤ (LF.bwtOf t sa).count a := by
      unfold LF.occRef
      exact (List.take_sublist _ _).count_le a
    rw [hbl, hsa] at h1
    omega

/-- the `occ` the search is run with is what the translated `Occ::get` returns on every table whose column `a` is
`OccM.occNew bwt k a` — what `Occ::new` stores for a tracked symbol (C04 `occ_new_source_exact`)
(`FMIndex::occ(r, a)` is `self.occ.get(&self.bwt, r, a)`): for every sampling rate `1 ≤ k < 2^32` and every row of a BWT shorter
than `2^64`, with
`bytecount::count` read as `List.count` (`GenSrcOcc.get_exact_of_table`, also C04's `occ_get_source_exact_on_table`; the
generated file is rebuilt from `bwt.rs` on every `./check C05` as well) -/
theorem occ_source_is_spec (occ : List (List Nat)) (k : Nat) (bwt : List Nat) (r a : Nat)
    (hcp : occ[a]? = some (OccM.occNew bwt k a)) (hk : 0 < k) (hk32 : k < 2 ^ 32) (hr : r < bwt.length)
    (hn : bwt.length < 2 ^ 64) :
    Gen.SrcOcc.get (fun s c => s.count c) occ k bwt r a = Rs.Res.ok (LF.occRef bwt r a) :=
  GenSrcOcc.get_exact_of_table occ k bwt r a hcp hk hk32 hr hn

-- GATTACA$: complete, partial (4 symbols) and absent through the translated function
example : Gen.SrcBackwardSearch.backward_search (LF.lessRef (LF.bwtOf [3, 1, 4, 4, 1, 2, 1, 0] [7, 6, 4, 1, 5, 0, 3, 2]))
    (LF.occRef (LF.bwtOf [3, 1, 4, 4, 1, 2, 1, 0] [7, 6, 4, 1, 5, 0, 3, 2])) (LF.bwtOf [3, 1, 4, 4, 1, 2, 1, 0] [7, 6, 4, 1, 5, 0, 3, 2])
    [3, 1, 4, 4, 1, 2, 1] = Rs.Res.ok (.Complete (5, 6)) := by decide +kernel
example : Gen.SrcBackwardSearch.backward_search (LF.lessRef (LF.bwtOf [3, 1, 4, 4, 1, 2, 1, 0] [7, 6, 4, 1, 5, 0, 3, 2]))
    (LF.occRef (LF.bwtOf [3, 1, 4, 4, 1, 2, 1, 0] [7, 6, 4, 1, 5, 0, 3, 2])) (LF.bwtOf [3, 1, 4, 4, 1, 2, 1, 0] [7, 6, 4, 1, 5, 0, 3, 2])
    [3, 4, 1, 2, 1] = Rs.Res.ok (.Partial (6, 7) 4) := by decide +kernel
example : Gen.SrcBackwardSearch.backward_search (LF.lessRef (LF.bwtOf [3, 1, 4, 4, 1, 2, 1, 0] [7, 6, 4, 1, 5, 0, 3, 2]))
    (LF.occRef (LF.bwtOf [3, 1, 4, 4, 1, 2, 1, 0] [7, 6, 4, 1, 5, 0, 3, 2])) (LF.bwtOf [3, 1, 4, 4, 1, 2, 1, 0] [7, 6, 4, 1, 5, 0, 3, 2])
    [1, 5] = Rs.Res.ok .Absent := by decide +kernel
-- an empty BWT: `self.bwt().len() - 1` underflows, the Rust code panics
example : Gen.SrcBackwardSearch.backward_search (fun _ => 0) (fun _ _ => 0) [] [1] = Rs.Res.panic := by decide +kernel

/-! ### `Interval::occ` translated from the source text (`RbV/Gen/SrcFmAccess.lean`, proofs
`RbV/Thm/GenSrcFmAccess.lean`).  `SA: SuffixArray` is an opaque type, `SuffixArray::get` the abstract, possibly panicking
`saGet`; the hypothesis `hget` — `get(i) = Some(sa[i])` on the rows of the array — holds for the plain vector
(`RawSuffixArray::get`) and is what `sampled_get_source_exact_all` (C03) proves of the translated `SampledSuffixArray::get`. -/

/-- **`Interval::occ`, as written, returns exactly the suffix-array entries of its rows** — the list `ivMap sa lo hi` the
property's `MapsTo` is stated over — without panic, for every interval inside the array -/
theorem interval_occ_source_eq_model {σ : Type} (saGet : σ → Nat → Rs.Res (Option Nat)) (s : σ) (sa : List Nat)
    (hget : ∀ i, i < sa.length → saGet s i = Rs.Res.ok (some (sa.getD i 0)))
    (lo hi : Nat) (h : hi ≤ sa.length) :
    Gen.SrcFmAccess.intervalOcc saGet { lower := lo, upper := hi } s = Rs.Res.ok (ivMap sa lo hi) :=
  RbV.Thm.GenSrcFmAccess.intervalOcc_eq_model saGet s sa hget lo hi h

/-- … and an interval whose first row is outside the array panics (`.expect("Interval out of range of suffix array")`) -/
theorem interval_occ_source_out_of_range {σ : Type} (saGet : σ → Nat → Rs.Res (Option Nat)) (s : σ) (lo hi : Nat)
    (h : lo < hi) (hnone : saGet s lo = Rs.Res.ok none) :
    Gen.SrcFmAccess.intervalOcc saGet { lower := lo, upper := hi } s = Rs.Res.panic :=
  RbV.Thm.GenSrcFmAccess.intervalOcc_out_of_range saGet s lo hi h hnone

-- GATTACA$: rows 5..7 of the suffix array through the translated function (plain vector as `SuffixArray`)
example : Gen.SrcFmAccess.intervalOcc (fun (sa : List Nat) i => Rs.Res.ok sa[i]?) ⟨5, 7⟩ [7, 6, 4, 1, 5, 0, 3, 2]
    = Rs.Res.ok [0, 3] := by decide +kernel
example : Gen.SrcFmAccess.intervalOcc (fun (sa : List Nat) i => Rs.Res.ok sa[i]?) ⟨7, 9⟩ [7, 6, 4, 1, 5, 0, 3, 2]
    = Rs.Res.panic := by decide +kernel
example : Gen.SrcFmAccess.intervalOcc (fun (sa : List Nat) i => Rs.Res.ok sa[i]?) ⟨5, 7⟩ [7, 6, 4, 1, 5, 0, 3, 2]
    = Rs.Res.ok (ivMap [7, 6, 4, 1, 5, 0, 3, 2] 5 7) :=
  interval_occ_source_eq_model _ _ [7, 6, 4, 1, 5, 0, 3, 2]
    (fun i hi => by rw [List.getD_eq_getElem?_getD, List.getElem?_eq_getElem hi]; rfl) 5 7 (by decide +kernel)

end RbV.Thm.C05
