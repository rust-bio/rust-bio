import RbV.Gen.SrcPosTypes
import RbV.Lemmas.SaisTypes
import RbV.Thm.GenSrcBasic
/-!
# The translated text of `PosTypes::{new, is_s_pos, is_l_pos, is_lms_pos}` (suffix_array.rs) equals the mirror model

`RbV/Gen/SrcPosTypes.lean` is regenerated by `tools/rs2lean_gensa.py` on every `./check C03`.  The `BitVec` of the bv crate
is read as the vector of its bits (`new_fill` = copies, `set_bit` / `get_bit` = checked write / read), the generic symbol
type at `u64` (only `==` and `<` are used).  `new_eq_model`: the right-to-left loop builds `PosTypes.posTypes text` (the
model is a structural recursion; the loop invariant is stated pointwise with the local rules `Sais.isS_last`,
`Sais.isS_step`); the three predicates are the model's `isS`, `isL`, `isLms` inside the text (outside the bv crate panics,
the model says `false`).  `new_nil_panics`, `is_s_pos_oob_panics` record where the code panics; nothing downstream uses them.
-/
set_option linter.unusedSimpArgs false

namespace RbV.Thm.GenSrcPosTypes
open RbV RbV.Rs RbV.Gen RbV.Thm.GenSrc RbV.Sais

/-- the bits at the positions `≥ k` are final -/
def Inv (t : List Nat) (k : Nat) (bits : List Bool) : Prop :=
  bits.length = t.length ∧ ∀ q, k ≤ q → q < t.length → bits.getD q false = isS (tyOf t) q

theorem step (t : List Nat) (hsz : t.length < 2 ^ 64) (k : Nat) (hk : k + 1 < t.length) (bits : List Bool)
    (h : Inv t (k + 1) bits) (rest : List Nat) :
    ∃ bits', SrcPosTypes.new_for1 t (k :: rest) bits = SrcPosTypes.new_for1 t rest bits' ∧ Inv t k bits' := by
  obtain ⟨hl, hq⟩ := h
  have hkl : k < bits.length := by omega
  refine ⟨bits.set k (isS (tyOf t) k), ?_, by rw [List.length_set]; exact hl, ?_⟩
  · -- both branches write the value the typing rule gives
    rw [SrcPosTypes.new_for1, isS_step t k hk]
    unfold sym
    simp only [idx_getD t k 0 (by omega), Rs.add_ok (w := 64) (a := k) (b := 1) (by omega),
      Rs.add_ok_comm (w := 64) (a := k) (b := 1) (by omega), idx_getD t (k + 1) 0 hk,
      Res.ok_bind, idx_getD bits (k + 1) false (by omega), hq (k + 1) (Nat.le_refl _) hk, beq_iff_eq, gt_iff_lt]
    by_cases hc : t.getD k 0 = t.getD (k + 1) 0
    · simp only [hc, ↓reduceIte, Rs.setIdx_ok hkl, Res.ok_bind, Res.pure_eq_ok]
    · simp only [hc, Ne.symm hc, ↓reduceIte, Rs.setIdx_ok hkl, Res.ok_bind, Res.pure_eq_ok]
  · intro q hkq hqn
    by_cases he : q = k
    · subst he
      rw [List.getD_eq_getElem _ _ _ (by rw [List.length_set]; exact hkl), List.getElem_set_self]
    · rw [List.getD_eq_getElem?_getD, List.getElem?_set_ne (fun e => he e.symm), ← List.getD_eq_getElem?_getD]
      exact hq q (by omega) hqn

theorem loop (t : List Nat) (hsz : t.length < 2 ^ 64) : ∀ (k : Nat) (bits : List Bool), k + 1 ≤ t.length → Inv t k bits →
    ∃ bits', SrcPosTypes.new_for1 t (List.range k).reverse bits = Res.ok bits' ∧ Inv t 0 bits' := by
  intro k
  induction k with
  | zero => intro bits _ h; exact ⟨bits, by simp [SrcPosTypes.new_for1], h⟩
  | succ k ih =>
    intro bits hk h
    rw [List.range_succ, List.reverse_append, List.reverse_singleton, List.singleton_append]
    obtain ⟨b1, h1, h2⟩ := step t hsz k (by omega) bits h (List.range k).reverse
    obtain ⟨b2, h3, h4⟩ := ih b1 (by omega) h2
    exact ⟨b2, by rw [h1, h3], h4⟩

/-- **translated `PosTypes::new` = mirror model** (non-empty text; the empty one makes `n as u64 - 1` underflow) -/
theorem new_eq_model (t : List Nat) (hne : t ≠ []) (hsz : t.length < 2 ^ 64) :
    SrcPosTypes.new t = Res.ok (PosTypes.posTypes t) := by
  have hpos : 0 < t.length := List.length_pos_iff.mpr hne
  have e1 : Rs.sub t.length 1 = Res.ok (t.length - 1) := Rs.sub_ok hpos
  have e2 : Rs.setIdx (List.replicate t.length false) (t.length - 1) true =
      Res.ok ((List.replicate t.length false).set (t.length - 1) true) := Rs.setIdx_ok (by simp; omega)
  have h0 : Inv t (t.length - 1) ((List.replicate t.length false).set (t.length - 1) true) := by
    refine ⟨by simp, ?_⟩
    intro q h1 h2
    have : q = t.length - 1 := by omega
    subst this
    rw [List.getD_eq_getElem _ _ _ (by simp; omega), List.getElem_set_self]
    exact (isS_last t hpos).symm
  obtain ⟨bits, h1, h2, h3⟩ := loop t hsz (t.length - 1) _ (by omega) h0
  have hfin : bits = PosTypes.posTypes t := by
    apply List.ext_getElem
    · rw [h2, PosTypes.length_posTypes]
    · intro i hi hi'
      have := h3 i (Nat.zero_le _) (by omega)
      rw [List.getD_eq_getElem _ _ _ hi] at this
      rw [this]
      unfold isS tyOf
      rw [List.getD_eq_getElem _ _ _ hi']
  unfold SrcPosTypes.new
  simp only [e1, Nat.sub_zero, ← List.range_eq_range', Res.ok_bind, e2, h1, hfin]

theorem new_nil_panics : SrcPosTypes.new [] = Res.panic := by decide

theorem is_s_pos_eq_model (ty : List Bool) (p : Nat) (hp : p < ty.length) : SrcPosTypes.is_s_pos ty p = Res.ok (isS ty p) := by
  unfold SrcPosTypes.is_s_pos isS
  simp [-List.getD_eq_getElem?_getD, idx_getD ty p false hp]

theorem is_l_pos_eq_model (ty : List Bool) (p : Nat) (hp : p < ty.length) : SrcPosTypes.is_l_pos ty p = Res.ok (isL ty p) := by
  unfold SrcPosTypes.is_l_pos isL
  simp [-List.getD_eq_getElem?_getD, idx_getD ty p false hp]

theorem is_lms_pos_eq_model (ty : List Bool) (p : Nat) (hp : p < ty.length) :
    SrcPosTypes.is_lms_pos ty p = Res.ok (isLms ty p) := by
  unfold SrcPosTypes.is_lms_pos isLms
  by_cases h0 : p = 0
  · subst h0; simp
  · have e1 := is_s_pos_eq_model ty p hp
    have e2 : Rs.sub p 1 = Res.ok (p - 1) := Rs.sub_ok (by omega)
    have e3 := is_l_pos_eq_model ty (p - 1) (by omega)
    have h0' : 0 < p := by omega
    have h0'' : p ≥ 1 := by omega
    cases hs : isS ty p <;> simp [h0, h0', h0'', e1, e2, e3, hs]

/-- out of range the bv crate panics (the model's totalised predicates say `false` there) -/
theorem is_s_pos_oob_panics (ty : List Bool) (p : Nat) (hp : ty.length ≤ p) : SrcPosTypes.is_s_pos ty p = Res.panic := by
  unfold SrcPosTypes.is_s_pos Rs.idx
  simp [List.getElem?_eq_none hp]

end RbV.Thm.GenSrcPosTypes
