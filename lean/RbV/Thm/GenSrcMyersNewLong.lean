import RbV.Thm.GenSrcMyersNew
import RbV.Thm.GenSrcMyersLongStep
import RbV.Lemmas.MyersLongAll
/-!
# `long::Myers::new_ambig` as written: one `Peq` (table of masks, `bound`) per chunk of `w` pattern symbols

Soft module (through `Thm/GenSrcMyersNewSoft.lean`): word-level and shape-dependent, like `Thm/GenSrcMyersNew.lean`.
`Rs.itChunks pattern w` (itertools `chunks`) = the model's `blocksOf w p`; per chunk the loops are those of simple.rs with an
explicit counter `i`; `bound = 1 << (i − 1)`.  Without text wildcards the result is the model's `peqL w (eqvA amb) (blocksOf w p)`.
-/
set_option linter.unusedSimpArgs false

namespace RbV.Thm.GenSrcMyersNewLong
open RbV RbV.Rs RbV.Model.MyersSimple RbV.Model.MyersLong RbV.Thm.GenSrc RbV.Thm.GenSrcMyersSimple RbV.Thm.GenSrcMyersNew
  RbV.Thm.GenSrcMyersLongStep

/-- itertools' `chunks(w)` of a non-empty pattern = the model's blocks -/
theorem itChunksGo_eq (w : Nat) : ∀ (fuel : Nat) (p : List Nat), p ≠ [] → Rs.itChunksGo w fuel p = chunks w fuel p := by
  intro fuel
  induction fuel with
  | zero => intro p _; rfl
  | succ fuel ih =>
    intro p hp
    rw [Rs.itChunksGo, chunks]
    by_cases h : p.length ≤ w
    · simp [h, hp]
    · simp only [h, if_false]
      rw [ih (p.drop w) (by intro e; have := congrArg List.length e; simp at this; omega)]

theorem itChunks_eq (w : Nat) (p : List Nat) (hw : 0 < w) (hp : p ≠ []) : Rs.itChunks p w = Res.ok (blocksOf w p) := by
  unfold Rs.itChunks blocksOf
  rw [if_neg (by omega), itChunksGo_eq w _ p hp]

/-- `for &eq in equivalents { peq_block[eq as usize] |= mask; }` -/
theorem for3_eq (w mask : Nat) (eqs : List Nat) (f : Nat → Nat) (h : ∀ e ∈ eqs, e < 256) :
    eqs.foldlM (RbV.Gen.SrcMyersLongCtor.newAmbig_for3 (w := w) (mask := mask)) (tab 256 f) =
      Res.ok (tab 256 (fun a => if eqs.contains a then f a ||| mask else f a)) :=
  foldlM_tab_upd _ (· ||| mask) (fun v => by rw [Nat.or_assoc, Nat.or_self])
    (fun f e he => by
      simp only [RbV.Gen.SrcMyersLongCtor.newAmbig_for3, idx_tab 256 f e he, setIdx_tab 256 f e _ he, Res.ok_bind,
        Res.pure_eq_ok]) eqs f h

/-- `for &w in wildcards { peq_block[w as usize] = T::max_value(); }` -/
theorem for4_eq (w : Nat) (ws : List Nat) (f : Nat → Nat) (h : ∀ e ∈ ws, e < 256) :
    ws.foldlM (RbV.Gen.SrcMyersLongCtor.newAmbig_for4 (w := w)) (tab 256 f) =
      Res.ok (tab 256 (fun a => if ws.contains a then 2 ^ w - 1 else f a)) :=
  foldlM_tab_upd _ (fun _ => 2 ^ w - 1) (fun _ => rfl)
    (fun f e he => by
      simp only [RbV.Gen.SrcMyersLongCtor.newAmbig_for4, setIdx_tab 256 f e _ he, Res.ok_bind, Res.pure_eq_ok, Rs.maxVal])
    ws f h

/-- `for symbol in chunk { …; i += 1; }`: after the symbols `pre` of the chunk the table holds their masks and `i = |pre|` -/
theorem for2_eq (w : Nat) (amb : Option (List (Nat × List Nat))) (hamb : AmbOk amb) (hw64 : w < 2 ^ 64) :
    ∀ (rest pre : List Nat), pre.length + rest.length ≤ w → (∀ c ∈ rest, c < 256) →
      rest.foldlM (RbV.Gen.SrcMyersLongCtor.newAmbig_for2 (w := w) (opt_ambigs := amb))
          (tab 256 (fun a => (peq w (eqvA amb) pre a).toNat), pre.length) =
        Res.ok (tab 256 (fun a => (peq w (eqvA amb) (pre ++ rest) a).toNat), (pre ++ rest).length) := by
  intro rest
  induction rest with
  | nil => intro pre _ _; simp
  | cons x r ih =>
    intro pre hlen hb
    have hx : x < 256 := hb x (by simp)
    have hi : pre.length < w := by simp at hlen; omega
    have hadd : Rs.add 64 pre.length 1 = Res.ok (pre.length + 1) := Rs.add_ok (by omega)
    have hrec := ih (pre ++ [x]) (by simp at hlen ⊢; omega) (fun c hc => hb c (by simp [hc]))
    rw [List.length_append, List.append_assoc] at hrec
    have h0 := tab_snoc w amb pre x hi
    have ha := hamb x
    unfold ambOf at ha h0
    rw [List.foldlM_cons]
    simp only [RbV.Gen.SrcMyersLongCtor.newAmbig_for2, Rs.shl_one_ok hi, idx_tab 256 _ x hx, setIdx_tab 256 _ x _ hx,
      Res.ok_bind, Res.pure_eq_ok]
    cases hq : (amb.bind (fun m => Rs.hmGet m x)) with
    | none =>
      rw [hq] at h0
      simp only [Option.getD_none, List.contains_nil, Bool.false_eq_true, if_false] at h0
      simp only [Res.ok_bind, hadd]
      rw [h0]
      exact hrec
    | some eqs =>
      rw [hq] at ha h0
      simp only [Option.getD_some] at ha h0
      simp only [for3_eq w _ eqs _ ha, Res.ok_bind, hadd]
      rw [h0]
      exact hrec

/-- the `Peq` the constructor stores for one chunk -/
def peqOf (w : Nat) (amb : Option (List (Nat × List Nat))) (wild : Option (List Nat)) (blk : List Nat) : List Nat × Nat :=
  (tab 256 (tabWord w amb wild blk), 2 ^ (blk.length - 1))

/-- one round of `for chunk in pattern.chunks(w).into_iter()` -/
theorem for1_step (w ww : Nat) (amb : Option (List (Nat × List Nat))) (wild : Option (List Nat)) (hamb : AmbOk amb)
    (hwild : ∀ c ∈ wild.getD [], c < 256) (hw64 : w < 2 ^ 64) (acc : List (List Nat × Nat)) (blk : List Nat)
    (h1 : 1 ≤ blk.length) (hlw : blk.length ≤ w) (hb : ∀ c ∈ blk, c < 256) :
    RbV.Gen.SrcMyersLongCtor.newAmbig_for1 (w := w) (opt_ambigs := amb) (opt_wildcards := wild) (w' := ww) acc blk =
      Res.ok (acc ++ [peqOf w amb wild blk]) := by
  have hfold := for2_eq w amb hamb hw64 blk [] (by simpa using hlw) hb
  simp only [List.length_nil, List.nil_append] at hfold
  have hsub : Rs.sub blk.length 1 = Res.ok (blk.length - 1) := Rs.sub_ok h1
  have hshl : Rs.shl w 1 (blk.length - 1) = Res.ok (2 ^ (blk.length - 1)) := Rs.shl_one_ok (by omega)
  unfold RbV.Gen.SrcMyersLongCtor.newAmbig_for1
  simp only [tab_peq_nil w (eqvA amb), hfold, Res.ok_bind, Res.pure_eq_ok]
  cases wild with
  | none => simp only [Res.ok_bind, hsub, hshl, peqOf, tabWord_none]
  | some ws =>
    simp only [Option.getD_some] at hwild
    simp only [for4_eq w ws _ hwild, Res.ok_bind, hsub, hshl, peqOf]
    rfl

theorem for1_fold (w ww : Nat) (amb : Option (List (Nat × List Nat))) (wild : Option (List Nat)) (hamb : AmbOk amb)
    (hwild : ∀ c ∈ wild.getD [], c < 256) (hw64 : w < 2 ^ 64) :
    ∀ (blks : List (List Nat)) (acc : List (List Nat × Nat)),
      (∀ blk ∈ blks, 1 ≤ blk.length ∧ blk.length ≤ w ∧ ∀ c ∈ blk, c < 256) →
      blks.foldlM (RbV.Gen.SrcMyersLongCtor.newAmbig_for1 (w := w) (opt_ambigs := amb) (opt_wildcards := wild) (w' := ww)) acc =
        Res.ok (acc ++ blks.map (peqOf w amb wild)) := by
  intro blks
  induction blks with
  | nil => intro acc _; simp
  | cons blk r ih =>
    intro acc h
    obtain ⟨h1, h2, h3⟩ := h blk (by simp)
    rw [List.foldlM_cons, for1_step w ww amb wild hamb hwild hw64 acc blk h1 h2 h3]
    simp only [Res.ok_bind]
    rw [ih _ (fun b hb => h b (by simp [hb]))]
    simp

/-- **`long::Myers::new_ambig` as written**: one `Peq` per block of the model (`blocksOf w p`): the table `tabWord` of the block's
symbols and `bound = 1 << (len − 1)`; `m`; an empty states store -/
theorem long_newAmbig_eq_model (w : Nat) (p : List Nat) (amb : Option (List (Nat × List Nat))) (wild : Option (List Nat))
    (hw : 1 ≤ w) (hw64 : w < 2 ^ 64) (hm1 : 1 ≤ p.length) (hm : p.length ≤ 18446744073709551615 / 2)
    (hb : ∀ c ∈ p, c < 256) (hamb : AmbOk amb) (hwild : ∀ c ∈ wild.getD [], c < 256) :
    RbV.Gen.SrcMyersLongCtor.newAmbig (w := w) (pattern := p) (opt_ambigs := amb) (opt_wildcards := wild) =
      Res.ok ((blocksOf w p).map (peqOf w amb wild), p.length, []) := by
  have hne : p ≠ [] := by intro e; rw [e] at hm1; simp at hm1
  have c2 := blocksOf_mem_length w hw p hm1
  have hblk : ∀ blk ∈ blocksOf w p, 1 ≤ blk.length ∧ blk.length ≤ w ∧ ∀ c ∈ blk, c < 256 := by
    intro blk hmem
    refine ⟨(c2 blk hmem).1, (c2 blk hmem).2, fun c hc => hb c ?_⟩
    rw [← blocksOf_flatten w hw p hm1]
    exact List.mem_flatten.mpr ⟨blk, hmem, hc⟩
  unfold RbV.Gen.SrcMyersLongCtor.newAmbig
  simp only [Rs.assert_ok (decide_eq_true (show p.length > 0 by omega)), Rs.assert_ok (decide_eq_true hm),
    itChunks_eq w p (by omega) hne, Res.ok_bind, Res.pure_eq_ok,
    for1_fold w w amb wild hamb hwild hw64 (blocksOf w p) [] hblk, List.nil_append]

/-- without text wildcards: the model's per-block tables `peqL` — what the end-to-end theorems of `long::Myers` start from -/
theorem peqOf_no_wild (w : Nat) (amb : Option (List (Nat × List Nat))) (blks : List (List Nat)) :
    blks.map (peqOf w amb none) = peqL w (eqvA amb) blks := by
  unfold peqL
  apply List.map_congr_left
  intro blk _
  simp only [peqOf, tabWord_no_wild]

end RbV.Thm.GenSrcMyersNewLong
