import RbV.Gen.SrcBand
import RbV.Lemmas.BandL
import RbV.Thm.GenSrcBasic
import RbV.Thm.GenSrcOk
/-!
Equality of the Lean translation of the *source text* of the band construction of `alignment/pairwise/banded.rs`
(`RbV/Gen/SrcBand.lean`, regenerated by `tools/rs2lean_genband.py` on every `./check C02`) with the hand-written mirror
`RbV/Model/Band.lean` / `RbV/Model/BandL.lean`.  Restated in `RbV/Thm/C02.lean`.

In this order: (1) `forCols` facts and `cols_loop` (a translated `for` over columns is `forCols`); (2) `new`, `full_matrix`,
`num_cells`, `add_entry`, `add_gap`, `add_kmer` one by one, under `Shape` (one range per column); (3) `ClipFits` / `Small` (the
`i32` sums of clip penalties) and `Env R C b` = `Shape` + sides below `2^32`, kept by every operation; (4) `set_boundaries` =
`if1_eq` (block START), `if2_tail` / `if2_eq` (block END), for every value of `lazy_extend`; (5) the path predicates `StepOk` /
`PathOk` and the fold over the path (`for1_eq`, `path_fold_eq`); (6) `create_from_match_path`, `create_with_matches`, `create`,
`lazy_extend_total`; (7) `sentinelT` and the budget guard at the head of `compute_alignment`.
-/
set_option linter.unusedSimpArgs false
set_option linter.unusedVariables false
namespace RbV.Thm.GenSrcBand
open RbV RbV.Gen RbV.Rs RbV.Rs.Res RbV.Model.Band RbV.Align

/-- the value the translated code holds for a `Band` (fields in the order of the struct) -/
@[reducible] def toT (b : Band) : Nat × Nat × List (Nat × Nat) := (b.rows, b.cols, b.ranges)

@[simp] theorem toT_1 (b : Band) : (toT b).1 = b.rows := rfl
@[simp] theorem toT_21 (b : Band) : (toT b).2.1 = b.cols := rfl
@[simp] theorem toT_22 (b : Band) : (toT b).2.2 = b.ranges := rfl

theorem foldlM_range'_inv {σ : Type} (step : σ → Nat → Res σ) (P : Nat → σ → Prop) (n : Nat) :
    ∀ (a : Nat) (s0 : σ), P a s0 →
    (∀ j s, a ≤ j → j < a + n → P j s → ∃ s', step s j = ok s' ∧ P (j + 1) s') →
    ∃ s', List.foldlM step s0 (List.range' a n) = ok s' ∧ P (a + n) s' :=
  fun a s0 => GenSrc.foldlM_range'_inv step P a n s0

theorem forCols_of_le (a b : Nat) (f : Nat → Nat × Nat → Nat × Nat) (rs : Ranges) (h : b ≤ a) : forCols a b f rs = rs := by
  apply List.ext_getElem?
  intro i
  rw [forCols_get?]
  have : ¬ (a ≤ i ∧ i < b) := by omega
  cases rs[i]? <;> simp [this]

theorem forCols_getElem_out (a b : Nat) (f : Nat → Nat × Nat → Nat × Nat) (rs : Ranges) (j : Nat) (hj : ¬ (a ≤ j ∧ j < b))
    (hl : j < rs.length) : (forCols a b f rs)[j]'(by rw [forCols_length]; exact hl) = rs[j] := by
  have h := forCols_get? a b f rs j
  rw [List.getElem?_eq_getElem (by rw [forCols_length]; exact hl), List.getElem?_eq_getElem hl] at h
  simpa [hj] using h

/-- one more column `j`, at either end: `a'..b'` is `a..b` and `j` -/
theorem forCols_insert (a b a' b' j : Nat) (f : Nat → Nat × Nat → Nat × Nat) (rs : Ranges) (hl : j < rs.length)
    (hj : a' ≤ j ∧ j < b') (h : ∀ i, j ≠ i → ((a' ≤ i ∧ i < b') ↔ (a ≤ i ∧ i < b))) :
    forCols a' b' f rs = (forCols a b f rs).set j (f j rs[j]) := by
  apply List.ext_getElem?
  intro i
  rw [List.getElem?_set, forCols_get?, forCols_get?]
  by_cases hi : j = i
  · subst hi
    simp [hj, forCols_length, hl, List.getElem?_eq_getElem hl]
  · simp [hi, h i hi]

theorem forCols_add_sub (a b : Nat) (f : Nat → Nat × Nat → Nat × Nat) (rs : Ranges) :
    forCols a (a + (b - a)) f rs = forCols a b f rs := by
  by_cases h : a ≤ b
  · rw [show a + (b - a) = b by omega]
  · rw [forCols_of_le _ _ _ _ (by omega), forCols_of_le _ _ _ _ (by omega)]

/-- **a column loop**: `for j in a..b { ranges[j] = f(j, ranges[j]); extra = g(j + 1) }` computes `forCols a b f`; the state is
`mk ranges extra` for whatever else the loop carries (a counter in closed form `g j`, the unchanged fields) -/
theorem cols_loop {σ γ : Type} (mk : Ranges → γ → σ) (step : σ → Nat → Res σ) (g : Nat → γ)
    (f : Nat → Nat × Nat → Nat × Nat) (rs : Ranges) (a b : Nat) (hb : b ≤ rs.length)
    (hstep : ∀ j (l : Ranges) (hl : j < l.length), l.length = rs.length → a ≤ j → j < b →
      step (mk l (g j)) j = ok (mk (l.set j (f j l[j])) (g (j + 1)))) :
    List.foldlM step (mk rs (g a)) (List.range' a (b - a)) = ok (mk (forCols a b f rs) (g (a + (b - a)))) := by
  obtain ⟨s', e, p⟩ := foldlM_range'_inv step (fun j s => s = mk (forCols a j f rs) (g j)) (b - a) a (mk rs (g a))
    (by rw [forCols_of_le _ _ _ _ (Nat.le_refl _)]) (by
      intro j s h1 h2 hs
      subst hs
      have hl : j < rs.length := by omega
      have hl' : j < (forCols a j f rs).length := by rw [forCols_length]; exact hl
      refine ⟨_, hstep j _ hl' (forCols_length ..) h1 (by omega), ?_⟩
      rw [forCols_insert a j a (j + 1) j f rs hl (by omega) (fun i hi => by omega),
        forCols_getElem_out _ _ _ _ _ (by omega) hl])
  rw [e, p, forCols_add_sub]

theorem new_eq_model (m n : Nat) (hm : m + 1 < 2 ^ 64) (hn : n + 1 < 2 ^ 64) :
    SrcBand.new m n = ok (toT (Model.Band.new m n)) := by
  simp [SrcBand.new, Rs.add_ok hm, Rs.add_ok hn, toT, Model.Band.new]

theorem fullMatrix_eq_model (b : Band) : SrcBand.fullMatrix (toT b) = ok (toT (Model.Band.fullMatrix b)) := by
  simp [SrcBand.fullMatrix, toT, Model.Band.fullMatrix, Rs.resize]

/-- cells of the first `j` columns -/
def cellsUpTo (rs : Ranges) (j : Nat) : Nat := (rs.take j).foldl (fun acc p => acc + (p.2 - p.1)) 0

theorem foldl_cells_acc (l : Ranges) (acc : Nat) :
    l.foldl (fun acc p => acc + (p.2 - p.1)) acc = acc + l.foldl (fun acc p => acc + (p.2 - p.1)) 0 := by
  induction l generalizing acc with
  | nil => simp
  | cons a l ih => rw [List.foldl_cons, ih, List.foldl_cons, ih (0 + _)]; omega

theorem cellsUpTo_succ (rs : Ranges) (j : Nat) (hj : j < rs.length) :
    cellsUpTo rs (j + 1) = cellsUpTo rs j + (rs[j].2 - rs[j].1) := by
  unfold cellsUpTo
  rw [List.take_succ_eq_append_getElem hj, List.foldl_append]
  simp

theorem cellsUpTo_le (rs : Ranges) (j : Nat) : cellsUpTo rs j ≤ cellsUpTo rs rs.length := by
  unfold cellsUpTo
  conv => rhs; rw [List.take_length, ← List.take_append_drop j rs, List.foldl_append, foldl_cells_acc]
  omega

theorem cellsUpTo_length (b : Band) : cellsUpTo b.ranges b.ranges.length = Model.Band.numCells b := by
  simp [cellsUpTo, Model.Band.numCells]

theorem numCells_eq_model (b : Band) (h : Model.Band.numCells b < 2 ^ 64) :
    SrcBand.numCells (toT b) = ok (Model.Band.numCells b) := by
  unfold SrcBand.numCells
  obtain ⟨s', e, p⟩ := foldlM_range'_inv (SrcBand.numCells_for1 (toT b)) (fun j s => s = cellsUpTo b.ranges j)
    (b.ranges.length - 0) 0 0 (by simp [cellsUpTo]) (by
      intro j s _ hj hs
      subst hs
      have hl : j < b.ranges.length := by omega
      have hb : cellsUpTo b.ranges (j + 1) < 2 ^ 64 := by
        have := cellsUpTo_le b.ranges (j + 1); rw [cellsUpTo_length] at this; omega
      rw [cellsUpTo_succ _ _ hl] at hb ⊢
      refine ⟨_, ?_, rfl⟩
      simp [SrcBand.numCells_for1, Rs.idx_ok hl, Rs.satSub, Rs.add_ok hb])
  simp only [toT_22, pure_eq_ok, bind_pure_comp, Nat.sub_zero, Nat.zero_add] at e p ⊢
  subst p
  simp [e, cellsUpTo_length]

/-- what the index arithmetic of the translated loops needs of a band value: one range per column -/
def Shape (b : Band) : Prop := b.cols ≤ b.ranges.length

theorem addEntry_eq_model (b : Band) (r c w : Nat) (hlen : b.cols ≤ b.ranges.length)
    (h1 : r + w + 1 < 2 ^ 64) (h2 : c + w + 1 < 2 ^ 64) :
    SrcBand.addEntry (toT b) (r, c) w = ok (toT (Model.Band.addEntry b r c w)) := by
  simp (disch := omega) only [rs_ok, SrcBand.addEntry, toT, Rs.satSub, bind_pure_comp, Model.Band.addEntry]
  have hloop := cols_loop (fun l (_ : Unit) => (b.rows, b.cols, l))
    (SrcBand.addEntry_for1 (r - w) (min (r + w + 1) b.rows)) (fun _ => ())
    (fun _ p => (min p.1 (r - w), max p.2 (min (r + w + 1) b.rows))) b.ranges (c - w) (min (c + w + 1) b.cols) (by omega)
    (by
      intro j l hl _ _ _
      simp [SrcBand.addEntry_for1, Rs.idx_ok hl, Rs.setIdx_ok hl, Rs.idx, Rs.setIdx, hl, Nat.min_comm, Nat.max_comm])
  simp only [Nat.min_comm, Nat.max_comm] at hloop ⊢
  simp only [hloop]

/-- every operation only grows ranges, so it keeps `Shape` -/
theorem shape_of_grow {b b' : Band} (h : BGrow b b') (hs : Shape b) : Shape b' := by
  unfold Shape at *
  rw [h.cols, h.grow.1]; exact hs

theorem foldlM_eq_foldl {α : Type} (stepS : Nat × Nat × List (Nat × Nat) → α → Res (Nat × Nat × List (Nat × Nat)))
    (stepM : Band → α → Band) (I : Band → Prop) (l : List α) :
    ∀ (b : Band), I b → (∀ b a, a ∈ l → I b → stepS (toT b) a = ok (toT (stepM b a)) ∧ I (stepM b a)) →
    List.foldlM stepS (toT b) l = ok (toT (l.foldl stepM b)) ∧ I (l.foldl stepM b) := by
  induction l with
  | nil => intro b hI _; exact ⟨rfl, hI⟩
  | cons a l ih =>
    intro b hI h
    obtain ⟨e, hI'⟩ := h b a (by simp) hI
    rw [List.foldlM_cons, e, List.foldl_cons]
    exact ih _ hI' (fun b a ha => h b a (by simp [ha]))

theorem mul_lt_64 {a b : Nat} (ha : a < 2 ^ 32) (hb : b < 2 ^ 32) : a * b < 2 ^ 64 :=
  Nat.lt_of_lt_of_le (Nat.mul_lt_mul'' ha hb) (by decide)

theorem cast32 {x : Nat} (h : x < 2 ^ 32) : Rs.cast 32 x = x := by unfold Rs.cast; exact Nat.mod_eq_of_lt h

theorem gap_quot_le (p q d : Nat) (h : q ≤ d) : p * q / d ≤ p := by
  rcases Nat.eq_zero_or_pos d with hd | hd
  · subst hd; simp
  · exact Nat.div_le_of_le_mul (by rw [Nat.mul_comm d p]; exact Nat.mul_le_mul_left p h)

/-- a point of a gap line, `base + span * t / len` for `t < len`: the `u64` product of two `u32` values cannot overflow (`add_gap`
computes it in `u64`), the quotient is at most `span` -/
theorem gap_point {β : Type} (base span len t : Nat) (ht : t < len) (hs : span < 2 ^ 32) (hl : len < 2 ^ 32)
    (hb : base + span < 2 ^ 32) (K : Nat → Res β) :
    (Rs.mul 64 span t >>= fun p => Rs.div p len >>= fun q => Rs.add 32 base (Rs.cast 32 q) >>= K) =
      K (base + span * t / len) := by
  have q : span * t / len ≤ span := gap_quot_le _ _ _ (Nat.le_of_lt ht)
  rw [Rs.mul_ok (mul_lt_64 hs (Nat.lt_trans ht hl)), ok_bind, Rs.div_ok (Nat.zero_lt_of_lt ht), ok_bind,
    cast32 (Nat.lt_of_le_of_lt q hs), Rs.add_ok (by omega), ok_bind]

theorem addGap_eq_model (b : Band) (s e : Nat × Nat) (w : Nat) (hsh : Shape b)
    (hs1 : s.1 ≤ e.1) (hs2 : s.2 ≤ e.2) (he1 : e.1 < 2 ^ 32) (he2 : e.2 < 2 ^ 32) (hw : w < 2 ^ 63) :
    SrcBand.addGap (toT b) s e w = ok (toT (Model.Band.addGap b s e w)) ∧ Shape (Model.Band.addGap b s e w) := by
  have e1 : Rs.sub e.1 s.1 = ok (e.1 - s.1) := Rs.sub_ok hs1
  have e2 : Rs.sub e.2 s.2 = ok (e.2 - s.2) := Rs.sub_ok hs2
  have n1 : e.1 - s.1 < 2 ^ 32 := Nat.lt_of_le_of_lt (Nat.sub_le _ _) he1
  have n2 : e.2 - s.2 < 2 ^ 32 := Nat.lt_of_le_of_lt (Nat.sub_le _ _) he2
  have b1 : s.1 + (e.1 - s.1) < 2 ^ 32 := by rw [Nat.add_sub_cancel' hs1]; exact he1
  have b2 : s.2 + (e.2 - s.2) < 2 ^ 32 := by rw [Nat.add_sub_cancel' hs2]; exact he2
  have hb : ∀ {a : Nat}, a < 2 ^ 32 → a + w + 1 < 2 ^ 64 := fun h => by omega
  simp only [SrcBand.addGap, e1, e2, ok_bind, pure_eq_ok, bind_pure_comp, Model.Band.addGap]
  by_cases hc : e.1 - s.1 > e.2 - s.2
  · simp only [hc, decide_true, if_true]
    have := foldlM_eq_foldl (SrcBand.addGap_for1 s e w)
      (fun b r => Model.Band.addEntry b r (s.2 + (e.2 - s.2) * (r - s.1) / (e.1 - s.1)) w) Shape
      (List.range' s.1 (e.1 - s.1)) b hsh (by
        intro b' r hr hb'
        rw [List.mem_range'_1] at hr
        have t : r - s.1 < e.1 - s.1 := Nat.sub_lt_left_of_lt_add hr.1 hr.2
        refine ⟨?_, shape_of_grow (addEntry_grow ..) hb'⟩
        simp only [SrcBand.addGap_for1, e1, e2, Rs.sub_ok hr.1, ok_bind, pure_eq_ok, bind_pure_comp,
          gap_point s.2 (e.2 - s.2) (e.1 - s.1) (r - s.1) t n2 n1 b2]
        rw [addEntry_eq_model b' _ _ _ hb' (hb (Nat.lt_trans hr.2 b1))
          (hb (Nat.lt_of_le_of_lt (Nat.add_le_add_left (gap_quot_le _ _ _ (Nat.le_of_lt t)) s.2) b2))])
    rw [this.1]
    exact ⟨rfl, this.2⟩
  · simp only [hc, decide_false, Bool.false_eq_true, if_false]
    have := foldlM_eq_foldl (SrcBand.addGap_for2 s e w)
      (fun b c => Model.Band.addEntry b (s.1 + (e.1 - s.1) * (c - s.2) / (e.2 - s.2)) c w) Shape
      (List.range' s.2 (e.2 - s.2)) b hsh (by
        intro b' c hcm hb'
        rw [List.mem_range'_1] at hcm
        have t : c - s.2 < e.2 - s.2 := Nat.sub_lt_left_of_lt_add hcm.1 hcm.2
        refine ⟨?_, shape_of_grow (addEntry_grow ..) hb'⟩
        simp only [SrcBand.addGap_for2, e1, e2, Rs.sub_ok hcm.1, ok_bind, pure_eq_ok, bind_pure_comp,
          gap_point s.1 (e.1 - s.1) (e.2 - s.2) (c - s.2) t n1 n2 b1]
        rw [addEntry_eq_model b' _ _ _ hb'
          (hb (Nat.lt_of_le_of_lt (Nat.add_le_add_left (gap_quot_le _ _ _ (Nat.le_of_lt t)) s.1) b1)) (hb (Nat.lt_trans hcm.2 b2))])
    rw [this.1]
    exact ⟨rfl, this.2⟩

theorem loop1_pos {I0 J0 j a : Nat} (ha : a < j) (hj : j ≤ J0) (hI : J0 - a < I0 + 1) : 1 ≤ I0 - (J0 - j) := by omega

/-- the third loop of `add_kmer` (`loop { if j <= c.saturating_sub(w) { break } j -= 1; i -= 1; … }`): from column `j`
(`c - w ≤ j ≤ J0`, the columns `j..J0` already done, `i = I0 - (J0 - j)`) it arrives at `forCols (c - w) J0` -/
theorem addKmer_loop1_eq (rows cols w c I0 J0 : Nat) (rs : Ranges) (hJ : J0 ≤ rs.length) (hI : J0 - (c - w) < I0 + 1) :
    ∀ (fuel j : Nat), j < fuel → c - w ≤ j → j ≤ J0 →
    ∃ i' j', SrcBand.addKmer_loop1 w c fuel
        ((rows, cols, forCols j J0 (fun j p => (p.1, max p.2 (min (I0 - (J0 - j)) rows))) rs), I0 - (J0 - j), j) =
      ok ((rows, cols, forCols (c - w) J0 (fun j p => (p.1, max p.2 (min (I0 - (J0 - j)) rows))) rs), i', j') := by
  intro fuel
  induction fuel with
  | zero => intro j h; omega
  | succ fuel ih =>
    intro j hf hL hj
    unfold SrcBand.addKmer_loop1
    by_cases hc : j ≤ c - w
    · have : j = c - w := by omega
      subst this
      exact ⟨I0 - (J0 - (c - w)), c - w, by simp [Rs.satSub]⟩
    · have hj1 : j - 1 < rs.length := by omega
      have hj1' : j - 1 < (forCols j J0 (fun j p => (p.1, max p.2 (min (I0 - (J0 - j)) rows))) rs).length := by
        rw [forCols_length]; exact hj1
      have f1 : Rs.sub j 1 = ok (j - 1) := Rs.sub_ok (by omega)
      have f2 : Rs.sub (I0 - (J0 - j)) 1 = ok (I0 - (J0 - (j - 1))) := by
        rw [Rs.sub_ok (loop1_pos (Nat.lt_of_not_le hc) hj hI), show J0 - (j - 1) = J0 - j + 1 by clear ih hI hj1'; omega, Nat.sub_sub]
      obtain ⟨i', j', e⟩ := ih (j - 1) (by omega) (by omega) (by omega)
      refine ⟨i', j', ?_⟩
      rw [forCols_insert j J0 (j - 1) J0 (j - 1) _ rs hj1 (by omega) (fun i hi => by omega)] at e
      simp only [Rs.satSub, hc, decide_false, Bool.false_eq_true, if_false, f1, f2, ok_bind, pure_eq_ok, bind_pure_comp,
        Rs.idx_ok hj1', Rs.setIdx_ok hj1']
      rw [forCols_getElem_out _ _ _ _ _ (by omega) hj1]
      simp only [Nat.max_comm, Nat.min_comm] at e ⊢
      exact e

theorem loop1_start (c k w r : Nat) : c + k - 1 - w - (c - w) < r + w + k + 1 := by omega

theorem addKmer_eq_model (b : Band) (r c k w : Nat) (hsh : Shape b) (hr : r + k ≤ b.rows) (hc : c + k ≤ b.cols)
    (hrows : b.rows < 2 ^ 62) (hcols : b.cols < 2 ^ 62) (hk : k < 2 ^ 62) (hw : w < 2 ^ 62) :
    SrcBand.addKmer (toT b) (r, c) k w = ok (toT (Model.Band.addKmer b r c k w)) := by
  unfold Shape at hsh
  have a1 : Rs.add 64 r k = ok (r + k) := Rs.add_ok (by omega)
  have a2 : Rs.add 64 c k = ok (c + k) := Rs.add_ok (by omega)
  have a3 : Rs.add 64 c w = ok (c + w) := Rs.add_ok (by omega)
  have a4 : Rs.add 64 (c + w) 1 = ok (c + w + 1) := Rs.add_ok (by omega)
  have a5 : Rs.add 64 (c + k) w = ok (c + k + w) := Rs.add_ok (by omega)
  have a6 : Rs.add 64 r w = ok (r + w) := Rs.add_ok (by omega)
  have a7 : Rs.add 64 (r + w) k = ok (r + w + k) := Rs.add_ok (by omega)
  have s1 : Rs.assert (decide (r + k ≤ b.rows)) = ok () := Rs.assert_ok (by simpa using hr)
  have s2 : Rs.assert (decide (c + k ≤ b.cols)) = ok () := Rs.assert_ok (by simpa using hc)
  simp only [SrcBand.addKmer, toT, a1, a2, s1, s2, ok_bind, pure_eq_ok, bind_pure_comp, Model.Band.addKmer]
  by_cases hk0 : k = 0
  · subst hk0
    have hr' : r ≤ b.rows := by omega
    have hc' : c ≤ b.cols := by omega
    simp [Rs.assert, hr', hc']
  have a8 : Rs.sub (c + k) 1 = ok (c + k - 1) := Rs.sub_ok (by omega)
  have hk0' : ¬ 0 = k := fun h => hk0 h.symm
  simp only [hk0, hk0', beq_iff_eq, if_false, a3, a4, a5, a6, a7, a8, Rs.satSub, ok_bind, pure_eq_ok, bind_pure_comp]
  have l1 := cols_loop (fun l (_ : Unit) => (b.rows, b.cols, l)) (SrcBand.addKmer_for1 (r - w)) (fun _ => ())
    (fun _ p => (min p.1 (r - w), p.2)) b.ranges (c - w) (min (c + w + 1) b.cols) (by omega)
    (by
      intro j l hl _ _ _
      simp [SrcBand.addKmer_for1, Rs.idx_ok hl, Rs.setIdx_ok hl, Nat.min_comm])
  simp only [l1, ok_bind]
  generalize hrs1 : forCols (c - w) (min (c + w + 1) b.cols) (fun _ p => (min p.1 (r - w), p.2)) b.ranges = rs1
  have len1 : rs1.length = b.ranges.length := by rw [← hrs1, forCols_length]
  -- second loop (counter `i` in closed form)
  have hlo : min (c + w) b.cols ≤ b.cols := Nat.min_le_right _ _
  generalize min (c + w) b.cols = lo at hlo ⊢
  have l2 := cols_loop (fun l (i : Nat) => ((b.rows, b.cols, l), i)) SrcBand.addKmer_for2
    (fun j => (r - w) + (j - lo)) (fun j p => (min p.1 ((r - w) + (j - lo)), p.2)) rs1 lo (min (c + k + w) b.cols) (by omega)
    (by
      intro j l hl _ h1 h2
      have hj : j < b.cols := Nat.lt_of_lt_of_le h2 (Nat.min_le_right _ _)
      have f : Rs.add 64 (r - w + (j - lo)) 1 = ok (r - w + (j + 1 - lo)) := by
        rw [Rs.add_ok (by clear h2; omega), Nat.succ_sub h1]; rfl
      simp [SrcBand.addKmer_for2, Rs.idx_ok hl, Rs.setIdx_ok hl, f])
  simp only [Nat.sub_self, Nat.add_zero] at l2
  simp only [l2, ok_bind]
  generalize hrs2 : forCols lo (min (c + k + w) b.cols) (fun j p => (min p.1 ((r - w) + (j - lo)), p.2)) rs1 = rs2
  have len2 : rs2.length = b.ranges.length := by rw [← hrs2, forCols_length, len1]
  -- third loop (`loop` counting down)
  have l3 : ∃ i' j', SrcBand.addKmer_loop1 w c (c + k - 1 - w + 1) ((b.rows, b.cols, rs2), r + w + k, c + k - 1 - w) =
      ok ((b.rows, b.cols, forCols (c - w) (c + k - 1 - w)
        (fun j p => (p.1, max p.2 (min (r + w + k - (c + k - 1 - w - j)) b.rows))) rs2), i', j') := by
    have := addKmer_loop1_eq b.rows b.cols w c (r + w + k) (c + k - 1 - w) rs2
      (by rw [len2]; exact Nat.le_trans (Nat.le_trans (Nat.sub_le _ _) (Nat.sub_le _ _)) (Nat.le_trans hc hsh))
      (loop1_start c k w r) (c + k - 1 - w + 1) (c + k - 1 - w) (Nat.lt_succ_self _)
      (Nat.sub_le_sub_right (Nat.le_sub_of_add_le (Nat.add_le_add_left (Nat.pos_of_ne_zero hk0) c)) w) (Nat.le_refl _)
    rw [forCols_of_le _ _ _ _ (Nat.le_refl _), Nat.sub_self, Nat.sub_zero] at this
    exact this
  obtain ⟨i', j', e3⟩ := l3
  simp only [e3, ok_bind]
  generalize hrs3 : forCols (c - w) (c + k - 1 - w)
    (fun j p => (p.1, max p.2 (min (r + w + k - (c + k - 1 - w - j)) b.rows))) rs2 = rs3
  have len3 : rs3.length = b.ranges.length := by rw [← hrs3, forCols_length, len2]
  have l4 := cols_loop (fun l (_ : Unit) => (b.rows, b.cols, l)) (SrcBand.addKmer_for3 (min (r + w + k) b.rows)) (fun _ => ())
    (fun _ p => (p.1, max p.2 (min (r + w + k) b.rows))) rs3 (c + k - 1 - w) (min (c + k + w) b.cols) (by omega)
    (by
      intro j l hl _ _ _
      simp [SrcBand.addKmer_for3, Rs.idx_ok hl, Rs.setIdx_ok hl, Nat.max_comm])
  simp only [l4]

/-- an `i32` value in `[-2^30, 2^30)`: the sum of two of them fits `i32` (the range `ClipFits` demands of the clip penalties) -/
def Small (v : Int) : Prop := -1073741824 ≤ v ∧ v < 1073741824

theorem iadd32_ok {a b : Int} (ha : Small a) (hb : Small b) : Rs.iadd 32 a b = ok (a + b) := by
  apply Rs.iadd_ok
  unfold Small at ha hb
  unfold Rs.InS
  simp only [show (32 - 1 : Nat) = 31 from rfl]
  omega

theorem small_ite {p : Prop} [Decidable p] {a b : Int} (ha : Small a) (hb : Small b) : Small (if p then a else b) :=
  ite_of _ ha hb

theorem small_zero : Small 0 := ⟨by decide, by decide⟩

/-- the four clip penalties are `i32` values whose pairwise sums fit `i32` (true of every penalty in `[-2^30, 2^30)`, in
particular of `MIN_SCORE`); each field is `Small` of the penalty, written out -/
structure ClipFits (cl : Clip) : Prop where
  xp : -1073741824 ≤ cl.xp ∧ cl.xp < 1073741824
  xs : -1073741824 ≤ cl.xs ∧ cl.xs < 1073741824
  yp : -1073741824 ≤ cl.yp ∧ cl.yp < 1073741824
  ys : -1073741824 ≤ cl.ys ∧ cl.ys < 1073741824

theorem mul_lt_of_le {a b A B N : Nat} (ha : a ≤ A) (hb : b ≤ B) (h : A * B < N) : a * b < N :=
  Nat.lt_of_le_of_lt (Nat.mul_le_mul ha hb) h

theorem mul_zero_lt {a b N : Nat} (h : a = 0 ∨ b = 0) (hN : 0 < N) : a * b < N := by
  rcases h with h | h <;> simp [h, hN]

@[simp] theorem addKmer_rows (b : Band) (r c k w : Nat) : (Model.Band.addKmer b r c k w).rows = b.rows :=
  (addKmer_grow b r c k w).rows
@[simp] theorem addKmer_cols (b : Band) (r c k w : Nat) : (Model.Band.addKmer b r c k w).cols = b.cols :=
  (addKmer_grow b r c k w).cols

/-- A band of an aligner whose coordinates are `u32`: the two sides, named and below `2^32`, and one range per column.  Every
operation only grows ranges, so it keeps this (`Env.grow`), and what the translated `add_kmer` / `add_gap` demand of their
arguments are bounds against `R`, `C`, whatever state the text has reached. -/
structure Env (R C : Nat) (b : Band) : Prop where
  rows : b.rows = R
  cols : b.cols = C
  len : C ≤ b.ranges.length
  r32 : R < 2 ^ 32
  c32 : C < 2 ^ 32

section
variable {R C : Nat} {b : Band} (E : Env R C b)
include E

theorem Env.grow {b' : Band} (h : BGrow b b') : Env R C b' :=
  ⟨h.rows.trans E.rows, h.cols.trans E.cols, h.grow.1 ▸ E.len, E.r32, E.c32⟩

theorem Env.shape : Shape b := by unfold Shape; rw [E.cols]; exact E.len

theorem Env.lt_r {a : Nat} (h : a ≤ R) : a < 2 ^ 32 := Nat.lt_of_le_of_lt h E.r32
theorem Env.lt_c {a : Nat} (h : a ≤ C) : a < 2 ^ 32 := Nat.lt_of_le_of_lt h E.c32

theorem Env.kmer (p : Nat × Nat) (k w : Nat) (hr : p.1 + k ≤ R) (hc : p.2 + k ≤ C) (hw : w < 2 ^ 62) :
    SrcBand.addKmer (toT b) p k w = ok (toT (Model.Band.addKmer b p.1 p.2 k w)) :=
  have l62 : ∀ {a : Nat}, a < 2 ^ 32 → a < 2 ^ 62 := fun h => Nat.lt_trans h (by decide)
  addKmer_eq_model b p.1 p.2 k w E.shape (E.rows ▸ hr) (E.cols ▸ hc) (E.rows ▸ l62 E.r32) (E.cols ▸ l62 E.c32)
    (l62 (E.lt_r (Nat.le_trans (Nat.le_add_left ..) hr))) hw

theorem Env.gap (s e : Nat × Nat) (w : Nat) (h1 : s.1 ≤ e.1) (h2 : s.2 ≤ e.2) (he1 : e.1 ≤ R) (he2 : e.2 ≤ C)
    (hw : w < 2 ^ 63) : SrcBand.addGap (toT b) s e w = ok (toT (Model.Band.addGap b s e w)) :=
  (addGap_eq_model b s e w E.shape h1 h2 (E.lt_r he1) (E.lt_c he2) hw).1

/-- the same, called with `u32` coordinates cast from `usize` values inside the matrix -/
theorem Env.kmerC (r c k w : Nat) (hr : r + k ≤ R) (hc : c + k ≤ C) (hw : w < 2 ^ 62) :
    SrcBand.addKmer (toT b) (Rs.cast 32 r, Rs.cast 32 c) k w = ok (toT (Model.Band.addKmer b r c k w)) := by
  rw [cast32 (E.lt_r (Nat.le_trans (Nat.le_add_right ..) hr)), cast32 (E.lt_c (Nat.le_trans (Nat.le_add_right ..) hc))]
  exact E.kmer (r, c) k w hr hc hw

theorem Env.gapC (s1 s2 e1 e2 w : Nat) (h1 : s1 ≤ e1) (h2 : s2 ≤ e2) (he1 : e1 ≤ R) (he2 : e2 ≤ C) (hw : w < 2 ^ 63) :
    SrcBand.addGap (toT b) (Rs.cast 32 s1, Rs.cast 32 s2) (Rs.cast 32 e1, Rs.cast 32 e2) w =
      ok (toT (Model.Band.addGap b (s1, s2) (e1, e2) w)) := by
  rw [cast32 (E.lt_r (Nat.le_trans h1 he1)), cast32 (E.lt_c (Nat.le_trans h2 he2)), cast32 (E.lt_r he1), cast32 (E.lt_c he2)]
  exact E.gap (s1, s2) (e1, e2) w h1 h2 he1 he2 hw

end

/-- the block `START` of `set_boundaries` -/
theorem if1_eq {R C : Nat} (L : Nat) (b : Band) (st en : Nat × Nat) (w : Nat) (go ge : Int) (ms : Option (Int × Int)) (cl : Clip)
    (hcl : ClipFits cl) (E : Env R C b) (h1 : st.1 ≤ R) (h2 : st.2 ≤ C) (hw : w < 2 ^ 62) :
    SrcBand.setBoundaries_if1 st en w (go, ge, ms, cl.xp, cl.xs, cl.yp, cl.ys) L st.1 st.2 (toT b) =
      ok (toT (boundStartL L b st w cl)) := by
  obtain ⟨r, c⟩ := st
  simp only at h1 h2
  have hw63 : w < 2 ^ 63 := Nat.lt_trans hw (by decide)
  have sub : ∀ {a A : Nat} (t : Nat), a ≤ A → a - t ≤ A := fun t h => Nat.le_trans (Nat.sub_le _ t) h
  unfold SrcBand.setBoundaries_if1 boundStartL
  by_cases h0 : r = 0 ∧ c = 0
  · simp [h0]
  simp only [h0, if_false]
  -- the guard of the block, however it is written
  rw [if_pos (by simp; omega)]
  first
    | rw [iadd32_ok (small_ite hcl.xp small_zero) (small_ite hcl.yp small_zero)]
    | rw [iadd32_ok (small_ite hcl.yp small_zero) (small_ite hcl.xp small_zero)]
  simp only [ok_bind, decide_eq_true_eq]
  -- whichever way round the text adds the two penalties
  have e : (if c > 0 then cl.yp else 0) + (if r > 0 then cl.xp else 0) = (if r > 0 then cl.xp else 0) + (if c > 0 then cl.yp else 0) :=
    Int.add_comm _ _
  have ec : Rs.cmp3 r c cl.xp cl.yp (0 : Int) = if r > c then cl.xp else if r < c then cl.yp else 0 := rfl
  by_cases hz : (if r > 0 then cl.xp else 0) + (if c > 0 then cl.yp else 0) = 0
  · -- lazy extension along the diagonal, then a gap line if an edge was hit
    simp only [e, hz, beq_self_eq_true, if_true]
    have hd : min L (min r c) ≤ r ∧ min L (min r c) ≤ c ∧ min L (min r c) ≤ L := by omega
    generalize min L (min r c) = d at hd ⊢
    clear hz h0
    rw [Rs.sub_ok hd.1, Rs.sub_ok hd.2.1]
    simp only [ok_bind, Rs.satSub]
    rw [E.kmerC _ _ _ w (by rw [Nat.sub_add_cancel hd.1]; exact h1) (by rw [Nat.sub_add_cancel hd.2.1]; exact h2) hw]
    simp only [ok_bind]
    rw [(E.grow (addKmer_grow ..)).gapC _ _ _ _ w (Nat.sub_le_sub_left hd.2.2 r) (Nat.sub_le_sub_left hd.2.2 c)
      (sub d h1) (sub d h2) hw63]
  · simp only [e, hz, beq_iff_eq, if_false]
    by_cases hdg : (if r > c then cl.xp else if r < c then cl.yp else 0) = 0
    · simp only [ec, hdg, if_true]
      have hd : min r c ≤ r ∧ min r c ≤ c := by omega
      generalize min r c = d at hd ⊢
      clear hz h0 hdg
      rw [Rs.sub_ok hd.1, Rs.sub_ok hd.2]
      simp only [ok_bind, Rs.satSub]
      rw [E.kmerC _ _ _ w (by rw [Nat.sub_add_cancel hd.1]; exact h1) (by rw [Nat.sub_add_cancel hd.2]; exact h2) hw]
      simp only [ok_bind, cast32 (E.lt_r (sub d h1)), cast32 (E.lt_c (sub d h2)), cast32 (E.lt_r (sub L h1)),
        cast32 (E.lt_c (sub L h2))]
      by_cases hg : r - L ≤ r - d ∧ c - L ≤ c - d
      · rw [if_pos (by simpa using hg), if_pos hg]
        rw [(E.grow (addKmer_grow ..)).gap (r - L, c - L) (r - d, c - d) w hg.1 hg.2 (sub d h1) (sub d h2) hw63]
      · rw [if_neg (by simpa using hg), if_neg hg]
        rfl
    · simp only [ec, hdg, if_false]
      rw [E.gap (0, 0) (r, c) w (Nat.zero_le _) (Nat.zero_le _) h1 h2 hw63]

/-- the common tail of the two diagonal cases of the block `END`: `add_kmer`, then the gap line to `lazy_extend` -/
theorem if2_tail {R C : Nat} (L : Nat) (b : Band) (r c d w : Nat) (E : Env R C b) (hr : r + d ≤ R) (hc : c + d ≤ C)
    (hr1 : 1 ≤ r) (hc1 : 1 ≤ c) (hw : w < 2 ^ 62) (hL : L < 2 ^ 62) :
    (do
      let self ← SrcBand.addKmer (toT b) (Rs.cast 32 r, Rs.cast 32 c) d w
      let t16 ← Rs.add 64 r d
      let t17 ← Rs.sub (min self.1 t16) 1
      let t18 ← Rs.add 64 c d
      let t19 ← Rs.sub (min self.2.1 t18) 1
      let t20 ← Rs.add 64 r L
      let t21 ← Rs.add 64 c L
      let self ← (if (decide (t17 ≤ min self.1 t20)) && (decide (t19 ≤ min self.2.1 t21)) then do
          let self ← SrcBand.addGap self (Rs.cast 32 t17, Rs.cast 32 t19) (Rs.cast 32 (min self.1 t20), Rs.cast 32 (min self.2.1 t21)) w
          pure self
        else pure self)
      pure self) =
    ok (toT (if min b.rows (r + d) - 1 ≤ min b.rows (r + L) ∧ min b.cols (c + d) - 1 ≤ min b.cols (c + L) then
        Model.Band.addGap (Model.Band.addKmer b r c d w) (min b.rows (r + d) - 1, min b.cols (c + d) - 1)
          (min b.rows (r + L), min b.cols (c + L)) w
      else Model.Band.addKmer b r c d w)) := by
  -- the mirror compares with `b.rows`, `b.cols`: read the sides as these
  cases E.rows
  cases E.cols
  have hrows := E.r32
  have hcols := E.c32
  have p32 : (2 : Nat) ^ 32 < 2 ^ 64 := by decide
  have a64 : ∀ {a x : Nat}, a ≤ 2 ^ 32 → x < 2 ^ 62 → a + x < 2 ^ 64 := fun ha hx => by omega
  have hr32 := Nat.le_of_lt (Nat.lt_of_le_of_lt (Nat.le_trans (Nat.le_add_right r d) hr) hrows)
  have hc32 := Nat.le_of_lt (Nat.lt_of_le_of_lt (Nat.le_trans (Nat.le_add_right c d) hc) hcols)
  rw [E.kmerC r c d w hr hc hw]
  simp only [ok_bind, toT_1, toT_21, addKmer_rows, addKmer_cols,
    Rs.add_ok (Nat.lt_trans (Nat.lt_of_le_of_lt hr hrows) p32), Rs.add_ok (Nat.lt_trans (Nat.lt_of_le_of_lt hc hcols) p32),
    Rs.add_ok (a64 hr32 hL), Rs.add_ok (a64 hc32 hL)]
  have hb : 1 ≤ min b.rows (r + d) ∧ 1 ≤ min b.cols (c + d) ∧ min b.rows (r + L) ≤ b.rows ∧ min b.cols (c + L) ≤ b.cols :=
    ⟨Nat.le_min.mpr ⟨Nat.le_trans hr1 (Nat.le_trans (Nat.le_add_right r d) hr), Nat.le_trans hr1 (Nat.le_add_right r d)⟩,
     Nat.le_min.mpr ⟨Nat.le_trans hc1 (Nat.le_trans (Nat.le_add_right c d) hc), Nat.le_trans hc1 (Nat.le_add_right c d)⟩,
     Nat.min_le_left _ _, Nat.min_le_left _ _⟩
  generalize min b.rows (r + d) = r1 at hb ⊢
  generalize min b.cols (c + d) = c1 at hb ⊢
  generalize min b.rows (r + L) = r2 at hb ⊢
  generalize min b.cols (c + L) = c2 at hb ⊢
  rw [Rs.sub_ok hb.1, Rs.sub_ok hb.2.1]
  simp only [ok_bind, pure_eq_ok, bind_pure_comp]
  by_cases hg : r1 - 1 ≤ r2 ∧ c1 - 1 ≤ c2
  · rw [if_pos (by simpa using hg), if_pos hg,
      (E.grow (addKmer_grow ..)).gapC _ _ _ _ w hg.1 hg.2 hb.2.2.1 hb.2.2.2 (Nat.lt_trans hw (by decide))]
  · rw [if_neg (by simpa using hg), if_neg hg]

theorem add_le_of_le_sub {r R d : Nat} (h : r ≤ R) (hd : d ≤ R - r) : r + d ≤ R := by omega

/-- the block `END` of `set_boundaries` -/
theorem if2_eq {R C : Nat} (L : Nat) (b : Band) (en : Nat × Nat) (k w : Nat) (go ge : Int) (ms : Option (Int × Int)) (cl : Clip)
    (hcl : ClipFits cl) (E : Env R C b) (h1 : en.1 + k ≤ R) (h2 : en.2 + k ≤ C) (hk : 0 < k)
    (hw : w < 2 ^ 62) (hL : L < 2 ^ 62) :
    SrcBand.setBoundaries_if2 w (go, ge, ms, cl.xp, cl.xs, cl.yp, cl.ys) L (en.1 + k) (en.2 + k) (toT b) =
      ok (toT (boundEndL L b en k w cl)) := by
  cases E.rows
  cases E.cols
  generalize hr : en.1 + k = r at *
  generalize hc : en.2 + k = c at *
  have hr1 : 1 ≤ r := by omega
  have hc1 : 1 ≤ c := by omega
  unfold SrcBand.setBoundaries_if2 boundEndL
  simp only [ok_bind, toT_1, toT_21, hr, hc]
  by_cases h0 : r = b.rows ∧ c = b.cols
  · simp [h0]
  simp only [h0, if_false]
  rw [if_pos (by simp; omega)]
  first
    | rw [iadd32_ok (small_ite small_zero hcl.xs) (small_ite small_zero hcl.ys)]
    | rw [iadd32_ok (small_ite small_zero hcl.ys) (small_ite small_zero hcl.xs)]
  simp only [ok_bind, beq_iff_eq]
  have e : (if c = b.cols then 0 else cl.ys) + (if r = b.rows then 0 else cl.xs) =
      (if r = b.rows then 0 else cl.xs) + (if c = b.cols then 0 else cl.ys) := Int.add_comm _ _
  have ec : Rs.cmp3 (b.rows - r) (b.cols - c) cl.xs cl.ys (0 : Int) =
      if b.rows - r > b.cols - c then cl.xs else if b.rows - r < b.cols - c then cl.ys else 0 := rfl
  by_cases hz : (if r = b.rows then 0 else cl.xs) + (if c = b.cols then 0 else cl.ys) = 0
  · simp only [e, hz, beq_self_eq_true, if_true]
    rw [Rs.sub_ok h1, Rs.sub_ok h2]
    simp only [ok_bind]
    rw [if2_tail L b r c (min L (min (b.rows - r) (b.cols - c))) w E
      (add_le_of_le_sub h1 (Nat.le_trans (Nat.min_le_right L _) (Nat.min_le_left _ _)))
      (add_le_of_le_sub h2 (Nat.le_trans (Nat.min_le_right L _) (Nat.min_le_right _ _))) hr1 hc1 hw hL]
  · simp only [e, hz, beq_iff_eq, if_false]
    rw [Rs.sub_ok h1, Rs.sub_ok h2]
    simp only [ok_bind]
    by_cases hdg : (if b.rows - r > b.cols - c then cl.xs else if b.rows - r < b.cols - c then cl.ys else 0) = 0
    · simp only [ec, hdg, if_true]
      rw [if2_tail L b r c (min (b.rows - r) (b.cols - c)) w E (add_le_of_le_sub h1 (Nat.min_le_left _ _))
        (add_le_of_le_sub h2 (Nat.min_le_right _ _)) hr1 hc1 hw hL]
    · simp only [ec, hdg, if_false]
      rw [E.gapC r c b.rows b.cols w h1 h2 (Nat.le_refl _) (Nat.le_refl _) (Nat.lt_trans hw (by decide))]

@[simp] theorem boundStartL_rows (L : Nat) (b : Band) (st : Nat × Nat) (w : Nat) (cl : Clip) :
    (boundStartL L b st w cl).rows = b.rows := (boundStartL_grow L b st w cl).rows
@[simp] theorem boundStartL_cols (L : Nat) (b : Band) (st : Nat × Nat) (w : Nat) (cl : Clip) :
    (boundStartL L b st w cl).cols = b.cols := (boundStartL_grow L b st w cl).cols

/-- **`Band::set_boundaries`**: for whatever value `L` the initialiser of `lazy_extend` computes, the translated function
returns the mirror `setBoundariesL L`.  Preconditions: what the `debug_assert!`s of the text demand (`end + k` inside the
matrix), `start` inside the matrix, `k > 0`, and `rows, cols < 2^32` (the coordinates are `u32`; the product of `add_gap` is
computed in `u64` and needs no further bound). -/
theorem setBoundaries_eq_model (L : Nat) (b : Band) (st en : Nat × Nat) (k w : Nat) (go ge : Int) (ms : Option (Int × Int))
    (cl : Clip) (hL : SrcBand.setBoundaries_lazy_extend (toT b) st en k w (go, ge, ms, cl.xp, cl.xs, cl.yp, cl.ys) = ok L)
    (hcl : ClipFits cl) (hsh : Shape b) (h1 : st.1 ≤ b.rows) (h2 : st.2 ≤ b.cols) (h3 : en.1 + k ≤ b.rows)
    (h4 : en.2 + k ≤ b.cols) (hk : 0 < k) (hrows : b.rows < 2 ^ 32) (hcols : b.cols < 2 ^ 32)
    (hw : w < 2 ^ 62) (hL62 : L < 2 ^ 62) :
    SrcBand.setBoundaries (toT b) st en k w (go, ge, ms, cl.xp, cl.xs, cl.yp, cl.ys) =
      ok (toT (setBoundariesL L b st en k w cl)) := by
  have E : Env b.rows b.cols b := ⟨rfl, rfl, hsh, hrows, hcols⟩
  unfold SrcBand.setBoundaries setBoundariesL
  rw [hL]
  simp only [ok_bind]
  rw [if1_eq L b st en w go ge ms cl hcl E h1 h2 hw]
  simp only [ok_bind]
  rw [Rs.add_ok (show en.1 + k < 2 ^ 64 by omega), Rs.add_ok (show en.2 + k < 2 ^ 64 by omega)]
  simp only [ok_bind, boundStartL_rows, boundStartL_cols]
  rw [Rs.assert_ok (by simpa using h3), Rs.assert_ok (by simpa using h4)]
  simp only [ok_bind]
  rw [if2_eq L (boundStartL L b st w cl) en k w go ge ms cl hcl (E.grow (boundStartL_grow ..)) h3 h4 hk hw hL62]

theorem continues_eq_model (cur : Nat × Nat) (p : Option (Nat × Nat))
    (hp : ∀ q, p = some q → q.1 + 1 < 2 ^ 32 ∧ q.2 + 1 < 2 ^ 32) :
    SrcBand.continues cur p =
      ok (match p with | some q => decide (cur.1 = q.1 + 1 ∧ cur.2 = q.2 + 1) | none => false) := by
  unfold SrcBand.continues
  cases p with
  | none => rfl
  | some q =>
    obtain ⟨h1, h2⟩ := hp q rfl
    simp only [Rs.add_ok h1, Rs.add_ok h2, ok_bind, pure_eq_ok, bind_pure_comp]
    by_cases h : cur.1 = q.1 + 1 <;> by_cases h' : cur.2 = q.2 + 1 <;> simp [h, h']

/-- two consecutive k-mers of the path: the second continues the first diagonally, or starts at or after the last cell of
the first in both coordinates (otherwise the `u32` subtraction of `add_gap` underflows: the code panics) -/
def StepOk (k : Nat) (p q : Nat × Nat) : Prop :=
  (q.1 = p.1 + 1 ∧ q.2 = p.2 + 1) ∨ (p.1 + (k - 1) ≤ q.1 ∧ p.2 + (k - 1) ≤ q.2)

/-- the path is usable: indices inside `matches`, every k-mer inside the sequences, consecutive k-mers `StepOk` -/
def PathOk (m n k : Nat) (ms : List (Nat × Nat)) : Option (Nat × Nat) → List Nat → Prop
  | _, [] => True
  | prev, idx :: rest =>
    idx < ms.length ∧ InSeq m n k ms idx ∧ (∀ p, prev = some p → StepOk k p (ms.getD idx (0, 0))) ∧
      PathOk m n k ms (some (ms.getD idx (0, 0))) rest

theorem env_of_wf {m n : Nat} {b : Band} (h : WF m n b) (hm : m + 1 < 2 ^ 32) (hn : n + 1 < 2 ^ 32) : Env (m + 1) (n + 1) b :=
  ⟨h.rows, h.cols, Nat.le_of_eq h.len.symm, hm, hn⟩

/-- one iteration of `for &idx in path` -/
theorem for1_eq (m n k w : Nat) (ms : List (Nat × Nat)) (b : Band) (prev : Option (Nat × Nat)) (idx : Nat)
    (hwf : WF m n b) (hidx : idx < ms.length) (hin : InSeq m n k ms idx)
    (hprev : ∀ p, prev = some p → p.1 + k ≤ m ∧ p.2 + k ≤ n)
    (hstep : ∀ p, prev = some p → StepOk k p (ms.getD idx (0, 0)))
    (hk : 0 < k) (hm : m + 1 < 2 ^ 32) (hn : n + 1 < 2 ^ 32) (hw : w < 2 ^ 62) :
    SrcBand.createFromMatchPath_for1 k w ms (toT b, prev) idx =
      ok (toT (pathStep k w ms (b, prev) idx).1, (pathStep k w ms (b, prev) idx).2) := by
  have E := env_of_wf hwf hm hn
  have lm : ∀ {a : Nat}, a ≤ m → a < 2 ^ 32 := fun h => Nat.lt_of_le_of_lt h (Nat.lt_of_succ_lt hm)
  have ln : ∀ {a : Nat}, a ≤ n → a < 2 ^ 32 := fun h => Nat.lt_of_le_of_lt h (Nat.lt_of_succ_lt hn)
  unfold InSeq at hin
  unfold SrcBand.createFromMatchPath_for1 pathStep
  simp only [GenSrc.idx_getD ms idx (0, 0) hidx, ok_bind]
  generalize ms.getD idx (0, 0) = cur at hin hstep ⊢
  have hr : cur.1 + k ≤ m + 1 := Nat.le_succ_of_le hin.1
  have hc : cur.2 + k ≤ n + 1 := Nat.le_succ_of_le hin.2
  rw [continues_eq_model _ _ (fun q hq => by have := hprev q hq; omega)]
  simp only [ok_bind, pure_eq_ok, bind_pure_comp]
  cases prev with
  | none =>
    simp only [Bool.false_eq_true, if_false, ok_bind]
    rw [E.kmer cur k w hr hc hw]
    rfl
  | some p =>
    obtain ⟨hp1, hp2⟩ := hprev p rfl
    have K : k < 2 ^ 32 := lm (Nat.le_trans (Nat.le_add_left k p.1) hp1)
    by_cases hd : cur.1 = p.1 + 1 ∧ cur.2 = p.2 + 1
    · simp only [hd, and_self, decide_true, if_true, Rs.expect_some, ok_bind, cast32 K, Rs.add_ok (lm hp1), Rs.add_ok (ln hp2)]
      rw [addEntry_eq_model b _ _ w E.shape (by omega) (by omega)]
      rfl
    · have hs := (hstep p rfl).resolve_left hd
      have k1 : k - 1 ≤ k := Nat.sub_le k 1
      simp only [hd, decide_false, Bool.false_eq_true, if_false, Rs.sub_ok (show 1 ≤ k from hk), ok_bind,
        cast32 (Nat.lt_of_le_of_lt k1 K), Rs.add_ok (lm (Nat.le_trans (Nat.add_le_add_left k1 p.1) hp1)),
        Rs.add_ok (ln (Nat.le_trans (Nat.add_le_add_left k1 p.2) hp2))]
      rw [E.gap (p.1 + (k - 1), p.2 + (k - 1)) cur w hs.1 hs.2 (by omega) (by omega) (Nat.lt_trans hw (by decide))]
      simp only [ok_bind]
      rw [(E.grow (addGap_grow ..)).kmer cur k w hr hc hw]
      rfl

theorem path_fold_eq (m n k w : Nat) (ms : List (Nat × Nat)) (hk : 0 < k)
    (hm : m + 1 < 2 ^ 32) (hn : n + 1 < 2 ^ 32) (hw : w < 2 ^ 62) (path : List Nat) :
    ∀ (b : Band) (prev : Option (Nat × Nat)), WF m n b → (∀ p, prev = some p → p.1 + k ≤ m ∧ p.2 + k ≤ n) →
    PathOk m n k ms prev path →
    List.foldlM (SrcBand.createFromMatchPath_for1 k w ms) (toT b, prev) path =
      ok (toT (path.foldl (pathStep k w ms) (b, prev)).1, (path.foldl (pathStep k w ms) (b, prev)).2) := by
  induction path with
  | nil => intro b prev _ _ _; rfl
  | cons idx rest ih =>
    intro b prev hwf hprev hp
    obtain ⟨h1, h2, h3, h4⟩ := hp
    rw [List.foldlM_cons, for1_eq m n k w ms b prev idx hwf h1 h2 hprev h3 hk hm hn hw, List.foldl_cons]
    simp only [ok_bind]
    have e := pathStep_snd k w ms (b, prev) idx
    have := ih (pathStep k w ms (b, prev) idx).1 (pathStep k w ms (b, prev) idx).2 (pathStep_wf k w ms (b, prev) idx hwf)
      (by rw [e]; intro p hp; cases hp; exact h2) (by rw [e]; exact h4)
    exact this

theorem pathOk_mem {m n k : Nat} {ms : List (Nat × Nat)} {path : List Nat} :
    ∀ {prev : Option (Nat × Nat)}, PathOk m n k ms prev path → ∀ idx ∈ path, idx < ms.length ∧ InSeq m n k ms idx := by
  induction path with
  | nil => intro _ _ idx h; simp at h
  | cons a rest ih =>
    intro prev h idx hidx
    obtain ⟨h1, h2, _, h4⟩ := h
    rcases List.mem_cons.mp hidx with rfl | hm
    · exact ⟨h1, h2⟩
    · exact ih h4 idx hm

theorem le_of_mat {a b N : Nat} (h : (a + 1) * (b + 1) < N) : a + 1 < N ∧ b + 1 < N := by
  constructor
  · exact Nat.lt_of_le_of_lt (Nat.le_mul_of_pos_right _ (by omega)) h
  · exact Nat.lt_of_le_of_lt (Nat.le_mul_of_pos_left _ (by omega)) h

theorem idx_headD {l : List Nat} (h : l ≠ []) : Rs.idx l 0 = ok (l.headD 0) ∧ l.headD 0 ∈ l := by
  cases l with
  | nil => exact absurd rfl h
  | cons a r => exact ⟨rfl, List.mem_cons_self⟩

theorem idx_getLastD {l : List Nat} (h : l ≠ []) :
    Rs.sub l.length 1 = ok (l.length - 1) ∧ Rs.idx l (l.length - 1) = ok (l.getLastD 0) ∧ l.getLastD 0 ∈ l := by
  have e : l.getLastD 0 = l.getLast h := by rw [List.getLastD_eq_getLast?, List.getLast?_eq_some_getLast h]; rfl
  refine ⟨Rs.sub_ok (List.length_pos_iff.mpr h), ?_, e ▸ List.getLast_mem h⟩
  rw [e, List.getLast_eq_getElem]
  exact Rs.idx_ok _

/-- **`Band::create_from_match_path`** = the mirror, for whatever value `L` the initialiser of `lazy_extend` computes.
Preconditions: `m + 1, n + 1 < 2^32` (coordinates are `u32`), `k > 0`, and — when there are matches —
a non-empty path of indices into `matches` whose k-mers lie inside the sequences and follow each other as `StepOk` demands
(otherwise the Rust text panics: `path[0]`, `matches[idx]`, the `debug_assert!`s of `add_kmer`, the `u32` subtractions of
`add_gap`). -/
theorem createFromMatchPath_eq_model (L : Nat) (x y : List Nat) (k w : Nat) (go ge : Int) (msc : Option (Int × Int))
    (cl : Clip) (path : List Nat) (ms : List (Nat × Nat))
    (hL : ∀ self st en, SrcBand.setBoundaries_lazy_extend self st en k w (go, ge, msc, cl.xp, cl.xs, cl.yp, cl.ys) = ok L)
    (hL62 : L < 2 ^ 62) (hcl : ClipFits cl) (hk : 0 < k) (hw : w < 2 ^ 62)
    (hm : x.length + 1 < 2 ^ 32) (hn : y.length + 1 < 2 ^ 32)
    (hpath : ms ≠ [] → path ≠ [] ∧ PathOk x.length y.length k ms none path) :
    SrcBand.createFromMatchPath x y k w (go, ge, msc, cl.xp, cl.xs, cl.yp, cl.ys) path ms =
      ok (toT (createFromMatchPathL L x.length y.length k w cl path ms)) := by
  unfold SrcBand.createFromMatchPath createFromMatchPathL
  rw [new_eq_model _ _ (by omega) (by omega)]
  simp only [ok_bind, pure_eq_ok, bind_pure_comp]
  by_cases he : ms.isEmpty = true
  · simp only [he, if_true]
    rw [fullMatrix_eq_model]
  · simp only [he, Bool.false_eq_true, if_false]
    obtain ⟨hp0, hpo⟩ := hpath (by intro h; subst h; simp at he)
    obtain ⟨i0, m0⟩ := idx_headD hp0
    obtain ⟨s1, i1, m1⟩ := idx_getLastD hp0
    obtain ⟨hs1, hs2⟩ := pathOk_mem hpo _ m0
    obtain ⟨ht1, ht2⟩ := pathOk_mem hpo _ m1
    unfold InSeq at hs2 ht2
    have hwf := new_wf x.length y.length
    simp only [i0, s1, i1, GenSrc.idx_getD ms _ (0, 0) hs1, GenSrc.idx_getD ms _ (0, 0) ht1, ok_bind]
    generalize ms.getD (path.headD 0) (0, 0) = st at hs2 ⊢
    generalize ms.getD (path.getLastD 0) (0, 0) = en at ht2 ⊢
    rw [setBoundaries_eq_model L (Model.Band.new x.length y.length) st en k w go ge msc cl
      (hL _ _ _) hcl (env_of_wf hwf hm hn).shape (by rw [hwf.rows]; omega) (by rw [hwf.cols]; omega) (by rw [hwf.rows]; omega)
      (by rw [hwf.cols]; omega) hk (by rw [hwf.rows]; omega) (by rw [hwf.cols]; omega) hw hL62]
    simp only [ok_bind]
    rw [path_fold_eq x.length y.length k w ms hk hm hn hw path _ none (setBoundariesL_wf hwf L st en k w cl)
      (by intro p hp; cases hp) hpo]
    rfl

/-- the match score `create_with_matches` hands to the sparse DP -/
def matchScore (msc : Option (Int × Int)) : Int :=
  match msc with
  | some (a, _) => a
  | none => RbV.Gen.Limits.defaultMatchScore

/-- **`Band::create_with_matches`**: the full matrix without matches; otherwise the band along the path the sparse DP
(`sparse::sdpkpp`, an abstract parameter here: it is translated in `Gen/SrcSdpkpp.lean`) returns.  The match score handed to
it is `scoring.match_scores.0`, or `DEFAULT_MATCH_SCORE` (`Gen/Limits.lean`), cast to `u32`. -/
theorem createWithMatches_eq_model (sdpkpp : List (Nat × Nat) → Nat → Nat → Int → Int → Res (List Nat × Nat × List (Nat × Int)))
    (L : Nat) (x y : List Nat) (k w : Nat) (go ge : Int) (msc : Option (Int × Int)) (cl : Clip) (ms : List (Nat × Nat))
    (res : List Nat × Nat × List (Nat × Int))
    (hsd : ms ≠ [] → sdpkpp ms k (Rs.castUnsigned 32 (matchScore msc))
      go ge = ok res)
    (hL : ∀ self st en, SrcBand.setBoundaries_lazy_extend self st en k w (go, ge, msc, cl.xp, cl.xs, cl.yp, cl.ys) = ok L)
    (hL62 : L < 2 ^ 62) (hcl : ClipFits cl) (hk : 0 < k) (hw : w < 2 ^ 62)
    (hm : x.length + 1 < 2 ^ 32) (hn : y.length + 1 < 2 ^ 32)
    (hpath : ms ≠ [] → res.1 ≠ [] ∧ PathOk x.length y.length k ms none res.1) :
    SrcBand.createWithMatches sdpkpp x y k w (go, ge, msc, cl.xp, cl.xs, cl.yp, cl.ys) ms =
      ok (toT (createFromMatchPathL L x.length y.length k w cl res.1 ms)) := by
  unfold SrcBand.createWithMatches
  by_cases he : ms.isEmpty = true
  · obtain rfl := List.isEmpty_iff.mp he
    simp only [List.isEmpty_nil, if_true]
    rw [new_eq_model _ _ (by omega) (by omega)]
    simp only [ok_bind, pure_eq_ok, bind_pure_comp]
    rw [fullMatrix_eq_model]
    rfl
  · have hne : ms ≠ [] := by intro h; subst h; simp at he
    simp only [he, Bool.false_eq_true, if_false]
    have hsd' := hsd hne
    have key := createFromMatchPath_eq_model L x y k w go ge msc cl res.1 ms hL hL62 hcl hk hw hm hn hpath
    rcases msc with _ | ⟨a, b⟩ <;> simp only [matchScore] at hsd' <;>
      simp only [pure_eq_ok, ok_bind, hsd', bind_pure_comp] <;> rw [key]

/-- **`Band::create`**: `sparse::find_kmer_matches` (abstract; translated in `Gen/SrcKmerMatches.lean`), then `create_with_matches` -/
theorem create_eq_model (sdpkpp : List (Nat × Nat) → Nat → Nat → Int → Int → Res (List Nat × Nat × List (Nat × Int)))
    (fkm : List Nat → List Nat → Nat → Res (List (Nat × Nat)))
    (L : Nat) (x y : List Nat) (k w : Nat) (go ge : Int) (msc : Option (Int × Int)) (cl : Clip) (ms : List (Nat × Nat))
    (res : List Nat × Nat × List (Nat × Int)) (hfk : fkm x y k = ok ms)
    (hsd : ms ≠ [] → sdpkpp ms k (Rs.castUnsigned 32 (matchScore msc))
      go ge = ok res)
    (hL : ∀ self st en, SrcBand.setBoundaries_lazy_extend self st en k w (go, ge, msc, cl.xp, cl.xs, cl.yp, cl.ys) = ok L)
    (hL62 : L < 2 ^ 62) (hcl : ClipFits cl) (hk : 0 < k) (hw : w < 2 ^ 62)
    (hm : x.length + 1 < 2 ^ 32) (hn : y.length + 1 < 2 ^ 32)
    (hpath : ms ≠ [] → res.1 ≠ [] ∧ PathOk x.length y.length k ms none res.1) :
    SrcBand.create sdpkpp fkm x y k w (go, ge, msc, cl.xp, cl.xs, cl.yp, cl.ys) =
      ok (toT (createFromMatchPathL L x.length y.length k w cl res.1 ms)) := by
  unfold SrcBand.create
  simp only [hfk, ok_bind, pure_eq_ok, bind_pure_comp]
  rw [createWithMatches_eq_model sdpkpp L x y k w go ge msc cl ms res hsd hL hL62 hcl hk hw hm hn hpath]

/-- the tuning constant as the text has it today is a function of `k` alone and cannot overflow for `k < 2^32` (every
admissible rewrite keeps this: the hypotheses `hL`, `hL62` of the equality theorems are then satisfiable) -/
theorem lazy_extend_total (self : Nat × Nat × List (Nat × Nat)) (st en : Nat × Nat) (k w : Nat)
    (sc : Int × Int × Option (Int × Int) × Int × Int × Int × Int) (hk : k < 2 ^ 32) :
    ∃ L, SrcBand.setBoundaries_lazy_extend self st en k w sc = ok L ∧ L < 2 ^ 62 ∧
      ∀ self' st' en', SrcBand.setBoundaries_lazy_extend self' st' en' k w sc = ok L := by
  -- branch- and value-agnostic: the witness is read off the generated term (`2 * k` today; `3 * k`, `2 * k + 1`, … re-prove)
  unfold SrcBand.setBoundaries_lazy_extend
  refine ⟨?L, ?h1, ?h2, fun _ _ _ => ?h3⟩
  case h1 =>
    repeat (first | (rw [Rs.mul_ok]; rotate_left; omega) | (rw [Rs.add_ok]; rotate_left; omega)
                  | simp only [ok_bind, pure_eq_ok, bind_pure_comp])
    all_goals rfl
  case h2 => omega
  case h3 =>
    repeat (first | (rw [Rs.mul_ok]; rotate_left; omega) | (rw [Rs.add_ok]; rotate_left; omega)
                  | simp only [ok_bind, pure_eq_ok, bind_pure_comp])

/-- the documented "empty alignment" the budget guard returns, as the translated code builds it -/
def sentinelT : Int × Nat × Nat × Nat × Nat × Nat × Nat × List Rs.AlignmentOperation × Rs.AlignmentMode :=
  (RbV.Gen.Limits.minScorePairwise, 0, 0, 0, 0, 0, 0, [], Rs.AlignmentMode.Custom)

/-- **the head of `compute_alignment` as translated** (the DP from `self.traceback.init(m, n)` on is the abstract `fill`): the
sentinel — and an unchanged aligner — exactly when `band.num_cells() > MAX_CELLS` (the constant of `Gen/Limits.lean`); otherwise
the translated `degenerate_alignment(m, n)` when a sequence is empty; otherwise the DP.  The same three-way split as the mirror
`Model.BandedDP.computeAlignment` (`overBudget`, `degenerate`, fill + traceback). -/
theorem computeAlignment_guard_eq {Dp : Type} (fill : _ → List Nat → List Nat → Nat → Nat → Res _)
    (sc : Int × Int × Option (Int × Int) × Int × Int × Int × Int) (b : Band) (k w : Nat) (dp : Dp) (x y : List Nat)
    (hc : Model.Band.numCells b < 2 ^ 64) :
    SrcBand.computeAlignment fill (sc, toT b, k, w, dp) x y =
      if Model.Band.overBudget b = true then ok (sentinelT, (sc, toT b, k, w, dp))
      else if x.length = 0 ∨ y.length = 0 then
        (SrcBand.degenerateAlignment (sc, toT b, k, w, dp) x.length y.length >>= fun a => ok (a, (sc, toT b, k, w, dp)))
      else fill (sc, toT b, k, w, dp) x y x.length y.length := by
  unfold SrcBand.computeAlignment Model.Band.overBudget sentinelT
  simp only [numCells_eq_model b hc, ok_bind, pure_eq_ok, decide_eq_true_eq, gt_iff_lt]
  by_cases h : RbV.Gen.Limits.maxCells < Model.Band.numCells b
  · simp [h]
  · simp only [h, if_false]
    -- the empty-input test, however it is written
    by_cases h2 : x.length = 0 ∨ y.length = 0
    · rw [if_pos h2, if_pos (by simp only [Bool.or_eq_true, beq_iff_eq]; omega)]
    · rw [if_neg h2, if_neg (by simp only [Bool.or_eq_true, beq_iff_eq]; omega)]

end RbV.Thm.GenSrcBand
