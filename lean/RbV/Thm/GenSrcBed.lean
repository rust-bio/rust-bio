import RbV.Gen.SrcBed
import RbV.Model.Tsv
/-! `bed::Writer::write` and the accessors / setters of `bed::Record` as written (`RbV/Gen/SrcBed.lean`, regenerated from
`src/io/bed.rs` on every `./check C13`) against the format model `RbV/Model/Tsv.lean`.

`csv::Writer::serialize` is the abstract operation `serialize inner fields`; its contract (trusted base, sampled by the tie of
C13 on every file) is the csv writer model: `csvSerialize` appends `recordBody fields ++ [LF]` to the sink and succeeds. -/
namespace RbV.Thm.GenSrcBed
open RbV RbV.Rs RbV.Tsv RbV.Gen.SrcBed

/-- contract of `csv::Writer::serialize` / `write_record` as configured by `bed.rs` / `gff.rs` (delimiter TAB, `QuoteStyle::Necessary`,
terminator LF) on a sink that never fails: the record as the csv writer model renders it, followed by LF, is appended -/
def csvSerialize (w : List Nat) (fs : List (List Nat)) : Except Unit Unit × List Nat :=
  (.ok (), w ++ (recordBody fs ++ [LF]))

/-- the model record of a source record -/
def toModel (r : Record) : BedRec := ⟨r.chrom, r.start, r.end', r.aux⟩

/-- **which fields in which order**: for every csv writer (`serialize` arbitrary) and decimal rendering, both branches of
`write` hand csv the fields chrom, start, end, then the auxiliary columns -/
theorem write_fields {ω ρ : Type} (serialize : ω → List (List Nat) → ρ) (dec : Nat → List Nat) (inner : ω) (self : Writer)
    (r : Record) : write serialize dec inner self r = serialize inner (r.chrom :: dec r.start :: dec r.end' :: r.aux) := by
  cases ha : r.aux <;> simp [write, Rs.csvFields, ha]

/-- `write` appends exactly `bedLine` of the record and a line feed -/
theorem write_eq_model (w : List Nat) (self : Writer) (r : Record) :
    write csvSerialize toDec w self r = (.ok (), w ++ (bedLine (toModel r) ++ [LF])) := by
  rw [write_fields]; rfl

/-- what the strand column means -/
def strandOf : Option (List Nat) → Option Rs.Strand
  | some [43] => some .Forward
  | some [45] => some .Reverse
  | _ => none

/-- `aux(i)` is the column with index `i` of the line (chrom = 0): an index lookup into the auxiliary columns; `i < 3` panics -/
theorem aux_eq_model (r : Record) (i : Nat) (h : 3 ≤ i) : aux r i = .ok ((toModel r).aux[i - 3]?) := by
  by_cases hl : i - 3 < r.aux.length
  · simp [aux, Rs.sub, h, hl, Rs.idx_ok hl, toModel]
  · simp [aux, Rs.sub, h, hl, toModel]

theorem aux_lt3_panics (r : Record) (i : Nat) (h : i < 3) : aux r i = .panic := by
  have : ¬ 3 ≤ i := by omega
  simp [aux, Rs.sub, this]

/-- `name`, `score`, `strand` are the columns 3, 4, 5 = the auxiliary columns 0, 1, 2; `strand` reads `+` / `-`; the plain
getters are the fields -/
theorem accessors_eq_model (r : Record) :
    name r = .ok ((toModel r).aux[0]?) ∧ score r = .ok ((toModel r).aux[1]?) ∧
    strand r = .ok (strandOf ((toModel r).aux[2]?)) ∧
    chrom r = (toModel r).chrom ∧ start r = (toModel r).start ∧ end' r = (toModel r).stop := by
  refine ⟨?_, ?_, ?_, rfl, rfl, rfl⟩
  · simp [name, aux_eq_model]
  · simp [score, aux_eq_model]
  · simp only [strand, aux_eq_model r 5 (by omega), Res.ok_bind]
    generalize (toModel r).aux[5 - 3]? = o
    unfold strandOf
    -- the same three patterns on both sides
    split <;> split <;> first | rfl | contradiction

/-- the setters change exactly their field; `push_aux` appends a column -/
theorem setters_eq_model (r : Record) (c : List Nat) (n : Nat) :
    toModel (setChrom r c) = { toModel r with chrom := c } ∧
    toModel (setStart r n) = { toModel r with start := n } ∧
    toModel (setEnd r n) = { toModel r with stop := n } ∧
    toModel (pushAux r c) = { toModel r with aux := (toModel r).aux ++ [c] } :=
  ⟨rfl, rfl, rfl, rfl⟩

/-- **`set_name` as written**: the name is auxiliary column 0 — pushed when there is no auxiliary column yet, overwritten otherwise;
never panics -/
theorem setName_eq_model (r : Record) (n : List Nat) :
    setName r n = .ok { r with aux := if r.aux.isEmpty then [n] else r.aux.set 0 n } := by
  obtain ⟨c, s, e, aux⟩ := r
  cases aux <;> simp [setName, Rs.setIdx]

/-- **`set_score` as written**: the score is auxiliary column 1; a missing name column is filled with the empty string first;
never panics -/
theorem setScore_eq_model (r : Record) (sc : List Nat) :
    setScore r sc = .ok { r with aux := match r.aux with
      | [] => [[], sc]
      | [a] => [a, sc]
      | a :: _ :: rest => a :: sc :: rest } := by
  obtain ⟨c, s, e, aux⟩ := r
  match aux with
  | [] => simp [setScore]
  | [a] => simp [setScore]
  | a :: b :: rest => simp [setScore, Rs.setIdx]

/-- … and the getters read back what the setters stored -/
theorem name_setName (r r' : Record) (n : List Nat) (h : setName r n = .ok r') : name r' = .ok (some n) := by
  rw [setName_eq_model] at h
  cases h
  obtain ⟨c, s, e, aux⟩ := r
  cases aux <;> simp [(accessors_eq_model _).1, toModel]

theorem score_setScore (r r' : Record) (sc : List Nat) (h : setScore r sc = .ok r') : score r' = .ok (some sc) := by
  rw [setScore_eq_model] at h
  cases h
  obtain ⟨c, s, e, aux⟩ := r
  match aux with
  | [] => simp [(accessors_eq_model _).2.1, toModel]
  | [a] => simp [(accessors_eq_model _).2.1, toModel]
  | a :: b :: rest => simp [(accessors_eq_model _).2.1, toModel]

-- c 5 7 n 0 + (one-digit coordinates: `toDec` is defined by well-founded recursion and does not evaluate by `decide`)
example : (write csvSerialize (fun n => [48 + n]) [] ⟨⟩ ⟨[99], 5, 7, [[110], [48], [43]]⟩).2
    = [99, 9, 53, 9, 55, 9, 110, 9, 48, 9, 43, 10] := by rw [write_fields]; decide
example : strand ⟨[99], 5, 50, [[110], [48], [43]]⟩ = .ok (some .Forward) := by decide
example : aux ⟨[99], 5, 50, []⟩ 2 = .panic := by decide

end RbV.Thm.GenSrcBed
