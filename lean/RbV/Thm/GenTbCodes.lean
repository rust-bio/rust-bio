import RbV.Gen.TbCodes
import RbV.Model.TbCell
/-!
# Source-extracted obligation: traceback-cell constants of `pairwise/mod.rs` (DESIGN §8; C01, C02)

`RbV/Gen/TbCodes.lean` is regenerated from the source text on every `./check C01|C02` (tools/gen_tables.py) and this
module is re-checked.  A constant that was renamed / removed / retyped makes the *extraction* fail; a constant whose
value changed makes one of the theorems below fail exactly when the change breaks what the traceback relies on:
two moves sharing a code, a code that does not fit the 4-bit field or exceeds `TB_MAX` (the `assert!` in `set_bits`
would fire), overlapping fields, a field outside the 16-bit cell.  A harmless renumbering (all codes still distinct
and ≤ `TB_MAX` ≤ 15, fields still disjoint) passes: the codes are private to the aligner.

Core Lean only, every proof by evaluation (`decide`) or from `RbV/Model/TbCell.lean`.
-/
namespace RbV.Thm.GenTbCodes
open RbV.Gen.TbCodes RbV.TbCell

/-- the nine move codes are pairwise distinct (a traceback step is decoded from the code alone) -/
theorem tb_codes_distinct : codes.Nodup := by decide

/-- every move code passes the `assert!(value <= TB_MAX)` of `set_bits`, and `TB_MAX` is itself a move -/
theorem tb_codes_le_max : (∀ c ∈ codes, c ≤ tbMax) ∧ tbMax ∈ codes := by decide

/-- `TB_MAX` fits the 4-bit field: `TB_MAX ≤ mask = 0b1111 < 16` -/
theorem tb_max_fits_field : tbMax ≤ fieldMask ∧ fieldMask + 1 = 2 ^ 4 ∧ tbMax < 16 := by decide

/-- the three 4-bit fields `[pos, pos+4)` are pairwise disjoint and lie inside the cell -/
theorem tb_fields_disjoint :
    positions.Pairwise (fun a b => a + 4 ≤ b ∨ b + 4 ≤ a) ∧ (∀ p ∈ positions, p + 4 ≤ cellBits) := by decide

/-- … written out for the three named positions -/
theorem tb_positions : positions = [iPos, dPos, sPos] ∧ iPos + 4 ≤ dPos ∧ dPos + 4 ≤ sPos ∧ sPos + 4 ≤ cellBits := by
  decide

/-! helpers for the model-level statements below and for `Thm/GenSrcPwTypes.lean` / `GenSrcPwCustom.lean` (not obligations of their own) -/

theorem mem_positions_bound {p : Nat} (hp : p ∈ positions) : p + 4 ≤ 16 := by
  have h := tb_fields_disjoint.2 p hp
  rw [cellBits_eq] at h; exact h

theorem positions_apart : ∀ p ∈ positions, ∀ q ∈ positions, p ≠ q → p + 4 ≤ q ∨ q + 4 ≤ p := by decide

theorem le_max_lt16 {value : Nat} (h : value ≤ tbMax) : value < 16 :=
  Nat.lt_of_le_of_lt h tb_max_fits_field.2.2

/-- model of `set_bits`/`get_bits` over the generated mask, positions and width, for **every** cell content `v`,
every admissible value and every field: reading a field back returns what was written … -/
theorem tb_get_after_set (v value p : Nat) (hval : value ≤ tbMax) (hp : p ∈ positions) :
    getBits (setBits v p value) p = value :=
  get_set_same v p value (le_max_lt16 hval) (mem_positions_bound hp)

/-- … the other two fields are untouched … -/
theorem tb_set_preserves_other_fields (v value p q : Nat) (hval : value ≤ tbMax) (hp : p ∈ positions)
    (hq : q ∈ positions) (hpq : p ≠ q) : getBits (setBits v p value) q = getBits v q :=
  get_set_other v p q value (le_max_lt16 hval) (mem_positions_bound hq) (positions_apart p hp q hq hpq)

/-- … and the cell stays a `u16` (nothing is shifted out, so the model needs no truncation) -/
theorem tb_set_fits_cell (v value p : Nat) (hv : v < 2 ^ cellBits) (hval : value ≤ tbMax) (hp : p ∈ positions) :
    setBits v p value < 2 ^ cellBits := by
  rw [cellBits_eq] at hv ⊢
  exact setBits_lt v p value hv (le_max_lt16 hval) (mem_positions_bound hp)

/-- `set_all(value)` makes all three matrices read `value` -/
theorem tb_set_all (v value : Nat) (hval : value ≤ tbMax) :
    getBits (setAll v value) iPos = value ∧ getBits (setAll v value) dPos = value ∧
      getBits (setAll v value) sPos = value := by
  have hi : iPos ∈ positions := by decide
  have hd : dPos ∈ positions := by decide
  have hs : sPos ∈ positions := by decide
  have hid : iPos ≠ dPos := by decide
  have his : iPos ≠ sPos := by decide
  have hds : dPos ≠ sPos := by decide
  unfold setAll
  refine ⟨?_, ?_, ?_⟩
  · rw [tb_set_preserves_other_fields _ value sPos iPos hval hs hi (Ne.symm his),
      tb_set_preserves_other_fields _ value dPos iPos hval hd hi (Ne.symm hid), tb_get_after_set v value iPos hval hi]
  · rw [tb_set_preserves_other_fields _ value sPos dPos hval hs hd (Ne.symm hds), tb_get_after_set _ value dPos hval hd]
  · exact tb_get_after_set _ value sPos hval hs

/-! non-vacuity (stated through the constants, so that a harmless renumbering does not break the examples): a cell with
S = MATCH, D = DEL, I = YCLIP_SUFFIX — with the present codes `0b0100_0010_1000` — reads back field by field -/
example :
    let cell := setBits (setBits (setBits 0 sPos tbMatch) dPos tbDel) iPos tbYclipSuffix
    getBits cell sPos = tbMatch ∧ getBits cell dPos = tbDel ∧ getBits cell iPos = tbYclipSuffix ∧ cell < 2 ^ cellBits := by
  decide
example : tbYclipSuffix ≤ tbMax ∧ sPos ∈ positions ∧ iPos ≠ sPos := by decide
/-- the guard `value <= TB_MAX` matters: a value above the mask spills into the neighbouring field -/
example : getBits (setBits 0 iPos (fieldMask + 1)) (iPos + 4) = 1 := by decide

end RbV.Thm.GenTbCodes
