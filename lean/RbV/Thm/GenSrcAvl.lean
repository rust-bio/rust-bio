import RbV.Gen.SrcAvl
import RbV.Model.AvlG
/-!
# The source text of the AVL interval tree = the mirror model: `update_height`, `update_max`, rotations

`Gen/SrcAvl.lean` is regenerated from `avl_interval_tree.rs` on every `./check C07` (dialect "avl" of
`tools/rs2lean_genavl.py`): a recursive Lean `structure Node` generated from `struct Node` and the functions of
`impl Node` as functions that return the new node.  `toTree` reads such a node as the mirror model's `Avl.Tree`
(`Option<Box<Node>>` ↦ `Tree`, heights `i64` ↦ `Nat`).  The Rust rotations swap the payloads of two nodes in place and
re-hang three subtrees; the model builds the rotated tree directly.  The equalities below are stated on the abstract
tree: **same shape and same payload, `max` and `height` at every position**.

Proof style (docs/notes/GEN.md): each function is unfolded once, the checked `i64` operations are discharged by named
range facts, the result is first brought into the explicit form `mkN` (a node whose `height` / `max` were just
recomputed from its children), and `toTree_mkN` maps that form to the model's `Avl.mk`.

The three AVL files (`GenSrcAvl`, `GenSrcAvlInsert`, `GenSrcAvlFind`) share `namespace RbV.GenSrcAvl` — without the `Thm` of the
other `Thm/GenSrc*.lean` files; `Thm/C07.lean` opens it in front of each theorem that needs it.
-/
set_option linter.unusedSimpArgs false
namespace RbV.GenSrcAvl
open RbV RbV.Rs RbV.Rs.Res RbV.Ivl RbV.Avl RbV.Gen
open RbV.Gen.SrcAvl (Node updateHeight updateMax swapIntervalData)

/-- the payload of a node as an entry of the specification -/
def entryOf (n : Node) : Ivl.Entry := ⟨n.interval.1, n.interval.2, n.value⟩

mutual
/-- a node of the translated structure read as a tree of the mirror model -/
def toTree : Node → Tree
  | ⟨iv, v, mx, h, l, r⟩ => .node (toTreeO l) ⟨iv.1, iv.2, v⟩ mx h.toNat (toTreeO r)
/-- `Option<Box<Node>>` read as a tree -/
def toTreeO : Option Node → Tree
  | none => .nil
  | some n => toTree n
end

@[simp] theorem toTreeO_none : toTreeO none = .nil := by simp [toTreeO]
@[simp] theorem toTreeO_some (n : Node) : toTreeO (some n) = toTree n := by simp [toTreeO]
theorem toTree_eq (n : Node) :
    toTree n = .node (toTreeO n.left) (entryOf n) n.max n.height.toNat (toTreeO n.right) := by
  cases n; simp [toTree, entryOf]

/-- `o.as_ref().map_or(0, |n| n.height)` -/
@[reducible] def hOf (o : Option Node) : Int := Option.elim o 0 (fun n => n.height)
/-- the stored height is a non-negative number `≤ B` -/
def HR (B : Int) (o : Option Node) : Prop := 0 ≤ hOf o ∧ hOf o ≤ B

@[simp] theorem hOf_none : hOf none = 0 := rfl
@[simp] theorem hOf_some (n : Node) : hOf (some n) = n.height := rfl

/-- discharges `HR B o` for an explicit `o` from range facts in the context -/
macro "hr_tac" : tactic =>
  `(tactic| (refine ⟨?_, ?_⟩ <;> first | omega | (simp only [hOf_some, hOf_none]; omega)))

/-- what `update_max` leaves in `self.max` -/
def mOf (e : Int) (l r : Option Node) : Int :=
  let m := match l with
    | none => e
    | some n => if e < n.max then n.max else e
  match r with
  | none => m
  | some n => if m < n.max then n.max else m

/-- a node whose `height` and `max` have just been recomputed (`update_height(); update_max()`) -/
def mkN (l : Option Node) (iv : Int × Int) (v : Int) (r : Option Node) : Node :=
  ⟨iv, v, mOf iv.2 l r, 1 + max (hOf l) (hOf r), l, r⟩

@[simp] theorem mkN_left (l : Option Node) (iv : Int × Int) (v : Int) (r : Option Node) : (mkN l iv v r).left = l := rfl
@[simp] theorem mkN_right (l : Option Node) (iv : Int × Int) (v : Int) (r : Option Node) : (mkN l iv v r).right = r := rfl
@[simp] theorem mkN_interval (l : Option Node) (iv : Int × Int) (v : Int) (r : Option Node) :
    (mkN l iv v r).interval = iv := rfl
@[simp] theorem mkN_value (l : Option Node) (iv : Int × Int) (v : Int) (r : Option Node) : (mkN l iv v r).value = v := rfl

theorem ht_toTreeO (o : Option Node) : ht (toTreeO o) = (hOf o).toNat := by
  cases o with
  | none => simp [hOf, ht]
  | some n => cases n; simp [toTree, hOf, ht]

theorem updMax_toTreeO (l r : Option Node) (e : Ivl.Entry) : updMax (toTreeO l) e (toTreeO r) = mOf e.hi l r := by
  cases l with
  | none => cases r with
    | none => simp [updMax, mOf]
    | some b => cases b; simp [updMax, mOf, toTree]
  | some a => cases r with
    | none => cases a; simp [updMax, mOf, toTree]
    | some b => cases a; cases b; simp [updMax, mOf, toTree]

theorem toTree_mkN (l : Option Node) (iv : Int × Int) (v : Int) (r : Option Node) (hl : 0 ≤ hOf l) (hr : 0 ≤ hOf r) :
    toTree (mkN l iv v r) = Avl.mk (toTreeO l) ⟨iv.1, iv.2, v⟩ (toTreeO r) := by
  simp only [mkN, toTree, Avl.mk, updHeight, ht_toTreeO, updMax_toTreeO]
  congr 1
  omega

theorem hOf_mkN (l : Option Node) (iv : Int × Int) (v : Int) (r : Option Node) :
    hOf (some (mkN l iv v r)) = 1 + max (hOf l) (hOf r) := rfl

theorem inS64 {k : Int} (h1 : -(2 ^ 63 : Int) ≤ k) (h2 : k < 2 ^ 63) : InS 64 k := by
  unfold InS; constructor <;> simp <;> omega

theorem updateHeight_eq (n : Node) (B : Int) (hB : B + 1 < 2 ^ 63) (hl : HR B n.left) (hr : HR B n.right) :
    updateHeight n = ok { n with height := 1 + max (hOf n.left) (hOf n.right) } := by
  obtain ⟨l1, l2⟩ := hl
  obtain ⟨r1, r2⟩ := hr
  simp only [hOf] at l1 l2 r1 r2 ⊢
  simp only [updateHeight]
  -- whatever the operand order of the checked addition: it stays in range, and the sum is `1 + max …`
  rw [Rs.iadd_ok (inS64 (by omega) (by omega))]
  first
    | rfl
    | (simp only [Res.ok_bind, Res.pure_eq_ok, pure_bind]
       first
         | done
         | rfl
         | (congr 2; omega))

theorem updateMax_eq (n : Node) : updateMax n = ok { n with max := mOf n.interval.2 n.left n.right } := by
  obtain ⟨iv, v, mx, h, l, r⟩ := n
  cases l with
  | none => cases r with
    | none => rfl
    | some b =>
      by_cases h2 : iv.2 < b.max <;>
        simp only [updateMax, mOf, h2, if_true, if_false, pure_bind, Res.pure_eq_ok, Res.ok_bind]
  | some a => cases r with
    | none =>
      by_cases h1 : iv.2 < a.max <;>
        simp only [updateMax, mOf, h1, if_true, if_false, pure_bind, Res.pure_eq_ok, Res.ok_bind]
    | some b =>
      by_cases h1 : iv.2 < a.max
      · by_cases h2 : a.max < b.max <;>
          simp only [updateMax, mOf, h1, h2, if_true, if_false, pure_bind, Res.pure_eq_ok, Res.ok_bind]
      · by_cases h2 : iv.2 < b.max <;>
          simp only [updateMax, mOf, h1, h2, if_true, if_false, pure_bind, Res.pure_eq_ok, Res.ok_bind]

theorem updates_eq (n : Node) (B : Int) (hB : B + 1 < 2 ^ 63) (hl : HR B n.left) (hr : HR B n.right) :
    (updateHeight n >>= updateMax) = ok (mkN n.left n.interval n.value n.right) := by
  rw [updateHeight_eq n B hB hl hr]
  simp [updateMax_eq, mkN]

/-- rewrites the `update_height()` / `update_max()` calls of a rotation into explicit form, innermost first; the stored
heights of the subtrees are `≤ B`, those of freshly built nodes `≤ B + 1` -/
macro "upd_steps" B:term : tactic =>
  `(tactic| repeat (first
    | rw [updateHeight_eq _ ($B + 1) (by omega) (by hr_tac) (by hr_tac)]
    | simp only [Res.ok_bind, updateMax_eq]))

/-! ## rotations: the in-place version (payload swap, three subtrees re-hung) in explicit form -/

theorem rotateLeft_eq (n r : Node) (B : Int) (hB : B + 2 < 2 ^ 63) (hr : n.right = some r)
    (h1 : HR B n.left) (h2 : HR B r.left) (h3 : HR B r.right) :
    SrcAvl.rotateLeft n = ok (mkN (some (mkN n.left n.interval n.value r.left)) r.interval r.value r.right) := by
  obtain ⟨iv, v, mx, h, l, rr⟩ := n
  obtain ⟨riv, rv, rmx, rh, rl, rrr⟩ := r
  simp only at hr h1 h2 h3
  subst hr
  obtain ⟨a1, a2⟩ := h1
  obtain ⟨b1, b2⟩ := h2
  obtain ⟨c1, c2⟩ := h3
  simp only [SrcAvl.rotateLeft, Rs.expect, swapIntervalData, pure_bind, Res.pure_eq_ok, Res.ok_bind]
  upd_steps B
  simp only [mkN, hOf_some, hOf_none]

theorem rotateLeft_none (n : Node) (hr : n.right = none) : SrcAvl.rotateLeft n = panic := by
  obtain ⟨iv, v, mx, h, l, rr⟩ := n
  simp only at hr
  subst hr
  simp [SrcAvl.rotateLeft, Rs.expect]

theorem rotateRight_eq (n l : Node) (B : Int) (hB : B + 2 < 2 ^ 63) (hl : n.left = some l)
    (h1 : HR B l.left) (h2 : HR B l.right) (h3 : HR B n.right) :
    SrcAvl.rotateRight n = ok (mkN l.left l.interval l.value (some (mkN l.right n.interval n.value n.right))) := by
  obtain ⟨iv, v, mx, h, ll, r⟩ := n
  obtain ⟨liv, lv, lmx, lh, l1, l2⟩ := l
  simp only at hl h1 h2 h3
  subst hl
  obtain ⟨a1, a2⟩ := h1
  obtain ⟨b1, b2⟩ := h2
  obtain ⟨c1, c2⟩ := h3
  simp only [SrcAvl.rotateRight, Rs.expect, swapIntervalData, pure_bind, Res.pure_eq_ok, Res.ok_bind]
  upd_steps B
  simp only [mkN, hOf_some, hOf_none]

theorem rotateRight_none (n : Node) (hl : n.left = none) : SrcAvl.rotateRight n = panic := by
  obtain ⟨iv, v, mx, h, ll, r⟩ := n
  simp only at hl
  subst hl
  simp [SrcAvl.rotateRight, Rs.expect]

theorem HR.mono {B : Int} {o : Option Node} (h : HR B o) : HR (B + 1) o :=
  ⟨h.1, Int.le_trans h.2 (Int.le_add_of_nonneg_right (by decide))⟩

theorem hr_mkN {B : Int} {l r : Option Node} (iv : Int × Int) (v : Int) (hl : HR B l) (hr : HR B r) :
    HR (B + 1) (some (mkN l iv v r)) := by
  obtain ⟨l1, l2⟩ := hl
  obtain ⟨r1, r2⟩ := hr
  rw [HR, hOf_mkN]; omega

/-- a rotation on a node with a right child, on the abstract tree; the two subtrees of the result carry stored heights
in `[0, B + 1]`, so that a second rotation one level up can follow (the zig-zag cases of `repair`) -/
theorem rotateLeft_ok (n r : Node) (B : Int) (hB : B + 2 < 2 ^ 63) (hr : n.right = some r)
    (h1 : HR B n.left) (h2 : HR B r.left) (h3 : HR B r.right) :
    ∃ n', SrcAvl.rotateLeft n = ok n' ∧ toTree n' = Avl.rotateLeft (toTree n) ∧
      HR (B + 1) n'.left ∧ HR (B + 1) n'.right := by
  refine ⟨_, rotateLeft_eq n r B hB hr h1 h2 h3, ?_, hr_mkN _ _ h1 h2, h3.mono⟩
  rw [toTree_mkN _ _ _ _ (hr_mkN _ _ h1 h2).1 h3.1, toTreeO_some, toTree_mkN _ _ _ _ h1.1 h2.1, toTree_eq n, hr,
    toTreeO_some, toTree_eq r]
  rfl

theorem rotateRight_ok (n l : Node) (B : Int) (hB : B + 2 < 2 ^ 63) (hl : n.left = some l)
    (h1 : HR B l.left) (h2 : HR B l.right) (h3 : HR B n.right) :
    ∃ n', SrcAvl.rotateRight n = ok n' ∧ toTree n' = Avl.rotateRight (toTree n) ∧
      HR (B + 1) n'.left ∧ HR (B + 1) n'.right := by
  refine ⟨_, rotateRight_eq n l B hB hl h1 h2 h3, ?_, h1.mono, hr_mkN _ _ h2 h3⟩
  rw [toTree_mkN _ _ _ _ h1.1 (hr_mkN _ _ h2 h3).1, toTreeO_some, toTree_mkN _ _ _ _ h2.1 h3.1, toTree_eq n, hl,
    toTreeO_some, toTree_eq l]
  rfl

/-- **`rotate_left` as written in the source = the model's rotation**, on the abstract tree: when the three subtrees
carry stored heights in `[0, B]` (`B + 2 < 2^63`) the in-place rotation does not panic and yields exactly the tree the
mirror model builds by re-linking (same shape, same payload / `max` / `height` at every position); without a right child
it panics (`unwrap()` on `None`), where the model's `rotateLeftP` is `none` -/
theorem rotateLeft_eq_model (n : Node) (B : Int) (hB : B + 2 < 2 ^ 63) (h1 : HR B n.left)
    (h2 : ∀ r, n.right = some r → HR B r.left ∧ HR B r.right) :
    match rotateLeftP (toTree n) with
    | some t => ∃ n', SrcAvl.rotateLeft n = ok n' ∧ toTree n' = t ∧ t = Avl.rotateLeft (toTree n)
    | none => SrcAvl.rotateLeft n = panic := by
  cases hr : n.right with
  | none =>
    rw [toTree_eq, hr]
    exact rotateLeft_none n hr
  | some r =>
    obtain ⟨n', e, t, _⟩ := rotateLeft_ok n r B hB hr h1 (h2 r hr).1 (h2 r hr).2
    rw [toTree_eq n, hr, toTreeO_some, toTree_eq r] at t ⊢
    exact ⟨n', e, t, rfl⟩

theorem rotateRight_eq_model (n : Node) (B : Int) (hB : B + 2 < 2 ^ 63) (h3 : HR B n.right)
    (h2 : ∀ l, n.left = some l → HR B l.left ∧ HR B l.right) :
    match rotateRightP (toTree n) with
    | some t => ∃ n', SrcAvl.rotateRight n = ok n' ∧ toTree n' = t ∧ t = Avl.rotateRight (toTree n)
    | none => SrcAvl.rotateRight n = panic := by
  cases hl : n.left with
  | none =>
    rw [toTree_eq, hl]
    exact rotateRight_none n hl
  | some l =>
    obtain ⟨n', e, t, _⟩ := rotateRight_ok n l B hB hl (h2 l hl).1 (h2 l hl).2 h3
    rw [toTree_eq n, hl, toTreeO_some, toTree_eq l] at t ⊢
    exact ⟨n', e, t, rfl⟩

end RbV.GenSrcAvl
