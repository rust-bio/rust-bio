import RbV.Gen.SrcGffRead
import RbV.Lemmas.Tsv
/-! Reader-side plain code of `src/io/gff.rs` as written (`RbV/Gen/SrcGffRead.lean`, regenerated on every `./check C13`):
`Phase::validate` and `impl Deserialize for Phase` against `readPhase` of the format model, and the closure of `Records::next` that
builds the record from the nine columns against `parseAttrs` (`recordOfColumns_eq_model`).

Trusted reading: `String::deserialize(deserializer)?` hands the column over as a string (the parameter `field`); `u8::from_str` is
`Rs.parseU8` (optional `+`, digits, at most 255); the error values are erased (`Except Unit`); the captures of the key/value
expression are the model's `scan`, and the reader's `MultiMap` is its insertion sequence. -/
set_option linter.unusedSimpArgs false
namespace RbV.Thm.GenSrcGffRead
open RbV RbV.Rs RbV.Tsv RbV.Gen.SrcGffRead

theorem validate_eq_model (p : Nat) : validate p = if p < 3 then some p else none := by
  -- whichever way the test is written (`p < 3`, `p <= 2`, `p >= 3` with the branches swapped, `3 > p`)
  by_cases h : p < 3
  · have h1 : p ≤ 2 := by omega
    have h2 : ¬ 3 ≤ p := by omega
    have h3 : ¬ 2 < p := by omega
    simp [validate, h, h1, h2, h3]
  · have h1 : ¬ p ≤ 2 := by omega
    have h2 : 3 ≤ p := by omega
    have h3 : 2 < p := by omega
    simp [validate, h, h1, h2, h3]

/-- `u8::from_str` in terms of the model's `parseDec` -/
theorem parseU8_eq (s : List Nat) :
    Rs.parseU8 s = match parseDec (Rs.stripPlus s) with
      | some v => if v < 256 then .ok v else .error ()
      | none => .error () := by
  have hd : (fun c => decide (48 ≤ c) && decide (c ≤ 57)) = isDigit := rfl
  unfold Rs.parseU8 parseDec digitsVal
  simp only [hd]
  by_cases hc : ((Rs.stripPlus s).isEmpty || !(Rs.stripPlus s).all isDigit) = true
  · simp only [hc, if_true]
  · simp only [hc]; rfl

theorem phaseDeserialize_dot : phaseDeserialize [46] = .ok none := rfl

theorem phaseDeserialize_other (s : List Nat) (h : s ≠ [46]) :
    phaseDeserialize s = (Rs.parseU8 s >>= fun p => match validate p with
      | some p => pure (some p)
      | none => throw ()) := by
  simp only [phaseDeserialize]
  first
    | rfl
    | (split
       · exact absurd rfl h
       · simp only [bind_assoc, pure_bind, bind_pure]
         congr 1
         funext p
         cases validate p <;> simp)

theorem stripPlus_other (s : List Nat) (h : ∀ r, s ≠ 43 :: r) : Rs.stripPlus s = s := by
  unfold Rs.stripPlus
  cases s with
  | nil => rfl
  | cons c r =>
    have : c ≠ 43 := fun e => h r (by rw [e])
    simp [this]

/-- a string of digits does not start with `+` -/
theorem stripPlus_digits (s : List Nat) (n : Nat) (h : parseDec s = some n) : Rs.stripPlus s = s :=
  stripPlus_other s fun r e => by subst e; simp [parseDec, isDigit] at h

/-- **`impl Deserialize for Phase` as written refines the model's `readPhase`**: where the model says `ok p` the code returns
`Ok(Phase(p))`, where the model demands an error the code returns `Err` (spellings the model leaves open — `+1`, `01` — are not
constrained) -/
theorem phaseDeserialize_refines_model (s : List Nat) :
    (∀ p, readPhase s = .ok p → phaseDeserialize s = .ok p) ∧
    (∀ w, readPhase s = .err w → phaseDeserialize s = .error ()) := by
  by_cases hdot : s = [46]
  · subst hdot
    exact ⟨fun p h => by simp [readPhase] at h; subst h; rfl, fun w h => by simp [readPhase] at h⟩
  · rw [phaseDeserialize_other s hdot, parseU8_eq]
    cases hp : parseDec s with
    | some n =>
      have hM : readPhase s = if s = toDec n then (if n < 3 then .ok (some n) else .err "phase-ge3") else .unspec := by
        unfold readPhase; simp only [hdot, if_false, hp]
      rw [stripPlus_digits s n hp, hp, hM]
      by_cases hc : s = toDec n
      · by_cases h3 : n < 3
        · have h256 : n < 256 := by omega
          rw [if_pos hc, if_pos h3]
          refine ⟨fun p h => ?_, fun w h => (by cases h)⟩
          cases h
          simp [h256, validate_eq_model, h3, bind, Except.bind, pure, Except.pure]
        · rw [if_pos hc, if_neg h3]
          refine ⟨fun p h => (by cases h), fun w h => ?_⟩
          by_cases h256 : n < 256
          · simp [h256, validate_eq_model, h3, bind, Except.bind, pure, Except.pure, throw, throwThe, MonadExceptOf.throw]
          · simp [h256, bind, Except.bind]
      · rw [if_neg hc]
        exact ⟨fun p h => (by cases h), fun w h => (by cases h)⟩
    | none =>
      by_cases hplus : ∃ r, s = 43 :: r
      · obtain ⟨r, rfl⟩ := hplus
        have hs : Rs.stripPlus (43 :: r) = r := by simp [Rs.stripPlus]
        have hM : readPhase (43 :: r) = if (parseDec r).isSome then .unspec else .err "phase-bad" := by
          unfold readPhase; simp only [hdot, if_false, hp]
        rw [hs, hM]
        cases hr : parseDec r with
        | some v => exact ⟨fun p h => (by simp at h), fun w h => (by simp at h)⟩
        | none => exact ⟨fun p h => (by simp at h), fun w h => rfl⟩
      · have hne : ∀ r, s ≠ 43 :: r := fun r e => hplus ⟨r, e⟩
        rw [stripPlus_other s hne, hp]
        refine ⟨fun p h => ?_, fun w h => rfl⟩
        unfold readPhase at h
        simp only [hdot, if_false, hp] at h
        first
          | cases h
          | (split at h
             · next r => exact absurd rfl (hne r)
             · cases h)

/-- **a numeric phase of three or more is an error — from the text** (model side: `phase_ge3_is_error`) -/
theorem phaseDeserialize_ge3 (n : Nat) (h : 3 ≤ n) : phaseDeserialize (toDec n) = .error () :=
  (phaseDeserialize_refines_model _).2 _ (readPhase_ge3 n h)

/-- the written phase column is read back: `.` and 0, 1, 2 -/
theorem phaseDeserialize_phaseStr (p : Option Nat) (h : ∀ n, p = some n → n < 3) : phaseDeserialize (phaseStr p) = .ok p :=
  (phaseDeserialize_refines_model _).1 p (readPhase_phaseStr p h)

/-! ## The closure of `Records::next` that builds the record: split on the value delimiter, quote trimming, insertion -/

theorem splitByte_eq (c : Nat) (s : List Nat) : Rs.splitByte c s = splitOn c s := by
  induction s with
  | nil => rfl
  | cons x r ih =>
    simp only [Rs.splitByte, splitOn, ih]
    by_cases h : x = c
    · simp [h]
    · simp only [h, if_false]
      cases splitOn c r <;> rfl

theorem trimQuotes_eq (s : List Nat) : Rs.trimByte 34 (Rs.trimByte 39 s) = trimQuotes s := rfl

/-- the reader's record in the model's vocabulary -/
def toRead (r : Record) : GffRead :=
  ⟨r.seqname, r.source, r.feature_type, r.start, r.end', r.score, r.strand, r.phase, r.attributes⟩

/-- **the record closure of `gff::Records::next` as written = the record the model reader builds** (`parseGffFields`, ok branch):
the eight columns are handed through, the attribute column is post-processed as `parseAttrs` does — every capture of the
key/value expression (`captures` abstract; instantiated with the model's scanner `scan`, which is the trusted reading of the regular
expression) is split on the value delimiter, key and values lose their quote characters (`'` then `"`), and the pairs are inserted
in that order (the reader's `MultiMap` read as its insertion sequence) -/
theorem recordOfColumns_eq_model (d : Dialect) (hv : d.vdelim < 128) (self : Records) (hs : self.value_delim = d.vdelim)
    (a b c : List Nat) (x y : Nat) (sc st : List Nat) (p : Option Nat) (att : List Nat) :
    toRead (recordOfColumns (fun s => scan d (s.length + 1) s) self a b c x y sc st p att)
      = ⟨a, b, c, x, y, sc, st, p, parseAttrs d att⟩ := by
  have hsplit : ∀ s, Rs.splitChar d.vdelim s = splitOn d.vdelim s := by
    intro s; simp [Rs.splitChar, hv, splitByte_eq]
  simp only [toRead, recordOfColumns, hs, hsplit, foldl_snoc, foldl_app, List.nil_append, parseAttrs]
  rfl

-- `Tag="x",'y';I=z` (GFF3): three pairs, quotes trimmed
example : (recordOfColumns (fun s => scan gff3 (s.length + 1) s) ⟨(), 44⟩ [99] [46] [103] 1 2 [46] [43] none
      [84, 61, 34, 120, 34, 44, 39, 121, 39, 59, 73, 61, 122]).attributes = [([84], [120]), ([84], [121]), ([73], [122])] := by
  decide

example : phaseDeserialize [51] = .error () := rfl        -- "3"
example : phaseDeserialize [50] = .ok (some 2) := rfl      -- "2"
example : phaseDeserialize [120] = .error () := rfl       -- "x"

end RbV.Thm.GenSrcGffRead
