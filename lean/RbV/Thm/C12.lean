import RbV.Model.IndexedFasta
import RbV.Lemmas.IndexedFasta
import RbV.Thm.GenSrcIdxFa
import RbV.Thm.GenSrcIdxFaIter
/-!
# C12 — indexed FASTA random access returns exactly the requested slice

The mirror model (`RbV/Model/IndexedFasta.lean`) follows `IndexedReader` line by line and is parameterised by the
**chunk schedule** `sched : Nat → Nat` (how many bytes each refill of the internal buffer obtains).  The theorems
below hold for *every* schedule with positive chunks, i.e. for every fragmentation of the underlying `read()`
results and every buffer capacity — this quantifier is covered by proof, not by sampling.

The first part (up to the error table and `wfCheck_sound`) is about that hand-written mirror.  The second part (from "The source
text of `IndexedReader`") states the same for the translated text of `seek_to`, `read_line`, `read_into_buffer`, `fill_buffer`,
`next`, `fetch_by_rid`, `fetch_all_by_rid`, `read`, `read_into_iter`, `read_iter` (`RbV/Gen/SrcIdxFa.lean`, `SrcIdxFaIter.lean`),
over the mirror's reader; `fetch` / `fetch_all` by name and the `.fai` parser are not translated (model only).  Last: one
concrete record, so that the hypotheses are seen to be satisfiable.

`WellFormed file idx seq` is the hypothesis of the property ("a FASTA file whose records have a uniform line length
and a matching .fai index"); `file.take n` is the file truncated to `n` bytes.
-/
namespace RbV.Thm.C12
open RbV.Fastx RbV.IdxFa

/-- positions of requested bases lie inside a file that is cut after the last requested base -/
private theorem positions_inside {file seq : Bytes} {idx : Idx} (wf : WellFormed file idx seq)
    {start stop n : Nat} (hstop : stop ≤ idx.len) (hin : start = stop ∨ pos idx (stop - 1) < n) :
    ∀ i, start ≤ i → i < stop → pos idx i < (file.take n).length := by
  intro i h1 h2
  have hlt : i < seq.length := by have := wf.len_eq; omega
  have hp := wf.pos_lt hlt
  have hm : pos idx i ≤ pos idx (stop - 1) := pos_mono idx wf.lb_pos (Nat.le_of_lt wf.lB_gt) (by omega)
  simp only [List.length_take]; omega

/-- the bases inside a cut file are those of the sequence -/
private theorem slice_cut {file seq : Bytes} {idx : Idx} (wf : WellFormed file idx seq)
    {a b n : Nat} (hab : a ≤ b) (hb : b ≤ idx.len) (hin : ∀ i, a ≤ i → i < b → pos idx i < (file.take n).length) :
    slice (file.take n) idx a b = (seq.drop a).take (b - a) := by
  have hl := wf.len_eq
  apply slice_of_at _ _ _ _ _ hab (by omega)
  intro i h1 h2
  have := hin i h1 h2
  simp only [List.length_take] at this
  rw [List.getElem?_take, if_pos (by omega)]
  exact wf.at_pos i (by omega)

/-- **Reading into a buffer, possibly from a truncated file.**  If the file is cut anywhere *after* the last
requested base (in particular: not cut at all, `n ≥ file.length`), `read` yields exactly `seq[start..stop]`, for
every chunk schedule. -/
theorem read_cut_ok (file seq : Bytes) (idx : Idx) (start stop n : Nat) (sched : Nat → Nat)
    (wf : WellFormed file idx seq) (h1 : start ≤ stop) (h2 : stop ≤ idx.len) (hs : ∀ k, 0 < sched k)
    (hin : start = stop ∨ pos idx (stop - 1) < n) :
    readIntoBuffer (file.take n) sched idx start stop = .ok ((seq.drop start).take (stop - start)) := by
  have hp := positions_inside wf h2 hin
  rw [(read_of_cut _ sched idx wf.lb_pos wf.lB_gt hs h1 h2 (Cut.of_inside h1 hp)).1, if_neg (Nat.lt_irrefl _),
    slice_cut wf h1 h2 hp]

/-- **`read` on the intact file** (the property's main clause): exactly `seq[start..stop]`, whatever the
fragmentation. -/
theorem read_correct (file seq : Bytes) (idx : Idx) (start stop : Nat) (sched : Nat → Nat)
    (wf : WellFormed file idx seq) (h1 : start ≤ stop) (h2 : stop ≤ idx.len) (hs : ∀ k, 0 < sched k) :
    readIntoBuffer file sched idx start stop = .ok ((seq.drop start).take (stop - start)) := by
  have := read_cut_ok file seq idx start stop file.length sched wf h1 h2 hs (wf.last_inside h1 h2)
  rwa [List.take_of_length_le (Nat.le_refl _)] at this

/-- **The byte iterator, possibly on a truncated file**: drained, it yields exactly `seq[start..stop]` and no error
item, for every chunk schedule. -/
theorem iter_cut_ok (file seq : Bytes) (idx : Idx) (start stop n : Nat) (sched : Nat → Nat)
    (wf : WellFormed file idx seq) (h1 : start ≤ stop) (h2 : stop ≤ idx.len) (hs : ∀ k, 0 < sched k)
    (hin : start = stop ∨ pos idx (stop - 1) < n) :
    readIter (file.take n) sched idx start stop = .ok ((seq.drop start).take (stop - start), none) := by
  have hp := positions_inside wf h2 hin
  rw [(read_of_cut _ sched idx wf.lb_pos wf.lB_gt hs h1 h2 (Cut.of_inside h1 hp)).2, if_neg (Nat.lt_irrefl _),
    slice_cut wf h1 h2 hp]

/-- **the byte iterator on the intact file**: drained, exactly `seq[start..stop]` and no error item -/
theorem iter_correct (file seq : Bytes) (idx : Idx) (start stop : Nat) (sched : Nat → Nat)
    (wf : WellFormed file idx seq) (h1 : start ≤ stop) (h2 : stop ≤ idx.len) (hs : ∀ k, 0 < sched k) :
    readIter file sched idx start stop = .ok ((seq.drop start).take (stop - start), none) := by
  have := iter_cut_ok file seq idx start stop file.length sched wf h1 h2 hs (wf.last_inside h1 h2)
  rwa [List.take_of_length_le (Nat.le_refl _)] at this

/-- **Truncation inside the span**: a file cut at or before the last requested base makes `read` fail with the
end-of-file error — never short or shifted data — for every chunk schedule. -/
theorem read_truncated (file seq : Bytes) (idx : Idx) (start stop n : Nat) (sched : Nat → Nat)
    (wf : WellFormed file idx seq) (h1 : start < stop) (h2 : stop ≤ idx.len) (hs : ∀ k, 0 < sched k)
    (hcut : n ≤ pos idx (stop - 1)) :
    readIntoBuffer (file.take n) sched idx start stop = .error .eof := by
  obtain ⟨m, c⟩ := Cut.exists (file.take n) idx (Nat.le_of_lt h1)
  rw [(read_of_cut _ sched idx wf.lb_pos wf.lB_gt hs (Nat.le_of_lt h1) h2 c).1,
    if_pos (c.lt_stop h1 (by simp only [List.length_take]; omega))]

/-- … and the iterator yields a *correct, strictly shorter prefix* of the slice and then the end-of-file error. -/
theorem iter_truncated (file seq : Bytes) (idx : Idx) (start stop n : Nat) (sched : Nat → Nat)
    (wf : WellFormed file idx seq) (h1 : start < stop) (h2 : stop ≤ idx.len) (hs : ∀ k, 0 < sched k)
    (hcut : n ≤ pos idx (stop - 1)) :
    ∃ m, m < stop - start ∧
      readIter (file.take n) sched idx start stop = .ok (((seq.drop start).take (stop - start)).take m, some .eof) := by
  obtain ⟨m, c⟩ := Cut.exists (file.take n) idx (Nat.le_of_lt h1)
  have hm := c.lt_stop h1 (by simp only [List.length_take]; omega)
  have hm1 := c.le
  refine ⟨m - start, by omega, ?_⟩
  rw [(read_of_cut _ sched idx wf.lb_pos wf.lB_gt hs (Nat.le_of_lt h1) h2 c).2, if_pos hm,
    slice_cut wf hm1 (by omega) c.inside, List.take_take, Nat.min_eq_left (by omega)]

/-! ## Error table -/

/-- reading before any fetch is an error -/
theorem read_nofetch (file : Bytes) (sched : Nat → Nat) :
    read file sched none = .error .nofetch ∧ readIt file sched none = .error .nofetch := ⟨rfl, rfl⟩

/-- `stop > len` is refused (by `read` and by `read_iter`), whatever the file and the schedule -/
theorem read_out_of_bounds (file : Bytes) (sched : Nat → Nat) (idx : Idx) (start stop : Nat) (h : idx.len < stop) :
    readIntoBuffer file sched idx start stop = .error .oob ∧ readIter file sched idx start stop = .error .oob := by
  simp [readIntoBuffer, readIter, h]

/-- `start > stop` is refused -/
theorem read_inverted (file : Bytes) (sched : Nat → Nat) (idx : Idx) (start stop : Nat)
    (h1 : stop ≤ idx.len) (h2 : stop < start) :
    readIntoBuffer file sched idx start stop = .error .interval ∧
    readIter file sched idx start stop = .error .interval := by
  have : ¬ stop > idx.len := by omega
  simp [readIntoBuffer, readIter, this, h2]

/-- an unknown record number is refused by every fetch variant that takes one -/
theorem fetch_unknown_rid (index : List (Bytes × Idx)) (rid start stop : Nat) (h : index.length ≤ rid) :
    fetchByRid index rid start stop = .error .rid ∧ fetchAllByRid index rid = .error .rid := by
  simp [fetchByRid, fetchAllByRid, idxByRid, List.getElem?_eq_none h, Except.map]

/-- an unknown name is refused by every fetch variant that takes one -/
theorem fetch_unknown_name (index : List (Bytes × Idx)) (name : Bytes) (start stop : Nat)
    (h : ∀ e ∈ index, e.1 ≠ name) :
    fetch index name start stop = .error .name ∧ fetchAll index name = .error .name := by
  have : ridOfName index name = none := by
    unfold ridOfName
    rw [Option.map_eq_none_iff, List.find?_eq_none]
    intro e he
    have : e.1 ∈ index := by
      have := List.mem_reverse.mp he
      exact (List.mem_zipIdx' this).2 ▸ List.getElem_mem _
    simpa using h e.1 this
  simp [fetch, fetchAll, idxByName, this, Except.map]

/-- a known record number selects that record's index entry, with the interval given / the whole record -/
theorem fetch_known_rid (index : List (Bytes × Idx)) (rid start stop : Nat) (h : rid < index.length) :
    fetchByRid index rid start stop = .ok ⟨index[rid].2, start, stop⟩ ∧
    fetchAllByRid index rid = .ok ⟨index[rid].2, 0, index[rid].2.len⟩ := by
  simp [fetchByRid, fetchAllByRid, idxByRid, List.getElem?_eq_getElem h, Except.map]

/-- the executable check the driver applies to every case (file, `.fai` entry, sequence obtained with the FASTA
parser model) establishes `WellFormed`, i.e. every case the driver accepts is in the domain of the theorems above -/
theorem wfCheck_sound (file : Bytes) (idx : Idx) (seq : Bytes) (h : wfCheck file idx seq = true) :
    WellFormed file idx seq := wellFormed_of_wfCheck file idx seq h

/-! ## The source text of `IndexedReader`, translated (`RbV/Gen/SrcIdxFa.lean`, regenerated on every `./check C12`)

`tools/rs2lean_cf.py` (sub-dialect "io") translates the text of `seek_to`, `read_line`, `read_into_buffer`,
`IndexedReaderIterator::{fill_buffer, next}`; the `BufReader` is the reader of the mirror model (`fillBufOp`, `consumeOp`,
`seekOp` of `Thm/GenSrcIdxFa.lean`: file + position + chunk schedule).  For these functions the tie code ↔ model is
a theorem about the text.  `fuel` bounds the translated `while` loops: any number above the file length. -/

open RbV.Thm.GenSrcIdxFa in
/-- `seek_to` computes `offset + (start / line_bases) * line_bytes + start % line_bases`, seeks there and returns the
column — exactly the model's `seekTo` — when `start ≤ len` and the offset fits `u64`; … -/
theorem seek_to_source_eq_model (file : Bytes) (idx : Idx) (start : Nat) (s : St)
    (hlb : 0 < idx.lb) (hst : start ≤ idx.len) (hfit : pos idx start < 2 ^ 64) :
    Gen.SrcIdxFa.seekTo (seekOp file) s (toRec idx) start =
      .ok (.ok (seekTo file idx start).2, (seekTo file idx start).1) :=
  seekTo_eq_model file idx start s hlb hst hfit

open RbV.Thm.GenSrcIdxFa in
/-- … and panics (`assert!`) on a start behind the end of the record -/
theorem seek_to_source_out_of_range_panics (file : Bytes) (idx : Idx) (start : Nat) (s : St) (hst : idx.len < start) :
    Gen.SrcIdxFa.seekTo (seekOp file) s (toRec idx) start = .panic :=
  seekTo_oob_panics file idx start s hst

open RbV.Thm.GenSrcIdxFa in
/-- **`read_line`, what its callers rely on** (the state in which a line end is left is *not* fixed): from a state with
the loop invariant, (1) at the end of the stream the truncation error; (2) otherwise `Ok(n)`: `tr > 0` buffered bytes
consumed, the first `n ≤ bases_left` of them appended to the output, and these are the bases between the old and the new
column (`StepOk`). -/
theorem read_line_source_contract (f : Bytes) (sched : Nat → Nat) (idx : Idx) (s : St) (lo cur line bl : Nat) (buf : Bytes)
    (hlb : 0 < idx.lb) (hlB : idx.lb < idx.lB) (hs : ∀ k, 0 < sched k) (h64 : idx.lB < 2 ^ 64)
    (inv : Inv f idx s lo cur line) (hbl : 0 < bl) :
    (s.rest = [] → EofPost (Gen.SrcIdxFa.readLine (fillBufOp sched) consumeOp s (toRec idx) lo bl buf)) ∧
    (s.rest ≠ [] → StepPost sched idx s lo bl buf
      (Gen.SrcIdxFa.readLine (fillBufOp sched) consumeOp s (toRec idx) lo bl buf)) :=
  ⟨fun h => readLine_eof sched idx s lo bl buf h inv.avail_le,
   fun h => readLine_step f sched idx s lo cur line bl buf hlb hlB hs h64 inv hbl h⟩

open RbV.Thm.GenSrcIdxFa in
/-- **`read_into_buffer`: translated code = mirror model** on the returned bytes / error (`Agrees`), for every file and
`.fai` entry with `0 < line_bases < line_bytes`, every chunk schedule, every earlier state of reader and buffer. -/
theorem read_into_buffer_source_eq_model (file : Bytes) (sched : Nat → Nat) (idx : Idx) (start stop : Nat) (s0 : St)
    (seq0 : Bytes) (fuel : Nat) (hlb : 0 < idx.lb) (hlB : idx.lb < idx.lB) (hs : ∀ k, 0 < sched k)
    (h64 : idx.lB < 2 ^ 64) (hfit : pos idx start < 2 ^ 64) (hfuel : file.length < fuel) :
    ∃ out, Gen.SrcIdxFa.readIntoBuffer (fillBufOp sched) consumeOp (seekOp file) s0 (toRec idx) start stop seq0 fuel
        = .ok out ∧ Agrees (readIntoBuffer file sched idx start stop) out :=
  readIntoBuffer_eq_model file sched idx start stop s0 seq0 fuel hlb hlB hs h64 hfit hfuel

open RbV.Thm.GenSrcIdxFa in
/-- **The translated `read_into_buffer` returns exactly `seq[start..stop]`** for every well-formed file and every chunk
schedule, whatever the reader position and the buffer content were before (no mirror model in the statement). -/
theorem read_source_correct (file seq : Bytes) (idx : Idx) (start stop : Nat) (sched : Nat → Nat) (s0 : St) (seq0 : Bytes)
    (fuel : Nat) (wf : WellFormed file idx seq) (h1 : start ≤ stop) (h2 : stop ≤ idx.len) (hs : ∀ k, 0 < sched k)
    (h64 : idx.lB < 2 ^ 64) (hfit : pos idx start < 2 ^ 64) (hfuel : file.length < fuel) :
    ∃ s', Gen.SrcIdxFa.readIntoBuffer (fillBufOp sched) consumeOp (seekOp file) s0 (toRec idx) start stop seq0 fuel
        = .ok (.ok (), s', (seq.drop start).take (stop - start)) := by
  obtain ⟨⟨r, s', out⟩, h, ha⟩ :=
    readIntoBuffer_eq_model file sched idx start stop s0 seq0 fuel wf.lb_pos wf.lB_gt hs h64 hfit hfuel
  rw [read_correct file seq idx start stop sched wf h1 h2 hs] at ha
  obtain ⟨hr, ho⟩ := ha
  exact ⟨s', by rw [h, hr, ho]⟩

open RbV.Thm.GenSrcIdxFa in
/-- **Truncation inside the span**: the translated `read_into_buffer` returns the "FASTA file is truncated." error
(`io::ErrorKind::UnexpectedEof`) — never `Ok` with short or shifted data. -/
theorem read_source_truncated (file seq : Bytes) (idx : Idx) (start stop n : Nat) (sched : Nat → Nat) (s0 : St)
    (seq0 : Bytes) (fuel : Nat) (wf : WellFormed file idx seq) (h1 : start < stop) (h2 : stop ≤ idx.len)
    (hs : ∀ k, 0 < sched k) (hcut : n ≤ pos idx (stop - 1))
    (h64 : idx.lB < 2 ^ 64) (hfit : pos idx start < 2 ^ 64) (hfuel : (file.take n).length < fuel) :
    ∃ s' seq', Gen.SrcIdxFa.readIntoBuffer (fillBufOp sched) consumeOp (seekOp (file.take n)) s0 (toRec idx) start stop
        seq0 fuel = .ok (.error eofErr, s', seq') := by
  obtain ⟨⟨r, s', out⟩, h, ha⟩ :=
    readIntoBuffer_eq_model (file.take n) sched idx start stop s0 seq0 fuel wf.lb_pos wf.lB_gt hs h64 hfit hfuel
  rw [read_truncated file seq idx start stop n sched wf h1 h2 hs hcut] at ha
  exact ⟨s', out, by rw [h]; exact congrArg (fun x => Rs.Res.ok (x, s', out)) ha⟩

open RbV.Thm.GenSrcIdxFa in
/-- **`fill_buffer`** (one refill of the iterator's private buffer, from a state with the loop invariant, `bases_left > 0`):
the next chunk of at least one and at most `bases_left` bases when the next base lies inside the file, an error otherwise;
for every positive chunk size asked for (`capacity()` or a constant: seeded change C12-H1). -/
theorem fill_buffer_source_spec (f : Bytes) (sched : Nat → Nat) (idx : Idx) (cap bi bl cur : Nat) (buf : Bytes)
    (hlb : 0 < idx.lb) (hlB : idx.lb < idx.lB) (hs : ∀ k, 0 < sched k) (h64 : idx.lB < 2 ^ 64)
    (hcap : 0 < cap) (hbl : 0 < bl) (fuel : Nat) (s : St) (lo line : Nat)
    (inv : Inv f idx s lo cur line) (hfuel : s.rest.length + 1 < fuel) :
    (pos idx cur < f.length →
      ∃ s' lo' n line', 0 < n ∧ n ≤ bl ∧
        Gen.SrcIdxFa.fillBuffer (fillBufOp sched) consumeOp cap s (toRec idx) bl lo buf bi fuel =
          .ok (.ok (), s', bl - n, lo', slice f idx cur (cur + n), 0) ∧
        Inv f idx s' lo' (cur + n) line' ∧ s'.rest.length ≤ s.rest.length ∧
        (∀ j, j < n → pos idx (cur + j) < f.length)) ∧
    (f.length ≤ pos idx cur →
      ∃ s' bl' lo' buf' bi', Gen.SrcIdxFa.fillBuffer (fillBufOp sched) consumeOp cap s (toRec idx) bl lo buf bi fuel =
          .ok (.error eofErr, s', bl', lo', buf', bi')) :=
  fillBuffer_spec f sched idx cap bi bl cur buf hlb hlB hs h64 hcap hbl fuel s lo line inv hfuel

open RbV.Thm.GenSrcIdxFa in
/-- **The byte iterator: translated code = mirror model.**  `drainIt` calls the translated `next` (which calls the
translated `fill_buffer`, which calls the translated `read_line`) until it returns `None`; from the state the translated
`seek_to` leaves (first conjunct), the items are exactly those of the model's `readIter`: the bytes, then the error that
ended it, if any.  (`read_iter_source_correct` below starts from the translated `read_into_iter`, which yields this state.) -/
theorem iter_source_eq_model (file : Bytes) (sched : Nat → Nat) (idx : Idx) (cap start stop fuel calls : Nat) (s0 : St)
    (hlb : 0 < idx.lb) (hlB : idx.lb < idx.lB) (hs : ∀ k, 0 < sched k) (h64 : idx.lB < 2 ^ 64)
    (hcap : 0 < cap) (h1 : start ≤ stop) (h2 : stop ≤ idx.len) (hstop : stop < 2 ^ 64) (hfit : pos idx start < 2 ^ 64)
    (hfuel : file.length + 1 < fuel) (hcalls : stop - start + 2 ≤ calls) :
    Gen.SrcIdxFa.seekTo (seekOp file) s0 (toRec idx) start =
      .ok (.ok (seekTo file idx start).2, (seekTo file idx start).1) ∧
    ∃ r, readIter file sched idx start stop = .ok r ∧
      drainIt sched cap idx fuel calls ((seekTo file idx start).1, stop - start, (seekTo file idx start).2, [], 0) =
        .ok (itemsOf r) :=
  ⟨seekTo_eq_model file idx start s0 hlb (by omega) hfit,
    iter_eq_readIter file sched idx cap start stop fuel calls hlb hlB hs h64 hcap hstop h1 h2 hfuel hcalls⟩

open RbV.Thm.GenSrcIdxFa in
/-- **The drained translated iterator yields exactly `seq[start..stop]`** and no error item, for every well-formed file,
every chunk schedule, every positive buffer capacity. -/
theorem iter_source_correct (file seq : Bytes) (idx : Idx) (cap start stop fuel calls : Nat) (sched : Nat → Nat)
    (wf : WellFormed file idx seq) (h1 : start ≤ stop) (h2 : stop ≤ idx.len) (hs : ∀ k, 0 < sched k)
    (h64 : idx.lB < 2 ^ 64) (hcap : 0 < cap) (hstop : stop < 2 ^ 64)
    (hfuel : file.length + 1 < fuel) (hcalls : stop - start + 2 ≤ calls) :
    drainIt sched cap idx fuel calls ((seekTo file idx start).1, stop - start, (seekTo file idx start).2, [], 0) =
      .ok (okItems ((seq.drop start).take (stop - start))) := by
  obtain ⟨r, hr, hd⟩ :=
    iter_eq_readIter file sched idx cap start stop fuel calls wf.lb_pos wf.lB_gt hs h64 hcap hstop h1 h2 hfuel hcalls
  rw [iter_correct file seq idx start stop sched wf h1 h2 hs] at hr
  cases hr
  rw [hd]
  simp [itemsOf]

open RbV.Thm.GenSrcIdxFa in
/-- … and on a file cut inside the span: a correct strictly shorter prefix, then the truncation error as the last item. -/
theorem iter_source_truncated (file seq : Bytes) (idx : Idx) (cap start stop n fuel calls : Nat) (sched : Nat → Nat)
    (wf : WellFormed file idx seq) (h1 : start < stop) (h2 : stop ≤ idx.len) (hs : ∀ k, 0 < sched k)
    (hcut : n ≤ pos idx (stop - 1)) (h64 : idx.lB < 2 ^ 64) (hcap : 0 < cap) (hstop : stop < 2 ^ 64)
    (hfuel : (file.take n).length + 1 < fuel) (hcalls : stop - start + 2 ≤ calls) :
    ∃ m, m < stop - start ∧
      drainIt sched cap idx fuel calls
          ((seekTo (file.take n) idx start).1, stop - start, (seekTo (file.take n) idx start).2, [], 0) =
        .ok (okItems (((seq.drop start).take (stop - start)).take m) ++ [.error eofErr]) := by
  obtain ⟨m, hm1, hm⟩ := iter_truncated file seq idx start stop n sched wf h1 h2 hs hcut
  obtain ⟨r, hr, hd⟩ := iter_eq_readIter (file.take n) sched idx cap start stop fuel calls wf.lb_pos wf.lB_gt hs h64 hcap hstop
    (Nat.le_of_lt h1) h2 hfuel hcalls
  rw [hm] at hr
  cases hr
  exact ⟨m, hm1, by rw [hd]; simp [itemsOf, toIo]⟩

open RbV.Thm.GenSrcIdxFa in
/-- `fetch_by_rid` / `fetch_all_by_rid` (and `idx_by_rid` below them): translated code = mirror model — an unknown record
number is an error that leaves the fetch state alone, a known one stores the `.fai` entry and the interval -/
theorem fetch_by_rid_source_eq_model (index : List (Bytes × Idx)) (fi : Option Gen.SrcIdxFa.IndexRecord) (a b : Option Nat)
    (rid start stop : Nat) :
    Gen.SrcIdxFa.fetchByRid (toRecs index) fi a b rid start stop =
      .ok (match fetchByRid index rid start stop with
        | .ok r => (.ok (), fetchState r)
        | .error e => (.error (toIo e), fi, a, b)) ∧
    Gen.SrcIdxFa.fetchAllByRid (toRecs index) fi a b rid =
      .ok (match fetchAllByRid index rid with
        | .ok r => (.ok (), fetchState r)
        | .error e => (.error (toIo e), fi, a, b)) :=
  ⟨fetchByRid_eq_model index fi a b rid start stop, fetchAllByRid_eq_model index fi a b rid⟩

open RbV.Thm.GenSrcIdxFa in
/-- `read`: `read_into_buffer` on what was fetched; the "No sequence fetched" error before any fetch -/
theorem read_source_dispatch {ρ : Type} (fb : ρ → Except Rs.IoErr (List Nat) × ρ) (co : ρ → Nat → ρ)
    (sk : ρ → Nat → Except Rs.IoErr Nat × ρ) (s : ρ) (r : Gen.SrcIdxFa.IndexRecord) (start stop : Nat) (seq : List Nat)
    (fuel : Nat) :
    Gen.SrcIdxFa.read fb co sk s (some r) (some start) (some stop) seq fuel =
      Gen.SrcIdxFa.readIntoBuffer fb co sk s r start stop seq fuel ∧
    Gen.SrcIdxFa.read fb co sk s none none none seq fuel = .ok (.error (toIo .nofetch), s, seq) :=
  ⟨read_eq fb co sk s r start stop seq fuel, RbV.Thm.GenSrcIdxFa.read_nofetch fb co sk s seq fuel⟩

open RbV.Thm.GenSrcIdxFa in
/-- **Translated `fetch_by_rid` followed by translated `read` returns exactly `seq[start..stop]`** of record `rid`, for
every well-formed file, every chunk schedule, whatever was fetched or read before. -/
theorem fetch_read_source_correct (index : List (Bytes × Idx)) (file seq : Bytes) (rid start stop : Nat)
    (sched : Nat → Nat) (s0 : St) (seq0 : Bytes) (fuel : Nat) (fi0 : Option Gen.SrcIdxFa.IndexRecord) (a0 b0 : Option Nat)
    (hr : rid < index.length) (wf : WellFormed file index[rid].2 seq) (h1 : start ≤ stop) (h2 : stop ≤ index[rid].2.len)
    (hs : ∀ k, 0 < sched k) (h64 : index[rid].2.lB < 2 ^ 64) (hfit : pos index[rid].2 start < 2 ^ 64)
    (hfuel : file.length < fuel) :
    ∃ fi a b s', Gen.SrcIdxFa.fetchByRid (toRecs index) fi0 a0 b0 rid start stop = .ok (.ok (), fi, a, b) ∧
      Gen.SrcIdxFa.read (fillBufOp sched) consumeOp (seekOp file) s0 fi a b seq0 fuel =
        .ok (.ok (), s', (seq.drop start).take (stop - start)) := by
  obtain ⟨s', h⟩ := read_source_correct file seq index[rid].2 start stop sched s0 seq0 fuel wf h1 h2 hs h64 hfit hfuel
  refine ⟨some (toRec index[rid].2), some start, some stop, s', ?_, ?_⟩
  · rw [fetchByRid_eq_model, (fetch_known_rid index rid start stop hr).1]; rfl
  · rw [read_eq]; exact h

open RbV.Thm.GenSrcIdxFa in
/-- **Translated `fetch_all_by_rid` followed by translated `read` returns the whole sequence** of record `rid` — the
interval it stores is `[0, idx.len)` taken from the `.fai` entry, and that is exactly the record's sequence; for every
well-formed file, every chunk schedule, whatever was fetched or read before. -/
theorem fetch_all_read_source_correct (index : List (Bytes × Idx)) (file seq : Bytes) (rid : Nat)
    (sched : Nat → Nat) (s0 : St) (seq0 : Bytes) (fuel : Nat) (fi0 : Option Gen.SrcIdxFa.IndexRecord) (a0 b0 : Option Nat)
    (hr : rid < index.length) (wf : WellFormed file index[rid].2 seq)
    (hs : ∀ k, 0 < sched k) (h64 : index[rid].2.lB < 2 ^ 64) (hfit : pos index[rid].2 0 < 2 ^ 64)
    (hfuel : file.length < fuel) :
    ∃ fi a b s', Gen.SrcIdxFa.fetchAllByRid (toRecs index) fi0 a0 b0 rid = .ok (.ok (), fi, a, b) ∧
      Gen.SrcIdxFa.read (fillBufOp sched) consumeOp (seekOp file) s0 fi a b seq0 fuel = .ok (.ok (), s', seq) := by
  obtain ⟨s', h⟩ := read_source_correct file seq index[rid].2 0 index[rid].2.len sched s0 seq0 fuel wf
    (Nat.zero_le _) (Nat.le_refl _) hs h64 hfit hfuel
  refine ⟨some (toRec index[rid].2), some 0, some index[rid].2.len, s', ?_, ?_⟩
  · rw [fetchAllByRid_eq_model, (fetch_known_rid index rid 0 0 hr).2]; rfl
  · rw [read_eq, h, wf.len_eq]; simp

open RbV.Thm.GenSrcIdxFa in
/-- **Translated `fetch_by_rid` followed by translated `read` on a file cut inside the requested span** is the
"FASTA file is truncated." error — the fetch itself succeeds (it only consults the `.fai` entry), the read never
returns `Ok` with short or shifted data; whatever was fetched or read before. -/
theorem fetch_read_source_truncated (index : List (Bytes × Idx)) (file seq : Bytes) (rid start stop n : Nat)
    (sched : Nat → Nat) (s0 : St) (seq0 : Bytes) (fuel : Nat) (fi0 : Option Gen.SrcIdxFa.IndexRecord) (a0 b0 : Option Nat)
    (hr : rid < index.length) (wf : WellFormed file index[rid].2 seq) (h1 : start < stop) (h2 : stop ≤ index[rid].2.len)
    (hs : ∀ k, 0 < sched k) (hcut : n ≤ pos index[rid].2 (stop - 1)) (h64 : index[rid].2.lB < 2 ^ 64)
    (hfit : pos index[rid].2 start < 2 ^ 64) (hfuel : (file.take n).length < fuel) :
    ∃ fi a b s' seq', Gen.SrcIdxFa.fetchByRid (toRecs index) fi0 a0 b0 rid start stop = .ok (.ok (), fi, a, b) ∧
      Gen.SrcIdxFa.read (fillBufOp sched) consumeOp (seekOp (file.take n)) s0 fi a b seq0 fuel =
        .ok (.error eofErr, s', seq') := by
  obtain ⟨s', seq', h⟩ :=
    read_source_truncated file seq index[rid].2 start stop n sched s0 seq0 fuel wf h1 h2 hs hcut h64 hfit hfuel
  refine ⟨some (toRec index[rid].2), some start, some stop, s', seq', ?_, ?_⟩
  · rw [fetchByRid_eq_model, (fetch_known_rid index rid start stop hr).1]; rfl
  · rw [read_eq]; exact h

/-! ## `read_into_iter` / `read_iter` translated from the source text

`RbV/Gen/SrcIdxFaIter.lean`; proofs `RbV/Thm/GenSrcIdxFaIter.lean`.  The iterator struct carries the ghost field `buf_cap` =
the argument of `Vec::with_capacity(..)` (std: `capacity() >= n`). -/

open RbV.Thm.GenSrcIdxFa RbV.Thm.GenSrcIdxFaIter in
/-- **`read_into_iter`, as written, asks for a positive buffer capacity** whenever there is something to read
(`min(MAX_FASTA_BUFFER_SIZE, min(bases_left, line_bases)) > 0` for `start < stop`, `line_bases > 0`), and starts the
iterator in the start state of `iter_source_eq_model`: reader after the translated `seek_to`, `bases_left = stop - start`, empty
buffer, `buf_idx = 0`.  Out-of-range and inverted intervals are the two errors. -/
theorem read_into_iter_source_capacity_pos (file : Bytes) (idx : Idx) (start stop : Nat) (s : St)
    (hlb : 0 < idx.lb) (hfit : pos idx start < 2 ^ 64) :
    (idx.len < stop → ∃ e, Gen.SrcIdxFaIter.readIntoIter (seekOp file) s (toRec idx) start stop = .ok (.error e) ∧
        (e = oobErr ∨ (stop < start ∧ e = intervalErr))) ∧
    (stop ≤ idx.len → stop < start →
      Gen.SrcIdxFaIter.readIntoIter (seekOp file) s (toRec idx) start stop = .ok (.error intervalErr)) ∧
    (stop ≤ idx.len → start ≤ stop →
      ∃ it, Gen.SrcIdxFaIter.readIntoIter (seekOp file) s (toRec idx) start stop = .ok (.ok it) ∧
        it.reader = (seekTo file idx start).1 ∧ it.record = toRec idx ∧ it.bases_left = stop - start ∧
        it.line_offset = (seekTo file idx start).2 ∧ it.buf = [] ∧ it.buf_idx = 0 ∧ (start < stop → 0 < it.buf_cap)) := by
  obtain ⟨h1, h2, h3⟩ := readIntoIter_spec file idx start stop s hlb hfit
  refine ⟨h1, h2, fun a b => ?_⟩
  obtain ⟨it, hit, hok⟩ := h3 a b
  exact ⟨it, hit, hok.reader, hok.record, hok.bases, hok.lo, hok.buf, hok.bidx, hok.cap⟩

open RbV.Thm.GenSrcIdxFa RbV.Thm.GenSrcIdxFaIter in
/-- `read_iter`: `read_into_iter` on what was fetched; the "No sequence fetched" error before any fetch -/
theorem read_iter_source_dispatch {ρ : Type} (sk : ρ → Nat → Except Rs.IoErr Nat × ρ) (s : ρ)
    (r : Gen.SrcIdxFa.IndexRecord) (start stop : Nat) :
    Gen.SrcIdxFaIter.readIter sk s (some r) (some start) (some stop) = Gen.SrcIdxFaIter.readIntoIter sk s r start stop ∧
    Gen.SrcIdxFaIter.readIter sk s none none none = .ok (.error (toIo .nofetch)) :=
  ⟨readIter_fetched sk s r start stop, readIter_nofetch sk s⟩

open RbV.Thm.GenSrcIdxFa RbV.Thm.GenSrcIdxFaIter in
/-- **From the translated constructor**: `read_into_iter(idx, start, stop)` as written, then the translated `next` drained
with the capacity that constructor asked for, yields exactly `seq[start..stop]` and no error item — for every well-formed
file, every chunk schedule, every interval `start ≤ stop ≤ len` (the empty one included: capacity 0, the iterator ends at
once). -/
theorem read_iter_source_correct (file seq : Bytes) (idx : Idx) (start stop fuel calls : Nat) (sched : Nat → Nat) (s0 : St)
    (wf : WellFormed file idx seq) (h1 : start ≤ stop) (h2 : stop ≤ idx.len) (hs : ∀ k, 0 < sched k)
    (h64 : idx.lB < 2 ^ 64) (hstop : stop < 2 ^ 64) (hfit : pos idx start < 2 ^ 64)
    (hfuel : file.length + 1 < fuel) (hcalls : stop - start + 2 ≤ calls) :
    ∃ it, Gen.SrcIdxFaIter.readIntoIter (seekOp file) s0 (toRec idx) start stop = .ok (.ok it) ∧
      drainIt sched it.buf_cap idx fuel calls (it.reader, it.bases_left, it.line_offset, it.buf, it.buf_idx) =
        .ok (okItems ((seq.drop start).take (stop - start))) := by
  obtain ⟨it, hit, hok⟩ := (readIntoIter_spec file idx start stop s0 wf.lb_pos hfit).2.2 h2 h1
  refine ⟨it, hit, ?_⟩
  rw [hok.reader, hok.bases, hok.lo, hok.buf, hok.bidx]
  by_cases hlt : start < stop
  · exact iter_source_correct file seq idx it.buf_cap start stop fuel calls sched wf h1 h2 hs h64 (hok.cap hlt)
      hstop hfuel hcalls
  · have he : stop - start = 0 := by omega
    rw [he, drainIt_empty sched _ idx fuel calls (by omega)]
    simp [okItems]

/-! ## Non-vacuity: a concrete two-line record -/

private def exFile : Bytes := [62, 97, 10, 65, 67, 71, 10, 84, 10]        -- ">a\nACG\nT\n"
private def exIdx : Idx := { len := 4, off := 3, lb := 3, lB := 4 }
private def exSeq : Bytes := [65, 67, 71, 84]

private theorem exWf : WellFormed exFile exIdx exSeq :=
  ⟨rfl, by decide, by decide, by
    intro i h
    have : i < 4 := h
    match i, this with
    | 0, _ => rfl
    | 1, _ => rfl
    | 2, _ => rfl
    | 3, _ => rfl⟩

/-- one byte per refill: the request 1..4 crosses the line terminator -/
example : readIntoBuffer exFile (fun _ => 1) exIdx 1 4 = .ok [67, 71, 84] :=
  read_correct exFile exSeq exIdx 1 4 (fun _ => 1) exWf (by decide) (by decide) (fun _ => by decide)

example : readIter exFile (fun k => k + 1) exIdx 0 4 = .ok ([65, 67, 71, 84], none) :=
  iter_correct exFile exSeq exIdx 0 4 (fun k => k + 1) exWf (by decide) (by decide) (fun _ => by omega)

/-- cut in front of the last base (offset 7): an error, not `ACG` -/
example : readIntoBuffer (exFile.take 7) (fun _ => 2) exIdx 0 4 = .error .eof :=
  read_truncated exFile exSeq exIdx 0 4 7 (fun _ => 2) exWf (by decide) (by decide) (fun _ => by decide) (by decide)

open RbV.Thm.GenSrcIdxFa in
/-- the translated code, one byte per refill, a dirty buffer and a reader left somewhere else: `CGT` -/
example : ∃ s', Gen.SrcIdxFa.readIntoBuffer (fillBufOp (fun _ => 1)) consumeOp (seekOp exFile) ⟨[1, 2], 1, 5⟩ (toRec exIdx)
    1 4 [7, 7] 10 = .ok (.ok (), s', [67, 71, 84]) :=
  read_source_correct exFile exSeq exIdx 1 4 (fun _ => 1) _ _ 10 exWf (by decide) (by decide) (fun _ => by decide)
    (by decide) (by decide) (by decide)

open RbV.Thm.GenSrcIdxFa in
example : ∃ s' seq', Gen.SrcIdxFa.readIntoBuffer (fillBufOp (fun _ => 2)) consumeOp (seekOp (exFile.take 7)) ⟨[], 0, 0⟩
    (toRec exIdx) 0 4 [] 10 = .ok (.error eofErr, s', seq') :=
  read_source_truncated exFile exSeq exIdx 0 4 7 (fun _ => 2) _ _ 10 exWf (by decide) (by decide) (fun _ => by decide)
    (by decide) (by decide) (by decide) (by decide)

open RbV.Thm.GenSrcIdxFa in
example : Gen.SrcIdxFa.seekTo (seekOp exFile) ⟨[], 0, 0⟩ (toRec exIdx) 3 = .ok (.ok 0, ⟨[84, 10], 0, 0⟩) :=
  seek_to_source_eq_model exFile exIdx 3 _ (by decide) (by decide) (by decide)

open RbV.Thm.GenSrcIdxFa in
/-- the translated iterator, refills of 1, 2, 3, … bytes, a buffer capacity of 2: `A C G T`, then `None` -/
example : drainIt (fun k => k + 1) 2 exIdx 20 10 ((seekTo exFile exIdx 0).1, 4 - 0, (seekTo exFile exIdx 0).2, [], 0) =
    .ok [.ok 65, .ok 67, .ok 71, .ok 84] :=
  iter_source_correct exFile exSeq exIdx 2 0 4 20 10 (fun k => k + 1) exWf (by decide) (by decide) (fun _ => by omega)
    (by decide) (by decide) (by decide) (by decide) (by decide)

open RbV.Thm.GenSrcIdxFa in
example : ∃ fi a b s', Gen.SrcIdxFa.fetchByRid (toRecs [([97], exIdx)]) none none none 0 1 4 = .ok (.ok (), fi, a, b) ∧
    Gen.SrcIdxFa.read (fillBufOp (fun _ => 3)) consumeOp (seekOp exFile) ⟨[], 0, 0⟩ fi a b [] 10 =
      .ok (.ok (), s', [67, 71, 84]) :=
  fetch_read_source_correct [([97], exIdx)] exFile exSeq 0 1 4 (fun _ => 3) _ _ 10 none none none (by decide) exWf
    (by decide) (by decide) (fun _ => by decide) (by decide) (by decide) (by decide)

open RbV.Thm.GenSrcIdxFa RbV.Thm.GenSrcIdxFaIter in
/-- from the translated `read_into_iter` (dirty reader, interval 1..4): the iterator it builds, drained, gives `C G T` -/
example : ∃ it, Gen.SrcIdxFaIter.readIntoIter (seekOp exFile) ⟨[1, 2], 1, 5⟩ (toRec exIdx) 1 4 = .ok (.ok it) ∧
    drainIt (fun k => k + 1) it.buf_cap exIdx 20 10 (it.reader, it.bases_left, it.line_offset, it.buf, it.buf_idx) =
      .ok [.ok 67, .ok 71, .ok 84] :=
  read_iter_source_correct exFile exSeq exIdx 1 4 20 10 (fun k => k + 1) _ exWf (by decide) (by decide) (fun _ => by omega)
    (by decide) (by decide) (by decide) (by decide) (by decide)

open RbV.Thm.GenSrcIdxFa in
-- the requested capacity, evaluated: min(MAX_FASTA_BUFFER_SIZE, min(3, 3)) = 3; an inverted interval is refused
example : (match Gen.SrcIdxFaIter.readIntoIter (seekOp exFile) ⟨[], 0, 0⟩ (toRec exIdx) 1 4 with
    | .ok (.ok it) => it.buf_cap | _ => 0) = 3 := by decide
open RbV.Thm.GenSrcIdxFa in
example : (match Gen.SrcIdxFaIter.readIter (seekOp exFile) ⟨[], 0, 0⟩ (some (toRec exIdx)) (some 3) (some 2) with
    | .ok (.error e) => e == intervalErr | _ => false) = true := by decide

end RbV.Thm.C12
