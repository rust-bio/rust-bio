import RbV.Gen.SrcAlphabet
import RbV.Spec.Alphabet
import RbV.Basic.Sorted
import RbV.Thm.GenSrcOk
/-!
# The translated text of `Alphabet::{new, insert, is_word, max_symbol, len}` and `RankTransform::{new, get, transform}`
equals the alphabet model (`Spec/Alphabet.lean`)

`RbV/Gen/SrcAlphabet.lean` is regenerated from `src/alphabets/mod.rs` on every `./check C20` (dialect "cf": closures of
`map` / `all` / `Option::map` as named helpers, `bit_set::BitSet` and `vec_map::VecMap<u8>` as the containers `Rs.BitSet`,
`Rs.VecMap` of `RsSem.lean`).  The model represents an alphabet by the ascending list of its members (`Alpha.mk syms` =
filter over 0…255); `Rs.BitSet` is an ascending duplicate-free list as well, so "the bit set built by the code" and "the
model's alphabet" are compared as lists (`sorted_eq_of_mem_iff`: two strictly ascending lists with the same members are equal).
`RanksOf A m`: the map `m` sends every member of `A` to its position in `A` and nothing else.
-/
set_option linter.unusedSimpArgs false
namespace RbV.Thm.GenSrcAlphabet
open RbV RbV.Rs RbV.Gen.SrcAlphabet RbV.Thm.GenSrc

theorem foldl_max_sorted : ∀ (t : List Nat) (a : Nat), (a :: t).Pairwise (· < ·) →
    t.foldl max a = (a :: t).getLast (by simp) := by
  intro t
  induction t with
  | nil => intro a _; rfl
  | cons b t ih =>
    intro a h
    rw [List.pairwise_cons] at h
    have hab : a < b := h.1 b List.mem_cons_self
    have : max a b = b := by omega
    simp only [List.foldl_cons, this]
    rw [ih b h.2]
    simp

theorem max?_sorted (l : List Nat) (h : l.Pairwise (· < ·)) : l.max? = l.getLast? := by
  cases l with
  | nil => rfl
  | cons a t =>
    rw [List.max?_cons', foldl_max_sorted t a h, List.getLast?_eq_some_getLast (by simp)]

/-! ## the bit set -/

/-- **`Alphabet::new` as written in the source** builds the model's alphabet (symbols are bytes) -/
theorem alphabetNew_eq_model (syms : List Nat) (hb : ∀ c ∈ syms, c < 256) :
    alphabetNew syms = Res.ok (Alpha.mk syms) := by
  have h1 : syms.mapM alphabetNew_map1 = Res.ok (syms.map id) := mapM_ok _ _ syms (fun _ _ => rfl)
  have h2 : (BitSet.extend BitSet.empty syms : List Nat) = Alpha.mk syms := by
    refine sorted_eq_of_mem_iff _ _ (BitSet.extend_sorted BitSet.empty syms List.Pairwise.nil) (Alpha.mk_sorted syms) ?_
    intro x
    rw [BitSet.mem_extend, Alpha.mem_mk]
    constructor
    · rintro (h | h)
      · exact ⟨h, hb x h⟩
      · simp [BitSet.empty] at h
    · intro h; exact Or.inl h.1
  simp only [alphabetNew, h1, Res.ok_bind, List.map_id, Res.pure_eq_ok]
  exact congrArg Res.ok h2

/-- **`Alphabet::insert`**: inserting a byte into the alphabet of `syms` gives the alphabet of `a :: syms` -/
theorem alphabetInsert_eq_model (syms : List Nat) (a : Nat) (ha : a < 256) :
    alphabetInsert (Alpha.mk syms) a = Res.ok (Alpha.mk (a :: syms)) := by
  have h2 : (BitSet.insert (Alpha.mk syms) a : List Nat) = Alpha.mk (a :: syms) := by
    refine sorted_eq_of_mem_iff _ _ (BitSet.insertL_sorted _ a (Alpha.mk_sorted syms)) (Alpha.mk_sorted _) ?_
    intro x
    unfold BitSet.insert
    rw [BitSet.mem_insertL, Alpha.mem_mk, Alpha.mem_mk]
    simp only [List.mem_cons]
    constructor
    · rintro (rfl | h)
      · exact ⟨Or.inl rfl, ha⟩
      · exact ⟨Or.inr h.1, h.2⟩
    · rintro ⟨rfl | h, h'⟩
      · exact Or.inl rfl
      · exact Or.inr ⟨h, h'⟩
  simp only [alphabetInsert, Res.pure_eq_ok]
  exact congrArg Res.ok h2

/-- **`Alphabet::is_word`** = the model's `isWord`, for every bit set and every text -/
theorem isWord_eq_model (A t : List Nat) : isWord A t = Res.ok (Alpha.isWord A t) := by
  have h := allM_ok (isWord_all1 A) (fun c => List.contains A c) t (fun _ _ => rfl)
  simp only [isWord, h, Res.ok_bind, Res.pure_eq_ok]
  rfl

/-- **`Alphabet::max_symbol`** = the last member of the ascending enumeration (members are bytes) -/
theorem maxSymbol_eq_model (A : List Nat) (hs : A.Pairwise (· < ·)) (hb : ∀ a ∈ A, a < 256) :
    maxSymbol A = Res.ok (Alpha.maxSymbol A) := by
  have hm : (BitSet.toList A).max? = A.getLast? := max?_sorted A hs
  unfold maxSymbol Alpha.maxSymbol
  rw [hm]
  cases hl : A.getLast? with
  | none => simp [Rs.optMapM]
  | some a =>
    have : a ∈ A := List.mem_of_getLast? hl
    have hc : Rs.cast 8 a = a := by unfold Rs.cast; have := hb a this; omega
    simp [Rs.optMapM, maxSymbol_map1, hc]

/-- **`Alphabet::len`** -/
theorem len_eq_model (A : List Nat) : len A = Res.ok A.length := rfl

/-! ## the rank map -/

/-- `m` maps every member of `A` to its position in `A`, and nothing else -/
def RanksOf (A : List Nat) (m : VecMap) : Prop :=
  ∀ a, VecMap.get m a = if a ∈ A then some (Alpha.rank A a) else none

theorem for1_spec : ∀ (l : List Nat) (k : Nat) (m : VecMap), l.Nodup → k + l.length ≤ 256 →
    ∃ m', rankNew_for1 (l.zipIdx k) m = Res.ok m' ∧
      ∀ a, VecMap.get m' a = if a ∈ l then some (k + l.idxOf a) else VecMap.get m a := by
  intro l
  induction l with
  | nil => intro k m _ _; exact ⟨m, by simp [rankNew_for1], fun a => by simp⟩
  | cons c t ih =>
    intro k m hn hk
    rw [List.nodup_cons] at hn
    simp only [List.length_cons] at hk
    have hc : Rs.cast 8 k = k := by unfold Rs.cast; omega
    obtain ⟨m', h1, h2⟩ := ih (k + 1) (VecMap.insert m c k) hn.2 (by omega)
    refine ⟨m', by simp [List.zipIdx_cons, rankNew_for1, hc, h1], ?_⟩
    intro a
    rw [h2 a, VecMap.get_insert]
    by_cases hat : a ∈ t
    · have hne : c ≠ a := fun e => hn.1 (e ▸ hat)
      have hb : (c == a) = false := by simpa using hne
      simp only [hat, List.mem_cons, or_true, if_true, List.idxOf_cons, hb, cond_false]
      congr 1; omega
    · by_cases hac : a = c
      · subst hac; simp [hat, List.idxOf_cons]
      · have hne : c ≠ a := fun e => hac e.symm
        simp [hat, hac, hne]

/-- **`RankTransform::new` as written in the source**: for an alphabet (ascending, at most 256 members) the loop
`for (r, c) in symbols.iter().enumerate() { ranks.insert(c, r as u8) }` builds the rank map of the model -/
theorem rankNew_eq_model (A : List Nat) (hs : A.Pairwise (· < ·)) (hl : A.length ≤ 256) :
    ∃ m, rankNew A = Res.ok m ∧ RanksOf A m := by
  have hn : A.Nodup := hs.imp (fun h => Nat.ne_of_lt h)
  obtain ⟨m', h1, h2⟩ := for1_spec A 0 VecMap.empty hn (by omega)
  refine ⟨m', ?_, ?_⟩
  · have : (BitSet.toList A).zipIdx = A.zipIdx 0 := rfl
    simp [rankNew, this, h1]
  · intro a
    rw [h2 a]
    by_cases ha : a ∈ A
    · simp [ha, Alpha.rank]
    · simp [ha, VecMap.get, VecMap.empty]

/-- **`RankTransform::get`**: the rank of a member; a symbol outside the alphabet panics (`expect`) -/
theorem rankGet_eq_model (A : List Nat) (m : VecMap) (hm : RanksOf A m) (a : Nat) :
    rankGet m a = if a ∈ A then Res.ok (Alpha.rank A a) else Res.panic := by
  unfold rankGet
  rw [hm a]
  by_cases ha : a ∈ A <;> simp [ha, Rs.expect]

/-- **`RankTransform::transform`** = the model's `transform` on words over the alphabet -/
theorem transform_eq_model (A : List Nat) (m : VecMap) (hm : RanksOf A m) (t : List Nat) (ht : ∀ c ∈ t, c ∈ A) :
    transform m t = Res.ok (Alpha.transform A t) := by
  have h := mapM_ok (transform_map1 m) (Alpha.rank A) t (by
    intro c hc
    simp [transform_map1, hm c, ht c hc, Rs.expect])
  simp [transform, h, Alpha.transform]

end RbV.Thm.GenSrcAlphabet
