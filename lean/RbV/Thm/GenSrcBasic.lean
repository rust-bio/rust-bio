import RbV.Basic.RsSem
import RbV.Basic.GetD
/-!
Shared lemmas for the equality proofs `RbV/Thm/GenSrc*.lean` (translated function bodies, docs/notes/GEN.md): the congruence
`bind_congr_arg`; `map_ok`; a fixed-size vector that the Rust code indexes by a byte is the tabulation `tab n f` of the function the
mirror model uses; a vector element that is written and read back; a pre-allocated vector filled from the left
(`setIdx_append_replicate`) while an iterator runs over `l.drop r` (`getElem?_of_drop_eq_cons`).
-/

namespace RbV.Thm.GenSrc
open RbV RbV.Rs

/-- Congruence for `simp` on a translated body `x >>= fun t => rest`: rewrite only the operation in front of the bind.
Without it `simp` first simplifies `rest` under the binder and again after each `ok_bind`, so the body is walked once
per bind.  Tagged `[local congr]` in the modules where that pays (it keeps `simp` out of a continuation whose head
operation stays stuck). -/
theorem bind_congr_arg {α β : Type} {x x' : Res α} (f : α → Res β) (h : x = x') : x >>= f = x' >>= f := h ▸ rfl

theorem map_ok {α β : Type} (f : α → β) (a : α) : f <$> Res.ok a = Res.ok (f a) := rfl

/-- the `n`-entry vector of a function -/
def tab (n : Nat) (f : Nat → Nat) : List Nat := (List.range n).map f

theorem tab_length (n : Nat) (f : Nat → Nat) : (tab n f).length = n := by simp [tab]

theorem tab_get (n : Nat) (f : Nat → Nat) (c : Nat) (h : c < n) : (tab n f)[c]? = some (f c) := by
  simp [tab, h]

theorem tab_const (n v : Nat) : List.replicate n v = tab n (fun _ => v) := by
  rw [tab, List.map_const', List.length_range]

theorem tab_set (n : Nat) (f : Nat → Nat) (c v : Nat) (h : c < n) :
    (tab n f).set c v = tab n (fun x => if x = c then v else f x) := by
  apply List.ext_getElem?
  intro i
  by_cases hi : i < n
  · rw [tab_get _ _ _ hi, List.getElem?_set]
    by_cases hic : c = i
    · subst hic
      simp [tab_length, h]
    · have hci : ¬ i = c := fun e => hic e.symm
      simp [hic, hci, tab_get _ _ _ hi]
  · rw [List.getElem?_eq_none (by simp [tab_length]; omega), List.getElem?_eq_none (by simp [tab_length]; omega)]

theorem idx_tab (n : Nat) (f : Nat → Nat) (c : Nat) (h : c < n) : Rs.idx (tab n f) c = Res.ok (f c) :=
  Rs.idx_of_getElem? (tab_get n f c h)

theorem setIdx_tab (n : Nat) (f : Nat → Nat) (c v : Nat) (h : c < n) :
    Rs.setIdx (tab n f) c v = Res.ok (tab n (fun x => if x = c then v else f x)) := by
  rw [Rs.setIdx_ok (by rw [tab_length]; exact h), tab_set n f c v h]

/-! ### a vector element that is written and read back -/

theorem idx_getD {α : Type} (l : List α) (i : Nat) (d : α) (h : i < l.length) : Rs.idx l i = Res.ok (l.getD i d) := by
  rw [List.getD_eq_getElem l i d h]; exact Rs.idx_ok h

theorem idx_set_self {α : Type} (l : List α) (i : Nat) (v : α) (h : i < l.length) :
    Rs.idx (l.set i v) i = Res.ok v :=
  Rs.idx_of_getElem? (by simp [h])

theorem setIdx_set {α : Type} (l : List α) (i : Nat) (v v' : α) (h : i < l.length) :
    Rs.setIdx (l.set i v) i v' = Res.ok (l.set i v') := by
  rw [Rs.setIdx_ok (by simpa using h), List.set_set]

/-- a pre-allocated vector `acc ++ 0…0` filled from the left: writing slot `acc.length` appends to `acc` -/
theorem setIdx_append_replicate {α : Type} (acc : List α) (n : Nat) (z v : α) :
    Rs.setIdx (acc ++ List.replicate (n + 1) z) acc.length v = Res.ok ((acc ++ [v]) ++ List.replicate n z) := by
  rw [Rs.setIdx_ok (by simp)]
  congr 1
  rw [List.replicate_succ, List.set_append_right _ _ (Nat.le_refl _)]
  simp

theorem getElem?_of_drop_eq_cons {α : Type} (l : List α) (r : Nat) (a : α) (rest : List α) (h : a :: rest = l.drop r) :
    l[r]? = some a ∧ rest = l.drop (r + 1) := by
  have h1 : (l.drop r)[0]? = some a := by rw [← h]; simp
  rw [List.getElem?_drop] at h1
  have h1' : l[r]? = some a := by simpa using h1
  refine ⟨h1', ?_⟩
  have hr : r < l.length := (List.getElem?_eq_some_iff.mp h1').1
  have : l.drop r = l[r] :: l.drop (r + 1) := List.drop_eq_getElem_cons hr
  rw [← h] at this
  exact (List.cons.inj this).2

end RbV.Thm.GenSrc
