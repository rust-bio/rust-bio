import RbV.Gen.SrcHorspoolNext
import RbV.Model.Horspool
import RbV.Thm.GenSrcHorspoolNew
import RbV.Thm.GenSrcIter
/-!
# The translated text of `Horspool::find_all`, `horspool::Matches::next` equals the mirror model `Horspool.findAll`

`RbV/Gen/SrcHorspoolNext.lean` is regenerated from `src/pattern_matching/horspool.rs` on every `./check C08`.  The source
has two nested loops (`loop { while … { last += shift[text[last]] } … }`), the mirror model `Horspool.go` is the same walk
written as one loop; `G last` below is the model's list from window end `last`.  The lemmas speak of the window start
`s` (`last = s + m'`, `p.length = m' + 1`) and know of the model only that `G (s + m')` is the ascending list of the
occurrences from `s` on (`G_asc`): the inner loop passes windows whose `Horspool.verdict` is `false` (`while_eq`), the outer
loop is a `GenSrcIter.window_next` with that initial skip (`loop_eq`).  The translated loops take fuel `n - last + 1`; it
suffices because every table entry is at least 1 (`Horspool.shift_bounds`).
-/
set_option linter.unusedSimpArgs false

namespace RbV.Thm.GenSrcHorspoolNext
open RbV RbV.Rs RbV.Gen.SrcHorspoolNext RbV.Thm.GenSrc

/-- the table the constructor stores (`horspool_new_source_eq_model`) -/
def stab (p : List Nat) : List Nat := tab 256 (Horspool.shiftTab p)

/-- the model's list from window end `last` -/
def G (p t : List Nat) (last : Nat) : List Nat := Horspool.go p t (Horspool.shiftTab p) t.length last

theorem G_none (p t : List Nat) (last : Nat) (h : t.length ≤ last) : G p t last = [] := by
  have hn : t[last]? = none := List.getElem?_eq_none h
  unfold G
  cases t.length <;> simp [Horspool.go, hn]

theorem G_asc {p t : List Nat} {m' : Nat} (hm : p.length = m' + 1) (s : Nat) :
    AscFrom (OccursAt p t) s (G p t (s + m')) :=
  Horspool.go_ascFrom hm t.length s (Nat.le_add_left _ _)

section
variable (p t : List Nat) {m' : Nat} (hm : p.length = m' + 1) (h64 : t.length + p.length < 2 ^ 64)
  (pl : Nat)
include hm h64

/-- the inner `while self.last < self.n && self.text[self.last] != self.pattern_last` loop: it stops at a window end
from which the model lists the same, every window passed having a verdict `false` (its last symbol is not the pattern's) -/
theorem while_eq (hb : ∀ c ∈ t, c < 256) (hpl : p[m']? = some pl) :
    ∀ fuel last, m' ≤ last → t.length - last < fuel →
      ∃ last', next_while2 t.length t pl (stab p) fuel last = Res.ok last' ∧ last ≤ last' ∧ G p t last = G p t last' ∧
        (t.length ≤ last' ∨ t[last']? = some pl) := by
  intro fuel
  induction fuel with
  | zero => intro last _ h; exact absurd h (Nat.not_lt_zero _)
  | succ fuel ih =>
    intro last hl hf
    rw [next_while2]
    by_cases hlt : last < t.length
    · have e1 : Rs.idx t last = Res.ok t[last] := Rs.idx_ok hlt
      have hc : t[last]? = some t[last] := List.getElem?_eq_getElem hlt
      by_cases hne : t[last] = pl
      · refine ⟨last, ?_, Nat.le_refl _, rfl, Or.inr (by rw [hc, hne])⟩
        simp only [hlt, decide_true, ↓reduceIte, e1, hne, Res.pure_eq_ok, Res.ok_bind, bne_iff_ne, ne_eq, ite_not]
      · have hc256 : t[last] < 256 := hb _ (List.getElem_mem hlt)
        have hsb := Horspool.shift_bounds p (hm ▸ Nat.succ_pos m') t[last]
        have e2 : Rs.idx (stab p) t[last] = Res.ok (Horspool.shiftTab p t[last]) := idx_tab 256 _ _ hc256
        have e3 : Rs.add 64 last (Horspool.shiftTab p t[last]) = Res.ok (last + Horspool.shiftTab p t[last]) :=
          Rs.add_ok (Nat.lt_of_lt_of_le (Nat.add_lt_add_of_lt_of_le hlt hsb.2) (Nat.le_of_lt h64))
        have hG : G p t last = G p t (last + Horspool.shiftTab p t[last]) := by
          obtain ⟨s, rfl⟩ := Nat.exists_eq_add_of_le' hl
          have h := (Horspool.verdict hm hc).eq_step (G_asc hm s) (G_asc hm _)
          rwa [decide_eq_false fun h' => hne (Option.some.inj (hpl.symm.trans h'.1)).symm, if_neg Bool.false_ne_true,
            Nat.add_right_comm] at h
        -- every table entry is at least 1: the rest of the text shrinks, so the fuel `n - last + 1` suffices
        obtain ⟨last', h2, h3, h4, h5⟩ := ih (last + Horspool.shiftTab p t[last]) (Nat.le_trans hl (Nat.le_add_right _ _))
          (Nat.lt_of_lt_of_le (Nat.sub_lt_sub_left hlt (Nat.lt_add_of_pos_right hsb.1)) (Nat.le_of_lt_succ hf))
        refine ⟨last', ?_, Nat.le_trans (Nat.le_add_right _ _) h3, hG.trans h4, h5⟩
        simp only [hlt, decide_true, ↓reduceIte, e1, e2, e3, hne, Res.pure_eq_ok, Res.ok_bind, bne_iff_ne, ne_eq, ite_not, h2]
    · refine ⟨last, ?_, Nat.le_refl _, rfl, Or.inl (Nat.le_of_not_lt hlt)⟩
      simp only [hlt, decide_false, Bool.false_eq_true, ↓reduceIte, Res.pure_eq_ok, Res.ok_bind]

/-- one round of the outer `loop` after the inner loop has stopped at the end of a window `[s₁, s₁ + m')` inside the text -/
theorem loop_round (hpl256 : pl < 256) (fuel last s₁ : Nat)
    (w1 : next_while2 t.length t pl (stab p) (t.length - last + 1) last = Res.ok (s₁ + m')) (hlt : s₁ + m' < t.length) :
    next_loop1 t.length t pl (stab p) p.length p (fuel + 1) last =
      if (t.drop s₁).take m' = p.take m'
      then Res.ok (s₁ + m' + Horspool.shiftTab p pl, some s₁)
      else next_loop1 t.length t pl (stab p) p.length p fuel (s₁ + m' + Horspool.shiftTab p pl) := by
  have hge : ¬ t.length ≤ s₁ + m' := Nat.not_le.mpr hlt
  have hl1 : s₁ + m' + 1 < 2 ^ 64 := Nat.lt_of_le_of_lt (Nat.le_trans hlt (Nat.le_add_right _ _)) h64
  have e1 : Rs.add 64 (s₁ + m') 1 = Res.ok (s₁ + m' + 1) := Rs.add_ok hl1
  have e1' : Rs.add 64 1 (s₁ + m') = Res.ok (s₁ + m' + 1) := Rs.add_ok_comm hl1
  have e2 : Rs.sub (s₁ + m' + 1) p.length = Res.ok s₁ := by
    rw [hm, Nat.add_assoc, Rs.sub_ok (Nat.le_add_left _ _), Nat.add_sub_cancel]
  have e3 : Rs.idx (stab p) pl = Res.ok (Horspool.shiftTab p pl) := idx_tab 256 _ _ hpl256
  have e4 : Rs.add 64 (s₁ + m') (Horspool.shiftTab p pl) = Res.ok (s₁ + m' + Horspool.shiftTab p pl) :=
    Rs.add_ok (Nat.lt_of_lt_of_le
      (Nat.add_lt_add_of_lt_of_le hlt (Horspool.shift_bounds p (hm ▸ Nat.succ_pos m') pl).2) (Nat.le_of_lt h64))
  have e5 : Rs.slice t s₁ (s₁ + m') = Res.ok ((t.drop s₁).take m') := by
    rw [Rs.slice_ok (Nat.le_add_right _ _) (Nat.le_of_lt hlt), Nat.add_sub_cancel_left]
  have e6 : Rs.sub p.length 1 = Res.ok m' := by rw [hm, Rs.sub_ok (Nat.le_add_left 1 m'), Nat.add_sub_cancel]
  have e7 : Rs.slice p 0 m' = Res.ok (p.take m') := by
    rw [Rs.slice_ok (Nat.zero_le _) (hm ▸ Nat.le_succ m')]; rfl
  rw [next_loop1]
  simp only [w1, ge_iff_le, decide_eq_true_eq, Res.pure_eq_ok, beq_iff_eq, Res.ok_bind, hge, ↓reduceIte,
    e1, e1', e2, e3, e4, e5, e6, e7]

/-- the outer `loop`, from the window that starts at `s` -/
theorem loop_eq (hb : ∀ c ∈ t, c < 256) (hbp : ∀ c ∈ p, c < 256) (hpl : p[m']? = some pl) :
    ∀ fuel s, t.length - (s + m') < fuel →
      ∃ w r, next_loop1 t.length t pl (stab p) p.length p fuel (s + m') = Res.ok (w, r) ∧
        ((r = none ∧ G p t (s + m') = []) ∨ (∃ i, r = some i ∧ s + m' < w ∧ m' ≤ w ∧ G p t (s + m') = i :: G p t w)) := by
  refine GenSrcIter.window_next (rep := some) (G_asc hm) (fun s h => show s + (m' + 1) ≤ _ from hm ▸ h.1) fun fuel s => ?_
  obtain ⟨l1, w1, w2, w3, w4⟩ := while_eq p t hm h64 pl hb hpl (t.length - (s + m') + 1) (s + m') (Nat.le_add_left _ _)
    (Nat.lt_succ_self _)
  obtain ⟨s₁, rfl⟩ := Nat.exists_eq_add_of_le' (Nat.le_trans (Nat.le_add_left m' s) w2)
  refine ⟨s₁, Nat.le_of_add_le_add_right w2, w3, ?_⟩
  rcases Nat.lt_or_ge (s₁ + m') t.length with hlt | hge
  · refine Or.inr ⟨hlt, _, _, Horspool.verdict hm (w4.resolve_left (Nat.not_le_of_lt hlt)), ?_⟩
    rw [loop_round p t hm h64 pl (hbp pl (List.mem_of_getElem? hpl)) fuel (s + m') s₁ w1 hlt, Nat.add_right_comm s₁]
    simp only [decide_eq_true_eq, hpl, true_and]
  · refine Or.inl ⟨hge, ?_⟩
    rw [next_loop1]
    simp only [w1, ge_iff_le, decide_eq_true_eq, Res.pure_eq_ok, Res.ok_bind, hge, ↓reduceIte]

end

/-- the translated `next` as a step function on the only mutable field `last`, for the matcher built from `p` on `t` -/
def nextS (p t : List Nat) (pl : Nat) (last : Nat) : Res (Nat × Option Nat) :=
  next (stab p) p.length p t t.length last pl

/-- **`horspool::Matches::next` as written**: one call from window end `last` -/
theorem next_eq_model (p t : List Nat) (hp : 0 < p.length) (hb : ∀ c ∈ t, c < 256) (hbp : ∀ c ∈ p, c < 256)
    (h64 : t.length + p.length < 2 ^ 64) (pl : Nat) (hpl : p[p.length - 1]? = some pl) (last : Nat)
    (hl : p.length - 1 ≤ last) :
    ∃ last' r, nextS p t pl last = Res.ok (last', r) ∧
      ((r = none ∧ G p t last = []) ∨
       (∃ i, r = some i ∧ last < last' ∧ p.length - 1 ≤ last' ∧ G p t last = i :: G p t last')) := by
  obtain ⟨m', hm⟩ : ∃ m', p.length = m' + 1 := ⟨p.length - 1, (Nat.sub_add_cancel hp).symm⟩
  rw [hm, Nat.add_sub_cancel] at hl hpl ⊢
  obtain ⟨s, rfl⟩ := Nat.exists_eq_add_of_le' hl
  obtain ⟨last', r, h1, h2⟩ := loop_eq p t hm h64 pl hb hbp hpl (t.length - (s + m') + 1) s (Nat.lt_succ_self _)
  exact ⟨last', r, by simp only [nextS, next, h1, Res.pure_eq_ok, Res.ok_bind], h2⟩

theorem drain_eq (p t : List Nat) (hp : 0 < p.length) (hb : ∀ c ∈ t, c < 256) (hbp : ∀ c ∈ p, c < 256)
    (h64 : t.length + p.length < 2 ^ 64) (pl : Nat) (hpl : p[p.length - 1]? = some pl) :
    ∀ fuel last, p.length - 1 ≤ last → t.length - last < fuel →
      Rs.drain (nextS p t pl) fuel last = Res.ok (G p t last) :=
  GenSrcIter.drain_eq_of_advance (G_none p t) (next_eq_model p t hp hb hbp h64 pl hpl)

/-- **`Horspool::find_all` as written**: the initial state `(text, n, last, pattern_last)` -/
theorem findAll_init (p t : List Nat) (hp : 0 < p.length) :
    findAll p.length p t = Res.ok (t, t.length, p.length - 1, p[p.length - 1]'(by omega)) := by
  have e1 : Rs.sub p.length 1 = Res.ok (p.length - 1) := Rs.sub_ok hp
  have e2 : Rs.idx p (p.length - 1) = Res.ok (p[p.length - 1]'(by omega)) := Rs.idx_ok (Nat.sub_lt hp Nat.one_pos)
  simp [findAll, e1, e2]

/-- the translated functions put together as a caller does: `Horspool::new(p).find_all(t).collect()` -/
def findAllSrc (p t : List Nat) : Res (List Nat) := do
  let (m, shift, pattern) ← RbV.Gen.SrcHorspoolNew.new p
  let (text, n, last, pattern_last) ← findAll m pattern t
  Rs.drain (fun last => next shift m pattern text n last pattern_last) (t.length + 1) last

/-- **Horspool end to end, on the translated source text** -/
theorem findAllSrc_eq_model (p t : List Nat) (hp : 0 < p.length) (hb : ∀ c ∈ t, c < 256) (hbp : ∀ c ∈ p, c < 256)
    (h64 : t.length + p.length < 2 ^ 64) : findAllSrc p t = Res.ok (Horspool.findAll p t) := by
  have hpl : p[p.length - 1]? = some (p[p.length - 1]'(by omega)) := List.getElem?_eq_getElem (Nat.sub_lt hp Nat.one_pos)
  have := drain_eq p t hp hb hbp h64 _ hpl (t.length + 1) (p.length - 1) (Nat.le_refl _)
    (Nat.lt_succ_of_le (Nat.sub_le _ _))
  simp only [findAllSrc, GenSrcHorspoolNew.new_eq_model p hp hbp, findAll_init p t hp, Res.ok_bind]
  exact this

end RbV.Thm.GenSrcHorspoolNext
