import RbV.Thm.GenSrcPwColumn
/-!
# A whole column of the main loop of the translated `Aligner::custom` (`custom_for3`): the reset loop and the `i = 0` block, up to
the inner loop (C01)

`resetL` / `reset_loop'` (and `GenSrcPwColumn.reset_loop`, declared here): the reset loop `custom_for4` as an explicit function of the
row.  Model side of the `i = 0` block in `obind` form: `edgeO` (= `edgeC`), `rowJ0T` (`rowJ0C` with the `Sn` tie-break a parameter:
`rowJ0T_pinned`), `xclipO` (= `xclipC`).  `row0P`, `startCol`: what the block reads of the previous column and the state it leaves.
`block_eq`: `custom_for3` = that block, then the inner loop `custom_for5` from `startCol`.
-/
set_option linter.unusedSimpArgs false
set_option linter.unusedVariables false
namespace RbV.Thm.GenSrcPwColStep
open RbV RbV.Rs RbV.Gen.TbCodes RbV.Gen.Limits RbV.Gen.SrcPwTypes RbV.Gen.SrcPwCustom RbV.Align RbV.Model.PairwiseFill
open RbV.Thm.GenSrcPwTypes RbV.Thm.GenSrcPwCustom RbV.Thm.GenSrcPwColumn

/-! ### the reset loop, explicit -/

/-- `l` with the entries `i .. i + k` overwritten by `MIN_SCORE` -/
def resetL (l : List Int) : Nat → Nat → List Int
  | _, 0 => l
  | i, k + 1 => resetL (l.set i minScore) (i + 1) k

theorem resetL_length (l : List Int) : ∀ k i, (resetL l i k).length = l.length := by
  intro k; induction k generalizing l with
  | zero => intro i; rfl
  | succ k ih => intro i; simp only [resetL]; rw [ih, List.length_set]

theorem resetL_getD (k : Nat) : ∀ (l : List Int) (i t : Nat), i + k ≤ l.length →
    (resetL l i k).getD t 0 = if i ≤ t ∧ t < i + k then minScore else l.getD t 0 := by
  induction k with
  | zero => intro l i t h; simp only [resetL]; rw [if_neg (by omega)]
  | succ k ih =>
    intro l i t h
    simp only [resetL]
    rw [ih _ _ _ (by rw [List.length_set]; omega)]
    by_cases h1 : i + 1 ≤ t ∧ t < i + 1 + k
    · rw [if_pos h1, if_pos (by omega)]
    · rw [if_neg h1]
      by_cases h2 : t = i
      · subst h2; rw [List.getD_set_self _ _ _ _ (by omega), if_pos (by omega)]
      · rw [List.getD_set_ne _ _ _ _ _ (Ne.symm h2), if_neg (by omega)]

theorem reset_loop' (w : Nat → Nat → Int) (iT dT snT sn0T : Int → Int → Bool) (c : Nat) (hc : c < 2) :
    ∀ (k i : Nat) (a : Aligner) (l : List Int), a.S.length = 2 → a.S.getD c [] = l → i + k ≤ l.length →
      List.foldlM (custom_for4 w iT dT snT sn0T c) a (List.range' i k) = .ok { a with S := a.S.set c (resetL l i k) } := by
  intro k
  induction k with
  | zero =>
    intro i a l hS2 hl hik
    simp only [List.range'_zero, List.foldlM_nil, Res.pure_eq_ok, resetL]
    rw [← hl]
    congr 1
    cases a
    simp only [Aligner.mk.injEq, true_and, and_true]
    exact (List.set_getD_self _ _ _).symm
  | succ k ih =>
    intro i a l hS2 hl hik
    have h1 := reset_step w iT dT snT sn0T a c i l hS2 hc hl (by omega)
    have h2 := ih (i + 1) { a with S := a.S.set c (l.set i minScore) } (l.set i minScore)
      (by simp [hS2]) (List.getD_set_self _ _ _ _ (by omega)) (by rw [List.length_set]; omega)
    simp only [List.range'_succ, List.foldlM_cons, h1, Res.ok_bind, h2, List.set_set, resetL]

/-- the translated reset loop over `i .. i + k` overwrites exactly the entries `S[curr][i .. i + k)` with `MIN_SCORE` -/
theorem _root_.RbV.Thm.GenSrcPwColumn.reset_loop (w : Nat → Nat → Int) (iT dT snT sn0T : Int → Int → Bool) (c : Nat)
    (hc : c < 2) :
    ∀ (k i : Nat) (a : Aligner) (l : List Int), a.S.length = 2 → a.S.getD c [] = l → i + k ≤ l.length →
      ∃ l', List.foldlM (custom_for4 w iT dT snT sn0T c) a (List.range' i k) = .ok { a with S := a.S.set c l' } ∧
        l'.length = l.length ∧ (∀ t, i ≤ t → t < i + k → l'.getD t 0 = minScore) ∧
        (∀ t, (t < i ∨ i + k ≤ t) → l'.getD t 0 = l.getD t 0) := fun k i a l hS2 hl hik =>
  ⟨resetL l i k, reset_loop' w iT dT snT sn0T c hc k i a l hS2 hl hik, resetL_length l k i,
    fun t h1 h2 => by rw [resetL_getD k l i t hik, if_pos ⟨h1, h2⟩],
    fun t h => by rw [resetL_getD k l i t hik, if_neg (by omega)]⟩

/-! ### the model side of the `i = 0` block, with the tie-break of the `Sn` tracker as a parameter -/

open RbV.I32 in
/-- `edgeC` in `obind` form -/
def edgeO (sc : Sc) (clipPen : Int) (gapCode clipCode : Tb) (k : Nat) : Option (Int × Tb) :=
  if k = 1 then obind (add sc.go sc.ge) fun v => some (v, Tb.start)
  else
    obind (mul sc.ge (ofUsize k)) fun t =>
    obind (add sc.go t) fun g =>
    obind (add clipPen sc.go) fun c0 =>
    obind (add c0 sc.ge) fun c => some (if g > c then (g, gapCode) else (c, clipCode))

theorem edgeO_eq (sc : Sc) (clipPen : Int) (gapCode clipCode : Tb) (k : Nat) :
    edgeO sc clipPen gapCode clipCode k = edgeC sc clipPen gapCode clipCode k := by
  simp only [edgeO, edgeC, match_eq_obind]

open RbV.I32 in
/-- `rowJ0C` (the block "Handle i = 0 case" + the reset) with the tie-break `snT` as a parameter -/
def rowJ0T (T : Ties) (sc : Sc) (cl : Clip) (m n j : Nat) (prev0 : Row) : Option Row :=
  obind (edgeO sc cl.yp .del .ypre j) fun e =>
  let d0 := e.1
  let td := e.2
  let s0 := upd d0 cl.yp
  let ts0 : Tb := if d0 > cl.yp then .del else .ypre
  if j = n ∧ prev0.sn > s0 then
    some ⟨prev0.sn, minScore, d0, prev0.sn, if m = 0 then prev0.sn else minScore, ⟨.ysuf, .start, td, prev0.t.ly, 0⟩⟩
  else
    obind (add s0 cl.ys) fun c =>
      some ⟨s0, minScore, d0, if T.snT c prev0.sn = true then c else prev0.sn, if m = 0 then s0 else minScore,
        ⟨ts0, .start, td, if T.snT c prev0.sn = true then n - j else prev0.t.ly, 0⟩⟩

theorem rowJ0T_pinned (sc : Sc) (cl : Clip) (x y : List Nat) (j : Nat) (prev0 : Row) :
    rowJ0T pinned sc cl x.length y.length j prev0 = rowJ0C sc cl x y j prev0 := by
  unfold rowJ0T rowJ0C
  rw [edgeO_eq]
  cases edgeC sc cl.yp .del .ypre j with
  | none => rfl
  | some e =>
    obtain ⟨d0, td⟩ := e
    simp only [obind_some, pinned, decide_eq_true_eq]
    by_cases hc : j = y.length ∧ prev0.sn > upd d0 cl.yp
    · rw [if_pos hc]; unfold upd at hc; rw [if_pos hc]
    · rw [if_neg hc]; unfold upd at hc; rw [if_neg hc]; unfold upd
      cases I32.add (if d0 > cl.yp then d0 else cl.yp) cl.ys <;> rfl

open RbV.I32 in
/-- `xclipC` in `obind` form -/
def xclipO (sc : Sc) (cl : Clip) (j : Nat) : Option Int :=
  obind (mul sc.ge (ofUsize j)) fun t => obind (add sc.go t) fun g => add cl.xp (max cl.yp g)

theorem xclipO_eq (sc : Sc) (cl : Clip) (j : Nat) : xclipO sc cl j = xclipC sc cl j := by
  simp only [xclipO, xclipC, match_eq_obind]

/-- row 0 of the previous column as the block reads it (`Sn[0]`, `Ly[0]`) -/
def row0P (a : Aligner) : Row := ⟨0, 0, 0, a.Sn.getD 0 0, 0, ⟨.start, .start, .start, a.Ly.getD 0 0, 0⟩⟩

/-- the state after the `i = 0` block and the reset loop of column `j`, row 0 = `r0` -/
def startCol (a : Aligner) (m c j : Nat) (r0 : Row) : Aligner :=
  { a with
    I := a.I.set c ((a.I.getD c []).set 0 minScore)
    D := a.D.set c ((a.D.getD c []).set 0 r0.d)
    S := a.S.set c (resetL ((a.S.getD c []).set 0 r0.s) 1 m)
    Sn := a.Sn.set 0 r0.sn
    Ly := a.Ly.set 0 r0.t.ly
    traceback := { a.traceback with
      matrix := a.traceback.matrix.set (0 * a.traceback.cols + j) (cellOf r0.t.ts .start r0.t.td) } }

theorem k_start : tbStart = enc .start := rfl
theorem k_ysuf : tbYclipSuffix = enc .ysuf := rfl
theorem cD_start_new (t : Tb) : setDBits ⟨0⟩ (enc t) = .ok (cD .start t) := by
  have : TbCell.setBits 0 iPos (enc .start) = 0 := by decide
  rw [setDBits_eq_model _ _ (enc_le_max t)]
  simp only [cD, this]
theorem ite_decide_and (p : Prop) [Decidable p] (q : Prop) [Decidable q] :
    ((if p then decide q else false) = true) = (p ∧ q) := by
  by_cases h : p <;> simp [h]

theorem block_eq (w : Nat → Nat → Int) (T : Ties) (a : Aligner) (x y : List Nat) (m n j : Nat)
    (hd : Dims a m n) (hx : x.length = m) (hy : y.length = n) (hj : 1 ≤ j) (hjn : j ≤ n) :
    custom_for3 w T.iT T.dT T.snT T.sn0T x y m n a j =
      ofOpt (rowJ0T T (scOf w a) (clOf a) m n j (row0P a)) >>= fun r0 =>
      ofOpt (xclipO (scOf w a) (clOf a) j) >>= fun xc =>
        List.foldlM (custom_for5 w T.iT T.dT T.snT T.sn0T x m n j (j % 2) (1 - j % 2) (y.getD (j - 1) 0) xc)
          (startCol a m (j % 2) j r0) (List.range' 1 m) := by
  have hc : j % 2 < 2 := Nat.mod_lt _ (by decide)
  have hc1 : j % 2 ≤ 1 := Nat.le_of_lt_succ hc
  have hj' : j < n + 1 := Nat.lt_succ_of_le hjn
  have hy1 : j - 1 < y.length := by omega
  have cS : j % 2 < a.S.length := by rw [hd.S2]; exact hc
  have cD : j % 2 < a.D.length := by rw [hd.D2]; exact hc
  have S2 := hd.S2
  have lSc := hd.Srow _ hc
  have oS : 0 < (a.S.getD (j % 2) []).length := by rw [lSc]; exact Nat.succ_pos m
  have oD : 0 < (a.D.getD (j % 2) []).length := by rw [hd.Drow _ hc]; exact Nat.succ_pos m
  have oSn : 0 < a.Sn.length := by rw [hd.Sn]; exact Nat.succ_pos m
  obtain ⟨eIc, _, f1, f2⟩ := row_rw hd.I2 hd.Irow hc (Nat.zero_le m)
  obtain ⟨eDc, _, f3, f4⟩ := row_rw hd.D2 hd.Drow hc (Nat.zero_le m)
  obtain ⟨eSc, _, f5, f6⟩ := row_rw hd.S2 hd.Srow hc (Nat.zero_le m)
  have g1 : Rs.sub 1 (j % 2) = .ok (1 - j % 2) := Rs.sub_ok hc1
  have g2 : Rs.sub j 1 = .ok (j - 1) := Rs.sub_ok hj
  have g3 : Rs.idx y (j - 1) = .ok (y.getD (j - 1) 0) := GenSrc.idx_getD _ _ _ hy1
  have g4 : Rs.add 64 m 1 = .ok (m + 1) := by
    have := hd.tb.2; rw [hd.rows, hd.cols] at this
    exact Rs.add_ok (Nat.lt_of_le_of_lt (Nat.le_mul_of_pos_right _ (Nat.succ_pos n)) this)
  have f7 := fun l : List Int => GenSrc.idx_set_self a.D (j % 2) l cD
  have f8 := fun v : Int => GenSrc.idx_set_self (a.D.getD (j % 2) []) 0 v oD
  have f9 := fun l : List Int => GenSrc.idx_set_self a.S (j % 2) l cS
  have f10 := fun v : Int => GenSrc.idx_set_self (a.S.getD (j % 2) []) 0 v oS
  have f11 := fun l l' : List Int => GenSrc.setIdx_set a.S (j % 2) l l' cS
  have f12 := fun v u : Int => GenSrc.setIdx_set (a.S.getD (j % 2) []) 0 v u oS
  have f13 := GenSrc.idx_getD a.Sn 0 0 oSn
  have f14 := fun v => setIdx_ok' a.Sn 0 v oSn
  have f15 := fun v => setIdx_ok' a.Ly 0 v (by rw [hd.Ly]; exact Nat.succ_pos m)
  have f16 : Rs.sub n j = .ok (n - j) := Rs.sub_ok hjn
  have eW := tbSet_cell hd (Nat.succ_pos m) hj'
  have hR : ∀ (v : Int) (vI vD : List (List Int)) (vLx vLy : List Nat) (vSn : List Int) (vtb : Traceback) (vsc : Scoring),
      List.foldlM (custom_for4 w T.iT T.dT T.snT T.sn0T (j % 2))
        (⟨vI, vD, a.S.set (j % 2) ((a.S.getD (j % 2) []).set 0 v), vLx, vLy, vSn, vtb, vsc⟩ : Aligner) (List.range' 1 m) =
      .ok (⟨vI, vD, a.S.set (j % 2) (resetL ((a.S.getD (j % 2) []).set 0 v) 1 m), vLx, vLy, vSn, vtb, vsc⟩ : Aligner) := fun v vI vD vLx vLy vSn vtb vsc => by
    rw [reset_loop' w T.iT T.dT T.snT T.sn0T (j % 2) hc m 1 _ ((a.S.getD (j % 2) []).set 0 v) (by simp [S2])
      (List.getD_set_self _ _ _ _ cS) (by rw [List.length_set, lSc, Nat.add_comm]; exact Nat.le_refl _)]
    simp only [List.set_set]
  unfold custom_for3
  rw [show rowJ0T T (scOf w a) (clOf a) m n j (row0P a) = obind (edgeO (scOf w a) (clOf a).yp .del .ypre j) _ from rfl,
    ofOpt_obind, bind_assoc]
  refine bind_ok_step g1 (bind_ok_step cellNew_eq_model (bind_ok_step eIc (bind_ok_step (f1 _) (bind_ok_step (f2 _) ?_))))
  -- the `D[curr][0]` edge (`edgeO`: value and code `e`), then the rest of the block from the state it leaves
  refine bind_phase (fun e : Int × Tb => ((⟨a.I.set (j % 2) ((a.I.getD (j % 2) []).set 0 minScorePairwise),
    a.D.set (j % 2) ((a.D.getD (j % 2) []).set 0 e.1), a.S, a.Lx, a.Ly, a.Sn, a.traceback, a.scoring⟩ : Aligner),
    GenSrcPwCustom.cD .start e.2)) ?_ (fun e => ?_)
  · by_cases hj1 : j = 1
    · simp only [edgeO, eq_true hj1, if_true, scOf, clOf, ofOpt_obind, ofOpt_some, bind_assoc, eDc, f3, f4, Res.pure_eq_ok,
        Res.ok_bind, iadd32, k_start, cD_start_new]
    · simp only [edgeO, eq_false hj1, if_false, scOf, clOf, ofOpt_obind, ofOpt_some, bind_assoc, eDc, f3, f4, Res.pure_eq_ok,
        Res.ok_bind, iadd32, imul32, castSigned32, k_del, k_ypre, cD_start_new, GenSrc.ite_ok, ite_fst, ite_snd]
      iterate 4 (refine bind_congr (fun _ => ?_))
      split <;> rfl
  · obtain ⟨d0, td⟩ := e
    simp only [xclipO, row0P, scOf, clOf, startCol, ofOpt_obind, apply_ite ofOpt, g2, g3, g4, eDc, eSc, f5, f6, f7, f8, f9,
      f10, f11, f12, f13, f14, f15, f16, eW,
      Res.pure_eq_ok, Res.ok_bind, bind_pure_comp, iadd32, imul32, castSigned32, k_del, k_ypre, k_ysuf,
      setS_cD, setS_cell, GenSrc.ite_ok, ite_fst, ite_snd, ite_cell, minScore_eq, bind_assoc,
      ofOpt_some, Nat.add_sub_cancel, hR, ite_decide_and, upd_fold,
      ite_aligner, ite_self, ite_set0, ite_setN, ite_set2]
    by_cases hcond : j = n ∧ a.Sn.getD 0 0 > upd d0 a.scoring.yclip_prefix
    · simp only [eq_true hcond, if_true, ofOpt_some, Res.ok_bind, eW, hR, bind_assoc]
      iterate 3 (refine bind_congr (fun _ => ?_))
      simp only [List.set_getD_self]
      try rfl
    · simp only [eq_false hcond, if_false, ofOpt_obind, bind_assoc]
      generalize I32.add _ a.scoring.yclip_suffix = o
      cases o with
      | none => simp only [ofOpt_none, Res.panic_bind]
      | some c =>
        simp only [ofOpt_some, Res.ok_bind, GenSrc.ite_ok, eW, hR, bind_assoc, ite_fst, ite_snd, upd_fold,
          ite_aligner, ite_self, ite_set0, ite_setN, ite_set2]
        iterate 3 (refine bind_congr (fun _ => ?_))
        rfl

end RbV.Thm.GenSrcPwColStep
