import RbV.Gen.SrcQGrams
import RbV.Model.QGramIter
import RbV.Thm.GenSrcBasic
/-!
# The translated text of the q-gram iterators of `alphabets/mod.rs` equals the mirror models of `Model/QGramIter.lean`

`RbV/Gen/SrcQGrams.lean` is regenerated from `src/alphabets/mod.rs` on every `./check C19` (dialect "cf"): `qgram_push`,
`QGrams::next` (`match self.text.next()`), the constructor `RankTransform::qgrams` (assertions, the mask
`1usize.checked_shl(q * bits).unwrap_or(0).wrapping_sub(1)`, the `q - 1` warm-up calls of `next`), and the reverse
counterparts `qgram_push_rev`, `RevQGrams::next` (`next_back`), `rev_qgrams`.

Abstract parameters of the generated definitions: `rankGet` (= `RankTransform::get`, translated and proved in
`GenSrcAlphabet`; may panic), `ranksLen` (= `self.ranks.len()`), `ceilLog2` (= `(n as f32).log2().ceil() as u32`, the `f32`
computation stays outside; the theorems assume `ceilLog2 ranksLen = bits`).  `R` is the rank function the model uses.
`collectNext nx fuel text qgram` calls a translated `next` until it returns `None` (what `Iterator::collect` does).
-/
-- the simp sets name every fact a harmless rewrite of the Rust text may need; on the present text some are unused
set_option linter.unusedSimpArgs false
namespace RbV.Thm.GenSrcQGrams
open RbV RbV.Rs RbV.Gen.SrcQGrams RbV.QGram

/-- call `next` (on the fields `text`, `qgram` it updates) until it returns `None` -/
def collectNext (nx : List Nat → Nat → Res (List Nat × Nat × Option Nat)) : Nat → List Nat → Nat → Res (List Nat)
  | 0, _, _ => Res.fuel
  | fuel + 1, text, qg => do
    let (text, qg, r) ← nx text qg
    match r with
    | none => pure []
    | some v => do
      let rest ← collectNext nx fuel text qg
      pure (v :: rest)

/-! ### an iterator that pushes every symbol into a register

`scanFwd` and `scanRev` are `scanG` of their push functions; the forward iterator takes symbols from the front of the remaining
text, the reverse one from the back: `view` is the identity resp. `List.reverse`. -/

def scanG (push : Nat → Nat → Nat) : Nat → List Nat → List Nat
  | _, [] => []
  | qg, a :: t => push qg a :: scanG push (push qg a) t

theorem scanFwd_eq (bits mask : Nat) : ∀ (rs : List Nat) (qg : Nat), scanFwd bits mask qg rs = scanG (pushFwd bits mask) qg rs := by
  intro rs
  induction rs with
  | nil => intro qg; rfl
  | cons a t ih => intro qg; simp only [scanFwd, scanG, ih]

theorem scanRev_eq (bits sh : Nat) : ∀ (rs : List Nat) (qg : Nat), scanRev bits sh qg rs = scanG (pushRev bits sh) qg rs := by
  intro rs
  induction rs with
  | nil => intro qg; rfl
  | cons a t ih => intro qg; simp only [scanRev, scanG, ih]

theorem scanG_drop (push : Nat → Nat → Nat) : ∀ (rs : List Nat) (qg k : Nat),
    (scanG push qg rs).drop k = scanG push ((rs.take k).foldl push qg) (rs.drop k) := by
  intro rs
  induction rs with
  | nil => intro qg k; simp [scanG]
  | cons a t ih =>
    intro qg k
    cases k with
    | zero => rfl
    | succ k => simp only [scanG, List.drop_succ_cons, List.take_succ_cons, List.foldl_cons, ih]

section iter
variable (nx : List Nat → Nat → Res (List Nat × Nat × Option Nat)) (view : List Nat → List Nat) (push : Nat → Nat → Nat)
  (R : Nat → Nat) (good : Nat → Prop)
  (hnil : ∀ qg, nx (view []) qg = Res.ok (view [], qg, none))
  (hcons : ∀ c t qg, good c → nx (view (c :: t)) qg = Res.ok (view t, push qg (R c), some (push qg (R c))))
include hnil hcons

/-- calling `next` until `None` yields the scan of the ranks -/
theorem collectG : ∀ (l : List Nat) (qg fuel : Nat), (∀ c ∈ l, good c) → l.length < fuel →
    collectNext nx fuel (view l) qg = Res.ok (scanG push qg (l.map R)) := by
  intro l
  induction l with
  | nil =>
    intro qg fuel _ hf
    obtain ⟨f, rfl⟩ : ∃ f, fuel = f + 1 := ⟨fuel - 1, by omega⟩
    simp only [collectNext, hnil, Res.ok_bind, Res.pure_eq_ok, List.map_nil, scanG]
  | cons c t ih =>
    intro qg fuel hg hf
    obtain ⟨f, rfl⟩ : ∃ f, fuel = f + 1 := ⟨fuel - 1, by omega⟩
    simp only [collectNext, hcons c t qg (hg c List.mem_cons_self), Res.ok_bind,
      ih (push qg (R c)) f (fun x hx => hg x (List.mem_cons_of_mem _ hx)) (by simp only [List.length_cons] at hf; omega),
      Res.pure_eq_ok, List.map_cons, scanG]

/-- the warm-up loop of a constructor: `k` calls of `next`, results dropped -/
theorem warmupG (for1 : List Nat × Nat × Nat × Nat × Nat → Nat → Res (List Nat × Nat × Nat × Nat × Nat)) (q b m : Nat)
    (hfor1 : ∀ text qg i, for1 (text, q, b, m, qg) i = (do let (t, g, _) ← nx text qg; pure (t, q, b, m, g))) :
    ∀ (k s : Nat) (l : List Nat) (qg : Nat), (∀ c ∈ l, good c) →
      (List.range' s k).foldlM for1 (view l, q, b, m, qg)
        = Res.ok (view (l.drop k), q, b, m, ((l.take k).map R).foldl push qg) := by
  intro k
  induction k with
  | zero => intro s l qg _; rfl
  | succ k ih =>
    intro s l qg hg
    rw [List.range'_succ, List.foldlM_cons, hfor1]
    cases l with
    | nil =>
      simp only [hnil, Res.ok_bind, Res.pure_eq_ok]
      simpa only [List.drop_nil, List.take_nil] using ih (s + 1) [] qg hg
    | cons c t =>
      simp only [hcons c t qg (hg c List.mem_cons_self), Res.ok_bind, Res.pure_eq_ok]
      exact ih (s + 1) t (push qg (R c)) (fun x hx => hg x (List.mem_cons_of_mem _ hx))

end iter

section fwd
variable (R : Nat → Nat) (rg : Nat → Res Nat) (cl : Nat → Nat) (rl : Nat)

/-- **`qgram_push` as written in the source** = `pushFwd` (a shift amount `≥ 64` would panic) -/
theorem qgramPush_eq_model (qg bits mask a : Nat) (hb : bits < 64) :
    qgramPush rg cl rl qg bits mask a = Res.ok (pushFwd bits mask qg a) := by
  simp [qgramPush, Rs.shl_ok hb, pushFwd]

/-- **`QGrams::next` as written in the source**: takes the next symbol, pushes its rank, yields the register -/
theorem next_cons (c : Nat) (t : List Nat) (bits mask qg : Nat) (hb : bits < 64) (hc : rg c = Res.ok (R c)) :
    next rg cl rl (c :: t) bits mask qg
      = Res.ok (t, pushFwd bits mask qg (R c), some (pushFwd bits mask qg (R c))) := by
  simp [next, hc, qgramPush_eq_model rg cl rl _ _ _ _ hb]

theorem next_nil (bits mask qg : Nat) : next rg cl rl [] bits mask qg = Res.ok ([], qg, none) := by
  simp [next]

/-- the mask expression of the constructor: `1usize.checked_shl(q * bits).unwrap_or(0).wrapping_sub(1)` -/
theorem mask_eq_model (q bits : Nat) :
    Rs.wrappingSub 64 ((Rs.checkedShl 64 1 (q * bits)).getD 0) 1 = maskOf q bits := by
  unfold maskOf Rs.checkedShl Rs.wrappingSub
  by_cases h : q * bits < 64
  · have h1 : 1 ≤ 2 ^ (q * bits) := Nat.one_le_two_pow
    have h2 : 2 ^ (q * bits) < 2 ^ 64 := Nat.pow_lt_pow_right (by omega) h
    simp only [h, if_true, Option.getD_some, Nat.shiftLeft_eq, Nat.one_mul, Nat.mod_eq_of_lt h2]
    generalize 2 ^ (q * bits) = x at h1 h2 ⊢
    omega
  · simp [h]

/-- **`RankTransform::qgrams` as written in the source**: with `0 < q`, `q · bits ≤ 64` the assertions pass, the mask is
the model's, and the `q − 1` warm-up calls leave the iterator on the rest of the text with the register the model has
after the first `q − 1` ranks -/
theorem qgrams_eq_model (q bits : Nat) (text : List Nat) (hq : 0 < q) (hqb : q * bits ≤ 64) (hb : bits < 64)
    (hcl : cl rl = bits) (hrg : ∀ c ∈ text, rg c = Res.ok (R c)) :
    qgrams rg cl rl q text
      = Res.ok (text.drop (q - 1), q, bits, maskOf q bits,
          ((text.take (q - 1)).map R).foldl (pushFwd bits (maskOf q bits)) 0) := by
  have hbq : bits * q = q * bits := Nat.mul_comm _ _
  have e1 : Rs.mul 32 bits q = Res.ok (q * bits) := by rw [← hbq]; exact Rs.mul_ok (by rw [hbq]; omega)
  have e2 : Rs.mul 32 q bits = Res.ok (q * bits) := Rs.mul_ok (by omega)
  have e3 : Rs.sub q 1 = Res.ok (q - 1) := Rs.sub_ok hq
  have a1 : Rs.assert (decide (q > 0)) = Res.ok () := Rs.assert_ok (by simpa using hq)
  have a2 : Rs.assert (decide (q * bits ≤ 64)) = Res.ok () := Rs.assert_ok (by simpa using hqb)
  have hw := fun s => warmupG (fun t g => next rg cl rl t bits (maskOf q bits) g) id (pushFwd bits (maskOf q bits)) R
    (fun c => rg c = Res.ok (R c)) (next_nil rg cl rl _ _) (fun c t qg hc => next_cons R rg cl rl c t _ _ qg hb hc)
    (qgrams_for1 rg cl rl) q bits (maskOf q bits) (fun _ _ _ => rfl) (q - 1) s text 0 hrg
  simp only [id_eq] at hw
  simp [qgrams, hcl, e1, e2, e3, a1, a2, mask_eq_model q bits, hw]

/-- **constructor + iteration = the model of the forward q-gram iterator** -/
theorem qgrams_collect_eq_model (q bits : Nat) (text : List Nat) (hq : 0 < q) (hqb : q * bits ≤ 64) (hb : bits < 64)
    (hcl : cl rl = bits) (hrg : ∀ c ∈ text, rg c = Res.ok (R c)) (fuel : Nat) (hf : text.length < fuel) :
    (do let st ← qgrams rg cl rl q text
        collectNext (fun t g => next rg cl rl t st.2.2.1 st.2.2.2.1 g) fuel st.1 st.2.2.2.2)
      = Res.ok ((scanFwd bits (maskOf q bits) 0 (text.map R)).drop (q - 1)) := by
  rw [qgrams_eq_model R rg cl rl q bits text hq hqb hb hcl hrg]
  simp only [Res.ok_bind]
  have hc := collectG (fun t g => next rg cl rl t bits (maskOf q bits) g) id (pushFwd bits (maskOf q bits)) R
    (fun c => rg c = Res.ok (R c)) (next_nil rg cl rl _ _) (fun c t qg hc => next_cons R rg cl rl c t _ _ qg hb hc)
    (text.drop (q - 1)) (((text.take (q - 1)).map R).foldl (pushFwd bits (maskOf q bits)) 0) fuel
    (fun c hc => hrg c (List.mem_of_mem_drop hc)) (by simp; omega)
  rw [id_eq] at hc
  rw [hc, scanFwd_eq, scanG_drop, List.map_take, List.map_drop]

end fwd

section rev
variable (R : Nat → Nat) (rg : Nat → Res Nat) (cl : Nat → Nat) (rl : Nat)

/-- **`qgram_push_rev` as written in the source** = `pushRev` (no bit of `a << left_shift` is lost) -/
theorem qgramPushRev_eq_model (qg bits ls a : Nat) (hb : bits < 64) (hls : ls < 64) (ha : a * 2 ^ ls < 2 ^ 64) :
    qgramPushRev rg cl rl qg bits ls a = Res.ok (pushRev bits ls qg a) := by
  have e : (a <<< ls) % 2 ^ 64 = a <<< ls := by rw [Nat.shiftLeft_eq]; exact Nat.mod_eq_of_lt ha
  simp [qgramPushRev, Rs.shr_ok hb, Rs.shl_ok hls, pushRev, e]

theorem nextRev_snoc (c : Nat) (t : List Nat) (bits ls qg : Nat) (hb : bits < 64) (hls : ls < 64)
    (hc : rg c = Res.ok (R c)) (ha : R c * 2 ^ ls < 2 ^ 64) :
    nextRev rg cl rl (t ++ [c]) bits ls qg
      = Res.ok (t, pushRev bits ls qg (R c), some (pushRev bits ls qg (R c))) := by
  simp [nextRev, hc, qgramPushRev_eq_model rg cl rl _ _ _ _ hb hls ha]

theorem nextRev_nil (bits ls qg : Nat) : nextRev rg cl rl [] bits ls qg = Res.ok ([], qg, none) := by
  simp [nextRev]

theorem shift_lt (q bits : Nat) (hqb : q * bits ≤ 64) : (q - 1) * bits < 64 := by
  have : (q - 1) * bits = q * bits - bits := by rw [Nat.sub_mul, Nat.one_mul]
  by_cases h0 : bits = 0
  · subst h0; simp
  · omega

theorem rank_shift_lt (q bits r : Nat) (hq : 0 < q) (hqb : q * bits ≤ 64) (hr : r < 2 ^ bits) :
    r * 2 ^ ((q - 1) * bits) < 2 ^ 64 := by
  have h1 : r * 2 ^ ((q - 1) * bits) < 2 ^ bits * 2 ^ ((q - 1) * bits) :=
    Nat.mul_lt_mul_of_pos_right hr (Nat.two_pow_pos _)
  have h2 : 2 ^ bits * 2 ^ ((q - 1) * bits) = 2 ^ (q * bits) := by
    rw [← Nat.pow_add]; congr 1
    have : (q - 1) * bits = q * bits - bits := by rw [Nat.sub_mul, Nat.one_mul]
    have : bits ≤ q * bits := Nat.le_mul_of_pos_left bits hq
    omega
  have h3 : 2 ^ (q * bits) ≤ 2 ^ 64 := Nat.pow_le_pow_right (by omega) hqb
  omega

/-- **`RankTransform::rev_qgrams` as written in the source + iteration = the model of the reverse iterator** -/
theorem revQgrams_collect_eq_model (q bits : Nat) (text : List Nat) (hq : 0 < q) (hqb : q * bits ≤ 64) (hb : bits < 64)
    (hcl : cl rl = bits) (hrg : ∀ c ∈ text, rg c = Res.ok (R c)) (hR : ∀ c ∈ text, R c < 2 ^ bits)
    (fuel : Nat) (hf : text.length < fuel) :
    (do let st ← revQgrams rg cl rl q text
        collectNext (fun t g => nextRev rg cl rl t st.2.2.1 st.2.2.2.1 g) fuel st.1 st.2.2.2.2)
      = Res.ok ((scanRev bits ((q - 1) * bits) 0 (text.map R).reverse).drop (q - 1)) := by
  have hls := shift_lt q bits hqb
  have hall : ∀ c ∈ text.reverse, rg c = Res.ok (R c) ∧ R c * 2 ^ ((q - 1) * bits) < 2 ^ 64 := by
    intro c hc
    have hc' : c ∈ text := List.mem_reverse.mp hc
    exact ⟨hrg c hc', rank_shift_lt q bits _ hq hqb (hR c hc')⟩
  have hbq : bits * q = q * bits := Nat.mul_comm _ _
  have e1 : Rs.mul 32 bits q = Res.ok (q * bits) := by rw [← hbq]; exact Rs.mul_ok (by rw [hbq]; omega)
  have e2 : Rs.mul 32 (q - 1) bits = Res.ok ((q - 1) * bits) := Rs.mul_ok (by omega)
  have e3 : Rs.sub q 1 = Res.ok (q - 1) := Rs.sub_ok hq
  have a1 : Rs.assert (decide (q > 0)) = Res.ok () := Rs.assert_ok (by simpa using hq)
  have a2 : Rs.assert (decide (q * bits ≤ 64)) = Res.ok () := Rs.assert_ok (by simpa using hqb)
  have hnx : ∀ (c : Nat) (t : List Nat) (qg : Nat), rg c = Res.ok (R c) ∧ R c * 2 ^ ((q - 1) * bits) < 2 ^ 64 →
      nextRev rg cl rl (c :: t).reverse bits ((q - 1) * bits) qg
        = Res.ok (t.reverse, pushRev bits ((q - 1) * bits) qg (R c), some (pushRev bits ((q - 1) * bits) qg (R c))) :=
    fun c t qg hc => by rw [List.reverse_cons]; exact nextRev_snoc R rg cl rl c t.reverse bits _ qg hb hls hc.1 hc.2
  have hw := fun s => warmupG (fun t g => nextRev rg cl rl t bits ((q - 1) * bits) g) List.reverse (pushRev bits ((q - 1) * bits)) R
    _ (nextRev_nil rg cl rl _ _) hnx (revQgrams_for1 rg cl rl) q bits ((q - 1) * bits) (fun _ _ _ => rfl) (q - 1) s text.reverse 0 hall
  simp only [List.reverse_reverse] at hw
  have hc := collectG (fun t g => nextRev rg cl rl t bits ((q - 1) * bits) g) List.reverse (pushRev bits ((q - 1) * bits)) R
    _ (nextRev_nil rg cl rl _ _) hnx (text.reverse.drop (q - 1))
    (((text.reverse.take (q - 1)).map R).foldl (pushRev bits ((q - 1) * bits)) 0) fuel
    (fun c hc => hall c (List.mem_of_mem_drop hc)) (by simp; omega)
  simp only [revQgrams, hcl, e1, e2, e3, a1, a2, hw, Res.ok_bind, Nat.sub_zero, hc, Res.pure_eq_ok, bind_pure_comp]
  rw [scanRev_eq, scanG_drop, ← List.map_reverse, List.map_take, List.map_drop]

end rev

-- the documented examples through the translated constructors and `next`s: alphabet ACGTacgt (ranks 0..7, 3 bits)
example : (do let st ← qgrams (fun a => Res.ok ([65, 67, 71, 84, 97, 99, 103, 116].idxOf a)) (fun _ => 3) 8 2 [65, 67, 71, 84]
              collectNext (fun t g => next (fun a => Res.ok ([65, 67, 71, 84, 97, 99, 103, 116].idxOf a)) (fun _ => 3) 8
                t st.2.2.1 st.2.2.2.1 g) 5 st.1 st.2.2.2.2) = Res.ok [1, 10, 19] := by decide
example : (do let st ← revQgrams (fun a => Res.ok ([65, 67, 71, 84, 97, 99, 103, 116].idxOf a)) (fun _ => 3) 8 2 [65, 67, 71, 84]
              collectNext (fun t g => nextRev (fun a => Res.ok ([65, 67, 71, 84, 97, 99, 103, 116].idxOf a)) (fun _ => 3) 8
                t st.2.2.1 st.2.2.2.1 g) 5 st.1 st.2.2.2.2) = Res.ok [19, 10, 1] := by decide
-- `q = 0` and `bits · q > 64` are refused by the assertions
example : qgrams (fun a => Res.ok a) (fun _ => 3) 8 0 [1, 2] = Res.panic := by decide
example : qgrams (fun a => Res.ok a) (fun _ => 3) 8 22 [1, 2] = Res.panic := by decide

end RbV.Thm.GenSrcQGrams
