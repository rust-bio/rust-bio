import RbV.Basic.RsSem
import RbV.Basic.ScanO
/-!
Shared by the equality proofs of the approximate matchers (`ukkonen::Matches::next`, `myers::Matches::next`): a
translated

    for (i, c) in self.text.by_ref() { <one column step>; if <hit> { return Some((i, d)) } }  None

driven by `Rs.drain` until `None`, lists what the generic column scanner `runO stepO` lists.  The matcher-specific part
of a proof is one unfolding of the generated loop helper under the invariant of the model (`hnil`, `hcons`), the shape of
`next` (`hnext`) and the preservation of the invariant (`hstep`).  `R i s` is the source-level state that represents the
model state `s` before text position `i` (Ukkonen: which of the two buffers is the current column depends on the parity
of `i`).
-/
namespace RbV.Thm.GenSrcScanD
open RbV RbV.Rs

/-- case distinction on what a model step reports (a plain function, so that statements about it in different files
are syntactically the same term) -/
def branch {δ β : Type} (o : Option δ) (hit : δ → β) (miss : β) : β :=
  match o with
  | some d => hit d
  | none => miss

@[simp] theorem branch_some {δ β : Type} (d : δ) (hit : δ → β) (miss : β) : branch (some d) hit miss = hit d := rfl
@[simp] theorem branch_none {δ β : Type} (hit : δ → β) (miss : β) : branch (none : Option δ) hit miss = miss := rfl

/-- `if d <= dist { d } else { dist }` is `if d < dist { d } else { dist }` -/
theorem ite_le_eq_ite_lt (d dist : Nat) : (if d ≤ dist then d else dist) = (if d < dist then d else dist) := by
  split <;> split <;> omega

section
variable {σ ρ δ : Type} (stepO : σ → Nat → σ × Option δ) (Inv : σ → Prop) (Sym : Nat → Prop) (R : Nat → σ → ρ)
variable (iter : List Nat → Nat → ρ → Res (ρ × (List Nat × Nat) × Option (Option (Nat × δ))))
variable (next : ρ → (List Nat × Nat) → Res (ρ × (List Nat × Nat) × Option (Nat × δ)))
variable (hnil : ∀ i r, iter [] i r = Res.ok (r, ([], i), none))
variable (hcons : ∀ i s c rest, Inv s → Sym c → i + 1 + rest.length < 2 ^ 64 →
  iter (c :: rest) i (R i s) =
    branch (stepO s c).2 (fun d => Res.ok (R (i + 1) (stepO s c).1, (rest, i + 1), some (some (i, d))))
      (iter rest (i + 1) (R (i + 1) (stepO s c).1)))
variable (hnext : ∀ r tx r' tx' o, iter tx.1 tx.2 r = Res.ok (r', tx', o) → next r tx = Res.ok (r', tx', o.join))
variable (hstep : ∀ s c, Inv s → Sym c → Inv (stepO s c).1)

/-- the translated `next` as a step function on the pair (matcher state, text iterator) -/
def nextS (st : ρ × (List Nat × Nat)) : Res ((ρ × (List Nat × Nat)) × Option (Nat × δ)) := do
  let (r', tx', o) ← next st.1 st.2
  pure ((r', tx'), o)

theorem nextS_eq (r : ρ) (tx : List Nat × Nat) (r' : ρ) (tx' : List Nat × Nat) (o : Option (Nat × δ))
    (h : next r tx = Res.ok (r', tx', o)) : nextS next (r, tx) = Res.ok ((r', tx'), o) := by
  simp [nextS, h]

include hnil hcons hstep

/-- outcome of one run of the loop -/
def StepSpec (rest : List Nat) (i : Nat) (s : σ) (r' : ρ) (tx' : List Nat × Nat) (o : Option (Option (Nat × δ))) : Prop :=
  (o = none ∧ tx'.1 = [] ∧ runO stepO s i rest = []) ∨
  (∃ v s', o = some (some v) ∧ Inv s' ∧ r' = R tx'.2 s' ∧ tx'.2 + tx'.1.length = i + rest.length ∧
      tx'.1.length < rest.length ∧ tx'.1 <:+ rest ∧ runO stepO s i rest = v :: runO stepO s' tx'.2 tx'.1)

theorem iter_spec : ∀ (rest : List Nat) (i : Nat) (s : σ), Inv s → (∀ c ∈ rest, Sym c) → i + rest.length < 2 ^ 64 →
    ∃ r' tx' o, iter rest i (R i s) = Res.ok (r', tx', o) ∧ StepSpec stepO Inv R rest i s r' tx' o := by
  intro rest
  induction rest with
  | nil =>
    intro i s _ _ _
    exact ⟨R i s, ([], i), none, hnil _ _, Or.inl ⟨rfl, rfl, by simp [runO]⟩⟩
  | cons c rest ih =>
    intro i s hinv hb h64
    have hc : Sym c := hb c (by simp)
    have hinv' := hstep s c hinv hc
    have hco := hcons i s c rest hinv hc (by simp at h64; omega)
    cases hacc : (stepO s c).2 with
    | some d =>
      rw [hacc, branch_some] at hco
      refine ⟨_, (rest, i + 1), some (some (i, d)), hco,
        Or.inr ⟨_, (stepO s c).1, rfl, hinv', rfl, by simp; omega, by simp, List.suffix_cons c rest, ?_⟩⟩
      simp [runO, hacc]
    | none =>
      rw [hacc, branch_none] at hco
      obtain ⟨r', tx', o, hrun, hspec⟩ := ih (i + 1) _ hinv' (fun x hx => hb x (by simp [hx])) (by simp at h64 ⊢; omega)
      refine ⟨r', tx', o, by rw [hco]; exact hrun, ?_⟩
      rcases hspec with ⟨h1, h2, h3⟩ | ⟨v, s', h1, h2, h3, h4, h5, hs, h6⟩
      · left
        exact ⟨h1, h2, by simp [runO, hacc, h3]⟩
      · right
        refine ⟨v, s', h1, h2, h3, by simp at h4 ⊢; omega, by simp; omega, hs.trans (List.suffix_cons c rest), ?_⟩
        simp [runO, hacc, h6]

include hnext

theorem next_spec (rest : List Nat) (i : Nat) (s : σ) (hinv : Inv s) (hb : ∀ c ∈ rest, Sym c) (h64 : i + rest.length < 2 ^ 64) :
    ∃ r' tx' o, next (R i s) (rest, i) = Res.ok (r', tx', o) ∧ StepSpec stepO Inv R rest i s r' tx' (o.map some) := by
  obtain ⟨r', tx', o, hrun, hspec⟩ := iter_spec stepO Inv Sym R iter hnil hcons hstep rest i s hinv hb h64
  refine ⟨r', tx', o.join, hnext _ (rest, i) r' tx' o hrun, ?_⟩
  rcases hspec with ⟨h1, h2, h3⟩ | ⟨v, s', h1, h2⟩
  · subst h1; exact Or.inl ⟨rfl, h2, h3⟩
  · subst h1; exact Or.inr ⟨v, s', rfl, h2⟩

/-- calling the translated `next` until `None` lists what the scanner lists -/
theorem drain_eq_run : ∀ (fuel : Nat) (rest : List Nat) (i : Nat) (s : σ), Inv s → (∀ c ∈ rest, Sym c) →
    i + rest.length < 2 ^ 64 → rest.length < fuel →
    Rs.drain (nextS next) fuel (R i s, (rest, i)) = Res.ok (runO stepO s i rest) := by
  intro fuel
  induction fuel with
  | zero => intro rest i s _ _ _ h; omega
  | succ fuel ih =>
    intro rest i s hinv hb h64 hf
    obtain ⟨r', tx', o, hrun, hspec⟩ := iter_spec stepO Inv Sym R iter hnil hcons hstep rest i s hinv hb h64
    have hn := nextS_eq next _ _ _ _ _ (hnext (R i s) (rest, i) r' tx' o hrun)
    rcases hspec with ⟨h1, _, h3⟩ | ⟨v, s', h1, h2, h3, h4, h5, hs, h6⟩
    · subst h1
      rw [h3]
      exact Rs.drain_none _ _ _ _ hn
    · subst h1
      obtain ⟨rest', i'⟩ := tx'
      simp only at h3 h4 h5 h6 hs
      subst h3
      rw [h6]
      exact Rs.drain_some _ _ _ _ _ _ hn
        (ih rest' i' s' h2 (fun c hc => hb c (hs.subset hc)) (by omega) (by omega))

end
end RbV.Thm.GenSrcScanD
