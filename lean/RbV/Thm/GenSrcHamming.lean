import RbV.Gen.SrcHamming
import RbV.Ref.EditDist
/-!
# The translated text of `alignment::distance::hamming` equals the reference `EditDist.hamming`

`RbV/Gen/SrcHamming.lean` is regenerated from `src/alignment/distance.rs` on every `./check C09`.  The source counts the
differing positions of `alpha.iter().zip(beta)` from the left in a `u64` after `assert_eq!(alpha.len(), beta.len())`; the
reference is the recursion that is `none` for strings of different length.  (`levenshtein` of the same file only calls
the external crate `editdistancek`: there is no body to translate.)
-/
set_option linter.unusedSimpArgs false

namespace RbV.Thm.GenSrcHamming
open RbV RbV.Rs RbV.Gen.SrcHamming

/-- the translated `for (a, b) in alpha.iter().zip(beta)` loop adds the reference's count to the running `dist` -/
theorem for_eq : ∀ (a b : List Nat) (dist : Nat), a.length = b.length → dist + a.length < 2 ^ 64 →
    ∃ d, EditDist.hamming a b = some d ∧
      (List.zip a b).foldlM hamming_for1 dist = Res.ok (dist + d) := by
  intro a
  induction a with
  | nil =>
    intro b dist hl _
    cases b with
    | nil => exact ⟨0, by simp [EditDist.hamming], by simp⟩
    | cons y b => simp at hl
  | cons x a ih =>
    intro b dist hl h64
    cases b with
    | nil => simp at hl
    | cons y b =>
      simp only [List.length_cons] at hl h64
      by_cases hxy : x = y
      · obtain ⟨d, h1, h3⟩ := ih b dist (by omega) (by omega)
        refine ⟨d, by simp [EditDist.hamming, h1, hxy], ?_⟩
        simp [hamming_for1, hxy, h3]
      · obtain ⟨d, h1, h3⟩ := ih b (dist + 1) (by omega) (by omega)
        have e1 : Rs.add 64 dist 1 = Res.ok (dist + 1) := Rs.add_ok (by omega)
        have e1' : Rs.add 64 1 dist = Res.ok (dist + 1) := by rw [Nat.add_comm]; exact Rs.add_ok (by omega)
        have hyx : ¬ y = x := fun h => hxy h.symm
        refine ⟨d + 1, by simp [EditDist.hamming, h1, hxy], ?_⟩
        simp [hamming_for1, hxy, hyx, e1, e1', h3]
        omega

/-- **`distance::hamming` as written in the source = the reference**: for strings of equal length (below 2^64) it returns,
without panic (the `u64` counter cannot overflow), the reference's Hamming distance; for strings of different length the
`assert_eq!` panics — exactly where the reference is undefined. -/
theorem hamming_eq_model (a b : List Nat) (h64 : a.length < 2 ^ 64) :
    hamming a b = match EditDist.hamming a b with
      | some d => Res.ok d
      | none => Res.panic := by
  by_cases hl : a.length = b.length
  · obtain ⟨d, h1, h3⟩ := for_eq a b 0 hl (by omega)
    have e0 : Rs.assert (a.length == b.length) = Res.ok () := Rs.assert_ok (by simp [hl])
    have e0' : Rs.assert (b.length == a.length) = Res.ok () := Rs.assert_ok (by simp [hl])
    simp [hamming, e0, e0', h1, h3]
  · have hn : EditDist.hamming a b = none := by
      cases h : EditDist.hamming a b with
      | none => rfl
      | some d =>
        have : (EditDist.hamming a b).isSome = true := by simp [h]
        exact absurd ((EditDist.hamming_isSome_iff a b).mp this) hl
    have hl' : ¬ b.length = a.length := fun h => hl h.symm
    simp [hamming, Rs.assert, hl, hl', hn]

end RbV.Thm.GenSrcHamming
