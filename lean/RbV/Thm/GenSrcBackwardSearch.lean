import RbV.Gen.SrcBackwardSearch
import RbV.Model.BackwardSearch
import RbV.Thm.GenSrcBasic
/-!
# The translated text of `FMIndexable::backward_search` equals the mirror model `BSModel.backwardSearch`

`RbV/Gen/SrcBackwardSearch.lean` is regenerated from `src/data_structures/fmindex.rs` by `tools/rs2lean.py` on every
`./check C05`.  The trait methods `self.less(a)`, `self.occ(r, a)` are function parameters (`lessF`, `occF`), `self.bwt()`
a list; the `break` of the loop is a flag in the fold state; the result enum is the generated inductive
`BackwardSearchResult` (`toGen` maps the model's `BSRes` to it).  Hypotheses = what keeps the checked `usize` arithmetic
from panicking: a non-empty BWT (`len() - 1`), `less(a) ≥ 1` for the pattern symbols (`less + occ - 1`; the property's
precondition "the sentinel is smaller than every pattern symbol"), `less(a) + occ(r, a) < 2^64`, `n, m < 2^64`.
-/
-- the simp sets name every fact a harmless rewrite of the Rust text may need; on the present text some are unused
set_option linter.unusedSimpArgs false

namespace RbV.Thm.GenSrcBackwardSearch
open RbV RbV.Rs RbV.Gen.SrcBackwardSearch RbV.Thm.GenSrc RbV.BSModel

attribute [local congr] GenSrc.bind_congr_arg

/-- the model's result as a value of the generated enum -/
def toGen : BSRes → BackwardSearchResult
  | .complete l u => .Complete (l, u)
  | .part l u m => .Partial (l, u) m
  | .absent => .Absent

/-- the fold state of the translated loop for a model state (and the `break` flag) -/
def tup (s : St) (b : Bool) : Nat × Nat × Nat × Nat × Bool × Nat × Bool := (s.pl, s.pr, s.l, s.r, s.complete, s.matched, b)

variable (lessF : Nat → Nat) (occF : Nat → Nat → Nat) (bwt : List Nat)

/-- after `break` the remaining pattern symbols leave the state unchanged -/
theorem loop_broken (s : St) : ∀ rest : List Nat,
    rest.foldlM (backward_search_for1 lessF occF bwt) (tup s true) = Res.ok (tup s true) := by
  intro rest
  induction rest with
  | nil => rfl
  | cons a rest ih =>
    have : backward_search_for1 lessF occF bwt (tup s true) a = Res.ok (tup s true) := by
      simp [backward_search_for1, tup]
    rw [List.foldlM_cons, this, Res.ok_bind, ih]

/-- one round of the loop (not yet broken) -/
theorem step_eq (s : St) (a : Nat) (hless : 1 ≤ lessF a) (hb : ∀ r, lessF a + occF r a < 2 ^ 64)
    (hm : s.matched + 1 < 2 ^ 64) :
    backward_search_for1 lessF occF bwt (tup s false) a =
      Res.ok (if lessF a + (if s.l > 0 then occF (s.l - 1) a else 0) > lessF a + occF s.r a - 1 then
          tup { l := lessF a + (if s.l > 0 then occF (s.l - 1) a else 0), r := lessF a + occF s.r a - 1,
                pl := s.l, pr := s.r, matched := s.matched, complete := false } true
        else
          tup { l := lessF a + (if s.l > 0 then occF (s.l - 1) a else 0), r := lessF a + occF s.r a - 1,
                pl := s.l, pr := s.r, matched := s.matched + 1, complete := s.complete } false) := by
  have h1 := hb (s.l - 1)
  have h2 := hb s.r
  have e2 : Rs.add 64 (lessF a) (occF (s.l - 1) a) = Res.ok (lessF a + occF (s.l - 1) a) := Rs.add_ok h1
  have e3 : Rs.add 64 (lessF a) 0 = Res.ok (lessF a) := Rs.add_ok (Nat.lt_of_le_of_lt (Nat.le_add_right _ _) h2)
  have e4 : Rs.add 64 (lessF a) (occF s.r a) = Res.ok (lessF a + occF s.r a) := Rs.add_ok h2
  have e2' : Rs.add 64 (occF (s.l - 1) a) (lessF a) = Res.ok (lessF a + occF (s.l - 1) a) := Rs.add_ok_comm h1
  have e3' : Rs.add 64 0 (lessF a) = Res.ok (lessF a) :=
    Rs.add_ok_comm (a := lessF a) (b := 0) (Nat.lt_of_le_of_lt (Nat.le_add_right _ _) h2)
  have e4' : Rs.add 64 (occF s.r a) (lessF a) = Res.ok (lessF a + occF s.r a) := Rs.add_ok_comm h2
  have e6' : Rs.add 64 1 s.matched = Res.ok (s.matched + 1) := Rs.add_ok_comm hm
  have e5 : Rs.sub (lessF a + occF s.r a) 1 = Res.ok (lessF a + occF s.r a - 1) := Rs.sub_ok (Nat.le_trans hless (Nat.le_add_right _ _))
  have e6 : Rs.add 64 s.matched 1 = Res.ok (s.matched + 1) := Rs.add_ok hm
  simp only [backward_search_for1, tup]
  by_cases hl : s.l > 0
  · have e1' : Rs.sub s.l 1 = Res.ok (s.l - 1) := Rs.sub_ok hl
    simp only [Bool.false_eq_true, ↓reduceIte, gt_iff_lt, decide_true, decide_eq_true_eq, Res.pure_eq_ok, Res.ok_bind,
      apply_ite Res.ok, hl, e1', e2, e2', e4, e4', e5, e6, e6']
  · simp only [Bool.false_eq_true, ↓reduceIte, gt_iff_lt, decide_false, decide_eq_true_eq, Res.pure_eq_ok, Res.ok_bind,
      Nat.add_zero, apply_ite Res.ok, hl, e3, e3', e4, e4', e5, e6, e6']

/-- the translated loop computes the model's `loop` (the flag says whether it was left through `break`) -/
theorem loop_eq : ∀ (rev : List Nat) (s : St),
    (∀ a ∈ rev, 1 ≤ lessF a ∧ ∀ r, lessF a + occF r a < 2 ^ 64) → s.matched + rev.length < 2 ^ 64 →
    ∃ b, rev.foldlM (backward_search_for1 lessF occF bwt) (tup s false) = Res.ok (tup (loop lessF occF rev s) b) := by
  intro rev
  induction rev with
  | nil => intro s _ _; exact ⟨false, rfl⟩
  | cons a rest ih =>
    intro s h hm
    obtain ⟨hl, hb⟩ := h a (by simp)
    simp only [List.length_cons] at hm
    rw [List.foldlM_cons, step_eq lessF occF bwt s a hl hb (by omega), Res.ok_bind, loop_cons]
    by_cases hc : lessF a + (if s.l > 0 then occF (s.l - 1) a else 0) > lessF a + occF s.r a - 1
    · rw [if_pos hc, if_pos hc]
      exact ⟨true, loop_broken lessF occF bwt _ rest⟩
    · rw [if_neg hc, if_neg hc]
      exact ih _ (fun b hb' => h b (List.mem_cons_of_mem _ hb')) (by show s.matched + 1 + rest.length < 2 ^ 64; omega)

/-- **`backward_search` as written in the source = the mirror model `BSModel.backwardSearch`** over the same abstract
`less` / `occ`, on an index of `bwt.len()` rows; the result enum is mapped by `toGen` -/
theorem backward_search_eq_model (pat : List Nat) (hn : 0 < bwt.length) (hn' : bwt.length < 2 ^ 64)
    (hm : pat.length < 2 ^ 64) (hless : ∀ a ∈ pat, 1 ≤ lessF a) (hb : ∀ a ∈ pat, ∀ r, lessF a + occF r a < 2 ^ 64) :
    backward_search lessF occF bwt pat = Res.ok (toGen (backwardSearch lessF occF bwt.length pat)) := by
  have hall : ∀ a ∈ pat.reverse, 1 ≤ lessF a ∧ ∀ r, lessF a + occF r a < 2 ^ 64 :=
    fun a ha => ⟨hless a (List.mem_reverse.mp ha), hb a (List.mem_reverse.mp ha)⟩
  obtain ⟨b, hloop⟩ := loop_eq lessF occF bwt pat.reverse ⟨0, bwt.length - 1, 0, bwt.length - 1, 0, true⟩ hall
    (by simp; omega)
  obtain ⟨hr, hpr⟩ := loop_bounds lessF occF pat.reverse ⟨0, bwt.length - 1, 0, bwt.length - 1, 0, true⟩ hall
    (by simp only []; omega) (by simp only []; omega)
  have e1 : Rs.sub bwt.length 1 = Res.ok (bwt.length - 1) := Rs.sub_ok (by omega)
  unfold backwardSearch finish
  generalize loop lessF occF pat.reverse ⟨0, bwt.length - 1, 0, bwt.length - 1, 0, true⟩ = s' at *
  have e2 : Rs.add 64 s'.r 1 = Res.ok (s'.r + 1) := Rs.add_ok hr
  have e3 : Rs.add 64 s'.pr 1 = Res.ok (s'.pr + 1) := Rs.add_ok hpr
  simp only [tup] at hloop
  by_cases hmz : s'.matched > 0
  · have hmz' : s'.matched ≠ 0 := Nat.ne_of_gt hmz
    by_cases hc : s'.complete = true
    · simp only [backward_search, e1, Res.ok_bind, hloop, hc, gt_iff_lt, hmz, hmz', decide_true, ↓reduceIte, e2, e3,
        Res.pure_eq_ok, toGen]
    · simp only [backward_search, e1, Res.ok_bind, hloop, hc, gt_iff_lt, hmz, hmz', decide_true, ↓reduceIte,
        Bool.false_eq_true, e2, e3, Res.pure_eq_ok, toGen]
  · have hmz' : s'.matched = 0 := Nat.eq_zero_of_not_pos hmz
    simp only [backward_search, e1, Res.ok_bind, hloop, hmz', gt_iff_lt, Nat.lt_irrefl, decide_false,
      Bool.false_eq_true, ↓reduceIte, Res.pure_eq_ok, toGen]

end RbV.Thm.GenSrcBackwardSearch
