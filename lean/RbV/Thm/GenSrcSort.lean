import RbV.Basic.RsSemGensparse
/-! The derived order of Rust tuples (`ROrd`) on pairs of numbers, and `sort_unstable` under its contract `SortOk`: whatever it
does, the result is the merge-sorted vector.  For the source proofs of `lcskpp`, `sdpkpp` and `find_kmer_matches`.  Core only. -/
namespace RbV.Thm.GenSrcLcskpp
open RbV RbV.Rs

/-- one level of the derived lexicographic order on a tuple whose first component is a `u32` / `usize` -/
theorem ole_cons {β : Type} [ROrd β] (a1 b1 : Nat) (a2 b2 : β) :
    (ROrd.le (a1, a2) (b1, b2) : Bool) = (decide (a1 < b1) || (a1 == b1 && ROrd.le a2 b2)) := by
  show (!(decide (b1 ≤ a1)) || (decide (a1 ≤ b1) && ROrd.le a2 b2)) = _
  cases ROrd.le a2 b2
  · simp only [Bool.and_false, Bool.or_false]
    by_cases h : a1 < b1
    · have h' : ¬ b1 ≤ a1 := by omega
      simp [h, h']
    · have h' : b1 ≤ a1 := by omega
      simp [h, h']
  · simp only [Bool.and_true]
    rcases Nat.lt_trichotomy a1 b1 with h | h | h
    · have h1 : ¬ b1 ≤ a1 := by omega
      have h2 : a1 ≤ b1 := by omega
      simp [h, h1, h2]
    · subst h; simp
    · have h1 : b1 ≤ a1 := by omega
      have h2 : ¬ a1 ≤ b1 := by omega
      have h3 : ¬ a1 < b1 := by omega
      have h4 : ¬ a1 = b1 := by omega
      simp [h1, h2, h3, h4]

theorem ole_NN (a b : Nat × Nat) : (ROrd.le a b : Bool) = (decide (a.1 < b.1) || (a.1 == b.1 && decide (a.2 ≤ b.2))) :=
  ole_cons a.1 b.1 a.2 b.2

/-- whatever `sort_unstable` does: a permutation that is ascending in an antisymmetric total order is the merge-sorted vector -/
theorem sort_eq_mergeSort {α : Type} [ROrd α] (le : α → α → Bool) (hle : ∀ a b, (ROrd.le a b : Bool) = le a b)
    (hanti : ∀ a b, le a b = true → le b a = true → a = b) (htrans : ∀ a b c, le a b = true → le b c = true → le a c = true)
    (htotal : ∀ a b, (le a b || le b a) = true) (sortF : List α → List α) (hsort : SortOk sortF) (l : List α) :
    sortF l = l.mergeSort le := by
  obtain ⟨hp, hs⟩ := hsort l
  refine List.Perm.eq_of_pairwise (le := fun a b => le a b = true) (fun a b _ _ => hanti a b) ?_
    (List.pairwise_mergeSort htrans htotal l) (hp.trans (List.mergeSort_perm _ _).symm)
  exact hs.imp (fun {a b} h => by rw [← hle]; exact h)

end RbV.Thm.GenSrcLcskpp
