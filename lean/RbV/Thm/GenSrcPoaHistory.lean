import RbV.Thm.GenSrcPoaScore
import RbV.Thm.GenSrcPoaAdd
import RbV.Lemmas.PoaGrowAll
/-!
# Histories of translated alignments and additions: the graph stays a growing DAG

`getP` = `Traceback::get` as a total function on the matrix; `get_partial`: whenever the translated `get` returns, it returns
`getP`.  `local_of_oinv`: the operation table of a matrix with `OInv` is `Model.Local` (hence `Model.OpsOK`, `Model.ColsOK`) — for
whatever the `max`es kept.  `alignment_partial`: whenever the translated
`Traceback::alignment` returns, its operation list is `Model.traceF` over that table (its `j -= 1` / `i -= 1` would panic
exactly where `traceF` truncates; the statement is about runs that return).  `srcStep_dag_grows`: one translated
`custom` → `alignment` → `add_alignment` keeps a DAG, only grows it, by at most `|query|` nodes.  `traceF_seqOK` (column tracking, `Lemmas/PoaBound.lean`): the
list the traceback emits over such a table is valid for query and graph (`SeqOK`), so the translated `add_alignment` does not panic on
it (`step_add_total`).  `srcHistory_dag_grows`: any series of translated steps (`srcHistory`) under `HistOK`.
-/
set_option linter.unusedSimpArgs false
set_option linter.unnecessarySimpa false
namespace RbV.Thm.GenSrcPoaHistory
open RbV RbV.NW RbV.Rs RbV.Rs.Res RbV.Poa RbV.Poa.Model RbV.Gen.SrcPoaAlign RbV.Thm.GenSrcPoaAlign RbV.Thm.GenSrcPoaScore

/-- `Traceback::get` on the matrix, totalised (a missing row reads like an empty one) -/
def getP (M : List Row) (i j : Nat) : Cell :=
  let r := (M[i]?).getD ([], 0, 0)
  if (!(decide (r.2.1 > j) || decide (r.2.2 ≤ j) || r.1.isEmpty)) = true then r.1.getD (j - r.2.1) mcell
  else if j = 0 then ⟨minScore, .d none⟩
  else if j ≥ r.2.2 then ⟨minScore, .i none⟩
  else mcell

def opAtS (M : List Row) (i j : Nat) : POp := (getP M i j).op

/-- the row `i` of the matrix as a `BRow` (a missing row reads like an empty one) -/
def rowAt (M : List Row) (i : Nat) : BRow :=
  { cells := ((M[i]?).getD ([], 0, 0)).1, start := ((M[i]?).getD ([], 0, 0)).2.1, stop := ((M[i]?).getD ([], 0, 0)).2.2 }

/-- `getP` is the mirror's `BRow.get` on that row -/
theorem getP_eq_get (M : List Row) (i j : Nat) : getP M i j = (rowAt M i).get j := by
  unfold getP BRow.get rowAt
  simp only []
  generalize (M[i]?).getD ([], 0, 0) = r
  have e : (!(decide (r.2.1 > j) || decide (r.2.2 ≤ j) || r.1.isEmpty)) = (decide (r.2.1 ≤ j) && decide (j < r.2.2) && !r.1.isEmpty) := by
    have e1 : decide (r.2.1 > j) = !decide (r.2.1 ≤ j) := by
      by_cases h : r.2.1 ≤ j
      · simp [h, Nat.not_lt.mpr h]
      · simp [h, Nat.lt_of_not_le h]
    have e2 : decide (r.2.2 ≤ j) = !decide (j < r.2.2) := by
      by_cases h : j < r.2.2
      · simp [h, Nat.not_le.mpr h]
      · simp [h, Nat.le_of_not_lt h]
    rw [e1, e2]
    cases decide (r.2.1 ≤ j) <;> cases decide (j < r.2.2) <;> cases r.1.isEmpty <;> rfl
  rw [e]

theorem get_partial (tb : Rs.Poa.Traceback) (i j : Nat) (c : Cell) (h : Traceback_get tb i j = ok c) : c = getP tb.matrix i j := by
  cases hM : tb.matrix[i]? with
  | none =>
    have : Rs.idx tb.matrix i = panic := by unfold Rs.idx; rw [hM]
    unfold Traceback_get at h
    rw [this] at h; cases h
  | some r =>
    rw [get_char tb i j r.1 r.2.1 r.2.2 hM] at h
    split at h
    · cases h
    · rw [getP_eq_get]; simp only [rowAt, hM, Option.getD_some]; exact (Res.ok.inj h).symm

theorem local_of_oinv (es : WEdges) (L : Nat) (M : List Row) (h : OInv es L M) : Local es L (opAtS M) := by
  refine ⟨fun j => ?_, fun v j => ?_⟩
  · obtain ⟨cs, e, h1, h2, h3, h4⟩ := h.r0
    have hrow : rowAt M 0 = { cells := cs, start := 0, stop := e } := by simp [rowAt, h1]
    unfold opAtS
    rw [getP_eq_get, hrow]
    by_cases hj : j < e
    · -- inside the band: a stored cell of row 0
      have hk : j < cs.length := Nat.lt_of_lt_of_le hj h3
      rw [BRow.get_inband { cells := cs, start := 0, stop := e } j (Nat.zero_le j) hj hk]
      have hc : cs[j - 0]? = some (cs.getD (j - 0) mcell) := by simp [List.getD, hk]
      rcases h4 _ _ hc with ⟨h5, _⟩ | h5 | h5
      · exact Or.inl h5
      · exact Or.inr (Or.inl h5)
      · exact Or.inr (Or.inr h5)
    · have h0 : j ≠ 0 := by omega
      simp [BRow.get, hj, h0, Nat.le_of_not_lt hj]
  · unfold opAtS
    rw [getP_eq_get]
    refine rowGood_of_cells es L v _ _ _ (fun k hk => ?_) j
    cases hM : M[v + 1]? with
    | none => simp [hM] at hk
    | some r =>
      obtain ⟨cs, s, e⟩ := r
      obtain ⟨hs, hok⟩ := h.rows v cs s e hM
      simp only [hM, Option.getD_some] at hk ⊢
      rw [hs, Nat.zero_add]
      exact hok k _ (by simp [List.getD, hk])

theorem opsOK_of_oinv (es : WEdges) (L : Nat) (M : List Row) (h : OInv es L M) : OpsOK es L (opAtS M) :=
  (local_of_oinv es L M h).opsOK

theorem colsOK_of_oinv (es : WEdges) (L : Nat) (M : List Row) (h : OInv es L M) : ColsOK (opAtS M) :=
  (local_of_oinv es L M h).colsOK

theorem opAtS_spec (es : WEdges) (L : Nat) (M : List Row) (h : OInv es L M) (i j : Nat) :
    opAtS M i j = .d none ∨ opAtS M i j = .i none ∨ opAtS M i j = .m none ∨ (i = 0 ∧ opAtS M i j = .y 0 j) ∨
    ∃ v, i = v + 1 ∧ v + 1 < M.length ∧ CellOK es L v j (opAtS M i j) := by
  unfold opAtS
  rw [getP_eq_get]
  rcases (rowAt M i).get_cases j with ⟨k, hk, hkj, e⟩ | ⟨_, e⟩ | ⟨_, e⟩ | ⟨_, e⟩
  · -- a stored cell: the row exists
    rw [e]
    cases hM : M[i]? with
    | none => simp [rowAt, hM] at hk
    | some r =>
      obtain ⟨cs, s, e1⟩ := r
      simp only [rowAt, hM, Option.getD_some] at hk hkj ⊢
      have hc : cs[k]? = some (cs.getD k mcell) := by simp [List.getD, hk]
      cases i with
      | zero =>
        obtain ⟨cs0, e0, h1, _, _, h4⟩ := h.r0
        rw [hM] at h1
        simp only [Option.some.injEq, Prod.mk.injEq] at h1
        obtain ⟨rfl, rfl, rfl⟩ := h1
        rw [Nat.zero_add] at hkj
        subst hkj
        rcases h4 _ _ hc with ⟨h5, _⟩ | h5 | h5
        · exact Or.inr (Or.inr (Or.inl h5))
        · exact Or.inr (Or.inl h5)
        · exact Or.inr (Or.inr (Or.inr (Or.inl ⟨rfl, h5⟩)))
      | succ v =>
        obtain ⟨hs, hok⟩ := h.rows v cs s e1 hM
        subst hs
        rw [Nat.zero_add] at hkj
        subst hkj
        exact Or.inr (Or.inr (Or.inr (Or.inr ⟨v, rfl, lt_of_getElem? hM, hok _ _ hc⟩)))
  · rw [e]; exact Or.inl rfl
  · rw [e]; exact Or.inr (Or.inl rfl)
  · rw [e]; exact Or.inr (Or.inr (Or.inl rfl))

theorem opAtS_y (es : WEdges) (L : Nat) (M : List Row) (h : OInv es L M) (i j c d : Nat) (hy : opAtS M i j = .y c d) : d = j :=
  (local_of_oinv es L M h).ydiag i j c d hy

theorem opAtS_m_lt (es : WEdges) (L m : Nat) (M : List Row) (h : OInv es L M) (hlen : M.length = m + 1) (i j a p : Nat)
    (hm : opAtS M i j = .m (some (a, p))) : p < m := by
  rcases opAtS_spec es L M h i j with e | e | e | ⟨_, e⟩ | ⟨v, _, hv, e⟩
  · rw [e] at hm; cases hm
  · rw [e] at hm; cases hm
  · rw [e] at hm; cases hm
  · rw [e] at hm; cases hm
  · rcases e.1 with e1 | e1 | ⟨_, e1⟩ | ⟨_, e1 | e1 | ⟨p', _, e1 | e1⟩⟩ | ⟨_, ⟨r, e1⟩ | ⟨_, c', d', e1⟩⟩ <;> rw [e1] at hm <;>
      first
        | (cases hm; omega)
        | cases hm

theorem add64_val {a b t : Nat} (h : Rs.add 64 a b = ok t) : t = a + b := by
  unfold Rs.add at h; split at h
  · simp only [Res.ok.injEq] at h; exact h.symm
  · cases h

/-- a run that returns has passed its checked additions and subtractions, with their exact results -/
theorem add64_bind {β : Type} {a b : Nat} {f : Nat → Res β} {r : β} (h : Rs.add 64 a b >>= f = ok r) : f (a + b) = ok r := by
  obtain ⟨t, ht, hf⟩ := Res.bind_eq_ok.mp h
  rwa [add64_val ht] at hf

theorem sub_bind {β : Type} {a b : Nat} {f : Nat → Res β} {r : β} (h : Rs.sub a b >>= f = ok r) : f (a - b) = ok r := by
  obtain ⟨t, ht, hf⟩ := Res.bind_eq_ok.mp h
  unfold Rs.sub at ht; split at ht
  · rwa [← Res.ok.inj ht] at hf
  · cases ht

theorem while_partial (tb : Rs.Poa.Traceback) : ∀ (f : Nat) (ops : List POp) (i j : Nat) (r : List POp × Nat × Nat),
    Traceback_alignment_while1 tb f (ops, i, j) = ok r → r.1.reverse = traceF (opAtS tb.matrix) f i j ops.reverse
  | 0, ops, i, j, r, h => by simp [Traceback_alignment_while1] at h
  | f + 1, ops, i, j, r, h => by
    unfold Traceback_alignment_while1 at h
    by_cases hij : i = 0 ∧ j = 0
    · obtain ⟨rfl, rfl⟩ := hij
      simp only [Nat.lt_irrefl, decide_false, Bool.or_self, Bool.false_eq_true, if_false, Res.pure_eq_ok, Res.ok.injEq,
        gt_iff_lt] at h
      rw [← h]; simp [traceF]
    · have hc : (decide (i > 0) || decide (j > 0)) = true := by simp; omega
      simp only [hc, if_true, Res.bind_eq_ok] at h
      obtain ⟨t2, h2, t3, h3, hm⟩ := h
      have e2 := get_partial tb i j t2 h2
      have e3 := get_partial tb i j t3 h3
      have eop : t2.op = opAtS tb.matrix i j := by rw [e2]; rfl
      have eop3 : t3.op = opAtS tb.matrix i j := by rw [e3]; rfl
      rw [traceF_succ _ f i j _ hij]
      rw [eop3, eop] at hm
      generalize opAtS tb.matrix i j = op at hm ⊢
      have fin : ∀ (i' j' : Nat), Traceback_alignment_while1 tb f (ops ++ [op], i', j') = ok r →
          r.1.reverse = traceF (opAtS tb.matrix) f i' j' (op :: ops.reverse) := by
        intro i' j' hrec
        have := while_partial tb f (ops ++ [op]) i' j' r hrec
        simpa using this
      simp only [bind_assoc, pure_bind] at hm
      rcases op with (_ | ⟨p, q⟩) | (_ | ⟨p, q⟩) | (_ | p) | r' | ⟨a, b⟩ <;> simp only [bind_assoc, pure_bind] at hm
      · exact fin _ _ (sub_bind hm)
      · exact fin _ _ (sub_bind (add64_bind hm))
      · exact fin _ _ (sub_bind hm)
      · exact fin _ _ (add64_bind hm)
      · exact fin _ _ (sub_bind hm)
      · exact fin _ _ (sub_bind (add64_bind hm))
      · exact fin _ _ hm
      · exact fin _ _ hm

theorem alignment_partial (tb : Rs.Poa.Traceback) (a : Rs.Poa.Alignment) (h : Traceback_alignment tb = ok a) :
    a.operations = traceF (opAtS tb.matrix) ((tb.rows + 3) * (tb.cols + 3)) (tb.last + 1) tb.cols [] := by
  unfold Traceback_alignment at h
  simp only [Res.bind_eq_ok, Res.pure_eq_ok] at h
  obtain ⟨t1, h1, st, hst, t12, _, c, _, ha⟩ := h
  simp only [Res.ok.injEq] at ha
  rw [← ha]
  have := while_partial tb _ [] t1 tb.cols st hst
  rw [add64_val h1] at this
  simpa using this

/-- one translated step: `custom` (any clip penalties = any of the four `custom`-based modes) → `alignment` → `add_alignment` -/
def srcStep (sc : Sc) (xp xs yp ys : Int) (g : G) (q : List Nat) : Res G := do
  let tb ← custom sc.w g sc.gap xp xs yp ys q
  let aln ← Traceback_alignment tb
  RbV.Gen.SrcPoaAdd.add_alignment g aln q

theorem srcStep_dag_grows (sc : Sc) (xp xs yp ys : Int) (g g' : G) (q : List Nat) (t : BTable) (hg : Dag g)
    (hm : g.labels.length + 1 < 2 ^ 64) (hn : q.length + 1 < 2 ^ 64)
    (hC : customTableC sc xp xs yp ys g.labels g.es q = some t)
    (h : srcStep sc xp xs yp ys g q = ok g') :
    Dag g' ∧ Grows g g' ∧ g'.labels.length ≤ g.labels.length + q.length := by
  obtain ⟨tb, e, el, ec, er, hml, hO, _⟩ := custom_score_eq_model sc xp xs yp ys g.labels g.es q t (graphOK_of_dag g hg) hm hn hC
  unfold srcStep at h
  have hgg : (⟨g.labels, g.es⟩ : G) = g := rfl
  rw [hgg] at e
  simp only [e, Res.ok_bind, Res.bind_eq_ok] at h
  obtain ⟨aln, ha, hadd⟩ := h
  have hops := alignment_partial tb aln ha
  have heq := RbV.Thm.GenSrcPoaAdd.add_alignment_eq_model g aln q g' hadd
  have hL : t.last = (topo g.labels.length g.es).getLastD 0 := (customTableC_last hC).1
  have hN : t.n = q.length := (customTableC_last hC).2
  have hcols := colsOK_of_oinv g.es t.last tb.matrix hO
  have hok := opsOK_of_oinv g.es t.last tb.matrix hO
  rw [hL] at hok
  rw [heq, hops]
  refine ⟨traceF_add_dag g q hg _ hok _ _ _, ?_, ?_⟩
  · exact Grows.addAlignment g _ q
  · have h1 := (addAlignment_grows g (traceF (opAtS tb.matrix) ((tb.rows + 3) * (tb.cols + 3)) (tb.last + 1) tb.cols []) q).2
    have h2 := traceF_consuming _ hcols ((tb.rows + 3) * (tb.cols + 3)) (tb.last + 1) tb.cols []
    have hcq : tb.cols = q.length := by rw [ec, hN]
    have h3 : consuming ([] : List POp) = 0 := rfl
    rw [h3] at h2
    generalize consuming (traceF (opAtS tb.matrix) ((tb.rows + 3) * (tb.cols + 3)) (tb.last + 1) tb.cols []) = k at h1 h2
    generalize (addAlignment g (traceF (opAtS tb.matrix) ((tb.rows + 3) * (tb.cols + 3)) (tb.last + 1) tb.cols []) q).labels.length = k2 at h1 ⊢
    omega

open RbV.Thm.GenSrcPoaAdd in
/-- **no panic of the translated `add_alignment` on traceback-produced lists**: whatever table the translated `custom` returned and
whatever list the translated `alignment` returned from it, the translated addition returns (the model's graph) — given room
for the weight increments -/
theorem step_add_total (sc : Sc) (xp xs yp ys : Int) (g : G) (q : List Nat) (t : BTable) (tb : Rs.Poa.Traceback)
    (aln : Rs.Poa.Alignment) (hg : Dag g)
    (hm : g.labels.length + 1 < 2 ^ 64) (hn : q.length + 1 < 2 ^ 64)
    (hC : customTableC sc xp xs yp ys g.labels g.es q = some t)
    (hcu : custom sc.w g sc.gap xp xs yp ys q = ok tb) (hal : Traceback_alignment tb = ok aln)
    (hK : (aln.operations.length : Int) < 2147483647)
    (hw : ∀ e ∈ g.es, -2147483648 ≤ e.2.2 ∧ e.2.2 + (aln.operations.length : Int) ≤ 2147483647) :
    RbV.Gen.SrcPoaAdd.add_alignment g aln q = ok (addAlignment g aln.operations q) := by
  have hG := graphOK_of_dag g hg
  obtain ⟨tb', e, el, ec, er, hml, hO, _⟩ := custom_score_eq_model sc xp xs yp ys g.labels g.es q t hG hm hn hC
  have hgg : (⟨g.labels, g.es⟩ : G) = g := rfl
  rw [hgg, hcu] at e
  simp only [Res.ok.injEq] at e
  subst e
  have hN : t.n = q.length := (customTableC_last hC).2
  have hops := alignment_partial tb aln hal
  have hseq : SeqOK q.length g.labels.length 0 aln.operations := by
    rw [hops]
    exact traceF_seqOK _ q.length g.labels.length (colsOK_of_oinv g.es t.last tb.matrix hO)
      (opAtS_y g.es t.last tb.matrix hO) (opAtS_m_lt g.es t.last g.labels.length tb.matrix hO hml)
      _ _ _ [] (by rw [ec, hN]; exact Nat.le_refl _) trivial
  refine add_alignment_total g aln q ?_ (by omega) hK hw hseq
  cases htp : topo g.labels.length g.es with
  | nil => exact absurd htp hG.topo_ne
  | cons a l => exact ⟨a, rfl, hG.lt a (by rw [htp]; exact List.mem_cons_self ..)⟩

/-- one step of a history: scoring, the four clip penalties (`global`: all `MIN_SCORE`; `semiglobal`: y clips 0; `local`: all 0;
`custom`: as configured), query; the model's `HStep` with the penalties as numbers -/
abbrev HS := Sc × (Int × Int × Int × Int) × List Nat

def stepOf (s : HS) (g : G) : Res G := srcStep s.1 s.2.1.1 s.2.1.2.1 s.2.1.2.2.1 s.2.1.2.2.2 g s.2.2

/-- the graph after a series of translated align-and-add steps -/
def srcHistory (g0 : G) (steps : List HS) : Res G := steps.foldlM (fun g s => stepOf s g) g0

/-- side conditions on exactly the graphs that occur: non-empty query, sizes below `2^64 − 1`, no `i32` overflow in `custom`
(`poa_i32_no_overflow` inside `PoaEnv`) -/
def HistOK : G → List HS → Prop
  | _, [] => True
  | g, s :: rest => 0 < s.2.2.length ∧ s.2.2.length + 1 < 2 ^ 64 ∧ g.labels.length + 1 < 2 ^ 64 ∧
      (customTableC s.1 s.2.1.1 s.2.1.2.1 s.2.1.2.2.1 s.2.1.2.2.2 g.labels g.es s.2.2).isSome ∧
      ∀ g', stepOf s g = ok g' → HistOK g' rest

theorem srcHistory_dag_grows : ∀ (steps : List HS) (g0 g : G), Dag g0 → HistOK g0 steps → srcHistory g0 steps = ok g →
    Dag g ∧ Grows g0 g ∧ g.labels.length ≤ g0.labels.length + (steps.map fun s => s.2.2.length).sum
  | [], g0, g, hd, _, h => by
    simp only [srcHistory, List.foldlM_nil, Res.pure_eq_ok, Res.ok.injEq] at h
    subst h; exact ⟨hd, Grows.refl _, by simp⟩
  | s :: rest, g0, g, hd, hok, h => by
    simp only [srcHistory, List.foldlM_cons, Res.bind_eq_ok] at h
    obtain ⟨g1, h1, h2⟩ := h
    obtain ⟨hq, hn, hm, hC, hnext⟩ := hok
    obtain ⟨t, ht⟩ := Option.isSome_iff_exists.mp hC
    obtain ⟨hd1, hg1, hn1⟩ := srcStep_dag_grows s.1 _ _ _ _ g0 g1 s.2.2 t hd hm hn ht h1
    obtain ⟨hd2, hg2, hn2⟩ := srcHistory_dag_grows rest g1 g hd1 (hnext g1 h1) h2
    refine ⟨hd2, hg1.trans hg2, ?_⟩
    simp only [List.map_cons, List.sum_cons]
    omega

end RbV.Thm.GenSrcPoaHistory
