import RbV.Gen.SrcMyersTbState
import RbV.Gen.SrcMyersTbShort
import RbV.Model.MyersTraceback
import RbV.Thm.GenSrcMyersSimple
/-!
# The cursor moves of the single-word traceback handler as written = the stored-state model (C10)

`RbV/Gen/SrcMyersTbState.lean` (`State::adjust_dist`, `State::max`; myers_impl.rs) and `RbV/Gen/SrcMyersTbShort.lean`
(`ShortTracebackHandler::{move_up, move_up_left, move_left_down_if_better, finished, pos_bitvec}`; simple.rs) are regenerated by
`tools/rs2lean_genlong.py` on every `./check C10`.  A handler is held field by field; the model is `Model.MyersTraceback.Handler`
(the pipeline behind `traceback_model_sound`).  Side conditions = the checked `-= 1` / `+= 1` on `DistType` do not leave the type;
`handler_reads_true_cells` (Thm/C10.lean) shows they hold along every traceback of a hit.
-/
set_option linter.unusedSimpArgs false

namespace RbV.Thm.GenSrcMyersTb
open RbV RbV.Rs RbV.Model.MyersSimple RbV.Model.MyersTraceback RbV.Thm.GenSrcMyersSimple

theorem eq_zero_toNat {w : Nat} (z : BitVec w) : (z.toNat == 0) = (z == 0#w) := by
  rw [Bool.eq_iff_iff]
  simp only [beq_iff_eq]
  constructor
  · intro h; exact BitVec.eq_of_toNat_eq (by rw [h]; rfl)
  · intro h; rw [h]; rfl

theorem ne_zero_toNat {w : Nat} (z : BitVec w) : (z.toNat != 0) = (z != 0#w) := by
  simp only [bne, eq_zero_toNat]

theorem zero_eq_toNat {w : Nat} (z : BitVec w) : (0 == z.toNat) = (z == 0#w) := by
  rw [← eq_zero_toNat, Bool.eq_iff_iff]
  simp only [beq_iff_eq]
  exact ⟨fun h => h.symm, fun h => h.symm⟩

theorem zero_ne_toNat {w : Nat} (z : BitVec w) : (0 != z.toNat) = (z != 0#w) := by
  simp only [bne, zero_eq_toNat]

theorem shr1_toNat {w : Nat} (hw : 1 < w) (x : BitVec w) : Rs.shr w x.toNat 1 = Res.ok (x >>> 1).toNat := by
  rw [Rs.shr_ok hw, BitVec.toNat_ushiftRight]

/-- **`State::adjust_dist(pos_mask)` as written** = the model's `adjustDist` (new `dist`; `pv`, `mv` are not assigned) -/
theorem adjustDist_eq_model (w wd : Nat) (s : St w) (pm : BitVec w) (hlo : (s.pv &&& pm) ≠ 0#w → 1 ≤ s.dist)
    (hhi : s.dist + 1 < 2 ^ wd) :
    RbV.Gen.SrcMyersTbState.adjustDist (w := w) (wd := wd) (pv := s.pv.toNat) (mv := s.mv.toNat) (dist := s.dist)
        (pos_mask := pm.toNat) = Res.ok (adjustDist s pm).dist := by
  unfold RbV.Gen.SrcMyersTbState.adjustDist adjustDist
  have c1 : pm &&& s.pv = s.pv &&& pm := BitVec.and_comm _ _
  have c2 : pm &&& s.mv = s.mv &&& pm := BitVec.and_comm _ _
  simp only [and_toNat, ne_zero_toNat, zero_ne_toNat, c1, c2]
  by_cases h1 : (s.pv &&& pm) = 0#w
  · by_cases h2 : (s.mv &&& pm) = 0#w
    · simp [h1, h2]
    · simp [h1, h2, Rs.add_ok hhi]
  · have := hlo h1
    simp [h1, Rs.sub_ok this]

/-- **`State::max()` as written** = `State::init(D::max_value())` = the model's sentinel `maxSt` -/
theorem max_eq_model (w wd : Nat) : RbV.Gen.SrcMyersTbState.max (w := w) (wd := wd) = Res.ok (rep (maxSt w (2 ^ wd - 1))) := by
  simp [RbV.Gen.SrcMyersTbState.max, RbV.Gen.SrcMyersState.init, rep, maxSt, maxVal_toNat, Rs.maxVal]

section
variable (w wd : Nat) (h : Handler w)

/-- **`move_up(adjust_dist)` as written** (new `state.dist`, new `pos_bitvec`) -/
theorem moveUp_eq_model (hw : 1 < w) (adj : Bool) (hlo : adj = true → (h.state.pv &&& h.pos) ≠ 0#w → 1 ≤ h.state.dist)
    (hhi : h.state.dist + 1 < 2 ^ wd) :
    RbV.Gen.SrcMyersTbShort.moveUp (w := w) (wd := wd) (pv := h.state.pv.toNat) (mv := h.state.mv.toNat) (dist := h.state.dist)
        (left_state_pv := h.left.pv.toNat) (left_state_mv := h.left.mv.toNat) (left_state_dist := h.left.dist)
        (max_mask := h.maxMask.toNat) (pos_bitvec := h.pos.toNat) (left_mask := h.leftMask.toNat) (adjust_dist := adj) =
      Res.ok ((h.moveUp adj).state.dist, (h.moveUp adj).pos.toNat) := by
  unfold RbV.Gen.SrcMyersTbShort.moveUp Handler.moveUp
  cases adj with
  | false => simp [shr1_toNat hw]
  | true => simp [adjustDist_eq_model w wd h.state h.pos (hlo rfl) hhi, shr1_toNat hw]

/-- **`move_up_left(adjust_dist)` as written** (new `left_state.dist`, new `left_mask`) -/
theorem moveUpLeft_eq_model (hw : 1 < w) (adj : Bool) (hlo : adj = true → (h.left.pv &&& h.pos) ≠ 0#w → 1 ≤ h.left.dist)
    (hhi : h.left.dist + 1 < 2 ^ wd) :
    RbV.Gen.SrcMyersTbShort.moveUpLeft (w := w) (wd := wd) (pv := h.state.pv.toNat) (mv := h.state.mv.toNat) (dist := h.state.dist)
        (left_state_pv := h.left.pv.toNat) (left_state_mv := h.left.mv.toNat) (left_state_dist := h.left.dist)
        (max_mask := h.maxMask.toNat) (pos_bitvec := h.pos.toNat) (left_mask := h.leftMask.toNat) (adjust_dist := adj) =
      Res.ok ((h.moveUpLeft adj).left.dist, (h.moveUpLeft adj).leftMask.toNat) := by
  unfold RbV.Gen.SrcMyersTbShort.moveUpLeft Handler.moveUpLeft
  have c1 : h.maxMask ||| h.leftMask >>> 1 = h.leftMask >>> 1 ||| h.maxMask := BitVec.or_comm _ _
  have c2 : h.maxMask.toNat ||| h.leftMask.toNat >>> 1 = h.leftMask.toNat >>> 1 ||| h.maxMask.toNat := Nat.or_comm _ _
  cases adj with
  | false => simp [shr1_toNat hw, or_toNat, c1, c2]
  | true => simp [adjustDist_eq_model w wd h.left h.pos (hlo rfl) hhi, shr1_toNat hw, or_toNat, c1, c2]

/-- **`move_left_down_if_better()` as written** (new `left_state.dist`, the returned flag) -/
theorem moveLeftDownIfBetter_eq_model (hlo : (h.left.mv &&& h.pos) ≠ 0#w → 1 ≤ h.left.dist) :
    RbV.Gen.SrcMyersTbShort.moveLeftDownIfBetter (w := w) (wd := wd) (pv := h.state.pv.toNat) (mv := h.state.mv.toNat)
        (dist := h.state.dist) (left_state_pv := h.left.pv.toNat) (left_state_mv := h.left.mv.toNat)
        (left_state_dist := h.left.dist) (max_mask := h.maxMask.toNat) (pos_bitvec := h.pos.toNat) (left_mask := h.leftMask.toNat) =
      Res.ok (h.moveLeftDownIfBetter.2.left.dist, h.moveLeftDownIfBetter.1) := by
  unfold RbV.Gen.SrcMyersTbShort.moveLeftDownIfBetter Handler.moveLeftDownIfBetter
  have c1 : h.pos &&& h.left.mv = h.left.mv &&& h.pos := BitVec.and_comm _ _
  simp only [and_toNat, ne_zero_toNat, zero_ne_toNat, c1]
  by_cases h1 : (h.left.mv &&& h.pos) = 0#w
  · simp [h1]
  · simp [h1, Rs.sub_ok (hlo h1)]

/-- **`finished()` as written** -/
theorem finished_eq_model :
    RbV.Gen.SrcMyersTbShort.finished (w := w) (wd := wd) (pv := h.state.pv.toNat) (mv := h.state.mv.toNat)
        (dist := h.state.dist) (left_state_pv := h.left.pv.toNat) (left_state_mv := h.left.mv.toNat)
        (left_state_dist := h.left.dist) (max_mask := h.maxMask.toNat) (pos_bitvec := h.pos.toNat) (left_mask := h.leftMask.toNat) =
      Res.ok h.finished := by
  simp [RbV.Gen.SrcMyersTbShort.finished, Handler.finished, eq_zero_toNat, zero_eq_toNat]

/-- **`pos_bitvec()` as written** (the translated loop reads the field itself) -/
theorem posBitvec_eq_model :
    RbV.Gen.SrcMyersTbShort.posBitvec (w := w) (wd := wd) (pv := h.state.pv.toNat) (mv := h.state.mv.toNat)
        (dist := h.state.dist) (left_state_pv := h.left.pv.toNat) (left_state_mv := h.left.mv.toNat)
        (left_state_dist := h.left.dist) (max_mask := h.maxMask.toNat) (pos_bitvec := h.pos.toNat) (left_mask := h.leftMask.toNat) =
      Res.ok h.pos.toNat := by
  simp [RbV.Gen.SrcMyersTbShort.posBitvec]

end
end RbV.Thm.GenSrcMyersTb
