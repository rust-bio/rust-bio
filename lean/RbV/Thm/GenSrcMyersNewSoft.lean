import RbV.Thm.C09
import RbV.Thm.GenSrcMyersNew
import RbV.Thm.GenSrcMyersNewLong
/-!
# Soft module (tools/gen_tables.py: `soft_modules`, failure = note, never a broken obligation): the constructors of the Myers matchers

Word-level statements about the tables `new_ambig` stores.  They are *not* property-level: the bits of a mask above the pattern
length are not determined by C09 (seeded C09-H2 changes them and is property-preserving), and the proofs follow the shape of the
translated loops.  Restated here (not in `Thm/C09.lean`) so that such a rewrite gives a note, not an alarm.
-/
namespace RbV.Thm.C09soft
open RbV.EditDist RbV.Thm.C09

/-! ### The constructors on the translated source text

`RbV/Gen/SrcMyersSimpleNew.lean` (`Myers::new`, `new_ambig` of simple.rs), `RbV/Gen/SrcMyersLongCtor.lean` (of long.rs),
`RbV/Gen/SrcMyersBuilder.lean` (`MyersBuilder::{ambig, text_wildcard, build, build_long}`).  Proofs: `Thm/GenSrcMyersNew.lean`. -/

/-- **`Myers::new_ambig` of simple.rs, as written, builds the per-symbol equality masks**: entry `a` of `peq` is the model's mask
of text symbol `a` under "equal or listed in the ambiguity map" (`eqvA`), replaced by `T::max_value()` for every text wildcard
(`tabWord`); `bound = 1 << (m − 1)`; `m`; an empty states store.  No panic for a pattern of `1..w` bytes (the two `assert!`s, the
`from_usize(..).unwrap()`s, `T::one() << i`).  Word types of `8n` bits; `w` and `m` must fit `DistType`. -/
theorem myers_new_source_eq_model (w wd : Nat) (p : List Nat) (amb : Option (List (Nat × List Nat))) (wild : Option (List Nat))
    (hw8 : w / 8 * 8 = w) (hw64 : w < 2 ^ 64) (hwwd : w < 2 ^ wd) (hm1 : 1 ≤ p.length) (hmw : p.length ≤ w)
    (hb : ∀ c ∈ p, c < 256) (hamb : RbV.Thm.GenSrcMyersNew.AmbOk amb) (hwild : ∀ c ∈ wild.getD [], c < 256) :
    RbV.Gen.SrcMyersSimpleNew.newAmbig (w := w) (wd := wd) (pattern := p) (opt_ambigs := amb) (opt_wildcards := wild) =
      RbV.Rs.Res.ok (RbV.Thm.GenSrc.tab 256 (RbV.Thm.GenSrcMyersNew.tabWord w amb wild p), 2 ^ (p.length - 1), p.length, []) :=
  RbV.Thm.GenSrcMyersNew.newAmbig_eq_model w wd p amb wild hw8 hw64 hwwd hm1 hmw hb hamb hwild

/-- on the pattern bits `i < m` — all the search reads — the constructor's words are the masks of the property's symbol
equivalence (identity, ambiguity map, text wildcards: `Drv/C09.lean: mkEqv`) -/
theorem myers_new_source_masks_correct (w : Nat) (amb : Option (List (Nat × List Nat))) (wild : Option (List Nat)) (p : List Nat)
    (a i : Nat) (hi : i < p.length) (hw : p.length ≤ w) :
    (RbV.Thm.GenSrcMyersNew.tabWord w amb wild p a).testBit i = RbV.Thm.GenSrcMyersNew.eqvOf amb wild p[i] a :=
  RbV.Thm.GenSrcMyersNew.tabWord_bit w amb wild p a i hi hw

/-- **from the translated constructor to the specification** (no text wildcards: `Myers::new`, `MyersBuilder` with `ambig` only):
whatever `new_ambig(pattern, opt_ambigs, None)` returns, `find_all_end` on it yields exactly the Sellers hits of the ambiguity
equivalence — translated constructor → translated `Matches::new` → translated `next` until `None`; the statement names no
model-side table.  (With text wildcards the stored words differ from the model's `peqTab` in the bits `≥ m`, which the search
never reads — `myers_new_source_masks_correct`; the composition for that case is not proved: the mirror model's states are
compared word by word.) -/
theorem myers_find_all_end_source_exact_from_new (w wd : Nat) (p t : List Nat) (k : Nat)
    (amb : Option (List (Nat × List Nat))) (hw8 : w / 8 * 8 = w) (hw1 : 1 < w) (hw64 : w < 2 ^ 64) (hwwd : w < 2 ^ wd)
    (hm1 : 1 ≤ p.length) (hmw : p.length ≤ w) (hb : ∀ c ∈ p, c < 256) (hamb : RbV.Thm.GenSrcMyersNew.AmbOk amb)
    (hbt : ∀ c ∈ t, c < 256) (h64 : t.length < 2 ^ 64) :
    (do let (peq, bound, m, _) ← RbV.Gen.SrcMyersSimpleNew.newAmbig (w := w) (wd := wd) (pattern := p) (opt_ambigs := amb)
          (opt_wildcards := none)
        RbV.Thm.GenSrcMyersMatches.findAllSrc w wd peq bound m t k) =
      RbV.Rs.Res.ok (hits (unitW (RbV.Thm.GenSrcMyersNew.eqvA amb)) p t k) := by
  rw [RbV.Thm.GenSrcMyersNew.newAmbig_eq_model w wd p amb none hw8 hw64 hwwd hm1 hmw hb hamb (by simp)]
  simp only [RbV.Rs.Res.ok_bind, RbV.Thm.GenSrcMyersNew.tabWord_no_wild]
  exact myers_find_all_end_source_exact w wd (RbV.Thm.GenSrcMyersNew.eqvA amb) p t k hw1 hm1 hmw (by omega) (by omega) hbt h64

/-- `MyersBuilder::ambig` / `text_wildcard` / `build` / `build_long`, as written -/
theorem myers_builder_source_eq_model (w wd : Nat) (ambigs : List (Nat × List Nat)) (wild : List Nat) (byte : Nat)
    (eqs p : List Nat) (c : Nat) :
    RbV.Gen.SrcMyersBuilder.ambig (w := w) (wd := wd) (ambigs := ambigs) (wildcards := wild) (byte := byte) (equivalents := eqs) =
      RbV.Rs.Res.ok (RbV.Rs.hmInsert ambigs byte (eqs ++ [byte])) ∧
    (∀ k', RbV.Rs.hmGet (RbV.Rs.hmInsert ambigs byte (eqs ++ [byte])) k' =
      if k' = byte then some (eqs ++ [byte]) else RbV.Rs.hmGet ambigs k') ∧
    RbV.Gen.SrcMyersBuilder.textWildcard (w := w) (wd := wd) (ambigs := ambigs) (wildcards := wild) (wildcard := c) =
      RbV.Rs.Res.ok (wild ++ [c]) ∧
    RbV.Gen.SrcMyersBuilder.build (w := w) (wd := wd) (ambigs := ambigs) (wildcards := wild) (pattern := p) =
      RbV.Gen.SrcMyersSimpleNew.newAmbig (w := w) (wd := wd) (pattern := p) (opt_ambigs := some ambigs) (opt_wildcards := some wild) ∧
    RbV.Gen.SrcMyersBuilder.buildLong (w := w) (wd := wd) (ambigs := ambigs) (wildcards := wild) (pattern := p) =
      RbV.Gen.SrcMyersLongCtor.newAmbig (w := w) (pattern := p) (opt_ambigs := some ambigs) (opt_wildcards := some wild) :=
  ⟨RbV.Thm.GenSrcMyersNew.ambig_eq_model w wd ambigs wild byte eqs,
   fun k' => RbV.Thm.GenSrcMyersNew.hmGet_hmInsert ambigs byte (eqs ++ [byte]) k',
   RbV.Thm.GenSrcMyersNew.textWildcard_eq_model w wd ambigs wild c,
   RbV.Thm.GenSrcMyersNew.build_eq_model w wd ambigs wild p, RbV.Thm.GenSrcMyersNew.buildLong_eq_model w wd ambigs wild p⟩

-- non-vacuity: the translated constructors evaluated (`u8` words; pattern 1 2 1; symbol 2 also matches 7; wildcard 9)
set_option maxRecDepth 40000 in
example : (RbV.Gen.SrcMyersSimpleNew.newAmbig (w := 8) (wd := 8) (pattern := [1, 2, 1])
      (opt_ambigs := some [(2, [7, 2])]) (opt_wildcards := some [9]) >>= fun r => pure (r.1.take 10, r.2.1, r.2.2.1)) =
    RbV.Rs.Res.ok ([0, 0b101, 0b010, 0, 0, 0, 0, 0b010, 0, 255], 0b100, 3) := by decide +kernel
example : (do let r ← RbV.Gen.SrcMyersSimpleNew.new (w := 8) (wd := 8) (pattern := []); pure r.2.1) = RbV.Rs.Res.panic := by decide +kernel
example : (do let r ← RbV.Gen.SrcMyersSimpleNew.new (w := 8) (wd := 8) (pattern := [1, 1, 1, 1, 1, 1, 1, 1, 1]); pure r.2.1) =
    RbV.Rs.Res.panic := by decide +kernel
set_option maxRecDepth 40000 in
example : (RbV.Gen.SrcMyersLongCtor.new (w := 8) (pattern := [1, 2, 1, 1, 2, 1, 1, 2, 1, 3]) >>= fun r =>
    pure (r.1.map (fun b => (b.1.take 4, b.2)), r.2.1)) =
    RbV.Rs.Res.ok ([([0, 0b01101101, 0b10010010, 0], 128), ([0, 0b01, 0, 0b10], 2)], 10) := by decide +kernel

/-- **`long::Myers::new_ambig`, as written, builds one `Peq` per block**: `pattern.chunks(w)` are the model's blocks
`blocksOf w p`; per block the table `tabWord` of the block's symbols (all-ones for text wildcards) and `bound = 1 << (len − 1)`;
`m`; an empty states store.  No panic for a pattern of `1 ..= usize::MAX / 2` bytes. -/
theorem myers_long_new_source_eq_model (w : Nat) (p : List Nat) (amb : Option (List (Nat × List Nat)))
    (wild : Option (List Nat)) (hw : 1 ≤ w) (hw64 : w < 2 ^ 64) (hm1 : 1 ≤ p.length)
    (hm : p.length ≤ 18446744073709551615 / 2) (hb : ∀ c ∈ p, c < 256) (hamb : RbV.Thm.GenSrcMyersNew.AmbOk amb)
    (hwild : ∀ c ∈ wild.getD [], c < 256) :
    RbV.Gen.SrcMyersLongCtor.newAmbig (w := w) (pattern := p) (opt_ambigs := amb) (opt_wildcards := wild) =
      RbV.Rs.Res.ok ((RbV.Model.MyersLong.blocksOf w p).map (RbV.Thm.GenSrcMyersNewLong.peqOf w amb wild), p.length, []) :=
  RbV.Thm.GenSrcMyersNewLong.long_newAmbig_eq_model w p amb wild hw hw64 hm1 hm hb hamb hwild

/-- … without text wildcards these are the model's tables `peqL` -/
theorem myers_long_new_source_tables_are_peqL (w : Nat) (amb : Option (List (Nat × List Nat))) (blks : List (List Nat)) :
    blks.map (RbV.Thm.GenSrcMyersNewLong.peqOf w amb none) =
      RbV.Thm.GenSrcMyersLongStep.peqL w (RbV.Thm.GenSrcMyersNew.eqvA amb) blks :=
  RbV.Thm.GenSrcMyersNewLong.peqOf_no_wild w amb blks

/-- **block-based matcher, from the translated constructor to the specification** (no text wildcards: `long::Myers::new`,
`build_long` with `ambig` only): translated `new_ambig` → translated `Matches::new` → translated `next` until `None` = the
Sellers hits of the ambiguity equivalence; no model-side table is named -/
theorem myers_long_find_all_end_source_exact_from_new (w : Nat) (p t : List Nat) (k : Nat)
    (amb : Option (List (Nat × List Nat))) (hw : 2 ≤ w) (hw62 : w < 2 ^ 62) (hm1 : 1 ≤ p.length)
    (h63 : p.length + w + 2 < 2 ^ 63) (hb : ∀ c ∈ p, c < 256) (hamb : RbV.Thm.GenSrcMyersNew.AmbOk amb)
    (hbt : ∀ c ∈ t, c < 256) (h64 : t.length < 2 ^ 64) :
    (do let (peq, m, _) ← RbV.Gen.SrcMyersLongCtor.newAmbig (w := w) (pattern := p) (opt_ambigs := amb) (opt_wildcards := none)
        RbV.Thm.GenSrcMyersLongMatches.findAllSrc w peq m t k) =
      RbV.Rs.Res.ok (hits (unitW (RbV.Thm.GenSrcMyersNew.eqvA amb)) p t k) := by
  rw [RbV.Thm.GenSrcMyersNewLong.long_newAmbig_eq_model w p amb none (by omega) (by omega) hm1 (by omega) hb hamb (by simp)]
  simp only [RbV.Rs.Res.ok_bind, RbV.Thm.GenSrcMyersNewLong.peqOf_no_wild]
  exact myers_long_find_all_end_source_exact_every_width w (RbV.Thm.GenSrcMyersNew.eqvA amb) p t k hw hw62 hm1 h63 hbt h64

end RbV.Thm.C09soft
