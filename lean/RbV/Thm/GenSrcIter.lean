import RbV.Basic.RsSem
import RbV.Basic.Scan
/-!
Induction principles shared by the equality proofs of translated iterators (`RbV/Thm/GenSrc*Next.lean`; `drain_eq_of_step` is used
through `Thm/GenSrcScan.lean` by the two scanners, `drain_eq_of_advance` and `window_next` by Horspool, BNDM, BOM):

* `drain_eq_of_step` / `drain_eq_of_advance`: if one call of the translated `next` returns `None` where the model's
  list is empty and otherwise the head of the model's list, the model continuing from the new state, then calling
  `next` until `None` (`Rs.drain`) yields the model's list.
* `window_next`: the `while`/`loop` inside the `next` of a skip search (Horspool, BNDM, BOM) is a recursive helper
  `loop : fuel → window → Res (window × result)`; if every round decides its window by a `Verdict`, one call of it is
  what `drain_eq_of_advance` asks for.
-/
namespace RbV.Thm.GenSrcIter
open RbV RbV.Rs

/-- the fuel `n - window + 2` that the translated window loops of BNDM and BOM are started with covers the rest of the text
(Horspool's takes `n - last + 1`) -/
theorem window_fuel (n window : Nat) : n + 1 - window < n - window + 2 := by omega

theorem drain_eq_of_step {σ α : Type} (next : σ → Res (σ × Option α)) (G : σ → List α) (P : σ → Prop) (μ : σ → Nat)
    (hstep : ∀ s, P s → ∃ s' r, next s = Res.ok (s', r) ∧
      ((r = none ∧ G s = []) ∨ (∃ a, r = some a ∧ μ s' < μ s ∧ P s' ∧ G s = a :: G s'))) :
    ∀ fuel s, P s → μ s < fuel → Rs.drain next fuel s = Res.ok (G s) := by
  intro fuel
  induction fuel with
  | zero => intro s _ h; omega
  | succ fuel ih =>
    intro s hP hf
    obtain ⟨s', r, h1, h2⟩ := hstep s hP
    rcases h2 with ⟨h2, h3⟩ | ⟨a, h2, hμ, hP', h3⟩
    · subst h2
      rw [h3]
      exact Rs.drain_none _ _ _ _ h1
    · subst h2
      rw [h3]
      exact Rs.drain_some _ _ _ _ _ _ h1 (ih s' hP' (by omega))

/-- the same for an iterator whose state is a search window that only moves forward: it grows with every reported item, and the
model's list is empty from position `N` on -/
theorem drain_eq_of_advance {α : Type} {next : Nat → Res (Nat × Option α)} {G : Nat → List α} {P : Nat → Prop} {N : Nat}
    (hend : ∀ s, N ≤ s → G s = [])
    (hstep : ∀ s, P s → ∃ s' r, next s = Res.ok (s', r) ∧
      ((r = none ∧ G s = []) ∨ (∃ a, r = some a ∧ s < s' ∧ P s' ∧ G s = a :: G s'))) :
    ∀ fuel s, P s → N - s < fuel → Rs.drain next fuel s = Res.ok (G s) := by
  refine drain_eq_of_step next G P (fun s => N - s) ?_
  intro s hP
  obtain ⟨s', r, h1, h2⟩ := hstep s hP
  refine ⟨s', r, h1, ?_⟩
  rcases h2 with h2 | ⟨a, h2, hlt, hP', h3⟩
  · exact Or.inl h2
  · refine Or.inr ⟨a, h2, ?_, hP', h3⟩
    by_cases hN : N ≤ s
    · rw [hend s hN] at h3
      exact absurd h3 (List.cons_ne_nil _ _).symm
    · exact Nat.sub_lt_sub_left (Nat.lt_of_not_le hN) hlt

/-- **A translated skip search.** `loop fuel w` is the `while` loop of a translated `next`, `w = s + c` the position it carries
for the window that starts at `s`; `G w` is any function that gives the ascending list of the `P` from `s` on (the mirror model's loop).
A round may first move on to a window `s₁` from which `G` lists the same (Horspool's inner skip loop; `s₁ = s` otherwise).
If it then stops when `s₁` is beyond `N`, and else decides `s₁` by a `Verdict`, reporting `s₁` or going on `d` further, one
call returns `stop` where `G` is empty, and otherwise the head of `G`, leaving the window where `G` continues. -/
theorem window_next {β : Type} {loop : Nat → Nat → Res (Nat × β)} {rep : Nat → β} {stop : β} {P : Nat → Prop}
    {c N : Nat} {G : Nat → List Nat} (hG : ∀ s, AscFrom P s (G (s + c))) (hP : ∀ s, P s → s + c < N)
    (hround : ∀ fuel s, ∃ s₁, s ≤ s₁ ∧ G (s + c) = G (s₁ + c) ∧
      (N ≤ s₁ + c ∧ loop (fuel + 1) (s + c) = Res.ok (s₁ + c, stop) ∨
       s₁ + c < N ∧ ∃ b d, Verdict P s₁ b d ∧
        loop (fuel + 1) (s + c) = if b then Res.ok (s₁ + d + c, rep s₁) else loop fuel (s₁ + d + c))) :
    ∀ fuel s, N - (s + c) < fuel → ∃ w r, loop fuel (s + c) = Res.ok (w, r) ∧
      ((r = stop ∧ G (s + c) = []) ∨ (∃ v, r = rep v ∧ s + c < w ∧ c ≤ w ∧ G (s + c) = v :: G w)) := by
  intro fuel
  induction fuel with
  | zero => intro s h; exact absurd h (Nat.not_lt_zero _)
  | succ fuel ih =>
    intro s hf
    obtain ⟨s₁, hs, hG₁, ⟨h, he⟩ | ⟨h, b, d, v, he⟩⟩ := hround fuel s
    · exact ⟨_, _, he, Or.inl ⟨rfl, hG₁.trans ((hG s₁).eq_nil fun x hx hPx =>
        Nat.not_le_of_lt (hP x hPx) (Nat.le_trans h (Nat.add_le_add_right hx c)))⟩⟩
    · have hG' := hG₁.trans (v.eq_step (hG s₁) (hG (s₁ + d)))
      have hlt : s + c < s₁ + d + c :=
        Nat.add_lt_add_right (Nat.lt_of_le_of_lt hs (Nat.lt_add_of_pos_right v.pos)) c
      cases b with
      | true => exact ⟨_, _, he, Or.inr ⟨s₁, rfl, hlt, Nat.le_add_left _ _, hG'⟩⟩
      | false =>
        obtain ⟨w, r, h1, h2⟩ := ih (s₁ + d) (Nat.lt_of_lt_of_le
          (Nat.sub_lt_sub_left (Nat.lt_of_le_of_lt (Nat.add_le_add_right hs c) h) hlt) (Nat.le_of_lt_succ hf))
        refine ⟨w, r, he.trans h1, h2.imp (fun h3 => ⟨h3.1, hG'.trans h3.2⟩) ?_⟩
        rintro ⟨v', h3, h4, h5, h6⟩
        exact ⟨v', h3, Nat.lt_trans hlt h4, h5, hG'.trans h6⟩

/-- `window_next` for a loop without initial skip that returns `Some(Some(v))` / `None` and whose `next` joins the two (BNDM,
BOM): one call from a window position `w ≥ c`, read for the joined result -/
theorem window_next_join {loop : Nat → Nat → Res (Nat × Option (Option Nat))} {P : Nat → Prop} {c N : Nat}
    {G : Nat → List Nat} (hG : ∀ s, AscFrom P s (G (s + c))) (hP : ∀ s, P s → s + c < N)
    (hend : ∀ fuel s, N ≤ s + c → loop (fuel + 1) (s + c) = Res.ok (s + c, none))
    (hround : ∀ fuel s, s + c < N → ∃ b d, Verdict P s b d ∧
      loop (fuel + 1) (s + c) = if b then Res.ok (s + d + c, some (some s)) else loop fuel (s + d + c))
    (fuel w : Nat) (hw : c ≤ w) (hf : N - w < fuel) :
    ∃ w' r, loop fuel w = Res.ok (w', r) ∧
      ((r.join = none ∧ G w = []) ∨ (∃ v, r.join = some v ∧ w < w' ∧ c ≤ w' ∧ G w = v :: G w')) := by
  obtain ⟨s, rfl⟩ := Nat.exists_eq_add_of_le' hw
  obtain ⟨w', r, h1, h2⟩ := window_next (rep := fun v => some (some v)) (stop := none) hG hP
    (fun fuel s => ⟨s, Nat.le_refl s, rfl, (Nat.lt_or_ge (s + c) N).elim (fun h => Or.inr ⟨h, hround fuel s h⟩)
      fun h => Or.inl ⟨h, hend fuel s h⟩⟩) fuel s hf
  refine ⟨w', r, h1, ?_⟩
  rcases h2 with ⟨rfl, h3⟩ | ⟨v, rfl, h3⟩
  · exact Or.inl ⟨rfl, h3⟩
  · exact Or.inr ⟨v, rfl, h3⟩

end RbV.Thm.GenSrcIter
