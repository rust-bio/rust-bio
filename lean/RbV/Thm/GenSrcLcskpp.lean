import RbV.Gen.SrcLcskpp
import RbV.Model.Lcskpp
import RbV.Lemmas.LcskppFinal
import RbV.Thm.GenSrcFenwick
import RbV.Thm.GenSrcBasic
import RbV.Thm.GenSrcOk
import RbV.Thm.GenSrcSort
/-!
# C19 — the text of `sparse::lcskpp` (translated on every `./check C19`: `RbV/Gen/SrcLcskpp.lean`) equals the mirror model

`lcskpp_eq_model`: for every `sort_unstable` / `binary_search` that meet the contracts of std (`Rs.SortOk` on the derived
order of the event triples `(u32, u32, u32)`, `Rs.BSearchOk`), every strictly sorted match list with fewer than 2³¹ matches
whose coordinates `+ k` fit `u32`, and `k ≥ 1`, the translated function returns exactly what the model `Model.Lcskpp.lcskpp`
returns (path, score, the whole `dp_vector`): no panic (no index out of range, no overflow of the checked `u32` / `usize`
arithmetic, the assertion holds, the casts `as u32` / `as i32` / `as usize` do not change a value) and the traceback loop
ends by its own condition.  The proofs supply, per loop, the facts under which every checked operation succeeds and let
`simp` rewrite with them; for the sweep, `sweep_sim` carries the model's invariant (`Lemmas.Lcskpp.Inv`) along the sorted events
and `for3_start` / `for3_end` read these facts off it.  `fenwickNew_eq_model` (`FenwickTree::new`, unit `SrcFenwickNew`, which `lcskpp`
and `sdpkpp` call) stands here as well.
-/
-- the simp sets name every fact a harmless rewrite of the Rust text may need; on the present text some are unused
set_option linter.unusedSimpArgs false
namespace RbV.Thm.GenSrcLcskpp
open RbV RbV.Rs RbV.KChain RbV.QGram RbV.Model.Lcskpp RbV.Lemmas.Lcskpp RbV.Gen.SrcLcskpp
open RbV.Thm.GenSrc (idx_getD)

theorem ole_NI (a b : Nat × Int) : (ROrd.le a b : Bool) = (decide (a.1 < b.1) || (a.1 == b.1 && decide (a.2 ≤ b.2))) :=
  ole_cons a.1 b.1 a.2 b.2

theorem omax_NN : (Rs.omax (α := Nat × Nat)) = maxNN := by
  funext a b; simp only [Rs.omax, maxNN, ole_NN]

theorem omax_NI (a b : Nat × Int) : Rs.omax a b = maxNI a b := by
  simp only [Rs.omax, maxNI, ole_NI]

theorem olt_M (a b : M) : Rs.olt a b = mLt a b := by
  simp only [Rs.olt, mLt, ole_NN]
  rw [Bool.eq_iff_iff]
  simp only [Bool.or_eq_true, Bool.and_eq_true, Bool.not_eq_true', decide_eq_true_eq, decide_eq_false_iff_not, beq_iff_eq,
    Bool.or_eq_false_iff, Bool.and_eq_false_iff, bne_iff_ne, ne_eq, beq_eq_false_iff_ne]
  omega

theorem ole_Ev (a b : Ev) : (ROrd.le a b : Bool) = evLe a b :=
  (ole_cons a.1 b.1 a.2 b.2).trans (by rw [ole_NN]; rfl)

theorem evLe_antisymm (a b : Ev) (h1 : evLe a b = true) (h2 : evLe b a = true) : a = b := by
  rw [evLe_iff] at h1 h2
  obtain ⟨e1, h1, h2⟩ := lex_antisymm h1 h2
  obtain ⟨e2, h1, h2⟩ := lex_antisymm h1 h2
  exact Prod.ext e1 (Prod.ext e2 (Nat.le_antisymm h1 h2))

/-- **the sort**: whatever `sort_unstable` does, if it returns a permutation that is ascending in the derived order of the
triples it returns the model's event vector — the events are pairwise different -/
theorem sort_events (sortEv : List Ev → List Ev) (hsort : SortOk sortEv) (ms : List M) (k : Nat) :
    sortEv (eventsFrom ms.length k 0 ms) = sortedEvents ms k :=
  sort_eq_mergeSort evLe ole_Ev evLe_antisymm evLe_trans evLe_total sortEv hsort _

section
variable (sortEv : List Ev → List Ev) (bs : List M → M → Except Nat Nat)

theorem foldlM_unit {α : Type} (f : Unit → α → Res Unit) (l : List α) (h : ∀ a ∈ l, f () a = Res.ok ()) :
    List.foldlM f () l = Res.ok () := by
  induction l with
  | nil => rfl
  | cons a t ih =>
    rw [List.foldlM_cons, h a (by simp), Res.ok_bind]
    exact ih (fun b hb => h b (by simp [hb]))

theorem for1_ok (ms : List M) (hs : ms.Pairwise lexLt) :
    List.foldlM (lcskpp_for1 sortEv bs ms) () (List.range' 1 (ms.length - 1)) = Res.ok () := by
  apply foldlM_unit
  intro i hi
  rw [List.mem_range'_1] at hi
  have e1 : Rs.sub i 1 = Res.ok (i - 1) := Rs.sub_ok (by omega)
  have e2 : Rs.idx ms (i - 1) = Res.ok (mAt ms (i - 1)) := idx_getD ms _ _ (by omega)
  have e3 : Rs.idx ms i = Res.ok (mAt ms i) := idx_getD ms _ _ (by omega)
  have e4 : mLt (mAt ms (i - 1)) (mAt ms i) = true := (mLt_iff _ _).mpr (mAt_lexLt hs (by omega) (by omega))
  simp [lcskpp_for1, e1, e2, e3, olt_M, e4, Rs.assert]

theorem for2_fold (ms : List M) (k : Nat) :
    ∀ (l : List M) (i0 : Nat) (ev : List Ev) (n : Nat), (∀ m ∈ l, m.1 + k < 2 ^ 32 ∧ m.2 + k < 2 ^ 32) →
      i0 + l.length + ms.length ≤ 2 ^ 32 →
      List.foldlM (lcskpp_for2 sortEv bs ms k) (ev, n) (l.zipIdx i0)
        = Res.ok (ev ++ eventsFrom ms.length k i0 l, nFrom k n l) := by
  intro l
  induction l with
  | nil => intro i0 ev n _ _; simp [eventsFrom, nFrom]
  | cons m r ih =>
    intro i0 ev n hb hl
    obtain ⟨hx, hy⟩ := hb m (by simp)
    simp only [List.length_cons] at hl
    have e2 : Rs.cast 32 (i0 + ms.length) = i0 + ms.length := Nat.mod_eq_of_lt (by omega)
    have e5 : Rs.cast 32 i0 = i0 := Nat.mod_eq_of_lt (by omega)
    rw [List.zipIdx_cons, List.foldlM_cons]
    have hstep : lcskpp_for2 sortEv bs ms k (ev, n) (m, i0)
        = Res.ok (ev ++ [(m.1, m.2, i0 + ms.length), (m.1 + k, m.2 + k, i0)], max (max n (m.1 + k)) (m.2 + k)) := by
      simp (disch := omega) only [rs_ok, lcskpp_for2, Nat.add_comm ms.length i0, Nat.add_comm k m.1, Nat.add_comm k m.2, e2, e5,
        List.append_assoc, List.cons_append, List.nil_append]
    rw [hstep, Res.ok_bind, ih (i0 + 1) _ _ (fun m' hm' => hb m' (by simp [hm'])) (by omega)]
    simp [eventsFrom, nFrom]

theorem sortedEvents_length (ms : List M) (k : Nat) : (sortedEvents ms k).length = 2 * ms.length := by
  unfold sortedEvents; rw [List.length_mergeSort, eventsFrom_length]

/-- `FenwickTree::new` as written in the source = the model's `new` -/
theorem fenwickNew_eq_model {α : Type} (dflt : α) (len : Nat) (h : len + 1 < 2 ^ 64) :
    RbV.Gen.SrcFenwickNew.new dflt len = Res.ok (Model.Fenwick.new dflt len) := by
  simp [RbV.Gen.SrcFenwickNew.new, Model.Fenwick.new, Rs.add_ok h]

/-- what keeps the machine arithmetic of `lcskpp` inside its types: fewer than 2³¹ matches (`idx + len` fits `u32`, match
indices fit `i32`), every coordinate `+ k` fits `u32` -/
structure Bnd (ms : List M) (k : Nat) : Prop where
  len : ms.length < 2 ^ 31
  xy : ∀ m ∈ ms, m.1 + k < 2 ^ 32 ∧ m.2 + k < 2 ^ 32

theorem F_lt {ms : List M} {k : Nat} (hk : 0 < k) (hs : ms.Pairwise lexLt) (hB : Bnd ms k) {p : Nat} (hp : p < ms.length) :
    F ms k p < 2 ^ 32 := by
  have h1 := F_le hk hs p hp
  have h2 := hB.xy _ (mAt_mem hp)
  omega

theorem tree_length {ms : List M} {k : Nat} {done : List Ev} {s : St} (hI : Inv ms k done s) :
    s.tree.length = nFrom k 0 ms + 1 := by
  obtain ⟨ups, ht, _⟩ := hI.tree
  rw [ht, Lemmas.Fenwick.length_run]

theorem nFrom_lt {ms : List M} {k : Nat} (hB : Bnd ms k) : nFrom k 0 ms < 2 ^ 32 := by
  have := nFrom_le k (2 ^ 32 - 1) ms 0 (by omega) (fun m hm => by have := hB.xy m hm; omega)
  omega

/-- `binary_search` by its contract on a strictly ascending slice returns what the linear search `findG` returns (as `Ok`),
or some `Err`; for any element type whose `<` is irreflexive -/
theorem bsearch_find {α : Type} [DecidableEq α] [ROrd α] (bs : List α → α → Except Nat Nat) (hbs : BSearchOk bs) {l : List α}
    (hpw : l.Pairwise (fun a b => Rs.olt a b = true)) (hirr : ∀ a : α, Rs.olt a a = false) (key : α) :
    match findG key 0 l with
    | some c => bs l key = .ok c ∧ c < l.length
    | none => ∃ i, bs l key = .error i := by
  obtain ⟨h1, h2⟩ := hbs l key hpw
  cases hf : findG key 0 l with
  | none =>
    cases hb : bs l key with
    | error i => exact ⟨i, rfl⟩
    | ok i => exact absurd (List.mem_of_getElem? (h1 i hb)) (findG_none hf)
  | some c =>
    obtain ⟨j, hcj, hlc⟩ := findG_some hf
    have hc : c = j := by omega
    subst hc
    obtain ⟨hcl, hce⟩ := List.getElem?_eq_some_iff.mp hlc
    cases hb : bs l key with
    | error i => exact absurd (List.mem_of_getElem? hlc) (h2 i hb)
    | ok i =>
      obtain ⟨hil, hie⟩ := List.getElem?_eq_some_iff.mp (h1 i hb)
      -- two positions holding the key coincide: otherwise `key < key`
      have : i = c := by
        rcases Nat.lt_trichotomy i c with h | h | h
        · have := List.pairwise_iff_getElem.mp hpw i c hil hcl h; rw [hie, hce, hirr] at this; cases this
        · exact h
        · have := List.pairwise_iff_getElem.mp hpw c i hcl hil h; rw [hie, hce, hirr] at this; cases this
      subst this
      exact ⟨rfl, hcl⟩

theorem bs_find (bs : List M → M → Except Nat Nat) (hbs : BSearchOk bs) {ms : List M} (hs : ms.Pairwise lexLt) (key : M) :
    match findFrom key 0 ms with
    | some c => bs ms key = .ok c
    | none => ∃ i, bs ms key = .error i := by
  have h := bsearch_find bs hbs (hs.imp (fun {a b} h => by rw [olt_M]; exact (mLt_iff a b).mpr h))
    (fun a => by rw [olt_M, Bool.eq_false_iff, Ne, mLt_iff]; simp [lexLt]) key
  rw [findFrom_eq]
  split <;> rename_i hf <;> rw [hf] at h
  · exact h.1
  · exact h

/-- the guarded `binary_search` of an end event, seen from the model's `contLookup` -/
theorem contLookup_bs (bs : List M → M → Except Nat Nat) (hbs : BSearchOk bs) {ms : List M} (hs : ms.Pairwise lexLt) (k p : Nat) :
    match contLookup ms k p with
    | some c => 0 < (mAt ms p).1 ∧ 0 < (mAt ms p).2 ∧ bs ms ((mAt ms p).1 - 1, (mAt ms p).2 - 1) = .ok c
    | none => 0 < (mAt ms p).1 → 0 < (mAt ms p).2 → ∃ i, bs ms ((mAt ms p).1 - 1, (mAt ms p).2 - 1) = .error i := by
  have hb := bs_find bs hbs hs ((mAt ms p).1 - 1, (mAt ms p).2 - 1)
  unfold contLookup
  simp only [Nat.add_sub_cancel, gt_iff_lt, Nat.lt_add_left_iff_pos, Bool.and_eq_true, decide_eq_true_eq]
  by_cases h : 0 < (mAt ms p).1 ∧ 0 < (mAt ms p).2
  · rw [if_pos h]
    cases hc : findFrom ((mAt ms p).1 - 1, (mAt ms p).2 - 1) 0 ms with
    | none => rw [hc] at hb; exact fun _ _ => hb
    | some c => rw [hc] at hb; exact ⟨h.1, h.2, hb⟩
  · rw [if_neg h]
    exact fun hx hy => absurd ⟨hx, hy⟩ h

/-- `ev.2 % len` on a start event `(_, _, p + len)` -/
theorem rem_start {len p : Nat} (hp : p < len) : Rs.rem (p + len) len = Res.ok p := by
  rw [Rs.rem_ok (by omega), Nat.add_mod_right, Nat.mod_eq_of_lt hp]

/-- `ev.2 % len` on an end event `(_, _, p)` -/
theorem rem_end {len p : Nat} (hp : p < len) : Rs.rem p len = Res.ok p := by
  rw [Rs.rem_ok (by omega), Nat.mod_eq_of_lt hp]

/-! Each `run` lemma executes one branch of `lcskpp_for3` on a state and an event given by variables, under exactly the facts
that keep its checked operations from panicking; what the Fenwick tree returns enters as a hypothesis. -/

theorem for3_start_run (ms : List M) (k : Nat)
    (tree : List (Nat × Nat)) (dp : List (Nat × Int)) (best : Nat × Int) (x y p bv bp : Nat)
    (hlen : ms.length < 2 ^ 31) (hp : p < ms.length) (hdp : p < dp.length)
    (hget : RbV.Gen.SrcFenwick.get (Rs.omax (α := Nat × Nat)) (0, 0) tree y = Res.ok (bv, bp))
    (hfit : 0 < bv → k + bv < 2 ^ 32 ∧ bp < 2 ^ 31) :
    lcskpp_for3 sortEv bs ms k (tree, dp, best) (x, y, p + ms.length) = Res.ok
      (if 0 < bv then (tree, dp.set p (k + bv, (bp : Int)), maxNI best (k + bv, (p : Int))) else (tree, dp.set p (k, -1), best)) := by
  have ecast : Rs.cast 32 ms.length = ms.length := Nat.mod_eq_of_lt (by omega)
  have ege : ms.length ≤ p + ms.length := Nat.le_add_left _ _
  have ecs : Rs.castSigned 32 p = (p : Int) := Rs.castSigned_of_lt (by omega)
  have eset2 := fun v w => GenSrc.setIdx_set dp p v w hdp
  simp only [lcskpp_for3, ecast, rem_start hp, ge_iff_le, ege, decide_true, ↓reduceIte, Rs.setIdx_ok hdp, hget,
    gt_iff_lt, decide_eq_true_eq, Res.ok_bind, Res.pure_eq_ok]
  by_cases hpos : 0 < bv
  · obtain ⟨hadd, hbp⟩ := hfit hpos
    -- the addition with commuted operands, so that `best_value + k` re-proves
    have eadd' : Rs.add 32 bv k = Res.ok (k + bv) := Rs.add_ok_comm hadd
    simp only [hpos, ↓reduceIte, Rs.add_ok hadd, eadd', eset2, GenSrc.idx_set_self dp p _ hdp, Rs.toSigned_of_lt (w := 32) hbp, ecs, omax_NI,
      Res.ok_bind, Res.pure_eq_ok]
  · simp only [hpos, ↓reduceIte, Res.ok_bind, Res.pure_eq_ok]

/-- an end event at `(x + k, y + k)` whose diagonal predecessor `(x - 1, y - 1)` is not a match -/
theorem for3_end_run_none (ms : List M) (k : Nat)
    (tree tree' : List (Nat × Nat)) (dp : List (Nat × Int)) (best : Nat × Int) (x y p : Nat)
    (hlen : ms.length < 2 ^ 31) (hp : p < ms.length) (hdp : p < dp.length)
    (hno : 0 < x → 0 < y → ∃ i, bs ms (x - 1, y - 1) = .error i)
    (hset : RbV.Gen.SrcFenwick.set (Rs.omax (α := Nat × Nat)) (0, 0) tree (y + k) ((dp.getD p (0, 0)).1, p) = Res.ok tree') :
    lcskpp_for3 sortEv bs ms k (tree, dp, best) (x + k, y + k, p) = Res.ok (tree', dp, best) := by
  have ecast : Rs.cast 32 ms.length = ms.length := Nat.mod_eq_of_lt (by omega)
  have ecastp : Rs.cast 32 p = p := Nat.mod_eq_of_lt (by omega)
  have ege : ¬ ms.length ≤ p := Nat.not_le_of_lt hp
  simp only [lcskpp_for3, ecast, ecastp, rem_end hp, ge_iff_le, ege, decide_false, Bool.false_eq_true, ↓reduceIte, Res.ok_bind]
  by_cases hxy : 0 < x ∧ 0 < y
  · obtain ⟨i, hi⟩ := hno hxy.1 hxy.2
    have hxk : k < x + k := by omega
    have hyk : k < y + k := by omega
    simp only [gt_iff_lt, hxk, hyk, decide_true, Bool.and_self, ↓reduceIte, Rs.sub_ok (Nat.le_add_left k _), Nat.add_sub_cancel,
      Rs.sub_ok hxy.1, Rs.sub_ok hxy.2, hi, Res.ok_bind, Res.pure_eq_ok, idx_getD dp p (0, 0) hdp, hset]
  · have hxk : ¬ (k < x + k ∧ k < y + k) := by omega
    simp only [gt_iff_lt, Bool.and_eq_true, decide_eq_true_eq, hxk, ↓reduceIte, Res.ok_bind, Res.pure_eq_ok,
      idx_getD dp p (0, 0) hdp, hset]

/-- an end event at `(x + k, y + k)` whose diagonal predecessor `(x - 1, y - 1)` is the match `c` -/
theorem for3_end_run_some (ms : List M) (k : Nat)
    (tree tree' : List (Nat × Nat)) (dp : List (Nat × Int)) (best : Nat × Int) (x y p c : Nat)
    (hlen : ms.length < 2 ^ 31) (hp : p < ms.length) (hdp : p < dp.length)
    (hx : 0 < x) (hy : 0 < y) (hbs : bs ms (x - 1, y - 1) = .ok c) (hc : c < dp.length) (hc31 : c < 2 ^ 31)
    (hadd : (dp.getD c (0, 0)).1 + 1 < 2 ^ 32)
    (hset : RbV.Gen.SrcFenwick.set (Rs.omax (α := Nat × Nat)) (0, 0) tree (y + k)
      ((maxNI (dp.getD p (0, 0)) ((dp.getD c (0, 0)).1 + 1, (c : Int))).1, p) = Res.ok tree') :
    lcskpp_for3 sortEv bs ms k (tree, dp, best) (x + k, y + k, p)
      = Res.ok (tree', dp.set p (maxNI (dp.getD p (0, 0)) ((dp.getD c (0, 0)).1 + 1, (c : Int))),
          maxNI best ((maxNI (dp.getD p (0, 0)) ((dp.getD c (0, 0)).1 + 1, (c : Int))).1, (p : Int))) := by
  have ecast : Rs.cast 32 ms.length = ms.length := Nat.mod_eq_of_lt (by omega)
  have ecastp : Rs.cast 32 p = p := Nat.mod_eq_of_lt (by omega)
  have ege : ¬ ms.length ≤ p := Nat.not_le_of_lt hp
  have hxk : k < x + k := by omega
  have hyk : k < y + k := by omega
  have ecs : Rs.castSigned 32 p = (p : Int) := Rs.castSigned_of_lt (by omega)
  have eadd' : Rs.add 32 1 (dp.getD c (0, 0)).1 = Res.ok ((dp.getD c (0, 0)).1 + 1) := Rs.add_ok_comm hadd
  simp only [lcskpp_for3, ecast, ecastp, rem_end hp, ge_iff_le, ege, decide_false, Bool.false_eq_true, ↓reduceIte, Res.ok_bind,
    gt_iff_lt, hxk, hyk, decide_true, Bool.and_self, Rs.sub_ok (Nat.le_add_left k _), Nat.add_sub_cancel,
    Rs.sub_ok hx, Rs.sub_ok hy, hbs, Res.pure_eq_ok, idx_getD dp p (0, 0) hdp, idx_getD dp c (0, 0) hc, Rs.add_ok hadd, eadd',
    Rs.castSigned_of_lt (w := 32) hc31, ecs, Rs.setIdx_ok hdp, GenSrc.idx_set_self dp p _ hdp, omax_NI, hset]

theorem for3_start {ms : List M} {k : Nat} (hB : Bnd ms k)
    (hk : 0 < k) (hs : ms.Pairwise lexLt) {done : List Ev} {s : St} {p : Nat} (hI : Inv ms k done s) (hp : p < ms.length) (hev : Pos ms k done (startEv ms p)) :
    lcskpp_for3 sortEv bs ms k (s.tree, s.dp, s.best) (startEv ms p)
      = Res.ok ((stepEv ms k s (startEv ms p)).tree, (stepEv ms k s (startEv ms p)).dp, (stepEv ms k s (startEv ms p)).best) := by
  have hlen := hB.len
  obtain ⟨hq1, hq2⟩ := query_spec hk hs hI hp hev
  have hy : (mAt ms p).2 + k ≤ nFrom k 0 ms := (nFrom_ge k ms 0 _ (mAt_mem hp)).2
  have hn32 := nFrom_lt hB
  have eget : RbV.Gen.SrcFenwick.get (Rs.omax (α := Nat × Nat)) (0, 0) s.tree (mAt ms p).2
      = Res.ok (Model.Fenwick.get maxNN (0, 0) s.tree (mAt ms p).2) := by
    rw [omax_NN]; exact GenSrcFenwick.get_eq_model _ _ _ _ (by rw [tree_length hI]; omega) (by rw [tree_length hI]; omega)
  have hFp := F_lt hk hs hB hp
  rw [F_rec hk hs hp] at hFp
  rw [stepEv_start ms k s p hp hI.len_dp]
  generalize Model.Fenwick.get maxNN (0, 0) s.tree (mAt ms p).2 = b at hq1 hq2 eget
  have hfit : 0 < b.1 → k + b.1 < 2 ^ 32 ∧ b.2 < 2 ^ 31 := fun hpos => by
    obtain ⟨q, hq, hb2, -, -, -⟩ := hq2 hpos
    omega
  unfold startEv
  rw [for3_start_run sortEv bs ms k _ _ _ _ _ p _ _ hlen hp (by rw [hI.len_dp]; omega) eget hfit]
  by_cases hpos : 0 < b.1
  · rw [if_pos hpos, if_pos hpos]
  · rw [if_neg hpos, if_neg hpos]

theorem for3_end (hbs : BSearchOk bs) {ms : List M} {k : Nat}
    (hB : Bnd ms k) (hk : 0 < k) (hs : ms.Pairwise lexLt) {done : List Ev} {s : St} {p : Nat} (hI : Inv ms k done s)
    (hp : p < ms.length) (hev : Pos ms k done (endEv ms k p)) :
    lcskpp_for3 sortEv bs ms k (s.tree, s.dp, s.best) (endEv ms k p)
      = Res.ok ((stepEv ms k s (endEv ms k p)).tree, (stepEv ms k s (endEv ms k p)).dp, (stepEv ms k s (endEv ms k p)).best) := by
  have hlen := hB.len
  have hdp : p < s.dp.length := by rw [hI.len_dp]; omega
  have hn32 := nFrom_lt hB
  have hxy := hB.xy _ (mAt_mem hp)
  have hset : ∀ v, RbV.Gen.SrcFenwick.set (Rs.omax (α := Nat × Nat)) (0, 0) s.tree ((mAt ms p).2 + k) v
      = Res.ok (Model.Fenwick.set maxNN (0, 0) s.tree ((mAt ms p).2 + k) v) := fun v => by
    rw [omax_NN]; exact GenSrcFenwick.set_eq_model _ _ _ _ _ (by omega) (by rw [tree_length hI]; omega)
  have hfind := contLookup_bs bs hbs hs k p
  cases hlook : contLookup ms k p with
  | none =>
    rw [hlook] at hfind
    rw [stepEv_end_none ms k s p hp hlook]
    exact for3_end_run_none sortEv bs ms k _ _ _ _ _ _ p hlen hp hdp hfind (hset _)
  | some c =>
    rw [hlook] at hfind
    obtain ⟨hx, hy, hb⟩ := hfind
    rw [stepEv_end_some ms k s p c hp hI.len_dp hlook]
    obtain ⟨hc, hcont⟩ := contLookup_some hlook
    simp only [cont, Bool.and_eq_true, beq_iff_eq] at hcont
    have hadd : (s.dp.getD c (0, 0)).1 + 1 < 2 ^ 32 := by
      have hFc : (s.dp.getD c (0, 0)).1 = F ms k c := hI.ended c hc (cont_end_done hlook hev)
      have hFle := F_le hk hs c hc
      omega
    exact for3_end_run_some sortEv bs ms k _ _ _ _ _ _ p c hlen hp hdp hx hy hb (by rw [hI.len_dp]; omega) (by omega) hadd (hset _)

/-- **a translated sweep loop follows the model's sweep**: if on every state the invariant `I` allows the translated body
returns the encoding of the model's step, and `I` is kept along the sweep (`sweep_ind`), the loop over the sorted events returns
the encoding of the model's final state -/
theorem sweep_sim {S σ : Type} {ms : List M} {k : Nat} {step : S → Ev → S} {I : List Ev → S → Prop} (body : σ → Ev → Res σ) (enc : S → σ)
    (hstart : ∀ {done s p}, I done s → p < ms.length → Pos ms k done (startEv ms p) →
      body (enc s) (startEv ms p) = Res.ok (enc (step s (startEv ms p))) ∧ I (done ++ [startEv ms p]) (step s (startEv ms p)))
    (hend : ∀ {done s p}, I done s → p < ms.length → Pos ms k done (endEv ms k p) →
      body (enc s) (endEv ms k p) = Res.ok (enc (step s (endEv ms k p))) ∧ I (done ++ [endEv ms k p]) (step s (endEv ms k p)))
    {s0 : S} (h0 : I [] s0) :
    List.foldlM body (enc s0) (sortedEvents ms k) = Res.ok (enc ((sortedEvents ms k).foldl step s0)) := by
  have snoc : ∀ {done : List Ev} {s : S} {e : Ev}, List.foldlM body (enc s0) done = Res.ok (enc s) →
      body (enc s) e = Res.ok (enc (step s e)) → List.foldlM body (enc s0) (done ++ [e]) = Res.ok (enc (step s e)) := by
    intro done s e h1 h2
    rw [List.foldlM_append, h1, Res.ok_bind, List.foldlM_cons, h2, Res.ok_bind]; rfl
  exact (sweep_ind (I := fun done s => I done s ∧ List.foldlM body (enc s0) done = Res.ok (enc s))
    (fun hJ hp h => have h := hstart hJ.1 hp h; ⟨h.2, snoc hJ.2 h.1⟩)
    (fun hJ hp h => have h := hend hJ.1 hp h; ⟨h.2, snoc hJ.2 h.1⟩) ⟨h0, rfl⟩ (List.append_nil _).symm).2

theorem for3_fold (hbs : BSearchOk bs) {ms : List M} {k : Nat}
    (hB : Bnd ms k) (hk : 0 < k) (hs : ms.Pairwise lexLt) :
    List.foldlM (lcskpp_for3 sortEv bs ms k) ((initSt ms k).tree, (initSt ms k).dp, (initSt ms k).best) (sortedEvents ms k)
      = Res.ok ((sweep ms k).tree, (sweep ms k).dp, (sweep ms k).best) :=
  sweep_sim (I := Inv ms k) _ (fun s => (s.tree, s.dp, s.best))
    (fun hI hp h => ⟨for3_start sortEv bs hB hk hs hI hp h, inv_step_start hk hs hI hp h⟩)
    (fun hI hp h => ⟨for3_end sortEv bs hbs hB hk hs hI hp h, inv_step_end hk hs hI hp h⟩)
    (inv_init ms k)

theorem while_eq (dp : List (Nat × Int)) (hdp : dp.length < 2 ^ 63) :
    ∀ (fuel : Nat) (prev : Int) (tb l : List Nat), traceLoop dp fuel prev = some l → (∀ i ∈ l, i < dp.length) →
      ∃ pm, lcskpp_while1 sortEv bs dp fuel (tb, prev) = Res.ok (tb ++ l, pm) := by
  intro fuel
  induction fuel with
  | zero => intro prev tb l h; simp [traceLoop] at h
  | succ f ih =>
    intro prev tb l h hall
    rw [traceLoop] at h
    by_cases hge : prev ≥ 0
    · rw [if_pos hge] at h
      cases hrec : traceLoop dp f (dp.getD prev.toNat (0, 0)).2 with
      | none => rw [hrec] at h; cases h
      | some l' =>
        rw [hrec] at h
        simp only [Option.map_some, Option.some.injEq] at h
        subst h
        have hi : prev.toNat < dp.length := hall _ (by simp)
        have ecu : Rs.castUnsigned 64 prev = prev.toNat := by
          have e : prev = ((prev.toNat : Nat) : Int) := by omega
          rw [e, Rs.castUnsigned_natCast (by omega)]; omega
        have eidx : Rs.idx dp prev.toNat = Res.ok (dp.getD prev.toNat (0, 0)) := idx_getD _ _ _ hi
        obtain ⟨pm, hpm⟩ := ih (dp.getD prev.toNat (0, 0)).2 (tb ++ [prev.toNat]) l' hrec (fun i hi' => hall i (by simp [hi']))
        refine ⟨pm, ?_⟩
        rw [List.getD_eq_getElem?_getD] at hpm
        rw [lcskpp_while1]
        simp [hge, ecu, eidx, hpm]
    · rw [if_neg hge] at h
      simp only [Option.some.injEq] at h
      subst h
      refine ⟨prev, ?_⟩
      rw [lcskpp_while1]
      simp [hge]

/-- **`sparse::lcskpp` as written in the source = the mirror model**, for every `sort_unstable` / `binary_search` meeting
the contracts of std: same path, same score, same `dp_vector`; no panic, the traceback loop ends by its own condition. -/
theorem lcskpp_eq_model (hsort : SortOk sortEv)
    (hbs : BSearchOk bs) (ms : List M) (k : Nat) (hk : 0 < k) (hs : ms.Pairwise lexLt) (hB : Bnd ms k) :
    ∃ r, Model.Lcskpp.lcskpp ms k = .ok r ∧ Gen.SrcLcskpp.lcskpp sortEv bs ms k = Res.ok (r.path, r.score, r.dp) := by
  cases hms : ms with
  | nil => exact ⟨{ path := [], score := 0, dp := [] }, by simp [Model.Lcskpp.lcskpp], by simp [Gen.SrcLcskpp.lcskpp]⟩
  | cons m0 rest0 =>
    rw [← hms]
    have hne : 0 < ms.length := by rw [hms]; simp
    have hemp : ms.isEmpty = false := by rw [hms]; rfl
    have hsorted : sortedStrict ms = true := (sortedStrict_iff ms).mpr hs
    have hlen := hB.len
    obtain ⟨⟨p, hp, hb2, hb1⟩, _⟩ := final_best hk hs hne
    obtain ⟨tb, ht, hall, -, -, -⟩ := trace_spec hk hs p hp (ms.length + 1) (by omega)
    refine ⟨{ path := (p :: tb).reverse, score := (sweep ms k).best.1, dp := (sweep ms k).dp }, ?_, ?_⟩
    · unfold Model.Lcskpp.lcskpp
      simp only [hemp, hsorted, Bool.false_eq_true, if_false, Bool.not_true, hb2, ht]
    · have hk32 : k < 2 ^ 32 := by have := (hB.xy m0 (by rw [hms]; simp)).1; omega
      have ek : Rs.cast 32 k = k := Nat.mod_eq_of_lt hk32
      have e1 := for1_ok sortEv bs ms hs
      have e2 := for2_fold sortEv bs ms k ms 0 [] 0 hB.xy (by omega)
      rw [List.nil_append] at e2
      have e3 := sort_events sortEv hsort ms k
      have e4 : RbV.Gen.SrcFenwickNew.new ((0, 0) : Nat × Nat) (nFrom k 0 ms) = Res.ok (Model.Fenwick.new (0, 0) (nFrom k 0 ms)) :=
        fenwickNew_eq_model _ _ (by have := nFrom_lt hB; omega)
      have e5 : Rs.resize ([] : List (Nat × Int)) (sortedEvents ms k).length (0, (0 : Int)) = List.replicate (2 * ms.length) (0, 0) := by
        simp [Rs.resize, sortedEvents_length]
      have e6 := for3_fold sortEv bs hbs hB hk hs
      simp only [initSt] at e6
      have hdpl : (sweep ms k).dp.length = 2 * ms.length := (sweep_inv hk hs).len_dp
      obtain ⟨pm, e7⟩ := while_eq sortEv bs (sweep ms k).dp (by omega) (ms.length + 1) (p : Int) [] (p :: tb) ht
        (fun i hi => by have := hall i hi; omega)
      have hbest : (sweep ms k).best = ((sweep ms k).best.1, (p : Int)) := by rw [← hb2]
      unfold Gen.SrcLcskpp.lcskpp
      simp only [hemp, Bool.false_eq_true, if_false, ek, e1, e2, e3, e4, e5, e6, Res.ok_bind, Res.pure_eq_ok, bind_pure_comp]
      rw [hbest]
      simp only [e7, Res.ok_bind, List.nil_append, Functor.map, Res.bind]

end

/-! ### the contracts are satisfiable (used by the non-vacuity examples) -/

/-- a `sort_unstable` meeting `SortOk`: merge sort by the derived order -/
def stdSortEv (l : List Ev) : List Ev := l.mergeSort (fun a b => Rs.ole a b)

theorem stdSortEv_ok : SortOk stdSortEv := by
  intro l
  refine ⟨List.mergeSort_perm _ _, ?_⟩
  have h := List.pairwise_mergeSort (le := fun a b : Ev => Rs.ole a b)
    (fun a b c h1 h2 => by simp only [Rs.ole, ole_Ev] at h1 h2 ⊢; exact evLe_trans a b c h1 h2)
    (fun a b => by simp only [Rs.ole, ole_Ev]; exact evLe_total a b) l
  exact h

/-- a `binary_search` meeting `BSearchOk`, for any element type: first position holding the key -/
def stdBs {α : Type} [DecidableEq α] (l : List α) (key : α) : Except Nat Nat :=
  match findG key 0 l with
  | some i => .ok i
  | none => .error 0

theorem stdBs_ok {α : Type} [DecidableEq α] [ROrd α] : BSearchOk (stdBs (α := α)) := by
  intro l key _
  unfold stdBs
  constructor
  · intro i h
    cases hf : findG key 0 l with
    | none => rw [hf] at h; cases h
    | some c =>
      rw [hf] at h
      obtain ⟨j, hcj, hm⟩ := findG_some hf
      have : i = j := by cases h; omega
      rw [this]; exact hm
  · intro i h
    cases hf : findG key 0 l with
    | none => exact findG_none hf
    | some c => rw [hf] at h; cases h

/-- a `binary_search` meeting `BSearchOk`: first position holding the key -/
def stdBsM (l : List M) (key : M) : Except Nat Nat :=
  match findFrom key 0 l with
  | some i => .ok i
  | none => .error 0

theorem stdBsM_ok : BSearchOk stdBsM := by
  have e : stdBsM = stdBs := by funext l key; simp only [stdBsM, stdBs, findFrom_eq]
  rw [e]; exact stdBs_ok

end RbV.Thm.GenSrcLcskpp
