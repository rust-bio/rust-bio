import RbV.Gen.SrcIdxFa
import RbV.Model.IndexedFasta
import RbV.Lemmas.IndexedFasta
import RbV.Lemmas.IndexedFastaSrc
import RbV.Thm.GenSrcTactics
import RbV.Thm.GenSrcOk
/-!
# The translated `IndexedReader` (`RbV/Gen/SrcIdxFa.lean`) against the mirror model and the property C12

The generated definitions take the reader as an opaque value with the operations `fillBuf`, `consume`, `seekStart` (their
parameter names in `Gen/SrcIdxFa.lean`).  Here these are `fillBufOp`, `consumeOp`, `seekOp`: the reader of the mirror model
(`IdxFa.St`: the file from the current position on, the number of buffered bytes, the refill counter; `sched` = the chunk
schedule) — trusted: std's `BufReader` over a `Read + Seek` behaves like that.

The route: `seekTo_eq_model`; one `read_line` call, `readLine_step` / `readLine_eof` (`StepPost` / `EofPost` over `StepOk`); the loops
`while1_spec`, `fill_while_spec` (by `inv_step` and `Cut.advance` of `Lemmas/IndexedFastaSrc.lean`) → `readIntoBuffer_eq_model`;
`fillBuffer_spec` → `drain_spec` → `iter_eq_model` / `iter_eq_readIter`; the fetch / `read` glue at the end.
-/
set_option linter.unusedSimpArgs false
namespace RbV.Thm.GenSrcIdxFa
open RbV RbV.Rs RbV.IdxFa RbV.Fastx RbV.Thm.GenSrc
open RbV.Gen.SrcIdxFa (IndexRecord)

/-- `BufRead::fill_buf` of the model reader: refill when nothing is buffered, hand out the buffered bytes; never fails -/
@[reducible] def fillBufOp (sched : Nat → Nat) (s : St) : Except IoErr (List Nat) × St :=
  (.ok ((IdxFa.fillBuf sched s).rest.take (IdxFa.fillBuf sched s).avail), IdxFa.fillBuf sched s)
/-- `BufRead::consume` -/
@[reducible] def consumeOp (s : St) (n : Nat) : St := IdxFa.consume s n
/-- `Seek::seek(SeekFrom::Start(o))` on a `BufReader`: the buffer is discarded, the schedule restarts; never fails -/
@[reducible] def seekOp (file : Bytes) (_ : St) (o : Nat) : Except IoErr Nat × St :=
  (.ok o, { rest := file.drop o, avail := 0, k := 0 })
/-- the `.fai` entry as the Rust struct (without the name) -/
@[reducible] def toRec (idx : Idx) : IndexRecord := ⟨idx.len, idx.off, idx.lb, idx.lB⟩

def eofErr : IoErr := ⟨"UnexpectedEof", "FASTA file is truncated."⟩
def oobErr : IoErr := ⟨"Other", "FASTA read interval was out of bounds"⟩
def intervalErr : IoErr := ⟨"Other", "Invalid query interval"⟩

/-- `seek_to` = the model's `seekTo`: seeks to `offset + (start / line_bases) * line_bytes + start % line_bases`, returns
the column `start % line_bases` (no overflow: the target offset fits `u64`) -/
theorem seekTo_eq_model (file : Bytes) (idx : Idx) (start : Nat) (s : St)
    (hlb : 0 < idx.lb) (hst : start ≤ idx.len) (hfit : pos idx start < 2 ^ 64) :
    Gen.SrcIdxFa.seekTo (seekOp file) s (toRec idx) start =
      Res.ok (.ok (IdxFa.seekTo file idx start).2, (IdxFa.seekTo file idx start).1) := by
  unfold pos at hfit
  have e0 : Rs.assert (decide (start ≤ idx.len)) = Res.ok () := Rs.assert_ok (by simpa using hst)
  have hc := Nat.mul_comm idx.lB (start / idx.lb)
  simp (disch := omega) only [rs_ok, Gen.SrcIdxFa.seekTo, e0, hc, Nat.add_comm _ idx.off]
  simp [IdxFa.seekTo, pos]

/-- `seek_to` refuses a start behind the end of the record (`assert!`) -/
theorem seekTo_oob_panics (file : Bytes) (idx : Idx) (start : Nat) (s : St) (hst : idx.len < start) :
    Gen.SrcIdxFa.seekTo (seekOp file) s (toRec idx) start = Res.panic := by
  have : ¬ start ≤ idx.len := by omega
  simp [Gen.SrcIdxFa.seekTo, Rs.assert, this]

/-- outcome of a `read_line` call that the callers can work with: `Ok(n)`, `tr` bytes consumed from the refilled
buffer, the first `n` of them appended to the output, `StepOk` -/
inductive StepPost (sched : Nat → Nat) (idx : Idx) (s : St) (lo bl : Nat) (buf : Bytes) :
    Res (Except IoErr Nat × St × Nat × List Nat) → Prop where
  | mk (tr n lo' : Nat) (out : Bytes) (hout : out = buf ++ s.rest.take n)
      (ok : StepOk idx (IdxFa.fillBuf sched s).avail lo bl tr n lo') :
      StepPost sched idx s lo bl buf (Res.ok (.ok n, IdxFa.consume (IdxFa.fillBuf sched s) tr, lo', out))

/-- … and at the end of the file: the truncation error -/
inductive EofPost : Res (Except IoErr Nat × St × Nat × List Nat) → Prop where
  | mk (s' : St) (lo' : Nat) (buf' : Bytes) : EofPost (Res.ok (.error eofErr, s', lo', buf'))

theorem readLine_eof (sched : Nat → Nat) (idx : Idx) (s : St) (lo bl : Nat) (buf : Bytes)
    (hr : s.rest = []) (hav : s.avail ≤ s.rest.length) :
    EofPost (Gen.SrcIdxFa.readLine (fillBufOp sched) consumeOp s (toRec idx) lo bl buf) := by
  have h0 := fillBuf_avail_nil sched s hr hav
  have hr' := fillBuf_rest sched s
  simp only [Gen.SrcIdxFa.readLine, fillBufOp, h0, hr', hr, List.take_nil, List.isEmpty_nil, if_true,
    Res.pure_eq_ok, List.take_zero, ite_true]
  exact EofPost.mk _ _ _

/-- the column reset `if *line_offset >= idx.line_bytes { *line_offset = 0; }` only chooses the column of the result -/
theorem ite_col {α β γ : Type} {c : Prop} [Decidable c] (r : α) (s : β) (l₁ l₂ : Nat) (o : γ) :
    (if c then (r, s, l₁, o) else (r, s, l₂, o)) = (r, s, (if c then l₁ else l₂), o) := by
  split <;> rfl

/-- **One successful `read_line` call** (hard obligation, branch-agnostic proof): on a stream that is not at its end,
from a state with the loop invariant, the translated `read_line` returns `Ok(n)`, has consumed `tr > 0` buffered bytes and
appended the first `n` of them — the bases between the old and the new column — to the output (`StepOk`).  Every path of
the generated term is walked: the checked operation at its head is discharged by `omega`, an undecided `if` is `split`; at
each leaf the numbers consumed / kept are read off the term and `StepOk` is discharged by `omega`.  Which bytes of the
terminator are skipped in which call is *not* fixed (seeded C12-H2). -/
theorem readLine_step (f : Bytes) (sched : Nat → Nat) (idx : Idx) (s : St) (lo cur line bl : Nat) (buf : Bytes)
    (hlb : 0 < idx.lb) (hlB : idx.lb < idx.lB) (hs : ∀ k, 0 < sched k) (h64 : idx.lB < 2 ^ 64)
    (inv : Inv f idx s lo cur line) (hbl : 0 < bl) (hne : s.rest ≠ []) :
    StepPost sched idx s lo bl buf (Gen.SrcIdxFa.readLine (fillBufOp sched) consumeOp s (toRec idx) lo bl buf) := by
  have hlo := inv.lo_lt
  have ha_pos := fillBuf_avail_pos sched s hs hne
  have ha_le := fillBuf_avail_le sched s inv.avail_le
  have hr := fillBuf_rest sched s
  have hlen : (List.take (IdxFa.fillBuf sched s).avail s.rest).length = (IdxFa.fillBuf sched s).avail := by
    rw [List.length_take]; omega
  have hnil : (List.take (IdxFa.fillBuf sched s).avail s.rest).isEmpty = false := by
    rw [List.isEmpty_eq_false_iff, ← List.length_pos_iff]; omega
  unfold Gen.SrcIdxFa.readLine
  simp only [fillBufOp, consumeOp, toRec, hr, hnil, hlen]
  generalize ha : (IdxFa.fillBuf sched s).avail = a at *
  clear inv hs hne hr hnil hlen
  -- `&src[..k]` for `k ≤ src.len()`
  have hsl : ∀ k, k ≤ a → Rs.slice (List.take a s.rest) 0 k = Res.ok (s.rest.take k) := by
    intro k hk
    rw [Rs.slice_ok (Nat.zero_le _) (by rw [List.length_take]; omega)]
    simp only [List.drop_zero, Nat.sub_zero, List.take_take, Nat.min_eq_left hk]
  repeat' first
    | (rw [Rs.add_ok]; rotate_left; omega)
    | (rw [Rs.sub_ok]; rotate_left; omega)
    | (rw [hsl]; rotate_left; omega)
    | (rw [Rs.assert_ok]; rotate_left; (simp only [decide_eq_true_eq, gt_iff_lt, ge_iff_le]; omega))
    | simp only [Res.ok_bind, Res.pure_eq_ok, decide_eq_true_eq, Bool.false_eq_true, if_false, ite_ok, ite_col]
    -- a leaf: the numbers are those of the model's two branches, or (another text) `omega` checks them
    | (subst ha; exact StepPost.mk _ _ _ _ rfl (.of_line ha_pos hlB hlo (by assumption)))
    | (subst ha; exact StepPost.mk _ _ _ _ rfl (.of_wanted hbl hlB (by assumption)))
    | exact StepPost.mk _ _ _ _ (by first | rfl | simp only [List.take_zero, List.append_nil]) (.of_and (by omega))
    | split

/-- the loop `while bases_left > 0 { bases_left -= self.read_line(..)?; }`.  `f` is the file the invariant, `Cut` and `slice` speak
of; `file` only fills the `seek` parameter the generated helper carries and the loop never calls -/
theorem while1_spec (f file : Bytes) (sched : Nat → Nat) (idx : Idx) (stop : Nat)
    (hlb : 0 < idx.lb) (hlB : idx.lb < idx.lB) (hs : ∀ k, 0 < sched k) (h64 : idx.lB < 2 ^ 64) :
    ∀ gas s lo cur line seq m, Inv f idx s lo cur line → Cut f idx cur stop m → s.rest.length < gas →
      ∃ s' lo' seq', Gen.SrcIdxFa.readIntoBuffer_while1 (fillBufOp sched) consumeOp (seekOp file) (toRec idx) gas s seq
          (stop - cur) lo =
        Res.ok (if m < stop then .ret (.error eofErr, s', seq') else .next (s', seq ++ slice f idx cur m, 0, lo')) := by
  intro gas
  induction gas with
  | zero => intro s lo cur line seq m _ _ h; omega
  | succ gas ih =>
    intro s lo cur line seq m inv c hgas
    have h1 := c.le
    have h2 := c.le_stop
    by_cases hdone : cur = stop
    · obtain rfl : m = cur := by omega
      refine ⟨s, lo, seq, ?_⟩
      rw [hdone, Nat.sub_self, Gen.SrcIdxFa.readIntoBuffer_while1]
      simp [slice_self]
    · have hb : 0 < stop - cur := by omega
      -- the loop condition, written `> 0`, `!= 0` or `0 <`
      have hgt : decide (stop - cur > 0) = true := by simpa using hb
      have hne0 : (stop - cur != 0) = true := by simp; omega
      have hlt : decide (0 < stop - cur) = true := by simpa using hb
      by_cases hne : s.rest = []
      · obtain rfl := c.eq_of_outside (inv.outside hlb hlB hne)
        have hpost := readLine_eof sched idx s lo (stop - m) seq hne inv.avail_le
        generalize hres : Gen.SrcIdxFa.readLine (fillBufOp sched) consumeOp s (toRec idx) lo (stop - m) seq = res at hpost
        cases hpost with
        | mk s' lo' buf' =>
          refine ⟨s', lo', buf', ?_⟩
          rw [Gen.SrcIdxFa.readIntoBuffer_while1]
          simp only [hgt, hne0, hlt, if_true, hres, Res.ok_bind, Res.pure_eq_ok, bind_pure_comp, pure_bind]
          rw [if_pos (show m < stop by omega)]
      · have hpost := readLine_step f sched idx s lo cur line (stop - cur) seq hlb hlB hs h64 inv hb hne
        generalize hres : Gen.SrcIdxFa.readLine (fillBufOp sched) consumeOp s (toRec idx) lo (stop - cur) seq = res at hpost
        cases hpost with
        | mk tr n lo' out hout ok =>
          obtain ⟨line', inv', hshort, hslice, hin⟩ := inv_step hlb hlB inv ok
          have hnb := ok.n_le
          have c' := c.advance (by omega) hin
          have hm := c'.le
          obtain ⟨s', lo'', seq', h⟩ := ih _ lo' (cur + n) line' out m inv' c' (by omega)
          refine ⟨s', lo'', seq', ?_⟩
          have hsub : Rs.sub (stop - cur) n = Res.ok (stop - (cur + n)) := by rw [Rs.sub_ok hnb, Nat.sub_sub]
          rw [Gen.SrcIdxFa.readIntoBuffer_while1]
          simp only [hgt, hne0, hlt, if_true, hres, Res.ok_bind, Res.pure_eq_ok, hsub, pure_bind]
          rw [h, hout, hslice, List.append_assoc, slice_append f idx (Nat.le_add_right cur n) hm]

/-- the `io::Error` the code builds for each error of the mirror model -/
def toIo : Err → IoErr
  | .eof => eofErr
  | .oob => oobErr
  | .interval => intervalErr
  | .nofetch => ⟨"Other", "No sequence fetched for reading."⟩
  | .name => ⟨"Other", "Unknown sequence name"⟩
  | .rid => ⟨"Other", "Invalid record index in fasta file."⟩
  | .assert => ⟨"panic", "assert"⟩
  | .fuel => ⟨"panic", "fuel"⟩

/-- what `read_into_buffer` returns, as far as the property fixes it: `Ok(())` with exactly the model's bytes in `seq`, or
the model's error (the content of `seq` and the reader position after an error are not fixed) -/
def Agrees : Except Err Bytes → Except IoErr Unit × St × List Nat → Prop
  | .ok b, (r, _, seq) => r = .ok () ∧ seq = b
  | .error e, (r, _, _) => r = .error (toIo e)

/-- **`read_into_buffer`: translated code = mirror model**, at the level the property fixes (returned bytes / error), for
every file, every `.fai` entry with `0 < line_bases < line_bytes < 2^64` whose seek target fits `u64`, every chunk
schedule, every initial reader state and buffer content, every fuel above the file length. -/
theorem readIntoBuffer_eq_model (file : Bytes) (sched : Nat → Nat) (idx : Idx) (start stop : Nat) (s0 : St) (seq0 : Bytes)
    (fuel : Nat) (hlb : 0 < idx.lb) (hlB : idx.lb < idx.lB) (hs : ∀ k, 0 < sched k) (h64 : idx.lB < 2 ^ 64)
    (hfit : pos idx start < 2 ^ 64) (hfuel : file.length < fuel) :
    ∃ out, Gen.SrcIdxFa.readIntoBuffer (fillBufOp sched) consumeOp (seekOp file) s0 (toRec idx) start stop seq0 fuel
        = Res.ok out ∧ Agrees (IdxFa.readIntoBuffer file sched idx start stop) out := by
  unfold Gen.SrcIdxFa.readIntoBuffer
  by_cases h1 : stop > idx.len
  · simp only [IdxFa.readIntoBuffer, h1, decide_true, if_true, Res.pure_eq_ok]
    exact ⟨_, rfl, rfl⟩
  by_cases h2 : start > stop
  · simp only [IdxFa.readIntoBuffer, h1, h2, decide_true, decide_false, if_true, if_false, Res.pure_eq_ok, Bool.false_eq_true]
    exact ⟨_, rfl, rfl⟩
  have hsub : Rs.sub stop start = Res.ok (stop - start) := Rs.sub_ok (by omega)
  have hseek := seekTo_eq_model file idx start s0 hlb (by omega) hfit
  obtain ⟨m, c⟩ := Cut.exists file idx (Nat.le_of_not_gt h2)
  obtain ⟨s', lo', seq', h⟩ := while1_spec file file sched idx stop hlb hlB hs h64 fuel _ _ start _ ([] : Bytes) m
    (seekTo_inv file idx start hlb hlB) c (by have := seekTo_rest_length_lt file idx start; omega)
  simp only [h1, h2, decide_false, if_false, Bool.false_eq_true, hsub, Res.ok_bind, hseek, Res.pure_eq_ok, h]
  rw [(read_of_cut file sched idx hlb hlB hs (Nat.le_of_not_gt h2) (Nat.le_of_not_gt h1) c).1]
  by_cases hm : m < stop
  · rw [if_pos hm, if_pos hm]; exact ⟨_, rfl, rfl⟩
  · rw [if_neg hm, if_neg hm]; exact ⟨_, rfl, rfl, List.nil_append _⟩

/-- the loop `while self.buf.is_empty() { self.bases_left -= self.reader.read_line(.., bases_to_read, &mut self.buf)?; }` -/
theorem fill_while_spec (f : Bytes) (sched : Nat → Nat) (idx : Idx) (cap bi btr bl cur : Nat)
    (hlb : 0 < idx.lb) (hlB : idx.lb < idx.lB) (hs : ∀ k, 0 < sched k) (h64 : idx.lB < 2 ^ 64)
    (hbtr : 0 < btr) (hbb : btr ≤ bl) :
    ∀ gas s lo line, Inv f idx s lo cur line → s.rest.length + 1 < gas →
      (pos idx cur < f.length →
        ∃ s' lo' n line', 0 < n ∧ n ≤ btr ∧
          Gen.SrcIdxFa.fillBuffer_while1 (fillBufOp sched) consumeOp cap (toRec idx) bi btr gas s bl lo [] =
            Res.ok (.next (s', bl - n, lo', slice f idx cur (cur + n))) ∧
          Inv f idx s' lo' (cur + n) line' ∧ s'.rest.length ≤ s.rest.length ∧
          (∀ j, j < n → pos idx (cur + j) < f.length)) ∧
      (f.length ≤ pos idx cur →
        ∃ s' lo' buf', Gen.SrcIdxFa.fillBuffer_while1 (fillBufOp sched) consumeOp cap (toRec idx) bi btr gas s bl lo [] =
            Res.ok (.ret (.error eofErr, s', bl, lo', buf', bi))) := by
  intro gas
  induction gas with
  | zero => intro s lo line _ h; omega
  | succ gas ih =>
    intro s lo line inv hgas
    by_cases hne : s.rest = []
    · have hpost := readLine_eof sched idx s lo btr [] hne inv.avail_le
      generalize hres : Gen.SrcIdxFa.readLine (fillBufOp sched) consumeOp s (toRec idx) lo btr [] = res at hpost
      cases hpost with
      | mk s' lo' buf' =>
        have hout := inv.outside hlb hlB hne
        refine ⟨fun h => by omega, fun _ => ⟨s', lo', buf', ?_⟩⟩
        rw [Gen.SrcIdxFa.fillBuffer_while1]
        simp only [List.isEmpty_nil, if_true, hres, Res.ok_bind, Res.pure_eq_ok, pure_bind]
    · have hpost := readLine_step f sched idx s lo cur line btr [] hlb hlB hs h64 inv hbtr hne
      generalize hres : Gen.SrcIdxFa.readLine (fillBufOp sched) consumeOp s (toRec idx) lo btr [] = res at hpost
      cases hpost with
      | mk tr n lo' out hout ok =>
        obtain ⟨line', inv', hshort, hslice, hin⟩ := inv_step hlb hlB inv ok
        have hnb := ok.n_le
        rw [List.nil_append, hslice] at hout
        have hsub : Rs.sub bl n = Res.ok (bl - n) := Rs.sub_ok (by omega)
        have hunf : Gen.SrcIdxFa.fillBuffer_while1 (fillBufOp sched) consumeOp cap (toRec idx) bi btr (gas + 1) s bl lo [] =
            Gen.SrcIdxFa.fillBuffer_while1 (fillBufOp sched) consumeOp cap (toRec idx) bi btr gas
              (IdxFa.consume (IdxFa.fillBuf sched s) tr) (bl - n) lo' out := by
          rw [Gen.SrcIdxFa.fillBuffer_while1]
          simp only [List.isEmpty_nil, if_true, hres, Res.ok_bind, Res.pure_eq_ok, hsub, pure_bind]
        rw [hunf]
        by_cases hn0 : n = 0
        · -- only terminator bytes were skipped: the buffer is still empty, the loop goes on
          subst hn0
          rw [Nat.add_zero, slice_self] at hout
          subst hout
          rw [Nat.sub_zero]
          obtain ⟨ih1, ih2⟩ := ih _ lo' line' inv' (by omega)
          refine ⟨fun h => ?_, ih2⟩
          obtain ⟨s', lo'', n, line'', h1, h2, h3, h4, h5, h6⟩ := ih1 h
          exact ⟨s', lo'', n, line'', h1, h2, h3, h4, by omega, h6⟩
        · have hne' : out.isEmpty = false := by
            rw [List.isEmpty_eq_false_iff, ← List.length_pos_iff, hout, slice_length]; omega
          obtain ⟨g, rfl⟩ : ∃ g, gas = g + 1 := ⟨gas - 1, by omega⟩
          refine ⟨fun _ => ⟨_, lo', n, line', by omega, hnb, ?_, inv', by omega, hin⟩, fun h => ?_⟩
          · rw [Gen.SrcIdxFa.fillBuffer_while1]
            simp only [hne', Bool.false_eq_true, if_false, Res.pure_eq_ok]
            rw [hout]
          · have := hin 0 (by omega)
            rw [Nat.add_zero] at this
            omega

/-- what `fill_buffer` delivers (see `fillBuffer_spec`) -/
abbrev FillPost (f : Bytes) (sched : Nat → Nat) (idx : Idx) (cap bi bl cur : Nat) (buf : Bytes) (fuel : Nat) (s : St)
    (lo : Nat) : Prop :=
  (pos idx cur < f.length →
    ∃ s' lo' n line', 0 < n ∧ n ≤ bl ∧
      Gen.SrcIdxFa.fillBuffer (fillBufOp sched) consumeOp cap s (toRec idx) bl lo buf bi fuel =
        Res.ok (.ok (), s', bl - n, lo', slice f idx cur (cur + n), 0) ∧
      Inv f idx s' lo' (cur + n) line' ∧ s'.rest.length ≤ s.rest.length ∧
      (∀ j, j < n → pos idx (cur + j) < f.length)) ∧
  (f.length ≤ pos idx cur →
    ∃ s' bl' lo' buf' bi', Gen.SrcIdxFa.fillBuffer (fillBufOp sched) consumeOp cap s (toRec idx) bl lo buf bi fuel =
        Res.ok (.error eofErr, s', bl', lo', buf', bi'))

/-- **`fill_buffer`**: from a state with the loop invariant and `bases_left > 0`: the next chunk of bases (at least one,
at most `bases_left`, ending at a line end or where the buffered bytes end) when the next base lies inside the file, the
truncation error otherwise.  `fill_buffer` clears the buffer, runs the refill loop with *some* positive request
`btr ≤ bases_left` and resets `buf_idx`; the request — `min(self.buf.capacity(), bases_left)` in the source,
`min(MAX_FASTA_BUFFER_SIZE, bases_left)` in seeded C12-H1 — is read off the text, only these two bounds are used. -/
theorem fillBuffer_spec (f : Bytes) (sched : Nat → Nat) (idx : Idx) (cap bi bl cur : Nat) (buf : Bytes)
    (hlb : 0 < idx.lb) (hlB : idx.lb < idx.lB) (hs : ∀ k, 0 < sched k) (h64 : idx.lB < 2 ^ 64)
    (hcap : 0 < cap) (hbl : 0 < bl) (fuel : Nat) (s : St) (lo line : Nat)
    (inv : Inv f idx s lo cur line) (hfuel : s.rest.length + 1 < fuel) :
    FillPost f sched idx cap bi bl cur buf fuel s lo := by
  have hass : Rs.assert (decide (bl > 0)) = Res.ok () := Rs.assert_ok (by simpa using hbl)
  have hass' : Rs.assert (decide (0 < bl)) = Res.ok () := Rs.assert_ok (by simpa using hbl)
  have hass'' : Rs.assert (bl != 0) = Res.ok () := Rs.assert_ok (by simp; omega)
  have hmax : 0 < Gen.SrcIdxFa.MAX_FASTA_BUFFER_SIZE := by decide
  obtain ⟨btr, hb1, hb2, hfb⟩ : ∃ btr, 0 < btr ∧ btr ≤ bl ∧
      Gen.SrcIdxFa.fillBuffer (fillBufOp sched) consumeOp cap s (toRec idx) bl lo buf bi fuel =
        (Gen.SrcIdxFa.fillBuffer_while1 (fillBufOp sched) consumeOp cap (toRec idx) bi btr fuel s bl lo [] >>= fun t3 =>
          match t3 with
          | .ret v => pure v
          | .next (reader, bl', lo', buf') => pure (.ok (), reader, bl', lo', buf', 0)) := by
    unfold Gen.SrcIdxFa.fillBuffer
    simp only [hass, hass', hass'', Res.ok_bind]
    exact ⟨_, by omega, by omega, congrArg _ (funext fun t3 => by cases t3 <;> rfl)⟩
  obtain ⟨h1, h2⟩ := fill_while_spec f sched idx cap bi btr bl cur hlb hlB hs h64 hb1 hb2 fuel s lo line inv hfuel
  refine ⟨fun h => ?_, fun h => ?_⟩
  · obtain ⟨s', lo', n, line', a1, a2, a3, a4, a5, a6⟩ := h1 h
    exact ⟨s', lo', n, line', a1, by omega, by rw [hfb, a3]; rfl, a4, a5, a6⟩
  · obtain ⟨s', lo', buf', a1⟩ := h2 h
    exact ⟨s', bl, lo', buf', bi, by rw [hfb, a1]; rfl⟩

/-- the iterator state: reader, `bases_left`, `line_offset`, `buf`, `buf_idx` -/
abbrev ItSt := St × Nat × Nat × List Nat × Nat

/-- what a consumer of the iterator sees: `next` is called until it returns `None` (`calls` bounds the number of calls); `Rs.drain`
written out for the result of this `next`, which has the item first and the five state components after it -/
def drainIt (sched : Nat → Nat) (cap : Nat) (idx : Idx) (fuel : Nat) : Nat → ItSt → Res (List (Except IoErr Nat))
  | 0, _ => Res.fuel
  | calls + 1, st => do
    let r ← Gen.SrcIdxFa.next (fillBufOp sched) consumeOp cap st.1 (toRec idx) st.2.1 st.2.2.1 st.2.2.2.1 st.2.2.2.2 fuel
    match r.1 with
    | none => pure []
    | some item => do
      let more ← drainIt sched cap idx fuel calls r.2
      pure (item :: more)

theorem next_buffered (sched : Nat → Nat) (cap : Nat) (idx : Idx) (fuel : Nat) (s : St) (bl lo : Nat) (buf : Bytes) (i : Nat)
    (hi : i < buf.length) (h64 : buf.length < 2 ^ 64) :
    Gen.SrcIdxFa.next (fillBufOp sched) consumeOp cap s (toRec idx) bl lo buf i fuel =
      Res.ok (some (.ok buf[i]), s, bl, lo, buf, i + 1) := by
  have e1 : Rs.idx buf i = Res.ok buf[i] := Rs.idx_ok hi
  have e2 : Rs.add 64 i 1 = Res.ok (i + 1) := Rs.add_ok (by omega)
  have e3 : Rs.add 64 1 i = Res.ok (i + 1) := by
    have : Rs.add 64 1 i = Res.ok (1 + i) := Rs.add_ok (by omega)
    rw [this, Nat.add_comm]
  simp [Gen.SrcIdxFa.next, hi, e1, e2, e3]

theorem next_done (sched : Nat → Nat) (cap : Nat) (idx : Idx) (fuel : Nat) (s : St) (lo : Nat) (buf : Bytes) (i : Nat)
    (hi : buf.length ≤ i) :
    Gen.SrcIdxFa.next (fillBufOp sched) consumeOp cap s (toRec idx) 0 lo buf i fuel =
      Res.ok (none, s, 0, lo, buf, i) := by
  have : ¬ i < buf.length := by omega
  simp [Gen.SrcIdxFa.next, this]


theorem next_fill_ok (sched : Nat → Nat) (cap : Nat) (idx : Idx) (fuel : Nat) (s s' : St) (bl bl' lo lo' : Nat)
    (buf chunk : Bytes) (i : Nat) (hi : buf.length ≤ i) (hbl : 0 < bl) (hc : 0 < chunk.length)
    (hfb : Gen.SrcIdxFa.fillBuffer (fillBufOp sched) consumeOp cap s (toRec idx) bl lo buf i fuel =
      Res.ok (.ok (), s', bl', lo', chunk, 0)) :
    Gen.SrcIdxFa.next (fillBufOp sched) consumeOp cap s (toRec idx) bl lo buf i fuel =
      Res.ok (some (.ok chunk[0]), s', bl', lo', chunk, 1) := by
  have h1 : ¬ i < buf.length := by omega
  have e1 : Rs.idx chunk 0 = Res.ok chunk[0] := Rs.idx_ok hc
  simp [Gen.SrcIdxFa.next, h1, hbl, hfb, e1]

theorem next_fill_err (sched : Nat → Nat) (cap : Nat) (idx : Idx) (fuel : Nat) (s s' : St) (bl bl' lo lo' : Nat)
    (buf buf' : Bytes) (i i' : Nat) (e : IoErr) (hi : buf.length ≤ i) (hbl : 0 < bl)
    (hfb : Gen.SrcIdxFa.fillBuffer (fillBufOp sched) consumeOp cap s (toRec idx) bl lo buf i fuel =
      Res.ok (.error e, s', bl', lo', buf', i')) :
    Gen.SrcIdxFa.next (fillBufOp sched) consumeOp cap s (toRec idx) bl lo buf i fuel =
      Res.ok (some (.error e), s', 0, lo', buf', buf'.length) := by
  have h1 : ¬ i < buf.length := by omega
  simp [Gen.SrcIdxFa.next, h1, hbl, hfb]

theorem drainIt_none {sched : Nat → Nat} {cap : Nat} {idx : Idx} {fuel : Nat} {s : St} {bl lo : Nat} {buf : Bytes} {i : Nat}
    {st : ItSt} (calls : Nat)
    (h : Gen.SrcIdxFa.next (fillBufOp sched) consumeOp cap s (toRec idx) bl lo buf i fuel = Res.ok (none, st)) :
    drainIt sched cap idx fuel (calls + 1) (s, bl, lo, buf, i) = Res.ok [] := by
  rw [drainIt]; simp only [h, Res.ok_bind, Res.pure_eq_ok]

theorem drainIt_some {sched : Nat → Nat} {cap : Nat} {idx : Idx} {fuel calls : Nat} {s : St} {bl lo : Nat} {buf : Bytes}
    {i : Nat} {st : ItSt} {item : Except IoErr Nat} {more : List (Except IoErr Nat)}
    (h : Gen.SrcIdxFa.next (fillBufOp sched) consumeOp cap s (toRec idx) bl lo buf i fuel = Res.ok (some item, st))
    (hd : drainIt sched cap idx fuel calls st = Res.ok more) :
    drainIt sched cap idx fuel (calls + 1) (s, bl, lo, buf, i) = Res.ok (item :: more) := by
  rw [drainIt]; simp only [h, Res.ok_bind, hd, Res.pure_eq_ok]

/-- the bytes as the items `Some(Ok(b))` of a run without error -/
def okItems (b : Bytes) : List (Except IoErr Nat) := b.map .ok

theorem okItems_append (a b : Bytes) : okItems (a ++ b) = okItems a ++ okItems b := by simp [okItems]

theorem okItems_chunk (chunk rest : Bytes) (e : List (Except IoErr Nat)) (h : 0 < chunk.length) :
    .ok chunk[0] :: (okItems (chunk.drop 1 ++ rest) ++ e) = okItems (chunk ++ rest) ++ e := by
  cases chunk with
  | nil => cases h
  | cons x t => rfl

/-- the iterator drained from any state of the invariant: what is left in `buf`, then the bases up to the cut, then the end-of-file
error iff the cut lies before `stop` -/
theorem drain_spec (f : Bytes) (sched : Nat → Nat) (idx : Idx) (cap stop fuel : Nat)
    (hlb : 0 < idx.lb) (hlB : idx.lb < idx.lB) (hs : ∀ k, 0 < sched k) (h64 : idx.lB < 2 ^ 64)
    (hcap : 0 < cap) (hstop : stop < 2 ^ 64) :
    ∀ calls s lo cur line buf i m, Inv f idx s lo cur line → Cut f idx cur stop m → s.rest.length + 1 < fuel →
      buf.length < 2 ^ 64 → (buf.length - i) + (stop - cur) + 2 ≤ calls →
      drainIt sched cap idx fuel calls (s, stop - cur, lo, buf, i) =
        Res.ok (okItems (buf.drop i ++ slice f idx cur m) ++ if m < stop then [.error eofErr] else []) := by
  intro calls
  induction calls with
  | zero => intro s lo cur line buf i m _ _ _ _ h; omega
  | succ calls ih =>
    intro s lo cur line buf i m inv c hfuel hb64 hcalls
    have h1 := c.le
    have h2 := c.le_stop
    by_cases hi : i < buf.length
    · -- a buffered byte
      rw [drainIt_some (next_buffered sched cap idx fuel s (stop - cur) lo buf i hi hb64)
        (ih s lo cur line buf (i + 1) m inv c hfuel hb64 (by omega)), List.drop_eq_getElem_cons hi]
      rfl
    · rw [List.drop_eq_nil_of_le (Nat.le_of_not_gt hi), List.nil_append]
      by_cases hdone : cur = stop
      · obtain rfl : m = cur := by omega
        rw [hdone, Nat.sub_self, drainIt_none calls (next_done sched cap idx fuel s lo buf i (by omega)), slice_self,
          if_neg (Nat.lt_irrefl _)]
        rfl
      · have hbl : 0 < stop - cur := by omega
        by_cases hin : pos idx cur < f.length
        · -- a refill: the first byte of the new chunk
          obtain ⟨s', lo', n, line', n1, n2, hfb, inv', hshort, hinside⟩ :=
            (fillBuffer_spec f sched idx cap i (stop - cur) cur buf hlb hlB hs h64 hcap hbl fuel s lo line inv hfuel).1 hin
          have hcn : cur + n ≤ stop := by omega
          have c' := c.advance hcn hinside
          have hm := c'.le
          have hclen : (slice f idx cur (cur + n)).length = n := by rw [slice_length, Nat.add_sub_cancel_left]
          have hn := next_fill_ok sched cap idx fuel s s' (stop - cur) (stop - cur - n) lo lo' buf
            (slice f idx cur (cur + n)) i (Nat.le_of_not_gt hi) hbl (by rw [hclen]; exact n1) hfb
          rw [Nat.sub_sub] at hn
          rw [drainIt_some hn (ih s' lo' (cur + n) line' _ 1 m inv' c' (Nat.lt_of_le_of_lt (Nat.succ_le_succ hshort) hfuel)
            (by rw [hclen]; exact Nat.lt_of_le_of_lt (Nat.le_trans n2 (Nat.sub_le _ _)) hstop) (by omega)),
            ← slice_append f idx (Nat.le_add_right cur n) hm]
          exact congrArg Res.ok (okItems_chunk _ _ _ _)
        · -- the next base lies outside the file: the error item, then `None`
          obtain rfl := c.eq_of_outside (Nat.le_of_not_gt hin)
          obtain ⟨s', bl', lo', buf', bi', hfb⟩ :=
            (fillBuffer_spec f sched idx cap i (stop - m) m buf hlb hlB hs h64 hcap hbl fuel s lo line inv hfuel).2
              (Nat.le_of_not_gt hin)
          have hn := next_fill_err sched cap idx fuel s s' (stop - m) bl' lo lo' buf buf' i bi' eofErr (by omega) hbl hfb
          obtain ⟨k, rfl⟩ : ∃ k, calls = k + 1 := ⟨calls - 1, by omega⟩
          rw [drainIt_some hn (drainIt_none k (next_done sched cap idx fuel s' lo' buf' buf'.length (Nat.le_refl _))),
            slice_self, if_pos (by omega)]
          rfl

/-- the items the model's drained iterator stands for: the bytes, then the error that ended it (if any) -/
def itemsOf (r : Bytes × Option Err) : List (Except IoErr Nat) :=
  okItems r.1 ++ (match r.2 with | none => [] | some e => [.error (toIo e)])

/-- **The drained translated iterator = the mirror model's `readLoop`** with the capacity `read_into_iter` asks for, from
the state `seek_to` leaves — for every file, `.fai` entry with `0 < line_bases < line_bytes`, chunk schedule, and *every
positive value* of `self.buf.capacity()` (`Vec::with_capacity(c)` only promises `≥ c`; the chunk size is not observable). -/
theorem iter_eq_model (file : Bytes) (sched : Nat → Nat) (idx : Idx) (cap start stop fuel calls : Nat)
    (hlb : 0 < idx.lb) (hlB : idx.lb < idx.lB) (hs : ∀ k, 0 < sched k) (h64 : idx.lB < 2 ^ 64)
    (hcap : 0 < cap) (hstop : stop < 2 ^ 64) (h1 : start ≤ stop) (hfuel : file.length + 1 < fuel)
    (hcalls : stop - start + 2 ≤ calls) :
    drainIt sched cap idx fuel calls
        ((IdxFa.seekTo file idx start).1, stop - start, (IdxFa.seekTo file idx start).2, [], 0) =
      Res.ok (itemsOf (readLoop sched idx (min 512 (min (stop - start) idx.lb)) (file.length + 1)
        (IdxFa.seekTo file idx start).1 (IdxFa.seekTo file idx start).2 (stop - start))) := by
  obtain ⟨m, c⟩ := Cut.exists file idx h1
  rw [drain_spec file sched idx cap stop fuel hlb hlB hs h64 hcap hstop calls _ _ start _ [] 0 m
      (seekTo_inv file idx start hlb hlB) c (by have := seekTo_rest_length_lt file idx start; omega) (by simp)
      (by simpa using hcalls),
    readLoop_seekTo file sched idx _ start stop m hlb hlB hs (by omega) c]
  by_cases hm : m < stop <;> simp [itemsOf, toIo, hm, eofErr]

/-- … that is, the model's `readIter`, for intervals it accepts -/
theorem iter_eq_readIter (file : Bytes) (sched : Nat → Nat) (idx : Idx) (cap start stop fuel calls : Nat)
    (hlb : 0 < idx.lb) (hlB : idx.lb < idx.lB) (hs : ∀ k, 0 < sched k) (h64 : idx.lB < 2 ^ 64)
    (hcap : 0 < cap) (hstop : stop < 2 ^ 64) (h1 : start ≤ stop) (h2 : stop ≤ idx.len) (hfuel : file.length + 1 < fuel)
    (hcalls : stop - start + 2 ≤ calls) :
    ∃ r, readIter file sched idx start stop = .ok r ∧
      drainIt sched cap idx fuel calls
          ((IdxFa.seekTo file idx start).1, stop - start, (IdxFa.seekTo file idx start).2, [], 0) = Res.ok (itemsOf r) :=
  ⟨_, by unfold readIter; rw [if_neg (Nat.not_lt.mpr h2), if_neg (Nat.not_lt.mpr h1)],
    iter_eq_model file sched idx cap start stop fuel calls hlb hlB hs h64 hcap hstop h1 hfuel hcalls⟩

/-- the `.fai` records as the Rust `Vec<IndexRecord>` (`Index::inner`, without the names) -/
def toRecs (index : List (Bytes × Idx)) : List IndexRecord := index.map fun e => toRec e.2

theorem idxByRid_eq_model (index : List (Bytes × Idx)) (rid : Nat) :
    Gen.SrcIdxFa.idxByRid (toRecs index) rid =
      Res.ok (match IdxFa.idxByRid index rid with
        | .ok i => .ok (toRec i)
        | .error e => .error (toIo e)) := by
  unfold Gen.SrcIdxFa.idxByRid IdxFa.idxByRid toRecs
  rw [List.getElem?_map]
  cases h : index[rid]? <;> simp [toIo]

/-- the fetch state of the Rust struct (`fetched_idx`, `start`, `stop`) for what the model's `fetch*` stored -/
def fetchState (r : Fetched) : Option IndexRecord × Option Nat × Option Nat := (some (toRec r.idx), some r.start, some r.stop)

/-- `fetch_by_rid`: translated code = mirror model — an unknown record number is the error and leaves the fetch state
alone, a known one stores the entry and the interval -/
theorem fetchByRid_eq_model (index : List (Bytes × Idx)) (fi : Option IndexRecord) (a b : Option Nat) (rid start stop : Nat) :
    Gen.SrcIdxFa.fetchByRid (toRecs index) fi a b rid start stop =
      Res.ok (match IdxFa.fetchByRid index rid start stop with
        | .ok r => (.ok (), fetchState r)
        | .error e => (.error (toIo e), fi, a, b)) := by
  unfold Gen.SrcIdxFa.fetchByRid IdxFa.fetchByRid
  rw [idxByRid_eq_model]
  cases h : IdxFa.idxByRid index rid <;> simp [Except.map, fetchState]

theorem fetchAllByRid_eq_model (index : List (Bytes × Idx)) (fi : Option IndexRecord) (a b : Option Nat) (rid : Nat) :
    Gen.SrcIdxFa.fetchAllByRid (toRecs index) fi a b rid =
      Res.ok (match IdxFa.fetchAllByRid index rid with
        | .ok r => (.ok (), fetchState r)
        | .error e => (.error (toIo e), fi, a, b)) := by
  unfold Gen.SrcIdxFa.fetchAllByRid IdxFa.fetchAllByRid
  rw [idxByRid_eq_model]
  cases h : IdxFa.idxByRid index rid <;> simp [Except.map, fetchState]

/-- `read` = `read_into_buffer` on what was fetched; an error before any fetch -/
theorem read_eq {ρ : Type} (fb : ρ → Except IoErr (List Nat) × ρ) (co : ρ → Nat → ρ) (sk : ρ → Nat → Except IoErr Nat × ρ)
    (s : ρ) (r : IndexRecord) (start stop : Nat) (seq : List Nat) (fuel : Nat) :
    Gen.SrcIdxFa.read fb co sk s (some r) (some start) (some stop) seq fuel =
      Gen.SrcIdxFa.readIntoBuffer fb co sk s r start stop seq fuel := by
  unfold Gen.SrcIdxFa.read
  simp only [Res.pure_eq_ok, bind_pure_comp]
  cases Gen.SrcIdxFa.readIntoBuffer fb co sk s r start stop seq fuel <;> rfl

theorem read_nofetch {ρ : Type} (fb : ρ → Except IoErr (List Nat) × ρ) (co : ρ → Nat → ρ)
    (sk : ρ → Nat → Except IoErr Nat × ρ) (s : ρ) (seq : List Nat) (fuel : Nat) :
    Gen.SrcIdxFa.read fb co sk s none none none seq fuel = Res.ok (.error (toIo .nofetch), s, seq) := by
  simp [Gen.SrcIdxFa.read, toIo]

end RbV.Thm.GenSrcIdxFa
