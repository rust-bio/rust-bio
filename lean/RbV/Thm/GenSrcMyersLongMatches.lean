import RbV.Gen.SrcMyersLongMatches
import RbV.Thm.GenSrcMyersLongNew
import RbV.Thm.GenSrcScanD
import RbV.Lemmas.MyersBest
import RbV.Lemmas.HitsClamp
/-!
# The block-based Myers matcher end to end on the translated source text

`RbV/Gen/SrcMyersLongMatches.lean` is the text of `Matches::new`, `Matches::next` and `distance` of the macro `impl_myers!`
(myers_impl.rs) read at the instance of long.rs (`$DistType = usize`, `$State = long::States<T>`): `self.myers.step` is the
translated glue `long::Myers::step` → `States::step`, `myers.initial_state` → `States::new`, `self.state.known_dist()` =
`States::known_dist` (regenerated by `tools/rs2lean_genlong.py` on every `./check C09`).

A matcher state `States<T>` is `(states, max_block, last_m)`; the model's active blocks `sts` are represented by
`(repS sts, ⌈m/w⌉ − 1, m % w)`.  The invariant carried along a search is the `Band` invariant of `Lemmas/MyersLongBand.lean`
(`InvL`): it discharges every side condition of `States::step` (`GenSrcMyersLongNew.step_band`).

* `iterL_cons`: one round of the translated `for (i, a) in self.text.by_ref()` = one `stepStates` + `known_dist` + `dist <= max_dist`;
* `drain_eq`: `next` until `None` from any state a search reaches = the model's `run`;
* `findAllSrc_eq_model` / `findAllSrc_eq_hits`: `Matches::new` + `next` until `None` = `MyersLong.findAllEnd` = `hits`;
* `distance_eq_model` / `distance_eq_spec`: the translated `distance` = running minimum of the model's list = minimum of the last
  row; `findBestEnd_eq_model` / `findBestEnd_eq_spec`: `find_best_end` = first minimum of the model's list = `firstMin`.

The plan is that of `Thm/GenSrcMyersSimple.lean` (§ `Matches::next`) and `Thm/GenSrcMyersSimpleBest.lean`, at the other instance of
the macro.
-/
set_option linter.unusedSimpArgs false

namespace RbV.Thm.GenSrcMyersLongMatches
open RbV RbV.Rs RbV.Model.MyersSimple RbV.Model.MyersLong RbV.Thm.GenSrc RbV.Thm.GenSrcMyersSimple RbV.Thm.GenSrcMyersLongStep
  RbV.Thm.GenSrcMyersLongNew

/-- the source-level `States<T>` value that represents the model's active blocks -/
def repL (w : Nat) (p : List Nat) (sts : List (St w)) : List (Nat × Nat × Nat) × Nat × Nat :=
  (repS sts, (blocksOf w p).length - 1, p.length % w)

/-- **`Matches::new` as written (long.rs instance)**: the iterator starts in `States::new(m, max_dist)`, all of the text unread -/
theorem new_eq_model (w : Nat) (p t : List Nat) (k : Nat) (hw : 2 ≤ w) (hp : 1 ≤ p.length)
    (h64 : p.length + w + 1 < 2 ^ 64) (peqT : List (List Nat × Nat)) :
    RbV.Gen.SrcMyersLongMatches.new (w := w) (peq := peqT) (m := p.length) (text := t) (max_dist := k) =
      Res.ok (repL w p (initStates w (blocksOf w p) p.length k), (t, 0), k) := by
  simp [RbV.Gen.SrcMyersLongMatches.new, GenSrcMyersLongNew.initialState_eq_model w p k hw hp h64, repL]

section
variable (w : Nat) (eqv : Nat → Nat → Bool) (p : List Nat) (k : Nat)

/-- the active blocks are those after some text prefix: they satisfy the band invariant -/
def InvL (s : List (St w)) : Prop := ∃ u P, Band eqv p k (blocksOf w p) P u s

/-- the translated loop helper with its result regrouped as (matcher state, text iterator, outcome) -/
def iterL (rest : List Nat) (i : Nat) (r : List (Nat × Nat × Nat) × Nat × Nat) :
    Res ((List (Nat × Nat × Nat) × Nat × Nat) × (List Nat × Nat) × Option (Option (Nat × Nat))) := do
  let (states, mb, lm, text, o) ← RbV.Gen.SrcMyersLongMatches.next_iter1 (w := w) (peq := peqL w eqv (blocksOf w p))
    (max_dist := k) rest i r
  pure ((states, mb, lm), text, o)

/-- the translated `next`, regrouped likewise -/
def nextR (r : List (Nat × Nat × Nat) × Nat × Nat) (tx : List Nat × Nat) :
    Res ((List (Nat × Nat × Nat) × Nat × Nat) × (List Nat × Nat) × Option (Nat × Nat)) := do
  let (states, mb, lm, text, o) ← RbV.Gen.SrcMyersLongMatches.next (w := w) (peq := peqL w eqv (blocksOf w p))
    (states := r.1) (max_block := r.2.1) (last_m := r.2.2) (text := tx) (max_dist := k)
  pure ((states, mb, lm), text, o)

theorem iterL_nil (i : Nat) (r : List (Nat × Nat × Nat) × Nat × Nat) : iterL w eqv p k [] i r = Res.ok (r, ([], i), none) := by
  obtain ⟨a, b, c⟩ := r
  simp [iterL, RbV.Gen.SrcMyersLongMatches.next_iter1]

theorem nextR_of_iterL (r : List (Nat × Nat × Nat) × Nat × Nat) (tx : List Nat × Nat) (r' : List (Nat × Nat × Nat) × Nat × Nat)
    (tx' : List Nat × Nat) (o : Option (Option (Nat × Nat))) (h : iterL w eqv p k tx.1 tx.2 r = Res.ok (r', tx', o)) :
    nextR w eqv p k r tx = Res.ok (r', tx', o.join) := by
  obtain ⟨a, b, c⟩ := r
  unfold iterL at h
  unfold nextR RbV.Gen.SrcMyersLongMatches.next
  cases hit : RbV.Gen.SrcMyersLongMatches.next_iter1 (w := w) (peq := peqL w eqv (blocksOf w p)) (max_dist := k)
      tx.1 tx.2 (a, b, c) with
  | panic => rw [hit] at h; simp at h
  | fuel => rw [hit] at h; simp at h
  | ok v =>
    obtain ⟨a', b', c', text', o'⟩ := v
    rw [hit] at h
    simp only [Res.ok_bind, Res.pure_eq_ok, Res.ok.injEq, Prod.mk.injEq] at h
    obtain ⟨⟨rfl, rfl, rfl⟩, rfl, rfl⟩ := h
    cases o' with
    | none => simp [hit]
    | some v => cases v <;> simp [hit]

theorem stepO_inv (hw : 2 ≤ w) (hp : 1 ≤ p.length) (s : List (St w)) (c : Nat) (inv : InvL w eqv p k s) :
    InvL w eqv p k (stepO w eqv p k s c).1 := by
  obtain ⟨u, P, b⟩ := inv
  exact ⟨u ++ [c], (stepO_spec eqv p k (by omega) hp u s c ⟨P, b⟩).1⟩

/-- **one round of the translated `for (i, a) in self.text.by_ref()`** (long.rs instance) = one `States::step` of the mirror model,
`known_dist()` and the test `dist <= max_dist` -/
theorem iterL_cons (F : Sizes w p)
    (i : Nat) (s : List (St w)) (c : Nat) (rest : List Nat) (inv : InvL w eqv p k s) (hc : c < 256) :
    iterL w eqv p k (c :: rest) i (repL w p s) =
      GenSrcScanD.branch (stepO w eqv p k s c).2
        (fun d => Res.ok (repL w p (stepO w eqv p k s c).1, (rest, i + 1), some (some (i, d))))
        (iterL w eqv p k rest (i + 1) (repL w p (stepO w eqv p k s c).1)) := by
  obtain ⟨u, P, b⟩ := inv
  obtain ⟨s1, s2, s3, s4⟩ := blocks_shape w F.hw p F.hp
  have hstep := step_band eqv p k F P u s c hc b
  obtain ⟨u', P', b'⟩ := stepO_inv w eqv p k F.hw F.hp s c ⟨u, P, b⟩
  have hlen' := ColEnc_length_le (blocksOf w p) _ 0 b'.col
  have hkd := knownDist_eq_model w (blocksOf w p).length (stepStates eqv (blocksOf w p) k c s) s2 hlen'
  unfold iterL
  rw [RbV.Gen.SrcMyersLongMatches.next_iter1.eq_def]
  simp only [repL, hstep, hkd, Res.ok_bind, Res.pure_eq_ok, stepO]
  cases hk : knownDist (blocksOf w p).length (stepStates eqv (blocksOf w p) k c s) with
  | none => simp [repL]
  | some d => by_cases h : d ≤ k <;> simp [h, repL]

/-- **`long::Matches::next` as written, called until `None`**, from any state a search reaches = the model's `run` -/
theorem drain_eq (F : Sizes w p)
    (fuel : Nat) (rest : List Nat) (i : Nat) (s : List (St w)) (inv : InvL w eqv p k s)
    (hb : ∀ c ∈ rest, c < 256) (h64 : i + rest.length < 2 ^ 64) (hf : rest.length < fuel) :
    Rs.drain (GenSrcScanD.nextS (nextR w eqv p k)) fuel (repL w p s, (rest, i)) =
      Res.ok (RbV.Model.MyersLong.run eqv (blocksOf w p) k s i rest) := by
  rw [← runO_eq_run]
  exact GenSrcScanD.drain_eq_run (stepO w eqv p k) (InvL w eqv p k) (fun c => c < 256) (fun _ s => repL w p s)
    (iterL w eqv p k) (nextR w eqv p k) (iterL_nil w eqv p k)
    (fun i s c rest inv hc _ => iterL_cons w eqv p k F i s c rest inv hc)
    (nextR_of_iterL w eqv p k) (fun s c inv _ => stepO_inv w eqv p k F.hw F.hp s c inv) fuel rest i s inv hb h64 hf

/-- **one call of `long::Matches::next` as written** on a state a search reaches (`GenSrcScanD.StepSpec`) -/
theorem next_eq_model (F : Sizes w p)
    (rest : List Nat) (i : Nat) (s : List (St w)) (inv : InvL w eqv p k s)
    (hb : ∀ c ∈ rest, c < 256) (h64 : i + rest.length < 2 ^ 64) :
    ∃ r' tx' o, nextR w eqv p k (repL w p s) (rest, i) = Res.ok (r', tx', o) ∧
      GenSrcScanD.StepSpec (stepO w eqv p k) (InvL w eqv p k) (fun _ s => repL w p s) rest i s r' tx' (o.map some) := by
  exact GenSrcScanD.next_spec (stepO w eqv p k) (InvL w eqv p k) (fun c => c < 256) (fun _ s => repL w p s)
    (iterL w eqv p k) (nextR w eqv p k) (iterL_nil w eqv p k)
    (fun i s c rest inv hc _ => iterL_cons w eqv p k F i s c rest inv hc)
    (nextR_of_iterL w eqv p k) (fun s c inv _ => stepO_inv w eqv p k F.hw F.hp s c inv) rest i s inv hb h64

theorem inv_init (hw : 2 ≤ w) (hp : 1 ≤ p.length) : InvL w eqv p k (initStates w (blocksOf w p) p.length k) :=
  ⟨[], _, band_init w (by omega) eqv p hp k⟩

end

/-- the translated functions put together as a caller does: `myers.find_all_end(t, k).collect()` for the block-based matcher
whose constructor stored the per-block tables `peqT` and `m` -/
def findAllSrc (w : Nat) (peqT : List (List Nat × Nat)) (m : Nat) (t : List Nat) (k : Nat) : Res (List (Nat × Nat)) := do
  let (state, text, maxd) ← RbV.Gen.SrcMyersLongMatches.new (w := w) (peq := peqT) (m := m) (text := t) (max_dist := k)
  Rs.drain (fun (st : (List (Nat × Nat × Nat) × Nat × Nat) × (List Nat × Nat)) => do
    let (states, mb, lm, text', o) ← RbV.Gen.SrcMyersLongMatches.next (w := w) (peq := peqT)
      (states := st.1.1) (max_block := st.1.2.1) (last_m := st.1.2.2) (text := st.2) (max_dist := maxd)
    pure (((states, mb, lm), text'), o)) (t.length + 1) (state, text)

/-- **block-based Myers end to end, on the translated source text** = the mirror model's list -/
theorem findAllSrc_eq_model (w : Nat) (eqv : Nat → Nat → Bool) (p t : List Nat) (k : Nat) (F : Sizes w p) (hb : ∀ c ∈ t, c < 256) (h64 : t.length < 2 ^ 64) :
    findAllSrc w (peqL w eqv (blocksOf w p)) p.length t k = Res.ok (RbV.Model.MyersLong.findAllEnd w eqv p t k) := by
  have := drain_eq w eqv p k F (t.length + 1) t 0 (initStates w (blocksOf w p) p.length k)
    (inv_init w eqv p k F.hw F.hp) hb (by omega) (by omega)
  have hfun : (fun (st : (List (Nat × Nat × Nat) × Nat × Nat) × (List Nat × Nat)) => do
      let (states, mb, lm, text', o) ← RbV.Gen.SrcMyersLongMatches.next (w := w) (peq := peqL w eqv (blocksOf w p))
        (states := st.1.1) (max_block := st.1.2.1) (last_m := st.1.2.2) (text := st.2) (max_dist := k)
      pure (((states, mb, lm), text'), o)) = GenSrcScanD.nextS (nextR w eqv p k) := by
    funext st
    simp only [GenSrcScanD.nextS, nextR]
    cases RbV.Gen.SrcMyersLongMatches.next (w := w) (peq := peqL w eqv (blocksOf w p))
      (states := st.1.1) (max_block := st.1.2.1) (last_m := st.1.2.2) (text := st.2) (max_dist := k) <;> rfl
  simp only [findAllSrc, new_eq_model w p t k F.hw F.hp (by have := F.h63; omega), Res.ok_bind]
  rw [hfun]
  exact this

/-- … = the specification: exactly the Sellers hits -/
theorem findAllSrc_eq_hits (w : Nat) (eqv : Nat → Nat → Bool) (p t : List Nat) (k : Nat) (F : Sizes w p) (hb : ∀ c ∈ t, c < 256) (h64 : t.length < 2 ^ 64) :
    findAllSrc w (peqL w eqv (blocksOf w p)) p.length t k = Res.ok (RbV.EditDist.hits (RbV.EditDist.unitW eqv) p t k) := by
  rw [findAllSrc_eq_model w eqv p t k F hb h64, findAllEnd_eq_hits w eqv p t k (by have := F.hw; omega) F.hp]

/-! ### `distance` -/

/-- `<usize>::max_value()` -/
def kMax : Nat := 18446744073709551615

/-- **the loop of `distance` as written** (long.rs instance): the running minimum over everything the search with
`max_dist = usize::MAX` reports -/
theorem distance_fold (w : Nat) (eqv : Nat → Nat → Bool) (p : List Nat) (F : Sizes w p) :
    ∀ (t : List Nat) (s : List (St w)) (i dist : Nat), InvL w eqv p kMax s → (∀ c ∈ t, c < 256) → dist ≤ kMax →
      t.foldlM (RbV.Gen.SrcMyersLongMatches.distance_for1 (w := w) (peq := peqL w eqv (blocksOf w p)) (max_dist := kMax))
          (repL w p s, dist) =
        Res.ok (repL w p ((t.foldl (fun s c => stepStates eqv (blocksOf w p) kMax c s) s)),
          (RbV.Model.MyersLong.run eqv (blocksOf w p) kMax s i t).foldl RbV.EditDist.updDist dist) := by
  intro t
  induction t with
  | nil => intro s i dist _ _ _; simp [RbV.Model.MyersLong.run]
  | cons c t ih =>
    intro s i dist inv hb hd
    obtain ⟨u, P, b⟩ := inv
    obtain ⟨s1, s2, s3, s4⟩ := blocks_shape w F.hw p F.hp
    have hstep := step_band eqv p kMax F P u s c (hb c (by simp)) b
    have inv' := stepO_inv w eqv p kMax F.hw F.hp s c ⟨u, P, b⟩
    obtain ⟨u', P', b'⟩ := inv'
    have hlen' := ColEnc_length_le (blocksOf w p) _ 0 b'.col
    have hkd := knownDist_eq_model w (blocksOf w p).length (stepStates eqv (blocksOf w p) kMax c s) s2 hlen'
    simp only [stepO] at b' hlen' hkd
    rw [List.foldlM_cons]
    simp only [RbV.Gen.SrcMyersLongMatches.distance_for1, repL, hstep, hkd, Res.ok_bind, Res.pure_eq_ok, List.foldl_cons,
      RbV.Model.MyersLong.run]
    cases hk : knownDist (blocksOf w p).length (stepStates eqv (blocksOf w p) kMax c s) with
    | none =>
      simp only [Res.ok_bind, Res.pure_eq_ok]
      exact ih _ (i + 1) dist ⟨u', P', b'⟩ (fun x hx => hb x (by simp [hx])) hd
    | some d =>
      rw [RbV.EditDist.foldl_updDist_report kMax dist d i _ hd]
      -- the test may be written `d < dist`, `d <= dist` or `dist > d`: all three leave the smaller of the two
      simp only [gt_iff_lt, decide_eq_true_eq, ← apply_ite Res.ok, ← apply_ite (Prod.mk _), GenSrcScanD.ite_le_eq_ite_lt,
        Res.ok_bind, Res.pure_eq_ok]
      refine ih _ (i + 1) _ ⟨u', P', b'⟩ (fun x hx => hb x (by simp [hx])) ?_
      split <;> omega

/-- **`long::Myers::distance` as written** = the running minimum over the model's list for `max_dist = usize::MAX` -/
theorem distance_eq_model (w : Nat) (eqv : Nat → Nat → Bool) (p t : List Nat) (F : Sizes w p) (hb : ∀ c ∈ t, c < 256) :
    RbV.Gen.SrcMyersLongMatches.distance (w := w) (peq := peqL w eqv (blocksOf w p)) (m := p.length) (text := t) =
      Res.ok ((RbV.Model.MyersLong.findAllEnd w eqv p t kMax).foldl RbV.EditDist.updDist kMax) := by
  have hfold := distance_fold w eqv p F t (initStates w (blocksOf w p) p.length kMax) 0 kMax
    (inv_init w eqv p kMax F.hw F.hp) hb (Nat.le_refl _)
  have hinit := GenSrcMyersLongNew.initialState_eq_model w p kMax F.hw F.hp (by have := F.h63; omega)
  unfold RbV.Gen.SrcMyersLongMatches.distance
  simp only [kMax, repL] at hfold hinit ⊢
  simp only [hinit, Res.ok_bind, Res.pure_eq_ok, hfold]
  rfl

/-- … = the specification: the minimum of the last row of the Sellers matrix (`firstMin`, `Thm/C09.lean: best_spec`) -/
theorem distance_eq_spec (w : Nat) (eqv : Nat → Nat → Bool) (p t : List Nat) (F : Sizes w p) (hb : ∀ c ∈ t, c < 256) :
    RbV.Gen.SrcMyersLongMatches.distance (w := w) (peq := peqL w eqv (blocksOf w p)) (m := p.length) (text := t) =
      Res.ok (((RbV.EditDist.firstMin 0 (RbV.EditDist.lastRow (RbV.EditDist.unitW eqv) p t)).map (·.2)).getD kMax) := by
  rw [distance_eq_model w eqv p t F hb, findAllEnd_eq_hits w eqv p t kMax (by have := F.hw; omega) F.hp]
  rw [RbV.EditDist.hits_foldl_updDist _ p t kMax (by have := F.h63; simp only [kMax]; omega)]

/-! ### `find_all_end`, `find_best_end` -/

/-- `find_all_end(text, max_dist)` is the one-line call `Matches::new(self, text.into_iter(), max_dist)` -/
theorem findAllEnd_eq_new (w : Nat) (peqT : List (List Nat × Nat)) (m : Nat) (t : List Nat) (k : Nat) :
    RbV.Gen.SrcMyersLongMatches.findAllEnd (w := w) (peq := peqT) (m := m) (text := t) (max_dist := k) =
      RbV.Gen.SrcMyersLongMatches.new (w := w) (peq := peqT) (m := m) (text := t) (max_dist := k) := by
  unfold RbV.Gen.SrcMyersLongMatches.findAllEnd
  cases RbV.Gen.SrcMyersLongMatches.new (w := w) (peq := peqT) (m := m) (text := t) (max_dist := k) <;> rfl

/-- **`long::Myers::find_best_end` as written** (`find_all_end(text, usize::MAX).min_by_key(|&(_, dist)| dist).unwrap()`): the
first minimum of the model's list; panics (the `unwrap`) exactly when that list is empty -/
theorem findBestEnd_eq_model (w : Nat) (eqv : Nat → Nat → Bool) (p t : List Nat) (F : Sizes w p) (hb : ∀ c ∈ t, c < 256) (h64 : t.length < 2 ^ 64) :
    RbV.Gen.SrcMyersLongMatches.findBestEnd (w := w) (peq := peqL w eqv (blocksOf w p)) (m := p.length) (text := t) =
      Rs.expect (Rs.minByKeySnd (RbV.Model.MyersLong.findAllEnd w eqv p t kMax)) := by
  have h := findAllSrc_eq_model w eqv p t kMax F hb h64
  unfold findAllSrc at h
  unfold RbV.Gen.SrcMyersLongMatches.findBestEnd
  rw [findAllEnd_eq_new]
  simp only [kMax] at h ⊢
  cases hn : RbV.Gen.SrcMyersLongMatches.new (w := w) (peq := peqL w eqv (blocksOf w p)) (m := p.length) (text := t)
      (max_dist := 18446744073709551615) with
  | panic => rw [hn] at h; simp at h
  | fuel => rw [hn] at h; simp at h
  | ok v =>
    obtain ⟨state, text, maxd⟩ := v
    rw [hn] at h
    simp only [Res.ok_bind] at h ⊢
    rw [h]
    simp only [Res.ok_bind]
    try (cases Rs.expect (Rs.minByKeySnd (RbV.Model.MyersLong.findAllEnd w eqv p t 18446744073709551615)) <;> rfl)

/-- … = the specification: `firstMin` of the last row (`Thm/C09.lean: best_spec`); the empty text panics -/
theorem findBestEnd_eq_spec (w : Nat) (eqv : Nat → Nat → Bool) (p t : List Nat) (F : Sizes w p) (hb : ∀ c ∈ t, c < 256) (h64 : t.length < 2 ^ 64) :
    RbV.Gen.SrcMyersLongMatches.findBestEnd (w := w) (peq := peqL w eqv (blocksOf w p)) (m := p.length) (text := t) =
      Rs.expect (RbV.EditDist.firstMin 0 (RbV.EditDist.lastRow (RbV.EditDist.unitW eqv) p t)) := by
  rw [findBestEnd_eq_model w eqv p t F hb h64, findAllEnd_eq_hits w eqv p t kMax (by have := F.hw; omega) F.hp]
  rw [RbV.EditDist.hits_minByKeySnd _ p t kMax (by have := F.h63; simp only [kMax]; omega)]

end RbV.Thm.GenSrcMyersLongMatches
