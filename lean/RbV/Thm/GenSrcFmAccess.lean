import RbV.Gen.SrcFmAccess
import RbV.Thm.GenSrcOcc
import RbV.Thm.GenSrcLess
import RbV.Spec.FMIndex
/-! The accessor chain `FMDIndex::{occ, less}` → `FMIndex::{occ, less}` → translated `Occ::get` / `less[a]`, the views
`BiInterval::{forward, revcomp}` and `Interval::occ`, as written (`RbV/Gen/SrcFmAccess.lean`, regenerated from
`src/data_structures/fmindex.rs` on every `./check C05` / `./check C06`). -/
set_option linter.unusedSimpArgs false
namespace RbV.Thm.GenSrcFmAccess
open RbV RbV.Rs RbV.Gen.SrcFmAccess RbV.OccM

theorem bind_pure_res {α : Type} (x : Res α) : (x >>= fun t => pure t) = x := by cases x <;> rfl

theorem fmOcc_eq (count : List Nat → Nat → Nat) (F : FMIndex) (r a : Nat) :
    fmOcc count F r a = Gen.SrcOcc.get count F.occ.1 F.occ.2 F.bwt r a := by
  simp [fmOcc, bind_pure_res]

theorem fmLess_eq (F : FMIndex) (a : Nat) : fmLess F a = Rs.idx F.less a := by
  simp [fmLess, bind_pure_res]

theorem fmdOcc_eq (count : List Nat → Nat → Nat) (D : FMDIndex) (r a : Nat) :
    fmdOcc count D r a = Gen.SrcOcc.get count D.fmindex.occ.1 D.fmindex.occ.2 D.fmindex.bwt r a := by
  simp [fmdOcc, bind_pure_res, fmOcc_eq]

theorem fmdLess_eq (D : FMDIndex) (a : Nat) : fmdLess D a = Rs.idx D.fmindex.less a := by
  simp [fmdLess, bind_pure_res, fmLess_eq]

/-- **the accessor chain on the tables the translated constructors build**: `less(bwt, alphabet)` and
`Occ::new(bwt, k, alphabet)` as written (`Gen/SrcLess.lean`, `Gen/SrcOcc.lean`) succeed, and on the index that holds
their results `FMDIndex::less(a)` is the number of BWT symbols below `a` for every `a ≤ max_symbol + 1`,
`FMDIndex::occ(r, a)` the number of `a` in `bwt[0..=r]` for every row and every tracked symbol -/
theorem accessors_exact {Alph : Type} (maxSymbol : Alph → Option Nat) (symbols : Alph → List Nat)
    (isWordDollar : Alph → Bool) (bwt : List Nat) (k : Nat) (alphabet : Alph) (ms : Nat)
    (hms : maxSymbol alphabet = some ms) (hk : 0 < k) (hk32 : k < 2 ^ 32) (hn : bwt.length < 2 ^ 64)
    (hms' : ms + 2 < 2 ^ 64) (hsym : ∀ x ∈ bwt, x ≤ ms) (hal : ∀ a ∈ symbols alphabet, a ≤ ms)
    (hnd : (symbols alphabet).Nodup) (hw : isWordDollar alphabet = false → 36 ∉ symbols alphabet) :
    ∃ lessT occT k', Gen.SrcLess.less maxSymbol bwt alphabet = Res.ok lessT ∧
      Gen.SrcOcc.new maxSymbol symbols isWordDollar bwt k alphabet = Res.ok (occT, k') ∧
      (∀ a, a < ms + 2 →
        fmdLess { fmindex := { bwt := bwt, less := lessT, occ := (occT, k') } } a = Res.ok (lessRef bwt a)) ∧
      (∀ r a, r < bwt.length → a ∈ RbV.Thm.GenSrcOcc.alphaOf (symbols alphabet) (isWordDollar alphabet) (ms + 1) →
        fmdOcc (fun s c => s.count c) { fmindex := { bwt := bwt, less := lessT, occ := (occT, k') } } r a
          = Res.ok (occRef bwt r a)) := by
  have hl := RbV.Thm.GenSrcLess.less_eq_model maxSymbol bwt alphabet ms hms hms' hn (fun x hx => by have := hsym x hx; omega)
  have hnew := RbV.Thm.GenSrcOcc.new_eq_model maxSymbol symbols isWordDollar bwt k alphabet ms hms hk hn (by omega) hsym hal
  refine ⟨_, _, _, hl, hnew, fun a ha => ?_, fun r a hr ha => ?_⟩
  · rw [fmdLess_eq]
    have := less_eq bwt (ms + 2) a ha
    obtain ⟨hlt, hv⟩ := List.getElem?_eq_some_iff.mp this
    show Rs.idx (lessModel bwt (ms + 2)) a = _
    rw [Rs.idx_ok hlt, hv]
  · rw [fmdOcc_eq]
    obtain ⟨tbl, k'', h1, h2⟩ := RbV.Thm.GenSrcOcc.get_new_exact maxSymbol symbols isWordDollar bwt k alphabet ms hms hk hk32 hn
      (by omega) hsym hal hnd hw a r ha hr
    rw [hnew] at h1
    cases h1
    exact h2

theorem biForward_eq (iv : BiInterval) (h : iv.lower + iv.size < 2 ^ 64) :
    biForward iv = Res.ok { lower := iv.lower, upper := iv.lower + iv.size } := by
  have e1 : Rs.add 64 iv.lower iv.size = Res.ok (iv.lower + iv.size) := Rs.add_ok h
  have e2 : Rs.add 64 iv.size iv.lower = Res.ok (iv.lower + iv.size) := Rs.add_ok_comm h
  simp [biForward, e1, e2]

theorem biRevcomp_eq (iv : BiInterval) (h : iv.lower_rev + iv.size < 2 ^ 64) :
    biRevcomp iv = Res.ok { lower := iv.lower_rev, upper := iv.lower_rev + iv.size } := by
  have e1 : Rs.add 64 iv.lower_rev iv.size = Res.ok (iv.lower_rev + iv.size) := Rs.add_ok h
  have e2 : Rs.add 64 iv.size iv.lower_rev = Res.ok (iv.lower_rev + iv.size) := Rs.add_ok_comm h
  simp [biRevcomp, e1, e2]

/-- **`Interval::occ`, as written, returns the suffix-array entries of the rows `lower .. upper`** (`ivMap`, the list the
property's `MapsTo` speaks about), for every `SuffixArray::get` that returns `Some(sa[i])` on the rows of the array -/
theorem intervalOcc_eq_model {σ : Type} (saGet : σ → Nat → Res (Option Nat)) (s : σ) (sa : List Nat)
    (hget : ∀ i, i < sa.length → saGet s i = Res.ok (some (sa.getD i 0)))
    (lo hi : Nat) (h : hi ≤ sa.length) :
    intervalOcc saGet { lower := lo, upper := hi } s = Res.ok (ivMap sa lo hi) := by
  unfold intervalOcc
  have hm := GenSrc.mapM_ok (fun pos => do
      let t1 ← saGet s pos
      let t2 ← Rs.expect t1
      pure t2) (fun i => sa.getD i 0) (List.range' lo (hi - lo)) (by
    intro x hx
    have hx' : x < sa.length := by
      have := List.mem_range'.mp hx
      omega
    simp [hget x hx', Rs.expect])
  simp only [hm, map_range'_getD sa lo hi h]
  all_goals first | rfl | simp

/-- out of range: a row for which `get` returns `None` makes `occ` panic (`.expect("Interval out of range …")`) -/
theorem intervalOcc_out_of_range {σ : Type} (saGet : σ → Nat → Res (Option Nat)) (s : σ) (lo hi : Nat) (h : lo < hi)
    (hnone : saGet s lo = Res.ok none) :
    intervalOcc saGet { lower := lo, upper := hi } s = Res.panic := by
  unfold intervalOcc
  obtain ⟨d, hd⟩ : ∃ d, hi - lo = d + 1 := ⟨hi - lo - 1, by omega⟩
  simp [hd, List.range'_succ, List.mapM_cons, hnone, Rs.expect]

end RbV.Thm.GenSrcFmAccess
