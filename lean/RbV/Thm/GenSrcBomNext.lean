import RbV.Gen.SrcBomNext
import RbV.Model.Bom
import RbV.Lemmas.BomOracle
import RbV.Thm.GenSrcIter
import RbV.Thm.GenSrcOk
/-!
# The translated text of `BOM::delta`, `BOM::find_all`, `bom::Matches::next` equals the mirror model `Bom.findAll`

`RbV/Gen/SrcBomNext.lean` is regenerated from `src/pattern_matching/bom.rs` on every `./check C08`.  The constructor
`BOM::new` is **not** translated (`while let`, `VecMap` insertion): the theorems are about the search over the table
`Bom.build p` of the mirror model (which the harness compares with the real table, tag `bom-table-same`).  A `VecMap` is
represented by its entries, `get(k).copied()` = `Rs.vecMapGet` = the model's `Bom.lookup`.  The model's `scanS`
(panics explicit) is followed step by step by the inner loop; `G window` is the model's list from a window position, and
the outer loop (`while1_eq`) is a `GenSrcIter.window_next` whose verdict is `Bom.verdict` of the backward scan.
-/
set_option linter.unusedSimpArgs false

namespace RbV.Thm.GenSrcBomNext
open RbV RbV.Rs RbV.Gen.SrcBomNext

theorem vecMapGet_eq_lookup : ∀ (l : List (Nat × Nat)) (a : Nat), Rs.vecMapGet l a = Bom.lookup l a := by
  intro l a
  induction l with
  | nil => rfl
  | cons e l ih => obtain ⟨b, q⟩ := e; simp [Rs.vecMapGet, Bom.lookup, ih]

/-- **`BOM::delta` as written = the model's `delta`**, for every table, state and symbol (no panic: the index is guarded) -/
theorem delta_eq_model (T : Bom.Table) (q a : Nat) : delta T q a = Res.ok (Bom.delta T q a) := by
  by_cases h : q < T.length
  · have e1 : Rs.idx T q = Res.ok T[q] := Rs.idx_ok h
    have h' : ¬ q ≥ T.length := Nat.not_le_of_lt h
    have h'' : ¬ T.length ≤ q := h'
    simp [delta, Bom.delta, e1, h, h', h'', List.getElem?_eq_getElem h, vecMapGet_eq_lookup]
  · have h' : q ≥ T.length := Nat.le_of_not_lt h
    have h'' : T.length ≤ q := h'
    simp [delta, Bom.delta, h, h', h'', List.getElem?_eq_none h'']

/-- the translated inner `while j <= self.bom.m` loop follows the model's `scanS` (one more unit of fuel for the last test) -/
theorem while2_eq (T : Bom.Table) (t : List Nat) (window m : Nat) (hw : window + 1 < 2 ^ 64) :
    ∀ (fuel j : Nat) (q : Option Nat) (r : Option Nat × Nat), Bom.scanS T t window m fuel j q = some r →
      next_while2 m T t window (fuel + 1) (q, j) = Res.ok r := by
  intro fuel
  induction fuel with
  | zero =>
    intro j q r h
    by_cases hj : j ≤ m
    · cases q with
      | none => simp [Bom.scanS, hj] at h; subst h; simp [next_while2, hj]
      | some q_ => simp [Bom.scanS, hj] at h
    · simp [Bom.scanS, hj] at h; subst h; simp [next_while2, hj]
  | succ fuel ih =>
    intro j q r h
    by_cases hj : j ≤ m
    · cases q with
      | none => simp [Bom.scanS, hj] at h; subst h; rw [next_while2.eq_def]; simp [hj]
      | some q_ =>
        by_cases hwj : window < j
        · simp [Bom.scanS, hj, hwj] at h
        · cases hc : t[window - j]? with
          | none => simp [Bom.scanS, hj, hwj, hc] at h
          | some c =>
            simp [Bom.scanS, hj, hwj, hc] at h
            have e2 : Rs.idx t (window - j) = Res.ok c := Rs.idx_of_getElem? hc
            have := ih (j + 1) _ r h
            rw [next_while2.eq_def]
            simp (disch := omega) only [rs_ok, hj, decide_true, ↓reduceIte, e2, Nat.add_comm 1 j, delta_eq_model, this]
    · simp [Bom.scanS, hj] at h; subst h; rw [next_while2.eq_def]; simp [hj]

/-- the model's list from window position `window` -/
def G (p t : List Nat) (window : Nat) : List Nat := Bom.search (Bom.build p) p.length t (t.length + 1) window

theorem G_end (p t : List Nat) (window : Nat) (h : t.length < window) : G p t window = [] := by
  have : ¬ window ≤ t.length := Nat.not_le_of_lt h
  simp [G, Bom.search, this]

theorem G_asc (p t : List Nat) (s : Nat) : AscFrom (OccursAt p t) s (G p t (s + p.length)) :=
  Bom.search_window p t _ (Bom.build_Complete p) (Bom.build_Monotone p) (t.length + 1) s (Nat.le_add_left _ _)

/-- one round of the outer loop, given what the inner loop returns from the initial state `(Some(0), 1)` of the window -/
theorem while1_round (T : Bom.Table) (m : Nat) (t : List Nat) (fuel window : Nat) (hw : m ≤ window)
    (hn : window ≤ t.length) (h64 : t.length + m + 2 < 2 ^ 64) (sq : Option Nat) (sr : Nat) (hle : sr ≤ m)
    (hwh : next_while2 m T t window (m + 2) (some 0, 1) = Res.ok (sq, sr + 1)) :
    next_while1 t m T (fuel + 1) window =
      if sq.isSome then Res.ok (window + (m + 1 - sr), some (some (window - m)))
      else next_while1 t m T fuel (window + (m + 1 - sr)) := by
  have e1 : Rs.sub window m = Res.ok (window - m) := Rs.sub_ok hw
  have hm2 : m + 2 < 2 ^ 64 := Nat.lt_of_le_of_lt (Nat.add_le_add_right (Nat.le_add_left m t.length) 2) h64
  have e2 : Rs.add 64 m 2 = Res.ok (m + 2) := Rs.add_ok hm2
  have e2' : Rs.add 64 2 m = Res.ok (m + 2) := Rs.add_ok_comm hm2
  have e3 : Rs.sub (m + 2) (sr + 1) = Res.ok (m + 1 - sr) := by
    rw [Rs.sub_ok (Nat.le_trans (Nat.add_le_add_right hle 1) (Nat.le_succ _)), show m + 2 - (sr + 1) = m + 1 - sr from Nat.add_sub_add_right (m + 1) 1 sr]
  have e4 : Rs.add 64 window (m + 1 - sr) = Res.ok (window + (m + 1 - sr)) :=
    Rs.add_ok (Nat.lt_of_le_of_lt (Nat.add_le_add hn (Nat.sub_le (m + 1) sr)) (Nat.lt_of_succ_lt h64))
  rw [next_while1]
  simp only [hn, decide_true, ↓reduceIte, hwh, Res.pure_eq_ok, Res.ok_bind, e1, e2, e2', e3, e4]

/-- the translated outer `while self.window <= self.text.len()` loop from a window position `window ≥ m`, its result read as
`next` joins it -/
theorem while1_eq (p t : List Nat) (h64 : t.length + p.length + 2 < 2 ^ 64) (fuel window : Nat) (hw : p.length ≤ window)
    (hf : t.length + 1 - window < fuel) :
    ∃ w r, next_while1 t p.length (Bom.build p) fuel window = Res.ok (w, r) ∧
      ((r.join = none ∧ G p t window = []) ∨
       (∃ v, r.join = some v ∧ window < w ∧ p.length ≤ w ∧ G p t window = v :: G p t w)) := by
  refine GenSrcIter.window_next_join (G_asc p t) (fun s h => Nat.lt_succ_of_le h.1) (fun fuel s h => ?_)
    (fun fuel s h => ?_) fuel window hw hf
  · rw [next_while1]
    simp only [Nat.not_le_of_lt h, decide_false, Bool.false_eq_true, ↓reduceIte, Res.pure_eq_ok]
  · have hn : s + p.length ≤ t.length := Nat.le_of_lt_succ h
    have hw : p.length ≤ s + p.length := Nat.le_add_left _ _
    obtain ⟨q, r, hsb, hs, hle⟩ := Bom.scanS_init (Bom.build p) t (s + p.length) p.length hw hn
    have hbody := while1_round (Bom.build p) p.length t fuel (s + p.length) hw hn h64 q r hle
      (while2_eq (Bom.build p) t (s + p.length) p.length
        (Nat.lt_of_le_of_lt (Nat.add_le_add hn (Nat.le_add_left 1 (p.length + 1))) h64) (p.length + 1) 1 (some 0) _ hs)
    rw [Nat.add_sub_cancel, ← Nat.add_right_comm] at hbody
    exact ⟨_, _, Bom.verdict (Bom.build_Complete p) (Bom.build_Monotone p) hn hsb, hbody⟩

/-- the translated `next` as a step function on the only mutable field `window`, over the model's table for `p` -/
def nextS (p t : List Nat) (window : Nat) : Res (Nat × Option Nat) := next p.length (Bom.build p) t window

/-- **`bom::Matches::next` as written**: one call from window position `window ≥ m` -/
theorem next_eq_model (p t : List Nat) (h64 : t.length + p.length + 2 < 2 ^ 64) (window : Nat)
    (hw : p.length ≤ window) :
    ∃ w' r, nextS p t window = Res.ok (w', r) ∧
      ((r = none ∧ G p t window = []) ∨
       (∃ v, r = some v ∧ window < w' ∧ p.length ≤ w' ∧ G p t window = v :: G p t w')) := by
  obtain ⟨w', r, h1, h2⟩ := while1_eq p t h64 (t.length - window + 2) window hw (GenSrcIter.window_fuel _ _)
  exact ⟨w', r.join, by rw [nextS, next, h1]; cases r <;> rfl, h2⟩

theorem drain_eq (p t : List Nat) (h64 : t.length + p.length + 2 < 2 ^ 64) :
    ∀ fuel window, p.length ≤ window → t.length + 1 - window < fuel →
      Rs.drain (nextS p t) fuel window = Res.ok (G p t window) :=
  GenSrcIter.drain_eq_of_advance (G_end p t) (next_eq_model p t h64)

/-- **`BOM::find_all` as written**: the first window ends at position `m` -/
theorem findAll_init (m : Nat) (t : List Nat) : findAll m t = Res.ok (t, m) := by
  simp [findAll]

/-- translated `find_all` and `next` (until `None`) over the table of the mirror model -/
def findAllSrc (p t : List Nat) : Res (List Nat) := do
  let (text, window) ← findAll p.length t
  Rs.drain (fun window => next p.length (Bom.build p) text window) (t.length + 2) window

/-- **BOM search on the translated source text** = the occurrences (over the model's table) -/
theorem findAllSrc_eq_occurrences (p t : List Nat) (h64 : t.length + p.length + 2 < 2 ^ 64) :
    findAllSrc p t = Res.ok (occurrences p t) := by
  have hd := drain_eq p t h64 (t.length + 2) p.length (Nat.le_refl _) (Nat.lt_succ_of_le (Nat.sub_le _ _))
  have hG : G p t p.length = occurrences p t := Bom.findAll_eq_occurrences p t
  simp only [findAllSrc, findAll_init, Res.ok_bind]
  rw [← hG]
  exact hd

end RbV.Thm.GenSrcBomNext
