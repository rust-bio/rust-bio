import RbV.Gen.SrcPwCustom
import RbV.Thm.GenSrcPwModes
/-!
# The translated `Aligner::custom` does not write `self.scoring` (C01)

`custom_keeps_scoring`: `KeepsScoring` (of `Thm/GenSrcPwModes.lean`) for the translated `custom`, for every match function,
every tie-break and every fuel — so `mode_wrappers_source_restore_scoring` needs no hypothesis on `custom`.  The proof
walks every path of every translated helper backwards (`ks`: a weakest-precondition style traversal of the `do` block; it
does not look at what the statements compute, only at where an `Aligner` is re-bound), so it survives any edit of the text
that does not assign `self.scoring`.
-/
namespace RbV.Thm.GenSrcPwKeeps
open RbV RbV.Rs RbV.Gen.SrcPwTypes RbV.Gen.SrcPwCustom

/-- every normal result of `r` satisfies `Q` -/
def KQ {β : Type} (Q : β → Prop) (r : Res β) : Prop := ∀ b, r = .ok b → Q b

theorem kq_bind_any {α β : Type} (x : Res α) (f : α → Res β) (Q : β → Prop) (h : ∀ v, KQ Q (f v)) : KQ Q (x >>= f) := by
  intro b hb
  cases x with
  | ok a => exact h a b hb
  | panic => cases hb
  | fuel => cases hb

theorem kq_bind_pair {α γ β : Type} (x : Res (α × γ)) (f : α × γ → Res β) (Q : β → Prop) (h : ∀ a c, KQ Q (f (a, c))) :
    KQ Q (x >>= f) :=
  kq_bind_any x f Q (fun v => h v.1 v.2)

theorem kq_bind_A {β : Type} (sc0 : Scoring) (x : Res Aligner) (f : Aligner → Res β) (Q : β → Prop)
    (hx : KQ (fun s => s.scoring = sc0) x) (h : ∀ v, v.scoring = sc0 → KQ Q (f v)) : KQ Q (x >>= f) := by
  intro b hb
  cases x with
  | ok a => exact h a (hx a rfl) b hb
  | panic => cases hb
  | fuel => cases hb

theorem kq_bind_AC {β γ : Type} (sc0 : Scoring) (x : Res (Aligner × γ)) (f : Aligner × γ → Res β) (Q : β → Prop)
    (hx : KQ (fun p => p.1.scoring = sc0) x) (h : ∀ a c, a.scoring = sc0 → KQ Q (f (a, c))) : KQ Q (x >>= f) := by
  intro b hb
  cases x with
  | ok a => exact h a.1 a.2 (hx a rfl) b hb
  | panic => cases hb
  | fuel => cases hb

theorem kq_ite {β : Type} (c : Prop) [Decidable c] (x y : Res β) (Q : β → Prop) (hx : KQ Q x) (hy : KQ Q y) :
    KQ Q (if c then x else y) := by
  split
  · exact hx
  · exact hy

theorem kq_pure {β : Type} (Q : β → Prop) (b : β) (h : Q b) : KQ Q (pure b : Res β) := by
  intro b' hb; cases hb; exact h

theorem kq_panic {β : Type} (Q : β → Prop) : KQ Q (Res.panic : Res β) := fun b hb => by cases hb
theorem kq_fuel {β : Type} (Q : β → Prop) : KQ Q (Res.fuel : Res β) := fun b hb => by cases hb

theorem kq_foldlM {ι : Type} (sc0 : Scoring) (g : Aligner → ι → Res Aligner) (l : List ι) (a : Aligner)
    (hg : ∀ s i, s.scoring = sc0 → KQ (fun s' => s'.scoring = sc0) (g s i)) (ha : a.scoring = sc0) :
    KQ (fun s' => s'.scoring = sc0) (List.foldlM g a l) := by
  induction l generalizing a with
  | nil => exact kq_pure _ _ ha
  | cons i l ih =>
    rw [List.foldlM_cons]
    exact kq_bind_A sc0 _ _ _ (hg a i ha) (fun v hv => ih v hv)

/-- the traversal of a translated body (`sc0` = the scoring the invariant speaks about), one rule per kind of statement: a
statement that binds an `Aligner` (alone or with a cell) must keep the scoring and hands the fact on; any other statement is
skipped; an `if` is followed into both branches; a `for` loop leaves its body as a goal; at a `pure` the fact about the aligner
in scope closes the goal (`{ self with I := … }.scoring` is `self.scoring` by computation).  `with_reducible`: a helper that is
not unfolded stays a goal for the lemma about it. -/
macro "ks" s:ident : tactic => `(tactic| repeat' with_reducible first
  | refine kq_bind_A $s _ _ _ ?_ (fun v hv => ?_)
  | refine kq_bind_AC $s _ _ _ ?_ (fun v c hv => ?_)
  | refine kq_bind_pair _ _ _ (fun v c => ?_)
  | refine kq_bind_any _ _ _ (fun v => ?_)
  | refine kq_ite _ _ _ _ ?_ ?_
  | exact kq_pure _ _ (by assumption)
  | refine kq_foldlM $s _ _ _ (fun s i hs => ?_) (by assumption)
  | exact kq_panic _)

theorem for2_keeps (w : Nat → Nat → Int) (iT dT snT sn0T : Int → Int → Bool) (m n k : Nat) (self : Aligner) (i : Nat)
    (sc0 : Scoring) (h0 : self.scoring = sc0) :
    KQ (fun s => s.scoring = sc0) (custom_for2 w iT dT snT sn0T m n k self i) := by
  unfold custom_for2
  ks sc0

theorem for1_keeps (w : Nat → Nat → Int) (iT dT snT sn0T : Int → Int → Bool) (m n : Nat) (self : Aligner) (k : Nat)
    (sc0 : Scoring) (h0 : self.scoring = sc0) :
    KQ (fun s => s.scoring = sc0) (custom_for1 w iT dT snT sn0T m n self k) := by
  unfold custom_for1
  ks sc0
  exact for2_keeps _ _ _ _ _ _ _ _ _ _ sc0 ‹_›

theorem custom_keeps (w : Nat → Nat → Int) (iT dT snT sn0T : Int → Int → Bool) (self : Aligner) (x y : List Nat) (fuel : Nat)
    (sc0 : Scoring) (h0 : self.scoring = sc0) :
    KQ (fun p => p.2.scoring = sc0) (custom w iT dT snT sn0T self x y fuel) := by
  unfold custom custom_for3 custom_for4 custom_for5 custom_for6 custom_for7
  ks sc0
  exact for1_keeps _ _ _ _ _ _ _ _ _ sc0 ‹_›

/-- **the translated `Aligner::custom` does not write `self.scoring`** — for every match function, every tie-break, every
fuel -/
theorem custom_keeps_scoring (w : Nat → Nat → Int) (iT dT snT sn0T : Int → Int → Bool) (fuel : Nat) :
    GenSrcPwModes.KeepsScoring (fun s x y => custom w iT dT snT sn0T s x y fuel) := by
  intro s x y al s' h
  exact custom_keeps w iT dT snT sn0T s x y fuel s.scoring rfl (al, s') h

end RbV.Thm.GenSrcPwKeeps
