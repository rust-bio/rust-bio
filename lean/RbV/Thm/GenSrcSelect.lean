import RbV.Thm.GenSrcRankSelect
import RbV.Lemmas.RankSelectSorted
import RbV.Thm.GenSrcBitsSimp
import RbV.Thm.GenSrcOk
/-!
# The translated text of `RankSelect::{select_x, select_1, select_0, new}` equals the mirror model

`RbV/Gen/SrcRankSelect.lean` is regenerated from `src/data_structures/rank_select.rs` on every `./check C17`.
`select_x` has two nested `for` loops with a `return` in the inner one: the translation makes them helpers by recursion
on the remaining items (`selectX_for1` over the blocks of the superblock, `selectX_for2` over the bits of a block) that
return `some v` when the function returned `v` from inside the loop.  The closure parameters `is_match` / `count_all` are
abstract functions (`ClosuresOk` is what the body assumes of them; `select_1` / `select_0` pass closures that satisfy
it), `superblocks.binary_search(..)` is the abstract function `bs` with the documented contract `BSearchOk`
(`Lemmas/RankSelectSorted.lean`), `self.bits.block_len()` the abstract `bl` with the bv contract `⌈len / 8⌉`.
Of the two ways of `Thm/GenSrcOk.lean`: the inner loop (`for2_eq`) resolves its binds with `rs_ok`; `for1_eq` and
`selectX_eq_model` name each operation's fact in a `have` (with the `_comm` twin), because in their contexts of `min` and `/`
the failing `omega` runs of an `rs_ok` call make it about twice as dear to check.
-/
-- the simp sets name every fact a harmless rewrite of the Rust text may need; on the present text some are unused
set_option linter.unusedSimpArgs false

namespace RbV.Thm.GenSrcSelect
open RbV RbV.Rs RbV.Thm.GenSrc
open RbV.Model.RankSelect (SbRank getBlock scanBits selectBlocks searchIdx)
open RbV.Thm.GenSrcRankSelect (blockByte CeilOk countOnes_block countZeros_block)
open RbV.Lemmas.RankSelectModel (blkCount cnt_le blkCount_le getBlock_length_le scan_notFound_le selectBlocks_nil selectBlocks_cons
  select_correct lt_superblocks_length superblocks_val length_takeWhile_le eight_dvd)
open RbV.Lemmas.RankSelect (selectRef_none_iff)
open RbV.Lemmas.Bytes8 (byteOf bit_test bit_test_zero)
open RbV.Lemmas.RankSelectSorted (BSearchOk bsearch_eq_searchIdx)

variable (bl : List Bool → Nat) (cd8 : Nat → Nat) (bs : List SbRank → SbRank → Nat)
variable (isMatch : Nat → Bool) (countAll : Nat → Nat)

/-- what the body of `select_x` assumes of its closure parameters, for the polarity `b`: `is_match(block & (1 << i))` tests
bit `i` of the block against `b`, `count_all(block)` is the per-block count the superblock table was built with -/
structure ClosuresOk (b : Bool) (bits : List Bool) (isMatch : Nat → Bool) (countAll : Nat → Nat) : Prop where
  is : ∀ B i, i < 8 → isMatch (blockByte bits B &&& (1 <<< i)) = decide ((getBlock bits B).getD i false = b)
  cnt : ∀ B, countAll (blockByte bits B) = blkCount b (getBlock bits B)

theorem bit_small (i : Nat) (hi : i < 8) : (1 <<< i) % 256 = 1 <<< i := by
  rw [Nat.one_shiftLeft]
  exact Nat.mod_eq_of_lt (Nat.pow_lt_pow_right (by decide) hi : 2 ^ i < 2 ^ 8)

/-- `bit <<= 1` on the `u8` mask `1 << i` -/
theorem shl_bit (i : Nat) (hi : i < 8) : Rs.shl 8 ((1 <<< i) % 256) 1 = Res.ok ((1 <<< (i + 1)) % 256) := by
  rw [Rs.shl_ok (by decide), bit_small i hi, ← Nat.shiftLeft_add]

attribute [local congr] GenSrc.bind_congr_arg in
/-- the bit loop of `select_x` (`for i in 0..max_bit`): lock-step with the model's `scanBits` -/
theorem for2_eq (b : Bool) (bits : List Bool) (hcl : ClosuresOk b bits isMatch countAll) (B j : Nat)
    (hB : B * 8 + 8 < 2 ^ 64) : ∀ (fuel i rank : Nat), i + fuel ≤ 8 → rank + fuel < 2 ^ 64 →
    Gen.SrcRankSelect.selectX_for2 (σ := SbRank) blockByte List.length bl cd8 SbRank.first SbRank.some SbRank.val
        bs isMatch countAll (blockByte bits B) j B (List.range' i fuel) (rank, (1 <<< i) % 256)
      = Res.ok (match scanBits (getBlock bits B) b j fuel i rank with
          | .found pos => (some (some (B * 8 + pos)), (j, 1 <<< pos))
          | .notFound r => (none, (r, (1 <<< (i + fuel)) % 256))) := by
  intro fuel
  induction fuel with
  | zero =>
    intro i rank _ _
    simp only [List.range'_zero, Gen.SrcRankSelect.selectX_for2, Res.pure_eq_ok, Nat.add_zero, scanBits]
  | succ fuel ih =>
    intro i rank hi hr
    have hi8 : i < 8 := by omega
    have hbit := bit_small i hi8
    have his := hcl.is B i hi8
    have his' : isMatch ((1 <<< i) &&& blockByte bits B) = decide ((getBlock bits B).getD i false = b) := by
      rw [Nat.and_comm]; exact his
    have hx : (if (getBlock bits B).getD i false = b then 1 else 0) ≤ 1 := by split <;> omega
    generalize hxd : (if (getBlock bits B).getD i false = b then 1 else 0) = x at hx
    have e4 := shl_bit i hi8
    rw [hbit] at e4
    have hsc : scanBits (getBlock bits B) b j (fuel + 1) i rank
        = if rank + x = j then .found i else scanBits (getBlock bits B) b j fuel (i + 1) (rank + x) := by
      rw [scanBits, hxd]
    rw [List.range'_succ, hbit, hsc]
    simp (disch := omega) only [rs_eval, rs_ok, Gen.SrcRankSelect.selectX_for2, his, his', decide_eq_true_eq, hxd,
      Nat.add_comm x rank, Nat.mul_comm 8 B, Nat.add_comm i (B * 8), e4]
    by_cases hj : rank + x = j
    · have hj' : (rank + x == j) = true := by simp [hj]
      have hj'' : (j == rank + x) = true := by simp [hj]
      simp only [rs_eval, hj, hj', hj'', beq_self_eq_true]
    · have hj' : (rank + x == j) = false := by simp [hj]
      have hj'' : (j == rank + x) = false := by simp [hj]; omega
      have hj3 : (rank + x != j) = true := by simp [hj]
      simp only [rs_eval, Gen.SrcRankSelect.selectX_for2, hj, hj', hj'', hj3]
      rw [show i + (fuel + 1) = i + 1 + fuel by omega]
      exact ih (i + 1) (rank + x) (by omega) (by omega)

/-- the block loop of `select_x` (`for block in first_block..min(..)`): lock-step with the model's `selectBlocks`; the
second component is the final value of `rank`, which nothing reads -/
theorem for1_eq (b : Bool) (bits : List Bool) (hcl : ClosuresOk b bits isMatch countAll) (j : Nat)
    (hlen : bits.length < 2 ^ 60) : ∀ (L : List Nat) (rank : Nat), (∀ B ∈ L, B * 8 < bits.length) →
    rank + 16 * L.length + 16 < 2 ^ 64 →
    ∃ r', Gen.SrcRankSelect.selectX_for1 (σ := SbRank) blockByte List.length bl cd8 SbRank.first SbRank.some SbRank.val
        bs isMatch countAll bits j L rank
      = Res.ok ((selectBlocks bits.length (getBlock bits) b j L rank).map some, r') := by
  intro L
  induction L with
  | nil =>
    intro rank _ _
    exact ⟨rank, by simp only [Gen.SrcRankSelect.selectX_for1, Res.pure_eq_ok,
      selectBlocks_nil, Option.map_none]⟩
  | cons B L ih =>
    intro rank hL hr
    simp only [List.length_cons] at hr
    have hB : B * 8 < bits.length := hL B (List.mem_cons_self ..)
    have hp := blkCount_le b _ (getBlock_length_le bits B)
    have e0 := hcl.cnt B
    have b1 : rank + blkCount b (getBlock bits B) < 2 ^ 64 := by omega
    have b2 : B * 8 < 2 ^ 64 := by omega
    have e1 : Rs.add 64 rank (blkCount b (getBlock bits B)) = Res.ok (rank + blkCount b (getBlock bits B)) :=
      Rs.add_ok b1
    have e1' : Rs.add 64 (blkCount b (getBlock bits B)) rank = Res.ok (rank + blkCount b (getBlock bits B)) :=
      Rs.add_ok_comm b1
    have e2 : Rs.mul 64 B 8 = Res.ok (B * 8) := Rs.mul_ok b2
    have e2' : Rs.mul 64 8 B = Res.ok (B * 8) := Rs.mul_ok_comm b2
    have e3 : Rs.sub bits.length (B * 8) = Res.ok (bits.length - B * 8) := Rs.sub_ok (Nat.le_of_lt hB)
    have hmin : min (bits.length - B * 8) 8 = min 8 (bits.length - B * 8) := Nat.min_comm _ _
    have h1 : (1 <<< 0) % 256 = 1 := by decide
    rw [selectBlocks_cons]
    by_cases hc : rank + blkCount b (getBlock bits B) ≥ j
    · have hc' : j ≤ rank + blkCount b (getBlock bits B) := hc
      have hscan := for2_eq bl cd8 bs isMatch countAll b bits hcl B j (by omega)
        (min 8 (bits.length - B * 8)) 0 rank (by omega) (by omega)
      rw [h1] at hscan
      -- the text up to the bit scan, evaluated once for both outcomes of the scan
      simp only [rs_eval, Gen.SrcRankSelect.selectX_for1, e0, e1, e1', e2, e2', e3, hmin, hc, hc', Nat.sub_zero]
      cases hs : scanBits (getBlock bits B) b j (min 8 (bits.length - B * 8)) 0 rank with
      | found pos =>
        rw [hs] at hscan
        exact ⟨j, by simp only [rs_eval, hscan, Option.map_some]⟩
      | notFound r =>
        rw [hs] at hscan
        have hle := scan_notFound_le _ _ _ _ _ _ _ hs
        have b4 : r + blkCount b (getBlock bits B) < 2 ^ 64 := by omega
        have e4 : Rs.add 64 r (blkCount b (getBlock bits B)) = Res.ok (r + blkCount b (getBlock bits B)) :=
          Rs.add_ok b4
        have e4' : Rs.add 64 (blkCount b (getBlock bits B)) r = Res.ok (r + blkCount b (getBlock bits B)) :=
          Rs.add_ok_comm b4
        obtain ⟨r', hr'⟩ := ih (r + blkCount b (getBlock bits B)) (fun B' hB' => hL B' (List.mem_cons_of_mem _ hB'))
          (by omega)
        refine ⟨r', ?_⟩
        simp only [rs_eval, hscan, e4, e4', hr']
    · have hc' : ¬ j ≤ rank + blkCount b (getBlock bits B) := hc
      have hc2 : rank + blkCount b (getBlock bits B) < j := by omega
      obtain ⟨r', hr'⟩ := ih (rank + blkCount b (getBlock bits B)) (fun B' hB' => hL B' (List.mem_cons_of_mem _ hB'))
        (by omega)
      refine ⟨r', ?_⟩
      simp only [rs_eval, Gen.SrcRankSelect.selectX_for1, e0, e1, e1', hc, hc', hc2, hr']

open RbV.Model.RankSelect (superblocks)

/-- the bounds `select_x` needs, for a superblock that starts at bit `x < n` with rank `v ≤ x`: no product or sum overflows,
every block visited exists, and the rank stays far below `2^64` -/
theorem select_arith (n s x v : Nat) (hn : n < 2 ^ 60) (hx : x < n) (hs : s < 2 ^ 64) (hv : v ≤ x) :
    x < 2 ^ 64 ∧ x / 8 + s / 8 < 2 ^ 64 ∧
    (∀ B, x / 8 ≤ B → B < x / 8 + (min (x / 8 + s / 8) ((n + 7) / 8) - x / 8) → B * 8 < n) ∧
    v + 16 * (min (x / 8 + s / 8) ((n + 7) / 8) - x / 8) + 16 < 2 ^ 64 := by
  have h1 : x / 8 ≤ x := Nat.div_le_self _ _
  have h2 : s / 8 * 8 ≤ s := Nat.div_mul_le_self _ _
  have h3 : (n + 7) / 8 * 8 ≤ n + 7 := Nat.div_mul_le_self _ _
  generalize x / 8 = a at *
  generalize s / 8 = c at *
  generalize (n + 7) / 8 = m at *
  have h4 : min (a + c) m - a ≤ m := Nat.le_trans (Nat.sub_le _ _) (Nat.min_le_right _ _)
  exact ⟨by omega, by omega, fun B h1 h2 => by omega, by omega⟩

/-- **`RankSelect::select_x`, as written, is the model's `selectX`** on the table `fn superblocks` builds for the polarity
`b`, for every non-empty bit vector of fewer than 2^60 bits, every `k ≥ 1` (with `32·k` a `usize`) and every `j`:
the binary search (any function with the documented contract), the block scan and the bit scan with its early `return`
follow the model step by step; no index, subtraction or `u64` addition panics. -/
theorem selectX_eq_model (b : Bool) (bits : List Bool) (k : Nat) (hk : 1 ≤ k) (hks : k * 32 < 2 ^ 64) (hn : bits ≠ [])
    (hlen : bits.length < 2 ^ 60) (hbl : bl bits = (bits.length + 7) / 8) (hbs : BSearchOk SbRank.lt bs)
    (hcl : ClosuresOk b bits isMatch countAll) (sbs1 sbs0 : List SbRank) (j : Nat) :
    Gen.SrcRankSelect.selectX (σ := SbRank) blockByte List.length bl cd8 SbRank.first SbRank.some SbRank.val bs isMatch
        countAll bits.length bits sbs1 sbs0 (k * 32) k j (superblocks b bits.length (k * 32) (getBlock bits))
      = Res.ok (Model.RankSelect.selectX bits.length (k * 32) (getBlock bits)
          (superblocks b bits.length (k * 32) (getBlock bits)) b j) := by
  by_cases hj0 : j = 0
  · subst hj0
    simp [Gen.SrcRankSelect.selectX, Model.RankSelect.selectX]
  have hnpos : 0 < bits.length := List.length_pos_iff.mpr hn
  -- beyond the number of bits the answer is `None` (only used when the text tests `j > n` up front)
  have hbeyond : bits.length < j → Model.RankSelect.selectX bits.length (k * 32) (getBlock bits)
      (superblocks b bits.length (k * 32) (getBlock bits)) b j = none := by
    intro h
    rw [select_correct b bits k hk hn j,
      selectRef_none_iff]
    right
    exact Nat.lt_of_le_of_lt List.count_le_length h
  have hs8 := eight_dvd k
  have hs0 : 0 < k * 32 := by omega
  have hsi := bsearch_eq_searchIdx b bits _ hs8 hs0 bs hbs j
  have hL := lt_superblocks_length b bits _ hs8 hs0
  have hV := superblocks_val b bits _ hs8 hs0
  generalize superblocks b bits.length (k * 32) (getBlock bits) = sbs at hsi hL hV hbeyond ⊢
  have hsb : searchIdx sbs (.first j) - 1 < sbs.length := by
    have h0 : 0 < sbs.length := (hL 0).mpr (by omega)
    have : searchIdx sbs (.first j) ≤ sbs.length := length_takeWhile_le _ _
    omega
  generalize hsbeq : searchIdx sbs (.first j) - 1 = sb at hsb
  have hsbn := (hL sb).mp hsb
  have hval := hV sb hsbn
  have hvle := cnt_le b bits (sb * (k * 32))
  obtain ⟨a1, a2, a3, a4⟩ := select_arith bits.length (k * 32) (sb * (k * 32)) _ hlen hsbn hks hvle
  have e1 : Rs.idx sbs sb = Res.ok (sbs.getD sb (.first 0)) := idx_getD _ _ _ hsb
  have e2 : Rs.mul 64 sb (k * 32) = Res.ok (sb * (k * 32)) := Rs.mul_ok a1
  have e2' : Rs.mul 64 (k * 32) sb = Res.ok (sb * (k * 32)) := Rs.mul_ok_comm a1
  have e3 : Rs.add 64 (sb * (k * 32) / 8) (k * 32 / 8) = Res.ok (sb * (k * 32) / 8 + k * 32 / 8) := Rs.add_ok a2
  have e3' : Rs.add 64 (k * 32 / 8) (sb * (k * 32) / 8) = Res.ok (sb * (k * 32) / 8 + k * 32 / 8) := Rs.add_ok_comm a2
  have hmin : min ((bits.length + 7) / 8) (sb * (k * 32) / 8 + k * 32 / 8)
      = min (sb * (k * 32) / 8 + k * 32 / 8) ((bits.length + 7) / 8) := Nat.min_comm _ _
  obtain ⟨r', hr'⟩ := for1_eq bl cd8 bs isMatch countAll b bits hcl j hlen
    (List.range' (sb * (k * 32) / 8) (min (sb * (k * 32) / 8 + k * 32 / 8) ((bits.length + 7) / 8) - sb * (k * 32) / 8))
    (sbs.getD sb (.first 0)).val
    (by
      intro B hB
      rw [List.mem_range'_1] at hB
      exact a3 B hB.1 hB.2)
    (by rw [List.length_range', hval]; exact a4)
  have hj0' : (j == 0) = false := beq_eq_false_iff_ne.mpr hj0
  have hj0'' : (0 == j) = false := beq_eq_false_iff_ne.mpr (fun h => hj0 h.symm)
  have hj1 : (j != 0) = true := bne_iff_ne.mpr hj0
  by_cases hjn : bits.length < j
  · -- `j > n`: whether the text answers `None` up front or scans, the result is the model's
    have hjn' : decide (j > bits.length) = true := decide_eq_true hjn
    have hjn'' : decide (bits.length < j) = true := decide_eq_true hjn
    have hjn3 : decide (j ≤ bits.length) = false := decide_eq_false (Nat.not_le.mpr hjn)
    have hjn4 : decide (bits.length ≥ j) = false := decide_eq_false (Nat.not_le.mpr hjn)
    have hb := hbeyond hjn
    simp only [rs_eval, Gen.SrcRankSelect.selectX, hj0', hj0'', hj1, hjn', hjn'', hjn3, hjn4, hsi, hsbeq, e1, e2,
      e2', e3, e3', hbl, hmin, hr', Bool.or_true, Bool.or_false, Bool.true_or, Bool.false_or, Bool.and_true,
      Bool.and_false]
    first
      | (simp only [Model.RankSelect.selectX, hj0, if_false, hsbeq]
         cases hsel : selectBlocks bits.length (getBlock bits) b j
            (List.range' (sb * (k * 32) / 8)
              (min (sb * (k * 32) / 8 + k * 32 / 8) ((bits.length + 7) / 8) - sb * (k * 32) / 8))
            (sbs.getD sb (.first 0)).val <;> rfl)
      | exact congrArg Res.ok hb.symm
  · have hjn' : decide (j > bits.length) = false := decide_eq_false hjn
    have hjn'' : decide (bits.length < j) = false := decide_eq_false hjn
    have hjn3 : decide (j ≤ bits.length) = true := decide_eq_true (Nat.le_of_not_lt hjn)
    have hjn4 : decide (bits.length ≥ j) = true := decide_eq_true (Nat.le_of_not_lt hjn)
    simp only [rs_eval, Gen.SrcRankSelect.selectX, hj0', hj0'', hj1, hjn', hjn'', hjn3, hjn4, hsi, hsbeq, e1, e2,
      e2', e3, e3', hbl, hmin, hr', Bool.or_true, Bool.or_false, Bool.true_or, Bool.false_or, Bool.and_true,
      Bool.and_false]
    simp only [Model.RankSelect.selectX, hj0, if_false, hsbeq]
    cases hsel : selectBlocks bits.length (getBlock bits) b j
      (List.range' (sb * (k * 32) / 8)
        (min (sb * (k * 32) / 8 + k * 32 / 8) ((bits.length + 7) / 8) - sb * (k * 32) / 8))
      (sbs.getD sb (.first 0)).val <;> rfl

/-- the closures `select_1` passes: `|bit| bit != 0`, `|block| block.count_ones()` -/
theorem closures_1 (bits : List Bool) : ClosuresOk true bits (fun bit => bit != 0) (fun block => Rs.countOnes block) where
  is := by
    intro B i _
    show ((byteOf (getBlock bits B) &&& (1 <<< i)) != 0) = _
    rw [bit_test _ i]
    cases (getBlock bits B).getD i false <;> rfl
  cnt := fun B => countOnes_block bits B

/-- the closures `select_0` passes: `|bit| bit == 0`, `|block| block.count_zeros()` -/
theorem closures_0 (bits : List Bool) : ClosuresOk false bits (fun bit => bit == 0) (fun block => Rs.countZeros 8 block) where
  is := by
    intro B i _
    show ((byteOf (getBlock bits B) &&& (1 <<< i)) == 0) = _
    rw [bit_test_zero]
    cases (getBlock bits B).getD i false <;> rfl
  cnt := fun B => countZeros_block bits B

/-- **`RankSelect::select_1`, as written, is the model's `selectX` with polarity 1** (on the 1-table of `fn superblocks`) -/
theorem select1_eq_model (bits : List Bool) (k : Nat) (hk : 1 ≤ k) (hks : k * 32 < 2 ^ 64) (hn : bits ≠ [])
    (hlen : bits.length < 2 ^ 60) (hbl : bl bits = (bits.length + 7) / 8) (hbs : BSearchOk SbRank.lt bs)
    (sbs0 : List SbRank) (j : Nat) :
    Gen.SrcRankSelect.select1 (σ := SbRank) blockByte List.length bl cd8 SbRank.first SbRank.some SbRank.val bs
        bits.length bits (superblocks true bits.length (k * 32) (getBlock bits)) sbs0 (k * 32) k j
      = Res.ok (Model.RankSelect.selectX bits.length (k * 32) (getBlock bits)
          (superblocks true bits.length (k * 32) (getBlock bits)) true j) := by
  have h := selectX_eq_model bl cd8 bs _ _ true bits k hk hks hn hlen hbl hbs (closures_1 bits)
    (superblocks true bits.length (k * 32) (getBlock bits)) sbs0 j
  simp only [rs_eval, Gen.SrcRankSelect.select1, h]

/-- **`RankSelect::select_0`, as written, is the model's `selectX` with polarity 0** (on the 0-table of `fn superblocks`) -/
theorem select0_eq_model (bits : List Bool) (k : Nat) (hk : 1 ≤ k) (hks : k * 32 < 2 ^ 64) (hn : bits ≠ [])
    (hlen : bits.length < 2 ^ 60) (hbl : bl bits = (bits.length + 7) / 8) (hbs : BSearchOk SbRank.lt bs)
    (sbs1 : List SbRank) (j : Nat) :
    Gen.SrcRankSelect.select0 (σ := SbRank) blockByte List.length bl cd8 SbRank.first SbRank.some SbRank.val bs
        bits.length bits sbs1 (superblocks false bits.length (k * 32) (getBlock bits)) (k * 32) k j
      = Res.ok (Model.RankSelect.selectX bits.length (k * 32) (getBlock bits)
          (superblocks false bits.length (k * 32) (getBlock bits)) false j) := by
  have h := selectX_eq_model bl cd8 bs _ _ false bits k hk hks hn hlen hbl hbs (closures_0 bits) sbs1
    (superblocks false bits.length (k * 32) (getBlock bits)) j
  simp only [rs_eval, Gen.SrcRankSelect.select0, h]


/-- **`RankSelect::new`, as written, builds the model's structure**: `(n, bits, superblocks_1, superblocks_0, s, k)` with
`n = bits.len()`, `s = 32·k` and the two tables of the translated `fn superblocks` (= the model's, `superblocks_eq_model`) -/
theorem new_eq_model (bits : List Bool) (k : Nat) (hk : 1 ≤ k) (hks : k * 32 < 2 ^ 64) (hlen : bits.length < 2 ^ 60)
    (hcd : CeilOk cd8 bits.length) :
    Gen.SrcRankSelect.new (σ := SbRank) blockByte List.length bl cd8 SbRank.first SbRank.some SbRank.val bits k
      = Res.ok (bits.length, bits, superblocks true bits.length (k * 32) (getBlock bits),
          superblocks false bits.length (k * 32) (getBlock bits), k * 32, k) := by
  have e1 : Rs.mul 64 k 32 = Res.ok (k * 32) := Rs.mul_ok hks
  have e1' : Rs.mul 64 32 k = Res.ok (k * 32) := Rs.mul_ok_comm hks
  have e2 := RbV.Thm.GenSrcRankSelect.superblocks_eq_model bl cd8 true bits (k * 32) (by omega) hlen hcd
  have e3 := RbV.Thm.GenSrcRankSelect.superblocks_eq_model bl cd8 false bits (k * 32) (by omega) hlen hcd
  simp only [rs_eval, Gen.SrcRankSelect.new, e1, e1', e2, e3]

end RbV.Thm.GenSrcSelect
