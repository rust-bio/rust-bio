import RbV.Gen.SrcIit
import RbV.Model.IitIndex
import RbV.Thm.GenSrcBasic
/-!
# The translated text of `ArrayBackedIntervalTree::index_core`, `find_into` and `index` equals the mirror model (`Iit.indexCore`, `Iit.findLoop`)

`RbV/Gen/SrcIit.lean` is regenerated from `array_backed_interval_tree.rs` on every `./check C07` (dialect "cf").  The
generic bound type `N: Ord + Clone` is read at `Int`, the payload type `D` at `Int` in the theorems; an
`InternalEntry { data, interval: Interval { start, end }, max }` is the tuple `(data, (start, end), max)`, `toCell` maps
it to the model's `Cell`.  `max3` is an abstract parameter, instantiated by the model's `Iit.max3`.

The model is total (`getC`, `setMx` ignore indices out of range) and its loops are folds over `stepIdx` / `range'`; the
translated code indexes with panics, shifts with panics for amounts `≥ 64`, adds and subtracts with overflow checks, and its
`while (1 << k) <= n` runs on fuel.  The equality therefore also says: for fewer than `2^62` entries no index is out of
range (`i - x`, `i + x`, `last_i`), no shift or addition overflows (`last_i < n + 2^(k-1)` is the loop invariant), and 65
rounds of fuel suffice.
-/
set_option linter.unusedSimpArgs false
namespace RbV.Thm.GenSrcIit
open RbV RbV.Rs RbV.Gen.SrcIit RbV.Iit RbV.Ivl

/-- `InternalEntry<Int, Int>` as the translation represents it: `(data, (start, end), max)` -/
abbrev RCell := Int × (Int × Int) × Int

def toCell (c : RCell) : Cell := ⟨⟨c.2.1.1, c.2.1.2, c.1⟩, c.2.2⟩
def cells (l : List RCell) : List Cell := l.map toCell

theorem getC_cells (l : List RCell) (i : Nat) (h : i < l.length) : getC (cells l) i = toCell l[i] := by
  unfold getC cells; simp [h]

theorem setMx_cells (l : List RCell) (i : Nat) (m : Int) (h : i < l.length) :
    setMx (cells l) i m = cells (l.set i (l[i].1, l[i].2.1, m)) := by
  unfold setMx cells
  simp [h, List.map_set, toCell]

theorem length_cells (l : List RCell) : (cells l).length = l.length := by simp [cells]

attribute [local congr] GenSrc.bind_congr_arg

theorem for1_spec (mx3 : Int → Int → Int → Int) : ∀ (idxs : List Nat) (li : Nat) (es : List RCell) (lv : Int),
    (∀ i ∈ idxs, i < es.length) →
    ∃ li' es' lv', indexCore_for1 mx3 idxs (li, es, lv) = Res.ok (li', es', lv') ∧ es'.length = es.length ∧
      (cells es', li', lv') = idxs.foldl level0Step (cells es, li, lv) := by
  intro idxs
  induction idxs with
  | nil => intro li es lv _; exact ⟨li, es, lv, by simp [indexCore_for1], rfl, rfl⟩
  | cons i rest ih =>
    intro li es lv h
    have hi : i < es.length := h i List.mem_cons_self
    have e1 : Rs.idx es i = Res.ok es[i] := Rs.idx_ok hi
    have e2 : ∀ v, Rs.setIdx es i v = Res.ok (es.set i v) := fun v => Rs.setIdx_ok hi
    have e3 : ∀ v, Rs.idx (es.set i v) i = Res.ok v := fun v => GenSrc.idx_set_self es i v hi
    obtain ⟨li', es', lv', h1, h2, h3⟩ := ih i (es.set i (es[i].1, es[i].2.1, es[i].2.1.2)) es[i].2.1.2
      (by intro j hj; rw [List.length_set]; exact h j (List.mem_cons_of_mem _ hj))
    refine ⟨li', es', lv', ?_, by rw [h2, List.length_set], ?_⟩
    · simp [indexCore_for1, e1, e2, e3, h1]
    · rw [h3, List.foldl_cons]
      congr 1
      unfold level0Step
      simp only
      rw [getC_cells es i hi, setMx_cells es i _ hi, getC_cells _ i (by rw [List.length_set]; exact hi)]
      simp [toCell]

theorem for2_step (x n : Nat) (lv : Int) (i : Nat) (rest : List Nat) (es : List RCell)
    (hxi : x ≤ i) (hi : i < es.length) (hn : n = es.length) (hb : i + x < 2 ^ 64) :
    ∃ es', es'.length = es.length ∧ cells es' = setMx (cells es) i (levelMax n x lv (cells es) i) ∧
      indexCore_for2 Iit.max3 x n lv (i :: rest) es = indexCore_for2 Iit.max3 x n lv rest es' := by
  have e1 : Rs.sub i x = Res.ok (i - x) := Rs.sub_ok hxi
  have hix : i - x < es.length := Nat.lt_of_le_of_lt (Nat.sub_le i x) hi
  have e2 : Rs.idx es (i - x) = Res.ok es[i - x] := Rs.idx_ok hix
  have e3 : Rs.add 64 i x = Res.ok (i + x) := Rs.add_ok hb
  have e4 : Rs.idx es i = Res.ok es[i] := Rs.idx_ok hi
  have hcell : ∀ r : Int, (if i + x < n then (getC (cells es) (i + x)).mx else lv) = r →
      cells (es.set i (es[i].1, es[i].2.1, Iit.max3 es[i].2.1.2 es[i - x].2.2 r))
        = setMx (cells es) i (levelMax n x lv (cells es) i) := by
    intro r hr
    rw [setMx_cells es i _ hi, levelMax, getC_cells es i hi, getC_cells es (i - x) hix, hr]
    rfl
  rw [indexCore_for2]
  by_cases hlt : i + x < n
  · have hlt' : i + x < es.length := hn ▸ hlt
    have e5 : Rs.idx es (i + x) = Res.ok es[i + x] := Rs.idx_ok hlt'
    refine ⟨_, List.length_set, hcell es[i + x].2.2 (by rw [if_pos hlt, getC_cells es (i + x) hlt']; rfl), ?_⟩
    simp only [e1, e2, e3, e4, e5, hlt, decide_true, ↓reduceIte, Res.ok_bind, Res.pure_eq_ok, Rs.setIdx_ok hi]
  · refine ⟨_, List.length_set, hcell lv (if_neg hlt), ?_⟩
    simp only [e1, e2, e3, e4, hlt, decide_false, Bool.false_eq_true, ↓reduceIte, Res.ok_bind, Res.pure_eq_ok, Rs.setIdx_ok hi]

theorem for2_spec (x n : Nat) (lv : Int) : ∀ (idxs : List Nat) (es : List RCell),
    (∀ i ∈ idxs, x ≤ i ∧ i < es.length) → n = es.length → n + x < 2 ^ 64 →
    ∃ es', indexCore_for2 Iit.max3 x n lv idxs es = Res.ok es' ∧ es'.length = es.length ∧
      cells es' = idxs.foldl (fun a i => setMx a i (levelMax n x lv a i)) (cells es) := by
  intro idxs
  induction idxs with
  | nil => intro es _ _ _; exact ⟨es, rfl, rfl, rfl⟩
  | cons i rest ih =>
    intro es h hn hb
    obtain ⟨hxi, hi⟩ := h i List.mem_cons_self
    obtain ⟨es1, hl, hc, hs⟩ := for2_step x n lv i rest es hxi hi hn (by omega)
    obtain ⟨es', h1, h2, h3⟩ := ih es1 (fun j hj => hl ▸ h j (List.mem_cons_of_mem _ hj)) (hl ▸ hn) hb
    exact ⟨es', hs ▸ h1, hl ▸ h2, by rw [h3, hc, List.foldl_cons]⟩

theorem shl_one (j : Nat) (h : j < 64) : Rs.shl 64 1 j = Res.ok (2 ^ j) := by
  rw [Rs.shl_ok h, Nat.shiftLeft_eq, Nat.one_mul, Nat.mod_eq_of_lt (Nat.pow_lt_pow_right (by omega) h)]

theorem shl_pow (j s : Nat) (h : j + s < 64) : Rs.shl 64 (2 ^ j) s = Res.ok (2 ^ (j + s)) := by
  rw [Rs.shl_ok (by omega), Nat.shiftLeft_eq, ← Nat.pow_add, Nat.mod_eq_of_lt (Nat.pow_lt_pow_right (by omega) h)]

theorem sub_one (t : Nat) : Rs.sub (t + 1) 1 = Res.ok t := Rs.sub_ok (Nat.le_add_left 1 t)

theorem while_exit (n k : Nat) (hk : k < 64) (hgt : ¬ 2 ^ k ≤ n) (es : List RCell) (li : Nat) (lv : Int) (f : Nat) :
    indexCore_while1 Iit.max3 n (f + 1) (es, li, lv, k) = Res.ok (es, li, lv, k) := by
  rw [indexCore_while1]
  simp only [shl_one k hk, Res.ok_bind, hgt, decide_false, Bool.false_eq_true, ↓reduceIte, Res.pure_eq_ok]

/-- the update of `last_value` at the end of a round, and the next round -/
theorem while_tail (n : Nat) (es : List RCell) (hl : es.length = n) (t : Nat) (lv : Int) (f k : Nat) :
    (if decide (t < n) = true then do
        let t25 ← Rs.idx es t
        if decide (t25.2.2 > lv) = true then do
            let t27 ← Rs.idx es t
            indexCore_while1 Iit.max3 n f (es, t, t27.2.2, k)
          else indexCore_while1 Iit.max3 n f (es, t, lv, k)
      else indexCore_while1 Iit.max3 n f (es, t, lv, k))
    = indexCore_while1 Iit.max3 n f
        (es, t, if t < n ∧ (getC (cells es) t).mx > lv then (getC (cells es) t).mx else lv, k) := by
  by_cases hin : t < n
  · have hin' : t < es.length := hl ▸ hin
    have hg : (getC (cells es) t).mx = es[t].2.2 := by rw [getC_cells es t hin']; rfl
    simp only [hin, decide_true, ↓reduceIte, Rs.idx_ok hin', Res.ok_bind, hg, true_and, decide_eq_true_eq]
    split <;> rfl
  · simp only [hin, decide_false, Bool.false_eq_true, ↓reduceIte, false_and]

theorem while_round (n : Nat) (hn : n < 2 ^ 62) (j : Nat) (hle : 2 ^ (j + 1) ≤ n) (es : List RCell) (hl : es.length = n)
    (li : Nat) (hli : li < n + 2 ^ j) (lv : Int) (f : Nat) :
    ∃ es1 li1 lv1, es1.length = n ∧ li1 < n + 2 ^ (j + 1) ∧ (cells es1, li1, lv1) = levelStep n (cells es, li, lv) (j + 1) ∧
      indexCore_while1 Iit.max3 n (f + 1) (es, li, lv, j + 1) = indexCore_while1 Iit.max3 n f (es1, li1, lv1, j + 2) := by
  have hj : j + 1 < 62 := (Nat.pow_lt_pow_iff_right (by omega : 1 < 2)).mp (Nat.lt_of_le_of_lt hle hn)
  have hp := Nat.two_pow_pos j
  have e4j : 2 ^ (j + 2) = 4 * 2 ^ j := two_pow_succ_succ j
  -- the new `last_i`: no underflow, no overflow, and the bound for the next round
  have hli1 : (if li / 2 ^ (j + 1) % 2 > 0 then li - 2 ^ j else li + 2 ^ j) < n + 2 ^ (j + 1) := by split <;> omega
  have hsub : li / 2 ^ (j + 1) % 2 > 0 → 2 ^ j ≤ li := fun hb => by
    have : ¬ li < 2 ^ (j + 1) := fun hlt => by rw [Nat.div_eq_of_lt hlt] at hb; exact absurd hb (by decide)
    omega
  have hadd : li + 2 ^ j < 2 ^ 64 := by omega
  have e1 : Rs.shl 64 1 (j + 1) = Res.ok (2 ^ (j + 1)) := shl_one _ (by omega)
  have e3 : Rs.shl 64 1 j = Res.ok (2 ^ j) := shl_one _ (by omega)
  have e4 : Rs.shl 64 (2 ^ j) 1 = Res.ok (2 ^ (j + 1)) := shl_pow j 1 (by omega)
  have e5 : Rs.sub (2 ^ (j + 1)) 1 = Res.ok (2 ^ (j + 1) - 1) := Rs.sub_ok (by omega)
  have e6 : Rs.shl 64 (2 ^ j) 2 = Res.ok (2 ^ (j + 2)) := shl_pow j 2 (by omega)
  have e7 : Rs.rangeStepBy (2 ^ (j + 1) - 1) n (2 ^ (j + 2))
      = Res.ok (stepIdx (2 ^ (j + 1) - 1) n (2 ^ (j + 2))) := Rs.rangeStepBy_ok (by omega)
  have e8 : Rs.shr 64 li (j + 1) = Res.ok (li >>> (j + 1)) := Rs.shr_ok (by omega)
  have e10 : Rs.add 64 (j + 1) 1 = Res.ok (j + 2) := Rs.add_ok (by omega)
  have hx64 : n + 2 ^ j < 2 ^ 64 := by omega
  obtain ⟨es1, g1, g2, g3⟩ := for2_spec (2 ^ j) n lv (stepIdx (2 ^ (j + 1) - 1) n (2 ^ (j + 2))) es
    (fun i hi => by
      obtain ⟨hnode, hlt⟩ := (mem_levelIdx j n i).mp hi
      have := node_ge hnode
      exact ⟨by omega, hl ▸ hlt⟩)
    hl.symm hx64
  rw [indexCore_while1]
  simp only [e1, Res.ok_bind, hle, decide_true, ↓reduceIte, sub_one, e3, e4, e5, e6, e7, g1, e8, e10, Res.pure_eq_ok,
    Bool.false_eq_true, Nat.shiftRight_eq_div_pow, Nat.and_one_is_mod]
  refine ⟨es1, _, _, g2.trans hl, hli1, by rw [levelStep_eq, ← g3], ?_⟩
  by_cases hb : li / 2 ^ (j + 1) % 2 > 0
  · simp only [hb, decide_true, ↓reduceIte, Rs.sub_ok (hsub hb), Res.ok_bind, while_tail n es1 (g2.trans hl)]
  · simp only [hb, decide_false, Bool.false_eq_true, ↓reduceIte, Rs.add_ok hadd, Res.ok_bind,
      while_tail n es1 (g2.trans hl)]

/-- the `while (1 << k) <= n` loop: `d` rounds are left -/
theorem while_spec (n : Nat) (hn0 : 0 < n) (hn : n < 2 ^ 62) : ∀ (d k : Nat) (es : List RCell) (li : Nat) (lv : Int) (fuel : Nat),
    1 ≤ k → k + d = Nat.log2 n + 1 → d < fuel → es.length = n → li < n + 2 ^ (k - 1) →
    ∃ es' li' lv', indexCore_while1 Iit.max3 n fuel (es, li, lv, k) = Res.ok (es', li', lv', Nat.log2 n + 1) ∧
      es'.length = n ∧ (cells es', li', lv') = (List.range' k d).foldl (levelStep n) (cells es, li, lv) := by
  have hlog : Nat.log2 n < 62 := (Nat.log2_lt (by omega)).mpr hn
  intro d
  induction d with
  | zero =>
    intro k es li lv fuel hk hkd hf hl hli
    obtain ⟨f, rfl⟩ : ∃ f, fuel = f + 1 := ⟨fuel - 1, by omega⟩
    obtain rfl : k = Nat.log2 n + 1 := by omega
    exact ⟨es, li, lv, while_exit n _ (by omega) (Nat.not_le.mpr Nat.lt_log2_self) es li lv f, hl, rfl⟩
  | succ d ih =>
    intro k es li lv fuel hk hkd hf hl hli
    obtain ⟨f, rfl⟩ : ∃ f, fuel = f + 1 := ⟨fuel - 1, by omega⟩
    obtain ⟨j, rfl⟩ : ∃ j, k = j + 1 := ⟨k - 1, by omega⟩
    obtain ⟨es1, li1, lv1, g1, g2, g3, g4⟩ := while_round n hn j ((Nat.le_log2 (by omega)).mp (by omega)) es hl li hli lv f
    obtain ⟨es', li', lv', r1, r2, r3⟩ := ih (j + 2) es1 li1 lv1 f (by omega) (by omega) (by omega) g1 g2
    exact ⟨es', li', lv', g4 ▸ r1, r2, by rw [r3, g3, List.range'_succ, List.foldl_cons]⟩

/-- **`index_core` as written in the source = the mirror model** (fewer than `2^62` entries) -/
theorem indexCore_eq_model (es : List RCell) (ml : Nat) (hn : es.length < 2 ^ 62) :
    ∃ es', Gen.SrcIit.indexCore Iit.max3 es ml = Res.ok (es', (Iit.indexCore (cells es) ml).2) ∧
      cells es' = (Iit.indexCore (cells es) ml).1 := by
  cases hes : es with
  | nil => exact ⟨[], by simp [Gen.SrcIit.indexCore]; rfl, rfl⟩
  | cons c t =>
    rw [← hes]
    have hn0 : 0 < es.length := by rw [hes]; simp
    have hne : es.isEmpty = false := by rw [hes]; rfl
    have hne' : (cells es).isEmpty = false := by rw [hes]; rfl
    have e0 : Rs.idx es 0 = Res.ok es[0] := Rs.idx_ok hn0
    have e1 : Rs.rangeStepBy 0 es.length 2 = Res.ok (stepIdx 0 es.length 2) := Rs.rangeStepBy_ok (by omega)
    obtain ⟨li1, es1, lv1, f1, f2, f3⟩ := for1_spec Iit.max3 (stepIdx 0 es.length 2) 0 es es[0].2.2
      (by intro i hi; obtain ⟨t, rfl, h⟩ := (mem_stepIdx _ _ _ i (by omega)).mp hi; exact h)
    have hl0 : level0 (cells es) es.length = (cells es1, li1, lv1) := by
      rw [level0_eq, f3, getC_cells es 0 hn0]; rfl
    have hli1 : li1 < es.length + 2 ^ (1 - 1) := by
      have h : li1 = lastLeaf es.length := by
        have := (level0_spec (cells es) (by rw [length_cells]; exact hn0)).2.2.2.1
        rwa [length_cells, hl0] at this
      exact h ▸ Nat.lt_add_right _ (lastLeaf_lt hn0)
    have hlog : Nat.log2 es.length < 62 := by rw [Nat.log2_lt (by omega)]; exact hn
    obtain ⟨es2, li2, lv2, w1, w2, w3⟩ := while_spec es.length hn0 hn (Nat.log2 es.length) 1 es1 li1 lv1 65
      (by omega) (by omega) (by omega) f2 hli1
    have e2 : Rs.sub (Nat.log2 es.length + 1) 1 = Res.ok (Nat.log2 es.length) := by rw [Rs.sub_ok (by omega)]; rfl
    have hmodel : Iit.indexCore (cells es) ml
        = (((List.range' 1 (Nat.log2 es.length)).foldl (levelStep es.length) (level0 (cells es) es.length)).1,
            Nat.log2 es.length) := by
      unfold Iit.indexCore
      simp only [hne', Bool.false_eq_true, if_false, length_cells]
    refine ⟨es2, ?_, ?_⟩
    · rw [hmodel]
      simp only [Gen.SrcIit.indexCore, hne, Bool.false_eq_true, ↓reduceIte, e0, e1, f1, w1, e2, Res.ok_bind, Res.pure_eq_ok]
    · rw [hmodel, hl0, ← w3]


/-! # `find_into`

The translated `find_into` keeps its stack in a 64-slot vector with a top pointer `t`; the model `findLoop` recurses on a
list (head = top).  One round of the translated `while t > 0` loop is computed once per branch of its body (`while_leaf`,
`while_down`, `while_up`), under the arithmetic conditions that keep it from panicking.  `find_while_spec`: if the first
`t` slots are the model's stack `S`, bottom first (`arr S`), the loop appends to `results` exactly what `findLoop … S`
returns — by `StackOk.induction` (`RbV/Model/IitProofs.lean`), each round of the source (`while_*`) against the same
round of the model (`findLoop_leaf/down/up`).  The invariant `StackOk` supplies the conditions: the stack never
overflows (the levels on it increase strictly from the top and are at most `max_level ≤ 61`, `length_le_of_increasing`),
`x - 2^(k-1)` does not underflow and `x + 2^(k-1)`, `i0 + 2^(k+1)` do not overflow (every cell is a node inside the tree of
height `K`, `OkC`), and `3^(max_level+2)` rounds of fuel suffice (`stackWeight`).  `results.clear()` makes the answer
independent of what the buffer held before. -/

abbrev RSC := Nat × Nat × Bool
abbrev REntry := (Int × Int) × Int
def toEntry (r : REntry) : Entry := ⟨r.1.1, r.1.2, r.2⟩

def rscan (q : Query) : List RCell → List REntry
  | [] => []
  | c :: cs => if c.2.1.1 ≥ q.hi then [] else if q.lo < c.2.1.2 then (c.2.1, c.1) :: rscan q cs else rscan q cs

theorem rscan_map (q : Query) : ∀ l : List RCell, (rscan q l).map toEntry = scan q (cells l) := by
  intro l
  induction l with
  | nil => rfl
  | cons c cs ih =>
    simp only [rscan, cells, List.map_cons, scan]
    have h1 : (toCell c).e.lo = c.2.1.1 := rfl
    have h2 : (toCell c).e.hi = c.2.1.2 := rfl
    rw [h1, h2]
    by_cases ha : c.2.1.1 ≥ q.hi
    · simp [ha]
    · by_cases hb : q.lo < c.2.1.2
      · simp only [ha, hb, if_true, if_false, List.map_cons]
        congr 1
      · simp only [ha, hb, if_false]
        exact ih

theorem for1_scan (es : List RCell) (q : Query) : ∀ (l : List (RCell × Nat)) (res : List REntry),
    (∀ p ∈ l, es[p.2]? = some p.1) →
    findInto_for1 Iit.max3 q.hi q.lo es l res = Res.ok (res ++ rscan q (l.map Prod.fst)) := by
  intro l
  induction l with
  | nil => intro res _; simp [findInto_for1, rscan]
  | cons p rest ih =>
    intro res h
    obtain ⟨node, i⟩ := p
    have e1 : Rs.idx es i = Res.ok node := Rs.idx_of_getElem? (h (node, i) List.mem_cons_self)
    have hr := fun r => ih r (fun p hp => h p (List.mem_cons_of_mem _ hp))
    rw [findInto_for1]
    by_cases ha : node.2.1.1 ≥ q.hi
    · simp [ha, rscan]
    · by_cases hb : q.lo < node.2.1.2
      · simp [ha, hb, e1, hr, rscan]
      · simp [ha, hb, hr, rscan]

theorem idx_mid {α : Type} (A B : List α) (c : α) : Rs.idx (A ++ c :: B) A.length = Res.ok c :=
  Rs.idx_of_getElem? (by simp)

theorem setIdx_mid {α : Type} (A B : List α) (c v : α) : Rs.setIdx (A ++ c :: B) A.length v = Res.ok (A ++ v :: B) := by
  rw [Rs.setIdx_ok (by simp)]; simp

theorem setIdx_mid1 {α : Type} (A B : List α) (c d v : α) :
    Rs.setIdx (A ++ c :: d :: B) (A.length + 1) v = Res.ok (A ++ c :: v :: B) := by
  have := setIdx_mid (A ++ [c]) B d v
  simpa using this

theorem idx_mid1 {α : Type} (A B : List α) (c d : α) : Rs.idx (A ++ c :: d :: B) (A.length + 1) = Res.ok d := by
  have := idx_mid (A ++ [c]) B d
  simpa using this

theorem while_leaf (es : List RCell) (q : Query) (A B : List RSC) (k x : Nat) (w : Bool) (res : List REntry) (f : Nat)
    (hk : k ≤ 3) (hx : x < 2 ^ 62) :
    findInto_while1 Iit.max3 es.length es q.hi q.lo (f + 1) (A.length + 1, res, A ++ (k, x, w) :: B)
      = findInto_while1 Iit.max3 es.length es q.hi q.lo f
          (A.length, res ++ rscan q (leafCells es es.length k x), A ++ (k, x, w) :: B) := by
  unfold leafCells
  have hi0 : x >>> k <<< k ≤ x := by
    rw [Nat.shiftRight_eq_div_pow, Nat.shiftLeft_eq]; exact Nat.div_mul_le_self x (2 ^ k)
  have hp16 : 1 <<< (k + 1) ≤ 16 := by
    rw [Nat.one_shiftLeft]; exact Nat.pow_le_pow_right (by omega) (by omega : k + 1 ≤ 4)
  have hpp : 0 < 1 <<< (k + 1) := by rw [Nat.one_shiftLeft]; exact Nat.two_pow_pos _
  have e1 : Rs.shr 64 x k = Res.ok (x >>> k) := Rs.shr_ok (by omega)
  have e2 : Rs.shl 64 (x >>> k) k = Res.ok (x >>> k <<< k) := by
    rw [Rs.shl_ok (by omega), Nat.mod_eq_of_lt (Nat.lt_of_le_of_lt hi0 (by omega))]
  have e3 : Rs.add 64 k 1 = Res.ok (k + 1) := Rs.add_ok (by omega)
  have e4 : Rs.shl 64 1 (k + 1) = Res.ok (1 <<< (k + 1)) := by
    rw [Rs.shl_ok (by omega), Nat.mod_eq_of_lt (Nat.lt_of_le_of_lt hp16 (by omega))]
  generalize x >>> k <<< k = i0 at *
  generalize 1 <<< (k + 1) = p at *
  have e5 : Rs.add 64 i0 p = Res.ok (i0 + p) := Rs.add_ok (by omega)
  have e6 : Rs.sub (i0 + p) 1 = Res.ok (i0 + p - 1) := Rs.sub_ok (by omega)
  have e7 := for1_scan es q (List.drop i0 (List.take (Nat.min (i0 + p - 1) es.length) es.zipIdx)) res
    (fun p hp => List.mem_zipIdx_iff_getElem?.mp (List.mem_of_mem_take (List.mem_of_mem_drop hp)))
  rw [List.map_drop, List.map_take, List.zipIdx_map_fst] at e7
  rw [findInto_while1]
  simp only [Nat.succ_pos, gt_iff_lt, decide_true, ↓reduceIte, sub_one, Res.ok_bind, idx_mid, hk, e1, e2, e3, e4, e5, e6,
    e7, Res.pure_eq_ok]

theorem while_down (es : List RCell) (q : Query) (A B : List RSC) (j x : Nat) (d : RSC) (res : List REntry) (f : Nat)
    (hk : ¬ j + 1 ≤ 3) (hj : j < 63) (hx : 2 ^ j ≤ x) (hA : A.length < 64) :
    findInto_while1 Iit.max3 es.length es q.hi q.lo (f + 1) (A.length + 1, res, A ++ (j + 1, x, false) :: d :: B)
      = if x - 2 ^ j ≥ es.length ∨ (getC (cells es) (x - 2 ^ j)).mx > q.lo then
          findInto_while1 Iit.max3 es.length es q.hi q.lo f
            (A.length + 2, res, A ++ (j + 1, x, true) :: (j, x - 2 ^ j, false) :: B)
        else findInto_while1 Iit.max3 es.length es q.hi q.lo f (A.length + 1, res, A ++ (j + 1, x, true) :: d :: B) := by
  have e2 : Rs.shl 64 1 j = Res.ok (2 ^ j) := shl_one j (by omega)
  have e3 : Rs.sub x (2 ^ j) = Res.ok (x - 2 ^ j) := Rs.sub_ok hx
  have e4 : Rs.add 64 A.length 1 = Res.ok (A.length + 1) := Rs.add_ok (by omega)
  have e5 : Rs.add 64 (A.length + 1) 1 = Res.ok (A.length + 2) := Rs.add_ok (by omega)
  rw [findInto_while1]
  simp only [Nat.succ_pos, gt_iff_lt, decide_true, ↓reduceIte, sub_one, Res.ok_bind, idx_mid, setIdx_mid, idx_mid1,
    setIdx_mid1, hk, decide_false, Bool.not_false, Bool.false_eq_true, e2, e3, e4, e5, Res.pure_eq_ok]
  by_cases hy : x - 2 ^ j ≥ es.length
  · simp only [hy, decide_true, ↓reduceIte, true_or]
  · have hy' : x - 2 ^ j < es.length := Nat.lt_of_not_le hy
    have hm : (getC (cells es) (x - 2 ^ j)).mx = es[x - 2 ^ j].2.2 := by rw [getC_cells es _ hy']; rfl
    simp only [hy, decide_false, Bool.false_eq_true, ↓reduceIte, false_or, Rs.idx_ok hy', Res.ok_bind, hm, decide_eq_true_eq]

theorem while_up (es : List RCell) (q : Query) (A B : List RSC) (j x : Nat) (res : List REntry) (f : Nat)
    (hk : ¬ j + 1 ≤ 3) (hj : j < 63) (hx : x + 2 ^ j < 2 ^ 64) (hA : A.length < 64) :
    findInto_while1 Iit.max3 es.length es q.hi q.lo (f + 1) (A.length + 1, res, A ++ (j + 1, x, true) :: B)
      = if h : x < es.length ∧ (getC (cells es) x).e.lo < q.hi then
          findInto_while1 Iit.max3 es.length es q.hi q.lo f
            (A.length + 1, res ++ (if q.lo < (es[x]'h.1).2.1.2 then [((es[x]'h.1).2.1, (es[x]'h.1).1)] else []),
              A ++ (j, x + 2 ^ j, false) :: B)
        else findInto_while1 Iit.max3 es.length es q.hi q.lo f (A.length, res, A ++ (j + 1, x, true) :: B) := by
  have e2 : Rs.shl 64 1 j = Res.ok (2 ^ j) := shl_one j (by omega)
  have e3 : Rs.add 64 x (2 ^ j) = Res.ok (x + 2 ^ j) := Rs.add_ok hx
  have e4 : Rs.add 64 A.length 1 = Res.ok (A.length + 1) := Rs.add_ok (by omega)
  rw [findInto_while1]
  simp only [Nat.succ_pos, gt_iff_lt, decide_true, ↓reduceIte, sub_one, Res.ok_bind, idx_mid, setIdx_mid, hk, decide_false,
    Bool.not_true, Bool.false_eq_true, e2, e3, e4, Res.pure_eq_ok]
  by_cases hxn : x < es.length
  · have hg : (getC (cells es) x).e.lo = es[x].2.1.1 := by rw [getC_cells es x hxn]; rfl
    simp only [hxn, decide_true, ↓reduceIte, Rs.idx_ok hxn, Res.ok_bind, hg, true_and, decide_eq_true_eq]
    split
    · split <;> simp only [List.append_nil]
    · rfl
  · simp only [hxn, decide_false, Bool.false_eq_true, ↓reduceIte, false_and, dite_false]

def ofSC (c : SC) : RSC := (c.k, c.x, c.w)

/-- the used part of the 64-slot array: the model's stack, bottom first -/
def arr (S : List SC) : List RSC := S.reverse.map ofSC

theorem arr_cons (k x : Nat) (w : Bool) (S : List SC) (J : List RSC) :
    arr (⟨k, x, w⟩ :: S) ++ J = arr S ++ (k, x, w) :: J := by
  simp only [arr, List.reverse_cons, List.map_append, List.map_cons, List.map_nil, List.append_assoc, List.singleton_append, ofSC]

theorem length_arr (S : List SC) : (arr S).length = S.length := by
  simp only [arr, List.length_map, List.length_reverse]

/-- the arithmetic of one round cannot panic on a stack that satisfies the invariant -/
theorem stackOk_bounds {K j x : Nat} {w : Bool} {S : List SC} (h : StackOk K (⟨j + 1, x, w⟩ :: S)) (hK : K ≤ 61) :
    j < 63 ∧ (arr S).length + 3 < 64 ∧ 2 ^ j ≤ x ∧ x + 2 ^ j < 2 ^ 64 := by
  have hd : S.length + (j + 1) ≤ K := length_le_of_increasing h
  have hge : 2 ^ (j + 1) ≤ x + 1 := node_ge h.head.1
  have hb : x + 2 ^ (j + 1) ≤ 2 ^ (K + 1) := h.head.2.1
  have hK2 : 2 ^ (K + 1) ≤ 2 ^ 62 := Nat.pow_le_pow_right (by omega) (by omega)
  have hp := Nat.two_pow_pos j
  rw [two_pow_succ] at hge hb
  rw [length_arr]
  omega

theorem find_while_spec (es : List RCell) (q : Query) (K : Nat) (hK : K ≤ 61) :
    ∀ (S : List SC), StackOk K S → ∀ (junk : List RSC) (res : List REntry) (fuel : Nat),
      (arr S ++ junk).length = 64 → stackWeight S < fuel →
      ∃ stack' R, findInto_while1 Iit.max3 es.length es q.hi q.lo fuel (S.length, res, arr S ++ junk)
          = Res.ok (0, res ++ R, stack') ∧ R.map toEntry = findLoop (cells es) es.length q S := by
  have hK2 : 2 ^ (K + 1) ≤ 2 ^ 62 := Nat.pow_le_pow_right (by omega) (by omega)
  refine StackOk.induction ?_ ?_ ?_ ?_
  · intro junk res fuel _ hf
    obtain ⟨f, rfl⟩ := Nat.exists_eq_add_one_of_ne_zero (Nat.ne_zero_of_lt hf)
    exact ⟨junk, [], by simp [findInto_while1, arr], by rw [findLoop]; rfl⟩
  · intro k x st hk hS ih junk res fuel hlen hf
    obtain ⟨f, rfl⟩ := Nat.exists_eq_add_one_of_ne_zero (Nat.ne_zero_of_lt hf)
    have hxb : x + 2 ^ k ≤ 2 ^ (K + 1) := hS.head.2.1
    have hp := Nat.two_pow_pos k
    rw [arr_cons] at hlen ⊢
    obtain ⟨stack', R, r1, r2⟩ := ih ((k, x, false) :: junk)
      (res ++ rscan q (leafCells es es.length k x)) f hlen
      (Nat.lt_of_lt_of_le (weight_pop ⟨k, x, false⟩ st) (Nat.le_of_lt_succ hf))
    exact ⟨stack', rscan q (leafCells es es.length k x) ++ R,
      by rw [List.length_cons, ← length_arr st, while_leaf es q _ _ k x false res f hk (by omega), length_arr, r1, List.append_assoc],
      by rw [findLoop_leaf _ _ q x false st hk, List.map_append, r2, rscan_map]; simp only [cells, leafCells, List.map_drop, List.map_take, List.length_map]⟩
  · intro j x st hj hS ih1 ih2 junk res fuel hlen hf
    obtain ⟨f, rfl⟩ := Nat.exists_eq_add_one_of_ne_zero (Nat.ne_zero_of_lt hf)
    obtain ⟨hj63, hA, hx, -⟩ := stackOk_bounds hS hK
    rw [arr_cons] at hlen ⊢
    obtain ⟨d, B, rfl⟩ : ∃ d B, junk = d :: B := by
      cases junk with
      | nil => simp only [List.length_append, List.length_cons, List.length_nil] at hlen; omega
      | cons d B => exact ⟨d, B, rfl⟩
    rw [List.length_cons, ← length_arr st, while_down es q _ B j x d res f hj hj63 hx (by omega), findLoop_down _ _ q x st hj,
      length_arr]
    by_cases hc : x - 2 ^ j ≥ es.length ∨ (getC (cells es) (x - 2 ^ j)).mx > q.lo
    · rw [if_pos hc, if_pos hc]
      have := ih1 B res f (by rw [arr_cons, arr_cons]; simpa only [List.length_append, List.length_cons] using hlen)
        (Nat.lt_of_lt_of_le (weight_left j x (x - 2 ^ j) st) (Nat.le_of_lt_succ hf))
      rwa [arr_cons, arr_cons] at this
    · rw [if_neg hc, if_neg hc]
      have := ih2 (d :: B) res f (by rw [arr_cons]; simpa only [List.length_append, List.length_cons] using hlen)
        (Nat.lt_of_lt_of_le (weight_mark (j + 1) x st) (Nat.le_of_lt_succ hf))
      rwa [arr_cons] at this
  · intro j x st hj hS ih1 ih2 junk res fuel hlen hf
    obtain ⟨f, rfl⟩ := Nat.exists_eq_add_one_of_ne_zero (Nat.ne_zero_of_lt hf)
    obtain ⟨hj63, hA, -, hx⟩ := stackOk_bounds hS hK
    rw [arr_cons] at hlen ⊢
    rw [List.length_cons, ← length_arr st, while_up es q _ junk j x res f hj hj63 hx (by omega), findLoop_up _ _ q x st hj,
      length_arr]
    by_cases hc : x < es.length ∧ (getC (cells es) x).e.lo < q.hi
    · rw [dif_pos hc, if_pos hc]
      -- the bound has to stand in the context by itself before `es[x]` is elaborated: found by `assumption`, searched for otherwise
      have hxn := hc.1
      obtain ⟨stack', R, r1, r2⟩ := ih1 junk (res ++ (if q.lo < es[x].2.1.2 then [(es[x].2.1, es[x].1)] else [])) f
        (by rw [arr_cons]; simpa only [List.length_append, List.length_cons] using hlen)
        (Nat.lt_of_lt_of_le (weight_right j x (x + 2 ^ j) st) (Nat.le_of_lt_succ hf))
      rw [arr_cons, List.append_assoc] at r1
      refine ⟨stack', _ ++ R, r1, ?_⟩
      rw [List.map_append, r2, getC_cells es x hxn, apply_ite (List.map toEntry)]
      rfl
    · rw [dif_neg hc, if_neg hc]
      exact ih2 ((j + 1, x, true) :: junk) res f hlen
        (Nat.lt_of_lt_of_le (weight_pop ⟨j + 1, x, true⟩ st) (Nat.le_of_lt_succ hf))

/-- **`find_into` as written in the source = the mirror model's search**, for an indexed tree with `max_level ≤ 61`,
whatever the result buffer held before -/
theorem findInto_eq_model (es : List RCell) (K : Nat) (hK : K ≤ 61) (q : Query) (res0 : List REntry) :
    ∃ R, findInto Iit.max3 es K true (q.lo, q.hi) res0 = Res.ok R ∧
      R.map toEntry = findLoop (cells es) es.length q [⟨K, (1 <<< K) - 1, false⟩] := by
  have hp := Nat.two_pow_pos K
  obtain ⟨stack', R, r1, r2⟩ := find_while_spec es q K hK [⟨K, 2 ^ K - 1, false⟩] (stackOk_root K)
    (List.replicate 63 (0, 0, false)) [] (3 ^ (K + 2)) rfl
    (by
      have := pow3_pos (K + 1)
      simp only [stackWeight, List.map_cons, List.map_nil, List.sum_cons, List.sum_nil, SC.weight, Bool.false_eq_true,
        if_false, Nat.pow_succ 3 (K + 1)]
      omega)
  refine ⟨R, ?_, by rw [r2, Nat.one_shiftLeft]⟩
  have hrep : List.replicate 64 ((0, 0, false) : RSC) = (0, 0, false) :: List.replicate 63 (0, 0, false) := rfl
  have ei : ∀ (c : RSC) (B : List RSC), Rs.idx (c :: B) 0 = Res.ok c := fun c B => idx_mid [] B c
  have esx : ∀ (c v : RSC) (B : List RSC), Rs.setIdx (c :: B) 0 v = Res.ok (v :: B) := fun c v B => setIdx_mid [] B c v
  have e1 : Rs.shl 64 1 K = Res.ok (2 ^ K) := shl_one K (by omega)
  have e2 : Rs.sub (2 ^ K) 1 = Res.ok (2 ^ K - 1) := Rs.sub_ok hp
  have r1' : findInto_while1 Iit.max3 es.length es q.hi q.lo (3 ^ (K + 2))
      (1, [], (K, 2 ^ K - 1, false) :: List.replicate 63 (0, 0, false)) = Res.ok (0, R, stack') := r1
  unfold findInto
  simp only [Bool.not_true, Bool.false_eq_true, if_false, hrep, ei, esx, e1, e2, Res.ok_bind, r1', Res.pure_eq_ok]

theorem findInto_not_indexed (es : List RCell) (K : Nat) (iv : Int × Int) (res0 : List REntry) :
    findInto Iit.max3 es K false iv res0 = Res.panic := by
  simp [findInto]

/-- the level `index_core` leaves behind is at most 61 for fewer than `2^62` entries (and unchanged on the empty tree) -/
theorem indexCore_level_le (a : List Cell) (ml : Nat) (hml : ml ≤ 61) (hn : a.length < 2 ^ 62) :
    (Iit.indexCore a ml).2 ≤ 61 := by
  unfold Iit.indexCore
  split
  · exact hml
  · rename_i he
    have hpos : a.length ≠ 0 := by
      intro h0; apply he; simpa using List.eq_nil_of_length_eq_zero h0
    show Nat.log2 a.length ≤ 61
    have : Nat.log2 a.length < 62 := (Nat.log2_lt hpos).mpr hn
    omega

/-- `find_into` after `index_core` on entries sorted by start: exactly the overlapping entries, in index order -/
theorem findInto_after_indexCore (es : List RCell) (ml : Nat) (hml : ml ≤ 61) (hn : es.length < 2 ^ 62)
    (hs : SortedC (cells es)) (es' : List RCell) (h2 : cells es' = (Iit.indexCore (cells es) ml).1) (q : Query)
    (res0 : List REntry) :
    ∃ R, findInto Iit.max3 es' (Iit.indexCore (cells es) ml).2 true (q.lo, q.hi) res0 = Res.ok R ∧
      R.map toEntry = expected ((cells es).map (·.e)) q := by
  obtain ⟨g1, g2, g3, g4⟩ := indexCore_spec (cells es) ml hs
  obtain ⟨R, r1, r2⟩ := findInto_eq_model es' _
    (indexCore_level_le (cells es) ml hml (by rw [length_cells]; exact hn)) q res0
  refine ⟨R, r1, ?_⟩
  rw [r2, ← length_cells es', h2, find_eq _ _ q g2 g3 g4, ans, g1]

/-! # `index`

`self.entries.sort_by_key(|e| e.interval.start)` is the abstract function `sortByStart` of the translated definition (the
closure text is fixed by the translation spec); its contract — the trusted meaning of the standard library's sort, as far
as the property needs it — is `SortContract`: a permutation that is sorted by start.  (Stability is not needed: the answer
is compared as a multiset.) -/

def SortContract (srt : List RCell → List RCell) : Prop := ∀ l, (srt l).Perm l ∧ SortedC (cells (srt l))

/-- **`index` as written in the source**: on an un-indexed tree it sorts, runs the translated `index_core` and sets the
flag; the cells are the model's `indexCore` of the sorted entries -/
theorem index_eq_model (srt : List RCell → List RCell) (hs : SortContract srt) (es : List RCell) (ml : Nat)
    (hn : es.length < 2 ^ 62) :
    ∃ es', Gen.SrcIit.index Iit.max3 srt es ml false
        = Res.ok (es', (Iit.indexCore (cells (srt es)) ml).2, true) ∧
      cells es' = (Iit.indexCore (cells (srt es)) ml).1 := by
  have hl : (srt es).length < 2 ^ 62 := by rw [(hs es).1.length_eq]; exact hn
  obtain ⟨es', h1, h2⟩ := indexCore_eq_model (srt es) ml hl
  exact ⟨es', by simp [Gen.SrcIit.index, h1], h2⟩

theorem index_indexed (srt : List RCell → List RCell) (es : List RCell) (ml : Nat) :
    Gen.SrcIit.index Iit.max3 srt es ml true = Res.ok (es, ml, true) := by
  simp [Gen.SrcIit.index]

end RbV.Thm.GenSrcIit
