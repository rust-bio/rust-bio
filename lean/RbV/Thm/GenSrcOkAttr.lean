import Lean.Meta.Tactic.Simp.RegisterCommand
/-! The simp set `rs_ok`, declared apart from the module that fills it (`RbV/Thm/GenSrcOk.lean`). -/

/-- every operation of `RbV/Basic/RsSem.lean` returns `ok v` under its side condition; used as
`simp (disch := omega) only [rs_ok, body, facts]`: the binds of a translated body are resolved wherever the bounds in the
context decide the side conditions -/
register_simp_attr rs_ok
