import RbV.Gen.SrcSaisLms
import RbV.Lemmas.SaisTypes
import RbV.Thm.GenSrcBasic
import RbV.Thm.GenSrcOk
/-!
# The translated text of `Sais::lms_substring_eq`, `Sais::calc_lms_pos` and `Sais::sort_lms_suffixes` equals the mirror model

`RbV/Gen/SrcSaisLms.lean` is regenerated by `tools/rs2lean_gensa.py` on every `./check C03`.  `for k in 0..` is a loop over
`0, 1, …` for as long as the fuel `text.len() + 1` lasts (running out of it is `Res.fuel`; the `false` after the loop is dead
code).  `lms_substring_eq_eq_model`: for two **different** positions of a text whose last symbol occurs nowhere else the
translated function returns what the model's `lmsSubEq` returns — no index leaves the text (the scan stops at the latest
when one of the two cursors reaches the final position: the symbols differ there) and the fuel suffices.  For `i = j = n − 1`
the Rust code would run off the text; it is never called with `i = j`.
`sort_lms_suffixes_eq_model` (naming loop, the test `label + 1 < count`, recursion with the backup of `lms_pos`, or the filter
of `pos`): the callee `construct` of the next level is the abstract `constructF`, tied by `hrec` to the model's `rec` on the
reduced text; `hback` says that the recursive result indexes the backup.  `widthOf` is the width `calc_lms_pos` selects for
the reduced text.
-/
set_option linter.unusedSimpArgs false

namespace RbV.Thm.GenSrcSaisLms
open RbV RbV.Rs RbV.Gen RbV.Thm.GenSrc RbV.Sais

theorem lms_substring_eq_for1_eq (isLF isSF isLmsF : Nat → Res Bool) (t : List Nat) (ty : List Bool) (i j : Nat) (hij : i ≠ j)
    (hsz : t.length + t.length < 2 ^ 64)
    (hu : ∀ p, p + 1 < t.length → t.getD p 0 ≠ t.getD (t.length - 1) 0)
    (hLms : ∀ q, q < t.length → isLmsF q = Res.ok (isLms ty q)) :
    ∀ (f k : Nat), i + k < t.length → j + k < t.length → t.length ≤ max i j + k + f →
      SrcSaisLms.lms_substring_eq_for1 isLF isSF isLmsF t ty i j (List.range' k f) () =
        Res.ok (some (lmsSubEqGo t ty i j f k), ()) := by
  intro f
  induction f with
  | zero => intro k _ _ h; omega
  | succ f ih =>
    intro k hi hj hd
    have hlt : ∀ x, x < t.length → x < 2 ^ 64 :=
      fun x hx => Nat.lt_trans hx (Nat.lt_of_le_of_lt (Nat.le_add_right _ _) hsz)
    have e1 : Rs.add 64 i k = Res.ok (i + k) := Rs.add_ok (hlt _ hi)
    have e2 : Rs.add 64 j k = Res.ok (j + k) := Rs.add_ok (hlt _ hj)
    have e5 : Rs.idx t (i + k) = Res.ok (t.getD (i + k) 0) := idx_getD t _ 0 hi
    have e6 : Rs.idx t (j + k) = Res.ok (t.getD (j + k) 0) := idx_getD t _ 0 hj
    rw [List.range'_succ, SrcSaisLms.lms_substring_eq_for1, lmsSubEqGo]
    simp only [e1, e2, hLms _ hi, hLms _ hj, e5, e6, Res.ok_bind, Res.pure_eq_ok]
    by_cases hs : t.getD (i + k) 0 = t.getD (j + k) 0
    · -- equal symbols at two different positions: neither is the final one, so the scan goes on inside the text
      have hni : i + k + 1 < t.length := Nat.lt_of_le_of_ne hi
        (fun h => hu (j + k) (by omega) (by rw [← Nat.eq_sub_of_add_eq h]; exact hs.symm))
      have hnj : j + k + 1 < t.length := Nat.lt_of_le_of_ne hj
        (fun h => hu (i + k) (by omega) (by rw [← Nat.eq_sub_of_add_eq h]; exact hs))
      rw [ih (k + 1) hni hnj (by omega)]
      generalize isLms ty (i + k) = li
      generalize isLms ty (j + k) = lj
      simp only [hs, bne_self_eq_false, Bool.false_eq_true, ↓reduceIte, ne_eq, not_true_eq_false]
      by_cases hl : li = lj
      · subst hl
        by_cases h3 : (decide (k > 0) && li && li) = true <;>
          simp only [bne_self_eq_false, Bool.false_eq_true, ↓reduceIte, gt_iff_lt, h3, not_true_eq_false]
      · simp only [bne_iff_ne, ne_eq, hl, not_false_eq_true, ↓reduceIte]
    · simp only [bne_iff_ne, ne_eq, hs, not_false_eq_true, ↓reduceIte]

/-- **translated `lms_substring_eq` = mirror model `lmsSubEq`** -/
theorem lms_substring_eq_eq_model (isLF isSF isLmsF : Nat → Res Bool) (t : List Nat) (ty : List Bool) (i j : Nat)
    (hi : i < t.length) (hj : j < t.length) (hij : i ≠ j) (hsz : t.length + t.length < 2 ^ 64)
    (hu : ∀ p, p + 1 < t.length → t.getD p 0 ≠ t.getD (t.length - 1) 0)
    (hLms : ∀ q, q < t.length → isLmsF q = Res.ok (isLms ty q)) :
    SrcSaisLms.lms_substring_eq isLF isSF isLmsF t ty i j = Res.ok (lmsSubEq t ty i j) := by
  have h := lms_substring_eq_for1_eq isLF isSF isLmsF t ty i j hij hsz hu hLms (t.length + 1) 0 (by omega) (by omega) (by omega)
  unfold SrcSaisLms.lms_substring_eq lmsSubEq
  simp [h]

/-! ### `calc_lms_pos`: the collection loop is the model's `collectStep`; then `calc_pos`, then the width dispatch -/

theorem bind_eta6 {A B C D E F : Type} (x : Res (A × B × C × D × E × F)) :
    (x >>= fun r => Res.ok (r.1, r.2.1, r.2.2.1, r.2.2.2.1, r.2.2.2.2.1, r.2.2.2.2.2)) = x := by
  cases x <;> rfl

/-- the integer width `calc_lms_pos` selects for the reduced text -/
def widthOf (m : Nat) : Nat := if m ≤ 255 then 8 else if m ≤ 65535 then 16 else if m ≤ 4294967295 then 32 else 64

section
variable (isLF isSF isLmsF : Nat → Res Bool)
  (calcPosF : List Nat → List Nat → VecMap → List Nat → List Nat → List Nat → List Bool →
    Res (List Nat × VecMap × List Nat × List Nat))
  (sortLmsF : Nat → List Nat → List Nat → List Nat → VecMap → List Nat → List Nat → List Nat → List Bool → Nat →
    Res (List Nat × List Nat × List Nat × VecMap × List Nat × List Nat))
  (ty : List Bool)

theorem calc_lms_pos_for1_eq (hLms : ∀ q, q < ty.length → isLmsF q = Res.ok (isLms ty q)) :
    ∀ (rs : List Nat) (st : List Nat × List Nat × Nat), (∀ r ∈ rs, r < ty.length ∧ r < st.2.1.length) →
      st.2.2 + rs.length < 2 ^ 64 →
      SrcSaisLms.calc_lms_pos_for1 isLF isSF isLmsF calcPosF sortLmsF ty rs st =
        Res.ok (rs.foldl (fun s r => collectStep ty r s) st) := by
  intro rs
  induction rs with
  | nil => intro st _ _; rfl
  | cons r rs ih =>
    intro st hr hsz
    obtain ⟨lms, rtp, i⟩ := st
    obtain ⟨h1, h2⟩ := hr r List.mem_cons_self
    have hr' := fun x hx => hr x (List.mem_cons_of_mem _ hx)
    rw [SrcSaisLms.calc_lms_pos_for1, List.foldl_cons, hLms r h1, Res.ok_bind, collectStep]
    rw [List.length_cons] at hsz
    dsimp only at hsz h2 hr' ⊢
    cases isLms ty r with
    | false => exact ih _ hr' (by simp only; omega)
    | true =>
      have hi1 : i + 1 < 2 ^ 64 := by omega
      simp only [↓reduceIte, Rs.setIdx_ok h2, Rs.add_ok hi1, Rs.add_ok_comm hi1, Res.ok_bind, Res.pure_eq_ok]
      exact ih _ (fun x hx => by rw [List.length_set]; exact hr' x hx) (by simp only; omega)

/-- **translated `calc_lms_pos` = the model's collection loop, then `calc_pos`, then `sort_lms_suffixes` at the selected
width** (the two callees abstract) -/
theorem calc_lms_pos_eq_model (hLms : ∀ q, q < ty.length → isLmsF q = Res.ok (isLms ty q))
    (pos lms0 rtp : List Nat) (bsz : VecMap) (bst be t : List Nat) (hty : ty.length = t.length)
    (hr : t.length ≤ rtp.length) (hsz : t.length < 2 ^ 64) :
    SrcSaisLms.calc_lms_pos isLF isSF isLmsF calcPosF sortLmsF pos lms0 rtp bsz bst be t ty =
      (do let c := forUp t.length (collectStep ty) ([], rtp, 0)
          let (pos, bsz, bst, be) ← calcPosF pos c.1 bsz bst be t ty
          sortLmsF (widthOf c.1.length) pos c.1 c.2.1 bsz bst be t ty c.1.length) := by
  have h := calc_lms_pos_for1_eq isLF isSF isLmsF calcPosF sortLmsF ty hLms (List.range t.length) ([], rtp, 0)
    (by intro r hr'; rw [List.mem_range] at hr'; simp only; omega) (by simp; omega)
  rw [← forUp_eq_foldl] at h
  unfold SrcSaisLms.calc_lms_pos
  simp only [Nat.sub_zero, ← List.range_eq_range', h, Res.ok_bind, Res.pure_eq_ok]
  generalize forUp t.length (collectStep ty) ([], rtp, 0) = c
  obtain ⟨c1, c2, c3⟩ := c
  simp only []
  cases hcp : calcPosF pos c1 bsz bst be t ty with
  | panic => rfl
  | fuel => rfl
  | ok r =>
    obtain ⟨p1, p2, p3, p4⟩ := r
    simp only [Res.ok_bind]
    unfold widthOf
    by_cases h8 : c1.length ≤ 255
    · simp [h8, bind_eta6]
    · by_cases h16 : c1.length ≤ 65535
      · simp [h8, h16, bind_eta6]
      · by_cases h32 : c1.length ≤ 4294967295
        · simp only [h8, decide_false, Bool.false_eq_true, ↓reduceIte, h16, h32, decide_true, bind_eta6]
        · simp only [h8, decide_false, Bool.false_eq_true, ↓reduceIte, h16, h32, bind_eta6]
end

/-! ### `sort_lms_suffixes`: naming loop = `Sais.nameStep`; then the recursion (abstract `construct`) or the filter -/

section
variable (isLF isSF isLmsF : Nat → Res Bool) (castS : Nat → Option Nat)
  (constructF : List Nat → List Nat → List Nat → VecMap → List Nat → List Nat → List Nat →
    Res (List Nat × List Nat × List Nat × VecMap × List Nat × List Nat))
  (t : List Nat) (ty : List Bool) (redPos : List Nat) (cnt : Nat)

theorem sort_lms_suffixes_for1_eq (hsz : t.length + t.length < 2 ^ 64)
    (hu : ∀ p, p + 1 < t.length → t.getD p 0 ≠ t.getD (t.length - 1) 0)
    (hLms : ∀ q, q < t.length → isLmsF q = Res.ok (isLms ty q))
    (hcast : ∀ x, x < cnt → castS x = some x) (hc63 : cnt < 2 ^ 63) :
    ∀ (ps : List Nat) (st : Naming), ps.Nodup → (∀ p ∈ ps, p < t.length) →
      (∀ p ∈ ps, isLms ty p = true → p < redPos.length ∧ redPos.getD p 0 < cnt) → st.red.length = cnt →
      (∀ q, st.prev = some q → q < t.length ∧ q ∉ ps) →
      st.label + (ps.filter (isLms ty)).length + (if st.prev.isSome then 1 else 0) ≤ cnt →
      SrcSaisLms.sort_lms_suffixes_for1 isLF isSF isLmsF castS constructF redPos t ty ps (st.label, st.red, st.prev) =
        Res.ok ((ps.foldl (nameStep t ty redPos) st).label, (ps.foldl (nameStep t ty redPos) st).red,
          (ps.foldl (nameStep t ty redPos) st).prev) ∧
      (ps.foldl (nameStep t ty redPos) st).label ≤ cnt := by
  have hsub := fun q p hq hp hqp => lms_substring_eq_eq_model isLF isSF isLmsF t ty q p hq hp hqp hsz hu hLms
  have h64 : ∀ x, x ≤ cnt → x < 2 ^ 64 := fun x hx => Nat.lt_of_le_of_lt hx (Nat.lt_trans hc63 p63)
  clear hsz hc63
  intro ps
  induction ps with
  | nil => intro st _ _ _ _ _ hcount; exact ⟨rfl, Nat.le_trans (Nat.le_add_right _ _) hcount⟩
  | cons p ps ih =>
    intro st hnd hlt hrp hred hprev hcount
    obtain ⟨label, prev, red⟩ := st
    obtain ⟨hpn, hnd'⟩ := List.nodup_cons.mp hnd
    have hp : p < t.length := hlt p List.mem_cons_self
    have hlt' := fun x hx => hlt x (List.mem_cons_of_mem _ hx)
    have hrp' := fun x hx => hrp x (List.mem_cons_of_mem _ hx)
    dsimp only at hred hprev hcount ⊢
    rw [SrcSaisLms.sort_lms_suffixes_for1, List.foldl_cons, hLms p hp, Res.ok_bind]
    rw [nameStep]
    cases hl : isLms ty p with
    | false =>
      simp only [Bool.false_eq_true, ↓reduceIte, Res.pure_eq_ok, Res.ok_bind]
      exact ih ⟨label, prev, red⟩ hnd' hlt' hrp' hred (fun q hq => ⟨(hprev q hq).1, fun hm' => (hprev q hq).2 (List.mem_cons_of_mem _ hm')⟩)
        (by simpa [List.filter_cons, hl] using hcount)
    | true =>
      obtain ⟨hr1, hr2⟩ := hrp p List.mem_cons_self hl
      have hcount' : label + ((ps.filter (isLms ty)).length + 1) + (if prev.isSome then 1 else 0) ≤ cnt := by
        simpa [List.filter_cons, hl] using hcount
      -- once the label `L` of this position is known, the rest of the iteration and the remaining loop
      have fin : ∀ L, L + (ps.filter (isLms ty)).length + 1 ≤ cnt →
          (do let t10 ← Rs.expect (castS L)
              let t11 ← Rs.idx redPos p
              let reduced_text ← Rs.setIdx red t11 t10
              SrcSaisLms.sort_lms_suffixes_for1 isLF isSF isLmsF castS constructF redPos t ty ps (L, reduced_text, some p)) =
            Res.ok ((ps.foldl (nameStep t ty redPos) ⟨L, some p, red.set (redPos.getD p 0) L⟩).label,
              (ps.foldl (nameStep t ty redPos) ⟨L, some p, red.set (redPos.getD p 0) L⟩).red,
              (ps.foldl (nameStep t ty redPos) ⟨L, some p, red.set (redPos.getD p 0) L⟩).prev) ∧
          (ps.foldl (nameStep t ty redPos) ⟨L, some p, red.set (redPos.getD p 0) L⟩).label ≤ cnt := by
        intro L hL
        simp only [hcast L (by omega), expect_some, idx_getD redPos p 0 hr1, Res.ok_bind,
          Rs.setIdx_ok (l := red) (i := redPos.getD p 0) (v := L) (by rw [hred]; exact hr2)]
        exact ih ⟨L, some p, red.set (redPos.getD p 0) L⟩ hnd' hlt' hrp' (by rw [List.length_set]; exact hred)
          (fun q hq => by cases hq; exact ⟨hp, hpn⟩) (by simpa using hL)
      cases prev with
      | none =>
        simp only [Option.isSome_none, Bool.false_eq_true, ↓reduceIte, Res.pure_eq_ok, Res.ok_bind]
        exact fin label (by simp at hcount'; omega)
      | some q =>
        obtain ⟨hq, hqn⟩ := hprev q rfl
        simp only [Option.isSome_some, ↓reduceIte, expect_some, Res.ok_bind,
          hsub q p hq hp (fun e => hqn (e ▸ List.mem_cons_self)), Res.pure_eq_ok]
        cases he : lmsSubEq t ty q p with
        | true =>
          simp only [Bool.not_true, Bool.false_eq_true, ↓reduceIte, Res.ok_bind]
          exact fin label (by simp at hcount'; omega)
        | false =>
          have hl1 : label + 1 < 2 ^ 64 := h64 _ (by simp at hcount'; omega)
          simp only [Bool.not_false, ↓reduceIte, Rs.add_ok hl1, Rs.add_ok_comm hl1, Res.ok_bind]
          exact fin (label + 1) (by simp at hcount'; omega)

theorem sort_lms_suffixes_for2_eq (backup : List Nat) : ∀ (ps acc : List Nat), (∀ p ∈ ps, p < backup.length) →
    SrcSaisLms.sort_lms_suffixes_for2 isLF isSF isLmsF castS constructF backup ps acc =
      Res.ok (acc ++ ps.map (fun p => backup.getD p 0)) := by
  intro ps
  induction ps with
  | nil => intro acc _; simp [SrcSaisLms.sort_lms_suffixes_for2]
  | cons p ps ih =>
    intro acc h
    have e1 : Rs.idx backup p = Res.ok (backup.getD p 0) := idx_getD backup p 0 (h p (by simp))
    have := ih (acc ++ [backup.getD p 0]) (fun x hx => h x (List.mem_cons_of_mem _ hx))
    simp only [SrcSaisLms.sort_lms_suffixes_for2, e1, Res.ok_bind, this, List.append_assoc, List.cons_append,
      List.nil_append, List.map_cons]

theorem sort_lms_suffixes_for3_eq (hLms : ∀ q, q < t.length → isLmsF q = Res.ok (isLms ty q)) : ∀ (ps acc : List Nat),
    (∀ p ∈ ps, p < t.length) →
    SrcSaisLms.sort_lms_suffixes_for3 isLF isSF isLmsF castS constructF ty ps acc =
      Res.ok (acc ++ ps.filter (isLms ty)) := by
  intro ps
  induction ps with
  | nil => intro acc _; simp [SrcSaisLms.sort_lms_suffixes_for3]
  | cons p ps ih =>
    intro acc h
    have e1 := hLms p (h p (by simp))
    cases hl : isLms ty p with
    | false =>
      have := ih acc (fun x hx => h x (List.mem_cons_of_mem _ hx))
      simp only [SrcSaisLms.sort_lms_suffixes_for3, e1, hl, Res.pure_eq_ok, Res.ok_bind, this, Bool.false_eq_true,
        ↓reduceIte, not_false_eq_true, List.filter_cons_of_neg]
    | true =>
      have := ih (acc ++ [p]) (fun x hx => h x (List.mem_cons_of_mem _ hx))
      simp only [SrcSaisLms.sort_lms_suffixes_for3, e1, hl, Res.pure_eq_ok, Res.ok_bind, this, List.append_assoc,
        List.cons_append, List.nil_append, ↓reduceIte, List.filter_cons_of_pos]

-- the proof does not use `hty`
set_option linter.unusedVariables false in
/-- **translated `sort_lms_suffixes` = the mirror model `Sais.sortLmsSuffixes`** for every `construct` of the next level that
returns what the model's `rec` returns: naming loop (`Sais.naming`), the test `label + 1 < count`, the recursion with the
`lms_pos` backup, or the filter of `pos` -/
theorem sort_lms_suffixes_eq_model (rec : List Nat → St → St) (s : St) (bsz : VecMap)
    (hty : ty.length = t.length) (hsz : t.length + t.length < 2 ^ 64)
    (hu : ∀ p, p + 1 < t.length → t.getD p 0 ≠ t.getD (t.length - 1) 0)
    (hLms : ∀ q, q < t.length → isLmsF q = Res.ok (isLms ty q))
    (hcast : ∀ x, x < cnt → castS x = some x) (hc63 : cnt < 2 ^ 63)
    (hnd : s.pos.Nodup) (hlt : ∀ p ∈ s.pos, p < t.length) (hne : 0 < s.pos.length)
    (h0 : cnt > 1 → s.pos.getD 0 0 < s.redPos.length ∧ s.redPos.getD (s.pos.getD 0 0) 0 < cnt)
    (hrp : ∀ p ∈ s.pos, isLms ty p = true → p < s.redPos.length ∧ s.redPos.getD p 0 < cnt)
    (hcount : (s.pos.filter (isLms ty)).length ≤ cnt)
    (hrec : cnt > 1 → (naming t ty cnt s).label + 1 < cnt → ∃ bsz',
      constructF s.pos s.lmsPos s.redPos bsz s.bStart s.bEnd (naming t ty cnt s).red =
      Res.ok ((rec (naming t ty cnt s).red s).pos, (rec (naming t ty cnt s).red s).lmsPos,
        (rec (naming t ty cnt s).red s).redPos, bsz', (rec (naming t ty cnt s).red s).bStart,
        (rec (naming t ty cnt s).red s).bEnd))
    (hback : cnt > 1 → (naming t ty cnt s).label + 1 < cnt →
      ∀ p ∈ (rec (naming t ty cnt s).red s).pos, p < s.lmsPos.length) :
    ∃ bsz', SrcSaisLms.sort_lms_suffixes isLF isSF isLmsF castS constructF s.pos s.lmsPos s.redPos bsz s.bStart s.bEnd t ty cnt =
      Res.ok ((sortLmsSuffixes rec t ty cnt s).pos, (sortLmsSuffixes rec t ty cnt s).lmsPos,
        (sortLmsSuffixes rec t ty cnt s).redPos, bsz', (sortLmsSuffixes rec t ty cnt s).bStart,
        (sortLmsSuffixes rec t ty cnt s).bEnd) := by
  unfold SrcSaisLms.sort_lms_suffixes sortLmsSuffixes
  by_cases hc : cnt > 1
  · have h0 := h0 hc
    have e0 : castS 0 = some 0 := hcast 0 (by omega)
    have e1 : Rs.idx s.pos 0 = Res.ok (s.pos.getD 0 0) := idx_getD s.pos 0 0 hne
    have e2 : Rs.idx s.redPos (s.pos.getD 0 0) = Res.ok (s.redPos.getD (s.pos.getD 0 0) 0) := idx_getD _ _ 0 h0.1
    have e3 : Rs.setIdx (List.replicate cnt 0) (s.redPos.getD (s.pos.getD 0 0) 0) 0 =
        Res.ok ((List.replicate cnt 0).set (s.redPos.getD (s.pos.getD 0 0) 0) 0) := Rs.setIdx_ok (by simpa using h0.2)
    obtain ⟨hn, hle⟩ := sort_lms_suffixes_for1_eq isLF isSF isLmsF castS constructF t ty s.redPos cnt hsz hu hLms hcast hc63 s.pos
      ⟨0, none, (List.replicate cnt 0).set (s.redPos.getD (s.pos.getD 0 0) 0) 0⟩ hnd hlt hrp (by simp)
      (fun q hq => by simp at hq) (by simpa using hcount)
    have hnm : s.pos.foldl (nameStep t ty s.redPos)
        { label := 0, prev := none, red := (List.replicate cnt 0).set (s.redPos.getD (s.pos.getD 0 0) 0) 0 } =
        naming t ty cnt s := rfl
    rw [hnm] at hn hle
    have hlab : (naming t ty cnt s).label + 1 < 2 ^ 64 := by have := p63; omega
    have e4 : Rs.add 64 (naming t ty cnt s).label 1 = Res.ok ((naming t ty cnt s).label + 1) := Rs.add_ok hlab
    have hset : (List.replicate cnt 0).set (s.redPos.getD (s.pos.getD 0 0) 0) 0 = List.replicate cnt 0 :=
      List.set_replicate_self
    rw [hset] at hn e3
    rw [if_pos hc]
    by_cases hlt2 : (naming t ty cnt s).label + 1 < cnt
    · obtain ⟨bsz', hr⟩ := hrec hc hlt2
      have e5 := sort_lms_suffixes_for2_eq isLF isSF isLmsF castS constructF s.lmsPos (rec (naming t ty cnt s).red s).pos []
        (hback hc hlt2)
      refine ⟨bsz', ?_⟩
      simp only [gt_iff_lt, hc, decide_true, ↓reduceIte, e0, expect_some, e1, decide_eq_true_eq, Res.pure_eq_ok,
        Res.ok_bind, e2, e3, hn, e4, Rs.add_ok_comm hlab, hr, e5, List.nil_append, hlt2]
    · have e5 := sort_lms_suffixes_for3_eq isLF isSF isLmsF castS constructF t ty hLms s.pos [] hlt
      refine ⟨bsz, ?_⟩
      simp only [gt_iff_lt, hc, decide_true, ↓reduceIte, e0, expect_some, e1, decide_eq_true_eq, Res.pure_eq_ok,
        Res.ok_bind, e5, List.nil_append, e2, e3, hn, e4, Rs.add_ok_comm hlab, hlt2]
  · exact ⟨bsz, by simp [hc]⟩
end

end RbV.Thm.GenSrcSaisLms
