import Lean.Meta.Tactic.Simp.RegisterCommand
/-! The simp set `rs_eval`, declared apart from the module that fills it (`RbV/Thm/GenSrcBitsSimp.lean`). -/

/-- evaluates the control structure of a translated body once its tests and checked operations are decided -/
register_simp_attr rs_eval
