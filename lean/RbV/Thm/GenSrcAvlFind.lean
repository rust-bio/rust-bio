import RbV.Thm.GenSrcAvlInsert
/-!
# The source text of the pruned DFS (`IntervalTreeIterator::next`, `IntervalTreeIteratorMut::next`, `intersect`, `find`,
# `find_mut`) = the mirror model's `findLoop`, and the end-to-end statements on the source text

The two `next` functions are translated separately (they are textually the same traversal up to `mut`); each is shown to
satisfy the same one-step equation (`iterNext_step`, `iterMutNext_step`: pop the top node; prune on `max`; push the left
child; prune the right side on the node's start; push the right child; report on `intersect`), and everything else is
proved once for an arbitrary loop function with that equation (`loop_spec`, `collect_spec`).  The `Vec` stack has its top
at the end, the model's list at the head: `stackOf nodes = nodes.reverse.map toTree`.  Fuel: one unit per popped node;
`weight (stackOf nodes) < fuel` suffices (`weight` = the termination measure of the model).
-/
set_option linter.unusedSimpArgs false
namespace RbV.GenSrcAvl
open RbV RbV.Rs RbV.Rs.Res RbV.Ivl RbV.Avl RbV.Gen
open RbV.Gen.SrcAvl (Node IntervalTree IntervalTreeIterator IntervalTreeIteratorMut EntryMut nodeInsert_goLeft treeDefault treeFind treeFindMut iterNext iterNext_loop1 iterMutNext iterMutNext_loop1)

/-- the `Vec` stack of an iterator (top = last element) as the model's stack of trees (top = head) -/
def stackOf (nodes : List Node) : List Tree := nodes.reverse.map toTree
/-- the query interval of an iterator as a query of the specification -/
def qOf (iv : Int × Int) : Query := ⟨iv.1, iv.2⟩
/-- `if let Some(ref c) = child { nodes.push(c) }` -/
def pushN (o : Option Node) (ns : List Node) : List Node :=
  match o with
  | some c => ns ++ [c]
  | none => ns
/-- the model's termination measure `Avl.weight` (twice the nodes plus one, per tree on the stack) of an iterator's stack: the
fuel one call of `next` needs is more than this, and a call does not increase it -/
def W (ns : List Node) : Nat := weight (stackOf ns)

theorem stackOf_concat (ns : List Node) (c : Node) : stackOf (ns ++ [c]) = toTree c :: stackOf ns := by
  simp [stackOf]

theorem toTree_ne_nil (c : Node) : toTree c ≠ .nil := by rw [toTree_eq]; simp

theorem push_stackOf (o : Option Node) (ns : List Node) : push (toTreeO o) (stackOf ns) = stackOf (pushN o ns) := by
  cases o with
  | none => simp [push, pushN]
  | some c =>
    rw [toTreeO_some, pushN, stackOf_concat]
    have := toTree_ne_nil c
    unfold push
    split
    · contradiction
    · rfl

theorem W_pushN (o : Option Node) (ns : List Node) : W (pushN o ns) ≤ 2 * size (toTreeO o) + 1 + W ns := by
  unfold W; rw [← push_stackOf]; exact weight_push _ _

theorem W_concat (ns : List Node) (c : Node) :
    W (ns ++ [c]) = 2 * (size (toTreeO c.left) + 1 + size (toTreeO c.right)) + 1 + W ns := by
  unfold W; rw [stackOf_concat, weight, size_toTree]

theorem findLoop_step (q : Query) (c : Node) (S : List Tree) :
    findLoop q (toTree c :: S) =
      if q.lo < c.max then
        if q.hi > c.interval.1 then
          if Avl.intersect q (entryOf c) = true then
            entryOf c :: findLoop q (push (toTreeO c.right) (push (toTreeO c.left) S))
          else findLoop q (push (toTreeO c.right) (push (toTreeO c.left) S))
        else findLoop q (push (toTreeO c.left) S)
      else findLoop q S := by
  rw [toTree_eq, findLoop]; rfl

/-- `intersect` as written in the source = the model's `intersect` -/
theorem intersect_eq_model (a b : Int × Int) (d : Int) :
    SrcAvl.intersect a b = ok (Avl.intersect ⟨a.1, a.2⟩ ⟨b.1, b.2, d⟩) := by
  unfold SrcAvl.intersect Avl.intersect
  first
    | rfl
    | (show ok _ = ok _
       congr 1
       rw [Bool.eq_iff_iff]
       simp only [Bool.and_eq_true, decide_eq_true_eq, gt_iff_lt, ge_iff_le]
       omega)

/-- what one call of `next` hands out, against the model's loop from the stack `ns`: `None` when the model has nothing more to
report, otherwise the entry the model reports next, leaving the stack `ns'` from which the model continues -/
def NextIs {ε : Type} (iv : Int × Int) (mkE : Node → ε) (ns ns' : List Node) (r : Option ε) : Prop :=
  (r = none ∧ findLoop (qOf iv) (stackOf ns) = []) ∨
    ∃ c, r = some (mkE c) ∧ findLoop (qOf iv) (stackOf ns) = entryOf c :: findLoop (qOf iv) (stackOf ns')

/-- one call of a `next` loop and the model, for any loop function with the one-step equation of the source -/
theorem loop_spec {σ ε : Type} (loop : Nat → σ → Res (Option ε × σ)) (mkS : List Node → σ) (mkE : Node → ε)
    (iv : Int × Int)
    (h0 : ∀ f, loop (f + 1) (mkS []) = ok (none, mkS []))
    (hs : ∀ f ns c, loop (f + 1) (mkS (ns ++ [c])) =
      if iv.1 < c.max then
        if iv.2 > c.interval.1 then
          if Avl.intersect (qOf iv) (entryOf c) = true then
            ok (some (mkE c), mkS (pushN c.right (pushN c.left ns)))
          else loop f (mkS (pushN c.right (pushN c.left ns)))
        else loop f (mkS (pushN c.left ns))
      else loop f (mkS ns)) :
    ∀ (f : Nat) (ns : List Node), W ns < f →
      ∃ r ns', loop f (mkS ns) = ok (r, mkS ns') ∧ W ns' ≤ W ns ∧
        NextIs iv mkE ns ns' r := by
  intro f
  induction f with
  | zero => intro ns h; omega
  | succ f ih =>
    intro ns hw
    rcases List.eq_nil_or_concat ns with rfl | ⟨ns, c, rfl⟩
    · exact ⟨none, [], h0 f, Nat.le_refl _, Or.inl ⟨rfl, by simp [stackOf, findLoop]⟩⟩
    · simp only [List.concat_eq_append, NextIs] at hw ⊢
      rw [hs, stackOf_concat, findLoop_step, push_stackOf, push_stackOf]
      have k : W ns < W (ns ++ [c]) ∧ W (pushN c.left ns) < W (ns ++ [c]) ∧
          W (pushN c.right (pushN c.left ns)) < W (ns ++ [c]) := by
        have hwc := W_concat ns c
        have p1 := W_pushN c.left ns
        have p2 := W_pushN c.right (pushN c.left ns)
        omega
      -- the rounds that do not report continue with a lighter stack
      have step : ∀ X, W X < W (ns ++ [c]) → ∃ r ns', loop f (mkS X) = ok (r, mkS ns') ∧ W ns' ≤ W (ns ++ [c]) ∧
          NextIs iv mkE X ns' r := by
        intro X hX
        obtain ⟨r, ns', e, w, rel⟩ := ih X (Nat.lt_of_lt_of_le hX (Nat.le_of_lt_succ hw))
        exact ⟨r, ns', e, Nat.le_trans w (Nat.le_of_lt hX), rel⟩
      show ∃ r ns', _ = ok (r, mkS ns') ∧ W ns' ≤ W (ns ++ [c]) ∧ _
      by_cases h1 : iv.1 < c.max
      · have h1' : (qOf iv).lo < c.max := h1
        rw [if_pos h1, if_pos h1']
        by_cases h2 : iv.2 > c.interval.1
        · have h2' : (qOf iv).hi > c.interval.1 := h2
          rw [if_pos h2, if_pos h2']
          by_cases h3 : Avl.intersect (qOf iv) (entryOf c) = true
          · rw [if_pos h3, if_pos h3]
            exact ⟨_, _, rfl, Nat.le_of_lt k.2.2, Or.inr ⟨c, rfl, rfl⟩⟩
          · rw [if_neg h3, if_neg h3]
            exact step _ k.2.2
        · have h2' : ¬ (qOf iv).hi > c.interval.1 := h2
          rw [if_neg h2, if_neg h2']
          exact step _ k.2.1
      · have h1' : ¬ (qOf iv).lo < c.max := h1
        rw [if_neg h1, if_neg h1']
        exact step _ k.1

/-- draining such an iterator yields exactly the model's result list, in order -/
theorem collect_spec {σ ε : Type} (loop : Nat → σ → Res (Option ε × σ)) (mkS : List Node → σ) (mkE : Node → ε)
    (toE : ε → Ivl.Entry) (hE : ∀ c, toE (mkE c) = entryOf c) (iv : Int × Int) (F : Nat)
    (hl : ∀ (ns : List Node), W ns < F →
      ∃ r ns', loop F (mkS ns) = ok (r, mkS ns') ∧ W ns' ≤ W ns ∧
        NextIs iv mkE ns ns' r) :
    ∀ (n : Nat) (ns : List Node), W ns < F → (findLoop (qOf iv) (stackOf ns)).length < n →
      ∃ res, Rs.collect (loop F) n (mkS ns) = ok res ∧ res.map toE = findLoop (qOf iv) (stackOf ns) := by
  intro n
  induction n with
  | zero => intro ns _ h; omega
  | succ n ih =>
    intro ns hw hn
    obtain ⟨r, ns', e, w, rel⟩ := hl ns hw
    rcases rel with ⟨rfl, hnil⟩ | ⟨c, rfl, hcons⟩
    · exact ⟨[], by simp [Rs.collect, e], by simp [hnil]⟩
    · rw [hcons] at hn ⊢
      simp only [List.length_cons] at hn
      obtain ⟨rest, e2, m2⟩ := ih ns' (by omega) (by omega)
      exact ⟨mkE c :: rest, by simp [Rs.collect, e, e2], by simp [hE, m2]⟩

/-- the one-step equation of a translated `next` loop by case analysis on the three tests and the two children -/
macro "next_step_tac" loop:ident : tactic =>
  `(tactic| (
    rename_i iv f ns c
    obtain ⟨civ, cv, cmx, ch, cl, cr⟩ := c
    have hi := intersect_eq_model iv civ cv
    by_cases h1 : iv.1 < cmx <;> by_cases h2 : iv.2 > civ.1 <;>
      cases h3 : Avl.intersect (qOf iv) (entryOf ⟨civ, cv, cmx, ch, cl, cr⟩) <;>
      cases cl <;> cases cr <;>
      (simp only [entryOf, qOf] at h3) <;>
      simp [$loop:ident, pushN, hi, h1, h2, h3, entryOf, qOf]))

theorem iterNext_nil (iv : Int × Int) (f : Nat) : iterNext_loop1 (f + 1) ⟨[], iv⟩ = ok (none, ⟨[], iv⟩) := by
  simp [iterNext_loop1]

theorem iterNext_step (iv : Int × Int) (f : Nat) (ns : List Node) (c : Node) :
    iterNext_loop1 (f + 1) ⟨ns ++ [c], iv⟩ =
      if iv.1 < c.max then
        if iv.2 > c.interval.1 then
          if Avl.intersect (qOf iv) (entryOf c) = true then
            ok (some ⟨c.value, c.interval⟩, ⟨pushN c.right (pushN c.left ns), iv⟩)
          else iterNext_loop1 f ⟨pushN c.right (pushN c.left ns), iv⟩
        else iterNext_loop1 f ⟨pushN c.left ns, iv⟩
      else iterNext_loop1 f ⟨ns, iv⟩ := by
  obtain ⟨civ, cv, cmx, ch, cl, cr⟩ := c
  have hi := intersect_eq_model iv civ cv
  cases cl <;> cases cr <;>
    simp only [iterNext_loop1, Rs.vecPop_concat, pushN, hi, entryOf, qOf, pure_bind, Res.ok_bind, Res.pure_eq_ok] <;> rfl

theorem iterMutNext_nil (iv : Int × Int) (f : Nat) : iterMutNext_loop1 (f + 1) ⟨[], iv⟩ = ok (none, ⟨[], iv⟩) := by
  simp [iterMutNext_loop1]

theorem iterMutNext_step (iv : Int × Int) (f : Nat) (ns : List Node) (c : Node) :
    iterMutNext_loop1 (f + 1) ⟨ns ++ [c], iv⟩ =
      if iv.1 < c.max then
        if iv.2 > c.interval.1 then
          if Avl.intersect (qOf iv) (entryOf c) = true then
            ok (some ⟨c.value, c.interval⟩, ⟨pushN c.right (pushN c.left ns), iv⟩)
          else iterMutNext_loop1 f ⟨pushN c.right (pushN c.left ns), iv⟩
        else iterMutNext_loop1 f ⟨pushN c.left ns, iv⟩
      else iterMutNext_loop1 f ⟨ns, iv⟩ := by
  obtain ⟨civ, cv, cmx, ch, cl, cr⟩ := c
  have hi := intersect_eq_model iv civ cv
  cases cl <;> cases cr <;>
    simp only [iterMutNext_loop1, Rs.vecPop_concat, pushN, hi, entryOf, qOf, pure_bind, Res.ok_bind, Res.pure_eq_ok] <;> rfl

/-- an `Entry` / `EntryMut` handed out by the iterators, as an entry of the specification -/
def toE (e : SrcAvl.Entry) : Ivl.Entry := ⟨e.interval.1, e.interval.2, e.data⟩
def toEM (e : EntryMut) : Ivl.Entry := ⟨e.interval.1, e.interval.2, e.data⟩

/-- **one call of `IntervalTreeIterator::next` as written in the source = the model's loop up to its next report**: with
`weight (stack) < fuel` the call does not panic and does not run out of fuel; it returns `None` exactly when the model's
`findLoop` has nothing more to report, and otherwise the entry the model reports next, leaving the stack from which the
model continues -/
theorem iterNext_eq_model (iv : Int × Int) (F : Nat) (ns : List Node) (hw : W ns < F) :
    ∃ r ns', iterNext F ⟨ns, iv⟩ = ok (r, ⟨ns', iv⟩) ∧ W ns' ≤ W ns ∧
      NextIs iv (fun c => ⟨c.value, c.interval⟩) ns ns' r := by
  have := loop_spec iterNext_loop1 (fun ns => ⟨ns, iv⟩) (fun c => ⟨c.value, c.interval⟩) iv
    (iterNext_nil iv) (iterNext_step iv) F ns hw
  simpa [iterNext] using this

theorem iterMutNext_eq_model (iv : Int × Int) (F : Nat) (ns : List Node) (hw : W ns < F) :
    ∃ r ns', iterMutNext F ⟨ns, iv⟩ = ok (r, ⟨ns', iv⟩) ∧ W ns' ≤ W ns ∧
      NextIs iv (fun c => ⟨c.value, c.interval⟩) ns ns' r := by
  have := loop_spec iterMutNext_loop1 (fun ns => ⟨ns, iv⟩) (fun c => ⟨c.value, c.interval⟩) iv
    (iterMutNext_nil iv) (iterMutNext_step iv) F ns hw
  simpa [iterMutNext] using this

theorem find_init (T : IntervalTree) (iv : Int × Int) : treeFind T iv = ok ⟨pushN T.root [], iv⟩ := by
  obtain ⟨root⟩ := T
  cases root <;> simp [treeFind, pushN]

theorem findMut_init (T : IntervalTree) (iv : Int × Int) : treeFindMut T iv = ok (⟨pushN T.root [], iv⟩, T) := by
  obtain ⟨root⟩ := T
  cases root <;> simp [treeFindMut, pushN]

/-- `tree.find(q).collect()` through the translated `find` and `next` -/
def srcFind (F : Nat) (T : IntervalTree) (iv : Int × Int) : Res (List SrcAvl.Entry) :=
  treeFind T iv >>= fun it => Rs.collect (iterNext F) F it

/-- `tree.find_mut(q).collect()` through the translated `find_mut` and `next` -/
def srcFindMut (F : Nat) (T : IntervalTree) (iv : Int × Int) : Res (List EntryMut) :=
  treeFindMut T iv >>= fun p => Rs.collect (iterMutNext F) F p.1

theorem W_root (o : Option Node) : W (pushN o []) ≤ 2 * size (toTreeO o) + 1 := by
  have := W_pushN o []
  simpa [W, stackOf, weight] using this

theorem find_stack (o : Option Node) (q : Query) : Avl.find (toTreeO o) q = findLoop q (stackOf (pushN o [])) := by
  unfold Avl.find
  rw [← push_stackOf]; rfl

/-- **`find(q)` drained through the translated `next` = the model's `find`**, in the order the model reports -/
theorem find_eq_model (F : Nat) (T : IntervalTree) (iv : Int × Int) (hF : 2 * size (toTreeO T.root) + 1 < F) :
    ∃ res, srcFind F T iv = ok res ∧ res.map toE = Avl.find (toTreeO T.root) (qOf iv) := by
  have hw := W_root T.root
  have hlen := findLoop_length_le (qOf iv) (stackOf (pushN T.root []))
  obtain ⟨res, h1, h2⟩ := collect_spec (fun f s => iterNext f s) (fun ns => (⟨ns, iv⟩ : IntervalTreeIterator))
    (fun c => ⟨c.value, c.interval⟩) toE (fun c => rfl) iv F
    (fun ns hns => iterNext_eq_model iv F ns hns) F (pushN T.root []) (by omega) (by unfold W at hw; omega)
  refine ⟨res, ?_, ?_⟩
  · simp only [srcFind, find_init, Res.ok_bind]; exact h1
  · rw [h2, find_stack]

theorem findMut_eq_model (F : Nat) (T : IntervalTree) (iv : Int × Int) (hF : 2 * size (toTreeO T.root) + 1 < F) :
    ∃ res, srcFindMut F T iv = ok res ∧ res.map toEM = Avl.find (toTreeO T.root) (qOf iv) := by
  have hw := W_root T.root
  have hlen := findLoop_length_le (qOf iv) (stackOf (pushN T.root []))
  obtain ⟨res, h1, h2⟩ := collect_spec (fun f s => iterMutNext f s) (fun ns => (⟨ns, iv⟩ : IntervalTreeIteratorMut))
    (fun c => ⟨c.value, c.interval⟩) toEM (fun c => rfl) iv F
    (fun ns hns => iterMutNext_eq_model iv F ns hns) F (pushN T.root []) (by omega) (by unfold W at hw; omega)
  refine ⟨res, ?_, ?_⟩
  · simp only [srcFindMut, findMut_init, Res.ok_bind]; exact h1
  · rw [h2, find_stack]

/-! ## end to end on the source text: any history through the translated `insert`, then the translated iterators -/

/-- the tree the translated `insert` builds from the empty tree, as a model tree -/
theorem srcBuild_default (F : Nat) (es : List (Int × Int × Int)) (hn : es.length < 2 ^ 60) (hF : es.length ≤ F) :
    ∃ T, (treeDefault >>= srcBuild nodeInsert_goLeft F es) = ok T ∧
      toTreeO T.root = buildG srcTb (entriesOf es) := by
  obtain ⟨T, h1, h2⟩ := srcBuild_eq_model nodeInsert_goLeft srcTb holeIs_src F es ⟨none⟩ (by rw [toTreeO_none]; exact good_nil)
    (by simp [size]; omega) (by simp [size]; omega)
  refine ⟨T, ?_, ?_⟩
  · rw [treeDefault_eq, Res.ok_bind]; exact h1
  · rw [h2]; rfl

/-- … and what that tree satisfies, for positive-width entries: the whole invariant, `es.length` nodes, the inserted
entries -/
theorem srcBuild_correct (F : Nat) (es : List (Int × Int × Int)) (hn : es.length < 2 ^ 60) (hF : es.length ≤ F)
    (hw : ∀ p ∈ es, p.1 < p.2.1) :
    ∃ T, (treeDefault >>= srcBuild nodeInsert_goLeft F es) = ok T ∧ Inv (toTreeO T.root) ∧ PosW (toTreeO T.root) ∧
      size (toTreeO T.root) = es.length ∧ (toList (toTreeO T.root)).Perm (entriesOf es) := by
  obtain ⟨T, h1, h2⟩ := srcBuild_default F es hn hF
  have hwf : ∀ e ∈ entriesOf es, e.lo < e.hi := by
    intro e he
    obtain ⟨p, hp, rfl⟩ := List.mem_map.mp he
    exact hw p hp
  obtain ⟨hi, hp, hperm⟩ := buildG_correct srcTb tieOk_src (entriesOf es) .nil hwf inv_nil (fun a ha => nomatch ha)
  refine ⟨T, h1, h2 ▸ hi, h2 ▸ hp, ?_, ?_⟩
  · rw [h2, buildG, size_buildG, entriesOf, List.length_map]; exact Nat.zero_add _
  · rw [h2]
    exact hperm.trans (by rw [toList, List.append_nil]; exact List.reverse_perm _)

end RbV.GenSrcAvl
