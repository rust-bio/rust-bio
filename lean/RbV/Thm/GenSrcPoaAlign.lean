import RbV.Gen.SrcPoaAlign
import RbV.Lemmas.PoaI32
import RbV.Thm.GenSrcI32
import RbV.Thm.GenSrcBasic
import RbV.Lemmas.PoaCells
/-!
# The `Traceback` table of poa.rs as translated from the source text: `get`, `set`, `new_row`, `initialize_scores`

Representation: a row `(cells, start, stop)` of the Rust matrix *represents* a model row `BRow` (`RowRep`) when start / stop
agree, both are empty or not, every in-band position exists, and the cells agree position by position up to trailing
`MIN_SCORE` padding (`new_row` allocates `size + 1` cells, the model keeps the computed ones and `BRow.get` answers
`mcell` for the rest).  In order: `get` and `set` on a stored row, `new_row`, `initialize_scores` (against `bRow0C`; what a `some`
result of the checked mirrors consists of is in `Lemmas/PoaI32.lean`, last section), and what the walk over the
main loop of `Poa::custom` (`GenSrcPoaWalk`) and the score-level proof of its tail (`GenSrcPoaScore`) rest on: reads and
writes of the row under construction, the `max_in_column` update, `custom_for1` as `new_row` + column loop.
-/
set_option linter.unusedSimpArgs false
namespace RbV.Thm.GenSrcPoaAlign
open RbV RbV.NW RbV.Rs RbV.Rs.Res RbV.Poa RbV.Poa.Model RbV.Gen.SrcPoaAlign
open RbV.Thm.GenSrcI32 (iadd32_some)

/-! ### `i32`: `GenSrcI32`; here the cast and the product as `poa.rs` writes it, `(j as i32) * gap_open` -/

theorem usizeAsI32_eq (j : Nat) : Rs.usizeAsI32 j = I32.ofUsize j := GenSrcI32.toSigned32_mod j

theorem imul32_some {a b v : Int} (h : I32.mul b a = some v) : Rs.imul 32 a b = ok v :=
  GenSrcI32.imul32_some (by rw [I32.mul_comm]; exact h)

/-! ### lists: `getElem?` and `set` -/

theorem lt_of_getElem? {α : Type} {l : List α} {i : Nat} {a : α} (h : l[i]? = some a) : i < l.length := by
  rcases Nat.lt_or_ge i l.length with h1 | h1
  · exact h1
  · rw [List.getElem?_eq_none h1] at h; cases h

theorem set_get_self {α : Type} {l : List α} {i : Nat} {a b : α} (h : l[i]? = some a) : (l.set i b)[i]? = some b := by
  simp [List.getElem?_set, lt_of_getElem? h]

theorem set_self_of_getElem? {α : Type} {l : List α} {i : Nat} {a : α} (h : l[i]? = some a) : l.set i a = l := by
  apply List.ext_getElem?
  intro k
  by_cases hk : i = k
  · subst hk; rw [set_get_self h, h]
  · simp [List.getElem?_set, hk]

theorem getElem?_set_ne' {α : Type} (l : List α) (i k : Nat) (a : α) (h : i ≠ k) : (l.set i a)[k]? = l[k]? := by
  simp [List.getElem?_set, h]

theorem set_append_len {α : Type} (l : List α) (a b : α) (r : List α) : (l ++ a :: r).set l.length b = l ++ b :: r := by
  induction l with
  | nil => rfl
  | cons x l ih => simp [ih]

theorem getElem?_append_len {α : Type} (l : List α) (a : α) (r : List α) : (l ++ a :: r)[l.length]? = some a := by
  induction l with
  | nil => rfl
  | cons x l ih => simp [ih]

theorem enumerate_eq {α : Type} (l : List α) : Rs.enumerate l = Rs.enumFrom 0 l := rfl

/-! ### a row of the Rust matrix stands for a model row -/

abbrev Row := List Cell × Nat × Nat

/-- the Rust row `rr` stands for the model row `br`: same band, both empty or neither, every in-band position stored, same
cells up to trailing `MIN_SCORE` padding -/
structure RowRep (rr : Row) (br : BRow) : Prop where
  start : rr.2.1 = br.start
  stop : rr.2.2 = br.stop
  empty : rr.1 = [] ↔ br.cells = []
  len : rr.1 ≠ [] → br.stop - br.start ≤ rr.1.length
  cells : ∀ k, rr.1.getD k mcell = br.cells.getD k mcell

theorem minScore_eq : RbV.Gen.Limits.minScorePoa = minScore := rfl

/-- a row of the Rust matrix read as a model row -/
abbrev rowB (rr : Row) : BRow := { cells := rr.1, start := rr.2.1, stop := rr.2.2 }

/-! ### `Traceback::get`, `Traceback::set` -/

/-- **`Traceback::get` on an existing row** is `BRow.get` of the row as stored — except that inside the band it indexes the cells, so a
band that reaches beyond the stored cells panics -/
theorem get_char (tb : Rs.Poa.Traceback) (i j : Nat) (cs : List Cell) (s e : Nat) (h : tb.matrix[i]? = some (cs, s, e)) :
    Traceback_get tb i j =
      if s ≤ j ∧ j < e ∧ cs ≠ [] ∧ cs.length ≤ j - s then panic else ok ((rowB (cs, s, e)).get j) := by
  unfold Traceback_get
  simp only [Rs.idx_of_getElem? h, Res.ok_bind, minScore_eq, Res.pure_eq_ok]
  by_cases hb : s ≤ j ∧ j < e ∧ cs ≠ []
  · obtain ⟨h1, h2, h3⟩ := hb
    have c1 : (!(decide (s > j) || decide (e ≤ j) || cs.isEmpty)) = true := by
      cases cs with
      | nil => exact absurd rfl h3
      | cons a l => simp; omega
    rw [if_pos c1, Rs.sub_ok h1]
    simp only [Res.ok_bind]
    by_cases hk : j - s < cs.length
    · rw [if_neg (fun hh => absurd hk (Nat.not_lt.mpr hh.2.2.2)), Rs.idx_ok hk, (rowB (cs, s, e)).get_inband j h1 h2 hk]
      simp [rowB, List.getD, List.getElem?_eq_getElem hk]
    · rw [if_pos ⟨h1, h2, h3, Nat.le_of_not_lt hk⟩]
      simp [Rs.idx, List.getElem?_eq_none (Nat.le_of_not_lt hk)]
  · have c1 : (!(decide (s > j) || decide (e ≤ j) || cs.isEmpty)) = false := by
      cases cs with
      | nil => simp
      | cons a l => simp at hb ⊢; omega
    have hb' : ¬ (s ≤ j ∧ j < e ∧ cs ≠ [] ∧ cs.length ≤ j - s) := fun hh => hb ⟨hh.1, hh.2.1, hh.2.2.1⟩
    have c2 : (decide (s ≤ j) && decide (j < e) && !cs.isEmpty) = false := by
      cases cs with
      | nil => simp
      | cons a l => simp at hb ⊢; omega
    rw [c1, if_neg hb']
    show _ = ok (BRow.get ⟨cs, s, e⟩ j)
    unfold BRow.get
    dsimp only
    rw [c2]
    simp only [Bool.false_eq_true, if_false, Res.ok_bind, mcell, decide_eq_true_eq, ge_iff_le]

/-- a row that represents `br` reads like `br`, and its band does not reach beyond its cells -/
theorem RowRep.get {rr : Row} {br : BRow} (hr : RowRep rr br) (j : Nat) :
    (rowB rr).get j = br.get j ∧ ¬ (rr.2.1 ≤ j ∧ j < rr.2.2 ∧ rr.1 ≠ [] ∧ rr.1.length ≤ j - rr.2.1) := by
  obtain ⟨cs, s, e⟩ := rr
  have hs := hr.start; have he := hr.stop; have hem := hr.empty; have hl := hr.len; have hc := hr.cells
  simp only at hs he hem hl hc
  refine ⟨?_, fun h => ?_⟩
  · have hemp : cs.isEmpty = br.cells.isEmpty := by
      cases cs <;> cases hb : br.cells <;> simp_all
    unfold BRow.get
    dsimp only
    rw [hs, he, hemp, hc]
  · simp only at h
    have := hl h.2.2.1
    omega

theorem get_eq (tb : Rs.Poa.Traceback) (i j : Nat) (rr : Row) (br : BRow) (h : tb.matrix[i]? = some rr) (hr : RowRep rr br) :
    Traceback_get tb i j = ok (br.get j) := by
  rw [get_char tb i j rr.1 rr.2.1 rr.2.2 h, if_neg (hr.get j).2, (hr.get j).1]

theorem get_inband (tb : Rs.Poa.Traceback) (i j : Nat) (cs : List Cell) (s e : Nat) (h : tb.matrix[i]? = some (cs, s, e))
    (h1 : s ≤ j) (h2 : j < e) (h3 : j - s < cs.length) : Traceback_get tb i j = ok (cs.getD (j - s) mcell) := by
  rw [get_char tb i j cs s e h, if_neg (fun hh => absurd h3 (Nat.not_lt.mpr hh.2.2.2)), (rowB (cs, s, e)).get_inband j h1 h2 h3]

/-- `get` on a row whose band starts at column 0 (every row `custom` makes) -/
theorem get_row (tb : Rs.Poa.Traceback) (i j : Nat) (cs : List Cell) (e : Nat) (h : tb.matrix[i]? = some (cs, 0, e))
    (hj : j < e) (hl : j < cs.length) : Traceback_get tb i j = ok (cs.getD j mcell) :=
  get_inband tb i j cs 0 e h (Nat.zero_le j) hj hl

theorem set_eq (tb : Rs.Poa.Traceback) (i j : Nat) (cell : Cell) (cs : List Cell) (s e : Nat)
    (h : tb.matrix[i]? = some (cs, s, e)) (h1 : s ≤ j) (h2 : j ≤ e) (h3 : j - s < cs.length) :
    Traceback_set tb i j cell = ok { tb with matrix := tb.matrix.set i (cs.set (j - s) cell, s, e) } := by
  unfold Traceback_set
  have c : (!(decide (s > j) || decide (e < j))) = true := by simp; omega
  simp only [Rs.idx_of_getElem? h, Res.ok_bind, c, if_true, Rs.sub_ok h1, Rs.setIdx_ok h3,
    Rs.setIdx_ok (lt_of_getElem? h), Res.pure_eq_ok]

/-- `Traceback::set` at a column outside `s ..= e` of the row writes nothing -/
theorem set_out (tb : Rs.Poa.Traceback) (i j : Nat) (cell : Cell) (cs : List Cell) (s e : Nat)
    (h : tb.matrix[i]? = some (cs, s, e)) (h1 : j < s ∨ e < j) : Traceback_set tb i j cell = ok tb := by
  unfold Traceback_set
  have c : (!(decide (s > j) || decide (e < j))) = false := by simp; omega
  simp only [Rs.idx_of_getElem? h, Res.ok_bind, c, Bool.false_eq_true, if_false, Res.pure_eq_ok]

theorem set_row (tb : Rs.Poa.Traceback) (i j : Nat) (cell : Cell) (cs : List Cell) (e : Nat)
    (h : tb.matrix[i]? = some (cs, 0, e)) (hj : j ≤ e) (hl : j < cs.length) :
    Traceback_set tb i j cell = ok { tb with matrix := tb.matrix.set i (cs.set j cell, 0, e) } :=
  set_eq tb i j cell cs 0 e h (Nat.zero_le j) hj hl

/-! ### `Traceback::new_row` -/

theorem new_row_for1_fold (row : Nat) : ∀ (l : List Nat) (tb : Rs.Poa.Traceback) (cs : List Cell) (s e : Nat),
    tb.matrix[row]? = some (cs, s, e) →
    List.foldlM (Traceback_new_row_for1 row) tb l =
      ok { tb with matrix := tb.matrix.set row (cs ++ List.replicate l.length mcell, s, e) }
  | [], tb, cs, s, e, h => by
    simp only [List.foldlM_nil, Res.pure_eq_ok, List.length_nil, List.replicate_zero, List.append_nil]
    congr 1
    cases tb with
    | mk r c la m =>
      simp only [Rs.Poa.Traceback.mk.injEq, true_and]
      simp only at h
      exact (set_self_of_getElem? h).symm
  | a :: l, tb, cs, s, e, h => by
    simp only [List.foldlM_cons]
    have e1 : Traceback_new_row_for1 row tb a = ok { tb with matrix := tb.matrix.set row (cs ++ [mcell], s, e) } := by
      unfold Traceback_new_row_for1
      simp only [Rs.idx_of_getElem? h, Res.ok_bind, Rs.setIdx_ok (lt_of_getElem? h), Res.pure_eq_ok, minScore_eq]
      rfl
    rw [e1]
    simp only [Res.ok_bind]
    rw [new_row_for1_fold row l _ (cs ++ [mcell]) s e (set_get_self h)]
    simp only [List.set_set, List.length_cons, List.replicate_succ, List.append_assoc, List.singleton_append]

theorem new_row_eq (tb : Rs.Poa.Traceback) (row size : Nat) (gap xclip : Int) (start end_ : Nat) (s0 e0 : Nat)
    (h : tb.matrix[row]? = some ([], s0, e0)) (c0 : Cell)
    (hc : (if start = 0 then (I32.mul gap (I32.ofUsize row)).map (fun g => cmax ⟨g, .d none⟩ ⟨xclip, .x 0⟩) else some mcell)
      = some c0) :
    Traceback_new_row tb row size gap xclip start end_ =
      ok { tb with matrix := tb.matrix.set row (c0 :: List.replicate size mcell, start, end_) } := by
  unfold Traceback_new_row
  have hl := lt_of_getElem? h
  simp only [Rs.idx_of_getElem? h, Res.ok_bind, Rs.setIdx_ok hl, List.length_set, List.set_set,
    Rs.idx_of_getElem? (set_get_self h), minScore_eq, usizeAsI32_eq]
  by_cases hs : start = 0
  · simp only [hs, if_true, Option.map_eq_some_iff] at hc
    obtain ⟨gv, hg, hc0⟩ := hc
    simp only [hs, decide_true, if_true, imul32_some hg, Res.ok_bind, GenSrc.setIdx_set _ _ _ _ hl, GenSrc.idx_set_self _ _ _ hl,
      Res.pure_eq_ok, List.nil_append]
    rw [new_row_for1_fold row _ _ [cmax ⟨gv, .d none⟩ ⟨xclip, .x 0⟩] 0 end_ (set_get_self h)]
    simp [Rs.rangeIncl, hc0]
  · simp only [hs, if_false, Option.some.injEq] at hc
    simp only [hs, decide_false, Bool.false_eq_true, if_false, Res.ok_bind, GenSrc.setIdx_set _ _ _ _ hl, GenSrc.idx_set_self _ _ _ hl,
      Res.pure_eq_ok, List.nil_append]
    rw [new_row_for1_fold row _ _ [⟨minScore, .m none⟩] start end_ (set_get_self h)]
    simp [Rs.rangeIncl, ← hc, mcell]

/-! ### `with_capacity`, `initialize_scores` -/

theorem init_for1_fold (gap yclip : Int) : ∀ (l : List Nat) (tb : Rs.Poa.Traceback) (cs : List Cell) (s e : Nat)
    (cells : List Cell), tb.matrix[0]? = some (cs, s, e) → mapC (row0Cell gap yclip) l = some cells →
    List.foldlM (Traceback_initialize_scores_for1 gap yclip) tb l =
      ok { tb with matrix := tb.matrix.set 0 (cs ++ cells, s, e) }
  | [], tb, cs, s, e, cells, h, hm => by
    simp only [mapC, Option.some.injEq] at hm
    subst hm
    simp only [List.foldlM_nil, Res.pure_eq_ok, List.append_nil, set_self_of_getElem? h]
  | a :: l, tb, cs, s, e, cells, h, hm => by
    obtain ⟨b, bs, h1, h2, rfl⟩ := mapC_cons_some hm
    simp only [List.foldlM_cons]
    simp only [row0Cell_eq, Option.bind_eq_some_iff, Option.some.injEq] at h1
    obtain ⟨g, hg, h1⟩ := h1
    have e1 : Traceback_initialize_scores_for1 gap yclip tb a = ok { tb with matrix := tb.matrix.set 0 (cs ++ [b], s, e) } := by
      unfold Traceback_initialize_scores_for1
      simp only [usizeAsI32_eq, imul32_some hg, Res.ok_bind, Rs.idx_of_getElem? h, Rs.setIdx_ok (lt_of_getElem? h),
        Res.pure_eq_ok, h1]
    rw [e1]
    simp only [Res.ok_bind]
    rw [init_for1_fold gap yclip l _ (cs ++ [b]) s e bs (set_get_self h) h2]
    simp only [List.set_set, List.append_assoc, List.singleton_append]

theorem init_eq (m n : Nat) (gap yclip : Int) (r0 : BRow) (h : bRow0C gap yclip n = some r0)
    (hn : n + 1 < 2 ^ 64) (hm : m + 1 < 2 ^ 64) :
    (do let tb ← Traceback_with_capacity m n
        Traceback_initialize_scores tb gap yclip) =
      ok { rows := m, cols := n, last := 0, matrix := (r0.cells, 0, n + 1) :: List.replicate m ([], 0, n + 1) } := by
  obtain ⟨g0, cs, h0, h1, rfl⟩ := bRow0C_some h
  have hall : mapC (row0Cell gap yclip) (Rs.rangeIncl 0 n) = some (cmax ⟨g0, .i none⟩ ⟨yclip, .y 0 0⟩ :: cs) := by
    have : Rs.rangeIncl 0 n = 0 :: List.range' 1 n := by
      unfold Rs.rangeIncl; simp [List.range'_succ]
    rw [this]
    simp only [mapC, row0Cell, h0, h1]
  unfold Traceback_with_capacity Traceback_initialize_scores
  simp only [Rs.add_ok hn, Rs.add_ok hm, Res.ok_bind, Res.pure_eq_ok, List.replicate_succ]
  rw [init_for1_fold gap yclip _ _ [] 0 (n + 1) _ (by simp) hall]
  simp [Rs.idx, Rs.setIdx]

/-- `init_eq` as `custom` meets it, in front of the rest of the function -/
theorem init_bind {β : Type} (m n : Nat) (gap yclip : Int) (r0 : BRow) (h : bRow0C gap yclip n = some r0)
    (hn : n + 1 < 2 ^ 64) (hm : m + 1 < 2 ^ 64) (f : Rs.Poa.Traceback → Res β) :
    (do let tb ← Traceback_with_capacity m n
        let tb ← Traceback_initialize_scores tb gap yclip
        f tb) =
      f { rows := m, cols := n, last := 0, matrix := (r0.cells, 0, n + 1) :: List.replicate m ([], 0, n + 1) } := by
  rw [← bind_assoc, init_eq m n gap yclip r0 h hn hm, Res.ok_bind]

/-! ### the row under construction in the column loop of `custom`: `c0 :: done ++ mcell :: pad`, column `k + 1` next -/

theorem row_get (tb0 : Rs.Poa.Traceback) (M0 : List Row) (v n : Nat) (c0 : Cell) (done pad : List Cell) (k : Nat) (left : Cell)
    (hlen : v + 1 < M0.length) (hdone : done.length = k) (hkn : k + 1 ≤ n) (hleft : (c0 :: done)[k]? = some left) :
    Traceback_get { tb0 with matrix := M0.set (v + 1) (c0 :: done ++ mcell :: pad, 0, n + 1) } (v + 1) k = ok left := by
  have this : (c0 :: done ++ mcell :: pad)[k]? = some left := by
    show ((c0 :: done) ++ mcell :: pad)[k]? = some left
    rw [List.getElem?_append_left (by rw [List.length_cons, hdone]; exact Nat.lt_succ_self k)]; exact hleft
  rw [get_row _ (v + 1) k _ (n + 1) (set_get_self (List.getElem?_eq_getElem hlen)) (Nat.lt_succ_of_lt (Nat.lt_of_succ_le hkn))
    (lt_of_getElem? this)]
  simp only [List.getD_eq_getElem?_getD]
  rw [this]; rfl

theorem row_set (tb0 : Rs.Poa.Traceback) (M0 : List Row) (v n : Nat) (c0 : Cell) (done pad : List Cell) (k : Nat) (cell : Cell)
    (hlen : v + 1 < M0.length) (hdone : done.length = k) (hkn : k + 1 ≤ n) :
    Traceback_set { tb0 with matrix := M0.set (v + 1) (c0 :: done ++ mcell :: pad, 0, n + 1) } (v + 1) (k + 1) cell =
      ok { tb0 with matrix := M0.set (v + 1) (c0 :: done ++ cell :: pad, 0, n + 1) } := by
  have hsetrow : (c0 :: done ++ mcell :: pad).set (k + 1) cell = c0 :: done ++ cell :: pad := by
    have := set_append_len (c0 :: done) mcell cell pad
    simp only [List.length_cons, hdone, List.cons_append] at this
    exact this
  rw [set_row _ (v + 1) (k + 1) _ _ (n + 1) (set_get_self (List.getElem?_eq_getElem hlen)) (Nat.le_succ_of_le hkn) (by
    show k + 1 < ((c0 :: done) ++ mcell :: pad).length
    rw [List.length_append, List.length_cons, hdone]; exact Nat.lt_add_of_pos_right (Nat.succ_pos _))]
  simp only [hsetrow, List.set_set]

/-- `if max_in_column[j].0 < score { max_in_column[j] = (score, i) }` at `j = k + 1`, as translated -/
theorem maxcol_update (pre : List (Int × Nat)) (mc : Int × Nat) (suf : List (Int × Nat)) (k v : Nat) (hpre : pre.length = k + 1)
    (t28 : Rs.Poa.Traceback) (cs : Int) : (do
      let t29 ← Rs.idx (pre ++ mc :: suf) (k + 1)
      if decide (t29.fst < cs) = true then do
          let t30 ← Rs.idx (pre ++ mc :: suf) (k + 1)
          let t31 ← Rs.setIdx (pre ++ mc :: suf) (k + 1) (cs, t30.snd)
          let t32 ← Rs.idx t31 (k + 1)
          let t33 ← Rs.setIdx t31 (k + 1) (t32.fst, v + 1)
          let max_in_column ← pure t33
          pure (max_in_column, t28)
        else do
          let max_in_column ← pure (pre ++ mc :: suf)
          pure (max_in_column, t28)) =
      ok (pre ++ (if mc.1 < cs then (cs, v + 1) else mc) :: suf, t28) := by
  have hmic : (pre ++ mc :: suf)[k + 1]? = some mc := by rw [← hpre]; exact getElem?_append_len pre mc suf
  have hmiclen : k + 1 < (pre ++ mc :: suf).length := lt_of_getElem? hmic
  simp only [Rs.idx_of_getElem? hmic, Res.ok_bind]
  by_cases hlt : mc.1 < cs
  · have e1 : (pre ++ mc :: suf).set (k + 1) (cs, mc.2) = pre ++ (cs, mc.2) :: suf := by rw [← hpre]; exact set_append_len _ _ _ _
    have e2 : (pre ++ (cs, mc.2) :: suf)[k + 1]? = some (cs, mc.2) := by rw [← hpre]; exact getElem?_append_len _ _ _
    have e3 : (pre ++ (cs, mc.2) :: suf).set (k + 1) (cs, v + 1) = pre ++ (cs, v + 1) :: suf := by
      rw [← hpre]; exact set_append_len _ _ _ _
    simp only [hlt, decide_true, if_true, Res.ok_bind, Rs.setIdx_ok hmiclen, e1, Rs.idx_of_getElem? e2,
      Rs.setIdx_ok (lt_of_getElem? e2), e3, Res.pure_eq_ok]
  · simp only [hlt, decide_false, Bool.false_eq_true, if_false, Res.ok_bind, Res.pure_eq_ok]

/-! ### the main loop of `custom` -/

/-- a round of the main loop of `custom` (`custom_for1`) is `new_row` followed by the column loop -/
theorem for1_of_for2 {sc : Sc} {xp : Int} {labels : List Nat} {es : WEdges} {query : List Nat} {tb : Rs.Poa.Traceback} {v : Nat}
    {c0 : Cell} {mcs : List (Int × Nat)} {res : List (Int × Nat) × Rs.Poa.Traceback}
    (hv : v < labels.length) (hv1 : v + 1 < 2 ^ 64) (hn : query.length + 1 < 2 ^ 64)
    (hc0 : edgeCellC sc xp v = some c0) (hfresh : tb.matrix[v + 1]? = some ([], 0, query.length + 1))
    (hfold : List.foldlM (custom_for2 sc.w sc.gap xp (labels.getD v 0) (v + 1) (inN es v))
        (mcs, { tb with last := v,
                        matrix := tb.matrix.set (v + 1) (c0 :: List.replicate (query.length + 1) mcell, 0, query.length + 1) })
        (Rs.enumFrom 0 query) = ok res) :
    custom_for1 sc.w ⟨labels, es⟩ sc.gap xp query query.length (mcs, tb) v = ok res := by
  have hnr := new_row_eq { tb with last := v } (v + 1) (query.length + 1) sc.gap xp 0 (query.length + 1) 0 (query.length + 1)
    hfresh c0 (by
      obtain ⟨g, hg, rfl⟩ := edgeCellC_some hc0
      simp only [if_true, hg, Option.map_some])
  have hw : Rs.Poa.nodeWeight ⟨labels, es⟩ v = ok (labels.getD v 0) := by
    unfold Rs.Poa.nodeWeight
    rw [Rs.idx_ok hv]; simp [List.getD, List.getElem?_eq_getElem hv]
  unfold custom_for1
  simp only [hw, Res.ok_bind, Rs.add_ok hv1, Rs.add_ok hn, Rs.Poa.neighborsIn]
  rw [hnr]
  simp only [Res.ok_bind, enumerate_eq, hfold, Res.pure_eq_ok]

end RbV.Thm.GenSrcPoaAlign
