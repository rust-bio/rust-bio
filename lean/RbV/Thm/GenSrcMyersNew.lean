import RbV.Gen.SrcMyersSimpleNew
import RbV.Gen.SrcMyersLongCtor
import RbV.Gen.SrcMyersBuilder
import RbV.Thm.GenSrcMyersSimple
import RbV.Lemmas.MyersStep
/-!
# The constructors of the Myers matchers as written: the per-symbol equality masks `Peq`

Imported only by `Thm/GenSrcMyersNewLong.lean` and the soft module `Thm/GenSrcMyersNewSoft.lean` (word-level and
shape-dependent: a failure here is a note of `./check C09`, not a broken obligation).

`RbV/Gen/SrcMyersSimpleNew.lean` (`Myers::new`, `Myers::new_ambig` of simple.rs), `RbV/Gen/SrcMyersLongCtor.lean` (the same two of
long.rs) and `RbV/Gen/SrcMyersBuilder.lean` (`MyersBuilder::{ambig, text_wildcard, build, build_long}`) are regenerated by
`tools/rs2lean_genlong.py` on every `./check C09`.  `opt_ambigs: Option<&HashMap<u8, Vec<u8>>>` is the entry list of the map,
`opt_wildcards: Option<&[u8]>` the list of wildcard bytes.

The masks the code builds: bit `i` of `peq[a]` is set iff pattern symbol `i` equals `a` or lists `a` as an equivalent
(`eqvA`); afterwards `peq[a] = T::max_value()` for every text wildcard `a` — **all** `w` bits, not only the `m` pattern bits
(`tabWord`).  So the table is the model's `peqTab w (eqvA amb) p` exactly when there are no text wildcards; with wildcards it
agrees with `peqTab w (eqvOf amb wild) p` on the pattern bits `i < m` (`tabWord_bit`), which is all the search reads.
-/
set_option linter.unusedSimpArgs false

namespace RbV.Thm.GenSrcMyersNew
open RbV RbV.Rs RbV.Model.MyersSimple RbV.Thm.GenSrc RbV.Thm.GenSrcMyersSimple

/-- the equivalents the ambiguity map lists for pattern symbol `x` -/
def ambOf (amb : Option (List (Nat × List Nat))) (x : Nat) : List Nat := (amb.bind (fun m => Rs.hmGet m x)).getD []

/-- pattern symbol `x` matches text symbol `a` through identity or the ambiguity map -/
def eqvA (amb : Option (List (Nat × List Nat))) (x a : Nat) : Bool := x == a || (ambOf amb x).contains a

/-- … or because `a` is a text wildcard: the property's symbol equivalence (`Drv/C09.lean: mkEqv`) -/
def eqvOf (amb : Option (List (Nat × List Nat))) (wild : Option (List Nat)) (x a : Nat) : Bool :=
  eqvA amb x a || (wild.getD []).contains a

/-- the word the constructor stores for text symbol `a` -/
def tabWord (w : Nat) (amb : Option (List (Nat × List Nat))) (wild : Option (List Nat)) (p : List Nat) (a : Nat) : Nat :=
  if (wild.getD []).contains a then 2 ^ w - 1 else (peq w (eqvA amb) p a).toNat

/-! ### one more pattern symbol -/

theorem peq_snoc (w : Nat) (eqv : Nat → Nat → Bool) (l : List Nat) (x a : Nat) :
    peq w eqv (l ++ [x]) a = peq w eqv l a ||| (if eqv x a then BitVec.twoPow w l.length else 0#w) := by
  apply BitVec.eq_of_getLsbD_eq
  intro j hj
  unfold peq
  rw [BitVec.getLsbD_or, ofBoolListLE'_bit w _ j hj, ofBoolListLE'_bit w _ j hj]
  simp only [List.map_append, List.map_cons, List.map_nil]
  by_cases h1 : j < l.length
  · rw [List.getElem?_append_left (by simpa using h1)]
    have : ¬ (l.length = j) := by omega
    split <;> simp [BitVec.getLsbD_twoPow, this]
  · rw [List.getElem?_append_right (by simpa using h1)]
    have hn : (List.map (fun x => eqv x a) l)[j]? = none := by
      rw [List.getElem?_eq_none_iff]; simpa using h1
    rw [hn]
    simp only [List.length_map, Option.getD_none, Bool.false_or]
    by_cases h2 : j = l.length
    · subst h2
      split <;> simp_all [BitVec.getLsbD_twoPow]
    · have h4 : ¬ (l.length = j) := fun h => h2 h.symm
      obtain ⟨n, hn'⟩ : ∃ n, j - l.length = n + 1 := ⟨j - l.length - 1, by omega⟩
      rw [hn']
      split <;> simp [BitVec.getLsbD_twoPow, h4]

theorem or_twoPow_toNat {w : Nat} (x : BitVec w) (i : Nat) (hi : i < w) : x.toNat ||| 2 ^ i = (x ||| BitVec.twoPow w i).toNat := by
  rw [BitVec.toNat_or, BitVec.toNat_twoPow, Nat.mod_eq_of_lt (Nat.pow_lt_pow_right (by omega) hi)]

theorem snoc_word {w : Nat} (P : BitVec w) (i : Nat) (hi : i < w) (b : Bool) :
    (P ||| (if b then BitVec.twoPow w i else 0#w)).toNat = if b then P.toNat ||| 2 ^ i else P.toNat := by
  cases b
  · simp
  · simp only [if_true]; exact (or_twoPow_toNat P i hi).symm

theorem upd_word (Pn m : Nat) (ax c : Bool) :
    (if c then (if ax then Pn ||| m else Pn) ||| m else (if ax then Pn ||| m else Pn)) = if (ax || c) then Pn ||| m else Pn := by
  cases ax <;> cases c <;> simp [Nat.or_assoc]

theorem eqvA_eq (amb : Option (List (Nat × List Nat))) (x a : Nat) :
    eqvA amb x a = (decide (a = x) || (ambOf amb x).contains a) := by
  unfold eqvA
  by_cases h : a = x
  · subst h; simp
  · have : (x == a) = false := by simp; exact fun h' => h h'.symm
    simp [h, this]

/-- the table after pattern symbol `x` at position `|pre|`: its own entry and those of its equivalents get the bit -/
theorem tab_snoc (w : Nat) (amb : Option (List (Nat × List Nat))) (pre : List Nat) (x : Nat) (hi : pre.length < w) :
    (tab 256 fun a => if (ambOf amb x).contains a then
        (if a = x then (peq w (eqvA amb) pre x).toNat ||| 2 ^ pre.length else (peq w (eqvA amb) pre a).toNat) ||| 2 ^ pre.length
      else if a = x then (peq w (eqvA amb) pre x).toNat ||| 2 ^ pre.length else (peq w (eqvA amb) pre a).toNat) =
      tab 256 (fun a => (peq w (eqvA amb) (pre ++ [x]) a).toNat) := by
  apply congrArg
  funext a
  rw [peq_snoc w _ pre x a, snoc_word _ _ hi, eqvA_eq]
  by_cases h1 : a = x
  · subst h1
    simpa using upd_word (peq w (eqvA amb) pre a).toNat (2 ^ pre.length) true ((ambOf amb a).contains a)
  · simpa [h1] using upd_word (peq w (eqvA amb) pre a).toNat (2 ^ pre.length) false ((ambOf amb x).contains a)

theorem tab_peq_nil (w : Nat) (eqv : Nat → Nat → Bool) : List.replicate 256 0 = tab 256 (fun a => (peq w eqv [] a).toNat) := by
  rw [tab_const]
  apply congrArg
  funext a
  simp [peq, peq.BitVec.ofBoolListLE']

theorem tabWord_none (w : Nat) (amb : Option (List (Nat × List Nat))) (p : List Nat) :
    tabWord w amb none p = fun a => (peq w (eqvA amb) p a).toNat := by
  funext a; simp [tabWord]

/-- without text wildcards the constructor's table is the model's `peqTab` of the ambiguity equivalence -/
theorem tabWord_no_wild (w : Nat) (amb : Option (List (Nat × List Nat))) (p : List Nat) :
    tab 256 (tabWord w amb none p) = peqTab w (eqvA amb) p := by
  rw [tabWord_none]; rfl

/-! ### the loops -/

/-- a loop that applies an idempotent update `g` to the entries `l` of a table -/
theorem foldlM_tab_upd (step : List Nat → Nat → Res (List Nat)) (g : Nat → Nat) (hg : ∀ v, g (g v) = g v)
    (hstep : ∀ (f : Nat → Nat) (e : Nat), e < 256 →
      step (tab 256 f) e = Res.ok (tab 256 (fun a => if a = e then g (f e) else f a))) :
    ∀ (l : List Nat) (f : Nat → Nat), (∀ e ∈ l, e < 256) →
      l.foldlM step (tab 256 f) = Res.ok (tab 256 (fun a => if l.contains a then g (f a) else f a)) := by
  intro l
  induction l with
  | nil => intro f _; simp
  | cons e r ih =>
    intro f h
    rw [List.foldlM_cons, hstep f e (h e (by simp)), Res.ok_bind, ih _ (fun x hx => h x (by simp [hx]))]
    congr 1
    apply congrArg
    funext a
    by_cases h1 : a = e
    · subst h1; by_cases h2 : r.contains a <;> simp [h2, hg]
    · have h1' : ¬ (e = a) := fun h => h1 h.symm
      simp [h1, h1', List.contains_cons, beq_iff_eq]

/-- `for &eq in equivalents { peq[eq as usize] |= mask; }` -/
theorem for2_eq (w wd mask : Nat) (eqs : List Nat) (f : Nat → Nat) (h : ∀ e ∈ eqs, e < 256) :
    eqs.foldlM (RbV.Gen.SrcMyersSimpleNew.newAmbig_for2 (w := w) (wd := wd) (mask := mask)) (tab 256 f) =
      Res.ok (tab 256 (fun a => if eqs.contains a then f a ||| mask else f a)) :=
  foldlM_tab_upd _ (· ||| mask) (fun v => by rw [Nat.or_assoc, Nat.or_self])
    (fun f e he => by
      simp only [RbV.Gen.SrcMyersSimpleNew.newAmbig_for2, idx_tab 256 f e he, setIdx_tab 256 f e _ he, Res.ok_bind,
        Res.pure_eq_ok]) eqs f h

/-- `for &w in wildcards { peq[w as usize] = T::max_value(); }` -/
theorem for3_eq (w wd : Nat) (ws : List Nat) (f : Nat → Nat) (h : ∀ e ∈ ws, e < 256) :
    ws.foldlM (RbV.Gen.SrcMyersSimpleNew.newAmbig_for3 (w := w) (wd := wd)) (tab 256 f) =
      Res.ok (tab 256 (fun a => if ws.contains a then 2 ^ w - 1 else f a)) :=
  foldlM_tab_upd _ (fun _ => 2 ^ w - 1) (fun _ => rfl)
    (fun f e he => by
      simp only [RbV.Gen.SrcMyersSimpleNew.newAmbig_for3, setIdx_tab 256 f e _ he, Res.ok_bind, Res.pure_eq_ok, Rs.maxVal])
    ws f h

/-- the entries of the ambiguity map are bytes -/
def AmbOk (amb : Option (List (Nat × List Nat))) : Prop := ∀ x, ∀ e ∈ ambOf amb x, e < 256

/-- `for (i, symbol) in pattern.enumerate() { … }`: after the symbols `pre` the table holds the masks of `pre` -/
theorem for1_eq (w wd : Nat) (amb : Option (List (Nat × List Nat))) (hamb : AmbOk amb) :
    ∀ (rest pre : List Nat), pre.length + rest.length ≤ w → (∀ c ∈ rest, c < 256) →
      (rest.zipIdx pre.length).foldlM (RbV.Gen.SrcMyersSimpleNew.newAmbig_for1 (w := w) (wd := wd) (opt_ambigs := amb))
          (tab 256 (fun a => (peq w (eqvA amb) pre a).toNat)) =
        Res.ok (tab 256 (fun a => (peq w (eqvA amb) (pre ++ rest) a).toNat)) := by
  intro rest
  induction rest with
  | nil => intro pre _ _; simp
  | cons x r ih =>
    intro pre hlen hb
    have hx : x < 256 := hb x (by simp)
    have hi : pre.length < w := by simp at hlen; omega
    have hrec := ih (pre ++ [x]) (by simp at hlen ⊢; omega) (fun c hc => hb c (by simp [hc]))
    simp only [List.length_append, List.length_cons, List.length_nil, List.append_assoc, List.singleton_append] at hrec
    have h0 := tab_snoc w amb pre x hi
    have ha := hamb x
    unfold ambOf at ha h0
    rw [List.zipIdx_cons, List.foldlM_cons]
    simp only [RbV.Gen.SrcMyersSimpleNew.newAmbig_for1, Rs.shl_one_ok hi, idx_tab 256 _ x hx, setIdx_tab 256 _ x _ hx,
      Res.ok_bind, Res.pure_eq_ok]
    cases hq : (amb.bind (fun m => Rs.hmGet m x)) with
    | none =>
      rw [hq] at h0
      simp only [Option.getD_none, List.contains_nil, Bool.false_eq_true, if_false] at h0
      simp only [Res.ok_bind]
      rw [h0]
      exact hrec
    | some eqs =>
      rw [hq] at ha h0
      simp only [Option.getD_some] at ha h0
      simp only [for2_eq w wd _ eqs _ ha, Res.ok_bind]
      rw [h0]
      exact hrec

/-- **`Myers::new_ambig` of simple.rs as written**: the table of masks (`tabWord`), `bound = 1 << (m − 1)`, `m`, an empty states
store — for every word type of `8·n` bits, pattern of `1..w` bytes (`m` and `w` must fit `DistType`), ambiguity map and wildcard
list of bytes -/
theorem newAmbig_eq_model (w wd : Nat) (p : List Nat) (amb : Option (List (Nat × List Nat))) (wild : Option (List Nat))
    (hw8 : w / 8 * 8 = w) (hw64 : w < 2 ^ 64) (hwwd : w < 2 ^ wd) (hm1 : 1 ≤ p.length) (hmw : p.length ≤ w)
    (hb : ∀ c ∈ p, c < 256) (hamb : AmbOk amb) (hwild : ∀ c ∈ wild.getD [], c < 256) :
    RbV.Gen.SrcMyersSimpleNew.newAmbig (w := w) (wd := wd) (pattern := p) (opt_ambigs := amb) (opt_wildcards := wild) =
      Res.ok (tab 256 (tabWord w amb wild p), 2 ^ (p.length - 1), p.length, []) := by
  have h1 : Rs.mul 64 (w / 8) 8 = Res.ok w := by rw [Rs.mul_ok (by omega), hw8]
  have h2 : Rs.cvt wd w = Res.ok w := Rs.cvt_ok hwwd
  have h3 : Rs.cvt wd p.length = Res.ok p.length := Rs.cvt_ok (by omega)
  have h4 : Rs.cvt 64 p.length = Res.ok p.length := Rs.cvt_ok (by omega)
  have h5 : Rs.sub p.length 1 = Res.ok (p.length - 1) := Rs.sub_ok hm1
  have h6 : Rs.shl w 1 (p.length - 1) = Res.ok (2 ^ (p.length - 1)) := Rs.shl_one_ok (by omega)
  have hfold := for1_eq w wd amb hamb p [] (by simpa using hmw) hb
  simp only [List.length_nil, List.nil_append] at hfold
  unfold RbV.Gen.SrcMyersSimpleNew.newAmbig
  simp only [h1, h2, h3, h4, h5, h6, Res.ok_bind, Res.pure_eq_ok, tab_peq_nil w (eqvA amb), hfold,
    Rs.assert_ok (decide_eq_true hmw), Rs.assert_ok (decide_eq_true (show p.length > 0 by omega))]
  cases wild with
  | none => simp [tabWord_none]
  | some ws =>
    simp only [Option.getD_some] at hwild
    simp only [for3_eq w wd ws _ hwild, Res.ok_bind, Res.pure_eq_ok]
    rfl

/-- **`Myers::new(pattern)` of simple.rs as written** stores the model's table `peqTab` (no ambiguities, no wildcards) -/
theorem new_eq_model (w wd : Nat) (p : List Nat) (hw8 : w / 8 * 8 = w) (hw64 : w < 2 ^ 64) (hwwd : w < 2 ^ wd)
    (hm1 : 1 ≤ p.length) (hmw : p.length ≤ w) (hb : ∀ c ∈ p, c < 256) :
    RbV.Gen.SrcMyersSimpleNew.new (w := w) (wd := wd) (pattern := p) =
      Res.ok (peqTab w (eqvA none) p, 2 ^ (p.length - 1), p.length, []) := by
  unfold RbV.Gen.SrcMyersSimpleNew.new
  rw [newAmbig_eq_model w wd p none none hw8 hw64 hwwd hm1 hmw hb (by intro x e he; simp [ambOf] at he) (by simp)]
  simp [tabWord_no_wild]

/-- on the pattern bits the constructor's words are the model's masks of the property's equivalence (wildcards included) -/
theorem tabWord_bit (w : Nat) (amb : Option (List (Nat × List Nat))) (wild : Option (List Nat)) (p : List Nat) (a i : Nat)
    (hi : i < p.length) (hw : p.length ≤ w) :
    (tabWord w amb wild p a).testBit i = eqvOf amb wild p[i] a := by
  unfold tabWord eqvOf
  by_cases h : (wild.getD []).contains a
  · simp only [h, if_true, Bool.or_true]
    rw [Nat.testBit_two_pow_sub_one]
    simp; omega
  · simp only [h, if_false, Bool.or_false]
    have := peq_bit w (eqvA amb) p a i hi hw
    rw [← this]
    rfl

/-! ### `MyersBuilder` -/

/-- `get` after `insert` -/
theorem hmGet_hmInsert (m : List (Nat × List Nat)) (k : Nat) (v : List Nat) (k' : Nat) :
    Rs.hmGet (Rs.hmInsert m k v) k' = if k' = k then some v else Rs.hmGet m k' := by
  unfold Rs.hmGet Rs.hmInsert
  by_cases h : k' = k
  · subst h; simp
  · have h' : (k == k') = false := by simp; exact fun e => h e.symm
    simp only [List.find?_cons, h', h, if_false]
    congr 1
    rw [List.find?_filter]
    congr 1
    funext e
    by_cases he : e.1 = k'
    · have : ¬ e.1 = k := by rw [he]; exact h
      simp [he, this, h]
    · simp [he]

/-- **`MyersBuilder::ambig(byte, equivalents)` as written**: the map gets the entry `byte ↦ equivalents ++ [byte]` (replacing an
older entry of `byte`) -/
theorem ambig_eq_model (w wd : Nat) (ambigs : List (Nat × List Nat)) (wild : List Nat) (byte : Nat) (eqs : List Nat) :
    RbV.Gen.SrcMyersBuilder.ambig (w := w) (wd := wd) (ambigs := ambigs) (wildcards := wild) (byte := byte) (equivalents := eqs) =
      Res.ok (Rs.hmInsert ambigs byte (eqs ++ [byte])) := by
  simp [RbV.Gen.SrcMyersBuilder.ambig]

/-- **`MyersBuilder::text_wildcard(c)` as written** -/
theorem textWildcard_eq_model (w wd : Nat) (ambigs : List (Nat × List Nat)) (wild : List Nat) (c : Nat) :
    RbV.Gen.SrcMyersBuilder.textWildcard (w := w) (wd := wd) (ambigs := ambigs) (wildcards := wild) (wildcard := c) =
      Res.ok (wild ++ [c]) := by
  simp [RbV.Gen.SrcMyersBuilder.textWildcard]

/-- **`MyersBuilder::build(pattern)` as written** = `Myers::new_ambig(pattern, Some(&ambigs), Some(&wildcards))` -/
theorem build_eq_model (w wd : Nat) (ambigs : List (Nat × List Nat)) (wild p : List Nat) :
    RbV.Gen.SrcMyersBuilder.build (w := w) (wd := wd) (ambigs := ambigs) (wildcards := wild) (pattern := p) =
      RbV.Gen.SrcMyersSimpleNew.newAmbig (w := w) (wd := wd) (pattern := p) (opt_ambigs := some ambigs) (opt_wildcards := some wild) := by
  unfold RbV.Gen.SrcMyersBuilder.build
  cases RbV.Gen.SrcMyersSimpleNew.newAmbig (w := w) (wd := wd) (pattern := p) (opt_ambigs := some ambigs)
    (opt_wildcards := some wild) <;> rfl

/-- **`MyersBuilder::build_long(pattern)` as written** = `long::Myers::new_ambig(pattern, Some(&ambigs), Some(&wildcards))` -/
theorem buildLong_eq_model (w wd : Nat) (ambigs : List (Nat × List Nat)) (wild p : List Nat) :
    RbV.Gen.SrcMyersBuilder.buildLong (w := w) (wd := wd) (ambigs := ambigs) (wildcards := wild) (pattern := p) =
      RbV.Gen.SrcMyersLongCtor.newAmbig (w := w) (pattern := p) (opt_ambigs := some ambigs) (opt_wildcards := some wild) := by
  unfold RbV.Gen.SrcMyersBuilder.buildLong
  cases RbV.Gen.SrcMyersLongCtor.newAmbig (w := w) (pattern := p) (opt_ambigs := some ambigs) (opt_wildcards := some wild) <;> rfl

/-- `long::Myers::new(pattern)` is `new_ambig(pattern, None, None)` -/
theorem long_new_eq_newAmbig (w : Nat) (p : List Nat) :
    RbV.Gen.SrcMyersLongCtor.new (w := w) (pattern := p) =
      RbV.Gen.SrcMyersLongCtor.newAmbig (w := w) (pattern := p) (opt_ambigs := none) (opt_wildcards := none) := by
  unfold RbV.Gen.SrcMyersLongCtor.new
  cases RbV.Gen.SrcMyersLongCtor.newAmbig (w := w) (pattern := p) (opt_ambigs := none) (opt_wildcards := none) <;> rfl

end RbV.Thm.GenSrcMyersNew
