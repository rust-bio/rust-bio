import RbV.Gen.SrcBitEnc
import RbV.Model.BitEnc
import RbV.Lemmas.BitEncBits
import RbV.Thm.GenSrcBasic
import RbV.Thm.GenSrcBitsSimp
/-!
# The translated text of `bitenc::{mask, BitEnc::get_by_addr, set_by_addr, addr}` equals the mirror model

`RbV/Gen/SrcBitEnc.lean` is regenerated from `src/data_structures/bitenc.rs` by `tools/rs2lean.py` on every `./check C18`.
The fields `self.storage`, `self.mask`, `self.width`, `self.usable_bits_per_block` are parameters of the translated
functions; the theorems instantiate them with the values `BitEnc::new(width)` stores (`mask(width)`,
`32 - 32 % width`), which the model computes from `w`.  Made explicit by the translation: `1 << width` and the two
`<< bit` are 32-bit shifts (shift amount `≥ 32` panics, bits shifted out are dropped), `(1 << width) - 1` is a checked
subtraction, `i * self.width` a checked 64-bit multiplication, `/` and `%` panic on zero, `self.storage[block]` panics
out of bounds, `… as u8` truncates.
-/
-- the simp sets name every fact a harmless rewrite of the Rust text may need; on the present text some are unused
set_option linter.unusedSimpArgs false

namespace RbV.Thm.GenSrcBitEnc
open RbV RbV.Rs RbV.Thm.GenSrc
open RbV.Model.BitEnc (U32 usable rmw)
open RbV.Lemmas.BitEncBits (mask_le usable_pos slot slot_bound slot_rmw_same)

/-- `fn mask`: for every width below 32 (the constructor asserts `width ≤ 8`) -/
theorem mask_eq_model (w : Nat) (hw : w < 32) : Gen.SrcBitEnc.mask w = Res.ok (Model.BitEnc.mask w) := by
  have hlt : 1 <<< w < 2 ^ 32 := by rw [Nat.one_shiftLeft]; exact Nat.pow_lt_pow_right (by omega) hw
  have e1 : Rs.shl 32 1 w = Res.ok (1 <<< w) := by rw [Rs.shl_ok hw, Nat.mod_eq_of_lt hlt]
  have hpos : 1 ≤ 1 <<< w := by rw [Nat.one_shiftLeft]; exact Nat.one_le_two_pow
  have e2 : Rs.sub (1 <<< w) 1 = Res.ok ((1 <<< w) - 1) := Rs.sub_ok hpos
  simp only [rs_eval, Gen.SrcBitEnc.mask, Model.BitEnc.mask, e1, e2]

/-- `fn get_by_addr`: in-bounds block, bit position inside the 32-bit block; the `as u8` truncation is the identity
because the value is masked with at most 8 bits -/
theorem getByAddr_eq_model (w : Nat) (hw : w ≤ 8) (st : List Nat) (block bit : Nat) (hb : block < st.length)
    (hbit : bit < 32) :
    Gen.SrcBitEnc.getByAddr st (Model.BitEnc.mask w) block bit
      = Res.ok (Model.BitEnc.getByAddr w st block bit) := by
  have e1 : Rs.idx st block = Res.ok (st.getD block 0) := idx_getD st block 0 hb
  have e2 : ∀ x, Rs.shr 32 x bit = Res.ok (x >>> bit) := fun x => Rs.shr_ok hbit
  have e3 : ∀ x, Rs.cast 8 (x &&& Model.BitEnc.mask w) = x &&& Model.BitEnc.mask w := by
    intro x
    have h1 : x &&& Model.BitEnc.mask w ≤ Model.BitEnc.mask w := Nat.and_le_right
    have h2 := mask_le w hw
    rw [Rs.cast, Nat.mod_eq_of_lt (by omega)]
  simp only [rs_eval, Gen.SrcBitEnc.getByAddr, Model.BitEnc.getByAddr, e1, e2, e3]

/-- `fn set_by_addr` (the new content of `self.storage`): the three read-modify-write statements on
`self.storage[block]` are the model's `rmw` on that block -/
theorem setByAddr_eq_model (w : Nat) (st : List Nat) (block bit value : Nat) (hb : block < st.length)
    (hbit : bit < 32) :
    Gen.SrcBitEnc.setByAddr st (Model.BitEnc.mask w) block bit value
      = Res.ok (Model.BitEnc.setByAddr w st block bit value) := by
  have e1 : ∀ x, Rs.shl 32 x bit = Res.ok ((x <<< bit) % U32) := fun x => Rs.shl_ok hbit
  have e2 : Rs.idx st block = Res.ok (st.getD block 0) := idx_getD st block 0 hb
  have e3 : ∀ v, Rs.setIdx st block v = Res.ok (st.set block v) := fun v => Rs.setIdx_ok hb
  have e4 : ∀ v, Rs.idx (st.set block v) block = Res.ok v := fun v => idx_set_self st block v hb
  have e5 : ∀ v v', Rs.setIdx (st.set block v) block v' = Res.ok (st.set block v') :=
    fun v v' => setIdx_set st block v v' hb
  simp only [rs_eval, Gen.SrcBitEnc.setByAddr, Model.BitEnc.setByAddr, rmw, e1, e2, e3, e4, e5]

/-- `fn addr`: with the field values stored by `BitEnc::new(w)`, as long as `i * width` fits `usize` -/
theorem addr_eq_model (w i : Nat) (hw : 1 ≤ w ∧ w ≤ 8) (hmul : i * w < 2 ^ 64) :
    Gen.SrcBitEnc.addr w (usable w) i = Res.ok (Model.BitEnc.addr w i) := by
  have hu := usable_pos w hw
  have e1 : Rs.mul 64 i w = Res.ok (i * w) := Rs.mul_ok hmul
  have e2 : ∀ k, Rs.div k (usable w) = Res.ok (k / usable w) := fun k => Rs.div_ok hu
  have e3 : ∀ k, Rs.rem k (usable w) = Res.ok (k % usable w) := fun k => Rs.rem_ok hu
  simp only [rs_eval, Gen.SrcBitEnc.addr, Model.BitEnc.addr, e1, e2, e3]

/-- generated code = specification for one slot: writing `value` with the translated `set_by_addr` and reading the same
address back with the translated `get_by_addr` gives `value` truncated to the width; neither panics -/
theorem get_after_set (w : Nat) (hw : 1 ≤ w ∧ w ≤ 8) (st : List Nat) (block s value : Nat) (hb : block < st.length)
    (hs : s < 32 / w) :
    ∃ st', Gen.SrcBitEnc.setByAddr st (Model.BitEnc.mask w) block (s * w) value = Res.ok st' ∧
      st'.length = st.length ∧
      Gen.SrcBitEnc.getByAddr st' (Model.BitEnc.mask w) block (s * w) = Res.ok (value % 2 ^ w) := by
  have hbnd := slot_bound w s hs
  have hbit : s * w < 32 := by omega
  refine ⟨_, setByAddr_eq_model w st block (s * w) value hb hbit, by simp [Model.BitEnc.setByAddr], ?_⟩
  rw [getByAddr_eq_model w hw.2 _ block (s * w) (by simpa [Model.BitEnc.setByAddr] using hb) hbit]
  congr 1
  have := slot_rmw_same w (st.getD block 0) s value hs
  unfold slot at this
  simpa [Model.BitEnc.getByAddr, Model.BitEnc.setByAddr, List.getD_eq_getElem?_getD, hb] using this

end RbV.Thm.GenSrcBitEnc
