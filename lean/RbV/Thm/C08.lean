import RbV.Spec.Occ
import RbV.Basic.Sorted
import RbV.Model.ShiftAnd
import RbV.Model.Horspool
import RbV.Model.Kmp
import RbV.Model.Bndm
import RbV.Model.Bom
import RbV.Lemmas.BomOracle
import RbV.Thm.GenSrcKmpLps
import RbV.Thm.GenSrcShiftAndMasks
import RbV.Thm.GenSrcHorspoolNew
import RbV.Thm.GenSrcShiftAndNext
import RbV.Thm.GenSrcKmpNext
import RbV.Thm.GenSrcHorspoolNext
import RbV.Thm.GenSrcBndmNext
import RbV.Thm.GenSrcBomNext
/-!
# C08 — exact matchers return exactly all occurrences

The oracle used by the driver is `occurrences p t`; the first theorems say that it is exactly the ascending,
duplicate-free list of all start positions of `p` in `t`.  Then, in this order: the five mirror models are exact
(`shiftAnd_exact` … `bom_exact`, with the oracle theorems of BOM; proofs in `RbV/Model`, `RbV/Lemmas/BomOracle.lean`);
the table-building functions translated from the source text equal the models (`RbV/Thm/GenSrcKmpLps`,
`…ShiftAndMasks`, `…HorspoolNew`); the search loops translated from the source text, called until `None`, list the occurrences
(`RbV/Thm/GenSrc…Next`).  That one matcher gives the same answers on every text it is applied to is not a theorem here: every
`findAllSrc p t` builds the matcher anew (in the translated text `find_all` / `next` take the tables of `&self` as unchanged
parameters).
-/
namespace RbV.Thm.C08
open RbV

/-- the oracle lists exactly the occurrence positions -/
theorem oracle_exact (p t : List Nat) (i : Nat) :
    i ∈ occurrences p t ↔ (i + p.length ≤ t.length ∧ (t.drop i).take p.length = p) :=
  mem_occurrences p t i

/-- … in strictly increasing order (hence without duplicates) -/
theorem oracle_ascending (p t : List Nat) : (occurrences p t).Pairwise (· < ·) :=
  occurrences_sorted p t

/-- a text shorter than the pattern has no occurrence -/
theorem oracle_short_text (p t : List Nat) (h : t.length < p.length) : occurrences p t = [] := by
  apply List.eq_nil_iff_forall_not_mem.mpr
  intro i hi
  have := (mem_occurrences p t i).mp hi
  unfold OccursAt at this
  omega

/-- any list with these two properties *is* the oracle's answer: the answer is unique, so comparing the
implementation's output with `occurrences p t` for equality is exactly the property. -/
theorem answer_unique (p t l : List Nat) (hs : l.Pairwise (· < ·))
    (hm : ∀ i, i ∈ l ↔ OccursAt p t i) : l = occurrences p t := by
  apply sorted_eq_of_mem_iff l _ hs (occurrences_sorted p t)
  intro i; rw [hm, mem_occurrences]

example : occurrences [1, 2, 1] [1, 2, 1, 2, 1] = [0, 2] := by decide

/-- **ShiftAnd** (mirror model of `shift_and.rs`: the `masks` loop over `u64` with the running bit shifted out
after the 64th symbol, the `((active << 1) | 1) & masks[c]` step with 64-bit truncation, the accept test and the
`i + 1 - m` position arithmetic) yields exactly the oracle's list, for every pattern of 1..64 symbols — in
particular for m = 64, where bit 63 is shifted out — and every text. -/
theorem shiftAnd_exact (p t : List Nat) (hp : 0 < p.length) (hm : p.length ≤ 64) :
    ShiftAnd.findAll p t = occurrences p t :=
  ShiftAnd.findAll_eq_occurrences p t hp hm

example : ShiftAnd.findAll [1, 2, 1] [1, 2, 1, 2, 1] = [0, 2] := by decide

/-- **Horspool** (mirror model of `horspool.rs`: the bad-character table built by the loop over `pattern[..m-1]`,
the skip loop, the `last + 1 - m` arithmetic and the `text[i..j] == pattern[..m-1]` comparison) yields exactly the
oracle's list for every non-empty pattern and every text: no occurrence is skipped by a shift. -/
theorem horspool_exact (p t : List Nat) (hp : 0 < p.length) : Horspool.findAll p t = occurrences p t :=
  Horspool.findAll_eq_occurrences p t hp

example : Horspool.findAll [1, 2, 1] [1, 2, 1, 2, 1] = [0, 2] := by decide

/-- **KMP** (mirror model of `kmp.rs`: the `lps` failure-table loop, `delta` with its
`q == m || (p[q] != a && q > 0)` fall-back loop, and the `1 + i - m` report) yields exactly the oracle's list for
every non-empty pattern and every text. The proof shows that `lps[i]` is the longest proper border of `p[0..=i]`
and that the automaton state is always the longest pattern prefix that is a suffix of the text read so far. -/
theorem kmp_exact (p t : List Nat) (hp : 0 < p.length) : Kmp.findAll p t = occurrences p t :=
  Kmp.findAll_eq_occurrences p t hp

/-- the failure table computed by the model is the table of longest proper borders -/
theorem kmp_lps_is_border_table (p : List Nat) (hp : 0 < p.length) :
    (Kmp.lps p).length = p.length ∧ Kmp.LpsSpec p (Kmp.lps p) :=
  ⟨(Kmp.lps_spec p hp).2, (Kmp.lps_spec p hp).1⟩

example : Kmp.findAll [1, 2, 1] [1, 2, 1, 2, 1] = [0, 2] := by decide
example : Kmp.lps [1, 2, 1, 2, 3] = [0, 0, 1, 2, 0] := by decide

/-- **BNDM** (mirror model of `bndm.rs`: masks of the reversed pattern, the all-ones start state saturated at
m = 64, the right-to-left factor scan with 64-bit truncating shift, `lastsuffix`, the window shift
`m - lastsuffix`) never underflows `window - j`, never indexes out of bounds, and yields exactly the oracle's list
for every pattern of 1..64 symbols and every text: no occurrence is skipped by a window shift. -/
theorem bndm_exact (p t : List Nat) (hp : 0 < p.length) (hm : p.length ≤ 64) :
    Bndm.findAll p t = some (occurrences p t) :=
  Bndm.findAll_eq_occurrences p t hp hm

example : Bndm.findAll [1, 2, 1] [1, 2, 1, 2, 1] = some [0, 2] := by decide

/-- **BOM** (mirror model of `bom.rs`: the online factor-oracle construction of `BOM::new` over the reversed pattern
— inner transition, the `while let Some(k_) = k` climb along the supply links `suff`, `suff[i]` — and the window
loop of `Matches::next`: backward scan through the oracle, the `m + 2 - j` shift, the report) yields exactly the
oracle's list for every non-empty pattern and every text (`hp` records the domain of `BOM::new`; the proof does not
use it). The proof has two halves: the search loop is exact for
every table that accepts all factors of the pattern and whose transitions go strictly upwards
(`Bom.search_window`; `Bom.findAll_eq_occurrences_of_table` is its instance for the built table), and the construction establishes both conditions for every pattern
(`bom_oracle_accepts_factors`, `bom_table_conditions` below; proofs `Bom.build_complete`, `Bom.build_monotone` in
`RbV/Lemmas/BomOracle.lean`). -/
theorem bom_exact (p t : List Nat) (hp : 0 < p.length) : Bom.findAll p t = occurrences p t :=
  Bom.findAll_eq_occurrences p t

/-- **Factor-oracle theorem** (Allauzen–Crochemore–Raffinot 1999, "the oracle accepts at least the factors") for
the table built by the mirror model of `BOM::new`: every factor `y` of the reversed pattern is accepted from
state 0. -/
theorem bom_oracle_accepts_factors (p x y z : List Nat) (h : p.reverse = x ++ y ++ z) :
    Bom.runT (Bom.build p) 0 y ≠ none := by
  obtain ⟨suff, hinv⟩ := Bom.build_inv p
  exact hinv.accepts_factor ⟨x, z, h.symm⟩

/-- every transition `q --a--> q'` of the built oracle goes strictly upwards, at most to state `m`, and a
transition `q → q+1` is labelled with the `q`-th symbol of the reversed pattern. -/
theorem bom_oracle_monotone (p : List Nat) (q a q' : Nat) (h : Bom.delta (Bom.build p) q a = some q') :
    q < q' ∧ q' ≤ p.length ∧ (q' = q + 1 → p.reverse[q]? = some a) := by
  have := Bom.build_Monotone p q a q' h
  simpa using this

/-- the two decidable table conditions that the driver evaluates per tested pattern (tag `bom-table-ok`) hold
for **every** pattern; the evaluation in the driver is a cross-check of model and proof, not a hypothesis of `bom_exact`. -/
theorem bom_table_conditions (p : List Nat) :
    Bom.completeB (Bom.build p) p = true ∧ Bom.monotoneB (Bom.build p) p.reverse = true :=
  ⟨Bom.build_complete p, Bom.build_monotone p⟩

/-- The mirror model of `BOM::new` takes no panicking branch (`BOM::new` itself is not translated; that `buildS` fails exactly
where the Rust code panics is by reading): in the variant `buildS` of the model in which an out-of-bounds
`table[k_]`, a read of a `suff` entry that was never written, and `.unwrap()` of an absent transition are failures
(as is running out of the model's loop fuel), the construction succeeds for every pattern and gives the same table —
so `bom_exact` does not rest on the totalised defaults (`getD`, `[_]?`) of the model. (The empty pattern is refused
by `BOM::new` before the loop: `expect("Expecting non-empty pattern.")`, which `buildS` does not model — the statement holds for
`p = []` too; the harness never sends it.) -/
theorem bom_construction_total (p : List Nat) : Bom.buildS p = some (Bom.build p) :=
  Bom.buildS_eq_build p

/-- **BOM, with the panics of the Rust code explicit.** `Bom.findAllS` is the variant of the mirror model in which
the construction fails where `BOM::new` would panic (see `bom_construction_total`) and the search indexes the text
exactly as `Matches::next` does — `text[window - j]`, `window - m`, `m + 2 - j` in `usize`, failing on underflow or
an out-of-bounds index (and on exhausted loop fuel). It never fails and returns exactly the oracle's list, for every
non-empty pattern and every text (`hp` as in `bom_exact`: not used by the proof). -/
theorem bom_exact_no_panic (p t : List Nat) (hp : 0 < p.length) : Bom.findAllS p t = some (occurrences p t) :=
  Bom.findAllS_eq_occurrences p t

example : Bom.findAllS [1, 2, 1] [1, 2, 1, 2, 1] = some [0, 2] := by decide
example : Bom.findAll [1, 2, 1] [1, 2, 1, 2, 1] = [0, 2] := by decide
example : Bom.build [1, 2, 1, 1, 2] =
    [[(1, 2), (2, 1)], [(1, 2)], [(2, 4), (1, 3)], [(2, 4)], [(1, 5)]] := by decide
-- the oracle of `abbbaab` (the pattern is its reverse) accepts `aba`, which is not a factor: the converse of
-- `bom_oracle_accepts_factors` is false, which is why the search needs `bom_oracle_monotone` for the full window
example : Bom.runT (Bom.build [2, 1, 1, 2, 2, 2, 1]) 0 [1, 2, 1] = some 5 := by decide

/-! ## Function bodies translated from the source text (docs/notes/GEN.md, "Translated function bodies")

`RbV/Gen/Src*.lean` are regenerated from the Rust text by `tools/rs2lean.py` on every `./check C08`; the theorems below
are re-proved against the regenerated definitions (proofs: `RbV/Thm/GenSrc*.lean`). `Rs.Res.ok v` = the translated
function returns `v` without panicking (index out of bounds, checked `usize` arithmetic) and without running out of the
fuel given to its `while` loops. -/

/-- **`fn lps` of `kmp.rs`, as written, is the mirror model `Kmp.lps`** (for every pattern whose length fits `usize`,
which every Rust slice does): the tie between the model that `kmp_exact` / `kmp_lps_is_border_table` are about and the
code is a theorem for this function, not a sample. -/
theorem kmp_lps_source_eq_model (p : List Nat) (h64 : p.length < 2 ^ 64) :
    Gen.SrcKmpLps.lps p = Rs.Res.ok (Kmp.lps p) :=
  GenSrcKmpLps.lps_eq_model p h64

/-- generated code = specification: the translated `lps` returns, without panic, the table of longest proper borders. -/
theorem kmp_lps_source_is_border_table (p : List Nat) (hp : 0 < p.length) (h64 : p.length < 2 ^ 64) :
    ∃ l, Gen.SrcKmpLps.lps p = Rs.Res.ok l ∧ l.length = p.length ∧ Kmp.LpsSpec p l :=
  ⟨Kmp.lps p, GenSrcKmpLps.lps_eq_model p h64, (Kmp.lps_spec p hp).2, (Kmp.lps_spec p hp).1⟩

example : Gen.SrcKmpLps.lps [1, 2, 1, 2, 3] = Rs.Res.ok [0, 0, 1, 2, 0] := by decide

/-- **`fn delta` of `kmp.rs`, as written, is the mirror model `Kmp.delta`** over the failure table (for every non-empty
pattern, every automaton state `q ≤ m` and every symbol): the `while q == m || (pattern[q] != a && q > 0)` loop with its
guarded read, `lps[q - 1]`, and the checked `q += 1` never panic, the fuel `q + 1` suffices. Together with
`kmp_lps_source_eq_model` the whole automaton of KMP is tied to the source text by theorems. -/
theorem kmp_delta_source_eq_model (p : List Nat) (hp : 0 < p.length) (h64 : p.length < 2 ^ 64) (q a : Nat)
    (hq : q ≤ p.length) :
    Gen.SrcKmpLps.delta p.length (Kmp.lps p) p q a = Rs.Res.ok (Kmp.delta p (Kmp.lps p) q a) :=
  GenSrcKmpLps.delta_eq_model p hp h64 q a hq

/-- generated code = specification: if `q` is the longest prefix of `p` that is a suffix of the text read so far, the
translated `delta` returns, without panic, the longest such prefix after reading `a`. -/
theorem kmp_delta_source_spec (p pre : List Nat) (hp : 0 < p.length) (h64 : p.length < 2 ^ 64) (q a : Nat)
    (hmax : Kmp.MaxPS p pre q) :
    ∃ q', Gen.SrcKmpLps.delta p.length (Kmp.lps p) p q a = Rs.Res.ok q' ∧ Kmp.MaxPS p (pre ++ [a]) q' :=
  ⟨_, GenSrcKmpLps.delta_eq_model p hp h64 q a hmax.1.1, Kmp.delta_maxPS p pre hp q a hmax⟩

example : Gen.SrcKmpLps.delta 5 [0, 0, 0, 1, 2] [1, 2, 2, 1, 2] 5 2 = Rs.Res.ok 3 := by decide

/-- **`pub fn masks` of `shift_and.rs`, as written, is the mirror model `ShiftAnd.masksLoop`**, for every pattern of
bytes (no length bound: `masks` itself never panics, the running bit is shifted out after the 64th symbol): the returned
array is the model's mask function tabulated over 0..255, the returned accept mask is the model's. -/
theorem shiftAnd_masks_source_eq_model (p : List Nat) (hb : ∀ c ∈ p, c < 256) :
    Gen.SrcShiftAndMasks.masks p
      = Rs.Res.ok ((List.range 256).map (ShiftAnd.masksLoop p).masks, (ShiftAnd.masksLoop p).accept) :=
  GenSrcShiftAndMasks.masks_eq_model p hb

/-- generated code = specification: for a pattern of at most 64 bytes the translated `masks` returns, without panic, a
256-entry table whose entry `c` has bit `j` set exactly when `p[j] = c`, and the accept mask `2^(m-1)`. -/
theorem shiftAnd_masks_source_spec (p : List Nat) (hb : ∀ c ∈ p, c < 256) (hm : p.length ≤ 64) :
    ∃ tab acc, Gen.SrcShiftAndMasks.masks p = Rs.Res.ok (tab, acc) ∧ tab.length = 256
      ∧ (∀ c j, c < 256 → (tab.getD c 0).testBit j = (p[j]? == some c))
      ∧ (0 < p.length → acc = 2 ^ (p.length - 1)) := by
  refine ⟨_, _, GenSrcShiftAndMasks.masks_eq_model p hb, GenSrc.tab_length _ _, ?_, ?_⟩
  · intro c j hc
    rw [List.getD_eq_getElem?_getD, GenSrc.tab_get _ _ _ hc]
    exact ShiftAnd.masks_testBit p hm c j
  · intro hp
    exact ShiftAnd.accept_eq p hm hp

example := shiftAnd_masks_source_spec [1, 2, 1] (by decide) (by decide)
example : (ShiftAnd.masksLoop [1, 2, 1]).masks 1 = 5 ∧ (ShiftAnd.masksLoop [1, 2, 1]).accept = 4 := by decide

/-- **`Horspool::new` of `horspool.rs`, as written, builds the mirror model's shift table**: for every non-empty pattern of
bytes the translated constructor returns, without panic (`m - 1`, `m - 1 - j` never underflow, `pattern[..m - 1]` and
`shift[a as usize]` stay in bounds), the triple `(m, shift, pattern)` with `shift` = `Horspool.shiftTab p` tabulated over
0..255. -/
theorem horspool_new_source_eq_model (p : List Nat) (hp : 0 < p.length) (hb : ∀ c ∈ p, c < 256) :
    Gen.SrcHorspoolNew.new p = Rs.Res.ok (p.length, (List.range 256).map (Horspool.shiftTab p), p) :=
  GenSrcHorspoolNew.new_eq_model p hp hb

/-- generated code = specification: every entry of the table built by the translated constructor is a safe shift — between
1 and m, and no occurrence of the symbol in `p[0..m-1)` lies strictly within that distance of the window end. -/
theorem horspool_new_source_spec (p : List Nat) (hp : 0 < p.length) (hb : ∀ c ∈ p, c < 256) :
    ∃ sh, Gen.SrcHorspoolNew.new p = Rs.Res.ok (p.length, sh, p) ∧ sh.length = 256 ∧
      ∀ c, c < 256 → 1 ≤ sh.getD c 0 ∧ sh.getD c 0 ≤ p.length ∧
        ∀ d, 0 < d → d < sh.getD c 0 → p[p.length - 1 - d]? ≠ some c := by
  refine ⟨_, GenSrcHorspoolNew.new_eq_model p hp hb, GenSrc.tab_length _ _, ?_⟩
  intro c hc
  rw [List.getD_eq_getElem?_getD, GenSrc.tab_get _ _ _ hc]
  exact ⟨(Horspool.shift_bounds p hp c).1, (Horspool.shift_bounds p hp c).2, fun d hd hlt => Horspool.shift_safe p hp c d hd hlt⟩

/-- the empty pattern is refused: `m - 1` underflows and the translated constructor panics (the harness never sends it) -/
theorem horspool_new_source_empty_panics : Gen.SrcHorspoolNew.new [] = Rs.Res.panic :=
  GenSrcHorspoolNew.new_nil_panics

example := horspool_new_source_spec [1, 2, 1] (by decide) (by decide)
example : Horspool.shiftTab [1, 1, 3, 2] 1 = 2 ∧ Horspool.shiftTab [1, 1, 3, 2] 2 = 4 := by decide

/-! ## The search loops translated from the source text (docs/notes/GEN.md, "Search loops: iterators as explicit state")

`Matches::next` is translated as a function on the explicit iterator state; `Rs.drain next fuel s` calls it until it returns
`None` — what a consumer of `find_all(..)` sees.  The text iterator `text.into_iter().enumerate()` is the pair
(bytes not yet consumed, counter): the trusted reading of `IntoIterator<Item = &u8>` over a slice. -/

/-- **ShiftAnd end to end on the translated source text**: `ShiftAnd::new(p)`, `.find_all(t)` and `Matches::next` called
until `None`, all three as written in `shift_and.rs`, never panic (the `m <= 64` assertion holds, `i + 1 - m` never
underflows, `masks[c]` is in bounds) and list exactly the occurrences of `p` in `t` — for every byte pattern of 1..64
symbols and every byte text. No mirror model is left between the source text and the specification for this matcher;
the caller `findAllSrc` (here and for KMP, Horspool, BNDM) is the hand-written composition `new`, `find_all`,
`Rs.drain next` in the corresponding `Thm/GenSrc…Next.lean`; for BOM it composes only `find_all` and `Rs.drain next`, over the
mirror model's table `Bom.build p` (`BOM::new` is not translated). -/
theorem shiftAnd_source_exact (p t : List Nat) (hp : 0 < p.length) (hm : p.length ≤ 64) (hbp : ∀ c ∈ p, c < 256)
    (hb : ∀ c ∈ t, c < 256) (h64 : t.length < 2 ^ 64) :
    GenSrcShiftAndNext.findAllSrc p t = Rs.Res.ok (occurrences p t) := by
  rw [GenSrcShiftAndNext.findAllSrc_eq_model p t hp hm hbp hb h64, shiftAnd_exact p t hp hm]

/-- one call of the translated `next` (`nextS p`: run with the mirror model's mask table `masksLoop p` as the matcher's fields,
which the translated `new` is separately proved to return) from a state that satisfies the automaton invariant: no panic;
`None` only with the text exhausted and no further match in the model; `Some(v)` with `v` the model's next match and the invariant restored -/
theorem shiftAnd_next_source_eq_model (p : List Nat) (hp : 0 < p.length) (hm : p.length ≤ 64) (rest pre : List Nat)
    (active : Nat) (hinv : ShiftAnd.Inv p pre active) (hb : ∀ c ∈ rest, c < 256)
    (h64 : pre.length + rest.length < 2 ^ 64) :
    ∃ a' tx' r, GenSrcShiftAndNext.nextS p (active, (rest, pre.length)) = Rs.Res.ok ((a', tx'), r) ∧
      GenSrcShiftAndNext.StepSpec p rest pre active a' tx' (r.map some) :=
  GenSrcShiftAndNext.next_eq_model p hp hm rest pre active hinv hb h64

/-- the translated constructor refuses patterns of more than 64 symbols -/
theorem shiftAnd_new_source_long_panics (p : List Nat) (hm : 64 < p.length) :
    Gen.SrcShiftAndNext.new p = Rs.Res.panic :=
  GenSrcShiftAndNext.new_long_panics p hm

example : GenSrcShiftAndNext.findAllSrc [1, 2, 1] [1, 2, 1, 2, 1] = Rs.Res.ok [0, 2] := by
  rw [shiftAnd_source_exact _ _ (by decide) (by decide) (by decide) (by decide) (by decide)]; decide

/-- **KMP end to end on the translated source text**: `KMP::new(p)` (which calls the translated `lps`), `.find_all(t)`
and `Matches::next` (which calls the translated `delta`) until `None`, as written in `kmp.rs`, never panic (`1 + i - m`
never underflows: the state `m` is only reached after `m` symbols) and list exactly the occurrences of `p` in `t`, for
every non-empty pattern and every byte text. -/
theorem kmp_source_exact (p t : List Nat) (hp : 0 < p.length) (h64 : p.length < 2 ^ 64) (hb : ∀ c ∈ t, c < 256)
    (ht : t.length < 2 ^ 64) : GenSrcKmpNext.findAllSrc p t = Rs.Res.ok (occurrences p t) := by
  rw [GenSrcKmpNext.findAllSrc_eq_model p t hp h64 hb ht, kmp_exact p t hp]

/-- the loop alone: the translated `next` (`nextS p`: run with the mirror model's table `Kmp.lps p` as the matcher's field)
driven until `None` from any state that satisfies the automaton invariant = the scanner of the mirror model from that state -/
theorem kmp_next_source_eq_model (p : List Nat) (hp : 0 < p.length) (h64 : p.length < 2 ^ 64) (fuel : Nat)
    (rest pre : List Nat) (q : Nat) (hmax : Kmp.MaxPS p pre q) (hb : ∀ c ∈ rest, c < 256)
    (hi : pre.length + rest.length < 2 ^ 64) (hf : rest.length < fuel) :
    Rs.drain (GenSrcKmpNext.nextS p) fuel (q, (rest, pre.length))
      = Rs.Res.ok (Scan.scan (Kmp.delta p (Kmp.lps p)) (fun q => q == p.length) p.length rest pre.length q) :=
  GenSrcKmpNext.drain_eq_scan p hp h64 fuel rest pre q hmax hb hi hf

example : GenSrcKmpNext.findAllSrc [1, 2, 1] [1, 2, 1, 2, 1] = Rs.Res.ok [0, 2] := by decide

/-- **Horspool end to end on the translated source text**: `Horspool::new(p)`, `.find_all(t)` and `Matches::next` until
`None`, as written in `horspool.rs` (the `loop` with the inner skip `while`, the checked `last += shift[..]`,
`last + 1 - m`, the slice comparison `text[i..j] == pattern[..m - 1]`), never panic, never run out of the loop fuel
`n - last + 1` (every table entry is at least 1) and list exactly the occurrences of `p` in `t`, for every non-empty byte
pattern and every byte text with `|t| + |p| < 2^64`. -/
theorem horspool_source_exact (p t : List Nat) (hp : 0 < p.length) (hb : ∀ c ∈ t, c < 256) (hbp : ∀ c ∈ p, c < 256)
    (h64 : t.length + p.length < 2 ^ 64) : GenSrcHorspoolNext.findAllSrc p t = Rs.Res.ok (occurrences p t) := by
  rw [GenSrcHorspoolNext.findAllSrc_eq_model p t hp hb hbp h64, horspool_exact p t hp]

/-- one call of the translated `next` (`nextS p t pl`: run with the mirror model's shift table `Horspool.shiftTab p`) from window
end `last ≥ m - 1`: no panic; `None` only if the model's walk from `last`
finds nothing; `Some(i)` with `i` the model's next match, and the model continues from the new `last` (`G` = the mirror
model's `Horspool.go` with sufficient fuel) -/
theorem horspool_next_source_eq_model (p t : List Nat) (hp : 0 < p.length) (hb : ∀ c ∈ t, c < 256)
    (hbp : ∀ c ∈ p, c < 256) (h64 : t.length + p.length < 2 ^ 64) (pl : Nat) (hpl : p[p.length - 1]? = some pl)
    (last : Nat) (hl : p.length - 1 ≤ last) :
    ∃ last' r, GenSrcHorspoolNext.nextS p t pl last = Rs.Res.ok (last', r) ∧
      ((r = none ∧ GenSrcHorspoolNext.G p t last = []) ∨
       (∃ i, r = some i ∧ last < last' ∧ GenSrcHorspoolNext.G p t last = i :: GenSrcHorspoolNext.G p t last')) :=
  let ⟨last', r, h1, h2⟩ := GenSrcHorspoolNext.next_eq_model p t hp hb hbp h64 pl hpl last hl
  ⟨last', r, h1, h2.imp_right fun ⟨i, h3, h4, _, h5⟩ => ⟨i, h3, h4, h5⟩⟩

example : GenSrcHorspoolNext.findAllSrc [1, 2, 1] [1, 2, 1, 2, 1] = Rs.Res.ok [0, 2] := by
  rw [horspool_source_exact _ _ (by decide) (by decide) (by decide) (by decide)]; decide

/-- **BNDM end to end on the translated source text**: `BNDM::new(p)` (the translated `shift_and::masks` on the reversed
pattern, the `m <= 64` assertion), `.find_all(t)` and `Matches::next` until `None`, as written in `bndm.rs` (outer window
loop, inner `while active != 0` with its `break`, `text[window - j]`, `window - m`, `m - lastsuffix`, the saturated
start value of `active`), never panic, never run out of the loop fuel and list exactly the occurrences of `p` in `t`, for
every byte pattern of 1..64 symbols and every byte text with `|t| + |p| < 2^64`. -/
theorem bndm_source_exact (p t : List Nat) (hp : 0 < p.length) (hm : p.length ≤ 64) (hbp : ∀ c ∈ p, c < 256)
    (hb : ∀ c ∈ t, c < 256) (h64 : t.length + p.length < 2 ^ 64) :
    GenSrcBndmNext.findAllSrc p t = Rs.Res.ok (occurrences p t) :=
  GenSrcBndmNext.findAllSrc_eq_occurrences p t hp hm hbp hb h64

/-- one call of the translated `next` from window position `window ≥ m`: no panic; `None` only if the model finds nothing
from there; `Some(v)` with `v` the model's next match, and the model continues from the new window (`G` = the mirror model's
`Bndm.outer` with sufficient fuel; the masks are the model's, tabulated, so the bytes of `p` need no bound here — only
`new` needs it) -/
theorem bndm_next_source_eq_model (p t : List Nat) (hp : 0 < p.length) (hm : p.length ≤ 64) (hb : ∀ c ∈ t, c < 256)
    (h64 : t.length + p.length < 2 ^ 64) (window : Nat) (hw : p.length ≤ window) :
    ∃ w' r, GenSrcBndmNext.nextS p t window = Rs.Res.ok (w', r) ∧
      ((r = none ∧ GenSrcBndmNext.G p t window = []) ∨
       (∃ v, r = some v ∧ window < w' ∧ p.length ≤ w' ∧
          GenSrcBndmNext.G p t window = v :: GenSrcBndmNext.G p t w')) :=
  GenSrcBndmNext.next_eq_model p t hp hm hb h64 window hw

/-- whenever the mirror model's `Bndm.inner` returns `some (b, ls')`, the translated inner loop (one more unit of fuel) returns
the same without panic, whatever the tables; nothing is claimed where the model returns `none` -/
theorem bndm_inner_source_eq_model (ms : ShiftAnd.MState) (m : Nat) (t : List Nat) (window : Nat)
    (hb : ∀ c ∈ t, c < 256) (hw : window + 1 < 2 ^ 64) (fuel j active ls : Nat) (occ0 : Option Nat) (b : Bool)
    (ls' : Nat) (h : Bndm.inner ms m t window fuel j active ls = some (b, ls')) :
    ∃ a' j', Gen.SrcBndmNext.next_while2 (GenSrc.tab 256 ms.masks) t window ms.accept m (fuel + 1) (active, occ0, ls, j)
      = Rs.Res.ok (a', (if b then some (window - m) else occ0), ls', j') :=
  GenSrcBndmNext.while2_eq ms m t window hb hw fuel j active ls occ0 b ls' h

/-- the translated constructor refuses patterns of more than 64 symbols -/
theorem bndm_new_source_long_panics (p : List Nat) (hm : 64 < p.length) : Gen.SrcBndmNext.new p = Rs.Res.panic :=
  GenSrcBndmNext.new_long_panics p hm

example : GenSrcBndmNext.findAllSrc [1, 2, 1] [1, 2, 1, 2, 1] = Rs.Res.ok [0, 2] := by
  rw [bndm_source_exact _ _ (by decide) (by decide) (by decide) (by decide) (by decide)]; decide

/-- **BOM search on the translated source text**: `BOM::find_all(t)` and `Matches::next` until `None` (which calls the
translated `BOM::delta`), as written in `bom.rs` — the backward scan `while j <= m { match q { Some(q_) => …, None =>
break } }`, `text[window - j]`, `window - m`, `m + 2 - j` — run over the oracle table `Bom.build p` of the mirror model,
never panic, never run out of loop fuel and list exactly the occurrences of `p` in `t`, for every non-empty pattern and
every text with `|t| + |p| + 2 < 2^64`.  The constructor `BOM::new` is not translated (`while let`, `VecMap` insertion):
that it builds `Bom.build p` stays tied by the mirror model and the comparison of the real table (tag `bom-table-same`). -/
theorem bom_search_source_exact (p t : List Nat) (hp : 0 < p.length) (h64 : t.length + p.length + 2 < 2 ^ 64) :
    GenSrcBomNext.findAllSrc p t = Rs.Res.ok (occurrences p t) :=
  GenSrcBomNext.findAllSrc_eq_occurrences p t h64

/-- `BOM::delta` as written = the model's `delta`, for every table (a `VecMap` given by its entries), state and symbol -/
theorem bom_delta_source_eq_model (T : Bom.Table) (q a : Nat) :
    Gen.SrcBomNext.delta T q a = Rs.Res.ok (Bom.delta T q a) :=
  GenSrcBomNext.delta_eq_model T q a

/-- one call of the translated `next` (`nextS p t`: run over the mirror model's table `Bom.build p`; no theorem ties that table to
`BOM::new`) from window position `window ≥ m`: no panic; `None` only if the model's `Bom.search` (`G`) finds nothing from
there; `Some(v)` with `v` the model's next match, and the model continues from the new window -/
theorem bom_next_source_eq_model (p t : List Nat) (hp : 0 < p.length) (h64 : t.length + p.length + 2 < 2 ^ 64)
    (window : Nat) (hw : p.length ≤ window) :
    ∃ w' r, GenSrcBomNext.nextS p t window = Rs.Res.ok (w', r) ∧
      ((r = none ∧ GenSrcBomNext.G p t window = []) ∨
       (∃ v, r = some v ∧ window < w' ∧ p.length ≤ w' ∧
          GenSrcBomNext.G p t window = v :: GenSrcBomNext.G p t w')) :=
  GenSrcBomNext.next_eq_model p t h64 window hw

/-- whenever the model's `scanS` (panics explicit) returns `some r`, the translated inner loop (one more unit of fuel) returns
`r` without panic, for every table; nothing is claimed where `scanS` returns `none` -/
theorem bom_scan_source_eq_model (T : Bom.Table) (t : List Nat) (window m : Nat) (hw : window + 1 < 2 ^ 64)
    (fuel j : Nat) (q : Option Nat) (r : Option Nat × Nat) (h : Bom.scanS T t window m fuel j q = some r) :
    Gen.SrcBomNext.next_while2 m T t window (fuel + 1) (q, j) = Rs.Res.ok r :=
  GenSrcBomNext.while2_eq T t window m hw fuel j q r h

example : GenSrcBomNext.findAllSrc [1, 2, 1] [1, 2, 1, 2, 1] = Rs.Res.ok [0, 2] := by decide

end RbV.Thm.C08
