import RbV.Spec.Orf
import RbV.Spec.Alphabet
import RbV.Spec.Gc
import RbV.Ref.Complement
import RbV.Model.OrfScan
import RbV.Lemmas.OrfScan
import RbV.Lemmas.OrfScanP
import RbV.Thm.GenSrcOrf
import RbV.Thm.GenSrcOrfNew
import RbV.Thm.GenSrcGc
import RbV.Thm.GenSrcAlphabet
/-!
# C20 — ORF finder, complements, alphabets / rank transform, GC content

Helper lemmas live in `RbV/Spec`, `RbV/Ref`, `RbV/Lemmas`; the ties to the source text in `RbV/Thm/GenSrc*.lean`.

* Complement: the tables `Gen.Complement.dna/rna` are a **dump of the running Rust code over all 256 bytes**
  (regenerated on every check); the `decide`d facts below are therefore statements about the real
  `complement`, and the lifted theorems hold for every symbol and every sequence; `revcomp` in them is the model
  `Compl.revcomp` = reverse, then the dumped `complement` on every symbol (`dna::revcomp` / `rna::revcomp` themselves are neither
  dumped nor translated: tied by the correspondence run only).
* Alphabet / rank transform: the model enumerates a bit set in ascending order, as `bit_set::BitSet` does.
* ORF: `acceptOrf` is the oracle of the driver; `acceptOrf_iff` says it is exactly the sandwich of the property;
  `orf_sound_complete`: the mirror model of the sliding-window finder reports exactly the frames the property asks for.
* The source text of `Matches::next`, `Finder::new`, `find_all` (`Thm/GenSrcOrf.lean`, `Thm/GenSrcOrfNew.lean`): equal to
  the mirror model for every length test, and accepted by the oracle for the test found in the source.
* GC content: bounds, the tolerance test of the driver, and the counting part of the source text of `gcn_content`
  (`Thm/GenSrcGc.lean`).
* The source text of `Alphabet` / `RankTransform` (`Thm/GenSrcAlphabet.lean`).
-/
namespace RbV.Thm.C20
open RbV RbV.Compl

/-! ## Complement -/

/-- the dumped tables have 256 entries, all of them bytes -/
theorem complement_tables_wellformed :
    tblInRange Gen.Complement.dna = true ∧ tblInRange Gen.Complement.rna = true := by decide +kernel

/-- the tables are involutions; like the next two facts, checked by the kernel in one pass over the 256 entries
(`Ref/Complement.lean`, `all_range_of_pass`) -/
theorem complement_tables_involutive :
    tblInvolutive Gen.Complement.dna = true ∧ tblInvolutive Gen.Complement.rna = true :=
  ⟨tblInvolutive_of_pass complement_tables_wellformed.1 (by decide +kernel),
   tblInvolutive_of_pass complement_tables_wellformed.2 (by decide +kernel)⟩

/-- case is preserved, entry by entry -/
theorem complement_tables_case :
    tblCase Gen.Complement.dna = true ∧ tblCase Gen.Complement.rna = true :=
  ⟨tblCase_of_pass complement_tables_wellformed.1 (by decide +kernel),
   tblCase_of_pass complement_tables_wellformed.2 (by decide +kernel)⟩

/-- outside the IUPAC codes the tables are the identity -/
theorem complement_tables_identity_outside :
    tblIdOutside Gen.Complement.dna dnaCodes = true ∧ tblIdOutside Gen.Complement.rna rnaCodes = true :=
  ⟨tblIdOutside_of_pass complement_tables_wellformed.1 (by decide +kernel),
   tblIdOutside_of_pass complement_tables_wellformed.2 (by decide +kernel)⟩

/-- DNA complement is an involution — for every symbol -/
theorem dna_complement_involution (b : Nat) :
    comp Gen.Complement.dna (comp Gen.Complement.dna b) = b :=
  comp_comp complement_tables_wellformed.1 complement_tables_involutive.1 b

/-- RNA complement is an involution — for every symbol -/
theorem rna_complement_involution (b : Nat) :
    comp Gen.Complement.rna (comp Gen.Complement.rna b) = b :=
  comp_comp complement_tables_wellformed.2 complement_tables_involutive.2 b

/-- complement preserves case: an upper-case letter goes to an upper-case letter, its lower-case twin to the
lower-case twin of the image; a lower-case letter goes to a lower-case letter -/
theorem complement_preserves_case (b : Nat) (hb : b < 256) :
    (isUpper b = true → isUpper (comp Gen.Complement.dna b) = true ∧
        comp Gen.Complement.dna (b + 32) = comp Gen.Complement.dna b + 32) ∧
    (isLower b = true → isLower (comp Gen.Complement.dna b) = true) ∧
    (isUpper b = true → isUpper (comp Gen.Complement.rna b) = true ∧
        comp Gen.Complement.rna (b + 32) = comp Gen.Complement.rna b + 32) ∧
    (isLower b = true → isLower (comp Gen.Complement.rna b) = true) := by
  have h1 := all_range complement_tables_case.1 hb
  have h2 := all_range complement_tables_case.2 hb
  simp only [Bool.and_eq_true, Bool.or_eq_true, Bool.not_eq_true', beq_iff_eq] at h1 h2
  have key : ∀ {x : Bool} {p : Prop}, (x = false ∨ p) → x = true → p :=
    fun h hx => h.resolve_left (by rw [hx]; exact Bool.noConfusion)
  exact ⟨key h1.1, key h1.2, key h2.1, key h2.2⟩

/-- complement is the identity on everything that is not an IUPAC nucleotide code -/
theorem complement_identity_outside_codes (b : Nat) :
    (b ∉ dnaCodes → comp Gen.Complement.dna b = b) ∧ (b ∉ rnaCodes → comp Gen.Complement.rna b = b) := by
  have hd := complement_tables_identity_outside.1
  have hr := complement_tables_identity_outside.2
  have hld := length_of_inRange complement_tables_wellformed.1
  have hlr := length_of_inRange complement_tables_wellformed.2
  by_cases hb : b < 256
  · have h1 := all_range hd hb
    have h2 := all_range hr hb
    simp only [Bool.or_eq_true, List.contains_iff_mem, beq_iff_eq] at h1 h2
    exact ⟨fun h => h1.resolve_left h, fun h => h2.resolve_left h⟩
  · exact ⟨fun _ => comp_of_ge hld (by omega), fun _ => comp_of_ge hlr (by omega)⟩

/-- the four bases pair as Watson and Crick found: A–T (A–U), C–G, in both cases -/
theorem complement_watson_crick :
    [65, 84, 67, 71, 97, 116, 99, 103].map (comp Gen.Complement.dna) = [84, 65, 71, 67, 116, 97, 103, 99] ∧
    [65, 85, 67, 71, 97, 117, 99, 103].map (comp Gen.Complement.rna) = [85, 65, 71, 67, 117, 97, 103, 99] := by
  decide +kernel

/-- reverse-complementing twice restores **any** sequence (DNA), for the model `revcomp` = reverse, then the dumped `complement`
on every symbol (tied to `dna::revcomp` by the correspondence run only) -/
theorem dna_revcomp_revcomp (s : List Nat) :
    revcomp Gen.Complement.dna (revcomp Gen.Complement.dna s) = s :=
  revcomp_revcomp complement_tables_wellformed.1 complement_tables_involutive.1 s

/-- reverse-complementing twice restores **any** sequence (RNA), for the model `revcomp` over the dumped `rna::complement`
(tied to `rna::revcomp` by the correspondence run only) -/
theorem rna_revcomp_revcomp (s : List Nat) :
    revcomp Gen.Complement.rna (revcomp Gen.Complement.rna s) = s :=
  revcomp_revcomp complement_tables_wellformed.2 complement_tables_involutive.2 s

example : revcomp Gen.Complement.dna [65, 67, 71, 84, 110, 35] = [35, 110, 65, 67, 71, 84] := by decide +kernel

/-! ## Alphabet and rank transform -/

/-- the members of `Alphabet::new(symbols)` are exactly the given byte values -/
theorem alphabet_members (syms : List Nat) (b : Nat) : b ∈ Alpha.mk syms ↔ b ∈ syms ∧ b < 256 :=
  Alpha.mem_mk syms b

/-- a text is accepted exactly when all its symbols are members -/
theorem is_word_iff (syms t : List Nat) :
    Alpha.isWord (Alpha.mk syms) t = true ↔ ∀ c ∈ t, c ∈ syms ∧ c < 256 := by
  simp only [Alpha.isWord_iff, Alpha.mem_mk]

/-- the rank transform is an order-preserving bijection of the alphabet onto `0 .. |A|`:
it maps members below `|A|`, is strictly monotone (hence injective) on members, and every value below `|A|` is the
rank of a member; moreover the rank of a member is the number of smaller members. -/
theorem rank_bijective_monotone (syms : List Nat) :
    let A := Alpha.mk syms
    (∀ a ∈ A, Alpha.rank A a < A.length) ∧
    (∀ a ∈ A, ∀ b ∈ A, (a < b ↔ Alpha.rank A a < Alpha.rank A b)) ∧
    (∀ r, r < A.length → ∃ a ∈ A, Alpha.rank A a = r) ∧
    (∀ a ∈ A, Alpha.rank A a = Alpha.countLt A a) := by
  intro A
  have hs : A.Pairwise (· < ·) := Alpha.mk_sorted syms
  refine ⟨?_, ?_, ?_, ?_⟩
  · intro a ha
    obtain ⟨i, hi, rfl⟩ := List.mem_iff_getElem.mp ha
    rw [Alpha.rank_getElem A hs i hi]; exact hi
  · intro a ha b hb
    obtain ⟨i, hi, rfl⟩ := List.mem_iff_getElem.mp ha
    obtain ⟨j, hj, rfl⟩ := List.mem_iff_getElem.mp hb
    rw [Alpha.rank_getElem A hs i hi, Alpha.rank_getElem A hs j hj]
    have mono := List.pairwise_iff_getElem.mp hs
    refine ⟨fun hlt => Nat.lt_of_not_le fun hji => ?_, mono i j hi hj⟩
    rcases Nat.lt_or_eq_of_le hji with h | h
    · exact Nat.lt_asymm hlt (mono j i hj hi h)
    · subst h; exact Nat.lt_irrefl _ hlt
  · intro r hr
    exact ⟨A[r], List.getElem_mem hr, Alpha.rank_getElem A hs r hr⟩
  · intro a ha
    exact Alpha.rank_eq_countLt A hs a ha

example : Alpha.transform (Alpha.mk [84, 65, 71, 67, 65]) [71, 65, 84, 84, 65, 67, 65] = [2, 0, 3, 3, 0, 1, 0] := by
  decide +kernel

/-! ## Open reading frames -/

/-- **The oracle is the property.**  `acceptOrf` holds of a reported list exactly when: every reported triple is
an open reading frame (start codon, first in-frame stop codon after it, length a multiple of three) of length at
least `minLen` with offset `start % 3`; no triple is reported twice; and every open reading frame more than two
bases longer than `minLen` is reported. -/
theorem acceptOrf_iff (seq : List Nat) (starts stops : List (List Nat)) (minLen : Nat)
    (out : List (Nat × Nat × Nat)) :
    Orf.acceptOrf seq starts stops minLen out = true ↔
      (∀ t ∈ out, Orf.IsOrf seq starts stops t.1 t.2.1 ∧ minLen ≤ t.2.1 - t.1 ∧ t.2.2 = t.1 % 3) ∧
      out.Nodup ∧
      (∀ s e, Orf.IsOrf seq starts stops s e → minLen + 2 < e - s → (s, e, s % 3) ∈ out) := by
  unfold Orf.acceptOrf
  simp only [Bool.and_eq_true, List.all_eq_true, decide_eq_true_eq, Bool.or_eq_true, beq_iff_eq,
    List.contains_iff_mem, Orf.isOrfB_iff, and_assoc]
  refine and_congr_right fun _ => and_congr_right fun _ => ⟨fun h3 s e hio hlen => ?_, fun h3 p hp => ?_⟩
  · exact (h3 (s, e) ((Orf.mem_allOrfs seq starts stops s e).mpr hio)).resolve_left (Nat.not_le_of_lt hlen)
  · by_cases hlen : p.2 - p.1 ≤ minLen + 2
    · exact Or.inl hlen
    · exact Or.inr (h3 p.1 p.2 ((Orf.mem_allOrfs seq starts stops p.1 p.2).mp hp) (Nat.lt_of_not_le hlen))

/-- an open reading frame is determined by its start: the answer has no freedom beyond the two-base slack -/
theorem orf_end_unique (seq : List Nat) (starts stops : List (List Nat)) (s e e' : Nat)
    (h : Orf.IsOrf seq starts stops s e) (h' : Orf.IsOrf seq starts stops s e') : e = e' := by
  have key := fun e (h : Orf.IsOrf seq starts stops s e) =>
    (Orf.orfEnd_spec seq stops s e).mpr ⟨h.1, h.2.1, h.2.2.1, h.2.2.2.2⟩
  exact Option.some.inj ((key e h).symm.trans (key e' h'))

-- ATGAAATGA: one frame; ATG AAA TGA from 0 to 9
example : Orf.allOrfs [65, 84, 71, 65, 65, 65, 84, 71, 65] [[65, 84, 71]] [[84, 71, 65]] = [(0, 9)] := by decide +kernel
example : Orf.acceptOrf [65, 84, 71, 65, 65, 65, 84, 71, 65] [[65, 84, 71]] [[84, 71, 65]] 5 [(0, 9, 0)] = true := by
  decide +kernel

/-- **[B] The sliding-window finder of `orf.rs` is sound and complete.**  For codon sets of three-symbol codons
with no codon both start and stop, the mirror model of `Matches::next` (window, three per-frame lists of pending
starts, flush at a stop codon with the `break` on the first too-short start) reports *exactly* the open reading
frames that are more than `minLen + 2` long, with offset `start % 3`, and each of them once — for every sequence,
all such codon sets and every `minLen`. -/
theorem orf_sound_complete (seq : List Nat) (starts stops : List (List Nat)) (minLen : Nat)
    (h3s : ∀ c ∈ starts, c.length = 3) (h3p : ∀ c ∈ stops, c.length = 3) (hd : ∀ c ∈ starts, c ∉ stops) :
    (∀ t, t ∈ Model.OrfScan.findAll starts stops minLen seq ↔
        (Orf.IsOrf seq starts stops t.1 t.2.1 ∧ minLen + 2 < t.2.1 - t.1 ∧ t.2.2 = t.1 % 3)) ∧
    (Model.OrfScan.findAll starts stops minLen seq).Nodup := by
  have inv := Lemmas.OrfScan.findAll_inv (seq := seq) minLen h3s h3p hd
  refine ⟨?_, inv.nodup⟩
  intro t
  unfold Model.OrfScan.findAll
  rw [inv.out t]
  unfold Lemmas.OrfScan.Good
  constructor
  · rintro ⟨h1, _, h3, h4⟩; exact ⟨h1, h3, h4⟩
  · rintro ⟨h1, h3, h4⟩
    exact ⟨h1, h1.2.1, h3, h4⟩

-- nested starts, two frames: ATG ATG AAA TAA G ATG TAG  (min_len 0): both nested frames and the shifted one
example : Model.OrfScan.findAll [[65, 84, 71]] [[84, 65, 65], [84, 65, 71]] 0
    [65, 84, 71, 65, 84, 71, 65, 65, 65, 84, 65, 65, 71, 65, 84, 71, 84, 65, 71] = [(0, 12, 0), (3, 12, 0), (13, 19, 1)] := by
  decide +kernel

/-! ## The source text of `Matches::next` (translated on every run, `Gen/SrcOrf.lean`)

`tools/rs2lean.py` translates the text of `Matches::next` into `Gen.SrcOrf.next` (+ loop helpers) and the length test of
its flush loop into `Gen.SrcOrf.next_lenTest`; `GenSrcOrf.collect T …` calls the translated `next` (with length test `T`)
until it returns `None`, as `Iterator::collect` does.  `Rs.Res.ok v` = no panic, no loop ran out of fuel, result `v`.
The property leaves frames of length `minLen … minLen + 2` free; accordingly the tie is stated for *every* length test
inside that freedom (`Model.OrfScan.LenTestOk`), and the test found in the source is shown to be inside it. -/

/-- **The ORF mirror model is sound and complete for every length test inside the freedom of the property.**
`findAllP P` is the mirror model of `Matches::next` whose flush loop uses the test `P index start_pos`; if `P` accepts
every frame longer than `minLen + 2` and only frames at least `minLen` long, the oracle accepts the model's answer
(every reported triple is an ORF of length ≥ `minLen` with offset `start % 3`, none twice, every ORF longer than
`minLen + 2` is reported) — for codon sets of three-symbol codons in which no start codon is also a stop codon (`hd`; with a codon that is both,
`orf.rs` reports the bare codon as a frame of length 3, which the oracle rejects). -/
theorem orf_model_any_test_accepted (seq : List Nat) (starts stops : List (List Nat)) (minLen : Nat)
    (P : Nat → Nat → Bool) (hP : Model.OrfScan.LenTestOk P minLen seq.length)
    (h3s : ∀ c ∈ starts, c.length = 3) (h3p : ∀ c ∈ stops, c.length = 3) (hd : ∀ c ∈ starts, c ∉ stops) :
    Orf.acceptOrf seq starts stops minLen (Model.OrfScan.findAllP P starts stops seq) = true := by
  -- a reported frame passed `P` itself (`hi`); for a frame longer than `minLen + 2` every earlier start with the same end
  -- makes a longer frame still, so all of them pass (`lo`) and the flush does not `break` before it
  rw [acceptOrf_iff]
  refine ⟨fun t ht => ?_, Lemmas.OrfScan.findAllP_nodup h3s h3p hd, fun s e hio hlen => ?_⟩
  · obtain ⟨hio, h3, h4⟩ := (Lemmas.OrfScan.mem_findAllP h3s h3p hd t).mp ht
    obtain ⟨a1, a2, a3, a4, -⟩ := Lemmas.OrfScan.frame_args hio.1 hio.2.1
    exact ⟨hio, a4 ▸ hP.hi _ _ a1 a2 a3 (h4 t.1 (Nat.le_refl _) hio), h3⟩
  · refine (Lemmas.OrfScan.mem_findAllP h3s h3p hd (s, e, s % 3)).mpr
      ⟨hio, rfl, fun s' hs' (hio' : Orf.IsOrf seq starts stops s' e) => ?_⟩
    obtain ⟨a1, a2, a3, a4, -⟩ := Lemmas.OrfScan.frame_args hio'.1 hio'.2.1
    exact hP.lo _ _ a1 a2 a3 (a4 ▸ Nat.lt_of_lt_of_le hlen (Nat.sub_le_sub_left hs' e))

/-- … in particular the answer of `findAll`, the model with the test of the source, is accepted by the oracle (same codon sets:
three-symbol codons, no start codon also a stop codon) -/
theorem orf_model_accepted (seq : List Nat) (starts stops : List (List Nat)) (minLen : Nat)
    (h3s : ∀ c ∈ starts, c.length = 3) (h3p : ∀ c ∈ stops, c.length = 3) (hd : ∀ c ∈ starts, c ∉ stops) :
    Orf.acceptOrf seq starts stops minLen (Model.OrfScan.findAll starts stops minLen seq) = true := by
  rw [Model.OrfScan.findAll_eq_findAllP]
  exact orf_model_any_test_accepted seq starts stops minLen _ (Lemmas.OrfScanP.pinnedTest_ok minLen _) h3s h3p hd

/-- **`Matches::next` as written in the source = the mirror model**: for every length test
`T` that computes `P` on the arguments the loop passes, calling the translated `next` on a fresh iterator until it
returns `None` never panics and yields exactly `findAllP P` — all sequences shorter than `2^64 - 1`, all codon sets with
three-symbol start codons, every `minLen`. -/
theorem orf_next_source_eq_model (T : Nat → Nat → Nat → Rs.Res Bool) (P : Nat → Nat → Bool)
    (seq : List Nat) (starts stops : List (List Nat)) (minLen : Nat)
    (hT : GenSrcOrf.TestIs T P minLen seq.length) (h3s : ∀ c ∈ starts, c.length = 3) (hlen : seq.length + 1 < 2 ^ 64)
    (fuel : Nat) (hf : (Model.OrfScan.findAllP P starts stops seq).length < fuel) :
    GenSrcOrf.collect T starts stops minLen fuel [[], [], []] [] [] (GenSrcOrf.enumFrom 0 seq)
      = Rs.Res.ok (Model.OrfScan.findAllP P starts stops seq) :=
  GenSrcOrf.collect_findAllP stops seq hT h3s hlen fuel hf

/-- the length test found in the source text never panics on the arguments the loop passes and lies inside the freedom
of the property: it accepts every frame longer than `minLen + 2` and only frames at least `minLen` long -/
theorem orf_length_test_source_in_slack (minLen B : Nat) (hB : B + 2 < 2 ^ 64) :
    GenSrcOrf.TestIs Gen.SrcOrf.next_lenTest (GenSrcOrf.srcTest minLen) minLen B ∧
    Model.OrfScan.LenTestOk (GenSrcOrf.srcTest minLen) minLen B :=
  ⟨GenSrcOrf.srcTest_is minLen B hB, GenSrcOrf.srcTest_ok minLen B hB⟩

/-- **The source text of `Matches::next` is sound and complete**: iterating the *translated* `next` (with the length
test of the source) over any sequence shorter than `2^64 - 2` yields a list the oracle accepts — for codon sets of three-symbol codons in which no start codon is also a stop codon (`hd`; with a codon that is both,
`orf.rs` reports the bare codon as a frame of length 3, which the oracle rejects). -/
theorem orf_next_source_accepted (seq : List Nat) (starts stops : List (List Nat)) (minLen : Nat)
    (h3s : ∀ c ∈ starts, c.length = 3) (h3p : ∀ c ∈ stops, c.length = 3) (hd : ∀ c ∈ starts, c ∉ stops)
    (hlen : seq.length + 2 < 2 ^ 64) :
    ∃ out, (∀ fuel, out.length < fuel →
        GenSrcOrf.collect Gen.SrcOrf.next_lenTest starts stops minLen fuel [[], [], []] [] [] (GenSrcOrf.enumFrom 0 seq)
          = Rs.Res.ok out) ∧
      Orf.acceptOrf seq starts stops minLen out = true := by
  obtain ⟨h1, h2⟩ := orf_length_test_source_in_slack minLen seq.length hlen
  exact ⟨_, fun fuel hf => orf_next_source_eq_model _ _ seq starts stops minLen h1 h3s (by omega) fuel hf,
    orf_model_any_test_accepted seq starts stops minLen _ h2 h3s h3p hd⟩

/-- **From the translated constructors**: `Finder::new(starts, stops, min_len)` as written, `.find_all(seq)` as
written (with `State::new()` as written), then the translated `next` with the length test of the source until `None`
(`GenSrcOrfNew.findAllSrc`) never panics and yields a list the oracle accepts — for sequences shorter than `2^64 - 2` and codon
sets of three-symbol codons in which no start codon is also a stop codon (`hd`, as in `orf_next_source_accepted`). -/
theorem orf_find_all_source_accepted (seq : List Nat) (starts stops : List (List Nat)) (minLen : Nat)
    (h3s : ∀ c ∈ starts, c.length = 3) (h3p : ∀ c ∈ stops, c.length = 3) (hd : ∀ c ∈ starts, c ∉ stops)
    (hlen : seq.length + 2 < 2 ^ 64) :
    ∃ out, (∀ fuel, out.length < fuel →
        GenSrcOrfNew.findAllSrc Gen.SrcOrf.next_lenTest starts stops minLen fuel seq = Rs.Res.ok out) ∧
      Orf.acceptOrf seq starts stops minLen out = true := by
  obtain ⟨out, h1, h2⟩ := orf_next_source_accepted seq starts stops minLen h3s h3p hd hlen
  exact ⟨out, fun fuel hf => by rw [GenSrcOrfNew.findAllSrc_eq]; exact h1 fuel hf, h2⟩

/-- the translated constructors, as values: `Finder::new` keeps the codons and `min_len`; `find_all` starts with three
empty start-position lists, an empty codon window, nothing found, and the sequence enumerated from 0 -/
theorem orf_constructors_source_eq_model (seq : List Nat) (starts stops : List (List Nat)) (minLen : Nat) :
    Gen.SrcOrfNew.findAll (Gen.SrcOrfNew.finderNew starts stops minLen) seq
      = { finder := { start_codons := starts, stop_codons := stops, min_len := minLen },
          state := { start_pos := [[], [], []], codon := [], found := [] },
          seq := GenSrcOrf.enumFrom 0 seq } := by
  rw [GenSrcOrfNew.findAll_eq, GenSrcOrfNew.finderNew_eq]

-- non-vacuity: constructors and iterator evaluated end to end on ATG ATG AAA TAA G ATG TAG (minimum length outside the slack)
example : GenSrcOrfNew.findAllSrc Gen.SrcOrf.next_lenTest [[65, 84, 71]] [[84, 65, 65], [84, 65, 71]] 3 9
    [65, 84, 71, 65, 84, 71, 65, 65, 65, 84, 65, 65, 71, 65, 84, 71, 84, 65, 71]
    = Rs.Res.ok [(0, 12, 0), (3, 12, 0), (13, 19, 1)] := by decide +kernel

/-- for every length test `T` that computes `index + 1 - start_pos > min_len` (the test of the present source text) on the
arguments the loop passes, the translated `next` yields exactly what the mirror model `findAll` — the one the driver runs next to
the code on every case — yields; that the translated `next_lenTest` is such a `T` is not stated
(`orf_length_test_source_in_slack` gives it for `srcTest`, its own reading of the translated test) -/
theorem orf_next_source_pinned_test_eq_findAll (T : Nat → Nat → Nat → Rs.Res Bool)
    (seq : List Nat) (starts stops : List (List Nat)) (minLen : Nat)
    (hT : GenSrcOrf.TestIs T (Model.OrfScan.pinnedTest minLen) minLen seq.length)
    (h3s : ∀ c ∈ starts, c.length = 3) (hlen : seq.length + 1 < 2 ^ 64)
    (fuel : Nat) (hf : (Model.OrfScan.findAll starts stops minLen seq).length < fuel) :
    GenSrcOrf.collect T starts stops minLen fuel [[], [], []] [] [] (GenSrcOrf.enumFrom 0 seq)
      = Rs.Res.ok (Model.OrfScan.findAll starts stops minLen seq) := by
  rw [Model.OrfScan.findAll_eq_findAllP] at hf ⊢
  exact orf_next_source_eq_model T _ seq starts stops minLen hT h3s hlen fuel hf

-- non-vacuity: the translated `next` on ATG ATG AAA TAA G ATG TAG (frames of length 12, 9 and 6).  The minimum lengths
-- are chosen outside the slack of every frame (3: all three are longer than 3 + 2; 13: none is at least 13 long), so that
-- a source change that only moves the length test inside the slack does not break the examples.
example : GenSrcOrf.collect Gen.SrcOrf.next_lenTest [[65, 84, 71]] [[84, 65, 65], [84, 65, 71]] 3 9 [[], [], []] [] []
    (GenSrcOrf.enumFrom 0 [65, 84, 71, 65, 84, 71, 65, 65, 65, 84, 65, 65, 71, 65, 84, 71, 84, 65, 71])
    = Rs.Res.ok [(0, 12, 0), (3, 12, 0), (13, 19, 1)] := by decide +kernel
example : GenSrcOrf.collect Gen.SrcOrf.next_lenTest [[65, 84, 71]] [[84, 65, 65], [84, 65, 71]] 13 9 [[], [], []] [] []
    (GenSrcOrf.enumFrom 0 [65, 84, 71, 65, 84, 71, 65, 65, 65, 84, 65, 65, 71, 65, 84, 71, 84, 65, 71])
    = Rs.Res.ok [] := by decide +kernel
-- inside the slack both answers are accepted: min_len 9, the frame 3..12 of length 9 may be reported or not
example : Orf.acceptOrf [65, 84, 71, 65, 84, 71, 65, 65, 65, 84, 65, 65, 71, 65, 84, 71, 84, 65, 71]
    [[65, 84, 71]] [[84, 65, 65], [84, 65, 71]] 9 [(0, 12, 0), (3, 12, 0)] = true ∧
  Orf.acceptOrf [65, 84, 71, 65, 84, 71, 65, 65, 65, 84, 65, 65, 71, 65, 84, 71, 84, 65, 71]
    [[65, 84, 71]] [[84, 65, 65], [84, 65, 71]] 9 [(0, 12, 0)] = true := by decide +kernel

/-! ## GC content -/

/-- the exact GC fraction lies in [0, 1] -/
theorem gc_fraction_bounds (s : List Nat) : Gc.gcCount s ≤ s.length := Gc.gcCount_le s

/-- the tolerance test of the driver is `|p/q − c/l| ≤ 10⁻⁶`, cross-multiplied -/
theorem gc_tolerance_iff (p q c l : Nat) :
    Gc.within1e6 p q c l = true ↔
      ((p : Int) * l - c * q) * 1000000 ≤ q * l ∧ ((c : Int) * q - p * l) * 1000000 ≤ q * l :=
  Gc.within1e6_iff p q c l

/-! ### the source text of `gcn_content` (translated on every run, `Gen/SrcGc.lean`)

The integer part of the GC functions is tied by a theorem about the source text; the `f32` conversion and division are
abstract parameters (`toF32`, `fdiv`) of the translated definition and stay with the numerical clause of the driver.
`step_by(0)` panics (`GenSrcGc.gcnContent_step_zero_panics`). -/

/-- `gc_content` as written in the source (`gcn_content(sequence, 1)`): for a sequence shorter than `2^64` it divides the
number of `C G c g` symbols by the length, both converted to `f32` -/
theorem gc_content_source_counts {F : Type} (toF32 : Nat → F) (fdiv : F → F → F) (s : List Nat) (hlen : s.length < 2 ^ 64) :
    Gen.SrcGc.gcnContent toF32 fdiv s 1 = Rs.Res.ok (fdiv (toF32 (Gc.gcCount s)) (toF32 s.length)) := by
  rw [GenSrcGc.gcnContent_eq_model toF32 fdiv s 1 (by omega) hlen, Rs.stepByGo_one]

/-- `gc3_content` as written in the source (`gcn_content(sequence, 3)`): the same over the symbols at positions
`0, 3, 6, …` — the reading `every3 · 0` the driver accepts first -/
theorem gc3_content_source_counts {F : Type} (toF32 : Nat → F) (fdiv : F → F → F) (s : List Nat) (hlen : s.length < 2 ^ 64) :
    Gen.SrcGc.gcnContent toF32 fdiv s 3
      = Rs.Res.ok (fdiv (toF32 (Gc.gcCount (Gc.every3 s 0))) (toF32 (Gc.every3 s 0).length)) := by
  rw [GenSrcGc.gcnContent_eq_model toF32 fdiv s 3 (by omega) hlen, GenSrcGc.stepByGo3_eq_every3]

-- GATATACA: 2 of 8; positions 0, 3, 6 = G A C: 2 of 3 (the documented example)
example : Gen.SrcGc.gcnContent (F := Nat × Nat) (fun n => (n, 1)) (fun a b => (a.1, b.1)) [71, 65, 84, 65, 84, 65, 67, 65] 3
    = Rs.Res.ok (2, 3) := by decide +kernel

/-! ### the source text of `Alphabet` / `RankTransform` (translated on every run, `Gen/SrcAlphabet.lean`)

`bit_set::BitSet` and `vec_map::VecMap<u8>` are the containers `Rs.BitSet` (ascending member list) and `Rs.VecMap`
(association list) of `RsSem.lean` — the trusted meaning of the two crates; everything `alphabets/mod.rs` does with them
is translated text. -/

/-- `Alphabet::new(symbols)` as written in the source builds exactly the model's alphabet, whose members are the given
bytes (`alphabet_members`) -/
theorem alphabet_new_source_eq_model (syms : List Nat) (hb : ∀ c ∈ syms, c < 256) :
    Gen.SrcAlphabet.alphabetNew syms = Rs.Res.ok (Alpha.mk syms) :=
  GenSrcAlphabet.alphabetNew_eq_model syms hb

/-- `Alphabet::insert` as written in the source -/
theorem alphabet_insert_source_eq_model (syms : List Nat) (a : Nat) (ha : a < 256) :
    Gen.SrcAlphabet.alphabetInsert (Alpha.mk syms) a = Rs.Res.ok (Alpha.mk (a :: syms)) :=
  GenSrcAlphabet.alphabetInsert_eq_model syms a ha

/-- `Alphabet::is_word`, `max_symbol`, `len` as written in the source, on the alphabet `Alphabet::new(syms)` builds:
a text is accepted iff all its symbols are among `syms` (`is_word_iff`), the maximal symbol is the last member, the size
is the number of members -/
theorem alphabet_queries_source_eq_model (syms t : List Nat) :
    Gen.SrcAlphabet.isWord (Alpha.mk syms) t = Rs.Res.ok (Alpha.isWord (Alpha.mk syms) t) ∧
    (Alpha.isWord (Alpha.mk syms) t = true ↔ ∀ c ∈ t, c ∈ syms ∧ c < 256) ∧
    Gen.SrcAlphabet.maxSymbol (Alpha.mk syms) = Rs.Res.ok (Alpha.maxSymbol (Alpha.mk syms)) ∧
    Gen.SrcAlphabet.len (Alpha.mk syms) = Rs.Res.ok (Alpha.mk syms).length :=
  ⟨GenSrcAlphabet.isWord_eq_model _ t, is_word_iff syms t,
   GenSrcAlphabet.maxSymbol_eq_model _ (Alpha.mk_sorted syms) (fun a ha => ((Alpha.mem_mk syms a).mp ha).2),
   GenSrcAlphabet.len_eq_model _⟩

/-- **`RankTransform::{new, get, transform}` as written in the source**: `new` builds a map that sends every member of
the alphabet to its rank in the model (`rank_bijective_monotone`: an order-preserving bijection onto `0..|A|`) and nothing
else; `get` returns that rank and panics outside the alphabet; `transform` maps a word over the alphabet to its ranks. -/
theorem rank_transform_source_eq_model (syms : List Nat) :
    ∃ m, Gen.SrcAlphabet.rankNew (Alpha.mk syms) = Rs.Res.ok m ∧
      (∀ a, Gen.SrcAlphabet.rankGet m a
          = if a ∈ Alpha.mk syms then Rs.Res.ok (Alpha.rank (Alpha.mk syms) a) else Rs.Res.panic) ∧
      (∀ t, (∀ c ∈ t, c ∈ Alpha.mk syms) →
          Gen.SrcAlphabet.transform m t = Rs.Res.ok (Alpha.transform (Alpha.mk syms) t)) := by
  have hl : (Alpha.mk syms).length ≤ 256 := by
    unfold Alpha.mk
    exact Nat.le_trans (List.length_filter_le _ _) (by simp)
  obtain ⟨m, h1, h2⟩ := GenSrcAlphabet.rankNew_eq_model (Alpha.mk syms) (Alpha.mk_sorted syms) hl
  exact ⟨m, h1, fun a => GenSrcAlphabet.rankGet_eq_model _ m h2 a,
    fun t ht => GenSrcAlphabet.transform_eq_model _ m h2 t ht⟩

-- the translated constructors and queries on "TAGCA": alphabet A C G T, ranks 0 1 2 3, the full byte alphabet
example : (do let a ← Gen.SrcAlphabet.alphabetNew [84, 65, 71, 67, 65]
              let m ← Gen.SrcAlphabet.rankNew a
              Gen.SrcAlphabet.transform m [71, 65, 84, 84, 65, 67, 65]) = Rs.Res.ok [2, 0, 3, 3, 0, 1, 0] := by decide +kernel
example : (do let a ← Gen.SrcAlphabet.alphabetNew (List.range 256)
              let m ← Gen.SrcAlphabet.rankNew a
              Gen.SrcAlphabet.transform m [255, 0, 128]) = Rs.Res.ok [255, 0, 128] := by
  -- by the theorems above the text computes `Alpha.transform` of the full byte alphabet, which is `0 … 255` itself
  have hmk : Alpha.mk (List.range 256) = List.range 256 :=
    List.filter_eq_self.mpr fun _ ha => List.contains_iff_mem.mpr ha
  obtain ⟨m, h1, _, h3⟩ := rank_transform_source_eq_model (List.range 256)
  rw [alphabet_new_source_eq_model _ fun c hc => List.mem_range.mp hc, Rs.Res.ok_bind, h1, Rs.Res.ok_bind,
    h3 _ (by rw [hmk]; decide +kernel), hmk]
  decide +kernel
example : (do let a ← Gen.SrcAlphabet.alphabetNew [65, 67]
              let m ← Gen.SrcAlphabet.rankNew a
              Gen.SrcAlphabet.rankGet m 66) = Rs.Res.panic := by decide +kernel

end RbV.Thm.C20
