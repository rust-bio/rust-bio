import RbV.Gen.SrcFmdSmems
import RbV.Lemmas.SmemsLoop
import RbV.Thm.GenSrcFmdExt
import RbV.Thm.GenSrcBasic
import RbV.Thm.GenSrcOk
import RbV.Basic.GetD
/-!
# The translated text of `FMDIndex::smems` equals the mirror model `SmemModel.smems`

`RbV/Gen/SrcFmdSmems.lean` is regenerated from `src/data_structures/fmindex.rs` by `tools/rs2lean_fm.py` (dialect "fmd")
on every `./check C06`.  The translated `smems` *calls* the translated `init_interval_with`, `forward_ext`,
`backward_ext` of `RbV/Gen/SrcFmdExt.lean` (which may panic); the `isize` variables `k`, `j`, `last_size` are `Int`s
(the model keeps `k + 1`, `j + 1` as naturals).

The equality is stated for **every** family of interval operations `ops : Ops Bi` that the translated extension
functions compute on a set of *safe* intervals (`SafeOps`: `S d iv` — "`iv` can be extended `d` more times without a
panic"; closed under the extensions by pattern symbols), and **up to the order of the result** (`List.Perm`): the
property fixes neither the value of an extension of an empty interval (seeded change C06-H1) nor the order in which the
matches are returned (C06-H2), nor what happens on the way to the empty answer when `pattern[i]` does not occur (C06-H4:
`smems_eq_model_of` takes "the model reports nothing then" as a hypothesis; the unconditional equality is the soft module
`RbV/Thm/GenSrcFmdSmemsModel.lean`).  `RbV/Thm/GenSrcFmdIndex.lean` instantiates `S` for an FMD index.
-/
set_option linter.unusedSimpArgs false

namespace RbV.Thm.GenSrcFmdSmems
open RbV RbV.Rs RbV.Gen RbV.Thm.GenSrc RbV.FMDModel RbV.SmemModel RbV.Thm.GenSrcFmdExt

attribute [local congr] GenSrc.bind_congr_arg
attribute [local simp] GenSrc.map_ok

/-- a candidate `(interval, match_len)` as the translated code sees it -/
def pairT (p : Bi × Nat) : BiT × Nat := (toT p.1, p.2)
/-- a reported match `(interval, pos, len)` as the translated code sees it (the target type is abbreviated `HitT` in
`Thm/GenSrcFmdAllSmems.lean`) -/
def hitT (h : Hit Bi) : BiT × Nat × Nat := (toT h.iv, h.pos, h.len)

/-- The translated extension functions compute `ops` on safe intervals.  `S d iv`: `iv` may be extended `d` more
times.  `mono` is the successor step on purpose (what an instance proves at once; `PI.mono_le` iterates it); `36 = b'$'` in `bwd`
is the sentinel the backward sweep extends by at the pattern's left end (`fmdSentinel` of `Spec/FMD.lean`). -/
structure SafeOps (lessF : Nat → Nat) (occF : Nat → Nat → Nat) (ops : Ops Bi) (S : Nat → Bi → Prop) (pat : List Nat) :
    Prop where
  size : ∀ iv, ops.size iv = iv.size
  mono : ∀ d iv, S (d + 1) iv → S d iv
  small : ∀ d iv, S d iv → iv.size < 2 ^ 63
  init : ∀ i, i < pat.length →
    SrcFmdExt.init_interval_with lessF dnaCompl (pat.getD i 0) = Res.ok (toT (ops.initWith i (pat.getD i 0))) ∧
      S pat.length (ops.initWith i (pat.getD i 0))
  fwd : ∀ d iv a, S (d + 1) iv → a ∈ pat →
    SrcFmdExt.forward_ext lessF occF dnaCompl (toT iv) a = Res.ok (toT (ops.fwd iv a)) ∧ S d (ops.fwd iv a)
  bwd : ∀ d iv a, S (d + 1) iv → (a ∈ pat ∨ a = 36) →
    SrcFmdExt.backward_ext lessF occF (toT iv) a = Res.ok (toT (ops.bwd iv a)) ∧ (ops.bwd iv a).size < 2 ^ 63 ∧
      (a ∈ pat → S d (ops.bwd iv a))

section
variable {lessF : Nat → Nat} {occF : Nat → Nat → Nat} {ops : Ops Bi} {S : Nat → Bi → Prop} {pat : List Nat}
  (hS : SafeOps lessF occF ops S pat)

/-- invariant of a candidate: safe for `d` more extensions, and its length can still grow `d` times -/
def PI (S : Nat → Bi → Prop) (pat : List Nat) (d : Nat) (p : Bi × Nat) : Prop := S d p.1 ∧ p.2 + d ≤ pat.length + 1

include hS in
theorem PI.mono_le {d d' : Nat} {p : Bi × Nat} (hd : d ≤ d') (h : PI S pat d' p) : PI S pat d p := by
  induction d' with
  | zero => have : d = 0 := by omega
            subst this; exact h
  | succ n ih =>
    by_cases he : d = n + 1
    · subst he; exact h
    · exact ih (by omega) ⟨hS.mono n p.1 h.1, Nat.le_trans (Nat.add_le_add_left (Nat.le_succ n) _) h.2⟩

theorem isEmpty_map {α β : Type} (f : α → β) (l : List α) : (l.map f).isEmpty = l.isEmpty := by
  cases l <;> rfl

theorem for1_step (a : Nat) (rest : List Nat) (currT : List (BiT × Nat)) (iv f : Bi) (ml : Nat)
    (hf : SrcFmdExt.forward_ext lessF occF dnaCompl (toT iv) a = Res.ok (toT f)) (hml : ml + 1 < 2 ^ 64) :
    SrcFmdSmems.smems_for1 lessF occF dnaCompl (a :: rest) (currT, toT iv, ml) =
      if f.size = 0 then Res.ok (if iv.size ≠ f.size then currT ++ [(toT iv, ml)] else currT, toT iv, ml)
      else SrcFmdSmems.smems_for1 lessF occF dnaCompl rest
        (if iv.size ≠ f.size then currT ++ [(toT iv, ml)] else currT, toT f, ml + 1) := by
  have e1 : Rs.add 64 ml 1 = Res.ok (ml + 1) := Rs.add_ok hml
  have e1' : Rs.add 64 1 ml = Res.ok (ml + 1) := Rs.add_ok_comm hml
  simp [SrcFmdSmems.smems_for1, hf, e1, e1']
  by_cases h1 : iv.size = f.size <;> simp only [h1, if_true, if_false] <;>
    by_cases hz : f.size = 0 <;> simp only [hz, if_true, if_false]

include hS in
/-- the forward `for` loop follows `fwdLoop`; `D` further extensions remain after it -/
theorem fwdLoop_eq (D : Nat) : ∀ (rest : List Nat) (iv : Bi) (ml : Nat) (curr : List (Bi × Nat)),
    (∀ a ∈ rest, a ∈ pat) → S (rest.length + D) iv → ml + rest.length + D ≤ pat.length + 1 → pat.length + 1 < 2 ^ 63 →
    (∀ p ∈ curr, PI S pat D p) →
    SrcFmdSmems.smems_for1 lessF occF dnaCompl rest (curr.map pairT, toT iv, ml) =
        Res.ok (((fwdLoop ops rest iv ml curr).1).map pairT, toT (fwdLoop ops rest iv ml curr).2.1,
          (fwdLoop ops rest iv ml curr).2.2) ∧
      (∀ p ∈ (fwdLoop ops rest iv ml curr).1 ++ [((fwdLoop ops rest iv ml curr).2.1, (fwdLoop ops rest iv ml curr).2.2)],
        PI S pat D p) := by
  intro rest
  induction rest with
  | nil =>
    intro iv ml curr _ hs hml _ hc
    refine ⟨rfl, ?_⟩
    simp only [fwdLoop]
    exact List.forall_mem_append.mpr ⟨hc, List.forall_mem_singleton.mpr
      ⟨by simpa using hs, by simp only [List.length_nil] at hml; omega⟩⟩
  | cons a rest ih =>
    intro iv ml curr hsym hs hml hL hc
    rw [List.length_cons] at hs hml
    have hs' : S ((rest.length + D) + 1) iv := by rwa [Nat.add_right_comm] at hs
    obtain ⟨hf, hfs⟩ := hS.fwd (rest.length + D) iv a hs' (hsym a (List.mem_cons_self))
    have hivD : PI S pat D (iv, ml) :=
      PI.mono_le hS (by omega) (⟨hs', by show ml + _ ≤ _; omega⟩ : PI S pat (rest.length + D + 1) (iv, ml))
    have hcurr' : ∀ p ∈ (if iv.size ≠ (ops.fwd iv a).size then curr ++ [(iv, ml)] else curr), PI S pat D p := by
      split
      · exact List.forall_mem_append.mpr ⟨hc, List.forall_mem_singleton.mpr hivD⟩
      · exact hc
    have hmapc : (if iv.size ≠ (ops.fwd iv a).size then curr ++ [(iv, ml)] else curr).map pairT =
        (if iv.size ≠ (ops.fwd iv a).size then curr.map pairT ++ [(toT iv, ml)] else curr.map pairT) := by
      split <;> simp [pairT]
    have hmodel : fwdLoop ops (a :: rest) iv ml curr =
        if (ops.fwd iv a).size = 0 then
          (if iv.size ≠ (ops.fwd iv a).size then curr ++ [(iv, ml)] else curr, iv, ml)
        else fwdLoop ops rest (ops.fwd iv a) (ml + 1)
          (if iv.size ≠ (ops.fwd iv a).size then curr ++ [(iv, ml)] else curr) := by
      simp only [fwdLoop, hS.size]
    rw [for1_step a rest _ iv (ops.fwd iv a) ml hf (by have := p63; omega), ← hmapc, hmodel]
    by_cases hz : (ops.fwd iv a).size = 0
    · rw [if_pos hz, if_pos hz]
      exact ⟨rfl, List.forall_mem_append.mpr ⟨hcurr', List.forall_mem_singleton.mpr hivD⟩⟩
    · rw [if_neg hz, if_neg hz]
      exact ih (ops.fwd iv a) (ml + 1) _ (fun x hx => hsym x (List.mem_cons_of_mem _ hx)) hfs (by omega) hL hcurr'

/-! ### the backward sweep: `k`, `j` are `Int`s in the translation, `kk = k + 1`, `jj = j + 1` in the model -/

theorem k_eq_m1 (kk : Nat) : (((kk : Int) - 1) == (-1 : Int)) = (kk == 0) := by
  by_cases h : kk = 0
  · subst h; rfl
  · have h1 : ((kk : Int) - 1) ≠ -1 := by omega
    rw [beq_eq_false_iff_ne.mpr h1, beq_eq_false_iff_ne.mpr h]

theorem k_lt_j (kk jj : Nat) : decide (((kk : Int) - 1) < ((jj : Int) - 1)) = decide (kk < jj) := by
  by_cases h : kk < jj
  · have : ((kk : Int) - 1) < ((jj : Int) - 1) := by omega
    simp [h, this]
  · have : ¬ ((kk : Int) - 1) < ((jj : Int) - 1) := by omega
    simp [h, this]

theorem iadd_k (kk : Nat) (h : kk < 2 ^ 63) : Rs.iadd 64 ((kk : Int) - 1) 1 = Res.ok (kk : Int) := by
  have : InS 64 ((kk : Int) - 1 + 1) := by
    unfold InS
    have h63 : ((2 ^ (64 - 1) : Nat) : Int) = ((2 ^ 63 : Nat) : Int) := rfl
    rw [h63]
    omega
  rw [Rs.iadd_ok this]
  congr 1
  omega

theorem natCast_ne (a : Nat) (b : Int) : ((a : Int) != b) = ((a : Int) != b) := rfl

include hS in
/-- the inner `for (interval, match_len) in prev.iter()` loop follows `innerLoop` -/
theorem for3_eq (a kk d l : Nat) (ha : a ∈ pat ∨ a = 36) (hkk : kk < 2 ^ 63) (hL : pat.length + 1 < 2 ^ 63) :
    ∀ (prev : List (Bi × Nat)) (st : InnerSt Bi), (∀ p ∈ prev, PI S pat (d + 1) p) →
      SrcFmdSmems.smems_for3 lessF occF dnaCompl a ((kk : Int) - 1) l (prev.map pairT)
          ((st.jj : Int) - 1, st.ms.map hitT, st.last, st.curr.map pairT) =
        Res.ok (((innerLoop ops a kk l prev st).jj : Int) - 1, (innerLoop ops a kk l prev st).ms.map hitT,
          (innerLoop ops a kk l prev st).last, (innerLoop ops a kk l prev st).curr.map pairT) ∧
      (a ∈ pat → (∀ p ∈ st.curr, PI S pat d p) → ∀ p ∈ (innerLoop ops a kk l prev st).curr, PI S pat d p) := by
  intro prev
  induction prev with
  | nil => intro st _; exact ⟨by simp [SrcFmdSmems.smems_for3, innerLoop], fun _ h => by simpa [innerLoop] using h⟩
  | cons p rest ih =>
    intro st hprev
    obtain ⟨iv, ml⟩ := p
    have hp := hprev (iv, ml) (by simp)
    obtain ⟨hb, hbsz, hbs⟩ := hS.bwd d iv a hp.1 ha
    have hsz := hS.size
    have hml : ml + 1 < 2 ^ 64 := by have := hp.2; have := p63; simp only at *; omega
    have e1 : Rs.add 64 ml 1 = Res.ok (ml + 1) := Rs.add_ok hml
    have e1' : Rs.add 64 1 ml = Res.ok (ml + 1) := Rs.add_ok_comm hml
    have e2 := iadd_k kk hkk
    have e3 : Rs.ofSigned 64 (kk : Int) = kk := Rs.ofSigned_natCast (by have := p63; omega)
    have e4 := toSigned_small hbsz
    -- the two conditions, in the model's form
    generalize hhit : ((ops.size (ops.bwd iv a) == 0 || kk == 0) && st.curr.isEmpty && decide (kk < st.jj) &&
      decide (l ≤ ml)) = hit
    generalize hpush : (ops.size (ops.bwd iv a) != 0 && ((ops.size (ops.bwd iv a) : Nat) : Int) != st.last) = push
    have hhit' : ((((((ops.bwd iv a).size == 0) || (((kk : Int) - 1) == (-1 : Int))) && (st.curr.map pairT).isEmpty) &&
        (decide (((kk : Int) - 1) < ((st.jj : Int) - 1)))) && (decide (ml ≥ l))) = hit := by
      rw [← hhit, k_eq_m1, k_lt_j, isEmpty_map, hsz]
    have hpush' : (((ops.bwd iv a).size != 0) && ((((ops.bwd iv a).size : Nat) : Int) != st.last)) = push := by
      rw [← hpush, hsz]
    have hhit'' : ((((((((kk : Int) - 1) == (-1 : Int)) || ((ops.bwd iv a).size == 0))) && (st.curr.map pairT).isEmpty) &&
        (decide (((kk : Int) - 1) < ((st.jj : Int) - 1)))) && (decide (ml ≥ l))) = hit := by
      rw [Bool.or_comm]; exact hhit'
    have hpush'' : (((((ops.bwd iv a).size : Nat) : Int) != st.last) && ((ops.bwd iv a).size != 0)) = push := by
      rw [Bool.and_comm]; exact hpush'
    have hrec := ih ⟨if push then st.curr ++ [(ops.bwd iv a, ml + 1)] else st.curr,
      if push then ((ops.size (ops.bwd iv a) : Nat) : Int) else st.last,
      if hit then kk else st.jj, if hit then st.ms ++ [⟨iv, kk, ml⟩] else st.ms⟩
      (fun q hq => hprev q (List.mem_cons_of_mem _ hq))
    have hmodel : innerLoop ops a kk l ((iv, ml) :: rest) st =
        innerLoop ops a kk l rest ⟨if push then st.curr ++ [(ops.bwd iv a, ml + 1)] else st.curr,
          if push then ((ops.size (ops.bwd iv a) : Nat) : Int) else st.last,
          if hit then kk else st.jj, if hit then st.ms ++ [⟨iv, kk, ml⟩] else st.ms⟩ := by
      simp only [innerLoop, hhit, hpush]
    rw [hmodel]
    constructor
    · rw [← hrec.1]
      simp only [SrcFmdSmems.smems_for3, List.map_cons, pairT, hb, Res.ok_bind, toT_3, e4, hhit', hpush', hhit'', hpush'']
      cases hit <;> cases push <;>
        simp [e1, e1', e2, e3, hitT, pairT, hsz]
    · intro hapat hcurr
      apply hrec.2 hapat
      dsimp only
      split
      · exact List.forall_mem_append.mpr ⟨hcurr, List.forall_mem_singleton.mpr
          ⟨hbs hapat, by have := hp.2; simp only at *; omega⟩⟩
      · exact hcurr

theorem bind_proj {α β : Type} {x : Res α} {f : α → β} {v : β} (h : (x >>= fun r => pure (f r)) = Res.ok v) :
    ∃ r, x = Res.ok r ∧ f r = v := by
  obtain ⟨r, hr, hv⟩ := Res.bind_eq_ok.mp h
  exact ⟨r, hr, by simpa using hv⟩

include hS in
/-- the outer `for k in (-1..i as isize).rev()` loop follows `outerLoop` (`n + 1` rounds remain) -/
theorem for2_eq (l : Nat) (ivT : BiT) (mlT : Nat) (hL : pat.length + 1 < 2 ^ 63) :
    ∀ (n : Nat) (prev : List (Bi × Nat)) (jj : Nat) (ms : List (Hit Bi)) (currT : List (BiT × Nat)),
      n ≤ pat.length → (∀ p ∈ prev, PI S pat (n + 1) p) →
      ∃ r, SrcFmdSmems.smems_for2 lessF occF dnaCompl pat ivT mlT l (Rs.downToM1 n)
          (currT, (jj : Int) - 1, ms.map hitT, prev.map pairT) = Res.ok r ∧
        r.2.2.1 = (outerLoop ops pat l n prev jj ms).map hitT := by
  intro n
  induction n with
  | zero =>
    intro prev jj ms currT _ hprev
    have h3 := (for3_eq hS 36 0 0 l (Or.inr rfl) (by decide) hL prev ⟨[], -1, jj, ms⟩ hprev).1
    have hk : ((0 : Nat) : Int) - 1 = -1 := rfl
    rw [hk] at h3
    simp only [List.map_nil] at h3
    apply bind_proj
    simp only [SrcFmdSmems.smems_for2, Rs.downToM1, outerLoop, h3, Res.ok_bind, Res.pure_eq_ok, beq_self_eq_true,
      if_true, bind_pure_comp, pure_bind, map_pure]
    split <;> simp [SrcFmdSmems.smems_for2]
  | succ n ih =>
    intro prev jj ms currT hn hprev
    have hmem : pat.getD n 0 ∈ pat := List.getD_mem pat n 0 hn
    have h3 := for3_eq hS (pat.getD n 0) (n + 1) (n + 1) l (Or.inl hmem) (Nat.lt_of_le_of_lt hn (Nat.lt_of_succ_lt hL)) hL prev ⟨[], -1, jj, ms⟩ hprev
    have hk : ((n + 1 : Nat) : Int) - 1 = (n : Int) := by omega
    rw [hk] at h3
    simp only [List.map_nil] at h3
    have hcur := h3.2 hmem (by intro p hp; simp at hp)
    have e1 : ((n : Int) == (-1 : Int)) = false := beq_eq_false_iff_ne.mpr (by omega)
    have e2 : Rs.ofSigned 64 (n : Int) = n := Rs.ofSigned_natCast (by have := p63; omega)
    have e3 : Rs.idx pat n = Res.ok (pat.getD n 0) := RbV.Thm.GenSrc.idx_getD pat n 0 hn
    by_cases he : (innerLoop ops (pat.getD n 0) (n + 1) l prev ⟨[], -1, jj, ms⟩).curr.isEmpty = true
    · apply bind_proj
      simp only [SrcFmdSmems.smems_for2, Rs.downToM1, outerLoop, h3.1, he, isEmpty_map, e1, e2, e3, Res.ok_bind,
        Res.pure_eq_ok, if_true, if_false, bind_pure_comp, pure_bind, map_pure, Bool.false_eq_true]
    · obtain ⟨r, hrec, hr3⟩ := ih (innerLoop ops (pat.getD n 0) (n + 1) l prev ⟨[], -1, jj, ms⟩).curr
        (innerLoop ops (pat.getD n 0) (n + 1) l prev ⟨[], -1, jj, ms⟩).jj
        (innerLoop ops (pat.getD n 0) (n + 1) l prev ⟨[], -1, jj, ms⟩).ms (prev.map pairT) (Nat.le_of_succ_le hn) hcur
      refine ⟨r, ?_, ?_⟩
      · simp only [SrcFmdSmems.smems_for2, Rs.downToM1, h3.1, he, isEmpty_map, e1, e2, e3, Res.ok_bind,
          Res.pure_eq_ok, if_true, if_false, bind_pure_comp, pure_bind, map_pure, Bool.false_eq_true, hrec]
      · rw [hr3]
        simp only [outerLoop, he, if_false, Bool.false_eq_true]

theorem smems_prelude {pat : List Nat} {i : Nat} (hi : i < pat.length) (hL : pat.length + 1 < 2 ^ 63) :
    Rs.idx pat i = Res.ok (pat.getD i 0) ∧ Rs.add 64 i 1 = Res.ok (i + 1) ∧ Rs.add 64 1 i = Res.ok (i + 1) ∧
      Rs.slice pat (i + 1) pat.length = Res.ok (pat.drop (i + 1)) ∧ Rs.toSigned 64 pat.length = (pat.length : Int) ∧
      Rs.toSigned 64 i = (i : Int) := by
  have h63 := p63
  have hi1 : i + 1 < 2 ^ 64 := by omega
  refine ⟨RbV.Thm.GenSrc.idx_getD pat i 0 hi, Rs.add_ok hi1, Rs.add_ok_comm hi1, ?_, toSigned_small (by omega),
    toSigned_small (by omega)⟩
  · rw [Rs.slice_ok (by omega) (Nat.le_refl _), List.take_of_length_le (by rw [List.length_drop]; omega)]

include hS in
/-- the two translated loops, started as `smems` starts them, return the model's forward result and (third component)
the model's matches -/
theorem sweep_eq (i l : Nat) (hi : i < pat.length) (hL : pat.length + 1 < 2 ^ 63) :
    SrcFmdSmems.smems_for1 lessF occF dnaCompl (pat.drop (i + 1))
        ([], toT (ops.initWith i (pat.getD i 0)), if ops.size (ops.initWith i (pat.getD i 0)) ≠ 0 then 1 else 0) =
      Res.ok ((fwdRes ops pat i).1.map pairT, toT (fwdRes ops pat i).2.1, (fwdRes ops pat i).2.2) ∧
    ∃ r, SrcFmdSmems.smems_for2 lessF occF dnaCompl pat (toT (fwdRes ops pat i).2.1) (fwdRes ops pat i).2.2 l
        (Rs.downToM1 i) ([], (pat.length : Int), [],
          (toT (fwdRes ops pat i).2.1, (fwdRes ops pat i).2.2) :: ((fwdRes ops pat i).1.map pairT).reverse) = Res.ok r ∧
      r.2.2.1 = (SmemModel.smems ops pat i l).map hitT := by
  have hml0 : (if ops.size (ops.initWith i (pat.getD i 0)) ≠ 0 then 1 else 0) ≤ 1 := by split <;> omega
  have hdrop : (pat.drop (i + 1)).length + (i + 1) = pat.length := by rw [List.length_drop]; omega
  have hf := fwdLoop_eq hS (i + 1) (pat.drop (i + 1)) (ops.initWith i (pat.getD i 0))
    (if ops.size (ops.initWith i (pat.getD i 0)) ≠ 0 then 1 else 0) []
    (fun a ha => List.mem_of_mem_drop ha) (by rw [hdrop]; exact (hS.init i hi).2) (by omega) hL (by intro p hp; simp at hp)
  refine ⟨hf.1, ?_⟩
  obtain ⟨r, h2, hr⟩ := for2_eq hS l (toT (fwdRes ops pat i).2.1) (fwdRes ops pat i).2.2 hL i
    (forwardPhase ops pat i) (pat.length + 1) [] [] (by omega)
    (fun p hp => hf.2 p (by rw [forwardPhase_eq, List.mem_reverse] at hp; exact hp))
  refine ⟨r, ?_, hr⟩
  have hjj : ((pat.length + 1 : Nat) : Int) - 1 = (pat.length : Int) := by omega
  rw [forwardPhase_eq, hjj] at h2
  simpa only [pairT, List.map_nil, List.map_reverse, List.map_append, List.map_cons, List.reverse_append,
    List.reverse_cons, List.reverse_nil, List.nil_append, List.singleton_append, List.cons_append] using h2

-- `hdead` is read only by the alternative that the present text does not take
set_option linter.unusedVariables false in
include hS in
/-- **the translated `smems` returns the mirror model's matches (over the operations the translated extension functions
compute), up to their order.**  `hdead`: when `pattern[i]` does not occur (the initial interval is empty) the model
reports nothing — true for `l ≥ 1` on every index (`GenSrcFmdIndex.smems_src_dead`, from `SmemModel.smems_of_dead_start`);
the property says nothing else about this case, so a text that returns the empty list right away (seeded change C06-H4) is
accepted as well as one that runs the sweep on the empty interval.  The unconditional step-by-step equality is the soft `GenSrcFmdSmemsModel.smems_eq_model`. -/
theorem smems_eq_model_of (i l : Nat) (hi : i < pat.length) (hL : pat.length + 1 < 2 ^ 63)
    (hdead : (ops.initWith i (pat.getD i 0)).size = 0 → SmemModel.smems ops pat i l = []) :
    ∃ res, SrcFmdSmems.smems lessF occF dnaCompl pat i l = Res.ok res ∧
      res.Perm ((SmemModel.smems ops pat i l).map hitT) := by
  obtain ⟨hinit, -⟩ := hS.init i hi
  obtain ⟨e0, e1, e1', e3, e4, e5⟩ := smems_prelude hi hL
  obtain ⟨hf, r2, h2, hr2⟩ := sweep_eq hS i l hi hL
  have e2 : Rs.add 64 0 1 = Res.ok 1 := rfl
  have e2' : Rs.add 64 1 0 = Res.ok 1 := rfl
  have hrev := Rs.irange_m1_rev i
  rw [hS.size] at hf
  by_cases hz : (ops.initWith i (pat.getD i 0)).size = 0
  · first
      | -- a text that runs the sweep on the empty interval
        (rw [if_neg (fun h => h hz)] at hf
         rw [← hr2]
         simp [-List.getD_eq_getElem?_getD, SrcFmdSmems.smems, e0, hinit, hz, e1, e1', e2, e2', e3, hf, e4, e5, hrev, h2,
           List.reverse_perm]
         done)
      | -- a text that leaves at once when the symbol is absent
        (refine ⟨[], ?_, ?_⟩
         · simp [-List.getD_eq_getElem?_getD, SrcFmdSmems.smems, e0, hinit, hz]
         · rw [hdead hz]; exact List.Perm.refl _)
  · rw [if_pos hz] at hf
    rw [← hr2]
    simp [-List.getD_eq_getElem?_getD, SrcFmdSmems.smems, e0, hinit, hz, e1, e1', e2, e2', e3, hf, e4, e5, hrev, h2,
      List.reverse_perm]

end
end RbV.Thm.GenSrcFmdSmems
