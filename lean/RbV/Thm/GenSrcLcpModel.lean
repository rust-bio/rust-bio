import RbV.Thm.GenSrcLcp
/-!
**Soft** (shape-dependent) equality: the translated `lcp` follows the mirror model `Kasai.kasaiGo` step by step (same carried
`l`), on every permutation of the positions that starts with `n − 1` — sorted or not.  No `Thm/Cxx.lean` imports this file:
`tools/gen_tables.py` builds it after regenerating (`soft_modules`) and turns a failure into a note.  A rewrite that carries
another `l ≤ lcpOf p` (restart from 0), or another LCP algorithm, keeps the property; the hard obligation is
`RbV.Thm.GenSrcLcp.lcp_source_exact`.
-/
set_option linter.unusedSimpArgs false
namespace RbV.Thm.GenSrcLcpModel
open RbV RbV.Rs RbV.Gen RbV.Thm.GenSrc RbV.Kasai RbV.Thm.GenSrcLcp

/-- hypotheses on one iteration of the main loop: `rank[p] ≥ 1` (no underflow of `r - 1`), the predecessor is a position -/
def IterOk (t sa : List Nat) (p : Nat) : Prop :=
  p < t.length ∧ 1 ≤ sa.idxOf p ∧ sa.idxOf p < t.length ∧ sa.getD (sa.idxOf p - 1) 0 < t.length

/-- main loop = the model's `kasaiGo` -/
theorem for2_eq (t sa : List Nat) (hlen : sa.length = t.length) (hsz : t.length + 1 < 2 ^ 63) :
    ∀ (ps : List Nat) (l : Nat) (lcp : List Int), (∀ p ∈ ps, IterOk t sa p) → l ≤ t.length → lcp.length = t.length + 1 →
      ∃ l', SrcLcp.lcp_for2 t sa t.length (ps.map (fun p => (sa.idxOf p, p))) (l, lcp) =
        Res.ok (l', kasaiGo t sa ps l lcp) := by
  intro ps
  induction ps with
  | nil => intro l lcp _ _ _; exact ⟨l, rfl⟩
  | cons p ps ih =>
    intro l lcp hps hl hlcp
    obtain ⟨hp, hr1, hrn, hpred⟩ := hps p List.mem_cons_self
    obtain ⟨e1, e2, e3, e4, e5⟩ := for2_facts t sa hlen hsz p l lcp hp hr1 hrn hpred hl hlcp
    have hle := extend_le t p (sa.getD (sa.idxOf p - 1) 0) t.length l hl
    rw [List.map_cons, SrcLcp.lcp_for2, kasaiGo]
    dsimp only
    generalize extend t p (sa.getD (sa.idxOf p - 1) 0) t.length l = l' at e3 e4 e5 hle ⊢
    obtain ⟨l'', h⟩ := ih (l' - 1) (lcp.set (sa.idxOf p) (l' : Int)) (fun x hx => hps x (List.mem_cons_of_mem _ hx))
      (Nat.le_trans (Nat.sub_le _ _) hle) (by rw [List.length_set]; exact hlcp)
    refine ⟨l'', ?_⟩
    simp only [e1, e2, e3, e4, e5, Res.ok_bind, Res.pure_eq_ok, gt_iff_lt, decide_eq_true_eq]
    -- the carried value is `l' - 1`, computed as `if l' > 0 { l' - 1 } else { 0 }`
    by_cases h0 : 0 < l'
    · rw [if_pos h0, Rs.sub_ok h0]; exact h
    · rw [if_neg h0]; rw [Nat.eq_zero_of_not_pos h0] at h ⊢; exact h

/-- **translated `lcp` = mirror model `Kasai.kasai`** for every permutation `sa` of the positions of a non-empty text that
starts with `n - 1` (what keeps `rank[p] - 1` from underflowing); `n + 1 < 2^63` (`l as isize`). -/
theorem lcp_eq_model (t sa : List Nat) (hperm : sa.Perm (List.range t.length)) (hhead : sa.head? = some (t.length - 1))
    (hn : 0 < t.length) (hsz : t.length + 1 < 2 ^ 63) :
    SrcLcp.lcp t sa = Res.ok (kasai t sa) := by
  have hlen : sa.length = t.length := by simpa using hperm.length_eq
  have hmem : ∀ x, x ∈ sa ↔ x < t.length := by intro x; rw [hperm.mem_iff, List.mem_range]
  have hhead0 : sa.idxOf (t.length - 1) = 0 := by
    cases sa with
    | nil => simp at hhead
    | cons a l => simp at hhead; subst hhead; simp
  have hiter : ∀ p ∈ List.range (t.length - 1), IterOk t sa p := by
    intro p hp
    rw [List.mem_range] at hp
    have hi : sa.idxOf p < sa.length := List.idxOf_lt_length_iff.mpr ((hmem p).mpr (by omega))
    refine ⟨by omega, ?_, by omega, ?_⟩
    · apply Nat.pos_of_ne_zero
      intro hz
      have e1 : sa[sa.idxOf p]'hi = p := List.getElem_idxOf hi
      have hi0 : sa.idxOf (t.length - 1) < sa.length := by omega
      have e2 : sa[sa.idxOf (t.length - 1)]'hi0 = t.length - 1 := List.getElem_idxOf hi0
      simp only [hz, hhead0] at e1 e2
      omega
    · have hj : sa.idxOf p - 1 < sa.length := by omega
      rw [List.getD_eq_getElem sa _ 0 hj]
      exact (hmem _).mp (List.getElem_mem hj)
  obtain ⟨l', h5⟩ := for2_eq t sa hlen hsz (List.range (t.length - 1)) 0 (List.replicate (t.length + 1) (-1)) hiter
    (by omega) (by simp)
  exact lcp_frame t sa hperm hn hsz _ h5

end RbV.Thm.GenSrcLcpModel
