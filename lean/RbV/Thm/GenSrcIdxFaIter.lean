import RbV.Gen.SrcIdxFaIter
import RbV.Thm.GenSrcIdxFa
/-! `IndexedReader::read_into_iter` / `read_iter` as written (`RbV/Gen/SrcIdxFaIter.lean`, regenerated from `src/io/fasta.rs`
on every `./check C12`).  The start state assumed by `iter_eq_model` (`Thm/GenSrcIdxFa.lean`) — the initial iterator state and
`capacity() > 0` — is proved from the text here.  `buf_cap` is the ghost field that records the argument of
`Vec::with_capacity(..)` (std: `capacity() >= n`); the statements say `0 < buf_cap`, not which positive number. -/
set_option linter.unusedSimpArgs false
namespace RbV.Thm.GenSrcIdxFaIter
open RbV RbV.Rs RbV.IdxFa RbV.Fastx RbV.Thm.GenSrcIdxFa
open RbV.Gen.SrcIdxFa (IndexRecord)
open RbV.Gen.SrcIdxFaIter

/-- the initial iterator state the property needs: everything but the exact capacity -/
structure InitOk (file : Bytes) (idx : Idx) (start stop : Nat) (it : IndexedReaderIterator St) : Prop where
  reader : it.reader = (IdxFa.seekTo file idx start).1
  record : it.record = toRec idx
  bases : it.bases_left = stop - start
  lo : it.line_offset = (IdxFa.seekTo file idx start).2
  buf : it.buf = []
  bidx : it.buf_idx = 0
  cap : start < stop → 0 < it.buf_cap

theorem MAX_FASTA_BUFFER_SIZE_pos : 0 < MAX_FASTA_BUFFER_SIZE := by decide

/-- **`read_into_iter`, as written**: the two range errors (in either order of the tests), otherwise the state after the
translated `seek_to` with `bases_left = stop - start`, an empty buffer, and a **positive requested capacity** whenever
there is something to read -/
theorem readIntoIter_spec (file : Bytes) (idx : Idx) (start stop : Nat) (s : St)
    (hlb : 0 < idx.lb) (hfit : pos idx start < 2 ^ 64) :
    (idx.len < stop → ∃ e, readIntoIter (seekOp file) s (toRec idx) start stop = Res.ok (.error e) ∧ (e = oobErr ∨ (stop < start ∧ e = intervalErr))) ∧
    (stop ≤ idx.len → stop < start → readIntoIter (seekOp file) s (toRec idx) start stop = Res.ok (.error intervalErr)) ∧
    (stop ≤ idx.len → start ≤ stop →
      ∃ it, readIntoIter (seekOp file) s (toRec idx) start stop = Res.ok (.ok it) ∧ InitOk file idx start stop it) := by
  have hm := MAX_FASTA_BUFFER_SIZE_pos
  refine ⟨fun h => ?_, fun h1 h2 => ?_, fun h1 h2 => ?_⟩
  · by_cases h2 : stop < start
    · have hd : readIntoIter (seekOp file) s (toRec idx) start stop = Res.ok (.error oobErr) ∨
          readIntoIter (seekOp file) s (toRec idx) start stop = Res.ok (.error intervalErr) := by
        simp [readIntoIter, h, h2, oobErr, intervalErr, Nat.not_le.mpr h, Nat.not_le.mpr h2]
      rcases hd with hd | hd
      · exact ⟨_, hd, Or.inl rfl⟩
      · exact ⟨_, hd, Or.inr ⟨h2, rfl⟩⟩
    · refine ⟨oobErr, ?_, Or.inl rfl⟩
      simp [readIntoIter, h, h2, oobErr, Nat.not_le.mpr h]
  · have h1' : ¬ idx.len < stop := by omega
    simp [readIntoIter, h1', h2, intervalErr, Nat.not_le.mpr h2]
  · have h1' : ¬ idx.len < stop := by omega
    have h2' : ¬ stop < start := by omega
    have es : Rs.sub stop start = Res.ok (stop - start) := Rs.sub_ok h2
    have ek := seekTo_eq_model file idx start s hlb (by omega) hfit
    generalize hr : readIntoIter (seekOp file) s (toRec idx) start stop = r
    simp [readIntoIter, h1', h2', es, ek, Nat.not_le, Nat.not_lt.mp h1', Nat.not_lt.mp h2'] at hr
    subst hr
    refine ⟨_, rfl, ⟨rfl, rfl, rfl, rfl, rfl, rfl, ?_⟩⟩
    intro hlt
    show 0 < _
    first
      | (simp only [Nat.lt_min]; omega)
      | omega

/-- `read_iter` after a fetch is `read_into_iter` on what was fetched.  NB: `Gen.SrcIdxFaIter.readIter` is the translated `read_iter`,
the mirror of the model's `readIt`; the model's `readIter` is `read_into_iter` drained -/
theorem readIter_fetched {ρ : Type} (sk : ρ → Nat → Except IoErr Nat × ρ) (s : ρ) (r : IndexRecord) (start stop : Nat) :
    Gen.SrcIdxFaIter.readIter sk s (some r) (some start) (some stop) = readIntoIter sk s r start stop := by
  simp [Gen.SrcIdxFaIter.readIter]
  cases readIntoIter sk s r start stop <;> rfl

/-- … and the "No sequence fetched" error before any fetch -/
theorem readIter_nofetch {ρ : Type} (sk : ρ → Nat → Except IoErr Nat × ρ) (s : ρ) :
    Gen.SrcIdxFaIter.readIter sk s none none none = Res.ok (.error (toIo .nofetch)) := by
  simp [Gen.SrcIdxFaIter.readIter, toIo]

/-- an iterator over the empty interval (`bases_left = 0`, empty buffer) ends at the first call of `next`, whatever the
capacity (for `start = stop` the constructor asks for capacity 0) -/
theorem drainIt_empty (sched : Nat → Nat) (cap : Nat) (idx : Idx) (fuel calls : Nat) (hc : 0 < calls) (s : St) (lo : Nat) :
    drainIt sched cap idx fuel calls (s, 0, lo, [], 0) = Res.ok [] := by
  obtain ⟨c, rfl⟩ : ∃ c, calls = c + 1 := ⟨calls - 1, by omega⟩
  simp [drainIt, Gen.SrcIdxFa.next]

end RbV.Thm.GenSrcIdxFaIter
