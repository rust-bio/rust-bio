import RbV.Gen.SrcOrf
import RbV.Model.OrfScanP
import RbV.Lemmas.OrfScanP
import RbV.Thm.GenSrcOk
/-!
# The translated text of `orf::Matches::next` equals the ORF mirror model

`RbV/Gen/SrcOrf.lean` is regenerated from `src/seq_analysis/orf.rs` by `tools/rs2lean.py` (dialect "cf",
`tools/rs2lean_cf.py`) on every `./check C20`: `next` (early return when `found` holds something, the `for (index, nuc) in
self.seq.by_ref()` loop as the recursive helper `next_for1` on the remaining `(index, symbol)` pairs, the flush loop
`next_for2` with its `break`), and the **length test of the flush loop as a separate definition `next_lenTest`** that
`next`, `next_for1`, `next_for2` take as a parameter `lenTest`.

The state of the iterator is `(state.start_pos : [Vec<usize>; 3], state.codon, state.found, seq)`; a model state `st`
(`Model/OrfScan.lean`) corresponds to `start_pos = [st.p0, st.p1, st.p2]` (`sp3 st`), `codon = st.codon`; `found` is the
queue of frames emitted but not yet yielded.  Proof: `for2_eq` (the flush loop pushes `takeWhile (P index)` of the pending
starts), `for1_cons_aux` (one round of `next_for1` = `stepP P` + `emitted P`: every `if` of the round is folded into the value it
hands on and recognised as a piece of `stepP`; every checked operation succeeds under the invariant `PB`: pending starts
are `≥ 2` and `< index`), `next_nil_cons` (a call of `next` with an empty queue either yields the first emitted frame or
continues with the next symbol; the never-read initial value of `offset` is irrelevant), `collect_eq` (calling `next`
until it returns `None` yields the queue followed by everything the model emits).

`TestIs T P minLen B`: the test `T` the loop calls returns `P index start_pos` on all arguments that occur.  The equality
theorem holds for **every** such pair; `lenTest_spec` shows that the test found in the source text is inside the freedom
the property leaves (`LenTestOk`).  A source change that only moves the test inside that freedom (seeded change C20-H1:
`index + 3 - start_pos >= min_len`) is re-proved; a test outside it (C20-1: `index - start_pos > min_len`) breaks
`lenTest_spec`.
-/
-- the simp sets name every fact a harmless rewrite of the Rust text may need; on the present text some are unused
set_option linter.unusedSimpArgs false
set_option linter.unusedVariables false

namespace RbV.Thm.GenSrcOrf
open RbV RbV.Rs RbV.Gen.SrcOrf RbV.Model.OrfScan RbV.Lemmas.OrfScanP RbV.Thm.GenSrc

/-- `state.start_pos` of a model state -/
def sp3 (st : State) : List (List Nat) := [st.p0, st.p1, st.p2]

theorem idx_sp3 (st : State) (off : Nat) (h : off < 3) : Rs.idx (sp3 st) off = Res.ok (st.get off) := by
  rcases Lemmas.OrfScan.lt_three h with rfl | rfl | rfl <;> rfl

theorem setIdx_sp3 (st : State) (off : Nat) (l : List Nat) (h : off < 3) :
    Rs.setIdx (sp3 st) off l = Res.ok (sp3 (st.set off l)) := by
  rcases Lemmas.OrfScan.lt_three h with rfl | rfl | rfl <;> rfl

theorem sp3_with_codon (st : State) (c : List Nat) : sp3 { st with codon := c } = sp3 st := rfl
theorem sp3_with_out (st : State) (o : List (Nat × Nat × Nat)) : sp3 { st with out := o } = sp3 st := rfl

theorem sp3_set_get (st : State) (off : Nat) (h : off < 3) : sp3 (st.set off (st.get off)) = sp3 st := by
  rcases Lemmas.OrfScan.lt_three h with rfl | rfl | rfl <;> rfl

theorem sp3_set_set (st : State) (off : Nat) (a b : List Nat) (h : off < 3) :
    sp3 ((st.set off a).set off b) = sp3 (st.set off b) := by
  rcases Lemmas.OrfScan.lt_three h with rfl | rfl | rfl <;> rfl

theorem sp3_set_with_codon (st : State) (w : List Nat) (off : Nat) (l : List Nat) :
    sp3 (({ st with codon := w } : State).set off l) = sp3 (st.set off l) := by
  unfold State.set; split <;> (try split) <;> rfl

/-- `v.len() > 0`, `v.len() != 0`, `v.len() >= 1` are `!v.is_empty()` -/
theorem len_pos_eq {α : Type} (l : List α) : decide (l.length > 0) = !l.isEmpty := by cases l <;> simp
theorem len_ne_zero_eq {α : Type} (l : List α) : (l.length != 0) = !l.isEmpty := by cases l <;> simp
theorem len_ge_one_eq {α : Type} (l : List α) : decide (l.length ≥ 1) = !l.isEmpty := by cases l <;> simp
theorem len_eq_zero_eq {α : Type} (l : List α) : (l.length == 0) = l.isEmpty := by cases l <;> simp

/-- the test `T` the translated loop calls computes `P` wherever the loop calls it -/
def TestIs (T : Nat → Nat → Nat → Res Bool) (P : Nat → Nat → Bool) (minLen B : Nat) : Prop :=
  ∀ i s, i < B → 2 ≤ s → s ≤ i → T i s minLen = Res.ok (P i s)

section
variable {T : Nat → Nat → Nat → Res Bool} {P : Nat → Nat → Bool} {starts : List (List Nat)} (stops : List (List Nat)) {minLen : Nat}

theorem for2_eq (B : Nat) (hT : TestIs T P minLen B)
    (n off : Nat) (hn : n < B) (hn64 : n + 1 < 2 ^ 64) (hoff : off < 3) :
    ∀ (l : List Nat) (acc : List (Nat × Nat × Nat)), (∀ s ∈ l, 2 ≤ s ∧ s ≤ n) →
      next_for2 T n minLen off l acc = Res.ok (acc ++ (l.takeWhile (P n)).map (fun s => (s - 2, n + 1, off))) := by
  intro l
  induction l with
  | nil => intro acc _; simp [next_for2]
  | cons s t ih =>
    intro acc hb
    have hs := hb s List.mem_cons_self
    have e1 : T n s minLen = Res.ok (P n s) := hT n s hn hs.1 hs.2
    have e2 : Rs.sub s 2 = Res.ok (s - 2) := Rs.sub_ok hs.1
    have e3 : Rs.add 64 n 1 = Res.ok (n + 1) := Rs.add_ok hn64
    have e4 : Rs.cast 8 off = off := by unfold Rs.cast; omega
    rw [next_for2]
    cases hp : P n s
    · simp [e1, hp]
    · simp [e1, e2, e3, e4, hp, ih (acc ++ [(s - 2, n + 1, off)]) (fun x hx => hb x (List.mem_cons_of_mem _ hx))]

theorem sp3_stepP (st : State) (n c : Nat) :
    sp3 (stepP P starts stops st n c) =
      sp3 (st.set ((n + 1) % 3) (if flushes starts stops st n c then [] else pendingNow starts st n c)) := by
  rw [stepP_def]
  split <;> exact sp3_set_with_codon st _ _ _

/-- One round of `next_for1`.  No case is split: each `if` of the text ends in a join point, so it is first folded into
the value it hands on (`ite_pure_bind`), and that value is then recognised as a piece of `stepP`: the window, the pending
list after the push (`hpush`), what the flush leaves (`hfl`). -/
theorem for1_cons_aux (B : Nat) (hT : TestIs T P minLen B) (h3s : ∀ c ∈ starts, c.length = 3)
    (st : State) (n c o : Nat) (items : List (Nat × Nat)) (hpb : PB n st) (hn : n < B) (hn64 : n + 1 < 2 ^ 64) :
    next_for1 T starts stops minLen ((n, c) :: items) (st.codon, o, sp3 st, []) =
      if !(emitted P starts stops st n c).isEmpty then
        Res.ok (some (emitted P starts stops st n c).head?, items,
          ((stepP P starts stops st n c).codon, (n + 1) % 3, sp3 (stepP P starts stops st n c),
            (emitted P starts stops st n c).drop 1))
      else next_for1 T starts stops minLen items
          ((stepP P starts stops st n c).codon, (n + 1) % 3, sp3 (stepP P starts stops st n c),
            emitted P starts stops st n c) := by
  have hoff : (n + 1) % 3 < 3 := Nat.mod_lt _ (by omega)
  have e1 : Rs.add 64 n 1 = Res.ok (n + 1) := Rs.add_ok hn64
  have ef : next_for2 T n minLen ((n + 1) % 3) (pendingNow starts st n c) []
      = Res.ok (((pendingNow starts st n c).takeWhile (P n)).map (fun s => (s - 2, n + 1, (n + 1) % 3))) := by
    rw [for2_eq B hT n _ hn hn64 hoff _ [] (pendingNow_bounds h3s hpb c)]; rfl
  -- the window never holds more than three symbols: `len == 3`, `len > 2` are the same test as `len >= 3`
  have h3e : (st.codon.length == 3) = decide (st.codon.length ≥ 3) := by
    have := hpb.win3
    rw [Bool.eq_iff_iff, beq_iff_eq, decide_eq_true_eq]; omega
  have h3g : decide (st.codon.length > 2) = decide (st.codon.length ≥ 3) := rfl
  have hw : (if decide (st.codon.length ≥ 3) then st.codon.drop 1 else st.codon) ++ [c] = window st c := by
    unfold window; simp only [decide_eq_true_eq]
  have hpush : (if starts.contains (window st c) then sp3 (st.set ((n + 1) % 3) (st.get ((n + 1) % 3) ++ [n])) else sp3 st)
      = sp3 (st.set ((n + 1) % 3) (pendingNow starts st n c)) := by
    unfold pendingNow; split
    · rfl
    · exact (sp3_set_get st _ hoff).symm
  have hfl : (if !(pendingNow starts st n c).isEmpty then
        (if stops.contains (window st c) then
          (((pendingNow starts st n c).takeWhile (P n)).map (fun s => (s - 2, n + 1, (n + 1) % 3)), sp3 (st.set ((n + 1) % 3) []))
         else ([], sp3 (st.set ((n + 1) % 3) (pendingNow starts st n c))))
      else ([], sp3 (st.set ((n + 1) % 3) (pendingNow starts st n c))))
      = (emitted P starts stops st n c, sp3 (stepP P starts stops st n c)) := by
    rw [sp3_stepP]; unfold emitted flushes
    cases (pendingNow starts st n c).isEmpty <;> cases stops.contains (window st c) <;> rfl
  rw [next_for1, Lemmas.OrfScan.stepP_codon, ite_pure_bind]
  simp only [h3e, h3g, hw, e1, idx_sp3 _ _ hoff, setIdx_sp3 _ _ _ hoff, Res.ok_bind]
  rw [ite_pure_bind]
  simp only [hpush, idx_sp3 _ _ hoff, Lemmas.OrfScan.get_set_same _ _ _ hoff, setIdx_sp3 _ _ _ hoff,
    sp3_set_set _ _ _ _ hoff, ef, Res.ok_bind, len_pos_eq, len_ne_zero_eq, len_ge_one_eq, len_eq_zero_eq]
  rw [ite_pure_bind, ite_pure_bind]
  simp only [Prod.eta, hfl, len_pos_eq, len_ne_zero_eq, len_ge_one_eq, len_eq_zero_eq]
  rfl

/-- `enumerate()` of the rest of the sequence: (index, symbol) pairs from index `n` on (`Rs.enumFromL`,
`GenSrcOrfNew.enumFromL_eq`) -/
def enumFrom (n : Nat) : List Nat → List (Nat × Nat)
  | [] => []
  | c :: r => (n, c) :: enumFrom (n + 1) r

theorem next_pop (sp : List (List Nat)) (codon : List Nat) (e : Nat × Nat × Nat) (q : List (Nat × Nat × Nat))
    (items : List (Nat × Nat)) :
    next T starts stops minLen sp codon (e :: q) items = Res.ok (sp, codon, q, items, some e) := by
  simp [next]

theorem next_nil_nil (sp : List (List Nat)) (codon : List Nat) :
    next T starts stops minLen sp codon [] [] = Res.ok (sp, codon, [], [], none) := by
  simp [next, next_for1]

/-- the initial value of `offset` is never read -/
theorem for1_offset_irrel (x : Nat × Nat) (items : List (Nat × Nat)) (codon : List Nat) (o1 o2 : Nat) (sp : List (List Nat))
    (found : List (Nat × Nat × Nat)) :
    next_for1 T starts stops minLen (x :: items) (codon, o1, sp, found)
      = next_for1 T starts stops minLen (x :: items) (codon, o2, sp, found) := by
  obtain ⟨i, c⟩ := x
  rw [next_for1, next_for1]

theorem next_nil_cons (B : Nat) (hT : TestIs T P minLen B) (h3s : ∀ c ∈ starts, c.length = 3)
    (st : State) (n c : Nat) (items : List (Nat × Nat)) (hpb : PB n st) (hn : n < B) (hn64 : n + 1 < 2 ^ 64) :
    next T starts stops minLen (sp3 st) st.codon [] ((n, c) :: items) =
      match emitted P starts stops st n c with
      | [] => next T starts stops minLen (sp3 (stepP P starts stops st n c)) (stepP P starts stops st n c).codon [] items
      | e :: em => Res.ok (sp3 (stepP P starts stops st n c), (stepP P starts stops st n c).codon, em, items, some e) := by
  have h := for1_cons_aux stops B hT h3s st n c 0 items hpb hn hn64
  cases hem : emitted P starts stops st n c with
  | nil =>
    rw [hem] at h
    simp only [List.isEmpty_nil, Bool.not_true, Bool.false_eq_true, if_false] at h
    cases items with
    | nil =>
      rw [next_for1] at h
      simp [next, h]
      simp [next_for1]
    | cons x xs =>
      rw [for1_offset_irrel stops x xs _ ((n + 1) % 3) 0] at h
      simp [next, h]
  | cons e em =>
    rw [hem] at h
    simp [next, h]

/-- what `Iterator::collect` does with the translated `next`: call it until it returns `None` (`Rs.drain` written out on the
four fields `next` updates) -/
def collect (T : Nat → Nat → Nat → Res Bool) (starts stops : List (List Nat)) (minLen : Nat) :
    Nat → List (List Nat) → List Nat → List (Nat × Nat × Nat) → List (Nat × Nat) → Res (List (Nat × Nat × Nat))
  | 0, _, _, _, _ => Res.fuel
  | fuel + 1, sp, codon, found, seq => do
    let (sp, codon, found, seq, r) ← next T starts stops minLen sp codon found seq
    match r with
    | none => pure []
    | some o => do
      let rest ← collect T starts stops minLen fuel sp codon found seq
      pure (o :: rest)

/-- a non-empty queue is handed out first: if the iterator with an empty queue yields `r`, with queue `q` it yields
`q ++ r` -/
theorem collect_queue {sp : List (List Nat)} {codon : List Nat} {items : List (Nat × Nat)} {r : List (Nat × Nat × Nat)} {L : Nat}
    (h : ∀ fuel, L < fuel → collect T starts stops minLen fuel sp codon [] items = Res.ok r) :
    ∀ (q : List (Nat × Nat × Nat)) (fuel : Nat), q.length + L < fuel →
      collect T starts stops minLen fuel sp codon q items = Res.ok (q ++ r)
  | [], fuel, hf => h fuel (by simpa using hf)
  | e :: q, fuel + 1, hf => by
    rw [collect, next_pop, Res.ok_bind]
    show (do let rest ← collect T starts stops minLen fuel sp codon q items; pure (e :: rest)) = _
    rw [collect_queue h q fuel (by simp only [List.length_cons] at hf; omega)]
    rfl

theorem collect_eq (B : Nat) (hT : TestIs T P minLen B) (h3s : ∀ c ∈ starts, c.length = 3) (hB : B + 1 < 2 ^ 64) :
    ∀ (rest : List Nat) (st : State) (n : Nat) (q : List (Nat × Nat × Nat)) (fuel : Nat),
      PB n st → n + rest.length ≤ B → q.length + (emitsP P starts stops st n rest).length < fuel →
      collect T starts stops minLen fuel (sp3 st) st.codon q (enumFrom n rest)
        = Res.ok (q ++ emitsP P starts stops st n rest) := by
  intro rest
  induction rest with
  | nil =>
    intro st n q fuel _ _
    refine collect_queue stops (fun fuel hf => ?_) q fuel
    obtain ⟨f, rfl⟩ := Nat.exists_eq_add_one_of_ne_zero (Nat.ne_zero_of_lt hf)
    rw [collect, enumFrom, next_nil_nil]; rfl
  | cons c rest ih =>
    intro st n q fuel hpb hB'
    refine collect_queue stops (fun fuel hf => ?_) q fuel
    obtain ⟨f, rfl⟩ := Nat.exists_eq_add_one_of_ne_zero (Nat.ne_zero_of_lt hf)
    simp only [List.length_cons] at hB'
    have hnc := next_nil_cons stops B hT h3s st n c (enumFrom (n + 1) rest) hpb (by omega) (by omega)
    have hpb' := stepP_PB h3s P stops hpb c
    simp only [emitsP, List.length_append] at hf
    rw [emitsP]
    cases hem : emitted P starts stops st n c with
    | nil =>
      -- nothing emitted: the same call of `next` goes on with the next symbol
      rw [hem] at hnc hf
      have := ih (stepP P starts stops st n c) (n + 1) [] (f + 1) hpb' (by omega) (by simpa using hf)
      rw [collect] at this ⊢
      rwa [enumFrom, hnc]
    | cons e em =>
      rw [hem] at hnc hf
      simp only [List.length_cons] at hf
      have := ih (stepP P starts stops st n c) (n + 1) em f hpb' (by omega) (by omega)
      rw [collect, enumFrom, hnc, Res.ok_bind]
      show (do let r ← collect T starts stops minLen f _ _ em _; pure (e :: r)) = _
      rw [this]; rfl

/-- **`Matches::next` as written in the source, called until `None`, = the model `findAllP`** for the test `P` its flush
loop computes: on a freshly created iterator (`State::new()`, nothing read yet) over a sequence shorter than `2^64 - 1`,
with three-symbol start codons, `collect` never panics and returns exactly the model's list of frames. -/
theorem collect_findAllP (seq : List Nat) (hT : TestIs T P minLen seq.length) (h3s : ∀ c ∈ starts, c.length = 3)
    (hlen : seq.length + 1 < 2 ^ 64) (fuel : Nat) (hf : (findAllP P starts stops seq).length < fuel) :
    collect T starts stops minLen fuel [[], [], []] [] [] (enumFrom 0 seq) = Res.ok (findAllP P starts stops seq) := by
  have h := collect_eq stops seq.length hT h3s hlen seq State.init 0 [] fuel init_PB (by omega)
    (by rw [← findAllP_eq_emitsP]; simpa using hf)
  rw [← findAllP_eq_emitsP] at h
  simpa [sp3, State.init] using h

end

/-- the length test as written in the source (`next_lenTest`, regenerated), as a total Boolean function -/
def srcTest (minLen i s : Nat) : Bool :=
  match next_lenTest i s minLen with
  | Res.ok b => b
  | _ => false

/-- on the arguments that occur (`2 ≤ s ≤ i`, `i + 3 < 2^64`) the test of the source text does not panic, accepts every
frame longer than `minLen + 2` and only frames of length at least `minLen` (frame length = `i + 3 - s`) -/
theorem lenTest_spec (minLen i s : Nat) (hi : i + 3 < 2 ^ 64) (h2 : 2 ≤ s) (hs : s ≤ i) :
    ∃ b, next_lenTest i s minLen = Res.ok b ∧ (minLen + 2 < i + 3 - s → b = true) ∧ (b = true → minLen ≤ i + 3 - s) := by
  unfold next_lenTest
  simp (disch := omega) only [rs_ok, bind_pure_comp, map_pure]
  refine ⟨_, rfl, ?_, ?_⟩ <;> simp only [decide_eq_true_eq] <;> omega

theorem srcTest_is (minLen B : Nat) (hB : B + 2 < 2 ^ 64) : TestIs next_lenTest (srcTest minLen) minLen B := by
  intro i s hi h2 hs
  obtain ⟨b, hb, _⟩ := lenTest_spec minLen i s (by omega) h2 hs
  unfold srcTest; rw [hb]

theorem srcTest_ok (minLen B : Nat) (hB : B + 2 < 2 ^ 64) : LenTestOk (srcTest minLen) minLen B := by
  constructor
  · intro i s hi h2 hs hlen
    obtain ⟨b, hb, h1, _⟩ := lenTest_spec minLen i s (by omega) h2 hs
    unfold srcTest; rw [hb]; exact h1 hlen
  · intro i s hi h2 hs hp
    obtain ⟨b, hb, _, h1⟩ := lenTest_spec minLen i s (by omega) h2 hs
    unfold srcTest at hp; rw [hb] at hp; exact h1 hp

-- the refused inputs panic: a one-symbol "start codon" makes `start_pos - 2` underflow on the first flush
example : collect next_lenTest [[65]] [[65]] 0 5 [[], [], []] [] [] (enumFrom 0 [65]) = Res.panic := by decide +kernel
-- nested starts, two frames (the example of `orf_sound_complete`), through the translated `next`
example : collect next_lenTest [[65, 84, 71]] [[84, 65, 65], [84, 65, 71]] 0 9 [[], [], []] [] []
    (enumFrom 0 [65, 84, 71, 65, 84, 71, 65, 65, 65, 84, 65, 65, 71, 65, 84, 71, 84, 65, 71])
    = Res.ok [(0, 12, 0), (3, 12, 0), (13, 19, 1)] := by decide +kernel

end RbV.Thm.GenSrcOrf
