import RbV.Basic.RsSem
/-!
Tactics for *branch-agnostic* proofs about translated function bodies (`RbV/Gen/Src*.lean`, docs/notes/GEN.md, "Proof
style"): instead of following the `if`/`match` structure of the generated term, a proof states the facts that hold on
the inputs of interest (named reads `Rs.idx … = ok …`, slices, linear relations between the values as hypotheses) and
`rs_paths [facts]` walks every path of the body:

* at the head of the goal, a checked arithmetic operation is discharged when `omega` proves its side condition from the
  context (`Rs.add_ok`, `Rs.sub_ok`, `Rs.mul_ok`, `Rs.div_ok`, `Rs.rem_ok`) — only the head operation is looked at, so
  no time is lost under binders;
* the named facts and the monad laws rewrite (`simp only`);
* an undecided `if`/`match` is `split`; the leaves `ok x = ok y` (and the unreachable ones) are closed by `omega`.

A rewrite of the Rust text that keeps the property (another branch order, an extra early exit, a different but
equivalent index expression) is re-proved as long as the facts cover the operations it performs; a wrong bound leaves
a goal open (an operation whose side condition fails, or a leaf with different values).

Used by one proof so far (`GenSrcOcc.get_exact_of_table`).  `rs_head` knows the five arithmetic operations only: `Rs.idx`, `Rs.slice`,
`Rs.shl` … must come as named facts.  The simp set `rs_ok` of `Thm/GenSrcOk.lean` covers every operation and is what the other
proofs use where the path through the body is known.
-/
namespace RbV.Thm.GenSrc
open RbV RbV.Rs

/-- one step at the head of a translated body -/
macro "rs_head" "[" ts:Lean.Parser.Tactic.simpLemma,* "]" : tactic =>
  `(tactic| first
      | (rw [Rs.add_ok]; rotate_left; omega)
      | (rw [Rs.sub_ok]; rotate_left; omega)
      | (rw [Rs.mul_ok]; rotate_left; omega)
      | (rw [Rs.div_ok]; rotate_left; omega)
      | (rw [Rs.rem_ok]; rotate_left; omega)
      | simp only [$ts,*, Res.ok_bind, Res.panic_bind, Res.pure_eq_ok, pure_bind, decide_eq_true_eq,
          Bool.and_eq_true, Bool.or_eq_true, Bool.not_eq_true', decide_eq_false_iff_not, beq_iff_eq, bne_iff_ne,
          ite_true, ite_false, Res.ok.injEq, gt_iff_lt, ge_iff_le])

/-- all paths of a translated body -/
macro "rs_paths" "[" ts:Lean.Parser.Tactic.simpLemma,* "]" : tactic =>
  `(tactic| (
      repeat' (first | rs_head [$ts,*] | split)
      all_goals (try omega)))

end RbV.Thm.GenSrc
