import RbV.Thm.GenSrcBand
import RbV.Model.BandedDP
import RbV.Lemmas.BandSrcBasic
/-!
The glue of `banded::Aligner` tied to the source text (`RbV/Gen/SrcBand.lean`, dialect "band"): `degenerate_alignment`,
`Band::create_with_prehash`, the five `custom*` entry points (which band constructor with which arguments, then
`compute_alignment`), the four mode wrappers (clip penalties saved, overwritten, restored; `mode`; `filter_clip_operations`).
The DP of `compute_alignment` (`fill`), the sparse-DP functions and `filter_clip_operations` are abstract parameters.
Restated in `RbV/Thm/C02.lean`.
-/
set_option linter.unusedSimpArgs false
set_option linter.unusedVariables false
namespace RbV.Thm.GenSrcBandGlue
open RbV RbV.Gen RbV.Rs RbV.Rs.Res RbV.Align RbV.Thm.GenSrcBand

/- the tuples the translated code holds (the same `ScT`, `BandT` as in `GenSrcBandedCell.lean`, which this file does not import) -/
abbrev ScT := Int × Int × Option (Int × Int) × Int × Int × Int × Int
abbrev BandT := Nat × Nat × List (Nat × Nat)
abbrev AlnT := Int × Nat × Nat × Nat × Nat × Nat × Nat × List Rs.AlignmentOperation × Rs.AlignmentMode
abbrev AlignerT (Dp : Type) := ScT × BandT × Nat × Nat × Dp

/-- an operation of the specification as the `AlignmentOperation` of bio-types -/
def opT : AOp → Rs.AlignmentOperation
  | .core .mat => .Match
  | .core .sub => .Subst
  | .core .ins => .Ins
  | .core .del => .Del
  | .xclip n => .Xclip n
  | .yclip n => .Yclip n

/-- a result of the mirror (`Out`) as the `Alignment` tuple of the translated code, in mode `Custom` -/
def outT (o : Out) : Int × Nat × Nat × Nat × Nat × Nat × Nat × List Rs.AlignmentOperation × Rs.AlignmentMode :=
  (o.score, o.ys, o.xs, o.ye, o.xe, o.ylen, o.xlen, o.ops.map opT, Rs.AlignmentMode.Custom)

theorem resize_nil {α : Type} (n : Nat) (x : α) : Rs.resize ([] : List α) n x = List.replicate n x := by
  simp [Rs.resize]

/-- the checked product and sum with the operands in the other order -/
theorem imul_ok_comm {a b : Int} (h : Rs.InS 32 (a * b)) : Rs.imul 32 b a = ok (a * b) := by
  rw [Rs.imul_ok (by rwa [Int.mul_comm]), Int.mul_comm]
theorem iadd_ok_comm {a b : Int} (h : Rs.InS 32 (a + b)) : Rs.iadd 32 b a = ok (a + b) := by
  rw [Rs.iadd_ok (by rwa [Int.add_comm]), Int.add_comm]

/-- **`degenerate_alignment` as translated = the mirror `BandedDP.degenerate`** (one sequence empty: the `debug_assert!`; the
gap score `gap_open + gap_extend · len` fits `i32`) -/
theorem degenerate_eq_model {Dp : Type} (wf : Nat → Nat → Int) (go ge : Int) (msc : Option (Int × Int)) (cl : Clip)
    (bT : Nat × Nat × List (Nat × Nat)) (k w : Nat) (dp : Dp) (m n : Nat) (hmn : m = 0 ∨ n = 0)
    (hm : m < 2 ^ 31) (hn : n < 2 ^ 31)
    (h1 : Rs.InS 32 (ge * (m : Int))) (h2 : Rs.InS 32 (go + ge * (m : Int)))
    (h3 : Rs.InS 32 (ge * (n : Int))) (h4 : Rs.InS 32 (go + ge * (n : Int))) :
    SrcBand.degenerateAlignment ((go, ge, msc, cl.xp, cl.xs, cl.yp, cl.ys), bT, k, w, dp) m n =
      ok (outT (RbV.Model.BandedDP.degenerate ⟨wf, go, ge⟩ cl m n)) := by
  have a0 : Rs.assert (m == 0 || n == 0) = ok () := Rs.assert_ok (by rcases hmn with h | h <;> simp [h])
  have a0' : Rs.assert (n == 0 || m == 0) = ok () := Rs.assert_ok (by rcases hmn with h | h <;> simp [h])
  have c1 : Rs.castSigned 32 m = (m : Int) := Rs.castSigned_of_lt (by simpa using hm)
  have c2 : Rs.castSigned 32 n = (n : Int) := Rs.castSigned_of_lt (by simpa using hn)
  unfold SrcBand.degenerateAlignment RbV.Model.BandedDP.degenerate outT
  simp only [a0, a0', c1, c2, imul_ok_comm h1, iadd_ok_comm h2, imul_ok_comm h3, iadd_ok_comm h4, Rs.imul_ok h1, Rs.iadd_ok h2, Rs.imul_ok h3, Rs.iadd_ok h4, ok_bind, pure_eq_ok, bind_pure_comp,
    resize_nil, List.nil_append, decide_eq_true_eq, Bool.and_eq_true, ge_iff_le, gt_iff_lt]
  by_cases hm0 : 0 < m
  · simp only [hm0, if_true]
    by_cases hA : cl.xp ≤ go + ge * (m : Int) ∧ cl.xs ≤ go + ge * (m : Int)
    · simp [hA, opT, List.map_replicate]
    · by_cases hB : cl.xs ≤ cl.xp <;> simp [hA, hB, opT]
  · simp only [hm0, if_false]
    by_cases hn0 : 0 < n
    · simp only [hn0, if_true]
      by_cases hA : cl.yp ≤ go + ge * (n : Int) ∧ cl.ys ≤ go + ge * (n : Int)
      · simp [hA, opT, List.map_replicate]
      · by_cases hB : cl.ys ≤ cl.yp <;> simp [hA, hB, opT]
    · simp [hn0]

section Entry
variable {Dp : Type}
  (sd : List (Nat × Nat) → Nat → Nat → Int → Int → Res (List Nat × Nat × List (Nat × Int)))
  (fk : List Nat → List Nat → Nat → Res (List (Nat × Nat)))
  (fs2 : List Nat → Rs.HMap (List Nat) (List Nat) → Nat → Res (List (Nat × Nat)))
  (ex : List Nat → List Nat → Nat → List (Nat × Nat) → Nat → Res (List (Nat × Nat)))
  (un : List (Nat × Nat) → Nat → Nat → Int → Int → Res (List Nat))
  (fill : AlignerT Dp → List Nat → List Nat → Nat → Nat → Res (AlnT × AlignerT Dp))
  (fc : AlnT → AlnT)

/-- `Band::create_with_prehash` = `find_kmer_matches_seq2_hashed(x, y_kmer_hash, k)`, then `create_with_matches` -/
theorem createWithPrehash_eq (x y : List Nat) (k w : Nat) (sc : ScT) (h : Rs.HMap (List Nat) (List Nat)) :
    SrcBand.createWithPrehash sd fs2 x y k w sc h = (fs2 x h k >>= fun ms => SrcBand.createWithMatches sd x y k w sc ms) := by
  unfold SrcBand.createWithPrehash
  simp only [bind_pure]

/-- **`custom`, `custom_with_prehash`, `custom_with_matches`, `custom_with_match_path`**: the band field is replaced by what the
named constructor returns for `(x, y, self.k, self.w, &self.scoring, …)` — a panic of the constructor is a panic of the entry
point —, every other field is passed on unchanged, and the result is `compute_alignment(x, y)` on that aligner. -/
theorem custom_entries_eq (sc : ScT) (b0 : BandT) (k w : Nat) (dp : Dp) (x y : List Nat) (h : Rs.HMap (List Nat) (List Nat))
    (ms : List (Nat × Nat)) (path : List Nat) :
    SrcBand.custom sd fk fill (sc, b0, k, w, dp) x y =
      (SrcBand.create sd fk x y k w sc >>= fun b => SrcBand.computeAlignment fill (sc, b, k, w, dp) x y) ∧
    SrcBand.customWithPrehash sd fs2 fill (sc, b0, k, w, dp) x y h =
      (SrcBand.createWithPrehash sd fs2 x y k w sc h >>= fun b => SrcBand.computeAlignment fill (sc, b, k, w, dp) x y) ∧
    SrcBand.customWithMatches sd fill (sc, b0, k, w, dp) x y ms =
      (SrcBand.createWithMatches sd x y k w sc ms >>= fun b => SrcBand.computeAlignment fill (sc, b, k, w, dp) x y) ∧
    SrcBand.customWithMatchPath fill (sc, b0, k, w, dp) x y ms path =
      (SrcBand.createFromMatchPath x y k w sc path ms >>= fun b => SrcBand.computeAlignment fill (sc, b, k, w, dp) x y) := by
  refine ⟨?_, ?_, ?_, ?_⟩ <;>
    simp only [SrcBand.custom, SrcBand.customWithPrehash, SrcBand.customWithMatches, SrcBand.customWithMatchPath,
      GenSrc.bind_pair_eta]

/-- **`custom_with_expanded_matches`**: the matches are expanded by `sparse::expand_kmer_matches(x, y, k, &matches, m)` when
`allowed_mismatches = Some(m)` and taken as they are otherwise; with `use_lcskpp_union` the band is
`create_from_match_path` along `sparse::sdpkpp_union_lcskpp_path(&expanded, k, match_score as u32, gap_open, gap_extend)`
(`match_score` = `match_scores.0` or `DEFAULT_MATCH_SCORE`), otherwise `create_with_matches(&expanded)`; then
`compute_alignment`. -/
theorem customWithExpandedMatches_eq (sc : ScT) (b0 : BandT) (k w : Nat) (dp : Dp) (x y : List Nat) (ms : List (Nat × Nat))
    (am : Option Nat) (useUnion : Bool) :
    SrcBand.customWithExpandedMatches sd ex un fill (sc, b0, k, w, dp) x y ms am useUnion =
      ((match am with | some m => ex x y k ms m | none => ok ms) >>= fun em =>
       (if useUnion then
          un em k (Rs.castUnsigned 32 (matchScore sc.2.2.1)) sc.1 sc.2.1 >>= fun p => SrcBand.createFromMatchPath x y k w sc p em
        else SrcBand.createWithMatches sd x y k w sc em) >>= fun b =>
       SrcBand.computeAlignment fill (sc, b, k, w, dp) x y) := by
  unfold SrcBand.customWithExpandedMatches matchScore
  simp only [GenSrc.bind_pair_eta, bind_pure]
  -- the `match` that picks the match score is a value on the right, a statement on the left
  rcases sc with ⟨go, ge, _ | ⟨a, b⟩, r⟩ <;> rfl

/-- `alignment.mode = m` -/
def setMode (a : AlnT) (m : Rs.AlignmentMode) : AlnT :=
  (a.1, a.2.1, a.2.2.1, a.2.2.2.1, a.2.2.2.2.1, a.2.2.2.2.2.1, a.2.2.2.2.2.2.1, a.2.2.2.2.2.2.2.1, m)

/-- the four clip penalties of the aligner's scoring set to the given values, everything else as it is -/
def withClips (S : AlignerT Dp) (xp xs yp ys : Int) : AlignerT Dp :=
  ((S.1.1, S.1.2.1, S.1.2.2.1, xp, xs, yp, ys), S.2)

/-- **`global`, `semiglobal`, `local`, `semiglobal_with_prehash`.**  Each wrapper runs `custom` (resp. `custom_with_prehash`) on
the aligner whose four clip penalties are overwritten — `MIN_SCORE` ×4 (global), `MIN_SCORE, MIN_SCORE, 0, 0` (semiglobal),
`0` ×4 (local) —, sets `mode`, filters the clip operations (`filter_clip_operations`; not for global), and hands back the aligner
`custom` left behind **with the caller's own four clip penalties written back** (`xclip_prefix`, `xclip_suffix`, `yclip_prefix`,
`yclip_suffix`, each into its own slot: mutants m6 / m16 of docs/notes/GEN.md restore from the wrong slot).  Stated for every outcome
`(a, S1)` of the inner call. -/
theorem mode_wrappers_spec (S : AlignerT Dp) (x y : List Nat) (h : Rs.HMap (List Nat) (List Nat)) (a : AlnT) (S1 : AlignerT Dp) :
    let MIN := RbV.Gen.Limits.minScorePairwise
    let xp := S.1.2.2.2.1
    let xs := S.1.2.2.2.2.1
    let yp := S.1.2.2.2.2.2.1
    let ys := S.1.2.2.2.2.2.2
    (SrcBand.custom sd fk fill (withClips S MIN MIN MIN MIN) x y = ok (a, S1) →
      SrcBand.globalMode sd fk fill fc S x y = ok (setMode a .Global, withClips S1 xp xs yp ys)) ∧
    (SrcBand.custom sd fk fill (withClips S MIN MIN 0 0) x y = ok (a, S1) →
      SrcBand.semiglobalMode sd fk fill fc S x y = ok (fc (setMode a .Semiglobal), withClips S1 xp xs yp ys)) ∧
    (SrcBand.custom sd fk fill (withClips S 0 0 0 0) x y = ok (a, S1) →
      SrcBand.localMode sd fk fill fc S x y = ok (fc (setMode a .Local), withClips S1 xp xs yp ys)) ∧
    (SrcBand.customWithPrehash sd fs2 fill (withClips S MIN MIN 0 0) x y h = ok (a, S1) →
      SrcBand.semiglobalWithPrehash sd fs2 fill fc S x y h = ok (fc (setMode a .Semiglobal), withClips S1 xp xs yp ys)) := by
  obtain ⟨⟨go, ge, msc, xp, xs, yp, ys⟩, b0, k, w, dp⟩ := S
  simp only [withClips]
  -- the saved penalties are read back from `clip_penalties[0..3]`
  have i4 : Rs.idx [xp, xs, yp, ys] 0 = ok xp ∧ Rs.idx [xp, xs, yp, ys] 1 = ok xs ∧ Rs.idx [xp, xs, yp, ys] 2 = ok yp ∧
      Rs.idx [xp, xs, yp, ys] 3 = ok ys := ⟨rfl, rfl, rfl, rfl⟩
  refine ⟨fun hc => ?_, fun hc => ?_, fun hc => ?_, fun hc => ?_⟩ <;>
    simp only [SrcBand.globalMode, SrcBand.semiglobalMode, SrcBand.localMode, SrcBand.semiglobalWithPrehash, hc, ok_bind,
      i4.1, i4.2.1, i4.2.2.1, i4.2.2.2] <;>
    rfl

end Entry

end RbV.Thm.GenSrcBandGlue
