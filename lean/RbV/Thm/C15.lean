import RbV.Lemmas.C15b
import RbV.Lemmas.C15c
import RbV.Lemmas.C15Gen
import RbV.Thm.GenSrcProbs
import RbV.Thm.GenSrcFastExp
import RbV.Thm.GenSrcProbsQuad
/-!
# C15 — log-space probability arithmetic agrees with linear-space arithmetic (real-number theorems, PARTIAL)

Model: `RbV/Lemmas/C15.lean`, `C15b.lean` (Mathlib; proof side only).  `LP = Option ℝ` with `none = ln 0`;
`lin` = linear-space image; the algorithms of `src/stats/probs/mod.rs` are transcribed with the exponential
they use as a parameter `E`.  `ApproxExp E δ` (`|E x − eˣ| ≤ δ·eˣ` for `x ≤ 0`) is the accuracy hypothesis on
`fastexp`; it is **measured** by the correspondence run (δ ≤ 10⁻⁵ observed), not proved.  `f64` rounding is not
modelled (the idealisation `XR` = `f64` without rounding: `RbV/Lemmas/C15Src.lean`).  What is proved, for all operands:

* exactness of every formula when `E = exp` (the max-shift, `ln_1p`, both branches of `ln_1m_exp`, the guards for
  `ln 0` are right), and
* propagation of the approximation error: `add`, `sub`, `1 − p`: at most `δ` times the smaller operand resp. the
  subtrahend, so with `δ ≤ 0.005` within the "0.5 % of the largest operand" of the property; `sum`, `cumsum`: at most
  `δ` times the sum resp. the prefix sum, i.e. relative to the result, **not** to the largest operand (the known
  finding C15-long-list-bound, DESIGN §13).

Then: checked construction and the PHRED scale factors over the literals extracted from the source (`RbV/Lemmas/C15Gen.lean`; one
conditional statement: `phred_factors_near_exact_given_ln10_enclosure` assumes an 18-digit enclosure of `ln 10`); the fast
exponential — the bit trick is exact, only the polynomial approximates (`RbV/Lemmas/C15c.lean`); and the same statements about the
translated source text of `stats/probs/mod.rs` and `utils/fastexp.rs` read at `xrOps E` (`RbV/Lemmas/C15Src*.lean`,
`RbV/Thm/GenSrcProbs*.lean`, `RbV/Thm/GenSrcFastExp.lean`), including the three integration helpers.
-/
namespace RbV.Thm.C15
open RbV.C15 Real

/-- exact exponential: `ln_add_exp` computes `log(eᵃ + eᵇ)`, including the `ln 0` cases -/
theorem ln_add_exp_exact (a b : LP) : lin (lnAddExp exp a b) = lin a + lin b :=
  lnAddExp_exact a b

/-- approximate exponential with relative error `δ`: the linear-space error is at most `δ · min(eᵃ, eᵇ)` -/
theorem ln_add_exp_error (E : ℝ → ℝ) (δ : ℝ) (h : ApproxExp E δ) (hδ : δ < 1) (a b : LP) :
    |lin (lnAddExp E a b) - (lin a + lin b)| ≤ δ * min (lin a) (lin b) :=
  lnAddExp_error h hδ a b

/-- … hence within 0.5 % of the largest operand as soon as `δ ≤ 0.005` -/
theorem ln_add_exp_half_percent (E : ℝ → ℝ) (δ : ℝ) (h : ApproxExp E δ) (hδ : δ ≤ 0.005) (a b : LP) :
    |lin (lnAddExp E a b) - (lin a + lin b)| ≤ 0.005 * max (lin a) (lin b) := by
  exact (lnAddExp_error h (hδ.trans_lt (by norm_num)) a b).trans
    (mul_le_mul hδ (le_trans (min_le_left _ _) (le_max_left _ _)) (le_min (lin_nonneg a) (lin_nonneg b)) (by norm_num))

/-- `ln 0` is neutral on both sides, for every `E` (no NaN can arise: the result is an operand) -/
theorem ln_add_exp_neutral (E : ℝ → ℝ) (a : LP) : lnAddExp E a none = a ∧ lnAddExp E none a = a := by
  cases a <;> simp [lnAddExp]

/-- exact exponential: `ln_sum_exp` computes the log of the sum of the operands (`ln 0` entries contribute nothing) -/
theorem ln_sum_exp_exact (l : List LP) : lin (lnSumExp exp l) = (l.map lin).sum :=
  lnSumExp_exact l

/-- approximate exponential: the linear-space error is at most `δ ·` (sum of the operands) — relative to the sum, not to the
largest operand -/
theorem ln_sum_exp_error (E : ℝ → ℝ) (δ : ℝ) (h : ApproxExp E δ) (hδ : δ < 1) (l : List LP) :
    |lin (lnSumExp E l) - (l.map lin).sum| ≤ δ * (l.map lin).sum :=
  lnSumExp_error h hδ l

/-- the empty list and lists of `ln 0` entries sum to `ln 0` -/
theorem ln_sum_exp_zero (E : ℝ → ℝ) (l : List LP) (h : ∀ a ∈ l, a = none) : lnSumExp E l = none := by
  have : finites l = [] := by
    induction l with
    | nil => rfl
    | cons a t ih =>
      have ha := h a (List.mem_cons_self ..)
      subst ha
      simpa [finites] using ih (fun b hb => h b (List.mem_cons_of_mem _ hb))
  simp [lnSumExp, this]

/-- every entry `k` of `ln_cumsum_exp` is the exact prefix sum … -/
theorem ln_cumsum_exp_exact (l : List LP) (k : ℕ) (r : LP) (hr : (lnCumsumExp exp l)[k]? = some r) :
    lin r = ((l.take (k + 1)).map lin).sum :=
  lnCumsumExp_exact l k r hr

/-- … and within `δ ·` prefix sum of it with an approximate exponential (errors do not compound beyond that) -/
theorem ln_cumsum_exp_error (E : ℝ → ℝ) (δ : ℝ) (h : ApproxExp E δ) (hδ : δ < 1) (l : List LP) (k : ℕ) (r : LP)
    (hr : (lnCumsumExp E l)[k]? = some r) :
    |lin r - ((l.take (k + 1)).map lin).sum| ≤ δ * ((l.take (k + 1)).map lin).sum :=
  lnCumsumExp_error h hδ l k r hr

/-- the scan yields one output per input -/
theorem ln_cumsum_exp_length (E : ℝ → ℝ) (l : List LP) : (lnCumsumExp E l).length = l.length := by
  unfold lnCumsumExp
  generalize (none : LP) = s
  induction l generalizing s with
  | nil => rfl
  | cons p ps ih => simp [lnCumsumFrom, ih]

/-- both branches of `ln_1m_exp` compute `log(1 − eˣ)`: the `ln_1p(−eˣ)` branch below the switch point … -/
theorem ln_one_minus_exp_fast_branch (x : ℝ) (hx : x < -0.693) :
    ln1mExp exp x = some (log (1 + -(exp x))) ∧ exp (log (1 + -(exp x))) = 1 - exp x := by
  have hx0 : x ≤ 0 := by linarith
  have h := ln1mExp_exact hx0
  have hb : ln1mExp exp x = some (log (1 + -(exp x))) := by simp [ln1mExp, hx]
  refine ⟨hb, ?_⟩
  rw [hb] at h; exact h

/-- … and the `ln(−expm1 x)` branch above it (`x = 0` gives `ln 0`) -/
theorem ln_one_minus_exp_exact_branch (x : ℝ) (hx : -0.693 ≤ x) (hx0 : x < 0) :
    ln1mExp exp x = some (log (-(exp x - 1))) ∧ exp (log (-(exp x - 1))) = 1 - exp x := by
  have h := ln1mExp_exact hx0.le
  have hb : ln1mExp exp x = some (log (-(exp x - 1))) := by simp [ln1mExp, not_lt.mpr hx, hx0.ne]
  refine ⟨hb, ?_⟩
  rw [hb] at h; exact h

/-- for `p ≤ 1` (`ha`) and the exact exponential `ln_one_minus_exp` computes `log(1 − p)` -/
theorem ln_one_minus_exp_exact (a : LP) (ha : lin a ≤ 1) : lin (lnOneMinusExp exp a) = 1 - lin a :=
  eq_of_abs_sub_le_zero_mul (lnOneMinusExp_error approxExp_exp (by norm_num) a ha)

/-- for `p ≤ 1` and `δ ≤ 1/2`: linear-space error at most `δ · p` -/
theorem ln_one_minus_exp_error (E : ℝ → ℝ) (δ : ℝ) (h : ApproxExp E δ) (hδ : δ ≤ 1 / 2) (a : LP) (ha : lin a ≤ 1) :
    |lin (lnOneMinusExp E a) - (1 - lin a)| ≤ δ * lin a :=
  lnOneMinusExp_error h hδ a ha

/-- for `eᵇ ≤ eᵃ` (`hab`, the `assert!(p0 >= p1)` of the code) and the exact exponential `ln_sub_exp` computes `log(eᵃ − eᵇ)` -/
theorem ln_sub_exp_exact (a b : LP) (hab : lin b ≤ lin a) : lin (lnSubExp exp a b) = lin a - lin b :=
  lnSubExp_exact a b hab

/-- for `eᵇ ≤ eᵃ` and `δ ≤ 1/2`: linear-space error at most `δ · eᵇ` -/
theorem ln_sub_exp_error (E : ℝ → ℝ) (δ : ℝ) (h : ApproxExp E δ) (hδ : δ ≤ 1 / 2) (a b : LP) (hab : lin b ≤ lin a) :
    |lin (lnSubExp E a b) - (lin a - lin b)| ≤ δ * lin b :=
  lnSubExp_error h hδ a b hab

/-! ### integration helpers: the log-space quadrature sum is the linear-space quadrature sum

Model-level facts about the operand lists; the translated helpers themselves are `ln_trapezoidal_source_error`,
`ln_simpsons_source_error`, `ln_trapezoidal_grid_source_error` below, which state weights and scale directly. -/

/-- `ln_sum_exp(terms) + ln(width) − ln(c)` has linear image `(Σ e^{termᵢ}) · width / c`
(trapezoid: terms = `ln f(xᵢ) + ln 2` inside, `ln f(a)`, `ln f(b)`, `c = 2(n−1)`; Simpson: weights 4/2, `c = 3(n−1)`). -/
theorem ln_quadrature_exact (terms : List LP) (r w c : ℝ) (hw : 0 < w) (hc : 0 < c)
    (hr : lnSumExp exp terms = some r) :
    exp (r + log w - log c) = (terms.map lin).sum * w / c := by
  have h := lnSumExp_exact terms
  rw [hr] at h
  have hl : lin (some r) = exp r := rfl
  rw [hl] at h
  rw [exp_sub, exp_add, exp_log hw, exp_log hc, h]

/-- the operand list built by `ln_trapezoidal_integrate_exp` (inner grid points with `+ ln 2`, then the two end
points; `f i` = log-density at grid point `i`, `n ≥ 2` points) sums to the trapezoid weights 1, 2, …, 2, 1 -/
theorem trapezoid_terms_sum (f : ℕ → ℝ) (n : ℕ) :
    ((((List.range (n - 2)).map fun i => (some (f (i + 1) + log 2) : LP)) ++ [some (f 0), some (f (n - 1))]).map lin).sum
      = 2 * ((List.range (n - 2)).map fun i => exp (f (i + 1))).sum + exp (f 0) + exp (f (n - 1)) := by
  simp only [List.map_append, List.map_map, List.sum_append, List.map_cons, List.map_nil, List.sum_cons,
    List.sum_nil, lin]
  have : ((fun a => lin a) ∘ fun i => (some (f (i + 1) + log 2) : LP)) = fun i => 2 * exp (f (i + 1)) := by
    funext i; simp only [Function.comp, lin]; rw [exp_add, exp_log (by norm_num)]; ring
  have h2 : (List.map (lin ∘ fun i => (some (f (i + 1) + log 2) : LP)) (List.range (n - 2))).sum
      = 2 * ((List.range (n - 2)).map fun i => exp (f (i + 1))).sum := by
    rw [show (lin ∘ fun i => (some (f (i + 1) + log 2) : LP)) = fun i => 2 * exp (f (i + 1)) from this]
    rw [List.sum_map_mul_left]
  rw [h2]; ring

/-- Simpson's weights as the code computes them: `(2 + (i % 2) * 2)` is 4 at odd and 2 at even inner grid points -/
theorem simpson_weight (i : ℕ) : (2 + (i % 2) * 2 : ℕ) = if i % 2 = 1 then 4 else 2 := by
  rcases Nat.mod_two_eq_zero_or_one i with h | h <;> simp [h]

/-- `Prob::checked` accepts exactly the closed unit interval -/
theorem checked_accepts_iff (p : ℝ) : checked p = some p ↔ p ∈ Set.Icc (0 : ℝ) 1 := by
  rw [checked, Set.mem_Icc]
  constructor
  · intro h
    by_contra hn
    rw [if_neg hn] at h
    cases h
  · exact fun h => if_pos h

/-- … and refuses exactly the numbers outside it (real-number model of `Prob::checked`) -/
theorem checked_rejects_iff (p : ℝ) : checked p = none ↔ p < 0 ∨ 1 < p := by
  rw [checked]
  split
  · rename_i h; simp [not_lt.mpr h.1, not_lt.mpr h.2]
  · rename_i h; simpa only [true_iff, not_and_or, not_le] using h

/-- **source-extracted obligation** (DESIGN §8): the two scale literals of `src/stats/probs/mod.rs`, extracted from the
source text on *this* run (`RbV/Gen/Scales.lean`; exact rational values of the decimal literals), are inverse to each
other within 10⁻¹⁵ (the driver compares the factors observed through the `From` impls with the `f64` of the same
extracted literals and with ∓10/ln 10) -/
theorem phred_factors_inverse : |LOG_TO_PHRED_FACTOR * PHRED_TO_LOG_FACTOR - 1| < 1 / 10 ^ 15 := by
  unfold LOG_TO_PHRED_FACTOR PHRED_TO_LOG_FACTOR decQ Gen.Scales.logToPhred Gen.Scales.phredToLog
  rw [abs_lt]; constructor <;> norm_num

/-- … and each is within 10⁻¹⁵ resp. 10⁻¹⁶ of the exact factor `−10/ln 10` resp. `−ln 10/10` — **given** the enclosure
`2.30258509299404568 < ln 10 < 2.30258509299404569` (true: ln 10 = 2.302585092994045684…, but not proved here;
Mathlib has no 18-digit bound on `log 10`), hence the `_given_ln10_enclosure` in the name -/
theorem phred_factors_near_exact_given_ln10_enclosure
    (hlo : (2.30258509299404568 : ℝ) < log 10) (hhi : log 10 < (2.30258509299404569 : ℝ)) :
    |(LOG_TO_PHRED_FACTOR : ℝ) - (-10 / log 10)| < 1 / 10 ^ 15 ∧
    |(PHRED_TO_LOG_FACTOR : ℝ) - (-(log 10 / 10))| < 1 / 10 ^ 16 := by
  have hpos : (0 : ℝ) < log 10 := lt_trans (by norm_num) hlo
  have h1 : (10 : ℝ) / log 10 < 10 / 2.30258509299404568 :=
    div_lt_div_of_pos_left (by norm_num) (by norm_num) hlo
  have h2 : (10 : ℝ) / 2.30258509299404569 < 10 / log 10 :=
    div_lt_div_of_pos_left (by norm_num) hpos hhi
  have h1' : log 10 / 10 < 2.30258509299404569 / 10 := div_lt_div_of_pos_right hhi (by norm_num)
  have h2' : 2.30258509299404568 / 10 < log 10 / 10 := div_lt_div_of_pos_right hlo (by norm_num)
  -- rational facts about the extracted literals (the only place their values enter; no value is assumed)
  have hL : (LOG_TO_PHRED_FACTOR : ℝ) = _ := decR_eq Gen.Scales.logToPhred
  have hP : (PHRED_TO_LOG_FACTOR : ℝ) = _ := decR_eq Gen.Scales.phredToLog
  have h3 : (LOG_TO_PHRED_FACTOR : ℝ) + 10 / 2.30258509299404568 < 1 / 10 ^ 15 := by
    rw [hL]; unfold Gen.Scales.logToPhred; norm_num
  have h4 : -(1 / 10 ^ 15 : ℝ) < (LOG_TO_PHRED_FACTOR : ℝ) + 10 / 2.30258509299404569 := by
    rw [hL]; unfold Gen.Scales.logToPhred; norm_num
  have h5 : (PHRED_TO_LOG_FACTOR : ℝ) + 2.30258509299404569 / 10 < 1 / 10 ^ 16 := by
    rw [hP]; unfold Gen.Scales.phredToLog; norm_num
  have h6 : -(1 / 10 ^ 16 : ℝ) < (PHRED_TO_LOG_FACTOR : ℝ) + 2.30258509299404568 / 10 := by
    rw [hP]; unfold Gen.Scales.phredToLog; norm_num
  -- each factor lies between its values at the two ends of the enclosure
  rw [abs_lt, abs_lt, neg_div, sub_neg_eq_add, sub_neg_eq_add]
  exact ⟨⟨h4.trans (add_lt_add_right h2 _), (add_lt_add_right h1 _).trans h3⟩,
    h6.trans (add_lt_add_right h2' _), (add_lt_add_right h1' _).trans h5⟩

/-- Prob → PHRED → Prob is exact over the reals for `0 < p` (`-10·log₁₀ p` written as `-10·(ln p / ln 10)`, `10^y` as `e^{y·ln 10}`) -/
theorem prob_phred_roundtrip (p : ℝ) (hp : 0 < p) : exp (-(-10 * (log p / log 10)) / 10 * log 10) = p :=
  exp_phred_of_prob p hp

/-- LogProb → PHRED → LogProb with the exact factors `∓10/ln 10` is the identity -/
theorem logprob_phred_roundtrip (x : ℝ) : x * (-10 / log 10) * (-(log 10 / 10)) = x := by
  have h10 : log 10 ≠ 0 := (log_pos (by norm_num)).ne'
  field_simp

/-! ### the fast exponential: the bit trick is exact, only the polynomial approximates -/

/-- if the polynomial `P` approximates `2^y` on `(-1, 0]` with relative error `δ`, then the idealised
`fastexpModel P x = 2^⌈x/ln 2⌉ · P(x/ln 2 − ⌈x/ln 2⌉)` (exact `1/ln 2`, no `MIN_VAL` cut-off) satisfies the accuracy
hypothesis `ApproxExp · δ` used by all error theorems above.  No theorem gives `ApproxExp` for the translated `fastexp`
(`fastexp_source_eq_bit_trick`): there the measured `δ` also contains the distance of the 10-digit literal `ONEBYLOG2`
from `1/ln 2`. -/
theorem fastexp_reduction (P : ℝ → ℝ) (δ : ℝ)
    (hP : ∀ y : ℝ, -1 < y → y ≤ 0 → |P y - exp (y * log 2)| ≤ δ * exp (y * log 2)) :
    ApproxExp (fastexpModel P) δ :=
  fastexpModel_approx P δ hP

/-- **source-extracted obligation**: the polynomial with the coefficients `COEFF_0 … COEFF_4` extracted from
`src/utils/fastexp.rs` on this run is exact at both ends of the interval up to 5·10⁻⁶:
`P(0) = COEFF_0 = 1 = 2⁰`, `|P(-1) − 2⁻¹| < 5·10⁻⁶` -/
theorem fastexp_poly_endpoints :
    fastexpPolyGen 0 = 1 ∧ |fastexpPolyGen (-1) - 1 / 2| < 5 / 10 ^ 6 := by
  have e0 := fastexpPolyGen_cast 0
  have e1 := fastexpPolyGen_cast (-1)
  push_cast at e0 e1
  rw [e0, e1]
  have q0 : fastexpPolyGenQ 0 = 1 := by
    unfold fastexpPolyGenQ decQ Gen.Scales.coeff0 Gen.Scales.coeff1 Gen.Scales.coeff2 Gen.Scales.coeff3 Gen.Scales.coeff4
    norm_num
  have q1 : |fastexpPolyGenQ (-1) - 1 / 2| < 5 / 10 ^ 6 := by
    unfold fastexpPolyGenQ decQ Gen.Scales.coeff0 Gen.Scales.coeff1 Gen.Scales.coeff2 Gen.Scales.coeff3 Gen.Scales.coeff4
    rw [abs_lt]; constructor <;> norm_num
  refine ⟨by rw [q0]; norm_num, ?_⟩
  have h := (Rat.cast_lt (K := ℝ)).mpr q1
  push_cast at h ⊢
  exact h

/-- the generated polynomial is the `fastexpPoly` of the reduction theorem above (`COEFF_0` is 1) -/
theorem fastexp_poly_is_model_poly (y : ℝ) :
    fastexpPolyGen y = fastexpPoly (decR Gen.Scales.coeff1) (decR Gen.Scales.coeff2) (decR Gen.Scales.coeff3)
      (decR Gen.Scales.coeff4) y :=
  fastexpPolyGen_eq (by unfold decQ Gen.Scales.coeff0; norm_num) y

/-- **source-extracted obligation**: the bit trick stays inside the normal `f64` range on the whole domain on which
it is used.  For `MIN_VAL < x ≤ 0` (the guard `if *self > MIN_VAL`; log-probabilities are ≤ 0) the integer
`bits = (ONEBYLOG2 · x) as i64` (truncation towards zero = ceiling for non-positive arguments) satisfies
`1 ≤ bits + OFFSET_F64 ≤ 2046`, so `(bits + OFFSET_F64) << FRACTION_F64` is the bit pattern of the normal number
`2^bits` (exponent field neither 0 = zero/subnormal nor 2047 = inf/NaN); `OFFSET_F64`/`FRACTION_F64` are the IEEE-754
double bias and fraction width. -/
theorem fastexp_exponent_field_in_range (x : ℝ) (hlo : decR Gen.Scales.minVal < x) (hhi : x ≤ 0) :
    1 ≤ ⌈decR Gen.Scales.oneByLog2 * x⌉ + Gen.Scales.offsetF64 ∧
      ⌈decR Gen.Scales.oneByLog2 * x⌉ + Gen.Scales.offsetF64 ≤ 2046 ∧
      Gen.Scales.fractionF64 = 52 ∧ Gen.Scales.offsetF64 = 2 ^ (62 - Gen.Scales.fractionF64) - 1 := by
  -- the only facts about the extracted values that are used (the proof survives any retuning within them):
  -- MIN_VAL ≥ −708, 0 < ONEBYLOG2 ≤ 1.4427 (then ONEBYLOG2·x > −1021.5), OFFSET_F64 = 1023
  have hm : (-708 : ℝ) ≤ decR Gen.Scales.minVal := by rw [decR_eq]; unfold Gen.Scales.minVal; norm_num
  have hc0 : (0 : ℝ) < decR Gen.Scales.oneByLog2 := by rw [decR_eq]; unfold Gen.Scales.oneByLog2; norm_num
  have hc1 : decR Gen.Scales.oneByLog2 ≤ 1.4427 := by rw [decR_eq]; unfold Gen.Scales.oneByLog2; norm_num
  have ho : Gen.Scales.offsetF64 = 1023 := by decide
  rw [ho]
  have hx : (-708 : ℝ) < x := lt_of_le_of_lt hm hlo
  have h1 : (-1022 : ℝ) < decR Gen.Scales.oneByLog2 * x :=
    calc (-1022 : ℝ) < 1.4427 * (-708) := by norm_num
      _ ≤ 1.4427 * x := mul_le_mul_of_nonneg_left hx.le (by norm_num)
      _ ≤ decR Gen.Scales.oneByLog2 * x := mul_le_mul_of_nonpos_right hc1 hhi
  have h2 : decR Gen.Scales.oneByLog2 * x ≤ 0 := mul_nonpos_of_nonneg_of_nonpos hc0.le hhi
  have c1 : (-1022 : ℤ) < ⌈decR Gen.Scales.oneByLog2 * x⌉ := by
    rw [Int.lt_ceil]; push_cast; exact h1
  have c2 : ⌈decR Gen.Scales.oneByLog2 * x⌉ ≤ 0 := by
    rw [Int.ceil_le]; push_cast; exact h2
  refine ⟨by omega, by omega, by decide, by decide⟩

/-! ### non-vacuity -/

example : ApproxExp exp 0 := approxExp_exp
/-- hypotheses of `fastexp_exponent_field_in_range` are satisfiable (x = −499.5, just above the extracted `MIN_VAL`) -/
example : decR Gen.Scales.minVal < (-499.5 : ℝ) ∧ (-499.5 : ℝ) ≤ 0 := by
  rw [decR_eq]; unfold Gen.Scales.minVal; constructor <;> norm_num
/-- a (crude) approximate exponential satisfying the hypothesis with δ = 0.004 -/
example : ApproxExp (fun x => 1.004 * exp x) 0.004 := by
  intro x _
  have : (1.004 : ℝ) * exp x - exp x = 0.004 * exp x := by ring
  rw [this, abs_of_pos (mul_pos (by norm_num) (exp_pos x))]
example : lin (lnAddExp exp (some (log 0.5)) (some (log 0.2))) = 0.7 := by
  rw [ln_add_exp_exact]; simp only [lin]; rw [exp_log (by norm_num), exp_log (by norm_num)]; norm_num
example : lin (lnSumExp exp [none, some 0, none]) = 1 := by rw [ln_sum_exp_exact]; simp [lin]
example : lin (lnSubExp exp (some 0) (some (log 0.5))) = 0.5 := by
  rw [ln_sub_exp_exact _ _ (by simp only [lin]; rw [exp_log (by norm_num), exp_zero]; norm_num)]
  simp only [lin]; rw [exp_log (by norm_num), exp_zero]; norm_num
/-- hypotheses of `ln_cumsum_exp_exact` and `ln_quadrature_exact` are satisfiable -/
example : (lnCumsumExp exp [some 0, none])[1]? = some (some 0) := by
  simp [lnCumsumExp, lnCumsumFrom, lnAddExp]
example : ∃ r, lnSumExp exp [some 0, none] = some r := by
  simp [lnSumExp, finites]
example : checked 0.3 = some 0.3 ∧ checked 1.5 = none ∧ checked (-0.1) = none := by
  refine ⟨(checked_accepts_iff _).mpr ⟨by norm_num, by norm_num⟩, (checked_rejects_iff _).mpr (Or.inr (by norm_num)),
    (checked_rejects_iff _).mpr (Or.inl (by norm_num))⟩

/-! ### the translated source text (`RbV/Gen/SrcProbs.lean`, regenerated from `src/stats/probs/mod.rs` on every run)

`f64` is abstract in the generated definitions; they are read at `xrOps E`: `ℝ ∪ {±∞, NaN}` with exact arithmetic and
`fastexp = E` (`RbV/Lemmas/C15Src.lean`); `emb a` is the model value `a : LP` as such an `f64`.  Statements are at the level
the property determines; the branch-by-branch equalities with `lnAddExp`, `ln1mExp`, `lnSubExp`, `lnCumsumExp` are the soft
module `RbV/Thm/GenSrcProbsModel.lean`.  `dropTol = 10⁻¹⁵`, `dropGap = −37`. -/

/-- for every `E` positive on `(−∞, 0]` (`PosOn E`; implied by `ApproxExp E δ`, `δ < 1`) the translated `ln_add_exp` returns a
finite-or-`ln 0` value that is the model's `lnAddExp`, or — only when the operands are more than 37 apart in log
space — the larger operand -/
theorem ln_add_exp_source_near_model (E : ℝ → ℝ) (hE : GenSrcProbs.PosOn E) (a b : LP) :
    ∃ r : LP, Gen.SrcProbs.ln_add_exp (xrOps E) (emb a) (emb b) = emb r ∧ AddNear E a b r :=
  GenSrcProbs.ln_add_exp_near_model E hE a b

/-- … hence `|exp(result) − (eᵃ + eᵇ)| ≤ δ · min(eᵃ, eᵇ) + 10⁻¹⁵ · max(eᵃ, eᵇ)` -/
theorem ln_add_exp_source_error (E : ℝ → ℝ) (δ : ℝ) (h : ApproxExp E δ) (hδ : δ < 1) (a b r : LP)
    (hr : Gen.SrcProbs.ln_add_exp (xrOps E) (emb a) (emb b) = emb r) :
    |lin r - (lin a + lin b)| ≤ δ * min (lin a) (lin b) + dropTol * max (lin a) (lin b) :=
  GenSrcProbs.ln_add_exp_error E δ h hδ a b r hr

/-- … within 0.5 % of the largest operand as soon as `δ ≤ 0.004` -/
theorem ln_add_exp_source_half_percent (E : ℝ → ℝ) (δ : ℝ) (h : ApproxExp E δ) (hδ : δ ≤ 0.004) (a b r : LP)
    (hr : Gen.SrcProbs.ln_add_exp (xrOps E) (emb a) (emb b) = emb r) :
    |lin r - (lin a + lin b)| ≤ 0.005 * max (lin a) (lin b) := by
  have h1 := GenSrcProbs.ln_add_exp_error E δ h (hδ.trans_lt (by norm_num)) a b r hr
  have hm : 0 ≤ max (lin a) (lin b) := le_trans (lin_nonneg a) (le_max_left _ _)
  have h2 : δ * min (lin a) (lin b) ≤ 0.004 * max (lin a) (lin b) :=
    mul_le_mul hδ (le_trans (min_le_left _ _) (le_max_left _ _)) (le_min (lin_nonneg a) (lin_nonneg b)) (by norm_num)
  have h3 : dropTol * max (lin a) (lin b) ≤ 0.001 * max (lin a) (lin b) :=
    mul_le_mul_of_nonneg_right (by unfold dropTol; norm_num) hm
  exact h1.trans ((add_le_add h2 h3).trans_eq (by ring))

/-- with the exact exponential the translated `ln_add_exp` is exact up to `10⁻¹⁵` of the larger operand (exactly exact
on the present text: soft module) -/
theorem ln_add_exp_source_exact (a b r : LP)
    (hr : Gen.SrcProbs.ln_add_exp (xrOps exp) (emb a) (emb b) = emb r) :
    |lin r - (lin a + lin b)| ≤ dropTol * max (lin a) (lin b) := by
  have := GenSrcProbs.ln_add_exp_error exp 0 approxExp_exp (by norm_num) a b r hr
  simpa using this

/-- for every `E` positive on `(−∞, 0]` (`PosOn E`) the translated `ln_sum_exp` **is** the model's `lnSumExp` (no panic;
whichever maximal entry is excluded) -/
theorem ln_sum_exp_source_eq_model (E : ℝ → ℝ) (hE : GenSrcProbs.PosOn E) (l : List LP) :
    Gen.SrcProbs.ln_sum_exp (xrOps E) (l.map emb) = Rs.Res.ok (emb (lnSumExp E l)) :=
  GenSrcProbs.ln_sum_exp_eq_model E hE l

/-- … hence no panic and a linear-space error of at most `δ ·` (sum of the operands): relative to the sum, not to the largest
operand -/
theorem ln_sum_exp_source_error (E : ℝ → ℝ) (δ : ℝ) (h : ApproxExp E δ) (hδ : δ < 1) (l : List LP) :
    ∃ r : LP, Gen.SrcProbs.ln_sum_exp (xrOps E) (l.map emb) = Rs.Res.ok (emb r) ∧
      |lin r - (l.map lin).sum| ≤ δ * (l.map lin).sum :=
  GenSrcProbs.ln_sum_exp_error E δ h hδ l

/-- for every `E` positive on `(−∞, 0]` (`PosOn E`) the translated `ln_cumsum_exp` (the `ScanIter` consumed to its end) yields
one entry per input, each step an admissible addition by the translated `ln_add_exp` -/
theorem ln_cumsum_exp_source_is_scan (E : ℝ → ℝ) (hE : GenSrcProbs.PosOn E) (l : List LP) :
    ∃ rs : List LP, Gen.SrcProbs.ln_cumsum_exp (xrOps E) (l.map emb) = rs.map emb ∧ ScanNear E none l rs ∧
      rs.length = l.length :=
  GenSrcProbs.ln_cumsum_exp_eq_scan E hE l

/-- entry `k` is within `(δ + 2(k+1)·10⁻¹⁵) ·` prefix sum of the prefix sum -/
theorem ln_cumsum_exp_source_error (E : ℝ → ℝ) (δ : ℝ) (h : ApproxExp E δ) (hδ : δ < 1) (l rs : List LP)
    (hrs : Gen.SrcProbs.ln_cumsum_exp (xrOps E) (l.map emb) = rs.map emb) (k : ℕ) (r : LP) (hr : rs[k]? = some r)
    (hk : δ + 2 * (k + 1 : ℕ) * dropTol ≤ 1) :
    |lin r - ((l.take (k + 1)).map lin).sum| ≤ (δ + 2 * (k + 1 : ℕ) * dropTol) * ((l.take (k + 1)).map lin).sum :=
  GenSrcProbs.ln_cumsum_exp_error E δ h hδ l rs hrs k r hr hk

/-- the translated `ln_one_minus_exp` (through the translated `ln_1m_exp`, whichever branch, switch point and
exponential the text uses in the `ln_1p` branch): no panic for `p ≤ 1`, error `≤ δ · p` -/
theorem ln_one_minus_exp_source_error (E : ℝ → ℝ) (δ : ℝ) (h : ApproxExp E δ) (hδ : δ ≤ 1 / 2) (a : LP) (ha : lin a ≤ 1) :
    ∃ r : LP, Gen.SrcProbs.ln_one_minus_exp (xrOps E) (emb a) = Rs.Res.ok (emb r) ∧ |lin r - (1 - lin a)| ≤ δ * lin a :=
  GenSrcProbs.ln_one_minus_exp_spec E δ h hδ a ha

/-- with the exact exponential the translated `ln_one_minus_exp` returns exactly `log(1 − p)`, for `p ≤ 1` -/
theorem ln_one_minus_exp_source_exact (a : LP) (ha : lin a ≤ 1) :
    ∃ r : LP, Gen.SrcProbs.ln_one_minus_exp (xrOps exp) (emb a) = Rs.Res.ok (emb r) ∧ lin r = 1 - lin a := by
  obtain ⟨r, h1, h2⟩ := GenSrcProbs.ln_one_minus_exp_spec exp 0 approxExp_exp (by norm_num) a ha
  exact ⟨r, h1, by simpa [sub_eq_zero] using h2⟩

/-- the translated `ln_sub_exp`: the `assert!(p0 >= p1)` holds, error `≤ δ · e^{p1}` (the `relative_eq!` shortcut is an
equality test in the absence of rounding) -/
theorem ln_sub_exp_source_error (E : ℝ → ℝ) (δ : ℝ) (h : ApproxExp E δ) (hδ : δ ≤ 1 / 2) (a b : LP) (hab : lin b ≤ lin a) :
    ∃ r : LP, Gen.SrcProbs.ln_sub_exp (xrOps E) (emb a) (emb b) = Rs.Res.ok (emb r) ∧
      |lin r - (lin a - lin b)| ≤ δ * lin b :=
  GenSrcProbs.ln_sub_exp_spec E δ h hδ a b hab

/-- the translated `Prob::checked` accepts exactly the finite numbers of `[0, 1]` (NaN and ±∞ are refused) -/
theorem prob_checked_source_iff (E : ℝ → ℝ) (p v : XR) :
    Gen.SrcProbs.checked (xrOps E) p = Except.ok v ↔ v = p ∧ ∃ x : ℝ, p = XR.fin x ∧ 0 ≤ x ∧ x ≤ 1 :=
  GenSrcProbs.checked_iff E p v

/-- the translated conversions: `Prob → PHREDProb → Prob` is exact for `0 < p` (`p = 0`, PHRED `+∞`, is not stated) -/
theorem prob_phred_source_roundtrip (E : ℝ → ℝ) (p : ℝ) (hp : 0 < p) :
    Gen.SrcProbs.prob_of_phred (xrOps E) (Gen.SrcProbs.phred_of_prob (xrOps E) (XR.fin p)) = XR.fin p :=
  GenSrcProbs.prob_phred_roundtrip E p hp

/-- `Prob → LogProb → Prob` has the relative error of `fastexp`, for `0 < p ≤ 1` -/
theorem prob_logprob_source_roundtrip (E : ℝ → ℝ) (δ : ℝ) (h : ApproxExp E δ) (p : ℝ) (hp : 0 < p) (hp1 : p ≤ 1) :
    ∃ q : ℝ, Gen.SrcProbs.prob_of_logprob (xrOps E) (Gen.SrcProbs.logprob_of_prob (xrOps E) (XR.fin p)) = XR.fin q ∧
      |q - p| ≤ δ * p :=
  GenSrcProbs.prob_logprob_roundtrip E δ h p hp hp1

/-- `LogProb → PHREDProb → LogProb` is within `10⁻¹⁵` relative of the identity (the literals of the text) -/
theorem logprob_phred_source_roundtrip (E : ℝ → ℝ) (x : ℝ) :
    ∃ y : ℝ, Gen.SrcProbs.logprob_of_phred (xrOps E) (Gen.SrcProbs.phred_of_logprob (xrOps E) (XR.fin x)) = XR.fin y ∧
      |y - x| ≤ 1 / 10 ^ 15 * |x| := by
  obtain ⟨y, h1, h2⟩ := GenSrcProbs.logprob_phred_roundtrip E x
  refine ⟨y, h1, ?_⟩
  have h3 := phred_factors_inverse
  have h4 : |((LOG_TO_PHRED_FACTOR * PHRED_TO_LOG_FACTOR : ℚ) : ℝ) - 1| < 1 / 10 ^ 15 := by
    have := (Rat.cast_lt (K := ℝ)).mpr h3
    push_cast at this ⊢
    simpa using this
  rw [h2, show x * ((LOG_TO_PHRED_FACTOR * PHRED_TO_LOG_FACTOR : ℚ) : ℝ) - x
      = x * (((LOG_TO_PHRED_FACTOR * PHRED_TO_LOG_FACTOR : ℚ) : ℝ) - 1) by ring, abs_mul, mul_comm]
  exact mul_le_mul_of_nonneg_right h4.le (abs_nonneg x)

/-- the literals the conversions use are the ones `Gen/Scales.lean` extracts -/
theorem source_factors_are_extracted (E : ℝ → ℝ) :
    Gen.SrcProbs.PHRED_TO_LOG_FACTOR (xrOps E) = XR.fin (PHRED_TO_LOG_FACTOR : ℝ) ∧
    Gen.SrcProbs.LOG_TO_PHRED_FACTOR (xrOps E) = XR.fin (LOG_TO_PHRED_FACTOR : ℝ) := ⟨rfl, rfl⟩

/-! non-vacuity of the source theorems -/
example : GenSrcProbs.PosOn exp := GenSrcProbs.posOn_exp
example : ∃ r : LP, Gen.SrcProbs.ln_add_exp (xrOps exp) (emb (some 0)) (emb none) = emb r :=
  ⟨some 0, by simp [Gen.SrcProbs.ln_add_exp, Gen.SrcProbs.ln_zero]⟩
example : Gen.SrcProbs.checked (xrOps exp) XR.nan ≠ Except.ok XR.nan := by
  intro h; obtain ⟨_, x, hx, _⟩ := (prob_checked_source_iff exp _ _).mp h; cases hx
example : Gen.SrcProbs.checked (xrOps exp) (XR.fin 0.3) = Except.ok (XR.fin 0.3) :=
  (prob_checked_source_iff exp _ _).mpr ⟨rfl, 0.3, rfl, by norm_num, by norm_num⟩
example : lin (some (-1) : LP) ≤ lin (some 0) := by simp [lin]

/-- the translated body of `FastExp::fastexp` (`RbV/Gen/SrcFastExp.lean`): for `MIN_VAL < x ≤ 0` it returns exactly
`2^k · P(y)`, `k = ⌈ONEBYLOG2·x⌉`, `y = ONEBYLOG2·x − k`, `P` the polynomial over the extracted coefficients — the `i64`
arithmetic does not overflow, the shifted exponent stays in its field and the assembled bit pattern decodes (IEEE-754
binary64) to `2^k`.  (`ONEBYLOG2` is the 10-digit literal, not `1/ln 2`: the distance to `fastexpModel` is part of the
measured `δ`.) -/
theorem fastexp_source_eq_bit_trick (E : ℝ → ℝ) (x : ℝ) (hlo : decR Gen.Scales.minVal < x) (hhi : x ≤ 0) :
    Gen.SrcFastExp.fastexp (xrOps E) (XR.fin x) =
      Rs.Res.ok (XR.fin ((2 : ℝ) ^ ⌈decR Gen.Scales.oneByLog2 * x⌉ *
        fastexpPolyGen (decR Gen.Scales.oneByLog2 * x - ⌈decR Gen.Scales.oneByLog2 * x⌉))) := by
  obtain ⟨h1, h2, _, _⟩ := fastexp_exponent_field_in_range x hlo hhi
  have ho : Gen.Scales.offsetF64 = 1023 := by decide
  rw [ho] at h1 h2
  exact GenSrcFastExp.fastexp_eq_model E x hlo hhi h1 h2 (by rw [decR_eq]; unfold Gen.Scales.oneByLog2; norm_num)

/-- at and below `MIN_VAL` the text is the exact `exp`; `fastexp(−∞) = 0` (the value `xrOps` gives `fastexp` at `−∞`) -/
theorem fastexp_source_below_cutoff (E : ℝ → ℝ) (x : ℝ) (h : x ≤ decR Gen.Scales.minVal) :
    Gen.SrcFastExp.fastexp (xrOps E) (XR.fin x) = Rs.Res.ok (XR.fin (exp x)) ∧
    Gen.SrcFastExp.fastexp (xrOps E) XR.ninf = Rs.Res.ok (XR.fin 0) :=
  ⟨GenSrcFastExp.fastexp_below E x h, GenSrcFastExp.fastexp_ninf E⟩

example : ∃ x : ℝ, decR Gen.Scales.minVal < x ∧ x ≤ 0 := ⟨0, by rw [decR_eq]; unfold Gen.Scales.minVal; norm_num, le_rfl⟩

/-! ### the translated integration helpers (`RbV/Gen/SrcProbsQuad.lean`): value-level statements

`d i v : LP` are the (finite or `ln 0`) density values, `linspace` is abstract (itertools-num), `innerPts xs` are the grid
points the text enumerates between the two ends (`.enumerate().dropping(1).dropping_back(1)`), with their indices. -/

/-- for `a < b` and `n ≥ 2` the translated `ln_trapezoidal_integrate_exp` does not panic and returns the log of the trapezoid sum — weights
1, 2, …, 2, 1 (cf. `trapezoid_terms_sum`), times `(b − a)/(2(n − 1))` — within `δ ·` that sum (the error of one `ln_sum_exp`) -/
theorem ln_trapezoidal_source_error (E : ℝ → ℝ) (δ : ℝ) (h : ApproxExp E δ) (hδ : δ < 1) (linspace : XR → XR → Nat → List XR)
    (d : Nat → XR → LP) (α β : ℝ) (hw : α < β) (n : Nat) (hn : 2 ≤ n) :
    ∃ r : LP, Gen.SrcProbsQuad.ln_trapezoidal_integrate_exp (xrOps E) linspace (fun i v => emb (d i v)) (XR.fin α) (XR.fin β) n
        = Rs.Res.ok (emb r) ∧
      |lin r - (((innerPts (linspace (XR.fin α) (XR.fin β) n)).map fun it => 2 * lin (d it.1 it.2)).sum
          + lin (d 0 (XR.fin α)) + lin (d n (XR.fin β))) * ((β - α) / (2 * (n - 1)))|
        ≤ δ * ((((innerPts (linspace (XR.fin α) (XR.fin β) n)).map fun it => 2 * lin (d it.1 it.2)).sum
          + lin (d 0 (XR.fin α)) + lin (d n (XR.fin β))) * ((β - α) / (2 * (n - 1)))) :=
  GenSrcProbsQuad.trapezoid_error E δ h hδ linspace d α β hw n hn

/-- the translated `ln_simpsons_integrate_exp` (for `a < b` and odd `n ≥ 3`): weights 1, 4, 2, …, 4, 1 as the text computes them
(`(2 + (i % 2) * 2) as f64`, cf. `simpson_weight`; no `usize` overflow), times `(b − a)/(3(n − 1))`, within `δ ·` the sum -/
theorem ln_simpsons_source_error (E : ℝ → ℝ) (δ : ℝ) (h : ApproxExp E δ) (hδ : δ < 1) (linspace : XR → XR → Nat → List XR)
    (d : Nat → XR → LP) (α β : ℝ) (hw : α < β) (n : Nat) (hn : 2 ≤ n) (hodd : n % 2 = 1) :
    ∃ r : LP, Gen.SrcProbsQuad.ln_simpsons_integrate_exp (xrOps E) linspace (fun i v => emb (d i v)) (XR.fin α) (XR.fin β) n
        = Rs.Res.ok (emb r) ∧
      |lin r - (((innerPts (linspace (XR.fin α) (XR.fin β) n)).map fun it => (if it.1 % 2 = 1 then 4 else 2) * lin (d it.1 it.2)).sum
          + lin (d 0 (XR.fin α)) + lin (d n (XR.fin β))) * ((β - α) / (3 * (n - 1)))|
        ≤ δ * ((((innerPts (linspace (XR.fin α) (XR.fin β) n)).map fun it => (if it.1 % 2 = 1 then 4 else 2) * lin (d it.1 it.2)).sum
          + lin (d 0 (XR.fin α)) + lin (d n (XR.fin β))) * ((β - α) / (3 * (n - 1)))) :=
  GenSrcProbsQuad.simpson_error E δ h hδ linspace d α β hw n hn hodd

/-- `innerPts` of a five-point grid are the points 1, 2, 3 with their indices (non-vacuity of the statements above) -/
example (a b c d e : XR) : innerPts [a, b, c, d, e] = [(1, b), (2, c), (3, d)] := rfl

/-- the translated `ln_trapezoidal_integrate_grid_exp` on a strictly increasing grid `gs` (`hinc`: every grid point from the
second on is larger than its predecessor): no panic (`i − 1`, `grid[i − 1]`), and the result is the log of
`Σᵢ (gᵢ − gᵢ₋₁)/2 · (f(i−1, gᵢ₋₁) + f(i, gᵢ))` (`gridCell`) within the accumulated bound: `δ + 10⁻¹⁵` for the pairwise
`ln_add_exp` of each cell, then `δ` for the final `ln_sum_exp` -/
theorem ln_trapezoidal_grid_source_error (E : ℝ → ℝ) (δ : ℝ) (h : ApproxExp E δ) (hδ : δ < 1) (d : Nat → XR → LP) (gs : List ℝ)
    (hinc : ∀ it ∈ Rs.enumIdxFrom 1 gs.tail, gs.getD (it.1 - 1) 0 < it.2) :
    ∃ r : LP, Gen.SrcProbsQuad.ln_trapezoidal_integrate_grid_exp (xrOps E) (fun i v => emb (d i v)) (gs.map XR.fin)
        = Rs.Res.ok (emb r) ∧
      |lin r - ((Rs.enumIdxFrom 1 gs.tail).map (GenSrcProbsQuad.gridCell d gs)).sum|
        ≤ (δ * (1 + (δ + dropTol)) + (δ + dropTol)) * ((Rs.enumIdxFrom 1 gs.tail).map (GenSrcProbsQuad.gridCell d gs)).sum :=
  GenSrcProbsQuad.grid_error E δ h hδ d gs hinc

/-- the hypothesis is satisfiable: the grid 0, 1, 3 -/
example : ∀ it ∈ Rs.enumIdxFrom 1 ([0, 1, 3] : List ℝ).tail, ([0, 1, 3] : List ℝ).getD (it.1 - 1) 0 < it.2 := by
  intro it hit
  simp only [List.tail_cons, Rs.enumIdxFrom, List.mem_cons, List.not_mem_nil, or_false] at hit
  rcases hit with rfl | rfl <;> norm_num

end RbV.Thm.C15
