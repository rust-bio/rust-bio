import RbV.Gen.SrcPoaAdd
import RbV.Model.Poa
import RbV.Lemmas.PoaGrow
import RbV.Thm.GenSrcBasic
/-!
# `Poa::add_alignment` as translated from the source text (`Gen/SrcPoaAdd.lean`) = the mirror model `Model.addAlignment`

`add_alignment_eq_model`: whenever the translated function returns (no panic), it returns the model's graph — for every
graph, operation list and sequence.  `add_alignment_total`: it returns whenever the operation list is *valid* for graph and
sequence (`SeqOK`, defined at the end of `Lemmas/PoaGrow.lean`: named nodes exist, the consumed positions exist) and the bumped weights stay below `2^31 - 1`.
The Rust code panics where the model totalises: `seq[i]` / `raw_nodes()[p]` out of bounds (model: `getD … 0`), `add_edge`
between missing nodes, `Topo::new(..).next(..).unwrap()` on the empty graph (model: `headD 0`), `i + 1` / `weight + 1`
overflow.  Both theorems are the two halves of one statement about the loop, `Run P r a`: `r` returns `a` or panics, and
returns when `P` holds.
-/
set_option linter.unusedSimpArgs false
namespace RbV.Thm.GenSrcPoaAdd
open RbV RbV.Rs RbV.Rs.Res RbV.Poa RbV.Poa.Model RbV.Gen.SrcPoaAdd

theorem idx_cases {α : Type} (l : List α) (i : Nat) (d : α) : Rs.idx l i = ok (l.getD i d) ∨ Rs.idx l i = panic := by
  unfold Rs.idx
  cases h : l[i]? with
  | none => right; rfl
  | some a => left; simp [List.getD, h]

theorem add64_cases (a b : Nat) : Rs.add 64 a b = ok (a + b) ∨ Rs.add 64 a b = panic := by
  unfold Rs.add; split
  · left; rfl
  · right; rfl

theorem addEdge_cases (g : G) (u v : Nat) :
    Rs.Poa.addEdge g u v 1 = ok (g.addEdge u v) ∨ Rs.Poa.addEdge g u v 1 = panic := by
  unfold Rs.Poa.addEdge; split
  · left; rfl
  · right; rfl

theorem edgeWeightAdd_cases (g : G) (k : Nat) :
    Rs.Poa.edgeWeightAdd g k 1 = ok { g with es := bumpEdge g.es k } ∨ Rs.Poa.edgeWeightAdd g k 1 = panic := by
  unfold Rs.Poa.edgeWeightAdd
  cases h : g.es[k]? with
  | none => right; rfl
  | some e =>
    simp only
    unfold Rs.iadd
    split
    · left; simp [bumpEdge_eq_set g.es k e h]
    · right; rfl

/-- the loop state of the translated function as the model's `AddSt` -/
def rep (st : AddSt) : G × Nat × Nat × Bool := (st.g, st.prev, st.i, st.notConnected)

theorem addEdge_ok' (g : G) (u v : Nat) (hu : u < g.labels.length) (hv : v < g.labels.length) :
    Rs.Poa.addEdge g u v 1 = ok (g.addEdge u v) := by
  unfold Rs.Poa.addEdge; rw [if_pos ⟨hu, hv⟩]; rfl

theorem edgeWeightAdd_ok' (g : G) (k : Nat) (hk : k < g.es.length)
    (hw : -2147483648 ≤ g.es[k].2.2 ∧ g.es[k].2.2 + 1 ≤ 2147483647) :
    Rs.Poa.edgeWeightAdd g k 1 = ok { g with es := bumpEdge g.es k } := by
  unfold Rs.Poa.edgeWeightAdd
  have hge : g.es[k]? = some g.es[k] := List.getElem?_eq_getElem hk
  rw [hge]
  simp only
  have : InS 32 (g.es[k].2.2 + 1) := by
    unfold InS
    have e : ((2 ^ (32 - 1) : Nat) : Int) = 2147483648 := by decide
    rw [e]; omega
  rw [Rs.iadd_ok this]
  simp [bumpEdge_eq_set g.es k _ hge]

/-- `r` returns `a` or panics, and returns when `P` holds -/
def Run {α : Type} (P : Prop) (r : Res α) (a : α) : Prop := (r = ok a ∨ r = panic) ∧ (P → r = ok a)

theorem Run.ret {α : Type} {P : Prop} (a : α) : Run P (Res.ok a) a := ⟨Or.inl rfl, fun _ => rfl⟩

theorem Run.mono {α : Type} {P Q : Prop} {r : Res α} {a : α} (h : Run P r a) (hq : Q → P) : Run Q r a :=
  ⟨h.1, fun q => h.2 (hq q)⟩

theorem Run.eq_of_ok {α : Type} {P : Prop} {r : Res α} {a b : α} (h : Run P r a) (hb : r = ok b) : b = a := by
  rcases h.1 with e | e <;> rw [e] at hb <;> cases hb
  rfl

/-- the continuation may assume `Q`, which `P` must provide (the loop invariant after the step) -/
theorem Run.bind_of {α β : Type} {P Q : Prop} {r : Res α} {a : α} {f : α → Res β} {b : β}
    (h1 : Run P r a) (h2 : Run Q (f a) b) (hq : P → Q) : Run P (r >>= f) b := by
  rcases h1.1 with e | e
  · rw [e, ok_bind]; exact h2.mono hq
  · exact ⟨Or.inr (by rw [e]; rfl), fun hp => by rw [h1.2 hp, ok_bind]; exact h2.2 (hq hp)⟩

theorem Run.bind {α β : Type} {P : Prop} {r : Res α} {a : α} {f : α → Res β} {b : β}
    (h1 : Run P r a) (h2 : Run P (f a) b) : Run P (r >>= f) b := h1.bind_of h2 id

theorem idx_run {α : Type} {P : Prop} (l : List α) (i : Nat) (d : α) (h : P → i < l.length) :
    Run P (Rs.idx l i) (l.getD i d) := ⟨idx_cases l i d, fun hp => GenSrc.idx_getD l i d (h hp)⟩

theorem add64_run {P : Prop} (a b : Nat) (h : P → a + b < 2 ^ 64) : Run P (Rs.add 64 a b) (a + b) :=
  ⟨add64_cases a b, fun hp => Rs.add_ok (h hp)⟩

theorem addEdge_run {P : Prop} (g : G) (u v : Nat) (h : P → u < g.labels.length ∧ v < g.labels.length) :
    Run P (Rs.Poa.addEdge g u v 1) (g.addEdge u v) :=
  ⟨addEdge_cases g u v, fun hp => addEdge_ok' g u v (h hp).1 (h hp).2⟩

theorem edgeWeightAdd_run {P : Prop} (g : G) (k : Nat)
    (h : P → ∃ hk : k < g.es.length, -2147483648 ≤ g.es[k].2.2 ∧ g.es[k].2.2 + 1 ≤ 2147483647) :
    Run P (Rs.Poa.edgeWeightAdd g k 1) { g with es := bumpEdge g.es k } :=
  ⟨edgeWeightAdd_cases g k, fun hp => by obtain ⟨hk, hw⟩ := h hp; exact edgeWeightAdd_ok' g k hk hw⟩

/-- invariant of the addition loop: nodes in range, weights with room for `K` more increments -/
structure AInv (head m K : Nat) (st : AddSt) : Prop where
  headLt : head < st.g.labels.length
  prevLt : st.prev < st.g.labels.length
  mLe : m ≤ st.g.labels.length
  kLt : (K : Int) < 2147483647
  wts : ∀ e ∈ st.g.es, -2147483648 ≤ e.2.2 ∧ e.2.2 + (K : Int) ≤ 2147483647

/-- what one round of the loop needs in order to return: the invariant with room for one more increment, the consumed
position and the named node in range -/
structure StepPre (seq : List Nat) (head m K : Nat) (st : AddSt) (op : POp) : Prop where
  inv : AInv head m (K + 1) st
  hn : seq.length < 2 ^ 64
  hm : ∀ pq, op = .m pq → st.i < seq.length
  hi : ∀ p, op = .i p → st.i < seq.length
  hp : ∀ a p, op = .m (some (a, p)) → p < m

theorem lt_append_one {α : Type} (l : List α) (c : α) {u : Nat} (h : u < l.length) : u < (l ++ [c]).length := by
  rw [List.length_append]; exact Nat.lt_add_right _ h

theorem length_lt_append_one {α : Type} (l : List α) (c : α) : l.length < (l ++ [c]).length := by
  rw [List.length_append]; exact Nat.lt_succ_self _

/-- **one round of the translated loop against the model's step**: it returns `addStep` or panics, and returns under
`StepPre`.  After the conditions of the Rust text are decided each path is a straight line of partial primitives. -/
theorem for1_run (seq : List Nat) (head m K : Nat) (st : AddSt) (op : POp) :
    Run (StepPre seq head m K st op) (add_alignment_for1 seq head (rep st) op)
      (rep (addStep head seq st op)) := by
  obtain ⟨g, prev, i, nc⟩ := st
  show Run _ (add_alignment_for1 seq head (g, prev, i, nc) op) _
  have hi1 : ∀ {op}, StepPre seq head m K ⟨g, prev, i, nc⟩ op → i < seq.length → i + 1 < 2 ^ 64 :=
    fun h hi => Nat.lt_of_le_of_lt hi h.hn
  unfold add_alignment_for1
  cases op with
  | m pq =>
    cases pq with
    | none =>
      simp only [Rs.Poa.addNode, G.addNode, Rs.Poa.nodeWeight, bind_assoc, pure_bind]
      refine (idx_run seq i 0 fun h => h.hm _ rfl).bind ?_
      -- the weight of the head is read wherever the text reads it (in front of the test or inside its second conjunct), and the
      -- comparisons may be written either way round: decide the read and the two comparisons first, then each path is a straight line
      have hw : Rs.idx g.labels head = ok (g.labels.getD head 0) ∨
          (Rs.idx g.labels head = panic ∧ ¬StepPre seq head m K ⟨g, prev, i, nc⟩ (.m none)) := by
        rcases idx_cases g.labels head 0 with e | e
        · exact Or.inl e
        · exact Or.inr ⟨e, fun h => by rw [GenSrc.idx_getD _ _ 0 h.inv.headLt] at e; cases e⟩
      have s2 : decide (g.labels.getD head 0 ≠ seq.getD i 0) = decide (seq.getD i 0 ≠ g.labels.getD head 0) :=
        decide_eq_decide.mpr ne_comm
      have s4 : decide (seq.getD i 0 ≠ wildcard) = decide (seq.getD i 0 ≠ 88) := rfl
      have stop : ∀ {a}, ¬StepPre seq head m K ⟨g, prev, i, nc⟩ (.m none) →
          Run (StepPre seq head m K ⟨g, prev, i, nc⟩ (.m none)) (panic : Res (G × Nat × Nat × Bool)) a :=
        fun hP => ⟨Or.inr rfl, fun h => absurd h hP⟩
      rcases hw with e | ⟨e, hP⟩
      · cases s1 : decide (seq.getD i 0 ≠ g.labels.getD head 0)
        case' true => cases s3 : decide (seq.getD i 0 ≠ 88)
        all_goals cases nc
        all_goals first
          | simp only [e, s2, s1, s4, s3, rep, addStep, G.addNode, ok_bind, pure_eq_ok, Bool.and_true, Bool.and_false,
              if_true, if_false, Bool.false_eq_true]
          | simp only [e, s2, s1, rep, addStep, ok_bind, pure_eq_ok, Bool.false_and, ite_self, if_true, if_false,
              Bool.false_eq_true]
        -- the two goals of a failing first comparison stand last; with them in front the goals are: no new node (× 3), new node
        rotate_left 4
        iterate 2
          · exact (add64_run i 1 fun h => hi1 h (h.hm _ rfl)).bind (Run.ret _)
          · exact (addEdge_run g prev head fun h => ⟨h.inv.prevLt, h.inv.headLt⟩).bind
              ((add64_run i 1 fun h => hi1 h (h.hm _ rfl)).bind (Run.ret _))
        · exact (idx_run seq i 0 fun h => h.hm _ rfl).bind ((add64_run i 1 fun h => hi1 h (h.hm _ rfl)).bind (Run.ret _))
        · exact (idx_run seq i 0 fun h => h.hm _ rfl).bind
            ((addEdge_run _ prev _ fun h => ⟨lt_append_one _ _ h.inv.prevLt, length_lt_append_one _ _⟩).bind
              ((add64_run i 1 fun h => hi1 h (h.hm _ rfl)).bind (Run.ret _)))
      · -- the read panics: outside `StepPre`; the text panics too, unless the wildcard test in front of the read spares it
        simp only [e, panic_bind]
        first
        | exact stop hP
        | cases s3 : decide (seq.getD i 0 ≠ 88) <;> cases nc <;>
            simp only [e, s4, s3, rep, addStep, ok_bind, panic_bind, pure_eq_ok, Bool.and_false, if_true, if_false,
              Bool.false_eq_true] <;>
            first
            | exact stop hP
            | exact (add64_run i 1 fun h => hi1 h (h.hm _ rfl)).bind (Run.ret _)
            | exact (addEdge_run g prev head fun h => ⟨h.inv.prevLt, h.inv.headLt⟩).bind
                ((add64_run i 1 fun h => hi1 h (h.hm _ rfl)).bind (Run.ret _))
    | some pq =>
      obtain ⟨q0, p⟩ := pq
      have hp : StepPre seq head m K ⟨g, prev, i, nc⟩ (.m (some (q0, p))) → p < g.labels.length :=
        fun h => Nat.lt_of_lt_of_le (h.hp _ _ rfl) h.inv.mLe
      simp only [Rs.Poa.addNode, G.addNode, Rs.Poa.nodeWeight, Rs.Poa.findEdge, bind_assoc, pure_bind]
      refine (idx_run seq i 0 fun h => h.hm _ rfl).bind ?_
      -- as for `Match(None)`: the read of the weight and the two comparisons are decided first
      have hw : Rs.idx g.labels p = ok (g.labels.getD p 0) ∨
          (Rs.idx g.labels p = panic ∧ ¬StepPre seq head m K ⟨g, prev, i, nc⟩ (.m (some (q0, p)))) := by
        rcases idx_cases g.labels p 0 with e | e
        · exact Or.inl e
        · exact Or.inr ⟨e, fun h => by rw [GenSrc.idx_getD _ _ 0 (hp h)] at e; cases e⟩
      have s2 : decide (g.labels.getD p 0 ≠ seq.getD i 0) = decide (seq.getD i 0 ≠ g.labels.getD p 0) :=
        decide_eq_decide.mpr ne_comm
      have s4 : decide (seq.getD i 0 ≠ wildcard) = decide (seq.getD i 0 ≠ 88) := rfl
      have stop : ∀ {a}, ¬StepPre seq head m K ⟨g, prev, i, nc⟩ (.m (some (q0, p))) →
          Run (StepPre seq head m K ⟨g, prev, i, nc⟩ (.m (some (q0, p)))) (panic : Res (G × Nat × Nat × Bool)) a :=
        fun hP => ⟨Or.inr rfl, fun h => absurd h hP⟩
      -- if the read panics the step is outside `StepPre`; the text panics too, unless the wildcard test in front of the read spares it
      rcases hw with e | ⟨e, hP⟩ <;> try (simp only [e, panic_bind]; exact stop hP)
      all_goals first
        | (have := hP; cases s3 : decide (seq.getD i 0 ≠ 88))
        | (cases s1 : decide (seq.getD i 0 ≠ g.labels.getD p 0)
           case' true => cases s3 : decide (seq.getD i 0 ≠ 88))
      all_goals first
        | simp only [e, s2, s1, s4, s3, rep, addStep, G.addNode, ok_bind, pure_eq_ok, Bool.and_true, Bool.and_false,
            if_true, if_false, Bool.false_eq_true]
        | simp only [e, s2, s1, rep, addStep, ok_bind, pure_eq_ok, Bool.false_and, ite_self, if_false, Bool.false_eq_true]
        | simp only [e, s4, s3, rep, addStep, ok_bind, panic_bind, pure_eq_ok, Bool.and_false, if_true, if_false,
            Bool.false_eq_true]
      all_goals first
        | exact stop hP
        | cases hf : findEdge g.es prev p with
          | some k =>
            simp only []
            refine (edgeWeightAdd_run g k fun h => ?_).bind ((add64_run i 1 fun h => hi1 h (h.hm _ rfl)).bind (Run.ret _))
            have hk := findEdge_lt g.es prev p k hf
            have hw := h.inv.wts g.es[k] (List.getElem_mem hk)
            exact ⟨hk, hw.1, by have := hw.2; omega⟩
          | none =>
            simp only []
            by_cases hpn : (decide (prev ≠ head) && decide (prev ≠ p)) = true
            · simp only [hpn, if_true]
              exact (addEdge_run g prev p fun h => ⟨h.inv.prevLt, hp h⟩).bind
                ((add64_run i 1 fun h => hi1 h (h.hm _ rfl)).bind (Run.ret _))
            · simp only [hpn, if_false]
              exact (add64_run i 1 fun h => hi1 h (h.hm _ rfl)).bind (Run.ret _)
        | exact (idx_run seq i 0 fun h => h.hm _ rfl).bind
            ((addEdge_run _ prev _ fun h => ⟨lt_append_one _ _ h.inv.prevLt, length_lt_append_one _ _⟩).bind
              ((add64_run i 1 fun h => hi1 h (h.hm _ rfl)).bind (Run.ret _)))
  | i p =>
    cases p with
    | none =>
      simp only [Rs.Poa.addNode, G.addNode, bind_assoc, pure_bind]
      refine (idx_run seq i 0 fun h => h.hi _ rfl).bind ?_
      cases nc <;> simp only [rep, addStep, G.addNode, if_true, if_false, Bool.false_eq_true]
      · exact (add64_run i 1 fun h => hi1 h (h.hi _ rfl)).bind (Run.ret _)
      · exact (addEdge_run _ prev _ fun h => ⟨lt_append_one _ _ h.inv.prevLt, length_lt_append_one _ _⟩).bind
          ((add64_run i 1 fun h => hi1 h (h.hi _ rfl)).bind (Run.ret _))
    | some p =>
      simp only [Rs.Poa.addNode, G.addNode, bind_assoc, pure_bind, rep, addStep]
      exact (idx_run seq i 0 fun h => h.hi _ rfl).bind
        ((addEdge_run _ prev _ fun h => ⟨lt_append_one _ _ h.inv.prevLt, length_lt_append_one _ _⟩).bind
          ((add64_run i 1 fun h => hi1 h (h.hi _ rfl)).bind (Run.ret _)))
  | d pq => exact Run.ret _
  | x r => exact Run.ret _
  | y a b => exact Run.ret _

theorem addStep_inv (head m K : Nat) (seq : List Nat) (st : AddSt) (op : POp) (hinv : AInv head m (K + 1) st)
    (hp : ∀ a p, op = .m (some (a, p)) → p < m) : AInv head m K (addStep head seq st op) := by
  obtain ⟨g, prev, i, nc⟩ := st
  obtain ⟨h1, h2, h3, h4, h5⟩ := hinv
  simp only at h1 h2 h3 h5
  have hK : (K : Int) < 2147483647 := by omega
  have hw0 : ∀ e ∈ g.es, -2147483648 ≤ e.2.2 ∧ e.2.2 + (K : Int) ≤ 2147483647 := fun e he => by have := h5 e he; omega
  have hwadd : ∀ (u v : Nat), ∀ e ∈ g.es ++ [(u, v, (1 : Int))], -2147483648 ≤ e.2.2 ∧ e.2.2 + (K : Int) ≤ 2147483647 := by
    intro u v e he
    rcases List.mem_append.mp he with he | he
    · exact hw0 e he
    · simp only [List.mem_singleton] at he; subst he; simp only; omega
  have hwbump : ∀ k, ∀ e ∈ bumpEdge g.es k, -2147483648 ≤ e.2.2 ∧ e.2.2 + (K : Int) ≤ 2147483647 := by
    intro k e he
    rcases bumpEdge_mem g.es k e he with he | ⟨e0, he0, rfl⟩
    · exact hw0 e he
    · have := h5 e0 he0; simp only; omega
  have a1 : ∀ c, head < (g.labels ++ [c]).length := fun c => lt_append_one _ c h1
  have a2 : ∀ c, g.labels.length < (g.labels ++ [c]).length := length_lt_append_one _
  have a3 : ∀ c, m ≤ (g.labels ++ [c]).length := fun c => Nat.le_of_lt (Nat.lt_of_le_of_lt h3 (a2 c))
  cases op with
  | m pq =>
    cases pq with
    | none =>
      by_cases hm : (decide (seq.getD i 0 ≠ g.labels.getD head 0) && decide (seq.getD i 0 ≠ wildcard)) = true <;> cases nc <;>
        simp only [addStep, G.addNode, G.addEdge, hm, if_true, if_false, Bool.false_eq_true]
      · exact ⟨a1 _, a2 _, a3 _, hK, hw0⟩
      · exact ⟨a1 _, a2 _, a3 _, hK, hwadd _ _⟩
      · exact ⟨h1, h2, h3, hK, hw0⟩
      · exact ⟨h1, h1, h3, hK, hwadd _ _⟩
    | some pq =>
      obtain ⟨a, p⟩ := pq
      have hpm : p < g.labels.length := Nat.lt_of_lt_of_le (hp a p rfl) h3
      by_cases hm : (decide (seq.getD i 0 ≠ g.labels.getD p 0) && decide (seq.getD i 0 ≠ wildcard)) = true
      · simp only [addStep, G.addNode, G.addEdge, hm, if_true]
        exact ⟨a1 _, a2 _, a3 _, hK, hwadd _ _⟩
      · simp only [addStep, G.addEdge, hm, if_false, Bool.false_eq_true]
        cases findEdge g.es prev p with
        | some k => exact ⟨h1, hpm, h3, hK, hwbump k⟩
        | none =>
          by_cases hpn : (decide (prev ≠ head) && decide (prev ≠ p)) = true
          · simp only [hpn, if_true]; exact ⟨h1, hpm, h3, hK, hwadd _ _⟩
          · simp only [hpn, if_false, Bool.false_eq_true]; exact ⟨h1, hpm, h3, hK, hw0⟩
  | d pq => exact ⟨h1, h2, h3, hK, hw0⟩
  | i p =>
    cases p <;> cases nc <;> simp only [addStep, G.addNode, G.addEdge, if_true, if_false, Bool.false_eq_true]
    · exact ⟨a1 _, a2 _, a3 _, hK, hw0⟩
    · exact ⟨a1 _, a2 _, a3 _, hK, hwadd _ _⟩
    · exact ⟨a1 _, a2 _, a3 _, hK, hwadd _ _⟩
    · exact ⟨a1 _, a2 _, a3 _, hK, hwadd _ _⟩
  | x r => exact ⟨h1, h2, h3, hK, hw0⟩
  | y a b => exact ⟨h1, h2, h3, hK, hw0⟩

theorem addStep_i (head : Nat) (seq : List Nat) (st : AddSt) (op : POp) :
    (addStep head seq st op).i = match op with
      | .m _ => st.i + 1
      | .i _ => st.i + 1
      | .d _ => st.i
      | .x _ => st.i
      | .y _ c => c := by
  obtain ⟨g, prev, i, nc⟩ := st
  cases op with
  | m pq =>
    cases pq with
    | none =>
      by_cases hm : (decide (seq.getD i 0 ≠ g.labels.getD head 0) && decide (seq.getD i 0 ≠ wildcard)) = true <;> cases nc <;>
        simp only [addStep, G.addNode, hm, if_true, if_false, Bool.false_eq_true]
    | some pq =>
      obtain ⟨a, p⟩ := pq
      by_cases hm : (decide (seq.getD i 0 ≠ g.labels.getD p 0) && decide (seq.getD i 0 ≠ wildcard)) = true <;>
        simp only [addStep, G.addNode, hm, if_true, if_false, Bool.false_eq_true]
  | d pq => rfl
  | i p => cases p <;> rfl
  | x r => rfl
  | y a b => rfl

theorem fold_run (seq : List Nat) (head m : Nat) : ∀ (ops : List POp) (st : AddSt),
    Run (seq.length < 2 ^ 64 ∧ AInv head m ops.length st ∧ SeqOK seq.length m st.i ops)
      (List.foldlM (add_alignment_for1 seq head) (rep st) ops)
      (rep (ops.foldl (addStep head seq) st))
  | [], st => Run.ret _
  | op :: ops, st => by
    have hp : SeqOK seq.length m st.i (op :: ops) → ∀ a p, op = .m (some (a, p)) → p < m := by
      intro hs a p hh; subst hh; exact hs.2.1
    refine Run.bind_of ((for1_run seq head m ops.length st op).mono ?_) (fold_run seq head m ops (addStep head seq st op)) ?_
    · intro ⟨hn, hinv, hs⟩
      refine ⟨hinv, hn, ?_, ?_, hp hs⟩
      · intro pq hh; subst hh
        cases pq with
        | none => exact hs.1
        | some pq => obtain ⟨a, p⟩ := pq; exact hs.1
      · intro p hh; subst hh; exact hs.1
    · intro ⟨hn, hinv, hs⟩
      refine ⟨hn, addStep_inv head m ops.length seq st op hinv (hp hs), ?_⟩
      rw [addStep_i]
      cases op with
      | m pq =>
        cases pq with
        | none => exact hs.2
        | some pq => obtain ⟨a, p⟩ := pq; exact hs.2.2
      | d pq => exact hs
      | i p => exact hs.2
      | x r => exact hs
      | y a b => exact hs

theorem fold_eq (seq : List Nat) (head : Nat) (ops : List POp) (st : AddSt) (r : G × Nat × Nat × Bool)
    (h : List.foldlM (add_alignment_for1 seq head) (rep st) ops = ok r) :
    r = rep (ops.foldl (addStep head seq) st) :=
  (fold_run seq head 0 ops st).eq_of_ok h

theorem fold_total (seq : List Nat) (head m : Nat) (hn : seq.length < 2 ^ 64) (ops : List POp) (st : AddSt)
    (hinv : AInv head m ops.length st) (hs : SeqOK seq.length m st.i ops) :
    List.foldlM (add_alignment_for1 seq head) (rep st) ops =
      ok (rep (ops.foldl (addStep head seq) st)) :=
  (fold_run seq head m ops st).2 ⟨hn, hinv, hs⟩

theorem topo_headD (g : G) (hd : Nat) (h : (Rs.Poa.topoOrder g).head? = some hd) :
    (topo g.labels.length g.es).headD 0 = hd := by
  unfold Rs.Poa.topoOrder at h
  cases hl : topo g.labels.length g.es with
  | nil => rw [hl] at h; cases h
  | cons a l => rw [hl] at h; cases h; rfl

/-- **the translated `Poa::add_alignment` refines the mirror model**: whenever it returns, it returns the model's graph -/
theorem add_alignment_eq_model (g : G) (aln : Rs.Poa.Alignment) (seq : List Nat) (g' : G)
    (h : add_alignment g aln seq = ok g') : g' = addAlignment g aln.operations seq := by
  unfold add_alignment at h
  cases ht : (Rs.Poa.topoOrder g).head? with
  | none => rw [ht] at h; cases h
  | some hd =>
    rw [ht, Rs.expect_some, Res.ok_bind] at h
    obtain ⟨r, hf, hr⟩ := Res.bind_eq_ok.mp h
    rw [fold_eq seq hd aln.operations { g := g, prev := hd } r hf] at hr
    cases hr
    unfold addAlignment
    rw [topo_headD g hd ht]

/-- **the translated `Poa::add_alignment` returns on every valid operation list** (and then returns the model's graph): non-empty
graph whose topological head is a node, sequence shorter than `2^64`, the list valid for sequence and graph (`SeqOK`), fewer than
`2^31 − 1` operations and every edge weight with room for that many increments (the explicit size hypothesis for `weight + 1`) -/
theorem add_alignment_total (g : G) (aln : Rs.Poa.Alignment) (seq : List Nat)
    (hh : ∃ hd, (topo g.labels.length g.es).head? = some hd ∧ hd < g.labels.length) (hn : seq.length < 2 ^ 64)
    (hK : (aln.operations.length : Int) < 2147483647)
    (hw : ∀ e ∈ g.es, -2147483648 ≤ e.2.2 ∧ e.2.2 + (aln.operations.length : Int) ≤ 2147483647)
    (hs : SeqOK seq.length g.labels.length 0 aln.operations) :
    add_alignment g aln seq = ok (addAlignment g aln.operations seq) := by
  obtain ⟨hd, hhd, hlt⟩ := hh
  have hrun := fold_total seq hd g.labels.length hn aln.operations { g := g, prev := hd }
    ⟨hlt, hlt, Nat.le_refl _, hK, hw⟩ hs
  simp only [rep] at hrun
  simp only [add_alignment, addAlignment, show (Rs.Poa.topoOrder g).head? = some hd from hhd, Rs.expect_some, Res.ok_bind,
    hrun, topo_headD g hd hhd]
  rfl

end RbV.Thm.GenSrcPoaAdd
