import RbV.Basic.I32
import RbV.Basic.RsSemGensparse
/-!
The `i32` arithmetic of the translated text (`Rs.iadd 32`, `Rs.imul 32`: `Basic/RsSemInt.lean`; `x as i32` = `Rs.castSigned 32`:
`Basic/RsSemGensparse.lean`) against the checked
mirror the aligner models are written in (`I32.add`, `I32.mul`, `I32.ofUsize`: `Basic/I32.lean`): the two ranges are the same
interval, so the translated operation returns what the mirror returns and panics exactly where the mirror has `none`
(`iadd32`, `imul32`, `castSigned32`: equations through `ofOpt`; the `_some` forms are what a proof that has the mirror's value uses).
Shared by the source-equality proofs of the pairwise aligner and of the partial-order aligner; `ofOpt` and the three equations
keep the namespace of the pairwise aligner's proofs, whose statements name them.
-/
namespace RbV.Thm.GenSrcI32
open RbV RbV.Rs

theorem inS32 (k : Int) : Rs.InS 32 k ↔ I32.InRange k := by
  unfold Rs.InS I32.InRange
  have : ((2 ^ (32 - 1) : Nat) : Int) = 2147483648 := by decide
  rw [this]; omega

/-- `x as i32` from `usize`, however the translator spells the truncation (`Rs.castSigned 32 x`, `Rs.usizeAsI32 x`) -/
theorem toSigned32_mod (x : Nat) : Rs.toSigned 32 (x % 2 ^ 32) = I32.ofUsize x := by
  unfold Rs.toSigned I32.ofUsize
  have e1 : (2 : Nat) ^ 32 = 4294967296 := by decide
  have e2 : (2 : Nat) ^ (32 - 1) = 2147483648 := by decide
  rw [e1, e2]
  split <;> omega

end RbV.Thm.GenSrcI32

namespace RbV.Thm.GenSrcPwCustom
open RbV RbV.Rs

/-- a panic of the translated text is the `none` of the checked mirror -/
def ofOpt {α : Type} : Option α → Res α
  | some a => .ok a
  | none => .panic

@[simp] theorem ofOpt_some {α : Type} (a : α) : ofOpt (some a) = .ok a := rfl
@[simp] theorem ofOpt_none {α : Type} : ofOpt (none : Option α) = .panic := rfl

theorem iadd32 (a b : Int) : Rs.iadd 32 a b = ofOpt (I32.add a b) := by
  unfold Rs.iadd I32.add
  by_cases h : I32.InRange (a + b)
  · rw [if_pos ((GenSrcI32.inS32 _).2 h), if_pos h]; rfl
  · rw [if_neg (fun h' => h ((GenSrcI32.inS32 _).1 h')), if_neg h]; rfl

theorem imul32 (a b : Int) : Rs.imul 32 a b = ofOpt (I32.mul a b) := by
  unfold Rs.imul I32.mul
  by_cases h : I32.InRange (a * b)
  · rw [if_pos ((GenSrcI32.inS32 _).2 h), if_pos h]; rfl
  · rw [if_neg (fun h' => h ((GenSrcI32.inS32 _).1 h')), if_neg h]; rfl

theorem castSigned32 (i : Nat) : Rs.castSigned 32 i = I32.ofUsize i := GenSrcI32.toSigned32_mod i

end RbV.Thm.GenSrcPwCustom

namespace RbV.Thm.GenSrcI32
open RbV RbV.Rs RbV.Thm.GenSrcPwCustom

theorem iadd32_some {a b v : Int} (h : I32.add a b = some v) : Rs.iadd 32 a b = .ok v := by rw [iadd32, h]; rfl

theorem imul32_some {a b v : Int} (h : I32.mul a b = some v) : Rs.imul 32 a b = .ok v := by rw [imul32, h]; rfl

end RbV.Thm.GenSrcI32
