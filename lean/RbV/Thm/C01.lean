import RbV.Spec.Align
import RbV.Ref.Gotoh
import RbV.Lemmas.AlignRev
import RbV.Model.PairwiseCustom
import RbV.Model.PairwiseFill
import RbV.Lemmas.FillFinal
import RbV.Lemmas.FillAccept
import RbV.Model.PairwiseFillI32
import RbV.Lemmas.FillI32
import RbV.Thm.GenLimits
import RbV.Thm.GenTbCodes
import RbV.Thm.GenSrcPwTypes
import RbV.Thm.GenSrcPwModes
import RbV.Thm.GenSrcPwCustom
import RbV.Thm.GenSrcPwKeeps
import RbV.Thm.GenSrcPwColumn
import RbV.Thm.GenSrcPwColStep
import RbV.Thm.GenSrcPwColGlue
/-!
# C01 — pairwise alignment is optimal and its reported path achieves the reported score

Property theorems, their non-vacuity examples, and the small definitions those examples need (`scU`, `scBig`, `probe*`,
`srcRun`).  Specification: `RbV/Spec/Align.lean`; reference optimum: `RbV/Ref/Gotoh.lean`; mirrors of `Aligner::custom`:
`RbV/Model/Pairwise*.lean`; proofs: `RbV/Lemmas/AlignRev.lean`, `RbV/Lemmas/Fill*.lean` (the mirrors) and
`RbV/Thm/GenSrcPw*.lean` (the translated source text).
The specification theorems (`C01_accept_iff` … `valid_iff_has_score`, the reversal and splitting lemmas) hold for every pair of
sequences (including empty ones), every substitution function `w : Nat → Nat → Int`, all integer gap penalties and all clip
penalties, and do not depend on the value of `MIN_SCORE` (just an integer there: `Align.minScore` is *defined* as the constant
extracted from the source text of `pairwise/mod.rs` on every run, `RbV/Gen/Limits.lean`; −858 993 459 in rust-bio b41c60a; what
the value itself must satisfy is the section on the source-extracted obligations).
The theorems about `Aligner::custom` are about its hand-written mirrors `fill` / `custom` / `fillC` / `customC`
(`RbV/Model/PairwiseFill*.lean`); they need `gap_open, gap_extend ≤ 0`, the four clip penalties `≤ 0` and the envelope `Sane` /
`I32Env` / `AlignEnv`, all of which mention `MIN_SCORE`.  The theorems about the translated text stop at the main loop (last
section); none of them links the text to `fillC`, `customC` or `opt`: that tie is kernel-evaluated examples and the driver's
comparison on every call.  Covered by no theorem here: the path of the filtered (semiglobal / local) output (`accept … false …`
throughout), and the history clause of C01 for the returned alignment (only `scoring` and the traceback matrix are shown not to
carry history).
-/
namespace RbV.Thm.C01
open RbV.Align

/-- **Base theorem.** The acceptance function run by the driver on every reported alignment is true exactly
when the property's three clauses hold of it: the operations and coordinates describe a real alignment of
exactly the reported sub-ranges (with the clip representation rule of DESIGN §4), the independently
recomputed score (affine gaps + clip penalty of every non-empty clipped end) equals the reported score, and
the reported score is the optimum over *all* alignments of *all* sub-range pairs. -/
theorem C01_accept_iff (sc : Sc) (cl : Clip) (filtered : Bool) (x y : List Nat) (o : Out) :
    accept sc cl filtered x y o = true ↔
      (IsAln x y o.toAln ∧ ClipRule filtered x y o ∧ AlnScore sc cl x y o.toAln o.score ∧
        Optimal sc cl x y o.score) :=
  accept_iff sc cl filtered x y o

/-- The reference value is the optimum of the documented model: some alignment attains it and no alignment of
any pair of sub-ranges exceeds it. -/
theorem opt_is_optimal (sc : Sc) (cl : Clip) (x y : List Nat) : Optimal sc cl x y (opt sc cl x y) :=
  opt_optimal sc cl x y

/-- The optimum is unique, so comparing the reported score with `opt` for equality is exactly the property. -/
theorem optimum_unique (sc : Sc) (cl : Clip) (x y : List Nat) (s t : Int)
    (hs : Optimal sc cl x y s) (ht : Optimal sc cl x y t) : s = t :=
  Optimal_unique hs ht

/-- No operation list aligning exactly `x` with `y` scores above `best` … -/
theorem best_is_upper_bound (sc : Sc) (st : St) (x y : List Nat) (ops : List Op) (v : Int)
    (h : score sc st x y ops = some v) : v ≤ best sc st x y :=
  best_upper sc ops st x y v h

/-- … and one attains it. -/
theorem best_is_attained (sc : Sc) (st : St) (x y : List Nat) :
    ∃ ops, score sc st x y ops = some (best sc st x y) :=
  best_attained sc st x y

/-- `table_eq_best`: the efficient table evaluated by the driver holds exactly the values of the recursive
optimum, for every suffix of `x` and every suffix of `y`. -/
theorem table_eq_best (sc : Sc) (x y : List Nat) : rows sc x y = specRows sc x y :=
  rows_eq_spec sc x y

/-- Validity does not depend on the scoring scheme: an operation list has a score iff it is valid. -/
theorem valid_iff_has_score (sc : Sc) (st : St) (x y : List Nat) (ops : List Op) :
    valid x y ops = true ↔ ∃ v, score sc st x y ops = some v :=
  valid_iff_score sc st x y ops

def scU' : Sc := ⟨fun a b => if a = b then 1 else -1, -5, -1⟩

/-! ### Mirror model of `Aligner::custom` (`RbV/Model/PairwiseCustom.lean`); reversal and splitting of the specification score

The model follows the Rust code statement by statement (rolling columns, `Lx/Ly/Sn`, traceback cells, post-loops,
traceback state machine) and is *run* by the driver on every call: in the quick and thorough tiers it reproduces the
implementation's whole `Alignment` value (score, coordinates, operations, tie-breaks included) on every call
(tag `model=impl`; a difference would be tag `drift-*`, never a violation).

No refinement theorem is proved about this imperative mirror (`Model.Pairwise.custom`); its agreement with the
implementation and with the functional mirror is what the driver samples.  The theorems "the reported score is optimal and
the reported alignment is accepted" are proved for the functional mirror `Model/PairwiseFill.lean` (`fill_score_eq_opt`,
`custom_model_accepted`, next section) and for its checked-`i32` variant (`custom_i32_correct`).  The three lemmas below are
about the specification alone: the matrix reads the affine score forwards (by prefixes), `best` backwards (by suffixes). -/

/-- **Reversal invariance of the score**: the score of an operation list is invariant under
reversing both sequences and the list — a run of k insertions/deletions costs `go + k·ge` from either end — so the
prefix-indexed matrix of the code and the suffix-recursive specification talk about the same quantity.  The name promises
more than the statement: DESIGN §7 keeps it for an unfinished refinement theorem of the mirror model; what stands under it is
this symmetry of the specification's `score` only, which mentions neither a model of `custom` nor `opt`.  That the mirror of the
DP computes the optimum is `fill_score_eq_opt` / `custom_model_accepted`. -/
theorem custom_score_eq_opt_partial (sc : Sc) (ops : List Op) (x y : List Nat) (v : Int)
    (h : score sc .none x y ops = some v) : score sc .none x.reverse y.reverse ops.reverse = some v :=
  score_reverse sc ops x y v h

/-- consequence: the optimum of the reversed problem equals the optimum of the original one -/
theorem best_prefix_suffix_symmetry (sc : Sc) (x y : List Nat) :
    best sc .none x.reverse y.reverse = best sc .none x y :=
  best_reverse sc x y

/-- scores compose along a split of both sequences (the step that lets a column-by-column DP extend alignments) -/
theorem score_splits (sc : Sc) (ops1 : List Op) (st : St) (x1 y1 : List Nat) (v1 : Int)
    (h : score sc st x1 y1 ops1 = some v1) (x2 y2 : List Nat) (ops2 : List Op) :
    score sc st (x1 ++ x2) (y1 ++ y2) (ops1 ++ ops2) = (score sc (lastSt st ops1) x2 y2 ops2).map (· + v1) :=
  score_append sc ops1 st x1 y1 v1 h x2 y2 ops2

-- non-vacuity: M I I D on (ACC, AG) scores 1 − 7 − 6 = −12 forwards and backwards (D I I M on (CCA, GA))
example : score scU' .none [0, 1, 1] [0, 2] [.mat, .ins, .ins, .del] = some (-12) := by decide +kernel
example : score scU' .none [1, 1, 0] [2, 0] [.del, .ins, .ins, .mat] = some (-12) := by decide +kernel
-- the mirror model on a concrete call (module-doc style: x prefix clip −1, x suffix clip −2)
example : Model.Pairwise.custom scU' ⟨-1, -2, minScore, minScore⟩ [0, 1, 1, 0] [1, 1] =
    some ⟨-1, 1, 3, 0, 2, 4, 2, [.xclip 1, .core .mat, .core .mat, .xclip 1]⟩ := by decide +kernel

/-! ### The matrix fill of `Aligner::custom` computes the optimum (`RbV/Model/PairwiseFill.lean`)

`Model.PairwiseFill.fill` is a *functional* mirror of the fill of `Aligner::custom` (column 0, one column step per symbol
of `y` with the `i = 0` block, the rolling `S/I/D` columns, the x-suffix-clip register `S[curr][m]`, `Sn`, the `j = n`
handling, the two loops over the last column), statement by statement, same comparisons and strictness.  The driver
evaluates it on every call next to the implementation (tags `fill-model=impl` / `drift-fill-score`, and
`fill-model=imp-model` against the imperative model) and evaluates the hypotheses below (`fill-thm-hyp`).

`fill_score_eq_opt`: for **all** sequences, substitution functions, gap and
clip penalties `≤ 0` (`MIN_SCORE` or anything else) inside the `Sane` envelope, the score left in `S[n % 2][m]` is the
optimum of the documented model.  No fixed size bound: the only bound on `m + n` is the one `Sane` implies.
* `opt ≤ score`, completeness (`RbV/Lemmas/FillComplete.lean`, `FillFinal.lean`; column invariant, induction over `j`, inside a
  column over `i`): every cell dominates every alignment ending there, `Sn[i]`
  every y-suffix-clipped one, and the first post-loop makes `S[n%2][m]` dominate all of them (neither the second
  post-loop, nor the x-suffix register of the inner columns, nor the "delete y[0..j]" half of `xclip_score`, nor
  `yclip_score` are needed for this direction: the equivalent mutants m2/m12 of docs/notes/C01.md);
* `score ≤ opt`: the code left in `traceback[m][n]` is good for the score (`corner_good`, the traceback proof below), so the
  score is at most the value of a real alignment (`≤`, not `=`: a path through a clip re-opens a gap that the alignment
  merely extends, and the code charges a zero-length y-suffix clip in column `n`);
* of `Sane` only `MIN_SCORE < 2·gap_open + (m+n)·gap_extend` is used (`SaneHyp`): no S cell holds junk
  (`RbV/Lemmas/FillLower.lean`); the bound `W` on the substitution scores is not needed.
The traceback is `custom_model_accepted` below, `i32` arithmetic the section after it.  Not proved: the equality of the
functional with the imperative model (sampled by the driver on every call); what is proved about the source text is the
last section (`custom_main_loop_source_eq_model_partial`). -/

/-- **The functional mirror `Model.PairwiseFill.fill` of the DP of `Aligner::custom` computes the optimum** (gap and clip
penalties `≤ 0`, `Sane`; no theorem equates the mirror with the translated text).  `W` is any bound on the substitution scores that occur;
`Sane` makes `MIN_SCORE` act as minus infinity (`MIN_SCORE + (m+n)·W < 2·gap_open + (m+n)·gap_extend`). -/
theorem fill_score_eq_opt (sc : Sc) (cl : Clip) (x y : List Nat) (W : Int)
    (hgo : sc.go ≤ 0) (hge : sc.ge ≤ 0) (hcl : cl.xp ≤ 0 ∧ cl.xs ≤ 0 ∧ cl.yp ≤ 0 ∧ cl.ys ≤ 0)
    (hsane : Model.PairwiseFill.Sane sc x y W) :
    (Model.PairwiseFill.fill sc cl x y).score = opt sc cl x y :=
  Model.PairwiseFill.fill_score_eq_opt_aux (.of_sane hgo hge hcl hsane)

/-- … hence it is `Optimal`: attained by an alignment of a sub-range pair, exceeded by none -/
theorem fill_score_optimal (sc : Sc) (cl : Clip) (x y : List Nat) (W : Int)
    (hgo : sc.go ≤ 0) (hge : sc.ge ≤ 0) (hcl : cl.xp ≤ 0 ∧ cl.xs ≤ 0 ∧ cl.yp ≤ 0 ∧ cl.ys ≤ 0)
    (hsane : Model.PairwiseFill.Sane sc x y W) :
    Optimal sc cl x y (Model.PairwiseFill.fill sc cl x y).score := by
  rw [fill_score_eq_opt sc cl x y W hgo hge hcl hsane]; exact opt_optimal sc cl x y

/-- score corollaries of `fill_score_eq_opt` (the mirror) for the clip penalties the mode wrappers install — that they install
these is `*_source_eq_custom_with_mode_clips`; no wrapper and no clip filtering occurs here, and the filtered path of semiglobal /
local is checked per call by `accept`, not proved: global … -/
theorem fill_score_eq_opt_global (sc : Sc) (x y : List Nat) (W : Int) (hgo : sc.go ≤ 0) (hge : sc.ge ≤ 0)
    (hsane : Model.PairwiseFill.Sane sc x y W) :
    (Model.PairwiseFill.fill sc ⟨minScore, minScore, minScore, minScore⟩ x y).score =
      opt sc ⟨minScore, minScore, minScore, minScore⟩ x y := by
  have h : minScore ≤ 0 := Int.le_of_lt GenLimits.min_score_range.2
  exact fill_score_eq_opt sc _ x y W hgo hge ⟨h, h, h, h⟩ hsane

/-- … semiglobal (x global, y local) … -/
theorem fill_score_eq_opt_semiglobal (sc : Sc) (x y : List Nat) (W : Int) (hgo : sc.go ≤ 0) (hge : sc.ge ≤ 0)
    (hsane : Model.PairwiseFill.Sane sc x y W) :
    (Model.PairwiseFill.fill sc ⟨minScore, minScore, 0, 0⟩ x y).score = opt sc ⟨minScore, minScore, 0, 0⟩ x y := by
  have h : minScore ≤ 0 := Int.le_of_lt GenLimits.min_score_range.2
  exact fill_score_eq_opt sc _ x y W hgo hge ⟨h, h, Int.le_refl 0, Int.le_refl 0⟩ hsane

/-- … and local -/
theorem fill_score_eq_opt_local (sc : Sc) (x y : List Nat) (W : Int) (hgo : sc.go ≤ 0) (hge : sc.ge ≤ 0)
    (hsane : Model.PairwiseFill.Sane sc x y W) :
    (Model.PairwiseFill.fill sc ⟨0, 0, 0, 0⟩ x y).score = opt sc ⟨0, 0, 0, 0⟩ x y :=
  fill_score_eq_opt sc _ x y W hgo hge ⟨Int.le_refl 0, Int.le_refl 0, Int.le_refl 0, Int.le_refl 0⟩ hsane

/-- completeness half, without `Sane` (here `MIN_SCORE` may be any integer), for `gap_extend ≤ 0` and `xclip_suffix ≤ 0`
(`gap_open` and the other clip penalties arbitrary): the mirror `fill` never misses an alignment -/
theorem fill_score_ge_every_alignment (sc : Sc) (cl : Clip) (x y : List Nat) (hge : sc.ge ≤ 0) (hxs : cl.xs ≤ 0)
    (a : Aln) (v : Int) (ha : IsAln x y a) (hv : AlnScore sc cl x y a v) :
    v ≤ (Model.PairwiseFill.fill sc cl x y).score := by
  obtain ⟨h1, h2, h3, h4, _⟩ := ha
  obtain ⟨c, hc, rfl⟩ := hv
  exact Model.PairwiseFill.score_complete hge hxs a.xs a.xe a.ys a.ye a.ops c h1 h2 h3 h4 hc

/-! #### The traceback: the whole function is accepted

`Model.PairwiseFill.custom` adds to the fill the traceback cells (S/I/D fields written under the conditions of the Rust
text), `Lx`, `Ly`, the rewriting of the last column by the two post-loops, and the traceback `loop` (with fuel
`2(m+n)+16`).  The driver compares its whole `Alignment` with the implementation's on every call (`fill-path=impl` /
`drift-fill-path`).  `custom_model_accepted`, for this
functional mirror: the loop terminates inside its fuel, and the reported alignment passes `accept` — by
`C01_accept_iff`: it is a real alignment of the reported sub-ranges, obeys the clip representation rule, its recomputed
score (clip penalties included) **equals** the reported score, and the reported score is optimal.

Proof (`RbV/Lemmas/FillWitAt.lean` … `FillAccept.lean`): `Good T i j c v` — started at `(i, j)` with `last_layer = c`
the loop stops after `≤ i + j` iterations and what it pushed is an alignment of value `≥ v`, with the four coordinate
registers and the clip lengths right; one lemma per arm of the `match`; the fill writes, next to every value, a code
that is good for it (columns `j < n`: induction over `j`, `i`; column `n`: the rows through both post-loops, then the
registers `S[curr][m]` / S field of `traceback[m][n]` / `Lx[n]`).  The path's value is `≥` the reported score and
`≤` the optimum, which the score equals by `fill_score_eq_opt` — hence equality.  That no cell holds junk (so that no
code is the untouched default and no gap is "extended" out of a sentinel) is `RbV/Lemmas/FillLower.lean`. -/

/-- **The functional mirror of the whole of `Aligner::custom` is accepted** (same hypotheses as `fill_score_eq_opt`) -/
theorem custom_model_accepted (sc : Sc) (cl : Clip) (x y : List Nat) (W : Int)
    (hgo : sc.go ≤ 0) (hge : sc.ge ≤ 0) (hcl : cl.xp ≤ 0 ∧ cl.xs ≤ 0 ∧ cl.yp ≤ 0 ∧ cl.ys ≤ 0)
    (hsane : Model.PairwiseFill.Sane sc x y W) :
    ∃ o, Model.PairwiseFill.custom sc cl x y = some o ∧ accept sc cl false x y o = true :=
  Model.PairwiseFill.custom_accept_aux (.of_sane hgo hge hcl hsane)

/-- spelled out with `C01_accept_iff`: the model's output has the three properties of C01 -/
theorem custom_model_correct (sc : Sc) (cl : Clip) (x y : List Nat) (W : Int)
    (hgo : sc.go ≤ 0) (hge : sc.ge ≤ 0) (hcl : cl.xp ≤ 0 ∧ cl.xs ≤ 0 ∧ cl.yp ≤ 0 ∧ cl.ys ≤ 0)
    (hsane : Model.PairwiseFill.Sane sc x y W) :
    ∃ o, Model.PairwiseFill.custom sc cl x y = some o ∧ IsAln x y o.toAln ∧ ClipRule false x y o ∧
      AlnScore sc cl x y o.toAln o.score ∧ Optimal sc cl x y o.score := by
  obtain ⟨o, ho, ha⟩ := custom_model_accepted sc cl x y W hgo hge hcl hsane
  exact ⟨o, ho, (C01_accept_iff sc cl false x y o).mp ha⟩

-- non-vacuity: the model's whole output on the module-doc call, and the theorem instantiated on it
example : Model.PairwiseFill.custom scU' ⟨-1, -2, minScore, minScore⟩ [0, 1, 1, 0] [1, 1] =
    some ⟨-1, 1, 3, 0, 2, 4, 2, [.xclip 1, .core .mat, .core .mat, .xclip 1]⟩ := by decide +kernel
example : ∃ o, Model.PairwiseFill.custom scU' ⟨-1, -2, minScore, minScore⟩ [0, 1, 1, 0] [1, 1] = some o ∧
    accept scU' ⟨-1, -2, minScore, minScore⟩ false [0, 1, 1, 0] [1, 1] o = true :=
  custom_model_accepted scU' ⟨-1, -2, minScore, minScore⟩ [0, 1, 1, 0] [1, 1] 1 (by decide) (by decide) (by decide)
    (by decide)

-- non-vacuity: the hypotheses hold (`decide`) for the module-doc style call (x prefix clip −1, x suffix clip −2, y clips
-- `MIN_SCORE`), W = 1, and the theorem then gives the concrete equation; the value is −1
example : (Model.PairwiseFill.fill scU' ⟨-1, -2, minScore, minScore⟩ [0, 1, 1, 0] [1, 1]).score =
    opt scU' ⟨-1, -2, minScore, minScore⟩ [0, 1, 1, 0] [1, 1] :=
  fill_score_eq_opt scU' ⟨-1, -2, minScore, minScore⟩ [0, 1, 1, 0] [1, 1] 1 (by decide) (by decide) (by decide) (by decide)
example : (Model.PairwiseFill.fill scU' ⟨-1, -2, minScore, minScore⟩ [0, 1, 1, 0] [1, 1]).score = -1 := by decide +kernel
example : Model.PairwiseFill.thmHyp scU' ⟨minScore, minScore, minScore, minScore⟩ [0, 1, 0] [0, 0] = true := by decide +kernel
example : (Model.PairwiseFill.fill scU' ⟨minScore, minScore, minScore, minScore⟩ [0, 1, 0] [0, 0]).score = -4 := by
  decide +kernel
-- `Sane` is a real restriction: sequences so long that the worst global alignment falls below `MIN_SCORE` are outside
example : ¬ Model.PairwiseFill.Sane ⟨fun _ _ => 0, minScore, 0⟩ [0] [0] 0 := by decide +kernel

/-! ### `i32`: the fixed-width arithmetic of `Aligner::custom` (`RbV/Model/PairwiseFillI32.lean`)

The Rust code computes every score in `i32`; the harness is built with `overflow-checks`, so an overflow is a panic.
`Model.PairwiseFill.fillC` / `customC` are the mirror with **every `+` and `*` of the Rust text checked** (`I32.add`,
`I32.mul`: `none` outside `[−2³¹, 2³¹)`; `i as i32` = truncating cast), in the order and association of the text.

* `custom_i32_no_overflow`: inside the parametric envelope `I32Env sc cl x y B` — `B ≥ 1` bounds `|w|` on the symbol pairs
  that occur and `|gap_open|`, `|gap_extend|`; gap and clip penalties `≤ 0`; clip penalties `≥ MIN_SCORE` (anything in
  between); `(max(m, n) + 1)·B ≤ 2³¹ + MIN_SCORE` (exact) — **no checked operation fails and the checked mirror returns exactly
  what the unbounded mirror returns**.  Proof (`Lemmas/FillI32Step.lean`, `FillI32.lean`): every `S`, `Sn`, `S[curr][m]`
  of row `i` lies in `[MIN_SCORE, i·B]`, every `I`, `D` in `[MIN_SCORE − 2B, i·B]` (induction over columns and rows), so
  every intermediate sum lies in `[2·MIN_SCORE, (i+1)·B]` or above `MIN_SCORE − (max(m,n) + 1)·B`; `2·MIN_SCORE ≥ −2³¹`
  is the promise of the constant's doc comment (`two_min_scores_no_i32_overflow`).
* with `Sane` in addition, the `i32` computation is optimal and accepted (`fill_i32_score_eq_opt`, `custom_i32_accepted`);
* one parametric envelope implies both: `AlignEnv sc cl x y B` — the same bounds with `2·(m + n + 1)·B < −MIN_SCORE`
  (`alignEnv_i32Env`, `alignEnv_sane`, `custom_i32_correct`).  The fixed envelope |scores| ≤ 1024, lengths ≤ 64
  is an instance (`fixed_envelope_is_instance`); harness and generator use `AlignEnv` itself.
* outside: `decide`d examples below — an overflow (`Outcome.overflow`), and the limit of "`MIN_SCORE` = −∞": a *legitimate*
  optimum below `MIN_SCORE` is not found (the traceback does not even terminate: `Outcome.noTermination`). -/

/-- **No `i32` overflow inside the envelope; the checked mirror is the unbounded mirror.** -/
theorem custom_i32_no_overflow (sc : Sc) (cl : Clip) (x y : List Nat) (B : Int)
    (henv : Model.PairwiseFill.I32Env sc cl x y B) :
    Model.PairwiseFill.fillC sc cl x y = some (Model.PairwiseFill.fill sc cl x y) ∧
      Model.PairwiseFill.customC sc cl x y =
        (match Model.PairwiseFill.custom sc cl x y with
         | none => .noTermination
         | some o => .done o) :=
  ⟨Model.PairwiseFill.fillC_eq henv, Model.PairwiseFill.customC_eq henv⟩

/-- the score the checked-`i32` mirror `fillC` leaves in `S[n % 2][m]` is the optimum (`I32Env` for the arithmetic, `Sane` for the
sentinel) -/
theorem fill_i32_score_eq_opt (sc : Sc) (cl : Clip) (x y : List Nat) (B W : Int)
    (henv : Model.PairwiseFill.I32Env sc cl x y B) (hsane : Model.PairwiseFill.Sane sc x y W) :
    ∃ f, Model.PairwiseFill.fillC sc cl x y = some f ∧ f.score = opt sc cl x y :=
  ⟨_, Model.PairwiseFill.fillC_eq henv,
    fill_score_eq_opt sc cl x y W henv.go.2 henv.ge.2 ⟨henv.xp.2, henv.xs.2, henv.yp.2, henv.ys.2⟩ hsane⟩

/-- **the checked-`i32` mirror `customC` of the whole of `Aligner::custom` is accepted** (`I32Env`, `Sane`): no overflow, the traceback terminates, the
reported alignment passes `accept` -/
theorem custom_i32_accepted (sc : Sc) (cl : Clip) (x y : List Nat) (B W : Int)
    (henv : Model.PairwiseFill.I32Env sc cl x y B) (hsane : Model.PairwiseFill.Sane sc x y W) :
    ∃ o, Model.PairwiseFill.customC sc cl x y = .done o ∧ accept sc cl false x y o = true := by
  obtain ⟨o, ho, ha⟩ := custom_model_accepted sc cl x y W henv.go.2 henv.ge.2
    ⟨henv.xp.2, henv.xs.2, henv.yp.2, henv.ys.2⟩ hsane
  refine ⟨o, ?_, ha⟩
  rw [Model.PairwiseFill.customC_eq henv, ho]

/-- the parametric envelope implies the no-overflow envelope … -/
theorem alignEnv_i32Env (sc : Sc) (cl : Clip) (x y : List Nat) (B : Int)
    (h : Model.PairwiseFill.AlignEnv sc cl x y B) : Model.PairwiseFill.I32Env sc cl x y B := by
  obtain ⟨hB, h1, h2, h3, h4, h5, h6, h7, h8, hr⟩ := h
  refine ⟨hB, h1, h2, h3, h4, h5, h6, h7, h8, ?_⟩
  clear h1 h2 h3 h4 h5 h6 h7 h8
  have hms := Model.PairwiseFill.minScore_i32
  have hle : (((max x.length y.length : Nat) : Int) + 1) * B ≤ 2 * (((x.length : Int) + y.length + 1) * B) := by
    have e : 2 * (((x.length : Int) + y.length + 1) * B) = (2 * ((x.length : Int) + y.length + 1)) * B := by
      rw [Int.mul_assoc]
    rw [e]
    exact Int.mul_le_mul_of_nonneg_right (by omega) (by omega)
  omega

/-- … and `Sane` with `W = B` -/
theorem alignEnv_sane (sc : Sc) (cl : Clip) (x y : List Nat) (B : Int)
    (h : Model.PairwiseFill.AlignEnv sc cl x y B) : Model.PairwiseFill.Sane sc x y B := by
  obtain ⟨hB, h1, h2, h3, h4, h5, h6, h7, h8, hr⟩ := h
  refine ⟨by omega, h2, ?_⟩
  clear h1 h2 h5 h6 h7 h8
  have h9 : -B * ((x.length : Int) + y.length) ≤ sc.ge * ((x.length : Int) + y.length) :=
    Int.mul_le_mul_of_nonneg_right h4.1 (by omega)
  have e1 : -B * ((x.length : Int) + y.length) = -(((x.length : Int) + y.length) * B) := by
    rw [Int.neg_mul, Int.mul_comm]
  have e2 : ((x.length : Int) + y.length + 1) * B = ((x.length : Int) + y.length) * B + B := by
    rw [Int.add_mul, Int.one_mul]
  omega

/-- **C01 for the `i32` computation, one envelope**: for all sequences, substitution functions, gap and clip penalties
with `AlignEnv sc cl x y B` for some `B`, the checked-`i32` mirror of `Aligner::custom` does not overflow, terminates, and
reports a real alignment of the reported sub-ranges that obeys the clip rule, whose recomputed score equals the
reported score, which is optimal. -/
theorem custom_i32_correct (sc : Sc) (cl : Clip) (x y : List Nat) (B : Int)
    (h : Model.PairwiseFill.AlignEnv sc cl x y B) :
    ∃ o, Model.PairwiseFill.customC sc cl x y = .done o ∧ IsAln x y o.toAln ∧ ClipRule false x y o ∧
      AlnScore sc cl x y o.toAln o.score ∧ Optimal sc cl x y o.score := by
  obtain ⟨o, ho, ha⟩ := custom_i32_accepted sc cl x y B B (alignEnv_i32Env sc cl x y B h) (alignEnv_sane sc cl x y B h)
  exact ⟨o, ho, (C01_accept_iff sc cl false x y o).mp ha⟩

/-- non-vacuity of `AlignEnv`: the envelope (|substitution scores|, |gap penalties| ≤ 1024, clip penalties in
`{MIN_SCORE} ∪ [−1024, 0]`, lengths ≤ 64) is an instance of `AlignEnv` with `B = 1024` -/
theorem fixed_envelope_is_instance (sc : Sc) (cl : Clip) (x y : List Nat)
    (hw : ∀ a ∈ x, ∀ b ∈ y, -1024 ≤ sc.w a b ∧ sc.w a b ≤ 1024)
    (hgo : -1024 ≤ sc.go ∧ sc.go ≤ 0) (hge : -1024 ≤ sc.ge ∧ sc.ge ≤ 0)
    (hxp : cl.xp = minScore ∨ (-1024 ≤ cl.xp ∧ cl.xp ≤ 0)) (hxs : cl.xs = minScore ∨ (-1024 ≤ cl.xs ∧ cl.xs ≤ 0))
    (hyp : cl.yp = minScore ∨ (-1024 ≤ cl.yp ∧ cl.yp ≤ 0)) (hys : cl.ys = minScore ∨ (-1024 ≤ cl.ys ∧ cl.ys ≤ 0))
    (hm : x.length ≤ 64) (hn : y.length ≤ 64) : Model.PairwiseFill.AlignEnv sc cl x y 1024 := by
  have hlo : minScore ≤ -1024 ∧ 2 * ((64 + 64 + 1) * 1024) < -minScore := by decide
  have clip : ∀ {c : Int}, c = minScore ∨ (-1024 ≤ c ∧ c ≤ 0) → minScore ≤ c ∧ c ≤ 0 := fun h =>
    h.elim (fun e => ⟨by omega, by omega⟩) fun h => ⟨by omega, h.2⟩
  exact ⟨by omega, fun a ha b hb => (hw a ha b hb).1, fun a ha b hb => (hw a ha b hb).2, hgo, hge,
    clip hxp, clip hxs, clip hyp, clip hys, by omega⟩

-- non-vacuity: a call with scores of magnitude 5·10⁷ (clips −1 / −2 / `MIN_SCORE`) lies in the envelope; the theorem
-- applies; the `i32` mirror's whole output; an envelope-edge instance of `I32Env` alone (B = 2·10⁸, lengths 4 and 2)
def scBig : Sc := ⟨fun a b => if a = b then 50000000 else -50000000, -50000000, -30000000⟩
example : Model.PairwiseFill.AlignEnv scBig ⟨-1, -2, minScore, minScore⟩ [0, 1, 1, 0] [1, 1] 50000000 := by decide
example : ∃ o, Model.PairwiseFill.customC scBig ⟨-1, -2, minScore, minScore⟩ [0, 1, 1, 0] [1, 1] = .done o ∧
    Optimal scBig ⟨-1, -2, minScore, minScore⟩ [0, 1, 1, 0] [1, 1] o.score := by
  obtain ⟨o, h1, _, _, _, h2⟩ := custom_i32_correct scBig ⟨-1, -2, minScore, minScore⟩ [0, 1, 1, 0] [1, 1] 50000000 (by decide)
  exact ⟨o, h1, h2⟩
example : Model.PairwiseFill.customC scBig ⟨-1, -2, minScore, minScore⟩ [0, 1, 1, 0] [1, 1] =
    .done ⟨99999997, 1, 3, 0, 2, 4, 2, [.xclip 1, .core .mat, .core .mat, .xclip 1]⟩ := by decide +kernel
example : Model.PairwiseFill.I32Env ⟨fun a b => if a = b then 200000000 else -200000000, -200000000, -200000000⟩
    ⟨minScore, -7, minScore, 0⟩ [0, 1, 1, 0] [1, 1] 200000000 := by decide

-- outside the envelope, (a) overflow: two matches of 2·10⁹ each (m = n = 2) leave `i32`
example : Model.PairwiseFill.customC ⟨fun _ _ => 2000000000, -5, -1⟩ ⟨minScore, minScore, minScore, minScore⟩
    [0, 0] [0, 0] = .overflow := by decide +kernel
-- (b) the limit of "`MIN_SCORE` is minus infinity" (`Sane` fails, nothing overflows): global alignment of A with A,
-- match −9·10⁸, gap_open −5·10⁸.  The optimum of the documented model is −900 000 000 (one match; the only other
-- alignment, insert + delete, scores −10⁹) and lies below `MIN_SCORE`: the `i32` fill succeeds but reports the sentinel,
-- and the traceback finds the untouched default code `TB_XCLIP_SUFFIX` with `Lx = 0` and never stops
example : opt ⟨fun _ _ => -900000000, -500000000, 0⟩ ⟨minScore, minScore, minScore, minScore⟩ [0] [0] = -900000000 := by
  decide +kernel
example : (Model.PairwiseFill.fillC ⟨fun _ _ => -900000000, -500000000, 0⟩ ⟨minScore, minScore, minScore, minScore⟩
    [0] [0]).map (·.score) = some minScore := by decide +kernel
example : Model.PairwiseFill.customC ⟨fun _ _ => -900000000, -500000000, 0⟩ ⟨minScore, minScore, minScore, minScore⟩
    [0] [0] = .noTermination := by decide +kernel
example : ¬ Model.PairwiseFill.Sane ⟨fun _ _ => -900000000, -500000000, 0⟩ [0] [0] 0 := by decide +kernel

/-! ### Source-extracted obligations (DESIGN §8): `MIN_SCORE` and the traceback-cell constants of `pairwise/mod.rs`

`RbV/Gen/Limits.lean` and `RbV/Gen/TbCodes.lean` are regenerated from the source text of the tree under test on every
`./check C01` (tools/gen_tables.py) before `lake build`; the statements below are re-proved over whatever was
extracted (proofs: `RbV/Thm/GenLimits.lean`, `RbV/Thm/GenTbCodes.lean`, `RbV/Model/TbCell.lean`).  A renamed / retyped /
non-literal constant makes the extraction fail; a changed value either still satisfies them (the model follows) or one
of them fails — `docs/notes/GEN.md` has the table. -/

/-- the specification's `minScore` (clip penalty "minus infinity", used by the driver for the standard modes and by
the mirror model for `MIN`) **is** the constant extracted from `pub const MIN_SCORE: i32` of `pairwise/mod.rs` — no
literal copy; the driver's `const` case compares it with the run-time value of the compiled constant -/
theorem min_score_is_source_constant : minScore = RbV.Gen.Limits.minScorePairwise := rfl

/-- the promise of the constant's doc comment ("adding two of them does not overflow"): `2·MIN_SCORE ≥ −2³¹` -/
theorem two_min_scores_no_i32_overflow : -(2 ^ 31 : Int) ≤ minScore + minScore :=
  GenLimits.two_min_scores_no_i32_overflow.2.1

/-- the sentinel is a negative `i32` -/
theorem min_score_range : -(2 ^ 31 : Int) ≤ minScore ∧ minScore < 0 := GenLimits.min_score_range

/-- head-room: two sentinels plus any further penalty `p` with `−2³¹ − 2·MIN_SCORE ≤ p ≤ 0` stay inside `i32`
(what "reasonable scoring parameters" has to mean for `MIN_SCORE + MIN_SCORE + gap` in the recurrences) -/
theorem min_score_headroom (p : Int) (hp : -(2 ^ 31 : Int) - (minScore + minScore) ≤ p) (hp0 : p ≤ 0) :
    -(2 ^ 31 : Int) ≤ minScore + minScore + p ∧ minScore + minScore + p < 2 ^ 31 :=
  GenLimits.min_score_headroom p hp hp0

/-- the nine traceback move codes are pairwise distinct, pass the `assert!(value <= TB_MAX)` of `set_bits`, and
`TB_MAX` fits the 4-bit field -/
theorem tb_codes_wellformed :
    RbV.Gen.TbCodes.codes.Nodup ∧ (∀ c ∈ RbV.Gen.TbCodes.codes, c ≤ RbV.Gen.TbCodes.tbMax) ∧
      RbV.Gen.TbCodes.tbMax ≤ RbV.Gen.TbCodes.fieldMask ∧ RbV.Gen.TbCodes.fieldMask + 1 = 2 ^ 4 :=
  ⟨GenTbCodes.tb_codes_distinct, GenTbCodes.tb_codes_le_max.1, GenTbCodes.tb_max_fits_field.1,
    GenTbCodes.tb_max_fits_field.2.1⟩

/-- the I, D and S fields of a `TracebackCell` are disjoint 4-bit ranges inside the 16-bit cell -/
theorem tb_fields_disjoint :
    RbV.Gen.TbCodes.positions.Pairwise (fun a b => a + 4 ≤ b ∨ b + 4 ≤ a) ∧
      (∀ p ∈ RbV.Gen.TbCodes.positions, p + 4 ≤ RbV.Gen.TbCodes.cellBits) :=
  GenTbCodes.tb_fields_disjoint

/-- mirror model of `set_bits`/`get_bits` (`RbV/Model/TbCell.lean`) over the extracted mask and positions, for
**every** cell content: a field reads back what was written … -/
theorem tb_get_after_set (v value p : Nat) (hval : value ≤ RbV.Gen.TbCodes.tbMax) (hp : p ∈ RbV.Gen.TbCodes.positions) :
    RbV.TbCell.getBits (RbV.TbCell.setBits v p value) p = value :=
  GenTbCodes.tb_get_after_set v value p hval hp

/-- … writing one field leaves the other two untouched (the three matrices share one cell) … -/
theorem tb_set_preserves_other_fields (v value p q : Nat) (hval : value ≤ RbV.Gen.TbCodes.tbMax)
    (hp : p ∈ RbV.Gen.TbCodes.positions) (hq : q ∈ RbV.Gen.TbCodes.positions) (hpq : p ≠ q) :
    RbV.TbCell.getBits (RbV.TbCell.setBits v p value) q = RbV.TbCell.getBits v q :=
  GenTbCodes.tb_set_preserves_other_fields v value p q hval hp hq hpq

/-- … and the cell stays a `u16` -/
theorem tb_set_fits_cell (v value p : Nat) (hv : v < 2 ^ RbV.Gen.TbCodes.cellBits) (hval : value ≤ RbV.Gen.TbCodes.tbMax)
    (hp : p ∈ RbV.Gen.TbCodes.positions) : RbV.TbCell.setBits v p value < 2 ^ RbV.Gen.TbCodes.cellBits :=
  GenTbCodes.tb_set_fits_cell v value p hv hval hp

/-- `set_all(value)` (used for `TB_START`) makes all three matrices read `value` -/
theorem tb_set_all (v value : Nat) (hval : value ≤ RbV.Gen.TbCodes.tbMax) :
    RbV.TbCell.getBits (RbV.TbCell.setAll v value) RbV.Gen.TbCodes.iPos = value ∧
      RbV.TbCell.getBits (RbV.TbCell.setAll v value) RbV.Gen.TbCodes.dPos = value ∧
      RbV.TbCell.getBits (RbV.TbCell.setAll v value) RbV.Gen.TbCodes.sPos = value :=
  GenTbCodes.tb_set_all v value hval

-- non-vacuity (relative to the constants, so that a harmless change of value does not break them): the boundary
-- penalty satisfies the hypotheses of `min_score_headroom`; a cell with S = MATCH, D = DEL reads back field by field
example : -(2 ^ 31 : Int) - (minScore + minScore) ≤ -(2 ^ 31 : Int) - (minScore + minScore) ∧
    -(2 ^ 31 : Int) - (minScore + minScore) ≤ 0 := by decide
example : RbV.Gen.TbCodes.tbDel ≤ RbV.Gen.TbCodes.tbMax ∧ RbV.Gen.TbCodes.dPos ∈ RbV.Gen.TbCodes.positions ∧
    RbV.Gen.TbCodes.sPos ∈ RbV.Gen.TbCodes.positions ∧ RbV.Gen.TbCodes.dPos ≠ RbV.Gen.TbCodes.sPos := by decide
example : RbV.TbCell.getBits (RbV.TbCell.setBits (RbV.TbCell.setBits 0 RbV.Gen.TbCodes.sPos RbV.Gen.TbCodes.tbMatch)
    RbV.Gen.TbCodes.dPos RbV.Gen.TbCodes.tbDel) RbV.Gen.TbCodes.sPos = RbV.Gen.TbCodes.tbMatch := by decide

/-! ### Non-vacuity: concrete instances for each mode (unit scores: match 1, mismatch −1, go −5, ge −1) -/

def scU : Sc := ⟨fun a b => if a = b then 1 else -1, -5, -1⟩
def clGlobal : Clip := ⟨minScore, minScore, minScore, minScore⟩
def clSemi : Clip := ⟨minScore, minScore, 0, 0⟩
def clLocal : Clip := ⟨0, 0, 0, 0⟩

-- custom, asymmetric clips: x = ACCA, y = CC, x prefix clip −1, x suffix clip −2: Xclip(1) M M Xclip(1), score 2−1−2 = −1
example : accept scU ⟨-1, -2, minScore, minScore⟩ false [0, 1, 1, 0] [1, 1]
    ⟨-1, 1, 3, 0, 2, 4, 2, [.xclip 1, .core .mat, .core .mat, .xclip 1]⟩ = true := by decide +kernel
-- global: x = ACA, y = AA: M I M = 1 − 6 + 1
example : accept scU clGlobal false [0, 1, 0] [0, 0] ⟨-4, 0, 3, 0, 2, 3, 2, [.core .mat, .core .ins, .core .mat]⟩ = true := by
  decide +kernel
-- semiglobal: x = CC inside y = ACCA
example : accept scU clSemi true [1, 1] [0, 1, 1, 0] ⟨2, 0, 2, 1, 3, 2, 4, [.core .mat, .core .mat]⟩ = true := by decide +kernel
-- local: common core C of x = AC, y = CA   (score 1)
example : accept scU clLocal true [0, 1] [1, 0] ⟨1, 1, 2, 0, 1, 2, 2, [.core .mat]⟩ = true := by decide +kernel
-- the optimum M M (global, score 2) is accepted; a valid but sub-optimal local report (one M, score 1) is refused
example : accept scU clGlobal false [0, 0] [0, 0] ⟨2, 0, 2, 0, 2, 2, 2, [.core .mat, .core .mat]⟩ = true := by decide +kernel
example : accept scU clLocal true [0, 0] [0, 0] ⟨1, 0, 1, 0, 1, 2, 2, [.core .mat]⟩ = false := by decide +kernel
example : opt scU clGlobal [0, 1, 0] [0, 0] = -4 := by decide +kernel
example : Optimal scU clLocal [0, 1] [1, 0] 1 := by
  have := opt_is_optimal scU clLocal [0, 1] [1, 0]
  have h : opt scU clLocal [0, 1] [1, 0] = 1 := by decide +kernel
  rwa [h] at this

/-! ## Translated source text (`tools/rs2lean_genalign.py`, docs/notes/GEN.md "Dialect align")

`RbV/Gen/SrcPwTypes.lean`, `SrcPwModes.lean`, `SrcPwCustom.lean` are the *text* of `pairwise/mod.rs` translated to Lean on every
`./check C01`; the theorems below are about that text. -/

section SourceText
open RbV.Rs

/-- **`TracebackCell` (translated text) = `Model/TbCell.lean`**: for every cell content, every admissible value
(`≤ TB_MAX`, what the `assert!` of `set_bits` lets through) and every field position `≤ 12`: `set_bits`, `get_bits`, the
six field accessors and `set_all` compute the model's functions and never panic. -/
theorem traceback_cell_source_eq_model (c : RbV.Gen.SrcPwTypes.TracebackCell) (pos value : Nat) (hp : pos < 13)
    (hv : value ≤ RbV.Gen.TbCodes.tbMax) :
    RbV.Gen.SrcPwTypes.setBits c pos value = .ok ⟨RbV.TbCell.setBits c.v pos value⟩ ∧
    RbV.Gen.SrcPwTypes.getBits c pos = .ok (RbV.TbCell.getBits c.v pos) ∧
    RbV.Gen.SrcPwTypes.setIBits c value = .ok ⟨RbV.TbCell.setBits c.v RbV.Gen.TbCodes.iPos value⟩ ∧
    RbV.Gen.SrcPwTypes.setDBits c value = .ok ⟨RbV.TbCell.setBits c.v RbV.Gen.TbCodes.dPos value⟩ ∧
    RbV.Gen.SrcPwTypes.setSBits c value = .ok ⟨RbV.TbCell.setBits c.v RbV.Gen.TbCodes.sPos value⟩ ∧
    RbV.Gen.SrcPwTypes.getIBits c = .ok (RbV.TbCell.getBits c.v RbV.Gen.TbCodes.iPos) ∧
    RbV.Gen.SrcPwTypes.getDBits c = .ok (RbV.TbCell.getBits c.v RbV.Gen.TbCodes.dPos) ∧
    RbV.Gen.SrcPwTypes.getSBits c = .ok (RbV.TbCell.getBits c.v RbV.Gen.TbCodes.sPos) ∧
    RbV.Gen.SrcPwTypes.setAll c value = .ok ⟨RbV.TbCell.setAll c.v value⟩ ∧
    RbV.Gen.SrcPwTypes.cellNew = .ok ⟨0⟩ :=
  ⟨GenSrcPwTypes.setBits_eq_model c pos value hp hv, GenSrcPwTypes.getBits_eq_model c pos (by omega),
   GenSrcPwTypes.setIBits_eq_model c value hv, GenSrcPwTypes.setDBits_eq_model c value hv,
   GenSrcPwTypes.setSBits_eq_model c value hv, GenSrcPwTypes.getIBits_eq_model c, GenSrcPwTypes.getDBits_eq_model c,
   GenSrcPwTypes.getSBits_eq_model c, GenSrcPwTypes.setAll_eq_model c value hv, GenSrcPwTypes.cellNew_eq_model⟩

/-- `tb_get_after_set` / `tb_set_preserves_other_fields` / `tb_set_all` **for the translated text**: what a translated
setter wrote is what the translated getter of that field reads, the other two getters read what they read before, and
`set_all(value)` makes all three read `value`. -/
theorem traceback_cell_source_get_after_set (c c' : RbV.Gen.SrcPwTypes.TracebackCell) (value : Nat)
    (hv : value ≤ RbV.Gen.TbCodes.tbMax) :
    (RbV.Gen.SrcPwTypes.setIBits c value = .ok c' → RbV.Gen.SrcPwTypes.getIBits c' = .ok value ∧
      RbV.Gen.SrcPwTypes.getDBits c' = RbV.Gen.SrcPwTypes.getDBits c ∧ RbV.Gen.SrcPwTypes.getSBits c' = RbV.Gen.SrcPwTypes.getSBits c) ∧
    (RbV.Gen.SrcPwTypes.setDBits c value = .ok c' → RbV.Gen.SrcPwTypes.getDBits c' = .ok value ∧
      RbV.Gen.SrcPwTypes.getIBits c' = RbV.Gen.SrcPwTypes.getIBits c ∧ RbV.Gen.SrcPwTypes.getSBits c' = RbV.Gen.SrcPwTypes.getSBits c) ∧
    (RbV.Gen.SrcPwTypes.setSBits c value = .ok c' → RbV.Gen.SrcPwTypes.getSBits c' = .ok value ∧
      RbV.Gen.SrcPwTypes.getIBits c' = RbV.Gen.SrcPwTypes.getIBits c ∧ RbV.Gen.SrcPwTypes.getDBits c' = RbV.Gen.SrcPwTypes.getDBits c) ∧
    (RbV.Gen.SrcPwTypes.setAll c value = .ok c' → RbV.Gen.SrcPwTypes.getIBits c' = .ok value ∧
      RbV.Gen.SrcPwTypes.getDBits c' = .ok value ∧ RbV.Gen.SrcPwTypes.getSBits c' = .ok value) := by
  have a := GenSrcPwTypes.cell_get_after_set c c' value hv
  have b := GenSrcPwTypes.cell_set_other c c' value hv
  exact ⟨fun h => ⟨a.1 h, b.1 h⟩, fun h => ⟨a.2.1 h, b.2.1 h⟩, fun h => ⟨a.2.2 h, b.2.2 h⟩,
    GenSrcPwTypes.cell_set_all_reads c c' value hv⟩

/-- **`Traceback::init` (translated text) blanks and re-dimensions the matrix on every call**: `(m+1)·(n+1)` start cells
(all three fields `TB_START`), `rows = m+1`, stride `cols = n+1` — whatever the matrix held before: the result does not
mention the old state (history independence of the traceback matrix). -/
theorem traceback_init_source_blank (t : RbV.Gen.SrcPwTypes.Traceback) (m n : Nat) (h : (m + 1) * (n + 1) < 2 ^ 64) :
    RbV.Gen.SrcPwTypes.tbInit t m n =
      .ok ⟨m + 1, n + 1, List.replicate ((m + 1) * (n + 1)) GenSrcPwTypes.startCell⟩ ∧
    RbV.Gen.SrcPwTypes.getSBits GenSrcPwTypes.startCell = .ok RbV.Gen.TbCodes.tbStart ∧
    RbV.Gen.SrcPwTypes.getIBits GenSrcPwTypes.startCell = .ok RbV.Gen.TbCodes.tbStart ∧
    RbV.Gen.SrcPwTypes.getDBits GenSrcPwTypes.startCell = .ok RbV.Gen.TbCodes.tbStart := by
  have hs := GenSrcPwTypes.cell_set_all_reads ⟨0⟩ GenSrcPwTypes.startCell _ GenSrcPwTypes.tbStart_le_max
    (GenSrcPwTypes.setAll_eq_model ⟨0⟩ _ GenSrcPwTypes.tbStart_le_max)
  exact ⟨GenSrcPwTypes.tbInit_eq_model t m n h, hs.2.2, hs.1, hs.2.1⟩

/-- **`Traceback::{get, set, get_mut}` (translated text)** on a row-major matrix of `rows · cols` cells (`Shaped`; what
`init` establishes and `set` keeps): cell `(i, j)` is entry `i * cols + j`; `set` and a write through `get_mut` overwrite
that entry and nothing else. -/
theorem traceback_get_set_source_eq_model (t : RbV.Gen.SrcPwTypes.Traceback) (i j : Nat) (v : RbV.Gen.SrcPwTypes.TracebackCell)
    (hs : GenSrcPwTypes.Shaped t) (hi : i < t.rows) (hj : j < t.cols) :
    RbV.Gen.SrcPwTypes.tbGet t i j = Rs.idx t.matrix (i * t.cols + j) ∧
    RbV.Gen.SrcPwTypes.tbGetMut t i j = Rs.idx t.matrix (i * t.cols + j) ∧
    RbV.Gen.SrcPwTypes.tbSet t i j v = .ok { t with matrix := t.matrix.set (i * t.cols + j) v } ∧
    RbV.Gen.SrcPwTypes.tbGetMut_put t i j v = .ok { t with matrix := t.matrix.set (i * t.cols + j) v } ∧
    i * t.cols + j < t.matrix.length :=
  ⟨GenSrcPwTypes.tbGet_eq_model t i j hs hi hj, GenSrcPwTypes.tbGetMut_eq_model t i j hs hi hj,
   GenSrcPwTypes.tbSet_eq_model t i j v hs hi hj, GenSrcPwTypes.tbGetMut_put_eq_model t i j v hs hi hj,
   (GenSrcPwTypes.shaped_idx hs hi hj).1⟩

/-- **`Traceback::{resize, with_capacity}` (translated text)** set the dimensions `(m+1, n+1)`. -/
theorem traceback_resize_source_eq_model (t : RbV.Gen.SrcPwTypes.Traceback) (m n : Nat) (v : RbV.Gen.SrcPwTypes.TracebackCell)
    (h : (m + 1) * (n + 1) < 2 ^ 64) :
    RbV.Gen.SrcPwTypes.tbResize t m n v = .ok ⟨m + 1, n + 1, Rs.resize t.matrix ((m + 1) * (n + 1)) v⟩ ∧
    RbV.Gen.SrcPwTypes.tbWithCapacity m n = .ok ⟨m + 1, n + 1, []⟩ :=
  ⟨GenSrcPwTypes.tbResize_eq_model t m n v h, GenSrcPwTypes.tbWithCapacity_eq_model m n h⟩

/-- **`Scoring::{xclip, xclip_prefix, xclip_suffix, yclip, yclip_prefix, yclip_suffix}` (translated text)**: a positive
penalty is refused (panic); otherwise exactly the named clip fields are overwritten. -/
theorem scoring_builders_source_eq_model (s : RbV.Gen.SrcPwTypes.Scoring) (p : Int) :
    RbV.Gen.SrcPwTypes.xclip s p = (if p ≤ 0 then .ok { s with xclip_prefix := p, xclip_suffix := p } else .panic) ∧
    RbV.Gen.SrcPwTypes.xclip_prefix s p = (if p ≤ 0 then .ok { s with xclip_prefix := p } else .panic) ∧
    RbV.Gen.SrcPwTypes.xclip_suffix s p = (if p ≤ 0 then .ok { s with xclip_suffix := p } else .panic) ∧
    RbV.Gen.SrcPwTypes.yclip s p = (if p ≤ 0 then .ok { s with yclip_prefix := p, yclip_suffix := p } else .panic) ∧
    RbV.Gen.SrcPwTypes.yclip_prefix s p = (if p ≤ 0 then .ok { s with yclip_prefix := p } else .panic) ∧
    RbV.Gen.SrcPwTypes.yclip_suffix s p = (if p ≤ 0 then .ok { s with yclip_suffix := p } else .panic) :=
  GenSrcPwTypes.scoring_builders_eq_model s p

-- non-vacuity: a cell written field by field through the translated setters reads back through the translated getters
example : (do
    let c ← RbV.Gen.SrcPwTypes.cellNew
    let c ← RbV.Gen.SrcPwTypes.setSBits c RbV.Gen.TbCodes.tbMatch
    let c ← RbV.Gen.SrcPwTypes.setDBits c RbV.Gen.TbCodes.tbDel
    let c ← RbV.Gen.SrcPwTypes.setIBits c RbV.Gen.TbCodes.tbYclipSuffix
    let s ← RbV.Gen.SrcPwTypes.getSBits c
    let d ← RbV.Gen.SrcPwTypes.getDBits c
    let i ← RbV.Gen.SrcPwTypes.getIBits c
    pure (s, d, i)) = Res.ok (RbV.Gen.TbCodes.tbMatch, RbV.Gen.TbCodes.tbDel, RbV.Gen.TbCodes.tbYclipSuffix) := by decide
-- … a value above TB_MAX is refused by the `assert!`, a matrix of another shape is re-dimensioned by `init`
example : RbV.Gen.SrcPwTypes.setSBits ⟨0⟩ (RbV.Gen.TbCodes.tbMax + 1) = Res.panic := by decide
example : RbV.Gen.SrcPwTypes.tbInit ⟨7, 9, [⟨3⟩, ⟨5⟩]⟩ 1 2 =
    Res.ok ⟨2, 3, List.replicate 6 GenSrcPwTypes.startCell⟩ := by decide
example : GenSrcPwTypes.Shaped ⟨2, 3, List.replicate 6 GenSrcPwTypes.startCell⟩ := GenSrcPwTypes.shaped_init 1 2 (by decide)
example : RbV.Gen.SrcPwTypes.xclip ⟨-5, -1, none, -2, -3, -4, -6⟩ (-7) = Res.ok ⟨-5, -1, none, -7, -7, -4, -6⟩ ∧
    RbV.Gen.SrcPwTypes.yclip_suffix ⟨-5, -1, none, -2, -3, -4, -6⟩ 1 = Res.panic := by decide

/-- **The mode wrappers (translated text) call `custom` with exactly the mode's clip penalties.**  For *every* function
`custom` (it is a parameter of the translated wrappers): `global` / `semiglobal` / `local` run `custom` once, on the
aligner whose clip penalties are `MIN_SCORE`×4 / (`MIN_SCORE`, `MIN_SCORE`, 0, 0) / 0×4 and whose other fields are
untouched; they return its alignment with the mode tag set (semiglobal / local: clip operations filtered), and leave
the aligner `custom` left with the caller's four clip penalties put back (`GenSrcPwModes.wrapped`). -/
theorem global_source_eq_custom_with_mode_clips
    (custom : RbV.Gen.SrcPwTypes.Aligner → List Nat → List Nat → Res (Alignment × RbV.Gen.SrcPwTypes.Aligner))
    (a : RbV.Gen.SrcPwTypes.Aligner) (x y : List Nat) :
    RbV.Gen.SrcPwModes.global_ custom a x y = GenSrcPwModes.wrapped custom (fun al => { al with mode := .Global })
      minScore minScore minScore minScore a x y :=
  GenSrcPwModes.global_eq_custom_with_mode_clips custom a x y

theorem semiglobal_source_eq_custom_with_mode_clips
    (custom : RbV.Gen.SrcPwTypes.Aligner → List Nat → List Nat → Res (Alignment × RbV.Gen.SrcPwTypes.Aligner))
    (a : RbV.Gen.SrcPwTypes.Aligner) (x y : List Nat) :
    RbV.Gen.SrcPwModes.semiglobal_ custom a x y = GenSrcPwModes.wrapped custom
      (fun al => Alignment.filterClipOperations { al with mode := .Semiglobal }) minScore minScore 0 0 a x y :=
  GenSrcPwModes.semiglobal_eq_custom_with_mode_clips custom a x y

theorem local_source_eq_custom_with_mode_clips
    (custom : RbV.Gen.SrcPwTypes.Aligner → List Nat → List Nat → Res (Alignment × RbV.Gen.SrcPwTypes.Aligner))
    (a : RbV.Gen.SrcPwTypes.Aligner) (x y : List Nat) :
    RbV.Gen.SrcPwModes.local_ custom a x y = GenSrcPwModes.wrapped custom
      (fun al => Alignment.filterClipOperations { al with mode := .Local }) 0 0 0 0 a x y :=
  GenSrcPwModes.local_eq_custom_with_mode_clips custom a x y

/-- **History independence of the scoring (translated text).**  For every `custom` that does not write `self.scoring`
(`KeepsScoring`): if `global`, `semiglobal` or `local` returns, the aligner's `scoring` is exactly what it was before the call.
(Nothing is said of the other fields here; they are what `custom` left, by the three equations above.) -/
theorem mode_wrappers_source_restore_scoring
    (custom : RbV.Gen.SrcPwTypes.Aligner → List Nat → List Nat → Res (Alignment × RbV.Gen.SrcPwTypes.Aligner))
    (hk : GenSrcPwModes.KeepsScoring custom) (a a' : RbV.Gen.SrcPwTypes.Aligner) (x y : List Nat) (al : Alignment) :
    (RbV.Gen.SrcPwModes.global_ custom a x y = .ok (al, a') → a'.scoring = a.scoring) ∧
    (RbV.Gen.SrcPwModes.semiglobal_ custom a x y = .ok (al, a') → a'.scoring = a.scoring) ∧
    (RbV.Gen.SrcPwModes.local_ custom a x y = .ok (al, a') → a'.scoring = a.scoring) :=
  ⟨GenSrcPwModes.global_source_restores_scoring custom hk a x y al a',
   GenSrcPwModes.semiglobal_source_restores_scoring custom hk a x y al a',
   GenSrcPwModes.local_source_restores_scoring custom hk a x y al a'⟩

-- non-vacuity: a `custom` that reports the clip penalties it sees (as score and coordinates); the wrappers hand it the
-- mode's penalties and give the caller's asymmetric penalties back
def probeCustom (s : RbV.Gen.SrcPwTypes.Aligner) (_x _y : List Nat) : Res (Alignment × RbV.Gen.SrcPwTypes.Aligner) :=
  .ok ({ (default : Alignment) with score := s.scoring.xclip_prefix + s.scoring.xclip_suffix * 2 + s.scoring.yclip_prefix * 4 +
    s.scoring.yclip_suffix * 8 }, { s with Lx := [1] })
def probeAligner : RbV.Gen.SrcPwTypes.Aligner :=
  ⟨[[], []], [[], []], [[], []], [], [], [], ⟨0, 0, []⟩, ⟨-5, -1, none, -2, -3, -4, -6⟩⟩
example : GenSrcPwModes.KeepsScoring probeCustom := by
  intro s x y al s' h; simp only [probeCustom, Res.ok.injEq, Prod.mk.injEq] at h; rw [← h.2]
example : RbV.Gen.SrcPwModes.semiglobal_ probeCustom probeAligner [1] [2] =
    .ok ({ (default : Alignment) with score := minScore * 3, mode := .Semiglobal }, { probeAligner with Lx := [1] }) := by decide
example : RbV.Gen.SrcPwModes.local_ probeCustom probeAligner [1] [2] =
    .ok ({ (default : Alignment) with score := 0, mode := .Local }, { probeAligner with Lx := [1] }) := by decide

/-- **One cell of the main loop of `Aligner::custom` (translated text): scores and trackers = the checked-`i32` mirror, traceback
codes admissible — for the text as translated on this run and every four tie-break functions `T` (the text's `>` / `>=` tests are
parameters of the translation).**  There is no quantifier over the order in which the text compares the candidates: that the
proof goes through for another order is a property of the proof script (seeded change C01-H4), not of the statement.
`RbV.Gen.SrcPwCustom.custom_for5` is the body of `for i in 1..m + 1` as translated from the text.  There is a chooser `sCode` of
the S-layer code (read off the text) that is **admissible** (`SCodeOk`: the code it returns names a candidate — x-suffix
placeholder, Match/Subst, Ins, Del, x-prefix clip, y-prefix clip — whose score **is** the value of the S layer, the maximum of
the six: "the code explains the value") such that on every aligner state of the right shape (`CellEq`: `Dims`, `1 ≤ i ≤ m`,
`1 ≤ j ≤ n`, valid codes in the S fields of the cells `(i−1, j)`, `(i, j−1)`) the body panics exactly when the checked-`i32` row is
`none` and otherwise writes exactly the row `stepJS T sCode …`: `S/I/D[curr][i]`, the register `S[curr][m]`, `Sn[i]`, `Ly[i]`,
`Lx[j]` have the mirror's **values** (S = max of the candidates; I, D = the operand `T.iT` / `T.dT` selects — the better of extend / open when `TiesOk T`, which is
not assumed here and is proved of the text's tests in `tie_breaks_source_admissible`), the I and D codes are
those of the tie-break `T`, the S code is `sCode`'s; nothing else is written.  The exact code equality with the mirror the
driver runs (`stepJT T`, `stepJC`: the candidates in the order of the text as it stands) is the **soft** module
`Thm/GenSrcPwCustomExact.lean` (the seeded change C01-H4 of docs/notes/C01.md permutes that order: this theorem still holds, the
soft module does not). -/
theorem cell_update_source_values_and_admissible_codes (w : Nat → Nat → Int) (T : GenSrcPwCustom.Ties) :
    ∃ sCode : GenSrcPwCustom.SCodeFn, GenSrcPwCustom.SCodeOk T sCode ∧ GenSrcPwCustom.CellEq w T sCode :=
  GenSrcPwCustom.cell_update_any_order w T

/-- **The tie-breaks found in the text are admissible** (true when strictly greater, false when strictly smaller — `>` or
`>=` in either operand order); a test that is neither (e.g. `<`, or another operand) fails here. -/
theorem tie_breaks_source_admissible : GenSrcPwCustom.TiesOk GenSrcPwCustom.srcTies := GenSrcPwCustom.srcTies_ok

/-- what the written cell reads back: the three 4-bit fields of `cellOf ts ti td` are the codes of the three moves -/
theorem cell_update_source_cell_reads (ts ti td : RbV.Model.PairwiseFill.Tb) :
    RbV.TbCell.getBits (GenSrcPwCustom.cellOf ts ti td).v RbV.Gen.TbCodes.sPos = GenSrcPwCustom.enc ts ∧
    RbV.TbCell.getBits (GenSrcPwCustom.cellOf ts ti td).v RbV.Gen.TbCodes.iPos = GenSrcPwCustom.enc ti ∧
    RbV.TbCell.getBits (GenSrcPwCustom.cellOf ts ti td).v RbV.Gen.TbCodes.dPos = GenSrcPwCustom.enc td :=
  GenSrcPwCustom.cellOf_reads ts ti td

-- non-vacuity / sampled tie of the *whole* translated function: the text of `Aligner::custom` (`Gen/SrcPwCustom.lean`),
-- run by the kernel on a fresh aligner, returns exactly what the checked-`i32` mirror `customC` returns
def srcAligner (go ge xp xs yp ys : Int) : RbV.Gen.SrcPwTypes.Aligner :=
  ⟨[[], []], [[], []], [[], []], [], [], [], ⟨0, 0, []⟩, ⟨go, ge, none, xp, xs, yp, ys⟩⟩
def srcOp : AlignmentOperation → AOp
  | .Match => .core .mat | .Subst => .core .sub | .Ins => .core .ins | .Del => .core .del
  | .Xclip n => .xclip n | .Yclip n => .yclip n
def srcRun (w : Nat → Nat → Int) (go ge xp xs yp ys : Int) (x y : List Nat) : RbV.Model.PairwiseFill.Outcome :=
  match RbV.Gen.SrcPwCustom.custom w RbV.Gen.SrcPwCustom.custom_iTie RbV.Gen.SrcPwCustom.custom_dTie
      RbV.Gen.SrcPwCustom.custom_snTie RbV.Gen.SrcPwCustom.custom_sn0Tie (srcAligner go ge xp xs yp ys) x y (2 * (x.length + y.length) + 16) with
  | .ok (al, _) => .done ⟨al.score, al.xstart, al.xend, al.ystart, al.yend, al.xlen, al.ylen, al.operations.map srcOp⟩
  | .panic => .overflow
  | .fuel => .noTermination
example : srcRun scU.w (-5) (-1) (-1) (-2) (-3) (-1) [0, 1, 1, 0] [1, 1, 2] =
    RbV.Model.PairwiseFill.customC scU ⟨-1, -2, -3, -1⟩ [0, 1, 1, 0] [1, 1, 2] := by decide +kernel
example : srcRun scU.w (-5) (-1) minScore minScore 0 0 [1, 1] [0, 1, 1, 0] =
    RbV.Model.PairwiseFill.customC scU clSemi [1, 1] [0, 1, 1, 0] := by decide +kernel
example : srcRun scU.w (-5) (-1) minScore minScore minScore minScore [] [0] =
    RbV.Model.PairwiseFill.customC scU clGlobal [] [0] := by decide +kernel
-- an `i32` overflow of the text is the `overflow` of the mirror
example : srcRun (fun _ _ => 2000000000) (-5) (-1) 0 0 0 0 [0, 0] [0, 0] = .overflow ∧
    RbV.Model.PairwiseFill.customC ⟨fun _ _ => 2000000000, -5, -1⟩ clLocal [0, 0] [0, 0] = .overflow := by decide +kernel

/-- **The translated `Aligner::custom` does not write `self.scoring`** (every match function, tie-break, fuel): proved by a
traversal of every path of every translated helper (`Thm/GenSrcPwKeeps.lean`). -/
theorem custom_source_keeps_scoring (w : Nat → Nat → Int) (iT dT snT sn0T : Int → Int → Bool) (fuel : Nat) :
    GenSrcPwModes.KeepsScoring (fun s x y => RbV.Gen.SrcPwCustom.custom w iT dT snT sn0T s x y fuel) :=
  GenSrcPwKeeps.custom_keeps_scoring w iT dT snT sn0T fuel

/-- **History independence of the scoring, translated wrappers over the translated `custom`** (no hypothesis left): if
`global`, `semiglobal`, `local` — or `custom` itself — returns, the aligner's `scoring` is exactly what it was before the call.
The name promises more than the statement: the history clause of C01 for the *result* (the returned alignment does not depend on
what `S/I/D/Lx/Ly/Sn` held before the call) is not proved from the text — it needs the column-0 initialisation, which is not
covered; only `scoring` (here) and the traceback matrix (`traceback_init_source_blank`) are. -/
theorem mode_wrappers_source_history_independent (w : Nat → Nat → Int) (iT dT snT sn0T : Int → Int → Bool) (fuel : Nat)
    (a a' : RbV.Gen.SrcPwTypes.Aligner) (x y : List Nat) (al : Alignment) :
    (RbV.Gen.SrcPwModes.global_ (fun s x y => RbV.Gen.SrcPwCustom.custom w iT dT snT sn0T s x y fuel) a x y = .ok (al, a') →
      a'.scoring = a.scoring) ∧
    (RbV.Gen.SrcPwModes.semiglobal_ (fun s x y => RbV.Gen.SrcPwCustom.custom w iT dT snT sn0T s x y fuel) a x y = .ok (al, a') →
      a'.scoring = a.scoring) ∧
    (RbV.Gen.SrcPwModes.local_ (fun s x y => RbV.Gen.SrcPwCustom.custom w iT dT snT sn0T s x y fuel) a x y = .ok (al, a') →
      a'.scoring = a.scoring) ∧
    (RbV.Gen.SrcPwCustom.custom w iT dT snT sn0T a x y fuel = .ok (al, a') → a'.scoring = a.scoring) :=
  have hk := GenSrcPwKeeps.custom_keeps_scoring w iT dT snT sn0T fuel
  ⟨GenSrcPwModes.global_source_restores_scoring _ hk a x y al a', GenSrcPwModes.semiglobal_source_restores_scoring _ hk a x y al a',
   GenSrcPwModes.local_source_restores_scoring _ hk a x y al a', fun h => hk a x y al a' h⟩

/-- **The inner loop `for i in i+1 ..= m` of one column (translated text) = the rows `stepJS T sCode`, the checked-`i32` mirror's
row function generalised over the tie-breaks `T` and an S-code chooser.**  That `stepJS T sCode` at the text's tie-breaks is the
mirror's `stepJC` is the soft module `Thm/GenSrcPwCustomExact.lean` only.  From a state that holds rows `0 ..= i` of column `j` (`ColInv`: the `curr` halves of
`S/I/D`, the register `S[curr][m]`, `Sn`, `Ly`, `Lx[j]`, the bit-packed cells `(k, j)`; the previous column in the `prev`
halves; frame `oc`, `olx` for every other column), the translated `for i in i+1 ..= m` panics exactly when one of the
remaining rows `stepJS T sCode …` is `none` (an `i32` overflow), and otherwise ends in a state that holds the whole column
(`ColInv … m`, rows = `colRows (stepT T …)`), with `scoring` and the frame untouched. -/
theorem custom_fill_source_eq_model_partial (w : Nat → Nat → Int) (T : GenSrcPwCustom.Ties) :
    ∃ sCode : GenSrcPwCustom.SCodeFn, GenSrcPwCustom.SCodeOk T sCode ∧
    ∀ (x : List Nat) (m n j q : Nat)
    (xc : Int) (pc : List RbV.Model.PairwiseFill.Row) (oc : Nat → Nat → RbV.Gen.SrcPwTypes.TracebackCell) (olx : Nat → Nat)
    (hx : x.length = m) (hj : 1 ≤ j) (hjn : j ≤ n) (k i : Nat) (a : RbV.Gen.SrcPwTypes.Aligner)
    (cur : List RbV.Model.PairwiseFill.Row) (hinv : GenSrcPwColumn.ColInv a m n j i pc cur oc olx) (hlen : cur.length = i + 1)
    (hik : i + k = m),
    match GenSrcPwColumn.colRows (GenSrcPwColumn.stepT T sCode (GenSrcPwCustom.scOf w a) (GenSrcPwCustom.clOf a) x m n j q xc pc) k i cur with
    | none => List.foldlM (RbV.Gen.SrcPwCustom.custom_for5 w T.iT T.dT T.snT T.sn0T x m n j (j % 2) (1 - j % 2) q xc) a
        (List.range' (i + 1) k) = Res.panic
    | some col => ∃ a', List.foldlM (RbV.Gen.SrcPwCustom.custom_for5 w T.iT T.dT T.snT T.sn0T x m n j (j % 2) (1 - j % 2) q xc) a
        (List.range' (i + 1) k) = Res.ok a' ∧ GenSrcPwColumn.ColInv a' m n j m pc col oc olx ∧ col.length = m + 1 ∧
        a'.scoring = a.scoring := by
  obtain ⟨sCode, hok, hcell⟩ := GenSrcPwCustom.cell_update_any_order w T
  exact ⟨sCode, hok, fun x m n j q xc pc oc olx hx hj hjn k i a cur hinv hlen hik =>
    GenSrcPwColumn.column_loop w T x m n j q xc pc _ _ sCode hcell oc olx hx hj hjn k i a cur hinv hlen hik rfl rfl⟩

/-- **The reset loop of a column (translated text)**: `for i in 1..=m { self.S[curr][i] = MIN_SCORE; }` over `i .. i + k` overwrites
exactly the entries `S[curr][i .. i + k)` with `MIN_SCORE` and touches nothing else (establishes the clause `hReset` of
`ColInv` for the next column). -/
theorem column_reset_loop_source_eq_model (w : Nat → Nat → Int) (iT dT snT sn0T : Int → Int → Bool) (c : Nat) (hc : c < 2)
    (k i : Nat) (a : RbV.Gen.SrcPwTypes.Aligner) (l : List Int) (hS : a.S.length = 2) (hl : a.S.getD c [] = l)
    (hik : i + k ≤ l.length) :
    ∃ l', List.foldlM (RbV.Gen.SrcPwCustom.custom_for4 w iT dT snT sn0T c) a (List.range' i k) = .ok { a with S := a.S.set c l' } ∧
      l'.length = l.length ∧ (∀ t, i ≤ t → t < i + k → l'.getD t 0 = minScore) ∧
      (∀ t, (t < i ∨ i + k ≤ t) → l'.getD t 0 = l.getD t 0) :=
  GenSrcPwColumn.reset_loop w iT dT snT sn0T c hc k i a l hS hl hik

/-- **A whole column of the main loop (translated `custom_for3`) = the `i = 0` block of the mirror, `xclip_score`, then the inner
loop from an explicit start state** (for every tie-break).  On every aligner
state of the right shape (`Dims`), `1 ≤ j ≤ n`: the translated body of `for j in 1..=n` panics exactly when `rowJ0T T …`
(= `rowJ0C` of `Model/PairwiseFillI32.lean` with the `Sn` tie-break as a parameter: `D[curr][0]` by `edgeC`, `S[curr][0]`, the
`j == n` branch, `Sn[0]`, `Ly[0]`, codes) or `xclipC` is `none`, and otherwise continues as the translated inner loop
`for i in 1..m + 1` (with `q = y[j − 1]` and the mirror's `xclip_score`) from the state `startCol a m (j % 2) j r0`: `I[curr][0] =
MIN_SCORE`, `D[curr][0] = r0.d`, `S[curr][0] = r0.s`, **`S[curr][1..=m]` reset to `MIN_SCORE`** (`resetL`: the reset loop), `Sn[0]`,
`Ly[0]`, cell `(0, j) = cellOf r0.t.ts START r0.t.td` — nothing else changed. -/
theorem column_block_source_eq_model_partial (w : Nat → Nat → Int) (T : GenSrcPwCustom.Ties) (a : RbV.Gen.SrcPwTypes.Aligner)
    (x y : List Nat) (m n j : Nat) (hd : GenSrcPwCustom.Dims a m n) (hx : x.length = m) (hy : y.length = n) (hj : 1 ≤ j)
    (hjn : j ≤ n) :
    RbV.Gen.SrcPwCustom.custom_for3 w T.iT T.dT T.snT T.sn0T x y m n a j =
      GenSrcPwCustom.ofOpt (GenSrcPwColStep.rowJ0T T (GenSrcPwCustom.scOf w a) (GenSrcPwCustom.clOf a) m n j (GenSrcPwColStep.row0P a))
        >>= fun r0 =>
      GenSrcPwCustom.ofOpt (GenSrcPwColStep.xclipO (GenSrcPwCustom.scOf w a) (GenSrcPwCustom.clOf a) j) >>= fun xc =>
        List.foldlM (RbV.Gen.SrcPwCustom.custom_for5 w T.iT T.dT T.snT T.sn0T x m n j (j % 2) (1 - j % 2) (y.getD (j - 1) 0) xc)
          (GenSrcPwColStep.startCol a m (j % 2) j r0) (List.range' 1 m) :=
  GenSrcPwColStep.block_eq w T a x y m n j hd hx hy hj hjn

/-- the model side of that block is the mirror's: `rowJ0T` with the tie-breaks `GenSrcPwCustom.pinned` is `rowJ0C`, `xclipO` is `xclipC` -/
theorem column_block_model_is_mirror (sc : Sc) (cl : Clip) (x y : List Nat) (j : Nat) (prev0 : RbV.Model.PairwiseFill.Row) :
    GenSrcPwColStep.rowJ0T GenSrcPwCustom.pinned sc cl x.length y.length j prev0 = RbV.Model.PairwiseFill.rowJ0C sc cl x y j prev0 ∧
    GenSrcPwColStep.xclipO sc cl j = RbV.Model.PairwiseFill.xclipC sc cl j :=
  ⟨GenSrcPwColStep.rowJ0T_pinned sc cl x y j prev0, GenSrcPwColStep.xclipO_eq sc cl j⟩

/-- **`custom_main_loop_source_eq_model_partial`: the whole outer loop `for j in 1..=n` of the translated `Aligner::custom` =
the columns `colsT (colStepT T sCode …)`, the checked-`i32` mirror's column function generalised over the tie-breaks and an admissible
S-code chooser** (definitions of `Thm/GenSrcPwColGlue.lean`, not `colsC` of the mirror: see the end).
There is a chooser `sCode` with `SCodeOk T sCode` such that from any state that holds the finished column `j` and the cells /
`Lx` entries of all columns `≤ j`, with `Lx[j'] = 0` for the columns not yet started (`Outer a m n j cols` — for `j = 0`: what the
column-0 initialisation has to establish), the translated loop over the columns `j + 1 ..= n` panics exactly when a column
`colStepT` of the mirror is `none` (an `i32` overflow in its `i = 0` block `rowJ0T`, in `xclipC` or in a cell `stepJS`), and otherwise
ends in a state that holds the last column's `S/I/D`, `Sn`, `Ly` and **every** column's bit-packed traceback cells and `Lx` entry
(`Outer a' m n n all`, `all = colsT …` the list of all columns), `scoring` untouched.  Built from
`column_block_source_eq_model_partial` (the `i = 0` block, reset loop, `xclip_score`), the glue `startCol_inv` (the state after the
block satisfies the inner-loop invariant `ColInv … 0` w.r.t. the finished previous column), `custom_fill_source_eq_model_partial`
(the inner loop) and `stepJS_last` (row `m`: the cell is the register).
**Not proved about the translated fill**: `Outer a m n 0 [col0]` after the translated column-0 initialisation
(`custom_for1/2` after `Traceback::init`), the two post-loops (`custom_for6/7`), and `colsT` with the tie-breaks `GenSrcPwCustom.pinned` = `colsC`
(`rowJ0T_pinned`, `xclipO_eq` are proved; the cells' values by `stepJS`'s definition, their codes by the soft module).  Hence
no theorem links the translated text to `fillC`, `customC` or `opt`.  No example exhibits a state satisfying `Outer`, `ColInv` or
`ColDone` (the natural instance is the unproved one above): non-vacuity of these hypotheses is not shown. -/
theorem custom_main_loop_source_eq_model_partial (w : Nat → Nat → Int) (T : GenSrcPwCustom.Ties) :
    ∃ sCode : GenSrcPwCustom.SCodeFn, GenSrcPwCustom.SCodeOk T sCode ∧
    ∀ (x y : List Nat) (m n : Nat) (hx : x.length = m) (hy : y.length = n) (k j : Nat) (a : RbV.Gen.SrcPwTypes.Aligner)
      (cols : List (List RbV.Model.PairwiseFill.Row)) (ho : GenSrcPwColGlue.Outer a m n j cols) (hjk : j + k = n),
      match GenSrcPwColGlue.colsT (fun j pc => GenSrcPwColGlue.colStepT T sCode (GenSrcPwCustom.scOf w a) (GenSrcPwCustom.clOf a)
          x m n j (y.getD (j - 1) 0) pc) k j cols with
      | none => List.foldlM (RbV.Gen.SrcPwCustom.custom_for3 w T.iT T.dT T.snT T.sn0T x y m n) a (List.range' (j + 1) k) = Res.panic
      | some all => ∃ a', List.foldlM (RbV.Gen.SrcPwCustom.custom_for3 w T.iT T.dT T.snT T.sn0T x y m n) a
            (List.range' (j + 1) k) = Res.ok a' ∧ GenSrcPwColGlue.Outer a' m n n all ∧ a'.scoring = a.scoring := by
  obtain ⟨sCode, hok, hcell⟩ := GenSrcPwCustom.cell_update_any_order w T
  exact ⟨sCode, hok, fun x y m n hx hy k j a cols ho hjk =>
    GenSrcPwColGlue.outer_loop w T sCode hcell x y m n _ _ hx hy k j a cols ho hjk rfl rfl⟩

/-- one iteration of that loop: from the finished column `j − 1` (`ColDone`) with `Lx[j] = 0` to the finished column `j` -/
theorem column_step_source_eq_model (w : Nat → Nat → Int) (T : GenSrcPwCustom.Ties) (sCode : GenSrcPwCustom.SCodeFn)
    (hcell : GenSrcPwCustom.CellEq w T sCode) (a : RbV.Gen.SrcPwTypes.Aligner) (x y : List Nat) (m n j : Nat)
    (pc : List RbV.Model.PairwiseFill.Row) (oc : Nat → Nat → RbV.Gen.SrcPwTypes.TracebackCell) (olx : Nat → Nat)
    (hdone : GenSrcPwColGlue.ColDone a m n (j - 1) pc oc olx) (hx : x.length = m) (hy : y.length = n) (hj : 1 ≤ j) (hjn : j ≤ n)
    (hLx0 : a.Lx.getD j 0 = 0) :
    match GenSrcPwColGlue.colStepT T sCode (GenSrcPwCustom.scOf w a) (GenSrcPwCustom.clOf a) x m n j (y.getD (j - 1) 0) pc with
    | none => RbV.Gen.SrcPwCustom.custom_for3 w T.iT T.dT T.snT T.sn0T x y m n a j = Res.panic
    | some col => ∃ a', RbV.Gen.SrcPwCustom.custom_for3 w T.iT T.dT T.snT T.sn0T x y m n a j = Res.ok a' ∧
        GenSrcPwColGlue.ColDone a' m n j col (fun k j' => GenSrcPwCustom.cellAt a k j') (fun j' => a.Lx.getD j' 0) ∧
        col.length = m + 1 ∧ a'.scoring = a.scoring :=
  GenSrcPwColGlue.column_step w T sCode hcell a x y m n j pc oc olx hdone hx hy hj hjn hLx0

end SourceText


end RbV.Thm.C01
