import RbV.Gen.SrcFenwick
import RbV.Model.Fenwick
import RbV.Lemmas.Fenwick
import RbV.Basic.GetD
import RbV.Thm.GenSrcOk
/-!
# The translated text of `FenwickTree::{get, set}` equals the mirror model `RbV.Model.Fenwick`

`RbV/Gen/SrcFenwick.lean` is regenerated from `src/data_structures/bit_tree.rs` by `tools/rs2lean.py` on every
`./check C18`.  What the translation makes explicit and the model leaves implicit:

* `(idx as isize & -(idx as isize)) as usize` is translated on two's-complement bit patterns: `Rs.neg 64 idx` (panics for
  `isize::MIN`), `&&&`; the model has the recursive function `lowbit`.  `Lemmas.Fenwick.and_neg_eq_lowbit` (`Lemmas/Fenwick.lean`) proves
  `i &&& (2^w - i) = lowbit i` for every `0 < i < 2^w`.
* `idx + 1`, `idx += …` are checked 64-bit additions, `idx -= …` a checked subtraction, `self.tree[idx]` panics out of
  bounds (the model reads `getD`), the `while` loops have fuel (one unit more than the model's: the translated loop
  spends a unit on the final test of its condition).

Hypotheses of the equalities: the vector has at most `2^63` slots (a Rust `Vec` has at most `isize::MAX` bytes), and for
`get` the index is in range (`idx + 1 < tree.len()`, otherwise `self.tree[idx + 1]` panics — this is the precondition of
the property's theorems as well).
-/
-- the simp sets name every fact a harmless rewrite of the Rust text may need; on the present text some are unused
set_option linter.unusedSimpArgs false

namespace RbV.Thm.GenSrcFenwick
open RbV RbV.Rs RbV.Gen.SrcFenwick
open RbV.Model.Fenwick (lowbit getLoop setLoop)
open RbV.Lemmas.Fenwick (lowbit_pos lowbit_le and_neg_eq_lowbit and_pred)

/-! ### `idx & -idx` is the lowest set bit -/

/-- the bit pattern of `-(idx as isize)` -/
def negPat (i : Nat) : Nat := 2 ^ 64 - i

theorem neg_ok (i : Nat) (h0 : 0 < i) (h : i < 2 ^ 63) : Rs.neg 64 i = Res.ok (negPat i) := by
  have hne : ¬ i = 2 ^ (64 - 1) := by
    intro e
    rw [e] at h
    exact absurd h (by decide)
  rw [Rs.neg, if_neg hne, negPat, Nat.mod_eq_of_lt (by omega)]

/-- `idx.wrapping_neg()` is the same bit pattern (robustness: the source may compute `-idx` on `usize` instead of `isize`) -/
theorem wrappingNeg_eq (i : Nat) (h0 : 0 < i) (h : i < 2 ^ 63) : Rs.wrappingNeg 64 i = negPat i := by
  rw [Rs.wrappingNeg, negPat, Nat.mod_eq_of_lt (by omega), Nat.mod_eq_of_lt (by omega)]

theorem and_negPat (i : Nat) (h0 : 0 < i) (h : i < 2 ^ 63) : i &&& negPat i = lowbit i :=
  and_neg_eq_lowbit i h0 64 (by omega)

variable {α : Type}

/-- the translated `while idx > 0` loop is the model's `getLoop` (with one unit of fuel less) -/
theorem get_while_eq (op : α → α → α) (dflt : α) (tree : List α) (hlen : tree.length ≤ 2 ^ 63) :
    ∀ (fuel idx : Nat) (sum : α), idx < fuel → idx < tree.length →
      ∃ i', get_while1 op dflt tree fuel (sum, idx) = Res.ok (getLoop op dflt tree (fuel - 1) idx sum, i') := by
  intro fuel
  induction fuel with
  | zero => intro idx sum h; omega
  | succ f ih =>
    intro idx sum hf hidx
    by_cases hpos : idx > 0
    · have hlp := lowbit_pos idx hpos
      have hll := lowbit_le idx
      obtain ⟨i', hi'⟩ := ih (idx - lowbit idx) (op sum (tree.getD idx dflt)) (by omega) (by omega)
      refine ⟨i', ?_⟩
      cases f with
      | zero => omega
      | succ f' =>
        simp only [Nat.add_sub_cancel] at hi' ⊢
        rw [get_while1, getLoop, List.getD_eq_getElem tree idx dflt hidx]
        rw [List.getD_eq_getElem tree idx dflt hidx] at hi'
        simp (disch := omega) [rs_ok, hpos, neg_ok, wrappingNeg_eq, and_negPat, and_pred, hi']
    · have h0 : idx = 0 := by omega
      subst h0
      refine ⟨0, ?_⟩
      cases f <;> simp [get_while1, getLoop]

/-- **`FenwickTree::get` as written in the source = the model's `get`**, for every in-range index: no panic (no
out-of-bounds read, `idx + 1` does not overflow, `-(idx as isize)` is never `-isize::MIN`, `idx -= …` does not underflow)
and the fuel suffices. -/
theorem get_eq_model (op : α → α → α) (dflt : α) (tree : List α) (idx : Nat) (h : idx + 1 < tree.length)
    (hlen : tree.length ≤ 2 ^ 63) :
    get op dflt tree idx = Res.ok (Model.Fenwick.get op dflt tree idx) := by
  obtain ⟨i', hi'⟩ := get_while_eq op dflt tree hlen (idx + 1 + 1) (idx + 1) dflt (by omega) h
  simp only [Nat.add_sub_cancel] at hi'
  simp (disch := omega) [rs_ok, Gen.SrcFenwick.get, Model.Fenwick.get, hi']


/-- the translated `while idx < self.tree.len()` loop is the model's `setLoop` (with one unit of fuel less) -/
theorem set_while_eq (op : α → α → α) (dflt val : α) :
    ∀ (fuel idx : Nat) (tree : List α), 0 < idx → tree.length ≤ 2 ^ 63 → tree.length < fuel + idx → 0 < fuel →
      ∃ i', set_while1 op dflt val fuel (tree, idx) = Res.ok (setLoop op dflt val (fuel - 1) idx tree, i') := by
  intro fuel
  induction fuel with
  | zero => intro idx tree h0 hlen hf hfuel; omega
  | succ f ih =>
    intro idx tree hpos hlen hf _
    by_cases hidx : idx < tree.length
    · have hlp := lowbit_pos idx hpos
      have hll := lowbit_le idx
      obtain ⟨i', hi'⟩ := ih (idx + lowbit idx) (tree.set idx (op tree[idx] val)) (by omega)
        (by simpa using hlen) (by simp; omega) (by omega)
      refine ⟨i', ?_⟩
      cases f with
      | zero => omega
      | succ f' =>
        simp only [Nat.add_sub_cancel] at hi' ⊢
        rw [set_while1, setLoop, List.getD_eq_getElem tree idx dflt hidx]
        simp (disch := omega) [rs_ok, hidx, neg_ok, wrappingNeg_eq, and_negPat, hi']
    · refine ⟨idx, ?_⟩
      cases f <;> simp [set_while1, setLoop, hidx]

/-- **`FenwickTree::set` as written in the source = the model's `set`** (the new content of `self.tree`): no panic, the
fuel suffices. -/
theorem set_eq_model (op : α → α → α) (dflt : α) (tree : List α) (idx : Nat) (val : α) (hidx : idx + 1 < 2 ^ 64)
    (hlen : tree.length ≤ 2 ^ 63) :
    set op dflt tree idx val = Res.ok (Model.Fenwick.set op dflt tree idx val) := by
  obtain ⟨i', hi'⟩ := set_while_eq op dflt val (tree.length + 1) (idx + 1) tree (by omega) hlen (by omega)
    (by omega)
  simp only [Nat.add_sub_cancel] at hi'
  simp (disch := omega) [rs_ok, Gen.SrcFenwick.set, Model.Fenwick.set, hi']

/-- a history of in-range updates through the translated `set`, from any tree of length `n + 1` (`FenwickTree::new(n)` has
that length), is the same history through the model's `set` -/
theorem run_eq_model (op : α → α → α) (dflt : α) (n : Nat) (hn : n + 1 ≤ 2 ^ 63) (ups : List (Nat × α)) :
    ∀ (tree : List α), tree.length = n + 1 → (∀ u ∈ ups, u.1 < n) →
      ups.foldlM (fun t u => set op dflt t u.1 u.2) tree
        = Res.ok (ups.foldl (fun t u => Model.Fenwick.set op dflt t u.1 u.2) tree) := by
  induction ups with
  | nil => intro tree _ _; simp
  | cons u us ih =>
    intro tree hlen hu
    have h1 : u.1 < n := hu u (by simp)
    rw [List.foldlM_cons, List.foldl_cons, set_eq_model op dflt tree u.1 u.2 (by omega) (by omega), Res.ok_bind]
    exact ih _ (by rw [Model.Fenwick.set, Lemmas.Fenwick.length_setLoop]; exact hlen) (fun u' hu' => hu u' (by simp [hu']))

end RbV.Thm.GenSrcFenwick
