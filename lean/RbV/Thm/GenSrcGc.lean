import RbV.Gen.SrcGc
import RbV.Spec.Gc
import RbV.Thm.GenSrcOk
/-!
# The translated text of `gc::gcn_content` (counting part) equals the GC model

`RbV/Gen/SrcGc.lean` is regenerated from `src/seq_analysis/gc.rs` on every `./check C20` (dialect "cf": `step_by`, `fold`
with a closure over a `match` with `|` alternatives).  The `f32` conversion and division stay outside: `x as f32` and `/`
are the abstract parameters `toF32`, `fdiv` of the generated definition, so the theorem says *which two integers* are
converted and divided: the number of `C G c g` among the symbols at positions `0, step, 2·step, …` and the number of
those positions.  `Rs.stepBy` (`RsSem.lean`) panics for `step = 0`, as `Iterator::step_by` does.
-/
set_option linter.unusedSimpArgs false
namespace RbV.Thm.GenSrcGc
open RbV RbV.Rs RbV.Gen.SrcGc
variable {F : Type} (toF32 : Nat → F) (fdiv : F → F → F)

/-- the closure of the `fold`: `(l, count) ↦ (l + 1, count + [symbol is one of C G c g])` -/
theorem fold_step (l c a : Nat) (hl : l + 1 < 2 ^ 64) (hc : c ≤ l) :
    gcnContent_fold1 toF32 fdiv (l, c) a = Res.ok (l + 1, c + if Gc.isGC a then 1 else 0) := by
  unfold gcnContent_fold1 Gc.isGC
  -- the alternatives of the `match` in any order
  simp (disch := omega) only [rs_ok, Bool.or_assoc, Bool.or_comm, Bool.or_left_comm, Nat.add_comm 1]
  split <;> rfl

theorem fold_eq :
    ∀ (s : List Nat) (l c : Nat), l + s.length < 2 ^ 64 → c ≤ l →
      s.foldlM (gcnContent_fold1 toF32 fdiv) (l, c) = Res.ok (l + s.length, c + Gc.gcCount s) := by
  intro s
  induction s with
  | nil => intro l c _ _; simp [Gc.gcCount]
  | cons a t ih =>
    intro l c hl hc
    simp only [List.length_cons] at hl
    have hb := fold_step toF32 fdiv l c a (by omega) hc
    have := ih (l + 1) (c + if Gc.isGC a then 1 else 0) (by omega) (by split <;> omega)
    simp only [List.foldlM_cons, hb, Res.ok_bind, this, List.length_cons, Gc.gcCount, List.countP_cons]
    congr 2 <;> omega

/-- **`gcn_content` as written in the source**: for a positive `step` and a sequence shorter than `2^64` the translated
function does not panic and returns `count as f32 / l as f32` where `l` is the number of sampled positions
`0, step, 2·step, …` and `count` the number of `C G c g` among the symbols there. -/
theorem gcnContent_eq_model (s : List Nat) (step : Nat) (hstep : 0 < step)
    (hlen : s.length < 2 ^ 64) :
    gcnContent toF32 fdiv s step
      = Res.ok (fdiv (toF32 (Gc.gcCount (Rs.stepByGo step 0 s))) (toF32 (Rs.stepByGo step 0 s).length)) := by
  have h := fold_eq toF32 fdiv (Rs.stepByGo step 0 s) 0 0 (by have := Rs.stepByGo_length_le step s 0; omega) (Nat.le_refl _)
  simp only [Nat.zero_add] at h
  simp [gcnContent, Rs.stepBy_ok hstep, h]

theorem gcnContent_step_zero_panics (toF32 : Nat → F) (fdiv : F → F → F) (s : List Nat) :
    gcnContent toF32 fdiv s 0 = Res.panic := by simp [gcnContent, Rs.stepBy]

/-- every third symbol, starting with the first: the model `every3 · 0` of the driver -/
theorem stepByGo3_eq_every3 : ∀ s : List Nat, Rs.stepByGo 3 0 s = Gc.every3 s 0
  | [] => rfl
  | [_] | [_, _] => by simp [Rs.stepByGo, Gc.every3]
  | a :: b :: c :: t => by
    have hlen : ((a :: b :: c :: t).length + 2 - 0) / 3 = (t.length + 2 - 0) / 3 + 1 := by
      simp only [List.length_cons]; omega
    rw [Gc.every3, hlen, List.range_succ_eq_map, List.map_cons, List.map_map]
    show a :: Rs.stepByGo 3 0 t = _
    rw [stepByGo3_eq_every3 t]
    -- entry `3 * (i + 1)` of `a :: b :: c :: t` is entry `3 * i` of `t`, by unfolding `getD`
    rfl

example : gcnContent (F := Nat × Nat) (fun n => (n, 1)) (fun a b => (a.1, b.1)) [71, 65, 84, 65, 84, 65, 67, 65] 3
    = Res.ok (2, 3) := by decide
example : gcnContent (F := Nat × Nat) (fun n => (n, 1)) (fun a b => (a.1, b.1)) [71, 65, 84, 65, 84, 65, 67, 65] 1
    = Res.ok (2, 8) := by decide

end RbV.Thm.GenSrcGc
