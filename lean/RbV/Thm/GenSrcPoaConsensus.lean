import RbV.Gen.SrcPoaConsensus
import RbV.Lemmas.PoaConsensus
/-!
# `Aligner::consensus` as translated from the source text returns a non-empty word spelled by a path — for any arg-max choice

Tie-robust: nothing is assumed about *which* incoming edge the per-node maximisation keeps or which end node `max_by_key`
picks — only what every such choice satisfies: the stored successor of node `v` is `usize::MAX` or a predecessor of `v`
(`for2_next`: one round either keeps `best` or stores the neighbour), and the end node is an index of the table (`pick_lt`).
The walk back then follows edges against the topological order (`Model.consWalk_dag`), so it terminates within the fuel
`node_count() + 2` and spells a path.  `consensus_is_path`: whenever the translated function returns, the word is non-empty
and `Spelled`.
-/
set_option linter.unusedSimpArgs false
set_option linter.unnecessarySimpa false
namespace RbV.Thm.GenSrcPoaConsensus
open RbV RbV.Rs RbV.Rs.Res RbV.Poa RbV.Poa.Model RbV.Gen.SrcPoaConsensus

abbrev Ent := Int × Int × Nat

/-- one round of the per-node maximisation keeps `best` or stores the neighbour — whatever the comparison is -/
theorem for2_next (g : G) (tab : List Ent) (v : Nat) (best best' : Ent) (u : Nat)
    (h : consensus_for2 g tab v best u = ok best') : best' = best ∨ best'.2.2 = u := by
  unfold consensus_for2 at h
  simp only [Res.bind_eq_ok, Res.pure_eq_ok] at h
  obtain ⟨t1, -, t2, -, t3, -, hd⟩ := h
  split at hd
  · right
    simp only [Res.ok_bind, Res.pure_eq_ok, Res.ok.injEq] at hd
    rw [← hd]
  · left
    simp only [Res.ok_bind, Res.pure_eq_ok, Res.ok.injEq] at hd
    rw [← hd]

theorem for2_fold (g : G) (tab : List Ent) (v : Nat) : ∀ (L : List Nat) (best b : Ent),
    List.foldlM (consensus_for2 g tab v) best L = ok b → b.2.2 = best.2.2 ∨ b.2.2 ∈ L
  | [], best, b, h => by
    simp only [List.foldlM_nil, Res.pure_eq_ok, Res.ok.injEq] at h
    left; rw [h]
  | u :: L, best, b, h => by
    simp only [List.foldlM_cons, Res.bind_eq_ok] at h
    obtain ⟨b1, h1, h2⟩ := h
    rcases for2_fold g tab v L b1 b h2 with e | e
    · rcases for2_next g tab v best b1 u h1 with e1 | e1
      · left; rw [e, e1]
      · right; rw [e, e1]; exact List.mem_cons_self ..
    · right; exact List.mem_cons_of_mem _ e

/-- `Model.NextOK` on the raw table, before `toOpt`: the successor stored for `v` is `usize::MAX` or a predecessor of `v` -/
def NextOKRaw (es : WEdges) (v : Nat) (e : Ent) : Prop := e.2.2 = Rs.usizeMax ∨ e.2.2 ∈ inN es v

theorem for1_spec (g : G) (tab tab' : List Ent) (v : Nat) (h : consensus_for1 g tab v = ok tab') :
    ∃ b, v < tab.length ∧ tab' = tab.set v b ∧ NextOKRaw g.es v b := by
  unfold consensus_for1 at h
  simp only [Res.bind_eq_ok, Res.pure_eq_ok] at h
  obtain ⟨b, hb, t, ht, he⟩ := h
  simp only [Res.ok.injEq] at he
  subst he
  unfold Rs.setIdx at ht
  split at ht
  · rename_i hlt
    simp only [Res.ok.injEq] at ht
    refine ⟨b, hlt, ht.symm, ?_⟩
    rcases for2_fold g tab v _ _ b hb with e | e
    · left; exact e
    · right; exact e
  · cases ht

theorem for1_fold (g : G) (n : Nat) : ∀ (order : List Nat) (tab tab' : List Ent),
    tab.length = n → (∀ v, ∀ e, tab[v]? = some e → NextOKRaw g.es v e) →
    List.foldlM (consensus_for1 g) tab order = ok tab' →
    tab'.length = n ∧ ∀ v, ∀ e, tab'[v]? = some e → NextOKRaw g.es v e
  | [], tab, tab', hl, hok, h => by
    simp only [List.foldlM_nil, Res.pure_eq_ok, Res.ok.injEq] at h
    subst h; exact ⟨hl, hok⟩
  | v :: order, tab, tab', hl, hok, h => by
    simp only [List.foldlM_cons, Res.bind_eq_ok] at h
    obtain ⟨t1, h1, h2⟩ := h
    obtain ⟨b, hv, rfl, hb⟩ := for1_spec g tab t1 v h1
    refine for1_fold g n order _ tab' (by simp [hl]) ?_ h2
    intro u e he
    by_cases huv : v = u
    · subst huv
      simp only [List.getElem?_set, hv, if_true, Option.some.injEq] at he
      rw [← he]; exact hb
    · simp only [List.getElem?_set, huv, if_false] at he
      exact hok u e he

/-! ### the end node -/

theorem maxBy_mem {α : Type} (cmp : α → α → Ordering) : ∀ (l : List α) (x : α), Rs.maxBy cmp l = some x → x ∈ l
  | [], x, h => by simp [Rs.maxBy] at h
  | a :: l, x, h => by
    simp only [Rs.maxBy, Option.some.injEq] at h
    have key : ∀ (l : List α) (a : α), l.foldl (Rs.maxStep cmp) a = a ∨ l.foldl (Rs.maxStep cmp) a ∈ l := by
      intro l
      induction l with
      | nil => intro a; left; rfl
      | cons b l ih =>
        intro a
        simp only [List.foldl_cons]
        rcases ih (Rs.maxStep cmp a b) with e | e
        · rw [e]
          unfold Rs.maxStep
          split
          · left; rfl
          · right; exact List.mem_cons_self ..
        · right; exact List.mem_cons_of_mem _ e
    rcases key l a with e | e
    · rw [← h, e]; exact List.mem_cons_self ..
    · rw [← h]; exact List.mem_cons_of_mem _ e

theorem enumFrom_mem {α : Type} : ∀ (l : List α) (k : Nat) (x : Nat × α), x ∈ Rs.enumFrom k l → k ≤ x.1 ∧ x.1 < k + l.length
  | [], k, x, h => by simp [Rs.enumFrom] at h
  | a :: l, k, x, h => by
    simp only [Rs.enumFrom, List.mem_cons] at h
    rcases h with rfl | h
    · simp
    · have := enumFrom_mem l (k + 1) x h
      simp only [List.length_cons]; omega

theorem pick_lt {α κ : Type} (kcmp : κ → κ → Ordering) (key : Nat × α → κ) (L : List (Nat × α)) (n pos : Nat)
    (hL : ∀ x ∈ L, x.1 < n)
    (h : Rs.expect (Option.map (fun (x1 : Nat × α) => x1.1) (Rs.maxByKey kcmp key L)) = ok pos) : pos < n := by
  unfold Rs.maxByKey at h
  generalize (fun x y => kcmp (key x) (key y)) = cmp at h
  cases hm : Rs.maxBy cmp L with
  | none => rw [hm] at h; simp at h
  | some x =>
    rw [hm] at h
    simp only [Option.map_some, Rs.expect_some, Res.ok.injEq] at h
    rw [← h]; exact hL x (maxBy_mem cmp L x hm)

/-! ### the walk back -/

def toOpt (p : Nat) : Option Nat := if p = Rs.usizeMax then none else some p
def toTab (tab : List Ent) : Array CEntry := (tab.map fun e => (e.1, e.2.1, toOpt e.2.2)).toArray

theorem toTab_getD (tab : List Ent) (v : Nat) (e : Ent) (h : tab[v]? = some e) :
    (toTab tab).getD v (0, 0, none) = (e.1, e.2.1, toOpt e.2.2) := by
  have hlt : v < tab.length := by
    rcases Nat.lt_or_ge v tab.length with h1 | h1
    · exact h1
    · rw [List.getElem?_eq_none h1] at h; cases h
  simp [toTab, Array.getD, hlt, List.getElem?_eq_getElem hlt] at h ⊢
  subst h
  exact ⟨rfl, rfl, rfl⟩

theorem while_eq (g : G) (tab : List Ent) (hlen : tab.length = g.labels.length) :
    ∀ (f pos : Nat) (cons w : List Nat),
    consWalk g.labels (toTab tab) f (toOpt pos) cons.reverse = some w →
    consensus_while1 g tab f (cons, pos) = ok (w.reverse, Rs.usizeMax)
  | 0, pos, cons, w, h => by simp [consWalk] at h
  | f + 1, pos, cons, w, h => by
    unfold consensus_while1
    by_cases hp : pos = Rs.usizeMax
    · subst hp
      simp only [toOpt, if_true, consWalk, Option.some.injEq] at h
      simp [← h]
    · simp only [toOpt, hp, if_false, consWalk] at h
      by_cases hlt : pos < g.labels.length
      · simp only [hlt, if_true] at h
        have hlt' : pos < tab.length := by omega
        have hge : tab[pos]? = some tab[pos] := List.getElem?_eq_getElem hlt'
        rw [toTab_getD tab pos _ hge] at h
        have hw : Rs.Poa.nodeWeight g pos = ok (g.labels.getD pos 0) := by
          unfold Rs.Poa.nodeWeight
          rw [Rs.idx_ok hlt]; simp [List.getD, List.getElem?_eq_getElem hlt]
        have ih := while_eq g tab hlen f tab[pos].2.2 (cons ++ [g.labels.getD pos 0]) w (by simpa using h)
        simp only [hp, ne_eq, not_false_eq_true, decide_true, if_true, hw, Res.ok_bind, Rs.idx_ok hlt']
        exact ih
      · simp [hlt] at h

theorem nextOK_toTab (g : G) (tab : List Ent) (hok : ∀ v, ∀ e, tab[v]? = some e → NextOKRaw g.es v e) :
    ∀ v, NextOK g.es v ((toTab tab).getD v (0, 0, none)) := by
  intro v
  cases hv : tab[v]? with
  | none =>
    have : (toTab tab).getD v (0, 0, none) = (0, 0, none) := by
      have hge : tab.length ≤ v := by
        rcases Nat.lt_or_ge v tab.length with h1 | h1
        · rw [List.getElem?_eq_getElem h1] at hv; cases hv
        · exact h1
      simp [toTab, Array.getD, Nat.not_lt.mpr hge]
    rw [this]; left; rfl
  | some e =>
    rw [toTab_getD tab v e hv]
    rcases hok v e hv with h | h
    · left; simp [toOpt, h]
    · by_cases hm : e.2.2 = Rs.usizeMax
      · left; simp [toOpt, hm]
      · right; exact ⟨e.2.2, h, by simp [toOpt, hm]⟩

/-- **whenever the translated `Aligner::consensus` returns, it returns a non-empty word spelled by a path of the graph** — on
every non-empty well-formed DAG with fewer than `usize::MAX` nodes, whatever the edge weights are and whichever of several
equally good predecessors / end nodes the code picks -/
theorem consensus_is_path (g : G) (hg : Dag g) (hsz : g.labels.length < Rs.usizeMax) (w : List Nat)
    (h : RbV.Gen.SrcPoaConsensus.consensus g = ok w) : w ≠ [] ∧ Spelled g.labels (plain g.es) w := by
  unfold RbV.Gen.SrcPoaConsensus.consensus at h
  simp only [Res.bind_eq_ok, Res.pure_eq_ok, Rs.Poa.nodeCount, Rs.Poa.topoOrder] at h
  obtain ⟨tab, htab, pos, hpos, cp, hwh, hw⟩ := h
  obtain ⟨hlen, hok⟩ := for1_fold g g.labels.length _ _ tab (by simp)
    (fun v e he => by
      have : e = ((0 : Int), (0 : Int), Rs.usizeMax) := by
        simp only [List.getElem?_replicate] at he
        split at he
        · simp only [Option.some.injEq] at he; exact he.symm
        · cases he
      left; rw [this]) htab
  have hposlt : pos < g.labels.length := by
    refine pick_lt _ _ _ g.labels.length pos ?_ hpos
    intro x hx
    have := enumFrom_mem tab 0 x (by simpa [Rs.enumerate] using hx)
    omega
  obtain ⟨P', hne, hwalk, hval, heq⟩ := consWalk_dag g.labels g.es hg (toTab tab) (nextOK_toTab g tab hok) pos hposlt
  have hpm : toOpt pos = some pos := by
    have : pos ≠ Rs.usizeMax := by omega
    simp [toOpt, this]
  have hrun := while_eq g tab hlen (g.labels.length + 2) pos [] _ (by rw [hpm]; simpa using heq)
  rw [hrun] at hwh
  simp only [Res.ok.injEq] at hwh hw
  subst hwh
  simp only [List.reverse_reverse] at hw
  subst hw
  exact ⟨fun hh => hne (List.map_eq_nil_iff.mp hh), P', hwalk, hval, rfl⟩

end RbV.Thm.GenSrcPoaConsensus
