import RbV.Gen.SrcShiftAndNext
import RbV.Model.ShiftAnd
import RbV.Thm.GenSrcBasic
import RbV.Thm.GenSrcShiftAndMasks
import RbV.Thm.GenSrcScan
/-!
# The translated text of `shift_and::Matches::next` equals the mirror model `ShiftAnd.run`

`RbV/Gen/SrcShiftAndNext.lean` is regenerated from `src/pattern_matching/shift_and.rs` by `tools/rs2lean.py` on every
`./check C08`.  The translated `next` works on the explicit iterator state `(active, text)`, `text` = (bytes not yet
consumed, counter of the `enumerate()`); it consumes bytes until the accept test succeeds and then returns
`Some(i + 1 - m)`, or `None` when the text is exhausted.  `Rs.drain` (RsSem.lean) calls `next` until `None`: that is
what a consumer of `find_all` sees.  Theorem: `drain next` from the initial state of `find_all` = `ShiftAnd.findAll`.

The checked subtraction `i + 1 - m` is the reason the proof needs the automaton invariant `ShiftAnd.Inv`: the accept bit
can only be set after at least `m` symbols.
-/
set_option linter.unusedSimpArgs false

namespace RbV.Thm.GenSrcShiftAndNext
open RbV RbV.Rs RbV.Gen.SrcShiftAndNext RbV.Thm.GenSrc

/-- the tables the constructor stores (`GenSrcShiftAndMasks.masks_eq_model`: what the translated `masks` returns) -/
def mtab (p : List Nat) : List Nat := tab 256 (ShiftAnd.masksLoop p).masks

/-- one unfolding of the translated `for (i, c) in self.text.by_ref()` loop under the automaton invariant -/
theorem iter_cons (p : List Nat) (hp : 0 < p.length) (hm : p.length ≤ 64) (pre : List Nat) (active c : Nat)
    (rest : List Nat) (hinv : ShiftAnd.Inv p pre active) (hc : c < 256) (hi : pre.length + 1 + rest.length < 2 ^ 64) :
    next_iter1 (mtab p) (ShiftAnd.masksLoop p).accept p.length (c :: rest) pre.length active =
      if (fun a => decide (a &&& (ShiftAnd.masksLoop p).accept > 0)) (ShiftAnd.step (ShiftAnd.masksLoop p) active c)
      then Res.ok (ShiftAnd.step (ShiftAnd.masksLoop p) active c, (rest, pre.length + 1),
        some (some (pre.length + 1 - p.length)))
      else next_iter1 (mtab p) (ShiftAnd.masksLoop p).accept p.length rest (pre.length + 1)
        (ShiftAnd.step (ShiftAnd.masksLoop p) active c) := by
  have e1 : Rs.shl 64 active 1 = Res.ok ((active <<< 1) % 2 ^ 64) := Rs.shl_ok (by decide)
  have e2 : Rs.idx (mtab p) c = Res.ok ((ShiftAnd.masksLoop p).masks c) := idx_tab 256 _ c hc
  have hstep : ((active <<< 1) % 2 ^ 64 ||| 1) &&& (ShiftAnd.masksLoop p).masks c
      = ShiftAnd.step (ShiftAnd.masksLoop p) active c := rfl
  have hpre : pre.length + 1 < 2 ^ 64 := Nat.lt_of_le_of_lt (Nat.le_add_right _ _) hi
  have e3 : Rs.add 64 pre.length 1 = Res.ok (pre.length + 1) := Rs.add_ok hpre
  have e3' : Rs.add 64 1 pre.length = Res.ok (pre.length + 1) := Rs.add_ok_comm hpre
  rw [next_iter1]
  simp only [e1, e2, e3, e3', Res.ok_bind, hstep, Res.pure_eq_ok, gt_iff_lt, Nat.pos_iff_ne_zero, decide_eq_true_eq,
    bne_iff_ne, ne_eq, ite_not, decide_not, Bool.not_eq_true', decide_eq_false_iff_not]
  split
  · rfl
  · -- a match ends here: `i + 1 - m` does not underflow because the accept bit needs `m` symbols
    rename_i hacc
    have hfull := ((ShiftAnd.sufMatch_full_iff p (pre ++ [c]) hp).mp
      ((ShiftAnd.accept_test p (pre ++ [c]) _ hm hp (ShiftAnd.step_inv p pre active c hm hinv)).mp
        (Nat.pos_iff_ne_zero.mpr hacc))).length_le
    rw [List.length_append, List.length_singleton] at hfull
    rw [Rs.sub_ok hfull]
    rfl

/-- the iterator state of `shift_and::Matches`: `(active, text)` -/
abbrev State := Nat × (List Nat × Nat)

/-- the translated `next` as a step function on the iterator state, for the matcher built from `p` -/
def nextS (p : List Nat) (s : State) : Res (State × Option Nat) := do
  let (a, tx, r) ← next p.length (mtab p) (ShiftAnd.masksLoop p).accept s.1 s.2
  pure ((a, tx), r)

theorem drain_eq_run (p : List Nat) (hp : 0 < p.length) (hm : p.length ≤ 64) :
    ∀ (fuel : Nat) (rest pre : List Nat) (active : Nat), ShiftAnd.Inv p pre active → (∀ c ∈ rest, c < 256) →
      pre.length + rest.length < 2 ^ 64 → rest.length < fuel →
      Rs.drain (nextS p) fuel (active, (rest, pre.length))
        = Res.ok (ShiftAnd.run (ShiftAnd.masksLoop p) p.length rest pre.length active) := by
  intro fuel rest pre active hinv hb h64 hf
  rw [ShiftAnd.run_eq_scan]
  refine GenSrcScan.drain_eq_scan (ShiftAnd.step (ShiftAnd.masksLoop p))
    (fun a => decide (a &&& (ShiftAnd.masksLoop p).accept > 0)) p.length (ShiftAnd.Inv p)
    (next_iter1 (mtab p) (ShiftAnd.masksLoop p).accept p.length)
    (fun a tx => next p.length (mtab p) (ShiftAnd.masksLoop p).accept a tx) (fun _ _ => rfl)
    (fun pre s c rest hinv hc hi => iter_cons p hp hm pre s c rest hinv hc hi) ?_
    (fun pre s c hinv => ShiftAnd.step_inv p pre s c hm hinv) fuel rest pre active hinv hb h64 hf
  intro s tx s' tx' r h
  cases r <;> simp only [next, h, Res.ok_bind, Res.pure_eq_ok] <;> rfl

/-- **the whole `find_all` of ShiftAnd, run through the translated `next`, is the mirror model's `findAll`** (hence, by
`ShiftAnd.findAll_eq_occurrences`, exactly the occurrences): from the initial state `active = 0`, `text.into_iter().enumerate()` that
`ShiftAnd::find_all` builds, calling `next` until it returns `None` never panics and yields `ShiftAnd.findAll p t`. -/
theorem findAll_eq_model (p t : List Nat) (hp : 0 < p.length) (hm : p.length ≤ 64) (hb : ∀ c ∈ t, c < 256)
    (h64 : t.length < 2 ^ 64) :
    Rs.drain (nextS p) (t.length + 1) (0, (t, 0)) = Res.ok (ShiftAnd.findAll p t) := by
  have := drain_eq_run p hp hm (t.length + 1) t [] 0 (ShiftAnd.inv_nil p) hb (by simpa using h64) (by omega)
  simpa [ShiftAnd.findAll] using this

/-- **`ShiftAnd::new` as written**: for a byte pattern of at most 64 symbols it returns `(m, masks, accept)` with the
tables of the mirror model (through the translated `masks`, `masks_eq_model`) -/
theorem new_eq_model (p : List Nat) (hm : p.length ≤ 64) (hb : ∀ c ∈ p, c < 256) :
    new p = Res.ok (p.length, mtab p, (ShiftAnd.masksLoop p).accept) := by
  have e1 : Rs.assert (decide (p.length ≤ 64)) = Res.ok () := Rs.assert_ok (by simpa using hm)
  simp [new, e1, GenSrcShiftAndMasks.masks_eq_model p hb, mtab]

/-- a pattern of more than 64 symbols is refused (`assert!`) -/
theorem new_long_panics (p : List Nat) (hm : 64 < p.length) : new p = Res.panic := by
  have : ¬ p.length ≤ 64 := Nat.not_le_of_lt hm
  simp [new, Rs.assert, this]

/-- **`ShiftAnd::find_all` as written**: the initial iterator state is `active = 0`, all of the text unread, counter 0 -/
theorem findAll_init (t : List Nat) : findAll t = Res.ok (0, (t, 0)) := by
  simp [findAll]

/-- the three translated functions put together as a caller does: `ShiftAnd::new(p).find_all(t).collect()` -/
def findAllSrc (p t : List Nat) : Res (List Nat) := do
  let (m, masks, accept) ← new p
  let (active, text) ← findAll t
  Rs.drain (fun (s : State) => do
    let (a, tx, r) ← next m masks accept s.1 s.2
    pure ((a, tx), r)) (t.length + 1) (active, text)

/-- **ShiftAnd end to end, on the translated source text**: `new`, `find_all` and `next` (until `None`) as written in
`shift_and.rs` never panic and return the mirror model's list, for every byte pattern of 1..64 symbols and every byte
text (whose length fits `usize`). -/
theorem findAllSrc_eq_model (p t : List Nat) (hp : 0 < p.length) (hm : p.length ≤ 64) (hbp : ∀ c ∈ p, c < 256)
    (hb : ∀ c ∈ t, c < 256) (h64 : t.length < 2 ^ 64) :
    findAllSrc p t = Res.ok (ShiftAnd.findAll p t) := by
  have := findAll_eq_model p t hp hm hb h64
  simp only [findAllSrc, new_eq_model p hm hbp, findAll_init, Res.ok_bind]
  exact this

/-! ### one call of `next` (published as `C08.shiftAnd_next_source_eq_model`)

The end-to-end theorems above go through `GenSrcScan.drain_eq_scan`; the statement about a single call keeps its own outcome
predicate `StepSpec` (about `ShiftAnd.run`), which is `GenSrcScan.StepSpec` read through `ShiftAnd.run_eq_scan`. -/

/-- outcome of one call of the loop: either the text is exhausted without a further match, or a match was reported and the
rest of the model's list is what the model yields from the new state -/
def StepSpec (p rest pre : List Nat) (active : Nat) (a' : Nat) (tx' : List Nat × Nat) (r : Option (Option Nat)) : Prop :=
  (r = none ∧ tx'.1 = [] ∧ ShiftAnd.run (ShiftAnd.masksLoop p) p.length rest pre.length active = []) ∨
  (∃ v pre', r = some (some v) ∧ ShiftAnd.Inv p pre' a' ∧ pre'.length = tx'.2 ∧ pre' ++ tx'.1 = pre ++ rest ∧
      tx'.1.length < rest.length ∧ tx'.1 <:+ rest ∧
      ShiftAnd.run (ShiftAnd.masksLoop p) p.length rest pre.length active
        = v :: ShiftAnd.run (ShiftAnd.masksLoop p) p.length tx'.1 tx'.2 a')

theorem iter_eq (p : List Nat) (hp : 0 < p.length) (hm : p.length ≤ 64) (rest pre : List Nat) (active : Nat)
    (hinv : ShiftAnd.Inv p pre active) (hb : ∀ c ∈ rest, c < 256) (h64 : pre.length + rest.length < 2 ^ 64) :
    ∃ a' tx' r, next_iter1 (mtab p) (ShiftAnd.masksLoop p).accept p.length rest pre.length active
        = Res.ok (a', tx', r) ∧ StepSpec p rest pre active a' tx' r := by
  obtain ⟨a', tx', r, hrun, hspec⟩ := GenSrcScan.iter_spec (ShiftAnd.step (ShiftAnd.masksLoop p))
    (fun a => decide (a &&& (ShiftAnd.masksLoop p).accept > 0)) p.length (ShiftAnd.Inv p)
    (next_iter1 (mtab p) (ShiftAnd.masksLoop p).accept p.length) (fun _ _ => rfl)
    (fun pre s c rest hinv hc hi => iter_cons p hp hm pre s c rest hinv hc hi)
    (fun pre s c hinv => ShiftAnd.step_inv p pre s c hm hinv) rest pre active hinv hb h64
  refine ⟨a', tx', r, hrun, ?_⟩
  unfold StepSpec
  simp only [ShiftAnd.run_eq_scan]
  exact hspec

/-- **`shift_and::Matches::next` as written in the source**, called on a state that satisfies the automaton invariant:
no panic, and either `None` with the text exhausted (the model has no further match) or `Some(v)` where `v` is the next
match of the model and the new state satisfies the invariant again. -/
theorem next_eq_model (p : List Nat) (hp : 0 < p.length) (hm : p.length ≤ 64) (rest pre : List Nat) (active : Nat)
    (hinv : ShiftAnd.Inv p pre active) (hb : ∀ c ∈ rest, c < 256) (h64 : pre.length + rest.length < 2 ^ 64) :
    ∃ a' tx' r, nextS p (active, (rest, pre.length)) = Res.ok ((a', tx'), r) ∧
      StepSpec p rest pre active a' tx' (r.map some) := by
  obtain ⟨a', tx', r, hrun, hspec⟩ := iter_eq p hp hm rest pre active hinv hb h64
  rcases hspec with ⟨h1, h2, h3⟩ | ⟨v, pre', h1, h2, h3, h4, h5, hs, h6⟩
  · subst h1
    exact ⟨a', tx', none, by simp [nextS, next, hrun], Or.inl ⟨rfl, h2, h3⟩⟩
  · subst h1
    exact ⟨a', tx', some v, by simp [nextS, next, hrun], Or.inr ⟨v, pre', rfl, h2, h3, h4, h5, hs, h6⟩⟩

end RbV.Thm.GenSrcShiftAndNext
