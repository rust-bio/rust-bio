import RbV.Thm.GenSrcPoaAlign
/-!
# One walk over the main loop of the translated `Poa::custom` (`custom_for1`, `custom_for2`)

The Rust matrix *stands for* the rows of the checked-`i32` mirror up to a relation on cells: `Rel T a b` = same score and the
operations related by `T`; besides, the operation the text writes into cell `(v + 1, j)` satisfies `C v j`.  `T = Eq`, `C` trivial is
the exact reading (`GenSrcPoaCustom`, tie-breaks included); `T = TT` (operations unrelated), `C = Model.CellOK` the score-level one
(`GenSrcPoaScore`: scores, and the operations local whatever a `max` kept).  `max` on cells looks only at scores, so `Rel T` is kept
by `cmax` argument by argument (`rel_cmax`) whatever `T` is, and the operation kept is that of one argument (`cmax2_op`).  The one
step whose proof has to survive a swap of the arguments of a `max` of the Rust text, the predecessor loop
`custom_for3`, is not unfolded here: it is the hypothesis `For3`, proved once per reading.
-/
set_option linter.unusedSimpArgs false
set_option linter.unnecessarySimpa false
namespace RbV.Thm.GenSrcPoaWalk
open RbV RbV.NW RbV.Rs RbV.Rs.Res RbV.Poa RbV.Poa.Model RbV.Gen.SrcPoaAlign RbV.Thm.GenSrcPoaAlign
open RbV.Thm.GenSrcI32 (iadd32_some)

def Rel (T : POp → POp → Prop) (a b : Cell) : Prop := a.score = b.score ∧ T a.op b.op

/-- the Rust cells `as` stand for the mirror's cells `bs` of the columns `off, off + 1, …`, and their operations satisfy `C` there -/
def RelC (T : POp → POp → Prop) (C : Nat → POp → Prop) : Nat → List Cell → List Cell → Prop
  | _, [], [] => True
  | off, a :: as, b :: bs => (Rel T a b ∧ C off a.op) ∧ RelC T C (off + 1) as bs
  | _, _, _ => False

structure RowRepG (T : POp → POp → Prop) (rr : Row) (br : BRow) : Prop where
  start : rr.2.1 = br.start
  stop : rr.2.2 = br.stop
  empty : rr.1 = [] ↔ br.cells = []
  len : rr.1 ≠ [] → br.stop - br.start ≤ rr.1.length
  cells : ∀ k, Rel T (rr.1.getD k mcell) (br.cells.getD k mcell)

section
variable {T : POp → POp → Prop} {C : Nat → POp → Prop}

theorem rel_cmax {a a' b b' : Cell} (h1 : Rel T a a') (h2 : Rel T b b') : Rel T (cmax a b) (cmax a' b') := by
  unfold cmax; rw [h1.1, h2.1]; split <;> assumption

theorem rel_eq {a b : Cell} : Rel Eq a b ↔ a = b := by
  cases a; cases b; simp [Rel]

theorem RelC.length : ∀ {off : Nat} {as bs : List Cell}, RelC T C off as bs → as.length = bs.length
  | _, [], [], _ => rfl
  | _, [], _ :: _, h => h.elim
  | _, _ :: _, [], h => h.elim
  | _, _ :: _, _ :: _, h => congrArg (· + 1) h.2.length

theorem RelC.getD (hT : ∀ o, T o o) : ∀ {off : Nat} {as bs : List Cell}, RelC T C off as bs →
    ∀ k, Rel T (as.getD k mcell) (bs.getD k mcell)
  | _, [], [], _, _ => ⟨rfl, hT _⟩
  | _, [], _ :: _, h, _ => h.elim
  | _, _ :: _, [], h, _ => h.elim
  | _, _ :: _, _ :: _, h, 0 => h.1.1
  | _, _ :: _, _ :: _, h, k + 1 => h.2.getD hT k

theorem RelC.ops : ∀ {off : Nat} {as bs : List Cell}, RelC T C off as bs → ∀ k c, as[k]? = some c → C (off + k) c.op
  | _, [], _, _, _, _, hk => by cases hk
  | _, _ :: _, [], h, _, _, _ => h.elim
  | _, _ :: _, _ :: _, h, 0, c, hk => by
    simp only [List.getElem?_cons_zero, Option.some.injEq] at hk; rw [← hk]; exact h.1.2
  | off, _ :: _, _ :: _, h, k + 1, c, hk => by
    have := h.2.ops k c (by simpa using hk)
    rw [Nat.add_assoc, Nat.add_comm 1 k] at this; exact this

theorem RelC.set : ∀ {off : Nat} {as bs : List Cell}, RelC T C off as bs → ∀ (k : Nat) {a b : Cell}, Rel T a b → C (off + k) a.op →
    RelC T C off (as.set k a) (bs.set k b)
  | _, [], [], h, _, _, _, _, _ => h
  | _, [], _ :: _, h, _, _, _, _, _ => h.elim
  | _, _ :: _, [], h, _, _, _, _, _ => h.elim
  | _, _ :: _, _ :: _, h, 0, _, _, hab, hc => ⟨⟨hab, hc⟩, h.2⟩
  | off, _ :: _, _ :: _, h, k + 1, _, _, hab, hc =>
    ⟨h.1, h.2.set k hab (by rw [Nat.add_assoc, Nat.add_comm 1 k]; exact hc)⟩

theorem rowRepG_eq {rr : Row} {br : BRow} : RowRepG Eq rr br ↔ RowRep rr br :=
  ⟨fun h => ⟨h.start, h.stop, h.empty, h.len, fun k => rel_eq.mp (h.cells k)⟩,
   fun h => ⟨h.start, h.stop, h.empty, h.len, fun k => rel_eq.mpr (h.cells k)⟩⟩

theorem brow_get_rel (hT : ∀ o, T o o) (a b : BRow) (hs : a.start = b.start) (he : a.stop = b.stop)
    (hem : a.cells = [] ↔ b.cells = []) (hc : ∀ k, Rel T (a.cells.getD k mcell) (b.cells.getD k mcell)) (j : Nat) :
    Rel T (a.get j) (b.get j) := by
  unfold BRow.get
  have e : a.cells.isEmpty = b.cells.isEmpty := by
    rw [Bool.eq_iff_iff, List.isEmpty_iff, List.isEmpty_iff]; exact hem
  rw [hs, he, e]
  split
  · exact hc _
  · split
    · exact ⟨rfl, hT _⟩
    · split <;> exact ⟨rfl, hT _⟩

theorem getG (hT : ∀ o, T o o) (tb : Rs.Poa.Traceback) (i j : Nat) (rr : Row) (br : BRow) (h : tb.matrix[i]? = some rr)
    (hr : RowRepG T rr br) : ∃ c, Traceback_get tb i j = ok c ∧ Rel T c (br.get j) := by
  have hr' : RowRep rr { cells := rr.1, start := rr.2.1, stop := rr.2.2 } :=
    ⟨rfl, rfl, Iff.rfl, fun hne => by have := hr.len hne; rw [hr.start, hr.stop]; exact this, fun _ => rfl⟩
  exact ⟨_, get_eq tb i j rr _ h hr', brow_get_rel hT _ _ hr.start hr.stop hr.empty hr.cells j⟩

theorem getD_append_default {α : Type} (l : List α) (d : α) (k : Nat) : (l ++ [d]).getD k d = l.getD k d := by
  simp only [List.getD_eq_getElem?_getD]
  rcases Nat.lt_or_ge k l.length with h | h
  · rw [List.getElem?_append_left h]
  · rw [List.getElem?_append_right h, List.getElem?_eq_none h]
    cases k - l.length <;> simp

theorem rowRepG_of_relC (hT : ∀ o, T o o) {cs cells : List Cell} {n : Nat} (h : RelC T C 0 cs cells) (hl : cells.length = n + 1) :
    RowRepG T (cs ++ [mcell], 0, n + 1) { cells := cells, start := 0, stop := n + 1 } := by
  have hcs : cs.length = n + 1 := by rw [h.length, hl]
  refine ⟨rfl, rfl, ?_, fun _ => by simp [hcs], fun k => ?_⟩
  · constructor
    · intro e; simp at e
    · intro e; have e' : cells = [] := e; rw [e'] at hl; cases hl
  · show Rel T ((cs ++ [mcell]).getD k mcell) (cells.getD k mcell)
    rw [getD_append_default]
    exact h.getD hT k

end

/-- what the walk needs of the predecessor loop `custom_for3` of node `v` with predecessors `prevs` -/
def For3 (T : POp → POp → Prop) (P : POp → Prop) (sc : Sc) (v : Nat) (prevs : List Nat) : Prop :=
  ∀ (tb : Rs.Poa.Traceback) (r j b : Nat) (rowsM : Nat → BRow) (acc accM resM : Cell), 1 ≤ j →
    Rel T acc accM → P acc.op →
    (∀ p ∈ prevs, p + 1 < 2 ^ 64 ∧ ∀ c, ∃ x, Traceback_get tb (p + 1) c = ok x ∧ Rel T x ((rowsM p).get c)) →
    foldlC (predC sc v r b j) accM (prevs.map fun p => (p, rowsM p)) = some resM →
    ∃ res, List.foldlM (custom_for3 sc.w sc.gap tb r (v + 1) b j) acc prevs = ok res ∧ Rel T res resM ∧ P res.op

theorem cmax2_op (P : POp → Prop) (a b : Cell) (ha : P a.op) (hb : P b.op) : P (cmax a b).op := by
  rcases cmax_op a b with h | h <;> rw [h] <;> assumption

section
variable {T : POp → POp → Prop} {P : POp → Prop}

theorem for2_step (hT : ∀ o, T o o) (sc : Sc) (xp : Int) (query : List Nat) (r0 : BRow) (v r n : Nat) (prevs : List Nat)
    (hP : P (.m none) ∧ P (.x 0) ∧ P (.i (some v))) (h3 : For3 T P sc v prevs) (rowsM : Nat → BRow)
    (tb0 : Rs.Poa.Traceback) (M0 : List Row) (c0 : Cell) (done pad : List Cell) (k b : Nat)
    (pre : List (Int × Nat)) (mc : Int × Nat) (suf : List (Int × Nat)) (left leftM candM : Cell) (s : Int)
    (hk : k + 1 < 2 ^ 64) (hlen : v + 1 < M0.length)
    (hr0 : ∃ rr, M0[0]? = some rr ∧ RowRepG T rr r0)
    (hp : ∀ p ∈ prevs, p ≠ v ∧ p + 1 < 2 ^ 64 ∧ ∃ rr, M0[p + 1]? = some rr ∧ RowRepG T rr (rowsM p))
    (hdone : done.length = k) (hkn : k + 1 ≤ n)
    (hleft : (c0 :: done)[k]? = some left) (hlm : left.score = leftM.score) (hb : query.getD k 0 = b) (hpre : pre.length = k + 1)
    (hcand : candC sc (cmax mcell ⟨xp, .x 0⟩) query r0 v r (prevs.map fun p => (p, rowsM p)) (k + 1) = some candM)
    (hs : I32.add leftM.score sc.gap = some s) :
    ∃ cell : Cell, Rel T cell (cmax candM ⟨s, .i (some v)⟩) ∧ P cell.op ∧
    custom_for2 sc.w sc.gap xp r (v + 1) prevs
        (pre ++ mc :: suf, { tb0 with matrix := M0.set (v + 1) (c0 :: done ++ mcell :: pad, 0, n + 1) }) (k, b) =
      ok (pre ++ (if mc.1 < (cmax candM ⟨s, .i (some v)⟩).score then ((cmax candM ⟨s, .i (some v)⟩).score, v + 1) else mc) :: suf,
          { tb0 with matrix := M0.set (v + 1) (c0 :: done ++ cell :: pad, 0, n + 1) }) := by
  generalize htb : ({ tb0 with matrix := M0.set (v + 1) (c0 :: done ++ mcell :: pad, 0, n + 1) } : Rs.Poa.Traceback) = tb
  have hmat : tb.matrix = M0.set (v + 1) (c0 :: done ++ mcell :: pad, 0, n + 1) := by rw [← htb]
  have hg0 : ∀ c, ∃ x, Traceback_get tb 0 c = ok x ∧ Rel T x (r0.get c) := by
    intro c
    obtain ⟨rr, h1, h2⟩ := hr0
    exact getG hT tb 0 c rr r0 (by rw [hmat, getElem?_set_ne' _ _ _ _ (Nat.succ_ne_zero v)]; exact h1) h2
  have hgp : ∀ p ∈ prevs, p + 1 < 2 ^ 64 ∧ ∀ c, ∃ x, Traceback_get tb (p + 1) c = ok x ∧ Rel T x ((rowsM p).get c) := by
    intro p hpm
    obtain ⟨h0, h1, rr, h2, h3⟩ := hp p hpm
    exact ⟨h1, fun c => getG hT tb (p + 1) c rr _
      (by rw [hmat, getElem?_set_ne' _ _ _ _ (fun h => h0 (Nat.succ.inj h).symm)]; exact h2) h3⟩
  have hgl : Traceback_get tb (v + 1) k = ok left := by
    rw [← htb]; exact row_get tb0 M0 v n c0 done pad k left hlen hdone hkn hleft
  rw [← hlm] at hs
  have hset : ∀ cell : Cell, Traceback_set tb (v + 1) (k + 1) cell =
      ok { tb0 with matrix := M0.set (v + 1) (c0 :: done ++ cell :: pad, 0, n + 1) } := by
    intro cell; rw [← htb]; exact row_set tb0 M0 v n c0 done pad k cell hlen hdone hkn
  have hfin := maxcol_update pre mc suf k v hpre
  have hins : Rel T (⟨s, .i (some v)⟩ : Cell) ⟨s, .i (some v)⟩ := ⟨rfl, hT _⟩
  unfold candC at hcand
  simp only [Nat.add_sub_cancel, hb] at hcand
  unfold custom_for2
  cases prevs with
  | nil =>
    simp only [List.map_nil] at hcand
    obtain ⟨x0, hx0, ex0⟩ := hg0 k
    rw [← ex0.1] at hcand
    cases ha : I32.add x0.score (sc.w r b) with
    | none => rw [ha] at hcand; cases hcand
    | some sv =>
      rw [ha] at hcand
      simp only [Option.some.injEq] at hcand
      subst hcand
      refine ⟨cmax ⟨sv, .m none⟩ ⟨s, .i (some v)⟩, ⟨rfl, hT _⟩, cmax2_op P _ _ hP.1 hP.2.2, ?_⟩
      simp only [Rs.add_ok hk, Res.ok_bind, List.isEmpty_nil, if_true, Rs.sub_ok (Nat.le_add_left 1 k), Nat.add_sub_cancel,
        hx0, iadd32_some ha, Res.pure_eq_ok, hgl, iadd32_some hs, Rs.sub_ok (Nat.le_add_left 1 v), hset]
      exact hfin _ _
  | cons p ps =>
    simp only [List.map_cons] at hcand
    obtain ⟨candS, hf3, ecand, eop⟩ := h3 tb r (k + 1) b rowsM (cmax mcell ⟨xp, .x 0⟩) _ candM (Nat.le_add_left 1 k)
      ⟨rfl, hT _⟩ (cmax2_op P _ _ hP.1 hP.2.1) hgp (by simpa using hcand)
    simp only [mcell] at hf3
    have ecell := rel_cmax ecand hins
    refine ⟨cmax candS ⟨s, .i (some v)⟩, ecell, cmax2_op P _ _ eop hP.2.2, ?_⟩
    simp only [Rs.add_ok hk, Res.ok_bind, List.isEmpty_cons, Bool.false_eq_true, if_false, minScore_eq, hf3,
      Rs.sub_ok (Nat.le_add_left 1 k), Nat.add_sub_cancel, Res.pure_eq_ok, hgl, iadd32_some hs,
      Rs.sub_ok (Nat.le_add_left 1 v), hset]
    rw [← ecell.1]
    exact hfin _ _

/-- `C j` = what is recorded of the operation written into column `j` -/
theorem for2_fold {C : Nat → POp → Prop} (hT : ∀ o, T o o) (sc : Sc) (xp : Int) (query : List Nat) (r0 : BRow) (v r n : Nat)
    (prevs : List Nat) (hC : ∀ j, 0 < j → C j (.m none) ∧ C j (.x 0) ∧ C j (.i (some v)))
    (h3 : ∀ j, 0 < j → For3 T (C j) sc v prevs) (rowsM : Nat → BRow)
    (tb0 : Rs.Poa.Traceback) (M0 : List Row) (c0 : Cell)
    (hv : v + 1 < 2 ^ 64) (hn : n + 1 < 2 ^ 64) (hlen : v + 1 < M0.length)
    (hr0 : ∃ rr, M0[0]? = some rr ∧ RowRepG T rr r0)
    (hp : ∀ p ∈ prevs, p ≠ v ∧ p + 1 < 2 ^ 64 ∧ ∃ rr, M0[p + 1]? = some rr ∧ RowRepG T rr (rowsM p)) :
    ∀ (qs : List Nat) (k : Nat) (done : List Cell) (pre suf : List (Int × Nat)) (left leftM : Cell) (csM : List Cell),
    done.length = k → k + qs.length = n → (∀ i, i < qs.length → query.getD (k + i) 0 = qs.getD i 0) →
    (c0 :: done)[k]? = some left → left.score = leftM.score → pre.length = k + 1 → suf.length = qs.length →
    colLoopC (candC sc (cmax mcell ⟨xp, .x 0⟩) query r0 v r (prevs.map fun p => (p, rowsM p))) sc.gap (.i (some v)) leftM
      (List.range' (k + 1) qs.length) = some csM →
    ∃ cs : List Cell, RelC T C (k + 1) cs csM ∧
    List.foldlM (custom_for2 sc.w sc.gap xp r (v + 1) prevs)
        (pre ++ suf, { tb0 with matrix := M0.set (v + 1) (c0 :: done ++ List.replicate (qs.length + 1) mcell, 0, n + 1) })
        (Rs.enumFrom k qs) =
      ok (pre ++ colUpdate (v + 1) suf csM,
          { tb0 with matrix := M0.set (v + 1) (c0 :: done ++ cs ++ [mcell], 0, n + 1) })
  | [], k, done, pre, suf, left, leftM, csM, hd, hkn, hq, hl, hlm, hpre, hsuf, hc => by
    simp only [List.length_nil, List.range'_zero, colLoopC, Option.some.injEq] at hc
    subst hc
    cases suf with
    | nil => exact ⟨[], trivial, by simp [Rs.enumFrom, colUpdate]⟩
    | cons a l => simp at hsuf
  | q :: qs, k, done, pre, suf, left, leftM, csM, hd, hkn, hq, hl, hlm, hpre, hsuf, hc => by
    cases suf with
    | nil => simp at hsuf
    | cons mc suf =>
      simp only [List.length_cons, List.range'_succ] at hc
      obtain ⟨cand, s, rest, hcand, hs, hrest, rfl⟩ := colLoopC_cons_some hc
      have hb : query.getD k 0 = q := by simpa using hq 0 (by simp)
      simp only [List.length_cons] at hkn hsuf
      obtain ⟨cell, ecell, eop, step⟩ := for2_step hT sc xp query r0 v r n prevs (hC (k + 1) (Nat.succ_pos k))
        (h3 (k + 1) (Nat.succ_pos k)) rowsM tb0 M0 c0 done
        (List.replicate (qs.length + 1) mcell) k q pre mc suf left leftM cand s (by omega) hlen hr0 hp hd (by omega) hl hlm hb
        hpre hcand hs
      obtain ⟨cs, ecs, ih⟩ := for2_fold hT sc xp query r0 v r n prevs hC h3 rowsM tb0 M0 c0 hv hn hlen hr0 hp qs (k + 1)
        (done ++ [cell])
        (pre ++ [if mc.1 < (cmax cand ⟨s, .i (some v)⟩).score then ((cmax cand ⟨s, .i (some v)⟩).score, v + 1) else mc])
        suf cell (cmax cand ⟨s, .i (some v)⟩) rest (by simp [hd]) (by omega)
        (fun i hi => by
          have := hq (i + 1) (by simp; omega)
          simpa [Nat.add_assoc, Nat.add_comm 1 i] using this)
        (by
          show ((c0 :: done) ++ [cell])[k + 1]? = _
          have := getElem?_append_len (c0 :: done) cell []
          simpa [hd] using this)
        ecell.1 (by simp [hpre]) (by omega) hrest
      refine ⟨cell :: cs, ⟨⟨ecell, eop⟩, ecs⟩, ?_⟩
      simp only [Rs.enumFrom, List.foldlM_cons, List.length_cons, List.replicate_succ (n := qs.length + 1)]
      rw [step]
      simp only [Res.ok_bind]
      simp only [List.append_assoc, List.singleton_append, List.cons_append, List.nil_append] at ih ⊢
      rw [ih]
      simp [colUpdate]

end

/-- what the walk needs of the recorded predicate: `C v j` holds of every operation the text can write into cell `(v + 1, j)`, and
the predecessor loop keeps it.  From here on `C` takes the node too; `C v` is the `C` of `RelC` and `for2_fold` -/
structure Ops (T : POp → POp → Prop) (C : Nat → Nat → POp → Prop) (sc : Sc) (es : WEdges) : Prop where
  edge : ∀ v, C v 0 (.d none) ∧ C v 0 (.x 0)
  cand : ∀ v j, 0 < j → C v j (.m none) ∧ C v j (.x 0) ∧ C v j (.i (some v))
  for3 : ∀ v j, 0 < j → For3 T (C v j) sc v (inN es v)

/-- state of the main loop: row 0 is `rr0` and stands for `r0`; every row stands for the mirror's; the rows of the nodes not yet
visited are as `with_capacity` left them; those of the nodes visited (`seen`) are complete, `cs ++ [mcell]` with band `[0, n + 1)`, and
their operations are as recorded -/
structure MInvG (T : POp → POp → Prop) (C : Nat → Nat → POp → Prop) (M : List Row) (rr0 : Row) (r0 : BRow) (rows : Array BRow)
    (n : Nat) (seen : List Nat) : Prop where
  len : M.length = rows.size + 1
  r0 : M[0]? = some rr0 ∧ RowRepG T rr0 r0
  rws : ∀ v, v < rows.size → ∃ rr, M[v + 1]? = some rr ∧ RowRepG T rr (rows.getD v (emptyRow n))
  idle : ∀ v, v < rows.size → v ∉ seen → M[v + 1]? = some ([], 0, n + 1)
  vis : ∀ v ∈ seen, ∃ cs, M[v + 1]? = some (cs ++ [mcell], 0, n + 1) ∧
    RelC T (C v) 0 cs (rows.getD v (emptyRow n)).cells ∧ (rows.getD v (emptyRow n)).cells.length = n + 1

section
variable {T : POp → POp → Prop} {C : Nat → Nat → POp → Prop}

/-- writing a complete row for node `v` whose cells stand for `cells` (for the first time, or over the one written before) -/
theorem MInvG.write (hT : ∀ o, T o o) {M : List Row} {rr0 : Row} {r0 : BRow} {rows : Array BRow} {n : Nat} {seen : List Nat}
    (hinv : MInvG T C M rr0 r0 rows n seen) {v : Nat} (hv : v < rows.size) {cs cells : List Cell}
    (hrow : RelC T (C v) 0 cs cells) (hl : cells.length = n + 1) :
    MInvG T C (M.set (v + 1) (cs ++ [mcell], 0, n + 1)) rr0 r0
      (rows.setIfInBounds v { cells := cells, start := 0, stop := n + 1 }) n (v :: seen) := by
  have hlen : v + 1 < M.length := by rw [hinv.len]; exact Nat.succ_lt_succ hv
  have hnew : (rows.setIfInBounds v { cells := cells, start := 0, stop := n + 1 }).getD v (emptyRow n) =
      { cells := cells, start := 0, stop := n + 1 } := getD_setIfInBounds_self _ hv _ _
  have hold : ∀ u, u ≠ v → (rows.setIfInBounds v { cells := cells, start := 0, stop := n + 1 }).getD u (emptyRow n) =
      rows.getD u (emptyRow n) :=
    fun u huv => getD_setIfInBounds_ne _ huv _ _
  have hother : ∀ u, u ≠ v → (M.set (v + 1) (cs ++ [mcell], 0, n + 1))[u + 1]? = M[u + 1]? :=
    fun u huv => getElem?_set_ne' _ _ _ _ (fun h => huv (Nat.succ.inj h).symm)
  have hself : (M.set (v + 1) (cs ++ [mcell], 0, n + 1))[v + 1]? = some (cs ++ [mcell], 0, n + 1) :=
    set_get_self (List.getElem?_eq_getElem hlen)
  refine ⟨by simp [hinv.len], ⟨by rw [← hinv.r0.1]; exact getElem?_set_ne' _ _ _ _ (Nat.succ_ne_zero v), hinv.r0.2⟩, ?_, ?_, ?_⟩
  · intro u hu
    simp only [Array.size_setIfInBounds] at hu
    by_cases huv : u = v
    · subst huv
      exact ⟨_, hself, by rw [hnew]; exact rowRepG_of_relC hT hrow hl⟩
    · obtain ⟨rr, h1, h2⟩ := hinv.rws u hu
      exact ⟨rr, by rw [hother u huv]; exact h1, by rw [hold u huv]; exact h2⟩
  · intro u hu hus
    simp only [Array.size_setIfInBounds] at hu
    have huv : u ≠ v := fun hh => hus (hh ▸ List.mem_cons_self ..)
    rw [hother u huv]
    exact hinv.idle u hu (fun hh => hus (List.mem_cons_of_mem _ hh))
  · intro u hu
    by_cases huv : u = v
    · subst huv
      exact ⟨cs, hself, by rw [hnew]; exact hrow, by rw [hnew]; exact hl⟩
    · obtain ⟨cs', h1, h2, h3⟩ := hinv.vis u ((List.mem_cons.mp hu).resolve_left huv)
      exact ⟨cs', by rw [hother u huv]; exact h1, by rw [hold u huv]; exact h2, by rw [hold u huv]; exact h3⟩

theorem minvG_init (hT : ∀ o, T o o) {gap yp : Int} {n : Nat} {r0 : BRow} (h0 : bRow0C gap yp n = some r0) (m : Nat) :
    MInvG T C ((r0.cells, 0, n + 1) :: List.replicate m (([] : List Cell), 0, n + 1)) (r0.cells, 0, n + 1) r0
      (Array.replicate m (emptyRow n)) n [] := by
  obtain ⟨hs0, hs1, hs2⟩ := bRow0C_shape h0
  refine ⟨by simp, ⟨rfl, ⟨hs0.symm, hs1.symm, Iff.rfl, fun _ => by simp only; omega, fun _ => ⟨rfl, hT _⟩⟩⟩, ?_, ?_,
    fun _ h => absurd h List.not_mem_nil⟩
  · intro v hv
    simp only [Array.size_replicate] at hv
    refine ⟨([], 0, n + 1), by simp [List.getElem?_replicate, hv], ?_⟩
    rw [replicate_emptyRow_getD]
    exact ⟨rfl, rfl, Iff.rfl, fun hh => absurd rfl hh, fun _ => ⟨rfl, hT _⟩⟩
  · intro v hv _
    simp only [Array.size_replicate] at hv
    simp [List.getElem?_replicate, hv]

theorem for1_step (hT : ∀ o, T o o) (sc : Sc) (xp : Int) (labels : List Nat) (es : WEdges) (query : List Nat) (rr0 : Row) (r0 : BRow)
    (hC : Ops T C sc es) (st st' : CState) (v : Nat) (tb : Rs.Poa.Traceback) (seen : List Nat)
    (hm : labels.length + 1 < 2 ^ 64) (hn : query.length + 1 < 2 ^ 64)
    (hsz : st.rows.size = labels.length) (hv : v < labels.length)
    (hpreds : ∀ p ∈ inN es v, p < labels.length ∧ p ≠ v)
    (hmic : st.maxcol.length = query.length + 1)
    (hinv : MInvG T C tb.matrix rr0 r0 st.rows query.length seen) (hns : v ∉ seen)
    (h : cStepC sc xp labels es query r0 st v = some st') :
    ∃ tb', custom_for1 sc.w ⟨labels, es⟩ sc.gap xp query query.length (st.maxcol, tb) v = ok (st'.maxcol, tb') ∧
      tb'.rows = tb.rows ∧ tb'.cols = tb.cols ∧ tb'.last = v ∧ st'.rows.size = labels.length ∧
      st'.maxcol.length = query.length + 1 ∧ MInvG T C tb'.matrix rr0 r0 st'.rows query.length (v :: seen) := by
  obtain ⟨c0, cands, cells, hc0, hcands, hcells, rfl⟩ := cStepC_some h
  have hloop := colLoopC_of _ sc.gap (.i (some v)) _ c0 cands cells hcands hcells
  have hclen : cells.length = query.length := by
    rw [insScanC_length _ _ _ _ _ hcells, mapC_length hcands, List.length_range']
  obtain ⟨m0, rest, hmc⟩ : ∃ m0 rest, st.maxcol = m0 :: rest := by
    cases hq : st.maxcol with
    | nil => rw [hq] at hmic; cases hmic
    | cons a l => exact ⟨a, l, rfl⟩
  have hrest : rest.length = query.length := by rw [hmc] at hmic; exact Nat.succ.inj hmic
  have hvs : v < st.rows.size := by rw [hsz]; exact hv
  have hfresh := hinv.idle v hvs hns
  have hlen : v + 1 < tb.matrix.length := lt_of_getElem? hfresh
  have hv1 : v + 1 < 2 ^ 64 := Nat.lt_trans (Nat.succ_lt_succ hv) hm
  obtain ⟨cs, ecs, hfold⟩ := for2_fold hT sc xp query r0 v (labels.getD v 0) query.length (inN es v) (hC.cand v) (hC.for3 v)
    (fun p => st.rows.getD p (emptyRow query.length)) { tb with last := v } tb.matrix c0 hv1 hn hlen ⟨_, hinv.r0⟩
    (fun p hp => by
      obtain ⟨h1, h2⟩ := hpreds p hp
      exact ⟨h2, Nat.lt_trans (Nat.succ_lt_succ h1) hm, hinv.rws p (by rw [hsz]; exact h1)⟩)
    query 0 [] [m0] rest c0 c0 cells rfl (Nat.zero_add _) (fun i _ => by rw [Nat.zero_add]) rfl rfl rfl hrest hloop
  have hrow : RelC T (C v) 0 (c0 :: cs) (c0 :: cells) := by
    refine ⟨⟨⟨rfl, hT _⟩, ?_⟩, ecs⟩
    obtain ⟨g, _, rfl⟩ := edgeCellC_some hc0
    exact cmax2_op (C v 0) _ _ (hC.edge v).1 (hC.edge v).2
  refine ⟨{ tb with last := v, matrix := tb.matrix.set (v + 1) ((c0 :: cs) ++ [mcell], 0, query.length + 1) }, ?_, rfl, rfl, rfl,
    by simp [hsz], by simp [hmc, colUpdate_length, hrest], hinv.write hT hvs hrow (by simp [hclen])⟩
  rw [hmc]
  exact for1_of_for2 hv hv1 hn hc0 hfresh hfold

theorem for1_fold (hT : ∀ o, T o o) (sc : Sc) (xp : Int) (labels : List Nat) (es : WEdges) (query : List Nat) (rr0 : Row) (r0 : BRow)
    (hC : Ops T C sc es) (hm : labels.length + 1 < 2 ^ 64) (hn : query.length + 1 < 2 ^ 64)
    (hpreds : ∀ v, ∀ p ∈ inN es v, p < labels.length ∧ p ≠ v) :
    ∀ (order : List Nat) (st st' : CState) (tb : Rs.Poa.Traceback) (seen : List Nat), order.Nodup →
    (∀ v ∈ order, v < labels.length ∧ v ∉ seen) →
    st.rows.size = labels.length → st.maxcol.length = query.length + 1 →
    MInvG T C tb.matrix rr0 r0 st.rows query.length seen →
    foldlC (cStepC sc xp labels es query r0) st order = some st' →
    ∃ tb', List.foldlM (custom_for1 sc.w ⟨labels, es⟩ sc.gap xp query query.length) (st.maxcol, tb) order = ok (st'.maxcol, tb') ∧
      tb'.rows = tb.rows ∧ tb'.cols = tb.cols ∧ tb'.last = order.getLastD tb.last ∧ st'.rows.size = labels.length ∧
      st'.maxcol.length = query.length + 1 ∧ MInvG T C tb'.matrix rr0 r0 st'.rows query.length (order.reverse ++ seen)
  | [], st, st', tb, seen, _, _, hsz, hmic, hinv, h => by
    simp only [foldlC, Option.some.injEq] at h
    subst h
    exact ⟨tb, rfl, rfl, rfl, rfl, hsz, hmic, by simpa using hinv⟩
  | v :: order, st, st', tb, seen, hnd, hlt, hsz, hmic, hinv, h => by
    obtain ⟨st1, h1, h2⟩ := foldlC_cons_some h
    rw [List.nodup_cons] at hnd
    obtain ⟨hv1, hv2⟩ := hlt v (List.mem_cons_self ..)
    obtain ⟨tb1, e1, er, ec, el, hsz1, hmic1, hinv1⟩ := for1_step hT sc xp labels es query rr0 r0 hC st st1 v tb seen hm hn hsz hv1
      (hpreds v) hmic hinv hv2 h1
    obtain ⟨tb', e2, er2, ec2, el2, hsz2, hmic2, hinv2⟩ := for1_fold hT sc xp labels es query rr0 r0 hC hm hn hpreds order st1 st' tb1
      (v :: seen) hnd.2
      (fun u hu => ⟨(hlt u (List.mem_cons_of_mem _ hu)).1, by
        intro hh
        rcases List.mem_cons.mp hh with rfl | hh
        · exact hnd.1 hu
        · exact (hlt u (List.mem_cons_of_mem _ hu)).2 hh⟩) hsz1 hmic1 hinv1 h2
    refine ⟨tb', ?_, by rw [er2, er], by rw [ec2, ec], ?_, hsz2, hmic2, by simpa using hinv2⟩
    · simp only [List.foldlM_cons, e1, Res.ok_bind]; exact e2
    · rw [el2, el]; cases order <;> simp [List.getLastD]

end

end RbV.Thm.GenSrcPoaWalk
