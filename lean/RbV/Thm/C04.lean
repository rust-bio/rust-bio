import RbV.Model.Occ
import RbV.Model.OccTable
import RbV.Model.InvBWT
import RbV.Thm.GenSrcBwt
import RbV.Thm.GenSrcPrescan
import RbV.Thm.GenSrcOcc
import RbV.Thm.GenSrcLess
/-!
# C04 — BWT, less and Occ are exact (the mirror models of `bwt.rs` and its translated text equal the specification)

Specification (`RbV/Ref/BWT.lean`): `bwtRef`, `lessRef bwt c = #{x ∈ bwt | x < c}`,
`occRef bwt r c = #{c in bwt[0..=r]}`.  Mirror models (`RbV/Model/Occ.lean`) follow the Rust code:
`bwtModel`, `occNewLoop` (the loop of `Occ::new`), `occGet` (`Occ::get` with the k > 64 shortcut),
`lessModel` (count array + `utils::prescan`); `occTable` (`RbV/Model/OccTable.lean`: the loop of `Occ::new` with its full state);
`bwtfindModel`, `invertModel` (`RbV/Model/InvBWT.lean`).

Parts of the file: the mirror models are exact (`occ_get_exact` … `occCol_exact`); the LF mapping on the specification functions
(`lf_mapping`) and the round trip `invertModel (bwtRef t sa) = t` on the mirror model (`invert_bwt_roundtrip`); then the translated text of `bwt.rs` and `utils::prescan` (`RbV/Gen/Src*.lean`):
`bwt`, `prescan`, `Occ::new` / `Occ::get`, `less`, `bwtfind` / `invert_bwt` — each equal to its mirror model and, composed with the
first part, to the specification.
-/
namespace RbV.Thm.C04
open RbV RbV.OccM

/-- **The mirror model `occGet` of `Occ::get` on the checkpoint column `occNewLoop bwt k c` (the mirror of the loop of `Occ::new`,
projected on one symbol) is exact**, for every sampling rate `k ≥ 1` (both sides of the 64 switch), every row and every symbol
(the translated text: `occ_get_source_exact`): forward count from the low checkpoint, early exit on equal checkpoints,
backward count from the high checkpoint. -/
theorem occ_get_exact (bwt : List Nat) (k r c : Nat) (hk : 0 < k) (hr : r < bwt.length) :
    occGet (occNewLoop bwt k c) bwt k r c = occRef bwt r c := by
  rw [occNewLoop_eq bwt k c hk]
  exact occ_get_eq bwt k r c hk hr

example : (List.range 6).map (fun r => occGet (occNewLoop [1, 3, 3, 1, 2, 0] 3 3) [1, 3, 3, 1, 2, 0] 3 r 3)
    = [0, 1, 2, 2, 2, 2] := by decide +kernel

/-- **role of the source-extracted threshold** (`Gen.Occ.hiCheckpointThreshold`, the literal of `if self.k > 64` in
`Occ::get`, regenerated from `bwt.rs` on every run): at sampling rates up to the threshold the model — like the code —
answers with the forward count from the low checkpoint alone; only above it the next checkpoint is looked at.
`occ_get_exact` above holds whatever the extracted value is, so a retuned threshold is followed silently. -/
theorem occ_get_forward_up_to_threshold (cp bwt : List Nat) (k r c : Nat) (hk : k ≤ Gen.Occ.hiCheckpointThreshold) :
    occGet cp bwt k r c = cnt bwt (r / k * k + 1) r c + cp.getD (r / k) 0 ∧ occBranch cp k r = "forward" := by
  have h : ¬ (k > Gen.Occ.hiCheckpointThreshold) := Nat.not_lt.mpr hk
  constructor
  · unfold occGet; simp only [h, if_false]
  · unfold occBranch; simp only [h, if_false]

/-- non-vacuity on the other side of the threshold (k = threshold + 1, text of length 2k, two checkpoints; the rows are
chosen relative to k so that the example survives a retuned threshold ≥ 5): backward count from the high checkpoint
(row k−1), early exit on equal checkpoints (absent symbol 3), forward count in the last block (row k+5) -/
example :
    let k := Gen.Occ.hiCheckpointThreshold + 1
    let bwt := List.replicate (k - 2) 1 ++ List.replicate (k + 2) 2
    occBranch (occNewLoop bwt k 2) k (k - 1) = "backward" ∧ occGet (occNewLoop bwt k 2) bwt k (k - 1) 2 = 2 ∧
    occBranch (occNewLoop bwt k 3) k (k - 1) = "early-exit" ∧ occGet (occNewLoop bwt k 3) bwt k (k - 1) 3 = 0 ∧
    occBranch (occNewLoop bwt k 2) k (k + 5) = "forward-last" ∧ occGet (occNewLoop bwt k 2) bwt k (k + 5) 2 = 8 := by
  decide +kernel

/-- the incremental loop of `Occ::new` (running counter, push when `i % k == 0`) produces the checkpoint
table "entry i = occRef bwt (i·k) c for every i with i·k < n" -/
theorem occ_new_loop_table (bwt : List Nat) (k c : Nat) (hk : 0 < k) :
    occNewLoop bwt k c = (List.range ((bwt.length + k - 1) / k)).map (fun i => occRef bwt (i * k) c) :=
  occNewLoop_eq bwt k c hk

example : occNewLoop [1, 3, 3, 1, 2, 0] 3 1 = [1, 2] := by decide +kernel

/-- **The mirror model `occTable` of the loop of `Occ::new` with its full state** (vector of counters, one column per symbol
value, columns of the tracked symbols `alpha` filled) **followed by the mirror model `occGet`** is exact for every symbol `a < m` of a
duplicate-free `alpha`, every `k ≥ 1` and every row (the translated loop: `occ_new_source_eq_model`). -/
theorem occ_table_get_exact (bwt : List Nat) (k : Nat) (alpha : List Nat) (m a r : Nat)
    (hk : 0 < k) (hm : a ∈ alpha) (hnd : alpha.Nodup) (ha : a < m) (hr : r < bwt.length) :
    ((occTable bwt k alpha m)[a]?).map (fun cp => occGet cp bwt k r a) = some (occRef bwt r a) := by
  rw [occTable_col bwt k alpha m a hm hnd ha, Option.map_some, occNewLoop_eq bwt k a hk]
  exact congrArg some (occ_get_eq bwt k r a hk hr)

example : occTable [1, 3, 3, 1, 2, 0] 3 [0, 1, 2, 3] 4 = [[0, 0], [1, 2], [0, 0], [0, 2]] := by decide +kernel

/-- `Occ::get` on the specification's checkpoint column `occNew` (DESIGN.md §B.2) -/
theorem occ_get_eq_table (bwt : List Nat) (k r c : Nat) (hk : 0 < k) (hr : r < bwt.length) :
    occGet (occNew bwt k c) bwt k r c = occRef bwt r c :=
  occ_get_eq bwt k r c hk hr

/-- **The mirror model `lessModel` of `less()`**: the array of size `m` (= max symbol + 2) built by counting and `prescan` holds at every index
`c < m` the number of BWT symbols strictly smaller than `c`. -/
theorem less_exact (bwt : List Nat) (m c : Nat) (h : c < m) :
    (lessModel bwt m)[c]? = some (bwt.countP (fun x => decide (x < c))) :=
  less_eq bwt m c h

example : lessModel [1, 3, 3, 1, 2, 0] 5 = [0, 1, 3, 4, 6] := by decide +kernel

/-- **The mirror model `bwtModel` of `bwt()`**: on an array all of whose entries are text positions the branch
`if p > 0 { text[p-1] } else { text[n-1] }` is the cyclic predecessor -/
theorem bwt_exact (t sa : List Nat) (h : ∀ p ∈ sa, p < t.length) :
    bwtModel t sa = sa.map (fun p => t.getD ((p + t.length - 1) % t.length) 0) :=
  bwtModel_eq t sa h

example : bwtModel [99, 97, 98, 99, 97, 36] [5, 4, 1, 2, 3, 0] = [97, 99, 99, 97, 98, 36] := by decide +kernel

/-- the column the driver compares with is the specification, row by row -/
theorem occCol_exact (bwt : List Nat) (c r : Nat) (h : r < bwt.length) :
    (occCol bwt c)[r]? = some ((bwt.take (r + 1)).count c) :=
  occCol_getElem? bwt c r h


/-- **LF-mapping lemma**: for a text whose last symbol is its unique smallest symbol, a sorted suffix permutation
`sa` (first entry n−1) and `bwt = bwtRef t sa`: `less[c] + Occ(c, r) − 1` with `c = bwt[r]` is the row of the
position that cyclically precedes `sa[r]`. -/
theorem lf_mapping (t sa : List Nat)
    (hperm : sa.Perm (List.range t.length))
    (hsorted : sa.Pairwise (fun i j => lexLt (t.drop i) (t.drop j)))
    (hhead : sa.head? = some (t.length - 1))
    (hpos : 0 < t.length)
    (hmin : ∀ p, p < t.length → t.getD (t.length - 1) 0 ≤ t.getD p 0)
    (huniq : ∀ p, p < t.length → t.getD p 0 = t.getD (t.length - 1) 0 → p = t.length - 1)
    (r : Nat) (hr : r < t.length) :
    lessRef (bwtRef t sa) ((bwtRef t sa).getD r 0) + occRef (bwtRef t sa) r ((bwtRef t sa).getD r 0) - 1 =
      sa.idxOf ((sa.getD r 0 + t.length - 1) % t.length) :=
  LFMap.lf_mapping t sa ⟨hperm, hsorted, hhead⟩ ⟨hpos, hmin, huniq⟩ r hr

/-- **`invert_bwt(bwt(t)) = t`**: the mirror model of `bwtfind` + `invert_bwt` (less array of size `m`, slots
`less[c]++`, `r = bwtfind[r]; push bwt[r]`) reproduces every text whose last symbol is its unique smallest symbol
from the BWT of its sorted suffix permutation, for every table size `m` larger than all text symbols. -/
theorem invert_bwt_roundtrip (t sa : List Nat) (m : Nat)
    (hperm : sa.Perm (List.range t.length))
    (hsorted : sa.Pairwise (fun i j => lexLt (t.drop i) (t.drop j)))
    (hhead : sa.head? = some (t.length - 1))
    (hpos : 0 < t.length)
    (hmin : ∀ p, p < t.length → t.getD (t.length - 1) 0 ≤ t.getD p 0)
    (huniq : ∀ p, p < t.length → t.getD p 0 = t.getD (t.length - 1) 0 → p = t.length - 1)
    (hm : ∀ x ∈ t, x < m) :
    InvBWT.invertModel (bwtRef t sa) m = t :=
  InvBWT.invert_bwt_correct t sa ⟨hperm, hsorted, hhead⟩ ⟨hpos, hmin, huniq⟩ m hm

example : InvBWT.invertModel (bwtRef [99, 97, 98, 99, 97, 36] [5, 4, 1, 2, 3, 0]) 101 = [99, 97, 98, 99, 97, 36] := by
  decide +kernel

example : InvBWT.bwtfindModel [97, 99, 99, 97, 98, 36] 101 = [5, 0, 3, 4, 1, 2] := by decide +kernel

/-! ## Function bodies translated from the source text (docs/notes/GEN.md, "Translated function bodies")

`RbV/Gen/SrcBwt.lean` is regenerated from `src/data_structures/bwt.rs` by `tools/rs2lean.py` on every `./check C04`;
the theorems below are re-proved against the regenerated definition (proofs: `RbV/Thm/GenSrcBwt.lean`). `Rs.Res.ok v` = the
translated function returns `v` without panicking (assertion, index out of bounds, checked `usize` subtraction). -/

/-- **`pub fn bwt`, as written, is the mirror model `bwtModel`** for a suffix array of the text's length whose entries are
text positions (the hypothesis of `bwt_exact`; with any other input the Rust code panics or the property does not apply) -/
theorem bwt_source_eq_model (t sa : List Nat) (hlen : t.length = sa.length) (h : ∀ p ∈ sa, p < t.length) :
    Gen.SrcBwt.bwt t sa = Rs.Res.ok (bwtModel t sa) :=
  GenSrcBwt.bwt_eq_model t sa hlen h

/-- generated code = specification: the translated `bwt()` returns, row by row, the symbol that cyclically precedes the
suffix-array entry -/
theorem bwt_source_exact (t sa : List Nat) (hlen : t.length = sa.length) (h : ∀ p ∈ sa, p < t.length) :
    Gen.SrcBwt.bwt t sa = Rs.Res.ok (bwtRef t sa) := by
  rw [GenSrcBwt.bwt_eq_model t sa hlen h, bwtModel_eq t sa h]

/-- a suffix array of another length is refused: the `assert_eq!` of `bwt()` fires -/
theorem bwt_source_length_mismatch_panics (t sa : List Nat) (hlen : t.length ≠ sa.length) :
    Gen.SrcBwt.bwt t sa = Rs.Res.panic :=
  GenSrcBwt.bwt_length_mismatch_panics t sa hlen

example : Gen.SrcBwt.bwt [99, 97, 98, 99, 97, 36] [5, 4, 1, 2, 3, 0] = Rs.Res.ok [97, 99, 99, 97, 98, 36] := by
  decide +kernel

/-- **`utils::prescan`, as written (in-place rewrite through `iter_mut()`), instantiated with `+`, is the model's
`prescanGo`** — the second half of `less()` -/
theorem prescan_source_eq_model (a : List Nat) (neutral : Nat) :
    Gen.SrcPrescan.prescan (· + ·) a neutral = Rs.Res.ok (prescanGo neutral a) :=
  GenSrcPrescan.prescan_eq_model a neutral

/-- generated code = specification: entry `i` of the slice rewritten by the translated `prescan` is the neutral element
plus the sum of the entries before `i` -/
theorem prescan_source_exact (a : List Nat) (neutral i : Nat) (h : i < a.length) :
    ∃ r, Gen.SrcPrescan.prescan (· + ·) a neutral = Rs.Res.ok r ∧ r[i]? = some (neutral + (a.take i).sum) :=
  ⟨_, GenSrcPrescan.prescan_eq_model a neutral, prescanGo_getElem? neutral a i h⟩

/-- … and applied to the count array of a BWT it yields the `less` array: entry `c` = number of smaller symbols -/
theorem less_source_prescan_exact (bwt : List Nat) (m c : Nat) (h : c < m) :
    ∃ r, Gen.SrcPrescan.prescan (· + ·) (countArr bwt m) 0 = Rs.Res.ok r ∧
      r[c]? = some (bwt.countP (fun x => decide (x < c))) :=
  ⟨_, GenSrcPrescan.prescan_eq_model _ 0, less_eq bwt m c h⟩

example : Gen.SrcPrescan.prescan (· + ·) [1, 0, 2, 1] 0 = Rs.Res.ok [0, 1, 1, 3] := by decide +kernel

/-! ### `Occ::new`, `Occ::get` translated from the source text (`RbV/Gen/SrcOcc.lean`, proofs `RbV/Thm/GenSrcOcc.lean`)

The alphabet is an opaque value `alphabet : Alph`; what `Occ::new` asks of it are the three abstract functions
`maxSymbol` (`alphabet.max_symbol()`), `symbols` (`alphabet.symbols.iter().collect::<Vec<usize>>()`), `isWordDollar`
(`alphabet.is_word(b"$")`).  `bytecount::count` (external crate) is read as `List.count`. -/

section occ_source
variable {Alph : Type} (maxSymbol : Alph → Option Nat) (symbols : Alph → List Nat) (isWordDollar : Alph → Bool)

/-- **`Occ::new`, as written, is the mirror model `occTable`** (real state: vector of counters, one column per symbol
value below `max_symbol + 1`, the tracked columns pushed at rows `i % k == 0`), returned with `k`.  Hypotheses = what
keeps the Rust code from panicking: non-empty alphabet, `k ≥ 1`, BWT and tracked symbols ≤ the maximal symbol, `n < 2^64`. -/
theorem occ_new_source_eq_model (bwt : List Nat) (k : Nat) (alphabet : Alph) (ms : Nat)
    (hms : maxSymbol alphabet = some ms) (hk : 0 < k) (hn : bwt.length < 2 ^ 64) (hms' : ms + 1 < 2 ^ 64)
    (hsym : ∀ x ∈ bwt, x ≤ ms) (hal : ∀ a ∈ symbols alphabet, a ≤ ms) :
    Gen.SrcOcc.new maxSymbol symbols isWordDollar bwt k alphabet
      = Rs.Res.ok (occTable bwt k (GenSrcOcc.alphaOf (symbols alphabet) (isWordDollar alphabet) (ms + 1)) (ms + 1), k) :=
  GenSrcOcc.new_eq_model maxSymbol symbols isWordDollar bwt k alphabet ms hms hk hn hms' hsym hal

/-- generated code = specification: the column of every tracked symbol in the table returned by the translated
`Occ::new` is the checkpoint table "entry i = occRef bwt (i·k) a for every i with i·k < n", for `k ≥ 1`, `n < 2^64`, an opaque
alphabet with `max_symbol() = Some ms`, BWT and alphabet symbols `≤ ms`, a duplicate-free symbol list that does not contain `$`
unless `is_word(b"$")` -/
theorem occ_new_source_exact (bwt : List Nat) (k : Nat) (alphabet : Alph) (ms : Nat)
    (hms : maxSymbol alphabet = some ms) (hk : 0 < k) (hn : bwt.length < 2 ^ 64) (hms' : ms + 1 < 2 ^ 64)
    (hsym : ∀ x ∈ bwt, x ≤ ms) (hal : ∀ a ∈ symbols alphabet, a ≤ ms)
    (hnd : (symbols alphabet).Nodup) (hw : isWordDollar alphabet = false → 36 ∉ symbols alphabet)
    (a : Nat) (ha : a ∈ GenSrcOcc.alphaOf (symbols alphabet) (isWordDollar alphabet) (ms + 1)) (ham : a ≤ ms) :
    ∃ tbl, Gen.SrcOcc.new maxSymbol symbols isWordDollar bwt k alphabet = Rs.Res.ok (tbl, k) ∧
      tbl[a]? = some ((List.range ((bwt.length + k - 1) / k)).map (fun i => occRef bwt (i * k) a)) := by
  refine ⟨_, GenSrcOcc.new_eq_model maxSymbol symbols isWordDollar bwt k alphabet ms hms hk hn hms' hsym hal, ?_⟩
  rw [occTable_col bwt k _ (ms + 1) a ha (GenSrcOcc.alphaOf_nodup _ _ _ hnd hw) (Nat.lt_succ_of_le ham),
    occNewLoop_eq bwt k a hk]
  rfl

-- alphabet {0,1,2,3} without `$`, k = 3: the table of the model example above
example : Gen.SrcOcc.new (fun _ => some 3) (fun _ => [0, 1, 2, 3]) (fun _ => false) [1, 3, 3, 1, 2, 0] 3 ()
    = Rs.Res.ok ([[0, 0], [1, 2], [0, 0], [0, 2]], 3) := by decide +kernel

/-- **`Occ::get`, as written, on a table whose column `a` is the checkpoint table, is the specification**: for every
`k ≥ 1` (both sides of the look-ahead switch) and every row `r < n` the translated function — with `bytecount::count`
read as `List.count` — passes every checked operation (`occ[a]`, the checkpoint reads, `r / k`, the two inclusive
slices, `hi_occ - count`, `count + lo_occ`) and returns the number of `a` in `bwt[0..=r]`.  The proof walks all paths
of the generated definition with the facts the true table provides and does not depend on the branch structure, so a
property-preserving rewrite of `Occ::get` (other threshold, other rule for the checkpoint to count from) is re-proved. -/
theorem occ_get_source_exact_on_table (occ : List (List Nat)) (k : Nat) (bwt : List Nat) (r a : Nat)
    (hcp : occ[a]? = some (occNew bwt k a)) (hk : 0 < k) (hk32 : k < 2 ^ 32) (hr : r < bwt.length)
    (hn : bwt.length < 2 ^ 64) :
    Gen.SrcOcc.get (fun s c => s.count c) occ k bwt r a = Rs.Res.ok (occRef bwt r a) :=
  GenSrcOcc.get_exact_of_table occ k bwt r a hcp hk hk32 hr hn

/-- **`Occ::get`, as written, agrees with the mirror model `occGet`** (the function the driver runs and `occ_get_exact`
is about) on the checkpoint column built by the loop of `Occ::new`.  (The stronger, shape-dependent statement "equal to
`occGet` on *every* column on which the checked operations cannot panic" is `GenSrcOccModel.get_eq_model`,
`RbV/Thm/GenSrcOccModel.lean`, built by `tools/gen_tables.py` as a soft obligation: it is false for a rewrite that
changes which checkpoint is used although the property still holds.) -/
theorem occ_get_source_eq_model (occ : List (List Nat)) (k : Nat) (bwt : List Nat) (r a : Nat)
    (hcp : occ[a]? = some (occNewLoop bwt k a)) (hk : 0 < k) (hk32 : k < 2 ^ 32) (hr : r < bwt.length)
    (hn : bwt.length < 2 ^ 64) :
    Gen.SrcOcc.get (fun s c => s.count c) occ k bwt r a = Rs.Res.ok (occGet (occNewLoop bwt k a) bwt k r a) := by
  rw [occ_get_exact bwt k r a hk hr]
  rw [occNewLoop_eq bwt k a hk] at hcp
  exact GenSrcOcc.get_exact_of_table occ k bwt r a hcp hk hk32 hr hn

/-- **generated code = specification, end to end**: for every `k ≥ 1`, every row `r < n` and every tracked symbol, the
*translated* `Occ::get` on the table returned by the *translated* `Occ::new` returns `occRef bwt r a` = the number of
`a` in `bwt[0..=r]` (no panic, no hypothesis on the table left).  Hypotheses, as for `occ_new_source_exact`: `1 ≤ k < 2^32`,
`n < 2^64`, an opaque alphabet with `max_symbol() = Some ms`, every BWT and alphabet symbol `≤ ms`, and two assumptions that tie
the abstract accessors of the alphabet together (true of rust-bio's `Alphabet`, assumed here): the symbol list is duplicate-free
and does not contain `$` unless `is_word(b"$")`. -/
theorem occ_get_source_exact (bwt : List Nat) (k : Nat) (alphabet : Alph) (ms : Nat)
    (hms : maxSymbol alphabet = some ms) (hk : 0 < k) (hk32 : k < 2 ^ 32) (hn : bwt.length < 2 ^ 64) (hms' : ms + 1 < 2 ^ 64)
    (hsym : ∀ x ∈ bwt, x ≤ ms) (hal : ∀ a ∈ symbols alphabet, a ≤ ms)
    (hnd : (symbols alphabet).Nodup) (hw : isWordDollar alphabet = false → 36 ∉ symbols alphabet)
    (a r : Nat) (ha : a ∈ GenSrcOcc.alphaOf (symbols alphabet) (isWordDollar alphabet) (ms + 1)) (hr : r < bwt.length) :
    ∃ tbl k', Gen.SrcOcc.new maxSymbol symbols isWordDollar bwt k alphabet = Rs.Res.ok (tbl, k') ∧
      Gen.SrcOcc.get (fun s c => s.count c) tbl k' bwt r a = Rs.Res.ok (occRef bwt r a) :=
  GenSrcOcc.get_new_exact maxSymbol symbols isWordDollar bwt k alphabet ms hms hk hk32 hn hms' hsym hal hnd hw a r ha hr

end occ_source

-- `Occ::get` on the table of `Occ::new`, k = 3, symbol 3: the column 0,1,2,2,2,2 of the model example above
example : (List.range 6).map (fun r => Gen.SrcOcc.get (fun s c => s.count c) [[0, 0], [1, 2], [0, 0], [0, 2]] 3
    [1, 3, 3, 1, 2, 0] r 3) = [0, 1, 2, 2, 2, 2].map Rs.Res.ok := by decide +kernel
-- sampling rate 65 (above the look-ahead threshold of the present text), text of length 130, two checkpoints: backward count from the high
-- checkpoint (row 64), early exit on equal checkpoints (absent symbol 3), forward counts (rows 70 and 10); the values are
-- the specification's, so the example survives a retuned threshold
example :
    let bwt := List.replicate 63 1 ++ List.replicate 67 2
    let tbl := occTable bwt 65 [1, 2, 3] 4
    Gen.SrcOcc.get (fun s c => s.count c) tbl 65 bwt 64 2 = Rs.Res.ok 2 ∧
    Gen.SrcOcc.get (fun s c => s.count c) tbl 65 bwt 64 3 = Rs.Res.ok 0 ∧
    Gen.SrcOcc.get (fun s c => s.count c) tbl 65 bwt 70 2 = Rs.Res.ok 8 ∧
    Gen.SrcOcc.get (fun s c => s.count c) tbl 65 bwt 10 1 = Rs.Res.ok 11 := by
  decide +kernel
-- a symbol without a column / a row outside the BWT is refused by the Rust code: the translation panics
example : Gen.SrcOcc.get (fun s c => s.count c) [[0, 0], [1, 2], [0, 0], [0, 2]] 3 [1, 3, 3, 1, 2, 0] 2 4 = Rs.Res.panic := by
  decide +kernel
example : Gen.SrcOcc.get (fun s c => s.count c) [[0, 0], [1, 2], [0, 0], [0, 2]] 3 [1, 3, 3, 1, 2, 0] 6 3 = Rs.Res.panic := by
  decide +kernel

/-! ### `less()` translated from the source text (`RbV/Gen/SrcLess.lean`, proofs `RbV/Thm/GenSrcLess.lean`) -/

/-- **`pub fn less`, as written, is the mirror model `lessModel`** with table size `max_symbol + 2`: the counting loop
`less[c as usize] += 1` followed by the translated `utils::prescan` (the closure `|a, b| a + b` read as `+`).
Hypotheses = what keeps the Rust code from panicking: non-empty alphabet (`max_symbol()` is `Some`), every BWT symbol
below the table size, `n < 2^64`. -/
theorem less_source_eq_model {Alph : Type} (maxSymbol : Alph → Option Nat) (bwt : List Nat) (alphabet : Alph) (ms : Nat)
    (hms : maxSymbol alphabet = some ms) (hms' : ms + 2 < 2 ^ 64) (hn : bwt.length < 2 ^ 64)
    (hsym : ∀ x ∈ bwt, x < ms + 2) :
    Gen.SrcLess.less maxSymbol bwt alphabet = Rs.Res.ok (lessModel bwt (ms + 2)) :=
  GenSrcLess.less_eq_model maxSymbol bwt alphabet ms hms hms' hn hsym

/-- generated code = specification: entry `c` of the array returned by the translated `less()` is the number of BWT
symbols strictly smaller than `c`, for every `c` up to `max_symbol + 1` -/
theorem less_source_exact {Alph : Type} (maxSymbol : Alph → Option Nat) (bwt : List Nat) (alphabet : Alph) (ms c : Nat)
    (hms : maxSymbol alphabet = some ms) (hms' : ms + 2 < 2 ^ 64) (hn : bwt.length < 2 ^ 64)
    (hsym : ∀ x ∈ bwt, x < ms + 2) (hc : c < ms + 2) :
    ∃ r, Gen.SrcLess.less maxSymbol bwt alphabet = Rs.Res.ok r ∧ r[c]? = some (bwt.countP (fun x => decide (x < c))) :=
  ⟨_, GenSrcLess.less_eq_model maxSymbol bwt alphabet ms hms hms' hn hsym, less_eq bwt (ms + 2) c hc⟩

example : Gen.SrcLess.less (fun _ => some 3) [1, 3, 3, 1, 2, 0] () = Rs.Res.ok [0, 1, 3, 4, 6] := by decide +kernel
-- empty alphabet: `.expect("Expecting non-empty alphabet.")` panics; a symbol beyond the table: index out of bounds
example : Gen.SrcLess.less (fun _ => none) [1, 3] () = Rs.Res.panic := by decide +kernel
example : Gen.SrcLess.less (fun _ => some 1) [1, 3] () = Rs.Res.panic := by decide +kernel

/-! ### `bwtfind`, `invert_bwt` translated from the source text (same generated file; `less(..)`, `bwtfind(..)` are calls
of the translated functions, `Alphabet::new(bwt)` is the abstract `alphNew`) -/

/-- **`pub fn bwtfind`, as written, is the mirror model `bwtfindModel`**: the slots `bwtfind[less[c]] = r; less[c] += 1`
over the array returned by the translated `less()`; every write is in bounds because `less[c]` + the number of earlier
`c`s is a row of the BWT -/
theorem bwtfind_source_eq_model {Alph : Type} (maxSymbol : Alph → Option Nat) (bwt : List Nat) (alphabet : Alph) (ms : Nat)
    (hms : maxSymbol alphabet = some ms) (hms' : ms + 2 < 2 ^ 64) (hn : bwt.length < 2 ^ 64)
    (hsym : ∀ x ∈ bwt, x < ms + 2) :
    Gen.SrcLess.bwtfind maxSymbol bwt alphabet = Rs.Res.ok (InvBWT.bwtfindModel bwt (ms + 2)) :=
  GenSrcLess.bwtfind_eq_model maxSymbol bwt alphabet ms hms hms' hn hsym

/-- **`pub fn invert_bwt`, as written, is the mirror model `invertModel`** for a non-empty BWT (on the empty one
`bwtfind[0]` panics) whose symbols lie below `max_symbol + 2` of the alphabet `Alphabet::new(bwt)` -/
theorem invert_bwt_source_eq_model {Alph : Type} (maxSymbol : Alph → Option Nat) (alphNew : List Nat → Alph)
    (bwt : List Nat) (ms : Nat) (hms : maxSymbol (alphNew bwt) = some ms) (hms' : ms + 2 < 2 ^ 64)
    (hpos : 0 < bwt.length) (hn : bwt.length < 2 ^ 64) (hsym : ∀ x ∈ bwt, x < ms + 2) :
    Gen.SrcLess.invert_bwt maxSymbol alphNew bwt = Rs.Res.ok (InvBWT.invertModel bwt (ms + 2)) :=
  GenSrcLess.invert_bwt_eq_model maxSymbol alphNew bwt ms hms hms' hpos hn hsym

/-- **generated code = specification: `invert_bwt(bwt(t)) = t`** for the translated `invert_bwt` (which calls the
translated `bwtfind`, `less`, `prescan`): every text whose last symbol is its unique smallest symbol is reproduced from
the BWT of its sorted suffix permutation, provided `Alphabet::new` / `max_symbol` give a bound `ms` with every text
symbol `≤ ms + 1` (for the real alphabet: the maximum) -/
theorem invert_bwt_source_roundtrip {Alph : Type} (maxSymbol : Alph → Option Nat) (alphNew : List Nat → Alph)
    (t sa : List Nat) (ms : Nat)
    (hperm : sa.Perm (List.range t.length))
    (hsorted : sa.Pairwise (fun i j => lexLt (t.drop i) (t.drop j)))
    (hhead : sa.head? = some (t.length - 1))
    (hpos : 0 < t.length) (hlen : t.length < 2 ^ 64)
    (hmin : ∀ p, p < t.length → t.getD (t.length - 1) 0 ≤ t.getD p 0)
    (huniq : ∀ p, p < t.length → t.getD p 0 = t.getD (t.length - 1) 0 → p = t.length - 1)
    (hms : maxSymbol (alphNew (bwtRef t sa)) = some ms) (hms' : ms + 2 < 2 ^ 64)
    (hm : ∀ x ∈ t, x < ms + 2) :
    Gen.SrcLess.invert_bwt maxSymbol alphNew (bwtRef t sa) = Rs.Res.ok t := by
  have hl : (bwtRef t sa).length = t.length := by
    unfold bwtRef; rw [List.length_map]; simpa using hperm.length_eq
  rw [GenSrcLess.invert_bwt_eq_model maxSymbol alphNew (bwtRef t sa) ms hms hms' (by rw [hl]; exact hpos)
    (by rw [hl]; exact hlen) (mem_bwtRef_lt t sa (ms + 2) hpos hm)]
  exact congrArg Rs.Res.ok (invert_bwt_roundtrip t sa (ms + 2) hperm hsorted hhead hpos hmin huniq hm)

-- evaluated through `bwtfind_source_eq_model` / `invert_bwt_source_eq_model` (the `less` table has 101 entries)
example : Gen.SrcLess.bwtfind (fun _ => some 99) [97, 99, 99, 97, 98, 36] () = Rs.Res.ok [5, 0, 3, 4, 1, 2] :=
  (bwtfind_source_eq_model _ _ () 99 rfl (by decide +kernel) (by decide +kernel) (by decide +kernel)).trans
    (congrArg Rs.Res.ok (by decide +kernel))
example : Gen.SrcLess.invert_bwt (fun _ => some 99) (fun _ => ()) [97, 99, 99, 97, 98, 36]
    = Rs.Res.ok [99, 97, 98, 99, 97, 36] :=
  (invert_bwt_source_eq_model _ _ _ 99 rfl (by decide +kernel) (by decide +kernel) (by decide +kernel)
    (by decide +kernel)).trans
    (congrArg Rs.Res.ok (by decide +kernel))
-- the empty BWT: `bwtfind[0]` is out of bounds, the Rust code panics
example : Gen.SrcLess.invert_bwt (fun _ => some 99) (fun _ => ()) [] = Rs.Res.panic := by decide +kernel

end RbV.Thm.C04
