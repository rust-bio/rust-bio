import RbV.Gen.SrcWavelet
import RbV.Model.Wavelet
import RbV.Lemmas.Wavelet
import RbV.Thm.GenSrcBasic
import RbV.Thm.GenSrcBitsSimp
import RbV.Thm.GenSrcOk
/-!
# The translated text of `build_partlevel` and `WaveletMatrix::new` equals the mirror model `buildLevels`

`RbV/Gen/SrcWavelet.lean` is regenerated from `src/data_structures/wavelet_matrix.rs` on every `./check C17`.
`bv::BitVec<u8>` is an abstract type there, written through `BitVec::new_fill(false, n)` and `bits.set_bit(p, b)`; the
theorems instantiate it with `List Bool` and **assume the contract of the bv crate**: `new_fill(b, n)` is `n` copies of `b`
(`bvNewFill`), `set_bit(p, b)` replaces position `p` and panics when `p` is out of range (`bvSetBit`).
`RankSelect::new(curr_bits, 1)` is an abstract function `rsNew` that may panic; the theorems take `rsNew bits 1 = ok (mk bits)`
as hypothesis (discharged in `Thm/C17.lean` by the translated constructor of `Gen/SrcRankSelect.lean`).
`&mut` arguments of `build_partlevel` are returned: `(next_zeros, next_ones, bits)`.
Of the two ways of `Thm/GenSrcOk.lean`: `partlevel_fold` names each operation's fact in a `have`, `level_step` resolves its
binds with `rs_ok`.
-/
-- the simp sets name every fact a harmless rewrite of the Rust text may need; on the present text some are unused
set_option linter.unusedSimpArgs false

namespace RbV.Thm.GenSrcWaveletNew
open RbV RbV.Rs RbV.Thm.GenSrc
open RbV.Model.Wavelet (bitOf buildLevels)
open RbV.Lemmas.Wavelet (filter_split_length)

/-- contract of `bv::BitsMut::set_bit` on a `BitVec<u8>`: position out of range panics -/
def bvSetBit (bits : List Bool) (p : Nat) (b : Bool) : Res (List Bool) :=
  if p < bits.length then Res.ok (bits.set p b) else Res.panic

/-- contract of `BitVec::new_fill(b, n)` -/
def bvNewFill (b : Bool) (n : Nat) : List Bool := List.replicate n b

variable {ρ : Type} (rank0 rank1 : ρ → Nat → Res (Option Nat))

theorem set_mid (pre : List Bool) (x y : Bool) (suf : List Bool) :
    (pre ++ x :: suf).set pre.length y = (pre ++ [y]) ++ suf := by
  rw [List.set_append_right _ _ (Nat.le_refl _)]
  simp

/-- the loop of `build_partlevel`: the bits of `vals` are written from position `|pre|` on, the values are distributed
(stably) over `next_ones` / `next_zeros`; no `set_bit`, table index, shift or addition panics -/
theorem partlevel_fold (table : List Nat) (code : Nat → Nat) (shift : Nat) (hs : shift < 8) :
    ∀ (vals : List Nat) (pre suf : List Bool) (nz no : List Nat), (∀ v ∈ vals, Rs.idx table v = Res.ok (code v)) →
    vals.length ≤ suf.length → pre.length + vals.length < 2 ^ 64 →
    vals.foldlM (Gen.SrcWavelet.buildPartlevel_for1 rank0 rank1 bvSetBit table shift) (nz, no, pre ++ suf, pre.length)
      = Res.ok (nz ++ vals.filter (fun v => !bitOf code shift v),
          no ++ vals.filter (fun v => bitOf code shift v),
          pre ++ vals.map (bitOf code shift) ++ suf.drop vals.length,
          pre.length + vals.length) := by
  intro vals
  induction vals with
  | nil => intro pre suf nz no _ _ _; simp
  | cons v vals ih =>
    intro pre suf nz no hv hlen hp
    simp only [List.length_cons] at hlen hp
    obtain ⟨x, suf', rfl⟩ : ∃ x suf', suf = x :: suf' := by
      cases suf with
      | nil => simp at hlen
      | cons x s => exact ⟨x, s, rfl⟩
    simp only [List.length_cons] at hlen
    have e1 := hv v (List.mem_cons_self ..)
    have e2 : ∀ y, Rs.shr 8 y shift = Res.ok (y >>> shift) := fun y => Rs.shr_ok hs
    have hbit : ((code v >>> shift &&& 1) == 1) = bitOf code shift v := rfl
    have hbit' : ((1 &&& code v >>> shift) == 1) = bitOf code shift v := by
      rw [Nat.and_comm]; rfl
    have e3 : ∀ y, bvSetBit (pre ++ x :: suf') pre.length y = Res.ok ((pre ++ [y]) ++ suf') := by
      intro y
      unfold bvSetBit
      rw [if_pos (by simp), set_mid]
    have b4 : pre.length + 1 < 2 ^ 64 := by omega
    have e4 : Rs.add 64 pre.length 1 = Res.ok (pre.length + 1) := Rs.add_ok b4
    have e4' : Rs.add 64 1 pre.length = Res.ok (pre.length + 1) := Rs.add_ok_comm b4
    have hl : pre.length + 1 = (pre ++ [bitOf code shift v]).length := by simp
    rw [List.foldlM_cons]
    have hih := ih (pre ++ [bitOf code shift v]) suf'
    rw [← hl] at hih
    cases hb : bitOf code shift v <;> rw [hb] at hih <;>
      simp only [rs_eval, Gen.SrcWavelet.buildPartlevel_for1, e1, e2, hbit, hbit', hb, e3, e4, e4', bne_iff_ne, ne_eq]
    · rw [hih (nz ++ [v]) no (fun w hw => hv w (List.mem_cons_of_mem _ hw)) (by omega) (by omega)]
      simp [hb, Nat.add_assoc, Nat.add_comm 1, -List.getD_eq_getElem?_getD]
    · rw [hih nz (no ++ [v]) (fun w hw => hv w (List.mem_cons_of_mem _ hw)) (by omega) (by omega)]
      simp [hb, Nat.add_assoc, Nat.add_comm 1, -List.getD_eq_getElem?_getD]

/-- **`build_partlevel`, as written**: returns `(next_zeros, next_ones, bits)` -/
theorem buildPartlevel_eq_model (table : List Nat) (code : Nat → Nat) (shift : Nat) (hs : shift < 8) (vals : List Nat)
    (pre suf : List Bool) (nz no : List Nat) (hv : ∀ v ∈ vals, Rs.idx table v = Res.ok (code v)) (hlen : vals.length ≤ suf.length)
    (hp : pre.length + vals.length < 2 ^ 64) :
    Gen.SrcWavelet.buildPartlevel rank0 rank1 bvSetBit table vals shift nz no (pre ++ suf) pre.length
      = Res.ok (nz ++ vals.filter (fun v => !bitOf code shift v),
          no ++ vals.filter (fun v => bitOf code shift v),
          pre ++ vals.map (bitOf code shift) ++ suf.drop vals.length) := by
  have h := partlevel_fold rank0 rank1 table code shift hs vals pre suf nz no hv hlen hp
  simp only [rs_eval, Gen.SrcWavelet.buildPartlevel, h]

variable (rsNew : List Bool → Nat → Res ρ) (mk : List Bool → ρ)

/-- one round of the level loop of `new`: the two `build_partlevel` calls write the level's bits for `curr_zeros` followed
by `curr_ones` into a fresh `width`-bit vector and split both (stably) into the next `curr_zeros` / `curr_ones` -/
theorem level_step (table : List Nat) (code : Nat → Nat) (W H : Nat) (hH : H ≤ 8) (hW : W < 2 ^ 63)
    (hrs : ∀ bits : List Bool, bits.length = W → rsNew bits 1 = Res.ok (mk bits))
    (m level : Nat) (hlv : level + (m + 1) = H) (cz co : List Nat) (lvls : List ρ) (zs : List Nat)
    (hlen : cz.length + co.length = W) (hv : ∀ v ∈ cz ++ co, Rs.idx table v = Res.ok (code v)) :
    Gen.SrcWavelet.new_for1 rank0 rank1 bvSetBit bvNewFill rsNew W H table (cz, co, zs, lvls) level
      = Res.ok ((cz ++ co).filter (fun v => !bitOf code m v),
          (cz ++ co).filter (fun v => bitOf code m v),
          zs ++ [((cz ++ co).filter (fun v => !bitOf code m v)).length],
          lvls ++ [mk ((cz ++ co).map (bitOf code m))]) := by
  have hsh : Rs.cast 8 (H - level - 1) = m := by
    have : H - level - 1 = m := by omega
    rw [this]
    exact Nat.mod_eq_of_lt (by omega)
  have hsh' : Rs.cast 8 (H - (level + 1)) = m := by
    have : H - (level + 1) = m := by omega
    rw [this]
    exact Nat.mod_eq_of_lt (by omega)
  have h1 := buildPartlevel_eq_model rank0 rank1 table code m (by omega) cz [] (List.replicate W false) [] []
    (fun v h => hv v (List.mem_append_left _ h)) (by simp; omega) (by simp; omega)
  simp only [List.nil_append, List.length_nil] at h1
  have h2 := buildPartlevel_eq_model rank0 rank1 table code m (by omega) co
    (cz.map (bitOf code m)) ((List.replicate W false).drop cz.length)
    (cz.filter (fun v => !bitOf code m v)) (cz.filter (fun v => bitOf code m v))
    (fun v h => hv v (List.mem_append_right _ h)) (by simp; omega) (by simp; omega)
  rw [List.length_map] at h2
  have hdrop : ((List.replicate W false).drop cz.length).drop co.length = [] := by
    apply List.drop_eq_nil_of_le
    simp; omega
  rw [hdrop, List.append_nil, ← List.map_append, ← List.filter_append, ← List.filter_append] at h2
  have h3 := hrs ((cz ++ co).map (bitOf code m)) (by simp; omega)
  simp (disch := omega) only [rs_eval, rs_ok, Gen.SrcWavelet.new_for1, bvNewFill, hsh, hsh', h1, h2, h3] at h1 ⊢

/-- the level loop of `new` over the remaining `m` levels: lock-step with the model's `buildLevels` -/
theorem levels_fold (table : List Nat) (code : Nat → Nat) (W H : Nat) (hH : H ≤ 8) (hW : W < 2 ^ 63)
    (hrs : ∀ bits : List Bool, bits.length = W → rsNew bits 1 = Res.ok (mk bits)) :
    ∀ (m level : Nat) (cz co : List Nat) (lvls : List ρ) (zs : List Nat), level + m = H → cz.length + co.length = W →
    (∀ v ∈ cz ++ co, Rs.idx table v = Res.ok (code v)) →
    ∃ cz' co', (List.range' level m).foldlM
        (Gen.SrcWavelet.new_for1 rank0 rank1 bvSetBit bvNewFill rsNew W H table) (cz, co, zs, lvls)
      = Res.ok (cz', co', zs ++ (buildLevels code m (cz ++ co)).map (·.zeros),
          lvls ++ (buildLevels code m (cz ++ co)).map (fun lv => mk lv.bits)) := by
  intro m
  induction m with
  | zero =>
    intro level cz co lvls zs _ _ _
    exact ⟨cz, co, by simp [buildLevels]⟩
  | succ m ih =>
    intro level cz co lvls zs hlv hlen hv
    have hstep := level_step rank0 rank1 rsNew mk table code W H hH hW hrs m level hlv cz co lvls zs hlen hv
    have hsplit := filter_split_length (bitOf code m) (cz ++ co)
    obtain ⟨cz', co', hih⟩ := ih (level + 1)
      ((cz ++ co).filter (fun v => !bitOf code m v))
      ((cz ++ co).filter (fun v => bitOf code m v))
      (lvls ++ [mk ((cz ++ co).map (bitOf code m))])
      (zs ++ [((cz ++ co).filter (fun v => !bitOf code m v)).length])
      (by omega) (by rw [hsplit, List.length_append]; exact hlen)
      (by
        intro v h
        rw [List.mem_append] at h
        rcases h with h | h
        · exact hv v (List.mem_filter.mp h).1
        · exact hv v (List.mem_filter.mp h).1)
    refine ⟨cz', co', ?_⟩
    rw [List.range'_succ, List.foldlM_cons, hstep]
    simp only [Res.ok_bind]
    rw [hih]
    simp only [buildLevels, List.map_cons, List.append_assoc, List.singleton_append]

/-- **`WaveletMatrix::new`, as written, builds the model's levels**: `(width, height, zeros, levels)` with `height = 3`, the
zero counts and (through `rsNew`) the bit vectors of `Wavelet.build` — for every text whose symbols index the code
table; no `set_bit`, index, shift or arithmetic operation panics -/
theorem new_eq_model (table : List Nat) (text : List Nat) (hW : text.length < 2 ^ 63)
    (hrs : ∀ bits : List Bool, bits.length = text.length → rsNew bits 1 = Res.ok (mk bits))
    (hv : ∀ v ∈ text, v < table.length) :
    Gen.SrcWavelet.new rank0 rank1 bvSetBit bvNewFill rsNew table text
      = Res.ok (text.length, 3, (Model.Wavelet.build (fun v => table.getD v 0) text).map (·.zeros),
          (Model.Wavelet.build (fun v => table.getD v 0) text).map (fun lv => mk lv.bits)) := by
  obtain ⟨cz', co', h⟩ := levels_fold rank0 rank1 rsNew mk table (fun v => table.getD v 0) text.length 3 (by omega) hW hrs 3 0 text [] [] []
    (by omega) (by simp) (fun v h => idx_getD _ _ _ (hv v (by simpa using h)))
  simp only [List.append_nil, List.nil_append] at h
  simp only [rs_eval, Gen.SrcWavelet.new, Nat.sub_zero, h, Model.Wavelet.build]

end RbV.Thm.GenSrcWaveletNew
