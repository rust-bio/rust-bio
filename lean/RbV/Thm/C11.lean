import RbV.Model.Fasta
import RbV.Model.Fastq
import RbV.Lemmas.Fastx
import RbV.Lemmas.FastqPrefix
import RbV.Model.BufLines
import RbV.Lemmas.BufLines
import RbV.Model.FastxStream
import RbV.Lemmas.FastxStream
import RbV.Lemmas.Utf8Lines
import RbV.Lemmas.UniWs
import RbV.Lemmas.FastqPrefixUtf8
import RbV.Lemmas.PlainText
import RbV.Thm.GenSrcFasta
import RbV.Thm.GenSrcFastq
import RbV.Thm.GenSrcFastx
/-!
# C11 — FASTA/FASTQ round trip is lossless and layout independent; truncated FASTQ is prefix safe

Four layers, in the order of the file:
* the list models `parseFasta` / `parseFastq` of `RbV/Model/Fasta.lean`, `RbV/Model/Fastq.lean` (what `Records` yields on the
  lines of a byte stream): layout independence, round trip, prefix safety;
* `BufRead::read_line` over any buffer capacity and read fragmentation (`RbV/Model/BufLines.lean`): the lines handed out are
  `splitLines file`;
* the stateful readers on a `BufReader` with the UTF-8 check and Unicode white space (`RbV/Model/FastxStream.lean`): equal to
  the list models on plain text, for every capacity and schedule; the theorems restated on the records;
* the source text of writers, readers, `Records`, `Record::check` and the `fastx` sniffer (`RbV/Gen/SrcFasta.lean`,
  `SrcFastq.lean`, `SrcFastx.lean`) against these models; then non-vacuity examples.
`ValidFa` / `ValidFq` delimit "valid records" (id without white space, description without line feed and not ending in white
space, non-empty sequence without white space, …).
-/
namespace RbV.Thm.C11
open RbV.Fastx

/-- **FASTA, any layout**: however the sequence of each record is cut into lines (any widths, blank lines), with LF
or CRLF line ends chosen per record, the reader yields exactly the records. -/
theorem fasta_layout (L : List (FaRec × List Bytes × Bytes))
    (h : ∀ x ∈ L, ValidFa x.1 ∧ x.2.1.flatten = x.1.seq ∧ IsEol x.2.2) :
    parseFasta (layoutFasta L) = L.map (fun x => FaItem.ok x.1) :=
  parseFasta_layout L h

/-- **FASTA round trip**: what the writer produces for valid records, with no line wrap or any wrap ≥ 1, is read
back as exactly those records. -/
theorem fasta_roundtrip (wrap : Option Nat) (recs : List FaRec) (hv : ∀ r ∈ recs, ValidFa r)
    (hw : ∀ w, wrap = some w → 1 ≤ w) :
    parseFasta (writeFasta wrap recs) = recs.map FaItem.ok := by
  rw [writeFasta_eq_layout, parseFasta_layout]
  · simp
  · intro x hx
    obtain ⟨r, hr, rfl⟩ := List.mem_map.mp hx
    refine ⟨hv r hr, ?_, Or.inl rfl⟩
    cases wrap with
    | none => simp [writerPieces]
    | some w => simpa [writerPieces] using chunks_flatten w (hw w rfl) r.seq

/-- **Re-wrapping / CRLF invariance**: two layouts of the same records (different line widths, blank lines, line
terminators) parse to the same result — in particular the writer's output under two different wraps. -/
theorem fasta_rewrap_crlf (L₁ L₂ : List (FaRec × List Bytes × Bytes))
    (h₁ : ∀ x ∈ L₁, ValidFa x.1 ∧ x.2.1.flatten = x.1.seq ∧ IsEol x.2.2)
    (h₂ : ∀ x ∈ L₂, ValidFa x.1 ∧ x.2.1.flatten = x.1.seq ∧ IsEol x.2.2)
    (same : L₁.map (·.1) = L₂.map (·.1)) :
    parseFasta (layoutFasta L₁) = parseFasta (layoutFasta L₂) := by
  rw [parseFasta_layout L₁ h₁, parseFasta_layout L₂ h₂]
  have := congrArg (List.map FaItem.ok) same
  simp only [List.map_map] at this
  exact this

/-- **FASTQ, any accepted layout**: sequence and qualities cut into equally many lines (any widths; no sequence
line starting with `+`), LF or CRLF per record, anything after `+` on the separator line. -/
theorem fastq_layout (L : List (FqRec × FqLayout)) (h : ∀ x ∈ L, ValidFq x.1 ∧ x.2.Ok x.1) :
    parseFastq (layoutFastq L) = L.map (fun x => FqItem.ok x.1) :=
  parseFastq_layout L h

/-- **FASTQ round trip** (qualities may start with `@` or `+`: `ValidFq` does not restrict them). -/
theorem fastq_roundtrip (recs : List FqRec) (hv : ∀ r ∈ recs, ValidFq r) :
    parseFastq (writeFastq recs) = recs.map FqItem.ok := by
  rw [writeFastq_eq_layout, parseFastq_layout]
  · simp
  · intro x hx
    obtain ⟨r, hr, rfl⟩ := List.mem_map.mp hx
    exact ⟨hv r hr, writerLayout_ok r (hv r hr)⟩

/-- valid records with ASCII sequence and qualities and a non-empty id pass `check()` -/
theorem valid_check (r : FqRec) (v : ValidFq r) (hascii : ∀ b ∈ r.seq ++ r.qual, b < 128) (hid : r.id ≠ []) :
    r.check = true := by
  have h1 : r.seq.all (· < 128) = true := List.all_eq_true.mpr fun b hb => by simpa using hascii b (by simp [hb])
  have h2 : r.qual.all (· < 128) = true := List.all_eq_true.mpr fun b hb => by simpa using hascii b (by simp [hb])
  have h3 := v.qual_len
  cases hi : r.id with
  | nil => exact absurd hi hid
  | cons b i => simp [FqRec.check, hi, h1, h2, h3]

/-- **Truncated FASTQ stream** ([B]): the reader's result on the first `c` bytes of the writer's output is the first
`k` original records, followed by nothing, or by one `IncompleteRecord` error, or by the `k`-th original record
itself (only its final line feed is cut off), or by one record that fails `check()` (its quality string is shorter
than its sequence).  Hence every record obtained from a cut stream that passes `check()` is an original record, in
the original order. -/
theorem fastq_prefix_safe (recs : List FqRec) (hv : ∀ r ∈ recs, ValidFq r) (c : Nat) :
    ∃ k tail, parseFastq ((writeFastq recs).take c) = (recs.take k).map FqItem.ok ++ tail ∧
      (tail = [] ∨ tail = [.incomplete] ∨ (∃ r, recs[k]? = some r ∧ tail = [.ok r]) ∨
       ∃ r', tail = [.ok r'] ∧ r'.check = false) := by
  induction recs generalizing c with
  | nil => exact ⟨0, [], by simp [writeFastq, parseFastq, splitLines, fqRecords], Or.inl rfl⟩
  | cons r rs ih =>
    have v := hv r (by simp)
    have hw : writeFastq (r :: rs) = writeFastqRec r ++ writeFastq rs := by simp [writeFastq]
    rw [hw]
    rcases Nat.lt_or_ge c (writeFastqRec r).length with hlt | hge
    · -- the cut is inside the first record
      rw [List.take_append_of_le_length (Nat.le_of_lt hlt)]
      rcases parseFastq_cut_rec r v c with h | h | h | ⟨r', h, hc⟩
      · exact ⟨0, [], by simp [h], Or.inl rfl⟩
      · exact ⟨0, [.incomplete], by simp [h], Or.inr (Or.inl rfl)⟩
      · exact ⟨0, [.ok r], by simp [h], Or.inr (Or.inr (Or.inl ⟨r, by simp, rfl⟩))⟩
      · exact ⟨0, [.ok r'], by simp [h], Or.inr (Or.inr (Or.inr ⟨r', rfl, hc⟩))⟩
    · -- the first record is complete
      rw [List.take_append, List.take_of_length_le hge, parseFastq_rec_append r v]
      obtain ⟨k, tail, hk, ht⟩ := ih (fun x hx => hv x (by simp [hx])) (c - (writeFastqRec r).length)
      refine ⟨k + 1, tail, by simp [hk], ?_⟩
      simpa using ht

/-- … in particular: the records of a cut stream that pass `check()` are among the original ones. -/
theorem fastq_prefix_checked_mem (recs : List FqRec) (hv : ∀ r ∈ recs, ValidFq r) (c : Nat) (r : FqRec)
    (hr : FqItem.ok r ∈ parseFastq ((writeFastq recs).take c)) (hc : r.check = true) : r ∈ recs := by
  obtain ⟨k, tail, hk, ht⟩ := fastq_prefix_safe recs hv c
  rw [hk, List.mem_append] at hr
  rcases hr with hr | hr
  · obtain ⟨x, hx, hxe⟩ := List.mem_map.mp hr
    cases hxe
    exact List.mem_of_mem_take hx
  · rcases ht with rfl | rfl | ⟨x, hx, rfl⟩ | ⟨x, rfl, hx⟩
    · cases hr
    · simp at hr
    · simp at hr; subst hr
      exact List.mem_of_getElem? hx
    · simp at hr; subst hr; rw [hx] at hc; cases hc

/-! ## Buffer capacity and read fragmentation (`RbV/Model/BufLines.lean`)

`BufLines` mirrors `BufReader::fill_buf`/`consume` and `read_until(b'\n')` over a source whose `k`-th `read` call
returns `min (sched k) (min c available)` bytes; `Admissible sched` = every read before the end of input returns at
least one byte.  The model loops terminate by well-founded recursion on the number of pending bytes (a round either
returns or has consumed a non-empty buffer); capacity ≥ 1 and admissibility are what make an empty `fill_buf` mean
end of input. -/

open RbV.BufLines in
/-- **one `read_line` call**: from every reader state, with every capacity ≥ 1 and every admissible schedule, the call
hands out the first line (up to and including the first LF, or everything that is left) of the bytes not yet
delivered, and exactly the rest stays pending. -/
theorem read_line_call (c : Nat) (sched : Nat → Nat) (hc : 1 ≤ c) (hs : Admissible sched) (s : St) :
    (readLine c sched s).1 = (firstLine s.pending).1 ∧ (readLine c sched s).2.pending = (firstLine s.pending).2 :=
  readLine_spec c sched hc hs s

open RbV.BufLines in
/-- at end of input `read_line` hands out the empty string for ever -/
theorem read_line_eof (c : Nat) (sched : Nat → Nat) (s : St) (h : s.pending = []) :
    (readLine c sched s).1 = [] ∧ (readLine c sched s).2.pending = [] := by
  rw [readLine_eof c sched s h]; exact ⟨rfl, h⟩

open RbV.BufLines in
/-- **`read_line` is independent of buffer capacity and read fragmentation**: the lines handed out by repeated
`read_line` calls on a fresh `BufReader` (up to the first empty one) are exactly `splitLines file` — the list the
FASTA/FASTQ reader models work on; this includes a last line without terminator and the empty file. -/
theorem read_line_schedule_independent (c : Nat) (sched : Nat → Nat) (hc : 1 ≤ c) (hs : Admissible sched)
    (file : Bytes) : linesVia c sched file = splitLines file := by
  simpa [linesVia, init, St.pending] using readLines_eq c sched hc hs (init file)

/-! ## The readers on a `BufReader` (`RbV/Model/FastxStream.lean`)

`parseFastaVia T c sched file` / `parseFastqVia T c sched file`: the **stateful** mirror of `Reader::read` and
`Records` (a reader object owning the `BufReader` model, `read_line` calls where the code has them, the look-ahead
`self.line`, `InvalidData` when a line is not valid UTF-8).  `parseFastaU T` / `parseFastqU T`: the list models with
the UTF-8 check.  `T : Txt` are the text functions (`trim_end`, header split): `Txt.unicode` follows Rust's
`char::is_whitespace` (Unicode `White_Space`), `Txt.ascii` are the ones of the list models; they coincide on text
without the lead bytes 0xC2, 0xE1, 0xE2, 0xE3 of the non-ASCII white-space characters (`NoUws`).  `NoUws` forbids these four
bytes outright, hence every character U+0080–00BF and U+1000–3FFF (µ, ©, €, →, all kana: not white space, outside all the
same); é (0xC3 0xA9) is inside. -/

open RbV.BufLines in
/-- **`read_line` into a `String`**: the UTF-8 check is made on the whole line (`firstLine` of the pending bytes),
whatever the capacity and the schedule — a multi-byte character split over several reads or buffer refills is
validated in one piece, and the error, like the line, does not depend on the fragmentation. -/
theorem read_line_str_call (c : Nat) (sched : Nat → Nat) (hc : 1 ≤ c) (hs : Admissible sched) (s : St) :
    (readLineStr c sched s).1 =
        (if validUtf8 (firstLine s.pending).1 then some (firstLine s.pending).1 else none) ∧
      (readLineStr c sched s).2.pending = (firstLine s.pending).2 := by
  have h := readLine_spec c sched hc hs s
  simp only [readLineStr, h.1, h.2, and_self]

open RbV.BufLines in
/-- **FASTA reader, every byte string**: the items the reader yields (records, the format error, the UTF-8 error)
do not depend on the buffer capacity nor on how the source fragments its reads — they are a function of the lines. -/
theorem fasta_read_schedule_independent (T : Txt) (c : Nat) (sched : Nat → Nat) (hc : 1 ≤ c) (hs : Admissible sched)
    (file : Bytes) : parseFastaVia T c sched file = parseFastaU T file :=
  parseFastaVia_eq T c sched hc hs file

open RbV.BufLines in
/-- **FASTQ reader, every byte string** (truncated streams and garbage included) -/
theorem fastq_read_schedule_independent (T : Txt) (c : Nat) (sched : Nat → Nat) (hc : 1 ≤ c) (hs : Admissible sched)
    (file : Bytes) : parseFastqVia T c sched file = parseFastqU T file :=
  parseFastqVia_eq T c sched hc hs file

open RbV.BufLines in
/-- **`Records` never iterates for ever** (mirror): for every byte string — truncated, garbage, invalid UTF-8 — every
capacity ≥ 1 and every admissible schedule, `fasta::Records::next` returns `None` after at most (number of lines + 2)
calls; every single `read` terminates by construction (its loops are well-founded recursions on the bytes still
pending in the `BufReader` model). -/
theorem fasta_records_terminate (T : Txt) (c : Nat) (sched : Nat → Nat) (hc : 1 ≤ c) (hs : Admissible sched)
    (file : Bytes) :
    ∃ n, faNextCalls T c sched (file.length + 1) { rd := init file, line := [] } = some n ∧
      n ≤ (splitLines file).length + 2 :=
  faNextCalls_spec T c sched hc hs _ _ _ ⟨rfl, by simp [init, St.pending]⟩
    (splitLines_length_lt file)

open RbV.BufLines in
/-- … and `fastq::Records::next` (which goes on after errors) after at most (number of lines + 1) calls: every
`read` that does not hit the end of input consumes at least one line. -/
theorem fastq_records_terminate (T : Txt) (c : Nat) (sched : Nat → Nat) (hc : 1 ≤ c) (hs : Admissible sched)
    (file : Bytes) :
    ∃ n, fqNextCalls T c sched (file.length + 1) (init file) = some n ∧ n ≤ (splitLines file).length + 1 := by
  have h := fqNextCalls_spec T c sched hc hs (file.length + 1) (init file)
  simp only [init, St.pending, List.nil_append] at h
  exact h (splitLines_length_lt file)

private theorem agrees_lines {file : Bytes} (hws : NoUws file) : Agrees Txt.unicode (splitLines file) := fun l hl =>
  Txt.unicode_agrees l fun b hb => hws b (BufLines.mem_of_mem_splitLines file l hl b hb)

/-- valid UTF-8 without the bytes 0xC2, 0xE1, 0xE2, 0xE3 (`NoUws`): every line is valid and the Unicode text functions are the ASCII ones -/
theorem plain_text_lines (file : Bytes) (hutf : validUtf8 file = true) (hws : NoUws file) :
    AllValid Txt.unicode (splitLines file) := fun l hl =>
  ⟨allValid_splitLines file hutf l hl, agrees_lines hws l hl⟩

/-- on valid UTF-8 input without the bytes 0xC2, 0xE1, 0xE2, 0xE3 (`NoUws`) the reader model with the UTF-8 check and Unicode white
space is the plain list model -/
theorem fasta_utf8_model_eq (file : Bytes) (hutf : validUtf8 file = true) (hws : NoUws file) :
    parseFastaU Txt.unicode file = (parseFasta file).map .item :=
  faRecordsU_valid _ (plain_text_lines file hutf hws)

/-- … likewise for FASTQ -/
theorem fastq_utf8_model_eq (file : Bytes) (hutf : validUtf8 file = true) (hws : NoUws file) :
    parseFastqU Txt.unicode file = (parseFastq file).map .item :=
  fqRecordsU_valid _ (plain_text_lines file hutf hws)

open RbV.BufLines in
/-- **parsing through the buffered, fragmented reader = the direct parse** of the line-list model, for every
capacity ≥ 1, every admissible schedule and every valid UTF-8 byte string without the bytes 0xC2, 0xE1, 0xE2, 0xE3 (`NoUws`) -/
theorem fasta_read_any_buffering (c : Nat) (sched : Nat → Nat) (hc : 1 ≤ c) (hs : Admissible sched)
    (file : Bytes) (hutf : validUtf8 file = true) (hws : NoUws file) :
    parseFastaVia Txt.unicode c sched file = (parseFasta file).map .item := by
  rw [fasta_read_schedule_independent _ c sched hc hs, fasta_utf8_model_eq file hutf hws]

open RbV.BufLines in
/-- … likewise for FASTQ -/
theorem fastq_read_any_buffering (c : Nat) (sched : Nat → Nat) (hc : 1 ≤ c) (hs : Admissible sched)
    (file : Bytes) (hutf : validUtf8 file = true) (hws : NoUws file) :
    parseFastqVia Txt.unicode c sched file = (parseFastq file).map .item := by
  rw [fastq_read_schedule_independent _ c sched hc hs, fastq_utf8_model_eq file hutf hws]

open RbV.BufLines in
/-- **FASTA round trip under any buffering**: valid records written with any wrap ≥ 1 (the file being valid UTF-8
without the bytes 0xC2, 0xE1, 0xE2, 0xE3 — `NoUws` —, e.g. ASCII) are read back exactly, whatever the reader's buffer
capacity and however the underlying stream fragments its reads. -/
theorem fasta_roundtrip_any_buffering (c : Nat) (sched : Nat → Nat) (hc : 1 ≤ c) (hs : Admissible sched)
    (wrap : Option Nat) (recs : List FaRec) (hv : ∀ r ∈ recs, ValidFa r) (hw : ∀ w, wrap = some w → 1 ≤ w)
    (hutf : validUtf8 (writeFasta wrap recs) = true) (hws : NoUws (writeFasta wrap recs)) :
    parseFastaVia Txt.unicode c sched (writeFasta wrap recs) = recs.map fun r => .item (.ok r) := by
  rw [fasta_read_any_buffering c sched hc hs _ hutf hws, fasta_roundtrip wrap recs hv hw]
  simp

open RbV.BufLines in
/-- … and for every layout (re-wrapping, blank lines, CRLF) -/
theorem fasta_layout_any_buffering (c : Nat) (sched : Nat → Nat) (hc : 1 ≤ c) (hs : Admissible sched)
    (L : List (FaRec × List Bytes × Bytes))
    (h : ∀ x ∈ L, ValidFa x.1 ∧ x.2.1.flatten = x.1.seq ∧ IsEol x.2.2)
    (hutf : validUtf8 (layoutFasta L) = true) (hws : NoUws (layoutFasta L)) :
    parseFastaVia Txt.unicode c sched (layoutFasta L) = L.map fun x => .item (.ok x.1) := by
  rw [fasta_read_any_buffering c sched hc hs _ hutf hws, fasta_layout L h]
  simp

open RbV.BufLines in
/-- **FASTQ round trip under any buffering** -/
theorem fastq_roundtrip_any_buffering (c : Nat) (sched : Nat → Nat) (hc : 1 ≤ c) (hs : Admissible sched)
    (recs : List FqRec) (hv : ∀ r ∈ recs, ValidFq r)
    (hutf : validUtf8 (writeFastq recs) = true) (hws : NoUws (writeFastq recs)) :
    parseFastqVia Txt.unicode c sched (writeFastq recs) = recs.map fun r => .item (.ok r) := by
  rw [fastq_read_any_buffering c sched hc hs _ hutf hws, fastq_roundtrip recs hv]
  simp

open RbV.BufLines in
/-- … and for every accepted layout (sequence and qualities over several lines, CRLF, text after `+`) -/
theorem fastq_layout_any_buffering (c : Nat) (sched : Nat → Nat) (hc : 1 ≤ c) (hs : Admissible sched)
    (L : List (FqRec × FqLayout)) (h : ∀ x ∈ L, ValidFq x.1 ∧ x.2.Ok x.1)
    (hutf : validUtf8 (layoutFastq L) = true) (hws : NoUws (layoutFastq L)) :
    parseFastqVia Txt.unicode c sched (layoutFastq L) = L.map fun x => .item (.ok x.1) := by
  rw [fastq_read_any_buffering c sched hc hs _ hutf hws, fastq_layout L h]
  simp

open RbV.BufLines in
/-- **sniffer, FASTA**: on the writer's output for a non-empty list of valid records `get_kind` answers FASTA, and
the FASTA reader on the returned `Chain` (one more admissible schedule, `chainSched`) yields the records — for every
capacity and every schedule of the underlying source. -/
theorem fastx_sniff_fasta (c : Nat) (sched : Nat → Nat) (hc : 1 ≤ c) (hs : Admissible sched)
    (wrap : Option Nat) (recs : List FaRec) (hne : recs ≠ []) (hv : ∀ r ∈ recs, ValidFa r)
    (hw : ∀ w, wrap = some w → 1 ≤ w)
    (hutf : validUtf8 (writeFasta wrap recs) = true) (hws : NoUws (writeFasta wrap recs)) :
    sniff (writeFasta wrap recs) = some .fasta ∧
      parseFastaVia Txt.unicode c (chainSched sched) (writeFasta wrap recs) = recs.map fun r => .item (.ok r) := by
  refine ⟨?_, fasta_roundtrip_any_buffering c _ hc (chainSched_admissible sched hs) wrap recs hv hw hutf hws⟩
  cases recs with
  | nil => exact absurd rfl hne
  | cons r rs => simp [writeFasta, writeFastaRec, faHeaderBytes, sniff]

open RbV.BufLines in
/-- **sniffer, FASTQ** -/
theorem fastx_sniff_fastq (c : Nat) (sched : Nat → Nat) (hc : 1 ≤ c) (hs : Admissible sched)
    (recs : List FqRec) (hne : recs ≠ []) (hv : ∀ r ∈ recs, ValidFq r)
    (hutf : validUtf8 (writeFastq recs) = true) (hws : NoUws (writeFastq recs)) :
    sniff (writeFastq recs) = some .fastq ∧
      parseFastqVia Txt.unicode c (chainSched sched) (writeFastq recs) = recs.map fun r => .item (.ok r) := by
  refine ⟨?_, fastq_roundtrip_any_buffering c _ hc (chainSched_admissible sched hs) recs hv hutf hws⟩
  cases recs with
  | nil => exact absurd rfl hne
  | cons r rs => simp [writeFastq, writeFastqRec, sniff]

/-- ASCII is valid UTF-8 without the bytes 0xC2, 0xE1, 0xE2, 0xE3 (so the `hutf` / `hws` hypotheses hold for ASCII files) -/
theorem ascii_plain_text (f : Bytes) (h : ∀ b ∈ f, b < 128) : validUtf8 f = true ∧ NoUws f :=
  PlainText.ascii h

open RbV.BufLines in
/-- **truncated FASTQ stream under any buffering** (ASCII files, so that every prefix is valid UTF-8): the reader on
the first `n` bytes yields the first `k` original records followed by nothing, one `IncompleteRecord`, the `k`-th
original record, or one record failing `check()` — whatever the capacity and the schedule. -/
theorem fastq_prefix_safe_any_buffering (c : Nat) (sched : Nat → Nat) (hc : 1 ≤ c) (hs : Admissible sched)
    (recs : List FqRec) (hv : ∀ r ∈ recs, ValidFq r) (hascii : ∀ b ∈ writeFastq recs, b < 128) (n : Nat) :
    ∃ k tail, parseFastqVia Txt.unicode c sched ((writeFastq recs).take n) =
        ((recs.take k).map FqItem.ok ++ tail).map .item ∧
      (tail = [] ∨ tail = [.incomplete] ∨ (∃ r, recs[k]? = some r ∧ tail = [.ok r]) ∨
       ∃ r', tail = [.ok r'] ∧ r'.check = false) := by
  obtain ⟨k, tail, hk, ht⟩ := fastq_prefix_safe recs hv n
  refine ⟨k, tail, ?_, ht⟩
  have hp := ascii_plain_text ((writeFastq recs).take n) fun b hb => hascii b (List.mem_of_mem_take hb)
  rw [fastq_read_any_buffering c sched hc hs _ hp.1 hp.2, hk]

open RbV.BufLines in
/-- **truncated FASTQ stream, non-ASCII text, any buffering**: the file is valid UTF-8 (without the bytes 0xC2, 0xE1, 0xE2, 0xE3:
`NoUws`); a cut may fall inside a multi-byte character.  The reader on the first `n` bytes yields the items of the
line-list model, or those items with the **last** one replaced by the UTF-8 error (`InvalidData`) — whatever the
capacity and the schedule. -/
theorem fastq_prefix_utf8_any_buffering (c : Nat) (sched : Nat → Nat) (hc : 1 ≤ c) (hs : Admissible sched)
    (file : Bytes) (hutf : validUtf8 file = true) (hws : NoUws file) (n : Nat) :
    parseFastqVia Txt.unicode c sched (file.take n) = (parseFastq (file.take n)).map .item ∨
      ∃ pre last, parseFastq (file.take n) = pre ++ [last] ∧
        parseFastqVia Txt.unicode c sched (file.take n) = pre.map .item ++ [.utf8] := by
  rw [fastq_read_schedule_independent _ c sched hc hs]
  exact (fqRecordsU_abl _ (abl_splitLines_take file hutf n)
    (agrees_lines fun b hb => hws b (List.mem_of_mem_take hb))).imp_right
      fun ⟨pre, last, h1, h2, _⟩ => ⟨pre, last, h1, h2⟩

open RbV.BufLines in
/-- **prefix safety for every valid-UTF-8 FASTQ file under any buffering** (without the bytes 0xC2, 0xE1, 0xE2, 0xE3: `NoUws`): the
reader on the first `n` bytes of the writer's output yields the first `k` original records, followed by nothing, or by one item that is
`IncompleteRecord`, the `k`-th original record, a record failing `check()`, or the UTF-8 error. -/
theorem fastq_prefix_safe_utf8_any_buffering (c : Nat) (sched : Nat → Nat) (hc : 1 ≤ c) (hs : Admissible sched)
    (recs : List FqRec) (hv : ∀ r ∈ recs, ValidFq r)
    (hutf : validUtf8 (writeFastq recs) = true) (hws : NoUws (writeFastq recs)) (n : Nat) :
    ∃ k tail, parseFastqVia Txt.unicode c sched ((writeFastq recs).take n) =
        (recs.take k).map (fun r => .item (.ok r)) ++ tail ∧
      (tail = [] ∨ tail = [.item .incomplete] ∨ (∃ r, recs[k]? = some r ∧ tail = [.item (.ok r)]) ∨
       (∃ r', tail = [.item (.ok r')] ∧ r'.check = false) ∨ tail = [.utf8]) := by
  obtain ⟨k, t, hk, ht⟩ := fastq_prefix_safe recs hv n
  rcases fastq_prefix_utf8_any_buffering c sched hc hs _ hutf hws n with h | ⟨pre, last, h1, h2⟩
  · refine ⟨k, t.map .item, by rw [h, hk]; simp [Function.comp_def], ?_⟩
    rcases ht with rfl | rfl | ⟨r, hr, rfl⟩ | ⟨r', rfl, hr'⟩
    · left; rfl
    · right; left; rfl
    · right; right; left; exact ⟨r, hr, rfl⟩
    · right; right; right; left; exact ⟨r', rfl, hr'⟩
  · rw [hk] at h1
    have hpre : ∃ k', pre = (recs.take k').map FqItem.ok := by
      rcases ht with rfl | rfl | ⟨r, _, rfl⟩ | ⟨r', rfl, _⟩
      · -- the last item of the plain parse is an original record
        refine ⟨pre.length, ?_⟩
        simp only [List.append_nil] at h1
        have hlen := congrArg List.length h1
        simp only [List.length_map, List.length_take, List.length_append, List.length_cons, List.length_nil] at hlen
        have h3 := congrArg (List.take pre.length) h1
        simp only [List.take_left', ← List.map_take, List.take_take] at h3
        have hmin : min pre.length k = pre.length := by omega
        rw [hmin] at h3
        exact h3.symm
      · exact ⟨k, (List.append_inj_left' h1 rfl).symm⟩
      · exact ⟨k, (List.append_inj_left' h1 rfl).symm⟩
      · exact ⟨k, (List.append_inj_left' h1 rfl).symm⟩
    obtain ⟨k', hk'⟩ := hpre
    refine ⟨k', [.utf8], ?_, Or.inr (Or.inr (Or.inr (Or.inr rfl)))⟩
    rw [h2, hk']
    simp [Function.comp_def]

open RbV.BufLines in
/-- … hence every record obtained from a cut stream that passes `check()` is an original record, for every buffer
capacity and every read fragmentation (non-ASCII ids and descriptions included, as far as `NoUws` admits them: no byte 0xC2, 0xE1,
0xE2, 0xE3). -/
theorem fastq_prefix_checked_mem_any_buffering (c : Nat) (sched : Nat → Nat) (hc : 1 ≤ c) (hs : Admissible sched)
    (recs : List FqRec) (hv : ∀ r ∈ recs, ValidFq r)
    (hutf : validUtf8 (writeFastq recs) = true) (hws : NoUws (writeFastq recs)) (n : Nat) (r : FqRec)
    (hr : SItem.item (FqItem.ok r) ∈ parseFastqVia Txt.unicode c sched ((writeFastq recs).take n))
    (hchk : r.check = true) : r ∈ recs := by
  rw [fastq_read_schedule_independent _ c sched hc hs] at hr
  exact fastq_prefix_checked_mem recs hv n r (fqRecordsU_abl_mem _ (abl_splitLines_take _ hutf n)
    (agrees_lines fun b hb => hws b (List.mem_of_mem_take hb)) _ hr) hchk

/-! ### Stated on the records

`TextFa` / `TextFq`: id and description are valid UTF-8 (what `&str` gives) without the bytes 0xC2, 0xE1, 0xE2, 0xE3 (`NoUws`: more
than the non-ASCII white space, see the section head above), sequence and qualities are ASCII — the records of the property
text.  Then the written file is `PlainText`
(`plainText_writeFasta`, `plainText_writeFastq`) and no hypothesis on the file is left. -/

open RbV.BufLines in
/-- **FASTA round trip**: for every list of valid text records, every wrap ≥ 1, every buffer capacity ≥ 1 and every
admissible read schedule, the reader on the writer's output yields exactly the records. -/
theorem fasta_roundtrip_records_any_buffering (c : Nat) (sched : Nat → Nat) (hc : 1 ≤ c) (hs : Admissible sched)
    (wrap : Option Nat) (recs : List FaRec) (hv : ∀ r ∈ recs, ValidFa r) (ht : ∀ r ∈ recs, TextFa r)
    (hw : ∀ w, wrap = some w → 1 ≤ w) :
    parseFastaVia Txt.unicode c sched (writeFasta wrap recs) = recs.map fun r => .item (.ok r) :=
  have hp := plainText_writeFasta wrap hw recs ht
  fasta_roundtrip_any_buffering c sched hc hs wrap recs hv hw hp.1 hp.2

open RbV.BufLines in
/-- **FASTQ round trip**, likewise -/
theorem fastq_roundtrip_records_any_buffering (c : Nat) (sched : Nat → Nat) (hc : 1 ≤ c) (hs : Admissible sched)
    (recs : List FqRec) (hv : ∀ r ∈ recs, ValidFq r) (ht : ∀ r ∈ recs, TextFq r) :
    parseFastqVia Txt.unicode c sched (writeFastq recs) = recs.map fun r => .item (.ok r) :=
  have hp := plainText_writeFastq recs ht
  fastq_roundtrip_any_buffering c sched hc hs recs hv hp.1 hp.2

open RbV.BufLines in
/-- **cut FASTQ stream**: every record that passes `check()` is an original record — every list of valid text
records, every cut, every capacity, every schedule. -/
theorem fastq_prefix_checked_mem_records_any_buffering (c : Nat) (sched : Nat → Nat) (hc : 1 ≤ c)
    (hs : Admissible sched) (recs : List FqRec) (hv : ∀ r ∈ recs, ValidFq r) (ht : ∀ r ∈ recs, TextFq r) (n : Nat)
    (r : FqRec) (hr : SItem.item (FqItem.ok r) ∈ parseFastqVia Txt.unicode c sched ((writeFastq recs).take n))
    (hchk : r.check = true) : r ∈ recs :=
  have hp := plainText_writeFastq recs ht
  fastq_prefix_checked_mem_any_buffering c sched hc hs recs hv hp.1 hp.2 n r hr hchk


/-! ## The source text (`RbV/Gen/SrcFasta.lean`, `SrcFastq.lean`: translated on every `./check C11` by `tools/rs2lean_genfx.py`)

The writers, `Reader::read`, `Record::check` and `Records::next` of `src/io/fasta.rs` / `src/io/fastq.rs` are translated from
their Rust text; the theorems below say that the translated functions *are* the mirror models the theorems above are about
(proofs: `Thm/GenSrcFasta.lean`, `Thm/GenSrcFastq.lean`).  Instantiation of the abstract operations: `write_all` appends to a
byte list and never fails; `read_line` is the `BufReader` mirror (`readLineStr c sched`: capacity `c`, read schedule `sched`,
UTF-8 validation of the whole line); `trim_end` / `splitn(2, char::is_whitespace)` are the byte-level mirrors `trimEndU` /
`splitWsU`.  `Res.ok` = no panic and the ghost fuel of the translated loops sufficed. -/

section Source
open RbV.Rs RbV.BufLines
open RbV.Thm.GenSrcFasta (writeAllOp readLineOp invalidData expectedGt)

/-- **FASTA writer, source text**: `Writer::write` (header through the translated `write_record_header`, sequence through
`chunks(linewrap)`) appends exactly the model writer's bytes, for every record, no wrap or any wrap ≥ 1. -/
theorem fasta_write_source_eq_model (w id : Bytes) (desc : Option Bytes) (seq : Bytes) (wrap : Option Nat)
    (hw : ∀ n, wrap = some n → 1 ≤ n) :
    Gen.SrcFasta.write writeAllOp w wrap id desc seq =
      Res.ok (.ok (), w ++ writeFastaRec wrap { id := id, desc := desc, seq := seq }) :=
  GenSrcFasta.write_eq_model w id desc seq wrap hw

/-- **FASTQ writer, source text** -/
theorem fastq_write_source_eq_model (w id : Bytes) (desc : Option Bytes) (seq qual : Bytes) :
    Gen.SrcFastq.write writeAllOp w id desc seq qual =
      Res.ok (.ok (), w ++ writeFastqRec { id := id, desc := desc, seq := seq, qual := qual }) :=
  GenSrcFastq.write_eq_model w id desc seq qual

/-- **`write_record`, source text** (both formats): `write` on the translated accessors `id()`, `desc()`, `seq()` [, `qual()`] -/
theorem fasta_write_record_source_eq_model (w : Bytes) (r : FaRec) (wrap : Option Nat) (hw : ∀ n, wrap = some n → 1 ≤ n) :
    Gen.SrcFasta.writeRecord writeAllOp w wrap r.id r.desc r.seq = Res.ok (.ok (), w ++ writeFastaRec wrap r) :=
  GenSrcFasta.writeRecord_eq_model w r wrap hw

/-- … likewise for FASTQ, for records whose sequence and qualities have no trailing white space (`hs`, `hq`: the accessors `seq()` /
`qual()` trim) -/
theorem fastq_write_record_source_eq_model (w : Bytes) (r : FqRec) (hs : trimEndU r.seq = r.seq)
    (hq : trimEndU r.qual = r.qual) :
    Gen.SrcFastq.writeRecord writeAllOp trimEndU w r.id r.desc r.seq r.qual = Res.ok (.ok (), w ++ writeFastqRec r) :=
  GenSrcFastq.writeRecord_eq_model trimEndU w r hs hq

/-- **constructors, source text**: `Reader::from_bufread(b).records()` is the initial state the `Records` theorems start from
(empty look-ahead line / line buffer, error flag cleared); `Writer::from_bufwriter` has no line wrap until `set_linewrap` -/
theorem fastx_constructors_source {ρ ω : Type} (b : ρ) (w : ω) (lw lw' : Option Nat) :
    (Gen.SrcFasta.readerFromBufread b >>= fun r => Gen.SrcFasta.readerRecords r.1 r.2) = Res.ok ((b, []), false) ∧
    (Gen.SrcFastq.readerFromBufread b >>= fun r => Gen.SrcFastq.readerRecords r.1 r.2) = Res.ok (b, []) ∧
    Gen.SrcFasta.writerFromBufwriter w = Res.ok (w, none) ∧
    Gen.SrcFasta.writerSetLinewrap lw lw' = Res.ok ((), lw') ∧
    Gen.SrcFastq.writerFromBufwriter w = Res.ok w := by
  have h1 := GenSrcFasta.ctors_eq b ([] : Bytes) w lw lw'
  have h2 := GenSrcFastq.ctors_eq b ([] : Bytes) w
  refine ⟨by simp [h1.1, h1.2.1], by simp [h2.1, h2.2.1], h1.2.2.1, h1.2.2.2, h2.2.2⟩

/-- one record through the translated FASTA writer, the `io::Result` dropped: the fold step of `fasta_roundtrip_source` -/
def srcWriteFasta (wrap : Option Nat) (w : Bytes) (r : FaRec) : Res Bytes := do
  let (_, w') ← Gen.SrcFasta.write writeAllOp w wrap r.id r.desc r.seq
  pure w'

/-- one record through the translated FASTQ writer, the `io::Result` dropped: the fold step of `fastq_roundtrip_source` -/
def srcWriteFastq (w : Bytes) (r : FqRec) : Res Bytes := do
  let (_, w') ← Gen.SrcFastq.write writeAllOp w r.id r.desc r.seq r.qual
  pure w'

theorem srcWriteFasta_all (wrap : Option Nat) (hw : ∀ n, wrap = some n → 1 ≤ n) (recs : List FaRec) :
    ∀ w, recs.foldlM (srcWriteFasta wrap) w = Res.ok (w ++ writeFasta wrap recs) := by
  induction recs with
  | nil => intro w; simp [writeFasta]
  | cons r rs ih =>
    intro w
    have := ih (w ++ writeFastaRec wrap r)
    have e := GenSrcFasta.write_eq_model w r.id r.desc r.seq wrap hw
    simpa [srcWriteFasta, e, writeFasta, List.append_assoc] using this

theorem srcWriteFastq_all (recs : List FqRec) :
    ∀ w, recs.foldlM srcWriteFastq w = Res.ok (w ++ writeFastq recs) := by
  induction recs with
  | nil => intro w; simp [writeFastq]
  | cons r rs ih =>
    intro w
    have := ih (w ++ writeFastqRec r)
    simpa [srcWriteFastq, GenSrcFastq.write_eq_model, writeFastq, List.append_assoc] using this

/-- **FASTA reader, source text**: one `Reader::read` = the stateful mirror `faReadS` — same result (`Ok` / the format error /
`InvalidData`), same `BufReader` state and look-ahead line, the mirror's record on `Ok` — from every reader state whose
look-ahead line is valid UTF-8, for every capacity and read schedule. -/
theorem fasta_read_source_eq_model (c : Nat) (sched : Nat → Nat) (r : FaReader) (hv : validUtf8 r.line = true)
    (id0 : Bytes) (desc0 : Option Bytes) (seq0 : Bytes) (fuel : Nat) (hf : r.rd.pending.length < fuel) :
    GenSrcFasta.ReadPost (faReadS Txt.unicode c sched r)
      (Gen.SrcFasta.read (readLineOp c sched) trimEndU splitWsU r.rd r.line id0 desc0 seq0 fuel) :=
  GenSrcFasta.read_eq_model c sched r hv id0 desc0 seq0 fuel hf

/-- **FASTA `Records`, source text**: the translated `next` called until `None` yields the items of `parseFastaVia` (the
mirror's drained iterator) for **every byte string**, capacity ≥ 1 and admissible schedule. -/
theorem fasta_records_source_eq_model (c : Nat) (sched : Nat → Nat) (hc : 1 ≤ c) (hs : Admissible sched) (file : Bytes)
    (fuel n : Nat) (hf : file.length < fuel) (hn : file.length + 2 ≤ n) :
    Rs.drain (GenSrcFasta.srcNext c sched fuel) n (init file, [], false) =
      Res.ok ((parseFastaVia Txt.unicode c sched file).map GenSrcFasta.ofItem) := by
  obtain ⟨k, hk, hkl⟩ := fasta_records_terminate Txt.unicode c sched hc hs file
  have hl := splitLines_length_lt file
  exact GenSrcFasta.drain_eq_model c sched fuel (file.length + 1) n { rd := init file, line := [] } k rfl
    (by simpa [init, St.pending] using hf) hk (by omega)

/-- **FASTQ reader, source text**: one `Reader::read` = the stateful mirror `fqReadS` run with the header split found in the
source (`GenSrcFastq.srcTxt`), with fewer than 2^31 bytes pending (`h31`: the `i32` line counter). -/
theorem fastq_read_source_eq_model (c : Nat) (sched : Nat → Nat) (rd : St) (lb0 id0 : Bytes) (desc0 : Option Bytes)
    (seq0 qual0 : Bytes) (fuel : Nat) (hf : rd.pending.length < fuel) (h31 : rd.pending.length < 2 ^ 31) :
    GenSrcFastq.ReadPost (fqReadS GenSrcFastq.srcTxt c sched rd)
      (Gen.SrcFastq.read (readLineOp c sched) trimEndU rd lb0 id0 desc0 seq0 qual0 fuel) :=
  GenSrcFastq.read_eq_model c sched rd lb0 id0 desc0 seq0 qual0 fuel hf h31

/-- the header split of the source is the list models' split on every line whose trimmed header has a blank as its first
white-space character (ids without white space) and which has none of the bytes 0xC2, 0xE1, 0xE2, 0xE3 (`NoUws`) — the only fact about
the pattern the theorems use -/
theorem fastq_header_split_source_in_domain (l : Bytes) (h : NoUws l)
    (hb : blankFirst (trimEnd l.tail) = true) : GenSrcFastq.srcTxt.AgreesOn l :=
  GenSrcFastq.srcTxt_agrees l h hb

/-- **FASTQ `Records`, source text**, every byte string (below 2^31 bytes: the `i32` line counter of `read`) -/
theorem fastq_records_source_eq_model (c : Nat) (sched : Nat → Nat) (hc : 1 ≤ c) (hs : Admissible sched) (file lb : Bytes)
    (fuel n : Nat) (hf : file.length < fuel) (h31 : file.length < 2 ^ 31) (hn : file.length + 1 ≤ n) :
    Rs.drain (GenSrcFastq.srcNext c sched fuel) n (init file, lb) =
      Res.ok ((parseFastqVia GenSrcFastq.srcTxt c sched file).map GenSrcFastq.ofItem) := by
  obtain ⟨k, hk, hkl⟩ := fastq_records_terminate GenSrcFastq.srcTxt c sched hc hs file
  have hl := splitLines_length_lt file
  exact GenSrcFastq.drain_eq_model c sched fuel (file.length + 1) n (init file) lb k
    (by simpa [init, St.pending] using hf) (by simpa [init, St.pending] using h31) hk (by omega)

/-- **`fastq::Record::check`, source text** = the model's `check` on records as the reader builds them -/
theorem fastq_check_source_eq_model (r : FqRec) (hs : trimEndU r.seq = r.seq) (hq : trimEndU r.qual = r.qual) :
    Gen.SrcFastq.recordCheck trimEndU r.id r.desc r.seq r.qual = Res.ok (.ok ()) ↔ r.check = true :=
  GenSrcFastq.check_ok_iff trimEndU r hs hq

/-- **FASTA round trip, source text to source text**: the translated `Records` iterator on the bytes the translated writer
produced for valid text records (`TextFa`: no byte 0xC2, 0xE1, 0xE2, 0xE3 in id and description) returns exactly the records — every
wrap ≥ 1, buffer capacity ≥ 1, admissible read schedule. -/
theorem fasta_roundtrip_source (c : Nat) (sched : Nat → Nat) (hc : 1 ≤ c) (hs : Admissible sched)
    (wrap : Option Nat) (recs : List FaRec) (hv : ∀ r ∈ recs, ValidFa r) (ht : ∀ r ∈ recs, TextFa r)
    (hw : ∀ w, wrap = some w → 1 ≤ w) (fuel n : Nat)
    (hf : (writeFasta wrap recs).length < fuel) (hn : (writeFasta wrap recs).length + 2 ≤ n) :
    ∃ file, recs.foldlM (srcWriteFasta wrap) [] = Res.ok file ∧
      Rs.drain (GenSrcFasta.srcNext c sched fuel) n (init file, [], false) =
        Res.ok (recs.map fun r => .ok (GenSrcFasta.toRec r)) := by
  refine ⟨writeFasta wrap recs, by simpa using srcWriteFasta_all wrap hw recs [], ?_⟩
  rw [fasta_records_source_eq_model c sched hc hs _ fuel n hf hn,
    fasta_roundtrip_records_any_buffering c sched hc hs wrap recs hv ht hw]
  simp [GenSrcFasta.ofItem, Function.comp_def]

/-- lines in the domain of the header split (`goodLine`: first white space of the trimmed header a blank), plain text: the
source's text functions agree with the list models -/
theorem srcTxt_allValid (file : Bytes) (hp : PlainText file) (hg : ∀ l ∈ splitLines file, goodLine l) :
    AllValid GenSrcFastq.srcTxt (splitLines file) := GenSrcFastq.srcTxt_allValid file hp hg

/-- **every line of a written or cut FASTQ file is in the domain of the header split**: ids without white space put a blank
(or nothing) first in the trimmed header, whatever white space the description contains, and cutting preserves that -/
theorem fastq_written_lines_in_domain (recs : List FqRec) (hv : ∀ r ∈ recs, ValidFq r) (cut : Nat) :
    ∀ l ∈ splitLines ((writeFastq recs).take cut), blankFirst (trimEnd l.tail) = true :=
  goodLine_writeFastq_take recs hv cut

/-- **FASTQ round trip, source text to source text**: the translated `Records` iterator on the bytes the translated writer
produced for valid text records (`TextFq`: no byte 0xC2, 0xE1, 0xE2, 0xE3 in id and description) returns exactly the records — every
capacity ≥ 1, every admissible schedule (files below 2^31 bytes: the `i32` line counter). -/
theorem fastq_roundtrip_source (c : Nat) (sched : Nat → Nat) (hc : 1 ≤ c) (hs : Admissible sched)
    (recs : List FqRec) (hv : ∀ r ∈ recs, ValidFq r) (ht : ∀ r ∈ recs, TextFq r) (lb : Bytes) (fuel n : Nat)
    (hf : (writeFastq recs).length < fuel) (h31 : (writeFastq recs).length < 2 ^ 31)
    (hn : (writeFastq recs).length + 1 ≤ n) :
    ∃ file, recs.foldlM srcWriteFastq [] = Res.ok file ∧
      Rs.drain (GenSrcFastq.srcNext c sched fuel) n (init file, lb) =
        Res.ok (recs.map fun r => .ok (GenSrcFastq.toRec r)) := by
  refine ⟨writeFastq recs, by simpa using srcWriteFastq_all recs [], ?_⟩
  rw [GenSrcFastq.drain_plain c sched hc hs _ lb fuel n hf h31 hn (plainText_writeFastq recs ht)
    (goodLine_writeFastq recs hv), fastq_roundtrip recs hv]
  simp [GenSrcFastq.ofItem, Function.comp_def]

/-- **truncated FASTQ stream, source text** (ASCII files, so that every prefix is valid UTF-8): the translated iterator on the
first `cut` bytes of the translated writer's output yields the first `k` original records followed by nothing,
`IncompleteRecord`, the `k`-th original record, or one record that fails `check()`. -/
theorem fastq_prefix_safe_source (c : Nat) (sched : Nat → Nat) (hc : 1 ≤ c) (hs : Admissible sched)
    (recs : List FqRec) (hv : ∀ r ∈ recs, ValidFq r) (hascii : ∀ b ∈ writeFastq recs, b < 128)
    (cut : Nat) (lb : Bytes) (fuel n : Nat)
    (hf : (writeFastq recs).length < fuel) (h31 : (writeFastq recs).length < 2 ^ 31)
    (hn : (writeFastq recs).length + 1 ≤ n) :
    ∃ k tail, Rs.drain (GenSrcFastq.srcNext c sched fuel) n (init ((writeFastq recs).take cut), lb) =
        Res.ok (((recs.take k).map FqItem.ok ++ tail).map fun i => GenSrcFastq.ofItem (.item i)) ∧
      (tail = [] ∨ tail = [.incomplete] ∨ (∃ r, recs[k]? = some r ∧ tail = [.ok r]) ∨
       ∃ r', tail = [.ok r'] ∧ r'.check = false) := by
  obtain ⟨k, tail, hk, htl⟩ := fastq_prefix_safe recs hv cut
  refine ⟨k, tail, ?_, htl⟩
  have hlen : ((writeFastq recs).take cut).length ≤ (writeFastq recs).length := by simp [List.length_take]; omega
  rw [GenSrcFastq.drain_plain c sched hc hs _ lb fuel n (by omega) (by omega) (by omega)
    (ascii_plain_text _ fun b hb' => hascii b (List.mem_of_mem_take hb')) (goodLine_writeFastq_take recs hv cut), hk]

/-- … hence: every record the translated iterator hands out on a cut stream that passes the **translated** `check()` is an
original record. -/
theorem fastq_prefix_checked_mem_source (c : Nat) (sched : Nat → Nat) (hc : 1 ≤ c) (hs : Admissible sched)
    (recs : List FqRec) (hv : ∀ r ∈ recs, ValidFq r) (hascii : ∀ b ∈ writeFastq recs, b < 128)
    (cut : Nat) (lb : Bytes) (fuel n : Nat)
    (hf : (writeFastq recs).length < fuel) (h31 : (writeFastq recs).length < 2 ^ 31)
    (hn : (writeFastq recs).length + 1 ≤ n) (items : List (Except Gen.SrcFastq.Error Gen.SrcFastq.Record))
    (hd : Rs.drain (GenSrcFastq.srcNext c sched fuel) n (init ((writeFastq recs).take cut), lb) = Res.ok items)
    (r : FqRec) (hr : Except.ok (GenSrcFastq.toRec r) ∈ items) (hchk : r.check = true) : r ∈ recs := by
  have hlen : ((writeFastq recs).take cut).length ≤ (writeFastq recs).length := by simp [List.length_take]; omega
  rw [GenSrcFastq.drain_plain c sched hc hs _ lb fuel n (by omega) (by omega) (by omega)
    (ascii_plain_text _ fun b hb' => hascii b (List.mem_of_mem_take hb')) (goodLine_writeFastq_take recs hv cut)] at hd
  simp only [Res.ok.injEq] at hd
  subst hd
  obtain ⟨i, hi, hie⟩ := List.mem_map.mp hr
  have hir : i = .ok r := by
    cases i with
    | ok x =>
      simp only [GenSrcFastq.ofItem, Except.ok.injEq, Gen.SrcFastq.Record.mk.injEq] at hie
      obtain ⟨h1, h2, h3, h4⟩ := hie
      cases x; cases r; simp_all
    | missingAt => simp [GenSrcFastq.ofItem] at hie
    | incomplete => simp [GenSrcFastq.ofItem] at hie
  subst hir
  exact fastq_prefix_checked_mem recs hv cut r hi hchk

/-! ### The sniffer (`src/io/fastx.rs`, `RbV/Gen/SrcFastx.lean`) -/

open RbV.Thm.GenSrcFastx (readExactOp chainOp sniffRes toKind eofErr illegalStart) in
/-- **sniffer, source text**: the translated `get_kind` (through the translated `get_kind_detailed`) on a source holding
`file` answers what the model `sniff` answers on the first byte — `UnexpectedEof` on empty input, `InvalidData` for any other
start character — and the reader it hands back (`Cursor::new([first]).chain(reader)`) delivers exactly `file` again. -/
theorem fastx_sniff_source_eq_model (file : Bytes) :
    Gen.SrcFastx.getKind readExactOp chainOp file =
      Res.ok (match file with
        | [] => .error eofErr
        | b :: _ => match sniff file with
          | some k => .ok (file, toKind k)
          | none => .error (illegalStart b)) := by
  rw [GenSrcFastx.getKind_eq_model]
  cases file with
  | nil => simp [sniffRes]
  | cons b r => cases h : sniff (b :: r) <;> simp [sniffRes, h]

open RbV.Thm.GenSrcFastx (readExactAt seekCurOp sniffRes) in
/-- **`get_kind_seek`, source text**: the same verdict, and the position of the source is unchanged (`read_exact` of one byte,
`seek(Current(-1))`); on an empty source `UnexpectedEof` (`GenSrcFastx.getKindSeek_empty`) -/
theorem fastx_sniff_seek_source_eq_model (b : Nat) (r : Bytes) :
    Gen.SrcFastx.getKindSeek readExactAt seekCurOp (b :: r, 0) = Res.ok (sniffRes (b :: r), (b :: r, 0)) :=
  GenSrcFastx.getKindSeek_eq_model b r

open RbV.Thm.GenSrcFastx (readExactOp chainOp eitherAfter) in
/-- **`EitherRecords`, source text**: `kind()` on a fresh `EitherRecords` over a source holding `file` (translated `kind` →
translated `initialize` → translated `get_kind` → `get_kind_detailed`) answers the verdict of `sniff` ("Data is empty" at end
of input) and leaves the object holding the record iterator of **that** format (`fa` / `fq` = `fasta::` / `fastq::Reader::new(
chain).records()`) over a chained reader that delivers the whole input again; a second `initialize` changes nothing. -/
theorem fastx_either_kind_source_eq_model {α β : Type} (fa : Bytes → α) (fq : Bytes → β) (file : Bytes) :
    Gen.SrcFastx.eitherKind readExactOp chainOp fa fq none (some file) =
        Res.ok ((eitherAfter fa fq file).1, (eitherAfter fa fq file).2, none) ∧
      (∀ recs : Option (α ⊕ β),
        Gen.SrcFastx.eitherInitialize readExactOp chainOp fa fq recs none = Res.ok (.ok (), recs, none)) ∧
      (∀ k, sniff file = some k →
        (eitherAfter fa fq file).1 = .ok (GenSrcFastx.toKind k) ∧
        (eitherAfter fa fq file).2 = some (match k with | .fasta => .inl (fa file) | .fastq => .inr (fq file))) := by
  refine ⟨GenSrcFastx.eitherKind_eq_model fa fq file, GenSrcFastx.eitherInitialize_again fa fq, ?_⟩
  intro k hk
  cases file with
  | nil => simp [sniff] at hk
  | cons b r => cases k <;> simp [eitherAfter, hk, GenSrcFastx.toKind]

open RbV.Thm.GenSrcFastx (readExactOp chainOp eitherAfter wrapFa wrapFq illegalStart) in
/-- **`EitherRecords::next`, source text**: once the reader has been taken, `next` is the `next` of the iterator the object
holds (`faN` / `fqN` = `fasta::` / `fastq::Records::next`, whose translations are `Gen.SrcFasta.next` / `Gen.SrcFastq.next`), its
new state written back and the item wrapped (`Ok(r)` ↦ `Ok(EitherRecord::FASTA(r))`, `Err(e)` ↦ `Err(Error::IO(e))`, resp.
`FASTQ`); the first call on a fresh object sniffs first — an illegal start character is the item `Some(Err(Error::IO(_)))`,
after which (and on empty input) the iterator is exhausted. -/
theorem fastx_either_next_source_eq_model {α β γ δ ε : Type} (fa : Bytes → α) (fq : Bytes → β)
    (faN : α → Option (Except IoErr γ) × α) (fqN : β → Option (Except ε δ) × β) :
    (∀ recs : Option (α ⊕ β),
      Gen.SrcFastx.eitherNext readExactOp chainOp fa fq faN fqN recs none =
        Res.ok (match recs with
          | some (.inl a) => ((faN a).1.map wrapFa, some (.inl (faN a).2), none)
          | some (.inr b) => ((fqN b).1.map wrapFq, some (.inr (fqN b).2), none)
          | none => (none, none, none))) ∧
    (∀ file : Bytes,
      Gen.SrcFastx.eitherNext readExactOp chainOp fa fq faN fqN none (some file) =
        (match file, sniff file with
         | b :: _, none => Res.ok (some (.error (.inl (illegalStart b))), none, none)
         | _, _ => Gen.SrcFastx.eitherNext readExactOp chainOp fa fq faN fqN (eitherAfter fa fq file).2 none)) :=
  ⟨GenSrcFastx.eitherNext_eq_model fa fq faN fqN, GenSrcFastx.eitherNext_fresh fa fq faN fqN⟩

open RbV.Thm.GenSrcFastx (readExactOp chainOp) in
/-- **sniffer + FASTA reader, source text to source text**: on the translated writer's output for a non-empty list of valid
text records the translated `get_kind` answers FASTA and hands back a reader over the same bytes; the translated `Records`
iterator on a `BufReader` over that `Chain` (read schedule `chainSched sched`: the peeked byte first) yields the records. -/
theorem fastx_sniff_fasta_source (c : Nat) (sched : Nat → Nat) (hc : 1 ≤ c) (hs : Admissible sched)
    (wrap : Option Nat) (recs : List FaRec) (hne : recs ≠ []) (hv : ∀ r ∈ recs, ValidFa r) (ht : ∀ r ∈ recs, TextFa r)
    (hw : ∀ w, wrap = some w → 1 ≤ w) (fuel n : Nat)
    (hf : (writeFasta wrap recs).length < fuel) (hn : (writeFasta wrap recs).length + 2 ≤ n) :
    ∃ file, recs.foldlM (srcWriteFasta wrap) [] = Res.ok file ∧
      Gen.SrcFastx.getKind readExactOp chainOp file = Res.ok (.ok (file, Gen.SrcFastx.Kind.FASTA)) ∧
      Rs.drain (GenSrcFasta.srcNext c (chainSched sched) fuel) n (init file, [], false) =
        Res.ok (recs.map fun r => .ok (GenSrcFasta.toRec r)) := by
  obtain ⟨file, h1, h2⟩ := fasta_roundtrip_source c (chainSched sched) hc (chainSched_admissible sched hs) wrap recs hv ht hw
    fuel n hf hn
  have hfile : file = writeFasta wrap recs := by simpa [h1] using srcWriteFasta_all wrap hw recs []
  refine ⟨file, h1, ?_, h2⟩
  rw [fastx_sniff_source_eq_model, hfile]
  cases recs with
  | nil => exact absurd rfl hne
  | cons r rs => simp [writeFasta, writeFastaRec, faHeaderBytes, sniff, GenSrcFastx.toKind]

open RbV.Thm.GenSrcFastx (readExactOp chainOp) in
/-- **sniffer + FASTQ reader, source text to source text** -/
theorem fastx_sniff_fastq_source (c : Nat) (sched : Nat → Nat) (hc : 1 ≤ c) (hs : Admissible sched)
    (recs : List FqRec) (hne : recs ≠ []) (hv : ∀ r ∈ recs, ValidFq r) (ht : ∀ r ∈ recs, TextFq r) (lb : Bytes)
    (fuel n : Nat) (hf : (writeFastq recs).length < fuel) (h31 : (writeFastq recs).length < 2 ^ 31)
    (hn : (writeFastq recs).length + 1 ≤ n) :
    ∃ file, recs.foldlM srcWriteFastq [] = Res.ok file ∧
      Gen.SrcFastx.getKind readExactOp chainOp file = Res.ok (.ok (file, Gen.SrcFastx.Kind.FASTQ)) ∧
      Rs.drain (GenSrcFastq.srcNext c (chainSched sched) fuel) n (init file, lb) =
        Res.ok (recs.map fun r => .ok (GenSrcFastq.toRec r)) := by
  obtain ⟨file, h1, h2⟩ := fastq_roundtrip_source c (chainSched sched) hc (chainSched_admissible sched hs) recs hv ht lb
    fuel n hf h31 hn
  have hfile : file = writeFastq recs := by simpa [h1] using srcWriteFastq_all recs []
  refine ⟨file, h1, ?_, h2⟩
  rw [fastx_sniff_source_eq_model, hfile]
  cases recs with
  | nil => exact absurd rfl hne
  | cons r rs => simp [writeFastq, writeFastqRec, sniff, GenSrcFastx.toKind]

open RbV.Thm.GenSrcFastx (readExactOp chainOp eitherSrcNext totalNext wrapFa wrapFq eitherAfter) in
/-- **`EitherRecords` end to end, FASTA** (source text to source text): the translated `EitherRecords::next` — sniffing through
the translated `initialize` / `get_kind`, then dispatching to the translated `fasta::Records::next` on a `BufReader` over the
chained reader (schedule `chainSched sched`) — drained over the translated FASTA writer's output for a non-empty list of
valid text records yields exactly the records, each as `Ok(EitherRecord::FASTA(_))`. -/
theorem fastx_either_fasta_roundtrip_source (c : Nat) (sched : Nat → Nat) (hc : 1 ≤ c) (hs : Admissible sched)
    (wrap : Option Nat) (recs : List FaRec) (hne : recs ≠ []) (hv : ∀ r ∈ recs, ValidFa r) (ht : ∀ r ∈ recs, TextFa r)
    (hw : ∀ w, wrap = some w → 1 ≤ w) (fuel n : Nat)
    (hf : (writeFasta wrap recs).length < fuel) (hn : (writeFasta wrap recs).length + 2 ≤ n)
    {β δ ε : Type} (fq : Bytes → β) (fqN : β → Option (Except ε δ) × β) :
    ∃ file, recs.foldlM (srcWriteFasta wrap) [] = Res.ok file ∧
      Rs.drain (eitherSrcNext (fun f => (init f, ([] : Bytes), false)) fq
          (totalNext (GenSrcFasta.srcNext c (chainSched sched) fuel)) fqN) n (none, some file) =
        Res.ok (recs.map fun r => (.ok (.inl (GenSrcFasta.toRec r)) : Except (IoErr ⊕ ε) (Gen.SrcFasta.Record ⊕ δ))) := by
  obtain ⟨file, h1, hk, h2⟩ := fastx_sniff_fasta_source c sched hc hs wrap recs hne hv ht hw fuel n hf hn
  have hsn := GenSrcFastx.sniff_of_getKind (k := .fasta) hk
  refine ⟨file, h1, ?_⟩
  rw [GenSrcFastx.drain_either_fresh _ fq _ fqN file .fasta hsn n, GenSrcFastx.eitherAfter_fasta _ fq hsn,
    GenSrcFastx.drain_either_fasta _ fq _ fqN n _ _ h2]
  simp [wrapFa, Except.map, Except.mapError, Function.comp_def]

open RbV.Thm.GenSrcFastx (readExactOp chainOp eitherSrcNext totalNext wrapFa wrapFq eitherAfter) in
/-- **`EitherRecords` end to end, FASTQ** -/
theorem fastx_either_fastq_roundtrip_source (c : Nat) (sched : Nat → Nat) (hc : 1 ≤ c) (hs : Admissible sched)
    (recs : List FqRec) (hne : recs ≠ []) (hv : ∀ r ∈ recs, ValidFq r) (ht : ∀ r ∈ recs, TextFq r) (lb : Bytes)
    (fuel n : Nat) (hf : (writeFastq recs).length < fuel) (h31 : (writeFastq recs).length < 2 ^ 31)
    (hn : (writeFastq recs).length + 1 ≤ n)
    {α γ : Type} (fa : Bytes → α) (faN : α → Option (Except IoErr γ) × α) :
    ∃ file, recs.foldlM srcWriteFastq [] = Res.ok file ∧
      Rs.drain (eitherSrcNext fa (fun f => (init f, lb)) faN
          (totalNext (GenSrcFastq.srcNext c (chainSched sched) fuel))) n (none, some file) =
        Res.ok (recs.map fun r =>
          (.ok (.inr (GenSrcFastq.toRec r)) : Except (IoErr ⊕ Gen.SrcFastq.Error) (γ ⊕ Gen.SrcFastq.Record))) := by
  obtain ⟨file, h1, hk, h2⟩ := fastx_sniff_fastq_source c sched hc hs recs hne hv ht lb fuel n hf h31 hn
  have hsn := GenSrcFastx.sniff_of_getKind (k := .fastq) hk
  refine ⟨file, h1, ?_⟩
  rw [GenSrcFastx.drain_either_fresh fa _ faN _ file .fastq hsn n, GenSrcFastx.eitherAfter_fastq fa _ hsn,
    GenSrcFastx.drain_either_fastq fa _ faN _ n _ _ h2]
  simp [wrapFq, Except.map, Except.mapError, Function.comp_def]

end Source

/-! ## Non-vacuity -/

private def exFa : List FaRec :=
  [{ id := [105, 100], desc := some [100, 32, 120], seq := [65, 67, 71, 84, 65] },      -- >id d x / ACGTA
   { id := [50], desc := none, seq := [64, 43] }]                                          -- >2 / @+

private theorem exFa_valid : ∀ r ∈ exFa, ValidFa r := by decide

example : parseFasta (writeFasta (some 2) exFa) = exFa.map FaItem.ok :=
  fasta_roundtrip (some 2) exFa exFa_valid (by intro w h; cases h; decide)

private def exFq : List FqRec :=
  [{ id := [114], desc := none, seq := [65, 67], qual := [64, 43] },                     -- qualities "@+"
   { id := [115], desc := some [100], seq := [71], qual := [43] }]

private theorem exFq_valid : ∀ r ∈ exFq, ValidFq r := by decide

example : parseFastq (writeFastq exFq) = exFq.map FqItem.ok := fastq_roundtrip exFq exFq_valid

/-- a cut in the middle of the second record: whatever passes `check()` is an original record -/
example (r : FqRec) (hr : FqItem.ok r ∈ parseFastq ((writeFastq exFq).take 14)) (hc : r.check = true) : r ∈ exFq :=
  fastq_prefix_checked_mem exFq exFq_valid 14 r hr hc

/-- capacity 2, reads of 1, 3, 1, 3, … bytes (cut to the capacity); last line without terminator -/
example : RbV.BufLines.linesVia 2 (RbV.BufLines.cyclic [1, 3]) [62, 105, 10, 65, 67, 71, 10, 10, 84] =
    [[62, 105, 10], [65, 67, 71, 10], [10], [84]] :=
  (read_line_schedule_independent 2 _ (by decide) (RbV.BufLines.cyclic_admissible _) _).trans (by decide)

example : RbV.BufLines.linesVia 1 (fun _ => 1) [] = [] :=
  (read_line_schedule_independent 1 _ (by decide) (fun _ => Nat.le_refl 1) _).trans (by decide)

/-- capacity 3, reads of 2, 1, 5 bytes: the FASTA file of `exFa` (no wrap) through the stateful reader -/
example : parseFastaVia Txt.unicode 3 (RbV.BufLines.cyclic [2, 1, 5]) (writeFasta none exFa) =
    exFa.map fun r => .item (.ok r) :=
  fasta_roundtrip_any_buffering 3 _ (by decide) (RbV.BufLines.cyclic_admissible _) none exFa exFa_valid
    (by intro w h; cases h) (by decide) (by decide)

/-- a FASTQ record with the non-ASCII id `é` (0xC3 0xA9), 1-byte buffer: the character is split over two reads -/
private def exFqU : List FqRec := [{ id := [195, 169], desc := none, seq := [65, 67], qual := [33, 34] }]

example : parseFastqVia Txt.unicode 1 (fun _ => 1) (writeFastq exFqU) = exFqU.map fun r => .item (.ok r) :=
  fastq_roundtrip_any_buffering 1 _ (by decide) (fun _ => Nat.le_refl 1) exFqU (by decide) (by decide) (by decide)

/-- a stream cut inside `é`: every configuration reports the UTF-8 error -/
example : parseFastqVia Txt.unicode 1 (fun _ => 1) ((writeFastq exFqU).take 2) = [.utf8] :=
  (fastq_read_schedule_independent _ 1 _ (by decide) (fun _ => Nat.le_refl 1) _).trans
    (by simp [parseFastqU, exFqU, writeFastq, writeFastqRec, splitLines, fqRecordsU, fqReadU, validUtf8])

/-- the cut inside `é` again, through the prefix theorem: whatever passes `check()` is an original record -/
example (r : FqRec) (hr : SItem.item (FqItem.ok r) ∈ parseFastqVia Txt.unicode 2 (fun _ => 1) ((writeFastq exFqU).take 2))
    (hc : r.check = true) : r ∈ exFqU :=
  fastq_prefix_checked_mem_any_buffering 2 _ (by decide) (fun _ => Nat.le_refl 1) exFqU (by decide) (by decide)
    (by decide) 2 r hr hc

/-- `exFa` (wrap 2) and the non-ASCII `exFqU` are text records -/
example : parseFastaVia Txt.unicode 1 (fun _ => 1) (writeFasta (some 2) exFa) = exFa.map fun r => .item (.ok r) :=
  fasta_roundtrip_records_any_buffering 1 _ (by decide) (fun _ => Nat.le_refl 1) (some 2) exFa exFa_valid (by decide)
    (by intro w h; cases h; decide)

example : parseFastqVia Txt.unicode 5 (RbV.BufLines.cyclic [3, 1]) (writeFastq exFqU) =
    exFqU.map fun r => .item (.ok r) :=
  fastq_roundtrip_records_any_buffering 5 _ (by decide) (RbV.BufLines.cyclic_admissible _) exFqU (by decide) (by decide)


/-! ### Non-vacuity of the source-text theorems -/

open RbV.Rs RbV.BufLines in
/-- `exFa` written by the translated writer (no wrap) and read back by the translated iterator: capacity 3, reads of 2, 1, 5 -/
example : ∃ file, exFa.foldlM (srcWriteFasta none) [] = Res.ok file ∧
    Rs.drain (GenSrcFasta.srcNext 3 (cyclic [2, 1, 5]) 100) 100 (init file, [], false) =
      Res.ok (exFa.map fun r => .ok (GenSrcFasta.toRec r)) :=
  fasta_roundtrip_source 3 _ (by decide) (cyclic_admissible _) none exFa exFa_valid (by decide)
    (by intro w h; cases h) 100 100 (by decide) (by decide)

open RbV.Rs RbV.BufLines in
example : ∃ file, exFq.foldlM srcWriteFastq [] = Res.ok file ∧
    Rs.drain (GenSrcFastq.srcNext 1 (fun _ => 1) 100) 100 (init file, []) =
      Res.ok (exFq.map fun r => .ok (GenSrcFastq.toRec r)) :=
  fastq_roundtrip_source 1 _ (by decide) (fun _ => Nat.le_refl 1) exFq exFq_valid (by decide) [] 100 100
    (by decide) (by decide) (by decide)

/-- a description with a tab after the first blank (`d\tx y`), cut in the middle of the second record -/
private def exFqTab : List FqRec :=
  [{ id := [114], desc := some [100, 9, 120, 32, 121], seq := [65, 67], qual := [33, 34] },
   { id := [115], desc := none, seq := [71], qual := [43] }]

open RbV.Rs RbV.BufLines in
example : ∃ k tail, Rs.drain (GenSrcFastq.srcNext 2 (cyclic [1, 3]) 100) 100 (init ((writeFastq exFqTab).take 22), []) =
      Res.ok (((exFqTab.take k).map FqItem.ok ++ tail).map fun i => GenSrcFastq.ofItem (.item i)) ∧
    (tail = [] ∨ tail = [.incomplete] ∨ (∃ r, exFqTab[k]? = some r ∧ tail = [.ok r]) ∨
     ∃ r', tail = [.ok r'] ∧ r'.check = false) :=
  fastq_prefix_safe_source 2 _ (by decide) (cyclic_admissible _) exFqTab (by decide) (by decide) 22 [] 100 100
    (by decide) (by decide) (by decide)


open RbV.Rs RbV.BufLines in
/-- sniffing the translated writer's FASTQ output and reading the chained reader with the translated iterator -/
example : ∃ file, exFq.foldlM srcWriteFastq [] = Res.ok file ∧
    Gen.SrcFastx.getKind GenSrcFastx.readExactOp GenSrcFastx.chainOp file = Res.ok (.ok (file, Gen.SrcFastx.Kind.FASTQ)) ∧
    Rs.drain (GenSrcFastq.srcNext 4 (chainSched (cyclic [3, 1])) 100) 100 (init file, []) =
      Res.ok (exFq.map fun r => .ok (GenSrcFastq.toRec r)) :=
  fastx_sniff_fastq_source 4 _ (by decide) (cyclic_admissible _) exFq (by decide) exFq_valid (by decide) [] 100 100
    (by decide) (by decide) (by decide)

open RbV.Rs RbV.BufLines in
/-- `EitherRecords` over the translated FASTQ writer's output, drained (the FASTA side is irrelevant: any `fa`, `faN`) -/
example : ∃ file, exFq.foldlM srcWriteFastq [] = Res.ok file ∧
    Rs.drain (GenSrcFastx.eitherSrcNext (fun _ => ()) (fun f => (init f, ([] : Bytes))) (fun u => ((none : Option (Except IoErr Unit)), u))
        (GenSrcFastx.totalNext (GenSrcFastq.srcNext 2 (chainSched (cyclic [1, 4])) 100))) 100 (none, some file) =
      Res.ok (exFq.map fun r => .ok (.inr (GenSrcFastq.toRec r))) :=
  fastx_either_fastq_roundtrip_source 2 _ (by decide) (cyclic_admissible _) exFq (by decide) exFq_valid (by decide) [] 100 100
    (by decide) (by decide) (by decide) _ _

/-- an illegal start character and the empty input -/
example : Gen.SrcFastx.getKind GenSrcFastx.readExactOp GenSrcFastx.chainOp [65, 10] =
    RbV.Rs.Res.ok (.error (GenSrcFastx.illegalStart 65)) := fastx_sniff_source_eq_model _

example : Gen.SrcFastx.getKind GenSrcFastx.readExactOp GenSrcFastx.chainOp [] =
    RbV.Rs.Res.ok (.error GenSrcFastx.eofErr) := fastx_sniff_source_eq_model _

end RbV.Thm.C11
