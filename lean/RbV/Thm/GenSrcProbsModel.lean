import RbV.Thm.GenSrcProbs
/-!
# C15 — **soft** module: the translated text equals the hand-written real-number model branch by branch

Built by `tools/gen_tables.py` after regenerating (`soft_modules`); a failure is a note ("use-site shape changed"), never a
broken obligation: a property-preserving rewrite (another switch point or the exact exponential in `ln_1m_exp`, an early
exit of `ln_add_exp` for operands more than 37 apart) makes these equalities false while the property-level theorems of
`GenSrcProbs.lean` are re-proved.  On the present text they hold, which is what lets `Thm/C15.lean` speak of one algorithm.
-/
set_option linter.unusedSimpArgs false
set_option linter.unusedVariables false
namespace RbV.Thm.GenSrcProbsModel
open RbV RbV.Rs RbV.C15 RbV.Gen.SrcProbs RbV.Thm.GenSrcProbs Real

theorem ln_add_exp_eq_model (E : ℝ → ℝ) (hE : PosOn E) (a b : LP) :
    ln_add_exp (xrOps E) (emb a) (emb b) = emb (lnAddExp E a b) := by
  cases a with
  | none => cases b <;> simp [ln_add_exp, ln_zero, lnAddExp]
  | some x =>
    cases b with
    | none => simp [ln_add_exp, ln_zero, lnAddExp]
    | some y =>
      rcases lt_or_ge x y with h | h
      · have hE1 := hE.neg_one_lt (sub_nonpos.mpr h.le)
        simp [ln_add_exp, ln_zero, lnAddExp, h, ln1p_fin hE1, max_eq_right h.le, min_eq_left h.le]
      · have hE1 := hE.neg_one_lt (sub_nonpos.mpr h)
        simp [ln_add_exp, ln_zero, lnAddExp, not_lt.mpr h, ln1p_fin hE1, max_eq_left h, min_eq_right h]

/-- both branches, with the switch literal of the text (`Gen.Scales.ln1mExpSwitch` extracts the same literal) -/
theorem ln_1m_exp_eq_model (E : ℝ → ℝ) (δ : ℝ) (h : ApproxExp E δ) (hδ : δ ≤ 1 / 2) (x : ℝ) (hx : x ≤ 0) :
    ln_1m_exp (xrOps E) (XR.fin x) = Res.ok (emb (ln1mExp E x)) := by
  have hsw : decR ⟨(-693), 3⟩ = -0.693 := by rw [decR_eq]; norm_num
  unfold ln1mExp
  by_cases hlt : x < -0.693
  · have h1 : E x < 1 := approx_lt_one h hδ (hlt.le.trans (by norm_num))
    simp [ln_1m_exp, Rs.assert, decR_int, hx, hsw, hlt, ln1p_fin (show (-1 : ℝ) < -E x by linarith)]
  · rcases eq_or_lt_of_le hx with h0 | h0
    · subst h0; simp [ln_1m_exp, Rs.assert, decR_int, hsw]; norm_num
    · have hpos := neg_expm1_pos h0
      have hpos' : 0 < 1 - exp x := by linarith
      simp [ln_1m_exp, Rs.assert, decR_int, hx, hsw, hlt, h0.ne, ln_fin_pos hpos, ln_fin_pos hpos']

theorem ln_one_minus_exp_eq_model (E : ℝ → ℝ) (δ : ℝ) (h : ApproxExp E δ) (hδ : δ ≤ 1 / 2) (a : LP) (ha : lin a ≤ 1) :
    ln_one_minus_exp (xrOps E) (emb a) = Res.ok (emb (lnOneMinusExp E a)) := by
  cases a with
  | none => simp [ln_one_minus_exp, ln_1m_exp, Rs.assert, XR.le, XR.lt, lnOneMinusExp]
  | some x =>
    have hx : x ≤ 0 := nonpos_of_lin_le_one ha
    simp [ln_one_minus_exp, lnOneMinusExp, ln_1m_exp_eq_model E δ h hδ x hx]

theorem ln_sub_exp_eq_model (E : ℝ → ℝ) (δ : ℝ) (h : ApproxExp E δ) (hδ : δ ≤ 1 / 2) (a b : LP) (hab : lin b ≤ lin a) :
    ln_sub_exp (xrOps E) (emb a) (emb b) = Res.ok (emb (lnSubExp E a b)) := by
  cases b with
  | none => cases a <;> simp [ln_sub_exp, ln_zero, lnSubExp]
  | some y =>
    cases a with
    | none => simp only [lin] at hab; exact absurd hab (not_le.mpr (exp_pos y))
    | some x =>
      have hyx : y ≤ x := exp_le_exp.mp hab
      have h1 := ln_one_minus_exp_eq_model E δ h hδ (some (y - x)) (by simp [lin]; linarith)
      simp only [emb_some, lnOneMinusExp] at h1
      by_cases he : x = y
      · subst he; simp [ln_sub_exp, ln_zero, lnSubExp, Rs.assert]
      · simp [ln_sub_exp, ln_zero, lnSubExp, Rs.assert, hyx, he, h1, add_fin_emb]

theorem iterScan_eq_model (E : ℝ → ℝ) (hE : PosOn E) : ∀ (ps : List LP) (s : LP),
    Rs.iterScan (scan_ln_add_exp (xrOps E)) (emb s) (ps.map emb) = (lnCumsumFrom E s ps).map emb
  | [], _ => rfl
  | p :: ps, s => by
    simp [Rs.iterScan, scan_ln_add_exp, ln_add_exp_eq_model E hE, lnCumsumFrom, iterScan_eq_model E hE ps]

theorem ln_cumsum_exp_eq_model (E : ℝ → ℝ) (hE : PosOn E) (l : List LP) :
    ln_cumsum_exp (xrOps E) (l.map emb) = (lnCumsumExp E l).map emb := by
  simpa [ln_cumsum_exp, ln_zero, lnCumsumExp] using iterScan_eq_model E hE l none

end RbV.Thm.GenSrcProbsModel
