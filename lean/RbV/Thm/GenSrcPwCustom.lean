import RbV.Gen.SrcPwCustom
import RbV.Thm.GenSrcPwTypes
import RbV.Thm.GenSrcBasic
import RbV.Thm.GenSrcOk
import RbV.Thm.GenSrcI32
import RbV.Basic.GetD
import RbV.Model.PairwiseFillI32
/-!
# The translated text of `Aligner::custom` against the checked-`i32` mirror `Model/PairwiseFillI32.lean` (C01)

`RbV/Gen/SrcPwCustom.lean` is the text of `Aligner::custom` translated on every `./check C01`; the four comparisons whose
tie-break the property leaves open (I layer, D layer, y-suffix-clip tracker in the main loop and in column 0) are *condition
holes*: parameters `iTie dTie snTie sn0Tie` of every translated function, with the tests found in the text as the separate definitions `custom_iTie` … .

Proved here: **the body of the main loop** (`custom_for5`, one DP cell) **= `stepJS T sCode`**, the row function `stepJC` of the
checked-`i32` mirror with the tie-breaks and the chooser of the S code as parameters, for every aligner state of the right
shape — checked `i32` arithmetic (`Rs.iadd 32` = `I32.add`: a panic of the text is the `none` of the mirror), all index
arithmetic, the bit-packed traceback cell (`cellOf`), the register `S[curr][m]`, `Sn/Ly/Lx`.  `srcCell` reads the chooser off
the text (whatever the order of its comparisons) and proves the cell equation once; `srcCell_ok`: the chooser is admissible;
`stepJT` / `stepJT_pinned`: the instance for the pinned order is `stepJC` itself (used by the soft module
`Thm/GenSrcPwCustomExact.lean`).  `srcTies_ok`: the tests found in the text are admissible tie-breaks (`>` or `>=`).  The lifting
to the column and to the outer loop is in `Thm/GenSrcPwColumn.lean`, `GenSrcPwColStep.lean`, `GenSrcPwColGlue.lean`; not proved:
column 0, the two post-loops, the traceback loop (the whole translated function is *evaluated* against `customC` in
`Thm/C01.lean`).
-/
set_option linter.unusedSimpArgs false
set_option linter.unusedVariables false
namespace RbV.Thm.GenSrcPwCustom
open RbV RbV.Rs RbV.Gen.TbCodes RbV.Gen.Limits RbV.Gen.SrcPwTypes RbV.Gen.SrcPwCustom RbV.Align RbV.Model.PairwiseFill
open RbV.Thm.GenSrcPwTypes

/-! ### move codes and cells -/

theorem minScore_eq : minScorePairwise = minScore := rfl

/-- the code of a move (`RbV/Gen/TbCodes.lean`, extracted from the same text) -/
def enc : Tb → Nat
  | .start => tbStart | .ins => tbIns | .del => tbDel | .subst => tbSubst | .mat => tbMatch
  | .xpre => tbXclipPrefix | .xsuf => tbXclipSuffix | .ypre => tbYclipPrefix | .ysuf => tbYclipSuffix

theorem enc_le_max (t : Tb) : enc t ≤ tbMax := by cases t <;> decide
theorem enc_inj (a b : Tb) : enc a = enc b → a = b := by cases a <;> cases b <;> decide
theorem enc_start_zero : enc .start = 0 := by decide

/-- the cell that holds the three moves of a `RowT` -/
def cellOf (ts ti td : Tb) : TracebackCell :=
  ⟨TbCell.setBits (TbCell.setBits (TbCell.setBits 0 iPos (enc ti)) dPos (enc td)) sPos (enc ts)⟩

/-! ### tie-breaks -/

/-- the tie-breaks the property leaves open (condition holes of the translation): `I` layer (`i_score` against
`s_score`), `D` layer (`d_score` against `s_score`), y-suffix-clip tracker (`S + yclip_suffix` against `Sn[i]`) in the main loop
(`snT`) and in the initialisation of column 0 (`sn0T`) -/
structure Ties where
  iT : Int → Int → Bool
  dT : Int → Int → Bool
  snT : Int → Int → Bool
  sn0T : Int → Int → Bool

/-- an admissible tie-break: true when strictly greater, false when strictly smaller (free on ties) -/
def TieOk (T : Int → Int → Bool) : Prop := ∀ a b, (a > b → T a b = true) ∧ (T a b = true → a ≥ b)
def TiesOk (T : Ties) : Prop := TieOk T.iT ∧ TieOk T.dT ∧ TieOk T.snT ∧ TieOk T.sn0T

/-- the tie-breaks of the pinned text (strict `>` everywhere) -/
def pinned : Ties :=
  ⟨fun a b => decide (a > b), fun a b => decide (a > b), fun a b => decide (a > b), fun a b => decide (a > b)⟩
/-- the tie-breaks found in the source on this run -/
def srcTies : Ties := ⟨custom_iTie, custom_dTie, custom_snTie, custom_sn0Tie⟩

/-- the tests found in the source are admissible tie-breaks (true of `>` and `>=`, in either operand order) -/
theorem srcTies_ok : TiesOk srcTies := by
  refine ⟨fun a b => ?_, fun a b => ?_, fun a b => ?_, fun a b => ?_⟩ <;>
    simp only [srcTies, custom_iTie, custom_dTie, custom_snTie, custom_sn0Tie, decide_eq_true_eq] <;> omega

/-! ### `Option` / `Res` plumbing, reads and writes of a list -/

/-- `Option.bind` under a head symbol of its own, so that `simp` does not unfold it into the matcher (`match_eq_obind` folds the
matcher of the mirror into it) -/
def obind {α β : Type} (o : Option α) (f : α → Option β) : Option β :=
  match o with
  | none => none
  | some a => f a

@[simp] theorem obind_none {α β : Type} (f : α → Option β) : obind none f = none := rfl
@[simp] theorem obind_some {α β : Type} (a : α) (f : α → Option β) : obind (some a) f = f a := rfl
theorem ofOpt_obind {α β : Type} (o : Option α) (f : α → Option β) :
    ofOpt (obind o f) = ofOpt o >>= fun a => ofOpt (f a) := by cases o <;> rfl

theorem bind_ok_step {α β : Type} {x : Res α} {v : α} {f : α → Res β} {r : Res β} (hx : x = .ok v) (h : f v = r) :
    x >>= f = r := by rw [hx]; exact h

/-- a phase of a translated body that computes `o` (panicking when it is `none`) and leaves the state `S e`: the rest of the
body has to be followed once, from `S e` -/
theorem bind_phase {α β ε : Type} {x : Res α} {F : α → Res β} {o : Option ε} {R : ε → Res β} (S : ε → α)
    (hx : x = ofOpt o >>= fun e => .ok (S e)) (hF : ∀ e, F (S e) = R e) : x >>= F = ofOpt o >>= R := by
  rw [hx]
  cases o with
  | none => rfl
  | some e => exact hF e

theorem obind_assoc {α β γ : Type} (o : Option α) (f : α → Option β) (g : β → Option γ) :
    obind (obind o f) g = obind o fun a => obind (f a) g := by cases o <;> rfl

theorem obind_eq_some {α β : Type} {o : Option α} {f : α → Option β} {b : β} (h : obind o f = some b) :
    ∃ a, o = some a ∧ f a = some b := by
  cases o with
  | none => cases h
  | some a => exact ⟨a, rfl, h⟩

/-- the `match … with | none => none | some a => f a` of `Model/PairwiseFillI32.lean` (all of them are instances of the one
matcher Lean generated for `edgeC`) is `obind` -/
theorem match_eq_obind {β : Type} (o : Option Int) (f : Int → Option β) :
    edgeC.match_1 (fun _ => Option β) o (fun _ => none) f = obind o f := by cases o <;> rfl

/-- `Rs.setIdx_ok` with explicit arguments (its uses are `fun v => setIdx_ok' l i v h`, where nothing else fixes them) -/
theorem setIdx_ok' {α : Type} (l : List α) (i : Nat) (v : α) (h : i < l.length) : Rs.setIdx l i v = .ok (l.set i v) :=
  Rs.setIdx_ok h

theorem ite_set {α : Type} (c : Prop) [Decidable c] (l : List α) (k : Nat) (v d : α) :
    (if c then l.set k v else l) = l.set k (if c then v else l.getD k d) := by
  by_cases h : c
  · simp [h]
  · rw [if_neg h, if_neg h, List.set_getD_self]

/-! ### shape of the aligner state inside `custom`, the rows a cell reads and the state it leaves -/

/-- the vectors have the lengths `custom` gives them for `|x| = m`, `|y| = n` -/
structure Dims (a : Aligner) (m n : Nat) : Prop where
  S2 : a.S.length = 2
  I2 : a.I.length = 2
  D2 : a.D.length = 2
  Srow : ∀ k, k < 2 → (a.S.getD k []).length = m + 1
  Irow : ∀ k, k < 2 → (a.I.getD k []).length = m + 1
  Drow : ∀ k, k < 2 → (a.D.getD k []).length = m + 1
  Sn : a.Sn.length = m + 1
  Ly : a.Ly.length = m + 1
  Lx : a.Lx.length = n + 1
  tb : Shaped a.traceback
  rows : a.traceback.rows = m + 1
  cols : a.traceback.cols = n + 1

/-- `sc`, `cl` of the models, read off the aligner's `scoring` (`matchFn` is the abstract `match_fn.score`) -/
def scOf (w : Nat → Nat → Int) (a : Aligner) : Sc := ⟨w, a.scoring.gap_open, a.scoring.gap_extend⟩
def clOf (a : Aligner) : Clip :=
  ⟨a.scoring.xclip_prefix, a.scoring.xclip_suffix, a.scoring.yclip_prefix, a.scoring.yclip_suffix⟩

/-- cell `(i, j)` of the traceback matrix -/
def cellAt (a : Aligner) (i j : Nat) : TracebackCell := a.traceback.matrix.getD (i * a.traceback.cols + j) default
/-- the S field of cell `(i, j)` holds the code of `t` -/
def SIs (a : Aligner) (i j : Nat) (t : Tb) : Prop := TbCell.getBits (cellAt a i j).v sPos = enc t


/-- row `i − 1` of the current column, as `stepJT` reads it from the state (`tsL` = the S move of cell `(i − 1, j)`) -/
def rowCur (a : Aligner) (m j curr i1 : Nat) (tsL : Tb) : Row :=
  ⟨(a.S.getD curr []).getD i1 0, (a.I.getD curr []).getD i1 0, 0, 0, (a.S.getD curr []).getD m 0,
    ⟨tsL, .start, .start, 0, a.Lx.getD j 0⟩⟩
/-- row `i − 1` of the previous column -/
def rowPrev1 (a : Aligner) (prev i1 : Nat) : Row := ⟨(a.S.getD prev []).getD i1 0, 0, 0, 0, 0, default⟩
/-- row `i` of the previous column (`tsU` = the S move of cell `(i, j − 1)`; `Sn[i]`, `Ly[i]` still from that column) -/
def rowPrev (a : Aligner) (prev i : Nat) (tsU : Tb) : Row :=
  ⟨(a.S.getD prev []).getD i 0, 0, (a.D.getD prev []).getD i 0, a.Sn.getD i 0, 0, ⟨tsU, .start, .start, a.Ly.getD i 0, 0⟩⟩

/-- the state after row `r'` has been written as cell `(i, j)` -/
def writeRow (a : Aligner) (m curr i j : Nat) (r' : Row) : Aligner :=
  { a with
    S := a.S.set curr (((a.S.getD curr []).set i r'.s).set m r'.xm)
    I := a.I.set curr ((a.I.getD curr []).set i r'.i)
    D := a.D.set curr ((a.D.getD curr []).set i r'.d)
    Sn := a.Sn.set i r'.sn
    Ly := a.Ly.set i r'.t.ly
    Lx := a.Lx.set j r'.t.lx
    traceback := { a.traceback with
      matrix := a.traceback.matrix.set (i * a.traceback.cols + j) (cellOf r'.t.ts r'.t.ti r'.t.td) } }

theorem ite_fst {α β : Type} (c : Prop) [Decidable c] (a a' : α) (b b' : β) :
    (if c then (a, b) else (a', b')).1 = if c then a else a' := by split <;> rfl
theorem ite_snd {α β : Type} (c : Prop) [Decidable c] (a a' : α) (b b' : β) :
    (if c then (a, b) else (a', b')).2 = if c then b else b' := by split <;> rfl

theorem ite_aligner (c : Prop) [Decidable c] (a b : Aligner) :
    (if c then a else b) = ⟨if c then a.I else b.I, if c then a.D else b.D, if c then a.S else b.S, if c then a.Lx else b.Lx,
      if c then a.Ly else b.Ly, if c then a.Sn else b.Sn, if c then a.traceback else b.traceback,
      if c then a.scoring else b.scoring⟩ := by split <;> rfl

theorem upd_fold (c b : Int) : (if c > b then c else b) = upd c b := rfl
theorem ite_set0 (c : Prop) [Decidable c] (l : List Int) (k : Nat) (v : Int) :
    (if c then l.set k v else l) = l.set k (if c then v else l.getD k 0) := ite_set c l k v 0
theorem ite_setN (c : Prop) [Decidable c] (l : List Nat) (k : Nat) (v : Nat) :
    (if c then l.set k v else l) = l.set k (if c then v else l.getD k 0) := ite_set c l k v 0
theorem ite_set2 {α : Type} (c : Prop) [Decidable c] (l : List α) (k : Nat) (v v' : α) :
    (if c then l.set k v else l.set k v') = l.set k (if c then v else v') := by split <;> rfl

/-! ### normal forms of a cell under construction -/

theorem set_set_same (v p a b : Nat) (ha : a < 16) (hp : p + 4 ≤ 16) :
    TbCell.setBits (TbCell.setBits v p a) p b = TbCell.setBits v p b := by
  unfold TbCell.setBits
  rw [TbCell.cellBits_eq]
  apply Nat.eq_of_testBit_eq
  intro i
  simp only [Nat.testBit_and, Nat.testBit_or, Nat.testBit_shiftLeft, Nat.testBit_xor, TbCell.testBit_mask,
    Nat.testBit_two_pow_sub_one]
  by_cases h1 : p ≤ i
  · by_cases h2 : i - p < 4
    · have h3 : i < 16 := by omega
      simp [h1, h2, h3]
    · simp [h1, h2, TbCell.testBit_high a (i - p) ha (by omega)]
  · simp [h1]

def cI (ti : Tb) : TracebackCell := ⟨TbCell.setBits 0 iPos (enc ti)⟩
def cD (ti td : Tb) : TracebackCell := ⟨TbCell.setBits (TbCell.setBits 0 iPos (enc ti)) dPos (enc td)⟩

theorem lt16 (t : Tb) : enc t < 16 := GenTbCodes.le_max_lt16 (enc_le_max t)
theorem sPos4 : sPos + 4 ≤ 16 := by decide

theorem setI_new (t : Tb) : setIBits ⟨0⟩ (enc t) = .ok (cI t) := setIBits_eq_model _ _ (enc_le_max t)
theorem setD_cI (ti t : Tb) : setDBits (cI ti) (enc t) = .ok (cD ti t) := setDBits_eq_model _ _ (enc_le_max t)
theorem setS_cD (ti td t : Tb) : setSBits (cD ti td) (enc t) = .ok (cellOf t ti td) := setSBits_eq_model _ _ (enc_le_max t)
theorem setS_cell (ts ti td t : Tb) : setSBits (cellOf ts ti td) (enc t) = .ok (cellOf t ti td) := by
  rw [setSBits_eq_model _ _ (enc_le_max t)]
  simp only [cellOf, set_set_same _ _ _ _ (lt16 ts) sPos4]
theorem ite_cI (c : Prop) [Decidable c] (t t' : Tb) : (if c then cI t else cI t') = cI (if c then t else t') := by
  split <;> rfl
theorem ite_cD (c : Prop) [Decidable c] (ti t t' : Tb) : (if c then cD ti t else cD ti t') = cD ti (if c then t else t') := by
  split <;> rfl
theorem ite_cell (c : Prop) [Decidable c] (ti td t t' : Tb) :
    (if c then cellOf t ti td else cellOf t' ti td) = cellOf (if c then t else t') ti td := by split <;> rfl
theorem enc_ite (c : Prop) [Decidable c] : (if c then tbMatch else tbSubst) = enc (if c then .mat else .subst) := by
  split <;> rfl

/-- the constants as the text names them -/
theorem k_ins : tbIns = enc .ins := rfl
theorem k_del : tbDel = enc .del := rfl
theorem k_xsuf : tbXclipSuffix = enc .xsuf := rfl
theorem k_xpre : tbXclipPrefix = enc .xpre := rfl
theorem k_ypre : tbYclipPrefix = enc .ypre := rfl

/-! ### the hard obligation: values and admissible codes, for any order of the candidates of `S(i, j)` -/

/-- (also `PairwiseFill.upd_eq_max` of `Lemmas/FillBasic.lean`, which the files about the translated text do not import) -/
theorem upd_eq_max (c b : Int) : upd c b = max c b := by unfold upd; split <;> omega
theorem max_lc (a b c : Int) : max a (max b c) = max b (max a c) := by
  rw [← Int.max_assoc, Int.max_comm a b, Int.max_assoc]
theorem set_set_reg (l : List Int) (i m : Nat) (X V : Int) :
    (l.set i (if i = m then X else V)).set m X = (l.set i V).set m X := by
  by_cases h : i = m
  · subst h; simp [List.set_set]
  · simp [h]

/-- how the text chooses the traceback code of the S layer: a function of the candidates' scores — the placeholder
`S[curr][i]`, `m_score`, the two operands of the I tie, the two operands of the D tie, `xclip_score`, `yclip_score` — and of the
two symbols -/
abbrev SCodeFn := Int → Int → Int → Int → Int → Int → Int → Int → Nat → Nat → Tb

/-- **the S code is admissible**: it names a candidate whose score is the value of the S layer (the maximum of the six
candidates) — "the code explains the value", what the soundness of the traceback needs -/
def SCodeOk (T : Ties) (f : SCodeFn) : Prop :=
  ∀ (b0 ms a b c d xc yc : Int) (p q : Nat),
    (f b0 ms a b c d xc yc p q,
        max b0 (max ms (max (if T.iT a b = true then a else b) (max (if T.dT c d = true then c else d) (max xc yc))))) ∈
      [(Tb.xsuf, b0), (if p = q then Tb.mat else Tb.subst, ms), (Tb.ins, if T.iT a b = true then a else b),
        (Tb.del, if T.dT c d = true then c else d), (Tb.xpre, xc), (Tb.ypre, yc)]

open RbV.I32 in
/-- the row of the checked-`i32` mirror with the tie-breaks `T` **and the S-code chooser `sCode`** as parameters; the value of
the S layer is the maximum of the six candidates (order-free) -/
def stepJS (T : Ties) (sCode : SCodeFn) (sc : Sc) (cl : Clip) (m n j i p q : Nat) (xclip_score b0 : Int) (pr1 pr r : Row) :
    Option Row :=
  obind (add pr1.s (sc.w p q)) fun m_score =>
  obind (add r.i sc.ge) fun i_score =>
  obind (add r.s sc.go) fun s0 =>
  obind (add s0 sc.ge) fun s_score =>
  let best_i_score := if T.iT i_score s_score = true then i_score else s_score
  let ti : Tb := if T.iT i_score s_score = true then .ins else r.t.ts
  obind (add pr.d sc.ge) fun d_score =>
  obind (add pr.s sc.go) fun s1 =>
  obind (add s1 sc.ge) fun s_score2 =>
  let best_d_score := if T.dT d_score s_score2 = true then d_score else s_score2
  let td : Tb := if T.dT d_score s_score2 = true then .del else pr.t.ts
  obind (add cl.yp sc.go) fun y0 =>
  obind (mul sc.ge (ofUsize i)) fun t =>
  obind (add y0 t) fun yclip_score =>
  let b5 := max b0 (max m_score (max best_i_score (max best_d_score (max xclip_score yclip_score))))
  let c5 : Tb := sCode b0 m_score i_score s_score d_score s_score2 xclip_score yclip_score p q
  obind (add b5 cl.xs) fun cx =>
  let xm1 := if i = m then b5 else r.xm
  let xm2 := max cx xm1
  let lx := if cx > xm1 then m - i else r.t.lx
  let s := if i = m then xm2 else b5
  obind (add s cl.ys) fun cy =>
  let ly := if T.snT cy pr.sn = true then n - j else pr.t.ly
  some ⟨s, best_i_score, best_d_score, if T.snT cy pr.sn = true then cy else pr.sn, xm2, ⟨c5, ti, td, ly, lx⟩⟩

/-- the S code of `stepJC`: the six candidates compared in the order of the pinned text -/
def sCodeJT (T : Ties) : SCodeFn := fun b0 ms a b c d xc yc p q =>
  let bi := if T.iT a b = true then a else b
  let bd := if T.dT c d = true then c else d
  let b1 := upd ms b0
  let c1 : Tb := if ms > b0 then (if p = q then .mat else .subst) else .xsuf
  let b2 := upd bi b1
  let c2 : Tb := if bi > b1 then .ins else c1
  let b3 := upd bd b2
  let c3 : Tb := if bd > b2 then .del else c2
  let b4 := upd xc b3
  let c4 : Tb := if xc > b3 then .xpre else c3
  if yc > b4 then .ypre else c4

/-- `stepJC` (body of `for i in 1..m + 1`, `Model/PairwiseFillI32.lean`) with the tie-breaks as parameters and the cells it
reads named: `pr1` = row `i − 1`, `pr` = row `i` of the previous column, `r` = row `i − 1` of the current one; the placeholder
`S[curr][i]` is what the reset loop left -/
def stepJT (T : Ties) (sc : Sc) (cl : Clip) (m n j i p q : Nat) (xclip_score : Int) (pr1 pr r : Row) : Option Row :=
  stepJS T (sCodeJT T) sc cl m n j i p q xclip_score (if i = m then r.xm else minScore) pr1 pr r

/-- with the pinned tie-breaks `stepJT` is `stepJC` -/
theorem stepJT_pinned (sc : Sc) (cl : Clip) (x y : List Nat) (j i : Nat) (xclip_score : Int) (prev : List Row) (r : Row) :
    stepJT pinned sc cl x.length y.length j i (x.getD (i - 1) 0) (y.getD (j - 1) 0) xclip_score
      (prev.getD (i - 1) default) (prev.getD i default) r = stepJC sc cl x y j prev xclip_score i r := by
  simp only [stepJT, stepJS, sCodeJT, stepJC, openC, pinned, decide_eq_true_eq, match_eq_obind, obind_assoc, upd_fold, upd_eq_max,
    Int.max_assoc, Int.max_comm, max_lc]

/-- **generic step of "the best of a list of (code, score) candidates, compared in any order"**: if `(C, V)` is a candidate and
`(code, v)` is a candidate, then so is the pair the text keeps after `if v > V { best = v; code }` (value `max v V`) -/
theorem pick_gt (cands : List (Tb × Int)) (C code : Tb) (V v W : Int) (hW : W = max v V) (hprev : (C, V) ∈ cands)
    (hnew : (code, v) ∈ cands) : ((if v > V then code else C), W) ∈ cands := by
  subst hW
  by_cases h : v > V
  · rw [if_pos h, show max v V = v by omega]; exact hnew
  · rw [if_neg h, show max v V = V by omega]; exact hprev
/-- … and after `if v >= V { … }` -/
theorem pick_ge (cands : List (Tb × Int)) (C code : Tb) (V v W : Int) (hW : W = max v V) (hprev : (C, V) ∈ cands)
    (hnew : (code, v) ∈ cands) : ((if v ≥ V then code else C), W) ∈ cands := by
  subst hW
  by_cases h : v ≥ V
  · rw [if_pos h, show max v V = v by omega]; exact hnew
  · rw [if_neg h, show max v V = V by omega]; exact hprev

/-- the cell equation for a given code chooser -/
def CellEq (w : Nat → Nat → Int) (T : Ties) (sCode : SCodeFn) : Prop :=
      ∀ (a : Aligner) (x : List Nat) (m n i j curr prev q p : Nat) (xclip B0 : Int) (tsL tsU : Tb) (hd : Dims a m n)
        (hx : x.length = m) (hpx : x.getD (i - 1) 0 = p) (hi : 1 ≤ i) (him : i ≤ m) (hj : 1 ≤ j) (hjn : j ≤ n) (hc : curr < 2) (hp : prev < 2)
        (hcp : curr ≠ prev) (hB0 : (a.S.getD curr []).getD i 0 = B0)
        (hL : SIs a (i - 1) j tsL) (hU : SIs a i (j - 1) tsU),
        custom_for5 w T.iT T.dT T.snT T.sn0T x m n j curr prev q xclip a i =
          ofOpt (stepJS T sCode (scOf w a) (clOf a) m n j i p q xclip B0 (rowPrev1 a prev (i - 1))
              (rowPrev a prev i tsU) (rowCur a m j curr (i - 1) tsL)) >>= fun r' =>
            Res.ok (writeRow a m curr i j r')

/-- row `c` of one of the two-row vectors `S`, `I`, `D` (shape as in `Dims`), read and written at entry `k` -/
theorem row_rw {L : List (List Int)} {m c k : Nat} (h2 : L.length = 2) (hrow : ∀ k, k < 2 → (L.getD k []).length = m + 1)
    (hc : c < 2) (hk : k ≤ m) :
    Rs.idx L c = .ok (L.getD c []) ∧ Rs.idx (L.getD c []) k = .ok ((L.getD c []).getD k 0) ∧
    (∀ v, Rs.setIdx (L.getD c []) k v = .ok ((L.getD c []).set k v)) ∧ (∀ l, Rs.setIdx L c l = .ok (L.set c l)) :=
  have hc' : c < L.length := h2 ▸ hc
  have hk' : k < (L.getD c []).length := hrow c hc ▸ Nat.lt_succ_of_le hk
  ⟨GenSrc.idx_getD _ _ _ hc', GenSrc.idx_getD _ _ _ hk', fun _ => setIdx_ok' _ _ _ hk', fun _ => setIdx_ok' _ _ _ hc'⟩

theorem getD_set_at (l : List Int) (i m : Nat) (v : Int) (hi : i < l.length) :
    (l.set i v).getD m 0 = if i = m then v else l.getD m 0 := List.getD_set_of_lt m v 0 hi

theorem idx_set_at (l : List Int) (i m : Nat) (v : Int) (hi : i < l.length) (hm : m < l.length) :
    Rs.idx (l.set i v) m = .ok (if i = m then v else l.getD m 0) := by
  rw [← getD_set_at l i m v hi]; exact GenSrc.idx_getD _ _ _ (by rw [List.length_set]; exact hm)

theorem idx_set_set_at (l : List Int) (i m : Nat) (v u : Int) (hi : i < l.length) (hm : m < l.length) :
    Rs.idx ((l.set i v).set m u) i = .ok (if i = m then u else v) := by
  have hm' : m < (l.set i v).length := by rw [List.length_set]; exact hm
  rw [GenSrc.idx_getD _ _ 0 (by rw [List.length_set, List.length_set]; exact hi), List.getD_set, List.getD_set]
  by_cases h : i = m
  · subst h; simp only [hm', and_self, if_true]
  · have h' : ¬ m = i := fun e => h e.symm
    simp only [h, h', hi, false_and, and_self, if_false, if_true]

theorem tbGet_cell {a : Aligner} {m n : Nat} (hd : Dims a m n) {i j : Nat} (hi : i < m + 1) (hj : j < n + 1) :
    tbGet a.traceback i j = .ok (cellAt a i j) := by
  have hi' : i < a.traceback.rows := by rw [hd.rows]; exact hi
  have hj' : j < a.traceback.cols := by rw [hd.cols]; exact hj
  rw [tbGet_eq_model _ _ _ hd.tb hi' hj']
  exact GenSrc.idx_getD _ _ _ (shaped_idx hd.tb hi' hj').1

theorem tbSet_cell {a : Aligner} {m n : Nat} (hd : Dims a m n) {i j : Nat} (hi : i < m + 1) (hj : j < n + 1)
    (c : TracebackCell) : tbSet a.traceback i j c =
      .ok { a.traceback with matrix := a.traceback.matrix.set (i * a.traceback.cols + j) c } :=
  tbSet_eq_model _ _ _ _ hd.tb (by rw [hd.rows]; exact hi) (by rw [hd.cols]; exact hj)

/-- `ofOpt o >>= f` under a head symbol of its own: with `GenSrc.bind_congr_arg` as the congruence of `>>=`, `simp` follows a
translated body statement by statement and enters a continuation only behind an operation that stays open (a checked `i32`
operation), where it is folded into `obindR` -/
def obindR {α β : Type} (o : Option α) (f : α → Res β) : Res β := ofOpt o >>= f
theorem ofOpt_bind {α β : Type} (o : Option α) (f : α → Res β) : ofOpt o >>= f = obindR o f := rfl
theorem obindR_some {α β : Type} (a : α) (f : α → Res β) : obindR (some a) f = f a := rfl
theorem obindR_bind {α β γ : Type} (o : Option α) (f : α → Res β) (g : β → Res γ) :
    obindR o f >>= g = obindR o fun a => f a >>= g := by cases o <;> rfl
theorem obindR_congr {α β : Type} (o : Option α) {f g : α → Res β} (h : ∀ a, f a = g a) : obindR o f = obindR o g := by
  rw [funext h]

section
attribute [local congr] GenSrc.bind_congr_arg

/-- **One cell of the main loop (translated text)**: the chooser of the S code that the text implements (read off the text
by unification, whatever the order in which it compares the six candidates of `S(i, j)`), with the cell equation it
satisfies: on every aligner state of the right shape the body panics exactly when the checked-`i32` row is `none`, and
otherwise writes exactly the row `stepJS T sCode …`. -/
def srcCell (w : Nat → Nat → Int) (T : Ties) : { sCode : SCodeFn // CellEq w T sCode } := by
  refine ⟨?f, ?eq⟩
  case eq =>
  unfold CellEq
  intro a x m n i j curr prev q p xclip B0 tsL tsU hd hx hpx hi him hj hjn hc hp hcp hB0 hL hU
  have hi1 : i - 1 < m + 1 := by omega
  have hi' : i < m + 1 := by omega
  have hj1 : j - 1 < n + 1 := by omega
  have hj' : j < n + 1 := by omega
  have hx1 : i - 1 < x.length := by omega
  have hi1m : i - 1 ≤ m := Nat.le_trans (Nat.sub_le i 1) him
  have cS : curr < a.S.length := by rw [hd.S2]; exact hc
  have lSc := hd.Srow _ hc
  have iSc : i < (a.S.getD curr []).length := by rw [lSc]; exact hi'
  have mSc : m < (a.S.getD curr []).length := by rw [lSc]; exact Nat.lt_succ_self m
  obtain ⟨eSc, e8, f1, f2⟩ := row_rw hd.S2 hd.Srow hc him
  rw [hB0] at e8
  obtain ⟨eIc, _, f3, f4⟩ := row_rw hd.I2 hd.Irow hc him
  obtain ⟨eDc, _, f5, f6⟩ := row_rw hd.D2 hd.Drow hc him
  obtain ⟨eSp, e7, _, _⟩ := row_rw hd.S2 hd.Srow hp him
  obtain ⟨eDp, e6, _, _⟩ := row_rw hd.D2 hd.Drow hp him
  have e3 := (row_rw hd.S2 hd.Srow hp hi1m).2.1
  have e4 := (row_rw hd.I2 hd.Irow hc hi1m).2.1
  have e5 := (row_rw hd.S2 hd.Srow hc hi1m).2.1
  have eL := tbGet_cell hd hi1 hj'
  have eU := tbGet_cell hd hi' hj1
  have eW := tbSet_cell hd hi' hj'
  have e1 : Rs.sub i 1 = .ok (i - 1) := Rs.sub_ok hi
  have e1j : Rs.sub j 1 = .ok (j - 1) := Rs.sub_ok hj
  have e2 : Rs.idx x (i - 1) = .ok p := by rw [← hpx]; exact GenSrc.idx_getD _ _ _ hx1
  have f7 := fun l : List Int => GenSrc.idx_set_self a.S curr l cS
  have f8 := fun v : Int => GenSrc.idx_set_self (a.S.getD curr []) i v iSc
  have f9 := fun v => idx_set_at (a.S.getD curr []) i m v iSc mSc
  have f10 := fun v u : Int => setIdx_ok' ((a.S.getD curr []).set i v) m u (by rw [List.length_set]; exact mSc)
  have f11 := fun l l' : List Int => GenSrc.setIdx_set a.S curr l l' cS
  have f12 : Rs.sub m i = .ok (m - i) := Rs.sub_ok him
  have f13 : Rs.sub n j = .ok (n - j) := Rs.sub_ok hjn
  have f14 := fun v => setIdx_ok' a.Lx j v (by rw [hd.Lx]; exact hj')
  have f15 := fun v => setIdx_ok' a.Sn i v (by rw [hd.Sn]; exact hi')
  have f16 := fun v => setIdx_ok' a.Ly i v (by rw [hd.Ly]; exact hi')
  have f17 := GenSrc.idx_getD a.Sn i 0 (by rw [hd.Sn]; exact hi')
  have f18 := fun v u => idx_set_set_at (a.S.getD curr []) i m v u iSc mSc
  have f19 := fun v => getD_set_at (a.S.getD curr []) i m v iSc
  have hcomm : ∀ s, I32.add (w p q) s = I32.add s (w p q) := fun s => by
    unfold I32.add; rw [Int.add_comm]
  unfold SIs at hL hU
  simp only [rowPrev1, rowPrev, rowCur, scOf, clOf]
  unfold custom_for5
  simp only [writeRow, stepJS, ofOpt_obind, hcomm, e1, e1j, e2, e3, e4, e5, e6, e7, e8, eSc, eSp, eIc, eDc, eDp, eL, eU,
    cellNew_eq_model, Res.pure_eq_ok, Res.ok_bind, bind_pure_comp, iadd32, imul32, castSigned32, getSBits_eq_model, hL, hU, k_ins, k_del, k_xsuf, k_xpre, k_ypre, enc_ite,
    setI_new, setD_cI, setS_cD, setS_cell, GenSrc.ite_ok, ite_fst, ite_snd, ite_cI, ite_cD, ite_cell, minScore_eq, upd_fold,
    f1, f2, f3, f4, f5, f6, f7, f8, f9, f10, f11, f12, f13, f14, f15, f16, f17, f18, f19, eW, bind_assoc,
    ite_aligner, ite_self, ite_set0, ite_setN, ite_set2, ofOpt_bind, obindR_bind, GenSrc.map_ok]
  iterate 10 (refine obindR_congr _ (fun _ => ?_))
  simp only [upd_eq_max, Int.max_assoc, Int.max_comm, max_lc]
  generalize I32.add _ a.scoring.xclip_suffix = o11
  cases o11 with
  | none => rfl
  | some cx =>
  simp only [obindR_some, ofOpt_bind, GenSrc.map_ok, Res.ok_bind, GenSrc.ite_ok, f7, f18, f19, ite_aligner,
    ite_self, ite_set0, ite_setN, ite_set2, upd_fold, f15, f16, f17, eW, upd_eq_max, Int.max_assoc, Int.max_comm, max_lc]
  generalize I32.add _ a.scoring.yclip_suffix = o12
  cases o12 with
  | none => rfl
  | some cy =>
  simp only [obindR_some, ofOpt_bind, GenSrc.map_ok, Res.ok_bind, GenSrc.ite_ok, ite_aligner,
    ite_self, ite_set0, ite_setN, ite_set2, upd_fold, f15, f16, eW, Res.ok.injEq, f19, upd_eq_max, Int.max_assoc, Int.max_comm,
    max_lc]
  simp only [set_set_reg, upd_eq_max, Int.max_assoc, Int.max_comm, max_lc]
  rfl

end

theorem srcCell_ok (w : Nat → Nat → Int) (T : Ties) : SCodeOk T (srcCell w T).1 := by
  intro b0 ms a b c d xc yc p q
  unfold srcCell
  dsimp only
  generalize (if T.iT a b = true then a else b) = bi
  generalize (if T.dT c d = true then c else d) = bd
  repeat (first
    | refine pick_gt _ _ _ _ _ _ (by simp only [Int.max_assoc, Int.max_comm, max_lc]) ?_ (by simp)
    | refine pick_ge _ _ _ _ _ _ (by simp only [Int.max_assoc, Int.max_comm, max_lc]) ?_ (by simp))
  simp

/-- **One cell of the main loop (translated text), for any order in which the text compares the six candidates of `S(i, j)`
and any mix of `>` / `>=` at the I / D / Sn ties**: there is a code chooser `sCode` that is admissible (`SCodeOk`) such that on
every aligner state of the right shape the body panics exactly when the checked-`i32` row is `none`, and otherwise writes
exactly the row `stepJS T sCode …`: the **values** `S/I/D[curr][i]`, the register `S[curr][m]`, `Sn[i]`, `Ly[i]`, `Lx[j]` are the
mirror's (the S value is the maximum of the candidates), the I and D codes are the tie-break's, the S code is `sCode`'s. -/
theorem cell_update_any_order (w : Nat → Nat → Int) (T : Ties) :
    ∃ sCode : SCodeFn, SCodeOk T sCode ∧ CellEq w T sCode :=
  ⟨(srcCell w T).1, srcCell_ok w T, (srcCell w T).2⟩

/-- what `writeRow` leaves behind, read back: the written cell holds the three codes of the row -/
theorem cellOf_reads (ts ti td : Tb) :
    TbCell.getBits (cellOf ts ti td).v sPos = enc ts ∧ TbCell.getBits (cellOf ts ti td).v iPos = enc ti ∧
      TbCell.getBits (cellOf ts ti td).v dPos = enc td := by
  have hi : iPos ∈ positions := by decide
  have hd : dPos ∈ positions := by decide
  have hs : sPos ∈ positions := by decide
  unfold cellOf
  refine ⟨GenTbCodes.tb_get_after_set _ _ _ (enc_le_max ts) hs, ?_, ?_⟩
  · rw [GenTbCodes.tb_set_preserves_other_fields _ _ _ _ (enc_le_max ts) hs hi (by decide),
      GenTbCodes.tb_set_preserves_other_fields _ _ _ _ (enc_le_max td) hd hi (by decide),
      GenTbCodes.tb_get_after_set _ _ _ (enc_le_max ti) hi]
  · rw [GenTbCodes.tb_set_preserves_other_fields _ _ _ _ (enc_le_max ts) hs hd (by decide),
      GenTbCodes.tb_get_after_set _ _ _ (enc_le_max td) hd]

end RbV.Thm.GenSrcPwCustom
