import RbV.Gen.SrcHmmBackward
import RbV.Lemmas.HmmSrc
/-!
# The translated text of `hmm::backward` equals the mirror model `Hmm.backward` (at exact weights)

`RbV/Gen/SrcHmmBackward.lean` is regenerated from `src/stats/hmm/mod.rs` on every `./check C14`.  Instantiated at exact
numerators (`Rs.natOps`) and a specification-level model (`Rs.hmmOps m`) the translated function returns — without panic —
the table of backward rows (`brow`: row `i` = the backward column for the last `i` observations) and the likelihood of the
mirror model, for every model and every non-empty observation sequence (shorter than 2^64, as every slice is: the loop
computes `i + 1` in `usize`).  The three branches of the loop (`i == 0` with the `len > 1` test inside, `i == len - 1`, else)
are followed under one invariant on the table and on `prob_vec_final`.
-/
set_option linter.unusedSimpArgs false

namespace RbV.Thm.GenSrcHmmBackward
open RbV RbV.Rs RbV.Hmm RbV.Thm.GenSrc RbV.Gen.SrcHmmBackward

/-- row `i` of the backward table: the backward column for the last `i` observations -/
def brow (m : Hmm) (obs : List Nat) (i : Nat) : List Nat := bcol m (obs.drop (obs.length - i))

theorem bcol_length (m : Hmm) (os : List Nat) : (bcol m os).length = m.S := by
  cases os <;> simp [bcol, stepB, tab]

theorem brow_length (m : Hmm) (obs : List Nat) (i : Nat) : (brow m obs i).length = m.S := bcol_length _ _

theorem brow_zero (m : Hmm) (obs : List Nat) : brow m obs 0 = tab m.S m.fin := by
  simp [brow, bcol]

theorem brow_succ (m : Hmm) (obs : List Nat) {i b : Nat} (hi : i < obs.length) (hb : obs[obs.length - 1 - i]? = some b) :
    brow m obs (i + 1) = stepB m (brow m obs i) b := by
  have h1 : obs.length - (i + 1) < obs.length := by omega
  rw [show obs.length - 1 - i = obs.length - (i + 1) by omega, List.getElem?_eq_getElem h1] at hb
  unfold brow
  rw [List.drop_eq_getElem_cons h1, Option.some.inj hb, show obs.length - (i + 1) + 1 = obs.length - i by omega]
  rfl

/-- the summands of the final sum -/
def pvFinal (m : Hmm) (obs : List Nat) : List Nat :=
  (List.range m.S).map fun k => ix (brow m obs (obs.length - 1)) k * m.init k * m.emit k (obs.getD 0 0)

theorem pvFinal_sum (m : Hmm) (obs : List Nat) (h : obs ≠ []) : (pvFinal m obs).sum = Hmm.backward m obs := by
  cases obs with
  | nil => exact absurd rfl h
  | cons o os => simp [pvFinal, Hmm.backward, finalB, sumS, brow]

/-- the table: `f` rows written -/
abbrev VInv (m : Hmm) (obs : List Nat) : Nat → List (List Nat) → Prop := RowsDone obs.length m.S (brow m obs)

theorem VInv.set {m : Hmm} {obs : List Nat} {f : Nat} {vals : List (List Nat)} (h : VInv m obs f vals) (hf : f < obs.length)
    {r : List Nat} (hr : r = brow m obs f) : VInv m obs (f + 1) (vals.set f r) :=
  RowsDone.set h hf hr (brow_length m obs f)

/-- number of rows written after `j` iterations (as far as there are that many) -/
def filled (j : Nat) : Nat := if j = 0 then 0 else j + 1

theorem filled_succ (j : Nat) : filled (j + 1) = j + 2 := by simp [filled]

/-- invariant of the loop over the reversed observations, `j` iterations done: the rows written so far are the backward
rows, `prob_vec_final` is still empty at the start and holds the summands of the final sum at the end -/
def Inv (m : Hmm) (obs : List Nat) (j : Nat) (s : List (List Nat) × List Nat) : Prop :=
  VInv m obs (filled j) s.1 ∧ (j = 0 → s.2 = []) ∧ (j = obs.length → s.2 = pvFinal m obs)

/-- `for j in hmm.states() { vals[[0, *j]] = hmm.end_prob(j) }` -/
theorem for2_eq (z : Nat) (m : Hmm) (vals : List (List Nat)) (r0 : List Nat) (h0 : vals[0]? = some r0) (hl : r0.length = m.S) :
    List.foldlM (backward_for2 (natOps z) (hmmOps m)) vals (List.range m.S) = Res.ok (vals.set 0 (tab m.S m.fin)) :=
  fill_row_eq _ m.fin 0 m.S vals r0 h0 hl fun j s _ _ => by simp [backward_for2]

/-- the summands of one cell of row `i + 1`, read from row `i` -/
theorem map_cell (z : Nat) (m : Hmm) (n i b j : Nat) (hin : i ≤ n) (s : List (List Nat)) (cur : List Nat)
    (hc : ∀ k, k < m.S → Rs.get2 s i k = Res.ok (ix cur k))
    (f : List (List Nat) → Nat → Nat → Nat → Nat → Nat → Res Nat)
    (hf : ∀ k, f s n i b j k = (do
      let t1 ← Rs.get2 s i k
      let t2 ← Rs.sub n i
      pure ((natOps z).mul ((natOps z).mul t1 ((hmmOps m).trans j k t2)) ((hmmOps m).emit k b)))) :
    List.mapM (f s n i b j) (List.range m.S)
      = Res.ok ((List.range m.S).map fun k => ix cur k * m.trans j k * m.emit k b) := by
  apply mapM_range_ok
  intro k hk
  have e : Rs.sub n i = Res.ok (n - i) := sub_ok hin
  simp [hf, hc k hk, e]

/-- the final sum's summands, read from row `i` -/
theorem map_final (z : Nat) (m : Hmm) (i b : Nat) (s : List (List Nat)) (cur : List Nat)
    (hc : ∀ k, k < m.S → Rs.get2 s i k = Res.ok (ix cur k)) (f : List (List Nat) → Nat → Nat → Nat → Res Nat)
    (hf : ∀ k, f s i b k = (do
      let t1 ← Rs.get2 s i k
      pure ((natOps z).mul ((natOps z).mul t1 ((hmmOps m).init k)) ((hmmOps m).emit k b)))) :
    List.mapM (f s i b) (List.range m.S) = Res.ok ((List.range m.S).map fun k => ix cur k * m.init k * m.emit k b) := by
  apply mapM_range_ok
  intro k hk
  simp [hf, hc k hk]

/-- an ordinary iteration (`1 ≤ i < len - 1`): row `i + 1` from row `i` -/
theorem for4_eq (z : Nat) (m : Hmm) (n : Nat) (h64 : n < 2 ^ 64) (i b : Nat) (hin : i < n) (vals : List (List Nat))
    (cur r0 : List Nat) (hp : vals[i]? = some cur) (hpl : cur.length = m.S) (h0 : vals[i + 1]? = some r0)
    (hl : r0.length = m.S) :
    List.foldlM (backward_for4 (natOps z) (hmmOps m) n i b) vals (List.range m.S)
      = Res.ok (vals.set (i + 1) (stepB m cur b)) :=
  fill_row_eq _ (fun j => sumS m.S fun k => ix cur k * m.trans j k * m.emit k b) (i + 1) m.S vals r0 h0 hl fun j s _ hf => by
    have hc : ∀ k, k < m.S → Rs.get2 s i k = Res.ok (ix cur k) := fun k hk => by
      rw [hf.get_other (Nat.ne_of_lt (Nat.lt_succ_self i))]; exact get2_ix hp hpl hk
    have hmap := map_cell z m n i b j (Nat.le_of_lt hin) s cur hc (backward_map4 (natOps z) (hmmOps m)) (fun k => by simp [backward_map4])
    have e1 : Rs.add 64 i 1 = Res.ok (i + 1) := add_ok (by omega)
    simp [backward_for4, hmap, e1, sumS]

/-- the first iteration with more than one observation: row 1 from row 0, `prob_vec_final` untouched -/
theorem for3_eq_many (z : Nat) (m : Hmm) (obs : List Nat) (n b : Nat) (hn : 1 < obs.length) (vals : List (List Nat)) (pvf : List Nat)
    (cur r0 : List Nat) (hp : vals[0]? = some cur) (hpl : cur.length = m.S) (h0 : vals[1]? = some r0) (hl : r0.length = m.S) :
    List.foldlM (backward_for3 (natOps z) (hmmOps m) obs n 0 b) (vals, pvf) (List.range m.S)
      = Res.ok (vals.set 1 (stepB m cur b), pvf) := by
  obtain ⟨s', h1, h2, h3⟩ := fill_row (fun s => s.1) (backward_for3 (natOps z) (hmmOps m) obs n 0 b)
    (fun j => sumS m.S fun k => ix cur k * m.trans j k * m.emit k b) 1 m.S (fun _ s => s.2 = pvf) (vals, pvf) r0 h0 hl rfl (by
      intro j s hj hf hq
      obtain ⟨v, p⟩ := s
      simp only at hf hq
      subst hq
      obtain ⟨a', ha', hf'⟩ := hf.step hj
      have ha' : Rs.set2 v 1 j (sumS m.S fun k => ix cur k * m.trans j k * m.emit k b) = Res.ok a' := ha'
      have hne : 0 ≠ 1 := by omega
      have hc : ∀ k, k < m.S → Rs.get2 v 0 k = Res.ok (ix cur k) := by
        intro k hk; rw [hf.get_other hne]; exact get2_ix hp hpl hk
      have hmap := map_cell z m n 0 b j (Nat.zero_le _) v cur hc (backward_map1 (natOps z) (hmmOps m))
        (fun k => by simp [backward_map1])
      have e1 : Rs.add 64 0 1 = Res.ok 1 := by decide
      have hs : ((List.range m.S).map fun k => ix cur k * m.trans j k * m.emit k b).sum
          = sumS m.S fun k => ix cur k * m.trans j k * m.emit k b := rfl
      have hd : decide (obs.length > 1) = true := by simp [hn]
      exact ⟨(a', p), by simp [backward_for3, hmap, e1, hs, ha', hd, hn], hf', rfl⟩)
  obtain ⟨v', p'⟩ := s'
  simp only at h2 h3
  rw [h1, h2, h3]; rfl

/-- the first iteration with a single observation: the table is left alone, `prob_vec_final` is computed from row 0 -/
theorem for3_eq_one (z : Nat) (m : Hmm) (obs : List Nat) (n b : Nat) (hn : ¬ 1 < obs.length) (vals : List (List Nat))
    (cur : List Nat) (hp : vals[0]? = some cur) (hpl : cur.length = m.S) :
    List.foldlM (backward_for3 (natOps z) (hmmOps m) obs n 0 b) (vals, []) (List.range m.S)
      = Res.ok (vals, (List.range m.S).map fun k => ix cur k * m.init k * m.emit k b) := by
  have hc : ∀ k, k < m.S → Rs.get2 vals 0 k = Res.ok (ix cur k) := fun k hk => get2_ix hp hpl hk
  obtain ⟨s', h1, h2⟩ := foldlM_range_inv (backward_for3 (natOps z) (hmmOps m) obs n 0 b)
    (fun j s => s.1 = vals ∧ (j = 0 ∧ s.2 = [] ∨ s.2 = (List.range m.S).map fun k => ix cur k * m.init k * m.emit k b))
    m.S (vals, []) ⟨rfl, Or.inl ⟨rfl, rfl⟩⟩ (by
      intro j s hj ⟨hv, _⟩
      obtain ⟨v, p⟩ := s
      simp only at hv
      subst hv
      have hmap := map_cell z m n 0 b j (Nat.zero_le _) v cur hc (backward_map1 (natOps z) (hmmOps m))
        (fun k => by simp [backward_map1])
      have hfin := map_final z m 0 b v cur hc (backward_map2 (natOps z) (hmmOps m)) (fun k => by simp [backward_map2])
      have hd : decide (obs.length > 1) = false := by simp [hn]
      exact ⟨(v, _), by simp [backward_for3, hmap, hfin, hd, hn], rfl, Or.inr rfl⟩)
  obtain ⟨v', p'⟩ := s'
  simp only at h2
  obtain ⟨hv, hp'⟩ := h2
  subst hv
  rw [h1]
  rcases hp' with ⟨hS, hp'⟩ | hp'
  · rw [hp', hS]; rfl
  · rw [hp']

theorem for1_first {P O : Type} (L : LogOps P) (H : HmmOps P O) (obs : List O) (n : Nat) (b : O) {v v1 : List (List P)}
    {p : List P} {s' : List (List P) × List P} (h2 : List.foldlM (backward_for2 L H) v (List.range H.numStates) = Res.ok v1)
    (h3 : List.foldlM (backward_for3 L H obs n 0 b) (v1, p) (List.range H.numStates) = Res.ok s') :
    backward_for1 L H obs n (v, p) (0, b) = Res.ok s' := by
  simp [backward_for1, h2, h3]

theorem for1_last {P O : Type} (L : LogOps P) (H : HmmOps P O) (obs : List O) (n j : Nat) (b : O) {v : List (List P)}
    {p p' : List P} (hj0 : j ≠ 0) (hlast : j = obs.length - 1)
    (h3 : List.mapM (backward_map3 L H v j b) (List.range H.numStates) = Res.ok p') :
    backward_for1 L H obs n (v, p) (j, b) = Res.ok (v, p') := by
  have e1 : Rs.sub obs.length 1 = Res.ok (obs.length - 1) := sub_ok (by omega)
  simp [backward_for1, hj0, e1, ← hlast, h3]

theorem for1_mid {P O : Type} (L : LogOps P) (H : HmmOps P O) (obs : List O) (n j : Nat) (b : O) {v v' : List (List P)}
    {p : List P} (hn : 0 < obs.length) (hj0 : j ≠ 0) (hlast : j ≠ obs.length - 1)
    (h4 : List.foldlM (backward_for4 L H n j b) v (List.range H.numStates) = Res.ok v') :
    backward_for1 L H obs n (v, p) (j, b) = Res.ok (v', p) := by
  simp [backward_for1, hj0, sub_ok hn, hlast, h4]

theorem for1_eq (z : Nat) (m : Hmm) (obs : List Nat) (h64 : obs.length < 2 ^ 64) (s0 : List (List Nat) × List Nat)
    (h : Inv m obs 0 s0) :
    ∃ s', List.foldlM (backward_for1 (natOps z) (hmmOps m) obs obs.length) s0 (Rs.enumerate obs.reverse) = Res.ok s' ∧
      Inv m obs obs.length s' := by
  have := foldlM_enumerate_inv (backward_for1 (natOps z) (hmmOps m) obs obs.length) (Inv m obs) obs.reverse s0 h (by
    intro j b s hb hinv
    -- `2 ^ 64` is kept out of the context of the `omega` calls below
    have hfor4 := for4_eq z m obs.length h64
    clear h64
    have hjn : j < obs.length := List.length_reverse ▸ lt_of_getElem?_eq_some hb
    rw [List.getElem?_reverse hjn] at hb
    obtain ⟨v, p⟩ := s
    obtain ⟨hV, hp0, _⟩ := hinv
    obtain ⟨⟨hv1, hv2⟩, hv3⟩ := hV
    simp only at hv1 hv2 hv3 hp0
    unfold Inv
    rw [filled_succ]
    by_cases hj0 : j = 0
    · subst hj0
      have hp0 := hp0 rfl
      subst hp0
      obtain ⟨r0, hr0, hl0⟩ := hv2 0 hjn
      have hf2 := for2_eq z m v r0 hr0 hl0
      have hV0 : VInv m obs 1 (v.set 0 (tab m.S m.fin)) :=
        VInv.set (f := 0) ⟨⟨hv1, hv2⟩, fun t ht _ => absurd ht (by omega)⟩ hjn (brow_zero m obs).symm
      have hrow0 : (v.set 0 (tab m.S m.fin))[0]? = some (tab m.S m.fin) := by simp [hv1, hjn]
      by_cases hn1 : 1 < obs.length
      · obtain ⟨r1, hr1, hl1⟩ := hV0.1.2 1 hn1
        have hf3 := for3_eq_many z m obs obs.length b hn1 _ [] _ r1 hrow0 (tab_length _ _) hr1 hl1
        refine ⟨_, for1_first _ _ obs _ b hf2 hf3, ?_, fun h => absurd h (by omega), fun h => absurd h (by omega)⟩
        refine VInv.set hV0 hn1 ?_
        rw [brow_succ m obs hjn hb, brow_zero]
      · have hf3 := for3_eq_one z m obs obs.length b hn1 _ _ hrow0 (tab_length _ _)
        have hn : obs.length = 1 := by omega
        refine ⟨_, for1_first _ _ obs _ b hf2 hf3, ?_, fun h => absurd h (by omega), fun _ => ?_⟩
        · exact hV0.of_ge (by omega) _
        · have hb1 : obs.getD 0 0 = b := by simpa [List.getD, hn] using congrArg (·.getD 0) hb
          simp only [pvFinal, hn, Nat.sub_self, brow_zero, hb1]
    · rw [filled, if_neg hj0] at hv3
      have hcur := hv3 j (by omega) hjn
      have hc : ∀ k, k < m.S → Rs.get2 v j k = Res.ok (ix (brow m obs j) k) := fun k hk => get2_ix hcur (brow_length m obs j) hk
      by_cases hlast : j = obs.length - 1
      · have hfin := map_final z m j b v _ hc (backward_map3 (natOps z) (hmmOps m)) (fun k => by simp [backward_map3])
        refine ⟨_, for1_last _ _ obs _ j b hj0 hlast hfin, ?_, fun h => absurd h (by omega), fun _ => ?_⟩
        · exact RowsDone.of_ge ⟨⟨hv1, hv2⟩, hv3⟩ (by omega) _
        · have hb0 : obs.getD 0 0 = b := by
            rw [show obs.length - 1 - j = 0 by omega] at hb
            simp [List.getD, hb]
          simp only [pvFinal, ← hlast, hb0]
      · obtain ⟨r1, hr1, hl1⟩ := hv2 (j + 1) (by omega)
        have hf4 := hfor4 j b (by omega) v _ r1 hcur (brow_length m obs j) hr1 hl1
        refine ⟨_, for1_mid _ _ obs _ j b (by omega) hj0 hlast hf4, ?_, fun h => absurd h (by omega), fun h => absurd h (by omega)⟩
        exact VInv.set ⟨⟨hv1, hv2⟩, hv3⟩ (by omega) (brow_succ m obs hjn hb).symm)
  rwa [List.length_reverse] at this

/-- **`hmm::backward` as written in the source = the mirror model**, at exact weights: for every model and every non-empty
observation sequence the translated function returns, without panic, the table of backward rows and the model's likelihood -/
theorem backward_eq_model (z : Nat) (m : Hmm) (obs : List Nat) (h : obs ≠ []) (h64 : obs.length < 2 ^ 64) :
    Gen.SrcHmmBackward.backward (natOps z) (hmmOps m) obs
      = Res.ok ((List.range obs.length).map (brow m obs), Hmm.backward m obs) := by
  have hn : 0 < obs.length := List.length_pos_iff.mpr h
  have h0 : Inv m obs 0 (Rs.zeros2 z obs.length m.S, []) :=
    ⟨⟨shaped_zeros2 _ _ _, fun t ht => absurd ht (by simp [filled])⟩, fun _ => rfl, fun hh => absurd hh (by omega)⟩
  obtain ⟨⟨v, p⟩, hf, ⟨⟨hv1, _⟩, hv3⟩, _, hp⟩ := for1_eq z m obs h64 _ h0
  simp only at hv1 hv3 hp
  have htab : v = (List.range obs.length).map (brow m obs) :=
    table_ext hv1 fun t ht => hv3 t (by rw [filled, if_neg (by omega)]; omega) ht
  have hp' : p = pvFinal m obs := hp trivial
  simp [Gen.SrcHmmBackward.backward, hf, hp', pvFinal_sum m obs h, ← htab]

end RbV.Thm.GenSrcHmmBackward
