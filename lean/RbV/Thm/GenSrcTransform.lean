import RbV.Gen.SrcTransform
import RbV.Lemmas.TransformSpec
import RbV.Thm.GenSrcAlphabet
import RbV.Thm.GenSrcBasic
import RbV.Thm.GenSrcOk
import RbV.Basic.GetD
/-!
# The translated text of `sentinel`, `sentinel_count`, `transform_text` (suffix_array.rs) against the specification

`RbV/Gen/SrcTransform.lean` is regenerated by `tools/rs2lean_gensa.py` on every `./check C03`.  `T` is read at a 64-bit
unsigned type and `num_traits::cast::<usize, T>` as an abstract `castT : Nat → Option Nat` whose contract — value-preserving
below `alphabet.len() + sentinel_count` — is a hypothesis (`sais_transform_width_fits` proves the bound for the type the
width dispatch selects); `RankTransform::new` is the *translated* `Gen.SrcAlphabet.rankNew`, `Alphabet` the `Rs.BitSet` of its
symbols.

The obligation on `transform_text` is stated **modulo the freedom the property leaves** (`Transform.Ok`,
`RbV/Lemmas/TransformSpec.lean`): non-sentinel symbols get `rank + (sentinel_count − 1)`, the sentinel occurrences pairwise
distinct values below `sentinel_count`, the final one the least — not the concrete numbers.  The proof offers two loop
invariants (`first | … | …`): ranks counted **down** (`s -= 1; push(s)`: the present text, = the mirror model
`Sais.transformText`; alternative (A) of the proof) and ranks counted **up modulo the count** (`s += 1; push(s % sentinel_count)`: seeded
change C03-H1; alternative (B)).  The shape-dependent equality with the mirror model is the *soft* module
`RbV/Thm/GenSrcTransformModel.lean`.
-/
set_option linter.unusedSimpArgs false

namespace RbV.Thm.GenSrcTransform
open RbV RbV.Rs RbV.Gen RbV.Thm.GenSrc RbV.Transform RbV.Thm.GenSrcAlphabet

/-- `sentinel(text)` = the last symbol -/
theorem sentinel_eq_model (t : List Nat) (hne : t ≠ []) : SrcTransform.sentinel t = Res.ok (sentinelOf t) := by
  have hpos : 0 < t.length := List.length_pos_iff.mpr hne
  have e1 : Rs.sub t.length 1 = Res.ok (t.length - 1) := Rs.sub_ok hpos
  have e2 : Rs.idx t (t.length - 1) = Res.ok (t.getD (t.length - 1) 0) := idx_getD t _ 0 (by omega)
  have e3 : sentinelOf t = t.getD (t.length - 1) 0 := List.getLastD_eq_getD t 0
  rw [e3]
  unfold SrcTransform.sentinel
  simp [-List.getD_eq_getElem?_getD, e1, e2]

theorem sentinel_nil_panics : SrcTransform.sentinel [] = Res.panic := by decide

theorem foldlM_count (s : Nat) : ∀ (l : List Nat) (k : Nat), k + l.length < 2 ^ 64 →
    l.foldlM (SrcTransform.sentinel_count_fold1 s) k = Res.ok (k + l.count s) := by
  intro l
  induction l with
  | nil => intro k _; simp
  | cons a l ih =>
    intro k hk
    simp only [List.length_cons] at hk
    have hc := List.count_le_length (a := s) (l := l)
    by_cases ha : a = s
    · subst ha
      simp (disch := omega) only [rs_ok, List.foldlM, SrcTransform.sentinel_count_fold1, BEq.rfl, ↓reduceIte, Nat.add_comm 1,
        ih (k + 1) (by omega), List.count_cons_self, Res.ok.injEq]
      omega
    · simp (disch := omega) only [rs_ok, List.foldlM, SrcTransform.sentinel_count_fold1, beq_iff_eq, ha, ↓reduceIte, Nat.add_zero,
        Nat.zero_add, ih k (by omega), ne_eq, not_false_eq_true, List.count_cons_of_ne, Ne.symm ha]

/-- `sentinel_count(text)`: the `assert!` passes when no symbol is below the last one; the fold counts its occurrences -/
theorem sentinel_count_eq_model (t : List Nat) (hne : t ≠ [])
    (hmin : ∀ p, p < t.length → sentinelOf t ≤ t.getD p 0)
    (hsz : t.length < 2 ^ 64) : SrcTransform.sentinel_count t = Res.ok (t.count (sentinelOf t)) := by
  have h1 := sentinel_eq_model t hne
  have h2 : t.allM (SrcTransform.sentinel_count_all1 (sentinelOf t)) = Res.ok (t.all (fun a => decide (a ≥ sentinelOf t))) :=
    GenSrc.allM_ok _ _ t (fun _ _ => rfl)
  have h3 : t.all (fun a => decide (a ≥ sentinelOf t)) = true := by
    rw [List.all_eq_true]; intro a ha
    obtain ⟨p, hp, rfl⟩ := List.exists_getD_of_mem t 0 ha
    simpa using hmin p hp
  have h4 := foldlM_count (sentinelOf t) t 0 (by omega)
  unfold SrcTransform.sentinel_count
  simp only [h1, assert, Res.ok_bind, h2, ge_iff_le, h3, h4, Nat.zero_add, ↓reduceIte]

/-- a symbol below the last one is refused (`assert!`) -/
theorem sentinel_count_unsorted_panics (t : List Nat) (hne : t ≠ []) (a : Nat) (ha : a ∈ t) (hlt : a < sentinelOf t) :
    SrcTransform.sentinel_count t = Res.panic := by
  have h1 := sentinel_eq_model t hne
  have h2 : t.allM (SrcTransform.sentinel_count_all1 (sentinelOf t)) = Res.ok (t.all (fun a => decide (a ≥ sentinelOf t))) :=
    GenSrc.allM_ok _ _ t (fun _ _ => rfl)
  have h3 : t.all (fun a => decide (a ≥ sentinelOf t)) = false := by
    rw [List.all_eq_false]; exact ⟨a, ha, by simpa using hlt⟩
  unfold SrcTransform.sentinel_count
  simp only [h1, assert, Res.ok_bind, h2, ge_iff_le, h3, Bool.false_eq_true, ↓reduceIte, Res.panic_bind]

/-! ### the loop of `transform_text` -/

/-- what the loop needs of its surroundings: ranks of the symbols it looks up, casts of the values it pushes -/
structure Env (castT : Nat → Option Nat) (ranks : VecMap) (rk : Nat → Nat) (sent offset B : Nat) (xs : List Nat) : Prop where
  ranks : ∀ a ∈ xs, a ≠ sent → VecMap.get ranks a = some (rk a)
  fits : ∀ a ∈ xs, a ≠ sent → rk a + offset < B
  cast : ∀ x, x < B → castT x = some x
  small : B < 2 ^ 64

theorem Env.tail {castT : Nat → Option Nat} {ranks : VecMap} {rk : Nat → Nat} {sent offset B a : Nat} {xs : List Nat}
    (he : Env castT ranks rk sent offset B (a :: xs)) : Env castT ranks rk sent offset B xs :=
  ⟨fun x hx => he.ranks x (List.mem_cons_of_mem _ hx), fun x hx => he.fits x (List.mem_cons_of_mem _ hx), he.cast, he.small⟩

/-- the operations on a symbol other than the sentinel (both orders of the addition) -/
theorem Env.other {castT : Nat → Option Nat} {ranks : VecMap} {rk : Nat → Nat} {sent offset B a : Nat} {xs : List Nat}
    (he : Env castT ranks rk sent offset B (a :: xs)) (ha : a ≠ sent) :
    VecMap.get ranks a = some (rk a) ∧ Rs.add 64 (rk a) offset = Res.ok (rk a + offset) ∧
      Rs.add 64 offset (rk a) = Res.ok (rk a + offset) ∧ castT (rk a + offset) = some (rk a + offset) := by
  have hf := he.fits a List.mem_cons_self ha
  have h64 : rk a + offset < 2 ^ 64 := Nat.lt_trans hf he.small
  exact ⟨he.ranks a List.mem_cons_self ha, Rs.add_ok h64, Rs.add_ok_comm h64, he.cast _ hf⟩

/-! ### the surroundings: the translated `RankTransform::new` on the alphabet of the text -/

theorem mk_length_le (t : List Nat) : (Alpha.mk t).length ≤ 256 := by
  unfold Alpha.mk
  have := List.length_filter_le (fun b => t.contains b) (List.range 256)
  simpa using this

theorem mk_rank (t : List Nat) (a : Nat) (ha : a ∈ t) (hb : a < 256) : Alpha.rank (Alpha.mk t) a = rankOf t a := by
  unfold Alpha.rank Alpha.mk rankOf
  have hf : (fun c => t.contains c) = (fun x => decide (x ∈ t)) := by funext c; simp
  rw [hf]
  exact Sais.idxOf_filter_range _ a _ hb (by simp [ha])

theorem mk_rank_lt (t : List Nat) (a : Nat) (ha : a ∈ t) (hb : a < 256) : Alpha.rank (Alpha.mk t) a < (Alpha.mk t).length := by
  unfold Alpha.rank
  exact List.idxOf_lt_length_iff.mpr ((Alpha.mem_mk t a).mpr ⟨ha, hb⟩)

theorem env_of_text (castT : Nat → Option Nat) (t : List Nat) (hne : t ≠ []) (hb : ∀ c ∈ t, c < 256) (m : VecMap)
    (hm : RanksOf (Alpha.mk t) m) (hsz : t.length + 256 < 2 ^ 64)
    (hcast : ∀ x, x < (Alpha.mk t).length + t.count (sentinelOf t) → castT x = some x) :
    Env castT m (rankOf t) (sentinelOf t) (t.count (sentinelOf t) - 1) ((Alpha.mk t).length + t.count (sentinelOf t)) t := by
  have hcnt : 0 < t.count (sentinelOf t) := List.count_pos_iff.mpr (Transform.sentinelOf_mem t hne)
  refine ⟨?_, ?_, hcast, ?_⟩
  · intro a ha _
    rw [hm a, if_pos ((Alpha.mem_mk t a).mpr ⟨ha, hb a ha⟩), mk_rank t a ha (hb a ha)]
  · intro a ha _
    have := mk_rank_lt t a ha (hb a ha)
    rw [mk_rank t a ha (hb a ha)] at this
    omega
  · have := mk_length_le t
    have := List.count_le_length (a := sentinelOf t) (l := t)
    omega

/-- **translated `transform_text` satisfies the specification `Transform.Ok`** (on the alphabet `Alphabet::new(text)` builds
and the count `sentinel_count(text)` returns): no panic, length kept, symbols ↦ `rank + (count − 1)`, sentinel occurrences ↦
pairwise distinct values below the count, the final one least.  Two loop invariants are offered (the helper
`transform_text_for1` has another parameter list under the second, so both are stated inside the proof). -/
theorem transform_text_spec (castT : Nat → Option Nat) (t : List Nat) (hne : t ≠ []) (hb : ∀ c ∈ t, c < 256)
    (hsz : t.length + 256 < 2 ^ 64)
    (hcast : ∀ x, x < (Alpha.mk t).length + t.count (sentinelOf t) → castT x = some x) :
    ∃ tt, SrcTransform.transform_text castT t (Alpha.mk t) (t.count (sentinelOf t)) = Res.ok tt ∧ Transform.Ok t tt := by
  obtain ⟨m, hm1, hm2⟩ := rankNew_eq_model (Alpha.mk t) (Alpha.mk_sorted t) (mk_length_le t)
  have henv := env_of_text castT t hne hb m hm2 hsz hcast
  have hcnt : 0 < t.count (sentinelOf t) := List.count_pos_iff.mpr (Transform.sentinelOf_mem t hne)
  have h1 := sentinel_eq_model t hne
  have e1 : Rs.sub (t.count (sentinelOf t)) 1 = Res.ok (t.count (sentinelOf t) - 1) := Rs.sub_ok hcnt
  first
  | -- (A) ranks counted down, `s -= 1; push(s)`: the loop is the mirror model's `transformGo`
    have for1_down : ∀ (rk : Nat → Nat) (sent offset B : Nat) (xs : List Nat) (s : Nat) (acc : List Nat),
        Env castT m rk sent offset B xs → xs.count sent ≤ s → s ≤ B →
        SrcTransform.transform_text_for1 castT sent m offset xs (s, acc) =
          Res.ok (s - xs.count sent, acc ++ Sais.transformGo rk sent offset xs s) := by
      intro rk sent offset B xs
      induction xs with
      | nil => intro s acc _ _ _; simp [SrcTransform.transform_text_for1, Sais.transformGo]
      | cons a xs ih =>
        intro s acc he hc hs
        have he' := he.tail
        have hsm := he.small
        by_cases ha : a = sent
        · subst ha
          simp only [List.count_cons_self] at hc
          have e1 : Rs.sub s 1 = Res.ok (s - 1) := Rs.sub_ok (by omega)
          have e2 : castT (s - 1) = some (s - 1) := he.cast _ (by omega)
          have := ih (s - 1) (acc ++ [s - 1]) he' (by omega) (by omega)
          have e3 : s - 1 - xs.count a = s - (xs.count a + 1) := by omega
          simp only [SrcTransform.transform_text_for1, BEq.rfl, ↓reduceIte, e1, Res.pure_eq_ok, Res.ok_bind, e2,
            expect_some, this, e3, List.append_assoc, List.cons_append, List.nil_append, List.count_cons_self, Sais.transformGo]
        · have ha' : ¬ sent = a := fun e => ha e.symm
          have hcnt : (a :: xs).count sent = xs.count sent := by rw [List.count_cons]; simp [ha]
          rw [hcnt] at hc ⊢
          obtain ⟨e1, e2, e2', e3⟩ := he.other ha
          have := ih s (acc ++ [rk a + offset]) he' hc hs
          simp only [e2', SrcTransform.transform_text_for1, beq_iff_eq, ha, ha', ↓reduceIte, e1, expect_some, Res.pure_eq_ok,
            Res.ok_bind, e2, e3, this, List.append_assoc, List.cons_append, List.nil_append, Sais.transformGo]
    have hdown := for1_down (rankOf t) (sentinelOf t) (t.count (sentinelOf t) - 1) _ t (t.count (sentinelOf t)) []
      henv (Nat.le_refl _) (by omega)
    refine ⟨Transform.transformText t, ?_, ok_transformText t hne⟩
    have hgo : Sais.transformGo (rankOf t) (sentinelOf t) (t.count (sentinelOf t) - 1) t (t.count (sentinelOf t)) =
        Transform.transformText t := by
      unfold Transform.transformText
      exact Sais.transformGo_eq t _ _ _ t _ (fun _ _ => rfl)
    unfold SrcTransform.transform_text
    simp only [h1, hm1, e1, Res.pure_eq_ok, Res.ok_bind, hdown, Nat.sub_self, hgo, List.nil_append]
  | -- (B) ranks counted up modulo the count, `s += 1; push(s % sentinel_count)` (seeded change C03-H1)
    have for1_up : ∀ (rk : Nat → Nat) (sent offset c B : Nat) (xs : List Nat) (s : Nat) (acc : List Nat),
        Env castT m rk sent offset B xs → 0 < c → c ≤ B → s + xs.count sent < 2 ^ 64 →
        SrcTransform.transform_text_for1 castT c sent m offset xs (s, acc) =
          Res.ok (s + xs.count sent, acc ++ Transform.transformGoUp rk sent offset c xs s) := by
      intro rk sent offset c B xs
      induction xs with
      | nil => intro s acc _ _ _ _; simp [SrcTransform.transform_text_for1, Transform.transformGoUp]
      | cons a xs ih =>
        intro s acc he hc hcB hs
        have he' := he.tail
        have hsm := he.small
        by_cases ha : a = sent
        · subst ha
          simp only [List.count_cons_self] at hs
          have e1 : Rs.add 64 s 1 = Res.ok (s + 1) := Rs.add_ok (by omega)
          have e1' : Rs.add 64 1 s = Res.ok (s + 1) := by rw [Nat.add_comm]; exact Rs.add_ok (by omega)
          have e2 : Rs.rem (s + 1) c = Res.ok ((s + 1) % c) := Rs.rem_ok hc
          have hlt := Nat.mod_lt (s + 1) hc
          have e3 : castT ((s + 1) % c) = some ((s + 1) % c) := he.cast _ (by omega)
          have := ih (s + 1) (acc ++ [(s + 1) % c]) he' hc hcB (by omega)
          have e4 : s + 1 + xs.count a = s + (xs.count a + 1) := by omega
          simp [SrcTransform.transform_text_for1, Transform.transformGoUp, e1, e1', e2, e3, this, e4]
        · have ha' : ¬ sent = a := fun e => ha e.symm
          have hcnt : (a :: xs).count sent = xs.count sent := by rw [List.count_cons]; simp [ha]
          rw [hcnt] at hs ⊢
          obtain ⟨e1, e2, e2', e3⟩ := he.other ha
          have := ih s (acc ++ [rk a + offset]) he' hc hcB hs
          simp [SrcTransform.transform_text_for1, Transform.transformGoUp, ha, ha', e1, e2, e2', e3, this]
    have hcl := List.count_le_length (a := sentinelOf t) (l := t)
    have hup := for1_up (rankOf t) (sentinelOf t) (t.count (sentinelOf t) - 1) (t.count (sentinelOf t)) _ t 0 []
      henv hcnt (by omega) (by omega)
    refine ⟨Transform.transformTextUp t, ?_, ok_transformTextUp t hne⟩
    unfold SrcTransform.transform_text Transform.transformTextUp
    simp [h1, hm1, e1, hup]

end RbV.Thm.GenSrcTransform
