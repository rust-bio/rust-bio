import RbV.Thm.GenSrcPoaWalk
/-!
# The dynamic-programming phase of `Poa::custom` as translated from the source text = the checked-`i32` mirror (`cStepC`)

**Soft module** (built by `tools/gen_tables.py` after regenerating `Gen/SrcPoaAlign.lean`; a failure is a note, the behavioural tie
decides): the equality is *exact*, tie-breaks of `max` included, so a property-preserving change of a tie-break (seeded C16-H1:
arguments of the inner `max` swapped) falsifies it just like a property-breaking edit of the recurrence (seeded C16-3, C16-4).
`custom_dp_eq_model`: `with_capacity`, `initialize_scores`, the loop over the topological order (`new_row`, per-column
predecessor maximisation, insertion scan, `set`, `max_in_column`) compute row 0, the node rows and the column maxima of
`Model.customTableC` (its `bRow0C` and fold of `cStepC`); no checked operation fails when the mirror's do not.
The walk over `custom_for1` / `custom_for2` is that of `GenSrcPoaWalk` read with `T = Eq`; what is exact here is the predecessor loop
(`for3_fold`).  Not covered: the suffix-clipping tail of `custom` (`custom_for4`, Y clip), `global_banded`, `Traceback::alignment`.
-/
set_option linter.unusedSimpArgs false
set_option linter.unnecessarySimpa false
namespace RbV.Thm.GenSrcPoaCustom
open RbV RbV.NW RbV.Rs RbV.Rs.Res RbV.Poa RbV.Poa.Model RbV.Gen.SrcPoaAlign RbV.Thm.GenSrcPoaAlign RbV.Thm.GenSrcPoaWalk
open RbV.Thm.GenSrcI32 (iadd32_some)

theorem for3_fold (sc : Sc) (tb : Rs.Poa.Traceback) (r v j b : Nat) (hj : 1 ≤ j) (rowsM : Nat → BRow) :
    ∀ (prevs : List Nat) (acc res : Cell),
    (∀ p ∈ prevs, p + 1 < 2 ^ 64 ∧ ∀ c, Traceback_get tb (p + 1) c = ok ((rowsM p).get c)) →
    foldlC (predC sc v r b j) acc (prevs.map fun p => (p, rowsM p)) = some res →
    List.foldlM (custom_for3 sc.w sc.gap tb r (v + 1) b j) acc prevs = ok res
  | [], acc, res, _, h => by
    simp only [List.map_nil, foldlC, Option.some.injEq] at h
    simp [h]
  | p :: prevs, acc, res, hp, h => by
    simp only [List.map_cons] at h
    obtain ⟨acc', h1, h2⟩ := foldlC_cons_some h
    obtain ⟨hp1, hp2⟩ := hp p (List.mem_cons_self ..)
    simp only [List.foldlM_cons]
    obtain ⟨ms, ds, hm, hd, rfl⟩ := predC_some h1
    have e1 : custom_for3 sc.w sc.gap tb r (v + 1) b j acc p =
        ok (cmax acc (cmax ⟨ms, .m (some (p, v))⟩ ⟨ds, .d (some (p, v + 1))⟩)) := by
      unfold custom_for3
      simp only [Rs.add_ok hp1, Res.ok_bind, Rs.sub_ok hj, hp2, iadd32_some hm, iadd32_some hd,
        Rs.sub_ok (Nat.le_add_left 1 p), Rs.sub_ok (Nat.le_add_left 1 v), Nat.add_sub_cancel, Res.pure_eq_ok]
    rw [e1]
    simp only [Res.ok_bind]
    exact for3_fold sc tb r v j b hj rowsM prevs _ res (fun q hq => hp q (List.mem_cons_of_mem _ hq)) h2

theorem for3_exact (sc : Sc) (v : Nat) (prevs : List Nat) : For3 Eq (fun _ => True) sc v prevs := by
  intro tb r j b rowsM acc accM resM hj hacc _ hp h
  rw [rel_eq.mp hacc]
  refine ⟨resM, for3_fold sc tb r v j b hj rowsM prevs accM resM (fun p hpm => ⟨(hp p hpm).1, fun c => ?_⟩) h, rel_eq.mpr rfl, trivial⟩
  obtain ⟨x, hx, e⟩ := (hp p hpm).2 c
  rw [hx, rel_eq.mp e]

/-- what `custom_dp_eq_model` says of the matrix: it represents row 0 and the model's rows, and the rows of the nodes in `todo` are
still as `with_capacity` left them (`todo = []` after the loop; the invariant carried through the loop is `GenSrcPoaWalk.MInvG`) -/
structure MInv (M : List Row) (r0 : BRow) (rows : Array BRow) (n : Nat) (todo : List Nat) : Prop where
  len : M.length = rows.size + 1
  r0 : ∃ rr, M[0]? = some rr ∧ RowRep rr r0
  rows : ∀ v, v < rows.size → ∃ rr, M[v + 1]? = some rr ∧ RowRep rr (rows.getD v (emptyRow n))
  fresh : ∀ v ∈ todo, M[v + 1]? = some ([], 0, n + 1)

/-- **the dynamic-programming phase of the translated `Poa::custom`** (`with_capacity`, `initialize_scores`, the loop over the
topological order with `new_row`, the predecessor maximisation, the insertion scan, `set`, `max_in_column`) computes the
rows and the column maxima of the checked-`i32` mirror: whenever the mirror's row 0 and fold of `cStepC` are `some`, the
translated code does not panic and its matrix represents them (`MInv`). -/
theorem custom_dp_eq_model (sc : Sc) (xp yp : Int) (labels : List Nat) (es : WEdges) (query : List Nat) (r0 : BRow) (st : CState)
    (hm : labels.length + 1 < 2 ^ 64) (hn : query.length + 1 < 2 ^ 64)
    (hpreds : ∀ v, ∀ p ∈ inN es v, p < labels.length ∧ p ≠ v)
    (hnd : (topo labels.length es).Nodup) (hlt : ∀ v ∈ topo labels.length es, v < labels.length)
    (h0 : bRow0C sc.gap yp query.length = some r0)
    (h : foldlC (cStepC sc xp labels es query r0)
      { rows := Array.replicate labels.length (emptyRow query.length), maxcol := List.replicate (query.length + 1) ((0 : Int), 0) }
      (topo labels.length es) = some st) :
    ∃ tb, (do
        let tb ← Traceback_with_capacity labels.length query.length
        let tb ← Traceback_initialize_scores tb sc.gap yp
        List.foldlM (custom_for1 sc.w ⟨labels, es⟩ sc.gap xp query query.length)
          (List.replicate (query.length + 1) ((0 : Int), 0), tb) (Rs.Poa.topoOrder ⟨labels, es⟩)) = ok (st.maxcol, tb) ∧
      tb.rows = labels.length ∧ tb.cols = query.length ∧ tb.last = (topo labels.length es).getLastD 0 ∧
      st.rows.size = labels.length ∧ MInv tb.matrix r0 st.rows query.length [] := by
  obtain ⟨tb', e, er, ec, el, hsz, _, hinv⟩ := GenSrcPoaWalk.for1_fold (T := Eq) (C := fun _ _ _ => True) (fun _ => rfl)
    sc xp labels es query _ r0 ⟨fun _ => ⟨trivial, trivial⟩, fun _ _ _ => ⟨trivial, trivial, trivial⟩, fun v _ _ => for3_exact sc v _⟩
    hm hn hpreds (topo labels.length es) _ st
    { rows := labels.length, cols := query.length, last := 0,
      matrix := (r0.cells, 0, query.length + 1) :: List.replicate labels.length ([], 0, query.length + 1) } []
    hnd (fun v hv => ⟨hlt v hv, List.not_mem_nil⟩) (by simp) (by simp) (minvG_init (fun _ => rfl) h0 labels.length) h
  refine ⟨tb', ?_, er, ec, el, hsz, hinv.len, ⟨_, hinv.r0.1, rowRepG_eq.mp hinv.r0.2⟩,
    fun v hv => (hinv.rws v hv).imp fun _ h => ⟨h.1, rowRepG_eq.mp h.2⟩, fun _ h => absurd h List.not_mem_nil⟩
  rw [init_bind labels.length query.length sc.gap yp r0 h0 hn hm]
  exact e

end RbV.Thm.GenSrcPoaCustom
