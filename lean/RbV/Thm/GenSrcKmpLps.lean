import RbV.Gen.SrcKmpLps
import RbV.Model.Kmp
import RbV.Thm.GenSrcBasic
/-!
# The translated text of `kmp::lps` and of `KMP::delta` equals the mirror models `Kmp.lps`, `Kmp.delta`

`RbV/Gen/SrcKmpLps.lean` is regenerated from `src/pattern_matching/kmp.rs` by `tools/rs2lean.py` on every `./check C08`;
the theorems below are re-proved against it by `lake build`.  The generated function works on a pre-allocated vector
(`lps[i] = q`, out-of-bounds = panic, `q += 1` checked in 64 bits, `while` with fuel `q + 1`); the model grows a list and
is total.  The bridge: after the rounds `1 … i-1` the vector is `acc ++ replicate (m - i) 0`, where `acc` is the model's
list, all entries `acc[j] ≤ j`, and the running `q < i`.

Proof style: the generated definitions are unfolded by `simp only [<name>]` and the checked operations are discharged by
the `*_ok` lemmas of `RbV/Basic/RsSem.lean` under arithmetic side conditions — no `rfl`/`decide` on the shape of the
generated term, so that a rewrite of the Rust text inside the subset that keeps the meaning (e.g. `q = q + 1`) is
still proved equal.
-/
-- the simp sets name every fact a harmless rewrite of the Rust text may need; on the present text some are unused
set_option linter.unusedSimpArgs false

namespace RbV.Thm.GenSrcKmpLps
open RbV RbV.Rs RbV.Gen.SrcKmpLps

/-- every entry of the partial table is at most its index -/
def Bounded (acc : List Nat) : Prop := ∀ j, j < acc.length → acc.getD j 0 ≤ j

/-- a read inside the written part `acc` of the vector `acc ++ z` -/
theorem idx_append_left (acc z : List Nat) (j : Nat) (h : j < acc.length) :
    Rs.idx (acc ++ z) j = Res.ok (acc.getD j 0) :=
  Rs.idx_of_getElem? (by
    rw [List.getElem?_append_left h, List.getD_eq_getElem?_getD, List.getElem?_eq_getElem h]
    simp)

/-- a translated loop that follows a failure link exactly when `Back` holds, and otherwise returns its state, computes
`Kmp.fallback` (shared by the `while` loops of `lps` and `delta`); `B` bounds the states, the table entries below `B`
are smaller than their index -/
theorem fallback_loop (p tab : List Nat) (a : Nat) (w : Bool) (loop : Nat → Nat → Res Nat) (B : Nat)
    (hb : ∀ j, j < B → tab.getD j 0 ≤ j)
    (hback : ∀ fuel q, q ≤ B → Kmp.Back p a w q → 0 < q ∧ loop (fuel + 1) q = loop fuel (tab.getD (q - 1) 0))
    (hstop : ∀ fuel q, q ≤ B → ¬ Kmp.Back p a w q → loop (fuel + 1) q = Res.ok q) :
    ∀ fuel q, q < fuel → q ≤ B →
      loop fuel q = Res.ok (Kmp.fallback p tab a w fuel q) ∧ Kmp.fallback p tab a w fuel q ≤ q ∧
        ¬ Kmp.Back p a w (Kmp.fallback p tab a w fuel q) := by
  intro fuel
  induction fuel with
  | zero => intro q h; exact absurd h (Nat.not_lt_zero q)
  | succ fuel ih =>
    intro q hf hq
    by_cases hB : Kmp.Back p a w q
    · obtain ⟨h0, he⟩ := hback fuel q hq hB
      have hq1 : q - 1 < q := Nat.sub_lt h0 Nat.one_pos
      have hle := Nat.le_trans (hb (q - 1) (Nat.lt_of_lt_of_le hq1 hq)) (Nat.le_of_lt hq1)
      obtain ⟨ih1, ih2, ih3⟩ := ih (tab.getD (q - 1) 0)
        (Nat.lt_of_lt_of_le (Nat.lt_of_le_of_lt (hb (q - 1) (Nat.lt_of_lt_of_le hq1 hq)) hq1) (Nat.le_of_lt_succ hf))
        (Nat.le_trans hle hq)
      rw [he, Kmp.fallback_back p tab a w fuel q hB]
      exact ⟨ih1, Nat.le_trans ih2 hle, ih3⟩
    · rw [hstop fuel q hq hB, Kmp.fallback_stop p tab a w fuel q hB]
      exact ⟨rfl, Nat.le_refl _, hB⟩

/-- the translated `while` loop is the model's `fallback` (and never runs out of fuel, never panics) -/
theorem while_eq (p acc z : List Nat) (i a : Nat) (hi : p[i]? = some a) (hb : Bounded acc) (hai : acc.length ≤ i) :
    ∀ fuel q, q < fuel → q ≤ acc.length →
      lps_while1 p i (acc ++ z) fuel q = Res.ok (Kmp.fallback p acc a false fuel q)
        ∧ Kmp.fallback p acc a false fuel q ≤ q := by
  have him : i < p.length := (List.getElem?_eq_some_iff.mp hi).1
  have e2 : Rs.idx p i = Res.ok a := Rs.idx_of_getElem? hi
  have key := fallback_loop p acc a false (lps_while1 p i (acc ++ z)) acc.length hb ?_ ?_
  · exact fun fuel q hf hq => ⟨(key fuel q hf hq).1, (key fuel q hf hq).2.1⟩
  · rintro fuel q hq (⟨h, _⟩ | ⟨hne, h0⟩)
    · cases h
    · have hqm : q < p.length := Nat.lt_of_le_of_lt (Nat.le_trans hq hai) him
      have e1 : Rs.idx p q = Res.ok p[q] := Rs.idx_ok hqm
      have hne' : ¬ p[q] = a := fun h => hne (by rw [List.getElem?_eq_getElem hqm, h])
      have e4 : Rs.sub q 1 = Res.ok (q - 1) := Rs.sub_ok h0
      have e5 : Rs.idx (acc ++ z) (q - 1) = Res.ok (acc.getD (q - 1) 0) :=
        idx_append_left acc z (q - 1) (Nat.lt_of_lt_of_le (Nat.sub_lt h0 Nat.one_pos) hq)
      refine ⟨h0, ?_⟩
      rw [lps_while1]
      simp only [gt_iff_lt, h0, decide_true, ↓reduceIte, e1, e2, Res.pure_eq_ok, e4, Res.ok_bind, e5, bne_iff_ne, ne_eq,
        ite_not, hne']
  · intro fuel q hq hB
    have hqm : q < p.length := Nat.lt_of_le_of_lt (Nat.le_trans hq hai) him
    have e1 : Rs.idx p q = Res.ok p[q] := Rs.idx_ok hqm
    rw [lps_while1]
    by_cases h0 : q > 0
    · have heq : p[q] = a := Classical.not_not.mp fun h =>
        hB (Or.inr ⟨by rw [List.getElem?_eq_getElem hqm]; exact fun h' => h (Option.some.inj h'), h0⟩)
      simp only [gt_iff_lt, h0, decide_true, ↓reduceIte, e1, heq, e2, Res.pure_eq_ok, Res.ok_bind, bne_iff_ne, ne_eq,
        ite_not]
    · -- q = 0: the loop stops (whichever operand of `&&` the source tests first)
      simp only [gt_iff_lt, h0, decide_false, Bool.false_eq_true, ↓reduceIte, Res.pure_eq_ok, Res.ok_bind]

theorem bounded_snoc (acc : List Nat) (v : Nat) (hb : Bounded acc) (hv : v ≤ acc.length) : Bounded (acc ++ [v]) := by
  intro j hj
  simp only [List.length_append, List.length_singleton] at hj
  by_cases hlt : j < acc.length
  · have := hb j hlt
    rw [List.getD_eq_getElem?_getD] at this ⊢
    rwa [List.getElem?_append_left hlt]
  · have : j = acc.length := by omega
    subst this
    rw [List.getD_eq_getElem?_getD, List.getElem?_append_right (Nat.le_refl _)]
    simpa using hv

/-- one round of `for i in 1..m`: the vector `acc ++ 0…0` becomes `(acc ++ [q']) ++ 0…0` with the model's `q'` -/
theorem for_body_eq (p acc : List Nat) (n a q : Nat) (ha : p[acc.length]? = some a) (hb : Bounded acc)
    (hq : q < acc.length) (h64 : p.length < 2 ^ 64) :
    lps_for1 p (q, acc ++ List.replicate (n + 1) 0) acc.length
        = Res.ok (Kmp.advance p acc a false q, (acc ++ [Kmp.advance p acc a false q]) ++ List.replicate n 0)
      ∧ Kmp.advance p acc a false q ≤ acc.length := by
  have him : acc.length < p.length := (List.getElem?_eq_some_iff.mp ha).1
  obtain ⟨w1, w2⟩ := while_eq p acc (List.replicate (n + 1) 0) acc.length a ha hb (Nat.le_refl _) (q + 1) q
    (Nat.lt_succ_self q) (Nat.le_of_lt hq)
  generalize hq' : Kmp.fallback p acc a false (q + 1) q = q' at w1 w2
  have hqa : q' < acc.length := Nat.lt_of_le_of_lt w2 hq
  have hqm : q' < p.length := Nat.lt_trans hqa him
  have e1 : Rs.idx p q' = Res.ok p[q'] := Rs.idx_ok hqm
  have e2 : Rs.idx p acc.length = Res.ok a := Rs.idx_of_getElem? ha
  have e3 : p[q']? = some p[q'] := List.getElem?_eq_getElem hqm
  have hset := GenSrc.setIdx_append_replicate acc n 0
  have e4 : Rs.add 64 q' 1 = Res.ok (q' + 1) := Rs.add_ok (Nat.lt_of_le_of_lt (Nat.succ_le_of_lt hqm) h64)
  simp only [lps_for1, w1, e2, beq_iff_eq, Res.pure_eq_ok, hset, List.append_assoc, List.cons_append, List.nil_append,
    Res.ok_bind, e1, e4, Kmp.advance, hq', e3, Option.some.injEq, ge_iff_le]
  split
  · exact ⟨rfl, hqa⟩
  · exact ⟨rfl, Nat.le_of_lt hqa⟩

theorem for_eq (p : List Nat) (h64 : p.length < 2 ^ 64) :
    ∀ (rest acc : List Nat) (q : Nat), rest = p.drop acc.length →
      Bounded acc → q < acc.length →
      ∃ qf, (List.range' acc.length rest.length).foldlM (lps_for1 p) (q, acc ++ List.replicate rest.length 0)
        = Res.ok (qf, Kmp.lpsLoop p rest acc q) := by
  intro rest
  induction rest with
  | nil => intro acc q _ _ _; exact ⟨q, by simp [Kmp.lpsLoop]⟩
  | cons a rest ih =>
    intro acc q hrest hb hq
    obtain ⟨ha, hrest1⟩ := GenSrc.getElem?_of_drop_eq_cons p acc.length a rest hrest
    obtain ⟨b1, b2⟩ := for_body_eq p acc rest.length a q ha hb hq h64
    have hrest' : rest = p.drop (acc ++ [Kmp.advance p acc a false q]).length := by
      rw [List.length_append]; exact hrest1
    obtain ⟨qf, hqf⟩ := ih (acc ++ [Kmp.advance p acc a false q]) (Kmp.advance p acc a false q) hrest'
      (bounded_snoc acc _ hb b2) (by rw [List.length_append]; exact Nat.lt_succ_of_le b2)
    refine ⟨qf, ?_⟩
    simp only [List.length_cons, List.range'_succ, List.foldlM_cons, b1, Res.ok_bind, Kmp.lpsLoop]
    simpa using hqf

/-- **`kmp::lps` as written in the source = `Kmp.lps`**, for every pattern whose length fits `usize`: the translated
function never panics (no index out of bounds, `q += 1` never overflows), its `while` loop never runs out of the
fuel `q + 1`, and it returns the model's table. -/
theorem lps_eq_model (p : List Nat) (h64 : p.length < 2 ^ 64) : lps p = Res.ok (Kmp.lps p) := by
  cases p with
  | nil => simp [lps, Kmp.lps]
  | cons a rest =>
    obtain ⟨qf, hqf⟩ := for_eq (a :: rest) h64 rest [0] 0 (by simp)
      (by intro j hj; simp at hj; subst hj; simp) (by simp)
    simp only [List.length_singleton, List.cons_append, List.nil_append] at hqf
    simp [lps, Kmp.lps, List.replicate_succ, hqf]

/-! ### `KMP::delta` -/

/-- the translated `while q == self.m || (self.pattern[q] != a && q > 0)` loop is the model's `fallback` with `withM` -/
theorem delta_while_eq (p tab : List Nat) (a : Nat) (hp : 0 < p.length) (hlen : tab.length = p.length)
    (hb : Bounded tab) :
    ∀ fuel q, q < fuel → q ≤ p.length →
      delta_while1 p.length p a tab fuel q = Res.ok (Kmp.fallback p tab a true fuel q)
        ∧ Kmp.fallback p tab a true fuel q ≤ q ∧ Kmp.fallback p tab a true fuel q < p.length := by
  have key := fallback_loop p tab a true (delta_while1 p.length p a tab) p.length (hlen ▸ hb) ?_ ?_
  · intro fuel q hf hq
    obtain ⟨k1, k2, k3⟩ := key fuel q hf hq
    exact ⟨k1, k2, Nat.lt_of_le_of_ne (Nat.le_trans k2 hq) fun h => k3 (Or.inl ⟨rfl, h⟩)⟩
  · intro fuel q hq hB
    have h0 : 0 < q := by
      rcases hB with ⟨_, h⟩ | ⟨_, h⟩
      · rw [h]; exact hp
      · exact h
    have e4 : Rs.sub q 1 = Res.ok (q - 1) := Rs.sub_ok h0
    have e5 : Rs.idx tab (q - 1) = Res.ok (tab.getD (q - 1) 0) := GenSrc.idx_getD tab (q - 1) 0
      (hlen ▸ Nat.lt_of_lt_of_le (Nat.sub_lt h0 Nat.one_pos) hq)
    refine ⟨h0, ?_⟩
    rw [delta_while1]
    by_cases hqm : q = p.length
    · -- q = m: fall back unconditionally
      subst hqm
      simp only [BEq.rfl, ↓reduceIte, Res.pure_eq_ok, Res.ok_bind, e4, e5]
    · have hqlt : q < p.length := Nat.lt_of_le_of_ne hq hqm
      have e1 : Rs.idx p q = Res.ok p[q] := Rs.idx_ok hqlt
      have hne : ¬ p[q] = a := by
        rcases hB with ⟨_, h⟩ | ⟨h, _⟩
        · exact absurd h hqm
        · exact fun h' => h (by rw [List.getElem?_eq_getElem hqlt, h'])
      simp only [beq_iff_eq, hqm, ↓reduceIte, e1, gt_iff_lt, h0, decide_true, Bool.and_true, Bool.true_and, Res.pure_eq_ok,
        e4, Res.ok_bind, e5, bne_iff_ne, ne_eq, ite_not, hne]
  · intro fuel q hq hB
    have hqm : ¬ q = p.length := fun h => hB (Or.inl ⟨rfl, h⟩)
    have hqlt : q < p.length := Nat.lt_of_le_of_ne hq hqm
    have e1 : Rs.idx p q = Res.ok p[q] := Rs.idx_ok hqlt
    have hc' : (p[q] != a && decide (q > 0)) = false := by
      by_cases h1 : p[q] = a
      · simp [h1]
      · have : ¬ q > 0 := fun h =>
          hB (Or.inr ⟨by rw [List.getElem?_eq_getElem hqlt]; exact fun h' => h1 (Option.some.inj h'), h⟩)
        simp [this]
    have hc'' : (decide (q > 0) && p[q] != a) = false := by rw [Bool.and_comm]; exact hc'
    rw [delta_while1]
    simp only [beq_iff_eq, hqm, ↓reduceIte, e1, Res.pure_eq_ok, Res.ok_bind, hc', hc'', Bool.false_eq_true]

/-- **`KMP::delta` as written in the source = the model's `delta`**, over the failure table computed by the model
(equal to the one computed by the source, `lps_eq_model`), for every state `q ≤ m` and every symbol: no panic (the
read `self.pattern[q]` at `q = m` is guarded by the `||`), the fuel `q + 1` suffices. -/
theorem delta_eq_model (p : List Nat) (hp : 0 < p.length) (h64 : p.length < 2 ^ 64) (q a : Nat) (hq : q ≤ p.length) :
    delta p.length (Kmp.lps p) p q a = Res.ok (Kmp.delta p (Kmp.lps p) q a) := by
  obtain ⟨hspec, hlen⟩ := Kmp.lps_spec p hp
  have hb : Bounded (Kmp.lps p) := fun j hj => Nat.le_of_lt_succ (hspec j hj).1
  obtain ⟨w1, _, w3⟩ := delta_while_eq p (Kmp.lps p) a hp hlen hb (q + 1) q (Nat.lt_succ_self q) hq
  generalize hq' : Kmp.fallback p (Kmp.lps p) a true (q + 1) q = q' at w1 w3
  have e1 : Rs.idx p q' = Res.ok p[q'] := Rs.idx_ok w3
  have e3 : p[q']? = some p[q'] := List.getElem?_eq_getElem w3
  have e4 : Rs.add 64 q' 1 = Res.ok (q' + 1) := Rs.add_ok (Nat.lt_of_le_of_lt (Nat.succ_le_of_lt w3) h64)
  simp only [delta, w1, beq_iff_eq, Res.pure_eq_ok, Res.ok_bind, e1, e4, Kmp.delta, Kmp.advance, hq', e3,
    Option.some.injEq]
  split <;> rfl

end RbV.Thm.GenSrcKmpLps
