import RbV.Gen.SrcMyersSimpleBest
import RbV.Thm.GenSrcMyersSimple
import RbV.Lemmas.MyersBest
import RbV.Lemmas.HitsClamp
/-!
# `distance`, `find_all_end`, `find_best_end` of the single-word Myers matcher as written

`RbV/Gen/SrcMyersSimpleBest.lean` is the text of these three functions of the macro `impl_myers!` (myers_impl.rs) read at the
instance of simple.rs (`$DistType = T::DistType`); regenerated by `tools/rs2lean_genlong.py` on every `./check C09`.
`K = <$DistType>::max_value() = 2^wd − 1`; every column value is `≤ |p| ≤ K`, so the search with `max_dist = K` lists every end
position: `distance` is the running minimum of that list, `find_best_end` its first minimum (`Iterator::min_by_key`).
-/
set_option linter.unusedSimpArgs false

namespace RbV.Thm.GenSrcMyersSimpleBest
open RbV RbV.Rs RbV.Model.MyersSimple RbV.Thm.GenSrc RbV.Thm.GenSrcMyersSimple RbV.Thm.GenSrcMyersMatches

/-- **the loop of `distance` as written**: the running minimum over everything the search with `max_dist = K` reports -/
theorem distance_fold (w wd : Nat) (eqv : Nat → Nat → Bool) (p : List Nat) (K : Nat) (F : Sizes w wd p) :
    ∀ (t : List Nat) (s : St w) (i dist : Nat), InvS w eqv p s → (∀ c ∈ t, c < 256) → dist ≤ K →
      t.foldlM (RbV.Gen.SrcMyersSimpleBest.distance_for1 (w := w) (wd := wd) (peq := peqTab w eqv p)
          (bound := 2 ^ (p.length - 1)) (max_dist := K)) (rep s, dist) =
        Res.ok (rep (t.foldl (fun s c => step p.length (peq w eqv p c) s) s),
          (run eqv p K s i t).foldl RbV.EditDist.updDist dist) := by
  intro t
  induction t with
  | nil => intro s i dist _ _ _; simp [run]
  | cons c t ih =>
    intro s i dist inv hb hd
    obtain ⟨hlo, hd1, hd2⟩ := side_conditions w eqv p F.hm1 F.hw s c inv
    have hpeq : Rs.idx (peqTab w eqv p) c = Res.ok (peq w eqv p c).toNat := idx_tab 256 _ c (hb c (by simp))
    have hstep := step_eq_model w wd p.length F.hw1 (peqTab w eqv p) c (peq w eqv p c) s K hpeq hlo
      (by have := F.h64p; omega) (by have := F.hwd; omega)
    have inv' := stepO_inv w eqv p K F.hm1 F.hw s c inv
    simp only [stepO] at inv'
    rw [List.foldlM_cons]
    simp only [rep] at hstep ih ⊢
    simp only [RbV.Gen.SrcMyersSimpleBest.distance_for1, hstep, knownDist_eq, Res.ok_bind, Res.pure_eq_ok, List.foldl_cons, run]
    rw [RbV.EditDist.foldl_updDist_report K dist _ i _ hd]
    -- the test may be written `d < dist`, `d <= dist` or `dist > d`: all three leave the smaller of the two
    simp only [gt_iff_lt, decide_eq_true_eq, ← apply_ite Res.ok, ← apply_ite (Prod.mk _), GenSrcScanD.ite_le_eq_ite_lt, Res.ok_bind, Res.pure_eq_ok]
    refine ih _ (i + 1) _ inv' (fun x hx => hb x (by simp [hx])) ?_
    split <;> omega

/-- **`Myers::distance` as written** = the running minimum over the model's list for `max_dist = DistType::MAX` -/
theorem distance_eq_model (w wd : Nat) (eqv : Nat → Nat → Bool) (p t : List Nat) (F : Sizes w wd p) (hb : ∀ c ∈ t, c < 256) :
    RbV.Gen.SrcMyersSimpleBest.distance (w := w) (wd := wd) (peq := peqTab w eqv p) (bound := 2 ^ (p.length - 1))
        (m := p.length) (text := t) =
      Res.ok ((findAllEnd w eqv p t (Rs.maxVal wd)).foldl RbV.EditDist.updDist (Rs.maxVal wd)) := by
  have hfold := distance_fold w wd eqv p (Rs.maxVal wd) F t (init w p.length) 0 (Rs.maxVal wd)
    ⟨[], inv_init w eqv p F.hw⟩ hb (Nat.le_refl _)
  unfold RbV.Gen.SrcMyersSimpleBest.distance
  simp only [initialState_eq_model, Res.ok_bind, Res.pure_eq_ok, hfold]
  rfl

/-- … = the specification: the minimum of the last row of the Sellers matrix (`firstMin`) -/
theorem distance_eq_spec (w wd : Nat) (eqv : Nat → Nat → Bool) (p t : List Nat) (F : Sizes w wd p) (hb : ∀ c ∈ t, c < 256) :
    RbV.Gen.SrcMyersSimpleBest.distance (w := w) (wd := wd) (peq := peqTab w eqv p) (bound := 2 ^ (p.length - 1))
        (m := p.length) (text := t) =
      Res.ok (((RbV.EditDist.firstMin 0 (RbV.EditDist.lastRow (RbV.EditDist.unitW eqv) p t)).map (·.2)).getD (Rs.maxVal wd)) := by
  rw [distance_eq_model w wd eqv p t F hb, findAllEnd_eq_hits w eqv p t _ F.hm1 F.hw]
  rw [RbV.EditDist.hits_foldl_updDist _ p t _ (by have := F.hwd; unfold Rs.maxVal; omega)]

/-- `find_all_end(text, max_dist)` is the one-line call `Matches::new(self, text.into_iter(), max_dist)` -/
theorem findAllEnd_eq_new (w wd : Nat) (peqT : List Nat) (bound m : Nat) (t : List Nat) (k : Nat) :
    RbV.Gen.SrcMyersSimpleBest.findAllEnd (w := w) (wd := wd) (peq := peqT) (bound := bound) (m := m) (text := t) (max_dist := k) =
      RbV.Gen.SrcMyersMatches.new (w := w) (wd := wd) (peq := peqT) (bound := bound) (m := m) (text := t) (max_dist := k) := by
  unfold RbV.Gen.SrcMyersSimpleBest.findAllEnd
  cases RbV.Gen.SrcMyersMatches.new (w := w) (wd := wd) (peq := peqT) (bound := bound) (m := m) (text := t) (max_dist := k) <;> rfl

/-- **`Myers::find_best_end` as written**: the first minimum of the model's list; panics (the `unwrap`) exactly when it is empty -/
theorem findBestEnd_eq_model (w wd : Nat) (eqv : Nat → Nat → Bool) (p t : List Nat) (F : Sizes w wd p) (hb : ∀ c ∈ t, c < 256) (h64 : t.length < 2 ^ 64) :
    RbV.Gen.SrcMyersSimpleBest.findBestEnd (w := w) (wd := wd) (peq := peqTab w eqv p) (bound := 2 ^ (p.length - 1))
        (m := p.length) (text := t) =
      Rs.expect (Rs.minByKeySnd (findAllEnd w eqv p t (Rs.maxVal wd))) := by
  have h := findAllSrc_eq_model w wd eqv p t (Rs.maxVal wd) F hb h64
  unfold findAllSrc at h
  unfold RbV.Gen.SrcMyersSimpleBest.findBestEnd
  rw [findAllEnd_eq_new]
  rw [new_eq_model] at h ⊢
  simp only [Res.ok_bind] at h ⊢
  rw [h]
  simp only [Res.ok_bind]
  try (cases Rs.expect (Rs.minByKeySnd (findAllEnd w eqv p t (Rs.maxVal wd))) <;> rfl)

/-- … = the specification: `firstMin` of the last row; the empty text panics -/
theorem findBestEnd_eq_spec (w wd : Nat) (eqv : Nat → Nat → Bool) (p t : List Nat) (F : Sizes w wd p) (hb : ∀ c ∈ t, c < 256) (h64 : t.length < 2 ^ 64) :
    RbV.Gen.SrcMyersSimpleBest.findBestEnd (w := w) (wd := wd) (peq := peqTab w eqv p) (bound := 2 ^ (p.length - 1))
        (m := p.length) (text := t) =
      Rs.expect (RbV.EditDist.firstMin 0 (RbV.EditDist.lastRow (RbV.EditDist.unitW eqv) p t)) := by
  rw [findBestEnd_eq_model w wd eqv p t F hb h64, findAllEnd_eq_hits w eqv p t _ F.hm1 F.hw]
  rw [RbV.EditDist.hits_minByKeySnd _ p t _ (by have := F.hwd; unfold Rs.maxVal; omega)]

end RbV.Thm.GenSrcMyersSimpleBest
