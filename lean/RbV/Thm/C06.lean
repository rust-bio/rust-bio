import RbV.Ref.Smem
import RbV.Model.FMDExt
import RbV.Model.FMDRev
import RbV.Model.FMDSym
import RbV.Lemmas.SmemsFmd
import RbV.Lemmas.FmdBridge
import RbV.Lemmas.FmdInitExt
import RbV.Thm.GenSrcFmdIndex
import RbV.Thm.GenSrcFmAccess
/-!
# C06 — FMD-index: SMEMs on both strands, `all_smems`, bi-interval extension

1. **The oracles** of the correspondence run, `checkSmems`, `checkAllSmems`, `checkBi` (`RbV/Ref/Smem.lean`, with
   `RbV/Ref/BS.lean`), accept exactly what the property states (`SmemsProp`, `AllSmemsProp`, `BiIntervalOf` in
   `RbV/Spec/FMD.lean`), for all inputs.
2. **The mirror model of `backward_ext` / `forward_ext` / `init_interval_with`** (`RbV/Model/FMDExt.lean`) computes the
   bi-interval of the extended string on every FMD index (`RbV/Model/FMDRev.lean`, `FMDSym.lean`,
   `RbV/Lemmas/FmdInitExt.lean`).
3. **The mirror model of Li's sweep**, `smems` / `all_smems` (`RbV/Model/Smems.lean`), returns exactly the supermaximal
   matches, with both intervals right (`RbV/Lemmas/Smems*.lean`, assembled in `SmemsFmd.lean`); for arrays accepted by
   C03's checker through `RbV/Lemmas/FmdBridge.lean`.
4. **The translated source text** of these functions (`RbV/Gen/SrcFmd*.lean`), given the specification's `less` / `occ` of the
   index's BWT as total functions (not the accessors `FMDIndex::{less, occ}`, item 5) and `dna::complement` as `dnaCompl`, does the
   same and passes its own checked operations, for patterns over `ACGTNacgtn`, `i < |pattern|` and `l ≥ 1`
   (`RbV/Thm/GenSrcFmd{Ext, Smems, AllSmems, Index}.lean`).
5. **The accessor chain** `FMDIndex::{occ, less}` down to the tables, translated (`RbV/Thm/GenSrcFmAccess.lean`).
-/
namespace RbV.Thm.C06
open RbV

/-- the brute-force enumeration lists exactly the supermaximal exact matches -/
theorem allSmemsRef_exact (T p : List Nat) (b len : Nat) :
    (b, len) ∈ allSmemsRef T p ↔ Smem T p b len :=
  mem_allSmemsRef T p b len

/-- **`smems(p, i, l)`**: accepted iff the reported (position, length) pairs are, as a set, exactly the supermaximal
matches covering `i` of length ≥ `l`, and the forward / reverse-complement intervals of every reported match lie in
the array and map to exactly the occurrences of the match / of its reverse complement -/
theorem checkSmems_iff (T sa p : List Nat) (i l : Nat) (res : List SmemObs) :
    checkSmems T sa p i l res = true ↔ SmemsProp T sa p i l res := by
  unfold checkSmems SmemsProp
  rw [checkAgainst_iff]
  simp only [mem_smemsRef]

/-- **`all_smems(p, l)`**: accepted iff every supermaximal match of length ≥ `l` is reported at least once, nothing
else is reported, and all reported intervals are right -/
theorem checkAllSmems_iff (T sa p : List Nat) (l : Nat) (res : List SmemObs) :
    checkAllSmems T sa p l res = true ↔ AllSmemsProp T sa p l res := by
  unfold checkAllSmems AllSmemsProp
  rw [checkAgainst_iff]
  simp only [mem_allSmemsMin]

/-- specification level, any `l`: the set `AllSmemsProp` demands is the union over `i < |p|` of the sets `SmemsProp` demands — a pair
is a supermaximal match of length ≥ l iff it is one for some covered position `i < |p|` (about the predicate `Smem` only: neither
function nor any model of them occurs) -/
theorem allSmems_is_union (T p : List Nat) (l b len : Nat) :
    (Smem T p b len ∧ l ≤ len) ↔ ∃ i, i < p.length ∧ (Smem T p b len ∧ b ≤ i ∧ i < b + len ∧ l ≤ len) := by
  constructor
  · rintro ⟨h, hl⟩
    have h' := h
    obtain ⟨h1, h2, _⟩ := h'
    exact ⟨b, by omega, h, Nat.le_refl _, by omega, hl⟩
  · rintro ⟨i, _, h, _, _, hl⟩
    exact ⟨h, hl⟩

/-- **extension**: accepted iff the reported bi-interval is the bi-interval of the (extended) string `w`: size =
number of occurrences of `w` on both strands' intervals (hence empty iff `w` does not occur) and, when non-empty,
forward ↦ occurrences of `w`, reverse complement ↦ occurrences of `revcomp w` -/
theorem checkBi_iff (T sa w : List Nat) (o : BiObs) :
    checkBi T sa w o = true ↔ BiIntervalOf T sa w o := by
  simp only [checkBi, BiIntervalOf, Bool.and_eq_true, Bool.or_eq_true, decide_eq_true_eq, beq_iff_eq,
    mapsToB_iff, occurs_iff_length_pos, and_assoc]
  constructor
  · rintro ⟨h1, h2, h3, h4, h5⟩
    refine ⟨h1, h2, h3, h4, fun hne => ?_⟩
    rcases h5 with h5 | h5
    · exact absurd h5 hne
    · exact h5
  · rintro ⟨h1, h2, h3, h4, h5⟩
    refine ⟨h1, h2, h3, h4, ?_⟩
    by_cases hz : (occurrences w T).length = 0
    · exact Or.inl hz
    · exact Or.inr (h5 hz)

/-- a bi-interval of `w` is empty iff `w` does not occur -/
theorem bi_empty_iff (T sa w : List Nat) (o : BiObs) (h : BiIntervalOf T sa w o) :
    o.fhi - o.flo = 0 ↔ ¬ Occurs w T := by
  obtain ⟨_, _, h3, _, _⟩ := h
  rw [h3, occurs_iff_length_pos]; simp

/-- supermaximal matches are not nested: two different matches of the same pattern never contain one another
(so "supermaximal" = "cannot be extended on either side") -/
theorem smem_not_nested (T p : List Nat) (b len b' len' : Nat)
    (h : Smem T p b len) (h' : Smem T p b' len') (hb : b' ≤ b) (he : b + len ≤ b' + len') :
    b = b' ∧ len = len' := by
  have a := (SmemModel.absSmem_iff_smem T p b len).mpr h
  have a' := (SmemModel.absSmem_iff_smem T p b' len').mpr h'
  have hc := SmemModel.countLaws_cnt T p
  have hbb : b = b' := by
    rcases Nat.eq_or_lt_of_le hb with e | e
    · exact e.symm
    · exact absurd he (Nat.not_le_of_gt (SmemModel.absSmem_not_inside hc a a' e))
  subst hbb
  exact ⟨rfl, SmemModel.absSmem_same_start hc a a' (Nat.le_of_add_le_add_left he)⟩

/-! Non-vacuity: `T = ATTC$GAAT$` of the doc test (`$`=36 A=65 C=67 G=71 T=84), suffix array of that text,
pattern `ATT`: one supermaximal match (0,3); forward ↦ {0}, reverse complement `AAT` ↦ {6}. -/
section examples
private def T0 : List Nat := fmdText [[65, 84, 84, 67]]
private def sa0 : List Nat := [9, 4, 6, 7, 0, 3, 5, 8, 2, 1]

example : T0 = [65, 84, 84, 67, 36, 71, 65, 65, 84, 36] := by decide +kernel
example : allSmemsRef T0 [65, 84, 84] = [(0, 3)] := by decide +kernel
example : checkSmems T0 sa0 [65, 84, 84] 2 1 [⟨0, 3, 4, 5, 2, 3⟩] = true := by decide +kernel
example : checkSmems T0 sa0 [65, 84, 84] 2 1 [] = false := by decide +kernel
example : checkSmems T0 sa0 [65, 84, 84] 2 1 [⟨0, 3, 4, 5, 3, 4⟩] = false := by decide +kernel
example : checkSmems T0 sa0 [65, 84, 84] 2 4 [] = true := by decide +kernel
example : checkAllSmems T0 sa0 [65, 84, 84] 1 [⟨0, 3, 4, 5, 2, 3⟩, ⟨0, 3, 4, 5, 2, 3⟩] = true := by decide +kernel
-- pattern ATG: matches AT (0,2) and G (2,1)
example : allSmemsRef T0 [65, 84, 71] = [(0, 2), (2, 1)] := by decide +kernel
-- bi-interval of "AT": occurrences {0, 7}; revcomp "AT" is itself
example : checkBi T0 sa0 [65, 84] ⟨3, 5, 3, 5⟩ = true := by decide +kernel
example : checkBi T0 sa0 [65, 84] ⟨3, 4, 3, 4⟩ = false := by decide +kernel
-- "CC" does not occur: only an empty bi-interval is accepted
example : checkBi T0 sa0 [67, 67] ⟨5, 5, 2, 2⟩ = true := by decide +kernel
example : checkBi T0 sa0 [67, 67] ⟨5, 6, 2, 3⟩ = false := by decide +kernel
example : SmemsProp T0 sa0 [65, 84, 84] 2 1 [⟨0, 3, 4, 5, 2, 3⟩] := (checkSmems_iff ..).mp (by decide +kernel)
end examples

/-! ## mirror model of `backward_ext` / `forward_ext` / `init_interval_with`

`FMDModel.backwardExt less occ iv a` (`RbV/Model/FMDExt.lean`) follows the Rust loop over `$TGCNAtgcna` line by
line.  Its **forward** interval and its size are the LF step of C05 (so they are exactly the rows of `a·P` on every
`LF.Sorted` array).  The reverse-strand interval,

    IvOf t sa (revcomp P) iv.lowerRev (iv.lowerRev + iv.size) →
    IvOf t sa (revcomp (a :: P)) (backwardExt … iv a).lowerRev ((backwardExt … iv a).lowerRev + (backwardExt … iv a).size)

for `t = fmdText seqs`, rests on (i) strand symmetry of occurrence counts in `fmdText` (`strand_symmetry`) and (ii)
"rows starting with `Q` are ordered by the symbol after `Q`" (`FMDModel.next_mono`).  The full statements are
`backward_ext_correct` / `forward_ext_correct` at the end of this section; the `…_partial` theorems before them state
the two halves under explicit hypotheses.  `init_interval_with_correct` and `chain_correct` cover the start and the
composition.  The driver runs the model next to the implementation on every extension chain (tag `model=impl` /
`drift`). -/

/-- the order string of the loop is the byte order of the complements: `$ < A < C < G < N < T < a < c < g < n < t`
read through `dnaCompl` -/
theorem order_is_complement_order :
    FMDModel.order.map dnaCompl = [36, 65, 67, 71, 78, 84, 97, 99, 103, 110, 116] ∧
    (FMDModel.order.map dnaCompl).Pairwise (· < ·) := by decide

/-- forward half of `backward_ext` on a sorted array: if `[lower, lower+size)` are exactly the rows whose suffix
starts with `P` (non-empty interval), then after `backward_ext(·, a)` they are exactly the rows whose suffix starts
with `a·P`; in particular the new size is the number of such rows -/
theorem backward_ext_forward_partial (t sa : List Nat) (a : Nat) (P : List Nat) (iv : FMDModel.Bi)
    (ha : a ∈ FMDModel.order) (hs : LF.Sorted t sa a)
    (hiv : BSModel.IvOf t sa P iv.lower (iv.lower + iv.size)) (hne : 0 < iv.size) :
    BSModel.IvOf t sa (a :: P)
      (FMDModel.backwardExt (LF.lessRef (LF.bwtOf t sa)) (LF.occRef (LF.bwtOf t sa)) iv a).lower
      ((FMDModel.backwardExt (LF.lessRef (LF.bwtOf t sa)) (LF.occRef (LF.bwtOf t sa)) iv a).lower +
        (FMDModel.backwardExt (LF.lessRef (LF.bwtOf t sa)) (LF.occRef (LF.bwtOf t sa)) iv a).size) :=
  FMDModel.backwardExt_forward t sa _ _ a P iv ha (LF.lfStep_of_sorted hs) hiv hne

/-- reverse-strand half of `backward_ext`, **reduced to strand symmetry** (partial): on an array passing
`LF.sortedAllB`, if the reverse interval of `iv` holds exactly the rows of the sentinel-free `Q` (= `revcomp P`),
every such row is followed by a symbol of `$ACGTNacgtn`, and for every symbol `b` of the loop's order string the
size the loop computes for `b` (rows of `P`'s interval with BWT symbol `b`) equals the number of rows of
`Q·complement(b)` — strand symmetry of the indexed text, a property of the construction `s $ revcomp(s) $`, not of
the algorithm — then the new `[lower_rev, lower_rev+size)` are exactly the rows of `Q·complement(a) = revcomp(a·P)`.
Ingredients proved on the way (`RbV/Model/FMDRev.lean`): rows of `Q` are ordered by the symbol after `Q`
(`next_mono`), the block lemma for monotone keys (`mono_block`), the loop returns `lower_rev + Σ_{b before a} size_b`
(`extLoop_fst`), and `v < complement a ⇔ v = complement b for some b before a` on the order string (`lt_iff_before`).
The hypotheses `hin`, `halpha` are discharged for `t = fmdText seqs` in `backward_ext_reverse_fmd_partial`, `hsym` in
`backward_ext_correct`. -/
theorem backward_ext_reverse_partial (t sa : List Nat) (less : Nat → Nat) (occ : Nat → Nat → Nat) (a : Nat)
    (Q : List Nat) (iv : FMDModel.Bi) (ha : a ∈ FMDModel.order)
    (hchk : LF.sortedAllB t sa = true)
    (hQ : ∀ q ∈ Q, t.getD (t.length - 1) 0 ≠ q)
    (hiv : BSModel.IvOf t sa Q iv.lowerRev (iv.lowerRev + iv.size))
    (hin : ∀ r, iv.lowerRev ≤ r → r < iv.lowerRev + iv.size → sa.getD r 0 + Q.length < t.length)
    (halpha : ∀ r, iv.lowerRev ≤ r → r < iv.lowerRev + iv.size →
      t.getD (sa.getD r 0 + Q.length) 0 ∈ FMDModel.compOrder)
    (hsym : ∀ b ∈ FMDModel.order, FMDModel.cntOf occ iv b =
      (List.range iv.size).countP (fun i => t.getD (sa.getD (iv.lowerRev + i) 0 + Q.length) 0 == dnaCompl b)) :
    BSModel.IvOf t sa (Q ++ [dnaCompl a]) (FMDModel.backwardExt less occ iv a).lowerRev
      ((FMDModel.backwardExt less occ iv a).lowerRev + (FMDModel.backwardExt less occ iv a).size) :=
  FMDModel.backwardExt_reverse t sa less occ a Q iv ha hchk hQ hiv hin halpha hsym

/-- the same on an FMD text `fmdText seqs` (sequences over `ACGTNacgtn`): the two side conditions are discharged
(the text ends with `$`, every occurrence of a DNA string is followed by a text symbol, all text symbols are in
`$ACGTNacgtn`); strand symmetry `hsym` is a hypothesis here, `backward_ext_correct` derives it. -/
theorem backward_ext_reverse_fmd_partial (seqs : List (List Nat)) (sa : List Nat) (less : Nat → Nat)
    (occ : Nat → Nat → Nat) (a : Nat) (Q : List Nat) (iv : FMDModel.Bi) (ha : a ∈ FMDModel.order)
    (hne : seqs ≠ []) (hseqs : ∀ s ∈ seqs, ∀ c ∈ s, FMDModel.isDna c = true)
    (hchk : LF.sortedAllB (fmdText seqs) sa = true)
    (hQ : ∀ q ∈ Q, FMDModel.isDna q = true)
    (hiv : BSModel.IvOf (fmdText seqs) sa Q iv.lowerRev (iv.lowerRev + iv.size))
    (hsym : ∀ b ∈ FMDModel.order, FMDModel.cntOf occ iv b =
      (List.range iv.size).countP
        (fun i => (fmdText seqs).getD (sa.getD (iv.lowerRev + i) 0 + Q.length) 0 == dnaCompl b)) :
    BSModel.IvOf (fmdText seqs) sa (Q ++ [dnaCompl a]) (FMDModel.backwardExt less occ iv a).lowerRev
      ((FMDModel.backwardExt less occ iv a).lowerRev + (FMDModel.backwardExt less occ iv a).size) :=
  FMDModel.backwardExt_reverse_fmd seqs sa less occ a Q iv ha ⟨hne, hchk⟩ hseqs hQ hiv hsym

/-- `revcomp (a :: P) = revcomp P ++ [complement a]` — the string whose rows the reverse interval has to hold -/
theorem revcomp_cons (a : Nat) (P : List Nat) : revcomp (a :: P) = revcomp P ++ [dnaCompl a] :=
  FMDSym.revcomp_cons a P

/-- **strand symmetry** of an FMD text: for `W` of length ≥ 2 with no sentinel after its first symbol, the number of
occurrences of `W` in `$·T` (T with the cyclic predecessor of position 0, as the BWT sees it) equals the number of
occurrences of `revcomp W` in `T = fmdText seqs`, for every list of sequences -/
theorem strand_symmetry (seqs : List (List Nat)) (W : List Nat) (hW2 : 2 ≤ W.length)
    (hWns : ∀ k, 1 ≤ k → k < W.length → W[k]? ≠ some 36) :
    (occurrences W (36 :: fmdText seqs)).length = (occurrences (revcomp W) (fmdText seqs)).length :=
  FMDSym.strand_symmetry seqs W hW2 hWns

/-- reverse-complementing both pattern and text never changes the number of occurrences (any strings) -/
theorem occurrences_revcomp_length (W X : List Nat) :
    (occurrences W X).length = (occurrences (revcomp W) (revcomp X)).length :=
  FMDSym.occurrences_revcomp_length W X

/-- **`backward_ext` is correct (full statement).**  Index over `fmdText seqs` (non-empty list of sequences over
`ACGTNacgtn`), suffix array passing `LF.sortedAllB`, `iv` the non-empty bi-interval of the non-empty DNA string `P`
(forward rows = rows of `P`, reverse rows = rows of `revcomp P`): then the mirror model of `backward_ext(iv, a)`,
run on `less`/`occ` of the BWT, is the bi-interval of `a·P`, for every `a` of `ACGTNacgtn`. -/
theorem backward_ext_correct (seqs : List (List Nat)) (sa P : List Nat) (iv : FMDModel.Bi) (a : Nat)
    (hne : seqs ≠ []) (hseqs : ∀ s ∈ seqs, ∀ c ∈ s, FMDModel.isDna c = true)
    (hchk : LF.sortedAllB (fmdText seqs) sa = true)
    (hP : P ≠ []) (hPd : ∀ q ∈ P, FMDModel.isDna q = true) (ha : FMDModel.isDna a = true)
    (hbi : FMDSym.BiOf (fmdText seqs) sa P iv) (hpos : 0 < iv.size) :
    FMDSym.BiOf (fmdText seqs) sa (a :: P)
      (FMDModel.backwardExt (LF.lessRef (LF.bwtOf (fmdText seqs) sa)) (LF.occRef (LF.bwtOf (fmdText seqs) sa)) iv a) :=
  FMDSym.backwardExt_correct seqs sa P iv a ⟨hne, hchk⟩ hseqs hP hPd ha hbi hpos

/-- **`forward_ext` is correct (full statement)**: … is the bi-interval of `P·a` -/
theorem forward_ext_correct (seqs : List (List Nat)) (sa P : List Nat) (iv : FMDModel.Bi) (a : Nat)
    (hne : seqs ≠ []) (hseqs : ∀ s ∈ seqs, ∀ c ∈ s, FMDModel.isDna c = true)
    (hchk : LF.sortedAllB (fmdText seqs) sa = true)
    (hP : P ≠ []) (hPd : ∀ q ∈ P, FMDModel.isDna q = true) (ha : FMDModel.isDna a = true)
    (hbi : FMDSym.BiOf (fmdText seqs) sa P iv) (hpos : 0 < iv.size) :
    FMDSym.BiOf (fmdText seqs) sa (P ++ [a])
      (FMDModel.forwardExt (LF.lessRef (LF.bwtOf (fmdText seqs) sa)) (LF.occRef (LF.bwtOf (fmdText seqs) sa)) iv a) :=
  FMDSym.forwardExt_correct seqs sa P iv a ⟨hne, hchk⟩ hseqs hP hPd ha hbi hpos

/-- **`init_interval_with(a)` is the bi-interval of the one-symbol string `a`** (uses that a DNA symbol and its
complement are equally frequent in an FMD text: `FMDSym.count_symmetry`) -/
theorem init_interval_with_correct (seqs : List (List Nat)) (sa : List Nat) (a : Nat)
    (hne : seqs ≠ []) (hchk : LF.sortedAllB (fmdText seqs) sa = true) (ha : FMDModel.isDna a = true) :
    FMDSym.BiOf (fmdText seqs) sa [a] (FMDModel.initIntervalWith (LF.lessRef (LF.bwtOf (fmdText seqs) sa)) a) :=
  FMDSym.initIntervalWith_correct seqs sa a ⟨hne, hchk⟩ ha

/-- **chains** (what `smems` and the harness do): starting from `init_interval_with(w[j])`, every forward step
turns the bi-interval of `w[lo..hi)` into that of `w[lo..hi+1)` and every backward step into that of `w[lo-1..hi)`,
as long as the current bi-interval is non-empty — so every bi-interval a chain visits is the bi-interval of the
substring built so far -/
theorem chain_correct (seqs : List (List Nat)) (sa w : List Nat)
    (hne : seqs ≠ []) (hseqs : ∀ s ∈ seqs, ∀ c ∈ s, FMDModel.isDna c = true)
    (hchk : LF.sortedAllB (fmdText seqs) sa = true) (hw : ∀ c ∈ w, FMDModel.isDna c = true) :
    (∀ j, j < w.length →
      FMDSym.BiOf (fmdText seqs) sa (sub w j (j + 1 - j))
        (FMDModel.initIntervalWith (LF.lessRef (LF.bwtOf (fmdText seqs) sa)) (w.getD j 0))) ∧
    (∀ iv lo hi, lo < hi → hi < w.length → FMDSym.BiOf (fmdText seqs) sa (sub w lo (hi - lo)) iv → 0 < iv.size →
      FMDSym.BiOf (fmdText seqs) sa (sub w lo (hi + 1 - lo))
        (FMDModel.forwardExt (LF.lessRef (LF.bwtOf (fmdText seqs) sa)) (LF.occRef (LF.bwtOf (fmdText seqs) sa)) iv
          (w.getD hi 0))) ∧
    (∀ iv lo hi, 1 ≤ lo → lo < hi → hi ≤ w.length → FMDSym.BiOf (fmdText seqs) sa (sub w lo (hi - lo)) iv →
      0 < iv.size →
      FMDSym.BiOf (fmdText seqs) sa (sub w (lo - 1) (hi - (lo - 1)))
        (FMDModel.backwardExt (LF.lessRef (LF.bwtOf (fmdText seqs) sa)) (LF.occRef (LF.bwtOf (fmdText seqs) sa)) iv
          (w.getD (lo - 1) 0))) :=
  ⟨fun j hj => FMDSym.chain_start seqs sa w j ⟨hne, hchk⟩ hw hj,
   fun iv lo hi h1 h2 h3 h4 => FMDSym.chain_step_forward seqs sa w iv lo hi ⟨hne, hchk⟩ hseqs hw h1 h2 h3 h4,
   fun iv lo hi h0 h1 h2 h3 h4 => FMDSym.chain_step_backward seqs sa w iv lo hi ⟨hne, hchk⟩ hseqs hw h0 h1 h2 h3 h4⟩

/-- row-level correctness implies the property-level statement the oracle checks (`BiIntervalOf`, decided by
`checkBi`): size = number of occurrences on both strands, both intervals map to the right occurrence sets -/
theorem biOf_is_biIntervalOf (T sa P : List Nat) (iv : FMDModel.Bi) (hperm : sa.Perm (List.range T.length))
    (hP : P ≠ []) (h : FMDSym.BiOf T sa P iv) :
    BiIntervalOf T sa P ⟨iv.lower, iv.lower + iv.size, iv.lowerRev, iv.lowerRev + iv.size⟩ :=
  FMDSym.biIntervalOf_of_biOf T sa P iv hperm hP h

section model_examples
-- T = ATTC$GAAT$, the doc test: backward_ext / forward_ext of the empty interval by `T` = init_interval_with(T)
private def bw0 : List Nat := LF.bwtOf T0 sa0
example : FMDModel.backwardExt (LF.lessRef bw0) (LF.occRef bw0) (FMDModel.initInterval 10) 84
    = { FMDModel.initIntervalWith (LF.lessRef bw0) 84 with matchSize := 1 } := by decide +kernel
example : FMDModel.forwardExt (LF.lessRef bw0) (LF.occRef bw0) (FMDModel.initInterval 10) 84
    = FMDModel.initIntervalWith (LF.lessRef bw0) 84 := by decide +kernel
-- A then T forwards: the bi-interval of "AT" accepted by the oracle above (rows 3..5 on both strands)
example : FMDModel.fwd (FMDModel.forwardExt (LF.lessRef bw0) (LF.occRef bw0) (FMDModel.initIntervalWith (LF.lessRef bw0) 65) 84)
    = (3, 5) := by decide +kernel
-- non-vacuity of `backward_ext_correct`: the doc-test index passes `sortedAllB`, and the model's bi-interval of
-- "T" extended backwards by "A" is the bi-interval of "AT" accepted by `checkBi` above
example : LF.sortedAllB T0 sa0 = true := by decide +kernel
example : FMDModel.backwardExt (LF.lessRef bw0) (LF.occRef bw0) (FMDModel.initIntervalWith (LF.lessRef bw0) 84) 65
    = { lower := 3, lowerRev := 3, size := 2, matchSize := 2 } := by decide +kernel
end model_examples

/-! ## mirror model of Li's sweep: `smems` and `all_smems`

`SmemModel.smems ops pattern i l` / `SmemModel.allSmems ops pattern l` (`RbV/Model/Smems.lean`) follow
`FMDIndex::smems` / `all_smems` line by line over an abstract interval type with the four operations the code uses.
`SmemModel.biOps less occ` instantiates them with the bi-interval model of `RbV/Model/FMDExt.lean` (this is what
the implementation computes; the driver runs it on every `smems` line, tag `smems-model=impl` / `drift-smems`);
`SmemModel.strOps (cnt T pattern)` is the string-level model: an interval is the substring `pattern[b..e)` it stands
for, its size the number of occurrences of that substring (`smemsStr`, `allSmemsStr`).  The proofs are assembled in
`RbV/Lemmas/SmemsFmd.lean`. -/

/-- **the string-level model of `smems(pattern, i, l)` is correct** (`l ≥ 1`, `i < |pattern|`): it returns, as a set,
exactly the supermaximal exact matches covering `i` of length ≥ `l` — everything returned is such a match (cannot
be extended to the left or to the right), and every such match is returned -/
theorem smems_model_correct (T pat : List Nat) (i l : Nat) (hi : i < pat.length) (hl : 1 ≤ l) (b len : Nat) :
    (b, len) ∈ SmemModel.smemsStr T pat i l ↔ (Smem T pat b len ∧ b ≤ i ∧ i < b + len ∧ l ≤ len) := by
  rw [SmemModel.smemsStr_correct T pat i l hi hl, mem_smemsRef]

/-- … i.e. the same set as the brute-force reference `smemsRef` the driver's oracle uses -/
theorem smems_model_eq_ref (T pat : List Nat) (i l : Nat) (hi : i < pat.length) (hl : 1 ≤ l) :
    sameSetG (SmemModel.smemsStr T pat i l) (smemsRef T pat i l) = true := by
  rw [sameSetG_iff]
  rintro ⟨b, len⟩
  exact SmemModel.smemsStr_correct T pat i l hi hl b len

/-- **the string-level model of `all_smems(pattern, l)` is correct** (`l ≥ 1`): every supermaximal exact match of
length ≥ `l` appears at least once, nothing else appears (the positions visited by the `while` loop cover every match
because matches are not nested) -/
theorem all_smems_model_correct (T pat : List Nat) (l : Nat) (hl : 1 ≤ l) (b len : Nat) :
    (b, len) ∈ SmemModel.allSmemsStr T pat l ↔ (Smem T pat b len ∧ l ≤ len) := by
  rw [SmemModel.allSmemsStr_correct T pat l hl, mem_allSmemsMin]

/-- **bi-interval model = string-level model**: on every FMD index (sequences and pattern over `ACGTNacgtn`, array
passing `LF.sortedAllB`) the sweep over the bi-interval operations reports the same (position, length) pairs as the
string-level sweep, in the same order -/
theorem smems_bi_model_eq_string (seqs : List (List Nat)) (sa pat : List Nat)
    (hne : seqs ≠ []) (hseqs : ∀ s ∈ seqs, ∀ c ∈ s, FMDModel.isDna c = true)
    (hchk : LF.sortedAllB (fmdText seqs) sa = true) (hpat : ∀ c ∈ pat, FMDModel.isDna c = true)
    (i l : Nat) (hi : i < pat.length) :
    (SmemModel.smems (SmemModel.biOps (LF.lessRef (LF.bwtOf (fmdText seqs) sa)) (LF.occRef (LF.bwtOf (fmdText seqs) sa)))
      pat i l).map (fun h => (h.pos, h.len)) = SmemModel.smemsStr (fmdText seqs) pat i l :=
  SmemModel.smems_bi_eq_str seqs sa pat ⟨hne, hchk⟩ hseqs hpat i l hi

/-- **the mirror model of `FMDIndex::smems` satisfies the property**: run on `less`/`occ` of the BWT of an FMD
index, for `i < |pattern|` and `l ≥ 1`, its output (as the harness prints it: position, length, `forward()` and
`revcomp()` intervals) is, as a set, exactly the supermaximal exact matches covering `i` of length ≥ `l`, and both
intervals of every reported match map to exactly the occurrences of the match / of its reverse complement -/
theorem smems_bi_model_correct (seqs : List (List Nat)) (sa pat : List Nat)
    (hne : seqs ≠ []) (hseqs : ∀ s ∈ seqs, ∀ c ∈ s, FMDModel.isDna c = true)
    (hchk : LF.sortedAllB (fmdText seqs) sa = true) (hpat : ∀ c ∈ pat, FMDModel.isDna c = true)
    (i l : Nat) (hi : i < pat.length) (hl : 1 ≤ l) :
    SmemsProp (fmdText seqs) sa pat i l
      ((SmemModel.smems (SmemModel.biOps (LF.lessRef (LF.bwtOf (fmdText seqs) sa))
        (LF.occRef (LF.bwtOf (fmdText seqs) sa))) pat i l).map SmemModel.hitObs) :=
  SmemModel.smems_bi_prop seqs sa pat ⟨hne, hchk⟩ hseqs hpat i l hi hl

/-- **the mirror model of `FMDIndex::all_smems` satisfies the property** -/
theorem all_smems_bi_model_correct (seqs : List (List Nat)) (sa pat : List Nat)
    (hne : seqs ≠ []) (hseqs : ∀ s ∈ seqs, ∀ c ∈ s, FMDModel.isDna c = true)
    (hchk : LF.sortedAllB (fmdText seqs) sa = true) (hpat : ∀ c ∈ pat, FMDModel.isDna c = true)
    (l : Nat) (hl : 1 ≤ l) :
    AllSmemsProp (fmdText seqs) sa pat l
      ((SmemModel.allSmems (SmemModel.biOps (LF.lessRef (LF.bwtOf (fmdText seqs) sa))
        (LF.occRef (LF.bwtOf (fmdText seqs) sa))) pat l).map SmemModel.hitObs) :=
  SmemModel.allSmems_bi_prop seqs sa pat ⟨hne, hchk⟩ hseqs hpat l hl

/-- … hence the oracle accepts the model's output: on every FMD index the checker and the mirror model agree -/
theorem smems_model_accepted (seqs : List (List Nat)) (sa pat : List Nat)
    (hne : seqs ≠ []) (hseqs : ∀ s ∈ seqs, ∀ c ∈ s, FMDModel.isDna c = true)
    (hchk : LF.sortedAllB (fmdText seqs) sa = true) (hpat : ∀ c ∈ pat, FMDModel.isDna c = true)
    (i l : Nat) (hi : i < pat.length) (hl : 1 ≤ l) :
    checkSmems (fmdText seqs) sa pat i l
      ((SmemModel.smems (SmemModel.biOps (LF.lessRef (LF.bwtOf (fmdText seqs) sa))
        (LF.occRef (LF.bwtOf (fmdText seqs) sa))) pat i l).map SmemModel.hitObs) = true :=
  (checkSmems_iff _ _ _ _ _ _).mpr (smems_bi_model_correct seqs sa pat hne hseqs hchk hpat i l hi hl)

/-! ### no sortedness hypothesis left: arrays accepted by C03's checker

`checkSA t sa = true ↔ IsSA t sa` (`RbV.Thm.C03.checkSA_iff`).  In an FMD text the sentinel is the last and the
smallest symbol, so every accepted array passes `LF.sortedAllB` (`RbV/Lemmas/SortedBridge.lean`,
`RbV/Lemmas/FmdBridge.lean`) and all theorems above apply. -/

/-- every suffix array C03's checker accepts for an FMD text satisfies the sortedness hypothesis `LF.sortedAllB` of
`backward_ext_correct`, `forward_ext_correct`, `init_interval_with_correct`, `chain_correct` and the sweep theorems -/
theorem sortedAllB_of_checkSA (seqs : List (List Nat)) (sa : List Nat) (hne : seqs ≠ [])
    (hseqs : ∀ s ∈ seqs, ∀ c ∈ s, FMDModel.isDna c = true) (hc : checkSA (fmdText seqs) sa = true) :
    LF.sortedAllB (fmdText seqs) sa = true :=
  SmemModel.sortedAllB_of_checkSA_fmd seqs sa hne hseqs hc

/-- `backward_ext` on every array accepted by C03's checker -/
theorem backward_ext_correct_of_checkSA (seqs : List (List Nat)) (sa P : List Nat) (iv : FMDModel.Bi) (a : Nat)
    (hne : seqs ≠ []) (hseqs : ∀ s ∈ seqs, ∀ c ∈ s, FMDModel.isDna c = true)
    (hc : checkSA (fmdText seqs) sa = true)
    (hP : P ≠ []) (hPd : ∀ q ∈ P, FMDModel.isDna q = true) (ha : FMDModel.isDna a = true)
    (hbi : FMDSym.BiOf (fmdText seqs) sa P iv) (hpos : 0 < iv.size) :
    FMDSym.BiOf (fmdText seqs) sa (a :: P)
      (FMDModel.backwardExt (LF.lessRef (LF.bwtOf (fmdText seqs) sa)) (LF.occRef (LF.bwtOf (fmdText seqs) sa)) iv a) :=
  backward_ext_correct seqs sa P iv a hne hseqs (sortedAllB_of_checkSA seqs sa hne hseqs hc) hP hPd ha hbi hpos

/-- `forward_ext` on every array accepted by C03's checker -/
theorem forward_ext_correct_of_checkSA (seqs : List (List Nat)) (sa P : List Nat) (iv : FMDModel.Bi) (a : Nat)
    (hne : seqs ≠ []) (hseqs : ∀ s ∈ seqs, ∀ c ∈ s, FMDModel.isDna c = true)
    (hc : checkSA (fmdText seqs) sa = true)
    (hP : P ≠ []) (hPd : ∀ q ∈ P, FMDModel.isDna q = true) (ha : FMDModel.isDna a = true)
    (hbi : FMDSym.BiOf (fmdText seqs) sa P iv) (hpos : 0 < iv.size) :
    FMDSym.BiOf (fmdText seqs) sa (P ++ [a])
      (FMDModel.forwardExt (LF.lessRef (LF.bwtOf (fmdText seqs) sa)) (LF.occRef (LF.bwtOf (fmdText seqs) sa)) iv a) :=
  forward_ext_correct seqs sa P iv a hne hseqs (sortedAllB_of_checkSA seqs sa hne hseqs hc) hP hPd ha hbi hpos

/-- `init_interval_with` on every array accepted by C03's checker -/
theorem init_interval_with_correct_of_checkSA (seqs : List (List Nat)) (sa : List Nat) (a : Nat)
    (hne : seqs ≠ []) (hseqs : ∀ s ∈ seqs, ∀ c ∈ s, FMDModel.isDna c = true)
    (hc : checkSA (fmdText seqs) sa = true) (ha : FMDModel.isDna a = true) :
    FMDSym.BiOf (fmdText seqs) sa [a] (FMDModel.initIntervalWith (LF.lessRef (LF.bwtOf (fmdText seqs) sa)) a) :=
  init_interval_with_correct seqs sa a hne (sortedAllB_of_checkSA seqs sa hne hseqs hc) ha

/-- **`smems` on every array accepted by C03's checker**: for every list of sequences and every pattern over
`ACGTNacgtn`, every `sa` with `checkSA (fmdText seqs) sa = true`, `i < |pattern|`, `l ≥ 1`, the mirror model returns
exactly what the property demands -/
theorem smems_bi_model_correct_of_checkSA (seqs : List (List Nat)) (sa pat : List Nat)
    (hne : seqs ≠ []) (hseqs : ∀ s ∈ seqs, ∀ c ∈ s, FMDModel.isDna c = true)
    (hc : checkSA (fmdText seqs) sa = true) (hpat : ∀ c ∈ pat, FMDModel.isDna c = true)
    (i l : Nat) (hi : i < pat.length) (hl : 1 ≤ l) :
    SmemsProp (fmdText seqs) sa pat i l
      ((SmemModel.smems (SmemModel.biOps (LF.lessRef (LF.bwtOf (fmdText seqs) sa))
        (LF.occRef (LF.bwtOf (fmdText seqs) sa))) pat i l).map SmemModel.hitObs) :=
  smems_bi_model_correct seqs sa pat hne hseqs (sortedAllB_of_checkSA seqs sa hne hseqs hc) hpat i l hi hl

/-- **`all_smems` on every array accepted by C03's checker** -/
theorem all_smems_bi_model_correct_of_checkSA (seqs : List (List Nat)) (sa pat : List Nat)
    (hne : seqs ≠ []) (hseqs : ∀ s ∈ seqs, ∀ c ∈ s, FMDModel.isDna c = true)
    (hc : checkSA (fmdText seqs) sa = true) (hpat : ∀ c ∈ pat, FMDModel.isDna c = true)
    (l : Nat) (hl : 1 ≤ l) :
    AllSmemsProp (fmdText seqs) sa pat l
      ((SmemModel.allSmems (SmemModel.biOps (LF.lessRef (LF.bwtOf (fmdText seqs) sa))
        (LF.occRef (LF.bwtOf (fmdText seqs) sa))) pat l).map SmemModel.hitObs) :=
  all_smems_bi_model_correct seqs sa pat hne hseqs (sortedAllB_of_checkSA seqs sa hne hseqs hc) hpat l hl

/-! ### the two cases `chain_correct` leaves out: extension of `init_interval()` and of an empty bi-interval -/

/-- **extension of `init_interval()`** (the bi-interval of the empty string, `[0, n)` on both strands): on every FMD
index, `backward_ext(init_interval(), a)` and `forward_ext(init_interval(), a)` both equal `init_interval_with(a)` —
field by field, `match_size` included — for every `a` of `ACGTNacgtn`, hence are the bi-interval of the one-symbol
string `a` -/
theorem init_interval_ext_correct (seqs : List (List Nat)) (sa : List Nat) (a : Nat)
    (hne : seqs ≠ []) (hseqs : ∀ s ∈ seqs, ∀ c ∈ s, FMDModel.isDna c = true)
    (hchk : LF.sortedAllB (fmdText seqs) sa = true) (ha : FMDModel.isDna a = true) :
    FMDModel.backwardExt (LF.lessRef (LF.bwtOf (fmdText seqs) sa)) (LF.occRef (LF.bwtOf (fmdText seqs) sa))
        (FMDModel.initInterval sa.length) a = FMDModel.initIntervalWith (LF.lessRef (LF.bwtOf (fmdText seqs) sa)) a ∧
    FMDModel.forwardExt (LF.lessRef (LF.bwtOf (fmdText seqs) sa)) (LF.occRef (LF.bwtOf (fmdText seqs) sa))
        (FMDModel.initInterval sa.length) a = FMDModel.initIntervalWith (LF.lessRef (LF.bwtOf (fmdText seqs) sa)) a ∧
    FMDSym.BiOf (fmdText seqs) sa [a]
      (FMDModel.backwardExt (LF.lessRef (LF.bwtOf (fmdText seqs) sa)) (LF.occRef (LF.bwtOf (fmdText seqs) sa))
        (FMDModel.initInterval sa.length) a) := by
  have hperm := LF.sortedAllB_perm hchk
  have h1 := FMDSym.backwardExt_initInterval seqs sa hne hseqs hperm a ha
  refine ⟨h1, FMDSym.forwardExt_initInterval seqs sa hne hseqs hperm a ha, ?_⟩
  rw [h1]
  exact init_interval_with_correct seqs sa a hne hchk ha

/-- **extension of an empty bi-interval**: for any `less`/`occ`, any symbol `a`, extending an empty bi-interval whose
lower bound on the extended strand's side is non-zero gives an empty bi-interval (`occ(lower−1,·) − occ(lower−1,·)`).
In `smems` the only empty interval that is ever extended is `init_interval_with(pattern[i])` of a symbol that does
not occur; its bounds are `less(a)`, `less(complement a) ≥ 1` on an FMD index (`FMDSym.less_pos`).  (With
`lower = 0` the Rust expression `interval.lower + interval.size - 1` would underflow.) -/
theorem ext_of_empty_is_empty (less : Nat → Nat) (occ : Nat → Nat → Nat) (iv : FMDModel.Bi) (a : Nat)
    (h0 : iv.size = 0) :
    (iv.lower ≠ 0 → (FMDModel.backwardExt less occ iv a).size = 0) ∧
    (iv.lowerRev ≠ 0 → (FMDModel.forwardExt less occ iv a).size = 0) :=
  ⟨fun h => FMDModel.backwardExt_dead less occ iv a h0 h, fun h => FMDModel.forwardExt_dead less occ iv a h0 h⟩

-- the doc-test index: `backward_ext(init_interval(), T)` through the theorem; an empty interval (`N` does not occur)
example : FMDModel.backwardExt (LF.lessRef (LF.bwtOf T0 sa0)) (LF.occRef (LF.bwtOf T0 sa0)) (FMDModel.initInterval sa0.length) 84
    = FMDModel.initIntervalWith (LF.lessRef (LF.bwtOf T0 sa0)) 84 :=
  (init_interval_ext_correct [[65, 84, 84, 67]] sa0 84 (by decide +kernel) (by decide +kernel) (by decide +kernel) (by decide +kernel)).1
example : (FMDModel.initIntervalWith (LF.lessRef bw0) 78).size = 0 ∧ (FMDModel.initIntervalWith (LF.lessRef bw0) 78).lower ≠ 0 ∧
    (FMDModel.backwardExt (LF.lessRef bw0) (LF.occRef bw0) (FMDModel.initIntervalWith (LF.lessRef bw0) 78) 65).size = 0 := by
  decide +kernel

section sweep_examples
-- T = ATTC$GAAT$: the doc test `smems(ATT, 2, ·)` and pattern ATG (matches AT and G)
example : SmemModel.smemsStr T0 [65, 84, 84] 2 1 = [(0, 3)] := by decide +kernel
example : SmemModel.allSmemsStr T0 [65, 84, 71] 1 = [(0, 2), (2, 1)] := by decide +kernel
example : (SmemModel.smems (SmemModel.biOps (LF.lessRef bw0) (LF.occRef bw0)) [65, 84, 84] 2 1).map SmemModel.hitObs
    = [⟨0, 3, 4, 5, 2, 3⟩] := by decide +kernel
example : (SmemModel.allSmems (SmemModel.biOps (LF.lessRef bw0) (LF.occRef bw0)) [65, 84, 71] 1).map SmemModel.hitObs
    = [⟨0, 2, 3, 5, 3, 5⟩, ⟨2, 1, 6, 7, 5, 6⟩] := by decide +kernel
-- `pattern[i]` does not occur (N): nothing is reported
example : SmemModel.smemsStr T0 [65, 78, 84] 1 1 = [] := by decide +kernel
-- non-vacuity: all hypotheses of the sweep theorems hold on the doc-test index, through C03's checker too
example : checkSA T0 sa0 = true := by decide +kernel
example : SmemsProp T0 sa0 [65, 84, 84] 2 1
    ((SmemModel.smems (SmemModel.biOps (LF.lessRef (LF.bwtOf T0 sa0)) (LF.occRef (LF.bwtOf T0 sa0)))
      [65, 84, 84] 2 1).map SmemModel.hitObs) :=
  smems_bi_model_correct_of_checkSA [[65, 84, 84, 67]] sa0 [65, 84, 84] (by decide +kernel) (by decide +kernel) (by decide +kernel)
    (by decide +kernel) 2 1 (by decide +kernel) (by decide +kernel)
example : AllSmemsProp T0 sa0 [65, 84, 71] 1
    ((SmemModel.allSmems (SmemModel.biOps (LF.lessRef (LF.bwtOf T0 sa0)) (LF.occRef (LF.bwtOf T0 sa0)))
      [65, 84, 71] 1).map SmemModel.hitObs) :=
  all_smems_bi_model_correct [[65, 84, 84, 67]] sa0 [65, 84, 71] (by decide +kernel) (by decide +kernel) (by decide +kernel) (by decide +kernel) 1
    (by decide +kernel)
example : LF.sortedAllB T0 sa0 = true :=
  sortedAllB_of_checkSA [[65, 84, 84, 67]] sa0 (by decide +kernel) (by decide +kernel) (by decide +kernel)
example : checkSmems T0 sa0 [65, 84, 71] 1 1
    ((SmemModel.smems (SmemModel.biOps (LF.lessRef (LF.bwtOf T0 sa0)) (LF.occRef (LF.bwtOf T0 sa0)))
      [65, 84, 71] 1 1).map SmemModel.hitObs) = true :=
  smems_model_accepted [[65, 84, 84, 67]] sa0 [65, 84, 71] (by decide +kernel) (by decide +kernel) (by decide +kernel) (by decide +kernel) 1 1
    (by decide +kernel) (by decide +kernel)
example : (SmemModel.smems (SmemModel.biOps (LF.lessRef (LF.bwtOf T0 sa0)) (LF.occRef (LF.bwtOf T0 sa0)))
      [65, 84, 71] 1 1).map (fun h => (h.pos, h.len)) = SmemModel.smemsStr T0 [65, 84, 71] 1 1 :=
  smems_bi_model_eq_string [[65, 84, 84, 67]] sa0 [65, 84, 71] (by decide +kernel) (by decide +kernel) (by decide +kernel) (by decide +kernel) 1 1
    (by decide +kernel)
example (b len : Nat) : (b, len) ∈ SmemModel.allSmemsStr T0 [65, 84, 71] 1 ↔ (Smem T0 [65, 84, 71] b len ∧ 1 ≤ len) :=
  all_smems_model_correct T0 [65, 84, 71] 1 (by decide +kernel) b len
example (b len : Nat) : (b, len) ∈ SmemModel.smemsStr T0 [65, 84, 84] 2 1 ↔
    (Smem T0 [65, 84, 84] b len ∧ b ≤ 2 ∧ 2 < b + len ∧ 1 ≤ len) :=
  smems_model_correct T0 [65, 84, 84] 2 1 (by decide +kernel) (by decide +kernel) b len
end sweep_examples

/-! ### The translated source text (`RbV/Gen/SrcFmd*.lean`, regenerated from `fmindex.rs` on every run; docs/notes/GEN.md)

`BiInterval` is the tuple `(lower, lower_rev, size, match_size)` (`toT`); `less` / `occ` are function parameters.  The
extension functions are tied to the mirror model on **non-empty** intervals (on empty ones the property leaves the
value free; `*_dead`: no panic, empty again), `smems` / `all_smems` to the sweep model over any operations the
translated extension functions compute on a closed set of safe intervals, **up to the order of the matches**. -/
section source
open RbV.Gen RbV.Thm.GenSrcFmdExt RbV.Thm.GenSrcFmdSmems RbV.Thm.GenSrcFmdAllSmems RbV.Thm.GenSrcFmdIndex RbV.FMDModel

/-- translated `init_interval_with`, with `dna::complement` replaced by the specification's `dnaCompl` (which agrees with the Rust
table on `$ACGTNacgtn` and on non-IUPAC bytes; `dna.rs` also swaps `R↔Y`, `K↔M`, …), = mirror model for `a < 255` (`a + 1` is
computed in `u8`) and `less(a) ≤ less(a+1)` (else the subtraction panics); translated `init_interval` = mirror model -/
theorem fmd_init_interval_source_eq_model (lessF : Nat → Nat) (a : Nat) (ha : a < 255) (hm : lessF a ≤ lessF (a + 1))
    (bwt : List Nat) :
    SrcFmdExt.init_interval_with lessF dnaCompl a = Rs.Res.ok (toT (initIntervalWith lessF a)) ∧
      SrcFmdExt.init_interval bwt = Rs.Res.ok (toT (initInterval bwt.length)) :=
  ⟨init_interval_with_eq_model lessF a ha hm, init_interval_eq_model bwt⟩

/-- translated `backward_ext` = mirror model on every non-empty interval on which the checked arithmetic stays below
`2^64` (`N` bounds `occ`) and `occ` does not decrease between the two rows read, for every symbol of the order string (`OccMono`;
else `occ(…) − o` panics) -/
theorem fmd_backward_ext_source_eq_model (lessF : Nat → Nat) (occF : Nat → Nat → Nat) (iv : Bi) (a N : Nat)
    (hpos : 0 < iv.size) (h64 : iv.lower + iv.size < 2 ^ 64) (hm : OccMono occF iv order)
    (hN : ∀ r b, occF r b ≤ N) (hsum : iv.lowerRev + (order.map (sOf occF iv)).sum < 2 ^ 64)
    (hk : lessF a + N < 2 ^ 64) (hms : iv.matchSize + 1 < 2 ^ 64) :
    SrcFmdExt.backward_ext lessF occF (toT iv) a = Rs.Res.ok (toT (backwardExt lessF occF iv a)) :=
  backward_ext_eq_model lessF occF iv a N hpos h64 hm hN hsum hk hms

/-- translated `forward_ext`, with `dna::complement` replaced by `dnaCompl`, = mirror model (same hypotheses for the swapped interval
and the complement symbol) -/
theorem fmd_forward_ext_source_eq_model (lessF : Nat → Nat) (occF : Nat → Nat → Nat) (iv : Bi) (a N : Nat)
    (hpos : 0 < iv.size) (h64 : iv.lowerRev + iv.size < 2 ^ 64) (hm : OccMono occF (swapped iv) order)
    (hN : ∀ r b, occF r b ≤ N) (hsum : iv.lower + (order.map (sOf occF (swapped iv))).sum < 2 ^ 64)
    (hk : lessF (dnaCompl a) + N < 2 ^ 64) (hms : iv.matchSize + 1 < 2 ^ 64) :
    SrcFmdExt.forward_ext lessF occF dnaCompl (toT iv) a = Rs.Res.ok (toT (forwardExt lessF occF iv a)) :=
  forward_ext_eq_model lessF occF iv a N hpos h64 hm hN hsum hk hms

/-- extension of an **empty** interval with non-zero bounds: no panic, empty again (whatever its other fields are) -/
theorem fmd_ext_of_empty_source (lessF : Nat → Nat) (occF : Nat → Nat → Nat) (iv : Bi) (a N B : Nat)
    (h0 : iv.size = 0) (hl : 1 ≤ iv.lower) (hlB : iv.lower ≤ B) (hr : 1 ≤ iv.lowerRev) (hrB : iv.lowerRev ≤ B)
    (hB : B < 2 ^ 64) (hN : ∀ r b, occF r b ≤ N) (hk : lessF a + N ≤ B) (hk' : lessF (dnaCompl a) + N ≤ B)
    (hms : iv.matchSize + 1 < 2 ^ 64) :
    DeadOk iv B (1 ≤ lessF a) True (SrcFmdExt.backward_ext lessF occF (toT iv) a) ∧
      DeadOk iv B True (1 ≤ lessF (dnaCompl a)) (SrcFmdExt.forward_ext lessF occF dnaCompl (toT iv) a) :=
  ⟨backward_ext_dead lessF occF iv a N B h0 hl hlB hr hrB hB hN hk hms,
   forward_ext_dead lessF occF iv a N B h0 hl hlB hr hrB hB hN hk' hms⟩

/-- translated `smems` = sweep model, for **every** family of operations the translated extension functions compute on
a closed set of safe intervals (`SafeOps`), up to the order of the matches; `hdead`: the model reports nothing when
`pattern[i]` does not occur (holds for `l ≥ 1`; how the text reaches the empty answer there is left free — seeded C06-H4); for
`i < |pattern|` and `|pattern| + 1 < 2^63`.  The same statement without `hdead` (hence also `l = 0`, still up to order) is the soft
module `Thm/GenSrcFmdSmemsModel.lean`. -/
theorem fmd_smems_source_eq_model (lessF : Nat → Nat) (occF : Nat → Nat → Nat) (ops : SmemModel.Ops Bi)
    (S : Nat → Bi → Prop) (pat : List Nat) (hS : SafeOps lessF occF ops S pat) (i l : Nat) (hi : i < pat.length)
    (hL : pat.length + 1 < 2 ^ 63)
    (hdead : (ops.initWith i (pat.getD i 0)).size = 0 → SmemModel.smems ops pat i l = []) :
    ∃ res, SrcFmdSmems.smems lessF occF dnaCompl pat i l = Rs.Res.ok res ∧
      res.Perm ((SmemModel.smems ops pat i l).map hitT) :=
  smems_eq_model_of hS i l hi hL hdead

/-- translated `all_smems` returns the sweep model's matches up to order, given (`SmemsOk`) that for every `i < |pattern|` the
translated `smems` returns the model's matches in some order and every model match has `pos + len < 2^64`; `|pattern| + 1 < 2^63` -/
theorem fmd_all_smems_source_eq_model (lessF : Nat → Nat) (occF : Nat → Nat → Nat) (ops : SmemModel.Ops Bi)
    (pat : List Nat) (l : Nat) (hsm : SmemsOk lessF occF ops pat l) (hL : pat.length + 1 < 2 ^ 63) :
    ∃ res, SrcFmdAllSmems.all_smems lessF occF dnaCompl pat l = Rs.Res.ok res ∧
      res.Perm ((SmemModel.allSmems ops pat l).map hitT) :=
  all_smems_eq_model lessF occF ops pat l hsm hL

/-- the operations performed by the translated code are safe on every FM-index (`less`, `occ` bounded by `n`, `occ`
monotone in the row) for patterns of symbols with `less(a) ≥ 1`, `less(complement a) ≥ 1`, `a < 255`, `less(a) ≤ less(a+1)`
(`SymOk`), under the size hypothesis `(13·n + 2)·(|pattern| + 2) < 2^64` -/
theorem fmd_source_ops_safe (lessF : Nat → Nat) (occF : Nat → Nat → Nat) (n : Nat) (pat : List Nat)
    (hI : IdxFacts lessF occF n) (hsym : ∀ a ∈ pat, SymOk lessF a) (hsz : M n * (pat.length + 2) < 2 ^ 64) :
    SafeOps lessF occF (srcOps lessF occF) (Safe n) pat :=
  safeOps hI hsym hsz

/-- **for every pattern over `ACGTNacgtn`, `i < |pattern|` and `l ≥ 1`, the translated `smems`, given the specification's `less` /
`occ` of the BWT of an FMD index whose suffix array C03's checker accepts as total functions, passes its own checked operations and
returns `res` with, as a set, exactly the supermaximal matches covering `i` of length `≥ l`, with both intervals right.**
`l ≥ 1` is material: rust-bio's doc tests call `smems(pattern, 2, 0)`, and for `l = 0` and an absent `pattern[i]` the mirror model
reports one zero-length candidate on the empty interval (`Thm/GenSrcFmdSmemsModel.lean`).  The accessors `FMDIndex::{less, occ}`
are not part of the statement (`fmd_accessors_source_exact`).
Size hypothesis: `(13·n + 2)·(|pattern| + 2) < 2^64` (crude head-room of the `usize` arithmetic). -/
theorem fmd_smems_source_correct (seqs : List (List Nat)) (sa pat : List Nat)
    (hne : seqs ≠ []) (hseqs : ∀ s ∈ seqs, ∀ c ∈ s, isDna c = true)
    (hc : checkSA (fmdText seqs) sa = true) (hpat : ∀ c ∈ pat, isDna c = true)
    (hsz : M sa.length * (pat.length + 2) < 2 ^ 64) (i l : Nat) (hi : i < pat.length) (hl : 1 ≤ l) :
    ∃ res, SrcFmdSmems.smems (LF.lessRef (LF.bwtOf (fmdText seqs) sa)) (LF.occRef (LF.bwtOf (fmdText seqs) sa))
        dnaCompl pat i l = Rs.Res.ok res ∧ SmemsProp (fmdText seqs) sa pat i l (res.map obsT) :=
  smems_source_correct seqs sa pat hne hseqs (sortedAllB_of_checkSA seqs sa hne hseqs hc) hpat hsz i l hi hl

/-- **… and, under the same hypotheses (pattern over `ACGTNacgtn`, `l ≥ 1`, total `less` / `occ`), the translated `all_smems`, as a
set, exactly the supermaximal matches of length `≥ l`** -/
theorem fmd_all_smems_source_correct (seqs : List (List Nat)) (sa pat : List Nat)
    (hne : seqs ≠ []) (hseqs : ∀ s ∈ seqs, ∀ c ∈ s, isDna c = true)
    (hc : checkSA (fmdText seqs) sa = true) (hpat : ∀ c ∈ pat, isDna c = true)
    (hsz : M sa.length * (pat.length + 2) < 2 ^ 64) (l : Nat) (hl : 1 ≤ l) :
    ∃ res, SrcFmdAllSmems.all_smems (LF.lessRef (LF.bwtOf (fmdText seqs) sa)) (LF.occRef (LF.bwtOf (fmdText seqs) sa))
        dnaCompl pat l = Rs.Res.ok res ∧ AllSmemsProp (fmdText seqs) sa pat l (res.map obsT) := by
  obtain ⟨res, h1, _, h3⟩ := all_smems_source_correct seqs sa pat hne hseqs
    (sortedAllB_of_checkSA seqs sa hne hseqs hc) hpat hsz l hl
  exact ⟨res, h1, h3⟩

-- non-vacuity: the doc-test index `ATTC$GAAT$` (the translated code evaluated; hypotheses by `decide`)
private def T1 : List Nat := fmdText [[65, 84, 84, 67]]
private def sa1 : List Nat := [9, 4, 6, 7, 0, 3, 5, 8, 2, 1]
example : checkSA T1 sa1 = true := by decide +kernel
example : (SrcFmdSmems.smems (LF.lessRef (LF.bwtOf T1 sa1)) (LF.occRef (LF.bwtOf T1 sa1)) dnaCompl [65, 84, 84] 2 1)
    = Rs.Res.ok [((4, 2, 1, 3), 0, 3)] := by decide +kernel
example : (SrcFmdAllSmems.all_smems (LF.lessRef (LF.bwtOf T1 sa1)) (LF.occRef (LF.bwtOf T1 sa1)) dnaCompl [65, 84, 71] 1)
    = Rs.Res.ok [((3, 3, 2, 2), 0, 2), ((6, 5, 1, 1), 2, 1)] := by decide +kernel
-- a pattern symbol that does not occur (N): the empty interval is extended, nothing is reported, no panic
example : (SrcFmdSmems.smems (LF.lessRef (LF.bwtOf T1 sa1)) (LF.occRef (LF.bwtOf T1 sa1)) dnaCompl [65, 78, 84] 1 1)
    = Rs.Res.ok [] := by decide +kernel
example : ∃ res, SrcFmdSmems.smems (LF.lessRef (LF.bwtOf T1 sa1)) (LF.occRef (LF.bwtOf T1 sa1)) dnaCompl [65, 84, 84] 2 1
    = Rs.Res.ok res ∧ SmemsProp T1 sa1 [65, 84, 84] 2 1 (res.map obsT) :=
  fmd_smems_source_correct [[65, 84, 84, 67]] sa1 [65, 84, 84] (by decide +kernel) (by decide +kernel) (by decide +kernel) (by decide +kernel)
    (by decide +kernel) 2 1 (by decide +kernel) (by decide +kernel)
end source

/-! ## the accessor chain below the sweep, translated from the source text

`RbV/Gen/SrcFmAccess.lean`: `FMDIndex::{occ, less}` → `FMIndex::{occ, less}` → the translated `Occ::get`
(`RbV/Gen/SrcOcc.lean`) / `less[a as usize]`, and the views `BiInterval::{forward, revcomp}`.  The tables are the ones the
translated `Occ::new` (`Gen/SrcOcc.lean`) and `less` (`Gen/SrcLess.lean`) build from the BWT — both files are regenerated on
`./check C06` as well.  Proofs: `RbV/Thm/GenSrcFmAccess.lean`. -/
section accessors
open RbV.Gen RbV.Thm.GenSrcFmdIndex RbV.Thm.GenSrcFmAccess RbV.FMDModel

/-- **`FMDIndex::less` / `FMDIndex::occ`, as written, on the tables the translated constructors build from the BWT, are the
specification's `less` / `occ`**: the translated `less(bwt, alphabet)` and `Occ::new(bwt, k, alphabet)` do not panic, and
on the index holding their results `less(a)` = number of BWT symbols `< a` for every `a ≤ max_symbol + 1`, `occ(r, a)` =
number of `a` in `bwt[0..=r]` for every row `r < n` and every symbol the table tracks — through both delegations
(`self.fmindex.occ(r, a)`, `self.occ.borrow().get(self.bwt.borrow(), r, a)`), for every sampling rate `1 ≤ k < 2^32`; for an
opaque alphabet with `max_symbol() = Some ms`, `|bwt| < 2^64`, BWT and alphabet symbols `≤ ms`, and a duplicate-free symbol list
that does not contain `$` unless `is_word(b"$")` (as in C04) -/
theorem fmd_accessors_source_exact {Alph : Type} (maxSymbol : Alph → Option Nat) (symbols : Alph → List Nat)
    (isWordDollar : Alph → Bool) (bwt : List Nat) (k : Nat) (alphabet : Alph) (ms : Nat)
    (hms : maxSymbol alphabet = some ms) (hk : 0 < k) (hk32 : k < 2 ^ 32) (hn : bwt.length < 2 ^ 64)
    (hms' : ms + 2 < 2 ^ 64) (hsym : ∀ x ∈ bwt, x ≤ ms) (hal : ∀ a ∈ symbols alphabet, a ≤ ms)
    (hnd : (symbols alphabet).Nodup) (hw : isWordDollar alphabet = false → 36 ∉ symbols alphabet) :
    ∃ lessT occT k', SrcLess.less maxSymbol bwt alphabet = Rs.Res.ok lessT ∧
      SrcOcc.new maxSymbol symbols isWordDollar bwt k alphabet = Rs.Res.ok (occT, k') ∧
      (∀ a, a < ms + 2 →
        SrcFmAccess.fmdLess { fmindex := { bwt := bwt, less := lessT, occ := (occT, k') } } a
          = Rs.Res.ok (LF.lessRef bwt a)) ∧
      (∀ r a, r < bwt.length → a ∈ RbV.Thm.GenSrcOcc.alphaOf (symbols alphabet) (isWordDollar alphabet) (ms + 1) →
        SrcFmAccess.fmdOcc (fun s c => s.count c) { fmindex := { bwt := bwt, less := lessT, occ := (occT, k') } } r a
          = Rs.Res.ok (LF.occRef bwt r a)) :=
  accessors_exact maxSymbol symbols isWordDollar bwt k alphabet ms hms hk hk32 hn hms' hsym hal hnd hw

/-- `BiInterval::forward` / `revcomp`, as written: the half-open row intervals `[lower, lower + size)` /
`[lower_rev, lower_rev + size)` (the sums fit `usize`) — the two intervals `SmemsProp` speaks about -/
theorem biinterval_views_source_eq_model (iv : SrcFmAccess.BiInterval)
    (h1 : iv.lower + iv.size < 2 ^ 64) (h2 : iv.lower_rev + iv.size < 2 ^ 64) :
    SrcFmAccess.biForward iv = Rs.Res.ok { lower := iv.lower, upper := iv.lower + iv.size } ∧
    SrcFmAccess.biRevcomp iv = Rs.Res.ok { lower := iv.lower_rev, upper := iv.lower_rev + iv.size } :=
  ⟨biForward_eq iv h1, biRevcomp_eq iv h2⟩

/-- **the sweep over the tables built from the BWT — partial.**  For an FMD index over `seqs` whose suffix array C03's
checker accepts, with the tables built by the translated `less` / `Occ::new` from its BWT (alphabet hypotheses as in C04):
(1) the constructors do not panic; (2) the translated accessor chain returns `lessRef` / `occRef` of that BWT on every
in-range argument; (3) the translated `smems` run on these two functions does not panic and returns exactly the SMEMs.
**Not derived (what a full composition would need)**: the translated `smems` / `backward_ext` take
`less` / `occ` as *total* pure functions (dialect fmd), so (2) and (3) are linked only through the values — that every call
the sweep makes is in range (rows `< n`, symbols `≤ max_symbol + 1`: the accessors panic outside) is not derived; it needs
the range invariant `lower + size ≤ n` of every interval the sweep builds, which `Safe` does not carry. -/
theorem fmd_smems_source_correct_composed_partial {Alph : Type} (maxSymbol : Alph → Option Nat) (symbols : Alph → List Nat)
    (isWordDollar : Alph → Bool) (alphabet : Alph) (ms k : Nat) (seqs : List (List Nat)) (sa pat : List Nat)
    (hne : seqs ≠ []) (hseqs : ∀ s ∈ seqs, ∀ c ∈ s, isDna c = true)
    (hc : checkSA (fmdText seqs) sa = true) (hpat : ∀ c ∈ pat, isDna c = true)
    (hsz : M sa.length * (pat.length + 2) < 2 ^ 64) (i l : Nat) (hi : i < pat.length) (hl : 1 ≤ l)
    (hms : maxSymbol alphabet = some ms) (hk : 0 < k) (hk32 : k < 2 ^ 32) (hms' : ms + 2 < 2 ^ 64)
    (hsym : ∀ x ∈ LF.bwtOf (fmdText seqs) sa, x ≤ ms) (hal : ∀ a ∈ symbols alphabet, a ≤ ms)
    (hnd : (symbols alphabet).Nodup) (hw : isWordDollar alphabet = false → 36 ∉ symbols alphabet) :
    ∃ lessT occT k', SrcLess.less maxSymbol (LF.bwtOf (fmdText seqs) sa) alphabet = Rs.Res.ok lessT ∧
      SrcOcc.new maxSymbol symbols isWordDollar (LF.bwtOf (fmdText seqs) sa) k alphabet = Rs.Res.ok (occT, k') ∧
      (∀ a, a < ms + 2 →
        SrcFmAccess.fmdLess { fmindex := { bwt := LF.bwtOf (fmdText seqs) sa, less := lessT, occ := (occT, k') } } a
          = Rs.Res.ok (LF.lessRef (LF.bwtOf (fmdText seqs) sa) a)) ∧
      (∀ r a, r < sa.length → a ∈ RbV.Thm.GenSrcOcc.alphaOf (symbols alphabet) (isWordDollar alphabet) (ms + 1) →
        SrcFmAccess.fmdOcc (fun s c => s.count c)
            { fmindex := { bwt := LF.bwtOf (fmdText seqs) sa, less := lessT, occ := (occT, k') } } r a
          = Rs.Res.ok (LF.occRef (LF.bwtOf (fmdText seqs) sa) r a)) ∧
      ∃ res, SrcFmdSmems.smems (LF.lessRef (LF.bwtOf (fmdText seqs) sa)) (LF.occRef (LF.bwtOf (fmdText seqs) sa))
          dnaCompl pat i l = Rs.Res.ok res ∧ SmemsProp (fmdText seqs) sa pat i l (res.map obsT) := by
  have hlen : (LF.bwtOf (fmdText seqs) sa).length = sa.length := by simp [LF.bwtOf]
  have hn : (LF.bwtOf (fmdText seqs) sa).length < 2 ^ 64 := by
    rw [hlen]; unfold M at hsz
    have : 13 * sa.length + 2 ≤ (13 * sa.length + 2) * (pat.length + 2) := Nat.le_mul_of_pos_right _ (by omega)
    omega
  obtain ⟨lessT, occT, k', h1, h2, h3, h4⟩ := accessors_exact maxSymbol symbols isWordDollar (LF.bwtOf (fmdText seqs) sa) k
    alphabet ms hms hk hk32 hn hms' hsym hal hnd hw
  exact ⟨lessT, occT, k', h1, h2, h3, fun r a hr ha => h4 r a (by rw [hlen]; exact hr) ha,
    fmd_smems_source_correct seqs sa pat hne hseqs hc hpat hsz i l hi hl⟩

-- non-vacuity: the accessor chain evaluated on hand-made tables of the BWT `[1, 2, 1, 0]` (k = 2), and the views
example : SrcFmAccess.fmdLess { fmindex := { bwt := [1, 2, 1, 0], less := [0, 1, 3, 4], occ := ([[0, 0], [1, 2], [0, 1]], 2) } } 2
    = Rs.Res.ok 3 := by decide +kernel
example : SrcFmAccess.fmdOcc (fun s c => s.count c)
    { fmindex := { bwt := [1, 2, 1, 0], less := [0, 1, 3, 4], occ := ([[0, 0], [1, 2], [0, 1]], 2) } } 3 1 = Rs.Res.ok 2 := by decide +kernel
example : SrcFmAccess.fmdLess { fmindex := { bwt := [1, 2, 1, 0], less := [0, 1, 3, 4], occ := ([], 2) } } 4 = Rs.Res.panic := by
  decide +kernel
example : SrcFmAccess.biForward ⟨4, 2, 1, 3⟩ = Rs.Res.ok ⟨4, 5⟩ ∧ SrcFmAccess.biRevcomp ⟨4, 2, 1, 3⟩ = Rs.Res.ok ⟨2, 3⟩ := by
  decide +kernel
example : SrcFmAccess.biForward ⟨2 ^ 64 - 1, 2, 1, 3⟩ = Rs.Res.panic := by decide +kernel

end accessors

end RbV.Thm.C06
