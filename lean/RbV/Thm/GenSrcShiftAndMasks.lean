import RbV.Gen.SrcShiftAndMasks
import RbV.Model.ShiftAnd
import RbV.Thm.GenSrcBasic
/-!
# The translated text of `shift_and::masks` equals the mirror model `ShiftAnd.masksLoop`

`RbV/Gen/SrcShiftAndMasks.lean` is regenerated from `src/pattern_matching/shift_and.rs` by `tools/rs2lean.py` on every
`./check C08`.  The generated function updates a 256-entry vector (`masks[c] |= bit`, out of bounds = panic) and shifts
the running bit with `Rs.shl 64` (bits shifted out are dropped, as in Rust); the model keeps the table as a function
`Nat → Nat`.  Bridge: the vector is `tab 256 f = (List.range 256).map f` for the model's `f`; symbols are bytes (`< 256`).
No bound on the pattern length is needed: `masks` itself never panics (the `m ≤ 64` assertion is in `ShiftAnd::new`).
-/
namespace RbV.Thm.GenSrcShiftAndMasks
open RbV RbV.Rs RbV.Gen.SrcShiftAndMasks RbV.Thm.GenSrc

/-- one round of `for c in pattern` is the model's `masksStep` -/
theorem for_body_eq (s : ShiftAnd.MState) (c : Nat) (hc : c < 256) :
    masks_for1 (tab 256 s.masks, s.accept, s.bit) c
      = Res.ok (tab 256 (ShiftAnd.masksStep s c).masks, (ShiftAnd.masksStep s c).accept, (ShiftAnd.masksStep s c).bit) := by
  have e1 : Rs.idx (tab 256 s.masks) c = Res.ok (s.masks c) := idx_tab _ _ _ hc
  have e2 : Rs.setIdx (tab 256 s.masks) c (s.masks c ||| s.bit) = Res.ok (tab 256 (ShiftAnd.masksStep s c).masks) := by
    rw [setIdx_tab _ _ _ _ hc]
    congr 2
    funext x
    by_cases hx : x = c
    · simp [ShiftAnd.masksStep, hx]
    · simp [ShiftAnd.masksStep, hx]
  have e3 : Rs.shl 64 s.bit 1 = Res.ok ((s.bit <<< 1) % 2 ^ 64) := Rs.shl_ok (by omega)
  have e4 : (ShiftAnd.masksStep s c).accept = s.bit := rfl
  have e5 : (ShiftAnd.masksStep s c).bit = (s.bit <<< 1) % 2 ^ 64 := rfl
  rw [e4, e5]
  simp only [masks_for1, e1, e2, e3, Nat.reducePow, Res.pure_eq_ok, Res.ok_bind]

theorem for_eq (p : List Nat) : ∀ (s : ShiftAnd.MState), (∀ c ∈ p, c < 256) →
    p.foldlM masks_for1 (tab 256 s.masks, s.accept, s.bit)
      = Res.ok (tab 256 (p.foldl ShiftAnd.masksStep s).masks, (p.foldl ShiftAnd.masksStep s).accept,
          (p.foldl ShiftAnd.masksStep s).bit) := by
  induction p with
  | nil => intro s _; simp
  | cons c p ih =>
    intro s h
    rw [List.foldlM_cons, List.foldl_cons, for_body_eq s c (h c (by simp)), Res.ok_bind]
    exact ih _ (fun c' hc' => h c' (by simp [hc']))

/-- **`shift_and::masks` as written in the source = `ShiftAnd.masksLoop`** for every pattern of bytes: the translated
function never panics and returns the model's mask table (as the 256-entry vector) and accept mask. -/
theorem masks_eq_model (p : List Nat) (hb : ∀ c ∈ p, c < 256) :
    masks p = Res.ok (tab 256 (ShiftAnd.masksLoop p).masks, (ShiftAnd.masksLoop p).accept) := by
  have h := for_eq p { masks := fun _ => 0, bit := 1, accept := 0 } hb
  simp only [] at h
  simp [masks, tab_const, h, ShiftAnd.masksLoop, -List.reduceReplicate]

end RbV.Thm.GenSrcShiftAndMasks
