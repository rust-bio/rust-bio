import RbV.Gen.SrcBndmNext
import RbV.Model.Bndm
import RbV.Thm.GenSrcShiftAndMasks
import RbV.Thm.GenSrcIter
/-!
# The translated text of `BNDM::new`, `BNDM::find_all`, `bndm::Matches::next` equals the mirror model `Bndm.findAll`

`RbV/Gen/SrcBndmNext.lean` is regenerated from `src/pattern_matching/bndm.rs` on every `./check C08`.  The mirror model
`Bndm.inner` / `Bndm.outer` already has the panics of the code explicit (`none`); the translated loops are shown to
follow it step by step (`while2_eq`), so the model's "never `none`" theorem (`Bndm.outer_ascFrom`) carries over as "never
panics, fuel suffices".  `G window` is the model's list from a window position; the outer loop (`while1_eq`) is a
`GenSrcIter.window_next` whose verdict is what `Bndm.inner_init` says of the inner loop's result.
-/
set_option linter.unusedSimpArgs false

namespace RbV.Thm.GenSrcBndmNext
open RbV RbV.Rs RbV.Gen.SrcBndmNext RbV.Thm.GenSrc
open RbV.ShiftAnd (MState masksLoop W)

theorem while2_stop (masks t : List Nat) (window accept m fuel : Nat) (occ0 : Option Nat) (ls j : Nat) :
    next_while2 masks t window accept m (fuel + 1) (0, occ0, ls, j) = Res.ok (0, occ0, ls, j) := by
  rw [next_while2]
  rfl

/-- one round of the inner loop with `active ≠ 0`, in the shape of the model's `inner` -/
theorem while2_step (ms : MState) (m : Nat) (t : List Nat) (window fuel j active ls c : Nat) (occ0 : Option Nat)
    (ha : active ≠ 0) (hj : j ≤ window) (hc : t[window - j]? = some c) (hc256 : c < 256) (hw : window + 1 < 2 ^ 64) :
    next_while2 (tab 256 ms.masks) t window ms.accept m (fuel + 1) (active, occ0, ls, j) =
      if (active &&& ms.masks c) &&& ms.accept ≠ 0 then
        if j = m then Res.ok (active &&& ms.masks c, some (window - m), ls, j)
        else next_while2 (tab 256 ms.masks) t window ms.accept m fuel
          (((active &&& ms.masks c) <<< 1) % W, occ0, j, j + 1)
      else next_while2 (tab 256 ms.masks) t window ms.accept m fuel
          (((active &&& ms.masks c) <<< 1) % W, occ0, ls, j + 1) := by
  have e1 : Rs.sub window j = Res.ok (window - j) := Rs.sub_ok hj
  have e2 : Rs.idx t (window - j) = Res.ok c := Rs.idx_of_getElem? hc
  have e3 : Rs.idx (tab 256 ms.masks) c = Res.ok (ms.masks c) := idx_tab 256 _ c hc256
  have hj1 : j + 1 < 2 ^ 64 := Nat.lt_of_le_of_lt (Nat.add_le_add_right hj 1) hw
  have e4 : Rs.add 64 j 1 = Res.ok (j + 1) := Rs.add_ok hj1
  have e4' : Rs.add 64 1 j = Res.ok (j + 1) := Rs.add_ok_comm hj1
  have e5 : Rs.shl 64 (active &&& ms.masks c) 1 = Res.ok (((active &&& ms.masks c) <<< 1) % W) :=
    Rs.shl_ok (by decide)
  rw [next_while2]
  simp only [bne_iff_ne, ne_eq, ha, not_false_eq_true, ↓reduceIte, beq_iff_eq, Res.pure_eq_ok, Res.ok_bind, ite_not,
    e1, e2, e3, e4, e4', e5, Nat.and_comm ms.accept (active &&& ms.masks c)]
  by_cases hacc : active &&& ms.masks c &&& ms.accept = 0
  · rw [if_pos hacc, if_pos hacc]
  · rw [if_neg hacc, if_neg hacc]
    by_cases hjm : j = m
    · subst hjm
      rw [if_pos rfl, if_pos rfl, e1]
      rfl
    · rw [if_neg hjm, if_neg hjm]

/-- the translated inner `while active != 0` loop follows the model's `inner` (one more unit of fuel for the last test) -/
theorem while2_eq (ms : MState) (m : Nat) (t : List Nat) (window : Nat) (hb : ∀ c ∈ t, c < 256)
    (hw : window + 1 < 2 ^ 64) :
    ∀ (fuel j active ls : Nat) (occ0 : Option Nat) (b : Bool) (ls' : Nat),
      Bndm.inner ms m t window fuel j active ls = some (b, ls') →
      ∃ a' j', next_while2 (tab 256 ms.masks) t window ms.accept m (fuel + 1) (active, occ0, ls, j)
        = Res.ok (a', (if b then some (window - m) else occ0), ls', j') := by
  have stop : ∀ fuel j ls occ0 b ls', some (false, ls) = some (b, ls') →
      ∃ a' j', next_while2 (tab 256 ms.masks) t window ms.accept m (fuel + 1) (0, occ0, ls, j)
        = Res.ok (a', (if b then some (window - m) else occ0), ls', j') := by
    intro fuel j ls occ0 b ls' h
    obtain ⟨rfl, rfl⟩ := Prod.mk.inj (Option.some.inj h)
    exact ⟨0, j, while2_stop _ _ _ _ _ _ _ _ _⟩
  intro fuel
  induction fuel with
  | zero =>
    intro j active ls occ0 b ls' h
    rw [Bndm.inner] at h
    by_cases ha : active = 0
    · subst ha
      exact stop 0 j ls occ0 b ls' h
    · rw [if_neg ha] at h
      cases h
  | succ fuel ih =>
    intro j active ls occ0 b ls' h
    rw [Bndm.inner] at h
    by_cases ha : active = 0
    · subst ha
      exact stop _ j ls occ0 b ls' h
    · rw [if_neg ha] at h
      by_cases hj : window < j
      · rw [if_pos hj] at h
        cases h
      · rw [if_neg hj] at h
        cases hc : t[window - j]? with
        | none => rw [hc] at h; cases h
        | some c =>
          rw [hc] at h
          rw [while2_step ms m t window (fuel + 1) j active ls c occ0 ha (Nat.le_of_not_lt hj) hc
            (hb c (List.mem_of_getElem? hc)) hw]
          by_cases hacc : (active &&& ms.masks c) &&& ms.accept ≠ 0
          · simp only [if_pos hacc] at h ⊢
            by_cases hjm : j = m
            · simp only [if_pos hjm] at h ⊢
              obtain ⟨rfl, rfl⟩ := Prod.mk.inj (Option.some.inj h)
              exact ⟨_, _, rfl⟩
            · simp only [if_neg hjm] at h ⊢
              exact ih _ _ _ occ0 b ls' h
          · simp only [if_neg hacc] at h ⊢
            exact ih _ _ _ occ0 b ls' h

/-- the model's list from window position `window` -/
def G (p t : List Nat) (window : Nat) : List Nat :=
  (Bndm.outer (masksLoop p.reverse) p.length t (t.length + 1) window).getD []

theorem G_end (p t : List Nat) (window : Nat) (h : t.length < window) : G p t window = [] := by
  have : ¬ window ≤ t.length := Nat.not_le_of_lt h
  simp [G, Bndm.outer, this]

theorem G_asc (p t : List Nat) (hp : 0 < p.length) (hm : p.length ≤ 64) (s : Nat) :
    AscFrom (OccursAt p t) s (G p t (s + p.length)) := by
  obtain ⟨L, hL, h⟩ := Bndm.outer_ascFrom p t hp hm (t.length + 1) s (Nat.le_add_left _ _)
  rw [G, hL]
  exact h

/-- `1 << m` is not truncated for `m < 64` (the start value of `active` is `if m >= 64 { u64::MAX } else { (1 << m) - 1 }`) -/
theorem shl_one_mod (m : Nat) (hm : m < 64) : (1 <<< m) % 2 ^ 64 = 1 <<< m := by
  rw [Nat.shiftLeft_eq, Nat.one_mul]
  exact Nat.mod_eq_of_lt (Nat.pow_lt_pow_right (by omega) hm)

/-- `u64::MAX >> (64 - m)` is `initActive m` for `1 ≤ m ≤ 64` (the start value of `active` in the rewrite `seeded/C08-H2`) -/
theorem initActive_shr (m : Nat) (h1 : 1 ≤ m) (hm : m ≤ 64) :
    (18446744073709551615 : Nat) >>> (64 - m) = Bndm.initActive m := by
  apply Nat.eq_of_testBit_eq
  intro i
  rw [Bndm.initActive_testBit m i hm, Nat.testBit_shiftRight, show (18446744073709551615 : Nat) = 2 ^ 64 - 1 from rfl,
    Nat.testBit_two_pow_sub_one, decide_eq_decide]
  omega

/-- one round of the outer loop, given what the inner loop returns from the initial state of the window; the start
value of `active` is covered in the shapes `if m >= 64 {..} else {..}` (the source) and `u64::MAX >> (64 - m)` (the
meaning-preserving rewrite kept as `seeded/C08-H2`, which must leave this file green) -/
theorem while1_round (ms : MState) (m : Nat) (t : List Nat) (fuel window : Nat) (hm1 : 1 ≤ m) (hm : m ≤ 64)
    (hn : window ≤ t.length) (h64 : window + m < 2 ^ 64) (occ : Bool) (ls a' j' : Nat) (hls : ls ≤ m)
    (hwh : next_while2 (tab 256 ms.masks) t window ms.accept m (m + 2) (Bndm.initActive m, none, 0, 1)
      = Res.ok (a', (if occ then some (window - m) else none), ls, j')) :
    next_while1 t m (tab 256 ms.masks) ms.accept (fuel + 1) window =
      if occ then Res.ok (window + (m - ls), some (some (window - m)))
      else next_while1 t m (tab 256 ms.masks) ms.accept fuel (window + (m - ls)) := by
  have e1 : Rs.sub m ls = Res.ok (m - ls) := Rs.sub_ok hls
  have e2 : Rs.add 64 window (m - ls) = Res.ok (window + (m - ls)) :=
    Rs.add_ok (Nat.lt_of_le_of_lt (Nat.add_le_add_left (Nat.sub_le m ls) window) h64)
  have e5 : Rs.sub 64 m = Res.ok (64 - m) := Rs.sub_ok hm
  have e6 : Rs.shr 64 18446744073709551615 (64 - m) = Res.ok (Bndm.initActive m) := by
    rw [Rs.shr_ok (Nat.sub_lt (by decide) hm1), initActive_shr m hm1 hm]
  rw [next_while1]
  by_cases h : m < 64
  · have h' : ¬ m ≥ 64 := Nat.not_le.mpr h
    have e3 : Rs.shl 64 1 m = Res.ok (1 <<< m) := by rw [Rs.shl_ok h, shl_one_mod m h]
    have e4 : Rs.sub (1 <<< m) 1 = Res.ok ((1 <<< m) - 1) :=
      Rs.sub_ok (by rw [Nat.shiftLeft_eq, Nat.one_mul]; exact Nat.one_le_two_pow)
    have hi : (1 <<< m) - 1 = Bndm.initActive m := by rw [Bndm.initActive, if_neg h']
    simp only [hn, decide_true, ↓reduceIte, ge_iff_le, h', decide_false, Bool.false_eq_true, Res.pure_eq_ok, Res.ok_bind,
      e1, e2, e3, e4, e5, e6, hi, hwh]
    cases occ <;> rfl
  · have h' : m ≥ 64 := Nat.le_of_not_lt h
    have hi : 18446744073709551615 = Bndm.initActive m := by rw [Bndm.initActive, if_pos h']; rfl
    rw [← hi] at hwh e6
    simp only [hn, decide_true, ↓reduceIte, ge_iff_le, h', Res.pure_eq_ok, Res.ok_bind, e1, e2, e5, e6, hwh]
    cases occ <;> rfl

/-- the translated outer `while self.window <= self.text.len()` loop from a window position `window ≥ m`, its result read as
`next` joins it -/
theorem while1_eq (p t : List Nat) (hp : 0 < p.length) (hm : p.length ≤ 64) (hb : ∀ c ∈ t, c < 256)
    (h64 : t.length + p.length < 2 ^ 64) (fuel window : Nat) (hw : p.length ≤ window) (hf : t.length + 1 - window < fuel) :
    ∃ w r, next_while1 t p.length (tab 256 (masksLoop p.reverse).masks) (masksLoop p.reverse).accept fuel window
        = Res.ok (w, r) ∧
      ((r.join = none ∧ G p t window = []) ∨
       (∃ v, r.join = some v ∧ window < w ∧ p.length ≤ w ∧ G p t window = v :: G p t w)) := by
  refine GenSrcIter.window_next_join (G_asc p t hp hm) (fun s h => Nat.lt_succ_of_le h.1) (fun fuel s h => ?_)
    (fun fuel s h => ?_) fuel window hw hf
  · rw [next_while1]
    simp only [Nat.not_le_of_lt h, decide_false, Bool.false_eq_true, ↓reduceIte, Res.pure_eq_ok]
  · have hn : s + p.length ≤ t.length := Nat.le_of_lt_succ h
    obtain ⟨occ, ls, d, hin, hd, v⟩ := Bndm.inner_init p t s hp hm hn
    obtain ⟨a', j', hwh⟩ := while2_eq (masksLoop p.reverse) p.length t (s + p.length) hb
      (Nat.lt_of_le_of_lt (Nat.add_le_add hn hp) h64) (p.length + 1) 1
      (Bndm.initActive p.length) 0 none occ ls hin
    have hbody := while1_round (masksLoop p.reverse) p.length t fuel (s + p.length) hp hm hn
      (Nat.lt_of_le_of_lt (Nat.add_le_add_right hn _) h64) occ ls a' j' (hd ▸ Nat.le_add_right ls d) hwh
    rw [Nat.sub_eq_of_eq_add' hd.symm, Nat.add_sub_cancel, ← Nat.add_right_comm] at hbody
    exact ⟨occ, d, v, hbody⟩

/-- the translated `next` as a step function on the only mutable field `window`, for the matcher built from `p` on `t` -/
def nextS (p t : List Nat) (window : Nat) : Res (Nat × Option Nat) :=
  next p.length (tab 256 (masksLoop p.reverse).masks) (masksLoop p.reverse).accept window t

/-- **`bndm::Matches::next` as written**: one call from window position `window ≥ m` -/
theorem next_eq_model (p t : List Nat) (hp : 0 < p.length) (hm : p.length ≤ 64) (hb : ∀ c ∈ t, c < 256)
    (h64 : t.length + p.length < 2 ^ 64) (window : Nat) (hw : p.length ≤ window) :
    ∃ w' r, nextS p t window = Res.ok (w', r) ∧
      ((r = none ∧ G p t window = []) ∨
       (∃ v, r = some v ∧ window < w' ∧ p.length ≤ w' ∧ G p t window = v :: G p t w')) := by
  obtain ⟨w', r, h1, h2⟩ := while1_eq p t hp hm hb h64 (t.length - window + 2) window hw (GenSrcIter.window_fuel _ _)
  exact ⟨w', r.join, by rw [nextS, next, h1]; cases r <;> rfl, h2⟩

theorem drain_eq (p t : List Nat) (hp : 0 < p.length) (hm : p.length ≤ 64) (hb : ∀ c ∈ t, c < 256)
    (h64 : t.length + p.length < 2 ^ 64) :
    ∀ fuel window, p.length ≤ window → t.length + 1 - window < fuel →
      Rs.drain (nextS p t) fuel window = Res.ok (G p t window) :=
  GenSrcIter.drain_eq_of_advance (G_end p t) (next_eq_model p t hp hm hb h64)

/-- **`BNDM::new` as written**: `(m, masks, accept)` with the tables of the reversed pattern (through the translated
`shift_and::masks`) -/
theorem new_eq_model (p : List Nat) (hp : 0 < p.length) (hm : p.length ≤ 64) (hb : ∀ c ∈ p, c < 256) :
    new p = Res.ok (p.length, tab 256 (masksLoop p.reverse).masks, (masksLoop p.reverse).accept) := by
  have e1 : Rs.assert (decide (p.length ≤ 64)) = Res.ok () := Rs.assert_ok (by simpa using hm)
  -- `seeded/C08-H2` also asserts `m > 0` in the constructor: the forms of that test are covered
  have e0 : Rs.assert (decide (p.length > 0)) = Res.ok () := Rs.assert_ok (by simpa using hp)
  have e0b : Rs.assert (decide (0 < p.length)) = Res.ok () := Rs.assert_ok (by simpa using hp)
  have e0c : Rs.assert (decide (p.length ≥ 1)) = Res.ok () := Rs.assert_ok (by simp; omega)
  have e0d : Rs.assert (p.length != 0) = Res.ok () :=
    Rs.assert_ok (by have : p.length ≠ 0 := by omega
                     simpa using this)
  have e2 := GenSrcShiftAndMasks.masks_eq_model p.reverse (fun c hc => hb c (by simpa using hc))
  simp [new, e0, e0b, e0c, e0d, e1, e2]

/-- a pattern of more than 64 symbols is refused (`assert!`) -/
theorem new_long_panics (p : List Nat) (hm : 64 < p.length) : new p = Res.panic := by
  have : ¬ p.length ≤ 64 := Nat.not_le_of_lt hm
  have h0 : 0 < p.length := Nat.zero_lt_of_lt hm
  have h0' : p.length ≠ 0 := Nat.ne_of_gt h0
  simp [new, Rs.assert, this, h0, h0']

/-- **`BNDM::find_all` as written**: the first window ends at position `m` -/
theorem findAll_init (m : Nat) (t : List Nat) : findAll m t = Res.ok (m, t) := by
  simp [findAll]

/-- the translated functions put together as a caller does: `BNDM::new(p).find_all(t).collect()` -/
def findAllSrc (p t : List Nat) : Res (List Nat) := do
  let (m, masks, accept) ← new p
  let (window, text) ← findAll m t
  Rs.drain (fun window => next m masks accept window text) (t.length + 2) window

/-- **BNDM end to end, on the translated source text** -/
theorem findAllSrc_eq_occurrences (p t : List Nat) (hp : 0 < p.length) (hm : p.length ≤ 64) (hbp : ∀ c ∈ p, c < 256)
    (hb : ∀ c ∈ t, c < 256) (h64 : t.length + p.length < 2 ^ 64) :
    findAllSrc p t = Res.ok (occurrences p t) := by
  have hd := drain_eq p t hp hm hb h64 (t.length + 2) p.length (Nat.le_refl _) (Nat.lt_succ_of_le (Nat.sub_le _ _))
  have hG : G p t p.length = occurrences p t := (Nat.zero_add p.length ▸ G_asc p t hp hm 0).eq_occurrences
  simp only [findAllSrc, new_eq_model p hp hm hbp, findAll_init, Res.ok_bind]
  rw [← hG]
  exact hd

end RbV.Thm.GenSrcBndmNext
