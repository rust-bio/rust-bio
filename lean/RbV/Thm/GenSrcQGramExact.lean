import RbV.Gen.SrcQGramExact
import RbV.Lemmas.QGramAssoc
/-!
# C19 — the text of `QGramIndex::exact_matches` (translated on every `./check C19`: `RbV/Gen/SrcQGramExact.lean`)

`HashMap<i32, ExactMatch>` = `Rs.HMap` (association list; `match diagonals.entry(d) { Vacant(v) => v.insert(..), Occupied(o)
=> { let m = o.get_mut(); … } }` = `get`, then `insertNew` / the updated record written back with `update`); the final
`for (_, m) in diagonals` iterates over `hmIter diagonals`, an **abstract permutation** of the entries (hash order).
`self.ranks.qgrams(self.q, pattern)` and `self.qgram_matches(qgram)` are abstract (`qgramsOf`, `qgramMatches`); what the
theorems assume of them (`hM`, `hH`) is what `qgrams_source_eq_model` / `qgram_index_source_positions_exact` establish for the
translated iterator and index (not composed here).
-/
-- the simp sets name every fact a harmless rewrite of the Rust text may need; on the present text some are unused
set_option linter.unusedSimpArgs false
namespace RbV.Thm.GenSrcQGramExact
open RbV RbV.Rs RbV.QGram RbV.Gen.SrcQGramExact

abbrev EM := (Nat × Nat) × (Nat × Nat)

/-- `ExactMatch { pattern: Interval { start, stop }, text: Interval { start, stop } }` of a model record -/
def cv (r : ExactRec) : EM := ((r.1, r.2.1), (r.2.2.1, r.2.2.2))

theorem cv_injective : Function.Injective cv := by
  rintro ⟨a, b, c, d⟩ ⟨a', b', c', d'⟩ he
  simp only [cv, Prod.mk.injEq] at he
  obtain ⟨⟨rfl, rfl⟩, rfl, rfl⟩ := he; rfl

def encD (T : List (Int × ExactRec)) : List (Int × EM) := T.map (fun e => (e.1, cv e.2))

theorem get_enc (T : List (Int × ExactRec)) (d : Int) : Rs.HMap.get (encD T) d = (assocGet d T).map cv := by
  induction T with
  | nil => rfl
  | cons e T ih =>
    obtain ⟨a, v⟩ := e
    simp only [encD, List.map_cons, Rs.HMap.get, assocGet] at ih ⊢
    split
    · rfl
    · exact ih

theorem update_enc (T : List (Int × ExactRec)) (d : Int) (v : ExactRec) :
    Rs.HMap.update (encD T) d (cv v) = encD (assocSet d v T) := by
  simp only [Rs.HMap.update, encD, assocSet, List.map_map]
  apply List.map_congr_left
  intro e _
  simp only [Function.comp]
  split <;> rfl

theorem insert_enc (T : List (Int × ExactRec)) (d : Int) (v : ExactRec) :
    Rs.HMap.insertNew (encD T) d (cv v) = encD (T ++ [(d, v)]) := by
  simp [Rs.HMap.insertNew, encD]

/-- every open match has `q ≤ pattern.stop < 2^32` (so `m.pattern.stop - q + 1` neither underflows nor overflows) -/
def Good (q : Nat) (T : List (Int × ExactRec)) : Prop := ∀ e ∈ T, q ≤ e.2.2.1 ∧ e.2.2.1 < 2 ^ 32

theorem good_step {q : Nat} {st : List (Int × ExactRec) × List ExactRec} {h : Nat × Nat} (hg : Good q st.1)
    (hb : h.1 + q < 2 ^ 31) : Good q (exactStep q st h).1 := by
  unfold exactStep
  split
  · intro e he
    rcases List.mem_append.mp he with he | he
    · exact hg e he
    · simp only [List.mem_singleton] at he; subst he; simp only; omega
  · split <;>
    · intro e he
      simp only [assocSet, List.mem_map] at he
      obtain ⟨e0, he0, rfl⟩ := he
      split
      · simp only; omega
      · exact hg e0 he0

def encS (st : List (Int × ExactRec) × List ExactRec) : List (Int × EM) × List EM := (encD st.1, st.2.map cv)

section
variable (qgramsOf : Nat → List Nat → List Nat) (qgramMatches : Nat → Res (List Nat)) (hmIter : List (Int × EM) → List (Int × EM))

/-- one hit: the translated loop body = the model's `exactStep` -/
theorem step_eq
    (q i p : Nat) (st : List (Int × ExactRec) × List ExactRec) (hi : i + q < 2 ^ 31) (hp : p + q < 2 ^ 31) (hg : Good q st.1) :
    exactMatches_for2 qgramsOf qgramMatches hmIter q i (encS st) p = Res.ok (encS (exactStep q st (i, p))) := by
  have ec1 : Rs.castSigned 32 p = (p : Int) := Rs.castSigned_of_lt (by omega)
  have ec2 : Rs.castSigned 32 i = (i : Int) := Rs.castSigned_of_lt (by omega)
  have esub : Rs.isub 32 (p : Int) (i : Int) = Res.ok ((p : Int) - (i : Int)) :=
    Rs.isub_ok (by unfold Rs.InS; simp; omega)
  have ea1 : Rs.add 64 i q = Res.ok (i + q) := Rs.add_ok (by omega)
  have ea2 : Rs.add 64 p q = Res.ok (p + q) := Rs.add_ok (by omega)
  have ea1' : Rs.add 64 q i = Res.ok (i + q) := Rs.add_ok_comm (by omega)
  have ea2' : Rs.add 64 q p = Res.ok (p + q) := Rs.add_ok_comm (by omega)
  unfold exactStep encS
  simp only [exactMatches_for2, ec1, ec2, esub, Res.ok_bind, get_enc, diag]
  cases hget : assocGet ((p : Int) - (i : Int)) st.1 with
  | none =>
    simp only [Option.map_none, ea1, ea2, ea1', ea2', Res.ok_bind, Res.pure_eq_ok]
    rw [show (((i, i + q), (p, p + q)) : EM) = cv (i, i + q, p, p + q) from rfl, insert_enc]
  | some m =>
    obtain ⟨a, b, c, d⟩ := m
    have hm := hg _ (assocGet_mem hget)
    simp only at hm
    have es : Rs.sub b q = Res.ok (b - q) := Rs.sub_ok hm.1
    have ea3 : Rs.add 64 (b - q) 1 = Res.ok (b - q + 1) := Rs.add_ok (by omega)
    have ea3' : Rs.add 64 1 (b - q) = Res.ok (b - q + 1) := Rs.add_ok_comm (by omega)
    simp only [Option.map_some, cv, es, ea3, ea3', Res.ok_bind, Res.pure_eq_ok]
    have hsym : (i != b - q + 1) = (b - q + 1 != i) := by
      rw [Bool.eq_iff_iff, bne_iff_ne, bne_iff_ne]; exact ⟨fun h e => h e.symm, fun h e => h e.symm⟩
    by_cases hne : (b - q + 1 != i) = true
    · simp only [hsym, hne, if_true, ea1, ea2, ea1', ea2', Res.ok_bind, Res.pure_eq_ok, List.map_append, List.map_cons, List.map_nil]
      rw [show (((i, i + q), (p, p + q)) : EM) = cv (i, i + q, p, p + q) from rfl, update_enc]
      rfl
    · simp only [hsym, hne, if_false, ea1, ea2, ea1', ea2', Res.ok_bind, Res.pure_eq_ok, Bool.false_eq_true]
      rw [show (((a, i + q), (c, p + q)) : EM) = cv (a, i + q, c, p + q) from rfl, update_enc]

/-- the positions of one q-gram -/
theorem inner_fold (q i : Nat) (hi : i + q < 2 ^ 31) :
    ∀ (ps : List Nat) (st : List (Int × ExactRec) × List ExactRec), (∀ p ∈ ps, p + q < 2 ^ 31) → Good q st.1 →
      List.foldlM (exactMatches_for2 qgramsOf qgramMatches hmIter q i) (encS st) ps
        = Res.ok (encS (ps.foldl (fun st p => exactStep q st (i, p)) st)) ∧
      Good q (ps.foldl (fun st p => exactStep q st (i, p)) st).1 := by
  intro ps
  induction ps with
  | nil => intro st _ hg; exact ⟨rfl, hg⟩
  | cons p ps ih =>
    intro st hb hg
    rw [List.foldlM_cons, step_eq qgramsOf qgramMatches hmIter q i p st hi (hb p (by simp)) hg, Res.ok_bind, List.foldl_cons]
    exact ih _ (fun p' hp' => hb p' (by simp [hp'])) (good_step hg hi)

/-- all q-grams of the pattern -/
theorem outer_fold (q : Nat) (P : Nat → List Nat) :
    ∀ (L : List (Nat × Nat)) (st : List (Int × ExactRec) × List ExactRec),
      (∀ ci ∈ L, qgramMatches ci.1 = Res.ok (P ci.2) ∧ ci.2 + q < 2 ^ 31 ∧ ∀ p ∈ P ci.2, p + q < 2 ^ 31) → Good q st.1 →
      List.foldlM (exactMatches_for1 qgramsOf qgramMatches hmIter q) (encS st) L
        = Res.ok (encS (L.foldl (fun st ci => (P ci.2).foldl (fun st p => exactStep q st (ci.2, p)) st) st)) := by
  intro L
  induction L with
  | nil => intro st _ _; rfl
  | cons ci L ih =>
    intro st hL hg
    obtain ⟨h1, h2, h3⟩ := hL ci (by simp)
    obtain ⟨e1, g1⟩ := inner_fold qgramsOf qgramMatches hmIter q ci.2 h2 (P ci.2) st h3 hg
    rw [List.foldlM_cons, List.foldl_cons]
    have hstep : exactMatches_for1 qgramsOf qgramMatches hmIter q (encS st) ci
        = Res.ok (encS ((P ci.2).foldl (fun st p => exactStep q st (ci.2, p)) st)) := by
      obtain ⟨code, i⟩ := ci
      simp only [exactMatches_for1, encS] at e1 ⊢
      simp only [h1, Res.ok_bind, e1, Res.pure_eq_ok]
    rw [hstep, Res.ok_bind]
    exact ih _ (fun c hc => hL c (by simp [hc])) g1

theorem push_fold :
    ∀ (l : List (Int × EM)) (acc : List EM),
      List.foldlM (exactMatches_for3 qgramsOf qgramMatches hmIter) acc l = Res.ok (acc ++ l.map (·.2)) := by
  intro l
  induction l with
  | nil => intro acc; simp
  | cons e l ih => intro acc; obtain ⟨d, m⟩ := e; rw [List.foldlM_cons]; simp [exactMatches_for3, ih]

/-- **`QGramIndex::exact_matches` as written in the source**: no panic, and the returned vector is a permutation of the mirror
model's result (the permutation is the iteration order of the hash map, which the property does not fix) -/
theorem exactMatches_eq_model (hIter : ∀ m, (hmIter m).Perm m) (mc q : Nat) (pat text : List Nat) (P : Nat → List Nat)
    (hM : ∀ ci ∈ (qgramsOf q pat).zipIdx, qgramMatches ci.1 = Res.ok (P ci.2))
    (hH : hits mc q pat text = ((qgramsOf q pat).zipIdx).flatMap (fun ci => (P ci.2).map (fun p => (ci.2, p))))
    (hB : ∀ ci ∈ (qgramsOf q pat).zipIdx, ci.2 + q < 2 ^ 31 ∧ ∀ p ∈ P ci.2, p + q < 2 ^ 31) :
    ∃ res, exactMatches qgramsOf qgramMatches hmIter q pat = Res.ok res ∧ res.Perm ((exactMatchesModel mc q pat text).map cv) := by
  have hO := outer_fold qgramsOf qgramMatches hmIter q P ((qgramsOf q pat).zipIdx) ([], [])
    (fun ci hci => ⟨hM ci hci, (hB ci hci).1, (hB ci hci).2⟩) (by intro e he; cases he)
  have hfold : ((qgramsOf q pat).zipIdx).foldl (fun st ci => (P ci.2).foldl (fun st p => exactStep q st (ci.2, p)) st) ([], [])
      = (hits mc q pat text).foldl (exactStep q) ([], []) := by
    rw [hH, List.foldl_flatMap]
    simp only [List.foldl_map]
  rw [hfold] at hO
  obtain ⟨fin, hfin⟩ : ∃ fin, fin = (hits mc q pat text).foldl (exactStep q) ([], []) := ⟨_, rfl⟩
  rw [← hfin] at hO
  have hO' : List.foldlM (exactMatches_for1 qgramsOf qgramMatches hmIter q)
      ((Rs.HMap.empty : Rs.HMap Int EM), ([] : List EM)) ((qgramsOf q pat).zipIdx) = Res.ok (encS fin) := hO
  refine ⟨fin.2.map cv ++ (hmIter (encD fin.1)).map (·.2), ?_, ?_⟩
  · unfold exactMatches
    simp only [hO', Res.ok_bind, encS, push_fold, Res.pure_eq_ok, List.nil_append]
  · have hmod : exactMatchesModel mc q pat text = fin.2 ++ fin.1.map (·.2) := by
      unfold exactMatchesModel; rw [← hfin]
    rw [hmod, List.map_append]
    apply List.Perm.append_left
    have h1 : (fin.1.map (·.2)).map cv = (encD fin.1).map (·.2) := by simp [encD, List.map_map, Function.comp]
    rw [h1]
    exact (hIter _).map _

end

end RbV.Thm.GenSrcQGramExact
