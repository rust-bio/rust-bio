import RbV.Lemmas.C15Src
import RbV.Gen.SrcFastExp
/-!
# C15: the translated text of `FastExp::fastexp` (`RbV/Gen/SrcFastExp.lean`) is the bit-trick model

At `xrOps E` (exact arithmetic; `from_bits` = IEEE-754 binary64 decoding) and for `MIN_VAL < x ≤ 0` the translated body
returns `2^k · P(y)` with `k = ⌈ONEBYLOG2·x⌉`, `y = ONEBYLOG2·x − k` and `P = fastexpPolyGen` (the polynomial over the
coefficients of `Gen/Scales.lean`, Horner steps in source order): no `i64` overflow, the shift stays inside the exponent
field, the assembled bit pattern decodes to exactly `2^k`.  Below `MIN_VAL` it is `exp`.
-/
set_option linter.unusedSimpArgs false
namespace RbV.Thm.GenSrcFastExp
open RbV RbV.Rs RbV.C15 Real

theorem fromBits_pow2 (e : ℕ) (h1 : 1 ≤ e) (h2 : e ≤ 2046) :
    XR.fromBits (e * 2 ^ 52) = XR.fin ((2 : ℝ) ^ ((e : ℤ) - 1023)) := by
  have a1 : e * 2 ^ 52 / 2 ^ 63 % 2 = 0 := by rw [Nat.div_eq_of_lt (by omega)]
  have a2 : e * 2 ^ 52 / 2 ^ 52 % 2 ^ 11 = e := by
    rw [Nat.mul_div_cancel _ (by positivity), Nat.mod_eq_of_lt (by omega)]
  have a3 : e * 2 ^ 52 % 2 ^ 52 = 0 := Nat.mul_mod_left _ _
  have b1 : e ≠ 2047 := by omega
  have b2 : e ≠ 0 := by omega
  simp only [XR.fromBits, a1, a2, a3, b1, b2, ↓reduceIte, zero_ne_one, Nat.cast_zero, zero_div, add_zero, one_mul]

theorem truncI64_nonpos {r : ℝ} (h0 : r ≤ 0) (hlo : -(2 ^ 63 : ℤ) ≤ ⌈r⌉) : XR.truncI64 (XR.fin r) = ⌈r⌉ := by
  have hk0 : ⌈r⌉ ≤ 0 := by rw [Int.ceil_le]; simpa using h0
  have hfc : (if 0 ≤ r then ⌊r⌋ else ⌈r⌉) = ⌈r⌉ := by
    split
    · rw [le_antisymm h0 ‹_›, Int.floor_zero, Int.ceil_zero]
    · rfl
  simp only [XR.truncI64, hfc]
  omega

theorem ishl64_natCast {e n : ℕ} (hn : n < 64) (h : e * 2 ^ n < 2 ^ 63) :
    Rs.ishl64 (e : ℤ) n = Res.ok ((e * 2 ^ n : ℕ) : ℤ) := by
  unfold Rs.ishl64
  rw [if_pos hn, ← Nat.cast_mul, Rs.ofSigned_natCast (by omega), Rs.toSigned_of_lt (by omega)]

/-- the translated body above `MIN_VAL`, given that `x as i64` is `k` and that `k + 1023` is the biased exponent `e` of a
normal number: the integer steps do not panic, the assembled pattern decodes to `2^k`, the `f64` steps are the polynomial -/
theorem fastexp_of_trunc (E : ℝ → ℝ) (x : ℝ) (k : ℤ) (e : ℕ) (hlo : decR Gen.Scales.minVal < x)
    (htr : XR.truncI64 (XR.fin (decR Gen.Scales.oneByLog2 * x)) = k) (he : k + 1023 = e) (he1 : 1 ≤ e) (he2 : e ≤ 2046) :
    Gen.SrcFastExp.fastexp (xrOps E) (XR.fin x) =
      Res.ok (XR.fin ((2 : ℝ) ^ k * fastexpPolyGen (decR Gen.Scales.oneByLog2 * x - k))) := by
  have hadd : Rs.iadd 64 k 1023 = Res.ok (e : ℤ) := by rw [Rs.iadd_ok (by unfold Rs.InS; omega), he]
  have hshl := ishl64_natCast (e := e) (n := 52) (by norm_num) (by omega)
  have hof : Rs.ofSigned 64 ((e * 2 ^ 52 : ℕ) : ℤ) = e * 2 ^ 52 := Rs.ofSigned_natCast (by omega)
  have hpow : (2 : ℝ) ^ ((e : ℤ) - 1023) = (2 : ℝ) ^ k := by rw [← he, add_sub_cancel_right]
  unfold Gen.Scales.minVal at hlo
  unfold Gen.Scales.oneByLog2 at htr
  unfold Gen.SrcFastExp.fastexp
  simp only [ops_lt, ops_ofDec, lt_fin, hlo, decide_true, ↓reduceIte, ops_mul, ops_truncI64, mul_fin, htr]
  -- `Res.ok_bind` by `rw`: as a `simp` lemma it is a definitional step, and checking that step on this term is very slow
  rw [hadd, Res.ok_bind, hshl, Res.ok_bind, hof]
  simp only [ops_fromBits, fromBits_pow2 e he1 he2, hpow, ops_sub, ops_add, ops_ofInt, sub_fin, add_fin, mul_fin]
  rfl

theorem fastexp_eq_model (E : ℝ → ℝ) (x : ℝ) (hlo : decR Gen.Scales.minVal < x) (hhi : x ≤ 0)
    (hk1 : 1 ≤ ⌈decR Gen.Scales.oneByLog2 * x⌉ + 1023) (hk2 : ⌈decR Gen.Scales.oneByLog2 * x⌉ + 1023 ≤ 2046)
    (hc0 : 0 ≤ decR Gen.Scales.oneByLog2) :
    Gen.SrcFastExp.fastexp (xrOps E) (XR.fin x) =
      Res.ok (XR.fin ((2 : ℝ) ^ ⌈decR Gen.Scales.oneByLog2 * x⌉ *
        fastexpPolyGen (decR Gen.Scales.oneByLog2 * x - ⌈decR Gen.Scales.oneByLog2 * x⌉))) := by
  obtain ⟨e, he⟩ : ∃ e : ℕ, ⌈decR Gen.Scales.oneByLog2 * x⌉ + 1023 = (e : ℤ) := ⟨_, (Int.toNat_of_nonneg (by omega)).symm⟩
  exact fastexp_of_trunc E x _ e hlo (truncI64_nonpos (mul_nonpos_of_nonneg_of_nonpos hc0 hhi) (by omega)) he
    (by omega) (by omega)

/-- at and below `MIN_VAL` the text calls the exact `exp` -/
theorem fastexp_below (E : ℝ → ℝ) (x : ℝ) (h : x ≤ decR Gen.Scales.minVal) :
    Gen.SrcFastExp.fastexp (xrOps E) (XR.fin x) = Res.ok (XR.fin (exp x)) := by
  unfold Gen.Scales.minVal at h
  simp [Gen.SrcFastExp.fastexp, Gen.SrcFastExp.MIN_VAL, not_lt.mpr h]

/-- `fastexp(−∞) = 0` (what the callers in `stats/probs` rely on for `ln 0` operands) -/
theorem fastexp_ninf (E : ℝ → ℝ) : Gen.SrcFastExp.fastexp (xrOps E) XR.ninf = Res.ok (XR.fin 0) := by
  simp [Gen.SrcFastExp.fastexp, Gen.SrcFastExp.MIN_VAL, XR.lt, XR.exp]

end RbV.Thm.GenSrcFastExp
