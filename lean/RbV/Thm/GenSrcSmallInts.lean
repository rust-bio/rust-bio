import RbV.Gen.SrcSmallInts
import RbV.Model.SmallInts
import RbV.Lemmas.SmallInts
import RbV.Thm.GenSrcBasic
/-!
# The translated text of `SmallInts::{real_value, get, push, set, from_elem, len}` equals the mirror model

`RbV/Gen/SrcSmallInts.lean` is regenerated from `src/data_structures/smallints.rs` by `tools/rs2lean.py` on every
`./check C18` / `./check C03`.  The generic parameters `S`, `B` are Lean type variables, `num_traits::cast` (three
instances: `B → S` in `push`/`set`, `S → B` in `real_value`, the literal `0 → S` in `from_elem`), `S::max_value()`, `<` on
`S` and the two `size_of` are abstract parameters.  The theorems instantiate them with the meaning the mirror model
gives them: both types are `Int`, the small type is the range `[lo, hi]` (`cast : B → S` succeeds iff `lo ≤ v ≤ hi`,
`cast : S → B` always succeeds, `S::max_value() = hi`).  `BTreeMap<usize, B>` is observed through `insert` / `get` only:
the association list of `Rs.mapInsert` / `Rs.mapGet` (`Basic/RsSemBits.lean`) is literally the model's `big` list.
-/
set_option linter.unusedSimpArgs false

namespace RbV.Thm.GenSrcSmallInts
open RbV RbV.Rs RbV.Thm.GenSrc
open RbV.Model.SmallInts (St)

/-- `num_traits::cast::<B, S>` of the model -/
abbrev cBS (lo hi : Int) : Int → Option Int := Model.SmallInts.cast lo hi
/-- `num_traits::cast::<S, B>`: the big type holds every small value -/
abbrev cSB : Int → Option Int := some
/-- `num_traits::cast::<i32, S>` applied to a non-negative literal -/
abbrev cZ (lo hi : Int) : Nat → Option Int := fun z => Model.SmallInts.cast lo hi (z : Int)
/-- `<` on the small type -/
abbrev ltI : Int → Int → Bool := fun a b => decide (a < b)

theorem mapGet_eq_lookup (m : List (Nat × Int)) (i : Nat) : Rs.mapGet m i = Model.SmallInts.lookup m i := by
  induction m with
  | nil => rfl
  | cons kv m ih =>
    obtain ⟨k, v⟩ := kv
    simp only [Rs.mapGet, Model.SmallInts.lookup, ih]

/-- `fn real_value`, as written -/
theorem realValue_eq_model (lo hi : Int) (sS sB : Nat) (s : St) (i : Nat) (v : Int) :
    Gen.SrcSmallInts.realValue (cBS lo hi) cSB (cZ lo hi) ltI hi sS sB s.small s.big i v
      = Res.ok (Model.SmallInts.realValue hi s i v) := by
  by_cases h : v < hi
  · have h2 : ¬ hi ≤ v := by omega
    simp only [Gen.SrcSmallInts.realValue, Model.SmallInts.realValue, h, h2, decide_true, decide_false, if_true,
      ite_true, if_false, ite_false, Res.pure_eq_ok, ltI, cBS, cSB, cZ, Bool.not_true, Bool.not_false, Bool.false_eq_true, not_false_eq_true, mapGet_eq_lookup]
  · have h2 : hi ≤ v := by omega
    simp only [Gen.SrcSmallInts.realValue, Model.SmallInts.realValue, h, h2, decide_true, decide_false, if_true,
      ite_true, if_false, ite_false, Res.pure_eq_ok, ltI, cBS, cSB, cZ, Bool.not_true, Bool.not_false, Bool.false_eq_true, not_false_eq_true, mapGet_eq_lookup]

/-- `SmallInts::get`, as written (every index; beyond the end `None`) -/
theorem get_eq_model (lo hi : Int) (sS sB : Nat) (s : St) (i : Nat) :
    Gen.SrcSmallInts.get (cBS lo hi) cSB (cZ lo hi) ltI hi sS sB s.small s.big i
      = Res.ok (Model.SmallInts.get hi s i) := by
  by_cases h : i < s.small.length
  · have h2 : ¬ s.small.length ≤ i := by omega
    have e1 : Rs.idx s.small i = Res.ok s.small[i] := Rs.idx_ok h
    have e2 := realValue_eq_model lo hi sS sB s i s.small[i]
    simp only [Gen.SrcSmallInts.get, Model.SmallInts.get, h, h2, e1, e2, decide_true, decide_false, if_true, ite_true,
      if_false, ite_false, dite_true, dif_pos, Res.ok_bind, Res.pure_eq_ok, ltI, cBS, cSB, cZ, Bool.not_true, Bool.not_false, Bool.false_eq_true, not_false_eq_true]
  · have h2 : s.small.length ≤ i := by omega
    simp only [Gen.SrcSmallInts.get, Model.SmallInts.get, h, h2, decide_true, decide_false, if_true, ite_true, if_false,
      ite_false, dite_false, dif_neg, not_false_eq_true, Res.ok_bind, Res.pure_eq_ok, ltI, cBS, cSB, cZ, Bool.not_true, Bool.not_false, Bool.false_eq_true]

/-- `SmallInts::push`, as written (new `smallints`, new `bigints`) -/
theorem push_eq_model (lo hi : Int) (sS sB : Nat) (s : St) (v : Int) :
    Gen.SrcSmallInts.push (cBS lo hi) cSB (cZ lo hi) ltI hi sS sB s.small s.big v
      = Res.ok ((Model.SmallInts.push lo hi s v).small, (Model.SmallInts.push lo hi s v).big) := by
  unfold Gen.SrcSmallInts.push Model.SmallInts.push
  cases hc : Model.SmallInts.cast lo hi v with
  | none => simp only [hc, Rs.mapInsert, Res.ok_bind, Res.pure_eq_ok, ltI, cBS, cSB, cZ, Bool.not_true, Bool.not_false, Bool.false_eq_true, not_false_eq_true]
  | some x =>
    by_cases hx : x < hi
    · have h2 : ¬ hi ≤ x := by omega
      simp only [hc, hx, h2, decide_true, decide_false, if_true, ite_true, Rs.mapInsert, Res.ok_bind, Res.pure_eq_ok, ltI, cBS, cSB, cZ, Bool.not_true, Bool.not_false, Bool.false_eq_true, not_false_eq_true]
    · have h2 : hi ≤ x := by omega
      simp only [hc, hx, h2, decide_true, decide_false, if_false, ite_false, Rs.mapInsert, Res.ok_bind, Res.pure_eq_ok, ltI, cBS, cSB, cZ, Bool.not_true, Bool.not_false, Bool.false_eq_true, not_false_eq_true]

/-- `SmallInts::set`, as written, for an existing index (beyond the end the Rust code panics) -/
theorem set_eq_model (lo hi : Int) (sS sB : Nat) (s : St) (i : Nat) (v : Int) (hi' : i < s.small.length) :
    Gen.SrcSmallInts.set (cBS lo hi) cSB (cZ lo hi) ltI hi sS sB s.small s.big i v
      = Res.ok ((Model.SmallInts.set lo hi s i v).small, (Model.SmallInts.set lo hi s i v).big) := by
  have e1 : ∀ x, Rs.setIdx s.small i x = Res.ok (s.small.set i x) := fun x => Rs.setIdx_ok hi'
  unfold Gen.SrcSmallInts.set Model.SmallInts.set
  cases hc : Model.SmallInts.cast lo hi v with
  | none => simp only [hc, e1, Rs.mapInsert, Res.ok_bind, Res.pure_eq_ok, ltI, cBS, cSB, cZ, Bool.not_true, Bool.not_false, Bool.false_eq_true, not_false_eq_true]
  | some x =>
    by_cases hx : x < hi
    · have h2 : ¬ hi ≤ x := by omega
      simp only [hc, hx, h2, e1, decide_true, decide_false, if_true, ite_true, Rs.mapInsert, Res.ok_bind, Res.pure_eq_ok, ltI, cBS, cSB, cZ, Bool.not_true, Bool.not_false, Bool.false_eq_true, not_false_eq_true]
    · have h2 : hi ≤ x := by omega
      simp only [hc, hx, h2, e1, decide_true, decide_false, if_false, ite_false, Rs.mapInsert, Res.ok_bind, Res.pure_eq_ok, ltI, cBS, cSB, cZ, Bool.not_true, Bool.not_false, Bool.false_eq_true, not_false_eq_true]

theorem set_oob_panics (lo hi : Int) (sS sB : Nat) (s : St) (i : Nat) (v : Int) (hi' : s.small.length ≤ i) :
    Gen.SrcSmallInts.set (cBS lo hi) cSB (cZ lo hi) ltI hi sS sB s.small s.big i v = Res.panic := by
  have e1 : ∀ x, Rs.setIdx s.small i x = Res.panic := by
    intro x
    have : ¬ i < s.small.length := by omega
    simp [Rs.setIdx, this]
  unfold Gen.SrcSmallInts.set
  cases hc : Model.SmallInts.cast lo hi v with
  | none => simp only [hc, e1, Res.panic_bind, ltI, cBS, cSB, cZ]
  | some x => by_cases hx : x < hi <;> simp [hx, e1, hc]

/-- `SmallInts::from_elem`, as written: under its two assertions (`size_of::<S>() < size_of::<B>()`, and
`v < S::max_value()` for positive `v`) it builds the model's state; `0` must be a value of the small type -/
theorem fromElem_eq_model (lo hi : Int) (h0 : lo ≤ 0 ∧ 0 ≤ hi) (sS sB : Nat) (hsz : sS < sB) (v : Int) (n : Nat)
    (hv : 0 < v → v < hi) :
    Gen.SrcSmallInts.fromElem (cBS lo hi) cSB (cZ lo hi) ltI hi sS sB v n
      = Res.ok ((Model.SmallInts.fromElem v n).small, (Model.SmallInts.fromElem v n).big) := by
  have e0 : Rs.assert (decide (sS < sB)) = Res.ok () := Rs.assert_ok (by simp [hsz])
  have ez : Model.SmallInts.cast lo hi ((0 : Nat) : Int) = some 0 := by simp [Model.SmallInts.cast, h0.1, h0.2]
  by_cases hp : 0 < v
  · have e1 : Rs.assert (decide (v < hi)) = Res.ok () := Rs.assert_ok (by simp [hv hp])
    simp only [Gen.SrcSmallInts.fromElem, Model.SmallInts.fromElem, e0, ez, e1, hp, Rs.unwrap_some, decide_true, if_true,
      ite_true, Res.ok_bind, Res.pure_eq_ok, ltI, cBS, cSB, cZ, Bool.not_true, Bool.not_false, Bool.false_eq_true, not_false_eq_true]
  · simp only [Gen.SrcSmallInts.fromElem, Model.SmallInts.fromElem, e0, ez, hp, Rs.unwrap_some, decide_false, if_false,
      ite_false, Res.ok_bind, Res.pure_eq_ok, ltI, cBS, cSB, cZ, Bool.not_true, Bool.not_false, Bool.false_eq_true, not_false_eq_true]

/-- `from_elem(S::max_value(), n)` (positive maximum) is refused by the assertion -/
theorem fromElem_max_panics (lo hi : Int) (h0 : lo ≤ 0 ∧ 0 < hi) (sS sB : Nat) (hsz : sS < sB) (n : Nat) :
    Gen.SrcSmallInts.fromElem (cBS lo hi) cSB (cZ lo hi) ltI hi sS sB hi n = Res.panic := by
  have e0 : Rs.assert (decide (sS < sB)) = Res.ok () := Rs.assert_ok (by simp [hsz])
  have ez : Model.SmallInts.cast lo hi ((0 : Nat) : Int) = some 0 := by
    have : (0 : Int) ≤ hi := by omega
    simp [Model.SmallInts.cast, h0.1, this]
  have e1 : Rs.assert (decide (hi < hi)) = Res.panic := by simp [Rs.assert]
  simp only [Gen.SrcSmallInts.fromElem, e0, ez, e1, h0.2, Rs.unwrap_some, decide_true, if_true, ite_true, Res.ok_bind,
    Res.panic_bind, ltI, cBS, cSB, cZ]

/-- `SmallInts::len`, as written -/
theorem len_eq_model (lo hi : Int) (sS sB : Nat) (s : St) :
    Gen.SrcSmallInts.len (cBS lo hi) cSB (cZ lo hi) ltI hi sS sB s.small s.big = Res.ok s.small.length := by
  simp only [Gen.SrcSmallInts.len, Res.pure_eq_ok, ltI, cBS, cSB, cZ, Bool.not_true, Bool.not_false, Bool.false_eq_true, not_false_eq_true]

/-! ### whole histories executed with the translated operations -/
open RbV.Spec.SmallInts (Op specStep)
open RbV.Lemmas.SmallInts (Abs abs_step)

/-- one operation of a history executed with the **translated** functions on the fields `(smallints, bigints)` -/
def srcStep (lo hi : Int) (sS sB : Nat) (st : List Int × List (Nat × Int)) : Op → Res (List Int × List (Nat × Int))
  | .push v => Gen.SrcSmallInts.push (cBS lo hi) cSB (cZ lo hi) ltI hi sS sB st.1 st.2 v
  | .set i v => Gen.SrcSmallInts.set (cBS lo hi) cSB (cZ lo hi) ltI hi sS sB st.1 st.2 i v
  | .get i => do
      let _ ← Gen.SrcSmallInts.get (cBS lo hi) cSB (cZ lo hi) ltI hi sS sB st.1 st.2 i
      pure st
  | .iter => pure st
  | .decompress => pure st

/-- every `set` of the history addresses an existing element (beyond the end `self.smallints[i] = …` panics) -/
def OpsOk : List Int → List Op → Prop
  | _, [] => True
  | l, op :: ops => (match op with | .set i _ => i < l.length | _ => True) ∧ OpsOk (specStep l op) ops

theorem srcStep_eq_model (lo hi : Int) (sS sB : Nat) (s : St) (l : List Int) (h : Abs hi s l) (op : Op)
    (hset : match op with | .set i _ => i < l.length | _ => True) :
    srcStep lo hi sS sB (s.small, s.big) op
      = Res.ok ((Model.SmallInts.step lo hi s op).small, (Model.SmallInts.step lo hi s op).big) := by
  cases op with
  | push v => simpa only [srcStep, Model.SmallInts.step] using push_eq_model lo hi sS sB s v
  | set i v =>
    simp only at hset
    simpa only [srcStep, Model.SmallInts.step] using set_eq_model lo hi sS sB s i v (by rw [h.1]; exact hset)
  | get i => simp only [srcStep, Model.SmallInts.step, get_eq_model lo hi sS sB s i, Res.ok_bind, Res.pure_eq_ok]
  | iter => simp only [srcStep, Model.SmallInts.step, Res.pure_eq_ok]
  | decompress => simp only [srcStep, Model.SmallInts.step, Res.pure_eq_ok]

/-- a whole history run through the translated operations reaches exactly the model's state -/
theorem run_eq_model (lo hi : Int) (sS sB : Nat) (ops : List Op) : ∀ (s : St) (l : List Int), Abs hi s l → OpsOk l ops →
    ops.foldlM (srcStep lo hi sS sB) (s.small, s.big)
      = Res.ok ((ops.foldl (Model.SmallInts.step lo hi) s).small, (ops.foldl (Model.SmallInts.step lo hi) s).big) := by
  induction ops with
  | nil => intro s l _ _; rfl
  | cons op ops ih =>
    intro s l h hok
    rw [List.foldlM_cons, srcStep_eq_model lo hi sS sB s l h op hok.1]
    exact ih _ _ (abs_step lo hi s l op h) hok.2

end RbV.Thm.GenSrcSmallInts
