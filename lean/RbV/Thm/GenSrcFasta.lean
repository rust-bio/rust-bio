import RbV.Gen.SrcFasta
import RbV.Lemmas.FastxStream
import RbV.Lemmas.Utf8Lines
/-!
# The translated `bio::io::fasta` writer, reader and `Records` iterator (`RbV/Gen/SrcFasta.lean`) against the mirror models (C11)

The generated definitions know the byte sink only through `write_all` and the `BufRead` only through `read_line`; strings
are byte lists, `trim_end` and `splitn(2, char::is_whitespace)` are abstract operations.  Here they are instantiated:

* `writeAllOp`: `write_all` appends to a byte list and never fails (trusted reading of `io::Write` on a sink without errors);
* `readLineOp c sched`: `read_line` of the `BufReader` mirror (`Model/FastxStream.lean` `readLineStr`: capacity `c`, read
  schedule `sched`): appends the next line — up to and including the LF, over any chunk schedule — after validating it as
  UTF-8; on invalid UTF-8 the bytes are consumed, the string is left as it was, and the call returns `InvalidData`;
* `trimEndU`, `splitWsU`: `str::trim_end` and `splitn(2, char::is_whitespace)` on UTF-8 bytes (`Model/UniWs.lean`).
-/
set_option linter.unusedSimpArgs false
namespace RbV.Thm.GenSrcFasta
open RbV RbV.Rs RbV.Fastx RbV.BufLines

/-- `io::Write::write_all` on a sink that never fails: append -/
@[reducible] def writeAllOp (w : Bytes) (b : Bytes) : Except IoErr Unit × Bytes := (.ok (), w ++ b)

/-- `write_record_header` appends `>id[ desc]\n` -/
theorem writeRecordHeader_eq_model (w id : Bytes) (desc : Option Bytes) :
    Gen.SrcFasta.writeRecordHeader writeAllOp w id desc = Res.ok (.ok (), w ++ faHeaderBytes id desc) := by
  cases desc <;> simp [Gen.SrcFasta.writeRecordHeader, faHeaderBytes]

theorem chunksGo_eq (n : Nat) (hn : 0 < n) : ∀ (fuel : Nat) (l : Bytes), l.length ≤ fuel → Rs.chunksGo n fuel l = Fastx.chunks n l := by
  intro fuel
  induction fuel with
  | zero =>
    intro l hl
    have : l = [] := List.length_eq_zero_iff.mp (by omega)
    subst this
    rw [Fastx.chunks]; simp [Rs.chunksGo]
  | succ f ih =>
    intro l hl
    cases l with
    | nil => rw [Fastx.chunks]; simp [Rs.chunksGo]
    | cons b r =>
      have h0 : ¬ (n = 0 ∨ b :: r = []) := by simp; omega
      rw [Fastx.chunks, dif_neg h0]
      simp only [Rs.chunksGo, List.isEmpty_cons, Bool.false_eq_true, if_false]
      rw [ih]
      simp only [List.length_drop, List.length_cons] at hl ⊢
      omega

/-- **`Writer::write`** appends exactly the model writer's bytes, for every record and every wrap `≥ 1` (`None`: one
line).  `Some(0)` is outside the domain (the code panics in `chunks(0)`).  The proof knows two shapes of the line loop
and tries them in turn (identifiers of the other shape do not exist; `first` catches that): (a) the
`chunks(w).try_for_each(closure)` = helper `write_each1`; (b) a `for` loop over the chunks that writes each line through a
private helper method found in the source (`write_sequence_line`: line + LF) = helpers `write_for1`, `writeSequenceLine` —
the refactoring of seeded C11-H2. -/
theorem write_eq_model (w id : Bytes) (desc : Option Bytes) (seq : Bytes) (wrap : Option Nat)
    (hw : ∀ n, wrap = some n → 1 ≤ n) :
    Gen.SrcFasta.write writeAllOp w wrap id desc seq =
      Res.ok (.ok (), w ++ writeFastaRec wrap { id := id, desc := desc, seq := seq }) := by
  have hchunks : ∀ n, 1 ≤ n → Rs.chunks seq n = Res.ok (Fastx.chunks n seq) := by
    intro n hn
    rw [Rs.chunks_ok (by omega), chunksGo_eq n (by omega) _ _ (Nat.le_refl _)]
  first
  | -- (a) `try_for_each`
    (have each : ∀ (cs : List Bytes) (w : Bytes),
          Gen.SrcFasta.write_each1 writeAllOp cs w = Res.ok (.ok (), w ++ cs.flatMap (· ++ [10])) := by
        intro cs
        induction cs with
        | nil => intro w; simp [Gen.SrcFasta.write_each1]
        | cons c cs ih => intro w; simp [Gen.SrcFasta.write_each1, ih]
     cases wrap with
     | none => simp [Gen.SrcFasta.write, writeRecordHeader_eq_model, writeFastaRec]
     | some n =>
       have hn := hw n rfl
       simp [Gen.SrcFasta.write, writeRecordHeader_eq_model, writeFastaRec, Rs.expect, hchunks n hn, each])
  | -- (b) `for` loop + line helper
    (have hl : ∀ (w : Bytes) (lw : Option Nat) (line : Bytes),
          Gen.SrcFasta.writeSequenceLine writeAllOp w lw line = Res.ok (.ok (), w ++ line ++ [10]) := by
        intro w lw line; simp [Gen.SrcFasta.writeSequenceLine]
     have hf : ∀ (lw : Option Nat) (cs : List Bytes) (w : Bytes),
          Gen.SrcFasta.write_for1 writeAllOp lw cs w = Res.ok (.next (w ++ cs.flatMap (· ++ [10]))) := by
        intro lw cs
        induction cs with
        | nil => intro w; simp [Gen.SrcFasta.write_for1]
        | cons c cs ih => intro w; simp [Gen.SrcFasta.write_for1, hl, ih]
     cases wrap with
     | none => simp [Gen.SrcFasta.write, writeRecordHeader_eq_model, writeFastaRec, hl]
     | some n =>
       have hn := hw n rfl
       have hpos : 0 < n := by omega
       have hne : n ≠ 0 := by omega
       simp [Gen.SrcFasta.write, writeRecordHeader_eq_model, writeFastaRec, Rs.expect, hchunks n hn, hf, hl, hpos, hne])

/-- **`Writer::write_record`** = `write` on the record's accessors `id()`, `desc()`, `seq()` (all translated) -/
theorem writeRecord_eq_model (w : Bytes) (r : FaRec) (wrap : Option Nat) (hw : ∀ n, wrap = some n → 1 ≤ n) :
    Gen.SrcFasta.writeRecord writeAllOp w wrap r.id r.desc r.seq = Res.ok (.ok (), w ++ writeFastaRec wrap r) := by
  cases r with
  | mk i d sq =>
    have h := write_eq_model w i d sq wrap hw
    cases d <;>
      simp [Gen.SrcFasta.writeRecord, Gen.SrcFasta.recordId, Gen.SrcFasta.recordDesc, Gen.SrcFasta.recordSeq] at h ⊢ <;>
      simp [h]

/-- **constructors**: `Reader::from_bufread` starts with an empty look-ahead line, `Reader::records` with the error flag
cleared (the initial state of `fasta_records_source_eq_model`), `Writer::from_bufwriter` without line wrap, `set_linewrap`
stores its argument -/
theorem ctors_eq {ρ ω : Type} (b : ρ) (l : Bytes) (w : ω) (lw lw' : Option Nat) :
    Gen.SrcFasta.readerFromBufread b = Res.ok (b, []) ∧
    Gen.SrcFasta.readerRecords b l = Res.ok ((b, l), false) ∧
    Gen.SrcFasta.writerFromBufwriter w = Res.ok (w, none) ∧
    Gen.SrcFasta.writerSetLinewrap lw lw' = Res.ok ((), lw') := by
  simp [Gen.SrcFasta.readerFromBufread, Gen.SrcFasta.readerRecords, Gen.SrcFasta.writerFromBufwriter,
    Gen.SrcFasta.writerSetLinewrap]

/-- the error `read_line` returns for a line that is not valid UTF-8 -/
def invalidData : IoErr := ⟨"InvalidData", "stream did not contain valid UTF-8"⟩
/-- the error of `Reader::read` for a record that does not start with `>` -/
def expectedGt : IoErr := ⟨"Other", "Expected > at record start."⟩

/-- `BufRead::read_line(&mut s)` on the `BufReader` mirror: the next line is appended to `s` and its length returned; a line
that is not valid UTF-8 is consumed, `s` stays as it was, the call fails with `InvalidData` -/
def readLineOp (c : Nat) (sched : Nat → Nat) (rd : St) (s : Bytes) : Except IoErr Nat × St × Bytes :=
  match readLineStr c sched rd with
  | (some l, rd') => (.ok l.length, rd', s ++ l)
  | (none, rd') => (.error invalidData, rd', s)

theorem readLineStr_some_valid {c : Nat} {sched : Nat → Nat} {rd rd' : St} {l : Bytes}
    (h : readLineStr c sched rd = (some l, rd')) : validUtf8 l = true := readLineStr_valid_of_eq h

theorem readLineStr_le (c : Nat) (sched : Nat → Nat) (rd : St) :
    (readLineStr c sched rd).2.pending.length ≤ rd.pending.length := readLineStr_le_of_eq rfl

theorem startsWithByte_eq (l : Bytes) (c : Nat) : Rs.startsWithByte l c = startsWith l c := rfl

/-- `&line[1..]` of a valid line that starts with an ASCII byte -/
theorem strFrom_one (l : Bytes) (c : Nat) (hc : c < 128) (hv : validUtf8 l = true) (hs : startsWith l c = true) :
    Rs.strFrom l 1 = Res.ok l.tail := by
  cases l with
  | nil => simp [startsWith] at hs
  | cons b r =>
    have hb : b = c := by simpa [startsWith] using hs
    subst hb
    have hv' : validUtf8 r = true := by
      unfold validUtf8 at hv
      simpa [hc] using hv
    apply Rs.strFrom_one_ascii
    intro x hx
    cases r with
    | nil => cases hx
    | cons y r' =>
      simp only [List.head?_cons, Option.some.injEq] at hx
      subst hx
      exact validUtf8_head _ _ hv'

/-- outcome of the line loop of `read` against the mirror `faLoop` -/
def LoopPost (id : Bytes) (desc : Option Bytes) (m : Option (Bytes × Bytes) × St)
    (x : Res (Flow (Except IoErr Unit × St × Bytes × Bytes × Option Bytes × Bytes) (St × Bytes × Bytes))) : Prop :=
  match m with
  | (none, rd') => ∃ sq, x = Res.ok (.ret (.error invalidData, rd', [], id, desc, sq))
  | (some (seq', l), rd') => x = Res.ok (.next (rd', l, seq'))

/-- the sequence-line loop of `Reader::read` = `faLoop` (fuel: more than the number of pending bytes) -/
theorem loop_eq (T : Txt) (sw : Bytes → Bytes × Option Bytes) (c : Nat) (sched : Nat → Nat) (id : Bytes) (desc : Option Bytes)
    (rd : St) (seq : Bytes) :
    ∀ (gas : Nat) (line : Bytes), rd.pending.length < gas →
      LoopPost id desc (faLoop T c sched rd seq)
        (Gen.SrcFasta.read_loop1 (readLineOp c sched) T.trim sw id desc gas rd line seq) := by
  fun_induction faLoop T c sched rd seq with
  | case1 rd seq rd' h =>
    intro gas line hg
    obtain ⟨g, rfl⟩ : ∃ g, gas = g + 1 := ⟨gas - 1, by omega⟩
    simp [LoopPost, Gen.SrcFasta.read_loop1, readLineOp, h]
  | case2 rd seq l rd' h hc2 =>
    intro gas line hg
    obtain ⟨g, rfl⟩ : ∃ g, gas = g + 1 := ⟨gas - 1, by omega⟩
    have hc2' : (startsWith l 62 || l.isEmpty) = true := by rw [Bool.or_comm]; exact hc2
    simp [LoopPost, Gen.SrcFasta.read_loop1, readLineOp, h, startsWithByte_eq, hc2, hc2']
  | case3 rd seq l rd' h hc3 ih =>
    intro gas line hg
    obtain ⟨g, rfl⟩ : ∃ g, gas = g + 1 := ⟨gas - 1, by omega⟩
    have hc3a : (l.isEmpty || startsWith l 62) = false := by simpa using hc3
    have hc3b : (startsWith l 62 || l.isEmpty) = false := by rw [Bool.or_comm]; exact hc3a
    have hc3c : l.isEmpty = false ∧ startsWith l 62 = false := by simpa using hc3a
    have hlt := readLineStr_lt_of_eq h hc3c.1
    have := ih g (([] : Bytes) ++ l) (by omega)
    simpa [Gen.SrcFasta.read_loop1, readLineOp, h, startsWithByte_eq, hc3a, hc3b, hc3c.1, hc3c.2] using this


/-- outcome of the translated `Reader::read` against the mirror `faReadS`: same result, same reader state (`BufReader`
and look-ahead line); the record is the mirror's on `Ok`, unspecified next to an error -/
def ReadPost (m : FaOut × FaReader) (x : Res (Except IoErr Unit × St × Bytes × Bytes × Option Bytes × Bytes)) : Prop :=
  match m.1 with
  | .record r => x = Res.ok (.ok (), m.2.rd, m.2.line, r.id, r.desc, r.seq)
  | .err => ∃ i d s, x = Res.ok (.error expectedGt, m.2.rd, m.2.line, i, d, s)
  | .utf8 => ∃ i d s, x = Res.ok (.error invalidData, m.2.rd, m.2.line, i, d, s)

/-- `Reader::read` from the point where `self.line` holds a non-empty line, against `faFromHeader`.  `hx` is the `simp` normal form of the
generated `read` after the header split: the two callers reach it by `simp […]` and match it up to `first | rfl | (congr 1; …)`, so a
change of the shape of the generated term shows up here -/
theorem fromHeader_eq (c : Nat) (sched : Nat → Nat) (r : FaReader) (fuel : Nat) (hf : r.rd.pending.length < fuel)
    (x : Res (Except IoErr Unit × St × Bytes × Bytes × Option Bytes × Bytes))
    (hx : x = (if !(startsWith r.line 62) then
                 Res.ok ((Except.error expectedGt : Except IoErr Unit), r.rd, r.line, ([] : Bytes), (none : Option Bytes), ([] : Bytes))
               else do
                 let t ← Gen.SrcFasta.read_loop1 (readLineOp c sched) trimEndU splitWsU (faHeaderU r.line).1 (faHeaderU r.line).2
                          fuel r.rd r.line []
                 match t with
                 | .ret v => pure v
                 | .next (reader, line, seq) =>
                   pure ((Except.ok () : Except IoErr Unit), reader, line, (faHeaderU r.line).1, (faHeaderU r.line).2, seq))) :
    ReadPost (faFromHeader Txt.unicode c sched r) x := by
  subst hx
  unfold faFromHeader
  by_cases hst : startsWith r.line 62 = true
  · have hl := loop_eq Txt.unicode splitWsU c sched (faHeaderU r.line).1 (faHeaderU r.line).2 r.rd [] fuel r.line hf
    simp only [hst, Bool.not_true, Bool.false_eq_true, if_false]
    cases hq : faLoop Txt.unicode c sched r.rd [] with
    | mk o rd' =>
      rw [hq] at hl
      cases o with
      | none =>
        obtain ⟨sq, hl⟩ := hl
        have hl' : Gen.SrcFasta.read_loop1 (readLineOp c sched) trimEndU splitWsU (faHeaderU r.line).1 (faHeaderU r.line).2
            fuel r.rd r.line [] = _ := hl
        simp [ReadPost, hl']
      | some p =>
        obtain ⟨sq, l⟩ := p
        have hl' : Gen.SrcFasta.read_loop1 (readLineOp c sched) trimEndU splitWsU (faHeaderU r.line).1 (faHeaderU r.line).2
            fuel r.rd r.line [] = _ := hl
        simp [ReadPost, hl', Txt.unicode]
  · have hst' : startsWith r.line 62 = false := by simpa using hst
    simp [ReadPost, hst']

/-- **`Reader::read`** = the stateful mirror `faReadS` (Unicode text functions), for every reader state whose look-ahead line
is valid UTF-8 (it always is: it came out of `read_line`), every capacity and schedule; fuel: more than the pending bytes -/
theorem read_eq_model (c : Nat) (sched : Nat → Nat) (r : FaReader) (hv : validUtf8 r.line = true)
    (id0 : Bytes) (desc0 : Option Bytes) (seq0 : Bytes) (fuel : Nat) (hf : r.rd.pending.length < fuel) :
    ReadPost (faReadS Txt.unicode c sched r)
      (Gen.SrcFasta.read (readLineOp c sched) trimEndU splitWsU r.rd r.line id0 desc0 seq0 fuel) := by
  unfold faReadS
  by_cases hl : r.line.isEmpty = true
  · have hl' : r.line = [] := by simpa using hl
    simp only [hl, if_true]
    cases hq : readLineStr c sched r.rd with
    | mk o rd' =>
      cases o with
      | none => simp [ReadPost, Gen.SrcFasta.read, Gen.SrcFasta.recordClear, readLineOp, hq, hl']
      | some l =>
        have hvl := readLineStr_some_valid hq
        by_cases hle : l.isEmpty = true
        · have : l = [] := by simpa using hle
          subst this
          simp [ReadPost, Gen.SrcFasta.read, Gen.SrcFasta.recordClear, readLineOp, hq, hl']
        · have hle' : l.isEmpty = false := by simpa using hle
          have hlt : rd'.pending.length < fuel := Nat.lt_trans (readLineStr_lt_of_eq hq hle') hf
          simp only [hle', Bool.false_eq_true, if_false]
          apply fromHeader_eq c sched { rd := rd', line := l } fuel hlt
          by_cases hst : startsWith l 62 = true
          · have e1 := strFrom_one l 62 (by decide) hvl hst
            simp [Gen.SrcFasta.read, Gen.SrcFasta.recordClear, readLineOp, hq, hl', hle', startsWithByte_eq, hst, e1,
              Rs.splitnItems, Rs.expect, faHeaderU]
            first | rfl | (congr 1; funext t; cases t <;> rfl)
          · have hst' : startsWith l 62 = false := by simpa using hst
            simp [Gen.SrcFasta.read, Gen.SrcFasta.recordClear, readLineOp, hq, hl', hle', startsWithByte_eq, hst', expectedGt]
  · have hl' : r.line.isEmpty = false := by simpa using hl
    simp only [hl', Bool.false_eq_true, if_false]
    apply fromHeader_eq c sched r fuel hf
    by_cases hst : startsWith r.line 62 = true
    · have e1 := strFrom_one r.line 62 (by decide) hv hst
      simp [Gen.SrcFasta.read, Gen.SrcFasta.recordClear, hl', startsWithByte_eq, hst, e1, Rs.splitnItems, Rs.expect, faHeaderU]
      first | rfl | (congr 1; funext t; cases t <;> rfl)
    · have hst' : startsWith r.line 62 = false := by simpa using hst
      simp [Gen.SrcFasta.read, Gen.SrcFasta.recordClear, hl', startsWithByte_eq, hst', expectedGt]


/-- the `Record` of the generated file for a model record -/
@[reducible] def toRec (r : FaRec) : Gen.SrcFasta.Record := ⟨r.id, r.desc, r.seq⟩

/-- what `Records::next` hands out for an item of the mirror -/
def ofItem : SItem FaItem → Except IoErr Gen.SrcFasta.Record
  | .item (.ok r) => .ok (toRec r)
  | .item .err => .error expectedGt
  | .utf8 => .error invalidData

/-- **`Records::next`** (no error so far) = one `read` of the mirror: `None` on the empty record, `Some(Ok(record))`,
or `Some(Err(_))` with the error flag set -/
theorem next_eq_model (c : Nat) (sched : Nat → Nat) (r : FaReader) (hv : validUtf8 r.line = true)
    (fuel : Nat) (hf : r.rd.pending.length < fuel) :
    Gen.SrcFasta.next (readLineOp c sched) trimEndU splitWsU r.rd r.line false fuel =
      match faReadS Txt.unicode c sched r with
      | (.utf8, r') => Res.ok (some (.error invalidData), r'.rd, r'.line, true)
      | (.err, r') => Res.ok (some (.error expectedGt), r'.rd, r'.line, true)
      | (.record x, r') => Res.ok (if x.isEmpty then none else some (.ok (toRec x)), r'.rd, r'.line, false) := by
  have h := read_eq_model c sched r hv [] none [] fuel hf
  cases hq : faReadS Txt.unicode c sched r with
  | mk o r' =>
    rw [hq] at h
    cases o with
    | record x =>
      have h' : Gen.SrcFasta.read (readLineOp c sched) trimEndU splitWsU r.rd r.line [] none [] fuel = _ := h
      cases hx : x.isEmpty <;>
        simp [Gen.SrcFasta.next, Gen.SrcFasta.recordNew, Gen.SrcFasta.recordIsEmpty, h', FaRec.isEmpty] <;>
        simp [FaRec.isEmpty] at hx <;> simp [hx]
    | err | utf8 =>
      obtain ⟨i, d, s, h'⟩ := h
      have h'' : Gen.SrcFasta.read (readLineOp c sched) trimEndU splitWsU r.rd r.line [] none [] fuel = _ := h'
      simp [Gen.SrcFasta.next, Gen.SrcFasta.recordNew, h'']

/-- after an error `Records::next` returns `None` for ever -/
theorem next_after_error (c : Nat) (sched : Nat → Nat) (rd : St) (line : Bytes) (fuel : Nat) :
    Gen.SrcFasta.next (readLineOp c sched) trimEndU splitWsU rd line true fuel = Res.ok (none, rd, line, true) := by
  simp [Gen.SrcFasta.next]

/-- the translated iterator as a state transformer (`Rs.drain`): state = (`BufReader`, look-ahead line, error flag) -/
def srcNext (c : Nat) (sched : Nat → Nat) (fuel : Nat) (s : St × Bytes × Bool) :
    Res ((St × Bytes × Bool) × Option (Except IoErr Gen.SrcFasta.Record)) := do
  let (o, rd, line, e) ← Gen.SrcFasta.next (readLineOp c sched) trimEndU splitWsU s.1 s.2.1 s.2.2 fuel
  pure ((rd, line, e), o)

/-- **`Records` drained** = the mirror's `faDrain`: calling the translated `next` until `None` yields exactly the mirror's
items, whenever the consumer allows at least as many calls as the mirror needs (`faNextCalls`) -/
theorem drain_eq_model (c : Nat) (sched : Nat → Nat) (fuel : Nat) :
    ∀ (m n : Nat) (r : FaReader) (k : Nat), validUtf8 r.line = true → r.rd.pending.length < fuel →
      faNextCalls Txt.unicode c sched m r = some k → k ≤ n →
      Rs.drain (srcNext c sched fuel) n (r.rd, r.line, false) =
        Res.ok ((faDrain Txt.unicode c sched m r).1.map ofItem) := by
  intro m
  induction m with
  | zero => intro n r k hv hf hk; simp [faNextCalls] at hk
  | succ m ih =>
    intro n r k hv hf hk hkn
    have hn := next_eq_model c sched r hv fuel hf
    have hinv := faReadS_inv Txt.unicode c sched r hv
    simp only [faNextCalls] at hk
    simp only [faDrain]
    cases hq : faReadS Txt.unicode c sched r with
    | mk o r' =>
      rw [hq] at hn hk hinv
      cases o with
      | utf8 | err =>
        simp only [Option.some.injEq] at hk
        obtain ⟨n', rfl⟩ : ∃ n', n = n' + 2 := ⟨n - 2, by omega⟩
        simp [Rs.drain, srcNext, hn, next_after_error, ofItem]
      | record x =>
        simp only at hk hn
        by_cases hx : x.isEmpty = true
        · simp only [hx, if_true, Option.some.injEq] at hk
          obtain ⟨n', rfl⟩ : ∃ n', n = n' + 1 := ⟨n - 1, by omega⟩
          simp [Rs.drain, srcNext, hn, hx]
        · have hx' : x.isEmpty = false := by simpa using hx
          simp only [hx', Bool.false_eq_true, if_false, Option.map_eq_some_iff] at hk
          obtain ⟨k', hk', rfl⟩ := hk
          obtain ⟨n', rfl⟩ : ∃ n', n = n' + 1 := ⟨n - 1, by omega⟩
          have := ih n' r' k' hinv.2 (by simp only at hinv; omega) hk' (by omega)
          simp [Rs.drain, srcNext, hn, hx', this, ofItem]

end RbV.Thm.GenSrcFasta
