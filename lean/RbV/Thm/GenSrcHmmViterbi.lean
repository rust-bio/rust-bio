import RbV.Gen.SrcHmmViterbi
import RbV.Lemmas.HmmSrc
/-!
# The translated text of `hmm::viterbi` (`viterbi_matrices`, the end-term loop, `viterbi_traceback`) is optimal

`RbV/Gen/SrcHmmViterbi.lean` is regenerated from `src/stats/hmm/mod.rs` on every `./check C14`.  Instantiated at exact
numerators (`Rs.natOps`) and a specification-level model (`Rs.hmmOps m`, well-formed, at least one state), the translated
`viterbi` returns — without panic — a state path whose joint weight is the returned value, and no state path has a larger
joint weight; hence the value is the one the mirror model `Hmm.viterbi` reports.

The statement is **modulo tie-breaking**, as the property is: which of several optimal paths is returned is not fixed.  The
proof therefore never says *which* predecessor `max_by` selects, only that the selected one maximises `previous value ·
transition` (`cmp1_spec`: the zero-aware comparator refines that score; `maxBy_spec`: then `max_by` returns a maximal element
for every scan order).  The matrices are characterised cell-wise by the Bellman conditions (`GoodStep`), the traceback loop
is followed over any such matrices (`traceback_spec_src`) and the path it traces is optimal by `tbP_optimal`
(`Lemmas/C14.lean`).
-/
set_option linter.unusedSimpArgs false

namespace RbV.Thm.GenSrcHmmViterbi
open RbV RbV.Rs RbV.Hmm RbV.Thm.GenSrc RbV.Gen.SrcHmmViterbi

theorem map1_eq (z : Nat) (m : Hmm) (x : Nat × Nat) : viterbi_matrices_map1 (natOps z) (hmmOps m) x = x := by
  cases x; rfl

theorem map1_id (z : Nat) (m : Hmm) (l : List (Nat × Nat)) : List.map (viterbi_matrices_map1 (natOps z) (hmmOps m)) l = l := by
  rw [List.map_congr_left (fun x _ => map1_eq z m x)]; simp

theorem map2_eq (z : Nat) (m : Hmm) (x : Nat × Nat) : viterbi_matrices_map2 (natOps z) (hmmOps m) x = x := by
  cases x; rfl

/-- the zero-aware comparator refines the score `previous value · transition into c`: on two candidates it is the model's
`cmpZ` -/
theorem cmp1_spec (z : Nat) (m : Hmm) (i c : Nat) : ∀ x y : Nat × Nat,
    (viterbi_matrices_cmp1 (natOps z) (hmmOps m) i c x y = .gt → y.2 * m.trans y.1 c ≤ x.2 * m.trans x.1 c) ∧
    (viterbi_matrices_cmp1 (natOps z) (hmmOps m) i c x y ≠ .gt → x.2 * m.trans x.1 c ≤ y.2 * m.trans y.1 c) := by
  rintro ⟨a, v⟩ ⟨b, w⟩
  have h : viterbi_matrices_cmp1 (natOps z) (hmmOps m) i c (a, v) (b, w)
      = cmpZ (fun k => if k = 0 then v else w) (fun k => if k = 0 then m.trans a c else m.trans b c) 0 1 := by
    simp [viterbi_matrices_cmp1, cmpZ]
  rw [h]
  simpa using cmpZ_refines (fun k => if k = 0 then v else w) (fun k => if k = 0 then m.trans a c else m.trans b c) 0 1

/-- `max_by` with the comparator of the code, over **whatever list** with the members of the enumerated previous column the
text scans (`hr` is obtained by `generalize`, which reads the list off the goal): its result is a predecessor that maximises
`previous value · transition` -/
theorem pick_spec (z : Nat) (m : Hmm) (i c : Nat) (prev : List Nat) (hS : 0 < m.S) (hl : prev.length = m.S)
    {lst : List (Nat × Nat)} {r : Option (Nat × Nat)} (hr : Rs.maxBy (viterbi_matrices_cmp1 (natOps z) (hmmOps m) i c) lst = r)
    (hlst : ∀ x, x ∈ lst ↔ x ∈ Rs.enumerate prev) :
    ∃ a, a < m.S ∧ r = some (a, ix prev a) ∧ ∀ k, k < m.S → ix prev k * m.trans k c ≤ ix prev a * m.trans a c := by
  subst hr
  rw [← hl] at hS ⊢
  exact maxBy_enumerate_spec _ (fun x : Nat × Nat => x.2 * m.trans x.1 c) (cmp1_spec z m i c) prev hS lst hlst

/-- the first column: values `initial · emission`, pointers irrelevant -/
theorem for2_spec (z : Nat) (m : Hmm) (o : Nat) (vals0 from0 : List (List Nat)) (r0 q0 : List Nat)
    (hr0 : vals0[0]? = some r0) (hrl : r0.length = m.S) (hq0 : from0[0]? = some q0) (hql : q0.length = m.S) :
    ∃ s', List.foldlM (viterbi_matrices_for2 (natOps z) (hmmOps m) o) (vals0, from0) (List.range m.S) = Res.ok s' ∧
      s'.1 = vals0.set 0 (col0 m o) ∧ s'.2 = from0.set 0 ((List.range m.S).map fun s => s) := by
  obtain ⟨s', h1, h2, h3⟩ := fill_row (fun s => s.1) (viterbi_matrices_for2 (natOps z) (hmmOps m) o)
    (fun s => m.init s * m.emit s o) 0 m.S (fun j s => RowFilled from0 s.2 0 j (fun s => s) m.S) (vals0, from0) r0 hr0 hrl
    (RowFilled.zero _ hq0 hql) (by
      rintro j ⟨v, f⟩ hj hf hq
      obtain ⟨a', ha', hf'⟩ := hf.step hj
      obtain ⟨b', hb', hq'⟩ := hq.step hj
      have ha' : Rs.set2 v 0 j (m.init j * m.emit j o) = Res.ok a' := ha'
      have hb' : Rs.set2 f 0 j j = Res.ok b' := hb'
      exact ⟨(a', b'), by simp [viterbi_matrices_for2, ha', hb'], hf', hq'⟩)
  exact ⟨s', h1, h2, h3.done⟩

/-- the Bellman conditions of the cells `< c` of row `i` (values `vr`, pointers `fr`) over the previous row `prev` -/
def CellsOk (m : Hmm) (prev : List Nat) (o : Nat) (c : Nat) (vr fr : List Nat) : Prop :=
  ∀ j, j < c → ix fr j < m.S ∧ ix vr j = ix prev (ix fr j) * m.trans (ix fr j) j * m.emit j o ∧
    ∀ k, k < m.S → ix prev k * m.trans k j * m.emit j o ≤ ix vr j

def CellInv (m : Hmm) (i : Nat) (vals0 from0 : List (List Nat)) (prev : List Nat) (o c : Nat)
    (s : List (List Nat) × List (List Nat)) : Prop :=
  ∃ vr fr, s.1 = vals0.set i vr ∧ s.2 = from0.set i fr ∧ vr.length = m.S ∧ fr.length = m.S ∧ CellsOk m prev o c vr fr

/-- a column `i ≥ 1`: every cell gets a maximising predecessor and its value -/
theorem for3_spec (z : Nat) (m : Hmm) (hS : 0 < m.S) (i o : Nat) (hi : 0 < i) (vals0 from0 : List (List Nat))
    (prev r0 q0 : List Nat) (hp : vals0[i - 1]? = some prev) (hpl : prev.length = m.S) (hr0 : vals0[i]? = some r0)
    (hrl : r0.length = m.S) (hq0 : from0[i]? = some q0) (hql : q0.length = m.S) :
    ∃ s', List.foldlM (viterbi_matrices_for3 (natOps z) (hmmOps m) i o) (vals0, from0) (List.range m.S) = Res.ok s' ∧
      CellInv m i vals0 from0 prev o m.S s' := by
  have hiv : i < vals0.length := lt_of_getElem?_eq_some hr0
  have hif : i < from0.length := lt_of_getElem?_eq_some hq0
  apply foldlM_range_inv _ (fun c s => CellInv m i vals0 from0 prev o c s) m.S (vals0, from0)
  · exact ⟨r0, q0, (set_row_self hr0).symm, (set_row_self hq0).symm, hrl, hql, fun j hj => absurd hj (by omega)⟩
  · rintro c ⟨v, f⟩ hc ⟨vr, fr, hV, hF, hvl, hfl, hcells⟩
    simp only at hV hF
    subst hV hF
    have e1 : Rs.sub i 1 = Res.ok (i - 1) := sub_ok hi
    have hrow : Rs.row2 (vals0.set i vr) (i - 1) = Res.ok prev := row2_ok (by rw [List.getElem?_set_ne (by omega)]; exact hp)
    have hs1 : ∀ x : Nat, Rs.set2 (vals0.set i vr) i c x = Res.ok (vals0.set i (vr.set c x)) := fun x => by
      rw [set2_ok (List.getElem?_set_self hiv) (by omega), List.set_set]
    have hs2 : ∀ x : Nat, Rs.set2 (from0.set i fr) i c x = Res.ok (from0.set i (fr.set c x)) := fun x => by
      rw [set2_ok (List.getElem?_set_self hif) (by omega), List.set_set]
    simp only [viterbi_matrices_for3, e1, hrow, Res.ok_bind]
    generalize hr : Rs.maxBy (viterbi_matrices_cmp1 (natOps z) (hmmOps m) i c) _ = r
    obtain ⟨a, ha, rfl, hub⟩ := pick_spec z m i c prev hS hpl hr (by intro x; simp [map1_id])
    refine ⟨_, by simp [map2_eq, hs1, hs2]; rfl, vr.set c (ix prev a * m.trans a c * m.emit c o), fr.set c a, rfl, rfl,
      by simp [hvl], by simp [hfl], ?_⟩
    intro j hj
    by_cases hjc : j = c
    · subst hjc
      rw [ix_set_self (by omega), ix_set_self (by omega)]
      exact ⟨ha, rfl, fun k hk => Nat.mul_le_mul_right _ (hub k hk)⟩
    · rw [ix_set_ne hjc, ix_set_ne hjc]
      exact hcells j (by omega)

/-! ### `viterbi_matrices` -/

/-- invariant of the loop over the observations, `j` columns done -/
structure VMInv (m : Hmm) (obs : List Nat) (j : Nat) (s : List (List Nat) × List (List Nat)) : Prop where
  sv : Shaped obs.length m.S s.1
  sf : Shaped obs.length m.S s.2
  c0 : 0 < j → s.1[0]? = some (col0 m (obs[0]?.getD 0))
  good : ∀ t, 0 < t → t < j → GoodStep m (s.1[t - 1]?.getD []) (obs[t]?.getD 0) (s.1[t]?.getD [], s.2[t]?.getD [])

theorem for1_spec (z : Nat) (m : Hmm) (hS : 0 < m.S) (obs : List Nat) (s0 : List (List Nat) × List (List Nat))
    (h : VMInv m obs 0 s0) :
    ∃ s', List.foldlM (viterbi_matrices_for1 (natOps z) (hmmOps m)) s0 (Rs.enumerate obs) = Res.ok s' ∧
      VMInv m obs obs.length s' := by
  exact foldlM_enumerate_inv (viterbi_matrices_for1 (natOps z) (hmmOps m)) (VMInv m obs) obs s0 h (by
    rintro j b ⟨v, f⟩ hb ⟨sv, sf, c0, good⟩
    simp only at sv sf c0 good
    have hjn : j < obs.length := lt_of_getElem?_eq_some hb
    have hbd : obs[j]?.getD 0 = b := by simp [hb]
    obtain ⟨r0, hr0, hrl⟩ := sv.2 j hjn
    obtain ⟨q0, hq0, hql⟩ := sf.2 j hjn
    by_cases hj0 : j = 0
    · subst hj0
      obtain ⟨⟨v', f'⟩, hf, hv', hf'⟩ := for2_spec z m b v f r0 q0 hr0 hrl hq0 hql
      simp only at hv' hf'
      subst hv' hf'
      refine ⟨(v.set 0 (col0 m b), f.set 0 ((List.range m.S).map fun s => s)), by simp [viterbi_matrices_for1, hf],
        sv.set hjn (tab_length _ _), sf.set hjn (by simp), ?_, fun t h1 h2 => by omega⟩
      intro _; simp only; rw [hbd]; simp [sv.1, hjn]
    · obtain ⟨prev, hp, hpl⟩ := sv.2 (j - 1) (by omega)
      obtain ⟨⟨v', f'⟩, hf, vr, fr, hV, hF, hvl, hfl, hcells⟩ :=
        for3_spec z m hS j b (by omega) v f prev r0 q0 hp hpl hr0 hrl hq0 hql
      simp only at hV hF
      subst hV hF
      have hjb : (j == 0) = false := by simp [hj0]
      refine ⟨(v.set j vr, f.set j fr), by simp [viterbi_matrices_for1, hf, hjb, hj0], sv.set hjn hvl, sf.set hjn hfl, ?_, ?_⟩
      · intro _; simp only; rw [List.getElem?_set_ne (by omega)]; exact c0 (by omega)
      · intro t h1 h2
        simp only
        by_cases htj : t = j
        · subst htj
          rw [List.getElem?_set_ne (by omega), hp, List.getElem?_set_self (by rw [sv.1]; exact hjn),
            List.getElem?_set_self (by rw [sf.1]; exact hjn), hbd]
          -- `CellsOk … m.S vr fr` unfolds to `GoodStep … (vr, fr)`
          exact hcells
        · rw [List.getElem?_set_ne (by omega), List.getElem?_set_ne (by omega), List.getElem?_set_ne (by omega)]
          exact good t h1 (by omega))

/-- `for s in hmm.states() { vals[[last, *s]] = vals[[last, *s]] + hmm.end_prob(s) }` -/
theorem endloop_eq (z : Nat) (m : Hmm) (last : Nat) (vals : List (List Nat)) (row : List Nat) (hr : vals[last]? = some row)
    (hl : row.length = m.S) :
    List.foldlM (viterbi_for1 (natOps z) (hmmOps m) last) vals (List.range m.S) = Res.ok (vals.set last (endCol m row)) :=
  fill_row_eq _ (fun s => ix row s * m.fin s) last m.S vals row hr hl fun j s hj hf => by
    have hg : Rs.get2 s last j = Res.ok (ix row j) := by
      rw [hf.get_pending (Nat.le_refl _), get2_ix hr hl hj]
    first
      | (simp [viterbi_for1, hg]; done)
      | (simp [viterbi_for1, hg, Nat.mul_comm]; done)

/-! ### `viterbi_traceback` -/

theorem key1_eq (z : Nat) (m : Hmm) (x : Nat × Nat) : viterbi_traceback_key1 (natOps z) (hmmOps m) x = x.2 := by
  cases x; rfl

/-- `max_by_key` over whatever list with the members of the enumerated last column: a state with a maximal entry -/
theorem pickLast_spec (z : Nat) (m : Hmm) (row : List Nat) (hS : 0 < m.S) (hl : row.length = m.S) {lst : List (Nat × Nat)}
    {r : Option (Nat × Nat)} (hr : Rs.maxByKey (natOps z).cmp (viterbi_traceback_key1 (natOps z) (hmmOps m)) lst = r)
    (hlst : ∀ x, x ∈ lst ↔ x ∈ Rs.enumerate row) :
    ∃ kL, kL < m.S ∧ r = some (kL, ix row kL) ∧ ∀ k, k < m.S → ix row k ≤ ix row kL := by
  subst hr
  rw [← hl] at hS ⊢
  exact maxBy_enumerate_spec _ (fun x : Nat × Nat => x.2)
    (fun x y => by simp only [key1_eq, natOps_cmp]; exact compare_refines _ _) row hS lst hlst

/-- state of the traceback loop after `i ≥ 1` iterations: `suf` are the matrices walked so far (`n - i` still ahead), the
state holds the path traced over them, its first state, the value -/
def TbInv (m : Hmm) (n : Nat) (lrow : List Nat) (mats : List (List Nat × List Nat)) (i : Nat) (s : List Nat × Nat × Nat) : Prop :=
  (i = 0 → s = ([], 0, 0)) ∧
  (0 < i → ∃ kL pre suf, mats = pre ++ suf ∧ pre.length + i = n ∧ kL < m.S ∧ (∀ k, k < m.S → ix lrow k ≤ ix lrow kL) ∧
    s.2.2 = ix lrow kL ∧ s.2.1 < m.S ∧ s.1.reverse = tbP kL suf ∧ s.2.1 = (tbP kL suf).headD 0)

theorem traceback_spec_src (z : Nat) (m : Hmm) (hS : 0 < m.S) (vals from_ : List (List Nat)) (mats : List (List Nat × List Nat))
    (hn : 0 < vals.length) (hm : mats.length + 1 = vals.length) (lrow : List Nat) (hlr : vals[vals.length - 1]? = some lrow)
    (hll : lrow.length = m.S)
    (hfrom : ∀ t cf, mats[t]? = some cf → from_[t + 1]? = some cf.2 ∧ cf.2.length = m.S ∧ ∀ j, j < m.S → ix cf.2 j < m.S) :
    ∃ kL, kL < m.S ∧ (∀ k, k < m.S → ix lrow k ≤ ix lrow kL) ∧
      viterbi_traceback (natOps z) (hmmOps m) vals from_ = Res.ok (tbP kL mats, ix lrow kL) := by
  have := foldlM_enumerate_inv (viterbi_traceback_for1 (natOps z) (hmmOps m) from_ vals.length)
    (TbInv m vals.length lrow mats) vals.reverse ([], 0, 0) ⟨fun _ => rfl, fun h => absurd h (by omega)⟩ (by
    rintro i b ⟨result, curr, rp⟩ hb ⟨h0, hpos⟩
    have hin : i < vals.length := by simpa using lt_of_getElem?_eq_some hb
    by_cases hi0 : i = 0
    · subst hi0
      cases h0 rfl
      have hbl : b = lrow := by
        rw [List.getElem?_reverse hin, Nat.sub_zero, hlr] at hb; exact (Option.some.inj hb).symm
      subst hbl
      simp only [viterbi_traceback_for1, beq_self_eq_true, if_true]
      generalize hr : Rs.maxByKey (natOps z).cmp (viterbi_traceback_key1 (natOps z) (hmmOps m)) _ = r
      obtain ⟨kL, hk, rfl, hub⟩ := pickLast_spec z m b hS hll hr (by intro x; simp)
      exact ⟨_, by simp [Rs.expect]; rfl, fun h => absurd h (by omega),
        fun _ => ⟨kL, mats, [], (List.append_nil _).symm, hm, hk, hub, rfl, hk, rfl, rfl⟩⟩
    · obtain ⟨kL, pre, suf, hmats, hlen, hk, hub, hrp, hcur, hpath, hhead⟩ := hpos (by omega)
      simp only at hrp hcur hpath hhead
      -- the matrix in front of those walked so far
      rcases List.eq_nil_or_concat pre with rfl | ⟨pre', cf, rfl⟩
      · simp only [List.length_nil] at hlen; omega
      rw [List.concat_eq_append] at hlen hmats
      rw [List.length_append, List.length_singleton] at hlen
      rw [List.append_assoc, List.singleton_append] at hmats
      have e1 : Rs.sub vals.length i = Res.ok (pre'.length + 1) := by rw [← hlen]; exact sub_ok (by omega) |>.trans (by congr 1; omega)
      obtain ⟨hfr, hcl, hptr⟩ := hfrom pre'.length cf (by
        rw [hmats, List.getElem?_append_right (Nat.le_refl _), Nat.sub_self, List.getElem?_cons_zero])
      have e2 : Rs.get2 from_ (pre'.length + 1) curr = Res.ok (ix cf.2 curr) := get2_ix hfr hcl hcur
      have hib : (i == 0) = false := by simp [hi0]
      refine ⟨(result ++ [ix cf.2 curr], ix cf.2 curr, rp), by simp [viterbi_traceback_for1, hib, hi0, e1, e2],
        fun h => absurd h (by omega),
        fun _ => ⟨kL, pre', cf :: suf, hmats, by omega, hk, hub, hrp, hptr curr hcur, ?_, ?_⟩⟩
      · simp only [List.reverse_append, List.reverse_cons, List.reverse_nil, List.nil_append, List.singleton_append, tbP,
          hpath, ← hhead]
      · simp only [tbP, List.headD_cons, ← hhead])
  obtain ⟨⟨result, curr, rp⟩, hf, _, hpos⟩ := this
  rw [List.length_reverse] at hpos
  obtain ⟨kL, pre, suf, hmats, hlen, hk, hub, hrp, _, hpath, _⟩ := hpos hn
  have hpre : pre = [] := List.length_eq_zero_iff.mp (by omega)
  subst hpre
  rw [List.nil_append] at hmats
  subst hmats
  simp only at hpath hrp
  refine ⟨kL, hk, hub, ?_⟩
  simp [viterbi_traceback, hf, hpath, hrp]

/-! ### `viterbi` -/

theorem zeros_inv (z : Nat) (m : Hmm) (obs : List Nat) :
    VMInv m obs 0 (Rs.zeros2 z obs.length m.S, Rs.zeros2 0 obs.length m.S) :=
  ⟨shaped_zeros2 _ _ _, shaped_zeros2 _ _ _, fun h => absurd h (by omega), fun t _ h => absurd h (by omega)⟩

/-- **`hmm::viterbi` as written in the source is optimal**, at exact weights, for every well-formed model with at least one
state and every non-empty observation sequence: no panic, the returned path is a state path, its joint weight is the
returned value, and no state path has a larger joint weight (whatever the tie-breaks) -/
theorem viterbi_optimal (z : Nat) (m : Hmm) (hS : 0 < m.S) (hwf : m.WF) (obs : List Nat) (h : obs ≠ []) :
    ∃ r, Gen.SrcHmmViterbi.viterbi (natOps z) (hmmOps m) obs = Res.ok r ∧ Optimal m obs r := by
  obtain ⟨⟨v, f⟩, hmat, ⟨lv, rv⟩, ⟨lf, rf⟩, c0, good⟩ := for1_spec z m hS obs _ (zeros_inv z m obs)
  simp only at lv lf rv rf c0 good
  have hmat' : viterbi_matrices (natOps z) (hmmOps m) obs = Res.ok (v, f) := by
    simp [viterbi_matrices, hmat]
  cases obs with
  | nil => exact absurd rfl h
  | cons o0 os =>
    cases v with
    | nil => simp at lv
    | cons col vs =>
      cases f with
      | nil => simp at lf
      | cons f0 fs =>
        simp only [List.length_cons, Nat.add_right_cancel_iff] at lv lf
        have hcol : col = col0 m o0 := by simpa using c0 (by simp)
        subst hcol
        have hgood : GoodMats m (col0 m o0) os (vs.zip fs) := by
          apply goodMats_of_index m os vs fs _ lv lf
          intro t ht
          have := good (t + 1) (by omega) (by simp; omega)
          simpa using this
        have hlc : lastCol (col0 m o0) (vs.zip fs) = ((col0 m o0) :: vs)[vs.length]?.getD [] := lastCol_zip vs fs _ (by omega)
        obtain ⟨lrow, hlrow, hlrl⟩ := rv os.length (by simp)
        have hlrow' : (col0 m o0 :: vs)[(col0 m o0 :: vs).length - 1]? = some lrow := by
          simpa [lv] using hlrow
        have hlc' : lastCol (col0 m o0) (vs.zip fs) = lrow := by rw [hlc, lv, hlrow]; rfl
        have hfrom : ∀ t cf, (vs.zip fs)[t]? = some cf → (f0 :: fs)[t + 1]? = some cf.2 ∧ cf.2.length = m.S ∧
            ∀ j, j < m.S → ix cf.2 j < m.S := by
          intro t cf hcf
          have hft : fs[t]? = some cf.2 := (List.getElem?_zip_eq_some.mp hcf).2
          have ht : t < os.length := lf ▸ lt_of_getElem?_eq_some hft
          obtain ⟨fr, hfr, hfl⟩ := rf (t + 1) (by simp; omega)
          rw [List.getElem?_cons_succ, hft] at hfr
          cases hfr
          refine ⟨hft, hfl, fun j hj => ?_⟩
          have := (good (t + 1) (by omega) (by simp; omega) j hj).1
          simpa [hft] using this
        by_cases he : m.hasEnd = true
        · have hcs : Rs.checkedSub (os.length + 1) 1 = some os.length := by simp [Rs.checkedSub]
          have hend := endloop_eq z m os.length (col0 m o0 :: vs) lrow hlrow hlrl
          have hlen' : ((col0 m o0 :: vs).set os.length (endCol m lrow)).length = (col0 m o0 :: vs).length := by simp
          obtain ⟨kL, hk, hub, htb⟩ := traceback_spec_src z m hS ((col0 m o0 :: vs).set os.length (endCol m lrow)) (f0 :: fs)
            (vs.zip fs) (by simp) (by simp [List.length_zip, lv, lf]) (endCol m lrow)
            (by rw [hlen']; simp [lv]) (by simp [endCol, tab]) hfrom
          have hv : ∀ k, k < m.S → ix (endCol m lrow) k = ix lrow k * m.fin k := fun k hk' => by
            simp only [endCol, ix_tab _ hk']
          have ho := tbP_optimal m m.fin (fun _ _ => rfl) hgood hk
            (by rw [hlc']; intro k hk'; rw [← hv k hk', ← hv kL hk]; exact hub k hk')
          rw [hlc', ← hv kL hk] at ho
          exact ⟨_, by simp [Gen.SrcHmmViterbi.viterbi, hmat', he, hcs, hend, htb], ho⟩
        · have he' : m.hasEnd = false := by simpa using he
          have hfin : ∀ k, k < m.S → (1 : Nat) = m.fin k := fun k hk => (hwf he' k hk).symm
          obtain ⟨kL, hk, hub, htb⟩ := traceback_spec_src z m hS (col0 m o0 :: vs) (f0 :: fs)
            (vs.zip fs) (by simp) (by simp [List.length_zip, lv, lf]) lrow hlrow' hlrl hfrom
          have ho := tbP_optimal m (fun _ => 1) hfin hgood hk (by rw [hlc']; simpa only [Nat.mul_one] using hub)
          rw [hlc', Nat.mul_one] at ho
          exact ⟨_, by simp [Gen.SrcHmmViterbi.viterbi, hmat', he', htb], ho⟩

/-- … hence the returned value is the value of the mirror model `Hmm.viterbi` (= the maximum over all state paths), and the
returned path attains it -/
theorem viterbi_eq_model (z : Nat) (m : Hmm) (hS : 0 < m.S) (hwf : m.WF) (obs : List Nat) (h : obs ≠ []) :
    ∃ π, Gen.SrcHmmViterbi.viterbi (natOps z) (hmmOps m) obs = Res.ok (π, (Hmm.viterbi m obs).2) ∧
      π ∈ paths m.S obs.length ∧ joint m obs π = (Hmm.viterbi m obs).2 := by
  obtain ⟨⟨π, v⟩, hv, ho⟩ := viterbi_optimal z m hS hwf obs h
  obtain rfl : v = (Hmm.viterbi m obs).2 := (optimal_unique ho (viterbi_spec m hS hwf obs h)).2
  exact ⟨π, hv, ho.1, ho.2.1⟩

end RbV.Thm.GenSrcHmmViterbi
