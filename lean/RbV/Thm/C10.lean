import RbV.Ref.MyersHit
import RbV.Lemmas.TracebackSound
import RbV.Lemmas.TracebackRing
import RbV.Lemmas.TracebackScan
import RbV.Lemmas.TracebackLongSound
import RbV.Thm.GenSrcMyersSimple
import RbV.Thm.GenSrcMyersTb
import RbV.Thm.GenSrcMyersTb2
import RbV.Thm.GenSrcMyersTbSound
/-!
# C10 — Myers traceback yields valid alignments

The driver accepts a reported hit `(start, end, dist, ops)` iff `EditDist.checkHit` holds.  The theorems say that
this test is *exactly* the property's demand on a hit (`HitOK`), for every equivalence relation (ambiguity map,
wildcards), pattern, text and threshold, and that an accepted hit identifies a substring whose edit distance to the
pattern equals the reported distance.  The agreement clauses of C10 (eager / lazy / find_all_end / block-based vs
single-word, refusal of unvisited positions) compare the implementation with itself and are decided in the harness;
the driver only accepts `api:same`.

Sections of this file, and where the proofs are:
* the acceptance test `checkHit` and the traceback rule on the Sellers matrix (`checkHit_iff` … `traceback_rule_sound`):
  `RbV/Ref/EditDist.lean`, `RbV/Ref/MyersHit.lean`, `RbV/Lemmas/TracebackSound.lean`; the loop body of `_traceback_at` over the
  handler interface, for either order of its Ins / Del tests: `RbV/Lemmas/TracebackCursor.lean`;
* the stored-state traceback of the single-word version (`handler_reads_true_cells` … `scan_is_model`):
  `RbV/Model/MyersTraceback.lean`, `RbV/Lemmas/Traceback{State,Order,Ring,Scan}.lean`;
* the stored-state traceback of the block-based version (`long_handler_reads_true_cells` … `scanL_is_model`):
  `RbV/Model/MyersTracebackLong.lean`, `RbV/Lemmas/TracebackLong*.lean`;
* examples (non-vacuity, test vectors);
* the functions of `simple.rs`, `myers_impl.rs`, `traceback.rs` translated from the source text, equal to the models, and the
  soundness of the translated `_traceback_at` for hits ending before position `2^wd − m` (`myers_step_source_eq_model` …
  `traceback_source_sound`):
  `RbV/Thm/GenSrcMyersSimple.lean`, `RbV/Thm/GenSrcMyersTb{,2,Loop,Sound}.lean`.
The bit-vector search itself (`find_all_end` is exact) is C09: `RbV/Thm/C09.lean`.
-/
namespace RbV.Thm.C10
open RbV.EditDist

/-- the acceptance function decides the property's demand on one hit: the path consumes exactly the pattern and
`t[start..end]`, labels a column Match only over equivalent and Subst only over non-equivalent symbols, has
`dist` non-match operations, `dist` is the minimum edit distance over all substrings ending at `end-1`, `dist ≤ k` -/
theorem checkHit_iff (eqv : Nat → Nat → Bool) (p t : List Nat) (k : Nat) (h : Hit) :
    checkHit eqv p t k h = true ↔
      (h.start ≤ h.stop ∧ 1 ≤ h.stop ∧ h.stop ≤ t.length ∧
       acost eqv p ((t.take h.stop).drop h.start) h.ops = some h.dist ∧
       IsMinEdAt (unitW eqv) p t (h.stop - 1) h.dist ∧ h.dist ≤ k) :=
  checkHit_iff_HitOK eqv p t k h

/-- **soundness**: an accepted hit identifies a text substring whose edit distance to the pattern equals the
reported distance (≤ by the alignment itself, ≥ because the column value is the minimum over all starts), and no
substring ending at the same position is closer to the pattern -/
theorem checkHit_sound (eqv : Nat → Nat → Bool) (p t : List Nat) (k : Nat) (h : Hit)
    (ok : checkHit eqv p t k h = true) :
    ed (unitW eqv) p ((t.take h.stop).drop h.start) = h.dist ∧ h.dist ≤ k ∧
    (∀ s, s ≤ h.stop → h.dist ≤ ed (unitW eqv) p ((t.take h.stop).drop s)) := by
  have hok := (checkHit_iff_HitOK eqv p t k h).mp ok
  refine ⟨hitOK_ed eqv p t k h hok, hok.2.2.2.2.2, ?_⟩
  intro s hs
  have e : h.stop - 1 + 1 = h.stop := by have := hok.2.1; omega
  have := hok.2.2.2.2.1.1 s (by omega)
  rw [e] at this
  exact this

/-- the number of non-match operations of an accepted path is the reported distance, and the path is an alignment
in the weighted sense used for the optimality theorem of C09 -/
theorem accepted_path_cost (eqv : Nat → Nat → Bool) (p t : List Nat) (k : Nat) (h : Hit)
    (ok : checkHit eqv p t k h = true) :
    wcost (unitW eqv) p ((t.take h.stop).drop h.start) (h.ops.map Op.toW) = some h.dist :=
  acost_wcost eqv h.ops p _ h.dist ((checkHit_iff_HitOK eqv p t k h).mp ok).2.2.2.1

/-- the test against a precomputed column (what the compiled driver evaluates) is the same test -/
theorem checkHitRow_eq (eqv : Nat → Nat → Bool) (p t : List Nat) (k : Nat) (h : Hit) :
    checkHitRow (lastRow (unitW eqv) p t) eqv p t k h = checkHit eqv p t k h := rfl

/-- **the traceback rule is sound.**  `Model.MyersTraceback.traceback` applies the decision rule of
`Traceback::_traceback_at` — test order Subst (diagonal + 1 = current), Ins (upper + 1 = current, the `pv` bit), Del (left
= diagonal − 1, the `mv` bit of the left column), else Match — to the Sellers matrix.  For every end position it yields a
start and a path that the acceptance test accepts: the path consumes exactly the pattern and `t[start..stop]`, labels
Match/Subst correctly and has exactly `D[stop−1]` non-match operations.  (The reconstruction of the three neighbouring
values from the stored `Pv/Mv` words — `adjust_dist`, `adjust_by_mask`, the ring buffer — is the subject of
the theorems of the next two sections, for the single-word version and for the block-based version.  The driver compares
the model's prediction with every path the implementation returns: tag `tb-model-same`.) -/
theorem traceback_rule_sound (eqv : Nat → Nat → Bool) (p t : List Nat) (k stop : Nat) (h1 : 1 ≤ stop)
    (hs : stop ≤ t.length) (d : Nat) (hd : (lastRow (unitW eqv) p t)[stop - 1]? = some d) (hk : d ≤ k) :
    checkHit eqv p t k ⟨(RbV.Model.MyersTraceback.traceback (unitW eqv) p t stop).1, stop, d,
      (RbV.Model.MyersTraceback.traceback (unitW eqv) p t stop).2⟩ = true := by
  exact RbV.Model.MyersTraceback.checkHit_of_eq_traceback eqv p t k stop d h1 hs hd hk
    ((RbV.Model.MyersTraceback.traceback (unitW eqv) p t stop).1, d, (RbV.Model.MyersTraceback.traceback (unitW eqv) p t stop).2) rfl

/-! ## The stored-state traceback of the single-word version

`Model.MyersTraceback` (second half) mirrors `simple.rs: ShortTracebackHandler`, `myers_impl.rs: State::{adjust_dist,
adjust_by_mask, max}` and `traceback.rs: Traceback::{new, add_state, traceback_at, _traceback_at}`: the states vector
(one `State` = `pv`, `mv`, last-row distance per text position, written cyclically into `N` slots after a sentinel and
the initial column), the handler with its two cached states, the single-bit and bit-count distance adjustments, the
reversed cyclic iterator.  `w` = word size, `dmax` = `D::max_value()` of the distance type (255). -/

open RbV.Model.MyersTraceback RbV.Model.Ukkonen in
/-- **the handler reads true cells.**  Take the states the search stores for the text `t` (C09 invariant, proved in
`myers_step`: `pv`/`mv` of a column encode its vertical differences, `dist` its last entry) and run
`_traceback_at(end = stop − 1)`: `init_traceback`, `move_up_left(true)`, then `n` passes through the loop body.  The
handler is then finished (`pos_bitvec = 0`) or its cursor is at a cell (row `i + 1`, column `j`) of the Sellers matrix and
* `block.dist` is the value of that cell, `left_block.dist` the value of the diagonal cell (row `i`, column `j − 1`) — at
  column 0 the left block is the sentinel `State::max()` adjusted to `dmax − (m − i)`;
* the three tests of the loop body are the comparisons of the matrix rule: `left.dist.wrapping_add(1) == block.dist` ⇔
  diagonal + 1 = current (and `j ≥ 1`: never true against the sentinel), `block.pv & pos ≠ 0` ⇔ upper + 1 = current,
  `left.mv & pos ≠ 0` (`move_left_down_if_better`) ⇔ left + 1 = diagonal (and `j ≥ 1`).
* so far it has drawn `stop − j + 2` items from the iterator: the states of columns `stop, …, j − 1` and nothing else.
Every width `w`, pattern `1 ≤ m ≤ w`, equivalence, text, end position; `m < dmax`.  The distances of the model are
unbounded naturals with truncated subtraction: the equalities show that no `-= 1` is executed on 0 and that
`adjust_by_mask` never subtracts more than it has (`adjustByMask_spec`). -/
theorem handler_reads_true_cells (w : Nat) (eqv : Nat → Nat → Bool) (p t : List Nat) (dmax stop n : Nat)
    (hm1 : 1 ≤ p.length) (hw : p.length ≤ w) (hd : p.length < dmax) (hs : stop ≤ t.length) :
    (Handler.after dmax p.length (fun k => (seqStates w eqv p dmax t).getD (stop + 1 - k) ⟨0#w, 0#w, 0⟩) n).pos = 0#w ∨
    ∃ i j, i < p.length ∧ j ≤ stop ∧
      (Handler.after dmax p.length (fun k => (seqStates w eqv p dmax t).getD (stop + 1 - k) ⟨0#w, 0#w, 0⟩) n).pos =
        BitVec.twoPow w i ∧
      (Handler.after dmax p.length (fun k => (seqStates w eqv p dmax t).getD (stop + 1 - k) ⟨0#w, 0#w, 0⟩) n).taken =
        stop - j + 2 ∧
      (fun (h : Handler w) =>
        h.state.dist = cell (unitW eqv) p (t.take j) (i + 1) ∧
        (1 ≤ j → h.left.dist = cell (unitW eqv) p (t.take (j - 1)) i) ∧
        (j = 0 → h.left.dist + (p.length - i) = dmax) ∧
        (((h.left.dist + 1) % (dmax + 1) = h.state.dist) ↔
          (1 ≤ j ∧ cell (unitW eqv) p (t.take (j - 1)) i + 1 = cell (unitW eqv) p (t.take j) (i + 1))) ∧
        (((h.state.pv &&& h.pos) != 0#w) =
          decide (cell (unitW eqv) p (t.take j) i + 1 = cell (unitW eqv) p (t.take j) (i + 1))) ∧
        (((h.left.mv &&& h.pos) != 0#w) =
          decide (1 ≤ j ∧ cell (unitW eqv) p (t.take (j - 1)) (i + 1) + 1 = cell (unitW eqv) p (t.take (j - 1)) i)))
      (Handler.after dmax p.length (fun k => (seqStates w eqv p dmax t).getD (stop + 1 - k) ⟨0#w, 0#w, 0⟩) n) :=
  after_cells w eqv p t dmax stop n hm1 hw hd hs

open RbV.Model.MyersTraceback in
/-- **ring lookup.**  `N ≥ 1` slots are filled cyclically (`positions = (0..N).cycle()`) with any sequence of items,
on top of arbitrary old contents.  The reversed, cyclic iterator of `ShortTracebackHandler::new` started at the slot of
item number `q` yields item number `q − k` at its `k`-th `next()`, for every `k ≤ q` such that fewer than `N` items were
stored from item `q − k` on — i.e. exactly as long as the slot has not been overwritten. -/
theorem ring_read_any (w N : Nat) (hN : 0 < N) (old items : List (RbV.Model.MyersSimple.St w)) (hold : old.length = N)
    (q k : Nat) (hq : q < items.length) (hk : k ≤ q) (hwin : items.length - 1 - (q - k) < N) :
    readStore (storeAll N old 0 items) (q % N) k = items.getD (q - k) ⟨0#w, 0#w, 0⟩ :=
  ring_read N hN old items hold q k hq hk hwin

open RbV.Model.MyersTraceback in
/-- **the ring of `find_all` is large enough for every hit.**  `FullMatches` allocates `N = m + min(k, m) + 2` slots;
after a `next_*()` that returned a hit its accessors trace back at that hit (`self.pos`; after an unsuccessful end every
accessor answers `None`; called before the first `next_*()`, outside the documented "current hit", they trace back at
the initial column, about which nothing is stated here: every result needs `1 ≤ stop`).  For a hit ending at `stop − 1` (distance `≤ k`) the traceback reads the current column, the column to
its left and one more column per left move, `stop − start + 2` items in all; each of these reads finds the state of that
column (sequence number `stop + 1 − kk`), whatever the vector contained before the search and however often it has
wrapped around.  For ends that are not hits nothing is promised by `find_all`; see the `example`
below for such an end where the ring has already lost the column.  `find_all_lazy` allocates
`n + 2` slots, which never wrap (`traceback_model_sound_lazy`). -/
theorem ring_lookup_correct (w : Nat) (eqv : Nat → Nat → Bool) (p t : List Nat) (dmax k stop : Nat)
    (old : List (RbV.Model.MyersSimple.St w))
    (hold : old.length = p.length + min k p.length + 2) (h1 : 1 ≤ stop) (hs : stop ≤ t.length)
    (d : Nat) (hdv : (lastRow (unitW eqv) p t)[stop - 1]? = some d) (hk : d ≤ k) :
    stop - (traceback (unitW eqv) p t stop).1 ≤ p.length + min k p.length ∧
    ∀ kk, kk ≤ stop - (traceback (unitW eqv) p t stop).1 + 1 →
      readStore (storeAll (p.length + min k p.length + 2) old 0 (seqStates w eqv p dmax (t.take stop)))
        ((stop + 1) % (p.length + min k p.length + 2)) kk =
      (seqStates w eqv p dmax t).getD (stop + 1 - kk) ⟨0#w, 0#w, 0⟩ := by
  have hwin := hit_window eqv p t k stop d h1 hs hdv hk
  refine ⟨hwin, fun kk hkk => ?_⟩
  exact ring_read_seq w eqv p dmax _ old t stop stop (by omega) hold hs (Nat.le_refl _) kk (by omega)

open RbV.Model.MyersTraceback in
/-- **the stored-state traceback is sound (eager API).**  `tracebackStore` = search `stop` symbols with `_step`
storing every state in the ring of `N = m + min(k, m) + 2` slots (old contents arbitrary), then `_traceback_at` at the
current slot with the handler of `handler_reads_true_cells`.  For every hit (distance `≤ k`) its result — start
`stop − h_offset`, distance `block.dist`, reversed operation list — is exactly the prediction of the matrix-level rule and
therefore an accepted hit (`traceback_rule_sound`, `checkHit_sound`).  Every width, pattern `1 ≤ m ≤ w`, equivalence,
text, `k`. -/
theorem traceback_model_sound (w : Nat) (eqv : Nat → Nat → Bool) (p t : List Nat) (dmax k stop : Nat)
    (old : List (RbV.Model.MyersSimple.St w)) (hm1 : 1 ≤ p.length) (hw : p.length ≤ w) (hd : p.length < dmax)
    (hold : old.length = p.length + min k p.length + 2) (h1 : 1 ≤ stop) (hs : stop ≤ t.length)
    (d : Nat) (hdv : (lastRow (unitW eqv) p t)[stop - 1]? = some d) (hk : d ≤ k) :
    tracebackStore w eqv p dmax (p.length + min k p.length + 2) old t stop stop =
      ((traceback (unitW eqv) p t stop).1, d, (traceback (unitW eqv) p t stop).2) ∧
    checkHit eqv p t k ⟨(tracebackStore w eqv p dmax (p.length + min k p.length + 2) old t stop stop).1, stop,
      (tracebackStore w eqv p dmax (p.length + min k p.length + 2) old t stop stop).2.1,
      (tracebackStore w eqv p dmax (p.length + min k p.length + 2) old t stop stop).2.2⟩ = true := by
  have hwin := hit_window eqv p t k stop d h1 hs hdv hk
  have heq := tracebackStore_eq w eqv p dmax (p.length + min k p.length + 2) old t stop stop hm1 hw hd (by omega) hold
    hs (Nat.le_refl _) (by omega)
  rw [hit_cell eqv p t stop d h1 hs hdv] at heq
  exact ⟨heq, checkHit_of_eq_traceback eqv p t k stop d h1 hs hdv hk _ heq⟩

open RbV.Model.MyersTraceback in
/-- **… and for the lazy API at every searched end, hit or not.**  `find_all_lazy` allocates `n + 2` slots; after `c`
symbols have been consumed, `_traceback_at` for any end `stop − 1 < c` returns the prediction of the matrix-level rule,
an alignment of cost `D[stop − 1]` accepted without regard to `k` (the documented promise of the single-word version:
"will succeed even if the edit distance at the given position is greater than the maximum distance"). -/
theorem traceback_model_sound_lazy (w : Nat) (eqv : Nat → Nat → Bool) (p t : List Nat) (dmax c stop : Nat)
    (old : List (RbV.Model.MyersSimple.St w)) (hm1 : 1 ≤ p.length) (hw : p.length ≤ w) (hd : p.length < dmax)
    (hold : old.length = t.length + 2) (hc : c ≤ t.length) (h1 : 1 ≤ stop) (hs : stop ≤ c)
    (d : Nat) (hdv : (lastRow (unitW eqv) p t)[stop - 1]? = some d) :
    tracebackStore w eqv p dmax (t.length + 2) old t c stop =
      ((traceback (unitW eqv) p t stop).1, d, (traceback (unitW eqv) p t stop).2) ∧
    checkHit eqv p t d ⟨(tracebackStore w eqv p dmax (t.length + 2) old t c stop).1, stop,
      (tracebackStore w eqv p dmax (t.length + 2) old t c stop).2.1,
      (tracebackStore w eqv p dmax (t.length + 2) old t c stop).2.2⟩ = true := by
  have heq := tracebackStore_eq w eqv p dmax (t.length + 2) old t c stop hm1 hw hd (by omega) hold hc hs (by omega)
  rw [hit_cell eqv p t stop d h1 (by omega) hdv] at heq
  exact ⟨heq, checkHit_of_eq_traceback eqv p t d stop d h1 (by omega) hdv (Nat.le_refl _) _ heq⟩

open RbV.Model.MyersTraceback in
/-- **the model of the lazy availability test refuses exactly the unsearched positions.**  `availableAt N c e` is the
hand-written mirror of the test `e + 2 ≤ self.pos` in `traceback_at(e)` (not translated from the source text), read with
`self.pos = (c + 1) % N` after `c` symbols; with the `n + 2` slots of `find_all_lazy` and `c ≤ n` it is true iff `e < c`.
(`e + 2` is computed in `usize`; `e ≥ usize::MAX − 1` is outside the model.) -/
theorem lazy_available_iff (n c e : Nat) (hc : c ≤ n) : availableAt (n + 2) c e = true ↔ e < c :=
  availableAt_iff n c e hc

open RbV.Model.MyersTraceback in
/-- the single pass the compiled driver runs (`scanStore`: the vector kept in an `Array` while the text is consumed, as
`FullMatches`/`LazyMatches` do) reports for every wanted end `c` exactly `tracebackStore … t c c`, the function of
`traceback_model_sound` -/
theorem scan_is_model (w : Nat) (eqv : Nat → Nat → Bool) (p : List Nat) (dmax N : Nat)
    (old : List (RbV.Model.MyersSimple.St w)) (t : List Nat) (want : Nat → Bool) :
    scanStore w eqv p dmax N old t want =
      ((List.range (t.length + 1)).filter want).map (fun c => (c, tracebackStore w eqv p dmax N old t c c)) :=
  scanStore_eq w eqv p dmax N old t want

/-! ## The stored-state traceback of the block-based version

`Model.MyersTracebackLong` mirrors `long.rs: LongStatesHandler::{init, set_max_state, add_state}` and
`LongTracebackHandler::{new, move_up, move_up_left, move_to_left, move_left_down_if_better, finished}` (the loop is the same
`_traceback_at`): a column of the states vector has `nb = ⌈m / w⌉` slots; `add_state` copies the blocks the band-limited
search (`States::step`, C09 model `MyersLong.stepStates`) has computed, puts the sentinel block (`dist = usize::MAX`,
`pv = mv = 0`) below them and leaves the slots further down as they were (stale); the handler keeps the index of the
block under the cursor of the current and of the left column and switches blocks in `move_up` / `move_up_left`.
`usize` distances: `Nat`, `wrapping_add` in the Subst test and the wrap-around of `adjust_by_mask` modelled with
`umax = 2^64 − 1`.  Proof route: C09's band invariant (`MyersLong.Band`: the computed blocks hold a pseudo-column ≥ the true
column, exact wherever the true value is ≤ k, every row below them is > k) holds for every stored column
(`colfacts_concrete`); the cursor of a hit's walk stays in cells of value ≤ k (values never increase along the walk), its
diagonal neighbour is ≤ k as well (diagonal monotonicity), so both cached blocks are computed blocks holding exact values,
the `pv`/`mv` bits tested lie between an exact cell ≤ k and its neighbour and tell the truth, and the slot
`left_block_pos + 1` read by `move_left_down_if_better` is a computed block or the sentinel (whose `mv = 0` correctly says
"no Del"), never a stale slot. -/

open RbV.Model.MyersTraceback RbV.Model.MyersTracebackLong RbV.Model.MyersLong RbV.Model.Ukkonen in
/-- **the block-based handler reads true cells along the walk of a hit.**  Take the columns the block-based search
with threshold `k` stores for the text `t` (`colSeq … s` = the `nb` slots of sequence number `s` as `add_state` left them:
computed blocks, sentinel, stale slots) and run `_traceback_at` at an end `stop` whose distance is `≤ k`:
`init_traceback`, `move_up_left(true)`, then `n` passes through the loop body.  The handler is then finished
(`pos_bitvec = 0 ∧ block_pos = 0`) or its cursor is at a cell (row `i + 1`, column `j`) of the Sellers matrix and
* the cell has a value `≤ k`; `block_pos` is the block of row `i + 1` and `pos_bitvec` its bit;
* `block.dist` is the value of that cell, `left_block.dist` the value of the diagonal cell (`j ≥ 1`);
* the three tests of the loop body are the comparisons of the matrix rule: `left.dist.wrapping_add(1) == block.dist` ⇔
  diagonal + 1 = current (and `j ≥ 1`), `block.pv & pos ≠ 0` ⇔ upper + 1 = current, `move_left_down_if_better()` ⇔
  left + 1 = diagonal (and `j ≥ 1`) — whether the left cursor is inside a block or at its lower boundary, where the
  method reads the first bit of the next slot of the left column;
* it has drawn `stop − j + 2` columns from the iterator.
Every width `w ≥ 2`, pattern `m ≥ 1` with `m + 2w + 2 < 2^64`, equivalence, text, `k`, vector size `N ≥ 2`, old contents. -/
theorem long_handler_reads_true_cells (w : Nat) (eqv : Nat → Nat → Bool) (p t : List Nat) (k N : Nat)
    (old : List (RbV.Model.MyersSimple.St w)) (stop n : Nat)
    (hw : 2 ≤ w) (hm1 : 1 ≤ p.length) (hsmall : p.length + 2 * w + 2 ≤ umax) (hN : 2 ≤ N)
    (hold : old.length = N * (blocksOf w p).length) (hs : stop ≤ t.length)
    (hhit : cell (unitW eqv) p (t.take stop) p.length ≤ k) :
    ((LHandler.after (blocksOf w p).length p.length (fun i => colSeq w eqv p k N old t (stop + 1 - i)) n).pos = 0#w ∧
      (LHandler.after (blocksOf w p).length p.length (fun i => colSeq w eqv p k N old t (stop + 1 - i)) n).blockPos = 0) ∨
    ∃ i j, i < p.length ∧ j ≤ stop ∧
      (LHandler.after (blocksOf w p).length p.length (fun i => colSeq w eqv p k N old t (stop + 1 - i)) n).taken =
        stop - j + 2 ∧
      (fun (h : LHandler w) =>
        h.blockPos * w ≤ i ∧ i < h.blockPos * w + w ∧ h.pos = BitVec.twoPow w (i - h.blockPos * w) ∧
        cell (unitW eqv) p (t.take j) (i + 1) ≤ k ∧
        h.block.dist = cell (unitW eqv) p (t.take j) (i + 1) ∧
        (1 ≤ j → h.leftBlock.dist = cell (unitW eqv) p (t.take (j - 1)) i) ∧
        (((h.leftBlock.dist + 1) % (umax + 1) = h.block.dist) ↔
          (1 ≤ j ∧ cell (unitW eqv) p (t.take (j - 1)) i + 1 = cell (unitW eqv) p (t.take j) (i + 1))) ∧
        (((h.block.pv &&& h.pos) != 0#w) =
          decide (cell (unitW eqv) p (t.take j) i + 1 = cell (unitW eqv) p (t.take j) (i + 1))) ∧
        (h.moveLeftDownIfBetter.1 =
          decide (1 ≤ j ∧ cell (unitW eqv) p (t.take (j - 1)) (i + 1) + 1 = cell (unitW eqv) p (t.take (j - 1)) i)))
      (LHandler.after (blocksOf w p).length p.length (fun i => colSeq w eqv p k N old t (stop + 1 - i)) n) :=
  after_cellsL w eqv p k N old t hw hm1 hsmall hN hold stop n hs hhit

open RbV.Model.MyersTraceback RbV.Model.MyersTracebackLong RbV.Model.MyersLong in
/-- **the stored-state traceback of the block-based version is sound (eager API).**  `tracebackStoreL` = search `stop`
symbols with the band-limited `States::step`, `add_state` of every column into the ring of `N = m + min(k, m) + 2` columns
of `nb` slots (old contents arbitrary: stale columns, stale slots below the sentinel), then `_traceback_at` at the current
column with `LongTracebackHandler`.  For every hit (distance `≤ k`; by `C09.myers_long_eq` exactly the ends the
block-based search reports) its result — start, distance, path — is the prediction of the matrix-level rule
(`Model.MyersTraceback.traceback`, the rule the single-word theorem `traceback_model_sound` is stated against) and
therefore an accepted hit (`checkHit`).  Every width `w ≥ 2`, pattern length `m ≥ 1` (any number of blocks;
`m + 2w + 2 < 2^64`), equivalence, text, `k`. -/
theorem traceback_long_model_sound (w : Nat) (eqv : Nat → Nat → Bool) (p t : List Nat) (k stop : Nat)
    (old : List (RbV.Model.MyersSimple.St w)) (hw : 2 ≤ w) (hm1 : 1 ≤ p.length) (hsmall : p.length + 2 * w + 2 ≤ umax)
    (hold : old.length = (p.length + min k p.length + 2) * (blocksOf w p).length) (h1 : 1 ≤ stop) (hs : stop ≤ t.length)
    (d : Nat) (hdv : (lastRow (unitW eqv) p t)[stop - 1]? = some d) (hk : d ≤ k) :
    tracebackStoreL w eqv p k (p.length + min k p.length + 2) old t stop =
      ((traceback (unitW eqv) p t stop).1, d, (traceback (unitW eqv) p t stop).2) ∧
    checkHit eqv p t k ⟨(tracebackStoreL w eqv p k (p.length + min k p.length + 2) old t stop).1, stop,
      (tracebackStoreL w eqv p k (p.length + min k p.length + 2) old t stop).2.1,
      (tracebackStoreL w eqv p k (p.length + min k p.length + 2) old t stop).2.2⟩ = true := by
  have hwin := hit_window eqv p t k stop d h1 hs hdv hk
  have hc := hit_cell eqv p t stop d h1 hs hdv
  have heq := tracebackStoreLAt_eq w eqv p k (p.length + min k p.length + 2) old t hw hm1 hsmall (by omega) hold stop stop
    hs (Nat.le_refl _) (by rw [hc]; exact hk) (by omega)
  rw [hc] at heq
  exact ⟨heq, checkHit_of_eq_traceback eqv p t k stop d h1 hs hdv hk _ heq⟩

open RbV.Model.MyersTraceback RbV.Model.MyersTracebackLong RbV.Model.MyersLong in
/-- **… for every end the block-based search reports.**  The same with the hypothesis in the form "the pair
`(stop − 1, d)` is in the list `find_all_end` returns" (`MyersLong.findAllEnd`, proved equal to the Sellers hits in C09). -/
theorem traceback_long_sound_reported (w : Nat) (eqv : Nat → Nat → Bool) (p t : List Nat) (k e d : Nat)
    (old : List (RbV.Model.MyersSimple.St w)) (hw : 2 ≤ w) (hm1 : 1 ≤ p.length) (hsmall : p.length + 2 * w + 2 ≤ umax)
    (hold : old.length = (p.length + min k p.length + 2) * (blocksOf w p).length)
    (hrep : (e, d) ∈ findAllEnd w eqv p t k) :
    tracebackStoreL w eqv p k (p.length + min k p.length + 2) old t (e + 1) =
      ((traceback (unitW eqv) p t (e + 1)).1, d, (traceback (unitW eqv) p t (e + 1)).2) ∧
    checkHit eqv p t k ⟨(tracebackStoreL w eqv p k (p.length + min k p.length + 2) old t (e + 1)).1, e + 1,
      (tracebackStoreL w eqv p k (p.length + min k p.length + 2) old t (e + 1)).2.1,
      (tracebackStoreL w eqv p k (p.length + min k p.length + 2) old t (e + 1)).2.2⟩ = true := by
  rw [findAllEnd_eq_hits w eqv p t k (by omega) hm1] at hrep
  obtain ⟨_, h2, h3⟩ := (mem_hitsFrom k _ 0 e d).mp hrep
  simp only [Nat.sub_zero] at h2
  have hlen : e < (lastRow (unitW eqv) p t).length := by
    apply Nat.lt_of_not_le
    intro hle
    rw [List.getElem?_eq_none hle] at h2
    cases h2
  rw [lastRow_length] at hlen
  exact traceback_long_model_sound w eqv p t k (e + 1) old hw hm1 hsmall hold (by omega) (by omega) d
    (by simpa using h2) h3

open RbV.Model.MyersTraceback RbV.Model.MyersTracebackLong RbV.Model.MyersLong in
/-- **… and for the lazy API at every hit already searched.**  `find_all_lazy` allocates `n + 2` columns; after `c`
symbols have been consumed, `_traceback_at` for a hit end `stop − 1 < c` (distance `≤ k`; the block-based version documents
that it answers only for hits) returns the prediction of the matrix-level rule. -/
theorem traceback_long_model_sound_lazy (w : Nat) (eqv : Nat → Nat → Bool) (p t : List Nat) (k c stop : Nat)
    (old : List (RbV.Model.MyersSimple.St w)) (hw : 2 ≤ w) (hm1 : 1 ≤ p.length) (hsmall : p.length + 2 * w + 2 ≤ umax)
    (hold : old.length = (t.length + 2) * (blocksOf w p).length) (hc : c ≤ t.length) (h1 : 1 ≤ stop) (hs : stop ≤ c)
    (d : Nat) (hdv : (lastRow (unitW eqv) p t)[stop - 1]? = some d) (hk : d ≤ k) :
    tracebackStoreLAt w eqv p k (t.length + 2) old t c stop =
      ((traceback (unitW eqv) p t stop).1, d, (traceback (unitW eqv) p t stop).2) ∧
    checkHit eqv p t k ⟨(tracebackStoreLAt w eqv p k (t.length + 2) old t c stop).1, stop,
      (tracebackStoreLAt w eqv p k (t.length + 2) old t c stop).2.1,
      (tracebackStoreLAt w eqv p k (t.length + 2) old t c stop).2.2⟩ = true := by
  have hc' := hit_cell eqv p t stop d h1 (by omega) hdv
  have heq := tracebackStoreLAt_eq w eqv p k (t.length + 2) old t hw hm1 hsmall (by omega) hold c stop hc hs
    (by rw [hc']; exact hk) (by omega)
  rw [hc'] at heq
  exact ⟨heq, checkHit_of_eq_traceback eqv p t k stop d h1 (by omega) hdv hk _ heq⟩

open RbV.Model.MyersTraceback RbV.Model.MyersTracebackLong RbV.Model.MyersLong in
/-- **the mirror models of the block-based and of the single-word stored-state pipeline return identical alignments**
(eager API, ring of `m + min(k, m) + 2` columns).  For a pattern that fits one word of the single-word matcher (`m ≤ ws`,
`m < dmax`; the block-based model may use any word width `w ≥ 2` with `m + 2w + 2 < 2^64`, so the pattern may span several of
its blocks) and every hit, the two hand-written models — `tracebackStore` (`simple.rs`, proved in `traceback_model_sound`) and
`tracebackStoreL` (`long.rs`) — return the same start, distance and path, whatever their states vectors contained before.
`LongTracebackHandler` and `Traceback::{new, add_state}` are not translated from the source text: that the two implementations
agree is checked in the harness (`api:same`).  For longer patterns there is no single-word object; `traceback_long_model_sound` states
the result against the matrix-level rule that the single-word theorem is stated against. -/
theorem traceback_long_eq_simple (w ws : Nat) (eqv : Nat → Nat → Bool) (p t : List Nat) (dmax k stop : Nat)
    (old : List (RbV.Model.MyersSimple.St w)) (olds : List (RbV.Model.MyersSimple.St ws))
    (hw : 2 ≤ w) (hm1 : 1 ≤ p.length) (hsmall : p.length + 2 * w + 2 ≤ umax) (hws : p.length ≤ ws) (hd : p.length < dmax)
    (hold : old.length = (p.length + min k p.length + 2) * (blocksOf w p).length)
    (holds : olds.length = p.length + min k p.length + 2) (h1 : 1 ≤ stop) (hs : stop ≤ t.length)
    (d : Nat) (hdv : (lastRow (unitW eqv) p t)[stop - 1]? = some d) (hk : d ≤ k) :
    tracebackStoreL w eqv p k (p.length + min k p.length + 2) old t stop =
      tracebackStore ws eqv p dmax (p.length + min k p.length + 2) olds t stop stop := by
  rw [(traceback_long_model_sound w eqv p t k stop old hw hm1 hsmall hold h1 hs d hdv hk).1,
    (traceback_model_sound ws eqv p t dmax k stop olds hm1 hws hd holds h1 hs d hdv hk).1]

open RbV.Model.MyersTracebackLong in
/-- the single pass the compiled driver runs for a block-based object (`scanStoreL`, tag `tb-block-model-same`) reports
for every wanted end `c` exactly `tracebackStoreL … t c`, the function of `traceback_long_model_sound` -/
theorem scanL_is_model (w : Nat) (eqv : Nat → Nat → Bool) (p : List Nat) (k N : Nat)
    (old : List (RbV.Model.MyersSimple.St w)) (t : List Nat) (want : Nat → Bool) :
    scanStoreL w eqv p k N old t want =
      ((List.range (t.length + 1)).filter want).map (fun c => (c, tracebackStoreL w eqv p k N old t c)) :=
  scanStoreL_eq w eqv p k N old t want

-- non-vacuity
example : checkHit eqSym [1, 2, 3] [9, 1, 3, 9] 1 ⟨1, 3, 1, [.mat, .ins, .mat]⟩ = true := by decide +kernel
example : checkHit eqSym [1, 2, 3] [9, 1, 3, 9] 1 ⟨1, 3, 1, [.mat, .sub, .mat]⟩ = false := by decide +kernel
example : checkHit eqSym [1, 2, 3] [9, 1, 3, 9] 1 ⟨0, 3, 2, [.del, .mat, .ins, .mat]⟩ = false := by decide +kernel
example : RbV.Model.MyersTraceback.traceback (unitW eqSym) [1, 2, 3] [9, 1, 3, 9] 3 = (1, [.mat, .ins, .mat]) := by decide +kernel

-- non-vacuity (single-word version); `old` = stale contents of `states_store`
open RbV.Model.MyersTraceback in
example : tracebackStore 8 eqSym [1, 2, 3] 255 6 (List.replicate 6 ⟨0x5a#8, 0x33#8, 7⟩) [9, 1, 3, 9] 3 3 =
    (1, 1, [.mat, .ins, .mat]) := by decide +kernel
-- the ring (6 slots) has wrapped around: 11 items stored
open RbV.Model.MyersTraceback in
example : tracebackStore 8 eqSym [1, 2, 3] 255 6 (List.replicate 6 ⟨0x5a#8, 0x33#8, 7⟩) [9, 9, 9, 9, 9, 9, 1, 2, 2, 3] 10 10 =
    (6, 1, [.mat, .mat, .del, .mat]) := by decide +kernel
-- lazy store (n + 2 slots), traceback at an end that is not a hit for any k < 2, after 5 of 6 symbols
open RbV.Model.MyersTraceback in
example : tracebackStore 8 eqSym [1, 2, 3] 255 8 (List.replicate 8 ⟨0#8, 0#8, 0⟩) [9, 9, 1, 9, 9, 9] 5 5 =
    (2, 2, [.mat, .sub, .sub]) := by decide +kernel
-- the handler after one pass (a Match): cursor at row 2 (`pos = 0b10`) of column 2, `block.dist = D[2][2] = 1`,
-- `left_block.dist = D[1][1] = 1`
open RbV.Model.MyersTraceback in
example : (fun h : Handler 8 => (h.pos, h.state.dist, h.left.dist))
    (Handler.after 255 3 (fun k => (seqStates 8 eqSym [1, 2, 3] 255 [9, 1, 3, 9]).getD (3 + 1 - k) ⟨0#8, 0#8, 0⟩) 1) =
    (0b10#8, 1, 1) := by decide +kernel
-- an end that is not a hit (k = 0, D = 3) whose alignment spans m + 3 columns: the ring of `find_all` (m + 0 + 2 = 10
-- slots) has lost the columns the walk needs and the result is not the rule's (an invalid path: Subst over equal
-- symbols).  `find_all` never asks for it; the hypothesis `d ≤ k` of `traceback_model_sound` is needed.
open RbV.Model.MyersTraceback in
example : (tracebackStore 8 eqSym [1, 2, 3, 4, 5, 6, 7, 8] 255 10 (List.replicate 10 ⟨0#8, 0#8, 0⟩)
      [7, 7, 1, 2, 3, 4, 9, 9, 9, 5, 6, 7, 8] 13 13).2.2 ≠
    (traceback (unitW eqSym) [1, 2, 3, 4, 5, 6, 7, 8] [7, 7, 1, 2, 3, 4, 9, 9, 9, 5, 6, 7, 8] 13).2 := by decide +kernel
open RbV.Model.MyersTraceback in
example : availableAt 12 5 4 = true ∧ availableAt 12 5 5 = false ∧ availableAt 12 0 0 = false := by decide +kernel

-- non-vacuity (block-based version), words of 4 bits.  `oldL n` = stale contents of `states_store`
open RbV.Model.MyersTracebackLong in
def oldL (n : Nat) : List (RbV.Model.MyersSimple.St 4) := List.replicate n ⟨0x5#4, 0x3#4, 7⟩
-- two blocks (6 symbols), k = 1: only the first block is computed at the start (`States::new`), the second is switched
-- on by the band logic; ring of 6 + 1 + 2 = 9 columns of 2 slots
set_option maxRecDepth 20000 in
open RbV.Model.MyersTracebackLong in
example : tracebackStoreL 4 eqSym [1, 2, 3, 4, 5, 6] 1 9 (oldL 18) [9, 1, 2, 3, 5, 6, 9] 6 =
    (1, 1, [.mat, .mat, .mat, .ins, .mat, .mat]) := by decide +kernel
-- the hypotheses of `traceback_long_model_sound` are satisfiable: the same value through the theorem
open RbV.Model.MyersTracebackLong RbV.Model.MyersTraceback in
example : tracebackStoreL 4 eqSym [1, 2, 3, 4, 5, 6] 1 9 (oldL 18) [9, 1, 2, 3, 5, 6, 9] 6 =
    (1, 1, [.mat, .mat, .mat, .ins, .mat, .mat]) :=
  (traceback_long_model_sound 4 eqSym [1, 2, 3, 4, 5, 6] [9, 1, 2, 3, 5, 6, 9] 1 6 (oldL 18)
    (by decide) (by decide) (by decide) (by decide) (by decide) (by decide) 1 (by decide) (by decide)).1.trans (by decide)
-- … and of `traceback_long_sound_reported`: (5, 1) is what the block-based `find_all_end` reports
example : (5, 1) ∈ RbV.Model.MyersLong.findAllEnd 4 eqSym [1, 2, 3, 4, 5, 6] [9, 1, 2, 3, 5, 6, 9] 1 := by decide +kernel
-- … and of `traceback_long_eq_simple`: the same pattern in one 8-bit word
open RbV.Model.MyersTracebackLong RbV.Model.MyersTraceback in
example : tracebackStoreL 4 eqSym [1, 2, 3, 4, 5, 6] 1 9 (oldL 18) [9, 1, 2, 3, 5, 6, 9] 6 =
    tracebackStore 8 eqSym [1, 2, 3, 4, 5, 6] 255 9 (List.replicate 9 ⟨0x5a#8, 0x33#8, 7⟩) [9, 1, 2, 3, 5, 6, 9] 6 6 :=
  traceback_long_eq_simple 4 8 eqSym [1, 2, 3, 4, 5, 6] [9, 1, 2, 3, 5, 6, 9] 255 1 6 (oldL 18) _
    (by decide) (by decide) (by decide) (by decide) (by decide) (by decide) (by decide) (by decide) (by decide) 1
    (by decide) (by decide)
-- the ring (9 columns) has wrapped around: 17 columns stored
set_option maxRecDepth 40000 in
open RbV.Model.MyersTracebackLong in
example : tracebackStoreL 4 eqSym [1, 2, 3, 4, 5, 6] 1 9 (oldL 18) [9, 9, 9, 9, 9, 9, 9, 9, 9, 9, 1, 2, 3, 5, 6] 15 =
    (10, 1, [.mat, .mat, .mat, .ins, .mat, .mat]) := by decide +kernel
-- three blocks (9 symbols), k = 2, a path with Ins and Del that crosses both block boundaries
set_option maxRecDepth 40000 in
open RbV.Model.MyersTracebackLong in
example : tracebackStoreL 4 eqSym [1, 2, 3, 4, 5, 6, 7, 8, 9] 2 13 (oldL 39) [7, 1, 2, 4, 5, 6, 6, 7, 8, 9, 1] 10 =
    (1, 2, [.mat, .mat, .ins, .mat, .mat, .mat, .del, .mat, .mat, .mat]) := by decide +kernel
-- lazy store (n + 2 columns), traceback at the hit ending at 5 after all 8 symbols
set_option maxRecDepth 40000 in
open RbV.Model.MyersTracebackLong in
example : tracebackStoreLAt 4 eqSym [1, 2, 3, 4, 5, 6] 1 10 (oldL 20) [9, 1, 2, 3, 5, 6, 9, 9] 8 6 =
    (1, 1, [.mat, .mat, .mat, .ins, .mat, .mat]) := by decide +kernel
-- the handler after two passes (Match, Match): cursor at row 4 = last bit (`pos = 0b1000`) of block 0 of column 4,
-- `block.dist = D[4][4] = 1`, left cursor in block 0, `left_block.dist = D[3][3] = 1`, four columns drawn
set_option maxRecDepth 40000 in
open RbV.Model.MyersTracebackLong in
example : (fun h : LHandler 4 => (h.blockPos, h.pos, h.block.dist, h.leftBlockPos, h.leftBlock.dist, h.taken))
    (LHandler.after 2 6 (fun i => colSeq 4 eqSym [1, 2, 3, 4, 5, 6] 1 9 (oldL 18) [9, 1, 2, 3, 5, 6, 9] (6 + 1 - i)) 2) =
    (0, 0x8#4, 1, 0, 1, 4) := by decide +kernel
-- an end that is not a hit (k = 0, D = 2): the last block of that column was never computed, the handler starts from the
-- sentinel block and the result is not the rule's.  `find_all` never asks for it; the hypothesis `d ≤ k` is needed.
set_option maxRecDepth 40000 in
open RbV.Model.MyersTracebackLong RbV.Model.MyersTraceback in
example : (tracebackStoreL 4 eqSym [1, 2, 3, 4, 5, 6] 0 8 (oldL 16) [9, 1, 2, 3, 5, 6, 9] 5).2.2 ≠
    (traceback (unitW eqSym) [1, 2, 3, 4, 5, 6] [9, 1, 2, 3, 5, 6, 9] 5).2 := by decide +kernel

/-! ## The column step, translated from the source text (docs/notes/GEN.md, "Translated function bodies")

The columns the traceback stores and walks are the states `Myers::_step` produces.  `RbV/Gen/SrcMyersSimple.lean` is the
text of `_step` (simple.rs) translated to Lean on every `./check C10` (generic word type `T` = `Nat` below `2^w`);
the theorem is re-proved against the regenerated definition (proof: `RbV/Thm/GenSrcMyersSimple.lean`, shared with C09). -/

/-- **`Myers::_step`, as written, is the model's bit-vector step** (`MyersSimple.step`, the function the single-word
stored-state models `seqStates` / `scanStore` behind `traceback_model_sound`, `traceback_source_sound` apply per text
symbol; the block-based models `stateAfter` / `colSeq` apply `MyersLong.stepStates`, which this tie does not cover), for every word width `w ≥ 2` and every state on which the
`dist` update neither underflows nor leaves `DistType` (true on every state a search reaches: C09
`myers_find_all_end_source_exact`). -/
theorem myers_step_source_eq_model (w wd m : Nat) (hw : 1 < w) (peqT : List Nat) (a : Nat) (eq : BitVec w)
    (s : RbV.Model.MyersSimple.St w) (hpeq : RbV.Rs.idx peqT a = RbV.Rs.Res.ok eq.toNat)
    (hlo : ((s.pv &&& RbV.Model.MyersSimple.xhOf eq s.pv).getLsbD (m - 1)).toNat ≤
      s.dist + ((s.mv ||| ~~~(RbV.Model.MyersSimple.xhOf eq s.pv ||| s.pv)).getLsbD (m - 1)).toNat)
    (hhi : s.dist + 1 < 2 ^ 64) (hwd : (RbV.Model.MyersSimple.step m eq s).dist < 2 ^ wd) :
    RbV.Gen.SrcMyersSimple.step_ (w := w) (wd := wd) (peq := peqT) (bound := 2 ^ (m - 1)) (pv := s.pv.toNat)
        (mv := s.mv.toNat) (dist := s.dist) (a := a) =
      RbV.Rs.Res.ok ((RbV.Model.MyersSimple.step m eq s).pv.toNat, (RbV.Model.MyersSimple.step m eq s).mv.toNat,
        (RbV.Model.MyersSimple.step m eq s).dist) :=
  RbV.Thm.GenSrcMyersSimple.step__eq_model w wd m hw peqT a eq s hpeq hlo hhi hwd

example : RbV.Gen.SrcMyersSimple.step_ (w := 8) (wd := 8) (peq := [0, 0b101, 0b010, 0]) (bound := 0b100) (pv := 255) (mv := 0)
    (dist := 3) (a := 1) = RbV.Rs.Res.ok (254, 0, 2) := by decide +kernel

/-! ### The cursor moves of the single-word traceback handler, translated from the source text

`RbV/Gen/SrcMyersTbState.lean` (`State::adjust_dist`, `State::max`), `RbV/Gen/SrcMyersTbShort.lean`
(`ShortTracebackHandler::{move_up, move_up_left, move_left_down_if_better, finished, pos_bitvec}`); proofs `Thm/GenSrcMyersTb.lean`. -/

/-- **the cursor moves of the single-word handler, as written**: `ShortTracebackHandler::{move_up, move_up_left,
move_left_down_if_better, finished}` and `State::max` are the functions `Handler.moveUp`, `moveUpLeft`, `moveLeftDownIfBetter`,
`finished`, `maxSt` of the stored-state pipeline model behind `traceback_model_sound` — every word width `w ≥ 2`; side conditions: the
checked `dist -= 1` / `dist += 1` stay inside `DistType` (true along every traceback of a hit: `handler_reads_true_cells`).
`State::adjust_dist`, `State::adjust_by_mask`, the column reader, `ShortTracebackHandler::new` / `move_to_left` are the next
four theorems.  `Traceback::_traceback_at` itself is translated too (`Gen/SrcMyersTbLoop.lean`) and proved equal to the model's loop for
whichever order of the Ins / Del tests the text has (`Thm/GenSrcMyersTbLoop.lean: step_eqG, loop_eq, tracebackAt_eq_model`; C10 does
not determine the order, seeded C10-H1 / C10-H4 change it); its side conditions follow from the handler invariant
(`Thm/GenSrcMyersTbSound.lean: runOk_of_inv`), which gives `traceback_source_sound` at the end of this file.
Not translated: `Traceback::{new, add_state, traceback_at}`, `ShortStatesHandler` and everything of `LongTracebackHandler` — these
stay tied by the mirror models and the driver's tags `tb-state-model-same` (single-word) / `tb-block-model-same` (block-based) on
every sampled search; a mismatch changes the tag (`…-drift`), it does not reject the case. -/
theorem traceback_source_eq_model_partial (w wd : Nat) (h : RbV.Model.MyersTraceback.Handler w) (hw : 1 < w) (adj : Bool)
    (hs : adj = true → (h.state.pv &&& h.pos) ≠ 0#w → 1 ≤ h.state.dist) (hsh : h.state.dist + 1 < 2 ^ wd)
    (hl : adj = true → (h.left.pv &&& h.pos) ≠ 0#w → 1 ≤ h.left.dist) (hlh : h.left.dist + 1 < 2 ^ wd)
    (hd : (h.left.mv &&& h.pos) ≠ 0#w → 1 ≤ h.left.dist) :
    RbV.Gen.SrcMyersTbShort.moveUp (w := w) (wd := wd) (pv := h.state.pv.toNat) (mv := h.state.mv.toNat) (dist := h.state.dist)
        (left_state_pv := h.left.pv.toNat) (left_state_mv := h.left.mv.toNat) (left_state_dist := h.left.dist)
        (max_mask := h.maxMask.toNat) (pos_bitvec := h.pos.toNat) (left_mask := h.leftMask.toNat) (adjust_dist := adj) =
      RbV.Rs.Res.ok ((h.moveUp adj).state.dist, (h.moveUp adj).pos.toNat) ∧
    RbV.Gen.SrcMyersTbShort.moveUpLeft (w := w) (wd := wd) (pv := h.state.pv.toNat) (mv := h.state.mv.toNat) (dist := h.state.dist)
        (left_state_pv := h.left.pv.toNat) (left_state_mv := h.left.mv.toNat) (left_state_dist := h.left.dist)
        (max_mask := h.maxMask.toNat) (pos_bitvec := h.pos.toNat) (left_mask := h.leftMask.toNat) (adjust_dist := adj) =
      RbV.Rs.Res.ok ((h.moveUpLeft adj).left.dist, (h.moveUpLeft adj).leftMask.toNat) ∧
    RbV.Gen.SrcMyersTbShort.moveLeftDownIfBetter (w := w) (wd := wd) (pv := h.state.pv.toNat) (mv := h.state.mv.toNat)
        (dist := h.state.dist) (left_state_pv := h.left.pv.toNat) (left_state_mv := h.left.mv.toNat)
        (left_state_dist := h.left.dist) (max_mask := h.maxMask.toNat) (pos_bitvec := h.pos.toNat) (left_mask := h.leftMask.toNat) =
      RbV.Rs.Res.ok (h.moveLeftDownIfBetter.2.left.dist, h.moveLeftDownIfBetter.1) ∧
    RbV.Gen.SrcMyersTbShort.finished (w := w) (wd := wd) (pv := h.state.pv.toNat) (mv := h.state.mv.toNat)
        (dist := h.state.dist) (left_state_pv := h.left.pv.toNat) (left_state_mv := h.left.mv.toNat)
        (left_state_dist := h.left.dist) (max_mask := h.maxMask.toNat) (pos_bitvec := h.pos.toNat) (left_mask := h.leftMask.toNat) =
      RbV.Rs.Res.ok h.finished ∧
    RbV.Gen.SrcMyersTbState.max (w := w) (wd := wd) =
      RbV.Rs.Res.ok (RbV.Thm.GenSrcMyersSimple.rep (RbV.Model.MyersTraceback.maxSt w (2 ^ wd - 1))) :=
  ⟨RbV.Thm.GenSrcMyersTb.moveUp_eq_model w wd h hw adj hs hsh, RbV.Thm.GenSrcMyersTb.moveUpLeft_eq_model w wd h hw adj hl hlh,
   RbV.Thm.GenSrcMyersTb.moveLeftDownIfBetter_eq_model w wd h hd, RbV.Thm.GenSrcMyersTb.finished_eq_model w wd h,
   RbV.Thm.GenSrcMyersTb.max_eq_model w wd⟩

/-- **`State::adjust_dist(pos_mask)`, as written** = the model's `adjustDist` -/
theorem adjust_dist_source_eq_model (w wd : Nat) (s : RbV.Model.MyersSimple.St w) (pm : BitVec w)
    (hlo : (s.pv &&& pm) ≠ 0#w → 1 ≤ s.dist) (hhi : s.dist + 1 < 2 ^ wd) :
    RbV.Gen.SrcMyersTbState.adjustDist (w := w) (wd := wd) (pv := s.pv.toNat) (mv := s.mv.toNat) (dist := s.dist)
        (pos_mask := pm.toNat) = RbV.Rs.Res.ok (RbV.Model.MyersTraceback.adjustDist s pm).dist :=
  RbV.Thm.GenSrcMyersTb.adjustDist_eq_model w wd s pm hlo hhi

/-- **`State::adjust_by_mask(mask)`, as written** (`count_ones`, `u64` wrapping arithmetic, `from_u64(..).unwrap()`) = the model's
`adjustByMask` when the result neither underflows nor leaves `DistType` (`adjustByMask_spec` of `Lemmas/TracebackState.lean`
shows that along a traceback) -/
theorem adjust_by_mask_source_eq_model (w wd : Nat) (s : RbV.Model.MyersSimple.St w) (mask : BitVec w) (hwd : wd < 64)
    (hw63 : w < 2 ^ 63)
    (hlo : RbV.Model.MyersTraceback.popc (s.pv &&& mask) ≤ s.dist + RbV.Model.MyersTraceback.popc (s.mv &&& mask))
    (hd : s.dist < 2 ^ wd)
    (hhi : s.dist + RbV.Model.MyersTraceback.popc (s.mv &&& mask) - RbV.Model.MyersTraceback.popc (s.pv &&& mask) < 2 ^ wd) :
    RbV.Gen.SrcMyersTbMask.adjustByMask (w := w) (wd := wd) (pv := s.pv.toNat) (mv := s.mv.toNat) (dist := s.dist)
        (mask := mask.toNat) = RbV.Rs.Res.ok (RbV.Model.MyersTraceback.adjustByMask s mask).dist :=
  RbV.Thm.GenSrcMyersTb2.adjustByMask_eq_model w wd s mask hwd hw63 hlo hd hhi

/-- **the column reader of the handler reads the ring as the model says**: the `k`-th `next()` of
`states[..=pos].iter().rev().chain(states.iter().rev().cycle())` (semantics `Rs.RevCyc`: first part, then the second repeated)
yields slot `readSlot N pos k` — the `rd k = readStore store pos k` of `ring_read_any` / `ring_lookup_correct` -/
theorem ring_reader_source_reads_slot {α : Type} (store : List α) (pos k : Nat) (hp : pos < store.length) :
    RbV.Rs.rcNext (RbV.Thm.GenSrcMyersTb2.itOf store pos k) =
      (store[RbV.Model.MyersTraceback.readSlot store.length pos k]?, RbV.Thm.GenSrcMyersTb2.itOf store pos (k + 1)) :=
  RbV.Thm.GenSrcMyersTb2.rcNext_slot store pos k hp

/-- **`ShortTracebackHandler::new(m, pos, states)` and `move_to_left()`, as written** = `Handler.new m rd` and
`Handler.moveToLeft rd` of the pipeline model, `rd k = readStore store pos k` -/
theorem traceback_handler_new_move_to_left_source_eq_model (w wd m pos : Nat) (store : List (RbV.Model.MyersSimple.St w))
    (h : RbV.Model.MyersTraceback.Handler w) (hm1 : 1 ≤ m) (hmw : m ≤ w) (hm64 : m < 2 ^ 64) (hwd : wd < 64)
    (hw63 : w < 2 ^ 63) (hp : pos < store.length)
    (hlo : RbV.Model.MyersTraceback.popc ((RbV.Model.MyersTraceback.readStore store pos h.taken).pv &&& h.leftMask) ≤
      (RbV.Model.MyersTraceback.readStore store pos h.taken).dist +
        RbV.Model.MyersTraceback.popc ((RbV.Model.MyersTraceback.readStore store pos h.taken).mv &&& h.leftMask))
    (hd : (RbV.Model.MyersTraceback.readStore store pos h.taken).dist < 2 ^ wd)
    (hhi : (RbV.Model.MyersTraceback.readStore store pos h.taken).dist +
        RbV.Model.MyersTraceback.popc ((RbV.Model.MyersTraceback.readStore store pos h.taken).mv &&& h.leftMask) -
        RbV.Model.MyersTraceback.popc ((RbV.Model.MyersTraceback.readStore store pos h.taken).pv &&& h.leftMask) < 2 ^ wd) :
    RbV.Gen.SrcMyersTbShort2.new (w := w) (wd := wd) (m := m) (pos := pos) (states := RbV.Thm.GenSrcMyersLongStep.repS store) =
      RbV.Rs.Res.ok (RbV.Thm.GenSrcMyersSimple.rep (RbV.Model.MyersTraceback.Handler.new m (RbV.Model.MyersTraceback.readStore store pos)).state,
        RbV.Thm.GenSrcMyersSimple.rep (RbV.Model.MyersTraceback.Handler.new m (RbV.Model.MyersTraceback.readStore store pos)).left,
        RbV.Thm.GenSrcMyersTb2.itOf (RbV.Thm.GenSrcMyersLongStep.repS store) pos 2,
        (RbV.Model.MyersTraceback.Handler.new m (RbV.Model.MyersTraceback.readStore store pos)).maxMask.toNat,
        (RbV.Model.MyersTraceback.Handler.new m (RbV.Model.MyersTraceback.readStore store pos)).pos.toNat,
        (RbV.Model.MyersTraceback.Handler.new m (RbV.Model.MyersTraceback.readStore store pos)).leftMask.toNat) ∧
    RbV.Gen.SrcMyersTbShort2.moveToLeft (w := w) (wd := wd) (state := RbV.Thm.GenSrcMyersSimple.rep h.state)
        (left_state := RbV.Thm.GenSrcMyersSimple.rep h.left)
        (states_iter := RbV.Thm.GenSrcMyersTb2.itOf (RbV.Thm.GenSrcMyersLongStep.repS store) pos h.taken)
        (max_mask := h.maxMask.toNat) (pos_bitvec := h.pos.toNat) (left_mask := h.leftMask.toNat) =
      RbV.Rs.Res.ok (RbV.Thm.GenSrcMyersSimple.rep (h.moveToLeft (RbV.Model.MyersTraceback.readStore store pos)).state,
        RbV.Thm.GenSrcMyersSimple.rep (h.moveToLeft (RbV.Model.MyersTraceback.readStore store pos)).left,
        RbV.Thm.GenSrcMyersTb2.itOf (RbV.Thm.GenSrcMyersLongStep.repS store) pos
          (h.moveToLeft (RbV.Model.MyersTraceback.readStore store pos)).taken) :=
  ⟨RbV.Thm.GenSrcMyersTb2.new_eq_model w wd m pos store hm1 hmw hm64 hp,
   RbV.Thm.GenSrcMyersTb2.moveToLeft_eq_model w wd pos store h hwd hw63 hp hlo hd hhi⟩

example : RbV.Gen.SrcMyersTbMask.adjustByMask (w := 8) (wd := 8) (pv := 0b0111) (mv := 0b1000) (dist := 3) (mask := 0b1110) =
    RbV.Rs.Res.ok 2 := by decide +kernel
example : (RbV.Rs.rcNext (RbV.Thm.GenSrcMyersTb2.itOf [10, 11, 12, 13] 1 3)).1 = some 12 := by decide +kernel

-- non-vacuity: `u8` handler at row 3 of a 3-symbol pattern (`pos = 0b100`): `move_up(true)` over a set `pv` bit, and the
-- panic outside the side condition (`dist = 0`)
example : RbV.Gen.SrcMyersTbShort.moveUp (w := 8) (wd := 8) (pv := 0b111) (mv := 0) (dist := 3) (left_state_pv := 0b111)
    (left_state_mv := 0) (left_state_dist := 2) (max_mask := 0b100) (pos_bitvec := 0b100) (left_mask := 0) (adjust_dist := true) =
    RbV.Rs.Res.ok (2, 0b10) := by decide +kernel
example : RbV.Gen.SrcMyersTbShort.moveUp (w := 8) (wd := 8) (pv := 0b111) (mv := 0) (dist := 0) (left_state_pv := 0b111)
    (left_state_mv := 0) (left_state_dist := 2) (max_mask := 0b100) (pos_bitvec := 0b100) (left_mask := 0) (adjust_dist := true) =
    RbV.Rs.Res.panic := by decide +kernel

/-- **`traceback_source_sound` (independent of the order of the Ins / Del tests)**: search `stop` symbols storing the columns in a
ring of `m + min(k, m) + 2` slots on top of arbitrary old contents (`storeAll`, `seqStates`: the model of `FullMatches` —
`Traceback::new` / `add_state` are not translated), then the **translated `Traceback::_traceback_at`** (`Gen/SrcMyersTbLoop.lean`,
single-word instance) at the slot of the last column, for a hit (`d ≤ k`) that ends before position `2^wd − m` (`hst`, last
paragraph): no panic, the loop ends within the fuel, and the returned
`(h_offset, dist)` with the pushed operations is a hit accepted by `checkHit` — start `stop − h_offset`, a valid labelled alignment of
the pattern with `t[start..stop]` of cost `dist`, `dist` minimal over all starts, `≤ k`.  The statement does not mention the order of
the tests: the proof first determines which of the two orders the translated text has (`step_eqG` proves `∃ df`: Subst > Ins > Del,
the order of the verified rust-bio revision, or Subst > Del > Ins as in seeded C10-H1), and the loop model `Handler.loopG` / `walkG`
(`Lemmas/TracebackOrder.lean`) is sound for both.  Which of several optimal paths is reported is not part of the statement (the
equality of the translated loop with the model loop of that order is `Thm/GenSrcMyersTbLoop.lean: tracebackAt_eq_model`).
Hypothesis `hst : stop < 2^wd − m`: `h_offset` has the type `DistType` (`wd` bits) and the proof bounds its checked `+= 1` by the
fuel `m + stop` of the loop (`loop_eq`: `off + F < 2^wd`), not by the `≤ m + d` left moves the walk of a hit makes; for
`DistType = u8` the theorem therefore speaks of the hits that end among the first `255 − m` text symbols.  The model-level theorems
(`traceback_model_sound`, …) have no such bound: their offset is a `Nat`. -/
theorem traceback_source_sound (w wd : Nat) (eqv : Nat → Nat → Bool) (p t : List Nat) (k stop : Nat)
    (old : List (RbV.Model.MyersSimple.St w)) (hw1 : 1 < w) (hwd : wd < 64) (hw63 : w < 2 ^ 63) (hm1 : 1 ≤ p.length)
    (hw : p.length ≤ w) (hd : p.length < 2 ^ wd - 1) (hold : old.length = p.length + min k p.length + 2) (h1 : 1 ≤ stop)
    (hs : stop ≤ t.length) (hst : stop < 2 ^ wd - p.length) (d : Nat)
    (hdv : (lastRow (unitW eqv) p t)[stop - 1]? = some d) (hk : d ≤ k) :
    ∃ (off dist : Nat) (ops : List Op),
      RbV.Gen.SrcMyersTbLoop.tracebackAt (w := w) (wd := wd) (m := p.length)
          (pos := (stop + 1) % (p.length + min k p.length + 2)) (ops := some [])
          (state_slice := RbV.Thm.GenSrcMyersLongStep.repS (RbV.Model.MyersTraceback.storeAll (p.length + min k p.length + 2) old 0
            (RbV.Model.MyersTraceback.seqStates w eqv p (2 ^ wd - 1) (t.take stop)))) (gas := p.length + stop + 1) =
        RbV.Rs.Res.ok (some (ops.map RbV.Thm.GenSrcMyersTbLoop.opCode), (off, dist)) ∧
      checkHit eqv p t k ⟨stop - off, stop, dist, ops.reverse⟩ = true :=
  RbV.Thm.GenSrcMyersTbSound.traceback_source_sound w wd eqv p t k stop old hw1 hwd hw63 hm1 hw hd hold h1 hs hst d hdv hk

end RbV.Thm.C10
