import RbV.Gen.SrcMyersTbMask
import RbV.Gen.SrcMyersTbShort2
import RbV.Model.MyersTraceback
import RbV.Thm.GenSrcMyersTb
import RbV.Thm.GenSrcMyersLongStep
/-!
# `State::adjust_by_mask`, `ShortTracebackHandler::{new, move_to_left}` as written = the stored-state model (C10)

`RbV/Gen/SrcMyersTbMask.lean`, `RbV/Gen/SrcMyersTbShort2.lean` (regenerated by `tools/rs2lean_genlong.py` on every `./check C10`).
The column reader `states[..=pos].iter().rev().chain(states.iter().rev().cycle())` is a `Rs.RevCyc` (`Basic/RsSemGenlong.lean`:
first part, cycled part, number of items drawn); `rcNext_slot` shows that its `k`-th item is the slot `readSlot N pos k` of the
model (`Model/MyersTraceback.lean`), i.e. the model's `rd k = readStore store pos k`.
`Thm/GenSrcMyersLongStep.lean` is imported for `repS` (a list of states as the translated code holds it) only; nothing here is
about the block-based step.
-/
set_option linter.unusedSimpArgs false

namespace RbV.Thm.GenSrcMyersTb2
open RbV RbV.Rs RbV.Model.MyersSimple RbV.Model.MyersTraceback RbV.Thm.GenSrcMyersSimple RbV.Thm.GenSrcMyersLongStep

/-! ### `count_ones` -/

theorem popcountW_succ : ∀ (g x : Nat), Rs.popcountW (g + 1) x = Rs.popcountW g x + (x.testBit g).toNat := by
  intro g
  induction g with
  | zero =>
    intro x
    simp only [Rs.popcountW, Nat.add_zero, Nat.zero_add, Nat.testBit_zero]
    rcases Nat.mod_two_eq_zero_or_one x with h | h <;> simp [h]
  | succ g ih =>
    intro x
    rw [Rs.popcountW, ih (x / 2), Rs.popcountW, Nat.testBit_succ]
    omega

theorem popc_go_eq {w : Nat} (x : BitVec w) : ∀ i, popc.go x i = Rs.popcountW i x.toNat := by
  intro i
  induction i with
  | zero => simp [popc.go, Rs.popcountW]
  | succ i ih => rw [popc.go, ih, popcountW_succ]; rfl

theorem popcountW_eq_popc {w : Nat} (x : BitVec w) : Rs.popcountW w x.toNat = popc x := by
  unfold popc; rw [popc_go_eq]

theorem popcountW_le : ∀ (g x : Nat), Rs.popcountW g x ≤ g := by
  intro g
  induction g with
  | zero => intro x; simp [Rs.popcountW]
  | succ g ih =>
    intro x
    rw [Rs.popcountW]
    have := ih (x / 2)
    have := Nat.mod_lt x (show 2 > 0 by omega)
    omega

/-- `d + M − P` in arithmetic modulo `U`, whichever of the two updates comes first, when nothing over- or underflows -/
theorem wrap_add_sub {U d M P : Nat} (h1 : d + M < U) (hP : P < U) (hlo : P ≤ d + M) :
    ((d + M) % U + (U - P % U)) % U = d + M - P ∧ ((d + (U - P % U)) % U + M) % U = d + M - P := by
  have hr : d + M - P < U := by omega
  rw [Nat.mod_eq_of_lt hP, Nat.mod_eq_of_lt h1, Nat.mod_add_mod,
    show d + M + (U - P) = d + M - P + U by omega, show d + (U - P) + M = d + M - P + U by omega,
    Nat.add_mod_right, Nat.mod_eq_of_lt hr]
  exact ⟨rfl, rfl⟩

/-- **`State::adjust_by_mask(mask)` as written** (`count_ones`, `u64` wrapping arithmetic, `from_u64(..).unwrap()`) = the model's
`adjustByMask`, when the result neither underflows nor leaves `DistType` -/
theorem adjustByMask_eq_model (w wd : Nat) (s : St w) (mask : BitVec w) (hwd : wd < 64) (hw63 : w < 2 ^ 63)
    (hlo : popc (s.pv &&& mask) ≤ s.dist + popc (s.mv &&& mask)) (hd : s.dist < 2 ^ wd)
    (hhi : s.dist + popc (s.mv &&& mask) - popc (s.pv &&& mask) < 2 ^ wd) :
    RbV.Gen.SrcMyersTbMask.adjustByMask (w := w) (wd := wd) (pv := s.pv.toNat) (mv := s.mv.toNat) (dist := s.dist)
        (mask := mask.toNat) = Res.ok (adjustByMask s mask).dist := by
  have h64 : 2 ^ wd ≤ 2 ^ 63 := Nat.pow_le_pow_right (by omega) (by omega)
  have hm := popcountW_le w (s.mv &&& mask).toNat
  have hp := popcountW_le w (s.pv &&& mask).toNat
  rw [popcountW_eq_popc] at hm hp
  have hd64 : s.dist < 2 ^ 64 := by omega
  have hm64 : popc (s.mv &&& mask) < 2 ^ 64 := by omega
  have hp64 : popc (s.pv &&& mask) < 2 ^ 64 := by omega
  have hdm : s.dist + popc (s.mv &&& mask) < 2 ^ 64 := by omega
  -- either order of the two `u64` updates gives the same value
  obtain ⟨e2, e3⟩ := wrap_add_sub hdm hp64 hlo
  unfold RbV.Gen.SrcMyersTbMask.adjustByMask adjustByMask
  simp only [and_toNat, popcountW_eq_popc, BitVec.and_comm mask, Rs.cvt_ok hd64, Rs.cvt_ok hm64, Rs.cvt_ok hp64,
    Rs.wrappingAdd, Rs.wrappingSub, e2, e3, Rs.cvt_ok hhi, Res.ok_bind, Res.pure_eq_ok]

/-! ### the column reader -/

/-- the reader over the store `store` started at slot `pos`, after `k` items -/
def itOf {α : Type} (store : List α) (pos k : Nat) : Rs.RevCyc α := ⟨(store.take (pos + 1)).reverse, store.reverse, k⟩

theorem readSlot_lt (N pos k : Nat) (hp : pos < N) : readSlot N pos k < N := by
  unfold readSlot
  split
  · omega
  · have := Nat.mod_lt (k - pos - 1) (show N > 0 by omega); omega

/-- **the `k`-th `next()` of `states[..=pos].iter().rev().chain(states.iter().rev().cycle())` reads slot `readSlot N pos k`** -/
theorem rcNext_slot {α : Type} (store : List α) (pos k : Nat) (hp : pos < store.length) :
    Rs.rcNext (itOf store pos k) = (store[readSlot store.length pos k]?, itOf store pos (k + 1)) := by
  unfold Rs.rcNext itOf
  simp only [List.length_reverse, List.length_take, Prod.mk.injEq, and_true]
  have hmin : min (pos + 1) store.length = pos + 1 := by omega
  rw [hmin]
  unfold readSlot
  by_cases hk : k ≤ pos
  · have hk' : k < pos + 1 := by omega
    rw [if_pos hk', if_pos hk, List.getElem?_reverse (by simp; omega)]
    simp only [List.length_take, hmin]
    rw [List.getElem?_take]
    have : pos + 1 - 1 - k = pos - k := by omega
    rw [this, if_pos (by omega)]
  · have hk' : ¬ k < pos + 1 := by omega
    have hN : ¬ store.length = 0 := by omega
    rw [if_neg hk', if_neg hN, if_neg hk]
    have hlt := Nat.mod_lt (k - (pos + 1)) (show store.length > 0 by omega)
    rw [List.getElem?_reverse hlt]
    have : k - (pos + 1) = k - pos - 1 := by omega
    rw [this]

theorem shl_mask0 {w : Nat} (m : Nat) (hm : m - 1 < w) : (1#w <<< (m - 1)).toNat = 2 ^ (m - 1) := by
  rw [BitVec.toNat_shiftLeft, BitVec.toNat_ofNat, Nat.shiftLeft_eq]
  have h1 : 1 % 2 ^ w = 1 := Nat.mod_eq_of_lt (Nat.one_lt_two_pow (by omega))
  rw [h1, Nat.one_mul]
  exact Nat.mod_eq_of_lt (Nat.pow_lt_pow_right (by omega) hm)

theorem repS_getElem? {w : Nat} (store : List (St w)) (i : Nat) (h : i < store.length) :
    (repS store)[i]? = some (rep (store.getD i ⟨0#w, 0#w, 0⟩)) := by
  simp [repS, List.getD, List.getElem?_eq_getElem h]

/-- **`ShortTracebackHandler::new(m, pos, states)` as written** = the model's `Handler.new m rd` with `rd k` = the store read
through the ring (`readStore store pos k`); the reader has drawn two items -/
theorem new_eq_model (w wd m pos : Nat) (store : List (St w)) (hm1 : 1 ≤ m) (hmw : m ≤ w) (hm64 : m < 2 ^ 64)
    (hp : pos < store.length) :
    RbV.Gen.SrcMyersTbShort2.new (w := w) (wd := wd) (m := m) (pos := pos) (states := repS store) =
      Res.ok (rep (Handler.new m (readStore store pos)).state, rep (Handler.new m (readStore store pos)).left,
        itOf (repS store) pos 2, (Handler.new m (readStore store pos)).maxMask.toNat,
        (Handler.new m (readStore store pos)).pos.toNat, (Handler.new m (readStore store pos)).leftMask.toNat) := by
  have hp' : pos < (repS store).length := by simpa [repS] using hp
  have hl : (repS store).length = store.length := by simp [repS]
  have c1 : Rs.cvt 64 m = Res.ok m := Rs.cvt_ok hm64
  have c2 : Rs.sub m 1 = Res.ok (m - 1) := Rs.sub_ok hm1
  have c3 : Rs.shl w 1 (m - 1) = Res.ok (2 ^ (m - 1)) := Rs.shl_one_ok (by omega)
  have c4 : Rs.rcNew (repS store) pos = Res.ok (itOf (repS store) pos 0) := by simp [Rs.rcNew, hp', itOf]
  have n0 := rcNext_slot (repS store) pos 0 hp'
  have n1 := rcNext_slot (repS store) pos 1 hp'
  rw [hl, repS_getElem? store _ (readSlot_lt _ pos 0 hp)] at n0
  rw [hl, repS_getElem? store _ (readSlot_lt _ pos 1 hp)] at n1
  have hmask := shl_mask0 (w := w) m (by omega)
  unfold RbV.Gen.SrcMyersTbShort2.new
  simp only [c1, c2, c3, c4, n0, n1, Res.ok_bind, Res.pure_eq_ok, Rs.expect_some, Handler.new, readStore, hmask]
  simp

/-- **`move_to_left()` as written** = the model's `Handler.moveToLeft rd`: the left state becomes the current one, the next column
is drawn from the reader and adjusted by the range mask -/
theorem moveToLeft_eq_model (w wd pos : Nat) (store : List (St w)) (h : Handler w) (hwd : wd < 64) (hw63 : w < 2 ^ 63)
    (hp : pos < store.length)
    (hlo : popc ((readStore store pos h.taken).pv &&& h.leftMask) ≤
      (readStore store pos h.taken).dist + popc ((readStore store pos h.taken).mv &&& h.leftMask))
    (hd : (readStore store pos h.taken).dist < 2 ^ wd)
    (hhi : (readStore store pos h.taken).dist + popc ((readStore store pos h.taken).mv &&& h.leftMask) -
      popc ((readStore store pos h.taken).pv &&& h.leftMask) < 2 ^ wd) :
    RbV.Gen.SrcMyersTbShort2.moveToLeft (w := w) (wd := wd) (state := rep h.state) (left_state := rep h.left)
        (states_iter := itOf (repS store) pos h.taken) (max_mask := h.maxMask.toNat) (pos_bitvec := h.pos.toNat)
        (left_mask := h.leftMask.toNat) =
      Res.ok (rep (h.moveToLeft (readStore store pos)).state, rep (h.moveToLeft (readStore store pos)).left,
        itOf (repS store) pos (h.moveToLeft (readStore store pos)).taken) := by
  have hp' : pos < (repS store).length := by simpa [repS] using hp
  have hl : (repS store).length = store.length := by simp [repS]
  have n0 := rcNext_slot (repS store) pos h.taken hp'
  rw [hl, repS_getElem? store _ (readSlot_lt _ pos h.taken hp)] at n0
  have ha := adjustByMask_eq_model w wd (readStore store pos h.taken) h.leftMask hwd hw63 hlo hd hhi
  unfold RbV.Gen.SrcMyersTbShort2.moveToLeft
  simp only [n0, Rs.expect_some, Res.ok_bind, Res.pure_eq_ok, Handler.moveToLeft]
  simp only [readStore, rep] at ha ⊢
  simp only [ha, Res.ok_bind, adjustByMask]

end RbV.Thm.GenSrcMyersTb2
