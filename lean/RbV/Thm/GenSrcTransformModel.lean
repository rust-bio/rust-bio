import RbV.Thm.GenSrcTransform
/-!
**Soft** (shape-dependent) equality: the translated `transform_text` returns exactly the text of the mirror model
`Sais.transformText` (sentinel ranks decreasing from left to right) that the driver runs next to the implementation.
No `Thm/Cxx.lean` imports this file: `tools/gen_tables.py` builds it after regenerating (`soft_modules`) and turns a
failure into a note — another consistent sentinel order (seeded change C03-H1) is property-preserving; the hard
obligation is `RbV.Thm.GenSrcTransform.transform_text_spec` (`Transform.Ok`).
-/
set_option linter.unusedSimpArgs false
namespace RbV.Thm.GenSrcTransformModel
open RbV RbV.Rs RbV.Gen RbV.Thm.GenSrc RbV.Transform RbV.Thm.GenSrcAlphabet RbV.Thm.GenSrcTransform

/-- the loop is the mirror model's `transformGo` (same proof as alternative (A) of `transform_text_spec`) -/
theorem for1_down (castT : Nat → Option Nat) (m : VecMap) : ∀ (rk : Nat → Nat) (sent offset B : Nat) (xs : List Nat) (s : Nat) (acc : List Nat),
    Env castT m rk sent offset B xs → xs.count sent ≤ s → s ≤ B →
    SrcTransform.transform_text_for1 castT sent m offset xs (s, acc) =
      Res.ok (s - xs.count sent, acc ++ Sais.transformGo rk sent offset xs s) := by
  intro rk sent offset B xs
  induction xs with
  | nil => intro s acc _ _ _; simp [SrcTransform.transform_text_for1, Sais.transformGo]
  | cons a xs ih =>
    intro s acc he hc hs
    have he' := he.tail
    have hsm := he.small
    by_cases ha : a = sent
    · subst ha
      simp only [List.count_cons_self] at hc
      have e1 : Rs.sub s 1 = Res.ok (s - 1) := Rs.sub_ok (by omega)
      have e2 : castT (s - 1) = some (s - 1) := he.cast _ (by omega)
      have := ih (s - 1) (acc ++ [s - 1]) he' (by omega) (by omega)
      have e3 : s - 1 - xs.count a = s - (xs.count a + 1) := by omega
      simp only [SrcTransform.transform_text_for1, BEq.rfl, ↓reduceIte, e1, Res.pure_eq_ok, Res.ok_bind, e2,
        expect_some, this, e3, List.append_assoc, List.cons_append, List.nil_append, List.count_cons_self, Sais.transformGo]
    · have ha' : ¬ sent = a := fun e => ha e.symm
      have hcnt : (a :: xs).count sent = xs.count sent := by rw [List.count_cons]; simp [ha]
      rw [hcnt] at hc ⊢
      obtain ⟨e1, e2, e2', e3⟩ := he.other ha
      have := ih s (acc ++ [rk a + offset]) he' hc hs
      simp only [e2', SrcTransform.transform_text_for1, beq_iff_eq, ha, ha', ↓reduceIte, e1, expect_some, Res.pure_eq_ok,
        Res.ok_bind, e2, e3, this, List.append_assoc, List.cons_append, List.nil_append, Sais.transformGo]

/-- **translated `transform_text` = mirror model `Sais.transformText`** (the concrete numbers of the present Rust text) -/
theorem transform_text_eq_model (castT : Nat → Option Nat) (t : List Nat) (hne : t ≠ []) (hb : ∀ c ∈ t, c < 256)
    (hsz : t.length + 256 < 2 ^ 64)
    (hcast : ∀ x, x < (Alpha.mk t).length + t.count (sentinelOf t) → castT x = some x) :
    SrcTransform.transform_text castT t (Alpha.mk t) (t.count (sentinelOf t)) = Res.ok (Sais.transformText t) := by
  obtain ⟨m, hm1, hm2⟩ := rankNew_eq_model (Alpha.mk t) (Alpha.mk_sorted t) (mk_length_le t)
  have henv := env_of_text castT t hne hb m hm2 hsz hcast
  have hcnt : 0 < t.count (sentinelOf t) := List.count_pos_iff.mpr (Transform.sentinelOf_mem t hne)
  have h1 := sentinel_eq_model t hne
  have e1 : Rs.sub (t.count (sentinelOf t)) 1 = Res.ok (t.count (sentinelOf t) - 1) := Rs.sub_ok hcnt
  have hdown := for1_down castT m (rankOf t) (sentinelOf t) (t.count (sentinelOf t) - 1) _ t (t.count (sentinelOf t)) []
    henv (Nat.le_refl _) (by omega)
  have hgo : Sais.transformGo (rankOf t) (sentinelOf t) (t.count (sentinelOf t) - 1) t (t.count (sentinelOf t)) =
      Sais.transformText t := by
    rw [Sais.transformText_eq]
    unfold Transform.transformText
    exact Sais.transformGo_eq t _ _ _ t _ (fun _ _ => rfl)
  unfold SrcTransform.transform_text
  simp only [h1, hm1, e1, Res.pure_eq_ok, Res.ok_bind, hdown, Nat.sub_self, hgo, List.nil_append]

-- `A$C$A$` evaluated through the translated code: the numbers of the present Rust text
example : (do let alphabet ← Gen.SrcAlphabet.alphabetNew [65, 36, 67, 36, 65, 36]
              let sc ← Gen.SrcTransform.sentinel_count [65, 36, 67, 36, 65, 36]
              Gen.SrcTransform.transform_text (fun x => if x < 256 then some x else none) [65, 36, 67, 36, 65, 36] alphabet sc)
    = Rs.Res.ok [3, 2, 4, 1, 3, 0] := by decide +kernel

end RbV.Thm.GenSrcTransformModel
