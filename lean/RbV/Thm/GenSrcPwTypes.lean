import RbV.Gen.SrcPwTypes
import RbV.Thm.GenTbCodes
/-!
# Translated text of the small pieces of `pairwise/mod.rs` = their mirror models (C01, C02)

`RbV/Gen/SrcPwTypes.lean` is regenerated from the source text on every `./check C01` (tools/rs2lean_genalign.py) and this
module is re-checked.

* `TracebackCell::{new, set_bits, set_i_bits, set_d_bits, set_s_bits, get_bits, get_*_bits, set_all}` against
  `Model/TbCell.lean` — so `tb_get_after_set`, `tb_set_preserves_other_fields`, `tb_set_all` (`Thm/GenTbCodes.lean`) hold for
  the translated text: `cell_get_after_set`, `cell_set_other`, `cell_set_all_reads`.
* `Traceback::{with_capacity, init, resize, set, get, get_mut}`: a row-major vector of `(m+1)·(n+1)` cells, index
  `i * cols + j`; `init` does not depend on what the matrix held before (`tbInit_eq_model`: the right-hand side does not
  mention the old state).
* `Scoring::{xclip, xclip_prefix, xclip_suffix, yclip, yclip_prefix, yclip_suffix}`.

The proofs unfold the generated definitions and discharge every checked operation from the stated guards; they name the
facts in both operand orders where the text may commute them.  Core Lean only.
-/
set_option linter.unusedSimpArgs false
namespace RbV.Thm.GenSrcPwTypes
open RbV RbV.Rs RbV.Gen.TbCodes RbV.Gen.SrcPwTypes

/-! ### bit-level facts, by evaluation over the finitely many field positions and 4-bit values -/

theorem shl_mask_small : ∀ pos, pos < 13 → (15 <<< pos) % 2 ^ 16 = fieldMask <<< pos := by decide
theorem shl_val_small : ∀ pos, pos < 13 → ∀ value, value < 16 → (value <<< pos) % 2 ^ 16 = value <<< pos := by decide
theorem not_mask_small : ∀ pos, pos < 13 →
    Rs.not 16 (fieldMask <<< pos) = (2 ^ cellBits - 1) ^^^ (fieldMask <<< pos) := by decide
theorem pos_small : iPos < 13 ∧ dPos < 13 ∧ sPos < 13 := by decide
theorem mask_lit : (15 : Nat) = fieldMask := by decide

/-! ### `TracebackCell` -/

/-- `TracebackCell::new()` is the all-zero cell (`Default::default()` of the pinned declaration) -/
theorem cellNew_eq_model : cellNew = Res.ok ⟨0⟩ := rfl

/-- `set_bits` = `TbCell.setBits` for every cell content, every position `≤ 12` and every value that passes the
`assert!(value <= TB_MAX)` -/
theorem setBits_eq_model (c : TracebackCell) (pos value : Nat) (hp : pos < 13) (hv : value ≤ tbMax) :
    setBits c pos value = Res.ok ⟨TbCell.setBits c.v pos value⟩ := by
  have h16 : pos < 16 := by omega
  have hv16 : value < 16 := GenTbCodes.le_max_lt16 hv
  unfold setBits
  simp only [Rs.shl, h16, if_true, Rs.assert, hv, decide_true, Res.pure_eq_ok, Res.ok_bind, bind, Res.bind]
  simp only [shl_mask_small pos hp, shl_val_small pos hp value hv16, not_mask_small pos hp, TbCell.setBits]
  all_goals (first | rfl | (rw [Nat.or_comm]))

/-- `set_bits` with a value above `TB_MAX` panics (the `assert!`) -/
theorem setBits_big_panics (c : TracebackCell) (pos value : Nat) (hp : pos < 16) (hv : tbMax < value) :
    setBits c pos value = Res.panic := by
  have : ¬ value ≤ tbMax := by omega
  unfold setBits
  simp [Rs.shl, hp, Rs.assert, this, bind, Res.bind]

theorem setIBits_eq_model (c : TracebackCell) (value : Nat) (hv : value ≤ tbMax) :
    setIBits c value = Res.ok ⟨TbCell.setBits c.v iPos value⟩ := by
  unfold setIBits; rw [setBits_eq_model c iPos value pos_small.1 hv]; try rfl

theorem setDBits_eq_model (c : TracebackCell) (value : Nat) (hv : value ≤ tbMax) :
    setDBits c value = Res.ok ⟨TbCell.setBits c.v dPos value⟩ := by
  unfold setDBits; rw [setBits_eq_model c dPos value pos_small.2.1 hv]; try rfl

theorem setSBits_eq_model (c : TracebackCell) (value : Nat) (hv : value ≤ tbMax) :
    setSBits c value = Res.ok ⟨TbCell.setBits c.v sPos value⟩ := by
  unfold setSBits; rw [setBits_eq_model c sPos value pos_small.2.2 hv]; try rfl

/-- `get_bits` = `TbCell.getBits` for every cell content and every position inside the cell -/
theorem getBits_eq_model (c : TracebackCell) (pos : Nat) (hp : pos < 16) :
    getBits c pos = Res.ok (TbCell.getBits c.v pos) := by
  unfold getBits
  simp only [Rs.shr, hp, if_true, Res.pure_eq_ok, Res.ok_bind, bind, Res.bind, TbCell.getBits, mask_lit]

theorem getIBits_eq_model (c : TracebackCell) : getIBits c = Res.ok (TbCell.getBits c.v iPos) := by
  unfold getIBits; rw [getBits_eq_model c iPos (by have := pos_small.1; omega)]; try rfl

theorem getDBits_eq_model (c : TracebackCell) : getDBits c = Res.ok (TbCell.getBits c.v dPos) := by
  unfold getDBits; rw [getBits_eq_model c dPos (by have := pos_small.2.1; omega)]; try rfl

theorem getSBits_eq_model (c : TracebackCell) : getSBits c = Res.ok (TbCell.getBits c.v sPos) := by
  unfold getSBits; rw [getBits_eq_model c sPos (by have := pos_small.2.2; omega)]; try rfl

/-- `set_all` = `TbCell.setAll` -/
theorem setAll_eq_model (c : TracebackCell) (value : Nat) (hv : value ≤ tbMax) :
    setAll c value = Res.ok ⟨TbCell.setAll c.v value⟩ := by
  unfold setAll
  rw [setIBits_eq_model c value hv]
  simp only [Res.pure_eq_ok, Res.ok_bind, bind, Res.bind]
  rw [setDBits_eq_model _ value hv]
  simp only [Res.pure_eq_ok, Res.ok_bind, bind, Res.bind]
  rw [setSBits_eq_model _ value hv]
  rfl

/-- the start cell written by `Traceback::init` and by the initialisation of `custom` -/
def startCell : TracebackCell := ⟨TbCell.setAll 0 tbStart⟩

theorem tbStart_le_max : tbStart ≤ tbMax := GenTbCodes.tb_codes_le_max.1 tbStart (by decide)

/-! ### `tb_get_after_set` & co. for the translated text -/

/-- the translated setters and getters: what one of `set_i_bits / set_d_bits / set_s_bits` wrote is what the getter of
the same field reads -/
theorem cell_get_after_set (c c' : TracebackCell) (value : Nat) (hv : value ≤ tbMax) :
    (setIBits c value = Res.ok c' → getIBits c' = Res.ok value) ∧
    (setDBits c value = Res.ok c' → getDBits c' = Res.ok value) ∧
    (setSBits c value = Res.ok c' → getSBits c' = Res.ok value) := by
  refine ⟨fun h => ?_, fun h => ?_, fun h => ?_⟩
  · rw [setIBits_eq_model c value hv] at h; cases h
    rw [getIBits_eq_model, GenTbCodes.tb_get_after_set _ _ _ hv (by decide)]
  · rw [setDBits_eq_model c value hv] at h; cases h
    rw [getDBits_eq_model, GenTbCodes.tb_get_after_set _ _ _ hv (by decide)]
  · rw [setSBits_eq_model c value hv] at h; cases h
    rw [getSBits_eq_model, GenTbCodes.tb_get_after_set _ _ _ hv (by decide)]

/-- … and the setter of one field leaves what the getters of the other two read -/
theorem cell_set_other (c c' : TracebackCell) (value : Nat) (hv : value ≤ tbMax) :
    (setIBits c value = Res.ok c' → getDBits c' = getDBits c ∧ getSBits c' = getSBits c) ∧
    (setDBits c value = Res.ok c' → getIBits c' = getIBits c ∧ getSBits c' = getSBits c) ∧
    (setSBits c value = Res.ok c' → getIBits c' = getIBits c ∧ getDBits c' = getDBits c) := by
  have hi : iPos ∈ positions := by decide
  have hd : dPos ∈ positions := by decide
  have hs : sPos ∈ positions := by decide
  refine ⟨fun h => ?_, fun h => ?_, fun h => ?_⟩
  · rw [setIBits_eq_model c value hv] at h; cases h
    simp only [getDBits_eq_model, getSBits_eq_model]
    rw [GenTbCodes.tb_set_preserves_other_fields _ _ _ _ hv hi hd (by decide),
      GenTbCodes.tb_set_preserves_other_fields _ _ _ _ hv hi hs (by decide)]
    exact ⟨rfl, rfl⟩
  · rw [setDBits_eq_model c value hv] at h; cases h
    simp only [getIBits_eq_model, getSBits_eq_model]
    rw [GenTbCodes.tb_set_preserves_other_fields _ _ _ _ hv hd hi (by decide),
      GenTbCodes.tb_set_preserves_other_fields _ _ _ _ hv hd hs (by decide)]
    exact ⟨rfl, rfl⟩
  · rw [setSBits_eq_model c value hv] at h; cases h
    simp only [getIBits_eq_model, getDBits_eq_model]
    rw [GenTbCodes.tb_set_preserves_other_fields _ _ _ _ hv hs hi (by decide),
      GenTbCodes.tb_set_preserves_other_fields _ _ _ _ hv hs hd (by decide)]
    exact ⟨rfl, rfl⟩

/-- `set_all(value)` makes the three translated getters read `value` -/
theorem cell_set_all_reads (c c' : TracebackCell) (value : Nat) (hv : value ≤ tbMax) (h : setAll c value = Res.ok c') :
    getIBits c' = Res.ok value ∧ getDBits c' = Res.ok value ∧ getSBits c' = Res.ok value := by
  rw [setAll_eq_model c value hv] at h; cases h
  have := GenTbCodes.tb_set_all c.v value hv
  simp only [getIBits_eq_model, getDBits_eq_model, getSBits_eq_model, this.1, this.2.1, this.2.2, and_self]

/-! ### `Traceback` -/

/-- `Traceback::with_capacity(m, n)`: dimensions `(m+1, n+1)`, no cells yet -/
theorem tbWithCapacity_eq_model (m n : Nat) (h : (m + 1) * (n + 1) < 2 ^ 64) :
    tbWithCapacity m n = Res.ok ⟨m + 1, n + 1, []⟩ := by
  have h1 : m + 1 < 2 ^ 64 := Nat.lt_of_le_of_lt (Nat.le_mul_of_pos_right _ (by omega)) h
  have h2 : n + 1 < 2 ^ 64 := Nat.lt_of_le_of_lt (Nat.le_mul_of_pos_left _ (by omega)) h
  unfold tbWithCapacity
  simp only [Rs.add, Rs.mul, h1, h2, h, if_true, Res.pure_eq_ok, Res.ok_bind, bind, Res.bind]

/-- `resize(m, n, v)`: dimensions `(m+1, n+1)`; the vector is cut or padded with `v` to `(m+1)·(n+1)` cells -/
theorem tbResize_eq_model (t : Traceback) (m n : Nat) (v : TracebackCell) (h : (m + 1) * (n + 1) < 2 ^ 64) :
    tbResize t m n v = Res.ok ⟨m + 1, n + 1, Rs.resize t.matrix ((m + 1) * (n + 1)) v⟩ := by
  have h1 : m + 1 < 2 ^ 64 := Nat.lt_of_le_of_lt (Nat.le_mul_of_pos_right _ (by omega)) h
  have h2 : n + 1 < 2 ^ 64 := Nat.lt_of_le_of_lt (Nat.le_mul_of_pos_left _ (by omega)) h
  unfold tbResize
  simp only [Rs.add, Rs.mul, h1, h2, h, if_true, Res.pure_eq_ok, Res.ok_bind, bind, Res.bind]

/-- **`init(m, n)` re-dimensions and blanks the matrix on every call**: `(m+1)·(n+1)` start cells, stride `n+1` —
whatever the matrix held before (the right-hand side does not mention `t`: history independence of the traceback
matrix; seeded C01-5 breaks exactly this) -/
theorem tbInit_eq_model (t : Traceback) (m n : Nat) (h : (m + 1) * (n + 1) < 2 ^ 64) :
    tbInit t m n = Res.ok ⟨m + 1, n + 1, List.replicate ((m + 1) * (n + 1)) startCell⟩ := by
  unfold tbInit
  rw [cellNew_eq_model]
  simp only [Res.pure_eq_ok, Res.ok_bind, bind, Res.bind]
  rw [setAll_eq_model _ _ tbStart_le_max]
  simp only [Res.pure_eq_ok, Res.ok_bind, bind, Res.bind]
  rw [tbResize_eq_model _ m n _ h]
  simp [Rs.resize, startCell]

/-- the matrix is row-major with stride `cols`: shape invariant of a `Traceback` -/
def Shaped (t : Traceback) : Prop := t.matrix.length = t.rows * t.cols ∧ t.rows * t.cols < 2 ^ 64

theorem shaped_idx {t : Traceback} (hs : Shaped t) {i j : Nat} (hi : i < t.rows) (hj : j < t.cols) :
    i * t.cols + j < t.matrix.length ∧ i * t.cols < 2 ^ 64 ∧ i * t.cols + j < 2 ^ 64 := by
  have h1 : i * t.cols + j < t.rows * t.cols := by
    calc i * t.cols + j < i * t.cols + t.cols := by omega
      _ = (i + 1) * t.cols := by rw [Nat.add_mul, Nat.one_mul]
      _ ≤ t.rows * t.cols := Nat.mul_le_mul_right _ hi
  have := hs.1; have := hs.2
  refine ⟨by omega, by omega, by omega⟩

theorem shaped_init (m n : Nat) (h : (m + 1) * (n + 1) < 2 ^ 64) :
    Shaped ⟨m + 1, n + 1, List.replicate ((m + 1) * (n + 1)) startCell⟩ := by
  unfold Shaped; simp [h]

theorem shaped_set {t : Traceback} (hs : Shaped t) (k : Nat) (v : TracebackCell) :
    Shaped { t with matrix := t.matrix.set k v } := by
  unfold Shaped at *; simpa using hs

/-- the bounds checks and the address `i * cols + j` that open `get`, `get_mut`, `set` (either operand order) -/
theorem tb_addr {t : Traceback} (hs : Shaped t) {i j : Nat} (hi : i < t.rows) (hj : j < t.cols) :
    Rs.assert (decide (i < t.rows)) = Res.ok () ∧ Rs.assert (decide (j < t.cols)) = Res.ok () ∧
    Rs.mul 64 i t.cols = Res.ok (i * t.cols) ∧ Rs.mul 64 t.cols i = Res.ok (i * t.cols) ∧
    Rs.add 64 (i * t.cols) j = Res.ok (i * t.cols + j) ∧ Rs.add 64 j (i * t.cols) = Res.ok (i * t.cols + j) := by
  obtain ⟨_, h2, h3⟩ := shaped_idx hs hi hj
  have h3' : j + i * t.cols < 2 ^ 64 := by omega
  have h2' : t.cols * i < 2 ^ 64 := by rw [Nat.mul_comm]; exact h2
  simp only [Rs.assert, Rs.add, Rs.mul, hi, hj, h2, h3, h2', h3', decide_true, if_true, Nat.add_comm j (i * t.cols),
    Nat.mul_comm t.cols i, and_self]

/-- `get(i, j)` reads entry `i * cols + j` -/
theorem tbGet_eq_model (t : Traceback) (i j : Nat) (hs : Shaped t) (hi : i < t.rows) (hj : j < t.cols) :
    tbGet t i j = Rs.idx t.matrix (i * t.cols + j) := by
  obtain ⟨a1, a2, a3, a4, a5, a6⟩ := tb_addr hs hi hj
  unfold tbGet
  simp only [a1, a2, a3, a4, a5, a6, Res.ok_bind, bind_pure]

theorem tbGetMut_eq_model (t : Traceback) (i j : Nat) (hs : Shaped t) (hi : i < t.rows) (hj : j < t.cols) :
    tbGetMut t i j = Rs.idx t.matrix (i * t.cols + j) := by
  obtain ⟨a1, a2, a3, a4, a5, a6⟩ := tb_addr hs hi hj
  unfold tbGetMut
  simp only [a1, a2, a3, a4, a5, a6, Res.ok_bind, bind_pure]

/-- `set(i, j, v)` overwrites entry `i * cols + j` and nothing else -/
theorem tbSet_eq_model (t : Traceback) (i j : Nat) (v : TracebackCell) (hs : Shaped t) (hi : i < t.rows) (hj : j < t.cols) :
    tbSet t i j v = Res.ok { t with matrix := t.matrix.set (i * t.cols + j) v } := by
  obtain ⟨a1, a2, a3, a4, a5, a6⟩ := tb_addr hs hi hj
  unfold tbSet
  simp only [a1, a2, a3, a4, a5, a6, Res.ok_bind, Res.pure_eq_ok, Rs.setIdx_ok (shaped_idx hs hi hj).1]

/-- writing through `get_mut(i, j)` is `set(i, j, ·)` -/
theorem tbGetMut_put_eq_model (t : Traceback) (i j : Nat) (v : TracebackCell) (hs : Shaped t) (hi : i < t.rows)
    (hj : j < t.cols) : tbGetMut_put t i j v = Res.ok { t with matrix := t.matrix.set (i * t.cols + j) v } := by
  obtain ⟨a1, a2, a3, a4, a5, a6⟩ := tb_addr hs hi hj
  unfold tbGetMut_put
  simp only [a1, a2, a3, a4, a5, a6, Res.ok_bind, Res.pure_eq_ok, Rs.setIdx_ok (shaped_idx hs hi hj).1]

/-- a row or column index outside the dimensions is refused (the `debug_assert!`s, read as `assert!`) -/
theorem tbGet_oob_panics (t : Traceback) (i j : Nat) (h : t.rows ≤ i ∨ t.cols ≤ j) : tbGet t i j = Res.panic := by
  unfold tbGet
  rcases h with h | h
  · have : ¬ i < t.rows := by omega
    simp [Rs.assert, this, bind, Res.bind]
  · have : ¬ j < t.cols := by omega
    by_cases hi : i < t.rows <;> simp [Rs.assert, this, hi, bind, Res.bind]

/-! ### `Scoring` builders -/

/-- the six builder methods: the penalty must be `≤ 0` (otherwise the `assert!` panics); exactly the named clip fields are
overwritten, everything else (gap penalties, `match_scores`) is kept -/
theorem scoring_builders_eq_model (s : Scoring) (p : Int) :
    xclip s p = (if p ≤ 0 then Res.ok { s with xclip_prefix := p, xclip_suffix := p } else Res.panic) ∧
    xclip_prefix s p = (if p ≤ 0 then Res.ok { s with xclip_prefix := p } else Res.panic) ∧
    xclip_suffix s p = (if p ≤ 0 then Res.ok { s with xclip_suffix := p } else Res.panic) ∧
    yclip s p = (if p ≤ 0 then Res.ok { s with yclip_prefix := p, yclip_suffix := p } else Res.panic) ∧
    yclip_prefix s p = (if p ≤ 0 then Res.ok { s with yclip_prefix := p } else Res.panic) ∧
    yclip_suffix s p = (if p ≤ 0 then Res.ok { s with yclip_suffix := p } else Res.panic) := by
  unfold xclip Gen.SrcPwTypes.xclip_prefix Gen.SrcPwTypes.xclip_suffix yclip Gen.SrcPwTypes.yclip_prefix Gen.SrcPwTypes.yclip_suffix
  by_cases h : p ≤ 0 <;> simp [Rs.assert, h, bind, Res.bind]

end RbV.Thm.GenSrcPwTypes
