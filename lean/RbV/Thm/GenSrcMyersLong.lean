import RbV.Gen.SrcMyersLong
import RbV.Model.MyersLong
import RbV.Thm.GenSrcMyersSimple
/-!
# The translated text of `long.rs: advance_block` equals the mirror model `MyersLong.advanceBlock`

`RbV/Gen/SrcMyersLong.lean` is regenerated from `src/pattern_matching/myers/long.rs` by `tools/rs2lean_pm.py` on every
`./check C09`.  A block `State<T, usize>` is `(pv, mv, dist)` with the words as `Nat` below `2^w`; the horizontal
differences `hin`, `hout` ∈ {−1, 0, 1} are `i8` bit patterns (`Rs.ofInt 8`: −1 = 255).  The word-level part of the proof is
that of `_step` (`Thm/GenSrcMyersSimple.lean`), with `eq | 1` when `hin < 0` and the carry bits shifted into `ph` / `mh`.
-/
set_option linter.unusedSimpArgs false

namespace RbV.Thm.GenSrcMyersLong
open RbV RbV.Rs RbV.Model.MyersSimple RbV.Thm.GenSrcMyersSimple

theorem one_or_toNat {w : Nat} (hw : 1 < w) (x : BitVec w) : 1 ||| x.toNat = (x ||| 1#w).toNat := by
  rw [Nat.or_comm]; exact or_one_toNat hw x

/-- **`advance_block` as written = the model's `advanceBlock`**, for every word width `w ≥ 2`, every block state and every
incoming difference `hin ∈ {−1, 0, 1}`: `p.peq[a]` is the word `eq`, `p.bound = 1 << bnd`; side condition: the `dist` update
`wrapping_add(hout as usize)` does not wrap. -/
theorem advanceBlock_eq_model (w bnd : Nat) (hw : 1 < w) (peqT : List Nat) (a : Nat) (eq : BitVec w) (s : St w) (hin : Int)
    (hh : -1 ≤ hin ∧ hin ≤ 1) (hpeq : Rs.idx peqT a = Res.ok eq.toNat)
    (hlo : ((s.pv &&& xhOf (if hin < 0 then eq ||| 1#w else eq) s.pv).getLsbD bnd).toNat ≤
      s.dist + ((s.mv ||| ~~~(xhOf (if hin < 0 then eq ||| 1#w else eq) s.pv ||| s.pv)).getLsbD bnd).toNat)
    (hhi : s.dist + 1 < 2 ^ 64) :
    RbV.Gen.SrcMyersLong.advanceBlock (w := w) (pv := s.pv.toNat) (mv := s.mv.toNat) (dist := s.dist) (peq := peqT)
        (bound := 2 ^ bnd) (a := a) (hin := Rs.ofInt 8 hin) =
      Res.ok ((RbV.Model.MyersLong.advanceBlock bnd eq hin s).1.pv.toNat, (RbV.Model.MyersLong.advanceBlock bnd eq hin s).1.mv.toNat,
        (RbV.Model.MyersLong.advanceBlock bnd eq hin s).1.dist, Rs.ofInt 8 (RbV.Model.MyersLong.advanceBlock bnd eq hin s).2) := by
  have l1 : ((-1 : Int) < 0) = True := by decide
  have l2 : ((0 : Int) < 0) = False := by decide
  have l3 : ((1 : Int) < 0) = False := by decide
  have g1 : ((-1 : Int) > 0) = False := by decide
  have g2 : ((0 : Int) > 0) = False := by decide
  have g3 : ((1 : Int) > 0) = True := by decide
  have hupd := dist_update s.dist ((s.mv ||| ~~~(xhOf (if hin < 0 then eq ||| 1#w else eq) s.pv ||| s.pv)).getLsbD bnd)
    ((s.pv &&& xhOf (if hin < 0 then eq ||| 1#w else eq) s.pv).getLsbD bnd) hlo hhi
  -- with `hin` known the `if`s of both sides go, and the two texts agree word for word up to the `dist` update
  rcases (by omega : hin = -1 ∨ hin = 0 ∨ hin = 1) with rfl | rfl | rfl
  all_goals
    simp only [RbV.Model.MyersLong.advanceBlock, xhOf, l1, l2, l3, g1, g2, g3, if_true, if_false, BitVec.or_zero] at hupd ⊢
    -- as written the two texts agree word for word; a text with operands exchanged agrees up to AC normal forms
    first
      | (simp only [RbV.Gen.SrcMyersLong.advanceBlock, hpeq, ofInt8_neg_one, ofInt8_zero, ofInt8_one, toInt8_255, toInt8_zero, toInt8_one, Res.ok_bind, Res.pure_eq_ok, l1, l2, l3, g1, g2, g3,
          decide_true, decide_false, if_true, if_false, Bool.false_eq_true,
          and_toNat, or_toNat, xor_toNat, wadd_toNat, not_toNat, test_bound, test_bound', or_one_toNat hw, one_or_toNat hw,
          Rs.subI8_ofBool, shl1_toNat hw, hout_pattern, hupd]; done)
      | (simp only [RbV.Gen.SrcMyersLong.advanceBlock, hpeq, ofInt8_neg_one, ofInt8_zero, ofInt8_one, toInt8_255, toInt8_zero, toInt8_one, Res.ok_bind, Res.pure_eq_ok, l1, l2, l3, g1, g2, g3,
          decide_true, decide_false, if_true, if_false, Bool.false_eq_true,
          and_toNat, or_toNat, xor_toNat, wadd_toNat, not_toNat, test_bound, test_bound', or_one_toNat hw, one_or_toNat hw,
          Rs.subI8_ofBool, shl1_toNat hw, hout_pattern]
         simp only [BitVec.and_comm, BitVec.and_assoc, bv_and_left_comm, BitVec.or_comm, BitVec.or_assoc, bv_or_left_comm,
          BitVec.xor_comm, BitVec.xor_assoc, bv_xor_left_comm, BitVec.add_comm, BitVec.add_assoc, bv_add_left_comm] at hupd ⊢
         simp only [hupd])

end RbV.Thm.GenSrcMyersLong
