import RbV.Thm.GenSrcGff
/-! **Soft** (registered with `soft_modules` in `tools/gen_tables.py`; not imported by `Thm/C13.lean`): the exact byte equality of
`gff::Writer::write` *including the order of the key groups* — the translated writer emits the groups in the map's own iteration
order.  A text that sorts the keys (seeded C13-H1) satisfies the hard theorem `GenSrcGff.write_fields_perm` but not these; a failure
here is a note, never a broken obligation. -/
set_option linter.unusedSimpArgs false
namespace RbV.Thm.GenSrcGffExact
open RbV RbV.Rs RbV.Tsv RbV.Gen.SrcGff RbV.Thm.GenSrcGff
open RbV.Thm.GenSrcBed (csvSerialize)

/-- `write` = `serialize` of `gffFields d` of the record, the key groups in the map's own iteration order -/
theorem write_fields {ω ρ : Type} (serialize : ω → List (List Nat) → ρ)
    (perm : List (List Nat × List (List Nat)) → List (List Nat × List (List Nat)))
    (inner : ω) (d : Dialect) (self : Writer) (r : Record)
    (hw : WriterFor d self) (hg : ∀ kv ∈ r.attributes, kv.2 ≠ []) :
    write serialize toDec perm inner self r = serialize inner (gffFields d (toModel r)) := by
  obtain ⟨dl, t, vd, rep⟩ := d
  obtain ⟨sd, st, sv⟩ := self
  obtain ⟨h1, h2, h3, h4, h5, h6⟩ := hw
  simp only at h1 h2 h3 h4 h5 h6
  subst h2
  rw [← h1, ← h3] at *
  clear h1 h3 dl vd
  generalize sd = dl at *
  generalize sv = vd at *
  have e1 := Rs.charStr_ascii dl h5
  have e2 := Rs.charStr_ascii vd h6
  have hnil : writeAttrs ⟨dl, t, vd, rep⟩ [] = [] := rfl
  have hP : List.Perm r.attributes r.attributes := List.Perm.refl _
  gff_core r.attributes

/-- `write` appends exactly `gffLine d` of the record (attributes in the iteration order of the map) and a line feed -/
theorem write_eq_model (perm : List (List Nat × List (List Nat)) → List (List Nat × List (List Nat)))
    (w : List Nat) (d : Dialect) (self : Writer) (r : Record) (hw : WriterFor d self)
    (hg : ∀ kv ∈ r.attributes, kv.2 ≠ []) :
    write csvSerialize toDec perm w self r = (.ok (), w ++ (gffLine d (toModel r) ++ [LF])) := by
  rw [write_fields csvSerialize perm w d self r hw hg]; rfl

end RbV.Thm.GenSrcGffExact
