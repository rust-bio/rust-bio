import RbV.Gen.SrcKmpNext
import RbV.Model.Kmp
import RbV.Thm.GenSrcKmpLps
import RbV.Thm.GenSrcScan
/-!
# The translated text of `KMP::new`, `KMP::find_all`, `kmp::Matches::next` equals the mirror model `Kmp.findAll`

`RbV/Gen/SrcKmpNext.lean` is regenerated from `src/pattern_matching/kmp.rs` on every `./check C08`.  `next` calls the
translated `delta` (`Gen/SrcKmpLps.lean`, `delta_eq_model`); the report `1 + i - m` does not underflow because the state
`q` is the longest prefix of the pattern that is a suffix of the text read (`Kmp.MaxPS`), so `q = m` needs `m` symbols.
-/
set_option linter.unusedSimpArgs false

namespace RbV.Thm.GenSrcKmpNext
open RbV RbV.Rs RbV.Gen.SrcKmpNext

/-- one unfolding of the translated loop under the automaton invariant -/
theorem iter_cons (p : List Nat) (hp : 0 < p.length) (h64 : p.length < 2 ^ 64) (pre : List Nat) (q c : Nat)
    (rest : List Nat) (hmax : Kmp.MaxPS p pre q) (hi : pre.length + 1 + rest.length < 2 ^ 64) :
    next_iter1 p.length (Kmp.lps p) p (c :: rest) pre.length q =
      if (fun q => q == p.length) (Kmp.delta p (Kmp.lps p) q c)
      then Res.ok (Kmp.delta p (Kmp.lps p) q c, (rest, pre.length + 1), some (some (pre.length + 1 - p.length)))
      else next_iter1 p.length (Kmp.lps p) p rest (pre.length + 1) (Kmp.delta p (Kmp.lps p) q c) := by
  have hq : q ≤ p.length := hmax.1.1
  have e1 := GenSrcKmpLps.delta_eq_model p hp h64 q c hq
  have hmax' := Kmp.delta_maxPS p pre hp q c hmax
  have hpre : pre.length + 1 < 2 ^ 64 := Nat.lt_of_le_of_lt (Nat.le_add_right _ _) hi
  have e2' : Rs.add 64 pre.length 1 = Res.ok (pre.length + 1) := Rs.add_ok hpre
  have e2 : Rs.add 64 1 pre.length = Res.ok (pre.length + 1) := Rs.add_ok_comm hpre
  rw [next_iter1]
  simp only [e1, e2, e2', beq_iff_eq, Res.pure_eq_ok, Res.ok_bind, eq_comm (a := p.length)]
  split
  · rename_i hacc
    have hle := hmax'.1.2.1
    rw [hacc, List.length_append, List.length_singleton] at hle
    rw [Rs.sub_ok hle]
    rfl
  · rfl

/-- the translated `next` as a step function on the iterator state `(q, text)`, for the matcher built from `p` -/
def nextS (p : List Nat) : (Nat × (List Nat × Nat)) → Res ((Nat × (List Nat × Nat)) × Option Nat) :=
  GenSrcScan.nextS (fun q tx => next p.length (Kmp.lps p) p q tx)

theorem drain_eq_scan (p : List Nat) (hp : 0 < p.length) (h64 : p.length < 2 ^ 64) (fuel : Nat) (rest pre : List Nat)
    (q : Nat) (hmax : Kmp.MaxPS p pre q) (hb : ∀ c ∈ rest, c < 256) (hi : pre.length + rest.length < 2 ^ 64)
    (hf : rest.length < fuel) :
    Rs.drain (nextS p) fuel (q, (rest, pre.length))
      = Res.ok (Scan.scan (Kmp.delta p (Kmp.lps p)) (fun q => q == p.length) p.length rest pre.length q) := by
  refine GenSrcScan.drain_eq_scan (Kmp.delta p (Kmp.lps p)) (fun q => q == p.length) p.length
    (fun pre q => Kmp.MaxPS p pre q) (next_iter1 p.length (Kmp.lps p) p) _ ?_ ?_ ?_ ?_ fuel rest pre q hmax hb hi hf
  · intro i s; simp [next_iter1]
  · intro pre s c rest hinv _ hbound
    exact iter_cons p hp h64 pre s c rest hinv hbound
  · intro s tx s' tx' r h
    cases r <;> simp only [next, h, Res.ok_bind, Res.pure_eq_ok] <;> rfl
  · exact fun pre s c hinv => Kmp.delta_maxPS p pre hp s c hinv

/-- **`kmp::Matches::next` as written in the source**, driven until `None` from the initial state of `find_all`,
is the mirror model's `findAll` -/
theorem findAll_eq_model (p t : List Nat) (hp : 0 < p.length) (h64 : p.length < 2 ^ 64) (hb : ∀ c ∈ t, c < 256)
    (ht : t.length < 2 ^ 64) :
    Rs.drain (nextS p) (t.length + 1) (0, (t, 0)) = Res.ok (Kmp.findAll p t) := by
  have := drain_eq_scan p hp h64 (t.length + 1) t [] 0 (Kmp.maxPS_nil p) hb (by simpa using ht) (by omega)
  simpa [Kmp.findAll] using this

/-- **`KMP::new` as written**: `(lps, m, pattern)` with the model's failure table (through the translated `lps`) -/
theorem new_eq_model (p : List Nat) (h64 : p.length < 2 ^ 64) : new p = Res.ok (Kmp.lps p, p.length, p) := by
  simp [new, GenSrcKmpLps.lps_eq_model p h64]

/-- **`KMP::find_all` as written**: initial state `q = 0`, all of the text unread, counter 0 -/
theorem findAll_init (t : List Nat) : findAll t = Res.ok (0, (t, 0)) := by
  simp [findAll]

/-- the translated functions put together as a caller does: `KMP::new(p).find_all(t).collect()` -/
def findAllSrc (p t : List Nat) : Res (List Nat) := do
  let (lps, m, pattern) ← new p
  let (q, text) ← findAll t
  Rs.drain (GenSrcScan.nextS (fun q tx => next m lps pattern q tx)) (t.length + 1) (q, text)

/-- **KMP end to end, on the translated source text** -/
theorem findAllSrc_eq_model (p t : List Nat) (hp : 0 < p.length) (h64 : p.length < 2 ^ 64) (hb : ∀ c ∈ t, c < 256)
    (ht : t.length < 2 ^ 64) : findAllSrc p t = Res.ok (Kmp.findAll p t) := by
  have := findAll_eq_model p t hp h64 hb ht
  simp only [findAllSrc, new_eq_model p h64, findAll_init, Res.ok_bind]
  exact this

end RbV.Thm.GenSrcKmpNext
