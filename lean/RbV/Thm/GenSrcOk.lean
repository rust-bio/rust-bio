import RbV.Basic.RsSemInt
import RbV.Thm.GenSrcOkAttr
/-!
Shared by the equality proofs about translated bodies (`RbV/Gen/Src*.lean`): the `rs_ok` way of resolving the binds of a body (other
proofs name each operation's fact in a `have` and use plain `simp only`), and rules for `if`, `map`/`all`, `for` loops and integer widths
(core Lean and `RbV/Basic` only).

**`rs_ok`**: each checked operation of `RbV/Basic/RsSem.lean` is `ok v` under its side condition, and the monad laws.  The
binds of a body are resolved by

    simp (disch := omega) only [rs_ok, body, facts]

where `facts` are the equations that are not linear arithmetic (a read `Rs.idx tbl i = ok (model value)`, the lemma about an
inner loop) and a file's own conditional facts (`idx_nth`, `neg_ok` …: their side conditions go to `omega` as well).  The side
conditions are decided from the bounds in the context, so the spelling of the operands in the Rust text does not matter:
`Rs.add 64 1 x` and `Rs.add 64 x 1` are both resolved by `add_ok` (this is why `add_ok_comm`/`mul_ok_comm` are *not* in the set:
either lemma matches every `Rs.add`, so with both the result would come in an arbitrary spelling).  Where a later lemma or the
induction hypothesis needs the value in one spelling, the call names the instance (`Nat.add_comm 1`, `Nat.mul_comm 8 B`): it does
not fire on a text that writes the operands the other way round.  One exception: a checked product of two *variables* written the other way
round is a different atom for `omega` (`a * b` against the `b * a` of the bound), so its side condition is only proved with
`have hc := Nat.mul_comm a b` in the context; sums, differences and products by a literal are linear and need nothing.  A fact whose value must arrive in the model's words
(`stepIdx …` rather than `List.range' …`, `j + 2` rather than `j + 1 + 1`) stays a named `have`.

The trap: `omega` runs on every candidate rewrite, also on those it cannot prove (an operation further down whose bound is
not in the context yet), and every run digests all arithmetic hypotheses; a failing run over hypotheses with `min`, `%`, `/`,
`<<<` is dear.  So
* resolve **once**, in the lemma about the loop body, **before** any `by_cases`/`split`, and close the branches with a plain
  `simp only`: the same call inside both branches of a case split runs every `omega`, the failing ones too, twice;
* always `simp … only`: with the default simp set the discharger is also tried for every conditional lemma of core, which in a
  context of a dozen hypotheses about `min … …` and `i % 2` multiplies the cost of the call several times;
* keep the context small: state the step about variables (`pre`, not `min (s.lastk + 1) p.length`);
* for a long body, `attribute [local congr] GenSrc.bind_congr_arg` (`Thm/GenSrcBasic.lean`) keeps `simp` out of the continuation.

**The rules**: `ite_ok`, `ite_pure_bind`; `mapM_ok`, `mapM_range_ok`, `allM_ok`; for `for` loops `foldlM_ok`, `foldlM_range'_inv`,
`foldlM_range_inv` (their twins for the `Rs.enumerate` of the HMM units are with that definition's users, `Lemmas/HmmSrc.lean`);
widths: `p63`, `toSigned_small`.

Two other lists do neighbouring jobs.  `rs_eval` (`Thm/GenSrcBitsSimp.lean`; the proofs about the bit-packed containers) holds the
monad laws and the reduction of an `if` whose test has become a literal, in the spellings the translator produces; it is used beside
`rs_ok` there.  `rs_head` / `rs_paths` (`Thm/GenSrcTactics.lean`) walk every path of a loop-free body and carry a literal list of
their own.
-/
namespace RbV.Rs
open Res

attribute [rs_ok] add_ok sub_ok mul_ok div_ok rem_ok shl_ok shr_ok idx_ok setIdx_ok slice_ok sliceIncl_ok assert_ok
  rangeStepBy_ok stepBy_ok expect_some ok_bind pure_eq_ok pure_bind

end RbV.Rs

namespace RbV.Thm.GenSrc
open RbV RbV.Rs

/-! ### `if`, `map`, `all` -/

theorem ite_ok {α : Type} {c : Prop} [Decidable c] (x y : α) :
    (if c then Res.ok x else Res.ok y) = Res.ok (if c then x else y) := by split <;> rfl

/-- both branches of an `if` hand a value to the same continuation (a join point of the translated text) -/
theorem ite_pure_bind {α β : Type} (c : Prop) [Decidable c] (a b : α) (K : α → Res β) :
    (if c then (pure a >>= K) else (pure b >>= K)) = K (if c then a else b) := by split <;> rfl

theorem mapM_ok {α β : Type} (f : α → Res β) (g : α → β) : ∀ l : List α, (∀ x ∈ l, f x = Res.ok (g x)) →
    l.mapM f = Res.ok (l.map g)
  | [], _ => rfl
  | a :: l, h => by
    rw [List.mapM_cons, h a List.mem_cons_self, mapM_ok f g l fun x hx => h x (List.mem_cons_of_mem _ hx)]
    rfl

theorem mapM_range_ok {β : Type} {f : Nat → Res β} {g : Nat → β} (S : Nat) (h : ∀ k, k < S → f k = Res.ok (g k)) :
    List.mapM f (List.range S) = Res.ok ((List.range S).map g) :=
  mapM_ok f g _ fun x hx => h x (List.mem_range.mp hx)

theorem allM_ok {α : Type} (f : α → Res Bool) (g : α → Bool) : ∀ l : List α, (∀ x ∈ l, f x = Res.ok (g x)) →
    l.allM f = Res.ok (l.all g)
  | [], _ => rfl
  | a :: l, h => by
    have ih := allM_ok f g l fun x hx => h x (List.mem_cons_of_mem _ hx)
    rw [List.allM_cons, h a List.mem_cons_self, List.all_cons]
    cases g a
    · rfl
    · exact ih

/-! ### `for` -/

/-- a `for` loop whose every round is `ok (g s a)` is the `foldl` of `g`; the invariant sees the items still to come, so a
bound like `i + rest.length < 2^64` can be carried.  Pays where the invariant is one line; with three conjuncts the hand
induction is as short and cheaper. -/
theorem foldlM_ok {σ α : Type} {step : σ → α → Res σ} {g : σ → α → σ} (I : List α → σ → Prop)
    (hstep : ∀ a rest s, I (a :: rest) s → step s a = Res.ok (g s a) ∧ I rest (g s a)) :
    ∀ (l : List α) (s : σ), I l s → l.foldlM step s = Res.ok (l.foldl g s)
  | [], _, _ => rfl
  | a :: l, s, h => by
    rw [List.foldlM_cons, (hstep a l s h).1, Res.ok_bind, List.foldl_cons]
    exact foldlM_ok I hstep l _ (hstep a l s h).2

/-- `for j in a .. a + n` with an invariant indexed by `j` -/
theorem foldlM_range'_inv {σ : Type} (step : σ → Nat → Res σ) (I : Nat → σ → Prop) (a n : Nat) (s : σ) (h0 : I a s)
    (hstep : ∀ j s, a ≤ j → j < a + n → I j s → ∃ s', step s j = Res.ok s' ∧ I (j + 1) s') :
    ∃ s', (List.range' a n).foldlM step s = Res.ok s' ∧ I (a + n) s' := by
  induction n generalizing a s with
  | zero => exact ⟨s, rfl, h0⟩
  | succ n ih =>
    obtain ⟨s1, e1, h1⟩ := hstep a s (Nat.le_refl a) (by omega) h0
    obtain ⟨s2, e2, h2⟩ := ih (a + 1) s1 h1 (fun j s hj hj' => hstep j s (by omega) (by omega))
    exact ⟨s2, by rw [List.range'_succ, List.foldlM_cons, e1, Res.ok_bind, e2], by rwa [Nat.add_right_comm, Nat.add_assoc] at h2⟩

theorem foldlM_range_inv {σ : Type} (step : σ → Nat → Res σ) (I : Nat → σ → Prop) (S : Nat) (s : σ) (h0 : I 0 s)
    (hstep : ∀ j s, j < S → I j s → ∃ s', step s j = Res.ok s' ∧ I (j + 1) s') :
    ∃ s', (List.range S).foldlM step s = Res.ok s' ∧ I S s' := by
  simpa [List.range_eq_range'] using foldlM_range'_inv step I 0 S s h0 fun j s _ hj => hstep j s (by omega)

/-! ### widths -/

theorem p63 : (2 : Nat) ^ 63 < 2 ^ 64 := by decide

/-- a `usize` below `2^63` read as `isize` -/
theorem toSigned_small {l : Nat} (h : l < 2 ^ 63) : Rs.toSigned 64 l = (l : Int) := Rs.toSigned_of_lt (by simpa using h)

end RbV.Thm.GenSrc
