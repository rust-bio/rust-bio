import RbV.Ref.NW
import RbV.Ref.PoaCheck
import RbV.Ref.PoaAccept
import RbV.Lemmas.NWIdentity
import RbV.Lemmas.PoaChain
import RbV.Lemmas.PoaGrow
import RbV.Lemmas.PoaAcyclic
import RbV.Lemmas.PoaHistory
import RbV.Lemmas.PoaBound
import RbV.Lemmas.PoaConsensus
import RbV.Lemmas.PoaBandedFull
import RbV.Lemmas.PoaModes
import RbV.Lemmas.PoaGrowAll
import RbV.Lemmas.PoaChainLink
import RbV.Lemmas.PoaCustomGlobal
import RbV.Thm.GenLimits
import RbV.Model.PoaI32
import RbV.Lemmas.PoaI32
import RbV.Thm.GenSrcPoaAdd
import RbV.Thm.GenSrcPoaAlign
import RbV.Thm.GenSrcPoaScore
import RbV.Thm.GenSrcPoaConsensus
import RbV.Thm.GenSrcPoaHistory
/-!
# C16 — partial-order alignment: exact on linear graphs, graph stays a growing DAG

Property theorems behind the oracles of `RbV/Drv/C16.lean` (helper lemmas live in `RbV/Ref`, `RbV/Lemmas`).
`x` is the reference the graph was built from, `y` the query; `score sc x y ops = some v` says that the
operation list `ops` is a global alignment of the two (consumes exactly both) and scores `v` under
substitution scores `sc.w` and per-symbol gap score `sc.gap`.
After the model-level theorems and their examples: the `i32` envelope `PoaEnv` (no overflow in `custom` / `global_banded`),
the `MIN_SCORE` constant extracted from `poa.rs`, and the theorems about the function bodies translated from the source
text (`add_alignment`, `custom`, `Traceback::{get, set, new_row, alignment}`, `consensus`, whole histories).
-/
namespace RbV.Thm.C16
open RbV RbV.NW RbV.Poa

/-- the number the driver compares the reported score with is the Needleman–Wunsch optimum: no global
alignment scores more, and some global alignment attains it (all sequences, all scoring functions) -/
theorem nwFast_is_optimum (sc : Sc) (x y : List Nat) :
    (∀ ops v, score sc x y ops = some v → v ≤ nwFast sc x y) ∧
    (∃ ops, score sc x y ops = some (nwFast sc x y)) := by
  rw [nwFast_eq]
  exact ⟨fun ops v h => nw_upper sc ops x y v h, nw_attained sc x y⟩

/-- the acceptance function for a `global` alignment against a linear graph says exactly: the reported
operations read as a valid global alignment of query and reference, its recomputed score is the reported
score, and no alignment whatsoever scores more -/
theorem acceptGlobal_iff (sc : Sc) (x y : List Nat) (pops : List POp) (s : Int) :
    acceptGlobal sc x y pops s = true ↔
      ∃ ops, toMoves 0 pops = some ops ∧ score sc x y ops = some s ∧
        ∀ ops' v, score sc x y ops' = some v → v ≤ s := by
  unfold acceptGlobal
  constructor
  · intro h
    cases hm : toMoves 0 pops with
    | none => simp [hm] at h
    | some ops =>
      simp [hm] at h
      obtain ⟨h1, h2⟩ := h
      refine ⟨ops, rfl, h1, ?_⟩
      intro ops' v hv
      rw [h2]
      exact (nwFast_is_optimum sc x y).1 ops' v hv
  · rintro ⟨ops, hm, hs, hopt⟩
    simp only [hm, hs, beq_self_eq_true, Bool.true_and, beq_iff_eq]
    obtain ⟨o2, ho2⟩ := (nwFast_is_optimum sc x y).2
    have h1 := hopt o2 _ ho2
    have h2 := (nwFast_is_optimum sc x y).1 ops s hs
    omega

/-- a banded run that reports the same number as an accepted global run reports the optimum -/
theorem banded_equal_is_optimum (sc : Sc) (x y : List Nat) (pops : List POp) (s b : Int)
    (h : acceptGlobal sc x y pops s = true) (hb : b = s) : b = nwBest sc x y := by
  unfold acceptGlobal at h
  cases hm : toMoves 0 pops with
  | none => simp [hm] at h
  | some ops =>
    simp [hm] at h
    rw [hb, h.2, nwFast_eq]

/-- Kahn elimination decides acyclicity of a well-formed edge list (no directed cycle, self-loops included) -/
theorem isAcyclic_decides (n : Nat) (es : Edges) (wf : wellFormedB n es = true) :
    isAcyclic n es = true ↔ ∀ v, ¬ Reach es v v :=
  isAcyclic_iff n es ((wellFormedB_iff n es).mp wf)

/-- no 2-cycle `u → v → u` in an accepted graph (corollary of `isAcyclic_decides`) -/
theorem isAcyclic_no_two_cycle (n : Nat) (es : Edges) (wf : wellFormedB n es = true)
    (h : isAcyclic n es = true) (u v : Nat) (h1 : (u, v) ∈ es) : (v, u) ∉ es := by
  intro h2
  exact (isAcyclic_decides n es wf).mp h u (Reach.cons h1 (Reach.step h2))

/-- the consensus check decides "spelled by a walk of the graph": some sequence of valid nodes,
consecutive ones joined by edges, whose labels read the word -/
theorem spelledB_decides (labels : List Nat) (es : Edges) (word : List Nat) :
    spelledB labels es word = true ↔
      ∃ p : List Nat, IsWalk es p ∧ (∀ v ∈ p, v < labels.length) ∧ p.map (fun v => labels.getD v 0) = word :=
  spelledB_iff labels es word

/-- the growth check decides: labels of the old nodes unchanged, every old edge still present, and with
at least its old (total) weight -/
theorem extendsB_decides (oldL : List Nat) (oldE : List (Nat × Nat × Int)) (newL : List Nat)
    (newE : List (Nat × Nat × Int)) :
    extendsB oldL oldE newL newE = true ↔
      (newL.take oldL.length = oldL ∧ (∀ e ∈ plain oldE, e ∈ plain newE) ∧
        ∀ e ∈ plain oldE, weight oldE e.1 e.2 ≤ weight newE e.1 e.2) :=
  extendsB_iff oldL oldE newL newE

/-- side condition of the identity clause: if equal symbols score `M`, no pair scores more, and
`2·gap < M`, the all-match alignment of a sequence with itself is the *unique* optimum — every other
global alignment scores strictly less.  (Hence an optimal aligner must return all-match, and re-adding
the reference cannot create nodes.)  Without the side condition (match score 0, gap 0) ties exist. -/
theorem identity_is_unique_optimum (sc : Sc) (M : Int) (hle : ∀ a b, sc.w a b ≤ M) (hd : ∀ a, sc.w a a = M)
    (hg : 2 * sc.gap < M) (x : List Nat) :
    ∃ s, score sc x x (List.replicate x.length Op.mat) = some s ∧ nwBest sc x x = s ∧
      ∀ ops v, score sc x x ops = some v → ops ≠ List.replicate x.length Op.mat → v < s := by
  refine ⟨tot M x, score_identity sc M hd x, ?_, fun ops v h hne => identity_unique sc M hle hg x ops v h hne⟩
  have h1 := nw_upper sc _ x x _ (score_identity sc M hd x)
  obtain ⟨o, ho⟩ := nw_attained sc x x
  by_cases hne : o = List.replicate x.length Op.mat
  · rw [hne, score_identity sc M hd x] at ho
    simp at ho; omega
  · have := identity_unique sc M hle hg x o _ ho hne
    omega

/-- refinement of the mirror model: the recurrence of `Poa::custom` in global mode (prefix-wise rows, first
column `(node+1)·gap`, first node without the delete-after-insertions candidate, Rust tie-breaking), run over
the chain graph built from `x`, ends in a cell whose score is the optimum — for all scoring functions,
references and queries.  The driver evaluates `chainScore` next to the observed score (`drift-chain-score`). -/
theorem chain_dp_is_optimum (sc : Sc) (x y : List Nat) : Poa.Model.chainScore sc x y = nwBest sc x y :=
  Poa.Model.chainScore_eq_nwBest sc x y

/-- the mirror model of `Poa::add_alignment` only grows the graph — for every graph, every operation list
(any alignment mode, valid or not) and every query: old labels kept, every edge kept, no total edge weight
decreased, and at most one new node per operation that consumes a query symbol.  By induction over a history
this is the "growing" half of the graph clause for all histories of the model; the driver compares the
model's result with the real dump after every `add_to_graph` (`drift-add`). -/
theorem model_add_only_grows (g : Poa.Model.G) (ops : List POp) (seq : List Nat) :
    Extends g.labels g.es (Poa.Model.addAlignment g ops seq).labels (Poa.Model.addAlignment g ops seq).es ∧
    (Poa.Model.addAlignment g ops seq).labels.length ≤ g.labels.length + Poa.Model.consuming ops :=
  Poa.Model.addAlignment_grows g ops seq

/-- … and along the identity alignment `Match(None), Match(0,1), Match(1,2), …` (the unique optimum under
`identity_is_unique_optimum`) re-adding the reference creates no node in the mirror model — for any edge list `es`, provided the
first node in topological order carries the label `x[0]` (`hhead`; true on the chain whatever its weights: otherwise `Match(None)`
creates a node) -/
theorem model_identity_readdition_keeps_nodes (x : List Nat) (es : Poa.Model.WEdges)
    (hhead : x.getD ((Poa.Model.topo x.length es).headD 0) 0 = x.getD 0 0) :
    (Poa.Model.addAlignment { labels := x, es := es } (Poa.Model.idOps x.length) x).labels = x :=
  Poa.Model.addAlignment_identity_labels x es hhead

/-- **the model's align-and-add keeps the graph a DAG** (DESIGN [C], full statement for `global`): for every
graph with at least one node, end points in range and no directed cycle, every scoring and every query, the
graph after `global(q)` + `add_to_graph()` of the model again has at least one node, end points in range and
no directed cycle.  Proof: `topo` visits every node of a DAG after its predecessors (`topo_spec`), every cell
of the DP table points to the same row, to the row of a predecessor, to row 0 or down the first column
(`dpRows_tableOK`), so the traceback names nodes in strictly increasing topological rank (`traceF_bodyB`),
and `add_alignment` along such a list has a rank function again (`addAlignment_rankOK`). -/
theorem model_align_add_preserves_acyclic (sc : Sc) (g : Poa.Model.G) (q : List Nat)
    (hne : g.labels ≠ [])
    (hwf : ∀ e ∈ g.es, e.1 < g.labels.length ∧ e.2.1 < g.labels.length)
    (hac : ∀ v, ¬ Reach (plain g.es) v v) :
    (Poa.Model.alignAdd sc g q).labels ≠ [] ∧
    (∀ e ∈ (Poa.Model.alignAdd sc g q).es,
      e.1 < (Poa.Model.alignAdd sc g q).labels.length ∧ e.2.1 < (Poa.Model.alignAdd sc g q).labels.length) ∧
    ∀ v, ¬ Reach (plain (Poa.Model.alignAdd sc g q).es) v v :=
  let h := Poa.Model.alignAdd_dag sc g q ⟨hne, hwf, hac⟩
  ⟨h.ne, h.wf, h.acyclic⟩

/-- the same for the traceback started in *any* cell with *any* fuel (so the statement does not depend on the
loop bound of the model, nor on which row `last` is) -/
theorem model_traceback_add_preserves_acyclic (sc : Sc) (g : Poa.Model.G) (q : List Nat) (f i j : Nat)
    (hne : g.labels ≠ [])
    (hwf : ∀ e ∈ g.es, e.1 < g.labels.length ∧ e.2.1 < g.labels.length)
    (hac : ∀ v, ¬ Reach (plain g.es) v v) :
    ∀ v, ¬ Reach (plain (Poa.Model.addAlignment g
      (Poa.Model.traceLoop (Poa.Model.dpRows sc g.labels g.es q) f i j []) q).es) v v :=
  (Poa.Model.traceback_add_dag sc g q ⟨hne, hwf, hac⟩ f i j).acyclic

/-- **"after any series of additions"**, for the model, unconditionally: start from the chain built from a
non-empty reference `x` (`Poa::from_string`) and apply any number of align-and-add steps, each with its own
scoring and query — the graph has its edge end points in range and no directed cycle. -/
theorem model_history_acyclic (x : List Nat) (hx : x ≠ []) (steps : List (Sc × List Nat)) :
    (∀ e ∈ (Poa.Model.history x steps).es,
      e.1 < (Poa.Model.history x steps).labels.length ∧ e.2.1 < (Poa.Model.history x steps).labels.length) ∧
    ∀ v, ¬ Reach (plain (Poa.Model.history x steps).es) v v :=
  let h := Poa.Model.history_dag x hx steps
  ⟨h.wf, h.acyclic⟩

/-- **"the graph only grows", along histories**: between any two points of any history of the model the
labels of the existing nodes are kept, every edge stays and no total edge weight decreases
(`model_add_only_grows` composed over the steps). -/
theorem model_history_only_grows (x : List Nat) (steps more : List (Sc × List Nat)) :
    Extends (Poa.Model.history x steps).labels (Poa.Model.history x steps).es
      (Poa.Model.history x (steps ++ more)).labels (Poa.Model.history x (steps ++ more)).es :=
  (Poa.Model.history_grows x steps more).extends

/-- **node growth ≤ |query| per addition**, for the model's own alignment: the traceback on a DAG emits at most
`|q|` operations that consume a query symbol (each moves one column to the left; column 0 of a computed row
holds `Del(None)`; every row is computed because `topo` visits every node), and `add_alignment` creates at
most one node per such operation. -/
theorem model_align_add_node_growth (sc : Sc) (g : Poa.Model.G) (q : List Nat)
    (hne : g.labels ≠ [])
    (hwf : ∀ e ∈ g.es, e.1 < g.labels.length ∧ e.2.1 < g.labels.length)
    (hac : ∀ v, ¬ Reach (plain g.es) v v) :
    (Poa.Model.alignAdd sc g q).labels.length ≤ g.labels.length + q.length :=
  Poa.Model.alignAdd_node_growth sc g q ⟨hne, hwf, hac⟩

/-- … hence after any history the node count is at most `|x|` plus the total length of the queries -/
theorem model_history_node_count (x : List Nat) (hx : x ≠ []) (steps : List (Sc × List Nat)) :
    (Poa.Model.history x steps).labels.length ≤ x.length + (steps.map fun s => s.2.length).sum :=
  Poa.Model.history_node_count x hx steps

/-- **the consensus of the model is non-empty and spelled by a path** — for every graph with at least one
node, end points in range and no directed cycle, whatever the edge weights (model of the repaired
`Aligner::consensus`, commit 8b80f4b: the unrepaired one indexed out of bounds on edgeless graphs).  In
particular `consensus` never returns `none` (= never panics) on such a graph. -/
theorem consensus_is_path (labels : List Nat) (es : Poa.Model.WEdges)
    (hne : labels ≠ [])
    (hwf : ∀ e ∈ es, e.1 < labels.length ∧ e.2.1 < labels.length)
    (hac : ∀ v, ¬ Reach (plain es) v v) :
    ∃ w, Poa.Model.consensus labels es = some w ∧ w ≠ [] ∧
      ∃ p : List Nat, IsWalk (plain es) p ∧ (∀ v ∈ p, v < labels.length) ∧ p.map (fun v => labels.getD v 0) = w :=
  Poa.Model.consensus_path labels es ⟨hne, hwf, hac⟩

/-- … in particular after any history of the model -/
theorem model_history_consensus_is_path (x : List Nat) (hx : x ≠ []) (steps : List (Sc × List Nat)) :
    ∃ w, Poa.Model.consensus (Poa.Model.history x steps).labels (Poa.Model.history x steps).es = some w ∧ w ≠ [] ∧
      Spelled (Poa.Model.history x steps).labels (plain (Poa.Model.history x steps).es) w :=
  Poa.Model.consensus_path _ _ (Poa.Model.history_dag x hx steps)

/-- **banded clause, for the model**: `global_banded` (mirror model `bandedScore`, which the driver compares
with every score the real `global_banded` reports, any bandwidth) with default (`MIN_SCORE`) clip penalties
reports the score of `global` as soon as the bandwidth is at least the query length — on every non-empty
well-formed DAG, not only on linear graphs, and without needing `bandwidth ≥ #nodes` (the band is centred on
a column `≤ |query|`).  Side conditions: `gap ≤ 0` (what `Scoring::new` asserts) and no path of gaps reaches
down to `MIN_SCORE` (`MIN_SCORE < (#nodes + |query| + 1)·gap`), because `global_banded` starts its
per-column maximum from a `MIN_SCORE` cell.  Proved row by row: every row of the banded table starts in
column 0, covers all columns and holds the cells — scores and operations — of the global table. -/
theorem model_banded_full_band_equals_global (sc : Sc) (labels : List Nat) (es : Poa.Model.WEdges)
    (query : List Nat) (bw : Nat)
    (hne : labels ≠ [])
    (hwf : ∀ e ∈ es, e.1 < labels.length ∧ e.2.1 < labels.length)
    (hac : ∀ v, ¬ Reach (plain es) v v)
    (hbw : query.length ≤ bw) (hgap : sc.gap ≤ 0)
    (hmin : Poa.Model.minScore < ((labels.length + query.length + 1 : Nat) : Int) * sc.gap) :
    Poa.Model.bandedScore sc Poa.Model.minScore Poa.Model.minScore labels es query bw =
      (Poa.Model.globalAlign sc labels es query).1 :=
  Poa.Model.bandedScore_full sc labels es query bw ⟨hne, hwf, hac⟩ hbw hgap hmin

/-- **score clause for the general DP of the model**: on the graph built from one non-empty sequence `x`
(`chainG x` = `Poa::from_string`) the score `global` reports in the model — `topo`, the per-predecessor
recurrence over the whole graph, Rust tie-breaks — is the Needleman–Wunsch optimum.  (Each node's only predecessor is
the one before it and `topo` visits predecessors first and the last node last, so `dpRows` computes the rows of `chainRows`;
then `chain_dp_is_optimum`.) -/
theorem model_global_on_linear_graph_is_optimum (sc : Sc) (x q : List Nat) (hx : x ≠ []) :
    (Poa.Model.globalAlign sc x (Poa.Model.chainG x).es q).1 = nwBest sc x q := by
  rw [Poa.Model.chainG_es, Poa.Model.globalAlign_chain sc x q hx]
  exact Poa.Model.chainScore_eq_nwBest sc x q

/-- **banded clause on linear graphs, for the model**: with default clip penalties and a bandwidth of at least
the query length the banded model reports the Needleman–Wunsch optimum (side conditions as in
`model_banded_full_band_equals_global`) -/
theorem model_banded_on_linear_graph_is_optimum (sc : Sc) (x q : List Nat) (bw : Nat) (hx : x ≠ [])
    (hbw : q.length ≤ bw) (hgap : sc.gap ≤ 0)
    (hmin : Poa.Model.minScore < ((x.length + q.length + 1 : Nat) : Int) * sc.gap) :
    Poa.Model.bandedScore sc Poa.Model.minScore Poa.Model.minScore x (Poa.Model.chainG x).es q bw = nwBest sc x q := by
  have hd := Poa.Model.chainG_dag x hx
  rw [Poa.Model.bandedScore_full sc x (Poa.Model.chainG x).es q bw hd hbw hgap hmin]
  exact model_global_on_linear_graph_is_optimum sc x q hx

/-- **the faithful model of `Aligner::global`** (`custom` with the four clip penalties at `MIN_SCORE`, every
`MIN_SCORE` start cell and clip candidate kept — the model whose score and operation list the driver compares
with the real `global` on every step) **reports the score of the clip-free model** on every non-empty
well-formed DAG, provided no score comes near `MIN_SCORE`: `gap ≤ 0`, substitution scores `≤ W` (`0 ≤ W`),
`MIN_SCORE < (#nodes + |q| + 1)·gap − |q|·W`.  (Every clip candidate loses: prefix clips against the lower
bound `(v+1+j)·gap` of a cell, suffix clips because `column maximum + MIN_SCORE ≤ |q|·W + MIN_SCORE`.) -/
theorem model_faithful_global_equals_clipfree (sc : Sc) (labels : List Nat) (es : Poa.Model.WEdges)
    (q : List Nat) (W : Int)
    (hne : labels ≠ [])
    (hwf : ∀ e ∈ es, e.1 < labels.length ∧ e.2.1 < labels.length)
    (hac : ∀ v, ¬ Reach (plain es) v v)
    (hgap : sc.gap ≤ 0) (hW : 0 ≤ W) (hw : ∀ a b, sc.w a b ≤ W)
    (hmin : Poa.Model.minScore < ((labels.length + q.length + 1 : Nat) : Int) * sc.gap - (q.length : Int) * W) :
    (Poa.Model.customAlign sc Poa.Model.minScore Poa.Model.minScore Poa.Model.minScore Poa.Model.minScore labels es q).1 =
      (Poa.Model.globalAlign sc labels es q).1 :=
  Poa.Model.customScore_minclips sc labels es q W ⟨hne, hwf, hac⟩ hgap hW hw hmin

/-- … hence **the score clause for the faithful model**: on the graph built from one non-empty sequence the
faithful `global` reports the Needleman–Wunsch optimum (same side conditions) -/
theorem model_faithful_global_on_linear_graph_is_optimum (sc : Sc) (x q : List Nat) (W : Int) (hx : x ≠ [])
    (hgap : sc.gap ≤ 0) (hW : 0 ≤ W) (hw : ∀ a b, sc.w a b ≤ W)
    (hmin : Poa.Model.minScore < ((x.length + q.length + 1 : Nat) : Int) * sc.gap - (q.length : Int) * W) :
    (Poa.Model.customAlign sc Poa.Model.minScore Poa.Model.minScore Poa.Model.minScore Poa.Model.minScore
      x (Poa.Model.chainG x).es q).1 = nwBest sc x q := by
  rw [Poa.Model.customScore_minclips sc x (Poa.Model.chainG x).es q W (Poa.Model.chainG_dag x hx) hgap hW hw hmin]
  exact model_global_on_linear_graph_is_optimum sc x q hx

/-- **every alignment mode keeps the graph a DAG** (DESIGN [C], full statement).  `stepAdd sc cl g mode q` is
`add_to_graph()` after `global` / `semiglobal` / `local` / `custom` (configured clip penalties `cl`) /
`global_banded(bw)` (any bandwidth, narrow bands with their out-of-band cells included) in the *faithful*
models `customTable` / `bandedTable` (every `MIN_SCORE` start cell, prefix and suffix clip cells, the three
out-of-band answers of `Traceback::get`; the driver compares their score and operation list with the real
output on every step of every mode).  For every non-empty well-formed DAG, scoring, clip
penalties, mode and query the result is a non-empty well-formed DAG.  Proof: both tables are *local*
(`customTable_opsOK`, `bandedTable_opsOK`: a cell points into its own row, to the row of a predecessor, to
row 0, down the first column, or — suffix clips — out of the last row, behind which nothing is named), so
the traceback names nodes in strictly increasing topological rank (`traceF_bodyB`). -/
theorem model_every_mode_add_preserves_acyclic (sc : Sc) (cl : Poa.Model.Clips) (g : Poa.Model.G)
    (mode : Poa.Model.Mode) (q : List Nat)
    (hne : g.labels ≠ [])
    (hwf : ∀ e ∈ g.es, e.1 < g.labels.length ∧ e.2.1 < g.labels.length)
    (hac : ∀ v, ¬ Reach (plain g.es) v v) :
    (Poa.Model.stepAdd sc cl g mode q).labels ≠ [] ∧
    (∀ e ∈ (Poa.Model.stepAdd sc cl g mode q).es,
      e.1 < (Poa.Model.stepAdd sc cl g mode q).labels.length ∧
      e.2.1 < (Poa.Model.stepAdd sc cl g mode q).labels.length) ∧
    ∀ v, ¬ Reach (plain (Poa.Model.stepAdd sc cl g mode q).es) v v :=
  let h := Poa.Model.stepAdd_dag sc cl g mode q ⟨hne, hwf, hac⟩
  ⟨h.ne, h.wf, h.acyclic⟩

/-- **"after any series of additions", every mode**: from the chain of a non-empty reference, any list of
steps (scoring, configured clip penalties, mode, query): end points in range, no directed cycle -/
theorem model_history_all_modes_acyclic (x : List Nat) (hx : x ≠ []) (steps : List Poa.Model.HStep) :
    (∀ e ∈ (Poa.Model.historyM x steps).es,
      e.1 < (Poa.Model.historyM x steps).labels.length ∧ e.2.1 < (Poa.Model.historyM x steps).labels.length) ∧
    ∀ v, ¬ Reach (plain (Poa.Model.historyM x steps).es) v v :=
  let h := Poa.Model.historyM_dag x hx steps
  ⟨h.wf, h.acyclic⟩

/-- … the graph only grows along such a history … -/
theorem model_history_all_modes_only_grows (x : List Nat) (steps more : List Poa.Model.HStep) :
    Extends (Poa.Model.historyM x steps).labels (Poa.Model.historyM x steps).es
      (Poa.Model.historyM x (steps ++ more)).labels (Poa.Model.historyM x (steps ++ more)).es :=
  (Poa.Model.historyM_grows x steps more).extends

/-- … **node growth ≤ |query| per addition in every mode** — for every graph (no acyclicity needed), scoring,
clip penalties, mode and query: the traceback over the table of `custom`/`global_banded` emits at most `|q|`
operations that consume a query symbol (such an operation moves one column to the left, column 0 holds
none, a `Yclip` never jumps to the right), and `add_alignment` creates at most one node per such operation -/
theorem model_every_mode_node_growth (sc : Sc) (cl : Poa.Model.Clips) (g : Poa.Model.G) (mode : Poa.Model.Mode)
    (q : List Nat) :
    (Poa.Model.stepAdd sc cl g mode q).labels.length ≤ g.labels.length + q.length :=
  Poa.Model.stepAdd_node_growth sc cl g mode q

/-- … and a history of `k` additions has at most `|x| + Σ|qᵢ|` nodes -/
theorem model_history_all_modes_node_count (x : List Nat) (steps : List Poa.Model.HStep) :
    (Poa.Model.historyM x steps).labels.length ≤ x.length + (steps.map fun s => s.2.2.2.length).sum :=
  Poa.Model.historyM_node_count x steps

/-- … and its consensus is always a non-empty word spelled by a path -/
theorem model_history_all_modes_consensus_is_path (x : List Nat) (hx : x ≠ []) (steps : List Poa.Model.HStep) :
    ∃ w, Poa.Model.consensus (Poa.Model.historyM x steps).labels (Poa.Model.historyM x steps).es = some w ∧ w ≠ [] ∧
      Spelled (Poa.Model.historyM x steps).labels (plain (Poa.Model.historyM x steps).es) w :=
  Poa.Model.consensus_path _ _ (Poa.Model.historyM_dag x hx steps)

/-- the general lemma behind `model_align_add_preserves_acyclic` and `model_every_mode_add_preserves_acyclic`: `add_alignment` along *any* operation list that names nodes in increasing
rank (`bodyB`: each `Match(Some((_, p)))` lies above the rank bound of `prev`, with room for the nodes created
in between; the inserted prefix `Ins(None)…` stays below the head) keeps the graph acyclic, `rk` being any rank
function increasing along the old edges.  The hypothesis holds for the operation lists of every mode of the model
(`model_every_mode_add_preserves_acyclic`); the driver's certificate `acyclicCert` evaluates it on the operation lists of
the *real* code. -/
theorem model_add_preserves_acyclic_of_ranked_ops (g : Poa.Model.G) (rk : Nat → Nat) (ops : List POp) (seq : List Nat)
    (hrk : ∀ e ∈ g.es, e.1 < g.labels.length ∧ e.2.1 < g.labels.length ∧ rk e.1 < rk e.2.1)
    (hhead : (Poa.Model.topo g.labels.length g.es).headD 0 < g.labels.length)
    (hbody : Poa.Model.bodyB rk g.labels.length ((Poa.Model.topo g.labels.length g.es).headD 0)
      (rk ((Poa.Model.topo g.labels.length g.es).headD 0)) false ops = true) :
    ∀ v, ¬ Reach (plain (Poa.Model.addAlignment g ops seq).es) v v :=
  Poa.Model.addAlignment_acyclic_of_bodyB g rk ops seq hrk hhead hbody

/-- the executable certificate (`topo` position scaled by `|ops|+1` as rank function) implies that the
model's updated graph has no cycle -/
theorem model_acyclic_certificate (g : Poa.Model.G) (ops : List POp) (seq : List Nat)
    (h : Poa.Model.acyclicCert g ops = true) : ∀ v, ¬ Reach (plain (Poa.Model.addAlignment g ops seq).es) v v :=
  Poa.Model.acyclic_of_cert g ops seq h

/-! ## Non-vacuity: the hypotheses are met by concrete non-trivial inputs -/

def exSc : Sc := { w := fun a b => if a = b then 1 else -1, gap := -1 }

-- GATTACA vs GCATGCU (the example of the repo's test): optimum 0, attained by an alignment with gaps
example : nwFast exSc [71, 65, 84, 84, 65, 67, 65] [71, 67, 65, 84, 71, 67, 85] = 0 := by decide
example : score exSc [65, 67, 71] [65, 71] [.mat, .del, .mat] = some 1 := by decide
example : acceptGlobal exSc [65, 67, 71] [65, 71] [.m none, .d (some (0, 2)), .m (some (1, 2))] 1 = true := by decide
example : acceptGlobal exSc [65, 67, 71] [65, 71] [.m none, .m (some (0, 1)), .d (some (1, 3))] 1 = false := by decide
example : Poa.Model.chainScore exSc [71, 65, 84, 84, 65, 67, 65] [71, 67, 65, 84, 71, 67, 85] = 0 := by decide
example : (Poa.Model.addAlignment { labels := [65, 67, 71], es := [(0, 1, 2), (1, 2, 2)] } (Poa.Model.idOps 3) [65, 67, 71]).es
    = [(0, 1, 3), (1, 2, 3)] := by decide
example : (Poa.Model.addAlignment { labels := [65, 67, 71], es := [(0, 1, 1), (1, 2, 1)] }
    [.m none, .i (some 0), .m (some (0, 1)), .d (some (1, 3))] [65, 84, 71]).labels = [65, 67, 71, 84, 71] := by decide
-- AAA + BBBBBAAA (test_edge_cases 4): five leading `Ins(None)`, then the edge into the old head
example : Poa.Model.acyclicCert { labels := [65, 65, 65], es := [(0, 1, 1), (1, 2, 1)] }
    [.i none, .i none, .i none, .i none, .i none, .m none, .m (some (0, 1)), .m (some (1, 2))] = true := by decide
-- naming nodes against the order is refused
example : Poa.Model.acyclicCert { labels := [65, 65, 65], es := [(0, 1, 1), (1, 2, 1)] }
    [.m none, .m (some (1, 2)), .m (some (0, 1))] = false := by decide
-- one history step on the chain ACG with the query ATG: a branch node is created, the result is a DAG
example : (Poa.Model.history [65, 67, 71] [(exSc, [65, 84, 71])]).labels = [65, 67, 71, 84] := by decide
example : plain (Poa.Model.history [65, 67, 71] [(exSc, [65, 84, 71])]).es = [(0, 1), (1, 2), (0, 3), (3, 2)] := by decide
-- consensus of a bubble graph: the heavier branch; of a single node: that node
example : Poa.Model.consensus [65, 67, 71, 84] [(0, 1, 2), (1, 2, 2), (0, 3, 1), (3, 2, 1)] = some [65, 67, 71] := by decide
example : Poa.Model.consensus [65] [] = some [65] := by decide
example : (Poa.Model.history [65, 67, 71] [(exSc, [65, 84, 71]), (exSc, [65, 84, 71])]).labels.length ≤ 3 + (3 + 3) := by decide
-- banded model: full band = global score; a band of width 1 on a query with 3 leading extra symbols loses
example : Poa.Model.bandedScore exSc Poa.Model.minScore Poa.Model.minScore [65, 67, 71] [(0, 1, 1), (1, 2, 1)] [65, 84, 71] 3 = 1 := by decide
example : (Poa.Model.globalAlign exSc [65, 67, 71] [(0, 1, 1), (1, 2, 1)] [65, 84, 71]).1 = 1 := by decide
example : Poa.Model.minScore < ((3 + 3 + 1 : Nat) : Int) * exSc.gap := by decide
-- faithful models: local alignment of TT against ACGTT clips the prefix; a narrow band gives a junk list; both additions keep a DAG
example : (Poa.Model.customAlign exSc 0 0 0 0 [65, 67, 71, 84, 84] [(0, 1, 1), (1, 2, 1), (2, 3, 1), (3, 4, 1)] [84, 84]).1 = 2 := by decide
example : (Poa.Model.historyM [65, 67, 71, 84, 84] [(exSc, ⟨0, 0, 0, 0⟩, .local, [84, 84]), (exSc, ⟨0, 0, 0, 0⟩, .banded 1, [71, 71, 71, 84])]).labels.length = 8 := by decide
-- the side conditions of the faithful-global theorem hold for +1/−1/−1 and lengths 3, 3
example : Poa.Model.minScore < ((3 + 3 + 1 : Nat) : Int) * exSc.gap - (3 : Int) * 1 := by decide
example : (Poa.Model.customAlign exSc Poa.Model.minScore Poa.Model.minScore Poa.Model.minScore Poa.Model.minScore
    [65, 67, 71] [(0, 1, 1), (1, 2, 1)] [65, 84, 71]).1 = 1 := by decide
-- a DAG with a bubble is accepted, a 3-cycle is not
example : isAcyclic 4 [(0, 1), (1, 2), (0, 3), (3, 2)] = true := by decide
example : isAcyclic 3 [(0, 1), (1, 2), (2, 0)] = false := by decide
example : spelledB [65, 67, 71, 84] [(0, 1), (1, 2), (0, 3), (3, 2)] [65, 84, 71] = true := by decide
example : spelledB [65, 67, 71, 84] [(0, 1), (1, 2), (0, 3), (3, 2)] [65, 71] = false := by decide
example : extendsB [65, 67] [(0, 1, 1)] [65, 67, 71] [(0, 1, 2), (1, 2, 1)] = true := by decide
example : extendsB [65, 67] [(0, 1, 2)] [65, 67, 71] [(0, 1, 1), (1, 2, 1)] = false := by decide
-- the side condition of the identity clause holds for +1/−1/−1
example : ∃ s, score exSc [65, 67] [65, 67] [.mat, .mat] = some s ∧ nwBest exSc [65, 67] [65, 67] = s ∧
    ∀ ops v, score exSc [65, 67] [65, 67] ops = some v → ops ≠ [.mat, .mat] → v < s :=
  identity_is_unique_optimum exSc 1 (by intro a b; simp [exSc]; split <;> omega) (by simp [exSc]) (by simp [exSc]) [65, 67]

/-! ### `i32`: the fixed-width arithmetic of `Poa::custom` and `Poa::global_banded` (`RbV/Model/PoaI32.lean`)

The Rust code computes every score in `i32` (the harness is built with `overflow-checks`: an overflow is a panic).
`Poa.Model.customTableC` / `bandedRowsC` are the mirrors with every `i32` `+` and `*` on scores of the Rust text checked (the band
arithmetic of `global_banded`, `usize` in the code, is on `Nat`: "any bandwidth" = any `bw : Nat` of the mirror).  Inside the
parametric envelope `PoaEnv` — `B ≥ 1` bounds `|score(r, q)|` over node labels × query symbols and `|gap_open|`,
`gap_open ≤ 0`, the four clip penalties anywhere in `[MIN_SCORE, 0]`, `n·B < 2³¹`, `m·B < 2³¹` (`m` nodes, `n` query symbols),
`2·B ≤ 2³¹ + MIN_SCORE` — **no checked operation fails and the tables are exactly those of the unbounded mirrors**, on every
well-formed acyclic graph (what `model_history_all_modes_acyclic` gives for every history), in every mode and for every
bandwidth.  Proof (`Lemmas/PoaI32.lean`): every cell of column `j` lies in `[MIN_SCORE − B, j·B]` (row 0 in `[MIN_SCORE, 0]`,
out-of-band answers are `MIN_SCORE`), `max_in_column`, `max_in_row` in `[0, n·B]`; induction over the topological order.
All other theorems of this file about `customTable` / `bandedRows` therefore hold for the `i32` computation. -/

/-- `topo` lists only nodes of the graph (well-formed acyclic graph) -/
theorem topo_lt (n : Nat) (es : Poa.Model.WEdges) (wf : ∀ e ∈ es, e.1 < n ∧ e.2.1 < n)
    (hac : Acyclic (plain es)) : ∀ v ∈ Poa.Model.topo n es, v < n := by
  obtain ⟨vis, h1, _, h3, _⟩ := Poa.Model.topo_spec n es wf hac
  intro v hv
  rw [h1, List.mem_reverse] at hv
  exact (h3 v).mp hv

/-- **`Poa::custom` (all modes) in `i32`: no overflow inside `PoaEnv`; the checked mirror is the unbounded mirror.** -/
theorem poa_i32_no_overflow (sc : Sc) (xp xs yp ys : Int) (labels : List Nat) (es : Poa.Model.WEdges) (query : List Nat)
    (B : Int) (henv : Poa.Model.PoaEnv sc xp xs yp ys labels query B)
    (wf : ∀ e ∈ es, e.1 < labels.length ∧ e.2.1 < labels.length) (hac : Acyclic (plain es)) :
    Poa.Model.customTableC sc xp xs yp ys labels es query =
      some (Poa.Model.customTable sc xp xs yp ys labels es query) :=
  Poa.Model.I32P.customTableC_eq henv es (topo_lt labels.length es wf hac)

/-- **`Poa::global_banded` in `i32`, any bandwidth: no overflow inside `PoaEnv`; the rows are the unbounded mirror's.** -/
theorem poa_banded_i32_no_overflow (sc : Sc) (xp xs yp ys : Int) (labels : List Nat) (es : Poa.Model.WEdges)
    (query : List Nat) (bw : Nat) (B : Int) (henv : Poa.Model.PoaEnv sc xp xs yp ys labels query B)
    (wf : ∀ e ∈ es, e.1 < labels.length ∧ e.2.1 < labels.length) (hac : Acyclic (plain es)) :
    Poa.Model.bandedRowsC sc xp yp labels es query bw =
      some (Poa.Model.bRow0 sc.gap yp query.length, Poa.Model.bandedRows sc xp yp labels es query bw) :=
  Poa.Model.I32P.bandedRowsC_eq henv es bw (topo_lt labels.length es wf hac)

/-- the envelope of the C16 tie (|scores| ≤ 1024 — `SANE` of the harness —, at most 2 000 000 nodes and query symbols;
the tie runs with ≤ 25 + growth) is an instance -/
theorem poa_fixed_envelope_is_instance (sc : Sc) (xp xs yp ys : Int) (labels query : List Nat)
    (hw : ∀ r ∈ labels, ∀ q ∈ query, -1024 ≤ sc.w r q ∧ sc.w r q ≤ 1024) (hgap : -1024 ≤ sc.gap ∧ sc.gap ≤ 0)
    (hxp : Poa.Model.minScore ≤ xp ∧ xp ≤ 0) (hxs : Poa.Model.minScore ≤ xs ∧ xs ≤ 0)
    (hyp : Poa.Model.minScore ≤ yp ∧ yp ≤ 0) (hys : Poa.Model.minScore ≤ ys ∧ ys ≤ 0)
    (hm : labels.length ≤ 2000000) (hn : query.length ≤ 2000000) : Poa.Model.PoaEnv sc xp xs yp ys labels query 1024 := by
  have h2 : 2 * (1024 : Int) ≤ 2147483648 + Poa.Model.minScore := by decide
  exact ⟨by omega, fun r hr q hq => (hw r hr q hq).1, fun r hr q hq => (hw r hr q hq).2, hgap, hxp, hxs, hyp, hys,
    by omega, by omega, h2⟩

-- non-vacuity: graph A→C→G plus the edge A→G, query ACG with scores of magnitude 4·10⁸: inside `PoaEnv`; the `i32` table's
-- score; outside: two matches of 2·10⁹ overflow
def scBigPoa : Sc := ⟨fun a b => if a = b then 400000000 else -400000000, -400000000⟩
example : Poa.Model.PoaEnv scBigPoa Poa.Model.minScore (-7) 0 Poa.Model.minScore [65, 67, 71] [65, 67, 71] 400000000 :=
  ⟨by decide, by decide, by decide, by decide, by decide, by decide, by decide, by decide, by decide, by decide, by decide⟩
example : (Poa.Model.customTableC scBigPoa Poa.Model.minScore (-7) 0 Poa.Model.minScore [65, 67, 71]
    [(0, 1, 1), (1, 2, 1), (0, 2, 1)] [65, 67, 71]).map (·.score) = some 1200000000 := by decide +kernel
example : (Poa.Model.customTableC ⟨fun _ _ => 2000000000, -1⟩ 0 0 0 0 [65, 67] [(0, 1, 1)] [65, 67]).isNone = true := by
  decide +kernel

/-! ### Source-extracted obligations (DESIGN §8): `MIN_SCORE` of `poa.rs`

`RbV/Gen/Limits.lean` is regenerated from the source text of the tree under test on every `./check C16`
(tools/gen_tables.py) before `lake build`; the mirror models (`Poa.Model.minScore`) and the driver are defined by the
extracted constant, and the statements below are re-proved over whatever was extracted. -/

/-- the `MIN_SCORE` the POA mirror models and the driver use **is** the constant extracted from `poa.rs` -/
theorem poa_min_score_is_source_constant : Poa.Model.minScore = RbV.Gen.Limits.minScorePoa := rfl

/-- `poa.rs` keeps its own copy of `MIN_SCORE` ("see alignment/pairwise/mod.rs"): the two copies agree -/
theorem poa_min_score_eq_pairwise : Poa.Model.minScore = RbV.Gen.Limits.minScorePairwise :=
  GenLimits.min_score_pairwise_eq_poa.symm

/-- out-of-band / impossible cells carry `MIN_SCORE` and one gap or clip penalty is added to them: two sentinels still
fit `i32`, and the sentinel is negative -/
theorem poa_min_score_no_i32_overflow :
    -(2 ^ 31 : Int) ≤ Poa.Model.minScore + Poa.Model.minScore ∧ Poa.Model.minScore < 0 :=
  ⟨GenLimits.two_min_scores_no_i32_overflow.2.2, by
    have h := GenLimits.min_score_range.2
    rw [GenLimits.min_score_pairwise_eq_poa] at h
    exact h⟩

/-! ### Translated function bodies (docs/notes/GEN.md, "Dialect poa")

The text of `Poa::add_alignment`, `Poa::custom`, the `Traceback` table with `alignment`, and `Aligner::consensus`
(`Gen/SrcPoaAdd.lean`, `Gen/SrcPoaAlign.lean`, `Gen/SrcPoaConsensus.lean`) is translated to Lean on every `./check C16`
(`tools/rs2lean_genpoa.py`; petgraph read through the contracts of `Basic/RsSemGenpoa.lean`) and the statements below are
re-proved over whatever was regenerated.  The exact (tie-breaks included) equality of the DP phase of `Poa::custom` with the
checked-`i32` mirror is the *soft* module `Thm/GenSrcPoaCustom.lean`. -/

/-- **`Poa::add_alignment` as translated from the source text refines the mirror model**: for every graph, operation list
(valid or not) and sequence, whenever the translated function returns (no panic: index out of bounds, `add_edge` between
missing nodes, `unwrap` of the head of an empty graph, `i32` / `usize` overflow) it returns `Model.addAlignment` — head taken
from the topological walk, matching nodes reused, edge weights incremented, nodes appended for mismatches / insertions -/
theorem poa_add_alignment_source_eq_model (g : Poa.Model.G) (aln : Rs.Poa.Alignment) (seq : List Nat) (g' : Poa.Model.G)
    (h : RbV.Gen.SrcPoaAdd.add_alignment g aln seq = Rs.Res.ok g') :
    g' = Poa.Model.addAlignment g aln.operations seq :=
  RbV.Thm.GenSrcPoaAdd.add_alignment_eq_model g aln seq g' h

/-- **… hence the graph stays a growing DAG under the translated addition, in every mode** — one addition, not a history;
`_partial`: the operation list
is the one the faithful *model* of the chosen mode reports (`stepOps`: `custom` with the mode's clip penalties / `global_banded`);
for the four `custom`-based modes the theorems below speak of the lists the *translated* `custom` / `alignment` produce and of
no panic on them; what only this theorem covers is the `banded` mode.  For every non-empty well-formed DAG, scoring, clip
penalties, mode, query: if the translated `add_alignment` returns `g'`, then `g'` is a non-empty well-formed DAG, extends
`g` (no label / edge removed, no total weight decreased) and has at most `|query|` more nodes. -/
theorem poa_history_source_acyclic_only_grows_partial (sc : Sc) (cl : Poa.Model.Clips) (g : Poa.Model.G)
    (mode : Poa.Model.Mode) (q : List Nat) (score : Int) (g' : Poa.Model.G)
    (hne : g.labels ≠ [])
    (hwf : ∀ e ∈ g.es, e.1 < g.labels.length ∧ e.2.1 < g.labels.length)
    (hac : ∀ v, ¬ Reach (plain g.es) v v)
    (h : RbV.Gen.SrcPoaAdd.add_alignment g ⟨score, Poa.Model.stepOps sc cl g mode q⟩ q = Rs.Res.ok g') :
    g'.labels ≠ [] ∧ (∀ e ∈ g'.es, e.1 < g'.labels.length ∧ e.2.1 < g'.labels.length) ∧
    (∀ v, ¬ Reach (plain g'.es) v v) ∧ Extends g.labels g.es g'.labels g'.es ∧
    g'.labels.length ≤ g.labels.length + q.length := by
  have e : g' = Poa.Model.stepAdd sc cl g mode q := RbV.Thm.GenSrcPoaAdd.add_alignment_eq_model g _ q g' h
  subst e
  have hd := Poa.Model.stepAdd_dag sc cl g mode q ⟨hne, hwf, hac⟩
  exact ⟨hd.ne, hd.wf, hd.acyclic, (Poa.Model.stepAdd_grows sc cl g mode q).extends,
    Poa.Model.stepAdd_node_growth sc cl g mode q⟩

/-- **the translated `Poa::custom` reports the score of the checked-`i32` mirror** (hard, tie-robust: stated on scores, so
a property-preserving change of a `max` tie-break — seeded C16-H1 — re-proves).  For every scoring, clip penalties (=
every mode: `global` / `semiglobal` / `local` / `custom` differ only in the penalties), query and non-empty well-formed DAG
(sizes below `2^64 − 1`): whenever `Model.customTableC` is `some t` (no `i32` overflow — `poa_i32_no_overflow` inside
`PoaEnv`), the translated `custom` does not panic, `last` / `cols` are the mirror's, and `get(last + 1, cols).score`
— the score `Traceback::alignment` reports — is `t.score`.  Covers `with_capacity`, `initialize_scores`, the DP over the
topological order, X and Y suffix clipping.  (Operation-list equality: soft module / correspondence run.) -/
theorem poa_custom_source_score_eq_model (sc : Sc) (xp xs yp ys : Int) (g : Poa.Model.G) (query : List Nat)
    (t : Poa.Model.BTable)
    (hne : g.labels ≠ []) (hwf : ∀ e ∈ g.es, e.1 < g.labels.length ∧ e.2.1 < g.labels.length)
    (hac : ∀ v, ¬ Reach (plain g.es) v v)
    (hm : g.labels.length + 1 < 2 ^ 64) (hn : query.length + 1 < 2 ^ 64)
    (h : Poa.Model.customTableC sc xp xs yp ys g.labels g.es query = some t) :
    ∃ tb, RbV.Gen.SrcPoaAlign.custom sc.w g sc.gap xp xs yp ys query = Rs.Res.ok tb ∧ tb.last = t.last ∧ tb.cols = t.n ∧
      (∃ c, RbV.Gen.SrcPoaAlign.Traceback_get tb (tb.last + 1) tb.cols = Rs.Res.ok c ∧ c.score = t.score) ∧
      ∀ a, RbV.Gen.SrcPoaAlign.Traceback_alignment tb = Rs.Res.ok a → a.score = t.score := by
  obtain ⟨tb, e, el, ec, _, _, _, c, hc, hs⟩ := RbV.Thm.GenSrcPoaScore.custom_score_eq_model sc xp xs yp ys g.labels g.es query t
    (RbV.Thm.GenSrcPoaScore.graphOK_of_dag g ⟨hne, hwf, hac⟩) hm hn h
  refine ⟨tb, e, el, ec, ⟨c, hc, hs⟩, ?_⟩
  intro a ha
  obtain ⟨c', hc', ha'⟩ := RbV.Thm.GenSrcPoaScore.alignment_score tb a ha
  rw [hc] at hc'
  cases hc'
  rw [ha', hs]

/-- **score clause at source level**: the translated `Poa::custom` with the four clip penalties at `MIN_SCORE` — what
`Aligner::global` runs (the wrapper that overrides the penalties is not translated) — on the graph built from one
non-empty sequence `x` reports the **Needleman–Wunsch optimum** `nwBest sc x q`, inside the `i32` envelope `PoaEnv` and
under the sentinel condition of `model_faithful_global_on_linear_graph_is_optimum`.  (That the operation list is a valid
alignment is not proved at source level: `acceptGlobal` checks it on every sampled case.) -/
theorem poa_global_source_exact_linear (sc : Sc) (x q : List Nat) (B W : Int) (hx : x ≠ [])
    (henv : Poa.Model.PoaEnv sc Poa.Model.minScore Poa.Model.minScore Poa.Model.minScore Poa.Model.minScore x q B)
    (hW : 0 ≤ W) (hw : ∀ a b, sc.w a b ≤ W)
    (hmin : Poa.Model.minScore < ((x.length + q.length + 1 : Nat) : Int) * sc.gap - (q.length : Int) * W)
    (hm : x.length + 1 < 2 ^ 64) (hn : q.length + 1 < 2 ^ 64) :
    ∃ tb, RbV.Gen.SrcPoaAlign.custom sc.w (Poa.Model.chainG x) sc.gap Poa.Model.minScore Poa.Model.minScore
        Poa.Model.minScore Poa.Model.minScore q = Rs.Res.ok tb ∧
      (∃ c, RbV.Gen.SrcPoaAlign.Traceback_get tb (tb.last + 1) tb.cols = Rs.Res.ok c ∧ c.score = nwBest sc x q) ∧
      ∀ a, RbV.Gen.SrcPoaAlign.Traceback_alignment tb = Rs.Res.ok a → a.score = nwBest sc x q := by
  have hd := Poa.Model.chainG_dag x hx
  have hC := poa_i32_no_overflow sc _ _ _ _ x (Poa.Model.chainG x).es q B henv hd.wf hd.acyclic
  have hopt := model_faithful_global_on_linear_graph_is_optimum sc x q W hx henv.gap.2 hW hw hmin
  obtain ⟨tb, e, _, _, hget, hal⟩ := poa_custom_source_score_eq_model sc _ _ _ _ (Poa.Model.chainG x) q _ hd.ne hd.wf hd.acyclic
    hm hn hC
  -- not by `exact`: unifying `(customAlign …).1` with `(customTable …).score` unfolds the whole table
  rw [Poa.Model.customAlign_fst] at hopt
  rw [← hopt]
  exact ⟨tb, e, hget, hal⟩

/-- **`Aligner::consensus` as translated returns a non-empty word spelled by a path** (hard, tie-robust: any arg-max
choice).  On every non-empty well-formed DAG with fewer than `usize::MAX` nodes, whatever the edge weights: whenever the
translated function returns `w`, `w ≠ []` and `w` is `Spelled` by a walk of valid nodes — partial correctness: that it returns (no
panic, the walk back ends within the fuel `node_count() + 2`) is stated for the mirror model only (`consensus_is_path`), not for
the translated text.  Nothing is assumed about which of several equally heavy predecessors / end nodes is taken: only
that one round of the maximisation keeps `best` or stores the neighbour (`for2_next`) and that the end node is an index of
the table (`pick_lt`) — seeded C16-H2 (older node wins, `.rev()` before `max_by_key`) re-proves untouched. -/
theorem poa_consensus_source_is_path (g : Poa.Model.G)
    (hne : g.labels ≠ []) (hwf : ∀ e ∈ g.es, e.1 < g.labels.length ∧ e.2.1 < g.labels.length)
    (hac : ∀ v, ¬ Reach (plain g.es) v v) (hsz : g.labels.length < 2 ^ 64 - 1) (w : List Nat)
    (h : RbV.Gen.SrcPoaConsensus.consensus g = Rs.Res.ok w) : w ≠ [] ∧ Spelled g.labels (plain g.es) w :=
  RbV.Thm.GenSrcPoaConsensus.consensus_is_path g ⟨hne, hwf, hac⟩ hsz w h

example : RbV.Gen.SrcPoaConsensus.consensus { labels := [65, 67, 71, 84], es := [(0, 1, 2), (1, 2, 2), (0, 3, 1), (3, 2, 1)] } =
    Rs.Res.ok [65, 67, 71] := by decide +kernel

/-- **the operation list of the translated `Traceback::alignment` is the traceback over the table's own cells**, and that
table is *local* for whatever the `max`es kept (hard, tie-independent): whenever the translated `alignment` returns, its
operations are `Model.traceF` over `getP` (= the translated `get`, totalised); and for every non-empty well-formed DAG,
scoring, clip penalties and non-empty query with `customTableC = some t`, the table the translated `custom` returns
satisfies `Model.OpsOK` (a cell points into its own row, to the row of a predecessor, to row 0, down column 0, or —
suffix clips — out of the last row). -/
theorem poa_alignment_source_is_traceback_of_local_table (sc : Sc) (xp xs yp ys : Int) (g : Poa.Model.G) (query : List Nat)
    (t : Poa.Model.BTable)
    (hne : g.labels ≠ []) (hwf : ∀ e ∈ g.es, e.1 < g.labels.length ∧ e.2.1 < g.labels.length)
    (hac : ∀ v, ¬ Reach (plain g.es) v v)
    (hm : g.labels.length + 1 < 2 ^ 64) (hn : query.length + 1 < 2 ^ 64) (hq : 0 < query.length)
    (h : Poa.Model.customTableC sc xp xs yp ys g.labels g.es query = some t) :
    ∃ tb, RbV.Gen.SrcPoaAlign.custom sc.w g sc.gap xp xs yp ys query = Rs.Res.ok tb ∧
      Poa.Model.OpsOK g.es t.last (RbV.Thm.GenSrcPoaHistory.opAtS tb.matrix) ∧
      ∀ a, RbV.Gen.SrcPoaAlign.Traceback_alignment tb = Rs.Res.ok a →
        a.operations = Poa.Model.traceF (RbV.Thm.GenSrcPoaHistory.opAtS tb.matrix) ((tb.rows + 3) * (tb.cols + 3))
          (tb.last + 1) tb.cols [] := by
  obtain ⟨tb, e, _, _, _, _, hO, _⟩ := RbV.Thm.GenSrcPoaScore.custom_score_eq_model sc xp xs yp ys g.labels g.es query t
    (RbV.Thm.GenSrcPoaScore.graphOK_of_dag g ⟨hne, hwf, hac⟩) hm hn h
  exact ⟨tb, e, RbV.Thm.GenSrcPoaHistory.opsOK_of_oinv g.es t.last tb.matrix hO,
    fun a ha => RbV.Thm.GenSrcPoaHistory.alignment_partial tb a ha⟩

/-- **after any history of translated alignments and additions the graph is a DAG that only grew** (hard, tie-independent).
A step = translated `Poa::custom` (any clip penalties: `global` / `semiglobal` / `local` /
`custom`) → translated `Traceback::alignment` → translated `Poa::add_alignment`.  From any non-empty well-formed DAG `g0`
(e.g. `chainG x`), for every list of steps with `HistOK` (on exactly the graphs that occur: non-empty query, sizes below
`2^64 − 1`, `customTableC ≠ none` = no `i32` overflow): whenever the history returns `g`, then `g` is a non-empty
well-formed DAG and extends `g0` (no label / edge removed, no total weight decreased).  Not covered: that the history
*does* return — `add_alignment` returns on these lists (`poa_add_alignment_source_total_on_tracebacks`), what is open is that
`Traceback::alignment` ends within its fuel — and `global_banded` steps.  Node growth: at most `|query|` nodes per step (`ColsOK` of the source table:
column 0 holds nothing query-consuming, a `Yclip` never jumps to the right). -/
theorem poa_history_source_acyclic_only_grows (g0 g : Poa.Model.G) (steps : List RbV.Thm.GenSrcPoaHistory.HS)
    (hne : g0.labels ≠ []) (hwf : ∀ e ∈ g0.es, e.1 < g0.labels.length ∧ e.2.1 < g0.labels.length)
    (hac : ∀ v, ¬ Reach (plain g0.es) v v)
    (hok : RbV.Thm.GenSrcPoaHistory.HistOK g0 steps)
    (h : RbV.Thm.GenSrcPoaHistory.srcHistory g0 steps = Rs.Res.ok g) :
    g.labels ≠ [] ∧ (∀ e ∈ g.es, e.1 < g.labels.length ∧ e.2.1 < g.labels.length) ∧
    (∀ v, ¬ Reach (plain g.es) v v) ∧ Extends g0.labels g0.es g.labels g.es ∧
    g.labels.length ≤ g0.labels.length + (steps.map fun s => s.2.2.length).sum := by
  obtain ⟨hd, hg, hn⟩ := RbV.Thm.GenSrcPoaHistory.srcHistory_dag_grows steps g0 g ⟨hne, hwf, hac⟩ hok h
  exact ⟨hd.ne, hd.wf, hd.acyclic, hg.extends, hn⟩

-- non-vacuity: a two-step history of translated steps (global, then local) from the chain `ACG` returns
example : (match RbV.Thm.GenSrcPoaHistory.srcHistory (Poa.Model.chainG [65, 67, 71])
      [(exSc, (Poa.Model.minScore, Poa.Model.minScore, Poa.Model.minScore, Poa.Model.minScore), [65, 84, 71]),
       (exSc, (0, 0, 0, 0), [84, 71, 71])] with
    | .ok g => decide (4 ≤ g.labels.length)
    | _ => false) = true := by decide +kernel

/-- **totality of the translated `Poa::add_alignment` on valid operation lists** (hard): non-empty graph whose topological head
is a node, sequence shorter than `2^64`, operation list valid for sequence and graph (`SeqOK`: every consumed position
`seq[i]` exists — `Yclip(_, r)` continues at `r` —, every named node exists), fewer than `2^31 − 1` operations and every edge
weight with room for that many `+ 1`s (the explicit size hypothesis): the translated function **returns**, and returns
`Model.addAlignment`.  Applied to traceback-produced lists in `poa_add_alignment_source_total_on_tracebacks`; not proved: that
`Traceback::alignment` ends within its fuel (a termination argument). -/
theorem poa_add_alignment_source_total_on_valid_lists (g : Poa.Model.G) (aln : Rs.Poa.Alignment) (seq : List Nat)
    (hh : ∃ hd, (Poa.Model.topo g.labels.length g.es).head? = some hd ∧ hd < g.labels.length) (hn : seq.length < 2 ^ 64)
    (hK : (aln.operations.length : Int) < 2147483647)
    (hw : ∀ e ∈ g.es, -2147483648 ≤ e.2.2 ∧ e.2.2 + (aln.operations.length : Int) ≤ 2147483647)
    (hs : RbV.Thm.GenSrcPoaAdd.SeqOK seq.length g.labels.length 0 aln.operations) :
    RbV.Gen.SrcPoaAdd.add_alignment g aln seq = Rs.Res.ok (Poa.Model.addAlignment g aln.operations seq) :=
  RbV.Thm.GenSrcPoaAdd.add_alignment_total g aln seq hh hn hK hw hs

example : RbV.Thm.GenSrcPoaAdd.SeqOK 3 3 0 [.m none, .m (some (0, 1)), .m (some (1, 2))] :=
  ⟨by decide, by decide, by decide, by decide, by decide, trivial⟩

/-- **the translated `add_alignment` does not panic on traceback-produced lists** (hard, tie-independent): non-empty well-formed
DAG, any scoring / clip penalties (= any `custom`-based mode), non-empty query, sizes below `2^64 − 1`, `customTableC ≠ none`.
For the table `tb` the translated `custom` returns and *any* list the translated `Traceback::alignment` returns from it, the
translated `add_alignment` **returns** `Model.addAlignment` — provided the edge weights have room for one `+ 1` per operation (the
explicit size hypothesis).  Column tracking (`traceF_seqOK`): a consuming operation emitted in column `j` consumes `seq[j − 1]`
because column 0 holds nothing consuming, a `Yclip(c, d)` stored in column `j` has `c ≤ j` and `d = j`, and a
`Match(Some((_, p)))` only occurs in an existing row (`tb.matrix.length = node_count + 1`).  So
`poa_add_alignment_source_total_on_valid_lists` applies to every step of a history; what is still open for "the step returns" is only
that `Traceback::alignment` ends within the fuel of the translation spec (a termination argument). -/
theorem poa_add_alignment_source_total_on_tracebacks (sc : Sc) (xp xs yp ys : Int) (g : Poa.Model.G) (q : List Nat)
    (t : Poa.Model.BTable) (tb : Rs.Poa.Traceback) (aln : Rs.Poa.Alignment)
    (hne : g.labels ≠ []) (hwf : ∀ e ∈ g.es, e.1 < g.labels.length ∧ e.2.1 < g.labels.length)
    (hac : ∀ v, ¬ Reach (plain g.es) v v)
    (hm : g.labels.length + 1 < 2 ^ 64) (hn : q.length + 1 < 2 ^ 64) (hq : 0 < q.length)
    (hC : Poa.Model.customTableC sc xp xs yp ys g.labels g.es q = some t)
    (hcu : RbV.Gen.SrcPoaAlign.custom sc.w g sc.gap xp xs yp ys q = Rs.Res.ok tb)
    (hal : RbV.Gen.SrcPoaAlign.Traceback_alignment tb = Rs.Res.ok aln)
    (hK : (aln.operations.length : Int) < 2147483647)
    (hw : ∀ e ∈ g.es, -2147483648 ≤ e.2.2 ∧ e.2.2 + (aln.operations.length : Int) ≤ 2147483647) :
    RbV.Gen.SrcPoaAdd.add_alignment g aln q = Rs.Res.ok (Poa.Model.addAlignment g aln.operations q) :=
  RbV.Thm.GenSrcPoaHistory.step_add_total sc xp xs yp ys g q t tb aln ⟨hne, hwf, hac⟩ hm hn hC hcu hal hK hw

/-- **`Traceback::get` as translated = `BRow.get` of the mirror** on every row that represents a model row (`RowRep`: same
band, cells equal up to the `MIN_SCORE` padding `new_row` allocates), with its three out-of-band answers -/
theorem poa_traceback_get_source_eq_model (tb : Rs.Poa.Traceback) (i j : Nat) (rr : List Poa.Model.Cell × Nat × Nat)
    (br : Poa.Model.BRow) (h : tb.matrix[i]? = some rr) (hr : RbV.Thm.GenSrcPoaAlign.RowRep rr br) :
    RbV.Gen.SrcPoaAlign.Traceback_get tb i j = Rs.Res.ok (br.get j) :=
  RbV.Thm.GenSrcPoaAlign.get_eq tb i j rr br h hr

/-- **`with_capacity` + `initialize_scores` as translated = row 0 of the checked-`i32` mirror** (`bRow0C`): no checked
operation fails when the mirror's do not; `m + 1` rows, all but row 0 empty with the band `[0, n + 1)` -/
theorem poa_traceback_init_source_eq_model (m n : Nat) (gap yclip : Int) (r0 : Poa.Model.BRow)
    (h : Poa.Model.bRow0C gap yclip n = some r0) (hn : n + 1 < 2 ^ 64) (hm : m + 1 < 2 ^ 64) :
    (do let tb ← RbV.Gen.SrcPoaAlign.Traceback_with_capacity m n
        RbV.Gen.SrcPoaAlign.Traceback_initialize_scores tb gap yclip) =
      Rs.Res.ok { rows := m, cols := n, last := 0, matrix := (r0.cells, 0, n + 1) :: List.replicate m ([], 0, n + 1) } :=
  RbV.Thm.GenSrcPoaAlign.init_eq m n gap yclip r0 h hn hm

/-- **`new_row` and `set` as translated**: a fresh row becomes `first cell :: size × MIN_SCORE` with the band `[start, end)`
(first cell = `max(Del(None) (row as i32)·gap, Xclip(0))` at the edge — `edgeCellC` of the mirror —, `MIN_SCORE` otherwise);
`set` inside `[start, stop]` overwrites position `j - start` -/
theorem poa_traceback_new_row_set_source_eq_model (tb : Rs.Poa.Traceback) (row size : Nat) (gap xclip : Int)
    (start end_ s0 e0 : Nat) (h : tb.matrix[row]? = some ([], s0, e0)) (c0 : Poa.Model.Cell)
    (hc : (if start = 0 then (I32.mul gap (I32.ofUsize row)).map
        (fun g => Poa.Model.cmax ⟨g, .d none⟩ ⟨xclip, .x 0⟩) else some Poa.Model.mcell) = some c0) :
    RbV.Gen.SrcPoaAlign.Traceback_new_row tb row size gap xclip start end_ =
      Rs.Res.ok { tb with matrix := tb.matrix.set row (c0 :: List.replicate size Poa.Model.mcell, start, end_) } ∧
    ∀ (i j : Nat) (cell : Poa.Model.Cell) (cs : List Poa.Model.Cell) (s e : Nat), tb.matrix[i]? = some (cs, s, e) →
      s ≤ j → j ≤ e → j - s < cs.length →
      RbV.Gen.SrcPoaAlign.Traceback_set tb i j cell = Rs.Res.ok { tb with matrix := tb.matrix.set i (cs.set (j - s) cell, s, e) } :=
  ⟨RbV.Thm.GenSrcPoaAlign.new_row_eq tb row size gap xclip start end_ s0 e0 h c0 hc,
   fun i j cell cs s e h1 h2 h3 h4 => RbV.Thm.GenSrcPoaAlign.set_eq tb i j cell cs s e h1 h2 h3 h4⟩

-- non-vacuity of `poa_global_source_exact_linear`: its envelope and sentinel hypotheses hold for a concrete scheme
example : Poa.Model.PoaEnv exSc Poa.Model.minScore Poa.Model.minScore Poa.Model.minScore Poa.Model.minScore [65, 67, 71] [65, 84, 71] 1 :=
  ⟨by decide, by decide, by decide, by decide, by decide, by decide, by decide, by decide, by decide, by decide, by decide⟩
example : Poa.Model.minScore < ((3 + 3 + 1 : Nat) : Int) * exSc.gap - (3 : Int) * 1 ∧ ∀ a b, exSc.w a b ≤ 1 :=
  ⟨by decide, fun a b => by unfold exSc; simp only; split <;> omega⟩
-- non-vacuity: the translated functions run (no panic) on a concrete DAG; the addition creates the mismatch node
example : (match RbV.Gen.SrcPoaAdd.add_alignment { labels := [65, 67, 71], es := [(0, 1, 1), (1, 2, 1)] }
      ⟨1, [.m none, .m (some (0, 1)), .m (some (1, 2))]⟩ [65, 84, 71] with
    | .ok g => some (g.labels, g.es)
    | _ => none) = some ([65, 67, 71, 84], [(0, 1, 1), (1, 2, 1), (0, 3, 1), (3, 2, 1)]) := by decide
example : (match (RbV.Gen.SrcPoaAlign.custom exSc.w { labels := [65, 67, 71], es := [(0, 1, 1), (1, 2, 1)] } exSc.gap
      Poa.Model.minScore Poa.Model.minScore Poa.Model.minScore Poa.Model.minScore [65, 84, 71]) >>=
      RbV.Gen.SrcPoaAlign.Traceback_alignment with
    | .ok a => some (a.score, a.operations)
    | _ => none) = some (1, [.m none, .m (some (0, 1)), .m (some (1, 2))]) := by decide +kernel

end RbV.Thm.C16
