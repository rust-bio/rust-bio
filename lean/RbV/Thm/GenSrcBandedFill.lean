import RbV.Gen.SrcBandedFill
import RbV.Lemmas.BandedDP
/-!
The main-loop cell of `banded::Aligner::compute_alignment`, tied to the source text (`RbV/Gen/SrcBandedFill.lean`: the statements
`for j in 1..=n { … }` translated by `tools/rs2lean_genband.py`; every `if` statement directly in a loop body is a named helper
`fillColumns_for<l>_if<k>` (numbered per loop body)).  **Level of the statements** (what the property determines): the *values* the candidate chains compute are
those of the mirror `Model.BandedDP.cellStep` (`pickI`, `pickD`, `pickS`), and the move a chain records *explains* its value
(the recorded code names a candidate whose score is the value).  Which of several equally good candidates is recorded — the
tie-breaks `>` / `>=` of the text — is **not** part of the statements: every step lemma takes whatever test the text has (read off
the helper, or split) and closes with `omega`, so seeded C02-H2 (`m_score >= best_s_score`) re-proves.  Restated in `RbV/Thm/C02.lean`.
-/
namespace RbV.Thm.GenSrcBandedFill
open RbV RbV.Gen RbV.Rs RbV.Rs.Res RbV.Align RbV.Gen.TbCodes RbV.Gen.SrcBandedFill
open RbV.Model.BandedDP (pickI pickD pickS cellStep)

/-- the translated `TracebackCell`: its three 4-bit fields as a triple (I field, D field, S field), read by `fI`, `fD`, `fS` -/
abbrev Cell := Nat × Nat × Nat

/-- **one candidate step of a layer**: the helper returns the better of the candidate and the current best (whatever it does on
a tie), leaves the two other fields of the cell alone, and either keeps the field and the value, or records a code satisfying
`code` together with the candidate's score -/
def Step (fld : Cell → Nat) (o1 o2 : Cell → Nat) (cand : Int) (code : Nat → Prop) (tb : Cell) (b : Int) (r : Res (Cell × Int)) : Prop :=
  ∃ tb' v, r = ok (tb', v) ∧ v = max cand b ∧ o1 tb' = o1 tb ∧ o2 tb' = o2 tb ∧
    ((fld tb' = fld tb ∧ v = b) ∨ (code (fld tb') ∧ v = cand))

def fS (c : Cell) : Nat := c.2.2
def fI (c : Cell) : Nat := c.1
def fD (c : Cell) : Nat := c.2.1

/-- an S-layer candidate of the text, `if <test> { best = cand; tb.set_s_bits(c) }`, for whatever test `t` the text has (`>`, `>=`):
taking the candidate means it was at least as good, leaving it means it was not better -/
theorem step_S {cand : Int} {code : Nat → Prop} {tb : Cell} {b : Int} {r : Res (Cell × Int)} {t : Prop} [Decidable t] (c : Nat)
    (hc : code c)
    (hr : r = (do
      let (tb', b') ← (if decide t then pure ((tb.1, tb.2.1, c), cand) else pure (tb, b))
      pure (tb', b')))
    (h1 : t → b ≤ cand) (h2 : ¬ t → cand ≤ b) : Step fS fI fD cand code tb b r := by
  subst hr
  by_cases h : t
  · rw [decide_eq_true h]
    exact ⟨_, _, rfl, (Int.max_eq_left (h1 h)).symm, rfl, rfl, Or.inr ⟨hc, rfl⟩⟩
  · rw [decide_eq_false h]
    exact ⟨_, _, rfl, (Int.max_eq_right (h2 h)).symm, rfl, rfl, Or.inl ⟨rfl, rfl⟩⟩

section
variable {Tbm : Type} (matchFn : Nat → Nat → Int) (tbGet : Tbm → Nat → Nat → Cell) (tbSet : Tbm → Nat → Nat → Cell → Tbm)

-- the test of each helper is read off its text (`rfl`), so a change of the tie-break re-proves
theorem sMatch_step (q p : Nat) (ms : Int) (tb : Cell) (b : Int) :
    Step fS fI fD ms (fun c => c = tbMatch ∨ c = tbSubst) tb b (fillColumns_for3_if5 matchFn tbGet tbSet q p ms (tb, b)) :=
  step_S (if p == q then tbMatch else tbSubst) (by cases p == q; exact Or.inr rfl; exact Or.inl rfl) rfl
    (fun h => by omega) (fun h => by omega)
theorem sIns_step (bi : Int) (tb : Cell) (b : Int) :
    Step fS fI fD bi (· = tbIns) tb b (fillColumns_for3_if6 matchFn tbGet tbSet bi (tb, b)) :=
  step_S tbIns rfl rfl (fun h => by omega) (fun h => by omega)
theorem sDel_step (bd : Int) (tb : Cell) (b : Int) :
    Step fS fI fD bd (· = tbDel) tb b (fillColumns_for3_if7 matchFn tbGet tbSet bd (tb, b)) :=
  step_S tbDel rfl rfl (fun h => by omega) (fun h => by omega)
theorem sXpre_step (xc : Int) (tb : Cell) (b : Int) :
    Step fS fI fD xc (· = tbXclipPrefix) tb b (fillColumns_for3_if8 matchFn tbGet tbSet xc (tb, b)) :=
  step_S tbXclipPrefix rfl rfl (fun h => by omega) (fun h => by omega)
theorem sYpre_step (yc : Int) (tb : Cell) (b : Int) :
    Step fS fI fD yc (· = tbYclipPrefix) tb b (fillColumns_for3_if9 matchFn tbGet tbSet yc (tb, b)) :=
  step_S tbYclipPrefix rfl rfl (fun h => by omega) (fun h => by omega)

/-- the I layer: extend the insertion above or open one after `S[curr][i-1]` (the I field then copies the S field of `(i-1, j)`) -/
theorem iLayer_step (self : _) (j i : Nat) (iS sS : Int) (tb : Cell) (b : Int) (hi : 1 ≤ i) :
    ∃ tb' v, fillColumns_for3_if1 matchFn tbGet tbSet self j i iS sS (tb, b) = ok (tb', v) ∧ v = max iS sS ∧
      fD tb' = fD tb ∧ fS tb' = fS tb ∧
      ((fI tb' = tbIns ∧ v = iS) ∨ (fI tb' = fS (tbGet self.2.2.2.2.2.2.1 (i - 1) j) ∧ v = sS)) := by
  unfold fillColumns_for3_if1
  simp only [Rs.sub_ok hi, ok_bind]
  -- whichever branch comes first in the text
  split <;> rename_i h <;> simp only [decide_eq_true_eq] at h <;> refine ⟨_, _, rfl, by omega, rfl, rfl, ?_⟩ <;>
    first | exact Or.inl ⟨rfl, rfl⟩ | exact Or.inr ⟨rfl, rfl⟩

/-- the `j == n` candidate of the I layer is not taken before the last column -/
theorem iClip_skip (self : _) (n j i : Nat) (tb : Cell) (b : Int) (hj : j ≠ n) :
    fillColumns_for3_if2 matchFn tbGet tbSet self n j i (tb, b) = ok (tb, b) := by
  unfold fillColumns_for3_if2
  simp [hj]

theorem dLayer_step (self : _) (j i : Nat) (sS dS : Int) (tb : Cell) (b : Int) (hj : 1 ≤ j) :
    ∃ tb' v, fillColumns_for3_if3 matchFn tbGet tbSet self j i sS dS (tb, b) = ok (tb', v) ∧ v = max dS sS ∧
      fI tb' = fI tb ∧ fS tb' = fS tb ∧
      ((fD tb' = tbDel ∧ v = dS) ∨ (fD tb' = fS (tbGet self.2.2.2.2.2.2.1 i (j - 1)) ∧ v = sS)) := by
  unfold fillColumns_for3_if3
  simp only [Rs.sub_ok hj, ok_bind]
  -- whichever branch comes first in the text
  split <;> rename_i h <;> simp only [decide_eq_true_eq] at h <;> refine ⟨_, _, rfl, by omega, rfl, rfl, ?_⟩ <;>
    first | exact Or.inl ⟨rfl, rfl⟩ | exact Or.inr ⟨rfl, rfl⟩

/-- what the S field `f` and the value `v` say after the S-layer candidates `cs` (latest first), starting from field `f0` and
value `base`: no candidate was taken, or `f` is the code of one of them whose score is `v` -/
def Expl (f0 : Nat) (base : Int) : List ((Nat → Prop) × Int) → Nat → Int → Prop
  | [], f, v => f = f0 ∧ v = base
  | (code, c) :: cs, f, v => Expl f0 base cs f v ∨ (code f ∧ v = c)

theorem Step.expl {cand : Int} {code : Nat → Prop} {tb : Cell} {b : Int} {r : Res (Cell × Int)} {f0 : Nat} {base : Int}
    {cs : List ((Nat → Prop) × Int)} (h : Step fS fI fD cand code tb b r) (hE : Expl f0 base cs (fS tb) b) :
    ∃ tb' v, r = ok (tb', v) ∧ v = max cand b ∧ fI tb' = fI tb ∧ fD tb' = fD tb ∧ Expl f0 base ((code, cand) :: cs) (fS tb') v := by
  obtain ⟨tb', v, e, hv, hi, hd, x⟩ := h
  refine ⟨tb', v, e, hv, hi, hd, ?_⟩
  rcases x with ⟨f, w⟩ | n
  · rw [f, w]; exact Or.inl hE
  · exact Or.inr n

/-- **the S layer of one cell**: the five candidate steps of the translated text, run one after the other from `S[curr][i]`
(`base`), return the mirror's `best_s_score`, and the S field they leave behind *explains* it: either no candidate was taken
(field untouched, value `base`), or the field holds the code of a candidate whose score is the value.  Tie-break agnostic. -/
theorem s_chain_eq_model (q p : Nat) (isM eq : Bool) (ms base bi bd xc yc : Int) (tb : Cell) :
    ∃ tb' v,
      (fillColumns_for3_if5 matchFn tbGet tbSet q p ms (tb, base) >>= fun s =>
       fillColumns_for3_if6 matchFn tbGet tbSet bi s >>= fun s =>
       fillColumns_for3_if7 matchFn tbGet tbSet bd s >>= fun s =>
       fillColumns_for3_if8 matchFn tbGet tbSet xc s >>= fun s =>
       fillColumns_for3_if9 matchFn tbGet tbSet yc s) = ok (tb', v) ∧
      v = (pickS isM eq ms base bi bd xc yc).1 ∧ fI tb' = fI tb ∧ fD tb' = fD tb ∧
      ((fS tb' = fS tb ∧ v = base) ∨ ((fS tb' = tbMatch ∨ fS tb' = tbSubst) ∧ v = ms) ∨ (fS tb' = tbIns ∧ v = bi) ∨
       (fS tb' = tbDel ∧ v = bd) ∨ (fS tb' = tbXclipPrefix ∧ v = xc) ∨ (fS tb' = tbYclipPrefix ∧ v = yc)) := by
  obtain ⟨t1, v1, e1, hv1, i1, d1, x1⟩ := (sMatch_step matchFn tbGet tbSet q p ms tb base).expl (cs := []) ⟨rfl, rfl⟩
  obtain ⟨t2, v2, e2, hv2, i2, d2, x2⟩ := (sIns_step matchFn tbGet tbSet bi t1 v1).expl x1
  obtain ⟨t3, v3, e3, hv3, i3, d3, x3⟩ := (sDel_step matchFn tbGet tbSet bd t2 v2).expl x2
  obtain ⟨t4, v4, e4, hv4, i4, d4, x4⟩ := (sXpre_step matchFn tbGet tbSet xc t3 v3).expl x3
  obtain ⟨t5, v5, e5, hv5, i5, d5, x5⟩ := (sYpre_step matchFn tbGet tbSet yc t4 v4).expl x4
  refine ⟨t5, v5, by simp only [e1, e2, e3, e4, e5, ok_bind], ?_, ?_, ?_, ?_⟩
  · rw [pickS_val, hv5, hv4, hv3, hv2, hv1]
  · rw [i5, i4, i3, i2, i1]
  · rw [d5, d4, d3, d2, d1]
  · simpa only [Expl, or_assoc] using x5

/-- **The three candidate chains of one main-loop cell (columns `j < n`) compute the mirror's cell values.**  Fed with the scores
the loop body forms from what it reads (`i_score = I[curr][i-1] + ge`, `s_score = S[curr][i-1] + go + ge`, `d_score = D[prev][i] +
ge`, `s_score' = S[prev][i] + gox + ge`, `m_score = S[prev][i-1] + w`), the translated helpers of the I layer (`fillColumns_for3_if1`, `_if2`), the D
layer (`_if3`) and the S layer (`_if5 … _if9`) return `best_i_score`, `best_d_score`, `best_s_score` = the fields `i`, `d`, `s` of
`cellStep`, whatever the tie-breaks of the text are; and each recorded field explains its value. -/
theorem cell_values_eq_model (self : _) (sc : Sc) (isM eq : Bool) (n j i q p : Nat) (hi : 1 ≤ i) (hj : 1 ≤ j) (hjn : j ≠ n)
    (w sDiag iUp sUp dLeft sLeft base gox xclip yclip : Int) (tsUp tsLeft : RbV.Model.PairwiseFill.Tb) (tb : Cell) (b0 b1 : Int) :
    let c := cellStep sc isM eq w sDiag iUp sUp dLeft sLeft base tsUp tsLeft none gox xclip yclip
    ∃ tbI tbD tbS,
      (fillColumns_for3_if1 matchFn tbGet tbSet self j i (iUp + sc.ge) (sUp + sc.go + sc.ge) (tb, b0) >>= fun s =>
        fillColumns_for3_if2 matchFn tbGet tbSet self n j i s) = ok (tbI, c.i) ∧
      fillColumns_for3_if3 matchFn tbGet tbSet self j i (sLeft + gox + sc.ge) (dLeft + sc.ge) (tbI, b1) = ok (tbD, c.d) ∧
      (fillColumns_for3_if5 matchFn tbGet tbSet q p (sDiag + w) (tbD, base) >>= fun s =>
       fillColumns_for3_if6 matchFn tbGet tbSet c.i s >>= fun s =>
       fillColumns_for3_if7 matchFn tbGet tbSet c.d s >>= fun s =>
       fillColumns_for3_if8 matchFn tbGet tbSet xclip s >>= fun s =>
       fillColumns_for3_if9 matchFn tbGet tbSet yclip s) = ok (tbS, c.s) ∧
      ((fI tbS = tbIns ∧ c.i = iUp + sc.ge) ∨ (fI tbS = fS (tbGet self.2.2.2.2.2.2.1 (i - 1) j) ∧ c.i = sUp + sc.go + sc.ge)) ∧
      ((fD tbS = tbDel ∧ c.d = dLeft + sc.ge) ∨ (fD tbS = fS (tbGet self.2.2.2.2.2.2.1 i (j - 1)) ∧ c.d = sLeft + gox + sc.ge)) ∧
      ((fS tbS = fS tb ∧ c.s = base) ∨ ((fS tbS = tbMatch ∨ fS tbS = tbSubst) ∧ c.s = sDiag + w) ∨ (fS tbS = tbIns ∧ c.s = c.i) ∨
       (fS tbS = tbDel ∧ c.s = c.d) ∨ (fS tbS = tbXclipPrefix ∧ c.s = xclip) ∨ (fS tbS = tbYclipPrefix ∧ c.s = yclip)) := by
  intro c
  obtain ⟨tI, vI, eI, hvI, dI, sI, xI⟩ := iLayer_step matchFn tbGet tbSet self j i (iUp + sc.ge) (sUp + sc.go + sc.ge) tb b0 hi
  obtain ⟨tD, vD, eD, hvD, iD, sD, xD⟩ := dLayer_step matchFn tbGet tbSet self j i (sLeft + gox + sc.ge) (dLeft + sc.ge) tI b1 hj
  obtain ⟨tS, vS, eS, hvS, iS, dS, xS⟩ := s_chain_eq_model matchFn tbGet tbSet q p isM eq (sDiag + w) base c.i c.d xclip yclip tD
  have evI : vI = c.i := hvI.trans (pickI_val sc iUp sUp tsUp none).symm
  have evD : vD = c.d := hvD.trans (pickD_val sc dLeft sLeft gox tsLeft).symm
  have evS : vS = c.s := hvS
  subst evI evD evS
  refine ⟨tI, tD, tS, ?_, eD, eS, ?_, ?_, ?_⟩
  · rw [eI]; exact iClip_skip matchFn tbGet tbSet self n j i tI _ hjn
  · rw [iS, iD]; exact xI
  · rw [dS]; exact xD
  · rw [sD, sI] at xS; exact xS

end
end RbV.Thm.GenSrcBandedFill
