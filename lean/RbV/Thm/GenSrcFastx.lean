import RbV.Gen.SrcFastx
import RbV.Model.Fastq
/-!
# The translated sniffer `fastx::get_kind_detailed` / `get_kind` / `get_kind_seek` (`RbV/Gen/SrcFastx.lean`) against the model
`sniff` (C11)

The source `R: Read` is known through `read_exact(&mut [u8; 1])`, `seek(SeekFrom::Current(d))` and — for the reader that is
handed back — `io::Cursor::new(buf).chain(reader)`.  Instantiation (trusted reading of std): a source is the list of the bytes
it has not delivered yet (`get_kind`) resp. the file and a position (`get_kind_seek`); `read_exact` takes `buf.len()` bytes or
fails with `UnexpectedEof`; the chain of a cursor over `buf` and a source delivers `buf ++ source`.
-/
set_option linter.unusedSimpArgs false
namespace RbV.Thm.GenSrcFastx
open RbV RbV.Rs RbV.Fastx

def eofErr : IoErr := ⟨"UnexpectedEof", "failed to fill whole buffer"⟩

/-- the error for a first byte that is neither `>` nor `@` -/
def illegalStart (b : Nat) : IoErr :=
  IoErr.mk "InvalidData" (Rs.format "Not a valid FASTA/FASTQ, illegal start character '{}'" [b])

/-- `Read::read_exact(&mut buf)` on a source given by its pending bytes -/
def readExactOp (s : Bytes) (buf : Bytes) : Except IoErr Unit × Bytes × Bytes :=
  if buf.length ≤ s.length then (.ok (), s.drop buf.length, s.take buf.length) else (.error eofErr, [], buf)

/-- `io::Cursor::new(buf).chain(reader)` -/
def chainOp (buf : Bytes) (s : Bytes) : Bytes := buf ++ s

/-! ## `get_kind` -/

/-- the `Kind` of the generated file for the model's -/
def toKind : Fastx.Kind → Gen.SrcFastx.Kind
  | .fasta => Gen.SrcFastx.Kind.FASTA
  | .fastq => Gen.SrcFastx.Kind.FASTQ

/-- what the sniffer answers on a source holding `file` -/
def sniffRes (file : Bytes) : Except IoErr Gen.SrcFastx.Kind :=
  match file with
  | [] => .error eofErr
  | b :: _ => match sniff file with
    | some k => .ok (toKind k)
    | none => .error (illegalStart b)

/-- the first byte decides -/
theorem sniff_cons (b : Nat) (r : Bytes) :
    (b = 62 ∧ sniff (b :: r) = some .fasta) ∨ (b = 64 ∧ sniff (b :: r) = some .fastq) ∨
      (b ≠ 62 ∧ b ≠ 64 ∧ sniff (b :: r) = none) := by
  by_cases h62 : b = 62
  · exact .inl ⟨h62, h62 ▸ rfl⟩
  · by_cases h64 : b = 64
    · exact .inr (.inl ⟨h64, h64 ▸ rfl⟩)
    · refine .inr (.inr ⟨h62, h64, ?_⟩)
      unfold sniff
      split <;> simp_all

/-- **`get_kind_detailed`**: at end of input the reader comes back with the `read_exact` error; otherwise the chained reader
delivers exactly the bytes of the original source again, together with the verdict on the first byte -/
theorem getKindDetailed_eq_model (file : Bytes) :
    Gen.SrcFastx.getKindDetailed readExactOp chainOp file =
      Res.ok (match file with
        | [] => .error ([], eofErr)
        | _ :: _ => .ok (file, sniffRes file)) := by
  cases file with
  | nil => simp [Gen.SrcFastx.getKindDetailed, readExactOp]
  | cons b r =>
    rcases sniff_cons b r with ⟨rfl, hs⟩ | ⟨rfl, hs⟩ | ⟨h62, h64, hs⟩
    · simp [Gen.SrcFastx.getKindDetailed, readExactOp, chainOp, Rs.idx, sniffRes, hs, toKind]
    · simp [Gen.SrcFastx.getKindDetailed, readExactOp, chainOp, Rs.idx, sniffRes, hs, toKind]
    · simp only [Gen.SrcFastx.getKindDetailed, readExactOp, chainOp, Rs.idx, sniffRes, hs, illegalStart, List.length_cons,
        List.length_nil, Nat.le_add_left, if_true, Res.pure_eq_ok, Res.ok_bind, List.drop_succ_cons, List.drop_zero,
        List.take_succ_cons, List.take_zero, List.getElem?_cons_zero, List.cons_append, List.nil_append]
      first | done | (split <;> simp_all)

/-- **`get_kind`**: `Ok((chained reader, kind))` with the chained reader delivering the whole original input again, or the
error (`UnexpectedEof` on empty input, `InvalidData` for an illegal start character) -/
theorem getKind_eq_model (file : Bytes) :
    Gen.SrcFastx.getKind readExactOp chainOp file =
      Res.ok (match sniffRes file with
        | .ok k => .ok (file, k)
        | .error e => .error e) := by
  rw [Gen.SrcFastx.getKind, getKindDetailed_eq_model]
  cases file with
  | nil => simp [sniffRes]
  | cons b r => cases h : sniffRes (b :: r) <;> simp [h]

/-- the verdict of `get_kind` is the model's `sniff` -/
theorem sniff_of_getKind {file : Bytes} {k : Fastx.Kind}
    (h : Gen.SrcFastx.getKind readExactOp chainOp file = Res.ok (.ok (file, toKind k))) : sniff file = some k := by
  rw [getKind_eq_model] at h
  cases file with
  | nil => simp [sniffRes] at h
  | cons b r =>
    cases hs : sniff (b :: r) with
    | none => simp [sniffRes, hs] at h
    | some k' => cases k <;> cases k' <;> simp_all [sniffRes, toKind]

/-! ## `get_kind_seek` -/

/-- `read_exact` on a seekable source: the file and the position -/
def readExactAt (s : Bytes × Nat) (buf : Bytes) : Except IoErr Unit × (Bytes × Nat) × Bytes :=
  if s.2 + buf.length ≤ s.1.length then (.ok (), (s.1, s.2 + buf.length), (s.1.drop s.2).take buf.length)
  else (.error eofErr, (s.1, s.1.length), buf)

/-- `seek(SeekFrom::Current(d))` (never fails on positions that stay ≥ 0) -/
def seekCurOp (s : Bytes × Nat) (d : Int) : Except IoErr Nat × (Bytes × Nat) :=
  (.ok ((s.2 : Int) + d).toNat, (s.1, ((s.2 : Int) + d).toNat))

/-- **`get_kind_seek`** on a non-empty source at position 0: the verdict on the first byte, position unchanged -/
theorem getKindSeek_eq_model (b : Nat) (r : Bytes) :
    Gen.SrcFastx.getKindSeek readExactAt seekCurOp (b :: r, 0) = Res.ok (sniffRes (b :: r), (b :: r, 0)) := by
  rcases sniff_cons b r with ⟨rfl, hs⟩ | ⟨rfl, hs⟩ | ⟨h62, h64, hs⟩
  · simp [Gen.SrcFastx.getKindSeek, readExactAt, seekCurOp, Rs.idx, sniffRes, hs, toKind]
  · simp [Gen.SrcFastx.getKindSeek, readExactAt, seekCurOp, Rs.idx, sniffRes, hs, toKind]
  · simp only [Gen.SrcFastx.getKindSeek, readExactAt, seekCurOp, Rs.idx, sniffRes, hs, illegalStart, List.length_cons,
      List.length_nil, Nat.zero_add, Nat.le_add_left, if_true, Res.pure_eq_ok, Res.ok_bind, List.drop_zero,
      List.take_succ_cons, List.take_zero, List.getElem?_cons_zero]
    first | done | rfl | (split <;> simp_all) | simp

/-- … and on an empty source: `UnexpectedEof` -/
theorem getKindSeek_empty :
    ∃ s, Gen.SrcFastx.getKindSeek readExactAt seekCurOp ([], 0) = Res.ok (.error eofErr, s) := by
  exact ⟨([], 0), by simp [Gen.SrcFastx.getKindSeek, readExactAt]⟩

/-! ## `EitherRecords::initialize`, `kind` -/

/-- the state of `EitherRecords` after sniffing a source that holds `file`, and what `kind()` answers: at end of input no
iterator ("Data is empty"); otherwise the iterator of the sniffed format over the chained reader — which delivers `file`
again —, or the `InvalidData` error of an illegal start character (the reader is gone then).  `fa` / `fq` stand for
`fasta::Reader::new(chain).records()` / `fastq::Reader::new(chain).records()`. -/
def eitherAfter {α β : Type} (fa : Bytes → α) (fq : Bytes → β) (file : Bytes) :
    Except IoErr Gen.SrcFastx.Kind × Option (α ⊕ β) :=
  match file with
  | [] => (.error ⟨"UnexpectedEof", "Data is empty"⟩, none)
  | b :: _ => match sniff file with
    | some .fasta => (.ok Gen.SrcFastx.Kind.FASTA, some (.inl (fa file)))
    | some .fastq => (.ok Gen.SrcFastx.Kind.FASTQ, some (.inr (fq file)))
    | none => (.error (illegalStart b), none)

theorem eitherAfter_fasta {α β : Type} (fa : Bytes → α) (fq : Bytes → β) {file : Bytes} (h : sniff file = some .fasta) :
    (eitherAfter fa fq file).2 = some (.inl (fa file)) := by
  cases file with
  | nil => simp [sniff] at h
  | cons b r => simp [eitherAfter, h]

theorem eitherAfter_fastq {α β : Type} (fa : Bytes → α) (fq : Bytes → β) {file : Bytes} (h : sniff file = some .fastq) :
    (eitherAfter fa fq file).2 = some (.inr (fq file)) := by
  cases file with
  | nil => simp [sniff] at h
  | cons b r => simp [eitherAfter, h]

/-- **`EitherRecords::initialize`** on a fresh object (`records: None, reader: Some(source)`) -/
theorem eitherInitialize_eq_model {α β : Type} (fa : Bytes → α) (fq : Bytes → β) (file : Bytes) :
    Gen.SrcFastx.eitherInitialize readExactOp chainOp fa fq none (some file) =
      Res.ok ((match (eitherAfter fa fq file).1, file with
                | .error e, _ :: _ => .error e
                | _, _ => .ok ()), (eitherAfter fa fq file).2, none) := by
  have hk : eofErr.kind = "UnexpectedEof" := rfl
  cases file with
  | nil => simp [Gen.SrcFastx.eitherInitialize, getKind_eq_model, sniffRes, eitherAfter, hk]
  | cons b r =>
    -- `sniffRes` and `eitherAfter` both depend on the input through `sniff` only
    cases hs : sniff (b :: r) with
    | some k => cases k <;> simp [Gen.SrcFastx.eitherInitialize, getKind_eq_model, sniffRes, eitherAfter, hs, toKind]
    | none =>
      have hi : ((illegalStart b).kind == "UnexpectedEof") = false := by simp [illegalStart]
      have hi' : ¬ (illegalStart b).kind = "UnexpectedEof" := by simp [illegalStart]
      simp [Gen.SrcFastx.eitherInitialize, getKind_eq_model, sniffRes, eitherAfter, hs, hi, hi']

/-- … and once the reader has been taken (`reader: None`), `initialize` does nothing -/
theorem eitherInitialize_again {α β : Type} (fa : Bytes → α) (fq : Bytes → β) (recs : Option (α ⊕ β)) :
    Gen.SrcFastx.eitherInitialize readExactOp chainOp fa fq recs none = Res.ok (.ok (), recs, none) := by
  simp [Gen.SrcFastx.eitherInitialize]

/-- **`EitherRecords::kind`** on a fresh object: the verdict of `sniff`, and the object now holds the iterator of that format
over a reader that delivers the whole input again -/
theorem eitherKind_eq_model {α β : Type} (fa : Bytes → α) (fq : Bytes → β) (file : Bytes) :
    Gen.SrcFastx.eitherKind readExactOp chainOp fa fq none (some file) =
      Res.ok ((eitherAfter fa fq file).1, (eitherAfter fa fq file).2, none) := by
  rw [Gen.SrcFastx.eitherKind, eitherInitialize_eq_model]
  cases file with
  | nil => simp [eitherAfter]
  | cons b r =>
    cases hs : sniff (b :: r) with
    | some k => cases k <;> simp [eitherAfter, hs]
    | none => simp [eitherAfter, hs]

/-! ## `EitherRecords::next` -/

/-- how `next` wraps an item of the FASTA iterator: `Ok(r)` ↦ `Ok(EitherRecord::FASTA(r))`, `Err(e)` ↦ `Err(Error::IO(e))` -/
def wrapFa {γ δ ε : Type} (x : Except IoErr γ) : Except (IoErr ⊕ ε) (γ ⊕ δ) := (x.map Sum.inl).mapError Sum.inl
/-- … of the FASTQ iterator: `Ok(EitherRecord::FASTQ(r))`, `Err(Error::FASTQ(e))` -/
def wrapFq {γ δ ε : Type} (x : Except ε δ) : Except (IoErr ⊕ ε) (γ ⊕ δ) := (x.map Sum.inr).mapError Sum.inr

/-- mapping the value and mapping the error of a `Result` commute (the two orders of `.map(..).map_err(..)`) -/
theorem map_mapError_comm {ε ε' α β : Type} (f : α → β) (g : ε → ε') (x : Except ε α) :
    Except.map f (Except.mapError g x) = Except.mapError g (Except.map f x) := by
  cases x <;> rfl

/-- **`EitherRecords::next`** once the reader has been taken: the call is handed to the iterator the object holds (its new
state is written back), the item wrapped; no iterator (empty input / illegal start before) — `None` -/
theorem eitherNext_eq_model {α β γ δ ε : Type} (fa : Bytes → α) (fq : Bytes → β)
    (faN : α → Option (Except IoErr γ) × α) (fqN : β → Option (Except ε δ) × β) (recs : Option (α ⊕ β)) :
    Gen.SrcFastx.eitherNext readExactOp chainOp fa fq faN fqN recs none =
      Res.ok (match recs with
        | some (.inl a) => ((faN a).1.map wrapFa, some (.inl (faN a).2), none)
        | some (.inr b) => ((fqN b).1.map wrapFq, some (.inr (fqN b).2), none)
        | none => (none, none, none)) := by
  rw [Gen.SrcFastx.eitherNext, eitherInitialize_again]
  rcases recs with _ | (a | b) <;> simp [wrapFa, wrapFq, map_mapError_comm] <;> rfl

/-- … and the first call on a fresh object: sniff, then the same dispatch; an illegal start character is reported as the
item `Some(Err(Error::IO(_)))` -/
theorem eitherNext_fresh {α β γ δ ε : Type} (fa : Bytes → α) (fq : Bytes → β)
    (faN : α → Option (Except IoErr γ) × α) (fqN : β → Option (Except ε δ) × β) (file : Bytes) :
    Gen.SrcFastx.eitherNext readExactOp chainOp fa fq faN fqN none (some file) =
      (match file, sniff file with
       | b :: _, none => Res.ok (some (.error (.inl (illegalStart b))), none, none)
       | _, _ => Gen.SrcFastx.eitherNext readExactOp chainOp fa fq faN fqN (eitherAfter fa fq file).2 none) := by
  rw [eitherNext_eq_model]
  rw [Gen.SrcFastx.eitherNext, eitherInitialize_eq_model]
  cases file with
  | nil => simp [eitherAfter, sniff]
  | cons b r =>
    cases hs : sniff (b :: r) with
    | some k => cases k <;> simp [eitherAfter, hs, wrapFa, wrapFq, map_mapError_comm] <;> rfl
    | none => simp [eitherAfter, hs]

/-! ## `EitherRecords` drained -/

/-- an iterator `next` in `Res` as the pure abstract operation `EitherRecords::next` is translated against (where the
translated `next` does not return normally — never, on the inputs of the theorems — the iterator just ends) -/
def totalNext {σ a : Type} (nx : σ → Res (σ × Option a)) (s : σ) : Option a × σ :=
  match nx s with
  | .ok (s', o) => (o, s')
  | _ => (none, s)

/-- `EitherRecords` as an iterator state machine for `Rs.drain`: state = (`records`, `reader`) -/
def eitherSrcNext {α β γ δ ε : Type} (fa : Bytes → α) (fq : Bytes → β)
    (faN : α → Option (Except IoErr γ) × α) (fqN : β → Option (Except ε δ) × β) (st : Option (α ⊕ β) × Option Bytes) :
    Res ((Option (α ⊕ β) × Option Bytes) × Option (Except (IoErr ⊕ ε) (γ ⊕ δ))) := do
  let (o, recs, rd) ← Gen.SrcFastx.eitherNext readExactOp chainOp fa fq faN fqN st.1 st.2
  pure ((recs, rd), o)

/-- draining an initialised `EitherRecords` that holds the FASTA iterator = draining that iterator, items wrapped -/
theorem drain_either_fasta {α β γ δ ε : Type} (fa : Bytes → α) (fq : Bytes → β)
    (nx : α → Res (α × Option (Except IoErr γ))) (fqN : β → Option (Except ε δ) × β) :
    ∀ (n : Nat) (s : α) (items : List (Except IoErr γ)), Rs.drain nx n s = Res.ok items →
      Rs.drain (eitherSrcNext fa fq (totalNext nx) fqN) n (some (.inl s), none) =
        Res.ok (items.map (wrapFa (δ := δ) (ε := ε))) :=
  drain_map nx _ (fun s => (some (Sum.inl s), none)) wrapFa fun s s' r hq => by
    simp [eitherSrcNext, eitherNext_eq_model, totalNext, hq]

/-- … and the FASTQ iterator -/
theorem drain_either_fastq {α β γ δ ε : Type} (fa : Bytes → α) (fq : Bytes → β)
    (faN : α → Option (Except IoErr γ) × α) (nx : β → Res (β × Option (Except ε δ))) :
    ∀ (n : Nat) (s : β) (items : List (Except ε δ)), Rs.drain nx n s = Res.ok items →
      Rs.drain (eitherSrcNext fa fq faN (totalNext nx)) n (some (.inr s), none) =
        Res.ok (items.map (wrapFq (γ := γ))) :=
  drain_map nx _ (fun s => (some (Sum.inr s), none)) wrapFq fun s s' r hq => by
    simp [eitherSrcNext, eitherNext_eq_model, totalNext, hq]

/-- the first `next` of a fresh object whose input starts with a legal character behaves like the first `next` of the
initialised object, so the drained sequences coincide -/
theorem drain_either_fresh {α β γ δ ε : Type} (fa : Bytes → α) (fq : Bytes → β)
    (faN : α → Option (Except IoErr γ) × α) (fqN : β → Option (Except ε δ) × β) (file : Bytes) (k : Fastx.Kind)
    (hk : sniff file = some k) (n : Nat) :
    Rs.drain (eitherSrcNext fa fq faN fqN) n (none, some file) =
      Rs.drain (eitherSrcNext fa fq faN fqN) n ((eitherAfter fa fq file).2, none) := by
  cases n with
  | zero => rfl
  | succ n =>
    have h1 : eitherSrcNext fa fq faN fqN (none, some file) =
        eitherSrcNext fa fq faN fqN ((eitherAfter fa fq file).2, none) := by
      simp only [eitherSrcNext]
      rw [eitherNext_fresh]
      cases file with
      | nil => simp [sniff] at hk
      | cons b r => simp [hk]
    simp only [Rs.drain, h1]

end RbV.Thm.GenSrcFastx
