import RbV.Gen.SrcOcc
import RbV.Model.OccTable
import RbV.Thm.GenSrcBasic
import RbV.Thm.GenSrcTactics
import RbV.Thm.GenSrcOk
/-!
# The translated text of `Occ::new` / `Occ::get` (bwt.rs) equals the mirror models `OccM.occTable` / `OccM.occGet`

`RbV/Gen/SrcOcc.lean` is regenerated from `src/data_structures/bwt.rs` by `tools/rs2lean.py` on every `./check C04|C05`.

`Occ::new`: the alphabet is an opaque value; `alphabet.max_symbol()`, `alphabet.symbols.iter().collect::<Vec<usize>>()`
and `alphabet.is_word(b"$")` are abstract functions of it (parameters `maxSymbol`, `symbols`, `isWordDollar` of the
generated definition).  The theorem is stated for every such triple: the tracked symbols are `symbols alphabet`, plus
`$` = 36 when it is below the table size and `isWordDollar` says it is missing.  Hypotheses = what keeps the Rust code
from panicking: a non-empty alphabet (`max_symbol` is `Some`), `k ≥ 1` (`n / k`, `i % k`), every BWT symbol and every
tracked symbol at most the maximal symbol (`curr_occ[c]`, `occ[a]`), `n < 2^64` (`+= 1`).

`Occ::get`: `bytecount::count` is an abstract function (parameter `count`), instantiated with `List.count`.
-/
-- the simp sets name every fact a harmless rewrite of the Rust text may need; on the present text some are unused
set_option linter.unusedSimpArgs false

namespace RbV.Thm.GenSrcOcc
open RbV RbV.Rs RbV.Gen.SrcOcc RbV.Thm.GenSrc RbV.OccM

/-- the symbols whose columns `Occ::new` fills: the alphabet's, plus `$` when it fits the table and is missing -/
def alphaOf (syms : List Nat) (isw : Bool) (m : Nat) : List Nat := if 36 < m ∧ isw = false then syms ++ [36] else syms

theorem alphaOf_lt (syms : List Nat) (isw : Bool) (m : Nat) (h : ∀ a ∈ syms, a < m) : ∀ a ∈ alphaOf syms isw m, a < m := by
  intro a ha
  unfold alphaOf at ha
  split at ha
  · rename_i hc
    rcases List.mem_append.mp ha with h' | h'
    · exact h a h'
    · rw [List.mem_singleton.mp h']; exact hc.1
  · exact h a ha

theorem alphaOf_nodup (syms : List Nat) (isw : Bool) (m : Nat) (hnd : syms.Nodup) (hw : isw = false → 36 ∉ syms) :
    (alphaOf syms isw m).Nodup := by
  unfold alphaOf
  split
  · rename_i h
    rw [List.nodup_append]
    refine ⟨hnd, by simp, ?_⟩
    intro x hx y hy
    simp at hy
    subst hy
    exact fun e => hw h.2 (e ▸ hx)
  · exact hnd

variable {Alph : Type} (maxSymbol : Alph → Option Nat) (symbols : Alph → List Nat) (isWordDollar : Alph → Bool)

/-- `for &a in &alpha { occ[a].reserve(n / k as usize); }` has no effect (and does not panic for `k ≥ 1`, `a < m`) -/
theorem reserve_loop_eq (occ : List (List Nat)) (n k : Nat) (hk : 0 < k) (alpha : List Nat) (h : ∀ a ∈ alpha, a < occ.length) :
    alpha.foldlM (new_for1 maxSymbol symbols isWordDollar occ n k) () = Res.ok () := by
  refine (GenSrc.foldlM_ok (g := fun _ _ => ()) (fun l _ => ∀ a ∈ l, a < occ.length) ?_ alpha () h).trans (by simp)
  intro a rest _ h
  have ha := h a (by simp)
  exact ⟨by simp (disch := omega) only [rs_ok, new_for1], fun b hb => h b (List.mem_cons_of_mem _ hb)⟩

/-- `for &a in &alpha { occ[a].push(curr_occ[a]); }` is the model's `pushAll` -/
theorem push_loop_eq (cur alpha : List Nat) (occ : List (List Nat)) (h : ∀ a ∈ alpha, a < occ.length ∧ a < cur.length) :
    alpha.foldlM (new_for3 maxSymbol symbols isWordDollar cur) occ = Res.ok (pushAll cur alpha occ) := by
  refine GenSrc.foldlM_ok (fun l o => ∀ a ∈ l, a < o.length ∧ a < cur.length) ?_ alpha occ h
  intro a rest occ h
  obtain ⟨h1, h2⟩ := h a (by simp)
  refine ⟨?_, fun b hb => by simpa using h b (List.mem_cons_of_mem _ hb)⟩
  rw [modify_eq_set occ a _ h1, List.getD_eq_getElem cur a 0 h2]
  simp (disch := omega) only [rs_ok, new_for3]

/-- one round of `for (i, &c) in bwt.iter().enumerate()` is one step of the model's `occTableGo` -/
theorem occTableGo_step_eq (k : Nat) (alpha cur : List Nat) (occ : List (List Nat)) (c i : Nat) (hk : 0 < k)
    (hc : c < cur.length) (hb : ∀ v ∈ cur, v ≤ i) (hi : i + 1 < 2 ^ 64)
    (ha : ∀ a ∈ alpha, a < occ.length ∧ a < cur.length) :
    new_for2 maxSymbol symbols isWordDollar k alpha (cur, occ) (c, i)
      = Res.ok (bump cur c, if i % k = 0 then pushAll (bump cur c) alpha occ else occ) := by
  have hle : cur[c] ≤ i := hb _ (List.getElem_mem hc)
  have e5 := push_loop_eq maxSymbol symbols isWordDollar (bump cur c) alpha occ
    (fun a h => by rw [length_bump]; exact ha a h)
  rw [bump_eq_set cur c hc] at e5 ⊢
  simp (disch := omega) only [rs_ok, new_for2, e5, Nat.add_comm 1, beq_iff_eq, eq_comm (a := 0)]
  split <;> rfl

/-- the translated main loop of `Occ::new` is the model's `occTableGo` -/
theorem main_loop_eq (k : Nat) (alpha : List Nat) (m : Nat) (hk : 0 < k) (ha : ∀ a ∈ alpha, a < m) :
    ∀ (xs : List Nat) (i : Nat) (cur : List Nat) (occ : List (List Nat)),
      cur.length = m → occ.length = m → (∀ x ∈ xs, x < m) → (∀ v ∈ cur, v ≤ i) → i + xs.length < 2 ^ 64 →
      (xs.zipIdx i).foldlM (new_for2 maxSymbol symbols isWordDollar k alpha) (cur, occ)
        = Res.ok (occTableGo k alpha xs i (cur, occ)) := by
  intro xs
  induction xs with
  | nil => intro i cur occ _ _ _ _ _; rfl
  | cons x xs ih =>
    intro i cur occ hcur hocc hx hb hi
    have hxm : x < cur.length := by rw [hcur]; exact hx x (by simp)
    simp only [List.length_cons] at hi
    rw [List.zipIdx_cons, List.foldlM_cons,
      occTableGo_step_eq maxSymbol symbols isWordDollar k alpha cur occ x i hk hxm hb (by omega)
        (fun a h => by rw [hcur, hocc]; exact ⟨ha a h, ha a h⟩), Res.ok_bind]
    have hocc' : (if i % k = 0 then pushAll (bump cur x) alpha occ else occ).length = m := by
      split
      · rw [length_pushAll]; exact hocc
      · exact hocc
    rw [ih (i + 1) _ _ (by rw [length_bump]; exact hcur) hocc' (fun y hy => hx y (List.mem_cons_of_mem _ hy))
      (bump_le cur x i hxm hb)
      (by omega)]
    simp only [occTableGo]

/-- **`Occ::new` as written in the source = the mirror model `occTable`** (the table with one column per symbol value
below `m = max_symbol + 1`; the columns of the tracked symbols filled at the rows `i % k == 0`), returned together
with `k` — for every opaque alphabet, under the hypotheses that keep the Rust code from panicking. -/
theorem new_eq_model (bwt : List Nat) (k : Nat) (alphabet : Alph) (ms : Nat)
    (hms : maxSymbol alphabet = some ms) (hk : 0 < k) (hn : bwt.length < 2 ^ 64) (hms' : ms + 1 < 2 ^ 64)
    (hsym : ∀ x ∈ bwt, x ≤ ms) (hal : ∀ a ∈ symbols alphabet, a ≤ ms) :
    new maxSymbol symbols isWordDollar bwt k alphabet
      = Res.ok (occTable bwt k (alphaOf (symbols alphabet) (isWordDollar alphabet) (ms + 1)) (ms + 1), k) := by
  have e1 : Rs.add 64 ms 1 = Res.ok (ms + 1) := Rs.add_ok hms'
  have hA := alphaOf_lt (symbols alphabet) (isWordDollar alphabet) (ms + 1) (fun a h => Nat.lt_succ_of_le (hal a h))
  have e2 := reserve_loop_eq maxSymbol symbols isWordDollar (List.replicate (ms + 1) ([] : List Nat)) bwt.length k hk
    (alphaOf (symbols alphabet) (isWordDollar alphabet) (ms + 1)) (by simpa using hA)
  have e3 := main_loop_eq maxSymbol symbols isWordDollar k (alphaOf (symbols alphabet) (isWordDollar alphabet) (ms + 1))
    (ms + 1) hk hA bwt 0 (List.replicate (ms + 1) 0) (List.replicate (ms + 1) []) (by simp) (by simp)
    (fun x hx => Nat.lt_succ_of_le (hsym x hx)) (by simp) (by omega)
  unfold alphaOf at e2 e3 ⊢
  unfold occTable
  -- the test `(b'$' as usize) < m && !alphabet.is_word(b"$")`, with its two parts in either order, is brought to the
  -- condition of `alphaOf` before it is decided
  by_cases hd : 36 < ms + 1 ∧ isWordDollar alphabet = false <;>
    simp only [hd, and_self, if_true, if_false] at e2 e3 ⊢ <;>
    simp only [new, hms, expect_some, e1, Res.pure_eq_ok, Res.ok_bind, Bool.and_eq_true, decide_eq_true_eq,
      Bool.not_eq_true', gt_iff_lt, and_comm (a := isWordDollar alphabet = false), hd, and_self, if_true, if_false, e2, e3]

attribute [local congr] GenSrc.bind_congr_arg

/-- what keeps `Occ::get` from panicking on the checkpoint column `cp` of symbol `a`: the low checkpoint exists, the
forward sum fits a `usize`, and a high checkpoint — when the column has one — lies inside the BWT and is at least the
count that is subtracted from it.  All of it holds for the table built by `Occ::new` (`getSafe_occNew`).  It is the hypothesis
of the soft `GenSrcOccModel.get_eq_model`; `get_exact_of_table` in this file reads `lo` only. -/
structure GetSafe (cp bwt : List Nat) (k r a : Nat) : Prop where
  lo : r / k < cp.length
  fwd : cnt bwt (r / k * k + 1) r a + cp.getD (r / k) 0 < 2 ^ 64
  hi : ∀ hiOcc, cp[r / k + 1]? = some hiOcc →
    (r / k + 1) * k < bwt.length ∧ cnt bwt (r + 1) ((r / k + 1) * k) a ≤ hiOcc

/-- `bwt[lo..=hi]`, written with either kind of range, is read without a panic and holds `cnt bwt lo hi a` copies of `a` -/
theorem count_slice (bwt : List Nat) (lo hi a : Nat) (h1 : lo ≤ hi + 1) (h2 : hi < bwt.length) :
    ∃ S, Rs.sliceIncl bwt lo hi = Res.ok S ∧ Rs.slice bwt lo (hi + 1) = Res.ok S ∧ S.count a = cnt bwt lo hi a :=
  ⟨_, Rs.sliceIncl_ok h1 h2, Rs.slice_ok h1 h2, rfl⟩

theorem getSafe_occNew (bwt : List Nat) (k r a : Nat) (hk : 0 < k) (hr : r < bwt.length) (hn : bwt.length < 2 ^ 64) :
    GetSafe (occNew bwt k a) bwt k r a := by
  have hlok : r / k * k ≤ r := Nat.div_mul_le_self r k
  have hR := occRef_split bwt (r / k * k) r a hlok
  have hRn := occRef_le bwt r a
  refine ⟨?_, ?_, ?_⟩
  · unfold occNew
    rw [List.length_map, List.length_range, Nat.lt_div_iff_mul_lt hk]
    omega
  · rw [getD_occNew bwt k a (r / k) hk (Nat.lt_of_le_of_lt hlok hr)]
    omega
  · intro hiOcc h
    obtain ⟨hin, hv⟩ := hi_occNew bwt k r a hiOcc hk h
    rw [Nat.add_one_mul]
    exact ⟨hin, by omega⟩

/-- **translated `Occ::get` on a table whose column `a` is the checkpoint table = the specification** `occRef`.
The proof does not follow the branch structure of the text: it supplies the facts the true table provides (the low
checkpoint holds `occRef (lo·k)`, a high checkpoint — if the column has one — lies inside the BWT and holds
`occRef ((lo+1)·k)`, counts over the two slices are differences of `occRef`, every checked operation stays in range)
and lets `rs_paths` walk all paths.  A rewrite that keeps the property (other threshold, other rule for choosing the
checkpoint to count from, an extra early exit on sampled rows) is re-proved; a wrong slice bound or a checkpoint read
that can go out of range is not.  `hk32` records that `self.k` is a `u32`; no operation of the body needs it. -/
theorem get_exact_of_table (occ : List (List Nat)) (k : Nat) (bwt : List Nat) (r a : Nat)
    (hcp : occ[a]? = some (occNew bwt k a)) (hk : 0 < k) (hk32 : k < 2 ^ 32) (hr : r < bwt.length)
    (hn : bwt.length < 2 ^ 64) :
    get (fun s c => s.count c) occ k bwt r a = Res.ok (occRef bwt r a) := by
  have hlok : r / k * k ≤ r := Nat.div_mul_le_self r k
  have hr2 : r < r / k * k + k := Nat.lt_div_mul_add hk
  have hdk : r / k ≤ r := Nat.div_le_self r k
  have hLo : r / k * k < bwt.length := Nat.lt_of_le_of_lt hlok hr
  have hR : occRef bwt r a = occRef bwt (r / k * k) a + cnt bwt (r / k * k + 1) r a := occRef_split bwt _ r a hlok
  have hC1 : cnt bwt (r / k * k + 1) r a + r / k * k ≤ r :=
    Nat.add_le_of_le_sub hlok (Nat.add_sub_add_right r 1 _ ▸ cnt_le bwt (r / k * k + 1) r a)
  have hRn : occRef bwt r a ≤ bwt.length := occRef_le bwt r a
  have e1 : Rs.div r k = Res.ok (r / k) := Rs.div_ok hk
  have e2 : Rs.idx occ a = Res.ok (occNew bwt k a) := Rs.idx_of_getElem? hcp
  have e3 : Rs.idx (occNew bwt k a) (r / k) = Res.ok (occRef bwt (r / k * k) a) := by
    rw [← getD_occNew bwt k a (r / k) hk hLo]
    exact idx_getD _ (r / k) 0 (getSafe_occNew bwt k r a hk hr hn).lo
  have e5 : Rs.mul 64 (r / k) k = Res.ok (r / k * k) := Rs.mul_ok (Nat.lt_trans hLo hn)
  have e5' : Rs.mul 64 k (r / k) = Res.ok (r / k * k) := Rs.mul_ok_comm (Nat.lt_trans hLo hn)
  obtain ⟨S1, e7, e7', hS1⟩ := count_slice bwt (r / k * k + 1) r a (Nat.succ_le_succ hlok) hr
  have hhi : ∀ v, (occNew bwt k a)[r / k + 1]? = some v →
      (r / k * k + k < bwt.length ∧ v = occRef bwt r a + cnt bwt (r + 1) (r / k * k + k) a) ∧
      (Rs.mul 64 (r / k + 1) k = Res.ok (r / k * k + k) ∧ Rs.mul 64 k (r / k + 1) = Res.ok (r / k * k + k)) ∧
      ∃ S, Rs.sliceIncl bwt (r + 1) (r / k * k + k) = Res.ok S ∧ Rs.slice bwt (r + 1) (r / k * k + k + 1) = Res.ok S ∧
        S.count a = cnt bwt (r + 1) (r / k * k + k) a := by
    intro v h
    have hv := hi_occNew bwt k r a v hk h
    have hH : (r / k + 1) * k < 2 ^ 64 := by rw [Nat.add_one_mul]; exact Nat.lt_trans hv.1 hn
    refine ⟨hv, ⟨?_, ?_⟩, count_slice bwt (r + 1) _ a (Nat.succ_le_succ (Nat.le_of_lt hr2)) hv.1⟩
    · rw [← Nat.add_one_mul]; exact Rs.mul_ok hH
    · rw [← Nat.add_one_mul]; exact Rs.mul_ok_comm hH
  clear hcp hLo
  generalize cnt bwt (r / k * k + 1) r a = C1 at *
  generalize occRef bwt (r / k * k) a = L at *
  generalize occRef bwt r a = R at *
  generalize occNew bwt k a = cp at *
  generalize r / k * k = Lo at *
  generalize r / k = q at *
  have h64 : ∀ x, x ≤ r → x + 1 < 2 ^ 64 := fun x hx => Nat.lt_of_le_of_lt (Nat.lt_of_le_of_lt hx hr) hn
  have e4 : Rs.add 64 q 1 = Res.ok (q + 1) := Rs.add_ok (h64 q hdk)
  have e6 : Rs.add 64 Lo 1 = Res.ok (Lo + 1) := Rs.add_ok (h64 Lo hlok)
  have e8 : Rs.add 64 C1 L = Res.ok R := by
    rw [hR]; exact Rs.add_ok_comm (hR ▸ Nat.lt_of_le_of_lt hRn hn)
  have e9 : Rs.add 64 r 1 = Res.ok (r + 1) := Rs.add_ok (h64 r (Nat.le_refl r))
  simp only [Gen.SrcOcc.get, e1, e2, e3, e4, e5, e6, e7, hS1, e8, e9, Res.ok_bind, Res.pure_eq_ok]
  cases hc1 : cp[q + 1]? with
  | none =>
    clear hhi
    rs_paths [Gen.SrcOcc.get, hc1, e1, e2, e3, e5, e5', e7, e7', hS1]
  | some v =>
    obtain ⟨⟨hin, hv⟩, ⟨e11, e11'⟩, S2, e12, e12', hS2⟩ := hhi v hc1
    clear hhi
    generalize cnt bwt (r + 1) (Lo + k) a = C2 at *
    have e10 : Rs.sub (Lo + k) r = Res.ok (Lo + k - r) := Rs.sub_ok (Nat.le_of_lt hr2)
    have e13 : Rs.sub v C2 = Res.ok R := by rw [Rs.sub_ok (hv ▸ Nat.le_add_left C2 R), hv, Nat.add_sub_cancel]
    simp only [e10, e11, e12, hS2, e13, Res.ok_bind]
    rs_paths [Gen.SrcOcc.get, hc1, e1, e2, e3, e5, e5', e7, e7', hS1, e11, e11', e12, e12', hS2]

/-- **translated `Occ::get` on the table of the translated `Occ::new` = the specification** `occRef` (number of `a` in
`bwt[0..=r]`), for every sampling rate `k ≥ 1`, every row and every tracked symbol. -/
theorem get_new_exact (bwt : List Nat) (k : Nat) (alphabet : Alph) (ms : Nat)
    (hms : maxSymbol alphabet = some ms) (hk : 0 < k) (hk32 : k < 2 ^ 32) (hn : bwt.length < 2 ^ 64)
    (hms' : ms + 1 < 2 ^ 64) (hsym : ∀ x ∈ bwt, x ≤ ms) (hal : ∀ a ∈ symbols alphabet, a ≤ ms)
    (hnd : (symbols alphabet).Nodup) (hw : isWordDollar alphabet = false → 36 ∉ symbols alphabet)
    (a r : Nat) (ha : a ∈ alphaOf (symbols alphabet) (isWordDollar alphabet) (ms + 1)) (hr : r < bwt.length) :
    ∃ tbl k', new maxSymbol symbols isWordDollar bwt k alphabet = Res.ok (tbl, k') ∧
      get (fun s c => s.count c) tbl k' bwt r a = Res.ok (occRef bwt r a) := by
  refine ⟨_, _, new_eq_model maxSymbol symbols isWordDollar bwt k alphabet ms hms hk hn hms' hsym hal, ?_⟩
  have ham := alphaOf_lt _ _ _ (fun a h => Nat.lt_succ_of_le (hal a h)) a ha
  have hcol := occTable_col bwt k _ (ms + 1) a ha (alphaOf_nodup _ _ _ hnd hw) ham
  rw [occNewLoop_eq bwt k a hk] at hcol
  exact get_exact_of_table _ k bwt r a hcol hk hk32 hr hn

end RbV.Thm.GenSrcOcc
