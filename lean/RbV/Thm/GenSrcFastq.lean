import RbV.Gen.SrcFastq
import RbV.Thm.GenSrcFasta
import RbV.Lemmas.FastqBlankFirst
import RbV.Lemmas.FastqPrefixUtf8
/-!
# The translated `bio::io::fastq` writer, reader, `Record::check` and `Records` iterator (`RbV/Gen/SrcFastq.lean`) against the
mirror models (C11)

Instantiation of the abstract operations as in `Thm/GenSrcFasta.lean` (`writeAllOp`, `readLineOp c sched`, `trimEndU`).
The header split `splitn(2, <pattern>)` of `Reader::read` is the generated predicate `read_pat1`; the mirror is run with the
text functions `srcTxt` (= `Txt.unicode` with the header split of the *source*), and `srcTxt_agrees` shows that on the
property's domain — the first white-space character of the trimmed header, if any, is a blank: ids without white space —
this is the split of the list models.  Nothing else about the pattern is used, so a pattern that differs only on ids with
white space (seeded C11-H1: blank or tab) re-proves.
-/
set_option linter.unusedSimpArgs false
namespace RbV.Thm.GenSrcFastq
open RbV RbV.Rs RbV.Fastx RbV.BufLines
open RbV.Thm.GenSrcFasta (writeAllOp readLineOp invalidData startsWithByte_eq strFrom_one readLineStr_some_valid)
open RbV.Gen.SrcFastq (Error Record)

/-- **`Writer::write`** appends exactly the model writer's bytes `@id[ desc]\nseq\n+\nqual\n` -/
theorem write_eq_model (w id : Bytes) (desc : Option Bytes) (seq qual : Bytes) :
    Gen.SrcFastq.write writeAllOp w id desc seq qual =
      Res.ok (.ok (), w ++ writeFastqRec { id := id, desc := desc, seq := seq, qual := qual }) := by
  cases desc <;> simp [Gen.SrcFastq.write, writeFastqRec]

/-- **`Writer::write_record`** = `write` on the record's accessors (`seq()` / `qual()` trim the end: the identity on records as
the reader builds them) -/
theorem writeRecord_eq_model (tr : Bytes → Bytes) (w : Bytes) (r : FqRec) (hs : tr r.seq = r.seq) (hq : tr r.qual = r.qual) :
    Gen.SrcFastq.writeRecord writeAllOp tr w r.id r.desc r.seq r.qual = Res.ok (.ok (), w ++ writeFastqRec r) := by
  cases r with
  | mk i d sq q =>
    have h := write_eq_model w i d sq q
    simp only at hs hq
    cases d <;>
      simp [Gen.SrcFastq.writeRecord, Gen.SrcFastq.recordId, Gen.SrcFastq.recordDesc, Gen.SrcFastq.recordSeq,
        Gen.SrcFastq.recordQual, hs, hq] at h ⊢ <;>
      simp [h]

/-- **constructors**: `Reader::from_bufread` (empty line buffer), `Reader::records`, `Writer::from_bufwriter` -/
theorem ctors_eq {ρ ω : Type} (b : ρ) (l : Bytes) (w : ω) :
    Gen.SrcFastq.readerFromBufread b = Res.ok (b, []) ∧
    Gen.SrcFastq.readerRecords b l = Res.ok (b, l) ∧
    Gen.SrcFastq.writerFromBufwriter w = Res.ok w := by
  simp [Gen.SrcFastq.readerFromBufread, Gen.SrcFastq.readerRecords, Gen.SrcFastq.writerFromBufwriter]

/-- **`Record::check`** on a record whose sequence and qualities do not end in white space (what the reader produces:
concatenations of end-trimmed lines; `tr` = any `trim_end` that is the identity there) = the model's `check` -/
theorem check_eq_model (tr : Bytes → Bytes) (r : FqRec) (hs : tr r.seq = r.seq) (hq : tr r.qual = r.qual) :
    Gen.SrcFastq.recordCheck tr r.id r.desc r.seq r.qual =
      Res.ok (if r.id.isEmpty then .error "Expecting id for FastQ record."
              else if !(r.seq.all (· < 128)) then .error "Non-ascii character found in sequence."
              else if !(r.qual.all (· < 128)) then .error "Non-ascii character found in qualities."
              else if r.seq.length != r.qual.length then .error "Unequal length of sequence an qualities."
              else .ok ()) := by
  simp only [Gen.SrcFastq.recordCheck, Gen.SrcFastq.recordId, Gen.SrcFastq.recordSeq, Gen.SrcFastq.recordQual, Rs.isAscii,
    hs, hq, Res.pure_eq_ok, Res.ok_bind, ← apply_ite Res.ok]

/-- … hence `check()` succeeds exactly when the model's `FqRec.check` holds -/
theorem check_ok_iff (tr : Bytes → Bytes) (r : FqRec) (hs : tr r.seq = r.seq) (hq : tr r.qual = r.qual) :
    Gen.SrcFastq.recordCheck tr r.id r.desc r.seq r.qual = Res.ok (.ok ()) ↔ r.check = true := by
  rw [check_eq_model tr r hs hq]
  unfold FqRec.check
  -- each test of `check` that fails is one error, none of them `Ok`
  cases r.id.isEmpty <;> cases r.seq.all (· < 128) <;> cases r.qual.all (· < 128) <;>
    cases h : r.seq.length == r.qual.length <;> simp [bne, h]

/-- the header split of the source: `splitn(2, <pattern>)` with the pattern found in the text -/
def srcTxt : Txt :=
  { trim := trimEndU, faHdr := faHeaderU,
    fqHdr := fun l => Rs.splitn2 Gen.SrcFastq.read_pat1 (trimEndU l.tail), trim_nil := rfl }

/-- what the proofs use of the pattern: it matches the blank and nothing that is not white space -/
theorem pat_spec : Gen.SrcFastq.read_pat1 32 = true ∧ ∀ b, isWs b = false → Gen.SrcFastq.read_pat1 b = false := by
  refine ⟨by simp [Gen.SrcFastq.read_pat1], ?_⟩
  intro b hb
  simp only [isWs, Bool.or_eq_false_iff, beq_eq_false_iff_ne] at hb
  simp [Gen.SrcFastq.read_pat1]
  omega

/-- on lines in the domain (no lead byte of a non-ASCII white-space character; first white space of the trimmed header a
blank) the source's text functions are those of the list models -/
theorem srcTxt_agrees (l : Bytes) (h : NoUws l) (hb : blankFirst (trimEnd l.tail) = true) : srcTxt.AgreesOn l := by
  refine ⟨trimEndU_eq l h, faHeaderU_eq l h, ?_⟩
  show Fastx.splitn2 Gen.SrcFastq.read_pat1 (trimEndU l.tail) = fqHeader l
  rw [trimEndU_eq _ h.tail, splitn2_blankFirst _ pat_spec.1 pat_spec.2 _ hb]
  rfl

/-- the first `read_line` of a round of the sequence loop, then the loop -/
def seqFrom (c : Nat) (sched : Nat → Nat) (T : Txt) (id : Bytes) (desc : Option Bytes) (qual : Bytes) (gas : Nat) (rd : St)
    (seq : Bytes) (n : Nat) :
    Res (Flow (Except Error Unit × St × Bytes × Bytes × Option Bytes × Bytes × Bytes) (St × Bytes × Bytes × Nat)) :=
  match readLineStr c sched rd with
  | (none, rd') => Res.ok (.ret (.error (Error.ReadError invalidData), rd', [], id, desc, seq, qual))
  | (some l, rd') => Gen.SrcFastq.read_loop1 (readLineOp c sched) T.trim id desc qual gas rd' l seq n

/-- outcome of the sequence-line loop against the mirror `fqSeqLoop` (`m`): on a UTF-8 error the function returns, the half-built
sequence next to the error unspecified (`∃ sq`); otherwise the loop hands on the mirror's sequence and line count, the scratch
`line_buffer` unspecified (`∃ lb`) -/
def SeqPost (id : Bytes) (desc : Option Bytes) (qual : Bytes) (m : Option (Bytes × Nat) × St)
    (x : Res (Flow (Except Error Unit × St × Bytes × Bytes × Option Bytes × Bytes × Bytes) (St × Bytes × Bytes × Nat))) : Prop :=
  match m with
  | (none, rd') => ∃ sq, x = Res.ok (.ret (.error (Error.ReadError invalidData), rd', [], id, desc, sq, qual))
  | (some (seq', n'), rd') => ∃ lb, x = Res.ok (.next (rd', lb, seq', n'))

/-- the sequence-line loop (`while !line.is_empty() && !line.starts_with('+')`) = `fqSeqLoop`; fuel: more than the
pending bytes; the line counter (an `i32`) does not overflow while fewer than 2^31 bytes are pending -/
theorem seq_eq (T : Txt) (c : Nat) (sched : Nat → Nat) (id : Bytes) (desc : Option Bytes) (qual : Bytes)
    (rd : St) (seq : Bytes) (n : Nat) :
    ∀ gas : Nat, rd.pending.length < gas → n + rd.pending.length < 2 ^ 31 →
      SeqPost id desc qual (fqSeqLoop T c sched rd seq n) (seqFrom c sched T id desc qual gas rd seq n) := by
  fun_induction fqSeqLoop T c sched rd seq n with
  | case1 rd seq n rd' h =>
    intro gas hg hn
    simp [SeqPost, seqFrom, h]
  | case2 rd seq n l rd' h hc2 =>
    intro gas hg hn
    obtain ⟨g, rfl⟩ : ∃ g, gas = g + 1 := ⟨gas - 1, by omega⟩
    have hc : (!l.isEmpty && !startsWith l 43) = false := by
      cases h1 : l.isEmpty <;> cases h2 : startsWith l 43 <;> simp [h1, h2] at hc2 ⊢
    have hc' : (!startsWith l 43 && !l.isEmpty) = false := by rw [Bool.and_comm]; exact hc
    simp [SeqPost, seqFrom, h, Gen.SrcFastq.read_loop1, startsWithByte_eq, hc, hc']
  | case3 rd seq n l rd' h hc3 ih =>
    intro gas hg hn
    obtain ⟨g, rfl⟩ : ∃ g, gas = g + 1 := ⟨gas - 1, by omega⟩
    have hc3c : l.isEmpty = false ∧ startsWith l 43 = false := by simpa using hc3
    have hc : (!l.isEmpty && !startsWith l 43) = true := by simp [hc3c.1, hc3c.2]
    have hc' : (!startsWith l 43 && !l.isEmpty) = true := by rw [Bool.and_comm]; exact hc
    have hlt := readLineStr_lt_of_eq h hc3c.1
    have e1 : Rs.add 31 n 1 = Res.ok (n + 1) := Rs.add_ok (by omega)
    have e1' : Rs.add 31 1 n = Res.ok (n + 1) := by rw [Nat.add_comm] at *; exact Rs.add_ok (by omega)
    have := ih g (by omega) (by omega)
    unfold seqFrom at this ⊢
    simp only [h]
    cases hq : readLineStr c sched rd' with
    | mk o rd2 =>
      rw [hq] at this
      cases o with
      | none =>
        simpa [Gen.SrcFastq.read_loop1, readLineOp, hq, startsWithByte_eq, hc, hc', hc3c.1, hc3c.2] using this
      | some l2 =>
        simpa [Gen.SrcFastq.read_loop1, readLineOp, hq, startsWithByte_eq, hc, hc', hc3c.1, hc3c.2, e1, e1'] using this

/-- … and of the quality-line loop against `fqQualLoop`: the half-built qualities next to the error (`∃ q`) and the scratch
`line_buffer` (`∃ lb`) unspecified -/
def QualPost (id : Bytes) (desc : Option Bytes) (seq : Bytes) (m : Option Bytes × St)
    (x : Res (Flow (Except Error Unit × St × Bytes × Bytes × Option Bytes × Bytes × Bytes) (St × Bytes × Bytes))) : Prop :=
  match m with
  | (none, rd') => ∃ q, x = Res.ok (.ret (.error (Error.ReadError invalidData), rd', [], id, desc, seq, q))
  | (some q, rd') => ∃ lb, x = Res.ok (.next (rd', lb, q))

/-- the quality-line loop (`for _ in 0..lines_read`) = `fqQualLoop` -/
theorem qual_eq (T : Txt) (c : Nat) (sched : Nat → Nat) (id : Bytes) (desc : Option Bytes) (seq : Bytes) :
    ∀ (n : Nat) (xs : List Nat) (rd : St) (lb q : Bytes), xs.length = n →
      QualPost id desc seq (fqQualLoop T c sched n rd q)
        (Gen.SrcFastq.read_for1 (readLineOp c sched) T.trim id desc seq xs rd lb q) := by
  intro n
  induction n with
  | zero =>
    intro xs rd lb q hx
    have : xs = [] := List.length_eq_zero_iff.mp hx
    subst this
    simp [QualPost, fqQualLoop, Gen.SrcFastq.read_for1]
  | succ n ih =>
    intro xs rd lb q hx
    cases xs with
    | nil => cases hx
    | cons x xs =>
      simp only [List.length_cons, Nat.add_right_cancel_iff] at hx
      simp only [fqQualLoop]
      cases hq : readLineStr c sched rd with
      | mk o rd' =>
        cases o with
        | none => simp [QualPost, Gen.SrcFastq.read_for1, readLineOp, hq, Except.mapError]
        | some l =>
          have := ih xs rd' (([] : Bytes) ++ l) (q ++ T.trim l) hx
          simpa [Gen.SrcFastq.read_for1, readLineOp, hq, Except.mapError] using this

/-- outcome of the translated `Reader::read` against the mirror `fqReadS`: same result, same `BufReader` state; the record is
the mirror's on `Ok` (empty at end of input), unspecified next to an error; `line_buffer` is scratch (cleared before use) -/
def ReadPost (m : FqOut × St) (x : Res (Except Error Unit × St × Bytes × Bytes × Option Bytes × Bytes × Bytes)) : Prop :=
  match m.1 with
  | .eof => ∃ lb, x = Res.ok (.ok (), m.2, lb, [], none, [], [])
  | .item (.ok r) => ∃ lb, x = Res.ok (.ok (), m.2, lb, r.id, r.desc, r.seq, r.qual)
  | .item .missingAt => ∃ lb i d s q, x = Res.ok (.error Error.MissingAt, m.2, lb, i, d, s, q)
  | .item .incomplete => ∃ lb i d s q, x = Res.ok (.error Error.IncompleteRecord, m.2, lb, i, d, s, q)
  | .utf8 => ∃ lb i d s q, x = Res.ok (.error (Error.ReadError invalidData), m.2, lb, i, d, s, q)

theorem splitnItems_head (p : Bytes × Option Bytes) : (Rs.splitnItems p).head? = some p.1 := rfl
theorem splitnItems_snd (p : Bytes × Option Bytes) : ((Rs.splitnItems p).drop 1).head? = p.2 := by
  cases p with | mk a b => cases b <;> rfl
theorem splitnItems_snd' (p : Bytes × Option Bytes) : (Rs.splitnItems p)[1]? = p.2 := by
  cases p with | mk a b => cases b <;> rfl

/-- `Reader::read` against `fqReadS T` for every `T` whose `trim_end` is the operation passed to the translated code and
whose FASTQ header split is the split found in the source -/
theorem read_eq_model_gen (T : Txt) (hH : ∀ l, T.fqHdr l = Rs.splitn2 Gen.SrcFastq.read_pat1 (T.trim l.tail))
    (c : Nat) (sched : Nat → Nat) (rd : St) (lb0 id0 : Bytes) (desc0 : Option Bytes) (seq0 qual0 : Bytes)
    (fuel : Nat) (hf : rd.pending.length < fuel) (h31 : rd.pending.length < 2 ^ 31) :
    ReadPost (fqReadS T c sched rd)
      (Gen.SrcFastq.read (readLineOp c sched) T.trim rd lb0 id0 desc0 seq0 qual0 fuel) := by
  unfold fqReadS
  cases hq : readLineStr c sched rd with
  | mk o rd1 =>
    have hle := readLineStr_le_of_eq hq
    cases o with
    | none => simp [ReadPost, Gen.SrcFastq.read, Gen.SrcFastq.recordClear, readLineOp, hq]
    | some l =>
      have hvl := readLineStr_some_valid hq
      by_cases hle' : l.isEmpty = true
      · have : l = [] := by simpa using hle'
        subst this
        simp [ReadPost, Gen.SrcFastq.read, Gen.SrcFastq.recordClear, readLineOp, hq]
      · have hne : l.isEmpty = false := by simpa using hle'
        by_cases hst : startsWith l 64 = true
        · have e1 := strFrom_one l 64 (by decide) hvl hst
          -- the translated function from the header on, with the header fields named
          have hsrc : Gen.SrcFastq.read (readLineOp c sched) T.trim rd lb0 id0 desc0 seq0 qual0 fuel =
              (do
                let t ← seqFrom c sched T (T.fqHdr l).1 (T.fqHdr l).2 [] fuel rd1 [] 0
                match t with
                | .ret v => pure v
                | .next (reader, line_buffer, seq, lines_read) => do
                  let t' ← Gen.SrcFastq.read_for1 (readLineOp c sched) T.trim (T.fqHdr l).1 (T.fqHdr l).2 seq
                              (List.range' 0 lines_read) reader line_buffer []
                  match t' with
                  | .ret v => pure v
                  | .next (reader, line_buffer, qual) =>
                    if qual.isEmpty then
                      pure ((Except.error Error.IncompleteRecord : Except Error Unit), reader, line_buffer, (T.fqHdr l).1,
                        (T.fqHdr l).2, seq, qual)
                    else
                      pure ((Except.ok () : Except Error Unit), reader, line_buffer, (T.fqHdr l).1, (T.fqHdr l).2, seq, qual)) := by
            rw [hH l]
            unfold seqFrom
            cases hq2 : readLineStr c sched rd1 with
            | mk o2 rd1' =>
              cases o2 <;>
                simp [Gen.SrcFastq.read, Gen.SrcFastq.recordClear, readLineOp, hq, hq2, hne, startsWithByte_eq, hst, e1,
                  splitnItems_head, splitnItems_snd, splitnItems_snd'] <;>
                first
                  | rfl
                  | (congr 1; funext t; rcases t with v | ⟨a, b, c2, d⟩
                     · rfl
                     · dsimp only; congr 1; funext t'; rcases t' with v | ⟨a', b', c'⟩ <;> rfl)
          rw [hsrc]
          simp only [hne, hst, Bool.not_true, Bool.false_eq_true, if_false]
          have hs := seq_eq T c sched (T.fqHdr l).1 (T.fqHdr l).2 [] rd1 [] 0 fuel (by omega) (by omega)
          cases hq1 : fqSeqLoop T c sched rd1 [] 0 with
          | mk o1 rd2 =>
            rw [hq1] at hs
            cases o1 with
            | none =>
              obtain ⟨sq, hs⟩ := hs
              simp [ReadPost, hs]
            | some p =>
              obtain ⟨sq, n⟩ := p
              obtain ⟨lb, hs⟩ := hs
              have hqq := qual_eq T c sched (T.fqHdr l).1 (T.fqHdr l).2 sq n (List.range' 0 n) rd2 lb [] (by simp)
              dsimp only
              cases hq3 : fqQualLoop T c sched n rd2 [] with
              | mk o3 rd3 =>
                rw [hq3] at hqq
                cases o3 with
                | none =>
                  obtain ⟨q, hqq⟩ := hqq
                  simp [ReadPost, hs, hqq]
                | some q =>
                  obtain ⟨lb2, hqq⟩ := hqq
                  by_cases hqe : q.isEmpty = true
                  · have hqn : q = [] := by simpa using hqe
                    simp [ReadPost, hs, hqq, hqe, hqn]
                  · have hqe' : q.isEmpty = false := by simpa using hqe
                    have hqn : q ≠ [] := by intro hh; simp [hh] at hqe'
                    simp [ReadPost, hs, hqq, hqe', hqn]
        · have hst' : startsWith l 64 = false := by simpa using hst
          simp [ReadPost, Gen.SrcFastq.read, Gen.SrcFastq.recordClear, readLineOp, hq, hne, startsWithByte_eq, hst']

/-- **`Reader::read`** = the stateful mirror `fqReadS` run with the source's header split (`srcTxt`), for every reader state,
capacity and schedule; fuel: more than the pending bytes; fewer than 2^31 bytes pending (the `i32` line counter) -/
theorem read_eq_model (c : Nat) (sched : Nat → Nat) (rd : St) (lb0 id0 : Bytes) (desc0 : Option Bytes) (seq0 qual0 : Bytes)
    (fuel : Nat) (hf : rd.pending.length < fuel) (h31 : rd.pending.length < 2 ^ 31) :
    ReadPost (fqReadS srcTxt c sched rd)
      (Gen.SrcFastq.read (readLineOp c sched) trimEndU rd lb0 id0 desc0 seq0 qual0 fuel) :=
  read_eq_model_gen srcTxt (fun _ => rfl) c sched rd lb0 id0 desc0 seq0 qual0 fuel hf h31


/-- the `Record` of the generated file for a model record -/
@[reducible] def toRec (r : FqRec) : Record := ⟨r.id, r.desc, r.seq, r.qual⟩

/-- what `Records::next` hands out for an item of the mirror -/
def ofItem : SItem FqItem → Except Error Record
  | .item (.ok r) => .ok (toRec r)
  | .item .missingAt => .error Error.MissingAt
  | .item .incomplete => .error Error.IncompleteRecord
  | .utf8 => .error (Error.ReadError invalidData)

/-- what `next` returns for an outcome of the mirror's `read` -/
def ofOut : FqOut → Option (Except Error Record)
  | .eof => none
  | .item i => some (ofItem (.item i))
  | .utf8 => some (ofItem .utf8)

/-- **`Records::next`** = one `read` of the mirror: `None` at end of input, otherwise `Some` of the record or of the error
(the iteration goes on after an error) -/
theorem next_eq_model (c : Nat) (sched : Nat → Nat) (rd : St) (lb : Bytes)
    (fuel : Nat) (hf : rd.pending.length < fuel) (h31 : rd.pending.length < 2 ^ 31) :
    ∃ lb', Gen.SrcFastq.next (readLineOp c sched) trimEndU rd lb fuel =
      Res.ok (ofOut (fqReadS srcTxt c sched rd).1, (fqReadS srcTxt c sched rd).2, lb') := by
  have h := read_eq_model c sched rd lb [] none [] [] fuel hf h31
  cases hq : fqReadS srcTxt c sched rd with
  | mk o rd' =>
    rw [hq] at h
    rcases o with _ | (r | _ | _) | _
    · obtain ⟨lb', h'⟩ := h
      have h'' : Gen.SrcFastq.read (readLineOp c sched) trimEndU rd lb [] none [] [] fuel = _ := h'
      exact ⟨lb', by simp [Gen.SrcFastq.next, Gen.SrcFastq.recordNew, Gen.SrcFastq.recordIsEmpty, h'', ofOut]⟩
    · obtain ⟨lb', h'⟩ := h
      have h'' : Gen.SrcFastq.read (readLineOp c sched) trimEndU rd lb [] none [] [] fuel = _ := h'
      have hqn : r.qual ≠ [] := fqReadS_ok_qual_ne srcTxt c sched rd r (by rw [hq])
      exact ⟨lb', by simp [Gen.SrcFastq.next, Gen.SrcFastq.recordNew, Gen.SrcFastq.recordIsEmpty, h'', ofOut, ofItem, hqn]⟩
    -- the three errors
    all_goals
      obtain ⟨lb', i, d, s, q, h'⟩ := h
      have h'' : Gen.SrcFastq.read (readLineOp c sched) trimEndU rd lb [] none [] [] fuel = _ := h'
      exact ⟨lb', by simp [Gen.SrcFastq.next, Gen.SrcFastq.recordNew, h'', ofOut, ofItem]⟩

/-- the translated iterator as a state transformer (`Rs.drain`): state = (`BufReader`, scratch line buffer) -/
def srcNext (c : Nat) (sched : Nat → Nat) (fuel : Nat) (s : St × Bytes) : Res ((St × Bytes) × Option (Except Error Record)) := do
  let (o, rd, lb) ← Gen.SrcFastq.next (readLineOp c sched) trimEndU s.1 s.2 fuel
  pure ((rd, lb), o)

/-- **`Records` drained** = the mirror's `fqDrain` (run with the source's header split) -/
theorem drain_eq_model (c : Nat) (sched : Nat → Nat) (fuel : Nat) :
    ∀ (m n : Nat) (rd : St) (lb : Bytes) (k : Nat), rd.pending.length < fuel → rd.pending.length < 2 ^ 31 →
      fqNextCalls srcTxt c sched m rd = some k → k ≤ n →
      Rs.drain (srcNext c sched fuel) n (rd, lb) = Res.ok ((fqDrain srcTxt c sched m rd).1.map ofItem) := by
  intro m
  induction m with
  | zero => intro n rd lb k hf h31 hk; simp [fqNextCalls] at hk
  | succ m ih =>
    intro n rd lb k hf h31 hk hkn
    obtain ⟨lb', hn⟩ := next_eq_model c sched rd lb fuel hf h31
    have hle := fqReadS_le srcTxt c sched rd
    simp only [fqNextCalls] at hk
    simp only [fqDrain]
    cases hq : fqReadS srcTxt c sched rd with
    | mk o rd' =>
      rw [hq] at hn hk hle
      simp only at hle
      cases o with
      | eof =>
        obtain ⟨n', rfl⟩ : ∃ n', n = n' + 1 := ⟨n - 1, by simp only [Option.some.injEq] at hk; omega⟩
        simp [Rs.drain, srcNext, hn, ofOut]
      | item it | utf8 =>
        simp only [Option.map_eq_some_iff] at hk
        obtain ⟨k', hk', rfl⟩ := hk
        obtain ⟨n', rfl⟩ : ∃ n', n = n' + 1 := ⟨n - 1, by omega⟩
        have := ih n' rd' lb' k' (by omega) (by omega) hk' (by omega)
        simp [Rs.drain, srcNext, hn, ofOut, this]

/-- the lines of a plain-text file in the domain of the header split are valid, and `srcTxt` agrees with the list models on them -/
theorem srcTxt_allValid (file : Bytes) (hp : PlainText file) (hg : ∀ l ∈ splitLines file, goodLine l) :
    AllValid srcTxt (splitLines file) := fun l hl =>
  ⟨allValid_splitLines file hp.1 l hl, srcTxt_agrees l (fun b hb => hp.2 b (mem_of_mem_splitLines file l hl b hb)) (hg l hl)⟩

/-- **the translated `Records` on plain text in the domain of the header split = the plain list parse**: every file that is
valid UTF-8 without non-ASCII white space and whose lines have a blank as first white space of the trimmed header (what the
writer produces, and every prefix of it), every capacity ≥ 1 and admissible schedule; below 2^31 bytes -/
theorem drain_plain (c : Nat) (sched : Nat → Nat) (hc : 1 ≤ c) (hs : Admissible sched) (file lb : Bytes) (fuel n : Nat)
    (hf : file.length < fuel) (h31 : file.length < 2 ^ 31) (hn : file.length + 1 ≤ n)
    (hp : PlainText file) (hg : ∀ l ∈ splitLines file, goodLine l) :
    Rs.drain (srcNext c sched fuel) n (init file, lb) = Res.ok ((parseFastq file).map fun i => ofItem (.item i)) := by
  have hl := splitLines_length_lt file
  obtain ⟨k, hk, hkl⟩ := fqNextCalls_spec srcTxt c sched hc hs (file.length + 1) (init file)
    (by simp only [init, St.pending, List.nil_append]; omega)
  simp only [init, St.pending, List.nil_append] at hkl
  rw [drain_eq_model c sched fuel (file.length + 1) n (init file) lb k (by simpa [init, St.pending] using hf)
      (by simpa [init, St.pending] using h31) hk (by omega)]
  have : (fqDrain srcTxt c sched (file.length + 1) (init file)).1 = (parseFastq file).map .item :=
    (parseFastqVia_eq srcTxt c sched hc hs file).trans (fqRecordsU_valid _ (srcTxt_allValid file hp hg))
  rw [this, List.map_map]
  rfl

end RbV.Thm.GenSrcFastq
