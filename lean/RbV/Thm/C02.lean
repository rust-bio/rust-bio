import RbV.Spec.Align
import RbV.Ref.Gotoh
import RbV.Ref.Banded
import RbV.Thm.GenLimits
import RbV.Thm.GenTbCodes
import RbV.Lemmas.Band
import RbV.Lemmas.BandL
import RbV.Lemmas.BandedDP
import RbV.Lemmas.BandedSound
import RbV.Lemmas.BandConnected
import RbV.Thm.GenSrcBand
import RbV.Thm.GenSrcBandGlue
import RbV.Thm.GenSrcBandedFill
import RbV.Thm.GenSrcBandedCell
import RbV.Thm.GenSrcBandedCols
/-!
# C02 — banded alignment is sound, and exact whenever the band covers the matrix

Soundness and exactness (`C02_sound`, `C02_exact_fullband`) are theorems about the acceptance function `acceptBanded` that the
driver applies to every output at run time; `full` and `exact` are flags the driver sets (no k-mer match: the band is the whole
matrix).  That the mirror or the source text always produces an accepted output is not proved (see "Missing for Theorem B" below);
proved about them: the budget guard, termination up to a `Stall`, one DP cell, the band construction, the pieces of a column.

Six parts: the acceptance function and the constants extracted from the source text; the band mirror
(`Model/Band.lean`); the DP mirror (`Model/BandedDP.lean`: budget guard, termination of the traceback up to a `Stall`,
soundness of one cell); the band construction of the translated source text (`= Res.ok …`: the text does not panic
under the stated hypotheses and returns what the mirror returns); the glue of the nine entry points of the source text;
the main-loop cell and the pieces of a column of the source text.  Termination and absence of panics of the compiled
Rust code itself are runtime facts, observed by the watchdog / `catch_unwind` of the correspondence run.
-/
namespace RbV.Thm.C02
open RbV.Align

/-- **Soundness of the acceptance function** (no band occurs in the statement).  Whatever the band was, a result accepted by the driver (`acceptBanded`) is either the documented sentinel
(and then the matrix really exceeds the cell budget), or a real alignment of the reported sub-ranges whose
recomputed score equals the reported score — and that score never exceeds the unbanded optimum.  The last
clause is a corollary of validity (`best_upper`): it holds for every accepted output without evaluating the
optimum, for all sequences, scoring functions, gap and clip penalties. -/
theorem C02_sound (sc : Sc) (cl : Clip) (filtered : Bool) (x y : List Nat) (full exact : Bool) (o : Out)
    (h : acceptBanded sc cl filtered x y full exact o = true) :
    (isSentinel o = true ∧ overBudget x y = true) ∨
    (isSentinel o = false ∧ ¬ (full = true ∧ overBudget x y = true) ∧
      IsAln x y o.toAln ∧ ClipRule filtered x y o ∧ AlnScore sc cl x y o.toAln o.score ∧
      ∀ s, Optimal sc cl x y s → o.score ≤ s) :=
  acceptBanded_sound sc cl filtered x y full exact o h

/-- **Exactness of the acceptance function when the driver demands it** (`exact = true`, set when the band is the whole matrix;
the flag is an input, not a hypothesis about a band): acceptance is equivalent to the full
C01 statement — real alignment, recomputed score = reported score, reported score optimal among all
alignments of all sub-range pairs — or to the sentinel when (and only when) the matrix exceeds the budget;
with `full`, a matrix over budget admits the sentinel only. -/
theorem C02_exact_fullband (sc : Sc) (cl : Clip) (filtered : Bool) (x y : List Nat) (full : Bool) (o : Out) :
    acceptBanded sc cl filtered x y full true o = true ↔
      ((isSentinel o = true ∧ overBudget x y = true) ∨
       (isSentinel o = false ∧ ¬ (full = true ∧ overBudget x y = true) ∧
        IsAln x y o.toAln ∧ ClipRule filtered x y o ∧ AlnScore sc cl x y o.toAln o.score ∧
        Optimal sc cl x y o.score)) :=
  acceptBanded_exact_iff sc cl filtered x y full o

/-- any valid alignment scores at most the reference optimum (the soundness clause in its bare form) -/
theorem valid_alignment_le_opt (sc : Sc) (cl : Clip) (x y : List Nat) (a : Aln) (v : Int)
    (ha : IsAln x y a) (hs : AlnScore sc cl x y a v) : v ≤ opt sc cl x y :=
  valid_le_opt sc cl x y a v ha hs

/-- the sentinel is never mistaken for a real alignment inside the budget: it is refused whenever
`(m+1)(n+1) ≤ MAX_CELLS` -/
theorem sentinel_refused_within_budget (sc : Sc) (cl : Clip) (f : Bool) (x y : List Nat) (full exact : Bool) (o : Out)
    (hs : isSentinel o = true) (hb : overBudget x y = false) :
    acceptBanded sc cl f x y full exact o = false := by
  simp [acceptBanded, hs, hb]

/-! ### Source-extracted obligations (DESIGN §8): the cell budget, the sentinel score, the traceback cells

`maxCells` and `minScore` are *defined* as the constants extracted from the source text of the tree under test
(`RbV/Gen/Limits.lean`, regenerated by tools/gen_tables.py on every `./check C02` before `lake build`), so
`overBudget`/`isSentinel`/`acceptBanded` — and with them `C02_sound`, `C02_exact_fullband` above, which hold for every
value — follow the code.  "The documented cell budget": the documentation of `banded::Aligner` names it symbolically
(`MAX_CELLS`), so a changed constant moves the budget of the model with it; the number the doc comment adds in
parentheses is compared with the constant by the driver (`c02 docbudget`; the two differed in b41c60a, 10 million against 5_000_000: known finding
`C02-doc-budget`, repaired by /repo c7b262e).  The statements below are re-proved over whatever was extracted. -/

/-- the budget of the acceptance function **is** `const MAX_CELLS: usize` of `banded.rs` (no literal copy) -/
theorem cell_budget_is_source_constant : maxCells = RbV.Gen.Limits.maxCells := rfl

/-- the guard `num_cells() > MAX_CELLS` is not vacuous: the budget is positive, so the smallest matrix (both sequences
empty, one cell) is never over budget and never answered by the sentinel -/
theorem cell_budget_positive : 0 < maxCells ∧ overBudget [] [] = false := by
  have h : 0 < maxCells := GenLimits.max_cells_pos_and_default_match_pos.1
  exact ⟨h, decide_eq_false (Nat.not_lt.mpr h)⟩

/-- the sentinel carries exactly the `MIN_SCORE` of `pairwise/mod.rs` extracted from the source (banded.rs imports
it; the extraction fails when banded.rs gets its own definition) -/
theorem sentinel_score_is_source_min_score (o : Out) (h : isSentinel o = true) :
    o.score = RbV.Gen.Limits.minScorePairwise :=
  (Model.BandedDP.isSentinel_fields h).1

/-- out-of-band cells are reset to `MIN_SCORE` and enter the recurrences as summands: two of them do not leave `i32`
(the promise of the constant's doc comment).  `C01.two_min_scores_no_i32_overflow` is the first conjunct alone. -/
theorem two_min_scores_no_i32_overflow : -(2 ^ 31 : Int) ≤ minScore + minScore ∧ minScore < 0 :=
  ⟨GenLimits.two_min_scores_no_i32_overflow.2.1, GenLimits.min_score_range.2⟩

/-- the banded aligner stores its traceback in the same `TracebackCell`s as the unbanded one: for every cell content a
field reads back what was written and the other two fields are untouched (mirror model `RbV/Model/TbCell.lean` over the
extracted mask, positions and codes; all codes are admissible values) -/
theorem tb_cell_roundtrip (v value p q : Nat) (hval : value ≤ RbV.Gen.TbCodes.tbMax)
    (hp : p ∈ RbV.Gen.TbCodes.positions) (hq : q ∈ RbV.Gen.TbCodes.positions) :
    RbV.TbCell.getBits (RbV.TbCell.setBits v p value) p = value ∧
      (p ≠ q → RbV.TbCell.getBits (RbV.TbCell.setBits v p value) q = RbV.TbCell.getBits v q) :=
  ⟨GenTbCodes.tb_get_after_set v value p hval hp,
    fun hpq => GenTbCodes.tb_set_preserves_other_fields v value p q hval hp hq hpq⟩

/-- the move codes are distinct and admissible (`≤ TB_MAX`, which fits the 4-bit field); `C01.tb_codes_wellformed` states the
field width through the mask instead (`fieldMask + 1 = 2 ^ 4`) -/
theorem tb_codes_wellformed :
    RbV.Gen.TbCodes.codes.Nodup ∧ (∀ c ∈ RbV.Gen.TbCodes.codes, c ≤ RbV.Gen.TbCodes.tbMax) ∧ RbV.Gen.TbCodes.tbMax < 16 :=
  ⟨GenTbCodes.tb_codes_distinct, GenTbCodes.tb_codes_le_max.1, GenTbCodes.tb_max_fits_field.2.2⟩

-- non-vacuity: the sentinel of the tree under test is a sentinel; a cell holding MATCH in S and INS in I
example : isSentinel ⟨minScore, 0, 0, 0, 0, 0, 0, []⟩ = true := by decide
example : RbV.Gen.TbCodes.tbIns ≤ RbV.Gen.TbCodes.tbMax ∧ RbV.Gen.TbCodes.iPos ∈ RbV.Gen.TbCodes.positions ∧
    RbV.Gen.TbCodes.sPos ∈ RbV.Gen.TbCodes.positions ∧ RbV.Gen.TbCodes.iPos ≠ RbV.Gen.TbCodes.sPos := by decide

/-! ### Non-vacuity (unit scores: match 1, mismatch −1, go −5, ge −1) -/

def scU : Sc := ⟨fun a b => if a = b then 1 else -1, -5, -1⟩
def clLocal : Clip := ⟨0, 0, 0, 0⟩

-- a banded result below the optimum is accepted by the soundness check (exact not demanded) …
example : acceptBanded scU clLocal true [0, 0] [0, 0] false false ⟨1, 0, 1, 0, 1, 2, 2, [.core .mat]⟩ = true := by
  decide +kernel
-- … and refused when the band is the whole matrix
example : acceptBanded scU clLocal true [0, 0] [0, 0] true true ⟨1, 0, 1, 0, 1, 2, 2, [.core .mat]⟩ = false := by
  decide +kernel
example : acceptBanded scU clLocal true [0, 0] [0, 0] true true ⟨2, 0, 2, 0, 2, 2, 2, [.core .mat, .core .mat]⟩ = true := by
  decide +kernel
-- a path whose recomputed score differs from the reported one is refused (I I is one gap: −5−2 = −7, not −12)
example : acceptBanded scU ⟨minScore, minScore, minScore, minScore⟩ false [0, 0] [] false false
    ⟨-12, 0, 2, 0, 0, 2, 0, [.core .ins, .core .ins]⟩ = false := by decide +kernel
example : acceptBanded scU ⟨minScore, minScore, minScore, minScore⟩ false [0, 0] [] false false
    ⟨-7, 0, 2, 0, 0, 2, 0, [.core .ins, .core .ins]⟩ = true := by decide +kernel
-- the sentinel inside the budget is refused (both sequences empty: one cell, inside every positive budget — stated
-- through `cell_budget_positive` so that a changed `MAX_CELLS` does not break the example)
example : acceptBanded scU clLocal true [] [] false false ⟨minScore, 0, 0, 0, 0, 0, 0, []⟩ = false :=
  sentinel_refused_within_budget scU clLocal true [] [] false false _ (by decide) cell_budget_positive.2
-- the count the driver compares the number of supplied matches with (`Ref/Banded.lean`)
example : kmerMatchCount 2 [0, 1, 0, 1] [1, 0, 1] = 3 := by decide +kernel

/-! ## The band (mirror `RbV/Model/Band.lean` of `struct Band`, run by the driver next to the code: `band=impl`) -/

section Band
open RbV.Model.Band

/-- **Full-matrix fallback.**  Without k-mer matches `create_from_match_path` (hence `create`, `create_with_prehash`,
`create_with_matches`) returns the band whose every column is `0..m+1`: it has `(m+1)(n+1)` cells and contains every
cell of the DP matrix. -/
theorem band_full_matrix_covers (m n k w : Nat) (cl : Clip) (path : List Nat) :
    createFromMatchPath m n k w cl path [] = ⟨m + 1, n + 1, List.replicate (n + 1) (0, m + 1)⟩ ∧
    numCells (createFromMatchPath m n k w cl path []) = (m + 1) * (n + 1) ∧
    ∀ i j, i ≤ m → j ≤ n → Mem (createFromMatchPath m n k w cl path []) i j := by
  refine ⟨rfl, numCells_full m n, fun i j hi hj => (mem_iff ..).mpr ⟨(0, m + 1), ?_, Nat.zero_le _, Nat.lt_succ_of_le hi⟩⟩
  exact List.getElem?_replicate.trans (if_pos (Nat.lt_succ_of_le hj))

/-- **What the DP loops rely on.**  For every way of supplying the backbone (any `matches`, any `path`, any `k`, `w`, clip
penalties) the band has `rows = m+1`, `cols = n+1`, exactly one range per column `0..=n`, and every range bound is at
most `m+1`: `ranges[j]` is defined for every `j ≤ n` the loops of `compute_alignment` index, and `i < i_end` implies
`i ≤ m` (the accesses `x[i-1]`, `S[..][i]`, `traceback(i, j)` are in range).  Ranges may be empty or reversed
(`Band::new` creates `m+1..0` and columns no k-mer comes near keep it — driver tag `band-has-empty-column`); the loops
`for i in max(1, i_start)..i_end` then do nothing.  "start ≤ end" is therefore *not* an invariant and is not claimed. -/
theorem band_ranges_in_bounds (m n k w : Nat) (cl : Clip) (path : List Nat) (ms : List (Nat × Nat)) :
    let b := createFromMatchPath m n k w cl path ms
    b.rows = m + 1 ∧ b.cols = n + 1 ∧ b.ranges.length = n + 1 ∧
    ∀ j, j ≤ n → ∃ p, b.ranges[j]? = some p ∧ p.1 ≤ m + 1 ∧ p.2 ≤ m + 1 := by
  have h := createFromMatchPath_wf m n k w cl path ms
  exact ⟨h.rows, h.cols, h.len, fun _ => h.get⟩

/-- **Every k-mer of the match path is inside the band.**  If the k-mers the path selects lie inside the sequences
(`r + k ≤ m`, `c + k ≤ n`: what `find_kmer_matches` produces; `add_kmer` itself only `debug_assert!`s the weaker `r + k ≤ m + 1`,
`c + k ≤ n + 1`), then for every index of the path — in the mirror `Model.Band.createFromMatchPath` — the `k` cells `(r + t, c + t)`, `t < k`, of its diagonal are in the band — in particular those columns are
non-empty.  (A k-mer that *continues* the previous one diagonally only gets its last cell added, by `add_entry`; the
others are cells of the previous k-mer: induction along the path.  Bands only grow: `Mem.mono`.) -/
theorem band_contains_matches (m n k w : Nat) (cl : Clip) (path : List Nat) (ms : List (Nat × Nat)) (hne : ms ≠ [])
    (hin : ∀ idx ∈ path, (ms.getD idx (0, 0)).1 + k ≤ m ∧ (ms.getD idx (0, 0)).2 + k ≤ n) :
    ∀ idx ∈ path, ∀ t, t < k →
      Mem (createFromMatchPath m n k w cl path ms) ((ms.getD idx (0, 0)).1 + t) ((ms.getD idx (0, 0)).2 + t) :=
  fun idx hidx => createFromMatchPath_covers m n k w cl path ms hne hin idx hidx

/-- every band operation only grows the band (start never increases, end never decreases, shape unchanged) -/
theorem band_ops_monotone (b : Band) (r c k w : Nat) (s e : Nat × Nat) (cl : Clip) :
    BGrow b (addKmer b r c k w) ∧ BGrow b (addEntry b r c w) ∧ BGrow b (addGap b s e w) ∧
    BGrow b (setBoundaries b s e k w cl) :=
  ⟨addKmer_grow .., addEntry_grow .., addGap_grow .., setBoundaries_grow ..⟩

-- non-vacuity: x = y = ACGTACGT-like (m = n = 8), k = 3, w = 1, local clips, two chained k-mers (0,0) → (4,4):
-- the band of the code (unit test style) and the hypotheses of `band_contains_matches`
example : (createFromMatchPath 8 8 3 1 ⟨0, 0, 0, 0⟩ [0, 1] [(0, 0), (4, 4)]).ranges =
    [(0, 3), (0, 4), (1, 5), (1, 6), (2, 7), (3, 8), (4, 9), (5, 9), (6, 9)] := by decide +kernel
example : ∀ idx ∈ [0, 1], ([(0, 0), (4, 4)].getD idx (0, 0)).1 + 3 ≤ 8 ∧ ([(0, 0), (4, 4)].getD idx (0, 0)).2 + 3 ≤ 8 := by
  decide
-- a band with empty (reversed) columns: with free clips (local mode) only the lazy extension of `2k` cells is added
-- before the first k-mer, the columns before it keep `m+1..0` of `Band::new`
example : (createFromMatchPath 9 9 2 0 ⟨0, 0, 0, 0⟩ [0] [(6, 6)]).ranges.head? = some (10, 0) := by decide +kernel

/-! ### Connectedness (`Band.Connected`): the shape invariant of the real bands, needed by any soundness theorem about
`compute_alignment` on a band ("Theorem B") -/

/-- **Band connectedness, full-matrix case only** (`…_partial`).  `Connected ranges`: consecutive non-empty columns satisfy
`start_{j+1} ≤ end_j`, `start_j ≤ start_{j+1}`, `end_j ≤ end_{j+1}`, and the non-empty columns are consecutive.  Proved here
for the full-matrix fallback (no k-mer match).  *Missing:* the same for `create_from_match_path` on a non-empty **chain**
(`path` strictly increasing in both coordinates, each k-mer continuing the previous one diagonally or starting at least
`k` later in both sequences — what `sdpkpp` returns and what the harness feeds `custom_with_match_path`): that `add_gap`
bridges two consecutive k-mers and `set_boundaries` reaches the first / from the last k-mer without leaving a hole and
without moving a start or an end upwards.  For arbitrary `path` the statement is false (a non-monotone path gives ranges
that jump upwards).  Observed instead: the driver evaluates `Connected` on the band the *code* holds after every call
(tag `band-connected`, a violation is `band-not-connected`), and the band-construction
mutants `mutants/C02-b1-*.patch`, `C02-b4-*`, `C02-b6-*` break it. -/
theorem band_connected_partial (m n k w : Nat) (cl : Clip) (path : List Nat) :
    Connected (createFromMatchPath m n k w cl path []).ranges :=
  connected_fullMatrix m n

/-- **What connectedness gives the DP loops**: over the whole run of non-empty columns starts and ends are non-decreasing
(the fact behind "the reset of `D` below the band end is never needed", `mutants/C02-m10-no-D-reset.patch`, and behind "stale values of column
`j − 2` outside the band are never read").  (That no column in between is empty is clause (2) of the hypothesis `Connected`.) -/
theorem band_connected_monotone (rs : Ranges) (h : Connected rs) (j j' : Nat) (hjj : j ≤ j') (hl : j' < rs.length)
    (h1 : NE rs j) (h2 : NE rs j') :
    (rs.getD j (0, 0)).1 ≤ (rs.getD j' (0, 0)).1 ∧ (rs.getD j (0, 0)).2 ≤ (rs.getD j' (0, 0)).2 :=
  connected_mono h hjj hl h1 h2

/-- **The index fact behind "no stale read on a connected band"** (a statement about a `Ranges` list; which slots
`compute_alignment` or the mirror `fill` writes or resets is read off the text below, not proved: item (1) of "Missing for
Theorem B").  Column `j + 1` of the main loop reads from the rolling arrays of column `j` the
rows `i − 1` and `i` for every in-band `i ≥ 1` of column `j + 1` (`S[prev][i-1]`, `S[prev][i]`, `D[prev][i]`).  In column `j` the
code wrote the in-band rows `start_j..end_j` and reset the rows `start_j − 1` and `end_j..end_{j+1}` to `MIN_SCORE`; every other
slot still holds a value of column `j − 1`.  If `start_j ≤ start_{j+1}` — which `Connected` gives for two consecutive non-empty
columns — every row read lies in `start_j − 1 .. max(end_j, end_{j+1})`, i.e. was written or reset in column `j`: the stale
slots are never read.  (With `start_{j+1} < start_j` the rows `start_{j+1} − 1 .. start_j − 2` would be read stale: the
connectedness invariant is what makes the two-column rolling scheme of `compute_alignment` correct.) -/
theorem band_connected_no_stale_read (rs : Ranges) (h : Connected rs) (j : Nat) (hl : j < rs.length)
    (h1 : NE rs j) (h2 : NE rs (j + 1)) (i : Nat)
    (hi : max 1 (rs.getD (j + 1) (0, 0)).1 ≤ i) (hi' : i < (rs.getD (j + 1) (0, 0)).2) :
    (rs.getD j (0, 0)).1 - 1 ≤ i - 1 ∧ i < max (rs.getD j (0, 0)).2 (rs.getD (j + 1) (0, 0)).2 := by
  have := (h.1 j (List.mem_range.mpr hl) h1 h2).2.1
  exact ⟨Nat.sub_le_sub_right (Nat.le_trans this (Nat.le_trans (Nat.le_max_right ..) hi)) 1,
    Nat.lt_of_lt_of_le hi' (Nat.le_max_right ..)⟩

-- non-vacuity: the two-k-mer chain band and the band with empty leading columns above are connected; a band with a hole
-- between two columns, one whose range jumps upwards, and one with an empty column in the middle are not
example : Connected (createFromMatchPath 8 8 3 1 ⟨0, 0, 0, 0⟩ [0, 1] [(0, 0), (4, 4)]).ranges := by decide +kernel
example : Connected (createFromMatchPath 9 9 2 0 ⟨0, 0, 0, 0⟩ [0] [(6, 6)]).ranges := by decide +kernel
example : ¬ Connected [(0, 2), (3, 4)] := by decide
example : ¬ Connected [(2, 4), (1, 5)] := by decide
example : ¬ Connected [(0, 2), (5, 0), (1, 3)] := by decide
example : NE [(0, 2), (1, 3)] 0 ∧ NE [(0, 2), (1, 3)] 1 := by decide

end Band

/-! ## The banded DP (mirror `RbV/Model/BandedDP.lean` of `compute_alignment`, run by the driver next to the code on the
model band: `band-model=impl`) -/

section DP
open RbV.Model RbV.Model.BandedDP
open RbV.Model.PairwiseFill (Tb Table TbState tbStep tbLoop)

/-- **Budget guard on the mirror.**  Whatever the mirror of `compute_alignment` returns, it is the documented sentinel
(score `MIN_SCORE`, no operations, all coordinates and lengths 0) **iff** the band has more than `MAX_CELLS` cells
(`band.num_cells() > MAX_CELLS`); together with `band_full_matrix_covers` (`num_cells = (m+1)(n+1)` without k-mer
matches) this is the budget clause of the property on the model. -/
theorem sentinel_iff_over_budget (sc : Sc) (cl : Clip) (x y : List Nat) (b : Band.Band) (o : Out)
    (h : computeAlignment sc cl x y b = some o) : isSentinel o = true ↔ Band.overBudget b = true := by
  unfold computeAlignment at h
  by_cases hb : Band.overBudget b = true
  · rw [if_pos hb] at h
    cases h
    exact ⟨fun _ => hb, fun _ => by decide⟩
  · rw [if_neg hb] at h
    suffices hf : ¬ isSentinel o = true from ⟨fun hs => absurd hs hf, fun h' => absurd h' hb⟩
    -- within budget the result carries the lengths of `x` and `y`; if both are 0 it is the empty alignment of score 0
    intro hs
    obtain ⟨hsc, hxl, hyl⟩ := isSentinel_fields hs
    by_cases hd : x.length = 0 ∨ y.length = 0
    · rw [if_pos hd] at h
      cases h
      have hl := degenerate_lens sc cl x.length y.length
      rw [hl.1] at hxl
      rw [hl.2] at hyl
      rw [hxl, hyl] at hsc
      have := RbV.Thm.GenLimits.min_score_range.2
      change (0 : Int) = Gen.Limits.minScorePairwise at hsc
      omega
    · rw [if_neg hd] at h
      simp only at h
      split at h
      · cases h
      · cases h
        exact hd (.inl hxl)

/-- **Budget clause on the mirrors, full band.**  Without k-mer matches the mirror of the aligner (band mirror followed by
the `compute_alignment` mirror) returns the sentinel iff the matrix itself exceeds the budget, `(m+1)(n+1) > MAX_CELLS`:
exactly the condition `acceptBanded` demands of the code (`overBudget`). -/
theorem fullband_sentinel_iff_matrix_over_budget (sc : Sc) (cl : Clip) (x y : List Nat) (k w : Nat) (path : List Nat)
    (o : Out) (h : computeAlignment sc cl x y (Band.createFromMatchPath x.length y.length k w cl path []) = some o) :
    isSentinel o = true ↔ Align.overBudget x y = true := by
  rw [sentinel_iff_over_budget sc cl x y _ o h, ← overBudget_fullMatrix]
  rfl

/-- **Termination of the mirror, fuel part** (`…_partial`: see below what is missing).  The traceback `loop` of the mirror
carries the fuel `2(m+n)+16`.  Every iteration that is not a `Stall` — a `usize` underflow of `i`/`j` (a panic of the
Rust text) or a zero-length clip that returns to the same layer of the same cell (the Rust `loop` then never ends; this
is how the aligner hung on empty sequences before /repo commit e62cffb) — strictly decreases the measure
`2(i+j) + [layer ≠ S field of the current cell] ≤ 2(m+n)+1` (`step_decreases`).  Hence the model answers `none` **only
if** the traceback really reaches a `Stall` state: the fuel is never the limiting factor, and a `none` of the model
(driver tag `drift-band-model-no-termination`) means a hang or a panic of the code on that input.  The budget guard and
`degenerate_alignment` (what e62cffb added for empty sequences) return without entering the loop.

*Missing for the full statement ("the mirror always returns"; not stated):* that no `Stall` state is reachable for any band satisfying
`band_ranges_in_bounds` when the penalties are non-positive and inside the `Sane` envelope.  This is a fact about the
values (a `Stall` cell holds a score derived from `MIN_SCORE`, which never wins a comparison on the traced path), i.e.
part of the soundness invariant of the fill (Theorem B), which is not proved for the banded mirror.  It is observed: the
driver evaluates the mirror on every call (`band-model=impl`; a `none` is `drift-band-model-no-termination`). -/
theorem banded_model_terminates_partial (sc : Sc) (cl : Clip) (x y : List Nat) (b : Band.Band)
    (h : computeAlignment sc cl x y b = none) :
    Band.overBudget b = false ∧ x ≠ [] ∧ y ≠ [] ∧
    ∃ st, Reach (tbTable sc cl x y b) (tbInit sc cl x y b) st ∧ Stall (tbTable sc cl x y b) st := by
  unfold computeAlignment at h
  by_cases hb : Band.overBudget b = true
  · simp [hb] at h
  · simp only [hb, Bool.false_eq_true, if_false] at h
    by_cases hd : x.length = 0 ∨ y.length = 0
    · simp only [hd, if_true] at h; cases h
    · simp only [hd, if_false] at h
      refine ⟨by simpa using hb, ?_, ?_, ?_⟩
      · rintro rfl; simp at hd
      · rintro rfl; simp at hd
      · split at h
        · rename_i hn
          exact stall_of_tbLoop_none _ _ _ hn (mu_init_lt_fuel ..)
        · simp at h

/-- the same, read forwards: if the traceback never reaches a `Stall` state, the mirror returns a result -/
theorem banded_model_terminates_of_no_stall (sc : Sc) (cl : Clip) (x y : List Nat) (b : Band.Band)
    (hns : ∀ st, Reach (tbTable sc cl x y b) (tbInit sc cl x y b) st → ¬ Stall (tbTable sc cl x y b) st) :
    (computeAlignment sc cl x y b).isSome = true := by
  cases h : computeAlignment sc cl x y b with
  | some o => rfl
  | none =>
    obtain ⟨_, _, _, st, hr, hs⟩ := banded_model_terminates_partial sc cl x y b h
    exact absurd hs (hns st hr)

/-! ### Non-vacuity and the repaired finding C02-split-gap on the mirror (regression example)

`x = AAAAA`, `y = AAC` (symbols 0, 1), match 1 / mismatch −1, `gap_open = −2`, `gap_extend = 0`, x clips `MIN_SCORE`,
y clips free, `k = 1`, `w = 0`, match path `(0,0), (1,1)` (`custom_with_match_path`; corpus line of `corpus/C02.txt`):
code and mirror return `M M I Yclip(1) I I`.  The returned path is one run of three insertions: 2 + (−2) = 0.  Before
/repo commit 1d30e2c the three transitions that start a gap right after a suffix clip (`clip_score` of the last column,
"recompute the last column of I", the `D` candidate of row m) charged `gap_open` unconditionally and the reported score
was −2; since 1d30e2c (`gap_open_after_yclip` / `gap_open_after_xclip`: no gap-open when the clipped path already ends
in the same kind of gap) code and mirror report 0 = the recomputed score. -/

def scSG : Sc := ⟨fun a b => if a = b then 1 else -1, -2, 0⟩
def clSG : Clip := ⟨minScore, minScore, 0, 0⟩
def bandSG : Band.Band := Band.createFromMatchPath 5 3 1 0 clSG [0, 1] [(0, 0), (1, 1)]

example : bandSG.ranges = [(0, 1), (1, 2), (2, 4), (4, 6)] := by decide +kernel

/-- regression example for the repaired recurrence: the mirror reports the recomputed score 0 on the former
split-gap input (the code after 1d30e2c returns the same on this input: observed, corpus line, `band-model=impl`) … -/
theorem split_gap_repaired_reported :
    computeAlignment scSG clSG [0, 0, 0, 0, 0] [0, 0, 1] bandSG =
      some ⟨0, 0, 5, 0, 2, 5, 3, [.core .mat, .core .mat, .core .ins, .yclip 1, .core .ins, .core .ins]⟩ := by
  decide +kernel

/-- … which is what the returned alignment scores under the documented model; the value the unpatched transition
computed (−2: two gap-opens for one run of insertions) is refused by the acceptance function -/
theorem split_gap_repaired_recomputed :
    acceptValid scSG clSG false [0, 0, 0, 0, 0] [0, 0, 1]
      ⟨0, 0, 5, 0, 2, 5, 3, [.core .mat, .core .mat, .core .ins, .yclip 1, .core .ins, .core .ins]⟩ = true ∧
    acceptValid scSG clSG false [0, 0, 0, 0, 0] [0, 0, 1]
      ⟨-2, 0, 5, 0, 2, 5, 3, [.core .mat, .core .mat, .core .ins, .yclip 1, .core .ins, .core .ins]⟩ = false := by
  decide +kernel

-- what the unpatched transition computed in the deciding cell (4, 3) of this input (band `4..6` in the last column):
-- the insertion candidate after the suffix clip tracked in `Sn[3]` (= S(3,2) + yclip_suffix = 0, recorded in column
-- `n − Ly[3] = 2`, where the path ends with the insertion of row 3), with and without the second gap-open
example :
    let f := fill scSG clSG #[0, 0, 0, 0, 0] #[0, 0, 1] bandSG.ranges.toArray
    f.Sn.getD 3 minScore = 0 ∧ f.Ly.getD 3 0 = 1 ∧ f.tS.getD (3 * 4 + (3 - 1)) .start = .ins ∧
    -- unpatched: Sn[3] + gap_open + gap_extend = −2;  repaired: Sn[3] + 0 + gap_extend = 0 = I[3 % 2][4], pointer YSUF
    f.Sn.getD 3 minScore + scSG.go + scSG.ge = -2 ∧ f.I.getD (1 * 6 + 4) minScore = 0 ∧
    f.tI.getD (4 * 4 + 3) .start = .ysuf := by
  decide +kernel

/-! ### The finding C02-row0-pointer on the mirror after its repair (regression example)

`x = CCCCC`, `y = AAAAA` (65 = A, 67 = C; w(A,A) = 5, w(A,C) = 0, w(C,A) = −4, w(C,C) = 3), `gap_open = −2`,
`gap_extend = 0`, clips xp = xs = ys = `MIN_SCORE`, yp = −3, `k = 1`, `w = 2`, `custom_with_matches` with the pairs
(2,1), (3,3), (4,4): row 0 of the last column is outside the band (`ranges[5] = 1..6`).  Before
/repo commit dc532be `Sn[0]` kept its preload `yclip_prefix = −3` (pointer `YPRE` at (0, n)) and the
last column continued from it with insertions (−3 − 2 = −5, the reported score), while the loop over row 0 overwrote the
pointer at (0, n) with `DEL` (deleting y costs −2 > −3) and the traceback returned `D⁵ Yclip(0) I⁵`, which scores −4.
Since dc532be the preload of `Sn[0]` also considers the deletion of all of y (value −2, pointer `DEL`): the same path
is returned and the reported score is −4. -/

def scR0 : Sc := ⟨fun a b => if a = 65 ∧ b = 65 then 5 else if a = 65 ∧ b = 67 then 0 else if a = 67 ∧ b = 65 then -4 else 3, -2, 0⟩
def clR0 : Clip := ⟨minScore, minScore, -3, minScore⟩
def bandR0 : Band.Band := Band.createFromMatchPath 5 5 1 2 clR0 [0, 1, 2] [(2, 1), (3, 3), (4, 4)]

/-- regression example on the mirror: on this band it returns `D⁵ Yclip(0) I⁵` with score −4, which `acceptValid` accepts; the
score −5 (what the tree before dc532be reported) is refused -/
theorem row0_pointer_repaired :
    bandR0.ranges = [(0, 5), (0, 6), (0, 6), (0, 6), (0, 6), (1, 6)] ∧
    computeAlignment scR0 clR0 [67, 67, 67, 67, 67] [65, 65, 65, 65, 65] bandR0 =
      some ⟨-4, 0, 5, 0, 5, 5, 5, [.core .del, .core .del, .core .del, .core .del, .core .del, .yclip 0,
        .core .ins, .core .ins, .core .ins, .core .ins, .core .ins]⟩ ∧
    acceptValid scR0 clR0 false [67, 67, 67, 67, 67] [65, 65, 65, 65, 65]
      ⟨-4, 0, 5, 0, 5, 5, 5, [.core .del, .core .del, .core .del, .core .del, .core .del, .yclip 0,
        .core .ins, .core .ins, .core .ins, .core .ins, .core .ins]⟩ = true ∧
    -- what the unpatched code reported is refused
    acceptValid scR0 clR0 false [67, 67, 67, 67, 67] [65, 65, 65, 65, 65]
      ⟨-5, 0, 5, 0, 5, 5, 5, [.core .del, .core .del, .core .del, .core .del, .core .del, .yclip 0,
        .core .ins, .core .ins, .core .ins, .core .ins, .core .ins]⟩ = false := by
  decide +kernel

-- non-vacuity of `sentinel_iff_over_budget` / `banded_model_terminates_of_no_stall`: the mirror returns a result here
example : (computeAlignment scSG clSG [0, 0, 0, 0, 0] [0, 0, 1] bandSG).isSome = true :=
  congrArg Option.isSome split_gap_repaired_reported
-- the hang repaired by e62cffb, on the mirror: without the `degenerate_alignment` guard the traceback loop stalls on
-- an empty y (zero-length clip at the origin): fuel exhausted, and the initial state is a `Stall`
example :
    let T := (fill scSG ⟨0, 0, 0, 0⟩ #[0, 0] #[] #[(0, 3)]).table 2 0
    tbLoop T (tbFuel 2 0) ⟨2, 0, T.tS 2 0, [], 0, 0, 2, 0⟩ = none := by decide +kernel

/-! ### Soundness of the banded recurrences ("Theorem B"), first step: one interior cell

`JW sc cl x y W L i j v` (`Lemmas/FillSound.lean`): `v ≤ MIN_SCORE + (i+j)·W`
(*junk*: derived from the `MIN_SCORE` of an out-of-band, reset or never written cell) **or** `v` is bounded by the
documented score of a real alignment of a sub-range pair of `x[0..i]`, `y[0..j]` that ends at `(i, j)` — for `L = ins/del`
ending with an insertion/deletion, so that extending the gap for `gap_extend` alone is justified (`Wit`). -/

open RbV.Model.PairwiseFill (JW Hyp) in
/-- **Soundness of the S/I/D recurrences of the banded mirror, one cell of the main loop** (`…_partial`).  `cellStep` is the
function `Model/BandedDP.fill` applies to every in-band cell `(i+1, j+1)` of the main loop (all rows `1..m`, all columns
`1..n`).  With non-positive gap and clip penalties and `W ≥ 0` bounding the substitution scores (`Hyp`), if the values the cell
reads are junk-or-witnessed *for the positions they are read as* — whatever slots of the rolling arrays they come from:
in-band, reset to `MIN_SCORE`, or stale from column `j − 1` — then the stored `S`, `I`, `D` are junk-or-witnessed at
`(i+1, j+1)`: no cell value exceeds the score of a real alignment prefix ending there in that layer unless it is junk.
The transitions repaired by /repo 1d30e2c are included: a deletion after `S[prev][i+1]` that pays no `gap_open`
(`gap_open_after_xclip` = 0) is justified when that value is junk-or-witnessed **in layer D**, the `clip_score` candidate of
the last column with `gap_open_after_yclip` = 0 when `Sn[i]` is junk-or-witnessed **in layer I** (a suffix clip keeps the
layer: `jw_xsuf_del`, `jw_ysuf_ins` in `Lemmas/BandedSound.lean`) — with `gap_open` charged any layer will do; and the
`Sn[0]` term of `xclip_score` in the last column (`jw_row0_xpre`).  For `j + 1 < n`, `i + 1 < m` take `clipI = none`,
`gox = gap_open`, `yp' = yclip_prefix`.

*Missing for Theorem B* (not stated: the score `computeAlignment` reports is the score of the alignment it returns, for
every connected band): (1) the loop invariant of `fill` over the rolling arrays — which array slot is junk-or-witnessed
for which position, in particular that the stale values of column `j − 1` left outside the band of column `j + 1` are
never read as values of column `j` (this is where `Band.Connected` — starts and ends non-decreasing — enters), and that the
S field `DEL` / `INS` of the cell a tracker points to implies the layer-D / layer-I hypothesis used here; (2) the cells of
row 0 / column 0, the trackers `Sn`/`Ly`, `S[·][m]`/`Lx`, the post-loops ("Handle suffix clipping", "recompute the last
column of I") and the loops over row 0 / column 0; (3) agreement of the traceback with the witness; (4) that the reported value is not junk
(connectedness again). -/
theorem banded_cell_sound_partial (sc : Sc) (cl : Clip) (x y : List Nat) (W : Int) (H : Hyp sc cl x y W)
    (i j : Nat) (hi : i + 1 ≤ x.length) (hj : j + 1 ≤ y.length)
    (isM : Bool) (sDiag iUp sUp dLeft sLeft base : Int) (tsUp tsLeft : Tb) (clipI : Option Int) (gox yp' : Int)
    (hSd : JW sc cl x y W .none i j sDiag)
    (hIu : JW sc cl x y W .ins i (j + 1) iUp) (hSu : JW sc cl x y W .none i (j + 1) sUp)
    (hDl : JW sc cl x y W .del (i + 1) j dLeft)
    (hSl : (gox = sc.go ∧ JW sc cl x y W .none (i + 1) j sLeft) ∨ (gox = 0 ∧ JW sc cl x y W .del (i + 1) j sLeft))
    (hB : JW sc cl x y W .none (i + 1) (j + 1) base)
    (hC : ∀ c, clipI = some c → j + 1 = y.length ∧ ∃ sn goy, c = sn + goy + sc.ge ∧
      ((goy = sc.go ∧ JW sc cl x y W .none i y.length sn) ∨ (goy = 0 ∧ JW sc cl x y W .ins i y.length sn)))
    (hY : yp' = cl.yp ∨ (j + 1 = y.length ∧ ∃ sn0, yp' = max cl.yp sn0 ∧ JW sc cl x y W .none 0 y.length sn0)) :
    let c := cellStep sc isM (x.getD i 0 = y.getD j 0) (sc.w (x.getD i 0) (y.getD j 0)) sDiag iUp sUp dLeft sLeft base
      tsUp tsLeft clipI gox (cl.xp + max yp' (sc.go + sc.ge * (((j + 1 : Nat) : Int))))
      (cl.yp + sc.go + sc.ge * (((i + 1 : Nat) : Int)))
    JW sc cl x y W .none (i + 1) (j + 1) c.s ∧ JW sc cl x y W .ins (i + 1) (j + 1) c.i ∧
      JW sc cl x y W .del (i + 1) (j + 1) c.d :=
  cellStep_sound H i j hi hj isM sDiag iUp sUp dLeft sLeft base tsUp tsLeft clipI gox yp' hSd hIu hSu hDl hSl hB hC hY

open RbV.Model.PairwiseFill (JW Hyp) in
/-- **Why the repaired transitions may drop `gap_open`.**  `gap_open_after_xclip` / `gap_open_after_yclip` test the S field
of the cell a suffix-clip tracker points to.  For a main-loop cell that field is `DEL` (`INS`) only if `best_d_score`
(`best_i_score`) won, so the S value is the D (I) value and is junk-or-witnessed *in that layer*; the tracker updates
`S[curr][m] = S[curr][i+1] + xclip_suffix` (rows below m) and `Sn[i+1] = S[curr][i+1] + yclip_suffix` keep the layer.  These are
precisely the layer hypotheses `banded_cell_sound_partial` asks of `sLeft` (with `gox = 0`) and of `Sn[i]` (with
`goy = 0`): the clipped alignment still ends with the deletion / insertion, the next one extends the same gap. -/
theorem banded_tracker_layer_sound (sc : Sc) (cl : Clip) (x y : List Nat) (W : Int) (H : Hyp sc cl x y W)
    (i j : Nat) (hi : i + 1 ≤ x.length) (hj : j + 1 ≤ y.length)
    (isM : Bool) (sDiag iUp sUp dLeft sLeft base : Int) (tsUp tsLeft : Tb) (clipI : Option Int) (gox yp' : Int)
    (hSd : JW sc cl x y W .none i j sDiag)
    (hIu : JW sc cl x y W .ins i (j + 1) iUp) (hSu : JW sc cl x y W .none i (j + 1) sUp)
    (hDl : JW sc cl x y W .del (i + 1) j dLeft)
    (hSl : (gox = sc.go ∧ JW sc cl x y W .none (i + 1) j sLeft) ∨ (gox = 0 ∧ JW sc cl x y W .del (i + 1) j sLeft))
    (hB : JW sc cl x y W .none (i + 1) (j + 1) base)
    (hC : ∀ c, clipI = some c → j + 1 = y.length ∧ ∃ sn goy, c = sn + goy + sc.ge ∧
      ((goy = sc.go ∧ JW sc cl x y W .none i y.length sn) ∨ (goy = 0 ∧ JW sc cl x y W .ins i y.length sn)))
    (hY : yp' = cl.yp ∨ (j + 1 = y.length ∧ ∃ sn0, yp' = max cl.yp sn0 ∧ JW sc cl x y W .none 0 y.length sn0)) :
    let c := cellStep sc isM (x.getD i 0 = y.getD j 0) (sc.w (x.getD i 0) (y.getD j 0)) sDiag iUp sUp dLeft sLeft base
      tsUp tsLeft clipI gox (cl.xp + max yp' (sc.go + sc.ge * (((j + 1 : Nat) : Int))))
      (cl.yp + sc.go + sc.ge * (((i + 1 : Nat) : Int)))
    (c.ts = .del → i + 1 < x.length → JW sc cl x y W .del x.length (j + 1) (c.s + cl.xs)) ∧
    (c.ts = .ins → JW sc cl x y W .ins (i + 1) y.length (c.s + cl.ys)) := by
  intro c
  have h := cellStep_sound H i j hi hj isM sDiag iUp sUp dLeft sLeft base tsUp tsLeft clipI gox yp' hSd hIu hSu hDl hSl hB
    hC hY
  refine ⟨fun hts hlt => ?_, fun hts => ?_⟩
  · have e : c.s = c.d := (cellStep_field ..).2 hts
    rw [e]; exact jw_xsuf_del H h.2.2 hlt
  · have e : c.s = c.i := (cellStep_field ..).1 hts
    rw [e]; exact jw_ysuf_ins H h.2.1 hj

-- non-vacuity: x = y = [0], unit scores, local clips: the cell (1, 1) = (m, n) reads S(0,0) = 0 (the empty alignment),
-- `MIN_SCORE` everywhere else and the last-column candidate `clip_score = Sn[0] + gap_open + gap_extend` with `Sn[0] = 0`
-- (clip all of y, free); `cellStep` stores S = 1 (the match), and 1 is junk-or-witnessed at (1, 1)
open RbV.Model.PairwiseFill (JW Hyp jw_min jw_wit wit_mono wit_pre pre) in
example : JW scU clLocal [0] [0] 1 .none 1 1 1 := by
  have H : Hyp scU clLocal [0] [0] 1 :=
    ⟨by decide, by decide, by decide, by decide, by decide, by decide, by decide, by
      intro i j hi hj
      simp only [scU]
      split <;> omega⟩
  have h0 : JW scU clLocal [0] [0] 1 .none 0 0 0 :=
    jw_wit (wit_mono (wit_pre (Nat.zero_le _) (Nat.zero_le _)) (by simp [pre]))
  have h01 : JW scU clLocal [0] [0] 1 .none 0 [0].length 0 :=
    jw_wit (wit_mono (wit_pre (Nat.zero_le _) (Nat.le_refl _)) (by simp [pre, clLocal]))
  have h := (banded_cell_sound_partial scU clLocal [0] [0] 1 H 0 0 (by decide) (by decide) true
    0 minScore minScore minScore minScore minScore .start .start (some (0 + scU.go + scU.ge)) scU.go clLocal.yp h0
    (jw_min H.W0 _ _ _) (jw_min H.W0 _ _ _) (jw_min H.W0 _ _ _) (Or.inl ⟨rfl, jw_min H.W0 _ _ _⟩) (jw_min H.W0 _ _ _)
    (fun c hc => ⟨rfl, 0, scU.go, (Option.some.inj hc).symm, Or.inl ⟨rfl, h01⟩⟩) (Or.inl rfl)).1
  -- `h` speaks of `(cellStep …).s`; what is left is that this value is 1
  refine cast (congrArg (JW scU clLocal [0] [0] 1 .none 1 1) ?_) h
  decide +kernel

-- non-vacuity of `banded_tracker_layer_sound`: x = [0], y = [1], mismatch −10, go −5, ge −1, x clips forbidden, y clips free:
-- the cell (1, 1) reads S(0,1) = 0 (y prefix clipped) and stores S = I = −6 with S field `INS`; the y-suffix tracker
-- `Sn[1] = −6 + 0` is junk-or-witnessed in layer I at (1, n)
def scTL : Sc := ⟨fun a b => if a = b then 1 else -10, -5, -1⟩
def clTL : Clip := ⟨minScore, minScore, 0, 0⟩

open RbV.Model.PairwiseFill (JW Hyp jw_min jw_wit wit_mono wit_pre pre) in
example : JW scTL clTL [0] [1] 1 .ins 1 1 (-6) := by
  have H : Hyp scTL clTL [0] [1] 1 :=
    ⟨by decide, by decide, by decide, by decide, by decide, by decide, by decide, by
      intro i j hi hj
      simp only [scTL]
      split <;> omega⟩
  have h0 : JW scTL clTL [0] [1] 1 .none 0 0 0 :=
    jw_wit (wit_mono (wit_pre (Nat.zero_le _) (Nat.zero_le _)) (by simp [pre]))
  have h1 : JW scTL clTL [0] [1] 1 .none 0 (0 + 1) 0 :=
    jw_wit (wit_mono (wit_pre (Nat.zero_le _) (by decide)) (by simp [pre, clTL]))
  have h := (banded_tracker_layer_sound scTL clTL [0] [1] 1 H 0 0 (by decide) (by decide) true
    0 minScore 0 minScore minScore minScore .start .start none scTL.go clTL.yp h0
    (jw_min H.W0 _ _ _) h1 (jw_min H.W0 _ _ _) (Or.inl ⟨rfl, jw_min H.W0 _ _ _⟩) (jw_min H.W0 _ _ _)
    (fun c hc => by cases hc) (Or.inl rfl)).2
  -- left: `(cellStep …).s + clTL.ys = -6` and the premise of `h`, `(cellStep …).ts = .ins`
  refine cast (congrArg (JW scTL clTL [0] [1] 1 .ins 1 1) ?_) (h ?_) <;> decide +kernel

end DP

/-! ## The band construction tied to the *source text* (`RbV/Gen/SrcBand.lean`: `struct Band` of banded.rs translated by
`tools/rs2lean_genband.py` on every `./check C02`; proofs in `RbV/Thm/GenSrcBand.lean`)

A `Band` value of the translated code is the tuple `toT b = (rows, cols, ranges)`.  The tuning constant `lazy_extend` of
`set_boundaries` is a *hole*: the translated function calls the separately generated `setBoundaries_lazy_extend`, and the
equalities are stated for whatever value `L` that initialiser returns, against the mirror with `lazy_extend = L`
(`RbV/Model/BandL.lean`; at `L = 2k` it is the mirror `Model/Band.lean` the driver runs, by `rfl`).  The band theorems hold
for every `L` (`RbV/Lemmas/BandL.lean`), so a change of the constant (seeded C02-H1 `3k`, `mutants/C02-b2-lazy-extend.patch` `2k + 1`) is re-proved. -/

section BandSource
open RbV.Model.Band RbV.Gen RbV.Rs RbV.Thm.GenSrcBand

/-- `Band::new`, `Band::full_matrix`, `Band::num_cells` (the sum fits `usize`) as translated = the mirror -/
theorem band_basic_source_eq_model (m n : Nat) (b : Band) (hm : m + 1 < 2 ^ 64) (hn : n + 1 < 2 ^ 64)
    (hc : numCells b < 2 ^ 64) :
    SrcBand.new m n = Res.ok (toT (new m n)) ∧ SrcBand.fullMatrix (toT b) = Res.ok (toT (fullMatrix b)) ∧
    SrcBand.numCells (toT b) = Res.ok (numCells b) :=
  ⟨new_eq_model m n hm hn, fullMatrix_eq_model b, numCells_eq_model b hc⟩

/-- `Band::add_entry` as translated = the mirror (`Shape`: one range per column) -/
theorem band_add_entry_source_eq_model (b : Band) (r c w : Nat) (hsh : Shape b) (h1 : r + w + 1 < 2 ^ 64)
    (h2 : c + w + 1 < 2 ^ 64) : SrcBand.addEntry (toT b) (r, c) w = Res.ok (toT (addEntry b r c w)) :=
  addEntry_eq_model b r c w hsh h1 h2

/-- `Band::add_kmer` as translated (three `for` loops and the `loop` that counts down) = the mirror (pointwise `forCols`
updates with the counters in closed form), under the two `debug_assert!`s of the text -/
theorem band_add_kmer_source_eq_model (b : Band) (r c k w : Nat) (hsh : Shape b) (hr : r + k ≤ b.rows) (hc : c + k ≤ b.cols)
    (hrows : b.rows < 2 ^ 62) (hcols : b.cols < 2 ^ 62) (hk : k < 2 ^ 62) (hw : w < 2 ^ 62) :
    SrcBand.addKmer (toT b) (r, c) k w = Res.ok (toT (addKmer b r c k w)) :=
  addKmer_eq_model b r c k w hsh hr hc hrows hcols hk hw

/-- `Band::add_gap` as translated = the mirror, when `start ≤ end` (otherwise the `u32` subtraction panics).  No bound on the
size of the gap: the product `ncols · (r − start.0)` is computed in `u64` since the repair of C02-addgap-u32-overflow (before it,
in `u32`, the text panicked / wrapped for `nrows · ncols ≥ 2^32`). -/
theorem band_add_gap_source_eq_model (b : Band) (s e : Nat × Nat) (w : Nat) (hsh : Shape b)
    (hs1 : s.1 ≤ e.1) (hs2 : s.2 ≤ e.2) (he1 : e.1 < 2 ^ 32) (he2 : e.2 < 2 ^ 32) (hw : w < 2 ^ 63) :
    SrcBand.addGap (toT b) s e w = Res.ok (toT (addGap b s e w)) :=
  (addGap_eq_model b s e w hsh hs1 hs2 he1 he2 hw).1

/-- `Band::set_boundaries` as translated = the mirror with `lazy_extend = L`, for whatever `L` the initialiser computes.
Hypotheses (sufficient for the text not to panic, not the exact condition): one range per column (`Shape`), `start` and `end + k`
inside the matrix, `k > 0`, `rows, cols < 2^32`, the clip penalties in `[-2^30, 2^30)` (`ClipFits`: `MIN_SCORE` fits, `i32::MIN` does
not), `w, L < 2^62`. -/
theorem band_set_boundaries_source_eq_model (L : Nat) (b : Band) (st en : Nat × Nat) (k w : Nat) (go ge : Int)
    (ms : Option (Int × Int)) (cl : Clip)
    (hL : SrcBand.setBoundaries_lazy_extend (toT b) st en k w (go, ge, ms, cl.xp, cl.xs, cl.yp, cl.ys) = Res.ok L)
    (hcl : ClipFits cl) (hsh : Shape b) (h1 : st.1 ≤ b.rows) (h2 : st.2 ≤ b.cols) (h3 : en.1 + k ≤ b.rows)
    (h4 : en.2 + k ≤ b.cols) (hk : 0 < k) (hrows : b.rows < 2 ^ 32) (hcols : b.cols < 2 ^ 32)
    (hw : w < 2 ^ 62) (hL62 : L < 2 ^ 62) :
    SrcBand.setBoundaries (toT b) st en k w (go, ge, ms, cl.xp, cl.xs, cl.yp, cl.ys) =
      Res.ok (toT (setBoundariesL L b st en k w cl)) :=
  setBoundaries_eq_model L b st en k w go ge ms cl hL hcl hsh h1 h2 h3 h4 hk hrows hcols hw hL62

/-- the initialiser of `lazy_extend` found in the text returns, for `k < 2^32`, a value `L < 2^62` that does not depend on the band
or on `start` / `end` (`k`, `w` and the scoring held fixed); so the hypotheses `hL`, `hL62` of
the equalities are satisfiable (the one statement about the constant that has to survive a retuning) -/
theorem band_lazy_extend_source_total (self : Nat × Nat × List (Nat × Nat)) (st en : Nat × Nat) (k w : Nat)
    (sc : Int × Int × Option (Int × Int) × Int × Int × Int × Int) (hk : k < 2 ^ 32) :
    ∃ L, SrcBand.setBoundaries_lazy_extend self st en k w sc = Res.ok L ∧ L < 2 ^ 62 ∧
      ∀ self' st' en', SrcBand.setBoundaries_lazy_extend self' st' en' k w sc = Res.ok L :=
  lazy_extend_total self st en k w sc hk

/-- **`Band::create_from_match_path` as translated = the mirror** (`createFromMatchPathL L`), hence — for the pinned constant
— the mirror the driver runs next to the code (`createFromMatchPathL_pinned`).  Hypotheses (sufficient for the text not to panic):
`m + 1, n + 1 < 2^32` (coordinates are `u32`), `k > 0`, the clip penalties in `[-2^30, 2^30)` (`ClipFits`), `w, L < 2^62`, and with
matches a non-empty path of valid indices whose k-mers lie inside the sequences and follow each other (`PathOk`). -/
theorem band_create_from_match_path_source_eq_model (L : Nat) (x y : List Nat) (k w : Nat) (go ge : Int)
    (msc : Option (Int × Int)) (cl : Clip) (path : List Nat) (ms : List (Nat × Nat))
    (hL : ∀ self st en, SrcBand.setBoundaries_lazy_extend self st en k w (go, ge, msc, cl.xp, cl.xs, cl.yp, cl.ys) = Res.ok L)
    (hL62 : L < 2 ^ 62) (hcl : ClipFits cl) (hk : 0 < k) (hw : w < 2 ^ 62)
    (hm : x.length + 1 < 2 ^ 32) (hn : y.length + 1 < 2 ^ 32)
    (hpath : ms ≠ [] → path ≠ [] ∧ PathOk x.length y.length k ms none path) :
    SrcBand.createFromMatchPath x y k w (go, ge, msc, cl.xp, cl.xs, cl.yp, cl.ys) path ms =
      Res.ok (toT (createFromMatchPathL L x.length y.length k w cl path ms)) :=
  createFromMatchPath_eq_model L x y k w go ge msc cl path ms hL hL62 hcl hk hw hm hn hpath

/-- `Band::create_with_matches` and `Band::create` as translated (`sparse::sdpkpp`, `sparse::find_kmer_matches` abstract) =
the mirror on the matches and the path they return — *if* that path is non-empty and `PathOk` whenever there are matches (an
assumption about `sdpkpp`, proved nowhere), and under the hypotheses of `band_create_from_match_path_source_eq_model` -/
theorem band_create_source_eq_model
    (sdpkpp : List (Nat × Nat) → Nat → Nat → Int → Int → Res (List Nat × Nat × List (Nat × Int)))
    (fkm : List Nat → List Nat → Nat → Res (List (Nat × Nat)))
    (L : Nat) (x y : List Nat) (k w : Nat) (go ge : Int) (msc : Option (Int × Int)) (cl : Clip) (ms : List (Nat × Nat))
    (res : List Nat × Nat × List (Nat × Int)) (hfk : fkm x y k = Res.ok ms)
    (hsd : ms ≠ [] → sdpkpp ms k (Rs.castUnsigned 32 (matchScore msc)) go ge = Res.ok res)
    (hL : ∀ self st en, SrcBand.setBoundaries_lazy_extend self st en k w (go, ge, msc, cl.xp, cl.xs, cl.yp, cl.ys) = Res.ok L)
    (hL62 : L < 2 ^ 62) (hcl : ClipFits cl) (hk : 0 < k) (hw : w < 2 ^ 62)
    (hm : x.length + 1 < 2 ^ 32) (hn : y.length + 1 < 2 ^ 32)
    (hpath : ms ≠ [] → res.1 ≠ [] ∧ PathOk x.length y.length k ms none res.1) :
    SrcBand.createWithMatches sdpkpp x y k w (go, ge, msc, cl.xp, cl.xs, cl.yp, cl.ys) ms =
      Res.ok (toT (createFromMatchPathL L x.length y.length k w cl res.1 ms)) ∧
    SrcBand.create sdpkpp fkm x y k w (go, ge, msc, cl.xp, cl.xs, cl.yp, cl.ys) =
      Res.ok (toT (createFromMatchPathL L x.length y.length k w cl res.1 ms)) :=
  ⟨createWithMatches_eq_model sdpkpp L x y k w go ge msc cl ms res hsd hL hL62 hcl hk hw hm hn hpath,
   create_eq_model sdpkpp fkm L x y k w go ge msc cl ms res hfk hsd hL hL62 hcl hk hw hm hn hpath⟩

/-- **`band_ranges_in_bounds` for the band the translated constructor builds**: whenever the translated
`create_from_match_path` is in the domain of the equality, the value it returns has `rows = m+1`, `cols = n+1`, one range per
column and all bounds `≤ m+1` — what the index arithmetic of `compute_alignment` relies on; for every value of `lazy_extend`. -/
theorem band_source_ranges_in_bounds (L : Nat) (x y : List Nat) (k w : Nat) (go ge : Int)
    (msc : Option (Int × Int)) (cl : Clip) (path : List Nat) (ms : List (Nat × Nat))
    (hL : ∀ self st en, SrcBand.setBoundaries_lazy_extend self st en k w (go, ge, msc, cl.xp, cl.xs, cl.yp, cl.ys) = Res.ok L)
    (hL62 : L < 2 ^ 62) (hcl : ClipFits cl) (hk : 0 < k) (hw : w < 2 ^ 62)
    (hm : x.length + 1 < 2 ^ 32) (hn : y.length + 1 < 2 ^ 32)
    (hpath : ms ≠ [] → path ≠ [] ∧ PathOk x.length y.length k ms none path) :
    ∃ t, SrcBand.createFromMatchPath x y k w (go, ge, msc, cl.xp, cl.xs, cl.yp, cl.ys) path ms = Res.ok t ∧
      t.1 = x.length + 1 ∧ t.2.1 = y.length + 1 ∧ t.2.2.length = y.length + 1 ∧
      ∀ j, j ≤ y.length → ∃ p, t.2.2[j]? = some p ∧ p.1 ≤ x.length + 1 ∧ p.2 ≤ x.length + 1 := by
  have h := createFromMatchPathL_wf L x.length y.length k w cl path ms
  exact ⟨_, createFromMatchPath_eq_model L x y k w go ge msc cl path ms hL hL62 hcl hk hw hm hn hpath,
    h.rows, h.cols, h.len, fun _ => h.get⟩

/-- **`band_contains_matches` for the translated constructor**: every k-mer of the path is inside the band it returns -/
theorem band_source_contains_matches (L : Nat) (x y : List Nat) (k w : Nat) (go ge : Int)
    (msc : Option (Int × Int)) (cl : Clip) (path : List Nat) (ms : List (Nat × Nat)) (hne : ms ≠ [])
    (hL : ∀ self st en, SrcBand.setBoundaries_lazy_extend self st en k w (go, ge, msc, cl.xp, cl.xs, cl.yp, cl.ys) = Res.ok L)
    (hL62 : L < 2 ^ 62) (hcl : ClipFits cl) (hk : 0 < k) (hw : w < 2 ^ 62)
    (hm : x.length + 1 < 2 ^ 32) (hn : y.length + 1 < 2 ^ 32)
    (hpath : path ≠ [] ∧ PathOk x.length y.length k ms none path) :
    ∃ b : Band, SrcBand.createFromMatchPath x y k w (go, ge, msc, cl.xp, cl.xs, cl.yp, cl.ys) path ms = Res.ok (toT b) ∧
      ∀ idx ∈ path, ∀ t, t < k → Mem b ((ms.getD idx (0, 0)).1 + t) ((ms.getD idx (0, 0)).2 + t) :=
  ⟨_, createFromMatchPath_eq_model L x y k w go ge msc cl path ms hL hL62 hcl hk hw hm hn (fun _ => hpath),
    fun idx hidx => createFromMatchPathL_covers L x.length y.length k w cl path ms hne
      (fun i hi => (pathOk_mem hpath.2 i hi).2) idx hidx⟩

/-- **`band_full_matrix_covers` for the translated constructors**: without matches `create_from_match_path` and
`create_with_matches` as translated return the band whose every column is `0..m+1` (no hypothesis on path, clips, `k`, `w`,
`lazy_extend`, the sparse DP), and the translated `num_cells` of it is `(m+1)(n+1)`. -/
theorem band_source_full_matrix_covers
    (sdpkpp : List (Nat × Nat) → Nat → Nat → Int → Int → Res (List Nat × Nat × List (Nat × Int)))
    (x y : List Nat) (k w : Nat) (sc : Int × Int × Option (Int × Int) × Int × Int × Int × Int) (path : List Nat)
    (hm : x.length + 1 < 2 ^ 32) (hn : y.length + 1 < 2 ^ 32) :
    SrcBand.createFromMatchPath x y k w sc path [] =
      Res.ok (x.length + 1, y.length + 1, List.replicate (y.length + 1) (0, x.length + 1)) ∧
    SrcBand.createWithMatches sdpkpp x y k w sc [] =
      Res.ok (x.length + 1, y.length + 1, List.replicate (y.length + 1) (0, x.length + 1)) ∧
    SrcBand.numCells (x.length + 1, y.length + 1, List.replicate (y.length + 1) (0, x.length + 1)) =
      Res.ok ((x.length + 1) * (y.length + 1)) := by
  have e : toT (fullMatrix (new x.length y.length)) =
      (x.length + 1, y.length + 1, List.replicate (y.length + 1) (0, x.length + 1)) := rfl
  refine ⟨?_, ?_, ?_⟩
  · unfold SrcBand.createFromMatchPath
    rw [new_eq_model _ _ (by omega) (by omega)]
    simp only [Res.ok_bind, List.isEmpty_nil, if_true, Res.pure_eq_ok]
    rw [fullMatrix_eq_model, ← e]
  · unfold SrcBand.createWithMatches
    simp only [List.isEmpty_nil, if_true]
    rw [new_eq_model _ _ (by omega) (by omega)]
    simp only [Res.ok_bind]
    rw [fullMatrix_eq_model, ← e]
  · rw [← e, numCells_eq_model _ (numCells_full_lt hm hn), numCells_full]

/-- **Budget guard on the source text** (`…_partial`: the DP from `self.traceback.init(m, n)` on is the abstract parameter `fill`
— its column loop is translated separately (`Gen/SrcBandedFill.lean`) and not plugged in here, so "the DP never returns the sentinel", the other half of the iff, is a statement about the mirror only:
`sentinel_iff_over_budget`).  The translated head of `compute_alignment`, run on a band `b`, returns the documented sentinel
(`MIN_SCORE` of `Gen/Limits.lean`, all coordinates and lengths 0, no operations, mode `Custom`) together with the unchanged
aligner when `num_cells(b) > MAX_CELLS`; within budget it returns what the translated `degenerate_alignment` (a sequence is
empty; `banded_degenerate_source_eq_model`) resp. the DP return.  With `band_source_full_matrix_covers`: without matches the
guard is `(m+1)(n+1) > MAX_CELLS`.  Seeded C02-3 (`>=`) breaks this equation. -/
theorem band_source_sentinel_iff_over_budget_partial {Dp : Type}
    (fill : _ → List Nat → List Nat → Nat → Nat → Res _)
    (sc : Int × Int × Option (Int × Int) × Int × Int × Int × Int) (b : Band) (k w : Nat) (dp : Dp) (x y : List Nat)
    (hc : numCells b < 2 ^ 64) :
    (Model.Band.overBudget b = true →
      SrcBand.computeAlignment fill (sc, toT b, k, w, dp) x y = Res.ok (sentinelT, (sc, toT b, k, w, dp))) ∧
    (Model.Band.overBudget b = false →
      SrcBand.computeAlignment fill (sc, toT b, k, w, dp) x y =
        if x.length = 0 ∨ y.length = 0 then
          (SrcBand.degenerateAlignment (sc, toT b, k, w, dp) x.length y.length >>= fun a => Res.ok (a, (sc, toT b, k, w, dp)))
        else fill (sc, toT b, k, w, dp) x y x.length y.length) := by
  have h := computeAlignment_guard_eq fill sc b k w dp x y hc
  constructor
  · intro ho; rw [h, if_pos ho]
  · intro ho; rw [h, if_neg (by simp [ho])]

-- non-vacuity: the one-cell band is within every positive budget, a band of `MAX_CELLS + 1` one-cell columns is over it
example : Model.Band.overBudget ⟨1, 1, [(0, 1)]⟩ = false := by
  have h : 0 < Gen.Limits.maxCells := cell_budget_positive.1
  exact decide_eq_false (Nat.not_lt.mpr h)

-- non-vacuity: the two-k-mer chain of the mirror's example (m = n = 8, k = 3, w = 1, local clips): the hypotheses hold, the
-- translated constructor evaluates to the band the unit-test style example above states for the mirror
example : PathOk 8 8 3 [(0, 0), (4, 4)] none [0, 1] := by simp [PathOk, InSeq, StepOk]
example : ClipFits ⟨0, 0, 0, 0⟩ ∧ ClipFits ⟨minScore, minScore, minScore, minScore⟩ := by
  constructor <;> constructor <;> decide
example : SrcBand.createFromMatchPath (List.replicate 8 0) (List.replicate 8 0) 3 1 (0, 0, none, 0, 0, 0, 0) [0, 1]
    [(0, 0), (4, 4)] = Res.ok (9, 9, [(0, 3), (0, 4), (1, 5), (1, 6), (2, 7), (3, 8), (4, 9), (5, 9), (6, 9)]) := by
  decide +kernel
-- the code refuses (panics) a path that runs backwards — outside `PathOk`
example : SrcBand.createFromMatchPath (List.replicate 8 0) (List.replicate 8 0) 3 1 (0, 0, none, 0, 0, 0, 0) [1, 0]
    [(0, 0), (4, 4)] = Res.panic := by decide +kernel

end BandSource

/-! ## The glue of the nine entry points tied to the source text (`RbV/Gen/SrcBand.lean`; proofs `RbV/Thm/GenSrcBandGlue.lean`)

The DP of `compute_alignment` (`fill` = everything from `self.traceback.init(m, n)` on), the sparse-DP functions
(`sparse::sdpkpp`, `find_kmer_matches`, `find_kmer_matches_seq2_hashed`, `expand_kmer_matches`, `sdpkpp_union_lcskpp_path`) and
`Alignment::filter_clip_operations` are abstract parameters: the statements hold for whatever they return.  An `Aligner` is the
tuple `(scoring, band, k, w, dp)`, `dp` standing for the DP arrays and the traceback matrix. -/

section BandGlueSource
open RbV.Model.Band RbV.Gen RbV.Rs RbV.Thm.GenSrcBand RbV.Thm.GenSrcBandGlue

/-- **`degenerate_alignment` as translated = the mirror `BandedDP.degenerate`** (what e62cffb added for empty sequences): under
its `debug_assert!` (`m = 0 ∨ n = 0`) and when `gap_open + gap_extend · len` fits `i32`. -/
theorem banded_degenerate_source_eq_model {Dp : Type} (wf : Nat → Nat → Int) (go ge : Int) (msc : Option (Int × Int)) (cl : Clip)
    (bT : Nat × Nat × List (Nat × Nat)) (k w : Nat) (dp : Dp) (m n : Nat) (hmn : m = 0 ∨ n = 0)
    (hm : m < 2 ^ 31) (hn : n < 2 ^ 31)
    (h1 : Rs.InS 32 (ge * (m : Int))) (h2 : Rs.InS 32 (go + ge * (m : Int)))
    (h3 : Rs.InS 32 (ge * (n : Int))) (h4 : Rs.InS 32 (go + ge * (n : Int))) :
    SrcBand.degenerateAlignment ((go, ge, msc, cl.xp, cl.xs, cl.yp, cl.ys), bT, k, w, dp) m n =
      Res.ok (outT (RbV.Model.BandedDP.degenerate ⟨wf, go, ge⟩ cl m n)) :=
  degenerate_eq_model wf go ge msc cl bT k w dp m n hmn hm hn h1 h2 h3 h4

/-- **Which band constructor each `custom*` entry point calls, with which arguments**: `custom` → `Band::create`,
`custom_with_prehash` → `Band::create_with_prehash` (= `find_kmer_matches_seq2_hashed(x, y_kmer_hash, k)` + `create_with_matches`),
`custom_with_matches` → `Band::create_with_matches`, `custom_with_match_path` → `Band::create_from_match_path(…, path, matches)`,
always on `(x, y, self.k, self.w, &self.scoring)`; the band replaces `self.band`, nothing else of the aligner changes, and the
result is `compute_alignment(x, y)` on it. -/
theorem banded_custom_entries_source_spec {Dp : Type}
    (sd : List (Nat × Nat) → Nat → Nat → Int → Int → Res (List Nat × Nat × List (Nat × Int)))
    (fk : List Nat → List Nat → Nat → Res (List (Nat × Nat)))
    (fs2 : List Nat → Rs.HMap (List Nat) (List Nat) → Nat → Res (List (Nat × Nat)))
    (fill : AlignerT Dp → List Nat → List Nat → Nat → Nat → Res (AlnT × AlignerT Dp))
    (sc : ScT) (b0 : BandT) (k w : Nat) (dp : Dp) (x y : List Nat) (h : Rs.HMap (List Nat) (List Nat))
    (ms : List (Nat × Nat)) (path : List Nat) :
    SrcBand.custom sd fk fill (sc, b0, k, w, dp) x y =
      (SrcBand.create sd fk x y k w sc >>= fun b => SrcBand.computeAlignment fill (sc, b, k, w, dp) x y) ∧
    SrcBand.customWithPrehash sd fs2 fill (sc, b0, k, w, dp) x y h =
      (SrcBand.createWithPrehash sd fs2 x y k w sc h >>= fun b => SrcBand.computeAlignment fill (sc, b, k, w, dp) x y) ∧
    SrcBand.createWithPrehash sd fs2 x y k w sc h = (fs2 x h k >>= fun ms => SrcBand.createWithMatches sd x y k w sc ms) ∧
    SrcBand.customWithMatches sd fill (sc, b0, k, w, dp) x y ms =
      (SrcBand.createWithMatches sd x y k w sc ms >>= fun b => SrcBand.computeAlignment fill (sc, b, k, w, dp) x y) ∧
    SrcBand.customWithMatchPath fill (sc, b0, k, w, dp) x y ms path =
      (SrcBand.createFromMatchPath x y k w sc path ms >>= fun b => SrcBand.computeAlignment fill (sc, b, k, w, dp) x y) :=
  have h4 := custom_entries_eq sd fk fs2 fill sc b0 k w dp x y h ms path
  ⟨h4.1, h4.2.1, createWithPrehash_eq sd fs2 x y k w sc h, h4.2.2.1, h4.2.2.2⟩

/-- **`custom_with_expanded_matches`**: expansion by `expand_kmer_matches` iff `allowed_mismatches = Some(m)`; with
`use_lcskpp_union` the band along `sdpkpp_union_lcskpp_path(&expanded, k, match_score as u32, gap_open, gap_extend)` through
`create_from_match_path`, otherwise `create_with_matches(&expanded)`; then `compute_alignment`. -/
theorem banded_custom_with_expanded_matches_source_spec {Dp : Type}
    (sd : List (Nat × Nat) → Nat → Nat → Int → Int → Res (List Nat × Nat × List (Nat × Int)))
    (ex : List Nat → List Nat → Nat → List (Nat × Nat) → Nat → Res (List (Nat × Nat)))
    (un : List (Nat × Nat) → Nat → Nat → Int → Int → Res (List Nat))
    (fill : AlignerT Dp → List Nat → List Nat → Nat → Nat → Res (AlnT × AlignerT Dp))
    (sc : ScT) (b0 : BandT) (k w : Nat) (dp : Dp) (x y : List Nat) (ms : List (Nat × Nat)) (am : Option Nat) (useUnion : Bool) :
    SrcBand.customWithExpandedMatches sd ex un fill (sc, b0, k, w, dp) x y ms am useUnion =
      ((match am with | some m => ex x y k ms m | none => Res.ok ms) >>= fun em =>
       (if useUnion then
          un em k (Rs.castUnsigned 32 (matchScore sc.2.2.1)) sc.1 sc.2.1 >>= fun p => SrcBand.createFromMatchPath x y k w sc p em
        else SrcBand.createWithMatches sd x y k w sc em) >>= fun b =>
       SrcBand.computeAlignment fill (sc, b, k, w, dp) x y) :=
  customWithExpandedMatches_eq sd ex un fill sc b0 k w dp x y ms am useUnion

/-- **The mode wrappers save, overwrite and restore the clip penalties** (`global`: `MIN_SCORE` ×4; `semiglobal`,
`semiglobal_with_prehash`: `MIN_SCORE, MIN_SCORE, 0, 0`; `local`: `0` ×4 — `MIN_SCORE` of `Gen/Limits.lean`), set `mode`, filter
the clip operations (not `global`), and hand back the aligner the inner `custom` call left behind with the caller's four clip
penalties written back, each into its own slot — for every outcome `(a, S1)` of the inner call. -/
theorem banded_mode_wrappers_source_spec {Dp : Type}
    (sd : List (Nat × Nat) → Nat → Nat → Int → Int → Res (List Nat × Nat × List (Nat × Int)))
    (fk : List Nat → List Nat → Nat → Res (List (Nat × Nat)))
    (fs2 : List Nat → Rs.HMap (List Nat) (List Nat) → Nat → Res (List (Nat × Nat)))
    (fill : AlignerT Dp → List Nat → List Nat → Nat → Nat → Res (AlnT × AlignerT Dp)) (fc : AlnT → AlnT)
    (S : AlignerT Dp) (x y : List Nat) (h : Rs.HMap (List Nat) (List Nat)) (a : AlnT) (S1 : AlignerT Dp) :
    let MIN := RbV.Gen.Limits.minScorePairwise
    let xp := S.1.2.2.2.1
    let xs := S.1.2.2.2.2.1
    let yp := S.1.2.2.2.2.2.1
    let ys := S.1.2.2.2.2.2.2
    (SrcBand.custom sd fk fill (withClips S MIN MIN MIN MIN) x y = Res.ok (a, S1) →
      SrcBand.globalMode sd fk fill fc S x y = Res.ok (setMode a .Global, withClips S1 xp xs yp ys)) ∧
    (SrcBand.custom sd fk fill (withClips S MIN MIN 0 0) x y = Res.ok (a, S1) →
      SrcBand.semiglobalMode sd fk fill fc S x y = Res.ok (fc (setMode a .Semiglobal), withClips S1 xp xs yp ys)) ∧
    (SrcBand.custom sd fk fill (withClips S 0 0 0 0) x y = Res.ok (a, S1) →
      SrcBand.localMode sd fk fill fc S x y = Res.ok (fc (setMode a .Local), withClips S1 xp xs yp ys)) ∧
    (SrcBand.customWithPrehash sd fs2 fill (withClips S MIN MIN 0 0) x y h = Res.ok (a, S1) →
      SrcBand.semiglobalWithPrehash sd fs2 fill fc S x y h = Res.ok (fc (setMode a .Semiglobal), withClips S1 xp xs yp ys)) :=
  mode_wrappers_spec sd fk fs2 fill fc S x y h a S1

/-- **Budget clause on the source text, end to end for `custom` without k-mer matches**: when `find_kmer_matches` finds nothing,
the translated `custom` builds the full-matrix band (`m + 1, n + 1 < 2^32`) and returns the documented sentinel when
`(m+1)(n+1) > MAX_CELLS` — the condition `acceptBanded` demands (`overBudget x y`); within budget it returns whatever
`degenerate_alignment` / the abstract DP `fill` return on the full-matrix band (that this is not the sentinel is proved for the
mirror only: `sentinel_iff_over_budget`). -/
theorem banded_custom_source_nomatch_budget {Dp : Type}
    (sd : List (Nat × Nat) → Nat → Nat → Int → Int → Res (List Nat × Nat × List (Nat × Int)))
    (fk : List Nat → List Nat → Nat → Res (List (Nat × Nat)))
    (fill : AlignerT Dp → List Nat → List Nat → Nat → Nat → Res (AlnT × AlignerT Dp))
    (sc : ScT) (b0 : BandT) (k w : Nat) (dp : Dp) (x y : List Nat) (hfk : fk x y k = Res.ok [])
    (hm : x.length + 1 < 2 ^ 32) (hn : y.length + 1 < 2 ^ 32) :
    let full := toT (fullMatrix (new x.length y.length))
    SrcBand.custom sd fk fill (sc, b0, k, w, dp) x y =
      if Align.overBudget x y = true then Res.ok (sentinelT, (sc, full, k, w, dp))
      else if x.length = 0 ∨ y.length = 0 then
        (SrcBand.degenerateAlignment (sc, full, k, w, dp) x.length y.length >>= fun a => Res.ok (a, (sc, full, k, w, dp)))
      else fill (sc, full, k, w, dp) x y x.length y.length := by
  intro full
  have hcr : SrcBand.create sd fk x y k w sc = Res.ok full := by
    unfold SrcBand.create
    simp only [hfk, Res.ok_bind, Res.pure_eq_ok, bind_pure_comp]
    rw [(band_source_full_matrix_covers sd x y k w sc [] hm hn).2.1]
    rfl
  rw [(custom_entries_eq sd fk (fun _ _ _ => Res.panic) fill sc b0 k w dp x y [] [] []).1, hcr]
  simp only [Res.ok_bind]
  rw [computeAlignment_guard_eq fill sc (fullMatrix (new x.length y.length)) k w dp x y (numCells_full_lt hm hn),
    Model.BandedDP.overBudget_fullMatrix]

-- non-vacuity: x of length 3 against the empty y, unit gaps −1 / −1, clips `MIN_SCORE`: three insertions, score −4, xend = 3
-- (score, xend and operations are compared: core Lean does not synthesise `DecidableEq` for the whole 9-tuple)
example : (match SrcBand.degenerateAlignment ((-1, -1, none, minScore, minScore, minScore, minScore), (4, 1, [(0, 4)]), 2, 1, ()) 3 0 with
    | .ok a => some (a.1, a.2.2.2.2.1, a.2.2.2.2.2.2.2.1)
    | _ => none) = some (-4, 3, [.Ins, .Ins, .Ins]) := by decide +kernel
example : (-1 : Int) * ((3 : Nat) : Int) = -3 ∧ Rs.InS 32 (-3) ∧ Rs.InS 32 (-1 + -3) := by decide

end BandGlueSource

/-! ## The main-loop cell of `compute_alignment` tied to the source text (`RbV/Gen/SrcBandedFill.lean`: the statements
`for j in 1..=n { … }` translated as a unit of its own; proofs `RbV/Thm/GenSrcBandedFill.lean`) -/

section BandedCellSource
open RbV.Gen RbV.Rs RbV.Gen.TbCodes RbV.Gen.SrcBandedFill RbV.Thm.GenSrcBandedFill
open RbV.Model.BandedDP (cellStep)

/-- **Main-loop cell update, values and explained moves** (`…_partial`, columns `j < n`; not a weaker form of
`banded_cell_update_source_eq_model` but a statement of its own: the candidate chains alone, with the moves explained).  The candidate chains of the translated
cell body — the helpers the translator makes of the `if` statements of the I layer, the D layer and the five S-layer candidates —
return exactly the `i`, `d`, `s` *values* of the mirror's `cellStep`, and the traceback field each chain leaves behind names a
candidate whose score is that value ("the recorded move explains the value").  Stated and proved independently of the tie-breaks
(`>` / `>=`) of the text: seeded C02-H2 re-proves; which of two equally good moves is recorded stays a matter of the
correspondence run (`band-model=impl` / `drift-band-model-path`).  The reads and writes around the chains (`S/I/D[curr][i]`, the
`i32` sums that form the scores, the trackers `S[curr][m]` / `Lx[j]`, `Sn[i]` / `Ly[i]`, `traceback.set(i, j, tb)`) and the
last-column candidate `clip_score` (`fillColumns_for3_if2` for `j = n`) are `banded_cell_update_source_eq_model`; the resets, the column trackers
and row 0 of a column are the theorems of the section after it. -/
theorem banded_cell_update_source_eq_model_partial {Tbm : Type} (matchFn : Nat → Nat → Int) (tbGet : Tbm → Nat → Nat → Cell)
    (tbSet : Tbm → Nat → Nat → Cell → Tbm) (self : _) (sc : Sc) (isM eq : Bool) (n j i q p : Nat) (hi : 1 ≤ i) (hj : 1 ≤ j)
    (hjn : j ≠ n) (w sDiag iUp sUp dLeft sLeft base gox xclip yclip : Int) (tsUp tsLeft : RbV.Model.PairwiseFill.Tb) (tb : Cell)
    (b0 b1 : Int) :
    let c := cellStep sc isM eq w sDiag iUp sUp dLeft sLeft base tsUp tsLeft none gox xclip yclip
    ∃ tbI tbD tbS,
      (fillColumns_for3_if1 matchFn tbGet tbSet self j i (iUp + sc.ge) (sUp + sc.go + sc.ge) (tb, b0) >>= fun s =>
        fillColumns_for3_if2 matchFn tbGet tbSet self n j i s) = Res.ok (tbI, c.i) ∧
      fillColumns_for3_if3 matchFn tbGet tbSet self j i (sLeft + gox + sc.ge) (dLeft + sc.ge) (tbI, b1) = Res.ok (tbD, c.d) ∧
      (fillColumns_for3_if5 matchFn tbGet tbSet q p (sDiag + w) (tbD, base) >>= fun s =>
       fillColumns_for3_if6 matchFn tbGet tbSet c.i s >>= fun s =>
       fillColumns_for3_if7 matchFn tbGet tbSet c.d s >>= fun s =>
       fillColumns_for3_if8 matchFn tbGet tbSet xclip s >>= fun s =>
       fillColumns_for3_if9 matchFn tbGet tbSet yclip s) = Res.ok (tbS, c.s) ∧
      ((fI tbS = tbIns ∧ c.i = iUp + sc.ge) ∨ (fI tbS = fS (tbGet self.2.2.2.2.2.2.1 (i - 1) j) ∧ c.i = sUp + sc.go + sc.ge)) ∧
      ((fD tbS = tbDel ∧ c.d = dLeft + sc.ge) ∨ (fD tbS = fS (tbGet self.2.2.2.2.2.2.1 i (j - 1)) ∧ c.d = sLeft + gox + sc.ge)) ∧
      ((fS tbS = fS tb ∧ c.s = base) ∨ ((fS tbS = tbMatch ∨ fS tbS = tbSubst) ∧ c.s = sDiag + w) ∨ (fS tbS = tbIns ∧ c.s = c.i) ∨
       (fS tbS = tbDel ∧ c.s = c.d) ∨ (fS tbS = tbXclipPrefix ∧ c.s = xclip) ∨ (fS tbS = tbYclipPrefix ∧ c.s = yclip)) :=
  cell_values_eq_model matchFn tbGet tbSet self sc isM eq n j i q p hi hj hjn w sDiag iUp sUp dLeft sLeft base gox xclip yclip
    tsUp tsLeft tb b0 b1

-- non-vacuity: a match of score 2 beats an empty cell (`MIN_SCORE` base) and the two gap candidates: value 2, code `TB_MATCH`
example : fillColumns_for3_if5 (fun _ _ => 0) (fun (_ : Unit) _ _ => (0, 0, 0)) (fun t _ _ _ => t) 7 7 2 ((0, 0, 0), minScore) =
    Res.ok ((0, 0, tbMatch), 2) := by decide +kernel

end BandedCellSource

section BandedCellIteration
open RbV.Gen RbV.Rs RbV.Gen.TbCodes RbV.Gen.SrcBandedFill RbV.Thm.GenSrcBandedFill RbV.Thm.GenSrcBandedCell
open RbV.Model.BandedDP (cellStep)

/-- **Main-loop cell update on the source text, all columns `1 ≤ j ≤ n`** (values; the explained moves of the candidate chains
are `banded_cell_update_source_eq_model_partial`).  One iteration of the translated cell loop (`fillColumns_for3`) on an aligner
whose arrays have the right shape (`Dims`): it reads `S[prev][i-1]`, `I[curr][i-1]`, `S[curr][i-1]`, `D[prev][i]`, `S[prev][i]`,
forms the `i32` sums (hypotheses: none of them overflows; `gox` / `goy` = what the translated `gap_open_after_xclip` /
`gap_open_after_yclip` — `gapOpenAfterYclip_eq`: the repaired transition — return in row `m` / column `n`), and leaves behind
exactly: `S[curr][i] = c.s`, `I[curr][i] = c.i`, `D[curr][i] = c.d` for `c` = the mirror's `cellStep` (in the last column with
the `clip_score` candidate `Sn[i-1] + goy + ge`), the x-suffix tracker `S[curr][m] = max(S[curr][m], c.s + xclip_suffix)`, the
y-suffix tracker `Sn[i] = max(Sn[i], c.s + yclip_suffix)`, every other entry of `S`, `I`, `D`, `Sn` and the scoring / band
untouched, and `traceback.set(i, j, ·)` as the last write.  `Lx`, `Ly` and the traceback codes (which depend on the tie-breaks)
are existentially quantified — soft, left to the correspondence run.  Needs `xclip_suffix ≤ 0` (asserted by the `Aligner`
constructors) for row `m`. -/
theorem banded_cell_update_source_eq_model {Tbm : Type} (matchFn : Nat → Nat → Int) (tbGet : Tbm → Nat → Nat → Cell)
    (tbSet : Tbm → Nat → Nat → Cell → Tbm) (S I D : List (List Int)) (Lx Ly : List Nat) (Sn : List Int) (T : Tbm)
    (go ge : Int) (msc : Option (Int × Int)) (xp xs yp ys : Int) (bd : BandT) (k w : Nat)
    (x : List Nat) (m n j curr prev q i : Nat) (xclip gox goy : Int) (tsUp tsLeft : RbV.Model.PairwiseFill.Tb)
    (hd : Dims S I D Lx Ly Sn m n) (hx : x.length = m) (hi : 1 ≤ i) (him : i ≤ m) (hj : 1 ≤ j) (hjn : j ≤ n)
    (hc : curr < 2) (hp : prev < 2) (hi31 : i < 2 ^ 31)
    (hgx1 : i = m → gapOpenAfterXclip matchFn tbGet tbSet (S, I, D, Lx, Ly, Sn, T, (go, ge, msc, xp, xs, yp, ys), bd, k, w) m (j - 1) = Res.ok gox)
    (hgx2 : i ≠ m → gox = go)
    (hgy : j = n → gapOpenAfterYclip matchFn tbGet tbSet (S, I, D, Lx, Ly, Sn, T, (go, ge, msc, xp, xs, yp, ys), bd, k, w) (i - 1) n = Res.ok goy)
    (hxs : xs ≤ 0) :
    let p := x.getD (i - 1) 0
    let sDiag := rd S prev (i - 1)
    let iUp := rd I curr (i - 1)
    let sUp := rd S curr (i - 1)
    let dLeft := rd D prev i
    let sLeft := rd S prev i
    let base := if i = m then rd S curr m else RbV.Gen.Limits.minScorePairwise
    let clipI : Option Int := if j = n then some (Sn.getD (i - 1) 0 + goy + ge) else none
    let c := cellStep ⟨matchFn, go, ge⟩ (decide (i = m)) (decide (p = q)) (matchFn p q) sDiag iUp sUp dLeft sLeft base tsUp tsLeft
      clipI gox xclip (yp + go + ge * (i : Int))
    let S1 := if i = m then S else wr S curr i RbV.Gen.Limits.minScorePairwise
    let S2 := wr S1 curr i c.s
    Rs.InS 32 (sDiag + matchFn p q) → Rs.InS 32 (iUp + ge) → Rs.InS 32 (sUp + go) → Rs.InS 32 (sUp + go + ge) →
    Rs.InS 32 (dLeft + ge) → Rs.InS 32 (sLeft + gox) → Rs.InS 32 (sLeft + gox + ge) → Rs.InS 32 (yp + go) →
    Rs.InS 32 (ge * (i : Int)) → Rs.InS 32 (yp + go + ge * (i : Int)) → Rs.InS 32 (c.s + xs) → Rs.InS 32 (c.s + ys) →
    (j = n → Rs.InS 32 (Sn.getD (i - 1) 0 + goy) ∧ Rs.InS 32 (Sn.getD (i - 1) 0 + goy + ge)) →
    ∃ Lx' Ly' T' tbS,
      fillColumns_for3 matchFn tbGet tbSet x m n j curr prev q xclip (S, I, D, Lx, Ly, Sn, T, (go, ge, msc, xp, xs, yp, ys), bd, k, w) i =
        Res.ok (wr S2 curr m (max (rd S2 curr m) (c.s + xs)), wr I curr i c.i, wr D curr i c.d, Lx', Ly',
            Sn.set i (max (Sn.getD i 0) (c.s + ys)), tbSet T' i j tbS, (go, ge, msc, xp, xs, yp, ys), bd, k, w) ∧
      Lx'.length = Lx.length ∧ Ly'.length = Ly.length :=
  cell_iteration_eq_model matchFn tbGet tbSet S I D Lx Ly Sn T go ge msc xp xs yp ys bd k w x m n j curr prev q i xclip gox goy
    tsUp tsLeft hd hx hi him hj hjn hc hp hi31 hgx1 hgx2 hgy hxs

-- non-vacuity of the shape hypothesis: the arrays `compute_alignment` initialises for m = 2, n = 1
example : Dims [[0, 0, 0], [0, 0, 0]] [[0, 0, 0], [0, 0, 0]] [[0, 0, 0], [0, 0, 0]] [0, 0] [0, 0, 0] [0, 0, 0] 2 1 :=
  ⟨rfl, rfl, rfl, by decide, by decide, by decide, rfl, rfl, rfl⟩

end BandedCellIteration

section BandedColumnPieces
open RbV.Gen RbV.Rs RbV.Gen.SrcBandedFill RbV.Thm.GenSrcBandedFill RbV.Thm.GenSrcBandedCell RbV.Thm.GenSrcBandedCols

/-- **The two reset loops of a column on the source text**: `for i in i_start.saturating_sub(1)..i_start` (`fillColumns_for2`) and
`for i in i_end..min(m + 1, ranges[min(n, j + 1)].end)` (`fillColumns_for4`), run as the translated `List.foldlM` over `a..b` with
`b ≤ m + 1`, set **exactly** the cells `a ≤ i < b` of row `curr` of `S`, `I` and `D` to `MIN_SCORE` (`ResetTo`: every other cell of
the three arrays reads as before, the shape is kept) and leave `Lx`, `Ly`, `Sn`, the traceback, scoring and band alone.  Seeded
C02-2 replaces the first loop by an `if` with another range: the unit's helper numbering changes and the theorems fail. -/
theorem banded_reset_loops_source_exact {Tbm : Type} (matchFn : Nat → Nat → Int) (tbGet : Tbm → Nat → Nat → Cell)
    (tbSet : Tbm → Nat → Nat → Cell → Tbm) (curr : Nat) (step : St Tbm → Nat → Res (St Tbm))
    (hstep : step = fillColumns_for2 matchFn tbGet tbSet curr ∨ step = fillColumns_for4 matchFn tbGet tbSet curr)
    (S I D : List (List Int)) (Lx Ly : List Nat) (Sn : List Int) (T : Tbm) (sc : ScT) (bd : BandT) (k w : Nat)
    (m a b : Nat) (hS : Arr S m) (hI : Arr I m) (hD : Arr D m) (hc : curr < 2) (hb : b ≤ m + 1) :
    ∃ S' I' D', List.foldlM step (S, I, D, Lx, Ly, Sn, T, sc, bd, k, w) (List.range' a (b - a)) =
        Res.ok (S', I', D', Lx, Ly, Sn, T, sc, bd, k, w) ∧
      ResetTo S S' m curr a b ∧ ResetTo I I' m curr a b ∧ ResetTo D D' m curr a b :=
  reset_loop matchFn tbGet tbSet step hstep S I D Lx Ly Sn T sc bd k w m a b hS hI hD hc hb

/-- **The two column trackers after the cell loop** (`fillColumns_for1_if2`, `for1_if3`): `Sn[m] = max(Sn[m], S[curr][m] +
yclip_suffix)` (tie-agnostic; `Ly[m]` and the traceback follow, existentially), and the x-suffix register `S[curr][m]` is cleared
to `MIN_SCORE` exactly when `i_end < m + 1`, i.e. when row `m` is outside the band of the column. -/
theorem banded_column_trackers_source_eq_model {Tbm : Type} (matchFn : Nat → Nat → Int) (tbGet : Tbm → Nat → Nat → Cell)
    (tbSet : Tbm → Nat → Nat → Cell → Tbm) (S I D : List (List Int)) (Lx Ly : List Nat) (Sn : List Int) (T : Tbm) (sc : ScT)
    (bd : BandT) (k w m n j curr iEnd : Nat) (hS : Arr S m) (hc : curr < 2) (hsn : Sn.length = m + 1) (hly : Ly.length = m + 1)
    (hjn : j ≤ n) (hm : m + 1 < 2 ^ 64) (o : Rs.InS 32 (rd S curr m + sc.2.2.2.2.2.2)) :
    (∃ Ly' T', fillColumns_for1_if2 matchFn tbGet tbSet m n j curr (S, I, D, Lx, Ly, Sn, T, sc, bd, k, w) =
        Res.ok (S, I, D, Lx, Ly', Sn.set m (max (Sn.getD m 0) (rd S curr m + sc.2.2.2.2.2.2)), T', sc, bd, k, w) ∧
      Ly'.length = Ly.length) ∧
    (∃ T', fillColumns_for1_if3 matchFn tbGet tbSet m j curr iEnd (S, I, D, Lx, Ly, Sn, T, sc, bd, k, w) =
        Res.ok ((if iEnd < m + 1 then wr S curr m RbV.Gen.Limits.minScorePairwise else S), I, D, Lx, Ly, Sn, T', sc, bd, k, w)) :=
  ⟨col_if2_eq matchFn tbGet tbSet S I D Lx Ly Sn T sc bd k w m n j curr hS hc hsn hly hjn o,
   col_if3_eq matchFn tbGet tbSet S I D Lx Ly Sn T sc bd k w m j curr iEnd hS hc hm⟩

/-- **Shape invariant of the column loop, piece by piece**: the state `banded_cell_update_source_eq_model` returns and the states
the reset loops return satisfy `Dims` again (what the next iteration's reads and writes need: `Rs.idx` / `Rs.setIdx` in range). -/
theorem banded_column_pieces_preserve_shape {S I D S' I' D' : List (List Int)} {Lx Ly Lx' Ly' : List Nat} {Sn : List Int}
    {m n : Nat} (h : Dims S I D Lx Ly Sn m n) (curr i a b : Nat) (hc : curr < 2) (cs ci cd v sv : Int)
    (hLx : Lx'.length = Lx.length) (hLy : Ly'.length = Ly.length)
    (rS : ResetTo S S' m curr a b) (rI : ResetTo I I' m curr a b) (rD : ResetTo D D' m curr a b) :
    Dims (wr (wr (if i = m then S else wr S curr i RbV.Gen.Limits.minScorePairwise) curr i cs) curr m v) (wr I curr i ci)
      (wr D curr i cd) Lx' Ly' (Sn.set i sv) m n ∧
    Dims S' I' D' Lx Ly Sn m n :=
  ⟨dims_cell h curr i hc cs ci cd v sv hLx hLy, dims_reset h rS rI rD⟩

/-- **Row 0 of a column on the source text** (`if i_start == 0 { … }`, `fillColumns_for1_if1`): nothing happens when row 0 is outside
the band of the column; otherwise `I[curr][0] = MIN_SCORE`, `D[curr][0]` = `go + ge` in column 1 and the better of the deletion run
`go + ge·j` and `yclip_prefix + go + ge` later, `S[curr][0]` = the better of that and `yclip_prefix`, the y-suffix tracker `Sn[0]` =
the better of itself and `S[curr][0] + yclip_suffix` (all other entries of `Sn` unchanged); `Ly`, the traceback and which code is
recorded on a tie are existential.  Hypotheses: the nine `i32` sums do not overflow, `j < 2^31`. -/
theorem banded_row0_source_eq_model {Tbm : Type} (matchFn : Nat → Nat → Int) (tbGet : Tbm → Nat → Nat → Cell)
    (tbSet : Tbm → Nat → Nat → Cell → Tbm) (S I D : List (List Int)) (Lx Ly : List Nat) (Sn : List Int) (T : Tbm) (go ge : Int)
    (msc : Option (Int × Int)) (xp xs yp ys : Int) (bd : BandT) (k w : Nat) (m n j curr iStart : Nat) (hS : Arr S m) (hI : Arr I m)
    (hD : Arr D m) (hc : curr < 2) (hsn : Sn.length = m + 1) (hly : Ly.length = m + 1) (hjn : j ≤ n) (hj31 : j < 2 ^ 31)
    (o1 : Rs.InS 32 (go + ge)) (o2 : Rs.InS 32 (ge * (j : Int))) (o3 : Rs.InS 32 (go + ge * (j : Int))) (o4 : Rs.InS 32 (yp + go))
    (o5 : Rs.InS 32 (yp + go + ge))
    (o6 : Rs.InS 32 (go + ge + ys)) (o7 : Rs.InS 32 (go + ge * (j : Int) + ys)) (o8 : Rs.InS 32 (yp + go + ge + ys))
    (o9 : Rs.InS 32 (yp + ys)) :
    (iStart ≠ 0 → fillColumns_for1_if1 matchFn tbGet tbSet n j curr iStart (S, I, D, Lx, Ly, Sn, T, (go, ge, msc, xp, xs, yp, ys), bd, k, w) =
      Res.ok (S, I, D, Lx, Ly, Sn, T, (go, ge, msc, xp, xs, yp, ys), bd, k, w)) ∧
    (iStart = 0 → ∃ d0 s0 Sn' Ly' T',
      fillColumns_for1_if1 matchFn tbGet tbSet n j curr iStart (S, I, D, Lx, Ly, Sn, T, (go, ge, msc, xp, xs, yp, ys), bd, k, w) =
        Res.ok (wr S curr 0 s0, wr I curr 0 RbV.Gen.Limits.minScorePairwise, wr D curr 0 d0, Lx, Ly', Sn', T',
          (go, ge, msc, xp, xs, yp, ys), bd, k, w) ∧
      d0 = (if j = 1 then go + ge else max (go + ge * (j : Int)) (yp + go + ge)) ∧ s0 = max d0 yp ∧
      Sn'.length = Sn.length ∧ Sn'.getD 0 0 = max (Sn.getD 0 0) (s0 + ys) ∧ (∀ i, i ≠ 0 → Sn'.getD i 0 = Sn.getD i 0) ∧
      Ly'.length = Ly.length) :=
  row0_eq matchFn tbGet tbSet S I D Lx Ly Sn T go ge msc xp xs yp ys bd k w m n j curr iStart hS hI hD hc hsn hly hjn hj31
    o1 o2 o3 o4 o5 o6 o7 o8 o9

-- Missing for the equality "translated fill = mirror `fill`": the column loop as a whole (`fillColumns_for1`, `fillColumns`:
-- translated, its pieces proved above, not composed), and, not translated: everything before it (`traceback.init`, the array
-- initialisation, column 0 with the `Sn[0]` preload), the loops after it and the traceback `loop`.

end BandedColumnPieces

end RbV.Thm.C02
