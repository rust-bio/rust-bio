import RbV.Gen.SrcRankSelect
import RbV.Model.RankSelect
import RbV.Lemmas.Bytes8
import RbV.Lemmas.RankSelectModel
import RbV.Thm.GenSrcBasic
import RbV.Thm.GenSrcBitsSimp
/-!
# The translated text of `rank_select::{superblocks, RankSelect::rank_1, rank_0}` equals the mirror model

`RbV/Gen/SrcRankSelect.lean` is regenerated from `src/data_structures/rank_select.rs` by `tools/rs2lean.py` on every
`./check C17`.  The bit vector (`bv::BitVec<u8>`, an external crate) is an abstract type observed through `get_block`
and `len`; the theorems instantiate it with a `List Bool` and **assume the contract of the bv crate**: `len()` is the
number of bits and `get_block(b)` is the byte whose bit `k` is bit `8b + k` of the vector, zero beyond the end
(`blockByte`).  `u8::count_ones` / `count_zeros` are `Rs.countOnes` / `Rs.countZeros 8` (`Basic/RsSemBits.lean`).
`(bits.len() as f64 / 8.0).ceil() as usize` is the abstract function `ceilDiv8` with the contract `⌈x / 8⌉` (`CeilOk`; the
`f64` arithmetic is exact below 2^53).  `SuperblockRank` is the model's `SbRank`.
-/
-- the simp sets name every fact a harmless rewrite of the Rust text may need; on the present text some are unused
set_option linter.unusedSimpArgs false

namespace RbV.Thm.GenSrcRankSelect
open RbV RbV.Rs RbV.Thm.GenSrc
open RbV.Model.RankSelect (SbRank SbState getBlock)
open RbV.Lemmas.Bytes8 (byteOf popcount8 rankMask byteOf_lt popcount8_byteOf popcount8_masked)
open RbV.Lemmas.RankSelectModel (blkCount_le getBlock_length_le cnt_le eight_dvd lt_superblocks_length superblocks_val rank1_correct
  rank0_correct)

/-- contract of `bv::BitVec<u8>::get_block`: the byte of block `b` -/
def blockByte (bits : List Bool) (b : Nat) : Nat := byteOf (getBlock bits b)

/-- contract of `(x as f64 / 8.0).ceil() as usize` for the lengths that occur -/
def CeilOk (cd8 : Nat → Nat) (n : Nat) : Prop := cd8 n = (n + 7) / 8

theorem blockByte_lt (bits : List Bool) (b : Nat) : blockByte bits b < 256 :=
  byteOf_lt _ (getBlock_length_le bits b)

/-- `u8::count_ones` on a byte is the 8-position count of `Lemmas/Bytes8` -/
theorem countOnes_eq_popcount8 (x : Nat) (hx : x < 256) : Rs.countOnes x = popcount8 x := by
  unfold Rs.countOnes popcount8
  have h64 : List.range 64 = List.range 8 ++ List.range' 8 56 := by decide
  rw [h64, List.filter_append]
  have : (List.range' 8 56).filter (fun i => x.testBit i) = [] := by
    rw [List.filter_eq_nil_iff]
    intro i hi
    rw [List.mem_range'_1] at hi
    have : x < 2 ^ i := Nat.lt_of_lt_of_le hx (by
      have : 2 ^ 8 ≤ 2 ^ i := Nat.pow_le_pow_right (by omega) hi.1
      simpa using this)
    simp [Nat.testBit_lt_two_pow this]
  rw [this, List.append_nil]

theorem countOnes_block (bits : List Bool) (b : Nat) :
    Rs.countOnes (blockByte bits b) = Model.RankSelect.countOnes (getBlock bits b) := by
  rw [countOnes_eq_popcount8 _ (blockByte_lt bits b)]
  exact popcount8_byteOf _ (getBlock_length_le bits b)

theorem countZeros_block (bits : List Bool) (b : Nat) :
    Rs.countZeros 8 (blockByte bits b) = Model.RankSelect.countZeros (getBlock bits b) := by
  unfold Rs.countZeros
  rw [countOnes_block]; rfl

/-- `(get_block(b) & (((2u16 << j) - 1) as u8)).count_ones()`: the shift and the subtraction do not panic, and the count is
the number of ones among the low `j + 1` bits of the block -/
theorem masked_count (bits : List Bool) (b j : Nat) (hj : j < 8) :
    Rs.shl 16 2 j = Res.ok (2 <<< j) ∧ Rs.sub (2 <<< j) 1 = Res.ok (2 <<< j - 1) ∧
    Rs.countOnes (blockByte bits b &&& Rs.cast 8 (2 <<< j - 1))
      = Model.RankSelect.countOnes ((getBlock bits b).take (j + 1)) := by
  have hc : Rs.cast 8 (2 <<< j - 1) = rankMask j := rfl
  have hlt : blockByte bits b &&& rankMask j < 256 := Nat.lt_of_le_of_lt Nat.and_le_left (blockByte_lt bits b)
  refine ⟨?_, ?_, ?_⟩
  · have h2 : 2 <<< j < 2 ^ 16 := by
      rw [Nat.shiftLeft_eq, ← Nat.pow_succ']
      exact Nat.pow_lt_pow_right (by decide) (by omega)
    rw [Rs.shl_ok (by omega), Nat.mod_eq_of_lt h2]
  · exact Rs.sub_ok (by rw [Nat.shiftLeft_eq]; exact Nat.mul_pos (by decide) (Nat.two_pow_pos j))
  · rw [hc, countOnes_eq_popcount8 _ hlt]
    exact popcount8_masked _ j hj


-- `bl` (`block_len`) is used by none of these functions, `cd8` (the `f64` ceiling) only by `fn superblocks`
variable (bl : List Bool → Nat) (cd8 : Nat → Nat)

/-- the block loop of `rank_1` -/
theorem rank1_fold (bits : List Bool) (bb : Nat) : ∀ (L : List Nat) (r : Nat), r + 8 * L.length < 2 ^ 64 →
    L.foldlM (Gen.SrcRankSelect.rank1_for1 (σ := SbRank) blockByte List.length bl
        cd8 SbRank.first SbRank.some SbRank.val bits bb) r
      = Res.ok (L.foldl (fun r blk => r + Model.RankSelect.countOnes (getBlock bits blk)) r) := by
  intro L
  induction L with
  | nil => intro r _; rfl
  | cons a L ih =>
    intro r hr
    have hle : Model.RankSelect.countOnes (getBlock bits a) ≤ 8 := blkCount_le true _ (getBlock_length_le bits a)
    simp only [List.length_cons] at hr
    have e1 : Rs.add 64 r (Model.RankSelect.countOnes (getBlock bits a))
        = Res.ok (r + Model.RankSelect.countOnes (getBlock bits a)) := Rs.add_ok (by omega)
    rw [List.foldlM_cons, List.foldl_cons]
    simp only [rs_eval, Gen.SrcRankSelect.rank1_for1, countOnes_block, e1]
    exact ih _ (by omega)

/-- **`RankSelect::rank_1`, as written, is the model's `rank1`** for every bit vector, superblock size `s > 0`, superblock
table covering `i` and every `i` (beyond the end: `None`).  `hbound` excludes `u64` overflow of the running rank. -/
theorem rank1_eq_model (bits : List Bool) (n s k : Nat) (sbs1 sbs0 : List SbRank) (i : Nat) (hs : 0 < s)
    (hsb : i < n → i / s < sbs1.length)
    (hbound : i < n → (sbs1.getD (i / s) (.first 0)).val + i + 8 < 2 ^ 64) :
    Gen.SrcRankSelect.rank1 (σ := SbRank) blockByte List.length bl
        cd8 SbRank.first SbRank.some SbRank.val n bits sbs1 sbs0 s k i
      = Res.ok (Model.RankSelect.rank1 n s (getBlock bits) sbs1 i) := by
  by_cases hi : i ≥ n
  · have hi2 : ¬ i < n := by omega
    simp only [rs_eval, Gen.SrcRankSelect.rank1, Model.RankSelect.rank1, hi, hi2]
  · have hi' : i < n := by omega
    have hi3 : ¬ n ≤ i := by omega
    have hbound := hbound hi'
    have e1 : Rs.div i s = Res.ok (i / s) := Rs.div_ok hs
    have e2 : Rs.idx sbs1 (i / s) = Res.ok (sbs1.getD (i / s) (.first 0)) := idx_getD _ _ _ (hsb hi')
    obtain ⟨e3, e4, e5⟩ := masked_count bits (i / 8) (i % 8) (Nat.mod_lt _ (by omega))
    have hle : Model.RankSelect.countOnes ((getBlock bits (i / 8)).take (i % 8 + 1)) ≤ 8 :=
      blkCount_le true _ (Nat.le_trans (List.length_take_le' _ _) (getBlock_length_le bits (i / 8)))
    have e6 : ∀ c, c ≤ 8 → Rs.add 64 (sbs1.getD (i / s) (.first 0)).val c
        = Res.ok ((sbs1.getD (i / s) (.first 0)).val + c) := fun c hc => Rs.add_ok (by omega)
    have hmul : i / s * s ≤ i := Nat.div_mul_le_self i s
    have b7 : i / s * s < 2 ^ 64 := by omega
    have e7 : Rs.mul 64 (i / s) s = Res.ok (i / s * s) := Rs.mul_ok b7
    have h7 : i &&& 7 = i % 8 := Nat.and_two_pow_sub_one_eq_mod i 3
    have h7' : 7 &&& i = i % 8 := by rw [Nat.and_comm]; exact h7
    have h8 : i >>> 3 = i / 8 := Nat.shiftRight_eq_div_pow i 3
    have e9 : Rs.shr 64 i 3 = Res.ok (i / 8) := by rw [Rs.shr_ok (by omega), h8]
    have e7' : Rs.mul 64 s (i / s) = Res.ok (i / s * s) := Rs.mul_ok_comm b7
    have hblocks : 8 * (i / 8 - i / s * s / 8) ≤ i :=
      Nat.le_trans (Nat.mul_le_mul_left 8 (Nat.sub_le _ _)) (Nat.mul_div_le i 8)
    have e8 := rank1_fold bl cd8 bits (i / 8) (List.range' (i / s * s / 8) (i / 8 - i / s * s / 8))
      ((sbs1.getD (i / s) (.first 0)).val + Model.RankSelect.countOnes ((getBlock bits (i / 8)).take (i % 8 + 1)))
      (by
        rw [List.length_range']
        generalize i / 8 - i / s * s / 8 = d at hblocks ⊢
        generalize Model.RankSelect.countOnes ((getBlock bits (i / 8)).take (i % 8 + 1)) = c at hle ⊢
        omega)
    simp only [rs_eval, Gen.SrcRankSelect.rank1, Model.RankSelect.rank1, hi, hi', hi3, e1, e2, e3, e4, e5, e6 _ hle,
      e7, e7', e8, e9, h7, h7']

/-- **`RankSelect::rank_0`, as written** (`self.rank_1(i).map(|r| (i + 1) - r)`) **is the model's `rank0`**; needs
`rank_1(i) ≤ i + 1` (true for every table built by `superblocks`) so that the subtraction does not underflow -/
theorem rank0_eq_model (bits : List Bool) (n s k : Nat) (sbs1 sbs0 : List SbRank) (i : Nat) (hs : 0 < s)
    (hsb : i < n → i / s < sbs1.length)
    (hbound : i < n → (sbs1.getD (i / s) (.first 0)).val + i + 8 < 2 ^ 64)
    (hle : ∀ r, Model.RankSelect.rank1 n s (getBlock bits) sbs1 i = some r → r ≤ i + 1) :
    Gen.SrcRankSelect.rank0 (σ := SbRank) blockByte List.length bl
        cd8 SbRank.first SbRank.some SbRank.val n bits sbs1 sbs0 s k i
      = Res.ok (Model.RankSelect.rank0 n s (getBlock bits) sbs1 i) := by
  have e1 := rank1_eq_model bl cd8 bits n s k sbs1 sbs0 i hs hsb hbound
  unfold Gen.SrcRankSelect.rank0 Model.RankSelect.rank0
  rw [e1]
  cases h : Model.RankSelect.rank1 n s (getBlock bits) sbs1 i with
  | none => simp only [Res.ok_bind, Res.pure_eq_ok, Option.map_none]
  | some r =>
    have hin : i < n := by
      apply Classical.byContradiction
      intro hge
      have hge' : i ≥ n := by omega
      simp [Model.RankSelect.rank1, hge'] at h
    have hb := hbound hin
    have e2 : Rs.add 64 i 1 = Res.ok (i + 1) := Rs.add_ok (by omega)
    have e3 : Rs.sub (i + 1) r = Res.ok (i + 1 - r) := Rs.sub_ok (hle r h)
    simp only [rs_eval, e2, e3, Option.map_some]


/-- the block loop of `fn superblocks`: the translated body folded over `lo, lo+1, …` is the model's `sbStep` fold
(`rank` grows by at most 8 per block and `i` by exactly 8, so neither `u64`/`usize` addition overflows) -/
theorem superblocks_fold (t : Bool) (s : Nat) (hs : 0 < s) (bits : List Bool) : ∀ (m lo : Nat) (st : SbState),
    st.rank + 8 * m < 2 ^ 64 → st.i + 8 * m < 2 ^ 64 →
    (List.range' lo m).foldlM (Gen.SrcRankSelect.superblocks_for1 (σ := SbRank) blockByte List.length
        bl cd8 SbRank.first SbRank.some SbRank.val bits s t)
        (st.out, st.last, st.rank, st.i)
      = Res.ok (((List.range' lo m).foldl (Model.RankSelect.sbStep t s (getBlock bits)) st).out,
          ((List.range' lo m).foldl (Model.RankSelect.sbStep t s (getBlock bits)) st).last,
          ((List.range' lo m).foldl (Model.RankSelect.sbStep t s (getBlock bits)) st).rank,
          ((List.range' lo m).foldl (Model.RankSelect.sbStep t s (getBlock bits)) st).i) := by
  intro m
  induction m with
  | zero => intro lo st _ _; rfl
  | succ m ih =>
    intro lo st hr hi
    have e1 : Rs.rem st.i s = Res.ok (st.i % s) := Rs.rem_ok hs
    have e2 : ∀ c, c ≤ 8 → Rs.add 64 st.rank c = Res.ok (st.rank + c) := fun c hc => Rs.add_ok (by omega)
    have e3 : Rs.add 64 st.i 8 = Res.ok (st.i + 8) := Rs.add_ok (by omega)
    have hc : (if t then Model.RankSelect.countOnes (getBlock bits lo) else Model.RankSelect.countZeros (getBlock bits lo)) ≤ 8 :=
      blkCount_le t _ (getBlock_length_le bits lo)
    rw [List.range'_succ, List.foldlM_cons, List.foldl_cons]
    by_cases hz : st.i % s = 0
    · have hz' : (st.i % s == 0) = true := by simp [hz]
      simp only [rs_eval, Gen.SrcRankSelect.superblocks_for1, e1, hz, hz', countOnes_block, countZeros_block,
        e2 _ hc, e3, beq_self_eq_true, bne_iff_ne, beq_iff_eq, ne_eq, ite_not]
      have := ih (lo + 1) (Model.RankSelect.sbStep t s (getBlock bits) st lo)
        (by simp only [Model.RankSelect.sbStep, hz, if_true]; omega)
        (by simp only [Model.RankSelect.sbStep, hz, if_true]; omega)
      simp only [Model.RankSelect.sbStep, hz, if_true, ne_eq, ite_not] at this ⊢
      exact this
    · have hz' : (st.i % s == 0) = false := by simp [hz]
      simp only [rs_eval, Gen.SrcRankSelect.superblocks_for1, e1, hz, hz', countOnes_block, countZeros_block,
        e2 _ hc, e3]
      have := ih (lo + 1) (Model.RankSelect.sbStep t s (getBlock bits) st lo)
        (by simp only [Model.RankSelect.sbStep, hz, if_false]; omega)
        (by simp only [Model.RankSelect.sbStep, hz, if_false]; omega)
      simp only [Model.RankSelect.sbStep, hz, if_false] at this ⊢
      exact this

/-- **`fn superblocks`, as written, is the model's `superblocks`** for every bit vector of fewer than 2^60 bits and every
superblock size `s > 0` (with `s = 0` the capacity computation `n / s` panics) -/
theorem superblocks_eq_model (t : Bool) (bits : List Bool) (s : Nat) (hs : 0 < s) (hn : bits.length < 2 ^ 60)
    (hcd : CeilOk cd8 bits.length) :
    Gen.SrcRankSelect.superblocks (σ := SbRank) blockByte List.length bl cd8
        SbRank.first SbRank.some SbRank.val t bits.length s bits
      = Res.ok (Model.RankSelect.superblocks t bits.length s (getBlock bits)) := by
  have e1 : Rs.div bits.length s = Res.ok (bits.length / s) := Rs.div_ok hs
  have hdiv : bits.length / s ≤ bits.length := Nat.div_le_self _ _
  have e2 : Rs.add 64 (bits.length / s) 1 = Res.ok (bits.length / s + 1) := Rs.add_ok (by omega)
  have e3 := superblocks_fold bl cd8 t s hs bits ((bits.length + 7) / 8) 0 {} (by simp only; omega) (by simp only; omega)
  unfold CeilOk at hcd
  simp only [rs_eval, Gen.SrcRankSelect.superblocks, Model.RankSelect.superblocks, e1, e2, hcd, Nat.sub_zero,
    List.range_eq_range']
  exact (by
    have h := e3
    simp only [rs_eval] at h
    rw [h]
    simp only [rs_eval])

open RbV.Spec.RankSelect (rankRef)

/-- the translated `rank_1` / `rank_0` on the table the model's `superblocks` builds are the declarative ranks -/
theorem rank_on_superblocks (bits : List Bool) (k : Nat) (hk : 1 ≤ k) (hn : bits.length < 2 ^ 60)
    (sbs0 : List SbRank) (i : Nat) :
    Gen.SrcRankSelect.rank1 (σ := SbRank) blockByte List.length bl cd8 SbRank.first SbRank.some SbRank.val
        bits.length bits (Model.RankSelect.superblocks true bits.length (k * 32) (getBlock bits)) sbs0 (k * 32) k i
      = Res.ok (rankRef true bits i) ∧
    Gen.SrcRankSelect.rank0 (σ := SbRank) blockByte List.length bl cd8 SbRank.first SbRank.some SbRank.val
        bits.length bits (Model.RankSelect.superblocks true bits.length (k * 32) (getBlock bits)) sbs0 (k * 32) k i
      = Res.ok (rankRef false bits i) := by
  have hs : 0 < k * 32 := by omega
  have hsb : i < bits.length → i / (k * 32)
      < (Model.RankSelect.superblocks true bits.length (k * 32) (getBlock bits)).length := by
    intro h
    rw [lt_superblocks_length true bits _ (eight_dvd k) hs]
    exact Nat.lt_of_le_of_lt (Nat.div_mul_le_self i (k * 32)) h
  have hbound : i < bits.length → ((Model.RankSelect.superblocks true bits.length (k * 32) (getBlock bits)).getD
      (i / (k * 32)) (.first 0)).val + i + 8 < 2 ^ 64 := by
    intro h
    have hm : i / (k * 32) * (k * 32) < bits.length := Nat.lt_of_le_of_lt (Nat.div_mul_le_self i (k * 32)) h
    rw [superblocks_val true bits _ (eight_dvd k) hs _ hm]
    have := cnt_le true bits (i / (k * 32) * (k * 32))
    omega
  have hr := rank1_correct bits k hk i
  have hr0 := rank0_correct bits k hk i
  refine ⟨?_, ?_⟩
  · rw [rank1_eq_model bl cd8 bits _ _ k _ sbs0 i hs hsb hbound, hr]
  · rw [rank0_eq_model bl cd8 bits _ _ k _ sbs0 i hs hsb hbound ?_, hr0]
    intro r h
    rw [hr] at h
    unfold rankRef at h
    split at h
    · rw [← Option.some.inj h]
      exact cnt_le true bits (i + 1)
    · cases h

/-- **`rank_1` / `rank_0` exact**: build the superblock table with the translated `fn superblocks` (`s = 32·k`, as
`RankSelect::new(bits, k)` does), then the translated `rank_1(i)` / `rank_0(i)` on it return the number of 1-bits / 0-bits
among positions `0..=i` of the bit vector — `None` exactly beyond the end — for every bit vector of fewer than 2^60 bits,
every `k ≥ 1` and every `i`; nothing panics. -/
theorem rank_source_exact (bits : List Bool) (k : Nat) (hk : 1 ≤ k) (hn : bits.length < 2 ^ 60)
    (hcd : CeilOk cd8 bits.length) (sbs0 : List SbRank) (i : Nat) :
    ∃ sbs1, Gen.SrcRankSelect.superblocks (σ := SbRank) blockByte List.length bl cd8
          SbRank.first SbRank.some SbRank.val true bits.length (k * 32) bits = Res.ok sbs1 ∧
      Gen.SrcRankSelect.rank1 (σ := SbRank) blockByte List.length bl cd8 SbRank.first SbRank.some SbRank.val
          bits.length bits sbs1 sbs0 (k * 32) k i = Res.ok (rankRef true bits i) ∧
      Gen.SrcRankSelect.rank0 (σ := SbRank) blockByte List.length bl cd8 SbRank.first SbRank.some SbRank.val
          bits.length bits sbs1 sbs0 (k * 32) k i = Res.ok (rankRef false bits i) :=
  ⟨_, superblocks_eq_model bl cd8 true bits (k * 32) (by omega) hn hcd, rank_on_superblocks bl cd8 bits k hk hn sbs0 i⟩

end RbV.Thm.GenSrcRankSelect
