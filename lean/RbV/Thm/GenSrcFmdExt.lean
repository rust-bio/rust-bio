import RbV.Gen.SrcFmdExt
import RbV.Model.FMDExt
import RbV.Basic.RsSem
/-!
# The translated text of the bi-interval operations of the FMD index equals the mirror model `FMDModel`

`RbV/Gen/SrcFmdExt.lean` is regenerated from `src/data_structures/fmindex.rs` by `tools/rs2lean_fm.py` (dialect "fmd")
on every `./check C06`: `BiInterval::swapped`, `FMDIndex::init_interval_with`, `init_interval`, `backward_ext`,
`forward_ext`.  `BiInterval` is the tuple `(lower, lower_rev, size, match_size)` (`toT` / `ofT`), the trait methods
`self.fmindex.less(a)` / `self.fmindex.occ(r, a)` are function parameters (`lessF`, `occF`), `dna::complement` is
`complF` (instantiated with the specification's `dnaCompl`).

Hypotheses = what keeps the checked `usize` / `u8` arithmetic from panicking (the model computes in `Nat` with truncated
subtraction): the interval is **non-empty** (so `lower + size - 1` does not underflow — this also leaves the value on
empty intervals free, which the property does: seeded change C06-H1), `occ` does not decrease between the two rows that
are read, no sum reaches `2^64`.  The companion `*_dead` statements say what the sweep needs of an extension of an *empty*
interval: it does not panic and is empty again.
-/
-- the simp sets name every fact a harmless rewrite of the Rust text may need; on the present text some are unused
set_option linter.unusedSimpArgs false

namespace RbV.Thm.GenSrcFmdExt
open RbV RbV.Rs RbV.Gen RbV.FMDModel

/-- `BiInterval` as the translated code sees it: the tuple of its fields in declaration order -/
abbrev BiT := Nat × Nat × Nat × Nat

def toT (b : Bi) : BiT := (b.lower, b.lowerRev, b.size, b.matchSize)
def ofT (t : BiT) : Bi := ⟨t.1, t.2.1, t.2.2.1, t.2.2.2⟩

@[simp] theorem ofT_toT (b : Bi) : ofT (toT b) = b := rfl
@[simp] theorem toT_ofT (t : BiT) : toT (ofT t) = t := rfl
@[simp] theorem toT_1 (b : Bi) : (toT b).1 = b.lower := rfl
@[simp] theorem toT_2 (b : Bi) : (toT b).2.1 = b.lowerRev := rfl
@[simp] theorem toT_3 (b : Bi) : (toT b).2.2.1 = b.size := rfl
@[simp] theorem toT_4 (b : Bi) : (toT b).2.2.2 = b.matchSize := rfl

theorem toT_inj {a b : Bi} (h : toT a = toT b) : a = b := by
  have := congrArg ofT h
  simpa using this

theorem two8 : (2 : Nat) ^ 8 = 256 := by decide

theorem swapped_eq_model (iv : Bi) :
    SrcFmdExt.swapped iv.lower iv.lowerRev iv.size iv.matchSize = Res.ok (toT (swapped iv)) := by
  simp [SrcFmdExt.swapped, toT, swapped]

/-- `init_interval_with(a)` for `a < 255` (`a + 1` is computed in `u8`) and `less(a) ≤ less(a + 1)` -/
theorem init_interval_with_eq_model (lessF : Nat → Nat) (a : Nat) (ha : a < 255) (hm : lessF a ≤ lessF (a + 1)) :
    SrcFmdExt.init_interval_with lessF dnaCompl a = Res.ok (toT (initIntervalWith lessF a)) := by
  have h8 : a + 1 < 2 ^ 8 := by rw [two8]; omega
  have e1 : Rs.add 8 a 1 = Res.ok (a + 1) := Rs.add_ok h8
  have e1' : Rs.add 8 1 a = Res.ok (a + 1) := Rs.add_ok_comm h8
  have e2 : Rs.sub (lessF (a + 1)) (lessF a) = Res.ok (lessF (a + 1) - lessF a) := Rs.sub_ok hm
  simp [SrcFmdExt.init_interval_with, e1, e1', e2, toT, initIntervalWith]

theorem init_interval_eq_model (bwt : List Nat) :
    SrcFmdExt.init_interval bwt = Res.ok (toT (initInterval bwt.length)) := by
  simp [SrcFmdExt.init_interval, toT, initInterval]

/-- the size the loop computes for symbol `b` (the model side calls the same expression `FMDModel.cntOf`, `Model/FMDRev.lean`) -/
def sOf (occF : Nat → Nat → Nat) (iv : Bi) (b : Nat) : Nat :=
  occF (iv.lower + iv.size - 1) b - (if iv.lower = 0 then 0 else occF (iv.lower - 1) b)

/-- `occ` does not decrease between the two rows `backward_ext` reads, for the symbols of `ord` -/
def OccMono (occF : Nat → Nat → Nat) (iv : Bi) (ord : List Nat) : Prop :=
  ∀ b ∈ ord, (if iv.lower = 0 then 0 else occF (iv.lower - 1) b) ≤ occF (iv.lower + iv.size - 1) b

/-- the symbol loop follows `extLoop` (state order of the translation: `(l, o, s)`) -/
theorem extLoop_eq (lessF : Nat → Nat) (occF : Nat → Nat → Nat) (iv : Bi) (a : Nat) (hlo : 1 ≤ iv.lower + iv.size)
    (h64 : iv.lower + iv.size < 2 ^ 64) :
    ∀ (ord : List Nat) (l s o : Nat), OccMono occF iv ord →
      l + s + (ord.map (sOf occF iv)).sum < 2 ^ 64 →
      SrcFmdExt.backward_ext_for1 lessF occF (toT iv) a ord (l, o, s) =
        Res.ok ((extLoop occF iv a ord (l, s, o)).1, (extLoop occF iv a ord (l, s, o)).2.2,
          (extLoop occF iv a ord (l, s, o)).2.1) := by
  intro ord
  induction ord with
  | nil => intro l s o _ _; simp [SrcFmdExt.backward_ext_for1, extLoop]
  | cons b rest ih =>
    intro l s o hm hs
    simp only [List.map_cons, List.sum_cons] at hs
    have hmb := hm b (by simp)
    have hm' : OccMono occF iv rest := fun x hx => hm x (List.mem_cons_of_mem _ hx)
    have hls : l + s < 2 ^ 64 := by omega
    have e1 : Rs.add 64 l s = Res.ok (l + s) := Rs.add_ok hls
    have e1' : Rs.add 64 s l = Res.ok (l + s) := Rs.add_ok_comm hls
    have e3 : Rs.add 64 iv.lower iv.size = Res.ok (iv.lower + iv.size) := Rs.add_ok h64
    have e3' : Rs.add 64 iv.size iv.lower = Res.ok (iv.lower + iv.size) := Rs.add_ok_comm h64
    have e4 : Rs.sub (iv.lower + iv.size) 1 = Res.ok (iv.lower + iv.size - 1) := Rs.sub_ok hlo
    have hstep := ih (l + s) (sOf occF iv b) (if iv.lower = 0 then 0 else occF (iv.lower - 1) b) hm'
      (by unfold sOf at hs ⊢; omega)
    by_cases h0 : iv.lower = 0
    · have e5 : Rs.sub (occF (iv.lower + iv.size - 1) b) 0 = Res.ok (occF (iv.lower + iv.size - 1) b) :=
        Rs.sub_ok (Nat.zero_le _)
      have hc : (iv.lower == 0) = true := by simp [h0]
      have hc' : (0 == iv.lower) = true := by simp [h0]
      have hm0 : (if iv.lower = 0 then 0 else occF (iv.lower - 1) b) = 0 := if_pos h0
      have hg : ¬ (0 < iv.lower) := h0 ▸ Nat.lt_irrefl 0
      simp only [sOf, hm0, Nat.sub_zero] at hstep
      by_cases hb : b = a
      · subst hb
        simp [SrcFmdExt.backward_ext_for1, extLoop, e1, e1', e3, e3', e4, e5, hc, hc', hm0, hg]
      · have hb' : ¬ a = b := fun h => hb h.symm
        have hbq : (a == b) = false := by simp [hb']
        simp [SrcFmdExt.backward_ext_for1, extLoop, e1, e1', e3, e3', e4, e5, hc, hc', hm0, hg, hb, hb', hbq, hstep]
    · have e2 : Rs.sub iv.lower 1 = Res.ok (iv.lower - 1) := Rs.sub_ok (Nat.pos_of_ne_zero h0)
      have hc : (iv.lower == 0) = false := by simp [h0]
      have hc' : (0 == iv.lower) = false := by simp; omega
      have hm0 : (if iv.lower = 0 then 0 else occF (iv.lower - 1) b) = occF (iv.lower - 1) b := if_neg h0
      have hg : 0 < iv.lower := Nat.pos_of_ne_zero h0
      rw [hm0] at hmb
      have e5 : Rs.sub (occF (iv.lower + iv.size - 1) b) (occF (iv.lower - 1) b) =
          Res.ok (occF (iv.lower + iv.size - 1) b - occF (iv.lower - 1) b) := Rs.sub_ok hmb
      simp only [sOf, hm0] at hstep
      by_cases hb : b = a
      · subst hb
        simp [SrcFmdExt.backward_ext_for1, extLoop, e1, e1', e2, e3, e3', e4, e5, hc, hc', hm0, hg]
      · have hb' : ¬ a = b := fun h => hb h.symm
        have hbq : (a == b) = false := by simp [hb']
        simp [SrcFmdExt.backward_ext_for1, extLoop, e1, e1', e2, e3, e3', e4, e5, hc, hc', hm0, hg, hb, hb', hbq, hstep]

/-- **`backward_ext` on a non-empty interval**: the translated text computes the mirror model's bi-interval.
`N` bounds the values of `occ` (for the index: the text length). -/
theorem backward_ext_eq_model (lessF : Nat → Nat) (occF : Nat → Nat → Nat) (iv : Bi) (a N : Nat)
    (hpos : 0 < iv.size) (h64 : iv.lower + iv.size < 2 ^ 64) (hm : OccMono occF iv order)
    (hN : ∀ r b, occF r b ≤ N) (hsum : iv.lowerRev + (order.map (sOf occF iv)).sum < 2 ^ 64)
    (hk : lessF a + N < 2 ^ 64) (hms : iv.matchSize + 1 < 2 ^ 64) :
    SrcFmdExt.backward_ext lessF occF (toT iv) a = Res.ok (toT (backwardExt lessF occF iv a)) := by
  have hloop := extLoop_eq lessF occF iv a (by omega) h64 order iv.lowerRev 0 0 hm (by omega)
  have ho := extLoop_o_le occF iv a N hN order (iv.lowerRev, 0, 0) (by simp)
  have hk' : lessF a + (extLoop occF iv a order (iv.lowerRev, 0, 0)).2.2 < 2 ^ 64 := by omega
  have e6 := Rs.add_ok hk'
  have e6' := Rs.add_ok_comm hk'
  have e7 : Rs.add 64 iv.matchSize 1 = Res.ok (iv.matchSize + 1) := Rs.add_ok hms
  have e7' : Rs.add 64 1 iv.matchSize = Res.ok (iv.matchSize + 1) := Rs.add_ok_comm hms
  have hne : iv.size ≠ 0 := Nat.ne_of_gt hpos
  have hne' : ¬ (0 = iv.size) := Nat.ne_of_lt hpos
  have hres : toT (backwardExt lessF occF iv a) =
      (lessF a + (extLoop occF iv a order (iv.lowerRev, 0, 0)).2.2, (extLoop occF iv a order (iv.lowerRev, 0, 0)).1,
        (extLoop occF iv a order (iv.lowerRev, 0, 0)).2.1, iv.matchSize + 1) := rfl
  rw [hres]
  unfold order at hloop e6 e6' ⊢
  simp [SrcFmdExt.backward_ext, hloop, e6, e6', e7, e7', hne, hne']

/-- `forward_ext` is `backward_ext` on the swapped interval with the complement symbol, swapped back -/
theorem forward_ext_eq_swap (lessF : Nat → Nat) (occF : Nat → Nat → Nat) (iv : Bi) (a : Nat) {r : BiT}
    (h : SrcFmdExt.backward_ext lessF occF (toT (swapped iv)) (dnaCompl a) = Res.ok r) :
    SrcFmdExt.forward_ext lessF occF dnaCompl (toT iv) a = Res.ok (toT (swapped (ofT r))) := by
  have s1 := swapped_eq_model iv
  have s2 : SrcFmdExt.swapped r.1 r.2.1 r.2.2.1 r.2.2.2 = Res.ok (toT (swapped (ofT r))) := swapped_eq_model (ofT r)
  simp [SrcFmdExt.forward_ext, s1, h, s2]

/-- **`forward_ext` on a non-empty interval** (hypotheses of `backward_ext_eq_model` for the swapped interval and the
complement symbol) -/
theorem forward_ext_eq_model (lessF : Nat → Nat) (occF : Nat → Nat → Nat) (iv : Bi) (a N : Nat)
    (hpos : 0 < iv.size) (h64 : iv.lowerRev + iv.size < 2 ^ 64) (hm : OccMono occF (swapped iv) order)
    (hN : ∀ r b, occF r b ≤ N) (hsum : iv.lower + (order.map (sOf occF (swapped iv))).sum < 2 ^ 64)
    (hk : lessF (dnaCompl a) + N < 2 ^ 64) (hms : iv.matchSize + 1 < 2 ^ 64) :
    SrcFmdExt.forward_ext lessF occF dnaCompl (toT iv) a = Res.ok (toT (forwardExt lessF occF iv a)) :=
  forward_ext_eq_swap lessF occF iv a (r := toT (backwardExt lessF occF (swapped iv) (dnaCompl a)))
    (backward_ext_eq_model lessF occF (swapped iv) (dnaCompl a) N hpos h64 hm hN hsum hk hms)

/-! ### extension of an *empty* interval (the dead start of `smems`: `pattern[i]` does not occur)

Stated without reference to the mirror model's value: the property does not say which empty bi-interval an extension
of an empty bi-interval is.  The present text runs the loop (every size is `occ(lower-1, b) - occ(lower-1, b) = 0`), a
text with an early exit for empty intervals (seeded change C06-H1) returns the interval itself. -/

/-- what the sweep needs of the extension `x` of the empty interval `iv`: no panic, empty again, bounds kept (`≤ B`);
`pl` / `pr`: the condition under which the new `lower` / `lower_rev` is known to be `≥ 1` (`1 ≤ less(a)` on the side
`backward_ext` recomputes, `True` on the side it carries over) -/
def DeadOk (iv : Bi) (B : Nat) (pl pr : Prop) (x : Res BiT) : Prop :=
  match x with
  | .ok r => r.2.2.1 = 0 ∧ (pl → 1 ≤ r.1) ∧ r.1 ≤ B ∧ (pr → 1 ≤ r.2.1) ∧ r.2.1 ≤ B ∧ r.2.2.2 = iv.matchSize + 1
  | _ => False

theorem sOf_dead (occF : Nat → Nat → Nat) (iv : Bi) (h0 : iv.size = 0) (hl : iv.lower ≠ 0) (b : Nat) :
    sOf occF iv b = 0 := by
  simp [sOf, h0, hl]

theorem sum_sOf_dead (occF : Nat → Nat → Nat) (iv : Bi) (h0 : iv.size = 0) (hl : iv.lower ≠ 0) :
    ∀ ord : List Nat, (ord.map (sOf occF iv)).sum = 0
  | [] => rfl
  | b :: rest => by simp [sOf_dead occF iv h0 hl b, sum_sOf_dead occF iv h0 hl rest]

theorem backward_ext_dead (lessF : Nat → Nat) (occF : Nat → Nat → Nat) (iv : Bi) (a N B : Nat)
    (h0 : iv.size = 0) (hl : 1 ≤ iv.lower) (hlB : iv.lower ≤ B) (hr : 1 ≤ iv.lowerRev) (hrB : iv.lowerRev ≤ B)
    (hB : B < 2 ^ 64) (hN : ∀ r b, occF r b ≤ N) (hk : lessF a + N ≤ B)
    (hms : iv.matchSize + 1 < 2 ^ 64) :
    DeadOk iv B (1 ≤ lessF a) True (SrcFmdExt.backward_ext lessF occF (toT iv) a) := by
  have hl0 : iv.lower ≠ 0 := Nat.ne_of_gt hl
  have hm : OccMono occF iv order := by
    intro b _
    simp [h0, hl0]
  have hloop := extLoop_eq lessF occF iv a (by omega) (by omega) order iv.lowerRev 0 0 hm
    (by rw [sum_sOf_dead occF iv h0 hl0]; omega)
  have hd := extLoop_dead occF iv a h0 hl0 order (iv.lowerRev, 0, 0) rfl
  have ho := extLoop_o_le occF iv a N hN order (iv.lowerRev, 0, 0) (by simp)
  have hk' : lessF a + (extLoop occF iv a order (iv.lowerRev, 0, 0)).2.2 < 2 ^ 64 := by omega
  have e6 := Rs.add_ok hk'
  have e6' := Rs.add_ok_comm hk'
  have e7 : Rs.add 64 iv.matchSize 1 = Res.ok (iv.matchSize + 1) := Rs.add_ok hms
  have e7' : Rs.add 64 1 iv.matchSize = Res.ok (iv.matchSize + 1) := Rs.add_ok_comm hms
  have hd1 := hd.1
  have hd2 := hd.2
  simp only at hd1 hd2
  unfold order at hloop e6 e6' hd1 hd2 ho
  simp [DeadOk, SrcFmdExt.backward_ext, hloop, e6, e6', e7, e7', h0, hd1, hd2]
  all_goals (try omega)

theorem DeadOk.swap {iv : Bi} {B : Nat} {pl pr : Prop} {r : BiT} (h : DeadOk (swapped iv) B pl pr (Res.ok r)) :
    DeadOk iv B pr pl (Res.ok (toT (swapped (ofT r)))) := by
  obtain ⟨h1, h2, h3, h4, h5, h6⟩ := h
  exact ⟨h1, h4, h5, h2, h3, h6⟩

theorem forward_ext_dead (lessF : Nat → Nat) (occF : Nat → Nat → Nat) (iv : Bi) (a N B : Nat)
    (h0 : iv.size = 0) (hl : 1 ≤ iv.lower) (hlB : iv.lower ≤ B) (hr : 1 ≤ iv.lowerRev) (hrB : iv.lowerRev ≤ B)
    (hB : B < 2 ^ 64) (hN : ∀ r b, occF r b ≤ N) (hk : lessF (dnaCompl a) + N ≤ B)
    (hms : iv.matchSize + 1 < 2 ^ 64) :
    DeadOk iv B True (1 ≤ lessF (dnaCompl a)) (SrcFmdExt.forward_ext lessF occF dnaCompl (toT iv) a) := by
  have hb := backward_ext_dead lessF occF (swapped iv) (dnaCompl a) N B h0 hr hrB hl hlB hB hN hk hms
  cases hx : SrcFmdExt.backward_ext lessF occF (toT (swapped iv)) (dnaCompl a) with
  | ok r => rw [hx] at hb; rw [forward_ext_eq_swap lessF occF iv a hx]; exact hb.swap
  | panic => rw [hx] at hb; exact hb.elim
  | fuel => rw [hx] at hb; exact hb.elim

end RbV.Thm.GenSrcFmdExt
