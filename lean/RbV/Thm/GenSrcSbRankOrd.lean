import RbV.Gen.SrcSbRankOrd
import RbV.Model.RankSelect
import RbV.Lemmas.RankSelectSorted
/-! `impl Deref / Ord / PartialOrd for SuperblockRank` as written (`RbV/Gen/SrcSbRankOrd.lean`, regenerated from
`src/data_structures/rank_select.rs` on every `./check C17`) against the mirror `SbRank.val` / `SbRank.lt`
(`Model/RankSelect.lean`).  The proofs distinguish the comparison of the two ranks and, for equal ranks, the two constructors;
they do not depend on the order of the `match` arms or of the `if` branches. -/
namespace RbV.Thm.GenSrcSbRankOrd
open RbV RbV.Model.RankSelect RbV.Gen.SrcSbRankOrd RbV.Lemmas.RankSelectSorted

/-- the generated enum and the mirror's `SbRank` are the same type up to constructor names -/
def toSb : SuperblockRank → SbRank
  | .First r => .first r
  | .Some r => .some r

def ofSb : SbRank → SuperblockRank
  | .first r => .First r
  | .some r => .Some r

@[simp] theorem toSb_ofSb (a : SbRank) : toSb (ofSb a) = a := by cases a <;> rfl
@[simp] theorem ofSb_toSb (a : SuperblockRank) : ofSb (toSb a) = a := by cases a <;> rfl

theorem deref_eq_model (a : SuperblockRank) : deref a = (toSb a).val := by
  cases a <;> rfl

/-- the order of the mirror as an `Ordering` -/
def modelCmp (a b : SbRank) : Ordering :=
  if a.lt b then .lt else if b.lt a then .gt else .eq

/-- unequal ranks decide the comparison, whatever the constructors -/
theorem cmp_of_ne (a b : SuperblockRank) (h : deref a ≠ deref b) : cmp a b = compare (deref a) (deref b) := by
  have : compare (deref a) (deref b) ≠ .eq := fun hc => h (Nat.compare_eq_eq.mp hc)
  simp [cmp, this]

theorem modelCmp_of_lt (a b : SbRank) (h : a.val < b.val) : modelCmp a b = .lt := by
  simp [modelCmp, SbRank.lt, h]

theorem modelCmp_of_gt (a b : SbRank) (h : b.val < a.val) : modelCmp a b = .gt := by
  simp [modelCmp, SbRank.lt, h, Nat.lt_asymm h, Nat.ne_of_gt h]

/-- **`Ord::cmp` as written = the mirror order**: different ranks decide on both sides; for equal ranks the four pairs
of constructors are compared -/
theorem cmp_eq_model (a b : SuperblockRank) : cmp a b = modelCmp (toSb a) (toSb b) := by
  rcases Nat.lt_trichotomy (deref a) (deref b) with h | h | h
  · rw [cmp_of_ne a b (Nat.ne_of_lt h), Nat.compare_eq_lt.mpr h,
      modelCmp_of_lt _ _ (by rwa [← deref_eq_model, ← deref_eq_model])]
  · cases a <;> cases b <;> simp only [deref] at h <;> subst h <;>
      simp [cmp, deref, modelCmp, SbRank.lt, SbRank.val, toSb]
  · rw [cmp_of_ne a b (Nat.ne_of_gt h), Nat.compare_eq_gt.mpr h,
      modelCmp_of_gt _ _ (by rwa [← deref_eq_model, ← deref_eq_model])]

/-- the `<` that `binary_search` / `sort` derive from the translated `cmp` -/
def srcLt (a b : SbRank) : Bool := cmp (ofSb a) (ofSb b) == Ordering.lt

theorem modelCmp_lt (a b : SbRank) : (modelCmp a b == Ordering.lt) = a.lt b := by
  unfold modelCmp
  cases h : a.lt b <;> cases h' : b.lt a <;> simp

theorem srcLt_eq_model : srcLt = SbRank.lt := by
  funext a b
  simp only [srcLt, cmp_eq_model, toSb_ofSb, modelCmp_lt]

theorem partialCmp_eq (a b : SuperblockRank) : partialCmp a b = some (cmp a b) := by
  simp [partialCmp]

/-- antisymmetry of the translated `cmp`: swapping the arguments swaps the outcome -/
theorem cmp_swap (a b : SuperblockRank) : (cmp a b).swap = cmp b a := by
  rw [cmp_eq_model, cmp_eq_model]
  generalize toSb a = x; generalize toSb b = y
  unfold modelCmp
  have hx : ¬ (x.lt y = true ∧ y.lt x = true) := by
    rw [lt_iff, lt_iff]
    cases x <;> cases y <;> simp [SbRank.val] <;> omega
  cases h : x.lt y <;> cases h' : y.lt x <;> simp_all

end RbV.Thm.GenSrcSbRankOrd
