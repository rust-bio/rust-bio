import RbV.Gen.SrcHmmForward
import RbV.Lemmas.HmmSrc
/-!
# The translated text of `hmm::forward` equals the mirror model `Hmm.forward` (at exact weights)

`RbV/Gen/SrcHmmForward.lean` is regenerated from `src/stats/hmm/mod.rs` on every `./check C14`; `LogProb` is an abstract type
there.  Instantiated at exact numerators (`Rs.natOps`: `+` on logs = product, `ln_sum_exp` = sum) and a specification-level
model (`Rs.hmmOps m`), the translated function returns — without panic — the table of forward columns and the likelihood of
the mirror model, for every model and every non-empty observation sequence.  The proof follows the loops with invariants
stated on the *table* (`RowFilled`: one row written cell by cell; rows `< i` are the columns `fcol`), never on the shape of
the generated term; the value of a cell may be written with the emission inside or outside the sum (`sumS_mul_right`).
-/
set_option linter.unusedSimpArgs false

namespace RbV.Thm.GenSrcHmmForward
open RbV RbV.Rs RbV.Hmm RbV.Thm.GenSrc RbV.Gen.SrcHmmForward

/-- the forward column after the observations `0 … t` -/
def fcol (m : Hmm) (obs : List Nat) : Nat → List Nat
  | 0 => col0 m (obs.getD 0 0)
  | t + 1 => stepF m (fcol m obs t) (obs.getD (t + 1) 0)

theorem fcol_length (m : Hmm) (obs : List Nat) (t : Nat) : (fcol m obs t).length = m.S := by
  cases t <;> simp [fcol, col0, stepF, tab]

theorem fwdFrom_fcol (m : Hmm) (obs : List Nat) : ∀ t, t < obs.length →
    fwdFrom m (fcol m obs t) (obs.drop (t + 1)) = Hmm.forward m obs := by
  intro t
  induction t with
  | zero =>
    intro h
    cases obs with
    | nil => simp at h
    | cons o os => simp [fcol, Hmm.forward]
  | succ t ih =>
    intro h
    rw [← ih (by omega), List.drop_eq_getElem_cons (by omega : t + 1 < obs.length)]
    simp only [fwdFrom, fcol]
    congr 2
    simp [List.getD, List.getElem?_eq_getElem h]

/-- invariant of the loop over the observations: rows `< j` are the forward columns, the others have `S` cells -/
abbrev Inv (m : Hmm) (obs : List Nat) : Nat → List (List Nat) → Prop := RowsDone obs.length m.S (fcol m obs)

theorem Inv.set {m : Hmm} {obs : List Nat} {j : Nat} {vals : List (List Nat)} (h : Inv m obs j vals) (hj : j < obs.length)
    {r : List Nat} (hr : r = fcol m obs j) : Inv m obs (j + 1) (vals.set j r) :=
  RowsDone.set h hj hr (fcol_length m obs j)

/-- first column: `for s in hmm.states() { vals[[0, *s]] = initial_prob(s) + observation_prob(s, o) }` -/
theorem for2_eq (z : Nat) (m : Hmm) (b : Nat) (vals : List (List Nat)) (r0 : List Nat) (h0 : vals[0]? = some r0)
    (hl : r0.length = m.S) :
    List.foldlM (forward_for2 (natOps z) (hmmOps m) b) vals (List.range m.S) = Res.ok (vals.set 0 (col0 m b)) :=
  fill_row_eq _ (fun s => m.init s * m.emit s b) 0 m.S vals r0 h0 hl fun j s _ _ => by simp [forward_for2]

/-- a later column `i`: every cell is the sum over the predecessors in row `i - 1`.  The loop state is the table, or the
table together with a scratch buffer of the summands (the statement elaborates at whichever the text has); the proof never
names the new state: `simp` unfolds the body on a variable state and finds the witness.  The emission may stand inside or
outside the sum. -/
theorem for3_eq (z : Nat) (m : Hmm) (i b : Nat) (hi : 0 < i) (s0 : _) (prev r0 : List Nat)
    (hp : (HasVals.get s0)[i - 1]? = some prev) (hpl : prev.length = m.S) (h0 : (HasVals.get s0)[i]? = some r0)
    (hl : r0.length = m.S) :
    ∃ s', List.foldlM (forward_for3 (natOps z) (hmmOps m) i b) s0 (List.range m.S) = Res.ok s' ∧
      HasVals.get s' = (HasVals.get s0).set i (stepF m prev b) := by
  obtain ⟨s', h1, h2, _⟩ := fill_row (fun s => HasVals.get s) (forward_for3 (natOps z) (hmmOps m) i b)
    (fun j => sumS m.S fun k => ix prev k * m.trans k j * m.emit j b) i m.S (fun _ _ => True) s0 r0 h0 hl trivial (by
      intro j s hj hf _
      obtain ⟨a', ha', hf'⟩ := hf.step hj
      have e1 : Rs.sub i 1 = Res.ok (i - 1) := sub_ok hi
      have e2 : ∀ k, k < m.S → Rs.get2 (HasVals.get s) (i - 1) k = Res.ok (ix prev k) := fun k hk => by
        rw [hf.get_other (by omega), get2_ix hp hpl hk]
      have hs : ((List.range m.S).map fun k => ix prev k * m.trans k j * m.emit j b).sum
          = sumS m.S fun k => ix prev k * m.trans k j * m.emit j b := rfl
      have hs' : ((List.range m.S).map fun k => ix prev k * m.trans k j).sum * m.emit j b
          = sumS m.S fun k => ix prev k * m.trans k j * m.emit j b :=
        (sumS_mul_right m.S (m.emit j b) fun k => ix prev k * m.trans k j).symm
      simp only [HasVals.get_plain, HasVals.get_fst] at ha' hf' e2
      simp only [forward_for3, hmmOps_numStates]
      -- the summands, with the emission inside or outside the sum (the closure is unified, its captured variables do not
      -- matter).  The side goal stays at tactic level: an unsolved goal inside a nested `by` is logged, not thrown, and `first`
      -- would not fall through.
      first
        | (rw [mapM_range_ok (g := fun k => ix prev k * m.trans k j * m.emit j b) m.S]; rotate_left
           focus (intro k hk; simp [forward_map1, e1, e2 k hk]; done))
        | (rw [mapM_range_ok (g := fun k => ix prev k * m.trans k j) m.S]; rotate_left
           focus (intro k hk; simp [forward_map1, e1, e2 k hk]; done))
      simpa [hs, hs', ha'] using hf')
  exact ⟨s', h1, by rw [h2]; rfl⟩

theorem for1_eq (z : Nat) (m : Hmm) (obs : List Nat) (s0 : _) (h : Inv m obs 0 (HasVals.get s0)) :
    ∃ s', List.foldlM (forward_for1 (natOps z) (hmmOps m)) s0 (Rs.enumerate obs) = Res.ok s' ∧
      Inv m obs obs.length (HasVals.get s') := by
  exact foldlM_enumerate_inv (forward_for1 (natOps z) (hmmOps m)) (fun j s => Inv m obs j (HasVals.get s)) obs s0 h (by
    intro j b s hb hinv
    have hjn : j < obs.length := lt_of_getElem?_eq_some hb
    have hbd : obs.getD j 0 = b := by simp [List.getD, hb]
    have hbd' : obs[j]?.getD 0 = b := by simp [hb]
    obtain ⟨r0, hr0, hl0⟩ := hinv.1.2 j hjn
    by_cases hj0 : j = 0
    · subst hj0
      have hf := for2_eq z m b (HasVals.get s) r0 hr0 hl0
      have hnew : Inv m obs (0 + 1) ((HasVals.get s).set 0 (col0 m b)) := hinv.set hjn (by simp [fcol, hbd, hbd'])
      simp only [HasVals.get_plain, HasVals.get_fst] at hf hnew
      simpa [forward_for1, hf] using hnew
    · have hp := hinv.2 (j - 1) (by omega) (by omega)
      obtain ⟨s', hf, hs'⟩ := for3_eq z m j b (by omega) s _ r0 hp (fcol_length m obs (j - 1)) hr0 hl0
      have hnew : Inv m obs (j + 1) (HasVals.get s') := by
        rw [hs']
        refine hinv.set hjn ?_
        obtain ⟨j', rfl⟩ : ∃ j', j = j' + 1 := ⟨j - 1, by omega⟩
        simp [fcol, hbd, hbd']
      exact ⟨s', by simp [forward_for1, hf, hj0], hnew⟩)

/-- the final sum over the last row of the finished table -/
theorem final_eq (z : Nat) (m : Hmm) (obs : List Nat) (h : obs ≠ []) (vals' : List (List Nat))
    (hinv : Inv m obs obs.length vals') :
    List.mapM (forward_map2 (natOps z) (hmmOps m) obs vals') (List.range m.S)
        = Res.ok ((List.range m.S).map fun k => ix (fcol m obs (obs.length - 1)) k * m.fin k) ∧
      ((List.range m.S).map fun k => ix (fcol m obs (obs.length - 1)) k * m.fin k).sum = Hmm.forward m obs ∧
      vals' = (List.range obs.length).map (fcol m obs) := by
  have hn : 0 < obs.length := List.length_pos_iff.mpr h
  have hlast := hinv.2 (obs.length - 1) (by omega) (by omega)
  have e1 : Rs.sub obs.length 1 = Res.ok (obs.length - 1) := sub_ok hn
  have hm : ∀ k, k < m.S → forward_map2 (natOps z) (hmmOps m) obs vals' k
      = Res.ok (ix (fcol m obs (obs.length - 1)) k * m.fin k) := by
    intro k hk
    have e2 : Rs.get2 vals' (obs.length - 1) k = Res.ok (ix (fcol m obs (obs.length - 1)) k) :=
      get2_ix hlast (fcol_length ..) hk
    first
      | (simp [forward_map2, e1, e2]; done)
      | (simp [forward_map2, e1, e2, Nat.mul_comm]; done)
  refine ⟨mapM_range_ok m.S hm, ?_, table_ext hinv.1.1 fun t ht => hinv.2 t ht ht⟩
  have := fwdFrom_fcol m obs (obs.length - 1) (by omega)
  rw [show obs.length - 1 + 1 = obs.length by omega, List.drop_length] at this
  rw [← this]; rfl

/-- **`hmm::forward` as written in the source = the mirror model**, at exact weights: for every model and every non-empty
observation sequence the translated function returns, without panic, the table of forward columns and the model's
likelihood -/
theorem forward_eq_model (z : Nat) (m : Hmm) (obs : List Nat) (h : obs ≠ []) :
    Gen.SrcHmmForward.forward (natOps z) (hmmOps m) obs
      = Res.ok ((List.range obs.length).map (fcol m obs), Hmm.forward m obs) := by
  have h0 : Inv m obs 0 (Rs.zeros2 z obs.length m.S) := ⟨shaped_zeros2 _ _ _, fun t ht => absurd ht (by omega)⟩
  simp only [Gen.SrcHmmForward.forward, natOps_arrZero, hmmOps_numStates]
  refine Res.bind_eq_ok_of (fun s' => Inv m obs obs.length (HasVals.get s')) (for1_eq z m obs _ h0) fun s' hinv => ?_
  obtain ⟨hmap, hval, htab⟩ := final_eq z m obs h _ hinv
  simp only [HasVals.get_plain, HasVals.get_fst] at hmap htab
  simp [hmap, hval, ← htab]

end RbV.Thm.GenSrcHmmForward
