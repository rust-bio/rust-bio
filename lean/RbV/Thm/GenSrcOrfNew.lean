import RbV.Gen.SrcOrfNew
import RbV.Thm.GenSrcOrf
/-! `Finder::new`, `State::new`, `Finder::find_all` as written (`RbV/Gen/SrcOrfNew.lean`, regenerated from
`src/seq_analysis/orf.rs` on every `./check C20`): the constructor chain in front of the translated `Matches::next`
(`RbV/Gen/SrcOrf.lean`). -/
namespace RbV.Thm.GenSrcOrfNew
open RbV RbV.Rs RbV.Gen.SrcOrfNew

theorem enumFromL_eq (n : Nat) (l : List Nat) : Rs.enumFromL n l = GenSrcOrf.enumFrom n l := by
  induction l generalizing n with
  | nil => rfl
  | cons a l ih => simp [Rs.enumFromL, GenSrcOrf.enumFrom, ih]

/-- `Finder::new` stores the codons (each `[u8; 3]` copied into a `VecDeque`, i.e. the same symbols) and `min_len` -/
theorem finderNew_eq (starts stops : List (List Nat)) (minLen : Nat) :
    finderNew starts stops minLen = { start_codons := starts, stop_codons := stops, min_len := minLen } := by
  simp [finderNew]

theorem stateNew_eq : stateNew = { start_pos := [[], [], []], codon := [], found := [] } := by
  simp [stateNew]

theorem findAll_eq (F : Finder) (seq : List Nat) :
    findAll F seq = { finder := F, state := { start_pos := [[], [], []], codon := [], found := [] },
                      seq := GenSrcOrf.enumFrom 0 seq } := by
  simp [findAll, stateNew, Rs.enumFrom0, enumFromL_eq]

/-- what a consumer of `Finder::new(starts, stops, min_len).find_all(seq)` sees: the translated constructors, then the
translated `next` (with the length test `T`) called until `None` -/
def findAllSrc (T : Nat → Nat → Nat → Res Bool) (starts stops : List (List Nat)) (minLen fuel : Nat) (seq : List Nat) :
    Res (List (Nat × Nat × Nat)) :=
  let M := findAll (finderNew starts stops minLen) seq
  GenSrcOrf.collect T M.finder.start_codons M.finder.stop_codons M.finder.min_len fuel
    M.state.start_pos M.state.codon M.state.found M.seq

theorem findAllSrc_eq (T : Nat → Nat → Nat → Res Bool) (starts stops : List (List Nat)) (minLen fuel : Nat) (seq : List Nat) :
    findAllSrc T starts stops minLen fuel seq
      = GenSrcOrf.collect T starts stops minLen fuel [[], [], []] [] [] (GenSrcOrf.enumFrom 0 seq) := by
  simp only [findAllSrc, findAll_eq, finderNew_eq]

end RbV.Thm.GenSrcOrfNew
