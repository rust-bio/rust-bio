import RbV.Gen.SrcGff
import RbV.Thm.GenSrcBed
import RbV.Lemmas.Tsv
/-! `gff::Writer::write` and `GffType::separator` as written (`RbV/Gen/SrcGff.lean`, regenerated from `src/io/gff.rs` on every
`./check C13`) against the format model `RbV/Model/Tsv.lean`.

The `MultiMap` of a record is the list of its key groups in the map's own iteration order (arbitrary); the theorems hold for every
such list.  `csv::Writer::serialize` is abstract (`GenSrcBed.csvSerialize` = the csv writer model is its contract). -/
set_option linter.unusedSimpArgs false
namespace RbV.Thm.GenSrcGff
open RbV RbV.Rs RbV.Tsv RbV.Gen.SrcGff
open RbV.Thm.GenSrcBed (csvSerialize)

/-- the model record of a source record: attributes = the key groups in the iteration order of the map -/
def toModel (r : Record) : GffRec :=
  ⟨r.seqname, r.source, r.feature_type, r.start, r.end', r.score, r.strand, r.phase, r.attributes⟩

/-- the writer's three delimiter fields are those of dialect `d` (what `Writer::new` stores: `delim as char`, the one-byte
string of `termi`, `vdelim`); several values of a key are repeated keys exactly when there is no value delimiter (NUL) -/
structure WriterFor (d : Dialect) (self : Writer) : Prop where
  delim : self.delimiter = d.delim
  term : self.terminator = [d.term]
  vdelim : self.value_delimiter = d.vdelim
  rep : d.repeatKeys = decide (d.vdelim = 0)
  delimAscii : d.delim < 128
  vdelimAscii : d.vdelim < 128

theorem joinStr_single (c : Nat) (xs : List (List Nat)) : Rs.joinStr [c] xs = join c xs := by
  induction xs with
  | nil => rfl
  | cons p r ih =>
    cases r with
    | nil => rfl
    | cons q r => simp only [Rs.joinStr, join, ih, List.append_assoc, List.singleton_append]

theorem serPhase_eq (p : Option Nat) : Rs.serPhase toDec p = phaseStr p := by
  cases p <;> rfl

/-- the attribute column in the two shapes of the text -/
theorem col_repeat (t dl vd : Nat) (g : List (List Nat × List (List Nat))) (hg : ∀ kv ∈ g, kv.2 ≠ []) :
    join t (g.map fun kv => join t (kv.2.map fun b => kv.1 ++ ([dl] ++ b))) = writeAttrs ⟨dl, t, vd, true⟩ g := by
  unfold writeAttrs segments
  simp only [if_true]
  rw [List.map_flatMap, join_flatMap]
  · simp [List.map_map, Function.comp_def, renderSeg]
  · intro kv hkv; simpa using hg kv hkv

theorem col_joined (t dl vd : Nat) (g : List (List Nat × List (List Nat))) :
    join t (g.map fun kv => kv.1 ++ ([dl] ++ join vd kv.2)) = writeAttrs ⟨dl, t, vd, false⟩ g := by
  have hs : ∀ (f : List Nat × List (List Nat) → List Nat × List Nat) (g : List (List Nat × List (List Nat))),
      g.flatMap (fun kv => [f kv]) = g.map f := by
    intro f g
    induction g with
    | nil => rfl
    | cons x r ih => simp [List.flatMap_cons, ih]
  unfold writeAttrs segments
  simp only [Bool.false_eq_true, if_false]
  rw [hs, List.map_map]
  rfl

/- the shape-independent core of `write_fields_perm` and `GenSrcGffExact.write_fields`: the goal is reduced to the attribute column,
the outer test is decided by a case split on the map being empty (either polarity), the closure is compared pointwise under `vd = 0` / `vd ≠ 0` (either branch
order, either operand order).  `G` = the list of key groups the text iterates over (the map's own order, or `permGroups` of it).
Hygiene is off: the macro takes `r hg hP hnil h4 e1 e2 dl t vd rep` from the caller's context by name (the twelve lines that open
`write_fields_perm` and `GenSrcGffExact.write_fields` introduce them under exactly these names). -/
set_option hygiene false in
macro "gff_core " G:term : tactic => `(tactic| (
  have hG : ∀ kv ∈ $G, kv.2 ≠ [] := fun kv hkv => hg kv (((hP : List.Perm $G r.attributes).mem_iff).mp hkv)
  simp only [write, Rs.csvFields, gffFields, toModel, serPhase_eq, List.flatten_cons, List.flatten_nil, List.singleton_append,
    List.append_nil, List.cons_append, List.nil_append]
  congr 1
  simp only [List.cons.injEq, and_true, true_and]
  cases hr : r.attributes with
  | nil =>
    have hGnil : $G = [] := List.Perm.eq_nil (hr ▸ hP)
    try rw [hr] at hGnil
    simp [hnil, hGnil]
  | cons kv rest =>
    rw [← hr]
    have hne : List.isEmpty r.attributes = false := by simp [hr]
    simp only [hne, Bool.not_false, Bool.not_true, if_true, if_false, Bool.false_eq_true, joinStr_single]
    by_cases hv : vd = 0
    · have hrep : rep = true := by simp [h4, hv]
      subst hrep
      rw [← col_repeat t dl vd $G hG]
      congr 1
      apply List.map_congr_left
      rintro ⟨a, values⟩ _
      simp [hv, e1, joinStr_single]
    · have hrep : rep = false := by simp [h4, hv]
      have hv' : ¬ 0 = vd := fun h => hv h.symm          -- the test written `0u8 == self.value_delimiter`
      subst hrep
      rw [← col_joined t dl vd $G]
      congr 1
      apply List.map_congr_left
      rintro ⟨a, values⟩ _
      simp [hv, hv', e1, e2, joinStr_single]))

set_option linter.unusedVariables false in -- `hperm` serves only the alternative for a text that sorts
/-- **the nine columns and the attribute column, up to the order of the key groups**: for every csv writer `serialize` and every
sorting routine (`permGroups`: any function that permutes its argument — what `sort…` on a list of key groups is read as), a
writer configured for dialect `d` hands csv the fields `gffFields d` of the record — seqname, source, type, start, end, score,
strand, phase, and the attribute column `writeAttrs d` over **some permutation** `g'` of the map's key groups (every key has at
least one value: `MultiMap` invariant).  The witness is the map's own iteration order when the text does not sort (`GenSrcGffExact.write_fields`),
its sorted form when it does (seeded C13-H1). -/
theorem write_fields_perm {ω ρ : Type} (serialize : ω → List (List Nat) → ρ)
    (perm : List (List Nat × List (List Nat)) → List (List Nat × List (List Nat))) (hperm : ∀ l, (perm l).Perm l)
    (inner : ω) (d : Dialect) (self : Writer) (r : Record)
    (hw : WriterFor d self) (hg : ∀ kv ∈ r.attributes, kv.2 ≠ []) :
    ∃ g', g'.Perm r.attributes ∧
      write serialize toDec perm inner self r = serialize inner (gffFields d { toModel r with attrs := g' }) := by
  obtain ⟨dl, t, vd, rep⟩ := d
  obtain ⟨sd, st, sv⟩ := self
  obtain ⟨h1, h2, h3, h4, h5, h6⟩ := hw
  simp only at h1 h2 h3 h4 h5 h6
  subst h2
  rw [← h1, ← h3] at *
  clear h1 h3 dl vd
  generalize sd = dl at *
  generalize sv = vd at *
  have e1 := Rs.charStr_ascii dl h5
  have e2 := Rs.charStr_ascii vd h6
  have hnil : writeAttrs ⟨dl, t, vd, rep⟩ [] = [] := rfl
  first
    | (refine ⟨r.attributes, List.Perm.refl _, ?_⟩
       have hP : List.Perm r.attributes r.attributes := List.Perm.refl _
       gff_core r.attributes)
    | (refine ⟨perm r.attributes, hperm _, ?_⟩
       have hP : List.Perm (perm r.attributes) r.attributes := hperm _
       gff_core (perm r.attributes))

/-- the delimiters of a `GffType` as the model's `Dialect` -/
def dialectOf (ty : GffType) : Dialect :=
  let s := separator ty
  ⟨s.1, s.2.1, s.2.2, decide (s.2.2 = 0)⟩

/-- **`GffType::separator` = the dialects of the model**: GFF3 is `= ; ,`, GFF2 and GTF2 are blank `;` NUL with repeated keys -/
theorem separator_eq_model :
    dialectOf .GFF3 = gff3 ∧ dialectOf .GFF2 = gff2 ∧ dialectOf .GTF2 = gff2 ∧
    ∀ x y z, separator (.Any x y z) = (x, y, z) := by
  refine ⟨by decide, by decide, by decide, fun _ _ _ => rfl⟩

/-- what `Writer::new` stores for a `GffType` (delimiter `delim as char`, terminator `String::from_utf8(vec![termi])`, value
delimiter): `writerNew_eq_model` -/
def writerOf (ty : GffType) : Writer :=
  let s := separator ty
  { delimiter := s.1, terminator := [s.2.1], value_delimiter := s.2.2 }

/-- **`Writer::new` as written** stores what `writerOf` says (delimiter `delim as char`, the one-byte string of `termi`,
`vdelim`) whenever the terminator is ASCII, and panics otherwise (`String::from_utf8(vec![termi]).unwrap()`); the csv builder
chain `delimiter(b'\t').flexible(true).from_writer(writer)` is fixed by the translation spec (the contract `csvSerialize`) -/
theorem writerNew_eq_model (ty : GffType) :
    writerNew ty = if (separator ty).2.1 < 128 then .ok (writerOf ty) else .panic := by
  unfold writerNew writerOf Rs.fromUtf8One
  by_cases h : (separator ty).2.1 < 128 <;> simp [h]

theorem writerFor_gff3 : WriterFor gff3 (writerOf .GFF3) := ⟨rfl, rfl, rfl, by decide, by decide, by decide⟩
theorem writerFor_gff2 : WriterFor gff2 (writerOf .GFF2) := ⟨rfl, rfl, rfl, by decide, by decide, by decide⟩
theorem writerFor_gtf2 : WriterFor gff2 (writerOf .GTF2) := ⟨rfl, rfl, rfl, by decide, by decide, by decide⟩

-- Tag=x,y;I=z (GFF3) and `T x;T y;I z` (GFF2): multi-valued keys are written with all their values
example : (write csvSerialize (fun n => [48 + n]) id [] (writerOf .GFF3)
      ⟨[99], [46], [103], 1, 2, [46], [43], none, [([84], [[120], [121]]), ([73], [[122]])]⟩).2
    = [99, 9, 46, 9, 103, 9, 49, 9, 50, 9, 46, 9, 43, 9, 46, 9, 84, 61, 120, 44, 121, 59, 73, 61, 122, 10] := by decide
example : (write csvSerialize (fun n => [48 + n]) id [] (writerOf .GFF2)
      ⟨[99], [46], [103], 1, 2, [46], [43], some 0, [([84], [[120], [121]]), ([73], [[122]])]⟩).2
    = [99, 9, 46, 9, 103, 9, 49, 9, 50, 9, 46, 9, 43, 9, 48, 9, 84, 32, 120, 59, 84, 32, 121, 59, 73, 32, 122, 10] := by decide

end RbV.Thm.GenSrcGff
