import RbV.Lemmas.C15SrcQuad
import RbV.Thm.GenSrcProbs
import RbV.Thm.GenSrcOk
import RbV.Gen.SrcProbsQuad
/-!
# C15: the translated integration helpers (`RbV/Gen/SrcProbsQuad.lean`) compute the log of the quadrature sum

Value-level statements (hard): for a density with finite-or-`ln 0` values `d i v`, a grid `xs = linspace a b n` (abstract) and
`a < b`, the translated helper does not panic and returns `r` with `|e^r − Q| ≤ δ·Q`, `Q` the trapezoid / Simpson sum with
the weights 1, 2, …, 2, 1 resp. 1, 4, 2, …, 4, 1 over the inner grid points *as the text enumerates them* (`innerPts`), times
`(b − a)/(2(n−1))` resp. `(b − a)/(3(n−1))`.  The last point is evaluated as `density(n, b)`, as in the text.
The grid rule (`grid_error`) adds each trapezoid with `ln_add_exp` before the final `ln_sum_exp`, so its bound is composite:
`δ + dropTol` per cell (`AddNear`), then `δ` for the sum (`Near.trans`).
-/
set_option linter.unusedSimpArgs false
set_option linter.unusedVariables false
namespace RbV.Thm.GenSrcProbsQuad
open RbV RbV.Rs RbV.C15 RbV.Gen.SrcProbsQuad RbV.Thm.GenSrcProbs Real

theorem trapezoid_error (E : ℝ → ℝ) (δ : ℝ) (h : ApproxExp E δ) (hδ : δ < 1) (linspace : XR → XR → Nat → List XR)
    (d : Nat → XR → LP) (α β : ℝ) (hw : α < β) (n : Nat) (hn : 2 ≤ n) :
    ∃ r : LP, ln_trapezoidal_integrate_exp (xrOps E) linspace (fun i v => emb (d i v)) (XR.fin α) (XR.fin β) n = Res.ok (emb r) ∧
      |lin r - (((innerPts (linspace (XR.fin α) (XR.fin β) n)).map fun it => 2 * lin (d it.1 it.2)).sum
          + lin (d 0 (XR.fin α)) + lin (d n (XR.fin β))) * ((β - α) / (2 * (n - 1)))|
        ≤ δ * ((((innerPts (linspace (XR.fin α) (XR.fin β) n)).map fun it => 2 * lin (d it.1 it.2)).sum
          + lin (d 0 (XR.fin α)) + lin (d n (XR.fin β))) * ((β - α) / (2 * (n - 1)))) := by
  have hE := posOn_of_approx h hδ
  simp only [ln_trapezoidal_integrate_exp]
  generalize linspace (XR.fin α) (XR.fin β) n = xs
  have h2 : (0 : ℝ) < 2 := two_pos
  set terms := quadTerms (fun _ => 2) d xs (d 0 (XR.fin α)) (d n (XR.fin β)) with hterms
  have hmap : ln_trapezoidal_integrate_exp_map1 (xrOps E) linspace (fun i v => emb (d i v))
      = fun it => emb (shiftLP (log 2) (d it.1 it.2)) := by
    funext ⟨i, v⟩
    simp only [ln_trapezoidal_integrate_exp_map1, ops_add, ops_ln, ops_ofDec, decR_int, Int.cast_ofNat, ln_fin_pos h2, add_emb_fin]
  obtain ⟨hn1, hnR, hnpos⟩ := pred_cast hn
  have hwpos : 0 < β - α := sub_pos.mpr hw
  have hK : (0 : ℝ) < 2 * ((n : ℝ) - 1) := mul_pos h2 hnpos
  refine ⟨shiftLP (-log (2 * ((n : ℝ) - 1))) (shiftLP (log (β - α)) (lnSumExp E terms)), ?_, ?_⟩
  · rw [hmap, ← innerPts, quadTerms_emb (fun _ => 2), ← hterms, ln_sum_exp_eq_model E hE terms, hn1]
    simp only [Res.ok_bind, Res.pure_eq_ok, ops_sub, ops_add, ops_ln, ops_mul, ops_ofDec, ops_ofNat, sub_fin, mul_fin,
      decR_int, Int.cast_ofNat, hnR, ln_fin_pos hwpos, ln_fin_pos hK, add_emb_fin, sub_emb_fin]
  · rw [← quadTerms_sum (wt := fun _ => 2) (fun _ => h2)]
    exact quad_error h hδ terms hwpos hK

/-- Simpson's weight as the text computes it, `(2 + (i % 2) * 2) as f64` -/
theorem simpson_weight_cast (i : Nat) : ((2 + i % 2 * 2 : ℕ) : ℝ) = if i % 2 = 1 then 4 else 2 := by
  rcases Nat.mod_two_eq_zero_or_one i with h | h <;> simp [h]

theorem simpson_error (E : ℝ → ℝ) (δ : ℝ) (h : ApproxExp E δ) (hδ : δ < 1) (linspace : XR → XR → Nat → List XR)
    (d : Nat → XR → LP) (α β : ℝ) (hw : α < β) (n : Nat) (hn : 2 ≤ n) (hodd : n % 2 = 1) :
    ∃ r : LP, ln_simpsons_integrate_exp (xrOps E) linspace (fun i v => emb (d i v)) (XR.fin α) (XR.fin β) n = Res.ok (emb r) ∧
      |lin r - (((innerPts (linspace (XR.fin α) (XR.fin β) n)).map fun it => (if it.1 % 2 = 1 then 4 else 2) * lin (d it.1 it.2)).sum
          + lin (d 0 (XR.fin α)) + lin (d n (XR.fin β))) * ((β - α) / (3 * (n - 1)))|
        ≤ δ * ((((innerPts (linspace (XR.fin α) (XR.fin β) n)).map fun it => (if it.1 % 2 = 1 then 4 else 2) * lin (d it.1 it.2)).sum
          + lin (d 0 (XR.fin α)) + lin (d n (XR.fin β))) * ((β - α) / (3 * (n - 1)))) := by
  have hE := posOn_of_approx h hδ
  simp only [ln_simpsons_integrate_exp]
  generalize linspace (XR.fin α) (XR.fin β) n = xs
  let wt : Nat → ℝ := fun i => ((2 + i % 2 * 2 : ℕ) : ℝ)
  have hwt : ∀ i, 0 < wt i := fun i => by simp only [wt]; positivity
  set terms := quadTerms wt d xs (d 0 (XR.fin α)) (d n (XR.fin β)) with hterms
  have hmap : ∀ it : Nat × XR, ln_simpsons_integrate_exp_map1 (xrOps E) linspace (fun i v => emb (d i v)) it
      = Res.ok (emb (shiftLP (log (wt it.1)) (d it.1 it.2))) := by
    intro ⟨i, v⟩
    have h2 : i % 2 * 2 < 2 ^ 64 := by omega
    have h3 : 2 + i % 2 * 2 < 2 ^ 64 := by omega
    simp only [ln_simpsons_integrate_exp_map1, Rs.mul, Rs.add, h2, h3, ↓reduceIte, Res.ok_bind, Res.pure_eq_ok, ops_add,
      ops_ln, ops_ofNat, ln_fin_pos (hwt i), add_emb_fin, wt]
  have hlist := GenSrc.mapM_ok _ _ (innerPts xs) (fun it _ => hmap it)
  obtain ⟨hn1, hnR, hnpos⟩ := pred_cast hn
  have hwpos : 0 < β - α := sub_pos.mpr hw
  have h3 : (0 : ℝ) < 3 := three_pos
  refine ⟨shiftLP (-log (3 * ((n : ℝ) - 1))) (shiftLP (log (β - α)) (lnSumExp E terms)), ?_, ?_⟩
  · rw [← shiftLP_neg_log_mul hnpos h3, ← innerPts, hlist]
    simp only [Rs.assert, hodd, beq_self_eq_true, ↓reduceIte, Res.ok_bind, quadTerms_emb wt, ← hterms,
      ln_sum_exp_eq_model E hE terms, hn1, Res.pure_eq_ok, ops_sub, ops_add, ops_ln, ops_ofDec, ops_ofNat, sub_fin,
      decR_int, Int.cast_ofNat, hnR, ln_fin_pos hwpos, ln_fin_pos hnpos, ln_fin_pos h3, add_emb_fin, sub_emb_fin]
  · have hw4 : (fun it : Nat × XR => (if it.1 % 2 = 1 then 4 else 2) * lin (d it.1 it.2)) = fun it => wt it.1 * lin (d it.1 it.2) := by
      funext it; simp only [wt, simpson_weight_cast]
    rw [hw4, ← quadTerms_sum hwt]
    exact quad_error h hδ terms hwpos (mul_pos h3 hnpos)

theorem mapM_map_ok {α β γ : Type} (f : β → Res γ) (φ : α → β) (g : α → γ) (l : List α) (h : ∀ x ∈ l, f (φ x) = Res.ok (g x)) :
    (l.map φ).mapM f = Res.ok (l.map g) := by
  rw [List.mapM_map]
  exact GenSrc.mapM_ok (f ∘ φ) g l h

/-- what one closure call of `ln_trapezoidal_integrate_grid_exp` returns, as a total function of the item -/
noncomputable def gridTerm (E : ℝ → ℝ) (d : Nat → XR → LP) (gs : List ℝ) (it : Nat × ℝ) : XR :=
  XR.add (XR.sub (Gen.SrcProbs.ln_add_exp (xrOps E) (emb (d (it.1 - 1) (XR.fin (gs.getD (it.1 - 1) 0)))) (emb (d it.1 (XR.fin it.2))))
    (XR.ln (XR.fin 2))) (XR.ln (XR.fin (it.2 - gs.getD (it.1 - 1) 0)))

/-- the trapezoid over the cell ending at grid point `it = (i, gᵢ)` -/
noncomputable def gridCell (d : Nat → XR → LP) (gs : List ℝ) (it : Nat × ℝ) : ℝ :=
  (it.2 - gs.getD (it.1 - 1) 0) / 2 * (lin (d (it.1 - 1) (XR.fin (gs.getD (it.1 - 1) 0))) + lin (d it.1 (XR.fin it.2)))

theorem grid_error (E : ℝ → ℝ) (δ : ℝ) (h : ApproxExp E δ) (hδ : δ < 1) (d : Nat → XR → LP) (gs : List ℝ)
    (hinc : ∀ it ∈ Rs.enumIdxFrom 1 gs.tail, gs.getD (it.1 - 1) 0 < it.2) :
    ∃ r : LP, ln_trapezoidal_integrate_grid_exp (xrOps E) (fun i v => emb (d i v)) (gs.map XR.fin) = Res.ok (emb r) ∧
      |lin r - ((Rs.enumIdxFrom 1 gs.tail).map (gridCell d gs)).sum|
        ≤ (δ * (1 + (δ + dropTol)) + (δ + dropTol)) * ((Rs.enumIdxFrom 1 gs.tail).map (gridCell d gs)).sum := by
  have hE := posOn_of_approx h hδ
  set items := Rs.enumIdxFrom 1 gs.tail with hitems
  have hdrop : (Rs.enumIdx (gs.map XR.fin)).drop 1 = items.map (fun it => (it.1, XR.fin it.2)) := by
    cases gs with
    | nil => rfl
    | cons a t => simp only [List.map_cons, hitems, List.tail_cons, ← enumIdxFrom_map]; rfl
  have hcall : ∀ it ∈ items, ln_trapezoidal_integrate_grid_exp_map1 (xrOps E) (fun i v => emb (d i v)) (gs.map XR.fin)
      (it.1, XR.fin it.2) = Res.ok (gridTerm E d gs it) := by
    intro it hit
    have hb := mem_enumIdxFrom 1 gs.tail it hit
    have hlen : it.1 - 1 < gs.length := by
      have : gs.tail.length = gs.length - 1 := List.length_tail
      omega
    have hs : Rs.sub it.1 1 = Res.ok (it.1 - 1) := sub_ok hb.1
    simp only [ln_trapezoidal_integrate_grid_exp_map1, hs, idx_map_fin gs _ hlen, Res.ok_bind, Res.pure_eq_ok, gridTerm,
      ops_add, ops_sub, ops_ln, ops_ofDec, decR_int, Int.cast_ofNat, sub_fin]
  have hmapM := mapM_map_ok (ln_trapezoidal_integrate_grid_exp_map1 (xrOps E) (fun i v => emb (d i v)) (gs.map XR.fin))
    (fun it : Nat × ℝ => (it.1, XR.fin it.2)) (gridTerm E d gs) items hcall
  have hterm : ∀ it ∈ items, ∃ t : LP, gridTerm E d gs it = emb t ∧ Near (δ + dropTol) (lin t) (gridCell d gs it) := by
    intro it hit
    obtain ⟨r, hr, hn⟩ := ln_add_exp_near_model E hE (d (it.1 - 1) (XR.fin (gs.getD (it.1 - 1) 0))) (d it.1 (XR.fin it.2))
    have hw : 0 < it.2 - gs.getD (it.1 - 1) 0 := by have := hinc it hit; linarith
    obtain ⟨e1, e2⟩ := trapezoid_term h hδ hn hw
    exact ⟨_, by simp only [gridTerm, hr]; exact e1, e2⟩
  obtain ⟨ts, hts, hes⟩ := terms_exist (gridTerm E d gs) (gridCell d gs) (δ + dropTol) items hterm
  -- `ln_sum_exp` within `δ` of the sum of the terms, that sum within `δ + dropTol` of the sum of the trapezoids
  refine ⟨lnSumExp E ts, ?_, Near.trans (lnSumExp_error h hδ ts) hes h.delta_nonneg⟩
  simp only [ln_trapezoidal_integrate_grid_exp, hdrop, hmapM, hts, Res.ok_bind, ln_sum_exp_eq_model E hE ts, Res.pure_eq_ok]

end RbV.Thm.GenSrcProbsQuad
