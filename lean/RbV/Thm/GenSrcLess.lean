import RbV.Gen.SrcLess
import RbV.Thm.GenSrcTactics
import RbV.Thm.GenSrcOk
import RbV.Thm.GenSrcPrescan
import RbV.Model.InvBWT
import RbV.Model.LFMapping
/-!
# The translated text of `less`, `bwtfind`, `invert_bwt` (bwt.rs) equals the mirror models `lessModel`, `bwtfindModel`, `invertModel`

`less_eq_model`, then (second half, with its own preamble) `bwtfind_eq_model`, `invert_bwt_eq_model`.

`RbV/Gen/SrcLess.lean` is regenerated from `src/data_structures/bwt.rs` by `tools/rs2lean.py` on every `./check C04`.
`alphabet.max_symbol()` is an abstract function of the opaque alphabet (`maxSymbol`); `.expect(..)` panics on `None`.
The call `prescan(&mut less[..], 0, |a, b| a + b)` is the translated `utils::prescan` (`RbV/Gen/SrcPrescan.lean`) with
the closure read as `+` on `Nat` (translation spec, `LESS_REWRITES`).  Hypotheses = what keeps the Rust code from
panicking: non-empty alphabet, every BWT symbol below the table size `max_symbol + 2`, `n < 2^64` (`less[c] += 1`).
-/
-- the simp sets name every fact a harmless rewrite of the Rust text may need; on the present text some are unused
set_option linter.unusedSimpArgs false

namespace RbV.Thm.GenSrcLess
open RbV RbV.Rs RbV.Gen.SrcLess RbV.Thm.GenSrc RbV.OccM RbV.InvBWT

variable {Alph : Type} (maxSymbol : Alph → Option Nat)

/-- one round of `for &c in bwt.iter() { less[c as usize] += 1; }` is the model's `bump` -/
theorem bump_step_eq (acc : List Nat) (c i : Nat) (hc : c < acc.length) (hb : ∀ v ∈ acc, v ≤ i) (hi : i + 1 < 2 ^ 64) :
    less_for1 maxSymbol acc c = Res.ok (bump acc c) := by
  have hle : acc[c] ≤ i := hb _ (List.getElem_mem hc)
  rw [bump_eq_set acc c hc]
  simp (disch := omega) only [rs_ok, less_for1, Nat.add_comm 1]

theorem count_loop_eq (m : Nat) : ∀ (xs acc : List Nat) (i : Nat),
    acc.length = m → (∀ x ∈ xs, x < m) → (∀ v ∈ acc, v ≤ i) → i + xs.length < 2 ^ 64 →
    xs.foldlM (less_for1 maxSymbol) acc = Res.ok (xs.foldl bump acc) := by
  intro xs
  induction xs with
  | nil => intro acc i _ _ _ _; rfl
  | cons x xs ih =>
    intro acc i hlen hx hb hi
    have hxm : x < acc.length := by rw [hlen]; exact hx x (by simp)
    simp only [List.length_cons] at hi
    rw [List.foldlM_cons, bump_step_eq maxSymbol acc x i hxm hb (by omega), Res.ok_bind, List.foldl_cons]
    exact ih (bump acc x) (i + 1) (by rw [length_bump]; exact hlen) (fun y hy => hx y (List.mem_cons_of_mem _ hy))
      (bump_le acc x i hxm hb) (by omega)

/-- **`less()` as written in the source = the mirror model `lessModel`** with table size `max_symbol + 2` -/
theorem less_eq_model (bwt : List Nat) (alphabet : Alph) (ms : Nat)
    (hms : maxSymbol alphabet = some ms) (hms' : ms + 2 < 2 ^ 64) (hn : bwt.length < 2 ^ 64)
    (hsym : ∀ x ∈ bwt, x < ms + 2) :
    less maxSymbol bwt alphabet = Res.ok (lessModel bwt (ms + 2)) := by
  have e1 : Rs.add 64 ms 2 = Res.ok (ms + 2) := Rs.add_ok hms'
  have e1' : Rs.add 64 2 ms = Res.ok (ms + 2) := Rs.add_ok_comm hms'
  have e2 := count_loop_eq maxSymbol (ms + 2) bwt (List.replicate (ms + 2) 0) 0 (by simp) hsym (by simp) (by omega)
  have e3 := GenSrcPrescan.prescan_eq_model (bwt.foldl bump (List.replicate (ms + 2) 0)) 0
  simp [less, hms, e1, e1', e2, e3, lessModel, countArr]

/-! ### `bwtfind`, `invert_bwt`

`less(bwt, alphabet)` / `bwtfind(bwt, &alphabet)` are calls of the translated functions of this file, `Alphabet::new(bwt)`
is abstract (`alphNew`).  What keeps `bwtfind[less[c as usize]] = r` in bounds is the meaning of the `less` array
(`less[c]` + the number of earlier `c`s is a row of the BWT), so the loop lemma carries the invariant
`less[c] = lessRef bwt c + #c seen so far`. -/

/-- one round of `for (r, &c) in bwt.iter().enumerate()` -/
theorem bwtfind_step (bf ls : List Nat) (c r v : Nat) (hv : ls[c]? = some v) (hvb : v < bf.length) (hv64 : v + 1 < 2 ^ 64) :
    bwtfind_for1 maxSymbol (bf, ls) (c, r) = Res.ok (bf.set (ls.getD c 0) r, bump ls c) := by
  have hc : c < ls.length := (List.getElem?_eq_some_iff.mp hv).1
  have hg : ls.getD c 0 = v := by rw [List.getD_eq_getElem?_getD, hv]; rfl
  have hget : ls[c] = v := (List.getElem?_eq_some_iff.mp hv).2
  have e1 : Rs.idx ls c = Res.ok v := Rs.idx_of_getElem? hv
  have e2 : ∀ x, Rs.setIdx bf v x = Res.ok (bf.set v x) := fun x => Rs.setIdx_ok hvb
  have e3 : Rs.add 64 v 1 = Res.ok (v + 1) := Rs.add_ok hv64
  have e3' : Rs.add 64 1 v = Res.ok (v + 1) := Rs.add_ok_comm hv64
  have e4 : ∀ x, Rs.setIdx ls c x = Res.ok (ls.set c x) := fun x => Rs.setIdx_ok hc
  rw [bump_eq_set ls c hc, hg, hget]
  simp [bwtfind_for1, e1, e2, e3, e3', e4]

theorem bwtfind_loop_eq (bwt : List Nat) (m : Nat) (hsym : ∀ x ∈ bwt, x < m) (hn : bwt.length < 2 ^ 64) :
    ∀ (cs pre ls bf : List Nat), bwt = pre ++ cs →
      (∀ c, c < m → ls[c]? = some (lessRef bwt c + pre.count c)) → bf.length = bwt.length →
      (cs.zipIdx pre.length).foldlM (bwtfind_for1 maxSymbol) (bf, ls)
        = Res.ok (bwtfindGo cs pre.length ls bf, cs.foldl bump ls) := by
  intro cs
  induction cs with
  | nil => intro pre ls bf _ _ _; rfl
  | cons c cs ih =>
    intro pre ls bf hb hls hbf
    have hcm : c < m := hsym c (by rw [hb]; simp)
    have hslot : lessRef bwt c + pre.count c < bwt.length := by
      have := InvBWT.slot_lt bwt pre.length (by rw [hb]; simp)
      simpa [slot, hb] using this
    rw [List.zipIdx_cons, List.foldlM_cons,
      bwtfind_step maxSymbol bf ls c pre.length _ (hls c hcm) (by rw [hbf]; exact hslot) (by omega), Res.ok_bind]
    have hl : (pre ++ [c]).length = pre.length + 1 := by simp
    rw [← hl]
    simp only [bwtfindGo, List.foldl_cons]
    rw [← hl]
    apply ih (pre ++ [c]) _ _ (by rw [hb]; simp)
    · exact bump_seen bwt ls pre m c hls
    · simpa using hbf

/-- **`bwtfind` as written in the source = the mirror model `bwtfindModel`** (table size `max_symbol + 2`) -/
theorem bwtfind_eq_model (bwt : List Nat) (alphabet : Alph) (ms : Nat)
    (hms : maxSymbol alphabet = some ms) (hms' : ms + 2 < 2 ^ 64) (hn : bwt.length < 2 ^ 64)
    (hsym : ∀ x ∈ bwt, x < ms + 2) :
    bwtfind maxSymbol bwt alphabet = Res.ok (bwtfindModel bwt (ms + 2)) := by
  have e1 := less_eq_model maxSymbol bwt alphabet ms hms hms' hn hsym
  have e2 := bwtfind_loop_eq maxSymbol bwt (ms + 2) hsym hn bwt [] (lessModel bwt (ms + 2))
    (List.replicate bwt.length 0) (by simp) (fun c hc => by simpa using less_eq bwt (ms + 2) c hc) (by simp)
  simp only [List.length_nil] at e2
  simp [bwtfind, e1, e2, bwtfindModel]

variable (alphNew : List Nat → Alph)

theorem invert_loop_eq (bwt bf : List Nat) (hbf : bf.length = bwt.length) (hlt : ∀ v ∈ bf, v < bwt.length) :
    ∀ (k s r : Nat) (acc : List Nat), r < bwt.length →
      ∃ r', (List.range' s k).foldlM (invert_bwt_for1 maxSymbol alphNew bf bwt) (r, acc)
        = Res.ok (r', acc ++ invertGo bwt bf k r) := by
  intro k
  induction k with
  | zero => intro s r acc _; exact ⟨r, by simp [invertGo]⟩
  | succ k ih =>
    intro s r acc hr
    have hr' : r < bf.length := by rw [hbf]; exact hr
    have hnext : bf.getD r 0 < bwt.length := by
      rw [List.getD_eq_getElem bf r 0 hr']; exact hlt _ (List.getElem_mem hr')
    have e1 : Rs.idx bf r = Res.ok (bf.getD r 0) := idx_getD bf r 0 hr'
    have e2 : Rs.idx bwt (bf.getD r 0) = Res.ok (bwt.getD (bf.getD r 0) 0) := idx_getD bwt _ 0 hnext
    have hstep : invert_bwt_for1 maxSymbol alphNew bf bwt (r, acc) s
        = Res.ok (bf.getD r 0, acc ++ [bwt.getD (bf.getD r 0) 0]) := by
      simp [-List.getD_eq_getElem?_getD, invert_bwt_for1, e1, e2]
    obtain ⟨r', h'⟩ := ih (s + 1) (bf.getD r 0) (acc ++ [bwt.getD (bf.getD r 0) 0]) hnext
    refine ⟨r', ?_⟩
    rw [List.range'_succ, List.foldlM_cons, hstep, Res.ok_bind, h']
    simp [invertGo]

/-- **`invert_bwt` as written in the source = the mirror model `invertModel`**, for a non-empty BWT (on the empty one
`bwtfind[0]` panics) whose symbols lie below `max_symbol(Alphabet::new(bwt)) + 2` -/
theorem invert_bwt_eq_model (bwt : List Nat) (ms : Nat)
    (hms : maxSymbol (alphNew bwt) = some ms) (hms' : ms + 2 < 2 ^ 64) (hpos : 0 < bwt.length)
    (hn : bwt.length < 2 ^ 64) (hsym : ∀ x ∈ bwt, x < ms + 2) :
    invert_bwt maxSymbol alphNew bwt = Res.ok (invertModel bwt (ms + 2)) := by
  have e1 := bwtfind_eq_model maxSymbol bwt (alphNew bwt) ms hms hms' hn hsym
  have hlen : (bwtfindModel bwt (ms + 2)).length = bwt.length := by
    unfold bwtfindModel; rw [length_bwtfindGo]; simp
  have hlt : ∀ v ∈ bwtfindModel bwt (ms + 2), v < bwt.length := by
    unfold bwtfindModel
    apply bwtfindGo_lt bwt.length bwt 0 _ _ (by omega)
    intro v hv
    rw [List.mem_replicate] at hv
    omega
  have h0 : (bwtfindModel bwt (ms + 2)).getD 0 0 < bwt.length := by
    rw [List.getD_eq_getElem _ 0 0 (by omega)]; exact hlt _ (List.getElem_mem (by omega))
  have e2 : Rs.idx (bwtfindModel bwt (ms + 2)) 0 = Res.ok ((bwtfindModel bwt (ms + 2)).getD 0 0) :=
    idx_getD _ 0 0 (by omega)
  obtain ⟨r', e3⟩ := invert_loop_eq maxSymbol alphNew bwt (bwtfindModel bwt (ms + 2)) hlen hlt bwt.length 0
    ((bwtfindModel bwt (ms + 2)).getD 0 0) [] h0
  simp [-List.getD_eq_getElem?_getD, invert_bwt, e1, e2, e3, invertModel]

end RbV.Thm.GenSrcLess
