import RbV.Gen.SrcKmerMatches
import RbV.Model.KmerHash
import RbV.Lemmas.KmerHash
import RbV.Thm.GenSrcSort
/-!
# C19 — the text of `hash_kmers`, `find_kmer_matches_seq{1,2}_hashed`, `find_kmer_matches` (translated on every
`./check C19`: `RbV/Gen/SrcKmerMatches.lean`) equals the mirror models, hence the reference `kmerMatches`

`std::collections::HashMap` enters through `Rs.HMap` (`RsSemGensparse.lean`: `entry(k).or_default().push(v)`, `get(k)` on an
association list — the iteration order of the map is never observed by these functions); the final `sort_unstable()` is an
abstract function with the contract `Rs.SortOk` on the derived order of `(u32, u32)`.  Hypothesis: both sequences are
shorter than 2³² (positions are stored as `u32`: `i as u32` must not truncate).
-/
-- the simp sets name every fact a harmless rewrite of the Rust text may need; on the present text some are unused
set_option linter.unusedSimpArgs false
namespace RbV.Thm.GenSrcKmerMatches
open RbV RbV.Rs RbV.QGram RbV.Model.KmerHash RbV.Lemmas.KmerHash
open RbV.Thm.GenSrcLcskpp (ole_NN)

theorem get_eq (m : HMap) (key : List Nat) : Rs.HMap.get m key = hmGet key m := by
  induction m with
  | nil => rfl
  | cons p r ih => obtain ⟨a, v⟩ := p; simp only [Rs.HMap.get, hmGet, ih]

theorem entryPush_eq (m : HMap) (key : List Nat) (i : Nat) : Rs.HMap.entryPush m key i = entryPush key i m := by
  induction m with
  | nil => rfl
  | cons p r ih => obtain ⟨a, v⟩ := p; simp only [Rs.HMap.entryPush, entryPush, ih]

theorem ole_pair (a b : Nat × Nat) : (ROrd.le a b : Bool) = pairLe a b := by
  rw [ole_NN]; rfl

theorem sortM_eq (sortM : List (Nat × Nat) → List (Nat × Nat)) (hsort : SortOk sortM) (l : List (Nat × Nat)) :
    sortM l = l.mergeSort pairLe :=
  GenSrcLcskpp.sort_eq_mergeSort pairLe ole_pair pairLe_antisymm pairLe_trans pairLe_total sortM hsort l

/-- `for i in 0..(seq.len() + 1).saturating_sub(k)`: a body that computes `g` at every window start `i` — where `i + k`, the
slice `seq[i..i + k]` and `i as u32` are what they should be — folds `g` over the window starts -/
theorem windowFold {σ : Type} (seq : List Nat) (k : Nat) (hlen : seq.length < 2 ^ 32) (f : σ → Nat → Res σ) (g : σ → Nat → σ)
    (hstep : ∀ s i, Rs.add 64 i k = Res.ok (i + k) → Rs.slice seq i (i + k) = Res.ok (window k seq i) → Rs.cast 32 i = i →
      f s i = Res.ok (g s i)) (s0 : σ) :
    (Rs.add 64 seq.length 1 >>= fun t1 => List.foldlM f s0 (List.range' 0 (Rs.satSub t1 k - 0)))
      = Res.ok ((List.range (seq.length + 1 - k)).foldl g s0) := by
  have hfold : ∀ (l : List Nat) (s : σ), (∀ i ∈ l, i < seq.length + 1 - k) → List.foldlM f s l = Res.ok (l.foldl g s) := by
    intro l
    induction l with
    | nil => intro s _; rfl
    | cons i t ih =>
      intro s hl
      have hi := hl i List.mem_cons_self
      rw [List.foldlM_cons, hstep s i (Rs.add_ok (by omega))
        (by rw [Rs.slice_ok (by omega) (by omega), Nat.add_sub_cancel_left]; rfl) (Nat.mod_eq_of_lt (by omega)), Res.ok_bind]
      exact ih _ (fun j hj => hl j (List.mem_cons_of_mem _ hj))
  rw [Rs.add_ok (by omega), Res.ok_bind, Rs.satSub, Nat.sub_zero, ← List.range_eq_range']
  exact hfold _ s0 (fun i hi => List.mem_range.mp hi)

/-- **`hash_kmers` as written in the source = the model's map** -/
theorem hashKmers_eq_model (sortM : List (Nat × Nat) → List (Nat × Nat)) (seq : List Nat) (k : Nat) (hlen : seq.length < 2 ^ 32) :
    Gen.SrcKmerMatches.hashKmers sortM seq k = Res.ok (hashKmers seq k) := by
  have h := windowFold seq k hlen (Gen.SrcKmerMatches.hashKmers_for1 sortM k seq) (fun s i => entryPush (window k seq i) i s)
    (fun s i e2 e3 e4 => by simp only [Gen.SrcKmerMatches.hashKmers_for1, e2, e3, e4, entryPush_eq, Res.ok_bind, Res.pure_eq_ok])
    Rs.HMap.empty
  simp only [Gen.SrcKmerMatches.hashKmers, bind_pure]
  exact h

/-- the two matchers are one scan: for every window of `seq`, the positions the map `m` holds for it, paired with the window
start by `mk` (the order of the pair is the only difference between `…_seq1_hashed` and `…_seq2_hashed`), then sorted -/
theorem hashedScan (sortM : List (Nat × Nat) → List (Nat × Nat)) (hsort : SortOk sortM) (m : HMap) (seq : List Nat) (k : Nat)
    (hlen : seq.length < 2 ^ 32) (mk : Nat → Nat → Nat × Nat)
    (for1 : List (Nat × Nat) → Nat → Res (List (Nat × Nat))) (for2 : Nat → List (Nat × Nat) → Nat → Res (List (Nat × Nat)))
    (h2 : ∀ i acc pos, for2 i acc pos = Res.ok (acc ++ [mk pos (Rs.cast 32 i)]))
    (h1 : ∀ s i, for1 s i = (do
      let t2 ← Rs.add 64 i k
      let t3 ← Rs.slice seq i t2
      let r ← (match Rs.HMap.get m t3 with
        | some l => do let r ← List.foldlM (for2 i) s l; pure r
        | _ => pure s)
      pure r)) :
    (do let t1 ← Rs.add 64 seq.length 1
        let r ← List.foldlM for1 [] (List.range' 0 (Rs.satSub t1 k - 0))
        pure (sortM r))
      = Res.ok (((List.range (seq.length + 1 - k)).foldl (fun s i => match hmGet (window k seq i) m with
          | some l => s ++ l.map (fun pos => mk pos i)
          | none => s) []).mergeSort pairLe) := by
  have hpush : ∀ i (l : List Nat) (acc : List (Nat × Nat)),
      List.foldlM (for2 i) acc l = Res.ok (acc ++ l.map (fun pos => mk pos (Rs.cast 32 i))) := by
    intro i l
    induction l with
    | nil => intro acc; simp
    | cons a t ih => intro acc; rw [List.foldlM_cons, h2, Res.ok_bind, ih]; simp
  have h := windowFold seq k hlen for1 (fun s i => match hmGet (window k seq i) m with
      | some l => s ++ l.map (fun pos => mk pos i)
      | none => s) (fun s i e2 e3 e4 => by
    rw [h1, e2, Res.ok_bind, e3, Res.ok_bind, get_eq]
    cases hmGet (window k seq i) m with
    | none => rfl
    | some l => simp only [hpush, e4, Res.ok_bind, Res.pure_eq_ok]) []
  rw [← bind_assoc, h, Res.ok_bind, sortM_eq sortM hsort]
  rfl

/-- **`find_kmer_matches_seq1_hashed` as written in the source = the model**, for every map -/
theorem seq1Hashed_eq_model (sortM : List (Nat × Nat) → List (Nat × Nat)) (hsort : SortOk sortM) (m : HMap) (seq2 : List Nat) (k : Nat)
    (hlen : seq2.length < 2 ^ 32) :
    Gen.SrcKmerMatches.seq1Hashed sortM m seq2 k = Res.ok (seq1Hashed m seq2 k) :=
  hashedScan sortM hsort m seq2 k hlen (fun pos i => (pos, i)) _ (Gen.SrcKmerMatches.seq1Hashed_for2 sortM)
    (fun _ _ _ => rfl) (fun _ _ => rfl)

/-- **`find_kmer_matches_seq2_hashed` as written in the source = the model**, for every map -/
theorem seq2Hashed_eq_model (sortM : List (Nat × Nat) → List (Nat × Nat)) (hsort : SortOk sortM) (seq1 : List Nat) (m : HMap) (k : Nat)
    (hlen : seq1.length < 2 ^ 32) :
    Gen.SrcKmerMatches.seq2Hashed sortM seq1 m k = Res.ok (seq2Hashed seq1 m k) :=
  hashedScan sortM hsort m seq1 k hlen (fun pos i => (i, pos)) _ (Gen.SrcKmerMatches.seq2Hashed_for2 sortM)
    (fun _ _ _ => rfl) (fun _ _ => rfl)

/-- **`find_kmer_matches` as written in the source = the model** (the translated function calls the translated `hash_kmers`
and the translated matcher of the branch it takes) -/
theorem findKmerMatches_eq_model (sortM : List (Nat × Nat) → List (Nat × Nat)) (hsort : SortOk sortM) (x y : List Nat) (k : Nat)
    (hx : x.length < 2 ^ 32) (hy : y.length < 2 ^ 32) :
    Gen.SrcKmerMatches.findKmerMatches sortM x y k = Res.ok (findKmerMatches x y k) := by
  unfold Gen.SrcKmerMatches.findKmerMatches findKmerMatches
  by_cases h : x.length < y.length
  · simp [h, hashKmers_eq_model sortM x k hx, seq1Hashed_eq_model sortM hsort _ y k hy]
  · simp [h, hashKmers_eq_model sortM y k hy, seq2Hashed_eq_model sortM hsort x _ k hx]

/-- a `sort_unstable` on pairs meeting `SortOk` -/
def stdSortM (l : List (Nat × Nat)) : List (Nat × Nat) := l.mergeSort pairLe

theorem stdSortM_ok : SortOk stdSortM := by
  intro l
  refine ⟨List.mergeSort_perm _ _, ?_⟩
  exact (List.pairwise_mergeSort pairLe_trans pairLe_total l).imp (fun {a b} h => by rw [ole_pair]; exact h)

end RbV.Thm.GenSrcKmerMatches
