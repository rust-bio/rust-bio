import RbV.Gen.SrcHorspoolNew
import RbV.Model.Horspool
import RbV.Thm.GenSrcBasic
/-!
# The translated text of `Horspool::new` equals the mirror model `Horspool.shiftTab`

`RbV/Gen/SrcHorspoolNew.lean` is regenerated from `src/pattern_matching/horspool.rs` by `tools/rs2lean.py` on every
`./check C08`.  The generated function fills a 256-entry vector (`vec![m; 256]`, `shift[a as usize] = m - 1 - j` with both
subtractions checked, `pattern[..m - 1]` a checked sub-slice) in a fold over `zipIdx` (= `.iter().enumerate()`); the
model builds the table as a function by recursion over `p.take (m - 1)` with a running index.  Bridge: the vector is
`tab 256 f` for the model's `f`; symbols are bytes.  For the empty pattern `m - 1` underflows: the translated function
panics (so does the Rust code with overflow checks; without them the slice `pattern[..usize::MAX]` panics).
-/
-- the simp sets name every fact a harmless rewrite of the Rust text may need; on the present text some are unused
set_option linter.unusedSimpArgs false

namespace RbV.Thm.GenSrcHorspoolNew
open RbV RbV.Rs RbV.Gen.SrcHorspoolNew RbV.Thm.GenSrc

/-- the translated `for` loop is the model's `shiftLoop` (started at index `j`) -/
theorem for_eq (m : Nat) : ∀ (q : List Nat) (j : Nat) (f : Nat → Nat), (∀ c ∈ q, c < 256) → j + q.length ≤ m - 1 →
    (q.zipIdx j).foldlM (new_for1 m) (tab 256 f) = Res.ok (tab 256 (Horspool.shiftLoop m q j f)) := by
  intro q
  induction q with
  | nil => intro j f _ _; simp [Horspool.shiftLoop]
  | cons a q ih =>
    intro j f hb hlen
    simp only [List.length_cons] at hlen
    have ha : a < 256 := hb a (by simp)
    have e1 : Rs.sub m 1 = Res.ok (m - 1) := Rs.sub_ok (by omega)
    have e2 : Rs.sub (m - 1) j = Res.ok (m - 1 - j) := Rs.sub_ok (by omega)
    have e3 : Rs.setIdx (tab 256 f) a (m - 1 - j) = Res.ok (tab 256 (fun x => if x = a then m - 1 - j else f x)) :=
      setIdx_tab _ _ _ _ ha
    have hstep : new_for1 m (tab 256 f) (a, j) = Res.ok (tab 256 (fun x => if x = a then m - 1 - j else f x)) := by
      simp only [new_for1, e1, e2, e3, Res.pure_eq_ok, Res.ok_bind]
    rw [List.zipIdx_cons, List.foldlM_cons, hstep, Res.ok_bind, Horspool.shiftLoop]
    exact ih (j + 1) _ (fun c hc => hb c (by simp [hc])) (by omega)

/-- **`Horspool::new` as written in the source = the model's shift table**, for every non-empty pattern of bytes: the
translated constructor never panics and returns `(m, shift, pattern)` with `shift` the model's `shiftTab` as a 256-entry
vector. -/
theorem new_eq_model (p : List Nat) (hp : 0 < p.length) (hb : ∀ c ∈ p, c < 256) :
    new p = Res.ok (p.length, tab 256 (Horspool.shiftTab p), p) := by
  have e1 : Rs.sub p.length 1 = Res.ok (p.length - 1) := Rs.sub_ok (by omega)
  have e2 : Rs.slice p 0 (p.length - 1) = Res.ok (p.take (p.length - 1)) := by
    rw [Rs.slice_ok (by omega) (by omega)]
    simp
  have h := for_eq p.length (p.take (p.length - 1)) 0 (fun _ => p.length)
    (fun c hc => hb c (List.mem_of_mem_take hc)) (by simp)
  simp [new, e1, e2, tab_const, h, Horspool.shiftTab, -List.reduceReplicate]

/-- the empty pattern: `m - 1` underflows, the constructor panics -/
theorem new_nil_panics : new [] = Res.panic := by
  rfl

end RbV.Thm.GenSrcHorspoolNew
