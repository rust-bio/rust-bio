import RbV.Thm.GenSrcFmdSmems
/-!
# Soft: the translated `smems` returns the matches of `SmemModel.smems` for every `l`, the dead start included

Not imported by any `Thm/Cxx.lean`: built by `tools/gen_tables.py` (`soft_modules`) after regenerating, a failure is a note.
The hard obligation is `GenSrcFmdSmems.smems_eq_model_of` (same statement under "the model reports nothing when `pattern[i]`
does not occur", which holds for `l ≥ 1`) and, at the level the property determines, `C06.fmd_smems_source_correct`.  The
statement here is the same without that hypothesis, so it covers `l = 0` as well, where the model reports one zero-length
candidate on the dead start — something the property does not ask for: it holds only of a text that runs the sweep on the
empty interval too (a text that returns `Vec::new()` at once falsifies it for `l = 0`).
-/
set_option linter.unusedSimpArgs false

namespace RbV.Thm.GenSrcFmdSmemsModel
open RbV RbV.Rs RbV.Gen RbV.Thm.GenSrc RbV.FMDModel RbV.SmemModel RbV.Thm.GenSrcFmdExt RbV.Thm.GenSrcFmdSmems

attribute [local congr] GenSrc.bind_congr_arg
attribute [local simp] GenSrc.map_ok

section
variable {lessF : Nat → Nat} {occF : Nat → Nat → Nat} {ops : Ops Bi} {S : Nat → Bi → Prop} {pat : List Nat}
  (hS : SafeOps lessF occF ops S pat)

include hS in
/-- **the translated `smems` returns the mirror model's matches (over the operations the translated extension functions
compute), up to their order** -/
theorem smems_eq_model (i l : Nat) (hi : i < pat.length) (hL : pat.length + 1 < 2 ^ 63) :
    ∃ res, SrcFmdSmems.smems lessF occF dnaCompl pat i l = Res.ok res ∧
      res.Perm ((SmemModel.smems ops pat i l).map hitT) := by
  obtain ⟨hinit, -⟩ := hS.init i hi
  obtain ⟨e0, e1, e1', e3, e4, e5⟩ := smems_prelude hi hL
  obtain ⟨hf, r2, h2, hr2⟩ := sweep_eq hS i l hi hL
  have e2 : Rs.add 64 0 1 = Res.ok 1 := rfl
  have e2' : Rs.add 64 1 0 = Res.ok 1 := rfl
  have hrev := Rs.irange_m1_rev i
  rw [hS.size] at hf
  rw [← hr2]
  by_cases hz : (ops.initWith i (pat.getD i 0)).size = 0
  · rw [if_neg (fun h => h hz)] at hf
    simp [-List.getD_eq_getElem?_getD, SrcFmdSmems.smems, e0, hinit, hz, e1, e1', e2, e2', e3, hf, e4, e5, hrev, h2,
      List.reverse_perm]
  · rw [if_pos hz] at hf
    simp [-List.getD_eq_getElem?_getD, SrcFmdSmems.smems, e0, hinit, hz, e1, e1', e2, e2', e3, hf, e4, e5, hrev, h2,
      List.reverse_perm]

end
end RbV.Thm.GenSrcFmdSmemsModel
