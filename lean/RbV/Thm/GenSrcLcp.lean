import RbV.Gen.SrcLcp
import RbV.Model.Kasai
import RbV.Thm.GenSrcBasic
import RbV.Thm.GenSrcOk
/-!
# The translated text of `suffix_array::lcp` (Kasai et al.) returns the reference LCP array `lcpRef`

`RbV/Gen/SrcLcp.lean` is regenerated from `src/data_structures/suffix_array.rs` by `tools/rs2lean_gensa.py` (dialect
"gensa") on every `./check C03`.  The suffix array is read at the slice instance (`Deref<Target = Vec<usize>>`), the LCP
container `SmallInts<i8, isize>` as the vector of its `isize` values (`from_elem(v, n)` = `n` copies, `set(i, v)` = write
with bounds check; `lcp_container_source_exact` of Thm/C03.lean says that the translated container reads back like one).

* `for1_spec`   — the first loop builds the **inverse permutation**: `rank[pos[i]] = i` for a duplicate-free `pos`.
* `while1_eq`   — the `while` loop is the model's `extend` (no overflow of `pred + l`, `p + l`; fuel `n + 1` suffices).
* `for2_sorted`, `lcp_source_exact` — independent of the value the loop carries: on a sorted suffix permutation the main loop
  writes `lcpOf p` at `rank[p]` for every carried `l ≤ lcpOf p`, as `Kasai.kasaiGo` does; result `= lcpRef` by
  `Kasai.kasai_eq_lcpRef` (hard obligation).
* the step-by-step equality with the mirror model `Kasai.kasaiGo` (`for2_eq`, `lcp_eq_model`: any permutation starting with
  `n - 1`, sorted or not) is the **soft** module `Thm/GenSrcLcpModel.lean`.
Hypotheses = what keeps the code from panicking: `pos` is a permutation of the positions whose first entry is `n - 1`
(`rank[p] ≥ 1` for the positions the loop visits), `n ≥ 1` (`take(n - 1)`), `n + 1 < 2^63`.
-/
set_option linter.unusedSimpArgs false

namespace RbV.Thm.GenSrcLcp
open RbV RbV.Rs RbV.Gen RbV.Thm.GenSrc RbV.Kasai

/-- one round of the `while` loop: no overflow in `pred + l`, `p + l`, `l + 1`, and `text[..]` is only reached in range -/
theorem while1_unfold (t : List Nat) (p pred f l : Nat) (hsz : t.length + t.length < 2 ^ 64) (hp : p ≤ t.length)
    (hpred : pred ≤ t.length) (hl : l ≤ t.length) :
    SrcLcp.lcp_while1 t t.length p pred (f + 1) l =
      if pred + l < t.length ∧ p + l < t.length ∧ t.getD (p + l) 0 = t.getD (pred + l) 0 then
        SrcLcp.lcp_while1 t t.length p pred f (l + 1) else Res.ok l := by
  have e1 : Rs.add 64 pred l = Res.ok (pred + l) := Rs.add_ok (by omega)
  have e2 : Rs.add 64 p l = Res.ok (p + l) := Rs.add_ok (by omega)
  have e3 : Rs.add 64 l 1 = Res.ok (l + 1) := Rs.add_ok (by omega)
  rw [SrcLcp.lcp_while1]
  simp only [e1, e2, e3, Rs.add_ok_comm (w := 64) (a := l) (b := 1) (by omega), Res.ok_bind, Res.pure_eq_ok,
    decide_eq_true_eq]
  -- every test is decided, so the order of the conjuncts and of the operands of `==` in the text does not matter
  by_cases h1 : pred + l < t.length <;> by_cases h2 : p + l < t.length
  · have e4 : Rs.idx t (p + l) = Res.ok (t.getD (p + l) 0) := idx_getD t _ 0 h2
    have e5 : Rs.idx t (pred + l) = Res.ok (t.getD (pred + l) 0) := idx_getD t _ 0 h1
    by_cases h3 : t.getD (p + l) 0 = t.getD (pred + l) 0
    · simp only [h1, ↓reduceIte, h2, e4, e5, beq_iff_eq, Res.ok_bind, true_and, h3]
    · simp only [h1, ↓reduceIte, h2, e4, e5, beq_iff_eq, Res.ok_bind, true_and, h3, Ne.symm h3, and_false,
        Bool.false_eq_true]
  all_goals simp only [h1, h2, ↓reduceIte, Bool.false_eq_true, false_and, and_false, decide_false, decide_true]

/-- the `while` loop = the model's `extend` (one more unit of fuel: the translated loop needs a call to see the exit) -/
theorem while1_eq (t : List Nat) (p pred : Nat) (hsz : t.length + t.length < 2 ^ 64) (hp : p ≤ t.length)
    (hpred : pred ≤ t.length) :
    ∀ (f l : Nat), l ≤ t.length → t.length ≤ p + l + f →
      SrcLcp.lcp_while1 t t.length p pred (f + 1) l = Res.ok (extend t p pred f l) := by
  intro f
  induction f with
  | zero =>
    intro l hl hf
    rw [while1_unfold t p pred 0 l hsz hp hpred hl, if_neg (fun h => Nat.not_lt.mpr hf h.2.1)]
    rfl
  | succ f ih =>
    intro l hl hf
    rw [while1_unfold t p pred (f + 1) l hsz hp hpred hl, extend]
    split
    · rename_i hc
      exact ih (l + 1) (Nat.succ_le_of_lt (Nat.lt_of_le_of_lt (Nat.le_add_left l p) hc.2.1)) (by omega)
    · rfl

/-- first loop: `rank[*p] = r` for every `(r, p)` of `pos.iter().enumerate()` -/
theorem for1_spec : ∀ (xs : List Nat) (k : Nat) (rank : List Nat), (∀ x ∈ xs, x < rank.length) →
    ∃ rank', SrcLcp.lcp_for1 (xs.zipIdx k) rank = Res.ok rank' ∧ rank'.length = rank.length ∧
      (∀ p, p ∉ xs → rank'[p]? = rank[p]?) ∧
      (xs.Nodup → ∀ i (h : i < xs.length), rank'[xs[i]]? = some (k + i)) := by
  intro xs
  induction xs with
  | nil => intro k rank _; exact ⟨rank, by simp [SrcLcp.lcp_for1], rfl, fun _ _ => rfl, fun _ i h => by simp at h⟩
  | cons x xs ih =>
    intro k rank hx
    have hxl : x < rank.length := hx x (by simp)
    obtain ⟨rank', h1, h2, h3, h4⟩ := ih (k + 1) (rank.set x k) (by
      intro y hy; rw [List.length_set]; exact hx y (List.mem_cons_of_mem _ hy))
    refine ⟨rank', ?_, by rw [h2, List.length_set], ?_, ?_⟩
    · simp [List.zipIdx_cons, SrcLcp.lcp_for1, Rs.setIdx_ok hxl, h1]
    · intro p hp
      have hpx : p ≠ x := fun e => hp (by simp [e])
      have hpxs : p ∉ xs := fun e => hp (List.mem_cons_of_mem _ e)
      rw [h3 p hpxs, List.getElem?_set_ne (fun e => hpx e.symm)]
    · intro hnd i hi
      have hnd' := List.nodup_cons.mp hnd
      cases i with
      | zero =>
        simp only [List.getElem_cons_zero, Nat.add_zero]
        rw [h3 x hnd'.1, List.getElem?_set_self hxl]
      | succ i =>
        simp only [List.getElem_cons_succ]
        rw [h4 hnd'.2 i (by simpa using hi)]
        congr 1; omega

theorem lcp_length_mismatch_panics (t sa : List Nat) (h : t.length ≠ sa.length) : SrcLcp.lcp t sa = Res.panic := by
  have e3 : Rs.assert (t.length == sa.length) = Res.panic := by simp [Rs.assert, h]
  unfold SrcLcp.lcp
  simp [e3]

/-! ### on a **sorted** suffix permutation the loop writes the true LCP values whatever `l ≤ lcpOf p` it carries

`for2_sorted` relates the translated loop started with `l` to the model started with any `l₀`, both `≤ lcpOf p`: the `while`
extends either to `lcpOf p`, which is what gets written; the value carried on only has to stay `≤ lcpOf (p + 1)` — true for
`lcpOf p − 1` (Kasai's inequality) and for `0` (a rewrite that restarts every extension from `l = 0`).  `lcp_source_exact`
is proved from it, not from `lcp_eq_model`. -/

/-- the operations of one iteration of the main loop up to the write, for a position `p` of rank `≥ 1` whose predecessor is a
position: no underflow of `r - 1`, `pos[r - 1]` in range, the `while` extends `l` to `l' = extend … l`, which fits
`isize` and is written at `rank[p]` -/
theorem for2_facts (t sa : List Nat) (hlen : sa.length = t.length) (hsz : t.length + 1 < 2 ^ 63) (p l : Nat) (lcp : List Int)
    (hp : p < t.length) (hr1 : 1 ≤ sa.idxOf p) (hrn : sa.idxOf p < t.length)
    (hpred : sa.getD (sa.idxOf p - 1) 0 < t.length) (hl : l ≤ t.length) (hlcp : lcp.length = t.length + 1) :
    Rs.sub (sa.idxOf p) 1 = Res.ok (sa.idxOf p - 1) ∧
    Rs.idx sa (sa.idxOf p - 1) = Res.ok (sa.getD (sa.idxOf p - 1) 0) ∧
    SrcLcp.lcp_while1 t t.length p (sa.getD (sa.idxOf p - 1) 0) (t.length + 1) l =
      Res.ok (extend t p (sa.getD (sa.idxOf p - 1) 0) t.length l) ∧
    Rs.toSigned 64 (extend t p (sa.getD (sa.idxOf p - 1) 0) t.length l) =
      (extend t p (sa.getD (sa.idxOf p - 1) 0) t.length l : Int) ∧
    Rs.setIdx lcp (sa.idxOf p) (extend t p (sa.getD (sa.idxOf p - 1) 0) t.length l : Int) =
      Res.ok (lcp.set (sa.idxOf p) (extend t p (sa.getD (sa.idxOf p - 1) 0) t.length l : Int)) := by
  have h64 : t.length + t.length < 2 ^ 64 := by have := p63; omega
  have hle := extend_le t p (sa.getD (sa.idxOf p - 1) 0) t.length l hl
  exact ⟨Rs.sub_ok hr1, idx_getD sa _ 0 (by rw [hlen]; exact Nat.lt_of_le_of_lt (Nat.sub_le _ _) hrn),
    while1_eq t p (sa.getD (sa.idxOf p - 1) 0) h64 (Nat.le_of_lt hp) (Nat.le_of_lt hpred) t.length l hl
      (Nat.le_add_left _ _),
    toSigned_small (Nat.lt_of_le_of_lt hle (by omega)), Rs.setIdx_ok (by rw [hlcp]; exact Nat.lt_succ_of_lt hrn)⟩

/-- one iteration of the main loop: `l' = extend … l` is written at `rank[p]`, and some `l'' ≤ l' - 1` is carried on — `l' - 1` as
`kasaiGo` does, or `0` (a loop that restarts every extension) -/
theorem for2_step (t sa : List Nat) (hlen : sa.length = t.length) (hsz : t.length + 1 < 2 ^ 63) (p l : Nat) (lcp : List Int)
    (rest : List (Nat × Nat)) (hp : p < t.length) (hr1 : 1 ≤ sa.idxOf p) (hrn : sa.idxOf p < t.length)
    (hpred : sa.getD (sa.idxOf p - 1) 0 < t.length) (hl : l ≤ t.length) (hlcp : lcp.length = t.length + 1) :
    ∃ l'', l'' ≤ extend t p (sa.getD (sa.idxOf p - 1) 0) t.length l - 1 ∧
      SrcLcp.lcp_for2 t sa t.length ((sa.idxOf p, p) :: rest) (l, lcp) =
        SrcLcp.lcp_for2 t sa t.length rest
          (l'', lcp.set (sa.idxOf p) (extend t p (sa.getD (sa.idxOf p - 1) 0) t.length l : Int)) := by
  obtain ⟨e1, e2, e3, e4, e5⟩ := for2_facts t sa hlen hsz p l lcp hp hr1 hrn hpred hl hlcp
  rw [SrcLcp.lcp_for2]
  simp only [e1, e2, e3, e4, e5, Res.ok_bind, Res.pure_eq_ok, gt_iff_lt, decide_eq_true_eq, beq_iff_eq]
  generalize extend t p (sa.getD (sa.idxOf p - 1) 0) t.length l = l'
  first
  | exact ⟨0, Nat.zero_le _, rfl⟩
  | rcases Nat.eq_zero_or_pos l' with rfl | h0
    · exact ⟨0, Nat.zero_le _, by simp only [Nat.lt_irrefl, ↓reduceIte]⟩
    · exact ⟨l' - 1, Nat.le_refl _,
        by simp only [h0, Nat.pos_iff_ne_zero.mp h0, ↓reduceIte, Rs.sub_ok h0, Res.ok_bind, Res.pure_eq_ok]⟩

theorem for2_sorted (t sa : List Nat) (h : Sorted t sa) (hn : 0 < t.length) (hsz : t.length + 1 < 2 ^ 63) :
    ∀ (d p l l₀ : Nat) (lcp : List Int), p + d = t.length - 1 →
      (d = 0 ∨ (l ≤ lcpOf t sa p ∧ l₀ ≤ lcpOf t sa p)) → l ≤ t.length → lcp.length = t.length + 1 →
      ∃ l', SrcLcp.lcp_for2 t sa t.length ((List.range' p d).map (fun p => (sa.idxOf p, p))) (l, lcp) =
        Res.ok (l', kasaiGo t sa (List.range' p d) l₀ lcp) := by
  intro d
  induction d with
  | zero => intro p l l₀ lcp _ _ _ _; exact ⟨l, rfl⟩
  | succ d ih =>
    intro p l l₀ lcp hpd hl hln hlcp
    obtain ⟨hl1, hl2⟩ := hl.resolve_left (Nat.succ_ne_zero d)
    have hpn : p + d + 2 = t.length := by omega
    clear hpd
    have hpn' : p < t.length := by omega
    have rp := h.rank_lt p hpn'
    have rpos : 0 < sa.idxOf p := h.rank_pos hn p (by omega)
    have hpred : sa.getD (sa.idxOf p - 1) 0 < t.length := h.getD_lt _ (Nat.lt_of_le_of_lt (Nat.sub_le _ _) rp)
    obtain ⟨l'', hle, he⟩ := for2_step t sa h.length hsz p l lcp
      ((List.range' (p + 1) d).map (fun p => (sa.idxOf p, p))) hpn' rpos rp hpred hln hlcp
    rw [List.range'_succ, List.map_cons, he]
    rw [extend_lcpOf t sa p l hl1] at hle ⊢
    show ∃ l', _ = Res.ok (l', kasaiGo t sa (List.range' (p + 1) d)
      (extend t p (sa.getD (sa.idxOf p - 1) 0) t.length l₀ - 1)
      (lcp.set (sa.idxOf p) (extend t p (sa.getD (sa.idxOf p - 1) 0) t.length l₀ : Int)))
    rw [extend_lcpOf t sa p l₀ hl2]
    have hL : lcpOf t sa p ≤ t.length := by
      have := extend_le t p (sa.getD (sa.idxOf p - 1) 0) t.length l hln
      rw [extend_lcpOf t sa p l hl1] at this; exact this
    -- Kasai's inequality: what is carried on stays below the next true value
    have hnext : d = 0 ∨ (l'' ≤ lcpOf t sa (p + 1) ∧ lcpOf t sa p - 1 ≤ lcpOf t sa (p + 1)) := by
      by_cases hd : d = 0
      · exact Or.inl hd
      · have := kasai_ineq t sa h p (by omega) rpos
        exact Or.inr ⟨Nat.le_trans hle this, this⟩
    exact ih (p + 1) _ _ _ (by omega) hnext (Nat.le_trans hle (Nat.le_trans (Nat.sub_le _ _) hL))
      (by rw [List.length_set]; exact hlcp)

/-- the frame of `lcp` around the main loop, for a permutation `sa` of the positions: the assertion passes and the first loop
builds the inverse permutation, so the main loop runs over the pairs `(rank[p], p)`, `p < n - 1`, and its vector is returned -/
theorem lcp_frame (t sa : List Nat) (hperm : sa.Perm (List.range t.length)) (hn : 0 < t.length)
    (hsz : t.length + 1 < 2 ^ 63) (r : Nat × List Int)
    (hloop : SrcLcp.lcp_for2 t sa t.length ((List.range (t.length - 1)).map (fun p => (sa.idxOf p, p)))
      (0, List.replicate (t.length + 1) (-1)) = Res.ok r) :
    SrcLcp.lcp t sa = Res.ok r.2 := by
  have hlen : sa.length = t.length := by simpa using hperm.length_eq
  have hnd : sa.Nodup := (hperm.nodup_iff).mpr List.nodup_range
  have hmem : ∀ x, x ∈ sa ↔ x < t.length := by intro x; rw [hperm.mem_iff, List.mem_range]
  obtain ⟨rank, h1, h2, _, h4⟩ := for1_spec sa 0 (List.replicate t.length 0) (by
    intro x hx; rw [List.length_replicate]; exact (hmem x).mp hx)
  rw [List.length_replicate] at h2
  have hrank : ∀ p, p < t.length → rank[p]? = some (sa.idxOf p) := by
    intro p hp
    have hi : sa.idxOf p < sa.length := List.idxOf_lt_length_iff.mpr ((hmem p).mpr hp)
    have := h4 hnd (sa.idxOf p) hi
    rw [List.getElem_idxOf hi, Nat.zero_add] at this
    exact this
  have hsrc : rank.zipIdx.take (t.length - 1) = (List.range (t.length - 1)).map (fun p => (sa.idxOf p, p)) := by
    apply List.ext_getElem?
    intro i
    by_cases hi : i < t.length - 1
    · rw [List.getElem?_take_of_lt hi]
      simp [hrank i (by omega), hi]
    · rw [List.getElem?_take_eq_none (by omega), List.getElem?_eq_none (by simp; omega)]
  have e1 : Rs.add 64 t.length 1 = Res.ok (t.length + 1) := Rs.add_ok (by have := p63; omega)
  have e2 : Rs.sub t.length 1 = Res.ok (t.length - 1) := Rs.sub_ok hn
  have e3 : Rs.assert (t.length == sa.length) = Res.ok () := Rs.assert_ok (by rw [hlen]; exact beq_self_eq_true _)
  unfold SrcLcp.lcp
  simp only [e3, h1, e1, Rs.add_ok_comm (w := 64) (a := t.length) (b := 1) (by have := p63; omega), e2, Int.reduceNeg,
    Res.pure_eq_ok, Res.ok_bind, hsrc, hloop]

/-- **the translated `lcp`, run on a sorted suffix permutation that starts with `n - 1` (`n ≥ 1`, `n + 1 < 2^63`), returns
`lcpRef t sa`** -/
theorem lcp_source_exact (t sa : List Nat) (h : Sorted t sa) (hn : 0 < t.length) (hsz : t.length + 1 < 2 ^ 63) :
    SrcLcp.lcp t sa = Res.ok (lcpRef t sa) := by
  obtain ⟨l', h5⟩ := for2_sorted t sa h hn hsz (t.length - 1) 0 0 0 (List.replicate (t.length + 1) (-1))
    (Nat.zero_add _) (Nat.eq_zero_or_pos _ |>.imp id fun _ => ⟨Nat.zero_le _, Nat.zero_le _⟩) (Nat.zero_le _)
    List.length_replicate
  rw [← List.range_eq_range'] at h5
  rw [lcp_frame t sa h.perm hn hsz _ h5, ← kasai_eq_lcpRef t sa h hn]
  rfl

end RbV.Thm.GenSrcLcp
