import RbV.Thm.GenSrcOcc
/-!
# The translated text of `Occ::get` equals the mirror model `OccM.occGet` on *every* safe column (soft obligation)

`Thm/GenSrcOcc.lean` proves the property-level statement (translated `get` on the table of translated `new` =
`occRef`) without following the branch structure of the text.  This file proves the stronger, shape-dependent
statement "`get` = `occGet` on every column on which the checked operations cannot panic" (whether or not the column
is the true checkpoint table).  A property-preserving change of the branch choice (seeded C04-H1: other threshold
rule, nearest-checkpoint rule) makes it false although the property still holds, so it is **not** imported by
`Thm/C04.lean`: `tools/gen_tables.py` builds it separately and reports a failure as a note ("the mirror model
`occGet` no longer mirrors `Occ::get` branch by branch"), not as a broken obligation.
-/
set_option linter.unusedSimpArgs false

namespace RbV.Thm.GenSrcOccModel
open RbV RbV.Rs RbV.Gen.SrcOcc RbV.Thm.GenSrc RbV.OccM RbV.Thm.GenSrcOcc

attribute [local congr] GenSrc.bind_congr_arg

/-- **`Occ::get` as written in the source = the mirror model `occGet`** on the column `cp = self.occ[a]`, with
`bytecount::count` read as `List.count`: low checkpoint, the look-ahead above the (source-extracted) threshold with its
early exit and its backward count, the forward count — and none of the checked operations panics. -/
theorem get_eq_model (occ : List (List Nat)) (k : Nat) (bwt : List Nat) (r a : Nat) (cp : List Nat)
    (hcp : occ[a]? = some cp) (hk : 0 < k) (hr : r < bwt.length) (hn : bwt.length < 2 ^ 64)
    (hs : GetSafe cp bwt k r a) :
    get (fun s c => s.count c) occ k bwt r a = Res.ok (occGet cp bwt k r a) := by
  obtain ⟨hlo, hfwd, hhi⟩ := hs
  have hlok : r / k * k ≤ r := Nat.div_mul_le_self r k
  have hr2 : r < (r / k + 1) * k := by rw [Nat.add_one_mul]; exact Nat.lt_div_mul_add hk
  have hdk : r / k ≤ r := Nat.div_le_self r k
  -- every checked operation that occurs on some path succeeds; the values are then made atoms (`generalize`), so that
  -- `simp` cannot normalise the facts and the goal differently
  have e1 : Rs.div r k = Res.ok (r / k) := Rs.div_ok hk
  have e2 : Rs.idx occ a = Res.ok cp := Rs.idx_of_getElem? hcp
  have e3 : Rs.idx cp (r / k) = Res.ok (cp.getD (r / k) 0) := idx_getD cp (r / k) 0 hlo
  have e5 : Rs.mul 64 (r / k) k = Res.ok (r / k * k) := Rs.mul_ok (Nat.lt_of_le_of_lt hlok (Nat.lt_trans hr hn))
  obtain ⟨S1, e7, -, hS1⟩ := count_slice bwt (r / k * k + 1) r a (Nat.succ_le_succ hlok) hr
  have e8 : Rs.add 64 (cnt bwt (r / k * k + 1) r a) (cp.getD (r / k) 0)
      = Res.ok (cnt bwt (r / k * k + 1) r a + cp.getD (r / k) 0) := Rs.add_ok hfwd
  have hhi' : ∀ hiOcc, cp[r / k + 1]? = some hiOcc →
      Rs.mul 64 (r / k + 1) k = Res.ok ((r / k + 1) * k) ∧
      (∃ S, Rs.sliceIncl bwt (r + 1) ((r / k + 1) * k) = Res.ok S ∧ S.count a = cnt bwt (r + 1) ((r / k + 1) * k) a) ∧
      Rs.sub hiOcc (cnt bwt (r + 1) ((r / k + 1) * k) a) = Res.ok (hiOcc - cnt bwt (r + 1) ((r / k + 1) * k) a) := by
    intro hiOcc h
    obtain ⟨hin, hge⟩ := hhi hiOcc h
    obtain ⟨S, e, -, hS⟩ := count_slice bwt (r + 1) _ a (Nat.succ_le_succ (Nat.le_of_lt hr2)) hin
    exact ⟨Rs.mul_ok (Nat.lt_trans hin hn), ⟨S, e, hS⟩, Rs.sub_ok hge⟩
  clear hhi hfwd hlo hcp
  simp only [occGet, Gen.Occ.hiCheckpointThreshold]
  generalize cnt bwt (r / k * k + 1) r a = C1 at *
  generalize cnt bwt (r + 1) ((r / k + 1) * k) a = C2 at *
  generalize cp.getD (r / k) 0 = L at *
  generalize (r / k + 1) * k = H at *
  generalize r / k * k = Lo at *
  generalize r / k = q at *
  have h64 : ∀ x, x ≤ r → x + 1 < 2 ^ 64 := fun x hx => Nat.lt_of_le_of_lt (Nat.lt_of_le_of_lt hx hr) hn
  have e4 : Rs.add 64 q 1 = Res.ok (q + 1) := Rs.add_ok (h64 q hdk)
  have e6 : Rs.add 64 Lo 1 = Res.ok (Lo + 1) := Rs.add_ok (h64 Lo hlok)
  have e9 : Rs.add 64 r 1 = Res.ok (r + 1) := Rs.add_ok (h64 r (Nat.le_refl r))
  have e10 : Rs.sub H r = Res.ok (H - r) := Rs.sub_ok (Nat.le_of_lt hr2)
  simp only [Gen.SrcOcc.get, e1, e2, e3, e4, e5, e6, e7, hS1, e8, Res.ok_bind, Res.pure_eq_ok]
  by_cases hk64 : k > 64
  · cases hc1 : cp[q + 1]? with
    | none =>
      simp only [hk64, hc1, decide_true, if_true]
    | some hiOcc =>
      obtain ⟨e11, ⟨S2, e12, hS2⟩, e13⟩ := hhi' hiOcc hc1
      by_cases heq : L = hiOcc
      · simp only [hk64, hc1, heq, decide_true, if_true, beq_self_eq_true]
      · by_cases hb : H - r < k / 2
        · simp only [hk64, hc1, heq, hb, e9, e10, e11, e12, hS2, e13, Res.ok_bind, decide_true, decide_false,
            Bool.false_eq_true, if_true, if_false, beq_iff_eq]
        · simp only [hk64, hc1, heq, hb, e10, e11, Res.ok_bind, decide_true, decide_false, Bool.false_eq_true, if_true,
            if_false, beq_iff_eq]
  · simp only [hk64, decide_false, Bool.false_eq_true, if_false]

end RbV.Thm.GenSrcOccModel
