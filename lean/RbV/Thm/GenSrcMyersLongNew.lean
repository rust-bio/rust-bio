import RbV.Gen.SrcMyersHelpers
import RbV.Gen.SrcMyersLongNew
import RbV.Thm.GenSrcMyersLongStep
import RbV.Lemmas.MyersLongBand
import RbV.Lemmas.MyersBlockGeom
/-!
# `States::new`, `States::known_dist` and the glue of `long::Myers` as written = the mirror model; the side conditions of
# `States::step` follow from the band invariant

`RbV/Gen/SrcMyersHelpers.lean` (`ceil_div`, helpers.rs) and `RbV/Gen/SrcMyersLongNew.lean` (`States::new`, `States::known_dist`,
`long::Myers::step`, `long::Myers::initial_state`, long.rs) are regenerated by `tools/rs2lean_genlong.py` on every `./check C09`.

* `ceilDiv_eq`: `ceil_div(x, y) = ⌈x / y⌉`;
* `blocks_shape` (`Lemmas/MyersBlockGeom.lean`): the blocks `MyersLong.blocksOf w p` are laid out as `States::new` assumes (`max_block = ⌈m/w⌉ − 1`, all blocks
  of `w` rows, the last one of `m % w` rows when that is not 0);
* `new_eq_model`: `States::new(m, k)` = `MyersLong.initStates` with `max_block`, `last_m`;
* `knownDist_eq_model`, `initialState_eq_model`;
* `side_conditions`: **every hypothesis of `GenSrcMyersLongStep.step_eq_model`** (no `dist` update wraps, distances `< 2^63`,
  `last_dist − carry ≥ 0`, block lengths) holds in a state with the `Band` invariant of `Lemmas/MyersLongBand.lean`;
  `step_band`: so the translated `long::Myers::step` equals `stepStates` on every state a search reaches.
-/
set_option linter.unusedSimpArgs false

namespace RbV.Thm.GenSrcMyersLongNew
open RbV RbV.Rs RbV.Model.MyersSimple RbV.Model.MyersLong RbV.Thm.GenSrcMyersSimple RbV.Thm.GenSrc RbV.Thm.GenSrcMyersLong
  RbV.Thm.GenSrcMyersLongStep

/-! ### `ceil_div` -/

theorem ceilDiv_eq (x y : Nat) (hy : 0 < y) (hx : x + y < 2 ^ 64) :
    RbV.Gen.SrcMyersHelpers.ceilDiv x y = Res.ok ((x + y - 1) / y) := by
  have h1 := Nat.div_add_mod x y
  have h2 := Nat.mod_lt x hy
  have hdle : x / y ≤ x := Nat.div_le_self x y
  by_cases hm : x % y = 0
  · have : (x + y - 1) / y = x / y := by
      apply Nat.div_eq_of_lt_le
      · rw [Nat.mul_comm]; omega
      · rw [Nat.succ_mul, Nat.mul_comm]; omega
    simp [RbV.Gen.SrcMyersHelpers.ceilDiv, Rs.rem_ok hy, Rs.div_ok hy, hm, this]
  · have : (x + y - 1) / y = x / y + 1 := by
      apply Nat.div_eq_of_lt_le
      · rw [Nat.succ_mul, Nat.mul_comm]; omega
      · rw [Nat.succ_mul, Nat.succ_mul, Nat.mul_comm]; omega
    have hadd : Rs.add 64 (x / y) 1 = Res.ok (x / y + 1) := Rs.add_ok (by omega)
    simp [RbV.Gen.SrcMyersHelpers.ceilDiv, Rs.rem_ok hy, Rs.div_ok hy, hm, this, hadd]

/-! ### the layout of the blocks -/

/-! ### `States::new` -/

theorem lastDist_initList (w : Nat) (blks : List (List Nat)) (n : Nat) : lastDist (initList w blks n) = rows n blks := by
  cases n with
  | zero => simp [initList, lastDist, rows]
  | succ n => rw [initList_succ]; simp [lastDist]

/-- `for _ in 0..min_blocks { s.add_state(0); }` -/
theorem new_fold (w : Nat) (blks : List (List Nat)) (lm B : Nat)
    (hblk : ∀ i blk, blks[i]? = some blk → blk.length = (if i = blks.length - 1 ∧ lm > 0 then lm else w))
    (hB : ∀ n, rows n blks ≤ B) (hB64 : B + 1 < 2 ^ 64) :
    ∀ (n j s : Nat), j + n ≤ blks.length →
      (List.range' s n).foldlM (RbV.Gen.SrcMyersLongNew.new_for1 (w := w) (max_block := blks.length - 1) (last_m := lm))
        (repS (initList w blks j)) = Res.ok (repS (initList w blks (j + n))) := by
  intro n
  induction n with
  | zero => intro j s _; simp
  | succ n ih =>
    intro j s hj
    obtain ⟨blk, hb⟩ : ∃ blk, blks[j]? = some blk := ⟨blks[j]'(by omega), List.getElem?_eq_getElem (by omega)⟩
    have hlen := hblk j blk hb
    have hrs := rows_succ blks j blk hb
    have hL : (initList w blks j).length = j := by simp [initList]
    have hadd := addState_eq w (initList w blks j) (blks.length - 1) lm 0 (by omega) blk.length (rows (j + 1) blks)
      (by rw [hL, hlen]) (by rw [lastDist_initList, hrs]; omega)
      (by rw [lastDist_initList, ← hrs]; have := hB (j + 1); omega)
    rw [ofInt8_zero, ← initList_succ] at hadd
    rw [List.range'_succ, List.foldlM_cons]
    simp only [RbV.Gen.SrcMyersLongNew.new_for1, hadd, Res.ok_bind, Res.pure_eq_ok]
    have := ih (j + 1) (s + 1) (by omega)
    rw [show j + 1 + n = j + (n + 1) by omega] at this
    exact this

/-- **`States::new(m, max_dist)` as written** = the model's `initStates`, together with `max_block = ⌈m/w⌉ − 1` and
`last_m = m % w` -/
theorem new_eq_model (w : Nat) (p : List Nat) (k : Nat) (hw : 2 ≤ w) (hp : 1 ≤ p.length) (h64 : p.length + w + 1 < 2 ^ 64) :
    RbV.Gen.SrcMyersLongNew.new (w := w) (m := p.length) (max_dist := k) =
      Res.ok (repS (initStates w (blocksOf w p) p.length k), (blocksOf w p).length - 1, p.length % w) := by
  obtain ⟨s1, s2, s3, s4⟩ := blocks_shape w hw p hp
  have hw0 : 0 < w := by omega
  have c1 := ceilDiv_eq p.length w hw0 (by omega)
  have c2 := ceilDiv_eq (min k p.length) w hw0 (by omega)
  have hrows := rows_blocksOf_le w (by omega) p hp
  have hmb : max 1 ((min k p.length + w - 1) / w) ≤ (blocksOf w p).length := by
    rw [s1]
    have : (min k p.length + w - 1) / w ≤ (p.length + w - 1) / w := Nat.div_le_div_right (by omega)
    omega
  have hfold := new_fold w (blocksOf w p) (p.length % w) p.length s4 hrows (by omega)
    (max 1 ((min k p.length + w - 1) / w)) 0 0 (by omega)
  have hinit : initStates w (blocksOf w p) p.length k = initList w (blocksOf w p) (max 1 ((min k p.length + w - 1) / w)) := by
    unfold initStates
    simp only
    rw [initGo_eq w _ _ 0 hmb]
    simp [initList]
  have hnil : repS (initList w (blocksOf w p) 0) = [] := by simp [initList, repS]
  rw [hnil, Nat.zero_add] at hfold
  have hsub : Rs.sub ((p.length + w - 1) / w) 1 = Res.ok ((blocksOf w p).length - 1) := by
    rw [Rs.sub_ok (by omega), s1]
  unfold RbV.Gen.SrcMyersLongNew.new
  simp only [c1, c2, hsub, Rs.rem_ok hw0, Res.ok_bind, Res.pure_eq_ok, Nat.sub_zero]
  rw [show Nat.max 1 ((Nat.min k p.length + w - 1) / w) = max 1 ((min k p.length + w - 1) / w) from rfl, hfold, hinit]
  rfl

/-- `long::Myers::initial_state(m, max_dist)` is `States::new(m, max_dist)` -/
theorem initialState_eq_model (w : Nat) (p : List Nat) (k : Nat) (hw : 2 ≤ w) (hp : 1 ≤ p.length) (h64 : p.length + w + 1 < 2 ^ 64) :
    RbV.Gen.SrcMyersLongNew.initialState (w := w) (m := p.length) (max_dist := k) =
      Res.ok (repS (initStates w (blocksOf w p) p.length k), (blocksOf w p).length - 1, p.length % w) := by
  simp [RbV.Gen.SrcMyersLongNew.initialState, new_eq_model w p k hw hp h64]

/-! ### `known_dist` -/

/-- **`States::known_dist()` as written**: the distance of block `max_block` if that block is active -/
theorem knownDist_eq_model (w nb : Nat) (sts : List (St w)) (hnb : 1 ≤ nb) (hlen : sts.length ≤ nb) :
    RbV.Gen.SrcMyersLongNew.knownDist (w := w) (states := repS sts) (max_block := nb - 1) =
      Res.ok (RbV.Model.MyersLong.knownDist nb sts) := by
  unfold RbV.Gen.SrcMyersLongNew.knownDist RbV.Model.MyersLong.knownDist
  by_cases h : sts.length = nb
  · rw [if_pos h, List.getLast?_eq_getElem?, h]
    simp [repS, rep, Option.map_map, Function.comp_def]
  · rw [if_neg h]
    have : (repS sts)[nb - 1]? = none := by
      rw [List.getElem?_eq_none_iff]; simp [repS]; omega
    simp [this]

/-! ### the side conditions of `States::step` from the band invariant -/

/-- **no `dist` update of the carry chain wraps**: `ChainOk` (the side condition of `GenSrcMyersLongStep.for1_fold`) holds whenever the blocks
encode a column whose successor is non-negative and whose values stay below `2^63` -/
theorem advanceAll_chainOk {w : Nat} (eqv : Nat → Nat → Bool) (a : Nat) (C : Nat → Int) (p : List Nat)
    (hnn : ∀ r, 0 ≤ nextC C (matchBits eqv p a) r) :
    ∀ (blks : List (List Nat)) (sts : List (St w)) (pre : List Nat) (hin : Int), pre ++ blks.flatten = p →
      ColEnc C pre.length blks sts → -1 ≤ hin ∧ hin ≤ 1 → nextC C (matchBits eqv p a) pre.length - C pre.length = hin →
      (∀ s ∈ sts, s.dist + 1 < 2 ^ 63) → ChainOk eqv a blks sts hin := by
  intro blks
  induction blks with
  | nil => intro sts pre hin _ hc hh hb _; cases sts <;> simp [ChainOk]
  | cons blk blks ih =>
    intro sts pre hin hp hc hh hb hd
    cases sts with
    | nil => simp [ChainOk]
    | cons s ss =>
      obtain ⟨hl1, hlw, henc, hdist, hrest⟩ := hc
      rw [List.flatten_cons] at hp
      obtain ⟨_, _, k3, k4⟩ := advanceBlock_col C (matchBits eqv p a) pre.length blk.length hl1 hlw (peq w eqv blk a) s hin
        (fun i hi => by rw [peq_bit w eqv blk a i hi hlw, ← hp, matchBits_block eqv a pre blk _ i hi]) hh hb henc hdist (hnn _)
      rw [← List.length_append] at hrest k3
      exact ⟨⟨k4, hd s (by simp)⟩, ih ss (pre ++ blk) _ (by rw [List.append_assoc]; exact hp) hrest (hout_range _ _ _ _)
        k3.symm (fun s' hs' => hd s' (by simp [hs']))⟩

/-- the sizes the translated block-based matcher assumes: words of `2 ≤ w < 2^62` bits, a non-empty pattern, and `m + w + 2`
below `2^63` (the `isize` round trip of the activation test) -/
structure Sizes (w : Nat) (p : List Nat) : Prop where
  hw : 2 ≤ w
  hw62 : w < 2 ^ 62
  hp : 1 ≤ p.length
  h63 : p.length + w + 2 < 2 ^ 63

section band
variable {w : Nat} (eqv : Nat → Nat → Bool) (p : List Nat) (k : Nat)

/-- **all side conditions of `step_eq_model`** hold in a state that satisfies the band invariant -/
theorem side_conditions (hw : 2 ≤ w) (hp : 1 ≤ p.length) (h63 : p.length + w + 2 < 2 ^ 63)
    (P : Nat → Int) (u : List Nat) (sts : List (St w)) (a : Nat)
    (b : Band eqv p k (blocksOf w p) P u sts) :
    sts ≠ [] ∧ sts.length ≤ (blocksOf w p).length ∧ (blocksOf w p).length < 2 ^ 63 ∧
    ChainOk eqv a (blocksOf w p) sts 0 ∧
    (∀ s ∈ (advanceAll eqv a (blocksOf w p) sts 0).1, s.dist + 1 < 2 ^ 63) ∧
    0 ≤ (lastDist (advanceAll eqv a (blocksOf w p) sts 0).1 : Int) - (advanceAll eqv a (blocksOf w p) sts 0).2 ∧
    (∀ blk, (blocksOf w p)[sts.length]? = some blk →
      BlockOk eqv a blk (freshBlock w (advanceAll eqv a (blocksOf w p) sts 0).1 blk.length
        (advanceAll eqv a (blocksOf w p) sts 0).2) (advanceAll eqv a (blocksOf w p) sts 0).2) := by
  have hflat := blocksOf_flatten w (by omega) p hp
  have c2 := blocksOf_mem_length w (by omega) p hp
  obtain ⟨s1, s2, s3, s4⟩ := blocks_shape w hw p hp
  have hne : sts ≠ [] := by intro h; have := b.ne; simp [h] at this
  have hlen := ColEnc_length_le (blocksOf w p) sts 0 b.col
  have hP0 : P 0 = 0 := b.zero
  have hrows := rows_blocksOf_le w (by omega) p hp
  have hbound := ColEnc_bound (blocksOf w p) sts 0 b.col
  have hdist := ColEnc_dist_lt (blocksOf w p) sts b.col hP0 p.length hrows (by omega)
  have hchain := advanceAll_chainOk eqv a P p (nextC_nonneg _ _ b.nn) (blocksOf w p) sts [] 0 hflat
    b.col (by omega) (by simp [nextC, hP0]) hdist
  obtain ⟨a1, _⟩ := band_advance eqv p k (blocksOf w p) hflat P u sts a b
  have hdist' := ColEnc_dist_lt (blocksOf w p) _ a1 (show nextC P (matchBits eqv p a) 0 = 0 from rfl) p.length hrows
    (by omega)
  have hprev : (lastDist (advanceAll eqv a (blocksOf w p) sts 0).1 : Int) - (advanceAll eqv a (blocksOf w p) sts 0).2 =
      P (rows sts.length (blocksOf w p)) := band_prev eqv p k (blocksOf w p) hflat P u sts a b
  have hPR := b.nn (rows sts.length (blocksOf w p))
  -- the pseudo-column at the lower edge of the active region is at most the number of rows
  have hPle : P (rows sts.length (blocksOf w p)) ≤ rows sts.length (blocksOf w p) := by
    have hl := ColEnc_last (blocksOf w p) sts 0 b.col hne
    rw [Nat.zero_add] at hl
    cases hg : sts.getLast? with
    | none => rw [List.getLast?_eq_none_iff] at hg; exact absurd hg hne
    | some s =>
      rw [hg] at hl
      simp only [Option.map_some, Option.getD_some] at hl
      have := hbound s (List.mem_of_getLast? hg)
      rw [hP0] at this
      omega
  refine ⟨hne, hlen, by omega, hchain, hdist', by rw [hprev]; exact hPR, ?_⟩
  intro blk hblk
  have hmem : blk ∈ blocksOf w p := List.mem_of_getElem? hblk
  obtain ⟨hl1, hlw⟩ := c2 blk hmem
  have hrs := rows_succ (blocksOf w p) sts.length blk hblk
  have hR := hrows (sts.length + 1)
  have hfd : (freshBlock w (advanceAll eqv a (blocksOf w p) sts 0).1 blk.length
      (advanceAll eqv a (blocksOf w p) sts 0).2).dist =
      (P (rows sts.length (blocksOf w p)) + blk.length).toNat := by
    simp only [freshBlock]
    congr 1; omega
  unfold BlockOk
  rw [hfd]
  refine ⟨?_, by omega⟩
  have h1 : 1 ≤ (P (rows sts.length (blocksOf w p)) + blk.length).toNat := by omega
  exact Nat.le_trans (Bool.toNat_le _) (by omega)

/-- **the translated `long::Myers::step` (glue + `States::step`) on a state of a search** = the model's `stepStates` -/
theorem step_band (F : Sizes w p)
    (P : Nat → Int) (u : List Nat) (sts : List (St w)) (a : Nat) (ha : a < 256)
    (b : Band eqv p k (blocksOf w p) P u sts) :
    RbV.Gen.SrcMyersLongNew.step (w := w) (peq := peqL w eqv (blocksOf w p)) (states := repS sts)
        (max_block := (blocksOf w p).length - 1) (last_m := p.length % w) (a := a) (max_dist := k) =
      Res.ok (repS (stepStates eqv (blocksOf w p) k a sts), (blocksOf w p).length - 1, p.length % w) := by
  have hw := F.hw
  obtain ⟨h1, h2, h3, h4, h5, h6, h7⟩ := side_conditions eqv p k hw F.hp F.h63 P u sts a b
  obtain ⟨s1, s2, s3, s4⟩ := blocks_shape w hw p F.hp
  have hlm : p.length % w ≤ w := Nat.le_of_lt (Nat.mod_lt _ (by omega))
  have := GenSrcMyersLongStep.step_eq_model w eqv (blocksOf w p) k a (p.length % w) sts (by omega) F.hw62 hlm ha h1 h2 h3 s4 h4 h5 h6 h7
  simp [RbV.Gen.SrcMyersLongNew.step, this]

end band

end RbV.Thm.GenSrcMyersLongNew
