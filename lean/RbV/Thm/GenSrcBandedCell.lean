import RbV.Thm.GenSrcBandedFill
import RbV.Thm.GenSrcBasic
import RbV.Basic.GetD
/-!
One whole iteration of the main-loop cell of `banded::Aligner::compute_alignment` (`fillColumns_for3` of
`RbV/Gen/SrcBandedFill.lean`): the reads, the `i32` sums, the candidate chains, the writes of `S/I/D[curr][i]`, the two trackers
(`S[curr][m]` / `Lx[j]`, `Sn[i]` / `Ly[i]`) and `traceback.set(i, j, tb)`, for every column `1 ≤ j ≤ n` (the last one with the
`clip_score` candidate).  Level: the **values** of the arrays after the iteration are determined (`cellStep` of the mirror, the
trackers are maxima); `Lx`, `Ly` and the traceback cell written at `(i, j)` are existentially quantified (soft) — the moves that
explain the values are `GenSrcBandedFill.cell_values_eq_model`.

First the vocabulary of the three files about the translated fill (`GenSrcBandedFill` → this file → `GenSrcBandedCols`): the types
`ScT`, `BandT`, `St`, the two-row arrays `rd` / `wr` / `Arr` with their read-after-write rules, and the shape `Dims` of an aligner
state with its bridge to `Arr`.
-/
set_option linter.unusedSimpArgs false
set_option linter.unusedVariables false
/- `MIN` and `Arr` keep the namespace of the column file, whose published statements name them. -/
namespace RbV.Thm.GenSrcBandedCols
abbrev MIN : Int := RbV.Gen.Limits.minScorePairwise
/-- shape of one two-row array -/
def Arr (A : List (List Int)) (m : Nat) : Prop := A.length = 2 ∧ ∀ k, k < 2 → (A.getD k []).length = m + 1
end RbV.Thm.GenSrcBandedCols

namespace RbV.Thm.GenSrcBandedCell
open RbV RbV.Gen RbV.Rs RbV.Rs.Res RbV.Gen.TbCodes RbV.Gen.SrcBandedFill RbV.Thm.GenSrcBandedFill
open RbV.Model.BandedDP (pickI pickD pickS cellStep)
open GenSrcBandedCols (Arr MIN)

abbrev ScT := Int × Int × Option (Int × Int) × Int × Int × Int × Int
abbrev BandT := Nat × Nat × List (Nat × Nat)
abbrev St (Tbm : Type) := List (List Int) × List (List Int) × List (List Int) × List Nat × List Nat × List Int × Tbm × ScT × BandT × Nat × Nat

/-- row `k` of a two-row array, cell `i` of it -/
def rd (A : List (List Int)) (k i : Nat) : Int := (A.getD k []).getD i 0
/-- `A[k][i] = v` -/
def wr (A : List (List Int)) (k i : Nat) (v : Int) : List (List Int) := A.set k ((A.getD k []).set i v)

/-- shape of the DP arrays of an aligner for `|x| = m`, `|y| = n` -/
structure Dims (S I D : List (List Int)) (Lx Ly : List Nat) (Sn : List Int) (m n : Nat) : Prop where
  s2 : S.length = 2
  i2 : I.length = 2
  d2 : D.length = 2
  srow : ∀ k, k < 2 → (S.getD k []).length = m + 1
  irow : ∀ k, k < 2 → (I.getD k []).length = m + 1
  drow : ∀ k, k < 2 → (D.getD k []).length = m + 1
  lx : Lx.length = n + 1
  ly : Ly.length = m + 1
  sn : Sn.length = m + 1

theorem dims_arr {S I D : List (List Int)} {Lx Ly : List Nat} {Sn : List Int} {m n : Nat} (h : Dims S I D Lx Ly Sn m n) :
    Arr S m ∧ Arr I m ∧ Arr D m := ⟨⟨h.s2, h.srow⟩, ⟨h.i2, h.irow⟩, ⟨h.d2, h.drow⟩⟩

theorem dims_of {S I D : List (List Int)} {Lx Ly : List Nat} {Sn : List Int} {m n : Nat} (hS : Arr S m) (hI : Arr I m)
    (hD : Arr D m) (hlx : Lx.length = n + 1) (hly : Ly.length = m + 1) (hsn : Sn.length = m + 1) : Dims S I D Lx Ly Sn m n :=
  ⟨hS.1, hI.1, hD.1, hS.2, hI.2, hD.2, hlx, hly, hsn⟩

theorem wr_len (A : List (List Int)) (k i : Nat) (v : Int) : (wr A k i v).length = A.length := by simp [wr]
theorem wr_row (A : List (List Int)) (k i : Nat) (v : Int) (hk : k < A.length) :
    (wr A k i v).getD k [] = (A.getD k []).set i v := by unfold wr; exact List.getD_set_self _ _ _ _ hk
theorem wr_row_ne (A : List (List Int)) (k k' i : Nat) (v : Int) (h : k ≠ k') : (wr A k i v).getD k' [] = A.getD k' [] := by
  unfold wr; exact List.getD_set_ne _ _ _ _ _ h
theorem wr_rowlen (A : List (List Int)) (k k' i : Nat) (v : Int) (hk : k < A.length) :
    ((wr A k i v).getD k' []).length = (A.getD k' []).length := by
  by_cases h : k = k'
  · subst h; rw [wr_row _ _ _ _ hk]; simp
  · rw [wr_row_ne _ _ _ _ _ h]

theorem setIdx2 (A : List (List Int)) (k i : Nat) (v : Int) (hk : k < A.length) (hi : i < (A.getD k []).length) :
    (Rs.idx A k >>= fun r => Rs.setIdx r i v >>= fun r' => Rs.setIdx A k r') = ok (wr A k i v) := by
  rw [GenSrc.idx_getD A k [] hk]; simp only [ok_bind]
  rw [Rs.setIdx_ok hi]; simp only [ok_bind]
  rw [Rs.setIdx_ok hk]; rfl

theorem wr_self (A : List (List Int)) (k i : Nat) : wr A k i (rd A k i) = A := by
  unfold wr rd
  rw [List.set_getD_self, List.set_getD_self]

section
variable {A : List (List Int)} {m : Nat} (h : Arr A m) (k i : Nat) (hk : k < 2) (hi : i ≤ m)
include h hk

theorem arr_wr (v : Int) : Arr (wr A k i v) m := by
  refine ⟨by rw [wr_len]; exact h.1, fun k' hk' => ?_⟩
  rw [wr_rowlen _ _ _ _ _ (by rw [h.1]; exact hk)]; exact h.2 k' hk'

include hi

theorem rd_wr2 (k' i' : Nat) (v : Int) : rd (wr A k i v) k' i' = if k = k' ∧ i = i' then v else rd A k' i' := by
  have hr : i < (A.getD k []).length := by rw [h.2 k hk]; exact Nat.lt_succ_of_le hi
  unfold rd
  by_cases hkk : k = k'
  · subst hkk
    rw [wr_row _ _ _ _ (by rw [h.1]; exact hk)]
    by_cases hii : i = i'
    · subst hii; simp only [and_self, if_true]; exact List.getD_set_self _ _ _ _ hr
    · simp only [hii, and_false, if_false]; exact List.getD_set_ne _ _ _ _ _ hii
  · rw [wr_row_ne _ _ _ _ _ hkk, if_neg (fun c => hkk c.1)]

theorem rd_wr_self (v : Int) : rd (wr A k i v) k i = v := by
  rw [rd_wr2 h k i hk hi, if_pos ⟨rfl, rfl⟩]

/-- `A[k][i] = v; rest` and `A[k][i]` read, inside a longer body -/
theorem setIdx2_bind {β : Type} (v : Int) (K : List (List Int) → Res β) :
    (Rs.idx A k >>= fun r => Rs.setIdx r i v >>= fun r' => Rs.setIdx A k r' >>= K) = K (wr A k i v) := by
  have hk' : k < A.length := by rw [h.1]; exact hk
  rw [GenSrc.idx_getD A k [] hk', ok_bind, Rs.setIdx_ok (by rw [h.2 k hk]; exact Nat.lt_succ_of_le hi), ok_bind, Rs.setIdx_ok hk']
  rfl

theorem idx2_bind {β : Type} (K : Int → Res β) : (Rs.idx A k >>= fun r => Rs.idx r i >>= K) = K (rd A k i) := by
  rw [GenSrc.idx_getD A k [] (by rw [h.1]; exact hk), ok_bind,
    GenSrc.idx_getD _ i 0 (by rw [h.2 k hk]; exact Nat.lt_succ_of_le hi)]
  rfl

end

section
variable {Tbm : Type} (matchFn : Nat → Nat → Int) (tbGet : Tbm → Nat → Nat → Cell) (tbSet : Tbm → Nat → Nat → Cell → Tbm)

/-- `gap_open_after_yclip(i, n)` as translated: nothing if the path clipped at `Sn[i]` ends with an insertion (the S field of
`(i, n − Ly[i])` is `TB_INS`), `gap_open` otherwise — the repaired transition of 1d30e2c -/
theorem gapOpenAfterYclip_eq (S I D : List (List Int)) (Lx Ly : List Nat) (Sn : List Int) (T : Tbm) (sc : ScT) (b : BandT) (k w : Nat)
    (i n : Nat) (hi : i < Ly.length) (hly : Ly.getD i 0 ≤ n) :
    gapOpenAfterYclip matchFn tbGet tbSet (S, I, D, Lx, Ly, Sn, T, sc, b, k, w) i n =
      ok (if fS (tbGet T i (n - Ly.getD i 0)) = tbIns then 0 else sc.1) := by
  unfold gapOpenAfterYclip
  simp only [GenSrc.idx_getD Ly i 0 hi, ok_bind, Rs.sub_ok hly, pure_eq_ok, fS, beq_iff_eq]
  by_cases h : (tbGet T i (n - Ly.getD i 0)).2.2 = tbIns <;> simp [h]

/-- the last-column candidate of the I layer (`clip_score`) -/
theorem iClip_last (S I D : List (List Int)) (Lx Ly : List Nat) (Sn : List Int) (T : Tbm) (sc : ScT) (bd : BandT) (k w : Nat)
    (n i : Nat) (tb : Cell) (b goy : Int) (hi : 1 ≤ i) (hsn : i - 1 < Sn.length)
    (hgy : gapOpenAfterYclip matchFn tbGet tbSet (S, I, D, Lx, Ly, Sn, T, sc, bd, k, w) (i - 1) n = ok goy)
    (o1 : Rs.InS 32 (Sn.getD (i - 1) 0 + goy)) (o2 : Rs.InS 32 (Sn.getD (i - 1) 0 + goy + sc.2.1)) :
    Step fI fD fS (Sn.getD (i - 1) 0 + goy + sc.2.1) (· = tbYclipSuffix) tb b
      (fillColumns_for3_if2 matchFn tbGet tbSet (S, I, D, Lx, Ly, Sn, T, sc, bd, k, w) n n i (tb, b)) := by
  unfold Step fillColumns_for3_if2
  simp only [beq_self_eq_true, if_true, Rs.sub_ok hi, ok_bind, GenSrc.idx_getD Sn (i - 1) 0 hsn, hgy, Rs.iadd_ok o1, Rs.iadd_ok o2,
    pure_eq_ok, bind_pure_comp, fS, fI, fD]
  split
  · rename_i h
    refine ⟨_, _, rfl, ?_, rfl, rfl, Or.inr ⟨rfl, rfl⟩⟩
    simp only [decide_eq_true_eq, gt_iff_lt, ge_iff_le] at h; omega
  · rename_i h
    refine ⟨_, _, rfl, ?_, rfl, rfl, Or.inl ⟨rfl, rfl⟩⟩
    simp only [decide_eq_true_eq, gt_iff_lt, ge_iff_le] at h; omega


/-- `if i == m { tb.set_s_bits(TB_XCLIP_SUFFIX) } else { S[curr][i] = MIN_SCORE }` -/
theorem sReset_eq (S I D : List (List Int)) (Lx Ly : List Nat) (Sn : List Int) (T : Tbm) (sc : ScT) (bd : BandT) (k w : Nat)
    (m curr i : Nat) (tb : Cell) (hS : Arr S m) (hc : curr < 2) (him : i ≤ m) :
    fillColumns_for3_if4 matchFn tbGet tbSet m curr i ((S, I, D, Lx, Ly, Sn, T, sc, bd, k, w), tb) =
      ok (((if i = m then S else wr S curr i MIN), I, D, Lx, Ly, Sn, T, sc, bd, k, w),
          (if i = m then (tb.1, tb.2.1, tbXclipSuffix) else tb)) := by
  unfold fillColumns_for3_if4
  by_cases h : i = m
  · subst h; simp
  · simp only [h, beq_iff_eq, if_false, setIdx2_bind hS curr i hc him, pure_eq_ok, ok_bind]

/-- the x-suffix tracker: `S[curr][m]` becomes the better of itself and `S[curr][i] + xclip_suffix`; `Lx[j]` and the S field of
`(m, j)` follow (which of them on a tie is not stated) -/
theorem xsufTracker_eq (S I D : List (List Int)) (Lx Ly : List Nat) (Sn : List Int) (T : Tbm) (sc : ScT) (bd : BandT) (k w : Nat)
    (m j curr i : Nat) (hS : Arr S m) (hc : curr < 2) (him : i ≤ m) (hj : j < Lx.length)
    (o : Rs.InS 32 (rd S curr i + sc.2.2.2.2.1)) :
    ∃ Lx' T', fillColumns_for3_if10 matchFn tbGet tbSet m j curr i (S, I, D, Lx, Ly, Sn, T, sc, bd, k, w) =
        ok (wr S curr m (max (rd S curr m) (rd S curr i + sc.2.2.2.2.1)), I, D, Lx', Ly, Sn, T', sc, bd, k, w) ∧
      Lx'.length = Lx.length := by
  unfold fillColumns_for3_if10
  simp only [idx2_bind hS curr i hc him, idx2_bind hS curr m hc (Nat.le_refl m), Rs.iadd_ok o, ok_bind, pure_eq_ok]
  split <;> rename_i h <;> simp only [decide_eq_true_eq] at h
  · simp only [setIdx2_bind hS curr m hc (Nat.le_refl m), Rs.sub_ok him, Rs.setIdx_ok hj, ok_bind]
    rw [Int.max_eq_right (by omega)]
    exact ⟨_, _, rfl, List.length_set⟩
  · rw [Int.max_eq_left (by omega), wr_self]
    exact ⟨Lx, T, rfl, rfl⟩

/-- the y-suffix tracker: `Sn[i]` becomes the better of itself and `S[curr][i] + yclip_suffix` -/
theorem ysufTracker_eq (S I D : List (List Int)) (Lx Ly : List Nat) (Sn : List Int) (T : Tbm) (sc : ScT) (bd : BandT) (k w : Nat)
    (m n j curr i : Nat) (hS : Arr S m) (hc : curr < 2) (him : i ≤ m) (hsn : i < Sn.length) (hly : i < Ly.length)
    (hjn : j ≤ n) (o : Rs.InS 32 (rd S curr i + sc.2.2.2.2.2.2)) :
    ∃ Ly' T', fillColumns_for3_if11 matchFn tbGet tbSet n j curr i (S, I, D, Lx, Ly, Sn, T, sc, bd, k, w) =
        ok (S, I, D, Lx, Ly', Sn.set i (max (Sn.getD i 0) (rd S curr i + sc.2.2.2.2.2.2)), T', sc, bd, k, w) ∧
      Ly'.length = Ly.length := by
  unfold fillColumns_for3_if11
  simp only [idx2_bind hS curr i hc him, Rs.iadd_ok o, ok_bind, GenSrc.idx_getD Sn i 0 hsn, pure_eq_ok]
  split <;> rename_i h <;> simp only [decide_eq_true_eq] at h
  · simp only [Rs.setIdx_ok hsn, Rs.sub_ok hjn, Rs.setIdx_ok hly, ok_bind]
    rw [Int.max_eq_right (by omega)]
    exact ⟨_, _, rfl, List.length_set⟩
  · rw [Int.max_eq_left (by omega), List.set_getD_self]
    exact ⟨Ly, T, rfl, rfl⟩

/-- **One iteration of the main-loop cell, any column `1 ≤ j ≤ n`.** -/
theorem cell_iteration_eq_model (S I D : List (List Int)) (Lx Ly : List Nat) (Sn : List Int) (T : Tbm)
    (go ge : Int) (msc : Option (Int × Int)) (xp xs yp ys : Int) (bd : BandT) (k w : Nat)
    (x : List Nat) (m n j curr prev q i : Nat) (xclip gox goy : Int) (tsUp tsLeft : RbV.Model.PairwiseFill.Tb)
    (hd : Dims S I D Lx Ly Sn m n) (hx : x.length = m) (hi : 1 ≤ i) (him : i ≤ m) (hj : 1 ≤ j) (hjn : j ≤ n)
    (hc : curr < 2) (hp : prev < 2) (hi31 : i < 2 ^ 31)
    (hgx1 : i = m → gapOpenAfterXclip matchFn tbGet tbSet (S, I, D, Lx, Ly, Sn, T, (go, ge, msc, xp, xs, yp, ys), bd, k, w) m (j - 1) = ok gox)
    (hgx2 : i ≠ m → gox = go)
    (hgy : j = n → gapOpenAfterYclip matchFn tbGet tbSet (S, I, D, Lx, Ly, Sn, T, (go, ge, msc, xp, xs, yp, ys), bd, k, w) (i - 1) n = ok goy)
    (hxs : xs ≤ 0) :
    let p := x.getD (i - 1) 0
    let sDiag := rd S prev (i - 1)
    let iUp := rd I curr (i - 1)
    let sUp := rd S curr (i - 1)
    let dLeft := rd D prev i
    let sLeft := rd S prev i
    let base := if i = m then rd S curr m else MIN
    let clipI : Option Int := if j = n then some (Sn.getD (i - 1) 0 + goy + ge) else none
    let c := cellStep ⟨matchFn, go, ge⟩ (decide (i = m)) (decide (p = q)) (matchFn p q) sDiag iUp sUp dLeft sLeft base tsUp tsLeft
      clipI gox xclip (yp + go + ge * (i : Int))
    let S1 := if i = m then S else wr S curr i MIN
    let S2 := wr S1 curr i c.s
    Rs.InS 32 (sDiag + matchFn p q) → Rs.InS 32 (iUp + ge) → Rs.InS 32 (sUp + go) → Rs.InS 32 (sUp + go + ge) →
    Rs.InS 32 (dLeft + ge) → Rs.InS 32 (sLeft + gox) → Rs.InS 32 (sLeft + gox + ge) → Rs.InS 32 (yp + go) →
    Rs.InS 32 (ge * (i : Int)) → Rs.InS 32 (yp + go + ge * (i : Int)) → Rs.InS 32 (c.s + xs) → Rs.InS 32 (c.s + ys) →
    (j = n → Rs.InS 32 (Sn.getD (i - 1) 0 + goy) ∧ Rs.InS 32 (Sn.getD (i - 1) 0 + goy + ge)) →
    ∃ Lx' Ly' T' tbS,
      fillColumns_for3 matchFn tbGet tbSet x m n j curr prev q xclip (S, I, D, Lx, Ly, Sn, T, (go, ge, msc, xp, xs, yp, ys), bd, k, w) i =
        ok (wr S2 curr m (max (rd S2 curr m) (c.s + xs)), wr I curr i c.i, wr D curr i c.d, Lx', Ly',
            Sn.set i (max (Sn.getD i 0) (c.s + ys)), tbSet T' i j tbS, (go, ge, msc, xp, xs, yp, ys), bd, k, w) ∧
      Lx'.length = Lx.length ∧ Ly'.length = Ly.length := by
  intro p sDiag iUp sUp dLeft sLeft base clipI c S1 S2 o1 o2 o3 o4 o5 o6 o7 o8 o9 o10 o11 o12 oc
  obtain ⟨aS, aI, aD⟩ := dims_arr hd
  have bi1 : i - 1 ≤ m := by omega
  have bj : j < Lx.length := by rw [hd.lx]; omega
  have bsn : i - 1 < Sn.length ∧ i < Sn.length ∧ i < Ly.length := by rw [hd.sn, hd.ly]; omega
  simp only [p, sDiag, iUp, sUp, dLeft, sLeft] at o1 o2 o3 o4 o5 o6 o7
  unfold fillColumns_for3
  simp only [Rs.sub_ok hi, ok_bind, GenSrc.idx_getD x (i - 1) 0 (show i - 1 < x.length by omega), idx2_bind aS prev (i - 1) hp bi1,
    idx2_bind aI curr (i - 1) hc bi1, idx2_bind aS curr (i - 1) hc bi1, idx2_bind aD prev i hp him, idx2_bind aS prev i hp him,
    Rs.iadd_ok o1, Rs.iadd_ok o2, Rs.iadd_ok o3, Rs.iadd_ok o4, Rs.iadd_ok o5, pure_eq_ok]
  obtain ⟨tI, vI, eI, hvI, _, _, _⟩ := iLayer_step matchFn tbGet tbSet
    (S, I, D, Lx, Ly, Sn, T, (go, ge, msc, xp, xs, yp, ys), bd, k, w) j i (iUp + ge) (sUp + go + ge) (0, 0, 0) 0 hi
  have ci : c.i = (pickI ⟨matchFn, go, ge⟩ iUp sUp tsUp clipI).1 := rfl
  have e2 : ∃ tI2, fillColumns_for3_if2 matchFn tbGet tbSet (S, I, D, Lx, Ly, Sn, T, (go, ge, msc, xp, xs, yp, ys), bd, k, w) n j i
      (tI, vI) = ok (tI2, c.i) := by
    by_cases hn : j = n
    · subst hn
      obtain ⟨t, v, e, hv, _⟩ := iClip_last matchFn tbGet tbSet S I D Lx Ly Sn T (go, ge, msc, xp, xs, yp, ys) bd k w j i tI vI goy hi
        bsn.1 (hgy rfl) (oc rfl).1 (oc rfl).2
      refine ⟨t, ?_⟩
      rw [e, ci, pickI_val]
      simp only [clipI, if_true]
      rw [hv, hvI]
    · refine ⟨tI, ?_⟩
      rw [iClip_skip matchFn tbGet tbSet _ n j i tI vI hn, ci, pickI_val]
      simp only [clipI, hn, if_false]
      rw [hvI]
  obtain ⟨tI2, e2⟩ := e2
  rw [eI]; dsimp only [ok_bind]
  rw [e2]; dsimp only [ok_bind]
  have e95 : (if (i == m) = true then
      (Rs.sub j 1 >>= fun t93 => gapOpenAfterXclip matchFn tbGet tbSet (S, I, D, Lx, Ly, Sn, T, (go, ge, msc, xp, xs, yp, ys), bd, k, w) m t93)
      else ok go) = ok gox := by
    by_cases h : i = m
    · simp only [h, beq_self_eq_true, if_true, Rs.sub_ok hj, ok_bind]; exact hgx1 h
    · simp only [h, beq_iff_eq, if_false, hgx2 h]
  rw [e95]; simp only [ok_bind, Rs.iadd_ok o6, Rs.iadd_ok o7]
  obtain ⟨tD, vD, eD, hvD, _, _, _⟩ := dLayer_step matchFn tbGet tbSet
    (S, I, D, Lx, Ly, Sn, T, (go, ge, msc, xp, xs, yp, ys), bd, k, w) j i (sLeft + gox + ge) (dLeft + ge) tI2 0 hj
  have cd : c.d = vD := (pickD_val ⟨matchFn, go, ge⟩ dLeft sLeft gox tsLeft).trans hvD.symm
  subst cd
  rw [eD]; dsimp only [ok_bind]
  -- `S[curr][i]` reset unless `i = m`
  have a1 : Arr S1 m := by
    show Arr (if i = m then S else wr S curr i _) m
    split
    · exact aS
    · exact arr_wr aS curr i hc _
  have bS1 : rd S1 curr i = base := by
    show rd (if i = m then S else wr S curr i _) curr i = if i = m then rd S curr m else _
    by_cases h : i = m
    · simp only [h, if_true]
    · simp only [h, if_false]; exact rd_wr_self aS curr i hc him _
  have fold1 : (if i = m then S else wr S curr i MIN) = S1 := rfl
  rw [sReset_eq matchFn tbGet tbSet S I D Lx Ly Sn T (go, ge, msc, xp, xs, yp, ys) bd k w m curr i tD aS hc him]
  simp only [ok_bind, fold1, idx2_bind a1 curr i hc him, bS1]
  generalize (if i = m then (tD.1, tD.2.1, tbXclipSuffix) else tD) = tb4
  obtain ⟨t1, v1, s1, hv1, _⟩ := sMatch_step matchFn tbGet tbSet q p (sDiag + matchFn p q) tb4 base
  rw [s1]; dsimp only [ok_bind]
  obtain ⟨t2, v2, s2, hv2, _⟩ := sIns_step matchFn tbGet tbSet c.i t1 v1
  rw [s2]; dsimp only [ok_bind]
  obtain ⟨t3, v3, s3, hv3, _⟩ := sDel_step matchFn tbGet tbSet c.d t2 v2
  rw [s3]; dsimp only [ok_bind]
  obtain ⟨t4, v4, s4, hv4, _⟩ := sXpre_step matchFn tbGet tbSet xclip t3 v3
  rw [s4]; dsimp only [ok_bind]
  have cs31 : Rs.castSigned 32 i = (i : Int) := Rs.castSigned_of_lt (by simpa using hi31)
  simp only [Rs.iadd_ok o8, ok_bind, cs31, Rs.imul_ok o9, Rs.iadd_ok o10]
  obtain ⟨t5, v5, s5, hv5, _⟩ := sYpre_step matchFn tbGet tbSet (yp + go + ge * (i : Int)) t4 v4
  have cs : c.s = v5 :=
    (pickS_val (decide (i = m)) (decide (p = q)) (sDiag + matchFn p q) base c.i c.d xclip (yp + go + ge * (i : Int))).trans
      (by rw [hv5, hv4, hv3, hv2, hv1])
  subst cs
  rw [s5]
  simp only [ok_bind, setIdx2_bind a1 curr i hc him, setIdx2_bind aI curr i hc him, setIdx2_bind aD curr i hc him]
  have a2 : Arr S2 m := arr_wr a1 curr i hc c.s
  have rS2i : rd S2 curr i = c.s := rd_wr_self a1 curr i hc him c.s
  obtain ⟨Lx', T1, e10, hLx⟩ := xsufTracker_eq matchFn tbGet tbSet S2 (wr I curr i c.i) (wr D curr i c.d) Lx Ly Sn T
    (go, ge, msc, xp, xs, yp, ys) bd k w m j curr i a2 hc him bj (by rw [rS2i]; exact o11)
  rw [e10]; simp only [ok_bind, rS2i]
  generalize hS3 : wr S2 curr m (max (rd S2 curr m) (c.s + xs)) = S3
  have a3 : Arr S3 m := hS3 ▸ arr_wr a2 curr m hc _
  have rS3i : rd S3 curr i = c.s := by
    rw [← hS3, rd_wr2 a2 curr m hc (Nat.le_refl m), rS2i]
    by_cases h : m = i
    · subst h; simp only [and_self, if_true, rS2i]; exact Int.max_eq_left (by omega)
    · simp only [h, and_false, if_false]
  obtain ⟨Ly', T2, e11, hLy⟩ := ysufTracker_eq matchFn tbGet tbSet S3 (wr I curr i c.i) (wr D curr i c.d) Lx' Ly Sn T1
    (go, ge, msc, xp, xs, yp, ys) bd k w m n j curr i a3 hc him bsn.2.1 bsn.2.2 hjn (by rw [rS3i]; exact o12)
  rw [e11]; simp only [ok_bind, rS3i]
  exact ⟨Lx', Ly', T2, t5, rfl, hLx, hLy⟩

end
end RbV.Thm.GenSrcBandedCell
