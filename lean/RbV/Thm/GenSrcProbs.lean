import RbV.Lemmas.C15SrcAdd
import RbV.Gen.SrcProbs
/-!
# C15: theorems about the *translated text* of `src/stats/probs/mod.rs` (`RbV/Gen/SrcProbs.lean`)

The generated definitions are generic in the abstract `f64`; here they are read at `xrOps E` (`RbV/Lemmas/C15Src.lean`:
`ℝ ∪ {±∞, NaN}`, exact arithmetic, `fastexp = E`).  A model value `a : LP` (`none = ln 0`) enters as `emb a`.
Obligations are stated at the level the property determines (error bounds, exactness, neutral elements, the weights of
the quadrature rules); the branch-by-branch equalities with the hand-written model are in `GenSrcProbsModel.lean` (soft).
The proofs walk every path of the generated term (`split_ifs`) and close each leaf with one of a few leaf lemmas, so that
reordered branches, commuted operands and additional admissible exits are re-proved.
-/
set_option linter.unusedSimpArgs false
set_option linter.unusedVariables false
set_option linter.unreachableTactic false
set_option linter.unusedTactic false
set_option linter.unnecessarySeqFocus false
namespace RbV.Thm.GenSrcProbs
open RbV RbV.Rs RbV.C15 RbV.Gen.SrcProbs Real

/-- what the proofs need of the approximate exponential for the *value* of `ln_1p(E d)` to be finite -/
def PosOn (E : ℝ → ℝ) : Prop := ∀ d : ℝ, d ≤ 0 → 0 < E d

theorem PosOn.neg_one_lt {E : ℝ → ℝ} (hE : PosOn E) {d : ℝ} (hd : d ≤ 0) : (-1 : ℝ) < E d :=
  lt_trans (by norm_num) (hE d hd)

theorem posOn_of_approx {E δ} (h : ApproxExp E δ) (hδ : δ < 1) : PosOn E := fun _ hd => h.pos hδ hd
theorem posOn_exp : PosOn exp := fun d _ => exp_pos d

/-- the literal of an early-exit test found in the text is at most `dropGap` -/
macro "lit_le_gap" h:ident : tactic =>
  `(tactic| (rw [decR_eq] at $h:ident; norm_num at $h:ident; unfold dropGap; norm_num))

theorem ln_add_exp_near_model (E : ℝ → ℝ) (hE : PosOn E) (a b : LP) :
    ∃ r : LP, ln_add_exp (xrOps E) (emb a) (emb b) = emb r ∧ AddNear E a b r := by
  cases a with
  | none =>
    cases b with
    | none => exact ⟨none, by simp [ln_add_exp, ln_zero], addNear_model ..⟩
    | some y =>
      refine ⟨some y, ?_, addNear_model ..⟩
      simp [ln_add_exp, ln_zero]
  | some x =>
    cases b with
    | none => exact ⟨some x, by simp [ln_add_exp, ln_zero], addNear_model ..⟩
    | some y =>
      rcases lt_or_ge x y with h | h
      · have hE1 := hE.neg_one_lt (sub_nonpos.mpr h.le)
        have hmax : max x y = y := max_eq_right h.le
        have hmin : min x y = x := min_eq_left h.le
        simp only [ln_add_exp, ln_zero, emb_some, ops_eq, ops_lt, ops_add, ops_sub, ops_ln1p, ops_fastexp, ops_inf,
          ops_negInf, ops_ofDec, eq_fin_ninf, eq_fin_pinf, lt_fin, sub_fin, fastexp_fin, add_fin, ln1p_fin hE1, h,
          decide_true, decide_false, Bool.false_eq_true, ↓reduceIte, if_true, if_false]
        (try split_ifs) <;>
        first
          | (refine ⟨some _, rfl, Or.inl ?_⟩; simp [lnAddExp, hmax, hmin]; done)
          | (rename_i hc; refine ⟨some y, rfl, Or.inr ⟨x, y, rfl, rfl, ?_, by rw [hmax]⟩⟩
             rw [hmax, hmin]; simp only [decide_eq_true_eq] at hc; rw [decR_eq] at hc; norm_num at hc; unfold dropGap; linarith)
      · have hE1 := hE.neg_one_lt (sub_nonpos.mpr h)
        have hmax : max x y = x := max_eq_left h
        have hmin : min x y = y := min_eq_right h
        have hn : ¬ x < y := not_lt.mpr h
        simp only [ln_add_exp, ln_zero, emb_some, ops_eq, ops_lt, ops_add, ops_sub, ops_ln1p, ops_fastexp, ops_inf,
          ops_negInf, ops_ofDec, eq_fin_ninf, eq_fin_pinf, lt_fin, sub_fin, fastexp_fin, add_fin, ln1p_fin hE1, hn,
          decide_true, decide_false, Bool.false_eq_true, ↓reduceIte, if_true, if_false]
        (try split_ifs) <;>
        first
          | (refine ⟨some _, rfl, Or.inl ?_⟩; simp [lnAddExp, hmax, hmin]; done)
          | (rename_i hc; refine ⟨some x, rfl, Or.inr ⟨x, y, rfl, rfl, ?_, by rw [hmax]⟩⟩
             rw [hmax, hmin]; simp only [decide_eq_true_eq] at hc; rw [decR_eq] at hc; norm_num at hc; unfold dropGap; linarith)

/-- the error bound of the property for the translated `ln_add_exp`: `δ ·` smaller operand, plus `dropTol ·` larger
operand for an early exit (none in the present text) -/
theorem ln_add_exp_error (E : ℝ → ℝ) (δ : ℝ) (h : ApproxExp E δ) (hδ : δ < 1) (a b r : LP)
    (hr : ln_add_exp (xrOps E) (emb a) (emb b) = emb r) :
    |lin r - (lin a + lin b)| ≤ δ * min (lin a) (lin b) + dropTol * max (lin a) (lin b) := by
  obtain ⟨r', hr', hn⟩ := ln_add_exp_near_model E (posOn_of_approx h hδ) a b
  rw [hr'] at hr
  rw [← emb_inj hr]
  exact hn.error h hδ

theorem ln_1m_exp_spec (E : ℝ → ℝ) (δ : ℝ) (h : ApproxExp E δ) (hδ : δ ≤ 1 / 2) (x : ℝ) (hx : x ≤ 0) :
    ∃ r : LP, ln_1m_exp (xrOps E) (XR.fin x) = Res.ok (emb r) ∧ |lin r - (1 - exp x)| ≤ δ * exp x := by
  have hδ0 := h.delta_nonneg
  have hl2 : (0 : ℝ) < log 2 := log_pos one_lt_two
  simp only [ln_1m_exp, Rs.assert, ops_le, ops_lt, ops_ofDec, ops_neg, ops_ln1p, ops_ln, ops_fastexp, ops_expm1, ops_exp,
    ops_ln2, le_fin, lt_fin, neg_fin, fastexp_fin, expm1_fin, exp_fin, decR_int, Int.cast_zero, hx, decide_true, ↓reduceIte,
    Res.pure_eq_ok, Res.ok_bind, bind_pure_comp, decide_eq_true_eq]
  (try split_ifs) <;> (try rename_i hc) <;> (try (rw [decR_eq] at hc; norm_num at hc)) <;>
  first
    | exact leaf_expm1 hδ0 hx
    | exact leaf_ln1p E (h x hx) (approx_lt_one h hδ (by linarith))
    | exact leaf_ln1p exp (by simpa using mul_nonneg hδ0 (exp_pos x).le) (exp_lt_one_iff.mpr (by linarith))

theorem ln_one_minus_exp_spec (E : ℝ → ℝ) (δ : ℝ) (h : ApproxExp E δ) (hδ : δ ≤ 1 / 2) (a : LP) (ha : lin a ≤ 1) :
    ∃ r : LP, ln_one_minus_exp (xrOps E) (emb a) = Res.ok (emb r) ∧ |lin r - (1 - lin a)| ≤ δ * lin a := by
  cases a with
  | none =>
    refine ⟨some 0, ?_, by simp [lin]⟩
    simp [ln_one_minus_exp, ln_1m_exp, Rs.assert, XR.le, XR.lt]
  | some x =>
    have hx : x ≤ 0 := nonpos_of_lin_le_one ha
    obtain ⟨r, hr, he⟩ := ln_1m_exp_spec E δ h hδ x hx
    exact ⟨r, by simp [ln_one_minus_exp, hr], he⟩

theorem ln_one_minus_exp_spec_fin (E : ℝ → ℝ) (δ : ℝ) (h : ApproxExp E δ) (hδ : δ ≤ 1 / 2) (x : ℝ) (hx : x ≤ 0) :
    ∃ r : LP, ln_one_minus_exp (xrOps E) (XR.fin x) = Res.ok (emb r) ∧ |lin r - (1 - exp x)| ≤ δ * exp x :=
  ln_one_minus_exp_spec E δ h hδ (some x) (by simpa [lin] using hx)

/-- the translated `ln_sub_exp` never panics on `p1 ≤ p0` and is within `δ · e^{p1}` of `e^{p0} − e^{p1}` -/
theorem ln_sub_exp_spec (E : ℝ → ℝ) (δ : ℝ) (h : ApproxExp E δ) (hδ : δ ≤ 1 / 2) (a b : LP) (hab : lin b ≤ lin a) :
    ∃ r : LP, ln_sub_exp (xrOps E) (emb a) (emb b) = Res.ok (emb r) ∧ |lin r - (lin a - lin b)| ≤ δ * lin b := by
  have hδ0 := h.delta_nonneg
  cases b with
  | none => exact ⟨a, by cases a <;> simp [ln_sub_exp, ln_zero], by simp [lin]⟩
  | some y =>
    cases a with
    | none => simp only [lin] at hab; exact absurd hab (not_le.mpr (exp_pos y))
    | some x =>
      have hyx : y ≤ x := exp_le_exp.mp hab
      have hd : y - x ≤ 0 := sub_nonpos.mpr hyx
      obtain ⟨r', hr', he⟩ := ln_one_minus_exp_spec_fin E δ h hδ (y - x) hd
      simp only [ln_sub_exp, ln_zero, Rs.assert, emb_some, ops_eq, ops_le, ops_lt, ops_add, ops_sub, ops_relEq, ops_epsilon,
        ops_inf, ops_negInf, ops_ofDec, eq_fin_ninf, eq_fin_pinf, le_fin, lt_fin, sub_fin, relEq_zero, hyx, hr',
        add_fin_emb, decide_true, decide_false, Bool.false_eq_true, Bool.or_false, Bool.false_or, ↓reduceIte,
        Res.pure_eq_ok, Res.ok_bind, decide_eq_true_eq]
      (try split_ifs) <;>
      first
        | (rename_i hc; subst hc; exact ⟨none, rfl, by simp only [lin, sub_self, abs_zero]; positivity⟩)
        | (refine ⟨addLP x r', rfl, ?_⟩
           rw [lin_addLP]
           exact sub_scale_error he)

theorem checked_ok_iff {F : Type} (o : F64Ops F) (p v : F) :
    Gen.SrcProbs.checked o p = Except.ok v ↔
      v = p ∧ (o.le (o.ofDec ⟨0, 0⟩) p && o.le p (o.ofDec ⟨1, 0⟩)) = true := by
  unfold Gen.SrcProbs.checked
  split <;> simp [*, eq_comm]

/-- the translated `Prob::checked` accepts exactly the finite values of `[0, 1]` — in particular not NaN, ±∞ -/
theorem checked_iff (E : ℝ → ℝ) (p v : XR) :
    Gen.SrcProbs.checked (xrOps E) p = Except.ok v ↔ v = p ∧ ∃ x : ℝ, p = XR.fin x ∧ 0 ≤ x ∧ x ≤ 1 := by
  rw [checked_ok_iff]
  cases p with
  | fin x => simp [decR_int]
  | ninf => simp [XR.le]
  | pinf => simp [XR.le]
  | nan => simp [XR.le]

theorem checked_rejects (E : ℝ → ℝ) (p : XR) (hp : ¬ ∃ x : ℝ, p = XR.fin x ∧ 0 ≤ x ∧ x ≤ 1) :
    ∃ e, Gen.SrcProbs.checked (xrOps E) p = Except.error e := by
  cases hc : Gen.SrcProbs.checked (xrOps E) p with
  | error e => exact ⟨e, rfl⟩
  | ok v => exact absurd ((checked_iff E p v).mp hc).2 hp

/-- the six `From` impls at finite arguments, as real functions -/
theorem conversions_eq_model (E : ℝ → ℝ) (x : ℝ) :
    prob_of_logprob (xrOps E) (XR.fin x) = XR.fin (E x) ∧
    prob_of_phred (xrOps E) (XR.fin x) = XR.fin (exp (-x / 10 * log 10)) ∧
    (0 < x → logprob_of_prob (xrOps E) (XR.fin x) = XR.fin (log x)) ∧
    logprob_of_prob (xrOps E) (XR.fin 0) = XR.ninf ∧
    logprob_of_phred (xrOps E) (XR.fin x) = XR.fin (x * (C15.PHRED_TO_LOG_FACTOR : ℝ)) ∧
    (0 < x → phred_of_prob (xrOps E) (XR.fin x) = XR.fin (-10 * (log x / log 10))) ∧
    phred_of_logprob (xrOps E) (XR.fin x) = XR.fin (x * (C15.LOG_TO_PHRED_FACTOR : ℝ)) := by
  refine ⟨rfl, ?_, ?_, ?_, ?_, ?_, ?_⟩
  · simp [prob_of_phred, XR.powf, XR.div, decR_int]
  · intro hx; simp [logprob_of_prob, ln_fin_pos hx]
  · simp [logprob_of_prob]
  · simp only [logprob_of_phred, ops_mul, ops_ofDec, mul_fin]; rfl
  · intro hx; simp [phred_of_prob, log10_fin_pos hx, decR_int]
  · simp only [phred_of_logprob, ops_mul, ops_ofDec, mul_fin]; rfl

/-- `Prob → PHREDProb → Prob` through the translated conversions is exact -/
theorem prob_phred_roundtrip (E : ℝ → ℝ) (p : ℝ) (hp : 0 < p) :
    prob_of_phred (xrOps E) (phred_of_prob (xrOps E) (XR.fin p)) = XR.fin p := by
  rw [((conversions_eq_model E p).2.2.2.2.2.1) hp, (conversions_eq_model E _).2.1, exp_phred_of_prob p hp]

/-- `Prob → LogProb → Prob`: the only error is that of `fastexp` -/
theorem prob_logprob_roundtrip (E : ℝ → ℝ) (δ : ℝ) (h : ApproxExp E δ) (p : ℝ) (hp : 0 < p) (hp1 : p ≤ 1) :
    ∃ q : ℝ, prob_of_logprob (xrOps E) (logprob_of_prob (xrOps E) (XR.fin p)) = XR.fin q ∧ |q - p| ≤ δ * p := by
  rw [((conversions_eq_model E p).2.2.1) hp]
  refine ⟨E (log p), rfl, ?_⟩
  have := h (log p) (log_nonpos hp.le hp1)
  rwa [exp_log hp] at this

/-- `LogProb → PHREDProb → LogProb` multiplies by the product of the two extracted literals (within 10⁻¹⁵ of 1) -/
theorem logprob_phred_roundtrip (E : ℝ → ℝ) (x : ℝ) :
    ∃ y : ℝ, logprob_of_phred (xrOps E) (phred_of_logprob (xrOps E) (XR.fin x)) = XR.fin y ∧
      y = x * ((C15.LOG_TO_PHRED_FACTOR * C15.PHRED_TO_LOG_FACTOR : ℚ) : ℝ) := by
  rw [(conversions_eq_model E x).2.2.2.2.2.2, (conversions_eq_model E _).2.2.2.2.1]
  exact ⟨_, rfl, by push_cast; ring⟩

theorem for1_step (E : ℝ → ℝ) (a p : XR) (i k : Nat) :
    ln_sum_exp_for1 (xrOps E) (a, i) (k, p) = if XR.lt a p then (p, k) else (a, i) := by
  by_cases h : XR.lt a p = true <;> simp [ln_sum_exp_for1, h]

/-- the maximum loop: afterwards `imax` points at an entry equal to `pmax`, and no entry is larger -/
theorem for1_fold (E : ℝ → ℝ) (t : List LP) : ∀ (k : Nat) (pm : LP) (im : Nat) (pre : List LP), pre.length = k →
    pre[im]? = some pm → (∀ y ∈ pre, lin y ≤ lin pm) →
    ∃ (pm' : LP) (im' : Nat), List.foldl (ln_sum_exp_for1 (xrOps E)) (emb pm, im) (Rs.enumIdxFrom k (t.map emb)) = (emb pm', im') ∧
      (pre ++ t)[im']? = some pm' ∧ ∀ y ∈ pre ++ t, lin y ≤ lin pm' := by
  induction t with
  | nil => intro k pm im pre _ h1 h2; exact ⟨pm, im, rfl, by simpa using h1, by simpa using h2⟩
  | cons p t ih =>
    intro k pm im pre hk h1 h2
    simp only [List.map_cons, Rs.enumIdxFrom, List.foldl_cons, for1_step, lt_emb]
    have hlen : (pre ++ [p]).length = k + 1 := by simp [hk]
    by_cases hlt : lin pm < lin p
    · simp only [hlt, decide_true, ↓reduceIte]
      obtain ⟨pm', im', e1, e2, e3⟩ := ih (k + 1) p k (pre ++ [p]) hlen (by simp [← hk])
        (by intro y hy; rcases List.mem_append.mp hy with hy | hy
            · exact le_trans (h2 y hy) hlt.le
            · simp only [List.mem_singleton] at hy; rw [hy])
      rw [List.append_assoc] at e2 e3
      exact ⟨pm', im', e1, e2, e3⟩
    · simp only [hlt, decide_false, Bool.false_eq_true, ↓reduceIte]
      have him : im < pre.length := by
        by_contra hc; rw [List.getElem?_eq_none (not_lt.mp hc)] at h1; cases h1
      obtain ⟨pm', im', e1, e2, e3⟩ := ih (k + 1) pm im (pre ++ [p]) hlen
        (by rw [List.getElem?_append_left him]; exact h1)
        (by intro y hy; rcases List.mem_append.mp hy with hy | hy
            · exact h2 y hy
            · simp only [List.mem_singleton] at hy; rw [hy]; exact not_lt.mp hlt)
      rw [List.append_assoc] at e2 e3
      exact ⟨pm', im', e1, e2, e3⟩

theorem fmap1_step (E : ℝ → ℝ) (M : ℝ) (imax i : Nat) (q : LP) :
    ln_sum_exp_fmap1 (xrOps E) (XR.fin M) imax (i, emb q) =
      match q with
      | none => none
      | some y => if i = imax then none else some (XR.fin (E (y - M))) := by
  cases q with
  | none => simp [ln_sum_exp_fmap1, ln_zero]
  | some y =>
    by_cases h : i = imax
    · subst h; simp [ln_sum_exp_fmap1, ln_zero]
    · have h2 : ¬ imax = i := fun e => h e.symm
      simp [ln_sum_exp_fmap1, ln_zero, h, h2]

@[simp] theorem fmap1_ninf (E : ℝ → ℝ) (M : ℝ) (imax i : Nat) :
    ln_sum_exp_fmap1 (xrOps E) (XR.fin M) imax (i, XR.ninf) = none := fmap1_step E M imax i none

@[simp] theorem fmap1_fin (E : ℝ → ℝ) (M y : ℝ) (imax i : Nat) :
    ln_sum_exp_fmap1 (xrOps E) (XR.fin M) imax (i, XR.fin y) = if i = imax then none else some (XR.fin (E (y - M))) :=
  fmap1_step E M imax i (some y)

/-- the summation pass over a stretch of indices that does not contain `imax`: every finite entry contributes -/
theorem fmap_nohole (E : ℝ → ℝ) (M : ℝ) (imax : Nat) (l : List LP) : ∀ k, imax < k ∨ k + l.length ≤ imax →
    List.filterMap (ln_sum_exp_fmap1 (xrOps E) (XR.fin M) imax) (Rs.enumIdxFrom k (l.map emb)) =
      ((finites l).map fun y => E (y - M)).map XR.fin := by
  induction l with
  | nil => intro k _; rfl
  | cons q l ih =>
    intro k hk
    have hne : k ≠ imax := by simp only [List.length_cons] at hk; omega
    have hk' : imax < k + 1 ∨ k + 1 + l.length ≤ imax := by simp only [List.length_cons] at hk; omega
    cases q with
    | none => simpa [Rs.enumIdxFrom, fmap1_step, finites] using ih (k + 1) hk'
    | some y => simpa [Rs.enumIdxFrom, fmap1_step, finites, hne] using ih (k + 1) hk'

/-- the summation pass: every finite entry except the one at `imax` contributes -/
theorem fmap_hole (E : ℝ → ℝ) (M : ℝ) (l : List LP) (k im : Nat) (h : l[im]? = some (some M)) :
    ∃ rest : List ℝ, List.filterMap (ln_sum_exp_fmap1 (xrOps E) (XR.fin M) (k + im)) (Rs.enumIdxFrom k (l.map emb)) = rest.map XR.fin ∧
      rest.sum + E (M - M) = ((finites l).map fun y => E (y - M)).sum ∧ ∀ v ∈ rest, ∃ y ∈ finites l, v = E (y - M) := by
  obtain ⟨him, hM⟩ := List.getElem?_eq_some_iff.mp h
  -- the entries before and behind the maximum
  have hl : l = l.take im ++ some M :: l.drop (im + 1) := by
    rw [← hM, ← List.drop_eq_getElem_cons him, List.take_append_drop]
  have hlen : (l.take im).length = im := List.length_take_of_le him.le
  generalize l.take im = l1 at hl hlen
  generalize l.drop (im + 1) = l2 at hl
  subst hl hlen
  refine ⟨((finites l1).map fun y => E (y - M)) ++ ((finites l2).map fun y => E (y - M)), ?_, ?_, ?_⟩
  · rw [List.map_append, enumIdxFrom_append, List.filterMap_append, List.length_map, List.map_cons, Rs.enumIdxFrom,
      List.filterMap_cons, fmap1_step, fmap_nohole E M _ l1 k (Or.inr (Nat.le_refl _)),
      fmap_nohole E M _ l2 _ (Or.inl (Nat.lt_succ_self _))]
    simp
  · simp [finites, List.filterMap_append]; ring
  · intro v hv
    simp only [finites, List.filterMap_append, List.filterMap_cons, id, List.mem_append, List.mem_map, List.mem_cons] at hv ⊢
    rcases hv with ⟨y, hy, rfl⟩ | ⟨y, hy, rfl⟩
    · exact ⟨y, Or.inl hy, rfl⟩
    · exact ⟨y, Or.inr (Or.inr hy), rfl⟩

/-- the translated `ln_sum_exp` is the model's `lnSumExp` (any position of a maximal entry may be the excluded one) -/
theorem ln_sum_exp_eq_model (E : ℝ → ℝ) (hE : PosOn E) (l : List LP) :
    ln_sum_exp (xrOps E) (l.map emb) = Res.ok (emb (lnSumExp E l)) := by
  cases l with
  | nil => simp [ln_sum_exp, ln_zero, lnSumExp, finites]
  | cons a t =>
    obtain ⟨pm, im, e1, e2, e3⟩ := for1_fold E t 1 a 0 [a] rfl rfl (by simp)
    have hdrop : (Rs.enumIdx (emb a :: t.map emb)).drop 1 = Rs.enumIdxFrom 1 (t.map emb) := rfl
    simp only [ln_sum_exp, ln_zero, List.map_cons, List.isEmpty_cons, Bool.false_eq_true, ↓reduceIte, Rs.idx,
      List.getElem?_cons_zero, Res.ok_bind, hdrop, e1, ops_eq, ops_negInf, ops_inf, ops_add, ops_ln1p, Res.pure_eq_ok]
    simp only [List.singleton_append] at e2 e3
    cases pm with
    | none =>
      have hall : finites (a :: t) = [] := by
        rw [List.eq_nil_iff_forall_not_mem]
        intro y hy
        have := lin_le_none (e3 _ (mem_finites.mp hy))
        cases this
      simp [lnSumExp, hall]
    | some M =>
      obtain ⟨rest, f1, f2, f3⟩ := fmap_hole E M (a :: t) 0 im e2
      have hMmem : M ∈ finites (a :: t) := mem_finites.mpr (List.mem_of_getElem? e2)
      have hle : ∀ y ∈ finites (a :: t), y ≤ M := fun y hy => exp_le_exp.mp (e3 _ (mem_finites.mp hy))
      have hpos : ∀ v ∈ rest, 0 < v := by
        intro v hv; obtain ⟨y, hy, rfl⟩ := f3 v hv
        exact hE _ (sub_nonpos.mpr (hle y hy))
      have hsum0 : 0 ≤ rest.sum := List.sum_nonneg fun v hv => (hpos v hv).le
      have henum : Rs.enumIdx (emb a :: t.map emb) = Rs.enumIdxFrom 0 ((a :: t).map emb) := rfl
      rw [henum]
      rw [Nat.zero_add] at f1
      simp only [emb_some, eq_fin_ninf, eq_fin_pinf, Bool.false_eq_true, ↓reduceIte, f1, fsum_fin,
        ln1p_fin (show (-1 : ℝ) < rest.sum by linarith), add_fin]
      unfold lnSumExp
      cases hf : finites (a :: t) with
      | nil => rw [hf] at hMmem; cases hMmem
      | cons x xs =>
        rw [hf] at hMmem hle f2
        have hM : lmax x xs = M :=
          le_antisymm (hle _ (lmax_mem x xs)) (le_lmax x xs M hMmem)
        simp only [hM]
        have hperm := List.perm_cons_erase hMmem
        have hs : ((x :: xs).map fun y => E (y - M)).sum
            = E (M - M) + (((x :: xs).erase M).map fun y => E (y - M)).sum := by
          rw [(hperm.map _).sum_eq]; simp
        have : rest.sum = (((x :: xs).erase M).map fun y => E (y - M)).sum := by linarith
        rw [this]
        rfl

theorem ln_sum_exp_error (E : ℝ → ℝ) (δ : ℝ) (h : ApproxExp E δ) (hδ : δ < 1) (l : List LP) :
    ∃ r : LP, ln_sum_exp (xrOps E) (l.map emb) = Res.ok (emb r) ∧ |lin r - (l.map lin).sum| ≤ δ * (l.map lin).sum :=
  ⟨_, ln_sum_exp_eq_model E (posOn_of_approx h hδ) l, lnSumExp_error h hδ l⟩

theorem scan_step_near (E : ℝ → ℝ) (hE : PosOn E) (s p : LP) :
    ∃ r : LP, scan_ln_add_exp (xrOps E) (emb s) (emb p) = (emb r, some (emb r)) ∧ AddNear E s p r := by
  obtain ⟨r, hr, hn⟩ := ln_add_exp_near_model E hE s p
  exact ⟨r, by simp [scan_ln_add_exp, hr], hn⟩

theorem iterScan_near (E : ℝ → ℝ) (hE : PosOn E) : ∀ (ps : List LP) (s : LP),
    ∃ rs : List LP, Rs.iterScan (scan_ln_add_exp (xrOps E)) (emb s) (ps.map emb) = rs.map emb ∧ ScanNear E s ps rs
  | [], _ => ⟨[], rfl, rfl⟩
  | p :: ps, s => by
    obtain ⟨r, hr, hn⟩ := scan_step_near E hE s p
    obtain ⟨rs, hrs, hs⟩ := iterScan_near E hE ps r
    exact ⟨r :: rs, by simp [Rs.iterScan, hr, hrs], r, rs, rfl, hn, hs⟩

/-- the translated `ln_cumsum_exp`, consumed to its end, is a scan whose every step is an admissible addition of the
translated `ln_add_exp`; one output per input -/
theorem ln_cumsum_exp_eq_scan (E : ℝ → ℝ) (hE : PosOn E) (l : List LP) :
    ∃ rs : List LP, ln_cumsum_exp (xrOps E) (l.map emb) = rs.map emb ∧ ScanNear E none l rs ∧ rs.length = l.length := by
  obtain ⟨rs, h1, h2⟩ := iterScan_near E hE l none
  exact ⟨rs, by simpa [ln_cumsum_exp, ln_zero] using h1, h2, h2.length⟩

/-- every entry `k` of the translated cumulative sum is within `(δ + 2(k+1)·dropTol) ·` prefix sum of the prefix sum
(`dropTol = 10⁻¹⁵` only pays for early exits of `ln_add_exp`; the present text has none, see `GenSrcProbsModel`) -/
theorem ln_cumsum_exp_error (E : ℝ → ℝ) (δ : ℝ) (h : ApproxExp E δ) (hδ : δ < 1) (l rs : List LP)
    (hrs : ln_cumsum_exp (xrOps E) (l.map emb) = rs.map emb) (k : ℕ) (r : LP) (hr : rs[k]? = some r)
    (hk : δ + 2 * (k + 1 : ℕ) * dropTol ≤ 1) :
    |lin r - ((l.take (k + 1)).map lin).sum| ≤ (δ + 2 * (k + 1 : ℕ) * dropTol) * ((l.take (k + 1)).map lin).sum := by
  obtain ⟨rs', h1, h2, _⟩ := ln_cumsum_exp_eq_scan E (posOn_of_approx h hδ) l
  have : rs = rs' := by
    rw [h1] at hrs
    exact (List.map_injective_iff.mpr (fun a b hab => emb_inj hab) hrs).symm
  subst this
  have := ScanNear.error h hδ l none rs 0 δ le_rfl le_rfl (by simp [lin, Near]) h2 k r hr hk
  simpa [Near] using this

end RbV.Thm.GenSrcProbs
