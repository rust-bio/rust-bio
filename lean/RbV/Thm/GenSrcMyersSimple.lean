import RbV.Gen.SrcMyersState
import RbV.Gen.SrcMyersSimple
import RbV.Gen.SrcMyersMatches
import RbV.Model.MyersSimple
import RbV.Lemmas.MyersStep
import RbV.Thm.GenSrcBasic
import RbV.Thm.GenSrcScanD
/-!
# The translated text of the single-word Myers matcher equals the mirror model on `BitVec w`

`RbV/Gen/SrcMyersState.lean` (`State::init`, `State::known_dist`; myers_impl.rs), `RbV/Gen/SrcMyersSimple.lean` (`Myers::_step`,
`step`, `initial_state`; simple.rs) and `RbV/Gen/SrcMyersMatches.lean` (`Matches::new`, `Matches::next` of the macro
`impl_myers!`, read at the instance of simple.rs) are regenerated by `tools/rs2lean_pm.py` on every `./check C09` / `C10`.
The generic word type `T: BitVec` is a `Nat` below `2^w` (`w` a parameter of every generated function), `T::DistType` a
`Nat` below `2^wd`.  The mirror model (`Model/MyersSimple.lean`) works on `BitVec w`; a model state `s` is represented by
`(s.pv.toNat, s.mv.toNat, s.dist)`.

* `step__eq_model`: `_step` = `MyersSimple.step` for **every** width `w ≥ 2` (so for `u8`, `u16`, `u32`, `u64`, `u128`)
  and every state on which the `dist` update neither underflows nor leaves `DistType` — the two side conditions are
  exactly what `as i8` subtraction, the sign-extending `as usize`, `wrapping_add` and `from_usize(..).unwrap()` need.
* `drain_eq` / `findAllSrc_eq_model`: `Matches::new` then `next` until `None` = `MyersSimple.findAllEnd`, under the
  invariant of `Lemmas/MyersStep.lean` (`pv`/`mv` encode a Sellers column), which discharges the side conditions.

The first two sections (`Nat` operations on `toNat` = `BitVec` operations; the `i8` differences and their casts) are the word
lemmas of all translated Myers files: `Thm/GenSrcMyersLong*.lean` and `Thm/GenSrcMyersTb*.lean` use them too.
-/
set_option linter.unusedSimpArgs false

namespace RbV.Thm.GenSrcMyersSimple
open RbV RbV.Rs RbV.Model.MyersSimple RbV.Thm.GenSrc

/-! ### `Nat` operations of the translation on `toNat` of machine words = the `BitVec` operations of the model -/

theorem and_toNat {w : Nat} (x y : BitVec w) : x.toNat &&& y.toNat = (x &&& y).toNat := (BitVec.toNat_and x y).symm
theorem or_toNat {w : Nat} (x y : BitVec w) : x.toNat ||| y.toNat = (x ||| y).toNat := (BitVec.toNat_or x y).symm
theorem xor_toNat {w : Nat} (x y : BitVec w) : x.toNat ^^^ y.toNat = (x ^^^ y).toNat := (BitVec.toNat_xor x y).symm
theorem wadd_toNat {w : Nat} (x y : BitVec w) : Rs.wrappingAdd w x.toNat y.toNat = (x + y).toNat := by
  rw [BitVec.toNat_add]; rfl
theorem not_toNat {w : Nat} (x : BitVec w) : Rs.not w x.toNat = (~~~x).toNat := by
  rw [BitVec.toNat_not]; rfl
theorem shl1_toNat {w : Nat} (hw : 1 < w) (x : BitVec w) : Rs.shl w x.toNat 1 = Res.ok (x <<< 1).toNat := by
  rw [Rs.shl_ok hw, BitVec.toNat_shiftLeft]
theorem one_toNat {w : Nat} (hw : 1 < w) : (1 : Nat) = (1#w).toNat := by
  simp [BitVec.toNat_ofNat]; exact (Nat.mod_eq_of_lt (Nat.one_lt_two_pow (by omega))).symm
theorem maxVal_toNat (w : Nat) : Rs.maxVal w = (BitVec.allOnes w).toNat := by
  rw [BitVec.toNat_allOnes]; rfl

/-- `(x & bound) != T::zero()` with `bound = 1 << i` tests bit `i` -/
theorem test_bound {w : Nat} (x : BitVec w) (i : Nat) : ((x.toNat &&& 2 ^ i) != 0) = x.getLsbD i := by
  unfold BitVec.getLsbD
  cases h : x.toNat.testBit i
  · have : x.toNat &&& 2 ^ i = 0 := by
      apply Nat.eq_of_testBit_eq
      intro j
      rw [Nat.testBit_and, Nat.testBit_two_pow, Nat.zero_testBit]
      by_cases hj : i = j
      · subst hj; simp [h]
      · simp [hj]
    simp [this]
  · have : (x.toNat &&& 2 ^ i).testBit i = true := by
      rw [Nat.testBit_and, Nat.testBit_two_pow]; simp [h]
    have hne : x.toNat &&& 2 ^ i ≠ 0 := by
      intro e; rw [e, Nat.zero_testBit] at this; exact Bool.noConfusion this
    simp [hne]

theorem test_bound' {w : Nat} (x : BitVec w) (i : Nat) : ((2 ^ i &&& x.toNat) != 0) = x.getLsbD i := by
  rw [Nat.and_comm]; exact test_bound x i

/-- `x & T::one() == T::one()` tests bit 0 -/
theorem test_bit0 {w : Nat} (x : BitVec w) : ((x.toNat &&& 1) == 1) = x.getLsbD 0 := by
  unfold BitVec.getLsbD
  rw [Nat.and_one_is_mod, Nat.testBit_zero]
  rcases Nat.mod_two_eq_zero_or_one x.toNat with h | h <;> simp [h]

theorem or_one_toNat {w : Nat} (hw : 1 < w) (x : BitVec w) : x.toNat ||| 1 = (x ||| 1#w).toNat := by
  rw [BitVec.toNat_or, ← one_toNat hw]

/-! left-commutativity of the word operations: with `comm` and `assoc`, AC normal forms by ordered rewriting -/
theorem bv_and_left_comm {w : Nat} (a b c : BitVec w) : a &&& (b &&& c) = b &&& (a &&& c) := by ac_rfl
theorem bv_or_left_comm {w : Nat} (a b c : BitVec w) : a ||| (b ||| c) = b ||| (a ||| c) := by ac_rfl
theorem bv_xor_left_comm {w : Nat} (a b c : BitVec w) : a ^^^ (b ^^^ c) = b ^^^ (a ^^^ c) := by ac_rfl
theorem bv_add_left_comm {w : Nat} (a b c : BitVec w) : a + (b + c) = b + (a + c) := by ac_rfl

/-! ### the `i8` differences (`hout`, `carry`, `offset` ∈ {−1, 0, 1}) and their casts -/

theorem toInt_sext8 (o : Int) (ho : -1 ≤ o ∧ o ≤ 1) : Rs.toInt 64 (Rs.sext 8 64 (Rs.ofInt 8 o)) = o := by
  rcases (by omega : o = -1 ∨ o = 0 ∨ o = 1) with rfl | rfl | rfl <;> decide

theorem sext8_small (o : Int) (ho : -1 ≤ o ∧ o ≤ 1) : Rs.sext 8 64 (Rs.ofInt 8 o) = Rs.ofInt 64 o := by
  rcases (by omega : o = -1 ∨ o = 0 ∨ o = 1) with rfl | rfl | rfl <;> decide

/-- adding an `i8` difference in {−1, 0, 1}, cast to `usize`, with `wrapping_add`: no wrap when the sum stays in range -/
theorem wadd_sext8 (d : Nat) (o : Int) (ho : -1 ≤ o ∧ o ≤ 1) (hnn : 0 ≤ (d : Int) + o) (hlt : d + 1 < 2 ^ 64) :
    Rs.wrappingAdd 64 d (Rs.sext 8 64 (Rs.ofInt 8 o)) = ((d : Int) + o).toNat := by
  rw [sext8_small o ho, Rs.wrappingAdd, Rs.ofInt]
  omega

theorem subI64_sext8 (d : Nat) (c : Int) (hc : -1 ≤ c ∧ c ≤ 1) (hd : d + 1 < 2 ^ 63)
    (hnn : 0 ≤ (d : Int) - c) : Rs.subI 64 d (Rs.sext 8 64 (Rs.ofInt 8 c)) = Res.ok ((d : Int) - c).toNat := by
  have h63 : (2 : Int) ^ (64 - 1) = 9223372036854775808 := by decide
  have hti : Rs.toInt 64 d = (d : Int) := by
    unfold Rs.toInt
    rw [if_pos (by omega)]
  have hin : -9223372036854775808 ≤ (d : Int) - c ∧ (d : Int) - c < 9223372036854775808 := by omega
  have hmod : ((d : Int) - c) % 2 ^ 64 = (d : Int) - c := Int.emod_eq_of_lt hnn (by omega)
  unfold Rs.subI
  rw [hti, toInt_sext8 c hc, h63, if_pos hin, Rs.ofInt, hmod]

theorem ofInt8_neg_one : Rs.ofInt 8 (-1) = 255 := by decide
theorem ofInt8_zero : Rs.ofInt 8 0 = 0 := by decide
theorem ofInt8_one : Rs.ofInt 8 1 = 1 := by decide
theorem toInt8_255 : Rs.toInt 8 255 = -1 := by decide
theorem toInt8_zero : Rs.toInt 8 0 = 0 := by decide
theorem toInt8_one : Rs.toInt 8 1 = 1 := by decide

/-- `carry < 0` on the `i8` pattern -/
theorem toInt8_ofInt8_neg (c : Int) (hc : -1 ≤ c ∧ c ≤ 1) :
    decide (Rs.toInt 8 (Rs.ofInt 8 c) < Rs.toInt 8 0) = decide (c < 0) := by
  rcases (by omega : c = -1 ∨ c = 0 ∨ c = 1) with rfl | rfl | rfl <;> decide

/-- `-carry` on the `i8` pattern -/
theorem neg8_ofInt8 (c : Int) (hc : -1 ≤ c ∧ c ≤ 1) : Rs.neg 8 (Rs.ofInt 8 c) = Res.ok (Rs.ofInt 8 (-c)) := by
  rcases (by omega : c = -1 ∨ c = 0 ∨ c = 1) with rfl | rfl | rfl <;> decide

/-- the `i8` value of `(p as i8) - (q as i8)` -/
theorem hout_pattern (p q : Bool) :
    (if p then (if q then 0 else 1) else (if q then 255 else 0)) = Rs.ofInt 8 ((p.toNat : Int) - (q.toNat : Int)) := by
  cases p <;> cases q <;> decide

/-- the update of `dist` through `i8` and a sign-extending cast: `dist + p - q` when that neither underflows nor leaves `usize` -/
theorem dist_update (d : Nat) (p q : Bool) (hlo : q.toNat ≤ d + p.toNat) (hhi : d + 1 < 2 ^ 64) :
    Rs.wrappingAdd 64 d (Rs.sext 8 64 (Rs.ofInt 8 ((p.toNat : Int) - (q.toNat : Int)))) = d + p.toNat - q.toNat := by
  have hp := Bool.toNat_le p
  have hq := Bool.toNat_le q
  rw [wadd_sext8 d _ (by omega) (by omega) hhi]
  omega

/-- **`Myers::_step` as written = the model's `step`**, for every word width `w ≥ 2`: `peqT[a]` is the word `eq`,
`bound = 1 << (m-1)`; side conditions: the `dist` update does not underflow and the new `dist` fits `DistType` -/
theorem step__eq_model (w wd m : Nat) (hw : 1 < w) (peqT : List Nat) (a : Nat) (eq : BitVec w) (s : St w)
    (hpeq : Rs.idx peqT a = Res.ok eq.toNat)
    (hlo : ((s.pv &&& xhOf eq s.pv).getLsbD (m - 1)).toNat ≤ s.dist + ((s.mv ||| ~~~(xhOf eq s.pv ||| s.pv)).getLsbD (m - 1)).toNat)
    (hhi : s.dist + 1 < 2 ^ 64) (hwd : (step m eq s).dist < 2 ^ wd) :
    RbV.Gen.SrcMyersSimple.step_ (w := w) (wd := wd) (peq := peqT) (bound := 2 ^ (m - 1)) (pv := s.pv.toNat) (mv := s.mv.toNat)
        (dist := s.dist) (a := a) =
      Res.ok ((step m eq s).pv.toNat, (step m eq s).mv.toNat, (step m eq s).dist) := by
  have hd64 : Rs.cvt 64 s.dist = Res.ok s.dist := Rs.cvt_ok (by omega)
  have hupd := dist_update s.dist ((s.mv ||| ~~~(xhOf eq s.pv ||| s.pv)).getLsbD (m - 1))
    ((s.pv &&& xhOf eq s.pv).getLsbD (m - 1)) hlo hhi
  have hwd' : Rs.cvt wd (s.dist + ((s.mv ||| ~~~(xhOf eq s.pv ||| s.pv)).getLsbD (m - 1)).toNat
      - ((s.pv &&& xhOf eq s.pv).getLsbD (m - 1)).toNat) = Res.ok (s.dist + ((s.mv ||| ~~~(xhOf eq s.pv ||| s.pv)).getLsbD (m - 1)).toNat
      - ((s.pv &&& xhOf eq s.pv).getLsbD (m - 1)).toNat) := Rs.cvt_ok hwd
  simp only [step, xhOf] at hupd hwd' ⊢
  -- as written the two texts agree word for word; a text with operands exchanged agrees up to AC normal forms
  first
    | (simp only [RbV.Gen.SrcMyersSimple.step_, hpeq, Res.ok_bind, Res.pure_eq_ok, and_toNat, or_toNat, xor_toNat, wadd_toNat,
        not_toNat, test_bound, test_bound', Rs.subI8_ofBool, hout_pattern, hd64, shl1_toNat hw, hupd, hwd']; done)
    | (simp only [RbV.Gen.SrcMyersSimple.step_, hpeq, Res.ok_bind, Res.pure_eq_ok, and_toNat, or_toNat, xor_toNat, wadd_toNat,
        not_toNat, test_bound, test_bound', Rs.subI8_ofBool, hout_pattern, hd64, shl1_toNat hw]
       simp only [BitVec.and_comm, BitVec.and_assoc, bv_and_left_comm, BitVec.or_comm, BitVec.or_assoc, bv_or_left_comm,
        BitVec.xor_comm, BitVec.xor_assoc, bv_xor_left_comm, BitVec.add_comm, BitVec.add_assoc, bv_add_left_comm,
        Nat.add_comm, Nat.add_assoc, Nat.add_left_comm] at hupd hwd' ⊢
       simp only [hupd, hwd', Res.ok_bind])

/-- `Myers::step` (the trait-like wrapper of simple.rs: it ignores `max_dist` and calls `_step`) -/
theorem step_eq_model (w wd m : Nat) (hw : 1 < w) (peqT : List Nat) (a : Nat) (eq : BitVec w) (s : St w) (md : Nat)
    (hpeq : Rs.idx peqT a = Res.ok eq.toNat)
    (hlo : ((s.pv &&& xhOf eq s.pv).getLsbD (m - 1)).toNat ≤ s.dist + ((s.mv ||| ~~~(xhOf eq s.pv ||| s.pv)).getLsbD (m - 1)).toNat)
    (hhi : s.dist + 1 < 2 ^ 64) (hwd : (step m eq s).dist < 2 ^ wd) :
    RbV.Gen.SrcMyersSimple.step (w := w) (wd := wd) (peq := peqT) (bound := 2 ^ (m - 1)) (pv := s.pv.toNat) (mv := s.mv.toNat)
        (dist := s.dist) (a := a) md =
      Res.ok ((step m eq s).pv.toNat, (step m eq s).mv.toNat, (step m eq s).dist) := by
  simp [RbV.Gen.SrcMyersSimple.step, step__eq_model w wd m hw peqT a eq s hpeq hlo hhi hwd]

/-! ### `State::init`, `initial_state`, `known_dist`, `Matches::new` -/

/-- the source-level representation of a model state -/
def rep {w : Nat} (s : St w) : Nat × Nat × Nat := (s.pv.toNat, s.mv.toNat, s.dist)

theorem init_eq_model (w wd m : Nat) : RbV.Gen.SrcMyersState.init w wd m = Res.ok (rep (init w m)) := by
  simp [RbV.Gen.SrcMyersState.init, rep, init, maxVal_toNat]

theorem initialState_eq_model (w wd m md : Nat) : RbV.Gen.SrcMyersSimple.initialState w wd m md = Res.ok (rep (init w m)) := by
  simp [RbV.Gen.SrcMyersSimple.initialState, init_eq_model]

theorem knownDist_eq (w wd d : Nat) : RbV.Gen.SrcMyersState.knownDist w wd d = Res.ok (some d) := by
  simp [RbV.Gen.SrcMyersState.knownDist]

/-- the `peq` table the constructor stores: entry `a` = the model's `peq` word of symbol `a` -/
def peqTab (w : Nat) (eqv : Nat → Nat → Bool) (p : List Nat) : List Nat := tab 256 (fun a => (peq w eqv p a).toNat)

end RbV.Thm.GenSrcMyersSimple

/-! The theorems about `Matches::new` / `Matches::next` (unit `SrcMyersMatches`) live in a namespace of their own, so that the
orchestrator's "stale theorem" detection (it looks for the unit name in a theorem's text) attributes them to that unit. -/
namespace RbV.Thm.GenSrcMyersMatches
open RbV RbV.Rs RbV.Model.MyersSimple RbV.Thm.GenSrc RbV.Thm.GenSrcMyersSimple

/-- **`Matches::new` as written**: the iterator starts in `State::init(m)`, all of the text unread, counter 0 -/
theorem new_eq_model (w wd : Nat) (peqT : List Nat) (bound m : Nat) (t : List Nat) (k : Nat) :
    RbV.Gen.SrcMyersMatches.new (w := w) (wd := wd) (peq := peqT) (bound := bound) (m := m) (text := t) (max_dist := k) =
      Res.ok (rep (init w m), (t, 0), k) := by
  simp [RbV.Gen.SrcMyersMatches.new, initialState_eq_model]

/-! ### `Matches::next`, driven until `None` -/

/-- the sizes the translated single-word matcher assumes: a word of `w ≥ 2` bits holds the pattern, `DistType` (`wd` bits)
and `usize` hold its length -/
structure Sizes (w wd : Nat) (p : List Nat) : Prop where
  hw1 : 1 < w
  hm1 : 1 ≤ p.length
  hw : p.length ≤ w
  hwd : p.length < 2 ^ wd
  h64p : p.length + 1 < 2 ^ 64

section
variable (w wd : Nat) (eqv : Nat → Nat → Bool) (p : List Nat) (k : Nat)

/-- the model state is the one after some text prefix (`Lemmas/MyersStep.lean`): `pv`/`mv` encode the Sellers column -/
def InvS (s : St w) : Prop := ∃ u, RbV.Model.MyersSimple.Inv eqv p u s

/-- the translated loop helper with its result regrouped as (matcher state, text iterator, outcome) -/
def iterS (rest : List Nat) (i : Nat) (r : Nat × Nat × Nat) :
    Res ((Nat × Nat × Nat) × (List Nat × Nat) × Option (Option (Nat × Nat))) := do
  let (pv, mv, dist, text, o) ← RbV.Gen.SrcMyersMatches.next_iter1 (w := w) (wd := wd) (peq := peqTab w eqv p)
    (bound := 2 ^ (p.length - 1)) (max_dist := k) rest i r
  pure ((pv, mv, dist), text, o)

/-- the translated `next`, regrouped likewise -/
def nextR (r : Nat × Nat × Nat) (tx : List Nat × Nat) : Res ((Nat × Nat × Nat) × (List Nat × Nat) × Option (Nat × Nat)) := do
  let (pv, mv, dist, text, o) ← RbV.Gen.SrcMyersMatches.next (w := w) (wd := wd) (peq := peqTab w eqv p)
    (bound := 2 ^ (p.length - 1)) (pv := r.1) (mv := r.2.1) (dist := r.2.2) (text := tx) (max_dist := k)
  pure ((pv, mv, dist), text, o)

theorem iterS_nil (i : Nat) (r : Nat × Nat × Nat) : iterS w wd eqv p k [] i r = Res.ok (r, ([], i), none) := by
  obtain ⟨pv, mv, dist⟩ := r
  simp [iterS, RbV.Gen.SrcMyersMatches.next_iter1]

theorem nextR_of_iterS (r : Nat × Nat × Nat) (tx : List Nat × Nat) (r' : Nat × Nat × Nat) (tx' : List Nat × Nat)
    (o : Option (Option (Nat × Nat))) (h : iterS w wd eqv p k tx.1 tx.2 r = Res.ok (r', tx', o)) :
    nextR w wd eqv p k r tx = Res.ok (r', tx', o.join) := by
  obtain ⟨pv, mv, dist⟩ := r
  unfold iterS at h
  unfold nextR RbV.Gen.SrcMyersMatches.next
  cases hit : RbV.Gen.SrcMyersMatches.next_iter1 (w := w) (wd := wd) (peq := peqTab w eqv p)
      (bound := 2 ^ (p.length - 1)) (max_dist := k) tx.1 tx.2 (pv, mv, dist) with
  | panic => rw [hit] at h; simp at h
  | fuel => rw [hit] at h; simp at h
  | ok v =>
    obtain ⟨pv', mv', dist', text', o'⟩ := v
    rw [hit] at h
    simp only [Res.ok_bind, Res.pure_eq_ok, Res.ok.injEq, Prod.mk.injEq] at h
    obtain ⟨⟨rfl, rfl, rfl⟩, rfl, rfl⟩ := h
    cases o' with
    | none => simp [hit]
    | some v => cases v <;> simp [hit]

/-- the side conditions of `step__eq_model` hold on every state the search reaches -/
theorem side_conditions (hm1 : 1 ≤ p.length) (hw : p.length ≤ w) (s : St w) (c : Nat) (inv : InvS w eqv p s) :
    ((s.pv &&& xhOf (peq w eqv p c) s.pv).getLsbD (p.length - 1)).toNat ≤
      s.dist + ((s.mv ||| ~~~(xhOf (peq w eqv p c) s.pv ||| s.pv)).getLsbD (p.length - 1)).toNat ∧
    s.dist ≤ p.length ∧ (step p.length (peq w eqv p c) s).dist ≤ p.length := by
  obtain ⟨u, inv⟩ := inv
  have inv' := inv_step eqv p u c s hm1 hw inv
  have hd := inv.dist
  have hd' := inv'.dist
  have hle := RbV.Model.Ukkonen.cell_le (RbV.EditDist.unitW eqv) p u p.length
  have hle' := RbV.Model.Ukkonen.cell_le (RbV.EditDist.unitW eqv) p (u ++ [c]) p.length
  refine ⟨?_, by omega, by omega⟩
  have hcell := nextC_cell eqv p u c (peq w eqv p c).getLsbD (fun i hi => peq_bit w eqv p c i hi hw)
  obtain ⟨c1, c2, c3, c4⟩ := RbV.Model.MyersLong.horizB p.length hw _ (peq w eqv p c) s.pv s.mv 0 0 (by omega)
    (by rw [inv.enc.zero]; rfl) inv.enc.toB (p.length - 1) (by omega)
  have em : p.length - 1 + 1 = p.length := by omega
  rw [← nextC_eq_nextCB, em, hcell p.length (Nat.le_refl _)] at c1 c2 c3 c4
  rw [BitVec.getLsbD_and]
  exact RbV.Model.MyersLong.row_nowrap (b := (RbV.Model.Ukkonen.cell (RbV.EditDist.unitW eqv) p u p.length : Int))
    (by rw [hd]) (Int.natCast_nonneg _) c3 _

/-- **one round of the translated `for (i, a) in self.text.by_ref()`** = one `step` of the mirror model + the test `dist <= max_dist` -/
theorem iterS_cons (F : Sizes w wd p) (i : Nat) (s : St w) (c : Nat) (rest : List Nat) (inv : InvS w eqv p s) (hc : c < 256) :
    iterS w wd eqv p k (c :: rest) i (rep s) =
      GenSrcScanD.branch (stepO w eqv p k s c).2
        (fun d => Res.ok (rep (stepO w eqv p k s c).1, (rest, i + 1), some (some (i, d))))
        (iterS w wd eqv p k rest (i + 1) (rep (stepO w eqv p k s c).1)) := by
  obtain ⟨hlo, hd, hd'⟩ := side_conditions w eqv p F.hm1 F.hw s c inv
  have hpeq : Rs.idx (peqTab w eqv p) c = Res.ok (peq w eqv p c).toNat := idx_tab 256 _ c hc
  have hstep := step_eq_model w wd p.length F.hw1 (peqTab w eqv p) c (peq w eqv p c) s k hpeq hlo
    (by have := F.h64p; omega) (by have := F.hwd; omega)
  unfold iterS
  rw [RbV.Gen.SrcMyersMatches.next_iter1]
  simp only [rep] at hstep ⊢
  by_cases hk : (step p.length (peq w eqv p c) s).dist ≤ k
  · simp [hstep, knownDist_eq, stepO, hk, rep]
  · simp [hstep, knownDist_eq, stepO, hk, rep]

theorem stepO_inv (hm1 : 1 ≤ p.length) (hw : p.length ≤ w) (s : St w) (c : Nat) (inv : InvS w eqv p s) :
    InvS w eqv p (stepO w eqv p k s c).1 := by
  obtain ⟨u, inv⟩ := inv
  exact ⟨u ++ [c], (stepO_spec eqv p k hm1 hw u s c inv).1⟩

/-- **`myers::Matches::next` as written, called until `None`**, from any state the search can reach = the model's `run` -/
theorem drain_eq (F : Sizes w wd p) (fuel : Nat) (rest : List Nat) (i : Nat) (s : St w) (inv : InvS w eqv p s)
    (hb : ∀ c ∈ rest, c < 256) (h64 : i + rest.length < 2 ^ 64) (hf : rest.length < fuel) :
    Rs.drain (GenSrcScanD.nextS (nextR w wd eqv p k)) fuel (rep s, (rest, i)) = Res.ok (run eqv p k s i rest) := by
  rw [← runO_eq_run]
  exact GenSrcScanD.drain_eq_run (stepO w eqv p k) (InvS w eqv p) (fun c => c < 256) (fun _ s => rep s)
    (iterS w wd eqv p k) (nextR w wd eqv p k) (iterS_nil w wd eqv p k)
    (fun i s c rest inv hc _ => iterS_cons w wd eqv p k F i s c rest inv hc)
    (nextR_of_iterS w wd eqv p k) (fun s c inv _ => stepO_inv w eqv p k F.hm1 F.hw s c inv) fuel rest i s inv hb h64 hf

/-- **one call of `myers::Matches::next` as written** on a state the search can reach (`GenSrcScanD.StepSpec`) -/
theorem next_eq_model (F : Sizes w wd p) (rest : List Nat) (i : Nat) (s : St w) (inv : InvS w eqv p s)
    (hb : ∀ c ∈ rest, c < 256) (h64 : i + rest.length < 2 ^ 64) :
    ∃ r' tx' o, nextR w wd eqv p k (rep s) (rest, i) = Res.ok (r', tx', o) ∧
      GenSrcScanD.StepSpec (stepO w eqv p k) (InvS w eqv p) (fun _ s => rep s) rest i s r' tx' (o.map some) := by
  exact GenSrcScanD.next_spec (stepO w eqv p k) (InvS w eqv p) (fun c => c < 256) (fun _ s => rep s)
    (iterS w wd eqv p k) (nextR w wd eqv p k) (iterS_nil w wd eqv p k)
    (fun i s c rest inv hc _ => iterS_cons w wd eqv p k F i s c rest inv hc)
    (nextR_of_iterS w wd eqv p k) (fun s c inv _ => stepO_inv w eqv p k F.hm1 F.hw s c inv) rest i s inv hb h64

end

/-- the translated functions put together as a caller does: `myers.find_all_end(t, k).collect()` (`find_all_end` is the
one-line call `Matches::new(self, text.into_iter(), max_dist)`), for the matcher whose constructor stored `peqT`, `bound`, `m` -/
def findAllSrc (w wd : Nat) (peqT : List Nat) (bound m : Nat) (t : List Nat) (k : Nat) : Res (List (Nat × Nat)) := do
  let (state, text, maxd) ← RbV.Gen.SrcMyersMatches.new (w := w) (wd := wd) (peq := peqT) (bound := bound) (m := m) (text := t)
    (max_dist := k)
  Rs.drain (fun (st : (Nat × Nat × Nat) × (List Nat × Nat)) => do
    let (pv, mv, dist, text', o) ← RbV.Gen.SrcMyersMatches.next (w := w) (wd := wd) (peq := peqT) (bound := bound)
      (pv := st.1.1) (mv := st.1.2.1) (dist := st.1.2.2) (text := st.2) (max_dist := maxd)
    pure (((pv, mv, dist), text'), o)) (t.length + 1) (state, text)

/-- **single-word Myers end to end, on the translated source text**: `Matches::new` and `next` (until `None`) never panic
and return the mirror model's list, for every word width `w ≥ 2`, `DistType` width `wd` with `|p| < 2^wd`, pattern of
`1..w` symbols, equivalence, byte text and `k`. -/
theorem findAllSrc_eq_model (w wd : Nat) (eqv : Nat → Nat → Bool) (p t : List Nat) (k : Nat) (F : Sizes w wd p)
    (hb : ∀ c ∈ t, c < 256) (h64 : t.length < 2 ^ 64) :
    findAllSrc w wd (peqTab w eqv p) (2 ^ (p.length - 1)) p.length t k = Res.ok (findAllEnd w eqv p t k) := by
  have := drain_eq w wd eqv p k F (t.length + 1) t 0 (init w p.length)
    ⟨[], inv_init w eqv p F.hw⟩ hb (by omega) (by omega)
  have hfun : (fun (st : (Nat × Nat × Nat) × (List Nat × Nat)) => do
      let (pv, mv, dist, text', o) ← RbV.Gen.SrcMyersMatches.next (w := w) (wd := wd) (peq := peqTab w eqv p)
        (bound := 2 ^ (p.length - 1)) (pv := st.1.1) (mv := st.1.2.1) (dist := st.1.2.2) (text := st.2) (max_dist := k)
      pure (((pv, mv, dist), text'), o)) = GenSrcScanD.nextS (nextR w wd eqv p k) := by
    funext st
    simp only [GenSrcScanD.nextS, nextR]
    cases RbV.Gen.SrcMyersMatches.next (w := w) (wd := wd) (peq := peqTab w eqv p)
      (bound := 2 ^ (p.length - 1)) (pv := st.1.1) (mv := st.1.2.1) (dist := st.1.2.2) (text := st.2) (max_dist := k) <;> rfl
  simp only [findAllSrc, new_eq_model, Res.ok_bind]
  rw [hfun]
  exact this

end RbV.Thm.GenSrcMyersMatches
