import RbV.Thm.GenSrcMyersLong
import RbV.Lemmas.MyersLongAll
/-!
# The translated text of `long.rs: States::add_state`, `States::step` equals the mirror model `MyersLong.stepStates`

`RbV/Gen/SrcMyersLong.lean` (regenerated on every `./check C09`).  The active blocks `states: Vec<State<T, usize>>` are a list
of triples `(pv, mv, dist)`, the per-block pattern data `peq: &[Peq<T>]` a list of pairs `(peq table, bound)`.

* `for1_fold`: the carry chain `for (state, block_peq) in self.states.iter_mut().zip(peq) { carry = advance_block(..) }` =
  `MyersLong.advanceAll` (through `advanceBlock_eq_model`);
* `while1_eq` / `take_cutIdx`: the deactivation loop + `truncate` = `cutRev` on the reversed list;
* `addState_eq_model`: `add_state(-carry)` appends `State::init(prev_dist + delta − carry)`;
* `step_eq_model`: the whole function, including the lazy activation test
  `(last_dist as isize - carry as isize) as usize <= max_dist && last_block < max_block && (peq[..] & 1 == 1 || carry < 0)`.
-/
set_option linter.unusedSimpArgs false

namespace RbV.Thm.GenSrcMyersLongStep
open RbV RbV.Rs RbV.Model.MyersSimple RbV.Model.MyersLong RbV.Thm.GenSrcMyersSimple RbV.Thm.GenSrc RbV.Thm.GenSrcMyersLong

/-- the active blocks as the translated code holds them -/
def repS {w : Nat} (sts : List (St w)) : List (Nat × Nat × Nat) := sts.map rep

/-- the per-block pattern data the constructor stores: the `peq` table of the block's symbols and `bound = 1 << (len-1)` -/
def peqL (w : Nat) (eqv : Nat → Nat → Bool) (blks : List (List Nat)) : List (List Nat × Nat) :=
  blks.map (fun blk => (peqTab w eqv blk, 2 ^ (blk.length - 1)))

/-- the side condition of `advanceBlock_eq_model` for block `s` with pattern symbols `blk` -/
def BlockOk {w : Nat} (eqv : Nat → Nat → Bool) (a : Nat) (blk : List Nat) (s : St w) (hin : Int) : Prop :=
  ((s.pv &&& xhOf (if hin < 0 then peq w eqv blk a ||| 1#w else peq w eqv blk a) s.pv).getLsbD (blk.length - 1)).toNat ≤
    s.dist + ((s.mv ||| ~~~(xhOf (if hin < 0 then peq w eqv blk a ||| 1#w else peq w eqv blk a) s.pv ||| s.pv)).getLsbD
      (blk.length - 1)).toNat ∧ s.dist + 1 < 2 ^ 63

/-- … along the carry chain -/
def ChainOk {w : Nat} (eqv : Nat → Nat → Bool) (a : Nat) : List (List Nat) → List (St w) → Int → Prop
  | blk :: blks, s :: ss, hin =>
    BlockOk eqv a blk s hin ∧ ChainOk eqv a blks ss (advanceBlock (blk.length - 1) (peq w eqv blk a) hin s).2
  | _, _, _ => True

/-- **the carry chain over the active blocks** = `advanceAll` -/
theorem for1_fold (w : Nat) (eqv : Nat → Nat → Bool) (a : Nat) (hw : 1 < w) (ha : a < 256) :
    ∀ (blks : List (List Nat)) (sts : List (St w)) (hin : Int) (acc : List (Nat × Nat × Nat)),
      (-1 ≤ hin ∧ hin ≤ 1) → ChainOk eqv a blks sts hin →
      (List.zip (repS sts) (peqL w eqv blks)).foldlM (RbV.Gen.SrcMyersLong.step_for1 (w := w) (a := a)) (Rs.ofInt 8 hin, acc) =
        Res.ok (Rs.ofInt 8 (advanceAll eqv a blks sts hin).2, acc ++ repS (advanceAll eqv a blks sts hin).1) := by
  intro blks
  induction blks with
  | nil => intro sts hin acc _ _; cases sts <;> simp [repS, peqL, advanceAll]
  | cons blk blks ih =>
    intro sts hin acc hh hok
    cases sts with
    | nil => simp [repS, peqL, advanceAll]
    | cons s ss =>
      obtain ⟨⟨hlo, hhi⟩, hrest⟩ := hok
      have hpeq : Rs.idx (peqTab w eqv blk) a = Res.ok (peq w eqv blk a).toNat := idx_tab 256 _ a ha
      have hstep := advanceBlock_eq_model w (blk.length - 1) hw (peqTab w eqv blk) a (peq w eqv blk a) s hin hh hpeq hlo (by omega)
      have hr := hout_range (blk.length - 1) (peq w eqv blk a) hin s
      have ih' := ih ss (advanceBlock (blk.length - 1) (peq w eqv blk a) hin s).2
        (acc ++ [rep (advanceBlock (blk.length - 1) (peq w eqv blk a) hin s).1]) hr hrest
      simp only [repS, peqL, List.map_cons, List.zip_cons_cons, List.foldlM_cons, RbV.Gen.SrcMyersLong.step_for1, rep] at ih' ⊢
      simp only [hstep, Res.ok_bind, Res.pure_eq_ok]
      rw [ih']
      simp [advanceAll, rep, repS]

/-! ### the deactivation loop -/

/-- `while last_block > 0 && states[last_block].dist >= max_dist + w { last_block -= 1 }` as a function of the start index -/
def cutIdx {w : Nat} (L : List (St w)) (k ww : Nat) : Nat → Nat
  | 0 => 0
  | lb + 1 =>
    match L[lb + 1]? with
    | some s => if s.dist ≥ k + ww then cutIdx L k ww lb else lb + 1
    | none => lb + 1

theorem idx_repS {w : Nat} (L : List (St w)) (i : Nat) (s : St w) (h : L[i]? = some s) : Rs.idx (repS L) i = Res.ok (rep s) := by
  apply Rs.idx_of_getElem?
  simp [repS, h]

theorem while1_eq (w : Nat) (L : List (St w)) (k ww : Nat) (hd : ∀ s ∈ L, s.dist + 1 < 2 ^ 63) :
    ∀ lb fuel, lb < fuel → lb < L.length →
      RbV.Gen.SrcMyersLong.step_while1 (w := w) (states := repS L) (max_dist := k) (w' := ww) fuel lb =
        Res.ok (cutIdx L k ww lb) := by
  intro lb
  induction lb with
  | zero =>
    intro fuel hf hl
    cases fuel with
    | zero => omega
    | succ fuel => rw [RbV.Gen.SrcMyersLong.step_while1]; simp [cutIdx]
  | succ lb ih =>
    intro fuel hf hl
    cases fuel with
    | zero => omega
    | succ fuel =>
      have hget : L[lb + 1]? = some L[lb + 1] := List.getElem?_eq_getElem hl
      have e1 := idx_repS L (lb + 1) _ hget
      have e2 : Rs.sub (lb + 1) 1 = Res.ok lb := by rw [Rs.sub_ok (by omega)]; rfl
      have hdl := hd L[lb + 1] (List.getElem_mem hl)
      have hsat : (L[lb + 1].dist ≥ Rs.saturatingAdd 64 k ww) = (L[lb + 1].dist ≥ k + ww) := by
        simp only [Rs.saturatingAdd, ge_iff_le, eq_iff_iff]; omega
      rw [RbV.Gen.SrcMyersLong.step_while1]
      by_cases hge : L[lb + 1].dist ≥ k + ww
      · have hge' : k + ww ≤ L[lb + 1].dist := hge
        simp [e1, e2, rep, hsat, hge, hge', cutIdx, hget, ih fuel (by omega) (by omega)]
      · have hge' : ¬ k + ww ≤ L[lb + 1].dist := hge
        have hlt : L[lb + 1].dist < k + ww := by omega
        simp [e1, e2, rep, hsat, hge, hge', hlt, cutIdx, hget]

/-- … followed by `truncate(last_block + 1)` = `cutRev` on the reversed list -/
theorem take_cutIdx {w : Nat} (L : List (St w)) (k ww : Nat) : ∀ lb, lb < L.length →
    L.take (cutIdx L k ww lb + 1) = (cutRev k ww (L.take (lb + 1)).reverse).reverse := by
  intro lb
  induction lb with
  | zero =>
    intro hl
    cases L with
    | nil => simp at hl
    | cons s L => simp [cutIdx, cutRev]
  | succ lb ih =>
    intro hl
    have hget : L[lb + 1]? = some L[lb + 1] := List.getElem?_eq_getElem hl
    have htake : L.take (lb + 1 + 1) = L.take (lb + 1) ++ [L[lb + 1]] := by
      rw [List.take_add_one, hget]; rfl
    have hne : (L.take (lb + 1)).reverse ≠ [] := by
      intro h
      have hlen : ((L.take (lb + 1)).reverse).length = lb + 1 := by
        rw [List.length_reverse, List.length_take]; omega
      rw [h] at hlen
      simp at hlen
    cases hr : (L.take (lb + 1)).reverse with
    | nil => exact absurd hr hne
    | cons s2 ss =>
      rw [htake, List.reverse_append, List.reverse_singleton, List.singleton_append, hr]
      simp only [cutIdx, hget, cutRev]
      by_cases hge : L[lb + 1].dist ≥ k + ww
      · simp only [hge, if_true]
        rw [← hr]
        exact ih (by omega)
      · simp only [hge, if_false]
        rw [← hr, List.reverse_cons, List.reverse_reverse, htake]

theorem cutIdx_le {w : Nat} (L : List (St w)) (k ww : Nat) : ∀ lb, cutIdx L k ww lb ≤ lb := by
  intro lb
  induction lb with
  | zero => simp [cutIdx]
  | succ lb ih =>
    simp only [cutIdx]
    split
    · split <;> omega
    · omega

/-! ### `add_state` -/

theorem init_eq_rep (w wd d : Nat) : RbV.Gen.SrcMyersState.init w wd d = Res.ok (rep (⟨BitVec.allOnes w, 0#w, d⟩ : St w)) :=
  init_eq_model w wd d

/-- the distance of the last active block (0 for none) -/
def lastDist {w : Nat} (L : List (St w)) : Nat := (L.getLast?.map (·.dist)).getD 0

/-- `States::add_state(offset)` as written, for callers that know the number `delta` of rows of the new block and its
distance `d = prev_dist + delta + offset` -/
theorem addState_eq (w : Nat) (L : List (St w)) (mb lm : Nat) (o : Int) (ho : -1 ≤ o ∧ o ≤ 1) (delta d : Nat)
    (hdel : (if L.length = mb ∧ lm > 0 then lm else w) = delta) (hd : (lastDist L : Int) + delta + o = d)
    (hlt : lastDist L + delta + 1 < 2 ^ 64) :
    RbV.Gen.SrcMyersLong.addState (w := w) (states := repS L) (max_block := mb) (last_m := lm) (offset := Rs.ofInt 8 o) =
      Res.ok (repS (L ++ [⟨BitVec.allOnes w, 0#w, d⟩])) := by
  have hprev : (((repS L).getLast?).map (fun s => s.2.2)).getD 0 = lastDist L := by
    simp [repS, lastDist, List.getLast?_map, rep, Option.map_map, Function.comp_def]
  have hdelta : (if ((repS L).length == mb) && decide (lm > 0) then lm else w) = delta := by
    rw [← hdel]; simp [repS]
  have hdelta' : (if decide (lm > 0) && ((repS L).length == mb) then lm else w) = delta := by
    rw [Bool.and_comm]; exact hdelta
  have hwa : Rs.wrappingAdd 64 (Rs.wrappingAdd 64 (lastDist L) delta) (Rs.sext 8 64 (Rs.ofInt 8 o)) = d := by
    rw [show Rs.wrappingAdd 64 (lastDist L) delta = lastDist L + delta from Nat.mod_eq_of_lt (by omega),
      wadd_sext8 _ o ho (by omega) (by omega)]
    omega
  simp only [RbV.Gen.SrcMyersLong.addState, hprev, hdelta, hdelta', hwa, Rs.cvt_ok (show d < 2 ^ 64 by omega), init_eq_rep,
    Res.ok_bind, Res.pure_eq_ok]
  simp [repS]

/-- **`States::add_state(offset)` as written**: appends `State::init(prev_dist + delta + offset)`, `delta` = the rows of the new
block (`last_m` for a partial last block, else `w`) -/
theorem addState_eq_model (w : Nat) (L : List (St w)) (mb lm : Nat) (o : Int) (ho : -1 ≤ o ∧ o ≤ 1)
    (hnn : 0 ≤ (lastDist L : Int) + (if L.length = mb ∧ lm > 0 then lm else w : Nat) + o)
    (hlt : lastDist L + (if L.length = mb ∧ lm > 0 then lm else w) + 1 < 2 ^ 64) :
    RbV.Gen.SrcMyersLong.addState (w := w) (states := repS L) (max_block := mb) (last_m := lm) (offset := Rs.ofInt 8 o) =
      Res.ok (repS (L ++ [⟨BitVec.allOnes w, 0#w,
        ((lastDist L : Int) + (if L.length = mb ∧ lm > 0 then lm else w : Nat) + o).toNat⟩])) :=
  addState_eq w L mb lm o ho _ _ rfl (by omega) hlt

/-! ### `States::step` -/

/-- the fresh block `add_state(-carry)` appends -/
def freshBlock (w : Nat) {w' : Nat} (R1 : List (St w')) (len : Nat) (c : Int) : St w :=
  ⟨BitVec.allOnes w, 0#w, ((lastDist R1 : Int) + (len : Int) - c).toNat⟩

/-- **`States::step` as written = the model's `stepStates`** (carry chain, lazy activation of the next block, deactivation of
trailing blocks), for every word width.  Side conditions — all of them hold on every state a search reaches (they are
consequences of the `Band` invariant behind `myers_long_eq`): no `dist` update wraps (`ChainOk`, `hfresh`), distances stay
below `2^63` so that the `isize` round trip of the activation test is exact (`hd`), the previous column's value
`last_dist − carry` is not negative (`hnn`), the blocks have the lengths `States::new` assumes (`hblk`). -/
theorem step_eq_model (w : Nat) (eqv : Nat → Nat → Bool) (blks : List (List Nat)) (k a lm : Nat) (sts : List (St w))
    (hw : 1 < w) (hwlt : w < 2 ^ 62) (hlm : lm ≤ w) (ha : a < 256) (hne : sts ≠ []) (hlen : sts.length ≤ blks.length)
    (hbl : blks.length < 2 ^ 63)
    (hblk : ∀ i blk, blks[i]? = some blk → blk.length = (if i = blks.length - 1 ∧ lm > 0 then lm else w))
    (hchain : ChainOk eqv a blks sts 0)
    (hd : ∀ s ∈ (advanceAll eqv a blks sts 0).1, s.dist + 1 < 2 ^ 63)
    (hnn : 0 ≤ (lastDist (advanceAll eqv a blks sts 0).1 : Int) - (advanceAll eqv a blks sts 0).2)
    (hfresh : ∀ blk, blks[sts.length]? = some blk →
      BlockOk eqv a blk (freshBlock w (advanceAll eqv a blks sts 0).1 blk.length (advanceAll eqv a blks sts 0).2)
        (advanceAll eqv a blks sts 0).2) :
    RbV.Gen.SrcMyersLong.step (w := w) (states := repS sts) (max_block := blks.length - 1) (last_m := lm) (a := a)
        (peq := peqL w eqv blks) (max_dist := k) =
      Res.ok (repS (stepStates eqv blks k a sts)) := by
  have hslen : 0 < sts.length := by cases sts <;> simp_all
  have hfold := for1_fold w eqv a hw ha blks sts 0 [] (by omega) hchain
  have hrange := advanceAll_range eqv a blks sts 0 (by omega)
  have hRlen := advanceAll_length eqv a blks sts 0 hlen
  rcases hR : advanceAll eqv a blks sts 0 with ⟨R1, c⟩
  rw [hR] at hfold hrange hRlen hd hnn hfresh
  simp only at hfold hrange hRlen hd hnn hfresh
  rw [ofInt8_zero] at hfold
  have e1 : Rs.sub (repS sts).length 1 = Res.ok (sts.length - 1) := by
    rw [Rs.sub_ok (by simp [repS]; omega)]; simp [repS]
  have hdrop : (repS sts).drop (peqL w eqv blks).length = [] := by
    apply List.drop_eq_nil_of_le; simp [repS, peqL]; exact hlen
  -- the last active block
  have hR1ne : R1 ≠ [] := by intro h; rw [h] at hRlen; simp at hRlen; omega
  obtain ⟨last, hlast⟩ : ∃ last, R1.getLast? = some last := by
    cases hl : R1.getLast? with
    | none => exact absurd (List.getLast?_eq_none_iff.mp hl) hR1ne
    | some x => exact ⟨x, rfl⟩
  have hlastIdx : R1[sts.length - 1]? = some last := by rw [← hRlen, ← List.getLast?_eq_getElem?]; exact hlast
  have hld : lastDist R1 = last.dist := by simp [lastDist, hlast]
  have hlastmem : last ∈ R1 := List.mem_of_getElem? hlastIdx
  have hdl := hd last hlastmem
  have e3 : Rs.idx (repS R1) (sts.length - 1) = Res.ok (rep last) := idx_repS R1 _ last hlastIdx
  rw [hld] at hnn
  -- the activation test `(last_dist as isize - carry as isize) as usize`
  have e4 : Rs.subI 64 last.dist (Rs.sext 8 64 (Rs.ofInt 8 c)) = Res.ok ((last.dist : Int) - c).toNat :=
    subI64_sext8 last.dist c hrange hdl hnn
  have hle : (((last.dist : Int) - c).toNat ≤ k) = ((last.dist : Int) - c ≤ (k : Int)) := by
    simp only [eq_iff_iff]; omega
  have hcneg := toInt8_ofInt8_neg c hrange
  have hlb : (sts.length - 1 < blks.length - 1) = (sts.length < blks.length) := by
    simp only [eq_iff_iff]; omega
  -- the deactivation branch
  have ew := while1_eq w R1 k w hd (sts.length - 1) (sts.length - 1 + 1) (by omega) (by omega)
  have hcle := cutIdx_le R1 k w (sts.length - 1)
  have eadd : Rs.add 64 (cutIdx R1 k w (sts.length - 1)) 1 = Res.ok (cutIdx R1 k w (sts.length - 1) + 1) := Rs.add_ok (by omega)
  have etake : (repS R1).take (cutIdx R1 k w (sts.length - 1) + 1) = repS ((cutRev k w R1.reverse).reverse) := by
    have := take_cutIdx R1 k w (sts.length - 1) (by omega)
    have hfull : R1.take (sts.length - 1 + 1) = R1 := by
      rw [show sts.length - 1 + 1 = R1.length by omega]; exact List.take_length
    rw [hfull] at this
    rw [← this]
    simp [repS, List.map_take]
  -- the model side in normal form; then only the translated text is left to run
  have hmodel := stepStates_eq eqv blks k a sts R1 c hne hR last.dist (by rw [hlast]; rfl)
  unfold RbV.Gen.SrcMyersLong.step
  simp only [e1, hfold, hdrop, Res.ok_bind, Res.pure_eq_ok, List.nil_append, List.append_nil, e3, rep, e4, hle, hcneg, hlb]
  by_cases hin : sts.length < blks.length
  · -- there is a next block
    obtain ⟨blk, hblkget⟩ : ∃ blk, blks[sts.length]? = some blk := ⟨blks[sts.length], List.getElem?_eq_getElem hin⟩
    have hsl : sts.length - 1 + 1 = sts.length := by omega
    have e5 : Rs.add 64 (sts.length - 1) 1 = Res.ok sts.length := by rw [Rs.add_ok (by omega), hsl]
    have e6 : Rs.idx (peqL w eqv blks) sts.length = Res.ok (peqTab w eqv blk, 2 ^ (blk.length - 1)) := by
      apply Rs.idx_of_getElem?; simp [peqL, hblkget]
    have e7 : Rs.idx (peqTab w eqv blk) a = Res.ok (peq w eqv blk a).toNat := idx_tab 256 _ a ha
    have hlen' := hblk sts.length blk hblkget
    rw [hblkget] at hmodel
    simp only [] at hmodel
    by_cases hact : ((last.dist : Int) - c ≤ (k : Int)) ∧ ((peq w eqv blk a).getLsbD 0 = true ∨ c < 0)
    · -- activation
      rw [if_pos ⟨hnn, hact.1, hact.2⟩] at hmodel
      rw [hmodel]
      have hfr := hfresh blk hblkget
      have e8 := neg8_ofInt8 c hrange
      have e9 : RbV.Gen.SrcMyersLong.addState (w := w) (states := repS R1) (max_block := blks.length - 1) (last_m := lm)
          (offset := Rs.ofInt 8 (-c)) = Res.ok (repS (R1 ++ [freshBlock w R1 blk.length c])) :=
        addState_eq w R1 (blks.length - 1) lm (-c) (by omega) blk.length _ (by rw [hRlen, hlen'])
          (by rw [hld]; have := hrange; omega) (by rw [hld]; split at hlen' <;> omega)
      have e10 : Rs.idx (repS (R1 ++ [freshBlock w R1 blk.length c])) sts.length = Res.ok (rep (freshBlock w R1 blk.length c)) := by
        apply idx_repS; rw [← hRlen]; simp
      have e11 := advanceBlock_eq_model w (blk.length - 1) hw (peqTab w eqv blk) a (peq w eqv blk a)
        (freshBlock w R1 blk.length c) c hrange e7 hfr.1 (by have := hfr.2; omega)
      have e12 : ∀ v : St w, Rs.setIdx (repS (R1 ++ [freshBlock w R1 blk.length c])) sts.length (rep v) =
          Res.ok (repS (R1 ++ [v])) := by
        intro v
        rw [Rs.setIdx_ok (by simp [repS]; omega)]
        simp [repS, ← hRlen]
      have hc1 : (last.dist : Int) - c ≤ (k : Int) := hact.1
      have hbitN := test_bit0 (peq w eqv blk a)
      have hor : ((peq w eqv blk a).getLsbD 0 || decide (c < 0)) = true := by
        rcases hact.2 with h | h <;> simp [h]
      simp only [rep] at e11 e12
      have hfb : (⟨BitVec.allOnes w, 0#w, ((last.dist : Int) + (blk.length : Int) - c).toNat⟩ : St w) =
          freshBlock w R1 blk.length c := by
        simp only [freshBlock, hld]
      have hset := e12 (advanceBlock (blk.length - 1) (peq w eqv blk a) c (freshBlock w R1 blk.length c)).1
      -- the two disjuncts of the test may be evaluated in either order (`||` short-circuits): decide both
      cases hb : (peq w eqv blk a).getLsbD 0 <;> by_cases hc0 : c < 0 <;>
        simp only [hb, hc0, decide_true, decide_false, Bool.or_false, Bool.false_or, Bool.or_true, Bool.true_or,
          Bool.false_eq_true] at hor
      all_goals
        simp only [hin, hc1, hbitN, hb, hc0, decide_true, decide_false, Bool.true_and, Bool.and_true, Bool.or_false,
          Bool.false_or, Bool.or_true, Bool.true_or, e5, e6, e7, Res.ok_bind, Res.pure_eq_ok, if_true, if_false,
          Bool.false_eq_true, e8, e9, e10, rep]
        rw [e11]
        simp only [Res.ok_bind, hset, hfb]
    · -- the next block stays switched off
      rw [if_neg (fun h => hact h.2)] at hmodel
      rw [hmodel]
      by_cases hc1 : (last.dist : Int) - c ≤ (k : Int)
      · have hbit : (peq w eqv blk a).getLsbD 0 = false := by
          cases hb : (peq w eqv blk a).getLsbD 0 with
          | false => rfl
          | true => exact absurd ⟨hc1, Or.inl hb⟩ hact
        have hcn : ¬ c < 0 := fun h => hact ⟨hc1, Or.inr h⟩
        have hc2 : ((peq w eqv blk a).toNat &&& 1 == 1) = false := by rw [test_bit0]; exact hbit
        simp only [hin, hc1, decide_true, Bool.true_and, Bool.and_true, e5, e6, e7, Res.ok_bind, Res.pure_eq_ok, hc2, hbit, hcn,
          decide_false, Bool.or_false, Bool.false_or, Bool.false_eq_true, if_false, ew, eadd, etake, Bool.and_false]
        try (split <;> rfl)
      · simp only [hin, hc1, decide_true, decide_false, Bool.true_and, Bool.and_true, Bool.false_and, Bool.and_false,
          Res.ok_bind, Res.pure_eq_ok, Bool.false_eq_true, if_false, if_true, ite_self, ew, eadd, etake]
        try (split <;> rfl)
  · -- all blocks are active
    rw [hmodel, List.getElem?_eq_none_iff.mpr (by omega)]
    simp only [hin, decide_true, decide_false, Bool.true_and, Bool.and_true, Bool.false_and, Bool.and_false,
      Res.ok_bind, Res.pure_eq_ok, Bool.false_eq_true, if_false, if_true, ite_self, ew, eadd, etake]
    try (split <;> rfl)

end RbV.Thm.GenSrcMyersLongStep
