import RbV.Gen.SrcQGramIndex
import RbV.Model.QGramIndex
import RbV.Lemmas.QGramIndex
import RbV.Thm.GenSrcBasic
import RbV.Thm.GenSrcOk
/-!
# The translated text of `QGramIndex::with_max_count` equals the counting-sort model `buildIndex`, and `qgram_matches` its slice

`RbV/Gen/SrcQGramIndex.lean` is regenerated from `src/data_structures/qgram_index.rs` on every `./check C19` (dialect
"cf").  Abstract parameters of the generated definition: `rankNew` (= `RankTransform::new`), `getWidth`
(= `ranks.get_width()`), `qgramsOf q text` (= the codes `ranks.qgrams(q, text)` yields: constructor + iterator, translated
and proved in `GenSrcQGrams`), `prescanAdd` (= `utils::prescan(·, ·, |a, b| a + b)`, translated and proved for C04; the
closure text is fixed by the translation spec).

The model is total (`getD`, `set`); the translated code panics on every index out of range, overflow or underflow.  The
equality therefore also says that, when every code is below the table size `2^(bits·q)` and the text has fewer than `2^64`
q-grams, the three loops never leave their vectors: counts stay below `2^64`, `address[c] ≤ address[c+1]`, and the slot
`address[c] + offset[c]` written for the `t`-th occurrence of an unmasked code lies inside `pos` (invariant `FillInv` of
`Lemmas/QGramIndex.lean`: `offset[c]` = number of occurrences of `c` so far).  `qgramMatches_eq_model`: on these tables
the two reads of `address` and the slice of `pos` in `qgram_matches` are in range (`buildIndex_bounds`).
-/
-- the simp sets name every fact a harmless rewrite of the Rust text may need; on the present text some are unused
set_option linter.unusedSimpArgs false
namespace RbV.Thm.GenSrcQGramIndex
open RbV RbV.Rs RbV.Gen.SrcQGramIndex RbV.QGram RbV.Thm.GenSrc
variable {αβ ρ τ : Type}

section
variable (rankNew : αβ → ρ) (getWidth : Nat) (qgramsOf : Nat → τ → List Nat) (prescanAdd : List Nat → Nat → Res (List Nat))

/-- the counting loop `address[qgram] += 1` -/
theorem for1_eq : ∀ (codes T : List Nat), (∀ c ∈ codes, c < T.length) → (∀ j, T.getD j 0 + codes.length < 2 ^ 64) →
    withMaxCount_for1 rankNew getWidth qgramsOf prescanAdd codes T = Res.ok (codes.foldl bump1 T) := by
  intro codes
  induction codes with
  | nil => intro T _ _; simp [withMaxCount_for1]
  | cons c codes ih =>
    intro T hc hb
    have hcl := hc c List.mem_cons_self
    have e1 : Rs.idx T c = Res.ok (T.getD c 0) := idx_getD T c 0 hcl
    have e2 : Rs.add 64 (T.getD c 0) 1 = Res.ok (T.getD c 0 + 1) := Rs.add_ok (by have := hb c; simp only [List.length_cons] at this; omega)
    have e2' : Rs.add 64 1 (T.getD c 0) = Res.ok (T.getD c 0 + 1) :=
      Rs.add_ok_comm (by have := hb c; simp only [List.length_cons] at this; omega)
    have e3 : Rs.setIdx T c (T.getD c 0 + 1) = Res.ok (bump1 T c) := Rs.setIdx_ok hcl
    have := ih (bump1 T c) (by intro x hx; rw [length_bump1]; exact hc x (List.mem_cons_of_mem _ hx))
      (by intro j; have h1 := getD_bump1_le T c j; have h2 := hb j; simp only [List.length_cons] at h2; omega)
    simp [withMaxCount_for1, e1, e2, e2', e3, this, -List.getD_eq_getElem?_getD]

/-- the masking loop `if *a > max_count { *a = 0 }` -/
theorem for2_eq (mc : Nat) : ∀ (l acc : List Nat),
    l.foldlM (withMaxCount_for2 rankNew getWidth qgramsOf prescanAdd mc) acc
      = Res.ok (acc ++ l.map (fun a => if a > mc then 0 else a)) := by
  intro l
  induction l with
  | nil => intro acc; simp
  | cons a t ih =>
    intro acc
    by_cases h : a > mc <;> simp [List.foldlM_cons, withMaxCount_for2, h, ih]

/-- one iteration of the loop that fills `pos`, on any state: it is the model's `fillStep` as soon as `address` ascends at
`x` and, where it ascends strictly, the slot `address[x] + offset[x]` exists -/
theorem for3_step (address pos offset : List Nat) (x i : Nat) (rest : List (Nat × Nat))
    (hx : x + 1 < address.length) (h64 : address.length ≤ 2 ^ 64) (hle : address.getD x 0 ≤ address.getD (x + 1) 0)
    (hfit : address.getD x 0 < address.getD (x + 1) 0 →
      x < offset.length ∧ address.getD x 0 + offset.getD x 0 < pos.length ∧ pos.length < 2 ^ 64) :
    withMaxCount_for3 rankNew getWidth qgramsOf prescanAdd address ((x, i) :: rest) (pos, offset)
      = withMaxCount_for3 rankNew getWidth qgramsOf prescanAdd address rest (fillStep address (pos, offset) i x) := by
  have e2 : Rs.add 64 x 1 = Res.ok (x + 1) := Rs.add_ok (by omega)
  have e2' : Rs.add 64 1 x = Res.ok (x + 1) := Rs.add_ok_comm (by omega)
  rw [withMaxCount_for3]
  simp only [idx_getD address x 0 (by omega), e2, e2', idx_getD address (x + 1) 0 hx, Rs.sub_ok hle, Res.ok_bind, fillStep]
  by_cases h : address.getD (x + 1) 0 - address.getD x 0 = 0
  · simp only [h, bne_self_eq_false, Bool.false_eq_true, ↓reduceIte, Res.pure_eq_ok, Res.ok_bind]
  · obtain ⟨ho, hp, hp64⟩ := hfit (by omega)
    have hb : (address.getD (x + 1) 0 - address.getD x 0 != 0) = true := by simpa using h
    have e8 : Rs.add 64 (offset.getD x 0) 1 = Res.ok (offset.getD x 0 + 1) := Rs.add_ok (by omega)
    have e8' : Rs.add 64 1 (offset.getD x 0) = Res.ok (offset.getD x 0 + 1) := Rs.add_ok_comm (by omega)
    have e6' : Rs.add 64 (offset.getD x 0) (address.getD x 0) = Res.ok (address.getD x 0 + offset.getD x 0) :=
      Rs.add_ok_comm (Nat.lt_trans hp hp64)
    simp only [hb, ↓reduceIte, idx_getD offset x 0 ho, Rs.add_ok (Nat.lt_trans hp hp64), e6', Rs.setIdx_ok hp, e8, e8', Rs.setIdx_ok ho,
      Res.pure_eq_ok, Res.ok_bind]

/-- the loop that fills `pos`, under the invariant of the counting-sort proof -/
theorem for3_eq (m : List Nat) (size : Nat) (address codes : List Nat)
    (hal : address.length = size + 1)
    (haddr : ∀ c, c ≤ size → address.getD c 0 = (m.take c).sum)
    (hmc : ∀ c, c < size → m.getD c 0 = 0 ∨ m.getD c 0 = codes.count c)
    (hcodes : ∀ c ∈ codes, c < size) (hs64 : size + 1 < 2 ^ 64) (hsum : (m.take size).sum < 2 ^ 64) :
    ∀ (rest P : List Nat) (st : List Nat × List Nat), codes = P ++ rest → FillInv m size P st →
      withMaxCount_for3 rankNew getWidth qgramsOf prescanAdd address (rest.zipIdx P.length) st
        = Res.ok (fill address P.length rest st) := by
  intro rest
  induction rest with
  | nil => intro P st _ _; simp [withMaxCount_for3, fill]
  | cons x rest ih =>
    intro P st hs hinv
    obtain ⟨pos, offset⟩ := st
    have hx : x < size := hcodes x (by rw [hs]; simp)
    have hrec := ih (P ++ [x]) (fillStep address (pos, offset) P.length x) (by rw [hs]; simp)
      (fillInv_step m size address codes haddr hmc P x rest hs hx (pos, offset) hinv)
    rw [List.length_append, List.length_singleton] at hrec
    obtain ⟨hl1, hl2, hI⟩ := hinv
    have hsucc : (m.take (x + 1)).sum = (m.take x).sum + m.getD x 0 := sum_take_succ m x
    have ha := haddr x (by omega)
    have ha1 := haddr (x + 1) (by omega)
    rw [List.zipIdx_cons, fill, ← hrec]
    refine for3_step rankNew getWidth qgramsOf prescanAdd address pos offset x P.length _ (by omega) (by omega) (by omega) ?_
    intro hlt
    obtain ⟨hoffx, _⟩ := hI x hx (by omega)
    -- the `t`-th occurrence of `x` is written while fewer than `count x = m[x]` occurrences have been seen
    have hmx : m.getD x 0 = codes.count x := (hmc x hx).resolve_left (by omega)
    have hseen : (posFrom x 0 P).length < m.getD x 0 := by
      rw [hmx, length_posFrom, hs, List.count_append, List.count_cons]; simp
    have hAle : (m.take (x + 1)).sum ≤ (m.take size).sum := sum_take_mono m (by omega)
    simp only at hl1 hl2 hoffx
    omega

/-- **`QGramIndex::with_max_count` as written in the source = `buildIndex`** on the q-gram codes of the text: when
`bits·q < 64`, every code is below `2^(bits·q)` and the text has fewer than `2^64` q-grams, the translated function never
panics and returns the model's address table and position list. -/
theorem withMaxCount_eq_model (q : Nat) (text : τ) (alphabet : αβ) (mc : Nat)
    (hw : getWidth < 2 ^ 32) (hbq : getWidth * q < 64)
    (hcodes : ∀ c ∈ qgramsOf q text, c < 2 ^ (getWidth * q)) (hlen : (qgramsOf q text).length < 2 ^ 64)
    (hps : ∀ l : List Nat, l.sum < 2 ^ 64 → prescanAdd l 0 = Res.ok (prescan 0 l)) :
    withMaxCount rankNew getWidth qgramsOf prescanAdd q text alphabet mc
      = Res.ok (q, (buildIndex (2 ^ (getWidth * q)) mc (qgramsOf q text)).1,
          (buildIndex (2 ^ (getWidth * q)) mc (qgramsOf q text)).2, rankNew alphabet) := by
  generalize hcd : qgramsOf q text = codes at *
  generalize hsz : 2 ^ (getWidth * q) = size at *
  have hsize : size ≤ 2 ^ 63 := by rw [← hsz]; exact Nat.pow_le_pow_right (by omega) (by omega)
  let counts := codes.foldl bump1 (List.replicate (size + 1) 0)
  let m := counts.map (fun a => if a > mc then 0 else a)
  let address := prescan 0 m
  have hlt : ∀ x ∈ codes, x < size + 1 := fun x hx => Nat.lt_succ_of_lt (hcodes x hx)
  have hT : IndexTables size mc codes m address := indexTables size mc codes hcodes
  have hlast : address.getLastD 0 = (m.take size).sum := by
    rw [List.getLastD_eq_getD, hT.address_length, Nat.add_sub_cancel, hT.prefixSum size (Nat.le_refl _)]
  have hmsum : m.sum ≤ codes.length := by
    have := sum_foldl_bump1 codes (List.replicate (size + 1) 0) (by rw [List.length_replicate]; exact hlt)
    rw [sum_replicate_zero, Nat.zero_add] at this
    rw [← this]; exact sum_map_mask_le mc counts
  have c0 : Rs.cast 32 getWidth = getWidth := by unfold Rs.cast; exact Nat.mod_eq_of_lt hw
  have c1 : Rs.mul 32 getWidth q = Res.ok (getWidth * q) := Rs.mul_ok (by omega)
  have c2 : Rs.checkedShl 64 1 (getWidth * q) = some size := by
    unfold Rs.checkedShl
    have h2 : 2 ^ (getWidth * q) < 2 ^ 64 := Nat.pow_lt_pow_right (by omega) hbq
    simp only [hbq, if_true, Nat.shiftLeft_eq, Nat.one_mul, Nat.mod_eq_of_lt h2]
    rw [hsz]
  have c3 : Rs.add 64 size 1 = Res.ok (size + 1) := Rs.add_ok (by omega)
  have c4 := for1_eq rankNew getWidth qgramsOf prescanAdd codes (List.replicate (size + 1) 0)
    (by intro x hx; have := hcodes x hx; simp; omega) (by intro j; rw [List.getD_replicate, ite_self]; omega)
  have c5 := for2_eq rankNew getWidth qgramsOf prescanAdd mc counts []
  have c6 : prescanAdd m 0 = Res.ok address := hps m (by omega)
  have c7 : address.getLast? = some (address.getLastD 0) := by
    cases hA : address with
    | nil => have := hT.address_length; rw [hA] at this; simp at this
    | cons a t => simp [List.getLast?_cons, List.getLastD_cons]
  have c8 := for3_eq rankNew getWidth qgramsOf prescanAdd m size address codes hT.address_length hT.prefixSum hT.zero_or_count hcodes
    (by omega) (by have := sum_take_le m size; omega) codes [] _ (by simp) hT.fill_init
  simp only [List.length_nil] at c8
  simp only [List.nil_append] at c5
  have c4' : withMaxCount_for1 rankNew getWidth qgramsOf prescanAdd codes (List.replicate (size + 1) 0)
      = Res.ok counts := c4
  have c5' : counts.foldlM (withMaxCount_for2 rankNew getWidth qgramsOf prescanAdd mc) [] = Res.ok m := c5
  have c8' : withMaxCount_for3 rankNew getWidth qgramsOf prescanAdd address (codes.zipIdx)
      (List.replicate (address.getLastD 0) 0, List.replicate size 0)
      = Res.ok (fill address 0 codes (List.replicate (address.getLastD 0) 0, List.replicate size 0)) := c8
  show withMaxCount rankNew getWidth qgramsOf prescanAdd q text alphabet mc
      = Res.ok (q, address, (fill address 0 codes (List.replicate (address.getLastD 0) 0, List.replicate size 0)).1,
          rankNew alphabet)
  unfold withMaxCount
  simp only [hcd, c0, c1, c2, c3, Rs.expect, Res.ok_bind, Res.pure_eq_ok, c4', c5', c6, c7, c8']

end

/-- **`qgram_matches` as written in the source** = the model's slice of `pos`, on the tables `with_max_count` builds: the
two reads of `address` and the slice `pos[a..b]` are in range -/
theorem qgramMatches_eq_model (rankNew : αβ → ρ) (getWidth : Nat) (qgramsOf : Nat → τ → List Nat)
    (size mc : Nat) (codes : List Nat) (hcodes : ∀ c ∈ codes, c < size) (hs : size + 1 < 2 ^ 64) (c : Nat) (hc : c < size) :
    qgramMatches rankNew getWidth qgramsOf (buildIndex size mc codes).1 (buildIndex size mc codes).2 c
      = Res.ok (qgramMatchesModel (buildIndex size mc codes) c) := by
  obtain ⟨h1, h2, h3⟩ := buildIndex_bounds size mc codes hcodes c hc
  have e4 := Rs.slice_ok (l := (buildIndex size mc codes).2) h2 h3
  simp (disch := omega) only [rs_ok, qgramMatches, idx_getD _ _ 0, Nat.add_comm 1 c, e4, qgramMatchesModel]

end RbV.Thm.GenSrcQGramIndex
