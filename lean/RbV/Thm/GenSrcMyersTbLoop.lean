import RbV.Gen.SrcMyersTbLoop
import RbV.Thm.GenSrcMyersTb
import RbV.Thm.GenSrcMyersTb2
import RbV.Lemmas.TracebackOrder
/-!
# `Traceback::_traceback_at` as written (single-word instance) = the loop of the stored-state model (C10)

`RbV/Gen/SrcMyersTbLoop.lean` (regenerated by `tools/rs2lean_genlong.py` on every `./check C10`): the generic traceback loop of
traceback.rs read at `H = ShortStatesHandler`; it calls the translated cursor moves (`Gen/SrcMyersTbShort.lean`,
`Gen/SrcMyersTbShort2.lean`).  Operations are bytes: `Match` 0, `Subst` 1, `Ins` 2, `Del` 3 (`opCode`).
`StepOk` / `StepOkD` collect the side conditions of the checked `dist ± 1` / `adjust_by_mask` of the branch the model takes, for the
order Subst > Ins > Del resp. Subst > Del > Ins of the tests; `df : Bool` (`true`: Del first) selects the order in `StepOkG`, `StepEq`,
`RunOk` and in the model loop `Handler.loopG`.  `step_eqG`: one pass of the translated loop body = one pass of the model loop for the
order the text has (`∃ df`); `loop_eq`: the whole loop; `tracebackAt_eq_model`: `_traceback_at` = `tracebackRdG df`.
-/
set_option linter.unusedSimpArgs false
set_option linter.unusedVariables false

namespace RbV.Thm.GenSrcMyersTbLoop
open RbV RbV.Rs RbV.Model.MyersSimple RbV.Model.MyersTraceback RbV.Thm.GenSrcMyersSimple RbV.Thm.GenSrcMyersLongStep
  RbV.Thm.GenSrcMyersTb RbV.Thm.GenSrcMyersTb2

/-- the byte the translated code pushes for an operation -/
def opCode : RbV.EditDist.Op → Nat
  | .mat => 0
  | .sub => 1
  | .ins => 2
  | .del => 3

section
variable {w : Nat} (wd pos : Nat) (store : List (St w))

/-- `adjust_by_mask` in `move_to_left` from the handler `g` neither underflows nor leaves `DistType` -/
def MaskOk (g : Handler w) : Prop :=
  popc ((readStore store pos g.taken).pv &&& g.leftMask) ≤
    (readStore store pos g.taken).dist + popc ((readStore store pos g.taken).mv &&& g.leftMask) ∧
  (readStore store pos g.taken).dist < 2 ^ wd ∧
  (readStore store pos g.taken).dist + popc ((readStore store pos g.taken).mv &&& g.leftMask) -
    popc ((readStore store pos g.taken).pv &&& g.leftMask) < 2 ^ wd

/-- the side conditions of the pass through the loop body the model makes from `h` -/
def StepOk (h : Handler w) : Prop :=
  h.state.dist + 1 < 2 ^ wd ∧ h.left.dist + 1 < 2 ^ wd ∧
  (if (h.left.dist + 1) % (2 ^ wd - 1 + 1) = h.state.dist then MaskOk wd pos store ((h.moveUp false).moveUpLeft false)
   else if (h.state.pv &&& h.pos) != 0#w then
     1 ≤ h.state.dist ∧ ((h.left.pv &&& (h.pos >>> 1)) ≠ 0#w → 1 ≤ h.left.dist)
   else if (h.left.mv &&& h.pos) != 0#w then 1 ≤ h.left.dist ∧ MaskOk wd pos store h.moveLeftDownIfBetter.2
   else MaskOk wd pos store ((h.moveUp false).moveUpLeft false))

/-- … for the order Subst > Del > Ins -/
def StepOkD (h : Handler w) : Prop :=
  h.state.dist + 1 < 2 ^ wd ∧ h.left.dist + 1 < 2 ^ wd ∧
  (if (h.left.dist + 1) % (2 ^ wd - 1 + 1) = h.state.dist then MaskOk wd pos store ((h.moveUp false).moveUpLeft false)
   else if (h.left.mv &&& h.pos) != 0#w then 1 ≤ h.left.dist ∧ MaskOk wd pos store h.moveLeftDownIfBetter.2
   else if (h.state.pv &&& h.pos) != 0#w then
     1 ≤ h.state.dist ∧ ((h.left.pv &&& (h.pos >>> 1)) ≠ 0#w → 1 ≤ h.left.dist)
   else MaskOk wd pos store ((h.moveUp false).moveUpLeft false))

def StepOkG (df : Bool) (h : Handler w) : Prop := if df then StepOkD wd pos store h else StepOk wd pos store h

/-- the state of the translated `while` loop that represents the model handler `h`, the offset and the operations pushed so far -/
def R (h : Handler w) (off : Nat) (ops : Option (List Nat)) :
    (Nat × Nat × Nat) × Nat × (Nat × Nat × Nat) × Nat × Nat × Rs.RevCyc (Nat × Nat × Nat) × Option (List Nat) :=
  (rep h.state, h.pos.toNat, rep h.left, h.leftMask.toNat, off, itOf (repS store) pos h.taken, ops)

/-- the two cursor moves `h.move_up(adj); h.move_up_left(adj);` as written, on the representation -/
theorem up_upLeft (hw : 1 < w) (h : Handler w) (adj : Bool)
    (hs : adj = true → (h.state.pv &&& h.pos) ≠ 0#w → 1 ≤ h.state.dist) (hsh : h.state.dist + 1 < 2 ^ wd)
    (hl : adj = true → (h.left.pv &&& (h.pos >>> 1)) ≠ 0#w → 1 ≤ h.left.dist) (hlh : h.left.dist + 1 < 2 ^ wd) :
    RbV.Gen.SrcMyersTbShort.moveUp w wd h.state.pv.toNat h.state.mv.toNat h.state.dist h.left.pv.toNat h.left.mv.toNat
        h.left.dist h.maxMask.toNat h.pos.toNat h.leftMask.toNat adj =
      Res.ok ((h.moveUp adj).state.dist, (h.pos >>> 1).toNat) ∧
    RbV.Gen.SrcMyersTbShort.moveUpLeft w wd h.state.pv.toNat h.state.mv.toNat (h.moveUp adj).state.dist h.left.pv.toNat
        h.left.mv.toNat h.left.dist h.maxMask.toNat (h.pos >>> 1).toNat h.leftMask.toNat adj =
      Res.ok (((h.moveUp adj).moveUpLeft adj).left.dist, ((h.moveUp adj).moveUpLeft adj).leftMask.toNat) := by
  obtain ⟨f1, f2, f3, f4, f5, f6, f7⟩ := moveUp_fields h adj
  have e1 := moveUp_eq_model w wd h hw adj hs hsh
  have e2 := moveUpLeft_eq_model w wd (h.moveUp adj) hw adj (by rw [f3, f7]; exact hl) (by rw [f3]; exact hlh)
  rw [f1, f2, f3, f4, f5, f7] at e2
  rw [f7] at e1
  exact ⟨e1, e2⟩

theorem moveToLeft_rep (hwd : wd < 64) (hw63 : w < 2 ^ 63) (hp : pos < store.length) (g : Handler w) (hm : MaskOk wd pos store g) :
    RbV.Gen.SrcMyersTbShort2.moveToLeft w wd (g.state.pv.toNat, g.state.mv.toNat, g.state.dist)
        (g.left.pv.toNat, g.left.mv.toNat, g.left.dist) (itOf (repS store) pos g.taken) g.maxMask.toNat g.pos.toNat
        g.leftMask.toNat =
      Res.ok (rep (g.moveToLeft (readStore store pos)).state, rep (g.moveToLeft (readStore store pos)).left,
        itOf (repS store) pos (g.moveToLeft (readStore store pos)).taken) :=
  moveToLeft_eq_model w wd pos store g hwd hw63 hp hm.1 hm.2.1 hm.2.2

theorem pow_sub_add (wd : Nat) : 2 ^ wd - 1 + 1 = 2 ^ wd := Nat.sub_add_cancel Nat.one_le_two_pow

/-- the diagonal move of Subst and Match, `h.move_up(false); h.move_up_left(false);` … `h.move_to_left();`, as written, on the
representation -/
theorem diag_rep (hw : 1 < w) (hwd : wd < 64) (hw63 : w < 2 ^ 63) (hp : pos < store.length) (h : Handler w)
    (h1 : h.state.dist + 1 < 2 ^ wd) (h2 : h.left.dist + 1 < 2 ^ wd)
    (hm : MaskOk wd pos store ((h.moveUp false).moveUpLeft false)) :
    RbV.Gen.SrcMyersTbShort.moveUp w wd h.state.pv.toNat h.state.mv.toNat h.state.dist h.left.pv.toNat h.left.mv.toNat
        h.left.dist h.maxMask.toNat h.pos.toNat h.leftMask.toNat false =
      Res.ok ((h.moveUp false).state.dist, (h.pos >>> 1).toNat) ∧
    RbV.Gen.SrcMyersTbShort.moveUpLeft w wd h.state.pv.toNat h.state.mv.toNat (h.moveUp false).state.dist h.left.pv.toNat
        h.left.mv.toNat h.left.dist h.maxMask.toNat (h.pos >>> 1).toNat h.leftMask.toNat false =
      Res.ok (((h.moveUp false).moveUpLeft false).left.dist, ((h.moveUp false).moveUpLeft false).leftMask.toNat) ∧
    RbV.Gen.SrcMyersTbShort2.moveToLeft w wd (h.state.pv.toNat, h.state.mv.toNat, (h.moveUp false).state.dist)
        (h.left.pv.toNat, h.left.mv.toNat, ((h.moveUp false).moveUpLeft false).left.dist)
        (itOf (repS store) pos h.taken) h.maxMask.toNat (h.pos >>> 1).toNat
        ((h.moveUp false).moveUpLeft false).leftMask.toNat =
      Res.ok (rep (((h.moveUp false).moveUpLeft false).moveToLeft (readStore store pos)).state,
        rep (((h.moveUp false).moveUpLeft false).moveToLeft (readStore store pos)).left,
        itOf (repS store) pos (((h.moveUp false).moveUpLeft false).moveToLeft (readStore store pos)).taken) := by
  obtain ⟨u1, u2⟩ := up_upLeft wd hw h false (by intro e; cases e) h1 (by intro e; cases e) h2
  obtain ⟨f1, f2, f3, f4, f5, f6, f7⟩ := moveUp_fields h false
  obtain ⟨g1, g2, g3, g4, g5, g6⟩ := moveUpLeft_fields (h.moveUp false) false
  have m := moveToLeft_rep wd pos store hwd hw63 hp _ hm
  rw [g1, g2, g3, g4, g5, g6, f1, f2, f3, f4, f6, f7] at m
  exact ⟨u1, u2, m⟩

/-- the horizontal move of Del, a successful `h.move_left_down_if_better()` … `h.move_to_left();`, as written, on the representation -/
theorem del_rep (hwd : wd < 64) (hw63 : w < 2 ^ 63) (hp : pos < store.length) (h : Handler w)
    (c3 : ((h.left.mv &&& h.pos) != 0#w) = true) (hd : 1 ≤ h.left.dist) (hm : MaskOk wd pos store h.moveLeftDownIfBetter.2) :
    h.moveLeftDownIfBetter = (true, h.moveLeftDownIfBetter.2) ∧
    RbV.Gen.SrcMyersTbShort.moveLeftDownIfBetter w wd h.state.pv.toNat h.state.mv.toNat h.state.dist h.left.pv.toNat
        h.left.mv.toNat h.left.dist h.maxMask.toNat h.pos.toNat h.leftMask.toNat =
      Res.ok (h.moveLeftDownIfBetter.2.left.dist, true) ∧
    RbV.Gen.SrcMyersTbShort2.moveToLeft w wd (h.state.pv.toNat, h.state.mv.toNat, h.state.dist)
        (h.left.pv.toNat, h.left.mv.toNat, h.moveLeftDownIfBetter.2.left.dist) (itOf (repS store) pos h.taken)
        h.maxMask.toNat h.pos.toNat h.leftMask.toNat =
      Res.ok (rep (h.moveLeftDownIfBetter.2.moveToLeft (readStore store pos)).state,
        rep (h.moveLeftDownIfBetter.2.moveToLeft (readStore store pos)).left,
        itOf (repS store) pos (h.moveLeftDownIfBetter.2.moveToLeft (readStore store pos)).taken) := by
  obtain ⟨k1, k2, k3, k4, k5, k6, k7, k8⟩ := mldib_fields h
  have d := moveLeftDownIfBetter_eq_model w wd h (fun _ => hd)
  have m := moveToLeft_rep wd pos store hwd hw63 hp _ hm
  rw [k1, k2, k3, k4, k5, k6, k7] at m
  rw [k8, c3] at d
  exact ⟨by rw [← c3, ← k8], d, m⟩

/-- one pass through the body of `while !h.finished()` as written = one pass of the model loop for the order `df` of the Ins / Del tests:
the handler afterwards, the offset (`h_offset += 1` exactly when `move_to_left` is called) and the operation pushed -/
def StepEq (hw : 1 < w) (df : Bool) : Prop :=
  ∀ (h : Handler w) (off : Nat) (ops : Option (List Nat)) (fuel : Nat), h.finished = false →
    StepOkG wd pos store df h → off + 1 < 2 ^ wd →
    RbV.Gen.SrcMyersTbLoop.tracebackAt_while1 w wd h.maxMask.toNat (fuel + 1) (R pos store h off ops) =
      RbV.Gen.SrcMyersTbLoop.tracebackAt_while1 w wd h.maxMask.toNat fuel
        (R pos store (h.iterG df (2 ^ wd - 1) (readStore store pos)).2.2
          (off + (if (h.iterG df (2 ^ wd - 1) (readStore store pos)).2.1 then 1 else 0))
          (ops.map (fun o => o ++ [opCode (h.iterG df (2 ^ wd - 1) (readStore store pos)).1])))

/-- **`StepEq` holds for the order of the Ins / Del tests the text has** (`df = false`: Subst > Ins > Del, the order of the verified
rust-bio revision; `df = true`: Subst > Del > Ins).  The proof tries the two orders in turn. -/
theorem step_eqG (hw : 1 < w) (hwd : wd < 64) (hw63 : w < 2 ^ 63) (hp : pos < store.length) :
    ∃ df : Bool, StepEq wd pos store hw df := by
  -- what both orders share: the loop test, `h_offset += 1`, the Subst test and the `pv` test on the representation
  have pre : ∀ (h : Handler w) (off : Nat), off + 1 < 2 ^ wd →
      Rs.add wd off 1 = Res.ok (off + 1) ∧
      (Rs.wrappingAdd wd h.left.dist 1 == h.state.dist) = decide ((h.left.dist + 1) % (2 ^ wd - 1 + 1) = h.state.dist) ∧
      ((h.state.pv.toNat &&& h.pos.toNat) != 0) = ((h.state.pv &&& h.pos) != 0#w) := by
    intro h off hoff
    refine ⟨Rs.add_ok hoff, ?_, by rw [and_toNat, ne_zero_toNat]⟩
    rw [pow_sub_add]; unfold Rs.wrappingAdd; rfl
  first
  | (refine ⟨false, ?_⟩
     intro h off ops fuel hfin hok hoff
     simp only [StepOkG, Bool.false_eq_true, if_false] at hok
     simp only [Handler.iterG, Bool.false_eq_true, if_false]
     obtain ⟨h1, h2, h3⟩ := hok
     obtain ⟨hadd, htest, htest2⟩ := pre h off hoff
     rw [RbV.Gen.SrcMyersTbLoop.tracebackAt_while1]
     simp only [R, rep, finished_eq_model w wd h, hfin, Res.ok_bind, Bool.not_false, if_true, htest, htest2]
     unfold Handler.iter
     by_cases c1 : (h.left.dist + 1) % (2 ^ wd - 1 + 1) = h.state.dist
     · -- Subst
       rw [if_pos c1] at h3
       obtain ⟨u1, u2, m⟩ := diag_rep wd pos store hw hwd hw63 hp h h1 h2 h3
       simp only [c1, decide_true, if_true, u1, u2, Res.ok_bind, Res.pure_eq_ok, Bool.not_false, hadd, m, rep, opCode,
         Bool.false_eq_true, if_false]
       rfl
     · rw [if_neg c1] at h3
       simp only [c1, decide_false, Bool.false_eq_true, if_false]
       by_cases c2 : ((h.state.pv &&& h.pos) != 0#w) = true
       · -- Ins
         rw [if_pos c2] at h3
         obtain ⟨u1, u2⟩ := up_upLeft wd hw h true (fun _ _ => h3.1) h1 (fun _ => h3.2) h2
         obtain ⟨f1, f2, f3, f4, f5, f6, f7⟩ := moveUp_fields h true
         obtain ⟨g1, g2, g3, g4, g5, g6⟩ := moveUpLeft_fields (h.moveUp true) true
         simp only [c2, if_true, u1, u2, Res.ok_bind, Res.pure_eq_ok, Bool.not_true, Bool.false_eq_true, if_false, rep, opCode,
           g1, g2, g3, g5, g6, f1, f2, f3, f6, f7, Nat.add_zero]
       · rw [if_neg c2] at h3
         have c2b : ((h.state.pv &&& h.pos) != 0#w) = false := Bool.eq_false_iff.mpr c2
         simp only [c2b, Bool.false_eq_true, if_false]
         obtain ⟨k1, k2, k3, k4, k5, k6, k7, k8⟩ := mldib_fields h
         by_cases c3 : ((h.left.mv &&& h.pos) != 0#w) = true
         · -- Del
           rw [if_pos c3] at h3
           obtain ⟨hm, d, m⟩ := del_rep wd pos store hwd hw63 hp h c3 h3.1 h3.2
           rw [hm]
           simp only [d, Res.ok_bind, Res.pure_eq_ok, if_true, Bool.not_false, hadd, m, rep, opCode, (mtl_fields _ _).1,
             (mtl_fields _ _).2.1, k5, k7]
         · -- Match
           rw [if_neg c3] at h3
           have hb : ((h.left.mv &&& h.pos) != 0#w) = false := Bool.eq_false_iff.mpr c3
           have d := moveLeftDownIfBetter_eq_model w wd h (fun hne => absurd (bne_iff_ne.mpr hne) c3)
           rw [k8, hb] at d
           have hm : h.moveLeftDownIfBetter = (false, h) := by
             unfold Handler.moveLeftDownIfBetter; simp [hb]
           rw [hm] at d ⊢
           obtain ⟨u1, u2, m⟩ := diag_rep wd pos store hw hwd hw63 hp h h1 h2 h3
           simp only [d, Res.ok_bind, Res.pure_eq_ok, Bool.false_eq_true, if_false, u1, u2, Bool.not_false, if_true, hadd, m, rep,
             opCode]
           rfl)
  | (refine ⟨true, ?_⟩
     intro h off ops fuel hfin hok hoff
     simp only [StepOkG, if_true] at hok
     simp only [Handler.iterG, if_true]
     obtain ⟨h1, h2, h3⟩ := hok
     obtain ⟨hadd, htest, htest2⟩ := pre h off hoff
     rw [RbV.Gen.SrcMyersTbLoop.tracebackAt_while1]
     simp only [R, rep, finished_eq_model w wd h, hfin, Res.ok_bind, Bool.not_false, if_true, htest, htest2]
     unfold Handler.iterD
     by_cases c1 : (h.left.dist + 1) % (2 ^ wd - 1 + 1) = h.state.dist
     · -- Subst
       rw [if_pos c1] at h3
       obtain ⟨u1, u2, m⟩ := diag_rep wd pos store hw hwd hw63 hp h h1 h2 h3
       simp only [c1, decide_true, if_true, u1, u2, Res.ok_bind, Res.pure_eq_ok, Bool.not_false, hadd, m, rep, opCode,
         Bool.false_eq_true, if_false]
       rfl
     · rw [if_neg c1] at h3
       simp only [c1, decide_false, Bool.false_eq_true, if_false]
       obtain ⟨k1, k2, k3, k4, k5, k6, k7, k8⟩ := mldib_fields h
       by_cases c3 : ((h.left.mv &&& h.pos) != 0#w) = true
       · -- Del
         rw [if_pos c3] at h3
         obtain ⟨hm, d, m⟩ := del_rep wd pos store hwd hw63 hp h c3 h3.1 h3.2
         rw [hm]
         simp only [d, Res.ok_bind, Res.pure_eq_ok, if_true, Bool.not_false, hadd, m, rep, opCode, (mtl_fields _ _).1,
           (mtl_fields _ _).2.1, k5, k7]
       · rw [if_neg c3] at h3
         have hb : ((h.left.mv &&& h.pos) != 0#w) = false := Bool.eq_false_iff.mpr c3
         have d := moveLeftDownIfBetter_eq_model w wd h (fun hne => absurd (bne_iff_ne.mpr hne) c3)
         rw [k8, hb] at d
         have hm : h.moveLeftDownIfBetter = (false, h) := by
           unfold Handler.moveLeftDownIfBetter; simp [hb]
         rw [hm] at d ⊢
         simp only [d, Res.ok_bind, Res.pure_eq_ok, Bool.false_eq_true, if_false]
         by_cases c2 : ((h.state.pv &&& h.pos) != 0#w) = true
         · -- Ins
           rw [if_pos c2] at h3
           obtain ⟨u1, u2⟩ := up_upLeft wd hw h true (fun _ _ => h3.1) h1 (fun _ => h3.2) h2
           obtain ⟨f1, f2, f3, f4, f5, f6, f7⟩ := moveUp_fields h true
           obtain ⟨g1, g2, g3, g4, g5, g6⟩ := moveUpLeft_fields (h.moveUp true) true
           simp only [c2, if_true, u1, u2, Res.ok_bind, Res.pure_eq_ok, Bool.not_true, Bool.false_eq_true, if_false, rep, opCode,
             g1, g2, g3, g5, g6, f1, f2, f3, f6, f7, Nat.add_zero]
         · -- Match
           rw [if_neg c2] at h3
           have c2b : ((h.state.pv &&& h.pos) != 0#w) = false := Bool.eq_false_iff.mpr c2
           obtain ⟨u1, u2, m⟩ := diag_rep wd pos store hw hwd hw63 hp h h1 h2 h3
           simp only [c2b, Bool.false_eq_true, if_false, u1, u2, Res.ok_bind, Res.pure_eq_ok, Bool.not_false, if_true, hadd, m, rep,
             opCode]
           rfl)

/-- the side conditions hold along the model's loop from `h`, and it finishes within `F` passes -/
def RunOk (df : Bool) : Nat → Handler w → Prop
  | 0, h => h.finished = true
  | F + 1, h => h.finished = true ∨
      (StepOkG wd pos store df h ∧ RunOk df F (h.iterG df (2 ^ wd - 1) (readStore store pos)).2.2)

theorem map_append_nil (ops : Option (List Nat)) : ops.map (fun o => o ++ []) = ops := by
  cases ops <;> simp

theorem map_append_cons (ops : Option (List Nat)) (c : Nat) (l : List Nat) :
    (ops.map (fun o => o ++ [c])).map (fun o => o ++ l) = ops.map (fun o => o ++ c :: l) := by
  cases ops <;> simp

theorem while_finished (h : Handler w) (off : Nat) (ops : Option (List Nat)) (F : Nat) (hfin : h.finished = true) :
    RbV.Gen.SrcMyersTbLoop.tracebackAt_while1 w wd h.maxMask.toNat (F + 1) (R pos store h off ops) =
      Res.ok (R pos store h off ops) := by
  rw [RbV.Gen.SrcMyersTbLoop.tracebackAt_while1]
  simp only [R, rep, finished_eq_model w wd h, hfin, Res.ok_bind, Bool.not_true, Bool.false_eq_true, if_false,
    Res.pure_eq_ok]

/-- **the loop `while !h.finished() { … }` of `_traceback_at` as written** = `Handler.loopG df` of the model: offset and pushed operations -/
theorem loop_eq (hw : 1 < w) (df : Bool) (hstep : StepEq wd pos store hw df) :
    ∀ (F : Nat) (h : Handler w) (off : Nat) (ops : Option (List Nat)), RunOk wd pos store df F h → off + F < 2 ^ wd →
      ∃ hf, RbV.Gen.SrcMyersTbLoop.tracebackAt_while1 w wd h.maxMask.toNat (F + 1) (R pos store h off ops) =
        Res.ok (R pos store hf (off + (Handler.loopG df (2 ^ wd - 1) (readStore store pos) F h).1)
          (ops.map (fun o => o ++ (Handler.loopG df (2 ^ wd - 1) (readStore store pos) F h).2.map opCode))) := by
  intro F
  induction F with
  | zero =>
    intro h off ops hr _
    have hfin : h.finished = true := hr
    refine ⟨h, ?_⟩
    rw [while_finished wd pos store h off ops 0 hfin]
    simp only [Handler.loopG, List.map_nil, map_append_nil, Nat.add_zero]
  | succ F ih =>
    intro h off ops hr hoff
    by_cases hfin : h.finished = true
    · refine ⟨h, ?_⟩
      rw [while_finished wd pos store h off ops (F + 1) hfin]
      simp only [Handler.loopG, hfin, if_true, List.map_nil, map_append_nil, Nat.add_zero]
    · have hfin' : h.finished = false := Bool.eq_false_iff.mpr hfin
      rcases hr with hr | ⟨hs, hr⟩
      · exact absurd hr hfin
      · have hstep := hstep h off ops (F + 1) hfin' hs (by omega)
        obtain ⟨hf, hih⟩ := ih (h.iterG df (2 ^ wd - 1) (readStore store pos)).2.2
          (off + (if (h.iterG df (2 ^ wd - 1) (readStore store pos)).2.1 then 1 else 0))
          (ops.map (fun o => o ++ [opCode (h.iterG df (2 ^ wd - 1) (readStore store pos)).1])) hr (by split <;> omega)
        rw [iterG_maxMask] at hih
        refine ⟨hf, ?_⟩
        rw [hstep, hih]
        simp only [Handler.loopG, hfin', Bool.false_eq_true, if_false, map_append_cons, List.map_cons]
        congr 2
        split <;> omega

/-- **`Traceback::_traceback_at(pos, ops, states)` as written (single-word instance)** = `tracebackRdG df` of the stored-state model on
the reader `rd k = readStore store pos k`: returned `(h_offset, dist)` and the operations appended to `ops` (bytes `opCode`, in the
order in which they are pushed).  Side conditions: `RunOk` (the checked `dist ± 1`, `adjust_by_mask` of every pass stay inside
`DistType`; the loop ends within `F` passes) and those of the initial `move_up_left(true)`. -/
theorem tracebackAt_eq_model (hw : 1 < w) (df : Bool) (hstep : StepEq wd pos store hw df) (m : Nat) (hm1 : 1 ≤ m) (hmw : m ≤ w) (hm64 : m < 2 ^ 64)
    (hp : pos < store.length) (F : Nat) (ops : Option (List Nat))
    (hs1 : ((Handler.new m (readStore store pos)).left.pv &&& (Handler.new m (readStore store pos)).pos) ≠ 0#w →
      1 ≤ (Handler.new m (readStore store pos)).left.dist)
    (hs2 : (Handler.new m (readStore store pos)).left.dist + 1 < 2 ^ wd)
    (hrun : RunOk wd pos store df F (Handler.start m (readStore store pos))) (hF : F < 2 ^ wd) :
    RbV.Gen.SrcMyersTbLoop.tracebackAt (w := w) (wd := wd) (m := m) (pos := pos) (ops := ops) (state_slice := repS store)
        (gas := F + 1) =
      Res.ok (ops.map (fun o => o ++ (tracebackRdG df (2 ^ wd - 1) m (readStore store pos) F).2.2.map opCode),
        ((tracebackRdG df (2 ^ wd - 1) m (readStore store pos) F).1, (tracebackRdG df (2 ^ wd - 1) m (readStore store pos) F).2.1)) := by
  have hnew := GenSrcMyersTb2.new_eq_model w wd m pos store hm1 hmw hm64 hp
  have hul := moveUpLeft_eq_model w wd (Handler.new m (readStore store pos)) hw true (fun _ => hs1) hs2
  obtain ⟨g1, g2, g3, g4, g5, g6⟩ := moveUpLeft_fields (Handler.new m (readStore store pos)) true
  obtain ⟨hf, hloop⟩ := loop_eq wd pos store hw df hstep F (Handler.start m (readStore store pos)) 0 ops hrun (by omega)
  unfold Handler.start at hloop
  rw [g4] at hloop
  simp only [R, rep, g1, g2, g3, g5, g6] at hloop
  have htk : (Handler.new m (readStore store pos)).taken = 2 := rfl
  rw [htk] at hloop
  unfold RbV.Gen.SrcMyersTbLoop.tracebackAt
  simp only [hnew, Res.ok_bind, Res.pure_eq_ok, rep, hul, hloop, tracebackRdG, Handler.start, Nat.zero_add]
  rfl

end

-- non-vacuity: pattern 1 2 1 (`u8`), text 1 2 2 1: the store after the search (sentinel, initial column, four columns), traceback at
-- the last column: the translated `_traceback_at` evaluated = the model's `tracebackRd` on the same store
set_option maxRecDepth 40000 in
example :
    let store := storeAll 6 (List.replicate 6 (⟨0#8, 0#8, 0⟩ : St 8)) 0 (seqStates 8 RbV.EditDist.eqSym [1, 2, 1] 255 [1, 2, 2, 1])
    RbV.Gen.SrcMyersTbLoop.tracebackAt (w := 8) (wd := 8) (m := 3) (pos := 5) (ops := some []) (state_slice := repS store)
        (gas := 8) =
      Res.ok (some ((tracebackRd 255 3 (readStore store 5) 7).2.2.map opCode),
        ((tracebackRd 255 3 (readStore store 5) 7).1, (tracebackRd 255 3 (readStore store 5) 7).2.1)) := by decide +kernel

end RbV.Thm.GenSrcMyersTbLoop
