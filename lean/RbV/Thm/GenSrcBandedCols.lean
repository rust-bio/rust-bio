import RbV.Thm.GenSrcBandedCell
import RbV.Thm.GenSrcOk
import RbV.Lemmas.BandSrcBasic
/-!
The parts of one column of `compute_alignment` around the cell loop, tied to the source text (`RbV/Gen/SrcBandedFill.lean`):
the two reset loops (`fillColumns_for2`: `for i in i_start.saturating_sub(1)..i_start`, `fillColumns_for4`:
`for i in i_end..min(m + 1, ranges[min(n, j + 1)].end)`) write `MIN_SCORE` into **exactly** the cells `a ≤ i < b` of row `curr` of
`S`, `I`, `D` and nothing else; the column trackers `for1_if2` / `for1_if3`; row 0 of a column (`for1_if1`); preservation of the
shape `Dims` by every piece.
-/
set_option linter.unusedSimpArgs false
set_option linter.unusedVariables false
namespace RbV.Thm.GenSrcBandedCols
open RbV RbV.Gen RbV.Rs RbV.Rs.Res RbV.Gen.SrcBandedFill RbV.Thm.GenSrcBandedFill RbV.Thm.GenSrcBandedCell

section
variable {Tbm : Type} (matchFn : Nat → Nat → Int) (tbGet : Tbm → Nat → Nat → Cell) (tbSet : Tbm → Nat → Nat → Cell → Tbm)

theorem inS_max {a b c : Int} (ha : Rs.InS 32 (a + c)) (hb : Rs.InS 32 (b + c)) : Rs.InS 32 (max a b + c) := by
  rcases Int.le_total a b with h | h
  · rw [Int.max_eq_right h]; exact hb
  · rw [Int.max_eq_left h]; exact ha

/-- one iteration of a reset loop: `S[curr][i] = I[curr][i] = D[curr][i] = MIN_SCORE` -/
theorem reset_step (S I D : List (List Int)) (Lx Ly : List Nat) (Sn : List Int) (T : Tbm) (sc : ScT) (bd : BandT) (k w : Nat)
    (m curr i : Nat) (hS : Arr S m) (hI : Arr I m) (hD : Arr D m) (hc : curr < 2) (hi : i ≤ m) :
    fillColumns_for2 matchFn tbGet tbSet curr (S, I, D, Lx, Ly, Sn, T, sc, bd, k, w) i =
      ok (wr S curr i MIN, wr I curr i MIN, wr D curr i MIN, Lx, Ly, Sn, T, sc, bd, k, w) ∧
    fillColumns_for4 matchFn tbGet tbSet curr (S, I, D, Lx, Ly, Sn, T, sc, bd, k, w) i =
      ok (wr S curr i MIN, wr I curr i MIN, wr D curr i MIN, Lx, Ly, Sn, T, sc, bd, k, w) := by
  constructor
  · unfold fillColumns_for2
    simp only [setIdx2_bind hS curr i hc hi, setIdx2_bind hI curr i hc hi, setIdx2_bind hD curr i hc hi, pure_eq_ok]
  · unfold fillColumns_for4
    simp only [setIdx2_bind hS curr i hc hi, setIdx2_bind hI curr i hc hi, setIdx2_bind hD curr i hc hi, pure_eq_ok]

/-- `A'` is `A` with exactly the cells `a ≤ i < b` of row `curr` set to `MIN_SCORE` -/
def ResetTo (A A' : List (List Int)) (m curr a b : Nat) : Prop :=
  Arr A' m ∧ ∀ k i, rd A' k i = if k = curr ∧ a ≤ i ∧ i < b then MIN else rd A k i

theorem resetTo_refl {A : List (List Int)} {m : Nat} (h : Arr A m) (curr a : Nat) : ResetTo A A m curr a a :=
  ⟨h, fun k i => by have : ¬ (k = curr ∧ a ≤ i ∧ i < a) := by omega
                    simp [this]⟩

theorem resetTo_step {A A' : List (List Int)} {m curr a t : Nat} (h : ResetTo A A' m curr a t) (hc : curr < 2) (hat : a ≤ t)
    (ht : t ≤ m) : ResetTo A (wr A' curr t MIN) m curr a (t + 1) := by
  refine ⟨arr_wr h.1 curr t hc MIN, fun k i => ?_⟩
  rw [rd_wr2 h.1 curr t hc ht k i MIN, h.2 k i]
  by_cases h1 : curr = k ∧ t = i
  · obtain ⟨rfl, rfl⟩ := h1
    have : curr = curr ∧ a ≤ t ∧ t < t + 1 := ⟨rfl, hat, by omega⟩
    simp [this]
  · simp only [h1, if_false]
    by_cases h2 : k = curr ∧ a ≤ i ∧ i < t
    · have : k = curr ∧ a ≤ i ∧ i < t + 1 := ⟨h2.1, h2.2.1, by omega⟩
      simp [h2, this]
    · have : ¬ (k = curr ∧ a ≤ i ∧ i < t + 1) := by
        intro c; apply h2; refine ⟨c.1, c.2.1, ?_⟩
        have : t ≠ i := fun e => h1 ⟨c.1.symm, e⟩
        omega
      simp [h2, this]

/-- **The reset loops**: `for i in a..b` (with `b ≤ m + 1`) over either reset body sets exactly the cells `a ≤ i < b` of row
`curr` of `S`, `I` and `D` to `MIN_SCORE`; every other cell of the three arrays and everything else of the aligner is unchanged. -/
theorem reset_loop {curr : Nat} (step : St Tbm → Nat → Res (St Tbm))
    (hstep : step = fillColumns_for2 matchFn tbGet tbSet curr ∨ step = fillColumns_for4 matchFn tbGet tbSet curr)
    (S I D : List (List Int)) (Lx Ly : List Nat) (Sn : List Int) (T : Tbm) (sc : ScT) (bd : BandT) (k w : Nat)
    (m a b : Nat) (hS : Arr S m) (hI : Arr I m) (hD : Arr D m) (hc : curr < 2) (hb : b ≤ m + 1) :
    ∃ S' I' D', List.foldlM step (S, I, D, Lx, Ly, Sn, T, sc, bd, k, w) (List.range' a (b - a)) =
        ok (S', I', D', Lx, Ly, Sn, T, sc, bd, k, w) ∧
      ResetTo S S' m curr a b ∧ ResetTo I I' m curr a b ∧ ResetTo D D' m curr a b := by
  have key := GenSrc.foldlM_range'_inv step
    (fun t st => ∃ S' I' D', st = (S', I', D', Lx, Ly, Sn, T, sc, bd, k, w) ∧
      ResetTo S S' m curr a t ∧ ResetTo I I' m curr a t ∧ ResetTo D D' m curr a t) a (b - a)
    (S, I, D, Lx, Ly, Sn, T, sc, bd, k, w) ⟨S, I, D, rfl, resetTo_refl hS curr a, resetTo_refl hI curr a, resetTo_refl hD curr a⟩
    (by
      intro t st h1 h2 ⟨S', I', D', e, rS, rI, rD⟩
      subst e
      have ht : t ≤ m := by omega
      have hs := reset_step matchFn tbGet tbSet S' I' D' Lx Ly Sn T sc bd k w m curr t rS.1 rI.1 rD.1 hc ht
      refine ⟨_, ?_, _, _, _, rfl, resetTo_step rS hc h1 ht, resetTo_step rI hc h1 ht, resetTo_step rD hc h1 ht⟩
      rcases hstep with e | e <;> subst e
      · exact hs.1
      · exact hs.2)
  obtain ⟨s', e, S', I', D', es, rS, rI, rD⟩ := key
  subst es
  -- `a..b` is empty when `b < a`
  have hab : ∀ {A A' : List (List Int)}, ResetTo A A' m curr a (a + (b - a)) → ResetTo A A' m curr a b := by
    intro A A' r
    by_cases hab : a ≤ b
    · rwa [show a + (b - a) = b by omega] at r
    · refine ⟨r.1, fun k i => ?_⟩
      rw [r.2 k i, if_neg (by omega), if_neg (by omega)]
  exact ⟨S', I', D', e, hab rS, hab rI, hab rD⟩

/-- **the shape is preserved by one cell iteration** (the state `cell_iteration_eq_model` returns) -/
theorem dims_cell {S I D : List (List Int)} {Lx Ly Lx' Ly' : List Nat} {Sn : List Int} {m n : Nat} (h : Dims S I D Lx Ly Sn m n)
    (curr i : Nat) (hc : curr < 2) (cs ci cd v sv : Int) (hLx : Lx'.length = Lx.length) (hLy : Ly'.length = Ly.length) :
    Dims (wr (wr (if i = m then S else wr S curr i MIN) curr i cs) curr m v) (wr I curr i ci) (wr D curr i cd) Lx' Ly'
      (Sn.set i sv) m n := by
  obtain ⟨aS, aI, aD⟩ := dims_arr h
  refine dims_of (arr_wr (arr_wr ?_ curr i hc cs) curr m hc v) (arr_wr aI curr i hc ci) (arr_wr aD curr i hc cd)
    (by rw [hLx]; exact h.lx) (by rw [hLy]; exact h.ly) (by rw [List.length_set]; exact h.sn)
  split
  · exact aS
  · exact arr_wr aS curr i hc MIN

theorem dims_reset {S I D S' I' D' : List (List Int)} {Lx Ly : List Nat} {Sn : List Int} {m n curr a b : Nat}
    (h : Dims S I D Lx Ly Sn m n) (rS : ResetTo S S' m curr a b) (rI : ResetTo I I' m curr a b) (rD : ResetTo D D' m curr a b) :
    Dims S' I' D' Lx Ly Sn m n := dims_of rS.1 rI.1 rD.1 h.lx h.ly h.sn

/-- the y-suffix tracker of row `m` after the cell loop: `Sn[m] = max(Sn[m], S[curr][m] + yclip_suffix)` -/
theorem col_if2_eq (S I D : List (List Int)) (Lx Ly : List Nat) (Sn : List Int) (T : Tbm) (sc : ScT) (bd : BandT) (k w : Nat)
    (m n j curr : Nat) (hS : Arr S m) (hc : curr < 2) (hsn : Sn.length = m + 1) (hly : Ly.length = m + 1) (hjn : j ≤ n)
    (o : Rs.InS 32 (rd S curr m + sc.2.2.2.2.2.2)) :
    ∃ Ly' T', fillColumns_for1_if2 matchFn tbGet tbSet m n j curr (S, I, D, Lx, Ly, Sn, T, sc, bd, k, w) =
        ok (S, I, D, Lx, Ly', Sn.set m (max (Sn.getD m 0) (rd S curr m + sc.2.2.2.2.2.2)), T', sc, bd, k, w) ∧
      Ly'.length = Ly.length := by
  -- the same text as the tracker of the cell loop, at `i = m`
  have e : fillColumns_for1_if2 matchFn tbGet tbSet m n j curr (S, I, D, Lx, Ly, Sn, T, sc, bd, k, w) =
      fillColumns_for3_if11 matchFn tbGet tbSet n j curr m (S, I, D, Lx, Ly, Sn, T, sc, bd, k, w) := rfl
  rw [e]
  exact ysufTracker_eq matchFn tbGet tbSet S I D Lx Ly Sn T sc bd k w m n j curr m hS hc (Nat.le_refl m) (by omega) (by omega) hjn o

/-- `if i_end < m + 1 { traceback(m, j).s = TB_XCLIP_SUFFIX; S[curr][m] = MIN_SCORE }`: the x-suffix register is cleared exactly
when row `m` is outside the band of the column -/
theorem col_if3_eq (S I D : List (List Int)) (Lx Ly : List Nat) (Sn : List Int) (T : Tbm) (sc : ScT) (bd : BandT) (k w : Nat)
    (m j curr iEnd : Nat) (hS : Arr S m) (hc : curr < 2) (hm : m + 1 < 2 ^ 64) :
    ∃ T', fillColumns_for1_if3 matchFn tbGet tbSet m j curr iEnd (S, I, D, Lx, Ly, Sn, T, sc, bd, k, w) =
        ok ((if iEnd < m + 1 then wr S curr m MIN else S), I, D, Lx, Ly, Sn, T', sc, bd, k, w) := by
  unfold fillColumns_for1_if3
  simp only [Rs.add_ok hm, ok_bind, pure_eq_ok]
  by_cases h : iEnd < m + 1
  · simp only [h, decide_true, if_true, setIdx2_bind hS curr m hc (Nat.le_refl m), ok_bind]
    exact ⟨_, rfl⟩
  · simp only [h, decide_false, Bool.false_eq_true, if_false]
    exact ⟨T, rfl⟩

/-- **row 0 of a column** (`if i_start == 0 { … }`): `I[curr][0] = MIN_SCORE`; `D[curr][0]` = the deletion run `go + ge` (column 1) resp.
the better of `go + ge·j` and `yclip_prefix + go + ge`; `S[curr][0]` = the better of that and `yclip_prefix`; the y-suffix tracker
`Sn[0]` = the better of itself and `S[curr][0] + yclip_suffix`.  Nothing happens when row 0 is outside the band. -/
theorem row0_eq (S I D : List (List Int)) (Lx Ly : List Nat) (Sn : List Int) (T : Tbm) (go ge : Int) (msc : Option (Int × Int))
    (xp xs yp ys : Int) (bd : BandT) (k w : Nat) (m n j curr iStart : Nat) (hS : Arr S m) (hI : Arr I m) (hD : Arr D m)
    (hc : curr < 2) (hsn : Sn.length = m + 1) (hly : Ly.length = m + 1) (hjn : j ≤ n) (hj31 : j < 2 ^ 31)
    (o1 : Rs.InS 32 (go + ge)) (o2 : Rs.InS 32 (ge * (j : Int))) (o3 : Rs.InS 32 (go + ge * (j : Int))) (o4 : Rs.InS 32 (yp + go))
    (o5 : Rs.InS 32 (yp + go + ge))
    (o6 : Rs.InS 32 (go + ge + ys)) (o7 : Rs.InS 32 (go + ge * (j : Int) + ys)) (o8 : Rs.InS 32 (yp + go + ge + ys))
    (o9 : Rs.InS 32 (yp + ys)) :
    (iStart ≠ 0 → fillColumns_for1_if1 matchFn tbGet tbSet n j curr iStart (S, I, D, Lx, Ly, Sn, T, (go, ge, msc, xp, xs, yp, ys), bd, k, w) =
      ok (S, I, D, Lx, Ly, Sn, T, (go, ge, msc, xp, xs, yp, ys), bd, k, w)) ∧
    (iStart = 0 → ∃ d0 s0 Sn' Ly' T',
      fillColumns_for1_if1 matchFn tbGet tbSet n j curr iStart (S, I, D, Lx, Ly, Sn, T, (go, ge, msc, xp, xs, yp, ys), bd, k, w) =
        ok (wr S curr 0 s0, wr I curr 0 MIN, wr D curr 0 d0, Lx, Ly', Sn', T', (go, ge, msc, xp, xs, yp, ys), bd, k, w) ∧
      d0 = (if j = 1 then go + ge else max (go + ge * (j : Int)) (yp + go + ge)) ∧ s0 = max d0 yp ∧
      Sn'.length = Sn.length ∧ Sn'.getD 0 0 = max (Sn.getD 0 0) (s0 + ys) ∧ (∀ i, i ≠ 0 → Sn'.getD i 0 = Sn.getD i 0) ∧
      Ly'.length = Ly.length) := by
  constructor
  · intro h
    unfold fillColumns_for1_if1
    simp [h]
  · intro h
    subst h
    -- walked statement by statement (`Post`): each `if` is split once, what it leaves behind is a value, the codes are quantified
    suffices h : GenSrc.Post (fillColumns_for1_if1 matchFn tbGet tbSet n j curr 0
        (S, I, D, Lx, Ly, Sn, T, (go, ge, msc, xp, xs, yp, ys), bd, k, w)) (fun st => ∃ d0 s0 Sn' Ly' T',
        st = (wr S curr 0 s0, wr I curr 0 MIN, wr D curr 0 d0, Lx, Ly', Sn', T', (go, ge, msc, xp, xs, yp, ys), bd, k, w) ∧
        d0 = (if j = 1 then go + ge else max (go + ge * (j : Int)) (yp + go + ge)) ∧ s0 = max d0 yp ∧
        Sn'.length = Sn.length ∧ Sn'.getD 0 0 = max (Sn.getD 0 0) (s0 + ys) ∧ (∀ i, i ≠ 0 → Sn'.getD i 0 = Sn.getD i 0) ∧
        Ly'.length = Ly.length) by
      obtain ⟨_, e, d0, s0, Sn', Ly', T', rfl, h⟩ := h
      exact ⟨d0, s0, Sn', Ly', T', e, h⟩
    have z : 0 ≤ m := Nat.zero_le m
    have zSn : 0 < Sn.length := by omega
    have zLy : 0 < Ly.length := by omega
    have cs31 : Rs.castSigned 32 j = (j : Int) := Rs.castSigned_of_lt (by simpa using hj31)
    unfold fillColumns_for1_if1
    simp only [beq_self_eq_true, if_true, setIdx2_bind hI curr 0 hc z, pure_eq_ok]
    refine GenSrc.Post.bind (A := fun x => ∃ tb, x = ((S, wr I curr 0 MIN,
      wr D curr 0 (if j = 1 then go + ge else max (go + ge * (j : Int)) (yp + go + ge)), Lx, Ly, Sn, T,
      (go, ge, msc, xp, xs, yp, ys), bd, k, w), tb)) ?_ ?_
    · -- `D[curr][0]`: the deletion run, from column 2 on against the run that starts after the y prefix clip
      by_cases hj1 : j = 1
      · simp only [hj1, beq_self_eq_true, if_true, Rs.iadd_ok o1, ok_bind, setIdx2_bind hD curr 0 hc z]
        exact GenSrc.Post.ok ⟨_, rfl⟩
      · simp only [hj1, beq_iff_eq, if_false, cs31, Rs.imul_ok o2, Rs.iadd_ok o3, Rs.iadd_ok o4, Rs.iadd_ok o5, ok_bind]
        split <;> rename_i h <;> simp only [decide_eq_true_eq] at h <;>
          simp only [setIdx2_bind hD curr 0 hc z, ok_bind]
        · rw [show max (go + ge * (j : Int)) (yp + go + ge) = go + ge * (j : Int) by omega]; exact GenSrc.Post.ok ⟨_, rfl⟩
        · rw [show max (go + ge * (j : Int)) (yp + go + ge) = yp + go + ge by omega]; exact GenSrc.Post.ok ⟨_, rfl⟩
    · rintro _ ⟨tb, rfl⟩
      generalize hd0 : (if j = 1 then go + ge else max (go + ge * (j : Int)) (yp + go + ge)) = d0
      have od : Rs.InS 32 (d0 + ys) := by
        rw [← hd0]; split
        · exact o6
        · exact inS_max o7 o8
      simp only [idx2_bind (arr_wr hD curr 0 hc d0) curr 0 hc z, rd_wr_self hD curr 0 hc z]
      refine GenSrc.Post.bind (A := fun x => ∃ tb, x = ((wr S curr 0 (max d0 yp), wr I curr 0 MIN, wr D curr 0 d0, Lx, Ly, Sn, T,
        (go, ge, msc, xp, xs, yp, ys), bd, k, w), tb)) ?_ ?_
      · -- `S[curr][0]`: the better of `D[curr][0]` and the y prefix clip
        split <;> rename_i h <;> simp only [decide_eq_true_eq] at h <;>
          simp only [idx2_bind (arr_wr hD curr 0 hc d0) curr 0 hc z, rd_wr_self hD curr 0 hc z, setIdx2_bind hS curr 0 hc z, ok_bind]
        · rw [show max d0 yp = d0 by omega]; exact GenSrc.Post.ok ⟨_, rfl⟩
        · rw [show max d0 yp = yp by omega]; exact GenSrc.Post.ok ⟨_, rfl⟩
      · rintro _ ⟨tb2, rfl⟩
        have os : Rs.InS 32 (max d0 yp + ys) := inS_max od o9
        generalize hs0 : max d0 yp = s0 at os ⊢
        simp only [idx2_bind (arr_wr hS curr 0 hc s0) curr 0 hc z, rd_wr_self hS curr 0 hc z, Rs.iadd_ok os, ok_bind,
          GenSrc.idx_getD Sn 0 0 zSn]
        refine GenSrc.Post.bind (A := fun st => ∃ Sn' Ly' T', st = (wr S curr 0 s0, wr I curr 0 MIN, wr D curr 0 d0, Lx, Ly', Sn', T',
          (go, ge, msc, xp, xs, yp, ys), bd, k, w) ∧ Sn'.length = Sn.length ∧ Sn'.getD 0 0 = max (Sn.getD 0 0) (s0 + ys) ∧
          (∀ i, i ≠ 0 → Sn'.getD i 0 = Sn.getD i 0) ∧ Ly'.length = Ly.length) ?_ ?_
        · split <;> rename_i h <;> simp only [decide_eq_true_eq] at h
          · simp only [idx2_bind (arr_wr hS curr 0 hc s0) curr 0 hc z, rd_wr_self hS curr 0 hc z, Rs.iadd_ok os, ok_bind,
              Rs.setIdx_ok zSn, Rs.sub_ok hjn, Rs.setIdx_ok zLy]
            exact GenSrc.Post.ok ⟨_, _, _, rfl, List.length_set, by rw [List.getD_set_self _ _ _ _ zSn]; omega,
              fun i hi => List.getD_set_ne _ _ _ _ _ (fun e => hi e.symm), List.length_set⟩
          · exact GenSrc.Post.ok ⟨Sn, Ly, T, rfl, rfl, by omega, fun _ _ => rfl, rfl⟩
        · rintro _ ⟨Sn', Ly', T', rfl, h1, h2, h3, h4⟩
          exact GenSrc.Post.ok ⟨d0, s0, Sn', Ly', _, rfl, rfl, hs0.symm, h1, h2, h3, h4⟩

end
end RbV.Thm.GenSrcBandedCols
