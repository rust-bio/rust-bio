import RbV.Thm.GenSrcPoaWalk
import RbV.Lemmas.PoaHistory
/-!
# `Poa::custom` as translated from the source text reports the score of the checked-`i32` mirror — tie-robust

Everything here is stated on *scores*: a Rust row represents a model row when the band agrees and the cells have the same
scores position by position (`RowRepG TT`: the walk of `GenSrcPoaWalk` read with operations unrelated, recording `Model.CellOK` of
every operation written); which of several equally scored candidates a `max` keeps (its operation) is left
open, so the proofs stand when a tie-break of the text changes (the arguments of the inner `max` swapped).
`custom_rep`: the matrix the translated `custom` returns stands for the table of `Model.customTableC` (`MInvG`, suffix clipping
included).  `custom_score_eq_model`: whenever `Model.customTableC` is `some t` (no `i32` overflow), the translated `custom` returns a
traceback `tb` with `tb.last = t.last`, `tb.cols = t.n` and `get(last + 1, n).score = t.score` — the score
`Traceback::alignment` reports (`alignment_score`).
-/
set_option linter.unusedSimpArgs false
set_option linter.unnecessarySimpa false
namespace RbV.Thm.GenSrcPoaScore
open RbV RbV.NW RbV.Rs RbV.Rs.Res RbV.Poa RbV.Poa.Model RbV.Gen.SrcPoaAlign RbV.Thm.GenSrcPoaAlign RbV.Thm.GenSrcPoaWalk
open RbV.Thm.GenSrcI32 (iadd32_some)

/-- the score-level reading of `GenSrcPoaWalk`: operations unrelated -/
abbrev TT : POp → POp → Prop := fun _ _ => True

theorem for3_foldS (sc : Sc) (tb : Rs.Poa.Traceback) (r v j b : Nat) (hj : 1 ≤ j) (rowsM : Nat → BRow) (P : POp → Prop) :
    ∀ (prevs : List Nat) (acc accM resM : Cell), acc.score = accM.score → P acc.op →
    (∀ p ∈ prevs, P (.m (some (p, v))) ∧ P (.d (some (p, v + 1)))) →
    (∀ p ∈ prevs, p + 1 < 2 ^ 64 ∧ ∀ c, ∃ x, Traceback_get tb (p + 1) c = ok x ∧ x.score = ((rowsM p).get c).score) →
    foldlC (predC sc v r b j) accM (prevs.map fun p => (p, rowsM p)) = some resM →
    ∃ res, List.foldlM (custom_for3 sc.w sc.gap tb r (v + 1) b j) acc prevs = ok res ∧ res.score = resM.score ∧ P res.op
  | [], acc, accM, resM, ha, hPa, _, _, h => by
    simp only [List.map_nil, foldlC, Option.some.injEq] at h
    exact ⟨acc, by simp, by rw [ha, h], hPa⟩
  | p :: prevs, acc, accM, resM, ha, hPa, hPp, hp, h => by
    obtain ⟨hPm, hPd⟩ := hPp p (List.mem_cons_self ..)
    simp only [List.map_cons] at h
    obtain ⟨accM', h1, h2⟩ := foldlC_cons_some h
    obtain ⟨hp1, hp2⟩ := hp p (List.mem_cons_self ..)
    obtain ⟨x1, hx1, ex1⟩ := hp2 (j - 1)
    obtain ⟨x2, hx2, ex2⟩ := hp2 j
    obtain ⟨ms, ds, hm, hd, rfl⟩ := predC_some h1
    rw [← ex1] at hm
    rw [← ex2] at hd
    have e1 : ∃ acc', custom_for3 sc.w sc.gap tb r (v + 1) b j acc p = ok acc' ∧
        acc'.score = (cmax accM (cmax ⟨ms, .m (some (p, v))⟩ ⟨ds, .d (some (p, v + 1))⟩)).score ∧ P acc'.op := by
      unfold custom_for3
      simp only [Rs.add_ok hp1, Res.ok_bind, Rs.sub_ok hj, hx1, hx2, iadd32_some hm, iadd32_some hd,
        Rs.sub_ok (Nat.le_add_left 1 p), Rs.sub_ok (Nat.le_add_left 1 v), Nat.add_sub_cancel, Res.pure_eq_ok]
      refine ⟨_, rfl, ?_, ?_⟩
      · simp only [cmax_score, ha]
        try omega
      · exact cmax2_op P _ _ hPa (cmax2_op P _ _ (by first | exact hPm | exact hPd) (by first | exact hPd | exact hPm))
    obtain ⟨acc', e1, ea, eP⟩ := e1
    obtain ⟨res, e2, er, eo⟩ := for3_foldS sc tb r v j b hj rowsM P prevs acc' _ resM ea eP
      (fun q hq => hPp q (List.mem_cons_of_mem _ hq)) (fun q hq => hp q (List.mem_cons_of_mem _ hq)) h2
    exact ⟨res, by simp only [List.foldlM_cons, e1, Res.ok_bind]; exact e2, er, eo⟩

theorem for3_score (sc : Sc) (v : Nat) (prevs : List Nat) (P : POp → Prop)
    (hP : ∀ p ∈ prevs, P (.m (some (p, v))) ∧ P (.d (some (p, v + 1)))) : For3 TT P sc v prevs := by
  intro tb r j b rowsM acc accM resM hj hacc hPa hp h
  obtain ⟨res, e, es, eo⟩ := for3_foldS sc tb r v j b hj rowsM P prevs acc accM resM hacc.1 hPa hP
    (fun p hpm => ⟨(hp p hpm).1, fun c => (hp p hpm).2 c |>.imp fun _ h => ⟨h.1, h.2.1⟩⟩) h
  exact ⟨res, e, ⟨es, trivial⟩, eo⟩

theorem ops_cellOK (sc : Sc) (es : WEdges) (L : Nat) : Ops TT (CellOK es L) sc es := by
  exact ⟨fun v => ⟨.del0, .x0⟩, fun v j hj => ⟨.mNone hj, .x0, .ins hj⟩,
    fun v j hj => for3_score sc v _ _ fun p hp => ⟨CellOK.predM hj hp, CellOK.predD hj hp⟩⟩

/-- the operations stored in the Rust matrix are local (tie-independent: whatever a `max` kept) -/
structure OInv (es : WEdges) (L : Nat) (M : List Row) : Prop where
  r0 : ∃ cs e, M[0]? = some (cs, 0, e) ∧ 0 < e ∧ e ≤ cs.length ∧
    ∀ k c, cs[k]? = some c → (c.op = .m none ∧ k = 0) ∨ c.op = .i none ∨ c.op = .y 0 k
  rows : ∀ v cs s e, M[v + 1]? = some (cs, s, e) → s = 0 ∧ ∀ k c, cs[k]? = some c → CellOK es L v k c.op

theorem mapC_row0Cell_ops (gap yclip : Int) : ∀ (l : List Nat) (cs : List Cell), mapC (row0Cell gap yclip) l = some cs →
    ∀ (k : Nat) (c : Cell), cs[k]? = some c → ∃ j, l[k]? = some j ∧ (c.op = .i none ∨ c.op = .y 0 j)
  | [], cs, h => by simp only [mapC, Option.some.injEq] at h; subst h; intro k c hc; simp at hc
  | j :: l, cs, h => by
    obtain ⟨b, bs, h1, h2, rfl⟩ := mapC_cons_some h
    intro k c hc
    cases k with
    | zero =>
      simp only [List.getElem?_cons_zero, Option.some.injEq] at hc
      subst hc
      refine ⟨j, rfl, ?_⟩
      unfold row0Cell at h1
      cases hg : I32.mul gap (I32.ofUsize j) with
      | none => rw [hg] at h1; cases h1
      | some g =>
        rw [hg] at h1
        simp only [Option.some.injEq] at h1
        rw [← h1]
        rcases cmax_op (⟨g, .i none⟩ : Cell) ⟨yclip, .y 0 j⟩ with e | e
        · left; rw [e]
        · right; rw [e]
    | succ k =>
      simp only [List.getElem?_cons_succ] at hc ⊢
      exact mapC_row0Cell_ops gap yclip l bs h2 k c hc

theorem bRow0C_ops {gap yclip : Int} {n : Nat} {r0 : BRow} (h : bRow0C gap yclip n = some r0) :
    ∀ k c, r0.cells[k]? = some c → (c.op = .m none ∧ k = 0) ∨ c.op = .i none ∨ c.op = .y 0 k := by
  obtain ⟨_, cs, _, h1, rfl⟩ := bRow0C_some h
  intro k c hk
  cases k with
  | zero => simp only [List.getElem?_cons_zero, Option.some.injEq] at hk; left; rw [← hk]; exact ⟨rfl, rfl⟩
  | succ k =>
    simp only [List.getElem?_cons_succ] at hk
    obtain ⟨j, hj, hop⟩ := mapC_row0Cell_ops gap yclip _ cs h1 k c hk
    have hjk : j = k + 1 := by
      have hm := List.mem_of_getElem? hj
      have hlt : k < (List.range' 1 n).length := by
        rcases Nat.lt_or_ge k (List.range' 1 n).length with h' | h'
        · exact h'
        · rw [List.getElem?_eq_none h'] at hj; cases hj
      rw [List.getElem?_eq_getElem hlt, List.getElem_range'] at hj
      simp only [Option.some.injEq] at hj; omega
    right
    rcases hop with e | e
    · left; exact e
    · right; rw [e, hjk]

theorem oinv_of_minvG {es : WEdges} {L n : Nat} {M : List Row} {gap yp : Int} {r0 : BRow} {rows : Array BRow} {seen : List Nat}
    (h0 : bRow0C gap yp n = some r0) (h : MInvG TT (CellOK es L) M (r0.cells, 0, n + 1) r0 rows n seen) : OInv es L M := by
  refine ⟨⟨r0.cells, n + 1, h.r0.1, Nat.succ_pos n, by rw [(bRow0C_shape h0).2.2]; exact Nat.le_refl _, bRow0C_ops h0⟩, ?_⟩
  intro v cs s e hM
  have hv : v < rows.size := by have := lt_of_getElem? hM; rw [h.len] at this; exact Nat.lt_of_succ_lt_succ this
  by_cases hs : v ∈ seen
  · obtain ⟨cs', h1, h2, h3⟩ := h.vis v hs
    rw [hM] at h1
    simp only [Option.some.injEq, Prod.mk.injEq] at h1
    obtain ⟨rfl, rfl, rfl⟩ := h1
    refine ⟨rfl, fun k c hk => ?_⟩
    rcases Nat.lt_or_ge k cs'.length with hlt | hge
    · rw [List.getElem?_append_left hlt] at hk
      have := h2.ops k c hk
      rw [Nat.zero_add] at this; exact this
    · -- the padding cell behind the band
      rw [List.getElem?_append_right hge] at hk
      have hk0 : 0 < k := by rw [h2.length, h3] at hge; omega
      cases hk2 : k - cs'.length with
      | zero =>
        rw [hk2] at hk; simp only [List.getElem?_cons_zero, Option.some.injEq] at hk; rw [← hk]
        exact .mNone hk0
      | succ m => rw [hk2] at hk; simp at hk
  · rw [h.idle v hv hs] at hM
    simp only [Option.some.injEq, Prod.mk.injEq] at hM
    obtain ⟨rfl, rfl, rfl⟩ := hM
    exact ⟨rfl, fun k c hk => by simp at hk⟩

theorem xSuffixC_mir_le (xs : Int) (lastI N : Nat) : ∀ (mcs : List (Int × Nat)) (cs : List Cell) (col : Nat) (mir : Int × Nat)
    (rest : List Cell) (mir' : Int × Nat), xSuffixC xs lastI col mcs cs mir = some (rest, mir') → mir.2 ≤ N →
    col + mcs.length ≤ N + 1 → mir'.2 ≤ N
  | [], cs, col, mir, rest, mir', h, hm, _ => by
    simp only [xSuffixC, Option.some.injEq, Prod.mk.injEq] at h; rw [← h.2]; exact hm
  | mc :: mcs, [], col, mir, rest, mir', h, hm, _ => by
    simp only [xSuffixC, Option.some.injEq, Prod.mk.injEq] at h; rw [← h.2]; exact hm
  | mc :: mcs, c :: cs, col, mir, rest, mir', h, hm, hc => by
    have hc' : col + 1 + mcs.length ≤ N + 1 := by rw [Nat.add_assoc, Nat.add_comm 1]; exact hc
    rcases xSuffixC_cons_some h with ⟨_, r1, hr, _⟩ | ⟨_, s, r1, _, hr, _⟩
    · exact xSuffixC_mir_le xs lastI N mcs cs _ _ r1 mir' hr hm hc'
    · refine xSuffixC_mir_le xs lastI N mcs cs _ _ r1 mir' hr ?_ hc'
      split
      · exact Nat.le_of_lt_succ (Nat.lt_of_lt_of_le (Nat.lt_add_of_pos_right (Nat.succ_pos _)) hc)
      · exact hm

theorem xSuffixC_length (xs : Int) (lastI : Nat) : ∀ (mcs : List (Int × Nat)) (cs : List Cell) (col : Nat) (mir : Int × Nat)
    (rest : List Cell) (mir' : Int × Nat), xSuffixC xs lastI col mcs cs mir = some (rest, mir') → rest.length = cs.length
  | [], cs, col, mir, rest, mir', h => by
    simp only [xSuffixC, Option.some.injEq, Prod.mk.injEq] at h; rw [← h.1]
  | mc :: mcs, [], col, mir, rest, mir', h => by
    simp only [xSuffixC, Option.some.injEq, Prod.mk.injEq] at h; rw [← h.1]
  | mc :: mcs, c :: cs, col, mir, rest, mir', h => by
    rcases xSuffixC_cons_some h with ⟨_, r1, hr, rfl⟩ | ⟨_, s, r1, _, hr, rfl⟩ <;>
      rw [List.length_cons, List.length_cons, xSuffixC_length xs lastI mcs cs _ _ r1 mir' hr]

/-- X suffix clipping (`custom_for4`) over the columns `col ..` of the last row -/
theorem for4_foldS (w : Nat → Nat → Int) (xs : Int) (L n : Nat) (tb0 : Rs.Poa.Traceback) (M0 : List Row)
    (hL : L + 1 < 2 ^ 64) (hlen : L + 1 < M0.length) (htl : tb0.last = L) (junk : List Cell) (es : WEdges) :
    ∀ (mcs : List (Int × Nat)) (col : Nat) (preS sufS cs : List Cell) (mir : Int × Nat) (rest : List Cell) (mir' : Int × Nat),
    preS.length = col → cs.length = mcs.length → col + mcs.length = n + 1 → RelC TT (CellOK es L L) col sufS cs →
    xSuffixC xs (L + 1) col mcs cs mir = some (rest, mir') →
    ∃ restS, RelC TT (CellOK es L L) col restS rest ∧
      List.foldlM (custom_for4 w xs) ({ tb0 with matrix := M0.set (L + 1) (preS ++ sufS ++ junk, 0, n + 1) }, mir) (Rs.enumFrom col mcs) =
        ok ({ tb0 with matrix := M0.set (L + 1) (preS ++ restS ++ junk, 0, n + 1) }, mir')
  | [], col, preS, sufS, cs, mir, rest, mir', hpre, hcs, hcol, hrel, h => by
    cases cs with
    | cons a l => simp at hcs
    | nil =>
      cases sufS with
      | cons a l => exact hrel.elim
      | nil =>
        simp only [xSuffixC, Option.some.injEq, Prod.mk.injEq] at h
        obtain ⟨rfl, rfl⟩ := h
        exact ⟨[], trivial, by simp [Rs.enumFrom]⟩
  | mc :: mcs, col, preS, sufS, cs, mir, rest, mir', hpre, hcs, hcol, hrel, h => by
    cases cs with
    | nil => simp at hcs
    | cons c cs =>
      cases sufS with
      | nil => exact hrel.elim
      | cons a sufS =>
        obtain ⟨⟨hac, hoffa⟩, hrelt⟩ := hrel
        simp only [List.length_cons] at hcs hcol
        generalize htb : ({ tb0 with matrix := M0.set (L + 1) (preS ++ a :: sufS ++ junk, 0, n + 1) } : Rs.Poa.Traceback) = tb
        have hmat : tb.matrix = M0.set (L + 1) (preS ++ a :: sufS ++ junk, 0, n + 1) := by rw [← htb]
        have hlast : tb.last = L := by rw [← htb]; exact htl
        have hrow : tb.matrix[L + 1]? = some (preS ++ a :: sufS ++ junk, 0, n + 1) := by rw [hmat]; simp [List.getElem?_set, hlen]
        have hcolget : (preS ++ a :: sufS ++ junk)[col]? = some a := by
          rw [← hpre, List.append_assoc]; exact getElem?_append_len preS a (sufS ++ junk)
        have hcoln : col < n + 1 := by rw [← hcol]; exact Nat.lt_add_of_pos_right (Nat.succ_pos _)
        have hcol' : col + 1 + mcs.length = n + 1 := by rw [← hcol, Nat.add_assoc, Nat.add_comm 1]
        have hg : Traceback_get tb (L + 1) col = ok a := by
          rw [get_row tb (L + 1) col _ (n + 1) hrow hcoln (lt_of_getElem? hcolget)]
          simp only [List.getD_eq_getElem?_getD, hcolget, Option.getD_some]
        simp only [Rs.enumFrom, List.foldlM_cons]
        rcases xSuffixC_cons_some h with ⟨hskip, rest1, hr, rfl⟩ | ⟨hskip, s, rest1, ha, hr, rfl⟩
        · -- the column maximum sits in the last row itself: `continue`
          obtain ⟨restS, e1, ih⟩ := for4_foldS w xs L n tb0 M0 hL hlen htl junk es mcs (col + 1) (preS ++ [a]) sufS cs mir rest1 mir'
            (by simp [hpre]) (Nat.succ.inj hcs) hcol' hrelt hr
          refine ⟨a :: restS, ⟨⟨hac, hoffa⟩, e1⟩, ?_⟩
          have e : custom_for4 w xs (tb, mir) (col, mc) = ok (tb, mir) := by
            unfold custom_for4
            obtain ⟨m1, m2⟩ := mc
            simp only at hskip
            simp only [hlast, Rs.add_ok hL, Res.ok_bind, hskip, decide_true, if_true, Res.pure_eq_ok]
          rw [e]
          simp only [Res.ok_bind, ← htb]
          simp only [List.append_assoc, List.singleton_append, List.cons_append, List.nil_append] at ih ⊢
          exact ih
        · have hcell : Rel TT (cmax a ⟨s, .x mc.2⟩) (cmax c ⟨s, .x mc.2⟩) := rel_cmax hac ⟨rfl, trivial⟩
          have esc := hcell.1
          have hnew : CellOK es L L col (cmax a ⟨s, .x mc.2⟩).op := by
            rcases cmax_op a ⟨s, .x mc.2⟩ with hh | hh
            · rw [hh]; exact hoffa
            · rw [hh]; exact .suffixX mc.2
          obtain ⟨restS, e1, ih⟩ := for4_foldS w xs L n tb0 M0 hL hlen htl junk es mcs (col + 1) (preS ++ [cmax a ⟨s, .x mc.2⟩]) sufS cs _ rest1 mir'
            (by simp [hpre]) (Nat.succ.inj hcs) hcol' hrelt hr
          refine ⟨cmax a ⟨s, .x mc.2⟩ :: restS, ⟨⟨hcell, hnew⟩, e1⟩, ?_⟩
          have hsetl : (preS ++ a :: sufS ++ junk).set col (cmax a ⟨s, .x mc.2⟩) = preS ++ cmax a ⟨s, .x mc.2⟩ :: sufS ++ junk := by
            rw [← hpre]
            simp only [List.append_assoc, List.cons_append]
            exact set_append_len preS a _ (sufS ++ junk)
          have hset : Traceback_set tb (L + 1) col (cmax a ⟨s, .x mc.2⟩) =
              ok { tb0 with matrix := M0.set (L + 1) (preS ++ cmax a ⟨s, .x mc.2⟩ :: sufS ++ junk, 0, n + 1) } := by
            rw [set_row tb (L + 1) col _ _ (n + 1) hrow (Nat.le_of_lt hcoln) (lt_of_getElem? hcolget)]
            simp only [hsetl, hmat, List.set_set]
            rw [← htb]
          have e : custom_for4 w xs (tb, mir) (col, mc) =
              ok ({ tb0 with matrix := M0.set (L + 1) (preS ++ cmax a ⟨s, .x mc.2⟩ :: sufS ++ junk, 0, n + 1) },
                if mir.1 < (cmax c ⟨s, .x mc.2⟩).score then ((cmax c ⟨s, .x mc.2⟩).score, col) else mir) := by
            unfold custom_for4
            obtain ⟨m1, m2⟩ := mc
            simp only at hskip ha
            simp only [hlast, Rs.add_ok hL, Res.ok_bind, hskip, decide_false, Bool.false_eq_true, if_false, hg, iadd32_some ha,
              Res.pure_eq_ok, hset, esc]
            by_cases hlt : mir.1 < (cmax c ⟨s, .x m2⟩).score <;> simp [hlt]
          rw [e]
          simp only [Res.ok_bind]
          simp only [List.append_assoc, List.singleton_append, List.cons_append, List.nil_append] at ih ⊢
          exact ih

/-- what the proofs need of the graph — true of every non-empty well-formed DAG (`graphOK_of_dag`) -/
structure GraphOK (labels : List Nat) (es : WEdges) : Prop where
  ne : labels ≠ []
  preds : ∀ v, ∀ p ∈ inN es v, p < labels.length ∧ p ≠ v
  nodup : (topo labels.length es).Nodup
  lt : ∀ v ∈ topo labels.length es, v < labels.length
  topo_ne : topo labels.length es ≠ []

theorem graphOK_of_dag (g : G) (h : Dag g) : GraphOK g.labels g.es := by
  obtain ⟨vis, h1, h2, h3, _⟩ := h.topo_spec
  have hn := h.pos
  refine ⟨h.ne, ?_, by rw [h1]; exact List.pairwise_reverse.2 (List.Pairwise.imp (fun hh => Ne.symm hh) h2), ?_, ?_⟩
  · intro v p hp
    obtain ⟨w, hw⟩ := (mem_inN g.es v p).mp hp
    refine ⟨(h.wf _ hw).1, ?_⟩
    intro hpv
    subst hpv
    exact h.acyclic p (Reach.step (List.mem_map.mpr ⟨(p, p, w), hw, rfl⟩))
  · intro v hv
    rw [h1, List.mem_reverse] at hv
    exact (h3 v).mp hv
  · intro he
    have : 0 ∈ vis := (h3 0).mpr hn
    rw [h1] at he
    simp only [List.reverse_eq_nil_iff] at he
    rw [he] at this
    cases this

/-- **the translated `Poa::custom` returns a matrix that stands for the table of the checked-`i32` mirror**, suffix clipping
included: whenever `Model.customTableC` is `some t` -/
theorem custom_rep (sc : Sc) (xp xs yp ys : Int) (labels : List Nat) (es : WEdges) (query : List Nat) (t : BTable)
    (hg : GraphOK labels es) (hm : labels.length + 1 < 2 ^ 64) (hn : query.length + 1 < 2 ^ 64)
    (h : customTableC sc xp xs yp ys labels es query = some t) :
    ∃ tb, custom sc.w ⟨labels, es⟩ sc.gap xp xs yp ys query = ok tb ∧ tb.last = t.last ∧ tb.cols = t.n ∧ tb.rows = labels.length ∧
      t.rows.size = labels.length ∧
      MInvG TT (CellOK es t.last) tb.matrix (t.r0.cells, 0, t.n + 1) t.r0 t.rows t.n (t.last :: (topo labels.length es).reverse) := by
  obtain ⟨r0, st, cells1, mir, s, h0, hst, hx, hy, rfl⟩ := customTableC_some h
  obtain ⟨hne, hpreds, hnd, hlt, htopo⟩ := hg
  simp only []
  generalize hL : (topo labels.length es).getLastD 0 = L at *
  generalize hnq : query.length = n at *
  have hq : query.length = n := hnq
  have hinit := @init_bind (Rs.Poa.Traceback) labels.length n sc.gap yp r0 h0 hn hm
  obtain ⟨tb1, e1, er1, ec1, el1, hsz1, hmic1, hinv1⟩ := for1_fold (T := TT) (C := CellOK es L) (fun _ => trivial)
    sc xp labels es query _ r0 (ops_cellOK sc es L) hm (by omega) hpreds (topo labels.length es)
    { rows := Array.replicate labels.length (emptyRow query.length), maxcol := List.replicate (query.length + 1) ((0 : Int), 0) } st
    { rows := labels.length, cols := n, last := 0,
      matrix := (r0.cells, 0, n + 1) :: List.replicate labels.length ([], 0, n + 1) } []
    hnd (fun v hv => ⟨hlt v hv, by simp⟩) (by simp) (by simp [hq])
    (by rw [hq]; exact minvG_init (fun _ => trivial) h0 labels.length) (by rw [hq]; exact hst)
  rw [hq] at e1 hmic1 hinv1
  simp only [List.append_nil] at hinv1
  have hLmem : L ∈ topo labels.length es := by rw [← hL]; exact getLastD_mem _ _ htopo
  have hLlt : L < labels.length := hlt L hLmem
  have hL64 : L + 1 < 2 ^ 64 := Nat.lt_trans (Nat.succ_lt_succ hLlt) hm
  have htl1 : tb1.last = L := by rw [el1]; cases htp : topo labels.length es with
    | nil => exact absurd htp htopo
    | cons a l => rw [htp] at hL; simpa [List.getLastD] using hL
  -- the last row: `csL ++ [mcell]` stands for the mirror's
  obtain ⟨csL, hrowL, hrelL, hmodlen⟩ := hinv1.vis L (by simpa using hLmem)
  obtain ⟨rrL, hrr, hrepL⟩ := hinv1.rws L (by rw [hsz1]; exact hLlt)
  rw [hrowL] at hrr
  simp only [Option.some.injEq] at hrr
  subst hrr
  rw [map_get_range _ n hrepL.start.symm (Nat.le_of_eq hrepL.stop) hmodlen] at hx
  have hLlen : L + 1 < tb1.matrix.length := lt_of_getElem? hrowL
  have hc1len : cells1.length = n + 1 := by rw [xSuffixC_length _ _ _ _ _ _ _ _ hx, hmodlen]
  have htb1 : tb1 = { tb1 with matrix := tb1.matrix.set (L + 1) ([] ++ csL ++ [mcell], 0, n + 1) } := by
    rw [List.nil_append, set_self_of_getElem? hrowL]
  obtain ⟨restS, erel, e4⟩ := for4_foldS sc.w xs L n tb1 tb1.matrix hL64 hLlen htl1 [mcell] es st.maxcol 0 [] csL _ (0, 0) cells1 mir
    rfl (by rw [hmodlen, hmic1]) (by simp [hmic1]) hrelL hx
  rw [← htb1] at e4
  simp only [List.nil_append] at e4
  have hrl : restS.length = n + 1 := by rw [erel.length, hc1len]
  generalize htb2 : ({ tb1 with matrix := tb1.matrix.set (L + 1) (restS ++ [mcell], 0, n + 1) } : Rs.Poa.Traceback) = tb2 at e4
  have hmat2 : tb2.matrix = tb1.matrix.set (L + 1) (restS ++ [mcell], 0, n + 1) := by rw [← htb2]
  have hrow2 : tb2.matrix[L + 1]? = some (restS ++ [mcell], 0, n + 1) := by rw [hmat2]; simp [List.getElem?_set, hLlen]
  have hlast2 : tb2.last = L := by rw [← htb2]; exact htl1
  have hnr : n < restS.length := by rw [hrl]; exact Nat.lt_succ_self n
  obtain ⟨c41, hc41⟩ : ∃ c41, restS[n]? = some c41 := ⟨restS[n], List.getElem?_eq_getElem hnr⟩
  have hc41' : (restS ++ [mcell])[n]? = some c41 := by rw [List.getElem?_append_left hnr]; exact hc41
  have hg41 : Traceback_get tb2 (L + 1) n = ok c41 := by
    rw [get_row tb2 (L + 1) n _ (n + 1) hrow2 (Nat.lt_succ_self n) (lt_of_getElem? hc41')]
    simp only [List.getD_eq_getElem?_getD, hc41', Option.getD_some]
  have hc41r : Rel TT c41 (cells1.getD n mcell) := by
    have := erel.getD (fun _ => trivial) n
    simpa [List.getD, hc41] using this
  have hmirle : mir.2 ≤ n := xSuffixC_mir_le xs (L + 1) n st.maxcol _ 0 (0, 0) cells1 mir hx (by simp) (by simp [hmic1])
  have hvsz : L < st.rows.size := by rw [hsz1]; exact hLlt
  have hassert : Rs.assert (decide (Rs.Poa.nodeCount (⟨labels, es⟩ : G) ≠ 0)) = ok () := by
    apply Rs.assert_ok
    cases labels with
    | nil => exact absurd rfl hne
    | cons a l => simp [Rs.Poa.nodeCount]
  have hfold : List.foldlM (custom_for1 sc.w ⟨labels, es⟩ sc.gap xp query n)
      (List.replicate (n + 1) ((0 : Int), 0), (⟨labels.length, n, 0, (r0.cells, 0, n + 1) :: List.replicate labels.length ([], 0, n + 1)⟩ : Rs.Poa.Traceback))
      (Rs.Poa.topoOrder ⟨labels, es⟩) = ok (st.maxcol, tb1) := e1
  unfold custom
  simp only [hassert, Res.ok_bind, Rs.Poa.nodeCount, hq, Rs.add_ok hn, hinit, hfold, enumerate_eq, e4, hlast2, Rs.add_ok hL64,
    hg41, iadd32_some hy]
  by_cases hmn : mir.2 = n
  · refine ⟨tb2, by simp [hmn, hne, Rs.assert], hlast2, by rw [← htb2, ec1], by rw [← htb2, er1],
      by rw [Array.size_setIfInBounds]; exact hsz1, ?_⟩
    simp only [hmn, ne_eq, not_true_eq_false, if_false]
    rw [hmat2]
    exact hinv1.write (fun _ => trivial) hvsz erel hc1len
  · have hset : Traceback_set tb2 (L + 1) n (cmax c41 ⟨s, .y mir.2 n⟩) =
        ok { tb2 with matrix := tb2.matrix.set (L + 1) (restS.set n (cmax c41 ⟨s, .y mir.2 n⟩) ++ [mcell], 0, n + 1) } := by
      rw [set_row tb2 (L + 1) n _ _ (n + 1) hrow2 (Nat.le_succ n) (lt_of_getElem? hc41'), List.set_append_left _ _ hnr]
    refine ⟨{ tb2 with matrix := tb2.matrix.set (L + 1) (restS.set n (cmax c41 ⟨s, .y mir.2 n⟩) ++ [mcell], 0, n + 1) },
      by simp [hmn, hset, hne, Rs.assert], hlast2, by rw [← htb2, ec1], by rw [← htb2, er1],
      by rw [Array.size_setIfInBounds]; exact hsz1, ?_⟩
    simp only [hmn, ne_eq, not_false_eq_true, if_true, hmat2, List.set_set, setAt]
    refine hinv1.write (fun _ => trivial) hvsz (erel.set n (rel_cmax hc41r ⟨rfl, trivial⟩) ?_) (by simp [hc1len])
    -- the cell keeps its operation or becomes `Yclip(mir.2, n)`, `mir.2 < n`
    rw [Nat.zero_add]
    rcases cmax_op c41 ⟨s, .y mir.2 n⟩ with hh | hh
    · rw [hh]; have := erel.ops n c41 hc41; rwa [Nat.zero_add] at this
    · rw [hh]
      exact .suffixY (by omega) hmirle

/-- **the translated `Poa::custom` reports the score of the checked-`i32` mirror `customTableC`** — all modes (any clip
penalties), every scoring and query, every graph with `GraphOK`; tie-robust -/
theorem custom_score_eq_model (sc : Sc) (xp xs yp ys : Int) (labels : List Nat) (es : WEdges) (query : List Nat) (t : BTable)
    (hg : GraphOK labels es) (hm : labels.length + 1 < 2 ^ 64) (hn : query.length + 1 < 2 ^ 64)
    (h : customTableC sc xp xs yp ys labels es query = some t) :
    ∃ tb, custom sc.w ⟨labels, es⟩ sc.gap xp xs yp ys query = ok tb ∧ tb.last = t.last ∧ tb.cols = t.n ∧ tb.rows = labels.length ∧
      tb.matrix.length = labels.length + 1 ∧ OInv es t.last tb.matrix ∧
      ∃ c, Traceback_get tb (tb.last + 1) tb.cols = ok c ∧ c.score = t.score := by
  obtain ⟨tb, e, el, ec, er, hsz, hinv⟩ := custom_rep sc xp xs yp ys labels es query t hg hm hn h
  obtain ⟨r0, _, _, _, _, h0, _, _, _, rfl⟩ := customTableC_some h
  have hL : (topo labels.length es).getLastD 0 < labels.length := hg.lt _ (getLastD_mem _ _ hg.topo_ne)
  obtain ⟨rr, hrr, hrep⟩ := hinv.rws ((topo labels.length es).getLastD 0) (by rw [hsz]; exact hL)
  obtain ⟨c, hc, hcs⟩ := getG (fun _ => trivial) tb ((topo labels.length es).getLastD 0 + 1) query.length rr _ hrr hrep
  refine ⟨tb, e, el, ec, er, by rw [hinv.len, hsz], oinv_of_minvG h0 hinv, c, by rw [el, ec]; exact hc, ?_⟩
  rw [hcs.1]
  simp only [BTable.score, BTable.cell, Nat.add_sub_cancel, Nat.add_one_ne_zero, if_false]

theorem alignment_score (tb : Rs.Poa.Traceback) (a : Rs.Poa.Alignment) (h : Traceback_alignment tb = ok a) :
    ∃ c, Traceback_get tb (tb.last + 1) tb.cols = ok c ∧ a.score = c.score := by
  unfold Traceback_alignment at h
  simp only [Res.bind_eq_ok, Res.pure_eq_ok] at h
  obtain ⟨t1, h1, st, _, t12, h12, c, hc, ha⟩ := h
  unfold Rs.add at h1 h12
  split at h1
  · rename_i hlt
    simp only [if_pos hlt, Res.ok.injEq] at h1 h12
    subst h1; subst h12
    simp only [Res.ok.injEq] at ha
    exact ⟨c, hc, by rw [← ha]⟩
  · cases h1

end RbV.Thm.GenSrcPoaScore
