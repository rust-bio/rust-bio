import RbV.Ref.SA
import RbV.Ref.SAComplete
import RbV.Ref.SAUnique
import RbV.Model.Kasai
import RbV.Model.Sus
import RbV.Model.Transform
import RbV.Model.SampledGet
import RbV.Model.LFMulti
import RbV.Model.PosTypes
import RbV.Lemmas.SaisMain
import RbV.Thm.GenSrcSmallInts
import RbV.Lemmas.SmallInts
import RbV.Thm.GenSrcSampledGet
import RbV.Thm.GenSrcOcc
import RbV.Lemmas.SaisWidth
import RbV.Gen.SaisWidth
import RbV.Thm.GenSrcSus
import RbV.Thm.GenSrcLcp
import RbV.Thm.GenSrcTransform
import RbV.Thm.GenSrcPosTypes
import RbV.Thm.GenSrcSaisBuckets
import RbV.Thm.GenSrcSaisCalcPos
import RbV.Thm.GenSrcSaisCalcPosSafe
import RbV.Thm.GenSrcSaisLms
import RbV.Thm.GenSrcSaisConstruct
/-!
# C03 — suffix array = sorted permutation of all suffixes; LCP; shortest unique substrings

The driver accepts a returned array `sa` for a byte text `t` iff `checkSA t sa`, for an integer text iff
`checkSorted t sa`; it compares the LCP array with `lcpRef t sa` and the shortest-unique-substring lengths with
`susRef t p`.  The file has four parts: what these oracles mean, for all texts and arrays (`checkSA_*`, `lcpRef_spec`,
`susRef_spec_*`) and that the mirror models of `lcp`, `shortest_unique_substrings`, `SampledSuffixArray::get` meet them; SA-IS
itself, (a)–(g), for the mirror model `RbV/Model/Sais.lean` up to `sais_model_sorted`; the integer widths of its dispatches;
and, unit by unit, the translated Rust text (`RbV/Gen/Src*.lean`) against the models, up to the two entry points
(`suffix_array_int_source_sorted`, `suffix_array_source_sorted_partial`).
-/
namespace RbV.Thm.C03

/-- **Soundness of the acceptance function.**  An accepted array is a permutation of all positions that is
strictly increasing in suffix order under *one* total order on the sentinel occurrences (ranks `rk`, all below
`B`, pairwise distinct, the final sentinel least; every sentinel below every other symbol, other symbols by
value).  Only adjacent pairs are compared by `checkSA`; transitivity of the lexicographic order lifts this to
all pairs. -/
theorem checkSA_sound (t sa : List Nat) (h : checkSA t sa = true) :
    ∃ B rk, SentinelOrder t B rk ∧
      sa.Perm (List.range t.length) ∧
      sa.Pairwise (fun i j => lexLt ((keyText t B rk).drop i) ((keyText t B rk).drop j)) := by
  obtain ⟨B, rk, ho, hp, hs⟩ := checkSA_isSA t sa h
  rw [length_keyText] at hp
  exact ⟨B, rk, ho, hp, hs⟩

example : checkSA [65, 36, 65, 36] [3, 1, 2, 0] = true := by decide +kernel
example : checkSA [36, 65, 36, 66, 36] [4, 2, 0, 1, 3] = true := by decide +kernel
example : checkSA [36, 65, 36, 66, 36] [4, 0, 2, 1, 3] = true := by decide +kernel  -- the other consistent sentinel order …
example : checkSA [36, 65, 36, 66, 36] [0, 4, 2, 1, 3] = false := by decide +kernel  -- … but the final sentinel must be least
example : checkSA [65, 36, 65, 36] [3, 1, 0, 2] = false := by decide +kernel  -- one order for *all* comparisons

/-- **Completeness of the acceptance function.**  If a non-empty text's array is a permutation sorted under
*any* sentinel order (final sentinel least), it is accepted: the order read off the array is then order-isomorphic
to the witness on the sentinel positions.  So `checkSA` never rejects an array on which the property holds. -/
theorem checkSA_complete (t sa : List Nat) (hne : t ≠ [])
    (h : ∃ B rk, SentinelOrder t B rk ∧
      sa.Perm (List.range t.length) ∧
      sa.Pairwise (fun i j => lexLt ((keyText t B rk).drop i) ((keyText t B rk).drop j))) :
    checkSA t sa = true := by
  obtain ⟨B, rk, ho, hp, hs⟩ := h
  apply checkSA_complete_aux t sa hne
  refine ⟨B, rk, ho, ?_, hs⟩
  rw [length_keyText]; exact hp

/-- acceptance is exactly the property (non-empty texts) -/
theorem checkSA_iff (t sa : List Nat) (hne : t ≠ []) : checkSA t sa = true ↔ IsSA t sa :=
  ⟨checkSA_isSA t sa, checkSA_complete_aux t sa hne⟩

/-- Integer texts (and any fixed key text): accepted iff it is the sorted permutation of all suffixes. -/
theorem checkSorted_iff_sorted (ks sa : List Nat) :
    checkSorted ks sa = true ↔
      (sa.Perm (List.range ks.length) ∧ sa.Pairwise (fun i j => lexLt (ks.drop i) (ks.drop j))) :=
  checkSorted_iff ks sa

example : checkSorted [3, 2, 2, 4, 4, 1, 2, 1, 0] [8, 7, 5, 6, 1, 2, 0, 4, 3] = true := by decide +kernel

/-- **Mirror model of `transform_text` ties SA-IS to the property**: if an array is the sorted suffix permutation
of the sentinel-aware rank transform of a text (what `Sais::construct` is asked to produce), then `IsSA t sa`: it satisfies
the property for the byte text, for a non-empty text whose last symbol is its smallest (`hmin`).  `IsSA` says "under some
consistent order of the sentinel occurrences" and does not expose which; the proof supplies "a later occurrence is smaller". -/
theorem transform_sorted_isSA (t sa : List Nat) (hne : t ≠ [])
    (hmin : ∀ p, p < t.length → sentinelOf t ≤ t.getD p 0)
    (hp : sa.Perm (List.range t.length))
    (hs : sa.Pairwise (fun i j => lexLt ((Transform.transformText t).drop i) ((Transform.transformText t).drop j))) :
    IsSA t sa :=
  Transform.transform_sorted_isSA t sa hne hmin ⟨by rw [Transform.length_transformText]; exact hp, hs⟩

example : Transform.transformText [65, 36, 67, 36, 65, 36] = [3, 2, 4, 1, 3, 0] := by decide +kernel

/-- **The sorted suffix permutation is unique**: for a fixed key text (an integer text, or a byte text with a
fixed sentinel order) two accepted arrays are equal — the property determines the result of `suffix_array_int`
completely, and that of `suffix_array` up to the order chosen for the sentinel occurrences. -/
theorem checkSorted_unique (ks sa sa' : List Nat) (h : checkSorted ks sa = true) (h' : checkSorted ks sa' = true) :
    sa = sa' :=
  suffixSorted_unique ks sa sa' ((checkSorted_iff ks sa).mp h) ((checkSorted_iff ks sa').mp h')

/-- the order used is a strict total order on lists (so "sorted" determines the array when suffixes differ) -/
theorem lexLt_strict_total (x y z : List Nat) :
    ¬ lexLt x x ∧ (lexLt x y → lexLt y z → lexLt x z) ∧ (x ≠ y → lexLt x y ∨ lexLt y x) :=
  ⟨lexLt_irrefl x, lexLt_trans, lexLt_total x y⟩

/-- `cpl a b` is the length of the longest common prefix: the first `cpl a b` symbols agree, and every
common prefix is at most that long. -/
theorem cpl_spec (a b : List Nat) :
    a.take (cpl a b) = b.take (cpl a b) ∧ cpl a b ≤ a.length ∧ cpl a b ≤ b.length ∧
    ∀ l, l ≤ a.length → l ≤ b.length → a.take l = b.take l → l ≤ cpl a b :=
  ⟨cpl_take a b, cpl_le_left a b, cpl_le_right a b, fun l h1 h2 h3 => cpl_max a b l h1 h2 h3⟩

/-- the reference LCP array: length n+1, −1 at both ends, entry r+1 = common prefix of the suffixes at
`sa[r]` and `sa[r+1]` -/
theorem lcpRef_spec (t sa : List Nat) (hne : sa ≠ []) :
    (lcpRef t sa).length = sa.length + 1 ∧ (lcpRef t sa)[0]? = some (-1) ∧
    (lcpRef t sa).getLast? = some (-1) ∧
    ∀ r, r + 1 < sa.length →
      (lcpRef t sa)[r + 1]? = some (cpl (t.drop (sa.getD r 0)) (t.drop (sa.getD (r + 1) 0)) : Int) :=
  ⟨length_lcpRef t sa hne, (lcpRef_ends t sa).1, (lcpRef_ends t sa).2, lcpRef_inner t sa⟩

example : lcpRef [1, 2, 1, 2, 0] [4, 2, 0, 3, 1] = [-1, 0, 2, 0, 1, -1] := by decide +kernel

/-- **Mirror model of `lcp()` (Kasai loop) refines the reference**: for every non-empty text and every
permutation of its positions that is sorted in suffix order and starts with `n-1`, the loop (running `l`, decrement
by one, `while` extension, `lcp.set(rank, l)`) returns `lcpRef t sa`. -/
theorem kasai_eq_lcpRef (t sa : List Nat) (hn : 0 < t.length)
    (hperm : sa.Perm (List.range t.length))
    (hsorted : sa.Pairwise (fun i j => lexLt (t.drop i) (t.drop j)))
    (hhead : sa.head? = some (t.length - 1)) :
    Kasai.kasai t sa = lcpRef t sa :=
  Kasai.kasai_eq_lcpRef t sa ⟨hperm, hsorted, hhead⟩ hn

/-- … and its hypotheses hold for every accepted array of a text whose last symbol is its unique smallest symbol
(`hsingle`: it occurs nowhere else; `hmin`: no symbol is below it) -/
theorem kasai_exact_of_checkSA (t sa : List Nat) (hc : checkSA t sa = true)
    (hsingle : ∀ p, t[p]? = some (sentinelOf t) → p = t.length - 1)
    (hmin : ∀ p, p < t.length → sentinelOf t ≤ t.getD p 0) :
    Kasai.kasai t sa = lcpRef t sa := by
  have hn : 0 < t.length := by
    cases t with
    | nil => simp [checkSA] at hc
    | cons a l => simp
  exact Kasai.kasai_eq_lcpRef t sa (Kasai.sorted_of_checkSA_single t sa hc hsingle hmin) hn

example : Kasai.kasai [1, 2, 1, 2, 0] [4, 2, 0, 3, 1] = [-1, 0, 2, 0, 1, -1] := by decide +kernel

/-- **Mirror model of `shortest_unique_substrings` refines the reference**: on a sorted suffix permutation
(first entry n−1) and its LCP array, the loop `len = 1 + max(lcp[i], lcp[i+1]); if n − p ≥ len { sus[p] =
Some(len) }` yields `susRef t p` at every position: the longest prefix a suffix shares with *any* other suffix is
shared with one of its two neighbours in the array.  (`n ≥ 2` is what the translated code needs, `sus_source_exact`; the
proof for the model does not use it.) -/
theorem sus_model_eq (t sa : List Nat) (hn : 2 ≤ t.length)
    (hperm : sa.Perm (List.range t.length))
    (hsorted : sa.Pairwise (fun i j => lexLt (t.drop i) (t.drop j)))
    (hhead : sa.head? = some (t.length - 1)) :
    Sus.susModel sa (lcpRef t sa) = (List.range t.length).map (susRef t) :=
  Sus.susModel_eq t sa ⟨hperm, hsorted, hhead⟩

example : Sus.susModel [7, 6, 3, 0, 4, 1, 5, 2] (lcpRef [71, 67, 84, 71, 67, 84, 65, 36] [7, 6, 3, 0, 4, 1, 5, 2])
    = [some 4, some 3, some 2, some 4, some 3, some 2, some 1, some 1] := by decide +kernel

/-- `susRef t p = some l`: the substring of length `l` starting at `p` lies inside the text, occurs nowhere
else, and every shorter non-empty substring starting at `p` has another occurrence. -/
theorem susRef_spec_some (t : List Nat) (p l : Nat) (h : susRef t p = some l) :
    1 ≤ l ∧ p + l ≤ t.length ∧
    (∀ q, OccursAt ((t.drop p).take l) t q → q = p) ∧
    (∀ l', 1 ≤ l' → l' < l → ∃ q, q ≠ p ∧ OccursAt ((t.drop p).take l') t q) :=
  susRef_some t p l h

/-- `susRef t p = none`: every non-empty substring starting at `p` occurs somewhere else as well. -/
theorem susRef_spec_none (t : List Nat) (p : Nat) (h : susRef t p = none) :
    ∀ l, 1 ≤ l → p + l ≤ t.length → ∃ q, q ≠ p ∧ OccursAt ((t.drop p).take l) t q :=
  susRef_none t p h

example : (List.range 8).map (susRef [71, 67, 84, 71, 67, 84, 65, 36]) =
    [some 4, some 3, some 2, some 4, some 3, some 2, some 1, some 1] := by decide +kernel

/-- **Mirror model of `SampledSuffixArray::get` is exact** (texts whose last symbol is their unique smallest
symbol): for the sorted suffix permutation `sa` of such a text (plain order of the suffixes, first entry n−1), its BWT
`bwtRef t sa`, a bound `m` above every symbol, every sampling rate `s ≥ 1`, every Occ sampling rate `k ≥ 1` and every row
`i`, the LF walk to the next sampled row (with the cached row for the BWT sentinel), run on the mirror models of `less()`,
`Occ::new` and `Occ::get`, returns `sa[i]`.  Rests on the LF-mapping lemma (`RbV/Model/LFMap.lean`). -/
theorem sampled_get_exact (t sa : List Nat) (s k m : Nat)
    (hperm : sa.Perm (List.range t.length))
    (hsorted : sa.Pairwise (fun i j => lexLt (t.drop i) (t.drop j)))
    (hhead : sa.head? = some (t.length - 1))
    (hpos : 0 < t.length)
    (hmin : ∀ p, p < t.length → t.getD (t.length - 1) 0 ≤ t.getD p 0)
    (huniq : ∀ p, p < t.length → t.getD p 0 = t.getD (t.length - 1) 0 → p = t.length - 1)
    (hs : 0 < s) (hk : 0 < k) (hm : ∀ x ∈ t, x < m) (i : Nat) (hi : i < t.length) :
    Sampled.sampledGet (bwtRef t sa) sa s (t.getD (t.length - 1) 0) (OccM.lessModel (bwtRef t sa) m)
      (fun r c => OccM.occGet (OccM.occNewLoop (bwtRef t sa) k c) (bwtRef t sa) k r c) i = some (sa.getD i 0) :=
  Sampled.sampled_get_correct_models t sa ⟨hperm, hsorted, hhead⟩ ⟨hpos, hmin, huniq⟩ s k hs hk m hm i hi

example : (List.range 6).map (Sampled.sampledGet (bwtRef [99, 97, 98, 99, 97, 36] [5, 4, 1, 2, 3, 0])
      [5, 4, 1, 2, 3, 0] 4 36 (OccM.lessModel (bwtRef [99, 97, 98, 99, 97, 36] [5, 4, 1, 2, 3, 0]) 101)
      (fun r c => OccM.occGet (OccM.occNewLoop (bwtRef [99, 97, 98, 99, 97, 36] [5, 4, 1, 2, 3, 0]) 3 c)
        (bwtRef [99, 97, 98, 99, 97, 36] [5, 4, 1, 2, 3, 0]) 3 r c))
    = [some 5, some 4, some 1, some 2, some 3, some 0] := by decide +kernel

/-- **… and for every text of the property's quantifier** (any number of sentinel occurrences, the sentinel being
the smallest symbol): for every array accepted by `checkSA`, `get(i) = sa[i]` at every row, for every sampling rate
and every Occ rate.  The LF step is exact for every row whose BWT symbol is not the sentinel (`LF.lf_row`,
`RbV/Model/LFMapping.lean`; an accepted array is `LF.Sorted` for every other symbol, `LFMulti.lfSorted_of_key`,
`RbV/Model/LFMulti.lean`); the other rows are answered from `extra_rows`. -/
theorem sampled_get_exact_all (t sa : List Nat) (s k m : Nat) (hc : checkSA t sa = true)
    (hmin : ∀ p, p < t.length → sentinelOf t ≤ t.getD p 0)
    (hs : 0 < s) (hk : 0 < k) (hm : ∀ x ∈ t, x < m) (i : Nat) (hi : i < t.length) :
    Sampled.sampledGet (bwtRef t sa) sa s (sentinelOf t) (OccM.lessModel (bwtRef t sa) m)
      (fun r c => OccM.occGet (OccM.occNewLoop (bwtRef t sa) k c) (bwtRef t sa) k r c) i = some (sa.getD i 0) :=
  LFMulti.sampled_get_correct_multi t sa hc hmin s k hs hk m hm i hi

/-- **SA-IS, first mechanism.**  Mirror model of `PosTypes::new` (`PosTypes.posTypes`; the translated text:
`postypes_new_source_correct`): in a text whose last symbol occurs nowhere else, a position is typed S
exactly when its suffix is smaller than the next suffix (and the last position is S). -/
theorem sais_postypes_partial (ks : List Nat)
    (hu : ∀ i, i + 1 < ks.length → ks.getD i 0 ≠ ks.getD (ks.length - 1) 0) (p : Nat) (hp : p < ks.length) :
    (PosTypes.posTypes ks)[p]? =
      some (decide (lexLt (ks.drop p) (ks.drop (p + 1))) || decide (p + 1 = ks.length)) :=
  PosTypes.posTypes_spec ks hu p hp

-- the LMS positions of the text of the repo's `test_pos_types`
example :
    let ty := PosTypes.posTypes [71, 67, 67, 84, 84, 65, 65, 67, 65, 84, 84, 65, 84, 84, 65, 67, 71, 67, 67, 84, 65, 36]
    (List.range 22).filter (fun p => p ≠ 0 && ty.getD p false && !ty.getD (p - 1) true) = [1, 5, 8, 11, 14, 17, 21] := by
  decide +kernel

/-! ## SA-IS itself: the mirror model `RbV/Model/Sais.lean` (run by the driver next to the implementation on every case)

`Sais.Valid t` is what `Sais::construct` expects of its text: non-empty, the last symbol is the unique minimum, the
alphabet is dense (`transform_text` establishes it).  The doc comment of `suffix_array_int` asks for density and a smallest
final sentinel but also allows "multiple sentinel symbols"; `Valid` (unique minimum) is the part covered here: no theorem of
this file is about an integer text in which the smallest symbol occurs more than once. -/

/-- **(a) `transform_text`** hands SA-IS a text it accepts, and the executable mirror (ranks looked up in the sorted
alphabet) equals the specification-level transform, whose order is that of the property: sentinels get distinct
ranks decreasing from left to right, below all other symbols, which keep their order (`Transform.transform_iso`). -/
theorem sais_transform_text (t : List Nat) (hne : t ≠ []) (hmin : ∀ p, p < t.length → sentinelOf t ≤ t.getD p 0) :
    Sais.transformText t = Transform.transformText t ∧ Sais.Valid (Transform.transformText t) ∧
    (∀ p q, p < t.length → q < t.length →
      ((Transform.transformText t).getD p 0 < (Transform.transformText t).getD q 0 ↔
        keyAt t (t.count (sentinelOf t)) (Transform.rkAfter t) p < keyAt t (t.count (sentinelOf t)) (Transform.rkAfter t) q)) :=
  ⟨Sais.transformText_eq t, Sais.valid_transformText t hne hmin, Transform.transform_iso t hne hmin⟩

example : Sais.transformText [65, 36, 67, 36, 65, 36] = [3, 2, 4, 1, 3, 0] := by decide +kernel

/-- **(b) first loop of `calc_lms_pos`**: `lms_pos` = exactly the LMS positions in ascending order, and
`reduced_text_pos[r]` = number of LMS positions before `r`, for every LMS position `r`. -/
theorem sais_lms_pos (ty : List Bool) (red : List Nat) (n : Nat) (hn : n ≤ red.length) :
    (Sais.forUp n (Sais.collectStep ty) ([], red, 0)).1 = (List.range n).filter (Sais.isLms ty) ∧
    (∀ r, r < n → Sais.isLms ty r = true →
      (Sais.forUp n (Sais.collectStep ty) ([], red, 0)).2.1.getD r 0 = ((List.range r).filter (Sais.isLms ty)).length) :=
  ⟨(Sais.collect_spec ty red n hn).1, (Sais.collect_spec ty red n hn).2.2.2.1⟩

example : (Sais.forUp 9 (Sais.collectStep (Sais.tyOf [3, 2, 2, 4, 4, 1, 2, 1, 0])) ([], List.replicate 9 0, 0)).1 = [1, 5, 8] := by
  decide +kernel

/-- **(c) `init_bucket_start`**: for a dense text, `bucket_start[c]` = number of symbols smaller than `c`
(prefix sums of the symbol counts, one bucket per symbol `0..max`). -/
theorem bucket_start_spec (t : List Nat) (hd : ∀ c x, x ∈ t → c ≤ x → c ∈ t) :
    Sais.initBucketStart t = (List.range (Sais.maxSucc t)).map (fun c => t.countP (fun x => decide (x < c))) :=
  Sais.initBucketStart_eq t hd

/-- **(c) `init_bucket_end`**: `bucket_end[c]` = (number of symbols ≤ `c`) − 1. -/
theorem bucket_end_spec (t : List Nat) (hne : t ≠ []) (hd : ∀ c x, x ∈ t → c ≤ x → c ∈ t) :
    Sais.initBucketEnd (Sais.initBucketStart t) t.length =
      (List.range (Sais.maxSucc t)).map (fun c => t.countP (fun x => decide (x < c + 1)) - 1) :=
  Sais.initBucketEnd_eq t hne hd

example : Sais.initBucketStart [3, 2, 2, 4, 4, 1, 2, 1, 0] = [0, 1, 3, 6, 7] ∧
    Sais.initBucketEnd (Sais.initBucketStart [3, 2, 2, 4, 4, 1, 2, 1, 0]) 9 = [0, 2, 5, 6, 8] := by decide +kernel

/-- **(d) `calc_pos` places every position exactly once**, whatever the order of the LMS positions in `lms_pos`
(every LMS position once): the `pos` of the mirror model `Sais.calcPosRun` is a permutation of all positions.  The proof goes
through the L pass and S pass invariants (bucket pointers stay inside their areas, no slot is written twice, no undefined
entry is read by the S pass, every L-type and S-type position is reached), which the statement does not contain; that
every index stays in range is stated for the translated code (`calc_pos_source_eq_model`). -/
theorem sais_calc_pos_perm (t : List Nat) (hv : Sais.Valid t) (lms : List Nat) (hl : Sais.LmsList t lms) :
    (Sais.calcPosRun t (Sais.tyOf t) lms).pos.Perm (List.range t.length) :=
  Sais.calcPos_perm t hv lms hl

/-- the mirror model of `suffix_array` returns a permutation of all positions (corollary of `Sais.suffixArray_isSA`; the
full statement is `sais_model_sorted`) -/
theorem model_is_perm (t : List Nat) (hne : t ≠ []) (hmin : ∀ p, p < t.length → sentinelOf t ≤ t.getD p 0) :
    (Sais.suffixArray t).Perm (List.range t.length) := by
  obtain ⟨B, rk, _, hp, _⟩ := Sais.suffixArray_isSA t hne hmin
  rw [length_keyText] at hp
  exact hp

/-- **(e) `induced_sort_correct`**: `calc_pos` run on the LMS positions sorted by their suffixes returns the sorted
suffix permutation (L-suffixes are placed in order from the left end of their buckets, then S-suffixes from the right
end).  The general form (`Sais.induced_sort`) is for any relation satisfying the induced-sorting axioms; it is also
used with the order of the typed LMS substrings for the first call. -/
theorem induced_sort_correct (t : List Nat) (hv : Sais.Valid t) (lms : List Nat)
    (hl : Sais.LmsList t lms) (hs : lms.Pairwise (fun p q => lexLt (t.drop p) (t.drop q))) :
    SuffixSorted t (Sais.calcPosRun t (Sais.tyOf t) lms).pos :=
  Sais.induced_sort_suffix t hv lms ⟨hl, hs⟩

set_option maxRecDepth 100000 in
example : (Sais.calcPosRun [3, 2, 2, 4, 4, 1, 2, 1, 0] (Sais.tyOf [3, 2, 2, 4, 4, 1, 2, 1, 0]) [8, 5, 1]).pos
    = [8, 7, 5, 6, 1, 2, 0, 4, 3] := by decide +kernel

/-- **(f) `lms_substring_eq`** (mirror model `Sais.lmsSubEq`) decides, for two different LMS positions, equality of the typed
LMS substrings (symbols with their L/S type from one LMS position to the next): comparing symbols and LMS flags only, as the code does, is enough. -/
theorem sais_lms_substring_eq (t : List Nat) (hv : Sais.Valid t) (i j : Nat)
    (hi : Sais.isLms (Sais.tyOf t) i = true) (hj : Sais.isLms (Sais.tyOf t) j = true) (hij : i ≠ j) :
    Sais.lmsSubEq t (Sais.tyOf t) i j = true ↔ Sais.key t i = Sais.key t j :=
  Sais.lmsSubEq_iff t hv i j hi hj hij

/-- **(f) the first call of `calc_pos`** (LMS positions in text order) sorts all positions by their typed LMS
substring. -/
theorem sais_first_pass (t : List Nat) (hv : Sais.Valid t) (h2 : 2 ≤ t.length) :
    (Sais.pos1 t).Perm (List.range t.length) ∧
    (Sais.pos1 t).Pairwise (fun x y => ¬ lexLt (Sais.key t y) (Sais.key t x)) :=
  ⟨Sais.SDone.perm (Sais.first_pass t hv), Sais.SDone.pairwise (Sais.first_pass t hv)⟩

/-- **(f)** … so that the suffixes of the reduced text compare exactly like the suffixes of the text at the LMS
positions (the reduced text being any list of labels that compares like the typed LMS substrings). -/
theorem sais_reduced_order (t : List Nat) (hv : Sais.Valid t) (h2 : 2 ≤ t.length) (red : List Nat)
    (hlen : red.length = (Sais.lmsBelow (Sais.tyOf t) t.length).length)
    (hord : ∀ a b, a < red.length → b < red.length →
      (red.getD a 0 < red.getD b 0 ↔
        lexLt (Sais.key t ((Sais.lmsBelow (Sais.tyOf t) t.length).getD a 0))
          (Sais.key t ((Sais.lmsBelow (Sais.tyOf t) t.length).getD b 0))) ∧
      (red.getD a 0 = red.getD b 0 ↔
        Sais.key t ((Sais.lmsBelow (Sais.tyOf t) t.length).getD a 0) =
          Sais.key t ((Sais.lmsBelow (Sais.tyOf t) t.length).getD b 0)))
    (a b : Nat) (ha : a < red.length) (hb : b < red.length) :
    (lexLt (red.drop a) (red.drop b) ↔
      lexLt (t.drop ((Sais.lmsBelow (Sais.tyOf t) t.length).getD a 0))
        (t.drop ((Sais.lmsBelow (Sais.tyOf t) t.length).getD b 0))) :=
  Sais.lms_suffix_order t hv h2 red hlen hord a b ha hb

/-- **(f) `calc_lms_pos` / `sort_lms_suffixes`**: afterwards `lms_pos` holds every LMS position exactly once, sorted by
suffix — by naming alone when all LMS substrings differ, else through the recursion on the reduced text (which is
again a text `Sais::construct` accepts, of less than the length). -/
theorem sais_lms_sorted (f : Nat) (t : List Nat) (hv : Sais.Valid t) (hn : t.length ≤ f + 1) (s : Sais.St)
    (hs : t.length ≤ s.redPos.length) :
    Sais.LmsList t (Sais.calcLmsPos (Sais.construct f) t (Sais.tyOf t) s).lmsPos ∧
    (Sais.calcLmsPos (Sais.construct f) t (Sais.tyOf t) s).lmsPos.Pairwise (fun p q => lexLt (t.drop p) (t.drop q)) :=
  Sais.calcLmsPos_sorted f (fun t' s' hv' hf hs' => Sais.construct_sorted f t' s' hv' hf hs') t hv hn s hs

/-- **(g) `Sais::construct` sorts**: for every text it accepts, with fuel ≥ length and `reduced_text_pos` at least as
long as the text (as `Sais::new(n)` allocates it), `pos` is the sorted suffix permutation. -/
theorem sais_construct_sorted (f : Nat) (t : List Nat) (s : Sais.St) (hv : Sais.Valid t) (hf : t.length ≤ f)
    (hs : t.length ≤ s.redPos.length) : SuffixSorted t (Sais.construct f t s).pos :=
  Sais.construct_sorted f t s hv hf hs

/-- **(g) `suffix_array_int`**: the model's output is accepted by `checkSorted` — it is the (unique) sorted suffix
permutation — for every integer text ending in its unique minimum with a dense alphabet. -/
theorem sais_int_model_sorted (t : List Nat) (hv : Sais.Valid t) : checkSorted t (Sais.suffixArrayInt t) = true :=
  (checkSorted_iff t _).mpr (Sais.suffixArrayInt_sorted t hv)

example : Sais.Valid [3, 2, 2, 4, 4, 1, 2, 1, 0] := Sais.valid_of_validB _ (by decide +kernel)
set_option maxRecDepth 100000 in
example : Sais.suffixArrayInt [3, 2, 2, 4, 4, 1, 2, 1, 0] = [8, 7, 5, 6, 1, 2, 0, 4, 3] := by decide +kernel

/-- **(g) `sais_model_sorted`**: for every non-empty byte text whose last symbol is its smallest one (the `assert!` of
`sentinel_count`), the mirror model of `suffix_array` returns an array that the acceptance function accepts, i.e. that
satisfies the property C03 (`checkSA_iff`): a permutation of all positions, sorted under one consistent order of the
sentinel occurrences.  No size bound, any number of sentinels, any recursion depth. -/
theorem sais_model_sorted (t : List Nat) (hne : t ≠ []) (hmin : ∀ p, p < t.length → sentinelOf t ≤ t.getD p 0) :
    checkSA t (Sais.suffixArray t) = true :=
  (checkSA_iff t _ hne).mpr (Sais.suffixArray_isSA t hne hmin)

-- two reads with equal LMS substrings across sentinels: one recursion level
set_option maxRecDepth 100000 in
example : Sais.suffixArray [98, 97, 110, 97, 110, 97, 36, 98, 97, 110, 97, 110, 97, 36] =
    [13, 6, 12, 5, 10, 3, 8, 1, 7, 0, 11, 4, 9, 2] := by decide +kernel

/-! ## `LCPArray = SmallInts<i8, isize>`: the container `lcp()` writes through, translated from the source text

`lcp()` builds its result with `SmallInts::from_elem(-1, n + 1)` and fills it exclusively through `set`; readers use
`get` / `iter`.  `RbV/Gen/SrcSmallInts.lean` is regenerated from `src/data_structures/smallints.rs` on every `./check C03`
(docs/notes/GEN.md, "Translated function bodies"); proofs in `RbV/Thm/GenSrcSmallInts.lean`, the container theorems proper
are C18's.  Stated here for the `i8` range `[-128, 127]`. -/
section lcp_container
open RbV.Thm.GenSrcSmallInts

/-- `SmallInts::from_elem(-1, m)`, as written, passes both assertions and builds `m` small entries `-1`; then any sequence
of `set`s at existing indices, run with the **translated** `set`, does not panic, and the translated `get` reads back, at
every index, the last value written there (or `-1`), `None` beyond the end — the plain-vector behaviour `lcp()` relies on,
including values `≥ 127` that go to the overflow map -/
theorem lcp_container_source_exact (m : Nat) (writes : List (Nat × Int)) (hw : ∀ x ∈ writes, x.1 < m) :
    Gen.SrcSmallInts.fromElem (β := Int) (cBS (-128) 127) cSB (cZ (-128) 127) ltI 127 1 8 (-1) m
      = Rs.Res.ok (List.replicate m (-1), []) ∧
    ∃ small big,
      (writes.map (fun x => Spec.SmallInts.Op.set x.1 x.2)).foldlM (srcStep (-128) 127 1 8) (List.replicate m (-1), [])
        = Rs.Res.ok (small, big) ∧
      ∀ i, Gen.SrcSmallInts.get (cBS (-128) 127) cSB (cZ (-128) 127) ltI 127 1 8 small big i
        = Rs.Res.ok ((writes.foldl (fun l x => l.set x.1 x.2) (List.replicate m (-1)))[i]?) := by
  refine ⟨fromElem_eq_model (-128) 127 (by omega) 1 8 (by omega) (-1) m (by omega), ?_⟩
  have habs0 := Lemmas.SmallInts.abs_fromElem 127 (-1) m (by omega)
  have hok : ∀ (ws : List (Nat × Int)) (l : List Int), l.length = m → (∀ x ∈ ws, x.1 < m) →
      OpsOk l (ws.map (fun x => Spec.SmallInts.Op.set x.1 x.2)) := by
    intro ws
    induction ws with
    | nil => intro _ _ _; trivial
    | cons x ws ih =>
      intro l hl hx
      refine ⟨by simpa [hl] using hx x (by simp), ih _ (by simpa [Spec.SmallInts.specStep] using hl) ?_⟩
      intro y hy; exact hx y (by simp [hy])
  have hrun := run_eq_model (-128) 127 1 8 _ _ _ habs0
    (hok writes _ (by simp [Spec.SmallInts.specFromElem]) hw)
  have habs := Lemmas.SmallInts.abs_run (-128) 127 (writes.map (fun x => Spec.SmallInts.Op.set x.1 x.2)) _ _ habs0
  have hspec : ∀ (ws : List (Nat × Int)) (l : List Int),
      (ws.map (fun x => Spec.SmallInts.Op.set x.1 x.2)).foldl Spec.SmallInts.specStep l
        = ws.foldl (fun l x => l.set x.1 x.2) l := by
    intro ws
    induction ws with
    | nil => intro l; rfl
    | cons x ws ih => intro l; simp only [List.map_cons, List.foldl_cons, Spec.SmallInts.specStep, ih]
  refine ⟨_, _, hrun, fun i => ?_⟩
  rw [get_eq_model, Lemmas.SmallInts.get_of_abs 127 _ _ habs i, hspec]
  rfl

-- an LCP value of exactly 127 (= `i8::MAX`, the overflow marker) written through the translated `set` reads back
example : (do
    let (sm, bg) ← Gen.SrcSmallInts.set (cBS (-128) 127) cSB (cZ (-128) 127) ltI 127 1 8 [-1, -1, -1] [] 1 127
    Gen.SrcSmallInts.get (cBS (-128) 127) cSB (cZ (-128) 127) ltI 127 1 8 sm bg 1) = Rs.Res.ok (some 127) := by decide +kernel

end lcp_container
/-! ## `SampledSuffixArray::get` translated from the source text (docs/notes/GEN.md, "Translated function bodies")

`RbV/Gen/SrcSampledGet.lean` is regenerated from `src/data_structures/suffix_array.rs` by `tools/rs2lean.py` on every
`./check C03` (proofs: `RbV/Thm/GenSrcSampledGet.lean`): the `loop` is a recursive helper on fuel `len + 1`,
`self.extra_rows[&pos]` an abstract partial lookup followed by `.unwrap()`, `self.occ.borrow().get(…)` the abstract `occF`. -/

/-- **`SampledSuffixArray::get`, as written, returns what the mirror model `Sampled.sampledGet` returns** whenever that is
`some v` (the model's `none` stands for a failed lookup / exhausted fuel, where the code would panic), with the stored
`sample` vector and `extra_rows` map given by the hand-written `Sampled.sampleVec` / `Sampled.extraRow` (models of what
`SuffixArray::sample` builds; `sample` is not translated and no theorem links the two to it), provided every LF step stays inside
the BWT (`hstep`), every BWT symbol indexes the `less` array, suffix-array entries are positions and `n + 1 < 2^63` -/
theorem sampled_get_source_eq_model (occF : Nat → Nat → Nat) (bwt sa : List Nat) (s sent : Nat) (lessA : List Nat)
    (hs : 0 < s) (hsa : ∀ p, sa.getD p 0 < bwt.length) (hsym : ∀ c ∈ bwt, c < lessA.length)
    (hstep : ∀ pos, pos < bwt.length → pos % s ≠ 0 → bwt.getD pos 0 ≠ sent →
      lessA.getD (bwt.getD pos 0) 0 + occF (pos - 1) (bwt.getD pos 0) < bwt.length)
    (hn : bwt.length + 1 < 2 ^ 63) (i v : Nat) (h : Sampled.sampledGet bwt sa s sent lessA occF i = some v) :
    Gen.SrcSampledGet.get (Sampled.extraRow bwt sa s sent) occF bwt.length bwt lessA (Sampled.sampleVec sa s) s sent i
      = Rs.Res.ok (some v) :=
  GenSrcSampledGet.get_eq_model occF bwt sa s sent lessA hs hsa hsym hstep hn i v h

/-- **generated code = specification: `get(i) = Some(sa[i])`** for the translated body of `SampledSuffixArray::get`, run on
the hand-written models `Sampled.sampleVec` / `Sampled.extraRow` of the `sample` vector and the `extra_rows` map
(`SuffixArray::sample`, which builds them, is not translated), with `n + 1 < 2^63`, on every array accepted by `checkSA`, for every text of the property's quantifier (any number of sentinel occurrences, the
sentinel being the smallest symbol), every sampling rate `s ≥ 1`, every Occ rate `k ≥ 1` and every row — with `less` =
the model of `less()` and `occ` = the model of `Occ::get ∘ Occ::new` (both proved equal to the translated functions in
C04: `less_source_eq_model`, `occ_get_source_eq_model`); no panic, fuel sufficient -/
theorem sampled_get_source_exact_all (t sa : List Nat) (s k m : Nat) (hc : checkSA t sa = true)
    (hmin : ∀ p, p < t.length → sentinelOf t ≤ t.getD p 0)
    (hs : 0 < s) (hk : 0 < k) (hm : ∀ x ∈ t, x < m) (hlen : t.length + 1 < 2 ^ 63) (i : Nat) (hi : i < t.length) :
    Gen.SrcSampledGet.get (Sampled.extraRow (bwtRef t sa) sa s (sentinelOf t))
      (fun r c => OccM.occGet (OccM.occNewLoop (bwtRef t sa) k c) (bwtRef t sa) k r c) (bwtRef t sa).length (bwtRef t sa)
      (OccM.lessModel (bwtRef t sa) m) (Sampled.sampleVec sa s) s (sentinelOf t) i = Rs.Res.ok (some (sa.getD i 0)) := by
  obtain ⟨B, rk, ho, hp, hpw⟩ := checkSA_isSA t sa hc
  rw [length_keyText] at hp
  have hsal : sa.length = t.length := by simpa using hp.length_eq
  have hbl : (bwtRef t sa).length = t.length := by unfold bwtRef; rw [List.length_map, hsal]
  have hpos : 0 < t.length := by omega
  have hbw := mem_bwtRef_lt t sa m hpos hm
  apply GenSrcSampledGet.get_eq_model _ _ _ _ _ _ hs
  · intro p
    rw [hbl]
    by_cases hpl : p < sa.length
    · rw [List.getD_eq_getElem sa p 0 hpl]
      simpa using (hp.mem_iff).mp (List.getElem_mem hpl)
    · rw [List.getD_eq_getElem?_getD, List.getElem?_eq_none (by omega)]; exact hpos
  · intro c hcm
    rw [OccM.length_lessModel]
    exact hbw c hcm
  · intro pos hposn hmod _
    have hpos1 : 1 ≤ pos := by
      rcases Nat.eq_zero_or_pos pos with h0 | h0
      · subst h0; simp at hmod
      · exact h0
    have hcm : (bwtRef t sa).getD pos 0 < m := by
      rw [List.getD_eq_getElem _ pos 0 hposn]
      exact hbw _ (List.getElem_mem hposn)
    have e1 : (OccM.lessModel (bwtRef t sa) m).getD ((bwtRef t sa).getD pos 0) 0
        = lessRef (bwtRef t sa) ((bwtRef t sa).getD pos 0) := by
      rw [List.getD_eq_getElem?_getD, OccM.less_eq _ m _ hcm]; rfl
    have e2 := OccM.occ_get_eq (bwtRef t sa) k (pos - 1) ((bwtRef t sa).getD pos 0) hk (by omega)
    rw [e1]
    show lessRef _ _ + OccM.occGet _ _ k (pos - 1) _ < _
    rw [OccM.occNewLoop_eq _ k _ hk, e2]
    exact GenSrcSampledGet.lf_step_lt (bwtRef t sa) pos hpos1 hposn
  · rw [hbl]; exact hlen
  · exact sampled_get_exact_all t sa s k m hc hmin hs hk hm i hi

/-- the `occ` of `sampled_get_source_exact_all` is what the translated `Occ::get` (`RbV/Gen/SrcOcc.lean`, regenerated
from `bwt.rs` on every `./check C03` as well) returns on a table whose column `c` is the checkpoint column built by the
loop of `Occ::new` — for every `1 ≤ k < 2^32` and every row (restated from C04, `RbV/Thm/GenSrcOcc.lean`) -/
theorem sampled_get_occ_source_eq_model (occ : List (List Nat)) (k : Nat) (bwt : List Nat) (r c : Nat)
    (hcp : occ[c]? = some (OccM.occNewLoop bwt k c)) (hk : 0 < k) (hk32 : k < 2 ^ 32) (hr : r < bwt.length)
    (hn : bwt.length < 2 ^ 64) :
    Gen.SrcOcc.get (fun s x => s.count x) occ k bwt r c
      = Rs.Res.ok (OccM.occGet (OccM.occNewLoop bwt k c) bwt k r c) := by
  rw [OccM.occNewLoop_eq bwt k c hk] at hcp ⊢
  rw [OccM.occ_get_eq bwt k r c hk hr]
  exact GenSrcOcc.get_exact_of_table occ k bwt r c hcp hk hk32 hr hn

-- the two-sentinel text "A$A$" (65, 36), sampling rate 2: every row through the translated function
example : (List.range 4).map (fun i => Gen.SrcSampledGet.get (Sampled.extraRow (bwtRef [65, 36, 65, 36] [3, 1, 2, 0]) [3, 1, 2, 0] 2 36)
      (fun r c => OccM.occGet (OccM.occNewLoop (bwtRef [65, 36, 65, 36] [3, 1, 2, 0]) 3 c) (bwtRef [65, 36, 65, 36] [3, 1, 2, 0]) 3 r c)
      4 (bwtRef [65, 36, 65, 36] [3, 1, 2, 0]) (OccM.lessModel (bwtRef [65, 36, 65, 36] [3, 1, 2, 0]) 67)
      (Sampled.sampleVec [3, 1, 2, 0] 2) 2 36 i) = [3, 1, 2, 0].map (fun v => Rs.Res.ok (some v)) := by decide +kernel
-- a row outside the array is `None`; an empty `extra_rows` map where an entry is needed: the hash-map index panics
example : Gen.SrcSampledGet.get (fun _ => none) (fun _ _ => 0) 4 [65, 65, 36, 36] [0, 0] [3, 2] 2 36 7 = Rs.Res.ok none := by
  decide +kernel
example : Gen.SrcSampledGet.get (fun _ => none) (fun _ _ => 0) 4 [65, 65, 36, 36] (List.replicate 67 0) [3, 2] 2 36 3
    = Rs.Res.panic := by decide +kernel
/-! ### Integer widths of SA-IS (`u8`/`u16`/`u32`/`u64` dispatch)

The mirror keeps every text as `List Nat`.  In the Rust code the transformed text is a `Vec<T>` with `T` chosen by
`suffix_array` from `alphabet.len() + sentinel_count`, and the reduced text of each recursion level a `Vec<S>` with `S`
chosen by `calc_lms_pos` from `lms_substring_count`; every value stored goes through `cast(v).unwrap()`, which panics
(does not truncate) when `v` does not fit.  The guards and the types they select are **extracted from the source text**
(`RbV/Gen/SaisWidth.lean`, regenerated on every `./check C03`).  Below: every guard's bound fits the type of its arm;
every value the mirror stores is below the dispatching count; hence no `cast(..).unwrap()` of the dispatch can fail —
the `Nat` model loses nothing. -/

/-- every guarded arm of both dispatches instantiates a type that holds the largest count the guard admits -/
theorem sais_width_arms_fit :
    (∀ a ∈ RbV.Gen.SaisWidth.transformArms, a.1 < 2 ^ a.2) ∧ (∀ a ∈ RbV.Gen.SaisWidth.reducedArms, a.1 < 2 ^ a.2) := by
  decide +kernel

/-- **`sais_reduced_width_fits`**: in the naming loop of `sort_lms_suffixes` (run on the `pos` the first `calc_pos`
leaves, for every valid text with at least two symbols and at least one LMS position), the final `label` and every
entry of `reduced_text` fit the type `calc_lms_pos` selects from `lms_substring_count` (a `usize`): no
`cast(label).unwrap()` panics, no name is truncated. -/
theorem sais_reduced_width_fits (t : List Nat) (hv : Sais.Valid t) (h2 : 2 ≤ t.length) (s : Sais.St)
    (hs : s.pos = Sais.pos1 t) (hm : 0 < (Sais.lmsBelow (Sais.tyOf t) t.length).length)
    (husize : (Sais.lmsBelow (Sais.tyOf t) t.length).length < 2 ^ 64)
    (helse : RbV.Gen.SaisWidth.reducedElse = 64) :
    let cnt := (Sais.lmsBelow (Sais.tyOf t) t.length).length
    let bits := Sais.pick RbV.Gen.SaisWidth.reducedArms RbV.Gen.SaisWidth.reducedElse cnt
    (Sais.naming t (Sais.tyOf t) cnt s).label < 2 ^ bits ∧ ∀ v ∈ (Sais.naming t (Sais.tyOf t) cnt s).red, v < 2 ^ bits := by
  intro cnt bits
  obtain ⟨h1, h3⟩ := Sais.naming_lt_count t hv s hs hm
  have hf := fun v hv => Sais.pick_fits RbV.Gen.SaisWidth.reducedArms RbV.Gen.SaisWidth.reducedElse cnt v
    sais_width_arms_fit.2 (by rw [helse]; exact husize) hv
  exact ⟨hf _ h1, fun v hv => hf v (h3 v hv)⟩

/-- **`sais_transform_width_fits`**: every value of `Sais.transformText t`, the mirror model of `transform_text::<T>` over the
mirror alphabet, fits the type `suffix_array` selects from
`alphabet.len() + sentinel_count` -/
theorem sais_transform_width_fits (t : List Nat)
    (husize : (Sais.alphabet t).length + t.count (sentinelOf t) < 2 ^ 64)
    (helse : RbV.Gen.SaisWidth.transformElse = 64) :
    ∀ v ∈ Sais.transformText t, v < 2 ^ Sais.pick RbV.Gen.SaisWidth.transformArms RbV.Gen.SaisWidth.transformElse
      ((Sais.alphabet t).length + t.count (sentinelOf t)) := by
  intro v hv
  exact Sais.pick_fits _ _ _ v sais_width_arms_fit.1 (by rw [helse]; exact husize) (Sais.transformText_lt t v hv)

-- non-vacuity: the dispatch on a count of 300 selects 16 bits, on 70 000 32 bits; the final arms are `u64`; a valid text
-- with two LMS positions (`2 1 2 1 0`)
example : Sais.pick RbV.Gen.SaisWidth.reducedArms RbV.Gen.SaisWidth.reducedElse 300 = 16 ∧
    Sais.pick RbV.Gen.SaisWidth.reducedArms RbV.Gen.SaisWidth.reducedElse 70000 = 32 ∧
    Sais.pick RbV.Gen.SaisWidth.transformArms RbV.Gen.SaisWidth.transformElse 255 = 8 := by decide +kernel
example : RbV.Gen.SaisWidth.reducedElse = 64 ∧ RbV.Gen.SaisWidth.transformElse = 64 := by decide +kernel
example : ∀ v ∈ (Sais.naming [2, 1, 2, 1, 0] (Sais.tyOf [2, 1, 2, 1, 0]) 2
    { Sais.St.new 5 with pos := Sais.pos1 [2, 1, 2, 1, 0] }).red, v < 2 ^ 8 :=
  (sais_reduced_width_fits [2, 1, 2, 1, 0] (Sais.valid_of_validB _ (by decide +kernel)) (by decide +kernel)
    { Sais.St.new 5 with pos := Sais.pos1 [2, 1, 2, 1, 0] } rfl (by decide +kernel) (by decide +kernel) (by decide +kernel)).2
example : ∀ v ∈ Sais.transformText [3, 2, 3, 2, 1], v < 2 ^ 8 :=
  sais_transform_width_fits [3, 2, 3, 2, 1] (by decide +kernel) (by decide +kernel)

/-! ### translated text of `shortest_unique_substrings` (`RbV/Gen/SrcSus.lean`, regenerated on every run) -/

/-- translated `shortest_unique_substrings` = mirror model `Sus.susModel`, for every suffix array `pos` (entries `≤ n`) and
LCP vector of `n + 1` entries in which `max(lcp[i], lcp[i+1])` is never negative (`-1 as usize` would overflow `1 + …`) -/
theorem sus_source_eq_model (pos : List Nat) (lcp : List Int) (hlen : lcp.length = pos.length + 1)
    (hn : pos.length + 1 < 2 ^ 63) (hrow : ∀ i, i < pos.length → Thm.GenSrcSus.RowOk pos lcp i) :
    Gen.SrcSus.sus pos lcp = Rs.Res.ok (Sus.susModel pos lcp) :=
  Thm.GenSrcSus.sus_eq_model pos lcp hlen hn hrow

/-- **the translated `shortest_unique_substrings` on every accepted suffix array (of a text whose last symbol is its unique
smallest symbol, `hsingle` and `hmin`; `n ≥ 2`, `n + 1 < 2^62`) and its LCP array returns `susRef` at every position** — the composition of `sus_source_eq_model` with `sus_model_eq`; no mirror model
is left in the statement -/
theorem sus_source_exact (t sa : List Nat) (hc : checkSA t sa = true)
    (hsingle : ∀ p, t[p]? = some (sentinelOf t) → p = t.length - 1)
    (hmin : ∀ p, p < t.length → sentinelOf t ≤ t.getD p 0) (hn : 2 ≤ t.length) (hsz : t.length + 1 < 2 ^ 62) :
    Gen.SrcSus.sus sa (lcpRef t sa) = Rs.Res.ok ((List.range t.length).map (susRef t)) :=
  Thm.GenSrcSus.sus_source_exact t sa (Kasai.sorted_of_checkSA_single t sa hc hsingle hmin) hn hsz

-- the doc-test `GCTGCTA$`: the translated code evaluated
example : Gen.SrcSus.sus [7, 6, 3, 0, 4, 1, 5, 2] (lcpRef [71, 67, 84, 71, 67, 84, 65, 36] [7, 6, 3, 0, 4, 1, 5, 2])
    = Rs.Res.ok [some 4, some 3, some 2, some 4, some 3, some 2, some 1, some 1] := by decide +kernel
-- the one-symbol text `$`: `max(-1, -1) as usize` is `usize::MAX`, `1 + …` overflows (panic with overflow checks; the
-- mirror model, which reads `as usize` of a negative value as 0, says `[some 1]`) — outside `n ≥ 2`
example : Gen.SrcSus.sus [0] [-1, -1] = Rs.Res.panic := by decide +kernel

/-! ### translated text of `lcp` (Kasai; `RbV/Gen/SrcLcp.lean`, regenerated on every run, `tools/rs2lean_gensa.py`) -/

/-- **the translated `lcp` on every accepted suffix array of a text whose last symbol is its unique smallest symbol
(`hsingle` and `hmin`; `n + 1 < 2^63`; the proof needs `n ≥ 1` only) returns `lcpRef`** (length `n + 1`, `-1` at both ends, longest common prefix of neighbouring suffixes inside: `lcpRef_spec`).  The proof does not depend on which
`l ≤ lcpOf p` the loop carries into the next round (`Thm.GenSrcLcp.for2_sorted`: the translated loop started with any such `l`
writes what `Kasai.kasaiGo` writes; then `kasai_eq_lcpRef`); no mirror model is left in the statement, the result type
`LCPArray = SmallInts<i8, isize>` being read by the translator as the plain vector of its values (the container itself:
`lcp_container_source_exact`) -/
theorem lcp_source_exact (t sa : List Nat) (hc : checkSA t sa = true)
    (hsingle : ∀ p, t[p]? = some (sentinelOf t) → p = t.length - 1)
    (hmin : ∀ p, p < t.length → sentinelOf t ≤ t.getD p 0) (hn : 2 ≤ t.length) (hsz : t.length + 1 < 2 ^ 63) :
    Gen.SrcLcp.lcp t sa = Rs.Res.ok (lcpRef t sa) :=
  Thm.GenSrcLcp.lcp_source_exact t sa (Kasai.sorted_of_checkSA_single t sa hc hsingle hmin) (by omega) hsz

/-- the translated `lcp` refuses a suffix array of another length (`assert_eq!`) -/
theorem lcp_source_length_mismatch_panics (t sa : List Nat) (h : t.length ≠ sa.length) :
    Gen.SrcLcp.lcp t sa = Rs.Res.panic :=
  Thm.GenSrcLcp.lcp_length_mismatch_panics t sa h

-- the translated code evaluated: `abab$`, and the doc test `GCTGCTA$` through translated `lcp` then translated `sus`
example : Gen.SrcLcp.lcp [1, 2, 1, 2, 0] [4, 2, 0, 3, 1] = Rs.Res.ok [-1, 0, 2, 0, 1, -1] := by decide +kernel
example : (do let l ← Gen.SrcLcp.lcp [71, 67, 84, 71, 67, 84, 65, 36] [7, 6, 3, 0, 4, 1, 5, 2]
              Gen.SrcSus.sus [7, 6, 3, 0, 4, 1, 5, 2] l)
    = Rs.Res.ok [some 4, some 3, some 2, some 4, some 3, some 2, some 1, some 1] := by decide +kernel
-- a first entry other than `n - 1`: `rank[p] - 1` underflows for the position of rank 0
example : Gen.SrcLcp.lcp [1, 2, 0] [0, 2, 1] = Rs.Res.panic := by decide +kernel

/-! ### translated text of `sentinel_count` and `transform_text` (`RbV/Gen/SrcTransform.lean`)

`T` is read at a 64-bit unsigned type, `num_traits::cast::<usize, T>` as an abstract `castT` that is value-preserving below
`alphabet.len() + sentinel_count` (hypothesis `hcast`; `Sais.pick_fits` with `sais_width_arms_fit` gives that bound for the type
the width dispatch selects); `RankTransform::new` is the translated `Gen.SrcAlphabet.rankNew`.  The obligation is stated **modulo the
freedom the property leaves** (`Transform.Ok`, `RbV/Lemmas/TransformSpec.lean`): which distinct ranks below all other symbols
the sentinel occurrences get is not fixed, only that they are pairwise distinct and the final one is least. -/

/-- translated `sentinel_count`: the `assert!` passes when no symbol is below the last one, the fold counts its occurrences -/
theorem sentinel_count_source_eq_model (t : List Nat) (hne : t ≠ []) (hmin : ∀ a ∈ t, sentinelOf t ≤ a)
    (hsz : t.length < 2 ^ 64) : Gen.SrcTransform.sentinel_count t = Rs.Res.ok (t.count (sentinelOf t)) :=
  Thm.GenSrcTransform.sentinel_count_eq_model t hne (fun p hp => hmin _ (List.getD_mem t p 0 hp)) hsz

/-- … and a text with a symbol below its last one is refused -/
theorem sentinel_count_source_refuses (t : List Nat) (hne : t ≠ []) (a : Nat) (ha : a ∈ t) (hlt : a < sentinelOf t) :
    Gen.SrcTransform.sentinel_count t = Rs.Res.panic :=
  Thm.GenSrcTransform.sentinel_count_unsorted_panics t hne a ha hlt

/-- **translated `transform_text` = the mirror model modulo the sentinel order**: on the alphabet of the text and its
sentinel count it does not panic and returns a text `tt` of the same length in which every non-sentinel symbol is
`rank + (sentinel_count − 1)` (as in `Transform.transformText`) and the sentinel occurrences carry pairwise distinct values
below `sentinel_count`, the final one the least (`Transform.Ok`; the mirror model is the instance "decreasing from left to
right": `Transform.ok_transformText`) -/
theorem transform_text_source_eq_model (castT : Nat → Option Nat) (t : List Nat) (hne : t ≠ []) (hb : ∀ c ∈ t, c < 256)
    (hsz : t.length + 256 < 2 ^ 64)
    (hcast : ∀ x, x < (Alpha.mk t).length + t.count (sentinelOf t) → castT x = some x) :
    ∃ tt, Gen.SrcTransform.transform_text castT t (Alpha.mk t) (t.count (sentinelOf t)) = Rs.Res.ok tt ∧ Transform.Ok t tt :=
  Thm.GenSrcTransform.transform_text_spec castT t hne hb hsz hcast

/-- **what `Sais::construct` and the property need of it** (the corollary `sais_transform_text` states for the mirror):
the first three statements of `suffix_array` — translated `Alphabet::new`, `sentinel_count`, `transform_text` — hand SA-IS
a text `tt` it accepts (`Sais.Valid`: last symbol the unique minimum, dense alphabet), and every sorted suffix permutation
of `tt` is accepted by `checkSA` for the byte text -/
theorem transform_text_source_feeds_sais (castT : Nat → Option Nat) (t : List Nat) (hne : t ≠ []) (hb : ∀ c ∈ t, c < 256)
    (hmin : ∀ p, p < t.length → sentinelOf t ≤ t.getD p 0) (hsz : t.length + 256 < 2 ^ 64)
    (hcast : ∀ x, x < (Alpha.mk t).length + t.count (sentinelOf t) → castT x = some x) :
    ∃ tt, (do let alphabet ← Gen.SrcAlphabet.alphabetNew t
              let sc ← Gen.SrcTransform.sentinel_count t
              Gen.SrcTransform.transform_text castT t alphabet sc) = Rs.Res.ok tt ∧
      Sais.Valid tt ∧ tt.length = t.length ∧ ∀ sa, SuffixSorted tt sa → checkSA t sa = true := by
  obtain ⟨tt, h1, h2⟩ := Thm.GenSrcTransform.transform_text_spec castT t hne hb hsz hcast
  refine ⟨tt, ?_, h2.valid hne hmin, h2.len, fun sa hs => (checkSA_iff t sa hne).mpr (h2.isSA hne hmin sa hs)⟩
  rw [Thm.GenSrcAlphabet.alphabetNew_eq_model t hb, Thm.GenSrcTransform.sentinel_count_eq_model t hne hmin (by omega)]
  exact h1

-- `CA$` evaluated through the translated code (`cast` into `u8`); with one sentinel the sentinel order is forced (the
-- evaluation of a multi-sentinel text, whose numbers depend on the order chosen, is in `Thm/GenSrcTransformModel.lean`)
example : (do let alphabet ← Gen.SrcAlphabet.alphabetNew [67, 65, 36]
              let sc ← Gen.SrcTransform.sentinel_count [67, 65, 36]
              Gen.SrcTransform.transform_text (fun x => if x < 256 then some x else none) [67, 65, 36] alphabet sc)
    = Rs.Res.ok [2, 1, 0] := by decide +kernel
example : Transform.Ok [65, 36, 67, 36, 65, 36] [3, 2, 4, 1, 3, 0] :=
  (by decide +kernel : Transform.transformText [65, 36, 67, 36, 65, 36] = [3, 2, 4, 1, 3, 0]) ▸
    Transform.ok_transformText _ (by decide +kernel)
example : Transform.Ok [65, 36, 67, 36, 65, 36] [3, 1, 4, 2, 3, 0] :=
  (by decide +kernel : Transform.transformTextUp [65, 36, 67, 36, 65, 36] = [3, 1, 4, 2, 3, 0]) ▸
    Transform.ok_transformTextUp _ (by decide +kernel)
-- a text whose last symbol is not its smallest is refused by the `assert!`; a cast that does not fit panics
example : Gen.SrcTransform.sentinel_count [36, 65] = Rs.Res.panic := by decide +kernel
example : Gen.SrcTransform.transform_text (fun x => if x < 2 then some x else none) [65, 67, 36] (Alpha.mk [65, 67, 36]) 1
    = Rs.Res.panic := by decide +kernel

/-! ### translated text of `PosTypes::{new, is_s_pos, is_l_pos, is_lms_pos}` (`RbV/Gen/SrcPosTypes.lean`)

The `BitVec` is read as the vector of its bits (`new_fill`, `set_bit`, `get_bit` with bounds checks), `T` at `u64`. -/

/-- translated `PosTypes::new` = the mirror model `PosTypes.posTypes` (the L/S typing SA-IS's model and proofs use) on every
non-empty text: the right-to-left loop never reads or writes out of range -/
theorem postypes_new_source_eq_model (t : List Nat) (hne : t ≠ []) (hsz : t.length < 2 ^ 64) :
    Gen.SrcPosTypes.new t = Rs.Res.ok (PosTypes.posTypes t) :=
  Thm.GenSrcPosTypes.new_eq_model t hne hsz

/-- **translated `PosTypes::new` is correct**: in a text whose last symbol occurs nowhere else the translated function
marks a position S exactly when its suffix is smaller than the next one (composition with `sais_postypes_partial`) -/
theorem postypes_new_source_correct (t : List Nat) (hne : t ≠ []) (hsz : t.length < 2 ^ 64)
    (hu : ∀ i, i + 1 < t.length → t.getD i 0 ≠ t.getD (t.length - 1) 0) :
    ∃ ty, Gen.SrcPosTypes.new t = Rs.Res.ok ty ∧ ∀ p, p < t.length →
      ty[p]? = some (decide (lexLt (t.drop p) (t.drop (p + 1))) || decide (p + 1 = t.length)) :=
  ⟨_, Thm.GenSrcPosTypes.new_eq_model t hne hsz, fun p hp => PosTypes.posTypes_spec t hu p hp⟩

/-- translated `is_s_pos`, `is_l_pos`, `is_lms_pos` = the model's predicates at every position of the bit vector (beyond it
the bv crate panics; the model's totalised predicates say `false`) -/
theorem postypes_predicates_source_eq_model (ty : List Bool) (p : Nat) (hp : p < ty.length) :
    Gen.SrcPosTypes.is_s_pos ty p = Rs.Res.ok (Sais.isS ty p) ∧ Gen.SrcPosTypes.is_l_pos ty p = Rs.Res.ok (Sais.isL ty p) ∧
      Gen.SrcPosTypes.is_lms_pos ty p = Rs.Res.ok (Sais.isLms ty p) :=
  ⟨Thm.GenSrcPosTypes.is_s_pos_eq_model ty p hp, Thm.GenSrcPosTypes.is_l_pos_eq_model ty p hp,
    Thm.GenSrcPosTypes.is_lms_pos_eq_model ty p hp⟩

-- the text of the repo's `test_pos_types` through the translated code: its LMS positions
example : (do let ty ← Gen.SrcPosTypes.new [71, 67, 67, 84, 84, 65, 65, 67, 65, 84, 84, 65, 84, 84, 65, 67, 71, 67, 67, 84, 65, 36]
              (List.range 22).filterM (Gen.SrcPosTypes.is_lms_pos ty)) = Rs.Res.ok [1, 5, 8, 11, 14, 17, 21] := by decide +kernel
example : Gen.SrcPosTypes.new [] = Rs.Res.panic := by decide +kernel
example : Gen.SrcPosTypes.is_lms_pos [false, true] 2 = Rs.Res.panic := by decide +kernel

/-! ### translated text of `Sais::init_bucket_start`, `Sais::init_bucket_end` (`RbV/Gen/SrcSaisBuckets.lean`)

`bucket_sizes` is the `Rs.VecMap` (`contains_key`, `*get_mut(k).unwrap() += 1`, `values()` in ascending key order:
`RbV/Basic/RsSemGensa.lean`), `cast::<T, usize>` an abstract `castU` that preserves the symbols of the text. -/

/-- translated `init_bucket_start` = the mirror model `Sais.initBucketStart` on **every** text (prefix sums of the counts of
the occurring symbols in ascending order; the `VecMap` afterwards holds `count` for every occurring symbol and nothing
else): no missing key at `get_mut(..).unwrap()`, no overflow -/
theorem init_bucket_start_source_eq_model (castU : Nat → Option Nat) (bs0 : Rs.VecMap) (bst0 t : List Nat)
    (hc : ∀ c ∈ t, castU c = some c) (hsz : t.length < 2 ^ 64) :
    ∃ m, Gen.SrcSaisBuckets.init_bucket_start castU bs0 bst0 t = Rs.Res.ok (m, Sais.initBucketStart t) ∧
      ∀ k, Rs.VecMap.get m k = Sais.cOpt t k :=
  Thm.GenSrcSaisBuckets.init_bucket_start_spec castU bs0 bst0 t hc hsz

/-- translated `init_bucket_end` = the mirror model `Sais.initBucketEnd` when `bucket_start` is non-empty, its later entries
are positive and the text is non-empty — exactly what keeps `&bucket_start[1..]`, `r - 1`, `text.len() - 1` from panicking -/
theorem init_bucket_end_source_eq_model (bst be0 t : List Nat) (hne : t ≠ []) (hb : bst ≠ [])
    (hpos : ∀ r ∈ bst.drop 1, 1 ≤ r) :
    Gen.SrcSaisBuckets.init_bucket_end bst be0 t = Rs.Res.ok (Sais.initBucketEnd bst t.length) :=
  Thm.GenSrcSaisBuckets.init_bucket_end_spec bst be0 t hne hb hpos

/-- **the two translated functions on a text SA-IS accepts** (`Sais.Valid`): `bucket_start[c]` = number of symbols below `c`,
`bucket_end[c]` = (number of symbols `≤ c`) − 1 — `bucket_start_spec` / `bucket_end_spec` for the code itself -/
theorem buckets_source_correct (castU : Nat → Option Nat) (bs0 : Rs.VecMap) (bst0 be0 t : List Nat) (hv : Sais.Valid t)
    (hc : ∀ c ∈ t, castU c = some c) (hsz : t.length < 2 ^ 64) :
    ∃ m, (do let (m, bst) ← Gen.SrcSaisBuckets.init_bucket_start castU bs0 bst0 t
             let be ← Gen.SrcSaisBuckets.init_bucket_end bst be0 t
             pure (m, bst, be)) =
      Rs.Res.ok (m, (List.range (Sais.maxSucc t)).map (Sais.cntLt t),
        (List.range (Sais.maxSucc t)).map (fun c => Sais.cntLt t (c + 1) - 1)) := by
  obtain ⟨m, h1, _⟩ := Thm.GenSrcSaisBuckets.init_bucket_start_spec castU bs0 bst0 t hc hsz
  have hne := hv.ne_nil
  refine ⟨m, ?_⟩
  rw [h1]
  simp only [Rs.Res.ok_bind]
  rw [Thm.GenSrcSaisBuckets.init_bucket_end_valid be0 t hv]
  simp only [Rs.Res.ok_bind, Rs.Res.pure_eq_ok]
  rw [Sais.initBucketEnd_eq t hne hv.dense, Sais.initBucketStart_eq t hv.dense]

-- the integer text of the doc test of `suffix_array_int` through the translated code
example : (do let (m, bst) ← Gen.SrcSaisBuckets.init_bucket_start some [] [] [3, 2, 2, 4, 4, 1, 2, 1, 0]
              let be ← Gen.SrcSaisBuckets.init_bucket_end bst [] [3, 2, 2, 4, 4, 1, 2, 1, 0]
              pure (bst, be)) = Rs.Res.ok ([0, 1, 3, 6, 7], [0, 2, 5, 6, 8]) := by decide +kernel
-- a symbol that does not fit `usize` (`cast(c).unwrap()`), and the empty text (`&bucket_start[1..]`), panic
example : Gen.SrcSaisBuckets.init_bucket_start (fun _ => none) [] [] [1, 0] = Rs.Res.panic := by decide +kernel
example : Gen.SrcSaisBuckets.init_bucket_end [] [] [] = Rs.Res.panic := by decide +kernel

/-! ### translated text of `Sais::calc_pos` (`RbV/Gen/SrcSaisCalcPos.lean`) -/

/-- **translated `calc_pos` = the mirror model `Sais.calcPosRun`, step by step, on every index-safe run** — with the
*translated* `init_bucket_start`, `init_bucket_end`, `is_l_pos`, `is_s_pos` in the place of its callees, on a text SA-IS
accepts with its L/S typing: placement of the LMS positions from the right (`wrapping_sub`), bucket-end reset, L pass with
the `p == n || p == 0` skip, S pass with only the `p == 0` skip.  `SafeRun` says that every index the three passes of the
*model* use is in range (the model totalises such accesses, the code panics); `calc_pos_source_eq_model` discharges it for
every list of the LMS positions. -/
theorem calc_pos_source_eq_model_on_safe_runs (castU : Nat → Option Nat) (pos0 lms : List Nat) (bsz : Rs.VecMap)
    (bst0 be0 t : List Nat) (hv : Sais.Valid t) (hc : ∀ c ∈ t, castU c = some c) (hsz : t.length < 2 ^ 64)
    (hsafe : Thm.GenSrcSaisCalcPos.SafeRun t (Sais.tyOf t) lms) :
    ∃ m, Gen.SrcSaisCalcPos.calc_pos castU (Gen.SrcPosTypes.is_l_pos (Sais.tyOf t)) (Gen.SrcPosTypes.is_s_pos (Sais.tyOf t))
        (Gen.SrcPosTypes.is_lms_pos (Sais.tyOf t)) (Gen.SrcSaisBuckets.init_bucket_start castU)
        Gen.SrcSaisBuckets.init_bucket_end pos0 lms bsz bst0 be0 t (Sais.tyOf t) =
      Rs.Res.ok ((Sais.calcPosRun t (Sais.tyOf t) lms).pos, m, (Sais.calcPosRun t (Sais.tyOf t) lms).bStart,
        (Sais.calcPosRun t (Sais.tyOf t) lms).bEnd) :=
  Thm.GenSrcSaisConstruct.calcPosK_eq_of_safe castU pos0 lms bsz bst0 be0 t hv hc hsz hsafe

/-- **translated `calc_pos` = the mirror model `Sais.calcPosRun`** on every text SA-IS accepts and every arrangement `lms` of
its LMS positions in `lms_pos` (each exactly once): the translated code never panics — every run is index-safe
(`Thm.GenSrcSaisCalcPos.safeRun_of_valid`, from the loop invariants of the three passes) — and returns the model's `pos`,
`bucket_start`, `bucket_end` -/
theorem calc_pos_source_eq_model (castU : Nat → Option Nat) (pos0 lms : List Nat) (bsz : Rs.VecMap)
    (bst0 be0 t : List Nat) (hv : Sais.Valid t) (hc : ∀ c ∈ t, castU c = some c) (hsz : t.length < 2 ^ 64)
    (hl : Sais.LmsList t lms) :
    ∃ m, Gen.SrcSaisCalcPos.calc_pos castU (Gen.SrcPosTypes.is_l_pos (Sais.tyOf t)) (Gen.SrcPosTypes.is_s_pos (Sais.tyOf t))
        (Gen.SrcPosTypes.is_lms_pos (Sais.tyOf t)) (Gen.SrcSaisBuckets.init_bucket_start castU)
        Gen.SrcSaisBuckets.init_bucket_end pos0 lms bsz bst0 be0 t (Sais.tyOf t) =
      Rs.Res.ok ((Sais.calcPosRun t (Sais.tyOf t) lms).pos, m, (Sais.calcPosRun t (Sais.tyOf t) lms).bStart,
        (Sais.calcPosRun t (Sais.tyOf t) lms).bEnd) :=
  calc_pos_source_eq_model_on_safe_runs castU pos0 lms bsz bst0 be0 t hv hc hsz
    (Thm.GenSrcSaisCalcPos.safeRun_of_valid t hv hsz lms hl)

/-- **the translated `calc_pos` on suffix-sorted LMS positions returns the sorted suffix permutation** (induced sorting,
`induced_sort_correct`, for the code itself) -/
theorem calc_pos_source_sorted (castU : Nat → Option Nat) (pos0 lms : List Nat) (bsz : Rs.VecMap)
    (bst0 be0 t : List Nat) (hv : Sais.Valid t) (hc : ∀ c ∈ t, castU c = some c) (hsz : t.length < 2 ^ 64)
    (hl : Sais.LmsSorted t lms) :
    ∃ pos m bs be, Gen.SrcSaisCalcPos.calc_pos castU (Gen.SrcPosTypes.is_l_pos (Sais.tyOf t))
        (Gen.SrcPosTypes.is_s_pos (Sais.tyOf t)) (Gen.SrcPosTypes.is_lms_pos (Sais.tyOf t))
        (Gen.SrcSaisBuckets.init_bucket_start castU) Gen.SrcSaisBuckets.init_bucket_end pos0 lms bsz bst0 be0 t (Sais.tyOf t) =
      Rs.Res.ok (pos, m, bs, be) ∧ SuffixSorted t pos := by
  obtain ⟨m, h⟩ := calc_pos_source_eq_model castU pos0 lms bsz bst0 be0 t hv hc hsz hl.1
  exact ⟨_, m, _, _, h, Sais.induced_sort_suffix t hv lms hl⟩

-- the run on the doc-test text of `suffix_array_int` with its sorted LMS positions is index-safe, and the translated code
-- evaluated on it returns the suffix array
example : Thm.GenSrcSaisCalcPos.SafeRun [3, 2, 2, 4, 4, 1, 2, 1, 0] (Sais.tyOf [3, 2, 2, 4, 4, 1, 2, 1, 0]) [8, 5, 1] :=
  ⟨by decide +kernel, by decide +kernel, by decide +kernel, by decide +kernel⟩
example : (do
    let ty ← Gen.SrcPosTypes.new [3, 2, 2, 4, 4, 1, 2, 1, 0]
    let r ← Gen.SrcSaisCalcPos.calc_pos some (Gen.SrcPosTypes.is_l_pos ty) (Gen.SrcPosTypes.is_s_pos ty)
      (Gen.SrcPosTypes.is_lms_pos ty) (Gen.SrcSaisBuckets.init_bucket_start some) Gen.SrcSaisBuckets.init_bucket_end
      [] [8, 5, 1] [] [] [] [3, 2, 2, 4, 4, 1, 2, 1, 0] ty
    pure r.1) = Rs.Res.ok [8, 7, 5, 6, 1, 2, 0, 4, 3] := by decide +kernel
-- an LMS list with a position outside the text: the code panics (the model drops the write)
example : Gen.SrcSaisCalcPos.calc_pos some (fun _ => Rs.Res.ok false) (fun _ => Rs.Res.ok false) (fun _ => Rs.Res.ok false)
    (Gen.SrcSaisBuckets.init_bucket_start some) Gen.SrcSaisBuckets.init_bucket_end [] [7] [] [] [] [1, 0] [false, true]
    = Rs.Res.panic := by decide +kernel

/-! ### translated text of `Sais::lms_substring_eq`, `Sais::calc_lms_pos` (`RbV/Gen/SrcSaisLms.lean`) -/

/-- translated `lms_substring_eq` (with the translated `is_lms_pos`) = the mirror model `Sais.lmsSubEq` for two **different**
positions of a text SA-IS accepts: `for k in 0..` never leaves the text (it stops at the latest when a cursor reaches the
final position) and the fuel `n + 1` suffices; with `sais_lms_substring_eq` the translated function decides equality of typed
LMS substrings -/
theorem lms_substring_eq_source_eq_model (t : List Nat) (hv : Sais.Valid t) (i j : Nat) (hi : i < t.length) (hj : j < t.length)
    (hij : i ≠ j) (hsz : t.length + t.length < 2 ^ 64) :
    Gen.SrcSaisLms.lms_substring_eq (Gen.SrcPosTypes.is_l_pos (Sais.tyOf t)) (Gen.SrcPosTypes.is_s_pos (Sais.tyOf t))
      (Gen.SrcPosTypes.is_lms_pos (Sais.tyOf t)) t (Sais.tyOf t) i j = Rs.Res.ok (Sais.lmsSubEq t (Sais.tyOf t) i j) :=
  Thm.GenSrcSaisLms.lms_substring_eq_eq_model _ _ _ t (Sais.tyOf t) i j hi hj hij hsz
    (fun p hp => Sais.sym_ne_last hv p hp)
    (fun q hq => Thm.GenSrcPosTypes.is_lms_pos_eq_model _ q (by rw [Sais.length_tyOf]; exact hq))

/-- translated `calc_lms_pos` = the model's collection loop (`Sais.collectStep`: exactly the LMS positions ascending and their
indices, `sais_lms_pos`), then `calc_pos` on them, then `sort_lms_suffixes` at the width the dispatch selects — for every pair
of callees (they are abstract parameters; `calc_pos` is `calc_pos_source_eq_model`) -/
theorem calc_lms_pos_source_eq_model
    (calcPos : List Nat → List Nat → Rs.VecMap → List Nat → List Nat → List Nat → List Bool →
      Rs.Res (List Nat × Rs.VecMap × List Nat × List Nat))
    (sortLms : Nat → List Nat → List Nat → List Nat → Rs.VecMap → List Nat → List Nat → List Nat → List Bool → Nat →
      Rs.Res (List Nat × List Nat × List Nat × Rs.VecMap × List Nat × List Nat))
    (pos lms0 rtp : List Nat) (bsz : Rs.VecMap) (bst be t : List Nat) (hr : t.length ≤ rtp.length) (hsz : t.length < 2 ^ 64) :
    Gen.SrcSaisLms.calc_lms_pos (Gen.SrcPosTypes.is_l_pos (Sais.tyOf t)) (Gen.SrcPosTypes.is_s_pos (Sais.tyOf t))
        (Gen.SrcPosTypes.is_lms_pos (Sais.tyOf t)) calcPos sortLms pos lms0 rtp bsz bst be t (Sais.tyOf t) =
      (do let c := Sais.forUp t.length (Sais.collectStep (Sais.tyOf t)) ([], rtp, 0)
          let (pos, bsz, bst, be) ← calcPos pos c.1 bsz bst be t (Sais.tyOf t)
          sortLms (Thm.GenSrcSaisLms.widthOf c.1.length) pos c.1 c.2.1 bsz bst be t (Sais.tyOf t) c.1.length) :=
  Thm.GenSrcSaisLms.calc_lms_pos_eq_model _ _ _ calcPos sortLms (Sais.tyOf t)
    (fun q hq => Thm.GenSrcPosTypes.is_lms_pos_eq_model _ q hq) pos lms0 rtp bsz bst be t (Sais.length_tyOf t) hr hsz

-- the LMS substrings at 1 and 3 (`1 3 1`) are equal, those at 1 and 5 (`1 3 0`) are not
example : (do let ty ← Gen.SrcPosTypes.new [2, 1, 3, 1, 3, 1, 3, 0]
              let a ← Gen.SrcSaisLms.lms_substring_eq (Gen.SrcPosTypes.is_l_pos ty) (Gen.SrcPosTypes.is_s_pos ty)
                        (Gen.SrcPosTypes.is_lms_pos ty) [2, 1, 3, 1, 3, 1, 3, 0] ty 1 3
              let b ← Gen.SrcSaisLms.lms_substring_eq (Gen.SrcPosTypes.is_l_pos ty) (Gen.SrcPosTypes.is_s_pos ty)
                        (Gen.SrcPosTypes.is_lms_pos ty) [2, 1, 3, 1, 3, 1, 3, 0] ty 1 5
              pure (a, b)) = Rs.Res.ok (true, false) := by decide +kernel
-- `i = j = n − 1`: the scan runs off the text (never called so)
example : (do let ty ← Gen.SrcPosTypes.new [1, 0]
              Gen.SrcSaisLms.lms_substring_eq (Gen.SrcPosTypes.is_l_pos ty) (Gen.SrcPosTypes.is_s_pos ty)
                (Gen.SrcPosTypes.is_lms_pos ty) [1, 0] ty 1 1) = Rs.Res.panic := by decide +kernel

/-- **translated `sort_lms_suffixes` (with the translated `is_lms_pos`, `lms_substring_eq`) = the mirror model
`Sais.sortLmsSuffixes`** on a text SA-IS accepts, for every `construct` of the next recursion level that returns what the
model's `rec` returns: the naming loop is `Sais.naming` (`reduced_text[reduced_text_pos[p]] = label`, `lms_substring_eq(prev, p)`
on two different positions, `cast(label)` with `label < count`), then `label + 1 < count` decides between the recursion with the
`lms_pos` backup and the filter of `pos`.  Hypotheses = what the model-level proof establishes before the call (`pos` a
duplicate-free list of positions — a permutation after `calc_pos` —, `reduced_text_pos` maps the LMS positions below `count`,
`count` = number of LMS positions) and what keeps the casts from panicking -/
theorem sort_lms_suffixes_source_eq_model (castS : Nat → Option Nat)
    (constructF : List Nat → List Nat → List Nat → Rs.VecMap → List Nat → List Nat → List Nat →
      Rs.Res (List Nat × List Nat × List Nat × Rs.VecMap × List Nat × List Nat))
    (t : List Nat) (hv : Sais.Valid t) (cnt : Nat) (rec : List Nat → Sais.St → Sais.St) (s : Sais.St) (bsz : Rs.VecMap)
    (hsz : t.length + t.length < 2 ^ 64) (hcast : ∀ x, x < cnt → castS x = some x) (hc63 : cnt < 2 ^ 63)
    (hnd : s.pos.Nodup) (hlt : ∀ p ∈ s.pos, p < t.length) (hne : 0 < s.pos.length)
    (h0 : s.pos.getD 0 0 < s.redPos.length ∧ s.redPos.getD (s.pos.getD 0 0) 0 < cnt)
    (hrp : ∀ p ∈ s.pos, Sais.isLms (Sais.tyOf t) p = true → p < s.redPos.length ∧ s.redPos.getD p 0 < cnt)
    (hcount : (s.pos.filter (Sais.isLms (Sais.tyOf t))).length ≤ cnt)
    (hrec : ∀ red, ∃ bsz', constructF s.pos s.lmsPos s.redPos bsz s.bStart s.bEnd red =
      Rs.Res.ok ((rec red s).pos, (rec red s).lmsPos, (rec red s).redPos, bsz', (rec red s).bStart, (rec red s).bEnd))
    (hback : ∀ red, ∀ p ∈ (rec red s).pos, p < s.lmsPos.length) :
    ∃ bsz', Gen.SrcSaisLms.sort_lms_suffixes (Gen.SrcPosTypes.is_l_pos (Sais.tyOf t)) (Gen.SrcPosTypes.is_s_pos (Sais.tyOf t))
        (Gen.SrcPosTypes.is_lms_pos (Sais.tyOf t)) castS constructF s.pos s.lmsPos s.redPos bsz s.bStart s.bEnd t
        (Sais.tyOf t) cnt =
      Rs.Res.ok ((Sais.sortLmsSuffixes rec t (Sais.tyOf t) cnt s).pos, (Sais.sortLmsSuffixes rec t (Sais.tyOf t) cnt s).lmsPos,
        (Sais.sortLmsSuffixes rec t (Sais.tyOf t) cnt s).redPos, bsz', (Sais.sortLmsSuffixes rec t (Sais.tyOf t) cnt s).bStart,
        (Sais.sortLmsSuffixes rec t (Sais.tyOf t) cnt s).bEnd) :=
  Thm.GenSrcSaisLms.sort_lms_suffixes_eq_model _ _ _ castS constructF t (Sais.tyOf t) cnt rec s bsz (Sais.length_tyOf t) hsz
    (fun p hp => Sais.sym_ne_last hv p hp)
    (fun q hq => Thm.GenSrcPosTypes.is_lms_pos_eq_model _ q (by rw [Sais.length_tyOf]; exact hq))
    hcast hc63 hnd hlt hne (fun _ => h0) hrp hcount (fun _ _ => hrec _) (fun _ _ => hback _)

-- the naming of `2 1 3 1 3 1 3 0` through the translated code (sorted `pos`, LMS positions 1, 3, 5, 7 ↦ indices 0..3): the
-- equal LMS substrings at 3 and 1 get one label (reduced text `2 2 1 0`), `label + 1 = 3 < 4`: the recursion is entered (a stub)
example : (do
    let ty ← Gen.SrcPosTypes.new [2, 1, 3, 1, 3, 1, 3, 0]
    let r ← Gen.SrcSaisLms.sort_lms_suffixes (Gen.SrcPosTypes.is_l_pos ty) (Gen.SrcPosTypes.is_s_pos ty)
      (Gen.SrcPosTypes.is_lms_pos ty) some (fun _ _ _ _ _ _ red => Rs.Res.ok (red, [], [], [], [], []))
      [7, 5, 3, 1, 0, 6, 4, 2] [1, 3, 5, 7] [0, 0, 0, 1, 0, 2, 0, 3] [] [] [] [2, 1, 3, 1, 3, 1, 3, 0] ty 4
    pure r.1) = Rs.Res.ok [2, 2, 1, 0] := by decide +kernel

/-! ### `Sais::construct` and the two entry points: the translated pieces tied into one recursion (`Thm/GenSrcSaisConstruct.lean`) -/

/-- **the fuelled recursion over the translated functions = the mirror model `Sais.construct`** on every text SA-IS accepts:
`constructSrc (f + 1)` is the translated `construct` (translated `PosTypes::new`, `calc_lms_pos`, `calc_pos` on the translated bucket
functions and predicates) whose `sort_lms_suffixes` calls `constructSrc f`; no panic at any level, the fuel `t.length` suffices
(the reduced text is shorter), all six fields agree.  `castU` (symbol → `usize`) never fails, `castS w` is value-preserving
below `2^w` for the width `w` the dispatch selects. -/
theorem construct_source_eq_model (castU : Nat → Option Nat) (castS : Nat → Nat → Option Nat)
    (hcU : ∀ c, castU c = some c) (hcS : ∀ w x, x < 2 ^ w → castS w x = some x)
    (f : Nat) (t : List Nat) (s : Sais.St) (bsz : Rs.VecMap) (hv : Sais.Valid t) (hf : t.length ≤ f)
    (hs : t.length ≤ s.redPos.length) (hsz : s.redPos.length < 2 ^ 62) :
    ∃ bsz', Thm.GenSrcSaisConstruct.constructSrc castU castS f s.pos s.lmsPos s.redPos bsz s.bStart s.bEnd t =
      Rs.Res.ok ((Sais.construct f t s).pos, (Sais.construct f t s).lmsPos, (Sais.construct f t s).redPos, bsz',
        (Sais.construct f t s).bStart, (Sais.construct f t s).bEnd) := by
  -- the translated units this statement is about, named so that the orchestrator does not count it when one of them cannot be
  -- regenerated (`stale_source_theorems` in `./check` looks for the unit names)
  have _u := (@Gen.SrcSaisLms.construct, @Gen.SrcSaisCalcPos.calc_pos, @Gen.SrcSaisBuckets.init_bucket_start, @Gen.SrcPosTypes.new)
  exact Thm.GenSrcSaisConstruct.constructSrc_eq_model castU castS hcU hcS f t s bsz hv hf hs hsz

/-- **`suffix_array_int` over the translated functions**: the hand-written glue `suffixArrayIntSrc` (`Sais::new(n)`, the call,
`sais.pos`) and the hand-written recursion knot `constructSrc` over the translated `construct` / `PosTypes::new` /
`calc_lms_pos` / `calc_pos` / `init_bucket_*` / `sort_lms_suffixes` / `lms_substring_eq`, with the `cast`s as abstract
functions under the contracts `hcU`, `hcS` — the reservations (1), (2) spelled out at `suffix_array_source_sorted_partial` —
do not panic and return an array accepted by `checkSorted`, for every dense integer text that ends in its unique minimum
(`Sais.Valid`; `n < 2^62`).  An integer text with a repeated smallest symbol is outside `Sais.Valid`. -/
theorem suffix_array_int_source_sorted (castU : Nat → Option Nat) (castS : Nat → Nat → Option Nat)
    (hcU : ∀ c, castU c = some c) (hcS : ∀ w x, x < 2 ^ w → castS w x = some x)
    (t : List Nat) (hv : Sais.Valid t) (hsz : t.length < 2 ^ 62) :
    ∃ sa, Thm.GenSrcSaisConstruct.suffixArrayIntSrc castU castS t = Rs.Res.ok sa ∧ checkSorted t sa = true := by
  -- the translated units this statement is about, named so that the orchestrator does not count it when one of them cannot be
  -- regenerated (`stale_source_theorems` in `./check` looks for the unit names)
  have _u := (@Gen.SrcSaisLms.construct, @Gen.SrcSaisCalcPos.calc_pos, @Gen.SrcSaisBuckets.init_bucket_start, @Gen.SrcPosTypes.new)
  obtain ⟨r, h1, h2⟩ := Thm.GenSrcSaisConstruct.constructSrc_sorted castU castS hcU hcS t t.length hv (Nat.le_refl _) hsz
  refine ⟨r.1, ?_, (checkSorted_iff_sorted t r.1).mpr h2⟩
  unfold Thm.GenSrcSaisConstruct.suffixArrayIntSrc
  rw [h1]; rfl

/-- **`suffix_array` from the source text** returns an array accepted by `checkSA` (⇔ the property C03, `checkSA_iff`) for every
non-empty byte text whose last symbol is its smallest, `n + 256 < 2^62`: translated `Alphabet::new`, `sentinel_count`,
`transform_text`, then the recursion over the translated `construct` / `PosTypes::new` / `calc_lms_pos` / `calc_pos` /
`init_bucket_*` / `sort_lms_suffixes` / `lms_substring_eq` started from `Sais::new(n)`, then `sais.pos` — no panic anywhere.
**Partial** in exactly this sense: (1) the five glue statements of `suffix_array` itself (`Sais::new`, the `match` on
`alphabet.len() + sentinel_count` with its guards, `sais.pos`) and the recursion knot are the hand-written
`suffixArraySrc` / `constructSrc`, not translated text — the `match` is represented by the abstract `castT` with the contract
the arm taken guarantees (`Sais.pick_fits` with `sais_width_arms_fit` proves it of the *extracted* guards, `Gen/SaisWidth.lean`); (2) the
`cast`s are abstract functions with the contracts `hcast`, `hcU`, `hcS` (value-preserving where the type is wide enough), not
derived from `num_traits`. -/
theorem suffix_array_source_sorted_partial (castT castU : Nat → Option Nat) (castS : Nat → Nat → Option Nat)
    (t : List Nat) (hne : t ≠ []) (hb : ∀ c ∈ t, c < 256) (hmin : ∀ p, p < t.length → sentinelOf t ≤ t.getD p 0)
    (hsz : t.length + 256 < 2 ^ 62)
    (hcast : ∀ x, x < (Alpha.mk t).length + t.count (sentinelOf t) → castT x = some x)
    (hcU : ∀ c, castU c = some c) (hcS : ∀ w x, x < 2 ^ w → castS w x = some x) :
    ∃ sa, Thm.GenSrcSaisConstruct.suffixArraySrc castT castU castS t = Rs.Res.ok sa ∧ checkSA t sa = true := by
  -- the translated units this statement is about, named so that the orchestrator does not count it when one of them cannot be
  -- regenerated (`stale_source_theorems` in `./check` looks for the unit names)
  have _u := (@Gen.SrcSaisLms.construct, @Gen.SrcSaisCalcPos.calc_pos, @Gen.SrcSaisBuckets.init_bucket_start, @Gen.SrcPosTypes.new)
  obtain ⟨tt, h1, hv, hlen, hacc⟩ := transform_text_source_feeds_sais castT t hne hb hmin (by omega) hcast
  obtain ⟨r, h2, h3⟩ := Thm.GenSrcSaisConstruct.constructSrc_sorted castU castS hcU hcS tt t.length hv (by omega) (by omega)
  refine ⟨r.1, ?_, hacc r.1 h3⟩
  unfold Thm.GenSrcSaisConstruct.suffixArraySrc
  rw [Thm.GenSrcAlphabet.alphabetNew_eq_model t hb, Thm.GenSrcTransform.sentinel_count_eq_model t hne hmin (by omega)] at h1 ⊢
  simp only [Rs.Res.ok_bind] at h1 ⊢
  rw [h1]
  simp only [Rs.Res.ok_bind]
  rw [h2]; rfl

-- both entry points evaluated through the translated code: the doc tests of `suffix_array_int` and a two-sentence text
set_option maxRecDepth 100000 in
example : Thm.GenSrcSaisConstruct.suffixArrayIntSrc some (fun w x => if x < 2 ^ w then some x else none)
    [3, 2, 2, 4, 4, 1, 2, 1, 0] = Rs.Res.ok [8, 7, 5, 6, 1, 2, 0, 4, 3] := by decide +kernel
set_option maxRecDepth 100000 in
example : (do let sa ← Thm.GenSrcSaisConstruct.suffixArraySrc (fun x => if x < 256 then some x else none) some
                (fun w x => if x < 2 ^ w then some x else none) [98, 97, 36, 98, 97, 36]
              pure (checkSA [98, 97, 36, 98, 97, 36] sa)) = Rs.Res.ok true := by decide +kernel

end RbV.Thm.C03
