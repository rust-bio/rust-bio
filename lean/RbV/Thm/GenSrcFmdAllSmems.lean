import RbV.Gen.SrcFmdAllSmems
import RbV.Thm.GenSrcFmdSmems
import RbV.Lemmas.SmemsNext
/-!
# The translated text of `FMDIndex::all_smems` equals the mirror model `SmemModel.allSmems`

`RbV/Gen/SrcFmdAllSmems.lean` is regenerated from `src/data_structures/fmindex.rs` on every `./check C06`; the translated
`all_smems` calls the translated `smems` (`RbV/Gen/SrcFmdSmems.lean`).  The equality uses of `smems` only what
`smems_eq_model_of` states — it returns the model's matches **in some order** — and is itself stated up to order: the
position `next_i0` the loop continues at is a maximum over the matches, the result a concatenation.
-/
set_option linter.unusedSimpArgs false

namespace RbV.Thm.GenSrcFmdAllSmems
open RbV RbV.Rs RbV.Gen RbV.Thm.GenSrc RbV.FMDModel RbV.SmemModel RbV.Thm.GenSrcFmdExt RbV.Thm.GenSrcFmdSmems

abbrev HitT := BiT × Nat × Nat

/-- the `next_i0` fold on translated matches: `SmemModel.runMax` of `pos + len` -/
def nextT (cs : List HitT) (n : Nat) : Nat :=
  cs.foldl (fun nx h => if h.2.1 + h.2.2 > nx then h.2.1 + h.2.2 else nx) n

theorem nextT_perm {l1 l2 : List HitT} (h : l1.Perm l2) (n : Nat) : nextT l1 n = nextT l2 n :=
  foldl_next_perm (fun h : HitT => h.2.1 + h.2.2) h n

/-- on the translated images of the model's matches it is the model's `nextI0` -/
theorem nextT_map (cs : List (Hit Bi)) (i0 : Nat) : nextT (cs.map hitT) (i0 + 1) = nextI0 cs i0 :=
  List.foldl_map

variable (lessF : Nat → Nat) (occF : Nat → Nat → Nat)

/-- the `for (_, p, l) in curr_smems.iter()` loop -/
theorem nextT_eq : ∀ (cs : List HitT) (n : Nat), (∀ h ∈ cs, h.2.1 + h.2.2 < 2 ^ 64) →
    SrcFmdAllSmems.all_smems_for1 lessF occF dnaCompl cs n = Res.ok (nextT cs n) := by
  intro cs
  induction cs with
  | nil => intro n _; simp [SrcFmdAllSmems.all_smems_for1, nextT]
  | cons h rest ih =>
    intro n hb
    obtain ⟨iv, p, l⟩ := h
    have hh := hb (iv, p, l) (by simp)
    simp only at hh
    have e1 : Rs.add 64 p l = Res.ok (p + l) := Rs.add_ok hh
    have e1' : Rs.add 64 l p = Res.ok (p + l) := Rs.add_ok_comm hh
    have hrec := ih (if p + l > n then p + l else n) (fun x hx => hb x (List.mem_cons_of_mem _ hx))
    by_cases hgt : p + l > n
    · simp only [hgt, if_true] at hrec
      simp [SrcFmdAllSmems.all_smems_for1, nextT, e1, e1', hgt, hrec]
    · simp only [hgt, if_false] at hrec
      simp [SrcFmdAllSmems.all_smems_for1, nextT, e1, e1', hgt, hrec]

/-- what the loop needs of the translated `smems`: the model's matches in some order, ends below `2^64` -/
def SmemsOk (ops : Ops Bi) (pat : List Nat) (l : Nat) : Prop :=
  ∀ i, i < pat.length → ∃ res, SrcFmdSmems.smems lessF occF dnaCompl pat i l = Res.ok res ∧
    res.Perm ((SmemModel.smems ops pat i l).map hitT) ∧ ∀ h ∈ SmemModel.smems ops pat i l, h.pos + h.len < 2 ^ 64

theorem while1_eq (ops : Ops Bi) (pat : List Nat) (l : Nat) (hsm : SmemsOk lessF occF ops pat l)
    (hL : pat.length + 1 < 2 ^ 63) :
    ∀ (f i0 : Nat) (accT : List HitT) (acc : List (Hit Bi)), accT.Perm (acc.map hitT) → pat.length ≤ i0 + f →
      ∃ r, SrcFmdAllSmems.all_smems_while1 lessF occF dnaCompl pat l (f + 1) (i0, accT) = Res.ok r ∧
        r.2.Perm ((allLoop ops pat l f i0 acc).map hitT) := by
  intro f
  induction f with
  | zero =>
    intro i0 accT acc hp hf
    have : ¬ i0 < pat.length := by omega
    exact ⟨(i0, accT), by simp [SrcFmdAllSmems.all_smems_while1, this], by simpa [allLoop] using hp⟩
  | succ f ih =>
    intro i0 accT acc hp hf
    by_cases hlt : i0 < pat.length
    · obtain ⟨res, hres, hperm, hbnd⟩ := hsm i0 hlt
      have h1 : i0 + 1 < 2 ^ 64 := by have := GenSrc.p63; omega
      have e1 : Rs.add 64 i0 1 = Res.ok (i0 + 1) := Rs.add_ok h1
      have e1' : Rs.add 64 1 i0 = Res.ok (i0 + 1) := Rs.add_ok_comm h1
      have hb' : ∀ h ∈ res, h.2.1 + h.2.2 < 2 ^ 64 := by
        intro h hh
        have := (hperm.mem_iff).mp hh
        obtain ⟨k, hk, rfl⟩ := List.mem_map.mp this
        exact hbnd k hk
      have e2 := nextT_eq lessF occF res (i0 + 1) hb'
      have hnext : nextT res (i0 + 1) = nextI0 (SmemModel.smems ops pat i0 l) i0 := by
        rw [nextT_perm hperm, nextT_map]
      have hge : i0 + 1 ≤ nextT res (i0 + 1) := (foldl_next (fun h : HitT => h.2.1 + h.2.2) res (i0 + 1)).1
      obtain ⟨r, hr, hrp⟩ := ih (nextT res (i0 + 1)) (accT ++ res) (acc ++ SmemModel.smems ops pat i0 l)
        (by rw [List.map_append]; exact List.Perm.append hp hperm) (by omega)
      refine ⟨r, ?_, ?_⟩
      · rw [SrcFmdAllSmems.all_smems_while1]
        simp only [hlt, decide_true, if_true, hres, Res.ok_bind, e1, e1', e2, hr, Res.pure_eq_ok, bind_pure_comp,
          pure_bind, map_pure]
      · rw [hnext] at hrp
        simpa [allLoop, hlt] using hrp
    · exact ⟨(i0, accT), by simp [SrcFmdAllSmems.all_smems_while1, hlt], by simpa [allLoop, hlt] using hp⟩

/-- **the translated `all_smems` returns the mirror model's matches, up to their order** -/
theorem all_smems_eq_model (ops : Ops Bi) (pat : List Nat) (l : Nat) (hsm : SmemsOk lessF occF ops pat l)
    (hL : pat.length + 1 < 2 ^ 63) :
    ∃ res, SrcFmdAllSmems.all_smems lessF occF dnaCompl pat l = Res.ok res ∧
      res.Perm ((allSmems ops pat l).map hitT) := by
  obtain ⟨r, hr, hp⟩ := while1_eq lessF occF ops pat l hsm hL pat.length 0 [] [] (by simp) (by omega)
  refine ⟨r.2, ?_, by simpa [allSmems] using hp⟩
  simp [SrcFmdAllSmems.all_smems, hr]

end RbV.Thm.GenSrcFmdAllSmems
