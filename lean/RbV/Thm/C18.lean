import RbV.Spec.Containers
import RbV.Model.BitEnc
import RbV.Model.SmallInts
import RbV.Model.Fenwick
import RbV.Lemmas.BitEnc
import RbV.Lemmas.SmallInts
import RbV.Lemmas.Fenwick
import RbV.Thm.GenSrcFenwick
import RbV.Thm.GenSrcBitEnc
import RbV.Thm.GenSrcBitEncOps
import RbV.Thm.GenSrcSmallInts
/-!
# C18 — bit-packed containers behave exactly like plain vectors

Sections: the mirror models against the specification (proofs in `RbV/Lemmas/{BitEncBits,BitEnc,SmallInts,Fenwick}.lean`),
then the translated source text: Fenwick tree (`Thm/GenSrcFenwick.lean`), BitEnc (`Thm/GenSrcBitEnc.lean`,
`Thm/GenSrcBitEncOps.lean`), SmallInts (`Thm/GenSrcSmallInts.lean`).  The two iterator subsections define the hand-written
glue `iterNext`/`iterCollect` over the translated `get`, `siterNext`/`siterCollect` over the translated `real_value`, and
prove it here; theorems that rest on such glue carry the suffix `_partial`.

The oracle of the correspondence run is the *specification* (`RbV.Spec.*`: a plain list).  The theorems below say
that the mirror models in `RbV/Model/` — which follow `bitenc.rs` (with the `push_values` correction of /repo
commit 48b7982), `smallints.rs` and `bit_tree.rs` statement by statement — are observationally that plain list,
for every width, every operation and **every operation history of the model** (no bound on the length or the values).  A `set`
beyond the end is a no-op in the models where the code panics (`self.storage[block]`, `self.smallints[i] = …`; examples below):
the histories of the code are those with `OpsOk` (every `set` hits an existing element), and what holds of the translated text
is `bitenc_source_refines` / `smallints_source_refines`.
-/
namespace RbV.Thm.C18
open RbV.Spec

section bitenc
open RbV.Spec.BitEnc RbV.Model.BitEnc RbV.Lemmas.BitEnc

/-- the specified block count is the least number of blocks that hold `len` values -/
theorem specBlocks_least (w len : Nat) (hw : 1 ≤ w ∧ w ≤ 8) :
    len ≤ specBlocks w len * perBlock w ∧ (specBlocks w len - 1) * perBlock w < len ∨ len = 0 := by
  unfold specBlocks perBlock
  by_cases h0 : len = 0
  · exact Or.inr h0
  · exact Or.inl ⟨le_ceil_mul _ len (per_pos w hw), ceil_pred_mul_lt _ len (by omega)⟩

/-- **one step**: if the model state `s` represents the vector `l` (`Abs`: same length, every in-range read
returns the element, block count = ⌈len / ⌊32/w⌋⌉), then after *any* operation — `push`, `push_values`
(fill-up / whole blocks / partial block), `set` (out of range: a no-op in the model, a panic in the code), `get`, `iter`, `clear` — the new model state
represents `specStep l op`.  This is `abs (step s op) = specStep (abs s) op`. -/
theorem bitenc_step_commutes (w : Nat) (hw : 1 ≤ w ∧ w ≤ 8) (s : St) (l : List Nat) (op : Op)
    (h : Abs w s l) : Abs w (step w s op) (specStep w l op) :=
  abs_step w s l op hw h

/-- the abstraction is a function of the state: the represented vector is what iteration yields -/
theorem bitenc_abs_is_iter (w : Nat) (hw : 1 ≤ w ∧ w ≤ 8) (s : St) (l : List Nat) (h : Abs w s l) :
    toList w s = l :=
  toList_of_abs w s l hw h

/-- **every history of the model** from `new` (for the code: `bitenc_source_refines`, histories with `OpsOk`): iteration yields the spec vector, the length agrees, every read
(in range or not) agrees — out-of-range reads are `none` — and the block count is ⌈len / ⌊32/w⌋⌉ -/
theorem bitenc_refines (w : Nat) (hw : 1 ≤ w ∧ w ≤ 8) (ops : List Op) :
    toList w (ops.foldl (step w) new) = ops.foldl (specStep w) [] ∧
    (ops.foldl (step w) new).len = (ops.foldl (specStep w) []).length ∧
    (∀ i, get w (ops.foldl (step w) new) i = (ops.foldl (specStep w) [])[i]?) ∧
    nrBlocks (ops.foldl (step w) new)
      = ((ops.foldl (step w) new).len + 32 / w - 1) / (32 / w) := by
  have h := abs_run w hw ops new [] (abs_new w hw)
  refine ⟨toList_of_abs w _ _ hw h, h.1.1, fun i => get_of_abs w _ _ i hw h, ?_⟩
  have := h.2
  simpa [specBlocks, perBlock, nrBlocks] using this

/-- every block of the model stays a 32-bit word in every history (the `u32` storage of the Rust code is modelled
with explicit `% 2^32`; nothing ever needs a 33rd bit) -/
theorem bitenc_blocks_u32 (w : Nat) (hw : 1 ≤ w ∧ w ≤ 8) (ops : List Op) :
    ∀ x ∈ (ops.foldl (step w) new).storage, x < 2 ^ 32 :=
  wf_run w hw ops new [] (abs_new w hw) (by intro x hx; simp [new] at hx)

/-- the spec vector holds width-masked values only -/
theorem bitenc_spec_masked (w : Nat) (ops : List Op) :
    ∀ x ∈ ops.foldl (specStep w) [], x < 2 ^ w := by
  have hpos : 0 < 2 ^ w := Nat.two_pow_pos w
  suffices H : ∀ (l : List Nat), (∀ x ∈ l, x < 2 ^ w) → ∀ x ∈ ops.foldl (specStep w) l, x < 2 ^ w from
    H [] (by simp)
  induction ops with
  | nil => intro l hl; exact hl
  | cons op ops ih =>
    intro l hl
    apply ih
    cases op with
    | push v =>
      intro x hx
      simp only [specStep, List.mem_append, List.mem_singleton] at hx
      rcases hx with hx | rfl
      · exact hl x hx
      · exact Nat.mod_lt _ hpos
    | pushValues n v =>
      intro x hx
      simp only [specStep, List.mem_append, List.mem_replicate] at hx
      rcases hx with hx | ⟨_, rfl⟩
      · exact hl x hx
      · exact Nat.mod_lt _ hpos
    | set i v =>
      intro x hx
      simp only [specStep] at hx
      rcases List.mem_or_eq_of_mem_set hx with hx | rfl
      · exact hl x hx
      · exact Nat.mod_lt _ hpos
    | get i => exact hl
    | iter => exact hl
    | clear => intro x hx; simp [specStep] at hx

-- non-vacuity: width 3 (10 values per block, 2 unused bits), a history that fills a block with `push_values`,
-- overruns it by one, writes an unmasked value and reads beyond the end
example : toList 3 ([Op.pushValues 9 1, .pushValues 2 13, .push 255, .set 0 8, .pushValues 12 6].foldl (step 3) new)
    = [0, 1, 1, 1, 1, 1, 1, 1, 1, 5, 5, 7, 6, 6, 6, 6, 6, 6, 6, 6, 6, 6, 6, 6] := by decide +kernel
example : nrBlocks ([Op.pushValues 9 1, .pushValues 2 13].foldl (step 3) new) = 2 := by decide +kernel
example : get 3 ([Op.pushValues 9 1, .pushValues 2 13].foldl (step 3) new) 11 = none := by decide +kernel

end bitenc

section smallints
open RbV.Spec.SmallInts RbV.Model.SmallInts RbV.Lemmas.SmallInts

/-- every history of the model from `new` (any small range `[lo, hi]`, `hi = S::max_value()`; the big type is ℤ, so every small
value is representable in it: pairs such as `SmallInts<i8, u16>` are not covered; for the code: `smallints_source_refines`):
same length, every read agrees with the plain `List Int` (reads beyond the end are `none`), iteration / `decompress` yield it -/
theorem smallints_refines (lo hi : Int) (ops : List Op) :
    (ops.foldl (step lo hi) new).small.length = (ops.foldl specStep []).length ∧
    (∀ i, get hi (ops.foldl (step lo hi) new) i = (ops.foldl specStep [])[i]?) ∧
    toList hi (ops.foldl (step lo hi) new) = ops.foldl specStep [] := by
  have h := run_from_new lo hi ops
  exact ⟨h.1, h.2, toList_of_abs hi _ _ h⟩

/-- … and from `SmallInts::from_elem(v, n)` (whose assertion guarantees `v < S::max_value()`) -/
theorem smallints_refines_from_elem (lo hi v : Int) (n : Nat) (hv : v < hi) (ops : List Op) :
    (ops.foldl (step lo hi) (fromElem v n)).small.length = (ops.foldl specStep (specFromElem v n)).length ∧
    (∀ i, get hi (ops.foldl (step lo hi) (fromElem v n)) i = (ops.foldl specStep (specFromElem v n))[i]?) ∧
    toList hi (ops.foldl (step lo hi) (fromElem v n)) = ops.foldl specStep (specFromElem v n) := by
  have h := run_from_elem lo hi v n hv ops
  exact ⟨h.1, h.2, toList_of_abs hi _ _ h⟩

-- non-vacuity: i8 range, values below / at / above the maximum, negative, overwritten big → small → big
example : toList 127 ([Op.push 126, .push 127, .push 128, .push (-129), .set 1 5, .set 0 1000, .set 0 (-7), .set 2 127].foldl
    (step (-128) 127) new) = [-7, 5, 127, -129] := by decide +kernel

end smallints

section fenwick
open RbV.Spec.Fenwick RbV.Model.Fenwick RbV.Lemmas.Fenwick

/-- `SumBitTree`: after any sequence of updates, `get(i)` is the sum of all updates at indices `≤ i` -/
theorem fenwick_sum_correct (n : Nat) (ups : List (Nat × Int)) (hups : ∀ u ∈ ups, u.1 < n) (i : Nat) (hi : i < n) :
    get (· + ·) 0 (runSum n ups) i = prefixSum ups i :=
  sum_correct n ups hups i hi

/-- `MaxBitTree` (naturals, default 0): `get(i)` is the maximum of all updates at indices `≤ i` -/
theorem fenwick_max_correct (n : Nat) (ups : List (Nat × Nat)) (hups : ∀ u ∈ ups, u.1 < n) (i : Nat) (hi : i < n) :
    get max 0 (runMax n ups) i = prefixMax ups i :=
  max_correct n ups hups i hi

example : get (· + ·) 0 (runSum 8 [(0, 5), (7, -3), (3, 10)]) 3 = 15 := by
  rw [fenwick_sum_correct 8 _ (by decide) 3 (by decide)]; decide
example : get max 0 (runMax 9 [(8, 5), (0, 2), (4, 9)]) 4 = 9 := by
  rw [fenwick_max_correct 9 _ (by decide) 4 (by decide)]; decide

end fenwick

/-! ## Fenwick tree: function bodies translated from the source text (docs/notes/GEN.md, "Translated function bodies")

`RbV/Gen/SrcFenwick.lean` is regenerated from `src/data_structures/bit_tree.rs` by `tools/rs2lean.py` on every
`./check C18`; the theorems below are re-proved against the regenerated definitions (proofs: `RbV/Thm/GenSrcFenwick.lean`).
`Rs.Res.ok v` = the translated function returns `v` without panicking (index out of bounds, checked `usize` arithmetic,
`-isize::MIN`) and without running out of the fuel given to its `while` loop. -/
section fenwick_source
open RbV.Spec.Fenwick RbV.Model.Fenwick RbV.Lemmas.Fenwick

/-- `(idx as isize & -(idx as isize)) as usize`, computed on 64-bit two's-complement bit patterns as the translation does,
is the model's `lowbit` for every non-zero `idx` -/
theorem fenwick_lowbit_is_and_neg (i : Nat) (h0 : 0 < i) (h : i < 2 ^ 64) : i &&& (2 ^ 64 - i) = lowbit i :=
  Lemmas.Fenwick.and_neg_eq_lowbit i h0 64 h

/-- **`FenwickTree::get`, as written, is the mirror model's `get`** for every operation, every tree of at most 2^63 slots
and every in-range index (the precondition under which the Rust code does not panic on `self.tree[idx + 1]`). -/
theorem fenwick_get_source_eq_model {α : Type} (op : α → α → α) (dflt : α) (tree : List α) (idx : Nat)
    (h : idx + 1 < tree.length) (hlen : tree.length ≤ 2 ^ 63) :
    Gen.SrcFenwick.get op dflt tree idx = Rs.Res.ok (Model.Fenwick.get op dflt tree idx) :=
  GenSrcFenwick.get_eq_model op dflt tree idx h hlen

/-- **`FenwickTree::set`, as written, is the mirror model's `set`** (the new content of `self.tree`), for every operation,
every tree of at most 2^63 slots and every index (an index beyond the tree changes nothing, as in the model). -/
theorem fenwick_set_source_eq_model {α : Type} (op : α → α → α) (dflt : α) (tree : List α) (idx : Nat) (val : α)
    (hidx : idx + 1 < 2 ^ 64) (hlen : tree.length ≤ 2 ^ 63) :
    Gen.SrcFenwick.set op dflt tree idx val = Rs.Res.ok (Model.Fenwick.set op dflt tree idx val) :=
  GenSrcFenwick.set_eq_model op dflt tree idx val hidx hlen

/-- generated code = specification (`SumBitTree`): any history of in-range updates run through the translated `set`,
starting from the model's `new n` (the translated constructor is proved equal to it in C19, `fenwick_new_source_eq_model`),
`n < 2^63`, succeeds, and the translated `get(i)` on the result returns the prefix sum.  Values are in ℤ: overflow of `+` in a
machine `T` is not modelled. -/
theorem fenwick_source_sum_correct (n : Nat) (hn : n + 1 ≤ 2 ^ 63) (ups : List (Nat × Int)) (hups : ∀ u ∈ ups, u.1 < n)
    (i : Nat) (hi : i < n) :
    ∃ t, ups.foldlM (fun t u => Gen.SrcFenwick.set (· + ·) 0 t u.1 u.2) (new (0 : Int) n) = Rs.Res.ok t ∧
      Gen.SrcFenwick.get (· + ·) 0 t i = Rs.Res.ok (prefixSum ups i) := by
  refine ⟨runSum n ups, GenSrcFenwick.run_eq_model (· + ·) 0 n hn ups _ (by simp [new]) hups, ?_⟩
  have hl : (runSum n ups).length = n + 1 := length_run (· + ·) 0 n ups
  rw [GenSrcFenwick.get_eq_model (· + ·) 0 _ i (by omega) (by omega), fenwick_sum_correct n ups hups i hi]

/-- generated code = specification (`MaxBitTree` over naturals), as `fenwick_source_sum_correct` -/
theorem fenwick_source_max_correct (n : Nat) (hn : n + 1 ≤ 2 ^ 63) (ups : List (Nat × Nat)) (hups : ∀ u ∈ ups, u.1 < n)
    (i : Nat) (hi : i < n) :
    ∃ t, ups.foldlM (fun t u => Gen.SrcFenwick.set max 0 t u.1 u.2) (new (0 : Nat) n) = Rs.Res.ok t ∧
      Gen.SrcFenwick.get max 0 t i = Rs.Res.ok (prefixMax ups i) := by
  refine ⟨runMax n ups, GenSrcFenwick.run_eq_model max 0 n hn ups _ (by simp [new]) hups, ?_⟩
  have hl : (runMax n ups).length = n + 1 := length_run max 0 n ups
  rw [GenSrcFenwick.get_eq_model max 0 _ i (by omega) (by omega), fenwick_max_correct n ups hups i hi]

example : Gen.SrcFenwick.get (· + ·) (0 : Int) [0, 5, 5, 10, 15, 0, 0, 0, 12] 3 = Rs.Res.ok 15 := by decide +kernel
example : Gen.SrcFenwick.set (· + ·) (0 : Int) [0, 0, 0, 0, 0] 0 7 = Rs.Res.ok [0, 7, 7, 0, 7] := by decide +kernel
-- out of range: the Rust code panics on `self.tree[idx]`, so does the translation
example : Gen.SrcFenwick.get (· + ·) (0 : Int) [0, 1, 2] 2 = Rs.Res.panic := by decide +kernel

end fenwick_source

/-! ## BitEnc: function bodies translated from the source text

`RbV/Gen/SrcBitEnc.lean` (regenerated from `src/data_structures/bitenc.rs` on every `./check C18`): `mask`, `get_by_addr`,
`set_by_addr`, `addr`.  The fields of `self` are parameters of the translated functions; the theorems instantiate them with
what `BitEnc::new(w)` stores (`mask(w)`, `32 - 32 % w`).  Proofs: `RbV/Thm/GenSrcBitEnc.lean`. -/
section bitenc_source

/-- `fn mask`, as written (`(1 << width) - 1` in `u32`), is the model's `mask` for every width below 32 -/
theorem bitenc_mask_source_eq_model (w : Nat) (hw : w < 32) :
    Gen.SrcBitEnc.mask w = Rs.Res.ok (Model.BitEnc.mask w) :=
  GenSrcBitEnc.mask_eq_model w hw

/-- `fn addr`, as written, is the model's `addr` (no overflow of `i * width` assumed, i.e. fewer than 2^64 bits) -/
theorem bitenc_addr_source_eq_model (w i : Nat) (hw : 1 ≤ w ∧ w ≤ 8) (hmul : i * w < 2 ^ 64) :
    Gen.SrcBitEnc.addr w (Model.BitEnc.usable w) i = Rs.Res.ok (Model.BitEnc.addr w i) :=
  GenSrcBitEnc.addr_eq_model w i hw hmul

/-- `fn get_by_addr`, as written, is the model's `getByAddr` for an in-bounds block and a bit position inside the block -/
theorem bitenc_get_by_addr_source_eq_model (w : Nat) (hw : w ≤ 8) (st : List Nat) (block bit : Nat)
    (hb : block < st.length) (hbit : bit < 32) :
    Gen.SrcBitEnc.getByAddr st (Model.BitEnc.mask w) block bit = Rs.Res.ok (Model.BitEnc.getByAddr w st block bit) :=
  GenSrcBitEnc.getByAddr_eq_model w hw st block bit hb hbit

/-- `fn set_by_addr`, as written, is the model's `setByAddr` (new `self.storage`) -/
theorem bitenc_set_by_addr_source_eq_model (w : Nat) (st : List Nat) (block bit value : Nat)
    (hb : block < st.length) (hbit : bit < 32) :
    Gen.SrcBitEnc.setByAddr st (Model.BitEnc.mask w) block bit value
      = Rs.Res.ok (Model.BitEnc.setByAddr w st block bit value) :=
  GenSrcBitEnc.setByAddr_eq_model w st block bit value hb hbit

/-- generated code = specification for one slot: a value written by the translated `set_by_addr` is read back by the
translated `get_by_addr` truncated to the width; neither panics; the number of blocks is unchanged -/
theorem bitenc_source_get_after_set (w : Nat) (hw : 1 ≤ w ∧ w ≤ 8) (st : List Nat) (block s value : Nat)
    (hb : block < st.length) (hs : s < 32 / w) :
    ∃ st', Gen.SrcBitEnc.setByAddr st (Model.BitEnc.mask w) block (s * w) value = Rs.Res.ok st' ∧
      st'.length = st.length ∧
      Gen.SrcBitEnc.getByAddr st' (Model.BitEnc.mask w) block (s * w) = Rs.Res.ok (value % 2 ^ w) :=
  GenSrcBitEnc.get_after_set w hw st block s value hb hs

example : Gen.SrcBitEnc.mask 3 = Rs.Res.ok 7 := by decide +kernel
example : Gen.SrcBitEnc.addr 7 28 5 = Rs.Res.ok (1, 7) := by decide +kernel
example : Gen.SrcBitEnc.setByAddr [0, 0xFFFFFFFF] 7 1 7 2 = Rs.Res.ok [0, 0xFFFFFD7F] := by decide +kernel
example : Gen.SrcBitEnc.getByAddr [0, 0xFFFFFD7F] 7 1 7 = Rs.Res.ok 2 := by decide +kernel
-- width 32 would shift the `u32` literal out of range: the Rust code panics (overflow check), so does the translation
example : Gen.SrcBitEnc.mask 32 = Rs.Res.panic := by decide +kernel

end bitenc_source

/-! ## BitEnc: the constructor and the public operations translated from the source text

`BitEnc::{new, push, push_values, set, get, clear, nr_blocks, nr_symbols, len}` are translated as well (same generated
file).  A `BitEnc` value is the tuple of its fields; `new` — translated — fixes `mask = mask(width)` and
`usable_bits_per_block = 32 - 32 % width`, so the field values are those the translated `new` computes.  `Shape`
is the block-count invariant `storage.len() = ⌈len / ⌊32/w⌋⌉` that `bitenc_refines` proves for every history; it is what
keeps `self.storage[block]` in bounds.  Proofs: `RbV/Thm/GenSrcBitEncOps.lean`. -/
section bitenc_ops_source
open RbV.Spec.BitEnc RbV.Thm.GenSrcBitEncOps
open RbV.Model.BitEnc (St usable)

/-- `BitEnc::new(w)`, as written (assertion, `mask(width)`, `32 - 32 % width`), builds the empty model state with the
field values all other theorems assume -/
theorem bitenc_new_source_eq_model (w : Nat) (hw : 1 ≤ w ∧ w ≤ 8) :
    Gen.SrcBitEnc.new w
      = Rs.Res.ok (Model.BitEnc.new.storage, w, Model.BitEnc.mask w, Model.BitEnc.new.len, usable w) :=
  new_eq_model w hw

/-- widths above 8 are refused (`assert!`) -/
theorem bitenc_new_source_wide_panics (w : Nat) (hw : 8 < w) : Gen.SrcBitEnc.new w = Rs.Res.panic :=
  new_wide_panics w hw

/-- **`BitEnc::push`, as written, is the model's `push`** -/
theorem bitenc_push_source_eq_model (w : Nat) (hw : 1 ≤ w ∧ w ≤ 8) (s : St) (hs : Shape w s)
    (hlen : s.len * w < 2 ^ 64) (hlen1 : s.len + 1 < 2 ^ 64) (v : Nat) :
    Gen.SrcBitEnc.push s.storage w (Model.BitEnc.mask w) s.len (usable w) v
      = Rs.Res.ok ((Model.BitEnc.push w s v).storage, (Model.BitEnc.push w s v).len) :=
  push_eq_model w hw s hs hlen hlen1 v

/-- **`BitEnc::push_values`, as written** (fill-up loop over `(bit..usable).step_by(width).take(n)`, value block loop,
`resize`, partial block) **is the model's `pushValues`** -/
theorem bitenc_push_values_source_eq_model (w : Nat) (hw : 1 ≤ w ∧ w ≤ 8) (s : St) (hs : Shape w s) (n v : Nat)
    (hlen : (s.len + n) * w < 2 ^ 64) (hlen1 : s.len + n < 2 ^ 64) :
    Gen.SrcBitEnc.pushValues s.storage w (Model.BitEnc.mask w) s.len (usable w) n v
      = Rs.Res.ok ((Model.BitEnc.pushValues w s n v).storage, (Model.BitEnc.pushValues w s n v).len) :=
  pushValues_eq_model w hw s hs n v hlen hlen1

/-- **`BitEnc::set`, as written, is the model's `set`** when the addressed block exists (e.g. `i < len`) -/
theorem bitenc_set_source_eq_model (w : Nat) (hw : 1 ≤ w ∧ w ≤ 8) (s : St) (i v : Nat) (hmul : i * w < 2 ^ 64)
    (hb : (Model.BitEnc.addr w i).1 < s.storage.length) :
    Gen.SrcBitEnc.set s.storage w (Model.BitEnc.mask w) s.len (usable w) i v
      = Rs.Res.ok (Model.BitEnc.set w s i v).storage :=
  set_eq_model w hw s i v hmul hb

/-- **`BitEnc::get`, as written, is the model's `get`** (every index: beyond the end it returns `None`, no panic) -/
theorem bitenc_get_source_eq_model (w : Nat) (hw : 1 ≤ w ∧ w ≤ 8) (s : St) (hs : Shape w s)
    (hlen : s.len * w < 2 ^ 64) (i : Nat) :
    Gen.SrcBitEnc.get s.storage w (Model.BitEnc.mask w) s.len (usable w) i = Rs.Res.ok (Model.BitEnc.get w s i) :=
  get_eq_model w hw s hs hlen i

/-- `BitEnc::clear`, `nr_blocks`, `nr_symbols` / `len`, as written -/
theorem bitenc_clear_len_source_eq_model (w m u : Nat) (s : St) :
    Gen.SrcBitEnc.clear s.storage w m s.len u
      = Rs.Res.ok ((Model.BitEnc.clear s).storage, (Model.BitEnc.clear s).len) ∧
    Gen.SrcBitEnc.nrBlocks s.storage w m s.len u = Rs.Res.ok (Model.BitEnc.nrBlocks s) ∧
    Gen.SrcBitEnc.nrSymbols s.storage w m s.len u = Rs.Res.ok s.len ∧
    Gen.SrcBitEnc.len s.storage w m s.len u = Rs.Res.ok s.len :=
  ⟨clear_eq_model w m u s, nrBlocks_eq_model w m u s, (nrSymbols_eq_model w m u s).1, (nrSymbols_eq_model w m u s).2⟩

/-- **generated code refines the plain vector**: build the object with the translated `new`, run any history with the
translated operations (`srcStep`; `OpsOk`: every `set` hits an existing element, the length in bits fits `usize`):
nothing panics, the final `len` is the length of the spec vector, the translated `get` returns the spec vector's element
at every index (`None` beyond the end), the translated `nr_blocks` is `⌈len / ⌊32/w⌋⌉`.
(`GenSrcBitEncOps.run_eq_model` ∘ `bitenc_refines`.) -/
theorem bitenc_source_refines (w : Nat) (hw : 1 ≤ w ∧ w ≤ 8) (ops : List Op) (hok : OpsOk w [] ops) :
    ∃ st len m u,
      Gen.SrcBitEnc.new w = Rs.Res.ok ([], w, m, 0, u) ∧
      ops.foldlM (srcStep w m u) ([], 0) = Rs.Res.ok (st, len) ∧
      len = (ops.foldl (specStep w) []).length ∧
      (∀ i, Gen.SrcBitEnc.get st w m len u i = Rs.Res.ok ((ops.foldl (specStep w) [])[i]?)) ∧
      Gen.SrcBitEnc.nrBlocks st w m len u = Rs.Res.ok ((len + 32 / w - 1) / (32 / w)) := by
  have habs := Lemmas.BitEnc.abs_run w hw ops Model.BitEnc.new [] (Lemmas.BitEnc.abs_new w hw)
  have hrun := run_eq_model w hw ops Model.BitEnc.new [] (Lemmas.BitEnc.abs_new w hw) hok
  have href := bitenc_refines w hw ops
  have hfin := opsOk_final_len w ops [] (by simp) hok
  refine ⟨_, _, Model.BitEnc.mask w, usable w, new_eq_model w hw, hrun, href.2.1, ?_, ?_⟩
  · intro i
    rw [get_eq_model w hw _ habs.2 (by rw [href.2.1]; exact hfin) i, href.2.2.1 i]
  · rw [nrBlocks_eq_model, href.2.2.2]

-- non-vacuity: width 3; the history of the `bitenc_refines` example (fills a block, overruns it, unmasked value)
example : Gen.SrcBitEnc.new 3 = Rs.Res.ok ([], 3, 7, 0, 30) := by decide +kernel
example : Gen.SrcBitEnc.new 9 = Rs.Res.panic := by decide +kernel
example : Gen.SrcBitEnc.new 0 = Rs.Res.panic := by decide +kernel
example : [Op.pushValues 9 1, .pushValues 2 13, .push 255, .set 0 8, .pushValues 12 6].foldlM (srcStep 3 7 30) ([], 0)
    = Rs.Res.ok ([690262600, 920350141, 3510], 24) := by decide +kernel
example : OpsOk 3 [] [Op.pushValues 9 1, .pushValues 2 13, .push 255, .set 0 8, .pushValues 12 6] := by
  simp [OpsOk, specStep]
example : Gen.SrcBitEnc.get [690262600, 920350141, 3510] 3 7 24 30 11 = Rs.Res.ok (some 7) := by decide +kernel
example : Gen.SrcBitEnc.get [690262600, 920350141, 3510] 3 7 24 30 24 = Rs.Res.ok none := by decide +kernel
-- `set` beyond the allocated blocks: the Rust code panics (index out of bounds), so does the translation
example : Gen.SrcBitEnc.set [5] 3 7 1 30 10 1 = Rs.Res.panic := by decide +kernel

/-! ### The iterator (`BitEnc::iter`, `impl Iterator for BitEncIter`)

`next` is `let value = self.bitenc.get(self.i); self.i += 1; value` and `iter()` starts it at `i = 0`.  The two
definitions below are hand-written glue over the *translated* `get` (hence `_partial`: the three statements of `next`
and the `collect` loop of std are read by hand, `self.i += 1` as unbounded — it cannot overflow before `len` does);
everything they call is the regenerated source text. -/

/-- `BitEncIter::next` over the translated `BitEnc::get`: returns the value and the advanced cursor -/
def iterNext (st : List Nat) (w m len u i : Nat) : Rs.Res (Option Nat × Nat) :=
  Gen.SrcBitEnc.get st w m len u i >>= fun v => pure (v, i + 1)

/-- `Iterator::collect::<Vec<u8>>()`: call `next` until it returns `None` (`Rs.Res.fuel` if the loop does not stop
within `fuel` calls) -/
def iterCollect (st : List Nat) (w m len u : Nat) : Nat → Nat → List Nat → Rs.Res (List Nat)
  | 0, _, _ => Rs.Res.fuel
  | fuel + 1, i, acc =>
    match iterNext st w m len u i with
    | Rs.Res.ok (some v, i') => iterCollect st w m len u fuel i' (acc ++ [v])
    | Rs.Res.ok (none, _) => Rs.Res.ok acc
    | Rs.Res.panic => Rs.Res.panic
    | Rs.Res.fuel => Rs.Res.fuel

/-- draining an iterator whose underlying `get` reads the list `l`: from cursor `i` with `l.take i` collected so far,
`l.length - i + 1` calls of `next` suffice and the result is `l` -/
theorem iterCollect_of_get (st : List Nat) (w m len u : Nat) (l : List Nat)
    (hget : ∀ i, Gen.SrcBitEnc.get st w m len u i = Rs.Res.ok l[i]?) :
    ∀ (k i : Nat), i ≤ l.length → l.length - i < k →
      iterCollect st w m len u k i (l.take i) = Rs.Res.ok l := by
  intro k
  induction k with
  | zero => intro i _ h; omega
  | succ k ih =>
    intro i hi hk
    unfold iterCollect iterNext
    rw [hget i]
    by_cases hlt : i < l.length
    · simp only [List.getElem?_eq_getElem hlt, Rs.Res.ok_bind, Rs.Res.pure_eq_ok]
      have : l.take i ++ [l[i]] = l.take (i + 1) := by
        rw [List.take_add_one, List.getElem?_eq_getElem hlt]; rfl
      rw [this]
      exact ih (i + 1) (by omega) (by omega)
    · have hi' : i = l.length := by omega
      subst hi'
      simp [Rs.Res.pure_eq_ok]

/-- **`bitenc.iter().collect()` on the generated code is the plain vector**: build the object with the translated
`new`, run any admissible history with the translated operations, then drain the iterator (`next` = translated `get`
at the cursor, cursor + 1) from a fresh `iter()`: it stops by itself after `len + 1` calls, never panics, and has
yielded exactly the specification's vector — every element, in order, nothing after the end. -/
theorem bitenc_iter_source_collects_partial (w : Nat) (hw : 1 ≤ w ∧ w ≤ 8) (ops : List Op) (hok : OpsOk w [] ops) :
    ∃ st len m u,
      Gen.SrcBitEnc.new w = Rs.Res.ok ([], w, m, 0, u) ∧
      ops.foldlM (srcStep w m u) ([], 0) = Rs.Res.ok (st, len) ∧
      iterCollect st w m len u (len + 1) 0 [] = Rs.Res.ok (ops.foldl (specStep w) []) ∧
      -- an exhausted iterator stays exhausted (`next` after `None` is `None` again, the cursor only grows)
      (∀ i, len ≤ i → iterNext st w m len u i = Rs.Res.ok (none, i + 1)) := by
  obtain ⟨st, len, m, u, hnew, hrun, hlen, hget, _⟩ := bitenc_source_refines w hw ops hok
  refine ⟨st, len, m, u, hnew, hrun, ?_, ?_⟩
  · have h := iterCollect_of_get st w m len u _ hget (len + 1) 0 (by omega) (by omega)
    simpa using h
  · intro i hi
    unfold iterNext
    rw [hget i, List.getElem?_eq_none (by omega)]
    rfl

-- non-vacuity / evaluation: the state of the example above (width 3, 24 symbols in three blocks)
example : iterCollect [690262600, 920350141, 3510] 3 7 24 30 25 0 []
    = Rs.Res.ok [0, 1, 1, 1, 1, 1, 1, 1, 1, 5, 5, 7, 6, 6, 6, 6, 6, 6, 6, 6, 6, 6, 6, 6] := by decide +kernel
example : iterCollect [690262600, 920350141, 3510] 3 7 24 30 24 0 [] = Rs.Res.fuel := by decide +kernel

end bitenc_ops_source

/-! ## SmallInts: function bodies translated from the source text

`RbV/Gen/SrcSmallInts.lean` (regenerated from `src/data_structures/smallints.rs` on every `./check C18` / `./check C03`):
`real_value`, `get`, `push`, `set`, `from_elem`, `len`.  `S`, `B` are type variables and `cast`, `S::max_value()`, `<`,
`size_of` abstract parameters of the translated functions; the theorems instantiate them as the mirror model reads them
(`cBS lo hi = cast` into the range `[lo, hi]`, `cSB = some`, `S::max_value() = hi`).  The `BTreeMap` is the association
list of `Rs.mapInsert` / `Rs.mapGet`.  Proofs: `RbV/Thm/GenSrcSmallInts.lean`. -/
section smallints_source
open RbV.Spec.SmallInts RbV.Thm.GenSrcSmallInts
open RbV.Model.SmallInts (St)

/-- `fn real_value` and `SmallInts::get`, as written, are the model's (`get`: every index, `None` beyond the end) -/
theorem smallints_get_source_eq_model (lo hi : Int) (sS sB : Nat) (s : St) (i : Nat) :
    (∀ v, Gen.SrcSmallInts.realValue (cBS lo hi) cSB (cZ lo hi) ltI hi sS sB s.small s.big i v
      = Rs.Res.ok (Model.SmallInts.realValue hi s i v)) ∧
    Gen.SrcSmallInts.get (cBS lo hi) cSB (cZ lo hi) ltI hi sS sB s.small s.big i
      = Rs.Res.ok (Model.SmallInts.get hi s i) :=
  ⟨fun v => realValue_eq_model lo hi sS sB s i v, get_eq_model lo hi sS sB s i⟩

/-- **`SmallInts::push`, as written** (`match cast(v) { Some(v) if v < maxv => …, _ => … }`) **is the model's `push`** -/
theorem smallints_push_source_eq_model (lo hi : Int) (sS sB : Nat) (s : St) (v : Int) :
    Gen.SrcSmallInts.push (cBS lo hi) cSB (cZ lo hi) ltI hi sS sB s.small s.big v
      = Rs.Res.ok ((Model.SmallInts.push lo hi s v).small, (Model.SmallInts.push lo hi s v).big) :=
  push_eq_model lo hi sS sB s v

/-- **`SmallInts::set`, as written, is the model's `set`** for an existing index; beyond the end it panics -/
theorem smallints_set_source_eq_model (lo hi : Int) (sS sB : Nat) (s : St) (i : Nat) (v : Int) :
    (i < s.small.length → Gen.SrcSmallInts.set (cBS lo hi) cSB (cZ lo hi) ltI hi sS sB s.small s.big i v
      = Rs.Res.ok ((Model.SmallInts.set lo hi s i v).small, (Model.SmallInts.set lo hi s i v).big)) ∧
    (s.small.length ≤ i → Gen.SrcSmallInts.set (cBS lo hi) cSB (cZ lo hi) ltI hi sS sB s.small s.big i v
      = Rs.Res.panic) :=
  ⟨set_eq_model lo hi sS sB s i v, set_oob_panics lo hi sS sB s i v⟩

/-- `SmallInts::from_elem`, as written: builds the model's state under its assertions, refuses `S::max_value()` -/
theorem smallints_from_elem_source_eq_model (lo hi : Int) (h0 : lo ≤ 0 ∧ 0 < hi) (sS sB : Nat) (hsz : sS < sB) (n : Nat) :
    (∀ v, (0 < v → v < hi) → Gen.SrcSmallInts.fromElem (cBS lo hi) cSB (cZ lo hi) ltI hi sS sB v n
      = Rs.Res.ok ((Model.SmallInts.fromElem v n).small, (Model.SmallInts.fromElem v n).big)) ∧
    Gen.SrcSmallInts.fromElem (cBS lo hi) cSB (cZ lo hi) ltI hi sS sB hi n = Rs.Res.panic :=
  ⟨fun v hv => fromElem_eq_model lo hi ⟨h0.1, by omega⟩ sS sB hsz v n hv, fromElem_max_panics lo hi h0 sS sB hsz n⟩

/-- **generated code refines the plain vector**: any history whose `set`s address existing elements, run with the
translated operations from the empty object, does not panic; its final length is the spec vector's and the translated
`get` returns the spec vector's element at every index (`None` beyond the end).  (`run_eq_model` ∘ `smallints_refines`.) -/
theorem smallints_source_refines (lo hi : Int) (sS sB : Nat) (ops : List Op) (hok : OpsOk [] ops) :
    ∃ small big, ops.foldlM (srcStep lo hi sS sB) ([], []) = Rs.Res.ok (small, big) ∧
      Gen.SrcSmallInts.len (cBS lo hi) cSB (cZ lo hi) ltI hi sS sB small big
        = Rs.Res.ok (ops.foldl specStep []).length ∧
      ∀ i, Gen.SrcSmallInts.get (cBS lo hi) cSB (cZ lo hi) ltI hi sS sB small big i
        = Rs.Res.ok ((ops.foldl specStep [])[i]?) := by
  have hrun := run_eq_model lo hi sS sB ops Model.SmallInts.new [] (Lemmas.SmallInts.abs_new hi) hok
  have href := smallints_refines lo hi ops
  refine ⟨_, _, hrun, ?_, fun i => ?_⟩
  · rw [len_eq_model, href.1]
  · rw [get_eq_model, href.2.1 i]

-- non-vacuity: i8 range; the history of the `smallints_refines` example
example : [Op.push 126, .push 127, .push 128, .push (-129), .set 1 5, .set 0 1000, .set 0 (-7), .set 2 127].foldlM
    (srcStep (-128) 127 1 8) ([], []) = Rs.Res.ok ([-7, 5, 127, 127], [(2, 127), (0, 1000), (3, -129), (2, 128), (1, 127)]) := by
  decide +kernel
example : OpsOk [] [Op.push 126, .push 127, .push 128, .push (-129), .set 1 5, .set 0 1000, .set 0 (-7), .set 2 127] := by
  simp [OpsOk, specStep]
example : Gen.SrcSmallInts.get (cBS (-128) 127) cSB (cZ (-128) 127) ltI 127 1 8 [-7, 5, 127, 127]
    [(2, 127), (0, 1000), (3, -129), (2, 128), (1, 127)] 3 = Rs.Res.ok (some (-129)) := by decide +kernel
example : Gen.SrcSmallInts.fromElem (β := Int) (cBS (-128) 127) cSB (cZ (-128) 127) ltI 127 1 8 127 3 = Rs.Res.panic := by decide +kernel

/-! ### The iterator (`SmallInts::iter`, `decompress`, `impl Iterator for Iter`)

`iter()` builds `Iter { smallints: self, items: self.smallints.iter().enumerate() }`; `next` is
`match self.items.next() { Some((i, &v)) => self.smallints.real_value(i, v), None => None }`; `decompress` is
`self.iter().collect()`.  `Enumerate<slice::Iter>` is read as (counter, remaining slice); the definitions below are
hand-written glue over the *translated* `real_value` (hence `_partial`).  Note what is at stake: `collect` stops at the
first `None`, so a `real_value` that answered `None` inside the vector (missing `bigints` entry, failing `cast`) would
silently truncate `decompress()` — the theorem says this never happens after any admissible history. -/

/-- `Iter::next` over the translated `real_value`: value, advanced counter, rest of the slice -/
def siterNext (lo hi : Int) (sS sB : Nat) (small : List Int) (big : List (Nat × Int)) (i : Nat) (items : List Int) :
    Rs.Res (Option Int × Nat × List Int) :=
  match items with
  | [] => pure (none, i, [])
  | v :: rest =>
    Gen.SrcSmallInts.realValue (cBS lo hi) cSB (cZ lo hi) ltI hi sS sB small big i v >>= fun r => pure (r, i + 1, rest)

/-- `Iterator::collect::<Vec<B>>()`: call `next` until it returns `None` -/
def siterCollect (lo hi : Int) (sS sB : Nat) (small : List Int) (big : List (Nat × Int)) :
    Nat → Nat → List Int → List Int → Rs.Res (List Int)
  | 0, _, _, _ => Rs.Res.fuel
  | fuel + 1, i, items, acc =>
    match siterNext lo hi sS sB small big i items with
    | Rs.Res.ok (some b, i', items') => siterCollect lo hi sS sB small big fuel i' items' (acc ++ [b])
    | Rs.Res.ok (none, _, _) => Rs.Res.ok acc
    | Rs.Res.panic => Rs.Res.panic
    | Rs.Res.fuel => Rs.Res.fuel

/-- inside the vector the translated `get` *is* the translated `real_value` at the stored small value -/
theorem get_eq_realValue_of_lt (lo hi : Int) (sS sB : Nat) (small : List Int) (big : List (Nat × Int)) (i : Nat)
    (h : i < small.length) :
    Gen.SrcSmallInts.get (cBS lo hi) cSB (cZ lo hi) ltI hi sS sB small big i
      = Gen.SrcSmallInts.realValue (cBS lo hi) cSB (cZ lo hi) ltI hi sS sB small big i small[i] := by
  have e1 : Rs.idx small i = Rs.Res.ok small[i] := Rs.idx_ok h
  simp only [rs_eval, Gen.SrcSmallInts.get, h, e1, Gen.SrcSmallInts.realValue]

/-- draining the `SmallInts` iterator whose underlying `get` reads the list `l`: from counter `i` with `l.take i` collected so far
and `small.drop i` remaining, `l.length - i + 1` calls of `next` suffice and the result is `l` -/
theorem siterCollect_of_get (lo hi : Int) (sS sB : Nat) (small : List Int) (big : List (Nat × Int)) (l : List Int)
    (hlen : small.length = l.length)
    (hget : ∀ i, Gen.SrcSmallInts.get (cBS lo hi) cSB (cZ lo hi) ltI hi sS sB small big i = Rs.Res.ok l[i]?) :
    ∀ (k i : Nat), i ≤ l.length → l.length - i < k →
      siterCollect lo hi sS sB small big k i (small.drop i) (l.take i) = Rs.Res.ok l := by
  intro k
  induction k with
  | zero => intro i _ h; omega
  | succ k ih =>
    intro i hile hk
    unfold siterCollect
    by_cases hlt : i < l.length
    · have hs : i < small.length := by omega
      have hr := get_eq_realValue_of_lt lo hi sS sB small big i hs
      rw [hget i, List.getElem?_eq_getElem hlt] at hr
      rw [List.drop_eq_getElem_cons hs]
      simp only [rs_eval, siterNext, ← hr]
      have : l.take i ++ [l[i]] = l.take (i + 1) := by
        rw [List.take_add_one, List.getElem?_eq_getElem hlt]; rfl
      rw [this]
      exact ih (i + 1) (by omega) (by omega)
    · have hi' : i = l.length := by omega
      subst hi'
      rw [List.drop_of_length_le (by omega)]
      simp [siterNext, Rs.Res.pure_eq_ok]

/-- **`smallints.iter().collect()` / `decompress()` on the generated code is the plain vector**: run any admissible
history with the translated operations, then drain a fresh `iter()` (`next` = translated `real_value` on the next
enumerated slot): no panic, no early stop, exactly the specification's vector. -/
theorem smallints_iter_source_collects_partial (lo hi : Int) (sS sB : Nat) (ops : List Op) (hok : OpsOk [] ops) :
    ∃ small big, ops.foldlM (srcStep lo hi sS sB) ([], []) = Rs.Res.ok (small, big) ∧
      siterCollect lo hi sS sB small big (small.length + 1) 0 small [] = Rs.Res.ok (ops.foldl specStep []) := by
  obtain ⟨small, big, hrun, hlen, hget⟩ := smallints_source_refines lo hi sS sB ops hok
  refine ⟨small, big, hrun, ?_⟩
  have hl : small.length = (ops.foldl specStep []).length := by
    simpa [Gen.SrcSmallInts.len, Rs.Res.pure_eq_ok] using hlen
  have h := siterCollect_of_get lo hi sS sB small big _ hl hget (small.length + 1) 0 (by omega) (by omega)
  simpa using h

-- evaluation on the state of the example above (i8 range; slots 0..2 small, slot 3 diverted to the map)
example : siterCollect (-128) 127 1 8 [-7, 5, 127, 127] [(2, 127), (0, 1000), (3, -129), (2, 128), (1, 127)] 5 0
    [-7, 5, 127, 127] [] = Rs.Res.ok [-7, 5, 127, -129] := by decide +kernel
-- what the theorem excludes: a diverted slot without its map entry ends the drain early (silent truncation)
example : siterCollect (-128) 127 1 8 [-7, 127, 5] [] 4 0 [-7, 127, 5] [] = Rs.Res.ok [-7] := by decide +kernel

end smallints_source

end RbV.Thm.C18
