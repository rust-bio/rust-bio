import RbV.Gen.SrcSdpkpp
import RbV.Model.Sdpkpp
import RbV.Lemmas.SdpkppUnion
import RbV.Thm.GenSrcLcskpp
/-!
# C19 — the text of `sparse::sdpkpp_union_lcskpp_path`, `PrevPtr::new` and `sparse::sdpkpp` (translated on every
`./check C19`: `RbV/Gen/SrcSdpkpp.lean`)

`unionPath_eq_splice`: the translated union function *calls* the translated `lcskpp` and `sdpkpp`; whatever the two return
(an ascending `lcskpp` path, a non-empty `sdpkpp` path), the result is the splice the mirror model computes:
`lcskpp.path[..pre] ++ sdpkpp.path ++ lcskpp.path[post..]` with `pre` / `post` from the two `binary_search` calls (contract
`Rs.BSearchOk`; nothing is assumed about the index an `Err` carries).  No index of the three copy loops is out of range.

`sdpkpp_eq_model`: the translated `sdpkpp` returns what `Model.Sdpkpp.sdpkpp` returns under the size hypotheses `BndS`.  Its
sweep loop is followed event by event: `for3_*_run` execute one branch of the loop body on variables, `InvS`
(`Lemmas/SdpkppSweep.lean`) is the invariant of the model's sweep that bounds every score (`≤ (q + 1)·k·match_score`) and names the
record a query returns (`queryB`), so that no `u32` operation overflows and `cur - prev` never underflows; `sdp_for3_start` /
`sdp_for3_end` / `sdp_for3_fold` put the two together.  The tree of `PrevPtr` records is the tuple tree under `toT` (`src_get_PP`, `src_set_PP`).
-/
-- the simp sets name every fact a harmless rewrite of the Rust text may need; on the present text some are unused
set_option linter.unusedSimpArgs false
namespace RbV.Thm.GenSrcSdpkpp
open RbV RbV.Rs RbV.KChain RbV.QGram RbV.Model.Lcskpp RbV.Model.Sdpkpp RbV.Lemmas.Lcskpp RbV.Lemmas.Sdpkpp RbV.Gen.SrcSdpkpp
open RbV.Thm.GenSrc (idx_getD)
open RbV.Thm.GenSrcLcskpp (ole_cons sort_events fenwickNew_eq_model sortedEvents_length Bnd nFrom_lt omax_NI rem_start rem_end contLookup_bs)

/-- the tuple a `PrevPtr` is translated to (fields in declaration order = order of the derived `Ord`) -/
def toT (a : PrevPtr) : Nat × Nat × Nat × Nat × Nat × Nat := (a.plane, a.score, a.d, a.id, a.x, a.y)

/-- `PrevPtr::new` as written in the source = the model's, when `x + y`, `d * gap_extend` and the plane fit `u32` -/
theorem prevPtrNew_eq_model (sortEv : List Ev → List Ev) (bsM : List M → M → Except Nat Nat) (bsN : List Nat → Nat → Except Nat Nat)
    (score x y id ge : Nat) (h : score + (x + y) * ge < 2 ^ 32) (hxy : x + y < 2 ^ 32) :
    prevPtrNew sortEv bsM bsN score x y id ge = Res.ok (toT (PrevPtr.new score x y id ge)) := by
  have e1 : Rs.add 32 x y = Res.ok (x + y) := Rs.add_ok hxy
  have e2 : Rs.mul 32 (x + y) ge = Res.ok ((x + y) * ge) := Rs.mul_ok (by omega)
  have e2' : Rs.mul 32 ge (x + y) = Res.ok ((x + y) * ge) := Rs.mul_ok_comm (by omega)
  have e3 : Rs.add 32 score ((x + y) * ge) = Res.ok (score + (x + y) * ge) := Rs.add_ok h
  have e3' : Rs.add 32 ((x + y) * ge) score = Res.ok (score + (x + y) * ge) := Rs.add_ok_comm h
  simp [prevPtrNew, toT, PrevPtr.new, e1, e2, e2', e3, e3']

theorem olt_Nat (a b : Nat) : Rs.olt a b = true ↔ a < b := by
  simp [Rs.olt, ROrd.le]

theorem bsN_find (bsN : List Nat → Nat → Except Nat Nat) (hbs : BSearchOk bsN) {l : List Nat} (hasc : l.Pairwise (· < ·)) (key : Nat) :
    match findIdx key 0 l with
    | some c => bsN l key = .ok c ∧ c < l.length
    | none => ∃ i, bsN l key = .error i := by
  rw [findIdx_eq]
  exact GenSrcLcskpp.bsearch_find bsN hbs (hasc.imp (fun {a b} h => (olt_Nat a b).mpr h))
    (fun a => by rw [Bool.eq_false_iff, Ne, olt_Nat]; omega) key

/-- a `binary_search` on index paths meeting `BSearchOk` (non-vacuity) -/
def stdBsN (l : List Nat) (key : Nat) : Except Nat Nat :=
  match findIdx key 0 l with
  | some i => .ok i
  | none => .error 0

theorem stdBsN_ok : BSearchOk stdBsN := by
  have e : stdBsN = GenSrcLcskpp.stdBs := by funext l key; simp only [stdBsN, GenSrcLcskpp.stdBs, findIdx_eq]; cases findG key 0 l <;> rfl
  rw [e]; exact GenSrcLcskpp.stdBs_ok

section
variable (sortEv : List Ev → List Ev) (bsM : List M → M → Except Nat Nat) (bsN : List Nat → Nat → Except Nat Nat)

theorem copy_fold (f : List Nat → Nat → Res (List Nat)) (l : List Nat)
    (hf : ∀ acc i, f acc i = (do let t ← Rs.idx l i; pure (acc ++ [t]))) :
    ∀ (n a : Nat) (acc : List Nat), a + n ≤ l.length →
      List.foldlM f acc (List.range' a n) = Res.ok (acc ++ (l.drop a).take n) := by
  intro n
  induction n with
  | zero => intro a acc _; simp
  | succ n ih =>
    intro a acc h
    have ha : a < l.length := by omega
    rw [List.range'_succ, List.foldlM_cons, hf, Rs.idx_ok ha]
    simp only [Res.ok_bind, Res.pure_eq_ok]
    rw [ih (a + 1) _ (by omega)]
    congr 1
    rw [List.append_assoc]
    congr 1
    rw [List.drop_eq_getElem_cons ha, List.take_succ_cons]
    rfl

theorem take_drop_all (l : List Nat) (a : Nat) : List.take (l.length - a) (l.drop a) = l.drop a :=
  List.take_of_length_le (by simp)

/-- **`sdpkpp_union_lcskpp_path` as written in the source**: given what the translated `lcskpp` and `sdpkpp` return, the
result is the model's splice; no panic -/
theorem unionPath_eq_splice (hbsN : BSearchOk bsN) (ms : List M) (k msc : Nat) (go ge : Int) (hne : ms ≠ [])
    {lp sp : List Nat} {ls ss : Nat} {ld sd : List (Nat × Int)} {first last : Nat}
    (hl : Gen.SrcLcskpp.lcskpp sortEv bsM ms k = Res.ok (lp, ls, ld))
    (hsd : Gen.SrcSdpkpp.sdpkpp sortEv bsM bsN ms k msc go ge = Res.ok (sp, ss, sd))
    (hasc : lp.Pairwise (· < ·)) (hf : sp.head? = some first) (hla : sp.getLast? = some last) (hlen : lp.length < 2 ^ 63) :
    Gen.SrcSdpkpp.unionPath sortEv bsM bsN ms k msc go ge
      = Res.ok (lp.take ((findIdx first 0 lp).getD 0) ++ sp ++
          lp.drop (match findIdx last 0 lp with | some ind => ind + 1 | none => lp.length)) := by
  have hemp : ms.isEmpty = false := by cases ms with | nil => exact absurd rfl hne | cons _ _ => rfl
  have e0 : Rs.idx sp 0 = Res.ok first := by
    obtain ⟨t, ht⟩ := List.head?_eq_some_iff.mp hf
    rw [ht]; rfl
  have hpre := bsN_find bsN hbsN hasc first
  have hpost := bsN_find bsN hbsN hasc last
  have c1 := copy_fold (unionPath_for1 sortEv bsM bsN (lp, ls, ld)) lp (fun acc i => by simp [unionPath_for1])
  have c2 := copy_fold (unionPath_for2 sortEv bsM bsN (sp, ss, sd)) sp (fun acc i => by simp [unionPath_for2])
  have c3 := copy_fold (unionPath_for3 sortEv bsM bsN (lp, ls, ld)) lp (fun acc i => by simp [unionPath_for3])
  unfold Gen.SrcSdpkpp.unionPath
  simp only [hemp, Bool.false_eq_true, if_false, hl, hsd, e0, hla, Rs.expect_some, Res.ok_bind, Res.pure_eq_ok, Nat.sub_zero]
  cases hfi : findIdx first 0 lp with
  | none =>
    rw [hfi] at hpre
    obtain ⟨i, hi⟩ := hpre
    cases hli : findIdx last 0 lp with
    | none =>
      rw [hli] at hpost
      obtain ⟨j, hj⟩ := hpost
      simp [hi, hj, c1 0 0 [] (by omega), c2 sp.length 0 _ (by omega), c3 0 lp.length _ (by omega)]
    | some c =>
      rw [hli] at hpost
      obtain ⟨hj, hc⟩ := hpost
      have ea : Rs.add 64 c 1 = Res.ok (c + 1) := Rs.add_ok (by omega)
      have ea' : Rs.add 64 1 c = Res.ok (c + 1) := Rs.add_ok_comm (by omega)
      simp [hi, hj, ea, ea', c1 0 0 [] (by omega), c2 sp.length 0 _ (by omega), c3 (lp.length - (c + 1)) (c + 1) _ (by omega), take_drop_all]
  | some b =>
    rw [hfi] at hpre
    obtain ⟨hi, hb⟩ := hpre
    cases hli : findIdx last 0 lp with
    | none =>
      rw [hli] at hpost
      obtain ⟨j, hj⟩ := hpost
      simp [hi, hj, c1 b 0 [] (by omega), c2 sp.length 0 _ (by omega), c3 0 lp.length _ (by omega)]
    | some c =>
      rw [hli] at hpost
      obtain ⟨hj, hc⟩ := hpost
      have ea : Rs.add 64 c 1 = Res.ok (c + 1) := Rs.add_ok (by omega)
      have ea' : Rs.add 64 1 c = Res.ok (c + 1) := Rs.add_ok_comm (by omega)
      simp [hi, hj, ea, ea', c1 b 0 [] (by omega), c2 sp.length 0 _ (by omega), c3 (lp.length - (c + 1)) (c + 1) _ (by omega), take_drop_all]

theorem ole_PP (a b : PrevPtr) : (ROrd.le (toT a) (toT b) : Bool) = ppLe a b := by
  simp only [toT, ppLe, ole_cons]
  rfl

theorem toT_maxPP (a b : PrevPtr) : toT (maxPP a b) = Rs.omax (toT a) (toT b) := by
  simp only [maxPP, Rs.omax, ole_PP]; split <;> rfl

/-- the translated `get` on the tuple representation of a tree of `PrevPtr` records = the model's `get` -/
theorem src_get_PP (tree : List PrevPtr) (j : Nat) (h : j + 1 < tree.length) (hl : tree.length ≤ 2 ^ 63) :
    RbV.Gen.SrcFenwick.get (Rs.omax (α := Nat × Nat × Nat × Nat × Nat × Nat)) (0, 0, 0, 0, 0, 0) (tree.map toT) j
      = Res.ok (toT (Model.Fenwick.get maxPP dfltPP tree j)) := by
  rw [GenSrcFenwick.get_eq_model _ _ _ _ (by simpa using h) (by simpa using hl)]
  unfold Model.Fenwick.get
  exact congrArg Res.ok (Lemmas.Fenwick.getLoop_map toT maxPP Rs.omax dfltPP toT_maxPP tree _ _ dfltPP)

/-- the translated `set` on the tuple representation = the model's `set` -/
theorem src_set_PP (tree : List PrevPtr) (i : Nat) (v : PrevPtr) (h : i + 1 < 2 ^ 64) (hl : tree.length ≤ 2 ^ 63) :
    RbV.Gen.SrcFenwick.set (Rs.omax (α := Nat × Nat × Nat × Nat × Nat × Nat)) (0, 0, 0, 0, 0, 0) (tree.map toT) i (toT v)
      = Res.ok ((Model.Fenwick.set maxPP dfltPP tree i v).map toT) := by
  rw [GenSrcFenwick.set_eq_model _ _ _ _ _ h (by simpa using hl)]
  unfold Model.Fenwick.set
  rw [List.length_map]
  exact congrArg Res.ok (Lemmas.Fenwick.setLoop_map toT maxPP Rs.omax dfltPP toT_maxPP v _ _ tree)

/-! ### the translated loop body on a start / end event, on any state

Each lemma runs one branch of `sdpkpp_for3` on a state and an event given by variables, under exactly the facts that keep its
checked operations from panicking; what the callees (`get`, `PrevPtr::new`, `set`) return enters as a hypothesis. -/

theorem for3_start_run (ms : List M) (k msc gO gE : Nat) (tree : List (Nat × Nat × Nat × Nat × Nat × Nat)) (dp : List (Nat × Int)) (best : Nat × Int)
    (x y p pl sc d id X Y : Nat) (hlen : ms.length < 2 ^ 31) (hp : p < ms.length) (hdp : p < dp.length) (hR : k * msc < 2 ^ 32)
    (hget : RbV.Gen.SrcFenwick.get (Rs.omax (α := Nat × Nat × Nat × Nat × Nat × Nat)) (0, 0, 0, 0, 0, 0) tree y
      = Res.ok (pl, sc, d, id, X, Y))
    (hfit : 0 < sc → X ≤ x ∧ Y ≤ y ∧ sc + k * msc < 2 ^ 32 ∧ id < 2 ^ 31 ∧ gO + max (x - X) (y - Y) * gE < 2 ^ 32) :
    sdpkpp_for3 sortEv bsM bsN ms k msc gO gE (tree, dp, best) (x, y, p + ms.length) = Res.ok
      (if 0 < sc then
        (tree, dp.set p (maxNI (k * msc, -1) (gapScore (k * msc) gO gE x y sc X Y, (id : Int))),
          maxNI best ((maxNI (k * msc, -1) (gapScore (k * msc) gO gE x y sc X Y, (id : Int))).1, (p : Int)))
      else (tree, dp.set p (k * msc, -1), best)) := by
  have ecast : Rs.cast 32 ms.length = ms.length := Nat.mod_eq_of_lt (by omega)
  have ege : ms.length ≤ p + ms.length := Nat.le_add_left _ _
  have ecs : Rs.castSigned 32 p = (p : Int) := Rs.castSigned_of_lt (by omega)
  have eset2 := fun v w => GenSrc.setIdx_set dp p v w hdp
  -- `emulR'`, `eaddS'`: the same operations with commuted operands, so that `match_score * k`, `reward + score` re-prove
  have emulR' : Rs.mul 32 msc k = Res.ok (k * msc) := Rs.mul_ok_comm hR
  simp only [sdpkpp_for3, ecast, rem_start hp, ge_iff_le, ege, decide_true, ↓reduceIte, Rs.mul_ok hR, emulR', Rs.setIdx_ok hdp, hget,
    gt_iff_lt, decide_eq_true_eq, Res.ok_bind, Res.pure_eq_ok]
  by_cases hpos : 0 < sc
  · obtain ⟨hx, hy, hs, hid, hg⟩ := hfit hpos
    have hmul : max (x - X) (y - Y) * gE < 2 ^ 32 := by omega
    have eaddS' : Rs.add 32 (k * msc) sc = Res.ok (sc + k * msc) := Rs.add_ok_comm hs
    simp only [hpos, ↓reduceIte, Rs.sub_ok hx, Rs.sub_ok hy, Rs.mul_ok hmul, Rs.add_ok hg, Rs.add_ok hs, eaddS', GenSrc.idx_set_self dp p _ hdp, eset2,
      Rs.castSigned_of_lt (w := 32) hid, ecs, Res.ok_bind, Res.pure_eq_ok, Rs.satSub, omax_NI, gapScore, gt_iff_lt, decide_eq_true_eq]
    split <;> rfl
  · simp only [hpos, ↓reduceIte, Res.ok_bind, Res.pure_eq_ok]

/-- an end event at `(x + k, y + k)` whose diagonal predecessor `(x - 1, y - 1)` is not a match -/
theorem for3_end_run_none (ms : List M) (k msc gO gE : Nat) (tree tree' : List (Nat × Nat × Nat × Nat × Nat × Nat)) (dp : List (Nat × Int))
    (best : Nat × Int) (x y p : Nat) (v : Nat × Nat × Nat × Nat × Nat × Nat)
    (hlen : ms.length < 2 ^ 31) (hp : p < ms.length) (hdp : p < dp.length)
    (hno : 0 < x → 0 < y → ∃ i, bsM ms (x - 1, y - 1) = .error i)
    (hnew : prevPtrNew sortEv bsM bsN (dp.getD p (0, 0)).1 (x + k) (y + k) p gE = Res.ok v)
    (hset : RbV.Gen.SrcFenwick.set (Rs.omax (α := Nat × Nat × Nat × Nat × Nat × Nat)) (0, 0, 0, 0, 0, 0) tree (y + k) v
      = Res.ok tree') :
    sdpkpp_for3 sortEv bsM bsN ms k msc gO gE (tree, dp, best) (x + k, y + k, p) = Res.ok (tree', dp, best) := by
  have ecast : Rs.cast 32 ms.length = ms.length := Nat.mod_eq_of_lt (by omega)
  have ege : ¬ ms.length ≤ p := Nat.not_le_of_lt hp
  simp only [sdpkpp_for3, ecast, rem_end hp, ge_iff_le, ege, decide_false, Bool.false_eq_true, ↓reduceIte, Res.ok_bind]
  by_cases hxy : 0 < x ∧ 0 < y
  · obtain ⟨i, hi⟩ := hno hxy.1 hxy.2
    have hxk : k < x + k := by omega
    have hyk : k < y + k := by omega
    simp only [gt_iff_lt, hxk, hyk, decide_true, Bool.and_self, ↓reduceIte, Rs.sub_ok (Nat.le_add_left k _), Nat.add_sub_cancel,
      Rs.sub_ok hxy.1, Rs.sub_ok hxy.2, hi, Res.ok_bind, Res.pure_eq_ok, idx_getD dp p (0, 0) hdp, hnew, hset]
  · have hxk : ¬ (k < x + k ∧ k < y + k) := by omega
    simp only [gt_iff_lt, Bool.and_eq_true, decide_eq_true_eq, hxk, ↓reduceIte, Res.ok_bind, Res.pure_eq_ok,
      idx_getD dp p (0, 0) hdp, hnew, hset]

/-- an end event at `(x + k, y + k)` whose diagonal predecessor `(x - 1, y - 1)` is the match `c` -/
theorem for3_end_run_some (ms : List M) (k msc gO gE : Nat) (tree tree' : List (Nat × Nat × Nat × Nat × Nat × Nat)) (dp : List (Nat × Int))
    (best : Nat × Int) (x y p c : Nat) (v : Nat × Nat × Nat × Nat × Nat × Nat)
    (hlen : ms.length < 2 ^ 31) (hp : p < ms.length) (hdp : p < dp.length)
    (hx : 0 < x) (hy : 0 < y) (hbs : bsM ms (x - 1, y - 1) = .ok c) (hc : c < dp.length) (hc31 : c < 2 ^ 31)
    (hadd : (dp.getD c (0, 0)).1 + msc < 2 ^ 32)
    (hnew : prevPtrNew sortEv bsM bsN (maxNI (dp.getD p (0, 0)) ((dp.getD c (0, 0)).1 + msc, (c : Int))).1 (x + k) (y + k) p gE
      = Res.ok v)
    (hset : RbV.Gen.SrcFenwick.set (Rs.omax (α := Nat × Nat × Nat × Nat × Nat × Nat)) (0, 0, 0, 0, 0, 0) tree (y + k) v
      = Res.ok tree') :
    sdpkpp_for3 sortEv bsM bsN ms k msc gO gE (tree, dp, best) (x + k, y + k, p)
      = Res.ok (tree', dp.set p (maxNI (dp.getD p (0, 0)) ((dp.getD c (0, 0)).1 + msc, (c : Int))),
          maxNI best ((maxNI (dp.getD p (0, 0)) ((dp.getD c (0, 0)).1 + msc, (c : Int))).1, (p : Int))) := by
  have ecast : Rs.cast 32 ms.length = ms.length := Nat.mod_eq_of_lt (by omega)
  have ege : ¬ ms.length ≤ p := Nat.not_le_of_lt hp
  have hxk : k < x + k := by omega
  have hyk : k < y + k := by omega
  have ecs : Rs.castSigned 32 p = (p : Int) := Rs.castSigned_of_lt (by omega)
  have eadd' : Rs.add 32 msc (dp.getD c (0, 0)).1 = Res.ok ((dp.getD c (0, 0)).1 + msc) := Rs.add_ok_comm hadd
  simp only [sdpkpp_for3, ecast, rem_end hp, ge_iff_le, ege, decide_false, Bool.false_eq_true, ↓reduceIte, Res.ok_bind,
    gt_iff_lt, hxk, hyk, decide_true, Bool.and_self, Rs.sub_ok (Nat.le_add_left k _), Nat.add_sub_cancel,
    Rs.sub_ok hx, Rs.sub_ok hy, hbs, Res.pure_eq_ok, idx_getD dp p (0, 0) hdp, idx_getD dp c (0, 0) hc, Rs.add_ok hadd, eadd',
    Rs.castSigned_of_lt (w := 32) hc31, ecs, Rs.setIdx_ok hdp, GenSrc.idx_set_self dp p _ hdp, omax_NI, hnew, hset]

/-- size hypotheses under which the `u32` arithmetic of `sdpkpp` cannot overflow: those of `lcskpp`, gap magnitudes below
2³¹ (`-gap_open` fits `i32`), and `len·k·match_score + 2·n·|gap_extend| + |gap_open| < 2³²` with `n = max (x + k, y + k)`
(scores, gap penalties and the `plane` of `PrevPtr::new` fit), `2·n < 2³²` (`x + y` in `PrevPtr::new`) -/
structure BndS (ms : List M) (k msc gO gE : Nat) : Prop where
  base : Bnd ms k
  hgO : gO < 2 ^ 31
  hgE : gE < 2 ^ 31
  n2 : 2 * nFrom k 0 ms < 2 ^ 32
  sz : ms.length * (k * msc) + 2 * (nFrom k 0 ms * gE) + gO < 2 ^ 32

theorem BndS.reward_lt {ms : List M} {k msc gO gE : Nat} (hS : BndS ms k msc gO gE) {p : Nat} (hp : p < ms.length) :
    k * msc < 2 ^ 32 := by
  have := Nat.le_mul_of_pos_left (k * msc) (Nat.zero_lt_of_lt hp)
  have := hS.sz
  omega

/-- a score within the budget of match `q < p` can take one more reward -/
theorem BndS.score_lt {ms : List M} {k msc gO gE : Nat} (hS : BndS ms k msc gO gE) {q p sc : Nat} (hqp : q < p) (hp : p < ms.length)
    (hsc : sc ≤ (q + 1) * (k * msc)) : sc + k * msc < 2 ^ 32 := by
  have h1 := succ_mul_add_le q p (k * msc) hqp
  have h2 : (p + 1) * (k * msc) ≤ ms.length * (k * msc) := Nat.mul_le_mul_right _ hp
  have := hS.sz
  omega

theorem BndS.gap_lt {ms : List M} {k msc gO gE : Nat} (hS : BndS ms k msc gO gE) {g : Nat} (hg : g ≤ nFrom k 0 ms) :
    gO + g * gE < 2 ^ 32 := by
  have := Nat.mul_le_mul_right gE hg
  have := hS.sz
  omega

/-- the `plane` of a record of match `p` fits: its score is within the budget, its `d = x + y` at most `2·n` -/
theorem BndS.plane_lt {ms : List M} {k msc gO gE : Nat} (hS : BndS ms k msc gO gE) {p sc d : Nat} (hp : p < ms.length)
    (hsc : sc ≤ (p + 1) * (k * msc)) (hd : d ≤ 2 * nFrom k 0 ms) : sc + d * gE < 2 ^ 32 := by
  have h1 : (p + 1) * (k * msc) ≤ ms.length * (k * msc) := Nat.mul_le_mul_right _ hp
  have h2 := Nat.mul_le_mul_right gE hd
  rw [Nat.mul_assoc] at h2
  have := hS.sz
  omega

theorem treeB_length {ms : List M} {k msc gE : Nat} {done : List Ev} {s : Model.Sdpkpp.St} (hI : InvS ms k msc gE done s) :
    s.tree.length = nFrom k 0 ms + 1 := by
  obtain ⟨ups, ht, _⟩ := hI.tree
  rw [ht, Lemmas.Fenwick.length_run]

/-- the encoding of a model state in the representation of the translated text -/
def enc (s : Model.Sdpkpp.St) : List (Nat × Nat × Nat × Nat × Nat × Nat) × List (Nat × Int) × (Nat × Int) :=
  (s.tree.map toT, s.dp, s.best)

theorem sdp_for3_start {ms : List M} {k msc gO gE : Nat} (hS : BndS ms k msc gO gE) (hk : 0 < k) (hs : ms.Pairwise lexLt) {done : List Ev}
    {s : Model.Sdpkpp.St} {p : Nat} (hI : InvS ms k msc gE done s) (hp : p < ms.length) (hev : Pos ms k done (startEv ms p)) :
    sdpkpp_for3 sortEv bsM bsN ms k msc gO gE (enc s) (startEv ms p)
      = Res.ok (enc (Model.Sdpkpp.stepEv ms k msc gO gE s (startEv ms p))) := by
  have hN := nFrom_ge k ms 0 _ (mAt_mem hp)
  have hn2 := hS.n2
  have eget := src_get_PP s.tree (mAt ms p).2 (by rw [treeB_length hI]; omega) (by rw [treeB_length hI]; omega)
  have hq := queryB hk hs hI hp hev
  rw [stepS_start ms k msc gO gE s p hp hI.len_dp _ rfl]
  generalize Model.Fenwick.get maxPP dfltPP s.tree (mAt ms p).2 = bp at hq eget
  have hfit : 0 < bp.score → bp.x ≤ (mAt ms p).1 ∧ bp.y ≤ (mAt ms p).2 ∧ bp.score + k * msc < 2 ^ 32 ∧ bp.id < 2 ^ 31 ∧
      gO + max ((mAt ms p).1 - bp.x) ((mAt ms p).2 - bp.y) * gE < 2 ^ 32 := fun hpos => by
    obtain ⟨q, sc, hqp, hql, rfl, hsc, hx, hy⟩ := hq hpos
    exact ⟨hx, hy, hS.score_lt hqp hp hsc, Nat.lt_trans hql hS.base.len, hS.gap_lt (by simp only [PrevPtr.new]; omega)⟩
  unfold enc startEv
  rw [for3_start_run sortEv bsM bsN ms k msc gO gE _ _ _ _ _ p _ _ _ _ _ _ hS.base.len hp (by rw [hI.len_dp]; omega)
    (hS.reward_lt hp) eget hfit]
  by_cases hpos : 0 < bp.score
  · rw [if_pos hpos, if_pos hpos]
  · rw [if_neg hpos, if_neg hpos]

theorem sdp_for3_end (hbs : BSearchOk bsM) {ms : List M} {k msc gO gE : Nat} (hS : BndS ms k msc gO gE) (hk : 0 < k) (hs : ms.Pairwise lexLt)
    {done : List Ev} {s : Model.Sdpkpp.St} {p : Nat} (hI : InvS ms k msc gE done s) (hp : p < ms.length) :
    sdpkpp_for3 sortEv bsM bsN ms k msc gO gE (enc s) (endEv ms k p)
      = Res.ok (enc (Model.Sdpkpp.stepEv ms k msc gO gE s (endEv ms k p))) := by
  have hN := nFrom_ge k ms 0 _ (mAt_mem hp)
  have hn2 := hS.n2
  have hlen := hS.base.len
  have hdp : p < s.dp.length := by rw [hI.len_dp]; omega
  have hnew : ∀ sc, sc ≤ (p + 1) * (k * msc) → prevPtrNew sortEv bsM bsN sc ((mAt ms p).1 + k) ((mAt ms p).2 + k) p gE
      = Res.ok (toT (PrevPtr.new sc ((mAt ms p).1 + k) ((mAt ms p).2 + k) p gE)) := fun sc hsc =>
    prevPtrNew_eq_model sortEv bsM bsN sc _ _ p gE (hS.plane_lt hp hsc (by omega)) (by omega)
  have hset := fun v => src_set_PP s.tree ((mAt ms p).2 + k) v (by omega) (by rw [treeB_length hI]; omega)
  have hfind := contLookup_bs bsM hbs hs k p
  unfold enc
  cases hlook : contLookup ms k p with
  | none =>
    rw [hlook] at hfind
    rw [stepS_end_none ms k msc gO gE s p hp hlook]
    exact for3_end_run_none sortEv bsM bsN ms k msc gO gE _ _ _ _ _ _ p _ hlen hp hdp hfind (hnew _ (hI.cells p hp)) (hset _)
  | some c =>
    rw [hlook] at hfind
    obtain ⟨hx, hy, hb⟩ := hfind
    obtain ⟨hcp, hcell⟩ := hI.cont_le hk hs hp hlook
    rw [stepS_end_some ms k msc gO gE s p c hp hI.len_dp hlook]
    have hadd : (s.dp.getD c (0, 0)).1 + msc < 2 ^ 32 := by
      have := hS.score_lt hcp hp (hI.cells c (by omega))
      have := Nat.le_mul_of_pos_left msc hk
      omega
    exact for3_end_run_some sortEv bsM bsN ms k msc gO gE _ _ _ _ _ _ p c _ hlen hp hdp hx hy hb (by rw [hI.len_dp]; omega)
      (by omega) hadd (hnew _ hcell) (hset _)

theorem sdp_for3_fold (hbs : BSearchOk bsM) {ms : List M} {k msc gO gE : Nat} (hS : BndS ms k msc gO gE) (hk : 0 < k) (hs : ms.Pairwise lexLt) :
    List.foldlM (sdpkpp_for3 sortEv bsM bsN ms k msc gO gE) (enc (Model.Sdpkpp.initSt ms k)) (sortedEvents ms k)
      = Res.ok (enc (Model.Sdpkpp.sweep ms k msc gO gE)) :=
  GenSrcLcskpp.sweep_sim (I := InvS ms k msc gE) _ enc
    (fun hI hp h => ⟨sdp_for3_start sortEv bsM bsN hS hk hs hI hp h, invS_step_start hk hs hI hp h⟩)
    (fun hI hp h => ⟨sdp_for3_end sortEv bsM bsN hbs hS hk hs hI hp, invS_step_end hk hs hI hp h⟩)
    (invS_init ms k msc gE)

/-- the traceback loop of `sdpkpp` is that of `lcskpp`, word for word (so are the assertion loop and the event loop: by `rfl`) -/
theorem sdpkpp_while1_eq (dp : List (Nat × Int)) : ∀ fuel st, sdpkpp_while1 sortEv bsM bsN dp fuel st = Gen.SrcLcskpp.lcskpp_while1 sortEv bsM dp fuel st := by
  intro fuel
  induction fuel with
  | zero => intro st; rfl
  | succ f ih => intro st; simp only [sdpkpp_while1, Gen.SrcLcskpp.lcskpp_while1, ih]

theorem sdp_for1_ok (ms : List M)
    (hs : ms.Pairwise lexLt) :
    List.foldlM (sdpkpp_for1 sortEv bsM bsN ms) () (List.range' 1 (ms.length - 1)) = Res.ok () :=
  GenSrcLcskpp.for1_ok sortEv bsM ms hs

theorem sdp_for2_fold (ms : List M) (k : Nat) :
    ∀ (l : List M) (i0 : Nat) (ev : List Ev) (n : Nat), (∀ m ∈ l, m.1 + k < 2 ^ 32 ∧ m.2 + k < 2 ^ 32) →
      i0 + l.length + ms.length ≤ 2 ^ 32 →
      List.foldlM (sdpkpp_for2 sortEv bsM bsN ms k) (ev, n) (l.zipIdx i0)
        = Res.ok (ev ++ eventsFrom ms.length k i0 l, nFrom k n l) :=
  GenSrcLcskpp.for2_fold sortEv bsM ms k

theorem sdp_while_eq (dp : List (Nat × Int)) (hdp : dp.length < 2 ^ 63) :
    ∀ (fuel : Nat) (prev : Int) (tb l : List Nat), traceLoop dp fuel prev = some l → (∀ i ∈ l, i < dp.length) →
      ∃ pm, sdpkpp_while1 sortEv bsM bsN dp fuel (tb, prev) = Res.ok (tb ++ l, pm) := by
  simp only [sdpkpp_while1_eq]
  exact GenSrcLcskpp.while_eq sortEv bsM dp hdp

/-- **`sdpkpp` as written in the source = the mirror model, given that its sweep loop is** (`hsw`: the translated loop
`sdpkpp_for3` over the sorted events computes the model's sweep; `sdp_for3_fold` supplies it under `BndS`): the assertion on the
gap parameters, `(-gap_open) as u32`, the sortedness assertion, the event list, the sort (by contract), `MaxBitTree::new`,
`dp.resize`, the traceback loop and the result struct are as in the model; no panic outside the sweep. -/
theorem sdpkpp_eq_model_of_sweep (hsort : SortOk sortEv) (ms : List M) (k msc gO gE : Nat) (hk : 0 < k) (hs : ms.Pairwise lexLt) (hB : Bnd ms k)
    (hgo : gO < 2 ^ 31) (hge : gE < 2 ^ 31)
    (hsw : List.foldlM (sdpkpp_for3 sortEv bsM bsN ms k msc gO gE) (enc (Model.Sdpkpp.initSt ms k)) (sortedEvents ms k)
      = Res.ok (enc (Model.Sdpkpp.sweep ms k msc gO gE))) :
    ∃ r, Model.Sdpkpp.sdpkpp ms k msc gO gE = .ok r ∧
      Gen.SrcSdpkpp.sdpkpp sortEv bsM bsN ms k msc (-(gO : Int)) (-(gE : Int)) = Res.ok (r.path, r.score, r.dp) := by
  cases hms : ms with
  | nil => exact ⟨{ path := [], score := 0, dp := [] }, by simp [Model.Sdpkpp.sdpkpp], by simp [Gen.SrcSdpkpp.sdpkpp]⟩
  | cons m0 rest0 =>
    rw [← hms]
    have hne : 0 < ms.length := by rw [hms]; simp
    have hemp : ms.isEmpty = false := by rw [hms]; rfl
    have hsorted : sortedStrict ms = true := (sortedStrict_iff ms).mpr hs
    have hlen := hB.len
    obtain ⟨p, hp, hb2⟩ := (sweepS_inv msc gO gE hk hs).best hne
    obtain ⟨tb, ht, hall, -, -⟩ := traceS_spec msc gO gE hk hs p hp (ms.length + 1) (by omega)
    refine ⟨{ path := (p :: tb).reverse, score := (Model.Sdpkpp.sweep ms k msc gO gE).best.1,
              dp := (Model.Sdpkpp.sweep ms k msc gO gE).dp }, ?_, ?_⟩
    · unfold Model.Sdpkpp.sdpkpp
      simp only [hemp, hsorted, Bool.false_eq_true, if_false, Bool.not_true, hb2, ht]
    · have hk32 : k < 2 ^ 32 := by have := (hB.xy m0 (by rw [hms]; simp)).1; omega
      have ek : Rs.cast 32 k = k := Nat.mod_eq_of_lt hk32
      have eas : (decide (-(gO : Int) ≤ 0) && decide (-(gE : Int) ≤ 0)) = true := by simp
      have en1 : Rs.ineg 32 (-(gO : Int)) = Res.ok (gO : Int) := by
        rw [Rs.ineg_ok (by unfold Rs.InS; simp; omega)]; simp
      have en2 : Rs.ineg 32 (-(gE : Int)) = Res.ok (gE : Int) := by
        rw [Rs.ineg_ok (by unfold Rs.InS; simp; omega)]; simp
      have ec1 : Rs.castUnsigned 32 (gO : Int) = gO := Rs.castUnsigned_natCast (by omega)
      have ec2 : Rs.castUnsigned 32 (gE : Int) = gE := Rs.castUnsigned_natCast (by omega)
      have e1 := sdp_for1_ok sortEv bsM bsN ms hs
      have e2 := sdp_for2_fold sortEv bsM bsN ms k ms 0 [] 0 hB.xy (by omega)
      rw [List.nil_append] at e2
      have e3 := sort_events sortEv hsort ms k
      have e4 : RbV.Gen.SrcFenwickNew.new ((0, 0, 0, 0, 0, 0) : Nat × Nat × Nat × Nat × Nat × Nat) (nFrom k 0 ms)
          = Res.ok ((Model.Fenwick.new dfltPP (nFrom k 0 ms)).map toT) := by
        rw [fenwickNew_eq_model _ _ (by have := nFrom_lt hB; omega)]
        simp [Model.Fenwick.new, toT, dfltPP]
      have e5 : Rs.resize ([] : List (Nat × Int)) (sortedEvents ms k).length (0, (0 : Int)) = List.replicate (2 * ms.length) (0, 0) := by
        simp [Rs.resize, sortedEvents_length]
      have hdpl : (Model.Sdpkpp.sweep ms k msc gO gE).dp.length = 2 * ms.length :=
        (sweepS_inv msc gO gE hk hs).len_dp
      obtain ⟨pm, e7⟩ := sdp_while_eq sortEv bsM bsN (Model.Sdpkpp.sweep ms k msc gO gE).dp (by omega) (ms.length + 1) (p : Int) []
        (p :: tb) ht (fun i hi => by have := hall i hi; omega)
      have hbest : (Model.Sdpkpp.sweep ms k msc gO gE).best = ((Model.Sdpkpp.sweep ms k msc gO gE).best.1, (p : Int)) := by rw [← hb2]
      simp only [enc, Model.Sdpkpp.initSt] at hsw
      unfold Gen.SrcSdpkpp.sdpkpp
      simp only [hemp, Bool.false_eq_true, if_false, ek, eas, Rs.assert, if_true, en1, en2, ec1, ec2, e1, e2, e3, e4, e5, hsw,
        Res.ok_bind, Res.pure_eq_ok, bind_pure_comp]
      rw [hbest]
      simp only [e7, Res.ok_bind, List.nil_append, Functor.map, Res.bind]

/-- **`sparse::sdpkpp` as written in the source = the mirror model** (path, score, the whole `dp_vector`), for every strictly
sorted match list, `k ≥ 1`, gap parameters `-gO`, `-gE` and sizes `BndS`: no panic — in particular `cur_x - prev_x` /
`cur_y - prev_y` never underflow (a record read from the tree belongs to a match that ended at or before the start in both
coordinates), no `u32` product or sum overflows — and the traceback ends by its own condition. -/
theorem sdpkpp_eq_model (hsort : SortOk sortEv) (hbs : BSearchOk bsM) (ms : List M) (k msc gO gE : Nat) (hk : 0 < k) (hs : ms.Pairwise lexLt)
    (hS : BndS ms k msc gO gE) :
    ∃ r, Model.Sdpkpp.sdpkpp ms k msc gO gE = .ok r ∧
      Gen.SrcSdpkpp.sdpkpp sortEv bsM bsN ms k msc (-(gO : Int)) (-(gE : Int)) = Res.ok (r.path, r.score, r.dp) :=
  sdpkpp_eq_model_of_sweep sortEv bsM bsN hsort ms k msc gO gE hk hs hS.base hS.hgO hS.hgE
    (sdp_for3_fold sortEv bsM bsN hbs hS hk hs)

end

end RbV.Thm.GenSrcSdpkpp
