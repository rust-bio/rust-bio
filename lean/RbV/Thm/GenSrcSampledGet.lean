import RbV.Gen.SrcSampledGet
import RbV.Model.SampledGet
import RbV.Thm.GenSrcBasic
import RbV.Model.InvBWT
/-!
# The translated text of `SampledSuffixArray::get` follows the mirror model `Sampled.getGo` step by step

`RbV/Gen/SrcSampledGet.lean` is regenerated from `src/data_structures/suffix_array.rs` by `tools/rs2lean.py` on every
`./check C03`.  The `loop` with its two `return`s is a recursive helper on fuel `len + 1` (the model's fuel);
`self.extra_rows[&pos]` is the abstract partial lookup `extraLookup pos` followed by `.unwrap()` (a missing key
panics); `self.occ.borrow().get(self.bwt.borrow(), r, c)` is the abstract `occF r c`; `self.len()` the abstract `len`.

The model answers `none` where the code panics or runs out of fuel, so the statement is: **whenever the model returns
`some v`, the translated function returns `ok (some v)`** — no panic (`pos % s`, `sample[pos / s]`, `bwt[pos]`, the
hash-map lookup, `less[c]`, `pos - 1`, the three additions) and enough fuel — provided every walk step stays inside the
BWT (`hstep`: `less[c] + occ(pos - 1, c) < n` on unsampled non-sentinel rows; true for the exact `less`/`occ`), every
BWT symbol indexes the `less` array, suffix-array entries are positions, and `n + 1 < 2^63`.
-/
-- the simp sets name every fact a harmless rewrite of the Rust text may need; on the present text some are unused
set_option linter.unusedSimpArgs false

namespace RbV.Thm.GenSrcSampledGet
open RbV RbV.Rs RbV.Gen.SrcSampledGet RbV.Thm.GenSrc RbV.Sampled

variable (occF : Nat → Nat → Nat) (len : Nat)

/-- the translated `loop` follows `getGo` -/
theorem loop_eq_model (bwt sa : List Nat) (s sent : Nat) (lessA : List Nat) (hs : 0 < s)
    (hsa : ∀ p, sa.getD p 0 < bwt.length) (hsym : ∀ c ∈ bwt, c < lessA.length)
    (hstep : ∀ pos, pos < bwt.length → pos % s ≠ 0 → bwt.getD pos 0 ≠ sent →
      lessA.getD (bwt.getD pos 0) 0 + occF (pos - 1) (bwt.getD pos 0) < bwt.length)
    (hn : bwt.length < 2 ^ 63) :
    ∀ (f pos off v : Nat), pos < bwt.length → off + f < 2 ^ 63 →
      getGo bwt sa s sent lessA occF f pos off = some v →
      get_loop1 (extraRow bwt sa s sent) occF len s (sampleVec sa s) bwt sent lessA f (pos, off) = Res.ok (some v) := by
  intro f
  induction f with
  | zero => intro pos off v _ _ h; simp [getGo] at h
  | succ f ih =>
    intro pos off v hpos hoff h
    have e1 : Rs.rem pos s = Res.ok (pos % s) := Rs.rem_ok hs
    have e2 : Rs.div pos s = Res.ok (pos / s) := Rs.div_ok hs
    simp only [getGo] at h
    by_cases hmod : pos % s = 0
    · rw [if_pos hmod] at h
      obtain ⟨x, hx, hv⟩ := Option.map_eq_some_iff.mp h
      obtain ⟨i, hxi⟩ := mem_sampleVec sa s x (List.mem_of_getElem? hx)
      have hxn : x < bwt.length := hxi ▸ hsa i
      have e3 : Rs.idx (sampleVec sa s) (pos / s) = Res.ok x := Rs.idx_of_getElem? hx
      have hxo : x + off < 2 ^ 64 := by omega
      simp only [get_loop1, e1, hmod, beq_iff_eq, e2, Res.pure_eq_ok, Res.ok_bind, e3, Rs.add_ok hxo, Rs.add_ok_comm hxo,
        ↓reduceIte, ← hv]
    · rw [if_neg hmod] at h
      have hpos1 : 1 ≤ pos := by
        rcases Nat.eq_zero_or_pos pos with h0 | h0
        · subst h0; simp at hmod
        · exact h0
      have e3 : Rs.idx bwt pos = Res.ok (bwt.getD pos 0) := idx_getD bwt pos 0 hpos
      by_cases hc : bwt.getD pos 0 = sent
      · simp only [hc, if_true] at h
        obtain ⟨x, hx, hv⟩ := Option.map_eq_some_iff.mp h
        have hxn : x < bwt.length := (extraRow_some bwt sa s sent pos x hx) ▸ hsa pos
        have e4 : Rs.expect (extraRow bwt sa s sent pos) = Res.ok x := by rw [hx]; rfl
        have hxo : x + off < 2 ^ 64 := by omega
        simp only [get_loop1, e1, beq_iff_eq, Res.pure_eq_ok, e3, hc, e4, Res.ok_bind, Rs.add_ok hxo, Rs.add_ok_comm hxo,
          ↓reduceIte, hmod, Ne.symm hmod, ← hv]
      · simp only [hc, if_false] at h
        have hcm : bwt.getD pos 0 < lessA.length := by
          rw [List.getD_eq_getElem bwt pos 0 hpos]; exact hsym _ (List.getElem_mem hpos)
        have hst := hstep pos hpos hmod hc
        have e4 : Rs.idx lessA (bwt.getD pos 0) = Res.ok (lessA.getD (bwt.getD pos 0) 0) := idx_getD lessA _ 0 hcm
        have e5 : Rs.sub pos 1 = Res.ok (pos - 1) := Rs.sub_ok hpos1
        have h6 : lessA.getD (bwt.getD pos 0) 0 + occF (pos - 1) (bwt.getD pos 0) < 2 ^ 64 := by omega
        have h7 : off + 1 < 2 ^ 64 := by omega
        have := ih _ (off + 1) v hst (by omega) h
        simp only [get_loop1, e1, beq_iff_eq, Res.pure_eq_ok, e3, e5, Rs.add_ok h7, Rs.add_ok_comm h7, Res.ok_bind, hc,
          Ne.symm hc, ↓reduceIte, e4, Rs.add_ok h6, Rs.add_ok_comm h6, this, hmod, Ne.symm hmod]

/-- **`SampledSuffixArray::get` as written in the source returns what the mirror model `sampledGet` returns**, whenever
that is `some v` (the model's `none` = failed lookup or exhausted fuel; the theorems about the model show that it does
not occur) -/
theorem get_eq_model (bwt sa : List Nat) (s sent : Nat) (lessA : List Nat) (hs : 0 < s)
    (hsa : ∀ p, sa.getD p 0 < bwt.length) (hsym : ∀ c ∈ bwt, c < lessA.length)
    (hstep : ∀ pos, pos < bwt.length → pos % s ≠ 0 → bwt.getD pos 0 ≠ sent →
      lessA.getD (bwt.getD pos 0) 0 + occF (pos - 1) (bwt.getD pos 0) < bwt.length)
    (hn : bwt.length + 1 < 2 ^ 63) (i v : Nat) (h : sampledGet bwt sa s sent lessA occF i = some v) :
    get (extraRow bwt sa s sent) occF bwt.length bwt lessA (sampleVec sa s) s sent i = Res.ok (some v) := by
  unfold sampledGet at h
  by_cases hi : i < bwt.length
  · rw [if_pos hi] at h
    have := loop_eq_model occF bwt.length bwt sa s sent lessA hs hsa hsym hstep (by omega) (bwt.length + 1) i 0 v hi
      (by omega) h
    simp [Gen.SrcSampledGet.get, hi, this]
  · rw [if_neg hi] at h; exact absurd h (by simp)

/-- a row outside the array: `None` -/
theorem get_out_of_range (extraLookup : Nat → Option Nat) (bwt lessA sample : List Nat) (s sent i : Nat) (hi : len ≤ i) :
    get extraLookup occF len bwt lessA sample s sent i = Res.ok none := by
  have : ¬ i < len := by omega
  simp [Gen.SrcSampledGet.get, this]

/-- with the exact `less` and `occ`, one LF step from an unsampled row stays inside the BWT: `less[c] + occ(pos - 1, c)`
counts the symbols smaller than `c = bwt[pos]` and the `c`s before row `pos` — row `pos` itself is not among them -/
theorem lf_step_lt (bwt : List Nat) (pos : Nat) (h1 : 1 ≤ pos) (h : pos < bwt.length) :
    lessRef bwt (bwt.getD pos 0) + occRef bwt (pos - 1) (bwt.getD pos 0) < bwt.length := by
  have := InvBWT.slot_lt bwt pos h
  unfold InvBWT.slot at this
  unfold occRef
  rw [Nat.sub_add_cancel h1]; exact this

end RbV.Thm.GenSrcSampledGet
