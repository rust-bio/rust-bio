import RbV.Basic.RsSem
import RbV.Basic.Scan
import RbV.Thm.GenSrcIter
/-!
Shared by the equality proofs of the scanner-type search loops (`kmp::Matches::next` in `Thm/GenSrcKmpNext.lean`,
`shift_and::Matches::next` in `Thm/GenSrcShiftAndNext.lean`): a translated
`for (i, c) in self.text.by_ref() { s = step(s, c); if acc(s) { return Some(i + 1 - m) } }  None`, driven by `Rs.drain`
until `None`, lists what the generic scanner `Scan.scan step acc m` lists.  The matcher-specific part of a proof is one
unfolding of the generated loop helper under the automaton invariant (`hnil`, `hcons`) and the shape of `next` (`hnext`).
-/
namespace RbV.Thm.GenSrcScan
open RbV RbV.Rs

section
variable {σ : Type} (step : σ → Nat → σ) (acc : σ → Bool) (m : Nat) (Inv : List Nat → σ → Prop)
variable (iter : List Nat → Nat → σ → Res (σ × (List Nat × Nat) × Option (Option Nat)))
variable (next : σ → (List Nat × Nat) → Res (σ × (List Nat × Nat) × Option Nat))

/-- the translated `next` as a step function on the pair (automaton state, text iterator) -/
def nextS (st : σ × (List Nat × Nat)) : Res ((σ × (List Nat × Nat)) × Option Nat) := do
  let (s', tx', r) ← next st.1 st.2
  pure ((s', tx'), r)

theorem nextS_eq (s : σ) (tx : List Nat × Nat) (s' : σ) (tx' : List Nat × Nat) (r : Option Nat)
    (h : next s tx = Res.ok (s', tx', r)) : nextS next (s, tx) = Res.ok ((s', tx'), r) := by
  simp only [nextS, h, Res.ok_bind, Res.pure_eq_ok]

/-- outcome of one run of the loop -/
def StepSpec (rest pre : List Nat) (s s' : σ) (tx' : List Nat × Nat) (r : Option (Option Nat)) : Prop :=
  (r = none ∧ tx'.1 = [] ∧ Scan.scan step acc m rest pre.length s = []) ∨
  (∃ v pre', r = some (some v) ∧ Inv pre' s' ∧ pre'.length = tx'.2 ∧ pre' ++ tx'.1 = pre ++ rest ∧
      tx'.1.length < rest.length ∧ tx'.1 <:+ rest ∧
      Scan.scan step acc m rest pre.length s = v :: Scan.scan step acc m tx'.1 tx'.2 s')

variable (hnil : ∀ i s, iter [] i s = Res.ok (s, ([], i), none))
variable (hcons : ∀ pre s c rest, Inv pre s → c < 256 → pre.length + 1 + rest.length < 2 ^ 64 →
  iter (c :: rest) pre.length s =
    if acc (step s c) then Res.ok (step s c, (rest, pre.length + 1), some (some (pre.length + 1 - m)))
    else iter rest (pre.length + 1) (step s c))
variable (hnext : ∀ s tx s' tx' r, iter tx.1 tx.2 s = Res.ok (s', tx', r) → next s tx = Res.ok (s', tx', r.join))
variable (hstep : ∀ pre s c, Inv pre s → Inv (pre ++ [c]) (step s c))
include hnil hcons hstep

theorem iter_spec : ∀ (rest pre : List Nat) (s : σ), Inv pre s → (∀ c ∈ rest, c < 256) →
    pre.length + rest.length < 2 ^ 64 →
    ∃ s' tx' r, iter rest pre.length s = Res.ok (s', tx', r) ∧ StepSpec step acc m Inv rest pre s s' tx' r := by
  intro rest
  induction rest with
  | nil =>
    intro pre s _ _ _
    exact ⟨s, ([], pre.length), none, hnil _ _, Or.inl ⟨rfl, rfl, rfl⟩⟩
  | cons c rest ih =>
    intro pre s hinv hb h64
    have hinv' := hstep pre s c hinv
    have hlen : (pre ++ [c]).length = pre.length + 1 := List.length_append
    have hco := hcons pre s c rest hinv (hb c List.mem_cons_self)
      (by rw [List.length_cons] at h64; omega)
    have hscan : Scan.scan step acc m (c :: rest) pre.length s =
        if acc (step s c) then (pre.length + 1 - m) :: Scan.scan step acc m rest (pre.length + 1) (step s c)
        else Scan.scan step acc m rest (pre.length + 1) (step s c) := rfl
    by_cases hacc : acc (step s c) = true
    · rw [if_pos hacc] at hco hscan
      exact ⟨_, _, _, hco, Or.inr ⟨_, pre ++ [c], rfl, hinv', hlen, List.append_assoc .., Nat.lt_succ_self _,
        List.suffix_cons c rest, hscan⟩⟩
    · rw [if_neg hacc] at hco hscan
      obtain ⟨s', tx', r, hrun, hspec⟩ := ih (pre ++ [c]) _ hinv' (fun x hx => hb x (List.mem_cons_of_mem _ hx))
        (by rw [List.length_cons] at h64; rw [hlen]; omega)
      rw [hlen] at hrun
      refine ⟨s', tx', r, hco.trans hrun, ?_⟩
      unfold StepSpec at hspec ⊢
      rw [hlen, ← hscan] at hspec
      rcases hspec with h | ⟨v, pre', h1, h2, h3, h4, h5, hs, h6⟩
      · exact Or.inl h
      · exact Or.inr ⟨v, pre', h1, h2, h3, by rw [h4, List.append_assoc]; rfl, Nat.lt_succ_of_lt h5,
          hs.trans (List.suffix_cons c rest), h6⟩

include hnext

theorem drain_eq_scan : ∀ (fuel : Nat) (rest pre : List Nat) (s : σ), Inv pre s → (∀ c ∈ rest, c < 256) →
    pre.length + rest.length < 2 ^ 64 → rest.length < fuel →
    Rs.drain (nextS next) fuel (s, (rest, pre.length)) = Res.ok (Scan.scan step acc m rest pre.length s) := by
  intro fuel rest pre s hinv hb h64 hf
  refine GenSrcIter.drain_eq_of_step (nextS next) (fun st => Scan.scan step acc m st.2.1 st.2.2 st.1)
    (fun st => ∃ pre, Inv pre st.1 ∧ pre.length = st.2.2 ∧ (∀ c ∈ st.2.1, c < 256) ∧ pre.length + st.2.1.length < 2 ^ 64)
    (fun st => st.2.1.length) ?_ fuel (s, (rest, pre.length)) ⟨pre, hinv, rfl, hb, h64⟩ hf
  clear hinv hb h64 hf
  rintro ⟨s, rest, i⟩ ⟨pre, hinv, rfl, hb, h64⟩
  replace h64 : pre.length + rest.length < 2 ^ 64 := h64
  obtain ⟨s', tx', r, hrun, hspec⟩ := iter_spec step acc m Inv iter hnil hcons hstep rest pre s hinv hb h64
  refine ⟨(s', tx'), r.join, nextS_eq next _ _ _ _ _ (hnext s (rest, pre.length) s' tx' r hrun), ?_⟩
  rcases hspec with ⟨h1, _, h3⟩ | ⟨v, pre', h1, h2, h3, h4, h5, hs, h6⟩
  · subst h1
    exact Or.inl ⟨rfl, h3⟩
  · subst h1
    have hl := congrArg List.length h4
    rw [List.length_append, List.length_append] at hl
    have h64' : pre'.length + tx'.1.length < 2 ^ 64 := by omega
    exact Or.inr ⟨v, rfl, h5, ⟨pre', h2, h3, fun c hc => hb c (hs.subset hc), h64'⟩, h3 ▸ h6⟩

end
end RbV.Thm.GenSrcScan
