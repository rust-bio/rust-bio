import RbV.Spec.Interval
import RbV.Ref.AvlCheck
import RbV.Model.AvlProofs
import RbV.Model.AMapProofs
import RbV.Model.IitIndex
import RbV.Model.DumpProofs
import RbV.Thm.GenSrcIit
import RbV.Thm.GenSrcAvlFind
/-!
# C07 — interval trees and the annotation map report exactly the overlapping entries; the AVL tree stays balanced

Property theorems.  The lemmas behind them: `RbV/Spec/Interval.lean` (oracle), `RbV/Ref/AvlCheck.lean` (checkers),
`RbV/Model/AvlProofs.lean` and `RbV/Model/AvlG.lean` (AVL model: `repair`, search; insertion for every tie-break and
histories), `RbV/Model/AMapProofs.lean`, `RbV/Model/IitProofs.lean` and `RbV/Model/IitIndex.lean` (array-backed model:
search; `index_core`, histories), `RbV/Model/DumpProofs.lean` (the driver's `rebuild`, `RbV/Drv/C07.lean`), and for the
translated source text `RbV/Thm/GenSrcAvl*.lean`, `RbV/Thm/GenSrcIit.lean`.

Layers
* oracle: `Ivl.expected stored q` (filter by half-open overlap) compared with `Ivl.sameMultiset`;
* verified checker for the shape of the *real* AVL tree read through the hook: `checkAVL`, `checkWeak`;
* mirror model of `avl_interval_tree.rs` (`RbV/Model/Avl.lean`): all insertion histories;
* mirror model of `array_backed_interval_tree.rs` (`RbV/Model/Iit.lean`): every n;
* mirror model of `annot_map.rs` (`Avl.AMap`, an association list of model trees; `annot_map.rs` is not translated);
* the translated text of the array-backed tree and of the AVL tree (`RbV/Gen/SrcIit.lean`, `SrcAvl.lean`), proved equal to the
  mirror models (the last two sections, half of the theorems).
-/
namespace RbV.Thm.C07
open RbV RbV.Ivl RbV.Avl

/-! ## the oracle -/

/-- the driver's multiset comparison is exactly `List.Perm`: an answer is accepted iff it is the expected multiset -/
theorem oracle_multiset (got exp : List Entry) : sameMultiset got exp = true ↔ got.Perm exp :=
  sameMultiset_iff got exp

/-- the expected answer consists of exactly the stored entries that overlap … -/
theorem oracle_members (stored : List Entry) (q : Query) (e : Entry) :
    e ∈ expected stored q ↔ e ∈ stored ∧ Overlaps q e :=
  mem_expected stored q e

/-- … with their multiplicities: the count of any entry in the answer is its count in the store if it overlaps,
and 0 otherwise -/
theorem oracle_counts (stored : List Entry) (q : Query) (e : Entry) :
    (expected stored q).count e = if Overlaps q e then stored.count e else 0 := by
  by_cases h : Overlaps q e
  · simp only [h, if_true]
    exact List.count_filter (by simpa using h)
  · simp only [h, if_false]
    apply List.count_eq_zero.mpr
    intro hm
    exact h ((mem_expected stored q e).mp hm).2

/-- half-open overlap of positive-width intervals = a common integer point -/
theorem overlaps_common_point (q : Query) (e : Entry) (hq : q.lo < q.hi) (he : e.lo < e.hi) :
    Overlaps q e ↔ ∃ x : Int, q.lo ≤ x ∧ x < q.hi ∧ e.lo ≤ x ∧ x < e.hi :=
  overlaps_iff_common_point q e hq he

example : expected [⟨5, 9, 0⟩, ⟨5, 7, 1⟩, ⟨5, 7, 1⟩, ⟨9, 12, 2⟩] ⟨7, 9⟩ = [⟨5, 9, 0⟩] := by decide
example : sameMultiset [⟨5, 7, 1⟩, ⟨5, 9, 0⟩, ⟨5, 7, 1⟩] [⟨5, 9, 0⟩, ⟨5, 7, 1⟩, ⟨5, 7, 1⟩] = true :=
  (oracle_multiset _ _).mpr (by decide)
example : sameMultiset [⟨5, 7, 1⟩, ⟨5, 9, 0⟩] [⟨5, 9, 0⟩, ⟨5, 7, 1⟩, ⟨5, 7, 1⟩] = false := by
  rw [Bool.eq_false_iff]
  intro h
  have := ((oracle_multiset _ _).mp h).length_eq
  simp at this

/-! ## the checker applied to the real tree (hook dump) is sound -/

/-- `checkAVL t n = true` ⇒ the tree has `n` nodes, in-order starts are non-decreasing, every `max` field is the
maximum end of its subtree, every `height` field is the true height, every node is balanced -/
theorem checkAVL_sound (t : Tree) (n : Nat) (h : checkAVL t n = true) : size t = n ∧ Inv t :=
  Avl.checkAVL_sound t n h

/-- the weak check (used to classify a strict failure): `n` nodes, balanced by *true* heights, and the two
facts the pruned search relies on -/
theorem checkWeak_sound (t : Tree) (n : Nat) (h : checkWeak t n = true) : size t = n ∧ WeakInv t :=
  Avl.checkWeak_sound t n h

/-- "height-balanced": a balanced tree of height `h` has at least `minNodes h` nodes, where
`minNodes (h+2) = minNodes (h+1) + minNodes h + 1` (the Fibonacci-like recurrence).  That `minNodes` grows exponentially —
hence height `= O(log n)` and logarithmic query cost — is not proved in this development; nothing is said about query cost -/
theorem balanced_height_logarithmic (t : Tree) (h : Balanced t) : minNodes (realHeight t) ≤ size t :=
  balanced_size_ge t h

example : checkAVL (.node (.node .nil ⟨1, 9, 0⟩ 9 1 .nil) ⟨2, 3, 0⟩ 9 2 (.node .nil ⟨4, 5, 0⟩ 5 1 .nil)) 3 = true := by
  decide
/-- a stale `max` after a rotation is caught -/
example : checkAVL (.node (.node .nil ⟨1, 9, 0⟩ 9 1 .nil) ⟨2, 3, 0⟩ 3 2 (.node .nil ⟨4, 5, 0⟩ 5 1 .nil)) 3 = false := by
  decide

/-- the driver's `rebuild` inverts the hook's pre-order dump format: the tree that `checkAVL` is applied to is the
tree that was dumped (payload data is not dumped) … -/
theorem dump_rebuild (t : Tree) (h : t ≠ .nil) :
    Drv.C07.rebuild ((Drv.C07.toDNodes t 0).length + 1) 0 (Drv.C07.toDNodes t 0) = some (Drv.C07.eraseData t, []) := by
  have := Drv.C07.rebuild_dump t 0 [] ((Drv.C07.toDNodes t 0).length + 1) h (by rw [Drv.C07.length_toDNodes]; omega)
  simpa using this

/-- … and the check does not depend on the payload data -/
theorem check_ignores_data (t : Tree) (n : Nat) : checkAVL (Drv.C07.eraseData t) n = checkAVL t n :=
  Drv.C07.checkAVL_eraseData t n

/-! ## mirror model of the AVL tree: every insertion history -/

/-- the stored multiset grows by exactly the inserted entry -/
theorem insert_perm (t : Tree) (e : Entry) : (toList (insert t e)).Perm (e :: toList t) :=
  toList_insert_perm t e

/-- in-order starts stay non-decreasing (equal starts go left) -/
theorem insert_sorted (t : Tree) (e : Entry) (h : Sorted t) : Sorted (insert t e) :=
  Avl.insert_sorted t e h

/-- the whole invariant — sorted, `max` = maximum end of the subtree at every node, `height` exact at every
node, |h_left − h_right| ≤ 1 at every node — is preserved by `insert` with all four rotation cases -/
theorem insert_inv (t : Tree) (e : Entry) (h : Inv t) : Inv (insert t e) :=
  Avl.insert_inv t e h

/-- the height grows by at most one per insertion -/
theorem insert_height (t : Tree) (e : Entry) (h : Inv t) :
    realHeight t ≤ realHeight (insert t e) ∧ realHeight (insert t e) ≤ realHeight t + 1 := by
  rw [← insertG_le]; exact insertG_height tbLe t e h

/-- the `unwrap()` / `expect("Invalid tree: leaf is taller than its sibling.")` panics in `repair` and the
rotations are unreachable (`insertP` is `insert` with those panics explicit as `none`); the invariant is not needed for
this: `Avl.insertP_eq` holds of every tree, since a child is unwrapped only after its stored height was found larger
than another one, and an absent child counts as height 0 -/
theorem insert_no_panic (t : Tree) (e : Entry) (h : Inv t) : insertP t e = some (insert t e) :=
  -- `h : Inv t` is unused (it is kept in the statement; see the docstring)
  (fun _ => insertP_eq t e) h

/-- the pruned stack search of the mirror model (`IntervalTreeIterator::next` run to exhaustion) returns, as a multiset
(`List.Perm`), exactly the overlapping entries — for a positive-width query on a tree whose stored intervals all have
positive width (`PosW`; `Interval::new` accepts zero-width ranges, on which `intersect` is false while `Overlaps` can
hold), and already under `SearchInv` (implied by `WeakInv` and by `Inv`) -/
theorem find_correct_weak (t : Tree) (q : Query) (hs : SearchInv t) (hp : PosW t) (hq : q.lo < q.hi) :
    (find t q).Perm (expected (toList t) q) :=
  find_perm t q hs hp hq

/-- … hence under the full invariant -/
theorem find_correct (t : Tree) (q : Query) (hi : Inv t) (hp : PosW t) (hq : q.lo < q.hi) :
    (find t q).Perm (expected (toList t) q) :=
  find_perm t q hi.searchInv hp hq

/-- all histories of positive-width insertions and of whole-tree payload updates `bumpTree q d` with a positive-width `q`
(`hw`), starting from the empty model tree: the invariant holds at the end, the tree holds exactly the specified multiset,
and a positive-width query returns, as a multiset, exactly the overlapping entries of the *specified* store.  `bumpTree` is
the hand-written model of `for e in tree.find_mut(q) { *e.data() += d }`: a map over the whole tree that changes the
payload of every node with `intersect q e`.  No theorem links it to the mutable iterator (nor to `findLoop`); the
translated `find_mut` hands out copies of the entries, so that the Rust iterator performs exactly this update is assumed -/
theorem history_correct (ops : List HOp) (hw : ∀ o ∈ ops, o.wf) (q : Query) (hq : q.lo < q.hi) :
    Inv (runModel ops .nil) ∧ (toList (runModel ops .nil)).Perm (runSpec ops []) ∧
      (find (runModel ops .nil) q).Perm (expected (runSpec ops []) q) := by
  obtain ⟨hi, hp, hperm⟩ := run_correct ops .nil [] hw inv_nil (by intro a ha; simp [toList] at ha)
    (by simp [toList])
  refine ⟨hi, hperm, (find_perm _ q hi.searchInv hp hq).trans ?_⟩
  exact hperm.filter _

/-- in particular after every history of insertions and `bumpTree` updates the model tree has at least
`minNodes (height)` nodes (it is `Balanced`, by `history_correct`); no logarithmic bound is derived from this, see
`balanced_height_logarithmic` -/
theorem history_balanced (ops : List HOp) (hw : ∀ o ∈ ops, o.wf) :
    minNodes (realHeight (runModel ops .nil)) ≤ size (runModel ops .nil) :=
  balanced_size_ge _ (history_correct ops hw ⟨0, 1⟩ (by decide)).1.balanced

/-- non-vacuity: ascending insertions (rotate-left at the root), a mutation, an insertion with an equal start;
the hypotheses of `history_correct` are satisfied and the model computes the expected answer -/
example :
    let ops := [HOp.ins ⟨1, 9, 0⟩, .ins ⟨2, 3, 1⟩, .ins ⟨3, 4, 2⟩, .bump ⟨8, 9⟩ 10, .ins ⟨3, 8, 3⟩]
    Inv (runModel ops .nil) ∧ (find (runModel ops .nil) ⟨7, 9⟩).Perm [⟨3, 8, 3⟩, ⟨1, 9, 10⟩] := by
  intro ops
  have hw : ∀ o ∈ ops, o.wf := by
    intro o ho
    simp only [ops, List.mem_cons, List.not_mem_nil, or_false] at ho
    rcases ho with rfl | rfl | rfl | rfl | rfl <;> simp [HOp.wf]
  have h := history_correct ops hw ⟨7, 9⟩ (by decide)
  refine ⟨h.1, h.2.2.trans ?_⟩
  have : expected (runSpec ops []) ⟨7, 9⟩ = [⟨3, 8, 3⟩, ⟨1, 9, 10⟩] := by decide
  rw [this]

example : ht (runModel [HOp.ins ⟨1, 9, 0⟩, .ins ⟨2, 3, 1⟩, .ins ⟨3, 4, 2⟩, .ins ⟨3, 8, 3⟩] .nil) = 3 := by decide

/-! ## mirror model of `AnnotMap` (`Avl.AMap`: an association list reference id ↦ AVL model tree; `annot_map.rs` is not
translated, so `insert_at`'s `start..start+length`, `insert_loc`, the `HashMap` and the iterator wrapper are covered by no theorem) -/

/-- on a well-formed model map (`WF`: distinct ids, every tree satisfies `Inv` and holds positive-width intervals only)
`AMap.find r q`, the model of `AnnotMap::find`, is, as a multiset, the overlap filter on the entries stored under the queried
reference id (nothing for an absent id), for a positive-width query -/
theorem amap_find_correct (m : AMap) (r : Nat) (q : Query) (hw : m.WF) (hq : q.lo < q.hi) :
    (m.find r q).Perm (expected (m.storedAt r) q) :=
  AMap.find_perm m r q hw hq

/-- `AMap.insertAt`, the model of `insert_at`, with a positive-width entry keeps a well-formed model map well-formed and adds
the entry under its id only (as a multiset) -/
theorem amap_insert (m : AMap) (r : Nat) (e : Entry) (hw : m.WF) (he : e.lo < e.hi) (r' : Nat) :
    (m.insertAt r e).WF ∧ ((m.insertAt r e).storedAt r').Perm ((if r = r' then [e] else []) ++ m.storedAt r') :=
  ⟨AMap.wf_insertAt m r e hw he, AMap.storedAt_insertAt m r e r'⟩

/-- non-vacuity of `amap_find_correct`: a well-formed two-id map built with `amap_insert` -/
example : ((AMap.insertAt (AMap.insertAt [] 1 ⟨2, 5, 7⟩) 0 ⟨2, 5, 8⟩).find 1 ⟨4, 6⟩).Perm [⟨2, 5, 7⟩] := by
  have w0 : AMap.WF [] := ⟨by simp, by intro p hp; simp at hp⟩
  have w1 := (amap_insert [] 1 ⟨2, 5, 7⟩ w0 (by decide) 0).1
  have w2 := (amap_insert _ 0 ⟨2, 5, 8⟩ w1 (by decide) 0).1
  exact (amap_find_correct _ 1 ⟨4, 6⟩ w2 (by decide)).trans (by decide)

example : AMap.storedAt (AMap.insertAt (AMap.insertAt (AMap.insertAt [] 1 ⟨2, 5, 7⟩) 0 ⟨2, 5, 8⟩) 1 ⟨4, 6, 9⟩) 1
    = [⟨2, 5, 7⟩, ⟨4, 6, 9⟩] := by decide

/-! ## mirror model of the array-backed tree: every n, every history of `insert` / `index` -/

open RbV.Iit in
/-- the explicit-stack search of `find_into` on a start-sorted array whose `max` fields bound the in-range part
of every implicit subtree returns exactly the overlapping entries, in index order — for every `n`, power of two
or not -/
theorem iit_find_correct (a : List Cell) (K : Nat) (q : Query) (hs : SortedC a) (hm : MaxUB a)
    (hK : a.length < 2 ^ (K + 1)) :
    findLoop a a.length q [⟨K, (1 <<< K) - 1, false⟩] = expected (a.map (·.e)) q :=
  find_eq a K q hs hm hK

open RbV.Iit in
/-- on an array already sorted by start (what `index` passes after `sort_by_key`) the model's `indexCore` (level-by-level
`max` with the imaginary right spine tracked by `last_i`/`last_value`) changes no entry, so keeps the order, and establishes
the other two hypotheses of `iit_find_correct` (`MaxUB`, `n < 2^(max_level+1)`), for every `n` and whatever the `max` fields
held before -/
theorem iit_index_establishes (a : List Cell) (ml : Nat) (hs : SortedC a) :
    (indexCore a ml).1.map (·.e) = a.map (·.e) ∧ SortedC (indexCore a ml).1 ∧ MaxUB (indexCore a ml).1 ∧
      (indexCore a ml).1.length < 2 ^ ((indexCore a ml).2 + 1) :=
  indexCore_spec a ml hs

open RbV.Iit in
/-- every history of `insert` and `index` from the empty tree: a query is refused (`none`) iff the tree is not
indexed at that point (i.e. something was inserted after the last `index`, or `index` was never called), and
otherwise returns exactly the multiset of inserted entries that overlap — after the first indexing and again
after further inserts and re-indexing -/
theorem iit_history_correct (ops : List AOp) (q : Query) :
    ∃ stored, stored.Perm (insertedOf ops) ∧
      (runArr ops {}).find q = if endsIndexed ops false then some (expected stored q) else none := by
  obtain ⟨hw, hp, hi⟩ := runArr_spec ops {} wf_empty
  refine ⟨(runArr ops {}).stored, by simpa [State.stored] using hp, ?_⟩
  rw [find_spec _ q hw, hi]

open RbV.Iit in
/-- … in particular the answer is a permutation of the expected answer over the inserted entries -/
theorem iit_history_perm (ops : List AOp) (q : Query) (l : List Entry) (h : (runArr ops {}).find q = some l) :
    l.Perm (expected (insertedOf ops) q) := by
  obtain ⟨stored, hp, hf⟩ := iit_history_correct ops q
  rw [hf] at h
  split at h
  · cases h; exact hp.filter _
  · cases h

open RbV.Iit in
/-- non-vacuity: the hypotheses of `iit_find_correct` are met by what `iit_index_establishes` delivers on a concrete
array of 5 cells (n not a power of two, stale `max` fields, the farthest-reaching interval last) -/
example :
    let a0 : List Cell := [⟨⟨0, 2, 0⟩, 0⟩, ⟨⟨1, 3, 1⟩, 99⟩, ⟨⟨2, 3, 2⟩, 0⟩, ⟨⟨2, 4, 3⟩, -5⟩, ⟨⟨3, 50, 4⟩, 0⟩]
    let r := indexCore a0 0
    findLoop r.1 r.1.length ⟨49, 50⟩ [⟨r.2, (1 <<< r.2) - 1, false⟩] = [⟨3, 50, 4⟩] := by
  intro a0 r
  have hs : SortedC a0 := by unfold SortedC; decide
  obtain ⟨h1, h2, h3, h4⟩ := iit_index_establishes a0 0 hs
  rw [iit_find_correct r.1 r.2 ⟨49, 50⟩ h2 h3 h4, h1]
  decide

open RbV.Iit in
example : endsIndexed [AOp.ins ⟨1, 2, 0⟩, .index, .ins ⟨0, 9, 1⟩] false = false ∧
    endsIndexed [AOp.ins ⟨1, 2, 0⟩, .index, .ins ⟨0, 9, 1⟩, .index] false = true := by decide

/-! ## The source text of `index_core`, `find_into`, `index` (translated on every run, `Gen/SrcIit.lean`)

`tools/rs2lean.py` translates `ArrayBackedIntervalTree::index_core` (the `for_each` over the even cells, the
`while (1 << k) <= n` loop with its inner `step_by` loop, `last_i` / `last_value`), `find_into` and `index`; `N` is read at `Int`, an
`InternalEntry` is the tuple `(data, (start, end), max)`, `GenSrcIit.cells` maps a vector of them to the model's cells.
The helper `fn max3` is not translated: it is a parameter of the generated definitions, instantiated in every theorem below
with the model's `Iit.max3` (trusted to be the Rust `a.max(b.max(c))`). -/

open RbV.Iit in
/-- **`index_core` as written in the source = the mirror model**: for fewer than `2^62` entries the translated function
never panics (no index out of range, no shift or addition overflows, the `while` loop ends within its fuel) and computes
exactly the model's cells and `max_level` -/
theorem iit_index_source_eq_model (es : List GenSrcIit.RCell) (ml : Nat) (hn : es.length < 2 ^ 62) :
    ∃ es', Gen.SrcIit.indexCore Iit.max3 es ml = Rs.Res.ok (es', (indexCore (GenSrcIit.cells es) ml).2) ∧
      GenSrcIit.cells es' = (indexCore (GenSrcIit.cells es) ml).1 :=
  GenSrcIit.indexCore_eq_model es ml hn

open RbV.Iit in
/-- … hence the *translated* `index_core`, run on entries sorted by start, leaves every entry in place and establishes
what the search needs (`iit_find_correct`): sortedness, `max` = an upper bound of the ends in every implicit subtree,
`n < 2^(max_level+1)` — for every `n < 2^62`, power of two or not -/
theorem iit_index_source_establishes (es : List GenSrcIit.RCell) (ml : Nat) (hn : es.length < 2 ^ 62)
    (hs : SortedC (GenSrcIit.cells es)) :
    ∃ es' ml', Gen.SrcIit.indexCore Iit.max3 es ml = Rs.Res.ok (es', ml') ∧
      (GenSrcIit.cells es').map (·.e) = (GenSrcIit.cells es).map (·.e) ∧ SortedC (GenSrcIit.cells es') ∧
      MaxUB (GenSrcIit.cells es') ∧ es'.length < 2 ^ (ml' + 1) := by
  obtain ⟨es', h1, h2⟩ := iit_index_source_eq_model es ml hn
  obtain ⟨g1, g2, g3, g4⟩ := iit_index_establishes (GenSrcIit.cells es) ml hs
  refine ⟨es', _, h1, ?_, ?_, ?_, ?_⟩
  · rw [h2]; exact g1
  · rw [h2]; exact g2
  · rw [h2]; exact g3
  · have : es'.length = (GenSrcIit.cells es').length := (GenSrcIit.length_cells es').symm
    rw [this, h2]; exact g4

open RbV.Iit in
/-- **`find_into` as written in the source = the mirror model's search**: on an indexed tree
with `max_level ≤ 61` the translated function never panics (the 64-slot stack never overflows, no index is out of range,
no shift or addition overflows, the fuel of the `while t > 0` loop suffices), clears the buffer it is given and fills it
with exactly what the model's `findLoop` returns, in the same order; on an un-indexed tree it panics -/
theorem iit_find_source_eq_model (es : List GenSrcIit.RCell) (K : Nat) (hK : K ≤ 61) (q : Query)
    (res0 : List GenSrcIit.REntry) :
    (∃ R, Gen.SrcIit.findInto Iit.max3 es K true (q.lo, q.hi) res0 = Rs.Res.ok R ∧
      R.map GenSrcIit.toEntry = findLoop (GenSrcIit.cells es) es.length q [⟨K, (1 <<< K) - 1, false⟩]) ∧
    Gen.SrcIit.findInto Iit.max3 es K false (q.lo, q.hi) res0 = Rs.Res.panic :=
  ⟨GenSrcIit.findInto_eq_model es K hK q res0, GenSrcIit.findInto_not_indexed es K _ res0⟩

open RbV.Iit in
/-- **The translated pair answers exactly the overlapping entries, for every n**: run the *translated* `index_core` on
entries sorted by start (what `index()` hands it after `sort_by_key`), then the *translated* `find_into` with any query and
any (dirty) result buffer: neither panics, and the buffer ends up holding exactly the stored entries that overlap the
query, in index order — fewer than `2^62` entries, `max_level ≤ 61` before (0 for a new tree) -/
theorem iit_source_pair_answers_overlaps (es : List GenSrcIit.RCell) (ml : Nat) (hml : ml ≤ 61) (hn : es.length < 2 ^ 62)
    (hs : SortedC (GenSrcIit.cells es)) (q : Query) (res0 : List GenSrcIit.REntry) :
    ∃ es' ml' R, Gen.SrcIit.indexCore Iit.max3 es ml = Rs.Res.ok (es', ml') ∧
      Gen.SrcIit.findInto Iit.max3 es' ml' true (q.lo, q.hi) res0 = Rs.Res.ok R ∧
      R.map GenSrcIit.toEntry = expected ((GenSrcIit.cells es).map (·.e)) q := by
  obtain ⟨es', h1, h2⟩ := iit_index_source_eq_model es ml hn
  obtain ⟨R, r1, r2⟩ := GenSrcIit.findInto_after_indexCore es ml hml hn hs es' h2 q res0
  exact ⟨es', _, R, h1, r1, r2⟩

open RbV.Iit in
/-- **`index` + `find_into` as written in the source answer every query with exactly the stored entries that overlap
it** (as a multiset): for any sort satisfying `SortContract` (a permutation sorted by start — the trusted meaning of
`sort_by_key(|e| e.interval.start)`; no concrete sort is shown to satisfy it here), entries in any insertion order, fewer
than `2^62` of them, `max_level ≤ 61` before (0 for a new tree), any query and any dirty result buffer, the translated `index` sets the `indexed` flag without panicking and the translated `find_into` then fills
the buffer with a permutation of `expected stored q`; a second `index` is a no-op -/
theorem iit_source_index_find_answers (srt : List GenSrcIit.RCell → List GenSrcIit.RCell)
    (hsrt : GenSrcIit.SortContract srt) (es : List GenSrcIit.RCell) (ml : Nat) (hml : ml ≤ 61)
    (hn : es.length < 2 ^ 62) (q : Query) (res0 : List GenSrcIit.REntry) :
    ∃ es' ml' R, Gen.SrcIit.index Iit.max3 srt es ml false = Rs.Res.ok (es', ml', true) ∧
      Gen.SrcIit.index Iit.max3 srt es' ml' true = Rs.Res.ok (es', ml', true) ∧
      Gen.SrcIit.findInto Iit.max3 es' ml' true (q.lo, q.hi) res0 = Rs.Res.ok R ∧
      (R.map GenSrcIit.toEntry).Perm (expected ((GenSrcIit.cells es).map (·.e)) q) := by
  have hl : (srt es).length < 2 ^ 62 := by rw [(hsrt es).1.length_eq]; exact hn
  obtain ⟨es', h1, h2⟩ := GenSrcIit.index_eq_model srt hsrt es ml hn
  obtain ⟨R, r1, r2⟩ := GenSrcIit.findInto_after_indexCore (srt es) ml hml hl (hsrt es).2 es' h2 q res0
  refine ⟨es', _, R, h1, GenSrcIit.index_indexed srt es' _, r1, ?_⟩
  rw [r2]
  unfold expected
  exact (((hsrt es).1.map GenSrcIit.toCell).map (·.e)).filter _

-- the translated `index_core` on five cells (n not a power of two, stale `max` fields): new `max` fields and level
example : Gen.SrcIit.indexCore Iit.max3
    [((0 : Int), ((0 : Int), (2 : Int)), (0 : Int)), (1, (1, 3), 99), (2, (2, 3), 0), (3, (2, 4), -5), (4, (3, 50), 0)] 0
    = Rs.Res.ok ([(0, (0, 2), 2), (1, (1, 3), 3), (2, (2, 3), 3), (3, (2, 4), 50), (4, (3, 50), 50)], 2) := by
  decide +kernel

-- … and the translated `find_into` on the result, with a dirty buffer: the query [49, 50) meets only the last entry
example : Gen.SrcIit.findInto Iit.max3
    [((0 : Int), ((0 : Int), (2 : Int)), (2 : Int)), (1, (1, 3), 3), (2, (2, 3), 3), (3, (2, 4), 50), (4, (3, 50), 50)] 2 true
    (49, 50) [((7, 8), 9)] = Rs.Res.ok [((3, 50), 4)] := by decide +kernel
example : Gen.SrcIit.findInto Iit.max3
    [((0 : Int), ((0 : Int), (2 : Int)), (2 : Int)), (1, (1, 3), 3), (2, (2, 3), 3), (3, (2, 4), 50), (4, (3, 50), 50)] 2 true
    (2, 3) [] = Rs.Res.ok [((1, 3), 1), ((2, 3), 2), ((2, 4), 3)] := by decide +kernel

/-! ## The source text of the AVL tree (translated on every run, `Gen/SrcAvl.lean`)

`tools/rs2lean_genavl.py` (dialect "avl") turns `struct Node` into a recursive Lean structure and translates
`Node::{new, update_height, update_max, rotate_left, rotate_right, repair, insert}`, `swap_interval_data`,
`IntervalTree::{default, insert, find, find_mut}`, `intersect` and both `next` functions.  `GenSrcAvl.toTree` reads a
translated node as a tree of the mirror model.  `N`, `D` are read at `Int`; heights are `i64` with checked arithmetic. -/

open RbV.GenSrcAvl in
/-- **the in-place rotations of the source = the model's pointer rotations**, on the abstract tree (same shape, same
payload, `max` and `height` at every position): with stored heights of the three re-hung subtrees in `[0, B]`,
`B + 2 < 2^63`, `rotate_left` / `rotate_right` do not panic and yield `Avl.rotateLeft` / `Avl.rotateRight` of the tree;
without the child that moves up they panic (`unwrap()` on `None`; the model's `rotateLeftP` / `rotateRightP` is `none`) -/
theorem avl_rotate_source_eq_model (n : Gen.SrcAvl.Node) (B : Int) (hB : B + 2 < 2 ^ 63) (hl : HR B n.left)
    (hr : HR B n.right) (hrc : ∀ r, n.right = some r → HR B r.left ∧ HR B r.right)
    (hlc : ∀ l, n.left = some l → HR B l.left ∧ HR B l.right) :
    (match rotateLeftP (toTree n) with
      | some t => ∃ n', Gen.SrcAvl.rotateLeft n = Rs.Res.ok n' ∧ toTree n' = t ∧ t = rotateLeft (toTree n)
      | none => Gen.SrcAvl.rotateLeft n = Rs.Res.panic) ∧
    (match rotateRightP (toTree n) with
      | some t => ∃ n', Gen.SrcAvl.rotateRight n = Rs.Res.ok n' ∧ toTree n' = t ∧ t = rotateRight (toTree n)
      | none => Gen.SrcAvl.rotateRight n = Rs.Res.panic) :=
  ⟨rotateLeft_eq_model n B hB hl hrc, rotateRight_eq_model n B hB hr hlc⟩

open RbV.GenSrcAvl in
/-- **`repair` as written in the source = the model's `repair`**: on a node whose subtrees have exact `max` / `height`
fields and fewer than `2^60` nodes, the translated `repair` (balance test on `(left_h - right_h).abs()`, inner rotation
of the zig-zag cases through the `&mut` borrowed from the child slot, outer rotation) never panics — no `expect` on a
missing child, no `i64` overflow — and returns exactly `Avl.repair` of the tree -/
theorem avl_repair_source_eq_model (n : Gen.SrcAvl.Node) (fl : Fields (toTreeO n.left)) (fr : Fields (toTreeO n.right))
    (hs : size (toTree n) < 2 ^ 60) :
    ∃ n', Gen.SrcAvl.repair n = Rs.Res.ok n' ∧ toTree n' = repair (toTree n) :=
  repair_eq_model n fl fr hs

open RbV.GenSrcAvl in
/-- **`Node::insert` as written in the source = the model's insertion, for every tie-break test**: the condition of the
first `if` of `insert` is a hole `goLeft`; whenever it computes a tie-break `tb` of the model (`HoleIs`), the recursive
translated `insert` — on a tree with exact fields and balance, fewer than `2^60 - 1` nodes, fuel at least the height —
neither panics nor runs out of fuel and returns `Avl.insertG tb` of the tree -/
theorem avl_insert_source_eq_model (goLeft : (Int × Int) → Gen.SrcAvl.Node → Bool) (tb : TieBreak)
    (hh : HoleIs goLeft tb) (fuel : Nat) (n : Gen.SrcAvl.Node) (iv : Int × Int) (d : Int) (g : Good (toTree n))
    (hs : size (toTree n) + 1 < 2 ^ 60) (hf : ht (toTree n) ≤ fuel) :
    ∃ n', Gen.SrcAvl.nodeInsert goLeft fuel n iv d = Rs.Res.ok n' ∧
      toTree n' = insertG tb (toTree n) ⟨iv.1, iv.2, d⟩ :=
  nodeInsert_eq_model goLeft tb hh fuel n iv d g hs hf

open RbV.GenSrcAvl in
/-- the test found in the source is a tie-break of the model and is admissible: an interval that goes left does not start
after the visited node, one that goes right does not start before it (`TieOk`).  The statement is about the one test
generated from the present text (`start <= node.start`); the proof is written so that it also passes for the `<` of seeded
change C07-H1 (cf. `Avl.tieOk_lt`) -/
theorem avl_tiebreak_source_admissible : HoleIs Gen.SrcAvl.nodeInsert_goLeft srcTb ∧ TieOk srcTb :=
  ⟨holeIs_src, tieOk_src⟩

/-- the mirror model with **any admissible tie-break** keeps the whole invariant, the multiset and the height bound —
the proofs of `insert_inv`, `insert_perm`, `insert_height` do not depend on where equal starts go -/
theorem avl_model_any_tiebreak_accepted (tb : TieBreak) (htb : TieOk tb) (t : Tree) (e : Entry) (h : Inv t) :
    Inv (insertG tb t e) ∧ (toList (insertG tb t e)).Perm (e :: toList t) ∧
      realHeight t ≤ realHeight (insertG tb t e) ∧ realHeight (insertG tb t e) ≤ realHeight t + 1 :=
  ⟨insertG_inv tb htb t e h, toList_insertG_perm tb t e, insertG_height tb t e h⟩

/-- with a test that behaves like the one of the source (`start <= node.start`) the generalised model is the mirror model the
driver runs next to the real tree -/
theorem avl_model_pinned_tiebreak_is_insert (tb : TieBreak) (h : ∀ e x, tb e x = decide (e.lo ≤ x.lo)) (t : Tree)
    (e : Entry) : insertG tb t e = insert t e := by
  have : tb = tbLe := by funext a b; exact h a b
  rw [this, insertG_le]

open RbV.GenSrcAvl in
/-- **`IntervalTree::insert` as written in the source preserves the invariants**: on a tree that satisfies `Inv` (order,
`max`, `height`, balance) with fewer than `2^60 - 1` nodes and fuel at least the node count, the translated `insert`
with the tie-break found in the source does not panic, the new tree satisfies `Inv` again, holds exactly the old
entries plus the new one, and is at most one level higher -/
theorem avl_insert_source_preserves_invariants (fuel : Nat) (T : Gen.SrcAvl.IntervalTree) (iv : Int × Int) (d : Int)
    (h : Inv (toTreeO T.root)) (hs : size (toTreeO T.root) + 1 < 2 ^ 60) (hf : size (toTreeO T.root) ≤ fuel) :
    ∃ T', Gen.SrcAvl.treeInsert Gen.SrcAvl.nodeInsert_goLeft fuel T iv d = Rs.Res.ok T' ∧ Inv (toTreeO T'.root) ∧
      (toList (toTreeO T'.root)).Perm (⟨iv.1, iv.2, d⟩ :: toList (toTreeO T.root)) ∧
      realHeight (toTreeO T.root) ≤ realHeight (toTreeO T'.root) ∧
      realHeight (toTreeO T'.root) ≤ realHeight (toTreeO T.root) + 1 := by
  obtain ⟨T', h1, h2⟩ := treeInsert_eq_model _ srcTb holeIs_src fuel T iv d ((inv_iff _).mp h).2 hs hf
  refine ⟨T', h1, ?_⟩
  rw [h2]
  exact avl_model_any_tiebreak_accepted srcTb tieOk_src _ _ h

open RbV.GenSrcAvl in
/-- **`find` + `IntervalTreeIterator::next` as written in the source = the model's `find`**:
for any tree and `fuel > 2·nodes + 1` the iterator built by the translated `find` and drained by calling the translated
`next` until `None` never panics or runs out of fuel and yields exactly the model's result list, in the model's order;
the same for `find_mut` + `IntervalTreeIteratorMut::next` -/
theorem avl_find_source_eq_model (F : Nat) (T : Gen.SrcAvl.IntervalTree) (iv : Int × Int)
    (hF : 2 * size (toTreeO T.root) + 1 < F) :
    (∃ res, srcFind F T iv = Rs.Res.ok res ∧ res.map toE = find (toTreeO T.root) ⟨iv.1, iv.2⟩) ∧
    (∃ res, srcFindMut F T iv = Rs.Res.ok res ∧ res.map toEM = find (toTreeO T.root) ⟨iv.1, iv.2⟩) :=
  ⟨find_eq_model F T iv hF, findMut_eq_model F T iv hF⟩

open RbV.GenSrcAvl in
/-- one call of either `next` from any stack: `None` exactly when the model has nothing more to report, otherwise the
model's next entry and the stack from which the model continues -/
theorem avl_next_source_eq_model (iv : Int × Int) (F : Nat) (ns : List Gen.SrcAvl.Node) (hw : W ns < F) :
    (∃ r ns', Gen.SrcAvl.iterNext F ⟨ns, iv⟩ = Rs.Res.ok (r, ⟨ns', iv⟩) ∧ W ns' ≤ W ns ∧
      ((r = none ∧ findLoop (qOf iv) (stackOf ns) = []) ∨
        ∃ c, r = some ⟨c.value, c.interval⟩ ∧
          findLoop (qOf iv) (stackOf ns) = entryOf c :: findLoop (qOf iv) (stackOf ns'))) ∧
    (∃ r ns', Gen.SrcAvl.iterMutNext F ⟨ns, iv⟩ = Rs.Res.ok (r, ⟨ns', iv⟩) ∧ W ns' ≤ W ns ∧
      ((r = none ∧ findLoop (qOf iv) (stackOf ns) = []) ∨
        ∃ c, r = some ⟨c.value, c.interval⟩ ∧
          findLoop (qOf iv) (stackOf ns) = entryOf c :: findLoop (qOf iv) (stackOf ns'))) :=
  ⟨iterNext_eq_model iv F ns hw, iterMutNext_eq_model iv F ns hw⟩

open RbV.GenSrcAvl in
/-- **End to end on the source text**: take any history of fewer than `2^60` positive-width
insertions, run it through the translated `IntervalTree::default` and `insert` (tie-break as in the source), then query
with any positive-width interval through the translated `find` + `next`: nothing panics, the fuel (`2·n + 2`) suffices,
the tree satisfies the whole invariant, and the drained iterator holds exactly the inserted entries that overlap the
query (as a multiset) -/
theorem avl_find_source_correct (es : List (Int × Int × Int)) (q : Int × Int) (hn : es.length < 2 ^ 60)
    (hw : ∀ p ∈ es, p.1 < p.2.1) (hq : q.1 < q.2) (F : Nat) (hF : 2 * es.length + 1 < F) :
    ∃ T res, (Gen.SrcAvl.treeDefault >>= srcBuild Gen.SrcAvl.nodeInsert_goLeft F es) = Rs.Res.ok T ∧
      Inv (toTreeO T.root) ∧ srcFind F T q = Rs.Res.ok res ∧
      (res.map toE).Perm (expected (entriesOf es) ⟨q.1, q.2⟩) := by
  obtain ⟨T, h1, hi, hp, hsz, hperm⟩ := srcBuild_correct F es hn (by omega) hw
  obtain ⟨res, r1, r2⟩ := find_eq_model F T q (by omega)
  refine ⟨T, res, h1, hi, r1, ?_⟩
  rw [r2]
  exact (find_perm _ ⟨q.1, q.2⟩ hi.searchInv hp hq).trans (hperm.filter _)

open RbV.GenSrcAvl in
/-- the same answer through `find_mut` + `IntervalTreeIteratorMut::next` (the invariant clause is in
`avl_find_source_correct`) -/
theorem avl_find_mut_source_correct (es : List (Int × Int × Int)) (q : Int × Int) (hn : es.length < 2 ^ 60)
    (hw : ∀ p ∈ es, p.1 < p.2.1) (hq : q.1 < q.2) (F : Nat) (hF : 2 * es.length + 1 < F) :
    ∃ T res, (Gen.SrcAvl.treeDefault >>= srcBuild Gen.SrcAvl.nodeInsert_goLeft F es) = Rs.Res.ok T ∧
      srcFindMut F T q = Rs.Res.ok res ∧ (res.map toEM).Perm (expected (entriesOf es) ⟨q.1, q.2⟩) := by
  obtain ⟨T, h1, hi, hp, hsz, hperm⟩ := srcBuild_correct F es hn (by omega) hw
  obtain ⟨res, r1, r2⟩ := findMut_eq_model F T q (by omega)
  refine ⟨T, res, h1, r1, ?_⟩
  rw [r2]
  exact (find_perm _ ⟨q.1, q.2⟩ hi.searchInv hp hq).trans (hperm.filter _)

open RbV.GenSrcAvl in
-- non-vacuity: the translated code run on a concrete history (ascending starts: a left rotation at the root; then an
-- equal start) gives the tree of the model, and the drained translated iterator the model's answer
example : ((Gen.SrcAvl.treeDefault >>= srcBuild Gen.SrcAvl.nodeInsert_goLeft 9 [(1, 9, 0), (2, 3, 1), (3, 4, 2), (3, 8, 3)]).toOption.map
    (fun T => toTreeO T.root)) = some (buildG srcTb [⟨1, 9, 0⟩, ⟨2, 3, 1⟩, ⟨3, 4, 2⟩, ⟨3, 8, 3⟩]) := by decide +kernel

open RbV.GenSrcAvl in
example : ((Gen.SrcAvl.treeDefault >>= srcBuild Gen.SrcAvl.nodeInsert_goLeft 9 [(1, 9, 0), (2, 3, 1), (3, 4, 2), (3, 8, 3)] >>=
    fun T => srcFind 10 T (7, 9)).toOption.map (fun l => l.map toE)) = some [⟨1, 9, 0⟩, ⟨3, 8, 3⟩] ∨
    ((Gen.SrcAvl.treeDefault >>= srcBuild Gen.SrcAvl.nodeInsert_goLeft 9 [(1, 9, 0), (2, 3, 1), (3, 4, 2), (3, 8, 3)] >>=
    fun T => srcFind 10 T (7, 9)).toOption.map (fun l => l.map toE)) = some [⟨3, 8, 3⟩, ⟨1, 9, 0⟩] := by decide +kernel

open RbV.GenSrcAvl in
-- `rotate_left` without a right child panics (`unwrap()` on `None`); too little fuel is reported as such
example : (Gen.SrcAvl.rotateLeft ⟨(1, 2), 0, 2, 1, none, none⟩).toOption.isNone = true ∧
    (Gen.SrcAvl.nodeInsert Gen.SrcAvl.nodeInsert_goLeft 0 ⟨(1, 2), 0, 2, 1, none, none⟩ (3, 4) 1).toOption.isNone = true := by
  decide +kernel


end RbV.Thm.C07
