import RbV.Spec.RankSelect
import RbV.Lemmas.RankSelect
import RbV.Lemmas.RankSelectModel
import RbV.Lemmas.Wavelet
import RbV.Lemmas.Bytes8
import RbV.Gen.Dna2Int
import RbV.Thm.GenSrcRankSelect
import RbV.Thm.GenSrcWavelet
import RbV.Thm.GenSrcWaveletCompose
import RbV.Thm.GenSrcSelect
import RbV.Thm.GenSrcWaveletNew
import RbV.Thm.GenSrcSbRankOrd
/-!
# C17 — rank/select and wavelet-matrix queries equal naive counting

Sections: the driver's oracle (`rank_oracle` … `occ_oracle`, the `DNA2INT` table; lemmas in `RbV/Lemmas/RankSelect.lean`);
the mirror models `RbV/Model/RankSelect.lean`, `RbV/Model/Wavelet.lean` against the reference (`Lemmas/RankSelectModel.lean`,
`Lemmas/Wavelet.lean`, `Lemmas/Bytes8.lean`); then the translated source text: `rank_0/1` and `fn superblocks`
(`Thm/GenSrcRankSelect.lean`), `new` and `select_x/0/1` (`Thm/GenSrcSelect.lean`, `Lemmas/RankSelectSorted.lean`), the order of
`SuperblockRank` (`Thm/GenSrcSbRankOrd.lean`), the wavelet matrix and its composition with rank/select
(`Thm/GenSrcWavelet.lean`, `GenSrcWaveletNew.lean`, `GenSrcWaveletCompose.lean`).
Bit vectors are `List Bool`; `rank b bits i` counts the `b`-bits at positions `0..=i`; `IsSelect b bits j p` says
position `p` holds the `j`-th `b`-bit.  The driver's expected values are `prefixCounts` / `positions` look-ups.
-/
namespace RbV.Thm.C17
open RbV.Spec.RankSelect RbV.Lemmas.RankSelect

/-- the one-pass table the driver evaluates is `rank_1`/`rank_0` of the property, `None` exactly beyond the end -/
theorem rank_oracle (b : Bool) (bits : List Bool) (i : Nat) :
    (prefixCounts b bits 0)[i]? = rankRef b bits i := by
  rw [prefixCounts_getElem?]; unfold rankRef; simp

/-- `rank_0(i) = (i + 1) - rank_1(i)` -/
theorem rank0_add_rank1 (bits : List Bool) (i : Nat) (hi : i < bits.length) :
    rank true bits i + rank false bits i = i + 1 :=
  RbV.Lemmas.RankSelectModel.cnt_true_add_false bits (i + 1) hi

/-- the driver's `select` answer is the position of the `j`-th `b`-bit, for every `j` (so `j = 0` has none) -/
theorem select_oracle_iff (b : Bool) (bits : List Bool) (j p : Nat) :
    selectRef b bits j = some p ↔ IsSelect b bits j p :=
  RbV.Lemmas.RankSelect.selectRef_some_iff b bits j p

/-- `None` exactly for `j = 0` or `j` larger than the number of `b`-bits -/
theorem select_none_iff (b : Bool) (bits : List Bool) (j : Nat) :
    selectRef b bits j = none ↔ j = 0 ∨ bits.count b < j :=
  RbV.Lemmas.RankSelect.selectRef_none_iff b bits j

/-- the position of the `j`-th `b`-bit is unique -/
theorem select_unique (b : Bool) (bits : List Bool) (j p p' : Nat)
    (h : IsSelect b bits j p) (h' : IsSelect b bits j p') : p = p' := by
  have h1 := (select_oracle_iff b bits j p).mpr h
  have h2 := (select_oracle_iff b bits j p').mpr h'
  rw [h1] at h2; exact Option.some.inj h2

/-- rank and select are mutually inverse: `rank(select(j)) = j` … -/
theorem rank_select_inverse (b : Bool) (bits : List Bool) (j p : Nat)
    (h : selectRef b bits j = some p) : rankRef b bits p = some j := by
  have ⟨h1, h2⟩ := (select_oracle_iff b bits j p).mp h
  unfold rankRef
  have : p < bits.length := by
    have := List.getElem?_eq_some_iff.mp h1; exact this.1
  simp [this, h2]

/-- … and `select(rank(p)) = p` at every position holding a `b`-bit -/
theorem select_rank_inverse (b : Bool) (bits : List Bool) (p : Nat) (h : bits[p]? = some b) :
    selectRef b bits (rank b bits p) = some p :=
  (select_oracle_iff b bits _ p).mpr ⟨h, rfl⟩

/-- wavelet matrix: the driver's expected `rank(c, p)` is the number of occurrences of `c` in `text[0..=p]` -/
theorem occ_oracle (text : List Nat) (c p : Nat) (hp : p < text.length) :
    (prefixCounts true (text.map (· == c)) 0)[p]? = some (occ text c p) := by
  rw [prefixCounts_getElem?]
  simp only [List.length_map, hp, if_true, Nat.zero_add, Option.some.injEq]
  unfold rank occ
  rw [← List.map_take]
  generalize text.take (p + 1) = l
  induction l with
  | nil => rfl
  | cons x xs ih =>
    simp only [List.map_cons, List.count_cons, ih]
    by_cases hx : x = c <;> simp [hx]

example : selectRef true [false, true, true, false, true] 3 = some 4 := by decide +kernel
example : rankRef false [false, true, true, false, true] 3 = some 2 := by decide +kernel
example : rankRef false [false, true] 2 = none := by decide +kernel
example : IsSelect true [false, true, true] 2 2 := ⟨rfl, rfl⟩
example : occ [65, 67, 65, 36] 65 2 = 2 := by decide +kernel

/-- the literal copy `dna2intLit` of the symbol-code table (the driver compares the extracted table with it only to report
"drift") passes the check the driver applies to the printed table -/
theorem dna2int_literal_ok : tableOk dna2intLit = true := by decide +kernel

/-- **source-extracted obligation** (DESIGN §8): the `DNA2INT` table extracted from `wavelet_matrix.rs` on *this* run
(`RbV/Gen/Dna2Int.lean`, rewritten by tools/gen_tables.py before `lake build`) passes the same check — the codes of
A, C, G, T, N, $ are pairwise distinct and below 8.  The driver runs the mirror model over this table. -/
theorem dna2int_generated_ok : tableOk Gen.Dna2Int.table = true := by decide +kernel

/-- the extracted number of levels (`let height: usize = 3` in `WaveletMatrix::new`) is the 3 the mirror model
`Model.Wavelet.build` is written for, and every code of the six symbols fits into that many bits -/
theorem dna2int_codes_fit_height :
    Gen.Dna2Int.height = 3 ∧ ∀ a ∈ dnaSyms, Gen.Dna2Int.table.getD a 0 < 2 ^ Gen.Dna2Int.height := by decide +kernel

/-- what the check `tableOk` means: 128 entries, the codes of A, C, G, T, N, $ below 8 (three bit levels) and pairwise
distinct -/
theorem tableOk_sound (t : List Nat) (h : tableOk t = true) :
    t.length = 128 ∧ (∀ a ∈ dnaSyms, t.getD a 0 < 8) ∧
    (∀ a ∈ dnaSyms, ∀ b ∈ dnaSyms, t.getD a 0 = t.getD b 0 → a = b) := by
  unfold tableOk at h
  simp only [Bool.and_eq_true, List.all_eq_true, beq_iff_eq, decide_eq_true_eq, Bool.or_eq_true,
    bne_iff_ne, ne_eq] at h
  refine ⟨h.1.1, h.1.2, ?_⟩
  intro a ha b hb hab
  rcases h.2 a ha b hb with h' | h'
  · exact h'
  · exact absurd hab h'

/-! ## Mirror models of the Rust algorithms (`RbV/Model/RankSelect.lean`, `RbV/Model/Wavelet.lean`) -/
section models
open RbV.Model.RankSelect

/-- the driver reads blocks from the array `chunks bits`; that is `get_block` at every index -/
theorem chunks_getD (bits : List Bool) (b : Nat) : (chunks bits).getD b [] = getBlock bits b := by
  unfold chunks
  rw [List.getD_eq_getElem?_getD, List.getElem?_map]
  by_cases hb : b < (bits.length + 7) / 8
  · simp [List.getElem?_range hb]
  · have : (List.range ((bits.length + 7) / 8))[b]? = none := by
      rw [List.getElem?_eq_none_iff]; simp; omega
    simp only [this, Option.map_none, Option.getD_none]
    unfold getBlock
    rw [List.drop_eq_nil_of_le (by omega)]; rfl

/-- the model's blocks are lists of at most 8 bits; these are exactly the `u8` operations of the code on the byte
`get_block` returns: `count_ones`, `count_zeros` (padding counted), `(b & ((2u16 << j) - 1) as u8).count_ones()`
and the bit test `b & (1 << i) != 0` -/
theorem block_ops_are_byte_ops (blk : List Bool) (h : blk.length ≤ 8) :
    RbV.Lemmas.Bytes8.popcount8 (RbV.Lemmas.Bytes8.byteOf blk) = countOnes blk ∧
    8 - RbV.Lemmas.Bytes8.popcount8 (RbV.Lemmas.Bytes8.byteOf blk) = countZeros blk ∧
    (∀ j, j < 8 → RbV.Lemmas.Bytes8.popcount8 (RbV.Lemmas.Bytes8.byteOf blk &&& RbV.Lemmas.Bytes8.rankMask j)
      = countOnes (blk.take (j + 1))) ∧
    (∀ i, i < 8 → ((RbV.Lemmas.Bytes8.byteOf blk &&& (1 <<< i)) != 0) = blk.getD i false) :=
  ⟨RbV.Lemmas.Bytes8.popcount8_byteOf blk h, RbV.Lemmas.Bytes8.countZeros_byteOf blk h,
   fun j hj => RbV.Lemmas.Bytes8.popcount8_masked blk j hj, fun i _ => RbV.Lemmas.Bytes8.bit_test blk i⟩

/-- [A] `superblocks`: entry `m` is the number of `t`-bits before bit `m·32k` (for the 0-table the zero padding of
the last byte never enters an entry) -/
theorem superblocks_correct (t : Bool) (bits : List Bool) (k : Nat) (hk : 1 ≤ k) (m : Nat)
    (hm : m * (k * 32) < bits.length) :
    ((superblocks t bits.length (k * 32) (getBlock bits)).getD m (.first 0)).val
      = (bits.take (m * (k * 32))).count t :=
  RbV.Lemmas.RankSelectModel.superblocks_val t bits _ (RbV.Lemmas.RankSelectModel.eight_dvd k) (by omega) m hm

/-- [A] `rank_correct`: the model of `rank_1` (superblock + whole bytes + masked byte) equals the reference for every
bit vector, every superblock factor `k ≥ 1` and every `i` (`None` exactly for `i ≥ n`) -/
theorem rank_correct (bits : List Bool) (k : Nat) (hk : 1 ≤ k) (i : Nat) :
    rank1 bits.length (k * 32) (getBlock bits) (superblocks true bits.length (k * 32) (getBlock bits)) i
      = rankRef true bits i ∧
    rank0 bits.length (k * 32) (getBlock bits) (superblocks true bits.length (k * 32) (getBlock bits)) i
      = rankRef false bits i :=
  ⟨RbV.Lemmas.RankSelectModel.rank1_correct bits k hk i, RbV.Lemmas.RankSelectModel.rank0_correct bits k hk i⟩

/-- [B] `select_correct`: the model of `select_x` (search over the superblocks, byte scan, bit scan that ignores the
padding) equals the reference for both polarities, every non-empty bit vector, every `k ≥ 1`, every `j` -/
theorem select_correct (b : Bool) (bits : List Bool) (k : Nat) (hk : 1 ≤ k) (hn : bits ≠ []) (j : Nat) :
    selectX bits.length (k * 32) (getBlock bits) (superblocks b bits.length (k * 32) (getBlock bits)) b j
      = selectRef b bits j :=
  RbV.Lemmas.RankSelectModel.select_correct b bits k hk hn j

/-- [B] on the *model*, polarity 1: whenever `select_1(j)` answers `Some(p)`, `rank_1(p)` answers `Some(j)` (this direction only;
the converse on the reference functions is `select_rank_inverse`) -/
theorem model_rank_select_inverse (bits : List Bool) (k : Nat) (hk : 1 ≤ k) (hn : bits ≠ []) (j p : Nat)
    (h : selectX bits.length (k * 32) (getBlock bits) (superblocks true bits.length (k * 32) (getBlock bits)) true j
      = some p) :
    rank1 bits.length (k * 32) (getBlock bits) (superblocks true bits.length (k * 32) (getBlock bits)) p = some j := by
  rw [select_correct true bits k hk hn j] at h
  rw [(rank_correct bits k hk p).1]
  exact rank_select_inverse true bits j p h

/-- [C] wavelet matrix: for any code table that passes the driver's check (`tableOk`: codes of A,C,G,T,N,$ below 8 and
pairwise distinct — `dna2int_literal_ok` for the literal copy `dna2intLit`), any text over these six symbols, any such symbol `c`
and any `p < |text|`, the three-level model returns the number of occurrences of `c` in `text[0..=p]` -/
theorem wavelet_rank_correct (t : List Nat) (ht : tableOk t = true) (text : List Nat) (c p : Nat)
    (hp : p < text.length) (hc : c ∈ dnaSyms) (htext : ∀ x ∈ text, x ∈ dnaSyms) :
    RbV.Model.Wavelet.rank (fun v => t.getD v 0)
        (RbV.Model.Wavelet.rkSpec (RbV.Model.Wavelet.build (fun v => t.getD v 0) text))
        (RbV.Model.Wavelet.build (fun v => t.getD v 0) text) c p
      = occ text c p := by
  obtain ⟨_, hlt, hinj⟩ := tableOk_sound t ht
  exact RbV.Lemmas.Wavelet.rank_eq_occ _ text c p hp (hlt c hc) (fun x hx => hlt x (htext x hx))
    (fun x hx hxc => hinj x (htext x hx) c hc hxc)

/-- [C] instantiated with the table extracted from the source on this run: no hypothesis about the table is left -/
theorem wavelet_rank_correct_generated (text : List Nat) (c p : Nat)
    (hp : p < text.length) (hc : c ∈ dnaSyms) (htext : ∀ x ∈ text, x ∈ dnaSyms) :
    RbV.Model.Wavelet.rank (fun v => Gen.Dna2Int.table.getD v 0)
        (RbV.Model.Wavelet.rkSpec (RbV.Model.Wavelet.build (fun v => Gen.Dna2Int.table.getD v 0) text))
        (RbV.Model.Wavelet.build (fun v => Gen.Dna2Int.table.getD v 0) text) c p
      = occ text c p :=
  wavelet_rank_correct Gen.Dna2Int.table dna2int_generated_ok text c p hp hc htext

-- non-vacuity: a 40-bit vector (two superblocks for k = 1, a one at bit 33, a zero run in front)
def exBits : List Bool := List.replicate 33 false ++ [true, false, true, true, false, false, true]
example : rank1 40 32 (getBlock exBits) (superblocks true 40 32 (getBlock exBits)) 36 = some 3 := by decide +kernel
example : selectX 40 32 (getBlock exBits) (superblocks true 40 32 (getBlock exBits)) true 4 = some 39 := by decide +kernel
example : selectX 40 32 (getBlock exBits) (superblocks false 40 32 (getBlock exBits)) false 37 = none := by decide +kernel
example : RbV.Model.Wavelet.rank (fun v => Gen.Dna2Int.table.getD v 0)
    (RbV.Model.Wavelet.rkSpec (RbV.Model.Wavelet.build (fun v => Gen.Dna2Int.table.getD v 0) [65, 67, 78, 36, 78, 65]))
    (RbV.Model.Wavelet.build (fun v => Gen.Dna2Int.table.getD v 0) [65, 67, 78, 36, 78, 65]) 78 4 = 2 := by decide +kernel

end models

/-! ## rank/select: function bodies translated from the source text (docs/notes/GEN.md)

`RbV/Gen/SrcRankSelect.lean` is regenerated from `src/data_structures/rank_select.rs` on every `./check C17`:
`fn superblocks`, `RankSelect::rank_1`, `RankSelect::rank_0`.  External to rust-bio and therefore *assumed*: the `bv` crate
(`bits.len()` = number of bits, `bits.get_block(b)` = the byte `blockByte bits b` whose bit `k` is bit `8b+k` of the vector,
zero beyond the end), `u8::count_ones/count_zeros` (`Rs.countOnes`, `Rs.countZeros 8`) and the `f64` ceiling
`(len as f64 / 8.0).ceil()` (`CeilOk cd8 len`: it is `⌈len / 8⌉`).  Proofs: `RbV/Thm/GenSrcRankSelect.lean`. -/
section rankselect_source
open RbV.Model.RankSelect RbV.Thm.GenSrcRankSelect

/-- **`fn superblocks`, as written, is the model's `superblocks`** (both polarities, every `s > 0`) -/
theorem superblocks_source_eq_model (bl : List Bool → Nat) (cd8 : Nat → Nat) (t : Bool) (bits : List Bool) (s : Nat)
    (hs : 0 < s) (hn : bits.length < 2 ^ 60) (hcd : CeilOk cd8 bits.length) :
    Gen.SrcRankSelect.superblocks (σ := SbRank) blockByte List.length bl cd8 SbRank.first SbRank.some SbRank.val
        t bits.length s bits
      = Rs.Res.ok (superblocks t bits.length s (getBlock bits)) :=
  superblocks_eq_model bl cd8 t bits s hs hn hcd

/-- **`RankSelect::rank_1`, as written, is the model's `rank1`** for every superblock size `s > 0`, every table `sbs1` that
covers `i` (`hsb`) and whose entry cannot overflow the running `u64` rank (`hbound`) -/
theorem rank1_source_eq_model (bl : List Bool → Nat) (cd8 : Nat → Nat) (bits : List Bool) (n s k : Nat)
    (sbs1 sbs0 : List SbRank) (i : Nat) (hs : 0 < s) (hsb : i < n → i / s < sbs1.length)
    (hbound : i < n → (sbs1.getD (i / s) (.first 0)).val + i + 8 < 2 ^ 64) :
    Gen.SrcRankSelect.rank1 (σ := SbRank) blockByte List.length bl cd8 SbRank.first SbRank.some SbRank.val
        n bits sbs1 sbs0 s k i
      = Rs.Res.ok (rank1 n s (getBlock bits) sbs1 i) :=
  rank1_eq_model bl cd8 bits n s k sbs1 sbs0 i hs hsb hbound

/-- **`RankSelect::rank_0`, as written** (`self.rank_1(i).map(|r| (i + 1) - r)`) **is the model's `rank0`**, under the hypotheses
of `rank1_source_eq_model` and `rank_1(i) ≤ i + 1` (`hle`: the subtraction does not underflow) -/
theorem rank0_source_eq_model (bl : List Bool → Nat) (cd8 : Nat → Nat) (bits : List Bool) (n s k : Nat)
    (sbs1 sbs0 : List SbRank) (i : Nat) (hs : 0 < s) (hsb : i < n → i / s < sbs1.length)
    (hbound : i < n → (sbs1.getD (i / s) (.first 0)).val + i + 8 < 2 ^ 64)
    (hle : ∀ r, rank1 n s (getBlock bits) sbs1 i = some r → r ≤ i + 1) :
    Gen.SrcRankSelect.rank0 (σ := SbRank) blockByte List.length bl cd8 SbRank.first SbRank.some SbRank.val
        n bits sbs1 sbs0 s k i
      = Rs.Res.ok (rank0 n s (getBlock bits) sbs1 i) :=
  rank0_eq_model bl cd8 bits n s k sbs1 sbs0 i hs hsb hbound hle

/-- **generated code = specification**: the translated `superblocks` followed by the translated `rank_1` / `rank_0` return
the number of 1-bits / 0-bits among positions `0..=i` (`None` exactly for `i ≥ n`), for every bit vector of fewer than 2^60
bits, every `k ≥ 1`, every `i`; no operation panics -/
theorem rank_source_exact_on_superblocks (bl : List Bool → Nat) (cd8 : Nat → Nat) (bits : List Bool) (k : Nat) (hk : 1 ≤ k)
    (hn : bits.length < 2 ^ 60) (hcd : CeilOk cd8 bits.length) (sbs0 : List SbRank) (i : Nat) :
    ∃ sbs1, Gen.SrcRankSelect.superblocks (σ := SbRank) blockByte List.length bl cd8
          SbRank.first SbRank.some SbRank.val true bits.length (k * 32) bits = Rs.Res.ok sbs1 ∧
      Gen.SrcRankSelect.rank1 (σ := SbRank) blockByte List.length bl cd8 SbRank.first SbRank.some SbRank.val
          bits.length bits sbs1 sbs0 (k * 32) k i = Rs.Res.ok (rankRef true bits i) ∧
      Gen.SrcRankSelect.rank0 (σ := SbRank) blockByte List.length bl cd8 SbRank.first SbRank.some SbRank.val
          bits.length bits sbs1 sbs0 (k * 32) k i = Rs.Res.ok (rankRef false bits i) :=
  GenSrcRankSelect.rank_source_exact bl cd8 bits k hk hn hcd sbs0 i

-- non-vacuity on the 40-bit vector `exBits` (two superblocks for k = 1): the translated functions, evaluated
example : Gen.SrcRankSelect.superblocks (σ := SbRank) blockByte List.length (fun _ => 5) (fun x => (x + 7) / 8)
    SbRank.first SbRank.some SbRank.val true 40 32 exBits = Rs.Res.ok [SbRank.first 0, SbRank.some 0] := by decide +kernel
example : Gen.SrcRankSelect.rank1 (σ := SbRank) blockByte List.length (fun _ => 5) (fun x => (x + 7) / 8)
    SbRank.first SbRank.some SbRank.val 40 exBits [SbRank.first 0, SbRank.some 0] [] 32 1 36 = Rs.Res.ok (some 3) := by
  decide +kernel
example : Gen.SrcRankSelect.rank0 (σ := SbRank) blockByte List.length (fun _ => 5) (fun x => (x + 7) / 8)
    SbRank.first SbRank.some SbRank.val 40 exBits [SbRank.first 0, SbRank.some 0] [] 32 1 40 = Rs.Res.ok none := by
  decide +kernel
-- superblock size 0: `n / s` in the capacity computation panics (division by zero)
example : Gen.SrcRankSelect.superblocks (σ := SbRank) blockByte List.length (fun _ => 5) (fun x => (x + 7) / 8)
    SbRank.first SbRank.some SbRank.val true 40 0 exBits = Rs.Res.panic := by decide +kernel

end rankselect_source

/-! ## the constructor and select, translated from the source text (docs/notes/GEN.md, C17.md)

`RankSelect::new`, `select_x`, `select_1`, `select_0` are part of `RbV/Gen/SrcRankSelect.lean`.  Additionally *assumed*
(external to rust-bio): `self.bits.block_len()` = `⌈len / 8⌉` (bv crate; hypothesis `hbl`), and the documented contract of
`<[T]>::binary_search` (`BSearchOk`: on a slice sorted by `Ord`, `Ok(i)` is the index of a matching element, `Err(i)` the
insertion point) for the order `SbRank.lt` — the mirror of `impl Ord for SuperblockRank`, proved equal to the translated `Ord::cmp` in the
section on the order of `SuperblockRank` below.
Proofs: `RbV/Thm/GenSrcSelect.lean`, `RbV/Lemmas/RankSelectSorted.lean`. -/
section select_source
open RbV.Model.RankSelect RbV.Thm.GenSrcRankSelect RbV.Thm.GenSrcSelect RbV.Lemmas.RankSelectSorted

/-- **`RankSelect::new`, as written, builds the model's structure** (`n`, the bits, both tables of `fn superblocks`, `s = 32k`, `k`),
for every bit vector of fewer than 2^60 bits and every `k ≥ 1` with `32·k < 2^64` (`let s = k * 32` panics otherwise) -/
theorem rankselect_new_source_eq_model (bl : List Bool → Nat) (cd8 : Nat → Nat) (bits : List Bool) (k : Nat) (hk : 1 ≤ k)
    (hks : k * 32 < 2 ^ 64) (hlen : bits.length < 2 ^ 60) (hcd : CeilOk cd8 bits.length) :
    Gen.SrcRankSelect.new (σ := SbRank) blockByte List.length bl cd8 SbRank.first SbRank.some SbRank.val bits k
      = Rs.Res.ok (bits.length, bits, superblocks true bits.length (k * 32) (getBlock bits),
          superblocks false bits.length (k * 32) (getBlock bits), k * 32, k) :=
  new_eq_model bl cd8 bits k hk hks hlen hcd

/-- **the table `fn superblocks` builds is sorted** w.r.t. the order of `SuperblockRank`, so the precondition of
`binary_search` holds at the call in `select_x` -/
theorem superblocks_table_sorted (t : Bool) (bits : List Bool) (k : Nat) (hk : 1 ≤ k) (a b : Nat) (hab : a < b)
    (hb : b < (superblocks t bits.length (k * 32) (getBlock bits)).length) :
    SbRank.lt ((superblocks t bits.length (k * 32) (getBlock bits))[b])
      ((superblocks t bits.length (k * 32) (getBlock bits))[a]'(by omega)) = false :=
  superblocks_sorted t bits _ (RbV.Lemmas.RankSelectModel.eight_dvd k) (by omega) a b hab hb

/-- the assumed contract of `binary_search` is satisfiable: the linear search of the mirror model (`searchIdx`) has it -/
theorem binary_search_contract_satisfiable : BSearchOk SbRank.lt searchIdx := searchIdx_ok

/-- **`RankSelect::select_x`, as written, is the model's `selectX`** for both polarities: binary search (any function with
the documented contract), block scan, bit scan with the early `return`, padding bits skipped -/
theorem select_source_eq_model (bl : List Bool → Nat) (cd8 : Nat → Nat) (bs : List SbRank → SbRank → Nat)
    (isMatch : Nat → Bool) (countAll : Nat → Nat) (b : Bool) (bits : List Bool) (k : Nat) (hk : 1 ≤ k)
    (hks : k * 32 < 2 ^ 64) (hn : bits ≠ []) (hlen : bits.length < 2 ^ 60) (hbl : bl bits = (bits.length + 7) / 8)
    (hbs : BSearchOk SbRank.lt bs) (hcl : ClosuresOk b bits isMatch countAll) (sbs1 sbs0 : List SbRank) (j : Nat) :
    Gen.SrcRankSelect.selectX (σ := SbRank) blockByte List.length bl cd8 SbRank.first SbRank.some SbRank.val bs isMatch
        countAll bits.length bits sbs1 sbs0 (k * 32) k j (superblocks b bits.length (k * 32) (getBlock bits))
      = Rs.Res.ok (selectX bits.length (k * 32) (getBlock bits) (superblocks b bits.length (k * 32) (getBlock bits)) b j) :=
  selectX_eq_model bl cd8 bs isMatch countAll b bits k hk hks hn hlen hbl hbs hcl sbs1 sbs0 j

/-- **`select_1` / `select_0`, as written** (the closures they pass and the table they pick) **are the model's `selectX`**
with polarity 1 on the 1-table resp. polarity 0 on the 0-table -/
theorem select_wrappers_source_eq_model (bl : List Bool → Nat) (cd8 : Nat → Nat) (bs : List SbRank → SbRank → Nat)
    (bits : List Bool) (k : Nat) (hk : 1 ≤ k) (hks : k * 32 < 2 ^ 64) (hn : bits ≠ []) (hlen : bits.length < 2 ^ 60)
    (hbl : bl bits = (bits.length + 7) / 8) (hbs : BSearchOk SbRank.lt bs) (j : Nat) :
    Gen.SrcRankSelect.select1 (σ := SbRank) blockByte List.length bl cd8 SbRank.first SbRank.some SbRank.val bs
        bits.length bits (superblocks true bits.length (k * 32) (getBlock bits))
        (superblocks false bits.length (k * 32) (getBlock bits)) (k * 32) k j
      = Rs.Res.ok (selectX bits.length (k * 32) (getBlock bits) (superblocks true bits.length (k * 32) (getBlock bits)) true j) ∧
    Gen.SrcRankSelect.select0 (σ := SbRank) blockByte List.length bl cd8 SbRank.first SbRank.some SbRank.val bs
        bits.length bits (superblocks true bits.length (k * 32) (getBlock bits))
        (superblocks false bits.length (k * 32) (getBlock bits)) (k * 32) k j
      = Rs.Res.ok (selectX bits.length (k * 32) (getBlock bits) (superblocks false bits.length (k * 32) (getBlock bits)) false j) :=
  ⟨select1_eq_model bl cd8 bs bits k hk hks hn hlen hbl hbs _ j, select0_eq_model bl cd8 bs bits k hk hks hn hlen hbl hbs _ j⟩

/-- **`select` exact, from the translated constructor**: `RankSelect::new(bits, k)` as written, then `select_1(j)` /
`select_0(j)` as written on the struct it returns, give `selectRef` — the position of the `j`-th 1-bit / 0-bit, `None` for
`j = 0` and beyond the count — for every non-empty bit vector of fewer than 2^60 bits, every `k ≥ 1` with
`32·k < 2^64`, every `j`; nothing panics.  No model-side constructor in the statement. -/
theorem select_source_exact (bl : List Bool → Nat) (cd8 : Nat → Nat) (bs : List SbRank → SbRank → Nat)
    (bits : List Bool) (k : Nat) (hk : 1 ≤ k) (hks : k * 32 < 2 ^ 64) (hn : bits ≠ []) (hlen : bits.length < 2 ^ 60)
    (hcd : CeilOk cd8 bits.length) (hbl : bl bits = (bits.length + 7) / 8) (hbs : BSearchOk SbRank.lt bs) (j : Nat) :
    ∃ n bits' sbs1 sbs0 s k',
      Gen.SrcRankSelect.new (σ := SbRank) blockByte List.length bl cd8 SbRank.first SbRank.some SbRank.val bits k
        = Rs.Res.ok (n, bits', sbs1, sbs0, s, k') ∧
      Gen.SrcRankSelect.select1 (σ := SbRank) blockByte List.length bl cd8 SbRank.first SbRank.some SbRank.val bs
        n bits' sbs1 sbs0 s k' j = Rs.Res.ok (selectRef true bits j) ∧
      Gen.SrcRankSelect.select0 (σ := SbRank) blockByte List.length bl cd8 SbRank.first SbRank.some SbRank.val bs
        n bits' sbs1 sbs0 s k' j = Rs.Res.ok (selectRef false bits j) := by
  obtain ⟨h1, h0⟩ := select_wrappers_source_eq_model bl cd8 bs bits k hk hks hn hlen hbl hbs j
  rw [RbV.Lemmas.RankSelectModel.select_correct true bits k hk hn j] at h1
  rw [RbV.Lemmas.RankSelectModel.select_correct false bits k hk hn j] at h0
  exact ⟨_, _, _, _, _, _, new_eq_model bl cd8 bits k hk hks hlen hcd, h1, h0⟩

/-- **`rank` exact, from the translated constructor** (`rank_source_exact_on_superblocks` is the same from the table of
`fn superblocks` alone): `RankSelect::new(bits, k)` as written, then `rank_1(i)` /
`rank_0(i)` as written on the struct it returns = the number of 1-bits / 0-bits among positions `0..=i`, `None` beyond the end — for
every bit vector of fewer than 2^60 bits, every `k ≥ 1` with `32·k < 2^64`, every `i` -/
theorem rank_source_exact (bl : List Bool → Nat) (cd8 : Nat → Nat) (bits : List Bool) (k : Nat) (hk : 1 ≤ k)
    (hks : k * 32 < 2 ^ 64) (hlen : bits.length < 2 ^ 60) (hcd : CeilOk cd8 bits.length) (i : Nat) :
    ∃ n bits' sbs1 sbs0 s k',
      Gen.SrcRankSelect.new (σ := SbRank) blockByte List.length bl cd8 SbRank.first SbRank.some SbRank.val bits k
        = Rs.Res.ok (n, bits', sbs1, sbs0, s, k') ∧
      Gen.SrcRankSelect.rank1 (σ := SbRank) blockByte List.length bl cd8 SbRank.first SbRank.some SbRank.val
        n bits' sbs1 sbs0 s k' i = Rs.Res.ok (rankRef true bits i) ∧
      Gen.SrcRankSelect.rank0 (σ := SbRank) blockByte List.length bl cd8 SbRank.first SbRank.some SbRank.val
        n bits' sbs1 sbs0 s k' i = Rs.Res.ok (rankRef false bits i) :=
  ⟨_, _, _, _, _, _, new_eq_model bl cd8 bits k hk hks hlen hcd, rank_on_superblocks bl cd8 bits k hk hlen _ i⟩

/-- **`rank(select(j)) = j` on the translated code** (this direction only): on the struct the translated `new` returns, whenever
the translated `select_b(j)` answers `Some(p)` the translated `rank_b(p)` answers `Some(j)` (both polarities; hypotheses as in
`select_source_exact`) -/
theorem rank_select_source_inverse (bl : List Bool → Nat) (cd8 : Nat → Nat) (bs : List SbRank → SbRank → Nat)
    (bits : List Bool) (k : Nat) (hk : 1 ≤ k) (hks : k * 32 < 2 ^ 64) (hn : bits ≠ []) (hlen : bits.length < 2 ^ 60)
    (hcd : CeilOk cd8 bits.length) (hbl : bl bits = (bits.length + 7) / 8) (hbs : BSearchOk SbRank.lt bs) (j p : Nat) :
    ∃ n bits' sbs1 sbs0 s k',
      Gen.SrcRankSelect.new (σ := SbRank) blockByte List.length bl cd8 SbRank.first SbRank.some SbRank.val bits k
        = Rs.Res.ok (n, bits', sbs1, sbs0, s, k') ∧
      (Gen.SrcRankSelect.select1 (σ := SbRank) blockByte List.length bl cd8 SbRank.first SbRank.some SbRank.val bs
          n bits' sbs1 sbs0 s k' j = Rs.Res.ok (some p) →
        Gen.SrcRankSelect.rank1 (σ := SbRank) blockByte List.length bl cd8 SbRank.first SbRank.some SbRank.val
          n bits' sbs1 sbs0 s k' p = Rs.Res.ok (some j)) ∧
      (Gen.SrcRankSelect.select0 (σ := SbRank) blockByte List.length bl cd8 SbRank.first SbRank.some SbRank.val bs
          n bits' sbs1 sbs0 s k' j = Rs.Res.ok (some p) →
        Gen.SrcRankSelect.rank0 (σ := SbRank) blockByte List.length bl cd8 SbRank.first SbRank.some SbRank.val
          n bits' sbs1 sbs0 s k' p = Rs.Res.ok (some j)) := by
  obtain ⟨h1, h0⟩ := select_wrappers_source_eq_model bl cd8 bs bits k hk hks hn hlen hbl hbs j
  rw [RbV.Lemmas.RankSelectModel.select_correct true bits k hk hn j] at h1
  rw [RbV.Lemmas.RankSelectModel.select_correct false bits k hk hn j] at h0
  obtain ⟨r1, r0⟩ := rank_on_superblocks bl cd8 bits k hk hlen (superblocks false bits.length (k * 32) (getBlock bits)) p
  refine ⟨_, _, _, _, _, _, new_eq_model bl cd8 bits k hk hks hlen hcd, ?_, ?_⟩
  · intro h
    rw [h1] at h
    rw [r1, rank_select_inverse true bits j p (Rs.Res.ok.inj h)]
  · intro h
    rw [h0] at h
    rw [r0, rank_select_inverse false bits j p (Rs.Res.ok.inj h)]

-- non-vacuity on the 40-bit vector `exBits` (k = 1): the translated functions, evaluated; `searchIdx` plays `binary_search`
example : Gen.SrcRankSelect.new (σ := SbRank) blockByte List.length (fun b => (b.length + 7) / 8) (fun x => (x + 7) / 8)
    SbRank.first SbRank.some SbRank.val exBits 1
    = Rs.Res.ok (40, exBits, [SbRank.first 0, SbRank.some 0], [SbRank.first 0, SbRank.first 32], 32, 1) := by decide +kernel
example : Gen.SrcRankSelect.select1 (σ := SbRank) blockByte List.length (fun b => (b.length + 7) / 8) (fun x => (x + 7) / 8)
    SbRank.first SbRank.some SbRank.val searchIdx 40 exBits [SbRank.first 0, SbRank.some 0]
    [SbRank.first 0, SbRank.first 32] 32 1 4 = Rs.Res.ok (some 39) := by decide +kernel
example : Gen.SrcRankSelect.select0 (σ := SbRank) blockByte List.length (fun b => (b.length + 7) / 8) (fun x => (x + 7) / 8)
    SbRank.first SbRank.some SbRank.val searchIdx 40 exBits [SbRank.first 0, SbRank.some 0]
    [SbRank.first 0, SbRank.first 32] 32 1 37 = Rs.Res.ok none := by decide +kernel
example : Gen.SrcRankSelect.select0 (σ := SbRank) blockByte List.length (fun b => (b.length + 7) / 8) (fun x => (x + 7) / 8)
    SbRank.first SbRank.some SbRank.val searchIdx 40 exBits [SbRank.first 0, SbRank.some 0]
    [SbRank.first 0, SbRank.first 32] 32 1 34 = Rs.Res.ok (some 34) := by decide +kernel

end select_source

/-! ## the order of `SuperblockRank`, translated from the source text (docs/notes/GEN.md, C17.md)

`impl Deref / Ord / PartialOrd for SuperblockRank` are `RbV/Gen/SrcSbRankOrd.lean` (the enum is generated from its
declaration).  `binary_search` sorts / searches by `Ord::cmp`; with the equality below the order in the assumed contract
`BSearchOk` is the order of the *source text*, not the mirror `SbRank.lt`.  Proofs: `RbV/Thm/GenSrcSbRankOrd.lean`. -/
section sbrank_order_source
open RbV.Model.RankSelect RbV.Thm.GenSrcRankSelect RbV.Thm.GenSrcSelect RbV.Lemmas.RankSelectSorted
open RbV.Thm.GenSrcSbRankOrd

/-- **`impl Ord for SuperblockRank`, as written, is the mirror order**: `cmp` returns `Less` exactly when `SbRank.lt` holds,
`Greater` exactly when it holds the other way round, `Equal` otherwise; `deref` is `SbRank.val`; `partial_cmp` is
`Some(cmp)`.  `toSb` renames the constructors of the generated enum (`First`, `Some`) to those of the mirror. -/
theorem superblock_rank_ord_source_eq_model (a b : Gen.SrcSbRankOrd.SuperblockRank) :
    Gen.SrcSbRankOrd.deref a = (toSb a).val ∧
    Gen.SrcSbRankOrd.cmp a b = (if (toSb a).lt (toSb b) then .lt else if (toSb b).lt (toSb a) then .gt else .eq) ∧
    Gen.SrcSbRankOrd.partialCmp a b = some (Gen.SrcSbRankOrd.cmp a b) ∧
    (Gen.SrcSbRankOrd.cmp a b).swap = Gen.SrcSbRankOrd.cmp b a :=
  ⟨deref_eq_model a, cmp_eq_model a b, partialCmp_eq a b, cmp_swap a b⟩

/-- **`select` exact, with the order read from the source**: as `select_source_exact`, but the assumed contract of
`binary_search` is stated for the order `srcLt a b := (cmp a b == Less)` of the *translated* `Ord::cmp` — the mirror order
does not occur among the assumptions. -/
theorem select_source_exact_src_order (bl : List Bool → Nat) (cd8 : Nat → Nat) (bs : List SbRank → SbRank → Nat)
    (bits : List Bool) (k : Nat) (hk : 1 ≤ k) (hks : k * 32 < 2 ^ 64) (hn : bits ≠ []) (hlen : bits.length < 2 ^ 60)
    (hcd : CeilOk cd8 bits.length) (hbl : bl bits = (bits.length + 7) / 8)
    (hbs : BSearchOk (fun a b => Gen.SrcSbRankOrd.cmp (ofSb a) (ofSb b) == Ordering.lt) bs) (j : Nat) :
    ∃ n bits' sbs1 sbs0 s k',
      Gen.SrcRankSelect.new (σ := SbRank) blockByte List.length bl cd8 SbRank.first SbRank.some SbRank.val bits k
        = Rs.Res.ok (n, bits', sbs1, sbs0, s, k') ∧
      Gen.SrcRankSelect.select1 (σ := SbRank) blockByte List.length bl cd8 SbRank.first SbRank.some SbRank.val bs
        n bits' sbs1 sbs0 s k' j = Rs.Res.ok (selectRef true bits j) ∧
      Gen.SrcRankSelect.select0 (σ := SbRank) blockByte List.length bl cd8 SbRank.first SbRank.some SbRank.val bs
        n bits' sbs1 sbs0 s k' j = Rs.Res.ok (selectRef false bits j) := by
  have hbs' : BSearchOk SbRank.lt bs := by
    have h := srcLt_eq_model
    unfold srcLt at h
    rw [← h]; exact hbs
  exact select_source_exact bl cd8 bs bits k hk hks hn hlen hcd hbl hbs' j

-- non-vacuity: the translated `cmp` evaluated (equal ranks: `First < Some`), and the contract is satisfiable for the source order
example : Gen.SrcSbRankOrd.cmp (.First 3) (.Some 3) = .lt ∧ Gen.SrcSbRankOrd.cmp (.Some 3) (.First 3) = .gt ∧
    Gen.SrcSbRankOrd.cmp (.Some 3) (.Some 3) = .eq ∧ Gen.SrcSbRankOrd.cmp (.Some 2) (.First 3) = .lt ∧
    Gen.SrcSbRankOrd.cmp (.First 4) (.First 3) = .gt := by decide +kernel
example : BSearchOk (fun a b => Gen.SrcSbRankOrd.cmp (ofSb a) (ofSb b) == Ordering.lt) searchIdx := by
  have h := srcLt_eq_model
  unfold srcLt at h
  rw [h]; exact searchIdx_ok

end sbrank_order_source

/-! ## wavelet matrix: function bodies translated from the source text, and the composition wavelet ∘ rank/select

`RbV/Gen/SrcWavelet.lean` (regenerated from `src/data_structures/wavelet_matrix.rs` on every `./check C17`):
`WaveletMatrix::check_overflow`, `prank`, `rank`, `build_partlevel`, `new`.  The levels' `RankSelect::rank_0/1` and
`RankSelect::new` are abstract (possibly panicking) functions there; `LevelsOk` is what the wavelet code assumes about the
former.  Additionally *assumed* (bv crate, as `bvNewFill` / `bvSetBit` of `Thm/GenSrcWaveletNew.lean`, which the statements about
`new` fix): `BitVec::new_fill(b, n)` is `n` copies of `b`, `set_bit(p, b)` replaces position `p` and panics for `p ≥ len`; and
the `f64` ceiling contract `CeilOk`, as above.  Proofs: `RbV/Thm/GenSrcWavelet.lean`, `RbV/Thm/GenSrcWaveletNew.lean`, `RbV/Thm/GenSrcWaveletCompose.lean`. -/
section wavelet_source
open RbV.Model.RankSelect RbV.Model.Wavelet RbV.Thm.GenSrcWavelet RbV.Thm.GenSrcWaveletCompose

/-- **`WaveletMatrix::prank`, as written, is the model's `prank`** (existing level, `p ≤ width`, `val` ∈ {0, 1}) -/
theorem wavelet_prank_source_eq_model {ρ : Type} (rank0 rank1 : ρ → Nat → Rs.Res (Option Nat)) (W H : Nat)
    (zeros : List Nat) (levels : List ρ) (lvs : List Level) (hok : LevelsOk rank0 rank1 W zeros levels lvs)
    (level : Nat) (lv : Level) (hl : lvs[level]? = some lv) (b : Bool) (p : Nat) (hp : p ≤ W) :
    Gen.SrcWavelet.prank rank0 rank1 W H zeros levels level p (if b then 1 else 0)
      = Rs.Res.ok (Model.Wavelet.prank (rkSpec lvs level) p b) :=
  prank_eq_model rank0 rank1 W H zeros levels lvs hok level lv hl b p hp

/-- **`WaveletMatrix::rank`, as written, is the model's `rank`** on every structure satisfying `LevelsOk` with at most 8
levels and `width < 2^63`, for every symbol `c` that indexes the code table and every in-range `p`; out-of-range `p` is refused
(`check_overflow`, translated too) -/
theorem wavelet_rank_source_eq_model {ρ : Type} (rank0 rank1 : ρ → Nat → Rs.Res (Option Nat)) (W : Nat)
    (hW : W < 2 ^ 63) (zeros : List Nat) (levels : List ρ) (lvs : List Level)
    (hok : LevelsOk rank0 rank1 W zeros levels lvs) (hH : lvs.length ≤ 8) (table : List Nat) (c : Nat)
    (hc : c < table.length) (p : Nat) :
    (p < W → Gen.SrcWavelet.rank rank0 rank1 W lvs.length zeros levels table c p
      = Rs.Res.ok (Model.Wavelet.rank (fun v => table.getD v 0) (rkSpec lvs) lvs c p)) ∧
    (W ≤ p → Gen.SrcWavelet.rank rank0 rank1 W lvs.length zeros levels table c p = Rs.Res.panic) :=
  ⟨rank_eq_model rank0 rank1 W hW zeros levels lvs hok hH table c hc p,
   rank_oob_panics rank0 rank1 W lvs.length zeros levels table c p⟩

/-- **composition (mirror models)**: the wavelet mirror model run over the *RankSelect mirror model* of every level
(`rank1` / `rank0` with the `superblocks` table of `RankSelect::new(bits, 1)`) — instead of the declarative rank — returns
`occ`.  One statement for `WaveletMatrix::rank` ∘ `RankSelect::rank_0/1` at model level (DESIGN §13 row C17). -/
theorem wavelet_rank_over_rankselect_model (text : List Nat) (c p : Nat)
    (hp : p < text.length) (hc : c ∈ dnaSyms) (htext : ∀ x ∈ text, x ∈ dnaSyms) :
    Model.Wavelet.rank (fun v => Gen.Dna2Int.table.getD v 0)
        (fun level b i => match (build (fun v => Gen.Dna2Int.table.getD v 0) text)[level]? with
          | some lv => if b then rank1 lv.bits.length (1 * 32) (getBlock lv.bits)
                                  (superblocks true lv.bits.length (1 * 32) (getBlock lv.bits)) i
                       else rank0 lv.bits.length (1 * 32) (getBlock lv.bits)
                                  (superblocks true lv.bits.length (1 * 32) (getBlock lv.bits)) i
          | none => none)
        (build (fun v => Gen.Dna2Int.table.getD v 0) text) c p
      = occ text c p := by
  -- the rank function of the statement is `rkSpec` of the built levels, level by level
  refine Eq.trans (congrArg (fun f => Model.Wavelet.rank _ f _ c p) (funext fun level => funext fun b => funext fun i => ?_))
    (wavelet_rank_correct_generated text c p hp hc htext)
  unfold rkSpec
  cases (build (fun v => Gen.Dna2Int.table.getD v 0) text)[level]? with
  | none => rfl
  | some lv =>
    cases b with
    | true => simpa using (rank_correct lv.bits 1 (by omega) i).1
    | false => simpa using (rank_correct lv.bits 1 (by omega) i).2

/-- **composition (translated code)**: `WaveletMatrix::rank` *as written*, over levels whose `rank_0` / `rank_1` are
`RankSelect::rank_0` / `rank_1` *as written* (on the bit vectors and 1-superblock tables of the levels the mirror model of
`WaveletMatrix::new` builds, with the `DNA2INT` table extracted on this run) returns the number of occurrences of `c` in
`text[0..=p]` — for every text over A,C,G,T,N,$ of fewer than 2^60 symbols, every such `c`, every `p < |text|`; no
`unwrap`, index, shift or arithmetic operation of either function panics. -/
theorem wavelet_rank_source_composed (bl : List Bool → Nat) (cd8 : Nat → Nat) (text : List Nat)
    (hn : text.length < 2 ^ 60) (c p : Nat) (hp : p < text.length) (hc : c ∈ dnaSyms)
    (htext : ∀ x ∈ text, x ∈ dnaSyms) :
    Gen.SrcWavelet.rank (srcRank0 bl cd8) (srcRank1 bl cd8) text.length 3
        ((build (fun v => Gen.Dna2Int.table.getD v 0) text).map (·.zeros))
        ((build (fun v => Gen.Dna2Int.table.getD v 0) text).map mkRS) Gen.Dna2Int.table c p
      = Rs.Res.ok (occ text c p) := by
  have h128 : ∀ a ∈ dnaSyms, a < 128 := by decide
  have hc128 : c < Gen.Dna2Int.table.length := (tableOk_sound _ dna2int_generated_ok).1 ▸ h128 c hc
  exact (rank_eq_model_of_length _ _ _ (by omega) _ _ _ (levels_ok bl cd8 _ 3 text hn) 3
    (RbV.Lemmas.Wavelet.length_buildLevels _ 3 text) (by omega) _ c hc128 p hp).trans
    (congrArg Rs.Res.ok (wavelet_rank_correct_generated text c p hp hc htext))

-- non-vacuity: the text "ACN$NA"; translated `rank('N', 4)` over translated `rank_0/1` = 2
example : Gen.SrcWavelet.rank (srcRank0 (fun _ => 0) (fun x => (x + 7) / 8)) (srcRank1 (fun _ => 0) (fun x => (x + 7) / 8)) 6 3
    ((build (fun v => Gen.Dna2Int.table.getD v 0) [65, 67, 78, 36, 78, 65]).map (·.zeros))
    ((build (fun v => Gen.Dna2Int.table.getD v 0) [65, 67, 78, 36, 78, 65]).map mkRS) Gen.Dna2Int.table 78 4
    = Rs.Res.ok 2 := by decide +kernel
example : Gen.SrcWavelet.rank (srcRank0 (fun _ => 0) (fun x => (x + 7) / 8)) (srcRank1 (fun _ => 0) (fun x => (x + 7) / 8)) 6 3
    ((build (fun v => Gen.Dna2Int.table.getD v 0) [65, 67, 78, 36, 78, 65]).map (·.zeros))
    ((build (fun v => Gen.Dna2Int.table.getD v 0) [65, 67, 78, 36, 78, 65]).map mkRS) Gen.Dna2Int.table 78 6
    = Rs.Res.panic := by decide +kernel

/-- **`WaveletMatrix::new`, as written, builds the levels of the mirror model** (`build_partlevel`, translated too, is called
twice per level): `(width, 3, zeros, levels)`; `rsNew` stands for `RankSelect::new(_, 1)`, `mk` for what it returns
(`hrs`); for every text of fewer than 2^63 symbols that index the code table (`hv`), under the bv contract `bvSetBit` / `bvNewFill` -/
theorem wavelet_new_source_eq_model {ρ : Type} (rank0 rank1 : ρ → Nat → Rs.Res (Option Nat))
    (rsNew : List Bool → Nat → Rs.Res ρ) (mk : List Bool → ρ) (table : List Nat) (text : List Nat)
    (hW : text.length < 2 ^ 63) (hrs : ∀ bits : List Bool, bits.length = text.length → rsNew bits 1 = Rs.Res.ok (mk bits))
    (hv : ∀ v ∈ text, v < table.length) :
    Gen.SrcWavelet.new rank0 rank1 RbV.Thm.GenSrcWaveletNew.bvSetBit RbV.Thm.GenSrcWaveletNew.bvNewFill rsNew table text
      = Rs.Res.ok (text.length, 3, (build (fun v => table.getD v 0) text).map (·.zeros),
          (build (fun v => table.getD v 0) text).map (fun lv => mk lv.bits)) :=
  RbV.Thm.GenSrcWaveletNew.new_eq_model rank0 rank1 rsNew mk table text hW hrs hv

/-- **end to end, no model-side constructor**: `WaveletMatrix::new(text)` *as written* (with `build_partlevel` as written
and `RankSelect::new(_, 1)` as written for every level), followed by `WaveletMatrix::rank(c, p)` *as written* over
`RankSelect::rank_0` / `rank_1` *as written*, returns the number of occurrences of `c` in `text[0..=p]` — for every text
over A,C,G,T,N,$ of fewer than 2^60 symbols, every such `c`, every `p < |text|`; no operation of any of the functions
panics — under the bv contract `bvSetBit` / `bvNewFill` and the `f64` ceiling contract `CeilOk` (`hcd`).  `(W, H, zs, lvs)` is
whatever the translated constructor returns. -/
theorem wavelet_source_rank_exact (bl : List Bool → Nat) (cd8 : Nat → Nat) (text : List Nat)
    (hn : text.length < 2 ^ 60) (hcd : RbV.Thm.GenSrcRankSelect.CeilOk cd8 text.length) (c p : Nat)
    (hp : p < text.length) (hc : c ∈ dnaSyms) (htext : ∀ x ∈ text, x ∈ dnaSyms) :
    ∃ W H zs lvs,
      Gen.SrcWavelet.new (srcRank0F bl cd8) (srcRank1F bl cd8) RbV.Thm.GenSrcWaveletNew.bvSetBit
        RbV.Thm.GenSrcWaveletNew.bvNewFill (srcRsNew bl cd8) Gen.Dna2Int.table text = Rs.Res.ok (W, H, zs, lvs) ∧
      Gen.SrcWavelet.rank (srcRank0F bl cd8) (srcRank1F bl cd8) W H zs lvs Gen.Dna2Int.table c p
        = Rs.Res.ok (occ text c p) := by
  have htab : Gen.Dna2Int.table.length = 128 := (tableOk_sound _ dna2int_generated_ok).1
  have h128 : ∀ a ∈ dnaSyms, a < 128 := by decide
  have hnew := RbV.Thm.GenSrcWaveletNew.new_eq_model (srcRank0F bl cd8) (srcRank1F bl cd8) (srcRsNew bl cd8) mkRSF
    Gen.Dna2Int.table text (by omega)
    (fun bits hb => srcRsNew_one bl cd8 bits (by omega) (by rw [hb]; exact hcd))
    (fun v hv => by rw [htab]; exact h128 v (htext v hv))
  refine ⟨_, _, _, _, hnew, ?_⟩
  exact (rank_eq_model_of_length _ _ _ (by omega) _ _ _ (levels_ok_full bl cd8 _ 3 text hn) 3
    (RbV.Lemmas.Wavelet.length_buildLevels _ 3 text) (by omega) _ c (by rw [htab]; exact h128 c hc) p hp).trans
    (congrArg Rs.Res.ok (wavelet_rank_correct_generated text c p hp hc htext))

-- non-vacuity: "ACN$NA" — translated `new`, then translated `rank('N', 4)` on what it returned
example : (Gen.SrcWavelet.new (srcRank0F (fun _ => 0) (fun x => (x + 7) / 8)) (srcRank1F (fun _ => 0) (fun x => (x + 7) / 8))
      RbV.Thm.GenSrcWaveletNew.bvSetBit RbV.Thm.GenSrcWaveletNew.bvNewFill (srcRsNew (fun _ => 0) (fun x => (x + 7) / 8))
      Gen.Dna2Int.table [65, 67, 78, 36, 78, 65] >>= fun r =>
    Gen.SrcWavelet.rank (srcRank0F (fun _ => 0) (fun x => (x + 7) / 8)) (srcRank1F (fun _ => 0) (fun x => (x + 7) / 8))
      r.1 r.2.1 r.2.2.1 r.2.2.2 Gen.Dna2Int.table 78 4) = Rs.Res.ok 2 := by decide +kernel

end wavelet_source

end RbV.Thm.C17
