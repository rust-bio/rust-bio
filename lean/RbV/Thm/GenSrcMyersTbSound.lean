import RbV.Thm.GenSrcMyersTbLoop
import RbV.Lemmas.TracebackState
import RbV.Lemmas.TracebackRing
/-!
# The side conditions of the translated `_traceback_at` follow from the handler invariant; soundness of the translated traceback

Builds on `Thm/GenSrcMyersTbLoop.lean` and, like it, is written for either order `df` of the Ins / Del tests; imported by `Thm/C10.lean`
(`tools/gen_tables.py` re-checks both modules on every `./check C10` against the regenerated `Gen/SrcMyersTbLoop.lean`).

* `distOk_of_inv`, `diagOk_of_inv`, `insOk_of_inv`, `delOk_of_inv`: in a handler state with the invariant `HInv` of
  `Lemmas/TracebackState.lean` (true cell values at the cursor) the checked operations of each branch of the translated loop body stay
  in range: `dist ± 1` by `pv_bit_pos`-style facts, `adjust_by_mask` by `adjustByMask_spec` — including the sentinel column `dist = D::MAX`;
  `stepOkG_of_inv` assembles them for either order of the tests (`StepOk`, `StepOkD` = the side condition `BranchOk` of the branch taken);
* `runOk_of_inv`: … along the whole loop (`RunOk`), which ends within `i + j` passes;
* `tracebackAt_of_stored`: on any store whose reader satisfies `Stored`, the translated `_traceback_at` returns the walk `walkG df`;
* `traceback_source_sound`: the translated `_traceback_at` on the columns a search stored (ring of `m + min(k, m) + 2` slots with
  arbitrary old contents), called for a hit, returns `(h_offset, dist)` and pushes operations that decode to a hit accepted by
  `checkHit`: `stored_concrete` → `walkG_sound`, `walkG_span` → `ring_window` → `tracebackAt_of_stored` → `checkHit_of_acost`.
-/

namespace RbV.Thm.GenSrcMyersTbSound
open RbV RbV.Rs RbV.EditDist RbV.Model.MyersSimple RbV.Model.MyersTraceback RbV.Thm.GenSrcMyersLongStep RbV.Thm.GenSrcMyersTbLoop

section
variable {w m q lo : Nat} {D : Nat → Nat → Nat} {S : Nat → St w} (wd pos : Nat) (store : List (St w))

/-- `adjust_by_mask` on the stored column `j'` with a range mask `[r, m)` stays in range -/
theorem maskOk_of (st : Stored m (2 ^ wd - 1) q lo D S (readStore store pos)) (g : Handler w) (j' r : Nat) (hj : j' ≤ q)
    (hr : r ≤ m) (hrd : readStore store pos g.taken = S j')
    (hmask : ∀ b, g.leftMask.getLsbD b = decide (r ≤ b ∧ b < m)) : MaskOk wd pos store g := by
  obtain ⟨encL, dL⟩ := st.enc j' hj
  have hadj := adjustByMask_spec (colOf D (2 ^ wd - 1) m j') (S j') g.leftMask r hr st.hmw encL hmask dL
    (colOf_nonneg st j' r)
  have h1 := colOf_le st j' m hj (Nat.le_refl _)
  have h2 := colOf_le st j' r hj hr
  have hp : 1 ≤ 2 ^ wd := Nat.one_le_two_pow
  have h3 := hadj.2.2.2
  simp only [adjustByMask] at h3
  unfold MaskOk
  rw [hrd]
  refine ⟨hadj.2.2.1, by omega, by omega⟩

/-- `dist ± 1` on the two cached states stays inside `DistType`: they hold matrix values `≤ m`, or the sentinel value `< D::MAX` -/
theorem distOk_of_inv (st : Stored m (2 ^ wd - 1) q lo D S (readStore store pos)) {i' j : Nat} {h : Handler w}
    (inv : HInv m (2 ^ wd - 1) q D S i' j h) : h.state.dist + 1 < 2 ^ wd ∧ h.left.dist + 1 < 2 ^ wd := by
  have hi := inv.hi
  have hdm := st.hdm
  have hs := inv.sdist
  have hl := inv.ldist
  rw [colOf_succ] at hs
  have hsb := st.bound (i' + 1) j (by omega) inv.hj
  unfold colOf at hl
  split at hl
  · omega
  · have := st.bound i' (j - 1) (by omega) (by have := inv.hj; omega)
    omega

/-- the diagonal move (Subst, Match): `move_up(false); move_up_left(false)`, then `move_to_left` loads column `j − 1` -/
theorem diagOk_of_inv (st : Stored m (2 ^ wd - 1) q lo D S (readStore store pos)) {i' j : Nat} {h : Handler w}
    (inv : HInv m (2 ^ wd - 1) q D S i' j h) (hj : lo + 1 ≤ j) :
    MaskOk wd pos store ((h.moveUp false).moveUpLeft false) := by
  have hi := inv.hi
  have hjq := inv.hj
  apply maskOk_of wd pos store st _ (j - 1) (i' - 1) (by omega) (by omega)
  · show readStore store pos h.taken = S (j - 1)
    rw [inv.taken, st.rd _ (by omega)]
    congr 1; omega
  · exact inv.mask_up st

/-- the vertical move (Ins): `move_up(true); move_up_left(true)` subtract 1 from values that are `≥ 1` -/
theorem insOk_of_inv (st : Stored m (2 ^ wd - 1) q lo D S (readStore store pos)) {i' j : Nat} {h : Handler w}
    (inv : HInv m (2 ^ wd - 1) q D S i' j h) (c2 : D i' j + 1 = D (i' + 1) j) :
    1 ≤ h.state.dist ∧ ((h.left.pv &&& (h.pos >>> 1)) ≠ 0#w → 1 ≤ h.left.dist) := by
  have hi := inv.hi
  have hmw := st.hmw
  have hs := inv.sdist
  rw [colOf_succ] at hs
  refine ⟨by omega, ?_⟩
  intro hne
  cases i' with
  | zero =>
    exfalso; apply hne
    rw [inv.pos, twoPow_shr_zero]; simp
  | succ r =>
    rw [inv.pos, twoPow_shr_succ r (by omega)] at hne
    obtain ⟨encL, _⟩ := st.enc j (by have := inv.hj; omega)
    rw [← inv.lpv, ← inv.lmv] at encL
    exact pv_bit_pos (colOf D (2 ^ wd - 1) m j) h.left r (by omega) hmw encL inv.ldist (colOf_nonneg st j r) hne

/-- the horizontal move (Del): `left.dist -= 1` on a value `≥ 1`, then `move_to_left` loads column `j − 1` -/
theorem delOk_of_inv (st : Stored m (2 ^ wd - 1) q lo D S (readStore store pos)) {i' j : Nat} {h : Handler w}
    (inv : HInv m (2 ^ wd - 1) q D S i' j h) (hj : lo + 1 ≤ j) (c3 : D (i' + 1) (j - 1) + 1 = D i' (j - 1))
    (t3 : ((h.left.mv &&& h.pos) != 0#w) = true) :
    1 ≤ h.left.dist ∧ MaskOk wd pos store h.moveLeftDownIfBetter.2 := by
  have hi := inv.hi
  have hjq := inv.hj
  refine ⟨?_, ?_⟩
  · obtain ⟨j', rfl⟩ := Nat.exists_eq_add_of_le' (Nat.le_of_add_left_le hj)
    have hl := inv.ldist
    rw [colOf_succ] at hl
    simp only [Nat.add_sub_cancel] at c3
    omega
  · unfold Handler.moveLeftDownIfBetter
    rw [if_pos t3]
    apply maskOk_of wd pos store st _ (j - 1) i' (by omega) (by omega)
    · show readStore store pos h.taken = S (j - 1)
      rw [inv.taken, st.rd _ (by omega)]
      congr 1; omega
    · exact inv.lmask

/-- the side condition of the branch of the loop body that pushes `o` -/
def BranchOk (h : Handler w) : Op → Prop
  | Op.ins => 1 ≤ h.state.dist ∧ ((h.left.pv &&& (h.pos >>> 1)) ≠ 0#w → 1 ≤ h.left.dist)
  | Op.del => 1 ≤ h.left.dist ∧ MaskOk wd pos store h.moveLeftDownIfBetter.2
  | _ => MaskOk wd pos store ((h.moveUp false).moveUpLeft false)

/-- `StepOk` / `StepOkD` follow the tests of the body: they ask for the side condition of the branch it takes -/
theorem stepOkG_iff (df : Bool) (rd : Nat → St w) (h : Handler w) :
    StepOkG wd pos store df h ↔ h.state.dist + 1 < 2 ^ wd ∧ h.left.dist + 1 < 2 ^ wd ∧
      BranchOk wd pos store h (h.iterG df (2 ^ wd - 1) rd).1 := by
  rw [Handler.iterG_eq, Cursor.iter_eq _ df h h.ldb_keep]
  simp only [Handler.cursor, Handler.ldb_flag]
  cases df <;> simp only [StepOkG, StepOk, StepOkD, Bool.false_eq_true, if_false, if_true] <;>
    by_cases c1 : (h.left.dist + 1) % (2 ^ wd - 1 + 1) = h.state.dist <;>
    cases c2 : ((h.state.pv &&& h.pos) != 0#w) <;> cases c3 : ((h.left.mv &&& h.pos) != 0#w) <;>
    simp only [c1, choose, BranchOk, decide_true, decide_false, if_true, if_false, Bool.false_eq_true]

/-- **the side conditions of one pass of the translated loop body hold under the handler invariant**, for either order of the tests:
the pass pushes the operation of the matrix rule (`handler_reads`), and each operation's branch is covered by its lemma above -/
theorem stepOkG_of_inv (df : Bool) (st : Stored m (2 ^ wd - 1) q lo D S (readStore store pos)) {i' j : Nat} {h : Handler w}
    (inv : HInv m (2 ^ wd - 1) q D S i' j h) (hlo : ruleOpG df D i' j ≠ Op.ins → lo + 1 ≤ j) : StepOkG wd pos store df h := by
  obtain ⟨d1, d2⟩ := distOk_of_inv wd pos store st inv
  obtain ⟨e, _, _⟩ := ((handler_sim df st).step i' j h inv).2 hlo
  rw [stepOkG_iff wd pos store df (readStore store pos), e]
  refine ⟨d1, d2, ?_⟩
  have hc := ruleOpG_eq_choose df D i' j
  cases ho : ruleOpG df D i' j <;> rw [ho] at hlo hc
  · exact diagOk_of_inv wd pos store st inv (hlo (by decide))
  · exact diagOk_of_inv wd pos store st inv (hlo (by decide))
  · exact insOk_of_inv wd pos store st inv (of_decide_eq_true (choose_ins hc.symm))
  · have c3 := of_decide_eq_true (choose_del hc.symm)
    exact delOk_of_inv wd pos store st inv (hlo (by decide)) c3.2 ((test_del st inv).trans (decide_eq_true c3))

/-- … for the order of the text -/
theorem stepOk_of_inv (st : Stored m (2 ^ wd - 1) q lo D S (readStore store pos)) {i' j : Nat} {h : Handler w}
    (inv : HInv m (2 ^ wd - 1) q D S i' j h) (hlo : ruleOp D i' j ≠ Op.ins → lo + 1 ≤ j) : StepOk wd pos store h :=
  stepOkG_of_inv wd pos store false st inv hlo

theorem ruleNext_sum (D : Nat → Nat → Nat) (i j : Nat) : (ruleNext D i j).1 + (ruleNext D i j).2 ≤ i + j :=
  opNext_sum _ i j (ruleOpG_del_pos false D i j)

/-- **the side conditions hold along the whole loop, which ends within `i + j` passes** -/
theorem runOk_of_inv (df : Bool) (st : Stored m (2 ^ wd - 1) q lo D S (readStore store pos)) :
    ∀ (F i j : Nat) (h : Handler w), HInvAny m (2 ^ wd - 1) q D S i j h → lo ≤ (walkG df D F i j).1 → i + j ≤ F →
      RunOk wd pos store df F h := by
  have sim := handler_sim df st
  intro F
  induction F with
  | zero =>
    intro i j h inv _ hf
    have : i = 0 := by omega
    subst this
    exact sim.done j h inv
  | succ F ih =>
    intro i j h inv hlo hf
    cases i with
    | zero => exact Or.inl (sim.done j h inv)
    | succ i' =>
      rw [walkG_eq_walkR] at hlo
      simp only [walkR] at hlo
      have hle := walkR_start_le (ruleOpG df D) F (opNext (ruleOpG df D i' j) i' j).1 (opNext (ruleOpG df D i' j) i' j).2
      have hlo' := sim.enter inv (Nat.le_trans hlo hle)
      obtain ⟨_, _, e3⟩ := (sim.step i' j h inv).2 hlo'
      have hsum := opNext_sum (ruleOpG df D i' j) i' j (ruleOpG_del_pos df D i' j)
      exact Or.inr ⟨stepOkG_of_inv wd pos store df st inv hlo', ih _ _ _ e3 (by rw [walkG_eq_walkR]; exact hlo) (by omega)⟩

/-- **the translated `_traceback_at` on stored columns is the matrix walk**: on any store whose reader satisfies `Stored` for the matrix
`D` (cursor column `j ≥ 1`, states readable down to sequence number `lo`), if the walk of the order the text has (`df`) ends at a column
`≥ lo`, the translated function neither panics nor runs out of gas, pushes the operations of the walk and returns the number of its
left moves and the stored distance of column `j`. -/
theorem tracebackAt_of_stored (hw1 : 1 < w) (hw63 : w < 2 ^ 63) (hp : pos < store.length) {j : Nat}
    (st : Stored m (2 ^ wd - 1) (j + 1) lo D S (readStore store pos)) (hj : 1 ≤ j) (df : Bool)
    (hstep : StepEq wd pos store hw1 df) (hwin : lo ≤ (walkG df D (m + j) m j).1) (hF : m + j < 2 ^ wd) :
    RbV.Gen.SrcMyersTbLoop.tracebackAt (w := w) (wd := wd) (m := m) (pos := pos) (ops := some []) (state_slice := repS store)
        (gas := m + j + 1) =
      Res.ok (some ((walkG df D (m + j) m j).2.map opCode), (j - (walkG df D (m + j) m j).1, (S (j + 1)).dist)) := by
  have hle := walkG_start_le df D (m + j) m j
  have hmw := st.hmw
  have hm1 := st.hm1
  have hstart := start_inv st (by omega)
  have hrd := tracebackRdG_eq df st (by omega) (m + j) hwin
  simp only [Nat.add_sub_cancel] at hstart hrd
  have hrun := runOk_of_inv wd pos store df st (m + j) m j _ hstart hwin (Nat.le_refl _)
  -- the initial `move_up_left(true)` works on the last entry of column `j − 1`, a matrix value
  have r1 : readStore store pos 1 = S j := by rw [st.rd 1 (by omega)]; rfl
  obtain ⟨encL, dL⟩ := st.enc j (by omega)
  have hbnd := st.bound m (j - 1) (Nat.le_refl _) (by omega)
  have hdm := st.hdm
  unfold colOf at dL
  rw [if_neg (by omega)] at dL
  have hs2 : (Handler.new m (readStore store pos)).left.dist + 1 < 2 ^ wd := by
    show (readStore store pos 1).dist + 1 < 2 ^ wd
    rw [r1]; omega
  have hs1 : ((Handler.new m (readStore store pos)).left.pv &&& (Handler.new m (readStore store pos)).pos) ≠ 0#w →
      1 ≤ (Handler.new m (readStore store pos)).left.dist := by
    show ((readStore store pos 1).pv &&& (1#w <<< (m - 1))) ≠ 0#w → 1 ≤ (readStore store pos 1).dist
    rw [r1, ← BitVec.twoPow_eq]
    have hd : ((S j).dist : Int) = colOf D (2 ^ wd - 1) m j (m - 1 + 1) := by
      rw [Nat.sub_add_cancel hm1]; exact (st.enc j (by omega)).2
    exact pv_bit_pos (colOf D (2 ^ wd - 1) m j) (S j) (m - 1) (by omega) hmw encL hd (colOf_nonneg st j (m - 1))
  rw [tracebackAt_eq_model wd pos store hw1 df hstep m hm1 hmw (by omega) hp (m + j) (some []) hs1 hs2 hrun hF, hrd]
  rfl

end

/-- a walk of a hit (`d ≤ k`, `d ≤ m`) that spans at most `m + d` columns ends inside a ring of `m + min k m + 2` slots -/
theorem ring_window {stop start m k d : Nat} (hspan : stop - start ≤ m + min d m) (hk : d ≤ k) :
    stop + 2 - (m + min k m + 2) ≤ start := by
  omega

/-- decode the bytes the translated code pushes -/
def opOfCode : Nat → Op
  | 0 => Op.mat
  | 1 => Op.sub
  | 2 => Op.ins
  | _ => Op.del

theorem opOfCode_opCode (o : Op) : opOfCode (opCode o) = o := by cases o <;> rfl

/-- **`traceback_source_sound`**: search `stop` symbols storing the columns in a ring of
`m + min(k, m) + 2` slots on top of arbitrary old contents (the model of `FullMatches`: `storeAll`, `seqStates` — `Traceback::new` /
`add_state` are not translated), then the **translated** `_traceback_at` at the slot of the last column, for a hit (`d ≤ k`):
no panic, the loop ends within the fuel, and `(h_offset, dist)` + the pushed operations are a hit accepted by `checkHit`:
start `stop − h_offset`, a valid alignment of the pattern with `t[start..stop]` of cost `dist`, `dist` minimal over all starts, `≤ k`.
`hst : stop < 2^wd − m` is what `loop_eq` asks for the checked `h_offset += 1` (`h_offset : DistType`): offset + fuel `< 2^wd`, with the
fuel `m + stop`; the `≤ m + d` left moves of the walk (`traceback_span`) would give a weaker hypothesis, which is not proved here. -/
theorem traceback_source_sound (w wd : Nat) (eqv : Nat → Nat → Bool) (p t : List Nat) (k stop : Nat) (old : List (St w))
    (hw1 : 1 < w) (hwd : wd < 64) (hw63 : w < 2 ^ 63) (hm1 : 1 ≤ p.length) (hw : p.length ≤ w) (hd : p.length < 2 ^ wd - 1)
    (hold : old.length = p.length + min k p.length + 2) (h1 : 1 ≤ stop) (hs : stop ≤ t.length) (hst : stop < 2 ^ wd - p.length)
    (d : Nat) (hdv : (lastRow (unitW eqv) p t)[stop - 1]? = some d) (hk : d ≤ k) :
    ∃ (off dist : Nat) (ops : List Op),
      RbV.Gen.SrcMyersTbLoop.tracebackAt (w := w) (wd := wd) (m := p.length)
          (pos := (stop + 1) % (p.length + min k p.length + 2)) (ops := some [])
          (state_slice := repS (storeAll (p.length + min k p.length + 2) old 0
            (seqStates w eqv p (2 ^ wd - 1) (t.take stop)))) (gas := p.length + stop + 1) =
        Res.ok (some (ops.map opCode), (off, dist)) ∧
      checkHit eqv p t k ⟨stop - off, stop, dist, ops.reverse⟩ = true := by
  have hN : 0 < p.length + min k p.length + 2 := Nat.succ_pos _
  have hF : p.length + stop < 2 ^ wd := Nat.add_lt_of_lt_sub' hst
  have hp : (stop + 1) % (p.length + min k p.length + 2) <
      (storeAll (p.length + min k p.length + 2) old 0 (seqStates w eqv p (2 ^ wd - 1) (t.take stop))).length := by
    rw [storeAll_length, hold]; exact Nat.mod_lt _ hN
  have st := stored_concrete w eqv p (2 ^ wd - 1) _ old t stop stop hm1 hw hd hN hold hs (Nat.le_refl _)
  obtain ⟨df, hstep⟩ := step_eqG wd _ _ hw1 hwd hw63 hp
  -- the walk of the order the text has is sound, so it spans at most `m + min d m` columns (`walkG_span`): it ends inside the ring
  obtain ⟨wa, wb⟩ := walkG_sound df eqv p t _ (isSellers_matrix eqv p t) (p.length + stop) p.length stop (Nat.le_refl _) hs
    (Nat.le_refl _)
  rw [Dm_matrix _ p t p.length stop (Nat.le_refl _) hs, List.take_length] at wb
  have hcd := hit_cell eqv p t stop d h1 hs hdv
  have hwin := ring_window (hcd ▸ walkG_span df eqv p t stop hs) hk
  have heq := tracebackAt_of_stored wd _ _ hw1 hw63 hp st h1 df hstep hwin hF
  refine ⟨_, _, _, heq, ?_⟩
  rw [Nat.sub_sub_self wa, (seqStates_inv w eqv p (2 ^ wd - 1) t hm1 hw stop hs).dist]
  exact checkHit_of_acost eqv p t k _ stop _ h1 hs wa (hcd ▸ hk) wb

end RbV.Thm.GenSrcMyersTbSound
