import RbV.Gen.SrcSaisBuckets
import RbV.Lemmas.SaisTypes
import RbV.Thm.GenSrcBasic
/-!
# The translated text of `Sais::init_bucket_start`, `Sais::init_bucket_end` equals the mirror model

`RbV/Gen/SrcSaisBuckets.lean` is regenerated by `tools/rs2lean_gensa.py` on every `./check C03`.  `bucket_sizes` is the
`Rs.VecMap` of RsSem.lean with `contains_key`, `*get_mut(k).unwrap() += 1`, `values()` (ascending key order) of
RsSemGensa.lean; `cast::<T, usize>` the abstract `castU` (hypothesis: value-preserving on the symbols of the text).

* `for1_spec`: the counting loop leaves, for every key, `Sais.cOpt text key` (absent when the symbol does not occur).
* `init_bucket_start_spec`: `bucket_start = Sais.initBucketStart text` — the prefix sums of the counts of the *occurring*
  symbols in ascending order — for **every** text; `init_bucket_start_dense`: for a dense text = number of smaller symbols.
* `init_bucket_end_spec`: `= Sais.initBucketEnd bucket_start n` when `bucket_start` is non-empty, its later entries are
  positive (`r - 1`) and the text is non-empty (`text.len() - 1`); `init_bucket_end_valid`: true after `init_bucket_start`
  on every text SA-IS accepts.
-/
set_option linter.unusedSimpArgs false

namespace RbV.Thm.GenSrcSaisBuckets
open RbV RbV.Rs RbV.Gen RbV.Thm.GenSrc RbV.Sais

/-- the counting loop: afterwards key `k` holds the number of occurrences of `k`, and is absent when there is none -/
theorem for1_spec (castU : Nat → Option Nat) : ∀ (xs l : List Nat) (m : VecMap), (∀ c ∈ xs, castU c = some c) →
    (∀ k, VecMap.get m k = cOpt l k) → l.length + xs.length < 2 ^ 64 →
    ∃ m', SrcSaisBuckets.init_bucket_start_for1 castU xs m = Res.ok m' ∧ ∀ k, VecMap.get m' k = cOpt (l ++ xs) k := by
  intro xs
  induction xs with
  | nil => intro l m _ h _; exact ⟨m, by simp [SrcSaisBuckets.init_bucket_start_for1], by simpa using h⟩
  | cons c xs ih =>
    intro l m hc h hsz
    simp only [List.length_cons] at hsz
    have ec : castU c = some c := hc c (by simp)
    have hcnt := List.count_le_length (a := c) (l := l)
    have key : ∃ m1, (do
        let bucket_sizes ← if !(VecMap.containsKey m c) then (pure (VecMap.insert m c 0) : Res VecMap) else pure m
        VecMap.addAt 64 bucket_sizes c 1) = Res.ok m1 ∧ ∀ k, VecMap.get m1 k = cOpt (l ++ [c]) k := by
      by_cases hz : l.count c = 0
      · have hg : VecMap.get m c = none := by rw [h c]; simp [cOpt, hz]
        refine ⟨VecMap.insert (VecMap.insert m c 0) c (0 + 1), ?_, ?_⟩
        · simp only [VecMap.containsKey, hg, Option.isSome_none, Bool.not_false, ↓reduceIte, Res.pure_eq_ok,
            VecMap.addAt, Nat.reducePow, Res.ok_bind, VecMap.get_insert, Nat.zero_add, Nat.reduceLT]
        · intro k
          rw [VecMap.get_insert, VecMap.get_insert, cOpt_snoc, hz]
          by_cases hk : k = c <;> simp [hk, h]
      · have hg : VecMap.get m c = some (l.count c) := by rw [h c]; simp [cOpt, hz]
        refine ⟨VecMap.insert m c (l.count c + 1), ?_, ?_⟩
        · have : l.count c + 1 < 2 ^ 64 := by omega
          simp only [VecMap.containsKey, hg, Option.isSome_some, Bool.not_true, Bool.false_eq_true, ↓reduceIte,
            Res.pure_eq_ok, VecMap.addAt, Nat.reducePow, Res.ok_bind, this]
        · intro k
          rw [VecMap.get_insert, cOpt_snoc]
          by_cases hk : k = c <;> simp [hk, h]
    obtain ⟨m1, hm1, hm1'⟩ := key
    obtain ⟨m', h1, h2⟩ := ih (l ++ [c]) m1 (fun x hx => hc x (List.mem_cons_of_mem _ hx)) hm1' (by simp; omega)
    refine ⟨m', ?_, by simpa using h2⟩
    rw [SrcSaisBuckets.init_bucket_start_for1]
    simp only [ec, Rs.expect_some, Res.ok_bind, Res.pure_eq_ok] at hm1 ⊢
    rw [← h1]
    have := hm1
    by_cases hk : VecMap.containsKey m c <;> simp [hk] at this ⊢ <;> simp [this]

theorem for2_spec (castU : Nat → Option Nat) : ∀ (vals acc : List Nat) (sum : Nat), sum + vals.sum < 2 ^ 64 →
    SrcSaisBuckets.init_bucket_start_for2 castU vals (acc, sum) = Res.ok (acc ++ prefixSums vals sum, sum + vals.sum) := by
  intro vals
  induction vals with
  | nil => intro acc sum _; simp [SrcSaisBuckets.init_bucket_start_for2, prefixSums]
  | cons v vals ih =>
    intro acc sum h
    simp only [List.sum_cons] at h
    have hsv : sum + v < 2 ^ 64 := by omega
    have := ih (acc ++ [sum]) (sum + v) (by omega)
    simp only [SrcSaisBuckets.init_bucket_start_for2, Rs.add_ok hsv, Rs.add_ok_comm hsv, Res.ok_bind, this, List.append_assoc, List.cons_append,
      List.nil_append, prefixSums, List.sum_cons, Res.ok.injEq, Prod.mk.injEq, true_and]
    omega

theorem sum_filterMap_cOpt (t : List Nat) (B : Nat) : ((List.range B).filterMap (cOpt t)).sum = cntLt t B := by
  induction B with
  | zero => simp [cntLt_zero]
  | succ B ih =>
    rw [List.range_succ, List.filterMap_append, List.sum_append, ih, cntLt_succ]
    by_cases h : t.count B = 0 <;> simp [cOpt, h]

/-- **translated `init_bucket_start` = mirror model** (every text; `cast` value-preserving on its symbols) -/
theorem init_bucket_start_spec (castU : Nat → Option Nat) (bs0 : VecMap) (bst0 t : List Nat)
    (hc : ∀ c ∈ t, castU c = some c) (hsz : t.length < 2 ^ 64) :
    ∃ m, SrcSaisBuckets.init_bucket_start castU bs0 bst0 t = Res.ok (m, initBucketStart t) ∧
      ∀ k, VecMap.get m k = cOpt t k := by
  obtain ⟨m, h1, h2⟩ := for1_spec castU t [] VecMap.empty hc (by intro k; simp [VecMap.get_empty, cOpt]) (by simpa using hsz)
  simp only [List.nil_append] at h2
  have hv : VecMap.values m = (bucketSizes t).filterMap id := by
    rw [VecMap.values_eq m (maxSucc t) (by
      intro k hk; rw [h2 k]; simp [cOpt, count_eq_zero_of_ge t k hk]), bucketSizes_eq, List.filterMap_map]
    have hf : VecMap.get m = id ∘ cOpt t := funext h2
    rw [hf]
  have hsum : ((bucketSizes t).filterMap id).sum ≤ t.length := by
    rw [bucketSizes_eq, List.filterMap_map]
    have : (id ∘ cOpt t) = cOpt t := rfl
    rw [this, sum_filterMap_cOpt]
    exact cntLt_le_length t _
  have h3 := for2_spec castU ((bucketSizes t).filterMap id) [] 0 (by omega)
  refine ⟨m, ?_, h2⟩
  unfold SrcSaisBuckets.init_bucket_start initBucketStart
  simp [h1, hv, h3]

/-- … for a dense text `bucket_start[c]` = number of symbols below `c` -/
theorem init_bucket_start_dense (castU : Nat → Option Nat) (bs0 : VecMap) (bst0 t : List Nat)
    (hc : ∀ c ∈ t, castU c = some c) (hsz : t.length < 2 ^ 64) (hd : ∀ c x, x ∈ t → c ≤ x → c ∈ t) :
    ∃ m, SrcSaisBuckets.init_bucket_start castU bs0 bst0 t = Res.ok (m, (List.range (maxSucc t)).map (cntLt t)) := by
  obtain ⟨m, h, _⟩ := init_bucket_start_spec castU bs0 bst0 t hc hsz
  exact ⟨m, by rw [h, initBucketStart_eq t hd]⟩

theorem end_for1_spec : ∀ (rs acc : List Nat), (∀ r ∈ rs, 1 ≤ r) →
    SrcSaisBuckets.init_bucket_end_for1 rs acc = Res.ok (acc ++ rs.map (· - 1)) := by
  intro rs
  induction rs with
  | nil => intro acc _; simp [SrcSaisBuckets.init_bucket_end_for1]
  | cons r rs ih =>
    intro acc h
    have e1 : Rs.sub r 1 = Res.ok (r - 1) := Rs.sub_ok (h r (by simp))
    have := ih (acc ++ [r - 1]) (fun x hx => h x (List.mem_cons_of_mem _ hx))
    simp [SrcSaisBuckets.init_bucket_end_for1, e1, this]

/-- **translated `init_bucket_end` = mirror model** whenever `bucket_start` is non-empty (`&bucket_start[1..]`), its later
entries are positive (`r - 1`) and the text is non-empty (`text.len() - 1`) -/
theorem init_bucket_end_spec (bst be0 t : List Nat) (hne : t ≠ []) (hb : bst ≠ []) (hpos : ∀ r ∈ bst.drop 1, 1 ≤ r) :
    SrcSaisBuckets.init_bucket_end bst be0 t = Res.ok (initBucketEnd bst t.length) := by
  have hl : 0 < t.length := List.length_pos_iff.mpr hne
  have hbl : 0 < bst.length := List.length_pos_iff.mpr hb
  have e1 : Rs.slice bst 1 bst.length = Res.ok bst.tail := by
    rw [Rs.slice_ok (by omega) (Nat.le_refl _)]
    congr 1
    rw [List.drop_one]
    exact List.take_of_length_le (by simp)
  have e2 : SrcSaisBuckets.init_bucket_end_for1 bst.tail [] = Res.ok (bst.tail.map (· - 1)) := by
    have := end_for1_spec bst.tail [] (by simpa using hpos)
    simpa using this
  have e3 : Rs.sub t.length 1 = Res.ok (t.length - 1) := Rs.sub_ok hl
  unfold SrcSaisBuckets.init_bucket_end initBucketEnd
  simp only [e1, e3, Res.pure_eq_ok, Res.ok_bind, e2, List.map_tail, List.drop_one]

/-- the hypotheses of `init_bucket_end_spec` hold after `init_bucket_start` on a text SA-IS accepts -/
theorem init_bucket_end_valid (be0 t : List Nat) (hv : Valid t) :
    SrcSaisBuckets.init_bucket_end (initBucketStart t) be0 t = Res.ok (initBucketEnd (initBucketStart t) t.length) := by
  have hne := hv.ne_nil
  rw [initBucketStart_eq t hv.dense]
  obtain ⟨x, hx, hm⟩ := maxSucc_witness t hne
  apply init_bucket_end_spec _ be0 t hne
  · intro e
    have : ((List.range (maxSucc t)).map (cntLt t)).length = 0 := by rw [e]; rfl
    simp at this; omega
  · intro r hr
    rw [← List.map_drop, List.range_eq_range', List.drop_range'] at hr
    obtain ⟨c, hc, rfl⟩ := List.mem_map.mp hr
    rw [List.mem_range'_1] at hc
    have h0 : (0 : Nat) ∈ t := hv.dense 0 x hx (Nat.zero_le _)
    have h1 : 1 ≤ t.count 0 := List.count_pos_iff.mpr h0
    have h2 : cntLt t 1 = t.count 0 := by
      have := cntLt_succ t 0
      rw [cntLt_zero] at this
      simpa using this
    have h3 := cntLt_mono t 1 c (by omega)
    omega

end RbV.Thm.GenSrcSaisBuckets
