import RbV.Gen.SrcPrescan
import RbV.Model.Occ
import RbV.Thm.GenSrcBasic
/-!
# The translated text of `utils::prescan` equals the mirror model `OccM.prescanGo`

`RbV/Gen/SrcPrescan.lean` is regenerated from `src/utils/mod.rs` by `tools/rs2lean.py` on every `./check C04`.  The Rust
function is generic in the element type and the operation and rewrites the slice in place through `iter_mut()`
(`let t = *v; *v = s; s = op(s, t)`); the translation threads the new prefix of the slice through the fold and returns
the new slice.  The model used by `less()` (`lessModel = prescanGo 0 (countArr …)`) is the instance `+` on `Nat`.
-/

namespace RbV.Thm.GenSrcPrescan
open RbV RbV.Rs RbV.Gen.SrcPrescan RbV.Thm.GenSrc

/-- the translated `for v in a.iter_mut()` loop: running sum and the rewritten prefix -/
theorem for_eq (l : List Nat) : ∀ (s : Nat) (acc : List Nat),
    l.foldlM (prescan_for1 (· + ·)) (s, acc) = Res.ok (s + l.sum, acc ++ OccM.prescanGo s l) := by
  induction l with
  | nil => intro s acc; simp [OccM.prescanGo]
  | cons v l ih =>
    intro s acc
    have hstep : prescan_for1 (· + ·) (s, acc) v = Res.ok (s + v, acc ++ [s]) := by
      simp [prescan_for1, Nat.add_comm]
    rw [List.foldlM_cons, hstep, Res.ok_bind, ih]
    simp [OccM.prescanGo, Nat.add_assoc]

/-- **`utils::prescan` as written in the source, instantiated with `+` on naturals, = `prescanGo`** (no panic is
possible: the function neither indexes nor does checked arithmetic itself; `op` is the caller's closure) -/
theorem prescan_eq_model (a : List Nat) (neutral : Nat) :
    prescan (· + ·) a neutral = Res.ok (OccM.prescanGo neutral a) := by
  simp [prescan, for_eq]

end RbV.Thm.GenSrcPrescan
