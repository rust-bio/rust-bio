import RbV.Basic.RsSem
import RbV.Thm.GenSrcBitsSimpAttr
/-! `rs_eval`: the monad laws of `Res` and the reduction of an `if` whose test has been rewritten to a literal, in the
spellings the translation produces (`decide p`, `x > y`, `!b`).  The proofs about translated bodies add the facts about
the operations of the body at hand. -/

attribute [rs_eval] RbV.Rs.Res.ok_bind RbV.Rs.Res.panic_bind RbV.Rs.Res.pure_eq_ok if_true if_false ite_true ite_false decide_true
  decide_false Bool.false_eq_true Bool.not_true Bool.not_false gt_iff_lt ge_iff_le not_false_eq_true not_true_eq_false
