import RbV.Gen.SrcSus
import RbV.Model.Sus
import RbV.Thm.GenSrcBasic
import RbV.Thm.GenSrcOk
/-!
# The translated text of `suffix_array::shortest_unique_substrings` equals the mirror model `Sus.susModel`

`RbV/Gen/SrcSus.lean` is regenerated from `src/data_structures/suffix_array.rs` by `tools/rs2lean_fm.py` (dialect "fmd") on
every `./check C03`.  The suffix array is read at the slice instance of `SuffixArray` (`get(i)` = `pos[i]?`), the LCP
array as the vector of its values (`Int`s; the container theorem `lcp_container_source_exact` says that the translated
`SmallInts` reads back like one).  Hypotheses = what keeps the code from panicking: the LCP array has `n + 1` entries,
the entries of `pos` are `≤ n`, and — the interesting one — `max(lcp[i], lcp[i+1])` is **not negative** for every row
(`… as usize` of `-1` is `usize::MAX`, and `1 + usize::MAX` overflows): true for every LCP array of a text with `n ≥ 2`,
false for the one-symbol text `$` (see docs/notes/C03.md).
-/
set_option linter.unusedSimpArgs false

namespace RbV.Thm.GenSrcSus
open RbV RbV.Rs RbV.Gen RbV.Thm.GenSrc RbV.Sus RbV.Kasai

theorem ofSigned_nonneg {k : Int} (h0 : 0 ≤ k) (h1 : k < 2 ^ 63) : Rs.ofSigned 64 k = k.toNat := by
  have e : k = ((k.toNat : Nat) : Int) := by omega
  have := p63
  rw [e, Rs.ofSigned_natCast (by omega)]
  omega

/-- hypotheses of the loop for row `i` -/
def RowOk (pos : List Nat) (lcp : List Int) (i : Nat) : Prop :=
  pos.getD i 0 ≤ pos.length ∧ 0 ≤ max (lcp.getD i 0) (lcp.getD (i + 1) 0) ∧ max (lcp.getD i 0) (lcp.getD (i + 1) 0) < 2 ^ 62

theorem for1_eq (pos : List Nat) (lcp : List Int) (hlen : lcp.length = pos.length + 1) (hn : pos.length + 1 < 2 ^ 63) :
    ∀ (is : List Nat) (sus : List (Option Nat)), (∀ i ∈ is, i < pos.length ∧ RowOk pos lcp i) → sus.length = pos.length →
      SrcSus.sus_for1 lcp pos pos.length is sus = Res.ok (is.foldl (susStep pos.length pos lcp) sus) := by
  intro is
  induction is with
  | nil => intro sus _ _; rfl
  | cons i rest ih =>
    intro sus hi hs
    obtain ⟨hin, hp, h0, h1⟩ := hi i List.mem_cons_self
    have hrest := fun s hs' => ih s (fun x hx => hi x (List.mem_cons_of_mem _ hx)) hs'
    have e1 : lcp[i]? = some (lcp.getD i 0) := by
      rw [List.getD_eq_getElem?_getD, List.getElem?_eq_getElem (by rw [hlen]; exact Nat.lt_succ_of_lt hin)]; rfl
    have e6 : pos[i]? = some (pos.getD i 0) := by
      rw [List.getD_eq_getElem?_getD, List.getElem?_eq_getElem hin]; rfl
    have e3 : (lcp[i + 1]?).getD 0 = lcp.getD (i + 1) 0 := by rw [List.getD_eq_getElem?_getD]
    rw [SrcSus.sus_for1, List.foldl_cons, susStep]
    have hi1 : i + 1 < 2 ^ 64 := by omega
    simp only [e1, e6, expect_some, Rs.add_ok hi1, Rs.add_ok_comm hi1, Res.ok_bind, e3,
      Int.max_comm (lcp.getD (i + 1) 0) (lcp.getD i 0)]
    generalize max (lcp.getD i 0) (lcp.getD (i + 1) 0) = m at h0 h1 ⊢
    generalize pos.getD i 0 = p at hp ⊢
    have hm1 : 1 + m.toNat < 2 ^ 64 := by omega
    simp only [ofSigned_nonneg h0 (by omega), Rs.add_ok hm1, Rs.add_ok_comm hm1, Res.ok_bind, Rs.sub_ok hp,
      decide_eq_true_eq, ge_iff_le]
    by_cases hc : 1 + m.toNat ≤ pos.length - p
    · simp only [hc, ↓reduceIte, Rs.setIdx_ok (l := sus) (i := p) (by omega), Res.ok_bind, Res.pure_eq_ok]
      exact hrest _ (by rw [List.length_set]; exact hs)
    · simp only [hc, ↓reduceIte, Res.ok_bind, Res.pure_eq_ok]
      exact hrest _ hs

/-- **translated `shortest_unique_substrings` = mirror model** -/
theorem sus_eq_model (pos : List Nat) (lcp : List Int) (hlen : lcp.length = pos.length + 1)
    (hn : pos.length + 1 < 2 ^ 63) (hrow : ∀ i, i < pos.length → RowOk pos lcp i) :
    SrcSus.sus pos lcp = Res.ok (susModel pos lcp) := by
  have h := for1_eq pos lcp hlen hn (List.range pos.length) (List.replicate pos.length none)
    (fun i hi => ⟨List.mem_range.mp hi, hrow i (List.mem_range.mp hi)⟩) (by simp)
  simp only [SrcSus.sus, Nat.sub_zero, ← List.range_eq_range', h, susModel]

/-! ### on the LCP array of a sorted suffix array (`n ≥ 2`) the hypotheses hold -/

/-- **the translated `shortest_unique_substrings`, run on a sorted suffix array and its LCP array, returns the length
of the shortest unique substring at every position** (`susRef`; `n ≥ 2`) -/
theorem sus_source_exact (t sa : List Nat) (h : Sorted t sa) (hn : 2 ≤ t.length) (hsz : t.length + 1 < 2 ^ 62) :
    SrcSus.sus sa (lcpRef t sa) = Res.ok ((List.range t.length).map (susRef t)) := by
  have hlen := h.length
  have hsa : sa ≠ [] := by intro e; rw [e] at hlen; simp at hlen; omega
  rw [← susModel_eq t sa h]
  apply sus_eq_model sa (lcpRef t sa) (length_lcpRef t sa hsa) (by omega)
  intro i hi
  refine ⟨?_, ?_⟩
  · have := (h.perm.mem_iff).mp (List.getD_mem sa i 0 hi)
    rw [List.mem_range] at this
    omega
  · -- each entry read is a neighbour's LCP (at most `n`) or `-1`, and with `n ≥ 2` every row has a neighbour
    obtain ⟨e1, e2⟩ := lcpRef_getD_row t sa h i (hlen ▸ hi)
    have b1 := nbPrev_le t sa i
    have b2 := nbNext_le t sa i
    have hx : (1 ≤ i → 0 ≤ (lcpRef t sa).getD i 0) ∧ (lcpRef t sa).getD i 0 ≤ t.length := by
      rw [e1]; split <;> omega
    have hy : (i + 1 < t.length → 0 ≤ (lcpRef t sa).getD (i + 1) 0) ∧ (lcpRef t sa).getD (i + 1) 0 ≤ t.length := by
      rw [e2]; split <;> omega
    generalize (lcpRef t sa).getD i 0 = x at hx
    generalize (lcpRef t sa).getD (i + 1) 0 = y at hy
    omega

end RbV.Thm.GenSrcSus
