import RbV.Gen.SrcWavelet
import RbV.Model.Wavelet
import RbV.Lemmas.RankSelectModel
import RbV.Lemmas.Wavelet
import RbV.Thm.GenSrcBasic
import RbV.Thm.GenSrcBitsSimp
/-!
# The translated text of `WaveletMatrix::{check_overflow, prank, rank}` equals the mirror model

`RbV/Gen/SrcWavelet.lean` is regenerated from `src/data_structures/wavelet_matrix.rs` by `tools/rs2lean.py` on every
`./check C17`.  `RankSelect` is an abstract type `ρ`; its `rank_0` / `rank_1` are abstract functions that may panic
(`ρ → Nat → Res (Option Nat)`).  The theorems assume (`LevelsOk`) that on the `level`-th element of `self.levels` they
return the declarative rank of that level's bit vector — which `Thm/GenSrcRankSelect.lean` proves for the translated
`RankSelect::rank_0/1` — and that `self.zeros[level]` is the number of zeros of that bit vector, all `width` bits long.
What the translation makes explicit and the proof discharges: `.unwrap()` never sees `None` because `spos ≤ epos ≤ width`
is an invariant of the level loop, `prank(..) + self.zeros[level]` does not overflow, the final `epos - spos` does not
underflow, `DNA2INT[val as usize]` is in bounds, `>> shift` shifts a `u8` by less than 8.
-/
-- the simp sets name every fact a harmless rewrite of the Rust text may need; on the present text some are unused
set_option linter.unusedSimpArgs false

namespace RbV.Thm.GenSrcWavelet
open RbV RbV.Rs RbV.Thm.GenSrc
open RbV.Model.Wavelet (Level bitOf rkSpec)
open RbV.Spec.RankSelect (rankRef)
open RbV.Lemmas.RankSelectModel (cnt cnt_mono cnt_le cnt_le_count count_true_add_false)
open RbV.Lemmas.Wavelet (model_prank rankLoop_cons)

variable {ρ : Type}

/-- what the wavelet functions assume about `self.levels` / `self.zeros`: `lvs` are the levels' bit vectors -/
structure LevelsOk (rank0 rank1 : ρ → Nat → Res (Option Nat)) (W : Nat) (zeros : List Nat) (levels : List ρ)
    (lvs : List Level) : Prop where
  len : levels.length = lvs.length
  zs : zeros = lvs.map (·.zeros)
  wf : ∀ lv : Level, lv ∈ lvs → lv.bits.length = W ∧ lv.zeros = lv.bits.count false
  rk : ∀ (level : Nat) (r : ρ) (lv : Level), levels[level]? = some r → lvs[level]? = some lv →
    ∀ i, rank1 r i = Res.ok (rankRef true lv.bits i) ∧ rank0 r i = Res.ok (rankRef false lv.bits i)

/-- `fn check_overflow`, as written -/
theorem checkOverflow_eq_model (rank0 rank1 : ρ → Nat → Res (Option Nat)) (W H : Nat) (zeros : List Nat)
    (levels : List ρ) (p : Nat) :
    Gen.SrcWavelet.checkOverflow rank0 rank1 W H zeros levels p = Res.ok (decide (W ≤ p)) := by
  simp only [rs_eval, Gen.SrcWavelet.checkOverflow]

/-- `fn prank`, as written, on an existing level returns the prefix count for every `p ≤ width` (`val` is 0 or 1): the
form the level loop works with -/
theorem prank_eq_cnt (rank0 rank1 : ρ → Nat → Res (Option Nat)) (W H : Nat) (zeros : List Nat) (levels : List ρ)
    (lvs : List Level) (hok : LevelsOk rank0 rank1 W zeros levels lvs) (level : Nat) (lv : Level)
    (hl : lvs[level]? = some lv) (b : Bool) (p : Nat) (hp : p ≤ W) :
    Gen.SrcWavelet.prank rank0 rank1 W H zeros levels level p (if b then 1 else 0) = Res.ok (cnt b lv.bits p) := by
  have hW := (hok.wf lv (List.mem_of_getElem? hl)).1
  by_cases h0 : p = 0
  · subst h0
    simp [Gen.SrcWavelet.prank, cnt]
  · have hlt : level < levels.length := by
      rw [hok.len]; exact (List.getElem?_eq_some_iff.mp hl).1
    have e1 : Rs.idx levels level = Res.ok levels[level] := Rs.idx_ok hlt
    have e2 : Rs.sub p 1 = Res.ok (p - 1) := Rs.sub_ok (by omega)
    have hr := hok.rk level levels[level] lv (List.getElem?_eq_getElem hlt) hl (p - 1)
    have h1 : p - 1 < lv.bits.length := by omega
    have h2 : p - 1 + 1 = p := by omega
    have hp0 : (p == 0) = false := by simp [h0]
    have hp0' : (p != 0) = true := by simp [h0]
    have hv1 : ((1 : Nat) == 0) = false := by decide
    have hv2 : ((1 : Nat) != 0) = true := by decide
    have hv3 : ((0 : Nat) != 0) = false := by decide
    have hv4 : ((0 : Nat) == 0) = true := by decide
    cases b <;>
      simp only [rs_eval, Gen.SrcWavelet.prank, hp0, hp0', hv1, hv2, hv3, hv4, e1, e2, hr.1, hr.2, rankRef, h1,
        Rs.unwrap_some, RbV.Spec.RankSelect.rank, h2, cnt, beq_self_eq_true]

/-- **`fn prank`, as written, is the model's `prank`** on an existing level for every `p ≤ width` (`val` is 0 or 1) -/
theorem prank_eq_model (rank0 rank1 : ρ → Nat → Res (Option Nat)) (W H : Nat) (zeros : List Nat) (levels : List ρ)
    (lvs : List Level) (hok : LevelsOk rank0 rank1 W zeros levels lvs) (level : Nat) (lv : Level)
    (hl : lvs[level]? = some lv) (b : Bool) (p : Nat) (hp : p ≤ W) :
    Gen.SrcWavelet.prank rank0 rank1 W H zeros levels level p (if b then 1 else 0)
      = Res.ok (Model.Wavelet.prank (rkSpec lvs level) p b) := by
  rw [model_prank lvs level lv hl b p (by rw [(hok.wf lv (List.mem_of_getElem? hl)).1]; exact hp)]
  exact prank_eq_cnt rank0 rank1 W H zeros levels lvs hok level lv hl b p hp

/-- the body of the level loop of `rank` on level `level` (shift `m`): both ends of the interval move to their rank among
the bits equal to the symbol's bit, behind the zeros if that bit is 1; nothing panics -/
theorem rank_for1_eq (rank0 rank1 : ρ → Nat → Res (Option Nat)) (W : Nat) (hW : W < 2 ^ 63) (zeros : List Nat)
    (levels : List ρ) (lvs : List Level) (hok : LevelsOk rank0 rank1 W zeros levels lvs) (hH : lvs.length ≤ 8)
    (table : List Nat) (c : Nat) (hc : c < table.length) (m level : Nat) (hlev : level + (m + 1) = lvs.length)
    (lv : Level) (hl : lvs[level]? = some lv) (spos epos : Nat) (hs : spos ≤ W) (he : epos ≤ W) (b : Bool)
    (hb : bitOf (fun v => table.getD v 0) m c = b) :
    Gen.SrcWavelet.rank_for1 rank0 rank1 lvs.length table c W lvs.length zeros levels (spos, epos) level
      = Res.ok (cnt b lv.bits spos + (if b then lv.zeros else 0), cnt b lv.bits epos + (if b then lv.zeros else 0)) := by
  have hwf := hok.wf lv (List.mem_of_getElem? hl)
  have hlt : level < lvs.length := (List.getElem?_eq_some_iff.mp hl).1
  have e1 : Rs.sub lvs.length level = Res.ok (lvs.length - level) := Rs.sub_ok (Nat.le_of_lt hlt)
  have e2 : Rs.sub (lvs.length - level) 1 = Res.ok (lvs.length - level - 1) := Rs.sub_ok (by omega)
  have hsh : lvs.length - level - 1 = m := by omega
  have e1' : Rs.add 64 level 1 = Res.ok (level + 1) := Rs.add_ok (by omega)
  have e2' : Rs.sub lvs.length (level + 1) = Res.ok (lvs.length - (level + 1)) := Rs.sub_ok hlt
  have hsh' : lvs.length - (level + 1) = m := by omega
  have e3 : Rs.idx table c = Res.ok (table.getD c 0) := idx_getD _ _ _ hc
  have e4 : ∀ x, Rs.shr 8 x m = Res.ok (x >>> m) := fun x => Rs.shr_ok (by omega)
  have e5 : Rs.idx zeros level = Res.ok lv.zeros := by
    rw [hok.zs]
    exact Rs.idx_of_getElem? (by rw [List.getElem?_map, hl]; rfl)
  have p1 := prank_eq_cnt rank0 rank1 W lvs.length zeros levels lvs hok level lv hl
  have hle := cnt_le_count true lv.bits
  have hcount := count_true_add_false lv.bits
  have b1 : ∀ x, Rs.add 64 (cnt true lv.bits x) lv.zeros = Res.ok (cnt true lv.bits x + lv.zeros) :=
    fun x => Rs.add_ok (by have := hle x; omega)
  have hb' : ((table.getD c 0 >>> m &&& 1) == 1) = b := hb
  have a1 := p1 b spos hs
  have a2 := p1 b epos he
  cases b <;> simp only [if_true, Bool.false_eq_true, if_false] at a1 a2 <;>
    simp only [rs_eval, Gen.SrcWavelet.rank_for1, e1, e2, hsh, e1', e2', hsh', e3, e4, hb', a1, a2, e5, b1, Nat.add_zero]

/-- the level loop of `rank`: the translated body folded over the levels `level, level+1, …` never panics, keeps
`spos ≤ epos ≤ width`, and ends with the pair whose difference the model's `rankLoop` returns -/
theorem rank_fold (rank0 rank1 : ρ → Nat → Res (Option Nat)) (W : Nat) (hW : W < 2 ^ 63) (zeros : List Nat)
    (levels : List ρ) (lvs : List Level) (hok : LevelsOk rank0 rank1 W zeros levels lvs) (hH : lvs.length ≤ 8)
    (table : List Nat) (c : Nat) (hc : c < table.length) :
    ∀ (m level spos epos : Nat), level + m = lvs.length → spos ≤ epos → epos ≤ W →
    ∃ S E, (List.range' level m).foldlM
        (Gen.SrcWavelet.rank_for1 rank0 rank1 lvs.length table c W lvs.length zeros levels) (spos, epos)
          = Res.ok (S, E) ∧ S ≤ E ∧
      E - S = Model.Wavelet.rankLoop (fun v => table.getD v 0) (rkSpec lvs) c (lvs.drop level) level spos epos := by
  intro m
  induction m with
  | zero =>
    intro level spos epos hlev hse _
    refine ⟨spos, epos, rfl, hse, ?_⟩
    rw [List.drop_eq_nil_of_le (by omega)]
    rfl
  | succ m ih =>
    intro level spos epos hlev hse hew
    have hlt : level < lvs.length := by omega
    have hl : lvs[level]? = some lvs[level] := List.getElem?_eq_getElem hlt
    have hwf := hok.wf lvs[level] (List.getElem_mem hlt)
    have hrest : (lvs.drop (level + 1)).length = m := by rw [List.length_drop]; omega
    have hsw : spos ≤ W := Nat.le_trans hse hew
    rw [List.range'_succ, List.foldlM_cons, List.drop_eq_getElem_cons hlt, rankLoop_cons, hrest,
      rank_for1_eq rank0 rank1 W hW zeros levels lvs hok hH table c hc m level hlev _ hl spos epos hsw hew _ rfl, Res.ok_bind,
      model_prank lvs level _ hl _ spos (by rw [hwf.1]; exact hsw), model_prank lvs level _ hl _ epos (by rw [hwf.1]; exact hew)]
    generalize bitOf (fun v => table.getD v 0) m c = b
    refine ih (level + 1) _ _ (by omega) (Nat.add_le_add_right (cnt_mono b lvs[level].bits hse) _) ?_
    have hcount := count_true_add_false lvs[level].bits
    have h1 := cnt_le_count true lvs[level].bits epos
    have h2 := cnt_le false lvs[level].bits epos
    cases b <;> simp only [if_true, Bool.false_eq_true, if_false] <;> omega

/-- **`WaveletMatrix::rank`, as written, is the model's `rank`** for every in-range position `p` (the assertion) and every
symbol `val` inside the code table, on every structure whose levels satisfy `LevelsOk` (at most 8 levels) -/
theorem rank_eq_model (rank0 rank1 : ρ → Nat → Res (Option Nat)) (W : Nat) (hW : W < 2 ^ 63) (zeros : List Nat)
    (levels : List ρ) (lvs : List Level) (hok : LevelsOk rank0 rank1 W zeros levels lvs) (hH : lvs.length ≤ 8)
    (table : List Nat) (c : Nat) (hc : c < table.length) (p : Nat) (hp : p < W) :
    Gen.SrcWavelet.rank rank0 rank1 W lvs.length zeros levels table c p
      = Res.ok (Model.Wavelet.rank (fun v => table.getD v 0) (rkSpec lvs) lvs c p) := by
  have e0 := checkOverflow_eq_model rank0 rank1 W lvs.length zeros levels p
  have hd : decide (W ≤ p) = false := by simp; omega
  have e1 : Rs.assert true = Res.ok () := rfl
  have e2 : Rs.add 64 p 1 = Res.ok (p + 1) := Rs.add_ok (by omega)
  obtain ⟨S, E, h1, h2, h3⟩ := rank_fold rank0 rank1 W hW zeros levels lvs hok hH table c hc lvs.length 0 0 (p + 1)
    (by omega) (by omega) (by omega)
  have e3 : Rs.sub E S = Res.ok (E - S) := Rs.sub_ok h2
  simp only [List.drop_zero] at h3
  simp only [rs_eval, Gen.SrcWavelet.rank, e0, hd, e1, e2, Nat.sub_zero, h1, e3, h3, Model.Wavelet.rank]

/-- the same with the number of levels as a variable -/
theorem rank_eq_model_of_length (rank0 rank1 : ρ → Nat → Res (Option Nat)) (W : Nat) (hW : W < 2 ^ 63) (zeros : List Nat)
    (levels : List ρ) (lvs : List Level) (hok : LevelsOk rank0 rank1 W zeros levels lvs) (H : Nat) (hl : lvs.length = H)
    (hH : H ≤ 8) (table : List Nat) (c : Nat) (hc : c < table.length) (p : Nat) (hp : p < W) :
    Gen.SrcWavelet.rank rank0 rank1 W H zeros levels table c p
      = Res.ok (Model.Wavelet.rank (fun v => table.getD v 0) (rkSpec lvs) lvs c p) := by
  subst hl
  exact rank_eq_model rank0 rank1 W hW zeros levels lvs hok hH table c hc p hp

/-- out-of-range positions are refused by the assertion -/
theorem rank_oob_panics (rank0 rank1 : ρ → Nat → Res (Option Nat)) (W H : Nat) (zeros : List Nat) (levels : List ρ)
    (table : List Nat) (c p : Nat) (hp : W ≤ p) :
    Gen.SrcWavelet.rank rank0 rank1 W H zeros levels table c p = Res.panic := by
  have e0 := checkOverflow_eq_model rank0 rank1 W H zeros levels p
  have hd : decide (W ≤ p) = true := by simp; omega
  simp only [rs_eval, Gen.SrcWavelet.rank, e0, hd, Rs.assert]

end RbV.Thm.GenSrcWavelet
