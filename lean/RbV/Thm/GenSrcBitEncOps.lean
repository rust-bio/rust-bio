import RbV.Gen.SrcBitEnc
import RbV.Model.BitEnc
import RbV.Lemmas.BitEnc
import RbV.Thm.GenSrcBitEnc
import RbV.Thm.GenSrcBitsSimp
/-!
# The translated text of `BitEnc::{new, push, set, get, clear, nr_blocks, nr_symbols/len, push_values}` equals the mirror model

`RbV/Gen/SrcBitEnc.lean` is regenerated from `src/data_structures/bitenc.rs` by `tools/rs2lean.py` on every `./check C18`.
A `BitEnc` value is the tuple of its fields `(storage, width, mask, len, usable_bits_per_block)`; `BitEnc::new(w)`
(translated too: `new_eq_model`) fixes `width = w`, `mask = mask(w)`, `usable_bits_per_block = 32 - 32 % w`, the mutators
return the fields they assign (`storage`, `len`).  The model state `Model.BitEnc.St` is `(storage, len)`.

What the translation makes explicit and the hypotheses discharge: `self.storage[block]` panics out of bounds — excluded
by the block-count invariant `Shape` (`storage.len() = ⌈len / ⌊32/w⌋⌉`, which `bitenc_refines` proves for every
history) —, `i * self.width`, `self.len + 1`, `self.len + n` are checked `usize` operations (bounds `< 2^64`), the
iterator `(bit..usable).step_by(width).take(n)` is evaluated before the loop (with the value `n` has then), `n -= 1`
inside the loop cannot underflow because of that `take(n)`.
-/
-- the simp sets name every fact a harmless rewrite of the Rust text may need; on the present text some are unused
set_option linter.unusedSimpArgs false

namespace RbV.Thm.GenSrcBitEncOps
open RbV RbV.Rs RbV.Thm.GenSrc RbV.Thm.GenSrcBitEnc
open RbV.Model.BitEnc (U32 usable St)
open RbV.Spec.BitEnc (specBlocks perBlock)
open RbV.Lemmas.BitEnc (per_pos blocks_lt ceil_of_mod_eq_zero ceil_of_mod_ne_zero le_ceil_mul ceil_pred_mul_lt addr_fst
  addr_snd_lt addr_snd_eq_zero fillLoop_len_add_rest Abs phase1 phase2 pushValues_eq)
open RbV.Lemmas.BitEncBits (usable_le)

/-- block-count invariant of a `BitEnc` state: exactly the blocks that hold `len` values -/
def Shape (w : Nat) (s : St) : Prop := s.storage.length = specBlocks w s.len


/-- `BitEnc::new(w)`, as written, returns the empty storage, `len = 0` and the field values the other theorems assume -/
theorem new_eq_model (w : Nat) (hw : 1 ≤ w ∧ w ≤ 8) :
    Gen.SrcBitEnc.new w
      = Res.ok (Model.BitEnc.new.storage, w, Model.BitEnc.mask w, Model.BitEnc.new.len, usable w) := by
  have e0 : Rs.assert (decide (w ≤ 8)) = Res.ok () := Rs.assert_ok (by simp [hw.2])
  have e1 := mask_eq_model w (by omega)
  have e2 : Rs.rem 32 w = Res.ok (32 % w) := Rs.rem_ok (by omega)
  have hle : 32 % w ≤ 32 := Nat.mod_le _ _
  have e3 : Rs.sub 32 (32 % w) = Res.ok (32 - 32 % w) := Rs.sub_ok hle
  simp only [rs_eval, Gen.SrcBitEnc.new, Model.BitEnc.new, usable, e0, e1, e2, e3]

/-- widths above 8 are refused by the assertion -/
theorem new_wide_panics (w : Nat) (hw : 8 < w) : Gen.SrcBitEnc.new w = Res.panic := by
  have e0 : Rs.assert (decide (w ≤ 8)) = Res.panic := by
    have : ¬ w ≤ 8 := by omega
    simp [Rs.assert, this]
  simp only [Gen.SrcBitEnc.new, e0, Res.panic_bind]

theorem block_lt_of_lt (w : Nat) (hw : 1 ≤ w ∧ w ≤ 8) (s : St) (hs : Shape w s) (i : Nat) (hi : i < s.len) :
    (Model.BitEnc.addr w i).1 < s.storage.length := by
  rw [addr_fst w i hw, hs]
  exact blocks_lt _ _ _ (per_pos w hw) hi

/-- the block-count half of `Abs` -/
theorem Shape.of_abs {w : Nat} {s : St} {l : List Nat} (h : Abs w s l) : Shape w s := h.2

/-- on a block boundary `push` addresses the block behind the last one … -/
theorem Shape.block_eq {w : Nat} (hw : 1 ≤ w ∧ w ≤ 8) {s : St} (hs : Shape w s) (hm : s.len % (32 / w) = 0) :
    (Model.BitEnc.addr w s.len).1 = s.storage.length := by
  rw [addr_fst w s.len hw, hs, specBlocks, perBlock, ceil_of_mod_eq_zero _ _ (per_pos w hw) hm]

/-- … otherwise the last one -/
theorem Shape.block_lt {w : Nat} (hw : 1 ≤ w ∧ w ≤ 8) {s : St} (hs : Shape w s) (hm : s.len % (32 / w) ≠ 0) :
    (Model.BitEnc.addr w s.len).1 < s.storage.length := by
  rw [addr_fst w s.len hw, hs, specBlocks, perBlock, ceil_of_mod_ne_zero _ _ (per_pos w hw) hm]
  exact Nat.lt_succ_self _

/-- the ways a Rust programmer writes "`x` is non-zero" (`x > 0`, `0 < x`, `x != 0`, `!(x == 0)`, `!(0 == x)`) -/
theorem pos_forms {x : Nat} (h : x > 0) :
    0 < x ∧ (0 == x) = false ∧ (x != 0) = true ∧ (x == 0) = false :=
  ⟨h, by simp; omega, by simp; omega, by simp; omega⟩

/-- … and "`x` is zero" -/
theorem zero_forms {x : Nat} (h : ¬ x > 0) :
    ¬ 0 < x ∧ (0 == x) = true ∧ (x != 0) = false ∧ (x == 0) = true := by
  have : x = 0 := by omega
  subst this
  simp

/-- `BitEnc::push`, as written, is the model's `push` on every state with the block-count invariant -/
theorem push_eq_model (w : Nat) (hw : 1 ≤ w ∧ w ≤ 8) (s : St) (hs : Shape w s) (hlen : s.len * w < 2 ^ 64)
    (hlen1 : s.len + 1 < 2 ^ 64) (v : Nat) :
    Gen.SrcBitEnc.push s.storage w (Model.BitEnc.mask w) s.len (usable w) v
      = Res.ok ((Model.BitEnc.push w s v).storage, (Model.BitEnc.push w s v).len) := by
  have e1 := addr_eq_model w s.len hw hlen
  have hbit := addr_snd_lt w s.len hw
  have hu := usable_le w
  have e3 : Rs.add 64 s.len 1 = Res.ok (s.len + 1) := Rs.add_ok hlen1
  have e3' : Rs.add 64 1 s.len = Res.ok (s.len + 1) := Rs.add_ok_comm hlen1
  by_cases h0 : (Model.BitEnc.addr w s.len).2 = 0
  · have hm := (addr_snd_eq_zero w s.len hw).mp h0
    have hb : (Model.BitEnc.addr w s.len).1 < (s.storage ++ [0]).length := by
      rw [hs.block_eq hw hm, List.length_append]
      simp
    have e2 := setByAddr_eq_model w (s.storage ++ [0]) _ _ v hb (by omega : (Model.BitEnc.addr w s.len).2 < 32)
    rw [h0] at e2
    -- other ways of writing the allocation test: `0 == bit`, `bit != 0`, `block == self.storage.len()`
    have hblk : ((Model.BitEnc.addr w s.len).1 == s.storage.length) = true := by
      rw [hs.block_eq hw hm]; simp
    have hblk' : (s.storage.length == (Model.BitEnc.addr w s.len).1) = true := by
      rw [beq_iff_eq]; exact (beq_iff_eq.mp hblk).symm
    simp only [rs_eval, Gen.SrcBitEnc.push, Model.BitEnc.push, e1, e2, e3, e3', h0, hblk, hblk', beq_self_eq_true,
      bne_self_eq_false, Nat.lt_irrefl, Nat.le_refl, Nat.not_lt_zero, Nat.le_zero_eq]
  · have hm : s.len % (32 / w) ≠ 0 := fun h => h0 ((addr_snd_eq_zero w s.len hw).mpr h)
    have hb := hs.block_lt hw hm
    have e2 := setByAddr_eq_model w s.storage _ _ v hb (by omega : (Model.BitEnc.addr w s.len).2 < 32)
    obtain ⟨hpos, hne', hne2, hne⟩ := pos_forms (Nat.pos_of_ne_zero h0)
    have hblk : ((Model.BitEnc.addr w s.len).1 == s.storage.length) = false := by
      rw [beq_eq_false_iff_ne]; omega
    have hblk' : (s.storage.length == (Model.BitEnc.addr w s.len).1) = false := by
      rw [beq_eq_false_iff_ne]; omega
    simp only [rs_eval, Gen.SrcBitEnc.push, Model.BitEnc.push, e1, e2, e3, e3', h0, hne, hne', hne2, hpos, hblk,
      hblk', Nat.le_zero_eq]

/-- `BitEnc::set`, as written, is the model's `set` whenever the addressed block exists (in particular for `i < len`) -/
theorem set_eq_model (w : Nat) (hw : 1 ≤ w ∧ w ≤ 8) (s : St) (i v : Nat) (hmul : i * w < 2 ^ 64)
    (hb : (Model.BitEnc.addr w i).1 < s.storage.length) :
    Gen.SrcBitEnc.set s.storage w (Model.BitEnc.mask w) s.len (usable w) i v
      = Res.ok (Model.BitEnc.set w s i v).storage := by
  have e1 := addr_eq_model w i hw hmul
  have hbit := addr_snd_lt w i hw
  have hu := usable_le w
  have e2 := setByAddr_eq_model w s.storage _ _ v hb (by omega : (Model.BitEnc.addr w i).2 < 32)
  simp only [rs_eval, Gen.SrcBitEnc.set, Model.BitEnc.set, e1, e2]

/-- `set` does not touch `len` (the translated function returns `storage` only) -/
theorem set_len (w : Nat) (s : St) (i v : Nat) : (Model.BitEnc.set w s i v).len = s.len := rfl

/-- `BitEnc::get`, as written, is the model's `get` (in range: the value; out of range: `None`, no panic) -/
theorem get_eq_model (w : Nat) (hw : 1 ≤ w ∧ w ≤ 8) (s : St) (hs : Shape w s) (hlen : s.len * w < 2 ^ 64) (i : Nat) :
    Gen.SrcBitEnc.get s.storage w (Model.BitEnc.mask w) s.len (usable w) i = Res.ok (Model.BitEnc.get w s i) := by
  by_cases hi : i ≥ s.len
  · have hi2 : ¬ i < s.len := by omega
    have hi3 : s.len ≤ i := by omega
    simp only [rs_eval, Gen.SrcBitEnc.get, Model.BitEnc.get, hi, hi2, hi3]
  · have hi' : i < s.len := by omega
    have hi3 : ¬ s.len ≤ i := by omega
    have hmul : i * w < 2 ^ 64 := Nat.lt_of_le_of_lt (Nat.mul_le_mul_right w (by omega)) hlen
    have e1 := addr_eq_model w i hw hmul
    have hbit := addr_snd_lt w i hw
    have hu := usable_le w
    have hb := block_lt_of_lt w hw s hs i hi'
    have e2 := getByAddr_eq_model w hw.2 s.storage _ _ hb (by omega : (Model.BitEnc.addr w i).2 < 32)
    simp only [rs_eval, Gen.SrcBitEnc.get, Model.BitEnc.get, hi, hi', hi3, e1, e2]

/-- `BitEnc::clear`, as written -/
theorem clear_eq_model (w m u : Nat) (s : St) :
    Gen.SrcBitEnc.clear s.storage w m s.len u
      = Res.ok ((Model.BitEnc.clear s).storage, (Model.BitEnc.clear s).len) := by
  simp only [Gen.SrcBitEnc.clear, Model.BitEnc.clear, Res.pure_eq_ok]

/-- `BitEnc::nr_blocks`, as written -/
theorem nrBlocks_eq_model (w m u : Nat) (s : St) :
    Gen.SrcBitEnc.nrBlocks s.storage w m s.len u = Res.ok (Model.BitEnc.nrBlocks s) := by
  simp only [Gen.SrcBitEnc.nrBlocks, Model.BitEnc.nrBlocks, Res.pure_eq_ok]

/-- `BitEnc::nr_symbols` and the deprecated `BitEnc::len`, as written -/
theorem nrSymbols_eq_model (w m u : Nat) (s : St) :
    Gen.SrcBitEnc.nrSymbols s.storage w m s.len u = Res.ok s.len ∧
    Gen.SrcBitEnc.len s.storage w m s.len u = Res.ok s.len := by
  simp only [Gen.SrcBitEnc.nrSymbols, Gen.SrcBitEnc.len, Res.pure_eq_ok, and_self]


theorem filterMap_range_eq (f : Nat → Option Nat) (b w : Nat) : ∀ M, (∀ j, j < M → f j = some (b + w * j)) →
    (List.range M).filterMap f = List.range' b M w := by
  intro M
  induction M with
  | zero => intro _; rfl
  | succ M ih =>
    intro h
    rw [List.range_succ, List.filterMap_append, ih (fun j hj => h j (by omega)), List.range'_concat]
    simp [h M (by omega)]

/-- `(b..b+x).step_by(w)` yields `b, b+w, …` — `⌈x / w⌉` items -/
theorem stepBy_range' (b x w : Nat) (hw : 0 < w) :
    Rs.stepByIdx (List.range' b x) w = Res.ok (List.range' b ((x + w - 1) / w) w) := by
  rw [Rs.stepByIdx_ok hw]
  congr 1
  simp only [List.length_range']
  apply filterMap_range_eq
  intro j hj
  have h1 := (Nat.le_div_iff_mul_le hw).mp (show j + 1 ≤ (x + w - 1) / w by omega)
  rw [Nat.add_mul] at h1
  rw [List.getElem?_range' (by omega), Nat.mul_comm j w, Nat.one_mul]

/-- the fill-up loop: the translated `for` body folded over the first `n` items of `b, b+w, …` (all below the usable
bits, the next one not) is the model's `fillLoop`; `n -= 1` never underflows -/
theorem fill_fold (w block value : Nat) : ∀ (M n b : Nat) (s : St), block < s.storage.length →
    (∀ j, j < M → b + j * w < usable w) → usable w ≤ b + M * w → s.len + n < 2 ^ 64 →
    ((List.range' b M w).take n).foldlM (Gen.SrcBitEnc.pushValues_for1 (Model.BitEnc.mask w) block value)
        (s.storage, n, s.len)
      = Res.ok ((Model.BitEnc.fillLoop w block value b n s).1.storage, (Model.BitEnc.fillLoop w block value b n s).2,
          (Model.BitEnc.fillLoop w block value b n s).1.len) := by
  intro M
  induction M with
  | zero =>
    intro n b s _ _ hstop _
    have hb : ¬ b < usable w := by omega
    cases n <;> simp [Model.BitEnc.fillLoop, hb]
  | succ M ih =>
    intro n b s hblk hin hstop hlen
    cases n with
    | zero => simp [Model.BitEnc.fillLoop]
    | succ n =>
      have hb : b < usable w := by simpa using hin 0 (by omega)
      have hu := usable_le w
      have e1 := setByAddr_eq_model w s.storage block b value hblk (by omega)
      have e2 : Rs.sub (n + 1) 1 = Res.ok n := Rs.sub_ok (by omega)
      have e3 : Rs.add 64 s.len 1 = Res.ok (s.len + 1) := Rs.add_ok (by omega)
      have hblk' : block < (Model.BitEnc.setByAddr w s.storage block b value).length := by
        simpa [Model.BitEnc.setByAddr] using hblk
      have hin' : ∀ j, j < M → b + w + j * w < usable w := by
        intro j hj
        have := hin (j + 1) (by omega)
        rw [Nat.succ_mul] at this
        omega
      have hstop' : usable w ≤ b + w + M * w := by
        rw [Nat.succ_mul] at hstop
        omega
      have := ih n (b + w) { storage := Model.BitEnc.setByAddr w s.storage block b value, len := s.len + 1 } hblk' hin'
        hstop' (by simp only; omega)
      rw [List.range'_succ, List.take_succ_cons, List.foldlM_cons]
      simp only [rs_eval, Gen.SrcBitEnc.pushValues_for1, e1, e2, e3, bind_pure_comp]
      simp only [Model.BitEnc.fillLoop, hb, if_true]
      exact this

/-- `for _ in 0..32 / width { value_block |= v; v <<= width; }` over any `k`-item range -/
theorem valueBlock_fold (w : Nat) (hw : w < 32) : ∀ (L : List Nat) (acc v : Nat),
    ∃ v', L.foldlM (Gen.SrcBitEnc.pushValues_for2 w) (acc, v)
      = Res.ok (Model.BitEnc.valueBlockLoop w L.length v acc, v') := by
  intro L
  induction L with
  | nil => intro acc v; exact ⟨v, rfl⟩
  | cons a L ih =>
    intro acc v
    have e1 : Rs.shl 32 v w = Res.ok ((v <<< w) % U32) := Rs.shl_ok hw
    obtain ⟨v', h⟩ := ih (acc ||| v) ((v <<< w) % U32)
    refine ⟨v', ?_⟩
    rw [List.foldlM_cons]
    simp only [rs_eval, Gen.SrcBitEnc.pushValues_for2, e1, List.length_cons, Model.BitEnc.valueBlockLoop]
    exact h

theorem resize_eq_model (st : List Nat) (n x : Nat) : Rs.resize st n x = Model.BitEnc.resize st n x := rfl

/-- the second half of `push_values`: every checked operation there succeeds, in the order of the text `32 / width`, the
value-block loop, `len + n`, `addr`, `usable - bit` and the final `>>` -/
theorem phase2_facts (w : Nat) (hw : 1 ≤ w ∧ w ≤ 8) (len1 n1 v : Nat)
    (hlen : (len1 + n1) * w < 2 ^ 64) (hlen1 : len1 + n1 < 2 ^ 64) :
    Rs.div 32 w = Res.ok (32 / w) ∧
    (∃ v', (List.range' 0 (32 / w)).foldlM (Gen.SrcBitEnc.pushValues_for2 w) (0, v &&& Model.BitEnc.mask w)
      = Res.ok (Model.BitEnc.valueBlock w v, v')) ∧
    Rs.add 64 len1 n1 = Res.ok (len1 + n1) ∧
    Gen.SrcBitEnc.addr w (usable w) (len1 + n1) = Res.ok (Model.BitEnc.addr w (len1 + n1)) ∧
    Rs.sub (usable w) (Model.BitEnc.addr w (len1 + n1)).2
        = Res.ok (usable w - (Model.BitEnc.addr w (len1 + n1)).2) ∧
    ((Model.BitEnc.addr w (len1 + n1)).2 > 0 → ∀ x, Rs.shr 32 x (usable w - (Model.BitEnc.addr w (len1 + n1)).2)
          = Res.ok (x >>> (usable w - (Model.BitEnc.addr w (len1 + n1)).2))) := by
  have hbit := addr_snd_lt w (len1 + n1) hw
  have hu := usable_le w
  obtain ⟨v', e6⟩ := valueBlock_fold w (by omega) (List.range' 0 (32 / w)) 0 (v &&& Model.BitEnc.mask w)
  simp only [List.length_range'] at e6
  exact ⟨Rs.div_ok (by omega), ⟨v', e6⟩, Rs.add_ok hlen1, addr_eq_model w (len1 + n1) hw hlen, Rs.sub_ok (by omega),
    fun hb x => Rs.shr_ok (by omega)⟩

/-- **`BitEnc::push_values`, as written, is the model's `pushValues`** on every state with the block-count invariant,
for every count and value, as long as the new length (in bits) fits `usize` -/
theorem pushValues_eq_model (w : Nat) (hw : 1 ≤ w ∧ w ≤ 8) (s : St) (hs : Shape w s) (n v : Nat)
    (hlen : (s.len + n) * w < 2 ^ 64) (hlen1 : s.len + n < 2 ^ 64) :
    Gen.SrcBitEnc.pushValues s.storage w (Model.BitEnc.mask w) s.len (usable w) n v
      = Res.ok ((Model.BitEnc.pushValues w s n v).storage, (Model.BitEnc.pushValues w s n v).len) := by
  rw [pushValues_eq]
  have e0 := addr_eq_model w s.len hw (Nat.lt_of_le_of_lt (Nat.mul_le_mul_right w (by omega)) hlen)
  have hbit := addr_snd_lt w s.len hw
  have hw0 : 0 < w := by omega
  have hP : phase1 w s n v
      = if (Model.BitEnc.addr w s.len).2 > 0
        then Model.BitEnc.fillLoop w (Model.BitEnc.addr w s.len).1 v (Model.BitEnc.addr w s.len).2 n s else (s, n) := rfl
  have hsum : (phase1 w s n v).1.len + (phase1 w s n v).2 = s.len + n := by
    rw [hP]; split
    · exact fillLoop_len_add_rest w _ v n _ s
    · rfl
  obtain ⟨e5, ⟨v', e6⟩, e7, e8, e9, e10⟩ := phase2_facts w hw (phase1 w s n v).1.len
    (phase1 w s n v).2 v (by rw [hsum]; exact hlen) (by rw [hsum]; exact hlen1)
  have e1 := stepBy_range' (Model.BitEnc.addr w s.len).2 (usable w - (Model.BitEnc.addr w s.len).2) w hw0
  have e2 : (Model.BitEnc.addr w s.len).2 > 0 →
      ((List.range' (Model.BitEnc.addr w s.len).2
          ((usable w - (Model.BitEnc.addr w s.len).2 + w - 1) / w) w).take n).foldlM
        (Gen.SrcBitEnc.pushValues_for1 (Model.BitEnc.mask w) (Model.BitEnc.addr w s.len).1 v) (s.storage, n, s.len)
      = Res.ok ((phase1 w s n v).1.storage, (phase1 w s n v).2,
          (phase1 w s n v).1.len) := by
    intro h0
    have hm : s.len % (32 / w) ≠ 0 := by
      intro h
      have := (addr_snd_eq_zero w s.len hw).mpr h
      omega
    have hb := hs.block_lt hw hm
    have hin : ∀ j, j < (usable w - (Model.BitEnc.addr w s.len).2 + w - 1) / w →
        (Model.BitEnc.addr w s.len).2 + j * w < usable w := by
      intro j hj
      have h1 : j * w ≤ ((usable w - (Model.BitEnc.addr w s.len).2 + w - 1) / w - 1) * w :=
        Nat.mul_le_mul_right w (by omega)
      have := ceil_pred_mul_lt w (usable w - (Model.BitEnc.addr w s.len).2) (by omega)
      omega
    have hstop : usable w ≤ (Model.BitEnc.addr w s.len).2
        + (usable w - (Model.BitEnc.addr w s.len).2 + w - 1) / w * w := by
      have := le_ceil_mul w (usable w - (Model.BitEnc.addr w s.len).2) hw0
      omega
    rw [hP, if_pos h0]
    exact fill_fold w _ v _ n _ s hb hin hstop hlen1
  have hP0 : ¬ (Model.BitEnc.addr w s.len).2 > 0 → phase1 w s n v = (s, n) := by
    intro h0; rw [hP, if_neg h0]
  unfold phase2
  -- the swapped operand order of `self.len + n`
  have e7' : Rs.add 64 (phase1 w s n v).2 (phase1 w s n v).1.len
      = Res.ok ((phase1 w s n v).1.len + (phase1 w s n v).2) :=
    Rs.add_ok_comm (by omega)
  -- first the fill-up block of the text is evaluated, in both cases to the components of `phase1`; then the rest
  by_cases h0 : (Model.BitEnc.addr w s.len).2 > 0
  case' pos =>
    have e2' := e2 h0
    obtain ⟨a1, a2, a3, a4⟩ := pos_forms h0
    simp only [rs_eval, Gen.SrcBitEnc.pushValues, e0, h0, a1, a2, a3, a4, e1, e2']
  case' neg =>
    have e2' : Res.ok (s.storage, n, s.len) = Res.ok ((phase1 w s n v).1.storage,
        (phase1 w s n v).2, (phase1 w s n v).1.len) := by rw [hP0 h0]
    obtain ⟨a1, a2, a3, a4⟩ := zero_forms h0
    simp only [rs_eval, Gen.SrcBitEnc.pushValues, e0, h0, a1, a2, a3, a4, e2']
  all_goals
    by_cases h1 : (phase1 w s n v).2 > 0
    · obtain ⟨b1, b2, b3, b4⟩ := pos_forms h1
      by_cases h2 : (Model.BitEnc.addr w ((phase1 w s n v).1.len + (phase1 w s n v).2)).2 > 0
      · have e10' := e10 h2
        obtain ⟨c1, c2, c3, c4⟩ := pos_forms h2
        simp only [rs_eval, h1, h2, b1, b2, b3, b4, c1, c2, c3, c4, e5, e6, e7, e7', e8, e9, e10', Nat.sub_zero,
          resize_eq_model]
      · obtain ⟨c1, c2, c3, c4⟩ := zero_forms h2
        simp only [rs_eval, h1, h2, b1, b2, b3, b4, c1, c2, c3, c4, e5, e6, e7, e7', e8, Nat.sub_zero, resize_eq_model]
    · obtain ⟨b1, b2, b3, b4⟩ := zero_forms h1
      simp only [rs_eval, h1, b1, b2, b3, b4]

open RbV.Spec.BitEnc (Op specStep)
open RbV.Lemmas.BitEnc (abs_step)

/-- one operation of a history executed with the **translated** functions on the fields `(storage, len)` of a `BitEnc`
whose other fields are `width`, `mask`, `usable` (observers return the state unchanged, but must not panic) -/
def srcStep (width mask usable : Nat) (st : List Nat × Nat) : Op → Res (List Nat × Nat)
  | .push v => Gen.SrcBitEnc.push st.1 width mask st.2 usable v
  | .pushValues n v => Gen.SrcBitEnc.pushValues st.1 width mask st.2 usable n v
  | .set i v => do
      let storage ← Gen.SrcBitEnc.set st.1 width mask st.2 usable i v
      pure (storage, st.2)
  | .get i => do
      let _ ← Gen.SrcBitEnc.get st.1 width mask st.2 usable i
      pure st
  | .iter => pure st
  | .clear => Gen.SrcBitEnc.clear st.1 width mask st.2 usable

/-- a history the Rust code accepts without leaving the modelled behaviour: every `set` addresses an existing element
(beyond the end `set_by_addr` may index out of bounds) and the length in bits always fits `usize` -/
def OpsOk (w : Nat) : List Nat → List Op → Prop
  | _, [] => True
  | l, op :: ops =>
    (match op with | .set i _ => i < l.length | _ => True) ∧ (specStep w l op).length * w < 2 ^ 64 ∧
      OpsOk w (specStep w l op) ops

theorem srcStep_eq_model (w : Nat) (hw : 1 ≤ w ∧ w ≤ 8) (s : St) (l : List Nat) (h : Abs w s l) (op : Op)
    (hset : match op with | .set i _ => i < l.length | _ => True) (hlen : (specStep w l op).length * w < 2 ^ 64) :
    srcStep w (Model.BitEnc.mask w) (usable w) (s.storage, s.len) op
      = Res.ok ((Model.BitEnc.step w s op).storage, (Model.BitEnc.step w s op).len) := by
  have hs := Shape.of_abs h
  have hl : s.len = l.length := h.1.1
  have hmono : ∀ a b : Nat, a ≤ b → b * w < 2 ^ 64 → a * w < 2 ^ 64 :=
    fun a b hab hb => Nat.lt_of_le_of_lt (Nat.mul_le_mul_right w hab) hb
  have hw1 : ∀ a : Nat, a * w < 2 ^ 64 → a < 2 ^ 64 := by
    intro a ha
    have : a * 1 ≤ a * w := Nat.mul_le_mul_left a hw.1
    omega
  cases op with
  | push v =>
    simp only [specStep, List.length_append, List.length_singleton] at hlen
    have := push_eq_model w hw s hs (hmono _ _ (by omega) hlen) (by rw [hl]; exact hw1 _ hlen) v
    simpa only [srcStep, Model.BitEnc.step] using this
  | pushValues n v =>
    simp only [specStep, List.length_append, List.length_replicate] at hlen
    have := pushValues_eq_model w hw s hs n v (by rw [hl]; exact hlen) (by rw [hl]; exact hw1 _ hlen)
    simpa only [srcStep, Model.BitEnc.step] using this
  | set i v =>
    simp only [specStep, List.length_set] at hlen
    simp only at hset
    have := set_eq_model w hw s i v (hmono _ _ (by omega) hlen) (block_lt_of_lt w hw s hs i (by omega))
    simp only [rs_eval, srcStep, Model.BitEnc.step, this, set_len]
  | get i =>
    simp only [specStep] at hlen
    have := get_eq_model w hw s hs (by rw [hl]; exact hlen) i
    simp only [rs_eval, srcStep, Model.BitEnc.step, this]
  | iter => simp only [srcStep, Model.BitEnc.step, Res.pure_eq_ok]
  | clear =>
    have := clear_eq_model w (Model.BitEnc.mask w) (usable w) s
    simpa only [srcStep, Model.BitEnc.step] using this

/-- a whole history run through the translated operations reaches exactly the model's state -/
theorem run_eq_model (w : Nat) (hw : 1 ≤ w ∧ w ≤ 8) (ops : List Op) : ∀ (s : St) (l : List Nat), Abs w s l →
    OpsOk w l ops →
    ops.foldlM (srcStep w (Model.BitEnc.mask w) (usable w)) (s.storage, s.len)
      = Res.ok ((ops.foldl (Model.BitEnc.step w) s).storage, (ops.foldl (Model.BitEnc.step w) s).len) := by
  induction ops with
  | nil => intro s l _ _; rfl
  | cons op ops ih =>
    intro s l h hok
    obtain ⟨h1, h2, h3⟩ := hok
    rw [List.foldlM_cons, srcStep_eq_model w hw s l h op h1 h2]
    exact ih _ _ (abs_step w s l op hw h) h3

theorem opsOk_final_len (w : Nat) (ops : List Op) : ∀ l : List Nat, l.length * w < 2 ^ 64 → OpsOk w l ops →
    (ops.foldl (specStep w) l).length * w < 2 ^ 64 := by
  induction ops with
  | nil => intro l h _; exact h
  | cons op ops ih => intro l _ hok; exact ih _ hok.2.1 hok.2.2

end RbV.Thm.GenSrcBitEncOps
