import RbV.Spec.QGram
import RbV.Spec.KChain
import RbV.Lemmas.QGram
import RbV.Lemmas.KChain
import RbV.Lemmas.QGramIter
import RbV.Lemmas.QGramExact
import RbV.Lemmas.QGramMatches
import RbV.Lemmas.QGramIndex
import RbV.Lemmas.QGramExactModel
import RbV.Thm.GenSrcQGrams
import RbV.Thm.GenSrcQGramIndex
import RbV.Thm.GenSrcAlphabet
import RbV.Lemmas.KChainFwd
import RbV.Lemmas.LcskppFinal
import RbV.Lemmas.SdpkppUnion
import RbV.Lemmas.KmerHash
import RbV.Lemmas.Expand
import RbV.Thm.GenSrcLcskpp
import RbV.Thm.GenSrcSdpkpp
import RbV.Thm.GenSrcKmerMatches
import RbV.Thm.GenSrcQGramExact
/-!
# C19 — k-mer / q-gram indexing and sparse chaining are exact

The property theorems; the proofs cite `RbV/Lemmas/{QGram*,KChain*,KmerHash,Expand,Lcskpp*,Sdpkpp*}.lean` (specifications
and mirror models in `RbV/Spec`, `RbV/Model`) and `RbV/Thm/GenSrc{QGrams,Alphabet,QGramIndex,QGramExact,KmerMatches,Lcskpp,Sdpkpp}.lean`
(the translated source text = the mirror models).  The driver (`RbV/Drv/C19.lean`) evaluates `fwdCodes`, `qgramPositions`,
`matchesRef`, `exactMatchesRef`, `kmerMatches`, `validChain`, `score` and `lcskDP`; the theorems say what these are, for all
inputs.  Sections, in file order: q-gram codes and the iterators' source text; the q-gram index (position lists,
`with_max_count`'s source text; hits, `exact_matches`, `matches` as reference and mirror model); k-mer matches (reference,
hash-map model); the source text of `exact_matches`; the source text of `hash_kmers` / `find_kmer_matches*`; `expand_kmer_matches`
(mirror model only); chains and the reference optimum `lcskDP`; `lcskpp` (model, then source text); `sdpkpp` and the union path
(models, then source text); at the end the composition `lcskpp_on_expansion_optimal` and `score_counts`.
-/
namespace RbV.Thm.C19
open RbV RbV.QGram RbV.KChain

/-! ## q-gram codes -/

/-- the width used for one symbol is `⌈log₂ |A|⌉`: large enough, and the least such -/
theorem width_is_ceil_log2 (n b : Nat) : n ≤ 2 ^ bitsFor n ∧ (n ≤ 2 ^ b → bitsFor n ≤ b) :=
  ⟨le_two_pow_bitsFor n, bitsFor_min n b⟩

/-- every rank fits into the width -/
theorem rank_fits (alpha : List Nat) (c : Nat) (hc : c ∈ alpha) : rank alpha c < 2 ^ bitsFor alpha.length :=
  rank_lt_two_pow hc

/-- **q-gram rank codes are injective**: two q-grams (words of equal length over the alphabet) with the same
code are the same word — for every alphabet, whatever its size. -/
theorem qgram_code_injective (alpha u v : List Nat) (hu : ∀ c ∈ u, c ∈ alpha) (hv : ∀ c ∈ v, c ∈ alpha)
    (hl : u.length = v.length)
    (h : code (bitsFor alpha.length) (u.map (rank alpha)) = code (bitsFor alpha.length) (v.map (rank alpha))) :
    u = v :=
  code_rank_injective alpha u v hu hv hl h

/-- a q-gram code occupies at most `bits · q` bits -/
theorem qgram_code_bound (alpha w : List Nat) (hw : ∀ c ∈ w, c ∈ alpha) :
    code (bitsFor alpha.length) (w.map (rank alpha)) < 2 ^ (bitsFor alpha.length * w.length) := by
  have := code_lt (bitsFor alpha.length) (w.map (rank alpha))
    (by intro r hr; rcases List.mem_map.mp hr with ⟨c, hc, rfl⟩; exact rank_fits alpha c (hw c hc))
  simpa using this

example : code 2 [2, 1] = 9 ∧ code 2 [1, 2, 0] = 24 := by decide

/-- the reference code list: one code per window of length `q`, left to right -/
theorem fwdCodes_spec (alpha : List Nat) (q : Nat) (text : List Nat) :
    (fwdCodes alpha q text).length = text.length + 1 - q ∧
    ∀ i, i + q ≤ text.length → 0 < q →
      (fwdCodes alpha q text)[i]? = some (code (bitsFor alpha.length) (((text.drop i).take q).map (rank alpha))) := by
  constructor
  · simp [fwdCodes, windows]
  · intro i hi hq
    simp only [fwdCodes, windows, List.getElem?_map, List.length_map]
    rw [List.getElem?_range (by omega)]
    simp [window, List.map_take, List.map_drop]

/-- **mirror model of `QGrams`** (rolling `<<=`, `|=`, `&= mask` on 64-bit words, first `q−1` values consumed): for
every alphabet, every `q ≥ 1` with `q·bits ≤ 64` and every text over the alphabet it yields exactly the reference
codes -/
theorem qgrams_model_refines (alpha : List Nat) (q : Nat) (text : List Nat) (hq : 0 < q)
    (hqb : q * bitsFor alpha.length ≤ 64) (ht : ∀ c ∈ text, c ∈ alpha) :
    qgramsModel alpha q text = fwdCodes alpha q text :=
  qgramsModel_eq alpha q text hq hqb ht

/-- **reverse iteration mirrors forward iteration**: the model of `RevQGrams` (`>>=`, `|= a << (q−1)·bits`, symbols
taken from the back) yields the forward codes in reverse order -/
theorem rev_qgrams_mirror (alpha : List Nat) (q : Nat) (text : List Nat) (hq : 0 < q)
    (hqb : q * bitsFor alpha.length ≤ 64) (ht : ∀ c ∈ text, c ∈ alpha) :
    revQgramsModel alpha q text = (qgramsModel alpha q text).reverse := by
  rw [qgramsModel_eq alpha q text hq hqb ht, revQgramsModel_eq alpha q text hq ht]

example : qgramsModel [65, 67, 71, 84, 97, 99, 103, 116] 2 [65, 67, 71, 84] = [1, 10, 19] ∧
    revQgramsModel [65, 67, 71, 84, 97, 99, 103, 116] 2 [65, 67, 71, 84] = [19, 10, 1] := by decide

/-! ### the source text of the q-gram iterators (translated on every run, `Gen/SrcQGrams.lean`)

`tools/rs2lean.py` translates `qgram_push`, `QGrams::next`, `RankTransform::qgrams` and the reverse counterparts; abstract
parameters: `rankGet` (= `RankTransform::get`, translated and proved for C20; here any function that returns the model's
rank on the symbols of the text), `ranksLen` (= `self.ranks.len()`), `ceilLog2` (= `(n as f32).log2().ceil() as u32`: the
`f32` computation stays outside, hypothesis `ceilLog2 ranksLen = bitsFor |alpha|`).  `GenSrcQGrams.collectNext` calls the
translated `next` until it returns `None`.  `Rs.Res.ok v` = no panic, result `v`. -/

/-- `qgram_push` as written in the source is the model's `pushFwd` (`<<=`, `|=`, `&= mask` on 64-bit words) -/
theorem qgram_push_source_eq_model (rg : Nat → Rs.Res Nat) (cl : Nat → Nat) (rl qg bits mask a : Nat) (hb : bits < 64) :
    Gen.SrcQGrams.qgramPush rg cl rl qg bits mask a = Rs.Res.ok (pushFwd bits mask qg a) :=
  GenSrcQGrams.qgramPush_eq_model rg cl rl qg bits mask a hb

/-- **`RankTransform::qgrams` + `QGrams::next` as written in the source = the reference codes**: for every alphabet,
`q ≥ 1` with `q·bits ≤ 64` and every text over the alphabet, the translated constructor passes its assertions, computes
the model's mask, and the translated iterator yields exactly `qgramsModel = fwdCodes` -/
theorem qgrams_source_eq_model (alpha : List Nat) (rg : Nat → Rs.Res Nat) (cl : Nat → Nat) (rl q : Nat) (text : List Nat)
    (hq : 0 < q) (hqb : q * bitsFor alpha.length ≤ 64) (hb : bitsFor alpha.length < 64)
    (hcl : cl rl = bitsFor alpha.length) (ht : ∀ c ∈ text, c ∈ alpha) (hrg : ∀ c ∈ text, rg c = Rs.Res.ok (rank alpha c))
    (fuel : Nat) (hf : text.length < fuel) :
    (do let st ← Gen.SrcQGrams.qgrams rg cl rl q text
        GenSrcQGrams.collectNext (fun t g => Gen.SrcQGrams.next rg cl rl t st.2.2.1 st.2.2.2.1 g) fuel st.1 st.2.2.2.2)
      = Rs.Res.ok (fwdCodes alpha q text) := by
  rw [GenSrcQGrams.qgrams_collect_eq_model (rank alpha) rg cl rl q _ text hq hqb hb hcl hrg fuel hf]
  exact congrArg Rs.Res.ok (qgrams_model_refines alpha q text hq hqb ht)

/-- **`RankTransform::rev_qgrams` + `RevQGrams::next` as written in the source** yield the reference codes in reverse -/
theorem rev_qgrams_source_eq_model (alpha : List Nat) (rg : Nat → Rs.Res Nat) (cl : Nat → Nat) (rl q : Nat)
    (text : List Nat) (hq : 0 < q) (hqb : q * bitsFor alpha.length ≤ 64) (hb : bitsFor alpha.length < 64)
    (hcl : cl rl = bitsFor alpha.length) (ht : ∀ c ∈ text, c ∈ alpha) (hrg : ∀ c ∈ text, rg c = Rs.Res.ok (rank alpha c))
    (fuel : Nat) (hf : text.length < fuel) :
    (do let st ← Gen.SrcQGrams.revQgrams rg cl rl q text
        GenSrcQGrams.collectNext (fun t g => Gen.SrcQGrams.nextRev rg cl rl t st.2.2.1 st.2.2.2.1 g) fuel st.1 st.2.2.2.2)
      = Rs.Res.ok (fwdCodes alpha q text).reverse := by
  have hR : ∀ c ∈ text, rank alpha c < 2 ^ bitsFor alpha.length := fun c hc =>
    rank_lt_two_pow (ht c hc)
  rw [GenSrcQGrams.revQgrams_collect_eq_model (rank alpha) rg cl rl q _ text hq hqb hb hcl hrg hR fuel hf]
  have h := rev_qgrams_mirror alpha q text hq hqb ht
  rw [qgrams_model_refines alpha q text hq hqb ht] at h
  exact congrArg Rs.Res.ok h

/-- the two translated units composed: with the rank map the *translated* `RankTransform::new` builds for the alphabet of
`syms` and the *translated* `RankTransform::get` as `rankGet`, the translated `qgrams` + `QGrams::next` yield the reference
codes of every text over the alphabet.  What stays abstract: `ceilLog2` (the `f32` computation `(len as f32).log2().ceil()`)
and that `ranks.len()` is the alphabet size. -/
theorem qgrams_source_with_source_ranks (syms : List Nat) (cl : Nat → Nat) (q : Nat) (hq : 0 < q)
    (hqb : q * bitsFor (alphaSet syms).length ≤ 64) (hb : bitsFor (alphaSet syms).length < 64)
    (hcl : cl (alphaSet syms).length = bitsFor (alphaSet syms).length) :
    ∃ m, Gen.SrcAlphabet.rankNew (alphaSet syms) = Rs.Res.ok m ∧
      ∀ (text : List Nat), (∀ c ∈ text, c ∈ alphaSet syms) → ∀ fuel, text.length < fuel →
        (do let st ← Gen.SrcQGrams.qgrams (Gen.SrcAlphabet.rankGet m) cl (alphaSet syms).length q text
            GenSrcQGrams.collectNext
              (fun t g => Gen.SrcQGrams.next (Gen.SrcAlphabet.rankGet m) cl (alphaSet syms).length t st.2.2.1 st.2.2.2.1 g)
              fuel st.1 st.2.2.2.2)
          = Rs.Res.ok (fwdCodes (alphaSet syms) q text) := by
  have hA : alphaSet syms = Alpha.mk syms := rfl
  have hs : (alphaSet syms).Pairwise (· < ·) := by rw [hA]; exact Alpha.mk_sorted syms
  have hl : (alphaSet syms).length ≤ 256 := by
    unfold alphaSet
    exact Nat.le_trans (List.length_filter_le _ _) (by simp)
  obtain ⟨m, h1, h2⟩ := GenSrcAlphabet.rankNew_eq_model (alphaSet syms) hs hl
  refine ⟨m, h1, ?_⟩
  intro text ht fuel hf
  refine qgrams_source_eq_model (alphaSet syms) _ cl _ q text hq hqb hb hcl ht ?_ fuel hf
  intro c hc
  rw [GenSrcAlphabet.rankGet_eq_model (alphaSet syms) m h2 c, if_pos (ht c hc),
    Alpha.rank_eq_countLt (alphaSet syms) hs c (ht c hc)]
  rfl

-- "ACGT" over the alphabet ACGTacgt with the ranks the translated `RankTransform::new` builds (documented example)
example : (do let m ← Gen.SrcAlphabet.rankNew (alphaSet [65, 67, 71, 84, 97, 99, 103, 116])
              let st ← Gen.SrcQGrams.qgrams (Gen.SrcAlphabet.rankGet m) (fun _ => 3) 8 2 [65, 67, 71, 84]
              GenSrcQGrams.collectNext (fun t g => Gen.SrcQGrams.next (Gen.SrcAlphabet.rankGet m) (fun _ => 3) 8 t
                st.2.2.1 st.2.2.2.1 g) 5 st.1 st.2.2.2.2) = Rs.Res.ok [1, 10, 19] := by decide +kernel

/-! ## q-gram index: position lists -/

/-- the reference lists exactly the positions where the q-gram occurs — provided it occurs at most `mc` times,
otherwise nothing -/
theorem positions_exact (mc : Nat) (g t : List Nat) (i : Nat) :
    i ∈ qgramPositions mc g t ↔
      (i + g.length ≤ t.length ∧ (t.drop i).take g.length = g) ∧ (occurrences g t).length ≤ mc :=
  mem_qgramPositions mc g t i

/-- … in ascending order -/
theorem positions_ascending (mc : Nat) (g t : List Nat) : (qgramPositions mc g t).Pairwise (· < ·) :=
  qgramPositions_sorted mc g t

/-- … and any ascending list with exactly these members is the reference's answer (comparison by equality is
exactly the property) -/
theorem positions_unique (mc : Nat) (g t l : List Nat) (hs : l.Pairwise (· < ·))
    (hm : ∀ i, i ∈ l ↔ OccursAt g t i ∧ (occurrences g t).length ≤ mc) : l = qgramPositions mc g t := by
  apply sorted_eq_of_mem_iff l _ hs (qgramPositions_sorted mc g t)
  intro i; rw [hm, mem_qgramPositions]

/-- **mirror model of the index construction** (`with_max_count`: count per code, mask counts above `max_count`,
exclusive prefix sums, fill `pos` through per-code offsets; `qgram_matches`: the slice between two addresses).
With `2^(bits·q)` (+1) address slots — the size `with_max_count` allocates (`1usize.checked_shl(bits * q)`) — the slice for the code of any q-gram over the
alphabet is exactly `qgramPositions`, for every alphabet size, text, q and `max_count`. -/
theorem index_model_refines (alpha : List Nat) (q mc : Nat) (text gram : List Nat) (hq : 0 < q)
    (ht : ∀ c ∈ text, c ∈ alpha) (hg : ∀ c ∈ gram, c ∈ alpha) (hgl : gram.length = q) :
    qgramMatchesModel (buildIndex (2 ^ (bitsFor alpha.length * q)) mc (fwdCodes alpha q text))
        (code (bitsFor alpha.length) (gram.map (rank alpha))) = qgramPositions mc gram text :=
  indexModel_eq alpha q mc text gram ht hg hgl

/-- counting-sort core of the previous theorem, for any table size that exceeds every code -/
theorem index_model_counting_sort (size mc : Nat) (codes : List Nat) (hcodes : ∀ c ∈ codes, c < size) (c : Nat)
    (hc : c < size) :
    qgramMatchesModel (buildIndex size mc codes) c = if codes.count c > mc then [] else posFrom c 0 codes :=
  buildIndex_correct size mc codes hcodes c hc

/-- the guard `code < size` is not idle: with only `|A|^q` address slots (`Model/QGramIndex.lean`) and
the three-letter alphabet, the q-gram `cc` (q = 2) has code 10 ≥ 9 -/
example : code (bitsFor 3) ([99, 99].map (rank [97, 98, 99])) = 10 ∧ 3 ^ 2 = 9 ∧ 2 ^ (bitsFor 3 * 2) = 16 := by decide

example : qgramMatchesModel (buildIndex 16 5 (fwdCodes [97, 98, 99] 2 [97, 98, 99, 99, 98, 99])) 6 = [1, 4] ∧
    qgramPositions 5 [98, 99] [97, 98, 99, 99, 98, 99] = [1, 4] := by decide

/-- the number of occurrences that decides masking is the number of positions at which the q-gram occurs -/
theorem occurrence_count_exact (g t : List Nat) (i : Nat) : i ∈ occurrences g t ↔ OccursAt g t i :=
  mem_occurrences g t i

example : qgramPositions 5 [1, 2] [1, 2, 0, 1, 2] = [0, 3] ∧ qgramPositions 1 [1, 2] [1, 2, 0, 1, 2] = [] := by decide

/-! ### the source text of `QGramIndex::with_max_count` (translated on every run, `Gen/SrcQGramIndex.lean`)

Abstract parameters of the translated definition: `rankNew`, `getWidth` (= `ranks.get_width()`), `qgramsOf q text` (= the
codes the q-gram iterator yields, `qgrams_source_eq_model`), `prescanAdd` (= `utils::prescan` with `|a, b| a + b`,
`prescan_source_eq_model` of C04). -/

/-- **`with_max_count` as written in the source = the counting-sort model**: when `bits·q < 64`, every code is below the
table size and there are fewer than `2^64` q-grams, the translated function never panics (no index out of range, no
overflow) and returns the model's address table and position list -/
theorem qgram_index_source_eq_model {αβ ρ τ : Type} (rankNew : αβ → ρ) (getWidth : Nat) (qgramsOf : Nat → τ → List Nat)
    (prescanAdd : List Nat → Nat → Rs.Res (List Nat)) (q : Nat) (text : τ) (alphabet : αβ) (mc : Nat)
    (hw : getWidth < 2 ^ 32) (hbq : getWidth * q < 64)
    (hcodes : ∀ c ∈ qgramsOf q text, c < 2 ^ (getWidth * q)) (hlen : (qgramsOf q text).length < 2 ^ 64)
    (hps : ∀ l : List Nat, l.sum < 2 ^ 64 → prescanAdd l 0 = Rs.Res.ok (prescan 0 l)) :
    Gen.SrcQGramIndex.withMaxCount rankNew getWidth qgramsOf prescanAdd q text alphabet mc
      = Rs.Res.ok (q, (buildIndex (2 ^ (getWidth * q)) mc (qgramsOf q text)).1,
          (buildIndex (2 ^ (getWidth * q)) mc (qgramsOf q text)).2, rankNew alphabet) :=
  GenSrcQGramIndex.withMaxCount_eq_model rankNew getWidth qgramsOf prescanAdd q text alphabet mc hw hbq hcodes hlen hps

/-- … hence the *translated* `qgram_matches` on the index the *translated* `with_max_count` builds returns, for every
q-gram over the alphabet, exactly its text positions (nothing when it occurs more than `max_count` times) — no read of
`address` and no slice of `pos` is out of range.  Here the q-gram iterator is instantiated by the reference codes `fwdCodes`
(what the translated iterator yields by `qgrams_source_eq_model`; the two translated units are not composed), `get_width()` by
`bitsFor |alpha|`; hypotheses: `q ≥ 1`, `bits·q < 64`, `|text| + 1 < 2^64`, and `prescanAdd` computes the prefix sums
(`prescan_source_eq_model` of C04) -/
theorem qgram_index_source_positions_exact {αβ ρ : Type} (rankNew : αβ → ρ) (alpha : List Nat)
    (prescanAdd : List Nat → Nat → Rs.Res (List Nat)) (q : Nat) (text : List Nat) (alphabet : αβ) (mc : Nat)
    (hq : 0 < q) (hbq : bitsFor alpha.length * q < 64) (ht : ∀ c ∈ text, c ∈ alpha) (hlen : text.length + 1 < 2 ^ 64)
    (hps : ∀ l : List Nat, l.sum < 2 ^ 64 → prescanAdd l 0 = Rs.Res.ok (prescan 0 l)) :
    ∃ address pos, Gen.SrcQGramIndex.withMaxCount rankNew (bitsFor alpha.length) (fun q t => fwdCodes alpha q t) prescanAdd
        q text alphabet mc = Rs.Res.ok (q, address, pos, rankNew alphabet) ∧
      ∀ gram, (∀ c ∈ gram, c ∈ alpha) → gram.length = q →
        Gen.SrcQGramIndex.qgramMatches rankNew (bitsFor alpha.length) (fun q t => fwdCodes alpha q t) address pos
            (code (bitsFor alpha.length) (gram.map (rank alpha)))
          = Rs.Res.ok (qgramPositions mc gram text) := by
  have hcodes := RbV.QGram.fwdCodes_lt alpha q text ht
  refine ⟨_, _, qgram_index_source_eq_model rankNew (bitsFor alpha.length) (fun q t => fwdCodes alpha q t) prescanAdd q text
    alphabet mc (by
      have : bitsFor alpha.length * 1 ≤ bitsFor alpha.length * q := Nat.mul_le_mul_left _ hq
      omega) hbq hcodes
    (by have := fwdCodes_length_le alpha q text; omega) hps, ?_⟩
  intro gram hg hgl
  have hsz : 2 ^ (bitsFor alpha.length * q) + 1 < 2 ^ 64 := by
    have : 2 ^ (bitsFor alpha.length * q) ≤ 2 ^ 63 := Nat.pow_le_pow_right (by omega) (by omega)
    omega
  have hcl : code (bitsFor alpha.length) (gram.map (rank alpha)) < 2 ^ (bitsFor alpha.length * q) := by
    have := qgram_code_bound alpha gram hg
    rw [hgl] at this; exact this
  rw [GenSrcQGramIndex.qgramMatches_eq_model rankNew (bitsFor alpha.length) (fun q t => fwdCodes alpha q t)
    (2 ^ (bitsFor alpha.length * q)) mc (fwdCodes alpha q text) hcodes hsz _ hcl]
  exact congrArg Rs.Res.ok (indexModel_eq alpha q mc text gram ht hg hgl)

-- the translated constructor on "abccbc" over {a, b, c}, q = 2 (codes 1, 6, 10, 9, 6): address table and positions
example : Gen.SrcQGramIndex.withMaxCount (αβ := Unit) (ρ := Unit) (fun _ => ()) 2
    (fun q t => fwdCodes [97, 98, 99] q t) (fun l s => Rs.Res.ok (prescan s l)) 2 [97, 98, 99, 99, 98, 99] () 5
    = Rs.Res.ok (2, (buildIndex 16 5 (fwdCodes [97, 98, 99] 2 [97, 98, 99, 99, 98, 99])).1,
        (buildIndex 16 5 (fwdCodes [97, 98, 99] 2 [97, 98, 99, 99, 98, 99])).2, ()) := by decide +kernel

/-! ## q-gram index: hits, `exact_matches`, `matches` -/

/-- a pair (pattern position, text position) is a hit of the reference iff the two q-grams exist, are equal, and the
q-gram is not masked (occurs at most `mc` times in the text) -/
theorem hits_exact (mc q : Nat) (pat text : List Nat) (i p : Nat) (_hq : 0 < q) :
    (i, p) ∈ hits mc q pat text ↔
      i + q ≤ pat.length ∧ p + q ≤ text.length ∧ (pat.drop i).take q = (text.drop p).take q ∧
      (occurrences ((pat.drop i).take q) text).length ≤ mc := by
  rw [mem_hits_iff]
  exact isHit_iff_window mc q i p

/-- symbol-wise agreement is equality of the two slices -/
theorem agree_iff_slices (pat text : List Nat) (ps ts L : Nat) :
    Agree pat text ps ts L ↔
      ps + L ≤ pat.length ∧ ts + L ≤ text.length ∧ (pat.drop ps).take L = (text.drop ts).take L := by
  unfold Agree
  constructor
  · rintro ⟨h1, h2, h3⟩; exact ⟨h1, h2, (window_eq_iff L ps ts).mpr h3⟩
  · rintro ⟨h1, h2, h3⟩; exact ⟨h1, h2, (window_eq_iff L ps ts).mp h3⟩

/-- **`exact_matches` = the maximal exact matches of length ≥ q.**  When no q-gram is masked (`mc` at least every
occurrence count, e.g. `QGramIndex::new`), a range pair is reported by the reference iff pattern and text agree on
it (`L ≥ q` symbols), the symbols just before differ or do not exist, and the symbols just after differ or do not
exist. -/
theorem exact_matches_are_maximal_exact_matches (mc q : Nat) (pat text : List Nat) (hq : 0 < q)
    (hmc : ∀ g, (occurrences g text).length ≤ mc) (ps pe ts te : Nat) :
    (ps, pe, ts, te) ∈ exactMatchesRef mc q pat text ↔
      ∃ L, pe = ps + L ∧ te = ts + L ∧ q ≤ L ∧ Agree pat text ps ts L ∧
        ¬ (0 < ps ∧ 0 < ts ∧ SymEq pat text (ps - 1) (ts - 1)) ∧ ¬ SymEq pat text (ps + L) (ts + L) :=
  exactMatchesRef_iff_maximal mc q hq hmc ps pe ts te

/-- **mirror model of `matches`** (hits visited by ascending pattern position; one record per diagonal in a map:
vacant ⇒ record of the hit, occupied ⇒ new stops and `count + 1`; finally `count ≥ min_count`) reports exactly the
records of the declarative reference (per diagonal: least/greatest hit position, `+ q`, number of hits) — for every
pattern, text, q, `max_count` and `min_count`, also when the pattern position is ahead of the text position. -/
theorem matches_model_refines (mc q minc : Nat) (pat text : List Nat) (r : MatchRec) :
    r ∈ matchesModel mc q minc pat text ↔ r ∈ matchesRef mc q minc pat text :=
  matchesModel_mem_iff mc q minc pat text r

/-- what a record of the reference is: the diagonal carries a hit, and the record holds its least / greatest hit
positions (+ q) and its number of hits, which is at least `minc` -/
theorem matchesRef_spec (mc q minc : Nat) (pat text : List Nat) (r : MatchRec) :
    r ∈ matchesRef mc q minc pat text ↔
      ∃ d : Int, (∃ h ∈ hits mc q pat text, diag h = d) ∧ r = diagRec q (hits mc q pat text) d ∧ minc ≤ r.2.2.2.2 := by
  unfold matchesRef
  simp only [List.mem_filter, List.mem_map, mem_dedupInt, decide_eq_true_eq]
  constructor
  · rintro ⟨⟨d, ⟨h, hh, hd⟩, rfl⟩, hc⟩
    exact ⟨d, ⟨h, hh, hd⟩, rfl, hc⟩
  · rintro ⟨d, ⟨h, hh, hd⟩, rfl, hc⟩
    exact ⟨⟨d, ⟨h, hh, hd⟩, rfl⟩, hc⟩

example : matchesModel 9 2 1 [3, 1, 2, 3] [1, 2, 3, 1, 2] = [(0, 3, 2, 5, 2), (1, 4, 0, 3, 2)] ∧
    matchesRef 9 2 1 [3, 1, 2, 3] [1, 2, 3, 1, 2] = [(0, 3, 2, 5, 2), (1, 4, 0, 3, 2)] := by decide

/-- **mirror model of `exact_matches`** (one open match per diagonal in a map; a hit with
`m.pattern.stop - q + 1 != i` pushes the open match of its diagonal and opens a new one; all open matches are pushed at the
end) reports exactly the records of the reference — for every pattern, text, `q ≥ 1` and `max_count`. -/
theorem exact_matches_model_refines (mc q : Nat) (pat text : List Nat) (hq : 0 < q) (r : ExactRec) :
    r ∈ exactMatchesModel mc q pat text ↔ r ∈ exactMatchesRef mc q pat text :=
  exactMatchesModel_mem_iff mc q pat text r

/-- with masking too, the reference reports exactly the maximal runs of consecutive (unmasked) hits along a diagonal -/
theorem exact_matches_are_runs_of_hits (mc q : Nat) (pat text : List Nat) (hq : 0 < q) (r : ExactRec) :
    r ∈ exactMatchesRef mc q pat text ↔
      ∃ a p n, r = (a, a + n + q, p, p + n + q) ∧
        (∀ j, j ≤ n → (a + j, p + j) ∈ hits mc q pat text) ∧
        ¬ (0 < a ∧ 0 < p ∧ (a - 1, p - 1) ∈ hits mc q pat text) ∧
        (a + n + 1, p + n + 1) ∉ hits mc q pat text :=
  exactMatchesRef_iff_run mc q pat text r

example : exactMatchesModel 9 2 [1, 2, 3, 9, 1, 2] [0, 1, 2, 3, 1, 2] = [(0, 3, 1, 4), (0, 2, 4, 6), (4, 6, 1, 3), (4, 6, 4, 6)] := by
  decide

/-- any text of length `n` masks nothing when `mc ≥ n + 1` -/
theorem nothing_masked (mc : Nat) (text : List Nat) (h : text.length + 1 ≤ mc) (g : List Nat) :
    (occurrences g text).length ≤ mc := by
  have hs := occurrences_sorted g text
  have hb : ∀ i ∈ occurrences g text, i < text.length + 1 := by
    intro i hi
    have := (mem_occurrences g text i).mp hi
    unfold OccursAt at this; omega
  have := length_le_of_ascending (text.length + 1) _ 0 hs (fun i hi => ⟨by omega, hb i hi⟩) (by omega)
  omega

example : exactMatchesRef 9 2 [1, 2, 3, 9, 1, 2] [0, 1, 2, 3, 1, 2] = [(0, 3, 1, 4), (0, 2, 4, 6), (4, 6, 1, 3), (4, 6, 4, 6)] := by
  decide

/-! ## k-mer matches -/

/-- `kmerMatches` contains exactly the position pairs with equal k-mers -/
theorem kmerMatches_exact (x y : List Nat) (k i j : Nat) :
    (i, j) ∈ kmerMatches x y k ↔
      i + k ≤ x.length ∧ j + k ≤ y.length ∧ (x.drop i).take k = (y.drop j).take k :=
  mem_kmerMatches x y k i j

/-- … sorted lexicographically, strictly (hence a set) -/
theorem kmerMatches_sorted (x y : List Nat) (k : Nat) : (kmerMatches x y k).Pairwise lexLt :=
  QGram.kmerMatches_sorted x y k

/-- … and it is the only such list -/
theorem kmerMatches_unique (x y : List Nat) (k : Nat) (l : List (Nat × Nat)) (hs : l.Pairwise lexLt)
    (hm : ∀ i j, (i, j) ∈ l ↔ i + k ≤ x.length ∧ j + k ≤ y.length ∧ (x.drop i).take k = (y.drop j).take k) :
    l = kmerMatches x y k := by
  apply RbV.pairwise_eq_of_mem_iff lexLt lexLt_irrefl lexLt_asymm l _ hs (QGram.kmerMatches_sorted x y k)
  rintro ⟨i, j⟩; rw [hm, mem_kmerMatches]; rfl

example : kmerMatches [1, 2, 1, 2] [2, 1, 2] 2 = [(0, 1), (1, 0), (2, 1)] := by decide

/-! ### the hash-map based matcher (mirror model `RbV/Model/KmerHash.lean`) -/
section kmer_hash
open RbV.Model.KmerHash RbV.Lemmas.KmerHash

/-- **mirror model of `hash_kmers`** (hash map as a finite map: `entry(key).or_default().push(i)` / `get`): the vector
stored under a k-mer is the ascending list of exactly the positions where it occurs (nothing stored ⇒ no occurrence) -/
theorem hash_kmers_model_exact (seq : List Nat) (k : Nat) (key : List Nat) :
    (hmGet key (hashKmers seq k)).getD [] = (List.range (seq.length + 1 - k)).filter (fun i => window k seq i = key) :=
  hashKmers_get seq k key

/-- **mirror models of `find_kmer_matches`, `find_kmer_matches_seq1_hashed`, `find_kmer_matches_seq2_hashed`** (scan one
sequence, look each window up in the hash of the other, push the pairs, sort): all three return exactly the reference
`kmerMatches` — the unique strictly sorted list of all pairs with equal k-mers — for all sequences and every k -/
theorem find_kmer_matches_model_refines (x y : List Nat) (k : Nat) :
    findKmerMatches x y k = kmerMatches x y k ∧ seq1Hashed (hashKmers x k) y k = kmerMatches x y k ∧
    seq2Hashed x (hashKmers y k) k = kmerMatches x y k :=
  ⟨findKmerMatches_correct x y k, seq1Hashed_correct x y k, seq2Hashed_correct x y k⟩

example : (hmGet [1, 2] (hashKmers [1, 2, 1, 2] 2)).getD [] = [0, 2] ∧ kmerMatches [1, 2, 1, 2] [2, 1, 2] 2 = [(0, 1), (1, 0), (2, 1)] := by
  rw [hash_kmers_model_exact]; decide

end kmer_hash

/-! ## `QGramIndex::exact_matches` — the source text (`RbV/Gen/SrcQGramExact.lean`)

`HashMap<i32, ExactMatch>` = `Rs.HMap` (`Entry::Vacant(v) => v.insert(..)` = `insertNew`, `Entry::Occupied(o)` with
`o.get_mut()` = the record read, updated field by field and written back with `update`); the final loop over the map runs
over `hmIter diagonals`, an abstract permutation (`hIter`).  `qgramsOf` (= `self.ranks.qgrams(self.q, pattern)`) and
`qgramMatches` (= `self.qgram_matches`) are abstract: `hM` / `hH` say that position list `P i` is what the index returns for
the i-th q-gram and that these are the model's hits — what `qgrams_source_eq_model` and `qgram_index_source_positions_exact`
establish for the translated iterator / index (not composed here); `hB`: positions `+ q` below 2³¹ (the diagonal is an `i32`). -/
section exact_matches_source
open RbV.Rs RbV.Thm.GenSrcQGramExact

/-- the translated `exact_matches` does not panic and returns a permutation of the mirror model's vector -/
theorem qgram_exact_matches_source_eq_model (qgramsOf : Nat → List Nat → List Nat) (qgramMatches : Nat → Res (List Nat))
    (hmIter : List (Int × EM) → List (Int × EM)) (hIter : ∀ m, (hmIter m).Perm m) (mc q : Nat) (pat text : List Nat) (P : Nat → List Nat)
    (hM : ∀ ci ∈ (qgramsOf q pat).zipIdx, qgramMatches ci.1 = Res.ok (P ci.2))
    (hH : hits mc q pat text = ((qgramsOf q pat).zipIdx).flatMap (fun ci => (P ci.2).map (fun p => (ci.2, p))))
    (hB : ∀ ci ∈ (qgramsOf q pat).zipIdx, ci.2 + q < 2 ^ 31 ∧ ∀ p ∈ P ci.2, p + q < 2 ^ 31) :
    ∃ res, Gen.SrcQGramExact.exactMatches qgramsOf qgramMatches hmIter q pat = Res.ok res ∧
      res.Perm ((exactMatchesModel mc q pat text).map cv) :=
  GenSrcQGramExact.exactMatches_eq_model qgramsOf qgramMatches hmIter hIter mc q pat text P hM hH hB

/-- **the matches the translated `exact_matches` returns are exactly the records of the reference** — the maximal runs of
consecutive unmasked hits along a diagonal, i.e. (without masking) the maximal exact matches of length ≥ q
(`exact_matches_are_runs_of_hits`, `exact_matches_are_maximal_exact_matches`) — whatever the iteration order of the map.
Stated on membership, as the reference theorems are; multiplicities agree with the mirror model's
(`qgram_exact_matches_source_eq_model`). -/
theorem qgram_exact_matches_source_exact (qgramsOf : Nat → List Nat → List Nat) (qgramMatches : Nat → Res (List Nat))
    (hmIter : List (Int × EM) → List (Int × EM)) (hIter : ∀ m, (hmIter m).Perm m) (mc q : Nat) (hq : 0 < q) (pat text : List Nat)
    (P : Nat → List Nat)
    (hM : ∀ ci ∈ (qgramsOf q pat).zipIdx, qgramMatches ci.1 = Res.ok (P ci.2))
    (hH : hits mc q pat text = ((qgramsOf q pat).zipIdx).flatMap (fun ci => (P ci.2).map (fun p => (ci.2, p))))
    (hB : ∀ ci ∈ (qgramsOf q pat).zipIdx, ci.2 + q < 2 ^ 31 ∧ ∀ p ∈ P ci.2, p + q < 2 ^ 31) :
    ∃ res, Gen.SrcQGramExact.exactMatches qgramsOf qgramMatches hmIter q pat = Res.ok res ∧
      ∀ r : ExactRec, cv r ∈ res ↔ r ∈ exactMatchesRef mc q pat text := by
  obtain ⟨res, h1, h2⟩ := GenSrcQGramExact.exactMatches_eq_model qgramsOf qgramMatches hmIter hIter mc q pat text P hM hH hB
  refine ⟨res, h1, fun r => ?_⟩
  rw [h2.mem_iff, ← exact_matches_model_refines mc q pat text hq r]
  constructor
  · intro h
    obtain ⟨r', hr', he⟩ := List.mem_map.mp h
    exact GenSrcQGramExact.cv_injective he ▸ hr'
  · intro h; exact List.mem_map.mpr ⟨r, h, rfl⟩

/-- evaluated: pattern `abab` against text `ababab`, q = 1 (codes = symbols), reversed map iteration -/
example : Gen.SrcQGramExact.exactMatches (fun _ pat => pat)
    (fun c => Res.ok ((List.range 6).filter (fun j => [0, 1, 0, 1, 0, 1].getD j 9 == c))) List.reverse 1 [0, 1, 0, 1]
    = Res.ok [((2, 4), (0, 2)), ((0, 2), (4, 6)), ((0, 4), (2, 6)), ((0, 4), (0, 4))] := by decide

end exact_matches_source

/-! ## `hash_kmers`, `find_kmer_matches*` — the source text (`RbV/Gen/SrcKmerMatches.lean`)

`HashMapFx<&[u8], Vec<u32>>` = `Rs.HMap` (only `entry(k).or_default().push(i)` and `get(k)` are used: the iteration order of
the hash map is never observed); the final `sort_unstable()` is any function meeting `Rs.SortOk` on the derived order of
`(u32, u32)`.  Sequences shorter than 2³² (positions are stored as `u32`). -/
section kmer_source
open RbV.Rs RbV.Model.KmerHash RbV.Thm.GenSrcKmerMatches

/-- `hash_kmers` as written in the source builds the model's map: under every k-mer the ascending list of its positions -/
theorem hash_kmers_source_eq_model (sortM : List (Nat × Nat) → List (Nat × Nat)) (seq : List Nat) (k : Nat) (hlen : seq.length < 2 ^ 32)
    (key : List Nat) :
    ∃ m, Gen.SrcKmerMatches.hashKmers sortM seq k = Res.ok m ∧ m = hashKmers seq k ∧
      (Rs.HMap.get m key).getD [] = (List.range (seq.length + 1 - k)).filter (fun i => window k seq i = key) :=
  ⟨_, GenSrcKmerMatches.hashKmers_eq_model sortM seq k hlen, rfl, by rw [GenSrcKmerMatches.get_eq]; exact hash_kmers_model_exact seq k key⟩

/-- the two matchers over a given map, as written in the source = their mirror models (for every map) -/
theorem find_kmer_matches_hashed_source_eq_model (sortM : List (Nat × Nat) → List (Nat × Nat)) (hsort : SortOk sortM) (m : HMap)
    (seq : List Nat) (k : Nat) (hlen : seq.length < 2 ^ 32) :
    Gen.SrcKmerMatches.seq1Hashed sortM m seq k = Res.ok (seq1Hashed m seq k) ∧
    Gen.SrcKmerMatches.seq2Hashed sortM seq m k = Res.ok (seq2Hashed seq m k) :=
  ⟨GenSrcKmerMatches.seq1Hashed_eq_model sortM hsort m seq k hlen, GenSrcKmerMatches.seq2Hashed_eq_model sortM hsort seq m k hlen⟩

/-- **the translated `find_kmer_matches` (through the translated `hash_kmers` and the translated matcher of the branch taken)
returns exactly the strictly sorted set of position pairs with equal k-mers** — no panic, for all sequences shorter than
2³², every `k`, every `sort_unstable` meeting its contract; and so do the two `_hashed` entry points on the translated hash
of the other sequence -/
theorem find_kmer_matches_source_exact (sortM : List (Nat × Nat) → List (Nat × Nat)) (hsort : SortOk sortM) (x y : List Nat) (k : Nat)
    (hx : x.length < 2 ^ 32) (hy : y.length < 2 ^ 32) :
    (∃ l, Gen.SrcKmerMatches.findKmerMatches sortM x y k = Res.ok l ∧ l = kmerMatches x y k ∧ l.Pairwise lexLt ∧
      ∀ i j, (i, j) ∈ l ↔ i + k ≤ x.length ∧ j + k ≤ y.length ∧ (x.drop i).take k = (y.drop j).take k) ∧
    (∃ hx', Gen.SrcKmerMatches.hashKmers sortM x k = Res.ok hx' ∧
      Gen.SrcKmerMatches.seq1Hashed sortM hx' y k = Res.ok (kmerMatches x y k)) ∧
    (∃ hy', Gen.SrcKmerMatches.hashKmers sortM y k = Res.ok hy' ∧
      Gen.SrcKmerMatches.seq2Hashed sortM x hy' k = Res.ok (kmerMatches x y k)) := by
  obtain ⟨h1, h2, h3⟩ := find_kmer_matches_model_refines x y k
  refine ⟨⟨_, GenSrcKmerMatches.findKmerMatches_eq_model sortM hsort x y k hx hy, h1, ?_, ?_⟩,
    ⟨_, GenSrcKmerMatches.hashKmers_eq_model sortM x k hx, ?_⟩, ⟨_, GenSrcKmerMatches.hashKmers_eq_model sortM y k hy, ?_⟩⟩
  · rw [h1]; exact kmerMatches_sorted x y k
  · intro i j; rw [h1]; exact kmerMatches_exact x y k i j
  · rw [GenSrcKmerMatches.seq1Hashed_eq_model sortM hsort _ y k hy, h2]
  · rw [GenSrcKmerMatches.seq2Hashed_eq_model sortM hsort x _ k hx, h3]

example : Gen.SrcKmerMatches.findKmerMatches stdSortM [1, 2, 1, 2] [2, 1, 2] 2 = Res.ok [(0, 1), (1, 0), (2, 1)] := by
  obtain ⟨⟨l, h1, h2, _⟩, _⟩ := find_kmer_matches_source_exact stdSortM stdSortM_ok [1, 2, 1, 2] [2, 1, 2] 2 (by decide) (by decide)
  rw [h1, h2]; decide

end kmer_source

/-! ## `expand_kmer_matches` (mirror model `RbV/Model/Expand.lean`) -/
section expand_model
open RbV.Model.Expand RbV.Model.Lcskpp RbV.Lemmas.Expand

/-- **the mirror model of `expand_kmer_matches` returns a match list the chaining routines accept**: for every strictly
sorted seed list — whatever the sequences, `k` and the mismatch budget — both walks end by their own condition (no fuel
error), the result is strictly lexicographically sorted (hence duplicate-free: a walk along a diagonal stays strictly
between the neighbouring elements of that diagonal) and contains every seed.  This is a statement about the model, which is
total where the Rust code panics (`seq[i]` is `getD`, the `u32` subtractions `seq.len() - x`, `k - 1` are truncated): it
mirrors the code only for seeds lying inside both sequences and `k ≥ 1` (`Model/Expand.lean`), and no theorem ties
`expand_kmer_matches` to its source text -/
theorem expand_model_sorted (seq1 seq2 : List Nat) (k : Nat) (ms : List M) (allowed : Nat) (hs : ms.Pairwise lexLt) :
    ∃ r, expandKmerMatches seq1 seq2 k ms allowed = .ok r ∧ r.Pairwise lexLt ∧ ∀ m ∈ ms, m ∈ r :=
  expand_model_ok seq1 seq2 k ms allowed hs

/-- the combinatorial core: a sweep that pushes, for each element of a list sorted along every diagonal, only positions
of its diagonal strictly between the previous element of that diagonal and itself, never pushes a position twice nor a
position of the list -/
theorem diagonal_sweep_pushes_new_positions (key : M → Int) (l : List M) (bs : List (List M))
    (hs : DiagSorted key l) (hb : BlocksOk key [] l bs) : (l ++ bs.flatten).Nodup :=
  sweep_nodup key l bs hs hb

example : ∃ r, expandKmerMatches [1, 2, 3, 4, 5, 6] [1, 2, 3, 9, 5, 6] 2 [(0, 0), (4, 4)] 1 = .ok r ∧ r.Pairwise lexLt ∧
    (0, 0) ∈ r ∧ (4, 4) ∈ r := by
  obtain ⟨r, h1, h2, h3⟩ := expand_model_sorted [1, 2, 3, 4, 5, 6] [1, 2, 3, 9, 5, 6] 2 [(0, 0), (4, 4)] 1 (by simp [lexLt])
  exact ⟨r, h1, h2, h3 _ (by simp), h3 _ (by simp)⟩

end expand_model

/-! ## chains -/

/-- the Boolean checker run on `lcskpp` / `sdpkpp` / union paths decides exactly: all indices are in range and
each next match continues the previous one diagonally by one or starts at least `k` later in both sequences -/
theorem validChain_iff (ms : List M) (k : Nat) (path : List Nat) :
    validChain ms k path = true ↔
      (∀ i ∈ path, i < ms.length) ∧
      ∀ t, t + 1 < path.length →
        let a := ms.getD (path.getD t 0) (0, 0)
        let b := ms.getD (path.getD (t + 1) 0) (0, 0)
        (b.1 = a.1 + 1 ∧ b.2 = a.2 + 1) ∨ (a.1 + k ≤ b.1 ∧ a.2 + k ≤ b.2) := by
  rw [RbV.Lemmas.Lcskpp.validChain_iff_chain, chain_iff_adjacent]
  simp only [List.length_map]
  -- link by link: the `t`-th link of the mapped path is the link between `ms[path[t]]` and `ms[path[t+1]]`
  refine and_congr_right fun _ => forall_congr' fun t => imp_congr_right fun ht => ?_
  have e1 : path[t]? = some path[t] := List.getElem?_eq_getElem (by omega)
  have e2 : path[t + 1]? = some path[t + 1] := List.getElem?_eq_getElem ht
  simp [List.getD_eq_getElem?_getD, List.getElem?_map, e1, e2, Link, RbV.Lemmas.Lcskpp.mAt]

example : validChain [(0, 0), (1, 1), (5, 4), (6, 9)] 3 [0, 1, 2] = true ∧
    validChain [(0, 0), (1, 1), (5, 4), (6, 9)] 3 [0, 2, 3] = false := by decide

/-- **upper bound**: no valid chain over the given matches scores more than the reference DP.
(`ms` sorted by first coordinate — implied by the lexicographic order `lcskpp` demands — and `k ≥ 1`.) -/
theorem lcskDP_upper (ms : List M) (k : Nat) (hk : 0 < k) (hs : ms.Pairwise (fun a b => a.1 ≤ b.1))
    (c : List M) (hc : Chain k c) (hsub : ∀ e ∈ c, e ∈ ms) : score k c ≤ lcskDP ms k := by
  cases c with
  | nil => simp [score]
  | cons m c =>
    obtain ⟨v, hv⟩ := exists_entry (k := k) (hsub m (by simp))
    have h1 := table_upper hk ms hs m v hv c hc (fun e he => hsub e (by simp [he]))
    have h2 : v ≤ lcskDP ms k := le_max0_of_mem (List.mem_map.mpr ⟨(m, v), hv, rfl⟩)
    omega

/-- **attained**: some valid chain over the given matches has exactly the DP's score -/
theorem lcskDP_attained (ms : List M) (k : Nat) (hk : 0 < k) :
    ∃ c, Chain k c ∧ (∀ e ∈ c, e ∈ ms) ∧ score k c = lcskDP ms k := by
  rcases max0_zero_or_mem ((table k ms).map (·.2)) with h0 | hm
  · exact ⟨[], trivial, by simp, by simp [score, lcskDP, h0]⟩
  · rcases List.mem_map.mp hm with ⟨⟨m, v⟩, hmv, hv⟩
    obtain ⟨c, hc, hsub, hsc⟩ := table_attained hk ms m v hmv
    exact ⟨m :: c, hc, hsub, by rw [hsc]; exact hv⟩

/-- **`lcskDP` is the LCSk++ optimum**: it is the one value that is an upper bound of all valid chains' scores and
is the score of one of them -/
theorem lcskDP_eq_opt (ms : List M) (k : Nat) (hk : 0 < k) (hs : ms.Pairwise (fun a b => a.1 ≤ b.1)) (v : Nat) :
    ((∀ c, Chain k c → (∀ e ∈ c, e ∈ ms) → score k c ≤ v) ∧ ∃ c, Chain k c ∧ (∀ e ∈ c, e ∈ ms) ∧ score k c = v)
      ↔ v = lcskDP ms k := by
  constructor
  · rintro ⟨hub, c, hc, hsub, hsc⟩
    obtain ⟨c', hc', hsub', hsc'⟩ := lcskDP_attained ms k hk
    have h1 := hub c' hc' hsub'
    have h2 := lcskDP_upper ms k hk hs c hc hsub
    omega
  · rintro rfl
    exact ⟨fun c hc hsub => lcskDP_upper ms k hk hs c hc hsub, lcskDP_attained ms k hk⟩

/-- what the driver accepts for `lcskpp` is exactly "a valid chain of maximum score": an accepted path is valid and
no valid path scores more; conversely a valid path that no valid path beats is accepted. -/
theorem lcskpp_accept_iff (ms : List M) (k : Nat) (hk : 0 < k) (hs : ms.Pairwise (fun a b => a.1 ≤ b.1))
    (path : List Nat) :
    (validChain ms k path = true ∧ score k (pathMatches ms path) = lcskDP ms k) ↔
    (validChain ms k path = true ∧
      ∀ c, Chain k c → (∀ e ∈ c, e ∈ ms) → score k c ≤ score k (pathMatches ms path)) := by
  constructor
  · rintro ⟨hv, hsc⟩
    exact ⟨hv, fun c hc hsub => by rw [hsc]; exact lcskDP_upper ms k hk hs c hc hsub⟩
  · rintro ⟨hv, hmax⟩
    refine ⟨hv, ?_⟩
    obtain ⟨c', hc', hsub', hsc'⟩ := lcskDP_attained ms k hk
    have h1 := hmax c' hc' hsub'
    have hvv := hv
    unfold validChain at hvv
    rw [Bool.and_eq_true, chainB_iff] at hvv
    have h2 := lcskDP_upper ms k hk hs (pathMatches ms path) hvv.2 (by
      intro e he
      simp only [pathMatches, List.mem_map] at he
      rcases he with ⟨i, hi, rfl⟩
      have hlt : i < ms.length := by
        have := List.all_eq_true.mp hvv.1 i hi
        simpa using this
      rw [List.getD_eq_getElem?_getD, List.getElem?_eq_getElem hlt]
      exact List.getElem_mem hlt)
    omega

/-- **the recurrence behind `lcskpp`'s `dp_vector`** (`k` + best finished non-overlapping predecessor, or diagonal
predecessor + 1): evaluated in list order it gives, for every match, the best score of a valid chain *ending* at that
match — no chain ending there scores more, and one scores exactly that. -/
theorem dp_cell_is_best_chain_ending (ms : List M) (k : Nat) (hk : 0 < k) (hs : ms.Pairwise (fun a b => a.1 ≤ b.1))
    (m : M) (v : Nat) (h : (m, v) ∈ tableR k ms.reverse) :
    (∀ c, Chain k (c ++ [m]) → (∀ e ∈ c, e ∈ ms) → score k (c ++ [m]) ≤ v) ∧
    ∃ c, Chain k (c ++ [m]) ∧ (∀ e ∈ c, e ∈ ms) ∧ score k (c ++ [m]) = v := by
  have hs' : ms.reverse.Pairwise (fun a b => b.1 ≤ a.1) := List.pairwise_reverse.mpr hs
  constructor
  · intro c hc hsub
    have h1 : RChain k (m :: c.reverse) := by
      rw [rchain_iff]; simpa using hc
    have := tableR_upper hk ms.reverse hs' m v h c.reverse h1 (fun e he => by simpa using hsub e (by simpa using he))
    rw [rscore_eq] at this
    simpa using this
  · obtain ⟨rc, h1, h2, h3⟩ := tableR_attained hk ms.reverse m v h
    refine ⟨rc.reverse, ?_, ?_, ?_⟩
    · rw [rchain_iff] at h1; simpa using h1
    · intro e he
      have := h2 e (by simp at he ⊢; right; exact he)
      simpa using this
    · rw [rscore_eq] at h3; simpa using h3

/-- … and the best cell (`best_dp`) is the LCSk++ optimum -/
theorem dpScores_max_eq_opt (ms : List M) (k : Nat) (hk : 0 < k) (hs : ms.Pairwise (fun a b => a.1 ≤ b.1)) :
    max0 (dpScores ms k) = lcskDP ms k := by
  apply (lcskDP_eq_opt ms k hk hs _).mp
  have hmem : ∀ v, v ∈ dpScores ms k ↔ ∃ m, (m, v) ∈ tableR k ms.reverse := by
    intro v
    simp only [dpScores, List.mem_reverse, List.mem_map]
    constructor
    · rintro ⟨⟨m, v'⟩, hm, rfl⟩; exact ⟨m, hm⟩
    · rintro ⟨m, hm⟩; exact ⟨(m, v), hm, rfl⟩
  constructor
  · intro c hc hsub
    rcases List.eq_nil_or_concat c with rfl | ⟨c', m, rfl⟩
    · simp [score]
    · rw [List.concat_eq_append] at hc hsub ⊢
      have hm : m ∈ ms.reverse := by simpa using hsub m (by simp)
      obtain ⟨v, hv⟩ := exists_entryR (k := k) hm
      have h1 := (dp_cell_is_best_chain_ending ms k hk hs m v hv).1 c' hc (fun e he => hsub e (by simp [he]))
      have h2 : v ≤ max0 (dpScores ms k) := le_max0_of_mem ((hmem v).mpr ⟨m, hv⟩)
      omega
  · rcases max0_zero_or_mem (dpScores ms k) with h0 | hm
    · exact ⟨[], trivial, by simp, by simp [score, h0]⟩
    · obtain ⟨m, hmv⟩ := (hmem _).mp hm
      obtain ⟨c, h1, h2, h3⟩ := (dp_cell_is_best_chain_ending ms k hk hs m _ hmv).2
      refine ⟨c ++ [m], h1, ?_, h3⟩
      intro e he
      rcases List.mem_append.mp he with h' | h'
      · exact h2 e h'
      · simp at h'; rw [h']; have := entry_memR hmv; simpa using this

example : dpScores [(0, 0), (1, 1), (2, 2), (5, 5), (6, 9)] 3 = [3, 4, 5, 8, 8] := by decide

/-! ## the `lcskpp` routine itself (mirror model `RbV/Model/Lcskpp.lean`: event sort, max-Fenwick sweep, traceback) -/
section lcskpp_model
open RbV.Model.Lcskpp RbV.Lemmas.Lcskpp

/-- the model's sortedness assertion accepts exactly the strictly lexicographically sorted (hence duplicate-free) lists -/
theorem lcskpp_model_assertion (ms : List M) : sortedStrict ms = true ↔ ms.Pairwise lexLt :=
  sortedStrict_iff ms

/-- … and on any other non-empty list the model stops with the assertion message (the Rust code panics) -/
theorem lcskpp_model_refuses_unsorted (ms : List M) (k : Nat) (hne : ms ≠ []) (hs : ¬ ms.Pairwise lexLt) :
    lcskpp ms k = .error "incoming matches must be sorted." := by
  have h1 : ms.isEmpty = false := by cases ms with | nil => exact absurd rfl hne | cons _ _ => rfl
  have h2 : sortedStrict ms = false := by
    rw [Bool.eq_false_iff]; intro h; exact hs ((sortedStrict_iff ms).mp h)
  simp [lcskpp, h1, h2]

/-- **event order**: in the sorted event vector the end event of a match `q` that ends at or before the start of `p` in
both sequences comes before the start event of `p` — also when the coordinates coincide (end events carry the smaller
third component) — and the start event of a match comes before its own end event (`k ≥ 1`) -/
theorem lcskpp_event_order (ms : List M) (k : Nat) (hk : 0 < k) (p q : Nat) (hq : q < ms.length) :
    (nonov k (mAt ms q) (mAt ms p) = true → evLe (startEv ms p) (endEv ms k q) = false) ∧
    evLe (endEv ms k p) (startEv ms p) = false := by
  constructor
  · intro hn
    rw [Bool.eq_false_iff]; intro h
    have := evLe_start_end hq h
    simp only [nonov, Bool.and_eq_true, decide_eq_true_eq] at hn
    omega
  · rw [Bool.eq_false_iff]; intro h
    have := evLe_end_start h
    omega

/-- **the loop invariant holds at every point of the sweep**: for every split of the sorted event vector, the state
reached after the processed part satisfies `Inv` (tree = Fenwick run over exactly the published `(y+k, (score, index))` of the
finished matches; finished cells carry the recurrence's score, started cells `k` + best dominated score; every predecessor
pointer is justified; `best_dp` bounds the started cells and is attained or still `(k, 0)`) -/
theorem lcskpp_sweep_invariant (ms : List M) (k : Nat) (hk : 0 < k) (hs : ms.Pairwise lexLt) (done rest : List Ev)
    (h : sortedEvents ms k = done ++ rest) : Inv ms k done (done.foldl (stepEv ms k) (initSt ms k)) :=
  sweep_inv_prefix hk hs h

/-- **the Fenwick query of a start event = maximum over the dominated matches.**  Whenever the start event of match `p`
(`startEv ms p = (x_p, y_p, p + len)`) is the next event of the sweep, `max_col_dp.get(y_p)` on the state reached so far
returns a pair whose score bounds the final score (`dpScores`) of every match `q` that ends at or before `(x_p, y_p)` in both
coordinates (`nonov`), and either there is no such match and the score is 0, or the pair is exactly (final score of `q`, `q`)
for such a match — processing order (all dominated matches have published, nothing else with a column `≤ y_p` has) plus the
prefix-maximum semantics of the tree (C18). -/
theorem lcskpp_query_is_max_over_dominated (ms : List M) (k : Nat) (hk : 0 < k) (hs : ms.Pairwise lexLt)
    (done rest : List Ev) (p : Nat) (hp : p < ms.length)
    (hpos : sortedEvents ms k = done ++ startEv ms p :: rest) :
    let s := done.foldl (stepEv ms k) (initSt ms k)
    let b := Model.Fenwick.get maxNN (0, 0) s.tree (mAt ms p).2
    (∀ q, q < ms.length → nonov k (mAt ms q) (mAt ms p) = true → (dpScores ms k).getD q 0 ≤ b.1) ∧
    ((b.1 = 0 ∧ ∀ q, q < ms.length → nonov k (mAt ms q) (mAt ms p) = false) ∨
     ∃ q, q < ms.length ∧ nonov k (mAt ms q) (mAt ms p) = true ∧ b = ((dpScores ms k).getD q 0, q)) := by
  have hI := sweep_inv_prefix hk hs hpos
  obtain ⟨h1, h2⟩ := query_spec hk hs hI hp (Pos.of_split hpos)
  have hub : ∀ q, q < ms.length → nonov k (mAt ms q) (mAt ms p) = true →
      (dpScores ms k).getD q 0 ≤ (Model.Fenwick.get maxNN (0, 0) (done.foldl (stepEv ms k) (initSt ms k)).tree (mAt ms p).2).1 := by
    intro q hq hn
    rw [h1]
    exact le_max0_of_mem ((mem_cands hs (fun m => nonov k m (mAt ms p)) (fun w => w) _).mpr ⟨q, hq, hn, rfl⟩)
  refine ⟨hub, ?_⟩
  by_cases hpos' : 0 < (Model.Fenwick.get maxNN (0, 0) (done.foldl (stepEv ms k) (initSt ms k)).tree (mAt ms p).2).1
  · right
    obtain ⟨q, hq, hb2, _, hn, hb1⟩ := h2 hpos'
    exact ⟨q, hq, hn, Prod.ext hb1 hb2⟩
  · left
    refine ⟨by omega, ?_⟩
    intro q hq
    rw [Bool.eq_false_iff]; intro hn
    have h3 := hub q hq hn
    have h4 : k ≤ (dpScores ms k).getD q 0 := k_le_F hk hs hq
    omega

/-- the hypothesis of the previous theorem is satisfiable for every match: its start event occurs in the sorted vector -/
theorem lcskpp_start_event_occurs (ms : List M) (k : Nat) (p : Nat) (hp : p < ms.length) :
    ∃ done rest, sortedEvents ms k = done ++ startEv ms p :: rest :=
  List.append_of_mem ((mem_sortedEvents ms k _).mpr ⟨p, hp, Or.inl rfl⟩)

/-- **the sweep computes the forward recurrence**: after the loop the score of every `dp` cell is the cell of
`dpScores` (the recurrence evaluated directly, `dp_cell_is_best_chain_ending`), for every strictly sorted match list
and `k ≥ 1` -/
theorem lcskpp_model_dp_is_recurrence (ms : List M) (k : Nat) (hk : 0 < k) (hs : ms.Pairwise lexLt) (q : Nat)
    (hq : q < ms.length) : ((sweep ms k).dp.getD q (0, 0)).1 = (dpScores ms k).getD q 0 :=
  final_cell hk hs hq

/-- **the mirror model of `lcskpp` is optimal.**  For every strictly sorted (duplicate-free) match list and every
`k ≥ 1` the model — assertion, event sort with its tie-break, sweep with the max-Fenwick tree (C18 model), diagonal
lookup, `best_dp`, traceback with fuel `len + 1` — returns a result (no assertion failure, the traceback loop ends by its
own condition); the path is a valid chain over the matches; its LCSk++ score is the reported score; that score is the
reference optimum `lcskDP`; and no valid chain over the matches scores more. -/
theorem lcskpp_model_optimal (ms : List M) (k : Nat) (hk : 0 < k) (hs : ms.Pairwise lexLt) :
    ∃ r, lcskpp ms k = .ok r ∧ validChain ms k r.path = true ∧ score k (pathMatches ms r.path) = r.score ∧
      r.score = lcskDP ms k ∧ ∀ c, Chain k c → (∀ e ∈ c, e ∈ ms) → score k c ≤ r.score := by
  obtain ⟨r, h1, h2, h3, h4, _⟩ := lcskpp_model_ok hk hs
  have hx := sorted_x_of_lex hs
  have hopt := dpScores_max_eq_opt ms k hk hx
  refine ⟨r, h1, h3, by rw [h4, h2], by rw [h2, hopt], ?_⟩
  intro c hc hsub
  rw [h2, hopt]
  exact lcskDP_upper ms k hk hx c hc hsub

/-- composition with the k-mer matcher's reference: on the matches of any two sequences the model is optimal -/
theorem lcskpp_model_optimal_on_kmer_matches (x y : List Nat) (k : Nat) (hk : 0 < k) :
    ∃ r, lcskpp (kmerMatches x y k) k = .ok r ∧ validChain (kmerMatches x y k) k r.path = true ∧
      r.score = lcskDP (kmerMatches x y k) k :=
  let ⟨r, h1, h2, _, h4, _⟩ := lcskpp_model_optimal _ k hk (QGram.kmerMatches_sorted x y k)
  ⟨r, h1, h2, h4⟩

example : ∃ r, lcskpp [(0, 0), (1, 1), (2, 2), (5, 5), (6, 9)] 3 = .ok r ∧ r.score = 8 ∧
    validChain [(0, 0), (1, 1), (2, 2), (5, 5), (6, 9)] 3 r.path = true := by
  obtain ⟨r, h1, h2, _, h4, _⟩ := lcskpp_model_optimal [(0, 0), (1, 1), (2, 2), (5, 5), (6, 9)] 3 (by decide)
    (by simp [lexLt])
  exact ⟨r, h1, by rw [h4]; decide, h2⟩

/-- the chains returned by the `lcskpp` model list their indices in strictly ascending order (what
`sdpkpp_union_lcskpp_path` relies on when it binary-searches the path) -/
theorem lcskpp_model_path_ascending (ms : List M) (k : Nat) (hk : 0 < k) (hs : ms.Pairwise lexLt) :
    ∃ r, lcskpp ms k = .ok r ∧ r.path.Pairwise (· < ·) :=
  let ⟨r, h1, _, _, _, _, h6⟩ := lcskpp_model_ok hk hs
  ⟨r, h1, h6⟩

end lcskpp_model

/-! ## `sparse::lcskpp` — the source text itself (translated on every run: `RbV/Gen/SrcLcskpp.lean`)

`sort_unstable` and `binary_search` are std, not rust-bio: the translated function takes them as parameters and
the theorems hold for **every** pair meeting the contracts `Rs.SortOk` (a permutation, ascending in the derived order of the
event triples the translated text builds: the sort *key* — coordinates, then `idx` / `idx + len` — is part of the text) and
`Rs.BSearchOk`.  `GenSrcLcskpp.Bnd`: fewer than 2³¹ matches, every coordinate `+ k` fits `u32`. -/
section lcskpp_source
open RbV.Rs RbV.Model.Lcskpp RbV.Lemmas.Lcskpp RbV.Thm.GenSrcLcskpp

/-- **`lcskpp` as written in the source = the mirror model**: same path, same score, same `dp_vector`, no panic (no index
out of range, no overflow, the sortedness assertion holds), the traceback loop ends by its own condition — for every
strictly sorted match list inside the size envelope `Bnd` (fewer than 2³¹ matches, every coordinate `+ k` fits `u32`), `k ≥ 1`,
and every `sort_unstable` / `binary_search` meeting the contracts `Rs.SortOk` / `Rs.BSearchOk` assumed of std -/
theorem lcskpp_source_eq_model (sortEv : List Ev → List Ev) (bs : List M → M → Except Nat Nat) (hsort : SortOk sortEv)
    (hbs : BSearchOk bs) (ms : List M) (k : Nat) (hk : 0 < k) (hs : ms.Pairwise lexLt) (hB : Bnd ms k) :
    ∃ r, lcskpp ms k = .ok r ∧ Gen.SrcLcskpp.lcskpp sortEv bs ms k = Res.ok (r.path, r.score, r.dp) :=
  GenSrcLcskpp.lcskpp_eq_model sortEv bs hsort hbs ms k hk hs hB

/-- **the translated `lcskpp` returns a valid chain of maximum LCSk++ score**: it does not panic; its path is a valid chain
over the matches; the LCSk++ score of that chain is the reported `score`; the score is the optimum `lcskDP`; no valid chain
over the matches scores more — for strictly sorted match lists inside the size envelope `Bnd`, `k ≥ 1`, std's sort and
binary search by their assumed contracts.  (Stated on what the property fixes — *which* optimal chain is returned is not part
of the statement.) -/
theorem lcskpp_source_valid_optimal (sortEv : List Ev → List Ev) (bs : List M → M → Except Nat Nat) (hsort : SortOk sortEv)
    (hbs : BSearchOk bs) (ms : List M) (k : Nat) (hk : 0 < k) (hs : ms.Pairwise lexLt) (hB : Bnd ms k) :
    ∃ path sc dp, Gen.SrcLcskpp.lcskpp sortEv bs ms k = Res.ok (path, sc, dp) ∧ validChain ms k path = true ∧
      score k (pathMatches ms path) = sc ∧ sc = lcskDP ms k ∧
      ∀ c, Chain k c → (∀ e ∈ c, e ∈ ms) → score k c ≤ sc := by
  obtain ⟨r, h1, h2⟩ := GenSrcLcskpp.lcskpp_eq_model sortEv bs hsort hbs ms k hk hs hB
  obtain ⟨r', h1', h3, h4, h5, h6⟩ := lcskpp_model_optimal ms k hk hs
  obtain rfl : r' = r := Except.ok.inj (h1'.symm.trans h1)
  exact ⟨r'.path, r'.score, r'.dp, h2, h3, h4, h5, h6⟩

/-- the empty match list gives the empty result (nothing is claimed here about unsorted input) -/
theorem lcskpp_source_empty (sortEv : List Ev → List Ev) (bs : List M → M → Except Nat Nat) (k : Nat) :
    Gen.SrcLcskpp.lcskpp sortEv bs [] k = Res.ok ([], 0, []) := by
  simp [Gen.SrcLcskpp.lcskpp]

/-- the translated `FenwickTree::new` (`vec![T::default(); len + 1]`) is the model's `new` -/
theorem fenwick_new_source_eq_model (len : Nat) (h : len + 1 < 2 ^ 64) :
    Gen.SrcFenwickNew.new ((0, 0) : Nat × Nat) len = Res.ok (Model.Fenwick.new (0, 0) len) :=
  GenSrcLcskpp.fenwickNew_eq_model _ len h

/-- the contracts are satisfiable: merge sort by the derived order, first-position search -/
theorem lcskpp_source_contracts_satisfiable : SortOk stdSortEv ∧ BSearchOk stdBsM := ⟨stdSortEv_ok, stdBsM_ok⟩

example : ∃ path dp, Gen.SrcLcskpp.lcskpp stdSortEv stdBsM [(0, 0), (1, 1), (2, 2), (5, 5), (6, 9)] 3 = Res.ok (path, 8, dp) ∧
    validChain [(0, 0), (1, 1), (2, 2), (5, 5), (6, 9)] 3 path = true := by
  obtain ⟨path, sc, dp, h1, h2, _, h4, _⟩ := lcskpp_source_valid_optimal stdSortEv stdBsM stdSortEv_ok stdBsM_ok
    [(0, 0), (1, 1), (2, 2), (5, 5), (6, 9)] 3 (by decide) (by simp [lexLt])
    ⟨by decide, by intro m hm; simp at hm; rcases hm with rfl | rfl | rfl | rfl | rfl <;> decide⟩
  have : sc = 8 := by rw [h4]; decide
  subst this
  exact ⟨path, dp, h1, h2⟩

end lcskpp_source

/-! ## `sdpkpp` and `sdpkpp_union_lcskpp_path` (mirror models `RbV/Model/Sdpkpp.lean`) -/
section sdpkpp_model
open RbV.Model.Lcskpp RbV.Model.Sdpkpp RbV.Lemmas.Lcskpp RbV.Lemmas.Sdpkpp

/-- **the mirror model of `sdpkpp` returns a valid chain** — for every strictly sorted match list, every `k ≥ 1` and all
scoring parameters (`match_score`, magnitudes of `gap_open` / `gap_extend`): no assertion failure, the traceback ends by
its own condition, every index is in range and every step is a diagonal continuation by one or a start at least `k`
later in both sequences; the chain is non-empty when there are matches and lists its indices in ascending order.
(Validity only — the property does not fix the gap-penalised score.) -/
theorem sdpkpp_model_valid (ms : List M) (k msc gapOpen gapExtend : Nat) (hk : 0 < k) (hs : ms.Pairwise lexLt) :
    ∃ r, sdpkpp ms k msc gapOpen gapExtend = .ok r ∧ validChain ms k r.path = true ∧ (ms ≠ [] → r.path ≠ []) ∧
      r.path.Pairwise (· < ·) :=
  sdpkpp_model_ok msc gapOpen gapExtend hk hs

/-- what the Fenwick tree over `PrevPtr` records needs from C18: the record maximum is associative, commutative and has
the default record as identity (so a query is the maximum of the updates of the prefix) -/
theorem prevptr_max_is_monoid :
    (∀ a b c : PrevPtr, maxPP (maxPP a b) c = maxPP a (maxPP b c)) ∧ (∀ a b : PrevPtr, maxPP a b = maxPP b a) ∧
    (∀ a : PrevPtr, maxPP dfltPP a = a) :=
  ⟨maxPP_assoc, maxPP_comm, maxPP_id⟩

/-- **splicing is sound**: for any two valid chains, replacing the part of the first between the first and the last
match of the second (looked up in the first; nothing cut on the side where the lookup fails) by the second chain gives a
valid chain -/
theorem union_of_valid_chains_valid (ms : List M) (k : Nat) (lp sp : List Nat) (hl : validChain ms k lp = true)
    (hsp : validChain ms k sp = true) (first last : Nat) (hf : sp.head? = some first) (hla : sp.getLast? = some last) :
    validChain ms k (lp.take ((findIdx first 0 lp).getD 0) ++ sp ++
      lp.drop (match findIdx last 0 lp with | some ind => ind + 1 | none => lp.length)) = true :=
  union_valid ms k lp sp hl hsp first last hf hla

/-- **the mirror model of `sdpkpp_union_lcskpp_path` returns a valid chain** for every strictly sorted match list,
`k ≥ 1` and all scoring parameters -/
theorem union_model_valid (ms : List M) (k msc gapOpen gapExtend : Nat) (hk : 0 < k) (hs : ms.Pairwise lexLt) :
    ∃ u, unionPath ms k msc gapOpen gapExtend = .ok u ∧ validChain ms k u = true :=
  unionPath_model_ok msc gapOpen gapExtend hk hs

example : ∃ r, sdpkpp [(0, 0), (1, 1), (2, 2), (5, 5), (6, 9)] 3 1 2 1 = .ok r ∧
    validChain [(0, 0), (1, 1), (2, 2), (5, 5), (6, 9)] 3 r.path = true ∧ r.path ≠ [] := by
  obtain ⟨r, h1, h2, h3, _⟩ := sdpkpp_model_valid [(0, 0), (1, 1), (2, 2), (5, 5), (6, 9)] 3 1 2 1 (by decide) (by simp [lexLt])
  exact ⟨r, h1, h2, h3 (by simp)⟩

example : validChain [(0, 0), (1, 1), (2, 2), (5, 5), (6, 9)] 3 [0, 1, 4] = true ∧
    validChain [(0, 0), (1, 1), (2, 2), (5, 5), (6, 9)] 3 [1, 2, 3] = true ∧
    ([0, 1, 4].take ((findIdx 1 0 [0, 1, 4]).getD 0) ++ [1, 2, 3] ++
      [0, 1, 4].drop (match findIdx 3 0 [0, 1, 4] with | some ind => ind + 1 | none => 3)) = [0, 1, 2, 3] := by decide

end sdpkpp_model

/-! ## `sdpkpp`, `PrevPtr::new`, `sdpkpp_union_lcskpp_path` — the source text (`RbV/Gen/SrcSdpkpp.lean`) -/
section union_source
open RbV.Rs RbV.Model.Lcskpp RbV.Model.Sdpkpp RbV.Lemmas.Lcskpp RbV.Lemmas.Sdpkpp RbV.Thm.GenSrcLcskpp RbV.Thm.GenSrcSdpkpp

/-- **`sdpkpp_union_lcskpp_path` as written in the source** calls the translated `lcskpp` and `sdpkpp`; whatever they return
(`lcskpp` path ascending, `sdpkpp` path non-empty) the result is the splice `lcskpp.path[..pre] ++ sdpkpp.path ++
lcskpp.path[post..]` the mirror model computes, with `pre` / `post` decided by the two `binary_search` calls (contract
`Rs.BSearchOk`; the insertion point of an `Err` is not used); no index of the copy loops is out of range -/
theorem union_source_eq_splice (sortEv : List Ev → List Ev) (bsM : List M → M → Except Nat Nat) (bsN : List Nat → Nat → Except Nat Nat)
    (hbsN : BSearchOk bsN) (ms : List M) (k msc : Nat) (go ge : Int) (hne : ms ≠ [])
    {lp sp : List Nat} {ls ss : Nat} {ld sd : List (Nat × Int)} {first last : Nat}
    (hl : Gen.SrcLcskpp.lcskpp sortEv bsM ms k = Res.ok (lp, ls, ld))
    (hsd : Gen.SrcSdpkpp.sdpkpp sortEv bsM bsN ms k msc go ge = Res.ok (sp, ss, sd))
    (hasc : lp.Pairwise (· < ·)) (hf : sp.head? = some first) (hla : sp.getLast? = some last) (hlen : lp.length < 2 ^ 63) :
    Gen.SrcSdpkpp.unionPath sortEv bsM bsN ms k msc go ge
      = Res.ok (lp.take ((findIdx first 0 lp).getD 0) ++ sp ++
          lp.drop (match findIdx last 0 lp with | some ind => ind + 1 | none => lp.length)) :=
  GenSrcSdpkpp.unionPath_eq_splice sortEv bsM bsN hbsN ms k msc go ge hne hl hsd hasc hf hla hlen

/-- `PrevPtr::new` as written in the source = the model's record (as the tuple in field order) when the plane fits `u32` -/
theorem prevptr_new_source_eq_model (sortEv : List Ev → List Ev) (bsM : List M → M → Except Nat Nat) (bsN : List Nat → Nat → Except Nat Nat)
    (sc x y id ge : Nat) (h : sc + (x + y) * ge < 2 ^ 32) (hxy : x + y < 2 ^ 32) :
    Gen.SrcSdpkpp.prevPtrNew sortEv bsM bsN sc x y id ge = Res.ok (toT (PrevPtr.new sc x y id ge)) :=
  GenSrcSdpkpp.prevPtrNew_eq_model sortEv bsM bsN sc x y id ge h hxy

/-- **`sdpkpp` as written in the source = the mirror model** (path, score, whole `dp_vector`; gap parameters given by their
magnitudes: `gap_open = -gO`, `gap_extend = -gE`), for every strictly sorted match list, `k ≥ 1` and sizes `BndS` (those of
`lcskpp`; `gO, gE < 2³¹`; `len·k·match_score + 2·n·gE + gO < 2³²` and `2·n < 2³²` with `n = max (x + k, y + k)`): no panic —
the assertion on the gap parameters holds, `cur_x - prev_x` / `cur_y - prev_y` do not underflow, no `u32` sum or product
(`k * match_score`, `gap * _gap_extend`, `d * gap_extend` in `PrevPtr::new`) overflows — and the traceback ends by itself.
Outside `BndS` the Rust code *can* overflow (see docs/notes/C19.md). -/
theorem sdpkpp_source_eq_model (sortEv : List Ev → List Ev) (bsM : List M → M → Except Nat Nat) (bsN : List Nat → Nat → Except Nat Nat)
    (hsort : SortOk sortEv) (hbs : BSearchOk bsM) (ms : List M) (k msc gO gE : Nat) (hk : 0 < k) (hs : ms.Pairwise lexLt)
    (hS : BndS ms k msc gO gE) :
    ∃ r, sdpkpp ms k msc gO gE = .ok r ∧
      Gen.SrcSdpkpp.sdpkpp sortEv bsM bsN ms k msc (-(gO : Int)) (-(gE : Int)) = Res.ok (r.path, r.score, r.dp) :=
  GenSrcSdpkpp.sdpkpp_eq_model sortEv bsM bsN hsort hbs ms k msc gO gE hk hs hS

/-- **the translated `sdpkpp` returns a valid chain** (non-empty when there are matches, indices ascending), without panic —
for strictly sorted match lists, `k ≥ 1`, gap parameters `-gO`, `-gE` inside the size envelope `BndS` (see
`sdpkpp_source_eq_model`; outside it the `u32` arithmetic of the Rust code can overflow), std's sort and binary search by their
assumed contracts -/
theorem sdpkpp_source_valid (sortEv : List Ev → List Ev) (bsM : List M → M → Except Nat Nat) (bsN : List Nat → Nat → Except Nat Nat)
    (hsort : SortOk sortEv) (hbs : BSearchOk bsM) (ms : List M) (k msc gO gE : Nat) (hk : 0 < k) (hs : ms.Pairwise lexLt)
    (hS : BndS ms k msc gO gE) :
    ∃ path sc dp, Gen.SrcSdpkpp.sdpkpp sortEv bsM bsN ms k msc (-(gO : Int)) (-(gE : Int)) = Res.ok (path, sc, dp) ∧
      validChain ms k path = true ∧ (ms ≠ [] → path ≠ []) ∧ path.Pairwise (· < ·) := by
  obtain ⟨r, h1, h2⟩ := GenSrcSdpkpp.sdpkpp_eq_model sortEv bsM bsN hsort hbs ms k msc gO gE hk hs hS
  obtain ⟨r', h1', hv, hne, hasc⟩ := sdpkpp_model_ok msc gO gE hk hs
  obtain rfl : r' = r := Except.ok.inj (h1'.symm.trans h1)
  exact ⟨_, _, _, h2, hv, hne, hasc⟩

/-- a strictly ascending list of numbers in `[b, n)` has at most `n − b` elements (list arithmetic used by `union_source_valid`
to bound the length of an `lcskpp` path; nothing about rust-bio) -/
theorem ascending_length_le (n : Nat) : ∀ (l : List Nat) (b : Nat), l.Pairwise (· < ·) → (∀ x ∈ l, b ≤ x ∧ x < n) → b ≤ n →
    b + l.length ≤ n := by
  exact length_le_of_ascending n

/-- **the translated `sdpkpp_union_lcskpp_path` returns a valid chain** — through the translated `lcskpp` and the translated
`sdpkpp` (both proved equal to their models) and the splice; no panic — for strictly sorted match lists, `k ≥ 1`, inside the
size envelope `BndS` (which contains `Bnd`), std's sort and the two binary searches by their assumed contracts -/
theorem union_source_valid (sortEv : List Ev → List Ev) (bsM : List M → M → Except Nat Nat) (bsN : List Nat → Nat → Except Nat Nat)
    (hsort : SortOk sortEv) (hbsM : BSearchOk bsM) (hbsN : BSearchOk bsN) (ms : List M) (k msc gO gE : Nat) (hk : 0 < k)
    (hs : ms.Pairwise lexLt) (hS : BndS ms k msc gO gE) :
    ∃ u, Gen.SrcSdpkpp.unionPath sortEv bsM bsN ms k msc (-(gO : Int)) (-(gE : Int)) = Res.ok u ∧ validChain ms k u = true := by
  by_cases hne : ms = []
  · subst hne
    exact ⟨[], by simp [Gen.SrcSdpkpp.unionPath], by simp [validChain, pathMatches, chainB]⟩
  · obtain ⟨rl, hl1, hl2⟩ := GenSrcLcskpp.lcskpp_eq_model sortEv bsM hsort hbsM ms k hk hs hS.base
    obtain ⟨rl', hl1', _, hlv, _, _, hlasc⟩ := lcskpp_model_ok hk hs
    obtain rfl : rl' = rl := Except.ok.inj (hl1'.symm.trans hl1)
    obtain ⟨rs, hs1, hs2⟩ := GenSrcSdpkpp.sdpkpp_eq_model sortEv bsM bsN hsort hbsM ms k msc gO gE hk hs hS
    obtain ⟨rs', hs1', hsv, hsne, _⟩ := sdpkpp_model_ok msc gO gE hk hs
    obtain rfl : rs' = rs := Except.ok.inj (hs1'.symm.trans hs1)
    have hpne := hsne hne
    obtain ⟨first, last, hf, hla⟩ := exists_head_getLast hpne
    have hlen : rl'.path.length < 2 ^ 63 := by
      have hall : ∀ x ∈ rl'.path, 0 ≤ x ∧ x < ms.length := by
        intro x hx
        have := ((validChain_iff_chain ms k rl'.path).mp hlv).1 x hx
        omega
      have := ascending_length_le ms.length rl'.path 0 hlasc hall (by omega)
      have := hS.base.len
      omega
    exact ⟨_, GenSrcSdpkpp.unionPath_eq_splice sortEv bsM bsN hbsN ms k msc _ _ hne hl2 hs2 hlasc hf hla hlen,
      union_valid ms k rl'.path rs'.path hlv hsv first last hf hla⟩

example : ∃ u, Gen.SrcSdpkpp.unionPath stdSortEv stdBsM stdBsN [(0, 0), (1, 1), (2, 2), (5, 5), (6, 9)] 3 1 (-2) (-1) = Res.ok u ∧
    validChain [(0, 0), (1, 1), (2, 2), (5, 5), (6, 9)] 3 u = true := by
  have hn : nFrom 3 0 [(0, 0), (1, 1), (2, 2), (5, 5), (6, 9)] = 12 := by decide
  exact union_source_valid stdSortEv stdBsM stdBsN stdSortEv_ok stdBsM_ok stdBsN_ok [(0, 0), (1, 1), (2, 2), (5, 5), (6, 9)] 3 1 2 1
    (by decide) (by simp [lexLt])
    ⟨⟨by decide, by intro m hm; simp at hm; rcases hm with rfl | rfl | rfl | rfl | rfl <;> decide⟩, by decide, by decide,
      by rw [hn]; decide, by rw [hn]; decide⟩

example : Gen.SrcSdpkpp.prevPtrNew stdSortEv stdBsM (fun _ _ => .error 0) 7 3 4 2 5 = Res.ok (42, 7, 7, 2, 3, 4) := by decide

end union_source

section expand_then_chain
open RbV.Model.Expand RbV.Model.Lcskpp

/-- composition of the two mirror models (see `expand_model_sorted` for what the expansion model covers): chaining the expansion
with the `lcskpp` model is optimal over the expanded list -/
theorem lcskpp_on_expansion_optimal (seq1 seq2 : List Nat) (k : Nat) (ms : List M) (allowed : Nat) (hk : 0 < k)
    (hs : ms.Pairwise lexLt) :
    ∃ ex r, expandKmerMatches seq1 seq2 k ms allowed = .ok ex ∧ lcskpp ex k = .ok r ∧ validChain ex k r.path = true ∧
      r.score = lcskDP ex k :=
  let ⟨ex, h1, h2, _⟩ := expand_model_sorted seq1 seq2 k ms allowed hs
  let ⟨r, h3, h4, _, h5, _⟩ := lcskpp_model_optimal ex k hk h2
  ⟨ex, r, h1, h3, h4, h5⟩

end expand_then_chain

/-- the score counts `k` for the first match and every non-overlapping step and `1` for a diagonal continuation -/
theorem score_counts (k : Nat) (a b : M) (r : List M) :
    score k [] = 0 ∧ score k [a] = k ∧
    score k (a :: b :: r) = (if a.1 + k ≤ b.1 ∧ a.2 + k ≤ b.2 then k else 1) + score k (b :: r) := by
  refine ⟨rfl, rfl, ?_⟩
  simp only [score, step, nonov, Bool.and_eq_true, decide_eq_true_eq]

example : lcskDP [(0, 0), (1, 1), (2, 2), (5, 5), (6, 9)] 3 = 3 + 1 + 1 + 3 ∧
    score 3 (pathMatches [(0, 0), (1, 1), (2, 2), (5, 5), (6, 9)] [0, 1, 2, 3]) = 8 := by decide

end RbV.Thm.C19
