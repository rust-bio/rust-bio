import RbV.Lemmas.C14
import RbV.Lemmas.HmmRat
import RbV.Thm.GenSrcHmmViterbi
import RbV.Thm.GenSrcHmmForward
import RbV.Thm.GenSrcHmmBackward
/-!
# C14 — HMM decoding and likelihoods equal their definitions over all state paths

Objects (see `RbV/Spec/Hmm.lean`, `RbV/Model/Hmm.lean`): weights are natural-number numerators over a common
denominator; `paths S T` = all state paths, `joint m obs π` = initial · ∏ transition · ∏ emission · end,
`likelihood` = Σ over all paths, `viterbiVal` = max over all paths.  The mirror models `viterbi`, `forward`,
`backward`, `backwardLit` follow `src/stats/hmm/mod.rs`.  `viterbi` is `hmm::viterbi`: `viterbi_matrices` (no end
weights, zero-aware comparator), then the end weights on the last column iff `has_end_state()`, then
`viterbi_traceback` (last maximum wins).
`viterbiWith sel pick` is the same recursion for any predecessor selector and any arg-max of the last column;
`viterbiE` (plain arg-max, last maximum) is the oracle of the driver (`RbV/Drv/C14.lean`), which also uses
`forward` and `joint`.

All theorems hold for every model (any number of states ≥ 1, arbitrary weights: zeros, ties, sub-stochastic
rows, with or without end vector) and every non-empty observation sequence — no size bound, except
`obs.length < 2^64` for the translated `backward`.  The translated functions are run on `Rs.hmmOps m`, a model whose
transition weights do not depend on the position (true of both discrete-emission models of rust-bio, not of
`trait Model` in general).  Theorems about the
code mirror `viterbi` assume `Hmm.WF`: a model that does not declare an end state has end weight 1 (true of
every model the constructors `with_float` / `with_prob` / `discrete_emission::Model::new` build; vacuous for a
model with `has_end_state()`).
-/
namespace RbV.Thm.C14
open RbV.Hmm

/-- `paths` is exactly the set of state sequences of the right length over the states `0 … S-1` -/
theorem paths_exact (S T : Nat) (π : List Nat) : π ∈ paths S T ↔ π.length = T ∧ ∀ s ∈ π, s < S :=
  mem_paths

/-- **the reference algorithm `viterbiE`** (the driver's oracle: plain arg-max, end weights always applied, `hasEnd` not
consulted; the code mirror is `viterbi_code_max`, the translated text `viterbi_source_is_max_over_paths`): the traced
path is a state path, its joint weight is the reported value, and no state path has a larger joint weight. -/
theorem viterbi_max (m : Hmm) (obs : List Nat) (hS : 0 < m.S) (h : obs ≠ []) :
    (viterbiE m obs).1 ∈ paths m.S obs.length ∧
    joint m obs (viterbiE m obs).1 = (viterbiE m obs).2 ∧
    ∀ π ∈ paths m.S obs.length, joint m obs π ≤ (viterbiE m obs).2 :=
  viterbiE_spec m hS obs h

/-- … hence the reported value is the maximum over all state paths -/
theorem viterbi_value_eq_max (m : Hmm) (obs : List Nat) (hS : 0 < m.S) (h : obs ≠ []) :
    (viterbiE m obs).2 = viterbiVal m obs := by
  exact eq_viterbiVal_of_optimal (viterbiE_spec m hS obs h)

/-- the "zero-aware maximum" of `viterbi_matrices` (comparator closure `cmpZ` under `Iterator::max_by`) picks an
index below `n` whose product `previous value · transition` is maximal — although the comparator is not a
consistent order on the products (a zero previous value loses against a non-zero one whose transition is zero) -/
theorem zero_aware_max (c t : Nat → Nat) (n : Nat) (hn : 0 < n) :
    selZ c t n < n ∧ ∀ k, k < n → c k * t k ≤ c (selZ c t n) * t (selZ c t n) :=
  isArgmax_selZ c t n hn

/-- any predecessor selector with that property and any arg-max of the last column give a correct Viterbi
algorithm (so a different valid tie-break anywhere in the code keeps the property) -/
theorem viterbi_max_any_selector (sel : Sel) (hsel : IsArgmax sel) (pick : Pick) (hpick : IsPick pick) (m : Hmm)
    (obs : List Nat) (hS : 0 < m.S) (h : obs ≠ []) :
    (viterbiWith sel pick m obs).1 ∈ paths m.S obs.length ∧
    joint m obs (viterbiWith sel pick m obs).1 = (viterbiWith sel pick m obs).2 ∧
    ∀ π ∈ paths m.S obs.length, joint m obs π ≤ (viterbiWith sel pick m obs).2 :=
  viterbiWith_spec hsel hpick m hS obs h

/-- **tie-breaks do not matter**: two runs with different valid tie-breaks (among predecessors: `sel`, in the
last column: `pick` — e.g. "last maximum wins" of `max_by` / `max_by_key` versus "first maximum wins") may
return different paths, but both paths have the same joint weight, which both runs report, and it is the
maximum over all state paths. -/
theorem viterbi_tiebreak_irrelevant (sel sel' : Sel) (hsel : IsArgmax sel) (hsel' : IsArgmax sel')
    (pick pick' : Pick) (hpick : IsPick pick) (hpick' : IsPick pick') (m : Hmm) (obs : List Nat) (hS : 0 < m.S)
    (h : obs ≠ []) :
    joint m obs (viterbiWith sel pick m obs).1 = joint m obs (viterbiWith sel' pick' m obs).1 ∧
    (viterbiWith sel pick m obs).2 = (viterbiWith sel' pick' m obs).2 ∧
    (viterbiWith sel pick m obs).2 = viterbiVal m obs := by
  have ho := viterbiWith_spec hsel hpick m hS obs h
  have hu := optimal_unique ho (viterbiWith_spec hsel' hpick' m hS obs h)
  exact ⟨hu.1, hu.2, eq_viterbiVal_of_optimal ho⟩

/-- `max_by_key` ("last maximum wins", the code) and "first maximum wins" are both valid arg-max choices -/
theorem last_and_first_maximum_valid : IsPick argmaxLast ∧ IsPick argmaxFirst :=
  ⟨isPick_argmaxLast, isPick_argmaxFirst⟩

/-- **the end term is added after the matrix is complete** (`hmm::viterbi`): running the
literal `viterbi_traceback` on the matrices of `viterbi_matrices` whose *last value column* was multiplied by the
end weights equals the traceback that weights the last column by the end weights before its arg-max.  The
back-pointer columns are untouched, i.e. they were chosen without the end term; that this is still optimal
(`viterbi_code_max`) rests on the end term depending on the last state only. -/
theorem viterbi_end_after_matrix (m : Hmm) (hS : 0 < m.S) (col : List Nat) (mats : List (List Nat × List Nat)) :
    traceback m.S (addEnd m col mats).1 (addEnd m col mats).2 = tracebackW argmaxLast m.S m.fin col mats ∧
    (addEnd m col mats).2.map (·.2) = mats.map (·.2) :=
  ⟨traceback_addEnd m hS mats col, addEnd_ptrs m mats col⟩

/-- **the code mirror** (`viterbi_matrices` with the zero-aware comparator; end weights on the last column iff
`has_end_state()`; `viterbi_traceback`) satisfies the property for **every** well-formed model (`Hmm.WF`), with or without end vector:
the returned path is a state path, its joint weight is the reported value, no state path has a larger one. -/
theorem viterbi_code_max (m : Hmm) (obs : List Nat) (hS : 0 < m.S) (hwf : m.WF) (h : obs ≠ []) :
    (viterbi m obs).1 ∈ paths m.S obs.length ∧
    joint m obs (viterbi m obs).1 = (viterbi m obs).2 ∧
    ∀ π ∈ paths m.S obs.length, joint m obs π ≤ (viterbi m obs).2 :=
  viterbi_spec m hS hwf obs h

/-- … hence the value the code mirror reports is the maximum over all state paths, and it is the value of the
driver's oracle `viterbiE` -/
theorem viterbi_code_value_eq_max (m : Hmm) (obs : List Nat) (hS : 0 < m.S) (hwf : m.WF) (h : obs ≠ []) :
    (viterbi m obs).2 = viterbiVal m obs ∧ (viterbi m obs).2 = (viterbiE m obs).2 := by
  have hv : (viterbi m obs).2 = viterbiVal m obs := eq_viterbiVal_of_optimal (viterbi_spec m hS hwf obs h)
  exact ⟨hv, by rw [hv, viterbi_value_eq_max m obs hS h]⟩

/-- the code mirror against any other valid pair of tie-breaks (e.g. the harmless rewrite "first maximum wins" in
`viterbi_traceback`, or a plain arg-max instead of the zero-aware comparator): possibly another path, same joint
weight, same reported value -/
theorem viterbi_code_tiebreak (sel : Sel) (hsel : IsArgmax sel) (pick : Pick) (hpick : IsPick pick) (m : Hmm)
    (obs : List Nat) (hS : 0 < m.S) (hwf : m.WF) (h : obs ≠ []) :
    joint m obs (viterbi m obs).1 = joint m obs (viterbiWith sel pick m obs).1 ∧
    (viterbi m obs).2 = (viterbiWith sel pick m obs).2 := by
  exact optimal_unique (viterbi_spec m hS hwf obs h) (viterbiWith_spec hsel hpick m hS obs h)

/-- **forward** = Σ over all state paths of the joint weight -/
theorem forward_sum (m : Hmm) (obs : List Nat) (h : obs ≠ []) : forward m obs = likelihood m obs :=
  forward_eq_likelihood m obs h

/-- **backward** = Σ over all state paths of the joint weight -/
theorem backward_sum (m : Hmm) (obs : List Nat) (h : obs ≠ []) : backward m obs = likelihood m obs :=
  backward_eq_likelihood m obs h

/-- the **literal loop** of `hmm::backward` (index tests `i == 0` with the `len > 1` test inside, `i == len-1`, else;
so in particular the special cases T = 1 and T = 2) computes the same value, for every length -/
theorem backward_loop_sum (m : Hmm) (obs : List Nat) (h : obs ≠ []) : backwardLit m obs = likelihood m obs := by
  rw [backwardLit_eq_backward]; exact backward_eq_likelihood m obs h

/-- forward and backward return the same likelihood -/
theorem forward_eq_backward (m : Hmm) (obs : List Nat) (h : obs ≠ []) : forward m obs = backward m obs := by
  rw [forward_sum m obs h, backward_sum m obs h]

/-- the likelihood is never smaller than the Viterbi value (code mirror, every well-formed model) -/
theorem viterbi_le_likelihood (m : Hmm) (obs : List Nat) (hS : 0 < m.S) (hwf : m.WF) (h : obs ≠ []) :
    (viterbi m obs).2 ≤ forward m obs ∧ (viterbiE m obs).2 ≤ forward m obs := by
  obtain ⟨hp, hj, _⟩ := viterbi_spec m hS hwf obs h
  have h1 : (viterbi m obs).2 ≤ forward m obs := by
    rw [forward_sum m obs h, ← hj]
    exact le_sum_of_mem (List.mem_map.mpr ⟨_, hp, rfl⟩)
  exact ⟨h1, by rw [← (viterbi_code_value_eq_max m obs hS hwf h).2]; exact h1⟩

/-- impossible observations (every path has joint weight 0) get likelihood 0 and Viterbi value 0 -/
theorem impossible_zero (m : Hmm) (obs : List Nat) (hS : 0 < m.S) (hwf : m.WF) (h : obs ≠ [])
    (himp : ∀ π ∈ paths m.S obs.length, joint m obs π = 0) :
    forward m obs = 0 ∧ backward m obs = 0 ∧ (viterbi m obs).2 = 0 := by
  have hl : likelihood m obs = 0 := by
    unfold likelihood
    rw [sum_map_congr _ _ (fun _ => 0) himp, sum_map_zero]
  refine ⟨by rw [forward_sum m obs h, hl], by rw [backward_sum m obs h, hl], ?_⟩
  have := (viterbi_le_likelihood m obs hS hwf h).1
  rw [forward_sum m obs h, hl] at this
  omega

/-! ### the source text of `src/stats/hmm/mod.rs` (translated on every run: `RbV/Gen/SrcHmm*.lean`)

`LogProb` is an abstract type in the translation (`Rs.LogOps P`: `ln_zero`, `ln_one`, `+` on logs, `ln_sum_exp`, `ln_add_exp`,
`is_zero`, comparison), the accessors of `trait Model` are abstract parameters (`Rs.HmmOps P O`), `Array2` is a list of rows.
The theorems instantiate `P` with exact numerators (`Rs.natOps z`: product, sum, `compare`; `z` = the irrelevant fill value of
`Array2::zeros`) and the accessors with a specification-level model (`Rs.hmmOps m`).  `Res.ok` = no panic (no index out of
bounds, no `usize` overflow, no `unwrap` of `None`).  What stays untied is exactly the `f64` arithmetic behind the `LogProb`
operations (C15). -/

/-- **`hmm::forward` as written = the mirror model**: table of forward columns and the likelihood `forward m obs` -/
theorem forward_source_eq_model (z : Nat) (m : Hmm) (obs : List Nat) (h : obs ≠ []) :
    RbV.Gen.SrcHmmForward.forward (RbV.Rs.natOps z) (RbV.Rs.hmmOps m) obs
      = RbV.Rs.Res.ok ((List.range obs.length).map (RbV.Thm.GenSrcHmmForward.fcol m obs), forward m obs) :=
  RbV.Thm.GenSrcHmmForward.forward_eq_model z m obs h

/-- … hence the translated `forward` returns the sum of the joint weight over all state paths -/
theorem forward_source_is_sum_over_paths (z : Nat) (m : Hmm) (obs : List Nat) (h : obs ≠ []) :
    ∃ tbl, RbV.Gen.SrcHmmForward.forward (RbV.Rs.natOps z) (RbV.Rs.hmmOps m) obs
      = RbV.Rs.Res.ok (tbl, ((paths m.S obs.length).map (joint m obs)).sum) :=
  ⟨_, by rw [forward_source_eq_model z m obs h, forward_sum m obs h]; rfl⟩

/-- **`hmm::backward` as written = the mirror model**: table of backward rows and the likelihood `backward m obs`
(`obs.length < 2^64` as for every slice: the loop computes `i + 1` in `usize`) -/
theorem backward_source_eq_model (z : Nat) (m : Hmm) (obs : List Nat) (h : obs ≠ []) (h64 : obs.length < 2 ^ 64) :
    RbV.Gen.SrcHmmBackward.backward (RbV.Rs.natOps z) (RbV.Rs.hmmOps m) obs
      = RbV.Rs.Res.ok ((List.range obs.length).map (RbV.Thm.GenSrcHmmBackward.brow m obs), backward m obs) :=
  RbV.Thm.GenSrcHmmBackward.backward_eq_model z m obs h h64

/-- … hence the translated `backward` returns the sum of the joint weight over all state paths -/
theorem backward_source_is_sum_over_paths (z : Nat) (m : Hmm) (obs : List Nat) (h : obs ≠ []) (h64 : obs.length < 2 ^ 64) :
    ∃ tbl, RbV.Gen.SrcHmmBackward.backward (RbV.Rs.natOps z) (RbV.Rs.hmmOps m) obs
      = RbV.Rs.Res.ok (tbl, ((paths m.S obs.length).map (joint m obs)).sum) :=
  ⟨_, by rw [backward_source_eq_model z m obs h h64, backward_sum m obs h]; rfl⟩

/-- the translated `forward` and `backward` return the same likelihood -/
theorem forward_source_eq_backward_source (z : Nat) (m : Hmm) (obs : List Nat) (h : obs ≠ []) (h64 : obs.length < 2 ^ 64) :
    ∃ t1 t2 v, RbV.Gen.SrcHmmForward.forward (RbV.Rs.natOps z) (RbV.Rs.hmmOps m) obs = RbV.Rs.Res.ok (t1, v) ∧
      RbV.Gen.SrcHmmBackward.backward (RbV.Rs.natOps z) (RbV.Rs.hmmOps m) obs = RbV.Rs.Res.ok (t2, v) :=
  ⟨_, _, _, forward_source_eq_model z m obs h, by rw [backward_source_eq_model z m obs h h64, forward_eq_backward m obs h]⟩

/-! ### from cleared numerators to probabilities (`RbV/Lemmas/HmmRat.lean`, core `Rat`)

`q : HmmQ` is a model of exact rational *probabilities*, `jointQ q obs π` the product of the probabilities along a path,
`likelihoodQ q obs` its sum over all state paths = P(observations).  `Scaled m q dI dT dE dF`: the numerator model `m`
the theorems above run the translated code on is `q` with the denominators cleared (`ofNumerators m …` is such a `q` for every
`m` and non-zero denominators; for a model without end probabilities take `dF = 1`, `fin = 1`).  Every state path has the
same number of factors of each kind, so the value the translated code returns is the probability times the constant
`scale dI dT dE dF T = dI · dE · (dT·dE)^(T-1) · dF`. -/

/-- **the translated `forward`, read over exact rationals**: it returns (without panic) the numerator `v` with
`v = P(observations) · scale`, i.e. `P(observations) = v / scale` — the sum over all state paths of the product of the
*probabilities* `k/d`, not of cleared numerators -/
theorem forward_source_rat (z : Nat) (m : Hmm) (q : HmmQ) (dI dT dE dF : Nat) (hsc : Scaled m q dI dT dE dF)
    (hI : dI ≠ 0) (hT : dT ≠ 0) (hE : dE ≠ 0) (hF : dF ≠ 0) (obs : List Nat) (h : obs ≠ []) :
    ∃ tbl v, RbV.Gen.SrcHmmForward.forward (RbV.Rs.natOps z) (RbV.Rs.hmmOps m) obs = RbV.Rs.Res.ok (tbl, v) ∧
      likelihoodQ q obs * (scale dI dT dE dF obs.length : Rat) = (v : Rat) ∧
      likelihoodQ q obs = (v : Rat) / (scale dI dT dE dF obs.length : Rat) := by
  obtain ⟨tbl, ht⟩ := forward_source_is_sum_over_paths z m obs h
  have hl := likelihood_scaled hsc obs
  exact ⟨tbl, _, ht, hl, eq_div_of_mul_eq (natCast_ne_zero (scale_ne_zero dI dT dE dF obs.length hI hT hE hF)) hl⟩

/-- the quotient form for the translated `backward` -/
theorem backward_source_rat (z : Nat) (m : Hmm) (q : HmmQ) (dI dT dE dF : Nat) (hsc : Scaled m q dI dT dE dF)
    (hI : dI ≠ 0) (hT : dT ≠ 0) (hE : dE ≠ 0) (hF : dF ≠ 0) (obs : List Nat) (h : obs ≠ []) (h64 : obs.length < 2 ^ 64) :
    ∃ tbl v, RbV.Gen.SrcHmmBackward.backward (RbV.Rs.natOps z) (RbV.Rs.hmmOps m) obs = RbV.Rs.Res.ok (tbl, v) ∧
      likelihoodQ q obs = (v : Rat) / (scale dI dT dE dF obs.length : Rat) := by
  obtain ⟨tbl, ht⟩ := backward_source_is_sum_over_paths z m obs h h64
  have hl := likelihood_scaled hsc obs
  exact ⟨tbl, _, ht, eq_div_of_mul_eq (natCast_ne_zero (scale_ne_zero dI dT dE dF obs.length hI hT hE hF)) hl⟩

/-- **`hmm::viterbi` as written = the mirror model, modulo tie-breaking** (the property does not fix which of several optimal
paths is returned): the translated `viterbi_matrices` + end-term loop + `viterbi_traceback` return, without panic, the value
the mirror model `viterbi m obs` reports and a state path whose joint weight is that value -/
theorem viterbi_source_eq_model (z : Nat) (m : Hmm) (obs : List Nat) (hS : 0 < m.S) (hwf : m.WF) (h : obs ≠ []) :
    ∃ π, RbV.Gen.SrcHmmViterbi.viterbi (RbV.Rs.natOps z) (RbV.Rs.hmmOps m) obs = RbV.Rs.Res.ok (π, (viterbi m obs).2) ∧
      π ∈ paths m.S obs.length ∧ joint m obs π = (viterbi m obs).2 :=
  RbV.Thm.GenSrcHmmViterbi.viterbi_eq_model z m hS hwf obs h

/-- … hence the translated `viterbi` returns a path that attains the maximum of the joint weight over all state paths, and
that maximum -/
theorem viterbi_source_is_max_over_paths (z : Nat) (m : Hmm) (obs : List Nat) (hS : 0 < m.S) (hwf : m.WF) (h : obs ≠ []) :
    ∃ π v, RbV.Gen.SrcHmmViterbi.viterbi (RbV.Rs.natOps z) (RbV.Rs.hmmOps m) obs = RbV.Rs.Res.ok (π, v) ∧
      π ∈ paths m.S obs.length ∧ joint m obs π = v ∧ (∀ ρ ∈ paths m.S obs.length, joint m obs ρ ≤ v) ∧
      v = viterbiVal m obs := by
  obtain ⟨⟨π, v⟩, hv, ho⟩ := RbV.Thm.GenSrcHmmViterbi.viterbi_optimal z m hS hwf obs h
  exact ⟨π, v, hv, ho.1, ho.2.1, ho.2.2, eq_viterbiVal_of_optimal ho⟩

/-- **the translated `viterbi`, read over exact rationals**: the returned path maximises the *probability* `jointQ` over all
state paths, and the returned numerator is that probability times `scale` -/
theorem viterbi_source_rat (z : Nat) (m : Hmm) (q : HmmQ) (dI dT dE dF : Nat) (hsc : Scaled m q dI dT dE dF)
    (hI : dI ≠ 0) (hT : dT ≠ 0) (hE : dE ≠ 0) (hF : dF ≠ 0) (obs : List Nat) (hS : 0 < m.S) (hwf : m.WF) (h : obs ≠ []) :
    ∃ π v, RbV.Gen.SrcHmmViterbi.viterbi (RbV.Rs.natOps z) (RbV.Rs.hmmOps m) obs = RbV.Rs.Res.ok (π, v) ∧
      π ∈ paths q.S obs.length ∧ jointQ q obs π = (v : Rat) / (scale dI dT dE dF obs.length : Rat) ∧
      ∀ ρ ∈ paths q.S obs.length, jointQ q obs ρ ≤ jointQ q obs π := by
  obtain ⟨π, v, hv, hp, hj, hub, _⟩ := viterbi_source_is_max_over_paths z m obs hS hwf h
  refine ⟨π, v, hv, by rw [hsc.S]; exact hp, ?_, fun ρ hρ => ?_⟩
  · apply eq_div_of_mul_eq (natCast_ne_zero (scale_ne_zero dI dT dE dF obs.length hI hT hE hF))
    rw [joint_scaled hsc, hj]
  · rw [hsc.S] at hρ
    exact jointQ_le_of_joint_le hsc hI hT hE hF obs π ρ (by rw [hj]; exact hub ρ hρ)

/-- the zero-aware comparator closure of `viterbi_matrices`, as written, refines the score `previous value · transition`
(what makes `max_by` return a maximising predecessor in any scan order) -/
theorem viterbi_comparator_source_refines_score (z : Nat) (m : Hmm) (i c : Nat) (x y : Nat × Nat) :
    (RbV.Gen.SrcHmmViterbi.viterbi_matrices_cmp1 (RbV.Rs.natOps z) (RbV.Rs.hmmOps m) i c x y = .gt →
        y.2 * m.trans y.1 c ≤ x.2 * m.trans x.1 c) ∧
    (RbV.Gen.SrcHmmViterbi.viterbi_matrices_cmp1 (RbV.Rs.natOps z) (RbV.Rs.hmmOps m) i c x y ≠ .gt →
        x.2 * m.trans x.1 c ≤ y.2 * m.trans y.1 c) :=
  RbV.Thm.GenSrcHmmViterbi.cmp1_spec z m i c x y

/-! ### non-vacuity -/

/-- a 2-state model over denominator 10 with zeros, a tie and an end vector -/
def exModel : Hmm :=
  { S := 2
    init := fun s => [5, 5].getD s 0
    trans := fun a b => ([[5, 5], [0, 10]].getD a []).getD b 0
    emit := fun s o => ([[2, 8], [8, 2]].getD s []).getD o 0
    fin := fun s => [1, 3].getD s 0
    hasEnd := true }

/-- both kinds of model are well-formed (hypothesis `WF` of the code-mirror theorems is satisfiable) -/
example : exModel.WF := by intro h; cases h
example : exModel.noEnd.WF := fun _ _ _ => rfl

example : (viterbiE exModel [1, 0, 0]).1 = [0, 1, 1] ∧ (viterbiE exModel [1, 0, 0]).2 = 384000 := by decide
example : viterbiVal exModel [1, 0, 0] = 384000 ∧ likelihood exModel [1, 0, 0] = 628000 := by decide
example : forward exModel [1, 0, 0] = 628000 ∧ backward exModel [1, 0, 0] = 628000 := by decide
/-- the code mirror on the model with end vector (reports the joint weight *with* the end term) and on the
same model without end vector -/
example : viterbi exModel [1, 0, 0] = ([0, 1, 1], 384000) ∧ viterbi exModel.noEnd [1, 0, 0] = ([0, 1, 1], 128000) := by
  decide
example : viterbiVal exModel.noEnd [1, 0, 0] = (viterbi exModel.noEnd [1, 0, 0]).2 := by decide
example : backwardLit exModel [1] = 70 ∧ backwardLit exModel [1, 0] = 7600 ∧ backwardLit exModel [1, 0, 0] = 628000 := by decide

/-- the end term changes the arg-max: without it the best path ends in state 0, with it in state 1; the
back-pointers are the same in both runs (they never see the end term) -/
def flipModel : Hmm :=
  { S := 2
    init := fun _ => 5
    trans := fun _ _ => 5
    emit := fun s o => ([[6, 4], [4, 6]].getD s []).getD o 0
    fin := fun s => [1, 9].getD s 0
    hasEnd := true }
example : viterbi flipModel [0, 0] = ([0, 1], 5400) ∧ viterbi flipModel.noEnd [0, 0] = ([0, 0], 900) ∧
    joint flipModel [0, 0] [0, 0] = 900 ∧ viterbiVal flipModel [0, 0] = 5400 := by decide
example : (addEnd flipModel (col0 flipModel 0) (matFrom selZ flipModel (col0 flipModel 0) [0])).2.map (·.2)
    = (matFrom selZ flipModel (col0 flipModel 0) [0]).map (·.2) := by decide

/-- two valid tie-breaks, two different optimal paths, one value (hypotheses of `viterbi_tiebreak_irrelevant`) -/
def tieModel : Hmm :=
  { S := 2, init := fun _ => 1, trans := fun _ _ => 1, emit := fun _ _ => 1, fin := fun _ => 1, hasEnd := false }
example : viterbiWith selZ argmaxLast tieModel [0, 0] = ([1, 1], 1) ∧
    viterbiWith selLast argmaxFirst tieModel [0, 0] = ([1, 0], 1) ∧ viterbi tieModel [0, 0] = ([1, 1], 1) := by decide
example : tieModel.WF := fun _ _ _ => rfl

/-- hypothesis of `impossible_zero` is satisfiable: symbol 1 is never emitted -/
def impModel : Hmm :=
  { S := 2, init := fun _ => 1, trans := fun _ _ => 1, emit := fun _ o => if o = 0 then 2 else 0, fin := fun _ => 1,
    hasEnd := false }
example : impModel.WF := fun _ _ _ => rfl
example : ∀ π ∈ paths impModel.S [0, 1].length, joint impModel [0, 1] π = 0 := by decide
example : forward impModel [0, 1] = 0 ∧ (viterbi impModel [0, 1]).2 = 0 ∧ forward impModel [0, 0] = 16 := by decide

/-- the zero-aware comparator differs from the plain arg-max only in which zero-weight predecessor it names -/
example : selZ (fun k => [0, 3, 0].getD k 0) (fun k => [5, 0, 7].getD k 0) 3 = 1 ∧
          selLast (fun k => [0, 3, 0].getD k 0) (fun k => [5, 0, 7].getD k 0) 3 = 2 := by decide

/-- the end weight enters the reported value (the witness of DESIGN §10: one state, everything certain except the
end probability 1/10, two observations): the code mirror reports 10⁴/10⁵ = 0.1 = the joint probability of the
only path = the likelihood. -/
def oneState : Hmm :=
  { S := 1, init := fun _ => 10, trans := fun _ _ => 10, emit := fun _ _ => 10, fin := fun _ => 1, hasEnd := true }
example : viterbi oneState [0, 0] = ([0, 0], 10 ^ 4) ∧ joint oneState [0, 0] [0, 0] = 10 ^ 4 ∧
    forward oneState [0, 0] = 10 ^ 4 := by decide

/-- probabilities instead of numerators, on that model: all weights 10/10 = 1 except the end probability 1/10,
two observations: `scale = 10·10·(10·10)·10 = 10⁵`, the translated `forward` returns 10⁴, so P(observations) = 10⁴/10⁵ = 1/10
(and the sum over paths of the products of the probabilities, computed directly over `Rat`, is 1/10) -/
example : ∃ tbl v, RbV.Gen.SrcHmmForward.forward (RbV.Rs.natOps 7) (RbV.Rs.hmmOps oneState) [0, 0] = RbV.Rs.Res.ok (tbl, v) ∧
    likelihoodQ (ofNumerators oneState 10 10 10 10) [0, 0] = (v : Rat) / (scale 10 10 10 10 2 : Rat) :=
  let ⟨tbl, v, h, _, h2⟩ := forward_source_rat 7 oneState _ 10 10 10 10
    (ofNumerators_scaled oneState 10 10 10 10 (by decide) (by decide) (by decide) (by decide))
    (by decide) (by decide) (by decide) (by decide) [0, 0] (by decide)
  ⟨tbl, v, h, h2⟩
example : scale 10 10 10 10 2 = 10 ^ 5 ∧ likelihoodQ (ofNumerators oneState 10 10 10 10) [0, 0] = 1 / 10 ∧
    ((10 ^ 4 : Nat) : Rat) / ((10 ^ 5 : Nat) : Rat) = 1 / 10 := by decide +kernel

/-- `WF` cannot be dropped: a model that carries end weights but does not declare them (only constructible with
the raw `discrete_emission_opt_end::Model::new(…, end, false)`) is decoded without them -/
def undeclared : Hmm := { oneState with fin := fun _ => 3, hasEnd := false }
example : ¬ undeclared.WF ∧ (viterbi undeclared [0, 0]).2 = 10 ^ 4 ∧ joint undeclared [0, 0] [0, 0] = 3 * 10 ^ 4 := by
  refine ⟨fun h => absurd (h rfl 0 (by decide)) (by decide), by decide, by decide⟩

/-- the translated functions run on the example models (values as the mirror models above; `7` = fill value) -/
example : RbV.Gen.SrcHmmForward.forward (RbV.Rs.natOps 7) (RbV.Rs.hmmOps exModel) [1, 0, 0]
    = RbV.Rs.Res.ok ([[40, 10], [400, 2400], [4000, 208000]], 628000) := by decide
example : RbV.Gen.SrcHmmBackward.backward (RbV.Rs.natOps 7) (RbV.Rs.hmmOps exModel) [1, 0, 0]
    = RbV.Rs.Res.ok ([[1, 3], [130, 240], [10900, 19200]], 628000) := by decide
example : RbV.Gen.SrcHmmBackward.backward (RbV.Rs.natOps 0) (RbV.Rs.hmmOps exModel) [1]
    = RbV.Rs.Res.ok ([[1, 3]], 70) := by decide
example : RbV.Gen.SrcHmmViterbi.viterbi (RbV.Rs.natOps 0) (RbV.Rs.hmmOps exModel) [1, 0, 0]
    = RbV.Rs.Res.ok ([0, 1, 1], 384000) := by decide
example : RbV.Gen.SrcHmmViterbi.viterbi (RbV.Rs.natOps 0) (RbV.Rs.hmmOps flipModel) [0, 0] = RbV.Rs.Res.ok ([0, 1], 5400) ∧
    RbV.Gen.SrcHmmViterbi.viterbi (RbV.Rs.natOps 0) (RbV.Rs.hmmOps flipModel.noEnd) [0, 0] = RbV.Rs.Res.ok ([0, 0], 900) := by
  decide
/-- the empty observation sequence: `forward` panics (`observations.len() - 1`), `viterbi` returns `([], 0)` (the `unwrap` of
the empty `max_by_key` is never reached: the loop body does not run) — the theorems assume `obs ≠ []` -/
example : RbV.Gen.SrcHmmForward.forward (RbV.Rs.natOps 0) (RbV.Rs.hmmOps exModel) [] = RbV.Rs.Res.panic := by decide
example : RbV.Gen.SrcHmmViterbi.viterbi (RbV.Rs.natOps 0) (RbV.Rs.hmmOps exModel) [] = RbV.Rs.Res.ok ([], 0) := by decide

end RbV.Thm.C14
