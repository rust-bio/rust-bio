import RbV.Thm.GenSrcAvl
/-!
# The source text of the AVL interval tree = the mirror model: `repair`, `Node::insert`, `IntervalTree::insert`, histories

Continuation of `Thm/GenSrcAvl.lean`.  `repair_eq_model`: on a node whose two subtrees have exact fields (`Fields`) the
translated `repair` — the three-way case distinction on `(left_h - right_h).abs()`, the inner rotation of the zig-zag
cases applied through the `&mut` borrowed from `self.right` / `self.left`, the outer rotation — never panics (no `expect`
on a missing child, no `i64` overflow for fewer than `2^60` nodes) and yields exactly `Avl.repair` of the model.
`nodeInsert_eq_model`: the recursive `Node::insert` (recursion on fuel; `ht ≤ fuel` suffices) equals `Avl.insertG tb` for
**every** tie-break test `tb` the condition hole of the source computes (`HoleIs`); `tieOk_src` shows that the test
found in the source is admissible (`TieOk`), which is all the invariant proofs need (seeded change C07-H1).
-/
set_option linter.unusedSimpArgs false
namespace RbV.GenSrcAvl
open RbV RbV.Rs RbV.Rs.Res RbV.Ivl RbV.Avl RbV.Gen
open RbV.Gen.SrcAvl (Node IntervalTree nodeNew nodeInsert nodeInsert_goLeft treeInsert treeDefault)

theorem fields_children (m : Node) (f : Fields (toTree m)) : Fields (toTreeO m.left) ∧ Fields (toTreeO m.right) := by
  rw [toTree_eq] at f; exact ⟨f.1, f.2.1⟩

theorem hOf_eq_ht (o : Option Node) (f : Fields (toTreeO o)) : hOf o = (ht (toTreeO o) : Int) := by
  cases o with
  | none => simp [ht]
  | some m =>
    rw [toTreeO_some, toTree_eq] at f
    obtain ⟨_, _, _, hh⟩ := f
    rw [ht_toTreeO, hOf_some]
    simp only [updHeight] at hh
    omega

theorem fields_hr (o : Option Node) (S : Int) (f : Fields (toTreeO o)) (hs : (size (toTreeO o) : Int) ≤ S) : HR S o := by
  have := hOf_eq_ht o f
  have := ht_le_size _ f
  constructor <;> omega

theorem size_toTree (m : Node) : size (toTree m) = size (toTreeO m.left) + 1 + size (toTreeO m.right) := by
  rw [toTree_eq]; rfl

/-- exact fields and at most `S` nodes: every stored height in the subtree is then a number in `[0, S]` -/
def FS (S : Int) (o : Option Node) : Prop := Fields (toTreeO o) ∧ (size (toTreeO o) : Int) ≤ S

theorem FS.hr {S : Int} {o : Option Node} (h : FS S o) : HR S o := fields_hr o S h.1 h.2

theorem FS.left {S : Int} {m : Node} (h : FS S (some m)) : FS S m.left := by
  have := size_toTree m
  exact ⟨(fields_children m h.1).1, by have := h.2; rw [toTreeO_some] at this; omega⟩

theorem FS.right {S : Int} {m : Node} (h : FS S (some m)) : FS S m.right := by
  have := size_toTree m
  exact ⟨(fields_children m h.1).2, by have := h.2; rw [toTreeO_some] at this; omega⟩

theorem exists_some_of_lt_hOf {o : Option Node} {k : Int} (hk : 0 ≤ k) (h : k < hOf o) : ∃ m, o = some m := by
  cases o with
  | none => exact absurd h (Int.not_lt.mpr hk)
  | some m => exact ⟨m, rfl⟩

/-! ### `repair` as written in the source, on stored heights in `[0, B]` -/

/-- `(a - b).abs()` on `i64` for two stored heights: neither step leaves the range -/
theorem absdiff_ok {a b B : Int} (ha : 0 ≤ a ∧ a ≤ B) (hb : 0 ≤ b ∧ b ≤ B) (hB : B < 2 ^ 63) :
    Rs.isub 64 a b = ok (a - b) ∧ Rs.iabs 64 (a - b) = ok (if a - b < 0 then -(a - b) else a - b) :=
  ⟨Rs.isub_ok (inS64 (by omega) (by omega)), Rs.iabs_ok (inS64 (by split <;> omega) (by split <;> omega))⟩

/-- the balance test of `repair` in the forms the source may give it (`<= 1` or `< 2`, either operand order) -/
theorem absdiff_le_one {a b : Int} :
    let d := fun (x y : Int) => if x - y < 0 then -(x - y) else x - y
    ((d a b ≤ 1 ↔ a ≤ b + 1 ∧ b ≤ a + 1) ∧ (d a b < 2 ↔ a ≤ b + 1 ∧ b ≤ a + 1)) ∧
      ((d b a ≤ 1 ↔ a ≤ b + 1 ∧ b ≤ a + 1) ∧ (d b a < 2 ↔ a ≤ b + 1 ∧ b ≤ a + 1)) := by
  intro d
  simp only [d]
  refine ⟨⟨?_, ?_⟩, ?_, ?_⟩ <;> split <;> omega

/-- `repair` as written in the source, on stored heights in `[0, B]`: the balance test on `(left_h - right_h).abs()` decided,
the three arms as the model has them (`expect` on the child that is about to move up) -/
theorem repair_src (n : Node) (B : Int) (hB : B + 1 < 2 ^ 63) (hl : HR B n.left) (hr : HR B n.right) :
    SrcAvl.repair n =
      if hOf n.left ≤ hOf n.right + 1 ∧ hOf n.right ≤ hOf n.left + 1 then ok (mkN n.left n.interval n.value n.right)
      else if hOf n.right > hOf n.left then
        Rs.expect n.right >>= fun rn =>
          if hOf rn.left > hOf rn.right then
            SrcAvl.rotateRight rn >>= fun r' => SrcAvl.rotateLeft { n with right := some r' }
          else SrcAvl.rotateLeft n
      else
        Rs.expect n.left >>= fun ln =>
          if hOf ln.right > hOf ln.left then
            SrcAvl.rotateLeft ln >>= fun l' => SrcAvl.rotateRight { n with left := some l' }
          else SrcAvl.rotateRight n := by
  have e := absdiff_ok hl hr (by omega)
  have e' := absdiff_ok hr hl (by omega)
  have c := @absdiff_le_one (hOf n.left) (hOf n.right)
  have hu := updates_eq n B hB hl hr
  obtain ⟨iv, v, mx, h, l, r⟩ := n
  simp only at e e' c hu ⊢
  by_cases hbal : hOf l ≤ hOf r + 1 ∧ hOf r ≤ hOf l + 1
  · simp only [SrcAvl.repair, e.1, e.2, e'.1, e'.2, Res.ok_bind, c.1.1, c.1.2, c.2.1, c.2.2, if_pos hbal, pure_bind,
      Res.pure_eq_ok, bind_pure]
    exact hu
  · by_cases c2 : hOf r > hOf l
    · simp only [SrcAvl.repair, e.1, e.2, e'.1, e'.2, Res.ok_bind, c.1.1, c.1.2, c.2.1, c.2.2, if_neg hbal, if_pos c2,
        pure_bind, Res.pure_eq_ok]
      cases r with
      | none => rfl
      | some rn =>
        simp only [Rs.expect_some, Res.ok_bind]
        split
        · cases SrcAvl.rotateRight rn <;> rfl
        · rfl
    · simp only [SrcAvl.repair, e.1, e.2, e'.1, e'.2, Res.ok_bind, c.1.1, c.1.2, c.2.1, c.2.2, if_neg hbal, if_neg c2,
        pure_bind, Res.pure_eq_ok]
      cases l with
      | none => rfl
      | some ln =>
        simp only [Rs.expect_some, Res.ok_bind]
        split
        · cases SrcAvl.rotateLeft ln <;> rfl
        · rfl

/-- the model's comparisons of stored heights, read off the source's -/
theorem ht_gt_iff {a b : Option Node} (hb : 0 ≤ hOf b) :
    ht (toTreeO a) > ht (toTreeO b) ↔ hOf a > hOf b := by
  rw [ht_toTreeO, ht_toTreeO]; omega

theorem unbal_toNat {a b : Int} (ha : 0 ≤ a) (h : a + 1 < b) :
    ¬(a.toNat ≤ b.toNat + 1 ∧ b.toNat ≤ a.toNat + 1) ∧ ¬(b.toNat ≤ a.toNat + 1 ∧ a.toNat ≤ b.toNat + 1) ∧
      b.toNat > a.toNat ∧ ¬ a.toNat > b.toNat := by
  omega

theorem repair_eq_model (n : Node) (fl : Fields (toTreeO n.left)) (fr : Fields (toTreeO n.right))
    (hs : size (toTree n) < 2 ^ 60) :
    ∃ n', SrcAvl.repair n = ok n' ∧ toTree n' = Avl.repair (toTree n) := by
  have hsz := size_toTree n
  have FL : FS (2 ^ 60) n.left := ⟨fl, by omega⟩
  have FR : FS (2 ^ 60) n.right := ⟨fr, by omega⟩
  clear hsz hs
  have hL := FL.hr
  have hR := FR.hr
  have hB : ((2 : Int) ^ 60) + 2 < 2 ^ 63 := by decide
  have hB1 : ((2 : Int) ^ 60 + 1) + 2 < 2 ^ 63 := by decide
  rw [toTree_eq n, repair_src n _ (by decide) hL hR]
  by_cases hbal : hOf n.left ≤ hOf n.right + 1 ∧ hOf n.right ≤ hOf n.left + 1
  · -- balanced: `update_height(); update_max()`
    rw [if_pos hbal]
    refine ⟨_, rfl, ?_⟩
    have hl0 := hL.1
    have hr0 := hR.1
    rw [toTree_mkN _ _ _ _ hL.1 hR.1, repair_bal _ _ _ _ _ (by rw [ht_toTreeO, ht_toTreeO]; omega)]
    rfl
  · by_cases hgt : hOf n.right > hOf n.left
    · have hunb : hOf n.left + 1 < hOf n.right := by omega
      obtain ⟨rn, hrn⟩ := exists_some_of_lt_hOf hL.1 hgt
      have hc := unbal_toNat hL.1 hunb
      rw [if_neg hbal, if_pos hgt]
      rw [hrn] at FR hR hc
      have hRL := FR.left.hr
      have hRR := FR.right.hr
      rw [hrn, Rs.expect_some, Res.ok_bind, toTreeO_some, toTree_eq rn, repair_right _ _ _ _ _ _ _ _ _ (by rw [ht_toTreeO]; exact hc.1)
        (by rw [ht_toTreeO]; exact hc.2.2.1)]
      by_cases hd : hOf rn.left > hOf rn.right
      · obtain ⟨a, hra⟩ := exists_some_of_lt_hOf hRR.1 hd
        have FA := FR.left
        rw [hra] at FA
        obtain ⟨r', e1, t1, k1, k2⟩ := rotateRight_ok rn a _ hB hra FA.left.hr FA.right.hr hRR
        obtain ⟨n', e2, t2, _⟩ := rotateLeft_ok { n with right := some r' } r' _ hB1 rfl hL.mono k1 k2
        rw [if_pos hd, if_pos ((ht_gt_iff hRR.1).mpr hd), e1, Res.ok_bind, e2]
        refine ⟨n', rfl, ?_⟩
        rw [t2, toTree_eq, toTreeO_some, t1, toTree_eq rn]
        rfl
      · obtain ⟨n', e2, t2, _⟩ := rotateLeft_ok n rn _ hB hrn hL hRL hRR
        rw [if_neg hd, if_neg (mt (ht_gt_iff hRR.1).mp hd), e2]
        refine ⟨n', rfl, ?_⟩
        rw [t2, toTree_eq n, hrn, toTreeO_some, toTree_eq rn]
    · have hunb : hOf n.right + 1 < hOf n.left := by omega
      obtain ⟨ln, hln⟩ := exists_some_of_lt_hOf (Int.le_trans hR.1 (Int.le_add_of_nonneg_right (by decide))) hunb
      have hc := unbal_toNat hR.1 hunb
      rw [if_neg hbal, if_neg hgt]
      rw [hln] at FL hL hc
      have hLL := FL.left.hr
      have hLR := FL.right.hr
      rw [hln, Rs.expect_some, Res.ok_bind, toTreeO_some, toTree_eq ln, repair_left _ _ _ _ _ _ _ _ _ (by rw [ht_toTreeO]; exact hc.2.1)
        (by rw [ht_toTreeO]; exact hc.2.2.2)]
      by_cases hd : hOf ln.right > hOf ln.left
      · obtain ⟨a, hla⟩ := exists_some_of_lt_hOf hLL.1 hd
        have FA := FL.right
        rw [hla] at FA
        obtain ⟨l', e1, t1, k1, k2⟩ := rotateLeft_ok ln a _ hB hla hLL FA.left.hr FA.right.hr
        obtain ⟨n', e2, t2, _⟩ := rotateRight_ok { n with left := some l' } l' _ hB1 rfl k1 k2 hR.mono
        rw [if_pos hd, if_pos ((ht_gt_iff hLL.1).mpr hd), e1, Res.ok_bind, e2]
        refine ⟨n', rfl, ?_⟩
        rw [t2, toTree_eq, toTreeO_some, t1, toTree_eq ln]
        rfl
      · obtain ⟨n', e2, t2, _⟩ := rotateRight_ok n ln _ hB hln hLL hLR hR
        rw [if_neg hd, if_neg (mt (ht_gt_iff hLL.1).mp hd), e2]
        refine ⟨n', rfl, ?_⟩
        rw [t2, toTree_eq n, hln, toTreeO_some, toTree_eq ln]

theorem nodeNew_eq (iv : Int × Int) (d : Int) : nodeNew iv d = ok ⟨iv, d, iv.2, 1, none, none⟩ := rfl

theorem toTree_new (iv : Int × Int) (d : Int) : toTree ⟨iv, d, iv.2, 1, none, none⟩ = leaf ⟨iv.1, iv.2, d⟩ := by
  simp [toTree, leaf]

/-- the condition hole of `Node::insert` computes the tie-break `tb` of the model -/
def HoleIs (goLeft : (Int × Int) → Node → Bool) (tb : TieBreak) : Prop :=
  ∀ (iv : Int × Int) (d : Int) (n : Node), goLeft iv n = tb ⟨iv.1, iv.2, d⟩ (entryOf n)

theorem good_toTree (n : Node) (g : Good (toTree n)) :
    Good (toTreeO n.left) ∧ Good (toTreeO n.right) ∧ n.height.toNat = 1 + max (ht (toTreeO n.left)) (ht (toTreeO n.right)) := by
  rw [toTree_eq, good_node_iff] at g
  exact ⟨g.1, g.2.1, g.2.2.2.1⟩

/-- `Node::insert` at a child slot: descend into the child, or hang a new leaf there -/
def childIns (goLeft : (Int × Int) → Node → Bool) (fuel : Nat) (iv : Int × Int) (d : Int) : Option Node → Res Node
  | some son => nodeInsert goLeft fuel son iv d
  | none => nodeNew iv d

theorem nodeInsert_succ (goLeft : (Int × Int) → Node → Bool) (fuel : Nat) (n : Node) (iv : Int × Int) (d : Int) :
    nodeInsert goLeft (fuel + 1) n iv d =
      if goLeft iv n = true then childIns goLeft fuel iv d n.left >>= fun s => SrcAvl.repair { n with left := some s }
      else childIns goLeft fuel iv d n.right >>= fun s => SrcAvl.repair { n with right := some s } := by
  obtain ⟨iv0, v0, mx, h, l, r⟩ := n
  rw [nodeInsert]
  -- whether the source tests first and then looks at the child, or selects the child slot first
  by_cases hg : goLeft iv ⟨iv0, v0, mx, h, l, r⟩ = true <;> cases l <;> cases r <;>
    simp only [hg, childIns, if_true, if_false, Bool.false_eq_true, bind_assoc, pure_bind, bind_pure, Res.pure_eq_ok,
      Res.ok_bind]

theorem nodeInsert_eq_model (goLeft : (Int × Int) → Node → Bool) (tb : TieBreak) (hh : HoleIs goLeft tb) :
    ∀ (fuel : Nat) (n : Node) (iv : Int × Int) (d : Int), Good (toTree n) → size (toTree n) + 1 < 2 ^ 60 →
      ht (toTree n) ≤ fuel →
      ∃ n', nodeInsert goLeft fuel n iv d = ok n' ∧ toTree n' = insertG tb (toTree n) ⟨iv.1, iv.2, d⟩ := by
  intro fuel
  induction fuel with
  | zero =>
    intro n iv d g hs hf
    obtain ⟨_, _, hh'⟩ := good_toTree n g
    rw [toTree_eq] at hf
    simp only [ht_node] at hf
    omega
  | succ fuel ih =>
    intro n iv d g hs hf
    -- a child slot: an absent child becomes a leaf, a present one is the induction hypothesis
    have child : ∀ o : Option Node, Good (toTreeO o) → size (toTreeO o) + 1 < 2 ^ 60 → ht (toTreeO o) ≤ fuel →
        ∃ s, childIns goLeft fuel iv d o = ok s ∧ toTree s = insertG tb (toTreeO o) ⟨iv.1, iv.2, d⟩ := by
      intro o go hso hfo
      cases o with
      | none => exact ⟨_, nodeNew_eq iv d, by rw [toTree_new, toTreeO_none]; rfl⟩
      | some son => exact ih son iv d go hso hfo
    obtain ⟨gl, gr, hht⟩ := good_toTree n g
    have hsz := size_toTree n
    rw [toTree_eq n] at hf ⊢
    simp only [ht_node] at hf
    rw [nodeInsert_succ, hh iv d n]
    unfold insertG
    by_cases htb : tb ⟨iv.1, iv.2, d⟩ (entryOf n) = true
    · rw [if_pos htb, if_pos htb]
      obtain ⟨s, s1, s2⟩ := child n.left gl (by omega) (by omega)
      obtain ⟨gi, -, -⟩ := insertG_good tb (toTreeO n.left) ⟨iv.1, iv.2, d⟩ gl
      obtain ⟨n', h1, h2⟩ := repair_eq_model { n with left := some s } (by rw [toTreeO_some, s2]; exact gi.1) gr.1
        (by rw [size_toTree]; simp only [toTreeO_some, s2, size_insertG]; omega)
      exact ⟨n', by rw [s1, Res.ok_bind, h1], by rw [h2, toTree_eq]; simp only [toTreeO_some, s2, entryOf]⟩
    · rw [if_neg htb, if_neg htb]
      obtain ⟨s, s1, s2⟩ := child n.right gr (by omega) (by omega)
      obtain ⟨gi, -, -⟩ := insertG_good tb (toTreeO n.right) ⟨iv.1, iv.2, d⟩ gr
      obtain ⟨n', h1, h2⟩ := repair_eq_model { n with right := some s } gl.1 (by rw [toTreeO_some, s2]; exact gi.1)
        (by rw [size_toTree]; simp only [toTreeO_some, s2, size_insertG]; omega)
      exact ⟨n', by rw [s1, Res.ok_bind, h1], by rw [h2, toTree_eq]; simp only [toTreeO_some, s2, entryOf]⟩

/-! ## the tie-break found in the source -/

/-- the condition hole of the source as a tie-break of the model (it only reads the two starts) -/
def srcTb : TieBreak := fun e x => nodeInsert_goLeft (e.lo, e.hi) ⟨(x.lo, x.hi), x.data, 0, 0, none, none⟩

theorem holeIs_src : HoleIs nodeInsert_goLeft srcTb := by
  intro iv d n
  cases n
  rfl

/-- the test of the source is admissible: what goes left does not start after the node, what goes right does not start
before it — true of the `<=` of the source and of the `<` of seeded change C07-H1 alike -/
theorem tieOk_src : TieOk srcTb := by
  intro e x
  simp only [srcTb, nodeInsert_goLeft, decide_eq_true_eq, decide_eq_false_iff_not, ge_iff_le, gt_iff_lt]
  omega

theorem treeInsert_eq_model (goLeft : (Int × Int) → Node → Bool) (tb : TieBreak) (hh : HoleIs goLeft tb) (fuel : Nat)
    (T : IntervalTree) (iv : Int × Int) (d : Int) (g : Good (toTreeO T.root)) (hs : size (toTreeO T.root) + 1 < 2 ^ 60)
    (hf : size (toTreeO T.root) ≤ fuel) :
    ∃ T', treeInsert goLeft fuel T iv d = ok T' ∧ toTreeO T'.root = insertG tb (toTreeO T.root) ⟨iv.1, iv.2, d⟩ := by
  obtain ⟨root⟩ := T
  cases root with
  | none =>
    refine ⟨⟨some ⟨iv, d, iv.2, 1, none, none⟩⟩, ?_, ?_⟩
    · simp only [treeInsert, nodeNew_eq, Res.ok_bind, pure_bind, Res.pure_eq_ok]
    · simp only [toTreeO_some, toTree_new, toTreeO_none, insertG]
  | some n =>
    simp only [toTreeO_some] at g hs hf ⊢
    obtain ⟨n', h1, h2⟩ := nodeInsert_eq_model goLeft tb hh fuel n iv d g hs
      (Nat.le_trans (ht_le_size _ g.1) hf)
    refine ⟨⟨some n'⟩, ?_, ?_⟩
    · simp only [treeInsert, h1, Res.ok_bind, pure_bind, Res.pure_eq_ok]
    · simpa using h2

/-- a history of `insert(start..end, data)` calls through the translated `IntervalTree::insert` -/
def srcBuild (goLeft : (Int × Int) → Node → Bool) (fuel : Nat) : List (Int × Int × Int) → IntervalTree → Res IntervalTree
  | [], T => ok T
  | (s, e, d) :: es, T => treeInsert goLeft fuel T (s, e) d >>= srcBuild goLeft fuel es

def entriesOf (es : List (Int × Int × Int)) : List Ivl.Entry := es.map (fun p => ⟨p.1, p.2.1, p.2.2⟩)

theorem srcBuild_eq_model (goLeft : (Int × Int) → Node → Bool) (tb : TieBreak) (hh : HoleIs goLeft tb) (fuel : Nat) :
    ∀ (es : List (Int × Int × Int)) (T : IntervalTree), Good (toTreeO T.root) →
      size (toTreeO T.root) + es.length < 2 ^ 60 → size (toTreeO T.root) + es.length ≤ fuel →
      ∃ T', srcBuild goLeft fuel es T = ok T' ∧
        toTreeO T'.root = (entriesOf es).foldl (insertG tb) (toTreeO T.root)
  | [], T, _, _, _ => ⟨T, rfl, rfl⟩
  | (s, e, d) :: es, T, g, hs, hf => by
    simp only [List.length_cons] at hs hf
    obtain ⟨T1, h1, h2⟩ := treeInsert_eq_model goLeft tb hh fuel T (s, e) d g (by omega) (by omega)
    have g1 : Good (toTreeO T1.root) := by rw [h2]; exact (insertG_good tb _ _ g).1
    have sz : size (toTreeO T1.root) = size (toTreeO T.root) + 1 := by rw [h2, size_insertG]
    obtain ⟨T', h3, h4⟩ := srcBuild_eq_model goLeft tb hh fuel es T1 g1 (by omega) (by omega)
    refine ⟨T', ?_, ?_⟩
    · simp only [srcBuild, h1, Res.ok_bind, h3]
    · rw [h4, h2]; rfl

theorem treeDefault_eq : treeDefault = ok ⟨none⟩ := rfl

end RbV.GenSrcAvl
