import RbV.Gen.SrcSaisLms
import RbV.Gen.SrcTransform
import RbV.Thm.GenSrcSaisLms
import RbV.Thm.GenSrcSaisCalcPosSafe
import RbV.Thm.GenSrcSaisBuckets
import RbV.Thm.GenSrcPosTypes
import RbV.Lemmas.SaisMain
import RbV.Lemmas.SaisWidth
import RbV.Gen.SaisWidth
/-!
# `Sais::construct`: the translated pieces tied into one fuelled recursion, equal to the mirror model `Sais.construct`

`constructSrc` is the only hand-written glue: the recursion knot.  At fuel `f + 1` it is the *translated* `construct`
(`Gen.SrcSaisLms.construct`: translated `PosTypes::new`, then `calc_lms_pos`, then `calc_pos`) whose abstract callees are
instantiated with the translated `calc_lms_pos` / `calc_pos` (on the translated bucket functions and `PosTypes` predicates),
and the `construct` passed to the translated `sort_lms_suffixes` is `constructSrc f`; fuel `0` is `Res.fuel`.  `castS w` is
`num_traits::cast::<usize, uW>` for the width `w` the dispatch of `calc_lms_pos` selects, `castU` the cast of a symbol to
`usize`.

`constructSrc_eq_model`: for every text SA-IS accepts (`Sais.Valid`) with `t.length ≤ fuel`, `t.length ≤ |reduced_text_pos| <
2^62`: no panic, the fuel suffices, and the six fields are those of the model's `Sais.construct fuel t s`.
-/
set_option linter.unusedSimpArgs false

namespace RbV.Thm.GenSrcSaisConstruct
open RbV RbV.Rs RbV.Gen RbV.Thm.GenSrc RbV.Sais

abbrev Fields := List Nat × List Nat × List Nat × VecMap × List Nat × List Nat

/-- translated `calc_pos` with the translated callees -/
def calcPosK (castU : Nat → Option Nat) (pos lms : List Nat) (bsz : VecMap) (bst be t : List Nat) (ty : List Bool) :
    Res (List Nat × VecMap × List Nat × List Nat) :=
  SrcSaisCalcPos.calc_pos castU (SrcPosTypes.is_l_pos ty) (SrcPosTypes.is_s_pos ty) (SrcPosTypes.is_lms_pos ty)
    (SrcSaisBuckets.init_bucket_start castU) SrcSaisBuckets.init_bucket_end pos lms bsz bst be t ty

/-- **the recursion knot** (hand-written; everything it calls is translated) -/
def constructSrc (castU : Nat → Option Nat) (castS : Nat → Nat → Option Nat) :
    Nat → List Nat → List Nat → List Nat → VecMap → List Nat → List Nat → List Nat → Res Fields
  | 0 => fun _ _ _ _ _ _ _ => Res.fuel
  | f + 1 => fun pos lms rtp bsz bst be t =>
    SrcSaisLms.construct
      (fun pos lms rtp bsz bst be t ty =>
        SrcSaisLms.calc_lms_pos (SrcPosTypes.is_l_pos ty) (SrcPosTypes.is_s_pos ty) (SrcPosTypes.is_lms_pos ty)
          (calcPosK castU)
          (fun w pos lms rtp bsz bst be t ty cnt =>
            SrcSaisLms.sort_lms_suffixes (SrcPosTypes.is_l_pos ty) (SrcPosTypes.is_s_pos ty) (SrcPosTypes.is_lms_pos ty)
              (castS w) (constructSrc castU castS f) pos lms rtp bsz bst be t ty cnt)
          pos lms rtp bsz bst be t ty)
      (calcPosK castU) pos lms rtp bsz bst be t

/-- translated `calc_pos` with the translated callees = the model's `calcPosRun`, on every index-safe run -/
theorem calcPosK_eq_of_safe (castU : Nat → Option Nat) (pos0 lms : List Nat) (bsz : VecMap) (bst0 be0 t : List Nat)
    (hv : Valid t) (hc : ∀ c ∈ t, castU c = some c) (hsz : t.length < 2 ^ 64)
    (hsafe : GenSrcSaisCalcPos.SafeRun t (tyOf t) lms) :
    ∃ m, calcPosK castU pos0 lms bsz bst0 be0 t (tyOf t) =
      Res.ok ((calcPosRun t (tyOf t) lms).pos, m, (calcPosRun t (tyOf t) lms).bStart, (calcPosRun t (tyOf t) lms).bEnd) := by
  obtain ⟨m, h1, _⟩ := GenSrcSaisBuckets.init_bucket_start_spec castU bsz bst0 t hc hsz
  exact ⟨m, GenSrcSaisCalcPos.calc_pos_eq_model castU _ _ _ _ _ pos0 lms bsz bst0 be0 t (tyOf t) m hc
    (fun q hq => GenSrcPosTypes.is_l_pos_eq_model _ q hq) (fun q hq => GenSrcPosTypes.is_s_pos_eq_model _ q hq)
    h1 (fun be => GenSrcSaisBuckets.init_bucket_end_valid be t hv) hsafe⟩

/-- translated `calc_pos` on any arrangement of the LMS positions of a valid text = the model's `calcPos` -/
theorem calcPosK_eq (castU : Nat → Option Nat) (hcU : ∀ c, castU c = some c) (t : List Nat) (hv : Valid t)
    (hsz : t.length < 2 ^ 64) (s : St) (bsz : VecMap) (hl : LmsList t s.lmsPos) :
    ∃ m, calcPosK castU s.pos s.lmsPos bsz s.bStart s.bEnd t (tyOf t) =
      Res.ok ((calcPos t (tyOf t) s).pos, m, (calcPos t (tyOf t) s).bStart, (calcPos t (tyOf t) s).bEnd) :=
  calcPosK_eq_of_safe castU s.pos s.lmsPos bsz s.bStart s.bEnd t hv (fun c _ => hcU c) hsz
    (GenSrcSaisCalcPos.safeRun_of_valid t hv hsz s.lmsPos hl)

/-- the dispatch of `calc_lms_pos` as it stands in the translated text (`widthOf`) is the dispatch over the guards
extracted from the source text (`Gen/SaisWidth.lean`): `sais_reduced_width_fits` of Thm/C03.lean speaks of the width used here -/
theorem widthOf_eq_pick (m : Nat) :
    GenSrcSaisLms.widthOf m = Sais.pick Gen.SaisWidth.reducedArms Gen.SaisWidth.reducedElse m := by
  unfold GenSrcSaisLms.widthOf Sais.pick Gen.SaisWidth.reducedArms Gen.SaisWidth.reducedElse
  simp only [List.find?_cons, List.find?_nil]
  by_cases h1 : m ≤ 255
  · simp [h1]
  · by_cases h2 : m ≤ 65535
    · simp [h1, h2]
    · by_cases h3 : m ≤ 4294967295 <;> simp [h1, h2, h3]

theorem lt_pow_widthOf (cnt x : Nat) (hc : cnt < 2 ^ 64) (hx : x < cnt) : x < 2 ^ GenSrcSaisLms.widthOf cnt := by
  rw [widthOf_eq_pick]
  exact Sais.pick_fits _ _ cnt x (by decide +kernel) hc hx

/-- **`constructSrc fuel` = the mirror model `Sais.construct fuel`** on every text SA-IS accepts -/
theorem constructSrc_eq_model (castU : Nat → Option Nat) (castS : Nat → Nat → Option Nat)
    (hcU : ∀ c, castU c = some c) (hcS : ∀ w x, x < 2 ^ w → castS w x = some x) :
    ∀ (f : Nat) (t : List Nat) (s : St) (bsz : VecMap), Valid t → t.length ≤ f → t.length ≤ s.redPos.length →
      s.redPos.length < 2 ^ 62 →
      ∃ bsz', constructSrc castU castS f s.pos s.lmsPos s.redPos bsz s.bStart s.bEnd t =
        Res.ok ((construct f t s).pos, (construct f t s).lmsPos, (construct f t s).redPos, bsz',
          (construct f t s).bStart, (construct f t s).bEnd) := by
  intro f
  induction f with
  | zero => intro t s _ hv hf; have := hv.pos; omega
  | succ f ih =>
    intro t s bsz hv hf hs hsz
    have hne := hv.ne_nil
    have hA : SrcPosTypes.new t = Res.ok (tyOf t) := GenSrcPosTypes.new_eq_model t hne (by omega)
    have hLms : ∀ q, q < (tyOf t).length → SrcPosTypes.is_lms_pos (tyOf t) q = Res.ok (isLms (tyOf t) q) :=
      fun q hq => GenSrcPosTypes.is_lms_pos_eq_model _ q hq
    have hLms' : ∀ q, q < t.length → SrcPosTypes.is_lms_pos (tyOf t) q = Res.ok (isLms (tyOf t) q) :=
      fun q hq => hLms q (by rw [length_tyOf]; exact hq)
    -- model-level facts about this level
    have hl3 := (calcLmsPos_sorted f (construct_sorted f) t hv hf s hs).1
    have hmodel : construct (f + 1) t s = calcPos t (tyOf t) (calcLmsPos (construct f) t (tyOf t) s) := rfl
    have hcl : calcLmsPos (construct f) t (tyOf t) s =
        sortLmsSuffixes (construct f) t (tyOf t)
          (forUp t.length (collectStep (tyOf t)) ([], s.redPos, 0)).1.length
          (calcPos t (tyOf t) { s with lmsPos := (forUp t.length (collectStep (tyOf t)) ([], s.redPos, 0)).1,
                                        redPos := (forUp t.length (collectStep (tyOf t)) ([], s.redPos, 0)).2.1 }) := rfl
    rw [hmodel]
    rw [hcl] at hl3 ⊢
    simp only [constructSrc, SrcSaisLms.construct, hA, Res.ok_bind]
    rw [GenSrcSaisLms.calc_lms_pos_eq_model _ _ _ _ _ (tyOf t) hLms s.pos s.lmsPos s.redPos bsz s.bStart s.bEnd t
      (length_tyOf t) hs (by omega)]
    obtain ⟨c2, c3, hc, h3, hred⟩ := collect_lmsOf t s.redPos hs
    rw [hc] at hl3 ⊢
    simp only [] at hl3 ⊢
    have hmlt := length_lmsOf_lt t hv.pos
    -- first `calc_pos`
    obtain ⟨m1, hC⟩ := calcPosK_eq castU hcU t hv (by omega)
      { s with lmsPos := lmsOf t, redPos := c2 } bsz (lmsList_lmsOf t)
    generalize hsB : calcPos t (tyOf t) { s with lmsPos := lmsOf t, redPos := c2 } = sB at hC hl3 ⊢
    have hpos : sB.pos = pos1 t := by rw [← hsB]; rfl
    have hrp' : sB.redPos = c2 := by rw [← hsB]; rfl
    have hlp : sB.lmsPos = lmsOf t := by rw [← hsB]; rfl
    have hperm : sB.pos.Perm (List.range t.length) := by
      rw [hpos]; exact calcPos_perm t hv _ (lmsList_lmsOf t)
    have hmem : ∀ p, p ∈ sB.pos ↔ p < t.length := by intro p; rw [hperm.mem_iff, List.mem_range]
    -- the next level works on the reduced text `red1 t c2`, a valid text at most half as long
    have hredv : (naming t (tyOf t) (lmsOf t).length sB).red = red1 t c2 := hrp' ▸ (naming_pos1 t sB hpos).2
    have hvr := fun hm : (lmsOf t).length > 1 => valid_red1 t hv (by omega) c2 hred hm
    have hlr := length_red1 t c2
    -- `sort_lms_suffixes`
    obtain ⟨m2, hD⟩ := GenSrcSaisLms.sort_lms_suffixes_eq_model (SrcPosTypes.is_l_pos (tyOf t)) (SrcPosTypes.is_s_pos (tyOf t))
      (SrcPosTypes.is_lms_pos (tyOf t)) (castS (GenSrcSaisLms.widthOf (lmsOf t).length))
      (constructSrc castU castS f) t (tyOf t) (lmsOf t).length (construct f) sB m1
      (length_tyOf t) (by omega) (fun p hp => sym_ne_last hv p hp) hLms'
      (fun x hx => hcS _ x (lt_pow_widthOf _ x (by omega) hx)) (by omega)
      (hperm.nodup_iff.mpr List.nodup_range) (fun p hp => (hmem p).mp hp)
      (by have := hperm.length_eq; rw [List.length_range] at this; have := hv.pos; omega)
      (by
        intro hm
        have h2 : 2 ≤ t.length := by omega
        have hh : sB.pos.getD 0 0 = t.length - 1 := by rw [hpos]; exact calcPosRun_head t hv h2 _ (lmsList_lmsOf t)
        rw [hh, hrp', h3]
        refine ⟨by omega, ?_⟩
        rw [hred _ (isLms_last hv h2)]
        exact rho_lt (tyOf t) (t.length - 1) t.length (by omega) (isLms_last hv h2))
      (by
        intro p hp hl
        have hpn := (hmem p).mp hp
        rw [hrp', h3]
        refine ⟨by omega, ?_⟩
        rw [hred p hl]
        exact rho_lt (tyOf t) p t.length hpn hl)
      (by
        have := (hperm.filter (isLms (tyOf t))).length_eq
        rw [this]; exact Nat.le_refl _)
      (fun hm _ => hredv ▸ ih (red1 t c2) sB m1 (hvr hm) (by omega) (by rw [hrp', h3]; omega) (by rw [hrp', h3]; exact hsz))
      (by
        intro hm _ p hp
        rw [hredv] at hp
        have := (construct_sorted f (red1 t c2) sB (hvr hm) (by omega) (by rw [hrp', h3]; omega)).1.mem_iff.mp hp
        rw [List.mem_range, hlr] at this
        rw [hlp]; exact this)
    rw [hlp] at hD
    generalize hs3 : sortLmsSuffixes (construct f) t (tyOf t) (lmsOf t).length sB = s3 at hD hl3 ⊢
    -- second `calc_pos`
    obtain ⟨m3, hE⟩ := calcPosK_eq castU hcU t hv (by omega) s3 m2 hl3
    refine ⟨m3, ?_⟩
    have hC' : calcPosK castU s.pos (lmsOf t) bsz s.bStart s.bEnd t (tyOf t) =
        Res.ok (sB.pos, m1, sB.bStart, sB.bEnd) := hC
    rw [hC']
    simp only [Res.ok_bind]
    rw [← hrp', hD]
    simp only [Res.ok_bind]
    rw [hE]
    rfl

/-! ### the two public entry points: hand-written glue around the translated pieces

`suffix_array(text)`: `Alphabet::new(text)`, `sentinel_count(text)`, `Sais::new(n)` (empty vectors, `reduced_text_pos = vec![0; n]`,
empty `VecMap`), `sais.construct(&transform_text::<uN>(text, &alphabet, sentinel_count))` at the width the `match` selects,
`sais.pos`.  The `match` is not rendered: `castT` stands for the `cast::<usize, uN>` of the arm taken (its contract is what
`sais_transform_width_fits` proves of the extracted guards). -/

def suffixArraySrc (castT castU : Nat → Option Nat) (castS : Nat → Nat → Option Nat) (text : List Nat) : Res (List Nat) := do
  let alphabet ← SrcAlphabet.alphabetNew text
  let sc ← SrcTransform.sentinel_count text
  let tt ← SrcTransform.transform_text castT text alphabet sc
  let r ← constructSrc castU castS tt.length [] [] (List.replicate text.length 0) VecMap.empty [] [] tt
  pure r.1

/-- `suffix_array_int(text)`: `Sais::new(text.len())`, `sais.construct(&text)`, `sais.pos` -/
def suffixArrayIntSrc (castU : Nat → Option Nat) (castS : Nat → Nat → Option Nat) (text : List Nat) : Res (List Nat) := do
  let r ← constructSrc castU castS text.length [] [] (List.replicate text.length 0) VecMap.empty [] [] text
  pure r.1

/-- the knot started from `Sais::new(n)` returns the sorted suffix permutation of every text SA-IS accepts -/
theorem constructSrc_sorted (castU : Nat → Option Nat) (castS : Nat → Nat → Option Nat)
    (hcU : ∀ c, castU c = some c) (hcS : ∀ w x, x < 2 ^ w → castS w x = some x)
    (t : List Nat) (n : Nat) (hv : Valid t) (hn : t.length ≤ n) (hsz : n < 2 ^ 62) :
    ∃ r : Fields, constructSrc castU castS t.length [] [] (List.replicate n 0) VecMap.empty [] [] t = Res.ok r ∧
      SuffixSorted t r.1 := by
  obtain ⟨b, h⟩ := constructSrc_eq_model castU castS hcU hcS t.length t (St.new n) VecMap.empty hv (Nat.le_refl _)
    (by simp [St.new]; exact hn) (by simp [St.new]; exact hsz)
  exact ⟨_, h, construct_sorted t.length t (St.new n) hv (Nat.le_refl _) (by simp [St.new]; exact hn)⟩

end RbV.Thm.GenSrcSaisConstruct
