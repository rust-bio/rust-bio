import RbV.Thm.GenSrcFmdAllSmems
import RbV.Lemmas.SmemsFmd
/-!
# The translated FMD-index code on an FMD index: no panic, and exactly the supermaximal matches (C06)

`GenSrcFmdSmems.smems_eq_model_of` / `GenSrcFmdAllSmems.all_smems_eq_model` hold for every family of operations that the
translated extension functions compute on a closed set of *safe* intervals.  Here the set is instantiated for `less` /
`occ` functions with the three facts every FM-index provides (`IdxFacts`: values `≤ n`, `occ` monotone in the row) —
`Safe n d iv`: bounds non-zero, size `≤ n`, and head-room for `d` more extensions (after an extension one bound is `≤ 2·n`,
the other has grown by at most `11·n`, `match_size` by one: `backwardExt_bounds`; `M n = 13·n + 2` covers all three) — and the operations are the **translated functions themselves**
(`srcOps`, made total by an arbitrary value where they panic; on safe intervals they do not).  With the lock-step theorem
`sim_smems` (`RbV/Lemmas/SmemsSim.lean`, any operations that implement the string-level ones) this gives
`smems_source_correct` / `all_smems_source_correct`.  The size hypothesis `(13·n + 2)·(|pattern| + 2) < 2^64` keeps the
crude head-room argument inside `usize` (the true values are far smaller: every bound stays `≤ n`).
-/

namespace RbV.Thm.GenSrcFmdIndex
open RbV RbV.Rs RbV.Gen RbV.FMDModel RbV.SmemModel RbV.Thm.GenSrcFmdExt RbV.Thm.GenSrcFmdSmems
  RbV.Thm.GenSrcFmdAllSmems

/-- what the arithmetic needs of `less` / `occ` -/
structure IdxFacts (lessF : Nat → Nat) (occF : Nat → Nat → Nat) (n : Nat) : Prop where
  occ_le : ∀ r b, occF r b ≤ n
  occ_mono : ∀ r r' b, r ≤ r' → occF r b ≤ occF r' b
  less_le : ∀ a, lessF a ≤ n

/-- head-room consumed by one extension -/
def M (n : Nat) : Nat := 13 * n + 2

/-- `iv` has non-zero bounds, size `≤ n` and head-room `H` below `2^64 - 1` -/
def SH (n H : Nat) (iv : Bi) : Prop :=
  1 ≤ iv.lower ∧ 1 ≤ iv.lowerRev ∧ iv.size ≤ n ∧ iv.lower + H < 2 ^ 64 ∧ iv.lowerRev + H < 2 ^ 64 ∧
    iv.matchSize + H < 2 ^ 64

/-- safe for `d` more extensions -/
def Safe (n d : Nat) (iv : Bi) : Prop := SH n (M n * d) iv

theorem SH.lower_pos {n H : Nat} {iv : Bi} (h : SH n H iv) : 1 ≤ iv.lower := h.1

theorem SH.lowerRev_pos {n H : Nat} {iv : Bi} (h : SH n H iv) : 1 ≤ iv.lowerRev := h.2.1

theorem SH.size_le {n H : Nat} {iv : Bi} (h : SH n H iv) : iv.size ≤ n := h.2.2.1

theorem SH.swapped {n H : Nat} {iv : Bi} (h : SH n H iv) : SH n H (swapped iv) :=
  let ⟨h1, h2, h3, h4, h5, h6⟩ := h
  ⟨h2, h1, h3, h5, h4, h6⟩

theorem SH.room {n H : Nat} {iv : Bi} (hs : SH n (H + M n) iv) :
    iv.lower + 11 * n < 2 ^ 64 ∧ iv.lowerRev + 11 * n < 2 ^ 64 ∧ iv.matchSize + 1 < 2 ^ 64 := by
  unfold SH M at hs
  omega

/-- an interval inside the bounds of `backwardExt_bounds` has used up at most `M n` of the head-room -/
theorem SH.step {n H : Nat} {iv r : Bi} (hs : SH n (H + M n) iv) (h1 : 1 ≤ r.lower) (h2 : r.lower ≤ 2 * n)
    (h3 : 1 ≤ r.lowerRev) (h4 : r.lowerRev ≤ iv.lowerRev + 11 * n) (h5 : r.size ≤ n)
    (h6 : r.matchSize = iv.matchSize + 1) : SH n H r := by
  unfold SH M at *
  omega

theorem SH.mono {n H H' : Nat} {iv : Bi} (hH : H ≤ H') (h : SH n H' iv) : SH n H iv := by
  unfold SH at *
  omega

theorem SH.of_le {n H : Nat} {iv : Bi} (h1 : 1 ≤ iv.lower) (h2 : 1 ≤ iv.lowerRev) (hl : iv.lower ≤ n)
    (hr : iv.lowerRev ≤ n) (hs : iv.size ≤ n) (hm : iv.matchSize ≤ 1) (hH : H + M n < 2 ^ 64) : SH n H iv := by
  unfold SH
  unfold M at hH
  omega

/-! ### arithmetic of the size hypothesis -/

/-- what the size hypothesis leaves: room for two extensions, and the pattern length fits a signed word -/
theorem size_room {n L : Nat} (h : M n * (L + 2) < 2 ^ 64) : 2 * M n < 2 ^ 64 ∧ 2 * (L + 2) < 2 ^ 64 := by
  have h1 : M n * 2 ≤ M n * (L + 2) := Nat.mul_le_mul_left _ (by omega)
  have h2 : 2 * (L + 2) ≤ M n * (L + 2) := Nat.mul_le_mul_right _ (by unfold M; omega)
  omega

theorem live_of_le {n lo sz : Nat} (h : lo + sz ≤ n) (hn : 2 * M n < 2 ^ 64) :
    sz ≤ n ∧ lo + 11 * n < 2 ^ 64 := by
  unfold M at hn
  omega

/-- `match_size` of a candidate for `pattern[b..e)`: it fits a word, and one extension keeps it the length -/
theorem matchSize_step {ms b e L : Nat} (h : ms = e - b) (hbe : b < e) (he : e ≤ L) (hC : 2 * (L + 2) < 2 ^ 64) :
    ms + 1 < 2 ^ 64 ∧ ms + 1 = e + 1 - b ∧ (1 ≤ b → ms + 1 = e - (b - 1)) := by
  omega

section step
variable {lessF : Nat → Nat} {occF : Nat → Nat → Nat} {n : Nat} (hI : IdxFacts lessF occF n)

include hI in
theorem occMono (iv : Bi) (ord : List Nat) : OccMono occF iv ord := by
  intro b _
  split
  · exact Nat.zero_le _
  · exact hI.occ_mono _ _ _ (by omega)

include hI in
theorem sOf_le (iv : Bi) (b : Nat) : sOf occF iv b ≤ n := by
  exact Nat.le_trans (Nat.sub_le _ _) (hI.occ_le _ b)

include hI in
theorem sum_sOf_le (iv : Bi) : (order.map (sOf occF iv)).sum ≤ 11 * n := by
  have := sum_map_le (sOf occF iv) n (sOf_le hI iv) order
  rw [order_length] at this
  omega

include hI in
theorem backwardExt_bounds (iv : Bi) (a : Nat) :
    (backwardExt lessF occF iv a).size ≤ n ∧ lessF a ≤ (backwardExt lessF occF iv a).lower ∧
      (backwardExt lessF occF iv a).lower ≤ 2 * n ∧ iv.lowerRev ≤ (backwardExt lessF occF iv a).lowerRev ∧
      (backwardExt lessF occF iv a).lowerRev ≤ iv.lowerRev + 11 * n := by
  have hb := extLoop_bounds occF iv a n hI.occ_le order iv.lowerRev 0 0 (Nat.zero_le _)
  have ho := extLoop_o_le occF iv a n hI.occ_le order (iv.lowerRev, 0, 0) (Nat.zero_le _)
  have hle := hI.less_le a
  rw [order_length] at hb
  simp only [backwardExt]
  omega

include hI in
theorem bwd_live (iv : Bi) (a : Nat) (hpos : 0 < iv.size) (hsz : iv.size ≤ n) (hl : iv.lower + 11 * n < 2 ^ 64)
    (hr : iv.lowerRev + 11 * n < 2 ^ 64) (hms : iv.matchSize + 1 < 2 ^ 64) :
    SrcFmdExt.backward_ext lessF occF (toT iv) a = Res.ok (toT (backwardExt lessF occF iv a)) := by
  have hsum := sum_sOf_le hI iv
  have hle := hI.less_le a
  exact backward_ext_eq_model lessF occF iv a n hpos (by omega) (occMono hI iv order) hI.occ_le (by omega) (by omega) hms

include hI in
theorem fwd_live (iv : Bi) (a : Nat) (hpos : 0 < iv.size) (hsz : iv.size ≤ n) (hl : iv.lower + 11 * n < 2 ^ 64)
    (hr : iv.lowerRev + 11 * n < 2 ^ 64) (hms : iv.matchSize + 1 < 2 ^ 64) :
    SrcFmdExt.forward_ext lessF occF dnaCompl (toT iv) a = Res.ok (toT (forwardExt lessF occF iv a)) :=
  forward_ext_eq_swap lessF occF iv a (r := toT (backwardExt lessF occF (swapped iv) (dnaCompl a)))
    (bwd_live hI (swapped iv) (dnaCompl a) hpos hsz hr hl hms)

include hI in
theorem bwd_dead (iv : Bi) (a H : Nat) (hs : SH n (H + M n) iv) (h0 : iv.size = 0) :
    ∃ r, SrcFmdExt.backward_ext lessF occF (toT iv) a = Res.ok r ∧ (ofT r).size = 0 ∧
      (1 ≤ lessF a → SH n H (ofT r)) := by
  have hle := hI.less_le a
  obtain ⟨h1, h2, h3, h4, h5, h6⟩ := hs
  unfold M at h4 h5 h6
  -- `B`: the largest bound that leaves head-room `H`
  obtain ⟨B, hB⟩ : ∃ B, B + H + 1 = 2 ^ 64 := ⟨2 ^ 64 - 1 - H, by omega⟩
  have hin : ∀ x, x + (H + (13 * n + 2)) < 2 ^ 64 → x ≤ B := fun x hx => by omega
  have hout : ∀ x, x ≤ B → x + H < 2 ^ 64 := fun x hx => by omega
  have hd := backward_ext_dead lessF occF iv a n B h0 h1 (hin _ h4) h2 (hin _ h5) (by omega) hI.occ_le
    (by omega) (by omega)
  cases hx : SrcFmdExt.backward_ext lessF occF (toT iv) a with
  | ok r =>
    rw [hx] at hd
    obtain ⟨d1, d2, d3, d4, d5, d6⟩ := hd
    exact ⟨r, rfl, d1, fun hl => ⟨d2 hl, d4 trivial, (show r.2.2.1 ≤ n from d1.symm ▸ Nat.zero_le n), hout _ d3, hout _ d5, by
      show r.2.2.2 + H < 2 ^ 64
      omega⟩⟩
  | panic => rw [hx] at hd; exact hd.elim
  | fuel => rw [hx] at hd; exact hd.elim

include hI in
theorem bwd_step (iv : Bi) (a H : Nat) (hs : SH n (H + M n) iv) :
    ∃ r, SrcFmdExt.backward_ext lessF occF (toT iv) a = Res.ok r ∧ (iv.size = 0 → (ofT r).size = 0) ∧
      (ofT r).size ≤ n ∧ (1 ≤ lessF a → SH n H (ofT r)) := by
  by_cases hpos : 0 < iv.size
  · obtain ⟨b1, b2, b3, b4, b5⟩ := backwardExt_bounds hI iv a
    obtain ⟨r1, r2, r4⟩ := hs.room
    exact ⟨_, bwd_live hI iv a hpos hs.size_le r1 r2 r4, fun h => absurd h (Nat.ne_of_gt hpos), b1,
      fun hl => hs.step (r := backwardExt lessF occF iv a) (Nat.le_trans hl b2) b3 (Nat.le_trans hs.lowerRev_pos b4) b5 b1 rfl⟩
  · have h0 : iv.size = 0 := Nat.eq_zero_of_not_pos hpos
    obtain ⟨r, hr, hz, hsafe⟩ := bwd_dead hI iv a H hs h0
    exact ⟨r, hr, fun _ => hz, hz ▸ Nat.zero_le n, hsafe⟩

include hI in
/-- `bwd_step` on the swapped interval -/
theorem fwd_step (iv : Bi) (a H : Nat) (hs : SH n (H + M n) iv) :
    ∃ r, SrcFmdExt.forward_ext lessF occF dnaCompl (toT iv) a = Res.ok r ∧ (iv.size = 0 → (ofT r).size = 0) ∧
      (ofT r).size ≤ n ∧ (1 ≤ lessF (dnaCompl a) → SH n H (ofT r)) := by
  obtain ⟨r, hr, g2, g3, g4⟩ := bwd_step hI (swapped iv) (dnaCompl a) H hs.swapped
  exact ⟨_, forward_ext_eq_swap lessF occF iv a hr, g2, g3, fun hl => (g4 hl).swapped⟩

end step

/-! ### the translated functions as (total) operations; they are safe -/

/-- the value of a translated call, an arbitrary interval where it panics -/
def totB (x : Res BiT) (d : Bi) : Bi :=
  match x with
  | .ok r => ofT r
  | _ => d

/-- **the operations the translated code performs** -/
def srcOps (lessF : Nat → Nat) (occF : Nat → Nat → Nat) : Ops Bi where
  size := fun iv => iv.size
  initWith := fun _ a => totB (SrcFmdExt.init_interval_with lessF dnaCompl a) ⟨0, 0, 0, 0⟩
  fwd := fun iv a => totB (SrcFmdExt.forward_ext lessF occF dnaCompl (toT iv) a) iv
  bwd := fun iv a => totB (SrcFmdExt.backward_ext lessF occF (toT iv) a) iv

/-- what the pattern symbols satisfy on an FMD index (DNA symbols: below 255, the sentinel is smaller) -/
def SymOk (lessF : Nat → Nat) (a : Nat) : Prop :=
  1 ≤ lessF a ∧ 1 ≤ lessF (dnaCompl a) ∧ a < 255 ∧ lessF a ≤ lessF (a + 1)

theorem SymOk.less_pos {lessF : Nat → Nat} {a : Nat} (h : SymOk lessF a) : 1 ≤ lessF a := h.1

theorem SymOk.compl_pos {lessF : Nat → Nat} {a : Nat} (h : SymOk lessF a) : 1 ≤ lessF (dnaCompl a) := h.2.1

theorem SymOk.lt_255 {lessF : Nat → Nat} {a : Nat} (h : SymOk lessF a) : a < 255 := h.2.2.1

theorem SymOk.less_mono {lessF : Nat → Nat} {a : Nat} (h : SymOk lessF a) : lessF a ≤ lessF (a + 1) := h.2.2.2

section safe
variable {lessF : Nat → Nat} {occF : Nat → Nat → Nat} {n : Nat} (hI : IdxFacts lessF occF n) {pat : List Nat}
  (hsym : ∀ a ∈ pat, SymOk lessF a) (hsz : M n * (pat.length + 2) < 2 ^ 64)

theorem srcOps_fwd {iv : Bi} {a : Nat} {r : BiT}
    (h : SrcFmdExt.forward_ext lessF occF dnaCompl (toT iv) a = Res.ok r) : (srcOps lessF occF).fwd iv a = ofT r := by
  show totB _ iv = _
  rw [h]; rfl

theorem srcOps_bwd {iv : Bi} {a : Nat} {r : BiT}
    (h : SrcFmdExt.backward_ext lessF occF (toT iv) a = Res.ok r) : (srcOps lessF occF).bwd iv a = ofT r := by
  show totB _ iv = _
  rw [h]; rfl

theorem init_src (i a : Nat) (ha : SymOk lessF a) :
    SrcFmdExt.init_interval_with lessF dnaCompl a = Res.ok (toT (initIntervalWith lessF a)) ∧
      (srcOps lessF occF).initWith i a = initIntervalWith lessF a := by
  have h := init_interval_with_eq_model lessF a ha.lt_255 ha.less_mono
  refine ⟨h, ?_⟩
  show totB _ _ = _
  rw [h]; rfl

include hI hsym hsz in
theorem safeOps : SafeOps lessF occF (srcOps lessF occF) (Safe n) pat := by
  refine ⟨fun _ => rfl, fun d iv h => SH.mono (Nat.mul_le_mul_left _ (Nat.le_succ d)) h,
    fun d iv h => Nat.lt_of_le_of_lt h.size_le ?_, ?_, ?_, ?_⟩
  · have := (size_room hsz).1
    unfold M at this
    omega
  · intro i hi
    have ha := hsym _ (List.getD_mem pat i 0 hi)
    obtain ⟨h1, h2⟩ := init_src (occF := occF) i (pat.getD i 0) ha
    rw [h2]
    refine ⟨h1, SH.of_le ha.less_pos ha.compl_pos (hI.less_le _) (hI.less_le _) ?_ (Nat.le_refl 1) ?_⟩
    · exact Nat.le_trans (Nat.sub_le _ _) (hI.less_le _)
    · have := (size_room hsz).1
      rw [Nat.mul_add] at hsz
      omega
  · intro d iv a h ha
    obtain ⟨r, hr, _, _, hs⟩ := fwd_step hI iv a (M n * d) h
    rw [srcOps_fwd hr]
    exact ⟨hr, hs (hsym a ha).compl_pos⟩
  · intro d iv a h ha
    obtain ⟨r, hr, _, hsize, hs⟩ := bwd_step hI iv a (M n * d) h
    rw [srcOps_bwd hr]
    refine ⟨hr, Nat.lt_of_le_of_lt hsize ?_, fun hap => hs (hsym a hap).less_pos⟩
    have := (size_room hsz).1
    unfold M at this
    omega

end safe

/-! ### on an FMD index the translated operations implement the string-level ones -/

open RbV.FMDSym RbV.LF RbV.BSModel

section fmd
variable (seqs : List (List Nat)) (sa pat : List Nat)
  (hne : seqs ≠ []) (hseqs : ∀ s ∈ seqs, ∀ c ∈ s, isDna c = true)
  (hchk : sortedAllB (fmdText seqs) sa = true) (hpat : ∀ c ∈ pat, isDna c = true)

theorem idxFacts : IdxFacts (lessI seqs sa) (occI seqs sa) sa.length :=
  ⟨fun r b => length_bwtOf (fmdText seqs) sa ▸ Nat.le_trans (List.count_take_le_count _ b (r + 1)) List.count_le_length,
    fun _ _ b h => List.count_take_mono _ b (Nat.succ_le_succ h),
    fun _ => length_bwtOf (fmdText seqs) sa ▸ List.countP_le_length⟩

include hne hchk in
theorem symOk (a : Nat) (ha : isDna a = true) : SymOk (lessI seqs sa) a := by
  have hperm := sortedAllB_perm hchk
  refine ⟨?_, ?_, (dna_facts a ha).2.2.2.1, ?_⟩
  · exact Nat.pos_of_ne_zero (less_pos seqs sa hne hperm a ha)
  · exact Nat.pos_of_ne_zero (less_pos seqs sa hne hperm _ (isDna_compl _ ha))
  · unfold lessI; rw [lessRef_succ]; exact Nat.le_add_right _ _

/-- the candidate relation: `GFmd`, and `match_size` is the length of the substring -/
def GSrc (x : Bi) (b e : Nat) : Prop := GFmd (fmdText seqs) sa pat x b e ∧ x.matchSize = e - b

include hne hseqs hchk hpat in
theorem simHyp_src (hsz : M sa.length * (pat.length + 2) < 2 ^ 64) :
    SimHyp (srcOps (lessI seqs sa) (occI seqs sa)) (cnt (fmdText seqs) pat) pat.length pat (GSrc seqs sa pat) := by
  have hI := idxFacts seqs sa
  have hB := simHyp_fmd seqs sa pat ⟨hne, hchk⟩ hseqs hpat
  obtain ⟨hA2, hC⟩ := size_room hsz
  have hsym : ∀ i, i < pat.length → SymOk (lessI seqs sa) (pat.getD i 0) := fun i hi =>
    symOk seqs sa hne hchk _ (hpat _ (List.getD_mem pat i 0 hi))
  refine ⟨fun x b e h => h.1.1, ?_, ?_, ?_, ?_⟩
  · intro i hi
    rw [(init_src (occF := occI seqs sa) i _ (hsym i hi)).2]
    exact ⟨hB.init i hi, (Nat.add_sub_cancel_left (n := i) (m := 1)).symm⟩
  · intro x b e hg h0 hbe hem
    obtain ⟨hiv1, hiv2⟩ := hg.1.2 h0
    obtain ⟨s1, l1⟩ := live_of_le hiv1.2.1 hA2
    obtain ⟨m1, m2, _⟩ := matchSize_step hg.2 hbe (Nat.le_of_lt hem) hC
    rw [srcOps_fwd (fwd_live hI x (pat.getD e 0) (Nat.pos_of_ne_zero (hg.1.1 ▸ h0)) s1 l1
      (live_of_le hiv2.2.1 hA2).2 m1)]
    exact ⟨hB.fwd x b e hg.1 h0 hbe hem, m2⟩
  · intro x b e hg h0 hb hbe hem
    obtain ⟨hiv1, hiv2⟩ := hg.1.2 h0
    obtain ⟨s1, l1⟩ := live_of_le hiv1.2.1 hA2
    obtain ⟨m1, _, m3⟩ := matchSize_step hg.2 hbe hem hC
    rw [srcOps_bwd (bwd_live hI x (pat.getD (b - 1) 0) (Nat.pos_of_ne_zero (hg.1.1 ▸ h0)) s1 l1
      (live_of_le hiv2.2.1 hA2).2 m1)]
    exact ⟨hB.bwd x b e hg.1 h0 hb hbe hem, m3 hb⟩
  · -- the empty start `init_interval_with(pattern[i])` has bounds `less(·)` in `[1, n]`: one extension fits
    intro i hi h0 a
    have ha := hsym i hi
    have hz : (initIntervalWith (lessI seqs sa) (pat.getD i 0)).size = 0 := (hB.init i hi).1.trans h0
    have hs : SH sa.length (0 + M sa.length) (initIntervalWith (lessI seqs sa) (pat.getD i 0)) :=
      SH.of_le ha.less_pos ha.compl_pos (hI.less_le _) (hI.less_le _) (hz.symm ▸ Nat.zero_le _) (Nat.le_refl 1)
        (by omega)
    obtain ⟨r1, hr1, hz1, _, _⟩ := fwd_step hI _ a 0 hs
    obtain ⟨r2, hr2, hz2, _, _⟩ := bwd_step hI _ a 0 hs
    rw [(init_src (occF := occI seqs sa) i _ ha).2, srcOps_fwd hr1, srcOps_bwd hr2]
    exact ⟨hz1 hz, hz2 hz⟩

/-! ### correctness of the translated sweep -/

/-- what the harness prints for a translated match -/
def obsT (t : HitT) : SmemObs := ⟨t.2.1, t.2.2, t.1.1, t.1.1 + t.1.2.2.1, t.1.2.1, t.1.2.1 + t.1.2.2.1⟩

theorem obsT_hitT (h : Hit Bi) : obsT (hitT h) = hitObs h := rfl

theorem map_obsT (hs : List (Hit Bi)) : (hs.map hitT).map obsT = hs.map hitObs := by
  rw [List.map_map]; rfl

include hne hseqs hchk hpat in
theorem smems_src_prop (hsz : M sa.length * (pat.length + 2) < 2 ^ 64) (i l : Nat) (hi : i < pat.length) (hl : 1 ≤ l) :
    SmemsProp (fmdText seqs) sa pat i l
        ((SmemModel.smems (srcOps (lessI seqs sa) (occI seqs sa)) pat i l).map hitObs) ∧
      ∀ h ∈ SmemModel.smems (srcOps (lessI seqs sa) (occI seqs sa)) pat i l, h.pos + h.len ≤ pat.length :=
  smems_prop_of_sim seqs sa pat hchk (simHyp_src seqs sa pat hne hseqs hchk hpat hsz) (fun _ _ _ h => h.1) i l hi hl

include hne hseqs hchk hpat in
theorem allSmems_src_prop (hsz : M sa.length * (pat.length + 2) < 2 ^ 64) (l : Nat) (hl : 1 ≤ l) :
    AllSmemsProp (fmdText seqs) sa pat l
      ((SmemModel.allSmems (srcOps (lessI seqs sa) (occI seqs sa)) pat l).map hitObs) :=
  allSmems_prop_of_sim seqs sa pat hchk (simHyp_src seqs sa pat hne hseqs hchk hpat hsz) (fun _ _ _ h => h.1) l hl

/-- the properties see the result only through membership -/
theorem smemsProp_perm {T sa p : List Nat} {i l : Nat} {r1 r2 : List SmemObs} (h : r1.Perm r2)
    (hp : SmemsProp T sa p i l r2) : SmemsProp T sa p i l r1 := by
  unfold SmemsProp
  simp only [h.mem_iff]
  exact hp

theorem allSmemsProp_perm {T sa p : List Nat} {l : Nat} {r1 r2 : List SmemObs} (h : r1.Perm r2)
    (hp : AllSmemsProp T sa p l r2) : AllSmemsProp T sa p l r1 := by
  unfold AllSmemsProp
  simp only [h.mem_iff]
  exact hp

include hne hseqs hchk hpat in
theorem smems_src_dead (hsz : M sa.length * (pat.length + 2) < 2 ^ 64) (i l : Nat) (hi : i < pat.length) (hl : 1 ≤ l)
    (hz : ((srcOps (lessI seqs sa) (occI seqs sa)).initWith i (pat.getD i 0)).size = 0) :
    SmemModel.smems (srcOps (lessI seqs sa) (occI seqs sa)) pat i l = [] := by
  have hS := simHyp_src seqs sa pat hne hseqs hchk hpat hsz
  have h0 : cnt (fmdText seqs) pat i (i + 1) = 0 := (hS.size_eq _ _ _ (hS.init i hi)).symm.trans hz
  rw [smems_of_dead_start _ pat i l hi hz (fun _ a => (hS.dead i hi h0 a).1) (fun a => (hS.dead i hi h0 a).2)]
  exact if_neg (Nat.not_le_of_gt hl)

include hne hseqs hchk hpat in
/-- the translated `smems` over `less` / `occ` of the index: no panic, the model's matches over `srcOps` in some order
(`l ≥ 1`: on the dead start only "nothing is reported" is used) -/
theorem smems_src_eq (hsz : M sa.length * (pat.length + 2) < 2 ^ 64) (i l : Nat) (hi : i < pat.length) (hl : 1 ≤ l) :
    ∃ res, SrcFmdSmems.smems (lessI seqs sa) (occI seqs sa) dnaCompl pat i l = Res.ok res ∧
      res.Perm ((SmemModel.smems (srcOps (lessI seqs sa) (occI seqs sa)) pat i l).map hitT) := by
  have hL : pat.length + 1 < 2 ^ 63 := by have := (size_room hsz).2; omega
  exact smems_eq_model_of (safeOps (idxFacts seqs sa) (fun a ha => symOk seqs sa hne hchk a (hpat a ha)) hsz) i l hi hL
    (smems_src_dead seqs sa pat hne hseqs hchk hpat hsz i l hi hl)

include hne hseqs hchk hpat in
/-- **the translated `smems` returns exactly the supermaximal matches** (on every index whose array passes
`sortedAllB`; `Thm/C06.lean` restates it for `checkSA`) -/
theorem smems_source_correct (hsz : M sa.length * (pat.length + 2) < 2 ^ 64) (i l : Nat) (hi : i < pat.length)
    (hl : 1 ≤ l) :
    ∃ res, SrcFmdSmems.smems (lessI seqs sa) (occI seqs sa) dnaCompl pat i l = Res.ok res ∧
      SmemsProp (fmdText seqs) sa pat i l (res.map obsT) := by
  obtain ⟨res, hres, hperm⟩ := smems_src_eq seqs sa pat hne hseqs hchk hpat hsz i l hi hl
  refine ⟨res, hres, smemsProp_perm (hperm.map obsT) ?_⟩
  rw [map_obsT]
  exact (smems_src_prop seqs sa pat hne hseqs hchk hpat hsz i l hi hl).1

include hne hseqs hchk hpat in
/-- **the translated `all_smems` returns exactly the supermaximal matches of length `≥ l`** -/
theorem all_smems_source_correct (hsz : M sa.length * (pat.length + 2) < 2 ^ 64) (l : Nat) (hl : 1 ≤ l) :
    ∃ res, SrcFmdAllSmems.all_smems (lessI seqs sa) (occI seqs sa) dnaCompl pat l = Res.ok res ∧
      res.Perm ((SmemModel.allSmems (srcOps (lessI seqs sa) (occI seqs sa)) pat l).map hitT) ∧
      AllSmemsProp (fmdText seqs) sa pat l (res.map obsT) := by
  have hL : pat.length + 1 < 2 ^ 63 := by have := (size_room hsz).2; omega
  have hok : SmemsOk (lessI seqs sa) (occI seqs sa) (srcOps (lessI seqs sa) (occI seqs sa)) pat l := by
    intro i hi
    obtain ⟨res, hres, hperm⟩ := smems_src_eq seqs sa pat hne hseqs hchk hpat hsz i l hi hl
    refine ⟨res, hres, hperm, fun h hh => ?_⟩
    have := (smems_src_prop seqs sa pat hne hseqs hchk hpat hsz i l hi hl).2 h hh
    have := GenSrc.p63
    omega
  obtain ⟨res, hres, hperm⟩ := all_smems_eq_model (lessI seqs sa) (occI seqs sa) _ pat l hok hL
  refine ⟨res, hres, hperm, allSmemsProp_perm (hperm.map obsT) ?_⟩
  rw [map_obsT]
  exact allSmems_src_prop seqs sa pat hne hseqs hchk hpat hsz l hl

end fmd

end RbV.Thm.GenSrcFmdIndex
