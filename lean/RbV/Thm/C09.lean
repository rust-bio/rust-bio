import RbV.Ref.EditDist
import RbV.Ref.MyersHit
import RbV.Lemmas.UkkonenEq
import RbV.Lemmas.EdTextbook
import RbV.Lemmas.MyersStep
import RbV.Lemmas.MyersBlock
import RbV.Lemmas.MyersLongAll
import RbV.Lemmas.MyersLongBand
import RbV.Thm.GenSrcHamming
import RbV.Thm.GenSrcUkkonen
import RbV.Thm.GenSrcMyersSimple
import RbV.Thm.GenSrcMyersLong
import RbV.Thm.GenSrcMyersLongStep
import RbV.Lemmas.HitsClamp
import RbV.Thm.GenSrcMyersLongNew
import RbV.Thm.GenSrcMyersLongMatches
import RbV.Thm.GenSrcMyersSimpleBest
/-!
# C09 — approximate matchers and distance functions equal the edit-distance definition

The oracle of the driver is `EditDist.hits w p t k` / `firstMin 0 (lastRow w p t)` / `edFast` / `hamming`.
The theorems below say, for every cost function `w` (substitution/match cost; insertion and deletion cost 1),
every pattern, text and threshold:

* `ed` (the textbook recursion) is the minimum cost over *all* alignments (`ed_optimal`);
* entry `j` of the Sellers column `lastRow` is the minimum of `ed w p t[s..j+1]` over all start positions `s`
  (`col_spec`), so it is *the* value a matcher has to report for end position `j`;
* the expected `find_all_end` output lists exactly the pairs `(j, d)` with `d ≤ k` that minimum, in text order
  (`hits_spec`, `hits_ascending`); `distance`/`find_best_end` = the minimum over all end positions, first position
  on ties (`best_spec`);
* the DP evaluator used for `levenshtein` equals `ed` (`edFast_correct`); `hamming` is defined exactly for equal lengths.

These are part [A], the reference (helper lemmas and proofs: `RbV/Ref/EditDist.lean`).  The file goes on with
* [B] the mirror model of Ukkonen's cut-off algorithm reports exactly `hits` (`ukkonen_eq`; `Lemmas/UkkonenCell.lean`,
  `UkkonenEq.lean`);
* [C] the mirror models of the Myers matchers do (`myers_step`, `myers_simple_eq`, `myers_block_step`, `myers_long_eq`;
  `Lemmas/MyersBlock.lean`, `MyersStep.lean`, `MyersLongAll.lean`, `MyersLongBand.lean`) — the traceback of these matchers
  is property C10;
* the translated source text of `hamming`, Ukkonen and the Myers matchers equals the mirror models, and end to end the
  reference (`*_source_*`; proofs in `Thm/GenSrc*.lean`).  For the Myers matchers the search, `distance` and `find_best_end` are
  run on the model-side tables `peqTab` / `peqL`; that the constructors store these tables is proved in the soft module
  `Thm/GenSrcMyersNewSoft.lean` and only without text wildcards (see the closing comment of this file).
-/
namespace RbV.Thm.C09
open RbV.EditDist

-- `IsMinEdAt w p t j d` (RbV/Ref/EditDist.lean): `d ≤ ed w p t[s..j+1]` for every start `s ≤ j+1`, with equality for one.

/-- the recursion `ed` is the optimum over all alignments: no alignment is cheaper, and one attains it -/
theorem ed_optimal (w : Nat → Nat → Nat) (p s : List Nat) :
    (∀ ops v, wcost w p s ops = some v → ed w p s ≤ v) ∧ (∃ ops, wcost w p s ops = some (ed w p s)) :=
  ⟨fun ops v h => ed_le_wcost w ops p s v h, ed_attained w p s⟩

/-- base cases of the recursion: against the empty string the distance is the length -/
theorem ed_base (w : Nat → Nat → Nat) (p s : List Nat) : ed w p [] = p.length ∧ ed w [] s = s.length :=
  ⟨ed_nil_right w p, ed_nil_left w s⟩

/-- the three-way minimum that defines `ed` is the textbook recursion: a pair of equivalent symbols (cost 0) is
skipped, a non-equivalent pair costs 1 + the minimum over substitution, insertion, deletion -/
theorem ed_textbook (eqv : Nat → Nat → Bool) (a b : Nat) (p s : List Nat) :
    ed (unitW eqv) (a :: p) (b :: s) =
      if eqv a b then ed (unitW eqv) p s
      else 1 + min (ed (unitW eqv) p s) (min (ed (unitW eqv) p (b :: s)) (ed (unitW eqv) (a :: p) s)) := by
  by_cases h : eqv a b
  · simp only [h, if_true]; exact ed_match _ a b p s (by simp [unitW, h])
  · simp only [h]; exact ed_mismatch _ a b p s (by simp [unitW, h])

/-- a labelled alignment (Match only over equivalent symbols, Subst only over non-equivalent ones) with `v`
non-match operations bounds the unit-cost distance -/
theorem ed_le_labelled (eqv : Nat → Nat → Bool) (ops : List Op) (p s : List Nat) (v : Nat)
    (h : acost eqv p s ops = some v) : ed (unitW eqv) p s ≤ v :=
  ed_le_acost eqv ops p s v h

/-- the distance does not change when both strings are reversed -/
theorem ed_reverse_eq (w : Nat → Nat → Nat) (p s : List Nat) : ed w p.reverse s.reverse = ed w p s :=
  ed_reverse w p s

/-- the column has one entry per text position -/
theorem lastRow_len (w : Nat → Nat → Nat) (p t : List Nat) : (lastRow w p t).length = t.length :=
  lastRow_length w p t

/-- **Sellers**: entry `j` of the column is the minimum over all start positions -/
theorem col_spec (w : Nat → Nat → Nat) (p t : List Nat) (j d : Nat)
    (hd : (lastRow w p t)[j]? = some d) : IsMinEdAt w p t j d :=
  lastRow_isMin hd

/-- the minimum is unique, hence `col_spec` determines the column -/
theorem isMinEdAt_unique (w : Nat → Nat → Nat) (p t : List Nat) (j d d' : Nat)
    (h : IsMinEdAt w p t j d) (h' : IsMinEdAt w p t j d') : d = d' :=
  IsMinEdAt.unique w p t j d d' h h'

/-- expected `find_all_end(text, k)`: exactly the pairs (end position, d) with d ≤ k the minimum edit distance
between the pattern and any text substring ending there -/
theorem hits_spec (w : Nat → Nat → Nat) (p t : List Nat) (k j d : Nat) :
    (j, d) ∈ hits w p t k ↔ j < t.length ∧ d ≤ k ∧ IsMinEdAt w p t j d := by
  unfold hits
  rw [mem_hitsFrom]
  simp only [Nat.zero_le, Nat.sub_zero, true_and]
  constructor
  · rintro ⟨h1, h2⟩
    exact ⟨lastRow_lt h1, h2, lastRow_isMin h1⟩
  · rintro ⟨hj, hk, hmin⟩
    exact ⟨lastRow_of_isMin hmin hj, hk⟩

/-- … in text order -/
theorem hits_ascending (w : Nat → Nat → Nat) (p t : List Nat) (k : Nat) :
    (hits w p t k).Pairwise (fun a b => a.1 < b.1) :=
  hitsFrom_sorted k _ 0

/-- expected `find_best_end` = `(j, d)`, expected `distance` = `d`: `d` is the minimum edit distance at `j`, no end
position has a smaller one, and every earlier end position has a strictly larger one (first position on ties) -/
theorem best_spec (w : Nat → Nat → Nat) (p t : List Nat) (j d : Nat)
    (h : firstMin 0 (lastRow w p t) = some (j, d)) :
    j < t.length ∧ IsMinEdAt w p t j d ∧
    (∀ i x, IsMinEdAt w p t i x → i < t.length → d ≤ x) ∧
    (∀ i x, IsMinEdAt w p t i x → i < j → d < x) := by
  obtain ⟨_, h2, h3, h4⟩ := firstMin_spec _ 0 j d h
  simp only [Nat.sub_zero] at h2 h4
  have hj := lastRow_lt h2
  exact ⟨hj, lastRow_isMin h2, fun i x hx hi => h3 i x (lastRow_of_isMin hx hi),
    fun i x hx hi => h4 i x (lastRow_of_isMin hx (by omega)) hi⟩

/-- `firstMin` answers for every non-empty text -/
theorem best_exists (w : Nat → Nat → Nat) (p t : List Nat) (h : t ≠ []) :
    ∃ j d, firstMin 0 (lastRow w p t) = some (j, d) := by
  have hl := lastRow_length w p t
  cases hr : lastRow w p t with
  | nil => rw [hr] at hl; cases t <;> simp_all
  | cons x r =>
    simp only [firstMin]
    cases firstMin 1 r with
    | none => exact ⟨0, x, rfl⟩
    | some jd =>
      obtain ⟨j', d'⟩ := jd
      by_cases hle : x ≤ d'
      · exact ⟨0, x, by simp [hle]⟩
      · exact ⟨j', d', by simp [hle]⟩

/-- the dynamic programme used as the expected value of `levenshtein` / `simd::levenshtein` /
`bounded_levenshtein` equals the recursion -/
theorem edFast_correct (w : Nat → Nat → Nat) (p s : List Nat) : edFast w p s = ed w p s :=
  edFast_eq w p s

/-- the expected Hamming distance is defined exactly for strings of equal length -/
theorem hamming_defined_iff (a b : List Nat) : (hamming a b).isSome ↔ a.length = b.length :=
  hamming_isSome_iff a b

/-- … and counts the positions at which the strings differ -/
theorem hamming_count (a b : List Nat) (d : Nat) (h : hamming a b = some d) :
    d = ((a.zip b).filter (fun x => x.1 != x.2)).length := by
  induction a generalizing b d with
  | nil => cases b <;> simp_all [hamming]
  | cons x a ih =>
    cases b with
    | nil => simp [hamming] at h
    | cons y b =>
      simp only [hamming] at h
      cases h' : hamming a b with
      | none => simp [h'] at h
      | some u =>
        simp only [h', Option.map_some, Option.some.injEq] at h
        have := ih b u h'
        simp only [List.zip_cons_cons, List.filter_cons]
        by_cases hxy : x = y
        · simp only [hxy, if_true, bne_self_eq_false, Bool.false_eq_true, if_false] at h ⊢; omega
        · have hb : (x != y) = true := by simp [hxy]
          simp only [hxy, if_false, hb, if_true, List.length_cons] at h ⊢; omega

/-- **[B] Ukkonen**: the mirror model of `ukkonen.rs` (two alternating buffers, only cells `0..=lastk` of a column
are written, `lastk` grows by at most one per text symbol and is cut back while the cell exceeds `k`, a pair is
reported when `lastk = m`) reports exactly the expected pairs — for every cost function (insertion/deletion 1),
pattern, text and `k`.  The invariant (`Model.Ukkonen.Inv`): cells up to `lastk` are exact, the true values above
`lastk` exceed `k`, and anything a buffer still holds above `lastk` is at least `k`. -/
theorem ukkonen_eq (w : Nat → Nat → Nat) (p t : List Nat) (k : Nat) :
    RbV.Model.Ukkonen.findAllEnd w p t k = hits w p t k :=
  RbV.Model.Ukkonen.findAllEnd_eq_hits w p t k

/-- **[C] Myers' bit-vector step** (the mirror model `MyersSimple.step` of `Myers::_step`, single word of any width `w`): if
`pv`/`mv` encode the vertical differences of a column `C` (rows 0..m, `1 ≤ m ≤ w`; any column with steps in {−1, 0, 1} that
starts at 0), `dist = C m` and the last entry of the next column is not negative (`hnn`), then after the step — `xh` by the addition
trick `((eq & pv) + pv) ^ pv | eq` with wrap-around, `ph`/`mh`, the update of `dist` from bit `m-1`, the shifts and the
new `pv`/`mv` — they encode the next column `nextC C eq` and `dist` is its last entry. -/
theorem myers_step {w : Nat} (m : Nat) (hm1 : 1 ≤ m) (hm : m ≤ w) (C : Nat → Int) (eq : BitVec w)
    (s : RbV.Model.MyersSimple.St w) (enc : RbV.Model.MyersSimple.Enc m C s.pv s.mv) (hd : (s.dist : Int) = C m)
    (hnn : 0 ≤ RbV.Model.MyersSimple.nextC C eq.getLsbD m) :
    RbV.Model.MyersSimple.Enc m (RbV.Model.MyersSimple.nextC C eq.getLsbD)
      (RbV.Model.MyersSimple.step m eq s).pv (RbV.Model.MyersSimple.step m eq s).mv ∧
    ((RbV.Model.MyersSimple.step m eq s).dist : Int) = RbV.Model.MyersSimple.nextC C eq.getLsbD m :=
  RbV.Model.MyersSimple.step_enc m hm1 hm C eq s enc hd hnn

/-- **[C] Myers, single word, end to end**: for a pattern of 1 … w symbols the mirror model of
`Myers<T>::find_all_end` (w-bit words, `peq` masks built from the symbol equivalence, `State::init`, `_step` per text
symbol, report when `dist ≤ k`) returns exactly the expected pairs — every width, equivalence (ambiguity map,
wildcards), pattern, text and k. -/
theorem myers_simple_eq (w : Nat) (eqv : Nat → Nat → Bool) (p t : List Nat) (k : Nat)
    (hm1 : 1 ≤ p.length) (hw : p.length ≤ w) :
    RbV.Model.MyersSimple.findAllEnd w eqv p t k = hits (unitW eqv) p t k :=
  RbV.Model.MyersSimple.findAllEnd_eq_hits w eqv p t k hm1 hw

/-- **[C] block step** (the mirror model `MyersLong.advanceBlock` of `long.rs: advance_block`): if a block's `pv`/`mv` encode
the vertical differences of the local column `D` (rows `0..n` of the block, `n = bnd+1 ≤ w`), `dist = D n`, `hin ∈ {−1,0,1}` is
the horizontal difference at the block's upper edge (`b0 − D 0`), and the last entry of the next column is not negative (`hnn`),
then after `advance_block` (forcing `eq` bit 0 when `hin < 0`, the addition
trick, shifting `hin` into `ph`/`mh`) the block encodes the next column on its rows, `dist` is the new last entry and
the returned `hout` is the horizontal difference at the lower edge — i.e. exactly the carry the next block needs. -/
theorem myers_block_step {w : Nat} (bnd : Nat) (hn : bnd + 1 ≤ w) (D : Nat → Int) (eq : BitVec w)
    (s : RbV.Model.MyersSimple.St w) (b0 hin : Int) (hh : -1 ≤ hin ∧ hin ≤ 1) (hb : b0 - D 0 = hin)
    (enc : RbV.Model.MyersLong.EncB (bnd + 1) D s.pv s.mv) (hd : (s.dist : Int) = D (bnd + 1))
    (hnn : 0 ≤ RbV.Model.MyersLong.nextCB D eq.getLsbD b0 (bnd + 1)) :
    RbV.Model.MyersLong.EncB (bnd + 1) (RbV.Model.MyersLong.nextCB D eq.getLsbD b0)
      (RbV.Model.MyersLong.advanceBlock bnd eq hin s).1.pv (RbV.Model.MyersLong.advanceBlock bnd eq hin s).1.mv ∧
    ((RbV.Model.MyersLong.advanceBlock bnd eq hin s).1.dist : Int) =
      RbV.Model.MyersLong.nextCB D eq.getLsbD b0 (bnd + 1) ∧
    (RbV.Model.MyersLong.advanceBlock bnd eq hin s).2 =
      RbV.Model.MyersLong.nextCB D eq.getLsbD b0 (bnd + 1) - D (bnd + 1) :=
  RbV.Model.MyersLong.advanceBlock_enc bnd hn D eq s b0 hin hh hb enc hd hnn

/-- **[C] block-based Myers, all blocks active**: the instance `k ≥ |p|` of `myers_long_eq` (there `States::new` activates
every block and `States::step` never adds or drops one); the proof is that of `myers_long_eq` and does not use `hk`. -/
theorem myers_long_allblocks (w : Nat) (eqv : Nat → Nat → Bool) (p t : List Nat) (k : Nat)
    (hw : 1 ≤ w) (hp : 1 ≤ p.length) (hk : p.length ≤ k) :
    RbV.Model.MyersLong.findAllEnd w eqv p t k = hits (unitW eqv) p t k :=
  RbV.Model.MyersLong.findAllEnd_eq_hits w eqv p t k hw hp

/-- **[C] block-based Myers, end to end**: the mirror model of `long::Myers<T>::find_all_end` — pattern cut into
blocks of `w` symbols (last block partial or full), `advance_block` with the carry between blocks, and the band logic
of `States::{new, add_state, step, known_dist}` (only `max(1, ⌈min(k,m)/w⌉)` blocks at the start; the next block is
switched on when `last_dist − carry ≤ k` and the next row matches or the carry is negative, initialised as the steepest
continuation; trailing blocks are switched off while their last row is `≥ k + w`; a distance is known only when all
blocks are computed) — returns exactly the expected pairs, for **every** word width, pattern length, equivalence
(ambiguity map, wildcards), text and `k`.
Invariant (`Model.MyersLong.Band`): the active blocks encode a pseudo-column `P` with `P ≥ C` (the true Sellers
column) on their rows and `P r = C r` wherever `C r ≤ k`; every row below the active blocks has `C r > k`. -/
theorem myers_long_eq (w : Nat) (eqv : Nat → Nat → Bool) (p t : List Nat) (k : Nat)
    (hw : 1 ≤ w) (hp : 1 ≤ p.length) :
    RbV.Model.MyersLong.findAllEnd w eqv p t k = hits (unitW eqv) p t k :=
  RbV.Model.MyersLong.findAllEnd_eq_hits w eqv p t k hw hp

-- non-vacuity: concrete instances
example : RbV.Model.MyersLong.findAllEnd 2 eqSym [1, 2, 1, 1, 3] [1, 2, 1, 3, 1, 1, 3, 2] 5 =
    hits (unitW eqSym) [1, 2, 1, 1, 3] [1, 2, 1, 3, 1, 1, 3, 2] 5 := by decide +kernel
example : RbV.Model.MyersSimple.findAllEnd 8 eqSym [1, 2, 1] [1, 2, 1, 3, 1, 1] 1 = [(1, 1), (2, 0), (3, 1), (4, 1), (5, 1)] := by decide +kernel
example : RbV.Model.Ukkonen.findAllEnd (unitW eqSym) [1, 2, 1] [1, 2, 1, 3, 1, 1] 1 = [(1, 1), (2, 0), (3, 1), (4, 1), (5, 1)] := by decide +kernel
example : ed (unitW eqSym) [1, 2, 3] [1, 3] = 1 := by rw [← edFast_eq]; decide
example : lastRow (unitW eqSym) [1, 2, 1] [1, 2, 1, 3, 1, 1] = [2, 1, 0, 1, 1, 1] := by decide +kernel
example : hits (unitW eqSym) [1, 2, 1] [1, 2, 1, 3, 1, 1] 0 = [(2, 0)] := by decide +kernel
example : (lastRow (unitW eqSym) [1, 2, 1] [1, 2, 1, 3])[2]? = some 0 := by decide +kernel
example : firstMin 0 (lastRow (unitW eqSym) [1, 2] [2, 1, 2, 1, 2]) = some (2, 0) := by decide +kernel
example : wcost (unitW eqSym) [1, 2, 3] [1, 3] [.diag, .ins, .diag] = some 1 := by decide +kernel
example : acost eqSym [1, 2, 3] [1, 3] [.mat, .ins, .mat] = some 1 := by decide +kernel
example : hamming [1, 2, 3] [1, 0, 0] = some 2 := by decide +kernel
example : edFast (unitW eqSym) [1, 2, 3, 4] [2, 3, 4, 4] = 2 := by decide +kernel

/-! ## Function bodies translated from the source text (docs/notes/GEN.md, "Translated function bodies")

`RbV/Gen/Src*.lean` are regenerated from the Rust text by `tools/rs2lean*.py` (see `tools/gen_tables.py`) on every `./check C09`; the theorems below are
re-proved against the regenerated definitions (proofs: `RbV/Thm/GenSrc*.lean`).  `Rs.Res.ok v` = the translated function
returns `v` without panicking and without running out of loop fuel. -/

/-- **`distance::hamming` of `alignment/distance.rs`, as written, is the reference `hamming`**: defined (no panic, the
`u64` counter never overflows) exactly for strings of equal length, where it returns the reference's value; for strings
of different length the `assert_eq!` panics, where the reference is `none`. -/
theorem hamming_source_eq_reference (a b : List Nat) (h64 : a.length < 2 ^ 64) :
    RbV.Gen.SrcHamming.hamming a b = match hamming a b with
      | some d => RbV.Rs.Res.ok d
      | none => RbV.Rs.Res.panic :=
  RbV.Thm.GenSrcHamming.hamming_eq_model a b h64

/-- generated code = specification: for strings of equal length the translated `hamming` returns, without panic, the number
of positions at which they differ -/
theorem hamming_source_counts (a b : List Nat) (h64 : a.length < 2 ^ 64) (hl : a.length = b.length) :
    RbV.Gen.SrcHamming.hamming a b = RbV.Rs.Res.ok ((a.zip b).filter (fun x => x.1 != x.2)).length := by
  have hs := (hamming_defined_iff a b).mpr hl
  obtain ⟨d, hd⟩ := Option.isSome_iff_exists.mp hs
  rw [hamming_source_eq_reference a b h64, hd, hamming_count a b d hd]

example : RbV.Gen.SrcHamming.hamming [1, 2, 3] [1, 0, 0] = RbV.Rs.Res.ok 2 := by decide +kernel
example : RbV.Gen.SrcHamming.hamming [1, 2, 3] [1, 0] = RbV.Rs.Res.panic := by decide +kernel

/-! ### Ukkonen's cut-off DP, translated from the source text

`RbV/Gen/SrcUkkonen.lean` = `Ukkonen::find_all_end` + `ukkonen::Matches::next` of `pattern_matching/ukkonen.rs`, regenerated
on every `./check C09`.  The two DP columns `D: [Vec<usize>; 2]` are a list `D` of two lists, the cost closure is the
abstract function `cost` (a `u32`: `cost a b < 2^32`).  `findAllSrc cost D p t k` = `find_all_end(p, t, k)` on a matcher
object whose buffers currently hold `D`, then `next` until `None` (`Rs.drain`). -/

/-- **one call of `ukkonen::Matches::next`, as written, equals the mirror model**: on every state the model can be in
(`WF`: two columns of `m + 1` cells bounded by `B`, `B + 2^32 ≤ 2^64`; `Dof i s` = the two buffers with the current
column chosen by the parity of the text position `i`) the call does not panic and does not run out of loop fuel; it
returns `None` exactly when the text is exhausted and the model's `run` has no further pair, and otherwise `Some(v)` with
`v` the model's next pair, in a state that again represents the model's state (`StepSpec`). -/
theorem ukkonen_next_source_eq_model (cost : Nat → Nat → Nat) (hcost : ∀ a b, cost a b < 2 ^ 32) (p : List Nat)
    (k B : Nat) (hB : B + 2 ^ 32 ≤ 2 ^ 64) (hmB : p.length ≤ B) (rest : List Nat) (i : Nat) (s : RbV.Model.Ukkonen.St)
    (wf : RbV.Thm.GenSrcUkkonen.WF p.length B s) (h64 : i + rest.length < 2 ^ 64) :
    ∃ r' tx' o, RbV.Thm.GenSrcUkkonen.nextR cost p k (RbV.Thm.GenSrcUkkonen.Dof i s, s.lastk) (rest, i) = RbV.Rs.Res.ok (r', tx', o) ∧
      RbV.Thm.GenSrcScanD.StepSpec (RbV.Model.Ukkonen.step cost p k) (RbV.Thm.GenSrcUkkonen.WF p.length B)
        (fun i s => (RbV.Thm.GenSrcUkkonen.Dof i s, s.lastk)) rest i s r' tx' (o.map some) :=
  RbV.Thm.GenSrcUkkonen.next_eq_model cost hcost p k B hB hmB rest i s wf h64

/-- **`find_all_end` resets the matcher**: for `k < usize::MAX` (`hk`) and whatever the two buffers of the `Ukkonen` object held
(any two lists — e.g. the columns a previous search left behind), the translated `find_all_end` returns the buffers `[k'+1; m+1]`,
`0..=m` and `lastk = min(k', m)`: the initial state of the mirror model for a threshold `k'` with `k' = k` or `k' = min k m`; the
statement does not say which (rust-bio stores `k`; a text that clamps to `min k m` yields the same hits, `hits_clamp`: see
`ukkonen_source_exact`).  For `k = usize::MAX` the filler `k.saturating_add(1)` is `k` itself, which is not the mirror's initial
state; no theorem of this file covers that threshold (`ukkonen_source_exact` needs `k < 2^64 − 2^32`). -/
theorem ukkonen_find_all_end_source_resets (D : List (List Nat)) (hD : D.length = 2) (p t : List Nat) (k : Nat)
    (hk : k + 1 < 2 ^ 64) (hm : p.length + 1 < 2 ^ 64) :
    ∃ k', (k' = k ∨ k' = min k p.length) ∧
      RbV.Gen.SrcUkkonen.findAllEnd D p t k = RbV.Rs.Res.ok
        (RbV.Thm.GenSrcUkkonen.Dof 0 (RbV.Model.Ukkonen.init p.length k'),
          (p, (t, 0), (RbV.Model.Ukkonen.init p.length k').lastk, p.length, k')) :=
  RbV.Thm.GenSrcUkkonen.findAllEnd_init D hD p t k hk hm

/-- **Ukkonen, as written in the source, is exact — also on a reused matcher object**: for every `u32`-valued cost
function, every previous content `D` of the two column buffers, every pattern, text and threshold (`k`, `|p|` below
`2^64 − 2^32`, `|t| < 2^64`), `find_all_end(p, t, k)` followed by `next` until `None` never panics and yields exactly the
pairs `(end, d)`, `d ≤ k`, of the Sellers column (`hits_spec`).  No mirror model is left between the text and the
specification (`ukkonen_eq` is the proof device). -/
theorem ukkonen_source_exact (cost : Nat → Nat → Nat) (hcost : ∀ a b, cost a b < 2 ^ 32) (D : List (List Nat))
    (hD : D.length = 2) (p t : List Nat) (k : Nat) (hk : k + 2 ^ 32 < 2 ^ 64) (hm : p.length + 2 ^ 32 < 2 ^ 64)
    (h64 : t.length < 2 ^ 64) :
    RbV.Thm.GenSrcUkkonen.findAllSrc cost D p t k = RbV.Rs.Res.ok (hits cost p t k) := by
  obtain ⟨k', hk', h⟩ := RbV.Thm.GenSrcUkkonen.findAllSrc_eq_model cost hcost D hD p t k hk hm h64
  rw [h, ukkonen_eq]
  rcases hk' with rfl | rfl
  · rfl
  · rw [hits_clamp]

/-- the result does not depend on what an earlier search left in the matcher (history clause of the property) -/
theorem ukkonen_source_history_independent (cost : Nat → Nat → Nat) (hcost : ∀ a b, cost a b < 2 ^ 32)
    (D D' : List (List Nat)) (hD : D.length = 2) (hD' : D'.length = 2) (p t : List Nat) (k : Nat)
    (hk : k + 2 ^ 32 < 2 ^ 64) (hm : p.length + 2 ^ 32 < 2 ^ 64) (h64 : t.length < 2 ^ 64) :
    RbV.Thm.GenSrcUkkonen.findAllSrc cost D p t k = RbV.Thm.GenSrcUkkonen.findAllSrc cost D' p t k := by
  rw [ukkonen_source_exact cost hcost D hD p t k hk hm h64, ukkonen_source_exact cost hcost D' hD' p t k hk hm h64]

-- non-vacuity: the translated code, run on a fresh object and on one whose buffers hold small stale values (the state
-- seeded defects C09-1 / C09-6 fail on: pattern AACCAAA, k = 1, after a search in CAACC the text CACAAAA has no hit)
example : RbV.Thm.GenSrcUkkonen.findAllSrc (unitW eqSym) [[], []] [1, 2, 1] [1, 2, 1, 3, 1, 1] 1
    = RbV.Rs.Res.ok [(1, 1), (2, 0), (3, 1), (4, 1), (5, 1)] := by decide +kernel
example : RbV.Thm.GenSrcUkkonen.findAllSrc (unitW eqSym) [[0, 1, 1, 1, 2, 3, 4, 5], [0, 0, 1, 2, 1, 2, 3, 4]]
    [1, 1, 2, 2, 1, 1, 1] [2, 1, 2, 1, 1, 1, 1] 1 = RbV.Rs.Res.ok [] := by decide +kernel
example : hits (unitW eqSym) [1, 1, 2, 2, 1, 1, 1] [2, 1, 2, 1, 1, 1, 1] 1 = [] := by decide +kernel

/-! ### The single-word Myers matcher, translated from the source text

`RbV/Gen/SrcMyersState.lean`, `SrcMyersSimple.lean`, `SrcMyersMatches.lean` = `State::init`, `State::known_dist`,
`Myers::_step`, `Myers::step`, `Myers::initial_state`, `Matches::new`, `Matches::next` of `pattern_matching/myers/{myers_impl,
simple}.rs`, regenerated on every `./check C09`.  The generic word type `T: BitVec` is a `Nat` below `2^w` with the width `w` a
parameter of every generated function, `T::DistType` a `Nat` below `2^wd`; a model state `s : St w` (`BitVec w`) is represented
by `(s.pv.toNat, s.mv.toNat, s.dist)`.  The theorems about `Matches::new` / `next` are in the namespace `GenSrcMyersMatches` of
`Thm/GenSrcMyersSimple.lean`; the constructor `new_ambig` is treated in `Thm/GenSrcMyersNewSoft.lean`. -/

/-- **`Myers::_step`, as written, is the model's bit-vector step — for every word width** `w ≥ 2` (in particular `u8`, `u16`,
`u32`, `u64`, `u128`) and `DistType` width `wd`: when `peq[a]` holds the word `eq` and `bound = 1 << (m-1)`, the translated
function maps the representation of a state `s` to that of `MyersSimple.step m eq s` without panicking, on every state
where the `dist` update (through `as i8`, sign extension to `usize`, `wrapping_add`, `from_usize(..).unwrap()`) neither
goes below zero nor leaves `DistType` (side conditions `hlo`, `hwd`; they hold on every state a search reaches, see
`myers_find_all_end_source_exact`). -/
theorem myers_step_source_eq_model (w wd m : Nat) (hw : 1 < w) (peqT : List Nat) (a : Nat) (eq : BitVec w)
    (s : RbV.Model.MyersSimple.St w) (hpeq : RbV.Rs.idx peqT a = RbV.Rs.Res.ok eq.toNat)
    (hlo : ((s.pv &&& RbV.Model.MyersSimple.xhOf eq s.pv).getLsbD (m - 1)).toNat ≤
      s.dist + ((s.mv ||| ~~~(RbV.Model.MyersSimple.xhOf eq s.pv ||| s.pv)).getLsbD (m - 1)).toNat)
    (hhi : s.dist + 1 < 2 ^ 64) (hwd : (RbV.Model.MyersSimple.step m eq s).dist < 2 ^ wd) :
    RbV.Gen.SrcMyersSimple.step_ (w := w) (wd := wd) (peq := peqT) (bound := 2 ^ (m - 1)) (pv := s.pv.toNat)
        (mv := s.mv.toNat) (dist := s.dist) (a := a) =
      RbV.Rs.Res.ok ((RbV.Model.MyersSimple.step m eq s).pv.toNat, (RbV.Model.MyersSimple.step m eq s).mv.toNat,
        (RbV.Model.MyersSimple.step m eq s).dist) :=
  RbV.Thm.GenSrcMyersSimple.step__eq_model w wd m hw peqT a eq s hpeq hlo hhi hwd

/-- the four word types rust-bio instantiates (`impl_bitvec!(u8|u16|u32|u64, u8)`): one statement for all of them -/
theorem myers_step_source_eq_model_std_widths (w : Nat) (hw : w = 8 ∨ w = 16 ∨ w = 32 ∨ w = 64) (m : Nat) (peqT : List Nat)
    (a : Nat) (eq : BitVec w) (s : RbV.Model.MyersSimple.St w) (hpeq : RbV.Rs.idx peqT a = RbV.Rs.Res.ok eq.toNat)
    (hlo : ((s.pv &&& RbV.Model.MyersSimple.xhOf eq s.pv).getLsbD (m - 1)).toNat ≤
      s.dist + ((s.mv ||| ~~~(RbV.Model.MyersSimple.xhOf eq s.pv ||| s.pv)).getLsbD (m - 1)).toNat)
    (hwd : (RbV.Model.MyersSimple.step m eq s).dist < 2 ^ 8) (hd : s.dist < 2 ^ 8) :
    RbV.Gen.SrcMyersSimple.step_ (w := w) (wd := 8) (peq := peqT) (bound := 2 ^ (m - 1)) (pv := s.pv.toNat)
        (mv := s.mv.toNat) (dist := s.dist) (a := a) =
      RbV.Rs.Res.ok ((RbV.Model.MyersSimple.step m eq s).pv.toNat, (RbV.Model.MyersSimple.step m eq s).mv.toNat,
        (RbV.Model.MyersSimple.step m eq s).dist) :=
  myers_step_source_eq_model w 8 m (by omega) peqT a eq s hpeq hlo (by omega) hwd

/-- **one call of `myers::Matches::next`, as written, equals the mirror model**: on every state a search can reach
(`InvS`: the state after some text prefix) the call does not panic; `None` exactly when the text is exhausted and the
model's `run` has no further pair, otherwise `Some((i, d))` = the model's next pair (`StepSpec`). -/
theorem myers_next_source_eq_model (w wd : Nat) (eqv : Nat → Nat → Bool) (p : List Nat) (k : Nat) (hw1 : 1 < w)
    (hm1 : 1 ≤ p.length) (hw : p.length ≤ w) (hwd : p.length < 2 ^ wd) (h64p : p.length + 1 < 2 ^ 64) (rest : List Nat)
    (i : Nat) (s : RbV.Model.MyersSimple.St w) (inv : RbV.Thm.GenSrcMyersMatches.InvS w eqv p s)
    (hb : ∀ c ∈ rest, c < 256) (h64 : i + rest.length < 2 ^ 64) :
    ∃ r' tx' o, RbV.Thm.GenSrcMyersMatches.nextR w wd eqv p k (RbV.Thm.GenSrcMyersSimple.rep s) (rest, i) = RbV.Rs.Res.ok (r', tx', o) ∧
      RbV.Thm.GenSrcScanD.StepSpec (RbV.Thm.GenSrcMyersMatches.stepO w eqv p k) (RbV.Thm.GenSrcMyersMatches.InvS w eqv p)
        (fun _ s => RbV.Thm.GenSrcMyersSimple.rep s) rest i s r' tx' (o.map some) :=
  RbV.Thm.GenSrcMyersMatches.next_eq_model w wd eqv p k ⟨hw1, hm1, hw, hwd, h64p⟩ rest i s inv hb h64

/-- **the single-word Myers search, as written in the source, is exact**: `Matches::new` (what `find_all_end` calls) then
`next` until `None`, run on the model-side table `peqTab w eqv p` (with `bound = 1 << (m-1)`, `m`), never panics and yields
exactly the pairs `(end, d)`, `d ≤ k`, of the Sellers column — for every word width `w ≥ 2`, `DistType` width with `|p| < 2^wd`,
pattern of `1..w` symbols, symbol equivalence `eqv`, byte text and `k`.  That `new` / `new_ambig` store exactly this table is not
part of the statement: it is `myers_find_all_end_source_exact_from_new` of the soft module `Thm/GenSrcMyersNewSoft.lean`, for
identity and ambiguity maps; with text wildcards the constructor stores `T::max_value()`, which differs from `peqTab` in the bits
`≥ m` when `m < w`, and no theorem links the translated search of such a matcher to `hits`. -/
theorem myers_find_all_end_source_exact (w wd : Nat) (eqv : Nat → Nat → Bool) (p t : List Nat) (k : Nat) (hw1 : 1 < w)
    (hm1 : 1 ≤ p.length) (hw : p.length ≤ w) (hwd : p.length < 2 ^ wd) (h64p : p.length + 1 < 2 ^ 64)
    (hb : ∀ c ∈ t, c < 256) (h64 : t.length < 2 ^ 64) :
    RbV.Thm.GenSrcMyersMatches.findAllSrc w wd (RbV.Thm.GenSrcMyersSimple.peqTab w eqv p) (2 ^ (p.length - 1)) p.length t k
      = RbV.Rs.Res.ok (hits (unitW eqv) p t k) := by
  rw [RbV.Thm.GenSrcMyersMatches.findAllSrc_eq_model w wd eqv p t k ⟨hw1, hm1, hw, hwd, h64p⟩ hb h64, myers_simple_eq w eqv p t k hm1 hw]

-- non-vacuity: the translated `_step` on a `u8` state (pattern of 3 symbols, bound = 0b100), and a whole search
example : RbV.Gen.SrcMyersSimple.step_ (w := 8) (wd := 8) (peq := [0, 0b101, 0b010, 0]) (bound := 0b100) (pv := 255) (mv := 0)
    (dist := 3) (a := 1) = RbV.Rs.Res.ok (254, 0, 2) := by decide +kernel
example : RbV.Gen.SrcMyersSimple.step_ (w := 8) (wd := 8) (peq := [0, 0b101, 0b010, 0]) (bound := 0b100) (pv := 255) (mv := 0)
    (dist := 3) (a := 3) = RbV.Rs.Res.ok (255, 0, 3) := by decide +kernel
-- outside the side condition `hlo` (a state no search reaches: `dist = 0` with a decreasing last row) the Rust code panics
example : RbV.Gen.SrcMyersSimple.step_ (w := 8) (wd := 8) (peq := [0, 0b101, 0b010, 0]) (bound := 0b100) (pv := 255) (mv := 0)
    (dist := 0) (a := 1) = RbV.Rs.Res.panic := by decide +kernel
example : RbV.Thm.GenSrcMyersMatches.findAllSrc 8 8 [0, 0b101, 0b010, 0] 0b100 3 [1, 2, 1, 3, 1, 1] 1
    = RbV.Rs.Res.ok [(1, 1), (2, 0), (3, 1), (4, 1), (5, 1)] := by decide +kernel
example : RbV.Thm.GenSrcMyersMatches.findAllSrc 16 8 [0, 0b101, 0b010, 0] 0b100 3 [1, 2, 1, 3, 1, 1] 1
    = RbV.Rs.Res.ok (hits (unitW eqSym) [1, 2, 1] [1, 2, 1, 3, 1, 1] 1) := by decide +kernel

/-! ### The block step of the block-based Myers matcher, translated from the source text

`RbV/Gen/SrcMyersLong.lean` = `advance_block`, `States::add_state`, `States::step` of `pattern_matching/myers/long.rs`
(`States::new`, `known_dist` and the glue `Myers::step` / `initial_state` follow in the next section, the constructor
`new_ambig` in `Thm/GenSrcMyersNewSoft.lean`). -/

/-- **`advance_block`, as written, is the model's block step — for every word width** `w ≥ 2`: when `p.peq[a]` holds the
word `eq` and `p.bound = 1 << bnd`, the translated function maps the representation `(pv, mv, dist)` of a block `s` and the
`i8` pattern of the incoming horizontal difference `hin ∈ {−1, 0, 1}` to the representation of
`MyersLong.advanceBlock bnd eq hin s` and the `i8` pattern of the outgoing difference, without panicking — on every block
where `dist.wrapping_add(hout as usize)` does not wrap (`hlo`; by `myers_block_step` this holds whenever the block
encodes a column with non-negative entries). -/
theorem myers_long_advance_block_source_eq_model (w bnd : Nat) (hw : 1 < w) (peqT : List Nat) (a : Nat) (eq : BitVec w)
    (s : RbV.Model.MyersSimple.St w) (hin : Int) (hh : -1 ≤ hin ∧ hin ≤ 1)
    (hpeq : RbV.Rs.idx peqT a = RbV.Rs.Res.ok eq.toNat)
    (hlo : ((s.pv &&& RbV.Model.MyersSimple.xhOf (if hin < 0 then eq ||| 1#w else eq) s.pv).getLsbD bnd).toNat ≤
      s.dist + ((s.mv ||| ~~~(RbV.Model.MyersSimple.xhOf (if hin < 0 then eq ||| 1#w else eq) s.pv ||| s.pv)).getLsbD bnd).toNat)
    (hhi : s.dist + 1 < 2 ^ 64) :
    RbV.Gen.SrcMyersLong.advanceBlock (w := w) (pv := s.pv.toNat) (mv := s.mv.toNat) (dist := s.dist) (peq := peqT)
        (bound := 2 ^ bnd) (a := a) (hin := RbV.Rs.ofInt 8 hin) =
      RbV.Rs.Res.ok ((RbV.Model.MyersLong.advanceBlock bnd eq hin s).1.pv.toNat,
        (RbV.Model.MyersLong.advanceBlock bnd eq hin s).1.mv.toNat, (RbV.Model.MyersLong.advanceBlock bnd eq hin s).1.dist,
        RbV.Rs.ofInt 8 (RbV.Model.MyersLong.advanceBlock bnd eq hin s).2) :=
  RbV.Thm.GenSrcMyersLong.advanceBlock_eq_model w bnd hw peqT a eq s hin hh hpeq hlo hhi

-- non-vacuity: a `u8` block of 3 rows (bound = 0b100), incoming difference −1 (255) resp. +1
example : RbV.Gen.SrcMyersLong.advanceBlock (w := 8) (pv := 255) (mv := 0) (dist := 3) (peq := [0, 0b101, 0b010, 0])
    (bound := 0b100) (a := 2) (hin := 255) = RbV.Rs.Res.ok (255, 0, 2, 255) := by decide +kernel
example : RbV.Gen.SrcMyersLong.advanceBlock (w := 8) (pv := 255) (mv := 0) (dist := 3) (peq := [0, 0b101, 0b010, 0])
    (bound := 0b100) (a := 3) (hin := 1) = RbV.Rs.Res.ok (254, 0, 3, 0) := by decide +kernel

/-- **`States::add_state(offset)`, as written**: appends `State::init(prev_dist + delta + offset)` to the active blocks, where
`prev_dist` is the distance of the last active block (0 for none) and `delta` the number of pattern rows of the new block
(`last_m` for a partial last block, else the word size); `offset ∈ {−1, 0, 1}` as an `i8` pattern; no wrap-around when the
sum is a non-negative `usize`. -/
theorem myers_long_add_state_source_eq_model (w : Nat) (L : List (RbV.Model.MyersSimple.St w)) (mb lm : Nat) (o : Int)
    (ho : -1 ≤ o ∧ o ≤ 1)
    (hnn : 0 ≤ (RbV.Thm.GenSrcMyersLongStep.lastDist L : Int) + (if L.length = mb ∧ lm > 0 then lm else w : Nat) + o)
    (hlt : RbV.Thm.GenSrcMyersLongStep.lastDist L + (if L.length = mb ∧ lm > 0 then lm else w) + 1 < 2 ^ 64) :
    RbV.Gen.SrcMyersLong.addState (w := w) (states := RbV.Thm.GenSrcMyersLongStep.repS L) (max_block := mb) (last_m := lm)
        (offset := RbV.Rs.ofInt 8 o) =
      RbV.Rs.Res.ok (RbV.Thm.GenSrcMyersLongStep.repS (L ++ [⟨BitVec.allOnes w, 0#w,
        ((RbV.Thm.GenSrcMyersLongStep.lastDist L : Int) + (if L.length = mb ∧ lm > 0 then lm else w : Nat) + o).toNat⟩])) :=
  RbV.Thm.GenSrcMyersLongStep.addState_eq_model w L mb lm o ho hnn hlt

/-- **`States::step`, as written, is the model's `stepStates` — for every word width**: the carry chain
`for (state, block_peq) in self.states.iter_mut().zip(peq) { carry = advance_block(..) }` (= `advanceAll`), the lazy
activation test `(last_dist as isize - carry as isize) as usize <= max_dist && last_block < self.max_block &&
(peq[last_block + 1].peq[a] & 1 == 1 || carry < 0)` with `add_state(-carry)` + `advance_block` on the new block, and
otherwise the deactivation loop `while last_block > 0 && states[last_block].dist >= max_dist.saturating_add(w)` +
`truncate` (= `cutRev`).  `repS` / `peqL` are the active blocks and the per-block tables as the code holds them.
The hypotheses are side conditions, not restrictions of the algorithm: no `dist` update wraps (`ChainOk`, `hfresh`), the
distances stay below `2^63` so that the `isize` round trip of the activation test is exact (`hd`), the value
`last_dist − carry` of the previous column is not negative (`hnn`), and the blocks have the lengths `States::new` assumes
(`hblk`, `hlm`).  They are derived from the `Band` invariant behind `myers_long_eq` in
`myers_long_step_side_conditions_from_band` below, which gives the end-to-end `myers_long_find_all_end_source_exact`. -/
theorem myers_long_step_source_eq_model (w : Nat) (eqv : Nat → Nat → Bool) (blks : List (List Nat)) (k a lm : Nat)
    (sts : List (RbV.Model.MyersSimple.St w)) (hw : 1 < w) (hwlt : w < 2 ^ 62) (hlm : lm ≤ w) (ha : a < 256) (hne : sts ≠ [])
    (hlen : sts.length ≤ blks.length) (hbl : blks.length < 2 ^ 63)
    (hblk : ∀ i blk, blks[i]? = some blk → blk.length = (if i = blks.length - 1 ∧ lm > 0 then lm else w))
    (hchain : RbV.Thm.GenSrcMyersLongStep.ChainOk eqv a blks sts 0)
    (hd : ∀ s ∈ (RbV.Model.MyersLong.advanceAll eqv a blks sts 0).1, s.dist + 1 < 2 ^ 63)
    (hnn : 0 ≤ (RbV.Thm.GenSrcMyersLongStep.lastDist (RbV.Model.MyersLong.advanceAll eqv a blks sts 0).1 : Int) -
      (RbV.Model.MyersLong.advanceAll eqv a blks sts 0).2)
    (hfresh : ∀ blk, blks[sts.length]? = some blk →
      RbV.Thm.GenSrcMyersLongStep.BlockOk eqv a blk
        (RbV.Thm.GenSrcMyersLongStep.freshBlock w (RbV.Model.MyersLong.advanceAll eqv a blks sts 0).1 blk.length
          (RbV.Model.MyersLong.advanceAll eqv a blks sts 0).2)
        (RbV.Model.MyersLong.advanceAll eqv a blks sts 0).2) :
    RbV.Gen.SrcMyersLong.step (w := w) (states := RbV.Thm.GenSrcMyersLongStep.repS sts) (max_block := blks.length - 1)
        (last_m := lm) (a := a) (peq := RbV.Thm.GenSrcMyersLongStep.peqL w eqv blks) (max_dist := k) =
      RbV.Rs.Res.ok (RbV.Thm.GenSrcMyersLongStep.repS (RbV.Model.MyersLong.stepStates eqv blks k a sts)) :=
  RbV.Thm.GenSrcMyersLongStep.step_eq_model w eqv blks k a lm sts hw hwlt hlm ha hne hlen hbl hblk hchain hd hnn hfresh

-- non-vacuity: pattern 1 2 3 4 5 6 in blocks of 4 bits, k = 1.  After the text 1 2 3 one block is active
-- (`pv = 9, mv = 4, dist = 1`); the symbol 4 switches the second block on (all hypotheses checked on this input):
example : RbV.Gen.SrcMyersLong.step (w := 4) (states := [(9, 4, 1)]) (max_block := 1) (last_m := 2) (a := 4)
    (peq := RbV.Thm.GenSrcMyersLongStep.peqL 4 eqSym [[1, 2, 3, 4], [5, 6]]) (max_dist := 1) =
    RbV.Rs.Res.ok [(3, 12, 0), (15, 0, 2)] := by
  have h := myers_long_step_source_eq_model 4 eqSym [[1, 2, 3, 4], [5, 6]] 1 4 2 [⟨9#4, 4#4, 1⟩] (by decide) (by decide)
    (by decide) (by decide) (by decide) (by decide) (by decide)
    (by intro i blk h; rcases i with _ | _ | i <;> simp at h <;> subst h <;> rfl)
    (by simp only [RbV.Thm.GenSrcMyersLongStep.ChainOk, RbV.Thm.GenSrcMyersLongStep.BlockOk]; decide)
    (by decide) (by decide)
    (by intro blk h; simp at h; subst h; simp only [RbV.Thm.GenSrcMyersLongStep.BlockOk]; decide)
  rw [show RbV.Thm.GenSrcMyersLongStep.repS [(⟨9#4, 4#4, 1⟩ : RbV.Model.MyersSimple.St 4)] = [(9, 4, 1)] from by decide] at h
  exact h.trans (by decide)
-- … and the deactivation: two active blocks, the last row reaches k + w = 5, the second block is switched off
example : RbV.Gen.SrcMyersLong.step (w := 4) (states := [(15, 0, 4), (0, 0, 4)]) (max_block := 1) (last_m := 2) (a := 9)
    (peq := RbV.Thm.GenSrcMyersLongStep.peqL 4 eqSym [[1, 2, 3, 4], [5, 6]]) (max_dist := 1) =
    RbV.Rs.Res.ok [(15, 0, 4)] := by decide +kernel

/-! ### The block-based Myers matcher end to end on the translated source text

`RbV/Gen/SrcMyersHelpers.lean` (`ceil_div`), `RbV/Gen/SrcMyersLongNew.lean` (`States::new`, `States::known_dist`, the glue
`long::Myers::step` / `initial_state`) and `RbV/Gen/SrcMyersLongMatches.lean` (`Matches::new`, `Matches::next`, `distance`,
`find_all_end`, `find_best_end` of the macro `impl_myers!`, read at the instance of long.rs) are regenerated by
`tools/rs2lean_genlong.py` on every `./check C09`.  Proofs: `Thm/GenSrcMyersLongNew.lean`, `Thm/GenSrcMyersLongMatches.lean`,
`Lemmas/MyersBest.lean`. -/

/-- **`States::new(m, max_dist)`, as written**: `max(1, ⌈min(max_dist, m) / w⌉)` blocks `State::init(rows covered so far)` —
the model's `initStates` —, `max_block = ⌈m/w⌉ − 1`, `last_m = m % w`; no panic (`ceil_div`, `- 1`, `%`, `add_state(0)`). -/
theorem myers_long_new_source_eq_model (w : Nat) (p : List Nat) (k : Nat) (hw : 2 ≤ w) (hp : 1 ≤ p.length)
    (h64 : p.length + w + 1 < 2 ^ 64) :
    RbV.Gen.SrcMyersLongNew.new (w := w) (m := p.length) (max_dist := k) =
      RbV.Rs.Res.ok (RbV.Thm.GenSrcMyersLongStep.repS
        (RbV.Model.MyersLong.initStates w (RbV.Model.MyersLong.blocksOf w p) p.length k),
        (RbV.Model.MyersLong.blocksOf w p).length - 1, p.length % w) :=
  RbV.Thm.GenSrcMyersLongNew.new_eq_model w p k hw hp h64

/-- the blocks of the model are laid out as `States::new` / `add_state` assume -/
theorem myers_long_blocks_shape (w : Nat) (hw : 2 ≤ w) (p : List Nat) (hp : 1 ≤ p.length) :
    (RbV.Model.MyersLong.blocksOf w p).length = (p.length + w - 1) / w ∧ 1 ≤ (RbV.Model.MyersLong.blocksOf w p).length ∧
    (RbV.Model.MyersLong.blocksOf w p).length ≤ p.length ∧
    (∀ i blk, (RbV.Model.MyersLong.blocksOf w p)[i]? = some blk →
      blk.length = (if i = (RbV.Model.MyersLong.blocksOf w p).length - 1 ∧ p.length % w > 0 then p.length % w else w)) :=
  RbV.Thm.GenSrcMyersLongNew.blocks_shape w hw p hp

/-- **`States::known_dist()`, as written** = the model's `knownDist` -/
theorem myers_long_known_dist_source_eq_model (w nb : Nat) (sts : List (RbV.Model.MyersSimple.St w)) (hnb : 1 ≤ nb)
    (hlen : sts.length ≤ nb) :
    RbV.Gen.SrcMyersLongNew.knownDist (w := w) (states := RbV.Thm.GenSrcMyersLongStep.repS sts) (max_block := nb - 1) =
      RbV.Rs.Res.ok (RbV.Model.MyersLong.knownDist nb sts) :=
  RbV.Thm.GenSrcMyersLongNew.knownDist_eq_model w nb sts hnb hlen

/-- **the state-dependent side conditions of `myers_long_step_source_eq_model` follow from the band invariant** when
`|p| + w + 2 < 2^63` (the shape conditions `hblk`, `hlm` are `myers_long_blocks_shape`; `w < 2^62` and `a < 256` stay
hypotheses): in a state `sts` with
`Band … P u sts` (the state of a search after the text prefix `u`, `myers_long_eq`) no `dist` update of the carry chain or of
the freshly activated block wraps, all distances stay below `2^63`, `last_dist − carry ≥ 0`. -/
theorem myers_long_step_side_conditions_from_band {w : Nat} (eqv : Nat → Nat → Bool) (p : List Nat) (k : Nat) (hw : 2 ≤ w)
    (hp : 1 ≤ p.length) (h63 : p.length + w + 2 < 2 ^ 63) (P : Nat → Int) (u : List Nat)
    (sts : List (RbV.Model.MyersSimple.St w)) (a : Nat)
    (b : RbV.Model.MyersLong.Band eqv p k (RbV.Model.MyersLong.blocksOf w p) P u sts) :
    sts ≠ [] ∧ sts.length ≤ (RbV.Model.MyersLong.blocksOf w p).length ∧ (RbV.Model.MyersLong.blocksOf w p).length < 2 ^ 63 ∧
    RbV.Thm.GenSrcMyersLongStep.ChainOk eqv a (RbV.Model.MyersLong.blocksOf w p) sts 0 ∧
    (∀ s ∈ (RbV.Model.MyersLong.advanceAll eqv a (RbV.Model.MyersLong.blocksOf w p) sts 0).1, s.dist + 1 < 2 ^ 63) ∧
    0 ≤ (RbV.Thm.GenSrcMyersLongStep.lastDist (RbV.Model.MyersLong.advanceAll eqv a (RbV.Model.MyersLong.blocksOf w p) sts 0).1 : Int) -
      (RbV.Model.MyersLong.advanceAll eqv a (RbV.Model.MyersLong.blocksOf w p) sts 0).2 ∧
    (∀ blk, (RbV.Model.MyersLong.blocksOf w p)[sts.length]? = some blk →
      RbV.Thm.GenSrcMyersLongStep.BlockOk eqv a blk
        (RbV.Thm.GenSrcMyersLongStep.freshBlock w (RbV.Model.MyersLong.advanceAll eqv a (RbV.Model.MyersLong.blocksOf w p) sts 0).1
          blk.length (RbV.Model.MyersLong.advanceAll eqv a (RbV.Model.MyersLong.blocksOf w p) sts 0).2)
        (RbV.Model.MyersLong.advanceAll eqv a (RbV.Model.MyersLong.blocksOf w p) sts 0).2) :=
  RbV.Thm.GenSrcMyersLongNew.side_conditions eqv p k hw hp h63 P u sts a b

/-- **the translated `long::Myers::step` (glue → `States::step`) on every state of a search** = `stepStates` -/
theorem myers_long_step_source_on_band {w : Nat} (eqv : Nat → Nat → Bool) (p : List Nat) (k : Nat) (hw : 2 ≤ w)
    (hw62 : w < 2 ^ 62) (hp : 1 ≤ p.length) (h63 : p.length + w + 2 < 2 ^ 63) (P : Nat → Int) (u : List Nat)
    (sts : List (RbV.Model.MyersSimple.St w)) (a : Nat) (ha : a < 256)
    (b : RbV.Model.MyersLong.Band eqv p k (RbV.Model.MyersLong.blocksOf w p) P u sts) :
    RbV.Gen.SrcMyersLongNew.step (w := w) (peq := RbV.Thm.GenSrcMyersLongStep.peqL w eqv (RbV.Model.MyersLong.blocksOf w p))
        (states := RbV.Thm.GenSrcMyersLongStep.repS sts) (max_block := (RbV.Model.MyersLong.blocksOf w p).length - 1)
        (last_m := p.length % w) (a := a) (max_dist := k) =
      RbV.Rs.Res.ok (RbV.Thm.GenSrcMyersLongStep.repS (RbV.Model.MyersLong.stepStates eqv (RbV.Model.MyersLong.blocksOf w p) k a sts),
        (RbV.Model.MyersLong.blocksOf w p).length - 1, p.length % w) :=
  RbV.Thm.GenSrcMyersLongNew.step_band eqv p k ⟨hw, hw62, hp, h63⟩ P u sts a ha b

/-- **one call of `Matches::next` of the block-based matcher, as written**, on any state a search reaches (`InvL`: the band
invariant): no panic; `None` exactly when the text is exhausted and the model lists no further pair, else the model's next pair. -/
theorem myers_long_next_source_eq_model (w : Nat) (eqv : Nat → Nat → Bool) (p : List Nat) (k : Nat) (hw : 2 ≤ w)
    (hw62 : w < 2 ^ 62) (hp : 1 ≤ p.length) (h63 : p.length + w + 2 < 2 ^ 63) (rest : List Nat) (i : Nat)
    (s : List (RbV.Model.MyersSimple.St w)) (inv : RbV.Thm.GenSrcMyersLongMatches.InvL w eqv p k s)
    (hb : ∀ c ∈ rest, c < 256) (h64 : i + rest.length < 2 ^ 64) :
    ∃ r' tx' o, RbV.Thm.GenSrcMyersLongMatches.nextR w eqv p k (RbV.Thm.GenSrcMyersLongMatches.repL w p s) (rest, i) =
        RbV.Rs.Res.ok (r', tx', o) ∧
      RbV.Thm.GenSrcScanD.StepSpec (RbV.Thm.GenSrcMyersLongMatches.stepO w eqv p k) (RbV.Thm.GenSrcMyersLongMatches.InvL w eqv p k)
        (fun _ s => RbV.Thm.GenSrcMyersLongMatches.repL w p s) rest i s r' tx' (o.map some) :=
  RbV.Thm.GenSrcMyersLongMatches.next_eq_model w eqv p k ⟨hw, hw62, hp, h63⟩ rest i s inv hb h64

/-- **the block-based Myers search, as written in the source, is exact** — for every word width `w ≥ 2`: `Matches::new` (what
`find_all_end` calls; `States::new`) then `next` until `None` (`long::Myers::step` → `States::step` → `advance_block`,
`add_state`; `known_dist`), run on the model-side per-block tables `peqL w eqv (blocksOf w p)` (one `Peq` per chunk of `w` pattern
symbols) never panics, never runs out of loop fuel and yields exactly `hits (unitW eqv) p t k` — every `w < 2^62`, pattern length
≥ 1 with `|p| + w + 2 < 2^63` (any number of blocks), equivalence `eqv`, byte text and `k` (`k = usize::MAX` included:
`saturating_add`).  That `long::Myers::new_ambig` stores these tables is not part of the statement: it is
`myers_long_find_all_end_source_exact_from_new` of the soft module, without text wildcards only (with them every block stores
`T::max_value()`, which is not `peqL` for a partial last block). -/
theorem myers_long_find_all_end_source_exact_every_width (w : Nat) (eqv : Nat → Nat → Bool) (p t : List Nat) (k : Nat)
    (hw : 2 ≤ w) (hw62 : w < 2 ^ 62) (hp : 1 ≤ p.length) (h63 : p.length + w + 2 < 2 ^ 63) (hb : ∀ c ∈ t, c < 256)
    (h64 : t.length < 2 ^ 64) :
    RbV.Thm.GenSrcMyersLongMatches.findAllSrc w (RbV.Thm.GenSrcMyersLongStep.peqL w eqv (RbV.Model.MyersLong.blocksOf w p))
      p.length t k = RbV.Rs.Res.ok (hits (unitW eqv) p t k) :=
  RbV.Thm.GenSrcMyersLongMatches.findAllSrc_eq_hits w eqv p t k ⟨hw, hw62, hp, h63⟩ hb h64

/-- … at the four word types rust-bio instantiates (`u8`, `u16`, `u32`, `u64`), pattern length below `2^62` -/
theorem myers_long_find_all_end_source_exact (w : Nat) (hw : w = 8 ∨ w = 16 ∨ w = 32 ∨ w = 64) (eqv : Nat → Nat → Bool)
    (p t : List Nat) (k : Nat) (hp : 1 ≤ p.length) (hp62 : p.length < 2 ^ 62) (hb : ∀ c ∈ t, c < 256) (h64 : t.length < 2 ^ 64) :
    RbV.Thm.GenSrcMyersLongMatches.findAllSrc w (RbV.Thm.GenSrcMyersLongStep.peqL w eqv (RbV.Model.MyersLong.blocksOf w p))
      p.length t k = RbV.Rs.Res.ok (hits (unitW eqv) p t k) :=
  myers_long_find_all_end_source_exact_every_width w eqv p t k (by omega) (by omega) hp (by omega) hb h64

/-- **`long::Myers::distance`, as written** (`max_dist = usize::MAX`, running minimum of `known_dist()`): the minimum of the last
row of the Sellers matrix — the `d` of `best_spec` — for every non-empty text; `usize::MAX` for the empty text.  Run on the
model-side tables `peqL` (see `myers_long_find_all_end_source_exact_every_width`). -/
theorem myers_long_distance_source_exact (w : Nat) (eqv : Nat → Nat → Bool) (p t : List Nat) (hw : 2 ≤ w) (hw62 : w < 2 ^ 62)
    (hp : 1 ≤ p.length) (h63 : p.length + w + 2 < 2 ^ 63) (hb : ∀ c ∈ t, c < 256) :
    RbV.Gen.SrcMyersLongMatches.distance (w := w)
        (peq := RbV.Thm.GenSrcMyersLongStep.peqL w eqv (RbV.Model.MyersLong.blocksOf w p)) (m := p.length) (text := t) =
      RbV.Rs.Res.ok (((firstMin 0 (lastRow (unitW eqv) p t)).map (·.2)).getD (2 ^ 64 - 1)) :=
  RbV.Thm.GenSrcMyersLongMatches.distance_eq_spec w eqv p t ⟨hw, hw62, hp, h63⟩ hb

/-- **`long::Myers::find_best_end`, as written** (`find_all_end(text, usize::MAX).min_by_key(|&(_, dist)| dist).unwrap()`): the
pair `(j, d)` of `best_spec` (minimum over the end positions, first on ties); the empty text panics (`unwrap` of `None`).  Run
on the model-side tables `peqL`. -/
theorem myers_long_find_best_end_source_exact (w : Nat) (eqv : Nat → Nat → Bool) (p t : List Nat) (hw : 2 ≤ w)
    (hw62 : w < 2 ^ 62) (hp : 1 ≤ p.length) (h63 : p.length + w + 2 < 2 ^ 63) (hb : ∀ c ∈ t, c < 256) (h64 : t.length < 2 ^ 64) :
    RbV.Gen.SrcMyersLongMatches.findBestEnd (w := w)
        (peq := RbV.Thm.GenSrcMyersLongStep.peqL w eqv (RbV.Model.MyersLong.blocksOf w p)) (m := p.length) (text := t) =
      RbV.Rs.expect (firstMin 0 (lastRow (unitW eqv) p t)) :=
  RbV.Thm.GenSrcMyersLongMatches.findBestEnd_eq_spec w eqv p t ⟨hw, hw62, hp, h63⟩ hb h64

-- non-vacuity: pattern 1 2 3 4 5 6 in blocks of 4 bits (two blocks, the second one partial), k = 1: the translated search on
-- the constructor's tables, evaluated; the theorem instantiated at `w = 8` with a three-block pattern
example : RbV.Gen.SrcMyersLongNew.new (w := 4) (m := 6) (max_dist := 1) = RbV.Rs.Res.ok ([(15, 0, 4)], 1, 2) := by decide +kernel
example : RbV.Gen.SrcMyersLongNew.new (w := 4) (m := 6) (max_dist := 5) = RbV.Rs.Res.ok ([(15, 0, 4), (15, 0, 6)], 1, 2) := by decide +kernel
example : RbV.Thm.GenSrcMyersLongMatches.findAllSrc 4 (RbV.Thm.GenSrcMyersLongStep.peqL 4 eqSym [[1, 2, 3, 4], [5, 6]]) 6
    [1, 2, 3, 4, 5, 6, 9, 1, 2, 3, 4, 6] 1 = RbV.Rs.Res.ok (hits (unitW eqSym) [1, 2, 3, 4, 5, 6] [1, 2, 3, 4, 5, 6, 9, 1, 2, 3, 4, 6] 1) := by decide +kernel
example : RbV.Gen.SrcMyersLongMatches.findBestEnd (w := 4) (peq := RbV.Thm.GenSrcMyersLongStep.peqL 4 eqSym [[1, 2, 3, 4], [5, 6]])
    (m := 6) (text := [9, 1, 2, 3, 4, 6, 1, 2, 3, 4, 6]) = RbV.Rs.expect (firstMin 0 (lastRow (unitW eqSym) [1, 2, 3, 4, 5, 6] [9, 1, 2, 3, 4, 6, 1, 2, 3, 4, 6])) := by decide +kernel
example : RbV.Gen.SrcMyersLongMatches.findBestEnd (w := 4) (peq := RbV.Thm.GenSrcMyersLongStep.peqL 4 eqSym [[1, 2, 3, 4], [5, 6]])
    (m := 6) (text := []) = RbV.Rs.Res.panic := by decide +kernel
example : RbV.Gen.SrcMyersLongMatches.distance (w := 4) (peq := RbV.Thm.GenSrcMyersLongStep.peqL 4 eqSym [[1, 2, 3, 4], [5, 6]])
    (m := 6) (text := [9, 1, 2, 3, 4, 6, 1]) = RbV.Rs.Res.ok 1 := by decide +kernel
example : ∃ l, RbV.Thm.GenSrcMyersLongMatches.findAllSrc 8
    (RbV.Thm.GenSrcMyersLongStep.peqL 8 eqSym (RbV.Model.MyersLong.blocksOf 8 (List.range 20))) 20 [3, 4, 5] 18 = RbV.Rs.Res.ok l :=
  ⟨_, myers_long_find_all_end_source_exact 8 (Or.inl rfl) eqSym (List.range 20) [3, 4, 5] 18 (by decide) (by decide) (by decide) (by decide)⟩

/-! ### `distance` / `find_best_end` of the single-word matcher on the translated source text

`RbV/Gen/SrcMyersSimpleBest.lean`: the same text of `impl_myers!` read at the instance of simple.rs. -/

/-- **`Myers::distance`, as written** (single word; `max_dist = DistType::MAX`): the `d` of `best_spec` for every non-empty text
(`DistType::MAX` for the empty one) — every word width `w ≥ 2`, `DistType` width with `|p| < 2^wd`.  Run on the model-side
table `peqTab` (see `myers_find_all_end_source_exact`). -/
theorem myers_distance_source_exact (w wd : Nat) (eqv : Nat → Nat → Bool) (p t : List Nat) (hw1 : 1 < w) (hm1 : 1 ≤ p.length)
    (hw : p.length ≤ w) (hwd : p.length < 2 ^ wd) (h64p : p.length + 1 < 2 ^ 64) (hb : ∀ c ∈ t, c < 256) :
    RbV.Gen.SrcMyersSimpleBest.distance (w := w) (wd := wd) (peq := RbV.Thm.GenSrcMyersSimple.peqTab w eqv p)
        (bound := 2 ^ (p.length - 1)) (m := p.length) (text := t) =
      RbV.Rs.Res.ok (((firstMin 0 (lastRow (unitW eqv) p t)).map (·.2)).getD (RbV.Rs.maxVal wd)) :=
  RbV.Thm.GenSrcMyersSimpleBest.distance_eq_spec w wd eqv p t ⟨hw1, hm1, hw, hwd, h64p⟩ hb

/-- **`Myers::find_best_end`, as written** (single word): the pair `(j, d)` of `best_spec` — minimum over the end positions,
first on ties (`Iterator::min_by_key`); the empty text panics (`unwrap` of `None`).  Run on the model-side table `peqTab`. -/
theorem myers_find_best_end_source_exact (w wd : Nat) (eqv : Nat → Nat → Bool) (p t : List Nat) (hw1 : 1 < w)
    (hm1 : 1 ≤ p.length) (hw : p.length ≤ w) (hwd : p.length < 2 ^ wd) (h64p : p.length + 1 < 2 ^ 64)
    (hb : ∀ c ∈ t, c < 256) (h64 : t.length < 2 ^ 64) :
    RbV.Gen.SrcMyersSimpleBest.findBestEnd (w := w) (wd := wd) (peq := RbV.Thm.GenSrcMyersSimple.peqTab w eqv p)
        (bound := 2 ^ (p.length - 1)) (m := p.length) (text := t) =
      RbV.Rs.expect (firstMin 0 (lastRow (unitW eqv) p t)) :=
  RbV.Thm.GenSrcMyersSimpleBest.findBestEnd_eq_spec w wd eqv p t ⟨hw1, hm1, hw, hwd, h64p⟩ hb h64

example : RbV.Gen.SrcMyersSimpleBest.findBestEnd (w := 8) (wd := 8) (peq := [0, 0b101, 0b010, 0]) (bound := 0b100) (m := 3)
    (text := [3, 1, 3, 1, 2, 1, 1, 2, 1]) = RbV.Rs.Res.ok (5, 0) := by decide +kernel
example : RbV.Gen.SrcMyersSimpleBest.distance (w := 8) (wd := 8) (peq := [0, 0b101, 0b010, 0]) (bound := 0b100) (m := 3)
    (text := [3, 1, 3, 1, 3]) = RbV.Rs.Res.ok 1 := by decide +kernel
example : RbV.Gen.SrcMyersSimpleBest.distance (w := 8) (wd := 8) (peq := [0, 0b101, 0b010, 0]) (bound := 0b100) (m := 3)
    (text := []) = RbV.Rs.Res.ok 255 := by decide +kernel

/-! The constructors (`new` / `new_ambig` of simple.rs and long.rs, `MyersBuilder`) are translated as well (`Gen/SrcMyersSimpleNew.lean`,
`Gen/SrcMyersLongCtor.lean`, `Gen/SrcMyersBuilder.lean`); their theorems (`myers_new_source_eq_model`, …) are word-level and
shape-dependent (a property-preserving change of the wildcard masks above the pattern bits falsifies them: seeded C09-H2), so they
live in the **soft** module `Thm/GenSrcMyersNewSoft.lean` (built by `tools/gen_tables.py`, failure = note).  Consequence: every
`*_source_*` theorem of the Myers matchers above is stated on the model-side tables `peqTab` / `peqL`; the soft module shows that the
constructors store these tables when no text wildcard is configured, and for matchers built with text wildcards nothing, hard or
soft, links the stored tables to `peqTab` / `peqL` (they agree on the pattern bits only: `myers_new_source_masks_correct`). -/

end RbV.Thm.C09
