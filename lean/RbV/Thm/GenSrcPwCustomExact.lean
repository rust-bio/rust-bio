import RbV.Thm.GenSrcPwCustom
/-!
# SOFT module (not imported by any `Thm/Cxx.lean`; built by `tools/gen_tables.py` after regeneration, a failure is a note)

The *exact* equality of the translated main-loop cell of `Aligner::custom` with `stepJT T` / `stepJC` **including the traceback
code of the S layer** — i.e. including the order in which the six candidates of `S(i, j)` are compared.  The property does not
determine that order (seeded C01-H4 changes it: prefix clips first); the hard obligation is
`Thm/GenSrcPwCustom.lean` `cell_update_any_order` (values + admissible code for any order).  This module keeps the exact tie to
the mirror the driver runs, for the pinned order.
-/
namespace RbV.Thm.GenSrcPwCustomExact
open RbV RbV.Rs RbV.Gen.SrcPwTypes RbV.Gen.SrcPwCustom RbV.Align RbV.Model.PairwiseFill
open RbV.Thm.GenSrcPwCustom

/-- the text compares the candidates in the pinned order -/
theorem srcCode_eq_sCodeJT (w : Nat → Nat → Int) (T : Ties) : (srcCell w T).1 = sCodeJT T := by
  funext b0 ms a b c d xc yc p q
  unfold srcCell
  simp only [sCodeJT, upd_eq_max, Int.max_assoc, Int.max_comm, max_lc]

/-- **One cell of the main loop** (the body of `for i in 1..m + 1`, translated text, with the tie-breaks `T` as
parameters) **= `stepJT T`** (for the pinned tie-breaks: `stepJC` of the checked-`i32` mirror): on every aligner state
with vectors of the right lengths (`Dims`), for `1 ≤ i ≤ m`, `1 ≤ j ≤ n`, `curr ≠ prev` both `< 2`, with `S[curr][i]`
reset to `MIN_SCORE` (unless `i = m`: the x-suffix register) and the S fields of the two neighbour cells holding valid
codes: the body panics exactly when the mirror's row is `none` (an `i32` overflow), and otherwise writes exactly the
mirror's row `r'` — `S/I/D[curr][i]`, the register `S[curr][m]`, `Sn[i]`, `Ly[i]`, `Lx[j]`, cell `(i, j)` — and nothing else. -/
theorem cell_update_aux (w : Nat → Nat → Int) (T : Ties) (a : Aligner) (x : List Nat) (m n i j curr prev q : Nat) (xclip : Int)
    (tsL tsU : Tb) (hd : Dims a m n) (hx : x.length = m) (hi : 1 ≤ i) (him : i ≤ m) (hj : 1 ≤ j) (hjn : j ≤ n)
    (hc : curr < 2) (hp : prev < 2) (hcp : curr ≠ prev)
    (hreset : i ≠ m → (a.S.getD curr []).getD i 0 = minScore)
    (hL : SIs a (i - 1) j tsL) (hU : SIs a i (j - 1) tsU) :
    custom_for5 w T.iT T.dT T.snT T.sn0T x m n j curr prev q xclip a i =
      ofOpt (stepJT T (scOf w a) (clOf a) m n j i (x.getD (i - 1) 0) q xclip (rowPrev1 a prev (i - 1))
          (rowPrev a prev i tsU) (rowCur a m j curr (i - 1) tsL)) >>= fun r' => Res.ok (writeRow a m curr i j r') := by
  have hb0 : (a.S.getD curr []).getD i 0 = if i = m then (rowCur a m j curr (i - 1) tsL).xm else minScore := by
    by_cases h : i = m
    · rw [if_pos h, h]; rfl
    · rw [if_neg h]; exact hreset h
  rw [stepJT, ← srcCode_eq_sCodeJT w T]
  exact (srcCell w T).2 a x m n i j curr prev q _ xclip _ tsL tsU hd hx rfl hi him hj hjn hc hp hcp hb0 hL hU

/-- for the pinned tie-breaks the row is `stepJC` of the checked-`i32` mirror itself -/
theorem cell_update_source_eq_model (w : Nat → Nat → Int) (T : Ties) (hT : T = pinned)
    (a : Aligner) (x y : List Nat) (i j : Nat) (xclip : Int) (prev : List Row)
    (r : Row) (hd : Dims a x.length y.length) (hi : 1 ≤ i) (him : i ≤ x.length)
    (hj : 1 ≤ j) (hjn : j ≤ y.length) (hreset : i ≠ x.length → (a.S.getD (j % 2) []).getD i 0 = minScore)
    (hL : SIs a (i - 1) j r.t.ts) (hU : SIs a i (j - 1) (prev.getD i default).t.ts)
    (hr : rowCur a x.length j (j % 2) (i - 1) r.t.ts = r)
    (hp1 : rowPrev1 a (1 - j % 2) (i - 1) = prev.getD (i - 1) default)
    (hp : rowPrev a (1 - j % 2) i (prev.getD i default).t.ts = prev.getD i default) :
    custom_for5 w T.iT T.dT T.snT T.sn0T x x.length y.length j (j % 2) (1 - j % 2) (y.getD (j - 1) 0) xclip a i =
      ofOpt (stepJC (scOf w a) (clOf a) x y j prev xclip i r) >>= fun r' => Res.ok (writeRow a x.length (j % 2) i j r') := by
  subst hT
  rw [cell_update_aux w pinned a x x.length y.length i j (j % 2) (1 - j % 2) (y.getD (j - 1) 0) xclip r.t.ts
    (prev.getD i default).t.ts hd rfl hi him hj hjn (by omega) (by omega) (by omega) hreset hL hU, hr, hp1, hp, stepJT_pinned]

end RbV.Thm.GenSrcPwCustomExact
