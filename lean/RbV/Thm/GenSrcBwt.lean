import RbV.Gen.SrcBwt
import RbV.Model.Occ
import RbV.Model.LFMapping
import RbV.Thm.GenSrcBasic
/-!
# The translated text of `bwt::bwt` equals the mirror model `OccM.bwtModel`

`RbV/Gen/SrcBwt.lean` is regenerated from `src/data_structures/bwt.rs` by `tools/rs2lean.py` on every `./check C04`.
The generated function asserts `text.len() == pos.len()`, pre-allocates `n` zeros and writes `bwt[r]` for `r` in `0..n`
(`pos[r]`, `text[p - 1]`, `text[n - 1]` are checked reads, `p - 1`, `n - 1` checked subtractions); the model is a `map`
over the suffix array with total reads (`getD`).  Bridge: after `r` rounds the vector is `acc ++ 0…0` with `acc` the
model's first `r` symbols.  Hypotheses: equal lengths (otherwise the assertion panics) and every suffix-array entry is a
text position (otherwise `text[p - 1]` panics) — the hypothesis of the property's `bwt_exact` as well.
-/
-- the simp sets name every fact a harmless rewrite of the Rust text may need; on the present text some are unused
set_option linter.unusedSimpArgs false

namespace RbV.Thm.GenSrcBwt
open RbV RbV.Rs RbV.Gen.SrcBwt RbV.Thm.GenSrc

/-- one round of `for r in 0..n` -/
theorem for_body_eq (t sa acc : List Nat) (k p : Nat) (hp : sa[acc.length]? = some p) (hlt : p < t.length) :
    bwt_for1 sa t t.length (acc ++ List.replicate (k + 1) 0) acc.length
      = Res.ok ((acc ++ [LF.bwSym t p]) ++ List.replicate k 0) := by
  have e1 : Rs.idx sa acc.length = Res.ok p := Rs.idx_of_getElem? hp
  have e2 : ∀ v, Rs.setIdx (acc ++ List.replicate (k + 1) 0) acc.length v
      = Res.ok ((acc ++ [v]) ++ List.replicate k 0) := fun v => setIdx_append_replicate acc k 0 v
  by_cases h0 : p > 0
  · have e3 : Rs.sub p 1 = Res.ok (p - 1) := Rs.sub_ok h0
    have e4 : Rs.idx t (p - 1) = Res.ok (t.getD (p - 1) 0) :=
      idx_getD t (p - 1) 0 (Nat.lt_of_le_of_lt (Nat.sub_le p 1) hlt)
    have h0' : p ≠ 0 := Nat.ne_of_gt h0
    simp [bwt_for1, LF.bwSym, h0, h0', e1, e2, e3, e4]
  · have hp0 : p = 0 := Nat.eq_zero_of_not_pos h0
    have hn : 0 < t.length := Nat.lt_of_le_of_lt (Nat.zero_le p) hlt
    have e3 : Rs.sub t.length 1 = Res.ok (t.length - 1) := Rs.sub_ok hn
    have e4 : Rs.idx t (t.length - 1) = Res.ok (t.getD (t.length - 1) 0) :=
      idx_getD t (t.length - 1) 0 (Nat.sub_lt hn Nat.one_pos)
    simp [bwt_for1, LF.bwSym, hp0, e1, e2, e3, e4]

theorem for_eq (t sa : List Nat) (hsa : ∀ p ∈ sa, p < t.length) :
    ∀ (rest acc : List Nat), rest = sa.drop acc.length →
      (List.range' acc.length rest.length).foldlM (bwt_for1 sa t t.length) (acc ++ List.replicate rest.length 0)
        = Res.ok (acc ++ rest.map (LF.bwSym t)) := by
  intro rest
  induction rest with
  | nil => intro acc _; simp
  | cons p rest ih =>
    intro acc hrest
    obtain ⟨hp, hrest'⟩ := getElem?_of_drop_eq_cons sa acc.length p rest hrest
    have hmem : p ∈ sa := List.mem_of_getElem? hp
    have hb := for_body_eq t sa acc rest.length p hp (hsa p hmem)
    have := ih (acc ++ [LF.bwSym t p]) (by simpa using hrest')
    simp only [List.length_append, List.length_singleton] at this
    simp only [List.length_cons, List.range'_succ, List.foldlM_cons, hb, Res.ok_bind, List.map_cons, this]
    simp

/-- **`bwt()` as written in the source = `bwtModel`**: for a suffix array of the text's length whose entries are text
positions the translated function passes its assertion, never panics and returns the model's BWT. -/
theorem bwt_eq_model (t sa : List Nat) (hlen : t.length = sa.length) (hsa : ∀ p ∈ sa, p < t.length) :
    bwt t sa = Res.ok (OccM.bwtModel t sa) := by
  have h := for_eq t sa hsa sa [] (by simp)
  have ha : Rs.assert (t.length == sa.length) = Res.ok () := Rs.assert_ok (by simpa using hlen)
  simp only [List.length_nil, List.nil_append] at h
  rw [← hlen] at h
  have hm : OccM.bwtModel t sa = sa.map (LF.bwSym t) := rfl
  simp [bwt, ha, h, hm]

/-- lengths differ: the `assert_eq!` fires -/
theorem bwt_length_mismatch_panics (t sa : List Nat) (hlen : t.length ≠ sa.length) : bwt t sa = Res.panic := by
  have ha : Rs.assert (t.length == sa.length) = Res.panic := by simp [Rs.assert, hlen]
  simp [bwt, ha]

end RbV.Thm.GenSrcBwt
